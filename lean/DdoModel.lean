-- Root of the `DdoModel` library: models, engines, proofs and property theorems.
import DdoModel.Basic
import DdoModel.Proto
import DdoModel.Gap
import DdoModel.Width
import DdoModel.Engines.Small
import DdoModel.Cache
import DdoModel.Dominance
import DdoModel.Engines.Store
import DdoModel.Proofs.Cache
import DdoModel.Proofs.Dominance
import DdoModel.Props.C10
import DdoModel.Props.C13
import DdoModel.Props.C17
import DdoModel.Props.C18
import DdoModel.Fringe
import DdoModel.Engines.Fringe
import DdoModel.Dp
import DdoModel.Mdd
import DdoModel.Families
import DdoModel.Engines.Mdd
import DdoModel.Props.C11
import DdoModel.Proofs.Fringe
import DdoModel.Wf
import DdoModel.Pooled
import DdoModel.Props.C12
import DdoModel.SeqSolver
import DdoModel.Engines.Seq
import DdoModel.Props.C01
import DdoModel.Props.C02
import DdoModel.Props.C05
import DdoModel.Proofs.SeqInv
import DdoModel.Proofs.FringeInv
import DdoModel.Props.C11Inv
import DdoModel.Props.C15
import DdoModel.Proofs.MddExact
import DdoModel.Props.C07
import DdoModel.ParSolver
import DdoModel.Engines.Par
import DdoModel.Proofs.MddOps
import DdoModel.Proofs.MddCover
import DdoModel.Props.C06
import DdoModel.Props.C03
import DdoModel.Props.C04
import DdoModel.Proofs.MddCutset
import DdoModel.Proofs.CutsetPasses
import DdoModel.Props.C08
import DdoModel.Props.C09
import DdoModel.Examples.Knapsack
import DdoModel.Engines.Ex
import DdoModel.Viz
import DdoModel.Engines.Viz
import DdoModel.Props.C20
import DdoModel.Proofs.SeqInvDedup
import DdoModel.Proofs.SeqMeasure
import DdoModel.Props.C01b
import DdoModel.Proofs.LexNat
import DdoModel.Props.C01t
import DdoModel.Proofs.MddStep
import DdoModel.Proofs.MddWidth
import DdoModel.Props.C13b
import DdoModel.WfRel
import DdoModel.Proofs.WfRelSteps
import DdoModel.Examples.KnapsackDp
import DdoModel.Examples.KnapsackModel
import DdoModel.Engines.ExModel
import DdoModel.Proofs.MddProtocol
import DdoModel.Props.C12b
import DdoModel.Proofs.MddBounds
import DdoModel.Props.C08b
import DdoModel.Examples.Util
import DdoModel.Examples.EMax
import DdoModel.Examples.Misp
import DdoModel.Examples.Max2sat
import DdoModel.Examples.Mcp
import DdoModel.Examples.Lcs
import DdoModel.Examples.Golomb
import DdoModel.Examples.Psp
import DdoModel.Examples.Sop
import DdoModel.Examples.Tsptw
import DdoModel.Examples.Srflp
import DdoModel.Examples.Talentsched
import DdoModel.Examples.Alp
import DdoModel.Proofs.MddTruth
import DdoModel.Proofs.BuildChain
import DdoModel.Props.C07b
import DdoModel.Props.C06b
import DdoModel.Props.C01c
import DdoModel.ParSys
import DdoModel.Proofs.ParSysInv
import DdoModel.Proofs.ParSysSpec
import DdoModel.Proofs.ParSysWitness
import DdoModel.Proofs.ParSysFinal
import DdoModel.Proofs.ParSysTerm
import DdoModel.Props.C03b
import DdoModel.Props.C03bWitness
import DdoModel.Proofs.LongArcs
import DdoModel.Proofs.PooledStage
import DdoModel.Proofs.PooledLoop
import DdoModel.Proofs.PooledWidth
import DdoModel.Proofs.PooledProtocol
import DdoModel.Proofs.PooledFinal
import DdoModel.Proofs.PooledExact
import DdoModel.Proofs.PooledFull
import DdoModel.Proofs.PooledProgressFull
import DdoModel.Props.C13p
import DdoModel.Props.C12p
import DdoModel.Props.C07p
import DdoModel.Props.C08p
import DdoModel.Proofs.Closed
import DdoModel.Proofs.SolverCfg
import DdoModel.Props.C01d
import DdoModel.Props.C01dWitness
import DdoModel.Proofs.SpecUtil
import DdoModel.Proofs.EInt
import DdoModel.Props.C16
import DdoModel.Proofs.ParClosed
import DdoModel.Proofs.ParClosedLay
import DdoModel.Proofs.ParClosedSide
import DdoModel.Props.C03c
import DdoModel.ParSysExec
import DdoModel.Proofs.ParSysExecSound
import DdoModel.Proofs.DomSound
import DdoModel.Proofs.DomTruth
import DdoModel.Proofs.DomSim
import DdoModel.Proofs.DomExact
import DdoModel.Proofs.DomRelaxFlags
import DdoModel.Proofs.DomRelaxInv
import DdoModel.Proofs.DomChain
import DdoModel.Proofs.DomRelax
import DdoModel.Proofs.DomContract
import DdoModel.Proofs.DomRelaxWitness
import DdoModel.Props.C10b
import DdoModel.Props.C10bCyc
import DdoModel.Props.C10bKp
import DdoModel.Engines.DomCyc
import DdoModel.Engines.CacheOrder
import DdoModel.Engines.CacheDom
import DdoModel.Engines.CacheCut
import DdoModel.Proofs.SeqCache
import DdoModel.Proofs.BuildStages
import DdoModel.Proofs.BuildInv
import DdoModel.Proofs.BInvView
import DdoModel.Proofs.ThetaPass
import DdoModel.Proofs.FinalizeSpec
import DdoModel.Proofs.ThetaCtx
import DdoModel.Proofs.ThetaCtxCover
import DdoModel.Proofs.ThetaCore
import DdoModel.Proofs.Theta
import DdoModel.Proofs.ThetaCover
import DdoModel.Proofs.SeqCacheDedup
import DdoModel.Proofs.CacheBridge
import DdoModel.Props.C09b
import DdoModel.Props.C09bWitness
import DdoModel.Examples.MispDp
import DdoModel.Examples.MispModel
import DdoModel.Examples.Max2satDp
import DdoModel.Examples.Max2satModel
import DdoModel.GapFloat
import DdoModel.Props.C17f
import DdoModel.Proofs.CutRun
import DdoModel.Props.C19b
import DdoModel.Props.C19bWitness
import DdoModel.Proofs.CompileJoint
import DdoModel.Proofs.CacheClosedArcs
import DdoModel.Proofs.CacheClosedDistinct
import DdoModel.Proofs.CacheClosedRestr
import DdoModel.Proofs.CacheClosedCut
import DdoModel.Proofs.CacheClosedContract
import DdoModel.Proofs.CacheClosedDefs
import DdoModel.Proofs.Layered
import DdoModel.Proofs.CacheClosedSolver
import DdoModel.Proofs.CacheClosedTwoState
import DdoModel.Proofs.AnyOrderLayered
import DdoModel.Props.C09c
import DdoModel.Props.C09cWitness
import DdoModel.Proofs.PooledDefs
import DdoModel.Proofs.PooledCover
import DdoModel.Proofs.PooledProgress
import DdoModel.Proofs.PooledWitness
import DdoModel.Proofs.PooledStep
import DdoModel.Proofs.PooledBounds
import DdoModel.Proofs.PooledTruth
import DdoModel.Proofs.PooledFix
import DdoModel.Props.C08q
import DdoModel.Props.C15b
import DdoModel.Props.C15bWitness
import DdoModel.Examples.AlpDp
import DdoModel.Engines.ExModelAlp
import DdoModel.Examples.AlpModel
import DdoModel.Examples.PspDp
import DdoModel.Examples.PspModel
import DdoModel.Engines.ExModelPsp
import DdoModel.Examples.McpDp
import DdoModel.Engines.ExModelMcp
import DdoModel.Examples.McpModel
import DdoModel.Examples.GolombDp
import DdoModel.Engines.ExModelGolomb
import DdoModel.Examples.GolombModel
import DdoModel.Examples.SrflpDp
import DdoModel.Engines.ExModelSrflp
import DdoModel.Examples.SrflpModel
import DdoModel.Examples.TalentschedDp
import DdoModel.Engines.ExModelTalentsched
import DdoModel.Examples.TalentschedModel
import DdoModel.Examples.LcsDp
import DdoModel.Engines.ExModelLcs
import DdoModel.Examples.LcsModel
import DdoModel.Examples.TsptwDp
import DdoModel.Engines.ExModelTsptw
import DdoModel.Examples.TsptwModel
import DdoModel.Proofs.CappedBridge
import DdoModel.Proofs.NoCapSearch
import DdoModel.Props.C09d
import DdoModel.Props.C09dWitness
import DdoModel.Examples.SopDp
import DdoModel.Engines.ExModelSop
import DdoModel.Examples.SopModel
import DdoModel.Proofs.CacheDomDefs
import DdoModel.Proofs.CacheDomTools
import DdoModel.Proofs.CacheDomCross
import DdoModel.Proofs.CacheDomCrossSim
import DdoModel.Proofs.CacheDomCarrier
import DdoModel.Proofs.CacheDomTwin
import DdoModel.Props.C10c
import DdoModel.Props.C10cWitness
import DdoModel.Examples.TalentschedProofsStep
import DdoModel.Examples.TalentschedProofsMerge
import DdoModel.Examples.TalentschedProofsExact
import DdoModel.Examples.TalentschedProofsRub
import DdoModel.Examples.LcsProofsStep
import DdoModel.Examples.LcsProofsRub
import DdoModel.Examples.LcsProofsExact
import DdoModel.Examples.LcsProofsWf
import DdoModel.Examples.McpProofsStep
import DdoModel.Examples.McpProofsRelax
import DdoModel.Examples.McpProofsExact
import DdoModel.Examples.AlpProofsStep
import DdoModel.Examples.AlpProofsSim
import DdoModel.Examples.AlpProofsSort
import DdoModel.Examples.AlpProofsWf
import DdoModel.Examples.Max2satProofsExact
import DdoModel.Examples.Max2satProofsTab
import DdoModel.Examples.Max2satProofsWf
import DdoModel.Examples.McpProofsWf
import DdoModel.Examples.PspProofsStep
import DdoModel.Examples.PspProofsMerge
import DdoModel.Examples.PspProofsRub
import DdoModel.Examples.PspProofsWf
import DdoModel.Examples.SmithRule
import DdoModel.Examples.SrflpProofsStep
import DdoModel.Examples.SrflpProofsExact
import DdoModel.Examples.SrflpProofsRub
import DdoModel.Examples.SrflpProofsMerge
import DdoModel.Examples.SrflpProofsRubRearr
import DdoModel.Examples.SrflpProofsRubPath
import DdoModel.Examples.SrflpProofsRubSmith
import DdoModel.Examples.SrflpProofsWf
import DdoModel.Proofs.MddCoverRel
import DdoModel.Examples.InsSort
import DdoModel.Examples.TourBase
import DdoModel.Examples.TsptwProofsStep
import DdoModel.Examples.TsptwProofsStar
import DdoModel.Examples.TsptwProofsMerge
import DdoModel.Examples.TsptwProofsExact
import DdoModel.Examples.TsptwProofsWf
import DdoModel.Examples.TsptwProofsRub
import DdoModel.Examples.PspProofsExact
import DdoModel.Examples.SopProofsBits
import DdoModel.Examples.SopProofsStep
import DdoModel.Examples.SopProofsMerge
import DdoModel.Examples.SopProofsWf
import DdoModel.Examples.SopProofsExact
import DdoModel.Examples.SopProofsRub
import DdoModel.Proofs.CompatSound
import DdoModel.Proofs.CompatGrid
import DdoModel.Proofs.CompatGridWf
import DdoModel.Proofs.CompatShadowTable
import DdoModel.Proofs.CompatOrder
import DdoModel.Proofs.CompatInv
import DdoModel.Proofs.CompatStore
import DdoModel.Proofs.CompatShadow
import DdoModel.Proofs.CompatSearch
import DdoModel.Props.C10d
import DdoModel.Props.C10dWitness
import DdoModel.Examples.TalentschedProofsSmith
import DdoModel.Examples.TalentschedProofsWf
import DdoModel.Examples.AlpProofsExact
import DdoModel.Examples.AlpProofsPrefix
import DdoModel.Proofs.CompatProcess
import DdoModel.Proofs.CompatBuilt
import DdoModel.Proofs.CompatContractTest
import DdoModel.Proofs.CompatLevelStep
import DdoModel.Proofs.CompatFields
import DdoModel.Proofs.FreshJoint
import DdoModel.Proofs.CompatPot
import DdoModel.Proofs.CompatTheta
import DdoModel.Props.C10e
import DdoModel.Props.C10eWitness
import DdoModel.Examples.SrflpProofsRubCut
import DdoModel.Examples.SrflpProofsRubEdge
import DdoModel.Examples.SrflpProofsRubLoops
import DdoModel.Proofs.ParCacheClosed
import DdoModel.Proofs.ParCacheCover
import DdoModel.Proofs.ParCacheCoverFrame
import DdoModel.Proofs.ParCacheCoverGw
import DdoModel.Proofs.ParCacheCoverNode
import DdoModel.Proofs.ParCacheCoverStep
import DdoModel.Proofs.ParCacheExecTools
import DdoModel.Proofs.ParCacheExec
import DdoModel.Proofs.ParCacheSearch
import DdoModel.Proofs.ParCacheLay
import DdoModel.Proofs.ParCacheModel
import DdoModel.Proofs.ParCacheOracle
import DdoModel.Proofs.ParCacheSys
import DdoModel.Proofs.ParCacheTerm
import DdoModel.Proofs.ParCacheTheta
import DdoModel.Proofs.ParCacheWeak
import DdoModel.Props.C09e
import DdoModel.Props.C09eWitness
import DdoModel.Proofs.ParCacheCutInv
import DdoModel.Proofs.ParCacheCutSearch
import DdoModel.Proofs.ParCacheCutSys
import DdoModel.Proofs.ParCacheCutTerm
import DdoModel.Proofs.ParCacheCutWitness
import DdoModel.Props.C05e
import DdoModel.Props.C05eWitness
import DdoModel.Proofs.ParDomAtomic
import DdoModel.Proofs.ParDomBuilt
import DdoModel.Proofs.ParDomClosed
import DdoModel.Proofs.ParDomCompileL
import DdoModel.Proofs.ParDomDefs
import DdoModel.Proofs.ParDomExec
import DdoModel.Proofs.ParDomGenDefs
import DdoModel.Proofs.ParDomInv
import DdoModel.Proofs.ParDomLSys
import DdoModel.Proofs.ParDomLSysDefs
import DdoModel.Proofs.ParDomOSys
import DdoModel.Proofs.ParDomOSysDefs
import DdoModel.Proofs.ParDomOp
import DdoModel.Proofs.ParDomOpLoop
import DdoModel.Proofs.ParDomProg
import DdoModel.Proofs.ParDomOpSelf
import DdoModel.Proofs.ParDomOpSpec
import DdoModel.Proofs.Icmp
import DdoModel.Proofs.PathP
import DdoModel.Proofs.CutLoop
import DdoModel.Props.C10f
import DdoModel.Props.C10fWitness
