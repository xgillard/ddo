import DdoModel.Basic
/-! Structures mirroring `abstraction/dp.rs`, `abstraction/heuristics.rs`, `common.rs`:
    the user-supplied DP model, its relaxation, a state ranking, sub-problems, compilation inputs. -/
namespace Ddo

structure Dec where
  var : Nat
  val : Int
deriving DecidableEq, Repr

structure Problem (S : Type) where
  nbVars  : Nat
  init    : S
  initVal : Int
  trans   : S → Dec → S
  cost    : S → S → Dec → Int            -- (source, destination, decision), as `transition_cost`
  nextVar : Nat → List S → Option Nat     -- depth, states of the next layer
  domain  : Nat → S → List Int            -- `for_each_in_domain`, in call order
  impacted : Nat → S → Bool               -- `is_impacted_by`

structure Relax (S : Type) where
  merge : List S → S
  relax : S → S → S → Dec → Int → Int     -- (source, dest, merged, decision, cost)
  rub   : S → Int                          -- `fast_upper_bound`

structure Ranking (S : Type) where
  cmp : S → S → Ordering

structure SubP (S : Type) where
  state : S
  value : Int
  path  : List Dec
  ub    : Int
  depth : Nat

inductive CompType | exact | relaxed | restricted
deriving DecidableEq, Repr

inductive CutsetKind | lel | frontier
deriving DecidableEq, Repr

/-- extended integers: `none` = −∞ (value-to-go of a state without completion) -/
abbrev EInt := Option Int

def EInt.le : EInt → EInt → Prop
  | none, _ => True
  | some _, none => False
  | some a, some b => a ≤ b
instance : LE EInt := ⟨EInt.le⟩
instance (a b : EInt) : Decidable (a ≤ b) :=
  match a, b with
  | none, _ => isTrue True.intro
  | some _, none => isFalse (fun h => h)
  | some x, some y => if h : x ≤ y then isTrue h else isFalse h

def EInt.addI (a : EInt) (c : Int) : EInt := a.map (· + c)
def EInt.max (a b : EInt) : EInt :=
  match a, b with
  | none, b => b
  | a, none => a
  | some x, some y => some (Max.max x y)

@[simp] theorem EInt.none_le (a : EInt) : (none : EInt) ≤ a := by cases a <;> exact True.intro
@[simp] theorem EInt.some_le_some (a b : Int) : ((some a : EInt) ≤ some b) ↔ a ≤ b := Iff.rfl
@[simp] theorem EInt.some_le_none (a : Int) : ((some a : EInt) ≤ none) ↔ False := Iff.rfl
theorem EInt.le_refl (a : EInt) : a ≤ a := by cases a <;> simp
theorem EInt.le_trans {a b c : EInt} (h1 : a ≤ b) (h2 : b ≤ c) : a ≤ c := by
  cases a with
  | none => exact EInt.none_le _
  | some a =>
    cases b with
    | none => exact h1.elim
    | some b =>
      cases c with
      | none => exact h2.elim
      | some c => exact Int.le_trans h1 h2

theorem EInt.addI_eq_some {a : EInt} {c x : Int} (h : a.addI c = some x) : ∃ h0, a = some h0 ∧ x = h0 + c := by
  cases a with
  | none => cases h
  | some h0 => exact ⟨h0, rfl, (Option.some.inj h).symm⟩

/-- replay of a decision list from a state: every decision must belong to the domain of its
    variable in the state reached so far; returns the final state and the accumulated value.
    Variables are taken in the order `nextVar` dictates (static orders: `nextVar k _ = some (ord k)`). -/
def evalFrom {S : Type} (P : Problem S) (depth : Nat) (s : S) (v : Int) : List Dec → Option (S × Int × Nat)
  | [] => some (s, v, depth)
  | d :: ds =>
    match P.nextVar depth [s] with
    | none => none
    | some x =>
      if d.var = x ∧ d.val ∈ P.domain x s then
        let s' := P.trans s d
        evalFrom P (depth + 1) s' (v + P.cost s s' d) ds
      else none

/-- default-completed replay (pooled diagrams, long arcs): a variable without a decision in the list is
    legal iff the state reached so far is not impacted by it; it then contributes cost 0 and leaves
    the state unchanged.  `fuel` bounds the number of layers. -/
def evalSkip {S : Type} (P : Problem S) : Nat → Nat → S → Int → List Dec → Option (S × Int × Nat)
  | 0, depth, s, v, ds => if ds.isEmpty then some (s, v, depth) else none
  | fuel + 1, depth, s, v, ds =>
    match P.nextVar depth [s] with
    | none => if ds.isEmpty then some (s, v, depth) else none
    | some x =>
      match ds with
      | d :: rest =>
        if d.var = x then
          (if d.val ∈ P.domain x s then
            let s' := P.trans s d
            evalSkip P fuel (depth + 1) s' (v + P.cost s s' d) rest
           else none)
        else if P.impacted x s then none else evalSkip P fuel (depth + 1) s v ds
      | [] => if P.impacted x s then none else evalSkip P fuel (depth + 1) s v []

end Ddo
