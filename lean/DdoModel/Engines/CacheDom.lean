import DdoModel.Proto
import DdoModel.Engines.Store
import DdoModel.Props.C10cWitness
/-! Driver engine `cachedom` (C09 / C10: the threshold cache and the dominance checker TOGETHER): the counter-examples
    `Ddo.C10c.Twin`, `CrossSim` and `Cross` (`Proofs/CacheDom*.lean`) run through the real solvers.
    `agree`: every sequential run behaves as the composed model says — joint solver `kdsolveLoop` (wrong value), checker alone
    `DSolverCfg.solveLoop`, cache alone `ksolveLoop` (the optimum).  `phi`: every exact run reports the optimum of the case.
    On the current code `phi` fails for the runs with both mechanisms on: open known finding D17. -/
namespace Ddo.Engines
open Ddo Ddo.Proto Ddo.C01 Ddo.Closed Ddo.C09 Ddo.C10 Ddo.C10c

private def showKD (c : Bool × Option Int) : String := s!"{if c.1 then 1 else 0} {match c.2 with | some v => toString v | none => "none"}"

def cachedomEngine (c i : List String) : Option Res := do
  let runs := (splitAt ";" i).filter (· ≠ [])
  let get := fun (n : String) => (runs.find? (fun r => r.head? == some n)).map (fun r => join (r.drop 1))
  match c with
  | [name, opt] =>
    let dvOf : Option (Bool → CutsetKind → DSolverCfg Int Int) := match name with
      | "twin" => some C10c.Twin.dv
      | "crosssim" => some C10c.CrossSim.dv
      | "cross" => some C10c.Cross.dv
      | _ => none
    let dv ← dvOf
    let joint := fun (d : Bool) (k : CutsetKind) => showKD ((dv d k).kdsolveLoop 16 (KDSt.init (dv d k))).st.completion
    let domOnly := fun (d : Bool) (k : CutsetKind) => showKD ((dv d k).solveLoop 16 (dv d k).init).st.completion
    let cacheOnly := fun (d : Bool) (k : CutsetKind) => showKD ((dv d k).sv.ksolveLoop 16 (KSt.init (dv d k).sv)).st.completion
    let want : List (String × String) :=
      [("seq_lel_cache_nodom", cacheOnly false .lel), ("seq_fc_cache_nodom", cacheOnly false .frontier),
       ("seq_lel_nocache_dom", domOnly false .lel), ("seq_fc_nocache_dom", domOnly false .frontier),
       ("seq_lel_cache_dom", joint false .lel), ("seq_fc_cache_dom", joint false .frontier),
       ("seq_lel_cache_dom_nodup", joint true .lel), ("seq_fc_cache_dom_nodup", joint true .frontier)]
    let bad := want.filter (fun (n, m) => get n != some m)
    let wrong := runs.filter (fun r => match r with
      | _ :: "1" :: v :: _ => v != opt
      | [_, "panic"] => true
      | _ => false)
    let phi := wrong.isEmpty
    let txt := s!"[cache-and-dominance on the model {name} (optimum {opt}; correct with the cache alone and with the checker alone) {wrong.length} solver configurations with SimpleCache AND SimpleDominanceChecker report a wrong value as exact, e.g. {join ((wrong.head?).getD [])}]"
    pure { agree := bad.isEmpty, phi := phi, model := join (want.map (fun (n, m) => s!"{n} {m} ;")),
           note := (if phi then "" else s!"F:C09 [C09:{txt.drop 1} F:C10 [C10:{txt.drop 1}")
                   ++ (if bad.isEmpty then "" else s!" D:cachedom {(bad.head?.map (·.1)).getD ""}") }
  | _ => none

end Ddo.Engines
