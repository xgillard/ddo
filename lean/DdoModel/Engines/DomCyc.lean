import DdoModel.Proto
import DdoModel.Engines.Store
import DdoModel.Props.C10bCyc
/-! Driver engine `domcyc` (C10, sentence 1): the counter-example `Ddo.C10.Cyc` (a dominance rule that is admissible in the
    potential form — every dominated state has a dominator with an at-least-as-good best completion — but not
    simulation-consistent) run through the real solvers.  `agree`: the sequential solvers behave as the composed model says
    (with the checker: one turn, `is_exact = true`, value 5; without: 10).  `phi` (C10): enabling the checker does not change the
    value.  On the current code `phi` fails: open known finding D13. -/
namespace Ddo.Engines
open Ddo Ddo.Proto

private def showC (c : Bool × Option Int) : String := s!"{if c.1 then 1 else 0} {match c.2 with | some v => toString v | none => "none"}"

/-- case: `cyc` ; impl: `<name> <exact> <value>` separated by `;` -/
def domcycEngine (c i : List String) : Option Res := do
  if c != ["cyc"] then none else
  let runs := (splitAt ";" i).filter (· ≠ [])
  let mNo := showC ((C10.Cyc.sv false .lel).solveLoop 12 (SeqSt.init C10.Cyc.prob none false)).completion
  let mLel := showC ((C10.Cyc.dv false .lel).solveLoop 12 (C10.Cyc.dv false .lel).init).st.completion
  let mFc := showC ((C10.Cyc.dv false .frontier).solveLoop 12 (C10.Cyc.dv false .frontier).init).st.completion
  let want : List (String × String) := [("seq_lel_nodom", mNo), ("seq_lel_dom", mLel), ("seq_fc_dom", mFc)]
  let get := fun (n : String) => (runs.find? (fun r => r.head? == some n)).map (fun r => join (r.drop 1))
  let bad := want.filter (fun (n, m) => get n != some m)
  let base := get "seq_lel_nodom"
  let changed := runs.filter (fun r => match r with
    | n :: rest => (n.splitOn "_dom").length > 1 && some (join rest) != base
    | _ => false)
  let phi := changed.isEmpty
  pure { agree := bad.isEmpty, phi := phi, model := join (want.map (fun (n, m) => s!"{n} {m} ;")),
         note := (if phi then "" else s!"F:C10 [C10:cyclic-ties the value-admissible rule of Ddo.C10.Cyc changes the result: without the checker {base.getD "?"}, with it {join ((changed.head?).getD [])} ({changed.length} solver configurations)]")
                 ++ (if bad.isEmpty then "" else s!" D:domcyc {(bad.head?.map (·.1)).getD ""}") }

end Ddo.Engines
