import DdoModel.Proofs.Layered
/-! Three models of the family `Layered` (`Proofs/Layered.lean`) that refute `AnyOrderOpt` of `Props/C09c.lean` (is the caching
solver still correct when the fringe is popped in an arbitrary order?) for the **pre-fix solver** — `enqueue_cutset(ub)` capping
the bound of every cut-set node by the bound of the processed node, `cutset_node.ub = ub.min(cutset_node.ub)`:
`SolverCfg.kturnCapped` / `ksolveSchedCapped` of `Proofs/CacheClosedDefs.lean` (finding D14).

`Counter`, `Fixed` and `Hand` are `WellFormed` models on which the capped caching solver popping **breadth-first** (shallowest
sub-problem first) ends with the empty fringe, `is_exact = true` and the value 4 while the optimum is 10 (`Hand`: 6).  Popping
best-first it returns the optimum, and the repaired solver (no cap: `SolverCfg.kturn` / `ksolveSched`) returns it for every pop
order (`Ddo.C09.caching_solver_correct`; on `Counter`: `nocap_bfs_value` in `Props/C09d.lean`).

Each run is evaluated by the kernel in one statement per model and pop order (`breadthfirst_runs`, `bestfirst_runs`,
`capped_runs`, `runs`) and the named theorems are read off it: the turns that several theorems speak of are computed once. -/
set_option linter.unusedSectionVars false
set_option linter.unusedVariables false

/-! **The model** (`Counter.T`): 7 binary variables `x0 … x6` in static order (variable `k` is decided at depth `k`), domain
`[0, 1]` enumerated in that order, 3 states `0, 1, 2`, initial state `0`, initial value `0`.  Transition / cost tables
(`state: (next state, cost) for decision 0 | (next state, cost) for decision 1`; rows marked `*` are never reached and only
copy a neighbour so that the value-to-go stays monotone):

```
x0:  0: (1,0)|(0,0)    1*: as 0           2*: as 0            R=0 → A=1 (d=0), P=0 (d=1)
x1:  0: (0,0)|(0,0)    1: (1,0)|(1,0)     2*: as 1            P=0 → N=0;  A=1 → a2=1
x2:  0: (0,0)|(1,0)    1: (2,0)|(2,0)     2*: as 1            N=0 → lo=0 (d=0), hi=1 (d=1);  a2=1 → a3=2
x3:  0: (1,0)|(1,0)    1: (2,0)|(0,0)     2: (2,0)|(2,0)      lo=0 → s4=1;  hi=1 → s*=2 (d=0), u4=0 (d=1);  a3=2 → s*=2
x4:  0: (0,0)|(0,0)    1: (2,0)|(2,0)     2: (2,0)|(1,1)      u4=0 → t5=0;  s4=1 → s=2;  s*=2 → s=2 (d=0), o5=1 (d=1, cost 1)
x5:  0: (0,2)|(1,1)    1: (0,2)|(1,1)     2: (2,0)|(1,2)      s=2 → g=2 (d=0, cost 0), y=1 (d=1, cost 2)
x6:  0: (0,0)|(0,0)    1: (0,2)|(0,0)     2: (0,10)|(0,0)     the late reward: state 2 at depth 6 earns 10
```

Value-to-go by depth (`hfrom`, monotone in the state at every depth — a larger state dominates): depth 0–3: `10,10,10`;
depth 4: `3,10,10`; depth 5: `3,3,10`; depth 6: `0,2,10`; depth 7: `0,0,0`.  **Optimum 10**, reached by exactly the paths that
are at state 2 at depth 5 with value 0 and take `x5 = 0`, `x6 = 0`: through `A` (`R,A,a2,a3,s*,s,g`) and through `P`
(`R,P,N,lo,s4,s,g` and `R,P,N,hi,s*,s,g`).

**The relaxation**: `merge X` = the largest state of `X`, `relax` = identity on the costs, `fast_upper_bound` = 20 (constant).
State ranking: the larger state is the better one (`icmp`).  **Width**: 1 for sub-problems of depth 0 and 1, 2 for
sub-problems of depth ≥ 2.  No dominance, no cutoff, `SimpleCache`.

**The pop order**: breadth-first — the shallowest open sub-problem first, among those of equal depth the one with the larger
state.  (`SubProblemRanking::compare(a, b)` = `b.depth.cmp(a.depth)` then `a.state.cmp(b.state)`: the fringe pops the greatest
element.)  In the model: the schedule `Counter.sched` of indices into the fringe list.  With the plain fringe and the
last-exact-layer cut-set (`Counter.sched = [0, 1, 1, 0, 0]`; the other three configurations behave in the same way, see
`Counter.anyorder_counter_all`), the fringe after each turn as `(state, value, ub, depth)`:

```
turn 1  pop R = (0, 0, +∞, 0), width 1.  Restricted: 3 (R,A,a2,a3,s*,o5,0: 1 + 2 + 0).  Relaxed: the depth-2 layer is merged,
        cut-set = depth 1.   fringe [P = (0,0,13,1), A = (1,0,13,1)], incumbent 3.
turn 2  pop A = (1, 0, 13, 1), width 1.  Restricted: 3 again.  Relaxed: exact chain a2, a3, s*; the depth-5 layer {s, o5} is
        merged, cut-set = {k2 = (s* = 2, value 0, depth 4)}.  Thresholds: (2, depth 4) ↦ (0, explored = false), and `(0, true)`
        on a3, a2, A.   fringe [k2 = (2,0,13,4), P = (0,0,13,1)], incumbent 3.
turn 3  pop P = (0, 0, 13, 1), width 1.  Relaxed: depth 2 = {N}; depth 3 = {lo = 0, hi = 1} merged into M = (state 1, value 0),
        cut-set = {N}.  Children of M at depth 4: (s* = 2, value 0) — pruned by `_filter_with_cache`: 0 ≤ threshold 0 recorded
        at turn 2 (justified by the open k2) — and (u4 = 0, value 0), which goes on: t5, then {0 (value 2), 1 (value 1)}
        merged into (1, value 2), terminal value 2 + 2 = 4.  So N is handed out with **ub(N) = 4 < 10 = pot(N)**: the exact
        optimal path below N is N, lo, s4 = 1, s, g and never visits s* = (2, depth 4); in this diagram it was merged into M
        whose child s* was cut.  Threshold (0, depth 2) ↦ (0, false).
        fringe [N = (0,0,4,2), k2 = (2,0,13,4)], incumbent 3.
turn 4  pop N = (0, 0, 4, 2), width 2 — **not best-first**: ub(k2) = 13 > 4 = ub(N).  The diagrams of N are exact down to
        depth 5: depth 3 = {lo, hi}; depth 4 = {s4 = 1, u4 = 0} (s* = 2 is cut by the cache again); depth 5 = {s = (2, value 0),
        t5 = (0, value 0)}; depth 6 = {g = (2, 0), (1, 2), (0, 2)}: three nodes.  Restricted: keeps (1, 2), (0, 2), drops g;
        finds 2 + 2 = 4, incumbent 4.  Relaxed: keeps (1, 2), merges (0, 2) and g into (state 2, value 2), terminal value 12;
        cut-set = depth 5 = {c' = (2, value 0, depth 5), (0, 0, 5)}, c' with pot(c') = 10, local bound 10 — capped by
        `enqueue_cutset` to `min(ub(N), 10) = 4 ≤ incumbent 4`: **c' is not enqueued**, but `_compute_thresholds` recorded
        (2, depth 5) ↦ (0, explored = false) for it (and (0, depth 5) ↦ (0, false)).
        fringe [k2 = (2,0,13,4)], incumbent 4.
turn 5  pop k2 = (2, 0, 13, 4), width 2.  Its child (s = 2, value 0, depth 5) — the only way to 10 — is pruned by
        `_filter_with_cache`: 0 ≤ threshold 0 recorded at turn 4.  The other child o5 = (1, value 1) yields 1 + 1 + 2 = 4.
        fringe [], incumbent 4: the solver reports `is_exact = true`, `best_value = Some(4)`; the optimum is 10.
```

Why best-first is safe: the capped bound `min(ub(N), ·)` of c' is below pot(c') only because ub(N) was computed in a diagram
cut by the cache; the threshold that cut it is carried by an open node (k2) with a bound ≥ pot(N) > ub(N), which best-first
pops before N. -/
namespace Ddo.C09.Layered.Counter
open Ddo Ddo.C01 Ddo.Closed

def T : Tab :=
  { n := 7, m := 3,
    trl := [1,0, 1,0, 1,0,   0,0, 1,1, 1,1,   0,1, 2,2, 2,2,   1,1, 2,0, 2,2,   0,0, 2,2, 2,1,   0,1, 0,1, 2,1,   0,0, 0,0, 0,0],
    cl :=  [0,0, 0,0, 0,0,   0,0, 0,0, 0,0,   0,0, 0,0, 0,0,   0,0, 0,0, 0,0,   0,0, 0,0, 0,1,   2,1, 2,1, 0,2,   0,0, 2,0, 10,0],
    rub := 20 }

/-- width 1 at depths 0 and 1, width 2 from depth 2 on (entry `depth · 3 + state`) -/
def ws : List Nat := [1,1,1, 1,1,1, 2,2,2, 2,2,2, 2,2,2, 2,2,2, 2,2,2, 2,2,2]

def sv (dedup : Bool) (kind : CutsetKind) : SolverCfg Int := Layered.sv T ws dedup kind

def sched : Bool → CutsetKind → List Nat
  | false, .lel => [0, 1, 1, 0, 0]
  | true, .lel => [0, 0, 0, 1, 0]
  | false, .frontier => [0, 0, 1, 0, 0]
  | true, .frontier => [0, 1, 0, 1, 0]

def after (j : Nat) : KSt Int := (sv false .lel).ksolveSchedCapped ((sched false .lel).take j) (KSt.init (sv false .lel))

/-- the same breadth-first order for the repaired (no-cap) solver: seven turns, the cut-set nodes that the capped solver
    drops at turn 4 are enqueued (trace in `Props/C09d.lean`) -/
def schedNC : Bool → CutsetKind → List Nat
  | false, .lel => [0, 1, 1, 0, 2, 1, 0]
  | true, .lel => [0, 0, 0, 1, 0, 0, 0]
  | false, .frontier => [0, 0, 1, 0, 2, 1, 0]
  | true, .frontier => [0, 1, 0, 1, 0, 0, 0]

def afterNC (j : Nat) : KSt Int := (sv false .lel).ksolveSched ((schedNC false .lel).take j) (KSt.init (sv false .lel))

theorem ok : tableOk T 10 80 10 = true := by decide +kernel

theorem checked : check T 10 = true := checked_of_ok ok

theorem wellFormed (dedup : Bool) (kind : CutsetKind) : WellFormed (sv dedup kind) (H T) 10 80 :=
  wellFormed_of_ok ok ws dedup kind

theorem opt10 : (H T 0 (prob T).init).addI (prob T).initVal = some 10 := opt_of_ok ok

/-- both breadth-first runs (capped: `sched`, repaired: `schedNC`) in one evaluation: their first three turns are the same -/
theorem breadthfirst_runs :
    ((∀ dedup ∈ [false, true], ∀ kind ∈ [CutsetKind.lel, CutsetKind.frontier],
        outcome ((sv dedup kind).ksolveSchedCapped (sched dedup kind) (KSt.init (sv dedup kind))) =
          (0, (true, some 4), 5, false)) ∧
      (view (after 2) = ([(2, 0, 13, 4), (0, 0, 13, 1)], 3) ∧ cacheAt (after 2) 4 = [(2, 0, false)]) ∧
      view (after 3) = ([(0, 0, 4, 2), (2, 0, 13, 4)], 3) ∧
      (view (after 4) = ([(2, 0, 13, 4)], 4) ∧ cacheAt (after 4) 5 = [(2, 0, false), (0, 0, false)]) ∧
      (after 4).cache.mustExplore 2 4 0 = some true ∧ view (after 5) = ([], 4)) ∧
    ((∀ dedup ∈ [false, true], ∀ kind ∈ [CutsetKind.lel, CutsetKind.frontier],
        outcome ((sv dedup kind).ksolveSched (schedNC dedup kind) (KSt.init (sv dedup kind))) =
          (0, (true, some 10), 7, false)) ∧
      (view (afterNC 3) = ([(0, 0, 4, 2), (2, 0, 13, 4)], 3) ∧ cacheAt (afterNC 3) 4 = [(2, 0, false)]) ∧
      (view (afterNC 4) = ([(0, 0, 12, 5), (2, 0, 10, 5), (2, 0, 13, 4)], 4) ∧
        cacheAt (afterNC 4) 5 = [(2, 0, false), (0, 0, false)]) ∧
      (view (afterNC 5) = ([(0, 0, 12, 5), (2, 0, 10, 5)], 4) ∧ (afterNC 5).cache.mustExplore 2 5 0 = some true) ∧
      view (afterNC 6) = ([(0, 0, 12, 5)], 10) ∧ view (afterNC 7) = ([], 10)) := by decide +kernel

theorem anyorder_counter_all : ∀ dedup ∈ [false, true], ∀ kind ∈ [CutsetKind.lel, CutsetKind.frontier],
    ((sv dedup kind).ksolveSchedCapped (sched dedup kind) (KSt.init (sv dedup kind))).st.fringe.length = 0 ∧
    ((sv dedup kind).ksolveSchedCapped (sched dedup kind) (KSt.init (sv dedup kind))).st.completion = (true, some 4) ∧
    ((sv dedup kind).ksolveSchedCapped (sched dedup kind) (KSt.init (sv dedup kind))).st.explored = 5 ∧
    ((sv dedup kind).ksolveSchedCapped (sched dedup kind) (KSt.init (sv dedup kind))).st.crashed = false :=
  fun d hd k hk => outcome_eq (breadthfirst_runs.1.1 d hd k hk)

/-- **the counter-example to `AnyOrderOpt`** (pre-fix solver, D14): the model is well formed, its optimum is 10, and the capped
    caching solver popping breadth-first ends with the empty fringe, `is_exact = true` and `best_value = Some(4)` -/
theorem anyorder_counter : check T 10 = true ∧ (H T 0 (prob T).init).addI (prob T).initVal = some 10 ∧
    ((sv false .lel).ksolveSchedCapped (sched false .lel) (KSt.init (sv false .lel))).st.fringe.length = 0 ∧
    ((sv false .lel).ksolveSchedCapped (sched false .lel) (KSt.init (sv false .lel))).st.completion = (true, some 4) :=
  have h := anyorder_counter_all false (by simp) .lel (by simp)
  ⟨checked, opt10, h.1, h.2.1⟩

theorem bestfirst_runs :
    outcome ((sv false .lel).ksolveLoop 12 (KSt.init (sv false .lel))) = (0, (true, some 10), 9, false) ∧
    outcome ((sv false .lel).ksolveLoopCapped 12 (KSt.init (sv false .lel))) = (0, (true, some 10), 9, false) := by
  decide +kernel

theorem bestfirst_value : ((sv false .lel).ksolveLoop 12 (KSt.init (sv false .lel))).st.completion = (true, some 10) ∧
    ((sv false .lel).ksolveLoop 12 (KSt.init (sv false .lel))).st.fringe.length = 0 ∧
    ((sv false .lel).ksolveLoop 12 (KSt.init (sv false .lel))).st.explored = 9 :=
  have h := outcome_eq bestfirst_runs.1
  ⟨h.2.1, h.1, h.2.2.1⟩

/-- popping best-first the capped solver returns the optimum too: the cap is harmless when the popped node has the largest
    bound -/
theorem bestfirst_value_capped :
    ((sv false .lel).ksolveLoopCapped 12 (KSt.init (sv false .lel))).st.completion = (true, some 10) ∧
    ((sv false .lel).ksolveLoopCapped 12 (KSt.init (sv false .lel))).st.fringe.length = 0 ∧
    ((sv false .lel).ksolveLoopCapped 12 (KSt.init (sv false .lel))).st.explored = 9 :=
  have h := outcome_eq bestfirst_runs.2
  ⟨h.2.1, h.1, h.2.2.1⟩

theorem stage_k2 : view (after 2) = ([(2, 0, 13, 4), (0, 0, 13, 1)], 3) ∧ cacheAt (after 2) 4 = [(2, 0, false)] := breadthfirst_runs.1.2.1

theorem stage_N : view (after 3) = ([(0, 0, 4, 2), (2, 0, 13, 4)], 3) ∧
    optOf (H T) ⟨0, 0, [], 4, 2⟩ = some 10 := ⟨breadthfirst_runs.1.2.2.1, by decide +kernel⟩

theorem stage_cprime : view (after 4) = ([(2, 0, 13, 4)], 4) ∧ cacheAt (after 4) 5 = [(2, 0, false), (0, 0, false)] ∧
    optOf (H T) ⟨2, 0, [], 4, 5⟩ = some 10 :=
  have h := breadthfirst_runs.1.2.2.2.1
  ⟨h.1, h.2, by decide +kernel⟩

theorem stage_end : (after 4).cache.mustExplore 2 4 0 = some true ∧ view (after 5) = ([], 4) := breadthfirst_runs.1.2.2.2.2

/-- **`AnyOrderOpt` fails for the pre-fix solver** (D14): a well-formed model and a run of the capped caching solver with
    arbitrary pops that ends with the empty fringe, without panic, and reports a value that is not the optimum -/
theorem not_anyOrder : ∃ (sv : CSolverCfg Int) (H : Nat → Int → EInt) (B0 B : Int), WellFormed sv H B0 B ∧
    ∃ t opt, KRunAnyCapped sv (KSt.init sv) t ∧ t.st.fringe = [] ∧ t.st.crashed = false ∧
      (H 0 sv.P.init).addI sv.P.initVal = some opt ∧ t.st.completion ≠ (true, some opt) := by
  refine ⟨sv false .lel, H T, 10, 80, wellFormed false .lel, _, 10, ksolveSchedCapped_run (sv false .lel) (sched false .lel) _,
    List.eq_nil_of_length_eq_zero anyorder_counter.2.2.1, ?_, opt10, ?_⟩
  · exact (anyorder_counter_all false (by simp) .lel (by simp)).2.2.2
  · rw [anyorder_counter.2.2.2]; decide

end Ddo.C09.Layered.Counter

/-! The same with `FixedWidth(2)`.  `Fixed.T`: 7 binary variables, 4 states `0 … 3`, same relaxation (merge = largest state,
constant rough upper bound 20), **width 2 for every sub-problem**, last-exact-layer cut-set, either fringe, breadth-first pops (shallowest first, then the
larger state).  Tables (`state: (next, cost) for decision 0 | (next, cost) for decision 1`; `*` = never reached):

```
x0:  every state: (1,0)|(0,0)                                               R=0 → A=1 | P=0
x1:  0: (1,0)|(0,1)   1, 2*, 3*: (2,0)|(2,0)                                 P=0 → N=1 | N'=0 (cost 1);   A=1 → a2=2
x2:  0: (0,0)|(0,0)   1: (1,0)|(2,0)   2, 3*: (3,0)|(3,0)                    N'=0 → t3=0;   N=1 → lo=1 | hi=2;   a2=2 → a3=3
x3:  0: (1,0)|(1,0)   1: (2,0)|(2,0)   2: (3,0)|(0,2)   3: (3,0)|(1,0)       t3 → j4=1;  lo → s4=2;  hi → s*=3 | u4=0 (cost 2);  a3 → s*=3 | k3=1
x4:  0: (1,0)|(1,0)   1: (0,2)|(2,0)   2: (3,0)|(3,0)   3: (3,0)|(1,1)       u4 → t5=1;  j4=k3 → 0 (cost 2) | 2;  s4 → s=3;  s* → s=3 | o5=1 (cost 1)
x5:  0: (0,0)|(0,0)   1: (0,1)|(1,0)   2: (2,0)|(2,0)   3: (3,0)|(2,2)       s=3 → g=3 | y=2 (cost 2)
x6:  0: (0,0)|(0,0)   1: (0,1)|(0,0)   2: (0,2)|(0,0)   3: (0,10)|(0,0)      the late reward: state 3 at depth 6 earns 10
```

Value-to-go by depth: depth 0, 1: `10,10,10,10`; depth 2, 3: `2,10,10,10`; depth 4: `1,2,10,10`; depth 5, 6: `0,1,2,10`.
Optimum 10.  Six turns (plain fringe; `(state, value, ub, depth)`):

```
turn 1  pop R: the depth-2 layer {a2, N, N'} is squashed, cut-set {A, P}; restricted finds 3.      fringe [P=(0,0,13,1), A=(1,0,12,1)], incumbent 3
turn 2  pop A: exact down to depth 4 = {s* = 3, k3 = 1}, the depth-5 layer (4 nodes) is squashed; cut-set {k2 = (3,0,·,4), k3 = (1,0,·,4)};
        thresholds (3, depth 4) ↦ (0,false), (1, depth 4) ↦ (0,false).                               fringe [k3=(1,0,12,4), k2=(3,0,11,4), P], incumbent 3
turn 3  pop P: depth 3 = {t3 = (0, value 1), lo = (1, 0), hi = (2, 0)}: t3 is kept, lo and hi are merged into M = (2, 0); the
        child (s* = 3, value 0) of M is cut by the cache (0 ≤ 0), its child (u4 = 0, value 2) goes on and reaches 4 through a
        merged node of depth 5; cut-set {N, N'}: ub(N) = 4 < 10 = pot(N), N' (ub 3) is not enqueued.   fringe [N=(1,0,4,2), k3, k2], incumbent 3
turn 4  pop N (not best-first): exact down to depth 5 = {s = (3, 0), t5 = (1, 2)} (s* cut by the cache again), depth 6 = {g = (3,0), y = (2,2),
        (0,3), (1,2)} is squashed.  Restricted finds 4 (s, y).  Cut-set {c' = (3, 0, depth 5), (1, 2, depth 5)}: capped to 4 ≤ incumbent 4,
        not enqueued; thresholds (3, depth 5) ↦ (0,false), (1, depth 5) ↦ (2,false) recorded.          fringe [k3, k2], incumbent 4
turn 5  pop k2 = (3,0,11,4): both children (s = 3, value 0) and (o5 = 1, value 1) are cut by the thresholds of turn 4.  fringe [k3], incumbent 4
turn 6  pop k3 = (1,0,12,4): finds 2.                                                                   fringe [], incumbent 4 ≠ 10
``` -/
namespace Ddo.C09.Layered.Fixed
open Ddo Ddo.C01 Ddo.Closed

def T : Tab :=
  { n := 7, m := 4,
    trl := [1,0, 1,0, 1,0, 1,0,   1,0, 2,2, 2,2, 2,2,   0,0, 1,2, 3,3, 3,3,   1,1, 2,2, 3,0, 3,1,   1,1, 0,2, 3,3, 3,1,
            0,0, 0,1, 2,2, 3,2,   0,0, 0,0, 0,0, 0,0],
    cl :=  [0,0, 0,0, 0,0, 0,0,   0,1, 0,0, 0,0, 0,0,   0,0, 0,0, 0,0, 0,0,   0,0, 0,0, 0,2, 0,0,   0,0, 2,0, 0,0, 0,1,
            0,0, 1,0, 0,0, 0,2,   0,0, 1,0, 2,0, 10,0],
    rub := 20 }

/-- `FixedWidth(2)` -/
def ws : List Nat := List.replicate 32 2

def sv (dedup : Bool) : SolverCfg Int := Layered.sv T ws dedup .lel

def sched : Bool → List Nat
  | false => [0, 1, 2, 0, 1, 0]
  | true => [0, 0, 0, 2, 0, 0]

def after (j : Nat) : KSt Int := (sv false).ksolveSchedCapped ((sched false).take j) (KSt.init (sv false))

theorem ok : tableOk T 10 80 10 = true := by decide +kernel

theorem checked : check T 10 = true := checked_of_ok ok

theorem wellFormed (dedup : Bool) : WellFormed (sv dedup) (H T) 10 80 :=
  wellFormed_of_ok ok ws dedup .lel

theorem width2 (dedup : Bool) (N : SubP Int) (hN : N.depth ≤ 7) : (sv dedup).width N = 2 := by
  show max 1 ((List.replicate 32 2).getD (N.depth * 4 + st T N.state) 1) = 2
  have h : st T N.state < 4 := st_lt T (by decide) _
  have hd : N.depth * 4 + st T N.state < 32 := by omega
  rw [List.getD_eq_getElem?_getD, List.getElem?_replicate]
  simp [hd]

theorem opt10 : (H T 0 (prob T).init).addI (prob T).initVal = some 10 := opt_of_ok ok

theorem capped_runs :
    (∀ dedup ∈ [false, true],
      outcome ((sv dedup).ksolveSchedCapped (sched dedup) (KSt.init (sv dedup))) = (0, (true, some 4), 6, false)) ∧
    (view (after 3) = ([(1, 0, 4, 2), (1, 0, 12, 4), (3, 0, 11, 4)], 3) ∧ cacheAt (after 3) 4 = [(3, 0, false), (1, 0, false)]) ∧
    view (after 4) = ([(1, 0, 12, 4), (3, 0, 11, 4)], 4) ∧ cacheAt (after 4) 5 = [(3, 0, false), (1, 2, false)] := by
  decide +kernel

/-- **the counter-example with `FixedWidth(2)`** (pre-fix solver): well formed, optimum 10, the breadth-first order ends with
    the empty fringe, `is_exact = true` and `best_value = Some(4)` -/
theorem anyorder_counter : check T 10 = true ∧ (H T 0 (prob T).init).addI (prob T).initVal = some 10 ∧
    ∀ dedup ∈ [false, true],
      ((sv dedup).ksolveSchedCapped (sched dedup) (KSt.init (sv dedup))).st.fringe.length = 0 ∧
      ((sv dedup).ksolveSchedCapped (sched dedup) (KSt.init (sv dedup))).st.completion = (true, some 4) ∧
      ((sv dedup).ksolveSchedCapped (sched dedup) (KSt.init (sv dedup))).st.explored = 6 ∧
      ((sv dedup).ksolveSchedCapped (sched dedup) (KSt.init (sv dedup))).st.crashed = false :=
  ⟨checked, opt10, fun d hd => outcome_eq (capped_runs.1 d hd)⟩

theorem bestfirst_runs :
    outcome ((sv false).ksolveLoop 12 (KSt.init (sv false))) = (0, (true, some 10), 9, false) ∧
    outcome ((sv false).ksolveLoopCapped 12 (KSt.init (sv false))) = (0, (true, some 10), 9, false) := by decide +kernel

theorem bestfirst_value : ((sv false).ksolveLoop 12 (KSt.init (sv false))).st.completion = (true, some 10) ∧
    ((sv false).ksolveLoop 12 (KSt.init (sv false))).st.fringe.length = 0 ∧
    ((sv false).ksolveLoop 12 (KSt.init (sv false))).st.explored = 9 :=
  have h := outcome_eq bestfirst_runs.1
  ⟨h.2.1, h.1, h.2.2.1⟩

theorem bestfirst_value_capped : ((sv false).ksolveLoopCapped 12 (KSt.init (sv false))).st.completion = (true, some 10) ∧
    ((sv false).ksolveLoopCapped 12 (KSt.init (sv false))).st.fringe.length = 0 ∧
    ((sv false).ksolveLoopCapped 12 (KSt.init (sv false))).st.explored = 9 :=
  have h := outcome_eq bestfirst_runs.2
  ⟨h.2.1, h.1, h.2.2.1⟩

theorem stage_N : view (after 3) = ([(1, 0, 4, 2), (1, 0, 12, 4), (3, 0, 11, 4)], 3) ∧
    optOf (H T) ⟨1, 0, [], 4, 2⟩ = some 10 ∧ cacheAt (after 3) 4 = [(3, 0, false), (1, 0, false)] :=
  have h := capped_runs.2.1
  ⟨h.1, by decide +kernel, h.2⟩

theorem stage_cprime : view (after 4) = ([(1, 0, 12, 4), (3, 0, 11, 4)], 4) ∧
    cacheAt (after 4) 5 = [(3, 0, false), (1, 2, false)] ∧ optOf (H T) ⟨3, 0, [], 4, 5⟩ = some 10 :=
  have h := capped_runs.2.2
  ⟨h.1, h.2, by decide +kernel⟩

end Ddo.C09.Layered.Fixed

/-! A third instance (4 states, optimum 6, small costs).  Rows per variable and state `(next0, cost0, next1, cost1)`, padded to
4 states by repeating the last row: `x0: (1,0,0,1)`; `x1: (2,0,2,0), (1,0,0,1)`; `x2: (0,0,0,0), (1,0,1,0), (2,0,2,0)`; `x3: (0,1,2,0), (1,0,3,0), (3,0,3,0)`;
`x4: (0,0,0,0), (1,0,1,0), (0,0,2,0), (0,1,2,0)`; `x5: (0,0,0,0), (2,0,2,0), (1,1,3,0)`;
`x6: (0,0,0,0), (0,0,0,2), (0,3,0,3), (0,0,0,5)`.  Rough upper bound 100, width 1 at depths 0 and 1 and 2 below, plain fringe,
last-exact-layer cut-set, breadth-first pops (shallowest first, then the larger value).  Six turns: root; `A = (0,1,8,1)`;
`P = (1,0,8,1)`; `N = (0,1,4,2)` although `k2 = (3,1,8,4)` is open; `N' = (1,0,3,2)` (skipped by its bound); `k2`, whose
diagram is cut at `(state 2, depth 5)` by the threshold `(1, false)` recorded by the diagram of `N` for a cut-set node that
was not enqueued (capped bound 4 ≤ incumbent 4).  Result 4, optimum 6. -/
namespace Ddo.C09.Layered.Hand
open Ddo Ddo.C01 Ddo.Closed

def T : Tab :=
  { n := 7, m := 4,
    trl := [1,0, 1,0, 1,0, 1,0,   2,2, 1,0, 1,0, 1,0,   0,0, 1,1, 2,2, 2,2,   0,2, 1,3, 3,3, 3,3,   0,0, 1,1, 0,2, 0,2,
            0,0, 2,2, 1,3, 1,3,   0,0, 0,0, 0,0, 0,0],
    cl :=  [0,1, 0,1, 0,1, 0,1,   0,0, 0,1, 0,1, 0,1,   0,0, 0,0, 0,0, 0,0,   1,0, 0,0, 0,0, 0,0,   0,0, 0,0, 0,0, 1,0,
            0,0, 0,0, 1,0, 1,0,   0,0, 0,2, 3,3, 0,5],
    rub := 100 }

def ws : List Nat := [1,1,1,1, 1,1,1,1] ++ List.replicate 24 2
def sv : SolverCfg Int := Layered.sv T ws false .lel
def sched : List Nat := [0, 0, 1, 0, 0, 0]

theorem ok : tableOk T 5 40 6 = true := by decide +kernel

theorem checked : check T 5 = true := checked_of_ok ok

theorem wellFormed : WellFormed sv (H T) 5 40 := wellFormed_of_ok ok ws false .lel

theorem opt6 : (H T 0 (prob T).init).addI (prob T).initVal = some 6 := opt_of_ok ok

theorem runs :
    ((sv.ksolveSchedCapped sched (KSt.init sv)).st.fringe.length = 0 ∧
      (sv.ksolveSchedCapped sched (KSt.init sv)).st.completion = (true, some 4) ∧
      (sv.ksolveLoopCapped 20 (KSt.init sv)).st.completion = (true, some 6)) ∧
    outcome (sv.ksolveLoop 20 (KSt.init sv)) = (0, (true, some 6), 6, false) := by decide +kernel

theorem anyorder_counter : check T 5 = true ∧ (H T 0 (prob T).init).addI (prob T).initVal = some 6 ∧
    (sv.ksolveSchedCapped sched (KSt.init sv)).st.fringe.length = 0 ∧
    (sv.ksolveSchedCapped sched (KSt.init sv)).st.completion = (true, some 4) ∧
    (sv.ksolveLoopCapped 20 (KSt.init sv)).st.completion = (true, some 6) := ⟨checked, opt6, runs.1⟩

theorem bestfirst_value : (sv.ksolveLoop 20 (KSt.init sv)).st.completion = (true, some 6) ∧
    (sv.ksolveLoop 20 (KSt.init sv)).st.fringe.length = 0 ∧
    (sv.ksolveLoop 20 (KSt.init sv)).st.explored = 6 :=
  have h := outcome_eq runs.2
  ⟨h.2.1, h.1, h.2.2.1⟩

end Ddo.C09.Layered.Hand

#print axioms Ddo.C09.Layered.Counter.anyorder_counter
#print axioms Ddo.C09.Layered.Counter.anyorder_counter_all
#print axioms Ddo.C09.Layered.Counter.bestfirst_value
#print axioms Ddo.C09.Layered.Counter.bestfirst_value_capped
#print axioms Ddo.C09.Layered.Counter.not_anyOrder
#print axioms Ddo.C09.Layered.Fixed.anyorder_counter
#print axioms Ddo.C09.Layered.Fixed.bestfirst_value
#print axioms Ddo.C09.Layered.Fixed.bestfirst_value_capped
#print axioms Ddo.C09.Layered.Hand.anyorder_counter
#print axioms Ddo.C09.Layered.Hand.bestfirst_value
