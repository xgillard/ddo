import DdoModel.ParSysExec
import DdoModel.Props.C03b
/-! Soundness of the executable step function `Sys.exec` (`DdoModel/ParSysExec.lean`) with respect to the
    transition system `ParSys.StepG` — the checked link between the run-time trace validator
    (`DdoModel/Engines/Par.lean`, which advances a `Sys Int` by `Sys.exec` next to its own state for every section of a
    recorded run of the real `ParallelSolver`) and the theorems of `Props/C03b.lean`: an accepted action is a `Step`, an accepted
    schedule is a `Run`, for any contracts that hold of the compilations the schedule performs, so `C03b.sys_inv` /
    `C03b.sys_final` apply to the state the validator reached. -/
set_option linter.unusedSectionVars false
set_option linter.unusedVariables false
namespace Ddo.ParSys
variable {S : Type} [DecidableEq S]

theorem popMax?_sound {fr rest : List (SubP S)} {N : SubP S} (h : popMax? fr N = some rest) : PopMax fr N rest := by
  unfold popMax? at h
  split at h
  · next hm =>
    split at h
    · next ha =>
      injection h with h
      subst h
      refine ⟨List.perm_cons_erase hm, fun c hc => ?_⟩
      have := (List.all_eq_true.mp ha) c hc
      exact of_decide_eq_true this
    · cases h
  · cases h

theorem abortTop?_sound {fr : List (SubP S)} {top : Option Int} (h : abortTop? fr top = true) : AbortTop fr top := by
  cases top with
  | none =>
    refine Or.inl ⟨?_, rfl⟩
    have h : fr.isEmpty = true := h
    exact List.isEmpty_iff.mp h
  | some u =>
    have h : (fr.any (fun t => decide (t.ub = u)) && fr.all (fun c => decide (c.ub ≤ u))) = true := h
    rw [Bool.and_eq_true] at h
    obtain ⟨t, ht, htu⟩ := List.any_eq_true.mp h.1
    have htu : t.ub = u := of_decide_eq_true htu
    refine Or.inr ⟨t, ht, by rw [htu], fun c hc => ?_⟩
    rw [htu]
    exact of_decide_eq_true ((List.all_eq_true.mp h.2) c hc)

theorem popped_sound {s : Sys S} {N : SubP S} {x : ParCrit S × Option (Option (SubP S)) × Nat}
    (h : s.popped N = some x) :
    s.crit.base.abort = false ∧ ∃ rest, PopMax s.crit.base.fringe N rest ∧
      popLoop (setFringe s.crit rest) [(N, true)] 0 = x := by
  unfold Sys.popped at h
  split at h
  · cases h
  · next ha =>
    split at h
    · cases h
    · next rest hp =>
      injection h with h
      exact ⟨by simpa using ha, rest, popMax?_sound hp, h⟩

/-- whatever `Sys.exec` accepts is a step of the parallel solver's transition system, for every
    pair of contracts that the compilation carried by the action (if it is one and succeeds) meets -/
theorem exec_sound {okR okX : SubP S → Int → DDOut S → Prop} {dedup : Bool} {s t : Sys S} {i : Nat} {a : Action S}
    (h : s.exec dedup i a = some t)
    (hR : ∀ x ∈ s.compR i a, okR x.1 x.2.1 x.2.2) (hX : ∀ x ∈ s.compX i a, okX x.1 x.2.1 x.2.2) :
    Step dedup okR okX s t := by
  cases a with
  | gwAborted =>
    simp only [Sys.exec] at h
    split at h
    · next hw =>
      split at h
      · next ha => injection h with h; subst h; exact StepG.gwAborted s i hw ha
      · cases h
    · cases h
  | gwComplete =>
    simp only [Sys.exec] at h
    split at h
    · next hw =>
      split at h
      · next hc =>
        injection h with h; subst h
        simp only [Bool.and_eq_true, Bool.not_eq_true', beq_iff_eq, List.isEmpty_iff] at hc
        exact StepG.gwComplete s i hw hc.1.1 hc.1.2 hc.2
      · cases h
    · cases h
  | gwWait =>
    simp only [Sys.exec] at h
    split at h
    · next hw =>
      split at h
      · next hc =>
        injection h with h; subst h
        simp only [Bool.and_eq_true, Bool.not_eq_true', bne_iff_ne, List.isEmpty_iff] at hc
        exact StepG.gwWait s i hw hc.1.1 hc.1.2 hc.2
      · cases h
    · cases h
  | gwStarve N =>
    simp only [Sys.exec] at h
    split at h
    · next hw =>
      split at h
      · next c' k hp =>
        injection h with h; subst h
        obtain ⟨ha, rest, hpm, hl⟩ := popped_sound hp
        exact StepG.gwStarve s i N rest c' k hw ha hpm hl
      · cases h
    · cases h
  | gwItem N =>
    simp only [Sys.exec] at h
    split at h
    · next hw =>
      split at h
      · next c' nn k hp =>
        obtain ⟨ha, rest, hpm, hl⟩ := popped_sound hp
        split at h
        · next c'' ht => injection h with h; subst h; exact StepG.gwItem s i N rest c' nn k c'' hw ha hpm hl ht
        · cases h
      · cases h
    · cases h
  | gwCrash N =>
    simp only [Sys.exec] at h
    split at h
    · next hw =>
      split at h
      · next c' nn k hp =>
        obtain ⟨ha, rest, hpm, hl⟩ := popped_sound hp
        split at h
        · cases h
        · next ht => injection h with h; subst h; exact StepG.gwCrash s i N rest c' nn k hw ha hpm hl ht
      · cases h
    · cases h
  | readLbR =>
    simp only [Sys.exec] at h
    split at h
    · next n hw => injection h with h; subst h; exact StepG.readLbR s i n hw
    · cases h
  | compileR r =>
    simp only [Sys.exec] at h
    split at h
    · next n lb hw =>
      injection h with h; subst h
      refine StepG.compileR s i n lb r hw (fun o ho => ?_)
      subst ho
      exact hR (n, lb, o) (by simp only [Sys.compR, hw]; exact List.mem_singleton.mpr rfl)
    · cases h
  | updateR =>
    simp only [Sys.exec] at h
    split at h
    · next n lb o hw => injection h with h; subst h; exact StepG.updateR s i n lb o hw
    · cases h
  | readLbX =>
    simp only [Sys.exec] at h
    split at h
    · next n hw => injection h with h; subst h; exact StepG.readLbX s i n hw
    · cases h
  | compileX r =>
    simp only [Sys.exec] at h
    split at h
    · next n lb hw =>
      injection h with h; subst h
      refine StepG.compileX s i n lb r hw (fun o ho => ?_)
      subst ho
      exact hX (n, lb, o) (by simp only [Sys.compX, hw]; exact List.mem_singleton.mpr rfl)
    · cases h
  | updateX =>
    simp only [Sys.exec] at h
    split at h
    · next n lb o hw => injection h with h; subst h; exact StepG.updateX s i n lb o hw
    · cases h
  | enqueue =>
    simp only [Sys.exec] at h
    split at h
    · next n lb o hw => injection h with h; subst h; exact StepG.enqueue s i n lb o hw
    · cases h
  | abort top =>
    simp only [Sys.exec] at h
    split at h
    · next n hw =>
      split at h
      · next ht => injection h with h; subst h; exact StepG.abort s i n top hw (abortTop?_sound ht)
      · cases h
    · cases h
  | notify =>
    simp only [Sys.exec] at h
    split at h
    · next n te hw =>
      split at h
      · next c' hn => injection h with h; subst h; exact StepG.notify s i n te c' hw hn
      · cases h
    · cases h

/-- the unconstrained system: every accepted action is a step -/
theorem exec_sound_free {dedup : Bool} {s t : Sys S} {i : Nat} {a : Action S} (h : s.exec dedup i a = some t) :
    Step dedup (fun _ _ _ => True) (fun _ _ _ => True) s t :=
  exec_sound h (fun _ _ => trivial) (fun _ _ => trivial)

/-- a schedule accepted by iterated `exec` is a run of the parallel solver's transition
    system, for every pair of contracts met by the compilations the schedule performs -/
theorem execRun_sound {okR okX : SubP S → Int → DDOut S → Prop} {dedup : Bool} {as : Sched S} :
    ∀ {s t : Sys S}, s.execRun dedup as = some t →
      (∀ x ∈ s.compsR dedup as, okR x.1 x.2.1 x.2.2) → (∀ x ∈ s.compsX dedup as, okX x.1 x.2.1 x.2.2) →
      Run dedup okR okX s t := by
  induction as with
  | nil =>
    intro s t h _ _
    have h : some s = some t := h
    injection h with h
    subst h
    exact RunG.refl _
  | cons ia r ih =>
    obtain ⟨i, a⟩ := ia
    intro s t h hR hX
    simp only [Sys.execRun] at h
    simp only [Sys.compsR, Sys.compsX] at hR hX
    cases he : s.exec dedup i a with
    | none => rw [he] at h; cases h
    | some u =>
      rw [he] at h hR hX
      have hst : Step dedup okR okX s u :=
        exec_sound he (fun x hx => hR x (List.mem_append_left _ hx)) (fun x hx => hX x (List.mem_append_left _ hx))
      exact StepG.head hst
        (ih h (fun x hx => hR x (List.mem_append_right _ hx)) (fun x hx => hX x (List.mem_append_right _ hx)))

theorem execRun_sound_free {dedup : Bool} {as : Sched S} {s t : Sys S} (h : s.execRun dedup as = some t) :
    Run dedup (fun _ _ _ => True) (fun _ _ _ => True) s t :=
  execRun_sound h (fun _ _ => trivial) (fun _ _ => trivial)

/-- the system whose compilations answer exactly what the schedule recorded -/
theorem execRun_sound_mem {dedup : Bool} {as : Sched S} {s t : Sys S} (h : s.execRun dedup as = some t) :
    Run dedup (fun n lb o => (n, lb, o) ∈ s.compsR dedup as) (fun n lb o => (n, lb, o) ∈ s.compsX dedup as) s t :=
  execRun_sound h (fun _ hx => hx) (fun _ hx => hx)

section
variable (Phi : SubP S → EInt) (opt : Int) (Sol : List Dec → Int → Prop)

/-- the state reached by an accepted schedule whose recorded compilations meet the diagram
    contracts (relative to the node compiled and the incumbent the worker had read) satisfies the coverage
    invariant `SysInv` -/
theorem execRun_inv (dedup : Bool) (hphi : PhiOk Phi dedup) {as : Sched S} {s t : Sys S}
    (h : s.execRun dedup as = some t)
    (hR : ∀ x ∈ s.compsR dedup as, OkR Phi opt Sol x.1 x.2.1 x.2.2)
    (hX : ∀ x ∈ s.compsX dedup as, OkX Phi opt Sol x.1 x.2.1 x.2.2)
    (hi : SysInv Phi opt Sol s) : SysInv Phi opt Sol t :=
  C03b.sys_inv Phi opt Sol dedup hphi (fun _ _ _ h => h) (fun _ _ _ h => h) (execRun_sound h hR hX) hi

/-- if moreover the schedule starts in the initial state and every worker has left at its
    end (`maximize()` returns; at least one thread), then what the shared record holds is what `C03b.sys_final`
    says: the optimum with `best_ub = best_lb` and `is_exact` when the abort flag is down, `best_lb ≤ opt ≤
    best_ub` and not exact when it is up, and a feasible stored solution of value `best_lb` in both cases -/
theorem execRun_final (dedup : Bool) (hphi : PhiOk Phi dedup) (P : Problem S) (primal : Option (Int × List Dec))
    (U : Nat) {as : Sched S} {t : Sys S}
    (h : (Sys.init P primal dedup U).execRun dedup as = some t)
    (hR : ∀ x ∈ (Sys.init P primal dedup U).compsR dedup as, OkR Phi opt Sol x.1 x.2.1 x.2.2)
    (hX : ∀ x ∈ (Sys.init P primal dedup U).compsX dedup as, OkX Phi opt Sol x.1 x.2.1 x.2.2)
    (hi : SysInv Phi opt Sol (Sys.init P primal dedup U)) (hd : AllDone t) (hne : t.ws ≠ []) :
    (t.crit.base.abort = false → t.crit.base.bestLb = opt ∧ t.crit.base.bestUb = opt ∧
        t.crit.base.completion = (true, t.crit.base.bestSol.map (fun _ => opt))) ∧
    (t.crit.base.abort = true → t.crit.base.bestLb ≤ opt ∧ opt ≤ t.crit.base.bestUb ∧ t.crit.base.completion.1 = false) ∧
    (∀ p, t.crit.base.bestSol = some p → Sol p t.crit.base.bestLb) :=
  C03b.sys_final Phi opt Sol dedup hphi (fun _ _ _ h => h) (fun _ _ _ h => h) P primal U hi
    (execRun_sound h hR hX) hd hne

end

end Ddo.ParSys

#print axioms Ddo.ParSys.popMax?_sound
#print axioms Ddo.ParSys.abortTop?_sound
#print axioms Ddo.ParSys.exec_sound
#print axioms Ddo.ParSys.exec_sound_free
#print axioms Ddo.ParSys.execRun_sound
#print axioms Ddo.ParSys.execRun_sound_free
#print axioms Ddo.ParSys.execRun_sound_mem
#print axioms Ddo.ParSys.execRun_inv
#print axioms Ddo.ParSys.execRun_final
