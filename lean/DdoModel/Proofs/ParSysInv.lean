import DdoModel.Proofs.ParSysSpec
import DdoModel.Proofs.SeqInv
import DdoModel.Proofs.SeqInvDedup
/-! The coverage invariant `SysInv` of the concrete parallel transition system `ParSys` and its
    preservation by every `Step` (`step_inv`; every section of every worker, in every interleaving), under the
    diagram contracts `CompileOk` / `CutsetOk` taken relative to the *stale* incumbent the worker read.
    Setting as in `Proofs/SeqInv.lean`: abstract `Phi`, `opt`, `Sol`.  Core Lean only. -/
set_option linter.unusedSectionVars false
set_option linter.unusedVariables false
namespace Ddo.ParSys
variable {S : Type} [DecidableEq S]

section
variable (Phi : SubP S → EInt) (opt : Int) (Sol : List Dec → Int → Prop)

def OkR (n : SubP S) (lb : Int) (o : DDOut S) : Prop := CompileOk Phi opt Sol n lb o
def OkX (n : SubP S) (lb : Int) (o : DDOut S) : Prop :=
  CompileOk Phi opt Sol n lb o ∧ (o.isExact = false → CutsetOk Phi opt n lb o)

/-- what is assumed of `Phi`: it ignores the bound; with the duplicate-free fringe it reads a sub-problem
    through `(state, depth, value)` only, monotonically in the value -/
def PhiOk (dedup : Bool) : Prop :=
  (∀ (c : SubP S) (u : Int), Phi { c with ub := u } = Phi c) ∧ (dedup = true → PhiMono Phi)

/-- stage facts: what a worker knows is consistent with the *current* incumbent `lbNow` -/
def WOk (lbNow : Int) : WSt S → Prop
  | .compR _ lb => lb ≤ lbNow
  | .updR n lb o => lb ≤ lbNow ∧ CompileOk Phi opt Sol n lb o
  | .compX _ lb => lb ≤ lbNow
  | .updX n lb o => lb ≤ lbNow ∧ CompileOk Phi opt Sol n lb o ∧ (o.isExact = false → CutsetOk Phi opt n lb o)
  | .enq n lb o => lb ≤ lbNow ∧ CutsetOk Phi opt n lb o ∧ (∀ w, o.bestExact = some w → w ≤ lbNow)
  | _ => True

theorem WOk.mono {lb lb' : Int} (h : lb ≤ lb') {w : WSt S} (hw : WOk Phi opt Sol lb w) : WOk Phi opt Sol lb' w := by
  cases w with
  | compR n l | compX n l => exact Int.le_trans hw h
  | updR n l o | updX n l o => exact ⟨Int.le_trans hw.1 h, hw.2⟩
  | enq n l o => exact ⟨Int.le_trans hw.1 h, hw.2.1, fun v hv => Int.le_trans (hw.2.2 v hv) h⟩
  | _ => trivial

theorem wake_WOk (lb : Int) (w : WSt S) : WOk Phi opt Sol lb w.wake ↔ WOk Phi opt Sol lb w := by
  cases w <;> exact Iff.rfl

def NodeOk (b : SeqSt S) (live : Bool) (n : SubP S) : Prop :=
  Good Phi opt n ∧ UbOk Phi b.bestLb n ∧ (b.abort = true → live = true → n.ub ≤ b.bestUb)

/-- the shared record moved forward: the incumbent did not decrease, an abort bound did not decrease -/
def CritLe (b b' : SeqSt S) : Prop :=
  b.bestLb ≤ b'.bestLb ∧ (b'.abort = true → b.abort = true ∧ b.bestUb ≤ b'.bestUb)

theorem CritLe.refl (b : SeqSt S) : CritLe b b := ⟨Int.le_refl _, fun h => ⟨h, Int.le_refl _⟩⟩

theorem NodeOk.mono {b b' : SeqSt S} (h : CritLe b b') {live : Bool} {n : SubP S} (hn : NodeOk Phi opt b live n) :
    NodeOk Phi opt b' live n :=
  ⟨hn.1, ubOk_mono Phi h.1 hn.2.1, fun ha hl => Int.le_trans (hn.2.2 (h.2 ha).1 hl) (h.2 ha).2⟩

/-- facts about a fringe entry, relative to the shared record `b`.  `enqueue_cutset` does not cap the bound of a cut-set node by
    the bound of the node just processed (repair of D14), so a worker that enqueues *after* another worker's
    `abort_search` may push nodes whose bound exceeds the recorded `best_ub`; what stays below the recorded bound is every
    *value* through such an entry that beats the incumbent (it is a value through the enqueuing worker's node, whose bound
    `abort_search` covered) -/
def FrNodeOk (b : SeqSt S) (n : SubP S) : Prop :=
  Good Phi opt n ∧ UbOk Phi b.bestLb n ∧ (b.abort = true → ∀ y, Phi n = some y → y > b.bestLb → y ≤ b.bestUb)

theorem FrNodeOk.mono {b b' : SeqSt S} (h : CritLe b b') {n : SubP S} (hn : FrNodeOk Phi opt b n) :
    FrNodeOk Phi opt b' n :=
  ⟨hn.1, ubOk_mono Phi h.1 hn.2.1, fun ha y hy hgt =>
    Int.le_trans (hn.2.2 (h.2 ha).1 y hy (Int.lt_of_le_of_lt h.1 hgt)) (h.2 ha).2⟩

theorem FrNodeOk.toNode {b : SeqSt S} (ha : b.abort = false) (live : Bool) {n : SubP S} (hn : FrNodeOk Phi opt b n) :
    NodeOk Phi opt b live n :=
  ⟨hn.1, hn.2.1, fun h => by rw [ha] at h; cases h⟩

structure Loc (c : ParCrit S) (i : Nat) (w : WSt S) : Prop where
  stage : WOk Phi opt Sol c.base.bestLb w
  slot : ∀ u, w.slot = some u → c.upperBounds[i]? = some u
  node : ∀ n, w.openNode = some n → NodeOk Phi opt c.base (!w.isCrashed) n

theorem Loc.mono {c c' : ParCrit S} {i : Nat} {w : WSt S} (h : Loc Phi opt Sol c i w)
    (hle : CritLe c.base c'.base) (hub : c'.upperBounds[i]? = c.upperBounds[i]?) : Loc Phi opt Sol c' i w :=
  ⟨WOk.mono Phi opt Sol hle.1 h.stage, fun u hu => by rw [hub]; exact h.slot u hu,
   fun n hn => (h.node n hn).mono Phi opt hle⟩

theorem Loc.next {c c' : ParCrit S} {i : Nat} {w w' : WSt S} (h : Loc Phi opt Sol c i w)
    (hle : CritLe c.base c'.base) (hub : c'.upperBounds[i]? = c.upperBounds[i]?)
    (hslot : w'.slot = w.slot) (hcr : w'.isCrashed = w.isCrashed)
    (hopen : ∀ n, w'.openNode = some n → w.openNode = some n)
    (hst : WOk Phi opt Sol c'.base.bestLb w') : Loc Phi opt Sol c' i w' :=
  ⟨hst, fun u hu => by rw [hub]; exact h.slot u (hslot ▸ hu),
   fun n hn => by rw [hcr]; exact (h.node n (hopen n hn)).mono Phi opt hle⟩

structure SysInv (s : Sys S) : Prop where
  lbOk : s.crit.base.bestLb ≤ opt
  solOk : ∀ p, s.crit.base.bestSol = some p → Sol p s.crit.base.bestLb
  /-- fringe entries are good, their bound is valid, and after an abort what they carry above the incumbent is below
      the recorded bound -/
  fr : ∀ n ∈ s.crit.base.fringe, FrNodeOk Phi opt s.crit.base n
  loc : ∀ (i : Nat) (w : WSt S), s.ws[i]? = some w → Loc Phi opt Sol s.crit i w
  /-- if the optimum beats the incumbent, an open node still carries it below its bound — or the search
      was aborted and the recorded bound covers it -/
  cover : opt > s.crit.base.bestLb →
    (∃ x, Open s x ∧ Phi x = some opt ∧ opt ≤ x.ub) ∨ (s.crit.base.abort = true ∧ opt ≤ s.crit.base.bestUb)
  /-- after an abort the recorded bound is not below the incumbent (fix D4b) -/
  abLb : s.crit.base.abort = true → s.crit.base.bestLb ≤ s.crit.base.bestUb
  cnt : s.crit.ongoing = s.ws.countP WSt.holds
  len : s.ws.length = s.crit.upperBounds.length


/-- what a step of worker `i` to stage `w'`, with the shared record going to `c'`, owes to the cover clause: a node that was
    open and carried the optimum below its bound is still covered (or the recorded abort bound covers the optimum) -/
def CovStep (s : Sys S) (i : Nat) (c' : ParCrit S) (w' : WSt S) : Prop :=
  opt > c'.base.bestLb → ∀ x, Open s x → Phi x = some opt → opt ≤ x.ub →
    (∃ y, (y ∈ c'.base.fringe ∨ w'.openNode = some y ∨ Others s.ws i y) ∧ Phi y = some opt ∧ opt ≤ y.ub) ∨
    (c'.base.abort = true ∧ opt ≤ c'.base.bestUb)

theorem holds_of_open {w : WSt S} {x : SubP S} (h : w.openNode = some x) : w.holds = true := by
  cases w <;> first | rfl | cases h

theorem others_mono {s : Sys S} (hi : SysInv Phi opt Sol s) (i : Nat) (c' : ParCrit S)
    (hle : CritLe s.crit.base c'.base)
    (hubs : ∀ j, j ≠ i → c'.upperBounds[j]? = s.crit.upperBounds[j]?) :
    ∀ (j : Nat) (wj : WSt S), j ≠ i → s.ws[j]? = some wj → Loc Phi opt Sol c' j wj :=
  fun j wj hne hj => (hi.loc j wj hj).mono Phi opt Sol hle (hubs j hne)

/-- generic step: worker `i` goes from `w` to `w'`, the shared record from `s.crit` to `c'` -/
theorem inv_set {s : Sys S} {i : Nat} {w : WSt S} (hi : SysInv Phi opt Sol s) (hw : s.ws[i]? = some w)
    (c' : ParCrit S) (w' : WSt S)
    (hab : s.crit.base.abort = true → c'.base.abort = true ∧ s.crit.base.bestUb ≤ c'.base.bestUb)
    (hlble : s.crit.base.bestLb ≤ c'.base.bestLb)
    (hlen : c'.upperBounds.length = s.crit.upperBounds.length)
    (hlb : c'.base.bestLb ≤ opt) (hsol : ∀ p, c'.base.bestSol = some p → Sol p c'.base.bestLb)
    (habLb : c'.base.abort = true → c'.base.bestLb ≤ c'.base.bestUb)
    (hfr : ∀ n ∈ c'.base.fringe, FrNodeOk Phi opt c'.base n)
    (hloc : Loc Phi opt Sol c' i w')
    (hothers : ∀ (j : Nat) (wj : WSt S), j ≠ i → s.ws[j]? = some wj → Loc Phi opt Sol c' j wj)
    (hcnt : c'.ongoing + (if w.holds then 1 else 0) = s.crit.ongoing + (if w'.holds then 1 else 0))
    (hcov : CovStep Phi opt s i c' w') :
    SysInv Phi opt Sol { crit := c', ws := s.ws.set i w' } := by
  refine ⟨hlb, hsol, hfr, ?_, ?_, habLb, ?_, ?_⟩
  · intro j wj hj
    rcases get_set_split hj with ⟨rfl, rfl⟩ | ⟨hne, hj'⟩
    · exact hloc
    · exact hothers j wj hne hj'
  · intro hgt
    have hgt : opt > c'.base.bestLb := hgt
    rcases hi.cover (Int.lt_of_le_of_lt hlble hgt) with ⟨x, hx, hP, hU⟩ | ⟨ha, hu⟩
    · rcases hcov hgt x hx hP hU with ⟨y, hy, hPy, hUy⟩ | h
      · exact Or.inl ⟨y, (open_set hw c' w' y).mpr hy, hPy, hUy⟩
      · exact Or.inr h
    · exact Or.inr ⟨(hab ha).1, Int.le_trans hu (hab ha).2⟩
  · show c'.ongoing = (s.ws.set i w').countP WSt.holds
    have h1 := countP_set WSt.holds w' hw
    have h2 := hi.cnt
    omega
  · show (s.ws.set i w').length = c'.upperBounds.length
    rw [List.length_set, hlen]; exact hi.len

theorem mem_of_popMax {fr rest : List (SubP S)} {N : SubP S} (hp : PopMax fr N rest) (x : SubP S) :
    x ∈ fr ↔ (x = N ∨ x ∈ rest) := by
  rw [hp.1.mem_iff, List.mem_cons]

theorem cov_same {s : Sys S} {i : Nat} {w : WSt S} (hw : s.ws[i]? = some w) (c' : ParCrit S) (w' : WSt S)
    (hfr : c'.base.fringe = s.crit.base.fringe) (hop : w'.openNode = w.openNode) :
    CovStep Phi opt s i c' w' := by
  intro _ x hx hP hU
  refine Or.inl ⟨x, ?_, hP, hU⟩
  rw [hfr, hop]
  exact (open_split hw x).mp hx

theorem inv_local {s : Sys S} {i : Nat} {w : WSt S} (hi : SysInv Phi opt Sol s) (hw : s.ws[i]? = some w) (w' : WSt S)
    (hslot : w'.slot = w.slot) (hcr : w'.isCrashed = w.isCrashed) (hh : w'.holds = w.holds)
    (hopen : ∀ n, w'.openNode = some n → w.openNode = some n)
    (hst : WOk Phi opt Sol s.crit.base.bestLb w')
    (hcov : CovStep Phi opt s i s.crit w') :
    SysInv Phi opt Sol { crit := s.crit, ws := s.ws.set i w' } :=
  inv_set Phi opt Sol hi hw s.crit w' (fun h => ⟨h, Int.le_refl _⟩) (Int.le_refl _) rfl hi.lbOk hi.solOk hi.abLb hi.fr
    ((hi.loc i w hw).next Phi opt Sol (CritLe.refl _) rfl hslot hcr hopen hst)
    (others_mono Phi opt Sol hi i s.crit (CritLe.refl _) (fun _ _ => rfl))
    (by rw [hh]) hcov


theorem inv_restage {s : Sys S} {i : Nat} {w : WSt S} (hi : SysInv Phi opt Sol s) (hw : s.ws[i]? = some w) (w' : WSt S)
    (hslot : w'.slot = w.slot) (hcr : w'.isCrashed = w.isCrashed) (hh : w'.holds = w.holds)
    (hop : w'.openNode = w.openNode) (hst : WOk Phi opt Sol s.crit.base.bestLb w') :
    SysInv Phi opt Sol { crit := s.crit, ws := s.ws.set i w' } :=
  inv_local Phi opt Sol hi hw w' hslot hcr hh (fun _ h => hop ▸ h) hst (cov_same Phi opt hw s.crit w' rfl hop)

/-- what the new fringe `F` is to the multiset `L` (old fringe + cut-set nodes that beat the
    incumbent): every entry has the potential of a member of `L`, a bound not smaller than that member's
    and equal to the bound of a member; every member is covered by an entry -/
def FrOk (F : List (SubP S)) (L : SubP S → Prop) : Prop :=
  (∀ s ∈ F, ∃ a b, L a ∧ L b ∧ Phi s = Phi a ∧ a.ub ≤ s.ub ∧ s.ub = b.ub) ∧
  (∀ c, L c → ∃ s ∈ F, Phi c ≤ Phi s ∧ c.ub ≤ s.ub)

theorem enqueue_frOk (dedup : Bool) (hphi : PhiOk Phi dedup) (st : SeqSt S) (cs : List (SubP S)) :
    (st.enqueue dedup cs).bestLb = st.bestLb ∧ (st.enqueue dedup cs).bestSol = st.bestSol ∧
    (st.enqueue dedup cs).bestUb = st.bestUb ∧ (st.enqueue dedup cs).abort = st.abort ∧
    FrOk Phi (st.enqueue dedup cs).fringe
      (fun c => c ∈ st.fringe ∨ ∃ c0 ∈ cs, c = c0 ∧ c0.ub > st.bestLb) := by
  obtain ⟨e1, e2, e3, e4, hco, hex⟩ := SeqSt.enqueue_spec dedup st cs
  refine ⟨e1, e2, e3, e4, ?_⟩
  cases dedup
  · -- plain fringe: exactly the multiset
    exact ⟨fun s hs => ⟨s, s, (hex rfl s).mp hs, (hex rfl s).mp hs, rfl, Int.le_refl _, rfl⟩,
      fun c hc => ⟨c, (hex rfl c).mpr hc, EInt.le_refl _, Int.le_refl _⟩⟩
  · have hmono := hphi.2 rfl
    refine ⟨fun s hs => ?_, fun c hc => ?_⟩
    · obtain ⟨a, b, ha, hb, rfl, hab⟩ := hco.1 s hs
      exact ⟨a, b, ha, hb, hmono.ub_irrel Phi a b.ub, hab, rfl⟩
    · obtain ⟨s, hs, hd⟩ := hco.2 c hc
      exact ⟨s, hs, hmono c s hd.state.symm hd.depth.symm hd.value, hd.ub⟩

/-- `enqueue_cutset` on either fringe, as the invariant sees it: when the old entries and the cut-set nodes that beat the
    incumbent are fine w.r.t. the record, so is every new entry; and if one of them carries the optimum below its bound,
    so does a new entry -/
theorem enqueue_fr (dedup : Bool) (hphi : PhiOk Phi dedup) (st : SeqSt S) (cs : List (SubP S))
    (hL : ∀ a, (a ∈ st.fringe ∨ ∃ c0 ∈ cs, a = c0 ∧ c0.ub > st.bestLb) → FrNodeOk Phi opt st a) :
    (∀ m ∈ (st.enqueue dedup cs).fringe, FrNodeOk Phi opt st m) ∧
    (∀ a, (a ∈ st.fringe ∨ ∃ c0 ∈ cs, a = c0 ∧ c0.ub > st.bestLb) → Phi a = some opt → opt ≤ a.ub →
      ∃ y, y ∈ (st.enqueue dedup cs).fringe ∧ Phi y = some opt ∧ opt ≤ y.ub) := by
  obtain ⟨_, _, _, _, hF1, hF2⟩ := enqueue_frOk Phi dedup hphi st cs
  have hfr : ∀ m ∈ (st.enqueue dedup cs).fringe, FrNodeOk Phi opt st m := by
    intro m hm
    obtain ⟨a, _, ha, _, hP, hau, _⟩ := hF1 m hm
    obtain ⟨ga, ua, ab⟩ := hL a ha
    refine ⟨fun y hy => ga y (hP ▸ hy), fun y hy hgt => ?_, fun h1 y hy hgt => ab h1 y (hP ▸ hy) hgt⟩
    exact Int.le_trans (ua y (hP ▸ hy) hgt) hau
  refine ⟨hfr, fun a ha hP hU => ?_⟩
  obtain ⟨m, hm, hPm, hUm⟩ := hF2 a ha
  rw [hP] at hPm
  cases hPs : Phi m with
  | none => rw [hPs] at hPm; exact absurd hPm (by simp)
  | some y =>
    rw [hPs] at hPm
    have h1 : opt ≤ y := by simpa using hPm
    obtain rfl : y = opt := Int.le_antisymm ((hfr m hm).1 y hPs) h1
    exact ⟨m, hm, hPs, Int.le_trans hU hUm⟩

/-- the bound `abort_search` records, given the largest bound `F` among the aborting node and the nodes in progress -/
theorem abortUb_ge (F bu lb : Int) (top : Option Int) (ab : Bool) :
    let ub := match top with | some t => max F t | none => F
    let e := max (if ab then max ub bu else ub) lb
    F ≤ e ∧ (∀ t, top = some t → t ≤ e) ∧ (ab = true → bu ≤ e) ∧ lb ≤ e := by
  intro ub e
  have h1 : F ≤ ub := by
    cases top
    · exact Int.le_refl _
    · exact Int.le_max_left _ _
  have h2 : ub ≤ e := by
    cases ab
    · exact Int.le_max_left _ _
    · exact Int.le_trans (Int.le_max_left _ _) (Int.le_max_left _ _)
  exact ⟨Int.le_trans h1 h2, fun t ht => by subst ht; exact Int.le_trans (Int.le_max_right _ _) h2,
    fun ha => by subst ha; exact Int.le_trans (Int.le_max_right _ _) (Int.le_max_left _ _), Int.le_max_right _ _⟩

theorem abort_spec (c : ParCrit S) (cur : Int) (top : Option Int) :
    (c.abortSearch cur top).base.bestLb = c.base.bestLb ∧ (c.abortSearch cur top).base.bestSol = c.base.bestSol ∧
    (c.abortSearch cur top).base.fringe = [] ∧ (c.abortSearch cur top).base.abort = true ∧
    (c.abortSearch cur top).ongoing = c.ongoing ∧ (c.abortSearch cur top).upperBounds = c.upperBounds ∧
    cur ≤ (c.abortSearch cur top).base.bestUb ∧
    (∀ x ∈ c.upperBounds, x ≤ (c.abortSearch cur top).base.bestUb) ∧
    (∀ t, top = some t → t ≤ (c.abortSearch cur top).base.bestUb) ∧
    (c.base.abort = true → c.base.bestUb ≤ (c.abortSearch cur top).base.bestUb) ∧
    c.base.bestLb ≤ (c.abortSearch cur top).base.bestUb := by
  obtain ⟨k1, k2, k3, k4⟩ := abortUb_ge (c.upperBounds.foldl max cur) c.base.bestUb c.base.bestLb top c.base.abort
  exact ⟨rfl, rfl, rfl, rfl, rfl, rfl, Int.le_trans (foldl_max_ge_init _ _) k1,
    fun x hx => Int.le_trans (foldl_max_ge_mem _ _ x hx) k1, k2, k3, k4⟩

theorem inv_wake {s : Sys S} (hi : SysInv Phi opt Sol s) :
    SysInv Phi opt Sol { crit := s.crit, ws := s.ws.map WSt.wake } := by
  refine ⟨hi.lbOk, hi.solOk, hi.fr, ?_, ?_, hi.abLb, ?_, ?_⟩
  · intro j wj' hj
    obtain ⟨wj, hj0, rfl⟩ := get_map_wake hj
    have h := hi.loc j wj hj0
    exact ⟨(wake_WOk Phi opt Sol _ wj).mpr h.stage, fun u hu => h.slot u (wake_slot wj ▸ hu),
      fun n hn => by rw [wake_isCrashed]; exact h.node n (wake_openNode wj ▸ hn)⟩
  · intro hgt
    rcases hi.cover hgt with ⟨x, hx, hP, hU⟩ | h
    · refine Or.inl ⟨x, ?_, hP, hU⟩
      rcases hx with hx | ⟨j, wj, hj, hx⟩
      · exact Or.inl hx
      · refine Or.inr ⟨j, wj.wake, ?_, by rw [wake_openNode]; exact hx⟩
        show (s.ws.map WSt.wake)[j]? = _
        rw [List.getElem?_map, hj]; rfl
    · exact Or.inr h
  · show s.crit.ongoing = (s.ws.map WSt.wake).countP WSt.holds
    rw [countP_wake _ wake_holds]; exact hi.cnt
  · show (s.ws.map WSt.wake).length = _
    rw [List.length_map]; exact hi.len


theorem nothing_open {s : Sys S} (hi : SysInv Phi opt Sol s) (ho : s.crit.ongoing = 0) (hf : s.crit.base.fringe = [])
    (x : SubP S) : ¬ Open s x := by
  rintro (h | ⟨j, wj, hj, hx⟩)
  · rw [hf] at h; cases h
  · have h0 : s.ws.countP WSt.holds = 0 := by rw [← hi.cnt]; exact ho
    have := List.countP_eq_zero.mp h0 wj (List.mem_iff_getElem?.mpr ⟨j, hj⟩)
    exact this (holds_of_open hx)

theorem inv_gwComplete {s : Sys S} {i : Nat} (hi : SysInv Phi opt Sol s) (hw : s.ws[i]? = some .idle)
    (ha : s.crit.base.abort = false) (ho : s.crit.ongoing = 0) (hf : s.crit.base.fringe = []) :
    SysInv Phi opt Sol { crit := s.crit.complete, ws := s.ws.set i .done } := by
  have hle : CritLe s.crit.base s.crit.complete.base :=
    ⟨Int.le_refl _, fun h => by rw [show s.crit.complete.base.abort = s.crit.base.abort from rfl, ha] at h; cases h⟩
  refine inv_set Phi opt Sol hi hw s.crit.complete .done (fun h => by rw [ha] at h; cases h) (Int.le_refl _) rfl
    hi.lbOk hi.solOk (fun h => by rw [show s.crit.complete.base.abort = s.crit.base.abort from rfl, ha] at h; cases h)
    ?_ ?_ (others_mono Phi opt Sol hi i _ hle (fun _ _ => rfl)) rfl ?_
  · intro n hn
    rw [show s.crit.complete.base.fringe = s.crit.base.fringe from rfl, hf] at hn; cases hn
  · exact (hi.loc i _ hw).next Phi opt Sol hle rfl rfl rfl (fun _ h => h) trivial
  · intro _ x hx; exact absurd hx (nothing_open Phi opt Sol hi ho hf x)


theorem inv_gwStarve {s : Sys S} {i : Nat} {N : SubP S} {rest : List (SubP S)} {c' : ParCrit S} {k : Nat}
    (hi : SysInv Phi opt Sol s) (hw : s.ws[i]? = some .idle) (hp : PopMax s.crit.base.fringe N rest)
    (hl : popLoop (setFringe s.crit rest) [(N, true)] 0 = (c', some none, k)) :
    SysInv Phi opt Sol { crit := c', ws := s.ws } := by
  obtain ⟨hle, rfl⟩ := popLoop_starve hl
  have hle : N.ub ≤ s.crit.base.bestLb := hle
  rw [← set_idle_self hw]
  refine inv_set Phi opt Sol hi hw _ .idle (fun h => ⟨h, Int.le_refl _⟩) (Int.le_refl _) rfl hi.lbOk hi.solOk hi.abLb
    (fun n hn => by cases hn) ?_ ?_ rfl ?_
  · exact (hi.loc i _ hw).next Phi opt Sol (CritLe.refl _) rfl rfl rfl (fun _ h => h) trivial
  · exact fun j wj hne hj => (hi.loc j wj hj).mono Phi opt Sol (CritLe.refl _) rfl
  · intro hgt x hx hP hU
    have hgt : opt > s.crit.base.bestLb := hgt
    rcases (open_split hw x).mp hx with h | h | h
    · have : x.ub ≤ N.ub := by
        rcases (mem_of_popMax hp x).mp h with e | e
        · rw [e]; exact Int.le_refl _
        · exact hp.2 x e
      exact absurd (Int.le_trans hU (Int.le_trans this hle)) (Int.not_le.mpr hgt)
    · cases h
    · exact Or.inl ⟨x, Or.inr (Or.inr h), hP, hU⟩

theorem popLoop_item {c c' : ParCrit S} {N nn : SubP S} {k : Nat}
    (hl : popLoop c [(N, true)] 0 = (c', some (some nn), k)) : c' = c ∧ nn = N := by
  rw [popLoop_single] at hl
  split at hl
  · injection hl with _ hl; injection hl with hl; cases hl
  · injection hl with h1 hl; injection hl with hl; injection hl with hl; injection hl with hl
    exact ⟨h1.symm, hl.symm⟩

/-- the end of `get_workload` on a node that beats the incumbent: the idle worker `i` leaves with the popped node `N` in a stage
    `w'` that holds it open; of the shared record only the fringe, `ongoing` and the cell of `upper_bounds` of the worker move -/
theorem inv_popped {s : Sys S} {i : Nat} {N : SubP S} {rest : List (SubP S)} (hi : SysInv Phi opt Sol s)
    (hw : s.ws[i]? = some .idle) (ha : s.crit.base.abort = false) (hp : PopMax s.crit.base.fringe N rest)
    (c' : ParCrit S) (w' : WSt S)
    (e1 : c'.base.fringe = rest) (e2 : c'.base.bestLb = s.crit.base.bestLb) (e3 : c'.base.bestSol = s.crit.base.bestSol)
    (e4 : c'.base.bestUb = s.crit.base.bestUb) (e5 : c'.base.abort = s.crit.base.abort) (e6 : c'.ongoing = s.crit.ongoing + 1)
    (hlen : c'.upperBounds.length = s.crit.upperBounds.length)
    (hubs : ∀ j, j ≠ i → c'.upperBounds[j]? = s.crit.upperBounds[j]?)
    (hop : w'.openNode = some N) (hh : w'.holds = true) (hst : WOk Phi opt Sol c'.base.bestLb w')
    (hslot : ∀ u, w'.slot = some u → c'.upperBounds[i]? = some u) :
    SysInv Phi opt Sol { crit := c', ws := s.ws.set i w' } := by
  have hle : CritLe s.crit.base c'.base :=
    ⟨Int.le_of_eq e2.symm, fun h => ⟨e5 ▸ h, Int.le_of_eq e4.symm⟩⟩
  refine inv_set Phi opt Sol hi hw c' w' (fun h => ⟨e5.trans h, Int.le_of_eq e4.symm⟩) hle.1 hlen
    (by rw [e2]; exact hi.lbOk) (by rw [e2, e3]; exact hi.solOk) (by rw [e2, e4, e5]; exact hi.abLb) (fun n hn => ?_)
    ⟨hst, hslot, fun n hn => ?_⟩ (others_mono Phi opt Sol hi i c' hle hubs) (by rw [e6, hh]; rfl) (fun _ x hx hP hU => ?_)
  · rw [e1] at hn
    exact (hi.fr n ((mem_of_popMax hp n).mpr (Or.inr hn))).mono Phi opt hle
  · obtain rfl : N = n := Option.some.inj (hop.symm.trans hn)
    exact ((hi.fr N ((mem_of_popMax hp N).mpr (Or.inl rfl))).mono Phi opt hle).toNode Phi opt (e5.trans ha) _
  · -- the cover witness survives: it stays in the fringe, or it is the popped node, now in the hand of worker `i`
    refine Or.inl ⟨x, ?_, hP, hU⟩
    rcases (open_split hw x).mp hx with h | h | h
    · rcases (mem_of_popMax hp x).mp h with e | e
      · exact Or.inr (Or.inl (e ▸ hop))
      · exact Or.inl (e1 ▸ e)
    · cases h
    · exact Or.inr (Or.inr h)

theorem inv_readLbR {s : Sys S} {i : Nat} {n : SubP S} (hi : SysInv Phi opt Sol s) (hw : s.ws[i]? = some (.readR n)) :
    SysInv Phi opt Sol
      { crit := s.crit, ws := s.ws.set i (if n.ub ≤ s.crit.readLb then .fin n false else .compR n s.crit.readLb) } := by
  by_cases hle : n.ub ≤ s.crit.readLb
  · rw [if_pos hle]
    have hle : n.ub ≤ s.crit.base.bestLb := hle
    refine inv_local Phi opt Sol hi hw (.fin n false) rfl rfl rfl (fun _ h => by cases h) trivial ?_
    intro hgt x hx hP hU
    rcases (open_split hw x).mp hx with h | h | h
    · exact Or.inl ⟨x, Or.inl h, hP, hU⟩
    · injection h with h; subst h; exact absurd (Int.le_trans hU hle) (Int.not_le.mpr hgt)
    · exact Or.inl ⟨x, Or.inr (Or.inr h), hP, hU⟩
  · rw [if_neg hle]
    exact inv_restage Phi opt Sol hi hw (.compR n s.crit.readLb) rfl rfl rfl rfl (Int.le_refl _)

/-- `maybe_update_best` by a worker that holds `n` (live) with a compilation of `n` meeting the contract:
    everything global is preserved -/
theorem update_glob {s : Sys S} {i : Nat} {w : WSt S} {n : SubP S} {lb : Int} {o : DDOut S}
    (hi : SysInv Phi opt Sol s) (hw : s.ws[i]? = some w) (hop : w.openNode = some n) (hcr : w.isCrashed = false)
    (hc : CompileOk Phi opt Sol n lb o) :
    CritLe s.crit.base (s.crit.updateBest o).base ∧
    (s.crit.base.abort = true → (s.crit.updateBest o).base.abort = true ∧ s.crit.base.bestUb ≤ (s.crit.updateBest o).base.bestUb) ∧
    (s.crit.updateBest o).base.bestLb ≤ opt ∧
    (∀ p, (s.crit.updateBest o).base.bestSol = some p → Sol p (s.crit.updateBest o).base.bestLb) ∧
    ((s.crit.updateBest o).base.abort = true → (s.crit.updateBest o).base.bestLb ≤ (s.crit.updateBest o).base.bestUb) ∧
    (∀ m ∈ (s.crit.updateBest o).base.fringe, FrNodeOk Phi opt (s.crit.updateBest o).base m) := by
  obtain ⟨f1, f2, f3, _, _⟩ := updateBest_fringe s.crit.base o
  have hge := updateBest_lb_ge s.crit.base o
  obtain ⟨hlb, hsol⟩ := updateBest_ok Phi opt Sol s.crit.base n lb o hi.lbOk hi.solOk hc
  have hle : CritLe s.crit.base (s.crit.base.updateBest o) :=
    ⟨hge, fun h => ⟨by rw [← f3]; exact h, by rw [f2]; exact Int.le_refl _⟩⟩
  refine ⟨hle, fun h => ⟨by show (s.crit.base.updateBest o).abort = true; rw [f3]; exact h,
      by show _ ≤ (s.crit.base.updateBest o).bestUb; rw [f2]; exact Int.le_refl _⟩, hlb, hsol, ?_, ?_⟩
  · intro ha
    have ha : (s.crit.base.updateBest o).abort = true := ha
    rw [f3] at ha
    show (s.crit.base.updateBest o).bestLb ≤ (s.crit.base.updateBest o).bestUb
    rw [f2]
    have h0 := hi.abLb ha
    -- either nothing changed, or the new incumbent is a value found below `n`, which is below `n.ub ≤ best_ub`
    unfold SeqSt.updateBest
    cases hb : o.bestExact with
    | none => exact h0
    | some v =>
      simp only
      split
      · next hgt =>
        obtain ⟨x, hx, hvx⟩ := hc.within v hb
        obtain ⟨_, hub, hab⟩ := (hi.loc i w hw).node n hop
        exact Int.le_trans hvx (Int.le_trans (hub x hx (Int.lt_of_lt_of_le hgt hvx)) (hab ha (by rw [hcr]; rfl)))
      · exact h0
  · intro m hm
    have hm : m ∈ (s.crit.base.updateBest o).fringe := hm
    rw [f1] at hm
    exact (hi.fr m hm).mono Phi opt hle

/-- `maybe_update_best` by worker `i`, holding `n` with a diagram `o` of `n` that meets the contract: the worker closes `n`
    if `o` is exact, and otherwise keeps it in a stage `w2` whose facts hold under the new incumbent -/
theorem inv_update {s : Sys S} {i : Nat} {w : WSt S} {n : SubP S} {lb : Int} {o : DDOut S}
    (hi : SysInv Phi opt Sol s) (hw : s.ws[i]? = some w) (hop : w.openNode = some n) (hcr : w.isCrashed = false)
    (hsl : w.slot = some n.ub) (hh : w.holds = true) (hlb0 : lb ≤ s.crit.base.bestLb)
    (hc : CompileOk Phi opt Sol n lb o) (w2 : WSt S)
    (h2s : w2.slot = w.slot) (h2c : w2.isCrashed = w.isCrashed) (h2h : w2.holds = w.holds) (h2o : w2.openNode = w.openNode)
    (hst : o.isExact = false → WOk Phi opt Sol (s.crit.updateBest o).base.bestLb w2) :
    SysInv Phi opt Sol
      { crit := s.crit.updateBest o, ws := s.ws.set i (if o.isExact then .fin n false else w2) } := by
  obtain ⟨hle, hab, hlb, hsol, habLb, hfr⟩ := update_glob Phi opt Sol hi hw hop hcr hc
  have hfe : (s.crit.updateBest o).base.fringe = s.crit.base.fringe := (updateBest_fringe s.crit.base o).1
  by_cases hex : o.isExact = true
  · rw [if_pos hex]
    refine inv_set Phi opt Sol hi hw _ (.fin n false) hab hle.1 rfl hlb hsol habLb hfr
      ((hi.loc i _ hw).next Phi opt Sol hle rfl hsl.symm hcr.symm (fun _ h => by cases h) trivial)
      (others_mono Phi opt Sol hi i _ hle (fun _ _ => rfl)) (by rw [hh]; rfl) ?_
    intro hgt x hx hP hU
    have hgt : opt > (s.crit.base.updateBest o).bestLb := hgt
    rcases (open_split hw x).mp hx with h | h | h
    · exact Or.inl ⟨x, Or.inl (by rw [hfe]; exact h), hP, hU⟩
    · -- the optimum is below `n`: the exact diagram reports it and the incumbent is at least that
      rw [hop] at h; injection h with h; subst h
      have hbe := hc.exact hex opt hP (Int.lt_of_le_of_lt (Int.le_trans hlb0 (updateBest_lb_ge s.crit.base o)) hgt)
      exact absurd (updateBest_lb_ge_val s.crit.base o opt hbe) (Int.not_le.mpr hgt)
    · exact Or.inl ⟨x, Or.inr (Or.inr h), hP, hU⟩
  · rw [if_neg hex]
    exact inv_set Phi opt Sol hi hw _ w2 hab hle.1 rfl hlb hsol habLb hfr
      ((hi.loc i _ hw).next Phi opt Sol hle rfl h2s h2c (fun _ h => h2o ▸ h) (hst (by simpa using hex)))
      (others_mono Phi opt Sol hi i _ hle (fun _ _ => rfl)) (by rw [h2h]; rfl) (cov_same Phi opt hw _ _ hfe h2o)

theorem inv_enqueue (dedup : Bool) (hphi : PhiOk Phi dedup) {s : Sys S} {i : Nat} {n : SubP S} {lb : Int} {o : DDOut S}
    (hi : SysInv Phi opt Sol s) (hw : s.ws[i]? = some (.enq n lb o)) :
    SysInv Phi opt Sol { crit := s.crit.enqueue dedup o.cutset, ws := s.ws.set i (.fin n false) } := by
  obtain ⟨hst, hC, hbe⟩ : lb ≤ s.crit.base.bestLb ∧ CutsetOk Phi opt n lb o ∧
      (∀ v, o.bestExact = some v → v ≤ s.crit.base.bestLb) := (hi.loc i _ hw).stage
  obtain ⟨hNgood, hNub, hNab⟩ := (hi.loc i _ hw).node n rfl
  obtain ⟨e1, e2, e3, e4, _⟩ := enqueue_frOk Phi dedup hphi s.crit.base o.cutset
  have e1 : (s.crit.enqueue dedup o.cutset).base.bestLb = s.crit.base.bestLb := e1
  have e2 : (s.crit.enqueue dedup o.cutset).base.bestSol = s.crit.base.bestSol := e2
  have e3 : (s.crit.enqueue dedup o.cutset).base.bestUb = s.crit.base.bestUb := e3
  have e4 : (s.crit.enqueue dedup o.cutset).base.abort = s.crit.base.abort := e4
  have hle : CritLe s.crit.base (s.crit.enqueue dedup o.cutset).base :=
    ⟨by rw [e1]; exact Int.le_refl _, fun h => ⟨by rw [← e4]; exact h, by rw [e3]; exact Int.le_refl _⟩⟩
  -- the old entries and the cut-set nodes that beat the incumbent are fine w.r.t. the old record
  obtain ⟨hfr, hcovL⟩ := enqueue_fr Phi opt dedup hphi s.crit.base o.cutset (by
    rintro a (ha | ⟨c0, hc0, rfl, _⟩)
    · exact hi.fr a ha
    · refine ⟨hC.good a hc0, fun y hy hgt => hC.ub a hc0 y hy (Int.lt_of_le_of_lt hst hgt), fun ha y hy hgt => ?_⟩
      -- after an abort: a value through the cut-set node is a value through `n`, and `n.ub ≤ best_ub`
      obtain ⟨xN, hxN, hle⟩ := hC.sub a hc0 y hy
      exact Int.le_trans hle (Int.le_trans (hNub xN hxN (Int.lt_of_lt_of_le hgt hle)) (hNab ha rfl)))
  refine inv_set Phi opt Sol hi hw _ (.fin n false) (fun h => ⟨by rw [e4]; exact h, by rw [e3]; exact Int.le_refl _⟩)
    (by rw [e1]; exact Int.le_refl _) rfl (by rw [e1]; exact hi.lbOk) (by rw [e1, e2]; exact hi.solOk)
    (by rw [e1, e3, e4]; exact hi.abLb) (fun m hm => (hfr m hm).mono Phi opt hle)
    ((hi.loc i _ hw).next Phi opt Sol hle rfl rfl rfl (fun _ h => by cases h) trivial)
    (others_mono Phi opt Sol hi i _ hle (fun _ _ => rfl)) rfl ?_
  intro hgt x hx hP hU
  rw [e1] at hgt
  rcases (open_split hw x).mp hx with h | h | h
  · obtain ⟨y, hy, hPy, hUy⟩ := hcovL x (Or.inl h) hP hU
    exact Or.inl ⟨y, Or.inl hy, hPy, hUy⟩
  · injection h with h; subst h
    have hlt : lb < opt := Int.lt_of_le_of_lt hst hgt
    obtain ⟨c0, hc0, y, hy, hxy⟩ := hC.cover opt hP hlt (fun v hv => Int.lt_of_le_of_lt (hbe v hv) hgt)
    obtain rfl : y = opt := Int.le_antisymm (hC.good c0 hc0 y hy) hxy
    have hcu := hC.ub c0 hc0 y hy hlt
    obtain ⟨z, hz, hPz, hUz⟩ := hcovL c0 (Or.inr ⟨c0, hc0, rfl, Int.lt_of_lt_of_le hgt hcu⟩) hy hcu
    exact Or.inl ⟨z, Or.inl hz, hPz, hUz⟩
  · exact Or.inl ⟨x, Or.inr (Or.inr h), hP, hU⟩

theorem inv_abort {s : Sys S} {i : Nat} {n : SubP S} {top : Option Int}
    (hi : SysInv Phi opt Sol s) (hw : s.ws[i]? = some (.abortS n)) (htop : AbortTop s.crit.base.fringe top) :
    SysInv Phi opt Sol { crit := s.crit.abortSearch n.ub top, ws := s.ws.set i (.fin n true) } := by
  obtain ⟨a1, a2, a3, a4, a5, a6, a7, a8, a9, a10, a11⟩ := abort_spec s.crit n.ub top
  -- a node held by a live worker is below the recorded bound
  have hheld : ∀ (j : Nat) (wj : WSt S) (x : SubP S), s.ws[j]? = some wj → wj.openNode = some x → wj.isCrashed = false →
      x.ub ≤ (s.crit.abortSearch n.ub top).base.bestUb := by
    intro j wj x hj hx hcr
    have := (hi.loc j wj hj).slot x.ub (slot_of_open hx hcr)
    exact a8 x.ub (List.mem_iff_getElem?.mpr ⟨j, this⟩)
  have hfrub : ∀ x ∈ s.crit.base.fringe, x.ub ≤ (s.crit.abortSearch n.ub top).base.bestUb := by
    intro x hx
    rcases htop with ⟨he, _⟩ | ⟨t, _, ht, hmax⟩
    · rw [he] at hx; cases hx
    · exact Int.le_trans (hmax x hx) (a9 t.ub ht)
  refine inv_set Phi opt Sol hi hw _ (.fin n true) (fun h => ⟨a4, a10 h⟩) (by rw [a1]; exact Int.le_refl _)
    (by rw [a6]) (by rw [a1]; exact hi.lbOk) (by rw [a1, a2]; exact hi.solOk) (fun _ => by rw [a1]; exact a11)
    (fun m hm => by rw [a3] at hm; cases hm) ?_ ?_ (by rw [a5]; rfl) ?_
  · refine ⟨trivial, fun u hu => ?_, fun m hm => by cases hm⟩
    rw [a6]; exact (hi.loc i _ hw).slot u hu
  · intro j wj hne hj
    have h := hi.loc j wj hj
    refine ⟨by rw [a1]; exact h.stage, fun u hu => by rw [a6]; exact h.slot u hu, fun m hm => ?_⟩
    obtain ⟨g, u, _⟩ := h.node m hm
    refine ⟨g, by rw [a1]; exact u, fun _ hl => ?_⟩
    exact hheld j wj m hj hm (by simpa using hl)
  · intro hgt x hx hP hU
    rcases (open_split hw x).mp hx with h | h | ⟨j, wj, hne, hj, hxj⟩
    · exact Or.inr ⟨a4, Int.le_trans hU (hfrub x h)⟩
    · injection h with h; subst h
      exact Or.inr ⟨a4, Int.le_trans hU a7⟩
    · cases hcr : wj.isCrashed with
      | true => exact Or.inl ⟨x, Or.inr (Or.inr ⟨j, wj, hne, hj, hxj⟩), hP, hU⟩
      | false =>
        exact Or.inr ⟨a4, Int.le_trans hU (hheld j wj x hj hxj hcr)⟩

theorem inv_notify {s : Sys S} {i : Nat} {n : SubP S} {te : Bool} {c' : ParCrit S}
    (hi : SysInv Phi opt Sol s) (hw : s.ws[i]? = some (.fin n te)) (hn : s.crit.notifyFinished i n.depth = some c') :
    SysInv Phi opt Sol { crit := c', ws := (s.ws.map WSt.wake).set i (if te then .done else .idle) } := by
  obtain ⟨n1, n2, n3, n4⟩ := notify_spec hn
  have hi' := inv_wake Phi opt Sol hi
  have hw' : (s.ws.map WSt.wake)[i]? = some (.fin n te) := by rw [List.getElem?_map, hw]; rfl
  have hle : CritLe s.crit.base c'.base := by rw [n1]; exact CritLe.refl _
  have key : ∀ w' : WSt S, w'.slot = some iMin → w'.openNode = none → w'.holds = false →
      WOk Phi opt Sol c'.base.bestLb w' → SysInv Phi opt Sol { crit := c', ws := (s.ws.map WSt.wake).set i w' } := by
    intro w' hs ho hh hst
    refine inv_set Phi opt Sol (s := { crit := s.crit, ws := s.ws.map WSt.wake }) hi' hw' c' w'
      (fun h => ⟨by rw [n1]; exact h, by rw [n1]; exact Int.le_refl _⟩)
      (by rw [n1]; exact Int.le_refl _) (by rw [n3, List.length_set]) (by rw [n1]; exact hi.lbOk)
      (by rw [n1]; exact hi.solOk) (by rw [n1]; exact hi.abLb) (by rw [n1]; exact hi.fr) ?_ ?_ ?_ ?_
    · refine ⟨hst, fun u hu => ?_, fun m hm => by rw [ho] at hm; cases hm⟩
      rw [hs] at hu; injection hu with hu; subst hu
      rw [n3]; exact List.getElem?_set_self n4
    · intro j wj hne hj
      refine (hi'.loc j wj hj).mono Phi opt Sol hle ?_
      rw [n3]; exact List.getElem?_set_ne (fun e => hne e.symm)
    · rw [hh]
      show c'.ongoing + 1 = s.crit.ongoing + 0
      omega
    · intro hgt x hx hP hU
      rcases (open_split (s := { crit := s.crit, ws := s.ws.map WSt.wake }) hw' x).mp hx with h | h | h
      · exact Or.inl ⟨x, Or.inl (by rw [n1]; exact h), hP, hU⟩
      · cases h
      · exact Or.inl ⟨x, Or.inr (Or.inr h), hP, hU⟩
  cases te
  · exact key .idle rfl rfl rfl trivial
  · exact key .done rfl rfl rfl trivial

theorem step_inv (dedup : Bool) (hphi : PhiOk Phi dedup) {okR okX : SubP S → Int → DDOut S → Prop}
    (hR : ∀ n lb o, okR n lb o → OkR Phi opt Sol n lb o) (hX : ∀ n lb o, okX n lb o → OkX Phi opt Sol n lb o)
    {s t : Sys S} (h : Step dedup okR okX s t) (hi : SysInv Phi opt Sol s) : SysInv Phi opt Sol t := by
  cases h with
  | gwAborted i hw ha | gwWait i hw ha ho hf => exact inv_restage Phi opt Sol hi hw _ rfl rfl rfl rfl trivial
  | gwComplete i hw ha ho hf => exact inv_gwComplete Phi opt Sol hi hw ha ho hf
  | gwStarve i N rest c' k hw ha hp hl => exact inv_gwStarve Phi opt Sol hi hw hp hl
  | gwItem i N rest c' nn k c'' hw ha hp hl ht =>
    obtain ⟨rfl, rfl⟩ := popLoop_item hl
    obtain ⟨t1, t2, t3, t4, t5, t6, t7, t8⟩ := take_spec ht
    refine inv_popped Phi opt Sol hi hw ha hp c'' (.readR nn) t1 t2 t3 t4 t5 t6 (by rw [t7, List.length_set]; rfl)
      (fun j hne => by rw [t7]; exact List.getElem?_set_ne (fun e => hne e.symm)) rfl rfl trivial (fun u hu => ?_)
    injection hu with hu; subst hu
    rw [t7]; exact List.getElem?_set_self t8
  | gwCrash i N rest c' nn k hw ha hp hl ht =>
    obtain ⟨rfl, rfl⟩ := popLoop_item hl
    exact inv_popped Phi opt Sol hi hw ha hp _ (.crashed nn) rfl rfl rfl rfl rfl rfl rfl (fun _ _ => rfl) rfl rfl trivial
      (fun u hu => by cases hu)
  | readLbR i n hw => exact inv_readLbR Phi opt Sol hi hw
  | compileR i n lb r hw hok =>
    have hst : lb ≤ s.crit.base.bestLb := (hi.loc i _ hw).stage
    cases r with
    | ok o => exact inv_restage Phi opt Sol hi hw _ rfl rfl rfl rfl ⟨hst, hR n lb o (hok o rfl)⟩
    | cutoff => exact inv_restage Phi opt Sol hi hw _ rfl rfl rfl rfl trivial
  | updateR i n lb o hw =>
    obtain ⟨hst, hc⟩ : lb ≤ s.crit.base.bestLb ∧ CompileOk Phi opt Sol n lb o := (hi.loc i _ hw).stage
    exact inv_update Phi opt Sol hi hw rfl rfl rfl rfl hst hc (.readX n) rfl rfl rfl rfl (fun _ => trivial)
  | readLbX i n hw => exact inv_restage Phi opt Sol hi hw _ rfl rfl rfl rfl (Int.le_refl _)
  | compileX i n lb r hw hok =>
    have hst : lb ≤ s.crit.base.bestLb := (hi.loc i _ hw).stage
    cases r with
    | ok o => exact inv_restage Phi opt Sol hi hw _ rfl rfl rfl rfl ⟨hst, (hX n lb o (hok o rfl)).1, (hX n lb o (hok o rfl)).2⟩
    | cutoff => exact inv_restage Phi opt Sol hi hw _ rfl rfl rfl rfl trivial
  | updateX i n lb o hw =>
    obtain ⟨hst, hc, hcut⟩ : lb ≤ s.crit.base.bestLb ∧ CompileOk Phi opt Sol n lb o ∧
        (o.isExact = false → CutsetOk Phi opt n lb o) := (hi.loc i _ hw).stage
    exact inv_update Phi opt Sol hi hw rfl rfl rfl rfl hst hc (.enq n lb o) rfl rfl rfl rfl (fun hex =>
      ⟨Int.le_trans hst (updateBest_lb_ge s.crit.base o), hcut hex, fun v hv => updateBest_lb_ge_val s.crit.base o v hv⟩)
  | enqueue i n lb o hw => exact inv_enqueue Phi opt Sol dedup hphi hi hw
  | abort i n top hw htop => exact inv_abort Phi opt Sol hi hw htop
  | notify i n te c' hw hn => exact inv_notify Phi opt Sol hi hw hn


/-- the root sub-problem `initialize()` pushes -/
def rootOf (P : Problem S) : SubP S := { state := P.init, value := P.initVal, path := [], ub := iMax, depth := 0 }

/-- the incumbent after the optional `set_primal` -/
def primalLb : Option (Int × List Dec) → Int
  | some (v, _) => if v > iMin then v else iMin
  | none => iMin
def primalSol : Option (Int × List Dec) → Option (List Dec)
  | some (v, sol) => if v > iMin then some sol else none
  | none => none

/-- the optional `set_primal` only writes the incumbent and the stored solution -/
theorem init_eq (P : Problem S) (primal : Option (Int × List Dec)) (dedup : Bool) :
    SeqSt.init P primal dedup =
      { SeqSt.init P none dedup with bestLb := primalLb primal, bestSol := primalSol primal } := by
  cases primal with
  | none => rfl
  | some vs =>
    obtain ⟨v, sol⟩ := vs
    simp only [SeqSt.init, primalLb, primalSol]
    split <;> rfl

/-- what `set_primal` writes: the sentinel and nothing, or the value of the primal, above the sentinel, with its decisions -/
theorem primal_cases (primal : Option (Int × List Dec)) :
    (primalLb primal = iMin ∧ primalSol primal = none) ∨
    ∃ v sol, primal = some (v, sol) ∧ v > iMin ∧ primalLb primal = v ∧ primalSol primal = some sol := by
  cases primal with
  | none => exact Or.inl ⟨rfl, rfl⟩
  | some vs =>
    obtain ⟨v, sol⟩ := vs
    by_cases hv : v > iMin
    · exact Or.inr ⟨v, sol, rfl, hv, if_pos hv, if_pos hv⟩
    · exact Or.inl ⟨if_neg hv, if_neg hv⟩

theorem init_base (P : Problem S) (primal : Option (Int × List Dec)) (dedup : Bool) :
    (SeqSt.init P primal dedup).fringe = [rootOf P] ∧ (SeqSt.init P primal dedup).abort = false ∧
    (SeqSt.init P primal dedup).bestUb = iMax ∧
    (SeqSt.init P primal dedup).bestLb = primalLb primal ∧ (SeqSt.init P primal dedup).bestSol = primalSol primal := by
  rw [init_eq]
  exact ⟨by cases dedup <;> rfl, rfl, rfl, rfl, rfl⟩

theorem init_idle {P : Problem S} {primal : Option (Int × List Dec)} {dedup : Bool} {U : Nat} {w : WSt S}
    (h : w ∈ (Sys.init P primal dedup U).ws) : w = .idle :=
  List.eq_of_mem_replicate h

theorem init_inv (P : Problem S) (primal : Option (Int × List Dec)) (dedup : Bool) (U : Nat)
    (hroot : Good Phi opt (rootOf P)) (hopt : opt ≤ iMax)
    (hlb : primalLb primal ≤ opt) (hsol : ∀ p, primalSol primal = some p → Sol p (primalLb primal))
    (hatt : opt > primalLb primal → Phi (rootOf P) = some opt) :
    SysInv Phi opt Sol (Sys.init P primal dedup U) := by
  obtain ⟨b1, b2, b3, b4, b5⟩ := init_base P primal dedup
  have b1 : (Sys.init P primal dedup U).crit.base.fringe = [rootOf P] := b1
  have b2 : (Sys.init P primal dedup U).crit.base.abort = false := b2
  have b4 : (Sys.init P primal dedup U).crit.base.bestLb = primalLb primal := b4
  have b5 : (Sys.init P primal dedup U).crit.base.bestSol = primalSol primal := b5
  have hws : ∀ (i : Nat) (w : WSt S), (Sys.init P primal dedup U).ws[i]? = some w → i < U ∧ w = .idle :=
    fun i w h => ⟨List.length_replicate (n := U) ▸ (List.getElem?_eq_some_iff.mp h).1, init_idle (List.mem_of_getElem? h)⟩
  refine ⟨by rw [b4]; exact hlb, by rw [b4, b5]; exact hsol, ?_, ?_, ?_, ?_, ?_, ?_⟩
  · intro n hn
    rw [b1] at hn
    rcases List.mem_cons.mp hn with e | e
    · subst e
      refine ⟨hroot, fun x hx _ => ?_, fun h => by rw [b2] at h; cases h⟩
      have := hroot x hx
      show x ≤ iMax
      omega
    · cases e
  · intro i w hw
    obtain ⟨hlt, rfl⟩ := hws i w hw
    refine ⟨trivial, fun u hu => ?_, fun n hn => by cases hn⟩
    injection hu with hu; subst hu
    show (List.replicate U iMin)[i]? = some iMin
    rw [List.getElem?_replicate, if_pos hlt]
  · intro hgt
    rw [b4] at hgt
    exact Or.inl ⟨rootOf P, Or.inl (by rw [b1]; exact List.mem_cons_self), hatt hgt, hopt⟩
  · intro h; rw [b2] at h; cases h
  · show 0 = (List.replicate U (WSt.idle : WSt S)).countP WSt.holds
    rw [List.countP_replicate]; rfl
  · show (List.replicate U (WSt.idle : WSt S)).length = (List.replicate U iMin).length
    simp

theorem run_inv (dedup : Bool) (hphi : PhiOk Phi dedup) {okR okX : SubP S → Int → DDOut S → Prop}
    (hR : ∀ n lb o, okR n lb o → OkR Phi opt Sol n lb o) (hX : ∀ n lb o, okX n lb o → OkX Phi opt Sol n lb o)
    {s t : Sys S} (h : Run dedup okR okX s t) (hi : SysInv Phi opt Sol s) : SysInv Phi opt Sol t := by
  induction h with
  | refl => exact hi
  | tail _ hst ih => exact step_inv Phi opt Sol dedup hphi hR hX hst ih


def NoCrash (s : Sys S) : Prop := ∀ w ∈ s.ws, w.isCrashed = false

theorem allDone_noCrash {s : Sys S} (h : AllDone s) : NoCrash s := fun w hw => by rw [h w hw]; rfl

theorem SysInv.open_ok {s : Sys S} (hi : SysInv Phi opt Sol s) {x : SubP S} (hx : Open s x) :
    Good Phi opt x ∧ UbOk Phi s.crit.base.bestLb x := by
  rcases hx with h | ⟨j, wj, hj, hx⟩
  · exact ⟨(hi.fr x h).1, (hi.fr x h).2.1⟩
  · exact ⟨((hi.loc j wj hj).node x hx).1, ((hi.loc j wj hj).node x hx).2.1⟩

/-- as long as the search is not aborted, the concrete invariant *is* the sequential coverage invariant
    `Inv` over the list of open sub-problems `fringe ++ nodes in hand` -/
theorem SysInv.toInv {s : Sys S} (hi : SysInv Phi opt Sol s) (ha : s.crit.base.abort = false) :
    Inv Phi opt Sol s.openList s.crit.base.bestLb s.crit.base.bestSol := by
  refine ⟨fun c hc => (hi.open_ok Phi opt Sol ((mem_openList s c).mp hc)).1,
    fun c hc => (hi.open_ok Phi opt Sol ((mem_openList s c).mp hc)).2, hi.lbOk, hi.solOk, fun hgt => ?_⟩
  rcases hi.cover hgt with ⟨x, hx, hP, hU⟩ | ⟨h, _⟩
  · exact ⟨x, (mem_openList s x).mpr hx, hP, hU⟩
  · rw [ha] at h; cases h

theorem SysInv.abortCovHeld {s : Sys S} (hi : SysInv Phi opt Sol s) (ha : s.crit.base.abort = true) (hnc : NoCrash s)
    {j : Nat} {wj : WSt S} {x : SubP S} (hj : s.ws[j]? = some wj) (hx : wj.openNode = some x) :
    x.ub ≤ s.crit.base.bestUb := by
  have hcr := hnc wj (List.mem_iff_getElem?.mpr ⟨j, hj⟩)
  exact ((hi.loc j wj hj).node x hx).2.2 ha (by rw [hcr]; rfl)

/-- after an abort whatever an open node of a live worker, or a fringe entry, carries above the incumbent is below the
    recorded bound.  (For a fringe entry the *bound* itself need not be: without the cap of `enqueue_cutset` a worker that
    enqueues after the abort pushes its cut-set nodes with their own bounds.) -/
theorem SysInv.abortCov {s : Sys S} (hi : SysInv Phi opt Sol s) (ha : s.crit.base.abort = true) (hnc : NoCrash s)
    {x : SubP S} (hx : Open s x) : ∀ y, Phi x = some y → y > s.crit.base.bestLb → y ≤ s.crit.base.bestUb := by
  intro y hy hgt
  rcases hx with h | ⟨j, wj, hj, hx⟩
  · exact (hi.fr x h).2.2 ha y hy hgt
  · exact Int.le_trans (((hi.loc j wj hj).node x hx).2.1 y hy hgt) (hi.abortCovHeld Phi opt Sol ha hnc hj hx)

theorem complete_optimal {s : Sys S} {i : Nat} (hi : SysInv Phi opt Sol s) (hc : CompletesAt s i) :
    s.crit.base.bestLb = opt ∧ ∀ p, s.crit.base.bestSol = some p → Sol p opt := by
  obtain ⟨_, ha, ho, hf⟩ := hc
  have h1 : ¬ opt > s.crit.base.bestLb := by
    intro hgt
    rcases hi.cover hgt with ⟨x, hx, _⟩ | ⟨h, _⟩
    · exact nothing_open Phi opt Sol hi ho hf x hx
    · rw [ha] at h; cases h
  have h2 := hi.lbOk
  have : s.crit.base.bestLb = opt := by omega
  exact ⟨this, fun p hp => this ▸ hi.solOk p hp⟩

theorem cutoff_bounds {s : Sys S} (hi : SysInv Phi opt Sol s) (ha : s.crit.base.abort = true) (hnc : NoCrash s) :
    s.crit.base.bestLb ≤ opt ∧ opt ≤ s.crit.base.bestUb := by
  refine ⟨hi.lbOk, ?_⟩
  by_cases hgt : opt > s.crit.base.bestLb
  · rcases hi.cover hgt with ⟨x, hx, hP, _⟩ | ⟨_, h⟩
    · exact hi.abortCov Phi opt Sol ha hnc hx opt hP hgt
    · exact h
  · have := hi.abLb ha; omega

end

end Ddo.ParSys
