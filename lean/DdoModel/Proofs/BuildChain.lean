import DdoModel.Proofs.MddTruth
/-! # A build of a diagram as a chain of layer steps

`stepLayer` does the same thing to a diagram whatever the two filters (`_filter_with_cache`, `_filter_with_dominance`) answered: squash
what they left, expand.  The exactness invariant (`MInv`), the cut-set invariant (`Inv2`) and the genuine-arcs invariant (`G2`) use of
the filters only the FRAME: every node of the filtered layer is a node of `dd.next` up to `Ess`, that is up to the fields `cache` /
`theta` the filters write (`FrameOk`).  So a build is described as a `Chain` of such layer steps (and the `break` on an empty layer),
the three invariants are proved once along chains, and what `finalize` reports is proved of the final diagram of a chain (`Ended`): a
reported exact value is the value of the reported solution, the cut-set is sound.  The parameter `F` of `Chain` is what else a user
needs of the filters: nothing here, the protected-family facts `FilterOk` of `Proofs/DomChain.lean` for the checker.

Who is a chain: every successful `stepLayer` is a layer step through `preSquash cfg dd` (`stepLayer_layerStep`), so a configuration
only has to supply the frame of `preSquash` — the identity in isolation (`iso_ended`, end of this file), both filters node by node
for any cache, store and rule (`Proofs/CompileJoint.lean`), the checker from a store of exactly reached items, with `FilterOk`
(`Proofs/DomChain.lean`).  The compilations whose layers, or whose single operations, are answered by other stores are not runs of
`compile`, but they are chains (`Proofs/ParDomCompileL.lean`, `Proofs/ParDomOpLoop.lean`).  A chain has successful steps only: that
no step fails is proved per configuration, not here. -/
set_option linter.unusedSectionVars false
set_option linter.unusedVariables false
namespace Ddo.C10
open Ddo Ddo.Truth
variable {S K : Type} [DecidableEq S] [DecidableEq K]

/-- the situation in which the loop of the top-down build takes a step: the exactness invariant `MInv` of `Proofs/MddExact.lean`
    holds, `next_variable` has answered `var`, the depth and the number of layers are in step -/
structure AtStep (cfg : Cfg S K) (B : Int) (p0 : List Dec) (dd : DD S K) (var : Nat) : Prop where
  M : MInv cfg B p0 dd
  depth : dd.depth = cfg.root.depth + dd.layers.length
  nv : cfg.P.nextVar dd.depth (dd.next.map (·.state)) = some var
  len : dd.layers.length ≤ cfg.P.nbVars + 1

/-- induction principle for a compilation that ends normally, for an invariant `J` of the top-down build that is insensitive to
    the log and the poll counter and kept by every successful `stepLayer`: `J` holds of the final diagram, and unless the build
    stopped on an empty layer (the `break`) `next_variable` answered `None` there -/
theorem buildLoop_ind (cfg : Cfg S K) (B : Int) (p0 : List Dec) (hB : NoClamp cfg.P cfg.R cfg.root.value B)
    {J : DD S K → Prop} (htick : ∀ dd var, J dd → J (tick dd var))
    (hstep : ∀ dd var dd' oc, J dd → AtStep cfg B p0 dd var → stepLayer cfg dd var = (some dd', oc) → J dd') :
    ∀ (fuel : Nat) (dd : DD S K), J dd → MInv cfg B p0 dd → dd.depth = cfg.root.depth + dd.layers.length →
      dd.layers.length + fuel ≤ cfg.P.nbVars + 2 → (buildLoop cfg none fuel dd).2 = .ok →
      ∃ fin, J fin ∧
        (fin.next ≠ [] → cfg.P.nextVar fin.depth (fin.next.map (·.state)) = none ∧
          fin.depth = cfg.root.depth + fin.layers.length) ∧
        fin.layers = (buildLoop cfg none fuel dd).1.layers ∧ fin.next = (buildLoop cfg none fuel dd).1.next ∧
        fin.depth = (buildLoop cfg none fuel dd).1.depth ∧ fin.lel = (buildLoop cfg none fuel dd).1.lel ∧
        fin.store = (buildLoop cfg none fuel dd).1.store := by
  intro fuel
  induction fuel with
  | zero => intro dd _ _ _ _ h; simp [buildLoop] at h
  | succ fuel ih =>
    intro dd hJ hM hdepth hfuel hok
    cases hnv : cfg.P.nextVar dd.depth (dd.next.map (·.state)) with
    | none =>
      rw [buildLoop_none_eq cfg none fuel dd hnv]
      exact ⟨dd, hJ, fun _ => ⟨hnv, hdepth⟩, rfl, rfl, rfl, rfl, rfl⟩
    | some var =>
      rw [buildLoop_step cfg fuel dd var hnv] at hok ⊢
      have hM' : MInv cfg B p0 (tick dd var) := hM.congr rfl rfl
      have hlen : (tick dd var).layers.length ≤ cfg.P.nbVars + 1 :=
        Nat.le_trans (Nat.le_add_right _ fuel) (Nat.le_of_succ_le_succ hfuel)
      cases hst : stepLayer cfg (tick dd var) var with
      | mk o oc =>
        rw [hst] at hok
        cases o with
        | none => cases hok
        | some dd' =>
          have hJ' := hstep (tick dd var) var dd' oc (htick dd var hJ) ⟨hM', hdepth, hnv, hlen⟩ hst
          obtain ⟨m1, m2, m3⟩ := Ddo.stepLayer_inv cfg B p0 hB (tick dd var) var hM' hdepth hnv
            hlen dd' oc hst
          cases oc with
          | cutoff => exact ⟨dd', hJ', fun h => absurd (m3 (by decide)) h, rfl, rfl, rfl, rfl, rfl⟩
          | crash => cases hok
          | ok =>
            obtain ⟨m2a, m2b⟩ := m2 rfl
            exact ih dd' hJ' m1 m2a (by rw [m2b]; exact Nat.add_right_comm _ 1 fuel ▸ hfuel) hok

theorem compile_ind (cfg : Cfg S K) (B : Int) (p0 : List Dec) (hB : NoClamp cfg.P cfg.R cfg.root.value B)
    {J : DD S K → Prop} (htick : ∀ dd var, J dd → J (tick dd var))
    (hstep : ∀ dd var dd' oc, J dd → AtStep cfg B p0 dd var → stepLayer cfg dd var = (some dd', oc) → J dd')
    (cache : Cache S) (store : DomStore S K) (polls : Nat)
    (hroot : Reach cfg.P cfg.root.depth cfg.root.state cfg.root.value p0) (h0 : J (initDD cfg cache store polls))
    (hok : (compile cfg cache store polls none).1 = .ok) :
    ∃ fin, J fin ∧
      (fin.next ≠ [] → cfg.P.nextVar fin.depth (fin.next.map (·.state)) = none ∧
        fin.depth = cfg.root.depth + fin.layers.length) ∧
      fin.layers = (compile cfg cache store polls none).2.2.2.layers ∧
      fin.next = (compile cfg cache store polls none).2.2.2.next ∧ fin.depth = (compile cfg cache store polls none).2.2.2.depth ∧
      fin.lel = (compile cfg cache store polls none).2.2.2.lel ∧ fin.store = (compile cfg cache store polls none).2.2.2.store := by
  obtain ⟨hbl, hdd, _⟩ := Ddo.compile_ok cfg cache store polls none hok
  rw [hdd]
  exact buildLoop_ind cfg B p0 hB htick hstep (cfg.P.nbVars + 2) (initDD cfg cache store polls) h0
    (initDD_inv cfg B p0 hB hroot cache store polls) rfl (Nat.le_of_eq (Nat.zero_add _)) hbl

def FrameOk (dd : DD S K) (fl : List (Node S)) : Prop := ∀ m ∈ fl, ∃ n ∈ dd.next, Ess n m ∧ m.depth = n.depth

theorem ess_isExact {a b : Node S} (h : Ess a b) : a.isExact = b.isExact := by
  unfold Node.isExact
  rw [h.2.2.2.2.2, h.2.2.2.2.1]

theorem FrameOk.refl (dd : DD S K) : FrameOk dd dd.next := fun m hm => ⟨m, hm, ⟨rfl, rfl, rfl, rfl, rfl, rfl⟩, rfl⟩

theorem FrameOk.subS {dd : DD S K} {fl : List (Node S)} (h : FrameOk dd fl) : SubS fl dd.next := by
  intro m hm
  obtain ⟨n, hn, e, hd⟩ := h m hm
  exact ⟨n, hn, ess_isExact e, e.1, e.2.1, e.2.2.1, hd.symm⟩

theorem FrameOk.arcs {dd : DD S K} {fl : List (Node S)} (h : FrameOk dd fl) {l : Nat} (hb : ∀ n ∈ dd.next, ArcOk l n) :
    ∀ m ∈ fl, ArcOk l m := by
  intro m hm a ha
  obtain ⟨n, hn, e, _⟩ := h m hm
  exact hb n hn a (e.2.2.2.1 ▸ ha)

/-- `dd'` is `dd` one layer further: the filtered layer `(fl, fk)` was squashed and expanded along `var` (only the fields the
    invariants read are constrained) -/
def LayerStep (cfg : Cfg S K) (var : Nat) (dd dd' : DD S K) (fl : List (Node S)) (fk : List Nat) : Prop :=
  ∃ sq, squash cfg dd fl fk = some sq ∧
    dd'.layers = dd.layers ++ [(expandAll cfg var dd.layers.length sq.1 sq.2.1 sq.2.2.1).1] ∧
    dd'.next = (expandAll cfg var dd.layers.length sq.1 sq.2.1 sq.2.2.1).2.1 ∧ dd'.depth = dd.depth + 1 ∧
    dd'.lel = sq.2.2.2

theorem LayerStep.depth {cfg : Cfg S K} {var : Nat} {dd dd' : DD S K} {fl : List (Node S)} {fk : List Nat}
    (hs : LayerStep cfg var dd dd' fl fk) (hd : dd.depth = cfg.root.depth + dd.layers.length) :
    dd'.depth = cfg.root.depth + dd'.layers.length := by
  obtain ⟨_, _, el, _, ed, _⟩ := hs
  rw [ed, el, List.length_append, List.length_singleton, hd, Nat.add_assoc]

theorem stepLayer_layerStep (cfg : Cfg S K) (dd dd' : DD S K) (var : Nat) (oc : Outcome) (hne : dd.next ≠ [])
    (hst : stepLayer cfg dd var = (some dd', oc)) :
    LayerStep cfg var dd dd' (Width.preSquash cfg dd).1 (Width.preSquash cfg dd).2.1 := by
  rcases Width.stepLayer_some cfg dd dd' var oc hst with ⟨h, _⟩ | ⟨sq, hsq, _, _, hl, hn, _, hd, hlel⟩
  · exact absurd h hne
  · exact ⟨sq, Width.squashOf_elim cfg dd sq hsq, hl, hn, hd, hlel⟩

theorem squash_expand_einv (cfg : Cfg S K) (B : Int) (p0 : List Dec) (hB : NoClamp cfg.P cfg.R cfg.root.value B)
    (dd : DD S K) (var : Nat) (hinv : MInv cfg B p0 dd) (hdepth : dd.depth = cfg.root.depth + dd.layers.length)
    (hnv : cfg.P.nextVar dd.depth (dd.next.map (·.state)) = some var) (hlen : dd.layers.length ≤ cfg.P.nbVars + 1)
    (fl : List (Node S)) (fk : List Nat) (hfl : SubS fl dd.next)
    (sq : List (Node S) × List Nat × List (Call S) × Option Nat) (hsq : squash cfg dd fl fk = some sq) :
    (∀ n ∈ sq.1, ParOk cfg B p0 dd.layers (dd.next.map (·.state)) n) ∧
      EInv cfg B p0 dd.layers sq.1 (expandAll cfg var dd.layers.length sq.1 sq.2.1 sq.2.2.1) := by
  have hpar : ∀ n ∈ sq.1, ParOk cfg B p0 dd.layers (dd.next.map (·.state)) n :=
    ParOk.of_sub ((squash_sub cfg dd fl fk sq.1 sq.2.1 sq.2.2.1 sq.2.2.2 hsq).1.trans hfl.toSub) fun n hn =>
      ⟨hinv.next n hn, fun _ => List.mem_map.2 ⟨n, hn, rfl⟩⟩
  exact ⟨hpar, expandAll_inv cfg B p0 hB dd.layers hlen sq.1 (dd.next.map (·.state)) var (hdepth ▸ hnv) hpar sq.2.1 sq.2.2.1⟩

theorem inv2_append_nil {cfg : Cfg S K} {dd : DD S K} (h : Inv2 cfg dd) (hnil : dd.next = []) :
    Inv2 cfg { dd with layers := dd.layers ++ [[]] } := by
  refine ⟨?_, ?_, ?_, ?_⟩
  · intro l ly hl
    rcases getElem?_append_singleton_cases hl with hl | ⟨_, rfl⟩
    · exact h.arcsL l ly hl
    · intro n hn; cases hn
  · dsimp only; rw [hnil]; intro n hn; cases hn
  · intro hnone
    refine ⟨fun ly hly n hn => ?_, (h.lelNone hnone).2⟩
    rcases List.mem_append.1 hly with hly | hly
    · exact (h.lelNone hnone).1 ly hly n hn
    · rw [List.mem_singleton] at hly; subst hly; cases hn
  · intro k hk
    obtain ⟨h1, h2, h3⟩ := h.lelSome k hk
    refine ⟨by dsimp only; rw [List.length_append]; exact Nat.lt_succ_of_lt h1, h2, fun l ly hlk hl n hn => ?_⟩
    rcases getElem?_append_singleton_cases hl with hl | ⟨_, rfl⟩
    · exact h3 l ly hlk hl n hn
    · cases hn

theorem expand_inv2 (cfg : Cfg S K) (B : Int) (p0 : List Dec) (hB : NoClamp cfg.P cfg.R cfg.root.value B)
    (dd dd' : DD S K) (var : Nat) (hinv : MInv cfg B p0 dd) (hinv2 : Inv2 cfg dd)
    (hdepth : dd.depth = cfg.root.depth + dd.layers.length)
    (hnv : cfg.P.nextVar dd.depth (dd.next.map (·.state)) = some var) (hlen : dd.layers.length ≤ cfg.P.nbVars + 1)
    (fl : List (Node S)) (fk : List Nat) (hfl : SubS fl dd.next) (hflA : ∀ n ∈ fl, ArcOk dd.layers.length n)
    (sq : List (Node S) × List Nat × List (Call S) × Option Nat) (hsq : squash cfg dd fl fk = some sq)
    (hl : dd'.layers = dd.layers ++ [(expandAll cfg var dd.layers.length sq.1 sq.2.1 sq.2.2.1).1])
    (hn : dd'.next = (expandAll cfg var dd.layers.length sq.1 sq.2.1 sq.2.2.1).2.1) (hlel : dd'.lel = sq.2.2.2) :
    Inv2 cfg dd' := by
  obtain ⟨hlelN, hlelS, hsqA⟩ := squash_lel cfg dd fl fk sq.1 sq.2.1 sq.2.2.1 sq.2.2.2 hsq
  obtain ⟨_, hE⟩ := squash_expand_einv cfg B p0 hB dd var hinv hdepth hnv hlen fl fk hfl sq hsq
  have hEA := expandAll_arcs cfg var dd.layers.length sq.1 sq.2.1 sq.2.2.1
  generalize expandAll cfg var dd.layers.length sq.1 sq.2.1 sq.2.2.1 = ex at hE hEA hl hn
  obtain ⟨hrub, _, hallEx⟩ := hE
  have hlsqA : ∀ n ∈ sq.1, ArcOk dd.layers.length n := hsqA _ hflA
  -- the appended layer is the squashed one up to `rub`
  have hFA : ∀ n ∈ ex.1, ArcOk dd.layers.length n := by
    intro n hn
    obtain ⟨i, hi⟩ := List.mem_iff_getElem?.1 hn
    obtain ⟨n0, h0, hs⟩ := hrub.get hi
    have : n0.inb = n.inb := by have := congrArg Node.inb hs; simpa only [stripRub] using this
    intro e he
    exact hlsqA n0 (List.mem_of_getElem? h0) e (this ▸ he)
  have hFE : (∀ n ∈ sq.1, n.isExact = true) → ∀ n ∈ ex.1, n.isExact = true := by
    intro hall n hn
    obtain ⟨n0, h0, he0, _⟩ := hrub.subS n hn
    rw [← he0]; exact hall n0 h0
  have hlen' : dd'.layers.length = dd.layers.length + 1 := by rw [hl, List.length_append, List.length_singleton]
  refine ⟨?_, ?_, ?_, ?_⟩
  · rw [hl]
    intro l ly hl
    rcases getElem?_append_singleton_cases hl with hl | ⟨rfl, rfl⟩
    · exact hinv2.arcsL l ly hl
    · exact hFA
  · rw [hn, hlen']
    exact hEA
  · rw [hl, hn, hlel]
    intro hnone
    obtain ⟨e, hdn⟩ := hlelN hnone
    obtain ⟨hLs, hNx⟩ := hinv2.lelNone hdn
    have hall : ∀ n ∈ sq.1, n.isExact = true := by
      intro n hn
      obtain ⟨n0, h0, he0, _⟩ := hfl n (e ▸ hn)
      rw [← he0]; exact hNx n0 h0
    refine ⟨fun ly hly n hn => ?_, hallEx hall⟩
    rcases List.mem_append.1 hly with hly | hly
    · exact hLs ly hly n hn
    · rw [List.mem_singleton] at hly; subst hly; exact hFE hall n hn
  · rw [hlen', hl, hlel]
    intro k hk
    rcases hlelS k hk with hold | ⟨hdn, hkL, hrel⟩
    · obtain ⟨h1, h2, h3⟩ := hinv2.lelSome k hold
      refine ⟨Nat.lt_succ_of_lt h1, h2, fun l ly hlk hl n hn => ?_⟩
      rcases getElem?_append_singleton_cases hl with hl | ⟨rfl, _⟩
      · exact h3 l ly hlk hl n hn
      · exact absurd (Nat.lt_of_le_of_lt hlk h1) (Nat.lt_irrefl _)
    · obtain ⟨hLs, _⟩ := hinv2.lelNone hdn
      refine ⟨hkL ▸ Nat.lt_succ_of_lt (Nat.lt_succ_self k), fun hr => Nat.le_of_succ_le_succ (show 2 ≤ k + 1 by rw [hkL]; exact hrel hr),
        fun l ly hlk hl n hn => ?_⟩
      rcases getElem?_append_singleton_cases hl with hl | ⟨rfl, _⟩
      · exact hLs ly (List.mem_of_getElem? hl) n hn
      · exact absurd (show k + 1 ≤ k by rw [hkL]; exact hlk) (Nat.not_succ_le_self k)

/-- `fin` is reached from `dd0` by layer steps through framed filters that satisfy `F`, and the `break` on an empty layer, up to the
    fields the invariants do not read (`log`, `polls`, `store`, …) -/
inductive Chain (cfg : Cfg S K) (F : DD S K → List (Node S) → List Nat → Prop) (B : Int) (p0 : List Dec) (dd0 : DD S K) :
    DD S K → Prop
  | refl : Chain cfg F B p0 dd0 dd0
  | congr {dd dd' : DD S K} : Chain cfg F B p0 dd0 dd → dd'.layers = dd.layers → dd'.next = dd.next →
      dd'.depth = dd.depth → dd'.lel = dd.lel → Chain cfg F B p0 dd0 dd'
  | brk {dd : DD S K} {var : Nat} : Chain cfg F B p0 dd0 dd → AtStep cfg B p0 dd var → dd.next = [] →
      Chain cfg F B p0 dd0 { dd with layers := dd.layers ++ [[]] }
  | layer {dd dd' : DD S K} {var : Nat} {fl : List (Node S)} {fk : List Nat} : Chain cfg F B p0 dd0 dd →
      AtStep cfg B p0 dd var → dd.next ≠ [] → FrameOk dd fl → F dd fl fk → LayerStep cfg var dd dd' fl fk →
      MInv cfg B p0 dd' → Chain cfg F B p0 dd0 dd'

section chain
variable {cfg : Cfg S K} {F : DD S K → List (Node S) → List Nat → Prop} {B : Int} {p0 : List Dec} {dd0 fin : DD S K}

theorem Chain.minv (hC : Chain cfg F B p0 dd0 fin) (h0 : MInv cfg B p0 dd0) : MInv cfg B p0 fin := by
  induction hC with
  | refl => exact h0
  | congr _ hl hn _ _ ih => exact ih.congr hl hn
  | @brk dd _ _ _ hnil ih =>
    have hno : ∀ n, n ∉ dd.next := fun n hn => by rw [hnil] at hn; cases hn
    exact ⟨MInv.append_layer ih.layers (fun n hn => by cases hn), fun n hn => absurd hn (hno n),
      fun _ n hn => absurd hn (hno n)⟩
  | layer _ _ _ _ _ _ hM' _ => exact hM'

theorem Chain.len (hC : Chain cfg F B p0 dd0 fin) (h0 : dd0.layers.length ≤ cfg.P.nbVars + 2) :
    fin.layers.length ≤ cfg.P.nbVars + 2 := by
  induction hC with
  | refl => exact h0
  | congr _ hl _ _ _ ih => rw [hl]; exact ih
  | brk _ hc _ _ => rw [List.length_append]; exact Nat.succ_le_succ hc.len
  | layer _ hc _ _ _ hs _ _ =>
    obtain ⟨_, _, hl, _⟩ := hs
    rw [hl, List.length_append]; exact Nat.succ_le_succ hc.len

theorem Chain.inv2 (hB : NoClamp cfg.P cfg.R cfg.root.value B) (hC : Chain cfg F B p0 dd0 fin) (h0 : Inv2 cfg dd0) :
    Inv2 cfg fin := by
  induction hC with
  | refl => exact h0
  | congr _ hl hn _ hlel ih => exact ih.congr hl hn hlel
  | brk _ _ hnil ih => exact inv2_append_nil ih hnil
  | layer _ hc _ hf _ hs _ ih =>
    obtain ⟨sq, hsq, hl, hn, _, hlel⟩ := hs
    exact expand_inv2 cfg B p0 hB _ _ _ hc.M ih hc.depth hc.nv hc.len _ _ hf.subS (hf.arcs ih.arcsN) sq hsq hl hn hlel

theorem Chain.g2 (hrel : cfg.ctype = .relaxed) (hW : 1 ≤ cfg.width) (hC : Chain cfg F B p0 dd0 fin) (h0 : G2 cfg dd0) :
    G2 cfg fin := by
  induction hC with
  | refl => exact h0
  | congr _ hl hn _ _ ih => exact ih.congr hl hn
  | @brk dd _ _ _ hnil ih =>
    have hno : ∀ n, n ∉ dd.next := fun n hn => by rw [hnil] at hn; cases hn
    exact ⟨gOk_append_layer ih.layers (fun n hn => by cases hn), fun n hn => absurd hn (hno n)⟩
  | layer _ hc _ hf _ hs _ ih =>
    obtain ⟨sq, hsq, hl, hn, _, _⟩ := hs
    exact stepLayer_g2 cfg hrel hW _ _ _ _ _ (fun m hm => (hf m hm).imp fun n h => ⟨h.1, h.2.1⟩) ih hc.depth hc.nv sq hsq hl hn

end chain


structure Ended (cfg : Cfg S K) (F : DD S K → List (Node S) → List Nat → Prop) (B : Int) (p0 : List Dec) (fin : DD S K) :
    Prop where
  chain : ∃ cache store polls, Chain cfg F B p0 (initDD cfg cache store polls) fin
  term : Terminal cfg fin

section ended
variable {cfg : Cfg S K} {F : DD S K → List (Node S) → List Nat → Prop} {B : Int} {p0 : List Dec} {fin : DD S K}

theorem Ended.minv (h : Ended cfg F B p0 fin) (hB : NoClamp cfg.P cfg.R cfg.root.value B)
    (hroot : Reach cfg.P cfg.root.depth cfg.root.state cfg.root.value p0) : MInv cfg B p0 fin := by
  obtain ⟨cache, store, polls, hC⟩ := h.chain
  exact hC.minv (initDD_inv cfg B p0 hB hroot cache store polls)

theorem Ended.len (h : Ended cfg F B p0 fin) : fin.layers.length ≤ cfg.P.nbVars + 2 := by
  obtain ⟨cache, store, polls, hC⟩ := h.chain
  exact hC.len (Nat.zero_le _)

theorem Ended.inv2 (h : Ended cfg F B p0 fin) (hB : NoClamp cfg.P cfg.R cfg.root.value B) : Inv2 cfg fin := by
  obtain ⟨cache, store, polls, hC⟩ := h.chain
  exact hC.inv2 hB (initDD_inv2 cfg cache store polls)

/-- the finalized layers are well formed: the cut-set is sound (C08 (i), (ii)) by `finalize_cutset_sound` -/
theorem Ended.wf (h : Ended cfg F B p0 fin) (hB : NoClamp cfg.P cfg.R cfg.root.value B)
    (hroot : Reach cfg.P cfg.root.depth cfg.root.state cfg.root.value p0) :
    CutWF cfg p0 (finalizeLayers fin).layers (finalizeLayers fin).lel :=
  finalizeLayers_wf cfg B p0 _ (h.minv hB hroot) (h.inv2 hB)

/-- without the `must` bit, a reported exact value is the value of the reported solution -/
theorem Ended.isSol_false (h : Ended cfg F B p0 fin) (hB : NoClamp cfg.P cfg.R cfg.root.value B)
    (hroot : Reach cfg.P cfg.root.depth cfg.root.state cfg.root.value p0) (w : Int)
    (hw : (finalize cfg (finalizeLayers fin) false).1.bestExactValue = some w) :
    IsSol cfg p0 w (finalize cfg (finalizeLayers fin) false).1.bestExactSol := by
  have hinv := h.minv hB hroot
  rw [finalize_bestExactValue, terminals_finalizeLayers] at hw
  simp only [Bool.false_eq_true, if_false] at hw
  rcases h.term with hnil | ⟨hnv, hdepth⟩
  · rw [hnil] at hw; cases hw
  · refine finalize_exactSol_false cfg p0 w fin hnv hw ?_
    intro n hn hx
    obtain ⟨q, hq, hr, hd, _⟩ := hinv.next n hn hx
    exact ⟨q, hq.mono _, by rw [hdepth, ← hd]; exact hr⟩

theorem Ended.finOk (h : Ended cfg F B p0 fin) (hrel : cfg.ctype = .relaxed) (hW : 1 ≤ cfg.width)
    (hB : NoClamp cfg.P cfg.R cfg.root.value B)
    (hroot : Reach cfg.P cfg.root.depth cfg.root.state cfg.root.value p0) : FinOk cfg B p0 (fin.layers ++ [fin.next]) := by
  have hinv := h.minv hB hroot
  obtain ⟨cache, store, polls, hC⟩ := h.chain
  have hG := hC.g2 hrel hW (initDD_g2 cfg cache store polls)
  exact ⟨MInv.append_layer hinv.layers hinv.next, gOk_append_layer hG.layers hG.next, by
    rw [List.length_append, List.length_singleton]; exact Nat.succ_le_succ h.len⟩

/-- with the `must` bit set, the relaxed result is truthful -/
theorem Ended.ebpMust_sound (h : Ended cfg F B p0 fin) (hrel : cfg.ctype = .relaxed) (hW : 1 ≤ cfg.width)
    (hB : NoClamp cfg.P cfg.R cfg.root.value B)
    (hroot : Reach cfg.P cfg.root.depth cfg.root.state cfg.root.value p0)
    (hmust : (finalizeLayers fin).ebpMust true = true) (w : Int)
    (hw : (finalize cfg (finalizeLayers fin) true).1.bestExactValue = some w) :
    Truthful cfg p0 w (finalize cfg (finalizeLayers fin) true).1 := by
  have hF := h.finOk hrel hW hB hroot
  rw [finalize_bestExactValue] at hw
  simp only [if_true] at hw
  have hbv : maxValue fin.next = some w := by
    unfold Built.bestValue at hw; rwa [terminals_finalizeLayers] at hw
  obtain ⟨n1, _, hn1, _⟩ := find?_of_maxValue hbv
  rcases h.term with hnil | ⟨hnv, hdepth⟩
  · rw [hnil] at hn1; cases hn1
  · obtain ⟨hlayers, _⟩ := finalizeLayers_nonempty fin (List.ne_nil_of_mem hn1)
    simp only [Built.ebpMust, Bool.true_and, bestTerminals_finalizeLayers fin w hbv, hlayers, List.all_eq_true,
      List.mem_filter, decide_eq_true_eq] at hmust
    refine finalize_truthful cfg p0 w fin true hbv hnv ?_ (fun h => by cases h)
    intro n hf
    have h1 := List.find?_some hf
    simp only [decide_eq_true_eq] at h1
    have hn := List.mem_of_find?_eq_some hf
    obtain ⟨q, c1, c2, _⟩ := ebpAll_reach cfg B p0 hB _ hF _ _ _ n List.getElem?_concat_length hn (hmust n ⟨hn, h1⟩)
    exact ⟨q, c1, hdepth ▸ c2⟩

end ended

/-- **a loop that ends normally extends a chain**, as soon as every successful step on a non-empty layer is a layer step through framed
    filters satisfying `F` (`J`: what the configuration carries along to know that, e.g. a sound store), and is over at its end -/
theorem buildLoop_chain (cfg : Cfg S K) (F : DD S K → List (Node S) → List Nat → Prop) (B : Int) (p0 : List Dec)
    (hB : NoClamp cfg.P cfg.R cfg.root.value B) {J : DD S K → Prop} (htick : ∀ dd var, J dd → J (tick dd var))
    (hstep : ∀ dd var dd' oc, J dd → AtStep cfg B p0 dd var → stepLayer cfg dd var = (some dd', oc) →
      J dd' ∧ (dd.next ≠ [] → ∃ fl fk, FrameOk dd fl ∧ F dd fl fk ∧ LayerStep cfg var dd dd' fl fk))
    (dd0 : DD S K) (fuel : Nat) (dd : DD S K) (hJ : J dd) (hC : Chain cfg F B p0 dd0 dd) (hM : MInv cfg B p0 dd)
    (hdepth : dd.depth = cfg.root.depth + dd.layers.length) (hfuel : dd.layers.length + fuel ≤ cfg.P.nbVars + 2)
    (hok : (buildLoop cfg none fuel dd).2 = .ok) :
    Chain cfg F B p0 dd0 (buildLoop cfg none fuel dd).1 ∧ Terminal cfg (buildLoop cfg none fuel dd).1 := by
  obtain ⟨fin, ⟨_, hCf⟩, hT, el, en, ed, ell, _⟩ := buildLoop_ind cfg B p0 hB
    (J := fun dd => J dd ∧ Chain cfg F B p0 dd0 dd)
    (fun dd var h => ⟨htick dd var h.1, h.2.congr rfl rfl rfl rfl⟩)
    (fun dd var dd' oc h hc hs => by
      obtain ⟨hJ', hl⟩ := hstep dd var dd' oc h.1 hc hs
      refine ⟨hJ', ?_⟩
      by_cases hne : dd.next = []
      · rw [stepLayer_empty cfg dd var hne] at hs
        cases hs
        exact h.2.brk hc hne
      · obtain ⟨fl, fk, hf, hF, hL⟩ := hl hne
        exact h.2.layer hc hne hf hF hL (Ddo.stepLayer_inv cfg B p0 hB dd var hc.M hc.depth hc.nv hc.len dd' oc hs).1)
    fuel dd ⟨hJ, hC⟩ hM hdepth hfuel hok
  refine ⟨hCf.congr el.symm en.symm ed.symm ell.symm, ?_⟩
  by_cases hne : (buildLoop cfg none fuel dd).1.next = []
  · exact .inl hne
  · exact .inr (el ▸ en ▸ ed ▸ hT (en ▸ hne))

theorem buildLoop_ended (cfg : Cfg S K) (F : DD S K → List (Node S) → List Nat → Prop) (B : Int) (p0 : List Dec)
    (hB : NoClamp cfg.P cfg.R cfg.root.value B) {J : DD S K → Prop} (htick : ∀ dd var, J dd → J (tick dd var))
    (hstep : ∀ dd var dd' oc, J dd → AtStep cfg B p0 dd var → stepLayer cfg dd var = (some dd', oc) →
      J dd' ∧ (dd.next ≠ [] → ∃ fl fk, FrameOk dd fl ∧ F dd fl fk ∧ LayerStep cfg var dd dd' fl fk))
    (cache : Cache S) (store : DomStore S K) (polls : Nat)
    (hroot : Reach cfg.P cfg.root.depth cfg.root.state cfg.root.value p0) (h0 : J (initDD cfg cache store polls))
    (hok : (buildLoop cfg none (cfg.P.nbVars + 2) (initDD cfg cache store polls)).2 = .ok) :
    Ended cfg F B p0 (buildLoop cfg none (cfg.P.nbVars + 2) (initDD cfg cache store polls)).1 := by
  obtain ⟨hC, hT⟩ := buildLoop_chain cfg F B p0 hB htick hstep _ _ _ h0 .refl (initDD_inv cfg B p0 hB hroot cache store polls) rfl
    (Nat.le_of_eq (Nat.zero_add _)) hok
  exact ⟨⟨_, _, _, hC⟩, hT⟩

theorem compile_ended (cfg : Cfg S K) (F : DD S K → List (Node S) → List Nat → Prop) (B : Int) (p0 : List Dec)
    (hB : NoClamp cfg.P cfg.R cfg.root.value B) {J : DD S K → Prop} (htick : ∀ dd var, J dd → J (tick dd var))
    (hstep : ∀ dd var dd' oc, J dd → AtStep cfg B p0 dd var → stepLayer cfg dd var = (some dd', oc) →
      J dd' ∧ (dd.next ≠ [] → ∃ fl fk, FrameOk dd fl ∧ F dd fl fk ∧ LayerStep cfg var dd dd' fl fk))
    (cache : Cache S) (store : DomStore S K) (polls : Nat)
    (hroot : Reach cfg.P cfg.root.depth cfg.root.state cfg.root.value p0) (h0 : J (initDD cfg cache store polls))
    (hok : (compile cfg cache store polls none).1 = .ok) :
    Ended cfg F B p0 (compile cfg cache store polls none).2.2.2 := by
  obtain ⟨hbl, hdd, _⟩ := Ddo.compile_ok cfg cache store polls none hok
  rw [hdd]
  exact buildLoop_ended cfg F B p0 hB htick hstep cache store polls hroot h0 hbl

theorem buildLoop_ended_frame (cfg : Cfg S K) (B : Int) (p0 : List Dec) (hB : NoClamp cfg.P cfg.R cfg.root.value B)
    (hframe : ∀ dd : DD S K, FrameOk dd (Width.preSquash cfg dd).1)
    (cache : Cache S) (store : DomStore S K) (polls : Nat)
    (hroot : Reach cfg.P cfg.root.depth cfg.root.state cfg.root.value p0)
    (hok : (buildLoop cfg none (cfg.P.nbVars + 2) (initDD cfg cache store polls)).2 = .ok) :
    Ended cfg (fun _ _ _ => True) B p0 (buildLoop cfg none (cfg.P.nbVars + 2) (initDD cfg cache store polls)).1 :=
  buildLoop_ended cfg _ B p0 hB (J := fun _ => True) (fun _ _ _ => trivial)
    (fun dd var dd' oc _ _ hs => ⟨trivial, fun hne => ⟨_, _, hframe dd, trivial, stepLayer_layerStep cfg dd dd' var oc hne hs⟩⟩)
    cache store polls hroot trivial hok

end Ddo.C10

namespace Ddo.Truth
open Ddo Ddo.C10
variable {S K : Type} [DecidableEq S] [DecidableEq K]

theorem iso_ended (cfg : Cfg S K) (B : Int) (p0 : List Dec) (hc : cfg.useCache = false) (hd : cfg.dom = none)
    (hB : NoClamp cfg.P cfg.R cfg.root.value B)
    (hroot : Reach cfg.P cfg.root.depth cfg.root.state cfg.root.value p0)
    (cache : Cache S) (store : DomStore S K) (polls : Nat)
    (hok : (buildLoop cfg none (cfg.P.nbVars + 2) (initDD cfg cache store polls)).2 = .ok) :
    Ended cfg (fun _ _ _ => True) B p0 (buildLoop cfg none (cfg.P.nbVars + 2) (initDD cfg cache store polls)).1 :=
  buildLoop_ended_frame cfg B p0 hB (fun dd => by rw [Width.preSquash_iso cfg dd hc hd]; exact FrameOk.refl dd) cache store polls
    hroot hok

/-- relaxed compilation in isolation, `must` bit set: whatever the incumbent, the reported best (exact) value is the value of
    the reported best (exact) solution, a complete feasible path through the root sub-problem -/
theorem ebpMust_sound (cfg : Cfg S K) (B : Int) (p0 : List Dec)
    (hrel : cfg.ctype = .relaxed) (hW : 1 ≤ cfg.width) (hc : cfg.useCache = false) (hd : cfg.dom = none)
    (hB : NoClamp cfg.P cfg.R cfg.root.value B)
    (hroot : Reach cfg.P cfg.root.depth cfg.root.state cfg.root.value p0)
    (cache : Cache S) (store : DomStore S K) (polls : Nat)
    (hok : (buildLoop cfg none (cfg.P.nbVars + 2) (initDD cfg cache store polls)).2 = .ok)
    (hmust : (finalizeLayers (buildLoop cfg none (cfg.P.nbVars + 2) (initDD cfg cache store polls)).1).ebpMust true = true)
    (w : Int)
    (hw : (finalize cfg (finalizeLayers (buildLoop cfg none (cfg.P.nbVars + 2) (initDD cfg cache store polls)).1) true).1.bestExactValue
      = some w) :
    Truthful cfg p0 w (finalize cfg (finalizeLayers (buildLoop cfg none (cfg.P.nbVars + 2) (initDD cfg cache store polls)).1) true).1 :=
  (iso_ended cfg B p0 hc hd hB hroot cache store polls hok).ebpMust_sound hrel hW hB hroot hmust w hw

/-- **the exact-best-path case**: a relaxed compilation in isolation, `hasEBP` = the `must` bit (`Truthful`, the reported
    solutions are the `best` chain of the best terminal node) or the `may` bit (`TruthfulVal`) -/
theorem ebp_truthful (cfg : Cfg S K) (H : Nat → S → EInt) (V : Nat → S → Prop) (B o : Int) (p0 : List Dec)
    (hy : Cover.Hyp cfg H V B o) (hL : LowRel cfg.P H V) (hV : V cfg.root.depth cfg.root.state)
    (hB : NoClamp cfg.P cfg.R cfg.root.value B)
    (hroot : Reach cfg.P cfg.root.depth cfg.root.state cfg.root.value p0)
    (ho : optOf H cfg.root = some o) (cache : Cache S) (store : DomStore S K) (polls : Nat)
    (hok : (buildLoop cfg none (cfg.P.nbVars + 2) (initDD cfg cache store polls)).2 = .ok) :
    ((finalizeLayers (buildLoop cfg none (cfg.P.nbVars + 2) (initDD cfg cache store polls)).1).ebpMust true = true →
      Truthful cfg p0 o (finalize cfg (finalizeLayers (buildLoop cfg none (cfg.P.nbVars + 2) (initDD cfg cache store polls)).1) true).1) ∧
    ((finalizeLayers (buildLoop cfg none (cfg.P.nbVars + 2) (initDD cfg cache store polls)).1).ebpMay true = true →
      TruthfulVal cfg p0 o (finalize cfg (finalizeLayers (buildLoop cfg none (cfg.P.nbVars + 2) (initDD cfg cache store polls)).1) true).1) := by
  have hcov := Cover.buildLoop_cover cfg H V B o hy (cfg.P.nbVars + 2) (initDD cfg cache store polls)
    (Cover.init_inv cfg H V B o cache store polls hV hy.B ho) (Nat.le_of_eq (Nat.zero_add _)) hok
  have hterm := (compile_final cfg B p0 hB hroot cache store polls none).2.2 hok
  have hF := (iso_ended cfg B p0 hy.cache hy.dom hB hroot cache store polls hok).finOk hy.rel hy.W hB hroot
  have hsound := ebpMust_sound cfg B p0 hy.rel hy.W hy.cache hy.dom hB hroot cache store polls hok
  generalize (buildLoop cfg none (cfg.P.nbVars + 2) (initDD cfg cache store polls)).1 = dd at *
  obtain ⟨n0, hn0, hle0⟩ := hcov
  rcases hterm with hnil | ⟨hnv, hdepth⟩
  · rw [hnil] at hn0; cases hn0
  · obtain ⟨bv, hbv, hge⟩ := Cover.maxValue_ge dd.next n0 hn0
    have hbvF : (finalizeLayers dd).bestValue = some bv := by
      unfold Built.bestValue; rw [terminals_finalizeLayers]; exact hbv
    -- a complete path of value `bv` through the root sub-problem forces `bv = o`
    have hkey : ∀ {k : Nat} {s : S} {q : List Dec} {L : List S}, Reach cfg.P k s bv (p0 ++ q) → s ∈ L →
        cfg.P.nextVar k L = none → bv = o := by
      intro k s q L hr hs hnone
      obtain ⟨x, hx, hwx⟩ := complete_le_opt hL hroot hV hr hs hnone
      rw [ho] at hx; cases hx; omega
    constructor
    · intro hmust
      have ht := hsound hmust bv (by rw [finalize_bestExactValue]; exact hbvF)
      obtain ⟨k, s, q, L, hr, hs, hnone, _⟩ := ht.sol
      exact hkey hr hs hnone ▸ ht
    · intro hmay
      obtain ⟨hlayers, _⟩ := finalizeLayers_nonempty dd (List.ne_nil_of_mem hn0)
      obtain ⟨n1, _, hn1, hv1⟩ := find?_of_maxValue hbv
      simp only [Built.ebpMay, Bool.true_and, bestTerminals_finalizeLayers dd bv hbv, hlayers, Bool.or_eq_true,
        List.isEmpty_iff, List.any_eq_true, List.mem_filter, decide_eq_true_eq] at hmay
      rcases hmay with hemp | ⟨n, ⟨hn, hv⟩, hs⟩
      · have : n1 ∈ dd.next.filter (fun n => decide (n.value = bv)) := by
          rw [List.mem_filter]; exact ⟨hn1, by simpa using hv1⟩
        rw [hemp] at this; cases this
      · obtain ⟨q, hr, _⟩ := ebpSome_reach cfg B p0 hB _ hF _ _ _ n List.getElem?_concat_length hn hs
        rw [← hdepth, hv] at hr
        have hbo := hkey hr (List.mem_map_of_mem hn) hnv
        subst hbo
        exact ⟨hbvF, by rw [finalize_bestExactValue]; exact hbvF, dd.depth, n.state, q, _, hr,
          List.mem_map_of_mem hn, hnv⟩

end Ddo.Truth
