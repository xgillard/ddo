import DdoModel.Proofs.ParDomGenDefs
import DdoModel.Proofs.ParDomInv
/-! # The parallel solver with the dominance checker, for any answer relations that meet `AnsOk`: the closed theorem

What the compilations answer is a parameter (`okR` / `okX`, `GStep` of `Proofs/ParDomGenDefs.lean`); everything is proved of the
transition system `ParSys.Step` at these answers.
* the side conditions `GPCInv` are `ParClosed.PCInvG` (`gpcinv_iff`), so `step_gpcinv`, `step_glayinv` are
  `ParClosed.gstep_pcinv`, `ParClosed.gstep_layinv` read through it; `gstep_progress`: some step that cuts nothing off is enabled as
  long as a worker has not left (no deadlock, no lost wake-up, no panic);
* `GAll`: everything that holds in every reachable state (side conditions `GPCInv`, bookkeeping `LayInv`, nothing cut off `NoCut`,
  the coverage invariant `DSysInv` of `Proofs/ParDomInv.lean` for the protected family);
* `parallel_dominance_of`, `parallel_dominance_total`: termination, no panic, no deadlock, the optimum at `Complete` and when
  `maximize()` returns — for any answer relations meeting `AnsOk`. -/
set_option linter.unusedSectionVars false
set_option linter.unusedVariables false
namespace Ddo.ParDom
open Ddo Ddo.Truth Ddo.Closed Ddo.ParSys Ddo.ParClosed Ddo.C10
open Ddo.C01 (SolverCfg WellFormed toOut SolOf)
variable {S K : Type} [DecidableEq S] [DecidableEq K]

theorem gpcinv_iff {dv : DSolverCfg S K} {H : Nat → S → EInt} {B : Int} {okR okX : SubP S → Int → DDOut S → Prop} {s : Sys S} :
    GPCInv dv H okR okX B s ↔ PCInvG dv.sv H okR okX B s := by
  have hw : ∀ w : WSt S, GWInv okR okX B w ↔ WInvG okR okX B w := fun w => by cases w <;> exact Iff.rfl
  exact ⟨fun h => ⟨h.base, fun w m => ⟨(h.ws w m).node, (hw w).mp (h.ws w m).stage⟩⟩,
    fun h => ⟨h.base, fun w m => ⟨(h.ws w m).node, (hw w).mpr (h.ws w m).stage⟩⟩⟩

/-- (`opt` exists: there is nothing to say of an infeasible problem) -/
theorem step_gpcinv {dv : DSolverCfg S K} {H : Nat → S → EInt} {B0 B opt : Int}
    {okR okX : SubP S → Int → DDOut S → Prop} (hwf : WellFormed dv.sv H B0 B)
    (hopt : (H 0 dv.sv.P.init).addI dv.sv.P.initVal = some opt)
    (hfR : ∀ n lb o, C01.NodeOk dv.sv.P n → okR n lb o →
      ∀ w, o.bestExact = some w → w ≤ B ∧ ∃ p, o.bestExactSol = some p)
    (hfX : ∀ n lb o, C01.NodeOk dv.sv.P n → okX n lb o →
      (∀ w, o.bestExact = some w → w ≤ B ∧ ∃ p, o.bestExactSol = some p) ∧
      (∀ c ∈ o.cutset, C01.NodeOk dv.sv.P c ∧ n.depth < c.depth ∧ c.depth ≤ dv.sv.P.nbVars)) {s t : Sys S}
    (h : Step dv.sv.dedup okR okX s t) (hI : GPCInv dv H okR okX B s) : GPCInv dv H okR okX B t :=
  have hinf : ∀ {o : DDOut S}, (H 0 dv.sv.P.init).addI dv.sv.P.initVal = none → o.bestExact = none :=
    fun e => by rw [hopt] at e; cases e
  gpcinv_iff.mpr (ParClosed.gstep_pcinv (fun n lb o hn hok => ⟨hfR n lb o hn hok, hinf⟩)
    (fun n lb o hn hok => ⟨(hfX n lb o hn hok).1, hinf⟩) (fun n lb o hn hok => (hfX n lb o hn hok).2) h (gpcinv_iff.mp hI))

theorem init_gpcinv {dv : DSolverCfg S K} {H : Nat → S → EInt} {B0 B : Int} (okR okX : SubP S → Int → DDOut S → Prop)
    (hwf : WellFormed dv.sv H B0 B) (U : Nat) : GPCInv dv H okR okX B (Sys.init dv.sv.P none dv.sv.dedup U) := by
  refine ⟨(init_pcinv hwf none (fun _ _ h => by cases h) U).base, ?_⟩
  intro w hw
  have hw : w ∈ List.replicate U (WSt.idle : WSt S) := hw
  rw [List.eq_of_mem_replicate hw]
  exact ⟨fun n h => (by cases h), trivial⟩

theorem step_glayinv {dv : DSolverCfg S K} {H : Nat → S → EInt} {B0 B : Int}
    {okR okX : SubP S → Int → DDOut S → Prop} (hwf : WellFormed dv.sv H B0 B)
    (hfX : ∀ n lb o, C01.NodeOk dv.sv.P n → okX n lb o →
      (∀ w, o.bestExact = some w → w ≤ B ∧ ∃ p, o.bestExactSol = some p) ∧
      (∀ c ∈ o.cutset, C01.NodeOk dv.sv.P c ∧ n.depth < c.depth ∧ c.depth ≤ dv.sv.P.nbVars)) {s t : Sys S}
    (h : Step dv.sv.dedup okR okX s t) (hI : GPCInv dv H okR okX B s) (hL : LayInv dv.sv s) : LayInv dv.sv t :=
  ParClosed.gstep_layinv hwf (fun n lb o hn hok => (hfX n lb o hn hok).2) h (gpcinv_iff.mp hI) hL

/-- **no deadlock, no lost wake-up, no panic**: some step that cuts nothing off is enabled as long as a worker has not left
    (`ParClosed.gstep_progress`) -/
theorem gstep_progress {dv : DSolverCfg S K} {H : Nat → S → EInt} {B0 B : Int}
    {okR okX : SubP S → Int → DDOut S → Prop} (hwf : WellFormed dv.sv H B0 B)
    (haR : ∀ n lb, C01.NodeOk dv.sv.P n → ∃ o, okR n lb o) (haX : ∀ n lb, C01.NodeOk dv.sv.P n → ∃ o, okX n lb o) {s : Sys S}
    (hI : GPCInv dv H okR okX B s) (hL : LayInv dv.sv s) (hnc : NoCut s) (hlive : ¬ AllDone s) :
    ∃ t, GStep dv.sv.dedup okR okX s t := by
  obtain ⟨t, ht, hna⟩ := ParClosed.gstep_progress hwf haR haX (gpcinv_iff.mp hI) hL hlive
  exact ⟨t, ht, hna (fun w hw n => (hnc.2 w hw n).1)⟩

/-- the pending cut-sets make progress (for termination: `C03b.sys_terminates`) -/
theorem gpcinv_progOk {dv : DSolverCfg S K} {H : Nat → S → EInt} {B opt : Int} {Prot : Nat → S → Int → Prop}
    {okR okX : SubP S → Int → DDOut S → Prop} (hA : AnsOk dv B opt Prot okR okX) {s : Sys S}
    (hI : GPCInv dv H okR okX B s) : ProgOk dv.sv.P.nbVars s := by
  intro j n lb o hw c hc
  cases hw with
  | inl hw =>
    have h := hI.ws _ (List.mem_of_getElem? hw)
    exact ((hA.factsX _ _ _ (h.node n rfl) h.stage).2 c hc).2
  | inr hw =>
    have h := hI.ws _ (List.mem_of_getElem? hw)
    exact ((hA.factsX _ _ _ (h.node n rfl) h.stage).2 c hc).2

structure GAll (dv : DSolverCfg S K) (H : Nat → S → EInt) (okR okX : SubP S → Int → DDOut S → Prop) (B opt : Int)
    (Prot : Nat → S → Int → Prop) (s : Sys S) : Prop where
  pc : GPCInv dv H okR okX B s
  lay : LayInv dv.sv s
  noCut : NoCut s
  cov : DSysInv (OnP Prot) opt (SolOf dv.sv.P) s

theorem init_gall {dv : DSolverCfg S K} {H : Nat → S → EInt} {B0 B opt : Int} {Prot : Nat → S → Int → Prop}
    {okR okX : SubP S → Int → DDOut S → Prop} (hwf : WellFormed dv.sv H B0 B)
    (hopt : (H 0 dv.sv.P.init).addI dv.sv.P.initVal = some opt) (hPr : Protected dv.D dv.sv.P H opt Prot) (U : Nat) :
    GAll dv H okR okX B opt Prot (Sys.init dv.sv.P none dv.sv.dedup U) := by
  have hb := opt_bound hwf.pot hwf.nv hwf.bound hopt
  have hBs := hwf.bound.B_small
  have h1 : opt ≤ iMax := by simp only [iMax]; omega
  have h2 : iMin ≤ opt := by simp only [iMin]; omega
  refine ⟨init_gpcinv okR okX hwf U, init_layinv dv.sv none U, init_noCut dv.sv.P none dv.sv.dedup U, ?_⟩
  exact init_dinv (OnP Prot) opt (SolOf dv.sv.P) dv.sv.P dv.sv.dedup U ⟨dv.sv.P.initVal, Int.le_refl _, hPr.root⟩ h1 h2

/-- on a state with `GPCInv` every compilation that answers is that of an exactly reached node with a stale incumbent in range -/
theorem gstep_lift {dv : DSolverCfg S K} {H : Nat → S → EInt} {B : Int} {okR okX : SubP S → Int → DDOut S → Prop} {s t : Sys S}
    (h : Step dv.sv.dedup okR okX s t) (hI : GPCInv dv H okR okX B s) :
    Step dv.sv.dedup (fun n lb o => okR n lb o ∧ C01.NodeOk dv.sv.P n ∧ iMin ≤ lb ∧ lb ≤ B)
      (fun n lb o => okX n lb o ∧ C01.NodeOk dv.sv.P n ∧ iMin ≤ lb ∧ lb ≤ B) s t :=
  step_mono h
    (fun i n lb o hw hok => ⟨hok, (hI.ws _ (List.mem_of_getElem? hw)).node n rfl, (hI.ws _ (List.mem_of_getElem? hw)).stage⟩)
    (fun i n lb o hw hok => ⟨hok, (hI.ws _ (List.mem_of_getElem? hw)).node n rfl, (hI.ws _ (List.mem_of_getElem? hw)).stage⟩)

theorem gstep_gall {dv : DSolverCfg S K} {H : Nat → S → EInt} {B0 B opt : Int} {Prot : Nat → S → Int → Prop}
    {okR okX : SubP S → Int → DDOut S → Prop} (hwf : WellFormed dv.sv H B0 B)
    (hopt : (H 0 dv.sv.P.init).addI dv.sv.P.initVal = some opt) (hPr : Protected dv.D dv.sv.P H opt Prot)
    (hA : AnsOk dv B opt Prot okR okX) {s t : Sys S} (h : GStep dv.sv.dedup okR okX s t)
    (hI : GAll dv H okR okX B opt Prot s) : GAll dv H okR okX B opt Prot t := by
  refine ⟨step_gpcinv hwf hopt hA.factsR hA.factsX h.1 hI.pc, step_glayinv hwf hA.factsX h.1 hI.pc hI.lay, step_noCut h.1 hI.noCut h.2, ?_⟩
  exact step_dinv (OnP Prot) opt (SolOf dv.sv.P) dv.sv.dedup (onP_mono Prot)
    (fun n lb o h hle => hA.contractR n lb o h.2.1 h.2.2.1 h.2.2.2 hle h.1)
    (fun n lb o h hle => hA.contractX n lb o h.2.1 h.2.2.1 h.2.2.2 hle h.1)
    (gstep_lift h.1 hI.pc) hI.cov

theorem grun_gall_of {dv : DSolverCfg S K} {H : Nat → S → EInt} {B0 B opt : Int} {Prot : Nat → S → Int → Prop}
    {okR okX : SubP S → Int → DDOut S → Prop} (hwf : WellFormed dv.sv H B0 B)
    (hopt : (H 0 dv.sv.P.init).addI dv.sv.P.initVal = some opt) (hPr : Protected dv.D dv.sv.P H opt Prot)
    (hA : AnsOk dv B opt Prot okR okX) {s t : Sys S} (h : GRun dv.sv.dedup okR okX s t)
    (hI : GAll dv H okR okX B opt Prot s) : GAll dv H okR okX B opt Prot t := by
  induction h with
  | refl => exact hI
  | tail _ hst ih => exact gstep_gall hwf hopt hPr hA hst ih

theorem grun_gall {dv : DSolverCfg S K} {H : Nat → S → EInt} {B0 B opt : Int} {Prot : Nat → S → Int → Prop}
    {okR okX : SubP S → Int → DDOut S → Prop} (hwf : WellFormed dv.sv H B0 B)
    (hopt : (H 0 dv.sv.P.init).addI dv.sv.P.initVal = some opt) (hPr : Protected dv.D dv.sv.P H opt Prot)
    (hA : AnsOk dv B opt Prot okR okX) {U : Nat} {t : Sys S}
    (h : GRun dv.sv.dedup okR okX (Sys.init dv.sv.P none dv.sv.dedup U) t) : GAll dv H okR okX B opt Prot t :=
  grun_gall_of hwf hopt hPr hA h (init_gall hwf hopt hPr U)

theorem grun_head {dedup : Bool} {okR okX : SubP S → Int → DDOut S → Prop} {s t u : Sys S}
    (h : GStep dedup okR okX s t) (r : GRun dedup okR okX t u) : GRun dedup okR okX s u := by
  induction r with
  | refl => exact GRun.tail (GRun.refl _) h
  | tail _ hst ih => exact GRun.tail ih hst

theorem grun_trans {dedup : Bool} {okR okX : SubP S → Int → DDOut S → Prop} {s t u : Sys S}
    (h1 : GRun dedup okR okX s t) (h2 : GRun dedup okR okX t u) : GRun dedup okR okX s u := by
  induction h2 with
  | refl => exact h1
  | tail _ hst ih => exact GRun.tail ih hst

theorem grun_length {dedup : Bool} {okR okX : SubP S → Int → DDOut S → Prop} {s u : Sys S}
    (h : GRun dedup okR okX s u) : u.ws.length = s.ws.length := by
  induction h with
  | refl => rfl
  | tail _ hst ih =>
    rw [← ih]
    have hst := hst.1
    cases hst <;> simp [List.length_set, List.length_map]

theorem gpar_terminates {dv : DSolverCfg S K} {H : Nat → S → EInt} {B0 B opt : Int} {Prot : Nat → S → Int → Prop}
    {okR okX : SubP S → Int → DDOut S → Prop} (hwf : WellFormed dv.sv H B0 B)
    (hopt : (H 0 dv.sv.P.init).addI dv.sv.P.initVal = some opt) (hPr : Protected dv.D dv.sv.P H opt Prot)
    (hA : AnsOk dv B opt Prot okR okX) (U : Nat) :
    WellFounded (fun t s : Sys S =>
      GRun dv.sv.dedup okR okX (Sys.init dv.sv.P none dv.sv.dedup U) s ∧ GStep dv.sv.dedup okR okX s t) :=
  Subrelation.wf (fun {_ _} h => ⟨h.2.1, gpcinv_progOk hA (grun_gall hwf hopt hPr hA h.1).pc⟩)
    (C03b.sys_terminates dv.sv.P.nbVars dv.sv.dedup okR okX)

theorem gpar_no_infinite_run {dv : DSolverCfg S K} {H : Nat → S → EInt} {B0 B opt : Int} {Prot : Nat → S → Int → Prop}
    {okR okX : SubP S → Int → DDOut S → Prop} (hwf : WellFormed dv.sv H B0 B)
    (hopt : (H 0 dv.sv.P.init).addI dv.sv.P.initVal = some opt) (hPr : Protected dv.D dv.sv.P H opt Prot)
    (hA : AnsOk dv B opt Prot okR okX) (U : Nat)
    (run : Nat → Sys S) (h0 : run 0 = Sys.init dv.sv.P none dv.sv.dedup U) :
    ¬ ∀ k, GStep dv.sv.dedup okR okX (run k) (run (k + 1)) :=
  no_infinite_run_of (gpar_terminates hwf hopt hPr hA U) GRun.tail And.intro run (h0 ▸ GRun.refl _)

theorem gpar_complete_optimal {dv : DSolverCfg S K} {H : Nat → S → EInt} {B0 B opt : Int} {Prot : Nat → S → Int → Prop}
    {okR okX : SubP S → Int → DDOut S → Prop} (hwf : WellFormed dv.sv H B0 B)
    (hopt : (H 0 dv.sv.P.init).addI dv.sv.P.initVal = some opt) {t : Sys S}
    (hI : GAll dv H okR okX B opt Prot t) {i : Nat} (hc : CompletesAt t i) :
    t.crit.base.bestLb = opt ∧ (∃ p, t.crit.base.bestSol = some p ∧ SolOf dv.sv.P p opt) ∧
    t.crit.complete.base.bestUb = opt ∧ t.crit.complete.base.completion = (true, some opt) := by
  obtain ⟨h1, h2⟩ := dcomplete_optimal (OnP Prot) opt (SolOf dv.sv.P) hI.cov hc
  obtain ⟨p, hs⟩ := hI.pc.base.sol_some hwf hopt h1
  refine ⟨h1, ⟨p, hs, h2 p hs⟩, h1, ?_⟩
  show (!t.crit.base.abort, t.crit.base.bestSol.map (fun _ => t.crit.base.bestLb)) = _
  rw [hc.2.1, h1, hs]; rfl

theorem gpar_final {dv : DSolverCfg S K} {H : Nat → S → EInt} {B0 B opt : Int} {Prot : Nat → S → Int → Prop}
    {okR okX : SubP S → Int → DDOut S → Prop} (hwf : WellFormed dv.sv H B0 B)
    (hopt : (H 0 dv.sv.P.init).addI dv.sv.P.initVal = some opt) (hPr : Protected dv.D dv.sv.P H opt Prot)
    (hA : AnsOk dv B opt Prot okR okX) (U : Nat) (hU : 1 ≤ U) {t : Sys S}
    (ht : GRun dv.sv.dedup okR okX (Sys.init dv.sv.P none dv.sv.dedup U) t) (hd : AllDone t) :
    t.crit.base.bestLb = opt ∧ (∃ p, t.crit.base.bestSol = some p ∧ SolOf dv.sv.P p opt) ∧
    t.crit.base.completion = (true, some opt) := by
  have hI := grun_gall hwf hopt hPr hA ht
  have hlen : t.ws.length = U := by
    rw [grun_length ht]; simp [Sys.init]
  have hne : t.ws ≠ [] := by
    intro e; rw [e] at hlen; simp at hlen; omega
  have ha : t.crit.base.abort = false := hI.noCut.1
  have h1 := dfinal_optimal (OnP Prot) opt (SolOf dv.sv.P) hI.cov hd hne ha
  obtain ⟨p, hs⟩ := hI.pc.base.sol_some hwf hopt h1
  refine ⟨h1, ⟨p, hs, h1 ▸ hI.cov.solOk p hs⟩, ?_⟩
  show (!t.crit.base.abort, t.crit.base.bestSol.map (fun _ => t.crit.base.bestLb)) = _
  rw [ha, h1, hs]; rfl

/-- **the generic headline**: for every well-formed model, every protected family of the dominance rule, every pair of answer
    relations meeting `AnsOk` and every number of threads `U ≥ 1`, the parallel solver (no compilation cut off), in every
    interleaving: terminates; in every reachable state: `GAll`; no panic, no deadlock; the optimum with a feasible solution at
    `Complete` and when `maximize()` returns; always `best_lb ≤ opt` with a feasible stored solution of value `best_lb`. -/
theorem parallel_dominance_of (dv : DSolverCfg S K) (H : Nat → S → EInt) (B0 B opt : Int) (Prot : Nat → S → Int → Prop)
    (okR okX : SubP S → Int → DDOut S → Prop)
    (hwf : WellFormed dv.sv H B0 B) (hopt : (H 0 dv.sv.P.init).addI dv.sv.P.initVal = some opt)
    (hPr : Protected dv.D dv.sv.P H opt Prot) (hA : AnsOk dv B opt Prot okR okX) (U : Nat) (hU : 1 ≤ U) :
    WellFounded (fun t s : Sys S =>
      GRun dv.sv.dedup okR okX (Sys.init dv.sv.P none dv.sv.dedup U) s ∧ GStep dv.sv.dedup okR okX s t) ∧
    (∀ run : Nat → Sys S, run 0 = Sys.init dv.sv.P none dv.sv.dedup U →
      ¬ ∀ k, GStep dv.sv.dedup okR okX (run k) (run (k + 1))) ∧
    ∀ t, GRun dv.sv.dedup okR okX (Sys.init dv.sv.P none dv.sv.dedup U) t →
      GAll dv H okR okX B opt Prot t ∧
      (NoCrash t ∧ t.crit.base.crashed = false ∧ (¬ AllDone t → ∃ u, GStep dv.sv.dedup okR okX t u)) ∧
      (∀ i, CompletesAt t i →
        t.crit.base.bestLb = opt ∧ (∃ p, t.crit.base.bestSol = some p ∧ SolOf dv.sv.P p opt) ∧
        t.crit.complete.base.bestUb = opt ∧ t.crit.complete.base.completion = (true, some opt)) ∧
      (AllDone t →
        t.crit.base.bestLb = opt ∧ (∃ p, t.crit.base.bestSol = some p ∧ SolOf dv.sv.P p opt) ∧
        t.crit.base.completion = (true, some opt)) ∧
      t.crit.base.bestLb ≤ opt ∧ (∀ p, t.crit.base.bestSol = some p → SolOf dv.sv.P p t.crit.base.bestLb) := by
  refine ⟨gpar_terminates hwf hopt hPr hA U, gpar_no_infinite_run hwf hopt hPr hA U, fun t ht => ?_⟩
  have hI := grun_gall hwf hopt hPr hA ht
  exact ⟨hI, ⟨hI.lay.hand.noCrash, hI.lay.crit.noPanic, fun hlive => gstep_progress hwf hA.answersR hA.answersX hI.pc hI.lay hI.noCut hlive⟩,
    fun i hc => gpar_complete_optimal hwf hopt hI hc, fun hd => gpar_final hwf hopt hPr hA U hU ht hd,
    hI.cov.lbOk, hI.cov.solOk⟩

theorem grun_to_end {dv : DSolverCfg S K} {H : Nat → S → EInt} {B0 B opt : Int} {Prot : Nat → S → Int → Prop}
    {okR okX : SubP S → Int → DDOut S → Prop} (hwf : WellFormed dv.sv H B0 B)
    (hopt : (H 0 dv.sv.P.init).addI dv.sv.P.initVal = some opt) (hPr : Protected dv.D dv.sv.P H opt Prot)
    (hA : AnsOk dv B opt Prot okR okX) (U : Nat) {s : Sys S}
    (hs : GRun dv.sv.dedup okR okX (Sys.init dv.sv.P none dv.sv.dedup U) s) :
    ∃ t, GRun dv.sv.dedup okR okX (Sys.init dv.sv.P none dv.sv.dedup U) t ∧ GRun dv.sv.dedup okR okX s t ∧ AllDone t :=
  run_to_end_of GRun.refl GRun.tail grun_head (gpar_terminates hwf hopt hPr hA U)
    (fun s hs hd => let hI := grun_gall hwf hopt hPr hA hs
      gstep_progress hwf hA.answersR hA.answersX hI.pc hI.lay hI.noCut hd) hs

/-- a run from `initialize()` to the return of `maximize()` exists, and every such run reports the optimum -/
theorem parallel_dominance_total (dv : DSolverCfg S K) (H : Nat → S → EInt) (B0 B opt : Int) (Prot : Nat → S → Int → Prop)
    (okR okX : SubP S → Int → DDOut S → Prop)
    (hwf : WellFormed dv.sv H B0 B) (hopt : (H 0 dv.sv.P.init).addI dv.sv.P.initVal = some opt)
    (hPr : Protected dv.D dv.sv.P H opt Prot) (hA : AnsOk dv B opt Prot okR okX) (U : Nat) (hU : 1 ≤ U) :
    (∃ t, GRun dv.sv.dedup okR okX (Sys.init dv.sv.P none dv.sv.dedup U) t ∧ AllDone t) ∧
    ∀ t, GRun dv.sv.dedup okR okX (Sys.init dv.sv.P none dv.sv.dedup U) t → AllDone t →
      t.crit.base.completion = (true, some opt) ∧ t.crit.base.bestLb = opt ∧
      ∃ p, t.crit.base.bestSol = some p ∧ SolOf dv.sv.P p opt := by
  refine ⟨?_, fun t ht hd => ?_⟩
  · obtain ⟨t, h1, _, h3⟩ := grun_to_end hwf hopt hPr hA U (GRun.refl _)
    exact ⟨t, h1, h3⟩
  · obtain ⟨h1, h2, h3⟩ := gpar_final hwf hopt hPr hA U hU ht hd
    exact ⟨h3, h1, h2⟩

end Ddo.ParDom

#print axioms Ddo.ParDom.init_gall
#print axioms Ddo.ParDom.gstep_gall
#print axioms Ddo.ParDom.grun_gall
#print axioms Ddo.ParDom.parallel_dominance_of
#print axioms Ddo.ParDom.grun_to_end
#print axioms Ddo.ParDom.parallel_dominance_total
