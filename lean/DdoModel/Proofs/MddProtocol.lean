import DdoModel.Proofs.MddStep
import DdoModel.Proofs.MddCutset
/-! # C12 over whole compilations: the callback protocol of the diagram compiler

`ProtocolOk`: the chronological log (`dd.log.reverse`) of `buildLoop` is a sequence of layer blocks (`Blocks`); block
number `j` starts with `Call.nextVar (rootDepth + j) states ans` (the depth handed to `next_variable` is the number of
completed layers below the root of the compilation), and inside it every call is judged against the calls that precede
it in the block and against the previous block (`CallOk`).  `Props/C12b.lean` spells out what this says call by call,
and proves it for any compilation type, cache / dominance configuration, width, cutoff and fuel.

The proof follows the log delta of every piece of `stepLayer` (the filters do not log and only shrink `cur`).  A `relax`
call must name an arc that the previous block created, with the cost of the model: this is the loop invariant `LoopInv`
on the inbound arcs of `dd.next`.  The log of the expansion is stated for an arbitrary initial next layer
(`expand_logP`) because the pooled diagram (`Proofs/PooledProtocol.lean`) expands into the pool nodes that wait;
`expandAll_log` is the case `[]`.  The two stage-local statements of `Props/C12.lean` are read off `expandAll_log` and
`relaxLayer_rel`. -/
set_option linter.unusedSectionVars false
set_option linter.unusedVariables false
namespace Ddo.C12
open Ddo
variable {S K : Type} [DecidableEq S] [DecidableEq K]

/-- `pre` = the calls of the block so far.  The merged state is a state of the layer although it was not handed to
    `next_variable`, which is asked before the layer is squashed. -/
def InLayer (states : List S) (pre : List (Call S)) (s : S) : Prop :=
  s ∈ states ∨ ∃ sts, Call.merge sts s ∈ pre

def ArcFrom (P : Problem S) (pb : List (Call S)) (src dst : S) (d : Dec) (c : Int) : Prop :=
  Call.cost src dst d ∈ pb ∧ dst = P.trans src d ∧ d.val ∈ P.domain d.var src ∧ c = P.cost src dst d

/-- `var` = the answer of `next_variable` on `states`; `prev` = the calls of the previous block, `none` for the first block
    of the compilation; `pre` = the calls that precede the call in its block.  `merge` has `pre = []`: it is the first
    call of its block, hence at most one per layer. -/
def CallOk (P : Problem S) (R : Relax S) (var : Nat) (states : List S) (prev : Option (List (Call S)))
    (pre : List (Call S)) : Call S → Prop
  | .nextVar _ _ _ => False
  | .rub s => InLayer states pre s
  | .domain v s => v = var ∧ InLayer states pre s
  | .trans s d => d.var = var ∧ d.val ∈ P.domain var s ∧ InLayer states pre s ∧ Call.domain var s ∈ pre
  | .cost s t d => d.var = var ∧ d.val ∈ P.domain var s ∧ t = P.trans s d ∧ InLayer states pre s ∧
      ∃ pre', pre = pre' ++ [Call.trans s d]
  | .merge sts res => pre = [] ∧ res = R.merge sts ∧ 2 ≤ sts.length ∧ ∀ s ∈ sts, s ∈ states
  | .relax src dst merged d c =>
      (∃ sts, Call.merge sts merged ∈ pre ∧ dst ∈ sts) ∧
      ∃ pb, prev = some pb ∧ ArcFrom P pb src dst d c
  | .impacted _ _ => False

def LogOk (Q : List (Call S) → Call S → Prop) (pre0 body : List (Call S)) : Prop :=
  ∀ pre c post, body = pre ++ c :: post → Q (pre0 ++ pre) c

def BodyOk (P : Problem S) (R : Relax S) (var : Nat) (states : List S) (prev : Option (List (Call S)))
    (body : List (Call S)) : Prop :=
  LogOk (CallOk P R var states prev) [] body

def StatesOk (prev : Option (List (Call S))) (states : List S) : Prop :=
  ∀ pb, prev = some pb → ∀ s ∈ states, ∃ src d, Call.cost src s d ∈ pb

/-- `Blocks P R k prev log`: `log` (chronological) is a sequence of layer blocks, the first of which is at depth `k`
    and is preceded by the block `prev` -/
inductive Blocks (P : Problem S) (R : Relax S) : Nat → Option (List (Call S)) → List (Call S) → Prop
  | done (k : Nat) (prev : Option (List (Call S))) : Blocks P R k prev []
  | last (k : Nat) (prev : Option (List (Call S))) (states : List S) :
      P.nextVar k states = none → StatesOk prev states →
      Blocks P R k prev [Call.nextVar k states none]
  | block (k : Nat) (prev : Option (List (Call S))) (states : List S) (var : Nat) (body rest : List (Call S)) :
      P.nextVar k states = some var → StatesOk prev states →
      BodyOk P R var states prev body → Blocks P R (k + 1) (some body) rest →
      Blocks P R k prev (Call.nextVar k states (some var) :: (body ++ rest))

def ProtocolOk (P : Problem S) (R : Relax S) (rootDepth : Nat) (log : List (Call S)) : Prop :=
  Blocks P R rootDepth none log

theorem LogOk.nil (Q : List (Call S) → Call S → Prop) (pre0 : List (Call S)) : LogOk Q pre0 [] := by
  intro pre c post h
  cases pre <;> cases h

theorem LogOk.cons_iff {Q : List (Call S) → Call S → Prop} {pre0 : List (Call S)} {x : Call S} {body : List (Call S)} :
    LogOk Q pre0 (x :: body) ↔ Q pre0 x ∧ LogOk Q (pre0 ++ [x]) body := by
  constructor
  · intro h
    refine ⟨?_, ?_⟩
    · have := h [] x body rfl
      rwa [List.append_nil] at this
    · intro pre c post hb
      have := h (x :: pre) c post (by rw [hb]; rfl)
      rwa [List.append_assoc, List.singleton_append]
  · rintro ⟨h1, h2⟩ pre c post hb
    cases pre with
    | nil =>
      simp only [List.nil_append, List.cons.injEq] at hb
      rw [List.append_nil, ← hb.1]; exact h1
    | cons y pre' =>
      simp only [List.cons_append, List.cons.injEq] at hb
      have := h2 pre' c post hb.2
      rw [List.append_assoc, List.singleton_append] at this
      rw [← hb.1]; exact this

theorem LogOk.append_iff {Q : List (Call S) → Call S → Prop} {A B : List (Call S)} :
    ∀ {pre0 : List (Call S)}, LogOk Q pre0 (A ++ B) ↔ LogOk Q pre0 A ∧ LogOk Q (pre0 ++ A) B := by
  induction A with
  | nil =>
    intro pre0
    simp only [List.nil_append, List.append_nil]
    exact ⟨fun h => ⟨LogOk.nil _ _, h⟩, fun h => h.2⟩
  | cons x A ih =>
    intro pre0
    rw [List.cons_append, LogOk.cons_iff, LogOk.cons_iff, ih, List.append_assoc, List.singleton_append]
    exact ⟨fun ⟨a, b, c⟩ => ⟨⟨a, b⟩, c⟩, fun ⟨⟨a, b⟩, c⟩ => ⟨a, b, c⟩⟩

theorem LogOk.snoc {Q : List (Call S) → Call S → Prop} {pre0 body : List (Call S)} {c : Call S}
    (h : LogOk Q pre0 body) (hc : Q (pre0 ++ body) c) : LogOk Q pre0 (body ++ [c]) :=
  LogOk.append_iff.2 ⟨h, LogOk.cons_iff.2 ⟨hc, LogOk.nil _ _⟩⟩

theorem LogOk.mono {Q Q' : List (Call S) → Call S → Prop} {pre0 pre1 body : List (Call S)}
    (h : LogOk Q pre0 body) (hq : ∀ pre c, c ∈ body → Q (pre0 ++ pre) c → Q' (pre1 ++ pre) c) : LogOk Q' pre1 body := by
  intro pre c post hb
  exact hq pre c (by rw [hb]; exact List.mem_append_right _ List.mem_cons_self) (h pre c post hb)

theorem LogOk.of_forall {Q : List (Call S) → Call S → Prop} {pre0 body : List (Call S)}
    (h : ∀ c ∈ body, ∀ pre, Q (pre0 ++ pre) c) : LogOk Q pre0 body := by
  intro pre c post hb
  exact h c (by rw [hb]; exact List.mem_append_right _ List.mem_cons_self) pre

theorem LogOk.mem {Q : List (Call S) → Call S → Prop} {pre0 body : List (Call S)} (h : LogOk Q pre0 body)
    {c : Call S} (hc : c ∈ body) : ∃ pre post, body = pre ++ c :: post ∧ Q (pre0 ++ pre) c := by
  obtain ⟨pre, post, hb⟩ := List.append_of_mem hc
  exact ⟨pre, post, hb, h pre c post hb⟩

/-- `CallOk` for the calls of the expansion alone (`pre` = those that precede the call), with membership in the states
    `L` of the expanded layer in place of `InLayer` (`CallOk.of_expQ`) -/
def ExpQ (P : Problem S) (var : Nat) (L : List S) (pre : List (Call S)) : Call S → Prop
  | .rub s => s ∈ L
  | .domain v s => v = var ∧ s ∈ L
  | .trans s d => d.var = var ∧ d.val ∈ P.domain var s ∧ s ∈ L ∧ Call.domain var s ∈ pre
  | .cost s t d => d.var = var ∧ d.val ∈ P.domain var s ∧ t = P.trans s d ∧ s ∈ L ∧
      ∃ pre', pre = pre' ++ [Call.trans s d]
  | _ => False

def NxOk (P : Problem S) (L : List S) (lidx : Nat) (delta : List (Call S)) (n : Node S) : Prop :=
  (∃ src d, Call.cost src n.state d ∈ delta) ∧
  ∀ e ∈ n.inb, e.fromL = lidx ∧ ∃ src, L[e.fromP]? = some src ∧ ArcFrom P delta src n.state e.dec e.cost

theorem ArcFrom.mono {P : Problem S} {pb pb' : List (Call S)} {src dst : S} {d : Dec} {c : Int}
    (h : ArcFrom P pb src dst d c) (hsub : ∀ x ∈ pb, x ∈ pb') : ArcFrom P pb' src dst d c :=
  ⟨hsub _ h.1, h.2⟩

/-- `NxOk` when the expansion starts from the next layer `rest` (pooled diagram: the pool nodes that were skipped): a node
    may continue a node of `rest` with the same state, and keeps the arcs that one had. -/
def NxOkP (P : Problem S) (L : List S) (lidx : Nat) (rest : List (Node S)) (delta : List (Call S)) (n : Node S) : Prop :=
  ((∃ src d, Call.cost src n.state d ∈ delta) ∨ ∃ n0 ∈ rest, n0.state = n.state) ∧
  ∀ e ∈ n.inb, (∃ n0 ∈ rest, n0.state = n.state ∧ e ∈ n0.inb) ∨
    (e.fromL = lidx ∧ ∃ src, L[e.fromP]? = some src ∧ ArcFrom P delta src n.state e.dec e.cost)

theorem NxOkP.mono {P : Problem S} {L : List S} {lidx : Nat} {rest : List (Node S)} {delta delta' : List (Call S)}
    {n : Node S} (h : NxOkP P L lidx rest delta n) (hsub : ∀ x ∈ delta, x ∈ delta') : NxOkP P L lidx rest delta' n := by
  obtain ⟨h1, h2⟩ := h
  refine ⟨h1.imp (fun ⟨src, d, h⟩ => ⟨src, d, hsub _ h⟩) id, fun e he => ?_⟩
  rcases h2 e he with h3 | ⟨h3, s, h4, h5⟩
  · exact .inl h3
  · exact .inr ⟨h3, s, h4, h5.mono hsub⟩

def ExpInvP (P : Problem S) (var : Nat) (L : List S) (lidx : Nat) (rest : List (Node S)) (log : List (Call S))
    (acc : List (Node S) × List (Node S) × List (Call S)) : Prop :=
  acc.1.map (·.state) = L ∧ ∃ delta, acc.2.2 = delta ++ log ∧ LogOk (ExpQ P var L) [] delta.reverse ∧
    ∀ n ∈ acc.2.1, NxOkP P L lidx rest delta n

theorem expandOne_logP (cfg : Cfg S K) (var lidx : Nat) (L : List S) (rest : List (Node S)) (log : List (Call S))
    (acc : List (Node S) × List (Node S) × List (Call S)) (p : Nat) (h : ExpInvP cfg.P var L lidx rest log acc) :
    ExpInvP cfg.P var L lidx rest log (expandOne cfg var lidx acc p) := by
  obtain ⟨ly, nx, lg⟩ := acc
  obtain ⟨hst, delta, hlg, hok, hnx⟩ := h
  dsimp only at hst hlg hnx
  unfold expandOne
  dsimp only
  split
  · exact ⟨hst, delta, hlg, hok, hnx⟩
  · rename_i n hn
    have hLp : L[p]? = some n.state := by rw [← hst, List.getElem?_map, hn]; rfl
    have hmem : n.state ∈ L := List.mem_of_getElem? hLp
    have hst' : (ly.set p { n with rub := cfg.R.rub n.state }).map (·.state) = L :=
      (map_set_same (·.state) ly p n _ hn (by rfl)).trans hst
    have hrub : LogOk (ExpQ cfg.P var L) [] (Call.rub n.state :: delta).reverse := by
      rw [List.reverse_cons]; exact hok.snoc hmem
    split
    · generalize hfold : List.foldl _ _ (cfg.P.domain var n.state) = r
      have hJ : ∃ delta', r.2 = delta' ++ log ∧ LogOk (ExpQ cfg.P var L) [] delta'.reverse ∧
          Call.domain var n.state ∈ delta' ∧ ∀ m ∈ r.1, NxOkP cfg.P L lidx rest delta' m := by
        rw [← hfold]
        refine Cover.foldl_inv (β := List (Node S) × List (Call S)) (fun r => ∃ delta', r.2 = delta' ++ log ∧
          LogOk (ExpQ cfg.P var L) [] delta'.reverse ∧
          Call.domain var n.state ∈ delta' ∧ ∀ m ∈ r.1, NxOkP cfg.P L lidx rest delta' m) _ _ _ ?_ ?_
        · refine ⟨Call.domain var n.state :: Call.rub n.state :: delta, by rw [hlg]; rfl, ?_, List.mem_cons_self, ?_⟩
          · rw [List.reverse_cons]; exact hrub.snoc ⟨rfl, hmem⟩
          · intro m hm
            exact (hnx m hm).mono (fun x hx => List.mem_cons_of_mem _ (List.mem_cons_of_mem _ hx))
        · rintro ⟨nx', lg'⟩ d hd ⟨delta', h1, h2, h3, h4⟩
          dsimp only at h1 h4 ⊢
          refine ⟨Call.cost n.state (cfg.P.trans n.state ⟨var, d⟩) ⟨var, d⟩ :: Call.trans n.state ⟨var, d⟩ :: delta',
            by rw [h1]; rfl, ?_, List.mem_cons_of_mem _ (List.mem_cons_of_mem _ h3), ?_⟩
          · rw [List.reverse_cons, List.reverse_cons]
            refine (h2.snoc ?_).snoc ?_
            · exact ⟨rfl, hd, hmem, by rw [List.nil_append]; exact List.mem_reverse.2 h3⟩
            · exact ⟨rfl, hd, rfl, hmem, delta'.reverse, by rw [List.nil_append]⟩
          · intro c hc
            have hmono : ∀ x ∈ delta', x ∈ Call.cost n.state (cfg.P.trans n.state ⟨var, d⟩) ⟨var, d⟩ ::
                Call.trans n.state ⟨var, d⟩ :: delta' :=
              fun x hx => List.mem_cons_of_mem _ (List.mem_cons_of_mem _ hx)
            rcases branchOn_mem cfg _ lidx p ⟨var, d⟩ nx' c hc with hc | ⟨m, hm, hms, hceq⟩
            · exact (h4 c hc).mono hmono
            · rw [hceq]
              have hcs : (appendEdge { n with rub := cfg.R.rub n.state } m
                  ⟨lidx, p, ⟨var, d⟩, cfg.P.cost n.state (cfg.P.trans n.state ⟨var, d⟩) ⟨var, d⟩⟩).state =
                  cfg.P.trans n.state ⟨var, d⟩ := by rw [Ddo.appendEdge_state]; exact hms
              refine ⟨.inl ⟨n.state, ⟨var, d⟩, by rw [hcs]; exact List.mem_cons_self⟩, ?_⟩
              intro e he
              rw [Ddo.appendEdge_inb] at he
              rw [hcs]
              rcases List.mem_cons.1 he with he | he
              · subst he
                exact .inr ⟨rfl, n.state, hLp, List.mem_cons_self, rfl, hd, rfl⟩
              · rcases hm with hm | hm
                · rcases (h4 m hm).2 e he with ⟨n0, hn0, hs0, he0⟩ | ⟨h5, s, h6, h7⟩
                  · exact .inl ⟨n0, hn0, hs0.trans hms, he0⟩
                  · rw [hms] at h7
                    exact .inr ⟨h5, s, h6, h7.mono hmono⟩
                · rw [hm] at he; simp only [freshNode] at he; cases he
      obtain ⟨delta', h1, h2, _, h4⟩ := hJ
      exact ⟨hst', delta', h1, h2, h4⟩
    · exact ⟨hst', Call.rub n.state :: delta, by rw [hlg]; rfl, hrub,
        fun m hm => (hnx m hm).mono (fun x hx => List.mem_cons_of_mem _ hx)⟩

theorem expand_logP (cfg : Cfg S K) (var lidx : Nat) (layer rest : List (Node S)) (cur : List Nat) (log : List (Call S)) :
    (cur.foldl (expandOne cfg var lidx) (layer, rest, log)).1.map (·.state) = layer.map (·.state) ∧
    ∃ delta, (cur.foldl (expandOne cfg var lidx) (layer, rest, log)).2.2 = delta ++ log ∧
      LogOk (ExpQ cfg.P var (layer.map (·.state))) [] delta.reverse ∧
      ∀ n ∈ (cur.foldl (expandOne cfg var lidx) (layer, rest, log)).2.1,
        NxOkP cfg.P (layer.map (·.state)) lidx rest delta n := by
  refine Cover.foldl_inv (ExpInvP cfg.P var (layer.map (·.state)) lidx rest log) _ _ _ ?_ ?_
  · exact ⟨rfl, [], rfl, LogOk.nil _ _, fun n hn => ⟨.inr ⟨n, hn, rfl⟩, fun e he => .inl ⟨n, hn, rfl, he⟩⟩⟩
  · intro acc p _ h
    exact expandOne_logP cfg var lidx _ rest log acc p h

theorem NxOkP.nil {P : Problem S} {L : List S} {lidx : Nat} {delta : List (Call S)} {n : Node S}
    (h : NxOkP P L lidx [] delta n) : NxOk P L lidx delta n :=
  ⟨h.1.resolve_right (fun ⟨_, h0, _⟩ => nomatch h0), fun e he => (h.2 e he).resolve_left (fun ⟨_, h0, _⟩ => nomatch h0)⟩

theorem expandAll_log (cfg : Cfg S K) (var lidx : Nat) (layer : List (Node S)) (cur : List Nat) (log : List (Call S)) :
    (expandAll cfg var lidx layer cur log).1.map (·.state) = layer.map (·.state) ∧
    ∃ delta, (expandAll cfg var lidx layer cur log).2.2 = delta ++ log ∧
      LogOk (ExpQ cfg.P var (layer.map (·.state))) [] delta.reverse ∧
      ∀ n ∈ (expandAll cfg var lidx layer cur log).2.1, NxOk cfg.P (layer.map (·.state)) lidx delta n :=
  let ⟨h1, delta, h2, h3, h4⟩ := expand_logP cfg var lidx layer [] cur log
  ⟨h1, delta, h2, h3, fun n hn => (h4 n hn).nil⟩

open Ddo.Cover (redirStep dropStep keepOf restOf restStatesOf mergedOf recycledOf markRelaxed undelete freshMerged)

theorem inner_log (cfg : Cfg S K) (layers : List (List (Node S))) (merged : S) (mpos : Nat) (dropN : Node S)
    (inb : List Arc) (acc : List (Node S) × List (Call S)) :
    ∃ rel, (inb.foldl (redirStep cfg layers merged mpos dropN) acc).2 = rel ++ acc.2 ∧
      ∀ c ∈ rel, ∃ e ∈ inb, ∃ src, getNode layers e.fromL e.fromP = some src ∧
        c = Call.relax src.state dropN.state merged e.dec e.cost := by
  induction inb generalizing acc with
  | nil => exact ⟨[], rfl, fun c hc => by cases hc⟩
  | cons e es ih =>
    rw [List.foldl_cons]
    obtain ⟨rel, h1, h2⟩ := ih (redirStep cfg layers merged mpos dropN acc e)
    have hstep : (redirStep cfg layers merged mpos dropN acc e).2 = acc.2 ∨
        ∃ src, getNode layers e.fromL e.fromP = some src ∧
          (redirStep cfg layers merged mpos dropN acc e).2 =
            Call.relax src.state dropN.state merged e.dec e.cost :: acc.2 := by
      unfold redirStep
      cases hg : getNode layers e.fromL e.fromP with
      | none => exact .inl rfl
      | some src =>
        cases hm : acc.1[mpos]? with
        | none => exact .inl rfl
        | some m => exact .inr ⟨src, rfl, rfl⟩
    rcases hstep with hs | ⟨src, hsrc, hs⟩
    · refine ⟨rel, by rw [h1, hs], fun c hc => ?_⟩
      obtain ⟨e', he', hrest⟩ := h2 c hc
      exact ⟨e', List.mem_cons_of_mem _ he', hrest⟩
    · refine ⟨rel ++ [Call.relax src.state dropN.state merged e.dec e.cost], by rw [h1, hs, List.append_assoc]; rfl, fun c hc => ?_⟩
      rcases List.mem_append.1 hc with hc | hc
      · obtain ⟨e', he', hrest⟩ := h2 c hc
        exact ⟨e', List.mem_cons_of_mem _ he', hrest⟩
      · rw [List.mem_singleton] at hc
        exact ⟨e, List.mem_cons_self, src, hsrc, hc⟩

theorem dropStep_log (cfg : Cfg S K) (layers : List (List (Node S))) (merged : S) (mpos : Nat)
    (acc : List (Node S) × List (Call S)) (p : Nat) :
    ∃ rel, (dropStep cfg layers merged mpos acc p).2 = rel ++ acc.2 ∧
      ∀ c ∈ rel, ∃ dropN, acc.1[p]? = some dropN ∧ ∃ e ∈ dropN.inb, ∃ src, getNode layers e.fromL e.fromP = some src ∧
        c = Call.relax src.state dropN.state merged e.dec e.cost := by
  unfold dropStep
  cases h : acc.1[p]? with
  | none => exact ⟨[], rfl, fun c hc => by cases hc⟩
  | some dropN =>
    dsimp only
    obtain ⟨rel, h1, h2⟩ := inner_log cfg layers merged mpos dropN dropN.inb (acc.1.set p { dropN with deleted := true }, acc.2)
    exact ⟨rel, h1, fun c hc => ⟨dropN, rfl, h2 c hc⟩⟩

theorem outer_log (cfg : Cfg S K) (layers : List (List (Node S))) (merged : S) (mpos : Nat) (L2 : List (Node S))
    (rest : List Nat) (acc : List (Node S) × List (Call S)) (hext : Cover.Ext mpos L2 acc.1) :
    ∃ rel, (rest.foldl (dropStep cfg layers merged mpos) acc).2 = rel ++ acc.2 ∧
      ∀ c ∈ rel, ∃ p ∈ rest, ∃ ly dropN, Cover.Ext mpos L2 ly ∧ ly[p]? = some dropN ∧ ∃ e ∈ dropN.inb, ∃ src,
        getNode layers e.fromL e.fromP = some src ∧ c = Call.relax src.state dropN.state merged e.dec e.cost := by
  induction rest generalizing acc with
  | nil => exact ⟨[], rfl, fun c hc => by cases hc⟩
  | cons p ps ih =>
    rw [List.foldl_cons]
    obtain ⟨rel1, h1, h2⟩ := dropStep_log cfg layers merged mpos acc p
    obtain ⟨rel2, h3, h4⟩ := ih (dropStep cfg layers merged mpos acc p)
      (hext.trans (Cover.dropStep_ext cfg layers merged mpos acc p))
    refine ⟨rel2 ++ rel1, by rw [h3, h1, List.append_assoc], fun c hc => ?_⟩
    rcases List.mem_append.1 hc with hc | hc
    · obtain ⟨q, hq, rest'⟩ := h4 c hc
      exact ⟨q, List.mem_cons_of_mem _ hq, rest'⟩
    · obtain ⟨dropN, hd, hrest⟩ := h2 c hc
      exact ⟨p, List.mem_cons_self, acc.1, dropN, hext, hd, hrest⟩

theorem Ext.map_state {mpos : Nat} {a b : List (Node S)} (h : Cover.Ext mpos a b) :
    b.map (·.state) = a.map (·.state) := by
  apply List.ext_getElem?
  intro q
  rw [List.getElem?_map, List.getElem?_map]
  by_cases hq : q = mpos
  · subst hq
    cases ha : a[q]? with
    | none =>
      rw [List.getElem?_eq_none_iff] at ha
      rw [List.getElem?_eq_none (h.len ▸ ha)]
    | some m =>
      obtain ⟨m', hm', hs, _⟩ := h.at_m m ha
      rw [hm', Option.map_some, Option.map_some, hs]
  · have := congrArg (Option.map Prod.fst) (h.other q hq)
    rw [Option.map_map, Option.map_map] at this
    exact this

theorem Ext.found {mpos : Nat} {layer X ly : List (Node S)} (hX : ∀ p, p < layer.length → X[p]? = layer[p]?)
    (hE : Cover.Ext mpos X ly) {p : Nat} (hp : p < layer.length) {dropN : Node S} (hd : ly[p]? = some dropN) :
    (layer[p]?).map (·.state) = some dropN.state ∧ (p ≠ mpos → (layer[p]?).map Cover.sig = some (Cover.sig dropN)) := by
  constructor
  · have := congrArg (·[p]?) (Ext.map_state hE)
    simp only [List.getElem?_map, hd, hX p hp] at this
    exact this.symm
  · intro hne
    rw [← hX p hp, ← hE.other p hne, hd]
    rfl

theorem length_filterMap_all {α β : Type} (f : α → Option β) (l : List α) (h : ∀ a ∈ l, ∃ b, f a = some b) :
    (l.filterMap f).length = l.length := by
  induction l with
  | nil => rfl
  | cons a r ih =>
    obtain ⟨b, hb⟩ := h a List.mem_cons_self
    rw [List.filterMap_cons, hb]
    simp only [List.length_cons]
    rw [ih (fun x hx => h x (List.mem_cons_of_mem _ hx))]

theorem restStates_facts (cfg : Cfg S K) (layer : List (Node S)) (cur : List Nat) (hcur : ∀ p ∈ cur, p < layer.length) :
    (1 ≤ cfg.width → cur.length > cfg.width → 2 ≤ (restStatesOf cfg layer cur).length) ∧
    (∀ s ∈ restStatesOf cfg layer cur, s ∈ layer.map (·.state)) ∧
    (∀ p ∈ restOf cfg layer cur, ∀ n, layer[p]? = some n → n.state ∈ restStatesOf cfg layer cur) := by
  have hrest : ∀ p ∈ restOf cfg layer cur, p < layer.length := fun p hp => by
    unfold restOf sortSquash at hp
    exact hcur p ((Cover.mem_sortBy _ cur p).1 (List.mem_of_mem_drop hp))
  refine ⟨fun hW hlen => ?_, fun s hs => ?_, fun p hp n hn => ?_⟩
  · unfold restStatesOf
    rw [length_filterMap_all]
    · unfold restOf sortSquash
      rw [List.length_drop, Cover.length_sortBy]
      omega
    · intro p hp
      exact ⟨(layer[p]'(hrest p hp)).state, by rw [List.getElem?_eq_getElem (hrest p hp)]; rfl⟩
  · unfold restStatesOf at hs
    obtain ⟨p, _, hp⟩ := List.mem_filterMap.1 hs
    obtain ⟨n, hn, hns⟩ := Option.map_eq_some_iff.1 hp
    exact List.mem_map.2 ⟨n, List.mem_of_getElem? hn, hns⟩
  · unfold restStatesOf
    exact List.mem_filterMap.2 ⟨p, hp, by rw [hn]; rfl⟩

/-- `X` is `layer` (a kept node is recycled as merged node) or `layer ++ [fresh merged node]`: whence `hX` -/
theorem redirect_rel (cfg : Cfg S K) (layers : List (List (Node S))) (merged : S) (layer X : List (Node S)) (mpos : Nat)
    (rest : List Nat) (lg0 : List (Call S)) (hX : ∀ p, p < layer.length → X[p]? = layer[p]?)
    (hrest : ∀ p ∈ rest, p < layer.length) :
    Cover.Ext mpos X (rest.foldl (dropStep cfg layers merged mpos) (markRelaxed X mpos, lg0)).1 ∧
    ∃ rel, (rest.foldl (dropStep cfg layers merged mpos) (markRelaxed X mpos, lg0)).2 = rel ++ lg0 ∧
      ∀ c ∈ rel, ∃ p ∈ rest, ∃ dropN : Node S, (layer[p]?).map (·.state) = some dropN.state ∧
        (p ≠ mpos → (layer[p]?).map Cover.sig = some (Cover.sig dropN)) ∧ ∃ e ∈ dropN.inb, ∃ src,
          getNode layers e.fromL e.fromP = some src ∧ c = Call.relax src.state dropN.state merged e.dec e.cost := by
  have E1 := Cover.markRelaxed_ext mpos X mpos
  obtain ⟨rel, h1, h2⟩ := outer_log cfg layers merged mpos (markRelaxed X mpos) rest (markRelaxed X mpos, lg0)
    (Cover.Ext.refl _ _)
  refine ⟨E1.trans (Cover.outer_ext cfg layers merged mpos rest (markRelaxed X mpos, lg0)), rel, h1, fun c hc => ?_⟩
  obtain ⟨p, hp, ly, dropN, hE, hd, harc⟩ := h2 c hc
  obtain ⟨f1, f2⟩ := Ext.found hX (E1.trans hE) (hrest p hp) hd
  exact ⟨p, hp, dropN, f1, f2, harc⟩

/-- what `relaxLayer` answers (`r`).  The node `dropN` whose inbound arc a `relax` call is for has the state of the
    merged-away node `layer[p]`; it is that node up to its flags only when the positions in `cur` are distinct: otherwise
    a position can be kept and merged away at once, and the node recycled as merged node has received redirected arcs. -/
def RelaxRel (cfg : Cfg S K) (layers : List (List (Node S))) (layer : List (Node S)) (cur : List Nat)
    (log : List (Call S)) (r : List (Node S) × List Nat × List (Call S)) : Prop :=
  (r.1.map (·.state) = layer.map (·.state) ∨ r.1.map (·.state) = layer.map (·.state) ++ [mergedOf cfg layer cur]) ∧
  ∃ rel, r.2.2 = rel ++ Call.merge (restStatesOf cfg layer cur) (mergedOf cfg layer cur) :: log ∧
    ∀ c ∈ rel, ∃ p ∈ restOf cfg layer cur, ∃ dropN : Node S, (layer[p]?).map (·.state) = some dropN.state ∧
      (cur.Nodup → (layer[p]?).map Cover.sig = some (Cover.sig dropN)) ∧ ∃ e ∈ dropN.inb, ∃ src,
        getNode layers e.fromL e.fromP = some src ∧
        c = Call.relax src.state dropN.state (mergedOf cfg layer cur) e.dec e.cost

theorem relaxLayer_rel (cfg : Cfg S K) (layers : List (List (Node S))) (layer : List (Node S)) (cur : List Nat)
    (log : List (Call S)) (hcur : ∀ p ∈ cur, p < layer.length) :
    RelaxRel cfg layers layer cur log (relaxLayer cfg layers layer cur log) := by
  have hrest : ∀ p ∈ restOf cfg layer cur, p < layer.length := fun p hp => by
    unfold restOf sortSquash at hp
    exact hcur p ((Cover.mem_sortBy _ cur p).1 (List.mem_of_mem_drop hp))
  have hdisj : cur.Nodup → ∀ a ∈ keepOf cfg layer cur, ∀ b ∈ restOf cfg layer cur, a ≠ b := by
    intro hnd
    have hs : (sortSquash cfg layer cur).Nodup := by unfold sortSquash; exact nodup_sortBy _ cur hnd
    rw [← List.take_append_drop (cfg.width - 1) (sortSquash cfg layer cur)] at hs
    exact (List.nodup_append.1 hs).2.2
  refine relaxLayer_cases cfg layers layer cur log (RelaxRel cfg layers layer cur log) ?_ ?_
  · -- fresh merged node, at position `layer.length`
    intro hrec
    generalize Theta.d0Of cfg layer cur = d0
    obtain ⟨E, rel, h1, h2⟩ := redirect_rel cfg layers (mergedOf cfg layer cur) layer
      (layer ++ [freshMerged (mergedOf cfg layer cur) d0]) layer.length (restOf cfg layer cur)
      (Call.merge (restStatesOf cfg layer cur) (mergedOf cfg layer cur) :: log)
      (fun q hq => List.getElem?_append_left hq) hrest
    refine ⟨.inr ?_, rel, h1, fun c hc => ?_⟩
    · rw [Ext.map_state E, List.map_append]
      rfl
    · obtain ⟨p, hp, dropN, f1, f2, harc⟩ := h2 c hc
      exact ⟨p, hp, dropN, f1, fun _ => f2 (Nat.ne_of_lt (hrest p hp)), harc⟩
  · -- recycled node, at a kept position
    intro mp hrec
    have hmk : mp ∈ keepOf cfg layer cur := List.mem_of_find?_eq_some hrec
    obtain ⟨E, rel, h1, h2⟩ := redirect_rel cfg layers (mergedOf cfg layer cur) layer layer mp (restOf cfg layer cur)
      (Call.merge (restStatesOf cfg layer cur) (mergedOf cfg layer cur) :: log) (fun _ _ => rfl) hrest
    refine ⟨.inl (Ext.map_state (E.trans (Cover.undelete_ext mp _ _))), rel, h1, fun c hc => ?_⟩
    obtain ⟨p, hp, dropN, f1, f2, harc⟩ := h2 c hc
    exact ⟨p, hp, dropN, f1, fun hnd => f2 (fun h => hdisj hnd mp hmk p hp h.symm), harc⟩

theorem relaxLayer_log (cfg : Cfg S K) (layers : List (List (Node S))) (layer : List (Node S)) (cur : List Nat)
    (log : List (Call S)) (hcur : ∀ p ∈ cur, p < layer.length) (hnd : cur.Nodup) :
    ((relaxLayer cfg layers layer cur log).1.map (·.state) = layer.map (·.state) ∨
     (relaxLayer cfg layers layer cur log).1.map (·.state) = layer.map (·.state) ++ [mergedOf cfg layer cur]) ∧
    ∃ rel, (relaxLayer cfg layers layer cur log).2.2 =
        rel ++ Call.merge (restStatesOf cfg layer cur) (mergedOf cfg layer cur) :: log ∧
      ∀ c ∈ rel, ∃ p ∈ restOf cfg layer cur, ∃ n, layer[p]? = some n ∧ ∃ e ∈ n.inb, ∃ src,
        getNode layers e.fromL e.fromP = some src ∧
        c = Call.relax src.state n.state (mergedOf cfg layer cur) e.dec e.cost := by
  obtain ⟨hst, rel, h1, h2⟩ := relaxLayer_rel cfg layers layer cur log hcur
  refine ⟨hst, rel, h1, fun c hc => ?_⟩
  obtain ⟨p, hp, dropN, _, hsig, e, he, src, hsrc, rfl⟩ := h2 c hc
  obtain ⟨n, hn, hns⟩ := Option.map_eq_some_iff.1 (hsig hnd)
  simp only [Cover.sig, Prod.mk.injEq] at hns
  exact ⟨p, hp, n, hn, e, hns.2.2 ▸ he, src, hsrc, by rw [hns.1]⟩

theorem restrictLayer_states (cfg : Cfg S K) (layer : List (Node S)) (cur : List Nat) :
    (restrictLayer cfg layer cur).1.map (·.state) = layer.map (·.state) := by
  unfold restrictLayer
  dsimp only
  refine Cover.foldl_inv (β := List (Node S)) (fun acc => acc.map (·.state) = layer.map (·.state)) _ _ _ rfl ?_
  intro ly p _ h
  split
  · rename_i n hn
    refine (map_set_same (·.state) ly p n _ hn ?_).trans h
    rfl
  · exact h

theorem squash_cases (cfg : Cfg S K) (dd : DD S K) (layer : List (Node S)) (cur : List Nat)
    (l : List (Node S)) (c : List Nat) (lg : List (Call S)) (lel : Option Nat)
    (h : squash cfg dd layer cur = some (l, c, lg, lel)) :
    (lg = dd.log ∧ l.map (·.state) = layer.map (·.state)) ∨
    (1 ≤ cfg.width ∧ cur.length > cfg.width ∧ l = (relaxLayer cfg dd.layers layer cur dd.log).1 ∧
      lg = (relaxLayer cfg dd.layers layer cur dd.log).2.2) := by
  have hs := squash_spec cfg dd layer cur
  rw [h] at hs
  cases hs with
  | keep _ _ => exact .inl ⟨rfl, rfl⟩
  | restrict _ _ _ => exact .inl ⟨rfl, restrictLayer_states cfg layer cur⟩
  | relax _ hW hlen _ => exact .inr ⟨hW, hlen, rfl, rfl⟩

/-- `prev` = the calls of the previous layer block, `none` before the first -/
structure LoopInv (cfg : Cfg S K) (dd : DD S K) (prev : Option (List (Call S))) : Prop where
  arcs : ∀ n ∈ dd.next, ∀ e ∈ n.inb, ∃ pb, prev = some pb ∧ ∃ src, getNode dd.layers e.fromL e.fromP = some src ∧
    ArcFrom cfg.P pb src.state n.state e.dec e.cost
  origin : ∀ pb, prev = some pb → ∀ n ∈ dd.next, ∃ src d, Call.cost src n.state d ∈ pb

theorem LoopInv.congr {cfg : Cfg S K} {dd dd' : DD S K} {prev : Option (List (Call S))} (h : LoopInv cfg dd prev)
    (hl : dd'.layers = dd.layers) (hn : dd'.next = dd.next) : LoopInv cfg dd' prev := by
  obtain ⟨h1, h2⟩ := h
  exact ⟨hl ▸ hn ▸ h1, hn ▸ h2⟩

theorem CallOk.of_expQ {P : Problem S} {R : Relax S} {var : Nat} {states : List S} {prev : Option (List (Call S))}
    {L : List S} {pfx pre : List (Call S)} {c : Call S} (hL : ∀ s ∈ L, InLayer states pfx s)
    (h : ExpQ P var L pre c) : CallOk P R var states prev (pfx ++ pre) c := by
  have hin : ∀ s ∈ L, InLayer states (pfx ++ pre) s := fun s hs =>
    (hL s hs).imp id (fun ⟨sts, h⟩ => ⟨sts, List.mem_append_left _ h⟩)
  cases c with
  | rub s => exact hin s h
  | domain v s => exact ⟨h.1, hin s h.2⟩
  | trans s d => exact ⟨h.1, h.2.1, hin s h.2.2.1, List.mem_append_right _ h.2.2.2⟩
  | cost s t d =>
    obtain ⟨h1, h2, h3, h4, pre', h5⟩ := h
    exact ⟨h1, h2, h3, hin s h4, pfx ++ pre', by rw [h5, List.append_assoc]⟩
  | nextVar _ _ _ => exact h
  | merge _ _ => exact False.elim h
  | relax _ _ _ _ _ => exact False.elim h
  | impacted _ _ => exact h

theorem getElem?_of_map_state {ly : List (Node S)} {L : List S} (h : ly.map (·.state) = L) {p : Nat} {s : S}
    (hp : L[p]? = some s) : ∃ n, ly[p]? = some n ∧ n.state = s := by
  rw [← h, List.getElem?_map] at hp
  exact Option.map_eq_some_iff.1 hp

theorem expand_finish (cfg : Cfg S K) (dd : DD S K) (var : Nat) (prev : Option (List (Call S))) (states : List S)
    (pfx : List (Call S)) (lsq : List (Node S)) (csq : List Nat) (lgsq : List (Call S))
    (hlg : lgsq = pfx.reverse ++ dd.log)
    (hpfx : LogOk (CallOk cfg.P cfg.R var states prev) [] pfx)
    (hL : ∀ s ∈ lsq.map (·.state), InLayer states pfx s) :
    ∃ body, (expandAll cfg var dd.layers.length lsq csq lgsq).2.2.reverse = dd.log.reverse ++ body ∧
      BodyOk cfg.P cfg.R var states prev body ∧
      (∀ n ∈ (expandAll cfg var dd.layers.length lsq csq lgsq).2.1, ∀ e ∈ n.inb, ∃ src,
        getNode (dd.layers ++ [(expandAll cfg var dd.layers.length lsq csq lgsq).1]) e.fromL e.fromP = some src ∧
        ArcFrom cfg.P body src.state n.state e.dec e.cost) ∧
      (∀ n ∈ (expandAll cfg var dd.layers.length lsq csq lgsq).2.1, ∃ src d, Call.cost src n.state d ∈ body) := by
  obtain ⟨hE1, delta, hE2, hE3, hE4⟩ := expandAll_log cfg var dd.layers.length lsq csq lgsq
  generalize expandAll cfg var dd.layers.length lsq csq lgsq = r at hE1 hE2 hE4 ⊢
  have hsub : ∀ x ∈ delta, x ∈ pfx ++ delta.reverse := fun x hx =>
    List.mem_append_right _ (List.mem_reverse.2 hx)
  refine ⟨pfx ++ delta.reverse, ?_, ?_, ?_, ?_⟩
  · rw [hE2, hlg, List.reverse_append, List.reverse_append, List.reverse_reverse, List.append_assoc]
  · refine LogOk.append_iff.2 ⟨hpfx, ?_⟩
    exact hE3.mono (fun pre c _ hq => CallOk.of_expQ hL hq)
  · intro n hn e he
    obtain ⟨hfrom, s, hs, harc⟩ := (hE4 n hn).2 e he
    obtain ⟨srcN, hsrcN, hst⟩ := getElem?_of_map_state hE1 hs
    refine ⟨srcN, ?_, ?_⟩
    · rw [hfrom, Cover.getNode_last]; exact hsrcN
    · rw [hst]; exact harc.mono hsub
  · intro n hn
    obtain ⟨src, d, h⟩ := (hE4 n hn).1
    exact ⟨src, d, hsub _ h⟩

theorem states_of_sig {a b : List (Node S)} (h : a.map Cover.sig = b.map Cover.sig) :
    a.map (·.state) = b.map (·.state) := by
  have e : ∀ l : List (Node S), l.map (·.state) = (l.map Cover.sig).map Prod.fst := by
    intro l; rw [List.map_map]; rfl
  rw [e, e, h]

theorem mem_of_sig {a b : List (Node S)} (h : a.map Cover.sig = b.map Cover.sig) {n : Node S} (hn : n ∈ a) :
    ∃ n0 ∈ b, n0.state = n.state ∧ n0.inb = n.inb := by
  have : Cover.sig n ∈ b.map Cover.sig := h ▸ List.mem_map_of_mem hn
  obtain ⟨n0, h0, hs⟩ := List.mem_map.1 this
  simp only [Cover.sig, Prod.mk.injEq] at hs
  exact ⟨n0, h0, hs.1, hs.2.2⟩

theorem preSquash_keep (cfg : Cfg S K) (dd : DD S K) :
    (Width.preSquash cfg dd).1.map Cover.sig = dd.next.map Cover.sig ∧ (Width.preSquash cfg dd).2.1.Nodup ∧
    ∀ p ∈ (Width.preSquash cfg dd).2.1, p < (Width.preSquash cfg dd).1.length := by
  unfold Width.preSquash
  have hfc : (if dd.layers.isEmpty = true then (dd.next, List.range dd.next.length)
        else filterCache cfg dd.cache dd.next (List.range dd.next.length)).1.map Cover.sig = dd.next.map Cover.sig ∧
      (if dd.layers.isEmpty = true then (dd.next, List.range dd.next.length)
        else filterCache cfg dd.cache dd.next (List.range dd.next.length)).2.Nodup ∧
      ∀ p ∈ (if dd.layers.isEmpty = true then (dd.next, List.range dd.next.length)
        else filterCache cfg dd.cache dd.next (List.range dd.next.length)).2, p < dd.next.length := by
    split
    · exact ⟨rfl, List.nodup_range, fun p hp => List.mem_range.1 hp⟩
    · obtain ⟨h1, h2⟩ := filterCache_keep cfg dd.cache dd.next (List.range dd.next.length)
      exact ⟨h1, List.Nodup.sublist h2 List.nodup_range, fun p hp => List.mem_range.1 (h2.subset hp)⟩
  dsimp only
  generalize (if dd.layers.isEmpty = true then (dd.next, List.range dd.next.length)
      else filterCache cfg dd.cache dd.next (List.range dd.next.length)) = fc at hfc
  obtain ⟨hfc1, hfc2, hfc3⟩ := hfc
  obtain ⟨hfd1, hfd2, hfd3⟩ := filterDom_keep cfg dd.store fc.1 fc.2
  have hsig := hfd1.trans hfc1
  refine ⟨hsig, hfd2 hfc2, fun p hp => ?_⟩
  have hlen := congrArg List.length hsig
  rw [List.length_map, List.length_map] at hlen
  rw [hlen]
  exact hfc3 p (hfd3 p hp)

theorem stepLayer_log (cfg : Cfg S K) (dd : DD S K) (var : Nat) (prev : Option (List (Call S)))
    (hinv : LoopInv cfg dd prev) (dd' : DD S K) (oc : Outcome) (h : stepLayer cfg dd var = (some dd', oc)) :
    ∃ body, dd'.log.reverse = dd.log.reverse ++ body ∧
      BodyOk cfg.P cfg.R var (dd.next.map (·.state)) prev body ∧
      (oc = .ok → dd'.depth = dd.depth + 1 ∧ LoopInv cfg dd' (some body)) := by
  rcases Width.stepLayer_some cfg dd dd' var oc h with
    ⟨_, rfl, rfl⟩ | ⟨⟨lsq, csq, lgsq, lel⟩, hsq, _, _, hl', hn', hlog', hdepth', _⟩
  · exact ⟨[], by rw [List.append_nil], LogOk.nil _ _, fun h => by cases h⟩
  · have hsq := Width.squashOf_elim cfg dd _ hsq
    obtain ⟨hsig, hnd, hcur⟩ := preSquash_keep cfg dd
    generalize Width.preSquash cfg dd = fd at hsq hsig hnd hcur
    have hstates : fd.1.map (·.state) = dd.next.map (·.state) := states_of_sig hsig
    dsimp only at hsq hl' hn' hlog'
    -- what `squash` logged (`pfx`, chronological) and the states of the squashed layer
    have hsqz : ∃ pfx, lgsq = pfx.reverse ++ dd.log ∧
        LogOk (CallOk cfg.P cfg.R var (dd.next.map (·.state)) prev) [] pfx ∧
        ∀ s ∈ lsq.map (·.state), InLayer (dd.next.map (·.state)) pfx s := by
      rcases squash_cases cfg dd fd.1 fd.2.1 lsq csq lgsq lel hsq with ⟨hlg, hl⟩ | ⟨hW, hwide, hl, hlg⟩
      · refine ⟨[], by rw [hlg]; rfl, LogOk.nil _ _, fun s hs => .inl ?_⟩
        rw [hl, hstates] at hs; exact hs
      · obtain ⟨hR1, rel, hR2, hR3⟩ := relaxLayer_log cfg dd.layers fd.1 fd.2.1 dd.log hcur hnd
        obtain ⟨hF1, hF2, hF3⟩ := restStates_facts cfg fd.1 fd.2.1 hcur
        rw [← hl] at hR1
        rw [← hlg] at hR2
        have hmem : ∀ pre : List (Call S),
            Call.merge (restStatesOf cfg fd.1 fd.2.1) (mergedOf cfg fd.1 fd.2.1) ∈
              ([] ++ [Call.merge (restStatesOf cfg fd.1 fd.2.1) (mergedOf cfg fd.1 fd.2.1)]) ++ pre :=
          fun pre => List.mem_append_left _ List.mem_cons_self
        refine ⟨Call.merge (restStatesOf cfg fd.1 fd.2.1) (mergedOf cfg fd.1 fd.2.1) :: rel.reverse, ?_, ?_, ?_⟩
        · rw [hR2, List.reverse_cons, List.reverse_reverse, List.append_assoc]; rfl
        · refine LogOk.cons_iff.2 ⟨⟨rfl, rfl, hF1 hW hwide, fun s hs => hstates ▸ hF2 s hs⟩, LogOk.of_forall ?_⟩
          intro c hc pre
          obtain ⟨p, hp, n, hn, e, he, src, hsrc, rfl⟩ := hR3 c (List.mem_reverse.1 hc)
          refine ⟨⟨restStatesOf cfg fd.1 fd.2.1, hmem pre, hF3 p hp n hn⟩, ?_⟩
          obtain ⟨n0, hn0, hs0, hi0⟩ := mem_of_sig hsig (List.mem_of_getElem? hn)
          obtain ⟨pb, hpb, src', hsrc', harc⟩ := hinv.arcs n0 hn0 e (hi0 ▸ he)
          rw [hsrc] at hsrc'
          cases hsrc'
          exact ⟨pb, hpb, hs0 ▸ harc⟩
        · intro s hs
          rcases hR1 with hR1 | hR1
          · rw [hR1, hstates] at hs; exact .inl hs
          · rw [hR1, hstates] at hs
            rcases List.mem_append.1 hs with hs | hs
            · exact .inl hs
            · rw [List.mem_singleton] at hs
              exact .inr ⟨restStatesOf cfg fd.1 fd.2.1, hs ▸ List.mem_cons_self⟩
    obtain ⟨pfx, hp1, hp2, hp3⟩ := hsqz
    obtain ⟨body, hb1, hb2, hb3, hb4⟩ :=
      expand_finish cfg dd var prev (dd.next.map (·.state)) pfx lsq csq lgsq hp1 hp2 hp3
    rw [← hl', ← hn'] at hb3
    rw [← hn'] at hb4
    rw [← hlog'] at hb1
    refine ⟨body, hb1, hb2, fun _ => ⟨hdepth', ⟨fun n hn e he => ?_, fun pb hpb n hn => ?_⟩⟩⟩
    · obtain ⟨src, h1, h2⟩ := hb3 n hn e he
      exact ⟨body, rfl, src, h1, h2⟩
    · cases hpb
      exact hb4 n hn

theorem LoopInv.statesOk {cfg : Cfg S K} {dd : DD S K} {prev : Option (List (Call S))} (h : LoopInv cfg dd prev) :
    StatesOk prev (dd.next.map (·.state)) := by
  intro pb hpb s hs
  obtain ⟨n, hn, rfl⟩ := List.mem_map.1 hs
  exact h.origin pb hpb n hn

theorem buildLoop_blocks (cfg : Cfg S K) (stopAt : Option Nat) :
    ∀ (fuel : Nat) (dd : DD S K) (prev : Option (List (Call S))), LoopInv cfg dd prev →
      ∃ tail, (buildLoop cfg stopAt fuel dd).1.log.reverse = dd.log.reverse ++ tail ∧
        Blocks cfg.P cfg.R dd.depth prev tail ∧
        (fuel ≠ 0 → ∃ ans rest, tail = Call.nextVar dd.depth (dd.next.map (·.state)) ans :: rest) := by
  intro fuel
  induction fuel with
  | zero =>
    intro dd prev _
    exact ⟨[], by unfold buildLoop; rw [List.append_nil], Blocks.done _ _, fun h => absurd rfl h⟩
  | succ fuel ih =>
    intro dd prev hinv
    have hst := hinv.statesOk
    refine buildLoop_succ_cases cfg stopAt fuel dd (fun r => ∃ tail, r.1.log.reverse = dd.log.reverse ++ tail ∧
      Blocks cfg.P cfg.R dd.depth prev tail ∧
      (fuel + 1 ≠ 0 → ∃ ans rest, tail = Call.nextVar dd.depth (dd.next.map (·.state)) ans :: rest)) ?_ ?_ ?_ ?_
    · intro hnone
      exact ⟨_, List.reverse_cons, Blocks.last _ _ _ hnone hst, fun _ => ⟨_, _, rfl⟩⟩
    · intro var _ hvar _
      exact ⟨_, List.reverse_cons, Blocks.block _ _ _ var [] [] hvar hst (LogOk.nil _ _) (Blocks.done _ _),
        fun _ => ⟨_, _, rfl⟩⟩
    · intro var dd' oc _ hvar heq _
      obtain ⟨body, hb1, hb2, _⟩ := stepLayer_log cfg (Truth.tick dd var) var prev (hinv.congr rfl rfl) dd' oc heq
      refine ⟨_, ?_, Blocks.block _ _ _ var body [] hvar hst hb2 (Blocks.done _ _), fun _ => ⟨_, _, rfl⟩⟩
      rw [hb1, List.append_nil]
      exact (congrArg (· ++ body) List.reverse_cons).trans (List.append_assoc _ _ _)
    · intro var dd' hvar heq
      obtain ⟨body, hb1, hb2, hb3⟩ := stepLayer_log cfg (Truth.tick dd var) var prev (hinv.congr rfl rfl) dd' _ heq
      obtain ⟨hd, hinv'⟩ := hb3 rfl
      obtain ⟨tail, ht1, ht2, _⟩ := ih dd' (some body) hinv'
      rw [hd] at ht2
      refine ⟨_, ?_, Blocks.block _ _ _ var body tail hvar hst hb2 ht2, fun _ => ⟨_, _, rfl⟩⟩
      rw [ht1, hb1]
      exact (congrArg (· ++ body ++ tail) List.reverse_cons).trans
        (by rw [List.append_assoc, List.append_assoc]; rfl)

theorem initDD_loopInv (cfg : Cfg S K) (cache : Cache S) (store : DomStore S K) (polls : Nat) :
    LoopInv cfg (initDD cfg cache store polls) none := by
  refine ⟨fun n hn e he => ?_, fun pb hpb => by cases hpb⟩
  simp only [initDD, List.mem_singleton] at hn
  subst hn
  cases he

end Ddo.C12
