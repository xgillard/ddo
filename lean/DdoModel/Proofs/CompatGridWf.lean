import DdoModel.Proofs.CompatGrid
import DdoModel.Props.C10c
import DdoModel.Proofs.EInt
/-! C10d — the table family `Grid` of `Proofs/CompatGrid.lean`: what its executable checks give, for every table.  `checkSim` gives
`SimAll`, `checkJoin` gives `MergeCompat`, and `checkWF` gives `WellFormed` for an **explicit potential table** `hl` (entry
`k · m + state`, `none` allowed on states that are not reached exactly) and an over-approximation `rl` of the exactly reachable
`(depth, state)` pairs. -/
set_option linter.unusedSectionVars false
set_option linter.unusedVariables false
namespace Ddo.C10d.Grid
open Ddo Ddo.C01 Ddo.Closed Ddo.C09 Ddo.C10 Ddo.C10c

def hN (T : Tab) (hl : List (Option Int)) (k s : Nat) : EInt :=
  if k < T.n then hl.getD (k * T.m + s) none else some 0

def Hof (T : Tab) (hl : List (Option Int)) (k : Nat) (s : Int) : EInt :=
  if k < T.n then hl.getD (k * T.m + st T s) none else some 0

def rN (T : Tab) (rl : List Bool) (k s : Nat) : Bool := rl.getD (k * T.m + s) false

def ckShape (T : Tab) : Bool := decide (1 ≤ T.m) && decide (T.init < T.m) && decide (T.bump = 0)

def ckReach (T : Tab) (rl : List Bool) : Bool :=
  rN T rl 0 T.init &&
  (List.range T.n).all (fun k => (List.range T.m).all (fun s => !rN T rl k s ||
    [false, true].all (fun b => !allowed T k s b || rN T rl (k + 1) (tr T k s b))))

/-- `Potential.att`, asked of every state -/
def ckAtt (T : Tab) (hl : List (Option Int)) : Bool :=
  (List.range T.n).all (fun k => (List.range T.m).all (fun s => (hN T hl k s).isNone ||
    [false, true].any (fun b => allowed T k s b &&
      decide (hN T hl k s ≤ (hN T hl (k + 1) (tr T k s b)).addI (c T k s b)))))

/-- `Potential.le`, asked of the `rl`-reachable pairs only: it binds exactly reached states -/
def ckLe (T : Tab) (hl : List (Option Int)) (rl : List Bool) : Bool :=
  (List.range T.n).all (fun k => (List.range T.m).all (fun s => !rN T rl k s ||
    [false, true].all (fun b => !allowed T k s b ||
      decide ((hN T hl (k + 1) (tr T k s b)).addI (c T k s b) ≤ hN T hl k s))))

def ckMerge (T : Tab) (hl : List (Option Int)) : Bool :=
  (List.range T.n).all (fun k => (List.range T.m).all (fun a => (List.range T.m).all (fun b =>
    decide (hN T hl k a ≤ hN T hl k (join T a b)) && decide (hN T hl k b ≤ hN T hl k (join T a b)))))

def ckRub (T : Tab) (hl : List (Option Int)) : Bool :=
  (List.range T.m).all (fun s => decide (0 ≤ T.rubl.getD s 0) &&
    (List.range T.n).all (fun k => decide (hN T hl k s ≤ some (T.rubl.getD s 0))))

def ckBound (T : Tab) (B0 : Int) : Bool := T.cl.all (fun x => decide (-B0 ≤ x ∧ x ≤ B0)) && decide (0 ≤ B0)

def checkWF (T : Tab) (hl : List (Option Int)) (rl : List Bool) (B0 : Int) : Bool :=
  ckShape T && ckReach T rl && ckAtt T hl && ckLe T hl rl && ckMerge T hl && ckRub T hl && ckBound T B0

theorem st_lt (T : Tab) (hm : 1 ≤ T.m) (s : Int) : st T s < T.m := by unfold st; omega
theorem tr_lt (T : Tab) (hm : 1 ≤ T.m) (k s : Nat) (b : Bool) : tr T k s b < T.m := by unfold tr; omega
theorem st_nat (T : Tab) (a : Nat) (h : a < T.m) : st T (a : Int) = a := by
  unfold st; rw [Int.toNat_natCast]; omega
theorem st_tr (T : Tab) (k s : Nat) (b : Bool) : st T ((tr T k s b : Nat) : Int) = tr T k s b := by
  have h : tr T k s b ≤ T.m - 1 := by unfold tr; omega
  unfold st; rw [Int.toNat_natCast]; omega
theorem join_lt (T : Tab) (hm : 1 ≤ T.m) (a b : Nat) (ha : a < T.m) : join T a b < T.m := by
  unfold join; split <;> omega

theorem nv_some {T : Tab} {k : Nat} {L : List Int} {x : Nat} (h : (prob T).nextVar k L = some x) : k < T.n ∧ x = k := by
  simp only [prob] at h
  split at h
  · next hk => cases h; exact ⟨hk, rfl⟩
  · cases h

def bdec (b : Bool) : Int := if b then 1 else 0
@[simp] theorem decide_bdec (b : Bool) : decide (bdec b = 1) = b := by cases b <;> simp [bdec]

theorem mem_dom (T : Tab) (k s : Nat) (d : Int) : d ∈ dom T k s ↔ ∃ b, d = bdec b ∧ allowed T k s b = true := by
  unfold dom
  cases T.rev <;> cases h0 : allowed T k s false <;> cases h1 : allowed T k s true <;> simp [bdec, h0, h1]
  all_goals omega

theorem trans_b (T : Tab) (s : Int) (k : Nat) (b : Bool) :
    (prob T).trans s ⟨k, bdec b⟩ = ((tr T k (st T s) b : Nat) : Int) := by simp [prob]
theorem cost_b (T : Tab) (s s' : Int) (k : Nat) (b : Bool) : (prob T).cost s s' ⟨k, bdec b⟩ = c T k (st T s) b := by
  simp [prob]
theorem Hof_eq (T : Tab) (hl : List (Option Int)) (k : Nat) (s : Int) : Hof T hl k s = hN T hl k (st T s) := rfl
theorem Hof_tr (T : Tab) (hl : List (Option Int)) (k j s : Nat) (b : Bool) :
    Hof T hl k ((tr T j s b : Nat) : Int) = hN T hl k (tr T j s b) := by rw [Hof_eq, st_tr]
theorem mem_ft (b : Bool) : b ∈ [false, true] := by cases b <;> simp

theorem fold_ub (T : Tab) (hm : 1 ≤ T.m) (R : Nat → Nat → Prop) (hrefl : ∀ a, R a a)
    (htrans : ∀ a b c, R a b → R b c → R a c)
    (hj : ∀ a b, a < T.m → b < T.m → R a (join T a b) ∧ R b (join T a b)) :
    ∀ (r : List Int) (a : Nat), a < T.m →
      r.foldl (fun a u => join T a (st T u)) a < T.m ∧ R a (r.foldl (fun a u => join T a (st T u)) a) ∧
      ∀ u ∈ r, R (st T u) (r.foldl (fun a u => join T a (st T u)) a) := by
  intro r
  induction r with
  | nil => intro a ha; exact ⟨ha, hrefl a, fun u hu => by cases hu⟩
  | cons x r ih =>
    intro a ha
    simp only [List.foldl_cons]
    obtain ⟨h1, h2, h3⟩ := ih (join T a (st T x)) (join_lt T hm _ _ ha)
    obtain ⟨j1, j2⟩ := hj a (st T x) ha (st_lt T hm x)
    refine ⟨h1, htrans _ _ _ j1 h2, fun u hu => ?_⟩
    rcases List.mem_cons.mp hu with e | e
    · subst e; exact htrans _ _ _ j2 h2
    · exact h3 u e

theorem mergeL_ub (T : Tab) (hm : 1 ≤ T.m) (R : Nat → Nat → Prop) (hrefl : ∀ a, R a a)
    (htrans : ∀ a b c, R a b → R b c → R a c)
    (hj : ∀ a b, a < T.m → b < T.m → R a (join T a b) ∧ R b (join T a b))
    (X : List Int) (u : Int) (hu : u ∈ X) : R (st T u) (st T (mergeL T X)) := by
  cases X with
  | nil => cases hu
  | cons x r =>
    obtain ⟨h1, h2, h3⟩ := fold_ub T hm R hrefl htrans hj r (st T x) (st_lt T hm x)
    simp only [mergeL]
    rw [st_nat T _ h1]
    rcases List.mem_cons.mp hu with e | e
    · subst e; exact h2
    · exact h3 u e

theorem ckAtt_spec {T : Tab} {hl : List (Option Int)} (h : ckAtt T hl = true) {k s : Nat} (hk : k < T.n) (hs : s < T.m)
    {x : Int} (hx : hN T hl k s = some x) :
    ∃ b, allowed T k s b = true ∧ ∃ h', hN T hl (k + 1) (tr T k s b) = some h' ∧ x ≤ c T k s b + h' := by
  simp only [ckAtt, List.all_eq_true, List.mem_range, Bool.or_eq_true, List.any_eq_true, Bool.and_eq_true,
    decide_eq_true_eq] at h
  rcases h k hk s hs with h0 | ⟨b, _, hb, hle⟩
  · rw [hx] at h0; cases h0
  · refine ⟨b, hb, ?_⟩
    rw [hx] at hle
    cases hq : hN T hl (k + 1) (tr T k s b) with
    | none => rw [hq] at hle; exact absurd hle (by simp [EInt.addI])
    | some h' =>
      rw [hq] at hle
      refine ⟨h', rfl, ?_⟩
      simp only [EInt.addI, Option.map_some, EInt.some_le_some] at hle
      omega

theorem ckLe_spec {T : Tab} {hl : List (Option Int)} {rl : List Bool} (h : ckLe T hl rl = true) {k s : Nat} (hk : k < T.n)
    (hs : s < T.m) (hr : rN T rl k s = true) {b : Bool} (hb : allowed T k s b = true) :
    (hN T hl (k + 1) (tr T k s b)).addI (c T k s b) ≤ hN T hl k s := by
  simp only [ckLe, List.all_eq_true, List.mem_range, Bool.or_eq_true, Bool.not_eq_true', decide_eq_true_eq,
    Decidable.or_iff_not_imp_left, Bool.not_eq_false] at h
  exact h k hk s hs hr b (mem_ft b) hb

theorem ckReach_spec {T : Tab} {rl : List Bool} (h : ckReach T rl = true) {k s : Nat} (hk : k < T.n)
    (hs : s < T.m) (hr : rN T rl k s = true) {b : Bool} (hb : allowed T k s b = true) :
    rN T rl (k + 1) (tr T k s b) = true := by
  simp only [ckReach, List.all_eq_true, List.mem_range, Bool.or_eq_true, Bool.not_eq_true', Bool.and_eq_true,
    Decidable.or_iff_not_imp_left, Bool.not_eq_false] at h
  exact h.2 k hk s hs hr b (mem_ft b) hb

theorem ckMerge_spec {T : Tab} {hl : List (Option Int)} (h : ckMerge T hl = true) {k : Nat} (hk : k < T.n) {a b : Nat}
    (ha : a < T.m) (hb : b < T.m) : hN T hl k a ≤ hN T hl k (join T a b) ∧ hN T hl k b ≤ hN T hl k (join T a b) := by
  simp only [ckMerge, List.all_eq_true, List.mem_range, Bool.and_eq_true, decide_eq_true_eq] at h
  exact h k hk a ha b hb

theorem ckRub_spec {T : Tab} {hl : List (Option Int)} (h : ckRub T hl = true) {s : Nat} (hs : s < T.m) :
    0 ≤ T.rubl.getD s 0 ∧ ∀ k, k < T.n → hN T hl k s ≤ some (T.rubl.getD s 0) := by
  simp only [ckRub, List.all_eq_true, List.mem_range, Bool.and_eq_true, decide_eq_true_eq] at h
  exact h s hs

theorem reach_rl {T : Tab} {rl : List Bool} (hm : 1 ≤ T.m) (hi : T.init < T.m) (hR : ckReach T rl = true)
    {k : Nat} {s : Int} {v : Int} {p : List Dec} (h : Reach (prob T) k s v p) :
    rN T rl k (st T s) = true ∧ k ≤ T.n := by
  induction h with
  | root =>
    have h0 : rN T rl 0 T.init = true := by
      simp only [ckReach, Bool.and_eq_true] at hR; exact hR.1
    refine ⟨?_, Nat.zero_le _⟩
    show rN T rl 0 (st T ((T.init : Nat) : Int)) = true
    rw [st_nat T _ hi]; exact h0
  | step k s v p L x d hr hnv hs hd ih =>
    obtain ⟨hk, hx⟩ := nv_some hnv; subst x
    obtain ⟨b, rfl, hb⟩ := (mem_dom T k (st T s) d).1 hd
    rw [trans_b, st_tr]
    exact ⟨ckReach_spec hR hk (st_lt T hm s) ih.1 hb, hk⟩

theorem potential (T : Tab) (hl : List (Option Int)) (rl : List Bool) (hm : 1 ≤ T.m) (hi : T.init < T.m)
    (hR : ckReach T rl = true) (hA : ckAtt T hl = true) (hL : ckLe T hl rl = true) : Potential (prob T) (Hof T hl) := by
  constructor
  · intro k L x s h hnv _ hH
    obtain ⟨hk, hx⟩ := nv_some hnv; subst x
    rw [Hof_eq] at hH
    obtain ⟨b, hb, h', hq, hle⟩ := ckAtt_spec hA hk (st_lt T hm s) hH
    refine ⟨bdec b, (mem_dom T k (st T s) _).2 ⟨b, rfl, hb⟩, h', ?_, ?_⟩
    · rw [trans_b, Hof_tr]; exact hq
    · rw [trans_b, cost_b]; exact hle
  · intro k L x s v p d hr hnv _ hd
    obtain ⟨hk, hx⟩ := nv_some hnv; subst x
    obtain ⟨b, rfl, hb⟩ := (mem_dom T k (st T s) d).1 hd
    have hrl := (reach_rl hm hi hR hr).1
    rw [trans_b, cost_b, Hof_tr, Hof_eq]
    exact ckLe_spec hL hk (st_lt T hm s) hrl hb
  · intro k L s hnv _
    simp only [prob] at hnv
    split at hnv
    · cases hnv
    · next hk => simp only [Hof, hk, if_false]

theorem Hof_ge (T : Tab) (hl : List (Option Int)) {k : Nat} (hk : ¬ k < T.n) (s : Int) : Hof T hl k s = some 0 := by
  simp only [Hof, hk, if_false]

theorem mergeOk (T : Tab) (hl : List (Option Int)) (hm : 1 ≤ T.m) (hb : T.bump = 0) (hM : ckMerge T hl = true) :
    MergeOk (rlx T) (Hof T hl) := by
  intro k X u src d c0 h hu hH
  have key : Hof T hl k u ≤ Hof T hl k (mergeL T X) := by
    by_cases hk : k < T.n
    · rw [Hof_eq, Hof_eq]
      exact mergeL_ub T hm (fun a b => hN T hl k a ≤ hN T hl k b) (fun a => EInt.le_refl _)
        (fun a b c h1 h2 => EInt.le_trans h1 h2) (fun a b ha hb => ckMerge_spec hM hk ha hb) X u hu
    · rw [Hof_ge T hl hk, Hof_ge T hl hk]; exact EInt.le_refl _
  show ∃ h', Hof T hl k (mergeL T X) = some h' ∧ c0 + h ≤ (c0 + T.bump) + h'
  rw [hH] at key
  cases hq : Hof T hl k (mergeL T X) with
  | none => rw [hq] at key; exact absurd key (by simp)
  | some h' =>
    rw [hq] at key
    refine ⟨h', rfl, ?_⟩
    simp only [EInt.some_le_some] at key
    omega

theorem rubOk (T : Tab) (hl : List (Option Int)) (hm : 1 ≤ T.m) (hR : ckRub T hl = true) : RubOk (rlx T) (Hof T hl) := by
  intro k s h hH
  obtain ⟨h0, h1⟩ := ckRub_spec hR (st_lt T hm s)
  show h ≤ T.rubl.getD (st T s) 0
  by_cases hk : k < T.n
  · have := h1 k hk
    rw [← Hof_eq, hH] at this
    exact this
  · rw [Hof_ge T hl hk] at hH
    cases hH; exact h0

theorem nvBound (T : Tab) : NvBound (prob T) := by
  intro k L hk
  have : ¬ k < T.n := by simp only [prob] at hk; omega
  simp only [prob, this, if_false]

theorem runBound (T : Tab) (B0 B : Int) (hb : T.bump = 0) (hc : ∀ k s d, -B0 ≤ c T k s d ∧ c T k s d ≤ B0) (hB0 : 0 ≤ B0)
    (hfit : ((T.n : Int) + 1) * B0 ≤ B) (hsmall : ((T.n : Int) + 2) * B ≤ 4611686018427387904) :
    RunBound (prob T) (rlx T) B0 B := by
  have hBB : B0 ≤ B := by
    have h1 : (0 : Int) ≤ (T.n : Int) * B0 := Int.mul_nonneg (by omega) hB0
    rw [Int.add_mul, Int.one_mul] at hfit
    omega
  refine ⟨⟨by omega, ?_, ?_, ?_, hsmall⟩, ⟨?_, ?_⟩, hfit⟩
  · show -B ≤ (0 : Int) ∧ (0 : Int) ≤ B
    omega
  · intro s s' d
    have := hc d.var (st T s) (decide (d.val = 1))
    show -B ≤ c T _ _ _ ∧ c T _ _ _ ≤ B
    omega
  · intro s u m d c0 hcc
    show -B ≤ c0 + T.bump ∧ c0 + T.bump ≤ B
    omega
  · show -B0 ≤ (0 : Int) ∧ (0 : Int) ≤ B0
    omega
  · intro s s' d
    exact hc d.var (st T s) (decide (d.val = 1))

theorem width_pos (T : Tab) (ws : List Nat) (N : SubP Int) : 1 ≤ widthOf T ws N := by
  unfold widthOf; omega

theorem staticOrder (T : Tab) : StaticOrder (prob T) := fun _ _ _ _ _ => rfl
theorem dims2 (T : Tab) : ∀ s, (rule T).dims s = 2 := fun _ => rfl

theorem wellFormed_of_check (T : Tab) (hl : List (Option Int)) (rl : List Bool) (ws : List Nat) (dedup : Bool) (kind : CutsetKind)
    (B0 B : Int) (h : checkWF T hl rl B0 = true)
    (hfit : ((T.n : Int) + 1) * B0 ≤ B) (hsmall : ((T.n : Int) + 2) * B ≤ 4611686018427387904) :
    WellFormed (sv T ws dedup kind) (Hof T hl) B0 B := by
  simp only [checkWF, Bool.and_eq_true] at h
  obtain ⟨⟨⟨⟨⟨⟨hS, hR⟩, hA⟩, hL⟩, hM⟩, hRub⟩, hBd⟩ := h
  simp only [ckShape, Bool.and_eq_true, decide_eq_true_eq] at hS
  obtain ⟨⟨hm, hi⟩, hb⟩ := hS
  simp only [ckBound, Bool.and_eq_true, decide_eq_true_eq, List.all_eq_true] at hBd
  have hP := potential T hl rl hm hi hR hA hL
  exact ⟨hP, rubOk T hl hm hRub, mergeOk T hl hm hb hM, Cover.attMerge_of_static hP (staticOrder T),
    runBound T B0 B hb (fun k s d => Cover.getD_bound T.cl _ B0 hBd.1 hBd.2) hBd.2 hfit hsmall, nvBound T, width_pos T ws⟩

theorem opt_of_check (T : Tab) (hl : List (Option Int)) (hn : 0 < T.n) (hi : T.init < T.m) :
    (Hof T hl 0 (prob T).init).addI (prob T).initVal = hl.getD (0 * T.m + T.init) none := by
  show (Hof T hl 0 ((T.init : Nat) : Int)).addI 0 = _
  rw [Hof_eq, st_nat T _ hi]
  simp only [hN, hn, if_true, EInt.addI]
  cases hl.getD (0 * T.m + T.init) none <;> simp

theorem geS_refl (T : Tab) (a : Nat) : geS T a a = true := by
  simp [geS]

theorem geS_trans (T : Tab) {a b c : Nat} (h1 : geS T a b = true) (h2 : geS T b c = true) : geS T a c = true := by
  simp only [geS, Bool.and_eq_true, decide_eq_true_eq] at *
  omega

theorem geItem_iff (T : Tab) (a : Int) (va : Int) (b : Int) (vb : Int) :
    GeItem (rule T) 2 a va b vb ↔ (geS T (st T a) (st T b) = true ∧ vb ≤ va) := by
  have e : ∀ s v, ((rule T).ent 2 s v).coords =
      [(T.co.getD (st T s) (0, 0)).1, (T.co.getD (st T s) (0, 0)).2] := fun s v => rfl
  have ev : ∀ s v, ((rule T).ent 2 s v).value = v := fun s v => rfl
  have hu : (rule T).useValue = true := rfl
  unfold GeItem
  rw [hu]
  simp only [geEnt, e, ev, leB, geS, Bool.not_true, Bool.false_or, Bool.and_true, Bool.and_eq_true, decide_eq_true_eq]
  constructor
  · rintro (⟨rfl, h⟩ | ⟨_, ⟨h1, h2⟩, h3⟩)
    · exact ⟨⟨Int.le_refl _, Int.le_refl _⟩, h⟩
    · exact ⟨⟨h1, h2⟩, h3⟩
  · rintro ⟨⟨h1, h2⟩, h3⟩
    exact Or.inr ⟨⟨0, rfl, rfl⟩, ⟨h1, h2⟩, h3⟩

theorem checkSim_spec {T : Tab} (h : checkSim T = true) {k a b : Nat} (hk : k < T.n) (ha : a < T.m) (hb : b < T.m)
    (hg : geS T a b = true) {db : Bool} (hdb : allowed T k b db = true) :
    ∃ da, allowed T k a da = true ∧ geS T (tr T k a da) (tr T k b db) = true ∧ c T k b db ≤ c T k a da := by
  simp only [checkSim, List.all_eq_true, List.mem_range, Bool.or_eq_true, Bool.not_eq_true', List.any_eq_true,
    Bool.and_eq_true, decide_eq_true_eq, Decidable.or_iff_not_imp_left, Bool.not_eq_false] at h
  obtain ⟨da, _, ⟨h3, h4⟩, h5⟩ := h k hk a ha b hb hg db (mem_ft db) hdb
  exact ⟨da, h3, h4, h5⟩

theorem simAll_of_check (T : Tab) (h : checkSim T = true) (hm : 1 ≤ T.m) : SimAll (rule T) (prob T) 2 := by
  constructor
  · intro d a va b vb L x hge hnv _ db hdb
    rw [geItem_iff] at hge
    obtain ⟨hk, hx⟩ := nv_some hnv; subst x
    obtain ⟨bb, rfl, hbb⟩ := (mem_dom T d (st T b) db).1 hdb
    obtain ⟨da, h1, h2, h3⟩ := checkSim_spec h hk (st_lt T hm a) (st_lt T hm b) hge.1 hbb
    refine ⟨bdec da, (mem_dom T d (st T a) _).2 ⟨da, rfl, h1⟩, ?_⟩
    rw [geItem_iff, trans_b, trans_b, cost_b, cost_b, st_tr, st_tr]
    exact ⟨h2, by omega⟩
  · intro a va b vb hge
    rw [geItem_iff] at hge
    exact hge.2

theorem checkJoin_spec {T : Tab} (h : checkJoin T = true) {a b : Nat} (ha : a < T.m) (hb : b < T.m) :
    geS T (join T a b) a = true ∧ geS T (join T a b) b = true := by
  simp only [checkJoin, List.all_eq_true, List.mem_range, Bool.and_eq_true, decide_eq_true_eq] at h
  exact h.1 a ha b hb

theorem mergeCompat_of_check (T : Tab) (h : checkJoin T = true) (hm : 1 ≤ T.m) : MergeCompat (rule T) (rlx T) 2 := by
  constructor
  · intro X u v hu
    rw [geItem_iff]
    exact ⟨mergeL_ub T hm (fun a b => geS T b a = true) (fun a => geS_refl T a) (fun a b c h1 h2 => geS_trans T h2 h1)
      (fun a b ha hb => checkJoin_spec h ha hb) X u hu, Int.le_refl v⟩
  · intro _ _ _ _ c0
    have hb : 0 ≤ T.bump := by
      simp only [checkJoin, Bool.and_eq_true, decide_eq_true_eq] at h; exact h.2
    show c0 ≤ c0 + T.bump
    omega

theorem checkSim_rubl (T : Tab) (r : List Int) : checkSim { T with rubl := r } = checkSim T := rfl
theorem checkJoin_rubl (T : Tab) (r : List Int) : checkJoin { T with rubl := r } = checkJoin T := rfl

theorem le_emax_left (x y : EInt) : x ≤ emax x y := by
  cases x <;> cases y <;> simp only [emax, EInt.none_le, EInt.some_le_some, Int.le_refl] <;> omega
theorem le_emax_right (x y : EInt) : y ≤ emax x y := by
  cases x <;> cases y <;> simp only [emax, EInt.none_le, EInt.some_le_some, Int.le_refl] <;> omega
theorem emax_le {x y z : EInt} (hx : x ≤ z) (hy : y ≤ z) : emax x y ≤ z := by
  cases x <;> cases y <;> cases z <;> simp only [emax, EInt.some_le_some, EInt.some_le_none] at * <;> first | assumption | omega

def vdec (T : Tab) (j s : Nat) (b : Bool) : EInt :=
  if allowed T (T.n - (j + 1)) s b then EInt.addI (vfrom T j (tr T (T.n - (j + 1)) s b)) (c T (T.n - (j + 1)) s b) else none

theorem vfrom_succ (T : Tab) (j s : Nat) : vfrom T (j + 1) s = emax (vdec T j s false) (vdec T j s true) := rfl

theorem vdec_le_vfrom (T : Tab) (j s : Nat) (b : Bool) : vdec T j s b ≤ vfrom T (j + 1) s := by
  rw [vfrom_succ]; cases b
  · exact le_emax_left _ _
  · exact le_emax_right _ _

/-- the value-to-go is monotone in the rule's order: every decision of `b` is matched by a decision of `a` that earns at least as much
    and leads to a state at least as good -/
theorem vfrom_mono {T : Tab} (h : checkSim T = true) (hm : 1 ≤ T.m) : ∀ j, j ≤ T.n → ∀ a b, a < T.m → b < T.m → geS T a b = true →
    vfrom T j b ≤ vfrom T j a := by
  intro j
  induction j with
  | zero => intro _ a b _ _ _; exact EInt.le_refl _
  | succ j ih =>
    intro hj a b ha hb hg
    have key : ∀ db, vdec T j b db ≤ vfrom T (j + 1) a := by
      intro db
      by_cases hdb : allowed T (T.n - (j + 1)) b db = true
      · obtain ⟨da, h1, h2, h3⟩ := checkSim_spec h (by omega) ha hb hg hdb
        refine EInt.le_trans ?_ (vdec_le_vfrom T j a da)
        simp only [vdec, h1, hdb, if_true]
        exact Examples.EMax.addI_mono (ih (by omega) _ _ (tr_lt T hm _ a da) (tr_lt T hm _ b db) h2) h3
      · simp only [vdec, hdb, if_false, Bool.false_eq_true]; exact EInt.none_le _
    rw [vfrom_succ T j b]
    exact emax_le (key false) (key true)

/-- a state `top` that is at least as good as every state has the largest value-to-go (`vfrom_mono`): a bound of it serves every state -/
theorem checkRub_of_top {T : Tab} (h : checkSim T = true) (hm : 1 ≤ T.m) (top : Nat) (ht : top < T.m)
    (hge : ∀ s, s < T.m → geS T top s = true) (B : Int) (hB : ∀ j, j < T.n + 1 → vfrom T j top ≤ some B)
    (hr : ∀ s, s < T.m → B ≤ T.rubl.getD s 0) : checkRub T = true := by
  simp only [checkRub, List.all_eq_true, List.mem_range]
  intro j hj s hs
  have h1 := EInt.le_trans (vfrom_mono h hm j (by omega) top s ht hs (hge s hs)) (hB j hj)
  cases hv : vfrom T j s with
  | none => rfl
  | some x =>
    rw [hv, EInt.some_le_some] at h1
    have := hr s hs
    simp only [decide_eq_true_eq]
    omega

end Ddo.C10d.Grid

#print axioms Ddo.C10d.Grid.staticOrder
#print axioms Ddo.C10d.Grid.dims2
#print axioms Ddo.C10d.Grid.geItem_iff
#print axioms Ddo.C10d.Grid.simAll_of_check
#print axioms Ddo.C10d.Grid.mergeCompat_of_check
#print axioms Ddo.C10d.Grid.reach_rl
#print axioms Ddo.C10d.Grid.wellFormed_of_check
#print axioms Ddo.C10d.Grid.opt_of_check
