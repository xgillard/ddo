import DdoModel.Proofs.MddCover
import DdoModel.Proofs.MddCutset
/-! # Truthful exactness (second sentence of C06, remaining clauses of C07)

A compilation that declares itself exact reports the optimum of its root sub-problem.  Property theorems: `Props/C06b.lean`,
`Props/C07b.lean`.

Lower direction `best ≤ o`: a path that extends the path of the root sub-problem cannot beat `optOf H root` (`Potential.le` along the
extension; `reach_le`).  Upper direction `best ≥ o` when `lel` is unset at the end (exact mode; a restricted compilation that dropped
nothing; a relaxed one that merged nothing): `dd.lel` is monotone (`none → some`) and a step that leaves it unset did not squash the
layer, so the coverage invariant `Ddo.Cover.Inv` is preserved for **every** compilation type and width, without `MergeOk` /
`AttMerge` (`buildLoop_cover_x`, `unsquashed_truthful`).

Relaxed compilations that did squash but have an exact best path: `relaxLayer` leaves the nodes it does not flag relaxed untouched (up
to `deleted`), so every inbound arc of a node not flagged relaxed is a genuine transition of the model and its `best` arc attains its
value — `G2`, the third invariant of the top-down build; one layer step keeps it whatever layer was squashed, provided its nodes are
nodes of `dd.next` up to the fields the filters write (`stepLayer_g2`).  Hence a node with an exact best path is reached exactly with
its value (`ebpAll_reach` / `ebpSome_reach`); the loop-level statements `ebpMust_sound`, `ebp_truthful` are in
`Proofs/BuildChain.lean`.

Last: the statements at the level of `compile`, relative to a layer-validity predicate, and `bestExact_sol_false`, the soundness of
the reported exact value without any assumption on the incumbent (for the solver contracts). -/
set_option linter.unusedSectionVars false
set_option linter.unusedVariables false
namespace Ddo.Truth
open Ddo
variable {S K : Type} [DecidableEq S] [DecidableEq K]

omit [DecidableEq S] in
theorem Reach.nil_inv {P : Problem S} {k : Nat} {s : S} {v : Int} (h : Reach P k s v []) :
    k = 0 ∧ s = P.init ∧ v = P.initVal := by
  generalize hp : ([] : List Dec) = p at h
  cases h with
  | root => exact ⟨rfl, rfl, rfl⟩
  | step k s v p L x d _ _ _ _ => exact absurd hp (by simp)

omit [DecidableEq S] in
theorem Reach.det {P : Problem S} {k : Nat} {s : S} {v : Int} {p : List Dec} (h : Reach P k s v p) :
    ∀ {k' : Nat} {s' : S} {v' : Int}, Reach P k' s' v' p → k = k' ∧ s = s' ∧ v = v' := by
  induction h with
  | root => intro k' s' v' h'; obtain ⟨a, b, c⟩ := Reach.nil_inv h'; exact ⟨a.symm, b.symm, c.symm⟩
  | step k s v p L x d h hnv hs hd ih =>
    intro k' s' v' h'
    generalize hp : p ++ [(⟨x, d⟩ : Dec)] = r at h'
    cases h' with
    | root => exact absurd hp (by simp)
    | step k2 s2 v2 p2 L2 x2 d2 h2 _ _ _ =>
      obtain ⟨e1, e2⟩ := List.append_inj' hp rfl
      subst e1
      simp only [List.cons.injEq, Dec.mk.injEq, and_true] at e2
      obtain ⟨rfl, rfl⟩ := e2
      obtain ⟨rfl, rfl, rfl⟩ := ih h2
      exact ⟨rfl, rfl, rfl⟩

/-- the part of a well-formed model that bounds the value of *feasible* paths (lower direction), relative to a
    layer-validity predicate `V` (closed under expansion): `Potential.le` and `Potential.term` on valid states -/
structure LowRel (P : Problem S) (H : Nat → S → EInt) (V : Nat → S → Prop) : Prop where
  vstep : ∀ k L x s d, P.nextVar k L = some x → s ∈ L → V k s → d ∈ P.domain x s → V (k + 1) (P.trans s ⟨x, d⟩)
  le : ∀ k L x s v p d, Reach P k s v p → V k s → P.nextVar k L = some x → s ∈ L → d ∈ P.domain x s →
      (H (k + 1) (P.trans s ⟨x, d⟩)).addI (P.cost s (P.trans s ⟨x, d⟩) ⟨x, d⟩) ≤ H k s
  term : ∀ k L s, P.nextVar k L = none → s ∈ L → V k s → ∃ h, H k s = some h ∧ 0 ≤ h

omit [DecidableEq S] in
theorem lowRel_of_potential {P : Problem S} {H : Nat → S → EInt} (hP : Potential P H) : LowRel P H (fun _ _ => True) where
  vstep := fun _ _ _ _ _ _ _ _ _ => trivial
  le := fun k L x s v p d hr _ hnv hs hd => hP.le k L x s v p d hr hnv hs hd
  term := fun k L s hnv hs _ => ⟨0, hP.term k L s hnv hs, Int.le_refl _⟩

omit [DecidableEq S] in
theorem addI_step {a b : EInt} {c v : Int} (h : a.addI c ≤ b) : a.addI (v + c) ≤ b.addI v := by
  cases a with
  | none => exact EInt.none_le _
  | some x =>
    cases b with
    | none => exact absurd h (by simp [EInt.addI])
    | some y =>
      simp only [EInt.addI, Option.map_some, EInt.some_le_some] at h ⊢
      omega

omit [DecidableEq S] in
theorem reach_le {P : Problem S} {H : Nat → S → EInt} {V : Nat → S → Prop} (hL : LowRel P H V)
    {k : Nat} {s : S} {v : Int} {p : List Dec} (h0 : Reach P k s v p) (hV : V k s) :
    ∀ {k' : Nat} {s' : S} {v' : Int} {r : List Dec}, Reach P k' s' v' r → ∀ q, r = p ++ q →
      V k' s' ∧ (H k' s').addI v' ≤ (H k s).addI v := by
  intro k' s' v' r h
  induction h with
  | root =>
    intro q hq
    have hp : p = [] := by
      cases p with
      | nil => rfl
      | cons _ _ => cases hq
    subst hp
    obtain ⟨rfl, rfl, rfl⟩ := Reach.nil_inv h0
    exact ⟨hV, EInt.le_refl _⟩
  | step k1 s1 v1 r1 L x d h1 hnv hs hd ih =>
    intro q hq
    rcases List.eq_nil_or_concat q with rfl | ⟨q', e, rfl⟩
    · rw [List.append_nil] at hq
      subst hq
      obtain ⟨rfl, rfl, rfl⟩ := Reach.det h0 (Reach.step k1 s1 v1 r1 L x d h1 hnv hs hd)
      exact ⟨hV, EInt.le_refl _⟩
    · rw [List.concat_eq_append, ← List.append_assoc] at hq
      obtain ⟨e1, e2⟩ := List.append_inj' hq rfl
      obtain ⟨hV1, hle1⟩ := ih q' e1
      refine ⟨hL.vstep k1 L x s1 d hnv hs hV1 hd, ?_⟩
      exact EInt.le_trans (addI_step (hL.le k1 L x s1 v1 r1 d h1 hV1 hnv hs hd)) hle1

omit [DecidableEq S] in
/-- the value of a complete path through the root sub-problem is at most the optimum of the root sub-problem
    (in particular that optimum is not `−∞`) -/
theorem complete_le_opt {P : Problem S} {H : Nat → S → EInt} {V : Nat → S → Prop} (hL : LowRel P H V)
    {N : SubP S} {p0 : List Dec} (h0 : Reach P N.depth N.state N.value p0) (hV : V N.depth N.state)
    {k : Nat} {s : S} {w : Int} {q : List Dec} {L : List S} (h : Reach P k s w (p0 ++ q))
    (hs : s ∈ L) (hnv : P.nextVar k L = none) : ∃ x, optOf H N = some x ∧ w ≤ x := by
  obtain ⟨hVs, hle⟩ := reach_le hL h0 hV h q rfl
  obtain ⟨h', hH, h0'⟩ := hL.term k L s hnv hs hVs
  unfold optOf
  rw [hH] at hle
  cases hN : H N.depth N.state with
  | none => rw [hN] at hle; exact absurd hle (by simp [EInt.addI])
  | some y =>
    rw [hN] at hle
    simp only [EInt.addI, Option.map_some, EInt.some_le_some] at hle
    exact ⟨y + N.value, rfl, by omega⟩

theorem squash_lel_none (cfg : Cfg S K) (dd : DD S K) (layer : List (Node S)) (cur : List Nat)
    (sq : List (Node S) × List Nat × List (Call S) × Option Nat)
    (h : squash cfg dd layer cur = some sq) (hn : sq.2.2.2 = none) :
    sq.1 = layer ∧ sq.2.1 = cur ∧ dd.lel = none := by
  have hs := squash_spec cfg dd layer cur
  rw [h] at hs
  cases hs with
  | keep _ _ => exact ⟨rfl, rfl, hn⟩
  | restrict _ _ _ => cases hn
  | relax _ _ _ _ => cases hn

theorem squash_exact (cfg : Cfg S K) (dd : DD S K) (layer : List (Node S)) (cur : List Nat) (hx : cfg.ctype = .exact) :
    squash cfg dd layer cur = some (layer, cur, dd.log, dd.lel) := by
  have hs := squash_spec cfg dd layer cur
  generalize squash cfg dd layer cur = r at hs ⊢
  cases hs with
  | keep _ _ => rfl
  | restrict h _ _ => rw [hx] at h; cases h
  | relax h _ _ _ => rw [hx] at h; cases h
  | crash h => rcases h with ⟨h, _⟩ | ⟨h, _⟩ <;> (rw [hx] at h; cases h)

theorem stepLayer_lel (cfg : Cfg S K) (dd dd' : DD S K) (var : Nat) (oc : Outcome)
    (h : stepLayer cfg dd var = (some dd', oc)) (hn : dd'.lel = none) : dd.lel = none := by
  rcases Width.stepLayer_some cfg dd dd' var oc h with ⟨_, _, rfl⟩ | ⟨sq, hsq, _, _, _, _, _, _, hl⟩
  · exact hn
  · exact (squash_lel_none cfg dd _ _ sq (Width.squashOf_elim cfg dd sq hsq) (hl ▸ hn)).2.2

theorem buildLoop_lel (cfg : Cfg S K) (stopAt : Option Nat) (fuel : Nat) (dd : DD S K) :
    (buildLoop cfg stopAt fuel dd).1.lel = none → dd.lel = none :=
  buildLoop_induct cfg stopAt (fun d => d.lel = none → dd.lel = none) _ (fun _ h => h) (fun _ _ _ h => h)
    (fun d var d' oc h _ hst hn => h (stepLayer_lel cfg (tick d var) d' var oc hst hn)) fuel dd id

theorem stepLayer_lel_exact (cfg : Cfg S K) (hx : cfg.ctype = .exact) (dd dd' : DD S K) (var : Nat) (oc : Outcome)
    (h : stepLayer cfg dd var = (some dd', oc)) (hn : dd.lel = none) : dd'.lel = none := by
  rcases Width.stepLayer_some cfg dd dd' var oc h with ⟨_, _, rfl⟩ | ⟨sq, hsq, _, _, _, _, _, _, hl⟩
  · exact hn
  · have hsq := Width.squashOf_elim cfg dd sq hsq
    rw [squash_exact cfg dd _ _ hx] at hsq
    rw [hl, ← hn]
    exact (congrArg (·.2.2.2) (Option.some.inj hsq)).symm

theorem buildLoop_lel_exact (cfg : Cfg S K) (hx : cfg.ctype = .exact) (stopAt : Option Nat) :
    ∀ (fuel : Nat) (dd : DD S K), dd.lel = none → (buildLoop cfg stopAt fuel dd).1.lel = none :=
  buildLoop_induct cfg stopAt (fun d => d.lel = none) _ (fun _ h => h) (fun _ _ _ h => h)
    (fun d var d' oc h _ hst => stepLayer_lel_exact cfg hx (tick d var) d' var oc hst h)

theorem stepLayer_iso_some (cfg : Cfg S K) (dd : DD S K) (var : Nat) (hne : dd.next ≠ [])
    (hc : cfg.useCache = false) (hd : cfg.dom = none)
    (sq : List (Node S) × List Nat × List (Call S) × Option Nat)
    (hsq : squash cfg dd dd.next (List.range dd.next.length) = some sq) :
    ∃ dd', stepLayer cfg dd var = (some dd', .ok) ∧
      dd'.layers = dd.layers ++ [(expandAll cfg var dd.layers.length sq.1 sq.2.1 sq.2.2.1).1] ∧
      dd'.next = (expandAll cfg var dd.layers.length sq.1 sq.2.1 sq.2.2.1).2.1 ∧
      dd'.depth = dd.depth + 1 ∧ dd'.lel = sq.2.2.2 :=
  Cover.stepLayer_ok cfg dd var hne hc hd sq hsq

/-- the merge-free part of `WfRel`: what the un-squashed coverage argument needs -/
structure WfX (P : Problem S) (R : Relax S) (H : Nat → S → EInt) (V : Nat → S → Prop) : Prop where
  vstep : ∀ k L x s d, P.nextVar k L = some x → s ∈ L → V k s → d ∈ P.domain x s → V (k + 1) (P.trans s ⟨x, d⟩)
  att : ∀ k L x s h, P.nextVar k L = some x → s ∈ L → V k s → H k s = some h →
      ∃ d ∈ P.domain x s, ∃ h', H (k + 1) (P.trans s ⟨x, d⟩) = some h' ∧
        h ≤ P.cost s (P.trans s ⟨x, d⟩) ⟨x, d⟩ + h'
  term : ∀ k L s h, P.nextVar k L = none → s ∈ L → V k s → H k s = some h → h ≤ 0
  rub : ∀ k s h, V k s → H k s = some h → h ≤ R.rub s

omit [DecidableEq S] in
theorem WfX.of_rel {P : Problem S} {R : Relax S} {H : Nat → S → EInt} {V : Nat → S → Prop} (h : WfRel P R H V) :
    WfX P R H V := ⟨h.vstep, h.att, h.term, h.rub⟩

omit [DecidableEq S] in
theorem wfX_of_potential {P : Problem S} {R : Relax S} {H : Nat → S → EInt} (hP : Potential P H) (hR : RubOk R H) :
    WfX P R H (fun _ _ => True) where
  vstep := fun _ _ _ _ _ _ _ _ _ => trivial
  att := fun k L x s h hnv hs _ hH => hP.att k L x s h hnv hs hH
  term := fun k L s h hnv hs _ hH => by
    rw [hP.term k L s hnv hs] at hH; cases hH; exact Int.le_refl _
  rub := fun k s h _ hH => hR k s h hH

structure HypX (cfg : Cfg S K) (H : Nat → S → EInt) (V : Nat → S → Prop) (B o : Int) : Prop where
  cache : cfg.useCache = false
  dom : cfg.dom = none
  wf : WfX cfg.P cfg.R H V
  B : NoClampDom cfg.P cfg.R cfg.root.value B
  clamp : ∀ x, o ≤ x → clamp x > cfg.lb

theorem sqpost_id_x (cfg : Cfg S K) (H : Nat → S → EInt) (V : Nat → S → Prop) (B o : Int) (dd : DD S K) (var : Nat)
    (hy : HypX cfg H V B o) (hnv : cfg.P.nextVar dd.depth (dd.next.map (·.state)) = some var)
    (hI : Cover.Inv H V B o dd) : Cover.SqPost cfg H V B o dd var dd.next (List.range dd.next.length) := by
  constructor
  · obtain ⟨n, hn, h, hH, hle⟩ := hI.cover
    obtain ⟨q, hq⟩ := List.mem_iff_getElem?.mp hn
    refine ⟨q, Cover.mem_of_getElem?_range hq, n, hq, hI.valid n hn, h, hH, hle, ?_⟩
    intro h1 hH1
    exact hy.wf.att dd.depth _ var n.state h1 hnv (List.mem_map_of_mem hn) (hI.valid n hn) hH1
  · intro q _ n hq d hd
    have hn := List.mem_of_getElem? hq
    exact hy.wf.vstep dd.depth _ var n.state d hnv (List.mem_map_of_mem hn) (hI.valid n hn) hd
  · exact hI.rngN

/-- **upper direction**: if `lel` is still unset when the loop ends normally, the terminal layer still carries the optimum -/
theorem buildLoop_cover_x (cfg : Cfg S K) (H : Nat → S → EInt) (V : Nat → S → Prop) (B o : Int) (hy : HypX cfg H V B o) :
    ∀ (fuel : Nat) (dd : DD S K), Cover.Inv H V B o dd → dd.layers.length + fuel ≤ cfg.P.nbVars + 2 →
      (buildLoop cfg none fuel dd).2 = .ok → (buildLoop cfg none fuel dd).1.lel = none →
      ∃ n ∈ (buildLoop cfg none fuel dd).1.next, o ≤ n.value := by
  intro fuel dd hI hlen
  -- the invariant is carried as long as `lel` is unset: a step that leaves it unset did not squash
  refine buildLoop_ok_induct cfg none
    (fun f dd => dd.lel = none → Cover.Inv H V B o dd ∧ dd.layers.length + f ≤ cfg.P.nbVars + 2)
    (fun dd => dd.lel = none → ∃ n ∈ dd.next, o ≤ n.value) ?_ ?_ ?_ fuel dd (fun _ => ⟨hI, hlen⟩)
  · intro f dd hI hnv hlel
    obtain ⟨n0, hn0, h0, hH0, hle0⟩ := (hI hlel).1.cover
    have := hy.wf.term dd.depth _ n0.state h0 hnv (List.mem_map_of_mem hn0) ((hI hlel).1.valid n0 hn0) hH0
    exact ⟨n0, hn0, by omega⟩
  · intro f dd var hI _ hne hlel
    obtain ⟨n0, hn0, _⟩ := (hI hlel).1.cover
    rw [hne] at hn0; cases hn0
  · intro f dd var dd' hI hnv hne hst hlel
    obtain ⟨hI, hlen⟩ := hI (stepLayer_lel cfg (tick dd var) dd' var _ hst hlel)
    rcases Width.stepLayer_some cfg _ dd' var _ hst with ⟨_, h, _⟩ | ⟨sq, hsq, _, _, hl, hn, _, hd, hll⟩
    · cases h
    · rw [squashOf_iso cfg (tick dd var) hne hy.cache hy.dom] at hsq
      have hI1 : Cover.Inv H V B o (tick dd var) := hI.congr rfl rfl rfl
      obtain ⟨e1, e2, _⟩ := squash_lel_none cfg _ _ _ sq hsq (hll ▸ hlel)
      have hpost : Cover.SqPost cfg H V B o (tick dd var) var sq.1 sq.2.1 := by
        rw [e1, e2]
        exact sqpost_id_x cfg H V B o (tick dd var) var hy hnv hI1
      refine ⟨Cover.expand_inv cfg H V B o (tick dd var) dd' var sq.1 sq.2.1 sq.2.2.1 hy.wf.rub hy.B hy.clamp
        (by show dd.layers.length ≤ cfg.P.nbVars; omega) hI1 hpost hl hn hd, ?_⟩
      rw [hl, List.length_append, List.length_singleton]
      show dd.layers.length + 1 + (f + 1) ≤ cfg.P.nbVars + 2
      omega

theorem stripB_value {a b : Node S} (h : stripB a = stripB b) : a.value = b.value := (congrArg Node.value h :)

theorem stripB_best {a b : Node S} (h : stripB a = stripB b) : a.best = b.best := (congrArg Node.best h :)

theorem find?_stripB (f : Node S → Bool) (hf : ∀ a b, stripB a = stripB b → f a = f b) :
    ∀ (l l' : List (Node S)), l.map stripB = l'.map stripB →
      (l.find? f).map stripB = (l'.find? f).map stripB := by
  intro l
  induction l with
  | nil =>
    intro l' h
    cases l' with
    | nil => rfl
    | cons _ _ => cases h
  | cons x r ih =>
    intro l' h
    cases l' with
    | nil => cases h
    | cons y r' =>
      simp only [List.map_cons, List.cons.injEq] at h
      simp only [List.find?_cons, hf x y h.1]
      cases f y with
      | true => simp only [Option.map_some, h.1]
      | false => exact ih r' h.2

/-- the path reported for the first node of the terminal layer selected by `f` -/
theorem find_chain (cfg : Cfg S K) (dd : DD S K) (L3 : List (List (Node S))) (hk : XEq L3 (dd.layers ++ [dd.next]))
    (f : Node S → Bool) (hf : ∀ a b, stripB a = stripB b → f a = f b) (n : Node S) (hfind : dd.next.find? f = some n)
    (q : List Dec) (hq : BestChain (dd.layers ++ [dd.next]) dd.layers.length n.best q) :
    ((L3[dd.layers.length]?.getD []).find? f).map (fun n => cfg.root.path ++ bestPath L3 (L3.length + 1) n)
      = some (cfg.root.path ++ q.reverse) := by
  have hlayer := hk.layer dd.layers.length
  rw [List.getElem?_concat_length, Option.getD_some] at hlayer
  have hf3 := find?_stripB f hf _ _ hlayer
  rw [hfind] at hf3
  cases h3 : (L3[dd.layers.length]?.getD []).find? f with
  | none => rw [h3] at hf3; cases hf3
  | some n3 =>
    rw [h3] at hf3
    simp only [Option.map_some, Option.some.injEq] at hf3
    have hchain : BestChain L3 dd.layers.length n3.best q := by
      rw [stripB_best hf3]; exact hq.of_xEq hk
    have := hchain.bestPath_eq n3 rfl (L3.length + 1) (by
      rw [hk.length, List.length_append, List.length_singleton]; omega)
    simp only [Option.map_some, Option.some.injEq, List.append_cancel_left_eq]
    rw [← this, List.reverse_reverse]

theorem finalize_isExact (cfg : Cfg S K) (b : Built S K) (e : Bool) :
    (finalize cfg b e).1.isExact = (b.isExactField || e) := rfl

theorem finalize_bestExactValue (cfg : Cfg S K) (b : Built S K) (e : Bool) :
    (finalize cfg b e).1.bestExactValue = if e then b.bestValue else maxValue (b.terminals.filter (·.isExact)) := rfl

theorem finalize_bestExactSol (cfg : Cfg S K) (b : Built S K) (e : Bool) :
    (finalize cfg b e).1.bestExactSol =
      (if e then
        (match b.bestValue with
          | none => none
          | some v => b.termL.bind (fun l => ((finalize cfg b e).2[l]?.getD []).find? (fun (n : Node S) => decide (n.value = v))))
       else
        (match (if e then b.bestValue else maxValue (b.terminals.filter (·.isExact))) with
          | none => none
          | some v => b.termL.bind (fun l => ((finalize cfg b e).2[l]?.getD []).find?
              (fun (n : Node S) => n.isExact && decide (n.value = v))))).map
        (fun n => cfg.root.path ++ bestPath (finalize cfg b e).2 ((finalize cfg b e).2.length + 1) n) := rfl

/-- a complete feasible path of value `w` through the root sub-problem, reported as `sol` -/
def IsSol (cfg : Cfg S K) (p0 : List Dec) (w : Int) (sol : Option (List Dec)) : Prop :=
  ∃ (k : Nat) (s : S) (q : List Dec) (L : List S), Reach cfg.P k s w (p0 ++ q) ∧ s ∈ L ∧ cfg.P.nextVar k L = none ∧
    sol = some (cfg.root.path ++ q.reverse)

/-- what a truthful result reports: the optimum `o`, as best and best exact value, with feasible solutions -/
structure Truthful (cfg : Cfg S K) (p0 : List Dec) (o : Int) (r : Result S) : Prop where
  bestValue : r.bestValue = some o
  bestExactValue : r.bestExactValue = some o
  sol : IsSol cfg p0 o r.bestSol
  exactSol : IsSol cfg p0 o r.bestExactSol

theorem find?_of_maxValue_f {l : List (Node S)} {w : Int} (g : Node S → Bool)
    (h : maxValue (l.filter g) = some w) :
    ∃ n, l.find? (fun n => g n && decide (n.value = w)) = some n ∧ n ∈ l ∧ g n = true ∧ n.value = w := by
  obtain ⟨m, hm, hmv⟩ := maxValue_mem h
  rw [List.mem_filter] at hm
  cases hf : l.find? (fun n => g n && decide (n.value = w)) with
  | none =>
    rw [List.find?_eq_none] at hf
    exact absurd (by simp [hm.2, hmv]) (hf m hm.1)
  | some n =>
    have h1 := List.find?_some hf
    simp only [Bool.and_eq_true, decide_eq_true_eq] at h1
    exact ⟨n, rfl, List.mem_of_find?_eq_some hf, h1.1, h1.2⟩

/-- `hasEBP = false`: the best exact value is the value of the first exact terminal node attaining it, whose `best` chain is
    reported -/
theorem finalize_exactSol_false (cfg : Cfg S K) (p0 : List Dec) (w : Int) (dd : DD S K)
    (hnv : cfg.P.nextVar dd.depth (dd.next.map (·.state)) = none)
    (hmx : maxValue (dd.next.filter (·.isExact)) = some w)
    (hall : ∀ n ∈ dd.next, n.isExact = true →
      ∃ q, BestChain (dd.layers ++ [dd.next]) dd.layers.length n.best q ∧ Reach cfg.P dd.depth n.state n.value (p0 ++ q)) :
    IsSol cfg p0 w (finalize cfg (finalizeLayers dd) false).1.bestExactSol := by
  obtain ⟨n2, hfind2, hn2, hx2, hv2⟩ := find?_of_maxValue_f (fun n : Node S => n.isExact) hmx
  have hne : dd.next ≠ [] := List.ne_nil_of_mem hn2
  obtain ⟨hlayers, hterm⟩ := finalizeLayers_nonempty dd hne
  have hk := finalize_layers_xEq cfg (finalizeLayers dd) false
  rw [hlayers] at hk
  obtain ⟨q2, hq2, hr2⟩ := hall n2 hn2 hx2
  refine ⟨dd.depth, n2.state, q2, _, hv2 ▸ hr2, List.mem_map_of_mem hn2, hnv, ?_⟩
  rw [finalize_bestExactSol, terminals_finalizeLayers, hterm]
  simp only [Bool.false_eq_true, if_false, hmx]
  dsimp only [Option.bind_some]
  refine find_chain cfg dd _ hk _ ?_ n2 hfind2 q2 hq2
  intro a b h
  rw [stripB_value h, stripB_isExact h]

theorem finalize_truthful (cfg : Cfg S K) (p0 : List Dec) (o : Int) (dd : DD S K) (e : Bool)
    (hmax : maxValue dd.next = some o)
    (hnv : cfg.P.nextVar dd.depth (dd.next.map (·.state)) = none)
    (hbest : ∀ n, dd.next.find? (fun n => decide (n.value = o)) = some n →
      ∃ q, BestChain (dd.layers ++ [dd.next]) dd.layers.length n.best q ∧ Reach cfg.P dd.depth n.state n.value (p0 ++ q))
    (hex : e = false → maxValue (dd.next.filter (·.isExact)) = some o ∧
      ∀ n ∈ dd.next, n.isExact = true →
        ∃ q, BestChain (dd.layers ++ [dd.next]) dd.layers.length n.best q ∧ Reach cfg.P dd.depth n.state n.value (p0 ++ q)) :
    Truthful cfg p0 o (finalize cfg (finalizeLayers dd) e).1 := by
  obtain ⟨n1, hfind1, hn1, hv1⟩ := find?_of_maxValue hmax
  obtain ⟨hlayers, hterm⟩ := finalizeLayers_nonempty dd (List.ne_nil_of_mem hn1)
  have hbv : (finalizeLayers dd).bestValue = some o := by
    unfold Built.bestValue; rw [terminals_finalizeLayers]; exact hmax
  have hk := finalize_layers_xEq cfg (finalizeLayers dd) e
  rw [hlayers] at hk
  obtain ⟨q1, hq1, hr1⟩ := hbest n1 hfind1
  have hsol : IsSol cfg p0 o (finalize cfg (finalizeLayers dd) e).1.bestSol := by
    refine ⟨dd.depth, n1.state, q1, _, hv1 ▸ hr1, List.mem_map_of_mem hn1, hnv, ?_⟩
    rw [finalize_bestSol, hbv, hterm]
    dsimp only [Option.bind_some]
    exact find_chain cfg dd _ hk _ (fun a b h => by rw [stripB_value h]) n1 hfind1 q1 hq1
  cases e with
  | true => exact ⟨hbv, hbv, hsol, hsol⟩     -- with `hasEBP` the exact fields are the plain ones
  | false =>
    obtain ⟨hmx, hall⟩ := hex rfl
    refine ⟨hbv, ?_, hsol, finalize_exactSol_false cfg p0 o dd hnv hmx hall⟩
    rw [finalize_bestExactValue, terminals_finalizeLayers]
    exact hmx

theorem compile_results' (cfg : Cfg S K) (cache : Cache S) (store : DomStore S K) (polls : Nat) (stopAt : Option Nat)
    (hok : (compile cfg cache store polls stopAt).1 = .ok) (r : Result S)
    (hr : r = (compile cfg cache store polls stopAt).2.1 ∨ (compile cfg cache store polls stopAt).2.2.1 = some r) :
    (buildLoop cfg stopAt (cfg.P.nbVars + 2) (initDD cfg cache store polls)).2 = .ok ∧
    (compile cfg cache store polls stopAt).2.2.2 = (buildLoop cfg stopAt (cfg.P.nbVars + 2) (initDD cfg cache store polls)).1 ∧
    ∃ e, (e = (finalizeLayers (buildLoop cfg stopAt (cfg.P.nbVars + 2) (initDD cfg cache store polls)).1).ebpMust (cfg.ctype == .relaxed) ∨
          e = (finalizeLayers (buildLoop cfg stopAt (cfg.P.nbVars + 2) (initDD cfg cache store polls)).1).ebpMay (cfg.ctype == .relaxed)) ∧
      r = (finalize cfg (finalizeLayers (buildLoop cfg stopAt (cfg.P.nbVars + 2) (initDD cfg cache store polls)).1) e).1 := by
  unfold compile at hok hr ⊢
  generalize buildLoop cfg stopAt (cfg.P.nbVars + 2) (initDD cfg cache store polls) = bl at hok hr ⊢
  obtain ⟨dd, oc⟩ := bl
  dsimp only at hok hr ⊢
  cases oc
  · dsimp only at hr ⊢
    refine ⟨rfl, rfl, ?_⟩
    rcases hr with hr | hr
    · exact ⟨_, .inl rfl, hr⟩
    · split at hr
      · simp only [Option.some.injEq] at hr
        exact ⟨_, .inr rfl, hr.symm⟩
      · cases hr
  · cases hok
  · cases hok

theorem ebp_not_relaxed (b : Built S K) : b.ebpMust false = false ∧ b.ebpMay false = false := ⟨rfl, rfl⟩

theorem maxValue_eq_of {l : List (Node S)} {o : Int} (h1 : ∃ n ∈ l, o ≤ n.value) (h2 : ∀ n ∈ l, n.value ≤ o) :
    maxValue l = some o := by
  obtain ⟨n, hn, hle⟩ := h1
  obtain ⟨bv, hbv, hge⟩ := Cover.maxValue_ge l n hn
  obtain ⟨m, hm, hmv⟩ := maxValue_mem hbv
  have := h2 m hm
  rw [hbv]; congr 1; omega

theorem compile_final (cfg : Cfg S K) (B : Int) (p0 : List Dec) (hB : NoClamp cfg.P cfg.R cfg.root.value B)
    (hroot : Reach cfg.P cfg.root.depth cfg.root.state cfg.root.value p0)
    (cache : Cache S) (store : DomStore S K) (polls : Nat) (stopAt : Option Nat) :
    MInv cfg B p0 (buildLoop cfg stopAt (cfg.P.nbVars + 2) (initDD cfg cache store polls)).1 ∧
    Inv2 cfg (buildLoop cfg stopAt (cfg.P.nbVars + 2) (initDD cfg cache store polls)).1 ∧
    ((buildLoop cfg stopAt (cfg.P.nbVars + 2) (initDD cfg cache store polls)).2 = .ok →
      Terminal cfg (buildLoop cfg stopAt (cfg.P.nbVars + 2) (initDD cfg cache store polls)).1) := by
  have hlen : (initDD cfg cache store polls).layers.length + (cfg.P.nbVars + 2) ≤ cfg.P.nbVars + 2 :=
    Nat.le_of_eq (Nat.zero_add _)
  have h0 := initDD_inv cfg B p0 hB hroot cache store polls
  obtain ⟨h1, h2⟩ := buildLoop_inv2 cfg B p0 hB stopAt _ _ h0 (initDD_inv2 cfg cache store polls) rfl hlen
  exact ⟨h1, h2, (buildLoop_inv cfg B p0 hB stopAt _ _ h0 rfl hlen).2⟩

/-- the exact nodes of the terminal layer are reached by their `best` chain -/
theorem _root_.Ddo.MInv.reach_next {cfg : Cfg S K} {B : Int} {p0 : List Dec} {dd : DD S K} (h : MInv cfg B p0 dd)
    (hdepth : dd.depth = cfg.root.depth + dd.layers.length) {n : Node S} (hn : n ∈ dd.next) (hx : n.isExact = true) :
    ∃ q, BestChain (dd.layers ++ [dd.next]) dd.layers.length n.best q ∧
      Reach cfg.P dd.depth n.state n.value (p0 ++ q) := by
  obtain ⟨q, hq, hr, hd, _⟩ := h.next n hn hx
  exact ⟨q, hq.mono _, by rw [hdepth, ← hd]; exact hr⟩

/-- **the un-squashed case**: in isolation, if the loop ends normally with `lel` unset (no restriction dropped a node, no
    merge happened — always so in exact mode), the result built with either value of the `hasEBP` bit reports the
    optimum of the root sub-problem together with feasible solutions attaining it -/
theorem unsquashed_truthful (cfg : Cfg S K) (H : Nat → S → EInt) (V : Nat → S → Prop) (B o : Int) (p0 : List Dec)
    (hy : HypX cfg H V B o) (hL : LowRel cfg.P H V) (hV : V cfg.root.depth cfg.root.state)
    (hB : NoClamp cfg.P cfg.R cfg.root.value B)
    (hroot : Reach cfg.P cfg.root.depth cfg.root.state cfg.root.value p0)
    (ho : optOf H cfg.root = some o) (cache : Cache S) (store : DomStore S K) (polls : Nat)
    (hok : (buildLoop cfg none (cfg.P.nbVars + 2) (initDD cfg cache store polls)).2 = .ok)
    (hlel : (buildLoop cfg none (cfg.P.nbVars + 2) (initDD cfg cache store polls)).1.lel = none) (e : Bool) :
    Truthful cfg p0 o (finalize cfg (finalizeLayers (buildLoop cfg none (cfg.P.nbVars + 2) (initDD cfg cache store polls)).1) e).1 := by
  have hcov := buildLoop_cover_x cfg H V B o hy (cfg.P.nbVars + 2) (initDD cfg cache store polls)
    (Cover.init_inv cfg H V B o cache store polls hV hy.B ho) (Nat.le_of_eq (Nat.zero_add _)) hok hlel
  obtain ⟨hinv, hinv2, hterm⟩ := compile_final cfg B p0 hB hroot cache store polls none
  have hterm := hterm hok
  generalize (buildLoop cfg none (cfg.P.nbVars + 2) (initDD cfg cache store polls)).1 = dd at *
  rcases hterm with hnil | ⟨hnv, hdepth⟩
  · obtain ⟨n, hn, _⟩ := hcov; rw [hnil] at hn; cases hn
  · have hallx := (hinv2.lelNone hlel).2
    have hreach := fun n hn => hinv.reach_next hdepth hn (hallx n hn)
    have hle : ∀ n ∈ dd.next, n.value ≤ o := by
      intro n hn
      obtain ⟨q, _, hr⟩ := hreach n hn
      obtain ⟨x, hx, hwx⟩ := complete_le_opt hL hroot hV hr (List.mem_map_of_mem hn) hnv
      rw [ho] at hx; cases hx; exact hwx
    have hmax : maxValue dd.next = some o := maxValue_eq_of hcov hle
    refine finalize_truthful cfg p0 o dd e hmax hnv (fun n hf => hreach n (List.mem_of_find?_eq_some hf)) ?_
    intro _
    rw [List.filter_eq_self.mpr hallx]
    exact ⟨hmax, fun n hn _ => hreach n hn⟩

def stripD (n : Node S) : Node S := { n with deleted := false }

/-- every node of `ly` that is not flagged relaxed is a node of `ly0` up to the `deleted` flag -/
def SubN (ly ly0 : List (Node S)) : Prop := ∀ n ∈ ly, n.fRelaxed = false → ∃ n0 ∈ ly0, stripD n0 = stripD n

theorem SubN.refl (ly : List (Node S)) : SubN ly ly := fun n hn _ => ⟨n, hn, rfl⟩

/-- the merged node is flagged relaxed from the start and stays so; every other update of `_relax` touches `deleted` only -/
theorem relaxLayer_subN (cfg : Cfg S K) (layers : List (List (Node S))) (layer : List (Node S)) (cur : List Nat)
    (log : List (Call S)) : SubN (relaxLayer cfg layers layer cur log).1 layer :=
  Cover.relaxLayer_forall (fun n => n.fRelaxed = false → ∃ n0 ∈ layer, stripD n0 = stripD n) (fun n => n.fRelaxed = true)
    cfg layers layer cur log (fun n h hr => by rw [h] at hr; cases hr) (fun hr => by cases hr) (fun _ _ => rfl)
    (fun n b h hr => h hr) (fun _ h => h) (fun _ _ e _ src m _ h => (appendEdge_fRelaxed src m _).trans h)
    (fun n hn _ => ⟨n, hn, rfl⟩)

theorem squash_subN (cfg : Cfg S K) (dd : DD S K) (layer : List (Node S)) (cur : List Nat)
    (hrel : cfg.ctype = .relaxed) (hW : 1 ≤ cfg.width)
    (sq : List (Node S) × List Nat × List (Call S) × Option Nat) (h : squash cfg dd layer cur = some sq) :
    SubN sq.1 layer := by
  rcases Bounds.squash_cases cfg dd layer cur hrel hW with ⟨_, h'⟩ | ⟨_, _, h'⟩ <;> (rw [h'] at h; cases h)
  · exact SubN.refl _
  · exact relaxLayer_subN cfg dd.layers layer cur dd.log

/-- the arc `a` into `c` is the transition of the model from `par` by the decision `a.dec` on variable `var` -/
def ArcGen (cfg : Cfg S K) (var : Nat) (par c : Node S) (a : Arc) : Prop :=
  a.dec.var = var ∧ a.dec.val ∈ cfg.P.domain var par.state ∧ c.state = cfg.P.trans par.state a.dec ∧
    a.cost = cfg.P.cost par.state c.state a.dec

/-- a node of the layer under construction, children of the layer `ly0` (index `lidx`), branched on `var` -/
def ChildGen (cfg : Cfg S K) (lidx var : Nat) (ly0 : List (Node S)) (c : Node S) : Prop :=
  c.fRelaxed = false ∧
  (∃ a par, c.best = some a ∧ a ∈ c.inb ∧ ly0[a.fromP]? = some par ∧ c.value = satAdd par.value a.cost) ∧
  ∀ a ∈ c.inb, a.fromL = lidx ∧ ∃ par, ly0[a.fromP]? = some par ∧ ArcGen cfg var par c a

theorem freshNode_fields (cfg : Cfg S K) (par : Node S) (d : Dec) :
    (freshNode cfg par d).fRelaxed = false ∧ (freshNode cfg par d).inb = [] ∧
    (freshNode cfg par d).value = satAdd par.value (cfg.P.cost par.state (cfg.P.trans par.state d) d) := ⟨rfl, rfl, rfl⟩

theorem childGen_appendEdge (cfg : Cfg S K) (lidx var : Nat) (ly0 : List (Node S))
    (p : Nat) (n0 par : Node S) (h0 : ly0[p]? = some n0) (hs : stripRub n0 = stripRub par)
    (d : Int) (hd : d ∈ cfg.P.domain var par.state)
    (m : Node S) (hm : ChildGen cfg lidx var ly0 m ∨ m = freshNode cfg par ⟨var, d⟩)
    (hms : m.state = cfg.P.trans par.state ⟨var, d⟩) :
    ChildGen cfg lidx var ly0 (appendEdge par m
      ⟨lidx, p, ⟨var, d⟩, cfg.P.cost par.state (cfg.P.trans par.state ⟨var, d⟩) ⟨var, d⟩⟩) := by
  obtain ⟨_, hst, hv, _, _⟩ := stripRub_core hs
  refine ⟨?_, ?_, ?_⟩
  · rw [appendEdge_fRelaxed]
    rcases hm with hm | hm
    · exact hm.1
    · rw [hm]; rfl
  · rcases appendEdge_best_value par m
      ⟨lidx, p, ⟨var, d⟩, cfg.P.cost par.state (cfg.P.trans par.state ⟨var, d⟩) ⟨var, d⟩⟩ with ⟨_, hbest, hval⟩ | ⟨hlt, hbest, hval⟩
    · refine ⟨_, n0, hbest, ?_, h0, ?_⟩
      · rw [appendEdge_inb]; exact List.mem_cons_self
      · rw [hval, hv]
    · rcases hm with hm | hm
      · obtain ⟨a, pa, hb, ha, hp, hvv⟩ := hm.2.1
        refine ⟨a, pa, by rw [hbest]; exact hb, ?_, hp, by rw [hval]; exact hvv⟩
        rw [appendEdge_inb]; exact List.mem_cons_of_mem _ ha
      · exfalso
        apply hlt
        rw [hm]
        exact Int.le_refl _
  · intro a ha
    rw [appendEdge_inb] at ha
    rcases List.mem_cons.mp ha with rfl | ha
    · refine ⟨rfl, n0, h0, rfl, ?_, ?_, ?_⟩
      · rw [hst]; exact hd
      · rw [appendEdge_state, hms, hst]
      · rw [appendEdge_state, hms, hst]
    · rcases hm with hm | hm
      · obtain ⟨hl, pa, hp, h1, h2, h3, h4⟩ := hm.2.2 a ha
        exact ⟨hl, pa, hp, h1, h2, by rw [appendEdge_state]; exact h3, by rw [appendEdge_state]; exact h4⟩
      · rw [hm] at ha; cases ha

/-- invariant of `expandAll`: the layer changes in the `rub` fields only, the children have genuine arcs -/
structure GInv (cfg : Cfg S K) (lidx var : Nat) (ly0 : List (Node S))
    (acc : List (Node S) × List (Node S) × List (Call S)) : Prop where
  rub : RubEq acc.1 ly0
  child : ∀ c ∈ acc.2.1, ChildGen cfg lidx var ly0 c

theorem expandOne_ginv (cfg : Cfg S K) (lidx var : Nat) (ly0 : List (Node S))
    (acc : List (Node S) × List (Node S) × List (Call S)) (p : Nat) (h : GInv cfg lidx var ly0 acc) :
    GInv cfg lidx var ly0 (expandOne cfg var lidx acc p) :=
  let ⟨h1, h2⟩ := expandOne_rub_children (ChildGen cfg lidx var ly0) cfg var lidx ly0 acc p h.rub h.child
    (fun n0 par h0 hs' d hd m hm hms => childGen_appendEdge cfg lidx var ly0 p n0 par h0 hs' d hd m hm hms)
  ⟨h1, h2⟩

theorem expandAll_ginv (cfg : Cfg S K) (lidx var : Nat) (ly0 : List (Node S)) (cur : List Nat) (log : List (Call S)) :
    GInv cfg lidx var ly0 (expandAll cfg var lidx ly0 cur log) := by
  unfold expandAll
  refine foldl_inv (GInv cfg lidx var ly0) _ _ _ ⟨RubEq.refl _, ?_⟩ ?_
  · intro c hc; cases hc
  · intro acc p _ h
    exact expandOne_ginv cfg lidx var ly0 acc p h

/-- a node of layer `l = l' + 1` all of whose inbound arcs are genuine transitions from layer `l'`, and whose `best`
    arc attains its value; `L`, `var`: the states handed to `nextVar` for layer `l'` and its answer -/
def NodeGen (cfg : Cfg S K) (layers : List (List (Node S))) (l : Nat) (n : Node S) : Prop :=
  ∃ (l' : Nat) (L : List S) (var : Nat), l = l' + 1 ∧ cfg.P.nextVar (cfg.root.depth + l') L = some var ∧
    (∃ a par, n.best = some a ∧ a ∈ n.inb ∧ getNode layers l' a.fromP = some par ∧ n.value = satAdd par.value a.cost) ∧
    ∀ a ∈ n.inb, a.fromL = l' ∧ ∃ par, getNode layers l' a.fromP = some par ∧
      (par.fRelaxed = false → par.state ∈ L) ∧ ArcGen cfg var par n a

/-- a node not flagged relaxed is exact or has genuine arcs -/
def GOk (cfg : Cfg S K) (layers : List (List (Node S))) (l : Nat) (n : Node S) : Prop :=
  n.fRelaxed = false → n.isExact = true ∨ NodeGen cfg layers l n

theorem NodeGen.mono {cfg : Cfg S K} {layers : List (List (Node S))} {l : Nat} {n : Node S}
    (h : NodeGen cfg layers l n) (more : List (List (Node S))) : NodeGen cfg (layers ++ more) l n := by
  obtain ⟨l', L, var, hl, hnv, ⟨a, par, h1, h2, h3, h4⟩, harcs⟩ := h
  refine ⟨l', L, var, hl, hnv, ⟨a, par, h1, h2, getNode_append_left _ _ _ _ _ h3, h4⟩, fun a ha => ?_⟩
  obtain ⟨e1, par, e2, e3, e4⟩ := harcs a ha
  exact ⟨e1, par, getNode_append_left _ _ _ _ _ e2, e3, e4⟩

theorem GOk.mono {cfg : Cfg S K} {layers : List (List (Node S))} {l : Nat} {n : Node S}
    (h : GOk cfg layers l n) (more : List (List (Node S))) : GOk cfg (layers ++ more) l n :=
  fun hr => (h hr).imp id (fun g => g.mono more)

/-- the fields `GOk` reads -/
def Ess (a b : Node S) : Prop :=
  a.state = b.state ∧ a.value = b.value ∧ a.best = b.best ∧ a.inb = b.inb ∧ a.fRelaxed = b.fRelaxed ∧ a.fExact = b.fExact

theorem Ess.trans {a b c : Node S} (h1 : Ess a b) (h2 : Ess b c) : Ess a c :=
  ⟨h1.1.trans h2.1, h1.2.1.trans h2.2.1, h1.2.2.1.trans h2.2.2.1, h1.2.2.2.1.trans h2.2.2.2.1,
   h1.2.2.2.2.1.trans h2.2.2.2.2.1, h1.2.2.2.2.2.trans h2.2.2.2.2.2⟩

theorem ess_of_stripD {a b : Node S} (h : stripD a = stripD b) : Ess a b :=
  ⟨(congrArg Node.state h :), (congrArg Node.value h :), (congrArg Node.best h :), (congrArg Node.inb h :),
   (congrArg Node.fRelaxed h :), (congrArg Node.fExact h :)⟩

theorem ess_of_stripRub {a b : Node S} (h : stripRub a = stripRub b) : Ess a b :=
  ⟨(congrArg Node.state h :), (congrArg Node.value h :), (congrArg Node.best h :), (congrArg Node.inb h :),
   (congrArg Node.fRelaxed h :), (congrArg Node.fExact h :)⟩

theorem GOk.of_ess {cfg : Cfg S K} {layers : List (List (Node S))} {l : Nat} {n0 n : Node S}
    (h : GOk cfg layers l n0) (he : Ess n0 n) : GOk cfg layers l n := by
  obtain ⟨e1, e2, e3, e4, e5, e6⟩ := he
  intro hr
  rcases h (e5.trans hr) with hx | hg
  · left
    simp only [Node.isExact, ← e5, ← e6]
    exact hx
  · right
    obtain ⟨l', L, var, hl, hnv, ⟨a, par, h1, h2, h3, h4⟩, harcs⟩ := hg
    refine ⟨l', L, var, hl, hnv, ⟨a, par, e3 ▸ h1, e4 ▸ h2, h3, e2 ▸ h4⟩, fun a ha => ?_⟩
    obtain ⟨x1, par, x2, x3, y1, y2, y3, y4⟩ := harcs a (e4 ▸ ha)
    exact ⟨x1, par, x2, x3, y1, y2, e1 ▸ y3, e1 ▸ y4⟩

structure G2 (cfg : Cfg S K) (dd : DD S K) : Prop where
  layers : ∀ (l : Nat) (ly : List (Node S)), dd.layers[l]? = some ly → ∀ n ∈ ly, GOk cfg dd.layers l n
  next : ∀ n ∈ dd.next, GOk cfg dd.layers dd.layers.length n

theorem G2.congr {cfg : Cfg S K} {dd dd' : DD S K} (h : G2 cfg dd) (hl : dd'.layers = dd.layers) (hn : dd'.next = dd.next) :
    G2 cfg dd' := by
  obtain ⟨h1, h2⟩ := h
  exact ⟨hl ▸ h1, hl ▸ hn ▸ h2⟩

theorem gOk_append_layer {cfg : Cfg S K} {layers : List (List (Node S))} {lyF : List (Node S)}
    (hold : ∀ (l : Nat) (ly : List (Node S)), layers[l]? = some ly → ∀ n ∈ ly, GOk cfg layers l n)
    (hnew : ∀ n ∈ lyF, GOk cfg layers layers.length n) :
    ∀ (l : Nat) (ly : List (Node S)), (layers ++ [lyF])[l]? = some ly → ∀ n ∈ ly, GOk cfg (layers ++ [lyF]) l n := by
  intro l ly hl n hn
  rcases getElem?_append_singleton_cases hl with hl | ⟨rfl, rfl⟩
  · exact (hold l ly hl n hn).mono _
  · exact (hnew n hn).mono _

theorem initDD_g2 (cfg : Cfg S K) (cache : Cache S) (store : DomStore S K) (polls : Nat) :
    G2 cfg (initDD cfg cache store polls) := by
  refine ⟨?_, ?_⟩
  · intro l ly hl
    simp only [initDD, List.getElem?_nil] at hl
    cases hl
  · intro n hn
    simp only [initDD, List.mem_singleton] at hn
    subst hn
    intro _
    exact .inl rfl

/-- one layer keeps `G2`: the squash of ANY layer whose nodes are nodes of `dd.next` up to the fields `G2` does not read (what a filter that
    writes `cache` / `theta` only leaves), any list of positions, then the expansion -/
theorem stepLayer_g2 (cfg : Cfg S K) (hrel : cfg.ctype = .relaxed) (hW : 1 ≤ cfg.width)
    (dd dd' : DD S K) (var : Nat) (layer : List (Node S)) (cur : List Nat)
    (hb : ∀ m ∈ layer, ∃ n00 ∈ dd.next, Ess n00 m)
    (hG : G2 cfg dd) (hdepth : dd.depth = cfg.root.depth + dd.layers.length)
    (hnv : cfg.P.nextVar dd.depth (dd.next.map (·.state)) = some var)
    (sq : List (Node S) × List Nat × List (Call S) × Option Nat)
    (hsq : squash cfg dd layer cur = some sq)
    (hl : dd'.layers = dd.layers ++ [(expandAll cfg var dd.layers.length sq.1 sq.2.1 sq.2.2.1).1])
    (hn : dd'.next = (expandAll cfg var dd.layers.length sq.1 sq.2.1 sq.2.2.1).2.1) : G2 cfg dd' := by
  have hsub := squash_subN cfg dd layer cur hrel hW sq hsq
  have hE := expandAll_ginv cfg dd.layers.length var sq.1 sq.2.1 sq.2.2.1
  generalize expandAll cfg var dd.layers.length sq.1 sq.2.1 sq.2.2.1 = ex at hE hl hn
  obtain ⟨hrub, hchild⟩ := hE
  -- a squashed node that is not flagged relaxed is a node of `dd.next` up to `Ess`: `_relax` touched its `deleted` only
  have hback : ∀ m ∈ sq.1, m.fRelaxed = false → ∃ n00 ∈ dd.next, Ess n00 m := by
    intro m hm hr
    obtain ⟨n0, h0, hs⟩ := hsub m hm hr
    obtain ⟨n00, h00, e00⟩ := hb n0 h0
    exact ⟨n00, h00, e00.trans (ess_of_stripD hs)⟩
  have hlen' : dd'.layers.length = dd.layers.length + 1 := by rw [hl, List.length_append, List.length_singleton]
  refine ⟨?_, ?_⟩
  · -- the appended layer is the squashed one up to `rub`
    rw [hl]
    refine gOk_append_layer hG.layers ?_
    intro n hn' hr
    obtain ⟨i, hi⟩ := List.mem_iff_getElem?.1 hn'
    obtain ⟨n0, h0, hs⟩ := hrub.get hi
    have e0 := ess_of_stripRub hs
    obtain ⟨n00, h00, e00⟩ := hback n0 (List.mem_of_getElem? h0) (e0.2.2.2.2.1.trans hr)
    exact ((hG.next n00 h00).of_ess (e00.trans e0)) hr
  · -- the children: every arc is a genuine transition from the appended layer
    rw [hn, hlen', hl]
    intro c hc _
    right
    obtain ⟨_, ⟨a, par, hb', ha, hp, hv⟩, harcs⟩ := hchild c hc
    refine ⟨dd.layers.length, dd.next.map (·.state), var, rfl, hdepth ▸ hnv, ?_, ?_⟩
    · obtain ⟨parF, hpF, hsF⟩ := hrub.get' hp
      refine ⟨a, parF, hb', ha, ?_, ?_⟩
      · rw [Cover.getNode_last]; exact hpF
      · rw [hv, (ess_of_stripRub hsF).2.1]
    · intro a ha
      obtain ⟨hfl, par, hp, h1, h2, h3, h4⟩ := harcs a ha
      obtain ⟨parF, hpF, hsF⟩ := hrub.get' hp
      have eF := ess_of_stripRub hsF
      refine ⟨hfl, parF, by rw [Cover.getNode_last]; exact hpF, ?_, h1, ?_, ?_, ?_⟩
      · intro hr
        obtain ⟨n00, h00, e00⟩ := hback par (List.mem_of_getElem? hp) (eF.2.2.2.2.1.trans hr)
        rw [← eF.1, ← e00.1]
        exact List.mem_map_of_mem h00
      · rw [← eF.1]; exact h2
      · rw [← eF.1]; exact h3
      · rw [← eF.1]; exact h4

theorem mem_argmaxParents {layers : List (List (Node S))} {n p : Node S} :
    p ∈ argmaxParents layers n ↔
      ∃ a ∈ n.inb, getNode layers a.fromL a.fromP = some p ∧ satAdd p.value a.cost = n.value := by
  unfold argmaxParents
  rw [List.mem_filterMap]
  constructor
  · rintro ⟨a, ha, h⟩
    cases hg : getNode layers a.fromL a.fromP with
    | none => rw [hg] at h; cases h
    | some p' =>
      rw [hg] at h
      dsimp only at h
      split at h
      · rename_i hv
        simp only [Option.some.injEq] at h
        rw [h] at hg hv
        exact ⟨a, ha, hg, hv⟩
      · cases h
  · rintro ⟨a, ha, hg, hv⟩
    exact ⟨a, ha, by rw [hg]; dsimp only; rw [if_pos hv]⟩

theorem ebpSome_fRelaxed {layers : List (List (Node S))} {fuel : Nat} {n : Node S}
    (h : ebpSome layers fuel n = true) : n.fRelaxed = false := by
  cases hr : n.fRelaxed with
  | false => rfl
  | true =>
    cases fuel with
    | zero => simp [ebpSome, Node.isExact, hr] at h
    | succ f => simp [ebpSome, Node.isExact, hr] at h

theorem ebpAll_fRelaxed {layers : List (List (Node S))} {fuel : Nat} {n : Node S}
    (h : ebpAll layers fuel n = true) : n.fRelaxed = false := by
  cases hr : n.fRelaxed with
  | false => rfl
  | true =>
    cases fuel with
    | zero => simp [ebpAll, Node.isExact, hr] at h
    | succ f => simp [ebpAll, Node.isExact, hr] at h

/-- the facts about the finished diagram `LS` (all layers, terminal layer included) used below -/
structure FinOk (cfg : Cfg S K) (B : Int) (p0 : List Dec) (LS : List (List (Node S))) : Prop where
  ex : ∀ (l : Nat) (ly : List (Node S)), LS[l]? = some ly → ∀ n ∈ ly, NodeOk cfg B p0 LS l n
  gen : ∀ (l : Nat) (ly : List (Node S)), LS[l]? = some ly → ∀ n ∈ ly, GOk cfg LS l n
  len : LS.length ≤ cfg.P.nbVars + 3

theorem getNode_mem {LS : List (List (Node S))} {l p : Nat} {n : Node S} (h : getNode LS l p = some n) :
    ∃ ly, LS[l]? = some ly ∧ n ∈ ly := by
  obtain ⟨ly, h1, h2⟩ := Cover.getNode_lt h
  exact ⟨ly, h1, List.mem_of_getElem? h2⟩

theorem reach_arc (cfg : Cfg S K) (B : Int) (p0 : List Dec) (hB : NoClamp cfg.P cfg.R cfg.root.value B)
    (l' : Nat) (hl' : l' + 1 ≤ cfg.P.nbVars + 2) (L : List S) (var : Nat)
    (hnv : cfg.P.nextVar (cfg.root.depth + l') L = some var) (par n : Node S) (a : Arc)
    (hL : par.state ∈ L) (hg : ArcGen cfg var par n a) (hv : n.value = satAdd par.value a.cost)
    (q : List Dec) (hr : Reach cfg.P (cfg.root.depth + l') par.state par.value (p0 ++ q)) (hb : Bnd B l' par.value) :
    Reach cfg.P (cfg.root.depth + (l' + 1)) n.state n.value (p0 ++ (q ++ [a.dec])) ∧ Bnd B (l' + 1) n.value := by
  obtain ⟨h1, h2, h3, h4⟩ := hg
  have hstep := Reach.step _ _ _ _ L var a.dec.val hr hnv hL h2
  have hdec : (⟨var, a.dec.val⟩ : Dec) = a.dec := by rw [← h1]
  rw [hdec, ← h3, ← h4] at hstep
  have hbnd' : Bnd B (l' + 1) (par.value + a.cost) := hb.step (h4 ▸ hB.cost _ _ _)
  have hsat : satAdd par.value a.cost = par.value + a.cost := clamp_of_in (satAdd_of_bnd hB hl' hbnd')
  rw [hv, hsat, ← List.append_assoc]
  exact ⟨hstep, hbnd'⟩

/-- **some** resolution of the ties gives an exact best path ⇒ the node is reached exactly with its value -/
theorem ebpSome_reach (cfg : Cfg S K) (B : Int) (p0 : List Dec) (hB : NoClamp cfg.P cfg.R cfg.root.value B)
    (LS : List (List (Node S))) (hF : FinOk cfg B p0 LS) :
    ∀ (fuel l : Nat) (ly : List (Node S)) (n : Node S), LS[l]? = some ly → n ∈ ly → ebpSome LS fuel n = true →
      ∃ q, Reach cfg.P (cfg.root.depth + l) n.state n.value (p0 ++ q) ∧ Bnd B l n.value := by
  have hexact : ∀ (l : Nat) (ly : List (Node S)) (n : Node S), LS[l]? = some ly → n ∈ ly → n.isExact = true →
      ∃ q, Reach cfg.P (cfg.root.depth + l) n.state n.value (p0 ++ q) ∧ Bnd B l n.value := by
    intro l ly n hly hn hx
    obtain ⟨q, _, hr, hd, hb⟩ := hF.ex l ly hly n hn hx
    exact ⟨q, hd ▸ hr, hb⟩
  intro fuel
  induction fuel with
  | zero =>
    intro l ly n hly hn h
    exact hexact l ly n hly hn (by simpa [ebpSome] using h)
  | succ fuel ih =>
    intro l ly n hly hn h
    by_cases hx : n.isExact = true
    · exact hexact l ly n hly hn hx
    · have hr := ebpSome_fRelaxed h
      rcases hF.gen l ly hly n hn hr with hx' | ⟨l', L, var, rfl, hnv, ⟨a0, par0, hb0, _, _, _⟩, harcs⟩
      · exact absurd hx' hx
      · simp only [ebpSome, hb0, Bool.or_eq_true, Bool.and_eq_true, List.any_eq_true] at h
        rcases h with h | ⟨_, p, hp, hpe⟩
        · exact absurd h hx
        · obtain ⟨a, ha, hg, hv⟩ := mem_argmaxParents.mp hp
          obtain ⟨hfl, par, hgp, hinL, hgen⟩ := harcs a ha
          rw [hfl, hgp] at hg
          have hpp : par = p := Option.some.inj hg
          rw [← hpp] at hpe hv
          obtain ⟨lyp, hlyp, hpm⟩ := getNode_mem hgp
          obtain ⟨q, hq, hbq⟩ := ih l' lyp par hlyp hpm hpe
          have hlt := Cover.lt_of_getElem?_some hly
          obtain ⟨h1, h2⟩ := reach_arc cfg B p0 hB l' (by have := hF.len; omega) L var hnv par n a
            (hinL (ebpSome_fRelaxed hpe)) hgen hv.symm q hq hbq
          exact ⟨_, h1, h2⟩

/-- **every** resolution of the ties gives an exact best path ⇒ the `best` chain of the node reaches it exactly -/
theorem ebpAll_reach (cfg : Cfg S K) (B : Int) (p0 : List Dec) (hB : NoClamp cfg.P cfg.R cfg.root.value B)
    (LS : List (List (Node S))) (hF : FinOk cfg B p0 LS) :
    ∀ (fuel l : Nat) (ly : List (Node S)) (n : Node S), LS[l]? = some ly → n ∈ ly → ebpAll LS fuel n = true →
      ∃ q, BestChain LS l n.best q ∧ Reach cfg.P (cfg.root.depth + l) n.state n.value (p0 ++ q) ∧ Bnd B l n.value := by
  have hexact : ∀ (l : Nat) (ly : List (Node S)) (n : Node S), LS[l]? = some ly → n ∈ ly → n.isExact = true →
      ∃ q, BestChain LS l n.best q ∧ Reach cfg.P (cfg.root.depth + l) n.state n.value (p0 ++ q) ∧ Bnd B l n.value := by
    intro l ly n hly hn hx
    obtain ⟨q, hc, hr, hd, hb⟩ := hF.ex l ly hly n hn hx
    exact ⟨q, hc, hd ▸ hr, hb⟩
  intro fuel
  induction fuel with
  | zero =>
    intro l ly n hly hn h
    exact hexact l ly n hly hn (by simpa [ebpAll] using h)
  | succ fuel ih =>
    intro l ly n hly hn h
    by_cases hx : n.isExact = true
    · exact hexact l ly n hly hn hx
    · have hr := ebpAll_fRelaxed h
      rcases hF.gen l ly hly n hn hr with hx' | ⟨l', L, var, rfl, hnv, ⟨a0, par0, hb0, ha0, hg0, hv0⟩, harcs⟩
      · exact absurd hx' hx
      · simp only [ebpAll, hb0, Bool.or_eq_true, Bool.and_eq_true, List.all_eq_true] at h
        rcases h with h | ⟨_, hall⟩
        · exact absurd h hx
        · obtain ⟨hfl, par, hgp, hinL, hgen⟩ := harcs a0 ha0
          rw [hg0] at hgp
          cases hgp
          have hpe := hall par0 (mem_argmaxParents.mpr ⟨a0, ha0, by rw [hfl]; exact hg0, hv0.symm⟩)
          obtain ⟨lyp, hlyp, hpm⟩ := getNode_mem hg0
          obtain ⟨q, hc, hq, hbq⟩ := ih l' lyp par0 hlyp hpm hpe
          have hlt := Cover.lt_of_getElem?_some hly
          obtain ⟨h1, h2⟩ := reach_arc cfg B p0 hB l' (by have := hF.len; omega) L var hnv par0 n a0
            (hinL (ebpAll_fRelaxed hpe)) hgen hv0 q hq hbq
          refine ⟨q ++ [a0.dec], ?_, h1, h2⟩
          rw [hb0]
          exact BestChain.step l' a0 par0 q hfl hg0 hc

/-- the value part of `Truthful`: the optimum is reported, and it is the value of a complete feasible path -/
structure TruthfulVal (cfg : Cfg S K) (p0 : List Dec) (o : Int) (r : Result S) : Prop where
  bestValue : r.bestValue = some o
  bestExactValue : r.bestExactValue = some o
  wit : ∃ (k : Nat) (s : S) (q : List Dec) (L : List S), Reach cfg.P k s o (p0 ++ q) ∧ s ∈ L ∧ cfg.P.nextVar k L = none

theorem Truthful.toVal {cfg : Cfg S K} {p0 : List Dec} {o : Int} {r : Result S} (h : Truthful cfg p0 o r) :
    TruthfulVal cfg p0 o r := by
  obtain ⟨k, s, q, L, h1, h2, h3, _⟩ := h.sol
  exact ⟨h.bestValue, h.bestExactValue, k, s, q, L, h1, h2, h3⟩

theorem bestTerminals_finalizeLayers (dd : DD S K) (bv : Int) (h : maxValue dd.next = some bv) :
    (finalizeLayers dd).bestTerminals = dd.next.filter (fun n => decide (n.value = bv)) := by
  unfold Built.bestTerminals Built.bestValue
  rw [terminals_finalizeLayers, h]

/-- **lower direction, any cache / dominance configuration**: the best value of a restricted or exact compilation never
    exceeds the optimum of the root sub-problem (which is then not `−∞`) -/
theorem nonrelaxed_le_opt (cfg : Cfg S K) (H : Nat → S → EInt) (V : Nat → S → Prop) (B : Int) (p0 : List Dec)
    (cache : Cache S) (store : DomStore S K) (polls : Nat) (stopAt : Option Nat)
    (hty : cfg.ctype = .restricted ∨ cfg.ctype = .exact)
    (hL : LowRel cfg.P H V) (hV : V cfg.root.depth cfg.root.state)
    (hroot : Reach cfg.P cfg.root.depth cfg.root.state cfg.root.value p0)
    (hB : NoClamp cfg.P cfg.R cfg.root.value B)
    (hok : (compile cfg cache store polls stopAt).1 = .ok) (w : Int)
    (hw : (compile cfg cache store polls stopAt).2.1.bestValue = some w) :
    ∃ x, optOf H cfg.root = some x ∧ w ≤ x := by
  obtain ⟨n, q, hn, _, _, hreach, _, hnone, _⟩ :=
    C07.restricted_sound_detail cfg B p0 cache store polls stopAt hty hroot hB hok w hw
  exact complete_le_opt hL hroot hV hreach (List.mem_map_of_mem hn) hnone

/-- **the un-squashed case at the level of `compile`**: in isolation, if `lel` is unset in the final diagram, either result
    is truthful (and declares itself exact) -/
theorem compile_unsquashed (cfg : Cfg S K) (H : Nat → S → EInt) (V : Nat → S → Prop) (B o : Int) (p0 : List Dec)
    (cache : Cache S) (store : DomStore S K) (polls : Nat)
    (hcache : cfg.useCache = false) (hdom : cfg.dom = none)
    (hwf : WfX cfg.P cfg.R H V) (hL : LowRel cfg.P H V) (hV : V cfg.root.depth cfg.root.state)
    (hB : NoClamp cfg.P cfg.R cfg.root.value B) (hlb : InI cfg.lb)
    (hroot : Reach cfg.P cfg.root.depth cfg.root.state cfg.root.value p0)
    (ho : optOf H cfg.root = some o) (hgt : o > cfg.lb) (hO : o ≤ iMax ∨ cfg.lb < iMax)
    (hok : (compile cfg cache store polls none).1 = .ok)
    (hlel : (compile cfg cache store polls none).2.2.2.lel = none) (r : Result S)
    (hr : r = (compile cfg cache store polls none).2.1 ∨ (compile cfg cache store polls none).2.2.1 = some r) :
    r.isExact = true ∧ Truthful cfg p0 o r := by
  obtain ⟨hbl, hdd, e, _, rfl⟩ := compile_results' cfg cache store polls none hok r hr
  rw [hdd] at hlel
  have hy : HypX cfg H V B o := ⟨hcache, hdom, hwf, hB.toDom, clamp_gt hlb hgt hO⟩
  refine ⟨?_, unsquashed_truthful cfg H V B o p0 hy hL hV hB hroot ho cache store polls hbl hlel e⟩
  rw [finalize_isExact]
  have : (finalizeLayers (buildLoop cfg none (cfg.P.nbVars + 2) (initDD cfg cache store polls)).1).isExactField = true := by
    show Option.isNone _ = true
    rw [hlel]; rfl
  rw [this]; rfl

/-- any compilation type, any cache / dominance configuration, any cutoff: with `hasEBP = false` a reported best exact
    value is the value of the reported best exact solution, a complete feasible path through the root sub-problem -/
theorem bestExact_sol_false (cfg : Cfg S K) (B : Int) (p0 : List Dec) (hB : NoClamp cfg.P cfg.R cfg.root.value B)
    (hroot : Reach cfg.P cfg.root.depth cfg.root.state cfg.root.value p0)
    (cache : Cache S) (store : DomStore S K) (polls : Nat) (stopAt : Option Nat)
    (hok : (buildLoop cfg stopAt (cfg.P.nbVars + 2) (initDD cfg cache store polls)).2 = .ok) (w : Int)
    (hw : (finalize cfg (finalizeLayers (buildLoop cfg stopAt (cfg.P.nbVars + 2) (initDD cfg cache store polls)).1) false).1.bestExactValue
      = some w) :
    IsSol cfg p0 w
      (finalize cfg (finalizeLayers (buildLoop cfg stopAt (cfg.P.nbVars + 2) (initDD cfg cache store polls)).1) false).1.bestExactSol := by
  obtain ⟨hinv, _, hterm⟩ := compile_final cfg B p0 hB hroot cache store polls stopAt
  have hterm := hterm hok
  generalize (buildLoop cfg stopAt (cfg.P.nbVars + 2) (initDD cfg cache store polls)).1 = dd at *
  rw [finalize_bestExactValue, terminals_finalizeLayers] at hw
  simp only [Bool.false_eq_true, if_false] at hw
  rcases hterm with hnil | ⟨hnv, hdepth⟩
  · rw [hnil] at hw; cases hw
  · exact finalize_exactSol_false cfg p0 w dd hnv hw (fun n hn hx => hinv.reach_next hdepth hn hx)

end Ddo.Truth
