import DdoModel.Dp
/-! `EInt` (`Ddo.EInt` of `Dp.lean`: `Option Int`, `none` = −∞) as an ordered set under `EInt.max` and `EInt.addI`: antisymmetry, `max` is the
least upper bound, `addI` is monotone, associative and cancels.  (`EInt.le_refl`, `le_trans`, `addI_eq_some`: `Dp.lean`.  Folds of `EInt.max`
over a list: `Examples/EMax.lean`.) -/
namespace Ddo.Examples.EMax
open Ddo

theorem le_antisymm : ∀ {a b : EInt}, a ≤ b → b ≤ a → a = b
  | none, none, _, _ => rfl
  | none, some _, _, h => False.elim h
  | some _, none, h, _ => False.elim h
  | some _, some _, h1, h2 => congrArg some (Int.le_antisymm h1 h2)

theorem le_none {a : EInt} (h : a ≤ none) : a = none := le_antisymm h (EInt.none_le a)

theorem of_some_le {a : Int} : ∀ {b : EInt}, (some a : EInt) ≤ b → ∃ b', b = some b' ∧ a ≤ b'
  | none, h => False.elim h
  | some b', h => ⟨b', rfl, h⟩

theorem le_max_left : ∀ a b : EInt, a ≤ EInt.max a b
  | none, _ => EInt.none_le _
  | some _, none => EInt.le_refl _
  | some x, some y => Int.le_max_left x y

theorem le_max_right : ∀ a b : EInt, b ≤ EInt.max a b
  | _, none => EInt.none_le _
  | none, some _ => EInt.le_refl _
  | some x, some y => Int.le_max_right x y

theorem max_cases : ∀ a b : EInt, EInt.max a b = a ∨ EInt.max a b = b
  | none, _ => Or.inr rfl
  | some _, none => Or.inl rfl
  | some x, some y => (Int.le_total x y).elim (fun h => Or.inr (congrArg some (Int.max_eq_right h)))
      (fun h => Or.inl (congrArg some (Int.max_eq_left h)))

theorem max_le {a b X : EInt} (ha : a ≤ X) (hb : b ≤ X) : EInt.max a b ≤ X := by
  rcases max_cases a b with e | e <;> rw [e]
  · exact ha
  · exact hb

theorem max_none (a : EInt) : EInt.max a none = a := by cases a <;> rfl

theorem addI_mono : ∀ {a b : EInt} {c c' : Int}, a ≤ b → c ≤ c' → a.addI c ≤ b.addI c'
  | none, _, _, _, _, _ => EInt.none_le _
  | some _, none, _, _, h, _ => False.elim h
  | some _, some _, _, _, h, hc => Int.add_le_add h hc

theorem addI_le_self {a : EInt} {c : Int} (hc : c ≤ 0) : a.addI c ≤ a := by
  cases a with
  | none => exact EInt.none_le _
  | some x => exact Int.add_le_of_le_sub_left (by rw [Int.sub_self]; exact hc)

theorem some_add_le_addI {x c : Int} {b : EInt} (h : (some x : EInt) ≤ b) : (some (c + x) : EInt) ≤ b.addI c :=
  Int.add_comm x c ▸ addI_mono h (Int.le_refl c)

theorem of_addI_le {a b : EInt} {x y h : Int} (hle : a.addI x ≤ b.addI y) (ha : a = some h) :
    ∃ h', b = some h' ∧ h + x ≤ h' + y := by
  subst ha
  cases b with
  | none => exact False.elim hle
  | some h' => exact ⟨h', rfl, hle⟩

theorem addI_addI : ∀ (a : EInt) (c d : Int), (a.addI c).addI d = a.addI (c + d)
  | none, _, _ => rfl
  | some x, c, d => congrArg some (Int.add_assoc x c d)

theorem addI_cancel {a b : EInt} {c : Int} (h : a.addI c = b.addI c) : a = b := by
  cases a <;> cases b <;> simp_all [EInt.addI]

end Ddo.Examples.EMax
