import DdoModel.Proofs.CacheDomTools
/-! # `Carrier` — the second way cache + dominance lose the optimum (finding **D17**)

In `Cross` / `CrossSim` a *dominance-derived* threshold is applied to a relaxed node.  Here no such threshold is involved: a
threshold that is perfectly justified for the cache alone — in the potential form of C09, by an **open sub-problem** that carries
the potential — prunes the relaxed image of the protected strategy, and the carrier, which is optimal but not protected, is later
dropped **at its pop** by the checker.  C09 reasons on potentials ("some open node carries it"), C10 on one protected family
("the protected family is never dropped"); the composition needs the carrier to be protected, and nothing forces that.

The model is a variant of `Ddo.C09.Layered.Counter` (`Proofs/AnyOrderLayered.lean`).  7 binary variables, 3 states,
`FixedWidth(1)`; the only configuration evaluated is the duplicate-free fringe with the last-exact-layer cut-set.  Tables: those
of `Counter.T` with the costs `c(x3, state 0) = (3, 0)` and `c(x4, state 2) = (3, 0)` for the decisions `0 | 1` (in `Counter.T`:
`(0, 0)` and `(0, 1)`).  **Optimum 13**; value-to-go of depth 4: `3, 10, 13`.

The rule: key `0` for the states `0` and `2`, none for `1`; one coordinate: `1` for state `0`, `0` for state `2`; the value is used —
"state 0 dominates state 2 at equal or better value".  It has a protected optimal strategy (`undomOpt`: `0, 0, 0, 0, (1, value 3),
(2, 3), (2, 3)`, terminal value 13) but is not admissible (`not_admissibleAll`).

```
turn 1  pop R: restricted 7, incumbent 7; cut-set {A = (1, depth 1), P = (0, depth 1)}, both ub 15.
turn 2  pop A: relaxed: exact chain down to k2 = (state 2, depth 4, value 0), cut-set {k2}, threshold (2, depth 4) ↦ (0, unexplored)
        — justified by the open k2, whose potential is 13.
turn 3  pop P: in the relaxed diagram the protected strategy is merged at depth 3 into a node whose child (state 2, depth 4, value 0),
        **inexact**, is pruned by that threshold; the cut-set node N = (0, depth 2) gets ub 4 ≤ incumbent 7 and is not enqueued.
        For the cache alone this is fine: k2 is open and carries 13.  The checker now holds (state 0, value 0) at depth 4.
turn 4  pop k2 = (2, depth 4, 0): `must_explore` accepts it; `_filter_with_dominance` drops the **root** of its diagram — dominated by
        the entry (0, 0) of depth 4.  Exact empty diagram.  fringe [], `is_exact = true`, `best_value = Some(7)`; optimum 13.
```
Cache alone: 13 (k2 is explored).  Checker alone: 13 (nothing prunes the relaxed node of turn 3, N is worth 13 and is enqueued). -/
set_option linter.unusedSectionVars false
set_option linter.unusedVariables false
namespace Ddo.C10c.Carrier
open Ddo Ddo.C01 Ddo.Closed Ddo.C09 Ddo.C10 Ddo.C10c Ddo.C09.Layered

def T : Tab :=
  { n := 7, m := 3,
    trl := [1,0, 1,0, 1,0,   0,0, 1,1, 1,1,   0,1, 2,2, 2,2,   1,1, 2,0, 2,2,   0,0, 2,2, 2,1,   0,1, 0,1, 2,1,   0,0, 0,0, 0,0],
    cl :=  [0,0, 0,0, 0,0,   0,0, 0,0, 0,0,   0,0, 0,0, 0,0,   3,0, 0,0, 0,0,   0,0, 0,0, 3,0,   2,1, 2,1, 0,2,   0,0, 2,0, 10,0],
    rub := 20 }

/-- `FixedWidth(1)` -/
def ws : List Nat := List.replicate 24 1

def rule : DomRule Int Int :=
  { key := fun s => if s = 0 ∨ s = 2 then some 0 else none, dims := fun _ => 1,
    coord := fun s _ => if s = 0 then 1 else 0, useValue := true }

def sv (dedup : Bool) (kind : CutsetKind) : SolverCfg Int := Layered.sv T ws dedup kind
def dv (dedup : Bool) (kind : CutsetKind) : DSolverCfg Int Int := ⟨sv dedup kind, rule⟩

theorem ok : tableOk T 10 80 13 = true := by decide +kernel

theorem checked : check T 10 = true := checked_of_ok ok

theorem wellFormed (dedup : Bool) (kind : CutsetKind) : WellFormed (dv dedup kind).sv (H T) 10 80 :=
  wellFormed_of_ok ok ws dedup kind

theorem opt13 : (H T 0 (prob T).init).addI (prob T).initVal = some 13 := opt_of_ok ok

/-- `(depth, state, value)` of every exactly reached item -/
def table : List (Nat × Int × Int) :=
  [(0, 0, 0), (1, 1, 0), (1, 0, 0), (2, 1, 0), (2, 0, 0), (3, 2, 0), (3, 0, 0), (3, 1, 0),
   (4, 2, 0), (4, 1, 3), (4, 1, 0), (4, 0, 0), (5, 2, 3), (5, 1, 0), (5, 2, 0), (5, 0, 0),
   (6, 2, 3), (6, 1, 5), (6, 0, 2), (6, 1, 1), (6, 2, 0), (6, 1, 2),
   (7, 0, 13), (7, 0, 3), (7, 0, 7), (7, 0, 5), (7, 0, 2), (7, 0, 1), (7, 0, 10), (7, 0, 0), (7, 0, 4)]

theorem step_table : ∀ e ∈ table, ∀ d ∈ [(0 : Int), 1], e.1 < T.n → child T e d ∈ table := by decide +kernel

def protL : List (Nat × Int × Int) := [(0, 0, 0), (1, 0, 0), (2, 0, 0), (3, 0, 0), (4, 1, 3), (5, 2, 3), (6, 2, 3), (7, 0, 13)]

theorem undom_table : ∀ q ∈ protL, ∀ e ∈ table, e.1 = q.1 → ¬ Dominates rule e.2.1 e.2.2 q.2.1 q.2.2 := by decide +kernel

theorem undomOpt : UndomOpt rule (prob T) (H T) 13 :=
  ⟨_, protected_ofList (L := protL) (by decide) (by decide +kernel) (by decide +kernel) (by decide +kernel)
    fun q hq a va _ hr => undom_table q hq (q.1, a, va) (reach_mem (by decide) step_table hr) rfl⟩

/-- at depth 4 the rule lets state 0 (worth 3) dominate state 2 (worth 13) -/
theorem not_admissibleAll : ¬ AdmissibleAll rule (H T) := by
  intro h
  have := h 4 0 0 2 0 (by decide +kernel)
  exact absurd this (by decide +kernel)

def after (j : Nat) : KDSt Int Int := (dv true .lel).kdsolveLoop j (KDSt.init (dv true .lel))

def viewKD (s : KDSt Int Int) : List (Int × Int × Int × Nat) × Int :=
  (s.st.fringe.map (fun c => (c.state, c.value, c.ub, c.depth)), s.st.bestLb)
def cacheAtKD (s : KDSt Int Int) (d : Nat) : List (Int × Int × Bool) :=
  (s.cache.layers.getD d []).map (fun e => (e.1, e.2.value, e.2.explored))
def cacheIn (s : KDSt Int Int) : Cache Int :=
  (cleanCache T.n s.st.openByLayer T.n s.st.firstActive s.cache).getD s.cache
def storeAt (s : KDSt Int Int) (d : Nat) : List (Int × List (Int × Int)) := s.store.layers.getD d []

/-- all that is read off the run with cache and checker, in one statement so that the run is evaluated once; the theorems below are
    its conjuncts -/
theorem trace :
    let k2 : SubP Int := ⟨2, 0, [], 15, 4⟩
    let cR4 := (dv true .lel).kdcompR (cacheIn (after 3)) (after 3).store k2 7
    ((after 8).st.fringe.length = 0 ∧ (after 8).st.completion = (true, some 7) ∧
      (after 8).st.explored = 4 ∧ (after 8).st.crashed = false) ∧
    (viewKD (after 2) = ([(0, 0, 15, 1), (2, 0, 15, 4)], 7) ∧ cacheAtKD (after 2) 4 = [(2, 0, false)] ∧
      optOf (H T) k2 = some 13) ∧
    (viewKD (after 3) = ([(2, 0, 15, 4)], 7) ∧ storeAt (after 3) 4 = [(0, [(0, 0)])]) ∧
    ((cacheIn (after 3)).mustExplore 2 4 0 = some true ∧ cR4.2.2.2.ndom = 1 ∧ cR4.2.1.isExact = true ∧
      cR4.2.1.bestValue = none) ∧
    viewKD (after 4) = ([], 7) := by
  intro k2 cR4
  decide +kernel

theorem joint_value : (after 8).st.fringe.length = 0 ∧ (after 8).st.completion = (true, some 7) ∧
    (after 8).st.explored = 4 ∧ (after 8).st.crashed = false :=
  trace.1

theorem single_values :
    ((dv true .lel).solveLoop 30 (dv true .lel).init).st.fringe.length = 0 ∧
    ((dv true .lel).solveLoop 30 (dv true .lel).init).st.completion = (true, some 13) ∧
    ((sv true .lel).ksolveLoop 30 (KSt.init (sv true .lel))).st.fringe.length = 0 ∧
    ((sv true .lel).ksolveLoop 30 (KSt.init (sv true .lel))).st.completion = (true, some 13) := by decide +kernel

theorem stage2 : viewKD (after 2) = ([(0, 0, 15, 1), (2, 0, 15, 4)], 7) ∧ cacheAtKD (after 2) 4 = [(2, 0, false)] ∧
    optOf (H T) ⟨2, 0, [], 15, 4⟩ = some 13 :=
  trace.2.1

theorem stage3 : viewKD (after 3) = ([(2, 0, 15, 4)], 7) ∧ storeAt (after 3) 4 = [(0, [(0, 0)])] :=
  trace.2.2.1

theorem stage4 : (cacheIn (after 3)).mustExplore 2 4 0 = some true ∧
    ((dv true .lel).kdcompR (cacheIn (after 3)) (after 3).store ⟨2, 0, [], 15, 4⟩ 7).2.2.2.ndom = 1 ∧
    ((dv true .lel).kdcompR (cacheIn (after 3)) (after 3).store ⟨2, 0, [], 15, 4⟩ 7).2.1.isExact = true ∧
    ((dv true .lel).kdcompR (cacheIn (after 3)) (after 3).store ⟨2, 0, [], 15, 4⟩ 7).2.1.bestValue = none :=
  trace.2.2.2.1

theorem stage_end : viewKD (after 4) = ([], 7) :=
  trace.2.2.2.2

end Ddo.C10c.Carrier
