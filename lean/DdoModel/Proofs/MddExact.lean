import DdoModel.Proofs.MddStep
/-! Exactness invariant of the top-down compilation (`buildLoop` of `DdoModel/Mdd.lean`): every node
    flagged exact is genuinely reachable (`Reach`) by the decisions along its `best` chain; in a
    restricted / exact compilation every node is exact.  Property theorems: `DdoModel/Props/C07.lean`.

The per-node invariant `NodeOk` (loop invariant: `MInv`) also carries `n.depth = cfg.root.depth + l` and
`|n.value| ≤ (l + 1) · B` (`Bnd`), which is what makes `NoClamp` applicable to `satAdd`.  It is stated for any decision
list `p0` by which the root sub-problem is reached exactly: `Reach` lists decisions in order, whereas the `path` of a
sub-problem handed out by `finalize` is `root.path ++ bestPath …`, last arc first, so an arbitrary `p0` keeps the result
usable for sub-problems (`p0 := cfg.root.path` is the special case).

Every stage of a layer step keeps the (exact) nodes up to fields other than `state`, `value`, `best`, `depth` (`SubS`,
`SubE`): the filters and `restrictLayer` only touch `theta` / `cache` / `deleted`; in `relaxLayer` the node that receives
the redirected arcs stays flagged relaxed, so these only ever enter a non-exact node.  The expansion changes the expanded
layer in its `rub` fields only (`RubEq`), and an exact child has exact parents (`childOk_appendEdge`: the `Reach.step`).

Finalisation: a bottom-up pass leaves untouched, position-wise, whatever does not look at the fields it writes
(`MapEq f`), hence the reported `bestSol` is the `best` chain of the terminal node that attains `bestValue`
(`finalize_bestSol_eq`). -/
set_option linter.unusedSectionVars false
namespace Ddo
variable {S : Type}

theorem foldl_inv {α β : Type} (Pr : β → Prop) (f : β → α → β) (l : List α) (b : β)
    (h0 : Pr b) (hstep : ∀ b a, a ∈ l → Pr b → Pr (f b a)) : Pr (l.foldl f b) :=
  Cover.foldl_inv Pr f l b h0 hstep

/-- `BestChain layers l b q`: starting from a node of layer `l` whose `best` field is `b` and following
    the `best` arcs up to a node without `best` arc (the root, layer `0`), the decisions met are `q`
    (listed from the root down). -/
inductive BestChain (layers : List (List (Node S))) : Nat → Option Arc → List Dec → Prop
  | root : BestChain layers 0 none []
  | step (l : Nat) (a : Arc) (p : Node S) (q : List Dec) :
      a.fromL = l → getNode layers l a.fromP = some p → BestChain layers l p.best q →
      BestChain layers (l + 1) (some a) (q ++ [a.dec])

theorem getNode_append_left (layers more : List (List (Node S))) (l p : Nat) (n : Node S)
    (h : getNode layers l p = some n) : getNode (layers ++ more) l p = some n := by
  unfold getNode at h ⊢
  cases hl : layers[l]? with
  | none => rw [hl] at h; cases h
  | some ly =>
    have hlt : l < layers.length := Cover.lt_of_getElem?_some hl
    rw [List.getElem?_append_left hlt, hl]
    rw [hl] at h; exact h

theorem BestChain.mono {layers : List (List (Node S))} (more : List (List (Node S))) {l : Nat} {b : Option Arc}
    {q : List Dec} (h : BestChain layers l b q) : BestChain (layers ++ more) l b q := by
  induction h with
  | root => exact .root
  | step l a p q hl hg _ ih => exact .step l a p q hl (getNode_append_left _ _ _ _ _ hg) ih

/-- `BestChain` for diagrams with long arcs (the pooled diagram): an arc may come from ANY earlier layer; `l` only bounds
    the layers in which the ancestors live. -/
inductive BestChainP (layers : List (List (Node S))) : Nat → Option Arc → List Dec → Prop
  | root (l : Nat) : BestChainP layers l none []
  | step (l : Nat) (a : Arc) (p : Node S) (q : List Dec) :
      a.fromL < l → getNode layers a.fromL a.fromP = some p → BestChainP layers a.fromL p.best q →
      BestChainP layers l (some a) (q ++ [a.dec])

theorem BestChainP.bestPath_eq {layers : List (List (Node S))} {l : Nat} {b : Option Arc} {q : List Dec}
    (h : BestChainP layers l b q) : ∀ (n : Node S), n.best = b → ∀ fuel, l ≤ fuel →
      (bestPath layers fuel n).reverse = q := by
  induction h with
  | root l =>
    intro n hn fuel _
    cases fuel with
    | zero => rfl
    | succ f => simp only [bestPath, hn, List.reverse_nil]
  | step l a p q hl hg _ ih =>
    intro n hn fuel hf
    cases fuel with
    | zero => omega
    | succ f =>
      simp only [bestPath, hn, hg, List.reverse_cons]
      rw [ih p rfl f (Nat.le_of_lt_succ (Nat.lt_of_lt_of_le hl hf))]

theorem BestChain.toP {layers : List (List (Node S))} {l : Nat} {b : Option Arc} {q : List Dec}
    (h : BestChain layers l b q) : BestChainP layers l b q := by
  induction h with
  | root => exact .root 0
  | step l a p q hl hg _ ih => exact .step (l + 1) a p q (hl ▸ Nat.lt_succ_self _) (hl ▸ hg) (hl ▸ ih)

theorem BestChain.bestPath_eq {layers : List (List (Node S))} {l : Nat} {b : Option Arc} {q : List Dec}
    (h : BestChain layers l b q) : ∀ (n : Node S), n.best = b → ∀ fuel, l ≤ fuel →
      (bestPath layers fuel n).reverse = q :=
  h.toP.bestPath_eq

def CoreEq (a b : Node S) : Prop := a.state = b.state ∧ a.value = b.value ∧ a.best = b.best ∧ a.depth = b.depth

theorem CoreEq.rfl' (a : Node S) : CoreEq a a := ⟨rfl, rfl, rfl, rfl⟩
theorem CoreEq.trans {a b c : Node S} (h1 : CoreEq a b) (h2 : CoreEq b c) : CoreEq a c :=
  ⟨h1.1.trans h2.1, h1.2.1.trans h2.2.1, h1.2.2.1.trans h2.2.2.1, h1.2.2.2.trans h2.2.2.2⟩

def SubS (ly ly0 : List (Node S)) : Prop := ∀ n ∈ ly, ∃ n0 ∈ ly0, n0.isExact = n.isExact ∧ CoreEq n0 n
def SubE (ly ly0 : List (Node S)) : Prop := ∀ n ∈ ly, n.isExact = true → ∃ n0 ∈ ly0, n0.isExact = true ∧ CoreEq n0 n

theorem SubS.refl (ly : List (Node S)) : SubS ly ly := fun n hn => ⟨n, hn, rfl, CoreEq.rfl' n⟩
theorem SubE.refl (ly : List (Node S)) : SubE ly ly := fun n hn he => ⟨n, hn, he, CoreEq.rfl' n⟩
theorem SubS.toSub {ly ly0 : List (Node S)} (h : SubS ly ly0) : SubE ly ly0 := fun n hn he => by
  obtain ⟨n0, h0, he0, hc⟩ := h n hn
  exact ⟨n0, h0, he0.trans he, hc⟩
theorem SubS.trans {a b c : List (Node S)} (h1 : SubS a b) (h2 : SubS b c) : SubS a c := fun n hn => by
  obtain ⟨n1, hn1, he1, hc1⟩ := h1 n hn
  obtain ⟨n2, hn2, he2, hc2⟩ := h2 n1 hn1
  exact ⟨n2, hn2, he2.trans he1, hc2.trans hc1⟩
theorem SubE.trans {a b c : List (Node S)} (h1 : SubE a b) (h2 : SubE b c) : SubE a c := fun n hn he => by
  obtain ⟨n1, hn1, he1, hc1⟩ := h1 n hn he
  obtain ⟨n2, hn2, he2, hc2⟩ := h2 n1 hn1 he1
  exact ⟨n2, hn2, he2, hc2.trans hc1⟩

theorem SubS.set {ly ly0 : List (Node S)} (h : SubS ly ly0) {p : Nat} {n n' : Node S} (hp : ly[p]? = some n)
    (he : n'.isExact = n.isExact) (hc : CoreEq n n') : SubS (ly.set p n') ly0 := fun m hm => by
  rcases List.mem_or_eq_of_mem_set hm with hm | rfl
  · exact h m hm
  · obtain ⟨n0, h0, he0, hc0⟩ := h n (List.mem_of_getElem? hp)
    exact ⟨n0, h0, he0.trans he.symm, hc0.trans hc⟩

variable {K : Type} [DecidableEq S] [DecidableEq K]

theorem filterCache_forall {Q : Node S → Prop} (hQ : ∀ n t, Q n → Q { n with cache := true, theta := t })
    (cfg : Cfg S K) (cache : Cache S) (layer : List (Node S)) (cur : List Nat) (h : ∀ n ∈ layer, Q n) :
    ∀ n ∈ (filterCache cfg cache layer cur).1, Q n := by
  unfold filterCache
  refine foldl_inv (β := List (Node S) × List Nat) (fun acc => ∀ n ∈ acc.1, Q n) _ _ _ h ?_
  rintro ⟨ly, keep⟩ p _ h
  dsimp only at h ⊢
  split
  · exact h
  · rename_i n hn
    split
    · split
      · exact h
      · exact Cover.forall_set h p (hQ n _ (h n (List.mem_of_getElem? hn)))
    · exact h

theorem filterDom_forall {Q : Node S → Prop} (hQ : ∀ n t, Q n → Q { n with theta := t })
    (cfg : Cfg S K) (store : DomStore S K) (layer : List (Node S)) (cur : List Nat) (h : ∀ n ∈ layer, Q n) :
    ∀ n ∈ (filterDom cfg store layer cur).1, Q n := by
  unfold filterDom
  split
  · exact h
  · rename_i D _
    refine foldl_inv (β := List (Node S) × List Nat × DomStore S K × Bool) (fun acc => ∀ n ∈ acc.1, Q n) _ _ _ h ?_
    rintro ⟨ly, keep, st, ok⟩ p _ h
    dsimp only at h ⊢
    split
    · exact h
    · rename_i n hn
      split
      · split
        · exact h
        · split
          · exact Cover.forall_set h p (hQ n _ (h n (List.mem_of_getElem? hn)))
          · exact h
      · exact h

theorem preSquash_forall {Q : Node S → Prop} (hQc : ∀ n t, Q n → Q { n with cache := true, theta := t })
    (hQ : ∀ n t, Q n → Q { n with theta := t })
    (cfg : Cfg S K) (dd : DD S K) (h : ∀ n ∈ dd.next, Q n) : ∀ n ∈ (Width.preSquash cfg dd).1, Q n := by
  unfold Width.preSquash
  refine filterDom_forall hQ cfg dd.store _ _ ?_
  split
  · exact h
  · exact filterCache_forall hQc cfg dd.cache dd.next _ h

theorem restrictLayer_forall {Q : Node S → Prop} (hQ : ∀ n, Q n → Q { n with deleted := true })
    (cfg : Cfg S K) (layer : List (Node S)) (cur : List Nat) (h : ∀ n ∈ layer, Q n) :
    ∀ n ∈ (restrictLayer cfg layer cur).1, Q n := by
  unfold restrictLayer
  dsimp only
  refine foldl_inv (β := List (Node S)) (fun acc => ∀ n ∈ acc, Q n) _ _ _ h ?_
  intro ly p _ h
  split
  · rename_i n hn
    exact Cover.forall_set h p (hQ n (h n (List.mem_of_getElem? hn)))
  · exact h

theorem filterCache_subS (cfg : Cfg S K) (cache : Cache S) (layer : List (Node S)) (cur : List Nat) :
    SubS (filterCache cfg cache layer cur).1 layer :=
  filterCache_forall (fun _ _ h => h) cfg cache layer cur (SubS.refl layer)

theorem filterDom_subS (cfg : Cfg S K) (store : DomStore S K) (layer : List (Node S)) (cur : List Nat) :
    SubS (filterDom cfg store layer cur).1 layer :=
  filterDom_forall (fun _ _ h => h) cfg store layer cur (SubS.refl layer)

theorem preSquash_subS (cfg : Cfg S K) (dd : DD S K) : SubS (Width.preSquash cfg dd).1 dd.next :=
  preSquash_forall (fun _ _ h => h) (fun _ _ h => h) cfg dd (SubS.refl dd.next)

theorem restrictLayer_subS (cfg : Cfg S K) (layer : List (Node S)) (cur : List Nat) :
    SubS (restrictLayer cfg layer cur).1 layer :=
  restrictLayer_forall (fun _ h => h) cfg layer cur (SubS.refl layer)

theorem isExact_of_fRelaxed {n : Node S} (h : n.fRelaxed = true) : n.isExact = false := by
  unfold Node.isExact; rw [h]; simp

theorem appendEdge_fRelaxed (p c : Node S) (a : Arc) : (appendEdge p c a).fRelaxed = c.fRelaxed := by
  unfold appendEdge; dsimp only; split <;> rfl

/-- the redirected arcs only ever enter a node flagged relaxed, hence not exact -/
theorem relaxLayer_sub (cfg : Cfg S K) (layers : List (List (Node S))) (layer : List (Node S)) (cur : List Nat) (log : List (Call S)) :
    SubE (relaxLayer cfg layers layer cur log).1 layer := by
  have hQm : ∀ n : Node S, n.fRelaxed = true →
      n.isExact = true → ∃ n0 ∈ layer, n0.isExact = true ∧ CoreEq n0 n :=
    fun n hr he => by rw [isExact_of_fRelaxed hr] at he; cases he
  exact Cover.relaxLayer_forall _ (fun n => n.fRelaxed = true) cfg layers layer cur log hQm
    (hQm _ rfl) (fun _ _ => rfl) (fun _ _ h => h) (fun _ h => h)
    (fun _ _ _ _ src m _ hm => (appendEdge_fRelaxed src m _).trans hm) (SubE.refl layer)

theorem appendEdge_state (p c : Node S) (a : Arc) : (appendEdge p c a).state = c.state :=
  Cover.appendEdge_state p c a
theorem appendEdge_depth (p c : Node S) (a : Arc) : (appendEdge p c a).depth = c.depth := by
  unfold appendEdge; dsimp only; split <;> rfl
theorem appendEdge_isExact (p c : Node S) (a : Arc) : (appendEdge p c a).isExact = (p.isExact && c.isExact) := by
  unfold appendEdge; dsimp only
  split <;> (simp only [Node.isExact]; cases p.fExact <;> cases p.fRelaxed <;> cases c.fExact <;> cases c.fRelaxed <;> rfl)
theorem appendEdge_best_value (p c : Node S) (a : Arc) :
    (c.value ≤ satAdd p.value a.cost ∧ (appendEdge p c a).best = some a ∧ (appendEdge p c a).value = satAdd p.value a.cost) ∨
    (¬ c.value ≤ satAdd p.value a.cost ∧ (appendEdge p c a).best = c.best ∧ (appendEdge p c a).value = c.value) := by
  unfold appendEdge; dsimp only
  split
  · rename_i h; exact .inl ⟨h, rfl, rfl⟩
  · rename_i h; exact .inr ⟨h, rfl, rfl⟩

/-- the `fresh` node of `branchOn` (target state new), before `appendEdge` gives it its first arc -/
def freshNode (cfg : Cfg S K) (parent : Node S) (d : Dec) : Node S :=
  { state := cfg.P.trans parent.state d,
    value := satAdd parent.value (cfg.P.cost parent.state (cfg.P.trans parent.state d) d),
    fExact := parent.isExact, depth := parent.depth + 1 }

theorem branchOn_mem (cfg : Cfg S K) (parent : Node S) (pl pp : Nat) (d : Dec) (next : List (Node S)) :
    ∀ c ∈ branchOn cfg parent pl pp d next, c ∈ next ∨
      ∃ m, (m ∈ next ∨ m = freshNode cfg parent d) ∧ m.state = cfg.P.trans parent.state d ∧
        c = appendEdge parent m ⟨pl, pp, d, cfg.P.cost parent.state (cfg.P.trans parent.state d) d⟩ :=
  Cover.go_mem parent _ _ _ next

def Bnd (B : Int) (l : Nat) (v : Int) : Prop := -(((l : Int) + 1) * B) ≤ v ∧ v ≤ ((l : Int) + 1) * B

theorem Bnd.step {B : Int} {l : Nat} {v c : Int} (h : Bnd B l v) (hc : -B ≤ c ∧ c ≤ B) : Bnd B (l + 1) (v + c) := by
  unfold Bnd at *
  have e : (((l + 1 : Nat) : Int) + 1) * B = ((l : Int) + 1) * B + B := by
    rw [show (((l + 1 : Nat) : Int) + 1) = ((l : Int) + 1) + 1 by omega, Int.add_mul, Int.one_mul]
  rw [e]; omega

theorem Bnd.inI {B : Int} {nb l : Nat} {v : Int} (h0 : 0 ≤ B) (hs : ((nb : Int) + 2) * B ≤ 4611686018427387904)
    (hl : l ≤ nb + 2) (h : Bnd B l v) : InI v := by
  unfold Bnd at h
  have h1 : ((l : Int) + 1) * B ≤ ((nb : Int) + 3) * B := Int.mul_le_mul_of_nonneg_right (by omega) h0
  have h2 : ((nb : Int) + 3) * B = ((nb : Int) + 2) * B + B := by
    rw [show ((nb : Int) + 3) = ((nb : Int) + 2) + 1 by omega, Int.add_mul, Int.one_mul]
  have h3 : (2 : Int) * B ≤ ((nb : Int) + 2) * B := Int.mul_le_mul_of_nonneg_right (by omega) h0
  unfold InI iMin iMax
  omega


def NodeOk (cfg : Cfg S K) (B : Int) (p0 : List Dec) (layers : List (List (Node S))) (l : Nat) (n : Node S) : Prop :=
  n.isExact = true → ∃ q, BestChain layers l n.best q ∧
    Reach cfg.P n.depth n.state n.value (p0 ++ q) ∧
    n.depth = cfg.root.depth + l ∧ Bnd B l n.value

/-- `L` = the states handed to `nextVar`.  `Reach.step` wants the state of the parent among them; that of the merged
    node need not be, but the merged node is not exact. -/
def ParOk (cfg : Cfg S K) (B : Int) (p0 : List Dec) (layers : List (List (Node S))) (L : List S) (n : Node S) : Prop :=
  NodeOk cfg B p0 layers layers.length n ∧ (n.isExact = true → n.state ∈ L)

theorem NodeOk.of_coreEq {cfg : Cfg S K} {B : Int} {p0 : List Dec} {layers : List (List (Node S))} {l : Nat} {n0 n : Node S}
    (h : NodeOk cfg B p0 layers l n0) (he : n.isExact = true → n0.isExact = true) (hc : CoreEq n0 n) : NodeOk cfg B p0 layers l n := by
  intro hn
  obtain ⟨q, h1, h2, h3, h4⟩ := h (he hn)
  obtain ⟨hs, hv, hb, hd⟩ := hc
  exact ⟨q, hb ▸ h1, hs ▸ hv ▸ hd ▸ h2, hd ▸ h3, hv ▸ h4⟩

theorem NodeOk.mono {cfg : Cfg S K} {B : Int} {p0 : List Dec} {layers : List (List (Node S))} {l : Nat} {n : Node S}
    (h : NodeOk cfg B p0 layers l n) (more : List (List (Node S))) : NodeOk cfg B p0 (layers ++ more) l n := by
  intro hn
  obtain ⟨q, h1, h2⟩ := h hn
  exact ⟨q, h1.mono more, h2⟩

theorem ParOk.of_sub {cfg : Cfg S K} {B : Int} {p0 : List Dec} {layers : List (List (Node S))} {L : List S} {ly ly0 : List (Node S)}
    (hs : SubE ly ly0) (h : ∀ n ∈ ly0, ParOk cfg B p0 layers L n) : ∀ n ∈ ly, ParOk cfg B p0 layers L n := by
  intro n hn
  refine ⟨fun he => ?_, fun he => ?_⟩
  · obtain ⟨n0, h0, he0, hc⟩ := hs n hn he
    exact (h n0 h0).1.of_coreEq (fun _ => he0) hc he
  · obtain ⟨n0, h0, he0, hc⟩ := hs n hn he
    exact hc.1 ▸ (h n0 h0).2 he0

def stripRub (n : Node S) : Node S := { n with rub := 0 }

def RubEq (ly ly0 : List (Node S)) : Prop := ∀ p : Nat, (ly[p]?).map stripRub = (ly0[p]?).map stripRub

theorem RubEq.refl (ly : List (Node S)) : RubEq ly ly := fun _ => rfl

theorem RubEq.set {ly ly0 : List (Node S)} (h : RubEq ly ly0) {p : Nat} {n n' : Node S} (hp : ly[p]? = some n)
    (hs : stripRub n' = stripRub n) : RubEq (ly.set p n') ly0 := by
  intro j
  rw [List.getElem?_set]
  split
  · rename_i hpj
    subst hpj
    have hlt : p < ly.length := Cover.lt_of_getElem?_some hp
    rw [if_pos hlt, ← h p, hp]
    simp only [Option.map_some, hs]
  · exact h j

theorem RubEq.get {ly ly0 : List (Node S)} (h : RubEq ly ly0) {p : Nat} {n : Node S} (hp : ly[p]? = some n) :
    ∃ n0, ly0[p]? = some n0 ∧ stripRub n0 = stripRub n := by
  have := h p
  rw [hp] at this
  cases h0 : ly0[p]? with
  | none => rw [h0] at this; cases this
  | some n0 =>
    rw [h0] at this
    simp only [Option.map_some, Option.some.injEq] at this
    exact ⟨n0, rfl, this.symm⟩

theorem RubEq.get' {ly ly0 : List (Node S)} (h : RubEq ly ly0) {p : Nat} {n0 : Node S} (hp : ly0[p]? = some n0) :
    ∃ n, ly[p]? = some n ∧ stripRub n0 = stripRub n :=
  RubEq.get (fun j => (h j).symm) hp |>.imp fun _ h => ⟨h.1, h.2.symm⟩

theorem stripRub_core {a b : Node S} (h : stripRub a = stripRub b) : a.isExact = b.isExact ∧ CoreEq a b := by
  have h1 := congrArg Node.state h
  have h2 := congrArg Node.value h
  have h3 := congrArg Node.best h
  have h4 := congrArg Node.depth h
  have h5 := congrArg Node.fExact h
  have h6 := congrArg Node.fRelaxed h
  simp only [stripRub] at h1 h2 h3 h4 h5 h6
  exact ⟨by simp only [Node.isExact, h5, h6], h1, h2, h3, h4⟩

theorem RubEq.subS {ly ly0 : List (Node S)} (h : RubEq ly ly0) : SubS ly ly0 := by
  intro n hn
  obtain ⟨p, hp⟩ := List.mem_iff_getElem?.1 hn
  obtain ⟨n0, h0, hs⟩ := h.get hp
  exact ⟨n0, List.mem_of_getElem? h0, (stripRub_core hs).1, (stripRub_core hs).2⟩


/-- `NodeOk` for a child of the layer `ly0` being expanded, with the first step of the chain spelled out: the parent sits
    in `ly0`, which is not yet in `layers` -/
def ChildOk (cfg : Cfg S K) (B : Int) (p0 : List Dec) (layers : List (List (Node S))) (ly0 : List (Node S)) (c : Node S) : Prop :=
  c.isExact = true → ∃ (a : Arc) (pn : Node S) (q : List Dec),
    c.best = some a ∧ a.fromL = layers.length ∧ ly0[a.fromP]? = some pn ∧
    BestChain layers layers.length pn.best q ∧
    Reach cfg.P c.depth c.state c.value (p0 ++ (q ++ [a.dec])) ∧
    c.depth = cfg.root.depth + (layers.length + 1) ∧ Bnd B (layers.length + 1) c.value

theorem satAdd_of_bnd {P : Problem S} {R : Relax S} {rv B : Int} (hB : NoClamp P R rv B) {l : Nat} {v : Int}
    (hl : l ≤ P.nbVars + 2) (h : Bnd B l v) : InI v := Bnd.inI hB.nonneg hB.small hl h

theorem childOk_appendEdge (cfg : Cfg S K) (B : Int) (p0 : List Dec) (hB : NoClamp cfg.P cfg.R cfg.root.value B)
    (layers : List (List (Node S))) (hlen : layers.length ≤ cfg.P.nbVars + 1)
    (ly0 : List (Node S)) (L : List S) (var : Nat)
    (hnv : cfg.P.nextVar (cfg.root.depth + layers.length) L = some var)
    (p : Nat) (n0 par : Node S) (h0 : ly0[p]? = some n0) (hpar0 : ParOk cfg B p0 layers L n0)
    (hs : stripRub n0 = stripRub par) (d : Int) (hd : d ∈ cfg.P.domain var par.state)
    (m : Node S) (hm : ChildOk cfg B p0 layers ly0 m ∨ m = freshNode cfg par ⟨var, d⟩)
    (hms : m.state = cfg.P.trans par.state ⟨var, d⟩) :
    ChildOk cfg B p0 layers ly0 (appendEdge par m
      ⟨layers.length, p, ⟨var, d⟩, cfg.P.cost par.state (cfg.P.trans par.state ⟨var, d⟩) ⟨var, d⟩⟩) := by
  intro hex
  rw [appendEdge_isExact, Bool.and_eq_true] at hex
  obtain ⟨hpe, hme⟩ := hex
  obtain ⟨hie, hst, hv, hb, hdp⟩ := stripRub_core hs
  obtain ⟨q, hq, hreach, hdepth, hbnd⟩ := hpar0.1 (hie.trans hpe)
  have hinL := hpar0.2 (hie.trans hpe)
  rw [appendEdge_state, appendEdge_depth]
  have hcost := hB.cost par.state (cfg.P.trans par.state ⟨var, d⟩) ⟨var, d⟩
  have hbnd' : Bnd B (layers.length + 1) (par.value + cfg.P.cost par.state (cfg.P.trans par.state ⟨var, d⟩) ⟨var, d⟩) :=
    (hv ▸ hbnd).step hcost
  have hsat : satAdd par.value (cfg.P.cost par.state (cfg.P.trans par.state ⟨var, d⟩) ⟨var, d⟩) =
      par.value + cfg.P.cost par.state (cfg.P.trans par.state ⟨var, d⟩) ⟨var, d⟩ :=
    clamp_of_in (satAdd_of_bnd hB (by omega) hbnd')
  have hstep := Reach.step _ _ _ _ L var d hreach (hdepth ▸ hnv) hinL (hst ▸ hd)
  rw [hst, hv, hdepth] at hstep
  have hmdepth : m.depth = cfg.root.depth + (layers.length + 1) := by
    rcases hm with hm | hm
    · obtain ⟨_, _, _, _, _, _, _, _, h, _⟩ := hm hme; exact h
    · rw [hm]; simp only [freshNode]; omega
  rcases appendEdge_best_value par m
    ⟨layers.length, p, ⟨var, d⟩, cfg.P.cost par.state (cfg.P.trans par.state ⟨var, d⟩) ⟨var, d⟩⟩ with ⟨_, hbest, hval⟩ | ⟨hlt, hbest, hval⟩
  · refine ⟨_, n0, q, hbest, rfl, h0, hq, ?_, hmdepth, ?_⟩
    · rw [hval, hmdepth, hms]
      dsimp only
      rw [hsat, ← List.append_assoc]
      exact hstep
    · rw [hval]; dsimp only; rw [hsat]; exact hbnd'
  · rw [hbest, hval]
    rcases hm with hm | hm
    · exact hm hme
    · exfalso
      apply hlt
      rw [hm]
      simp only [freshNode]
      exact Int.le_refl _


theorem freshNode_isExact (cfg : Cfg S K) (par : Node S) (d : Dec) : (freshNode cfg par d).isExact = par.isExact := by
  simp only [freshNode, Node.isExact, Bool.not_false, Bool.and_true]

theorem expandOne_rub_children (Q : Node S → Prop) (cfg : Cfg S K) (var lidx : Nat) (ly0 : List (Node S))
    (acc : List (Node S) × List (Node S) × List (Call S)) (p : Nat) (hrub : RubEq acc.1 ly0) (hall : ∀ c ∈ acc.2.1, Q c)
    (hstep : ∀ n0 par, ly0[p]? = some n0 → stripRub n0 = stripRub par → ∀ d ∈ cfg.P.domain var par.state, ∀ m,
      (Q m ∨ m = freshNode cfg par ⟨var, d⟩) → m.state = cfg.P.trans par.state ⟨var, d⟩ →
      Q (appendEdge par m ⟨lidx, p, ⟨var, d⟩, cfg.P.cost par.state (cfg.P.trans par.state ⟨var, d⟩) ⟨var, d⟩⟩)) :
    RubEq (expandOne cfg var lidx acc p).1 ly0 ∧ ∀ c ∈ (expandOne cfg var lidx acc p).2.1, Q c := by
  obtain ⟨ly, nx, lg⟩ := acc
  unfold expandOne
  dsimp only
  split
  · exact ⟨hrub, hall⟩
  · rename_i n hn
    obtain ⟨n0, h0, hs⟩ := hrub.get hn
    have hrub' : RubEq (ly.set p { n with rub := cfg.R.rub n.state }) ly0 := hrub.set hn rfl
    split
    · have hs' : stripRub n0 = stripRub { n with rub := cfg.R.rub n.state } := hs
      generalize hpar' : ({ n with rub := cfg.R.rub n.state } : Node S) = par at hs' hrub' ⊢
      have hst : n.state = par.state := by rw [← hpar']
      simp only [hst]
      refine ⟨hrub', ?_⟩
      refine foldl_inv (β := List (Node S) × List (Call S)) (fun acc => ∀ c ∈ acc.1, Q c) _ _ _ hall ?_
      rintro ⟨nx', lg'⟩ d hd ih
      dsimp only at ih ⊢
      intro c hc
      rcases branchOn_mem cfg par lidx p ⟨var, d⟩ nx' c hc with hc | ⟨m, hm, hms, rfl⟩
      · exact ih c hc
      · exact hstep n0 par h0 hs' d hd m (hm.imp (ih m) id) hms
    · exact ⟨hrub', hall⟩

structure EInv (cfg : Cfg S K) (B : Int) (p0 : List Dec) (layers : List (List (Node S))) (ly0 : List (Node S))
    (acc : List (Node S) × List (Node S) × List (Call S)) : Prop where
  rub : RubEq acc.1 ly0
  child : ∀ c ∈ acc.2.1, ChildOk cfg B p0 layers ly0 c
  allEx : (∀ n ∈ ly0, n.isExact = true) → ∀ c ∈ acc.2.1, c.isExact = true

theorem expandOne_inv (cfg : Cfg S K) (B : Int) (p0 : List Dec) (hB : NoClamp cfg.P cfg.R cfg.root.value B)
    (layers : List (List (Node S))) (hlen : layers.length ≤ cfg.P.nbVars + 1)
    (ly0 : List (Node S)) (L : List S) (var : Nat)
    (hnv : cfg.P.nextVar (cfg.root.depth + layers.length) L = some var)
    (hpar : ∀ n ∈ ly0, ParOk cfg B p0 layers L n)
    (acc : List (Node S) × List (Node S) × List (Call S)) (p : Nat) (h : EInv cfg B p0 layers ly0 acc) :
    EInv cfg B p0 layers ly0 (expandOne cfg var layers.length acc p) := by
  have hstep : ∀ n0 par, ly0[p]? = some n0 → stripRub n0 = stripRub par → ∀ d ∈ cfg.P.domain var par.state, ∀ m,
      ((ChildOk cfg B p0 layers ly0 m ∧ ((∀ n ∈ ly0, n.isExact = true) → m.isExact = true)) ∨
        m = freshNode cfg par ⟨var, d⟩) → m.state = cfg.P.trans par.state ⟨var, d⟩ →
      ChildOk cfg B p0 layers ly0 (appendEdge par m
        ⟨layers.length, p, ⟨var, d⟩, cfg.P.cost par.state (cfg.P.trans par.state ⟨var, d⟩) ⟨var, d⟩⟩) ∧
      ((∀ n ∈ ly0, n.isExact = true) → (appendEdge par m
        ⟨layers.length, p, ⟨var, d⟩, cfg.P.cost par.state (cfg.P.trans par.state ⟨var, d⟩) ⟨var, d⟩⟩).isExact = true) := by
    intro n0 par h0 hs' d hd m hm hms
    refine ⟨childOk_appendEdge cfg B p0 hB layers hlen ly0 L var hnv p n0 par h0 (hpar n0 (List.mem_of_getElem? h0)) hs' d hd m
      (hm.imp (·.1) id) hms, fun hall => ?_⟩
    have hpe : par.isExact = true := (stripRub_core hs').1 ▸ hall n0 (List.mem_of_getElem? h0)
    rw [appendEdge_isExact, hpe, Bool.true_and]
    rcases hm with hm | hm
    · exact hm.2 hall
    · rw [hm, freshNode_isExact]; exact hpe
  obtain ⟨h1, h2⟩ := expandOne_rub_children _ cfg var layers.length ly0 acc p h.rub
    (fun c hc => ⟨h.child c hc, fun hall => h.allEx hall c hc⟩) hstep
  exact ⟨h1, fun c hc => (h2 c hc).1, fun hall c hc => (h2 c hc).2 hall⟩

theorem expandAll_inv (cfg : Cfg S K) (B : Int) (p0 : List Dec) (hB : NoClamp cfg.P cfg.R cfg.root.value B)
    (layers : List (List (Node S))) (hlen : layers.length ≤ cfg.P.nbVars + 1)
    (ly0 : List (Node S)) (L : List S) (var : Nat)
    (hnv : cfg.P.nextVar (cfg.root.depth + layers.length) L = some var)
    (hpar : ∀ n ∈ ly0, ParOk cfg B p0 layers L n) (cur : List Nat) (log : List (Call S)) :
    EInv cfg B p0 layers ly0 (expandAll cfg var layers.length ly0 cur log) := by
  unfold expandAll
  refine foldl_inv (EInv cfg B p0 layers ly0) _ _ _ ⟨RubEq.refl _, ?_, ?_⟩ ?_
  · intro c hc; cases hc
  · intro _ c hc; cases hc
  · intro acc p _ h
    exact expandOne_inv cfg B p0 hB layers hlen ly0 L var hnv hpar acc p h


theorem squash_sub (cfg : Cfg S K) (dd : DD S K) (layer : List (Node S)) (cur : List Nat)
    (l : List (Node S)) (c : List Nat) (lg : List (Call S)) (lel : Option Nat)
    (h : squash cfg dd layer cur = some (l, c, lg, lel)) :
    SubE l layer ∧ (cfg.ctype ≠ .relaxed → SubS l layer) := by
  have hs := squash_spec cfg dd layer cur
  rw [h] at hs
  cases hs with
  | keep _ _ => exact ⟨SubE.refl _, fun _ => SubS.refl _⟩
  | restrict _ _ _ => exact ⟨(restrictLayer_subS cfg layer cur).toSub, fun _ => restrictLayer_subS cfg layer cur⟩
  | relax hrel _ _ _ => exact ⟨relaxLayer_sub cfg dd.layers layer cur dd.log, fun hne => absurd hrel hne⟩

structure MInv (cfg : Cfg S K) (B : Int) (p0 : List Dec) (dd : DD S K) : Prop where
  layers : ∀ (l : Nat) (ly : List (Node S)), dd.layers[l]? = some ly → ∀ n ∈ ly, NodeOk cfg B p0 dd.layers l n
  next : ∀ n ∈ dd.next, NodeOk cfg B p0 dd.layers dd.layers.length n
  allEx : cfg.ctype ≠ .relaxed → ∀ n ∈ dd.next, n.isExact = true

theorem MInv.append_layer {cfg : Cfg S K} {B : Int} {p0 : List Dec} {layers : List (List (Node S))} {lyF : List (Node S)}
    (hold : ∀ (l : Nat) (ly : List (Node S)), layers[l]? = some ly → ∀ n ∈ ly, NodeOk cfg B p0 layers l n)
    (hnew : ∀ n ∈ lyF, NodeOk cfg B p0 layers layers.length n) :
    ∀ (l : Nat) (ly : List (Node S)), (layers ++ [lyF])[l]? = some ly → ∀ n ∈ ly, NodeOk cfg B p0 (layers ++ [lyF]) l n := by
  intro l ly hl n hn
  rcases Cover.getElem?_concat_cases hl with hl | ⟨rfl, rfl⟩
  · exact (hold l ly hl n hn).mono _
  · exact (hnew n hn).mono _

theorem stepLayer_inv (cfg : Cfg S K) (B : Int) (p0 : List Dec) (hB : NoClamp cfg.P cfg.R cfg.root.value B)
    (dd : DD S K) (var : Nat) (hinv : MInv cfg B p0 dd) (hdepth : dd.depth = cfg.root.depth + dd.layers.length)
    (hnv : cfg.P.nextVar dd.depth (dd.next.map (·.state)) = some var)
    (hlen : dd.layers.length ≤ cfg.P.nbVars + 1) (dd' : DD S K) (oc : Outcome)
    (h : stepLayer cfg dd var = (some dd', oc)) :
    MInv cfg B p0 dd' ∧ (oc = .ok → dd'.depth = cfg.root.depth + dd'.layers.length ∧ dd'.layers.length = dd.layers.length + 1) ∧
      (oc ≠ .ok → dd'.next = []) := by
  rcases Width.stepLayer_some cfg dd dd' var oc h with ⟨hnil, rfl, rfl⟩ | ⟨sq, hsq, rfl, _, hl, hn, _, hd, _⟩
  · refine ⟨⟨?_, ?_, ?_⟩, (fun h => by cases h), fun _ => hnil⟩
    · exact MInv.append_layer hinv.layers (fun n hn => by cases hn)
    · dsimp only; rw [hnil]; intro n hn; cases hn
    · dsimp only; rw [hnil]; intro _ n hn; cases hn
  · obtain ⟨hsub, hsubS⟩ := squash_sub cfg dd _ _ sq.1 sq.2.1 sq.2.2.1 sq.2.2.2 (Width.squashOf_elim cfg dd sq hsq)
    have hpre := preSquash_subS cfg dd
    have hpar0 : ∀ n ∈ dd.next, ParOk cfg B p0 dd.layers (dd.next.map (·.state)) n := fun n hn =>
      ⟨hinv.next n hn, fun _ => List.mem_map.2 ⟨n, hn, rfl⟩⟩
    have hpar : ∀ n ∈ sq.1, ParOk cfg B p0 dd.layers (dd.next.map (·.state)) n :=
      ParOk.of_sub (hsub.trans hpre.toSub) hpar0
    have hE := expandAll_inv cfg B p0 hB dd.layers hlen sq.1 (dd.next.map (·.state)) var (hdepth ▸ hnv) hpar sq.2.1 sq.2.2.1
    generalize expandAll cfg var dd.layers.length sq.1 sq.2.1 sq.2.2.1 = ex at hE hl hn
    obtain ⟨hrub, hchild, hallEx⟩ := hE
    refine ⟨⟨?_, ?_, ?_⟩, fun _ => ⟨?_, ?_⟩, fun h => absurd rfl h⟩
    · rw [hl]
      exact MInv.append_layer hinv.layers fun n hn => (ParOk.of_sub hrub.subS.toSub hpar n hn).1
    · rw [hl, hn]
      intro c hc hex
      obtain ⟨a, pn, q, hbest, hfrom, hpn, hchain, hreach, hd, hbnd⟩ := hchild c hc hex
      obtain ⟨pF, hpF, hsF⟩ := hrub.get' hpn
      refine ⟨q ++ [a.dec], ?_, hreach, ?_, ?_⟩
      · rw [hbest, List.length_append, List.length_singleton]
        refine BestChain.step _ a pF q hfrom ?_ ?_
        · rw [Cover.getNode_last]
          exact hpF
        · rw [← (stripRub_core hsF).2.2.2.1]
          exact hchain.mono _
      · rw [hd, List.length_append, List.length_singleton]
      · rw [List.length_append, List.length_singleton]; exact hbnd
    · rw [hn]
      intro hne c hc
      refine hallEx ?_ c hc
      intro n hn
      obtain ⟨n0, h0, he0, _⟩ := (hsubS hne).trans hpre n hn
      rw [← he0]
      exact hinv.allEx hne n0 h0
    · rw [hd, hl, hdepth, List.length_append, List.length_singleton]; omega
    · rw [hl, List.length_append, List.length_singleton]

theorem MInv.congr {cfg : Cfg S K} {B : Int} {p0 : List Dec} {dd dd' : DD S K} (h : MInv cfg B p0 dd)
    (hl : dd'.layers = dd.layers) (hn : dd'.next = dd.next) : MInv cfg B p0 dd' := by
  obtain ⟨h1, h2, h3⟩ := h
  exact ⟨hl ▸ h1, hl ▸ hn ▸ h2, hn ▸ h3⟩

/-- how the loop ends normally: `dd.next = []` is the `break` (`_move_to_next_layer` found the layer empty); otherwise
    `nextVar` answered `none` on the states of the terminal layer `dd.next` -/
def Terminal (cfg : Cfg S K) (dd : DD S K) : Prop :=
  dd.next = [] ∨ (cfg.P.nextVar dd.depth (dd.next.map (·.state)) = none ∧
    dd.depth = cfg.root.depth + dd.layers.length)

theorem buildLoop_inv (cfg : Cfg S K) (B : Int) (p0 : List Dec) (hB : NoClamp cfg.P cfg.R cfg.root.value B) (stopAt : Option Nat) :
    ∀ (fuel : Nat) (dd : DD S K), MInv cfg B p0 dd → dd.depth = cfg.root.depth + dd.layers.length →
      dd.layers.length + fuel ≤ cfg.P.nbVars + 2 →
      MInv cfg B p0 (buildLoop cfg stopAt fuel dd).1 ∧
        ((buildLoop cfg stopAt fuel dd).2 = .ok → Terminal cfg (buildLoop cfg stopAt fuel dd).1) := by
  intro fuel
  induction fuel with
  | zero =>
    intro dd hinv _ _
    exact ⟨hinv, fun h => by cases h⟩
  | succ fuel ih =>
    intro dd hinv hdepth hfuel
    have hlen : dd.layers.length ≤ cfg.P.nbVars + 1 := by omega
    have hstep := fun var hvar => stepLayer_inv cfg B p0 hB (Truth.tick dd var) var (hinv.congr rfl rfl) hdepth hvar hlen
    refine buildLoop_succ_cases cfg stopAt fuel dd (fun r => MInv cfg B p0 r.1 ∧ (r.2 = .ok → Terminal cfg r.1))
      (fun hnone => ⟨hinv.congr rfl rfl, fun _ => .inr ⟨hnone, hdepth⟩⟩)
      (fun var oc _ hoc => ⟨hinv.congr rfl rfl, fun h => absurd h hoc⟩) ?_ ?_
    · intro var dd' oc oc' hvar heq hoc
      obtain ⟨h1, _, h3⟩ := hstep var hvar dd' _ heq
      refine ⟨h1, fun h => ?_⟩
      rcases hoc with ⟨rfl, _⟩ | ⟨_, rfl⟩
      · exact .inl (h3 (by decide))
      · cases h
    · intro var dd' hvar heq
      obtain ⟨h1, h2, _⟩ := hstep var hvar dd' _ heq
      obtain ⟨h2a, h2b⟩ := h2 rfl
      exact ih dd' h1 h2a (by rw [h2b]; show dd.layers.length + 1 + fuel ≤ _; omega)

theorem initDD_inv (cfg : Cfg S K) (B : Int) (p0 : List Dec) (hB : NoClamp cfg.P cfg.R cfg.root.value B)
    (hroot : Reach cfg.P cfg.root.depth cfg.root.state cfg.root.value p0)
    (cache : Cache S) (store : DomStore S K) (polls : Nat) : MInv cfg B p0 (initDD cfg cache store polls) := by
  refine ⟨?_, ?_, ?_⟩
  · intro l ly hl
    simp only [initDD, List.getElem?_nil] at hl
    cases hl
  · intro n hn
    simp only [initDD, List.mem_singleton] at hn
    subst hn
    intro _
    refine ⟨[], .root, ?_, rfl, ?_⟩
    · rw [List.append_nil]; exact hroot
    · have := hB.root
      show -((((0 : Nat) : Int) + 1) * B) ≤ cfg.root.value ∧ cfg.root.value ≤ (((0 : Nat) : Int) + 1) * B
      rw [show (((0 : Nat) : Int) + 1) = 1 by rfl, Int.one_mul]
      exact this
  · intro _ n hn
    simp only [initDD, List.mem_singleton] at hn
    subst hn
    rfl

/-- **C07 (A).**  Every node flagged exact — in a completed layer or in the layer under
    construction — is reached exactly (`Reach`) from the problem root by `p0` (a decision list reaching
    the root sub-problem exactly, e.g. `cfg.root.path`) followed by the decisions of its `best` chain
    (`bestPath` lists them last arc first), at the depth it records. -/
def ExactReach (cfg : Cfg S K) (p0 : List Dec) (dd : DD S K) : Prop :=
  (∀ (l : Nat) (ly : List (Node S)), dd.layers[l]? = some ly → ∀ n ∈ ly, n.isExact = true →
    n.depth = cfg.root.depth + l ∧ ∀ fuel, l ≤ fuel →
      Reach cfg.P n.depth n.state n.value (p0 ++ (bestPath dd.layers fuel n).reverse)) ∧
  (∀ n ∈ dd.next, n.isExact = true →
    n.depth = cfg.root.depth + dd.layers.length ∧ ∀ fuel, dd.layers.length ≤ fuel →
      Reach cfg.P n.depth n.state n.value (p0 ++ (bestPath dd.layers fuel n).reverse))

theorem NodeOk.exactReach {cfg : Cfg S K} {B : Int} {p0 : List Dec} {layers : List (List (Node S))} {l : Nat} {n : Node S}
    (h : NodeOk cfg B p0 layers l n) (he : n.isExact = true) :
    n.depth = cfg.root.depth + l ∧ ∀ fuel, l ≤ fuel →
      Reach cfg.P n.depth n.state n.value (p0 ++ (bestPath layers fuel n).reverse) := by
  obtain ⟨q, hq, hr, hd, _⟩ := h he
  exact ⟨hd, fun fuel hf => by rw [hq.bestPath_eq n rfl fuel hf]; exact hr⟩

theorem MInv.exactReach {cfg : Cfg S K} {B : Int} {p0 : List Dec} {dd : DD S K} (h : MInv cfg B p0 dd) : ExactReach cfg p0 dd :=
  ⟨fun l ly hl n hn he => (h.layers l ly hl n hn).exactReach he, fun n hn he => (h.next n hn).exactReach he⟩

theorem buildLoop_exact_reach_from (cfg : Cfg S K) (B : Int) (p0 : List Dec) (hB : NoClamp cfg.P cfg.R cfg.root.value B)
    (stopAt : Option Nat) (fuel : Nat) (dd : DD S K) (hinv : MInv cfg B p0 dd)
    (hdepth : dd.depth = cfg.root.depth + dd.layers.length)
    (hfuel : dd.layers.length + fuel ≤ cfg.P.nbVars + 2) :
    ExactReach cfg p0 (buildLoop cfg stopAt fuel dd).1 :=
  (buildLoop_inv cfg B p0 hB stopAt fuel dd hinv hdepth hfuel).1.exactReach

/-- C07 (A) for a whole compilation, any compilation type, any cache / dominance configuration -/
theorem buildLoop_exact_reach (cfg : Cfg S K) (B : Int) (p0 : List Dec) (hB : NoClamp cfg.P cfg.R cfg.root.value B)
    (hroot : Reach cfg.P cfg.root.depth cfg.root.state cfg.root.value p0)
    (cache : Cache S) (store : DomStore S K) (polls : Nat) (stopAt : Option Nat) (fuel : Nat)
    (hfuel : fuel ≤ cfg.P.nbVars + 2) :
    ExactReach cfg p0 (buildLoop cfg stopAt fuel (initDD cfg cache store polls)).1 :=
  buildLoop_exact_reach_from cfg B p0 hB stopAt fuel _ (initDD_inv cfg B p0 hB hroot cache store polls) rfl
    (Nat.le_trans (Nat.le_of_eq (Nat.zero_add _)) hfuel)


theorem maxValue_mem_aux (l : List (Node S)) : ∀ (acc : Option Int) (w : Int),
    l.foldl (fun acc n => match acc with | none => some n.value | some m => some (max m n.value)) acc = some w →
    acc = some w ∨ ∃ n ∈ l, n.value = w := by
  induction l with
  | nil => intro acc w h; exact .inl h
  | cons x r ih =>
    intro acc w h
    simp only [List.foldl_cons] at h
    rcases ih _ w h with h' | ⟨n, hn, hv⟩
    · cases acc with
      | none =>
        simp only [Option.some.injEq] at h'
        exact .inr ⟨x, List.mem_cons_self, h'⟩
      | some m =>
        simp only [Option.some.injEq] at h'
        rcases Int.le_total m x.value with hle | hle
        · rw [Int.max_eq_right hle] at h'
          exact .inr ⟨x, List.mem_cons_self, h'⟩
        · rw [Int.max_eq_left hle] at h'
          exact .inl (by rw [h'])
    · exact .inr ⟨n, List.mem_cons_of_mem _ hn, hv⟩

theorem maxValue_mem {l : List (Node S)} {w : Int} (h : maxValue l = some w) : ∃ n ∈ l, n.value = w := by
  rcases maxValue_mem_aux l none w h with h' | h'
  · cases h'
  · exact h'

def MapEq {β : Type} (f : Node S → β) (ls ls' : List (List (Node S))) : Prop :=
  ls.map (List.map f) = ls'.map (List.map f)

theorem List.set_self' {α : Type} {l : List α} {i : Nat} {a : α} (h : l[i]? = some a) : l.set i a = l :=
  Cover.set_same l i a h

namespace MapEq
variable {β : Type} {f : Node S → β} {ls ls0 : List (List (Node S))}

theorem refl (f : Node S → β) (ls : List (List (Node S))) : MapEq f ls ls := rfl
theorem symm (h : MapEq f ls ls0) : MapEq f ls0 ls := Eq.symm h
theorem trans {ls1 : List (List (Node S))} (h1 : MapEq f ls ls1) (h2 : MapEq f ls1 ls0) : MapEq f ls ls0 := Eq.trans h1 h2

theorem set_layer (h : MapEq f ls ls0) (l : Nat) (ly' : List (Node S))
    (hl : ∀ ly, ls[l]? = some ly → ly'.map f = ly.map f) : MapEq f (ls.set l ly') ls0 := by
  unfold MapEq at *
  rw [List.map_set, ← h]
  cases hls : ls[l]? with
  | none => exact List.set_eq_of_length_le (by rw [List.length_map]; exact List.getElem?_eq_none_iff.1 hls)
  | some ly =>
    rw [hl ly hls]
    exact List.set_self' (by rw [List.getElem?_map, hls]; rfl)

theorem set_map (h : MapEq f ls ls0) (l : Nat) (g : Node S → Node S) (hg : ∀ n, f (g n) = f n) :
    MapEq f (ls.set l ((ls[l]?.getD []).map g)) ls0 := by
  refine h.set_layer l _ (fun ly hly => ?_)
  rw [hly, Option.getD_some, List.map_map]
  exact List.map_congr_left (fun n _ => hg n)

theorem modNode (h : MapEq f ls ls0) (l p : Nat) (g : Node S → Node S)
    (hg : ∀ n, getNode ls l p = some n → f (g n) = f n) : MapEq f (Ddo.modNode ls l p g) ls0 := by
  unfold Ddo.modNode
  split
  · exact h
  · rename_i ly hly
    split
    · exact h
    · rename_i n hn
      refine h.set_layer l _ (fun ly' hly' => ?_)
      rw [hly] at hly'
      cases hly'
      rw [List.map_set, hg n (by unfold Ddo.getNode; rw [hly]; exact hn)]
      exact List.set_self' (by rw [List.getElem?_map, hn]; rfl)

theorem length (h : MapEq f ls ls0) : ls.length = ls0.length := by
  simpa only [List.length_map] using congrArg List.length h

theorem layer (h : MapEq f ls ls0) (l : Nat) : (ls[l]?.getD []).map f = (ls0[l]?.getD []).map f := by
  have := congrArg (fun x => (x[l]?).getD []) h
  simp only [List.getElem?_map] at this
  cases h1 : ls[l]? <;> cases h2 : ls0[l]? <;> simp only [h1, h2, Option.map_none, Option.map_some, Option.getD_none,
    Option.getD_some, List.map_nil] at this ⊢ <;> exact this

theorem getNode (h : MapEq f ls ls0) (l p : Nat) : (Ddo.getNode ls l p).map f = (Ddo.getNode ls0 l p).map f := by
  have h1 : ∀ (xs : List (List (Node S))), (Ddo.getNode xs l p).map f = ((xs[l]?.getD []).map f)[p]? := by
    intro xs
    unfold Ddo.getNode
    cases xs[l]? with
    | none => rfl
    | some ly => simp only [Option.getD_some, List.getElem?_map]
  rw [h1, h1, h.layer l]

theorem getNode_some (h : MapEq f ls ls0) {l p : Nat} {n : Node S} (hn : Ddo.getNode ls l p = some n) :
    ∃ n0, Ddo.getNode ls0 l p = some n0 ∧ f n0 = f n := by
  have := h.getNode l p
  rw [hn] at this
  cases h0 : Ddo.getNode ls0 l p with
  | none => rw [h0] at this; cases this
  | some n0 =>
    rw [h0] at this
    exact ⟨n0, rfl, (Option.some.inj this).symm⟩

end MapEq

theorem computeCutset_mapEq {β : Type} (f : Node S → β) (hf : ∀ (n : Node S) (c a : Bool), f { n with cutset := c, above := a } = f n)
    (kind : CutsetKind) (lel : Nat) (layers : List (List (Node S))) :
    MapEq f (computeCutset kind lel layers).1 layers := by
  unfold computeCutset
  cases kind with
  | lel =>
    dsimp only
    refine foldl_inv (β := List (List (Node S))) (fun ls => MapEq f ls layers) _ _ _ (MapEq.refl f _) ?_
    intro ls l _ h
    by_cases h1 : l = lel
    · rw [if_pos h1]; exact h.set_map l _ (fun _ => hf _ _ _)
    · rw [if_neg h1]
      by_cases h2 : l < lel
      · rw [if_pos h2]; exact h.set_map l _ (fun _ => hf _ _ _)
      · rw [if_neg h2]; exact h
  | frontier =>
    dsimp only
    refine foldl_inv (β := List (List (Node S)) × List (Nat × Nat)) (fun acc => MapEq f acc.1 layers) _ _ _ (MapEq.refl f _) ?_
    rintro ⟨ls, cs⟩ l _ h
    refine foldl_inv (β := List (List (Node S)) × List (Nat × Nat)) (fun acc => MapEq f acc.1 layers) _ _ _ h ?_
    rintro ⟨ls, cs⟩ p _ h
    dsimp only at h ⊢
    split
    · exact h
    · rename_i n _
      by_cases hx : n.isExact = true
      · rw [if_pos hx]; exact h.modNode l p _ (fun _ _ => hf _ _ _)
      · rw [if_neg hx]
        refine foldl_inv (β := List (List (Node S)) × List (Nat × Nat)) (fun acc => MapEq f acc.1 layers) _ _ _ h ?_
        rintro ⟨ls, cs⟩ e _ h
        dsimp only at h ⊢
        split
        · rename_i par _
          by_cases hc : (par.isExact && !par.cutset) = true
          · rw [if_pos hc]; exact h.modNode _ _ _ (fun _ _ => hf _ _ _)
          · rw [if_neg hc]; exact h
        · exact h

theorem computeLocalBounds_mapEq {β : Type} (f : Node S → β)
    (hf : ∀ (n : Node S) (v : Int) (m : Bool), f { n with vbot := v, marked := m } = f n) (layers : List (List (Node S))) :
    MapEq f (computeLocalBounds layers) layers := by
  unfold computeLocalBounds
  extract_lets last layers0
  have h0 : MapEq f layers0 layers := (MapEq.refl f _).set_map _ _ (fun _ => hf _ _ _)
  clear_value layers0
  refine foldl_inv (β := List (List (Node S))) (fun acc => MapEq f acc layers) _ _ _ h0 ?_
  intro ls l _ h
  refine foldl_inv (β := List (List (Node S))) (fun acc => MapEq f acc layers) _ _ _ h ?_
  intro ls p _ h
  split
  · exact h
  · split
    · refine foldl_inv (β := List (List (Node S))) (fun acc => MapEq f acc layers) _ _ _ h ?_
      intro ls e _ h
      exact h.modNode _ _ _ (fun _ _ => hf _ _ _)
    · exact h

theorem computeThresholds_mapEq {β : Type} (f : Node S → β) (hf : ∀ (n : Node S) (t : Option Int), f { n with theta := t } = f n)
    (kind : CutsetKind) (isExactField : Bool) (lb : Int) (bestExact : Option Int)
    (termL : Option Nat) (layers : List (List (Node S))) :
    MapEq f (computeThresholds kind isExactField lb bestExact termL layers).1 layers := by
  unfold computeThresholds
  extract_lets bk layers0
  have h0 : MapEq f layers0 layers := by
    show MapEq f (match bestExact, termL with | some _, some tl => _ | _, _ => _) layers
    split
    · refine (MapEq.refl f _).set_map _ _ (fun n => ?_)
      rw [apply_ite f, hf, ite_self]
    · exact MapEq.refl f _
  clear_value layers0
  refine foldl_inv (β := List (List (Node S)) × List (S × Nat × Int × Bool)) (fun acc => MapEq f acc.1 layers) _ _ _ h0 ?_
  rintro ⟨ls, ups⟩ l _ h
  refine foldl_inv (β := List (List (Node S)) × List (S × Nat × Int × Bool)) (fun acc => MapEq f acc.1 layers) _ _ _ h ?_
  rintro ⟨ls, ups⟩ p _ h
  dsimp -zeta only at h ⊢
  split
  · exact h
  · rename_i n hn
    -- `split` on an `if` simplifies the whole goal, which is dear here: rewrite the outermost `if` instead
    by_cases hd : n.deleted = true
    · rw [if_pos hd]; exact h
    · rw [if_neg hd]
      generalize heq : (ite ((!n.cache) = true) _ _ : Node S × List (S × Nat × Int × Bool)) = r
      have hr : f r.1 = f n := by
        rw [← heq]
        simp only [apply_ite Prod.fst, apply_ite f, hf, ite_self]
      clear heq
      obtain ⟨n1, ups1⟩ := r
      dsimp -zeta only
      have h1 : MapEq f (modNode ls l p (fun _ => n1)) layers :=
        h.modNode l p _ (fun m hm => by rw [hn] at hm; cases hm; exact hr)
      split
      · dsimp only
        refine foldl_inv (β := List (List (Node S))) (fun acc => MapEq f acc layers) _ _ _ h1 ?_
        intro ls2 e _ h2
        exact h2.modNode _ _ _ (fun _ _ => hf _ _)
      · exact h1

theorem finalize_layers_mapEq {β : Type} (f : Node S → β)
    (hf : ∀ (n : Node S) (v : Int) (t : Option Int) (m c a : Bool),
      f { n with vbot := v, theta := t, marked := m, cutset := c, above := a } = f n)
    (cfg : Cfg S K) (b : Built S K) (e : Bool) : MapEq f (finalize cfg b e).2 b.layers := by
  unfold finalize
  extract_lets relaxed terms bestValue exactTerms bestExactValue doCut
  have h1 : MapEq f (if doCut = true then computeCutset cfg.kind b.lel b.layers else (b.layers, [])).1 b.layers := by
    split
    · exact computeCutset_mapEq f (fun n c a => hf n n.vbot n.theta n.marked c a) _ _ _
    · exact MapEq.refl f _
  generalize (if doCut = true then computeCutset cfg.kind b.lel b.layers else (b.layers, [])) = r1 at h1 ⊢
  obtain ⟨layers1, cs⟩ := r1
  dsimp only at h1 ⊢
  have h2 : MapEq f (if (decide (b.lel < b.layers.length) && relaxed) = true then computeLocalBounds layers1 else layers1)
      b.layers := by
    split
    · exact (computeLocalBounds_mapEq f (fun n v m => hf n v n.theta m n.cutset n.above) _).trans h1
    · exact h1
  generalize (if (decide (b.lel < b.layers.length) && relaxed) = true then computeLocalBounds layers1 else layers1) = layers2
    at h2 ⊢
  split
  · exact (computeThresholds_mapEq f (fun n t => hf n n.vbot t n.marked n.cutset n.above) _ _ _ _ _ _).trans h2
  · exact h2

def bv (n : Node S) : Int × Option Arc := (n.value, n.best)

def KeyEq (ls ls' : List (List (Node S))) : Prop := ls.map (List.map bv) = ls'.map (List.map bv)

theorem KeyEq.refl (ls : List (List (Node S))) : KeyEq ls ls := rfl
theorem KeyEq.trans {a b c : List (List (Node S))} (h1 : KeyEq a b) (h2 : KeyEq b c) : KeyEq a c := Eq.trans h1 h2

theorem KeyEq.length {ls ls0 : List (List (Node S))} (h : KeyEq ls ls0) : ls.length = ls0.length :=
  MapEq.length h

theorem KeyEq.layer {ls ls0 : List (List (Node S))} (h : KeyEq ls ls0) (l : Nat) :
    (ls[l]?.getD []).map bv = (ls0[l]?.getD []).map bv :=
  MapEq.layer h l

theorem KeyEq.getNode {ls ls0 : List (List (Node S))} (h : KeyEq ls ls0) (l p : Nat) :
    (Ddo.getNode ls l p).map bv = (Ddo.getNode ls0 l p).map bv :=
  MapEq.getNode h l p

theorem computeCutset_keyEq (kind : CutsetKind) (lel : Nat) (layers : List (List (Node S))) :
    KeyEq (computeCutset kind lel layers).1 layers :=
  computeCutset_mapEq bv (fun _ _ _ => rfl) kind lel layers

theorem computeThresholds_keyEq (kind : CutsetKind) (isExactField : Bool) (lb : Int) (bestExact : Option Int)
    (termL : Option Nat) (layers : List (List (Node S))) :
    KeyEq (computeThresholds kind isExactField lb bestExact termL layers).1 layers :=
  computeThresholds_mapEq bv (fun _ _ => rfl) kind isExactField lb bestExact termL layers

theorem finalize_bestSol (cfg : Cfg S K) (b : Built S K) (e : Bool) :
    (finalize cfg b e).1.bestSol =
      (match b.bestValue with
        | none => none
        | some v => b.termL.bind (fun l => ((finalize cfg b e).2[l]?.getD []).find? (fun (n : Node S) => decide (n.value = v)))).map
        (fun n => cfg.root.path ++ bestPath (finalize cfg b e).2 ((finalize cfg b e).2.length + 1) n) := rfl


theorem BestChain.of_mapEq {β : Type} {f : Node S → β} (hf : ∀ a b : Node S, f a = f b → a.best = b.best)
    {ls ls' : List (List (Node S))} {l : Nat} {b : Option Arc} {q : List Dec}
    (h : BestChain ls l b q) (hk : MapEq f ls ls') : BestChain ls' l b q := by
  induction h with
  | root => exact .root
  | step l a p q hl hg _ ih =>
    obtain ⟨p', hp', hs⟩ := hk.getNode_some hg
    exact .step l a p' q hl hp' (hf _ _ hs ▸ ih)

theorem find?_map_bv (v : Int) : ∀ (l l' : List (Node S)), l.map bv = l'.map bv →
    (l.find? (fun n => decide (n.value = v))).map bv = (l'.find? (fun n => decide (n.value = v))).map bv := by
  intro l
  induction l with
  | nil =>
    intro l' h
    cases l' with
    | nil => rfl
    | cons _ _ => cases h
  | cons x r ih =>
    intro l' h
    cases l' with
    | nil => cases h
    | cons y r' =>
      simp only [List.map_cons, List.cons.injEq] at h
      have hv : x.value = y.value := congrArg Prod.fst h.1
      simp only [List.find?_cons, hv]
      by_cases hy : y.value = v
      · simp only [hy, decide_true, Option.map_some, h.1]
      · simp only [hy, decide_false]
        exact ih r' h.2

theorem find?_of_maxValue {l : List (Node S)} {w : Int} (h : maxValue l = some w) :
    ∃ n, l.find? (fun n => decide (n.value = w)) = some n ∧ n ∈ l ∧ n.value = w := by
  obtain ⟨m, hm, hmv⟩ := maxValue_mem h
  cases hf : l.find? (fun n => decide (n.value = w)) with
  | none =>
    rw [List.find?_eq_none] at hf
    exact absurd (by simpa using hmv) (hf m hm)
  | some n =>
    exact ⟨n, rfl, List.mem_of_find?_eq_some hf, by simpa using List.find?_some hf⟩


theorem finalizeLayers_nonempty (dd : DD S K) (h : dd.next ≠ []) :
    (finalizeLayers dd).layers = dd.layers ++ [dd.next] ∧ (finalizeLayers dd).termL = some dd.layers.length := by
  have h' : dd.next.isEmpty = false := by
    cases hn : dd.next with
    | nil => exact absurd hn h
    | cons _ _ => rfl
  unfold finalizeLayers
  simp only [h', Bool.false_eq_true, if_false, and_self]

set_option linter.unusedVariables false in
/-- The reported best solution is the root path followed by the `best` chain (last arc first) of the first terminal node
    attaining the best value.  `hrel` is not needed: the bottom-up passes of a relaxed compilation leave `value` / `best`
    alone as well. -/
theorem finalize_bestSol_eq (cfg : Cfg S K) (dd : DD S K) (e : Bool) (hrel : (cfg.ctype == .relaxed) = false)
    (w : Int) (hw : (finalizeLayers dd).bestValue = some w) :
    ∃ n, n ∈ dd.next ∧ n.value = w ∧ ∀ q, BestChain dd.layers dd.layers.length n.best q →
      (finalize cfg (finalizeLayers dd) e).1.bestSol = some (cfg.root.path ++ q.reverse) := by
  have hw' : maxValue dd.next = some w := by
    unfold Built.bestValue at hw; rwa [terminals_finalizeLayers] at hw
  obtain ⟨n, hfind, hn, hv⟩ := find?_of_maxValue hw'
  refine ⟨n, hn, hv, fun q hq => ?_⟩
  have hne : dd.next ≠ [] := fun h => by rw [h] at hn; cases hn
  obtain ⟨hlayers, hterm⟩ := finalizeLayers_nonempty dd hne
  have hk : KeyEq _ _ := finalize_layers_mapEq bv (fun _ _ _ _ _ _ => rfl) cfg (finalizeLayers dd) e
  rw [finalize_bestSol, hw, hterm]
  dsimp only [Option.bind_some]
  generalize (finalize cfg (finalizeLayers dd) e).2 = L3 at hk ⊢
  rw [hlayers] at hk
  have hlayer := hk.layer dd.layers.length
  rw [List.getElem?_concat_length, Option.getD_some] at hlayer
  have hf := find?_map_bv w _ _ hlayer
  rw [hfind] at hf
  cases hf3 : (L3[dd.layers.length]?.getD []).find? (fun n => decide (n.value = w)) with
  | none => rw [hf3] at hf; cases hf
  | some n3 =>
    rw [hf3] at hf
    simp only [Option.map_some, Option.some.injEq, bv, Prod.mk.injEq] at hf
    have hchain : BestChain L3 dd.layers.length n3.best q := by
      rw [hf.2]; exact (hq.mono [dd.next]).of_mapEq (f := bv) (fun _ _ h => (congrArg Prod.snd h :)) (MapEq.symm hk)
    have := hchain.bestPath_eq n3 rfl (L3.length + 1) (by
      rw [hk.length, List.length_append, List.length_singleton]; omega)
    simp only [Option.map_some, Option.some.injEq, List.append_cancel_left_eq]
    rw [← this, List.reverse_reverse]


end Ddo

namespace Ddo.C07
open Ddo
variable {S K : Type} [DecidableEq S] [DecidableEq K]

/-- **C07 (B)**, detailed form, in terms of the final diagram `dd = (compile …).2.2.2`, with any `p0` reaching the root
    sub-problem: the best value `w` is the value of a node `n` of the terminal layer `dd.next`, reached exactly, at depth
    `dd.depth`, by `p0 ++ q` where `q` lists the decisions of its `best` chain from the root of the diagram; `nextVar`
    answers `none` on the terminal layer; the reported solution is the root path followed by `q`, last decision first
    (`_best_path` order). -/
theorem restricted_sound_detail (cfg : Cfg S K) (B : Int) (p0 : List Dec) (cache : Cache S) (store : DomStore S K)
    (polls : Nat) (stopAt : Option Nat) (hty : cfg.ctype = .restricted ∨ cfg.ctype = .exact)
    (hroot : Reach cfg.P cfg.root.depth cfg.root.state cfg.root.value p0)
    (hB : NoClamp cfg.P cfg.R cfg.root.value B)
    (hok : (compile cfg cache store polls stopAt).1 = .ok) (w : Int)
    (hw : (compile cfg cache store polls stopAt).2.1.bestValue = some w) :
    ∃ (n : Node S) (q : List Dec),
      n ∈ (compile cfg cache store polls stopAt).2.2.2.next ∧ n.value = w ∧ n.isExact = true ∧
      Reach cfg.P (compile cfg cache store polls stopAt).2.2.2.depth n.state w (p0 ++ q) ∧
      (∀ fuel, (compile cfg cache store polls stopAt).2.2.2.layers.length ≤ fuel →
        q = (bestPath (compile cfg cache store polls stopAt).2.2.2.layers fuel n).reverse) ∧
      cfg.P.nextVar (compile cfg cache store polls stopAt).2.2.2.depth
        ((compile cfg cache store polls stopAt).2.2.2.next.map (·.state)) = none ∧
      (compile cfg cache store polls stopAt).2.1.bestSol = some (cfg.root.path ++ q.reverse) := by
  obtain ⟨hoc, hdd, hres⟩ := compile_ok cfg cache store polls stopAt hok
  rw [hres, finalize_bestValue] at hw
  rw [hres, hdd]
  obtain ⟨hinv, hterm⟩ := buildLoop_inv cfg B p0 hB stopAt (cfg.P.nbVars + 2) (initDD cfg cache store polls)
    (initDD_inv cfg B p0 hB hroot cache store polls) rfl (Nat.le_of_eq (Nat.zero_add _))
  generalize (buildLoop cfg stopAt (cfg.P.nbVars + 2) (initDD cfg cache store polls)) = bl at *
  obtain ⟨dd, oc⟩ := bl
  dsimp only at hoc hw hinv hterm ⊢
  have hne : cfg.ctype ≠ .relaxed := by
    rcases hty with h | h <;> rw [h] <;> decide
  have hrel : (cfg.ctype == .relaxed) = false := by
    rcases hty with h | h <;> rw [h] <;> rfl
  obtain ⟨n, hn, hv, hsol⟩ := finalize_bestSol_eq cfg dd ((finalizeLayers dd).ebpMust (cfg.ctype == .relaxed)) hrel w hw
  have hex := hinv.allEx hne n hn
  obtain ⟨q, hq, hreach, hd, _⟩ := hinv.next n hn hex
  rcases hterm hoc with hnil | ⟨hnone, hdepth⟩
  · rw [hnil] at hn; cases hn
  · refine ⟨n, q, hn, hv, hex, ?_, fun fuel hf => (hq.bestPath_eq n rfl fuel hf).symm, hnone, hsol q hq⟩
    rw [hdepth, ← hd, ← hv]; exact hreach

end Ddo.C07
