import DdoModel.Wf
/-! What the operations of the top-down build do to a layer, in the form the invariants use: one `_branch_on`, `expandOne` and the fold of
    `expandAll`; the two folds of `relaxLayer` (the redirection of the arcs of one merged-away node, inside the loop over these nodes), its
    two endings (a fresh merged node is appended / a kept node with the merged state is recycled), and what becomes of each node of the
    layer, with its arcs (`Bounds.TransferA`) and without (`Transfer`); the arithmetic of the bounds `Bd` / `Within`. -/
set_option linter.unusedSectionVars false
set_option linter.unusedVariables false
namespace Ddo.Cover
open Ddo
variable {S K : Type} [DecidableEq S] [DecidableEq K]

theorem foldl_inv {α β : Type} (P : β → Prop) (f : β → α → β) (l : List α) (b : β)
    (h0 : P b) (hstep : ∀ b a, a ∈ l → P b → P (f b a)) : P (l.foldl f b) := by
  induction l generalizing b with
  | nil => exact h0
  | cons x xs ih =>
    simp only [List.foldl_cons]
    exact ih _ (hstep _ _ List.mem_cons_self h0) (fun b a ha hb => hstep b a (List.mem_cons_of_mem _ ha) hb)

theorem insertBy_perm {α : Type} (before : α → α → Bool) (x : α) (l : List α) : (insertBy before x l).Perm (x :: l) := by
  induction l with
  | nil => exact .refl _
  | cons y r ih =>
    unfold insertBy
    split
    · exact (ih.cons y).trans (List.Perm.swap x y r)
    · exact .refl _

theorem mem_insertBy {α : Type} (before : α → α → Bool) (x y : α) (l : List α) :
    y ∈ insertBy before x l ↔ y = x ∨ y ∈ l :=
  (insertBy_perm before x l).mem_iff.trans List.mem_cons

theorem sortBy_perm {α : Type} (before : α → α → Bool) (l : List α) : (sortBy before l).Perm l := by
  have h : ∀ acc : List α, (l.foldl (fun acc x => insertBy before x acc) acc).Perm (l ++ acc) := by
    induction l with
    | nil => exact fun _ => .refl _
    | cons x xs ih =>
      intro acc
      exact (ih _).trans (((insertBy_perm before x acc).append_left xs).trans List.perm_middle)
  simpa only [List.append_nil, sortBy] using h []

theorem mem_sortBy {α : Type} (before : α → α → Bool) (l : List α) (y : α) : y ∈ sortBy before l ↔ y ∈ l :=
  (sortBy_perm before l).mem_iff

theorem length_sortBy {α : Type} (before : α → α → Bool) (l : List α) : (sortBy before l).length = l.length :=
  (sortBy_perm before l).length_eq

theorem mem_take_mono {α : Type} {l : List α} {n m : Nat} {x : α} (h : x ∈ l.take n) (hnm : n ≤ m) :
    x ∈ l.take m := by
  rw [List.mem_take_iff_getElem] at *
  obtain ⟨i, hi, rfl⟩ := h
  exact ⟨i, by omega, rfl⟩

theorem lt_of_getElem?_some {α : Type} {l : List α} {p : Nat} {a : α} (h : l[p]? = some a) : p < l.length :=
  (List.getElem?_eq_some_iff.1 h).1

theorem getD_bound (l : List Int) (i : Nat) (B0 : Int) (h : ∀ x ∈ l, -B0 ≤ x ∧ x ≤ B0) (h0 : 0 ≤ B0) :
    -B0 ≤ l.getD i 0 ∧ l.getD i 0 ≤ B0 := by
  rw [List.getD_eq_getElem?_getD]
  cases hi : l[i]? with
  | none => simp only [Option.getD_none]; omega
  | some x => simp only [Option.getD_some]; exact h x (List.mem_of_getElem? hi)

theorem getElem?_concat_cases {α : Type} {l : List α} {x y : α} {i : Nat} (h : (l ++ [x])[i]? = some y) :
    l[i]? = some y ∨ (i = l.length ∧ y = x) := by
  rcases Nat.lt_trichotomy i l.length with hlt | rfl | hgt
  · exact .inl (by rwa [List.getElem?_append_left hlt] at h)
  · rw [List.getElem?_concat_length] at h
    exact .inr ⟨rfl, (Option.some.inj h).symm⟩
  · have := lt_of_getElem?_some h
    rw [List.length_append, List.length_singleton] at this
    omega

/-- bound on the values of the nodes of layer `k` (counted from the root of the diagram) -/
def Bd (B : Int) (k : Nat) : Int := ((k : Int) + 1) * B

theorem Bd_succ (B : Int) (k : Nat) : Bd B (k + 1) = Bd B k + B := by
  unfold Bd
  have h : ((k + 1 : Nat) : Int) + 1 = ((k : Int) + 1) + 1 := by omega
  rw [h, Int.add_mul, Int.one_mul]

theorem Bd_nonneg {B : Int} (hB : 0 ≤ B) (k : Nat) : 0 ≤ Bd B k := by
  unfold Bd; exact Int.mul_nonneg (by omega) hB

theorem Bd_mono {B : Int} (hB : 0 ≤ B) {i k : Nat} (h : i ≤ k) : Bd B i ≤ Bd B k := by
  unfold Bd; exact Int.mul_le_mul_of_nonneg_right (by omega) hB

theorem Bd_le_of_small {B : Int} {nb k : Nat} (hB : 0 ≤ B) (hs : ((nb : Int) + 2) * B ≤ 4611686018427387904)
    (hk : k ≤ nb + 1) : Bd B k ≤ 4611686018427387904 := by
  have h1 := Bd_mono hB hk
  have h2 : Bd B (nb + 1) = ((nb : Int) + 2) * B := by
    unfold Bd
    rw [show ((nb + 1 : Nat) : Int) + 1 = (nb : Int) + 2 by omega]
  omega

/-- `|x| ≤ M` -/
def Within (M x : Int) : Prop := -M ≤ x ∧ x ≤ M

theorem Within.mono {M M' x : Int} (h : Within M x) (hM : M ≤ M') : Within M' x := by
  unfold Within at *; omega

theorem within_satAdd {M B v c : Int} (hv : Within M v) (hc : Within B c) : Within (M + B) (satAdd v c) := by
  unfold Within satAdd clamp iMin iMax at *; omega

theorem satAdd_eq {v c : Int} (h1 : iMin ≤ v + c) (h2 : v + c ≤ iMax) : satAdd v c = v + c := by
  unfold satAdd; exact clamp_of_in ⟨h1, h2⟩

/-- no saturation when the bounds of the two summands add up to at most `2^62 = 4611686018427387904`, about half of `isize::MAX`: the
    constant of `NoClamp.small`, which keeps the bound `Bd B l` on the values of every layer, and that bound plus one more cost, below
    it (`Bd_small`), so that such a sum is far from `± 2^63` -/
theorem satAdd_of_within {M B v c : Int} (hv : Within M v) (hc : Within B c) (hs : M + B ≤ 4611686018427387904) :
    satAdd v c = v + c := by
  apply satAdd_eq <;> (unfold Within at hv hc; simp only [iMin, iMax]; omega)

/-- a sum is not cut short below `isize::MAX` -/
theorem _root_.Ddo.Pooled.le_satAdd {x v b : Int} (hx : x ≤ v + b) (hs : x ≤ iMax) : x ≤ satAdd v b := by
  unfold satAdd clamp iMin; unfold iMax at hs ⊢; omega

theorem le_satAdd {x v c : Int} (h : x ≤ v + c) (hx : x ≤ 4611686018427387904) : x ≤ satAdd v c :=
  Pooled.le_satAdd h (Int.le_trans hx (by decide))

theorem appendEdge_state (p c : Node S) (a : Arc) : (appendEdge p c a).state = c.state := by
  unfold appendEdge; dsimp only; split <;> rfl

theorem appendEdge_inb (p c : Node S) (a : Arc) : (appendEdge p c a).inb = a :: c.inb := by
  unfold appendEdge; dsimp only; split <;> rfl

theorem appendEdge_value (p c : Node S) (a : Arc) :
    ((appendEdge p c a).value = c.value ∧ satAdd p.value a.cost < c.value) ∨
    ((appendEdge p c a).value = satAdd p.value a.cost ∧ c.value ≤ satAdd p.value a.cost) := by
  unfold appendEdge; dsimp only
  split
  · next h => right; exact ⟨rfl, by omega⟩
  · next h => left; exact ⟨rfl, by omega⟩

theorem appendEdge_ge_old (p c : Node S) (a : Arc) : c.value ≤ (appendEdge p c a).value := by
  rcases appendEdge_value p c a with h | h <;> omega

theorem appendEdge_ge_new (p c : Node S) (a : Arc) : satAdd p.value a.cost ≤ (appendEdge p c a).value := by
  rcases appendEdge_value p c a with h | h <;> omega

/-- a node with state `st` and value ≥ `x` -/
def Has (nx : List (Node S)) (st : S) (x : Int) : Prop := ∃ m ∈ nx, m.state = st ∧ x ≤ m.value

/-- the fresh child of `_branch_on` -/
def freshNode (parent : Node S) (dst : S) (c : Int) : Node S :=
  { state := dst, value := satAdd parent.value c, fExact := parent.isExact, depth := parent.depth + 1 }

theorem go_nil (parent : Node S) (dst : S) (c : Int) (a : Arc) :
    branchOn.go parent dst c a [] = [appendEdge parent (freshNode parent dst c) a] := by
  simp only [branchOn.go, freshNode]

theorem go_cons (parent : Node S) (dst : S) (c : Int) (a : Arc) (n : Node S) (r : List (Node S)) :
    branchOn.go parent dst c a (n :: r) =
      if n.state = dst then appendEdge parent n a :: r else n :: branchOn.go parent dst c a r := by
  simp only [branchOn.go]

/-- a node with state `st`, value ≥ `x` and property `Q` -/
def HasQ (Q : Node S → Prop) (nx : List (Node S)) (st : S) (x : Int) : Prop :=
  ∃ m ∈ nx, m.state = st ∧ x ≤ m.value ∧ Q m

theorem HasQ.has {Q : Node S → Prop} {nx : List (Node S)} {st : S} {x : Int} (h : HasQ Q nx st x) : Has nx st x :=
  let ⟨m, hm, h1, h2, _⟩ := h; ⟨m, hm, h1, h2⟩

theorem Has.hasQ {nx : List (Node S)} {st : S} {x : Int} (h : Has nx st x) : HasQ (fun _ => True) nx st x :=
  let ⟨m, hm, h1, h2⟩ := h; ⟨m, hm, h1, h2, trivial⟩

theorem go_hasQ_new (Q : Node S → Prop) (parent : Node S) (dst : S) (c : Int) (a : Arc) (nx : List (Node S))
    (hQ : ∀ m, Q (appendEdge parent m a)) :
    HasQ Q (branchOn.go parent dst c a nx) dst (satAdd parent.value a.cost) := by
  induction nx with
  | nil =>
    rw [go_nil]
    exact ⟨_, List.mem_cons_self, by rw [appendEdge_state]; rfl, appendEdge_ge_new _ _ _, hQ _⟩
  | cons n r ih =>
    rw [go_cons]
    split
    · next h => exact ⟨_, List.mem_cons_self, by rw [appendEdge_state]; exact h, appendEdge_ge_new _ _ _, hQ _⟩
    · obtain ⟨m, hm, h⟩ := ih
      exact ⟨m, List.mem_cons_of_mem _ hm, h⟩

theorem go_hasQ_mono (Q : Node S → Prop) (parent : Node S) (dst : S) (c : Int) (a : Arc) (nx : List (Node S))
    (hQ : ∀ m, Q m → Q (appendEdge parent m a)) (st : S) (x : Int) (h : HasQ Q nx st x) :
    HasQ Q (branchOn.go parent dst c a nx) st x := by
  induction nx with
  | nil => obtain ⟨n, hn, _⟩ := h; cases hn
  | cons n r ih =>
    obtain ⟨m, hm, h1, h2, h3⟩ := h
    rw [go_cons]
    split
    · cases hm with
      | head => exact ⟨_, List.mem_cons_self, by rw [appendEdge_state]; exact h1,
          Int.le_trans h2 (appendEdge_ge_old _ _ _), hQ _ h3⟩
      | tail _ hm' => exact ⟨m, List.mem_cons_of_mem _ hm', h1, h2, h3⟩
    · cases hm with
      | head => exact ⟨_, List.mem_cons_self, h1, h2, h3⟩
      | tail _ hm' =>
        obtain ⟨m', hm'', h'⟩ := ih ⟨m, hm', h1, h2, h3⟩
        exact ⟨m', List.mem_cons_of_mem _ hm'', h'⟩

/-- a node of the layer after one `_branch_on`: an old one, or the old node with the target state (the fresh child if
    there is none) with the new arc -/
theorem go_mem (parent : Node S) (dst : S) (c : Int) (a : Arc) (nx : List (Node S)) :
    ∀ m ∈ branchOn.go parent dst c a nx, m ∈ nx ∨
      ∃ n, (n ∈ nx ∨ n = freshNode parent dst c) ∧ n.state = dst ∧ m = appendEdge parent n a := by
  induction nx with
  | nil =>
    rw [go_nil]; intro m hm
    rw [List.mem_singleton] at hm
    exact .inr ⟨_, .inr rfl, rfl, hm⟩
  | cons n r ih =>
    rw [go_cons]
    split
    · next hs =>
      intro m hm
      rcases List.mem_cons.mp hm with rfl | hm
      · exact .inr ⟨n, .inl List.mem_cons_self, hs, rfl⟩
      · exact .inl (List.mem_cons_of_mem _ hm)
    · intro m hm
      rcases List.mem_cons.mp hm with rfl | hm
      · exact .inl List.mem_cons_self
      · rcases ih m hm with h | ⟨n', hn', hs, he⟩
        · exact .inl (List.mem_cons_of_mem _ h)
        · exact .inr ⟨n', hn'.imp (List.mem_cons_of_mem _) id, hs, he⟩

theorem go_forall (Q : Node S → Prop) (parent : Node S) (dst : S) (c : Int) (a : Arc) (nx : List (Node S))
    (hall : ∀ n ∈ nx, Q n) (hold : ∀ n, Q n → Q (appendEdge parent n a))
    (hfresh : Q (appendEdge parent (freshNode parent dst c) a)) :
    ∀ m ∈ branchOn.go parent dst c a nx, Q m := by
  intro m hm
  rcases go_mem parent dst c a nx m hm with h | ⟨n, hn | rfl, _, rfl⟩
  · exact hall m h
  · exact hold n (hall n hn)
  · exact hfresh

theorem branchOn_eq (cfg : Cfg S K) (parent : Node S) (pl pp : Nat) (d : Dec) (nx : List (Node S)) :
    branchOn cfg parent pl pp d nx =
      branchOn.go parent (cfg.P.trans parent.state d) (cfg.P.cost parent.state (cfg.P.trans parent.state d) d)
        ⟨pl, pp, d, cfg.P.cost parent.state (cfg.P.trans parent.state d) d⟩ nx := rfl

/-- the inner loop of `expandOne`: `_branch_on` for every value of the domain -/
def branchAll (cfg : Cfg S K) (var lidx p : Nat) (n' : Node S) (ds : List Int)
    (acc : List (Node S) × List (Call S)) : List (Node S) × List (Call S) :=
  ds.foldl (fun (nx, lg) d =>
        let dec : Dec := ⟨var, d⟩
        let dst := cfg.P.trans n'.state dec
        (branchOn cfg n' lidx p dec nx, Call.cost n'.state dst dec :: Call.trans n'.state dec :: lg)) acc

theorem branchAll_nil (cfg : Cfg S K) (var lidx p : Nat) (n' : Node S) (acc : List (Node S) × List (Call S)) :
    branchAll cfg var lidx p n' [] acc = acc := rfl

theorem branchAll_cons (cfg : Cfg S K) (var lidx p : Nat) (n' : Node S) (d : Int) (ds : List Int)
    (nx : List (Node S)) (lg : List (Call S)) :
    branchAll cfg var lidx p n' (d :: ds) (nx, lg) =
      branchAll cfg var lidx p n' ds (branchOn cfg n' lidx p ⟨var, d⟩ nx,
        Call.cost n'.state (cfg.P.trans n'.state ⟨var, d⟩) ⟨var, d⟩ :: Call.trans n'.state ⟨var, d⟩ :: lg) := rfl

/-- the arc created by `_branch_on` for decision value `d` -/
def arcOf (cfg : Cfg S K) (var lidx p : Nat) (n' : Node S) (d : Int) : Arc :=
  ⟨lidx, p, ⟨var, d⟩, cfg.P.cost n'.state (cfg.P.trans n'.state ⟨var, d⟩) ⟨var, d⟩⟩

theorem branchAll_hasQ_mono (Q : Node S → Prop) (hQ : ∀ par m a, Q m → Q (appendEdge par m a))
    (cfg : Cfg S K) (var lidx p : Nat) (n' : Node S) (ds : List Int)
    (acc : List (Node S) × List (Call S)) (st : S) (x : Int) (h : HasQ Q acc.1 st x) :
    HasQ Q (branchAll cfg var lidx p n' ds acc).1 st x := by
  induction ds generalizing acc with
  | nil => exact h
  | cons d ds ih =>
    obtain ⟨nx, lg⟩ := acc
    rw [branchAll_cons]
    apply ih
    rw [branchOn_eq]
    exact go_hasQ_mono Q _ _ _ _ _ (fun m => hQ _ m _) _ _ h

theorem branchAll_hasQ_new (Q : Node S → Prop) (hQ : ∀ par m a, Q m → Q (appendEdge par m a))
    (cfg : Cfg S K) (var lidx p : Nat) (n' : Node S) (ds : List Int)
    (acc : List (Node S) × List (Call S)) (d : Int) (hd : d ∈ ds)
    (hnew : ∀ m, Q (appendEdge n' m (arcOf cfg var lidx p n' d))) :
    HasQ Q (branchAll cfg var lidx p n' ds acc).1 (cfg.P.trans n'.state ⟨var, d⟩)
      (satAdd n'.value (cfg.P.cost n'.state (cfg.P.trans n'.state ⟨var, d⟩) ⟨var, d⟩)) := by
  induction ds generalizing acc with
  | nil => cases hd
  | cons e ds ih =>
    obtain ⟨nx, lg⟩ := acc
    rw [branchAll_cons]
    rcases List.mem_cons.mp hd with rfl | hd
    · apply branchAll_hasQ_mono Q hQ
      rw [branchOn_eq]
      exact go_hasQ_new Q _ _ _ _ _ hnew
    · exact ih _ hd

theorem branchAll_forall (Q : Node S → Prop) (cfg : Cfg S K) (var lidx p : Nat) (n' : Node S) (ds : List Int)
    (acc : List (Node S) × List (Call S)) (hall : ∀ m ∈ acc.1, Q m)
    (hold : ∀ d ∈ ds, ∀ n, Q n → Q (appendEdge n' n (arcOf cfg var lidx p n' d)))
    (hfresh : ∀ d ∈ ds, Q (appendEdge n' (freshNode n' (cfg.P.trans n'.state ⟨var, d⟩)
        (cfg.P.cost n'.state (cfg.P.trans n'.state ⟨var, d⟩) ⟨var, d⟩)) (arcOf cfg var lidx p n' d))) :
    ∀ m ∈ (branchAll cfg var lidx p n' ds acc).1, Q m := by
  induction ds generalizing acc with
  | nil => exact hall
  | cons e ds ih =>
    obtain ⟨nx, lg⟩ := acc
    rw [branchAll_cons]
    apply ih
    · rw [branchOn_eq]
      exact go_forall Q _ _ _ _ _ hall (hold e List.mem_cons_self) (hfresh e List.mem_cons_self)
    · exact fun d hd => hold d (List.mem_cons_of_mem _ hd)
    · exact fun d hd => hfresh d (List.mem_cons_of_mem _ hd)

theorem expandOne_none (cfg : Cfg S K) (var lidx : Nat) (ly nx : List (Node S)) (lg : List (Call S)) (p : Nat)
    (h : ly[p]? = none) : expandOne cfg var lidx (ly, nx, lg) p = (ly, nx, lg) := by
  simp only [expandOne, h]

theorem expandOne_some (cfg : Cfg S K) (var lidx : Nat) (ly nx : List (Node S)) (lg : List (Call S)) (p : Nat)
    (n : Node S) (h : ly[p]? = some n) :
    expandOne cfg var lidx (ly, nx, lg) p =
      if satAdd (cfg.R.rub n.state) n.value > cfg.lb then
        (ly.set p { n with rub := cfg.R.rub n.state },
          (branchAll cfg var lidx p { n with rub := cfg.R.rub n.state } (cfg.P.domain var n.state)
            (nx, Call.domain var n.state :: Call.rub n.state :: lg)).1,
          (branchAll cfg var lidx p { n with rub := cfg.R.rub n.state } (cfg.P.domain var n.state)
            (nx, Call.domain var n.state :: Call.rub n.state :: lg)).2)
      else (ly.set p { n with rub := cfg.R.rub n.state }, nx, Call.rub n.state :: lg) := by
  simp only [expandOne, h]
  split <;> rfl

/-- what the expansion must not change in the parent layer -/
def key (n : Node S) : S × Int := (n.state, n.value)

theorem set_same {α : Type} (l : List α) (p : Nat) (a : α) (h : l[p]? = some a) : l.set p a = l := by
  apply List.ext_getElem?
  intro i
  by_cases hi : p = i
  · subst hi
    rw [List.getElem?_set_self (by
      rcases Nat.lt_or_ge p l.length with hlt | hge
      · exact hlt
      · rw [List.getElem?_eq_none hge] at h; cases h), h]
  · rw [List.getElem?_set_ne hi]

theorem map_key_set (ly : List (Node S)) (p : Nat) (n n' : Node S) (h : ly[p]? = some n) (hk : key n' = key n) :
    (ly.set p n').map key = ly.map key := by
  rw [List.map_set, hk]
  apply set_same
  rw [List.getElem?_map, h]; rfl

theorem getElem?_of_map_key (ly : List (Node S)) (ks : List (S × Int)) (h : ly.map key = ks) (p : Nat) :
    ks[p]? = (ly[p]?).map key := by
  rw [← h, List.getElem?_map]

/-- per-node invariant of the layer under construction: the value is attained by an inbound arc whose parent sits
    in the layer being expanded (`ks` = its (state, value) list), values and arc costs are bounded -/
structure NodeOk (ks : List (S × Int)) (lidx : Nat) (B M : Int) (n : Node S) : Prop where
  att : ∃ a ∈ n.inb, a.fromL = lidx ∧ ∃ sv, ks[a.fromP]? = some sv ∧ n.value = satAdd sv.2 a.cost
  rng : Within (M + B) n.value
  arc : ∀ a ∈ n.inb, Within B a.cost

theorem appendEdge_ok_old (ks : List (S × Int)) (lidx pp : Nat) (B M : Int) (par n : Node S) (d : Dec) (c : Int)
    (hks : ks[pp]? = some (key par)) (hM : Within M par.value) (hc : Within B c) (hn : NodeOk ks lidx B M n) :
    NodeOk ks lidx B M (appendEdge par n ⟨lidx, pp, d, c⟩) := by
  obtain ⟨⟨a0, ha0, hl0, sv, hsv, hv0⟩, hr, harc⟩ := hn
  have harc' : ∀ a ∈ (appendEdge par n ⟨lidx, pp, d, c⟩).inb, Within B a.cost := by
    rw [appendEdge_inb]; intro a ha
    rcases List.mem_cons.mp ha with rfl | ha
    · exact hc
    · exact harc a ha
  rcases appendEdge_value par n ⟨lidx, pp, d, c⟩ with ⟨h1, _⟩ | ⟨h1, _⟩
  · refine ⟨⟨a0, ?_, hl0, sv, hsv, ?_⟩, ?_, harc'⟩
    · rw [appendEdge_inb]; exact List.mem_cons_of_mem _ ha0
    · rw [h1]; exact hv0
    · rw [h1]; exact hr
  · refine ⟨⟨⟨lidx, pp, d, c⟩, ?_, rfl, key par, hks, ?_⟩, ?_, harc'⟩
    · rw [appendEdge_inb]; exact List.mem_cons_self
    · rw [h1]; rfl
    · rw [h1]; exact within_satAdd hM hc

theorem appendEdge_ok_fresh (ks : List (S × Int)) (lidx pp : Nat) (B M : Int) (par : Node S) (dst : S) (d : Dec) (c : Int)
    (hks : ks[pp]? = some (key par)) (hM : Within M par.value) (hc : Within B c) :
    NodeOk ks lidx B M (appendEdge par (freshNode par dst c) ⟨lidx, pp, d, c⟩) := by
  have hv : (appendEdge par (freshNode par dst c) ⟨lidx, pp, d, c⟩).value = satAdd par.value c := by
    rcases appendEdge_value par (freshNode par dst c) ⟨lidx, pp, d, c⟩ with ⟨h1, h2⟩ | ⟨h1, _⟩
    · simp only [freshNode] at h2; omega
    · exact h1
  refine ⟨⟨⟨lidx, pp, d, c⟩, ?_, rfl, key par, hks, ?_⟩, ?_, ?_⟩
  · rw [appendEdge_inb]; exact List.mem_cons_self
  · rw [hv]; rfl
  · rw [hv]; exact within_satAdd hM hc
  · rw [appendEdge_inb]; intro a ha
    rcases List.mem_cons.mp ha with rfl | ha
    · exact hc
    · simp only [freshNode] at ha; cases ha

theorem expandOne_keys (cfg : Cfg S K) (var lidx : Nat) (acc : List (Node S) × List (Node S) × List (Call S)) (p : Nat) :
    (expandOne cfg var lidx acc p).1.map key = acc.1.map key := by
  obtain ⟨ly, nx, lg⟩ := acc
  cases h : ly[p]? with
  | none => rw [expandOne_none _ _ _ _ _ _ _ h]
  | some n =>
    rw [expandOne_some _ _ _ _ _ _ _ n h]
    split <;> exact map_key_set ly p n _ h rfl

theorem expandOne_hasQ_mono (Q : Node S → Prop) (hQ : ∀ par m a, Q m → Q (appendEdge par m a))
    (cfg : Cfg S K) (var lidx : Nat) (acc : List (Node S) × List (Node S) × List (Call S)) (p : Nat)
    (st : S) (x : Int) (hh : HasQ Q acc.2.1 st x) : HasQ Q (expandOne cfg var lidx acc p).2.1 st x := by
  obtain ⟨ly, nx, lg⟩ := acc
  cases h : ly[p]? with
  | none => rw [expandOne_none _ _ _ _ _ _ _ h]; exact hh
  | some n =>
    rw [expandOne_some _ _ _ _ _ _ _ n h]
    split
    · exact branchAll_hasQ_mono Q hQ _ _ _ _ _ _ _ _ _ hh
    · exact hh

theorem expandOne_hasQ_new (Q : Node S → Prop) (hQ : ∀ par m a, Q m → Q (appendEdge par m a))
    (cfg : Cfg S K) (var lidx : Nat) (acc : List (Node S) × List (Node S) × List (Call S)) (p : Nat)
    (n : Node S) (h : acc.1[p]? = some n) (hrub : satAdd (cfg.R.rub n.state) n.value > cfg.lb)
    (d : Int) (hd : d ∈ cfg.P.domain var n.state)
    (hnew : ∀ par : Node S, par.state = n.state → ∀ m, Q (appendEdge par m (arcOf cfg var lidx p par d))) :
    HasQ Q (expandOne cfg var lidx acc p).2.1 (cfg.P.trans n.state ⟨var, d⟩)
      (satAdd n.value (cfg.P.cost n.state (cfg.P.trans n.state ⟨var, d⟩) ⟨var, d⟩)) := by
  obtain ⟨ly, nx, lg⟩ := acc
  rw [expandOne_some _ _ _ _ _ _ _ n h, if_pos hrub]
  exact branchAll_hasQ_new Q hQ cfg var lidx p { n with rub := cfg.R.rub n.state } _ _ d hd (hnew _ rfl)

theorem expandOne_ok' (cfg : Cfg S K) (var lidx : Nat) (acc : List (Node S) × List (Node S) × List (Call S)) (p : Nat)
    (ks : List (S × Int)) (B M : Int) (hks : acc.1.map key = ks) (hM : ∀ sv ∈ ks, Within M sv.2)
    (hcost : ∀ sv ∈ ks, ∀ d, d ∈ cfg.P.domain var sv.1 →
      Within B (cfg.P.cost sv.1 (cfg.P.trans sv.1 ⟨var, d⟩) ⟨var, d⟩))
    (hall : ∀ m ∈ acc.2.1, NodeOk ks lidx B M m) :
    ∀ m ∈ (expandOne cfg var lidx acc p).2.1, NodeOk ks lidx B M m := by
  obtain ⟨ly, nx, lg⟩ := acc
  cases h : ly[p]? with
  | none => rw [expandOne_none _ _ _ _ _ _ _ h]; exact hall
  | some n =>
    rw [expandOne_some _ _ _ _ _ _ _ n h]
    split
    · have hk : ks[p]? = some (key n) := by rw [getElem?_of_map_key ly ks hks p, h]; rfl
      have hkm : key n ∈ ks := List.mem_of_getElem? hk
      have hMn : Within M n.value := hM _ hkm
      dsimp only at hall ⊢
      refine branchAll_forall (NodeOk ks lidx B M) cfg var lidx p _ _ (nx, _) hall ?_ ?_
      · intro d hd m hm
        exact appendEdge_ok_old ks lidx p B M _ m _ _ hk hMn (hcost (key n) hkm d hd) hm
      · intro d hd
        exact appendEdge_ok_fresh ks lidx p B M _ _ _ _ hk hMn (hcost (key n) hkm d hd)
    · exact hall

theorem fold_keys (cfg : Cfg S K) (var lidx : Nat) (cur : List Nat) (acc : List (Node S) × List (Node S) × List (Call S)) :
    (cur.foldl (expandOne cfg var lidx) acc).1.map key = acc.1.map key := by
  induction cur generalizing acc with
  | nil => rfl
  | cons x xs ih => rw [List.foldl_cons, ih, expandOne_keys]

theorem fold_hasQ_mono (Q : Node S → Prop) (hQ : ∀ par m a, Q m → Q (appendEdge par m a))
    (cfg : Cfg S K) (var lidx : Nat) (cur : List Nat) (acc : List (Node S) × List (Node S) × List (Call S))
    (st : S) (x : Int) (hh : HasQ Q acc.2.1 st x) : HasQ Q (cur.foldl (expandOne cfg var lidx) acc).2.1 st x := by
  induction cur generalizing acc with
  | nil => exact hh
  | cons y ys ih => rw [List.foldl_cons]; exact ih _ (expandOne_hasQ_mono Q hQ _ _ _ _ _ _ _ hh)

/-- expanding position `q` (state `s`, value `v`, not pruned by the rough bound) leaves, for every decision `d`, a child
    with the target state, at least the value through `q`, and any property `Q` that the new arc establishes and
    further arcs preserve -/
theorem fold_hasQ_new (Q : Node S → Prop) (hQ : ∀ par m a, Q m → Q (appendEdge par m a))
    (cfg : Cfg S K) (var lidx : Nat) (cur : List Nat) (acc : List (Node S) × List (Node S) × List (Call S))
    (q : Nat) (hq : q ∈ cur) (s : S) (v : Int) (hk : (acc.1.map key)[q]? = some (s, v))
    (hrub : satAdd (cfg.R.rub s) v > cfg.lb) (d : Int) (hd : d ∈ cfg.P.domain var s)
    (hnew : ∀ par : Node S, par.state = s → ∀ m, Q (appendEdge par m (arcOf cfg var lidx q par d))) :
    HasQ Q (cur.foldl (expandOne cfg var lidx) acc).2.1 (cfg.P.trans s ⟨var, d⟩)
      (satAdd v (cfg.P.cost s (cfg.P.trans s ⟨var, d⟩) ⟨var, d⟩)) := by
  induction cur generalizing acc with
  | nil => cases hq
  | cons y ys ih =>
    rw [List.foldl_cons]
    rcases List.mem_cons.mp hq with rfl | hq
    · apply fold_hasQ_mono Q hQ
      rw [List.getElem?_map] at hk
      cases h1 : acc.1[q]? with
      | none => rw [h1] at hk; cases hk
      | some n1 =>
        rw [h1] at hk
        simp only [Option.map_some, key, Option.some.injEq, Prod.mk.injEq] at hk
        obtain ⟨rfl, rfl⟩ := hk
        exact expandOne_hasQ_new Q hQ cfg var lidx acc q n1 h1 hrub d hd hnew
    · exact ih _ hq (by rw [expandOne_keys]; exact hk)

theorem fold_has_mono (cfg : Cfg S K) (var lidx : Nat) (cur : List Nat) (acc : List (Node S) × List (Node S) × List (Call S))
    (st : S) (x : Int) (hh : Has acc.2.1 st x) : Has (cur.foldl (expandOne cfg var lidx) acc).2.1 st x :=
  (fold_hasQ_mono _ (fun _ _ _ h => h) cfg var lidx cur acc st x hh.hasQ).has

theorem fold_has_new (cfg : Cfg S K) (var lidx : Nat) (cur : List Nat) (acc : List (Node S) × List (Node S) × List (Call S))
    (q : Nat) (hq : q ∈ cur) (s : S) (v : Int) (hk : (acc.1.map key)[q]? = some (s, v))
    (hrub : satAdd (cfg.R.rub s) v > cfg.lb) (d : Int) (hd : d ∈ cfg.P.domain var s) :
    Has (cur.foldl (expandOne cfg var lidx) acc).2.1 (cfg.P.trans s ⟨var, d⟩)
      (satAdd v (cfg.P.cost s (cfg.P.trans s ⟨var, d⟩) ⟨var, d⟩)) :=
  (fold_hasQ_new (fun _ => True) (fun _ _ _ h => h) cfg var lidx cur acc q hq s v hk hrub d hd (fun _ _ _ => trivial)).has

theorem fold_ok' (cfg : Cfg S K) (var lidx : Nat) (cur : List Nat) (acc : List (Node S) × List (Node S) × List (Call S))
    (ks : List (S × Int)) (B M : Int) (hks : acc.1.map key = ks) (hM : ∀ sv ∈ ks, Within M sv.2)
    (hcost : ∀ sv ∈ ks, ∀ d, d ∈ cfg.P.domain var sv.1 →
      Within B (cfg.P.cost sv.1 (cfg.P.trans sv.1 ⟨var, d⟩) ⟨var, d⟩))
    (hall : ∀ m ∈ acc.2.1, NodeOk ks lidx B M m) :
    ∀ m ∈ (cur.foldl (expandOne cfg var lidx) acc).2.1, NodeOk ks lidx B M m := by
  induction cur generalizing acc with
  | nil => exact hall
  | cons y ys ih =>
    rw [List.foldl_cons]
    exact ih _ (by rw [expandOne_keys]; exact hks) (expandOne_ok' cfg var lidx acc y ks B M hks hM hcost hall)

theorem fold_ok (cfg : Cfg S K) (var lidx : Nat) (cur : List Nat) (acc : List (Node S) × List (Node S) × List (Call S))
    (ks : List (S × Int)) (B M : Int) (hks : acc.1.map key = ks) (hM : ∀ sv ∈ ks, Within M sv.2)
    (hcost : ∀ s d, d ∈ cfg.P.domain var s → Within B (cfg.P.cost s (cfg.P.trans s ⟨var, d⟩) ⟨var, d⟩))
    (hall : ∀ m ∈ acc.2.1, NodeOk ks lidx B M m) :
    ∀ m ∈ (cur.foldl (expandOne cfg var lidx) acc).2.1, NodeOk ks lidx B M m :=
  fold_ok' cfg var lidx cur acc ks B M hks hM (fun sv _ d hd => hcost sv.1 d hd) hall

/-- what the redirection must not change in the nodes other than the merged one -/
def sig (n : Node S) : S × Int × List Arc := (n.state, n.value, n.inb)

/-- `ly'` extends `ly` w.r.t. the merged position `mpos`: same length, the other nodes keep state / value / arcs,
    the node at `mpos` keeps its state and does not lose value -/
structure Ext (mpos : Nat) (ly ly' : List (Node S)) : Prop where
  len : ly'.length = ly.length
  other : ∀ q, q ≠ mpos → (ly'[q]?).map sig = (ly[q]?).map sig
  at_m : ∀ m, ly[mpos]? = some m → ∃ m', ly'[mpos]? = some m' ∧ m'.state = m.state ∧ m.value ≤ m'.value

theorem Ext.refl (mpos : Nat) (ly : List (Node S)) : Ext mpos ly ly :=
  ⟨rfl, fun _ _ => rfl, fun m h => ⟨m, h, rfl, Int.le_refl _⟩⟩

theorem Ext.trans {mpos : Nat} {a b c : List (Node S)} (h1 : Ext mpos a b) (h2 : Ext mpos b c) : Ext mpos a c := by
  refine ⟨by rw [h2.len, h1.len], fun q hq => by rw [h2.other q hq, h1.other q hq], fun m hm => ?_⟩
  obtain ⟨m1, hm1, hs1, hv1⟩ := h1.at_m m hm
  obtain ⟨m2, hm2, hs2, hv2⟩ := h2.at_m m1 hm1
  exact ⟨m2, hm2, by rw [hs2, hs1], by omega⟩

theorem Ext_set (mpos : Nat) (ly : List (Node S)) (p : Nat) (n n' : Node S) (h : ly[p]? = some n)
    (h1 : p ≠ mpos → sig n' = sig n) (h2 : p = mpos → n'.state = n.state ∧ n.value ≤ n'.value) :
    Ext mpos ly (ly.set p n') := by
  have hp := lt_of_getElem?_some h
  refine ⟨List.length_set, fun q hq => ?_, fun m hm => ?_⟩
  · by_cases hpq : p = q
    · subst hpq
      rw [List.getElem?_set_self hp, h, Option.map_some, Option.map_some, h1 hq]
    · rw [List.getElem?_set_ne hpq]
  · by_cases hpm : p = mpos
    · subst hpm
      rw [h] at hm; cases hm
      exact ⟨n', List.getElem?_set_self hp, (h2 rfl).1, (h2 rfl).2⟩
    · rw [List.getElem?_set_ne hpm]
      exact ⟨m, hm, rfl, Int.le_refl _⟩

/-- redirection of one inbound arc `e` of the merged-away node `dropN` -/
def redirStep (cfg : Cfg S K) (layers : List (List (Node S))) (merged : S) (mpos : Nat) (dropN : Node S)
    (acc : List (Node S) × List (Call S)) (e : Arc) : List (Node S) × List (Call S) :=
  match getNode layers e.fromL e.fromP, acc.1[mpos]? with
  | some src, some m =>
    (acc.1.set mpos (appendEdge src m ⟨e.fromL, e.fromP, e.dec, cfg.R.relax src.state dropN.state merged e.dec e.cost⟩),
     Call.relax src.state dropN.state merged e.dec e.cost :: acc.2)
  | _, _ => (acc.1, acc.2)

/-- one merged-away node: mark it deleted, redirect its inbound arcs -/
def dropStep (cfg : Cfg S K) (layers : List (List (Node S))) (merged : S) (mpos : Nat)
    (acc : List (Node S) × List (Call S)) (p : Nat) : List (Node S) × List (Call S) :=
  match acc.1[p]? with
  | none => (acc.1, acc.2)
  | some dropN =>
    dropN.inb.foldl (redirStep cfg layers merged mpos dropN) (acc.1.set p { dropN with deleted := true }, acc.2)

theorem redirStep_cases (cfg : Cfg S K) (layers : List (List (Node S))) (merged : S) (mpos : Nat) (dropN : Node S)
    (acc : List (Node S) × List (Call S)) (e : Arc) :
    ((redirStep cfg layers merged mpos dropN acc e).1 = acc.1 ∧
      (getNode layers e.fromL e.fromP = none ∨ acc.1[mpos]? = none)) ∨
    ∃ src m, getNode layers e.fromL e.fromP = some src ∧ acc.1[mpos]? = some m ∧
      (redirStep cfg layers merged mpos dropN acc e).1 =
        acc.1.set mpos (appendEdge src m ⟨e.fromL, e.fromP, e.dec, cfg.R.relax src.state dropN.state merged e.dec e.cost⟩) := by
  unfold redirStep
  cases h1 : getNode layers e.fromL e.fromP with
  | none => left; exact ⟨rfl, Or.inl rfl⟩
  | some src =>
    cases h2 : acc.1[mpos]? with
    | none => left; exact ⟨rfl, Or.inr rfl⟩
    | some m => right; exact ⟨src, m, rfl, rfl, rfl⟩

/-- the node at `mpos` has value ≥ `v` -/
def LB (mpos : Nat) (v : Int) (ly : List (Node S)) : Prop := ∃ m, ly[mpos]? = some m ∧ v ≤ m.value

theorem LB_ext {mpos : Nat} {v : Int} {ly ly' : List (Node S)} (h : LB mpos v ly) (he : Ext mpos ly ly') : LB mpos v ly' := by
  obtain ⟨m, hm, hv⟩ := h
  obtain ⟨m', hm', _, hv'⟩ := he.at_m m hm
  exact ⟨m', hm', by omega⟩

/-- parents are such that adding a bounded cost stays within `M`; relaxed costs stay bounded -/
structure SrcOk (cfg : Cfg S K) (layers : List (List (Node S))) (B M : Int) : Prop where
  src : ∀ l p src c, getNode layers l p = some src → Within B c → Within M (satAdd src.value c)
  rel : ∀ s u m d c, Within B c → Within B (cfg.R.relax s u m d c)

def keepOf (cfg : Cfg S K) (layer : List (Node S)) (cur : List Nat) : List Nat :=
  (sortSquash cfg layer cur).take (cfg.width - 1)
def restOf (cfg : Cfg S K) (layer : List (Node S)) (cur : List Nat) : List Nat :=
  (sortSquash cfg layer cur).drop (cfg.width - 1)
def restStatesOf (cfg : Cfg S K) (layer : List (Node S)) (cur : List Nat) : List S :=
  (restOf cfg layer cur).filterMap (fun p => (layer[p]?).map (·.state))
def mergedOf (cfg : Cfg S K) (layer : List (Node S)) (cur : List Nat) : S :=
  cfg.R.merge (restStatesOf cfg layer cur)
def recycledOf (cfg : Cfg S K) (layer : List (Node S)) (cur : List Nat) : Option Nat :=
  (keepOf cfg layer cur).find?
    (fun p => match layer[p]? with | some n => decide (n.state = mergedOf cfg layer cur) | none => false)

theorem recycledOf_some {cfg : Cfg S K} {layer : List (Node S)} {cur : List Nat} {mp : Nat}
    (h : recycledOf cfg layer cur = some mp) :
    mp ∈ keepOf cfg layer cur ∧ ∃ n, layer[mp]? = some n ∧ n.state = mergedOf cfg layer cur := by
  refine ⟨List.mem_of_find?_eq_some h, ?_⟩
  have := List.find?_some h
  cases h' : layer[mp]? with
  | none => rw [h'] at this; cases this
  | some n => rw [h'] at this; exact ⟨n, rfl, of_decide_eq_true this⟩

theorem keepOf_sub_take (cfg : Cfg S K) (layer : List (Node S)) (cur : List Nat) :
    ∀ q ∈ keepOf cfg layer cur, q ∈ (sortSquash cfg layer cur).take cfg.width :=
  fun _ hq => mem_take_mono hq (Nat.sub_le _ _)

def markRelaxed (l : List (Node S)) (mpos : Nat) : List (Node S) :=
  match l[mpos]? with
  | some n => l.set mpos { n with fRelaxed := true }
  | none => l

def undelete (l : List (Node S)) (cur' : List Nat) : List (Node S) :=
  match cur'.getLast? with
  | some sp => (match l[sp]? with | some n => l.set sp { n with deleted := false } | none => l)
  | none => l

def freshMerged (merged : S) (d0 : Nat) : Node S :=
  { state := merged, value := iMin, fExact := false, fRelaxed := true, depth := d0 }

/-- a relation between layers that the elementary writes of `_relax` respect — setting the `deleted` flag of a node, appending an edge to
    the node at `mpos` — is respected by its two folds (`Writes.outer`) and by its last step (`Writes.undelete`); by its first step too if
    setting `fRelaxed` respects it (`Writes.markRelaxed`).  A fact about `_relax` of that form is proved by giving the four fields. -/
structure Writes (mpos : Nat) (R : List (Node S) → List (Node S) → Prop) : Prop where
  refl : ∀ l, R l l
  trans : ∀ {a b c}, R a b → R b c → R a c
  del : ∀ {l : List (Node S)} {p : Nat} {n : Node S} (b : Bool), l[p]? = some n → R l (l.set p { n with deleted := b })
  app : ∀ {l : List (Node S)} {m : Node S} (src : Node S) (a : Arc), l[mpos]? = some m → R l (l.set mpos (appendEdge src m a))

theorem Writes.foldl {mpos : Nat} {R : List (Node S) → List (Node S) → Prop} (h : Writes mpos R) {α : Type}
    (f : List (Node S) × List (Call S) → α → List (Node S) × List (Call S)) (hf : ∀ acc x, R acc.1 (f acc x).1)
    (xs : List α) (acc : List (Node S) × List (Call S)) : R acc.1 (xs.foldl f acc).1 := by
  induction xs generalizing acc with
  | nil => exact h.refl _
  | cons x xs ih => rw [List.foldl_cons]; exact h.trans (hf acc x) (ih _)

theorem Writes.inner {mpos : Nat} {R : List (Node S) → List (Node S) → Prop} (h : Writes mpos R) (cfg : Cfg S K)
    (layers : List (List (Node S))) (merged : S) (dropN : Node S) (inb : List Arc) (acc : List (Node S) × List (Call S)) :
    R acc.1 (inb.foldl (redirStep cfg layers merged mpos dropN) acc).1 := by
  refine h.foldl _ (fun b e => ?_) inb acc
  rcases redirStep_cases cfg layers merged mpos dropN b e with ⟨h2, _⟩ | ⟨src, m, _, hm, h2⟩
  · rw [h2]; exact h.refl _
  · rw [h2]; exact h.app src _ hm

theorem Writes.dropStep {mpos : Nat} {R : List (Node S) → List (Node S) → Prop} (h : Writes mpos R) (cfg : Cfg S K)
    (layers : List (List (Node S))) (merged : S) (acc : List (Node S) × List (Call S)) (p : Nat) :
    R acc.1 (Cover.dropStep cfg layers merged mpos acc p).1 := by
  unfold Cover.dropStep
  cases h1 : acc.1[p]? with
  | none => exact h.refl _
  | some dropN =>
    exact h.trans (h.del true h1) (h.inner cfg layers merged dropN dropN.inb (acc.1.set p { dropN with deleted := true }, acc.2))

theorem Writes.outer {mpos : Nat} {R : List (Node S) → List (Node S) → Prop} (h : Writes mpos R) (cfg : Cfg S K)
    (layers : List (List (Node S))) (merged : S) (rest : List Nat) (acc : List (Node S) × List (Call S)) :
    R acc.1 (rest.foldl (Cover.dropStep cfg layers merged mpos) acc).1 :=
  h.foldl _ (h.dropStep cfg layers merged) rest acc

theorem Writes.markRelaxed {mpos : Nat} {R : List (Node S) → List (Node S) → Prop} (h : Writes mpos R)
    (hrel : ∀ {l : List (Node S)} {p : Nat} {n : Node S}, l[p]? = some n → R l (l.set p { n with fRelaxed := true }))
    (l : List (Node S)) (p : Nat) : R l (Cover.markRelaxed l p) := by
  unfold Cover.markRelaxed
  cases h1 : l[p]? with
  | none => exact h.refl _
  | some n => exact hrel h1

theorem Writes.undelete {mpos : Nat} {R : List (Node S) → List (Node S) → Prop} (h : Writes mpos R) (l : List (Node S)) (c : List Nat) :
    R l (Cover.undelete l c) := by
  unfold Cover.undelete
  cases c.getLast? with
  | none => exact h.refl _
  | some sp =>
    dsimp only
    cases h1 : l[sp]? with
    | none => exact h.refl _
    | some n => exact h.del false h1

theorem Ext.writes (mpos : Nat) : Writes (S := S) mpos (Ext mpos) where
  refl := Ext.refl mpos
  trans := Ext.trans
  del := fun _ h => Ext_set mpos _ _ _ _ h (fun _ => rfl) (fun _ => ⟨rfl, Int.le_refl _⟩)
  app := fun _ _ hm => Ext_set mpos _ mpos _ _ hm (fun hne => absurd rfl hne)
    (fun _ => ⟨appendEdge_state _ _ _, appendEdge_ge_old _ _ _⟩)

theorem redirStep_ext (cfg : Cfg S K) (layers : List (List (Node S))) (merged : S) (mpos : Nat) (dropN : Node S)
    (acc : List (Node S) × List (Call S)) (e : Arc) :
    Ext mpos acc.1 (redirStep cfg layers merged mpos dropN acc e).1 := by
  rcases redirStep_cases cfg layers merged mpos dropN acc e with ⟨h, _⟩ | ⟨src, m, _, hm, h⟩
  · rw [h]; exact Ext.refl _ _
  · rw [h]; exact (Ext.writes mpos).app src _ hm

theorem dropStep_ext (cfg : Cfg S K) (layers : List (List (Node S))) (merged : S) (mpos : Nat)
    (acc : List (Node S) × List (Call S)) (p : Nat) :
    Ext mpos acc.1 (dropStep cfg layers merged mpos acc p).1 :=
  (Ext.writes mpos).dropStep cfg layers merged acc p

theorem outer_ext (cfg : Cfg S K) (layers : List (List (Node S))) (merged : S) (mpos : Nat)
    (rest : List Nat) (acc : List (Node S) × List (Call S)) :
    Ext mpos acc.1 (rest.foldl (dropStep cfg layers merged mpos) acc).1 :=
  (Ext.writes mpos).outer cfg layers merged rest acc

theorem markRelaxed_ext (mpos : Nat) (l : List (Node S)) (p : Nat) : Ext mpos l (markRelaxed l p) :=
  (Ext.writes mpos).markRelaxed (fun h => Ext_set mpos _ _ _ _ h (fun _ => rfl) (fun _ => ⟨rfl, Int.le_refl _⟩)) l p

theorem undelete_ext (mpos : Nat) (l : List (Node S)) (c : List Nat) : Ext mpos l (undelete l c) :=
  (Ext.writes mpos).undelete l c

/-- the depth `_relax` gives to a fresh merged node: that of the first merged-away node -/
def _root_.Ddo.Theta.d0Of (cfg : Cfg S K) (layer : List (Node S)) (cur : List Nat) : Nat :=
  match (restOf cfg layer cur).head? with
  | some p => (match layer[p]? with | some n => n.depth | none => 0)
  | none => 0

/-- the two ways `relaxLayer` ends (fresh merged node appended / a kept node with the merged state recycled), the
    redirection loop starting from the log with the `merge` call -/
theorem _root_.Ddo.relaxLayer_cases (cfg : Cfg S K) (layers : List (List (Node S))) (layer : List (Node S)) (cur : List Nat)
    (log : List (Call S)) (P : List (Node S) × List Nat × List (Call S) → Prop)
    (hnone : recycledOf cfg layer cur = none →
      P (((restOf cfg layer cur).foldl (dropStep cfg layers (mergedOf cfg layer cur) layer.length)
            (markRelaxed (layer ++ [freshMerged (mergedOf cfg layer cur) (Theta.d0Of cfg layer cur)]) layer.length,
             Call.merge (restStatesOf cfg layer cur) (mergedOf cfg layer cur) :: log)).1,
         keepOf cfg layer cur ++ [layer.length],
         ((restOf cfg layer cur).foldl (dropStep cfg layers (mergedOf cfg layer cur) layer.length)
            (markRelaxed (layer ++ [freshMerged (mergedOf cfg layer cur) (Theta.d0Of cfg layer cur)]) layer.length,
             Call.merge (restStatesOf cfg layer cur) (mergedOf cfg layer cur) :: log)).2))
    (hsome : ∀ mp, recycledOf cfg layer cur = some mp →
      P (undelete ((restOf cfg layer cur).foldl (dropStep cfg layers (mergedOf cfg layer cur) mp)
            (markRelaxed layer mp, Call.merge (restStatesOf cfg layer cur) (mergedOf cfg layer cur) :: log)).1
              ((sortSquash cfg layer cur).take cfg.width),
         (sortSquash cfg layer cur).take cfg.width,
         ((restOf cfg layer cur).foldl (dropStep cfg layers (mergedOf cfg layer cur) mp)
            (markRelaxed layer mp, Call.merge (restStatesOf cfg layer cur) (mergedOf cfg layer cur) :: log)).2)) :
    P (relaxLayer cfg layers layer cur log) := by
  unfold relaxLayer
  dsimp only
  generalize hrec : List.find? _ (List.take (cfg.width - 1) (sortSquash cfg layer cur)) = recycled
  have hrec' : recycledOf cfg layer cur = recycled := hrec
  cases recycled with
  | none =>
    dsimp only
    exact hnone hrec'
  | some mp =>
    dsimp only
    exact hsome mp hrec'

/-- `relaxLayer_cases` for a property that does not look at the log the redirection loop starts from -/
theorem relaxLayer_elim (cfg : Cfg S K) (layers : List (List (Node S))) (layer : List (Node S)) (cur : List Nat)
    (log : List (Call S)) (P : List (Node S) × List Nat × List (Call S) → Prop)
    (hnone : recycledOf cfg layer cur = none → ∀ lg,
      P (((restOf cfg layer cur).foldl (dropStep cfg layers (mergedOf cfg layer cur) layer.length)
            (markRelaxed (layer ++ [freshMerged (mergedOf cfg layer cur) (Theta.d0Of cfg layer cur)]) layer.length, lg)).1,
         keepOf cfg layer cur ++ [layer.length],
         ((restOf cfg layer cur).foldl (dropStep cfg layers (mergedOf cfg layer cur) layer.length)
            (markRelaxed (layer ++ [freshMerged (mergedOf cfg layer cur) (Theta.d0Of cfg layer cur)]) layer.length, lg)).2))
    (hsome : ∀ mp, recycledOf cfg layer cur = some mp → ∀ lg,
      P (undelete ((restOf cfg layer cur).foldl (dropStep cfg layers (mergedOf cfg layer cur) mp)
            (markRelaxed layer mp, lg)).1 ((sortSquash cfg layer cur).take cfg.width),
         (sortSquash cfg layer cur).take cfg.width,
         ((restOf cfg layer cur).foldl (dropStep cfg layers (mergedOf cfg layer cur) mp)
            (markRelaxed layer mp, lg)).2)) :
    P (relaxLayer cfg layers layer cur log) :=
  relaxLayer_cases cfg layers layer cur log P (fun h => hnone h _) (fun mp h => hsome mp h _)

theorem forall_set {α : Type} {Q : α → Prop} {ly : List α} (h : ∀ n ∈ ly, Q n) (p : Nat) {n' : α} (hn' : Q n') :
    ∀ n ∈ ly.set p n', Q n := fun n hn => by
  rcases List.mem_or_eq_of_mem_set hn with hn | rfl
  · exact h n hn
  · exact hn'

/-- every node satisfies `Q`, the node at `mpos` (if any) satisfies `Qm` -/
def AllM (Q Qm : Node S → Prop) (mpos : Nat) (ly : List (Node S)) : Prop :=
  (∀ n ∈ ly, Q n) ∧ ∀ m, ly[mpos]? = some m → Qm m

theorem AllM.set {Q Qm : Node S → Prop} {mpos : Nat} {ly : List (Node S)} (h : AllM Q Qm mpos ly) (p : Nat) {n' : Node S}
    (hQ : Q n') (hm : p = mpos → Qm n') : AllM Q Qm mpos (ly.set p n') := by
  refine ⟨forall_set h.1 p hQ, fun m hmm => ?_⟩
  by_cases hp : p = mpos
  · subst hp
    rw [List.getElem?_set_self (by simpa only [List.length_set] using lt_of_getElem?_some hmm)] at hmm
    cases hmm
    exact hm rfl
  · rw [List.getElem?_set_ne hp] at hmm
    exact h.2 m hmm

theorem redirStep_allM (Q Qm : Node S → Prop) (cfg : Cfg S K) (layers : List (List (Node S))) (merged : S) (mpos : Nat)
    (dropN : Node S) (acc : List (Node S) × List (Call S)) (e : Arc) (hQm : ∀ n, Qm n → Q n)
    (happ : ∀ src m, getNode layers e.fromL e.fromP = some src → Qm m →
      Qm (appendEdge src m ⟨e.fromL, e.fromP, e.dec, cfg.R.relax src.state dropN.state merged e.dec e.cost⟩))
    (h : AllM Q Qm mpos acc.1) : AllM Q Qm mpos (redirStep cfg layers merged mpos dropN acc e).1 := by
  rcases redirStep_cases cfg layers merged mpos dropN acc e with ⟨h1, _⟩ | ⟨src, m, hsrc, hm, h1⟩
  · rw [h1]; exact h
  · rw [h1]
    have := happ src m hsrc (h.2 m hm)
    exact h.set mpos (hQm _ this) (fun _ => this)

theorem dropStep_allM (Q Qm : Node S → Prop) (cfg : Cfg S K) (layers : List (List (Node S))) (merged : S) (mpos : Nat)
    (acc : List (Node S) × List (Call S)) (p : Nat) (hQm : ∀ n, Qm n → Q n)
    (hdel : ∀ n, Q n → Q { n with deleted := true }) (hdelM : ∀ n, Qm n → Qm { n with deleted := true })
    (happ : ∀ dropN, Q dropN → ∀ e ∈ dropN.inb, ∀ src m, getNode layers e.fromL e.fromP = some src → Qm m →
      Qm (appendEdge src m ⟨e.fromL, e.fromP, e.dec, cfg.R.relax src.state dropN.state merged e.dec e.cost⟩))
    (h : AllM Q Qm mpos acc.1) : AllM Q Qm mpos (dropStep cfg layers merged mpos acc p).1 := by
  unfold dropStep
  cases h1 : acc.1[p]? with
  | none => exact h
  | some dropN =>
    dsimp only
    have hd := h.1 dropN (List.mem_of_getElem? h1)
    refine foldl_inv (β := List (Node S) × List (Call S)) (fun b => AllM Q Qm mpos b.1) _ dropN.inb _
      (h.set p (hdel _ hd) (fun hp => hdelM _ (h.2 dropN (hp ▸ h1)))) ?_
    intro b e he hb
    exact redirStep_allM Q Qm cfg layers merged mpos _ b e hQm (happ dropN hd e he) hb

/-- `relaxLayer` preserves a property `Q` of the nodes that creating the merged node, flagging and (un)deleting
    preserve, provided the node that receives the redirected arcs has a property `Qm` which `appendEdge` preserves -/
theorem relaxLayer_forall (Q Qm : Node S → Prop) (cfg : Cfg S K) (layers : List (List (Node S))) (layer : List (Node S))
    (cur : List Nat) (log : List (Call S)) (hQm : ∀ n, Qm n → Q n)
    (hfresh : Q (freshMerged (mergedOf cfg layer cur) (Theta.d0Of cfg layer cur)))
    (hrel : ∀ n, Q n → Qm { n with fRelaxed := true })
    (hdel : ∀ n b, Q n → Q { n with deleted := b }) (hdelM : ∀ n, Qm n → Qm { n with deleted := true })
    (happ : ∀ dropN, Q dropN → ∀ e ∈ dropN.inb, ∀ src m, getNode layers e.fromL e.fromP = some src → Qm m →
      Qm (appendEdge src m ⟨e.fromL, e.fromP, e.dec, cfg.R.relax src.state dropN.state (mergedOf cfg layer cur) e.dec e.cost⟩))
    (h : ∀ n ∈ layer, Q n) : ∀ n ∈ (relaxLayer cfg layers layer cur log).1, Q n := by
  -- the two folds, started on a layer whose node at `mp` has just been flagged
  have hfold : ∀ (l : List (Node S)) (mp : Nat) (lg : List (Call S)), (∀ n ∈ l, Q n) →
      ∀ n ∈ ((restOf cfg layer cur).foldl (dropStep cfg layers (mergedOf cfg layer cur) mp) (markRelaxed l mp, lg)).1, Q n := by
    intro l mp lg hl
    have h0 : AllM Q Qm mp (markRelaxed l mp) := by
      unfold markRelaxed
      cases h1 : l[mp]? with
      | none => exact ⟨hl, fun m hm => by rw [h1] at hm; cases hm⟩
      | some n =>
        have := hrel n (hl n (List.mem_of_getElem? h1))
        refine ⟨forall_set hl mp (hQm _ this), fun m hm => ?_⟩
        rw [List.getElem?_set_self (lt_of_getElem?_some h1)] at hm
        cases hm
        exact this
    exact (foldl_inv (β := List (Node S) × List (Call S)) (fun b => AllM Q Qm mp b.1) _ _ _ h0
      (fun b p _ hb => dropStep_allM Q Qm cfg layers _ mp b p hQm (fun n hn => hdel n true hn) hdelM happ hb)).1
  apply relaxLayer_elim cfg layers layer cur log (fun r => ∀ n ∈ r.1, Q n)
  · intro _ lg
    refine hfold _ _ lg (fun n hn => ?_)
    rcases List.mem_append.mp hn with hn | hn
    · exact h n hn
    · rw [List.mem_singleton] at hn; rw [hn]; exact hfresh
  · intro mp _ lg
    have h3 := hfold layer mp lg h
    dsimp only
    unfold undelete
    cases (List.take cfg.width (sortSquash cfg layer cur)).getLast? with
    | none => exact h3
    | some sp =>
      dsimp only
      cases h1 : ((restOf cfg layer cur).foldl (dropStep cfg layers (mergedOf cfg layer cur) mp) (markRelaxed layer mp, lg)).1[sp]? with
      | none => exact h3
      | some n => exact forall_set h3 sp (hdel n false (h3 n (List.mem_of_getElem? h1)))

theorem sig_of_map {o : Option (Node S)} {u : Node S} (h : o.map sig = some (sig u)) :
    ∃ n, o = some n ∧ n.state = u.state ∧ n.value = u.value ∧ n.inb = u.inb := by
  cases o with
  | none => cases h
  | some n =>
    simp only [Option.map_some, sig, Option.some.injEq, Prod.mk.injEq] at h
    exact ⟨n, rfl, h.1, h.2.1, h.2.2⟩

theorem states_core (layer layer1 out : List (Node S)) (mpos : Nat) (merged : S)
    (h1 : ∀ q n1, q ≠ mpos → layer1[q]? = some n1 → n1 ∈ layer)
    (hm0 : ∃ m0, layer1[mpos]? = some m0 ∧ m0.state = merged) (E : Ext mpos layer1 out) :
    ∀ (q' : Nat) (n' : Node S), out[q']? = some n' → (∃ n ∈ layer, n'.state = n.state) ∨ n'.state = merged := by
  intro q' n' hq'
  by_cases hqm : q' = mpos
  · subst hqm
    obtain ⟨m0, hm0, hs0⟩ := hm0
    obtain ⟨m', hm', hs', _⟩ := E.at_m m0 hm0
    rw [hq'] at hm'; cases hm'
    right; rw [hs', hs0]
  · have ho := E.other q' hqm
    rw [hq'] at ho
    cases hl1 : layer1[q']? with
    | none => rw [hl1] at ho; cases ho
    | some n1 =>
      rw [hl1] at ho
      simp only [Option.map_some, sig, Option.some.injEq, Prod.mk.injEq] at ho
      left; exact ⟨n1, h1 q' n1 hqm hl1, ho.1⟩

theorem relaxLayer_states (cfg : Cfg S K) (layers : List (List (Node S))) (layer : List (Node S)) (cur : List Nat)
    (log : List (Call S)) :
    ∀ (q' : Nat) (n' : Node S), (relaxLayer cfg layers layer cur log).1[q']? = some n' →
      (∃ n ∈ layer, n'.state = n.state) ∨ n'.state = mergedOf cfg layer cur := by
  apply relaxLayer_elim cfg layers layer cur log
    (fun r => ∀ (q' : Nat) (n' : Node S), r.1[q']? = some n' → (∃ n ∈ layer, n'.state = n.state) ∨ n'.state = mergedOf cfg layer cur)
  · intro hrec
    generalize Theta.d0Of cfg layer cur = d0
    intro lg
    dsimp only
    have E : Ext layer.length (layer ++ [freshMerged (mergedOf cfg layer cur) d0]) _ :=
      (markRelaxed_ext layer.length (layer ++ [freshMerged (mergedOf cfg layer cur) d0]) layer.length).trans
        (outer_ext cfg layers (mergedOf cfg layer cur) layer.length (restOf cfg layer cur)
          (markRelaxed (layer ++ [freshMerged (mergedOf cfg layer cur) d0]) layer.length, lg))
    refine states_core layer (layer ++ [freshMerged (mergedOf cfg layer cur) d0]) _ layer.length _ ?_
      ⟨_, List.getElem?_concat_length, rfl⟩ E
    intro q n1 hqm hq1
    have hlt := lt_of_getElem?_some hq1
    rw [List.length_append, List.length_singleton] at hlt
    rw [List.getElem?_append_left (by omega)] at hq1
    exact List.mem_of_getElem? hq1
  · intro mp hrec lg
    have hmn := (recycledOf_some hrec).2
    dsimp only
    have E : Ext mp layer _ := (markRelaxed_ext mp layer mp).trans
      ((outer_ext cfg layers (mergedOf cfg layer cur) mp (restOf cfg layer cur) (markRelaxed layer mp, lg)).trans
        (undelete_ext mp _ ((sortSquash cfg layer cur).take cfg.width)))
    exact states_core layer layer _ mp _ (fun q n1 _ hq1 => List.mem_of_getElem? hq1) hmn E

end Ddo.Cover

namespace Ddo.Bounds
open Ddo
variable {S K : Type} [DecidableEq S] [DecidableEq K]

theorem expandOne_children (Q : Node S → Prop) (cfg : Cfg S K) (var lidx : Nat)
    (acc : List (Node S) × List (Node S) × List (Call S)) (p : Nat)
    (hall : ∀ m ∈ acc.2.1, Q m)
    (hold : ∀ (par : Node S) d n, Q n → Q (appendEdge par n (Cover.arcOf cfg var lidx p par d)))
    (hfresh : ∀ (par : Node S) d, Q (appendEdge par (Cover.freshNode par (cfg.P.trans par.state ⟨var, d⟩)
        (cfg.P.cost par.state (cfg.P.trans par.state ⟨var, d⟩) ⟨var, d⟩)) (Cover.arcOf cfg var lidx p par d))) :
    ∀ m ∈ (expandOne cfg var lidx acc p).2.1, Q m := by
  obtain ⟨ly, nx, lg⟩ := acc
  cases h : ly[p]? with
  | none => rw [Cover.expandOne_none _ _ _ _ _ _ _ h]; exact hall
  | some n =>
    rw [Cover.expandOne_some _ _ _ _ _ _ _ n h]
    split
    · dsimp only at hall ⊢
      exact Cover.branchAll_forall Q cfg var lidx p _ _ (nx, _) hall (fun d _ m hm => hold _ d m hm)
        (fun d _ => hfresh _ d)
    · exact hall

theorem fold_children (Q : Node S → Prop) (cfg : Cfg S K) (var lidx : Nat) (cur : List Nat)
    (acc : List (Node S) × List (Node S) × List (Call S))
    (hall : ∀ m ∈ acc.2.1, Q m)
    (hold : ∀ q ∈ cur, ∀ (par : Node S) d n, Q n → Q (appendEdge par n (Cover.arcOf cfg var lidx q par d)))
    (hfresh : ∀ q ∈ cur, ∀ (par : Node S) d, Q (appendEdge par (Cover.freshNode par (cfg.P.trans par.state ⟨var, d⟩)
        (cfg.P.cost par.state (cfg.P.trans par.state ⟨var, d⟩) ⟨var, d⟩)) (Cover.arcOf cfg var lidx q par d))) :
    ∀ m ∈ (cur.foldl (expandOne cfg var lidx) acc).2.1, Q m :=
  Cover.foldl_inv (fun acc => ∀ m ∈ acc.2.1, Q m) _ cur acc hall
    (fun b q hq hb => expandOne_children Q cfg var lidx b q hb (hold q hq) (hfresh q hq))

theorem fold_child_arcs (QA : Arc → Prop) (cfg : Cfg S K) (var lidx : Nat) (cur : List Nat)
    (acc : List (Node S) × List (Node S) × List (Call S))
    (hall : ∀ m ∈ acc.2.1, ∀ a ∈ m.inb, QA a)
    (hnew : ∀ q ∈ cur, ∀ (s : S) d, QA ⟨lidx, q, ⟨var, d⟩, cfg.P.cost s (cfg.P.trans s ⟨var, d⟩) ⟨var, d⟩⟩) :
    ∀ m ∈ (cur.foldl (expandOne cfg var lidx) acc).2.1, ∀ a ∈ m.inb, QA a := by
  refine fold_children (fun m => ∀ a ∈ m.inb, QA a) cfg var lidx cur acc hall ?_ ?_
  · intro q hq par d n hn a ha
    rw [Cover.appendEdge_inb] at ha
    rcases List.mem_cons.mp ha with ha | ha
    · rw [ha]; exact hnew q hq par.state d
    · exact hn a ha
  · intro q hq par d a ha
    rw [Cover.appendEdge_inb] at ha
    rcases List.mem_cons.mp ha with ha | ha
    · rw [ha]; exact hnew q hq par.state d
    · simp only [Cover.freshNode] at ha; cases ha

/-- the node at `mpos` does not lose inbound arcs -/
def InbSub (mpos : Nat) (ly ly' : List (Node S)) : Prop :=
  ∀ m, ly[mpos]? = some m → ∃ m', ly'[mpos]? = some m' ∧ ∀ a ∈ m.inb, a ∈ m'.inb

theorem InbSub.refl (mpos : Nat) (ly : List (Node S)) : InbSub mpos ly ly := fun m hm => ⟨m, hm, fun _ h => h⟩

theorem InbSub.trans {mpos : Nat} {a b c : List (Node S)} (h1 : InbSub mpos a b) (h2 : InbSub mpos b c) :
    InbSub mpos a c := by
  intro m hm
  obtain ⟨m1, hm1, hs1⟩ := h1 m hm
  obtain ⟨m2, hm2, hs2⟩ := h2 m1 hm1
  exact ⟨m2, hm2, fun a ha => hs2 a (hs1 a ha)⟩

theorem InbSub_set (mpos : Nat) (ly : List (Node S)) (p : Nat) (n n' : Node S) (h : ly[p]? = some n)
    (hsub : ∀ a ∈ n.inb, a ∈ n'.inb) : InbSub mpos ly (ly.set p n') := by
  have hp := Cover.lt_of_getElem?_some h
  intro m hm
  by_cases hpm : p = mpos
  · subst hpm
    rw [h] at hm; cases hm
    exact ⟨n', List.getElem?_set_self hp, hsub⟩
  · rw [List.getElem?_set_ne hpm]
    exact ⟨m, hm, fun _ h => h⟩

theorem InbSub.writes (mpos : Nat) : Cover.Writes (S := S) mpos (InbSub mpos) where
  refl := InbSub.refl mpos
  trans := InbSub.trans
  del := fun _ h => InbSub_set mpos _ _ _ _ h (fun _ h => h)
  app := fun _ _ hm => InbSub_set mpos _ mpos _ _ hm (fun a ha => by rw [Cover.appendEdge_inb]; exact List.mem_cons_of_mem _ ha)

theorem outer_inbSub (cfg : Cfg S K) (layers : List (List (Node S))) (merged : S) (mpos : Nat)
    (rest : List Nat) (acc : List (Node S) × List (Call S)) :
    InbSub mpos acc.1 (rest.foldl (Cover.dropStep cfg layers merged mpos) acc).1 :=
  (InbSub.writes mpos).outer cfg layers merged rest acc

theorem markRelaxed_inbSub (mpos : Nat) (l : List (Node S)) (p : Nat) : InbSub mpos l (Cover.markRelaxed l p) :=
  (InbSub.writes mpos).markRelaxed (fun h => InbSub_set mpos _ _ _ _ h (fun _ h => h)) l p

theorem undelete_inbSub (mpos : Nat) (l : List (Node S)) (c : List Nat) : InbSub mpos l (Cover.undelete l c) :=
  (InbSub.writes mpos).undelete l c

/-- the node at `mpos` holds the arc `x` -/
def HasArc (mpos : Nat) (x : Arc) (ly : List (Node S)) : Prop := ∃ m, ly[mpos]? = some m ∧ x ∈ m.inb

theorem HasArc_sub {mpos : Nat} {x : Arc} {ly ly' : List (Node S)} (h : HasArc mpos x ly) (he : InbSub mpos ly ly') :
    HasArc mpos x ly' := by
  obtain ⟨m, hm, hx⟩ := h
  obtain ⟨m', hm', hs⟩ := he m hm
  exact ⟨m', hm', hs x hx⟩

/-- the node at `mpos` has value at least `v` and holds the arc `x` -/
def Recv (mpos : Nat) (v : Int) (x : Arc) (ly : List (Node S)) : Prop :=
  ∃ m, ly[mpos]? = some m ∧ v ≤ m.value ∧ x ∈ m.inb

theorem Recv.ext {mpos : Nat} {v : Int} {x : Arc} {ly ly' : List (Node S)} (h : Recv mpos v x ly)
    (he : Cover.Ext mpos ly ly') (hi : InbSub mpos ly ly') : Recv mpos v x ly' := by
  obtain ⟨m, hm, hv, hx⟩ := h
  obtain ⟨m', hm', _, hv'⟩ := he.at_m m hm
  obtain ⟨m'', hm'', hs⟩ := hi m hm
  rw [hm'] at hm''; cases hm''
  exact ⟨m', hm', Int.le_trans hv hv', hs x hx⟩

theorem redirStep_recv (cfg : Cfg S K) (layers : List (List (Node S))) (merged : S) (mpos : Nat) (dropN : Node S)
    (acc : List (Node S) × List (Call S)) (e : Arc) (src m : Node S)
    (hsrc : getNode layers e.fromL e.fromP = some src) (hm : acc.1[mpos]? = some m) :
    Recv mpos (satAdd src.value (cfg.R.relax src.state dropN.state merged e.dec e.cost))
      ⟨e.fromL, e.fromP, e.dec, cfg.R.relax src.state dropN.state merged e.dec e.cost⟩
      (Cover.redirStep cfg layers merged mpos dropN acc e).1 := by
  unfold Cover.redirStep
  rw [hsrc, hm]
  -- the shape of the arc is given: with `_` the unifier would first unfold `satAdd` to compare the costs
  exact ⟨_, List.getElem?_set_self (Cover.lt_of_getElem?_some hm), Cover.appendEdge_ge_new src m ⟨_, _, _, _⟩,
    by rw [Cover.appendEdge_inb]; exact List.mem_cons_self⟩

theorem inner_recv (cfg : Cfg S K) (layers : List (List (Node S))) (merged : S) (mpos : Nat) (dropN : Node S)
    (inb : List Arc) (acc : List (Node S) × List (Call S)) (a : Arc) (ha : a ∈ inb) (src m : Node S)
    (hsrc : getNode layers a.fromL a.fromP = some src) (hm : acc.1[mpos]? = some m) :
    Recv mpos (satAdd src.value (cfg.R.relax src.state dropN.state merged a.dec a.cost))
      ⟨a.fromL, a.fromP, a.dec, cfg.R.relax src.state dropN.state merged a.dec a.cost⟩
      (inb.foldl (Cover.redirStep cfg layers merged mpos dropN) acc).1 := by
  induction inb generalizing acc m with
  | nil => cases ha
  | cons e es ih =>
    rw [List.foldl_cons]
    rcases List.mem_cons.mp ha with rfl | ha
    · exact (redirStep_recv cfg layers merged mpos dropN acc a src m hsrc hm).ext ((Cover.Ext.writes mpos).inner _ _ _ _ _ _)
        ((InbSub.writes mpos).inner _ _ _ _ _ _)
    · obtain ⟨m', hm', _, _⟩ := (Cover.redirStep_ext cfg layers merged mpos dropN acc e).at_m m hm
      exact ih _ ha m' hm'

theorem dropStep_recv (cfg : Cfg S K) (layers : List (List (Node S))) (merged : S) (mpos : Nat)
    (acc : List (Node S) × List (Call S)) (q : Nat) (u : Node S) (hu : acc.1[q]? = some u)
    (a : Arc) (ha : a ∈ u.inb) (src m : Node S)
    (hsrc : getNode layers a.fromL a.fromP = some src) (hm : acc.1[mpos]? = some m) :
    Recv mpos (satAdd src.value (cfg.R.relax src.state u.state merged a.dec a.cost))
      ⟨a.fromL, a.fromP, a.dec, cfg.R.relax src.state u.state merged a.dec a.cost⟩
      (Cover.dropStep cfg layers merged mpos acc q).1 := by
  unfold Cover.dropStep
  rw [hu]
  dsimp only
  obtain ⟨m', hm', _, _⟩ := (Cover.Ext_set mpos acc.1 q u { u with deleted := true } hu (fun _ => rfl)
    (fun _ => ⟨rfl, Int.le_refl _⟩)).at_m m hm
  exact inner_recv cfg layers merged mpos { u with deleted := true } u.inb (acc.1.set q { u with deleted := true }, acc.2)
    a ha src m' hsrc hm'

/-- every inbound arc of a merged-away node is redirected to the node at `mpos`, which gets at least its value -/
theorem outer_recvB (cfg : Cfg S K) (layers : List (List (Node S))) (merged : S) (mpos : Nat)
    (rest : List Nat) (acc : List (Node S) × List (Call S)) (q : Nat) (hq : q ∈ rest) (hqm : q ≠ mpos)
    (s : S) (v : Int) (inb : List Arc) (hu : (acc.1[q]?).map Cover.sig = some (s, v, inb))
    (a : Arc) (ha : a ∈ inb) (src m : Node S)
    (hsrc : getNode layers a.fromL a.fromP = some src) (hm : acc.1[mpos]? = some m) :
    Recv mpos (satAdd src.value (cfg.R.relax src.state s merged a.dec a.cost))
      ⟨a.fromL, a.fromP, a.dec, cfg.R.relax src.state s merged a.dec a.cost⟩
      (rest.foldl (Cover.dropStep cfg layers merged mpos) acc).1 := by
  induction rest generalizing acc m with
  | nil => cases hq
  | cons p ps ih =>
    rw [List.foldl_cons]
    rcases List.mem_cons.mp hq with rfl | hq
    · cases h1 : acc.1[q]? with
      | none => rw [h1] at hu; cases hu
      | some u =>
        rw [h1] at hu
        simp only [Option.map_some, Cover.sig, Option.some.injEq, Prod.mk.injEq] at hu
        obtain ⟨rfl, rfl, rfl⟩ := hu
        exact (dropStep_recv cfg layers merged mpos acc q u h1 a ha src m hsrc hm).ext (Cover.outer_ext _ _ _ _ _ _)
          (outer_inbSub _ _ _ _ _ _)
    · have he := Cover.dropStep_ext cfg layers merged mpos acc p
      obtain ⟨m', hm', _, _⟩ := he.at_m m hm
      exact ih _ hq (by rw [he.other q hqm]; exact hu) m' hm'

theorem outer_recvA (cfg : Cfg S K) (layers : List (List (Node S))) (merged : S) (mpos : Nat)
    (rest : List Nat) (acc : List (Node S) × List (Call S)) (q : Nat) (hq : q ∈ rest) (hqm : q ≠ mpos)
    (s : S) (v : Int) (inb : List Arc) (hu : (acc.1[q]?).map Cover.sig = some (s, v, inb))
    (a : Arc) (ha : a ∈ inb) (src m : Node S)
    (hsrc : getNode layers a.fromL a.fromP = some src) (hm : acc.1[mpos]? = some m) :
    HasArc mpos ⟨a.fromL, a.fromP, a.dec, cfg.R.relax src.state s merged a.dec a.cost⟩
      (rest.foldl (Cover.dropStep cfg layers merged mpos) acc).1 :=
  (outer_recvB cfg layers merged mpos rest acc q hq hqm s v inb hu a ha src m hsrc hm).imp fun _ h => ⟨h.1, h.2.2⟩

theorem _root_.Ddo.Cover.outer_recv (cfg : Cfg S K) (layers : List (List (Node S))) (merged : S) (mpos : Nat)
    (rest : List Nat) (acc : List (Node S) × List (Call S)) (q : Nat) (hq : q ∈ rest) (hqm : q ≠ mpos)
    (s : S) (v : Int) (inb : List Arc) (hu : (acc.1[q]?).map Cover.sig = some (s, v, inb))
    (a : Arc) (ha : a ∈ inb) (src m : Node S)
    (hsrc : getNode layers a.fromL a.fromP = some src) (hm : acc.1[mpos]? = some m) :
    Cover.LB mpos (satAdd src.value (cfg.R.relax src.state s merged a.dec a.cost))
      (rest.foldl (Cover.dropStep cfg layers merged mpos) acc).1 :=
  (outer_recvB cfg layers merged mpos rest acc q hq hqm s v inb hu a ha src m hsrc hm).imp fun _ h => ⟨h.1, h.2.1⟩


/-- what a node `u` of the layer becomes after the relaxation, arcs included: it is kept (value and arcs can only
    grow), or it is merged and every one of its inbound arcs has been redirected to the merged node -/
def TransferA (cfg : Cfg S K) (layers : List (List (Node S))) (layer : List (Node S)) (cur : List Nat)
    (u n' : Node S) : Prop :=
  (n'.state = u.state ∧ u.value ≤ n'.value ∧ ∀ a ∈ u.inb, a ∈ n'.inb) ∨
  (u.state ∈ Cover.restStatesOf cfg layer cur ∧ n'.state = Cover.mergedOf cfg layer cur ∧
    ∀ a ∈ u.inb, ∀ src, getNode layers a.fromL a.fromP = some src →
      (⟨a.fromL, a.fromP, a.dec, cfg.R.relax src.state u.state (Cover.mergedOf cfg layer cur) a.dec a.cost⟩ : Arc) ∈ n'.inb ∧
      satAdd src.value (cfg.R.relax src.state u.state (Cover.mergedOf cfg layer cur) a.dec a.cost) ≤ n'.value)

/-- **the one idea of `_relax`, at the level of an arc.**  An inbound arc `e : src → u` along which no potential is lost (`u` has potential
    `h0`, `src.value + e.cost ≤ u.value`) is, after the relaxation, an arc `e' : src → n'` from the same position with the same property: `e`
    itself if `u` is kept, the redirected arc with the relaxed cost if `u` is merged away (`MergeOk`: what the cost loses the potential of the
    merged state makes up for).  `M`, `B` bound the value of the source and the costs; their sum must not saturate. -/
theorem TransferA.arc {cfg : Cfg S K} {layers : List (List (Node S))} {layer : List (Node S)} {cur : List Nat} {u n' : Node S}
    (hT : TransferA cfg layers layer cur u n') {H : Nat → S → EInt} (hM : MergeOk cfg.R H) {B M : Int}
    (hrel : ∀ s u m d c, Cover.Within B c → Cover.Within B (cfg.R.relax s u m d c)) (hs : M + B ≤ 4611686018427387904)
    {e : Arc} (he : e ∈ u.inb) {src : Node S} (hsrc : getNode layers e.fromL e.fromP = some src) (hw : Cover.Within M src.value)
    (hwc : Cover.Within B e.cost) {k : Nat} {h0 : Int} (hH0 : H k u.state = some h0) (hval : src.value + e.cost ≤ u.value) :
    ∃ (e' : Arc) (h' : Int), e' ∈ n'.inb ∧ e'.fromL = e.fromL ∧ e'.fromP = e.fromP ∧ Cover.Within B e'.cost ∧
      H k n'.state = some h' ∧ e.cost + h0 ≤ e'.cost + h' ∧ src.value + e'.cost ≤ n'.value := by
  rcases hT with ⟨hst, hv, harcs⟩ | ⟨hX, hst, harc⟩
  · exact ⟨e, h0, harcs e he, rfl, rfl, hwc, by rw [hst]; exact hH0, Int.le_refl _, Int.le_trans hval hv⟩
  · obtain ⟨hmem, hge⟩ := harc e he src hsrc
    obtain ⟨h', hH', hle⟩ := hM k (Cover.restStatesOf cfg layer cur) u.state src.state e.dec e.cost h0 hX hH0
    have hrc := hrel src.state u.state (Cover.mergedOf cfg layer cur) e.dec e.cost hwc
    rw [Cover.satAdd_of_within hw hrc hs] at hge
    exact ⟨_, h', hmem, rfl, rfl, hrc, by rw [hst]; exact hH', hle, hge⟩

theorem relax_coreA (cfg : Cfg S K) (layers : List (List (Node S))) (layer layer1 out : List (Node S)) (cur cur' : List Nat)
    (mpos : Nat) (lg0 : List (Call S))
    (h1 : ∀ q, q < layer.length → layer1[q]? = layer[q]?)
    (hm0 : ∃ m0, layer1[mpos]? = some m0 ∧ m0.state = Cover.mergedOf cfg layer cur)
    (hout : Cover.Ext mpos ((Cover.restOf cfg layer cur).foldl (Cover.dropStep cfg layers (Cover.mergedOf cfg layer cur) mpos)
            (Cover.markRelaxed layer1 mpos, lg0)).1 out)
    (houtI : InbSub mpos ((Cover.restOf cfg layer cur).foldl (Cover.dropStep cfg layers (Cover.mergedOf cfg layer cur) mpos)
            (Cover.markRelaxed layer1 mpos, lg0)).1 out)
    (hkeep : ∀ q ∈ Cover.keepOf cfg layer cur, q ∈ cur') (hmp : mpos ∈ cur')
    (q : Nat) (hq : q ∈ cur) (u : Node S) (hu : layer[q]? = some u) :
    ∃ q' ∈ cur', ∃ n', out[q']? = some n' ∧ TransferA cfg layers layer cur u n' := by
  have hql := Cover.lt_of_getElem?_some hu
  have hu1 : layer1[q]? = some u := by rw [h1 q hql]; exact hu
  have E1 := Cover.markRelaxed_ext mpos layer1 mpos
  have E2 := Cover.outer_ext cfg layers (Cover.mergedOf cfg layer cur) mpos (Cover.restOf cfg layer cur)
    (Cover.markRelaxed layer1 mpos, lg0)
  have E : Cover.Ext mpos layer1 out := E1.trans (E2.trans hout)
  have I1 := markRelaxed_inbSub mpos layer1 mpos
  have I2 := outer_inbSub cfg layers (Cover.mergedOf cfg layer cur) mpos (Cover.restOf cfg layer cur)
    (Cover.markRelaxed layer1 mpos, lg0)
  have I : InbSub mpos layer1 out := I1.trans (I2.trans houtI)
  have hqs : q ∈ Cover.keepOf cfg layer cur ∨ q ∈ Cover.restOf cfg layer cur := by
    have : q ∈ sortSquash cfg layer cur := by unfold sortSquash; exact (Cover.mem_sortBy _ _ _).mpr hq
    rw [← List.take_append_drop (cfg.width - 1) (sortSquash cfg layer cur)] at this
    exact List.mem_append.mp this
  by_cases hqm : q = mpos
  · subst hqm
    obtain ⟨m', hm', hs', hv'⟩ := E.at_m u hu1
    obtain ⟨m'', hm'', hi'⟩ := I u hu1
    rw [hm'] at hm''; cases hm''
    exact ⟨q, hmp, m', hm', Or.inl ⟨hs', hv', hi'⟩⟩
  · have ho := E.other q hqm
    rw [hu1] at ho
    obtain ⟨n', hn', hs', hv', hi'⟩ := Cover.sig_of_map ho
    rcases hqs with hk | hr
    · exact ⟨q, hkeep q hk, n', hn', Or.inl ⟨hs', by omega, fun a ha => by rw [hi']; exact ha⟩⟩
    · obtain ⟨m0, hm0, hms⟩ := hm0
      obtain ⟨m', hm', hs'', _⟩ := E.at_m m0 hm0
      refine ⟨mpos, hmp, m', hm', Or.inr ⟨?_, by rw [hs'', hms], ?_⟩⟩
      · unfold Cover.restStatesOf
        exact List.mem_filterMap.mpr ⟨q, hr, by rw [hu]; rfl⟩
      · intro a ha src hsrc
        obtain ⟨m1, hm1, _, _⟩ := E1.at_m m0 hm0
        obtain ⟨m2, hm2, hv2, ha2⟩ := (outer_recvB cfg layers (Cover.mergedOf cfg layer cur) mpos (Cover.restOf cfg layer cur)
          (Cover.markRelaxed layer1 mpos, lg0) q hr hqm u.state u.value u.inb
          (by rw [E1.other q hqm, hu1]; rfl) a ha src m1 hsrc hm1).ext hout houtI
        rw [hm'] at hm2; cases hm2
        exact ⟨ha2, hv2⟩

/-- post-condition of `relaxLayer`, arcs included -/
structure RelaxPostA (cfg : Cfg S K) (layers : List (List (Node S))) (layer : List (Node S)) (cur : List Nat)
    (r : List (Node S) × List Nat × List (Call S)) : Prop where
  transfer : ∀ q ∈ cur, ∀ u, layer[q]? = some u →
    ∃ q' ∈ r.2.1, ∃ n', r.1[q']? = some n' ∧ TransferA cfg layers layer cur u n'
  states : ∀ q' ∈ r.2.1, ∀ n', r.1[q']? = some n' →
    (∃ u ∈ layer, n'.state = u.state) ∨ n'.state = Cover.mergedOf cfg layer cur

theorem relaxLayer_specA (cfg : Cfg S K) (layers : List (List (Node S))) (layer : List (Node S)) (cur : List Nat)
    (log : List (Call S)) (hW : 1 ≤ cfg.width) (hcur : ∀ p ∈ cur, p < layer.length) :
    RelaxPostA cfg layers layer cur (relaxLayer cfg layers layer cur log) := by
  refine ⟨?_, fun q' _ n' hn' => Cover.relaxLayer_states cfg layers layer cur log q' n' hn'⟩
  apply Cover.relaxLayer_elim cfg layers layer cur log (fun r => ∀ q ∈ cur, ∀ u, layer[q]? = some u →
    ∃ q' ∈ r.2.1, ∃ n', r.1[q']? = some n' ∧ TransferA cfg layers layer cur u n')
  · -- fresh merged node
    intro hrec
    generalize Theta.d0Of cfg layer cur = d0
    intro lg q hq u hu
    exact relax_coreA cfg layers layer _ _ cur _ layer.length lg (fun q hq => List.getElem?_append_left hq)
      ⟨_, List.getElem?_concat_length, rfl⟩ (Cover.Ext.refl _ _) (InbSub.refl _ _)
      (fun q hq => List.mem_append_left _ hq) (List.mem_append_right _ List.mem_cons_self) q hq u hu
  · -- recycled node
    intro mp hrec lg q hq u hu
    obtain ⟨hmk, hmn⟩ := Cover.recycledOf_some hrec
    have hsub := Cover.keepOf_sub_take cfg layer cur
    exact relax_coreA cfg layers layer layer _ cur _ mp lg (fun _ _ => rfl) hmn (Cover.undelete_ext _ _ _)
      (undelete_inbSub _ _ _) hsub (hsub mp hmk) q hq u hu

end Ddo.Bounds

namespace Ddo.Cover
open Ddo
variable {S K : Type} [DecidableEq S] [DecidableEq K]

/-- what a node `u` of the layer becomes after the relaxation: it is kept (possibly with a larger value), or it is
    merged and every one of its inbound arcs has been redirected to the merged node -/
def Transfer (cfg : Cfg S K) (layers : List (List (Node S))) (layer : List (Node S)) (cur : List Nat)
    (u n' : Node S) : Prop :=
  (n'.state = u.state ∧ u.value ≤ n'.value) ∨
  (u.state ∈ restStatesOf cfg layer cur ∧ n'.state = mergedOf cfg layer cur ∧
    ∀ a ∈ u.inb, ∀ src, getNode layers a.fromL a.fromP = some src →
      satAdd src.value (cfg.R.relax src.state u.state (mergedOf cfg layer cur) a.dec a.cost) ≤ n'.value)

theorem _root_.Ddo.Bounds.TransferA.toTransfer {cfg : Cfg S K} {layers : List (List (Node S))} {layer : List (Node S)} {cur : List Nat}
    {u n' : Node S} (h : Bounds.TransferA cfg layers layer cur u n') : Transfer cfg layers layer cur u n' :=
  h.imp (fun h => ⟨h.1, h.2.1⟩) (fun h => ⟨h.1, h.2.1, fun a ha src hsrc => (h.2.2 a ha src hsrc).2⟩)

theorem relax_core_range (cfg : Cfg S K) (layers : List (List (Node S))) (layer layer1 out : List (Node S)) (cur : List Nat)
    (mpos : Nat) (lg0 : List (Call S)) (M : Int)
    (hlo1 : ∀ q n1, q ≠ mpos → layer1[q]? = some n1 → -M ≤ n1.value)
    (hout : Ext mpos ((restOf cfg layer cur).foldl (dropStep cfg layers (mergedOf cfg layer cur) mpos)
            (markRelaxed layer1 mpos, lg0)).1 out)
    (hU : ∀ n ∈ out, n.value ≤ M) (hlow : LB mpos (-M) out) :
    ∀ n ∈ out, Within M n.value := by
  have E : Ext mpos layer1 out := (markRelaxed_ext mpos layer1 mpos).trans
    ((outer_ext cfg layers (mergedOf cfg layer cur) mpos (restOf cfg layer cur) (markRelaxed layer1 mpos, lg0)).trans hout)
  intro n hn
  refine ⟨?_, hU n hn⟩
  obtain ⟨q, hq⟩ := List.mem_iff_getElem?.mp hn
  by_cases hqm : q = mpos
  · subst hqm
    obtain ⟨m, hm, hv⟩ := hlow
    rw [hq] at hm; cases hm; exact hv
  · have ho := E.other q hqm
    rw [hq] at ho
    cases h1 : layer1[q]? with
    | none => rw [h1] at ho; cases ho
    | some n1 =>
      rw [h1] at ho
      simp only [Option.map_some, sig, Option.some.injEq, Prod.mk.injEq] at ho
      have := hlo1 q n1 hqm h1
      omega

theorem LB_mono {mpos : Nat} {v v' : Int} {ly : List (Node S)} (h : LB mpos v ly) (hv : v' ≤ v) : LB mpos v' ly := by
  obtain ⟨m, hm, h1⟩ := h
  exact ⟨m, hm, by omega⟩

/-- hypotheses on the layer to be relaxed needed for the range part -/
structure LayerOk (layers : List (List (Node S))) (layer : List (Node S)) (cur : List Nat) (B M : Int) : Prop where
  rng : ∀ n ∈ layer, Within M n.value ∧ ∀ a ∈ n.inb, Within B a.cost
  att : ∀ q ∈ cur, ∀ u, layer[q]? = some u → ∃ a ∈ u.inb, ∃ src, getNode layers a.fromL a.fromP = some src

/-- post-condition of `relaxLayer` -/
structure RelaxPost (cfg : Cfg S K) (layers : List (List (Node S))) (layer : List (Node S)) (cur : List Nat)
    (r : List (Node S) × List Nat × List (Call S)) : Prop where
  transfer : ∀ q ∈ cur, ∀ u, layer[q]? = some u →
    ∃ q' ∈ r.2.1, ∃ n', r.1[q']? = some n' ∧ Transfer cfg layers layer cur u n'
  range : ∀ B M, SrcOk cfg layers B M → 0 ≤ M → LayerOk layers layer cur B M → ∀ n ∈ r.1, Within M n.value

theorem rest_nonempty (cfg : Cfg S K) (layer : List (Node S)) (cur : List Nat) (hW : 1 ≤ cfg.width)
    (hlen : cur.length > cfg.width) : ∃ q0, q0 ∈ restOf cfg layer cur ∧ q0 ∈ cur := by
  have hl : (restOf cfg layer cur).length = cur.length - (cfg.width - 1) := by
    unfold restOf sortSquash; rw [List.length_drop, length_sortBy]
  cases hr : restOf cfg layer cur with
  | nil => rw [hr] at hl; simp only [List.length_nil] at hl; omega
  | cons q0 t =>
    refine ⟨q0, List.mem_cons_self, ?_⟩
    have : q0 ∈ restOf cfg layer cur := by rw [hr]; exact List.mem_cons_self
    unfold restOf at this
    have := List.mem_of_mem_drop this
    unfold sortSquash at this
    exact (mem_sortBy _ _ _).mp this

theorem relaxLayer_spec (cfg : Cfg S K) (layers : List (List (Node S))) (layer : List (Node S)) (cur : List Nat)
    (log : List (Call S)) (hW : 1 ≤ cfg.width) (hlen : cur.length > cfg.width) (hcur : ∀ p ∈ cur, p < layer.length) :
    RelaxPost cfg layers layer cur (relaxLayer cfg layers layer cur log) := by
  -- the upper bound on the values, with the bound on the arc costs that the redirection needs
  have hupper : ∀ B M, SrcOk cfg layers B M → 0 ≤ M → LayerOk layers layer cur B M →
      ∀ n ∈ (relaxLayer cfg layers layer cur log).1, n.value ≤ M := by
    intro B M hs hM hl n hn
    refine (relaxLayer_forall (fun n => n.value ≤ M ∧ ∀ a ∈ n.inb, Within B a.cost) _ cfg layers layer cur log
      (fun _ h => h) ⟨?_, nofun⟩ (fun _ h => h) (fun _ _ h => h) (fun _ h => h) ?_
      (fun n hn => ⟨(hl.rng n hn).1.2, (hl.rng n hn).2⟩) n hn).1
    · simp only [freshMerged]; unfold iMin; omega
    · intro dropN hd e he src m hsrc hm
      have hrc := hs.rel src.state dropN.state (mergedOf cfg layer cur) e.dec e.cost (hd.2 e he)
      constructor
      · rcases appendEdge_value src m ⟨e.fromL, e.fromP, e.dec, cfg.R.relax src.state dropN.state (mergedOf cfg layer cur) e.dec e.cost⟩
          with ⟨h2, _⟩ | ⟨h2, _⟩
        · rw [h2]; exact hm.1
        · rw [h2]; exact (hs.src _ _ src _ hsrc hrc).2
      · rw [appendEdge_inb]; intro a ha
        rcases List.mem_cons.mp ha with rfl | ha
        · exact hrc
        · exact hm.2 a ha
  refine ⟨fun q hq u hu => ?_, ?_⟩
  · obtain ⟨q', hq', n', hn', hT⟩ := (Bounds.relaxLayer_specA cfg layers layer cur log hW hcur).transfer q hq u hu
    exact ⟨q', hq', n', hn', hT.toTransfer⟩
  revert hupper
  apply relaxLayer_elim cfg layers layer cur log (fun r => (∀ B M, SrcOk cfg layers B M → 0 ≤ M → LayerOk layers layer cur B M →
      ∀ n ∈ r.1, n.value ≤ M) → ∀ B M, SrcOk cfg layers B M → 0 ≤ M → LayerOk layers layer cur B M → ∀ n ∈ r.1, Within M n.value)
  · -- fresh merged node
    intro hrec
    generalize Theta.d0Of cfg layer cur = d0
    intro lg hupper B M hs hM hl
    have h1 : ∀ q, q < layer.length →
        (layer ++ [freshMerged (mergedOf cfg layer cur) d0])[q]? = layer[q]? :=
      fun q hq => List.getElem?_append_left hq
    have hm0 : (layer ++ [freshMerged (mergedOf cfg layer cur) d0])[layer.length]? =
        some (freshMerged (mergedOf cfg layer cur) d0) := List.getElem?_concat_length
    refine relax_core_range cfg layers layer _ _ cur layer.length lg M ?_ (Ext.refl _ _) (hupper B M hs hM hl) ?_
    · intro q n1 hqm hq1
      have hlt := lt_of_getElem?_some hq1
      rw [List.length_append, List.length_singleton] at hlt
      have hq' : q < layer.length := by omega
      rw [h1 q hq'] at hq1
      exact (hl.rng n1 (List.mem_of_getElem? hq1)).1.1
    · obtain ⟨q0, hq0, hq0c⟩ := rest_nonempty cfg layer cur hW hlen
      have hlt := hcur q0 hq0c
      have hu0 : layer[q0]? = some layer[q0] := List.getElem?_eq_getElem hlt
      obtain ⟨a, ha, src, hsrc⟩ := hl.att q0 hq0c _ hu0
      have E1 := markRelaxed_ext layer.length (layer ++ [freshMerged (mergedOf cfg layer cur) d0]) layer.length
      obtain ⟨m1, hm1, _, _⟩ := E1.at_m _ hm0
      have hlb := outer_recv cfg layers (mergedOf cfg layer cur) layer.length (restOf cfg layer cur)
        (markRelaxed (layer ++ [freshMerged (mergedOf cfg layer cur) d0]) layer.length, lg) q0 hq0 (by omega)
        layer[q0].state layer[q0].value layer[q0].inb
        (by rw [E1.other q0 (by omega), h1 q0 hlt, hu0]; rfl) a ha src m1 hsrc hm1
      have hac := (hl.rng _ (List.mem_of_getElem? hu0)).2 a ha
      exact LB_mono hlb (hs.src _ _ src _ hsrc (hs.rel _ _ _ _ _ hac)).1
  · -- recycled node
    intro mp hrec lg hupper B M hs hM hl
    obtain ⟨n, hn, _⟩ := (recycledOf_some hrec).2
    refine relax_core_range cfg layers layer layer _ cur mp lg M
      (fun q n1 _ hq1 => (hl.rng n1 (List.mem_of_getElem? hq1)).1.1) (undelete_ext _ _ _) (hupper B M hs hM hl) ?_
    have E : Ext mp layer _ := (markRelaxed_ext mp layer mp).trans
      ((outer_ext cfg layers (mergedOf cfg layer cur) mp (restOf cfg layer cur) (markRelaxed layer mp, lg)).trans
        (undelete_ext mp _ ((sortSquash cfg layer cur).take cfg.width)))
    obtain ⟨m', hm', _, hv'⟩ := E.at_m n hn
    exact ⟨m', hm', by have := (hl.rng n (List.mem_of_getElem? hn)).1.1; omega⟩

theorem foldl_keep (layer : List (Node S)) (f : List (Node S) × List Nat → Nat → List (Node S) × List Nat)
    (hf : ∀ keep p, p < layer.length → f (layer, keep) p = (layer, keep ++ [p])) :
    ∀ (cur keep0 : List Nat), (∀ p ∈ cur, p < layer.length) → cur.foldl f (layer, keep0) = (layer, keep0 ++ cur) := by
  intro cur
  induction cur with
  | nil => intro keep0 _; simp
  | cons p ps ih =>
    intro keep0 h
    rw [List.foldl_cons, hf keep0 p (h p List.mem_cons_self), ih _ (fun q hq => h q (List.mem_cons_of_mem _ hq))]
    simp

theorem filterCache_id (cfg : Cfg S K) (cache : Cache S) (layer : List (Node S)) (cur : List Nat)
    (hc : cfg.useCache = false) (hcur : ∀ p ∈ cur, p < layer.length) :
    filterCache cfg cache layer cur = (layer, cur) := by
  unfold filterCache
  refine (foldl_keep layer _ (fun keep p hp => ?_) cur [] hcur).trans ?_
  · dsimp only
    rw [List.getElem?_eq_getElem hp]
    simp only [hc]
    rfl
  · simp

theorem src_within {layers : List (List (Node S))} {B : Int} (hB : 0 ≤ B)
    (hrng : ∀ (i : Nat) ly, layers[i]? = some ly → ∀ n ∈ ly, Within (Bd B i) n.value) :
    ∀ l p src c, getNode layers l p = some src → Within B c → Within (Bd B layers.length) (satAdd src.value c) := by
  intro l p src c hsrc hc
  unfold getNode at hsrc
  cases hly : layers[l]? with
  | none => rw [hly] at hsrc; cases hsrc
  | some ly =>
    rw [hly] at hsrc
    have := within_satAdd (hrng l ly hly src (List.mem_of_getElem? hsrc)) hc
    rw [← Bd_succ] at this
    exact this.mono (Bd_mono hB (lt_of_getElem?_some hly))

theorem expandOne_states (Q : S → Prop) (cfg : Cfg S K) (var lidx : Nat)
    (acc : List (Node S) × List (Node S) × List (Call S)) (p : Nat) (ks : List (S × Int)) (hks : acc.1.map key = ks)
    (hpar : ∀ sv, ks[p]? = some sv → ∀ d ∈ cfg.P.domain var sv.1, Q (cfg.P.trans sv.1 ⟨var, d⟩))
    (hall : ∀ m ∈ acc.2.1, Q m.state) :
    ∀ m ∈ (expandOne cfg var lidx acc p).2.1, Q m.state := by
  obtain ⟨ly, nx, lg⟩ := acc
  cases h : ly[p]? with
  | none => rw [expandOne_none _ _ _ _ _ _ _ h]; exact hall
  | some n =>
    rw [expandOne_some _ _ _ _ _ _ _ n h]
    split
    · have hk : ks[p]? = some (key n) := by rw [getElem?_of_map_key ly ks hks p, h]; rfl
      dsimp only at hall ⊢
      refine branchAll_forall (fun m => Q m.state) cfg var lidx p _ _ (nx, _) hall ?_ ?_
      · intro d _ m hm
        show Q (appendEdge _ m _).state
        rw [appendEdge_state]; exact hm
      · intro d hd
        show Q (appendEdge _ _ _).state
        rw [appendEdge_state]
        exact hpar (key n) hk d hd
    · exact hall

theorem fold_states (Q : S → Prop) (cfg : Cfg S K) (var lidx : Nat) (cur : List Nat)
    (acc : List (Node S) × List (Node S) × List (Call S)) (ks : List (S × Int)) (hks : acc.1.map key = ks)
    (hpar : ∀ p ∈ cur, ∀ sv, ks[p]? = some sv → ∀ d ∈ cfg.P.domain var sv.1, Q (cfg.P.trans sv.1 ⟨var, d⟩))
    (hall : ∀ m ∈ acc.2.1, Q m.state) :
    ∀ m ∈ (cur.foldl (expandOne cfg var lidx) acc).2.1, Q m.state := by
  induction cur generalizing acc with
  | nil => exact hall
  | cons y ys ih =>
    rw [List.foldl_cons]
    exact ih _ (by rw [expandOne_keys]; exact hks) (fun p hp => hpar p (List.mem_cons_of_mem _ hp))
      (expandOne_states Q cfg var lidx acc y ks hks (hpar y List.mem_cons_self) hall)

theorem restStates_sub (cfg : Cfg S K) (layer : List (Node S)) (cur : List Nat) :
    ∀ x ∈ restStatesOf cfg layer cur, ∃ n ∈ layer, x = n.state := by
  intro x hx
  unfold restStatesOf at hx
  obtain ⟨p0, _, hp0⟩ := List.mem_filterMap.mp hx
  cases hn0 : layer[p0]? with
  | none => rw [hn0] at hp0; cases hp0
  | some n0 =>
    rw [hn0] at hp0
    simp only [Option.map_some, Option.some.injEq] at hp0
    exact ⟨n0, List.mem_of_getElem? hn0, hp0.symm⟩

theorem restStates_ne_nil (cfg : Cfg S K) (layer : List (Node S)) (cur : List Nat) (hW : 1 ≤ cfg.width)
    (hlen : cur.length > cfg.width) (hcur : ∀ p ∈ cur, p < layer.length) : restStatesOf cfg layer cur ≠ [] := by
  obtain ⟨q0, hq0, hq0c⟩ := rest_nonempty cfg layer cur hW hlen
  have hlt := hcur q0 hq0c
  have hu0 : layer[q0]? = some layer[q0] := List.getElem?_eq_getElem hlt
  apply List.ne_nil_of_mem (a := layer[q0].state)
  unfold restStatesOf
  exact List.mem_filterMap.mpr ⟨q0, hq0, by rw [hu0]; rfl⟩

theorem getNode_last (L : List (List (Node S))) (ly : List (Node S)) (p : Nat) :
    getNode (L ++ [ly]) L.length p = ly[p]? := by
  unfold getNode
  rw [List.getElem?_concat_length]

theorem getNode_lt {L : List (List (Node S))} {l p : Nat} {x : Node S} (h : getNode L l p = some x) :
    ∃ ly, L[l]? = some ly ∧ ly[p]? = some x := by
  unfold getNode at h
  cases h1 : L[l]? with
  | none => rw [h1] at h; cases h
  | some ly => rw [h1] at h; exact ⟨ly, rfl, h⟩

theorem mem_of_getElem?_range {α : Type} {l : List α} {q : Nat} {a : α} (h : l[q]? = some a) : q ∈ List.range l.length :=
  List.mem_range.mpr (lt_of_getElem?_some h)

theorem _root_.Ddo.finalize_bestValue (cfg : Cfg S K) (b : Built S K) (e : Bool) : (finalize cfg b e).1.bestValue = b.bestValue := rfl

theorem _root_.Ddo.terminals_finalizeLayers (dd : DD S K) : (finalizeLayers dd).terminals = dd.next := by
  unfold finalizeLayers Built.terminals
  by_cases h : dd.next.isEmpty = true
  · simp only [h, if_true]
    exact (List.isEmpty_iff.1 h).symm
  · have h' : dd.next.isEmpty = false := by simpa using h
    simp only [h', Bool.false_eq_true, if_false, List.getElem?_concat_length, Option.getD_some]


theorem _root_.Ddo.compile_ok (cfg : Cfg S K) (cache : Cache S) (store : DomStore S K) (polls : Nat) (stopAt : Option Nat)
    (h : (compile cfg cache store polls stopAt).1 = .ok) :
    (buildLoop cfg stopAt (cfg.P.nbVars + 2) (initDD cfg cache store polls)).2 = .ok ∧
    (compile cfg cache store polls stopAt).2.2.2 = (buildLoop cfg stopAt (cfg.P.nbVars + 2) (initDD cfg cache store polls)).1 ∧
    (compile cfg cache store polls stopAt).2.1 =
      (finalize cfg (finalizeLayers (buildLoop cfg stopAt (cfg.P.nbVars + 2) (initDD cfg cache store polls)).1)
        ((finalizeLayers (buildLoop cfg stopAt (cfg.P.nbVars + 2) (initDD cfg cache store polls)).1).ebpMust
          (cfg.ctype == .relaxed))).1 := by
  unfold compile at h ⊢
  generalize buildLoop cfg stopAt (cfg.P.nbVars + 2) (initDD cfg cache store polls) = bl at h ⊢
  obtain ⟨dd, oc⟩ := bl
  dsimp only at h ⊢
  cases oc
  · exact ⟨rfl, rfl, rfl⟩
  · cases h
  · cases h

theorem finalize_bestValue (cfg : Cfg S K) (b : Built S K) (e : Bool) :
    (finalize cfg b e).1.bestValue = b.bestValue := by
  rfl

theorem maxValue_fold_ge (l : List (Node S)) (m : Int) :
    ∃ bv, l.foldl (fun acc n => match acc with | none => some n.value | some m => some (max m n.value)) (some m) = some bv ∧
      m ≤ bv ∧ ∀ n ∈ l, n.value ≤ bv := by
  induction l generalizing m with
  | nil => exact ⟨m, rfl, Int.le_refl _, fun n hn => by cases hn⟩
  | cons x xs ih =>
    rw [List.foldl_cons]
    obtain ⟨bv, h1, h2, h3⟩ := ih (max m x.value)
    refine ⟨bv, h1, by omega, fun n hn => ?_⟩
    rcases List.mem_cons.mp hn with rfl | hn
    · omega
    · exact h3 n hn

theorem maxValue_ge (l : List (Node S)) (n : Node S) (hn : n ∈ l) : ∃ bv, maxValue l = some bv ∧ n.value ≤ bv := by
  unfold maxValue
  cases l with
  | nil => cases hn
  | cons x xs =>
    rw [List.foldl_cons]
    obtain ⟨bv, h1, h2, h3⟩ := maxValue_fold_ge xs x.value
    refine ⟨bv, h1, ?_⟩
    rcases List.mem_cons.mp hn with rfl | hn
    · exact h2
    · exact h3 n hn

theorem terminals_finalize (dd : DD S K) (hne : dd.next ≠ []) : (finalizeLayers dd).terminals = dd.next :=
  terminals_finalizeLayers dd

theorem compile_ok (cfg : Cfg S K) (cache : Cache S) (store : DomStore S K) (polls : Nat)
    (h : (compile cfg cache store polls none).1 = .ok) :
    (buildLoop cfg none (cfg.P.nbVars + 2) (initDD cfg cache store polls)).2 = .ok ∧
    (compile cfg cache store polls none).2.1.bestValue =
      (finalizeLayers (buildLoop cfg none (cfg.P.nbVars + 2) (initDD cfg cache store polls)).1).bestValue :=
  ⟨(Ddo.compile_ok cfg cache store polls none h).1, by rw [(Ddo.compile_ok cfg cache store polls none h).2.2]; rfl⟩

/-- `squash` does not panic: width ≥ 1 and at most one node in the first layer -/
theorem squash_ne_none' (cfg : Cfg S K) (dd : DD S K) (layer : List (Node S)) (cur : List Nat) (hW : 1 ≤ cfg.width)
    (hJ : dd.layers = [] → cur.length ≤ 1) : squash cfg dd layer cur ≠ none := by
  unfold squash
  have h1 : (cfg.width == 0) = false := by
    cases h : cfg.width with
    | zero => omega
    | succ n => rfl
  have h2 : ((cfg.ctype == .restricted && decide (cur.length > cfg.width)) && dd.layers.isEmpty) = false := by
    cases hl : dd.layers with
    | nil =>
      have := hJ hl
      have h3 : decide (cur.length > cfg.width) = false := decide_eq_false (by omega)
      rw [h3]; simp
    | cons _ _ => simp
  simp only [h1, h2, Bool.and_false, Bool.false_eq_true, if_false]
  -- whatever the two tests answer, the three remaining branches return `some _`
  generalize (cfg.ctype == .restricted && decide (cur.length > cfg.width)) = b1
  generalize (cfg.ctype == .relaxed && decide (cur.length > cfg.width) && decide (dd.layers.length > 1)) = b2
  cases b1 <;> cases b2 <;> exact fun h => nomatch h

end Ddo.Cover
