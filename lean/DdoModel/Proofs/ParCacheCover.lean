import DdoModel.Proofs.ParCacheSys
import DdoModel.Proofs.ParCacheTheta
import DdoModel.Proofs.SeqCacheDedup
import DdoModel.Proofs.ParSysInv
/-! # The parallel caching solver — the coverage invariant `KPInv`: what a cached threshold promises, and the transfer principle

Setting as in `Proofs/SeqCache.lean`: `H` the potential, `optOf H c` the potential of a sub-problem, `opt` the optimum, `Sol`
feasibility, `Rg` the magnitudes.  The system is `Proofs/ParCacheSys.lean`; its compilations are constrained by the
*contracts* `OkRc` / `OkXc` (the contract `CompC` of the sequential proof relative to the **virtual** cache the compilation
read and the **stale** incumbent the worker read, the strict threshold contract `ThetaStrict` of `Proofs/ParCacheTheta.lean`,
and `fresh1`).

* `Beats s x`: `x` beats the incumbent **and every exact value a worker has found and not yet published** (the thresholds
  of a compilation are written *before* its `maybe_update_best`).
* `Live s x d`: the potential `x` is carried at depth `≥ d` — by a fringe node the cache does not refuse, by a node **in the
  hand of a worker** (popped and kept, whatever the cache says now: its own pop-time write refuses it), or by a node of the
  **pending cut-set** of a finished relaxed compilation (not yet enqueued) the cache does not refuse.
* `Jst s (st, d, θ)`: the threshold is *justified*: whatever it prunes and `Beats` is `Live` at depth `≥ d`.
* `UbOk s c`: the potential of `c`, if it `Beats`, is below the bound of `c` or `Live` strictly deeper than `c`.

`KPInv`: the optimum is `Live` at depth 0 if it `Beats`; **every entry the shared cache ever held (`log`) is justified now**
(justification is monotone in time: that is what makes a read of an old value, a new value, or a value cleared since, equally
sound); every prunable node (fringe, pending cut-sets) and every node just popped is `UbOk`; what the workers carry
(`WOk`: the contracts, staleness `lb ≤ best_lb`, the entries of the virtual cache come from the log).

The transfer principle (`tp_of_local`): to show that every `Live` fact survives a step it is enough to show that every
*witness* either survives or is dominated by something `Live` **strictly deeper** before the step (induction on the depth,
which is bounded: `live_depth_bound`). -/
set_option linter.unusedSectionVars false
set_option linter.unusedVariables false
namespace Ddo.ParCache
open Ddo Ddo.C09 Ddo.ParSys Ddo.Theta
variable {S : Type} [DecidableEq S]

/-- the pop-time rule on one threshold -/
def prunBy (t : Thr) (v : Int) : Prop := v < t.value ∨ (v = t.value ∧ t.explored = true)

theorem prunBy_mono {a b : Thr} (h : Thr.le a b) {v : Int} (hp : prunBy a v) : prunBy b v := by
  unfold Thr.le at h
  unfold prunBy at *
  rcases h with h | ⟨h1, h2⟩
  · rcases hp with hp | ⟨hp, _⟩
    · exact .inl (by omega)
    · exact .inl (by omega)
  · rcases hp with hp | ⟨hp, he⟩
    · exact .inl (by omega)
    · exact .inr ⟨by omega, h2 he⟩

theorem prunM_iff_by (T : CView S) (c : SubP S) : prunM T c ↔ ∃ t, T c.state c.depth = some t ∧ prunBy t c.value := Iff.rfl

theorem upd_cell (T : CView S) (u : Up S) : (T.upd u) u.1 u.2.1 = updCell (T u.1 u.2.1) (upThr u) := by
  unfold CView.upd upThr
  simp

theorem upd_other (T : CView S) (u : Up S) (s : S) (d : Nat) (h : ¬ (d = u.2.1 ∧ s = u.1)) : (T.upd u) s d = T s d := by
  unfold CView.upd
  rw [if_neg h]

theorem upd_cell_ge (T : CView S) (u : Up S) : ∃ t', (T.upd u) u.1 u.2.1 = some t' ∧ Thr.le (upThr u) t' ∧
    (∀ t, T u.1 u.2.1 = some t → Thr.le t t') ∧ (t' = upThr u ∨ T u.1 u.2.1 = some t') := by
  rw [upd_cell]
  cases hT : T u.1 u.2.1 with
  | none => exact ⟨upThr u, rfl, Thr.le_refl _, (fun t ht => by cases ht), .inl rfl⟩
  | some e =>
    refine ⟨Thr.join (upThr u) e, rfl, Thr.le_join_left _ _, (fun t ht => by cases ht; exact Thr.le_join_right _ _), ?_⟩
    unfold Thr.join
    split
    · exact .inr rfl
    · exact .inl rfl

theorem prunM_upd_mono (T : CView S) (u : Up S) (c : SubP S) (h : prunM T c) : prunM (T.upd u) c := by
  obtain ⟨t, ht, hp⟩ := h
  by_cases hc : c.depth = u.2.1 ∧ c.state = u.1
  · obtain ⟨t', ht', _, hold, _⟩ := upd_cell_ge T u
    rw [← hc.1, ← hc.2] at ht' hold
    exact ⟨t', ht', prunBy_mono (hold t ht) hp⟩
  · exact ⟨t, by rw [upd_other T u _ _ hc]; exact ht, hp⟩

theorem prunM_upd_new (T : CView S) (u : Up S) (c : SubP S) (hn : ¬ prunM T c) (hp : prunM (T.upd u) c) :
    u.1 = c.state ∧ u.2.1 = c.depth ∧ prunBy (upThr u) c.value ∧ (T.upd u) c.state c.depth = some (upThr u) := by
  obtain ⟨t, ht, hpb⟩ := hp
  by_cases hc : c.depth = u.2.1 ∧ c.state = u.1
  · obtain ⟨t', ht', _, _, hor⟩ := upd_cell_ge T u
    rw [← hc.1, ← hc.2] at ht' hor
    rw [ht] at ht'
    cases ht'
    rcases hor with e | e
    · subst e; exact ⟨hc.2.symm, hc.1.symm, hpb, ht⟩
    · exact absurd ⟨t, e, hpb⟩ hn
  · rw [upd_other T u _ _ hc] at ht
    exact absurd ⟨t, ht, hpb⟩ hn

theorem not_prun_of_cell (T : CView S) (c : SubP S) (t : Thr) (hT : T c.state c.depth = some t) (h : ¬ prunBy t c.value) :
    ¬ prunM T c := by
  rintro ⟨t', ht', hp⟩
  rw [hT] at ht'; cases ht'
  exact h hp

section
variable (H : Nat → S → EInt) (opt : Int) (Sol : List Dec → Int → Prop) (Rg : Nat → Int → Prop)

def Carries (c : SubP S) (x : Int) (d : Nat) : Prop := d ≤ c.depth ∧ ∃ y, optOf H c = some y ∧ x ≤ y

theorem Carries.mono {c : SubP S} {x x' : Int} {d d' : Nat} (h : Carries H c x d) (hx : x' ≤ x) (hd : d' ≤ d) :
    Carries H c x' d' := by
  obtain ⟨h1, y, hy, h2⟩ := h
  exact ⟨by omega, y, hy, by omega⟩

theorem carries_cell {c n : SubP S} {x : Int} {d : Nat} (h : Carries H c x d) (hs : n.state = c.state) (hd : n.depth = c.depth)
    (hv : c.value ≤ n.value) : Carries H n x d := by
  obtain ⟨h1, y, hy, h2⟩ := h
  obtain ⟨hh, hH, hyh⟩ := optOf_some H c y hy
  refine ⟨by omega, n.value + hh, ?_, by omega⟩
  unfold optOf EInt.addI
  rw [hd, hs, hH]
  simp only [Option.map_some]
  congr 1
  omega

/-- carried by what worker `w` holds: the node in hand, or a node of its pending cut-set the cache does not refuse -/
def WLive (T : CView S) (w : KW S) (x : Int) (d : Nat) : Prop :=
  (∃ n, w.openNode = some n ∧ Carries H n x d) ∨ (∃ c ∈ w.pendCut, Carries H c x d ∧ ¬ prunM T c)

def LiveC (F : List (SubP S)) (T : CView S) (ws : List (KW S)) (x : Int) (d : Nat) : Prop :=
  (∃ c ∈ F, Carries H c x d ∧ ¬ prunM T c) ∨ ∃ (j : Nat) (w : KW S), ws[j]? = some w ∧ WLive H T w x d

def Live (s : KSys S) (x : Int) (d : Nat) : Prop := LiveC H s.crit.base.fringe (viewOf s.cache) s.ws x d

def BeatsC (lb : Int) (ws : List (KW S)) (x : Int) : Prop :=
  lb < x ∧ ∀ (j : Nat) (w : KW S) (v : Int), ws[j]? = some w → w.pendVal = some v → v < x

def Beats (s : KSys S) (x : Int) : Prop := BeatsC s.crit.base.bestLb s.ws x

theorem BeatsC.up {lb : Int} {ws : List (KW S)} {x x' : Int} (h : BeatsC lb ws x) (hx : x ≤ x') : BeatsC lb ws x' :=
  ⟨by have := h.1; omega, fun j w v hw hv => by have := h.2 j w v hw hv; omega⟩

theorem BeatsC.bk_lt {lb0 lb : Int} {ws : List (KW S)} {x : Int} (h : BeatsC lb0 ws x) {i : Nat} {w : KW S} {be : Option Int}
    (hw : ws[i]? = some w) (hpv : w.pendVal = be) (hlb : lb ≤ lb0) : bkOf lb be < x := by
  have h1 := h.1
  unfold bkOf
  cases hbe : be with
  | none => dsimp only; omega
  | some v => have := h.2 i w v hw (hpv.trans hbe); dsimp only; omega

theorem WLive.mono {T : CView S} {w : KW S} {x x' : Int} {d d' : Nat} (h : WLive H T w x d) (hx : x' ≤ x) (hd : d' ≤ d) :
    WLive H T w x' d' := by
  rcases h with ⟨n, hn, hc⟩ | ⟨c, hc, hcc, hp⟩
  · exact .inl ⟨n, hn, hc.mono H hx hd⟩
  · exact .inr ⟨c, hc, hcc.mono H hx hd, hp⟩

theorem LiveC.mono {F : List (SubP S)} {T : CView S} {ws : List (KW S)} {x x' : Int} {d d' : Nat}
    (h : LiveC H F T ws x d) (hx : x' ≤ x) (hd : d' ≤ d) : LiveC H F T ws x' d' := by
  rcases h with ⟨c, hc, hcc, hp⟩ | ⟨j, w, hw, hl⟩
  · exact .inl ⟨c, hc, hcc.mono H hx hd, hp⟩
  · exact .inr ⟨j, w, hw, hl.mono H hx hd⟩

/-- the threshold `(st, d, θ)` is justified in `s` -/
def Jst (s : KSys S) (st : S) (d : Nat) (θ : Int) : Prop :=
  ∀ v h, Rg d v → v ≤ θ → H d st = some h → Beats s (v + h) → Live H s (v + h) d

/-- the bound of `c` is valid, up to what is carried strictly deeper -/
def UbOk (s : KSys S) (c : SubP S) : Prop :=
  ∀ y, optOf H c = some y → Beats s y → y ≤ c.ub ∨ Live H s y (c.depth + 1)

/-- what is known about a finished compilation that records thresholds: the contract `CompC` of the sequential proof
    relative to the virtual cache `cv` and the stale incumbent `lb`, the strict threshold contract, and `fresh1` -/
structure CompK (n : SubP S) (lb : Int) (cv : Cache S) (o : DDOut S) (ups : List (Up S)) : Prop where
  c : CompC H opt Sol Rg n lb (viewOf cv) o ups (bkOf lb o.bestExact)
  th : ThetaStrict H Rg (viewOf cv) o ups (bkOf lb o.bestExact)
  fresh1 : ∀ u ∈ ups, ∀ c ∈ o.cutset, c.ub > bkOf lb o.bestExact → ¬ prunM ((viewOf cv).upd u) c

/-- contract of a restricted compilation: sound; if exact, `CompK`; if not, it records nothing -/
def OkRc (n : SubP S) (lb : Int) (cv : Cache S) (o : DDOut S) (ups : List (Up S)) : Prop :=
  (∀ w, o.bestExact = some w → ∃ p, o.bestExactSol = some p ∧ Sol p w ∧ w ≤ opt) ∧
  (o.isExact = true → CompK H opt Sol Rg n lb cv o ups) ∧ (o.isExact = false → ups = [])

def OkXc (n : SubP S) (lb : Int) (cv : Cache S) (o : DDOut S) (ups : List (Up S)) : Prop :=
  CompK H opt Sol Rg n lb cv o ups

/-- every entry of the virtual cache was an entry of the shared cache -/
def CvOk (log : List (Cache S)) (cv : Cache S) : Prop :=
  ∀ st d t, viewOf cv st d = some t → ∃ c ∈ log, viewOf c st d = some t

theorem CvOk.mono {log log' : List (Cache S)} {cv : Cache S} (h : CvOk log cv) (hl : ∀ c ∈ log, c ∈ log') : CvOk log' cv :=
  fun st d t ht => by obtain ⟨c, hc, e⟩ := h st d t ht; exact ⟨c, hl c hc, e⟩

def WOk (lbNow : Int) (log : List (Cache S)) : KW S → Prop
  | .compR _ lb _ => lb ≤ lbNow
  | .compX _ lb _ => lb ≤ lbNow
  | .wrR n lb o cv ups todo => lb ≤ lbNow ∧ OkRc H opt Sol Rg n lb cv o ups ∧ (∀ u ∈ todo, u ∈ ups) ∧ CvOk log cv
  | .wrX n lb o cv ups todo => lb ≤ lbNow ∧ OkXc H opt Sol Rg n lb cv o ups ∧ (∀ u ∈ todo, u ∈ ups) ∧ CvOk log cv
  | .enq n lb o cv ups => lb ≤ lbNow ∧ OkXc H opt Sol Rg n lb cv o ups ∧ o.isExact = false ∧
      bkOf lb o.bestExact ≤ lbNow ∧ CvOk log cv
  | _ => True

theorem WOk.mono {lb lb' : Int} {log log' : List (Cache S)} (hlb : lb ≤ lb') (hl : ∀ c ∈ log, c ∈ log') {w : KW S}
    (h : WOk H opt Sol Rg lb log w) : WOk H opt Sol Rg lb' log' w := by
  cases w <;> simp only [WOk] at h ⊢
  · omega
  · exact ⟨by omega, h.2.1, h.2.2.1, h.2.2.2.mono hl⟩
  · omega
  · exact ⟨by omega, h.2.1, h.2.2.1, h.2.2.2.mono hl⟩
  · exact ⟨by omega, h.2.1, h.2.2.1, by omega, h.2.2.2.2.mono hl⟩

theorem wake_wok {lb : Int} {log : List (Cache S)} {w : KW S} (h : WOk H opt Sol Rg lb log w) :
    WOk H opt Sol Rg lb log w.wake :=
  (KW.wake_congr (WOk H opt Sol Rg lb log) rfl w).mpr h

/-- `c` can be refused by the cache: a fringe node or a node of a pending cut-set -/
def Prunable (s : KSys S) (c : SubP S) : Prop :=
  c ∈ s.crit.base.fringe ∨ ∃ (j : Nat) (w : KW S), s.ws[j]? = some w ∧ c ∈ w.pendCut

def Held (s : KSys S) (c : SubP S) : Prop := ∃ (j : Nat) (w : KW S), s.ws[j]? = some w ∧ w.openNode = some c

/-- just popped: the test `node.ub ≤ best_lb` of `process_one_node` is still ahead -/
def Fresh (s : KSys S) (c : SubP S) : Prop := ∃ j : Nat, s.ws[j]? = some (.gwW c) ∨ s.ws[j]? = some (.readR c)

structure KPInv (s : KSys S) : Prop where
  good : ∀ c, (Prunable s c ∨ Held s c) → Good (optOf H) opt c
  rng : ∀ c, Prunable s c → Rg c.depth c.value
  lbOk : s.crit.base.bestLb ≤ opt
  solOk : ∀ p, s.crit.base.bestSol = some p → Sol p s.crit.base.bestLb
  cur : s.cache ∈ s.log
  root : Beats s opt → Live H s opt 0
  jst : ∀ c ∈ s.log, ∀ st d t, viewOf c st d = some t → Jst H Rg s st d t.value
  ub : ∀ c, (Prunable s c ∨ Fresh s c) → UbOk H s c
  /-- between `gwKeep` and `gwTake` the kept node has the largest bound of the fringe (recorded; no other clause needs it:
      the best-first pop is only used by `gwStarve`) -/
  popmax : ∀ (j : Nat) (n : SubP S), s.ws[j]? = some (.gwW n) → ∀ c ∈ s.crit.base.fringe, c.ub ≤ n.ub
  wok : ∀ (j : Nat) (w : KW S), s.ws[j]? = some w → WOk H opt Sol Rg s.crit.base.bestLb s.log w
  doneOk : (∃ j : Nat, s.ws[j]? = some .done) → s.crit.base.bestLb = opt

theorem ws_depth_bound (ws : List (KW S)) : ∃ D, ∀ (j : Nat) (w : KW S), ws[j]? = some w →
    (∀ n, w.openNode = some n → n.depth ≤ D) ∧ ∀ c ∈ w.pendCut, c.depth ≤ D := by
  induction ws with
  | nil => exact ⟨0, fun j w h => by simp at h⟩
  | cons a ws ih =>
    obtain ⟨D, hD⟩ := ih
    obtain ⟨D1, hD1⟩ := depth_bound a.pendCut
    have hopen : ∃ D2, ∀ n, a.openNode = some n → n.depth ≤ D2 := by
      cases ho : a.openNode with
      | none => exact ⟨0, fun n hn => by cases hn⟩
      | some m => exact ⟨m.depth, fun n hn => by cases hn; exact Nat.le_refl _⟩
    obtain ⟨D2, hD2⟩ := hopen
    refine ⟨max D (max D1 D2), fun j w hw => ?_⟩
    cases j with
    | zero =>
      simp only [List.getElem?_cons_zero, Option.some.injEq] at hw
      subst hw
      exact ⟨fun n hn => by have := hD2 n hn; omega, fun c hc => by have := hD1 c hc; omega⟩
    | succ j =>
      simp only [List.getElem?_cons_succ] at hw
      obtain ⟨h1, h2⟩ := hD j w hw
      exact ⟨fun n hn => by have := h1 n hn; omega, fun c hc => by have := h2 c hc; omega⟩

theorem live_depth_bound (s : KSys S) : ∃ D, ∀ x d, Live H s x d → d ≤ D := by
  obtain ⟨D1, hD1⟩ := depth_bound s.crit.base.fringe
  obtain ⟨D2, hD2⟩ := ws_depth_bound s.ws
  refine ⟨max D1 D2, fun x d h => ?_⟩
  rcases h with ⟨c, hc, hcc, _⟩ | ⟨j, w, hw, ⟨n, hn, hcc⟩ | ⟨c, hc, hcc, _⟩⟩
  · have := hD1 c hc; have := hcc.1; omega
  · have := (hD2 j w hw).1 n hn; have := hcc.1; omega
  · have := (hD2 j w hw).2 c hc; have := hcc.1; omega

/-- **the transfer principle**: if every `Live` fact of `s` whose potential still beats in `t` either holds in `t` or is
    dominated by a `Live` fact of `s` strictly deeper, then every such fact holds in `t` -/
theorem tp_of_local {s t : KSys S}
    (hloc : ∀ x d, Beats t x → Live H s x d → Live H t x d ∨ ∃ x' d', x ≤ x' ∧ d < d' ∧ Live H s x' d') :
    ∀ x d, Beats t x → Live H s x d → Live H t x d := by
  obtain ⟨D, hD⟩ := live_depth_bound H s
  exact transfer_by_depth hD (fun _ _ hb hx => hb.up hx) (fun _ _ _ _ h hx hd => h.mono H hx hd) hloc

theorem Jst.transfer {s t : KSys S} (hB : ∀ x, Beats t x → Beats s x)
    (hT : ∀ x d, Beats t x → Live H s x d → Live H t x d) {st : S} {d : Nat} {θ : Int} (h : Jst H Rg s st d θ) :
    Jst H Rg t st d θ :=
  fun v hh hrg hv hH hb => hT _ _ hb (h v hh hrg hv hH (hB _ hb))

theorem UbOk.transfer {s t : KSys S} (hB : ∀ x, Beats t x → Beats s x)
    (hT : ∀ x d, Beats t x → Live H s x d → Live H t x d) {c : SubP S} (h : UbOk H s c) : UbOk H t c := by
  intro y hy hb
  rcases h y hy (hB _ hb) with h1 | h1
  · exact .inl h1
  · exact .inr (hT _ _ hb h1)

theorem cov_live {s : KSys S} (hI : KPInv H opt Sol Rg s) {cv : Cache S} (hcv : CvOk s.log cv) {d : Nat} {x : Int}
    (hc : CacheCov H Rg (viewOf cv) d x) (hb : Beats s x) : ∃ x' d', x ≤ x' ∧ d < d' ∧ Live H s x' d' := by
  obtain ⟨st, d', t, v, h, hT, hdd, hrg, hvt, hH, hle⟩ := hc
  obtain ⟨c, hc, hTc⟩ := hcv st d' t hT
  exact ⟨v + h, d', hle, hdd, hI.jst c hc st d' t hTc v h hrg hvt hH (hb.up hle)⟩

/-- the potential of a prunable node, if it beats, is carried at its depth: by itself, or — if the cache refuses it — by
    what justifies the entry that refuses it -/
theorem prunable_live {s : KSys S} (hI : KPInv H opt Sol Rg s) {c : SubP S} (hc : Prunable s c) {y : Int}
    (hy : optOf H c = some y) (hb : Beats s y) : Live H s y c.depth := by
  by_cases hp : prunM (viewOf s.cache) c
  · obtain ⟨t, ht, hpb⟩ := hp
    obtain ⟨hh, hH, hyh⟩ := optOf_some H c y hy
    have := hI.jst s.cache hI.cur c.state c.depth t ht c.value hh (hI.rng c hc)
      (by rcases hpb with h | ⟨h, _⟩ <;> omega) hH (by rw [← hyh]; exact hb)
    rw [← hyh] at this
    exact this
  · rcases hc with hc | ⟨j, w, hw, hc⟩
    · exact .inl ⟨c, hc, ⟨Nat.le_refl _, y, hy, Int.le_refl _⟩, hp⟩
    · exact .inr ⟨j, w, hw, .inr ⟨c, hc, ⟨Nat.le_refl _, y, hy, Int.le_refl _⟩, hp⟩⟩

end
end Ddo.ParCache
