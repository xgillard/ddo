import DdoModel.Proofs.CacheClosedDefs
import DdoModel.Proofs.DomSound
/-! C10c (cache **and** dominance) — **the concrete sequential solver with both pruning mechanisms enabled**:
`SequentialSolver` with `SimpleCache` and `SimpleDominanceChecker` (`NoCutoff`) over the diagram model.  This is what
`DefaultCachingSolver` and the knapsack / alp / tsptw / lcs examples actually run.

The definitions mirror `Ddo.C01.SolverCfg.kprocess` / `kturn` / `KStep` / `KRun` / `ksolveLoop` of
`Proofs/CacheClosedDefs.lean` (the caching solver) and `Ddo.C10.DSolverCfg` of `Proofs/DomSound.lean` (the shared store
threaded out of each compilation) **exactly**; the only difference is the `CompilationInput`: ONE input with
`useCache := true` and `dom := some D` (`DSolverCfg.kdcfg`), compiled from the current cache *and* the current store.

One turn (`DSolverCfg.kdturn`, the popped node `N` / the rest of the fringe being an input):

1. `get_workload`: the cache-cleaning loop (`cleanLoop` / `cleanCache`: only the *cache* has layers cleared, the checker is
   never cleared by the sequential solver), the pop, `afterPop`;
2. `process_one_node(N)`: `node.ub ≤ best_lb` → skip; `must_explore(N)` (read-only) → skip if refused; restricted compilation
   consulting cache and store, its `update_threshold` calls replayed in call order, `maybe_update_best`; if it is not exact the
   relaxed compilation consulting the *updated* cache and the store *left by the restricted compilation*, its updates,
   `maybe_update_best`, `enqueue_cutset`.

`none` = a panic (index out of range in the cache or in the checker) or a compilation that does not end normally. -/
set_option linter.unusedSectionVars false
set_option linter.unusedVariables false
namespace Ddo.C10c
open Ddo Ddo.C01 Ddo.Closed Ddo.C09 Ddo.C10
variable {S K : Type} [DecidableEq S] [DecidableEq K]

/-- the `CompilationInput` of `process_one_node` for the node `N` with incumbent `lb`, **with** the cache and **with** the
    dominance checker -/
def _root_.Ddo.C10.DSolverCfg.kdcfg (dv : DSolverCfg S K) (ct : CompType) (N : SubP S) (lb : Int) : Cfg S K :=
  { P := dv.sv.P, R := dv.sv.R, rank := dv.sv.rank, dom := some dv.D, useCache := true, kind := dv.sv.kind, ctype := ct,
    width := dv.sv.width N, root := N, lb := lb }

/-- the restricted / relaxed compilation of `N` from the cache `cache` and the store `store` -/
def _root_.Ddo.C10.DSolverCfg.kdcompR (dv : DSolverCfg S K) (cache : Cache S) (store : DomStore S K) (N : SubP S) (lb : Int) :=
  compile (dv.kdcfg .restricted N lb) cache store 0 none
def _root_.Ddo.C10.DSolverCfg.kdcompX (dv : DSolverCfg S K) (cache : Cache S) (store : DomStore S K) (N : SubP S) (lb : Int) :=
  compile (dv.kdcfg .relaxed N lb) cache store 0 none

structure KDSt (S K : Type) where
  st : SeqSt S
  cache : Cache S
  store : DomStore S K

/-- `new` + `initialize`: the root on the fringe, `nb_variables + 1` empty cache layers, an empty checker -/
def KDSt.init (dv : DSolverCfg S K) : KDSt S K :=
  ⟨SeqSt.init dv.sv.P none dv.sv.dedup, Cache.init dv.sv.P.nbVars, DomStore.init dv.sv.P.nbVars⟩

/-- `process_one_node(N)` from the popped state `st` with the cache `c0` and the store `d0` -/
def _root_.Ddo.C10.DSolverCfg.kdprocess (dv : DSolverCfg S K) (st : SeqSt S) (c0 : Cache S) (d0 : DomStore S K) (N : SubP S) :
    Option (KDSt S K) :=
  if N.ub ≤ st.bestLb then some ⟨st, c0, d0⟩
  else
    match c0.mustExplore N.state N.depth N.value with
    | none => none
    | some false => some ⟨st, c0, d0⟩
    | some true =>
      let cR := dv.kdcompR c0 d0 N st.bestLb
      if cR.1 ≠ .ok then none
      else
        match applyUps c0 cR.2.1.cacheUpdates.reverse with
        | none => none
        | some c1 =>
          let st1 := st.updateBest (toOut cR.2.1)
          let d1 := cR.2.2.2.store
          if cR.2.1.isExact then some ⟨st1, c1, d1⟩
          else
            let cX := dv.kdcompX c1 d1 N st1.bestLb
            if cX.1 ≠ .ok then none
            else
              match applyUps c1 cX.2.1.cacheUpdates.reverse with
              | none => none
              | some c2 =>
                let st2 := st1.updateBest (toOut cX.2.1)
                let d2 := cX.2.2.2.store
                if cX.2.1.isExact then some ⟨st2, c2, d2⟩
                else some ⟨st2.enqueue dv.sv.dedup cX.2.1.cutset, c2, d2⟩

/-- one turn of the loop of `maximize`, `N` being the popped node and `rest` what is left in the fringe -/
def _root_.Ddo.C10.DSolverCfg.kdturn (dv : DSolverCfg S K) (s : KDSt S K) (N : SubP S) (rest : List (SubP S)) :
    Option (KDSt S K) :=
  match cleanCache dv.sv.P.nbVars s.st.openByLayer dv.sv.P.nbVars s.st.firstActive s.cache with
  | none => none
  | some c0 =>
    dv.kdprocess (popped s.st N rest (cleanLoop dv.sv.P.nbVars s.st.openByLayer dv.sv.P.nbVars s.st.firstActive)) c0 s.store N

/-- **one turn with a best-first pop** (largest upper bound, then largest value: `MaxUB`) -/
inductive KDStep (dv : DSolverCfg S K) : KDSt S K → KDSt S K → Prop
  | pop (s t : KDSt S K) (N : SubP S) (rest : List (SubP S))
      (hpop : s.st.fringe.Perm (N :: rest))
      (hmax : ∀ c ∈ rest, c.ub < N.ub ∨ (c.ub = N.ub ∧ c.value ≤ N.value))
      (hturn : dv.kdturn s N rest = some t) : KDStep dv s t

inductive KDRun (dv : DSolverCfg S K) : KDSt S K → KDSt S K → Prop
  | refl (s : KDSt S K) : KDRun dv s s
  | tail {s t u : KDSt S K} : KDRun dv s t → KDStep dv t u → KDRun dv s u

theorem KDRun.head {dv : DSolverCfg S K} {s t u : KDSt S K} (h1 : KDStep dv s t) (h2 : KDRun dv t u) : KDRun dv s u := by
  induction h2 with
  | refl => exact KDRun.tail (KDRun.refl _) h1
  | tail _ hstep ih => exact KDRun.tail ih hstep

/-- the loop of `maximize` as a function (deterministic best-first pop `popMax`); stops on the empty fringe, when the fuel
    runs out, or on a panic / abnormal end of a compilation -/
def _root_.Ddo.C10.DSolverCfg.kdsolveLoop (dv : DSolverCfg S K) : Nat → KDSt S K → KDSt S K
  | 0, s => s
  | n + 1, s =>
    match popMax s.st.fringe with
    | none => s
    | some (N, rest) =>
      match dv.kdturn s N rest with
      | none => s
      | some t => dv.kdsolveLoop n t

theorem kdsolveLoop_run (dv : DSolverCfg S K) : ∀ (n : Nat) (s : KDSt S K), KDRun dv s (dv.kdsolveLoop n s) := by
  intro n
  induction n with
  | zero => intro s; exact KDRun.refl s
  | succ n ih =>
    intro s
    unfold DSolverCfg.kdsolveLoop
    cases hp : popMax s.st.fringe with
    | none => exact KDRun.refl s
    | some Nr =>
      obtain ⟨N, rest⟩ := Nr
      obtain ⟨hpop, hmax⟩ := popMax_spec s.st.fringe N rest hp
      dsimp only
      cases ht : dv.kdturn s N rest with
      | none => exact KDRun.refl s
      | some t => exact KDRun.head (KDStep.pop s t N rest hpop hmax ht) (ih t)

/-- the loop with an explicit pop schedule (turn `j` pops the entry of index `sched[j]` of the fringe), for other
    resolutions of ties among maximal nodes; no theorem of the development uses it -/
def _root_.Ddo.C10.DSolverCfg.kdsolveSched (dv : DSolverCfg S K) : List Nat → KDSt S K → KDSt S K
  | [], s => s
  | i :: sched, s =>
    match popAt s.st.fringe i with
    | none => s
    | some (N, rest) =>
      match dv.kdturn s N rest with
      | none => s
      | some t => dv.kdsolveSched sched t

end Ddo.C10c
