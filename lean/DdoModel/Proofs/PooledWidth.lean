import DdoModel.Proofs.PooledLoop
import DdoModel.Proofs.MddWidth
/-! Width (C13) for the pooled diagram: the list handed to the expansion is within the width once two layers are materialised
(`squashCase_cur_le`, `BoundedNow`), the log grows accordingly (`stepLayerP_log`), and the loop invariant `WInv` bounds every entry of
`expanded` whose block comes after two materialised layers (`matBefore`, `BoundedP`; `buildLoopP_wpost`).  Statements: `Props/C13p.lean`. -/
set_option linter.unusedSectionVars false
set_option linter.unusedVariables false
namespace Ddo.Pooled
open Ddo
variable {S K : Type} [DecidableEq S] [DecidableEq K]

open Ddo.Width (Grows expandedRev expandedRev_cons expandedRev_grows isNextVar isDomain domCount)

theorem impLog_grows (pd : PD S K) (var : Nat) : Grows 0 pd.log (impLog pd var) := by
  rw [impLog_eq]
  refine ⟨_, rfl, fun c hc => ?_, ?_⟩
  · obtain ⟨n, _, rfl⟩ := List.mem_map.1 (List.mem_reverse.1 hc)
    rfl
  · unfold domCount
    rw [Nat.le_zero, List.countP_eq_zero]
    intro c hc
    obtain ⟨n, _, rfl⟩ := List.mem_map.1 (List.mem_reverse.1 hc)
    simp [isDomain]

/-- the layers C13 speaks about in the pooled diagram, in terms of the number `nl` of layers materialised so far -/
def BoundedNow (cfg : Cfg S K) (nl : Nat) : Prop := cfg.ctype = .restricted ∨ (cfg.ctype = .relaxed ∧ 2 ≤ nl)

theorem squashCase_cur_le (cfg : Cfg S K) (plain : List (List (Node S))) (nl : Nat) (ief0 : Bool)
    (fd : List (Node S) × List Nat × DomStore S K × Bool) (log0 : List (Call S))
    (layer : List (Node S)) (cur : List Nat) (ief : Bool) (log : List (Call S))
    (h : SquashCase cfg plain nl ief0 fd log0 layer cur ief log) (hb : BoundedNow cfg nl) : cur.length ≤ cfg.width := by
  cases h with
  | restrict _ _ _ hc _ _ => rw [hc]; exact Width.restrict_cur_le_width cfg _ _
  | relax _ hlen _ hW _ hc _ _ => rw [hc]; exact Width.relax_cur_le_width cfg _ _ _ _ hW hlen
  | keep h1 h2 _ hc _ _ =>
    rw [hc]
    rcases hb with hb | ⟨hb, hn⟩
    · rcases Nat.lt_or_ge cfg.width fd.2.1.length with h' | h'
      · exact absurd ⟨hb, h'⟩ h1
      · exact h'
    · rcases Nat.lt_or_ge cfg.width fd.2.1.length with h' | h'
      · exact absurd ⟨hb, h', hn⟩ h2
      · exact h'

theorem squashCase_grows (cfg : Cfg S K) (plain : List (List (Node S))) (nl : Nat) (ief0 : Bool)
    (fd : List (Node S) × List Nat × DomStore S K × Bool) (log0 : List (Call S))
    (layer : List (Node S)) (cur : List Nat) (ief : Bool) (log : List (Call S))
    (h : SquashCase cfg plain nl ief0 fd log0 layer cur ief log) : Grows 0 log0 log := by
  cases h with
  | restrict _ _ _ _ hl _ => rw [hl]; exact Grows.refl _
  | relax _ _ _ _ _ _ hl _ => rw [hl]; exact Width.relaxLayer_grows cfg _ _ _ _
  | keep _ _ _ _ hl _ => rw [hl]; exact Grows.refl _

theorem stepLayerP_log (cfg : Cfg S K) (pd pd' : PD S K) (var : Nat) (h : stepLayerP cfg pd var = some pd') :
    ∃ k, Grows k pd.log pd'.log ∧ (BoundedNow cfg pd.layers.length → k ≤ cfg.width) := by
  obtain ⟨layer, cur, ief, log, hs⟩ := stepLayerP_elim cfg pd pd' var h
  refine ⟨cur.length, ?_, fun hb => squashCase_cur_le cfg _ _ _ _ _ _ _ _ _ hs.sq hb⟩
  rw [hs.log]
  have h1 := impLog_grows pd var
  have h2 := squashCase_grows cfg _ _ _ _ _ _ _ _ _ hs.sq
  have h3 := Width.fold_grows cfg var pd.layers.length cur (layer, restNodes cfg pd var, log)
  exact ((h1.trans h2).trans h3).mono (by rw [Nat.zero_add]; exact Nat.le_refl _)

/-- number of layers materialised at a depth smaller than `d` -/
def matBefore (layers : List (Nat × List (Node S))) (d : Nat) : Nat :=
  (layers.filter (fun l => decide (l.1 < d))).length

/-- the layers (blocks) C13 speaks about in a pooled compilation: all of them when restricted; when relaxed, block `i`
    (the one opened by the `i`-th `next_variable` call, at depth `root.depth + i`) provided at least two layers were
    materialised before it -/
def BoundedP (cfg : Cfg S K) (layers : List (Nat × List (Node S))) (i : Nat) : Prop :=
  cfg.ctype = .restricted ∨ (cfg.ctype = .relaxed ∧ 2 ≤ matBefore layers (cfg.root.depth + i))

theorem matBefore_append_ge (layers : List (Nat × List (Node S))) (dp : Nat) (ly : List (Node S)) (d : Nat) (h : d ≤ dp) :
    matBefore (layers ++ [(dp, ly)]) d = matBefore layers d := by
  unfold matBefore
  rw [List.filter_append, List.length_append]
  have : decide (dp < d) = false := by simpa using h
  simp [this]

theorem matBefore_all (layers : List (Nat × List (Node S))) (d : Nat) (h : ∀ l ∈ layers, l.1 < d) :
    matBefore layers d = layers.length := by
  unfold matBefore
  rw [List.filter_eq_self.2]
  intro l hl
  simpa using h l hl

theorem matBefore_le (layers : List (Nat × List (Node S))) (d : Nat) : matBefore layers d ≤ layers.length :=
  List.length_filter_le _ _

theorem ok_extend (cfg : Cfg S K) (E : List Nat) (layers layers' : List (Nat × List (Node S))) (d : Nat)
    (hold : ∀ i x, E.reverse[i]? = some x → BoundedP cfg layers i → x ≤ cfg.width)
    (hmat : ∀ i, i < E.length → BoundedP cfg layers' i → BoundedP cfg layers i)
    (hnew : BoundedP cfg layers' E.length → d ≤ cfg.width) :
    ∀ i x, (d :: E).reverse[i]? = some x → BoundedP cfg layers' i → x ≤ cfg.width := by
  intro i x hi hb
  rw [List.reverse_cons] at hi
  by_cases hlt : i < E.length
  · rw [List.getElem?_append_left (by simpa using hlt)] at hi
    exact hold i x hi (hmat i hlt hb)
  · rw [List.getElem?_append_right (by simpa using hlt)] at hi
    simp only [List.length_reverse] at hi
    have h0 : i - E.length = 0 := by
      rcases Nat.eq_zero_or_pos (i - E.length) with h0 | h0
      · exact h0
      · rw [List.getElem?_eq_none (by simp only [List.length_singleton]; exact h0)] at hi; cases hi
    rw [h0] at hi
    simp only [List.getElem?_cons_zero, Option.some.injEq] at hi
    subst hi
    have : i = E.length := Nat.le_antisymm (Nat.le_of_sub_eq_zero h0) (Nat.le_of_not_lt hlt)
    subst this
    exact hnew hb

structure WInv (cfg : Cfg S K) (pd : PD S K) : Prop where
  depth : pd.depth = cfg.root.depth + (expandedRev pd.log).length
  lay : ∀ l ∈ pd.layers, l.1 < pd.depth
  ok : ∀ i x, (expandedRev pd.log).reverse[i]? = some x → BoundedP cfg pd.layers i → x ≤ cfg.width

/-- what the loop guarantees at its exit (the depth is not advanced by the last, incomplete, iteration) -/
structure WPost (cfg : Cfg S K) (pd : PD S K) : Prop where
  len : (expandedRev pd.log).length ≤ (pd.depth - cfg.root.depth) + 1
  ok : ∀ i x, (expandedRev pd.log).reverse[i]? = some x → BoundedP cfg pd.layers i → x ≤ cfg.width

theorem WInv.post {cfg : Cfg S K} {pd : PD S K} (h : WInv cfg pd) : WPost cfg pd :=
  ⟨by rw [h.depth, Nat.add_sub_cancel_left]; exact Nat.le_succ _, h.ok⟩

theorem WInv.stop {cfg : Cfg S K} {pd pd2 : PD S K} (h : WInv cfg pd) (dp : Nat) (sts : List S) (ans : Option Nat)
    (hl : pd2.layers = pd.layers) (hd : pd2.depth = pd.depth) (hlog : pd2.log = Call.nextVar dp sts ans :: pd.log) :
    WPost cfg pd2 := by
  refine ⟨?_, ?_⟩
  · rw [hlog, expandedRev_cons, hd, h.depth]
    show (0 :: expandedRev pd.log).length ≤ _
    rw [List.length_cons, Nat.add_sub_cancel_left]; exact Nat.le_refl _
  · rw [hlog, expandedRev_cons, hl]
    exact ok_extend cfg _ pd.layers pd.layers 0 h.ok (fun _ _ hb => hb) (fun _ => Nat.zero_le _)

theorem WInv.step {cfg : Cfg S K} {pd pd2 pd' : PD S K} (hI : WInv cfg pd) (var dp : Nat) (sts : List S) (ans : Option Nat)
    (hl : pd2.layers = pd.layers) (hd : pd2.depth = pd.depth) (hlog : pd2.log = Call.nextVar dp sts ans :: pd.log)
    (h : stepLayerP cfg pd2 var = some pd') : WInv cfg pd' := by
  obtain ⟨k, hg, hk⟩ := stepLayerP_log cfg pd2 pd' var h
  obtain ⟨layer, cur, ief, log, hs⟩ := stepLayerP_elim cfg pd2 pd' var h
  have hx : expandedRev pd2.log = 0 :: expandedRev pd.log := by rw [hlog, expandedRev_cons]; rfl
  obtain ⟨d, hdk, he⟩ := expandedRev_grows hg hx
  have hlay' : pd'.layers = pd.layers ∨ ∃ ly, pd'.layers = pd.layers ++ [(pd.depth, ly)] := by
    rw [hs.layers, hl, hd]
    split
    · exact .inl rfl
    · exact .inr ⟨_, rfl⟩
  refine ⟨?_, ?_, ?_⟩
  · rw [hs.depth, hd, hI.depth, he, List.length_cons]; rfl
  · intro l hlm
    rw [hs.depth, hd]
    rcases hlay' with e | ⟨ly, e⟩
    · rw [e] at hlm; exact Nat.lt_succ_of_lt (hI.lay l hlm)
    · rw [e] at hlm
      rcases List.mem_append.1 hlm with hlm | hlm
      · exact Nat.lt_succ_of_lt (hI.lay l hlm)
      · rw [List.mem_singleton] at hlm; subst hlm; exact Nat.lt_succ_self _
  · rw [he]
    refine ok_extend cfg _ pd.layers pd'.layers _ hI.ok (fun i hi hb => ?_) (fun hb => ?_)
    · rcases hlay' with e | ⟨ly, e⟩
      · rw [e] at hb; exact hb
      · rcases hb with hb | ⟨hb, hm⟩
        · exact .inl hb
        · refine .inr ⟨hb, ?_⟩
          rw [e, matBefore_append_ge _ _ _ _ (by rw [hI.depth]; exact Nat.add_le_add_left (Nat.le_of_lt hi) _)] at hm
          exact hm
    · have : d ≤ k := hdk
      refine Nat.le_trans (by rw [Nat.zero_add]; exact hdk) (hk ?_)
      rcases hb with hb | ⟨hb, hm⟩
      · exact .inl hb
      · refine .inr ⟨hb, ?_⟩
        rw [hl]
        rw [← hI.depth] at hm
        rcases hlay' with e | ⟨ly, e⟩
        · rw [e] at hm; exact Nat.le_trans hm (matBefore_le _ _)
        · rw [e, matBefore_append_ge _ _ _ _ (Nat.le_refl _)] at hm
          exact Nat.le_trans hm (matBefore_le _ _)

theorem buildLoopP_wpost (cfg : Cfg S K) (stopAt : Option Nat) :
    ∀ (fuel : Nat) (pd : PD S K), WInv cfg pd → WPost cfg (buildLoopP cfg stopAt fuel pd).1 := by
  intro fuel
  induction fuel with
  | zero => intro pd hI; unfold buildLoopP; exact hI.post
  | succ fuel ih =>
    intro pd hI
    cases buildLoopP_cases cfg stopAt fuel pd with
    | none _ hb => rw [hb]; exact hI.stop _ _ _ rfl rfl rfl
    | cutoff _ _ hb => rw [hb]; exact hI.stop _ _ _ rfl rfl rfl
    | empty _ _ _ hb => rw [hb]; exact hI.stop _ _ _ rfl rfl rfl
    | crash _ _ _ hb => rw [hb]; exact hI.stop _ _ _ rfl rfl rfl
    | step var pd' _ _ hst hb => rw [hb]; exact ih pd' (hI.step (pd2 := polled cfg pd) var _ _ _ rfl rfl rfl hst)

theorem initPD_winv (cfg : Cfg S K) (cache : Cache S) (store : DomStore S K) (polls : Nat) :
    WInv cfg (initPD cfg cache store polls) :=
  ⟨rfl, (fun l hl => by cases hl), (fun i x hi => by
    have : (expandedRev (initPD cfg cache store polls).log).reverse = [] := rfl
    rw [this] at hi; cases hi)⟩

theorem finalizeP_expanded (cfg : Cfg S K) (pd : PD S K) (e : Bool) :
    (finalizeP cfg pd e).expanded = (expandedRev pd.log).reverse := rfl

end Ddo.Pooled
