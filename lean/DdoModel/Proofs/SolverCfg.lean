import DdoModel.Proofs.Closed
import DdoModel.Props.C08b
/-! The concrete sequential solver over the diagram model, as every closed theorem of the development reads it: its parameters
(`SolverCfg`: problem, relaxation, ranking, width heuristic, cut-set kind, fringe kind) and the compilations they configure, the popped state
(`popped`), one turn (`SolverCfg.turn`) and the best-first step relation (`CStep`, `CRun`); the hypothesis bundle `WellFormed`; the invariants
`NodeOk`, `CInvAt` / `CInv` (the loop invariant) and `LInv` (the `open_by_layer` bookkeeping); and the few facts about them that the solver
variants (cache, dominance checker, parallel, cut-off) share.  The closed theorem itself: `Props/C01d.lean`. -/
set_option linter.unusedSectionVars false
set_option linter.unusedVariables false
namespace Ddo.C01
open Ddo Ddo.Truth Ddo.Closed
variable {S : Type} [DecidableEq S]

theorem cutsetOk_relaxed {K : Type} [DecidableEq K] (cfg : Cfg S K) (H : Nat → S → EInt) (B opt : Int) (p0 : List Dec)
    (cache : Cache S) (store : DomStore S K) (polls : Nat) (stopAt : Option Nat)
    (hrel : cfg.ctype = .relaxed) (hcache : cfg.useCache = false) (hdom : cfg.dom = none) (hW : 1 ≤ cfg.width)
    (hP : Potential cfg.P H) (hR : RubOk cfg.R H) (hM : MergeOk cfg.R H) (hAM : Cover.AttMerge cfg.P cfg.R H)
    (hB : NoClamp cfg.P cfg.R cfg.root.value B) (hlb : InI cfg.lb) (hlb' : cfg.lb < iMax)
    (hroot : Reach cfg.P cfg.root.depth cfg.root.state cfg.root.value p0)
    (hopt : (H 0 cfg.P.init).addI cfg.P.initVal = some opt)
    (hok : (compile cfg cache store polls stopAt).1 = .ok) (r : Result S)
    (hr : r = (compile cfg cache store polls stopAt).2.1 ∨ (compile cfg cache store polls stopAt).2.2.1 = some r) :
    CutsetOk (optOf H) opt cfg.root cfg.lb (toOut r) :=
  ⟨cutset_good cfg H B opt p0 cache store polls stopAt hP hB hroot hopt hok r hr,
   fun c hc x hx hgt => C08.cutset_ub_valid cfg H B p0 cache store polls stopAt hrel hcache hdom hW hP hR hM hAM hB hlb hroot
     hok r hr c hc x hx hgt,
   fun x hx hgt hbe => C08.cutset_cover cfg H B p0 cache store polls stopAt hrel hcache hdom hW hP hR hM hAM hB hlb hroot x hx
     hgt (Or.inr hlb') hok r hr hbe,
   cutset_sub cfg H B p0 cache store polls stopAt hP hB hroot hok r hr⟩

/-- the parameters of a run of `SequentialSolver` with `EmptyCache`, `EmptyDominanceChecker`, `NoCutoff` -/
structure SolverCfg (S : Type) where
  P : Problem S
  R : Relax S
  rank : Ranking S
  /-- `WidthHeuristic::max_width` -/
  width : SubP S → Nat
  kind : CutsetKind
  /-- `true` = `NoDupFringe`, `false` = `SimpleFringe` -/
  dedup : Bool

/-- the `CompilationInput` of `process_one_node` for the node `N` with incumbent `lb` -/
def SolverCfg.cfg (sv : SolverCfg S) (ct : CompType) (N : SubP S) (lb : Int) : Cfg S Unit :=
  { P := sv.P, R := sv.R, rank := sv.rank, dom := none, useCache := false, kind := sv.kind, ctype := ct,
    width := sv.width N, root := N, lb := lb }

def SolverCfg.outR (sv : SolverCfg S) (cache : Cache S) (store : DomStore S Unit) (polls : Nat) (N : SubP S) (lb : Int) : Outcome :=
  (compile (sv.cfg .restricted N lb) cache store polls none).1
def SolverCfg.resR (sv : SolverCfg S) (cache : Cache S) (store : DomStore S Unit) (polls : Nat) (N : SubP S) (lb : Int) : Result S :=
  (compile (sv.cfg .restricted N lb) cache store polls none).2.1
/-- outcome / result (`must`) of the relaxed compilation of `N` (diagram model) -/
def SolverCfg.outX (sv : SolverCfg S) (cache : Cache S) (store : DomStore S Unit) (polls : Nat) (N : SubP S) (lb : Int) : Outcome :=
  (compile (sv.cfg .relaxed N lb) cache store polls none).1
def SolverCfg.resX (sv : SolverCfg S) (cache : Cache S) (store : DomStore S Unit) (polls : Nat) (N : SubP S) (lb : Int) : Result S :=
  (compile (sv.cfg .relaxed N lb) cache store polls none).2.1

/-- the state after `get_workload` popped `N` (`rest` = what is left in the fringe, `fa` = the new `first_active_layer`) -/
def popped (s : SeqSt S) (N : SubP S) (rest : List (SubP S)) (fa : Nat) : SeqSt S :=
  ({ s with fringe := rest, firstActive := fa }).afterPop N

/-- the incumbent the relaxed compilation is started with -/
def SolverCfg.lb1 (sv : SolverCfg S) (st : SeqSt S) (N : SubP S) (cache : Cache S) (store : DomStore S Unit) (polls : Nat) : Int :=
  (st.updateBest (toOut (sv.resR cache store polls N st.bestLb))).bestLb

/-- `process_one_node(N)` from the popped state `st`, both compilations answered by the diagram model.
    (`cache`, `store`, `polls` / `cache'`, `store'`, `polls'`: the — irrelevant — contents of the empty cache, of the dominance
    store and the poll counter handed to the two compilations.) -/
def SolverCfg.turn (sv : SolverCfg S) (st : SeqSt S) (N : SubP S) (cache cache' : Cache S) (store store' : DomStore S Unit)
    (polls polls' : Nat) : SeqSt S :=
  (st.process sv.dedup N true (.ok (toOut (sv.resR cache store polls N st.bestLb)))
    (.ok (toOut (sv.resX cache' store' polls' N (sv.lb1 st N cache store polls))))).1

/-- **one turn of the concrete solver loop**: pop a maximal node, `afterPop`, `process_one_node` over the diagram model.
    Both compilations end normally (`.ok`; the other outcome without cutoff is `.crash`, a panic: `cstep_progress` shows it does
    not happen). -/
inductive CStep (sv : SolverCfg S) : SeqSt S → SeqSt S → Prop
  | pop (s : SeqSt S) (N : SubP S) (rest : List (SubP S)) (fa : Nat) (cache cache' : Cache S) (store store' : DomStore S Unit)
      (polls polls' : Nat)
      (hpop : s.fringe.Perm (N :: rest))
      (hmax : ∀ c ∈ rest, c.ub < N.ub ∨ (c.ub = N.ub ∧ c.value ≤ N.value))
      (hokR : sv.outR cache store polls N (popped s N rest fa).bestLb = .ok)
      (hokX : sv.outX cache' store' polls' N (sv.lb1 (popped s N rest fa) N cache store polls) = .ok) :
      CStep sv s (sv.turn (popped s N rest fa) N cache cache' store store' polls polls')

inductive CRun (sv : SolverCfg S) : SeqSt S → SeqSt S → Prop
  | refl (s : SeqSt S) : CRun sv s s
  | tail {s t u : SeqSt S} : CRun sv s t → CStep sv t u → CRun sv s u

/-- the hypotheses of the closed theorems on the model (set out in the head of `Props/C01d.lean`) -/
structure WellFormed (sv : SolverCfg S) (H : Nat → S → EInt) (B0 B : Int) : Prop where
  pot : Potential sv.P H
  rub : RubOk sv.R H
  merge : MergeOk sv.R H
  attMerge : Cover.AttMerge sv.P sv.R H
  bound : RunBound sv.P sv.R B0 B
  nv : NvBound sv.P
  width : ∀ N, 1 ≤ sv.width N

/-- an open sub-problem is reached exactly, by a permutation of its path, with exactly its value -/
def NodeOk (P : Problem S) (c : SubP S) : Prop := ∃ p0, Reach P c.depth c.state c.value p0 ∧ c.path.Perm p0

/-- the loop invariant, over an explicit list of open sub-problems -/
structure CInvAt (sv : SolverCfg S) (H : Nat → S → EInt) (open_ : List (SubP S)) (lb : Int) (sol : Option (List Dec))
    (abort : Bool) : Prop where
  nodes : ∀ c ∈ open_, NodeOk sv.P c
  lbLo : iMin ≤ lb
  solLb : sol = none → lb = iMin
  noAbort : abort = false
  /-- feasible problem: the coverage invariant of C01 for the optimum -/
  feas : ∀ opt, (H 0 sv.P.init).addI sv.P.initVal = some opt → Inv (optOf H) opt (SolOf sv.P) open_ lb sol
  /-- infeasible problem: nothing was ever reported -/
  infeas : (H 0 sv.P.init).addI sv.P.initVal = none → lb = iMin ∧ sol = none

def CInv (sv : SolverCfg S) (H : Nat → S → EInt) (s : SeqSt S) : Prop :=
  CInvAt sv H s.fringe s.bestLb s.bestSol s.abort

/-- a value between `isize::MIN` and a bound `≤ 2^62` is in range and below `isize::MAX` -/
theorem inI_of_le {x b : Int} (h0 : iMin ≤ x) (h1 : x ≤ b) (h2 : b ≤ 4611686018427387904) : InI x ∧ x < iMax := by
  unfold InI
  simp only [iMin, iMax] at *
  omega

section
variable {sv : SolverCfg S} {H : Nat → S → EInt} {B0 B : Int}

theorem nodeOk_ub (P : Problem S) (c : SubP S) (u : Int) (h : NodeOk P c) : NodeOk P { c with ub := u } := h

theorem WellFormed.opt_range (hwf : WellFormed sv H B0 B) {opt : Int} (hopt : (H 0 sv.P.init).addI sv.P.initVal = some opt) :
    iMin < opt ∧ opt < iMax := by
  have hb := opt_bound hwf.pot hwf.nv hwf.bound hopt
  have hBs := hwf.bound.B_small
  simp only [iMin, iMax]
  omega

theorem isSol_le (hwf : WellFormed sv H B0 B)
    (cfg : Cfg S Unit) (hP : cfg.P = sv.P) (p0 : List Dec) (w : Int) (sol : Option (List Dec)) (h : IsSol cfg p0 w sol) :
    w ≤ B ∧ ∃ p, sol = some p := by
  obtain ⟨k, s, q, L, hr, _, _, hsol⟩ := h
  rw [hP] at hr
  exact ⟨(hwf.bound.value_le hwf.nv hr).2, _, hsol⟩

theorem updateBest_le (st : SeqSt S) (o : DDOut S) (B : Int) (hs : ∀ w, o.bestExact = some w → w ≤ B) (h : st.bestLb ≤ B) :
    (st.updateBest o).bestLb ≤ B := by
  unfold SeqSt.updateBest
  cases hb : o.bestExact with
  | none => exact h
  | some w =>
    have := hs w hb
    simp only
    split
    · exact this
    · exact h

/-- `open_by_layer` has `nb_variables + 1` cells, cell `d` counts the fringe entries of depth `d`, and no checked operation
    failed so far (`crashed`: index out of range in `open_by_layer[depth]`, `-= 1` on an empty cell) -/
def LInv (sv : SolverCfg S) (s : SeqSt S) : Prop := LayersOk sv.P.nbVars s.openByLayer s.fringe ∧ s.crashed = false

theorem init_linv (sv : SolverCfg S) : LInv sv (SeqSt.init sv.P none sv.dedup) := init_layers sv.P sv.dedup

end

end Ddo.C01
