import DdoModel.Proofs.CacheDomTools
/-! # `Cross` — a well-formed model on which cache + dominance together lose the optimum (finding **D17**)

The sequential solver with **both** the threshold cache and the dominance checker enabled (`Proofs/CacheDomDefs.lean`) on the
model `Cross` pops best-first, runs three turns without panic, ends with the empty fringe, reports `is_exact = true` and
`best_value = Some(5)`; the optimum is 10.  On the same model the solver with the cache only returns 10
(`Ddo.C09.caching_solver_correct` applies: the model is `WellFormed`) and the solver with the checker only returns 10
(`Ddo.C10.dominance_solver_optimal` applies: the rule has a protected optimal strategy, `UndomOpt`; it is moreover admissible in
the potential form for all pairs of values, `AdmissibleAll`).  The real library reproduces these values (end of this comment).

## the model (family `Ddo.C09.Layered`, `Proofs/Layered.lean`)

6 binary variables `x0 … x5` in static order (variable `k` is decided at depth `k`), domain `[0, 1]` enumerated in that
order, 6 states `0 … 5`, initial state `0`, initial value `0`.  Tables (`state: (next, cost) for decision 0 | decision 1`;
`*` = never reached, copies a neighbour so that the value-to-go stays monotone in the state):

```
x0:  every state: (4,1)|(5,0)                                          R=0 → b=4 (cost 1) | a=5
x1:  0*–3*, 4: (4,-1)|(5,-1)      5: (0,1)|(0,1)                         b=4 → x=4 | y=5 (cost -1);  a=5 → a2=0 (cost 1)
x2:  0, 1*–3*: (2,-1)|(2,-1)      4: (4,0)|(4,0)     5: (5,0)|(5,0)       a2=0 → a3=2 (cost -1);  x=4 → x3=4;  y=5 → y3=5
x3:  0*,1*,3*,4: (4,0)|(4,0)      2: (1,0)|(0,0)     5: (0,0)|(0,0)       a3=2 → J=1 | s*=0;  x3=4 → g4=4;  y3=5 → s*=0
x4:  0: (3,0)|(0,5)    1: (2,0)|(2,0)    2*–5*, 4: (4,0)|(4,0)            s*=0 → s5=3 | D5=0 (cost 5);  J=1 → J5=2;  g4=4 → g5=4
x5:  0, 1*: (0,0)|(0,0)           2–5: (0,10)|(0,0)                       the late reward: D5=0 earns 0, s5, J5, g5 earn 10
```

Value-to-go by depth (`hfrom`, monotone in the state at every depth): depth 0: `10 ×6`; depth 1: `9,9,9,9,9,10`;
depth 2: `9,9,9,9,10,10`; depth 3, 4: `10 ×6`; depth 5: `0,0,10,10,10,10`; depth 6: `0 ×6`.  **Optimum 10**, reached by
three families of paths:

* `σ1 = R, b, x, x3, g4, g5` (values `0, 1, 0, 0, 0, 0`, then `+10`) — the **protected** strategy: `4` has no key;
* `σs`: through `s* = (state 0, depth 4, value 0)` and `s5 = (3, depth 5, 0)` — reached through `a` and through `b, y`;
* `σJ`: `R, a, a2, a3, J = (1, depth 4, 0), J5 = (2, depth 5, 0)`.

The relaxation: `merge` = largest state, `relax` = identity on the costs, `fast_upper_bound` = 20; state ranking: larger
state better; `FixedWidth(1)`.  `WellFormed` (`Cross.wellFormed`).

**The rule**: key `0` for the states `0, 1`, key `1` for the states `2, 3`, no key for `4, 5`; one coordinate = the state;
the value is used.  So at depth 4 `J = 1` dominates `s* = 0`, at depth 5 `s5 = 3` dominates `J5 = 2` (two verdicts that
*cross*, as in `Ddo.C10.Cyc`: all four have value-to-go 10, the rule is admissible in the potential form,
`Cross.admissibleAll`) — but here the third optimal strategy `σ1` is never dominated: `Cross.undomOpt`.  With the checker
alone `σs` and `σJ` kill each other and `σ1` delivers 10.

## the run (plain fringe, last-exact-layer cut-set; the three other configurations end the same way: `joint_value`)

```
turn 1  pop R.  Restricted (width 1): keeps b (value 1 > 0), then y (rank), y3, s* = (0, depth 4, 0) — recorded by the
        checker —, then presents s5 = (3, 0) and D5 = (0, 5) to the checker (both recorded) and drops s5 (`_restrict` keeps
        the larger value): reaches 5.  Incumbent 5.  Relaxed: the depth-2 layer {x, y, a2} is merged, cut-set {b, a}.
        fringe [a = (5, 0, ub 16, 1), b = (4, 1, ub 15, 1)], checker: depth 4 {s*}, depth 5 {D5, s5}.
turn 2  pop a (ub 16 > 15: the only best-first choice).  Restricted: a2, a3, then {J, s*}: J is presented first, evicts the
        entry s* and is recorded; s* is dominated by J (threshold 0).  J5, the only child of J, is dominated by the entry
        s5 of turn 1 — recorded for a node `_restrict` dropped.  The diagram is empty below: exact, no value.
        `_compute_thresholds` writes the verdicts to the **cache**: (0, depth 4) ↦ (0, explored), (2, depth 5) ↦ (0, explored),
        and 0 / 1 on the ancestors.  The relaxed compilation is not run.   fringe [b], incumbent 5.
turn 3  pop b.  Restricted: keeps y, y3, then s* = (0, depth 4, 0) exact — pruned by the cache (0 ≤ 0): legitimate, the
        checker would say the same.  Relaxed: {x, y} exact, {x3, y3} merged into M = (5, depth 3, value 0, inexact); the
        only child of M is (state 0, depth 4, value 0), **inexact** — it stands for g4 = (4, depth 4, 0) of σ1 as well —
        and `_filter_with_cache` prunes it with the threshold of turn 2.  `_filter_with_dominance` would never have touched
        it: the checker is only asked about exact nodes.  The layer is empty, the diagram has no terminal node, hence
        `best_value = None`, `is_exact() = true` (no best node ⇒ "exact best path"), nothing is enqueued.
        fringe [], incumbent 5: `is_exact = true`, `best_value = Some(5)`.
```

**Mechanism.**  A dominance verdict is a statement about one *exactly reached* item `(state, depth, value)`.
`_compute_thresholds` turns it into a cache threshold on `(state, depth)`, and `_filter_with_cache` applies thresholds to
*every* node, relaxed ones included.  A relaxed node with that state stands for other exact items (here `g4`, merged away
two layers above) which the rule does not dominate.  The cache thus extends a dominance verdict to sub-problems the checker
is, by design, never asked about.  Each mechanism alone is sound on this model; the composition is not.

With the cache off (`Cross.dom_only`), turn 3 keeps the relaxed node, the cut-set {x, y} is enqueued and x delivers 10.
With the checker off (`Cross.cache_only`) s* survives and a's diagrams deliver 10.

## replay on the real library

Harness engine `cachedom` (`harness/src/eng_cachedom.rs`, model `cross`): the tables above as a `Problem`, `merge = max`,
`relax = cost`, `fast_upper_bound = 20`, `StateRanking` `a.cmp(b)`, `FixedWidth(1)`, `NoCutoff`, `SimpleFringe` or `NoDupFringe`
with `MaxUB`, `SimpleDominanceChecker::new(Dom, 6)` with `use_value = true`.  Observed: `is_exact = true, best_value = Some(5)`
for `SeqCachingSolverLel`, `SeqCachingSolverFc` (either fringe), `ParCachingSolverLel/Fc` (1 thread), `DefaultCachingSolver`;
`Some(10)` for `SeqNoCachingSolverLel/Fc` with the checker, for `SeqCachingSolverLel/Fc` with `EmptyDominanceChecker`, and
without both. -/
set_option linter.unusedSectionVars false
set_option linter.unusedVariables false
namespace Ddo.C10c.Cross
open Ddo Ddo.C01 Ddo.Closed Ddo.C09 Ddo.C10 Ddo.C10c Ddo.C09.Layered

def T : Tab :=
  { n := 6, m := 6,
    --      s0      s1      s2      s3      s4      s5
    trl := [4,5,    4,5,    4,5,    4,5,    4,5,    4,5,
            4,5,    4,5,    4,5,    4,5,    4,5,    0,0,
            2,2,    2,2,    2,2,    2,2,    4,4,    5,5,
            4,4,    4,4,    1,0,    4,4,    4,4,    0,0,
            3,0,    2,2,    4,4,    4,4,    4,4,    4,4,
            0,0,    0,0,    0,0,    0,0,    0,0,    0,0],
    cl :=  [1,0,    1,0,    1,0,    1,0,    1,0,    1,0,
            -1,-1,  -1,-1,  -1,-1,  -1,-1,  -1,-1,  1,1,
            -1,-1,  -1,-1,  -1,-1,  -1,-1,  0,0,    0,0,
            0,0,    0,0,    0,0,    0,0,    0,0,    0,0,
            0,5,    0,0,    0,0,    0,0,    0,0,    0,0,
            0,0,    0,0,    10,0,   10,0,   10,0,   10,0],
    rub := 20 }

/-- `FixedWidth(1)` -/
def ws : List Nat := List.replicate 42 1

def rule : DomRule Int Int :=
  { key := fun s => if s = 0 ∨ s = 1 then some 0 else if s = 2 ∨ s = 3 then some 1 else none,
    dims := fun _ => 1, coord := fun s _ => s, useValue := true }

def sv (dedup : Bool) (kind : CutsetKind) : SolverCfg Int := Layered.sv T ws dedup kind
def dv (dedup : Bool) (kind : CutsetKind) : DSolverCfg Int Int := ⟨sv dedup kind, rule⟩

theorem ok : tableOk T 10 80 10 = true := by decide +kernel

theorem checked : check T 10 = true := checked_of_ok ok

theorem wellFormed (dedup : Bool) (kind : CutsetKind) : WellFormed (dv dedup kind).sv (H T) 10 80 :=
  wellFormed_of_ok ok ws dedup kind

theorem opt10 : (H T 0 (prob T).init).addI (prob T).initVal = some 10 := opt_of_ok ok

theorem key_some {s : Int} {k : Int} (h : rule.key s = some k) : (k = 0 ∧ (s = 0 ∨ s = 1)) ∨ (k = 1 ∧ (s = 2 ∨ s = 3)) := by
  simp only [rule] at h
  split at h
  · next hc => cases h; exact Or.inl ⟨rfl, hc⟩
  · split at h
    · next hc => cases h; exact Or.inr ⟨rfl, hc⟩
    · cases h

theorem H_pair (d : Nat) : H T d 0 ≤ H T d 1 ∧ H T d 2 ≤ H T d 3 :=
  ⟨mono_of_check checked (T.n - d) 0 (Nat.sub_le _ _) (by decide), mono_of_check checked (T.n - d) 2 (Nat.sub_le _ _) (by decide)⟩

theorem admissibleAll : AdmissibleAll rule (H T) := by
  intro d a va b vb hdom
  have hco : b ≤ a := by
    have h1 : leB [b] [a] = true := geEnt_coords (dominates_ge hdom)
    simpa [leB] using h1
  have hab : a = b ∨ (b = 0 ∧ a = 1) ∨ (b = 2 ∧ a = 3) := by
    obtain ⟨⟨k, hka, hkb⟩, _⟩ := hdom
    rcases key_some hka with ⟨rfl, ha⟩ | ⟨rfl, ha⟩ <;> rcases key_some hkb with ⟨hk, hb⟩ | ⟨hk, hb⟩ <;> omega
  have hH : H T d b ≤ H T d a := by
    rcases hab with rfl | ⟨rfl, rfl⟩ | ⟨rfl, rfl⟩
    · exact EInt.le_refl _
    · exact (H_pair d).1
    · exact (H_pair d).2
  exact Examples.EMax.addI_mono hH (dominates_value rfl hdom)

/-- `σ1 = R, b, x, x3, g4, g5`, terminal value 10 -/
def protL : List (Nat × Int × Int) := [(0, 0, 0), (1, 4, 1), (2, 4, 0), (3, 4, 0), (4, 4, 0), (5, 4, 0), (6, 0, 10)]

theorem last_tr : ∀ s ∈ List.range 6, ∀ b ∈ [false, true], tr T 5 s b = 0 := by decide +kernel

theorem reach6_facts {a va : Int} {pa : List Dec} (h : Reach (prob T) 6 a va pa) : a = 0 ∧ va ≤ 10 := by
  constructor
  · generalize hk : 6 = k at h
    cases h with
    | root => cases hk
    | step k0 s v p' L x d hr hnv hs hd =>
      have hk0 : k0 = 5 := by omega
      subst hk0
      obtain ⟨_, rfl⟩ := nv_some hnv
      have hlt : st T s < 6 := st_lt T (by decide) s
      have := last_tr (st T s) (List.mem_range.mpr hlt) (decide (d = 1)) (by cases decide (d = 1) <;> simp)
      show (((tr T 5 (st T s) (decide (d = 1))) : Nat) : Int) = 0
      rw [this]; rfl
  · have h1 := reach_le_root (potential T) h
    rw [opt10] at h1
    have e : H T 6 a = some 0 := rfl
    rw [e] at h1
    have : (0 : Int) + va ≤ 10 := h1
    omega

theorem not_dom4 (a va v : Int) : ¬ Dominates rule a va 4 v := by
  rintro ⟨⟨k, _, hk⟩, _⟩
  have : rule.key 4 = none := by decide
  rw [this] at hk; cases hk

/-- between the root and the terminal item `σ1` stays in the state 4, which has no key; the terminal item has the largest value
    reached at depth 6 -/
theorem undomOpt : UndomOpt rule (prob T) (H T) 10 := by
  refine ⟨_, protected_ofList (L := protL) (by decide) (by decide +kernel) (by decide +kernel) (by decide +kernel) ?_⟩
  intro e he a va pa hr
  have hc : ∀ e ∈ protL, e.2.1 = 4 ∨ e = (0, 0, 0) ∨ e = (6, 0, 10) := by decide
  rcases hc e he with h4 | rfl | rfl
  · rw [h4]; exact not_dom4 _ _ _
  · obtain ⟨rfl, rfl⟩ := reach_zero hr
    decide
  · obtain ⟨rfl, hva⟩ := reach6_facts hr
    intro hdom
    have : (10 : Int) < va := dominates_self rfl hdom
    omega

def after (dedup : Bool) (kind : CutsetKind) (j : Nat) : KDSt Int Int :=
  (dv dedup kind).kdsolveLoop j (KDSt.init (dv dedup kind))

def viewKD (s : KDSt Int Int) : List (Int × Int × Int × Nat) × Int :=
  (s.st.fringe.map (fun c => (c.state, c.value, c.ub, c.depth)), s.st.bestLb)
def cacheAtKD (s : KDSt Int Int) (d : Nat) : List (Int × Int × Bool) :=
  (s.cache.layers.getD d []).map (fun e => (e.1, e.2.value, e.2.explored))
/-- the cache the compilations of the next turn consult: `s.cache` after the cache-cleaning loop of `get_workload` -/
def cacheIn (s : KDSt Int Int) : Cache Int :=
  (cleanCache T.n s.st.openByLayer T.n s.st.firstActive s.cache).getD s.cache
/-- the checker as the restricted compilation of `N` leaves it: what the relaxed compilation of the same turn starts from -/
def storeR (s : KDSt Int Int) (N : SubP Int) : DomStore Int Int :=
  ((dv false .lel).kdcompR (cacheIn s) s.store N s.st.bestLb).2.2.2.store
def storeAt (s : KDSt Int Int) (d : Nat) : List (Int × List (Int × Int)) := s.store.layers.getD d []

/-- the nodes that `_filter_with_cache` pruned -/
def cachePruned (dd : DD Int Int) : List (Int × Int × Nat × Bool) :=
  (dd.layers.flatMap id).filterMap (fun n => if n.cache then some (n.state, n.value, n.depth, n.isExact) else none)

/-- all that is read off the runs with cache and checker, in one statement so that each run is evaluated once; the theorems below
    are its conjuncts -/
theorem trace :
    let s1 := after false .lel 1
    let s2 := after false .lel 2
    let a : SubP Int := ⟨5, 0, [⟨0, 1⟩], 16, 1⟩
    let b : SubP Int := ⟨4, 1, [⟨0, 0⟩], 15, 1⟩
    let cA := (dv false .lel).kdcompR (cacheIn s1) s1.store a 5
    let cR := (dv false .lel).kdcompR (cacheIn s2) s2.store b 5
    let cX := (dv false .lel).kdcompX (cacheIn s2) (storeR s2 b) b 5
    (∀ dedup ∈ [false, true], ∀ kind ∈ [CutsetKind.lel, CutsetKind.frontier],
      (after dedup kind 6).st.fringe.length = 0 ∧ (after dedup kind 6).st.completion = (true, some 5) ∧
      (after dedup kind 6).st.explored = 3 ∧ (after dedup kind 6).st.crashed = false) ∧
    (viewKD s1 = ([(5, 0, 16, 1), (4, 1, 15, 1)], 5) ∧ storeAt s1 4 = [(0, [(0, 0)])] ∧
      storeAt s1 5 = [(0, [(0, 5)]), (1, [(3, 0)])] ∧ cacheAtKD s1 4 = []) ∧
    ((popMax s1.st.fringe).map (fun Nr => (Nr.1.state, Nr.1.ub, Nr.2.map (·.ub))) = some (5, 16, [15]) ∧
      cA.2.1.isExact = true ∧ cA.2.1.bestValue = none ∧ cA.2.2.2.ndom = 2) ∧
    ((0, 4, 0, true) ∈ cA.2.1.cacheUpdates ∧ H T 4 0 = some 10 ∧ cA.2.1.bestExactValue = none ∧ cA.2.1.cutset.length = 0 ∧
      s1.st.bestLb = 5 ∧ (List.range 7).map (fun d => ((cacheIn s1).layers.getD d []).length) = [0, 2, 0, 0, 0, 0, 0]) ∧
    (viewKD s2 = ([(4, 1, 15, 1)], 5) ∧ cacheAtKD s2 4 = [(1, 0, true), (0, 0, true)] ∧ cacheAtKD s2 5 = [(2, 0, true)] ∧
      storeAt s2 4 = [(0, [(1, 0)])]) ∧
    ((cacheIn s2).mustExplore 4 1 1 = some true ∧ cachePruned cR.2.2.2 = [(0, 0, 4, true)] ∧
      cachePruned cX.2.2.2 = [(0, 0, 4, false)] ∧ cX.2.1.bestValue = none ∧ cX.2.1.isExact = true ∧
      cX.2.1.cutset.length = 0 ∧ cX.2.2.2.ndom = 0) ∧
    viewKD (after false .lel 3) = ([], 5) := by
  intro s1 s2 a b cA cR cX
  decide +kernel

theorem joint_value : ∀ dedup ∈ [false, true], ∀ kind ∈ [CutsetKind.lel, CutsetKind.frontier],
    (after dedup kind 6).st.fringe.length = 0 ∧ (after dedup kind 6).st.completion = (true, some 5) ∧
    (after dedup kind 6).st.explored = 3 ∧ (after dedup kind 6).st.crashed = false :=
  trace.1

/-- the checker alone (`EmptyCache`) -/
theorem dom_only : ∀ dedup ∈ [false, true], ∀ kind ∈ [CutsetKind.lel, CutsetKind.frontier],
    ((dv dedup kind).solveLoop 12 (dv dedup kind).init).st.fringe.length = 0 ∧
    ((dv dedup kind).solveLoop 12 (dv dedup kind).init).st.completion = (true, some 10) ∧
    ((dv dedup kind).solveLoop 12 (dv dedup kind).init).st.explored = 5 := by decide +kernel

/-- the cache alone (`EmptyDominanceChecker`) -/
theorem cache_only : ∀ dedup ∈ [false, true], ∀ kind ∈ [CutsetKind.lel, CutsetKind.frontier],
    ((sv dedup kind).ksolveLoop 12 (KSt.init (sv dedup kind))).st.fringe.length = 0 ∧
    ((sv dedup kind).ksolveLoop 12 (KSt.init (sv dedup kind))).st.completion = (true, some 10) ∧
    ((sv dedup kind).ksolveLoop 12 (KSt.init (sv dedup kind))).st.explored = 6 := by decide +kernel

theorem stage1 : viewKD (after false .lel 1) = ([(5, 0, 16, 1), (4, 1, 15, 1)], 5) ∧
    storeAt (after false .lel 1) 4 = [(0, [(0, 0)])] ∧ storeAt (after false .lel 1) 5 = [(0, [(0, 5)]), (1, [(3, 0)])] ∧
    cacheAtKD (after false .lel 1) 4 = [] :=
  trace.2.1

theorem stage2a :
    (popMax (after false .lel 1).st.fringe).map (fun Nr => (Nr.1.state, Nr.1.ub, Nr.2.map (·.ub))) = some (5, 16, [15]) ∧
    ((dv false .lel).kdcompR (cacheIn (after false .lel 1)) (after false .lel 1).store ⟨5, 0, [⟨0, 1⟩], 16, 1⟩ 5).2.1.isExact = true ∧
    ((dv false .lel).kdcompR (cacheIn (after false .lel 1)) (after false .lel 1).store ⟨5, 0, [⟨0, 1⟩], 16, 1⟩ 5).2.1.bestValue = none ∧
    ((dv false .lel).kdcompR (cacheIn (after false .lel 1)) (after false .lel 1).store ⟨5, 0, [⟨0, 1⟩], 16, 1⟩ 5).2.2.2.ndom = 2 :=
  trace.2.2.1

/-- which single-compilation contract breaks: `Ddo.C09.theta_sound` (proved for `cfg.dom = none`) offers three justifications for
    a recorded threshold `(s, d, θ)` and a value `v ≤ θ`: `v + H d s ≤ bk`, or a cut-set node of the diagram carries `v + H d s`, or
    the consulted cache prunes something at least as good strictly deeper.  For the threshold `(state 0, depth 4) ↦ 0` recorded by
    the compilation of `a` at turn 2, `v = 0`, `H 4 0 = 10`: `bk = 5`, the cut-set is empty, and the consulted cache has no entry
    deeper than depth 1.  Its only justification is the `dominated` verdict, which speaks about the exact item `(0, depth 4, 0)`,
    not about relaxed nodes. -/
theorem theta_unjustified :
    (0, 4, 0, true) ∈ ((dv false .lel).kdcompR (cacheIn (after false .lel 1)) (after false .lel 1).store ⟨5, 0, [⟨0, 1⟩], 16, 1⟩ 5).2.1.cacheUpdates ∧
    H T 4 0 = some 10 ∧
    ((dv false .lel).kdcompR (cacheIn (after false .lel 1)) (after false .lel 1).store ⟨5, 0, [⟨0, 1⟩], 16, 1⟩ 5).2.1.bestExactValue = none ∧
    ((dv false .lel).kdcompR (cacheIn (after false .lel 1)) (after false .lel 1).store ⟨5, 0, [⟨0, 1⟩], 16, 1⟩ 5).2.1.cutset.length = 0 ∧
    (after false .lel 1).st.bestLb = 5 ∧
    (List.range 7).map (fun d => ((cacheIn (after false .lel 1)).layers.getD d []).length) = [0, 2, 0, 0, 0, 0, 0] :=
  trace.2.2.2.1

theorem stage2b :
    viewKD (after false .lel 2) = ([(4, 1, 15, 1)], 5) ∧
    cacheAtKD (after false .lel 2) 4 = [(1, 0, true), (0, 0, true)] ∧ cacheAtKD (after false .lel 2) 5 = [(2, 0, true)] ∧
    storeAt (after false .lel 2) 4 = [(0, [(1, 0)])] :=
  trace.2.2.2.2.1

theorem stage3 :
    (cacheIn (after false .lel 2)).mustExplore 4 1 1 = some true ∧
    cachePruned ((dv false .lel).kdcompR (cacheIn (after false .lel 2)) (after false .lel 2).store ⟨4, 1, [⟨0, 0⟩], 15, 1⟩ 5).2.2.2 =
      [(0, 0, 4, true)] ∧
    cachePruned ((dv false .lel).kdcompX (cacheIn (after false .lel 2)) (storeR (after false .lel 2) ⟨4, 1, [⟨0, 0⟩], 15, 1⟩) ⟨4, 1, [⟨0, 0⟩], 15, 1⟩ 5).2.2.2 =
      [(0, 0, 4, false)] ∧
    ((dv false .lel).kdcompX (cacheIn (after false .lel 2)) (storeR (after false .lel 2) ⟨4, 1, [⟨0, 0⟩], 15, 1⟩) ⟨4, 1, [⟨0, 0⟩], 15, 1⟩ 5).2.1.bestValue = none ∧
    ((dv false .lel).kdcompX (cacheIn (after false .lel 2)) (storeR (after false .lel 2) ⟨4, 1, [⟨0, 0⟩], 15, 1⟩) ⟨4, 1, [⟨0, 0⟩], 15, 1⟩ 5).2.1.isExact = true ∧
    ((dv false .lel).kdcompX (cacheIn (after false .lel 2)) (storeR (after false .lel 2) ⟨4, 1, [⟨0, 0⟩], 15, 1⟩) ⟨4, 1, [⟨0, 0⟩], 15, 1⟩ 5).2.1.cutset.length = 0 ∧
    ((dv false .lel).kdcompX (cacheIn (after false .lel 2)) (storeR (after false .lel 2) ⟨4, 1, [⟨0, 0⟩], 15, 1⟩) ⟨4, 1, [⟨0, 0⟩], 15, 1⟩ 5).2.2.2.ndom = 0 :=
  trace.2.2.2.2.2.1

theorem stage_end : viewKD (after false .lel 3) = ([], 5) :=
  trace.2.2.2.2.2.2

end Ddo.C10c.Cross
