import DdoModel.Proofs.DomSound
/-! # Simulation-admissible dominance rules have an undominated optimal strategy

The classical *consistency* condition of the branch-and-bound literature (Ibaraki 1977: "if `a` dominates `b` then every child
of `b` is dominated-or-equalled by a child of `a`") — `SimAdmissible` — implies the hypothesis `UndomOpt` under which
`Proofs/DomSound.lean` shows that the solver with the dominance checker enabled stays optimal (`undomOpt_of_sim`), and it implies
the value-based `Admissible` (`admissible_of_sim`).

Proof of `undomOpt_of_sim`.  `Good k s v` = "`(s, v)` is reached exactly at depth `k`, is not dominated by an exactly reached
item of depth `k`, and — unless `k` is the terminal depth, where `v = opt` — has a child that is `Good`".

* `Good` is upward closed for `GeItem` among exactly reached items (`good_up`: simulation step by step; "undominated" is
  upward closed because `Dominates` composes with `GeItem`);
* the exactly reached items of a depth are the members of a list (`layerItems`), so above every reached item there is an
  undominated reached item (`exists_undom_above`, from the generic `exists_max`);
* by induction from the terminal depth upwards every depth that has an exactly reached item on an optimal solution has a `Good`
  item (`exists_good`): take a `Good` item of the next depth, its parent, an undominated item above the parent; by simulation
  that item has a child above the `Good` item, which is `Good` by upward closure;
* at depth `0` the only reached item is the root: `Good` is a protected family. -/
set_option linter.unusedSectionVars false
set_option linter.unusedVariables false
namespace Ddo.C10
open Ddo Ddo.Closed
variable {S K : Type}

/-- `(a, va)` is at least as good as `(b, vb)`: the same state with a value at least as large, or — states of the same key — at
    least as good on every coordinate (and on the value when the rule uses it); `n` = the uniform number of dimensions -/
def GeItem (D : DomRule S K) (n : Nat) (a : S) (va : Int) (b : S) (vb : Int) : Prop :=
  (a = b ∧ vb ≤ va) ∨
  ((∃ k, D.key a = some k ∧ D.key b = some k) ∧ geEnt D.useValue (D.ent n a va) (D.ent n b vb) = true)

/-- **simulation-admissible rule** (consistency with the transition system): whenever `(a, va)` is at least as good as
    `(b, vb)` — both reached exactly at depth `d` —, every decision available to `b` is matched by a decision available to `a`
    whose child is at least as good as `b`'s child, and at the terminal depth `va ≥ vb`. -/
structure SimAdmissible (D : DomRule S K) (P : Problem S) (n : Nat) : Prop where
  step : ∀ d a va b vb pa pb L x, Reach P d a va pa → Reach P d b vb pb → GeItem D n a va b vb →
    P.nextVar d L = some x → b ∈ L → ∀ db ∈ P.domain x b, ∃ da ∈ P.domain x a,
      GeItem D n (P.trans a ⟨x, da⟩) (va + P.cost a (P.trans a ⟨x, da⟩) ⟨x, da⟩)
                 (P.trans b ⟨x, db⟩) (vb + P.cost b (P.trans b ⟨x, db⟩) ⟨x, db⟩)
  term : ∀ d a va b vb pa pb L, Reach P d a va pa → Reach P d b vb pb → GeItem D n a va b vb →
    P.nextVar d L = none → b ∈ L → vb ≤ va

/-- the variable selected at a depth does not depend on the states of the layer -/
def StaticOrder (P : Problem S) : Prop := ∀ k L L', L ≠ [] → L' ≠ [] → P.nextVar k L = P.nextVar k L'

/-- the variable of depth `k` under a static order -/
def nvar (P : Problem S) (k : Nat) : Option Nat := P.nextVar k [P.init]

theorem nv_eq {P : Problem S} (hstat : StaticOrder P) {k : Nat} {L : List S} {s : S} (hs : s ∈ L) :
    P.nextVar k L = nvar P k :=
  hstat k L [P.init] (List.ne_nil_of_mem hs) (by simp)

theorem nv_one {P : Problem S} (hstat : StaticOrder P) (k : Nat) (s : S) : P.nextVar k [s] = nvar P k :=
  nv_eq hstat List.mem_cons_self

theorem ent_len (D : DomRule S K) (n : Nat) (s : S) (v : Int) : (D.ent n s v).coords.length = n := by
  simp [DomRule.ent, DomRule.coordsN_len]

theorem GeItem.refl (D : DomRule S K) (n : Nat) (a : S) (va : Int) : GeItem D n a va a va :=
  Or.inl ⟨rfl, Int.le_refl _⟩

theorem GeItem.ge {D : DomRule S K} {n : Nat} {a b : S} {va vb : Int} (h : GeItem D n a va b vb) :
    geEnt D.useValue (D.ent n a va) (D.ent n b vb) = true := by
  rcases h with ⟨rfl, h⟩ | ⟨_, h⟩
  · simp [geEnt, DomRule.ent, leB_refl, h]
  · exact h

theorem GeItem.key_iff {D : DomRule S K} {n : Nat} {a b : S} {va vb : Int} (h : GeItem D n a va b vb) (k : K) :
    D.key a = some k ↔ D.key b = some k := by
  rcases h with ⟨rfl, _⟩ | ⟨⟨k', ha, hb⟩, _⟩
  · exact Iff.rfl
  · rw [ha, hb]

theorem GeItem.trans {D : DomRule S K} {n : Nat} {a b c : S} {va vb vc : Int}
    (h1 : GeItem D n a va b vb) (h2 : GeItem D n b vb c vc) : GeItem D n a va c vc := by
  have hge : geEnt D.useValue (D.ent n a va) (D.ent n c vc) = true :=
    geEnt_trans (by rw [ent_len, ent_len]) (by rw [ent_len, ent_len]) h1.ge h2.ge
  rcases h1 with ⟨rfl, h1v⟩ | ⟨⟨k, ha, hb⟩, _⟩
  · rcases h2 with ⟨rfl, h2v⟩ | ⟨hk, _⟩
    · exact Or.inl ⟨rfl, Int.le_trans h2v h1v⟩
    · exact Or.inr ⟨hk, hge⟩
  · exact Or.inr ⟨⟨k, ha, (h2.key_iff k).mp hb⟩, hge⟩

theorem Dominates.geItem {D : DomRule S K} {n : Nat} (hdim : ∀ s, D.dims s = n) {a b : S} {va vb : Int}
    (h : Dominates D a va b vb) : GeItem D n a va b vb := by
  obtain ⟨hk, hd⟩ := h
  rw [hdim b] at hd
  simp only [domEnt, Bool.and_eq_true] at hd
  exact Or.inr ⟨hk, hd.1⟩

theorem Dominates.not_geItem {D : DomRule S K} {n : Nat} (hdim : ∀ s, D.dims s = n) {a b : S} {va vb : Int}
    (h : Dominates D a va b vb) : ¬ GeItem D n b vb a va := by
  intro hg
  obtain ⟨_, hd⟩ := h
  rw [hdim b] at hd
  simp only [domEnt, Bool.and_eq_true, Bool.not_eq_true'] at hd
  have := hg.ge
  rw [hd.2] at this
  cases this

theorem Dominates.trans_ge {D : DomRule S K} {n : Nat} (hdim : ∀ s, D.dims s = n) {e a b : S} {ve va vb : Int}
    (h : Dominates D e ve a va) (hg : GeItem D n a va b vb) : Dominates D e ve b vb := by
  obtain ⟨⟨k, hke, hka⟩, hd⟩ := h
  rw [hdim a] at hd
  refine ⟨⟨k, hke, (hg.key_iff k).mp hka⟩, ?_⟩
  rw [hdim b]
  exact dom_ge_trans (by rw [ent_len, ent_len]) (by rw [ent_len, ent_len]) hd hg.ge

/-- not dominated by an exactly reached item of the same depth -/
def Undom (D : DomRule S K) (P : Problem S) (k : Nat) (s : S) (v : Int) : Prop :=
  ∀ a va pa, Reach P k a va pa → ¬ Dominates D a va s v

theorem Undom.up {D : DomRule S K} {P : Problem S} {n : Nat} (hdim : ∀ s, D.dims s = n) {k : Nat} {a b : S} {va vb : Int}
    (h : Undom D P k b vb) (hg : GeItem D n a va b vb) : Undom D P k a va :=
  fun e ve pe hre hd => h e ve pe hre (hd.trans_ge hdim hg)

theorem exists_max {α : Type} (ge : α → α → Prop) (hrefl : ∀ x, ge x x) (htrans : ∀ x y z, ge x y → ge y z → ge x z) :
    ∀ (l : List α) (x : α), ∃ y, (y = x ∨ y ∈ l) ∧ ge y x ∧ ∀ z ∈ l, ge z y → ge y z := by
  intro l
  induction l with
  | nil => intro x; exact ⟨x, Or.inl rfl, hrefl x, fun z hz => by cases hz⟩
  | cons a l ih =>
    intro x
    obtain ⟨y, hy, hyx, hmax⟩ := ih x
    by_cases h : ge a y ∧ ¬ ge y a
    · obtain ⟨y2, hy2, hy2a, hmax2⟩ := ih a
      refine ⟨y2, ?_, htrans _ _ _ hy2a (htrans _ _ _ h.1 hyx), ?_⟩
      · rcases hy2 with rfl | h2
        · exact Or.inr List.mem_cons_self
        · exact Or.inr (List.mem_cons_of_mem _ h2)
      · intro z hz hzy
        rcases List.mem_cons.mp hz with rfl | hz'
        · exact hy2a
        · exact hmax2 z hz' hzy
    · refine ⟨y, ?_, hyx, ?_⟩
      · rcases hy with rfl | h2
        · exact Or.inl rfl
        · exact Or.inr (List.mem_cons_of_mem _ h2)
      · intro z hz hzy
        rcases List.mem_cons.mp hz with rfl | hz'
        · exact Classical.byContradiction (fun hn => h ⟨hzy, hn⟩)
        · exact hmax z hz' hzy

def childItem (P : Problem S) (x : Nat) (it : S × Int) (d : Int) : S × Int :=
  (P.trans it.1 ⟨x, d⟩, it.2 + P.cost it.1 (P.trans it.1 ⟨x, d⟩) ⟨x, d⟩)

/-- all items reached exactly at a depth (static order) -/
def layerItems (P : Problem S) : Nat → List (S × Int)
  | 0 => [(P.init, P.initVal)]
  | k + 1 =>
    match nvar P k with
    | none => []
    | some x => (layerItems P k).flatMap (fun it => (P.domain x it.1).map (childItem P x it))

theorem reach_mem_layer {P : Problem S} (hstat : StaticOrder P) {k : Nat} {s : S} {v : Int} {p : List Dec}
    (h : Reach P k s v p) : (s, v) ∈ layerItems P k := by
  induction h with
  | root => simp [layerItems]
  | step k s v p L x d hr hnv hs hd ih =>
    rw [nv_eq hstat hs] at hnv
    simp only [layerItems, hnv, List.mem_flatMap, List.mem_map]
    exact ⟨(s, v), ih, d, hd, rfl⟩

theorem layer_reach {P : Problem S} (hstat : StaticOrder P) : ∀ (k : Nat) (s : S) (v : Int),
    (s, v) ∈ layerItems P k → ∃ p, Reach P k s v p := by
  intro k
  induction k with
  | zero =>
    intro s v h
    simp only [layerItems, List.mem_singleton, Prod.mk.injEq] at h
    obtain ⟨rfl, rfl⟩ := h
    exact ⟨[], Reach.root⟩
  | succ k ih =>
    intro s v h
    cases hnv : nvar P k with
    | none => simp [layerItems, hnv] at h
    | some x =>
      simp only [layerItems, hnv, List.mem_flatMap, List.mem_map] at h
      obtain ⟨⟨s0, v0⟩, h0, d, hd, e⟩ := h
      obtain ⟨p, hr⟩ := ih s0 v0 h0
      simp only [childItem, Prod.mk.injEq] at e
      obtain ⟨rfl, rfl⟩ := e
      exact ⟨_, Reach.step k s0 v0 p [s0] x d hr (by rw [nv_one hstat]; exact hnv) List.mem_cons_self hd⟩

theorem exists_undom_above {D : DomRule S K} {P : Problem S} {n : Nat} (hdim : ∀ s, D.dims s = n) (hstat : StaticOrder P)
    {k : Nat} {s : S} {v : Int} {p : List Dec} (hr : Reach P k s v p) :
    ∃ s' v' p', Reach P k s' v' p' ∧ GeItem D n s' v' s v ∧ Undom D P k s' v' := by
  obtain ⟨⟨s', v'⟩, hmem, hge, hmax⟩ :=
    exists_max (fun (y x : S × Int) => GeItem D n y.1 y.2 x.1 x.2) (fun x => GeItem.refl D n x.1 x.2)
      (fun x y z h1 h2 => GeItem.trans h1 h2) (layerItems P k) (s, v)
  have hmem' : (s', v') ∈ layerItems P k := by
    rcases hmem with e | h
    · rw [e]; exact reach_mem_layer hstat hr
    · exact h
  obtain ⟨p', hr'⟩ := layer_reach hstat k s' v' hmem'
  refine ⟨s', v', p', hr', hge, fun e ve pe hre hd => ?_⟩
  exact hd.not_geItem hdim (hmax (e, ve) (reach_mem_layer hstat hre) (hd.geItem hdim))

/-- `(s, v)` is reached exactly at depth `k`, undominated, and the start of an undominated path to a complete solution of
    value `opt` -/
inductive Good (D : DomRule S K) (P : Problem S) (opt : Int) : Nat → S → Int → Prop
  | term (k : Nat) (s : S) (v : Int) (p : List Dec) : Reach P k s v p → nvar P k = none → v = opt → Undom D P k s v →
      Good D P opt k s v
  | step (k : Nat) (s : S) (v : Int) (p : List Dec) (x : Nat) (d : Int) : Reach P k s v p → nvar P k = some x →
      d ∈ P.domain x s → Undom D P k s v →
      Good D P opt (k + 1) (P.trans s ⟨x, d⟩) (v + P.cost s (P.trans s ⟨x, d⟩) ⟨x, d⟩) → Good D P opt k s v

theorem Good.reach {D : DomRule S K} {P : Problem S} {opt : Int} {k : Nat} {s : S} {v : Int} (h : Good D P opt k s v) :
    ∃ p, Reach P k s v p := by
  cases h with
  | term _ _ _ p hr _ _ _ => exact ⟨p, hr⟩
  | step _ _ _ p _ _ hr _ _ _ _ => exact ⟨p, hr⟩

theorem Good.undom {D : DomRule S K} {P : Problem S} {opt : Int} {k : Nat} {s : S} {v : Int} (h : Good D P opt k s v) :
    Undom D P k s v := by
  cases h with
  | term _ _ _ _ _ _ _ hu => exact hu
  | step _ _ _ _ _ _ _ _ _ hu _ => exact hu

theorem complete_le {P : Problem S} {H : Nat → S → EInt} {opt : Int} (hP : Potential P H) (hstat : StaticOrder P)
    (hopt : (H 0 P.init).addI P.initVal = some opt) {k : Nat} {s : S} {v : Int} {p : List Dec} (hr : Reach P k s v p)
    (hnv : nvar P k = none) : v ≤ opt := by
  have hH := hP.term k [s] s (by rw [nv_one hstat]; exact hnv) List.mem_cons_self
  have h := reach_le_root hP hr
  rw [hH, hopt] at h
  simp only [EInt.addI, Option.map_some, EInt.some_le_some] at h
  omega

theorem Good.opt {D : DomRule S K} {P : Problem S} {H : Nat → S → EInt} {opt : Int} (hP : Potential P H)
    (hstat : StaticOrder P) (hopt : (H 0 P.init).addI P.initVal = some opt) {k : Nat} {s : S} {v : Int}
    (h : Good D P opt k s v) : (H k s).addI v = some opt := by
  induction h with
  | term k s v p hr hnv hv _ =>
    have hH := hP.term k [s] s (by rw [nv_one hstat]; exact hnv) List.mem_cons_self
    rw [hH, hv]
    simp [EInt.addI]
  | step k s v p x d hr hnv hd _ _ ih =>
    have hle := hP.le k [s] x s v p d hr (by rw [nv_one hstat]; exact hnv) List.mem_cons_self hd
    have hroot := reach_le_root hP hr
    rw [hopt] at hroot
    obtain ⟨h', hH', e⟩ := Bounds.addI_some ih
    rw [hH'] at hle
    cases hH : H k s with
    | none => rw [hH] at hle; exact False.elim hle
    | some h0 =>
      rw [hH] at hle hroot
      simp only [EInt.addI, Option.map_some, EInt.some_le_some] at hle hroot ⊢
      congr 1
      omega

/-- **`Good` is upward closed among exactly reached items**: the undominated optimal path below `b` is simulated from `a` -/
theorem good_up {D : DomRule S K} {P : Problem S} {H : Nat → S → EInt} {n : Nat} {opt : Int}
    (hdim : ∀ s, D.dims s = n) (hP : Potential P H) (hstat : StaticOrder P) (hsim : SimAdmissible D P n)
    (hopt : (H 0 P.init).addI P.initVal = some opt) {k : Nat} {b : S} {vb : Int} (h : Good D P opt k b vb) :
    ∀ (a : S) (va : Int) (pa : List Dec), Reach P k a va pa → GeItem D n a va b vb → Good D P opt k a va := by
  induction h with
  | term k b vb pb hrb hnv hv hU =>
    intro a va pa hra hg
    have h1 := hsim.term k a va b vb pa pb [b] hra hrb hg (by rw [nv_one hstat]; exact hnv) List.mem_cons_self
    have h2 := complete_le hP hstat hopt hra hnv
    exact Good.term k a va pa hra hnv (Int.le_antisymm h2 (hv ▸ h1)) (hU.up hdim hg)
  | step k b vb pb x db hrb hnv hdb hU _ ih =>
    intro a va pa hra hg
    obtain ⟨da, hda, hgc⟩ :=
      hsim.step k a va b vb pa pb [b] x hra hrb hg (by rw [nv_one hstat]; exact hnv) List.mem_cons_self db hdb
    have hrc := Reach.step k a va pa [a] x da hra (by rw [nv_one hstat]; exact hnv) List.mem_cons_self hda
    exact Good.step k a va pa x da hra hnv hda (hU.up hdim hg) (ih _ _ _ hrc hgc)

theorem reach_parent {P : Problem S} (hstat : StaticOrder P) {k : Nat} {c : S} {vc : Int} {p : List Dec}
    (h : Reach P (k + 1) c vc p) :
    ∃ s v p' x d, Reach P k s v p' ∧ nvar P k = some x ∧ d ∈ P.domain x s ∧
      c = P.trans s ⟨x, d⟩ ∧ vc = v + P.cost s (P.trans s ⟨x, d⟩) ⟨x, d⟩ := by
  generalize hk : k + 1 = k1 at h
  cases h with
  | root => cases hk
  | step k0 s v p' L x d hr hnv hs hd =>
    have : k = k0 := Nat.succ.inj hk
    subst this
    exact ⟨s, v, p', x, d, hr, by rw [← nv_eq hstat hs]; exact hnv, hd, rfl, rfl⟩

theorem good_of_complete {D : DomRule S K} {P : Problem S} {H : Nat → S → EInt} {n : Nat} {opt : Int}
    (hdim : ∀ s, D.dims s = n) (hP : Potential P H) (hstat : StaticOrder P) (hsim : SimAdmissible D P n)
    (hopt : (H 0 P.init).addI P.initVal = some opt) {k : Nat} {s : S} {v : Int} {p : List Dec} (hr : Reach P k s v p)
    (hnv : nvar P k = none) (hH : (H k s).addI v = some opt) : ∃ s' v', Good D P opt k s' v' := by
  have hH0 := hP.term k [s] s (by rw [nv_one hstat]; exact hnv) List.mem_cons_self
  rw [hH0] at hH
  simp only [EInt.addI, Option.map_some, Option.some.injEq] at hH
  obtain ⟨s', v', p', hr', hge, hU⟩ := exists_undom_above hdim hstat (D := D) hr
  have h1 := hsim.term k s' v' s v p' p [s] hr' hr hge (by rw [nv_one hstat]; exact hnv) List.mem_cons_self
  have h2 := complete_le hP hstat hopt hr' hnv
  exact ⟨s', v', Good.term k s' v' p' hr' hnv (by omega) hU⟩

theorem exists_good {D : DomRule S K} {P : Problem S} {H : Nat → S → EInt} {n : Nat} {opt : Int}
    (hdim : ∀ s, D.dims s = n) (hP : Potential P H) (hNV : NvBound P) (hstat : StaticOrder P) (hsim : SimAdmissible D P n)
    (hopt : (H 0 P.init).addI P.initVal = some opt) :
    ∀ (m k : Nat) (s : S) (v : Int) (p : List Dec), P.nbVars ≤ k + m → Reach P k s v p → (H k s).addI v = some opt →
      ∃ s' v', Good D P opt k s' v' := by
  intro m
  induction m with
  | zero =>
    intro k s v p hk hr hH
    exact good_of_complete hdim hP hstat hsim hopt hr (hNV k _ hk) hH
  | succ m ih =>
    intro k s v p hk hr hH
    cases hnv : nvar P k with
    | none => exact good_of_complete hdim hP hstat hsim hopt hr hnv hH
    | some x =>
      have hnv1 : P.nextVar k [s] = some x := by rw [nv_one hstat]; exact hnv
      obtain ⟨h0, hH0, e0⟩ := Bounds.addI_some hH
      -- an optimal child
      obtain ⟨d, hd, h', hH', hle⟩ := hP.att k [s] x s h0 hnv1 List.mem_cons_self hH0
      have hrc := Reach.step k s v p [s] x d hr hnv1 List.mem_cons_self hd
      have hroot := reach_le_root hP hrc
      rw [hH', hopt] at hroot
      simp only [EInt.addI, Option.map_some, EInt.some_le_some] at hroot
      have hHc : (H (k + 1) (P.trans s ⟨x, d⟩)).addI (v + P.cost s (P.trans s ⟨x, d⟩) ⟨x, d⟩) = some opt := by
        rw [hH']
        simp only [EInt.addI, Option.map_some, Option.some.injEq]
        omega
      -- a `Good` item of the next depth, its parent, an undominated item above the parent
      obtain ⟨c, vc, hgc⟩ := ih (k + 1) _ _ _ (Nat.add_right_comm k 1 m ▸ hk) hrc hHc
      obtain ⟨pc, hrc'⟩ := hgc.reach
      obtain ⟨s2, v2, p2, x2, d2, hr2, hnv2, hd2, rfl, rfl⟩ := reach_parent hstat hrc'
      rw [hnv] at hnv2
      cases hnv2
      obtain ⟨s3, v3, p3, hr3, hge3, hU3⟩ := exists_undom_above hdim hstat (D := D) hr2
      obtain ⟨d3, hd3, hgc3⟩ :=
        hsim.step k s3 v3 s2 v2 p3 p2 [s2] x hr3 hr2 hge3 (by rw [nv_one hstat]; exact hnv) List.mem_cons_self d2 hd2
      have hrc3 := Reach.step k s3 v3 p3 [s3] x d3 hr3 (by rw [nv_one hstat]; exact hnv) List.mem_cons_self hd3
      exact ⟨s3, v3, Good.step k s3 v3 p3 x d3 hr3 hnv hd3 hU3 (good_up hdim hP hstat hsim hopt hgc _ _ _ hrc3 hgc3)⟩

theorem reach_zero {P : Problem S} {s : S} {v : Int} {p : List Dec} (h : Reach P 0 s v p) : s = P.init ∧ v = P.initVal := by
  generalize hk : 0 = k at h
  cases h with
  | root => exact ⟨rfl, rfl⟩
  | step => omega

/-- **a simulation-admissible rule has an undominated optimal strategy** -/
theorem undomOpt_of_sim (D : DomRule S K) (P : Problem S) (H : Nat → S → EInt) (n : Nat) (opt : Int)
    (hdim : ∀ s, D.dims s = n) (hP : Potential P H) (hNV : NvBound P) (hstat : StaticOrder P)
    (hsim : SimAdmissible D P n) (hopt : (H 0 P.init).addI P.initVal = some opt) : UndomOpt D P H opt := by
  obtain ⟨s0, v0, hg0⟩ := exists_good hdim hP hNV hstat hsim hopt P.nbVars 0 P.init P.initVal [] (Nat.le_add_left _ _) Reach.root hopt
  obtain ⟨p0, hr0⟩ := hg0.reach
  obtain ⟨rfl, rfl⟩ := reach_zero hr0
  refine ⟨Good D P opt, ⟨hg0, fun d s v h => h.reach, fun d s v h => h.opt hP hstat hopt, ?_, fun d s v a va pa h => h.undom a va pa⟩⟩
  intro d s v L x h hnv hs
  rw [nv_eq hstat hs] at hnv
  cases h with
  | term _ _ _ p hr hnv' _ _ => rw [hnv'] at hnv; cases hnv
  | step _ _ _ p x' dec hr hnv' hdec _ hgc =>
    rw [hnv'] at hnv
    cases hnv
    exact ⟨dec, hdec, hgc⟩

/-- at the terminal depth the value-to-go is `0` and the simulation compares the values -/
theorem sim_value_complete {D : DomRule S K} {P : Problem S} {H : Nat → S → EInt} {n : Nat}
    (hP : Potential P H) (hstat : StaticOrder P) (hsim : SimAdmissible D P n) {k : Nat} {a b : S} {va vb : Int}
    {pa pb : List Dec} (hra : Reach P k a va pa) (hrb : Reach P k b vb pb) (hg : GeItem D n a va b vb)
    (hnv : nvar P k = none) (h : Int) (hH : H k b = some h) : ∃ h', H k a = some h' ∧ vb + h ≤ va + h' := by
  have hHb := hP.term k [b] b (by rw [nv_one hstat]; exact hnv) List.mem_cons_self
  have hHa := hP.term k [a] a (by rw [nv_one hstat]; exact hnv) List.mem_cons_self
  have h1 := hsim.term k a va b vb pa pb [b] hra hrb hg (by rw [nv_one hstat]; exact hnv) List.mem_cons_self
  rw [hHb] at hH
  cases hH
  exact ⟨0, hHa, Int.add_le_add_right h1 0⟩

theorem sim_value {D : DomRule S K} {P : Problem S} {H : Nat → S → EInt} {n : Nat}
    (hP : Potential P H) (hNV : NvBound P) (hstat : StaticOrder P) (hsim : SimAdmissible D P n) :
    ∀ (m k : Nat) (a : S) (va : Int) (b : S) (vb : Int) (pa pb : List Dec), P.nbVars ≤ k + m →
      Reach P k a va pa → Reach P k b vb pb → GeItem D n a va b vb → ∀ h, H k b = some h →
      ∃ h', H k a = some h' ∧ vb + h ≤ va + h' := by
  intro m
  induction m with
  | zero =>
    intro k a va b vb pa pb hk hra hrb hg h hH
    exact sim_value_complete hP hstat hsim hra hrb hg (hNV k _ hk) h hH
  | succ m ih =>
    intro k a va b vb pa pb hk hra hrb hg h hH
    cases hnv : nvar P k with
    | none => exact sim_value_complete hP hstat hsim hra hrb hg hnv h hH
    | some x =>
      have hnvb : P.nextVar k [b] = some x := by rw [nv_one hstat]; exact hnv
      have hnva : P.nextVar k [a] = some x := by rw [nv_one hstat]; exact hnv
      obtain ⟨db, hdb, hb', hHb', hle⟩ := hP.att k [b] x b h hnvb List.mem_cons_self hH
      obtain ⟨da, hda, hgc⟩ := hsim.step k a va b vb pa pb [b] x hra hrb hg hnvb List.mem_cons_self db hdb
      have hrca := Reach.step k a va pa [a] x da hra hnva List.mem_cons_self hda
      have hrcb := Reach.step k b vb pb [b] x db hrb hnvb List.mem_cons_self hdb
      obtain ⟨ha', hHa', hle'⟩ := ih (k + 1) _ _ _ _ _ _ (Nat.add_right_comm k 1 m ▸ hk) hrca hrcb hgc hb' hHb'
      have hla := hP.le k [a] x a va pa da hra hnva List.mem_cons_self hda
      rw [hHa'] at hla
      cases hHa : H k a with
      | none => rw [hHa] at hla; exact False.elim hla
      | some h0 =>
        rw [hHa] at hla
        simp only [EInt.addI, Option.map_some, EInt.some_le_some] at hla
        exact ⟨h0, rfl, by omega⟩

/-- **a simulation-admissible rule is admissible** (potential form of `Proofs/DomSound.lean`) -/
theorem admissible_of_sim (D : DomRule S K) (P : Problem S) (H : Nat → S → EInt) (n : Nat)
    (hdim : ∀ s, D.dims s = n) (hP : Potential P H) (hNV : NvBound P) (hstat : StaticOrder P)
    (hsim : SimAdmissible D P n) : Admissible D P H := by
  intro d a va b vb pa pb hra hrb hdom
  cases hH : H d b with
  | none => exact EInt.none_le _
  | some h =>
    obtain ⟨h', hHa, hle⟩ :=
      sim_value hP hNV hstat hsim P.nbVars d a va b vb pa pb (Nat.le_add_left _ _) hra hrb (hdom.geItem hdim) h hH
    rw [hHa]
    simp only [EInt.addI, Option.map_some, EInt.some_le_some]
    omega

end Ddo.C10

#print axioms Ddo.C10.undomOpt_of_sim
#print axioms Ddo.C10.admissible_of_sim
