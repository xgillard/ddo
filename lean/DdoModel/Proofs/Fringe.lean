import DdoModel.Fringe
import DdoModel.Proofs.Icmp
/-! Helper lemmas for the fringe models: the comparator `MaxUB` read as a preorder `subLe`, heap
    order and root maximality, and the decidable well-formedness and heap-order predicates the driver
    evaluates on every state of every explored trace. -/
namespace Ddo

/-- `a` does not rank above `b` -/
def subLe (rank : Int → Int → Ordering) (a b : Sub) : Prop := subCmp rank a b ≠ .gt

/-- lexicographic reading of `MaxUB::compare` -/
theorem subLe_iff (rank : Int → Int → Ordering) (a b : Sub) :
    subLe rank a b ↔ (a.ub < b.ub ∨ (a.ub = b.ub ∧ (a.value < b.value ∨ (a.value = b.value ∧ rank a.state b.state ≠ .gt)))) := by
  unfold subLe subCmp
  rcases icmp_cases a.ub b.ub with ⟨h, e⟩ | ⟨h, e⟩ | ⟨h, e⟩
  · simp [e]; omega
  · rcases icmp_cases a.value b.value with ⟨hv, ev⟩ | ⟨hv, ev⟩ | ⟨hv, ev⟩
    · simp [e, ev]; omega
    · simp only [e, ev]
      exact ⟨fun hh => .inr ⟨h, .inr ⟨hv, hh⟩⟩, fun hh => by
        rcases hh with hh | ⟨_, hh | ⟨_, hh⟩⟩
        · omega
        · omega
        · exact hh⟩
    · simp [e, ev]; omega
  · simp [e]; omega

theorem subLe_trans (rank : Int → Int → Ordering)
    (hr : ∀ x y z, rank x y ≠ .gt → rank y z ≠ .gt → rank x z ≠ .gt)
    (a b c : Sub) (h1 : subLe rank a b) (h2 : subLe rank b c) : subLe rank a c := by
  rw [subLe_iff] at *
  rcases h1 with h1 | ⟨e1, h1⟩ <;> rcases h2 with h2 | ⟨e2, h2⟩
  · exact .inl (Int.lt_trans h1 h2)
  · exact .inl (e2 ▸ h1)
  · exact .inl (e1 ▸ h2)
  · refine .inr ⟨e1.trans e2, ?_⟩
    rcases h1 with h1 | ⟨f1, h1⟩ <;> rcases h2 with h2 | ⟨f2, h2⟩
    · exact .inl (Int.lt_trans h1 h2)
    · exact .inl (f2 ▸ h1)
    · exact .inl (f1 ▸ h2)
    · exact .inr ⟨f1.trans f2, hr _ _ _ h1 h2⟩

/-- a popped element that is `subLe`-maximal is in particular maximal for `(ub, value)`:
    non-increasing upper bounds, ties by larger value -/
theorem subLe_ub_value (rank : Int → Int → Ordering) (a b : Sub) (h : subLe rank a b) :
    a.ub < b.ub ∨ (a.ub = b.ub ∧ a.value ≤ b.value) := by
  rw [subLe_iff] at h
  rcases h with h | ⟨e, h⟩
  · left; exact h
  · right; refine ⟨e, ?_⟩; rcases h with h | ⟨h, _⟩ <;> omega

def NoDup.at? (f : NoDup) (p : Nat) : Option Sub :=
  match f.heap[p]? with
  | none => none
  | some id => f.nodes[id]?

/-- heap order: no element ranks above its parent (`(p - 1) / 2`, which is what `parent` computes) -/
def NoDup.HeapOrd (rank : Int → Int → Ordering) (f : NoDup) : Prop :=
  ∀ j, 0 < j → j < f.heap.length → ∀ a b, f.at? j = some a → f.at? ((j - 1) / 2) = some b → subLe rank a b

theorem hparent_eq (p : Nat) (h : 0 < p) : hparent p = (p - 1) / 2 := by
  unfold hparent; split
  · omega
  · split <;> omega

def NoDup.Total (f : NoDup) : Prop := ∀ j, j < f.heap.length → ∃ a, f.at? j = some a

theorem NoDup.root_max (rank : Int → Int → Ordering)
    (hr : ∀ x y z, rank x y ≠ .gt → rank y z ≠ .gt → rank x z ≠ .gt)
    (hrefl : ∀ x, rank x x ≠ .gt)
    (f : NoDup) (hord : f.HeapOrd rank) (htot : f.Total) (j : Nat) (hj : j < f.heap.length)
    (a r : Sub) (ha : f.at? j = some a) (hroot : f.at? 0 = some r) : subLe rank a r := by
  induction j using Nat.strongRecOn generalizing a with
  | _ j ih =>
    by_cases h0 : j = 0
    · subst h0; rw [ha] at hroot; injection hroot with e; subst e
      rw [subLe_iff]; right; exact ⟨rfl, Or.inr ⟨rfl, hrefl _⟩⟩
    · have hp : (j - 1) / 2 < j := by omega
      obtain ⟨b, hb⟩ := htot ((j - 1) / 2) (by omega)
      exact subLe_trans rank hr _ _ _ (hord j (by omega) hj a b ha hb) (ih _ hp (by omega) b hb)

def allLt (l : List Nat) (n : Nat) : Bool := l.all (fun x => decide (x < n))

/-- well-formedness of the concrete structure:
    heap ids are distinct and in range, `pos` inverts `heap`, the recycle bin and the heap
    partition the slots, `states` maps exactly the keys of the live nodes to their ids -/
def NoDup.wfB (f : NoDup) : Bool :=
  f.pos.length == f.nodes.length
  && allLt f.heap f.nodes.length
  && f.heap.Nodup
  && (List.range f.heap.length).all (fun p => match f.heap[p]? with
        | some id => f.pos[id]? == some p
        | none => false)
  && allLt f.bin f.nodes.length
  && f.bin.Nodup
  && f.bin.all (fun id => !f.heap.contains id)
  && (f.heap.length + f.bin.length == f.nodes.length)
  && (f.states.length == f.heap.length)
  && f.heap.all (fun id => match f.nodes[id]? with
        | some n => lookupKey f.states n.key == some id
        | none => false)
  && (f.states.map (·.1)).Nodup

def NoDup.heapOrdB (rank : Int → Int → Ordering) (f : NoDup) : Bool :=
  (List.range f.heap.length).all (fun j =>
    j == 0 || (match f.at? j, f.at? ((j - 1) / 2) with
      | some a, some b => subCmp rank a b != .gt
      | _, _ => false))

end Ddo
