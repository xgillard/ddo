import DdoModel.ParSys
import DdoModel.Proofs.SeqCache
import DdoModel.Proofs.ParSysSpec
/-! # The parallel solver WITH the threshold cache — the transition system (`parallel.rs` + `SimpleCache`)

`DdoModel/ParSys.lean` is the cache-less parallel solver.  Here the shared `SimpleCache` (a `DashMap` per layer: every
`get_threshold` / `update_threshold` / `clear_layer` is atomic, nothing more) is part of the state and **every single cache
access is a step of its own**, so that the interleavings of the system are those of the critical sections *and* of the
individual cache reads / writes that happen outside any lock or inside `get_workload` while other workers write:

* `get_workload(i)` holds the mutex over several steps (worker stages `gwC`, `gwP`, `gwW`; no other critical section is
  enabled meanwhile: `LockFree`; the lock-free steps of the other workers — ends of compilations, threshold writes — are):
  `gwEnter`; the cache-cleaning loop, one `clear_layer` per step (`gwClear`, condition of `clear_layer_safe_par`:
  `open_by_layer[fa] + ongoing_by_layer[fa] == 0`); `gwComplete` / `gwWait` / `gwToPop`; then the pop loop: `gwEmpty`
  (fringe empty after a refused node: `Starvation`), `gwStarve` (`nn.ub <= best_lb`: the fringe is cleared), `gwDrop`
  (`must_explore(nn)` — ONE atomic read — answered `false`: `open_by_layer[nn.depth] -= 1`, next pop), `gwKeep`
  (`must_explore(nn) = true`), and — a separate step, other workers may write the same cell in between — `gwTake`:
  `update_threshold(nn.state, nn.depth, nn.value, explored = true)` + the bookkeeping `ParCrit.take` + unlock.
  Every pop is a best-first pop (`ParSys.PopMax`, the `MaxUB` ranking: `gwStarve` clears the fringe on that basis).
* `process_one_node`: `readLbR`, the restricted compilation `compileR` (lock-free), its `update_threshold` calls one per
  step in call order (`writeR`, lock-free), `updateR` (`maybe_update_best`), `readLbX`, `compileX`, `writeX`, `updateX`,
  `enqueue` (`enqueue_cutset`, no cap: repair of D14), `notify`.
* **A compilation reads a cache that changes under it.**  The compilation of the diagram model takes the cache as a value;
  here the worker that ends a compilation (`compileR` / `compileX`) presents a *virtual* cache `cv` — what its reads
  answered — each of whose entries `(s, d) ↦ t` was the content of that cell of the shared cache at some moment between
  the worker's `best_lb()` (stage `compR` / `compX` entered, `k0` = length of the log then) and now: `FromLog`.  `log` is a
  ghost component: every content the shared cache ever had, newest first (head = current content).  Each cell is read at
  most once per compilation (one node per state and layer, one depth per layer), so the answers of one compilation are a
  function of the cell — `Proofs/ParCacheOracle.lean` proves that a compilation whose `j`-th read is answered by the
  `j`-th cache of an arbitrary sequence is the compilation against such a virtual cache.  Reads are not required to be
  consistent in time (a superset of the real behaviours).
* No cut-off (`NoCutoff`, as for the sequential caching theorem): `abort_search` is never called.
* Panics are explicit: `crash` is enabled exactly when the operation the worker is about to perform would panic
  (`Panics`: `Vec` index out of range in the cache or the counters, `usize` underflow); "never panics" = no reachable
  state has a `crashed` worker and `crashed = false` in the shared record.

`okR` / `okX` constrain what a compilation answers (node, incumbent read, virtual cache, what the solver reads, the
`update_threshold` calls in call order). -/
set_option linter.unusedSectionVars false
set_option linter.unusedVariables false
namespace Ddo.ParCache
open Ddo Ddo.C09 Ddo.ParSys
variable {S : Type} [DecidableEq S]

abbrev Up (S : Type) := S × Nat × Int × Bool

/-- worker-local state -/
inductive KW (S : Type)
  | idle                                              -- next: `get_workload`
  | waiting                                           -- parked in `monitor.wait`
  | done                                              -- left the loop (`Complete`)
  | crashed                                           -- panicked
  | gwC                                               -- in `get_workload`, holds the mutex: cleaning loop, then the tests
  | gwP                                               -- in `get_workload`, holds the mutex: about to test / pop the fringe
  | gwW (n : SubP S)                                  -- … `must_explore(n)` answered true; next: threshold write + bookkeeping
  | readR (n : SubP S)                                -- holds `n`; next: `best_lb()`
  | compR (n : SubP S) (lb : Int) (k0 : Nat)          -- restricted compilation in progress since the log had length `k0`
  | wrR (n : SubP S) (lb : Int) (o : DDOut S) (cv : Cache S) (ups todo : List (Up S))   -- `update_threshold` calls left: `todo`
  | readX (n : SubP S)
  | compX (n : SubP S) (lb : Int) (k0 : Nat)
  | wrX (n : SubP S) (lb : Int) (o : DDOut S) (cv : Cache S) (ups todo : List (Up S))
  | enq (n : SubP S) (lb : Int) (o : DDOut S) (cv : Cache S) (ups : List (Up S))        -- next: `enqueue_cutset()`
  | fin (n : SubP S)                                  -- next: `notify_node_finished`

/-- the worker holds the mutex of `Critical` over several steps -/
def KW.inGw : KW S → Bool
  | .gwC | .gwP | .gwW _ => true
  | _ => false

/-- the node taken (counted by `ongoing`): from `take` to `notify_node_finished` -/
def KW.node : KW S → Option (SubP S)
  | .readR n | .compR n _ _ | .wrR n _ _ _ _ _ | .readX n | .compX n _ _ | .wrX n _ _ _ _ _ | .enq n _ _ _ _ | .fin n => some n
  | _ => none

/-- the node in hand as long as it is *open* (popped and kept, not yet closed / handed back) -/
def KW.openNode : KW S → Option (SubP S)
  | .gwW n | .readR n | .compR n _ _ | .wrR n _ _ _ _ _ | .readX n | .compX n _ _ | .wrX n _ _ _ _ _ | .enq n _ _ _ _ => some n
  | _ => none

/-- an exact value found by a compilation and not yet published by `maybe_update_best` -/
def KW.pendVal : KW S → Option Int
  | .wrR _ _ o _ _ _ | .wrX _ _ o _ _ _ => o.bestExact
  | _ => none

/-- the cut-set of a finished relaxed compilation that is not exact, not yet enqueued -/
def KW.pendCut : KW S → List (SubP S)
  | .wrX _ _ o _ _ _ => if o.isExact then [] else o.cutset
  | .enq _ _ o _ _ => o.cutset
  | _ => []

def KW.holds (w : KW S) : Bool := w.node.isSome

def KW.wake : KW S → KW S
  | .waiting => .idle
  | w => w

/-- `wake` turns `waiting` into `idle` and nothing else: what does not tell the two apart does not see it -/
theorem KW.wake_congr {α : Sort _} (f : KW S → α) (h : f .idle = f .waiting) (w : KW S) : f w.wake = f w := by
  cases w <;> first | rfl | exact h

theorem KW.wake_openNode (w : KW S) : w.wake.openNode = w.openNode := KW.wake_congr KW.openNode rfl w

theorem KW.countP_wake (p : KW S → Bool) (h : p .idle = p .waiting) (ws : List (KW S)) :
    (ws.map KW.wake).countP p = ws.countP p := by
  rw [List.countP_map]
  exact congrArg (List.countP · ws) (funext (KW.wake_congr p h))

theorem countP_set_loss {α : Type} (p : α → Bool) {l : List α} {i : Nat} {w a : α} (hw : l[i]? = some w)
    (h1 : p w = true) (h2 : p a = false) : (l.set i a).countP p + 1 = l.countP p := by
  have := countP_set p a hw
  rw [h1, h2] at this
  exact this

theorem countP_set_gain {α : Type} (p : α → Bool) {l : List α} {i : Nat} {w a : α} (hw : l[i]? = some w)
    (h1 : p w = false) (h2 : p a = true) : (l.set i a).countP p = l.countP p + 1 := by
  have := countP_set p a hw
  rw [h1, h2] at this
  exact this

structure KSys (S : Type) where
  crit : ParCrit S
  cache : Cache S
  /-- ghost: every content the shared cache ever had, newest first (head = current content) -/
  log : List (Cache S)
  ws : List (KW S)

/-- `maximize()` after `initialize()` -/
def KSys.init (P : Problem S) (dedup : Bool) (U : Nat) : KSys S :=
  { crit := ParCrit.init P none dedup U, cache := Cache.init P.nbVars, log := [Cache.init P.nbVars],
    ws := List.replicate U .idle }

/-- nobody is inside `get_workload`: the mutex can be taken -/
def LockFree (s : KSys S) : Prop := ∀ w ∈ s.ws, w.inGw = false

/-- the condition of the cache-cleaning loop of the parallel `get_workload` -/
def cleanCond (nbVars : Nat) (c : ParCrit S) : Prop :=
  c.base.firstActive < nbVars ∧
    (c.base.openByLayer[c.base.firstActive]?.getD 1) + (c.ongoingByLayer[c.base.firstActive]?.getD 1) = 0

instance (nbVars : Nat) (c : ParCrit S) : Decidable (cleanCond nbVars c) := by unfold cleanCond; exact inferInstance

def bumpFirst (c : ParCrit S) : ParCrit S := { c with base := { c.base with firstActive := c.base.firstActive + 1 } }

/-- `nn.ub <= best_lb`: `fringe.clear()`, counters zeroed -/
def starve (c : ParCrit S) : ParCrit S :=
  { c with base := { c.base with fringe := [], openByLayer := c.base.openByLayer.map (fun _ => 0) } }

/-- a node refused by `must_explore`: `open_by_layer[nn.depth] -= 1`, the fringe is what is left -/
def dropOne (c : ParCrit S) (N : SubP S) (rest : List (SubP S)) : Option (ParCrit S) :=
  match decLayer c.base.openByLayer N.depth with
  | some l => some { c with base := { c.base with fringe := rest, openByLayer := l } }
  | none => none

theorem dropOne_eq {c c' : ParCrit S} {N : SubP S} {rest : List (SubP S)} (h : dropOne c N rest = some c') :
    ∃ l, decLayer c.base.openByLayer N.depth = some l ∧
      c' = { c with base := { c.base with fringe := rest, openByLayer := l } } := by
  unfold dropOne at h
  split at h
  · next l hl => exact ⟨l, hl, (Option.some.inj h).symm⟩
  · cases h

/-- every entry of the virtual cache `cv` is an entry of one of the `m` newest contents of the shared cache -/
def FromLog (cv : Cache S) (log : List (Cache S)) (m : Nat) : Prop :=
  ∀ s d t, viewOf cv s d = some t → ∃ c ∈ log.take m, viewOf c s d = some t

def upThr (u : Up S) : Thr := ⟨u.2.2.1, u.2.2.2⟩

/-- the operation the worker is about to perform panics -/
def Panics (nbVars : Nat) (s : KSys S) (i : Nat) : KW S → Prop
  | .gwC => cleanCond nbVars s.crit ∧ s.cache.clearLayer s.crit.base.firstActive = none
  | .gwP => ∃ N rest, PopMax s.crit.base.fringe N rest ∧ ¬ N.ub ≤ s.crit.base.bestLb ∧
      (s.cache.mustExplore N.state N.depth N.value = none ∨
        (s.cache.mustExplore N.state N.depth N.value = some false ∧ dropOne s.crit N rest = none))
  | .gwW n => s.cache.update n.state n.depth ⟨n.value, true⟩ = none ∨ s.crit.take i n = none
  | .wrR _ _ _ _ _ (u :: _) => s.cache.update u.1 u.2.1 (upThr u) = none
  | .wrX _ _ _ _ _ (u :: _) => s.cache.update u.1 u.2.1 (upThr u) = none
  | .fin n => s.crit.notifyFinished i n.depth = none
  | _ => False

inductive KStep (nbVars : Nat) (dedup : Bool)
    (okR okX : SubP S → Int → Cache S → DDOut S → List (Up S) → Prop) : KSys S → KSys S → Prop
  /- ### `get_workload(i)` -/
  | gwEnter (s : KSys S) (i : Nat) (hw : s.ws[i]? = some .idle) (hl : LockFree s) :
      KStep nbVars dedup okR okX s { s with ws := s.ws.set i .gwC }
  | gwClear (s : KSys S) (i : Nat) (c' : Cache S) (hw : s.ws[i]? = some .gwC) (hc : cleanCond nbVars s.crit)
      (hcl : s.cache.clearLayer s.crit.base.firstActive = some c') :
      KStep nbVars dedup okR okX s { s with crit := bumpFirst s.crit, cache := c', log := c' :: s.log }
  | gwComplete (s : KSys S) (i : Nat) (hw : s.ws[i]? = some .gwC) (hc : ¬ cleanCond nbVars s.crit)
      (ho : s.crit.ongoing = 0) (hf : s.crit.base.fringe = []) :
      KStep nbVars dedup okR okX s { s with crit := s.crit.complete, ws := s.ws.set i .done }
  | gwWait (s : KSys S) (i : Nat) (hw : s.ws[i]? = some .gwC) (hc : ¬ cleanCond nbVars s.crit)
      (ho : s.crit.ongoing ≠ 0) (hf : s.crit.base.fringe = []) :
      KStep nbVars dedup okR okX s { s with ws := s.ws.set i .waiting }
  | gwToPop (s : KSys S) (i : Nat) (hw : s.ws[i]? = some .gwC) (hc : ¬ cleanCond nbVars s.crit)
      (hf : s.crit.base.fringe ≠ []) :
      KStep nbVars dedup okR okX s { s with ws := s.ws.set i .gwP }
  | gwEmpty (s : KSys S) (i : Nat) (hw : s.ws[i]? = some .gwP) (hf : s.crit.base.fringe = []) :
      KStep nbVars dedup okR okX s { s with ws := s.ws.set i .idle }
  | gwStarve (s : KSys S) (i : Nat) (N : SubP S) (rest : List (SubP S)) (hw : s.ws[i]? = some .gwP)
      (hp : PopMax s.crit.base.fringe N rest) (hub : N.ub ≤ s.crit.base.bestLb) :
      KStep nbVars dedup okR okX s { s with crit := starve s.crit, ws := s.ws.set i .idle }
  | gwDrop (s : KSys S) (i : Nat) (N : SubP S) (rest : List (SubP S)) (c' : ParCrit S) (hw : s.ws[i]? = some .gwP)
      (hp : PopMax s.crit.base.fringe N rest) (hub : ¬ N.ub ≤ s.crit.base.bestLb)
      (hme : s.cache.mustExplore N.state N.depth N.value = some false) (hd : dropOne s.crit N rest = some c') :
      KStep nbVars dedup okR okX s { s with crit := c' }
  | gwKeep (s : KSys S) (i : Nat) (N : SubP S) (rest : List (SubP S)) (hw : s.ws[i]? = some .gwP)
      (hp : PopMax s.crit.base.fringe N rest) (hub : ¬ N.ub ≤ s.crit.base.bestLb)
      (hme : s.cache.mustExplore N.state N.depth N.value = some true) :
      KStep nbVars dedup okR okX s { s with crit := setFringe s.crit rest, ws := s.ws.set i (.gwW N) }
  | gwTake (s : KSys S) (i : Nat) (n : SubP S) (c' : Cache S) (crit' : ParCrit S) (hw : s.ws[i]? = some (.gwW n))
      (hu : s.cache.update n.state n.depth ⟨n.value, true⟩ = some c') (ht : s.crit.take i n = some crit') :
      KStep nbVars dedup okR okX s { crit := crit', cache := c', log := c' :: s.log, ws := s.ws.set i (.readR n) }
  /- ### `process_one_node` -/
  | readLbR (s : KSys S) (i : Nat) (n : SubP S) (hw : s.ws[i]? = some (.readR n)) (hl : LockFree s) :
      KStep nbVars dedup okR okX s
        { s with ws := s.ws.set i (if n.ub ≤ s.crit.readLb then .fin n else .compR n s.crit.readLb s.log.length) }
  | compileR (s : KSys S) (i : Nat) (n : SubP S) (lb : Int) (k0 : Nat) (cv : Cache S) (o : DDOut S) (ups : List (Up S))
      (hw : s.ws[i]? = some (.compR n lb k0)) (hcv : FromLog cv s.log (s.log.length + 1 - k0)) (hok : okR n lb cv o ups) :
      KStep nbVars dedup okR okX s { s with ws := s.ws.set i (.wrR n lb o cv ups ups) }
  | writeR (s : KSys S) (i : Nat) (n : SubP S) (lb : Int) (o : DDOut S) (cv : Cache S) (ups : List (Up S)) (u : Up S)
      (todo : List (Up S)) (c' : Cache S) (hw : s.ws[i]? = some (.wrR n lb o cv ups (u :: todo)))
      (hu : s.cache.update u.1 u.2.1 (upThr u) = some c') :
      KStep nbVars dedup okR okX s { s with cache := c', log := c' :: s.log, ws := s.ws.set i (.wrR n lb o cv ups todo) }
  | updateR (s : KSys S) (i : Nat) (n : SubP S) (lb : Int) (o : DDOut S) (cv : Cache S) (ups : List (Up S))
      (hw : s.ws[i]? = some (.wrR n lb o cv ups [])) (hl : LockFree s) :
      KStep nbVars dedup okR okX s
        { s with crit := s.crit.updateBest o, ws := s.ws.set i (if o.isExact then .fin n else .readX n) }
  | readLbX (s : KSys S) (i : Nat) (n : SubP S) (hw : s.ws[i]? = some (.readX n)) (hl : LockFree s) :
      KStep nbVars dedup okR okX s { s with ws := s.ws.set i (.compX n s.crit.readLb s.log.length) }
  | compileX (s : KSys S) (i : Nat) (n : SubP S) (lb : Int) (k0 : Nat) (cv : Cache S) (o : DDOut S) (ups : List (Up S))
      (hw : s.ws[i]? = some (.compX n lb k0)) (hcv : FromLog cv s.log (s.log.length + 1 - k0)) (hok : okX n lb cv o ups) :
      KStep nbVars dedup okR okX s { s with ws := s.ws.set i (.wrX n lb o cv ups ups) }
  | writeX (s : KSys S) (i : Nat) (n : SubP S) (lb : Int) (o : DDOut S) (cv : Cache S) (ups : List (Up S)) (u : Up S)
      (todo : List (Up S)) (c' : Cache S) (hw : s.ws[i]? = some (.wrX n lb o cv ups (u :: todo)))
      (hu : s.cache.update u.1 u.2.1 (upThr u) = some c') :
      KStep nbVars dedup okR okX s { s with cache := c', log := c' :: s.log, ws := s.ws.set i (.wrX n lb o cv ups todo) }
  | updateX (s : KSys S) (i : Nat) (n : SubP S) (lb : Int) (o : DDOut S) (cv : Cache S) (ups : List (Up S))
      (hw : s.ws[i]? = some (.wrX n lb o cv ups [])) (hl : LockFree s) :
      KStep nbVars dedup okR okX s
        { s with crit := s.crit.updateBest o, ws := s.ws.set i (if o.isExact then .fin n else .enq n lb o cv ups) }
  | enqueue (s : KSys S) (i : Nat) (n : SubP S) (lb : Int) (o : DDOut S) (cv : Cache S) (ups : List (Up S))
      (hw : s.ws[i]? = some (.enq n lb o cv ups)) (hl : LockFree s) :
      KStep nbVars dedup okR okX s { s with crit := s.crit.enqueue dedup o.cutset, ws := s.ws.set i (.fin n) }
  /- ### `notify_node_finished(i, depth)` -/
  | notify (s : KSys S) (i : Nat) (n : SubP S) (c' : ParCrit S) (hw : s.ws[i]? = some (.fin n)) (hl : LockFree s)
      (hn : s.crit.notifyFinished i n.depth = some c') :
      KStep nbVars dedup okR okX s { s with crit := c', ws := (s.ws.map KW.wake).set i .idle }
  /- ### a panic -/
  | crash (s : KSys S) (i : Nat) (w : KW S) (hw : s.ws[i]? = some w) (hp : Panics nbVars s i w) :
      KStep nbVars dedup okR okX s { s with ws := s.ws.set i .crashed }

inductive KRun (nbVars : Nat) (dedup : Bool) (okR okX : SubP S → Int → Cache S → DDOut S → List (Up S) → Prop) :
    KSys S → KSys S → Prop
  | refl (s : KSys S) : KRun nbVars dedup okR okX s s
  | tail {s t u : KSys S} : KRun nbVars dedup okR okX s t → KStep nbVars dedup okR okX t u → KRun nbVars dedup okR okX s u

/-- the `get_workload` of worker `i` answers `Complete` in `s` (it is inside the section, past the cleaning loop) -/
def CompletesAt (nbVars : Nat) (s : KSys S) (i : Nat) : Prop :=
  s.ws[i]? = some .gwC ∧ ¬ cleanCond nbVars s.crit ∧ s.crit.ongoing = 0 ∧ s.crit.base.fringe = []

/-- every worker has left its loop: `maximize()` returns -/
def AllDone (s : KSys S) : Prop := ∀ w ∈ s.ws, w = KW.done

def NoPanic (s : KSys S) : Prop := (∀ w ∈ s.ws, w ≠ KW.crashed) ∧ s.crit.base.crashed = false

/-- the contract parameters only matter at the worker that compiles -/
theorem KStep.mono {nbVars : Nat} {dedup : Bool} {okR okX okR' okX' : SubP S → Int → Cache S → DDOut S → List (Up S) → Prop}
    {s t : KSys S} (h : KStep nbVars dedup okR okX s t)
    (hR : ∀ (i : Nat) (n : SubP S) (lb : Int) (k0 : Nat) (cv : Cache S) (o : DDOut S) (ups : List (Up S)),
      s.ws[i]? = some (.compR n lb k0) → FromLog cv s.log (s.log.length + 1 - k0) → okR n lb cv o ups → okR' n lb cv o ups)
    (hX : ∀ (i : Nat) (n : SubP S) (lb : Int) (k0 : Nat) (cv : Cache S) (o : DDOut S) (ups : List (Up S)),
      s.ws[i]? = some (.compX n lb k0) → FromLog cv s.log (s.log.length + 1 - k0) → okX n lb cv o ups → okX' n lb cv o ups) :
    KStep nbVars dedup okR' okX' s t := by
  cases h with
  | gwEnter i hw hl => exact .gwEnter s i hw hl
  | gwClear i c' hw hc hcl => exact .gwClear s i c' hw hc hcl
  | gwComplete i hw hc ho hf => exact .gwComplete s i hw hc ho hf
  | gwWait i hw hc ho hf => exact .gwWait s i hw hc ho hf
  | gwToPop i hw hc hf => exact .gwToPop s i hw hc hf
  | gwEmpty i hw hf => exact .gwEmpty s i hw hf
  | gwStarve i N rest hw hp hub => exact .gwStarve s i N rest hw hp hub
  | gwDrop i N rest c' hw hp hub hme hd => exact .gwDrop s i N rest c' hw hp hub hme hd
  | gwKeep i N rest hw hp hub hme => exact .gwKeep s i N rest hw hp hub hme
  | gwTake i n c' crit' hw hu ht => exact .gwTake s i n c' crit' hw hu ht
  | readLbR i n hw hl => exact .readLbR s i n hw hl
  | compileR i n lb k0 cv o ups hw hcv hok => exact .compileR s i n lb k0 cv o ups hw hcv (hR i n lb k0 cv o ups hw hcv hok)
  | writeR i n lb o cv ups u todo c' hw hu => exact .writeR s i n lb o cv ups u todo c' hw hu
  | updateR i n lb o cv ups hw hl => exact .updateR s i n lb o cv ups hw hl
  | readLbX i n hw hl => exact .readLbX s i n hw hl
  | compileX i n lb k0 cv o ups hw hcv hok => exact .compileX s i n lb k0 cv o ups hw hcv (hX i n lb k0 cv o ups hw hcv hok)
  | writeX i n lb o cv ups u todo c' hw hu => exact .writeX s i n lb o cv ups u todo c' hw hu
  | updateX i n lb o cv ups hw hl => exact .updateX s i n lb o cv ups hw hl
  | enqueue i n lb o cv ups hw hl => exact .enqueue s i n lb o cv ups hw hl
  | notify i n c' hw hl hn => exact .notify s i n c' hw hl hn
  | crash i w hw hp => exact .crash s i w hw hp

theorem KRun.head {nbVars : Nat} {dedup : Bool} {okR okX : SubP S → Int → Cache S → DDOut S → List (Up S) → Prop}
    {s t u : KSys S} (h : KStep nbVars dedup okR okX s t) (r : KRun nbVars dedup okR okX t u) :
    KRun nbVars dedup okR okX s u := by
  induction r with
  | refl => exact .tail (.refl _) h
  | tail _ hs ih => exact .tail ih hs

theorem KRun.trans {nbVars : Nat} {dedup : Bool} {okR okX : SubP S → Int → Cache S → DDOut S → List (Up S) → Prop}
    {s t u : KSys S} (h1 : KRun nbVars dedup okR okX s t) (h2 : KRun nbVars dedup okR okX t u) :
    KRun nbVars dedup okR okX s u := by
  induction h2 with
  | refl => exact h1
  | tail _ hs ih => exact .tail ih hs

end Ddo.ParCache
