import DdoModel.Proofs.ParDomOSysDefs
import DdoModel.Proofs.ParDomProg
/-! # The parallel solver with the shared dominance checker — compilations that interleave ONE operation at a time: the proofs

`orun_inv`: along every run the projection on the workers is a run of `GStep` with the answers `okROp` / `okXOp`, the shared store
holds exactly reached items only, and every compilation in progress is in a reachable state (`oreach_finish`, `oreach_store`). -/
set_option linter.unusedSectionVars false
set_option linter.unusedVariables false
namespace Ddo.ParDom
open Ddo Ddo.Truth Ddo.Closed Ddo.ParSys Ddo.ParClosed Ddo.C10
open Ddo.C01 (SolverCfg WellFormed toOut SolOf)
variable {S K : Type} [DecidableEq S] [DecidableEq K]

/-- the progress states a compilation of `cfg` can be in when each of its operations ran on SOME store of exactly reached items -/
inductive OReach (dv : DSolverCfg S K) (cfg : Cfg S K) : OProg S K → Prop
  | init : OReach dv cfg (oprogOf dv cfg none)
  | enter (dd : DD S K) (k : Nat) (ops : List (Op S)) (var : Nat) : OReach dv cfg (.between dd k ops) →
      cfg.P.nextVar dd.depth (dd.next.map (·.state)) = some var → dd.next.isEmpty = false →
      OReach dv cfg (.inLayer (tick dd var) var ops
        (fdSorted dv.D (fcOf cfg (tick dd var)).1 (fcOf cfg (tick dd var)).2)
        ((fcOf cfg (tick dd var)).1, [], k, true, []))
  | op (dd : DD S K) (var : Nat) (ops : List (Op S)) (p : Nat) (rest : List Nat)
      (acc : List (Node S) × List Nat × Nat × Bool × List (Op S)) (st : DomStore S K) :
      OReach dv cfg (.inLayer dd var ops (p :: rest) acc) →
      StoreReach dv.D dv.sv.P st → st.layers.length = dv.sv.P.nbVars + 1 →
      OReach dv cfg (.inLayer dd var ops rest (fdStepO dv.D (fun _ => st) acc p))
  | leave (dd : DD S K) (var : Nat) (ops : List (Op S))
      (acc : List (Node S) × List Nat × Nat × Bool × List (Op S)) (dd' : DD S K) (k' : Nat) (ops' : List (Op S)) :
      OReach dv cfg (.inLayer dd var ops [] acc) →
      stepTailO cfg dd ops var (fcOf cfg dd) acc = (some (dd', k', ops'), .ok) →
      OReach dv cfg (.between dd' k' ops')

theorem stepLayerO_withStore (cfg : Cfg S K) (τ : Nat → DomStore S K) (dd : DD S K) (k : Nat) (ops : List (Op S)) (var : Nat)
    (x : DomStore S K) :
    stepLayerO cfg τ (withStore dd x) k ops var =
      match stepLayerO cfg τ dd k ops var with
      | (none, oc) => (none, oc)
      | (some (dd', k', ops'), oc) => (some (withStore dd' x, k', ops'), oc) := by
  by_cases hne : dd.next.isEmpty = true
  · unfold stepLayerO
    rw [if_pos hne, if_pos (show (withStore dd x).next.isEmpty = true from hne)]
    rfl
  · have hne' : dd.next.isEmpty = false := by simpa using hne
    rw [stepLayerO_unfold cfg τ dd k ops var hne', stepLayerO_unfold cfg τ (withStore dd x) k ops var hne']
    show stepTailO cfg (withStore dd x) ops var (fcOf cfg dd) (filterDomO cfg τ k (fcOf cfg dd).1 (fcOf cfg dd).2) = _
    generalize filterDomO cfg τ k (fcOf cfg dd).1 (fcOf cfg dd).2 = r
    unfold stepTailO
    by_cases ho : (!r.2.2.2.1) = true
    · rw [if_pos ho, if_pos ho]
    · rw [if_neg ho, if_neg ho, squash_withStore]
      cases squash cfg dd r.1 r.2.1 with
      | none => rfl
      | some sq => obtain ⟨a, b, c, d⟩ := sq; rfl

/-- the store field of the diagram the loop starts from is never read -/
theorem buildLoopO_withStore (cfg : Cfg S K) (τ : Nat → DomStore S K) (x : DomStore S K) :
    ∀ (fuel : Nat) (dd : DD S K) (k : Nat) (ops : List (Op S)),
    (buildLoopO cfg τ fuel (withStore dd x) k ops).2 = (buildLoopO cfg τ fuel dd k ops).2 ∧
    resultOf cfg (buildLoopO cfg τ fuel (withStore dd x) k ops).1.1 = resultOf cfg (buildLoopO cfg τ fuel dd k ops).1.1 := by
  intro fuel
  induction fuel with
  | zero => intro dd k ops; exact ⟨rfl, resultOf_withStore cfg dd x⟩
  | succ fuel ih =>
    intro dd k ops
    cases hnv : cfg.P.nextVar dd.depth (dd.next.map (·.state)) with
    | none =>
      rw [buildLoopO_stop cfg τ fuel dd k ops hnv, buildLoopO_stop cfg τ fuel (withStore dd x) k ops hnv]
      exact ⟨rfl, resultOf_withStore cfg { dd with log := Call.nextVar dd.depth (dd.next.map (·.state)) none :: dd.log } x⟩
    | some var =>
      rw [buildLoopO_step cfg τ fuel dd k ops var hnv, buildLoopO_step cfg τ fuel (withStore dd x) k ops var hnv]
      have e : tick (withStore dd x) var = withStore (tick dd var) x := rfl
      rw [e, stepLayerO_withStore]
      cases stepLayerO cfg τ (tick dd var) k ops var with
      | mk o oc =>
        cases o with
        | none => exact ⟨rfl, resultOf_withStore cfg (tick dd var) x⟩
        | some y =>
          obtain ⟨dd', k', ops'⟩ := y
          cases oc with
          | cutoff => exact ⟨rfl, resultOf_withStore cfg dd' x⟩
          | crash => exact ⟨rfl, resultOf_withStore cfg dd' x⟩
          | ok => exact ih dd' k' ops'

theorem stepTailO_k (cfg : Cfg S K) (dd : DD S K) (ops : List (Op S)) (var : Nat) (fc : List (Node S) × List Nat)
    (r : List (Node S) × List Nat × Nat × Bool × List (Op S)) (dd' : DD S K) (k' : Nat) (ops' : List (Op S)) (oc : Outcome)
    (hs : stepTailO cfg dd ops var fc r = (some (dd', k', ops'), oc)) : k' = r.2.2.1 := by
  unfold stepTailO at hs
  by_cases ho : (!r.2.2.2.1) = true
  · rw [if_pos ho] at hs; cases hs
  · rw [if_neg ho] at hs
    cases hsq : squash cfg dd r.1 r.2.1 with
    | none => rw [hsq] at hs; cases hs
    | some sq =>
      obtain ⟨l', c', lg, lel⟩ := sq
      rw [hsq] at hs
      simp only [Prod.mk.injEq, Option.some.injEq] at hs
      exact hs.1.2.1.symm

/-- a step of the filter reads the oracle at the counter only, and only for an exact node -/
theorem fdStepO_congr (D : DomRule S K) (τ1 τ2 : Nat → DomStore S K)
    (acc : List (Node S) × List Nat × Nat × Bool × List (Op S)) (p : Nat)
    (h : ∀ n, acc.1[p]? = some n → n.isExact = true → τ1 acc.2.2.1 = τ2 acc.2.2.1) :
    fdStepO D τ1 acc p = fdStepO D τ2 acc p := by
  unfold fdStepO
  cases hn : acc.1[p]? with
  | none => rfl
  | some n =>
    simp only
    by_cases he : n.isExact = true
    · rw [if_pos he, if_pos he, h n hn he]
    · rw [if_neg he, if_neg he]

/-- the counter moves by one exactly at the exact nodes -/
theorem fdStepO_ctr (D : DomRule S K) (τ : Nat → DomStore S K)
    (acc : List (Node S) × List Nat × Nat × Bool × List (Op S)) (p : Nat) :
    acc.2.2.1 ≤ (fdStepO D τ acc p).2.2.1 ∧
      ∀ n, acc.1[p]? = some n → n.isExact = true → (fdStepO D τ acc p).2.2.1 = acc.2.2.1 + 1 := by
  unfold fdStepO
  cases hn : acc.1[p]? with
  | none => exact ⟨Nat.le_refl _, fun n h => by cases h⟩
  | some m =>
    simp only
    by_cases he : m.isExact = true
    · rw [if_pos he]
      cases hq : DomStore.query D (τ acc.2.2.1) m.state m.depth m.value with
      | none => exact ⟨Nat.le_succ _, fun _ _ _ => rfl⟩
      | some x =>
        obtain ⟨st', dom, thr⟩ := x
        cases dom
        · exact ⟨Nat.le_succ _, fun _ _ _ => rfl⟩
        · exact ⟨Nat.le_succ _, fun _ _ _ => rfl⟩
    · rw [if_neg he]
      refine ⟨Nat.le_refl _, fun n h hx => ?_⟩
      injection h with h; subst h; exact absurd hx he

structure OIB (dv : DSolverCfg S K) (cfg : Cfg S K) (B : Int) (p0 : List Dec) (dd : DD S K) (k : Nat) (ops : List (Op S)) :
    Prop where
  minv : MInv cfg B p0 dd
  depth : dd.depth = cfg.root.depth + dd.layers.length
  len : dd.layers.length ≤ cfg.P.nbVars + 1
  sim : ∃ τ : Nat → DomStore S K, GoodStores dv τ ∧ ∀ τ' : Nat → DomStore S K, (∀ j, j < k → τ' j = τ j) → ∀ fuel : Nat,
    buildLoopO cfg τ' (dd.layers.length + fuel)
      (initDD cfg (Cache.init dv.sv.P.nbVars) (DomStore.init dv.sv.P.nbVars) 0) 0 [] = buildLoopO cfg τ' fuel dd k ops

structure OIL (dv : DSolverCfg S K) (cfg : Cfg S K) (B : Int) (p0 : List Dec) (dd : DD S K) (var : Nat) (ops : List (Op S))
    (rest : List Nat) (acc : List (Node S) × List Nat × Nat × Bool × List (Op S)) : Prop where
  ex : ∃ (dd0 : DD S K) (k : Nat), dd = tick dd0 var ∧ MInv cfg B p0 dd0 ∧ dd0.depth = cfg.root.depth + dd0.layers.length ∧
    dd0.layers.length ≤ cfg.P.nbVars + 1 ∧ cfg.P.nextVar dd0.depth (dd0.next.map (·.state)) = some var ∧
    dd0.next.isEmpty = false ∧ SubS acc.1 (fcOf cfg dd).1 ∧ OpsOf (fcOf cfg dd).1 acc.2.2.2.2 ∧
    ∃ τ : Nat → DomStore S K, GoodStores dv τ ∧ ∀ τ' : Nat → DomStore S K, (∀ j, j < acc.2.2.1 → τ' j = τ j) →
      (∀ fuel : Nat, buildLoopO cfg τ' (dd0.layers.length + fuel)
        (initDD cfg (Cache.init dv.sv.P.nbVars) (DomStore.init dv.sv.P.nbVars) 0) 0 [] = buildLoopO cfg τ' fuel dd0 k ops) ∧
      filterDomO cfg τ' k (fcOf cfg dd).1 (fcOf cfg dd).2 = rest.foldl (fdStepO dv.D τ') acc

def OI (dv : DSolverCfg S K) (cfg : Cfg S K) (B : Int) (p0 : List Dec) : OProg S K → Prop
  | .between dd k ops => OIB dv cfg B p0 dd k ops
  | .inLayer dd var ops rest acc => OIL dv cfg B p0 dd var ops rest acc

theorem oreach_oi (dv : DSolverCfg S K) (cfg : Cfg S K) (B : Int) (p0 : List Dec) (hD : cfg.dom = some dv.D)
    (hB : NoClamp cfg.P cfg.R cfg.root.value B) (hroot : Reach cfg.P cfg.root.depth cfg.root.state cfg.root.value p0)
    (hNV : NvBound cfg.P) {pr : OProg S K} (h : OReach dv cfg pr) : OI dv cfg B p0 pr := by
  induction h with
  | init =>
    show OIB dv cfg B p0 _ 0 []
    refine ⟨initDD_inv cfg B p0 hB hroot _ _ _, rfl, Nat.zero_le _, fun _ => DomStore.init dv.sv.P.nbVars,
      goodStores_const dv, fun τ' _ fuel => ?_⟩
    show buildLoopO cfg τ' (0 + fuel) _ 0 [] = _
    rw [Nat.zero_add]
  | enter dd k ops var hr hnv hne ih =>
    have ih : OIB dv cfg B p0 dd k ops := ih
    obtain ⟨hM, hdep, hl, τ, hτ, hsim⟩ := ih
    show OIL dv cfg B p0 _ _ _ _ _
    refine ⟨dd, k, rfl, hM, hdep, hl, hnv, hne, SubS.refl _, (show OpsOf _ _ from fun op hop => by cases hop), τ, hτ, fun τ' hag => ⟨?_, ?_⟩⟩
    · exact hsim τ' hag
    · exact filterDomO_eq cfg dv.D hD τ' k _ _
  | op dd var ops p rest acc st hr hst hlen ih =>
    have ih : OIL dv cfg B p0 dd var ops (p :: rest) acc := ih
    obtain ⟨dd0, k, hdd, hM, hdep, hl, hnv, hne, hsub, hops, τ, hτ, hsim⟩ := ih
    show OIL dv cfg B p0 _ _ _ _ _
    obtain ⟨c1, c2⟩ := fdStepO_ctr dv.D (fun _ => st) acc p
    obtain ⟨s1, s2⟩ := fdStepO_invR dv.D (fun _ => st) (fcOf cfg dd).1 acc p ⟨hsub, hops⟩
    refine ⟨dd0, k, hdd, hM, hdep, hl, hnv, hne, s1, s2, fun j => if j = acc.2.2.1 then st else τ j,
      goodStores_upd hτ _ hst hlen, fun τ' hag => ?_⟩
    obtain ⟨h1, h2⟩ := hsim τ' (fun j hj => (hag j (Nat.lt_of_lt_of_le hj c1)).trans (if_neg (Nat.ne_of_lt hj)))
    refine ⟨h1, ?_⟩
    rw [h2, List.foldl_cons]
    congr 1
    refine fdStepO_congr dv.D τ' (fun _ => st) acc p (fun n hn he => ?_)
    exact (hag acc.2.2.1 (c2 n hn he ▸ Nat.lt_succ_self _)).trans (if_pos rfl)
  | leave dd var ops acc dd' k' ops' hr hst ih =>
    have ih : OIL dv cfg B p0 dd var ops [] acc := ih
    obtain ⟨dd0, k, hdd, hM, hdep, hl, hnv, hne, hsub, hops, τ, hτ, hsim⟩ := ih
    subst hdd
    show OIB dv cfg B p0 dd' k' ops'
    have hk : k' = acc.2.2.1 := stepTailO_k cfg _ ops var _ acc dd' k' ops' .ok hst
    have hstep : ∀ τ' : Nat → DomStore S K, (∀ j, j < acc.2.2.1 → τ' j = τ j) →
        stepLayerO cfg τ' (tick dd0 var) k ops var = (some (dd', k', ops'), .ok) := by
      intro τ' hag
      rw [stepLayerO_unfold cfg τ' (tick dd0 var) k ops var hne, (hsim τ' hag).2]
      exact hst
    have hlt : dd0.depth < cfg.P.nbVars := nv_depth_lt hNV hnv
    obtain ⟨m1, m2, _⟩ := stepLayerO_inv cfg B p0 hB τ (tick dd0 var) k ops var (hM.congr rfl rfl) hdep hnv hl dd' k' ops' .ok
      (hstep τ (fun _ _ => rfl))
    obtain ⟨m2a, m2b⟩ := m2 rfl
    have m2b' : dd'.layers.length = dd0.layers.length + 1 := m2b
    have hl' : dd'.layers.length ≤ cfg.P.nbVars + 1 :=
      m2b' ▸ Nat.succ_le_succ (Nat.le_of_lt (Nat.lt_of_le_of_lt (hdep ▸ Nat.le_add_left _ _) hlt))
    refine ⟨m1, m2a, hl', τ, hτ, fun τ' hag fuel => ?_⟩
    have hag' : ∀ j, j < acc.2.2.1 → τ' j = τ j := fun j hj => hag j (hk ▸ hj)
    have h1 := (hsim τ' hag').1 (fuel + 1)
    rw [buildLoopO_step cfg τ' fuel dd0 k ops var hnv, hstep τ' hag'] at h1
    rw [m2b', Nat.add_assoc, Nat.add_comm 1]
    exact h1

/-- when the loop ends at a reachable progress state, the answer is a `compileOp` answer for some oracle of good
    stores -/
theorem oreach_finish {dv : DSolverCfg S K} {H : Nat → S → EInt} {B0 B : Int} (hwf : WellFormed dv.sv H B0 B)
    (ct : CompType) {N : SubP S} (hn : C01.NodeOk dv.sv.P N) (lb : Int) {dd fin : DD S K} {k : Nat} {ops : List (Op S)}
    (hr : OReach dv (dv.cfg ct N lb) (.between dd k ops))
    (hfin : ((dv.cfg ct N lb).P.nextVar dd.depth (dd.next.map (·.state)) = none ∧
          fin = { dd with log := Call.nextVar dd.depth (dd.next.map (·.state)) none :: dd.log }) ∨
        (∃ var, (dv.cfg ct N lb).P.nextVar dd.depth (dd.next.map (·.state)) = some var ∧ dd.next.isEmpty = true ∧
          fin = { tick dd var with layers := dd.layers ++ [[]] })) :
    ∃ τ, GoodStores dv τ ∧ (compileOp (dv.cfg ct N lb) (Cache.init dv.sv.P.nbVars) τ 0).1 = .ok ∧
      resultOf (dv.cfg ct N lb) fin = (compileOp (dv.cfg ct N lb) (Cache.init dv.sv.P.nbVars) τ 0).2.1 := by
  obtain ⟨p0, hroot, _⟩ := hn
  have hB : NoClamp dv.sv.P dv.sv.R N.value B := hwf.bound.noClamp_at hwf.nv hroot
  have hI : OIB dv (dv.cfg ct N lb) B p0 dd k ops := oreach_oi dv (dv.cfg ct N lb) B p0 rfl hB hroot hwf.nv hr
  obtain ⟨hM, hdep, hl, τ, hτ, hsim⟩ := hI
  refine ⟨τ, hτ, ?_⟩
  obtain ⟨f, hf⟩ := fuel_left (N := dv.sv.P.nbVars) hl
  have h1 := hsim τ (fun _ _ => rfl) (f + 1)
  rw [hf] at h1
  have hfin' : ∃ o, buildLoopO (dv.cfg ct N lb) τ (f + 1) dd k ops = ((fin, o), .ok) := by
    rcases hfin with ⟨hnv, rfl⟩ | ⟨var, hnv, hemp, rfl⟩
    · exact ⟨ops, buildLoopO_stop _ _ _ _ _ _ hnv⟩
    · refine ⟨ops, ?_⟩
      rw [buildLoopO_step _ _ _ _ _ _ var hnv]
      have : stepLayerO (dv.cfg ct N lb) τ (tick dd var) k ops var =
          (some ({ tick dd var with layers := (tick dd var).layers ++ [[]] }, k, ops), .cutoff) := by
        unfold stepLayerO
        rw [if_pos (show (tick dd var).next.isEmpty = true from hemp)]
      rw [this]
      rfl
  obtain ⟨o, ho⟩ := hfin'
  rw [ho] at h1
  have h2 := buildLoopO_withStore (dv.cfg ct N lb) τ (τ 0) (dv.sv.P.nbVars + 2)
    (initDD (dv.cfg ct N lb) (Cache.init dv.sv.P.nbVars) (DomStore.init dv.sv.P.nbVars) 0) 0 []
  rw [h1] at h2
  exact ⟨h2.1, h2.2.symm⟩

/-- the node an `op` step presents is an exact node reached exactly, so the shared store keeps holding exactly
    reached items -/
theorem oreach_store {dv : DSolverCfg S K} {H : Nat → S → EInt} {B0 B : Int} (hwf : WellFormed dv.sv H B0 B)
    (ct : CompType) {N : SubP S} (hn : C01.NodeOk dv.sv.P N) (lb : Int) {dd : DD S K} {var : Nat} {ops : List (Op S)} {p : Nat}
    {rest : List Nat} {acc : List (Node S) × List Nat × Nat × Bool × List (Op S)} {st : DomStore S K}
    (hr : OReach dv (dv.cfg ct N lb) (.inLayer dd var ops (p :: rest) acc))
    (hst : StoreReach dv.D dv.sv.P st) (hlen : st.layers.length = dv.sv.P.nbVars + 1) :
    StoreReach dv.D dv.sv.P (storeAfter dv.D st acc.1 p) ∧
      (storeAfter dv.D st acc.1 p).layers.length = dv.sv.P.nbVars + 1 := by
  obtain ⟨p0, hroot, _⟩ := hn
  have hB : NoClamp dv.sv.P dv.sv.R N.value B := hwf.bound.noClamp_at hwf.nv hroot
  have hI : OIL dv (dv.cfg ct N lb) B p0 dd var ops (p :: rest) acc :=
    oreach_oi dv (dv.cfg ct N lb) B p0 rfl hB hroot hwf.nv hr
  obtain ⟨dd0, k, hdd, hM, hdep, hl, hnv, hne, hsub, hops, _⟩ := hI
  subst hdd
  unfold storeAfter
  cases hn : acc.1[p]? with
  | none => exact ⟨hst, hlen⟩
  | some n =>
    simp only
    by_cases he : n.isExact = true
    · rw [if_pos he]
      cases hq : DomStore.query dv.D st n.state n.depth n.value with
      | none => exact ⟨hst, hlen⟩
      | some x =>
        obtain ⟨st', dom, thr⟩ := x
        obtain ⟨n1, h1, he1, hc1⟩ := hsub n (List.mem_of_getElem? hn)
        obtain ⟨n0, h0, he0, hc0⟩ := fcOf_subS (dv.cfg ct N lb) (tick dd0 var) n1 h1
        obtain ⟨q, _, hre, _, _⟩ := hM.next n0 h0 (he0.trans (he1.trans he))
        have hc := hc0.trans hc1
        have hreach : ∃ pp, Reach dv.sv.P n.depth n.state n.value pp := by
          refine ⟨p0 ++ q, ?_⟩
          rw [← hc.1, ← hc.2.1, ← hc.2.2.2]
          exact hre
        exact ⟨query_storeAll dv.D _ st st' n.state n.depth n.value dom thr hq hst hreach,
          (query_len dv.D st st' n.state n.depth n.value dom thr hq).trans hlen⟩
    · rw [if_neg he]; exact ⟨hst, hlen⟩

theorem oreach_of {dv : DSolverCfg S K} {ws : List (WSt S)} {prog : List (Option (OProg S K))}
    (hP : PInv dv (OReach dv) ws prog) {i : Nat} {w : WSt S} {cfg : Cfg S K} {pr : Option (OProg S K)}
    (hw : ws[i]? = some w) (hc : cfgOf dv w = some cfg) (hp : prog[i]? = some pr) : OReach dv cfg (oprogOf dv cfg pr) := by
  cases pr with
  | none => exact OReach.init
  | some pr0 => exact hP.reach i w _ pr0 hw hc hp

/-- along every run of the operation-interleaved system from its initial state: the projection reaches `t.sys` by a
    run of `GStep` with the answers `okROp`/`okXOp` (`enter`/`op`/`leave` steps are stuttering steps), the shared store holds
    exactly reached items only, and every compilation in progress is in a reachable state -/
theorem orun_inv {dv : DSolverCfg S K} {H : Nat → S → EInt} {B0 B opt : Int} {Prot : Nat → S → Int → Prop}
    {okR okX : SubP S → Int → DDOut S → Prop}
    (hwf : WellFormed dv.sv H B0 B) (hopt : (H 0 dv.sv.P.init).addI dv.sv.P.initVal = some opt)
    (hPr : Protected dv.D dv.sv.P H opt Prot) (hA : AnsOk dv B opt Prot (okROp dv) (okXOp dv))
    (U : Nat) {t : OSys S K} (h : ORun dv (OSys.init dv U) t) :
    GRun dv.sv.dedup (okROp dv) (okXOp dv) (Sys.init dv.sv.P none dv.sv.dedup U) t.sys ∧
    StoreReach dv.D dv.sv.P t.store ∧ t.store.layers.length = dv.sv.P.nbVars + 1 ∧
    PInv dv (OReach dv) t.sys.ws t.prog := by
  induction h with
  | refl => exact ⟨GRun.refl _, storeReach_init dv.D dv.sv.P _, by simp [OSys.init, DomStore.init], PInv.init U⟩
  | @tail s0 _ _ hstep ih =>
    obtain ⟨hrun, hs, hl, hP⟩ := ih
    have hI := grun_gall hwf hopt hPr hA hrun
    cases hstep with
    | sec t' h hna =>
      exact ⟨GRun.tail hrun ⟨step_mono h (fun _ _ _ _ _ hf => hf.elim) (fun _ _ _ _ _ hf => hf.elim), hna⟩, hs, hl,
        hP.sec h hna⟩
    | enter i w cfg pr dd k ops var hw hc hp hb hnv hne =>
      have hr : OReach dv cfg (.between dd k ops) := hb ▸ oreach_of hP hw hc hp
      exact ⟨hrun, hs, hl, hP.set hw hc hp (OReach.enter dd k ops var hr hnv hne)⟩
    | op i w cfg dd var ops p rest acc hw hc hp =>
      have hr : OReach dv cfg (.inLayer dd var ops (p :: rest) acc) := hP.reach i w _ _ hw hc hp
      obtain ⟨ct, n, lb, rfl, hn⟩ := cfgOf_nodeOk hI.pc hw hc
      obtain ⟨s1, s2⟩ := oreach_store hwf ct hn lb hr hs hl
      exact ⟨hrun, s1, s2, hP.set hw hc hp (OReach.op dd var ops p rest acc _ hr hs hl)⟩
    | leave i w cfg dd var ops acc dd' k' ops' hw hc hp hst =>
      have hr : OReach dv cfg (.inLayer dd var ops [] acc) := hP.reach i w _ _ hw hc hp
      exact ⟨hrun, hs, hl, hP.set hw hc hp (OReach.leave dd var ops acc dd' k' ops' hr hst)⟩
    | finish i w cfg pr dd k ops fin hw hc hp hb hfin =>
      have hr : OReach dv cfg (.between dd k ops) := hb ▸ oreach_of hP hw hc hp
      have hg := comp_gstep hI hw hc (o := toOut (resultOf cfg fin)) (fun ct n lb e hn => by
        subst e
        obtain ⟨τ, hτ, hok, heq⟩ := oreach_finish hwf ct hn lb hr hfin
        exact ⟨fun e => by subst e; exact ⟨τ, hτ, hok, by rw [heq]⟩, fun e => by subst e; exact ⟨τ, hτ, hok, by rw [heq]⟩⟩)
      exact ⟨GRun.tail hrun hg, hs, hl, hP.finish hw hp _⟩

end Ddo.ParDom
