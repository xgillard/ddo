import DdoModel.Dominance
import DdoModel.Proofs.Icmp
/-! Meaning of `partial_cmp` / `cmp` / the `retain` pass in terms of the componentwise order (`leB`, `geEnt`, `domEnt`), and
    one bucket after a history of presented pairs (`DomRule.bucketAfter`). -/
set_option linter.unusedSectionVars false
namespace Ddo
variable {S K : Type}

/-- pointwise `≤` on lists (compared up to the shorter length; equal lengths in all uses) -/
def leB : List Int → List Int → Bool
  | a :: as, b :: bs => decide (a ≤ b) && leB as bs
  | _, _ => true

theorem leB_refl (a : List Int) : leB a a = true := by
  induction a with
  | nil => rfl
  | cons x xs ih => simp [leB, ih]

theorem leB_trans {a b c : List Int} (hab : a.length = b.length) (h1 : leB a b = true) (h2 : leB b c = true) :
    leB a c = true := by
  induction a generalizing b c with
  | nil => cases c <;> simp [leB]
  | cons x xs ih =>
    cases b with
    | nil => simp at hab
    | cons y ys =>
      cases c with
      | nil => simp [leB]
      | cons z zs =>
        simp only [leB, Bool.and_eq_true, decide_eq_true_eq, List.length_cons, Nat.add_right_cancel_iff] at *
        exact ⟨Int.le_trans h1.1 h2.1, ih hab h1.2 h2.2⟩

theorem leB_antisymm {a b : List Int} (hab : a.length = b.length) (h1 : leB a b = true) (h2 : leB b a = true) : a = b := by
  induction a generalizing b with
  | nil => cases b with | nil => rfl | cons => simp at hab
  | cons x xs ih =>
    cases b with
    | nil => simp at hab
    | cons y ys =>
      simp only [leB, Bool.and_eq_true, decide_eq_true_eq, List.length_cons, Nat.add_right_cancel_iff] at *
      rw [ih hab h1.2 h2.2, Int.le_antisymm h1.1 h2.1]

theorem icompare_eq_icmp (a b : Int) : icompare a b = icmp a b := rfl

theorem icompare_lt {a b : Int} (h : a < b) : icompare a b = .lt :=
  (icompare_eq_icmp a b).trans ((icmp_lt_iff a b).mpr h)
theorem icompare_eq {a b : Int} (h : a = b) : icompare a b = .eq :=
  (icompare_eq_icmp a b).trans ((icmp_eq_iff a b).mpr h)
theorem icompare_gt {a b : Int} (h : b < a) : icompare a b = .gt := by
  rw [icompare_eq_icmp]
  rcases icmp_cases a b with ⟨h', _⟩ | ⟨h', _⟩ | ⟨_, e⟩
  · exact absurd h (Int.lt_asymm h')
  · exact absurd (h' ▸ h) (Int.lt_irrefl _)
  · exact e

theorem icompare_cases (a b : Int) :
    (icompare a b = .lt ∧ decide (a ≤ b) = true ∧ decide (b ≤ a) = false) ∨
    (icompare a b = .eq ∧ decide (a ≤ b) = true ∧ decide (b ≤ a) = true) ∨
    (icompare a b = .gt ∧ decide (a ≤ b) = false ∧ decide (b ≤ a) = true) := by
  rw [icompare_eq_icmp]
  rcases icmp_cases a b with ⟨h, e⟩ | ⟨h, e⟩ | ⟨h, e⟩
  · exact Or.inl ⟨e, decide_eq_true (Int.le_of_lt h), decide_eq_false (Int.not_le.mpr h)⟩
  · exact Or.inr (Or.inl ⟨e, decide_eq_true (Int.le_of_eq h), decide_eq_true (Int.le_of_eq h.symm)⟩)
  · exact Or.inr (Or.inr ⟨e, decide_eq_false (Int.not_le.mpr h), decide_eq_true (Int.le_of_lt h)⟩)

/-- the coordinate loop decides the componentwise order: started at `Equal` it returns the order of the two vectors, started at
    `Less` / `Greater` it confirms that order or gives up -/
theorem coordLoop_char (o : Ordering) (as bs : List Int) (h : as.length = bs.length) :
    coordLoop o as bs =
      match o with
      | .lt => if leB as bs then some .lt else none
      | .gt => if leB bs as then some .gt else none
      | .eq => if leB as bs then (if leB bs as then some .eq else some .lt) else if leB bs as then some .gt else none := by
  induction as generalizing bs o with
  | nil => cases bs <;> cases o <;> rfl
  | cons a as ih =>
    cases bs with
    | nil => cases h
    | cons b bs =>
      have h' : as.length = bs.length := Nat.succ.inj h
      rcases icompare_cases a b with ⟨e, e1, e2⟩ | ⟨e, e1, e2⟩ | ⟨e, e1, e2⟩ <;> cases o <;>
        simp only [coordLoop, leB, e, e1, e2, Bool.true_and, Bool.false_and, ih _ bs h', Bool.false_eq_true, if_false]

/-- an entry as the order sees it: coordinate vector and value -/
structure Ent where
  coords : List Int
  value : Int

/-- `a` is at least as good as `b` on every coordinate (and on the value when it is used) -/
def geEnt (uv : Bool) (a b : Ent) : Bool := leB b.coords a.coords && (!uv || decide (b.value ≤ a.value))
/-- strict dominance: at least as good everywhere and not the other way round -/
def domEnt (uv : Bool) (a b : Ent) : Bool := geEnt uv a b && !geEnt uv b a

theorem geEnt_refl (uv : Bool) (a : Ent) : geEnt uv a a = true := by simp [geEnt, leB_refl]

theorem geEnt_trans {uv : Bool} {a b c : Ent} (h1l : a.coords.length = b.coords.length) (h2l : b.coords.length = c.coords.length)
    (h1 : geEnt uv a b = true) (h2 : geEnt uv b c = true) : geEnt uv a c = true := by
  simp only [geEnt, Bool.and_eq_true, Bool.or_eq_true, Bool.not_eq_true', decide_eq_true_eq] at *
  refine ⟨leB_trans h2l.symm h2.1 h1.1, ?_⟩
  rcases h1.2 with h | h
  · exact Or.inl h
  · rcases h2.2 with h' | h'
    · exact Or.inl h'
    · exact Or.inr (Int.le_trans h' h)

theorem dom_ge_trans {uv : Bool} {a b c : Ent} (h1l : a.coords.length = b.coords.length) (h2l : b.coords.length = c.coords.length)
    (h1 : domEnt uv a b = true) (h2 : geEnt uv b c = true) : domEnt uv a c = true := by
  simp only [domEnt, Bool.and_eq_true, Bool.not_eq_true'] at *
  refine ⟨geEnt_trans h1l h2l h1.1 h2, ?_⟩
  cases hca : geEnt uv c a with
  | false => rfl
  | true => have := geEnt_trans h2l (h1l.trans h2l).symm h2 hca; simp_all

theorem ge_dom_trans {uv : Bool} {a b c : Ent} (h1l : a.coords.length = b.coords.length) (h2l : b.coords.length = c.coords.length)
    (h1 : geEnt uv a b = true) (h2 : domEnt uv b c = true) : domEnt uv a c = true := by
  simp only [domEnt, Bool.and_eq_true, Bool.not_eq_true'] at *
  refine ⟨geEnt_trans h1l h2l h1 h2.1, ?_⟩
  cases hca : geEnt uv c a with
  | false => rfl
  | true => have := geEnt_trans (h1l.trans h2l).symm h1l hca h1; simp_all

theorem domEnt_irrefl (uv : Bool) (a : Ent) : domEnt uv a a = false := by simp [domEnt]

/-- the entry the order sees for state `s` with value `v` (coordinates read with the dimension `n`) -/
def DomRule.ent (D : DomRule S K) (n : Nat) (s : S) (v : Int) : Ent := ⟨D.coordsN n s, v⟩

theorem DomRule.coordsN_len (D : DomRule S K) (n : Nat) (s : S) : (D.coordsN n s).length = n := by
  simp [DomRule.coordsN]

/-- **Meaning of `partial_cmp`** (all four outcomes and the `only_val_diff` flag). -/
theorem DomRule.partialCmp_char (D : DomRule S K) (a : S) (va : Int) (b : S) (vb : Int) :
    let ea := D.ent (D.dims a) a va
    let eb := D.ent (D.dims a) b vb
    D.partialCmp a va b vb =
      if geEnt D.useValue eb ea then
        (if geEnt D.useValue ea eb then some (.eq, false)
         else some (.lt, D.useValue && leB eb.coords ea.coords))
      else if geEnt D.useValue ea eb then some (.gt, D.useValue && leB ea.coords eb.coords)
      else none := by
  intro ea eb
  have hlen : (D.coordsN (D.dims a) a).length = (D.coordsN (D.dims a) b).length := by
    simp [DomRule.coordsN_len]
  simp only [DomRule.partialCmp, coordLoop_char .eq _ _ hlen, geEnt, ea, eb, DomRule.ent]
  cases h1 : leB (D.coordsN (D.dims a) a) (D.coordsN (D.dims a) b) <;>
  cases h2 : leB (D.coordsN (D.dims a) b) (D.coordsN (D.dims a) a) <;>
  cases huv : D.useValue <;>
  simp only [valueStep, if_true, Bool.true_and, Bool.false_and, Bool.not_true, Bool.not_false,
    Bool.false_or, Bool.true_or, Bool.and_true, Bool.and_false] <;>
  (try rfl) <;>
  (rcases icompare_cases va vb with ⟨e, e1, e2⟩ | ⟨e, e1, e2⟩ | ⟨e, e1, e2⟩ <;> simp [e, e1, e2])

end Ddo

namespace Ddo
variable {S K : Type}

/-- what the `retain` pass keeps: dominators of the query and entries incomparable with it -/
def keepPred (uv : Bool) (q o : Ent) : Bool := domEnt uv o q || !geEnt uv q o

section retain
variable (D : DomRule S K) (s : S) (v : Int)

/-- the entry of a stored pair, read with the dimension of the query state (as `partial_cmp` does) -/
def DomRule.entQ (o : S × Int) : Ent := D.ent (D.dims s) o.1 o.2

theorem DomRule.retain_char (b : Bucket S) :
    (D.retain s v b).1 = b.any (fun o => domEnt D.useValue (D.entQ s o) (D.entQ s (s, v))) ∧
    (D.retain s v b).2.2 = b.filter (fun o => keepPred D.useValue (D.entQ s (s, v)) (D.entQ s o)) := by
  induction b with
  | nil => simp [DomRule.retain]
  | cons o r ih =>
    have hc := D.partialCmp_char s v o.1 o.2
    simp only at hc
    simp only [DomRule.retain, List.any_cons, List.filter_cons, keepPred, domEnt, DomRule.entQ] at ih ⊢
    rw [hc]
    cases h1 : geEnt D.useValue (D.ent (D.dims s) o.1 o.2) (D.ent (D.dims s) s v) <;>
    cases h2 : geEnt D.useValue (D.ent (D.dims s) s v) (D.ent (D.dims s) o.1 o.2) <;>
    simp [ih.1, ih.2]

/-- every threshold term of a dominator is sound: the query value is below it, and any value
    below it is still dominated by the same entry -/
theorem DomRule.retain_thr (b : Bucket S) (hv : InI v) (hvals : ∀ o ∈ b, InI o.2) :
    ∃ t, (D.retain s v b).2.1 = some t ∧ v ≤ t ∧ t ≤ iMax ∧
      ((D.retain s v b).1 = true → D.useValue = true →
        ∃ o ∈ b, ∀ v', v' ≤ t → domEnt true (D.entQ s o) (D.entQ s (s, v')) = true) := by
  induction b with
  | nil => exact ⟨iMax, rfl, hv.2, Int.le_refl _, by simp [DomRule.retain]⟩
  | cons o r ih =>
    obtain ⟨t, ht, hvt, htm, hsound⟩ := ih (fun o' ho' => hvals o' (List.mem_cons_of_mem _ ho'))
    -- unless `o` dominates the query, threshold and verdict are those of the rest of the bucket
    have keep : ∃ t, (D.retain s v r).2.1 = some t ∧ v ≤ t ∧ t ≤ iMax ∧ ((D.retain s v r).1 = true → D.useValue = true →
        ∃ o' ∈ o :: r, ∀ v', v' ≤ t → domEnt true (D.entQ s o') (D.entQ s (s, v')) = true) := by
      refine ⟨t, ht, hvt, htm, fun hd huv => ?_⟩
      obtain ⟨o', ho', h'⟩ := hsound hd huv
      exact ⟨o', List.mem_cons_of_mem _ ho', h'⟩
    have hc := D.partialCmp_char s v o.1 o.2
    simp only at hc
    simp only [DomRule.retain]
    rw [hc]
    cases h1 : geEnt D.useValue (D.ent (D.dims s) o.1 o.2) (D.ent (D.dims s) s v) <;>
    cases h2 : geEnt D.useValue (D.ent (D.dims s) s v) (D.ent (D.dims s) o.1 o.2)
    · -- incomparable: kept, nothing changes
      simp only [Bool.false_eq_true, if_false]
      exact keep
    · simp only [Bool.false_eq_true, if_false, if_true]
      exact keep
    · -- `o` dominates the query
      simp only [if_true, Bool.false_eq_true, if_false]
      cases huv : D.useValue with
      | false =>
        simp only [Bool.false_and, Bool.false_eq_true, if_false]
        exact ⟨t, ht, hvt, htm, fun _ h => by cases h⟩
      | true =>
        simp only [Bool.true_and, if_true]
        have ho2 : InI o.2 := hvals o List.mem_cons_self
        rw [huv] at h1 h2
        simp only [geEnt, DomRule.ent, Bool.not_true, Bool.false_or, Bool.and_eq_true, Bool.and_eq_false_iff] at h1 h2
        simp only [DomRule.ent]
        have hvo : v ≤ o.2 := of_decide_eq_true h1.2
        by_cases hce : leB (D.coordsN (D.dims s) o.1) (D.coordsN (D.dims s) s) = true
        · -- coordinates equal: only the value differs, term = o.value − 1
          have hlt : v < o.2 := by
            rcases h2 with h2 | h2
            · rw [hce] at h2; cases h2
            · exact Int.not_le.mp (of_decide_eq_false h2)
          have hsat : satSub o.2 1 = o.2 - 1 := by
            unfold satSub; apply clamp_of_in; unfold InI iMin iMax at ho2 hv ⊢; omega
          simp only [ht, thrMin, hce, if_true, hsat]
          refine ⟨min t (o.2 - 1), rfl, Int.le_min.mpr ⟨hvt, Int.le_sub_one_of_lt hlt⟩,
            Int.le_trans (Int.min_le_left _ _) htm, fun _ _ => ⟨o, List.mem_cons_self, fun v' hv' => ?_⟩⟩
          simp only [domEnt, geEnt, DomRule.entQ, DomRule.ent, Bool.not_true, Bool.false_or, Bool.and_eq_true,
            Bool.not_eq_true', Bool.and_eq_false_iff]
          have e0 : v' ≤ o.2 - 1 := Int.le_trans hv' (Int.min_le_right _ _)
          have e1 : v' ≤ o.2 := Int.le_trans e0 (Int.sub_le_self _ (by decide))
          have e2 : ¬ o.2 ≤ v' := Int.not_le.mpr (Int.lt_of_le_sub_one e0)
          exact ⟨⟨h1.1, decide_eq_true e1⟩, Or.inr (decide_eq_false e2)⟩
        · have hce' : leB (D.coordsN (D.dims s) o.1) (D.coordsN (D.dims s) s) = false := by simpa using hce
          simp only [ht, thrMin, hce', Bool.false_eq_true, if_false]
          refine ⟨min t o.2, rfl, Int.le_min.mpr ⟨hvt, hvo⟩, Int.le_trans (Int.min_le_left _ _) htm,
            fun _ _ => ⟨o, List.mem_cons_self, fun v' hv' => ?_⟩⟩
          simp only [domEnt, geEnt, DomRule.entQ, DomRule.ent, Bool.not_true, Bool.false_or, Bool.and_eq_true,
            Bool.not_eq_true', Bool.and_eq_false_iff]
          have e1 : v' ≤ o.2 := Int.le_trans hv' (Int.min_le_right _ _)
          exact ⟨⟨h1.1, decide_eq_true e1⟩, Or.inl hce'⟩
    · -- equal: dropped
      simp only [if_true]
      exact keep
end retain

end Ddo

namespace Ddo
variable {S K : Type}

section history
variable (D : DomRule S K) (n : Nat) (hdim : ∀ s, D.dims s = n)

/-- entry of a pair under the uniform dimension -/
def DomRule.entU (o : S × Int) : Ent := D.ent n o.1 o.2

theorem DomRule.entU_len (o : S × Int) : (D.entU n o).coords.length = n := by
  simp [DomRule.entU, DomRule.ent, DomRule.coordsN_len]

theorem DomRule.entQ_eq_entU (hdim : ∀ s, D.dims s = n) (s : S) (o : S × Int) : D.entQ s o = D.entU n o := by
  simp [DomRule.entQ, DomRule.entU, hdim s]

/-- bucket after a history of presented pairs (oldest first), starting from the empty bucket
    (`Entry::Vacant` = `bucketQuery` on the empty vector) -/
def DomRule.bucketAfter : List (S × Int) → Bucket S
  | [] => []
  | q :: hist => (D.bucketQuery q.1 q.2 (DomRule.bucketAfter hist)).1
-- NB: `hist` is given latest first

def Covers (uv : Bool) (ents hist : List Ent) : Prop := ∀ p ∈ hist, ∃ f ∈ ents, geEnt uv f p = true

theorem DomRule.bucketQuery_fst (s : S) (v : Int) (b : Bucket S) :
    (D.bucketQuery s v b).1 =
      if (D.retain s v b).1 then (D.retain s v b).2.2 else (D.retain s v b).2.2 ++ [(s, v)] := by
  simp only [DomRule.bucketQuery]; split <;> rfl

theorem DomRule.bucketQuery_dom (s : S) (v : Int) (b : Bucket S) :
    (D.bucketQuery s v b).2.1 = (D.retain s v b).1 := by
  simp only [DomRule.bucketQuery]; split <;> simp_all

theorem DomRule.bucketQuery_thr (s : S) (v : Int) (b : Bucket S) :
    (D.bucketQuery s v b).2.2 = if (D.retain s v b).1 then (D.retain s v b).2.1 else none := by
  simp only [DomRule.bucketQuery]; split <;> rfl

end history
end Ddo
