import DdoModel.Proofs.CacheClosedRestr
/-! Two structural facts about the diagram BUILT by a relaxed compilation (no dominance rule, width ≥ 1, with or without
    cache, whatever the cache holds, any `stopAt`):

* `built_distinct` (B1): in every layer, the nodes that are neither deleted nor pruned by the cache have pairwise
  distinct states.  The states of the layer under construction are distinct because `_branch_on` keys the children by
  their state; `_filter_with_cache` keeps the states; `_relax` deletes the nodes of `rest` and creates a merged node only
  when no kept node has the merged state (`recycled = none`) — that node may share its state with a deleted node or with
  a node pruned by the cache, hence the two exclusions; the expansion only writes `rub`.
* `built_filtered` (B2): a node of a layer `1 ≤ l` other than the last one, not pruned by the cache and not flagged
  relaxed, has a value strictly above the threshold the cache holds for its `(state, depth)`, if any: it survived
  `_filter_with_cache`, and `_relax` only raises values (through `append_edge_to!` on the merged node).

Both are read off an invariant `KInv` of the compilation loop (`buildLoop_kinv`).

They fill `KFacts.distinct` / `KFacts.filt` (read by `Ctx.cut_fresh_cache` / `Ctx.cut_fresh_ups` of `Proofs/CacheClosedCut.lean`).  The field `fresh`
of the closed caching solver is the instance of `fresh_contract_joint` (`Proofs/FreshJoint.lean`) instead: its distinctness fact `DistX` (among
the nodes *not flagged relaxed*) also survives the dominance checker; it takes from here `Filt`, `fold_nodup`, `fcNode_filt`, `relaxLayer_filt`,
`strip_flds`, `pos_of_nodup`, `fin_view`. -/
set_option linter.unusedSectionVars false
set_option linter.unusedVariables false

namespace Ddo.CacheClosedB
open Ddo Ddo.Bounds Ddo.Theta
variable {S K : Type} [DecidableEq S] [DecidableEq K]

theorem go_states (parent : Node S) (dst : S) (c : Int) (a : Arc) (nx : List (Node S)) :
    (branchOn.go parent dst c a nx).map (·.state) = nx.map (·.state) ∨
    (dst ∉ nx.map (·.state) ∧ (branchOn.go parent dst c a nx).map (·.state) = nx.map (·.state) ++ [dst]) := by
  induction nx with
  | nil =>
    right
    refine ⟨List.not_mem_nil, ?_⟩
    rw [Cover.go_nil]
    simp only [List.map_cons, List.map_nil, Cover.appendEdge_state, Cover.freshNode, List.nil_append]
  | cons n r ih =>
    rw [Cover.go_cons]
    by_cases h : n.state = dst
    · left
      rw [if_pos h]
      simp only [List.map_cons, Cover.appendEdge_state]
    · rw [if_neg h]
      rcases ih with ih | ⟨ih1, ih2⟩
      · left
        simp only [List.map_cons, ih]
      · right
        refine ⟨?_, by simp only [List.map_cons, ih2, List.cons_append]⟩
        intro hm
        simp only [List.map_cons] at hm
        rcases List.mem_cons.mp hm with hm | hm
        · exact h hm.symm
        · exact ih1 hm

theorem go_nodup (parent : Node S) (dst : S) (c : Int) (a : Arc) (nx : List (Node S))
    (h : (nx.map (·.state)).Nodup) : ((branchOn.go parent dst c a nx).map (·.state)).Nodup := by
  rcases go_states parent dst c a nx with e | ⟨hn, e⟩
  · rw [e]; exact h
  · rw [e]
    refine List.nodup_append.mpr ⟨h, List.nodup_cons.mpr ⟨List.not_mem_nil, List.nodup_nil⟩, ?_⟩
    intro x hx y hy hxy
    rw [List.mem_singleton] at hy
    exact hn (hy ▸ hxy ▸ hx)

theorem branchAll_nodup (cfg : Cfg S K) (var lidx p : Nat) (n' : Node S) (ds : List Int)
    (acc : List (Node S) × List (Call S)) (h : (acc.1.map (·.state)).Nodup) :
    ((Cover.branchAll cfg var lidx p n' ds acc).1.map (·.state)).Nodup := by
  induction ds generalizing acc with
  | nil => exact h
  | cons d ds ih =>
    obtain ⟨nx, lg⟩ := acc
    rw [Cover.branchAll_cons]
    apply ih
    rw [Cover.branchOn_eq]
    exact go_nodup _ _ _ _ _ h

theorem expandOne_nodup (cfg : Cfg S K) (var lidx : Nat) (acc : List (Node S) × List (Node S) × List (Call S)) (p : Nat)
    (hh : (acc.2.1.map (·.state)).Nodup) : ((expandOne cfg var lidx acc p).2.1.map (·.state)).Nodup := by
  obtain ⟨ly, nx, lg⟩ := acc
  cases h : ly[p]? with
  | none => rw [Cover.expandOne_none _ _ _ _ _ _ _ h]; exact hh
  | some n =>
    rw [Cover.expandOne_some _ _ _ _ _ _ _ n h]
    split
    · exact branchAll_nodup _ _ _ _ _ _ (nx, _) hh
    · exact hh

theorem fold_nodup (cfg : Cfg S K) (var lidx : Nat) (cur : List Nat) (acc : List (Node S) × List (Node S) × List (Call S))
    (hh : (acc.2.1.map (·.state)).Nodup) : ((cur.foldl (expandOne cfg var lidx) acc).2.1.map (·.state)).Nodup :=
  Ddo.foldl_inv (fun b => (b.2.1.map (·.state)).Nodup) _ cur acc hh
    (fun b q _ hb => expandOne_nodup cfg var lidx b q hb)

theorem pos_of_nodup {α β : Type} (f : α → β) (l : List α) (h : (l.map f).Nodup) {p q : Nat} {n m : α}
    (hp : l[p]? = some n) (hq : l[q]? = some m) (e : f n = f m) : p = q := by
  have hlt : p < (l.map f).length := by rw [List.length_map]; exact Cover.lt_of_getElem?_some hp
  apply (List.getElem?_inj hlt h).mp
  rw [List.getElem?_map, List.getElem?_map, hp, hq, Option.map_some, Option.map_some, e]

/-- (B1) the nodes of the layer that are neither deleted nor pruned by the cache have pairwise distinct states -/
def DistL (ly : List (Node S)) : Prop :=
  ∀ (p q : Nat) (n m : Node S), ly[p]? = some n → ly[q]? = some m →
    n.cache = false → n.deleted = false → m.cache = false → m.deleted = false → n.state = m.state → p = q

/-- (B2) a node that is neither pruned by the cache nor flagged relaxed beats the cached threshold, if any -/
def Filt (cfg : Cfg S K) (cache : Cache S) (n : Node S) : Prop :=
  n.cache = false → n.fRelaxed = false → ∀ t, lookup cfg cache n = some t → n.value > t.value

theorem strip_flds {a b : Node S} (h : stripRub a = stripRub b) :
    a.state = b.state ∧ a.value = b.value ∧ a.depth = b.depth ∧ a.cache = b.cache ∧ a.deleted = b.deleted ∧
    a.fRelaxed = b.fRelaxed :=
  ⟨strip_congr stripRub Node.state (fun _ => rfl) h, strip_congr stripRub Node.value (fun _ => rfl) h,
    strip_congr stripRub Node.depth (fun _ => rfl) h, strip_congr stripRub Node.cache (fun _ => rfl) h,
    strip_congr stripRub Node.deleted (fun _ => rfl) h, strip_congr stripRub Node.fRelaxed (fun _ => rfl) h⟩

theorem Filt.of_strip {cfg : Cfg S K} {cache : Cache S} {a b : Node S} (h : stripRub a = stripRub b)
    (ha : Filt cfg cache a) : Filt cfg cache b := by
  obtain ⟨h1, h2, h3, h4, _, h6⟩ := strip_flds h
  have hlk : lookup cfg cache a = lookup cfg cache b := by unfold lookup; rw [h1, h3]
  intro hc hr t ht
  rw [← h2]
  exact ha (h4 ▸ hc) (h6 ▸ hr) t (hlk ▸ ht)

theorem DistL.of_rubEq {ly ly0 : List (Node S)} (h : RubEq ly ly0) (h0 : DistL ly0) : DistL ly := by
  intro p q n m hn hm hnc hnd hmc hmd hs
  obtain ⟨n0, hn0, sn⟩ := h.get hn
  obtain ⟨m0, hm0, sm⟩ := h.get hm
  obtain ⟨a1, _, _, a4, a5, _⟩ := strip_flds sn
  obtain ⟨b1, _, _, b4, b5, _⟩ := strip_flds sm
  exact h0 p q n0 m0 hn0 hm0 (a4 ▸ hnc) (a5 ▸ hnd) (b4 ▸ hmc) (b5 ▸ hmd) (by rw [a1, b1]; exact hs)

theorem fcNode_filt (cfg : Cfg S K) (cache : Cache S) (m : Node S) : Filt cfg cache (fcNode cfg cache m) := by
  unfold Filt fcNode
  cases hl : lookup cfg cache m with
  | none =>
    dsimp only
    intro _ _ t ht
    rw [hl] at ht
    cases ht
  | some t0 =>
    dsimp only
    by_cases hv : m.value > t0.value
    · rw [if_pos hv]
      intro _ _ t ht
      rw [hl] at ht
      cases ht
      exact hv
    · rw [if_neg hv]
      intro hc
      cases hc

theorem appendEdge_fRelaxed (p c : Node S) (a : Arc) : (appendEdge p c a).fRelaxed = c.fRelaxed :=
  Ddo.appendEdge_fRelaxed p c a

/-- (B2) through `_relax`: the values only go up, and only on the merged node -/
theorem relaxLayer_filt (cfg : Cfg S K) (cache : Cache S) (layers : List (List (Node S))) (layer : List (Node S))
    (cur : List Nat) (log : List (Call S)) (h : ∀ n ∈ layer, Filt cfg cache n) :
    ∀ n ∈ (relaxLayer cfg layers layer cur log).1, Filt cfg cache n := by
  refine relaxLayer_forallD (Filt cfg cache) cfg layers layer cur log ?_ ?_ ?_ ?_ h
  · intro _ hr; cases hr
  · intro n _ _ hr; cases hr
  · intro n b hn; exact hn
  · intro dropN _ e _ src m hm hc hr t ht
    obtain ⟨f1, _, _, _, f5, _, _⟩ := appendEdge_flds src m
      ⟨e.fromL, e.fromP, e.dec, cfg.R.relax src.state dropN.state (Cover.mergedOf cfg layer cur) e.dec e.cost⟩
    have hlk : lookup cfg cache (appendEdge src m
        ⟨e.fromL, e.fromP, e.dec, cfg.R.relax src.state dropN.state (Cover.mergedOf cfg layer cur) e.dec e.cost⟩) =
        lookup cfg cache m := by
      unfold lookup; rw [Cover.appendEdge_state, f1]
    rw [hlk] at ht
    rw [f5] at hc
    rw [appendEdge_fRelaxed] at hr
    have := hm hc hr t ht
    have := Cover.appendEdge_ge_old src m
      ⟨e.fromL, e.fromP, e.dec, cfg.R.relax src.state dropN.state (Cover.mergedOf cfg layer cur) e.dec e.cost⟩
    omega

/-- either `_relax` recycled a kept node (the layer keeps its length), or it created the merged node: then no kept node
    has the merged state, and the kept positions plus the new one are handed to the expansion -/
theorem relaxLayer_shape (cfg : Cfg S K) (layers : List (List (Node S))) (layer : List (Node S)) (cur : List Nat)
    (log : List (Call S)) :
    (relaxLayer cfg layers layer cur log).1.length = layer.length ∨
    (Cover.recycledOf cfg layer cur = none ∧
      (relaxLayer cfg layers layer cur log).2.1 = Cover.keepOf cfg layer cur ++ [layer.length]) := by
  refine relaxLayer_elimD cfg layers layer cur log (fun r => r.1.length = layer.length ∨
    (Cover.recycledOf cfg layer cur = none ∧ r.2.1 = Cover.keepOf cfg layer cur ++ [layer.length])) ?_ ?_
  · intro h lg
    exact .inr ⟨h, rfl⟩
  · intro mp _ lg
    left
    dsimp only
    rw [(Cover.undelete_ext mp _ _).len, (Cover.outer_ext cfg layers _ mp _ _).len]
    dsimp only
    rw [(Cover.markRelaxed_ext mp layer mp).len]

theorem relaxLayer_dist (cfg : Cfg S K) (layers : List (List (Node S))) (layer : List (Node S)) (cur : List Nat)
    (log : List (Call S)) (hW : 1 ≤ cfg.width) (hlen : cur.length > cfg.width) (hcur : ∀ p ∈ cur, p < layer.length)
    (hnd : cur.Nodup) (hdel : ∀ q ∈ cur, ∀ n, layer[q]? = some n → n.deleted = false)
    (hout : ∀ q, q ∉ cur → ∀ n, layer[q]? = some n → n.cache = true)
    (hD : ∀ (p q : Nat) (n m : Node S), layer[p]? = some n → layer[q]? = some m → n.state = m.state → p = q) :
    DistL (relaxLayer cfg layers layer cur log).1 := by
  obtain ⟨p1, p2, p3⟩ := relaxLayer_pos cfg layers layer cur log hW hlen hcur hnd hdel
  have hfS := relaxLayer_fld Node.state (fun src m a => Cover.appendEdge_state src m a) (fun _ => rfl) (fun _ _ => rfl)
    cfg layers layer cur log
  have mixed : ∀ (q q0 : Nat) (m n m0 : Node S), (relaxLayer cfg layers layer cur log).1[q]? = some m →
      m.cache = false → m.deleted = false → layer[q]? = some m0 → m.state = m0.state →
      (relaxLayer cfg layers layer cur log).1[q0]? = some n → q0 = layer.length →
      n.state = Cover.mergedOf cfg layer cur → m.state = n.state → False := by
    intro q q0 m n m0 hm hmc hmd hm0 hsm hn hq0 hsn hs
    have hql : q < layer.length := Cover.lt_of_getElem?_some hm0
    have hq0l := Cover.lt_of_getElem?_some hn
    rcases relaxLayer_shape cfg layers layer cur log with hsh | ⟨hrec, hc'⟩
    · omega
    · rcases p3 q m hm hmd with hq | ⟨hq, _⟩
      · rw [hc'] at hq
        rcases List.mem_append.mp hq with hk | hk
        · have := List.find?_eq_none.mp hrec q hk
          rw [hm0] at this
          apply this
          dsimp only
          rw [decide_eq_true_eq, ← hsm, hs, hsn]
        · rw [List.mem_singleton] at hk; omega
      · rw [p1 q hq hql] at hm
        have := hout q hq m hm
        rw [hmc] at this
        cases this
  intro p q n m hn hm hnc hnd' hmc hmd hs
  rcases hfS p n hn with ⟨n0, hn0, hsn⟩ | ⟨hpL, hsn⟩ <;> rcases hfS q m hm with ⟨m0, hm0, hsm⟩ | ⟨hqL, hsm⟩
  · exact hD p q n0 m0 hn0 hm0 (by rw [← hsn, ← hsm]; exact hs)
  · exact (mixed p q n m n0 hn hnc hnd' hn0 hsn hm hqL hsm hs).elim
  · exact (mixed q p m n m0 hm hmc hmd hm0 hsm hn hpL hsn hs.symm).elim
  · rw [hpL, hqL]

structure KInv (cfg : Cfg S K) (cache : Cache S) (dd : DD S K) : Prop where
  cacheEq : dd.cache = cache
  nextD : (dd.next.map (·.state)).Nodup
  baseN : ∀ n ∈ dd.next, n.cache = false ∧ n.deleted = false
  distL : ∀ (i : Nat) ly, dd.layers[i]? = some ly → DistL ly
  filtL : ∀ (i : Nat) ly, 1 ≤ i → dd.layers[i]? = some ly → ∀ n ∈ ly, Filt cfg cache n

theorem KInv.congr {cfg : Cfg S K} {cache : Cache S} {dd dd' : DD S K} (h : KInv cfg cache dd)
    (h1 : dd'.layers = dd.layers) (h2 : dd'.next = dd.next) (h4 : dd'.cache = dd.cache) : KInv cfg cache dd' := by
  obtain ⟨a1, a2, a3, a4, a5⟩ := h
  exact ⟨by rw [h4]; exact a1, by rw [h2]; exact a2, by rw [h2]; exact a3, by rw [h1]; exact a4, by rw [h1]; exact a5⟩

/-- the loop stops on an empty layer: an empty layer is pushed -/
theorem KInv.pushEmpty {cfg : Cfg S K} {cache : Cache S} {dd dd' : DD S K} (h : KInv cfg cache dd)
    (h1 : dd'.layers = dd.layers ++ [[]]) (h2 : dd'.next = dd.next) (h4 : dd'.cache = dd.cache) : KInv cfg cache dd' := by
  obtain ⟨a1, a2, a3, a4, a5⟩ := h
  refine ⟨by rw [h4]; exact a1, by rw [h2]; exact a2, by rw [h2]; exact a3, ?_, ?_⟩
  · intro i ly hi
    rw [h1] at hi
    rcases getElem?_append_singleton_cases hi with hi | ⟨_, rfl⟩
    · exact a4 i ly hi
    · intro p q n m hn; simp at hn
  · intro i ly h1i hi
    rw [h1] at hi
    rcases getElem?_append_singleton_cases hi with hi | ⟨_, rfl⟩
    · exact a5 i ly h1i hi
    · intro n hn; cases hn

theorem fc_facts (cfg : Cfg S K) (cache : Cache S) (dd : DD S K) (layer : List (Node S)) (cur : List Nat)
    (hI : KInv cfg cache dd) (hfc : FcDesc cfg cache dd layer cur) :
    (layer.map (·.state)).Nodup ∧ cur.Nodup ∧ (∀ p ∈ cur, p < layer.length) ∧
    (∀ q ∈ cur, ∀ n, layer[q]? = some n → n.deleted = false) ∧
    (∀ q, q ∉ cur → ∀ n, layer[q]? = some n → n.cache = true) := by
  obtain ⟨g, keep, hlay, hcur, hnd, hg, _⟩ := hfc
  have hget : ∀ (q : Nat) n, layer[q]? = some n → ∃ m, dd.next[q]? = some m ∧ n = g m :=
    fun q n hn => getElem?_map_some (hlay ▸ hn)
  have hsame : ∀ m, (g m).state = m.state ∧ (g m).deleted = m.deleted := by
    intro m
    rcases hg m with ⟨_, h⟩ | ⟨_, t, _, _, h⟩
    · rw [h]; exact ⟨rfl, rfl⟩
    · rw [h]; exact ⟨rfl, rfl⟩
  have hlen : layer.length = dd.next.length := by rw [hlay, List.length_map]
  refine ⟨?_, hnd, ?_, ?_, ?_⟩
  · have e : layer.map (·.state) = dd.next.map (·.state) := by
      rw [hlay, List.map_map]
      apply List.map_congr_left
      intro m _
      exact (hsame m).1
    rw [e]; exact hI.nextD
  · intro p hp
    obtain ⟨n, hn, _⟩ := (hcur p).mp hp
    rw [hlen]; exact Cover.lt_of_getElem?_some hn
  · intro q _ n hn
    obtain ⟨m, hm, rfl⟩ := hget q n hn
    rw [(hsame m).2]
    exact (hI.baseN m (List.mem_of_getElem? hm)).2
  · intro q hq n hn
    obtain ⟨m, hm, rfl⟩ := hget q n hn
    rcases hg m with ⟨hk, _⟩ | ⟨_, t, _, _, h⟩
    · exact absurd ((hcur q).mpr ⟨m, hm, hk⟩) hq
    · rw [h]

/-- a layer that is not the first one went through `_filter_with_cache` -/
theorem fc_filt (cfg : Cfg S K) (cache : Cache S) (dd : DD S K) (hI : KInv cfg cache dd) (hne : dd.layers ≠ []) :
    ∀ n ∈ (fcOf cfg dd).1, Filt cfg cache n := by
  have hemp : dd.layers.isEmpty = false := by
    cases h : dd.layers with
    | nil => exact absurd h hne
    | cons _ _ => rfl
  unfold fcOf
  rw [hemp]
  simp only [Bool.false_eq_true, if_false]
  rw [(filterCache_spec cfg dd.cache dd.next).1, hI.cacheEq]
  intro n hn
  obtain ⟨m, _, rfl⟩ := List.mem_map.mp hn
  exact fcNode_filt cfg cache m

theorem expand_kinv (cfg : Cfg S K) (cache : Cache S) (dd dd' : DD S K) (var : Nat) (layer' : List (Node S))
    (cur' : List Nat) (lg : List (Call S)) (hI : KInv cfg cache dd) (hD : DistL layer')
    (hF : dd.layers ≠ [] → ∀ n ∈ layer', Filt cfg cache n)
    (hl : dd'.layers = dd.layers ++ [(expandAll cfg var dd.layers.length layer' cur' lg).1])
    (hn : dd'.next = (expandAll cfg var dd.layers.length layer' cur' lg).2.1)
    (hc : dd'.cache = dd.cache) : KInv cfg cache dd' := by
  unfold expandAll at hl hn
  have hrub : RubEq (cur'.foldl (expandOne cfg var dd.layers.length) (layer', [], lg)).1 layer' :=
    fold_rubEq cfg var dd.layers.length cur' (layer', [], lg)
  refine ⟨by rw [hc]; exact hI.cacheEq, ?_, ?_, ?_, ?_⟩
  · rw [hn]
    exact fold_nodup cfg var dd.layers.length cur' (layer', [], lg) List.nodup_nil
  · rw [hn]
    refine fold_childrenP (fun m => m.cache = false ∧ m.deleted = false) (fun _ => True)
      cfg var dd.layers.length cur' (layer', [], lg) (fun _ _ h => h) ?_ ?_ (fun _ _ => True.intro)
      (fun m hm => absurd hm List.not_mem_nil)
    · intro q par d n _ ⟨q1, q2⟩
      obtain ⟨_, _, _, _, f5, f6, _⟩ := appendEdge_flds par n (Cover.arcOf cfg var dd.layers.length q par d)
      exact ⟨f5 ▸ q1, f6 ▸ q2⟩
    · intro q par d _
      obtain ⟨_, _, _, _, f5, f6, _⟩ := appendEdge_flds par (Cover.freshNode par (cfg.P.trans par.state ⟨var, d⟩)
        (cfg.P.cost par.state (cfg.P.trans par.state ⟨var, d⟩) ⟨var, d⟩)) (Cover.arcOf cfg var dd.layers.length q par d)
      exact ⟨by rw [f5]; rfl, by rw [f6]; rfl⟩
  · intro i ly hi
    rw [hl] at hi
    rcases getElem?_append_singleton_cases hi with hi | ⟨_, rfl⟩
    · exact hI.distL i ly hi
    · exact DistL.of_rubEq hrub hD
  · intro i ly h1i hi
    rw [hl] at hi
    rcases getElem?_append_singleton_cases hi with hi | ⟨hil, rfl⟩
    · exact hI.filtL i ly h1i hi
    · have hne : dd.layers ≠ [] := by
        intro h; rw [h] at hil; simp only [List.length_nil] at hil; omega
      intro n hnm
      obtain ⟨q, hq⟩ := List.mem_iff_getElem?.mp hnm
      obtain ⟨n0, h0, hs⟩ := hrub.get hq
      exact (hF hne n0 (List.mem_of_getElem? h0)).of_strip hs

theorem stepLayer_kinv (cfg : Cfg S K) (cache : Cache S) (hrel : cfg.ctype = .relaxed) (hdom : cfg.dom = none)
    (hW : 1 ≤ cfg.width) (dd : DD S K) (var : Nat) (hne : dd.next ≠ []) (hI : KInv cfg cache dd) :
    ∃ dd', stepLayer cfg dd var = (some dd', .ok) ∧ KInv cfg cache dd' := by
  have hdesc := fcOf_desc cfg dd
  rw [hI.cacheEq] at hdesc
  obtain ⟨f1, f2, f3, f4, f5⟩ := fc_facts cfg cache dd _ _ hI hdesc
  have hD0 : DistL (fcOf cfg dd).1 := fun p q n m hn hm _ _ _ _ hs => pos_of_nodup (·.state) _ f1 hn hm hs
  have hF0 : dd.layers ≠ [] → ∀ n ∈ (fcOf cfg dd).1, Filt cfg cache n := fc_filt cfg cache dd hI
  rcases squash_cases cfg dd (fcOf cfg dd).1 (fcOf cfg dd).2 hrel hW with ⟨_, hsq⟩ | ⟨c1, c2, hsq⟩
  · obtain ⟨dd', hst, hl, hn, _, hc, _⟩ := stepLayer_okT cfg dd var hne hdom _ hsq
    dsimp only at hl hn
    exact ⟨dd', hst, expand_kinv cfg cache dd dd' var _ _ dd.log hI hD0 hF0 hl hn hc⟩
  · obtain ⟨dd', hst, hl, hn, _, hc, _⟩ := stepLayer_okT cfg dd var hne hdom _ hsq
    dsimp only at hl hn
    refine ⟨dd', hst, expand_kinv cfg cache dd dd' var _ _ _ hI ?_ ?_ hl hn hc⟩
    · exact relaxLayer_dist cfg dd.layers _ _ dd.log hW c1 f3 f2 f4 f5
        (fun p q n m hn hm hs => pos_of_nodup (·.state) _ f1 hn hm hs)
    · intro hne'
      exact relaxLayer_filt cfg cache dd.layers _ _ dd.log (hF0 hne')

theorem buildLoop_kinv (cfg : Cfg S K) (cache : Cache S) (hrel : cfg.ctype = .relaxed) (hdom : cfg.dom = none)
    (hW : 1 ≤ cfg.width) (stopAt : Option Nat) :
    ∀ (fuel : Nat) (dd : DD S K), KInv cfg cache dd → KInv cfg cache (buildLoop cfg stopAt fuel dd).1 := by
  intro fuel dd hI
  have hstep : ∀ (dd dd' : DD S K) (var : Nat) (oc : Outcome), KInv cfg cache dd →
      stepLayer cfg dd var = (some dd', oc) → KInv cfg cache dd' := by
    intro dd dd' var oc h hst
    by_cases hne : dd.next = []
    · rw [stepLayer_empty cfg dd var hne] at hst
      cases hst
      exact h.pushEmpty rfl rfl rfl
    · obtain ⟨dd'', hst', hI'⟩ := stepLayer_kinv cfg cache hrel hdom hW dd var hne h
      rw [hst'] at hst
      cases hst
      exact hI'
  obtain ⟨_, _, h⟩ := CacheClosed.buildLoop_frame cfg stopAt (fun _ => KInv cfg cache)
    (fun _ _ _ h h1 h2 _ h4 => h.congr h1 h2 h4) (fun _ dd dd' var oc h _ hst => hstep dd dd' var oc h hst) fuel 0 dd hI
  exact h

theorem init_kinv (cfg : Cfg S K) (cache : Cache S) (store : DomStore S K) (polls : Nat) :
    KInv cfg cache (initDD cfg cache store polls) := by
  have hnext : (initDD cfg cache store polls).next =
      [{ state := cfg.root.state, value := cfg.root.value, depth := cfg.root.depth }] := rfl
  have hlay : (initDD cfg cache store polls).layers = [] := rfl
  refine ⟨rfl, ?_, ?_, ?_, ?_⟩
  · rw [hnext]
    exact List.nodup_cons.mpr ⟨List.not_mem_nil, List.nodup_nil⟩
  · intro n hn
    rw [hnext, List.mem_singleton] at hn
    subst hn
    exact ⟨rfl, rfl⟩
  · intro i ly hi; rw [hlay] at hi; simp at hi
  · intro i ly _ hi; rw [hlay] at hi; simp at hi

theorem fin_view (fin : DD S K) :
    (finalizeLayers fin).layers = fin.layers ++ [fin.next] ∨ ((finalizeLayers fin).layers = fin.layers ∧ fin.next = []) :=
  Theta.fin_view fin

theorem built_distinct (cfg : Cfg S K) (cache : Cache S) (store : DomStore S K) (polls : Nat) (stopAt : Option Nat)
    (hrel : cfg.ctype = .relaxed) (hdom : cfg.dom = none) (hW : 1 ≤ cfg.width)
    (hok : (buildLoop cfg stopAt (cfg.P.nbVars + 2) (initDD cfg cache store polls)).2 = .ok) :
    ∀ (l p q : Nat) (n m : Node S),
      getNode (finalizeLayers (buildLoop cfg stopAt (cfg.P.nbVars + 2) (initDD cfg cache store polls)).1).layers l p = some n →
      getNode (finalizeLayers (buildLoop cfg stopAt (cfg.P.nbVars + 2) (initDD cfg cache store polls)).1).layers l q = some m →
      n.cache = false → n.deleted = false → m.cache = false → m.deleted = false → n.state = m.state → p = q := by
  have hK := buildLoop_kinv cfg cache hrel hdom hW stopAt (cfg.P.nbVars + 2) (initDD cfg cache store polls)
    (init_kinv cfg cache store polls)
  generalize (buildLoop cfg stopAt (cfg.P.nbVars + 2) (initDD cfg cache store polls)).1 = fin at hK ⊢
  intro l p q n m hn hm hnc hnd hmc hmd hs
  have hv := fin_view fin
  rcases view_at hv l p n hn with ⟨ly, hly, hp⟩ | ⟨hl1, hp⟩ <;>
    rcases view_at hv l q m hm with ⟨ly', hly', hq⟩ | ⟨hl2, hq⟩
  · rw [hly] at hly'; cases hly'
    exact hK.distL l ly hly p q n m hp hq hnc hnd hmc hmd hs
  · have := Cover.lt_of_getElem?_some hly; omega
  · have := Cover.lt_of_getElem?_some hly'; omega
  · exact pos_of_nodup (·.state) _ hK.nextD hp hq hs

theorem built_filtered (cfg : Cfg S K) (cache : Cache S) (store : DomStore S K) (polls : Nat) (stopAt : Option Nat)
    (hrel : cfg.ctype = .relaxed) (hdom : cfg.dom = none) (hW : 1 ≤ cfg.width)
    (hok : (buildLoop cfg stopAt (cfg.P.nbVars + 2) (initDD cfg cache store polls)).2 = .ok) :
    ∀ (l p : Nat) (n : Node S) (t : Thr), 1 ≤ l →
      l + 1 < (finalizeLayers (buildLoop cfg stopAt (cfg.P.nbVars + 2) (initDD cfg cache store polls)).1).layers.length →
      getNode (finalizeLayers (buildLoop cfg stopAt (cfg.P.nbVars + 2) (initDD cfg cache store polls)).1).layers l p = some n →
      n.cache = false → n.deleted = false → n.fRelaxed = false → Ddo.Theta.lookup cfg cache n = some t → n.value > t.value := by
  have hK := buildLoop_kinv cfg cache hrel hdom hW stopAt (cfg.P.nbVars + 2) (initDD cfg cache store polls)
    (init_kinv cfg cache store polls)
  generalize (buildLoop cfg stopAt (cfg.P.nbVars + 2) (initDD cfg cache store polls)).1 = fin at hK ⊢
  intro l p n t h1 hlen hn hc _ hr ht
  have hv := fin_view fin
  have hle := finalizeLayers_len_le fin
  rcases view_at hv l p n hn with ⟨ly, hly, hp⟩ | ⟨hl1, _⟩
  · exact hK.filtL l ly h1 hly n (List.mem_of_getElem? hp) hc hr t ht
  · omega

end Ddo.CacheClosedB

#print axioms Ddo.CacheClosedB.built_distinct
#print axioms Ddo.CacheClosedB.built_filtered
