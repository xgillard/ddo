import DdoModel.Proofs.ThetaCtx
/-! What the finished diagram of a relaxed compilation says of its root and of the sub-problems it hands out, read through `CtxG`
    (`ThetaCtx.lean`).  The potential of the root is below the level, or carried by what the cache prunes, or a path leads to the
    terminal layer (`npj_all_at` of `ThetaCore.lean`); in the last case the cut-set holds a sub-problem with that potential unless an
    exact terminal node reaches it (C08 (iv); `PPath.cut_pos`, `Bounds.cut_handed` of `MddBounds.lean`).  The node behind a
    sub-problem of the cut-set and its upper bound (C08 (iii)) need two more facts about the built diagram, `KFactsJ`. -/
set_option linter.unusedSectionVars false
set_option linter.unusedVariables false
namespace Ddo.Theta

theorem le_satAdd {y a b : Int} (h : y ≤ a + b) (hy : y ≤ iMax) : y ≤ satAdd a b :=
  Pooled.le_satAdd h hy

end Ddo.Theta

namespace Ddo.C10d
open Ddo Ddo.C10 Ddo.C10c Ddo.Truth Ddo.Theta Ddo.Bounds Ddo.CacheClosed
variable {S K : Type} [DecidableEq S] [DecidableEq K]

section
variable {cfg : Cfg S K} {H : Nat → S → EInt} {B : Int} {cache : Cache S} {p0 : List Dec} {fin : DD S K}
  {Live Drop : Nat → Nat → Prop} {dd : DD S K} {O : Int}

/-- the root: its potential is `≤ lb`, or carried by what the cache prunes, or a potential-preserving path of the built
    diagram leads from the root to the terminal layer -/
theorem CtxG.root_np_at (hx : CtxG cfg H B cache O p0 fin Live Drop dd) (hR : RubOk cfg.R H) (hlb : cfg.lb < iMax)
    (M : Int) (hM0 : 0 ≤ M) (hMs : M + Cover.Bd B (cfg.P.nbVars + 1) ≤ big) (e : Bool)
    (hbkO : bkOf cfg.lb (finalize cfg (finalizeLayers fin) e).1.bestExactValue ≤ O)
    {O1 : Int} (hlb1 : cfg.lb ≤ O1)
    (hdrop1 : ∀ (l p : Nat) (n3 : Node S), getNode (finalize cfg (finalizeLayers fin) e).2 l p = some n3 → Drop l p →
      ∀ h, H (cfg.root.depth + l) n3.state = some h → n3.value + h ≤ O1)
    (h0 : Int) (hH0 : H cfg.root.depth cfg.root.state = some h0) :
    cfg.root.value + h0 ≤ O1 ∨ CacheAlt cfg H B M cache cfg.root.depth (cfg.root.value + h0) ∨
    ∃ n0, getNode (finalizeLayers fin).layers 0 0 = some n0 ∧ n0.state = cfg.root.state ∧ n0.value = cfg.root.value ∧
      Path (finalizeLayers fin).layers H cfg.root.depth B 0 0 h0 dd.layers.length := by
  have hroot : ∃ n0, getNode (finalizeLayers fin).layers 0 0 = some n0 ∧ n0.state = cfg.root.state ∧
      n0.value = cfg.root.value ∧ n0.cache = false ∧ n0.deleted = false := by
    by_cases hemp : dd.layers = []
    · obtain ⟨n0, hn0, hs, hv⟩ := hx.bo.inv.root0 hemp
      have hmem : n0 ∈ dd.next := by rw [hn0]; exact List.mem_singleton.mpr rfl
      obtain ⟨_, hc, hd⟩ := hx.bo.inv.baseN n0 hmem
      have h1 := hx.bo.ofN 0 n0 (by rw [hn0]; rfl)
      simp only [hemp, List.length_nil] at h1
      exact ⟨n0, h1, hs, hv, hc, hd⟩
    · obtain ⟨ly, n0, hly, hn0, hs, hv, hc, hd, _⟩ := hx.bo.inv.root1 hemp
      exact ⟨n0, hx.bo.ofL 0 ly 0 n0 hly hn0, hs, hv, hc, hd⟩
  obtain ⟨n0, hn0, hs, hv, hc, hd⟩ := hroot
  obtain ⟨n1, n2, n3, _, _, hn3, hco⟩ := corr_of_L0 cfg (finalizeLayers fin) e hn0
  have hnp := npj_all_at (hx.ffj e) (hx.hypFJ hR hlb M hM0 hMs e hbkO) hlb1 hdrop1 dd.layers.length 0 0 n3 (Nat.zero_add _) hn3
    (by rw [hco.deleted]; exact hd) h0
    (by rw [Nat.add_zero, hco.state, hs]; exact hH0)
  rw [hco.value, hv] at hnp
  rcases hnp with g | g | g
  · exact .inl g
  · exact .inr (.inl (hx.cache_deeper e hn3 (by rw [hco.cache]; exact hc) g))
  · right; right
    refine ⟨n0, hn0, hs, hv, ?_⟩
    rw [Nat.sub_zero] at g
    exact g.of_xEq (finalize_layers_xEq cfg (finalizeLayers fin) e).symm

theorem CtxG.path_end (hx : CtxG cfg H B cache O p0 fin Live Drop dd) {l p : Nat} {h : Int} {r : Nat}
    (hp : Path (finalizeLayers fin).layers H cfg.root.depth B l p h r) (hlr : l + r = dd.layers.length)
    (n0 : Node S) (hn0 : getNode (finalizeLayers fin).layers l p = some n0) :
    ∃ pt tn, getNode (finalizeLayers fin).layers dd.layers.length pt = some tn ∧ tn ∈ dd.next ∧
      n0.value + h ≤ tn.value := by
  obtain ⟨pt, tn, htn, hv⟩ := hp.terminal n0 hn0
  rw [hlr] at htn
  rcases hx.bo.at_ _ pt tn htn with ⟨ly, hly, _⟩ | ⟨_, hpt⟩
  · exact absurd (Cover.lt_of_getElem?_some hly) (Nat.lt_irrefl _)
  · exact ⟨pt, tn, htn, List.mem_of_getElem? hpt, hv⟩

theorem CtxG.best_ge (hx : CtxG cfg H B cache O p0 fin Live Drop dd) (e : Bool) (tn : Node S) (hmem : tn ∈ dd.next) :
    ∃ bv, (finalize cfg (finalizeLayers fin) e).1.bestValue = some bv ∧ tn.value ≤ bv := by
  have hterm : tn ∈ (finalizeLayers fin).terminals := by rw [hx.bo.terms]; exact hmem
  obtain ⟨bv, hbv, hle⟩ := Cover.maxValue_ge _ tn hterm
  exact ⟨bv, hbv, hle⟩

/-- the best exact value dominates every exact terminal node (every terminal node when an exact best path is claimed) -/
theorem CtxG.bestExact_ge (hx : CtxG cfg H B cache O p0 fin Live Drop dd) (e : Bool) (tn : Node S) (hmem : tn ∈ dd.next)
    (hex : e = true ∨ tn.isExact = true) :
    ∃ w, (finalize cfg (finalizeLayers fin) e).1.bestExactValue = some w ∧ tn.value ≤ w := by
  rw [Bounds.finalize_bestExactValue]
  have hterm : tn ∈ (finalizeLayers fin).terminals := by rw [hx.bo.terms]; exact hmem
  cases e with
  | true =>
    obtain ⟨bv, hbv, hle⟩ := Cover.maxValue_ge _ tn hterm
    exact ⟨bv, by simp only [if_true]; exact hbv, hle⟩
  | false =>
    rcases hex with h | h
    · cases h
    · obtain ⟨bv, hbv, hle⟩ := Cover.maxValue_ge _ tn (List.mem_filter.mpr ⟨hterm, h⟩)
      exact ⟨bv, by simp only [Bool.false_eq_true, if_false]; exact hbv, hle⟩

/-- **C08 (iv) with cache, on `finalize`**: a potential-preserving path from the root to the terminal layer whose level `o` no
    exact terminal value reaches gives a cut-set node whose value plus potential is at least `o` -/
theorem CtxG.cover_of_path (hx : CtxG cfg H B cache O p0 fin Live Drop dd) (e : Bool) (o : Int)
    (n0 : Node S) (h0 : Int) (hn0 : getNode (finalizeLayers fin).layers 0 0 = some n0) (ho : o ≤ n0.value + h0)
    (hpath0 : Path (finalizeLayers fin).layers H cfg.root.depth B 0 0 h0 dd.layers.length)
    (hbe : ∀ be, (finalize cfg (finalizeLayers fin) e).1.bestExactValue = some be → be < o) :
    ∃ c ∈ (finalize cfg (finalizeLayers fin) e).1.cutset, ∃ y, (H c.depth c.state).addI c.value = some y ∧ o ≤ y := by
  obtain ⟨_, tn0, _, htmem0, _⟩ := hx.path_end hpath0 (Nat.zero_add _) n0 hn0
  have hne : dd.next ≠ [] := List.ne_nil_of_mem htmem0
  have hsame := hx.bo.same hne
  subst hsame
  rcases PPath.cut_pos cfg p0 fin hne hx.wf (fun k hk => (hx.inv2.lelSome k hk).1) (fun l p n hn => (hx.flags0 l p n hn).1)
    H B _ o n0 h0 _ hn0 ho hpath0.toPPath with ⟨tn, htn, hex, hv⟩ | ⟨l, p, n, h, r', hp, hn, hex, hv, hcs⟩
  · obtain ⟨w, hw, hle⟩ := hx.bestExact_ge e tn htn (.inr hex)
    exact absurd (hbe w hw) (Int.not_lt.mpr (Int.le_trans hv hle))
  · obtain ⟨n3, bv, tn, _, _, e1, e2, _, e5, hH, _, _, _, _, hc⟩ :=
      Bounds.cut_handed cfg B hx.nc hx.rel p0 fin hne hx.bo.len hx.wf e H l p n h _ hp.toPath hn hex hcs
    refine ⟨_, hc, n.value + h, ?_, hv⟩
    simp only [subOf]
    rw [e5, e1, e2, hH]
    simp only [EInt.addI, Option.map_some, Int.add_comm]

theorem CtxG.lenLS (hx : CtxG cfg H B cache O p0 fin Live Drop dd) (hne : dd.next ≠ []) :
    (finalizeLayers fin).layers.length = dd.layers.length + 1 := hx.bo.lenT hne

/-- **a node pruned by the cache (or deleted) is never marked**: a marked node below the terminal layer was expanded -/
theorem CtxG.marked_clean (hx : CtxG cfg H B cache O p0 fin Live Drop dd) (hk : KFactsJ fin Live)
    (e : Bool) (hne : dd.next ≠ []) (l p : Nat) (n3 : Node S)
    (hn : getNode (finalize cfg (finalizeLayers fin) e).2 l p = some n3) (hm : n3.marked = true)
    (hl : l < dd.layers.length) : n3.cache = false ∧ n3.deleted = false ∧ ¬ Drop l p := by
  obtain ⟨n0, n1, n2, hn0, _, _, hco⟩ := corr_of_L3 cfg (finalizeLayers fin) e hn
  rcases finalize_marked cfg (finalizeLayers fin) e hk.unmarked l p n3 hn hm with h | ⟨l', p', m, a, hmm, ha, hfl, hfp⟩
  · exact absurd (Nat.succ.inj (h.trans (hx.lenLS hne))) (Nat.ne_of_lt hl)
  · have hlv := hk.arcsLive l' p' m a hmm ha
    rw [hfl, hfp] at hlv
    rcases hx.bo.at_ l p n0 hn0 with ⟨ly, hly, hp⟩ | ⟨hl', _⟩
    · obtain ⟨hc, hd, hnd⟩ := (hx.bo.inv.clsL l p ly n0 hly hp).cur hlv
      exact ⟨by rw [hco.cache]; exact hc, by rw [hco.deleted]; exact hd, hnd⟩
    · exact absurd hl (hl' ▸ Nat.lt_irrefl _)

/-- **the node behind a sub-problem handed out by `drain_cutset`** -/
theorem CtxG.cut_node (hx : CtxG cfg H B cache O p0 fin Live Drop dd) (hk : KFactsJ fin Live)
    (e : Bool) (c : SubP S) (hc : c ∈ (finalize cfg (finalizeLayers fin) e).1.cutset) :
    ∃ (bv : Int) (l p : Nat) (n3 : Node S), (finalizeLayers fin).bestValue = some bv ∧ dd.next ≠ [] ∧
      getNode (finalize cfg (finalizeLayers fin) e).2 l p = some n3 ∧ 1 ≤ l ∧ l < dd.layers.length ∧
      n3.marked = true ∧ n3.cutset = true ∧ n3.isExact = true ∧ n3.cache = false ∧ n3.deleted = false ∧ ¬ Drop l p ∧
      c = subOf cfg (finalize cfg (finalizeLayers fin) e).2 bv n3 := by
  obtain ⟨bv, l, p, n3, hbv, hn, hl1, hl, hmk, hcut, hex, hceq⟩ :=
    cutset_node cfg p0 (finalizeLayers fin) e hx.rel hx.wf hx.flags0 c hc
  have hne : dd.next ≠ [] := by
    intro hnil
    unfold Built.bestValue at hbv
    rw [hx.bo.terms, hnil] at hbv
    cases hbv
  have hlen := hx.lenLS hne
  have hlt : l < dd.layers.length := by
    rcases hl with hl | ⟨hl, hl2⟩
    · rw [hlen] at hl; exact Nat.lt_of_succ_lt_succ hl
    · rcases hx.lel_ne hne with ⟨_, h3⟩ | h3 <;> omega
  obtain ⟨hcl, hdl, hnd⟩ := hx.marked_clean hk e hne l p n3 hn hmk hlt
  exact ⟨bv, l, p, n3, hbv, hne, hn, hl1, hlt, hmk, hcut, hex, hcl, hdl, hnd, hceq⟩

/-- **the field `ub` of the contract, on `finalize`**: the bound of a sub-problem of the cut-set dominates its potential
    when that potential beats `lb`, unless the cache cut the diagram strictly below it -/
theorem CtxG.cut_ub (hx : CtxG cfg H B cache O p0 fin Live Drop dd) (hk : KFactsJ fin Live)
    (hR : RubOk cfg.R H) (hlb : cfg.lb < iMax)
    (M : Int) (hM0 : 0 ≤ M) (hMs : M + Cover.Bd B (cfg.P.nbVars + 1) ≤ big) (e : Bool)
    (c : SubP S) (hc : c ∈ (finalize cfg (finalizeLayers fin) e).1.cutset)
    (hbkO : bkOf cfg.lb (finalize cfg (finalizeLayers fin) e).1.bestExactValue ≤ O)
    {O1 : Int} (hlb1 : cfg.lb ≤ O1)
    (hdrop1 : ∀ (l p : Nat) (n3 : Node S), getNode (finalize cfg (finalizeLayers fin) e).2 l p = some n3 → Drop l p →
      ∀ h, H (cfg.root.depth + l) n3.state = some h → n3.value + h ≤ O1)
    (y : Int) (hy : (H c.depth c.state).addI c.value = some y) (hgt : y > O1) :
    y ≤ c.ub ∨ CacheAlt cfg H B M cache c.depth y := by
  obtain ⟨bv, l, p, n3, hbv, hne, hn, hl1, hl, hmk, hcut, hex, hcl, hdl, hnd, rfl⟩ := hx.cut_node hk e c hc
  have hdep := hx.depth e l p n3 hn
  simp only [subOf] at hy ⊢
  rw [hdep] at hy
  obtain ⟨h, hH, hyv⟩ := addI_some hy
  have hyv' : y = n3.value + h := by rw [hyv, Int.add_comm]
  rcases npj_all_at (hx.ffj e) (hx.hypFJ hR hlb M hM0 hMs e hbkO) hlb1 hdrop1 (dd.layers.length - l) l p n3
    (Nat.add_sub_cancel' (Nat.le_of_lt hl)) hn hdl h hH with g | g | g
  · rw [hyv'] at hgt; exact absurd g (Int.not_le.2 hgt)
  · -- cut by the cache, strictly deeper (the node itself is not pruned)
    rw [hdep, hyv']
    exact .inr (hx.cache_deeper e hn hcl g)
  · -- a potential-preserving path to the terminal layer
    obtain ⟨n3', hn3', _, hvb⟩ := hx.good e l p n3 hn hcut l p h _ g
    rw [hn] at hn3'; cases hn3'
    obtain ⟨hrub, _⟩ := hx.liveN e l p n3 hn hdl hcl hl hnd
    have hrle : h ≤ n3.rub := by rw [hrub]; exact hR _ _ _ hH
    obtain ⟨n0, hn0, hs0⟩ := (finalize_layers_xEq cfg (finalizeLayers fin) e).getNode_some hn
    have hpLS := g.of_xEq (finalize_layers_xEq cfg (finalizeLayers fin) e).symm
    obtain ⟨pt, tn, _, htmem, hv⟩ := hx.path_end hpLS (Nat.add_sub_cancel' (Nat.le_of_lt hl)) n0 hn0
    obtain ⟨bv', hbv', hle⟩ := hx.best_ge e tn htmem
    have hbveq : bv' = bv := by
      have : (finalize cfg (finalizeLayers fin) e).1.bestValue = some bv := hbv
      rw [this] at hbv'; exact (Option.some.inj hbv').symm
    subst hbveq
    have hval : n0.value = n3.value := (stripB_fields hs0).2.1
    have hrng := hx.bo.inv.rngN tn htmem
    have hsm := Cover.Bd_small hx.nc.toDom hx.bo.len
    have hytn : y ≤ tn.value := by rw [hyv', ← hval]; exact hv
    have hyle : y ≤ iMax :=
      Int.le_trans hytn (Int.le_trans hrng.2 (Int.le_trans hsm (by unfold iMax; decide)))
    have h1 : y ≤ satAdd n3.value n3.rub := le_satAdd (by rw [hyv']; exact Int.add_le_add_left hrle _) hyle
    have h2 : y ≤ satAdd n3.value n3.vbot := le_satAdd (by rw [hyv']; exact Int.add_le_add_left hvb _) hyle
    exact .inl (Int.le_min.2 ⟨Int.le_min.2 ⟨h1, h2⟩, Int.le_trans hytn hle⟩)

end
end Ddo.C10d
