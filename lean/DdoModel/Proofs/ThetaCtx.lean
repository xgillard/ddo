import DdoModel.Proofs.ThetaCore
import DdoModel.Proofs.FinalizeSpec
/-! Stage 1 of C09: the finished diagram of a relaxed compilation read through the top-down invariant — assembly of `TInvJ`
    (`BuildInv.lean`, packaged as `BuiltOkJ`) and of the analyses of the bottom-up passes (`FinalizeSpec.lean`, `CutsetPasses.lean`,
    `computeLocalBounds_good`) into the facts `FFJ` of `ThetaCore.lean`, and soundness of the recorded thresholds on `finalize`
    (`CtxG.theta_sound_strict`).

The lemmas are stated for `CtxG`, which asks of the model only what the reading uses; a compilation with cache and dominance
checker (`CtxJ`, `CtxJ.toG`) and one with the cache alone (`Ddo.Theta.Ctx`, `Ctx.toG` in `Theta.lean`: no dropped position) are its
two instances. -/
set_option linter.unusedSectionVars false
set_option linter.unusedVariables false
namespace Ddo.Theta
open Ddo Ddo.Bounds
variable {S K : Type} [DecidableEq S] [DecidableEq K]

/-- the cache consulted by the compilation prunes, strictly deeper than `d`, a sub-problem whose potential is `≥ x` -/
def CacheAlt (cfg : Cfg S K) (H : Nat → S → EInt) (B M : Int) (cache : Cache S) (d : Nat) (x : Int) : Prop :=
  cfg.useCache = true ∧ ∃ (s' : S) (d' : Nat) (t : Thr) (v' h' : Int), cache.get s' d' = some (some t) ∧ d < d' ∧
    Cover.Within (M + Cover.Bd B (d' - cfg.root.depth)) v' ∧ v' ≤ t.value ∧ H d' s' = some h' ∧ x ≤ v' + h'

theorem bkOf_ge (lb : Int) (be : Option Int) : lb ≤ bkOf lb be := by
  unfold bkOf; split <;> omega

theorem lookup_some {cfg : Cfg S K} {cache : Cache S} {n : Node S} {t : Thr} (h : lookup cfg cache n = some t) :
    cfg.useCache = true ∧ cache.get n.state n.depth = some (some t) := by
  unfold lookup at h
  split at h
  · rename_i hu
    refine ⟨hu, ?_⟩
    cases hg : cache.get n.state n.depth with
    | none => rw [hg] at h; cases h
    | some x => rw [hg, Option.getD_some] at h; rw [h]
  · cases h

theorem weaken_strict {cs : List (SubP S)} {d : Nat} {s : S} {R : SubP S → Prop}
    (h : ∃ c ∈ cs, (d < c.depth ∨ (c.depth = d ∧ c.state = s)) ∧ R c) : ∃ c ∈ cs, d ≤ c.depth ∧ R c := by
  obtain ⟨c, hc, hd, hR⟩ := h
  exact ⟨c, hc, hd.elim Nat.le_of_lt (fun e => Nat.le_of_eq e.1.symm), hR⟩

end Ddo.Theta

namespace Ddo.C10d
open Ddo Ddo.C10c Ddo.Truth Ddo.Theta Ddo.Bounds
variable {S K : Type} [DecidableEq S] [DecidableEq K]

/-- `Ddo.Theta.BuiltOk` with both filters: the finalized layers of `fin` are the layers of `dd` plus its layer under construction,
    and `dd` satisfies the invariant `TInvJ` -/
structure BuiltOkJ (cfg : Cfg S K) (H : Nat → S → EInt) (B : Int) (cache : Cache S) (O : Int) (fin : DD S K)
    (Live Drop : Nat → Nat → Prop) (dd : DD S K) : Prop where
  inv : TInvJ cfg H B cache O Live Drop dd
  at_ : ∀ (l p : Nat) (n : Node S), getNode (finalizeLayers fin).layers l p = some n →
    (∃ ly, dd.layers[l]? = some ly ∧ ly[p]? = some n) ∨ (l = dd.layers.length ∧ dd.next[p]? = some n)
  ofL : ∀ (l : Nat) ly (p : Nat) (n : Node S), dd.layers[l]? = some ly → ly[p]? = some n →
    getNode (finalizeLayers fin).layers l p = some n
  ofN : ∀ (p : Nat) (n : Node S), dd.next[p]? = some n → getNode (finalizeLayers fin).layers dd.layers.length p = some n
  termL : (finalizeLayers fin).termL = if dd.next.isEmpty then none else some dd.layers.length
  terms : (finalizeLayers fin).terminals = dd.next
  nv : dd.next ≠ [] → cfg.P.nextVar dd.depth (dd.next.map (·.state)) = none
  len : dd.layers.length ≤ cfg.P.nbVars + 1
  lenT : dd.next ≠ [] → (finalizeLayers fin).layers.length = dd.layers.length + 1
  lelEq : fin.lel = dd.lel
  same : dd.next ≠ [] → fin = dd
  lenB : (finalizeLayers fin).layers.length ≤ dd.layers.length + 1

/-- two more facts about the built diagram, needed for the bounds of the cut-set nodes only (`Ddo.CacheClosed.KFacts.unmarked`,
    `.arcsLive`): the top-down build marks nothing, and every inbound arc comes from a position that was handed to the expansion -/
structure KFactsJ (fin : DD S K) (Live : Nat → Nat → Prop) : Prop where
  unmarked : ∀ (l p : Nat) (n : Node S), getNode (finalizeLayers fin).layers l p = some n → n.marked = false
  arcsLive : ∀ (l p : Nat) (n : Node S) (a : Arc), getNode (finalizeLayers fin).layers l p = some n → a ∈ n.inb →
    Live a.fromL a.fromP

structure CtxJ (cfg : Cfg S K) (H : Nat → S → EInt) (B : Int) (cache : Cache S) (O : Int) (p0 : List Dec) (fin : DD S K)
    (Live Drop : Nat → Nat → Prop) (dd : DD S K) : Prop where
  hy : HypTJ cfg H B
  bo : BuiltOkJ cfg H B cache O fin Live Drop dd
  wf : CutWF cfg p0 (finalizeLayers fin).layers (finalizeLayers fin).lel
  inv2 : Inv2 cfg fin

/-- what the reading of the finished diagram rests on: `CtxJ` with the hypotheses on the model reduced to what is used
    (`potMax` only matters where the checker dropped something) -/
structure CtxG (cfg : Cfg S K) (H : Nat → S → EInt) (B : Int) (cache : Cache S) (O : Int) (p0 : List Dec) (fin : DD S K)
    (Live Drop : Nat → Nat → Prop) (dd : DD S K) : Prop where
  rel : cfg.ctype = .relaxed
  nc : NoClamp cfg.P cfg.R cfg.root.value B
  term : ∀ (k : Nat) (L : List S) (s : S) (h : Int), cfg.P.nextVar k L = none → s ∈ L → H k s = some h → h = 0
  potMax : ∀ l p, Drop l p → ∀ (k : Nat) (s : S) (h : Int), H k s = some h → h ≤ iMax
  bo : BuiltOkJ cfg H B cache O fin Live Drop dd
  wf : CutWF cfg p0 (finalizeLayers fin).layers (finalizeLayers fin).lel
  inv2 : Inv2 cfg fin

theorem CtxJ.toG {cfg : Cfg S K} {H : Nat → S → EInt} {B : Int} {cache : Cache S} {p0 : List Dec} {fin : DD S K}
    {Live Drop : Nat → Nat → Prop} {dd : DD S K} {O : Int} (hx : CtxJ cfg H B cache O p0 fin Live Drop dd) :
    CtxG cfg H B cache O p0 fin Live Drop dd :=
  ⟨hx.hy.rel, hx.hy.B, hx.hy.term, fun _ _ _ => hx.hy.potMax, hx.bo, hx.wf, hx.inv2⟩

section
variable {cfg : Cfg S K} {H : Nat → S → EInt} {B : Int} {cache : Cache S} {p0 : List Dec} {fin : DD S K}
  {Live Drop : Nat → Nat → Prop} {dd : DD S K} {O : Int}

/-- where a node of the final diagram sits in the diagram of the invariant -/
theorem CtxG.locate (hx : CtxG cfg H B cache O p0 fin Live Drop dd) (e : Bool) {l p : Nat} {n3 : Node S}
    (h : getNode (finalize cfg (finalizeLayers fin) e).2 l p = some n3) :
    ∃ n0 n1 n2, getNode (finalizeLayers fin).layers l p = some n0 ∧ getNode (fLayers1 cfg (finalizeLayers fin)) l p = some n1 ∧
      getNode (fLayers2 cfg (finalizeLayers fin)) l p = some n2 ∧ Corr n0 n1 n2 n3 ∧
      ((∃ ly, dd.layers[l]? = some ly ∧ ly[p]? = some n0 ∧ l < dd.layers.length) ∨ (l = dd.layers.length ∧ dd.next[p]? = some n0)) := by
  obtain ⟨n0, n1, n2, h0, h1, h2, hc⟩ := corr_of_L3 cfg (finalizeLayers fin) e h
  refine ⟨n0, n1, n2, h0, h1, h2, hc, ?_⟩
  rcases hx.bo.at_ l p n0 h0 with ⟨ly, hly, hp⟩ | h'
  · exact .inl ⟨ly, hly, hp, Cover.lt_of_getElem?_some hly⟩
  · exact .inr h'

theorem CtxG.lmax (hx : CtxG cfg H B cache O p0 fin Live Drop dd) (e : Bool) (l p : Nat) (n3 : Node S)
    (h : getNode (finalize cfg (finalizeLayers fin) e).2 l p = some n3) : l ≤ dd.layers.length := by
  obtain ⟨n0, n1, n2, _, _, _, _, hloc⟩ := hx.locate e h
  rcases hloc with ⟨_, _, _, hl⟩ | ⟨hl, _⟩
  · exact Nat.le_of_lt hl
  · exact Nat.le_of_eq hl

theorem CtxG.rng (hx : CtxG cfg H B cache O p0 fin Live Drop dd) (e : Bool) (l p : Nat) (n3 : Node S)
    (h : getNode (finalize cfg (finalizeLayers fin) e).2 l p = some n3) : Cover.Within (Cover.Bd B l) n3.value := by
  obtain ⟨n0, n1, n2, _, _, _, hc, hloc⟩ := hx.locate e h
  rw [hc.value]
  rcases hloc with ⟨ly, hly, hp, _⟩ | ⟨rfl, hp⟩
  · exact hx.bo.inv.rngL l ly hly n0 (List.mem_of_getElem? hp)
  · exact hx.bo.inv.rngN n0 (List.mem_of_getElem? hp)

theorem CtxG.depth (hx : CtxG cfg H B cache O p0 fin Live Drop dd) (e : Bool) (l p : Nat) (n3 : Node S)
    (h : getNode (finalize cfg (finalizeLayers fin) e).2 l p = some n3) : n3.depth = cfg.root.depth + l := by
  obtain ⟨n0, n1, n2, _, _, _, hc, hloc⟩ := hx.locate e h
  rw [hc.depth]
  rcases hloc with ⟨ly, hly, hp, _⟩ | ⟨rfl, hp⟩
  · exact (hx.bo.inv.baseL l p ly n0 hly hp).depth
  · rw [(hx.bo.inv.baseN n0 (List.mem_of_getElem? hp)).1.depth, hx.bo.inv.depth]

theorem CtxG.child (hx : CtxG cfg H B cache O p0 fin Live Drop dd) (e : Bool) {l p' : Nat} {m0 : Node S}
    (h : getNode (finalizeLayers fin).layers l p' = some m0) :
    ∃ m3, getNode (finalize cfg (finalizeLayers fin) e).2 l p' = some m3 ∧ m3.state = m0.state ∧ m3.value = m0.value ∧
      m3.inb = m0.inb ∧ m3.deleted = m0.deleted ∧ m3.cache = m0.cache := by
  obtain ⟨n1, n2, n3, _, _, h3, hc⟩ := corr_of_L0 cfg (finalizeLayers fin) e h
  exact ⟨n3, h3, hc.state, hc.value, hc.inb, hc.deleted, hc.cache⟩

theorem CtxG.liveN (hx : CtxG cfg H B cache O p0 fin Live Drop dd) (e : Bool) (l p : Nat) (n3 : Node S)
    (h : getNode (finalize cfg (finalizeLayers fin) e).2 l p = some n3) (hdel : n3.deleted = false) (hc : n3.cache = false)
    (hl : l < dd.layers.length) (hD : ¬ Drop l p) :
    n3.rub = cfg.R.rub n3.state ∧ StepF cfg H B (finalize cfg (finalizeLayers fin) e).2 l p n3 := by
  obtain ⟨n0, n1, n2, _, _, _, hco, hloc⟩ := hx.locate e h
  rcases hloc with ⟨ly, hly, hp, _⟩ | ⟨hl', _⟩
  case inr => exact absurd hl (hl' ▸ Nat.lt_irrefl _)
  have hcls := hx.bo.inv.clsL l p ly n0 hly hp
  have hlive : Live l p := hcls.alive (by rw [← hco.cache]; exact hc) (by rw [← hco.deleted]; exact hdel) hD
  refine ⟨by rw [hco.rub, hco.state]; exact hx.bo.inv.rub l p ly n0 hly hlive hp, ?_⟩
  intro htest h' hH
  rw [hco.state, hco.value] at htest
  rw [hco.state] at hH
  by_cases hl1 : l + 1 = dd.layers.length
  · obtain ⟨p', m0, a, h'', hm0, _, ha, hfl, hfp, hw, hH', hle, hval⟩ :=
      hx.bo.inv.stepN l p ly n0 hl1 hly hlive hp htest h' hH
    have hmd := (hx.bo.inv.baseN m0 (List.mem_of_getElem? hm0)).2.2
    obtain ⟨m3, hm3, e1, e2, e3, e4, _⟩ := hx.child e (hl1 ▸ hx.bo.ofN p' m0 hm0)
    exact ⟨p', m3, a, h'', hm3, by rw [e4]; exact hmd, by rw [e3]; exact ha, hfl, hfp, hw, by rw [e1]; exact hH', hle,
      by rw [hco.value, e2]; exact hval⟩
  · have hlt1 : l + 1 < dd.layers.length := Nat.lt_of_le_of_ne hl hl1
    have hly' : dd.layers[l + 1]? = some dd.layers[l + 1] := List.getElem?_eq_getElem hlt1
    obtain ⟨p', m0, a, h'', hm0, hok, ha, hfl, hfp, hw, hH', hle, hval⟩ :=
      hx.bo.inv.stepL l p ly _ n0 hly hly' hlive hp htest h' hH
    have hcls' := hx.bo.inv.clsL (l + 1) p' _ m0 hly' hm0
    have hmd : m0.deleted = false := by
      rcases hok with hlv | hca | hdr
      · exact (hcls'.cur hlv).2.1
      · exact (hcls'.pruned hca).1
      · exact (hcls'.drop hdr).2.1
    obtain ⟨m3, hm3, e1, e2, e3, e4, _⟩ := hx.child e (hx.bo.ofL (l + 1) _ p' m0 hly' hm0)
    exact ⟨p', m3, a, h'', hm3, by rw [e4]; exact hmd, by rw [e3]; exact ha, hfl, hfp, hw, by rw [e1]; exact hH', hle,
      by rw [hco.value, e2]; exact hval⟩

theorem CtxG.termL_ne (hx : CtxG cfg H B cache O p0 fin Live Drop dd) {l : Nat} (hl : l < dd.layers.length) :
    ∀ tl, (finalizeLayers fin).termL = some tl → l ≠ tl := by
  intro tl htl
  rw [hx.bo.termL] at htl
  cases hE : dd.next.isEmpty with
  | true => rw [hE, if_pos rfl] at htl; cases htl
  | false => rw [hE, if_neg Bool.false_ne_true] at htl; cases htl; exact Nat.ne_of_lt hl

theorem CtxG.cacheN (hx : CtxG cfg H B cache O p0 fin Live Drop dd) (e : Bool) (l p : Nat) (n3 : Node S)
    (h : getNode (finalize cfg (finalizeLayers fin) e).2 l p = some n3) (hdel : n3.deleted = false) (hc : n3.cache = true) :
    l < dd.layers.length ∧ ∃ (t : Thr) (tf : Int), lookup cfg cache n3 = some t ∧ n3.value ≤ t.value ∧
      n3.theta = some tf ∧ tf ≤ t.value := by
  obtain ⟨n0, n1, n2, _, _, h2, hco, hloc⟩ := hx.locate e h
  have hc0 : n0.cache = true := by rw [← hco.cache]; exact hc
  rcases hloc with ⟨ly, hly, hp, hl⟩ | ⟨_, hp⟩
  case inr =>
    have := (hx.bo.inv.baseN n0 (List.mem_of_getElem? hp)).2.1
    rw [hc0] at this; cases this
  refine ⟨hl, ?_⟩
  obtain ⟨_, t, ht, hth, hv⟩ := (hx.bo.inv.clsL l p ly n0 hly hp).pruned hc0
  obtain ⟨n0', θp, hn0', hs0, hP1, _, hP3⟩ := (finalize_spec cfg p0 _ hx.rel hx.wf e).1 l p n3 h hdel
  rw [thInit_other _ _ _ _ _ _ l p (hx.termL_ne hl), h2] at hn0'
  cases hn0'
  obtain ⟨tp, htp, htple⟩ := hP1 t.value (by rw [hco.theta2]; exact hth)
  refine ⟨t, tp, ?_, by rw [hco.value]; exact hv, ?_, htple⟩
  · unfold lookup at ht ⊢
    rw [hco.state, hco.depth]; exact ht
  · rw [hP3]
    unfold ownTheta
    rw [hc, htp]
    rfl

theorem CtxG.flags0 (hx : CtxG cfg H B cache O p0 fin Live Drop dd) (l p : Nat) (n : Node S)
    (h : getNode (finalizeLayers fin).layers l p = some n) : n.cutset = false ∧ n.above = false := by
  rcases hx.bo.at_ l p n h with ⟨ly, hly, hp⟩ | ⟨_, hp⟩
  · have := hx.bo.inv.baseL l p ly n hly hp
    exact ⟨this.cutset, this.above⟩
  · have := (hx.bo.inv.baseN n (List.mem_of_getElem? hp)).1
    exact ⟨this.cutset, this.above⟩

theorem CtxG.flagStep (hx : CtxG cfg H B cache O p0 fin Live Drop dd) (e : Bool) (l p p' : Nat) (n3 m3 : Node S) (a : Arc)
    (hn : getNode (finalize cfg (finalizeLayers fin) e).2 l p = some n3) (hab : n3.above = true) (hcut : n3.cutset = false)
    (hm : getNode (finalize cfg (finalizeLayers fin) e).2 (l + 1) p' = some m3) (ha : a ∈ m3.inb) (hfl : a.fromL = l)
    (hfp : a.fromP = p) : m3.above = true := by
  obtain ⟨n0, n1, n2, _, hn1, _, hco, _⟩ := hx.locate e hn
  obtain ⟨m0, m1, m2, _, hm1, _, hcm, _⟩ := hx.locate e hm
  rw [hco.above] at hab
  rw [hco.cutset] at hcut
  rw [hcm.above]
  rw [fLayers1_relaxed cfg _ hx.rel] at hn1 hm1
  cases hk : cfg.kind with
  | lel =>
    rw [hk] at hn1 hm1
    obtain ⟨a1, a2, _⟩ := computeCutset_lel_flags _ _ hx.flags0 l p n1 hn1
    obtain ⟨b1, _, _⟩ := computeCutset_lel_flags _ _ hx.flags0 (l + 1) p' m1 hm1
    have h1 := a1.mp hab
    have h2 : ¬ l = (finalizeLayers fin).lel := fun h => by rw [a2.mpr h] at hcut; cases hcut
    exact b1.mpr (Nat.lt_of_le_of_ne h1 h2)
  | frontier =>
    rw [hk] at hn1 hm1
    obtain ⟨f1, f2⟩ := computeCutset_frontier_flags (finalizeLayers fin).lel _ hx.flags0
    have hnex := (f1 l p n1 hn1).1.mp hab
    apply (f1 (l + 1) p' m1 hm1).1.mpr
    cases hmex : m1.isExact with
    | true => rfl
    | false =>
      exfalso
      have ha1 : a ∈ m1.inb := by rw [hcm.inb1, ← hcm.inb]; exact ha
      have := f2 (l + 1) p' m1 a n1 hm1 hmex ha1 (by rw [hfl, hfp]; exact hn1) hnex
      rw [this] at hcut; cases hcut

theorem CtxG.cutMem (hx : CtxG cfg H B cache O p0 fin Live Drop dd) (e : Bool) (l p : Nat) (n3 : Node S)
    (hn : getNode (finalize cfg (finalizeLayers fin) e).2 l p = some n3) (hcut : n3.cutset = true) :
    (l, p) ∈ fCs cfg (finalizeLayers fin) := by
  obtain ⟨n0, n1, n2, _, hn1, _, hco, _⟩ := hx.locate e hn
  rw [hco.cutset] at hcut
  rw [fCs_of_relaxed cfg _ hx.rel]
  rw [fLayers1_relaxed cfg _ hx.rel] at hn1
  cases hk : cfg.kind with
  | lel =>
    rw [hk] at hn1
    exact (computeCutset_lel_flags _ _ hx.flags0 l p n1 hn1).2.2 hcut
  | frontier =>
    rw [hk] at hn1
    exact ((computeCutset_frontier_flags (finalizeLayers fin).lel _ hx.flags0).1 l p n1 hn1).2 hcut |>.2

/-- the local bounds dominate the potential-preserving paths, as soon as some node is flagged `cutset` -/
theorem CtxG.good (hx : CtxG cfg H B cache O p0 fin Live Drop dd) (e : Bool) (l0 q0 : Nat) (c3 : Node S)
    (hc : getNode (finalize cfg (finalizeLayers fin) e).2 l0 q0 = some c3) (hcut : c3.cutset = true)
    (l p : Nat) (h : Int) (r : Nat) (hp : Path (finalize cfg (finalizeLayers fin) e).2 H cfg.root.depth B l p h r) :
    ∃ n3, getNode (finalize cfg (finalizeLayers fin) e).2 l p = some n3 ∧ n3.marked = true ∧ h ≤ n3.vbot := by
  have hmem := hx.cutMem e l0 q0 c3 hc hcut
  have hlel : (finalizeLayers fin).lel < (finalizeLayers fin).layers.length := by
    rcases Nat.lt_or_ge (finalizeLayers fin).lel (finalizeLayers fin).layers.length with h' | h'
    · exact h'
    · have := fCs_sub cfg _ _ hmem
      rw [hx.wf.cutset_nil h'] at this
      exact absurd this List.not_mem_nil
  have hlenB : (finalizeLayers fin).layers.length ≤ cfg.P.nbVars + 2 :=
    Nat.le_trans hx.bo.lenB (Nat.succ_le_succ hx.bo.len)
  exact finalize_good cfg (finalizeLayers fin) e H cfg.root.depth B hx.rel hlel
    (small_of_noClamp hx.nc hlenB) l p h r (hp.of_xEq (finalize_layers_xEq cfg (finalizeLayers fin) e).symm)

theorem CtxG.lel_ne (hx : CtxG cfg H B cache O p0 fin Live Drop dd) (hne : dd.next ≠ []) :
    (fin.lel = none ∧ (finalizeLayers fin).lel = dd.layers.length + 1) ∨ (finalizeLayers fin).lel < dd.layers.length := by
  have hsame := hx.bo.same hne
  rw [finalizeLayers_lel]
  cases hl : fin.lel with
  | none => left; exact ⟨rfl, by rw [Option.getD_none, hx.bo.lenT hne]⟩
  | some k =>
    right
    rw [Option.getD_some]
    have := (hx.inv2.lelSome k hl).1
    rw [hsame] at this
    exact this

theorem CtxG.termN (hx : CtxG cfg H B cache O p0 fin Live Drop dd) (e : Bool) (p : Nat) (n3 : Node S)
    (h : getNode (finalize cfg (finalizeLayers fin) e).2 dd.layers.length p = some n3) :
    n3.deleted = false ∧ n3.cache = false ∧ n3.cutset = false ∧ n3.rub = iMax ∧
    (∀ h, H (cfg.root.depth + dd.layers.length) n3.state = some h → h = 0) ∧
    (finalize cfg (finalizeLayers fin) e).2.length = dd.layers.length + 1 := by
  obtain ⟨n0, n1, n2, hn0, hn1, _, hco, hloc⟩ := hx.locate e h
  rcases hloc with ⟨_, _, _, hl⟩ | ⟨_, hp⟩
  case inl => exact absurd hl (Nat.lt_irrefl _)
  have hmem : n0 ∈ dd.next := List.mem_of_getElem? hp
  have hne : dd.next ≠ [] := List.ne_nil_of_mem hmem
  obtain ⟨hb, hc, hd⟩ := hx.bo.inv.baseN n0 hmem
  have hlenT := hx.bo.lenT hne
  refine ⟨by rw [hco.deleted]; exact hd, by rw [hco.cache]; exact hc, ?_, by rw [hco.rub]; exact hx.bo.inv.rubN n0 hmem, ?_, ?_⟩
  · rw [hco.cutset]
    rw [fLayers1_relaxed cfg _ hx.rel] at hn1
    cases hcs : n1.cutset with
    | false => rfl
    | true =>
      exfalso
      cases hk : cfg.kind with
      | lel =>
        rw [hk] at hn1
        have := (computeCutset_lel_flags _ _ hx.flags0 _ p n1 hn1).2.1.mp hcs
        rcases hx.lel_ne hne with ⟨_, h2⟩ | h2
        · exact absurd (this.trans h2) (Nat.ne_of_lt (Nat.lt_succ_self _))
        · exact absurd (this ▸ h2) (Nat.lt_irrefl _)
      | frontier =>
        rw [hk] at hn1
        have hm := ((computeCutset_frontier_flags (finalizeLayers fin).lel _ hx.flags0).1 _ p n1 hn1).2 hcs |>.2
        obtain ⟨_, _, _, l', p', m, a, hm', _, ha, hfl, _⟩ := computeCutset_frontier _ _ _ hm
        have h1 := hx.wf.arcs l' p' m hm' a ha
        have h2 := Ddo.getNode_lt hm'
        dsimp only at hfl
        omega
  · intro h hH
    rw [hco.state, ← hx.bo.inv.depth] at hH
    exact hx.term dd.depth _ n0.state h (hx.bo.nv hne) (List.mem_map_of_mem hmem) hH
  · rw [(finalize_layers_xEq cfg (finalizeLayers fin) e).length, hlenT]

theorem CtxG.thetaF (hx : CtxG cfg H B cache O p0 fin Live Drop dd) (e : Bool) (l p : Nat) (n3 : Node S)
    (h : getNode (finalize cfg (finalizeLayers fin) e).2 l p = some n3) (hdel : n3.deleted = false) :
    ∃ θp : Option Int, n3.theta = ownTheta (bkOf cfg.lb (finalize cfg (finalizeLayers fin) e).1.bestExactValue) n3 θp ∧
      (∀ (p' : Nat) (m3 : Node S) (t : Int) (a : Arc), getNode (finalize cfg (finalizeLayers fin) e).2 (l + 1) p' = some m3 →
        m3.deleted = false → m3.theta = some t → a ∈ m3.inb → a.fromP = p → ∃ tp, θp = some tp ∧ tp ≤ satSub t a.cost) ∧
      (l = dd.layers.length → n3.above = true →
        ∃ tp, θp = some tp ∧ tp ≤ bkOf cfg.lb (finalize cfg (finalizeLayers fin) e).1.bestExactValue) ∧
      (Drop l p → ∃ tp, θp = some tp ∧ DomOkAt H O (cfg.root.depth + l) n3.state tp) := by
  obtain ⟨n0', θp, hn0', hs0, hP1, hP2, hP3⟩ := (finalize_spec cfg p0 _ hx.rel hx.wf e).1 l p n3 h hdel
  refine ⟨θp, hP3, hP2, ?_, ?_⟩
  case refine_2 =>
    -- dropped by the checker: the thresholds pass starts from the threshold of the verdict
    intro hD
    have hl := hx.bo.inv.dropLt l p hD
    obtain ⟨n0, n1, n2, _, _, h2, hco, hloc⟩ := hx.locate e h
    rcases hloc with ⟨ly, hly, hp, _⟩ | ⟨hl', _⟩
    case inr => exact absurd hl (hl' ▸ Nat.lt_irrefl _)
    obtain ⟨_, _, _, _, _, thr, hthr, hdom⟩ := (hx.bo.inv.clsL l p ly n0 hly hp).drop hD
    rw [thInit_other _ _ _ _ _ _ l p (hx.termL_ne hl), h2] at hn0'
    cases hn0'
    obtain ⟨tp, htp, htple⟩ := hP1 thr (by rw [hco.theta2]; exact hthr)
    refine ⟨tp, htp, ?_⟩
    intro v hv h' hH
    rw [hco.state] at hH
    exact hdom v (Int.le_trans hv htple) h' hH
  intro hl hab
  subst hl
  obtain ⟨n0, n1, n2, hn0, hn1, hn2, hco, hloc⟩ := hx.locate e h
  rcases hloc with ⟨_, _, _, hl⟩ | ⟨_, hp⟩
  case inl => exact absurd hl (Nat.lt_irrefl _)
  have hmem : n0 ∈ dd.next := List.mem_of_getElem? hp
  have hne : dd.next ≠ [] := List.ne_nil_of_mem hmem
  have hsame := hx.bo.same hne
  have htl : (finalizeLayers fin).termL = some dd.layers.length := by
    rw [hx.bo.termL]
    cases hn : dd.next with
    | nil => exact absurd hn hne
    | cons _ _ => rfl
  -- the node is exact, and the condition under which the terminal thresholds are initialised holds
  rw [hco.above] at hab
  rw [fLayers1_relaxed cfg _ hx.rel] at hn1
  have hcond : ((cfg.kind == .lel && (finalizeLayers fin).isExactField) || (cfg.kind == .frontier && n2.isExact)) = true ∧
      n0.isExact = true := by
    have hex2 : n2.isExact = n0.isExact := by
      unfold Node.isExact
      rw [← (stripL_fields hco.c12).2.2.2.2.2.2.1, ← (stripL_fields hco.c12).2.2.2.2.2.2.2.1,
        ← (stripC_fields hco.c01).2.2.2.2.2.2.2.1, ← (stripC_fields hco.c01).2.2.2.2.2.2.2.2.1]
    cases hk : cfg.kind with
    | lel =>
      rw [hk] at hn1
      have h1 := (computeCutset_lel_flags _ _ hx.flags0 _ p n1 hn1).1.mp hab
      rcases hx.lel_ne hne with ⟨hnone, _⟩ | h2
      · have hie : (finalizeLayers fin).isExactField = true := by
          unfold finalizeLayers; dsimp only; rw [hnone]; rfl
        refine ⟨by rw [hie]; rfl, ?_⟩
        have := (hx.inv2.lelNone hnone).2 n0 (by rw [hsame]; exact hmem)
        exact this
      · exact absurd (Nat.lt_of_lt_of_le h2 h1) (Nat.lt_irrefl _)
    | frontier =>
      rw [hk] at hn1
      have h1 := ((computeCutset_frontier_flags (finalizeLayers fin).lel _ hx.flags0).1 _ p n1 hn1).1.mp hab
      rw [hco.isExact1] at h1
      refine ⟨by rw [hex2, h1]; simp, h1⟩
  -- hence some exact value is reported
  have hbe : ∃ w, (finalize cfg (finalizeLayers fin) e).1.bestExactValue = some w := by
    rw [Bounds.finalize_bestExactValue]
    have hterm : n0 ∈ (finalizeLayers fin).terminals := by rw [hx.bo.terms]; exact hmem
    split
    · obtain ⟨bv, hbv, _⟩ := Cover.maxValue_ge _ n0 hterm
      exact ⟨bv, hbv⟩
    · obtain ⟨bv, hbv, _⟩ := Cover.maxValue_ge _ n0 (List.mem_filter.mpr ⟨hterm, hcond.2⟩)
      exact ⟨bv, hbv⟩
  obtain ⟨w, hw⟩ := hbe
  rw [hw, htl, thInit_term cfg.kind _ cfg.lb w dd.layers.length _ p n2 hn2 hcond.1] at hn0'
  cases hn0'
  rw [hw]
  exact hP1 _ rfl

theorem CtxG.dropN (hx : CtxG cfg H B cache O p0 fin Live Drop dd) (e : Bool) (l p : Nat) (n3 : Node S)
    (h : getNode (finalize cfg (finalizeLayers fin) e).2 l p = some n3) (hD : Drop l p) :
    n3.deleted = false ∧ n3.cache = false ∧ l < dd.layers.length ∧
    (∀ h, H (cfg.root.depth + l) n3.state = some h → h ≤ n3.rub) ∧
    (∀ h, H (cfg.root.depth + l) n3.state = some h → n3.value + h ≤ O) := by
  have hl := hx.bo.inv.dropLt l p hD
  obtain ⟨n0, n1, n2, _, _, _, hco, hloc⟩ := hx.locate e h
  rcases hloc with ⟨ly, hly, hp, _⟩ | ⟨hl', _⟩
  case inr => exact absurd hl (hl' ▸ Nat.lt_irrefl _)
  obtain ⟨d1, d2, _, d4, d5, _⟩ := (hx.bo.inv.clsL l p ly n0 hly hp).drop hD
  refine ⟨by rw [hco.deleted]; exact d2, by rw [hco.cache]; exact d1, hl, ?_, ?_⟩
  · intro h' hH
    rw [hco.rub, d4]
    exact hx.potMax l p hD _ _ h' hH
  · intro h' hH
    rw [hco.state] at hH
    rw [hco.value]
    exact d5 h' hH

theorem CtxG.ffj (hx : CtxG cfg H B cache O p0 fin Live Drop dd) (e : Bool) :
    FFJ cfg H B cache (finalize cfg (finalizeLayers fin) e).2 dd.layers.length
      (bkOf cfg.lb (finalize cfg (finalizeLayers fin) e).1.bestExactValue) O Drop :=
  ⟨hx.lmax e, hx.rng e, hx.cacheN e, hx.liveN e, hx.dropN e, hx.termN e, hx.thetaF e, hx.flagStep e, hx.good e⟩

theorem CtxG.hypFJ (hx : CtxG cfg H B cache O p0 fin Live Drop dd) (hR : RubOk cfg.R H) (hlb : cfg.lb < iMax)
    (M : Int) (hM0 : 0 ≤ M) (hMs : M + Cover.Bd B (cfg.P.nbVars + 1) ≤ big) (e : Bool)
    (hbkO : bkOf cfg.lb (finalize cfg (finalizeLayers fin) e).1.bestExactValue ≤ O) :
    HypFJ cfg H B M dd.layers.length (bkOf cfg.lb (finalize cfg (finalizeLayers fin) e).1.bestExactValue) O :=
  ⟨hR, hlb, bkOf_ge _ _, hbkO, hx.nc.nonneg, hM0,
    Int.le_trans (Int.add_le_add_left (Cover.Bd_mono hx.nc.nonneg hx.bo.len) M) hMs⟩

/-- a potential carried by what the cache prunes in the sub-diagram of a node that it did not prune: the entry that prunes
    sits strictly deeper than the node -/
theorem CtxG.cache_deeper (hx : CtxG cfg H B cache O p0 fin Live Drop dd) (e : Bool) {M : Int} {l p : Nat} {n3 : Node S}
    {x : Int} (hn : getNode (finalize cfg (finalizeLayers fin) e).2 l p = some n3) (hc : n3.cache = false)
    (g : CutBy cfg H B M cache (finalize cfg (finalizeLayers fin) e).2 l p x) :
    cfg.useCache = true ∧ ∃ (s' : S) (d' : Nat) (t : Thr) (v' h' : Int), cache.get s' d' = some (some t) ∧
      cfg.root.depth + l < d' ∧ Cover.Within (M + Cover.Bd B (d' - cfg.root.depth)) v' ∧ v' ≤ t.value ∧
      H d' s' = some h' ∧ x ≤ v' + h' := by
  obtain ⟨l', p', m3, t', v', h', hll, hpp, hm3, _, hcm, hlook, hv't, hw', hH', hxle⟩ := g
  have hlt : l < l' := by
    rcases Nat.lt_or_ge l l' with h1 | h1
    · exact h1
    · have hl' : l' = l := Nat.le_antisymm h1 hll
      subst hl'
      rw [hpp rfl, hn] at hm3
      cases hm3
      rw [hc] at hcm; cases hcm
  obtain ⟨hu1, hget⟩ := lookup_some hlook
  have hdm := hx.depth e l' p' m3 hm3
  refine ⟨hu1, m3.state, m3.depth, t', v', h', hget, by rw [hdm]; exact Nat.add_lt_add_left hlt _, ?_, hv't,
    by rw [hdm]; exact hH', hxle⟩
  rw [hdm, Nat.add_sub_cancel_left]
  exact hw'

/-- **soundness of the thresholds, on `finalize`**, strict form (the sub-problem of the cut-set that justifies a threshold is
    strictly deeper than the threshold, or it is the node of the threshold), at the level `O ≥ bk` -/
theorem CtxG.theta_sound_strict (hx : CtxG cfg H B cache O p0 fin Live Drop dd) (hR : RubOk cfg.R H) (hlb : cfg.lb < iMax)
    (M : Int) (hM0 : 0 ≤ M) (hMs : M + Cover.Bd B (cfg.P.nbVars + 1) ≤ big) (e : Bool)
    (hbkO : bkOf cfg.lb (finalize cfg (finalizeLayers fin) e).1.bestExactValue ≤ O) :
    ∀ u ∈ (finalize cfg (finalizeLayers fin) e).1.cacheUpdates, cfg.root.depth ≤ u.2.1 ∧
      ∀ v h, Cover.Within (M + Cover.Bd B (u.2.1 - cfg.root.depth)) v → v ≤ u.2.2.1 → H u.2.1 u.1 = some h →
        v + h ≤ O ∨
        (∃ c ∈ (finalize cfg (finalizeLayers fin) e).1.cutset, (u.2.1 < c.depth ∨ (c.depth = u.2.1 ∧ c.state = u.1)) ∧
          ∃ y, (H c.depth c.state).addI c.value = some y ∧ v + h ≤ y) ∨
        (cfg.useCache = true ∧ ∃ (s' : S) (d' : Nat) (t : Thr) (v' h' : Int), cache.get s' d' = some (some t) ∧ u.2.1 < d' ∧
          Cover.Within (M + Cover.Bd B (d' - cfg.root.depth)) v' ∧ v' ≤ t.value ∧ H d' s' = some h' ∧ v + h ≤ v' + h') := by
  intro u hu
  obtain ⟨l, p, n3, hn, hdel, hc, hab, t, hth, rfl⟩ := (finalize_spec cfg p0 _ hx.rel hx.wf e).2 u hu
  have hdep := hx.depth e l p n3 hn
  dsimp only
  refine ⟨hdep ▸ Nat.le_add_right _ _, ?_⟩
  intro v h hv hvt hH
  have hlmax := hx.lmax e l p n3 hn
  have hg := gtj_all_s (hx.ffj e) (hx.hypFJ hR hlb M hM0 hMs e hbkO) (dd.layers.length - l) l p n3
    (Nat.add_sub_cancel' hlmax) hn hdel
  rw [hdep, Nat.add_sub_cancel_left] at hv
  rw [hdep] at hH
  rcases hg v hv (fun t' ht' => by rw [hth] at ht'; cases ht'; exact hvt) h hH with g1 | g1 | g1 | ⟨g1, _⟩
  · exact .inl g1
  · right; left
    obtain ⟨l', p', c3, hc', hll, hpp, hc3, _, hcut3, hmk3, _, _, ⟨pt, tn, htn⟩, hHc, hxle⟩ := g1
    obtain ⟨t0, _, _, _, _, _, _, hloc⟩ := hx.locate e htn
    have hbv : ∃ bv, (finalizeLayers fin).bestValue = some bv := by
      rcases hloc with ⟨_, _, _, hl⟩ | ⟨_, hp⟩
      · exact absurd hl (Nat.lt_irrefl _)
      · have hterm : t0 ∈ (finalizeLayers fin).terminals := by rw [hx.bo.terms]; exact List.mem_of_getElem? hp
        obtain ⟨bv, hbv, _⟩ := Cover.maxValue_ge _ t0 hterm
        exact ⟨bv, hbv⟩
    obtain ⟨bv, hbv⟩ := hbv
    refine ⟨subOf cfg (finalize cfg (finalizeLayers fin) e).2 bv c3, ?_, ?_, c3.value + hc', ?_, hxle⟩
    · exact (finalize_cutset_iff cfg _ e _).2 ⟨bv, (l', p'), c3, hbv, hx.cutMem e l' p' c3 hc3 hcut3, hc3, hmk3, rfl⟩
    · simp only [subOf]
      rcases Nat.lt_or_ge l l' with h1 | h1
      · rw [hdep, hx.depth e l' p' c3 hc3]
        exact .inl (Nat.add_lt_add_left h1 _)
      · obtain rfl : l' = l := Nat.le_antisymm h1 hll
        rw [hpp rfl, hn] at hc3
        cases hc3
        exact .inr ⟨rfl, rfl⟩
    · simp only [subOf]
      rw [hx.depth e l' p' c3 hc3, hHc]
      simp only [EInt.addI, Option.map_some]
      rw [Int.add_comm]
  · rw [hdep]
    exact .inr (.inr (hx.cache_deeper e hn hc g1))
  · rw [hab] at g1; cases g1

end
end Ddo.C10d
