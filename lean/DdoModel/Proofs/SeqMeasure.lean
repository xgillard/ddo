import DdoModel.Proofs.SeqInvDedup
/-! The termination measure of the solver loops: the number of fringe entries per (clamped) depth, `cnt`.  A push changes the count at the depth
of the pushed node only, `enqueue_cutset` only at the depths of the cut-set, `process_one_node` raises no count at a depth where the cut-set has
no node.  Used lexicographically (`Proofs/LexNat.lean`) by the sequential loop (`Props/C01t.lean`) and by the parallel systems. -/
set_option linter.unusedSectionVars false
namespace Ddo.C01t
variable {S : Type} [DecidableEq S]

/-- depth clamped to `K` (`K = nbVars + 1` stands for every depth beyond the last layer) -/
def cdepth (K : Nat) (c : SubP S) : Nat := min c.depth K

def cnt (K : Nat) (fr : List (SubP S)) (d : Nat) : Nat := fr.countP (fun c => cdepth K c == d)

theorem cnt_nil (K d : Nat) : cnt K ([] : List (SubP S)) d = 0 := rfl

theorem cnt_cons (K : Nat) (c : SubP S) (fr : List (SubP S)) (d : Nat) :
    cnt K (c :: fr) d = cnt K fr d + if cdepth K c = d then 1 else 0 :=
  countP_depth_cons (min · K) c fr d

theorem cnt_perm (K : Nat) {l1 l2 : List (SubP S)} (h : l1.Perm l2) (d : Nat) : cnt K l1 d = cnt K l2 d :=
  h.countP_eq _

/-- a push changes the count of no depth but that of the pushed node: on the duplicate-free fringe
    it appends the node or replaces an entry of the same depth -/
theorem cnt_pushSpec_of_ne (K : Nat) (dedup : Bool) (q : List (SubP S)) (x : SubP S) (e : Nat)
    (h : cdepth K x ≠ e) : cnt K (pushSpec dedup q x) e = cnt K q e := by
  obtain ⟨δ, _, _, h2⟩ := pushSpec_countP (min · K) dedup q x
  exact (h2 e).trans (congrArg _ (if_neg h))

theorem cnt_pushSpec_le (K : Nat) (dedup : Bool) (q : List (SubP S)) (x : SubP S) (e : Nat) :
    cnt K (pushSpec dedup q x) e ≤ cnt K q e + 1 := by
  obtain ⟨δ, h0, _, h2⟩ := pushSpec_countP (min · K) dedup q x
  refine Nat.le_trans (Nat.le_of_eq (h2 e)) (Nat.add_le_add_left ?_ _)
  split
  · exact h0
  · exact Nat.zero_le _

theorem cnt_enqueue_of_ne (K : Nat) (dedup : Bool) (cs : List (SubP S)) (e : Nat)
    (h : ∀ c ∈ cs, cdepth K c ≠ e) (st : SeqSt S) :
    cnt K (st.enqueue dedup cs).fringe e = cnt K st.fringe e := by
  induction cs generalizing st with
  | nil => rfl
  | cons c0 cs ih =>
    rw [enqueue_cons, ih (fun c hc => h c (List.mem_cons_of_mem _ hc)), (enqOne_spec dedup st c0).2.2.2.2]
    split
    · exact cnt_pushSpec_of_ne K dedup st.fringe _ e (h c0 List.mem_cons_self)
    · rfl

theorem afterPop_fringe (st : SeqSt S) (N : SubP S) : (st.afterPop N).fringe = st.fringe := by
  unfold SeqSt.afterPop
  split <;> rfl

theorem process_cnt_le (K : Nat) (dedup : Bool) (st : SeqSt S) (N : SubP S) (me : Bool) (r x : DDRes S) (e : Nat)
    (h : ∀ o, x = .ok o → ∀ c ∈ o.cutset, cdepth K c ≠ e) :
    cnt K (st.process dedup N me r x).1.fringe e ≤ cnt K st.fringe e :=
  SeqSt.process_frame (cnt K ·.fringe e ≤ cnt K st.fringe e) dedup st N me r x (Nat.le_refl _) (fun _ _ _ => Nat.zero_le _)
    (fun s o hs => (updateBest_fringe s o).1.symm ▸ hs)
    (fun s x0 hx hs => Nat.le_trans (Nat.le_of_eq (cnt_enqueue_of_ne K dedup x0.cutset e (h x0 hx) s)) hs)

end Ddo.C01t
