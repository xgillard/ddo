import DdoModel.Proofs.DomRelaxFlags
import DdoModel.Proofs.DomChain
/-! # Relaxed compilation with the dominance checker enabled — the invariant of the top-down build

`DInv cfg H Prot B opt Live dd` mirrors `Bounds.BInv` of `Proofs/MddBounds.lean` for a compilation with the checker enabled.
The ghost predicate `Live l p` says: position `p` of layer `l` was expanded **and** its node is inexact or protected.
The one-step fact `StepP` holds for live nodes only (a node dropped by `_filter_with_dominance` is not live), and its
conclusion records that the child is inexact or protected — what makes it survive the next `_filter_with_dominance`.
The fields of `BInv` that fail with dominance pruning (every node of the layers `≤ lel` is live, the source of every arc is
live) are absent.  One layer step of `Proofs/BuildChain.lean` through a filter that is `FilterOk` keeps `DInv`, whatever store
answered the checker (`LayerStep.dinv`). -/
set_option linter.unusedSectionVars false
set_option linter.unusedVariables false
namespace Ddo.C10
open Ddo Ddo.C01 Ddo.Closed Ddo.Truth
variable {S K : Type} [DecidableEq S] [DecidableEq K]

structure RHyp (cfg : Cfg S K) (D : DomRule S K) (H : Nat → S → EInt) (opt : Int) (Prot : Nat → S → Int → Prop) (B : Int) :
    Prop extends DomHyp cfg D H opt Prot B where
  rel : cfg.ctype = .relaxed
  W : 1 ≤ cfg.width
  M : MergeOk cfg.R H
  AM : Cover.AttMerge cfg.P cfg.R H

/-- one-step fact: if the potential `value + H` of the node `n` (position `(l, p)`, depth `k`) reaches `t`, a node of the layer
    `child`, at a position satisfying `LiveC`, inexact or protected, holds an inbound arc from `(l, p)` along which no
    potential is lost -/
def StepP (H : Nat → S → EInt) (Prot : Nat → S → Int → Prop) (B t : Int) (k l p : Nat) (n : Node S) (child : List (Node S))
    (LiveC : Nat → Prop) : Prop :=
  ∀ h, H k n.state = some h → t ≤ n.value + h →
    ∃ (p' : Nat) (m : Node S) (e : Arc) (h' : Int), LiveC p' ∧ child[p']? = some m ∧ e ∈ m.inb ∧ e.fromL = l ∧ e.fromP = p ∧
      Cover.Within B e.cost ∧ H (k + 1) m.state = some h' ∧ h ≤ e.cost + h' ∧ n.value + e.cost ≤ m.value ∧
      (m.isExact = true → Prot (k + 1) m.state m.value)

/-- the invariant; `Live l p`: the node at position `p` of layer `l` has been expanded and is inexact or protected -/
structure DInv (cfg : Cfg S K) (H : Nat → S → EInt) (Prot : Nat → S → Int → Prop) (B t : Int) (Live : Nat → Nat → Prop)
    (dd : DD S K) : Prop where
  len : dd.layers.length ≤ cfg.P.nbVars + 1
  rngN : ∀ n ∈ dd.next, Cover.Within (Cover.Bd B dd.layers.length) n.value
  rngL : ∀ (i : Nat) ly, dd.layers[i]? = some ly → ∀ n ∈ ly, Cover.Within (Cover.Bd B i) n.value
  arcsN : ∀ n ∈ dd.next, ∀ a ∈ n.inb, Cover.Within B a.cost
  att : dd.layers ≠ [] → ∀ n ∈ dd.next, ∃ a ∈ n.inb, ∃ p, getNode dd.layers a.fromL a.fromP = some p
  stepL : ∀ (l p : Nat) ly ly' n, dd.layers[l]? = some ly → dd.layers[l + 1]? = some ly' → Live l p → ly[p]? = some n →
    StepP H Prot B t (cfg.root.depth + l) l p n ly' (Live (l + 1))
  stepN : ∀ (l p : Nat) ly n, l + 1 = dd.layers.length → dd.layers[l]? = some ly → Live l p → ly[p]? = some n →
    StepP H Prot B t (cfg.root.depth + l) l p n dd.next (fun _ => True)
  rub : ∀ (l p : Nat) ly n, dd.layers[l]? = some ly → Live l p → ly[p]? = some n → n.rub = cfg.R.rub n.state
  prot : ∀ (l p : Nat) ly n, dd.layers[l]? = some ly → Live l p → ly[p]? = some n → n.isExact = true →
    Prot (cfg.root.depth + l) n.state n.value
  cutL : ∀ ly ∈ dd.layers, ∀ n ∈ ly, n.cutset = false
  cutN : ∀ n ∈ dd.next, n.cutset = false
  root0 : dd.layers = [] → ∃ n0, dd.next = [n0] ∧ n0.state = cfg.root.state ∧ n0.value = cfg.root.value
  root1 : dd.layers ≠ [] → ∃ ly n0, dd.layers[0]? = some ly ∧ ly[0]? = some n0 ∧ n0.state = cfg.root.state ∧
    n0.value = cfg.root.value ∧ Live 0 0

theorem DInv.congr {cfg : Cfg S K} {H : Nat → S → EInt} {Prot : Nat → S → Int → Prop} {B t : Int} {Live : Nat → Nat → Prop}
    {dd dd' : DD S K} (h : DInv cfg H Prot B t Live dd) (h1 : dd'.layers = dd.layers) (h2 : dd'.next = dd.next) :
    DInv cfg H Prot B t Live dd' := by
  -- the invariant reads `layers` and `next` only
  obtain ⟨a0, a1, a2, a3, a4, a5, a6, a7, a8, a9, a10, a11, a12⟩ := h
  cases dd; cases dd'
  dsimp only at h1 h2
  subst h1 h2
  exact ⟨a0, a1, a2, a3, a4, a5, a6, a7, a8, a9, a10, a11, a12⟩

/-- the one-step fact passes to a child layer that holds, at every live position, a node with the same state, at least the value
    and the arcs, and which is exact only if the old one was, with the same value -/
theorem StepP.map {H : Nat → S → EInt} {Prot : Nat → S → Int → Prop} {B t : Int} {k l p : Nat} {n : Node S}
    {child child' : List (Node S)} {LiveC LiveC' : Nat → Prop}
    (hc : ∀ (p' : Nat) m, LiveC p' → child[p']? = some m → (m.isExact = true → Prot (k + 1) m.state m.value) →
      ∃ m', child'[p']? = some m' ∧ LiveC' p' ∧ m'.state = m.state ∧ m.value ≤ m'.value ∧ (∀ a ∈ m.inb, a ∈ m'.inb) ∧
        (m'.isExact = true → m.isExact = true ∧ m'.value = m.value))
    (h : StepP H Prot B t k l p n child LiveC) : StepP H Prot B t k l p n child' LiveC' := by
  intro h0 hH ht
  obtain ⟨p', m, e, h', hL, hm, he, r1, r2, r3, r4, r5, r6, r7⟩ := h h0 hH ht
  obtain ⟨m', hm', hL', es, ev, ei, ee⟩ := hc p' m hL hm r7
  refine ⟨p', m', e, h', hL', hm', ei e he, r1, r2, r3, es ▸ r4, r5, Int.le_trans r6 ev, fun hex => ?_⟩
  obtain ⟨x1, x2⟩ := ee hex
  rw [es, x2]
  exact r7 x1

theorem StepP.mono {H : Nat → S → EInt} {Prot : Nat → S → Int → Prop} {B t : Int} {k l p : Nat} {n : Node S}
    {child : List (Node S)} {LiveC LiveC' : Nat → Prop} (hL : ∀ p', LiveC p' → LiveC' p')
    (h : StepP H Prot B t k l p n child LiveC) : StepP H Prot B t k l p n child LiveC' := by
  intro h0 hH ht
  obtain ⟨p', m, e, h', hl, rest⟩ := h h0 hH ht
  exact ⟨p', m, e, h', hL p' hl, rest⟩

/-- what the expansion needs from the filtered and squashed layer; `LN` = the live positions of the layer -/
structure SqPostD (cfg : Cfg S K) (H : Nat → S → EInt) (Prot : Nat → S → Int → Prop) (B t : Int) (Live : Nat → Nat → Prop)
    (dd : DD S K) (var : Nat) (layer' : List (Node S)) (cur' : List Nat) (LN : Nat → Prop) : Prop where
  sub : ∀ q, LN q → q ∈ cur'
  prot : ∀ q n, LN q → layer'[q]? = some n → n.isExact = true → Prot dd.depth n.state n.value
  att : ∀ q ∈ cur', ∀ n, layer'[q]? = some n → Cover.AttAt cfg H dd.depth var n.state
  rng : ∀ n ∈ layer', Cover.Within (Cover.Bd B dd.layers.length) n.value
  arcs : ∀ n ∈ layer', ∀ a ∈ n.inb, Cover.Within B a.cost
  cut : ∀ n ∈ layer', n.cutset = false
  exst : ∀ n ∈ layer', n.isExact = true → n.state ∈ dd.next.map (·.state)
  step : ∀ (l p : Nat) ly n, l + 1 = dd.layers.length → dd.layers[l]? = some ly → Live l p → ly[p]? = some n →
    StepP H Prot B t (cfg.root.depth + l) l p n layer' LN
  root : dd.layers = [] → ∃ n0, layer'[0]? = some n0 ∧ n0.state = cfg.root.state ∧ n0.value = cfg.root.value ∧ LN 0

/-- two items on optimal solutions, the second a child of the first: the arc loses no potential -/
theorem pot_step_eq {h v h' c : Int} (e : h + v = h' + (v + c)) : h ≤ c + h' := by omega

theorem srcOk_of_dinv (cfg : Cfg S K) (H : Nat → S → EInt) (Prot : Nat → S → Int → Prop) (B t : Int) (Live : Nat → Nat → Prop)
    (dd : DD S K) (hB : NoClamp cfg.P cfg.R cfg.root.value B) (hI : DInv cfg H Prot B t Live dd) :
    Cover.SrcOk cfg dd.layers B (Cover.Bd B dd.layers.length) := by
  constructor
  · intro l p src c hsrc hc
    obtain ⟨ly, hly, hp⟩ := Cover.getNode_lt hsrc
    have hw := hI.rngL l ly hly src (List.mem_of_getElem? hp)
    have hl := Cover.lt_of_getElem?_some hly
    have := Cover.within_satAdd hw hc
    rw [← Cover.Bd_succ] at this
    exact this.mono (Cover.Bd_mono hB.nonneg hl)
  · intro s u m d c hc
    exact hB.relax s u m d c hc

theorem stripT_cutset {a b : Node S} (h : Bounds.stripT a = Bounds.stripT b) : a.cutset = b.cutset := by
  have h1 := congrArg Node.cutset h
  simpa only [Bounds.stripT] using h1

theorem ThEq.fields {a b : List (Node S)} (h : ThEq a b) {q : Nat} {n : Node S} (hq : a[q]? = some n) :
    ∃ n0, b[q]? = some n0 ∧ n.state = n0.state ∧ n.value = n0.value ∧ n.isExact = n0.isExact ∧ n.inb = n0.inb ∧
      n.cutset = n0.cutset := by
  obtain ⟨n0, h0, hs⟩ := h.get hq
  obtain ⟨e1, e2, _, e4, e5, _⟩ := stripT_all hs
  exact ⟨n0, h0, e1, e2, e4, e5, stripT_cutset hs⟩

def LiveOf (Prot : Nat → S → Int → Prop) (k : Nat) (layer : List (Node S)) (cur : List Nat) (q : Nat) : Prop :=
  q ∈ cur ∧ ∀ n, layer[q]? = some n → n.isExact = true → Prot k n.state n.value

/-- the layer as a filter leaves it (nothing squashed), for any filtered layer `(fl, fk)` that differs from `dd.next` in `theta` only
    and keeps the inexact / protected nodes -/
theorem sqpost_filtered (cfg : Cfg S K) (D : DomRule S K) (H : Nat → S → EInt) (opt : Int) (Prot : Nat → S → Int → Prop) (B : Int)
    (hy : DomHyp cfg D H opt Prot B) (Live : Nat → Nat → Prop) (dd : DD S K) (var : Nat)
    (fl : List (Node S)) (fk : List Nat) (f1 : ThEq fl dd.next)
    (f6 : ∀ p n, dd.next[p]? = some n → (n.isExact = true → Prot dd.depth n.state n.value) → p ∈ fk)
    (hdepth : dd.depth = cfg.root.depth + dd.layers.length)
    (hnv : cfg.P.nextVar dd.depth (dd.next.map (·.state)) = some var)
    (hprot : Prot cfg.root.depth cfg.root.state cfg.root.value)
    (hI : DInv cfg H Prot B opt Live dd) :
    SqPostD cfg H Prot B opt Live dd var fl fk (LiveOf Prot dd.depth fl fk) ∧
    (∀ n ∈ fl, n.state ∈ dd.next.map (·.state)) ∧
    (dd.layers ≠ [] → ∀ n ∈ fl, ∃ a ∈ n.inb, ∃ p, getNode dd.layers a.fromL a.fromP = some p) := by
  have hFm : ∀ n ∈ fl, ∃ n0 ∈ dd.next, n.state = n0.state ∧
      n.value = n0.value ∧ n.isExact = n0.isExact ∧ n.inb = n0.inb ∧ n.cutset = n0.cutset := by
    intro n hn
    obtain ⟨q, hq⟩ := List.mem_iff_getElem?.mp hn
    obtain ⟨n0, h0, r⟩ := f1.fields hq
    exact ⟨n0, List.mem_of_getElem? h0, r⟩
  have hsts : ∀ n ∈ fl, n.state ∈ dd.next.map (·.state) := by
    intro n hn
    obtain ⟨n0, h0, e1, _⟩ := hFm n hn
    rw [e1]; exact List.mem_map_of_mem h0
  refine ⟨⟨fun q hq => hq.1, fun q n hq hn he => hq.2 n hn he, ?_, ?_, ?_, ?_, fun n hn _ => hsts n hn, ?_, ?_⟩, hsts, ?_⟩
  · intro q _ n hn h1 hH1
    exact hy.P.att dd.depth _ var n.state h1 hnv (hsts n (List.mem_of_getElem? hn)) hH1
  · intro n hn
    obtain ⟨n0, h0, _, e2, _⟩ := hFm n hn
    rw [e2]; exact hI.rngN n0 h0
  · intro n hn a ha
    obtain ⟨n0, h0, _, _, _, e5, _⟩ := hFm n hn
    exact hI.arcsN n0 h0 a (e5 ▸ ha)
  · intro n hn
    obtain ⟨n0, h0, _, _, _, _, e6⟩ := hFm n hn
    rw [e6]; exact hI.cutN n0 h0
  · -- step: a live child is inexact or protected, hence kept
    intro l p ly n hl hly hlive hn
    have hk : cfg.root.depth + l + 1 = dd.depth := by rw [hdepth, ← hl]; rfl
    refine (hI.stepN l p ly n hl hly hlive hn).map (fun p' m _ hm hpr => ?_)
    obtain ⟨m1, hm1, e1, e2, e4, e5, _⟩ := f1.symm.fields hm
    refine ⟨m1, hm1, ⟨f6 p' m hm (fun hex => hk ▸ hpr hex), fun n' hn' hex' => ?_⟩, e1.symm,
      Int.le_of_eq e2, fun a ha => e5 ▸ ha, fun hex => ⟨e4 ▸ hex, e2.symm⟩⟩
    rw [hm1] at hn'; cases hn'
    rw [← e1, ← e2, ← hk]; exact hpr (e4 ▸ hex')
  · -- root
    intro hemp
    obtain ⟨n0, hn0, hs0, hv0⟩ := hI.root0 hemp
    have h0 : dd.next[0]? = some n0 := by rw [hn0]; rfl
    obtain ⟨n, hn, e1, e2, _⟩ := f1.symm.fields h0
    have hd0 : dd.depth = cfg.root.depth := by rw [hdepth, hemp]; rfl
    have hpr : Prot dd.depth n0.state n0.value := by rw [hd0, hs0, hv0]; exact hprot
    refine ⟨n, hn, e1 ▸ hs0, e2 ▸ hv0, f6 0 n0 h0 (fun _ => hpr), fun n' hn' _ => ?_⟩
    rw [hn] at hn'; cases hn'
    rw [← e1, ← e2]; exact hpr
  · intro hne n hn
    obtain ⟨n0, h0, _, _, _, e5, _⟩ := hFm n hn
    obtain ⟨a, ha, p, hp⟩ := hI.att hne n0 h0
    exact ⟨a, e5 ▸ ha, p, hp⟩

/-- the filtered layer after `_relax` -/
theorem sqpost_relaxD (cfg : Cfg S K) (D : DomRule S K) (H : Nat → S → EInt) (opt : Int) (Prot : Nat → S → Int → Prop) (B : Int)
    (hy : RHyp cfg D H opt Prot B) (Live : Nat → Nat → Prop) (dd : DD S K) (var : Nat)
    (fl : List (Node S)) (fc : List Nat) (lg : List (Call S))
    (hdepth : dd.depth = cfg.root.depth + dd.layers.length)
    (hnv : cfg.P.nextVar dd.depth (dd.next.map (·.state)) = some var)
    (hlen : dd.layers.length ≤ cfg.P.nbVars)
    (hc1 : fc.length > cfg.width) (hc2 : dd.layers.length > 1)
    (hcur : ∀ p ∈ fc, p < fl.length)
    (hI : DInv cfg H Prot B opt Live dd)
    (hsq : SqPostD cfg H Prot B opt Live dd var fl fc (LiveOf Prot dd.depth fl fc))
    (hsts : ∀ n ∈ fl, n.state ∈ dd.next.map (·.state))
    (hatt : ∀ n ∈ fl, ∃ a ∈ n.inb, ∃ p, getNode dd.layers a.fromL a.fromP = some p) :
    SqPostD cfg H Prot B opt Live dd var (relaxLayer cfg dd.layers fl fc lg).1 (relaxLayer cfg dd.layers fl fc lg).2.1
      (LiveOf Prot dd.depth (relaxLayer cfg dd.layers fl fc lg).1 (relaxLayer cfg dd.layers fl fc lg).2.1) := by
  have hpost := Cover.relaxLayer_spec cfg dd.layers fl fc lg hy.W hc1 hcur
  have hpostA := Bounds.relaxLayer_specA cfg dd.layers fl fc lg hy.W hcur
  have hpostF := relaxLayer_specF cfg dd.layers fl fc lg hy.W hcur
  have hsrc := srcOk_of_dinv cfg H Prot B opt Live dd hy.B hI
  have hXsub : ∀ x ∈ Cover.restStatesOf cfg fl fc, x ∈ dd.next.map (·.state) := by
    intro x hx
    unfold Cover.restStatesOf at hx
    obtain ⟨q0, _, hq0⟩ := List.mem_filterMap.mp hx
    cases hn0 : fl[q0]? with
    | none => rw [hn0] at hq0; cases hq0
    | some n0 =>
      rw [hn0] at hq0
      simp only [Option.map_some, Option.some.injEq] at hq0
      rw [← hq0]
      exact hsts n0 (List.mem_of_getElem? hn0)
  have hXne : Cover.restStatesOf cfg fl fc ≠ [] := by
    obtain ⟨q0, hq0, hq0c⟩ := Cover.rest_nonempty cfg fl fc hy.W hc1
    have hlt := hcur q0 hq0c
    apply List.ne_nil_of_mem (a := fl[q0].state)
    unfold Cover.restStatesOf
    exact List.mem_filterMap.mpr ⟨q0, hq0, by rw [List.getElem?_eq_getElem hlt]; rfl⟩
  refine ⟨fun q hq => hq.1, fun q n hq hn he => hq.2 n hn he, ?_, ?_, ?_, ?_, ?_, ?_, ?_⟩
  · -- att
    intro q' hq' n' hn' h1 hH1
    rcases hpostA.states q' hq' n' hn' with ⟨u, hu, hs⟩ | hs
    · rw [hs] at hH1 ⊢
      exact hy.P.att dd.depth _ var u.state h1 hnv (hsts u hu) hH1
    · rw [hs] at hH1 ⊢
      exact hy.AM dd.depth (dd.next.map (·.state)) var _ h1 hnv hXne hXsub hH1
  · -- rng
    exact hpost.range B (Cover.Bd B dd.layers.length) hsrc (Cover.Bd_nonneg hy.B.nonneg _)
      ⟨fun n hn => ⟨hsq.rng n hn, hsq.arcs n hn⟩, fun q _ u hu => by
        obtain ⟨a, ha, p, hp⟩ := hatt u (List.mem_of_getElem? hu)
        exact ⟨a, ha, p, hp⟩⟩
  · -- arcs
    refine Bounds.relaxLayer_forall (fun n => ∀ a ∈ n.inb, Cover.Within B a.cost)
      cfg dd.layers fl _ lg ?_ (fun n hn => hn) (fun n b hn => hn) ?_ hsq.arcs
    · intro d0 a ha; simp only [Cover.freshMerged] at ha; cases ha
    · intro dropN hd e he src m hm a ha
      rw [Cover.appendEdge_inb] at ha
      rcases List.mem_cons.mp ha with ha | ha
      · rw [ha]
        exact hy.B.relax _ _ _ _ _ (hd e he)
      · exact hm a ha
  · -- cut
    refine Bounds.relaxLayer_forall (fun n => n.cutset = false) cfg dd.layers fl _ lg (fun _ => rfl) (fun n hn => hn)
      (fun n b hn => hn) ?_ hsq.cut
    intro dropN _ e _ src m hm
    rw [Bounds.appendEdge_cutset]; exact hm
  · -- exst
    intro n hn he
    obtain ⟨n0, h0, _, hc⟩ := Ddo.relaxLayer_sub cfg dd.layers fl fc lg n hn he
    rw [← hc.1]; exact hsts n0 h0
  · -- step
    intro l p ly n hl hly hlive hn h hH ht
    obtain ⟨q0, m0, e0, h0, hL0, hm0, he0, hfl, hfp, hwc, hH0, hle, hval, hpr0⟩ := hsq.step l p ly n hl hly hlive hn h hH ht
    have hk : cfg.root.depth + l + 1 = dd.depth := by rw [hdepth, ← hl]; rfl
    obtain ⟨q', hq', n', hn', hT⟩ := hpostF q0 hL0.1 m0 hm0
    rcases hT with ⟨hs, hv, harcs, hex⟩ | ⟨hnex, hX, hs, harc⟩
    · refine ⟨q', n', e0, h0, ⟨hq', fun n'' hn'' he'' => ?_⟩, hn', harcs e0 he0, hfl, hfp, hwc, by rw [hs]; exact hH0, hle,
        Int.le_trans hval hv, fun he'' => ?_⟩
      · rw [hn'] at hn''; cases hn''
        obtain ⟨x1, x2⟩ := hex he''
        rw [hs, x2, ← hk]; exact hpr0 x1
      · obtain ⟨x1, x2⟩ := hex he''
        rw [hs, x2]; exact hpr0 x1
    · have hbd : Cover.Bd B l + B ≤ Cover.Bd B dd.layers.length := by
        rw [← Cover.Bd_succ]; exact Cover.Bd_mono hy.B.nonneg (Nat.le_of_eq hl)
      obtain ⟨e', h'', a1, a2, a3, a4, a5, a6, a7⟩ :=
        (show Bounds.TransferA cfg dd.layers fl fc m0 n' from .inr ⟨hX, hs, harc⟩).arc hy.M hy.B.relax
          (Int.le_trans hbd (Cover.Bd_small hy.B.toDom (Nat.le_succ_of_le hlen))) he0
          (by rw [hfl, hfp]; exact Bounds.getNode_of hly hn) (hI.rngL l ly hly n (List.mem_of_getElem? hn)) hwc hH0 hval
      refine ⟨q', n', e', h'', ⟨hq', fun n'' hn'' he'' => ?_⟩, hn', a1, a2.trans hfl, a3.trans hfp, a4, a5, Int.le_trans hle a6, a7,
        fun he'' => ?_⟩
      · rw [hn'] at hn''; cases hn''
        rw [hnex] at he''; cases he''
      · rw [hnex] at he''; cases he''
  · -- root
    intro h; rw [h] at hc2; exact absurd hc2 (Nat.not_lt_zero _)

theorem stripRub_fields' {a b : Node S} (h : stripRub a = stripRub b) :
    a.state = b.state ∧ a.value = b.value ∧ a.inb = b.inb ∧ a.cutset = b.cutset ∧ a.isExact = b.isExact := by
  obtain ⟨h1, h2, h3, h4⟩ := Bounds.stripRub_fields h
  exact ⟨h1, h2, h3, h4, (Ddo.stripRub_core h).1⟩

/-- **appending a layer**: the invariant of `dd` and the facts about the new complete layer `lyF` (live positions `LN`) and the
    new layer under construction give the invariant of `dd'` -/
theorem DInv.snoc {cfg : Cfg S K} {H : Nat → S → EInt} {Prot : Nat → S → Int → Prop} {B t : Int} {Live : Nat → Nat → Prop}
    {dd dd' : DD S K} (hI : DInv cfg H Prot B t Live dd) {lyF : List (Node S)} {LN : Nat → Prop}
    (hl : dd'.layers = dd.layers ++ [lyF]) (hlen : dd.layers.length ≤ cfg.P.nbVars)
    (rngF : ∀ n ∈ lyF, Cover.Within (Cover.Bd B dd.layers.length) n.value)
    (rngN : ∀ n ∈ dd'.next, Cover.Within (Cover.Bd B (dd.layers.length + 1)) n.value)
    (arcsN : ∀ n ∈ dd'.next, ∀ a ∈ n.inb, Cover.Within B a.cost)
    (att : ∀ n ∈ dd'.next, ∃ a ∈ n.inb, ∃ p, getNode dd'.layers a.fromL a.fromP = some p)
    (stepF : ∀ (l p : Nat) ly n, l + 1 = dd.layers.length → dd.layers[l]? = some ly → Live l p → ly[p]? = some n →
      StepP H Prot B t (cfg.root.depth + l) l p n lyF LN)
    (stepN : ∀ (p : Nat) n, LN p → lyF[p]? = some n →
      StepP H Prot B t (cfg.root.depth + dd.layers.length) dd.layers.length p n dd'.next (fun _ => True))
    (rubF : ∀ (p : Nat) n, LN p → lyF[p]? = some n → n.rub = cfg.R.rub n.state)
    (protF : ∀ (p : Nat) n, LN p → lyF[p]? = some n → n.isExact = true →
      Prot (cfg.root.depth + dd.layers.length) n.state n.value)
    (cutF : ∀ n ∈ lyF, n.cutset = false) (cutN : ∀ n ∈ dd'.next, n.cutset = false)
    (rootF : dd.layers = [] → ∃ n0, lyF[0]? = some n0 ∧ n0.state = cfg.root.state ∧ n0.value = cfg.root.value ∧ LN 0) :
    DInv cfg H Prot B t (fun l p => if l = dd.layers.length then LN p else Live l p) dd' := by
  have hlen' : dd'.layers.length = dd.layers.length + 1 := by rw [hl, List.length_append, List.length_singleton]
  have hlay : ∀ (i : Nat) ly, dd'.layers[i]? = some ly → dd.layers[i]? = some ly ∨ (i = dd.layers.length ∧ ly = lyF) := by
    intro i ly hi; rw [hl] at hi; exact getElem?_append_singleton_cases hi
  have hnew : dd'.layers[dd.layers.length]? = some lyF := by rw [hl]; exact List.getElem?_concat_length
  -- liveness at an old layer is the old liveness
  have hold : ∀ {l : Nat} {ly : List (Node S)} {p : Nat}, dd.layers[l]? = some ly →
      (if l = dd.layers.length then LN p else Live l p) → Live l p := by
    intro l ly p hly h
    have := Cover.lt_of_getElem?_some hly
    rwa [if_neg (Nat.ne_of_lt this)] at h
  refine ⟨by rw [hlen']; exact Nat.succ_le_succ hlen, by rw [hlen']; exact rngN, ?_, arcsN, fun _ => att, ?_, ?_, ?_, ?_, ?_, cutN, ?_, ?_⟩
  · intro i ly hi m hm
    rcases hlay i ly hi with hi | ⟨rfl, rfl⟩
    · exact hI.rngL i ly hi m hm
    · exact rngF m hm
  · intro l p ly ly' n hly hly' hlive hnp
    have hlt := Cover.lt_of_getElem?_some hly'
    rw [hlen'] at hlt
    rcases hlay l ly hly with hly0 | ⟨rfl, _⟩
    · rcases hlay (l + 1) ly' hly' with hly0' | ⟨hl1, rfl⟩
      · have := Cover.lt_of_getElem?_some hly0'
        refine (hI.stepL l p ly ly' n hly0 hly0' (hold hly0 hlive) hnp).mono (fun p' h => ?_)
        rw [if_neg (Nat.ne_of_lt this)]; exact h
      · refine (stepF l p ly n hl1 hly0 (hold hly0 hlive) hnp).mono (fun p' h => ?_)
        rw [if_pos hl1]; exact h
    · exact absurd hlt (Nat.lt_irrefl _)
  · intro l p ly n hl1 hly hlive hnp
    have hlL : l = dd.layers.length := Nat.succ.inj (hl1.trans hlen')
    subst hlL
    rw [hnew] at hly; cases hly
    rw [if_pos rfl] at hlive
    exact stepN p n hlive hnp
  · intro l p ly n hly hlive hnp
    rcases hlay l ly hly with hly0 | ⟨rfl, rfl⟩
    · exact hI.rub l p ly n hly0 (hold hly0 hlive) hnp
    · rw [if_pos rfl] at hlive; exact rubF p n hlive hnp
  · intro l p ly n hly hlive hnp hex
    rcases hlay l ly hly with hly0 | ⟨rfl, rfl⟩
    · exact hI.prot l p ly n hly0 (hold hly0 hlive) hnp hex
    · rw [if_pos rfl] at hlive; exact protF p n hlive hnp hex
  · intro ly hly m hm
    rw [hl] at hly
    rcases List.mem_append.mp hly with hly | hly
    · exact hI.cutL ly hly m hm
    · rw [List.mem_singleton] at hly; subst hly; exact cutF m hm
  · intro h; rw [hl] at h; exact absurd h (List.append_ne_nil_of_right_ne_nil _ (List.cons_ne_nil _ _))
  · intro _
    by_cases hemp : dd.layers = []
    · obtain ⟨n0, h0, hs0, hv0, hLN⟩ := rootF hemp
      have hL0 : dd.layers.length = 0 := by rw [hemp]; rfl
      refine ⟨lyF, n0, by rw [← hL0]; exact hnew, h0, hs0, hv0, ?_⟩
      rw [if_pos hL0.symm]; exact hLN
    · obtain ⟨ly, n0, hly, hn0, hs0, hv0, hlive⟩ := hI.root1 hemp
      have hlt : 0 < dd.layers.length := Cover.lt_of_getElem?_some hly
      refine ⟨ly, n0, by rw [hl, List.getElem?_append_left hlt]; exact hly, hn0, hs0, hv0, ?_⟩
      rw [if_neg (Nat.ne_of_lt hlt)]; exact hlive

theorem expand_dinv (cfg : Cfg S K) (D : DomRule S K) (H : Nat → S → EInt) (opt : Int) (Prot : Nat → S → Int → Prop) (B : Int)
    (hy : DomHyp cfg D H opt Prot B) (p0 : List Dec) (Live : Nat → Nat → Prop) (dd dd' : DD S K) (var : Nat)
    (layer' : List (Node S)) (cur' : List Nat) (lg : List (Call S)) (LN : Nat → Prop)
    (hlen : dd.layers.length ≤ cfg.P.nbVars)
    (hdepth : dd.depth = cfg.root.depth + dd.layers.length)
    (hnv : cfg.P.nextVar dd.depth (dd.next.map (·.state)) = some var)
    (hI : DInv cfg H Prot B opt Live dd) (hsq : SqPostD cfg H Prot B opt Live dd var layer' cur' LN)
    (hM' : MInv cfg B p0 dd')
    (hl : dd'.layers = dd.layers ++ [(expandAll cfg var dd.layers.length layer' cur' lg).1])
    (hn : dd'.next = (expandAll cfg var dd.layers.length layer' cur' lg).2.1) :
    DInv cfg H Prot B opt (fun l p => if l = dd.layers.length then LN p else Live l p) dd' := by
  unfold expandAll at hl hn
  have hexs := fold_child_exsrc cfg var dd.layers.length cur' layer' lg
  have hnewA := Bounds.fold_hasA_new cfg var dd.layers.length cur' (layer', [], lg)
  have hrubS := Bounds.fold_rubSet cfg var dd.layers.length cur' (layer', [], lg)
  have hcutC := Bounds.fold_child_cutset cfg var dd.layers.length cur' (layer', [], lg) (fun m hm => by cases hm)
  have hrub : RubEq (cur'.foldl (expandOne cfg var dd.layers.length) (layer', [], lg)).1 layer' :=
    Bounds.fold_rubEq cfg var dd.layers.length cur' (layer', [], lg)
  have hkeys := Cover.fold_keys cfg var dd.layers.length cur' (layer', [], lg)
  have hok := Cover.fold_ok cfg var dd.layers.length cur' (layer', [], lg) (layer'.map Cover.key) B (Cover.Bd B dd.layers.length)
    rfl (fun sv hsv => by obtain ⟨n, hn, rfl⟩ := List.mem_map.mp hsv; exact hsq.rng n hn) (fun s d _ => hy.B.cost s _ _)
    (fun m hm => by cases hm)
  generalize (cur'.foldl (expandOne cfg var dd.layers.length) (layer', [], lg)).1 = lyF at hl hrub hkeys hrubS
  rw [← hn] at hexs hnewA hcutC hok
  have hlen' : dd'.layers.length = dd.layers.length + 1 := by rw [hl, List.length_append, List.length_singleton]
  have hF : ∀ (q : Nat) n, lyF[q]? = some n → ∃ n0, layer'[q]? = some n0 ∧ n0.state = n.state ∧ n0.value = n.value ∧
      n0.inb = n.inb ∧ n0.cutset = n.cutset ∧ n0.isExact = n.isExact := by
    intro q n hq
    obtain ⟨n0, h0, hs⟩ := hrub.get hq
    exact ⟨n0, h0, stripRub_fields' hs⟩
  have hFm : ∀ n ∈ lyF, ∃ n0 ∈ layer', n0.value = n.value ∧ n0.cutset = n.cutset := by
    intro n hn
    obtain ⟨q, hq⟩ := List.mem_iff_getElem?.mp hn
    obtain ⟨n0, h0, _, hv, _, hc, _⟩ := hF q n hq
    exact ⟨n0, List.mem_of_getElem? h0, hv, hc⟩
  refine hI.snoc hl hlen ?_ ?_ (fun m hm => (hok m hm).arc) ?_ ?_ ?_ ?_ ?_ ?_ hcutC ?_
  · intro m hm
    obtain ⟨n0, h0, hv, _⟩ := hFm m hm
    rw [← hv]; exact hsq.rng n0 h0
  · intro m hm
    rw [Cover.Bd_succ]; exact (hok m hm).rng
  · intro m hm
    obtain ⟨a, ha, hal, sv, hsv, hv⟩ := (hok m hm).att
    rw [← hkeys, List.getElem?_map] at hsv
    cases hp : lyF[a.fromP]? with
    | none => rw [hp] at hsv; cases hsv
    | some p =>
      refine ⟨a, ha, p, ?_⟩
      rw [hal, hl]; exact Bounds.getNode_of List.getElem?_concat_length hp
  · intro l p ly n hl1 hly hlive hnp
    refine (hsq.step l p ly n hl1 hly hlive hnp).map (fun p' m hL hm _ => ?_)
    obtain ⟨m', hm', hs⟩ := hrub.get' hm
    obtain ⟨es, ev, ei, _, ee⟩ := stripRub_fields' hs
    exact ⟨m', hm', hL, es.symm, Int.le_of_eq ev, fun a ha => ei ▸ ha, fun hex => ⟨ee ▸ hex, ev.symm⟩⟩
  · -- the new layer under construction
    intro p n hlive hnp h hH ht
    obtain ⟨n0, h0, hs, hv, _, _, hie⟩ := hF p n hnp
    rw [← hs] at hH
    rw [← hv] at ht
    -- the decision: the protected one for an exact node, a non-losing one otherwise
    have hdec : ∃ d ∈ cfg.P.domain var n0.state, ∃ h', H (dd.depth + 1) (cfg.P.trans n0.state ⟨var, d⟩) = some h' ∧
        h ≤ cfg.P.cost n0.state (cfg.P.trans n0.state ⟨var, d⟩) ⟨var, d⟩ + h' ∧
        (n0.isExact = true → Prot (dd.depth + 1) (cfg.P.trans n0.state ⟨var, d⟩)
          (n0.value + cfg.P.cost n0.state (cfg.P.trans n0.state ⟨var, d⟩) ⟨var, d⟩)) := by
      by_cases hex : n0.isExact = true
      · have hpr := hsq.prot p n0 hlive h0 hex
        obtain ⟨dec, hdec, hpc⟩ := hy.prot.step dd.depth n0.state n0.value _ var hpr hnv
          (hsq.exst n0 (List.mem_of_getElem? h0) hex)
        obtain ⟨h1, hH1, hoh⟩ := EInt.addI_eq_some (hy.prot.opt _ _ _ hpr)
        obtain ⟨h', hH', hoh'⟩ := EInt.addI_eq_some (hy.prot.opt _ _ _ hpc)
        rw [← hdepth, hH1] at hH
        cases hH
        exact ⟨dec, hdec, h', hH', pot_step_eq (hoh.symm.trans hoh'), fun _ => hpc⟩
      · obtain ⟨d, hdm, h', hH', hle'⟩ := hsq.att p (hsq.sub p hlive) n0 h0 h (hdepth ▸ hH)
        exact ⟨d, hdm, h', hH', hle', fun he => absurd he hex⟩
    obtain ⟨d, hdm, h', hH', hle', hpc⟩ := hdec
    obtain ⟨m, hm, hms, hmv, hma⟩ := hnewA p (hsq.sub p hlive) n0.state n0.value (by rw [List.getElem?_map, h0]; rfl)
      (rub_gt hy.R hy.lb hy.gt hy.optLe (hdepth ▸ hH) ht) d hdm
    obtain ⟨p', hp'⟩ := List.mem_iff_getElem?.mp hm
    have hw := hsq.rng n0 (List.mem_of_getElem? h0)
    have hc := hy.B.cost n0.state (cfg.P.trans n0.state ⟨var, d⟩) ⟨var, d⟩
    have hsmall : Cover.Bd B dd.layers.length + B ≤ 4611686018427387904 := by
      rw [← Cover.Bd_succ]; exact Cover.Bd_small hy.B.toDom (Nat.succ_le_succ hlen)
    rw [Cover.satAdd_of_within hw hc hsmall] at hmv
    refine ⟨p', m, _, h', True.intro, hp', hma, rfl, rfl, hc, ?_, hle', ?_, fun hmex => ?_⟩
    · rw [hms, ← hdepth]; exact hH'
    · rw [← hv]; exact hmv
    · -- an exact child comes from an exact parent, and is reached exactly with at least the protected value
      obtain ⟨n00, h00, hex00⟩ := hexs m hm hmex _ hma
      dsimp only at h00
      rw [h0] at h00; cases h00
      obtain ⟨_, _, hr, hmd, _⟩ := hM'.next m hm hmex
      rw [hmd, hlen', ← Nat.add_assoc, ← hdepth, hms] at hr
      rw [hms, ← hdepth]
      exact hy.prot.reach_ge hy.P (hpc hex00) hr hmv
  · intro p n hlive hnp
    exact hrubS p (.inl (hsq.sub p hlive)) n hnp
  · intro p n hlive hnp hex
    obtain ⟨n0, h0, hs, hv, _, _, hie⟩ := hF p n hnp
    rw [← hs, ← hv, ← hdepth]
    exact hsq.prot p n0 hlive h0 (hie ▸ hex)
  · intro m hm
    obtain ⟨n0, h0, _, hc⟩ := hFm m hm
    rw [← hc]; exact hsq.cut n0 h0
  · intro hemp
    obtain ⟨n0, h0, hs0, hv0, hLN⟩ := hsq.root hemp
    obtain ⟨n, hn', hs⟩ := hrub.get' h0
    obtain ⟨es, ev, _⟩ := stripRub_fields' hs
    exact ⟨n, hn', es ▸ hs0, ev ▸ hv0, hLN⟩

/-- **one layer** keeps `DInv` (for some `Live`), through any admissible filter -/
theorem LayerStep.dinv {cfg : Cfg S K} {D : DomRule S K} {H : Nat → S → EInt} {opt : Int} {Prot : Nat → S → Int → Prop} {B : Int}
    (hy : RHyp cfg D H opt Prot B) {p0 : List Dec} {dd dd' : DD S K} {var : Nat} {fl : List (Node S)} {fk : List Nat}
    (hs : LayerStep cfg var dd dd' fl fk) (hf : FilterOk Prot dd fl fk)
    (hprot : Prot cfg.root.depth cfg.root.state cfg.root.value)
    (hdepth : dd.depth = cfg.root.depth + dd.layers.length)
    (hnv : cfg.P.nextVar dd.depth (dd.next.map (·.state)) = some var)
    (hM' : MInv cfg B p0 dd') (hJ : ∃ Live, DInv cfg H Prot B opt Live dd) : ∃ Live, DInv cfg H Prot B opt Live dd' := by
  obtain ⟨Live, hI⟩ := hJ
  obtain ⟨sq, hsq, hl, hn, _, _⟩ := hs
  obtain ⟨hsqF, hsts, hattF⟩ := sqpost_filtered cfg D H opt Prot B hy.toDomHyp Live dd var fl fk hf.thEq hf.keep hdepth hnv hprot hI
  have hlen2 : dd.layers.length ≤ cfg.P.nbVars :=
    Nat.le_of_lt (Nat.lt_of_le_of_lt (Nat.le_add_left _ _) (hdepth ▸ nv_depth_lt hy.nv hnv))
  rcases Bounds.squash_cases cfg dd fl fk hy.rel hy.W with ⟨_, e⟩ | ⟨c1, c2, e⟩
  · rw [e] at hsq; cases hsq
    exact ⟨_, expand_dinv cfg D H opt Prot B hy.toDomHyp p0 Live dd dd' var _ _ _ _ hlen2 hdepth hnv hI hsqF hM' hl hn⟩
  · rw [e] at hsq; cases hsq
    have hne2 : dd.layers ≠ [] := by intro h; rw [h] at c2; cases c2
    have hsqR := sqpost_relaxD cfg D H opt Prot B hy Live dd var _ _ dd.log hdepth hnv hlen2 c1 c2
      (fun p hp => hf.thEq.length ▸ hf.lt p hp) hI hsqF hsts (hattF hne2)
    exact ⟨_, expand_dinv cfg D H opt Prot B hy.toDomHyp p0 Live dd dd' var _ _ _ _ hlen2 hdepth hnv hI hsqR hM' hl hn⟩

theorem init_dinv (cfg : Cfg S K) (H : Nat → S → EInt) (Prot : Nat → S → Int → Prop) (B t : Int) (cache : Cache S)
    (store : DomStore S K) (polls : Nat) (hB : NoClamp cfg.P cfg.R cfg.root.value B) :
    DInv cfg H Prot B t (fun _ _ => False) (initDD cfg cache store polls) := by
  have hlay : (initDD cfg cache store polls).layers = [] := rfl
  have hone : ∀ n ∈ (initDD cfg cache store polls).next,
      n = { state := cfg.root.state, value := cfg.root.value, depth := cfg.root.depth } := fun n hn => List.mem_singleton.mp hn
  refine ⟨Nat.zero_le _, fun n hn => ?_, fun i ly hi => (nomatch hi), fun n hn a ha => ?_, fun h => absurd rfl h,
    fun l p ly ly' n hi => (nomatch hi), fun l p ly n _ hi => (nomatch hi), fun l p ly n hi => (nomatch hi),
    fun l p ly n hi => (nomatch hi), fun ly hly => (nomatch hly), fun n hn => ?_, fun _ => ⟨_, rfl, rfl, rfl⟩, fun h => absurd rfl h⟩
  · rw [hone n hn]
    have := hB.root
    simp only [hlay, List.length_nil, Cover.Bd, Cover.Within]
    omega
  · rw [hone n hn] at ha; cases ha
  · rw [hone n hn]

end Ddo.C10
