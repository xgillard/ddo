import DdoModel.Mdd
import DdoModel.Proofs.Cache
import DdoModel.Proofs.CacheClosedDistinct
/-! One compilation against a cache that changes under it (the parallel solver: the cache is a concurrent map other
    threads write while this compilation reads it).

`filterCacheO` / `stepLayerO` / `buildLoopO` / `compileO` are line-by-line copies of `filterCache` / `stepLayer` /
`buildLoop` / `compile` of `Mdd.lean`, except that the cache is a function `cs` of the READ INDEX: the `j`-th
`get_threshold` issued by the compilation is answered by the cache `cs j`.  The read counter is incremented once per node
examined by `_filter_with_cache` (once per `some n` branch of the fold), whatever `cfg.useCache` (with `EmptyCache` the
call is issued as well, it just answers `None`).

`compileO_sim`: the compilation against the changing cache is the compilation against ONE *virtual* cache `cv`, each of
whose entries was an entry of `cs j` for some read index `j`.  The reason: one compilation never reads the same cell
`(state, depth)` twice (`loopReads_ok`) — inside a layer the states are pairwise distinct (`_branch_on` is
insert-or-update keyed by the state), all the nodes of the layer under construction have depth `dd.depth`, and the depth
increases by one from a layer to the next. -/
set_option linter.unusedSectionVars false
set_option linter.unusedVariables false
namespace Ddo.ParCache
open Ddo
variable {S K : Type} [DecidableEq S] [DecidableEq K]

/-- `_filter_with_cache` against the changing cache; `k` = number of reads issued so far.  Returns the result of
    `filterCache` and the read counter afterwards. -/
def filterCacheO (cfg : Cfg S K) (cs : Nat → Cache S) (k : Nat) (layer : List (Node S)) (cur : List Nat) :
    (List (Node S) × List Nat) × Nat :=
  cur.foldl (fun ((ly, keep), j) p =>
    match ly[p]? with
    | none => ((ly, keep), j)
    | some n =>
      let t := if cfg.useCache then ((cs j).get n.state n.depth).getD none else none
      match t with
      | some t => if n.value > t.value then ((ly, keep ++ [p]), j + 1)
                  else ((ly.set p { n with cache := true, theta := some t.value }, keep), j + 1)
      | none => ((ly, keep ++ [p]), j + 1)) ((layer, []), k)

def stepLayerO (cfg : Cfg S K) (cs : Nat → Cache S) (k : Nat) (dd : DD S K) (var : Nat) :
    (Option (DD S K) × Outcome) × Nat :=
  if dd.next.isEmpty then
    ((some { dd with layers := dd.layers ++ [[]] }, .cutoff), k)
  else
    let layer := dd.next
    let cur := List.range layer.length
    let ((layer, cur), k) := if dd.layers.isEmpty then ((layer, cur), k) else filterCacheO cfg cs k layer cur
    let before := cur.length
    let (layer, cur, store, okDom) := filterDom cfg dd.store layer cur
    let ndom := dd.ndom + (before - cur.length)
    if !okDom then ((none, .crash), k) else
    match squash cfg dd layer cur with
    | none => ((none, .crash), k)
    | some (layer, cur, log, lel) =>
      let lidx := dd.layers.length
      let (layer, next, log) := expandAll cfg var lidx layer cur log
      ((some { dd with layers := dd.layers ++ [layer], next := next, depth := dd.depth + 1, lel := lel, store := store, log := log, ndom := ndom }, .ok), k)

/-- `buildLoop` against the changing cache (`fuel`, then the read counter) -/
def buildLoopO (cfg : Cfg S K) (cs : Nat → Cache S) (stopAt : Option Nat) : Nat → Nat → DD S K → (DD S K × Outcome) × Nat
  | 0, k, dd => ((dd, .crash), k)
  | fuel + 1, k, dd =>
    let states := dd.next.map (·.state)
    let ans := cfg.P.nextVar dd.depth states
    let dd := { dd with log := Call.nextVar dd.depth states ans :: dd.log }
    match ans with
    | none => ((dd, .ok), k)
    | some var =>
      let dd := { dd with polls := dd.polls + 1 }
      if (match stopAt with | some k => decide (dd.polls ≥ k) | none => false) then ((dd, .cutoff), k)
      else
        match stepLayerO cfg cs k dd var with
        | ((none, _), k') => ((dd, .crash), k')
        | ((some dd', .cutoff), k') => ((dd', .ok), k')
        | ((some dd', .crash), k') => ((dd', .crash), k')
        | ((some dd', .ok), k') => buildLoopO cfg cs stopAt fuel k' dd'

/-- `compile` against the changing cache: the first three components of what `compile` returns (the cache field of the
    diagram is irrelevant; it is initialised with `cs 0`) -/
def compileO (cfg : Cfg S K) (cs : Nat → Cache S) (store : DomStore S K) (polls : Nat) (stopAt : Option Nat) :
    Outcome × Result S × Option (Result S) :=
  let ((dd, oc), _) := buildLoopO cfg cs stopAt (cfg.P.nbVars + 2) 0 (initDD cfg (cs 0) store polls)
  let empty : Result S := { outcome := oc, isExact := false, bestValue := none, bestExactValue := none, bestSol := none,
                            bestExactSol := none, cutset := [], cacheUpdates := [], expanded := [], polls := dd.polls }
  match oc with
  | .ok =>
    let b := finalizeLayers dd
    let relaxed := cfg.ctype == .relaxed
    let must := b.ebpMust relaxed
    let may := b.ebpMay relaxed
    let r1 := (finalize cfg b must).1
    (oc, r1, if may != must then some (finalize cfg b may).1 else none)
  | _ => (oc, empty, none)

def setCache (c : Cache S) (dd : DD S K) : DD S K := { dd with cache := c }

/-- `stepLayer` after `_filter_with_cache` -/
def stepRest (cfg : Cfg S K) (dd : DD S K) (var : Nat) (lc : List (Node S) × List Nat) : Option (DD S K) × Outcome :=
  let (layer, cur) := lc
  let before := cur.length
  let (layer, cur, store, okDom) := filterDom cfg dd.store layer cur
  let ndom := dd.ndom + (before - cur.length)
  if !okDom then (none, .crash) else
  match squash cfg dd layer cur with
  | none => (none, .crash)
  | some (layer, cur, log, lel) =>
    let lidx := dd.layers.length
    let (layer, next, log) := expandAll cfg var lidx layer cur log
    (some { dd with layers := dd.layers ++ [layer], next := next, depth := dd.depth + 1, lel := lel, store := store, log := log, ndom := ndom }, .ok)

theorem stepLayer_eq (cfg : Cfg S K) (dd : DD S K) (var : Nat) :
    stepLayer cfg dd var =
      if dd.next.isEmpty then (some { dd with layers := dd.layers ++ [[]] }, .cutoff)
      else stepRest cfg dd var (if dd.layers.isEmpty then (dd.next, List.range dd.next.length)
        else filterCache cfg dd.cache dd.next (List.range dd.next.length)) := rfl

theorem stepLayerO_eq (cfg : Cfg S K) (cs : Nat → Cache S) (k : Nat) (dd : DD S K) (var : Nat) :
    stepLayerO cfg cs k dd var =
      if dd.next.isEmpty then ((some { dd with layers := dd.layers ++ [[]] }, .cutoff), k)
      else
        (stepRest cfg dd var (if dd.layers.isEmpty then ((dd.next, List.range dd.next.length), k)
          else filterCacheO cfg cs k dd.next (List.range dd.next.length)).1,
         (if dd.layers.isEmpty then ((dd.next, List.range dd.next.length), k)
          else filterCacheO cfg cs k dd.next (List.range dd.next.length)).2) := by
  unfold stepLayerO stepRest
  split
  · rfl
  · dsimp only
    generalize (if dd.layers.isEmpty then ((dd.next, List.range dd.next.length), k)
          else filterCacheO cfg cs k dd.next (List.range dd.next.length)) = r
    obtain ⟨⟨layer, cur⟩, k'⟩ := r
    dsimp only
    generalize filterDom cfg dd.store layer cur = fd
    obtain ⟨l1, c1, st, ok⟩ := fd
    dsimp only
    split
    · rfl
    · split
      · rfl
      · rfl

theorem stepRest_setCache (cfg : Cfg S K) (c : Cache S) (dd : DD S K) (var : Nat) (lc : List (Node S) × List Nat) :
    stepRest cfg (setCache c dd) var lc = ((stepRest cfg dd var lc).1.map (setCache c), (stepRest cfg dd var lc).2) := by
  unfold stepRest
  obtain ⟨layer, cur⟩ := lc
  dsimp only
  have e1 : (setCache c dd).store = dd.store := rfl
  have e2 : squash cfg (setCache c dd) = squash cfg dd := rfl
  rw [e1]
  generalize filterDom cfg dd.store layer cur = fd
  obtain ⟨l1, c1, st, ok⟩ := fd
  dsimp only
  rw [e2]
  split
  · rfl
  · split
    · rfl
    · rfl

/-- a read: the cell `(state, depth)` and the read index -/
abbrev Read (S : Type) := S × Nat × Nat

def ansOf (cs : Nat → Cache S) (e : Read S) : Option Thr := ((cs e.2.2).get e.1 e.2.1).getD none

/-- the cache `cv` answers the read `e` as `cs` did -/
def Agree (cv : Cache S) (cs : Nat → Cache S) (e : Read S) : Prop := (cv.get e.1 e.2.1).getD none = ansOf cs e

def lookupO (cfg : Cfg S K) (cs : Nat → Cache S) (j : Nat) (n : Node S) : Option Thr :=
  if cfg.useCache then ((cs j).get n.state n.depth).getD none else none

def fcNodeA (a : Option Thr) (n : Node S) : Node S :=
  match a with
  | some t => if n.value > t.value then n else { n with cache := true, theta := some t.value }
  | none => n

def fcKeepA (a : Option Thr) (n : Node S) : Bool :=
  match a with
  | some t => decide (n.value > t.value)
  | none => true

def fcStepO (cfg : Cfg S K) (cs : Nat → Cache S) (acc : (List (Node S) × List Nat) × Nat) (p : Nat) :
    (List (Node S) × List Nat) × Nat :=
  match acc.1.1[p]? with
  | none => acc
  | some n => ((acc.1.1.set p (fcNodeA (lookupO cfg cs acc.2 n) n),
      if fcKeepA (lookupO cfg cs acc.2 n) n then acc.1.2 ++ [p] else acc.1.2), acc.2 + 1)

theorem filterCacheO_eq (cfg : Cfg S K) (cs : Nat → Cache S) (k : Nat) (layer : List (Node S)) (cur : List Nat) :
    filterCacheO cfg cs k layer cur = cur.foldl (fcStepO cfg cs) ((layer, []), k) := by
  unfold filterCacheO
  congr 1
  funext acc p
  obtain ⟨⟨ly, keep⟩, j⟩ := acc
  unfold fcStepO fcNodeA fcKeepA lookupO
  dsimp only
  cases hp : ly[p]? with
  | none => rfl
  | some n =>
    dsimp only
    cases ht : (if cfg.useCache = true then ((cs j).get n.state n.depth).getD none else none) with
    | none =>
      dsimp only
      rw [Cover.set_same _ _ _ hp]
      rfl
    | some t =>
      dsimp only
      by_cases hv : n.value > t.value
      · simp only [hv, if_true, decide_true]
        rw [Cover.set_same _ _ _ hp]
      · simp only [hv, if_false, decide_false]
        rfl

/-- the reads issued by the fold, in issue order -/
def fcReads (cfg : Cfg S K) (cs : Nat → Cache S) : List Nat → (List (Node S) × List Nat) × Nat → List (Read S)
  | [], _ => []
  | p :: cur, acc =>
    (match acc.1.1[p]? with | none => [] | some n => [(n.state, n.depth, acc.2)]) ++ fcReads cfg cs cur (fcStepO cfg cs acc p)

theorem fcStep_agree (cfg : Cfg S K) (cs : Nat → Cache S) (cv : Cache S) (acc : (List (Node S) × List Nat) × Nat) (p : Nat)
    (h : ∀ n, acc.1.1[p]? = some n → Agree cv cs (n.state, n.depth, acc.2)) :
    Theta.fcStep cfg cv acc.1 p = (fcStepO cfg cs acc p).1 := by
  unfold Theta.fcStep fcStepO
  cases hp : acc.1.1[p]? with
  | none => rfl
  | some n =>
    dsimp only
    have hl : Theta.lookup cfg cv n = lookupO cfg cs acc.2 n := by
      unfold Theta.lookup lookupO
      have := h n hp
      unfold Agree ansOf at this
      dsimp only at this
      rw [this]
    have e1 : Theta.fcNode cfg cv n = fcNodeA (lookupO cfg cs acc.2 n) n := by
      unfold Theta.fcNode fcNodeA; rw [hl]; cases lookupO cfg cs acc.2 n <;> rfl
    have e2 : Theta.fcKeep cfg cv n = fcKeepA (lookupO cfg cs acc.2 n) n := by
      unfold Theta.fcKeep fcKeepA; rw [hl]; cases lookupO cfg cs acc.2 n <;> rfl
    rw [e1, e2]

theorem fcFold_sim (cfg : Cfg S K) (cs : Nat → Cache S) (cv : Cache S) :
    ∀ (cur : List Nat) (acc : (List (Node S) × List Nat) × Nat),
      (∀ e ∈ fcReads cfg cs cur acc, Agree cv cs e) →
      cur.foldl (Theta.fcStep cfg cv) acc.1 = (cur.foldl (fcStepO cfg cs) acc).1 := by
  intro cur
  induction cur with
  | nil => intro acc _; rfl
  | cons p cur ih =>
    intro acc h
    rw [List.foldl_cons, List.foldl_cons]
    have h1 : Theta.fcStep cfg cv acc.1 p = (fcStepO cfg cs acc p).1 := by
      apply fcStep_agree
      intro n hn
      apply h
      unfold fcReads
      rw [hn]
      exact List.mem_append_left _ List.mem_cons_self
    rw [h1]
    apply ih
    intro e he
    apply h
    unfold fcReads
    exact List.mem_append_right _ he

theorem filterCacheO_sim (cfg : Cfg S K) (cs : Nat → Cache S) (cv : Cache S) (k : Nat) (layer : List (Node S))
    (cur : List Nat) (h : ∀ e ∈ fcReads cfg cs cur ((layer, []), k), Agree cv cs e) :
    filterCache cfg cv layer cur = (filterCacheO cfg cs k layer cur).1 := by
  rw [Theta.filterCache_eq, filterCacheO_eq]
  exact fcFold_sim cfg cs cv cur ((layer, []), k) h

/-- the reads issued by one layer step (the root layer is not filtered) -/
def stepReads (cfg : Cfg S K) (cs : Nat → Cache S) (k : Nat) (dd : DD S K) : List (Read S) :=
  if dd.next.isEmpty then [] else if dd.layers.isEmpty then []
  else fcReads cfg cs (List.range dd.next.length) ((dd.next, []), k)

theorem stepLayer_setCache_eq (cfg : Cfg S K) (cv : Cache S) (dd : DD S K) (var : Nat) :
    stepLayer cfg (setCache cv dd) var =
      if dd.next.isEmpty then (some (setCache cv { dd with layers := dd.layers ++ [[]] }), .cutoff)
      else stepRest cfg (setCache cv dd) var (if dd.layers.isEmpty then (dd.next, List.range dd.next.length)
        else filterCache cfg cv dd.next (List.range dd.next.length)) :=
  stepLayer_eq cfg (setCache cv dd) var

theorem stepLayerO_sim (cfg : Cfg S K) (cs : Nat → Cache S) (cv : Cache S) (k : Nat) (dd : DD S K) (var : Nat)
    (h : ∀ e ∈ stepReads cfg cs k dd, Agree cv cs e) :
    stepLayer cfg (setCache cv dd) var =
      ((stepLayerO cfg cs k dd var).1.1.map (setCache cv), (stepLayerO cfg cs k dd var).1.2) := by
  rw [stepLayer_setCache_eq, stepLayerO_eq]
  unfold stepReads at h
  by_cases h1 : dd.next.isEmpty = true
  · rw [if_pos h1, if_pos h1]; rfl
  · rw [if_neg h1, if_neg h1]
    rw [if_neg h1] at h
    rw [stepRest_setCache]
    by_cases h2 : dd.layers.isEmpty = true
    · rw [if_pos h2, if_pos h2]
    · rw [if_neg h2, if_neg h2]
      rw [if_neg h2] at h
      rw [filterCacheO_sim cfg cs cv k dd.next _ h]

/-- the reads issued by the loop, in issue order -/
def loopReads (cfg : Cfg S K) (cs : Nat → Cache S) (stopAt : Option Nat) : Nat → Nat → DD S K → List (Read S)
  | 0, _, _ => []
  | fuel + 1, k, dd =>
    let states := dd.next.map (·.state)
    let ans := cfg.P.nextVar dd.depth states
    let dd := { dd with log := Call.nextVar dd.depth states ans :: dd.log }
    match ans with
    | none => []
    | some var =>
      let dd := { dd with polls := dd.polls + 1 }
      if (match stopAt with | some k => decide (dd.polls ≥ k) | none => false) then []
      else
        stepReads cfg cs k dd ++
        match stepLayerO cfg cs k dd var with
        | ((some dd', .ok), k') => loopReads cfg cs stopAt fuel k' dd'
        | _ => []

theorem buildLoopO_sim (cfg : Cfg S K) (cs : Nat → Cache S) (cv : Cache S) (stopAt : Option Nat) :
    ∀ (fuel k : Nat) (dd : DD S K), (∀ e ∈ loopReads cfg cs stopAt fuel k dd, Agree cv cs e) →
      buildLoop cfg stopAt fuel (setCache cv dd) =
        (setCache cv (buildLoopO cfg cs stopAt fuel k dd).1.1, (buildLoopO cfg cs stopAt fuel k dd).1.2) := by
  -- the test on `stopAt` gets a name: its value matters, not which case of `stopAt` gives it
  have hcond : ∀ p : Nat, ∃ b : Bool, (match stopAt with | some k => decide (p ≥ k) | none => false) = b :=
    fun _ => ⟨_, rfl⟩
  intro fuel
  induction fuel with
  | zero => intro k dd _; rfl
  | succ fuel ih =>
    intro k dd h
    unfold buildLoop buildLoopO
    unfold loopReads at h
    have en : (setCache cv dd).next = dd.next := rfl
    have ed : (setCache cv dd).depth = dd.depth := rfl
    dsimp only at h ⊢
    rw [en, ed]
    cases hans : cfg.P.nextVar dd.depth (dd.next.map (·.state)) with
    | none => rfl
    | some var =>
      rw [hans] at h
      dsimp only at h ⊢
      have ep : (setCache cv dd).polls = dd.polls := rfl
      rw [ep]
      obtain ⟨stop, hstop⟩ := hcond (dd.polls + 1)
      rw [hstop] at h ⊢
      cases stop
      case true => exact if_pos hstop
      rw [if_neg Bool.false_ne_true] at h ⊢
      -- `buildLoop` carries its own copy of the test
      refine (if_neg (fun hc => Bool.false_ne_true (hstop.symm.trans hc))).trans ?_
      generalize hdd1 : (DD.mk dd.layers dd.next dd.depth dd.lel dd.cache dd.store
        (Call.nextVar dd.depth (dd.next.map (·.state)) (some var) :: dd.log) dd.cacheLog (dd.polls + 1) dd.ndom) = dd1 at h ⊢
      have hsc : (DD.mk (setCache cv dd).layers dd.next dd.depth (setCache cv dd).lel (setCache cv dd).cache
          (setCache cv dd).store (Call.nextVar dd.depth (dd.next.map (·.state)) (some var) :: (setCache cv dd).log)
          (setCache cv dd).cacheLog (dd.polls + 1) (setCache cv dd).ndom) = setCache cv dd1 := by
        rw [← hdd1]; rfl
      rw [hsc]
      rw [stepLayerO_sim cfg cs cv k dd1 var (fun e he => h e (List.mem_append_left _ he))]
      generalize hr : stepLayerO cfg cs k dd1 var = r at h
      obtain ⟨⟨o, oc⟩, k'⟩ := r
      cases o with
      | none => rfl
      | some dd' =>
        cases oc with
        | cutoff => rfl
        | crash => rfl
        | ok =>
          dsimp only [Option.map_some]
          exact ih k' dd' (fun e he => h e (List.mem_append_right _ he))

theorem finalizeLayers_setCache (c : Cache S) (dd : DD S K) :
    finalizeLayers (setCache c dd) = { finalizeLayers dd with dd := setCache c dd } := by
  unfold finalizeLayers
  have e1 : (setCache c dd).next = dd.next := rfl
  have e2 : (setCache c dd).layers = dd.layers := rfl
  have e3 : (setCache c dd).lel = dd.lel := rfl
  rw [e1, e2, e3]

theorem finalize_setCache (cfg : Cfg S K) (c : Cache S) (b : Built S K) (e : Bool) :
    finalize cfg { b with dd := setCache c b.dd } e = finalize cfg b e := rfl

theorem ebpMust_setCache (c : Cache S) (b : Built S K) (r : Bool) :
    Built.ebpMust { b with dd := setCache c b.dd } r = b.ebpMust r := rfl
theorem ebpMay_setCache (c : Cache S) (b : Built S K) (r : Bool) :
    Built.ebpMay { b with dd := setCache c b.dd } r = b.ebpMay r := rfl

def compileReads (cfg : Cfg S K) (cs : Nat → Cache S) (store : DomStore S K) (polls : Nat) (stopAt : Option Nat) :
    List (Read S) :=
  loopReads cfg cs stopAt (cfg.P.nbVars + 2) 0 (initDD cfg (cs 0) store polls)

theorem compileO_of_agree (cfg : Cfg S K) (cs : Nat → Cache S) (cv : Cache S) (store : DomStore S K) (polls : Nat)
    (stopAt : Option Nat) (h : ∀ e ∈ compileReads cfg cs store polls stopAt, Agree cv cs e) :
    compileO cfg cs store polls stopAt =
      ((compile cfg cv store polls stopAt).1, (compile cfg cv store polls stopAt).2.1,
       (compile cfg cv store polls stopAt).2.2.1) := by
  have hsim := buildLoopO_sim cfg cs cv stopAt (cfg.P.nbVars + 2) 0 (initDD cfg (cs 0) store polls) h
  have hinit : setCache cv (initDD cfg (cs 0) store polls) = initDD cfg cv store polls := rfl
  rw [hinit] at hsim
  unfold compile compileO
  rw [hsim]
  generalize buildLoopO cfg cs stopAt (cfg.P.nbVars + 2) 0 (initDD cfg (cs 0) store polls) = r
  obtain ⟨⟨dd, oc⟩, k⟩ := r
  dsimp only
  cases oc with
  | ok =>
    dsimp only
    rw [finalizeLayers_setCache]
    rfl
  | cutoff => rfl
  | crash => rfl

/-- sanity: against a cache that does not change, `compileO` is `compile` -/
theorem compileO_const (cfg : Cfg S K) (cache : Cache S) (store : DomStore S K) (polls : Nat) (stopAt : Option Nat) :
    compileO cfg (fun _ => cache) store polls stopAt =
      ((compile cfg cache store polls stopAt).1, (compile cfg cache store polls stopAt).2.1,
       (compile cfg cache store polls stopAt).2.2.1) :=
  compileO_of_agree cfg (fun _ => cache) cache store polls stopAt (fun _ _ => rfl)

def cellOf (e : Read S) : S × Nat := (e.1, e.2.1)

/-- no cell is read twice -/
def Distinct (log : List (Read S)) : Prop := log.Pairwise (fun a b => cellOf a ≠ cellOf b)

/-- layer `d` of the virtual cache: the non-empty answers to the reads at depth `d` -/
def layerOf (cs : Nat → Cache S) (d : Nat) : List (Read S) → CLayer S
  | [] => []
  | e :: r =>
    match (if e.2.1 = d then ansOf cs e else none) with
    | some t => (e.1, t) :: layerOf cs d r
    | none => layerOf cs d r

/-- the virtual cache: `n` layers, layer `d` holds the non-empty answers to the reads at depth `d` -/
def virtCache (cs : Nat → Cache S) (n : Nat) (log : List (Read S)) : Cache S :=
  ⟨(List.range n).map (fun d => layerOf cs d log)⟩

theorem virt_get (cs : Nat → Cache S) (n : Nat) (log : List (Read S)) (s : S) (d : Nat) :
    (virtCache cs n log).get s d = if d < n then some ((layerOf cs d log).get s) else none := by
  unfold Cache.get virtCache
  dsimp only
  by_cases hd : d < n
  · rw [if_pos hd, List.getElem?_map, List.getElem?_range hd]; rfl
  · rw [if_neg hd, List.getElem?_eq_none (by rw [List.length_map, List.length_range]; omega)]

theorem layerOf_cons_some (cs : Nat → Cache S) (d : Nat) (e : Read S) (r : List (Read S)) (t : Thr)
    (h : (if e.2.1 = d then ansOf cs e else none) = some t) :
    layerOf cs d (e :: r) = (e.1, t) :: layerOf cs d r := by
  rw [layerOf, h]
theorem layerOf_cons_none (cs : Nat → Cache S) (d : Nat) (e : Read S) (r : List (Read S))
    (h : (if e.2.1 = d then ansOf cs e else none) = none) :
    layerOf cs d (e :: r) = layerOf cs d r := by
  rw [layerOf, h]

theorem ite_some_elim {d d' : Nat} {a : Option Thr} {t : Thr} (h : (if d' = d then a else none) = some t) :
    d' = d ∧ a = some t := by
  by_cases hd : d' = d
  · rw [if_pos hd] at h; exact ⟨hd, h⟩
  · rw [if_neg hd] at h; cases h

theorem layerOf_get_some (cs : Nat → Cache S) (d : Nat) (s : S) (t : Thr) :
    ∀ (log : List (Read S)), (layerOf cs d log).get s = some t →
      ∃ e ∈ log, e.1 = s ∧ e.2.1 = d ∧ ansOf cs e = some t := by
  intro log
  induction log with
  | nil => intro h; simp [layerOf, CLayer.get] at h
  | cons e r ih =>
    intro h
    cases ha : (if e.2.1 = d then ansOf cs e else none) with
    | none =>
      rw [layerOf_cons_none cs d e r ha] at h
      obtain ⟨e', he', h'⟩ := ih h
      exact ⟨e', List.mem_cons_of_mem _ he', h'⟩
    | some t' =>
      rw [layerOf_cons_some cs d e r t' ha] at h
      obtain ⟨hd, hans⟩ := ite_some_elim ha
      unfold CLayer.get at h
      by_cases hs : e.1 = s
      · rw [if_pos hs] at h
        injection h with h
        exact ⟨e, List.mem_cons_self, hs, hd, by rw [hans, h]⟩
      · rw [if_neg hs] at h
        obtain ⟨e', he', h'⟩ := ih h
        exact ⟨e', List.mem_cons_of_mem _ he', h'⟩

theorem layerOf_get_of_mem (cs : Nat → Cache S) (d : Nat) :
    ∀ (log : List (Read S)), Distinct log → ∀ e ∈ log, e.2.1 = d → (layerOf cs d log).get e.1 = ansOf cs e := by
  intro log
  induction log with
  | nil => intro _ e he; cases he
  | cons e0 r ih =>
    intro hD e he hd
    obtain ⟨hD0, hDr⟩ := List.pairwise_cons.mp hD
    rcases List.mem_cons.mp he with rfl | her
    · cases ha : ansOf cs e with
      | some t =>
        rw [layerOf_cons_some cs d e r t (by rw [if_pos hd, ha])]
        unfold CLayer.get
        rw [if_pos rfl]
      | none =>
        rw [layerOf_cons_none cs d e r (by rw [if_pos hd, ha])]
        cases hg : (layerOf cs d r).get e.1 with
        | none => rfl
        | some t =>
          obtain ⟨e', he', h1, h2, _⟩ := layerOf_get_some cs d e.1 t r hg
          exfalso
          apply hD0 e' he'
          unfold cellOf
          rw [h1, h2, hd]
    · cases ha : (if e0.2.1 = d then ansOf cs e0 else none) with
      | none =>
        rw [layerOf_cons_none cs d e0 r ha]
        exact ih hDr e her hd
      | some t' =>
        rw [layerOf_cons_some cs d e0 r t' ha]
        obtain ⟨hd0, _⟩ := ite_some_elim ha
        unfold CLayer.get
        have hs : ¬ e0.1 = e.1 := by
          intro hs
          apply hD0 e her
          unfold cellOf
          rw [hs, hd0, hd]
        rw [if_neg hs]
        exact ih hDr e her hd

theorem virt_agree (cs : Nat → Cache S) (n : Nat) (log : List (Read S)) (hD : Distinct log)
    (hn : ∀ e ∈ log, ∀ t, ansOf cs e = some t → e.2.1 < n) : ∀ e ∈ log, Agree (virtCache cs n log) cs e := by
  intro e he
  unfold Agree
  rw [virt_get]
  by_cases hd : e.2.1 < n
  · rw [if_pos hd]
    exact layerOf_get_of_mem cs e.2.1 log hD e he rfl
  · rw [if_neg hd]
    cases ha : ansOf cs e with
    | none => rfl
    | some t => exact absurd (hn e he t ha) hd

theorem virt_entry (cs : Nat → Cache S) (n : Nat) (log : List (Read S)) (s : S) (d : Nat) (t : Thr)
    (h : (virtCache cs n log).get s d = some (some t)) : ∃ j, (cs j).get s d = some (some t) := by
  rw [virt_get] at h
  by_cases hd : d < n
  · rw [if_pos hd] at h
    injection h with h
    obtain ⟨e, _, h1, h2, h3⟩ := layerOf_get_some cs d s t log h
    refine ⟨e.2.2, ?_⟩
    unfold ansOf at h3
    rw [h1, h2] at h3
    cases hg : (cs e.2.2).get s d with
    | none => rw [hg] at h3; cases h3
    | some o => rw [hg] at h3; exact congrArg some h3
  · rw [if_neg hd] at h; cases h

theorem virt_len (cs : Nat → Cache S) (n : Nat) (log : List (Read S)) : (virtCache cs n log).layers.length = n := by
  unfold virtCache
  dsimp only
  rw [List.length_map, List.length_range]

/-- the states of the layer under construction are pairwise distinct and all its nodes have depth `dd.depth` -/
def NextInv (dd : DD S K) : Prop := (dd.next.map (·.state)).Nodup ∧ ∀ n ∈ dd.next, n.depth = dd.depth

theorem filterDom_depth (cfg : Cfg S K) (store : DomStore S K) (layer : List (Node S)) (cur : List Nat) (D : Nat)
    (h : ∀ n ∈ layer, n.depth = D) : ∀ n ∈ (filterDom cfg store layer cur).1, n.depth = D := by
  unfold filterDom
  split
  · exact h
  · rename_i Dr _
    dsimp only
    refine Cover.foldl_inv (β := List (Node S) × List Nat × DomStore S K × Bool)
      (fun acc => ∀ n ∈ acc.1, n.depth = D) _ _ _ h ?_
    rintro ⟨ly, keep, st, ok⟩ p _ h
    dsimp only at h ⊢
    split
    · exact h
    · rename_i n hn
      split
      · split
        · exact h
        · split
          · exact Bounds.forall_set h p (h n (List.mem_of_getElem? hn))
          · exact h
      · exact h

theorem restrictLayer_depth (cfg : Cfg S K) (layer : List (Node S)) (cur : List Nat) (D : Nat)
    (h : ∀ n ∈ layer, n.depth = D) : ∀ n ∈ (restrictLayer cfg layer cur).1, n.depth = D := by
  unfold restrictLayer
  dsimp only
  refine Cover.foldl_inv (β := List (Node S)) (fun acc => ∀ n ∈ acc, n.depth = D) _ _ _ h ?_
  intro ly p _ h
  split
  · rename_i n hn
    exact Bounds.forall_set h p (h n (List.mem_of_getElem? hn))
  · exact h

theorem squash_layer (cfg : Cfg S K) (dd : DD S K) (layer : List (Node S)) (cur : List Nat)
    (l : List (Node S)) (c : List Nat) (lg : List (Call S)) (lel : Option Nat)
    (h : squash cfg dd layer cur = some (l, c, lg, lel)) :
    l = (restrictLayer cfg layer cur).1 ∨
    (1 ≤ cfg.width ∧ cfg.width < cur.length ∧ l = (relaxLayer cfg dd.layers layer cur dd.log).1) ∨ l = layer := by
  unfold squash at h
  cases hR : (cfg.ctype == CompType.restricted && decide (cur.length > cfg.width))
  all_goals cases hX : (cfg.ctype == CompType.relaxed && decide (cur.length > cfg.width) && decide (dd.layers.length > 1))
  all_goals simp only [hR, hX, Bool.false_and, Bool.true_and, Bool.false_or, Bool.true_or, Bool.false_eq_true, if_false,
    if_true] at h
  · cases h; exact .inr (.inr rfl)
  · by_cases hw : (cfg.width == 0) = true
    · rw [if_pos hw] at h; cases h
    · rw [if_neg hw] at h; cases h
      simp only [Bool.and_eq_true, decide_eq_true_eq, beq_iff_eq] at hX hw
      exact .inr (.inl ⟨by omega, hX.1.2, rfl⟩)
  · by_cases he : dd.layers.isEmpty = true
    · rw [if_pos he] at h; cases h
    · rw [if_neg he] at h; cases h; exact .inl rfl
  · by_cases hw : (cfg.width == 0) = true
    · rw [if_pos hw] at h; cases h
    · by_cases he : dd.layers.isEmpty = true
      · rw [if_neg hw, if_pos he] at h; cases h
      · rw [if_neg hw, if_neg he] at h; cases h; exact .inl rfl

theorem squash_depth (cfg : Cfg S K) (dd : DD S K) (layer : List (Node S)) (cur : List Nat)
    (l : List (Node S)) (c : List Nat) (lg : List (Call S)) (lel : Option Nat) (D : Nat)
    (h : squash cfg dd layer cur = some (l, c, lg, lel))
    (hD : ∀ n ∈ layer, n.depth = D) (hcur : ∀ p ∈ cur, p < layer.length) : ∀ n ∈ l, n.depth = D := by
  rcases squash_layer cfg dd layer cur l c lg lel h with rfl | ⟨hW, hlt, rfl⟩ | rfl
  · exact restrictLayer_depth cfg layer cur D hD
  · refine Theta.relaxLayer_forallD (fun n => n.depth = D) cfg dd.layers layer cur dd.log
      (Theta.d0Of_eq cfg layer cur D (by omega) hlt hcur hD) (fun n h => h) (fun n b h => h) ?_ hD
    intro dropN _ e _ src m hm
    exact (Theta.appendEdge_flds src m _).1.trans hm
  · exact hD

theorem stepRest_inv (cfg : Cfg S K) (dd dd' : DD S K) (var : Nat) (layer : List (Node S)) (cur : List Nat)
    (h : stepRest cfg dd var (layer, cur) = (some dd', .ok))
    (hD : ∀ n ∈ layer, n.depth = dd.depth) (hcur : ∀ p ∈ cur, p < layer.length) :
    NextInv dd' ∧ dd'.depth = dd.depth + 1 := by
  unfold stepRest at h
  dsimp only at h
  have f1 := filterDom_depth cfg dd.store layer cur dd.depth hD
  have f2 := (C12.filterDom_keep cfg dd.store layer cur).2.2
  have f3 : (filterDom cfg dd.store layer cur).1.length = layer.length := by
    have := congrArg List.length (C12.filterDom_keep cfg dd.store layer cur).1
    rw [List.length_map, List.length_map] at this
    exact this
  generalize filterDom cfg dd.store layer cur = fd at h f1 f2 f3
  obtain ⟨l1, c1, st, ok⟩ := fd
  dsimp only at h f1 f2 f3
  split at h
  · cases h
  · split at h
    · cases h
    · rename_i l2 c2 lg lel hsq
      have hl2 : ∀ n ∈ l2, n.depth = dd.depth :=
        squash_depth cfg dd l1 c1 l2 c2 lg lel dd.depth hsq f1 (fun p hp => by rw [f3]; exact hcur p (f2 p hp))
      simp only [Prod.mk.injEq, Option.some.injEq, and_true] at h
      subst h
      refine ⟨⟨?_, ?_⟩, rfl⟩
      · dsimp only
        unfold expandAll
        exact CacheClosedB.fold_nodup cfg var dd.layers.length c2 (l2, [], lg) List.nodup_nil
      · dsimp only
        unfold expandAll
        refine Theta.fold_childrenP (fun m => m.depth = dd.depth + 1) (fun n => n.depth = dd.depth)
          cfg var dd.layers.length c2 (l2, [], lg) (fun n r h => h) ?_ ?_ hl2
          (fun m hm => absurd hm List.not_mem_nil)
        · intro q par d n _ hn
          exact (Theta.appendEdge_flds par n _).1.trans hn
        · intro q par d hp
          rw [(Theta.appendEdge_flds par _ _).1]
          simp only [Cover.freshNode]
          rw [hp]

def cellsOf (ly : List (Node S)) : List (S × Nat) := ly.map (fun n => (n.state, n.depth))

theorem depth_of_cells {ly ly' : List (Node S)} (h : cellsOf ly = cellsOf ly') {D : Nat}
    (hD : ∀ n ∈ ly', n.depth = D) : ∀ n ∈ ly, n.depth = D := by
  intro n hn
  have hc : (n.state, n.depth) ∈ cellsOf ly := List.mem_map.mpr ⟨n, hn, rfl⟩
  rw [h] at hc
  obtain ⟨m, hm, e⟩ := List.mem_map.mp hc
  rw [← (Prod.mk.inj e).2]
  exact hD m hm

theorem fcNodeA_cell (a : Option Thr) (n : Node S) :
    (fcNodeA a n).state = n.state ∧ (fcNodeA a n).depth = n.depth := by
  unfold fcNodeA
  cases a with
  | none => exact ⟨rfl, rfl⟩
  | some t => dsimp only; split <;> exact ⟨rfl, rfl⟩

theorem fcStepO_facts (cfg : Cfg S K) (cs : Nat → Cache S) (acc : (List (Node S) × List Nat) × Nat) (p : Nat) :
    cellsOf (fcStepO cfg cs acc p).1.1 = cellsOf acc.1.1 ∧
    (∀ q ∈ (fcStepO cfg cs acc p).1.2, q ∈ acc.1.2 ∨ q = p) := by
  unfold fcStepO
  cases hp : acc.1.1[p]? with
  | none => exact ⟨rfl, fun q hq => .inl hq⟩
  | some n =>
    dsimp only
    refine ⟨?_, ?_⟩
    · unfold cellsOf
      refine C12.map_set_same _ _ p n _ hp ?_
      rw [(fcNodeA_cell _ n).1, (fcNodeA_cell _ n).2]
    · intro q hq
      split at hq
      · rcases List.mem_append.mp hq with hq | hq
        · exact .inl hq
        · exact .inr (List.mem_singleton.mp hq)
      · exact .inl hq

theorem fcFold_facts (cfg : Cfg S K) (cs : Nat → Cache S) :
    ∀ (cur : List Nat) (acc : (List (Node S) × List Nat) × Nat),
      cellsOf (cur.foldl (fcStepO cfg cs) acc).1.1 = cellsOf acc.1.1 ∧
      (∀ q ∈ (cur.foldl (fcStepO cfg cs) acc).1.2, q ∈ acc.1.2 ∨ q ∈ cur) := by
  intro cur
  induction cur with
  | nil => intro acc; exact ⟨rfl, fun q hq => .inl hq⟩
  | cons p cur ih =>
    intro acc
    rw [List.foldl_cons]
    obtain ⟨i1, i2⟩ := ih (fcStepO cfg cs acc p)
    obtain ⟨s1, s2⟩ := fcStepO_facts cfg cs acc p
    refine ⟨i1.trans s1, fun q hq => ?_⟩
    rcases i2 q hq with h | h
    · rcases s2 q h with h | h
      · exact .inl h
      · exact .inr (h ▸ List.mem_cons_self)
    · exact .inr (List.mem_cons_of_mem _ h)

theorem fcReads_cells (cfg : Cfg S K) (cs : Nat → Cache S) :
    ∀ (cur : List Nat) (acc : (List (Node S) × List Nat) × Nat),
      (fcReads cfg cs cur acc).map cellOf = cur.filterMap (fun p => (cellsOf acc.1.1)[p]?) := by
  intro cur
  induction cur with
  | nil => intro acc; rfl
  | cons p cur ih =>
    intro acc
    unfold fcReads
    rw [List.map_append, ih, (fcStepO_facts cfg cs acc p).1, List.filterMap_cons]
    have hc : (cellsOf acc.1.1)[p]? = (acc.1.1[p]?).map (fun n => (n.state, n.depth)) := by
      unfold cellsOf; rw [List.getElem?_map]
    rw [hc]
    cases hp : acc.1.1[p]? with
    | none => rfl
    | some n => rfl

theorem cellsOf_nodup (ly : List (Node S)) (h : (ly.map (·.state)).Nodup) : (cellsOf ly).Nodup := by
  unfold cellsOf
  rw [List.nodup_iff_pairwise_ne, List.pairwise_map] at h ⊢
  refine List.Pairwise.imp ?_ h
  intro a b hab hcell
  exact hab (congrArg Prod.fst hcell)

theorem fcReads_ok (cfg : Cfg S K) (cs : Nat → Cache S) (k : Nat) (layer : List (Node S))
    (h : (layer.map (·.state)).Nodup) :
    Distinct (fcReads cfg cs (List.range layer.length) ((layer, []), k)) ∧
    ∀ e ∈ fcReads cfg cs (List.range layer.length) ((layer, []), k), ∃ n ∈ layer, e.1 = n.state ∧ e.2.1 = n.depth := by
  have hcells := fcReads_cells cfg cs (List.range layer.length) ((layer, []), k)
  dsimp only at hcells
  have hnd := cellsOf_nodup layer h
  refine ⟨?_, ?_⟩
  · unfold Distinct
    have : ((fcReads cfg cs (List.range layer.length) ((layer, []), k)).map cellOf).Nodup := by
      rw [hcells, List.nodup_iff_pairwise_ne]
      refine List.Pairwise.filterMap _ ?_ (List.nodup_iff_pairwise_ne.mp List.nodup_range)
      intro a a' haa b hb b' hb' hbb
      apply haa
      have hlt : a < (cellsOf layer).length := Cover.lt_of_getElem?_some hb
      exact (List.getElem?_inj hlt hnd).mp (by rw [hb, hb', hbb])
    rw [List.nodup_iff_pairwise_ne, List.pairwise_map] at this
    exact this
  · intro e he
    have hm : cellOf e ∈ (fcReads cfg cs (List.range layer.length) ((layer, []), k)).map cellOf :=
      List.mem_map_of_mem he
    rw [hcells] at hm
    obtain ⟨p, _, hp⟩ := List.mem_filterMap.mp hm
    obtain ⟨n, hn, hc⟩ := List.mem_map.mp (List.mem_of_getElem? hp)
    exact ⟨n, hn, (congrArg Prod.fst hc).symm, (congrArg Prod.snd hc).symm⟩

theorem stepReads_ok (cfg : Cfg S K) (cs : Nat → Cache S) (k : Nat) (dd : DD S K) (hI : NextInv dd) :
    Distinct (stepReads cfg cs k dd) ∧ ∀ e ∈ stepReads cfg cs k dd, e.2.1 = dd.depth := by
  unfold stepReads
  split
  · exact ⟨List.Pairwise.nil, fun e he => absurd he List.not_mem_nil⟩
  · split
    · exact ⟨List.Pairwise.nil, fun e he => absurd he List.not_mem_nil⟩
    · obtain ⟨h1, h2⟩ := fcReads_ok cfg cs k dd.next hI.1
      refine ⟨h1, fun e he => ?_⟩
      obtain ⟨n, hn, _, hd⟩ := h2 e he
      rw [hd]; exact hI.2 n hn

theorem stepLayerO_inv (cfg : Cfg S K) (cs : Nat → Cache S) (k k' : Nat) (dd dd' : DD S K) (var : Nat)
    (h : stepLayerO cfg cs k dd var = ((some dd', .ok), k')) (hI : NextInv dd) :
    NextInv dd' ∧ dd'.depth = dd.depth + 1 := by
  rw [stepLayerO_eq] at h
  split at h
  · simp only [Prod.mk.injEq, reduceCtorEq, and_false, false_and] at h
  · simp only [Prod.mk.injEq] at h
    obtain ⟨h, _⟩ := h
    split at h
    · refine stepRest_inv cfg dd dd' var dd.next (List.range dd.next.length) h hI.2 (fun p hp => List.mem_range.mp hp)
    · rw [filterCacheO_eq] at h
      obtain ⟨c1, c2⟩ := fcFold_facts cfg cs (List.range dd.next.length) ((dd.next, []), k)
      generalize (List.range dd.next.length).foldl (fcStepO cfg cs) ((dd.next, []), k) = r at h c1 c2
      obtain ⟨⟨ly, keep⟩, k2⟩ := r
      dsimp only at h c1 c2
      have hlen : ly.length = dd.next.length := by
        have := congrArg List.length c1
        unfold cellsOf at this
        rw [List.length_map, List.length_map] at this
        exact this
      refine stepRest_inv cfg dd dd' var ly keep h (depth_of_cells c1 hI.2) ?_
      · intro q hq
        rcases c2 q hq with h' | h'
        · cases h'
        · rw [hlen]; exact List.mem_range.mp h'

theorem loopReads_ok (cfg : Cfg S K) (cs : Nat → Cache S) (stopAt : Option Nat) :
    ∀ (fuel k : Nat) (dd : DD S K), NextInv dd →
      Distinct (loopReads cfg cs stopAt fuel k dd) ∧
      ∀ e ∈ loopReads cfg cs stopAt fuel k dd, dd.depth ≤ e.2.1 ∧ e.2.1 < dd.depth + fuel := by
  -- the test on `stopAt` gets a name: its value matters, not which case of `stopAt` gives it
  have hcond : ∀ p : Nat, ∃ b : Bool, (match stopAt with | some k => decide (p ≥ k) | none => false) = b :=
    fun _ => ⟨_, rfl⟩
  intro fuel
  induction fuel with
  | zero => intro k dd _; exact ⟨List.Pairwise.nil, fun e he => absurd he List.not_mem_nil⟩
  | succ fuel ih =>
    intro k dd hI
    unfold loopReads
    dsimp only
    cases hans : cfg.P.nextVar dd.depth (dd.next.map (·.state)) with
    | none => exact ⟨List.Pairwise.nil, fun e he => absurd he List.not_mem_nil⟩
    | some var =>
      dsimp only
      obtain ⟨stop, hstop⟩ := hcond (dd.polls + 1)
      rw [hstop]
      cases stop
      case true => exact ⟨List.Pairwise.nil, fun e he => absurd he List.not_mem_nil⟩
      rw [if_neg Bool.false_ne_true]
      generalize hdd1 : (DD.mk dd.layers dd.next dd.depth dd.lel dd.cache dd.store
        (Call.nextVar dd.depth (dd.next.map (·.state)) (some var) :: dd.log) dd.cacheLog (dd.polls + 1) dd.ndom) = dd1
      have hI1 : NextInv dd1 := by rw [← hdd1]; exact hI
      have hdep : dd1.depth = dd.depth := by rw [← hdd1]
      obtain ⟨s1, s2⟩ := stepReads_ok cfg cs k dd1 hI1
      rw [hdep] at s2
      generalize hr : stepLayerO cfg cs k dd1 var = r
      obtain ⟨⟨o, oc⟩, k'⟩ := r
      have hnil : Distinct (stepReads cfg cs k dd1 ++ []) ∧
          ∀ e ∈ stepReads cfg cs k dd1 ++ [], dd.depth ≤ e.2.1 ∧ e.2.1 < dd.depth + (fuel + 1) := by
        rw [List.append_nil]
        exact ⟨s1, fun e he => by have := s2 e he; omega⟩
      cases o with
      | none => exact hnil
      | some dd' =>
        cases oc with
        | cutoff => exact hnil
        | crash => exact hnil
        | ok =>
          obtain ⟨hI', hd'⟩ := stepLayerO_inv cfg cs k k' dd1 dd' var hr hI1
          rw [hdep] at hd'
          obtain ⟨r1, r2⟩ := ih k' dd' hI'
          rw [hd'] at r2
          refine ⟨?_, ?_⟩
          · unfold Distinct
            refine List.pairwise_append.mpr ⟨s1, r1, ?_⟩
            intro a ha b hb hab
            have h1 := s2 a ha
            have h2 := (r2 b hb).1
            have h3 : a.2.1 = b.2.1 := congrArg Prod.snd hab
            omega
          · intro e he
            rcases List.mem_append.mp he with he | he
            · have := s2 e he; omega
            · have := r2 e he; omega

theorem init_nextInv (cfg : Cfg S K) (cache : Cache S) (store : DomStore S K) (polls : Nat) :
    NextInv (initDD cfg cache store polls) := by
  refine ⟨?_, ?_⟩
  · exact List.nodup_cons.mpr ⟨List.not_mem_nil, List.nodup_nil⟩
  · intro n hn
    have hnext : (initDD cfg cache store polls).next =
        [{ state := cfg.root.state, value := cfg.root.value, depth := cfg.root.depth }] := rfl
    rw [hnext, List.mem_singleton] at hn
    rw [hn]; rfl

/-- **one compilation never reads the same cell `(state, depth)` twice**, and the depths it reads lie in
    `cfg.root.depth ≤ · < cfg.root.depth + cfg.P.nbVars + 2` -/
theorem compileReads_ok (cfg : Cfg S K) (cs : Nat → Cache S) (store : DomStore S K) (polls : Nat) (stopAt : Option Nat) :
    Distinct (compileReads cfg cs store polls stopAt) ∧
    ∀ e ∈ compileReads cfg cs store polls stopAt,
      cfg.root.depth ≤ e.2.1 ∧ e.2.1 < cfg.root.depth + (cfg.P.nbVars + 2) :=
  loopReads_ok cfg cs stopAt (cfg.P.nbVars + 2) 0 (initDD cfg (cs 0) store polls) (init_nextInv cfg (cs 0) store polls)

theorem compileO_sim_of_reads (cfg : Cfg S K) (cs : Nat → Cache S) (store : DomStore S K) (polls : Nat)
    (stopAt : Option Nat) (n : Nat)
    (hn : ∀ e ∈ compileReads cfg cs store polls stopAt, ∀ t, ansOf cs e = some t → e.2.1 < n) :
    ∃ cv : Cache S, cv.layers.length = n ∧
      (∀ s d t, cv.get s d = some (some t) → ∃ j, (cs j).get s d = some (some t)) ∧
      compileO cfg cs store polls stopAt =
        ((compile cfg cv store polls stopAt).1, (compile cfg cv store polls stopAt).2.1,
         (compile cfg cv store polls stopAt).2.2.1) := by
  refine ⟨virtCache cs n (compileReads cfg cs store polls stopAt), virt_len cs n _, ?_, ?_⟩
  · intro s d t h
    exact virt_entry cs n _ s d t h
  · exact compileO_of_agree cfg cs _ store polls stopAt
      (virt_agree cs n _ (compileReads_ok cfg cs store polls stopAt).1 hn)

/-- **Simulation theorem.**  The compilation that ran against the changing cache `cs` (read `j` answered by `cs j`) is the
    compilation against ONE virtual cache `cv` with `n` layers, each of whose entries was an entry of `cs j` for some
    read index `j`.  Side condition (needed: an entry read at a depth `≥ n` cannot be stored in a cache with `n` layers):
    either no `cs j` has more than `n` layers, or `n` exceeds every depth the compilation can read. -/
theorem compileO_sim (cfg : Cfg S K) (cs : Nat → Cache S) (store : DomStore S K) (polls : Nat) (stopAt : Option Nat)
    (n : Nat) (hn : (∀ j, (cs j).layers.length ≤ n) ∨ cfg.root.depth + cfg.P.nbVars + 2 ≤ n) :
    ∃ cv : Cache S, cv.layers.length = n ∧
      (∀ s d t, cv.get s d = some (some t) → ∃ j, (cs j).get s d = some (some t)) ∧
      compileO cfg cs store polls stopAt =
        ((compile cfg cv store polls stopAt).1, (compile cfg cv store polls stopAt).2.1,
         (compile cfg cv store polls stopAt).2.2.1) := by
  apply compileO_sim_of_reads
  intro e he t ht
  rcases hn with hn | hn
  · unfold ansOf Cache.get at ht
    cases hl : (cs e.2.2).layers[e.2.1]? with
    | none => rw [hl] at ht; cases ht
    | some l =>
      have := Cover.lt_of_getElem?_some hl
      have := hn e.2.2
      omega
  · have := ((compileReads_ok cfg cs store polls stopAt).2 e he).2
    omega

end Ddo.ParCache

#print axioms Ddo.ParCache.compileO_const
#print axioms Ddo.ParCache.compileO_sim
#print axioms Ddo.ParCache.compileReads_ok
