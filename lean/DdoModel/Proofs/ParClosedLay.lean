import DdoModel.Proofs.ParClosedSide
/-! # The parallel solver: the bookkeeping invariant — no section panics

`LayInv`: `open_by_layer` counts the fringe per depth as long as the search is not aborted, `ongoing_by_layer` counts the nodes in
hand per depth, `ongoing` the workers that hold a node, one cell of `upper_bounds` per worker, nothing panicked, a parked worker
implies work in progress.  Preserved by every section of every worker, whatever the answer relations (`gstep_layinv`; `pstep_layinv`
at the answers of the diagram model), holds initially (`init_layinv`); on the states that satisfy it the panic steps are not
enabled: `take_ne_none`, `notify_ne_none`. -/
set_option linter.unusedSectionVars false
set_option linter.unusedVariables false
namespace Ddo.ParClosed
open Ddo Ddo.Truth Ddo.Closed Ddo.ParSys
open Ddo.C01 (SolverCfg WellFormed toOut SolOf)
variable {S : Type} [DecidableEq S]

/-- does the worker hold (taken, not yet acknowledged) a node of depth `d`? -/
def hd (d : Nat) (w : WSt S) : Bool :=
  match w.node with
  | some n => n.depth == d
  | none => false

def handD (ws : List (WSt S)) (d : Nat) : Nat := ws.countP (hd d)

theorem hd_congr {d : Nat} {w w' : WSt S} (h : w'.node = w.node) : hd d w' = hd d w := by unfold hd; rw [h]
theorem holds_congr {w w' : WSt S} (h : w'.node = w.node) : w'.holds = w.holds := by unfold WSt.holds; rw [h]

/-- the shared record, `open_by_layer` side: `nb_variables + 1` cells; as long as the search is not aborted cell `d`
    counts the fringe entries of depth `d` (`abort_search` clears the fringe without resetting the counters: from then on
    they only over-approximate, and nothing is popped any more); no checked operation failed in `enqueue_cutset` -/
structure CritLay (n : Nat) (b : SeqSt S) : Prop where
  openLen : b.openByLayer.length = n + 1
  openOk : b.abort = false → LayersOk n b.openByLayer b.fringe
  noPanic : b.crashed = false

/-- the shared record, workers side: `ongoing_by_layer` has `nb_variables + 1` cells and cell `d` counts the nodes of depth
    `d` in hand; `ongoing` counts the workers that hold a node; one cell of `upper_bounds` per worker; no worker has
    panicked; a parked worker implies work in progress (no lost wake-up) -/
structure HandLay (n : Nat) (c : ParCrit S) (ws : List (WSt S)) : Prop where
  ongoLen : c.ongoingByLayer.length = n + 1
  ongoCnt : ∀ d, d ≤ n → c.ongoingByLayer[d]? = some (handD ws d)
  cnt : c.ongoing = ws.countP WSt.holds
  len : ws.length = c.upperBounds.length
  noCrash : ∀ w ∈ ws, w.isCrashed = false
  parked : WSt.waiting ∈ ws → c.ongoing ≠ 0

structure LayInv (sv : SolverCfg S) (s : Sys S) : Prop where
  crit : CritLay sv.P.nbVars s.crit.base
  hand : HandLay sv.P.nbVars s.crit s.ws

theorem decLayer_spec {l l' : List Nat} {d : Nat} (h : decLayer l d = some l') :
    ∃ c, l[d]? = some c ∧ c ≠ 0 ∧ l' = l.set d (c - 1) := by
  unfold decLayer at h
  cases hc : l[d]? with
  | none => rw [hc] at h; cases h
  | some c =>
    rw [hc] at h
    simp only at h
    split at h
    · cases h
    · next hne => injection h with h; exact ⟨c, rfl, hne, h.symm⟩

theorem bumpLayer_spec {l l' : List Nat} {d k : Nat} (h : bumpLayer l d k = some l') :
    ∃ c, l[d]? = some c ∧ l' = l.set d (c + k) := by
  unfold bumpLayer at h
  cases hc : l[d]? with
  | none => rw [hc] at h; cases h
  | some c => rw [hc] at h; injection h with h; exact ⟨c, rfl, h.symm⟩

theorem layer_set {n : Nat} {l : List Nat} {f : Nat → Nat} (hlen : l.length = n + 1)
    (h : ∀ d, d ≤ n → l[d]? = some (f d)) (d0 v : Nat) (g : Nat → Nat) (hd0 : d0 ≤ n) (hg0 : g d0 = v)
    (hg : ∀ d, d ≠ d0 → g d = f d) :
    (l.set d0 v).length = n + 1 ∧ ∀ d, d ≤ n → (l.set d0 v)[d]? = some (g d) := by
  refine ⟨by rw [List.length_set]; exact hlen, fun d hd => ?_⟩
  rw [List.getElem?_set]
  by_cases e : d0 = d
  · subst e
    rw [if_pos rfl, if_pos (by omega), hg0]
  · rw [if_neg e, h d hd, hg d (fun e' => e e'.symm)]

/-- the pop: the cell of the popped node is positive (no underflow), the count stays exact -/
theorem open_dec {n : Nat} {l : List Nat} {fr rest : List (SubP S)} {N : SubP S} (hL : LayersOk n l fr)
    (hp : fr.Perm (N :: rest)) (hN : N.depth ≤ n) : ∃ l', decLayer l N.depth = some l' ∧ LayersOk n l' rest := by
  have hc : l[N.depth]? = some (cntD rest N.depth + 1) := by
    rw [hL.2 N.depth hN, cntD_perm hp, cntD_cons, if_pos rfl]
  refine ⟨l.set N.depth (cntD rest N.depth), ?_, ?_⟩
  · unfold decLayer
    rw [hc]
    simp only
    rw [if_neg (by omega)]
    rfl
  · refine layer_set hL.1 hL.2 N.depth _ _ hN rfl (fun d hd => ?_)
    rw [cntD_perm hp, cntD_cons, if_neg (fun e => hd e.symm)]; rfl

theorem enqOne_len (n : Nat) (dedup : Bool) (st : SeqSt S) (c : SubP S) (hc : c.depth ≤ n)
    (hL : st.openByLayer.length = n + 1) :
    (enqOne dedup st c).openByLayer.length = n + 1 ∧ (enqOne dedup st c).crashed = st.crashed ∧
    (enqOne dedup st c).abort = st.abort := by
  unfold enqOne
  simp only
  split
  · cases hb : bumpLayer st.openByLayer c.depth
        ((pushSpec dedup st.fringe c).length - st.fringe.length) with
    | none =>
      unfold bumpLayer at hb
      have : c.depth < st.openByLayer.length := by omega
      rw [List.getElem?_eq_getElem this] at hb
      cases hb
    | some l' =>
      obtain ⟨_, _, rfl⟩ := bumpLayer_spec hb
      exact ⟨by simp only [List.length_set]; exact hL, rfl, rfl⟩
  · exact ⟨hL, rfl, rfl⟩

/-- `enqueue_cutset` after an abort: the counters keep their size, nothing panics (only increments) -/
theorem enqueue_len (n : Nat) (dedup : Bool) (cs : List (SubP S)) (hcs : ∀ c ∈ cs, c.depth ≤ n) :
    ∀ (st : SeqSt S), st.openByLayer.length = n + 1 →
      (st.enqueue dedup cs).openByLayer.length = n + 1 ∧ (st.enqueue dedup cs).crashed = st.crashed ∧
      (st.enqueue dedup cs).abort = st.abort := by
  induction cs with
  | nil => intro st hL; exact ⟨hL, rfl, rfl⟩
  | cons c cs ih =>
    intro st hL
    rw [enqueue_eq_foldl, List.foldl_cons, ← enqueue_eq_foldl]
    obtain ⟨h1, h2, h3⟩ := enqOne_len n dedup st c (hcs c List.mem_cons_self) hL
    obtain ⟨h4, h5, h6⟩ := ih (fun c hc => hcs c (List.mem_cons_of_mem _ hc)) _ h1
    exact ⟨h4, h5.trans h2, h6.trans h3⟩

theorem critLay_enqueue {n : Nat} (dedup : Bool) {b : SeqSt S} (cs : List (SubP S))
    (hcs : ∀ c ∈ cs, c.depth ≤ n) (h : CritLay n b) : CritLay n (b.enqueue dedup cs) := by
  obtain ⟨h1, h2, h3⟩ := enqueue_len n dedup cs hcs b h.openLen
  refine ⟨h1, fun ha => ?_, h2.trans h.noPanic⟩
  rw [h3] at ha
  exact (enqueue_layers n dedup cs hcs b (h.openOk ha)).1

theorem critLay_update {n : Nat} {b : SeqSt S} (o : DDOut S) (h : CritLay n b) : CritLay n (b.updateBest o) := by
  obtain ⟨f1, _, f3, f4, _⟩ := updateBest_fringe b o
  exact ⟨by rw [f4]; exact h.openLen, fun ha => by rw [f1, f4]; exact h.openOk (f3 ▸ ha),
    (updateBest_crashed b o).trans h.noPanic⟩

/-- worker `i` changes stage keeping its node (or having none before and after); the workers side of the record is
    untouched -/
theorem handLay_set {n : Nat} {c c' : ParCrit S} {ws : List (WSt S)} {i : Nat} {w w' : WSt S} (h : HandLay n c ws)
    (hw : ws[i]? = some w) (hnode : w'.node = w.node) (hcr : w'.isCrashed = false)
    (hwait : w' = .waiting → c.ongoing ≠ 0)
    (e1 : c'.ongoingByLayer = c.ongoingByLayer) (e2 : c'.ongoing = c.ongoing)
    (e3 : c'.upperBounds.length = c.upperBounds.length) : HandLay n c' (ws.set i w') := by
  refine ⟨by rw [e1]; exact h.ongoLen, fun d hd' => ?_, ?_, by rw [List.length_set, e3]; exact h.len,
    forall_set_of h.noCrash hcr, fun hm => ?_⟩
  · rw [e1, h.ongoCnt d hd']
    exact congrArg some (countP_set_keep _ w' hw (hd_congr hnode)).symm
  · rw [e2, h.cnt, countP_set_keep _ w' hw (holds_congr hnode)]
  · rw [e2]
    rcases List.mem_or_eq_of_mem_set hm with h' | h'
    · exact h.parked h'
    · exact hwait h'.symm

/-- the end of `get_workload`: an idle worker takes `nn` -/
theorem handLay_take {n : Nat} {c c'' : ParCrit S} {ws : List (WSt S)} {i : Nat} {nn : SubP S} (h : HandLay n c ws)
    (hw : ws[i]? = some .idle) (hd' : nn.depth ≤ n) {ol : List Nat} (hb : bumpLayer c.ongoingByLayer nn.depth 1 = some ol)
    (e1 : c''.ongoingByLayer = ol) (e2 : c''.ongoing = c.ongoing + 1)
    (e3 : c''.upperBounds.length = c.upperBounds.length) : HandLay n c'' (ws.set i (.readR nn)) := by
  obtain ⟨cc, hcc, rfl⟩ := bumpLayer_spec hb
  have hcc' : cc = handD ws nn.depth := Option.some.inj (hcc.symm.trans (h.ongoCnt nn.depth hd'))
  have hset : ∀ d, handD (ws.set i (.readR nn)) d = handD ws d + (if nn.depth = d then 1 else 0) :=
    fun d => countP_set_in _ _ hw rfl rfl
  obtain ⟨l1, l2⟩ := layer_set h.ongoLen h.ongoCnt nn.depth (cc + 1) (handD (ws.set i (.readR nn))) hd'
    (by rw [hset, if_pos rfl, hcc']) (fun d hne => by rw [hset, if_neg (fun e => hne e.symm)]; rfl)
  refine ⟨by rw [e1]; exact l1, fun d hd'' => by rw [e1]; exact l2 d hd'', ?_,
    by rw [List.length_set, e3]; exact h.len, forall_set_of h.noCrash rfl, fun _ => by rw [e2]; omega⟩
  rw [e2, h.cnt, countP_set_in WSt.holds (.readR nn) hw rfl (Q := True) rfl, if_pos trivial]

theorem wake_ne_waiting (w : WSt S) : w.wake ≠ .waiting := fun e => by cases wake_eq e nofun; cases e

/-- `notify_node_finished`: the worker gives its node back, every parked worker is woken -/
theorem handLay_notify {n : Nat} {c c' : ParCrit S} {ws : List (WSt S)} {i : Nat} {m : SubP S} {te : Bool}
    (h : HandLay n c ws) (hw : ws[i]? = some (.fin m te)) (hd' : m.depth ≤ n) {ol : List Nat}
    (hb : decLayer c.ongoingByLayer m.depth = some ol)
    (e1 : c'.ongoingByLayer = ol) (e2 : c'.ongoing + 1 = c.ongoing)
    (e3 : c'.upperBounds.length = c.upperBounds.length) (w' : WSt S) (hw' : w' = .idle ∨ w' = .done) :
    HandLay n c' ((ws.map WSt.wake).set i w') := by
  obtain ⟨cc, hcc, hne, rfl⟩ := decLayer_spec hb
  have hcc' : cc = handD ws m.depth := Option.some.inj (hcc.symm.trans (h.ongoCnt m.depth hd'))
  have hwk : (ws.map WSt.wake)[i]? = some (.fin m te) := by rw [List.getElem?_map, hw]; rfl
  have hnode' : w'.node = none := by rcases hw' with rfl | rfl <;> rfl
  have hset : ∀ d, handD ((ws.map WSt.wake).set i w') d + (if m.depth = d then 1 else 0) = handD ws d := by
    intro d
    have := countP_set_out (hd d) w' hwk (by unfold hd; rw [hnode']) (Q := m.depth = d) rfl
    rwa [countP_wake _ (fun w => hd_congr (wake_node w))] at this
  obtain ⟨l1, l2⟩ := layer_set h.ongoLen h.ongoCnt m.depth (cc - 1) (handD ((ws.map WSt.wake).set i w')) hd'
    (by have := hset m.depth; rw [if_pos rfl] at this; omega)
    (fun d hne' => by have := hset d; rw [if_neg (fun e => hne' e.symm)] at this; omega)
  refine ⟨by rw [e1]; exact l1, fun d hd'' => by rw [e1]; exact l2 d hd'', ?_,
    by rw [List.length_set, List.length_map, e3]; exact h.len, ?_, fun hm => ?_⟩
  · have := countP_set_out WSt.holds w' hwk (by unfold WSt.holds; rw [hnode']; rfl) (Q := True) rfl
    rw [countP_wake _ wake_holds, if_pos trivial] at this
    have := h.cnt
    omega
  · refine forall_set_of (fun w hw'' => ?_) (by rcases hw' with rfl | rfl <;> rfl)
    obtain ⟨w0, hw0, rfl⟩ := List.mem_map.mp hw''
    rw [wake_isCrashed]; exact h.noCrash w0 hw0
  · exfalso
    rcases List.mem_or_eq_of_mem_set hm with h' | h'
    · obtain ⟨w0, _, e⟩ := List.mem_map.mp h'
      exact wake_ne_waiting w0 e
    · rcases hw' with rfl | rfl <;> cases h'

theorem take_full {c c'' : ParCrit S} {i : Nat} {nn : SubP S} (h : c.take i nn = some c'') :
    ∃ l ol, decLayer c.base.openByLayer nn.depth = some l ∧ bumpLayer c.ongoingByLayer nn.depth 1 = some ol ∧
      c''.base.openByLayer = l ∧ c''.ongoingByLayer = ol ∧ c''.base.crashed = c.base.crashed := by
  unfold ParCrit.take at h
  split at h
  · split at h
    · next l ol h1 h2 => injection h with h; subst h; exact ⟨l, ol, h1, h2, rfl, rfl, rfl⟩
    · cases h
  · cases h

theorem notify_full {c c' : ParCrit S} {i d : Nat} (h : c.notifyFinished i d = some c') :
    ∃ ol, decLayer c.ongoingByLayer d = some ol ∧ c'.ongoingByLayer = ol := by
  unfold ParCrit.notifyFinished at h
  split at h
  · cases h
  · split at h
    · split at h
      · next ol h1 => injection h with h; subst h; exact ⟨ol, h1, rfl⟩
      · cases h
    · cases h

theorem node_depth_le {sv : SolverCfg S} {H : Nat → S → EInt} {B0 B : Int} (hwf : WellFormed sv H B0 B) {n : SubP S}
    (h : C01.NodeOk sv.P n) : n.depth ≤ sv.P.nbVars := by
  obtain ⟨p0, hr, _⟩ := h
  exact reach_depth_le hwf.nv hr

/-- **the bookkeeping of `get_workload` does not panic**: with a cell of `upper_bounds` per worker, exact counters and a
    popped node not deeper than `nb_variables`, `take` succeeds -/
theorem take_ne_none {sv : SolverCfg S} {s : Sys S} {i : Nat} {N : SubP S} {rest : List (SubP S)} (hL : LayInv sv s)
    (hw : s.ws[i]? = some .idle) (ha : s.crit.base.abort = false) (hp : PopMax s.crit.base.fringe N rest)
    (hN : N.depth ≤ sv.P.nbVars) : ∃ c'', (setFringe s.crit rest).take i N = some c'' := by
  obtain ⟨l', hl', _⟩ := open_dec (hL.crit.openOk ha) hp.1 hN
  have hi : i < s.crit.upperBounds.length := by
    rw [← hL.hand.len]; exact (List.getElem?_eq_some_iff.mp hw).1
  have hb : bumpLayer s.crit.ongoingByLayer N.depth 1 = some (s.crit.ongoingByLayer.set N.depth (handD s.ws N.depth + 1)) := by
    unfold bumpLayer; rw [hL.hand.ongoCnt N.depth hN]
  unfold ParCrit.take
  rw [if_pos (show i < (setFringe s.crit rest).upperBounds.length from hi)]
  rw [show decLayer (setFringe s.crit rest).base.openByLayer N.depth = some l' from hl',
    show bumpLayer (setFringe s.crit rest).ongoingByLayer N.depth 1 = _ from hb]
  exact ⟨_, rfl⟩

/-- **`notify_node_finished` does not panic**: `ongoing` is positive, the cell of `upper_bounds` exists, the cell of
    `ongoing_by_layer` is positive -/
theorem notify_ne_none {sv : SolverCfg S} {s : Sys S} {i : Nat} {n : SubP S} {te : Bool} (hL : LayInv sv s)
    (hw : s.ws[i]? = some (.fin n te)) (hN : n.depth ≤ sv.P.nbVars) :
    ∃ c', s.crit.notifyFinished i n.depth = some c' := by
  have hmem : WSt.fin n te ∈ s.ws := List.mem_of_getElem? hw
  have h1 : s.crit.ongoing ≠ 0 := by
    rw [hL.hand.cnt]
    have : 0 < s.ws.countP WSt.holds := List.countP_pos_iff.mpr ⟨_, hmem, rfl⟩
    omega
  have hi : i < s.crit.upperBounds.length := by
    rw [← hL.hand.len]; exact (List.getElem?_eq_some_iff.mp hw).1
  have h3 : 0 < handD s.ws n.depth := List.countP_pos_iff.mpr ⟨_, hmem, by simp [hd, WSt.node]⟩
  unfold ParCrit.notifyFinished decLayer
  rw [if_neg h1, if_pos hi, hL.hand.ongoCnt n.depth hN]
  simp only
  rw [if_neg (by omega)]
  exact ⟨_, rfl⟩

/-- **every section of every worker preserves the bookkeeping invariant** (the depth of every open node and of every
    cut-set node is at most `nb_variables`: `PCInv`, C08 (i), `NvBound`) — and the panic step `gwCrash` is not enabled -/
theorem gstep_layinv {sv : SolverCfg S} {H : Nat → S → EInt} {B0 B : Int} {okR okX : SubP S → Int → DDOut S → Prop}
    (hwf : WellFormed sv H B0 B) (hcX : CutFacts sv okX) {s t : Sys S}
    (h : Step sv.dedup okR okX s t) (hI : PCInvG sv H okR okX B s) (hL : LayInv sv s) : LayInv sv t := by
  have hmem : ∀ {i : Nat} {w : WSt S}, s.ws[i]? = some w → WOkG sv okR okX B w :=
    fun hw => hI.ws _ (List.mem_of_getElem? hw)
  cases h with
  | gwAborted i hw ha | readLbX i n hw =>
    exact ⟨hL.crit, handLay_set hL.hand hw rfl rfl (fun e => by cases e) rfl rfl rfl⟩
  | gwComplete i hw ha ho hf =>
    exact ⟨⟨hL.crit.openLen, hL.crit.openOk, hL.crit.noPanic⟩,
      handLay_set hL.hand hw rfl rfl (fun e => by cases e) rfl rfl rfl⟩
  | gwWait i hw ha ho hf => exact ⟨hL.crit, handLay_set hL.hand hw rfl rfl (fun _ => ho) rfl rfl rfl⟩
  | gwStarve i N rest c' k hw ha hp hl =>
    obtain ⟨_, rfl⟩ := popLoop_starve hl
    have hlen : (s.crit.base.openByLayer.map (fun _ => 0)).length = sv.P.nbVars + 1 :=
      (List.length_map _).trans hL.crit.openLen
    refine ⟨⟨hlen, fun _ => ⟨hlen, fun d hd' => ?_⟩, hL.crit.noPanic⟩,
      ⟨hL.hand.ongoLen, hL.hand.ongoCnt, hL.hand.cnt, hL.hand.len, hL.hand.noCrash, hL.hand.parked⟩⟩
    show (s.crit.base.openByLayer.map (fun _ => 0))[d]? = some (cntD [] d)
    rw [List.getElem?_map, List.getElem?_eq_getElem (by rw [hL.crit.openLen]; omega)]
    rfl
  | gwItem i N rest c' nn k c'' hw ha hp hl ht =>
    obtain ⟨rfl, rfl⟩ := popLoop_item hl
    obtain ⟨t1, _, _, _, t5, t6, t7, _⟩ := take_spec ht
    obtain ⟨l, ol, h1, h2, h3, h4, h5⟩ := take_full ht
    have hN : nn.depth ≤ sv.P.nbVars :=
      node_depth_le hwf (hI.base.fr nn ((mem_of_popMax hp nn).mpr (Or.inl rfl)))
    obtain ⟨l', hl', hlay⟩ := open_dec (hL.crit.openOk ha) hp.1 hN
    have hll : l = l' := Option.some.inj ((show decLayer s.crit.base.openByLayer nn.depth = some l from h1).symm.trans hl')
    refine ⟨⟨by rw [h3, hll]; exact hlay.1, fun _ => ?_, by rw [h5]; exact hL.crit.noPanic⟩, ?_⟩
    · rw [h3, hll, t1]; exact hlay
    · exact handLay_take hL.hand hw hN h2 h4 t6 (by rw [t7, List.length_set]; rfl)
  | gwCrash i N rest c' nn k hw ha hp hl ht =>
    obtain ⟨rfl, rfl⟩ := popLoop_item hl
    have hN : nn.depth ≤ sv.P.nbVars :=
      node_depth_le hwf (hI.base.fr nn ((mem_of_popMax hp nn).mpr (Or.inl rfl)))
    obtain ⟨c'', hc''⟩ := take_ne_none hL hw ha hp hN
    rw [hc''] at ht; cases ht
  | readLbR i n hw =>
    refine ⟨hL.crit, handLay_set hL.hand hw ?_ ?_ (fun e => ?_) rfl rfl rfl⟩
    · split <;> rfl
    · split <;> rfl
    · split at e <;> cases e
  | compileR i n lb r hw hok | compileX i n lb r hw hok =>
    refine ⟨hL.crit, handLay_set hL.hand hw ?_ ?_ (fun e => ?_) rfl rfl rfl⟩
    · cases r <;> rfl
    · cases r <;> rfl
    · cases r <;> cases e
  | updateR i n lb o hw | updateX i n lb o hw =>
    refine ⟨critLay_update o hL.crit, handLay_set hL.hand hw ?_ ?_ (fun e => ?_) rfl rfl rfl⟩
    · split <;> rfl
    · split <;> rfl
    · split at e <;> cases e
  | enqueue i n lb o hw =>
    have f3 := hcX _ _ _ ((hmem hw).node n rfl) (hmem hw).stage
    exact ⟨critLay_enqueue sv.dedup o.cutset (fun c hc => (f3 c hc).2.2) hL.crit,
      handLay_set hL.hand hw rfl rfl (fun e => by cases e) rfl rfl rfl⟩
  | abort i n top hw htop =>
    exact ⟨⟨hL.crit.openLen, fun ha => (by cases ha), hL.crit.noPanic⟩,
      handLay_set hL.hand hw rfl rfl (fun e => by cases e) rfl rfl rfl⟩
  | notify i n te c' hw hn =>
    obtain ⟨n1, n2, n3, _⟩ := notify_spec hn
    obtain ⟨ol, h1, h2⟩ := notify_full hn
    have hN : n.depth ≤ sv.P.nbVars := node_depth_le hwf ((hmem hw).node n rfl)
    refine ⟨by rw [n1]; exact hL.crit, ?_⟩
    cases te
    · exact handLay_notify hL.hand hw hN h1 h2 n2 (by rw [n3, List.length_set]) .idle (Or.inl rfl)
    · exact handLay_notify hL.hand hw hN h1 h2 n2 (by rw [n3, List.length_set]) .done (Or.inr rfl)

theorem pstep_layinv {sv : SolverCfg S} {H : Nat → S → EInt} {B0 B : Int} (hwf : WellFormed sv H B0 B) {s t : Sys S}
    (h : PStep sv s t) (hI : PCInv sv H B s) (hL : LayInv sv s) : LayInv sv t :=
  gstep_layinv hwf (okXm_ansFacts hwf).2 h (pcinv_iff.mp hI) hL

/-- the bookkeeping invariant holds initially: `U` workers, `U` cells of `upper_bounds` (`with_nb_threads`, fix D3) -/
theorem init_layinv (sv : SolverCfg S) (primal : Option (Int × List Dec)) (U : Nat) :
    LayInv sv (Sys.init sv.P primal sv.dedup U) := by
  have hcp : ∀ p : WSt S → Bool, p .idle = false → (List.replicate U (WSt.idle : WSt S)).countP p = 0 := by
    intro p hp
    rw [List.countP_replicate, hp]; rfl
  refine ⟨?_, ⟨List.length_replicate, fun d hd' => ?_, ?_, List.length_replicate.trans List.length_replicate.symm,
    fun w hw => by rw [init_idle hw]; rfl, fun hm => by cases init_idle hm⟩⟩
  · -- the `open_by_layer` side does not depend on the primal
    obtain ⟨h1, h2⟩ := init_layers sv.P sv.dedup
    show CritLay _ (SeqSt.init sv.P primal sv.dedup)
    rw [init_eq]
    exact ⟨h1.1, fun _ => h1, h2⟩
  · show (List.replicate (sv.P.nbVars + 1) 0)[d]? = some (handD (List.replicate U (WSt.idle : WSt S)) d)
    rw [List.getElem?_replicate, if_pos (by omega)]
    unfold handD
    rw [hcp _ rfl]
  · show 0 = (List.replicate U (WSt.idle : WSt S)).countP WSt.holds
    rw [hcp _ rfl]

theorem prun_layinv {sv : SolverCfg S} {H : Nat → S → EInt} {B0 B : Int} (hwf : WellFormed sv H B0 B) {s t : Sys S}
    (h : PRun sv s t) (hI : PCInv sv H B s) (hL : LayInv sv s) : LayInv sv t := by
  induction h with
  | refl => exact hL
  | tail hr hst ih => exact pstep_layinv hwf hst (prun_pcinv hwf hr hI) ih

end Ddo.ParClosed
