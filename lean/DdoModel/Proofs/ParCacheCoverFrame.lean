import DdoModel.Proofs.ParCacheCover
/-! # The parallel caching solver — `KPInv` when one worker changes stage

A step replaces one entry of the worker list (`ws.set i a`).  What `Live`, `Beats`, `Prunable`, `Held`, `Fresh` and the clauses
`popmax`, `wok`, `doneOk` of `KPInv` become, forwards and backwards; `kpinv_step` / `kpinv_step_back`: the invariant after a step
from the transfer of the `Live` facts and what the step creates; `kpinv_same`: a worker changes stage and carries the same data. -/
set_option linter.unusedSectionVars false
set_option linter.unusedVariables false
namespace Ddo.ParCache
open Ddo Ddo.C09 Ddo.ParSys Ddo.Theta
variable {S : Type} [DecidableEq S]

section
variable (H : Nat → S → EInt) (opt : Int) (Sol : List Dec → Int → Prop) (Rg : Nat → Int → Prop)

theorem liveC_cases {F : List (SubP S)} {T : CView S} {ws : List (KW S)} {x : Int} {d : Nat} {i : Nat} {Q : Prop}
    (h : LiveC H F T ws x d)
    (hF : ∀ c ∈ F, Carries H c x d → ¬ prunM T c → Q)
    (hself : ∀ w0, ws[i]? = some w0 → WLive H T w0 x d → Q)
    (hoth : ∀ (j : Nat) (w : KW S), j ≠ i → ws[j]? = some w → WLive H T w x d → Q) : Q := by
  rcases h with ⟨c, hc, hcc, hp⟩ | ⟨j, w, hw, hl⟩
  · exact hF c hc hcc hp
  · by_cases e : j = i
    · subst e; exact hself w hw hl
    · exact hoth j w e hw hl

theorem liveC_of_F {F : List (SubP S)} {T : CView S} {ws : List (KW S)} {x : Int} {d : Nat} {c : SubP S}
    (hc : c ∈ F) (hcc : Carries H c x d) (hp : ¬ prunM T c) : LiveC H F T ws x d := .inl ⟨c, hc, hcc, hp⟩

theorem liveC_of_self {F : List (SubP S)} {T : CView S} {ws : List (KW S)} {x : Int} {d : Nat} {i : Nat} {w0 a : KW S}
    (hw : ws[i]? = some w0) (h : WLive H T a x d) : LiveC H F T (ws.set i a) x d :=
  .inr ⟨i, a, get_set_self hw, h⟩

theorem liveC_of_other {F : List (SubP S)} {T : CView S} {ws : List (KW S)} {x : Int} {d : Nat} {i j : Nat} {w a : KW S}
    (hj : j ≠ i) (hw : ws[j]? = some w) (h : WLive H T w x d) : LiveC H F T (ws.set i a) x d :=
  .inr ⟨j, w, by rw [List.getElem?_set_ne (fun e => hj e.symm)]; exact hw, h⟩

theorem beatsC_of_set {lb lb' : Int} {ws : List (KW S)} {i : Nat} {w0 a : KW S} {x : Int} (hw : ws[i]? = some w0)
    (h : BeatsC lb' (ws.set i a) x) (hlb : lb ≤ lb') (hself : ∀ v, w0.pendVal = some v → v < x) : BeatsC lb ws x := by
  refine ⟨by have := h.1; omega, fun j w v hj hv => ?_⟩
  by_cases e : j = i
  · subst e; rw [hw] at hj; cases hj; exact hself v hv
  · exact h.2 j w v (by rw [List.getElem?_set_ne (fun e' => e e'.symm)]; exact hj) hv

theorem beatsC_to_set {lb lb' : Int} {ws : List (KW S)} {i : Nat} {w0 a : KW S} {x : Int} (hw : ws[i]? = some w0)
    (h : BeatsC lb ws x) (hlb : lb' < x) (hself : ∀ v, a.pendVal = some v → v < x) : BeatsC lb' (ws.set i a) x := by
  refine ⟨hlb, fun j w v hj hv => ?_⟩
  rcases get_set_split hj with ⟨_, rfl⟩ | ⟨_, hj'⟩
  · exact hself v hv
  · exact h.2 j w v hj' hv

def SameL (w a : KW S) : Prop := a.openNode = w.openNode ∧ a.pendCut = w.pendCut

def SameW (w a : KW S) : Prop := a.openNode = w.openNode ∧ a.pendVal = w.pendVal ∧ a.pendCut = w.pendCut

theorem SameW.toL {w a : KW S} (h : SameW w a) : SameL w a := ⟨h.1, h.2.2⟩

theorem wlive_same {T : CView S} {w a : KW S} {x : Int} {d : Nat} (hs : SameL w a) : WLive H T a x d ↔ WLive H T w x d := by
  unfold WLive; rw [hs.1, hs.2]

theorem liveC_set_same {F : List (SubP S)} {T : CView S} {ws : List (KW S)} {x : Int} {d : Nat} {i : Nat} {w0 a : KW S}
    (hw : ws[i]? = some w0) (hs : SameL w0 a) : LiveC H F T (ws.set i a) x d ↔ LiveC H F T ws x d := by
  constructor
  · intro h
    rcases h with h | ⟨j, w, hj, hl⟩
    · exact .inl h
    · rcases get_set_split hj with ⟨_, rfl⟩ | ⟨_, hj'⟩
      · exact .inr ⟨i, w0, hw, (wlive_same H hs).mp hl⟩
      · exact .inr ⟨j, w, hj', hl⟩
  · intro h
    refine liveC_cases H (i := i) h (fun c hc hcc hp => liveC_of_F H hc hcc hp) (fun w1 hw1 hl => ?_)
      (fun j w hj hwj hl => liveC_of_other H hj hwj hl)
    rw [hw] at hw1; cases hw1
    exact liveC_of_self H hw ((wlive_same H hs).mpr hl)

theorem beatsC_set_same {lb : Int} {ws : List (KW S)} {i : Nat} {w0 a : KW S} {x : Int} (hw : ws[i]? = some w0)
    (hs : SameW w0 a) : BeatsC lb (ws.set i a) x ↔ BeatsC lb ws x :=
  ⟨fun h => beatsC_of_set hw h (Int.le_refl _) (fun v hv => h.2 i a v (get_set_self hw) (by rw [hs.2.1]; exact hv)),
   fun h => beatsC_to_set hw h h.1 (fun v hv => h.2 i w0 v hw (by rw [← hs.2.1]; exact hv))⟩

/-- **`kpinv_step`**: the invariant after a step, from the transfer property and what is new -/
theorem kpinv_step {s t : KSys S} (hI : KPInv H opt Sol Rg s)
    (hB : ∀ x, Beats t x → Beats s x)
    (hT : ∀ x d, Beats t x → Live H s x d → Live H t x d)
    (hgood : ∀ c, (Prunable t c ∨ Held t c) → Good (optOf H) opt c)
    (hrng : ∀ c, Prunable t c → Rg c.depth c.value)
    (hlbOk : t.crit.base.bestLb ≤ opt)
    (hsolOk : ∀ p, t.crit.base.bestSol = some p → Sol p t.crit.base.bestLb)
    (hcur : t.cache ∈ t.log)
    (hjst : ∀ c ∈ t.log, c ∈ s.log ∨ ∀ st d tt, viewOf c st d = some tt → Jst H Rg t st d tt.value)
    (hub : ∀ c, (Prunable t c ∨ Fresh t c) → (Prunable s c ∨ Fresh s c) ∨ UbOk H t c)
    (hpop : ∀ (j : Nat) (n : SubP S), t.ws[j]? = some (.gwW n) → ∀ c ∈ t.crit.base.fringe, c.ub ≤ n.ub)
    (hwok : ∀ (j : Nat) (w : KW S), t.ws[j]? = some w → WOk H opt Sol Rg t.crit.base.bestLb t.log w)
    (hdone : (∃ j : Nat, t.ws[j]? = some .done) → t.crit.base.bestLb = opt) : KPInv H opt Sol Rg t := by
  refine ⟨hgood, hrng, hlbOk, hsolOk, hcur, fun hb => hT _ _ hb (hI.root (hB _ hb)), ?_, ?_, hpop, hwok, hdone⟩
  · intro c hc st d tt htt
    rcases hjst c hc with h | h
    · exact (hI.jst c h st d tt htt).transfer H Rg hB hT
    · exact h st d tt htt
  · intro c hc
    rcases hub c hc with h | h
    · exact (hI.ub c h).transfer H hB hT
    · exact h

/-- `kpinv_step` when the step creates nothing that has to be justified: what is prunable, held or fresh afterwards was so before -/
theorem kpinv_step_back {s t : KSys S} (hI : KPInv H opt Sol Rg s)
    (hB : ∀ x, Beats t x → Beats s x)
    (hT : ∀ x d, Beats t x → Live H s x d → Live H t x d)
    (hpb : ∀ c, Prunable t c → Prunable s c) (hhb : ∀ c, Held t c → Held s c) (hfb : ∀ c, Fresh t c → Fresh s c)
    (hlbOk : t.crit.base.bestLb ≤ opt)
    (hsolOk : ∀ p, t.crit.base.bestSol = some p → Sol p t.crit.base.bestLb)
    (hcur : t.cache ∈ t.log)
    (hjst : ∀ c ∈ t.log, c ∈ s.log ∨ ∀ st d tt, viewOf c st d = some tt → Jst H Rg t st d tt.value)
    (hpop : ∀ (j : Nat) (n : SubP S), t.ws[j]? = some (.gwW n) → ∀ c ∈ t.crit.base.fringe, c.ub ≤ n.ub)
    (hwok : ∀ (j : Nat) (w : KW S), t.ws[j]? = some w → WOk H opt Sol Rg t.crit.base.bestLb t.log w)
    (hdone : (∃ j : Nat, t.ws[j]? = some .done) → t.crit.base.bestLb = opt) : KPInv H opt Sol Rg t :=
  kpinv_step H opt Sol Rg hI hB hT (fun c h => hI.good c (h.imp (hpb c) (hhb c))) (fun c hc => hI.rng c (hpb c hc)) hlbOk hsolOk
    hcur hjst (fun c h => .inl (h.imp (hpb c) (hfb c))) hpop hwok hdone

theorem prunable_set {s : KSys S} {crit' : ParCrit S} {cache' : Cache S} {log' : List (Cache S)} {i : Nat} {a : KW S} {c : SubP S}
    (h : Prunable ({ crit := crit', cache := cache', log := log', ws := s.ws.set i a } : KSys S) c) :
    c ∈ crit'.base.fringe ∨ c ∈ a.pendCut ∨ ∃ (j : Nat) (w : KW S), j ≠ i ∧ s.ws[j]? = some w ∧ c ∈ w.pendCut := by
  rcases h with h | ⟨j, w, hj, hc⟩
  · exact .inl h
  · rcases get_set_split hj with ⟨_, rfl⟩ | ⟨hne, hj'⟩
    · exact .inr (.inl hc)
    · exact .inr (.inr ⟨j, w, hne, hj', hc⟩)

theorem held_set {s : KSys S} {crit' : ParCrit S} {cache' : Cache S} {log' : List (Cache S)} {i : Nat} {a : KW S} {c : SubP S}
    (h : Held ({ crit := crit', cache := cache', log := log', ws := s.ws.set i a } : KSys S) c) :
    a.openNode = some c ∨ ∃ (j : Nat) (w : KW S), j ≠ i ∧ s.ws[j]? = some w ∧ w.openNode = some c := by
  obtain ⟨j, w, hj, hc⟩ := h
  rcases get_set_split hj with ⟨_, rfl⟩ | ⟨hne, hj'⟩
  · exact .inl hc
  · exact .inr ⟨j, w, hne, hj', hc⟩

theorem fresh_set {s : KSys S} {crit' : ParCrit S} {cache' : Cache S} {log' : List (Cache S)} {i : Nat} {a : KW S} {c : SubP S}
    (h : Fresh ({ crit := crit', cache := cache', log := log', ws := s.ws.set i a } : KSys S) c) :
    (a = .gwW c ∨ a = .readR c) ∨ ∃ j : Nat, j ≠ i ∧ (s.ws[j]? = some (.gwW c) ∨ s.ws[j]? = some (.readR c)) := by
  obtain ⟨j, hj⟩ := h
  rcases hj with hj | hj
  · rcases get_set_split hj with ⟨_, e⟩ | ⟨hne, hj'⟩
    · exact .inl (.inl e.symm)
    · exact .inr ⟨j, hne, .inl hj'⟩
  · rcases get_set_split hj with ⟨_, e⟩ | ⟨hne, hj'⟩
    · exact .inl (.inr e.symm)
    · exact .inr ⟨j, hne, .inr hj'⟩

theorem prunable_of_other {s : KSys S} {j : Nat} {w : KW S} {c : SubP S} (hj : s.ws[j]? = some w) (hc : c ∈ w.pendCut) :
    Prunable s c := .inr ⟨j, w, hj, hc⟩


theorem prunable_back {s : KSys S} {crit' : ParCrit S} {cache' : Cache S} {log' : List (Cache S)} {i : Nat} {w0 a : KW S}
    {c : SubP S} (hw : s.ws[i]? = some w0) (hpc : ∀ c ∈ a.pendCut, c ∈ w0.pendCut)
    (hF : ∀ c ∈ crit'.base.fringe, c ∈ s.crit.base.fringe)
    (h : Prunable ({ crit := crit', cache := cache', log := log', ws := s.ws.set i a } : KSys S) c) : Prunable s c := by
  rcases prunable_set h with h | h | ⟨j, w, _, hj, hc⟩
  · exact .inl (hF c h)
  · exact .inr ⟨i, w0, hw, hpc c h⟩
  · exact .inr ⟨j, w, hj, hc⟩

theorem held_back {s : KSys S} {crit' : ParCrit S} {cache' : Cache S} {log' : List (Cache S)} {i : Nat} {w0 a : KW S}
    {c : SubP S} (hw : s.ws[i]? = some w0) (ho : ∀ c, a.openNode = some c → w0.openNode = some c)
    (h : Held ({ crit := crit', cache := cache', log := log', ws := s.ws.set i a } : KSys S) c) : Held s c := by
  rcases held_set h with h | ⟨j, w, _, hj, hc⟩
  · exact ⟨i, w0, hw, ho c h⟩
  · exact ⟨j, w, hj, hc⟩

theorem fresh_back {s : KSys S} {crit' : ParCrit S} {cache' : Cache S} {log' : List (Cache S)} {i : Nat} {w0 a : KW S}
    {c : SubP S} (hw : s.ws[i]? = some w0) (hnf : ∀ c, (a = .gwW c ∨ a = .readR c) → (w0 = .gwW c ∨ w0 = .readR c))
    (h : Fresh ({ crit := crit', cache := cache', log := log', ws := s.ws.set i a } : KSys S) c) : Fresh s c := by
  rcases fresh_set h with h | ⟨j, _, hj⟩
  · rcases hnf c h with e | e
    · exact ⟨i, .inl (by rw [hw, e])⟩
    · exact ⟨i, .inr (by rw [hw, e])⟩
  · exact ⟨j, hj⟩

/-- the stages from which the test `node.ub ≤ best_lb` of `process_one_node` is still ahead -/
def KW.fresh : KW S → Bool
  | .gwW _ | .readR _ => true
  | _ => false

theorem KW.not_fresh {a : KW S} (h : a.fresh = false) (c : SubP S) : a ≠ .gwW c ∧ a ≠ .readR c :=
  ⟨fun e => (by rw [e] at h; cases h), fun e => (by rw [e] at h; cases h)⟩

theorem fresh_stale {s : KSys S} {crit' : ParCrit S} {cache' : Cache S} {log' : List (Cache S)} {i : Nat} {a : KW S}
    {c : SubP S} (hnf : a.fresh = false)
    (h : Fresh ({ crit := crit', cache := cache', log := log', ws := s.ws.set i a } : KSys S) c) : Fresh s c := by
  rcases fresh_set h with (e | e) | ⟨j, _, hj⟩
  · exact absurd e (KW.not_fresh hnf c).1
  · exact absurd e (KW.not_fresh hnf c).2
  · exact ⟨j, hj⟩

theorem wok_set {s : KSys S} (hI : KPInv H opt Sol Rg s) {i : Nat} {a : KW S} {lb' : Int} {log' : List (Cache S)}
    (hlb : s.crit.base.bestLb ≤ lb') (hlog : ∀ c ∈ s.log, c ∈ log') (ha : WOk H opt Sol Rg lb' log' a)
    (j : Nat) (w : KW S) (hj : (s.ws.set i a)[j]? = some w) : WOk H opt Sol Rg lb' log' w := by
  rcases get_set_split hj with ⟨_, rfl⟩ | ⟨_, hj'⟩
  · exact ha
  · exact (hI.wok j w hj').mono H opt Sol Rg hlb hlog

theorem popmax_set {s : KSys S} (hI : KPInv H opt Sol Rg s) {i : Nat} {a : KW S} {F' : List (SubP S)}
    (hF : ∀ c ∈ F', c ∈ s.crit.base.fringe) (ha : ∀ n, a = .gwW n → ∀ c ∈ F', c.ub ≤ n.ub)
    (j : Nat) (n : SubP S) (hj : (s.ws.set i a)[j]? = some (.gwW n)) : ∀ c ∈ F', c.ub ≤ n.ub := by
  rcases get_set_split hj with ⟨_, e⟩ | ⟨_, hj'⟩
  · exact ha n e.symm
  · exact fun c hc => hI.popmax j n hj' c (hF c hc)

theorem done_set {s : KSys S} (hI : KPInv H opt Sol Rg s) {i : Nat} {a : KW S} {lb' : Int}
    (hlb : s.crit.base.bestLb ≤ lb') (hle : lb' ≤ opt) (ha : a = .done → lb' = opt)
    (h : ∃ j : Nat, (s.ws.set i a)[j]? = some .done) : lb' = opt := by
  obtain ⟨j, hj⟩ := h
  rcases get_set_split hj with ⟨_, e⟩ | ⟨_, hj'⟩
  · exact ha e.symm
  · have := hI.doneOk ⟨j, hj'⟩; omega

theorem kpinv_same {s : KSys S} {crit' : ParCrit S} {i : Nat} {w0 a : KW S} (hI : KPInv H opt Sol Rg s)
    (hw : s.ws[i]? = some w0) (hs : SameW w0 a)
    (hF : crit'.base.fringe = s.crit.base.fringe) (hlb : crit'.base.bestLb = s.crit.base.bestLb)
    (hsol : crit'.base.bestSol = s.crit.base.bestSol)
    (hnf : a.fresh = false)
    (hwok : WOk H opt Sol Rg s.crit.base.bestLb s.log a)
    (hdone : a = .done → s.crit.base.bestLb = opt) :
    KPInv H opt Sol Rg { crit := crit', cache := s.cache, log := s.log, ws := s.ws.set i a } := by
  have hB : ∀ x, Beats ({ crit := crit', cache := s.cache, log := s.log, ws := s.ws.set i a } : KSys S) x → Beats s x := by
    intro x hb
    have hb' : BeatsC crit'.base.bestLb (s.ws.set i a) x := hb
    rw [hlb] at hb'
    exact (beatsC_set_same hw hs).mp hb'
  have hT : ∀ x d, Beats ({ crit := crit', cache := s.cache, log := s.log, ws := s.ws.set i a } : KSys S) x →
      Live H s x d → Live H ({ crit := crit', cache := s.cache, log := s.log, ws := s.ws.set i a } : KSys S) x d := by
    intro x d _ hl
    show LiveC H crit'.base.fringe (viewOf s.cache) (s.ws.set i a) x d
    rw [hF]
    exact (liveC_set_same H hw hs.toL).mpr hl
  have hpb : ∀ c, Prunable ({ crit := crit', cache := s.cache, log := s.log, ws := s.ws.set i a } : KSys S) c → Prunable s c :=
    fun c h => prunable_back hw (fun c hc => by rw [← hs.2.2]; exact hc) (fun c hc => by rw [← hF]; exact hc) h
  refine kpinv_step_back H opt Sol Rg hI hB hT hpb (fun c hc => held_back hw (fun c hc => by rw [← hs.1]; exact hc) hc)
    (fun c hc => fresh_stale hnf hc)
    (by show crit'.base.bestLb ≤ opt; rw [hlb]; exact hI.lbOk)
    (by show ∀ p, crit'.base.bestSol = some p → Sol p crit'.base.bestLb; rw [hlb, hsol]; exact hI.solOk) hI.cur
    (fun c hc => .inl hc) ?_ ?_ ?_
  · intro j n hj
    show ∀ c ∈ crit'.base.fringe, c.ub ≤ n.ub
    rw [hF]
    exact popmax_set H opt Sol Rg hI (fun c hc => hc) (fun n e => absurd e (KW.not_fresh hnf n).1) j n hj
  · intro j w hj
    show WOk H opt Sol Rg crit'.base.bestLb s.log w
    rw [hlb]
    exact wok_set H opt Sol Rg hI (Int.le_refl _) (fun c hc => hc) hwok j w hj
  · intro h
    show crit'.base.bestLb = opt
    rw [hlb]
    exact done_set H opt Sol Rg hI (Int.le_refl _) hI.lbOk hdone h

end
end Ddo.ParCache
