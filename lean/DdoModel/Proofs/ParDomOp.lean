import DdoModel.Proofs.ParDomCompileL
/-! # The shared dominance checker as a LOG of atomic `is_dominated_or_insert` operations; the operation-wise compilation

## 1. the log
`Op`: one atomic `is_dominated_or_insert(state, depth, value)` (query + possible insert / removal of dominated entries, under the
shard lock of the `DashMap`).  Whatever the interleaving of the operations of all the compilations in progress, the shared store
is `runOps` of ONE list of operations.  **Each single operation preserves the two facts the solver-level proof needs** — hence so
does every log, in any order, from any workers:
* `runOps_storeReach`: the store holds exactly reached items only, as long as the presented items are exactly reached;
* `runOps_protected`: a protected item presented after any such log is answered "not dominated" (and is inserted);
* `runOps_defined`: no operation panics as long as the depths are in range.

## 2. the operation-wise compilation (definition) and what is to be shown of it
`compileOp cfg cache τ polls`: the compilation of the diagram model in which the `k`-th `is_dominated_or_insert` **of the
compilation** is answered by the store `τ k` — the shared store at that moment, i.e. after every operation any worker performed
before it (`filterDomO`, `stepLayerO`, `buildLoopO`: `Mdd.lean`'s `filterDom` / `stepLayer` / `buildLoop` with the store an
oracle of the operation index; the compilation's own insertions are not threaded: they are in `τ (k+1)` if nobody removed them).
`okROp` / `okXOp`: the answers of such compilations for ANY sequence of stores of exactly reached items.
`PerOpObligation`: `AnsOk` for these answers + "the presented items are exactly reached".  It is NOT derivable from the theorems
about `compile` by a virtual-store argument: two nodes `x₁`, `x₂` of one layer with the same key, incomparable, and a foreign entry
`e` that dominates both and arrives between their two operations give the verdicts (kept, dropped), which no single store of exactly
reached items reproduces under threading.  It is proved (`perOpObligation_holds`, `Proofs/ParDomOpLoop.lean`) from what `compile` and
`compileOp` share: both are chains of layer steps through admissible filters (`Proofs/BuildChain.lean`, `Proofs/DomChain.lean`): the
oracle filter is admissible (`Proofs/ParDomOpSpec.lean`), so `compileOp` is a chain that ends normally (`Proofs/ParDomOpLoop.lean`), and
`AnsOk` holds of chains (`ansOk_built`, `Proofs/ParDomBuilt.lean`).
`fdStepO_protected` below is the per-operation core: a protected node is never dropped, whatever `τ`. -/
set_option linter.unusedSectionVars false
set_option linter.unusedVariables false
namespace Ddo.ParDom
open Ddo Ddo.Truth Ddo.Closed Ddo.ParSys Ddo.ParClosed Ddo.C10
open Ddo.C01 (SolverCfg WellFormed toOut SolOf)
variable {S K : Type} [DecidableEq S] [DecidableEq K]

/-- one atomic `is_dominated_or_insert(state, depth, value)` -/
structure Op (S : Type) where
  state : S
  depth : Nat
  value : Int

/-- the effect of one operation on the shared store (`none`: the call panics, depth out of range) -/
def applyOp (D : DomRule S K) (st : DomStore S K) (op : Op S) : Option (DomStore S K × Bool × Option Int) :=
  DomStore.query D st op.state op.depth op.value

def runOps (D : DomRule S K) : DomStore S K → List (Op S) → Option (DomStore S K)
  | st, [] => some st
  | st, op :: r =>
    match applyOp D st op with
    | none => none
    | some (st', _, _) => runOps D st' r

def OpReached (P : Problem S) (op : Op S) : Prop := ∃ p, Reach P op.depth op.state op.value p

theorem applyOp_storeReach (D : DomRule S K) (P : Problem S) {st st' : DomStore S K} {op : Op S} {dom : Bool}
    {thr : Option Int} (hst : StoreReach D P st) (hop : OpReached P op) (h : applyOp D st op = some (st', dom, thr)) :
    StoreReach D P st' ∧ st'.layers.length = st.layers.length :=
  ⟨query_storeAll D _ st st' op.state op.depth op.value dom thr h hst hop,
   query_len D st st' op.state op.depth op.value dom thr h⟩

/-- **any log, any interleaving**: the shared store holds exactly reached items only -/
theorem runOps_storeReach (D : DomRule S K) (P : Problem S) (ops : List (Op S)) :
    ∀ (st st' : DomStore S K), StoreReach D P st → (∀ op ∈ ops, OpReached P op) → runOps D st ops = some st' →
      StoreReach D P st' ∧ st'.layers.length = st.layers.length := by
  induction ops with
  | nil => intro st st' hst _ h; cases h; exact ⟨hst, rfl⟩
  | cons op r ih =>
    intro st st' hst hops h
    unfold runOps at h
    cases ha : applyOp D st op with
    | none => rw [ha] at h; cases h
    | some x =>
      obtain ⟨st1, dom, thr⟩ := x
      rw [ha] at h
      obtain ⟨h1, h2⟩ := applyOp_storeReach D P hst (hops op List.mem_cons_self) ha
      obtain ⟨h3, h4⟩ := ih st1 st' h1 (fun o ho => hops o (List.mem_cons_of_mem _ ho)) h
      exact ⟨h3, h4.trans h2⟩

/-- **no operation of any log panics** as long as the depths are in range -/
theorem runOps_defined (D : DomRule S K) (ops : List (Op S)) :
    ∀ (st : DomStore S K), (∀ op ∈ ops, op.depth < st.layers.length) → ∃ st', runOps D st ops = some st' := by
  induction ops with
  | nil => intro st _; exact ⟨st, rfl⟩
  | cons op r ih =>
    intro st hd
    unfold runOps
    cases ha : applyOp D st op with
    | none => exact absurd ha (query_ne_none D st op.state op.depth op.value (hd op List.mem_cons_self))
    | some x =>
      obtain ⟨st1, dom, thr⟩ := x
      have hl := query_len D st st1 op.state op.depth op.value dom thr ha
      exact ih st1 (fun o ho => by rw [hl]; exact hd o (List.mem_cons_of_mem _ ho))

/-- **a protected item is never answered "dominated"**, whatever log of operations (of whatever workers, in whatever order) the
    shared store has gone through -/
theorem runOps_protected (D : DomRule S K) (P : Problem S) (H : Nat → S → EInt) (opt : Int) (Prot : Nat → S → Int → Prop)
    (hPr : Protected D P H opt Prot) (ops : List (Op S)) (st0 st st' : DomStore S K) (hst : StoreReach D P st0)
    (hops : ∀ op ∈ ops, OpReached P op) (hrun : runOps D st0 ops = some st)
    (op : Op S) (hp : Prot op.depth op.state op.value) (dom : Bool) (thr : Option Int)
    (h : applyOp D st op = some (st', dom, thr)) : dom = false ∧ StoreReach D P st' :=
  query_protected D P H opt Prot hPr st st' op.state op.depth op.value dom thr
    (runOps_storeReach D P ops st0 st hst hops hrun).1 hp h

/-- one step of `_filter_with_dominance`, the `k`-th operation of the compilation answered by the store `τ k`; the accumulator
    also carries the operation counter and the operations performed -/
def fdStepO (D : DomRule S K) (τ : Nat → DomStore S K)
    (acc : List (Node S) × List Nat × Nat × Bool × List (Op S)) (p : Nat) :
    List (Node S) × List Nat × Nat × Bool × List (Op S) :=
  match acc.1[p]? with
  | none => acc
  | some n =>
    if n.isExact then
      match DomStore.query D (τ acc.2.2.1) n.state n.depth n.value with
      | none => (acc.1, acc.2.1 ++ [p], acc.2.2.1 + 1, false, acc.2.2.2.2 ++ [⟨n.state, n.depth, n.value⟩])
      | some (_, dominated, thr) =>
        if dominated then
          (acc.1.set p { n with theta := thr }, acc.2.1, acc.2.2.1 + 1, acc.2.2.2.1, acc.2.2.2.2 ++ [⟨n.state, n.depth, n.value⟩])
        else (acc.1, acc.2.1 ++ [p], acc.2.2.1 + 1, acc.2.2.2.1, acc.2.2.2.2 ++ [⟨n.state, n.depth, n.value⟩])
    else (acc.1, acc.2.1 ++ [p], acc.2.2.1, acc.2.2.2.1, acc.2.2.2.2)

/-- `_filter_with_dominance` with the store an oracle of the operation index -/
def filterDomO (cfg : Cfg S K) (τ : Nat → DomStore S K) (k : Nat) (layer : List (Node S)) (cur : List Nat) :
    List (Node S) × List Nat × Nat × Bool × List (Op S) :=
  match cfg.dom with
  | none => (layer, cur, k, true, [])
  | some D => (fdSorted D layer cur).foldl (fdStepO D τ) (layer, [], k, true, [])

/-- `stepLayer` (`Mdd.lean`) with `filterDomO`; the state is the diagram, the operation counter and the operations so far -/
def stepLayerO (cfg : Cfg S K) (τ : Nat → DomStore S K) (dd : DD S K) (k : Nat) (ops : List (Op S)) (var : Nat) :
    Option (DD S K × Nat × List (Op S)) × Outcome :=
  if dd.next.isEmpty then
    (some ({ dd with layers := dd.layers ++ [[]] }, k, ops), .cutoff)
  else
    let fc := if dd.layers.isEmpty then (dd.next, List.range dd.next.length)
      else filterCache cfg dd.cache dd.next (List.range dd.next.length)
    let r := filterDomO cfg τ k fc.1 fc.2
    if !r.2.2.2.1 then (none, .crash) else
    match squash cfg dd r.1 r.2.1 with
    | none => (none, .crash)
    | some (layer, cur, log, lel) =>
      (some ({ dd with layers := dd.layers ++ [(expandAll cfg var dd.layers.length layer cur log).1],
                       next := (expandAll cfg var dd.layers.length layer cur log).2.1, depth := dd.depth + 1, lel := lel,
                       log := (expandAll cfg var dd.layers.length layer cur log).2.2,
                       ndom := dd.ndom + (fc.2.length - r.2.1.length) }, r.2.2.1, ops ++ r.2.2.2.2), .ok)

/-- `buildLoop` (no cut-off) with `stepLayerO` -/
def buildLoopO (cfg : Cfg S K) (τ : Nat → DomStore S K) : Nat → DD S K → Nat → List (Op S) → (DD S K × List (Op S)) × Outcome
  | 0, dd, _, ops => ((dd, ops), .crash)
  | fuel + 1, dd, k, ops =>
    match cfg.P.nextVar dd.depth (dd.next.map (·.state)) with
    | none => (({ dd with log := Call.nextVar dd.depth (dd.next.map (·.state)) none :: dd.log }, ops), .ok)
    | some var =>
      match stepLayerO cfg τ (tick dd var) k ops var with
      | (none, _) => ((tick dd var, ops), .crash)
      | (some (dd', _, ops'), .cutoff) => ((dd', ops'), .ok)
      | (some (dd', _, ops'), .crash) => ((dd', ops'), .crash)
      | (some (dd', k', ops'), .ok) => buildLoopO cfg τ fuel dd' k' ops'

/-- **the operation-wise compilation**: outcome, result, the operations it performed on the shared store (in order) -/
def compileOp (cfg : Cfg S K) (cache : Cache S) (τ : Nat → DomStore S K) (polls : Nat) : Outcome × Result S × List (Op S) :=
  ((buildLoopO cfg τ (cfg.P.nbVars + 2) (initDD cfg cache (τ 0) polls) 0 []).2,
   resultOf cfg (buildLoopO cfg τ (cfg.P.nbVars + 2) (initDD cfg cache (τ 0) polls) 0 []).1.1,
   (buildLoopO cfg τ (cfg.P.nbVars + 2) (initDD cfg cache (τ 0) polls) 0 []).1.2)

/-- the answers of the operation-wise compilations, for ANY sequence of stores of exactly reached items -/
def okROp (dv : DSolverCfg S K) (N : SubP S) (lb : Int) (o : DDOut S) : Prop :=
  ∃ τ : Nat → DomStore S K, GoodStores dv τ ∧
    (compileOp (dv.cfg .restricted N lb) (Cache.init dv.sv.P.nbVars) τ 0).1 = .ok ∧
    o = toOut (compileOp (dv.cfg .restricted N lb) (Cache.init dv.sv.P.nbVars) τ 0).2.1

def okXOp (dv : DSolverCfg S K) (N : SubP S) (lb : Int) (o : DDOut S) : Prop :=
  ∃ τ : Nat → DomStore S K, GoodStores dv τ ∧
    (compileOp (dv.cfg .relaxed N lb) (Cache.init dv.sv.P.nbVars) τ 0).1 = .ok ∧
    o = toOut (compileOp (dv.cfg .relaxed N lb) (Cache.init dv.sv.P.nbVars) τ 0).2.1

/-- what the solver-level proof needs (proved: `perOpObligation_holds`, `Proofs/ParDomOpLoop.lean`) for the interleaving of the
    INDIVIDUAL `is_dominated_or_insert` calls: the answers of the
    operation-wise compilations meet `AnsOk`, and the items such a compilation presents to the shared store are exactly reached
    (so that, by `runOps_storeReach`, every store it can be answered by holds exactly reached items only) -/
def PerOpObligation (dv : DSolverCfg S K) (B opt : Int) (Prot : Nat → S → Int → Prop) : Prop :=
  AnsOk dv B opt Prot (okROp dv) (okXOp dv) ∧
  ∀ (ct : CompType) (N : SubP S) (lb : Int) (τ : Nat → DomStore S K), C01.NodeOk dv.sv.P N → GoodStores dv τ →
    ∀ op ∈ (compileOp (dv.cfg ct N lb) (Cache.init dv.sv.P.nbVars) τ 0).2.2, OpReached dv.sv.P op

/-- one step of the operation-wise filter never drops a protected (or inexact) node: its position is appended to the survivors -/
theorem fdStepO_protected (D : DomRule S K) (P : Problem S) (H : Nat → S → EInt) (opt : Int) (Prot : Nat → S → Int → Prop)
    (hPr : Protected D P H opt Prot) (τ : Nat → DomStore S K) (hτ : ∀ k, StoreReach D P (τ k))
    (acc : List (Node S) × List Nat × Nat × Bool × List (Op S)) (p : Nat) (n : Node S) (hn : acc.1[p]? = some n)
    (hp : n.isExact = true → Prot n.depth n.state n.value) :
    (fdStepO D τ acc p).2.1 = acc.2.1 ++ [p] ∧ (fdStepO D τ acc p).1 = acc.1 := by
  fun_cases fdStepO D τ acc p
  case case1 h => rw [hn] at h; cases h
  case case3 m hm he st' thr hq =>
    obtain rfl : n = m := Option.some.inj (hn.symm.trans hm)
    exact absurd (query_protected D P H opt Prot hPr _ st' _ _ _ true thr (hτ _) (hp he) hq).1 (by decide)
  all_goals exact ⟨rfl, rfl⟩

/-! ### the definitions case by case

`fdStepO` and `buildLoopO` are taken apart by `fun_cases` / `fun_induction` (`stepLayerO` at the end of this file).
The projections of `compileOp` are rewrite rules: reaching them by `show` / `rfl` makes the unifier unfold `compileOp` and the
loop under it, which is slow to check. -/

theorem filterDomO_eq (cfg : Cfg S K) (D : DomRule S K) (hD : cfg.dom = some D) (τ : Nat → DomStore S K) (k : Nat)
    (layer : List (Node S)) (cur : List Nat) :
    filterDomO cfg τ k layer cur = (fdSorted D layer cur).foldl (fdStepO D τ) (layer, [], k, true, []) := by
  unfold filterDomO
  rw [hD]

theorem stepLayerO_empty (cfg : Cfg S K) (τ : Nat → DomStore S K) (dd : DD S K) (k : Nat) (ops : List (Op S)) (var : Nat)
    (he : dd.next.isEmpty = true) :
    stepLayerO cfg τ dd k ops var = (some ({ dd with layers := dd.layers ++ [[]] }, k, ops), .cutoff) := by
  unfold stepLayerO
  rw [if_pos he]

theorem buildLoopO_stop (cfg : Cfg S K) (τ : Nat → DomStore S K) (fuel : Nat) (dd : DD S K) (k : Nat) (ops : List (Op S))
    (h : cfg.P.nextVar dd.depth (dd.next.map (·.state)) = none) :
    buildLoopO cfg τ (fuel + 1) dd k ops =
      (({ dd with log := Call.nextVar dd.depth (dd.next.map (·.state)) none :: dd.log }, ops), .ok) := by
  conv => lhs; unfold buildLoopO
  simp only [h]

theorem buildLoopO_step (cfg : Cfg S K) (τ : Nat → DomStore S K) (fuel : Nat) (dd : DD S K) (k : Nat) (ops : List (Op S))
    (var : Nat) (h : cfg.P.nextVar dd.depth (dd.next.map (·.state)) = some var) :
    buildLoopO cfg τ (fuel + 1) dd k ops =
      match stepLayerO cfg τ (tick dd var) k ops var with
      | (none, _) => ((tick dd var, ops), .crash)
      | (some (dd', _, ops'), .cutoff) => ((dd', ops'), .ok)
      | (some (dd', _, ops'), .crash) => ((dd', ops'), .crash)
      | (some (dd', k', ops'), .ok) => buildLoopO cfg τ fuel dd' k' ops' := by
  conv => lhs; unfold buildLoopO
  simp only [h]

def finOp (cfg : Cfg S K) (cache : Cache S) (τ : Nat → DomStore S K) (polls : Nat) : DD S K :=
  (buildLoopO cfg τ (cfg.P.nbVars + 2) (initDD cfg cache (τ 0) polls) 0 []).1.1

theorem compileOp_outcome (cfg : Cfg S K) (cache : Cache S) (τ : Nat → DomStore S K) (polls : Nat) :
    (compileOp cfg cache τ polls).1 = (buildLoopO cfg τ (cfg.P.nbVars + 2) (initDD cfg cache (τ 0) polls) 0 []).2 := by
  unfold compileOp; rfl

theorem compileOp_result (cfg : Cfg S K) (cache : Cache S) (τ : Nat → DomStore S K) (polls : Nat) :
    (compileOp cfg cache τ polls).2.1 = resultOf cfg (finOp cfg cache τ polls) := by
  unfold compileOp finOp; rfl

theorem compileOp_ops (cfg : Cfg S K) (cache : Cache S) (τ : Nat → DomStore S K) (polls : Nat) :
    (compileOp cfg cache τ polls).2.2 = (buildLoopO cfg τ (cfg.P.nbVars + 2) (initDD cfg cache (τ 0) polls) 0 []).1.2 := by
  unfold compileOp; rfl

end Ddo.ParDom

namespace Ddo.ParDom
open Ddo Ddo.Truth Ddo.Closed Ddo.C10
variable {S K : Type} [DecidableEq S] [DecidableEq K]

/-- what the cache filter leaves of `next` -/
def fcOf (cfg : Cfg S K) (dd : DD S K) : List (Node S) × List Nat :=
  if dd.layers.isEmpty then (dd.next, List.range dd.next.length)
  else filterCache cfg dd.cache dd.next (List.range dd.next.length)

theorem fcOf_id (cfg : Cfg S K) (hc : cfg.useCache = false) (dd : DD S K) :
    fcOf cfg dd = (dd.next, List.range dd.next.length) := by
  unfold fcOf
  split
  · rfl
  · exact Cover.filterCache_id cfg dd.cache dd.next _ hc (fun p hp => List.mem_range.mp hp)

/-- `stepLayerO` after the operation-wise filter -/
def stepTailO (cfg : Cfg S K) (dd : DD S K) (ops : List (Op S)) (var : Nat) (fc : List (Node S) × List Nat)
    (r : List (Node S) × List Nat × Nat × Bool × List (Op S)) : Option (DD S K × Nat × List (Op S)) × Outcome :=
  if (!r.2.2.2.1) = true then (none, .crash) else
  match squash cfg dd r.1 r.2.1 with
  | none => (none, .crash)
  | some (layer, cur, log, lel) =>
    (some ({ dd with layers := dd.layers ++ [(expandAll cfg var dd.layers.length layer cur log).1],
                     next := (expandAll cfg var dd.layers.length layer cur log).2.1, depth := dd.depth + 1, lel := lel,
                     log := (expandAll cfg var dd.layers.length layer cur log).2.2,
                     ndom := dd.ndom + (fc.2.length - r.2.1.length) }, r.2.2.1, ops ++ r.2.2.2.2), .ok)

theorem stepLayerO_unfold (cfg : Cfg S K) (τ : Nat → DomStore S K) (dd : DD S K) (k : Nat) (ops : List (Op S)) (var : Nat)
    (hne : dd.next.isEmpty = false) :
    stepLayerO cfg τ dd k ops var =
      stepTailO cfg dd ops var (fcOf cfg dd) (filterDomO cfg τ k (fcOf cfg dd).1 (fcOf cfg dd).2) := by
  unfold stepLayerO stepTailO fcOf
  simp only [hne, Bool.false_eq_true, if_false]

/-- a successful `stepTailO`: no panic in the checker nor in the squash; the fields of the new diagram the invariants read -/
theorem stepTailO_some (cfg : Cfg S K) (dd : DD S K) (ops : List (Op S)) (var : Nat) (fc : List (Node S) × List Nat)
    (r : List (Node S) × List Nat × Nat × Bool × List (Op S)) (dd' : DD S K) (k' : Nat) (ops' : List (Op S)) (oc : Outcome)
    (hs : stepTailO cfg dd ops var fc r = (some (dd', k', ops'), oc)) :
    oc = .ok ∧ k' = r.2.2.1 ∧ ops' = ops ++ r.2.2.2.2 ∧ ∃ sq, squash cfg dd r.1 r.2.1 = some sq ∧
      dd'.layers = dd.layers ++ [(expandAll cfg var dd.layers.length sq.1 sq.2.1 sq.2.2.1).1] ∧
      dd'.next = (expandAll cfg var dd.layers.length sq.1 sq.2.1 sq.2.2.1).2.1 ∧ dd'.depth = dd.depth + 1 ∧
      dd'.lel = sq.2.2.2 := by
  revert hs
  fun_cases stepTailO cfg dd ops var fc r
  · intro hs; cases hs
  · intro hs; cases hs
  · rename_i hsq
    intro hs
    cases hs
    exact ⟨rfl, rfl, rfl, _, hsq, rfl, rfl, rfl, rfl⟩

theorem stepTailO_ops (cfg : Cfg S K) (dd : DD S K) (ops : List (Op S)) (var : Nat) (fc : List (Node S) × List Nat)
    (r : List (Node S) × List Nat × Nat × Bool × List (Op S)) (dd' : DD S K) (k' : Nat) (ops' : List (Op S)) (oc : Outcome)
    (hs : stepTailO cfg dd ops var fc r = (some (dd', k', ops'), oc)) : ops' = ops ++ r.2.2.2.2 :=
  (stepTailO_some cfg dd ops var fc r dd' k' ops' oc hs).2.2.1

/-- a successful `stepLayerO`: the `break` on an empty layer, or a successful `stepTailO` -/
theorem stepLayerO_some (cfg : Cfg S K) (τ : Nat → DomStore S K) (dd : DD S K) (k : Nat) (ops : List (Op S)) (var : Nat)
    (dd' : DD S K) (k' : Nat) (ops' : List (Op S)) (oc : Outcome)
    (hs : stepLayerO cfg τ dd k ops var = (some (dd', k', ops'), oc)) :
    (dd.next = [] ∧ dd' = { dd with layers := dd.layers ++ [[]] } ∧ k' = k ∧ ops' = ops ∧ oc = .cutoff) ∨
    (dd.next.isEmpty = false ∧
      stepTailO cfg dd ops var (fcOf cfg dd) (filterDomO cfg τ k (fcOf cfg dd).1 (fcOf cfg dd).2) = (some (dd', k', ops'), oc)) := by
  cases he : dd.next.isEmpty with
  | true =>
    rw [stepLayerO_empty cfg τ dd k ops var he] at hs
    cases hs
    exact .inl ⟨List.isEmpty_iff.1 he, rfl, rfl, rfl, rfl⟩
  | false => exact .inr ⟨rfl, (stepLayerO_unfold cfg τ dd k ops var he).symm.trans hs⟩

end Ddo.ParDom
