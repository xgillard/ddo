import DdoModel.Proofs.CompatSound
/-! C10d — **the checker's entries stay exactly reached with the cache enabled** (`StoreReach`), for one compilation
(`compile_storeReach_joint`: `Ddo.C10.compile_storeReach` without the hypothesis `cfg.useCache = false`, any cache content),
for one turn of the solver with cache and checker (`kdturn_storeReach`) and along its runs (`krun_storeReach`).

The cache filter only removes positions and touches the fields `cache` / `theta` of the nodes (`fcOf_node`), so the exact nodes
of the cache-filtered layer handed to `_filter_with_dominance` are still exactly reached (`MInv.next`), and
`filterDom_spec` / `filterDom_protected` apply to it. -/
set_option linter.unusedSectionVars false
set_option linter.unusedVariables false
namespace Ddo.C10d
open Ddo Ddo.C01 Ddo.Closed Ddo.C09 Ddo.C10 Ddo.C10c Ddo.Truth
variable {S K : Type} [DecidableEq S] [DecidableEq K]

theorem fdOf_sinv_joint (cfg : Cfg S K) (D : DomRule S K) (hD : cfg.dom = some D) (hNV : NvBound cfg.P) (B : Int)
    (p0 : List Dec) (dd : DD S K) (var : Nat) (hS : SInv cfg D dd) (hM : MInv cfg B p0 dd)
    (hdepth : dd.depth = cfg.root.depth + dd.layers.length)
    (hnv : cfg.P.nextVar dd.depth (dd.next.map (·.state)) = some var) :
    StoreReach D cfg.P (CacheClosed.fdOf cfg dd).2.2.1 ∧ (CacheClosed.fdOf cfg dd).2.2.2 = true ∧
    (CacheClosed.fdOf cfg dd).2.2.1.layers.length = cfg.P.nbVars + 1 := by
  have hlt := nv_depth_lt hNV hnv
  have hcur := fcOf_cur_lt cfg dd
  have hnode := fcOf_exact_reach cfg B p0 dd hM hdepth
  have hdep : ∀ n ∈ (Theta.fcOf cfg dd).1, n.isExact = true → n.depth < dd.store.layers.length := by
    intro n hn he
    rw [hS.len, (hnode n hn he).2]; exact Nat.lt_succ_of_lt hlt
  obtain ⟨_, _, _, h4, h5, _⟩ := filterDom_spec cfg D hD _ dd.store (Theta.fcOf cfg dd).1 (Theta.fcOf cfg dd).2 hcur hdep
    hS.store
  obtain ⟨h6, _⟩ := filterDom_protected cfg D hD dd.store (Theta.fcOf cfg dd).1 (Theta.fcOf cfg dd).2 hcur hdep
    (fun n hn he => (hnode n hn he).1) hS.store
  exact ⟨h6, h4, h5.trans hS.len⟩

theorem stepLayer_sinv_joint (cfg : Cfg S K) (D : DomRule S K) (hD : cfg.dom = some D) (hNV : NvBound cfg.P)
    (B : Int) (p0 : List Dec) (dd dd' : DD S K) (var : Nat) (oc : Outcome) (hS : SInv cfg D dd) (hM : MInv cfg B p0 dd)
    (hdepth : dd.depth = cfg.root.depth + dd.layers.length)
    (hnv : cfg.P.nextVar dd.depth (dd.next.map (·.state)) = some var)
    (hst : stepLayer cfg dd var = (some dd', oc)) : SInv cfg D dd' := by
  by_cases hne : dd.next = []
  · rw [stepLayer_empty cfg dd var hne] at hst
    cases hst
    exact ⟨hS.store, hS.len⟩
  · obtain ⟨f3, f4, f5⟩ := fdOf_sinv_joint cfg D hD hNV B p0 dd var hS hM hdepth hnv
    obtain ⟨_, s2⟩ := stepLayer_joint cfg dd var hne
    obtain ⟨s1, s2⟩ := s2 f4
    cases hsq : squash cfg dd (CacheClosed.fdOf cfg dd).1 (CacheClosed.fdOf cfg dd).2.1 with
    | none => rw [s1 hsq] at hst; cases hst
    | some sq =>
      obtain ⟨dd1, e, _, _, _, _, es, _⟩ := s2 sq hsq
      rw [e] at hst
      cases hst
      exact ⟨es ▸ f3, es ▸ f5⟩

theorem buildLoop_sinv_joint (cfg : Cfg S K) (D : DomRule S K) (hD : cfg.dom = some D) (hNV : NvBound cfg.P)
    (B : Int) (hB : NoClamp cfg.P cfg.R cfg.root.value B) (p0 : List Dec) :
    ∀ (fuel : Nat) (dd : DD S K), SInv cfg D dd → MInv cfg B p0 dd → dd.depth = cfg.root.depth + dd.layers.length →
      dd.layers.length + fuel ≤ cfg.P.nbVars + 2 → SInv cfg D (buildLoop cfg none fuel dd).1 := by
  intro fuel dd hS hM hdepth hfuel
  refine buildLoop_ind_joint cfg
    (fun f dd => SInv cfg D dd ∧ MInv cfg B p0 dd ∧ dd.depth = cfg.root.depth + dd.layers.length ∧
      dd.layers.length + f ≤ cfg.P.nbVars + 2) (SInv cfg D) ?_ ?_ ?_ ?_ ?_ fuel dd ⟨hS, hM, hdepth, hfuel⟩
  · intro f dd var h
    exact ⟨⟨h.1.store, h.1.len⟩, h.2.1.congr rfl rfl, h.2.2.1, h.2.2.2⟩
  · intro f dd h; exact h.1
  · intro f dd h; exact ⟨h.1.store, h.1.len⟩
  · intro f dd h _; exact ⟨h.1.store, h.1.len⟩
  · intro f dd var sq dd' h hnv hne hsq hst hl hn hdd _
    obtain ⟨hS, hM, hdepth, hfuel⟩ := h
    obtain ⟨m1, m2, _⟩ := Ddo.stepLayer_inv cfg B p0 hB dd var hM hdepth hnv
      (Nat.le_trans (Nat.le_add_right _ f) (Nat.le_of_succ_le_succ hfuel)) dd' .ok hst
    obtain ⟨m2a, m2b⟩ := m2 rfl
    refine ⟨stepLayer_sinv_joint cfg D hD hNV B p0 dd dd' var .ok hS hM hdepth hnv hst, m1, m2a, ?_⟩
    rw [hl, List.length_append, List.length_singleton, Nat.add_right_comm]; exact hfuel

theorem compile_sinv_joint (cfg : Cfg S K) (D : DomRule S K) (hD : cfg.dom = some D)
    (hNV : NvBound cfg.P) (B : Int) (hB : NoClamp cfg.P cfg.R cfg.root.value B) (p0 : List Dec)
    (cache : Cache S) (store : DomStore S K) (polls : Nat)
    (hroot : Reach cfg.P cfg.root.depth cfg.root.state cfg.root.value p0)
    (hst : StoreReach D cfg.P store) (hlen : store.layers.length = cfg.P.nbVars + 1) :
    StoreReach D cfg.P (compile cfg cache store polls none).2.2.2.store ∧
    (compile cfg cache store polls none).2.2.2.store.layers.length = cfg.P.nbVars + 1 := by
  rw [compile_store]
  have h := buildLoop_sinv_joint cfg D hD hNV B hB p0 (cfg.P.nbVars + 2) (initDD cfg cache store polls) ⟨hst, hlen⟩
    (initDD_inv cfg B p0 hB hroot cache store polls) rfl (by simp only [initDD, List.length_nil]; omega)
  exact ⟨h.store, h.len⟩

/-- **the checker's entries stay exactly reached across a whole compilation with the cache enabled** (any compilation type, any
    cache content, any root reached exactly): `Ddo.C10.compile_storeReach` without `cfg.useCache = false` -/
theorem compile_storeReach_joint (cfg : Cfg S K) (D : DomRule S K) (hD : cfg.dom = some D)
    (hNV : NvBound cfg.P) (B : Int) (hB : NoClamp cfg.P cfg.R cfg.root.value B) (p0 : List Dec)
    (cache : Cache S) (store : DomStore S K) (polls : Nat)
    (hroot : Reach cfg.P cfg.root.depth cfg.root.state cfg.root.value p0)
    (hst : StoreReach D cfg.P store) (hlen : store.layers.length = cfg.P.nbVars + 1)
    (hok : (compile cfg cache store polls none).1 = .ok) :
    StoreReach D cfg.P (compile cfg cache store polls none).2.2.2.store :=
  (compile_sinv_joint cfg D hD hNV B hB p0 cache store polls hroot hst hlen).1

theorem kdprocess_storeReach {dv : DSolverCfg S K} {H : Nat → S → EInt} {B0 B : Int} (hwf : WellFormed dv.sv H B0 B)
    (st : SeqSt S) (c0 : Cache S) (d0 : DomStore S K) (N : SubP S) (t : KDSt S K)
    (hN : C01.NodeOk dv.sv.P N) (hclen : c0.layers.length = dv.sv.P.nbVars + 1)
    (hslen : d0.layers.length = dv.sv.P.nbVars + 1)
    (hst : StoreReach dv.D dv.sv.P d0) (h : dv.kdprocess st c0 d0 N = some t) :
    StoreReach dv.D dv.sv.P t.store := by
  obtain ⟨p0, hroot, hperm⟩ := hN
  rcases kdprocess_cases hwf st c0 d0 N p0 hroot hperm hclen hslen with
    ⟨_, hk⟩ | ⟨_, _, hk⟩ | ⟨_, _, _, c1, c2, cR, cX, hC⟩
  · rw [hk] at h; cases h; exact hst
  · rw [hk] at h; cases h; exact hst
  have hBN := hwf.noClamp hroot
  rw [hC.out] at h
  cases h
  have kR : StoreReach dv.D dv.sv.P cR.2.2.2.store := by
    rw [hC.eR]
    exact (compile_sinv_joint (dv.kdcfg .restricted N st.bestLb) dv.D rfl hwf.nv B hBN p0 c0 d0 0 hroot hst hslen).1
  show StoreReach dv.D dv.sv.P (if cR.2.1.isExact then cR.2.2.2.store else cX.2.2.2.store)
  have kX : StoreReach dv.D dv.sv.P cX.2.2.2.store := by
    rw [hC.eX]
    exact (compile_sinv_joint (dv.kdcfg .relaxed N _) dv.D rfl hwf.nv B hBN p0 c1 _ 0 hroot kR hC.storeR).1
  cases cR.2.1.isExact with
  | true => exact kR
  | false => exact kX

theorem kdturn_storeReach {dv : DSolverCfg S K} {H : Nat → S → EInt} {B0 B : Int} (hwf : WellFormed dv.sv H B0 B)
    (s t : KDSt S K) (N : SubP S) (rest : List (SubP S)) (hI : JSInv dv H s) (hS : StoreReach dv.D dv.sv.P s.store)
    (hpop : s.st.fringe.Perm (N :: rest)) (h : dv.kdturn s N rest = some t) :
    StoreReach dv.D dv.sv.P t.store := by
  obtain ⟨c0, hc0, hl0, _⟩ := cleanCache_spec dv.sv.P.nbVars s.st.openByLayer dv.sv.P.nbVars s.st.firstActive s.cache hI.clen
  unfold DSolverCfg.kdturn at h
  rw [hc0] at h
  exact kdprocess_storeReach hwf _ c0 _ N t (hI.nodes N (hpop.mem_iff.mpr List.mem_cons_self)) hl0 hI.slen hS h

theorem kdrun_storeReach {dv : DSolverCfg S K} {H : Nat → S → EInt} {B0 B : Int} (hwf : WellFormed dv.sv H B0 B)
    {s t : KDSt S K} (h : KDRun dv s t) (hI : JSInv dv H s) (hS : StoreReach dv.D dv.sv.P s.store) :
    StoreReach dv.D dv.sv.P t.store := by
  induction h with
  | refl => exact hS
  | tail hrun hstep ih =>
    cases hstep with
    | pop N rest hpop hmax hturn =>
      exact kdturn_storeReach hwf _ _ N rest (kdrun_inv hwf hrun hI) ih hpop hturn

/-- **along every run of the solver with cache and checker the checker only holds exactly reached items** -/
theorem krun_storeReach {dv : DSolverCfg S K} {H : Nat → S → EInt} {B0 B : Int} (hwf : WellFormed dv.sv H B0 B)
    {t : KDSt S K} (h : KDRun dv (KDSt.init dv) t) : StoreReach dv.D dv.sv.P t.store :=
  kdrun_storeReach hwf h (init_jsinv hwf) (storeReach_init dv.D dv.sv.P dv.sv.P.nbVars)

end Ddo.C10d

#print axioms Ddo.C10d.compile_storeReach_joint
#print axioms Ddo.C10d.kdturn_storeReach
#print axioms Ddo.C10d.krun_storeReach
