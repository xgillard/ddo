import DdoModel.Proofs.SeqInv
import DdoModel.Proofs.EInt
/-! The duplicate-free fringe (`pushSpec true`, `NoDupFringe`): what a push and a whole
    `enqueue_cutset` do to the fringe, stated through two relations between sub-problems

* `Dom s c`  — `s` *dominates* `c`: same `(state, depth)`, `c.value ≤ s.value`, `c.ub ≤ s.ub`
               (what a coalesced entry is to each of the two entries it replaces);
* `Orig M s` — `s` *originates* from the set `M`: it is some `a ∈ M` whose bound was raised to the
               bound of some `b ∈ M` (`s = { a with ub := b.ub }`, `a.ub ≤ b.ub`).

`Coalesces F L` ("the duplicate-free fringe `F` is a coalescing of the multiset `L`"): every entry
of `F` originates from `L` and every entry of `L` is dominated by an entry of `F`.
`enqueue_true_spec` says that the fringe after `st.enqueue true cs` is a coalescing of exactly
the multiset the plain fringe would hold (`enqueue_false_spec`); `Inv.of_coalesce` transports the
coverage invariant along `Coalesces` when `Phi` is monotone in the value. -/
set_option linter.unusedSectionVars false
namespace Ddo
variable {S : Type} [DecidableEq S]

/-- the entry that replaces `y` when `x` is pushed on a fringe holding `y` with the same key -/
def coal (x y : SubP S) : SubP S :=
  if x.value > y.value then { x with ub := max x.ub y.ub } else { y with ub := max x.ub y.ub }

theorem pushSpec_false (q : List (SubP S)) (x : SubP S) : pushSpec false q x = x :: q := rfl
theorem pushSpec_true_nil (x : SubP S) : pushSpec true [] x = [x] := rfl
theorem pushSpec_true_cons (x y : SubP S) (r : List (SubP S)) :
    pushSpec true (y :: r) x =
      if y.state = x.state ∧ y.depth = x.depth then coal x y :: r else y :: pushSpec true r x := rfl

structure Dom (s c : SubP S) : Prop where
  state : s.state = c.state
  depth : s.depth = c.depth
  value : c.value ≤ s.value
  ub : c.ub ≤ s.ub

theorem Dom.refl (c : SubP S) : Dom c c := ⟨rfl, rfl, Int.le_refl _, Int.le_refl _⟩
theorem Dom.trans {a b c : SubP S} (h1 : Dom a b) (h2 : Dom b c) : Dom a c :=
  ⟨h1.state.trans h2.state, h1.depth.trans h2.depth, Int.le_trans h2.value h1.value, Int.le_trans h2.ub h1.ub⟩

def Orig (M : SubP S → Prop) (s : SubP S) : Prop :=
  ∃ a b, M a ∧ M b ∧ s = { a with ub := b.ub } ∧ a.ub ≤ b.ub

theorem Orig.of_mem {M : SubP S → Prop} {s : SubP S} (h : M s) : Orig M s :=
  ⟨s, s, h, h, rfl, Int.le_refl _⟩
theorem Orig.bind {M1 M : SubP S → Prop} {s : SubP S} (h : Orig M1 s) (hM : ∀ a, M1 a → Orig M a) : Orig M s := by
  obtain ⟨a1, b1, ha1, hb1, rfl, hle⟩ := h
  obtain ⟨a, b, ha, _, rfl, hab⟩ := hM a1 ha1
  obtain ⟨a', b', _, hb', rfl, hab'⟩ := hM b1 hb1
  exact ⟨a, b', ha, hb', rfl, Int.le_trans hab hle⟩
theorem Orig.mono {M1 M : SubP S → Prop} {s : SubP S} (h : Orig M1 s) (hM : ∀ a, M1 a → M a) : Orig M s :=
  h.bind (fun a ha => Orig.of_mem (hM a ha))

theorem coal_orig (x y : SubP S) : Orig (fun c => c = x ∨ c = y) (coal x y) := by
  unfold coal
  rcases Int.le_total x.ub y.ub with h | h
  · have hm : max x.ub y.ub = y.ub := Int.max_eq_right h
    rw [hm]
    split
    · exact ⟨x, y, Or.inl rfl, Or.inr rfl, rfl, h⟩
    · exact ⟨y, y, Or.inr rfl, Or.inr rfl, rfl, Int.le_refl _⟩
  · have hm : max x.ub y.ub = x.ub := Int.max_eq_left h
    rw [hm]
    split
    · exact ⟨x, x, Or.inl rfl, Or.inl rfl, rfl, Int.le_refl _⟩
    · exact ⟨y, x, Or.inr rfl, Or.inl rfl, rfl, h⟩

theorem coal_dom (x y : SubP S) (h : y.state = x.state ∧ y.depth = x.depth) :
    Dom (coal x y) x ∧ Dom (coal x y) y := by
  unfold coal
  split
  · next hgt => exact ⟨⟨rfl, rfl, Int.le_refl _, Int.le_max_left _ _⟩, ⟨h.1.symm, h.2.symm, Int.le_of_lt hgt, Int.le_max_right _ _⟩⟩
  · next hgt => exact ⟨⟨h.1, h.2, Int.not_lt.mp hgt, Int.le_max_left _ _⟩, ⟨rfl, rfl, Int.le_refl _, Int.le_max_right _ _⟩⟩

theorem coal_key (x y : SubP S) (h : y.state = x.state ∧ y.depth = x.depth) :
    (coal x y).state = y.state ∧ (coal x y).depth = y.depth :=
  ⟨(coal_dom x y h).2.state, (coal_dom x y h).2.depth⟩

theorem pushSpec_true_orig (q : List (SubP S)) (x : SubP S) :
    ∀ s ∈ pushSpec true q x, Orig (fun c => c = x ∨ c ∈ q) s := by
  induction q with
  | nil =>
    intro s hs
    rw [pushSpec_true_nil] at hs
    rcases List.mem_cons.mp hs with e | e
    · exact Orig.of_mem (Or.inl e)
    · cases e
  | cons y r ih =>
    intro s hs
    rw [pushSpec_true_cons] at hs
    split at hs
    · rcases List.mem_cons.mp hs with e | e
      · subst e
        exact (coal_orig x y).mono (fun a ha => ha.elim Or.inl (fun h => Or.inr (h ▸ List.mem_cons_self)))
      · exact Orig.of_mem (Or.inr (List.mem_cons_of_mem _ e))
    · rcases List.mem_cons.mp hs with e | e
      · exact Orig.of_mem (Or.inr (e ▸ List.mem_cons_self))
      · exact (ih s e).mono (fun a ha => ha.elim Or.inl (fun h => Or.inr (List.mem_cons_of_mem _ h)))

theorem pushSpec_true_surv (q : List (SubP S)) (x : SubP S) :
    ∀ c, (c = x ∨ c ∈ q) → ∃ s ∈ pushSpec true q x, Dom s c := by
  induction q with
  | nil =>
    intro c hc
    rcases hc with e | e
    · exact ⟨x, by rw [pushSpec_true_nil]; exact List.mem_cons_self, e ▸ Dom.refl _⟩
    · cases e
  | cons y r ih =>
    intro c hc
    rw [pushSpec_true_cons]
    split
    · next hk =>
      rcases hc with e | e
      · exact ⟨coal x y, List.mem_cons_self, e ▸ (coal_dom x y hk).1⟩
      · rcases List.mem_cons.mp e with e | e
        · exact ⟨coal x y, List.mem_cons_self, e ▸ (coal_dom x y hk).2⟩
        · exact ⟨c, List.mem_cons_of_mem _ e, Dom.refl _⟩
    · rcases hc with e | e
      · obtain ⟨s, hs, hd⟩ := ih c (Or.inl e)
        exact ⟨s, List.mem_cons_of_mem _ hs, hd⟩
      · rcases List.mem_cons.mp e with e | e
        · exact ⟨y, List.mem_cons_self, e ▸ Dom.refl _⟩
        · obtain ⟨s, hs, hd⟩ := ih c (Or.inr e)
          exact ⟨s, List.mem_cons_of_mem _ hs, hd⟩

omit [DecidableEq S] in
theorem countP_depth_cons (g : Nat → Nat) (c : SubP S) (fr : List (SubP S)) (d : Nat) :
    (c :: fr).countP (fun c => g c.depth == d) = fr.countP (fun c => g c.depth == d) + if g c.depth = d then 1 else 0 := by
  rw [List.countP_cons]
  simp

/-- **a push grows the fringe by `δ ∈ {0, 1}` entries, at the depth of the pushed node**: the number of entries whose depth
    falls into a class `g · = d` grows by `δ` in the class of the pushed node and nowhere else (on the duplicate-free fringe
    the node is appended, `δ = 1`, or coalesced with an entry of the same depth, `δ = 0`) -/
theorem pushSpec_countP (g : Nat → Nat) (dedup : Bool) (q : List (SubP S)) (x : SubP S) :
    ∃ δ, δ ≤ 1 ∧ (pushSpec dedup q x).length = q.length + δ ∧
      ∀ d, (pushSpec dedup q x).countP (fun c => g c.depth == d) =
        q.countP (fun c => g c.depth == d) + if g x.depth = d then δ else 0 := by
  cases dedup with
  | false => exact ⟨1, Nat.le_refl _, rfl, fun d => countP_depth_cons g x q d⟩
  | true =>
    induction q with
    | nil => exact ⟨1, Nat.le_refl _, rfl, fun d => countP_depth_cons g x [] d⟩
    | cons y r ih =>
      rw [pushSpec_true_cons]
      split
      · next hk =>
        refine ⟨0, Nat.zero_le _, rfl, fun d => ?_⟩
        rw [countP_depth_cons, countP_depth_cons, (coal_key x y hk).2, ite_self]
        rfl
      · obtain ⟨δ, h0, h1, h2⟩ := ih
        refine ⟨δ, h0, by rw [List.length_cons, h1, List.length_cons, Nat.add_right_comm], fun d => ?_⟩
        rw [countP_depth_cons, countP_depth_cons, h2 d, Nat.add_right_comm]

theorem pushSpec_length (dedup : Bool) (q : List (SubP S)) (x : SubP S) :
    q.length ≤ (pushSpec dedup q x).length ∧ (pushSpec dedup q x).length ≤ q.length + 1 := by
  obtain ⟨δ, h0, h1, _⟩ := pushSpec_countP id dedup q x
  rw [h1]
  exact ⟨Nat.le_add_right _ _, Nat.add_le_add_left h0 _⟩

def KeysNodup (q : List (SubP S)) : Prop :=
  q.Pairwise (fun a b => ¬ (a.state = b.state ∧ a.depth = b.depth))

theorem pushSpec_true_key (q : List (SubP S)) (x : SubP S) :
    ∀ s ∈ pushSpec true q x, (s.state = x.state ∧ s.depth = x.depth) ∨ ∃ c ∈ q, s.state = c.state ∧ s.depth = c.depth := by
  intro s hs
  obtain ⟨a, b, ha, _, rfl, _⟩ := pushSpec_true_orig q x s hs
  rcases ha with e | e
  · exact Or.inl ⟨by rw [e], by rw [e]⟩
  · exact Or.inr ⟨a, e, rfl, rfl⟩

theorem pushSpec_true_keysNodup (q : List (SubP S)) (x : SubP S) (h : KeysNodup q) :
    KeysNodup (pushSpec true q x) := by
  unfold KeysNodup at *
  induction q with
  | nil => rw [pushSpec_true_nil]; exact List.pairwise_singleton _ _
  | cons y r ih =>
    rw [pushSpec_true_cons]
    obtain ⟨hy, hr⟩ := List.pairwise_cons.mp h
    split
    · next hk =>
      obtain ⟨k1, k2⟩ := coal_key x y hk
      refine List.pairwise_cons.mpr ⟨fun b hb => ?_, hr⟩
      rw [k1, k2]; exact hy b hb
    · next hk =>
      refine List.pairwise_cons.mpr ⟨fun b hb => ?_, ih hr⟩
      rcases pushSpec_true_key r x b hb with ⟨e1, e2⟩ | ⟨c, hc, e1, e2⟩
      · rw [e1, e2]; exact hk
      · rw [e1, e2]; exact hy c hc

def Coalesces (F : List (SubP S)) (L : SubP S → Prop) : Prop :=
  (∀ s ∈ F, Orig L s) ∧ (∀ c, L c → ∃ s ∈ F, Dom s c)

theorem Coalesces.refl (F : List (SubP S)) : Coalesces F (fun c => c ∈ F) :=
  ⟨fun _ hs => Orig.of_mem hs, fun c hc => ⟨c, hc, Dom.refl c⟩⟩

theorem Coalesces.congr {F : List (SubP S)} {L L' : SubP S → Prop} (h : Coalesces F L) (e : ∀ c, L c ↔ L' c) :
    Coalesces F L' :=
  ⟨fun s hs => (h.1 s hs).mono (fun a ha => (e a).mp ha), fun c hc => h.2 c ((e c).mpr hc)⟩

theorem Coalesces.trans {F : List (SubP S)} {L1 L : SubP S → Prop} (h : Coalesces F L1)
    (hO : ∀ a, L1 a → Orig L a) (hD : ∀ c, L c → ∃ s, L1 s ∧ Dom s c) : Coalesces F L := by
  refine ⟨fun s hs => (h.1 s hs).bind hO, fun c hc => ?_⟩
  obtain ⟨s1, hs1, hd1⟩ := hD c hc
  obtain ⟨s, hs, hd⟩ := h.2 s1 hs1
  exact ⟨s, hs, hd.trans hd1⟩

theorem enqOne_true_spec (st : SeqSt S) (c0 : SubP S) :
    (KeysNodup st.fringe → KeysNodup (enqOne true st c0).fringe) ∧
    Coalesces (enqOne true st c0).fringe (fun c => c ∈ st.fringe ∨ (c = c0 ∧ c0.ub > st.bestLb)) := by
  rw [(enqOne_spec true st c0).2.2.2.2]
  by_cases hgt : c0.ub > st.bestLb
  · rw [if_pos hgt]
    refine ⟨pushSpec_true_keysNodup st.fringe c0,
      fun s hs => (pushSpec_true_orig _ _ s hs).mono (fun a ha => ha.elim (fun h => Or.inr ⟨h, hgt⟩) Or.inl),
      fun c hc => pushSpec_true_surv _ _ c (hc.elim Or.inr (fun h => Or.inl h.1))⟩
  · rw [if_neg hgt]
    exact ⟨id, (Coalesces.refl st.fringe).congr (fun c => ⟨Or.inl, fun h => h.elim id (fun h => absurd h.2 hgt)⟩)⟩

/-- the fringe stays duplicate-free and is a coalescing of exactly the multiset the plain fringe would hold (`enqueue_false_spec`) -/
theorem enqueue_true_spec (st : SeqSt S) (cs : List (SubP S)) :
    (st.enqueue true cs).bestLb = st.bestLb ∧ (st.enqueue true cs).bestSol = st.bestSol ∧
    (st.enqueue true cs).bestUb = st.bestUb ∧ (st.enqueue true cs).abort = st.abort ∧
    (KeysNodup st.fringe → KeysNodup (st.enqueue true cs).fringe) ∧
    Coalesces (st.enqueue true cs).fringe
      (fun c => c ∈ st.fringe ∨ ∃ c0 ∈ cs, c = c0 ∧ c0.ub > st.bestLb) := by
  have hf := enqueue_fields true st cs
  refine ⟨hf.1, hf.2.1, hf.2.2.1, hf.2.2.2, ?_⟩
  clear hf
  induction cs generalizing st with
  | nil => exact ⟨id, (Coalesces.refl st.fringe).congr (fun c => ⟨Or.inl, fun h => h.elim id (fun ⟨_, h, _⟩ => (nomatch h))⟩)⟩
  | cons c0 cs ih =>
    obtain ⟨hk, h5⟩ := enqOne_true_spec st c0
    obtain ⟨ik, i5⟩ := ih (enqOne true st c0)
    refine ⟨fun h => ik (hk h), ?_⟩
    rw [(enqOne_spec true st c0).1] at i5
    refine i5.trans ?_ ?_
    · rintro a (ha | ⟨c1, hc1, e, hg⟩)
      · exact (h5.1 a ha).mono (fun b hb => hb.elim Or.inl (fun h => Or.inr ⟨c0, List.mem_cons_self, h.1, h.2⟩))
      · exact Orig.of_mem (Or.inr ⟨c1, List.mem_cons_of_mem _ hc1, e, hg⟩)
    · rintro c (hc | ⟨c1, hc1, e, hg⟩)
      · obtain ⟨s, hs, hd⟩ := h5.2 c (Or.inl hc)
        exact ⟨s, Or.inl hs, hd⟩
      · rcases List.mem_cons.mp hc1 with e1 | e1
        · subst e1
          obtain ⟨s, hs, hd⟩ := h5.2 c (Or.inr ⟨e, hg⟩)
          exact ⟨s, Or.inl hs, hd⟩
        · exact ⟨c, Or.inr ⟨c1, e1, e, hg⟩, Dom.refl c⟩

theorem enqueue_true_coalesces_false (st : SeqSt S) (cs : List (SubP S)) :
    Coalesces (st.enqueue true cs).fringe (fun c => c ∈ (st.enqueue false cs).fringe) := by
  obtain ⟨_, _, _, _, _, h⟩ := enqueue_true_spec st cs
  obtain ⟨_, _, _, _, e⟩ := enqueue_false_spec st cs
  exact h.congr (fun c => (e c).symm)

/-- **specification of `enqueue_cutset`, either fringe**: the incumbent, `best_ub` and `abort` are untouched, and the new fringe is a
    coalescing of the old one together with the cut-set nodes that beat the incumbent — on the plain fringe exactly that multiset.
    (The bookkeeping `open_by_layer` / `crashed`, which needs its own invariant: `Closed.enqueue_layers`.) -/
theorem SeqSt.enqueue_spec (dedup : Bool) (st : SeqSt S) (cs : List (SubP S)) :
    (st.enqueue dedup cs).bestLb = st.bestLb ∧ (st.enqueue dedup cs).bestSol = st.bestSol ∧
    (st.enqueue dedup cs).bestUb = st.bestUb ∧ (st.enqueue dedup cs).abort = st.abort ∧
    Coalesces (st.enqueue dedup cs).fringe (fun c => c ∈ st.fringe ∨ ∃ c0 ∈ cs, c = c0 ∧ c0.ub > st.bestLb) ∧
    (dedup = false → ∀ c, c ∈ (st.enqueue dedup cs).fringe ↔ (c ∈ st.fringe ∨ ∃ c0 ∈ cs, c = c0 ∧ c0.ub > st.bestLb)) := by
  obtain ⟨e1, e2, e3, e4⟩ := enqueue_fields dedup st cs
  refine ⟨e1, e2, e3, e4, ?_⟩
  cases dedup
  · exact ⟨(Coalesces.refl _).congr (enqueue_false_spec st cs).2.2.2.2, fun _ => (enqueue_false_spec st cs).2.2.2.2⟩
  · exact ⟨(enqueue_true_spec st cs).2.2.2.2.2, nofun⟩

theorem Coalesces.forall {F : List (SubP S)} {L : SubP S → Prop} (h : Coalesces F L) {Q : SubP S → Prop}
    (hQ : ∀ (c : SubP S) (u : Int), Q c → Q { c with ub := u }) (hL : ∀ a, L a → Q a) : ∀ s ∈ F, Q s := fun s hs => by
  obtain ⟨a, b, ha, _, rfl, _⟩ := h.1 s hs
  exact hQ a _ (hL a ha)

theorem Coalesces.covers {F : List (SubP S)} {L : SubP S → Prop} (h : Coalesces F L) {On : SubP S → Prop}
    (hOn : ∀ a b : SubP S, a.state = b.state → a.depth = b.depth → a.value ≤ b.value → On a → On b)
    {c : SubP S} (hc : L c) (h1 : On c) {u : Int} (h2 : u ≤ c.ub) : ∃ y, y ∈ F ∧ On y ∧ u ≤ y.ub :=
  let ⟨y, hy, hd⟩ := h.2 c hc
  ⟨y, hy, hOn c y hd.state.symm hd.depth.symm hd.value h1, Int.le_trans h2 hd.ub⟩

section
variable (Phi : SubP S → EInt) (opt : Int) (Sol : List Dec → Int → Prop)

def PhiMono : Prop :=
  ∀ a b : SubP S, a.state = b.state → a.depth = b.depth → a.value ≤ b.value → Phi a ≤ Phi b

/-- monotonicity implies that `Phi` ignores the bound (the `hPhi` of `C01.process_inv`) and the path -/
theorem PhiMono.ub_irrel (h : PhiMono Phi) (c : SubP S) (u : Int) : Phi { c with ub := u } = Phi c :=
  Examples.EMax.le_antisymm (h _ _ rfl rfl (Int.le_refl _)) (h _ _ rfl rfl (Int.le_refl _))

theorem PhiMono.path_irrel (h : PhiMono Phi) (c : SubP S) (p : List Dec) : Phi { c with path := p } = Phi c :=
  Examples.EMax.le_antisymm (h _ _ rfl rfl (Int.le_refl _)) (h _ _ rfl rfl (Int.le_refl _))

/-- the intended `Phi`: value so far plus the potential `H depth state` of the best completion -/
theorem phiMono_of_potential (H : Nat → S → EInt) : PhiMono (fun c : SubP S => (H c.depth c.state).addI c.value) := by
  intro a b hs hd hv
  show (H a.depth a.state).addI a.value ≤ (H b.depth b.state).addI b.value
  rw [hs, hd]
  cases h : H b.depth b.state with
  | none => exact EInt.none_le _
  | some z => exact Int.add_le_add_left hv z

theorem Inv.of_coalesce (hmono : PhiMono Phi) {L F : List (SubP S)} {lb : Int} {sol : Option (List Dec)}
    (hinv : Inv Phi opt Sol L lb sol) (hco : Coalesces F (fun c => c ∈ L)) : Inv Phi opt Sol F lb sol := by
  have hgood : ∀ s ∈ F, Good Phi opt s := by
    intro s hs
    obtain ⟨a, b, ha, _, rfl, _⟩ := hco.1 s hs
    intro y hy; rw [hmono.ub_irrel] at hy; exact hinv.good a ha y hy
  refine ⟨hgood, ?_, hinv.lbOk, hinv.solOk, fun hgt => ?_⟩
  · intro s hs
    obtain ⟨a, b, ha, _, rfl, hab⟩ := hco.1 s hs
    intro y hy hlt; rw [hmono.ub_irrel] at hy
    exact Int.le_trans (hinv.ubOk a ha y hy hlt) hab
  · obtain ⟨c, hc, hP, hU⟩ := hinv.cover hgt
    obtain ⟨s, hs, hd⟩ := hco.2 c hc
    have hle : Phi c ≤ Phi s := hmono c s hd.state.symm hd.depth.symm hd.value
    rw [hP] at hle
    cases hPs : Phi s with
    | none => rw [hPs] at hle; exact absurd hle (by simp)
    | some y =>
      rw [hPs] at hle
      have : y = opt := Int.le_antisymm (hgood s hs y hPs) hle
      rw [this] at hPs
      exact ⟨s, hs, hPs, Int.le_trans hU hd.ub⟩

end
end Ddo

namespace Ddo.C01b
variable {S : Type} [DecidableEq S]

/-- the duplicate-free run of `process_one_node` against the plain one, from the same state -/
theorem process_dedup_rel (st : SeqSt S) (N : SubP S) (me : Bool) (r x : DDRes S) :
    (st.process true N me r x).1.bestLb = (st.process false N me r x).1.bestLb ∧
    (st.process true N me r x).1.bestSol = (st.process false N me r x).1.bestSol ∧
    (st.process true N me r x).1.bestUb = (st.process false N me r x).1.bestUb ∧
    (st.process true N me r x).1.abort = (st.process false N me r x).1.abort ∧
    (st.process true N me r x).2 = (st.process false N me r x).2 ∧
    (KeysNodup st.fringe → KeysNodup (st.process true N me r x).1.fringe) ∧
    Coalesces (st.process true N me r x).1.fringe (fun c => c ∈ (st.process false N me r x).1.fringe) := by
  have knil : KeysNodup ([] : List (SubP S)) := List.Pairwise.nil
  have fr : ∀ r0 x0, ((st.updateBest r0).updateBest x0).fringe = st.fringe := fun r0 x0 =>
    (updateBest_fringe _ x0).1.trans (updateBest_fringe st r0).1
  rcases SeqSt.process_cases st N me r x with
    ⟨_, e⟩ | ⟨_, _, ⟨_, e⟩ | ⟨r0, _, ⟨_, e⟩ | ⟨_, ⟨_, e⟩ | ⟨x0, _, ⟨_, e⟩ | ⟨_, e⟩⟩⟩⟩⟩ <;> rw [e true, e false]
  · exact ⟨rfl, rfl, rfl, rfl, rfl, id, Coalesces.refl _⟩
  · exact ⟨rfl, rfl, rfl, rfl, rfl, fun _ => knil, Coalesces.refl _⟩
  · exact ⟨rfl, rfl, rfl, rfl, rfl, fun h => (updateBest_fringe st r0).1.symm ▸ h, Coalesces.refl _⟩
  · exact ⟨rfl, rfl, rfl, rfl, rfl, fun _ => knil, Coalesces.refl _⟩
  · exact ⟨rfl, rfl, rfl, rfl, rfl, fun h => (fr r0 x0).symm ▸ h, Coalesces.refl _⟩
  · obtain ⟨t1, t2, t3, t4, tk, _⟩ := enqueue_true_spec ((st.updateBest r0).updateBest x0) x0.cutset
    obtain ⟨e1, e2, e3, e4⟩ := enqueue_fields false ((st.updateBest r0).updateBest x0) x0.cutset
    exact ⟨t1.trans e1.symm, t2.trans e2.symm, t3.trans e3.symm, t4.trans e4.symm, rfl,
      fun h => tk ((fr r0 x0).symm ▸ h), enqueue_true_coalesces_false _ _⟩

end Ddo.C01b
