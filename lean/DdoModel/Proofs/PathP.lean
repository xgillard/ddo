import DdoModel.Proofs.MddCutset
/-! Potential-preserving paths through a layered diagram whose arcs may come from **any** earlier layer (`PathP`): the form
    the pooled diagram needs (long arcs, layer `i` at depth `dep i`).  The paths of the clean diagram (`Bounds.Path`, every arc
    into the next layer, `dep i = k0 + i`) are instances (`Bounds.Path.toP`), so what is proved here about the end of a path and
    about the first inexact node on it serves both diagrams. -/
set_option linter.unusedSectionVars false
namespace Ddo.Pooled

theorem pot_step {o v h c h' w : Int} (hle : o ≤ v + h) (hc : h ≤ c + h') (hw : v + c ≤ w) : o ≤ w + h' := by omega

end Ddo.Pooled

namespace Ddo.PBounds
open Ddo Ddo.Pooled
variable {S : Type} [DecidableEq S]

/-- `PathP LS H dep B l p h r nx`: from the node at position `(l, p)` of the diagram `LS` (layer `i` at depth `dep i`),
    whose state has potential `h`, a path of `r` arcs — each into a **later** layer — leads to the last layer, no
    potential being lost along any arc; `nx` = the layer its first arc lands in (`LS.length` for the empty path) -/
inductive PathP (LS : List (List (Node S))) (H : Nat → S → EInt) (dep : Nat → Nat) (B : Int) :
    Nat → Nat → Int → Nat → Nat → Prop
  | term (l p : Nat) (n : Node S) : l + 1 = LS.length → getNode LS l p = some n → H (dep l) n.state = some 0 →
      PathP LS H dep B l p 0 0 LS.length
  | step (l p l' p' : Nat) (n m : Node S) (e : Arc) (h h' : Int) (r nx : Nat) :
      l < l' → getNode LS l p = some n → getNode LS l' p' = some m → e ∈ m.inb → e.fromL = l → e.fromP = p →
      Cover.Within B e.cost → H (dep l) n.state = some h → H (dep l') m.state = some h' →
      h ≤ e.cost + h' → n.value + e.cost ≤ m.value → PathP LS H dep B l' p' h' r nx →
      PathP LS H dep B l p h (r + 1) l'

section
variable {LS : List (List (Node S))} {H : Nat → S → EInt} {dep : Nat → Nat} {B : Int} {l p : Nat} {h : Int} {r nx : Nat}

theorem PathP.len (hp : PathP LS H dep B l p h r nx) : l + r + 1 ≤ LS.length := by
  induction hp with
  | term l p n hl _ _ => exact Nat.le_of_eq hl
  | step l p l' p' n m e h h' r nx hll _ _ _ _ _ _ _ _ _ _ _ ih => omega

theorem PathP.lt_nx (hp : PathP LS H dep B l p h r nx) : l < nx ∧ nx ≤ LS.length := by
  cases hp with
  | term l p n hl _ _ => exact ⟨hl ▸ Nat.lt_succ_self l, Nat.le_refl _⟩
  | step l p l' p' n m e h h' r nx hll _ hm _ _ _ _ _ _ _ _ _ => exact ⟨hll, Nat.le_of_lt (Ddo.getNode_lt hm)⟩

theorem PathP.bound (hp : PathP LS H dep B l p h r nx) : h ≤ (r : Int) * B := by
  induction hp with
  | term l p n hl _ _ => simp
  | step l p l' p' n m e h h' r nx _ _ _ _ _ _ hw _ _ hle _ _ ih =>
    rw [Int.natCast_succ, Int.add_mul, Int.one_mul, Int.add_comm]
    exact Int.le_trans hle (Int.add_le_add hw.2 ih)

theorem PathP.node (hp : PathP LS H dep B l p h r nx) : ∃ n, getNode LS l p = some n ∧ H (dep l) n.state = some h := by
  cases hp with
  | term l p n _ hn hH => exact ⟨n, hn, hH⟩
  | step l p l' p' n m e h h' r nx _ hn _ _ _ _ _ hH _ _ _ _ => exact ⟨n, hn, hH⟩

theorem PathP.terminal (hp : PathP LS H dep B l p h r nx) :
    ∀ n, getNode LS l p = some n → ∃ pt tn, getNode LS (LS.length - 1) pt = some tn ∧ n.value + h ≤ tn.value := by
  induction hp with
  | term l p n hl hn _ =>
    intro n' hn'
    rw [hn] at hn'; cases hn'
    exact ⟨p, n, by rw [← hl, Nat.add_sub_cancel]; exact hn, Int.le_of_eq (Int.add_zero _)⟩
  | step l p l' p' n m e h h' r nx _ hn hm _ _ _ _ _ _ hle hval _ ih =>
    intro n' hn'
    rw [hn] at hn'; cases hn'
    obtain ⟨pt, tn, htn, hv⟩ := ih m hm
    exact ⟨pt, tn, htn, Int.le_trans (pot_step (Int.le_refl _) hle hval) hv⟩

/-- following a potential-preserving path from an exact node: it stays exact down to a terminal node of value `≥ o`,
    or it meets an exact node with an arc into an inexact node -/
theorem PathP.frontier (hp : PathP LS H dep B l p h r nx) (o : Int) :
    ∀ n, getNode LS l p = some n → n.isExact = true → o ≤ n.value + h →
      (∃ pt tn, getNode LS (LS.length - 1) pt = some tn ∧ tn.isExact = true ∧ o ≤ tn.value) ∨
      (∃ (l1 p1 : Nat) (n1 : Node S) (h1 : Int) (r1 nx1 : Nat) (l2 p2 : Nat) (m : Node S) (e : Arc),
        PathP LS H dep B l1 p1 h1 r1 nx1 ∧ getNode LS l1 p1 = some n1 ∧ n1.isExact = true ∧ o ≤ n1.value + h1 ∧
        getNode LS l2 p2 = some m ∧ m.isExact = false ∧ e ∈ m.inb ∧ e.fromL = l1 ∧ e.fromP = p1) := by
  induction hp with
  | term l p n hl hn hH =>
    intro n' hn' hex ho
    rw [hn] at hn'; cases hn'
    exact .inl ⟨p, n, by rw [← hl, Nat.add_sub_cancel]; exact hn, hex, Int.add_zero n.value ▸ ho⟩
  | step l p l' p' n m e h h' r nx hll hn hm he hfl hfp hw hH hH' hle hval hp' ih =>
    intro n' hn' hex ho
    rw [hn] at hn'; cases hn'
    by_cases hme : m.isExact = true
    · exact ih m hm hme (pot_step ho hle hval)
    · exact .inr ⟨l, p, n, h, r + 1, l', l', p', m, e,
        .step l p l' p' n m e h h' r nx hll hn hm he hfl hfp hw hH hH' hle hval hp',
        hn, hex, ho, hm, by simpa using hme, he, hfl, hfp⟩

end

end Ddo.PBounds
