import DdoModel.Proofs.ParCacheModel
import DdoModel.Proofs.ParCacheCoverStep
import DdoModel.Proofs.ParCacheLay
import DdoModel.Proofs.ParCacheTerm
import DdoModel.Proofs.CacheClosedSolver
import DdoModel.Proofs.ParClosed
/-! # The parallel caching solver over the diagram model — closing

* `PCK` — the side conditions of the diagram theorems as an invariant of `KPStep sv` (every fringe entry and every node in
  a hand is reached exactly, the incumbent and every stale copy of it is in `[isize::MIN, B]`, what a worker carries after a
  compilation is an answer of the diagram model); it gives `DepthOk` (`pck_depthOk`).
* `okRk_contract` / `okXk_contract` — **the contracts `OkRc` / `OkXc` of `Proofs/ParCacheCover.lean` are theorems about the
  diagram model**, for any virtual cache whatsoever: `CompC` from `Proofs/CacheClosedContract.lean`, the strict threshold
  contract from `Proofs/ParCacheTheta.lean`, `fresh1` from `fresh_contract_of_model`.
* `KInvAll` — `PCK ∧ LayInvK ∧ (feasible → KPInv)` holds in every reachable state (`kprun_inv`). -/
set_option linter.unusedSectionVars false
set_option linter.unusedVariables false
namespace Ddo.ParCache
open Ddo Ddo.Truth Ddo.Closed Ddo.ParSys Ddo.ParClosed Ddo.C09 Ddo.Theta
open Ddo.C01 (SolverCfg WellFormed toOut SolOf)
variable {S : Type} [DecidableEq S]

def WInvK (sv : SolverCfg S) (B : Int) : KW S → Prop
  | .compR _ lb _ => iMin ≤ lb ∧ lb ≤ B
  | .compX _ lb _ => iMin ≤ lb ∧ lb ≤ B
  | .wrR n lb o cv ups todo => (iMin ≤ lb ∧ lb ≤ B) ∧ okRk sv n lb cv o ups ∧ ∀ u ∈ todo, u ∈ ups
  | .wrX n lb o cv ups todo => (iMin ≤ lb ∧ lb ≤ B) ∧ okXk sv n lb cv o ups ∧ ∀ u ∈ todo, u ∈ ups
  | .enq n lb o cv ups => (iMin ≤ lb ∧ lb ≤ B) ∧ okXk sv n lb cv o ups
  | _ => True

structure WOkK (sv : SolverCfg S) (B : Int) (w : KW S) : Prop where
  node : ∀ n, (w.node = some n ∨ w.openNode = some n) → C01.NodeOk sv.P n
  stage : WInvK sv B w

structure PCK (sv : SolverCfg S) (H : Nat → S → EInt) (B : Int) (s : KSys S) : Prop where
  base : BaseOk sv H B s.crit.base
  ws : ∀ w ∈ s.ws, WOkK sv B w

theorem okRk_facts {sv : SolverCfg S} {H : Nat → S → EInt} {B0 B : Int} (hwf : WellFormed sv H B0 B)
    {n : SubP S} {lb : Int} {cv : Cache S} {o : DDOut S} {ups : List (Up S)} (hn : C01.NodeOk sv.P n)
    (hok : okRk sv n lb cv o ups) :
    (∀ w, o.bestExact = some w → w ≤ B ∧ ∃ p, o.bestExactSol = some p) ∧
    ((H 0 sv.P.init).addI sv.P.initVal = none → o.bestExact = none) ∧ (∀ u ∈ ups, u.2.1 ≤ sv.P.nbVars) := by
  obtain ⟨p0, hroot, hperm⟩ := hn
  obtain ⟨hout, rfl, rfl⟩ := hok
  have hBN : NoClamp sv.P sv.R n.value B := hwf.bound.noClamp_at hwf.nv hroot
  obtain ⟨h1, h2⟩ := diagram_sol_facts hwf hroot (sv.ccfg .restricted n lb) rfl rfl (o := toOut (sv.cresR cv n lb))
    (fun w hw => isSol_restricted (sv.ccfg .restricted n lb) B p0 cv _ 0 none rfl hBN hroot hout w hw)
  exact ⟨h1, h2, fun u hu => ups_depth_restricted (sv.ccfg .restricted n lb) H B p0 cv (DomStore.init sv.P.nbVars) 0 rfl rfl
    (hwf.width n) hwf.pot hwf.merge hwf.attMerge hBN hwf.nv hroot hout u (List.mem_reverse.mp hu)⟩

theorem okXk_facts {sv : SolverCfg S} {H : Nat → S → EInt} {B0 B : Int} (hwf : WellFormed sv H B0 B)
    {n : SubP S} {lb : Int} {cv : Cache S} {o : DDOut S} {ups : List (Up S)} (hn : C01.NodeOk sv.P n)
    (hok : okXk sv n lb cv o ups) :
    (∀ w, o.bestExact = some w → w ≤ B ∧ ∃ p, o.bestExactSol = some p) ∧
    ((H 0 sv.P.init).addI sv.P.initVal = none → o.bestExact = none) ∧ (∀ u ∈ ups, u.2.1 ≤ sv.P.nbVars) ∧
    (∀ c ∈ o.cutset, C01.NodeOk sv.P c ∧ n.depth < c.depth ∧ c.depth ≤ sv.P.nbVars) := by
  obtain ⟨p0, hroot, hperm⟩ := hn
  obtain ⟨hout, rfl, rfl⟩ := hok
  have hBN : NoClamp sv.P sv.R n.value B := hwf.bound.noClamp_at hwf.nv hroot
  obtain ⟨h1, h2⟩ := diagram_sol_facts hwf hroot (sv.ccfg .relaxed n lb) rfl rfl (o := toOut (sv.cresX cv n lb))
    (fun w hw => CacheClosed.isSol_relaxed_cached _ B p0 cv _ 0 rfl rfl (hwf.width n) hBN hroot hout w hw)
  refine ⟨h1, h2, fun u hu => ?_, fun c hc => ?_⟩
  · exact ups_depth_relaxed (sv.ccfg .relaxed n lb) H B p0 cv (DomStore.init sv.P.nbVars) 0 none rfl rfl
      (hwf.width n) hwf.pot hwf.merge hwf.attMerge hBN hwf.nv hroot hout _ (.inl rfl) u (List.mem_reverse.mp hu)
  · have hc : c ∈ (sv.cresX cv n lb).cutset := hc
    have h := cutset_node_facts (sv.ccfg .relaxed n lb) B p0 cv _ 0 none hwf.nv hroot hperm hBN hout _ (.inl rfl) c hc
    exact ⟨h.1, h.2.1 rfl, h.2.2⟩

theorem wokk_wake {sv : SolverCfg S} {B : Int} {w : KW S} (h : WOkK sv B w) : WOkK sv B w.wake := by
  cases w <;> first | exact h | exact ⟨fun n hn => (by rcases hn with e | e <;> cases e), trivial⟩

theorem wokk_keep {sv : SolverCfg S} {B : Int} {a : KW S} {m : SubP S} (hm : C01.NodeOk sv.P m)
    (h1 : ∀ n, a.node = some n → n = m) (h2 : ∀ n, a.openNode = some n → n = m) (hs : WInvK sv B a) : WOkK sv B a :=
  ⟨(fun n hn => by rcases hn with e | e; rw [h1 n e]; exact hm; rw [h2 n e]; exact hm), hs⟩

theorem wokk_free {sv : SolverCfg S} {B : Int} {a : KW S} (h1 : a.node = none) (h2 : a.openNode = none)
    (hs : WInvK sv B a) : WOkK sv B a :=
  ⟨(fun n hn => by rcases hn with e | e; rw [h1] at e; cases e; rw [h2] at e; cases e), hs⟩

theorem kpstep_pck {sv : SolverCfg S} {H : Nat → S → EInt} {B0 B : Int} (hwf : WellFormed sv H B0 B) {s t : KSys S}
    (h : KPStep sv s t) (hI : PCK sv H B s) : PCK sv H B t := by
  have hmem : ∀ {i : Nat} {w : KW S}, s.ws[i]? = some w → WOkK sv B w :=
    fun hw => hI.ws _ (List.mem_of_getElem? hw)
  cases h with
  | gwEnter i hw hl => exact ⟨hI.base, mem_set_elim hI.ws (wokk_free rfl rfl trivial)⟩
  | gwClear i c' hw hc hcl => exact ⟨hI.base.of_eq (fun c hc => hc) rfl rfl, hI.ws⟩
  | gwComplete i hw hc ho hf =>
    exact ⟨hI.base.of_eq (fun c hc => hc) rfl rfl, mem_set_elim hI.ws (wokk_free rfl rfl trivial)⟩
  | gwWait i hw hc ho hf => exact ⟨hI.base, mem_set_elim hI.ws (wokk_free rfl rfl trivial)⟩
  | gwToPop i hw hc hf => exact ⟨hI.base, mem_set_elim hI.ws (wokk_free rfl rfl trivial)⟩
  | gwEmpty i hw hf => exact ⟨hI.base, mem_set_elim hI.ws (wokk_free rfl rfl trivial)⟩
  | gwStarve i N rest hw hp hub =>
    exact ⟨hI.base.of_eq (fun c hc => by cases hc) rfl rfl, mem_set_elim hI.ws (wokk_free rfl rfl trivial)⟩
  | gwDrop i N rest c' hw hp hub hme hd =>
    obtain ⟨e1, e2, e3⟩ := dropOne_spec hd
    exact ⟨hI.base.of_eq (fun c hc => by rw [e1] at hc; exact (mem_of_popMax hp c).mpr (.inr hc)) e2 e3, hI.ws⟩
  | gwKeep i N rest hw hp hub hme =>
    have hN : N ∈ s.crit.base.fringe := (mem_of_popMax hp N).mpr (.inl rfl)
    exact ⟨hI.base.of_eq (fun c hc => (mem_of_popMax hp c).mpr (.inr hc)) rfl rfl,
      mem_set_elim hI.ws (wokk_keep (hI.base.fr N hN) (fun n e => by cases e) (fun n e => by cases e; rfl) trivial)⟩
  | gwTake i n c' crit' hw hu ht =>
    obtain ⟨t1, t2, t3, _⟩ := take_spec ht
    exact ⟨hI.base.of_eq (fun c hc => by rw [t1] at hc; exact hc) t2 t3,
      mem_set_elim hI.ws (wokk_keep ((hmem hw).node n (.inr rfl)) (fun n e => by cases e; rfl) (fun n e => by cases e; rfl) trivial)⟩
  | readLbR i n hw hl =>
    refine ⟨hI.base, mem_set_elim hI.ws ?_⟩
    have hn := (hmem hw).node n (.inl rfl)
    split
    · exact wokk_keep hn (fun n e => by cases e; rfl) (fun n e => by cases e) trivial
    · exact wokk_keep hn (fun n e => by cases e; rfl) (fun n e => by cases e; rfl) ⟨hI.base.lbLo, hI.base.lbHi⟩
  | compileR i n lb k0 cv o ups hw hcv hok
  | compileX i n lb k0 cv o ups hw hcv hok =>
    exact ⟨hI.base, mem_set_elim hI.ws (wokk_keep ((hmem hw).node n (.inl rfl)) (fun n e => by cases e; rfl)
      (fun n e => by cases e; rfl) ⟨(hmem hw).stage, hok, fun u hu => hu⟩)⟩
  | writeR i n lb o cv ups u todo c' hw hu =>
    obtain ⟨h1, h2, h3⟩ : (iMin ≤ lb ∧ lb ≤ B) ∧ okRk sv n lb cv o ups ∧ ∀ u' ∈ u :: todo, u' ∈ ups := (hmem hw).stage
    exact ⟨hI.base, mem_set_elim hI.ws (wokk_keep ((hmem hw).node n (.inl rfl)) (fun n e => by cases e; rfl)
      (fun n e => by cases e; rfl) ⟨h1, h2, fun u' hu' => h3 u' (List.mem_cons_of_mem _ hu')⟩)⟩
  | updateR i n lb o cv ups hw hl =>
    obtain ⟨h1, h2, _⟩ : (iMin ≤ lb ∧ lb ≤ B) ∧ okRk sv n lb cv o ups ∧ ∀ u' ∈ ([] : List (Up S)), u' ∈ ups := (hmem hw).stage
    have hn := (hmem hw).node n (.inl rfl)
    obtain ⟨f1, f2, _⟩ := okRk_facts hwf hn h2
    refine ⟨baseOk_update hI.base f1 f2, mem_set_elim hI.ws ?_⟩
    split
    · exact wokk_keep hn (fun n e => by cases e; rfl) (fun n e => by cases e) trivial
    · exact wokk_keep hn (fun n e => by cases e; rfl) (fun n e => by cases e; rfl) trivial
  | readLbX i n hw hl =>
    exact ⟨hI.base, mem_set_elim hI.ws (wokk_keep ((hmem hw).node n (.inl rfl)) (fun n e => by cases e; rfl)
      (fun n e => by cases e; rfl) ⟨hI.base.lbLo, hI.base.lbHi⟩)⟩
  | writeX i n lb o cv ups u todo c' hw hu =>
    obtain ⟨h1, h2, h3⟩ : (iMin ≤ lb ∧ lb ≤ B) ∧ okXk sv n lb cv o ups ∧ ∀ u' ∈ u :: todo, u' ∈ ups := (hmem hw).stage
    exact ⟨hI.base, mem_set_elim hI.ws (wokk_keep ((hmem hw).node n (.inl rfl)) (fun n e => by cases e; rfl)
      (fun n e => by cases e; rfl) ⟨h1, h2, fun u' hu' => h3 u' (List.mem_cons_of_mem _ hu')⟩)⟩
  | updateX i n lb o cv ups hw hl =>
    obtain ⟨h1, h2, _⟩ : (iMin ≤ lb ∧ lb ≤ B) ∧ okXk sv n lb cv o ups ∧ ∀ u' ∈ ([] : List (Up S)), u' ∈ ups := (hmem hw).stage
    have hn := (hmem hw).node n (.inl rfl)
    obtain ⟨f1, f2, _⟩ := okXk_facts hwf hn h2
    refine ⟨baseOk_update hI.base f1 f2, mem_set_elim hI.ws ?_⟩
    split
    · exact wokk_keep hn (fun n e => by cases e; rfl) (fun n e => by cases e) trivial
    · exact wokk_keep hn (fun n e => by cases e; rfl) (fun n e => by cases e; rfl) ⟨h1, h2⟩
  | enqueue i n lb o cv ups hw hl =>
    obtain ⟨h1, h2⟩ : (iMin ≤ lb ∧ lb ≤ B) ∧ okXk sv n lb cv o ups := (hmem hw).stage
    have hn := (hmem hw).node n (.inl rfl)
    obtain ⟨_, _, _, f3⟩ := okXk_facts hwf hn h2
    obtain ⟨e1, e2⟩ := enqueue_lb_sol sv.dedup s.crit.base o.cutset
    refine ⟨⟨?_, ?_, ?_, ?_, ?_⟩, mem_set_elim hI.ws (wokk_keep hn (fun n e => by cases e; rfl) (fun n e => by cases e) trivial)⟩
    · exact enqueue_forall (C01.NodeOk sv.P) (C01.nodeOk_ub sv.P) sv.dedup s.crit.base o.cutset hI.base.fr
        (fun c hc => (f3 c hc).1)
    · show iMin ≤ (s.crit.base.enqueue sv.dedup o.cutset).bestLb
      rw [e1]; exact hI.base.lbLo
    · show (s.crit.base.enqueue sv.dedup o.cutset).bestLb ≤ B
      rw [e1]; exact hI.base.lbHi
    · show (s.crit.base.enqueue sv.dedup o.cutset).bestSol = none → (s.crit.base.enqueue sv.dedup o.cutset).bestLb = iMin
      rw [e1, e2]; exact hI.base.solLb
    · show _ → (s.crit.base.enqueue sv.dedup o.cutset).bestLb = iMin ∧ (s.crit.base.enqueue sv.dedup o.cutset).bestSol = none
      rw [e1, e2]; exact hI.base.infeas
  | notify i n c' hw hl hn =>
    obtain ⟨n1, _, _, _⟩ := notify_spec hn
    refine ⟨by rw [n1]; exact hI.base, mem_set_elim (fun w hw' => ?_) (wokk_free rfl rfl trivial)⟩
    obtain ⟨w0, hw0, rfl⟩ := List.mem_map.mp hw'
    exact wokk_wake (hI.ws w0 hw0)
  | crash i w hw hp => exact ⟨hI.base, mem_set_elim hI.ws (wokk_free rfl rfl trivial)⟩

theorem init_pck {sv : SolverCfg S} {H : Nat → S → EInt} {B0 B : Int} (hwf : WellFormed sv H B0 B) (U : Nat) :
    PCK sv H B (KSys.init sv.P sv.dedup U) := by
  refine ⟨(init_pcinv hwf none (fun _ _ h => by cases h) U).base, fun w hw => ?_⟩
  have hw : w ∈ List.replicate U (KW.idle : KW S) := hw
  rw [List.eq_of_mem_replicate hw]
  exact wokk_free rfl rfl trivial

theorem pck_depthOk {sv : SolverCfg S} {H : Nat → S → EInt} {B0 B : Int} (hwf : WellFormed sv H B0 B) {s : KSys S}
    (hI : PCK sv H B s) : DepthOk sv.P.nbVars s := by
  refine ⟨fun c hc => node_depth_le hwf (hI.base.fr c hc), fun w hw n hn => node_depth_le hwf ((hI.ws w hw).node n hn), ?_, ?_⟩
  · intro w hw n lb o cv ups e c hc
    subst e
    obtain ⟨_, h2⟩ : (iMin ≤ lb ∧ lb ≤ B) ∧ okXk sv n lb cv o ups := (hI.ws _ hw).stage
    exact ((okXk_facts hwf ((hI.ws _ hw).node n (.inl rfl)) h2).2.2.2 c hc).2.2
  · intro w hw n lb o cv ups todo e u hu
    rcases e with e | e
    · subst e
      obtain ⟨_, h2, h3⟩ : (iMin ≤ lb ∧ lb ≤ B) ∧ okRk sv n lb cv o ups ∧ ∀ u' ∈ todo, u' ∈ ups := (hI.ws _ hw).stage
      exact (okRk_facts hwf ((hI.ws _ hw).node n (.inl rfl)) h2).2.2 u (h3 u hu)
    · subst e
      obtain ⟨_, h2, h3⟩ : (iMin ≤ lb ∧ lb ≤ B) ∧ okXk sv n lb cv o ups ∧ ∀ u' ∈ todo, u' ∈ ups := (hI.ws _ hw).stage
      exact (okXk_facts hwf ((hI.ws _ hw).node n (.inl rfl)) h2).2.2.1 u (h3 u hu)

/-- the answer of the diagram model **together with** the side conditions of the diagram theorems -/
def okRk' (sv : SolverCfg S) (B : Int) (n : SubP S) (lb : Int) (cv : Cache S) (o : DDOut S) (ups : List (Up S)) : Prop :=
  okRk sv n lb cv o ups ∧ C01.NodeOk sv.P n ∧ iMin ≤ lb ∧ lb ≤ B
def okXk' (sv : SolverCfg S) (B : Int) (n : SubP S) (lb : Int) (cv : Cache S) (o : DDOut S) (ups : List (Up S)) : Prop :=
  okXk sv n lb cv o ups ∧ C01.NodeOk sv.P n ∧ iMin ≤ lb ∧ lb ≤ B

/-- **the contract of a restricted compilation that consults a cache changing under it, discharged**: for ANY virtual
    cache `cv`, relative to the stale incumbent `lb` -/
theorem okRk_contract {sv : SolverCfg S} {H : Nat → S → EInt} {B0 B : Int} (hwf : WellFormed sv H B0 B) {opt : Int}
    (hopt : (H 0 sv.P.init).addI sv.P.initVal = some opt) (n : SubP S) (lb : Int) (cv : Cache S) (o : DDOut S)
    (ups : List (Up S)) (h : okRk' sv B n lb cv o ups) : OkRc H opt (SolOf sv.P) (RgB B) n lb cv o ups := by
  obtain ⟨⟨hout, rfl, rfl⟩, ⟨p0, hroot, hperm⟩, h1, h2⟩ := h
  obtain ⟨hlb1, hlb2⟩ := ParClosed.lb_range hwf h1 h2
  have hBN : NoClamp sv.P sv.R n.value B := hwf.bound.noClamp_at hwf.nv hroot
  have hdN : n.depth ≤ sv.P.nbVars := reach_depth_le hwf.nv hroot
  refine ⟨fun w hw => ?_, fun hex => ?_, fun hex => ?_⟩
  · exact (C01.restricted_sound_within (sv.ccfg .restricted n lb) H B opt p0 cv _ 0 none rfl hwf.pot hBN hroot hperm
      hopt hout w hw).1
  · have hex' : (compile (sv.ccfg .restricted n lb) cv (DomStore.init sv.P.nbVars) 0 none).2.1.isExact = true := hex
    refine ⟨?_, ?_, ?_⟩
    · exact compC_restricted_of_model H opt (sv.ccfg .restricted n lb) B p0 cv _ 0 rfl rfl rfl (hwf.width n) hwf.pot
        hwf.rub hwf.merge hwf.attMerge hBN hlb2 hroot hperm hdN hopt hout hex' _ (fun u hu => List.mem_reverse.mp hu)
    · exact thetaStrict_restricted_of_model H (sv.ccfg .restricted n lb) B p0 cv _ 0 rfl rfl (hwf.width n) hwf.pot
        hwf.rub hwf.merge hwf.attMerge hBN hlb2 hroot hdN hout hex' _ (fun u hu => List.mem_reverse.mp hu)
    · intro u hu c hc
      obtain ⟨_, _, _, _, hcs, _⟩ := CacheClosed.restricted_exact_as_relaxed (sv.ccfg .restricted n lb) B p0 cv
        (DomStore.init sv.P.nbVars) 0 none rfl hBN hroot hout hex'
      have hc' : c ∈ (compile (sv.ccfg .restricted n lb) cv (DomStore.init sv.P.nbVars) 0 none).2.1.cutset := hc
      rw [hcs] at hc'; cases hc'
  · have hex' : (compile (sv.ccfg .restricted n lb) cv (DomStore.init sv.P.nbVars) 0 none).2.1.isExact = false := hex
    have := restricted_inexact_no_ups (sv.ccfg .restricted n lb) cv (DomStore.init sv.P.nbVars) 0 none rfl hex'
    show (compile (sv.ccfg .restricted n lb) cv (DomStore.init sv.P.nbVars) 0 none).2.1.cacheUpdates.reverse = []
    rw [this]; rfl

/-- **the contract of a relaxed compilation that consults a cache changing under it, discharged** -/
theorem okXk_contract {sv : SolverCfg S} {H : Nat → S → EInt} {B0 B : Int} (hwf : WellFormed sv H B0 B) {opt : Int}
    (hopt : (H 0 sv.P.init).addI sv.P.initVal = some opt) (n : SubP S) (lb : Int) (cv : Cache S) (o : DDOut S)
    (ups : List (Up S)) (h : okXk' sv B n lb cv o ups) : OkXc H opt (SolOf sv.P) (RgB B) n lb cv o ups := by
  obtain ⟨⟨hout, rfl, rfl⟩, ⟨p0, hroot, hperm⟩, h1, h2⟩ := h
  obtain ⟨hlb1, hlb2⟩ := ParClosed.lb_range hwf h1 h2
  have hBN : NoClamp sv.P sv.R n.value B := hwf.bound.noClamp_at hwf.nv hroot
  have hdN : n.depth ≤ sv.P.nbVars := reach_depth_le hwf.nv hroot
  have hval : ∀ (k : Nat) (s : S) (v : Int) (p : List Dec), Reach sv.P k s v p → -B ≤ v ∧ v ≤ B :=
    fun k s v p h => hwf.bound.value_le hwf.nv h
  refine ⟨?_, ?_, ?_⟩
  · exact compC_relaxed_of_model H opt (sv.ccfg .relaxed n lb) B p0 cv _ 0 rfl rfl rfl (hwf.width n) hwf.pot hwf.rub
      hwf.merge hwf.attMerge hBN hlb2 hroot hperm hdN hopt hval hout _ (fun u hu => List.mem_reverse.mp hu)
  · exact thetaStrict_relaxed_of_model H (sv.ccfg .relaxed n lb) B p0 cv _ 0 rfl rfl (hwf.width n) hwf.pot hwf.rub
      hwf.merge hwf.attMerge hBN hlb2 hroot hdN hout _ (fun u hu => List.mem_reverse.mp hu)
  · intro u hu c hc hub
    exact fresh_contract_of_model (sv.ccfg .relaxed n lb) H B p0 cv (DomStore.init sv.P.nbVars) 0 none rfl rfl rfl
      (hwf.width n) hwf.pot hwf.merge hwf.attMerge hBN hroot hout _ (.inl rfl) [u]
      (fun u' hu' => by rw [List.mem_singleton.mp hu']; exact List.mem_reverse.mp hu) c hc hub

/-- the progress clause C08 (ii) and the depth bound, for `ProgOkK` -/
theorem okXk'_progress {sv : SolverCfg S} {H : Nat → S → EInt} {B0 B : Int} (hwf : WellFormed sv H B0 B)
    (n : SubP S) (lb : Int) (cv : Cache S) (o : DDOut S) (ups : List (Up S)) (h : okXk' sv B n lb cv o ups) :
    ∀ c ∈ o.cutset, n.depth < c.depth ∧ c.depth ≤ sv.P.nbVars :=
  fun c hc => ((okXk_facts hwf h.2.1 h.1).2.2.2 c hc).2

theorem kpstep_lift {sv : SolverCfg S} {H : Nat → S → EInt} {B : Int} {s t : KSys S}
    (h : KPStep sv s t) (hI : PCK sv H B s) : KStep sv.P.nbVars sv.dedup (okRk' sv B) (okXk' sv B) s t :=
  h.mono
    (fun i n lb k0 cv o ups hw _ hok =>
      ⟨hok, (hI.ws _ (List.mem_of_getElem? hw)).node n (.inl rfl), (hI.ws _ (List.mem_of_getElem? hw)).stage⟩)
    (fun i n lb k0 cv o ups hw _ hok =>
      ⟨hok, (hI.ws _ (List.mem_of_getElem? hw)).node n (.inl rfl), (hI.ws _ (List.mem_of_getElem? hw)).stage⟩)

theorem kpstep_contract {sv : SolverCfg S} {H : Nat → S → EInt} {B0 B : Int} (hwf : WellFormed sv H B0 B) {opt : Int}
    (hopt : (H 0 sv.P.init).addI sv.P.initVal = some opt) {s t : KSys S}
    (h : KPStep sv s t) (hI : PCK sv H B s) :
    KStep sv.P.nbVars sv.dedup (OkRc H opt (SolOf sv.P) (RgB B)) (OkXc H opt (SolOf sv.P) (RgB B)) s t :=
  (kpstep_lift h hI).mono (fun i n lb k0 cv o ups _ _ hok => okRk_contract hwf hopt n lb cv o ups hok)
    (fun i n lb k0 cv o ups _ _ hok => okXk_contract hwf hopt n lb cv o ups hok)

structure KInvAll (sv : SolverCfg S) (H : Nat → S → EInt) (B : Int) (s : KSys S) : Prop where
  pck : PCK sv H B s
  lay : LayInvK sv.P.nbVars s
  cov : ∀ opt, (H 0 sv.P.init).addI sv.P.initVal = some opt → KPInv H opt (SolOf sv.P) (RgB B) s

theorem init_kinvAll {sv : SolverCfg S} {H : Nat → S → EInt} {B0 B : Int} (hwf : WellFormed sv H B0 B) (U : Nat) :
    KInvAll sv H B (KSys.init sv.P sv.dedup U) := by
  refine ⟨init_pck hwf U, init_layInvK sv.P sv.dedup U, fun opt hopt => ?_⟩
  have hb := opt_bound hwf.pot hwf.nv hwf.bound hopt
  have hBs := hwf.bound.B_small
  have e : optOf H (rootOf sv.P) = some opt := hopt
  have hrg : RgB B 0 sv.P.initVal := by
    have hv := hwf.bound.value_le hwf.nv (Reach.root (P := sv.P))
    have h0 := hwf.bound.clamp.nonneg
    unfold RgB Cover.Within Cover.Bd
    omega
  exact init_kpinv H opt (SolOf sv.P) (RgB B) sv.P sv.dedup U
    (fun x hx => by rw [e] at hx; cases hx; exact Int.le_refl _)
    (by simp only [iMax]; omega) (by simp only [iMin]; omega) hrg e

theorem kpstep_kinvAll {sv : SolverCfg S} {H : Nat → S → EInt} {B0 B : Int} (hwf : WellFormed sv H B0 B) {s t : KSys S}
    (h : KPStep sv s t) (hI : KInvAll sv H B s) : KInvAll sv H B t := by
  have hD := pck_depthOk hwf hI.pck
  refine ⟨kpstep_pck hwf h hI.pck, kstep_layInvK h hI.lay hD, fun opt hopt => ?_⟩
  exact kstep_kpinv H opt (SolOf sv.P) (RgB B) (kpstep_contract hwf hopt h hI.pck) (hI.cov opt hopt)
    (fun i w hw => no_panics hI.lay hD hw) (fun i hc => completes_nothing_open hI.lay hc)

theorem kprun_inv {sv : SolverCfg S} {H : Nat → S → EInt} {B0 B : Int} (hwf : WellFormed sv H B0 B) (U : Nat) {t : KSys S}
    (ht : KPRun sv (KSys.init sv.P sv.dedup U) t) : KInvAll sv H B t := by
  induction ht with
  | refl => exact init_kinvAll hwf U
  | tail _ hst ih => exact kpstep_kinvAll hwf hst ih

end Ddo.ParCache

#print axioms Ddo.ParCache.okRk_contract
#print axioms Ddo.ParCache.okXk_contract
#print axioms Ddo.ParCache.kprun_inv
