import DdoModel.Proofs.DomChain
/-! # The exact phase of a compilation with the dominance checker (before anything is squashed)

While `lel = none` every node of the layer under construction is exact and, for a protected family, one of them is protected (`XInv`).
A step that squashes nothing keeps that through any filter that changed the layer in `theta` only, so it holds along chains
(`Proofs/DomChain.lean`), and the final diagram reports the optimum (`exact_fin`, `exact_diagram_dom`, `restricted_exact_dom`).
Second half: the same phase under the value-based admissibility alone ("a node of the layer or an entry of the store carries the
optimum"); its invariant `AInv` follows the entries of the store, so it is an invariant of `stepLayer` with its threaded store, not of
chains. -/
set_option linter.unusedSectionVars false
set_option linter.unusedVariables false
namespace Ddo.C10
open Ddo Ddo.C01 Ddo.Closed Ddo.Truth
variable {S K : Type} [DecidableEq S] [DecidableEq K]

structure XInv (Prot : Nat → S → Int → Prop) (dd : DD S K) : Prop where
  ex : dd.lel = none → ∀ n ∈ dd.next, n.isExact = true
  wit : dd.lel = none → ∃ n ∈ dd.next, Prot dd.depth n.state n.value

theorem initDD_xinv (cfg : Cfg S K) (Prot : Nat → S → Int → Prop) (cache : Cache S) (store : DomStore S K) (polls : Nat)
    (hprot : Prot cfg.root.depth cfg.root.state cfg.root.value) : XInv Prot (initDD cfg cache store polls) :=
  ⟨fun _ n hn => by rw [List.mem_singleton.1 hn]; rfl, fun _ => ⟨_, List.mem_singleton.mpr rfl, hprot⟩⟩

/-- **one step of the exact phase**, through any filter `(fl, fk)` that changed the layer in `theta` only: when the step squashes
    nothing (`lel` still unset afterwards) and the layer under construction was all exact, the new layer is all exact, and every
    decision of a node that the filter kept and that passes the rough-upper-bound test yields a child carrying the unsaturated sum -/
theorem exact_step (cfg : Cfg S K) (B : Int) (p0 : List Dec)
    (hB : NoClamp cfg.P cfg.R cfg.root.value B) (dd : DD S K) (var : Nat) (hc : AtStep cfg B p0 dd var)
    (hex : dd.lel = none → ∀ n ∈ dd.next, n.isExact = true)
    (fl : List (Node S)) (fk : List Nat) (f1 : ThEq fl dd.next)
    (sq : List (Node S) × List Nat × List (Call S) × Option Nat)
    (hsq : squash cfg dd fl fk = some sq) (hl : sq.2.2.2 = none) :
    dd.lel = none ∧
    (∀ c ∈ (expandAll cfg var dd.layers.length sq.1 sq.2.1 sq.2.2.1).2.1, c.isExact = true) ∧
    ∀ q ∈ fk, ∀ m, dd.next[q]? = some m → ∀ d ∈ cfg.P.domain var m.state,
      satAdd (cfg.R.rub m.state) m.value > cfg.lb →
      ∃ c ∈ (expandAll cfg var dd.layers.length sq.1 sq.2.1 sq.2.2.1).2.1, c.state = cfg.P.trans m.state ⟨var, d⟩ ∧
        m.value + cfg.P.cost m.state (cfg.P.trans m.state ⟨var, d⟩) ⟨var, d⟩ ≤ c.value := by
  obtain ⟨hM, hdepth, hnv, hlen⟩ := hc
  obtain ⟨q1, q2, hl0⟩ := squash_lel_none cfg dd _ _ sq hsq hl
  have hex0 := hex hl0
  have hexF : ∀ m ∈ fl, m.isExact = true := by
    intro m hm
    obtain ⟨i, hi⟩ := List.mem_iff_getElem?.mp hm
    obtain ⟨m0, hm0, hs⟩ := f1.get hi
    rw [(stripT_all hs).2.2.2.1]
    exact hex0 m0 (List.mem_of_getElem? hm0)
  have hpar : ∀ n ∈ fl, ParOk cfg B p0 dd.layers (dd.next.map (·.state)) n :=
    ParOk.of_sub (subS_of_thEq f1).toSub (fun n hn => ⟨hM.next n hn, fun _ => List.mem_map.2 ⟨n, hn, rfl⟩⟩)
  have hE := Ddo.expandAll_inv cfg B p0 hB dd.layers hlen fl (dd.next.map (·.state)) var (hdepth ▸ hnv) hpar fk sq.2.2.1
  rw [q1, q2]
  refine ⟨hl0, hE.allEx hexF, fun q hqk m hm d hd hrub => ?_⟩
  obtain ⟨n1, hn1, hs1⟩ := f1.symm.get hm
  obtain ⟨es1, ev1, _, _, _, _⟩ := stripT_all hs1
  obtain ⟨c, hc, hcs, hcv⟩ := Cover.fold_has_new cfg var dd.layers.length fk (fl, [], sq.2.2.1) q hqk
    m.state m.value (by
      show (fl.map Cover.key)[q]? = _
      rw [List.getElem?_map, hn1]
      simp only [Option.map_some, Cover.key, es1, ev1]) hrub d hd
  refine ⟨c, hc, hcs, ?_⟩
  -- the value of an exact node of layer `l` is within `(l + 1) · B`: the sum does not saturate
  have hmn := List.mem_of_getElem? hm
  obtain ⟨_, _, _, _, hbnd⟩ := hM.next m hmn (hex0 m hmn)
  have hin := (hbnd.step (hB.cost m.state (cfg.P.trans m.state ⟨var, d⟩) ⟨var, d⟩)).inI hB.nonneg hB.small (Nat.succ_le_succ hlen)
  rw [Cover.satAdd_eq hin.1 hin.2] at hcv
  exact hcv

/-- **one layer** keeps the invariant of the exact phase: the protected node survives the filter, its protected decision passes the
    rough-upper-bound test, and the child is reached exactly with at least the protected value -/
theorem LayerStep.xinv {cfg : Cfg S K} {D : DomRule S K} {H : Nat → S → EInt} {opt : Int} {Prot : Nat → S → Int → Prop} {B : Int}
    (hy : DomHyp cfg D H opt Prot B) {p0 : List Dec} {dd dd' : DD S K} {var : Nat} {fl : List (Node S)} {fk : List Nat}
    (hs : LayerStep cfg var dd dd' fl fk) (hf : FilterOk Prot dd fl fk) (hc : AtStep cfg B p0 dd var)
    (hM' : MInv cfg B p0 dd') (hX : XInv Prot dd) : XInv Prot dd' := by
  have hd' := hs.depth hc.depth
  obtain ⟨sq, hsq, _, en, ed, ell⟩ := hs
  have key : dd'.lel = none → (∀ n ∈ dd'.next, n.isExact = true) ∧ ∃ n ∈ dd'.next, Prot dd'.depth n.state n.value := by
    intro hl
    obtain ⟨hl0, hexN, hchild⟩ := exact_step cfg B p0 hy.B dd var hc hX.ex fl fk hf.thEq sq hsq (ell ▸ hl)
    rw [← en] at hexN hchild
    refine ⟨hexN, ?_⟩
    obtain ⟨n, hn, hprot⟩ := hX.wit hl0
    obtain ⟨q, hq⟩ := List.mem_iff_getElem?.mp hn
    obtain ⟨dec, hdec, hpc⟩ := hy.prot.step dd.depth n.state n.value _ var hprot hc.nv (List.mem_map_of_mem hn)
    obtain ⟨h, hH, hoh⟩ := EInt.addI_eq_some (hy.prot.opt _ _ _ hprot)
    obtain ⟨m, hm, hms, hmv⟩ := hchild q (hf.keep q n hq (fun _ => hprot)) n hq dec hdec
      (rub_gt hy.R hy.lb hy.gt hy.optLe hH (Int.le_of_eq (hoh.trans (Int.add_comm _ _))))
    refine ⟨m, hm, ?_⟩
    obtain ⟨_, _, hr, hmd, _⟩ := hM'.next m hm (hexN m hm)
    rw [hmd, ← hd', ed, hms] at hr
    rw [ed, hms]
    exact hy.prot.reach_ge hy.P hpc hr hmv
  exact ⟨fun hl => (key hl).1, fun hl => (key hl).2⟩

theorem Chain.xinv {cfg : Cfg S K} {D : DomRule S K} {H : Nat → S → EInt} {opt : Int} {Prot : Nat → S → Int → Prop} {B : Int}
    (hy : DomHyp cfg D H opt Prot B) {p0 : List Dec} {dd0 fin : DD S K} (hC : Chain cfg (FilterOk Prot) B p0 dd0 fin)
    (h0 : XInv Prot dd0) : XInv Prot fin := by
  induction hC with
  | refl => exact h0
  | congr _ _ hn hd hlel ih => exact ⟨fun hl => hn ▸ ih.ex (hlel ▸ hl), fun hl => hn ▸ hd ▸ ih.wit (hlel ▸ hl)⟩
  | brk _ _ hnil ih => exact ⟨ih.ex, fun hl => (by obtain ⟨n, hn, _⟩ := ih.wit hl; rw [hnil] at hn; cases hn)⟩
  | layer _ hc _ _ hf hs hM' ih => exact hs.xinv hy hf hc hM' ih

theorem Ended.xinv {cfg : Cfg S K} {D : DomRule S K} {H : Nat → S → EInt} {opt : Int} {Prot : Nat → S → Int → Prop} {B : Int}
    (hy : DomHyp cfg D H opt Prot B) {p0 : List Dec} {fin : DD S K} (h : Ended cfg (FilterOk Prot) B p0 fin)
    (hprot : Prot cfg.root.depth cfg.root.state cfg.root.value) : XInv Prot fin := by
  obtain ⟨cache, store, polls, hC⟩ := h.chain
  exact hC.xinv hy (initDD_xinv cfg Prot cache store polls hprot)

theorem bestExact_ge_of_terminal (cfg : Cfg S K) (cache : Cache S) (store : DomStore S K) (polls : Nat)
    (hok : (compile cfg cache store polls none).1 = .ok) {n : Node S} {o : Int}
    (hn : n ∈ (compile cfg cache store polls none).2.2.2.next) (he : n.isExact = true) (hv : o ≤ n.value) :
    ∃ w, (compile cfg cache store polls none).2.1.bestExactValue = some w ∧ o ≤ w := by
  obtain ⟨_, hdd, hres⟩ := Ddo.compile_ok cfg cache store polls none hok
  rw [hres]
  exact finalize_bestExact_ge cfg _ _ (hdd ▸ hn) he hv

/-- **an exact diagram finds the optimum**, of the final diagram of any build that kept `XInv`: the protected node of the last layer is
    terminal (`next_variable` answered `None`), so its value is the optimum -/
theorem exact_fin {cfg : Cfg S K} {D : DomRule S K} {H : Nat → S → EInt} {opt : Int} {Prot : Nat → S → Int → Prop} {B : Int}
    (hy : DomHyp cfg D H opt Prot B) (fin : DD S K) (e : Bool) (hX : XInv Prot fin)
    (hend : fin.next ≠ [] → cfg.P.nextVar fin.depth (fin.next.map (·.state)) = none) (hl : fin.lel = none) :
    ∃ w, (finalize cfg (finalizeLayers fin) e).1.bestExactValue = some w ∧ opt ≤ w := by
  obtain ⟨n, hn, hp⟩ := hX.wit hl
  have hv := hy.prot.opt _ _ _ hp
  rw [hy.P.term fin.depth _ n.state (hend (List.ne_nil_of_mem hn)) (List.mem_map_of_mem hn)] at hv
  have hv : opt ≤ n.value := by simpa [EInt.addI] using Int.le_of_eq (Option.some.inj hv).symm
  exact finalize_bestExact_ge cfg fin e hn (hX.ex hl n hn) hv

/-- **an exact diagram finds the optimum, checker enabled** (any compilation type): when the compilation of a protected
    sub-problem ends with `lel = none` (nothing was squashed), the reported `best_exact_value` is at least the optimum -/
theorem exact_diagram_dom (cfg : Cfg S K) (D : DomRule S K) (H : Nat → S → EInt) (opt : Int) (Prot : Nat → S → Int → Prop)
    (B : Int) (hy : DomHyp cfg D H opt Prot B) (p0 : List Dec) (cache : Cache S) (store : DomStore S K) (polls : Nat)
    (hroot : Reach cfg.P cfg.root.depth cfg.root.state cfg.root.value p0)
    (hprot : Prot cfg.root.depth cfg.root.state cfg.root.value)
    (hst : StoreReach D cfg.P store) (hlen : store.layers.length = cfg.P.nbVars + 1)
    (hok : (compile cfg cache store polls none).1 = .ok)
    (hl : (compile cfg cache store polls none).2.2.2.lel = none) :
    ∃ w, (compile cfg cache store polls none).2.1.bestExactValue = some w ∧ opt ≤ w := by
  have hE := compile_chain cfg D H opt Prot hy.dom hy.cache hy.nv hy.prot B hy.B p0 cache store polls hroot hst hlen hok
  rw [(Ddo.compile_ok cfg cache store polls none hok).2.2, ← (Ddo.compile_ok cfg cache store polls none hok).2.1]
  exact exact_fin hy _ _ (hE.xinv hy hprot) (fun hne => (hE.term.resolve_left hne).1) hl

/-- the restricted compilation reports `is_exact` exactly when nothing was squashed -/
theorem restricted_isExact (cfg : Cfg S K) (cache : Cache S) (store : DomStore S K) (polls : Nat)
    (hres : cfg.ctype = .restricted) (hok : (compile cfg cache store polls none).1 = .ok)
    (he : (compile cfg cache store polls none).2.1.isExact = true) :
    (compile cfg cache store polls none).2.2.2.lel = none := by
  obtain ⟨_, hdd, hr⟩ := Ddo.compile_ok cfg cache store polls none hok
  rw [hr] at he
  have e2 : (cfg.ctype == CompType.relaxed) = false := by rw [hres]; decide
  rw [e2] at he
  have e3 : ∀ b : Built S K, b.ebpMust false = false := fun _ => rfl
  rw [e3, finalize_isExact, Bool.or_false] at he
  have : (buildLoop cfg none (cfg.P.nbVars + 2) (initDD cfg cache store polls)).1.lel.isNone = true := he
  rw [hdd]
  simpa using this

/-- **`restricted_exact_dom`**: a restricted compilation of a protected sub-problem that reports `is_exact` reports a
    `best_exact_value` that is at least the optimum -/
theorem restricted_exact_dom (cfg : Cfg S K) (D : DomRule S K) (H : Nat → S → EInt) (opt : Int) (Prot : Nat → S → Int → Prop)
    (B : Int) (hy : DomHyp cfg D H opt Prot B) (p0 : List Dec) (cache : Cache S) (store : DomStore S K) (polls : Nat)
    (hres : cfg.ctype = .restricted)
    (hroot : Reach cfg.P cfg.root.depth cfg.root.state cfg.root.value p0)
    (hprot : Prot cfg.root.depth cfg.root.state cfg.root.value)
    (hst : StoreReach D cfg.P store) (hlen : store.layers.length = cfg.P.nbVars + 1)
    (hok : (compile cfg cache store polls none).1 = .ok)
    (he : (compile cfg cache store polls none).2.1.isExact = true) :
    ∃ w, (compile cfg cache store polls none).2.1.bestExactValue = some w ∧ opt ≤ w :=
  exact_diagram_dom cfg D H opt Prot B hy p0 cache store polls hroot hprot hst hlen hok
    (restricted_isExact cfg cache store polls hres hok he)

/-- some entry of the store the compilation started from, at a depth of the diagram, carries a potential `≥ o` -/
def Carried (cfg : Cfg S K) (H : Nat → S → EInt) (store0 : DomStore S K) (o : Int) : Prop :=
  ∃ d k a va, (a, va) ∈ bucketOf store0 d k ∧ cfg.root.depth ≤ d ∧ ∃ x, (H d a).addI va = some x ∧ o ≤ x

structure AdmHyp (cfg : Cfg S K) (D : DomRule S K) (H : Nat → S → EInt) (o : Int) (B : Int) : Prop where
  dom : cfg.dom = some D
  cache : cfg.useCache = false
  P : Potential cfg.P H
  R : RubOk cfg.R H
  B : NoClamp cfg.P cfg.R cfg.root.value B
  nv : NvBound cfg.P
  adm : Admissible D cfg.P H
  lb : InI cfg.lb
  gt : o > cfg.lb
  oLe : o ≤ iMax ∨ cfg.lb < iMax

/-- the invariant: the entries of the depths still to come are entries of the initial store; while nothing is squashed every node
    is exact and either the initial store carries `o` or a node of the layer under construction does -/
structure AInv (cfg : Cfg S K) (D : DomRule S K) (H : Nat → S → EInt) (store0 : DomStore S K) (o : Int) (dd : DD S K) : Prop
    extends SInv cfg D dd where
  sub : ∀ d k a va, dd.depth ≤ d → (a, va) ∈ bucketOf dd.store d k → (a, va) ∈ bucketOf store0 d k
  ex : dd.lel = none → ∀ n ∈ dd.next, n.isExact = true
  cov : dd.lel = none → Carried cfg H store0 o ∨ ∃ n ∈ dd.next, ∃ h, H dd.depth n.state = some h ∧ o ≤ n.value + h

theorem stepLayer_ainv (cfg : Cfg S K) (D : DomRule S K) (H : Nat → S → EInt) (o : Int) (B : Int)
    (hy : AdmHyp cfg D H o B) (store0 : DomStore S K) (p0 : List Dec) (dd dd' : DD S K) (var : Nat) (oc : Outcome)
    (hX : AInv cfg D H store0 o dd) (hc : AtStep cfg B p0 dd var)
    (hst : stepLayer cfg dd var = (some dd', oc)) : AInv cfg D H store0 o dd' := by
  have ⟨hM, hdepth, hnv, _⟩ := hc
  have hS' := stepLayer_sinv cfg D hy.dom hy.cache hy.nv B p0 dd dd' var oc hX.toSInv hM hdepth hnv hst
  by_cases hne : dd.next = []
  · rw [stepLayer_empty cfg dd var hne] at hst
    cases hst
    refine ⟨hS', hX.sub, fun hl n hn => ?_, fun hl => ?_⟩
    · rw [hne] at hn; cases hn
    · rcases hX.cov hl with hc | ⟨n, hn, _⟩
      · exact Or.inl hc
      · rw [hne] at hn; cases hn
  · have hreach := next_reach hM hdepth
    -- the filter, with the origin of the entries tracked: an entry of the store was there before or is a kept node
    obtain ⟨_, _, f3, f4, _, f6⟩ := filterDom_spec cfg D hy.dom
      (fun d a va => (∃ k, (a, va) ∈ bucketOf dd.store d k) ∧ ∃ p, Reach cfg.P d a va p) dd.store dd.next _
      (fun p hp => List.mem_range.mp hp) (next_depth_lt hy.nv hM hdepth hnv hX.len)
      (fun d k a va hm => ⟨(hX.store d k a va hm).1, ⟨k, hm⟩, (hX.store d k a va hm).2⟩)
    obtain ⟨sq, hsq, rfl, _, en, ed, ell, es⟩ := stepLayer_dom_inv cfg dd var hne hy.cache f4 hst
    -- the entries of the deeper levels still come from the initial store
    have hsub' : ∀ d k a va, dd'.depth ≤ d → (a, va) ∈ bucketOf dd'.store d k → (a, va) ∈ bucketOf store0 d k := by
      intro d k a va hd hm
      rw [es] at hm
      rw [ed] at hd
      obtain ⟨hk, hq⟩ := f3 d k a va hm
      rcases hq with ⟨⟨k', hk'⟩, _⟩ | ⟨q, _, m, hm', hex, rfl, rfl, hmd⟩
      · have : k' = k := by
          have := (hX.store d k' a va hk').1
          rw [hk] at this; exact (Option.some.inj this).symm
        subst this
        exact hX.sub d k' a va (Nat.le_of_succ_le hd) hk'
      · exfalso
        rw [← hmd, (hreach m (List.mem_of_getElem? hm') hex).1] at hd
        exact Nat.not_succ_le_self _ hd
    have key : dd'.lel = none → (∀ n ∈ dd'.next, n.isExact = true) ∧
        (Carried cfg H store0 o ∨ ∃ n ∈ dd'.next, ∃ h, H dd'.depth n.state = some h ∧ o ≤ n.value + h) := by
      intro hl
      obtain ⟨hl0, hexN, hchild⟩ := exact_step cfg B p0 hy.B dd var hc hX.ex _ _ (filterDom_weak cfg D hy.dom _ _ _).1 sq hsq
        (ell ▸ hl)
      rw [← en] at hexN hchild
      refine ⟨hexN, ?_⟩
      rcases hX.cov hl0 with hc | ⟨n, hn, h, hH, hle⟩
      · exact Or.inl hc
      · obtain ⟨q, hq⟩ := List.mem_iff_getElem?.mp hn
        -- a kept position whose node carries `o`
        have kept : Carried cfg H store0 o ∨ ∃ q' ∈ (fdOf cfg dd).2.1, ∃ m, dd.next[q']? = some m ∧
            ∃ h, H dd.depth m.state = some h ∧ o ≤ m.value + h := by
          by_cases hqk : q ∈ (fdOf cfg dd).2.1
          · exact Or.inr ⟨q, hqk, n, hq, h, hH, hle⟩
          · obtain ⟨n', hn', hex', a, va, hqa, hdom⟩ := f6 q (List.mem_range.mpr (Cover.lt_of_getElem?_some hq)) hqk
            have hnn' : n' = n := by rw [hq] at hn'; exact (Option.some.inj hn').symm
            subst hnn'
            obtain ⟨hnd, pn, hrn⟩ := hreach n' hn hex'
            -- the dominator is reached exactly at the same depth: its potential is at least that of the dropped node
            have key : ∀ pa, Reach cfg.P n'.depth a va pa → ∃ x, (H n'.depth a).addI va = some x ∧ o ≤ x := by
              intro pa hra
              have := hy.adm n'.depth a va n'.state n'.value pa pn hra hrn hdom
              rw [hnd, hH] at this
              rw [hnd]
              cases hc : (H dd.depth a).addI va with
              | none => rw [hc] at this; exact False.elim this
              | some x =>
                rw [hc] at this
                have : h + n'.value ≤ x := this
                exact ⟨x, rfl, Int.le_trans hle (Int.add_comm h _ ▸ this)⟩
            rcases hqa with ⟨⟨k, hk⟩, pa, hra⟩ | ⟨q', hq', m, hm, hmex, rfl, rfl, hmd⟩
            · left
              obtain ⟨x, hx, hox⟩ := key pa hra
              exact ⟨n'.depth, k, a, va, hX.sub _ k a va (Nat.le_of_eq hnd.symm) hk, by rw [hnd, hdepth]; exact Nat.le_add_right _ _, x, hx, hox⟩
            · right
              obtain ⟨_, pm, hrm⟩ := hreach m (List.mem_of_getElem? hm) hmex
              obtain ⟨x, hx, hox⟩ := key pm (hmd ▸ hrm)
              obtain ⟨hm0, hHm, e0⟩ := EInt.addI_eq_some hx
              rw [hnd] at hHm
              exact ⟨q', hq', m, hm, hm0, hHm, Int.add_comm hm0 _ ▸ e0 ▸ hox⟩
        rcases kept with hc | ⟨q', hqk, m, hm, h2, hH2, hle2⟩
        · exact Or.inl hc
        · right
          obtain ⟨dec, hdec, h', hH', hle'⟩ :=
            hy.P.att dd.depth _ var m.state h2 hnv (List.mem_map_of_mem (List.mem_of_getElem? hm)) hH2
          obtain ⟨c, hc, hcs, hcv⟩ := hchild q' hqk m hm dec hdec (rub_gt hy.R hy.lb hy.gt hy.oLe hH2 hle2)
          exact ⟨c, hc, h', by rw [ed, hcs]; exact hH', Int.le_trans hle2 (Int.le_trans (Int.add_le_add_left hle' _)
            (by rw [← Int.add_assoc]; exact Int.add_le_add_right hcv _))⟩
    exact ⟨hS', hsub', fun hl => (key hl).1, fun hl => (key hl).2⟩

/-- **exact phase, value-based admissibility** (any compilation type): with the checker enabled and a rule that is admissible in
    the potential form, from a store of exactly reached entries, a compilation that squashes nothing (`lel = none`: the diagram is
    exact) reports a `best_exact_value` at least the optimum `o` of its root sub-problem — **or an entry of the store it started
    from, at a depth of the diagram, carries a potential `≥ o`** (the pruned optimum lives on in the store; whether anybody will
    ever explore it is what the solver-level counter-example `Cyc` is about). -/
theorem exact_diagram_adm (cfg : Cfg S K) (D : DomRule S K) (H : Nat → S → EInt) (o : Int) (B : Int)
    (hy : AdmHyp cfg D H o B) (p0 : List Dec) (cache : Cache S) (store : DomStore S K) (polls : Nat)
    (hroot : Reach cfg.P cfg.root.depth cfg.root.state cfg.root.value p0)
    (ho : optOf H cfg.root = some o)
    (hst : StoreReach D cfg.P store) (hlen : store.layers.length = cfg.P.nbVars + 1)
    (hok : (compile cfg cache store polls none).1 = .ok)
    (hl : (compile cfg cache store polls none).2.2.2.lel = none) :
    (∃ w, (compile cfg cache store polls none).2.1.bestExactValue = some w ∧ o ≤ w) ∨ Carried cfg H store o := by
  obtain ⟨h0, hH0, e0⟩ := EInt.addI_eq_some ho
  have hX0 : AInv cfg D H store o (initDD cfg cache store polls) := by
    refine ⟨⟨hst, hlen⟩, fun d k a va _ hm => hm, fun _ n hn => ?_, fun _ => Or.inr ⟨_, List.mem_singleton.mpr rfl, h0, hH0, ?_⟩⟩
    · simp only [initDD, List.mem_singleton] at hn
      subst hn; rfl
    · exact Int.le_of_eq (e0.trans (Int.add_comm _ _))
  obtain ⟨fin, hX, hT, _, en, _, el, _⟩ := compile_ind cfg B p0 hy.B (J := AInv cfg D H store o)
    (fun dd var h => ⟨⟨h.store, h.len⟩, h.sub, h.ex, h.cov⟩)
    (fun dd var dd' oc hJ h hst => stepLayer_ainv cfg D H o B hy store p0 dd dd' var oc hJ h hst)
    cache store polls hroot hX0 hok
  rw [← el] at hl
  rcases hX.cov hl with hc | ⟨n, hn, h, hH, hle⟩
  · exact Or.inr hc
  · left
    have hterm := hy.P.term fin.depth _ n.state (hT (List.ne_nil_of_mem hn)).1 (List.mem_map_of_mem hn)
    rw [hterm] at hH
    cases hH
    exact bestExact_ge_of_terminal cfg cache store polls hok (en ▸ hn) (hX.ex hl n hn) (Int.add_zero n.value ▸ hle)

end Ddo.C10
