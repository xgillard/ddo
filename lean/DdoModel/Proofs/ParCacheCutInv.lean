import DdoModel.Proofs.ParCacheClosed
/-! # The parallel caching solver with cut-off — what survives an abort

After `abort_search` the coverage invariant `KPInv` of the cached parallel solver is gone for good (the fringe and the cache
were thrown away; once `abort_search` has cleared the fringe `open_by_layer` does not count it).  What is carried through
**every** step, before and after any number of aborts (`KInvC`):

* `pck` — the side conditions of the diagram theorems (`PCK`: nodes reached exactly, incumbents in range, what a worker
  carries is an answer of the diagram model) — needed so that the compilations that END after the abort are still sound;
* `reach` — as long as the flag is down the `KSys` component is a reachable state of the system WITHOUT cut-off
  (`KPRun`), so the whole of `parallel_caching_solver_correct` applies to it;
* `snd` — `best_lb ≤ opt`, the stored solution is feasible with value `best_lb`, every exact value found and not yet
  published is the value of a feasible solution (`Snd`): the **bounds clauses that do not mention `best_ub`**;
* `lbUb0` / `exitsUp` — bookkeeping of the flag (once up it stays up: `KStepC.flag_stays`): the recorded bound is never below
  the `isize::MIN` incumbent of an infeasible problem; only workers that have run `abort_search` are in `exits`.

The cache after an abort: `cache.clear()` empties it while other workers may still be compiling and will WRITE thresholds
afterwards; none of the clauses above mentions the cache, the log only grows, and the steps that consult the cache for a
decision (`gwDrop` / `gwKeep`) are behind `gwAborted` — harmless.

The clause `opt ≤ best_ub` is not part of `KInvC`: it is **conditional** on `AbortBoundOk` (`Props/C05e.lean`: an obligation about
the reachable states of the system WITHOUT cut-off, i.e. about the first abort; later aborts and all other steps only raise or
keep the bound), which is false in general (`abortBoundOk_false`, witness in `Proofs/ParCacheCutWitness.lean`). -/
set_option linter.unusedSectionVars false
set_option linter.unusedVariables false
namespace Ddo.ParCache
open Ddo Ddo.Truth Ddo.Closed Ddo.ParSys Ddo.ParClosed Ddo.C09 Ddo.Theta
open Ddo.C01 (SolverCfg WellFormed toOut SolOf)
variable {S : Type} [DecidableEq S]

/-- **the steps of the parallel caching solver with cut-off over the diagram model** -/
abbrev KPStepC (sv : SolverCfg S) : KSysC S → KSysC S → Prop := KStepC sv.P.nbVars sv.dedup (okRk sv) (okXk sv)
abbrev KPRunC (sv : SolverCfg S) : KSysC S → KSysC S → Prop := KRunC sv.P.nbVars sv.dedup (okRk sv) (okXk sv)

theorem abortSearch_facts (c : ParCrit S) (u : Int) (top : Option Int) :
    (c.abortSearch u top).base.abort = true ∧ (c.abortSearch u top).base.bestLb = c.base.bestLb ∧
    (c.abortSearch u top).base.bestSol = c.base.bestSol ∧ (c.abortSearch u top).base.fringe = [] ∧
    c.base.bestLb ≤ (c.abortSearch u top).base.bestUb ∧
    (c.base.abort = true → c.base.bestUb ≤ (c.abortSearch u top).base.bestUb) := by
  refine ⟨rfl, rfl, rfl, rfl, Int.le_max_right _ _, fun ha => ?_⟩
  show c.base.bestUb ≤ max (if c.base.abort = true then max _ c.base.bestUb else _) c.base.bestLb
  rw [if_pos ha]
  exact Int.le_trans (Int.le_max_right _ _) (Int.le_max_left _ _)

/-- an exact value found by a compilation and not yet published is the value of a feasible solution -/
def WSnd (sv : SolverCfg S) (opt : Int) : KW S → Prop
  | .wrR _ _ o _ _ _ => ∀ w, o.bestExact = some w → ∃ p, o.bestExactSol = some p ∧ SolOf sv.P p w ∧ w ≤ opt
  | .wrX _ _ o _ _ _ => ∀ w, o.bestExact = some w → ∃ p, o.bestExactSol = some p ∧ SolOf sv.P p w ∧ w ≤ opt
  | _ => True

/-- the bounds clauses that do not mention `best_ub` -/
structure Snd (sv : SolverCfg S) (opt : Int) (s : KSys S) : Prop where
  lbOk : s.crit.base.bestLb ≤ opt
  solOk : ∀ p, s.crit.base.bestSol = some p → SolOf sv.P p s.crit.base.bestLb
  ws : ∀ w ∈ s.ws, WSnd sv opt w

theorem wsnd_wake {sv : SolverCfg S} {opt : Int} {w : KW S} (h : WSnd sv opt w) : WSnd sv opt w.wake :=
  (KW.wake_congr (WSnd sv opt) rfl w).mpr h

theorem snd_of {sv : SolverCfg S} {opt : Int} {s t : KSys S} (hS : Snd sv opt s)
    (hlb : t.crit.base.bestLb = s.crit.base.bestLb) (hsol : t.crit.base.bestSol = s.crit.base.bestSol)
    (hws : ∀ w ∈ t.ws, WSnd sv opt w) : Snd sv opt t :=
  ⟨by rw [hlb]; exact hS.lbOk, by rw [hlb, hsol]; exact hS.solOk, hws⟩

theorem snd_notify {sv : SolverCfg S} {opt : Int} {s : KSys S} (hS : Snd sv opt s) {c' : ParCrit S} {i d : Nat}
    (hn : s.crit.notifyFinished i d = some c') {a : KW S} (ha : WSnd sv opt a) :
    Snd sv opt { s with crit := c', ws := (s.ws.map KW.wake).set i a } := by
  have n1 := (notify_spec hn).1
  refine snd_of hS (congrArg SeqSt.bestLb n1) (congrArg SeqSt.bestSol n1) (mem_set_elim (fun w hw' => ?_) ha)
  obtain ⟨w0, hw0, rfl⟩ := List.mem_map.mp hw'
  exact wsnd_wake (hS.ws w0 hw0)

theorem snd_update {sv : SolverCfg S} {opt : Int} {s : KSys S} (hS : Snd sv opt s) {o : DDOut S}
    (ho : ∀ w, o.bestExact = some w → ∃ p, o.bestExactSol = some p ∧ SolOf sv.P p w ∧ w ≤ opt) :
    (s.crit.base.updateBest o).bestLb ≤ opt ∧
    ∀ p, (s.crit.base.updateBest o).bestSol = some p → SolOf sv.P p (s.crit.base.updateBest o).bestLb := by
  unfold SeqSt.updateBest
  split
  · next w hw =>
    obtain ⟨p, hp, hsol, hle⟩ := ho w hw
    split
    · refine ⟨hle, fun p' hp' => ?_⟩
      have hp' : o.bestExactSol = some p' := hp'
      rw [hp] at hp'; cases hp'; exact hsol
    · exact ⟨hS.lbOk, hS.solOk⟩
  · exact ⟨hS.lbOk, hS.solOk⟩

/-- **every step of `KStep` preserves `Snd`** — no hypothesis on the flag, the fringe or the cache -/
theorem kpstep_snd {sv : SolverCfg S} {H : Nat → S → EInt} {B0 B : Int} (hwf : WellFormed sv H B0 B) {opt : Int}
    (hopt : (H 0 sv.P.init).addI sv.P.initVal = some opt) {s t : KSys S}
    (h : KPStep sv s t) (hI : PCK sv H B s) (hS : Snd sv opt s) : Snd sv opt t := by
  have hmem : ∀ {i : Nat} {w : KW S}, s.ws[i]? = some w → WOkK sv B w :=
    fun hw => hI.ws _ (List.mem_of_getElem? hw)
  cases h with
  | gwClear i c' hw hc hcl => exact snd_of hS rfl rfl hS.ws
  | gwDrop i N rest c' hw hp hub hme hd =>
    obtain ⟨_, e2, e3⟩ := dropOne_spec hd
    exact snd_of hS e2 e3 hS.ws
  | gwTake i n c' crit' hw hu ht =>
    obtain ⟨_, t2, t3, _⟩ := take_spec ht
    exact snd_of hS t2 t3 (mem_set_elim hS.ws trivial)
  | readLbR i n hw hl => exact snd_of hS rfl rfl (mem_set_elim hS.ws (by split <;> trivial))
  | compileR i n lb k0 cv o ups hw hcv hok =>
    refine snd_of hS rfl rfl (mem_set_elim hS.ws ?_)
    exact (okRk_contract hwf hopt n lb cv o ups ⟨hok, (hmem hw).node n (.inl rfl), (hmem hw).stage⟩).1
  | writeR i n lb o cv ups u todo c' hw hu =>
    exact snd_of hS rfl rfl (mem_set_elim hS.ws
      (show WSnd sv opt (KW.wrR n lb o cv ups (u :: todo)) from hS.ws _ (List.mem_of_getElem? hw)))
  | updateR i n lb o cv ups hw hl =>
    obtain ⟨h1, h2⟩ := snd_update hS (hS.ws _ (List.mem_of_getElem? hw))
    exact ⟨h1, h2, mem_set_elim hS.ws (by split <;> trivial)⟩
  | compileX i n lb k0 cv o ups hw hcv hok =>
    refine snd_of hS rfl rfl (mem_set_elim hS.ws ?_)
    exact (okXk_contract hwf hopt n lb cv o ups ⟨hok, (hmem hw).node n (.inl rfl), (hmem hw).stage⟩).c.sound
  | writeX i n lb o cv ups u todo c' hw hu =>
    exact snd_of hS rfl rfl (mem_set_elim hS.ws
      (show WSnd sv opt (KW.wrX n lb o cv ups (u :: todo)) from hS.ws _ (List.mem_of_getElem? hw)))
  | updateX i n lb o cv ups hw hl =>
    obtain ⟨h1, h2⟩ := snd_update hS (hS.ws _ (List.mem_of_getElem? hw))
    exact ⟨h1, h2, mem_set_elim hS.ws (by split <;> trivial)⟩
  | enqueue i n lb o cv ups hw hl =>
    obtain ⟨e1, e2⟩ := enqueue_lb_sol sv.dedup s.crit.base o.cutset
    exact snd_of hS e1 e2 (mem_set_elim hS.ws trivial)
  | notify i n c' hw hl hn => exact snd_notify hS hn trivial
  -- the other steps leave the incumbent alone and move a worker to a stage that carries no value
  | _ => exact snd_of hS rfl rfl (mem_set_elim hS.ws trivial)

theorem newstep_snd {sv : SolverCfg S} {opt : Int} {s t : KSysC S} (h : NewStep sv.P.nbVars s t) (hS : Snd sv opt s.k) :
    Snd sv opt t.k := by
  cases h with
  | notifyExit s e i n c' hw hl hi hn => exact snd_notify hS hn trivial
  | _ => exact snd_of hS rfl rfl (mem_set_elim hS.ws trivial)

theorem abort_pck {sv : SolverCfg S} {H : Nat → S → EInt} {B : Int} {s : KSys S} (hI : PCK sv H B s) {i : Nat} {w : KW S}
    {n : SubP S} (hw : s.ws[i]? = some w) (hn : w.node = some n) (top : Option Int) : PCK sv H B (abortK s i n top) :=
  ⟨hI.base.of_eq (fun c hc => by cases hc) rfl rfl,
    mem_set_elim hI.ws (wokk_keep ((hI.ws _ (List.mem_of_getElem? hw)).node n (.inl hn)) (fun n e => by cases e; rfl)
      (fun n e => by cases e) trivial)⟩

theorem newstep_pck {sv : SolverCfg S} {H : Nat → S → EInt} {B : Int} {s t : KSysC S} (h : NewStep sv.P.nbVars s t)
    (hI : PCK sv H B s.k) : PCK sv H B t.k := by
  cases h with
  | gwAborted s e i hw hc ha => exact ⟨hI.base, mem_set_elim hI.ws (wokk_free rfl rfl trivial)⟩
  | abortR s e i n lb k0 top hw hl htop => exact abort_pck hI hw rfl top
  | abortX s e i n lb k0 top hw hl htop => exact abort_pck hI hw rfl top
  | notifyExit s e i n c' hw hl hi hn =>
    refine ⟨by rw [(notify_spec hn).1]; exact hI.base, mem_set_elim (fun w hw' => ?_) (wokk_free rfl rfl trivial)⟩
    obtain ⟨w0, hw0, rfl⟩ := List.mem_map.mp hw'
    exact wokk_wake (hI.ws w0 hw0)

structure KInvC (sv : SolverCfg S) (H : Nat → S → EInt) (B : Int) (U : Nat) (s : KSysC S) : Prop where
  /-- the side conditions of the diagram theorems -/
  pck : PCK sv H B s.k
  /-- before the first abort: a reachable state of the system without cut-off -/
  reach : s.k.crit.base.abort = false → KPRun sv (KSys.init sv.P sv.dedup U) s.k
  /-- feasible problem: the bounds clauses that do not mention `best_ub` -/
  snd : ∀ opt, (H 0 sv.P.init).addI sv.P.initVal = some opt → Snd sv opt s.k
  /-- after an abort the recorded bound is not below the incumbent of an infeasible problem (`isize::MIN`) -/
  lbUb0 : s.k.crit.base.abort = true → (H 0 sv.P.init).addI sv.P.initVal = none → s.k.crit.base.bestLb ≤ s.k.crit.base.bestUb
  /-- only a worker that has run `abort_search` is in `exits` -/
  exitsUp : ∀ i ∈ s.exits, s.k.crit.base.abort = true

theorem init_kinvC {sv : SolverCfg S} {H : Nat → S → EInt} {B0 B : Int} (hwf : WellFormed sv H B0 B) (U : Nat) :
    KInvC sv H B U (KSysC.init sv.P sv.dedup U) := by
  have hI := init_kinvAll hwf U
  refine ⟨hI.pck, fun _ => KRun.refl _, fun opt hopt => ⟨(hI.cov opt hopt).lbOk, (hI.cov opt hopt).solOk, fun w hw => ?_⟩,
    (fun ha _ => by cases ha), (fun i hi => by cases hi)⟩
  have hw : w ∈ List.replicate U (KW.idle : KW S) := hw
  rw [List.eq_of_mem_replicate hw]
  trivial

theorem kpstepC_kinvC {sv : SolverCfg S} {H : Nat → S → EInt} {B0 B : Int} (hwf : WellFormed sv H B0 B) {U : Nat}
    {s t : KSysC S} (h : KPStepC sv s t) (hI : KInvC sv H B U s) : KInvC sv H B U t := by
  have hfl := h.flag
  -- the recorded bound from `KStepC.flag` alone, the other clauses step by step
  have h4 : PCK sv H B t.k ∧ (t.k.crit.base.abort = false → KPRun sv (KSys.init sv.P sv.dedup U) t.k) ∧
      (∀ opt, (H 0 sv.P.init).addI sv.P.initVal = some opt → Snd sv opt t.k) ∧
      ∀ i ∈ t.exits, t.k.crit.base.abort = true := by
    rcases h.toBase with ⟨hb, he, _⟩ | hn
    · refine ⟨kpstep_pck hwf hb hI.pck, fun ha => ?_, fun opt hopt => kpstep_snd hwf hopt hb hI.pck (hI.snd opt hopt),
        fun i hi => h.flag_stays (hI.exitsUp i (he ▸ hi))⟩
      rcases hfl with ⟨h1, _⟩ | ⟨i, n, top, _, _, _, e⟩
      · exact KRun.tail (hI.reach (h1.symm.trans ha)) hb
      · rw [e] at ha; cases ha
    · have hup := newstep_flag_up hn hI.exitsUp
      exact ⟨newstep_pck hn hI.pck, fun ha => absurd (hup.symm.trans ha) (by decide),
        fun opt hopt => newstep_snd hn (hI.snd opt hopt), fun _ _ => hup⟩
  refine ⟨h4.1, h4.2.1, h4.2.2.1, fun ha hi => ?_, h4.2.2.2⟩
  rcases hfl with ⟨h1, h2⟩ | ⟨i, n, top, _, _, _, e⟩
  · have ha' : s.k.crit.base.abort = true := h1.symm.trans ha
    rw [h2 ha', (h4.1.base.infeas hi).1, ← (hI.pck.base.infeas hi).1]
    exact hI.lbUb0 ha' hi
  · rw [e]; exact (abortSearch_facts s.k.crit n.ub top).2.2.2.2.1

end Ddo.ParCache
