import DdoModel.Proofs.ParDomClosed
import DdoModel.Proofs.ParDomBuilt
/-! # The parallel solver with the shared dominance checker — whole compilations atomic with respect to the store

The answers `okRd` / `okXd` (`Proofs/ParDomDefs.lean`): what `compile` answers from ANY store of exactly reached items (an
adversarial store: nothing is assumed about who wrote what when).
* what such compilations report (`okRd_facts`, `okXd_facts`), that they answer (`store0_ok`); with these the side conditions, the
  bookkeeping and progress of `Proofs/ParDomClosed.lean` at `okRd` / `okXd` (`step_dpcinv`, `step_dlayinv`, `qstep_progress`);
* `ansOk_d`: `AnsOk` for these answers — the compilation from a store that satisfies `StoreReach` is a chain of layer steps through
  filters that keep the protected family (`compile_chain`), so this is `ansOk_built` (`Proofs/ParDomBuilt.lean`): nothing else is
  needed of the shared store, hence nothing about the interleaving;
* `DPStep` (the shared store a component of the state, several nodes in progress): `dpstep_qstep`, `dpstep_store`, `dprun_inv` — its
  runs project to runs of the store-abstracted system and the shared store holds exactly reached items only in every reachable
  state. -/
set_option linter.unusedSectionVars false
set_option linter.unusedVariables false
namespace Ddo.ParDom
open Ddo Ddo.Truth Ddo.Closed Ddo.ParSys Ddo.ParClosed Ddo.C10
open Ddo.C01 (SolverCfg WellFormed toOut SolOf)
variable {S K : Type} [DecidableEq S] [DecidableEq K]

theorem okRd_facts {dv : DSolverCfg S K} {H : Nat → S → EInt} {B0 B : Int} (hwf : WellFormed dv.sv H B0 B)
    {n : SubP S} {lb : Int} {o : DDOut S} (hn : C01.NodeOk dv.sv.P n) (hok : okRd dv n lb o) :
    ∀ w, o.bestExact = some w → w ≤ B ∧ ∃ p, o.bestExactSol = some p := by
  obtain ⟨p0, hroot, hperm⟩ := hn
  obtain ⟨store, hst, hlen, hout, rfl⟩ := hok
  have hBN : NoClamp dv.sv.P dv.sv.R n.value B := hwf.bound.noClamp_at hwf.nv hroot
  intro w hw
  have hs : IsSol (dv.cfg .restricted n lb) p0 w (toOut (dv.compR store n lb).2.1).bestExactSol :=
    isSol_restricted (dv.cfg .restricted n lb) B p0 (Cache.init dv.sv.P.nbVars) store 0 none rfl hBN hroot hout w hw
  exact isSol_le' hwf _ rfl p0 w _ hs

theorem okXd_facts {dv : DSolverCfg S K} {H : Nat → S → EInt} {B0 B : Int} (hwf : WellFormed dv.sv H B0 B)
    {n : SubP S} {lb : Int} {o : DDOut S} (hn : C01.NodeOk dv.sv.P n) (hok : okXd dv n lb o) :
    (∀ w, o.bestExact = some w → w ≤ B ∧ ∃ p, o.bestExactSol = some p) ∧
    (∀ c ∈ o.cutset, C01.NodeOk dv.sv.P c ∧ n.depth < c.depth ∧ c.depth ≤ dv.sv.P.nbVars) := by
  obtain ⟨p0, hroot, hperm⟩ := hn
  obtain ⟨store, hst, hlen, hout, rfl⟩ := hok
  have hBN : NoClamp dv.sv.P dv.sv.R n.value B := hwf.bound.noClamp_at hwf.nv hroot
  refine ⟨fun w hw => ?_, fun c hc => ?_⟩
  · have hs : IsSol (dv.cfg .relaxed n lb) p0 w (toOut (dv.compX store n lb).2.1).bestExactSol :=
      isSol_relaxed_dom (dv.cfg .relaxed n lb) dv.D rfl B p0 (Cache.init dv.sv.P.nbVars) store 0 rfl rfl (hwf.width n)
        hBN hroot hout w hw
    exact isSol_le' hwf _ rfl p0 w _ hs
  · have hc : c ∈ (dv.compX store n lb).2.1.cutset := hc
    have h := cutset_node_facts (dv.cfg .relaxed n lb) B p0 (Cache.init dv.sv.P.nbVars) store 0 none hwf.nv hroot hperm hBN
      hout _ (.inl rfl) c hc
    exact ⟨h.1, h.2.1 rfl, h.2.2⟩

/-- a compilation of an exactly reached node from the empty store ends normally and its answer is an `okRd` / `okXd` answer -/
theorem store0_ok {dv : DSolverCfg S K} {H : Nat → S → EInt} {B0 B : Int} (hwf : WellFormed dv.sv H B0 B)
    {n : SubP S} (hn : C01.NodeOk dv.sv.P n) (lb : Int) :
    okRd dv n lb (toOut (dv.compR (DomStore.init dv.sv.P.nbVars) n lb).2.1) ∧
    okXd dv n lb (toOut (dv.compX (DomStore.init dv.sv.P.nbVars) n lb).2.1) := by
  obtain ⟨p0, hroot, _⟩ := hn
  have hlen : (DomStore.init dv.sv.P.nbVars : DomStore S K).layers.length = dv.sv.P.nbVars + 1 := by
    simp [DomStore.init]
  have hno : ∀ ct, (compile (dv.cfg ct n lb) (Cache.init dv.sv.P.nbVars) (DomStore.init dv.sv.P.nbVars) 0 none).1 = .ok :=
    fun ct => compile_no_crash_dom (dv.cfg ct n lb) dv.D rfl B p0 _ _ 0 rfl (hwf.width n) hwf.nv
      (hwf.bound.noClamp_at hwf.nv hroot) hroot hlen
  exact ⟨⟨_, storeReach_init dv.D dv.sv.P _, hlen, hno .restricted, rfl⟩,
    ⟨_, storeReach_init dv.D dv.sv.P _, hlen, hno .relaxed, rfl⟩⟩

theorem dpcinv_iff {dv : DSolverCfg S K} {H : Nat → S → EInt} {B : Int} {s : Sys S} :
    DPCInv dv H B s ↔ GPCInv dv H (okRd dv) (okXd dv) B s := by
  have hw : ∀ w : WSt S, DWInv dv B w ↔ GWInv (okRd dv) (okXd dv) B w := fun w => by cases w <;> exact Iff.rfl
  exact ⟨fun h => ⟨h.base, fun w m => ⟨(h.ws w m).node, (hw w).mp (h.ws w m).stage⟩⟩,
    fun h => ⟨h.base, fun w m => ⟨(h.ws w m).node, (hw w).mpr (h.ws w m).stage⟩⟩⟩

theorem step_dpcinv {dv : DSolverCfg S K} {H : Nat → S → EInt} {B0 B opt : Int} (hwf : WellFormed dv.sv H B0 B)
    (hopt : (H 0 dv.sv.P.init).addI dv.sv.P.initVal = some opt) {s t : Sys S}
    (h : Step dv.sv.dedup (okRd dv) (okXd dv) s t) (hI : DPCInv dv H B s) : DPCInv dv H B t :=
  dpcinv_iff.mpr (step_gpcinv hwf hopt (fun _ _ _ => okRd_facts hwf) (fun _ _ _ => okXd_facts hwf) h (dpcinv_iff.mp hI))

theorem init_dpcinv {dv : DSolverCfg S K} {H : Nat → S → EInt} {B0 B : Int} (hwf : WellFormed dv.sv H B0 B) (U : Nat) :
    DPCInv dv H B (Sys.init dv.sv.P none dv.sv.dedup U) :=
  dpcinv_iff.mpr (init_gpcinv _ _ hwf U)

theorem step_dlayinv {dv : DSolverCfg S K} {H : Nat → S → EInt} {B0 B : Int} (hwf : WellFormed dv.sv H B0 B) {s t : Sys S}
    (h : Step dv.sv.dedup (okRd dv) (okXd dv) s t) (hI : DPCInv dv H B s) (hL : LayInv dv.sv s) : LayInv dv.sv t :=
  step_glayinv hwf (fun _ _ _ => okXd_facts hwf) h (dpcinv_iff.mp hI) hL

/-- `gstep_progress` at `okRd` / `okXd`: both answer relations are inhabited (`store0_ok`) -/
theorem qstep_progress {dv : DSolverCfg S K} {H : Nat → S → EInt} {B0 B : Int} (hwf : WellFormed dv.sv H B0 B) {s : Sys S}
    (hI : DPCInv dv H B s) (hL : LayInv dv.sv s) (hnc : NoCut s) (hlive : ¬ AllDone s) : ∃ t, QStep dv s t :=
  gstep_progress hwf (fun n lb hn => ⟨_, (store0_ok hwf hn lb).1⟩) (fun n lb hn => ⟨_, (store0_ok hwf hn lb).2⟩)
    (dpcinv_iff.mp hI) hL hnc hlive

theorem qstep_lift {dv : DSolverCfg S K} {H : Nat → S → EInt} {B : Int} {s t : Sys S}
    (h : Step dv.sv.dedup (okRd dv) (okXd dv) s t) (hI : DPCInv dv H B s) :
    Step dv.sv.dedup (okRd' dv B) (okXd' dv B) s t :=
  step_mono h
    (fun i n lb o hw hok => ⟨hok, (hI.ws _ (List.mem_of_getElem? hw)).node n rfl, (hI.ws _ (List.mem_of_getElem? hw)).stage⟩)
    (fun i n lb o hw hok => ⟨hok, (hI.ws _ (List.mem_of_getElem? hw)).node n rfl, (hI.ws _ (List.mem_of_getElem? hw)).stage⟩)

theorem onP_root {dv : DSolverCfg S K} {H : Nat → S → EInt} {opt : Int} {Prot : Nat → S → Int → Prop}
    (hPr : Protected dv.D dv.sv.P H opt Prot) : OnP Prot (rootOf dv.sv.P) :=
  ⟨dv.sv.P.initVal, Int.le_refl _, hPr.root⟩

theorem dpstep_qstep {dv : DSolverCfg S K} {s t : DSys S K} (h : DPStep dv s t) (hnc : NoCut s.sys)
    (hst : StoreReach dv.D dv.sv.P s.store) (hlen : s.store.layers.length = dv.sv.P.nbVars + 1) : QStep dv s.sys t.sys := by
  cases h with
  | sec t' h hna => exact ⟨step_mono h (fun _ _ _ _ _ hf => hf.elim) (fun _ _ _ _ _ hf => hf.elim), hna⟩
  | compileR i n lb hw hok =>
    refine ⟨StepG.compileR s.sys i n lb (.ok _) hw (fun o ho => ?_), ?_⟩
    · injection ho with ho; subst ho; exact ⟨s.store, hst, hlen, hok, rfl⟩
    · exact mem_set_elim (P := fun w => ∀ n, w ≠ WSt.abortS n) (fun w hw n => (hnc.2 w hw n).1) (fun m => by simp)
  | compileX i n lb hw hok =>
    refine ⟨StepG.compileX s.sys i n lb (.ok _) hw (fun o ho => ?_), ?_⟩
    · injection ho with ho; subst ho; exact ⟨s.store, hst, hlen, hok, rfl⟩
    · exact mem_set_elim (P := fun w => ∀ n, w ≠ WSt.abortS n) (fun w hw n => (hnc.2 w hw n).1) (fun m => by simp)

/-- **the shared store holds exactly reached items only, after every step** (a compilation of a node reached exactly leaves such
    a store: `compile_storeReach`; the critical sections do not touch it) -/
theorem dpstep_store {dv : DSolverCfg S K} {H : Nat → S → EInt} {B0 B : Int} (hwf : WellFormed dv.sv H B0 B)
    {s t : DSys S K} (h : DPStep dv s t) (hI : DPCInv dv H B s.sys)
    (hst : StoreReach dv.D dv.sv.P s.store) (hlen : s.store.layers.length = dv.sv.P.nbVars + 1) :
    StoreReach dv.D dv.sv.P t.store ∧ t.store.layers.length = dv.sv.P.nbVars + 1 := by
  cases h with
  | sec t' h hna => exact ⟨hst, hlen⟩
  | compileR i n lb hw hok =>
    obtain ⟨p0, hroot, _⟩ := (hI.ws _ (List.mem_of_getElem? hw)).node n rfl
    exact compile_storeReach (dv.cfg .restricted n lb) dv.D rfl rfl hwf.nv B (hwf.bound.noClamp_at hwf.nv hroot)
      p0 (Cache.init dv.sv.P.nbVars) s.store 0 hroot hst hlen hok
  | compileX i n lb hw hok =>
    obtain ⟨p0, hroot, _⟩ := (hI.ws _ (List.mem_of_getElem? hw)).node n rfl
    exact compile_storeReach (dv.cfg .relaxed n lb) dv.D rfl rfl hwf.nv B (hwf.bound.noClamp_at hwf.nv hroot)
      p0 (Cache.init dv.sv.P.nbVars) s.store 0 hroot hst hlen hok

theorem compile_result (cfg : Cfg S K) (cache : Cache S) (store : DomStore S K) (polls : Nat)
    (hok : (compile cfg cache store polls none).1 = .ok) :
    (compile cfg cache store polls none).2.1 = resultOf cfg (compile cfg cache store polls none).2.2.2 := by
  obtain ⟨_, hdd, hres⟩ := Ddo.compile_ok cfg cache store polls none hok
  rw [hres, hdd]; rfl

/-- **`AnsOk` holds for the compilations of the diagram model run from any store of exactly reached items**: such a compilation is a
    chain (`compile_chain`), so this is `ansOk_built` -/
theorem ansOk_d {dv : DSolverCfg S K} {H : Nat → S → EInt} {B0 B opt : Int} {Prot : Nat → S → Int → Prop}
    (hwf : WellFormed dv.sv H B0 B) (hopt : (H 0 dv.sv.P.init).addI dv.sv.P.initVal = some opt)
    (hPr : Protected dv.D dv.sv.P H opt Prot) : AnsOk dv B opt Prot (okRd dv) (okXd dv) :=
  ansOk_built hwf hopt hPr
    (fun n lb o p0 hroot ⟨store, hst, hlen, hok, ho⟩ =>
      ⟨_, compile_chain (dv.cfg .restricted n lb) dv.D H opt Prot rfl rfl hwf.nv hPr B (hwf.bound.noClamp_at hwf.nv hroot) p0 _ store 0
        hroot hst hlen hok, ho.trans (congrArg toOut (compile_result _ _ store 0 hok))⟩)
    (fun n lb o p0 hroot ⟨store, hst, hlen, hok, ho⟩ =>
      ⟨_, compile_chain (dv.cfg .relaxed n lb) dv.D H opt Prot rfl rfl hwf.nv hPr B (hwf.bound.noClamp_at hwf.nv hroot) p0 _ store 0
        hroot hst hlen hok, ho.trans (congrArg toOut (compile_result _ _ store 0 hok))⟩)
    (fun n lb hn => ⟨_, (store0_ok hwf hn lb).1⟩) (fun n lb hn => ⟨_, (store0_ok hwf hn lb).2⟩)

theorem dprun_inv {dv : DSolverCfg S K} {H : Nat → S → EInt} {B0 B opt : Int} {Prot : Nat → S → Int → Prop}
    (hwf : WellFormed dv.sv H B0 B) (hopt : (H 0 dv.sv.P.init).addI dv.sv.P.initVal = some opt)
    (hPr : Protected dv.D dv.sv.P H opt Prot) (U : Nat) {t : DSys S K} (h : DPRun dv (DSys.init dv U) t) :
    GRun dv.sv.dedup (okRd dv) (okXd dv) (Sys.init dv.sv.P none dv.sv.dedup U) t.sys ∧
    StoreReach dv.D dv.sv.P t.store ∧ t.store.layers.length = dv.sv.P.nbVars + 1 := by
  induction h with
  | refl => exact ⟨GRun.refl _, storeReach_init dv.D dv.sv.P _, by simp [DSys.init, DomStore.init]⟩
  | tail _ hst ih =>
    obtain ⟨hrun, hs, hl⟩ := ih
    have hI := grun_gall hwf hopt hPr (ansOk_d hwf hopt hPr) hrun
    have hq := dpstep_qstep hst hI.noCut hs hl
    exact ⟨GRun.tail hrun hq, dpstep_store hwf hst (dpcinv_iff.mpr hI.pc) hs hl⟩

end Ddo.ParDom
