import DdoModel.Proofs.ParCacheSearch
import DdoModel.Proofs.ParCacheCutSys
/-! # A schedule search for `abort_search` bounds below the optimum (executable code only; no theorem depends on it)

On top of the driver of `Proofs/ParCacheSearch.lean` (`ParCache.Search`: tables of the D14 family, their mutants, random tables;
pseudo-random schedules of `nextK`, which only takes steps of `KPStep`): at EVERY state of every run, if nobody is inside
`get_workload` and some worker is inside a compilation, the bound `abort_search` would record there
(`abortBoundAt`: `ParCrit.abortSearch` with the best bound of the fringe) is compared with the optimum of the table.
`freeze = 1`: a worker about to publish an improving value, or about to enqueue its cut-set, is only scheduled when nobody else
can move (it widens the window of the finding).  Entry point `cutSearchMain` (run it from a scratch file
`def main := Ddo.ParCache.CutSearch.cutSearchMain` with `lake env lean --run`).

Recorded results (interpreter, `U ∈ {2, 3}`, 4 configurations, bursts 0 / 2 / 8 / 30):
* `1 14 400 6 6 1` (mutants, freeze): 400 tables, 76 800 runs, **12 runs with a bound below the optimum**;
* `1 13 400 6 8 0` (mutants, no freeze): 400 tables, 76 800 runs, **7**;
* `0 1 3 20 4 1` (the three base tables): 1 920 runs, 0;  random tables (`2 …`, another freeze policy): 102 400 runs, 0.
All violating tables are mutants of `Layered.Hand.T`.  The run of `Proofs/ParCacheCutWitness.lean` is one of them
(`U = 2`, plain fringe, last-exact-layer cut-sets, every read fresh). -/
namespace Ddo.ParCache.CutSearch
open Ddo Ddo.ParCache Ddo.ParCache.Search Ddo.C09 Ddo.C09.Layered Ddo.C09.NoCapSearch Ddo.C01

def fringeTop (fr : List (SubP Int)) : Option Int :=
  match fr with
  | [] => none
  | c :: r => some (r.foldl (fun a x => max a x.ub) c.ub)

/-- the smallest bound an `abort_search` enabled now would record (none: no abort enabled) -/
def abortBoundAt (s : KSys Int) : Option (Nat × Int) :=
  if !lockFreeB s then none else
  let top := fringeTop s.crit.base.fringe
  (List.range s.ws.length).foldl (fun acc i =>
    let nd : Option (SubP Int) := match (s.ws[i]? : Option (KW Int)) with
      | some (KW.compR n _ _) => some n
      | some (KW.compX n _ _) => some n
      | _ => none
    match nd with
    | some n =>
      let b := (s.crit.abortSearch n.ub top).base.bestUb
      match acc with
      | some (_, b0) => if b < b0 then some (i, b) else acc
      | none => some (i, b)
    | none => acc) none

def viol (opt : Int) (s : KSys Int) : Option (Nat × Int) :=
  match abortBoundAt s with
  | some (i, b) => if b < opt then some (i, b) else none
  | none => none

/-- the worker is about to publish an improving value, or about to enqueue: keep it frozen -/
def frozen (s : KSys Int) (i : Nat) : Bool :=
  match (s.ws[i]? : Option (KW Int)) with
  | some (KW.wrR _ _ o _ _ []) => (match o.bestExact with | some v => decide (v > s.crit.base.bestLb) | none => false)
  | some (KW.wrX _ _ o _ _ []) => (match o.bestExact with | some v => decide (v > s.crit.base.bestLb) | none => false)
  | some (KW.enq _ _ _ _ _) => true
  | _ => false

def randomChk (fz : Bool) (sv : SolverCfg Int) (opt : Int) (U burst : Nat) : Nat → Nat → Nat → Drv → Option (Drv × Nat × Int) × Nat
  | 0, g, _, _ => (none, g)
  | f + 1, g, cur, d =>
    match viol opt d.s with
    | some (i, b) => (some (d, i, b), g)
    | none =>
    if allDoneB d.s then (none, g) else
    let g := lcg g
    let keep := (g >>> 33) % (burst + 1) != 0
    let g := lcg g
    let w := if keep then cur else (g >>> 33) % U
    let g := lcg g
    let pk := [0, 1, 2, 5].getD ((g >>> 33) % 4) 0
    match (if fz && frozen d.s w then none else d.step sv w (.idx pk)) with
    | some d' => randomChk fz sv opt U burst f g w d'
    | none =>
      match (List.range U).findSome? (fun j => let i := (w + 1 + j) % U; (if fz && frozen d.s i then none else d.step sv i (.idx pk)).map (fun d' => (i, d'))) with
      | some (i, d') => randomChk fz sv opt U burst f g i d'
      | none =>
        match (List.range U).findSome? (fun j => let i := (w + 1 + j) % U; (d.step sv i (.idx pk)).map (fun d' => (i, d'))) with
        | some (i, d') => randomChk fz sv opt U burst f g i d'
        | none => (none, g)


def oneTab (fz : Bool) (T : Tab) (ws : List Nat) (nrand seed : Nat) (found0 runs0 : Nat) : IO (Nat × Nat) := do
  let mut found := found0
  let mut runs := runs0
  let opt := optimum T
  for (dedup, kind) in configs do
    for U in [2, 3] do
      let sv := Layered.sv T ws dedup kind
      let s0 := KSys.init (prob T) dedup U
      let mut g := lcg (seed + 17)
      for burst in [0, 2, 8, 30] do
        for _ in List.range nrand do
          let (r, g') := randomChk fz sv opt U burst 20000 g 0 { s := s0 }
          g := lcg g'
          runs := runs + 1
          match r with
          | some (d, i, b) =>
            found := found + 1
            if found ≤ 5 then
              IO.println s!"VIOL bound={b} opt={opt} lb={d.s.crit.base.bestLb} worker={i} tags={d.s.ws.map tagK} ubs={d.s.crit.upperBounds} steps={d.steps} {showCfg T ws dedup kind U} sched={d.rev.reverse}"
          | none => pure ()
  return (found, runs)

/-- `args = [mode (0: the three base tables, 1: mutants of them, 2: random tables), seed, count, nrand, kmax, freeze (0 / 1)]` -/
def cutSearchMain (args : List String) : IO UInt32 := do
  let a := args.map String.toNat!
  let mode := a.getD 0 0
  let seed := a.getD 1 1
  let count := a.getD 2 3
  let nrand := a.getD 3 5
  let kmax := a.getD 4 4
  let fz := a.getD 5 1 != 0
  let mut r : Rng := ⟨seed.toUInt64 * 0x2545F4914F6CDD1D + 99⟩
  let mut tables := 0
  let mut tries := 0
  let mut found := 0
  let mut runs := 0
  while tables < count && tries < count * 400 do
    tries := tries + 1
    let mut cand : Option (Tab × List Nat) := none
    if mode = 0 then
      cand := bases[tables]?
      if cand.isNone then break
    else if mode = 1 then
      let (r1, b) := r.below bases.length
      let (T0, ws0) := bases.getD b (Layered.Counter.T, Layered.Counter.ws)
      let (r2, k) := r1.below kmax
      let (r3, T, ws) := mutate r2 T0 ws0 (k + 1)
      r := r3
      let hmax := (List.range (T.n + 1)).foldl (fun a j => (List.range T.m).foldl (fun a s => max a (hfrom T j s)) a) 0
      cand := some ({ T with rub := max T.rub hmax }, ws)
    else
      let (r1, n) := r.below 4
      let (r2, m) := r1.below 3
      let (r3, md) := r2.below 3
      let (r4, mo) := r3.below 3
      let (r5, T) := genTab r4 (n + 4) (m + 2) md (mo = 0)
      let (r6, ws) := genWs r5 T
      r := r6
      cand := some (T, ws)
    match cand with
    | none => pure ()
    | some (T, ws) =>
      if check T (costBound T) then
        tables := tables + 1
        let (f, rn) ← oneTab fz T ws nrand (seed * 1000 + tables) found runs
        found := f
        runs := rn
        if tables % 10 = 0 then
          IO.println s!"progress tables={tables} runs={runs} found={found}"
          (← IO.getStdout).flush
  IO.println s!"FINAL mode={mode} tables={tables} runs={runs} found={found}"
  return 0

end Ddo.ParCache.CutSearch
