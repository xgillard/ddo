import DdoModel.Proofs.AbsSeq
/-! Data-level coverage invariant of the parallel solver (C03), as a transition system
    whose steps are the critical sections of `parallel.rs` and the lock-free compilations.
    Reuses the contracts of `Proofs/AbsSeq.lean`.  No cache, no dominance, no cutoff.  The sequential iteration
    `AbsSeq.step` is the schedule of one worker between two pops, so `AbsSeq.step_inv` is proved here, from `step_inv`. -/
namespace Ddo.ParCover
open Ddo.AbsSeq

/-- what a worker knows about the node it holds -/
inductive Stage
  | got                                  -- popped, nothing read yet
  | readR (lb0 : Int)                    -- best_lb read before the restricted compilation
  | doneR (lb0 : Int) (r : DDOut)        -- restricted compilation finished (best not yet updated)
  | mid                                  -- restricted not exact, best updated
  | readX (lb1 : Int)
  | doneX (lb1 : Int) (x : DDOut)        -- relaxed compilation finished (best not yet updated)
  | updX (lb1 : Int) (x : DDOut)         -- best updated with the relaxed diagram, cut-set not yet enqueued

structure PSt where
  fringe : List Sub
  held   : List (Sub × Stage)
  lb     : Int

section
variable (Phi : Nat → EInt) (opt : Int) (Ach : Int → Prop)

/-- one step; `pre ++ (N, st) :: post` is the held list with the acting worker's entry singled out -/
inductive Step : PSt → PSt → Prop
  | pop (s : PSt) (N : Sub) (a b : List Sub) : s.fringe = a ++ N :: b →
      Step s ⟨a ++ b, (N, .got) :: s.held, s.lb⟩
  /-- the popped node is the fringe maximum and its ub is not above lb: drop everything -/
  | clear (s : PSt) (N : Sub) : N ∈ s.fringe → (∀ c ∈ s.fringe, c.ub ≤ N.ub) → N.ub ≤ s.lb →
      Step s ⟨[], s.held, s.lb⟩
  | readR (s : PSt) (N : Sub) (pre post) : s.held = pre ++ (N, .got) :: post →
      Step s ⟨s.fringe, pre ++ (N, if N.ub ≤ s.lb then .got else .readR s.lb) :: post, s.lb⟩
  /-- node not worth processing: finished without compiling -/
  | skip (s : PSt) (N : Sub) (pre post) : s.held = pre ++ (N, .got) :: post → N.ub ≤ s.lb →
      Step s ⟨s.fringe, pre ++ post, s.lb⟩
  | compileR (s : PSt) (N : Sub) (lb0 : Int) (r : DDOut) (pre post) : s.held = pre ++ (N, .readR lb0) :: post →
      CompileOk Phi opt Ach N lb0 r →
      Step s ⟨s.fringe, pre ++ (N, .doneR lb0 r) :: post, s.lb⟩
  | updateR (s : PSt) (N : Sub) (lb0 : Int) (r : DDOut) (pre post) : s.held = pre ++ (N, .doneR lb0 r) :: post →
      Step s ⟨s.fringe, if r.isExact then pre ++ post else pre ++ (N, .mid) :: post, upd s.lb r.bestExact⟩
  | readX (s : PSt) (N : Sub) (pre post) : s.held = pre ++ (N, .mid) :: post →
      Step s ⟨s.fringe, pre ++ (N, .readX s.lb) :: post, s.lb⟩
  | compileX (s : PSt) (N : Sub) (lb1 : Int) (x : DDOut) (pre post) : s.held = pre ++ (N, .readX lb1) :: post →
      CompileOk Phi opt Ach N lb1 x → (x.isExact = false → CutsetOk Phi opt Ach N lb1 x) →
      Step s ⟨s.fringe, pre ++ (N, .doneX lb1 x) :: post, s.lb⟩
  | updateX (s : PSt) (N : Sub) (lb1 : Int) (x : DDOut) (pre post) : s.held = pre ++ (N, .doneX lb1 x) :: post →
      Step s ⟨s.fringe, if x.isExact then pre ++ post else pre ++ (N, .updX lb1 x) :: post, upd s.lb x.bestExact⟩
  | enqueue (s : PSt) (N : Sub) (lb1 : Int) (x : DDOut) (pre post) : s.held = pre ++ (N, .updX lb1 x) :: post →
      Step s ⟨s.fringe ++ keepCut s.lb x.cutset, pre ++ post, s.lb⟩

/-- what is known about a held entry -/
def StageOk (lb : Int) : Sub × Stage → Prop
  | (_, .got) => True
  | (N, .readR lb0) => lb0 ≤ lb ∧ N.ub > lb0
  | (N, .doneR lb0 r) => lb0 ≤ lb ∧ CompileOk Phi opt Ach N lb0 r
  | (_, .mid) => True
  | (_, .readX lb1) => lb1 ≤ lb
  | (N, .doneX lb1 x) => lb1 ≤ lb ∧ CompileOk Phi opt Ach N lb1 x ∧ (x.isExact = false → CutsetOk Phi opt Ach N lb1 x)
  | (N, .updX lb1 x) => lb1 ≤ lb ∧ x.isExact = false ∧ CutsetOk Phi opt Ach N lb1 x ∧
      (∀ w, x.bestExact = some w → w ≤ lb)

structure PInv (s : PSt) : Prop where
  goodF : ∀ c ∈ s.fringe, Good Phi opt Ach c
  goodH : ∀ e ∈ s.held, Good Phi opt Ach e.1
  stage : ∀ e ∈ s.held, StageOk Phi opt Ach s.lb e
  lbOk  : s.lb ≤ opt
  cover : opt > s.lb → ∃ c, (c ∈ s.fringe ∨ ∃ st, (c, st) ∈ s.held) ∧ Phi c.id = some opt ∧ opt ≤ c.ub

theorem stageOk_mono (lb lb' : Int) (h : lb ≤ lb') (e : Sub × Stage)
    (he : StageOk Phi opt Ach lb e) : StageOk Phi opt Ach lb' e := by
  obtain ⟨N, st⟩ := e
  cases st with
  | readR lb0 | doneR lb0 r | doneX lb1 x => exact ⟨Int.le_trans he.1 h, he.2⟩
  | readX lb1 => exact Int.le_trans he h
  | updX lb1 x => exact ⟨Int.le_trans he.1 h, he.2.1, he.2.2.1, fun w hw => Int.le_trans (he.2.2.2 w hw) h⟩
  | _ => trivial

theorem upd_le_opt (lb : Int) (o : Option Int) (hl : lb ≤ opt) (ho : ∀ w, o = some w → w ≤ opt) :
    upd lb o ≤ opt :=
  upd_le lb o hl ho

theorem mem_split_iff {α : Type} {l pre post : List α} {x y : α} (h : l = pre ++ x :: post) :
    y ∈ l ↔ y = x ∨ y ∈ pre ++ post := by
  subst h
  simp only [List.mem_append, List.mem_cons]
  constructor
  · rintro (h | h | h)
    · exact Or.inr (Or.inl h)
    · exact Or.inl h
    · exact Or.inr (Or.inr h)
  · rintro (h | h | h)
    · exact Or.inr (Or.inl h)
    · exact Or.inl h
    · exact Or.inr (Or.inr h)

theorem mem_self_split {α : Type} {l pre post : List α} {x : α} (h : l = pre ++ x :: post) : x ∈ l :=
  (mem_split_iff h).mpr (Or.inl rfl)

theorem mem_split {α : Type} {l pre post : List α} {x y : α} (h : l = pre ++ x :: post) (hy : y ∈ l) :
    y = x ∨ y ∈ pre ++ post :=
  (mem_split_iff h).mp hy

theorem mem_of_split {α : Type} {l pre post : List α} {x y : α} (h : l = pre ++ x :: post) (hy : y ∈ pre ++ post) :
    y ∈ l :=
  (mem_split_iff h).mpr (Or.inr hy)

theorem forall_replace {α : Type} {P : α → Prop} {l pre post : List α} {x x' : α}
    (hl : l = pre ++ x :: post) (h : ∀ e ∈ l, P e) (hx : P x') : ∀ e ∈ pre ++ x' :: post, P e := by
  intro e he
  rcases mem_split rfl he with rfl | he
  · exact hx
  · exact h e (mem_of_split hl he)

theorem forall_remove {α : Type} {P : α → Prop} {l pre post : List α} {x : α}
    (hl : l = pre ++ x :: post) (h : ∀ e ∈ l, P e) : ∀ e ∈ pre ++ post, P e :=
  fun e he => h e (mem_of_split hl he)

theorem forall_weaken {α : Type} {P Q : α → Prop} {l : List α} (h : ∀ e ∈ l, P e) (hpq : ∀ e, P e → Q e) :
    ∀ e ∈ l, Q e := fun e he => hpq e (h e he)

theorem held_replace {l pre post : List (Sub × Stage)} {N c : Sub} {s0 st : Stage} (s1 : Stage)
    (hl : l = pre ++ (N, s0) :: post) (hc : (c, st) ∈ l) : ∃ st', (c, st') ∈ pre ++ (N, s1) :: post := by
  rcases mem_split hl hc with e | hc
  · injection e with e _; subst e; exact ⟨s1, mem_self_split rfl⟩
  · exact ⟨st, mem_of_split rfl hc⟩

theorem held_remove {l pre post : List (Sub × Stage)} {N c : Sub} {s0 st : Stage}
    (hl : l = pre ++ (N, s0) :: post) (hc : (c, st) ∈ l) : c = N ∨ ∃ st', (c, st') ∈ pre ++ post := by
  rcases mem_split hl hc with e | hc
  · injection e with e _; exact Or.inl e
  · exact Or.inr ⟨st, hc⟩

theorem cover_restage {fr : List Sub} {l pre post : List (Sub × Stage)} {N : Sub} {s0 : Stage} (s1 : Stage) {lb : Int}
    (hl : l = pre ++ (N, s0) :: post)
    (hcov : opt > lb → ∃ c, (c ∈ fr ∨ ∃ st, (c, st) ∈ l) ∧ Phi c.id = some opt ∧ opt ≤ c.ub) :
    opt > lb → ∃ c, (c ∈ fr ∨ ∃ st, (c, st) ∈ pre ++ (N, s1) :: post) ∧ Phi c.id = some opt ∧ opt ≤ c.ub := by
  intro hgt
  obtain ⟨c, hc, h1, h2⟩ := hcov hgt
  rcases hc with hc | ⟨st, hc⟩
  · exact ⟨c, Or.inl hc, h1, h2⟩
  · exact ⟨c, Or.inr (held_replace s1 hl hc), h1, h2⟩

theorem inv_restage {s : PSt} (hi : PInv Phi opt Ach s) {N : Sub} {s0 : Stage} {pre post : List (Sub × Stage)}
    (hh : s.held = pre ++ (N, s0) :: post) (s1 : Stage) {lb' : Int} (hle : s.lb ≤ lb') (hlb' : lb' ≤ opt)
    (hs1 : StageOk Phi opt Ach lb' (N, s1)) : PInv Phi opt Ach ⟨s.fringe, pre ++ (N, s1) :: post, lb'⟩ :=
  ⟨hi.goodF, forall_replace hh hi.goodH (show Good Phi opt Ach N from hi.goodH _ (mem_self_split hh)),
    forall_replace hh (forall_weaken hi.stage (stageOk_mono Phi opt Ach _ _ hle)) hs1, hlb',
    cover_restage Phi opt _ hh (fun hgt => hi.cover (Int.lt_of_le_of_lt hle hgt))⟩

/-- `maybe_update_best` with a diagram `o` of the held node `N` that meets the contract: the entry leaves if `o` is exact,
    otherwise it moves to a stage `s1` that holds under the new incumbent -/
theorem inv_update {s : PSt} (hi : PInv Phi opt Ach s) {N : Sub} {s0 : Stage} {pre post : List (Sub × Stage)}
    (hh : s.held = pre ++ (N, s0) :: post) {lb0 : Int} {o : DDOut} (hlb0 : lb0 ≤ s.lb)
    (hok : CompileOk Phi opt Ach N lb0 o) (s1 : Stage)
    (hs1 : o.isExact = false → StageOk Phi opt Ach (upd s.lb o.bestExact) (N, s1)) :
    PInv Phi opt Ach ⟨s.fringe, if o.isExact then pre ++ post else pre ++ (N, s1) :: post, upd s.lb o.bestExact⟩ := by
  have hlb' : upd s.lb o.bestExact ≤ opt := upd_le_opt opt _ _ hi.lbOk (fun w hw => (hok.1 w hw).2)
  have hmono : s.lb ≤ upd s.lb o.bestExact := upd_ge _ _
  by_cases hoe : o.isExact = true
  · rw [if_pos hoe]
    refine ⟨hi.goodF, forall_remove hh hi.goodH,
      forall_remove hh (forall_weaken hi.stage (stageOk_mono Phi opt Ach _ _ hmono)), hlb', fun hgt => ?_⟩
    have hgt : opt > upd s.lb o.bestExact := hgt
    obtain ⟨c, hc, h1, h2⟩ := hi.cover (by omega)
    rcases hc with hc | ⟨st, hc⟩
    · exact ⟨c, Or.inl hc, h1, h2⟩
    · rcases held_remove hh hc with rfl | hc
      · -- the optimum is below `N`, the exact diagram of `N` reports it, the incumbent is at least that
        have := hok.2 hoe opt h1 (by omega)
        rw [this] at hgt
        have := upd_ge_some s.lb opt
        omega
      · exact ⟨c, Or.inr hc, h1, h2⟩
  · rw [if_neg hoe]
    exact inv_restage Phi opt Ach hi hh s1 hmono hlb' (hs1 (by simpa using hoe))

theorem step_inv {s t : PSt} (h : Step Phi opt Ach s t) (hi : PInv Phi opt Ach s) : PInv Phi opt Ach t := by
  have hst := hi.stage
  cases h with
  | pop N a b hf =>
    refine ⟨fun c hc => hi.goodF c (mem_of_split hf hc), ?_, ?_, hi.lbOk, ?_⟩
    · intro e he
      cases he with
      | head => exact hi.goodF N (mem_self_split hf)
      | tail _ he => exact hi.goodH e he
    · intro e he
      cases he with
      | head => trivial
      | tail _ he => exact hst e he
    · intro hgt
      obtain ⟨c, hc, h1, h2⟩ := hi.cover hgt
      rcases hc with hc | ⟨st, hc⟩
      · rcases mem_split hf hc with rfl | hc
        · exact ⟨c, Or.inr ⟨.got, List.mem_cons_self⟩, h1, h2⟩
        · exact ⟨c, Or.inl hc, h1, h2⟩
      · exact ⟨c, Or.inr ⟨st, List.mem_cons_of_mem _ hc⟩, h1, h2⟩
  | clear N hN hmax hub =>
    refine ⟨(fun c hc => by cases hc), hi.goodH, hst, hi.lbOk, fun hgt => ?_⟩
    have hgt : opt > s.lb := hgt
    obtain ⟨c, hc, h1, h2⟩ := hi.cover hgt
    rcases hc with hc | hc
    · have := hmax c hc; omega
    · exact ⟨c, Or.inr hc, h1, h2⟩
  | readR N pre post hh =>
    refine inv_restage Phi opt Ach hi hh _ (Int.le_refl _) hi.lbOk ?_
    split
    · trivial
    · exact ⟨Int.le_refl _, by omega⟩
  | skip N pre post hh hub =>
    refine ⟨hi.goodF, forall_remove hh hi.goodH, forall_remove hh hst, hi.lbOk, fun hgt => ?_⟩
    have hgt : opt > s.lb := hgt
    obtain ⟨c, hc, h1, h2⟩ := hi.cover hgt
    rcases hc with hc | ⟨st, hc⟩
    · exact ⟨c, Or.inl hc, h1, h2⟩
    · rcases held_remove hh hc with rfl | hc
      · omega
      · exact ⟨c, Or.inr hc, h1, h2⟩
  | compileR N lb0 r pre post hh hok =>
    have hthis : lb0 ≤ s.lb ∧ N.ub > lb0 := hst _ (mem_self_split hh)
    exact inv_restage Phi opt Ach hi hh (.doneR lb0 r) (Int.le_refl _) hi.lbOk ⟨hthis.1, hok⟩
  | updateR N lb0 r pre post hh =>
    obtain ⟨hlb0, hok⟩ : lb0 ≤ s.lb ∧ CompileOk Phi opt Ach N lb0 r := hst _ (mem_self_split hh)
    exact inv_update Phi opt Ach hi hh hlb0 hok .mid (fun _ => trivial)
  | readX N pre post hh => exact inv_restage Phi opt Ach hi hh (.readX s.lb) (Int.le_refl _) hi.lbOk (Int.le_refl s.lb)
  | compileX N lb1 x pre post hh hok hcut =>
    have hthis : lb1 ≤ s.lb := hst _ (mem_self_split hh)
    exact inv_restage Phi opt Ach hi hh (.doneX lb1 x) (Int.le_refl _) hi.lbOk ⟨hthis, hok, hcut⟩
  | updateX N lb1 x pre post hh =>
    obtain ⟨hlb1, hok, hcut⟩ : lb1 ≤ s.lb ∧ CompileOk Phi opt Ach N lb1 x ∧ (x.isExact = false → CutsetOk Phi opt Ach N lb1 x) :=
      hst _ (mem_self_split hh)
    exact inv_update Phi opt Ach hi hh hlb1 hok (.updX lb1 x)
      (fun hxe => ⟨Int.le_trans hlb1 (upd_ge _ _), hxe, hcut hxe, fun w hw => hw ▸ upd_ge_some _ _⟩)
  | enqueue N lb1 x pre post hh =>
    obtain ⟨hlb1, hxe, hC, hbest⟩ : lb1 ≤ s.lb ∧ x.isExact = false ∧ CutsetOk Phi opt Ach N lb1 x ∧
      (∀ w, x.bestExact = some w → w ≤ s.lb) := hst _ (mem_self_split hh)
    refine ⟨?_, forall_remove hh hi.goodH, forall_remove hh hst, hi.lbOk, fun hgt => ?_⟩
    · intro c hc
      rcases List.mem_append.mp hc with hc | hc
      · exact hi.goodF c hc
      · exact hC.1 c (List.mem_filter.mp hc).1
    · have hgt : opt > s.lb := hgt
      obtain ⟨c, hc, h1, h2⟩ := hi.cover hgt
      rcases hc with hc | ⟨st, hc⟩
      · exact ⟨c, Or.inl (List.mem_append_left _ hc), h1, h2⟩
      · rcases held_remove hh hc with rfl | hc
        · obtain ⟨c', hc', h⟩ := cutset_cover Phi opt Ach hC hlb1 hbest h1 hgt
          exact ⟨c', Or.inl (List.mem_append_right _ hc'), h⟩
        · exact ⟨c, Or.inr hc, h1, h2⟩

/-- at completion (nothing open, nothing held) the incumbent is the optimum -/
theorem final (s : PSt) (hi : PInv Phi opt Ach s) (hf : s.fringe = []) (hh : s.held = []) : s.lb = opt := by
  have := hi.lbOk
  by_cases hgt : opt > s.lb
  · obtain ⟨c, hc, _, _⟩ := hi.cover hgt
    rcases hc with hc | ⟨st, hc⟩
    · rw [hf] at hc; cases hc
    · rw [hh] at hc; cases hc
  · omega
end
end Ddo.ParCover

namespace Ddo.AbsSeq
open Ddo.ParCover
section
variable (Phi : Nat → EInt) (opt : Int) (Ach : Int → Prop)

/-- the sequential invariant is the parallel one with nothing in hand -/
theorem inv_iff_pinv (fr : List Sub) (lb : Int) : Inv Phi opt Ach fr lb ↔ PInv Phi opt Ach ⟨fr, [], lb⟩ := by
  constructor
  · intro h
    refine ⟨h.good, fun _ he => (by cases he), fun _ he => (by cases he), h.lbOk, fun hgt => ?_⟩
    obtain ⟨c, hc, h'⟩ := h.cover hgt
    exact ⟨c, Or.inl hc, h'⟩
  · intro h
    refine ⟨h.goodF, h.lbOk, fun hgt => ?_⟩
    obtain ⟨c, hc | ⟨_, hc⟩, h'⟩ := h.cover hgt
    · exact ⟨c, hc, h'⟩
    · cases hc

/-- one iteration of the sequential loop is what a single worker does between two pops: `pop`, then `skip`, or `readR`,
    `compileR`, `updateR` and, as long as the diagram in hand is not exact, `readX`, `compileX`, `updateX`, `enqueue` -/
theorem step_inv (rest : List Sub) (lb : Int) (N : Sub) (r x : DDOut)
    (hinv : Inv Phi opt Ach (N :: rest) lb)
    (hr : CompileOk Phi opt Ach N lb r)
    (hx : CompileOk Phi opt Ach N (upd lb r.bestExact) x)
    (hcut : x.isExact = false → CutsetOk Phi opt Ach N (upd lb r.bestExact) x) :
    Inv Phi opt Ach (step rest lb N r x).fringe (step rest lb N r x).lb := by
  have P : ∀ {s t : PSt}, ParCover.Step Phi opt Ach s t → PInv Phi opt Ach s → PInv Phi opt Ach t :=
    fun h => ParCover.step_inv Phi opt Ach h
  have h1 := P (.pop _ N [] rest rfl) ((inv_iff_pinv Phi opt Ach _ _).mp hinv)
  rw [inv_iff_pinv]
  unfold step
  by_cases hub : N.ub ≤ lb
  · rw [if_pos hub]
    exact P (.skip _ N [] [] rfl hub) h1
  · rw [if_neg hub]
    have h2 := P (.readR _ N [] [] rfl) h1
    rw [if_neg hub] at h2
    have h4 := P (.updateR _ N lb r [] [] rfl) (P (.compileR _ N lb r [] [] rfl hr) h2)
    dsimp only
    by_cases hre : r.isExact = true
    · rw [if_pos hre] at h4 ⊢
      exact h4
    · rw [if_neg hre] at h4 ⊢
      have h7 := P (.updateX _ N _ x [] [] rfl) (P (.compileX _ N _ x [] [] rfl hx hcut) (P (.readX _ N [] [] rfl) h4))
      by_cases hxe : x.isExact = true
      · rw [if_pos hxe] at h7 ⊢
        exact h7
      · rw [if_neg hxe] at h7 ⊢
        exact P (.enqueue _ N _ x [] [] rfl) h7
end
end Ddo.AbsSeq
