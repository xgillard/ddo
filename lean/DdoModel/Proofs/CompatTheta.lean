import DdoModel.Proofs.CompatProcess
import DdoModel.Proofs.CompatFields
import DdoModel.Proofs.CacheClosedCut
/-! C10e — **the fields `JCTheta`, `JCRoot`, `JCUb` of the joint contract (`Proofs/CompatProcess.lean`) from the top-down invariant with
both filters**: the reading of the finished diagram (`Proofs/ThetaCtx.lean`, `ThetaCtxCover.lean`: `CtxG`; core `gtj_all_s`, `npj_all_at` of
`Proofs/ThetaCore.lean`) applied to a compilation with cache and dominance checker, for the pseudo-potential `gpot` and the level
`opt - 1`.

* `CtxJ.theta_sound`: soundness of the recorded thresholds on `finalize` (`CtxJ.toG`).
* `BuiltOkJoint` (proved: `builtOkJoint`, `Proofs/CompatBuilt.lean`): the statement about the compilation *loop* — every relaxed
  compilation with cache and checker that satisfies `CompPre` ends on a diagram satisfying `BuiltOkJ` (`TInvJ` of
  `Proofs/BuildInv.lean`: `Ddo.Theta.TInv` with the class `Drop` of the nodes dropped by `_filter_with_dominance`).
  `BuiltOkJointK` (proved: `builtOkJointK`, `Proofs/CompatBuilt.lean`) adds the two facts `KFactsJ` (`unmarked`, `arcsLive`) that the
  bounds of the cut-set nodes need: a marked node below the terminal layer was handed to the expansion, hence is not a node dropped
  by the checker.
* The fields for relaxed compilations (`jc…X_of`) and, through `…_of_relaxed` of `Proofs/CompatFields.lean` (an exact restricted
  compilation is the relaxed compilation of the same input), the fields themselves. -/
set_option linter.unusedSectionVars false
set_option linter.unusedVariables false

namespace Ddo.C10d
open Ddo Ddo.C01 Ddo.Closed Ddo.C09 Ddo.C10 Ddo.C10c Ddo.Truth Ddo.Theta Ddo.Bounds
variable {S K : Type} [DecidableEq S] [DecidableEq K]

section
variable {cfg : Cfg S K} {H : Nat → S → EInt} {B : Int} {cache : Cache S} {p0 : List Dec} {fin : DD S K}
  {Live Drop : Nat → Nat → Prop} {dd : DD S K} {O : Int}

theorem CtxJ.ffj (hx : CtxJ cfg H B cache O p0 fin Live Drop dd) (e : Bool) :
    FFJ cfg H B cache (finalize cfg (finalizeLayers fin) e).2 dd.layers.length
      (bkOf cfg.lb (finalize cfg (finalizeLayers fin) e).1.bestExactValue) O Drop :=
  hx.toG.ffj e

/-- **soundness of the thresholds with both filters, on `finalize`**, at the level `O ≥ bk` -/
theorem CtxJ.theta_sound (hx : CtxJ cfg H B cache O p0 fin Live Drop dd) (hR : RubOk cfg.R H) (hlb : cfg.lb < iMax)
    (M : Int) (hM0 : 0 ≤ M) (hMs : M + Cover.Bd B (cfg.P.nbVars + 1) ≤ big) (e : Bool)
    (hbkO : bkOf cfg.lb (finalize cfg (finalizeLayers fin) e).1.bestExactValue ≤ O) :
    ∀ u ∈ (finalize cfg (finalizeLayers fin) e).1.cacheUpdates, cfg.root.depth ≤ u.2.1 ∧
      ∀ v h, Cover.Within (M + Cover.Bd B (u.2.1 - cfg.root.depth)) v → v ≤ u.2.2.1 → H u.2.1 u.1 = some h →
        v + h ≤ O ∨
        (∃ c ∈ (finalize cfg (finalizeLayers fin) e).1.cutset, u.2.1 ≤ c.depth ∧
          ∃ y, (H c.depth c.state).addI c.value = some y ∧ v + h ≤ y) ∨
        (cfg.useCache = true ∧ ∃ (s' : S) (d' : Nat) (t : Thr) (v' h' : Int), cache.get s' d' = some (some t) ∧ u.2.1 < d' ∧
          Cover.Within (M + Cover.Bd B (d' - cfg.root.depth)) v' ∧ v' ≤ t.value ∧ H d' s' = some h' ∧ v + h ≤ v' + h') := fun u hu =>
  ⟨(hx.toG.theta_sound_strict hR hlb M hM0 hMs e hbkO u hu).1, fun v h hv hvt hH =>
    ((hx.toG.theta_sound_strict hR hlb M hM0 hMs e hbkO u hu).2 v h hv hvt hH).imp_right (Or.imp_left weaken_strict)⟩

end
end Ddo.C10d

#print axioms Ddo.C10d.CtxJ.ffj
#print axioms Ddo.C10d.CtxJ.theta_sound

namespace Ddo.C10d
open Ddo Ddo.C01 Ddo.Closed Ddo.C09 Ddo.C10 Ddo.C10c Ddo.Truth Ddo.Theta Ddo.Bounds

/-- **the top-down obligation** (discharged by `builtOkJoint`, `Proofs/CompatBuilt.lean`): for every relaxed compilation with cache and checker of an exactly reached sub-problem `N`, from a
    checker holding exactly reached items, that ends normally with an incumbent below `opt` (`CompPre`), the diagram the loop ends
    on is — seen through some classification `Live` (handed to the expansion) / `Drop` (dropped by the checker) of the positions and
    some state `dd` of the loop — a diagram satisfying the invariant `TInvJ` for the pseudo-potential `gpot` at the level `opt - 1`:
    every node of every layer is deleted, or pruned by the cache with the cached threshold (`CacheFacts`), or dropped by the
    checker with a threshold `thr` such that no `(state, v)`, `v ≤ thr`, nor `(state, value)` is hot (`ClsJ.drop`), or alive with
    the step fact `StepU` for `gpot`.  (Single-mechanism version: `Ddo.Theta.compile_doneT` + `builtOk_of_done`, from
    `HypT` with `dom = none` and `Potential`.) -/
def BuiltOkJoint : Prop :=
  ∀ (S K : Type) [DecidableEq S] [DecidableEq K] (dv : DSolverCfg S K) (H : Nat → S → EInt) (B0 B opt : Int) (n : Nat),
    MonoHyp dv H B0 B opt n →
    ∀ (N : SubP S) (lb : Int) (cache : Cache S) (store : DomStore S K) (p0 : List Dec),
      CompPre dv opt .relaxed N lb cache store p0 →
      ∃ (Live Drop : Nat → Nat → Prop) (dd : DD S K),
        BuiltOkJ (dv.kdcfg .relaxed N lb) (gpot dv.D dv.sv.P n opt B) B cache (opt - 1)
          (buildLoop (dv.kdcfg .relaxed N lb) none (dv.sv.P.nbVars + 2) (initDD (dv.kdcfg .relaxed N lb) cache store 0)).1
          Live Drop dd

section
variable {S K : Type} [DecidableEq S] [DecidableEq K]

/-- `B ≤ 2^61`: twice `B` fits -/
theorem noClamp_two {P : Problem S} {R : Relax S} {rv B : Int} (h : NoClamp P R rv B) : 2 * B ≤ 4611686018427387904 := by
  have h1 := h.small
  have h0 := h.nonneg
  have : 0 ≤ (P.nbVars : Int) * B := Int.mul_nonneg (by omega) h0
  have e : ((P.nbVars : Int) + 2) * B = (P.nbVars : Int) * B + 2 * B := by rw [Int.add_mul]
  rw [e] at h1
  omega

theorem hypTJ_gpot {dv : DSolverCfg S K} {H : Nat → S → EInt} {B0 B opt : Int} {n : Nat} (hM : MonoHyp dv H B0 B opt n)
    {N : SubP S} {lb : Int} {p0 : List Dec} (hroot : Reach dv.sv.P N.depth N.state N.value p0) :
    HypTJ (dv.kdcfg .relaxed N lb) (gpot dv.D dv.sv.P n opt B) B := by
  have hBN := hM.wf.noClamp hroot
  refine ⟨rfl, hBN, ?_, ?_⟩
  · intro k L s h hnv hs hg
    exact gpot_term_L hM.ghyp k L s h hnv hs hg
  · intro k s h hg
    have h1 := gpot_within hM.ghyp hg
    have h2 := (opt_bound hM.wf.pot hM.wf.nv hM.wf.bound hM.opt).2
    have h3 := noClamp_two hBN
    unfold iMax
    omega

theorem compile_ctxJ' {dv : DSolverCfg S K} {H : Nat → S → EInt} {B0 B opt : Int} {n : Nat}
    (hM : MonoHyp dv H B0 B opt n) {N : SubP S} {lb : Int} {cache : Cache S} {store : DomStore S K} {p0 : List Dec}
    (hpre : CompPre dv opt .relaxed N lb cache store p0) {Live Drop : Nat → Nat → Prop} {dd : DD S K}
    (hbo : BuiltOkJ (dv.kdcfg .relaxed N lb) (gpot dv.D dv.sv.P n opt B) B cache (opt - 1)
      (buildLoop (dv.kdcfg .relaxed N lb) none (dv.sv.P.nbVars + 2) (initDD (dv.kdcfg .relaxed N lb) cache store 0)).1 Live Drop dd) :
    ∃ (e : Bool),
      CtxJ (dv.kdcfg .relaxed N lb) (gpot dv.D dv.sv.P n opt B) B cache (opt - 1) p0
        (buildLoop (dv.kdcfg .relaxed N lb) none (dv.sv.P.nbVars + 2) (initDD (dv.kdcfg .relaxed N lb) cache store 0)).1
        Live Drop dd ∧
      (compile (dv.kdcfg .relaxed N lb) cache store 0 none).2.1 = (finalize (dv.kdcfg .relaxed N lb) (finalizeLayers
        (buildLoop (dv.kdcfg .relaxed N lb) none (dv.sv.P.nbVars + 2) (initDD (dv.kdcfg .relaxed N lb) cache store 0)).1) e).1 ∧
      (dv.kdcfg .relaxed N lb).lb < iMax ∧ 0 ≤ (N.depth : Int) * B ∧
      (N.depth : Int) * B + Cover.Bd B ((dv.kdcfg .relaxed N lb).P.nbVars + 1) ≤ big := by
  have hBN := hM.wf.noClamp hpre.root
  have hk0 : N.depth ≤ dv.sv.P.nbVars := reach_depth_le hM.wf.nv hpre.root
  have hbk := hpre.bk
  obtain ⟨_, e, hre⟩ := compile_results (dv.kdcfg .relaxed N lb) cache store 0 none hpre.ok _ (.inl rfl)
  have hwf := compile_wf (dv.kdcfg .relaxed N lb) B p0 hBN hpre.root cache store 0 none
  have hinv2 := (compile_inv2 (dv.kdcfg .relaxed N lb) B p0 hBN hpre.root cache store 0).2
  refine ⟨e, ⟨hypTJ_gpot hM hpre.root, hbo, hwf, hinv2⟩, hre, ?_, Int.mul_nonneg (by omega) hBN.nonneg,
    bd_shift_small hBN _ hk0⟩
  have hoptB := (opt_bound hM.wf.pot hM.wf.nv hM.wf.bound hM.opt).2
  have h2B := noClamp_two hBN
  have := bkOf_ge lb (compile (dv.kdcfg .relaxed N lb) cache store 0 none).2.1.bestExactValue
  have h0 := hBN.nonneg
  show lb < iMax
  unfold iMax
  omega

theorem compile_ctxJ (hB : BuiltOkJoint) {dv : DSolverCfg S K} {H : Nat → S → EInt} {B0 B opt : Int} {n : Nat}
    (hM : MonoHyp dv H B0 B opt n) {N : SubP S} {lb : Int} {cache : Cache S} {store : DomStore S K} {p0 : List Dec}
    (hpre : CompPre dv opt .relaxed N lb cache store p0) :
    ∃ (fin : DD S K) (Live Drop : Nat → Nat → Prop) (dd : DD S K) (e : Bool),
      CtxJ (dv.kdcfg .relaxed N lb) (gpot dv.D dv.sv.P n opt B) B cache (opt - 1) p0 fin Live Drop dd ∧
      (compile (dv.kdcfg .relaxed N lb) cache store 0 none).2.1 = (finalize (dv.kdcfg .relaxed N lb) (finalizeLayers fin) e).1 ∧
      (dv.kdcfg .relaxed N lb).lb < iMax ∧ 0 ≤ (N.depth : Int) * B ∧
      (N.depth : Int) * B + Cover.Bd B ((dv.kdcfg .relaxed N lb).P.nbVars + 1) ≤ big := by
  obtain ⟨Live, Drop, dd, hbo⟩ := hB S K dv H B0 B opt n hM N lb cache store p0 hpre
  obtain ⟨e, h⟩ := compile_ctxJ' hM hpre hbo
  exact ⟨_, Live, Drop, dd, e, h⟩

/-- the cache alternative of the diagram theorems, at the level `opt`, is `HitO` -/
theorem hitO_of_cacheAlt {cfg : Cfg S K} {H : Nat → S → EInt} {B opt : Int} {cache : Cache S} {d : Nat} {x : Int}
    (hd : cfg.root.depth ≤ d) (hx : opt ≤ x) (h : CacheAlt cfg H B ((cfg.root.depth : Int) * B) cache d x) :
    HitO H opt (RgB B) (viewOf cache) d := by
  obtain ⟨_, s', d', t, v', h', a1, a2, a3, a4, a5, a6⟩ := h
  refine ⟨s', d', t, v', ?_, a2, ?_, a4, h', a5, by omega⟩
  · unfold viewOf; rw [a1]; rfl
  · unfold RgB; rw [← bd_shift B cfg.root.depth d' (by omega)]; exact a3

end

theorem jcThetaX_of (hB : BuiltOkJoint) : JCThetaX := by
  intro S K _ _ dv H B0 B opt n hM N lb cache store p0 hpre u hu v hrg hvt hot
  have hu' : u ∈ (compile (dv.kdcfg .relaxed N lb) cache store 0 none).2.1.cacheUpdates := List.mem_reverse.mp hu
  obtain ⟨fin, Live, Drop, dd, e, hx, hre, hlb, hM0, hMs⟩ := compile_ctxJ hB hM hpre
  have hbk := hpre.bk
  rw [hre] at hbk hu' ⊢
  obtain ⟨h1, h2⟩ := hx.theta_sound (gpot_RubOk hM.ghyp hM.mono hM.wf.rub) hlb ((N.depth : Int) * B) hM0 hMs e
    (Int.le_sub_one_of_lt hbk) u hu'
  obtain ⟨h, hH, hge⟩ := hot
  have h1' : N.depth ≤ u.2.1 := h1
  rcases h2 v h (by
      show Cover.Within ((N.depth : Int) * B + Cover.Bd B (u.2.1 - N.depth)) v
      rw [bd_shift B _ _ h1']; exact hrg) hvt hH with a | ⟨c, hc, hdc, y, hy, hle⟩ | a
  · exact absurd (Int.le_trans hge a) (Int.not_le.2 (Int.sub_lt_self opt Int.zero_lt_one))
  · obtain ⟨hc', hg, rfl⟩ := addI_some hy
    exact .inl ⟨c, hc, hdc, hc', hg, by rw [Int.add_comm]; exact Int.le_trans hge hle⟩
  · exact .inr (hitO_of_cacheAlt (cfg := dv.kdcfg .relaxed N lb) h1' hge a)

theorem jcTheta_of (hB : BuiltOkJoint) : JCTheta := jcTheta_of_relaxed (jcThetaX_of hB)

end Ddo.C10d

#print axioms Ddo.C10d.jcThetaX_of
#print axioms Ddo.C10d.jcTheta_of

namespace Ddo.C10d
open Ddo Ddo.C01 Ddo.Closed Ddo.C09 Ddo.C10 Ddo.C10c Ddo.Truth Ddo.Theta Ddo.Bounds
variable {S K : Type} [DecidableEq S] [DecidableEq K]

section
variable {cfg : Cfg S K} {H : Nat → S → EInt} {B : Int} {cache : Cache S} {p0 : List Dec} {fin : DD S K}
  {Live Drop : Nat → Nat → Prop} {dd : DD S K} {O : Int}

theorem CtxJ.root_np (hx : CtxJ cfg H B cache O p0 fin Live Drop dd) (hR : RubOk cfg.R H) (hlb : cfg.lb < iMax)
    (M : Int) (hM0 : 0 ≤ M) (hMs : M + Cover.Bd B (cfg.P.nbVars + 1) ≤ big) (e : Bool)
    (hbkO : bkOf cfg.lb (finalize cfg (finalizeLayers fin) e).1.bestExactValue ≤ O)
    (h0 : Int) (hH0 : H cfg.root.depth cfg.root.state = some h0) :
    cfg.root.value + h0 ≤ O ∨ CacheAlt cfg H B M cache cfg.root.depth (cfg.root.value + h0) ∨
    ∃ n0, getNode (finalizeLayers fin).layers 0 0 = some n0 ∧ n0.state = cfg.root.state ∧ n0.value = cfg.root.value ∧
      Path (finalizeLayers fin).layers H cfg.root.depth B 0 0 h0 dd.layers.length :=
  hx.toG.root_np_at hR hlb M hM0 hMs e hbkO (Int.le_trans (bkOf_ge _ _) hbkO)
    (fun l p n3 hn hD => ((hx.toG.ffj e).dropN l p n3 hn hD).2.2.2.2) h0 hH0


end

theorem bkOf_ge_best (lb w : Int) : w ≤ bkOf lb (some w) := by
  unfold bkOf; dsimp only; omega

theorem jcRootX_of (hB : BuiltOkJoint) : JCRootX := by
  intro S K _ _ dv H B0 B opt n hM N lb cache store p0 hpre hot
  obtain ⟨fin, Live, Drop, dd, e, hx, hre, hlb, hM0, hMs⟩ := compile_ctxJ hB hM hpre
  have hbk := hpre.bk
  obtain ⟨h0, hH0, hge⟩ := hot
  rw [hre] at hbk ⊢
  have hroot := hx.root_np (gpot_RubOk hM.ghyp hM.mono hM.wf.rub) hlb ((N.depth : Int) * B) hM0 hMs e
    (Int.le_sub_one_of_lt hbk) h0 hH0
  have hcache : CacheAlt (dv.kdcfg .relaxed N lb) (gpot dv.D dv.sv.P n opt B) B ((N.depth : Int) * B) cache N.depth (N.value + h0) →
      HitO (gpot dv.D dv.sv.P n opt B) opt (RgB B) (viewOf cache) N.depth :=
    fun g => hitO_of_cacheAlt (cfg := dv.kdcfg .relaxed N lb) (Nat.le_refl _) hge g
  rcases hroot with g | g | ⟨n0, hn0, hs, hv, hp⟩
  · exfalso
    have g' : N.value + h0 ≤ opt - 1 := g
    exact Int.lt_irrefl _ (Int.le_sub_one_iff.1 (Int.le_trans hge g'))
  · exact ⟨fun _ => hcache g, fun _ => .inr (hcache g)⟩
  · have hv' : n0.value = N.value := hv
    refine ⟨fun hex => ?_, fun hex => ?_⟩
    · -- exact: an exact terminal node carries the value `≥ opt`, the incumbent would reach `opt`
      exfalso
      obtain ⟨pt, tn, _, htmem, hvt⟩ := hx.toG.path_end hp (Nat.zero_add _) n0 hn0
      have hex' : ((finalizeLayers fin).isExactField || e) = true := hex
      have hcase : e = true ∨ tn.isExact = true := by
        cases he : e with
        | true => exact .inl rfl
        | false =>
          right
          rw [he, Bool.or_false, finalizeLayers_isExactField] at hex'
          have hnone : fin.lel = none := by
            cases hl : fin.lel with
            | none => rfl
            | some k => rw [hl] at hex'; cases hex'
          have hsame := hx.bo.same (List.ne_nil_of_mem htmem)
          exact (hx.inv2.lelNone hnone).2 tn (by rw [hsame]; exact htmem)
      obtain ⟨w, hw, hle⟩ := hx.toG.bestExact_ge e tn htmem hcase
      rw [hw] at hbk
      have hopt : opt ≤ n0.value + h0 := by rw [hv']; exact hge
      exact Int.lt_irrefl _ (Int.lt_of_le_of_lt
        (Int.le_trans hopt (Int.le_trans hvt (Int.le_trans hle (bkOf_ge_best lb w)))) hbk)
    · left
      obtain ⟨c, hc, y, hy, hle⟩ := hx.toG.cover_of_path e opt n0 h0 hn0 (by rw [hv']; exact hge) hp
        (fun be hbe => Int.lt_of_le_of_lt (bkOf_ge_best lb be) (hbe ▸ hbk))
      refine ⟨c, hc, ?_⟩
      obtain ⟨hc', hg, rfl⟩ := addI_some hy
      exact ⟨hc', hg, by rw [Int.add_comm]; exact hle⟩

theorem jcRoot_of (hB : BuiltOkJoint) : JCRoot := jcRoot_of_relaxed (jcRootX_of hB)

end Ddo.C10d

#print axioms Ddo.C10d.jcRootX_of
#print axioms Ddo.C10d.jcRoot_of

namespace Ddo.C10d
open Ddo Ddo.C01 Ddo.Closed Ddo.C09 Ddo.C10 Ddo.C10c Ddo.Truth Ddo.Theta Ddo.Bounds Ddo.CacheClosed
variable {S K : Type} [DecidableEq S] [DecidableEq K]


section
variable {cfg : Cfg S K} {H : Nat → S → EInt} {B : Int} {cache : Cache S} {p0 : List Dec} {fin : DD S K}
  {Live Drop : Nat → Nat → Prop} {dd : DD S K} {O : Int}

theorem maxValue_nil_none : maxValue ([] : List (Node S)) = none := rfl

end

/-- **the top-down obligation, with the two facts `KFactsJ`** (same classification `Live` / `Drop`): what `JCUb` needs
    (discharged by `builtOkJointK`, `Proofs/CompatBuilt.lean`) -/
def BuiltOkJointK : Prop :=
  ∀ (S K : Type) [DecidableEq S] [DecidableEq K] (dv : DSolverCfg S K) (H : Nat → S → EInt) (B0 B opt : Int) (n : Nat),
    MonoHyp dv H B0 B opt n →
    ∀ (N : SubP S) (lb : Int) (cache : Cache S) (store : DomStore S K) (p0 : List Dec),
      CompPre dv opt .relaxed N lb cache store p0 →
      ∃ (Live Drop : Nat → Nat → Prop) (dd : DD S K),
        BuiltOkJ (dv.kdcfg .relaxed N lb) (gpot dv.D dv.sv.P n opt B) B cache (opt - 1)
          (buildLoop (dv.kdcfg .relaxed N lb) none (dv.sv.P.nbVars + 2) (initDD (dv.kdcfg .relaxed N lb) cache store 0)).1
          Live Drop dd ∧
        KFactsJ (buildLoop (dv.kdcfg .relaxed N lb) none (dv.sv.P.nbVars + 2) (initDD (dv.kdcfg .relaxed N lb) cache store 0)).1 Live

theorem builtOkJoint_of_K (h : BuiltOkJointK) : BuiltOkJoint := by
  intro S K _ _ dv H B0 B opt n hM N lb cache store p0 hpre
  obtain ⟨Live, Drop, dd, hbo, _⟩ := h S K dv H B0 B opt n hM N lb cache store p0 hpre
  exact ⟨Live, Drop, dd, hbo⟩

theorem jcUbX_of (hB : BuiltOkJointK) : JCUbX := by
  intro S K _ _ dv H B0 B opt n hM N lb cache store p0 hpre c hc hot
  obtain ⟨Live, Drop, dd, hbo, hk⟩ := hB S K dv H B0 B opt n hM N lb cache store p0 hpre
  obtain ⟨e, hx, hre, hlb, hM0, hMs⟩ := compile_ctxJ' hM hpre hbo
  have hbk := hpre.bk
  have hBN := hM.wf.noClamp hpre.root
  have hdeep := C08.cutset_progress (dv.kdcfg .relaxed N lb) B p0 cache store 0 none rfl hpre.root hBN hpre.ok _ (.inl rfl) c hc
  obtain ⟨h0, hH0, hge⟩ := hot
  rw [hre] at hbk hc
  have hy : ((gpot dv.D dv.sv.P n opt B) c.depth c.state).addI c.value = some (h0 + c.value) := by
    rw [hH0]; rfl
  rcases hx.toG.cut_ub hk (gpot_RubOk hM.ghyp hM.mono hM.wf.rub) hlb ((N.depth : Int) * B) hM0 hMs e c hc
    (Int.le_sub_one_of_lt hbk) (Int.le_trans (bkOf_ge _ _) (Int.le_sub_one_of_lt hbk))
    (fun l p n3 hn hD => ((hx.toG.ffj e).dropN l p n3 hn hD).2.2.2.2) (h0 + c.value) hy
    (Int.lt_of_lt_of_le (Int.sub_lt_self opt Int.zero_lt_one) (by rw [Int.add_comm]; exact hge)) with a | a
  · exact .inl (Int.le_trans hge (by rw [Int.add_comm]; exact a))
  · right
    exact hitO_of_cacheAlt (cfg := dv.kdcfg .relaxed N lb) (Nat.le_of_lt hdeep) (by rw [Int.add_comm]; exact hge) a

theorem jcUb_of (hB : BuiltOkJointK) : JCUb := jcUb_of_relaxed (jcUbX_of hB)

end Ddo.C10d

#print axioms Ddo.C10d.jcUbX_of
#print axioms Ddo.C10d.jcUb_of
