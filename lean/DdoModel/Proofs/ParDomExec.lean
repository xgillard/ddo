import DdoModel.Props.C10bKp
import DdoModel.Proofs.ParDomLSysDefs
/-! # The layer-interleaved parallel system with the shared dominance checker: a deterministic scheduler and an evaluated run

`nextL` is the next step of worker `i` of `LSys` as a function (a critical section of `ParSys` through `ParClosed.next`, one layer
of its compilation on the shared store, or the end of the loop of its compilation); it only takes steps of `LStep`.  `viewsL` is
what is observed along the run over a list of worker indices, so that each run below is evaluated once and the observations at its
several moments are read off. -/
set_option linter.unusedSectionVars false
set_option linter.unusedVariables false
namespace Ddo.ParDom
open Ddo Ddo.Truth Ddo.Closed Ddo.ParSys Ddo.ParClosed Ddo.C10
open Ddo.C01 (SolverCfg WellFormed toOut SolOf)
variable {S K : Type} [DecidableEq S] [DecidableEq K]

theorem next_step_nc {sv : SolverCfg S} {okR okX : SubP S → Int → DDOut S → Prop} {s t : Sys S} {i : Nat}
    (h : ParClosed.next sv s i = some t)
    (hR : ∀ n lb, s.ws[i]? ≠ some (WSt.compR n lb)) (hX : ∀ n lb, s.ws[i]? ≠ some (WSt.compX n lb)) :
    Step sv.dedup okR okX s t := by
  unfold ParClosed.next at h
  split at h
  · cases h
  · next hw =>
    split at h
    · next ha => injection h with h; subst h; exact .gwAborted s i hw ha
    · next ha =>
      have ha : s.crit.base.abort = false := by simpa using ha
      split at h
      · next hp =>
        have hf := popMax_none hp
        split at h
        · next ho => injection h with h; subst h; exact .gwComplete s i hw ha ho hf
        · next ho => injection h with h; subst h; exact .gwWait s i hw ha ho hf
      · next N rest hp =>
        have hpm := popMax_popMax hp
        split at h
        · next hle =>
          injection h with h; subst h
          refine .gwStarve s i N rest _ 1 hw ha hpm ?_
          rw [popLoop_single]
          exact if_pos hle
        · next hgt =>
          have hl : popLoop (setFringe s.crit rest) [(N, true)] 0 = (setFringe s.crit rest, some (some N), 1) := by
            rw [popLoop_single]; exact if_neg hgt
          split at h
          · next c'' ht => injection h with h; subst h; exact .gwItem s i N rest _ N 1 c'' hw ha hpm hl ht
          · cases h
  · cases h
  · cases h
  · cases h
  · next n hw => injection h with h; subst h; exact .readLbR s i n hw
  · next n lb hw => exact absurd hw (hR n lb)
  · next n lb o hw => injection h with h; subst h; exact .updateR s i n lb o hw
  · next n hw => injection h with h; subst h; exact .readLbX s i n hw
  · next n lb hw => exact absurd hw (hX n lb)
  · next n lb o hw => injection h with h; subst h; exact .updateX s i n lb o hw
  · next n lb o hw => injection h with h; subst h; exact .enqueue s i n lb o hw
  · next n hw => injection h with h; subst h; exact .abort s i n _ hw (topOf_abortTop _)
  · next n te hw =>
    split at h
    · next c' hn => injection h with h; subst h; exact .notify s i n te c' hw hn
    · cases h

def noAbortB (t : Sys S) : Bool := t.ws.all (fun w => match w with | .abortS _ => false | _ => true)

theorem noAbortB_sound {t : Sys S} (h : noAbortB t = true) : NoAbortS t := by
  intro w hw n e
  have := List.all_eq_true.mp h w hw
  subst e
  simp at this

def finishL (s : LSys S K) (i : Nat) (w : WSt S) (cfg : Cfg S K) (fin : DD S K) : LSys S K :=
  ⟨{ crit := s.sys.crit, ws := s.sys.ws.set i (afterComp (toOut (resultOf cfg fin)) w) }, s.store, s.prog.set i none⟩

/-- **the next step of worker `i`**, as a function: a worker inside a compilation performs ONE layer of it on the shared store
    as it is now (or ends its loop); every other worker performs its next critical section (`ParClosed.next`).  `none`: the
    worker cannot move (parked, gone, absent) or the step panics. -/
def nextL (dv : DSolverCfg S K) (s : LSys S K) (i : Nat) : Option (LSys S K) :=
  match s.sys.ws[i]? with
  | none => none
  | some w =>
    match cfgOf dv w with
    | some cfg =>
      match s.prog[i]? with
      | none => none
      | some pr =>
        match cfg.P.nextVar (ddOf dv cfg pr).depth ((ddOf dv cfg pr).next.map (·.state)) with
        | none =>
          some (finishL s i w cfg { ddOf dv cfg pr with
            log := Call.nextVar (ddOf dv cfg pr).depth ((ddOf dv cfg pr).next.map (·.state)) none :: (ddOf dv cfg pr).log })
        | some var =>
          match stepLayer cfg (tick (withStore (ddOf dv cfg pr) s.store) var) var with
          | (some dd', .ok) => some ⟨s.sys, dd'.store, s.prog.set i (some dd')⟩
          | (some fin, .cutoff) => some (finishL s i w cfg fin)
          | _ => none
    | none =>
      match ParClosed.next dv.sv s.sys i with
      | none => none
      | some t => if noAbortB t then some ⟨t, s.store, s.prog⟩ else none

theorem nextL_step {dv : DSolverCfg S K} {s t : LSys S K} {i : Nat} (h : nextL dv s i = some t) : LStep dv s t := by
  unfold nextL at h
  split at h
  · cases h
  · next w hw =>
    split at h
    · next cfg hc =>
      split at h
      · cases h
      · next pr hp =>
        split at h
        · next hnv =>
          injection h with h; subst h
          exact .finish s i w cfg pr _ hw hc hp (Or.inl ⟨hnv, rfl⟩)
        · next var hnv =>
          split at h
          · next dd' hst =>
            injection h with h; subst h
            exact .layer s i w cfg pr var dd' hw hc hp hnv hst
          · next fin hst =>
            injection h with h; subst h
            exact .finish s i w cfg pr fin hw hc hp (Or.inr ⟨var, hnv, hst⟩)
          · cases h
    · next hc =>
      split at h
      · cases h
      · next t' hn =>
        split at h
        · next hna =>
          injection h with h; subst h
          refine .sec s t' (next_step_nc hn ?_ ?_) (noAbortB_sound hna)
          · intro n lb e
            rw [hw] at e; injection e with e; rw [e] at hc
            cases hc
          · intro n lb e
            rw [hw] at e; injection e with e; rw [e] at hc
            cases hc
        · cases h

def runSchedL (dv : DSolverCfg S K) : LSys S K → List Nat → LSys S K
  | s, [] => s
  | s, i :: is =>
    match nextL dv s i with
    | some t => runSchedL dv t is
    | none => runSchedL dv s is

theorem lrun_head {dv : DSolverCfg S K} {s t u : LSys S K} (h : LStep dv s t) (r : LRun dv t u) : LRun dv s u := by
  induction r with
  | refl => exact LRun.tail (LRun.refl _) h
  | tail _ hst ih => exact LRun.tail ih hst

theorem lrun_trans {dv : DSolverCfg S K} {s t u : LSys S K} (h1 : LRun dv s t) (h2 : LRun dv t u) : LRun dv s u := by
  induction h2 with
  | refl => exact h1
  | tail _ hst ih => exact LRun.tail ih hst

theorem runSchedL_run' (dv : DSolverCfg S K) : ∀ (is : List Nat) (s : LSys S K), LRun dv s (runSchedL dv s is) := by
  intro is
  induction is with
  | nil => intro s; exact LRun.refl s
  | cons i is ih =>
    intro s
    unfold runSchedL
    cases h : nextL dv s i with
    | none => exact ih s
    | some t => exact lrun_head (nextL_step h) (ih t)

theorem runSchedL_run {dv : DSolverCfg S K} {s : LSys S K} {is : List Nat} : LRun dv s (runSchedL dv s is) :=
  runSchedL_run' dv is s

def storeSize (st : DomStore S K) : Nat :=
  st.layers.foldl (fun a l => l.foldl (fun b kb => b + kb.2.length) a) 0

/-- what is observed of a state: `((tags, ongoing, fringe length), bestLb, per worker [ndom, number of layers] of the diagram
    in progress ([] = none), number of entries of the shared store)` -/
def obsL (t : LSys S K) : (List Nat × Nat × Nat) × (Int × List (List Nat) × Nat) :=
  ((t.sys.ws.map tag, t.sys.crit.ongoing, t.sys.crit.base.fringe.length),
   t.sys.crit.base.bestLb,
   t.prog.map (fun pr => match pr with | none => [] | some dd => [dd.ndom, dd.layers.length]),
   storeSize t.store)

structure View where
  obs : (List Nat × Nat × Nat) × (Int × List (List Nat) × Nat)
  completion : Bool × Option Int
  deriving DecidableEq

def viewL (t : LSys S K) : View :=
  ⟨obsL t, t.sys.crit.base.completion⟩

/-- entry `k` is the view after the first `k` indices (a worker that cannot move is skipped) -/
def viewsL (dv : DSolverCfg S K) : LSys S K → List Nat → List View
  | s, [] => [viewL s]
  | s, i :: is => viewL s :: viewsL dv ((nextL dv s i).getD s) is

theorem viewsL_take {dv : DSolverCfg S K} {v : View} :
    ∀ {is : List Nat} {s : LSys S K} {k : Nat}, (viewsL dv s is)[k]? = some v → viewL (runSchedL dv s (is.take k)) = v := by
  intro is
  induction is with
  | nil =>
    intro s k h
    cases k with
    | zero => exact Option.some.inj h
    | succ k => cases h
  | cons i is ih =>
    intro s k h
    cases k with
    | zero => exact Option.some.inj h
    | succ k =>
      rw [List.take_succ_cons, runSchedL]
      cases hn : nextL dv s i <;> exact ih (by simpa [viewsL, hn] using h)

/-! entry `k` of `viewsL` is the view of `t`, the state after the first `k` indices (`t` a variable: a statement about the
projections of a closed run makes the elaborator evaluate the run) -/
section get
variable {dv : DSolverCfg S K} {v : View} {is : List Nat} {s t : LSys S K} {k : Nat}
  (h : (viewsL dv s is)[k]? = some v) (ht : runSchedL dv s (is.take k) = t)
include h ht

theorem views_obs : obsL t = v.obs := ht ▸ congrArg View.obs (viewsL_take h)
theorem views_tags : t.sys.ws.map tag = v.obs.1.1 := congrArg (fun o => o.1.1) (views_obs h ht)
theorem views_completion : t.sys.crit.base.completion = v.completion := ht ▸ congrArg View.completion (viewsL_take h)

theorem views_done (hd : v.obs.1.1.all (· == 2) = true) : AllDone t.sys := by
  intro w hw
  rw [← views_tags h ht] at hd
  exact tag_done (by simpa using List.all_eq_true.mp hd (tag w) (List.mem_map_of_mem hw))

theorem views_busy : t.prog.map (fun pr => pr.isSome) = v.obs.2.2.1.map (fun l => !l.isEmpty) := by
  rw [← views_obs h ht]
  show _ = (t.prog.map _).map _
  rw [List.map_map]
  exact List.map_congr_left (fun pr _ => by cases pr <;> rfl)

end get

end Ddo.ParDom

/-! ## the knapsack instance of C10 (`Kp`, width 1, last exact layer), two workers: a complete evaluated run

On `Kp` the fringe holds at most one node at a time (the first restricted compilation already finds the optimum 6), so the two
workers never compile at the same time: worker 0 processes the root (15 steps: `get_workload`, read, 3 layers + end of the
restricted compilation, update, read, 3 layers + end of the relaxed compilation, update, enqueue, notify), then worker 1 the node
of the cut-set.  The overlap is shown on `Kq` below. -/
namespace Ddo.ParDom.Kp2
open Ddo Ddo.Truth Ddo.Closed Ddo.ParSys Ddo.ParClosed Ddo.C10 Ddo.ParDom

def dv : DSolverCfg Int Unit := Kp.dv 1 false .lel
def s0 : LSys Int Unit := LSys.init dv 2

def sched : List Nat := List.replicate 15 0 ++ [1, 0] ++ List.replicate 11 1 ++ [0, 1]
def at_ (k : Nat) : LSys Int Unit := runSchedL dv s0 (sched.take k)

theorem reach (k : Nat) : LRun dv s0 (at_ k) := runSchedL_run

theorem views :
    (viewsL dv s0 sched)[11]? = some ⟨(([8, 0], 1, 0), 6, [[1, 3], []], 6), (true, some 6)⟩ ∧
    (viewsL dv s0 sched)[15]? = some ⟨(([0, 0], 0, 1), 6, [[], []], 6), (true, some 6)⟩ ∧
    (viewsL dv s0 sched)[30]? = some ⟨(([2, 2], 0, 0), 6, [[], []], 6), (true, some 6)⟩ := by
  decide +kernel

/-- worker 0 is inside the relaxed compilation of the root (3 layers built, one `dominated` verdict: an entry of its own
    restricted compilation), worker 1 has not moved yet -/
theorem root_obs : obsL (at_ 11) = (([8, 0], 1, 0), 6, [[1, 3], []], 6) :=
  views_obs views.1 rfl

theorem handover_obs : obsL (at_ 15) = (([0, 0], 0, 1), 6, [[], []], 6) :=
  views_obs views.2.1 rfl

/-- **non-vacuity**: a run of the layer-interleaved system with the shared checker, two workers, that ends (`AllDone`) with
    `is_exact = true`, `best_value = Some(6)` -/
theorem complete_run :
    ∃ t, LRun (Kp.dv 1 false .lel) (LSys.init (Kp.dv 1 false .lel) 2) t ∧ AllDone t.sys ∧
      t.sys.crit.base.completion = (true, some 6) :=
  ⟨at_ 30, reach 30, views_done views.2.2 rfl rfl, views_completion views.2.2 rfl⟩

end Ddo.ParDom.Kp2

/-! ## a knapsack on which the two workers compile AT THE SAME TIME and one prunes a node of the other

Capacity 6, items (weight, profit) = (2,3), (4,6), (1,3), (1,2), optimum 11; the rule of `Kp`; width 1, last exact layer.  After
the root (17 steps of worker 0) the fringe holds the two nodes of depth 1; both workers take one and read the incumbent 9: both
are in `compR`.  Their layers then alternate on the shared store.  If the layer of depth 3 of worker 1 runs BEFORE the layer of
depth 3 of worker 0 (`pre ++ alt1 _`, `atB`), the latter receives a `dominated` verdict (`ndom` 0 → 1) from the entry the former has
just inserted; in the other order (`pre ++ alt0 _`, `atA`) it receives none.  (Evaluation only: no well-formedness proof of this instance is
needed for a run of `LStep`.) -/
namespace Ddo.ParDom.Kq
open Ddo Ddo.Truth Ddo.Closed Ddo.ParSys Ddo.ParClosed Ddo.C10 Ddo.ParDom

def items : List (Int × Int) := [(2, 3), (4, 6), (1, 3), (1, 2)]
def prob : Problem Int :=
  { nbVars := 4, init := 6, initVal := 0,
    trans := fun s d => if d.val = 1 then s - (items.getD d.var (0, 0)).1 else s,
    cost := fun _ _ d => if d.val = 1 then (items.getD d.var (0, 0)).2 else 0,
    nextVar := fun k _ => if k < 4 then some k else none,
    domain := fun x s => if (items.getD x (0, 0)).1 ≤ s then [1, 0] else [0],
    impacted := fun _ _ => true }
def rlx : Relax Int := { merge := Kp.maxL, relax := fun _ _ _ _ c => c, rub := fun _ => 14 }
def dv : DSolverCfg Int Unit :=
  ⟨{ P := prob, R := rlx, rank := ⟨fun a b => icmp a b⟩, width := fun _ => 1, kind := .lel, dedup := false }, Kp.rule⟩
def s0 : LSys Int Unit := LSys.init dv 2

/-- worker 0 processes the root alone (17 steps), then both take a node and read the incumbent -/
def pre : List Nat := List.replicate 17 0 ++ [0, 1, 0, 1]
def alt1 (n : Nat) : List Nat := (List.range n).map (fun k => (k + 1) % 2)
def alt0 (n : Nat) : List Nat := (List.range n).map (fun k => k % 2)
def atB (k : Nat) : LSys Int Unit := runSchedL dv s0 (pre ++ alt1 k)
def atA (k : Nat) : LSys Int Unit := runSchedL dv s0 (pre ++ alt0 k)

theorem reachB (k : Nat) : LRun dv s0 (atB k) := runSchedL_run
theorem reachA (k : Nat) : LRun dv s0 (atA k) := runSchedL_run

theorem viewsB :
    (viewsL dv s0 (pre ++ alt1 27))[17]? = some ⟨(([0, 0], 0, 2), 9, [[], []], 8), (true, some 9)⟩ ∧
    (viewsL dv s0 (pre ++ alt1 27))[21]? = some ⟨(([5, 5], 2, 0), 9, [[], []], 8), (true, some 9)⟩ ∧
    (viewsL dv s0 (pre ++ alt1 27))[25]? = some ⟨(([5, 5], 2, 0), 9, [[0, 2], [0, 2]], 8), (true, some 9)⟩ ∧
    (viewsL dv s0 (pre ++ alt1 27))[26]? = some ⟨(([5, 5], 2, 0), 9, [[0, 2], [0, 3]], 9), (true, some 9)⟩ ∧
    (viewsL dv s0 (pre ++ alt1 27))[27]? = some ⟨(([5, 5], 2, 0), 9, [[1, 3], [0, 3]], 9), (true, some 9)⟩ ∧
    (viewsL dv s0 (pre ++ alt1 27))[48]? = some ⟨(([2, 2], 0, 0), 11, [[], []], 11), (true, some 11)⟩ := by
  decide +kernel

theorem viewsA :
    (viewsL dv s0 (pre ++ alt0 6))[25]? = some ⟨(([5, 5], 2, 0), 9, [[0, 2], [0, 2]], 8), (true, some 9)⟩ ∧
    (viewsL dv s0 (pre ++ alt0 6))[26]? = some ⟨(([5, 5], 2, 0), 9, [[0, 3], [0, 2]], 8), (true, some 9)⟩ ∧
    (viewsL dv s0 (pre ++ alt0 6))[27]? = some ⟨(([5, 5], 2, 0), 9, [[0, 3], [0, 3]], 9), (true, some 9)⟩ := by
  decide +kernel

theorem fork_obs : obsL (runSchedL dv s0 (List.replicate 17 0)) = (([0, 0], 0, 2), 9, [[], []], 8) :=
  views_obs viewsB.1 rfl

theorem both_obs : obsL (atB 0) = (([5, 5], 2, 0), 9, [[], []], 8) :=
  views_obs viewsB.2.1 rfl

/-- **the layers interleave and worker 1 prunes a node of worker 0**: both workers are inside their restricted compilations
    (`compR`, tag 5); after worker 1's third layer (`atB 5`: diagrams of 2 and 3 layers, 9 entries: it has inserted one) worker
    0's third layer (`atB 6`) receives one `dominated` verdict -/
theorem mid_obs :
    obsL (atB 4) = (([5, 5], 2, 0), 9, [[0, 2], [0, 2]], 8) ∧
    obsL (atB 5) = (([5, 5], 2, 0), 9, [[0, 2], [0, 3]], 9) ∧
    obsL (atB 6) = (([5, 5], 2, 0), 9, [[1, 3], [0, 3]], 9) :=
  ⟨views_obs viewsB.2.2.1 rfl, views_obs viewsB.2.2.2.1 rfl,
    views_obs viewsB.2.2.2.2.1 rfl⟩

/-- in the other order the same layer of worker 0 runs before worker 1's entry is there: no verdict -/
theorem mid_obs_other :
    obsL (atA 4) = (([5, 5], 2, 0), 9, [[0, 2], [0, 2]], 8) ∧
    obsL (atA 5) = (([5, 5], 2, 0), 9, [[0, 3], [0, 2]], 8) ∧
    obsL (atA 6) = (([5, 5], 2, 0), 9, [[0, 3], [0, 3]], 9) :=
  ⟨views_obs viewsA.1 rfl, views_obs viewsA.2.1 rfl,
    views_obs viewsA.2.2 rfl⟩

theorem complete_run : ∃ t, LRun dv (LSys.init dv 2) t ∧ AllDone t.sys ∧ t.sys.crit.base.completion = (true, some 11) :=
  ⟨atB 27, reachB 27, views_done viewsB.2.2.2.2.2 rfl rfl, views_completion viewsB.2.2.2.2.2 rfl⟩

/-- the moment of `mid_obs` is reachable: a state with BOTH workers inside compilations whose diagrams are both under way -/
theorem overlap_run : ∃ t, LRun dv (LSys.init dv 2) t ∧ t.sys.ws.map tag = [5, 5] ∧
    t.prog.map (fun pr => pr.isSome) = [true, true] :=
  ⟨atB 6, reachB 6, views_tags viewsB.2.2.2.2.1 rfl,
    views_busy viewsB.2.2.2.2.1 rfl⟩

end Ddo.ParDom.Kq

#print axioms Ddo.ParDom.nextL_step
#print axioms Ddo.ParDom.runSchedL_run
#print axioms Ddo.ParDom.Kp2.complete_run
#print axioms Ddo.ParDom.Kq.mid_obs
#print axioms Ddo.ParDom.Kq.complete_run
