import DdoModel.Proofs.DomRelax
import DdoModel.Props.C01dWitness
/-! Non-vacuity of `relaxed_ub_dom` / `relaxed_cutset_dom` (`Proofs/DomRelax.lean`): the tiny model of C06 (three binary variables,
width 1) with a rule that does prune. -/
set_option linter.unusedSectionVars false
set_option linter.unusedVariables false
namespace Ddo.C10
open Ddo Ddo.C01 Ddo.Closed Ddo.Truth
variable {S K : Type} [DecidableEq S] [DecidableEq K]

/-! States `0` and `1` share a bucket (larger state and value is better), the other states have no key.  On the second layer the
checker drops the node `(0, 0)` (dominated by `(1, 1)`), on the third layer a merge takes place (`lel = some 1`); the
protected family is "all ones".  Every hypothesis of the two theorems holds; the cut-set (either kind) is `[(1, 1)]`. -/
namespace TinyDom
open Ddo.C06

def rule : DomRule Int Unit :=
  { key := fun s => if s ≤ 1 then some () else none, dims := fun _ => 1, coord := fun s _ => s, useValue := true }

def cfgL : Cfg Int Unit := { Tiny.cfg with dom := some rule }
def cfgF : Cfg Int Unit := { Tiny.cfg with dom := some rule, kind := .frontier }

def Prot (d : Nat) (s : Int) (v : Int) : Prop := s = (d : Int) ∧ v = (d : Int) ∧ d ≤ 3

theorem reach_inv {k : Nat} {s v : Int} {p : List Dec} (h : Reach Tiny.prob k s v p) : s = v ∧ v ≤ (k : Int) := by
  induction h with
  | root => exact ⟨rfl, by decide⟩
  | step k s v p L x d _ _ _ hd ih =>
    obtain ⟨rfl, hv⟩ := ih
    have hd' : d = 0 ∨ d = 1 := by simpa [Tiny.prob] using hd
    show s + d = s + (if d = 1 then 1 else 0) ∧ s + (if d = 1 then 1 else 0) ≤ ((k + 1 : Nat) : Int)
    rcases hd' with rfl | rfl
    · simp; omega
    · simp; omega

theorem reach_ones : ∀ d : Nat, d ≤ 3 → ∃ p, Reach Tiny.prob d (d : Int) (d : Int) p := by
  intro d
  induction d with
  | zero => intro _; exact ⟨[], Reach.root⟩
  | succ d ih =>
    intro hd
    obtain ⟨p, hp⟩ := ih (by omega)
    have hnv : Tiny.prob.nextVar d [(d : Int)] = some d := by simp only [Tiny.prob]; rw [if_pos (by omega)]
    have := Reach.step d (d : Int) (d : Int) p [(d : Int)] d 1 hp hnv List.mem_cons_self (by simp [Tiny.prob])
    refine ⟨p ++ [⟨d, 1⟩], ?_⟩
    have e : ((d + 1 : Nat) : Int) = (d : Int) + 1 := by omega
    rw [e]
    exact this

theorem protected_ : Protected rule Tiny.prob Tiny.H 3 Prot := by
  refine ⟨⟨rfl, rfl, by decide⟩, ?_, ?_, ?_, ?_⟩
  · rintro d s v ⟨rfl, rfl, hd⟩
    exact reach_ones d hd
  · rintro d s v ⟨rfl, rfl, hd⟩
    simp only [Tiny.H, EInt.addI, Option.map_some, Option.some.injEq]
    omega
  · rintro d s v L x ⟨rfl, rfl, hd⟩ hnv _
    obtain ⟨hk, hx⟩ := Tiny.nv_some hnv
    rw [hx]
    refine ⟨1, by simp [Tiny.prob], ?_⟩
    exact ⟨by show (d : Int) + 1 = _; omega,
      by show (d : Int) + (if (1 : Int) = 1 then 1 else 0) = _; rw [if_pos rfl]; omega, by omega⟩
  · rintro d s v a va pa ⟨rfl, rfl, hd⟩ hr hdom
    obtain ⟨rfl, hle⟩ := reach_inv hr
    obtain ⟨_, h2⟩ := hdom
    simp [Ddo.domEnt, Ddo.geEnt, DomRule.ent, DomRule.coordsN, Ddo.leB, rule] at h2
    omega

theorem attMerge : Cover.AttMerge Tiny.prob Tiny.rlx Tiny.H :=
  Cover.attMerge_of_static Tiny.potential (fun _ _ _ _ _ => rfl)

theorem nvBound : NvBound Tiny.prob := C01.Tiny3.nvBound

theorem domHypL : DomHyp cfgL rule Tiny.H 3 Prot 1 :=
  ⟨rfl, rfl, Tiny.potential, Tiny.rubOk, Tiny.noClamp, nvBound, protected_, by decide, by decide, Or.inl (by decide)⟩
theorem domHypF : DomHyp cfgF rule Tiny.H 3 Prot 1 :=
  ⟨rfl, rfl, Tiny.potential, Tiny.rubOk, Tiny.noClamp, nvBound, protected_, by decide, by decide, Or.inl (by decide)⟩

theorem runL : (compile cfgL (Cache.init 3) (DomStore.init 3) 0 none).1 = .ok ∧
    (compile cfgL (Cache.init 3) (DomStore.init 3) 0 none).2.1.bestExactValue = none := by decide +kernel
theorem runF : (compile cfgF (Cache.init 3) (DomStore.init 3) 0 none).1 = .ok ∧
    (compile cfgF (Cache.init 3) (DomStore.init 3) 0 none).2.1.bestExactValue = none := by decide +kernel

example : (compile cfgL (Cache.init 3) (DomStore.init 3) 0 none).2.2.2.ndom = 1 ∧
    (compile cfgL (Cache.init 3) (DomStore.init 3) 0 none).2.2.2.lel = some 1 := by decide +kernel

example : ∃ bv, (compile cfgL (Cache.init 3) (DomStore.init 3) 0 none).2.1.bestValue = some bv ∧ 3 ≤ bv :=
  relaxed_ub_dom cfgL rule Tiny.H 3 Prot 1 domHypL rfl (by decide) Tiny.mergeOk attMerge [] (Cache.init 3)
    (DomStore.init 3) 0 Reach.root ⟨rfl, rfl, by decide⟩ (storeReach_init rule _ 3) (by decide) runL.1

example : ∃ c ∈ (compile cfgL (Cache.init 3) (DomStore.init 3) 0 none).2.1.cutset, Prot c.depth c.state c.value ∧ 3 ≤ c.ub :=
  relaxed_cutset_dom cfgL rule Tiny.H 3 Prot 1 domHypL rfl (by decide) Tiny.mergeOk attMerge [] (Cache.init 3)
    (DomStore.init 3) 0 Reach.root ⟨rfl, rfl, by decide⟩ (storeReach_init rule _ 3) (by decide) runL.1
    (fun w hw => by rw [runL.2] at hw; cases hw)

example : ∃ c ∈ (compile cfgF (Cache.init 3) (DomStore.init 3) 0 none).2.1.cutset, Prot c.depth c.state c.value ∧ 3 ≤ c.ub :=
  relaxed_cutset_dom cfgF rule Tiny.H 3 Prot 1 domHypF rfl (by decide) Tiny.mergeOk attMerge [] (Cache.init 3)
    (DomStore.init 3) 0 Reach.root ⟨rfl, rfl, by decide⟩ (storeReach_init rule _ 3) (by decide) runF.1
    (fun w hw => by rw [runF.2] at hw; cases hw)

example : ((compile cfgL (Cache.init 3) (DomStore.init 3) 0 none).2.1.cutset.map
    (fun c => (c.state, c.value, c.ub, c.depth))) = [(1, 1, 3, 1)] := by decide +kernel

end TinyDom

end Ddo.C10
