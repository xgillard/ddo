import DdoModel.Proofs.PooledLoop
import DdoModel.Proofs.PooledFinal
/-! The exactness invariant of the pooled diagram (C07, C08 (i)): a node flagged exact is reached by the decisions of its `best` chain
    (`BestChainP`: arcs from any earlier layer) with exactly its value, at the depth recorded with its layer, or at the current depth for a
    pool node.  It is kept for an arbitrary `PathRel R` (`MInvR`); `MInvP` is the instance `R := ReachSkip` after a prefix.
    Statements: `Props/C07p.lean`, `Props/C08q.lean`. -/
set_option linter.unusedSectionVars false
set_option linter.unusedVariables false
namespace Ddo.PTruth
open Ddo Ddo.Pooled
variable {S K : Type} [DecidableEq S] [DecidableEq K]

/-- `n`, located `k` iterations below the root of the compilation (all its ancestors in layers of index `< l`), is
    `R`-reached by the decisions of its `best` chain with exactly its value -/
def SelfR (cfg : Cfg S K) (B : Int) (R : Nat → S → Int → List Dec → Prop) (layers : List (List (Node S))) (l k : Nat)
    (n : Node S) : Prop :=
  ∃ q, BestChainP layers l n.best q ∧ R (cfg.root.depth + k) n.state n.value q ∧ Bnd B k n.value

def NodeOkR (cfg : Cfg S K) (B : Int) (R : Nat → S → Int → List Dec → Prop) (layers : List (List (Node S))) (l k : Nat)
    (n : Node S) : Prop :=
  n.isExact = true → SelfR cfg B R layers l k n

theorem NodeOkR.of_core {cfg : Cfg S K} {B : Int} {R : Nat → S → Int → List Dec → Prop} {layers : List (List (Node S))}
    {l k : Nat} {n0 n : Node S} (h : NodeOkR cfg B R layers l k n0) (he : n.isExact = true → n0.isExact = true)
    (hs : n0.state = n.state) (hv : n0.value = n.value) (hb : n0.best = n.best) : NodeOkR cfg B R layers l k n := by
  intro hn
  obtain ⟨q, h1, h2, h3⟩ := h (he hn)
  exact ⟨q, hb ▸ h1, hs ▸ hv ▸ h2, hv ▸ h3⟩

theorem NodeOkR.mono {cfg : Cfg S K} {B : Int} {R : Nat → S → Int → List Dec → Prop} {layers : List (List (Node S))}
    {l k : Nat} {n : Node S} (h : NodeOkR cfg B R layers l k n) (more : List (List (Node S))) :
    NodeOkR cfg B R (layers ++ more) l k n := by
  intro hn
  obtain ⟨q, h1, h2⟩ := h hn
  exact ⟨q, h1.mono more, h2⟩

/-- a node of the layer being expanded (index `layers.length`, depth `dp`); `L` = the pool states handed to `nextVar` -/
def ParOkR (cfg : Cfg S K) (B : Int) (R : Nat → S → Int → List Dec → Prop) (layers : List (List (Node S))) (k dp : Nat)
    (L : List S) (n : Node S) : Prop :=
  NodeOkR cfg B R layers layers.length k n ∧ (n.isExact = true → n.state ∈ L ∧ n.depth = dp)

theorem ParOkR.of_sub {cfg : Cfg S K} {B : Int} {R : Nat → S → Int → List Dec → Prop} {layers : List (List (Node S))}
    {k dp : Nat} {L : List S} {ly ly0 : List (Node S)} (hs : SubE ly ly0)
    (h : ∀ n ∈ ly0, ParOkR cfg B R layers k dp L n) : ∀ n ∈ ly, ParOkR cfg B R layers k dp L n := by
  intro n hn
  refine ⟨fun he => ?_, fun he => ?_⟩
  · obtain ⟨n0, h0, he0, hc⟩ := hs n hn he
    exact (h n0 h0).1.of_core (fun _ => he0) hc.1 hc.2.1 hc.2.2.1 he
  · obtain ⟨n0, h0, he0, hc⟩ := hs n hn he
    obtain ⟨h1, h2⟩ := (h n0 h0).2 he0
    exact ⟨hc.1 ▸ h1, hc.2.2.2 ▸ h2⟩

theorem childOkR_appendEdge (cfg : Cfg S K) (B : Int) (R : Nat → S → Int → List Dec → Prop) (hR : PathRel cfg.P R)
    (hB : NoClamp cfg.P cfg.R cfg.root.value B)
    (layers : List (List (Node S))) (k : Nat) (hk : k ≤ cfg.P.nbVars + 1)
    (ly0 : List (Node S)) (dp : Nat) (L : List S) (var : Nat)
    (hnv : cfg.P.nextVar (cfg.root.depth + k) L = some var)
    (p : Nat) (n0 par : Node S) (h0 : ly0[p]? = some n0) (hpar0 : ParOkR cfg B R layers k dp L n0)
    (hs : stripRub n0 = stripRub par) (d : Int) (hd : d ∈ cfg.P.domain var par.state)
    (m : Node S)
    (hm : NodeOkR cfg B R (layers ++ [ly0]) (layers.length + 1) (k + 1) m ∨ m = freshNode cfg par ⟨var, d⟩)
    (hms : m.state = cfg.P.trans par.state ⟨var, d⟩) :
    NodeOkR cfg B R (layers ++ [ly0]) (layers.length + 1) (k + 1) (appendEdge par m
      ⟨layers.length, p, ⟨var, d⟩, cfg.P.cost par.state (cfg.P.trans par.state ⟨var, d⟩) ⟨var, d⟩⟩) := by
  intro hex
  rw [appendEdge_isExact, Bool.and_eq_true] at hex
  obtain ⟨hpe, hme⟩ := hex
  obtain ⟨hie, hst, hv, hb, hdp⟩ := stripRub_core hs
  obtain ⟨q, hq, hreach, hbnd⟩ := hpar0.1 (hie.trans hpe)
  have hinL := (hpar0.2 (hie.trans hpe)).1
  unfold SelfR
  rw [Ddo.appendEdge_state]
  have hcost := hB.cost par.state (cfg.P.trans par.state ⟨var, d⟩) ⟨var, d⟩
  have hbnd' : Bnd B (k + 1) (par.value + cfg.P.cost par.state (cfg.P.trans par.state ⟨var, d⟩) ⟨var, d⟩) :=
    (hv ▸ hbnd).step hcost
  have hsat : satAdd par.value (cfg.P.cost par.state (cfg.P.trans par.state ⟨var, d⟩) ⟨var, d⟩) =
      par.value + cfg.P.cost par.state (cfg.P.trans par.state ⟨var, d⟩) ⟨var, d⟩ :=
    clamp_of_in (satAdd_of_bnd hB (Nat.succ_le_succ hk) hbnd')
  have hstep := hR.step _ _ _ _ L var d hreach hnv hinL (hst ▸ hd)
  rw [hst, hv] at hstep
  rcases appendEdge_best_value par m
    ⟨layers.length, p, ⟨var, d⟩, cfg.P.cost par.state (cfg.P.trans par.state ⟨var, d⟩) ⟨var, d⟩⟩ with
      ⟨_, hbest, hval⟩ | ⟨hlt, hbest, hval⟩
  · refine ⟨q ++ [⟨var, d⟩], ?_, ?_, ?_⟩
    · rw [hbest]
      refine BestChainP.step _ ⟨layers.length, p, ⟨var, d⟩, _⟩ n0 q (Nat.lt_succ_self _) ?_ (hq.mono _)
      dsimp only
      rw [Cover.getNode_last]
      exact h0
    · rw [hval, hms]
      dsimp only
      rw [hsat, ← Nat.add_assoc]
      exact hstep
    · rw [hval]; dsimp only; rw [hsat]; exact hbnd'
  · rw [hbest, hval]
    rcases hm with hm | hm
    · obtain ⟨q', h1, h2, h3⟩ := hm hme
      exact ⟨q', h1, hms ▸ h2, h3⟩
    · exfalso
      apply hlt
      rw [hm]
      simp only [freshNode]
      exact Int.le_refl _

theorem expFR_inv (cfg : Cfg S K) (B : Int) (R : Nat → S → Int → List Dec → Prop) (hR : PathRel cfg.P R)
    (hB : NoClamp cfg.P cfg.R cfg.root.value B)
    (layers : List (List (Node S))) (k : Nat) (hk : k ≤ cfg.P.nbVars + 1)
    (ly0 : List (Node S)) (dp : Nat) (L : List S) (var : Nat) (rest : List (Node S))
    (hnv : cfg.P.nextVar (cfg.root.depth + k) L = some var)
    (hpar : ∀ n ∈ ly0, ParOkR cfg B R layers k dp L n)
    (hrest : ∀ c ∈ rest, NodeOkR cfg B R (layers ++ [ly0]) (layers.length + 1) (k + 1) c)
    (cur : List Nat) (log : List (Call S)) :
    RubEq (expF cfg var layers.length ly0 rest cur log).1 ly0 ∧
      ∀ c ∈ (expF cfg var layers.length ly0 rest cur log).2.1,
        NodeOkR cfg B R (layers ++ [ly0]) (layers.length + 1) (k + 1) c :=
  expF_children cfg var layers.length ly0 rest cur log _ hrest fun p _ n0 par h0 hs d hd m hm hms =>
    childOkR_appendEdge cfg B R hR hB layers k hk ly0 dp L var hnv p n0 par h0 (hpar n0 (List.mem_of_getElem? h0)) hs d hd m hm
      hms

/-- the exact-node invariant of the top-down build of the pooled diagram, `k` = number of completed iterations -/
structure MInvR (cfg : Cfg S K) (B : Int) (R : Nat → S → Int → List Dec → Prop) (pd : PD S K) (k : Nat) : Prop where
  depth : pd.depth = cfg.root.depth + k
  layers : ∀ (l dp : Nat) (ly : List (Node S)), pd.layers[l]? = some (dp, ly) →
    ∃ k', k' < k ∧ dp = cfg.root.depth + k' ∧
      ∀ n ∈ ly, NodeOkR cfg B R pd.plain l k' n ∧ (n.isExact = true → n.depth = dp)
  pool : ∀ n ∈ pd.pool, NodeOkR cfg B R pd.plain pd.layers.length k n

theorem MInvR.congr {cfg : Cfg S K} {B : Int} {R : Nat → S → Int → List Dec → Prop} {pd pd' : PD S K} {k : Nat}
    (h : MInvR cfg B R pd k) (hl : pd'.layers = pd.layers) (hn : pd'.pool = pd.pool) (hd : pd'.depth = pd.depth) :
    MInvR cfg B R pd' k := by
  obtain ⟨h0, h1, h2⟩ := h
  have hp : pd'.plain = pd.plain := by unfold PD.plain; rw [hl]
  exact ⟨hd ▸ h0, hp ▸ hl ▸ h1, hp ▸ hl ▸ hn ▸ h2⟩

theorem stepLayerP_invR (cfg : Cfg S K) (B : Int) (R : Nat → S → Int → List Dec → Prop) (hR : PathRel cfg.P R)
    (hB : NoClamp cfg.P cfg.R cfg.root.value B)
    (pd pd' : PD S K) (var k : Nat) (hinv : MInvR cfg B R pd k)
    (hnv : cfg.P.nextVar pd.depth (pd.pool.map (·.state)) = some var) (hk : k ≤ cfg.P.nbVars + 1)
    (h : stepLayerP cfg pd var = some pd') : MInvR cfg B R pd' (k + 1) := by
  obtain ⟨layer, cur, ief, log, hs⟩ := stepLayerP_elim cfg pd pd' var h
  have hnv' : cfg.P.nextVar (cfg.root.depth + k) (pd.pool.map (·.state)) = some var := hinv.depth ▸ hnv
  have hcn : ∀ n ∈ curNodes cfg pd var, ParOkR cfg B R pd.plain k pd.depth (pd.pool.map (·.state)) n := by
    intro n hn
    obtain ⟨m, hm', _, rfl⟩ := mem_curNodes_iff.1 hn
    refine ⟨?_, fun _ => ⟨List.mem_map.2 ⟨m, hm', rfl⟩, rfl⟩⟩
    rw [plain_length]
    exact (hinv.pool m hm').of_core (fun h => h) rfl rfl rfl
  have hfd := fdOf_subS cfg pd var
  obtain ⟨hsq1, hsq2⟩ := squashCase_sub cfg _ _ _ _ _ _ _ _ _ hs.sq
  have hpar : ∀ n ∈ layer, ParOkR cfg B R pd.plain k pd.depth (pd.pool.map (·.state)) n :=
    ParOkR.of_sub (hsq1.trans hfd.toSub) hcn
  have hrest : ∀ c ∈ restNodes cfg pd var,
      NodeOkR cfg B R (pd.plain ++ [layer]) (pd.plain.length + 1) (k + 1) c := by
    intro c hc hex
    obtain ⟨hcp, himp⟩ := mem_restNodes_iff.1 hc
    obtain ⟨q, h1, h2, h3⟩ := hinv.pool c hcp hex
    refine ⟨q, (h1.mono _).of_le (.inl (by rw [plain_length]; exact Nat.le_succ _)), ?_, h3.mono hB.nonneg (Nat.le_succ k)⟩
    exact hR.skip _ _ _ _ _ var h2 hnv' (List.mem_map.2 ⟨c, hcp, rfl⟩) himp
  have hE := expFR_inv cfg B R hR hB pd.plain k hk layer pd.depth (pd.pool.map (·.state)) var (restNodes cfg pd var)
    hnv' hpar hrest cur log
  have hlayers := hs.layers
  have hplain := hs.plain
  have hpool := hs.pool
  rw [← plain_length pd] at hlayers hplain hpool
  generalize expF cfg var pd.plain.length layer (restNodes cfg pd var) cur log = r at hE hlayers hplain hpool
  obtain ⟨hrub, hchild⟩ := hE
  have hlen' : pd'.layers.length = if r.1.isEmpty then pd.layers.length else pd.layers.length + 1 := by
    rw [hlayers]; split
    · rfl
    · rw [List.length_append, List.length_singleton]
  refine ⟨?_, ?_, ?_⟩
  · rw [hs.depth, hinv.depth]; rfl
  · intro l dp ly hl
    rw [hlayers] at hl
    rw [hplain]
    by_cases hemp : r.1.isEmpty = true
    · rw [if_pos hemp] at hl ⊢
      obtain ⟨k', hk', hdp, hn⟩ := hinv.layers l dp ly hl
      exact ⟨k', Nat.lt_succ_of_lt hk', hdp, hn⟩
    · rw [if_neg hemp] at hl ⊢
      rcases getElem?_append_singleton_cases hl with hl | ⟨rfl, he⟩
      · obtain ⟨k', hk', hdp, hn⟩ := hinv.layers l dp ly hl
        exact ⟨k', Nat.lt_succ_of_lt hk', hdp, fun n hnm => ⟨((hn n hnm).1).mono _, (hn n hnm).2⟩⟩
      · obtain ⟨rfl, rfl⟩ := Prod.mk.inj he
        refine ⟨k, Nat.lt_succ_self _, hinv.depth, fun n hnm => ?_⟩
        obtain ⟨h1, h2⟩ := ParOkR.of_sub hrub.subS.toSub hpar n hnm
        exact ⟨plain_length pd ▸ h1.mono _, fun he => (h2 he).2⟩
  · intro c hc hex
    rw [hpool] at hc
    obtain ⟨q, h1, h2, h3⟩ := hchild c hc hex
    refine ⟨q, ?_, h2, h3⟩
    rw [hplain, hlen']
    by_cases hemp : r.1.isEmpty = true
    · rw [if_pos hemp, if_pos hemp]
      rw [hrub.isEmpty_iff.1 hemp] at h1
      exact h1.drop_nil.of_le (.inr (by rw [plain_length]; exact Nat.le_refl _))
    · rw [if_neg hemp, if_neg hemp, ← plain_length]
      exact h1.of_keyEq (keyEq_of_rubEq pd.plain hrub)

theorem initPD_invR (cfg : Cfg S K) (B : Int) (R : Nat → S → Int → List Dec → Prop)
    (hB : NoClamp cfg.P cfg.R cfg.root.value B)
    (hroot : R cfg.root.depth cfg.root.state cfg.root.value [])
    (cache : Cache S) (store : DomStore S K) (polls : Nat) : MInvR cfg B R (initPD cfg cache store polls) 0 := by
  refine ⟨rfl, ?_, ?_⟩
  · intro l dp ly hl
    simp only [initPD, List.getElem?_nil] at hl
    cases hl
  · intro n hn
    simp only [initPD, List.mem_singleton] at hn
    subst hn
    intro _
    exact ⟨[], .root _, hroot, Bnd.zero hB.root⟩

theorem buildLoopP_invR (cfg : Cfg S K) (B : Int) (R : Nat → S → Int → List Dec → Prop) (hR : PathRel cfg.P R)
    (hB : NoClamp cfg.P cfg.R cfg.root.value B) (stopAt : Option Nat) :
    ∀ (fuel : Nat) (pd : PD S K) (k : Nat), MInvR cfg B R pd k → k + fuel ≤ cfg.P.nbVars + 2 →
      ∃ k', k' ≤ cfg.P.nbVars + 2 ∧ MInvR cfg B R (buildLoopP cfg stopAt fuel pd).1 k' ∧
        ((buildLoopP cfg stopAt fuel pd).2 = .ok → TerminalP cfg (buildLoopP cfg stopAt fuel pd).1) :=
  fun fuel pd k h hk => buildLoopP_induct_le cfg stopAt (cfg.P.nbVars + 1) (MInvR cfg B R)
    (fun pd k h => ⟨h.congr rfl rfl rfl, h.congr rfl rfl rfl⟩)
    (fun pd pd' var k hk hnv _ h hst => stepLayerP_invR cfg B R hR hB pd pd' var k h hnv hk hst) fuel pd k h (.inl hk)

end Ddo.PTruth

namespace Ddo.Pooled
open Ddo
variable {S K : Type} [DecidableEq S] [DecidableEq K]

/-- an exact node `n`, all of whose ancestors live in layers of index `< l`, sitting `k` iterations below the root of the
    compilation: it is reached (with skips) at depth `root.depth + k` by `p0` followed by the decisions of its `best`
    chain, with exactly its value -/
def NodeOkP (cfg : Cfg S K) (B : Int) (p0 : List Dec) (layers : List (List (Node S))) (l k : Nat) (n : Node S) : Prop :=
  n.isExact = true → ∃ q, BestChainP layers l n.best q ∧
    ReachSkip cfg.P (cfg.root.depth + k) n.state n.value (p0 ++ q) ∧ Bnd B k n.value

structure MInvP (cfg : Cfg S K) (B : Int) (p0 : List Dec) (pd : PD S K) (k : Nat) : Prop where
  depth : pd.depth = cfg.root.depth + k
  layers : ∀ (l dp : Nat) (ly : List (Node S)), pd.layers[l]? = some (dp, ly) →
    ∃ k', k' < k ∧ dp = cfg.root.depth + k' ∧
      ∀ n ∈ ly, NodeOkP cfg B p0 pd.plain l k' n ∧ (n.isExact = true → n.depth = dp)
  pool : ∀ n ∈ pd.pool, NodeOkP cfg B p0 pd.plain pd.layers.length k n
  allEx : cfg.ctype ≠ .relaxed → ∀ n ∈ pd.pool, n.isExact = true

theorem MInvP.congr {cfg : Cfg S K} {B : Int} {p0 : List Dec} {pd pd' : PD S K} {k : Nat} (h : MInvP cfg B p0 pd k)
    (hl : pd'.layers = pd.layers) (hn : pd'.pool = pd.pool) (hd : pd'.depth = pd.depth) : MInvP cfg B p0 pd' k := by
  obtain ⟨h0, h1, h2, h3⟩ := h
  have hp : pd'.plain = pd.plain := by unfold PD.plain; rw [hl]
  exact ⟨hd ▸ h0, hp ▸ hl ▸ h1, hp ▸ hl ▸ hn ▸ h2, hn ▸ h3⟩

theorem MInvP.dep {cfg : Cfg S K} {B : Int} {p0 : List Dec} {pd : PD S K} {k : Nat} (hinv : MInvP cfg B p0 pd k)
    (l dp : Nat) (ly : List (Node S)) (hl : pd.layers[l]? = some (dp, ly)) (n : Node S) (hn : n ∈ ly)
    (hex : n.isExact = true) : n.depth = dp := by
  obtain ⟨_, _, _, hok⟩ := hinv.layers l dp ly hl
  exact (hok n hn).2 hex

theorem MInvP.toR {cfg : Cfg S K} {B : Int} {p0 : List Dec} {pd : PD S K} {k : Nat} (h : MInvP cfg B p0 pd k) :
    PTruth.MInvR cfg B (fun k s v q => ReachSkip cfg.P k s v (p0 ++ q)) pd k := ⟨h.depth, h.layers, h.pool⟩

theorem stepLayerP_inv (cfg : Cfg S K) (B : Int) (p0 : List Dec) (hB : NoClamp cfg.P cfg.R cfg.root.value B)
    (pd pd' : PD S K) (var k : Nat) (hinv : MInvP cfg B p0 pd k)
    (hnv : cfg.P.nextVar pd.depth (pd.pool.map (·.state)) = some var) (hk : k ≤ cfg.P.nbVars + 1)
    (h : stepLayerP cfg pd var = some pd') : MInvP cfg B p0 pd' (k + 1) :=
  have hR := PTruth.stepLayerP_invR cfg B _ (pathRel_reachSkip cfg.P p0) hB pd pd' var k hinv.toR hnv hk h
  ⟨hR.depth, hR.layers, hR.pool, fun hne => stepLayerP_allEx cfg pd pd' var hne (hinv.allEx hne) h⟩

theorem buildLoopP_inv (cfg : Cfg S K) (B : Int) (p0 : List Dec) (hB : NoClamp cfg.P cfg.R cfg.root.value B)
    (stopAt : Option Nat) :
    ∀ (fuel : Nat) (pd : PD S K) (k : Nat), MInvP cfg B p0 pd k → k + fuel ≤ cfg.P.nbVars + 2 →
      ∃ k', MInvP cfg B p0 (buildLoopP cfg stopAt fuel pd).1 k' ∧
        ((buildLoopP cfg stopAt fuel pd).2 = .ok → TerminalP cfg (buildLoopP cfg stopAt fuel pd).1) :=
  fun fuel pd k h hk =>
    have ⟨k', _, h'⟩ := buildLoopP_induct_le cfg stopAt (cfg.P.nbVars + 1) (MInvP cfg B p0)
      (fun pd k h => ⟨h.congr rfl rfl rfl, h.congr rfl rfl rfl⟩)
      (fun pd pd' var k hk hnv _ h hst => stepLayerP_inv cfg B p0 hB pd pd' var k h hnv hk hst) fuel pd k h (.inl hk)
    ⟨k', h'⟩

theorem initPD_inv (cfg : Cfg S K) (B : Int) (p0 : List Dec) (hB : NoClamp cfg.P cfg.R cfg.root.value B)
    (hroot : ReachSkip cfg.P cfg.root.depth cfg.root.state cfg.root.value p0)
    (cache : Cache S) (store : DomStore S K) (polls : Nat) : MInvP cfg B p0 (initPD cfg cache store polls) 0 :=
  have hR := PTruth.initPD_invR cfg B (fun k s v q => ReachSkip cfg.P k s v (p0 ++ q)) hB
    (by rw [List.append_nil]; exact hroot) cache store polls
  ⟨hR.depth, hR.layers, hR.pool, fun _ n hn => by
    simp only [initPD, List.mem_singleton] at hn
    subst hn
    rfl⟩

/-- **(A) for the pooled diagram.**  Every node flagged exact is reached — `ReachSkip`: layers whose variable does not
    impact the state contribute no decision — from the problem root by `p0` (a decision list reaching the root
    sub-problem) followed by the decisions of its `best` chain, with exactly its value, at the depth of the layer it was
    placed in (`dp`, which is also its `depth` field) for a node of a materialised layer, at the current depth `pd.depth`
    for a node still in the pool (the depth `_finalize_layers` gives it if the compilation stops there; its `depth` field
    is stale: parent depth + 1). -/
def ExactReachP (cfg : Cfg S K) (p0 : List Dec) (pd : PD S K) : Prop :=
  (∀ (l dp : Nat) (ly : List (Node S)), pd.layers[l]? = some (dp, ly) → ∀ n ∈ ly, n.isExact = true →
    n.depth = dp ∧ cfg.root.depth ≤ dp ∧ dp < pd.depth ∧ ∀ fuel, l ≤ fuel →
      ReachSkip cfg.P dp n.state n.value (p0 ++ (bestPath pd.plain fuel n).reverse)) ∧
  (∀ n ∈ pd.pool, n.isExact = true → ∀ fuel, pd.layers.length ≤ fuel →
      ReachSkip cfg.P pd.depth n.state n.value (p0 ++ (bestPath pd.plain fuel n).reverse))

theorem MInvP.exactReach {cfg : Cfg S K} {B : Int} {p0 : List Dec} {pd : PD S K} {k : Nat} (h : MInvP cfg B p0 pd k) :
    ExactReachP cfg p0 pd := by
  refine ⟨fun l dp ly hl n hn he => ?_, fun n hn he fuel hf => ?_⟩
  · obtain ⟨k', hk', hdp, hok⟩ := h.layers l dp ly hl
    obtain ⟨h1, h2⟩ := hok n hn
    obtain ⟨q, hq, hr, _⟩ := h1 he
    refine ⟨h2 he, by rw [hdp]; exact Nat.le_add_right _ _, by rw [h.depth, hdp]; exact Nat.add_lt_add_left hk' _, fun fuel hf => ?_⟩
    rw [hq.bestPath_eq n rfl fuel hf, hdp]
    exact hr
  · obtain ⟨q, hq, hr, _⟩ := h.pool n hn he
    rw [hq.bestPath_eq n rfl fuel hf, h.depth]
    exact hr

/-- **(A)** for a whole pooled compilation, any compilation type, any cache / dominance configuration -/
theorem buildLoopP_exact_reach (cfg : Cfg S K) (B : Int) (p0 : List Dec) (hB : NoClamp cfg.P cfg.R cfg.root.value B)
    (hroot : ReachSkip cfg.P cfg.root.depth cfg.root.state cfg.root.value p0)
    (cache : Cache S) (store : DomStore S K) (polls : Nat) (stopAt : Option Nat) (fuel : Nat)
    (hfuel : fuel ≤ cfg.P.nbVars + 2) :
    ExactReachP cfg p0 (buildLoopP cfg stopAt fuel (initPD cfg cache store polls)).1 := by
  obtain ⟨k', h, _⟩ := buildLoopP_inv cfg B p0 hB stopAt fuel _ 0 (initPD_inv cfg B p0 hB hroot cache store polls)
    (by rw [Nat.zero_add]; exact hfuel)
  exact h.exactReach

end Ddo.Pooled

namespace Ddo.PTruth
open Ddo Ddo.Pooled
variable {S K : Type} [DecidableEq S] [DecidableEq K]

/-- C08 (i) for `finalizePOld` in `R` form: a cut-set sub-problem is `R`-reached by the decisions its path adds to the path of the root -/
theorem finalizeP_cutset_rel (cfg : Cfg S K) (B : Int) (R : Nat → S → Int → List Dec → Prop) (pd : PD S K) (k : Nat)
    (e : Bool) (hinv : MInvR cfg B R pd k) (c : SubP S) (hc : c ∈ (finalizePOld cfg pd e).cutset) :
    ∃ q, R c.depth c.state c.value q ∧ c.path = cfg.root.path ++ q.reverse := by
  obtain ⟨lp, n, hlp, hn, hs, hv, hd, hpath⟩ := finalizeP_cutset_mem cfg pd e c hc
  obtain ⟨n0, hn0, hex, _⟩ := computeCutset_frontier 0 _ lp hlp
  have hx := layers3P_xEq cfg pd e
  obtain ⟨n0', hn0', hsn⟩ := hx.getNode_some hn
  rw [hn0] at hn0'
  cases hn0'
  have e1 : n0.state = n.state := by have := congrArg Node.state hsn; simpa only [stripB] using this
  have e2 : n0.value = n.value := by have := congrArg Node.value hsn; simpa only [stripB] using this
  have e3 : n0.best = n.best := by have := congrArg Node.best hsn; simpa only [stripB] using this
  have e4 : n0.depth = n.depth := by have := congrArg Node.depth hsn; simpa only [stripB] using this
  have hlt : lp.1 < (layers3P cfg pd e).length := getNode_lt hn
  have key : ∃ q l, l ≤ lp.1 ∧ BestChainP pd.plain l n0.best q ∧ R n0.depth n0.state n0.value q := by
    rcases getNode_layers0 pd hn0 with ⟨dp, ly, hl, hmem, _⟩ | ⟨hl, m, hm, rfl⟩
    · obtain ⟨k', _, hdp, hok⟩ := hinv.layers lp.1 dp ly hl
      obtain ⟨h1, h2⟩ := hok n0 hmem
      obtain ⟨q, hq, hr, _⟩ := h1 hex
      exact ⟨q, lp.1, Nat.le_refl _, hq, by rw [h2 hex, hdp]; exact hr⟩
    · obtain ⟨q, hq, hr, _⟩ := hinv.pool m hm hex
      exact ⟨q, pd.layers.length, Nat.le_of_eq hl.symm, hq, by dsimp only; rw [hinv.depth]; exact hr⟩
  obtain ⟨q, l, hl, hq, hr⟩ := key
  refine ⟨q, ?_, ?_⟩
  · rw [hs, hv, hd, ← e1, ← e2, ← e4]; exact hr
  · have hchain : BestChainP (layers3P cfg pd e) l n.best q := e3 ▸ (hq.mono [termsP pd]).of_xEq hx
    have := hchain.bestPath_eq n rfl ((layers3P cfg pd e).length + 1) (Nat.le_succ_of_le (Nat.le_of_lt (Nat.lt_of_le_of_lt hl hlt)))
    rw [hpath, ← this, List.reverse_reverse]

end Ddo.PTruth

namespace Ddo.Pooled
open Ddo
variable {S K : Type} [DecidableEq S] [DecidableEq K]

/-- **C08 (i) for `finalizePOld`**, any `hasEBP` bit, from the invariant of the top-down build -/
theorem finalizeP_cutset_exact (cfg : Cfg S K) (B : Int) (p0 : List Dec) (pd : PD S K) (k : Nat) (e : Bool)
    (hinv : MInvP cfg B p0 pd k) (c : SubP S) (hc : c ∈ (finalizePOld cfg pd e).cutset) :
    ∃ q, ReachSkip cfg.P c.depth c.state c.value (p0 ++ q) ∧ c.path = cfg.root.path ++ q.reverse :=
  PTruth.finalizeP_cutset_rel cfg B _ pd k e hinv.toR c hc

end Ddo.Pooled
