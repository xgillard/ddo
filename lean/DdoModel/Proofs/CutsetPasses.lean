import DdoModel.Proofs.MddCutset
/-! The two passes of `computeCutset`, each as a fold with its invariant, for a diagram in which no `cutset` flag is raised yet.
    Frontier (`_compute_frontier_cutset`): a triple fold over layers, positions and inbound arcs; one invariant (`FrInv2`) says what a
    raised flag means, and `frontier_visit` that a flag raised when the pass visits a position is still raised at the end — which
    positions the cut-set contains and what the flags say afterwards both follow.  Last exact layer
    (`_compute_last_exact_layer_cutset`): one map per layer. -/
set_option linter.unusedSectionVars false
set_option linter.unusedVariables false
namespace Ddo.Bounds
open Ddo
variable {S : Type} [DecidableEq S]

theorem getNode_modNode (ls : List (List (Node S))) (l' p' : Nat) (f : Node S → Node S) (l p : Nat) :
    getNode (modNode ls l' p' f) l p = if l = l' ∧ p = p' then (getNode ls l p).map f else getNode ls l p := by
  unfold modNode
  cases hl : ls[l']? with
  | none =>
    dsimp only
    split
    · rename_i h; obtain ⟨rfl, rfl⟩ := h
      unfold getNode; rw [hl]; rfl
    · rfl
  | some ly =>
    dsimp only
    cases hp : ly[p']? with
    | none =>
      dsimp only
      split
      · rename_i h; obtain ⟨rfl, rfl⟩ := h
        unfold getNode; rw [hl]; dsimp only; rw [hp]; rfl
      · rfl
    | some n =>
      dsimp only
      have hl' : l' < ls.length := Cover.lt_of_getElem?_some hl
      have hp' : p' < ly.length := Cover.lt_of_getElem?_some hp
      unfold getNode
      by_cases h1 : l = l'
      · subst h1
        rw [List.getElem?_set_self hl', hl]
        dsimp only
        by_cases h2 : p = p'
        · subst h2
          rw [List.getElem?_set_self hp', hp, if_pos ⟨rfl, rfl⟩]; rfl
        · rw [List.getElem?_set_ne (fun h => h2 h.symm), if_neg (fun h => h2 h.2)]
      · rw [List.getElem?_set_ne (fun h => h1 h.symm), if_neg (fun h => h1 h.1)]

theorem foldl_reach {α β : Type} (f : β → α → β) (R Q : β → Prop) (x : α)
    (hR : ∀ b a, R b → R (f b a)) (hQ : ∀ b a, Q b → Q (f b a)) (hx : ∀ b, R b → Q (f b x)) :
    ∀ (l : List α) (b : β), x ∈ l → R b → Q (l.foldl f b) := by
  intro l
  induction l with
  | nil => intro b h; cases h
  | cons a l ih =>
    intro b hmem hb
    rw [List.foldl_cons]
    rcases List.mem_cons.mp hmem with rfl | hmem
    · exact Ddo.foldl_inv Q f l _ (hx b hb) (fun b a _ h => hQ b a h)
    · exact ih _ hmem (hR b a hb)

theorem getNode_pos_lt {ls : List (List (Node S))} {l p : Nat} {n : Node S} (h : getNode ls l p = some n) :
    p < (ls[l]?.getD []).length := by
  obtain ⟨ly, hly, hp⟩ := Cover.getNode_lt h
  rw [hly, Option.getD_some]
  exact Cover.lt_of_getElem?_some hp

abbrev FrAcc (S : Type) := List (List (Node S)) × List (Nat × Nat)

def frArc (acc : FrAcc S) (e : Arc) : FrAcc S :=
  match getNode acc.1 e.fromL e.fromP with
  | some par => if par.isExact && !par.cutset then
      (modNode acc.1 e.fromL e.fromP (fun x => { x with cutset := true }), acc.2 ++ [(e.fromL, e.fromP)])
    else (acc.1, acc.2)
  | none => (acc.1, acc.2)

def frPos (l : Nat) (acc : FrAcc S) (p : Nat) : FrAcc S :=
  match getNode acc.1 l p with
  | none => (acc.1, acc.2)
  | some n =>
    if n.isExact then (modNode acc.1 l p (fun n => { n with above := true }), acc.2)
    else n.inb.foldl frArc (acc.1, acc.2)

def frLayer (acc : FrAcc S) (l : Nat) : FrAcc S :=
  (List.range (acc.1[l]?.getD []).length).foldl (frPos l) (acc.1, acc.2)

theorem computeCutset_frontier_eq (lel : Nat) (layers : List (List (Node S))) :
    computeCutset .frontier lel layers = (List.range layers.length).reverse.foldl frLayer (layers, []) := rfl

theorem computeCutset_lel_mem (lel : Nat) (layers : List (List (Node S))) (p : Nat) (n : Node S)
    (hn : getNode layers lel p = some n) : (lel, p) ∈ (computeCutset .lel lel layers).2 := by
  unfold computeCutset
  dsimp only
  rw [if_pos (Ddo.getNode_lt hn)]
  exact List.mem_map.mpr ⟨p, List.mem_range.mpr (getNode_pos_lt hn), rfl⟩

end Ddo.Bounds

namespace Ddo.Theta
open Ddo Ddo.Bounds
variable {S : Type} [DecidableEq S]

/-- invariant of the frontier pass: a raised `cutset` flag sits on an exact node whose position has been pushed; a raised
    `above` flag sits on an exact node, provided (`A`) no `above` flag was raised before the pass -/
def FrInv2 (A : Prop) (layers : List (List (Node S))) (acc : FrAcc S) : Prop :=
  XEq acc.1 layers ∧ ∀ (l p : Nat) (n : Node S), getNode acc.1 l p = some n →
    (n.cutset = true → n.isExact = true ∧ (l, p) ∈ acc.2) ∧ (A → n.above = true → n.isExact = true)

def Flag (g : Node S → Bool) (l p : Nat) (acc : FrAcc S) : Prop := ∃ n, getNode acc.1 l p = some n ∧ g n = true

/-- `g` is not lowered by the two writes of the frontier pass -/
def GMono (g : Node S → Bool) : Prop :=
  ∀ n : Node S, g n = true → g { n with cutset := true } = true ∧ g { n with above := true } = true

theorem gMono_cutset : GMono (S := S) Node.cutset := fun n h => ⟨rfl, h⟩
theorem gMono_above : GMono (S := S) Node.above := fun n h => ⟨h, rfl⟩

theorem getNode_map_some {ls : List (List (Node S))} {l p : Nat} {f : Node S → Node S} {n : Node S}
    (h : (getNode ls l p).map f = some n) : ∃ n0, getNode ls l p = some n0 ∧ n = f n0 := by
  cases h0 : getNode ls l p with
  | none => rw [h0] at h; cases h
  | some n0 => rw [h0] at h; exact ⟨n0, rfl, (Option.some.inj h).symm⟩

theorem flag_modNode {g : Node S → Bool} {l p : Nat} {ls : List (List (Node S))} {cs cs' : List (Nat × Nat)}
    (h : Flag g l p (ls, cs)) (l' p' : Nat) (f : Node S → Node S) (hf : ∀ n, g n = true → g (f n) = true) :
    Flag g l p (modNode ls l' p' f, cs') := by
  obtain ⟨n, hn, hg⟩ := h
  dsimp only at hn
  unfold Flag
  dsimp only
  rw [getNode_modNode]
  split
  · exact ⟨f n, by rw [hn]; rfl, hf n hg⟩
  · exact ⟨n, hn, hg⟩

theorem frArc_flag {g : Node S → Bool} (hg : GMono g) {l p : Nat} {acc : FrAcc S} (h : Flag g l p acc) (e : Arc) :
    Flag g l p (frArc acc e) := by
  unfold frArc
  split
  · split
    · exact flag_modNode (cs := acc.2) h _ _ _ (fun n hn => (hg n hn).1)
    · exact h
  · exact h

theorem frPos_flag {g : Node S → Bool} (hg : GMono g) {l p : Nat} {acc : FrAcc S} (h : Flag g l p acc) (l' p' : Nat) :
    Flag g l p (frPos l' acc p') := by
  unfold frPos
  split
  · exact h
  · split
    · exact flag_modNode (cs := acc.2) h _ _ _ (fun n hn => (hg n hn).2)
    · exact Ddo.foldl_inv (β := FrAcc S) (Flag g l p) frArc _ _ h (fun b e _ hb => frArc_flag hg hb e)

theorem frLayer_flag {g : Node S → Bool} (hg : GMono g) {l p : Nat} {acc : FrAcc S} (h : Flag g l p acc) (l' : Nat) :
    Flag g l p (frLayer acc l') :=
  Ddo.foldl_inv (β := FrAcc S) (Flag g l p) (frPos l') _ _ h (fun b q _ hb => frPos_flag hg hb l' q)

theorem frArc_inv2 {A : Prop} {layers : List (List (Node S))} {acc : FrAcc S} (h : FrInv2 A layers acc) (e : Arc) :
    FrInv2 A layers (frArc acc e) := by
  unfold frArc
  split
  · rename_i par hpar
    split
    · rename_i hcond
      refine ⟨h.1.modNode _ _ _ (fun _ _ => rfl), fun l p n hn => ?_⟩
      dsimp only at hn ⊢
      rw [getNode_modNode] at hn
      split at hn
      · rename_i hlp
        obtain ⟨n0, hn0, rfl⟩ := getNode_map_some hn
        rw [hlp.1, hlp.2] at hn0
        rw [hpar] at hn0
        cases hn0
        rw [hlp.1, hlp.2]
        have hpex : par.isExact = true := by
          cases hx : par.isExact with
          | true => rfl
          | false => rw [hx] at hcond; cases hcond
        exact ⟨fun _ => ⟨hpex, List.mem_append_right _ List.mem_cons_self⟩, fun ha => (h.2 _ _ par hpar).2 ha⟩
      · exact ⟨fun hc => ⟨((h.2 l p n hn).1 hc).1, List.mem_append_left _ ((h.2 l p n hn).1 hc).2⟩, (h.2 l p n hn).2⟩
    · exact h
  · exact h

theorem frPos_inv2 {A : Prop} {layers : List (List (Node S))} {acc : FrAcc S} (h : FrInv2 A layers acc) (l p : Nat) :
    FrInv2 A layers (frPos l acc p) := by
  unfold frPos
  split
  · exact h
  · rename_i m hm
    split
    · rename_i hmex
      refine ⟨h.1.modNode _ _ _ (fun _ _ => rfl), fun l' p' n hn => ?_⟩
      dsimp only at hn ⊢
      rw [getNode_modNode] at hn
      split at hn
      · rename_i hlp
        obtain ⟨n0, hn0, rfl⟩ := getNode_map_some hn
        rw [hlp.1, hlp.2] at hn0
        rw [hm] at hn0
        cases hn0
        rw [hlp.1, hlp.2]
        exact ⟨fun hc => (h.2 _ _ m hm).1 hc, fun _ _ => hmex⟩
      · exact h.2 l' p' n hn
    · exact Ddo.foldl_inv (FrInv2 A layers) frArc _ _ h (fun b e _ hb => frArc_inv2 hb e)

theorem frLayer_inv2 {A : Prop} {layers : List (List (Node S))} {acc : FrAcc S} (h : FrInv2 A layers acc) (l : Nat) :
    FrInv2 A layers (frLayer acc l) :=
  Ddo.foldl_inv (FrInv2 A layers) (frPos l) _ _ h (fun b p _ hb => frPos_inv2 hb l p)

theorem frInv2_init {A : Prop} (layers : List (List (Node S)))
    (hc0 : ∀ (l p : Nat) (n : Node S), getNode layers l p = some n → n.cutset = false)
    (ha0 : A → ∀ (l p : Nat) (n : Node S), getNode layers l p = some n → n.above = false) :
    FrInv2 A layers (layers, []) := by
  refine ⟨XEq.refl _, fun l p n hn => ⟨fun h => ?_, fun hA h => ?_⟩⟩
  · rw [hc0 l p n hn] at h; cases h
  · rw [ha0 hA l p n hn] at h; cases h

/-- a flag that is raised when the pass visits position `(l, p)` is raised once the pass is over -/
theorem frontier_visit {A : Prop} {g : Node S → Bool} (hg : GMono g) (lel : Nat) (layers : List (List (Node S)))
    (hc0 : ∀ (l p : Nat) (n : Node S), getNode layers l p = some n → n.cutset = false)
    (ha0 : A → ∀ (l p : Nat) (n : Node S), getNode layers l p = some n → n.above = false)
    (l p : Nat) (n : Node S) (hn : getNode layers l p = some n) (l0 p0 : Nat)
    (hstep : ∀ b, FrInv2 A layers b → Flag g l0 p0 (frPos l b p)) :
    Flag g l0 p0 (computeCutset .frontier lel layers) := by
  rw [computeCutset_frontier_eq]
  have hl : l ∈ (List.range layers.length).reverse := by
    rw [List.mem_reverse, List.mem_range]; exact Ddo.getNode_lt hn
  refine foldl_reach frLayer (FrInv2 A layers) (Flag g l0 p0) l
    (fun b a hb => frLayer_inv2 hb a) (fun b a hb => frLayer_flag hg hb a) ?_ _ _ hl (frInv2_init layers hc0 ha0)
  intro b hb
  obtain ⟨m1, hm1, _⟩ := hb.1.symm.getNode_some hn
  unfold frLayer
  exact foldl_reach (frPos l) (FrInv2 A layers) (Flag g l0 p0) p
    (fun b a hb => frPos_inv2 hb l a) (fun b a hb => frPos_flag hg hb l a) hstep _ _
    (List.mem_range.mpr (getNode_pos_lt hm1)) hb

theorem frontier_above {A : Prop} (lel : Nat) (layers : List (List (Node S)))
    (hc0 : ∀ (l p : Nat) (n : Node S), getNode layers l p = some n → n.cutset = false)
    (ha0 : A → ∀ (l p : Nat) (n : Node S), getNode layers l p = some n → n.above = false)
    (l p : Nat) (n : Node S) (hn : getNode layers l p = some n) (hex : n.isExact = true) :
    Flag Node.above l p (computeCutset .frontier lel layers) := by
  refine frontier_visit (A := A) gMono_above lel layers hc0 ha0 l p n hn l p (fun b' hb' => ?_)
  obtain ⟨m2, hm2, hs2⟩ := hb'.1.symm.getNode_some hn
  have hm2ex : m2.isExact = true := by rw [stripB_isExact hs2]; exact hex
  unfold frPos
  rw [hm2]
  dsimp only
  rw [if_pos hm2ex]
  unfold Flag
  dsimp only
  rw [getNode_modNode, if_pos ⟨rfl, rfl⟩, hm2]
  exact ⟨_, rfl, rfl⟩

theorem frontier_cutset {A : Prop} (lel : Nat) (layers : List (List (Node S)))
    (hc0 : ∀ (l p : Nat) (n : Node S), getNode layers l p = some n → n.cutset = false)
    (ha0 : A → ∀ (l p : Nat) (n : Node S), getNode layers l p = some n → n.above = false)
    (l' p' : Nat) (m : Node S) (e : Arc) (par : Node S)
    (hm : getNode layers l' p' = some m) (hmex : m.isExact = false) (he : e ∈ m.inb)
    (hpar : getNode layers e.fromL e.fromP = some par) (hpex : par.isExact = true) :
    Flag Node.cutset e.fromL e.fromP (computeCutset .frontier lel layers) := by
  refine frontier_visit (A := A) gMono_cutset lel layers hc0 ha0 l' p' m hm e.fromL e.fromP (fun b' hb' => ?_)
  obtain ⟨m2, hm2, hs2⟩ := hb'.1.symm.getNode_some hm
  have hm2ex : m2.isExact = false := by rw [stripB_isExact hs2]; exact hmex
  have he2 : e ∈ m2.inb := by rw [stripB_inb hs2]; exact he
  unfold frPos
  rw [hm2]
  dsimp only
  rw [if_neg (by rw [hm2ex]; exact Bool.false_ne_true)]
  refine foldl_reach frArc (FrInv2 A layers) (Flag Node.cutset e.fromL e.fromP) e
    (fun b a hb => frArc_inv2 hb a) (fun b a hb => frArc_flag gMono_cutset hb a) ?_ _ _ he2 hb'
  intro b'' hb''
  obtain ⟨par2, hpar2, hsp⟩ := hb''.1.symm.getNode_some hpar
  have hp2ex : par2.isExact = true := by rw [stripB_isExact hsp]; exact hpex
  unfold frArc
  rw [hpar2]
  dsimp only
  split
  · unfold Flag
    dsimp only
    rw [getNode_modNode, if_pos ⟨rfl, rfl⟩, hpar2]
    exact ⟨_, rfl, rfl⟩
  · rename_i hcond
    rw [hp2ex] at hcond
    refine ⟨par2, hpar2, ?_⟩
    cases hc : par2.cutset with
    | true => rfl
    | false => rw [hc] at hcond; exact absurd rfl hcond

theorem frontier_inv2 {A : Prop} (lel : Nat) (layers : List (List (Node S)))
    (hc0 : ∀ (l p : Nat) (n : Node S), getNode layers l p = some n → n.cutset = false)
    (ha0 : A → ∀ (l p : Nat) (n : Node S), getNode layers l p = some n → n.above = false) :
    FrInv2 A layers (computeCutset .frontier lel layers) := by
  rw [computeCutset_frontier_eq]
  exact Ddo.foldl_inv (FrInv2 A layers) frLayer _ _ (frInv2_init layers hc0 ha0) (fun b a _ hb => frLayer_inv2 hb a)

/-- **frontier**: a node is flagged `above` iff it is exact; a node flagged `cutset` is exact and its position is in the
    cut-set; an exact node that is the source of an inbound arc of a node that is not exact is flagged `cutset` -/
theorem computeCutset_frontier_flags (lel : Nat) (layers : List (List (Node S)))
    (h0 : ∀ (l p : Nat) (n : Node S), getNode layers l p = some n → n.cutset = false ∧ n.above = false) :
    (∀ (l p : Nat) (n1 : Node S), getNode (computeCutset .frontier lel layers).1 l p = some n1 →
      (n1.above = true ↔ n1.isExact = true) ∧
      (n1.cutset = true → n1.isExact = true ∧ (l, p) ∈ (computeCutset .frontier lel layers).2)) ∧
    (∀ (l' p' : Nat) (m1 : Node S) (e : Arc) (par1 : Node S),
      getNode (computeCutset .frontier lel layers).1 l' p' = some m1 → m1.isExact = false → e ∈ m1.inb →
      getNode (computeCutset .frontier lel layers).1 e.fromL e.fromP = some par1 → par1.isExact = true →
      par1.cutset = true) := by
  have hc0 := fun l p n hn => (h0 l p n hn).1
  have ha0 : True → _ := fun _ l p n hn => (h0 l p n hn).2
  have hinv := frontier_inv2 (A := True) lel layers hc0 ha0
  refine ⟨fun l p n1 hn1 => ⟨⟨(hinv.2 l p n1 hn1).2 trivial, fun hex => ?_⟩, (hinv.2 l p n1 hn1).1⟩, ?_⟩
  · obtain ⟨n0, hn0, hs⟩ := hinv.1.getNode_some hn1
    have hex0 : n0.isExact = true := by rw [stripB_isExact hs]; exact hex
    obtain ⟨n2, hn2, ha⟩ := frontier_above (A := True) lel layers hc0 ha0 l p n0 hn0 hex0
    rw [hn1] at hn2
    cases hn2
    exact ha
  · intro l' p' m1 e par1 hm1 hmex he hpar1 hpex
    obtain ⟨m0, hm0, hsm⟩ := hinv.1.getNode_some hm1
    obtain ⟨par0, hpar0, hsp⟩ := hinv.1.getNode_some hpar1
    have hmex0 : m0.isExact = false := by rw [stripB_isExact hsm]; exact hmex
    have he0 : e ∈ m0.inb := by rw [stripB_inb hsm]; exact he
    have hpex0 : par0.isExact = true := by rw [stripB_isExact hsp]; exact hpex
    obtain ⟨n2, hn2, hc⟩ := frontier_cutset (A := True) lel layers hc0 ha0 l' p' m0 e par0 hm0 hmex0 he0 hpar0 hpex0
    rw [hpar1] at hn2
    cases hn2
    exact hc

theorem getNode_set_map (ls : List (List (Node S))) (l : Nat) (h : Node S → Node S) (l' p' : Nat) :
    getNode (ls.set l ((ls[l]?.getD []).map h)) l' p'
      = if l' = l then (getNode ls l' p').map h else getNode ls l' p' := by
  unfold getNode
  by_cases hl : l' = l
  · subst hl
    rw [if_pos rfl]
    by_cases hlt : l' < ls.length
    · rw [List.getElem?_set_self hlt, List.getElem?_eq_getElem hlt]
      dsimp only [Option.getD_some]
      rw [List.getElem?_map]
    · have h1 : ls[l']? = none := List.getElem?_eq_none (Nat.le_of_not_lt hlt)
      have h2 : (ls.set l' ((ls[l']?.getD []).map h))[l']? = none :=
        List.getElem?_eq_none (by rw [List.length_set]; exact Nat.le_of_not_lt hlt)
      rw [h2, h1]; rfl
  · rw [if_neg hl, List.getElem?_set_ne (fun h => hl h.symm)]

def lelUpd (lel l : Nat) (n : Node S) : Node S :=
  if l = lel then { n with cutset := true, above := true } else if l < lel then { n with above := true } else n

def lelStep (lel : Nat) (ls : List (List (Node S))) (l : Nat) : List (List (Node S)) :=
  if l = lel then ls.set l ((ls[l]?.getD []).map (fun n => { n with cutset := true, above := true }))
  else if l < lel then ls.set l ((ls[l]?.getD []).map (fun n => { n with above := true }))
  else ls

theorem computeCutset_lel_eq (lel : Nat) (layers : List (List (Node S))) :
    (computeCutset .lel lel layers).1 = (List.range layers.length).foldl (lelStep lel) layers := rfl

theorem lelStep_getNode (lel : Nat) (ls : List (List (Node S))) (k l p : Nat) :
    getNode (lelStep lel ls k) l p = if l = k then (getNode ls l p).map (lelUpd lel k) else getNode ls l p := by
  unfold lelStep
  by_cases h1 : k = lel
  · rw [if_pos h1, getNode_set_map]
    have : lelUpd (S := S) lel k = fun n => { n with cutset := true, above := true } := by
      funext n; unfold lelUpd; rw [if_pos h1]
    rw [this]
  · rw [if_neg h1]
    by_cases h2 : k < lel
    · rw [if_pos h2, getNode_set_map]
      have : lelUpd (S := S) lel k = fun n => { n with above := true } := by
        funext n; unfold lelUpd; rw [if_neg h1, if_pos h2]
      rw [this]
    · rw [if_neg h2]
      have : lelUpd (S := S) lel k = fun n => n := by
        funext n; unfold lelUpd; rw [if_neg h1, if_neg h2]
      rw [this]
      split
      · cases getNode ls l p <;> rfl
      · rfl

theorem lelFold_getNode (lel : Nat) (layers : List (List (Node S))) (k l p : Nat) :
    getNode ((List.range k).foldl (lelStep lel) layers) l p
      = if l < k then (getNode layers l p).map (lelUpd lel l) else getNode layers l p := by
  induction k with
  | zero => rw [if_neg (Nat.not_lt_zero _)]; rfl
  | succ k ih =>
    rw [List.range_succ, List.foldl_append, List.foldl_cons, List.foldl_nil, lelStep_getNode, ih]
    by_cases h : l = k
    · subst h
      rw [if_pos rfl, if_neg (Nat.lt_irrefl _), if_pos (Nat.lt_succ_self _)]
    · rw [if_neg h]
      by_cases h2 : l < k
      · rw [if_pos h2, if_pos (Nat.lt_succ_of_lt h2)]
      · rw [if_neg h2, if_neg (fun h3 => h2 (Nat.lt_of_le_of_ne (Nat.le_of_lt_succ h3) h))]

/-- **last exact layer**: a node of layer `l` is flagged `above` iff `l ≤ lel`, `cutset` iff `l = lel`, and the positions of
    layer `lel` are in the cut-set -/
theorem computeCutset_lel_flags (lel : Nat) (layers : List (List (Node S)))
    (h0 : ∀ (l p : Nat) (n : Node S), getNode layers l p = some n → n.cutset = false ∧ n.above = false)
    (l p : Nat) (n1 : Node S) (hn1 : getNode (computeCutset .lel lel layers).1 l p = some n1) :
    (n1.above = true ↔ l ≤ lel) ∧ (n1.cutset = true ↔ l = lel) ∧
    (n1.cutset = true → (l, p) ∈ (computeCutset .lel lel layers).2) := by
  rw [computeCutset_lel_eq, lelFold_getNode] at hn1
  have hex : ∃ n0, getNode layers l p = some n0 ∧ n1 = lelUpd lel l n0 := by
    cases hg : getNode layers l p with
    | none => rw [hg] at hn1; split at hn1 <;> cases hn1
    | some n0 =>
      have hl : l < layers.length := Ddo.getNode_lt hg
      rw [hg, if_pos hl] at hn1
      exact ⟨n0, rfl, (Option.some.inj hn1).symm⟩
  obtain ⟨n0, hg, rfl⟩ := hex
  obtain ⟨hc, ha⟩ := h0 l p n0 hg
  unfold lelUpd
  by_cases h1 : l = lel
  · rw [if_pos h1]
    subst h1
    exact ⟨⟨fun _ => Nat.le_refl _, fun _ => rfl⟩, ⟨fun _ => rfl, fun _ => rfl⟩,
      fun _ => computeCutset_lel_mem l layers p n0 hg⟩
  · rw [if_neg h1]
    by_cases h2 : l < lel
    · rw [if_pos h2]
      dsimp only
      rw [hc]
      exact ⟨⟨fun _ => Nat.le_of_lt h2, fun _ => rfl⟩, ⟨fun h => (by cases h), fun h => absurd h h1⟩, fun h => (by cases h)⟩
    · rw [if_neg h2, hc, ha]
      exact ⟨⟨fun h => (by cases h), fun h => absurd (Nat.lt_of_le_of_ne h h1) h2⟩,
        ⟨fun h => (by cases h), fun h => absurd h h1⟩, fun h => (by cases h)⟩

end Ddo.Theta

namespace Ddo.Bounds
open Ddo
variable {S : Type} [DecidableEq S]

theorem computeCutset_frontier_mem (lel : Nat) (layers : List (List (Node S)))
    (hcut : ∀ (l p : Nat) (n : Node S), getNode layers l p = some n → n.cutset = false)
    (l' p' : Nat) (m : Node S) (e : Arc) (par : Node S)
    (hm : getNode layers l' p' = some m) (hmex : m.isExact = false) (he : e ∈ m.inb)
    (hpar : getNode layers e.fromL e.fromP = some par) (hpex : par.isExact = true) :
    (e.fromL, e.fromP) ∈ (computeCutset .frontier lel layers).2 := by
  have noA : False → ∀ (l p : Nat) (n : Node S), getNode layers l p = some n → n.above = false := False.elim
  obtain ⟨n, hn, hc⟩ := Theta.frontier_cutset lel layers hcut noA l' p' m e par hm hmex he hpar hpex
  exact (((Theta.frontier_inv2 lel layers hcut noA).2 _ _ n hn).1 hc).2

end Ddo.Bounds

#print axioms Ddo.Theta.computeCutset_lel_flags
#print axioms Ddo.Theta.computeCutset_frontier_flags
