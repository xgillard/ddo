import DdoModel.ParSys
import DdoModel.Proofs.SpecUtil
/-! # The concrete parallel transition system `ParSys`: what a step may change

One worker changing in the list of workers, what the sections `popLoop`, `take`, `notifyFinished` compute, the open sub-problems
(`Open`, `Others`), `notify_all` (`wake_*`), the shape of the worker list after a step (`StepG.ws_eq`); and forward execution: a step
in front of a run (`StepG.head`), the successor state of the sections whose `Step` has an existential.  Core Lean only. -/
set_option linter.unusedSectionVars false
set_option linter.unusedVariables false
namespace Ddo.ParSys
variable {S : Type} [DecidableEq S]

theorem get_set_self {α : Type} {l : List α} {i : Nat} {w a : α} (h : l[i]? = some w) : (l.set i a)[i]? = some a := by
  obtain ⟨hlt, _⟩ := List.getElem?_eq_some_iff.mp h
  exact List.getElem?_set_self hlt

theorem get_set_split {α : Type} {l : List α} {i j : Nat} {a b : α} (h : (l.set i a)[j]? = some b) :
    (j = i ∧ b = a) ∨ (j ≠ i ∧ l[j]? = some b) := by
  by_cases e : i = j
  · subst e
    rw [List.getElem?_set] at h
    simp only [if_true] at h
    split at h
    · injection h with h; exact Or.inl ⟨rfl, h.symm⟩
    · cases h
  · rw [List.getElem?_set_ne e] at h
    exact Or.inr ⟨fun e' => e e'.symm, h⟩

theorem set_idle_self {ws : List (WSt S)} {i : Nat} {w : WSt S} (hw : ws[i]? = some w) : ws.set i w = ws := by
  obtain ⟨h, e⟩ := List.getElem?_eq_some_iff.mp hw
  rw [← e]; exact List.set_getElem_self h

theorem forall_set_of {α : Type} {P : α → Prop} {l : List α} {i : Nat} {a : α} (hl : ∀ x ∈ l, P x) (ha : P a) :
    ∀ x ∈ l.set i a, P x := by
  intro x hx
  rcases List.mem_or_eq_of_mem_set hx with h | h
  · exact hl x h
  · rw [h]; exact ha

theorem countP_set {α : Type} (p : α → Bool) {l : List α} {i : Nat} {w : α} (a : α) (h : l[i]? = some w) :
    (l.set i a).countP p + (if p w then 1 else 0) = l.countP p + (if p a then 1 else 0) := by
  obtain ⟨hlt, rfl⟩ := List.getElem?_eq_some_iff.mp h
  have hle : (if p l[i] then 1 else 0) ≤ l.countP p := by
    split
    · next hp => exact List.countP_pos_iff.mpr ⟨_, List.getElem_mem hlt, hp⟩
    · exact Nat.zero_le _
  rw [List.countP_set hlt]
  omega

/-- `countP` when a cell is overwritten (three cases): the new element counts and the old one did not -/
theorem countP_set_in {α : Type} (p : α → Bool) {l : List α} {i : Nat} {w : α} (a : α) (h : l[i]? = some w)
    (hw : p w = false) {Q : Prop} [Decidable Q] (ha : p a = decide Q) :
    (l.set i a).countP p = l.countP p + (if Q then 1 else 0) := by
  have := countP_set p a h
  rw [hw, ha] at this
  simpa using this

theorem countP_set_out {α : Type} (p : α → Bool) {l : List α} {i : Nat} {w : α} (a : α) (h : l[i]? = some w)
    (ha : p a = false) {Q : Prop} [Decidable Q] (hw : p w = decide Q) :
    (l.set i a).countP p + (if Q then 1 else 0) = l.countP p := by
  have := countP_set p a h
  rw [hw, ha] at this
  simpa using this

theorem countP_set_keep {α : Type} (p : α → Bool) {l : List α} {i : Nat} {w : α} (a : α) (h : l[i]? = some w)
    (ha : p a = p w) : (l.set i a).countP p = l.countP p := by
  have := countP_set p a h
  rw [ha] at this
  omega

/-- a parked worker implies a holder, holders are neither gone nor parked: unless every worker is gone, one is neither gone nor
    parked (stated for any worker type: the cache-less and the cached system share it) -/
theorem exists_active_of {α : Type} {ws : List α} {gone parked : α} (holds : α → Bool) (hg : holds gone = false)
    (hp : holds parked = false) (hpark : parked ∈ ws → ws.countP holds ≠ 0) (hlive : ¬ ∀ w ∈ ws, w = gone) :
    ∃ w ∈ ws, w ≠ gone ∧ w ≠ parked := by
  by_cases hwait : parked ∈ ws
  · obtain ⟨w, hw, hh⟩ := List.countP_pos_iff.mp (Nat.pos_of_ne_zero (hpark hwait))
    exact ⟨w, hw, (fun e => by rw [e, hg] at hh; cases hh), (fun e => by rw [e, hp] at hh; cases hh)⟩
  · obtain ⟨w, hw⟩ := Classical.not_forall.mp hlive
    obtain ⟨hw, hne⟩ := Classical.not_imp.mp hw
    exact ⟨w, hw, hne, fun e => hwait (e ▸ hw)⟩

theorem foldl_max_ge_init (l : List Int) (a : Int) : a ≤ l.foldl max a := (SpecUtil.foldl_max_spec l a).2 a List.mem_cons_self

theorem foldl_max_ge_mem (l : List Int) (a x : Int) (h : x ∈ l) : x ≤ l.foldl max a :=
  (SpecUtil.foldl_max_spec l a).2 x (List.mem_cons_of_mem _ h)

theorem popLoop_single (c : ParCrit S) (N : SubP S) :
    popLoop c [(N, true)] 0 =
      if N.ub ≤ c.base.bestLb then
        ({ c with base := { c.base with fringe := [], openByLayer := c.base.openByLayer.map (fun _ => 0) } }, some none, 1)
      else (c, some (some N), 1) := by
  simp [popLoop]

/-- the pop of a node that does not beat the incumbent: the fringe is cleared, the open counters zeroed -/
theorem popLoop_starve {c c' : ParCrit S} {N : SubP S} {k : Nat} (hl : popLoop c [(N, true)] 0 = (c', some none, k)) :
    N.ub ≤ c.base.bestLb ∧
    c' = { c with base := { c.base with fringe := [], openByLayer := c.base.openByLayer.map (fun _ => 0) } } := by
  rw [popLoop_single] at hl
  split at hl
  · next hle => injection hl with hc _; exact ⟨hle, hc.symm⟩
  · injection hl with _ hl; injection hl with hl; cases hl

theorem take_spec {c c' : ParCrit S} {i : Nat} {nn : SubP S} (h : c.take i nn = some c') :
    c'.base.fringe = c.base.fringe ∧ c'.base.bestLb = c.base.bestLb ∧ c'.base.bestSol = c.base.bestSol ∧
    c'.base.bestUb = c.base.bestUb ∧ c'.base.abort = c.base.abort ∧ c'.ongoing = c.ongoing + 1 ∧
    c'.upperBounds = c.upperBounds.set i nn.ub ∧ i < c.upperBounds.length := by
  unfold ParCrit.take at h
  split at h
  · next hi =>
    split at h
    · injection h with h; subst h; exact ⟨rfl, rfl, rfl, rfl, rfl, rfl, rfl, hi⟩
    · cases h
  · cases h

theorem notify_spec {c c' : ParCrit S} {i d : Nat} (h : c.notifyFinished i d = some c') :
    c'.base = c.base ∧ c'.ongoing + 1 = c.ongoing ∧ c'.upperBounds = c.upperBounds.set i iMin ∧
    i < c.upperBounds.length := by
  unfold ParCrit.notifyFinished at h
  split at h
  · cases h
  · next ho =>
    split at h
    · next hi =>
      split at h
      · injection h with h; subst h; exact ⟨rfl, by simp only; omega, rfl, hi⟩
      · cases h
    · cases h


/-- `x` is open: in the fringe or in the hand of a worker that has not closed it yet -/
def Open (s : Sys S) (x : SubP S) : Prop :=
  x ∈ s.crit.base.fringe ∨ ∃ (i : Nat) (w : WSt S), s.ws[i]? = some w ∧ w.openNode = some x

theorem mem_openList (s : Sys S) (x : SubP S) : x ∈ s.openList ↔ Open s x := by
  unfold Sys.openList Open
  rw [List.mem_append, List.mem_filterMap]
  constructor
  · rintro (h | ⟨w, hw, hx⟩)
    · exact Or.inl h
    · obtain ⟨i, hi⟩ := List.mem_iff_getElem?.mp hw
      exact Or.inr ⟨i, w, hi, hx⟩
  · rintro (h | ⟨i, w, hi, hx⟩)
    · exact Or.inl h
    · exact Or.inr ⟨w, List.mem_iff_getElem?.mpr ⟨i, hi⟩, hx⟩

/-- open in the hand of a worker other than `i` -/
def Others (ws : List (WSt S)) (i : Nat) (x : SubP S) : Prop :=
  ∃ (j : Nat) (wj : WSt S), j ≠ i ∧ ws[j]? = some wj ∧ wj.openNode = some x

theorem open_split {s : Sys S} {i : Nat} {w : WSt S} (hw : s.ws[i]? = some w) (x : SubP S) :
    Open s x ↔ (x ∈ s.crit.base.fringe ∨ w.openNode = some x ∨ Others s.ws i x) := by
  unfold Open Others
  constructor
  · rintro (h | ⟨j, wj, hj, hx⟩)
    · exact Or.inl h
    · by_cases e : j = i
      · subst e; rw [hw] at hj; injection hj with hj; subst hj; exact Or.inr (Or.inl hx)
      · exact Or.inr (Or.inr ⟨j, wj, e, hj, hx⟩)
  · rintro (h | h | ⟨j, wj, _, hj, hx⟩)
    · exact Or.inl h
    · exact Or.inr ⟨i, w, hw, h⟩
    · exact Or.inr ⟨j, wj, hj, hx⟩

theorem others_set (ws : List (WSt S)) (i : Nat) (w' : WSt S) (x : SubP S) :
    Others (ws.set i w') i x ↔ Others ws i x := by
  unfold Others
  constructor
  · rintro ⟨j, wj, hne, hj, hx⟩
    rw [List.getElem?_set_ne (fun e => hne e.symm)] at hj
    exact ⟨j, wj, hne, hj, hx⟩
  · rintro ⟨j, wj, hne, hj, hx⟩
    exact ⟨j, wj, hne, by rw [List.getElem?_set_ne (fun e => hne e.symm)]; exact hj, hx⟩

theorem open_set {s : Sys S} {i : Nat} {w : WSt S} (hw : s.ws[i]? = some w) (c' : ParCrit S) (w' : WSt S) (x : SubP S) :
    Open { crit := c', ws := s.ws.set i w' } x ↔ (x ∈ c'.base.fringe ∨ w'.openNode = some x ∨ Others s.ws i x) := by
  rw [open_split (s := { crit := c', ws := s.ws.set i w' }) (get_set_self hw) x, others_set]

/-- the cell of `upper_bounds` a worker state determines (`none`: no constraint) -/
def WSt.slot : WSt S → Option Int
  | .idle | .waiting | .done => some iMin
  | .crashed _ => none
  | .readR n | .compR n _ | .updR n _ _ | .readX n | .compX n _ | .updX n _ _
  | .enq n _ _ | .abortS n | .fin n _ => some n.ub

theorem slot_of_open {w : WSt S} {n : SubP S} (h : w.openNode = some n) (hc : w.isCrashed = false) :
    w.slot = some n.ub := by
  cases w <;> cases h <;> first | rfl | cases hc

theorem wake_openNode (w : WSt S) : w.wake.openNode = w.openNode := by cases w <;> rfl
theorem wake_holds (w : WSt S) : w.wake.holds = w.holds := by cases w <;> rfl
theorem wake_slot (w : WSt S) : w.wake.slot = w.slot := by cases w <;> rfl
theorem wake_isCrashed (w : WSt S) : w.wake.isCrashed = w.isCrashed := by cases w <;> rfl

theorem wake_eq {w w' : WSt S} (h : w.wake = w') (hi : w' ≠ .idle) : w = w' := by
  cases w with
  | waiting => exact absurd h.symm hi
  | _ => exact h

theorem countP_wake (p : WSt S → Bool) (hp : ∀ w, p w.wake = p w) (ws : List (WSt S)) :
    (ws.map WSt.wake).countP p = ws.countP p := by
  rw [List.countP_map]
  congr 1
  funext w; exact hp w

theorem wake_eq_done {w : WSt S} (h : w.wake = .done) : w = .done := wake_eq h nofun
theorem wake_eq_fin {w : WSt S} {n : SubP S} {b : Bool} (h : w.wake = .fin n b) : w = .fin n b := wake_eq h nofun

theorem get_map_wake {ws : List (WSt S)} {j : Nat} {w' : WSt S} (h : (ws.map WSt.wake)[j]? = some w') :
    ∃ w, ws[j]? = some w ∧ w' = w.wake := by
  rw [List.getElem?_map] at h
  cases hj : ws[j]? with
  | none => rw [hj] at h; cases h
  | some wj => rw [hj] at h; injection h with h; exact ⟨wj, rfl, h.symm⟩

/-- what a section does to the workers: one of them moves, and `notify_node_finished` wakes the parked ones -/
theorem StepG.ws_eq {ab : ParCrit S → Int → Option Int → ParCrit S} {dedup : Bool}
    {okR okX : SubP S → Int → DDOut S → Prop} {s t : Sys S} (h : StepG ab dedup okR okX s t) :
    ∃ (i : Nat) (w' : WSt S), t.ws = s.ws.set i w' ∨ t.ws = (s.ws.map WSt.wake).set i w' := by
  cases h with
  | gwStarve i N rest c' k hw ha hp hl => exact ⟨i, .idle, Or.inl (set_idle_self hw).symm⟩
  | notify i n te c' hw hn => exact ⟨i, _, Or.inr rfl⟩
  | _ => exact ⟨_, _, Or.inl rfl⟩

/-- no thread is spawned or joined along a run -/
theorem RunG.length_ws {ab : ParCrit S → Int → Option Int → ParCrit S} {dedup : Bool}
    {okR okX : SubP S → Int → DDOut S → Prop} {s t : Sys S} (h : RunG ab dedup okR okX s t) :
    t.ws.length = s.ws.length := by
  induction h with
  | refl => rfl
  | tail _ hst ih =>
    obtain ⟨i, w', e | e⟩ := hst.ws_eq
    · rw [e, List.length_set]; exact ih
    · rw [e, List.length_set, List.length_map]; exact ih

theorem StepG.head {ab : ParCrit S → Int → Option Int → ParCrit S} {dedup : Bool}
    {okR okX : SubP S → Int → DDOut S → Prop} {s t u : Sys S}
    (h : StepG ab dedup okR okX s t) (r : RunG ab dedup okR okX t u) : RunG ab dedup okR okX s u := by
  induction r with
  | refl => exact RunG.tail (RunG.refl _) h
  | tail _ hst ih => exact RunG.tail ih hst

def nItem (s : Sys S) (i : Nat) (N : SubP S) (rest : List (SubP S)) : Sys S :=
  { crit := ((setFringe s.crit rest).take i N).getD s.crit, ws := s.ws.set i (.readR N) }

theorem step_item {ab : ParCrit S → Int → Option Int → ParCrit S} {dedup : Bool}
    {okR okX : SubP S → Int → DDOut S → Prop} (s : Sys S) (i : Nat) (N : SubP S) (rest : List (SubP S))
    (hw : s.ws[i]? = some .idle) (ha : s.crit.base.abort = false) (hp : PopMax s.crit.base.fringe N rest)
    (hgt : ¬ N.ub ≤ s.crit.base.bestLb) (ht : ((setFringe s.crit rest).take i N).isSome = true) :
    StepG ab dedup okR okX s (nItem s i N rest) := by
  have hl : popLoop (setFringe s.crit rest) [(N, true)] 0 = (setFringe s.crit rest, some (some N), 1) := by
    rw [popLoop_single]; exact if_neg hgt
  unfold nItem
  cases h : (setFringe s.crit rest).take i N with
  | none => rw [h] at ht; cases ht
  | some c'' => exact StepG.gwItem s i N rest _ N 1 c'' hw ha hp hl h

theorem allDone_of_ws {t : Sys S} {n : Nat} (h : t.ws = List.replicate n .done) : AllDone t :=
  fun _ hw => List.eq_of_mem_replicate (h ▸ hw)

def nNotify (s : Sys S) (i : Nat) (d : Nat) (te : Bool) : Sys S :=
  { crit := (s.crit.notifyFinished i d).getD s.crit, ws := (s.ws.map WSt.wake).set i (if te then .done else .idle) }

theorem step_notify {ab : ParCrit S → Int → Option Int → ParCrit S} {dedup : Bool}
    {okR okX : SubP S → Int → DDOut S → Prop} (s : Sys S) (i : Nat) (n : SubP S) (te : Bool)
    (hw : s.ws[i]? = some (.fin n te)) (hn : (s.crit.notifyFinished i n.depth).isSome = true) :
    StepG ab dedup okR okX s (nNotify s i n.depth te) := by
  unfold nNotify
  cases h : s.crit.notifyFinished i n.depth with
  | none => rw [h] at hn; cases hn
  | some c' => exact StepG.notify s i n te c' hw h

end Ddo.ParSys
