import DdoModel.Proofs.ParCacheCoverGw
import DdoModel.Proofs.ParCacheCoverNode
/-! # The parallel caching solver — every step preserves `KPInv`

`notify_all` (`kpinv_wake`), then the case analysis `kstep_kpinv` over the 21 constructors of `KStep` from the step lemmas of
`ParCacheCoverGw` / `ParCacheCoverNode` under the contracts `OkRc` / `OkXc`; the initial state (`init_kpinv`) and the optimum at
`Complete` (`complete_opt`, from `nothing_open_opt`: nothing in the fringe, in a hand or pending, so the incumbent is the optimum). -/
set_option linter.unusedSectionVars false
set_option linter.unusedVariables false
namespace Ddo.ParCache
open Ddo Ddo.C09 Ddo.ParSys Ddo.Theta
variable {S : Type} [DecidableEq S]

section
variable (H : Nat → S → EInt) (opt : Int) (Sol : List Dec → Int → Prop) (Rg : Nat → Int → Prop)

theorem wake_pendVal (w : KW S) : w.wake.pendVal = w.pendVal := KW.wake_congr KW.pendVal rfl w
theorem wake_pendCut (w : KW S) : w.wake.pendCut = w.pendCut := KW.wake_congr KW.pendCut rfl w
theorem wake_gwW {w : KW S} {n : SubP S} (h : w.wake = .gwW n) : w = .gwW n := by cases w <;> simp_all [KW.wake]
theorem wake_readR {w : KW S} {n : SubP S} (h : w.wake = .readR n) : w = .readR n := by cases w <;> simp_all [KW.wake]
theorem wake_done {w : KW S} (h : w.wake = .done) : w = .done := by cases w <;> simp_all [KW.wake]

theorem get_wake {ws : List (KW S)} {j : Nat} {w' : KW S} (h : (ws.map KW.wake)[j]? = some w') :
    ∃ w, ws[j]? = some w ∧ w' = w.wake := by
  rw [List.getElem?_map] at h
  cases hw : ws[j]? with
  | none => rw [hw] at h; cases h
  | some w => rw [hw] at h; simp only [Option.map_some, Option.some.injEq] at h; exact ⟨w, rfl, h.symm⟩

theorem get_wake_of {ws : List (KW S)} {j : Nat} {w : KW S} (h : ws[j]? = some w) : (ws.map KW.wake)[j]? = some w.wake := by
  rw [List.getElem?_map, h]; rfl

theorem kpinv_wake {s : KSys S} (hI : KPInv H opt Sol Rg s) : KPInv H opt Sol Rg { s with ws := s.ws.map KW.wake } := by
  have hB : ∀ x, Beats ({ s with ws := s.ws.map KW.wake } : KSys S) x → Beats s x :=
    fun x hb => ⟨hb.1, fun j w v hj hv => hb.2 j w.wake v (get_wake_of hj) (by rw [wake_pendVal]; exact hv)⟩
  have hT : ∀ x d, Beats ({ s with ws := s.ws.map KW.wake } : KSys S) x → Live H s x d →
      Live H ({ s with ws := s.ws.map KW.wake } : KSys S) x d := by
    intro x d _ hl
    rcases hl with h | ⟨j, w, hj, hl1⟩
    · exact .inl h
    · refine .inr ⟨j, w.wake, get_wake_of hj, ?_⟩
      unfold WLive at hl1 ⊢
      rw [KW.wake_openNode, wake_pendCut]; exact hl1
  have hpb : ∀ c, Prunable ({ s with ws := s.ws.map KW.wake } : KSys S) c → Prunable s c := by
    rintro c (h | ⟨j, w', hj, hc⟩)
    · exact .inl h
    · obtain ⟨w, hw, rfl⟩ := get_wake hj
      rw [wake_pendCut] at hc
      exact .inr ⟨j, w, hw, hc⟩
  refine kpinv_step_back H opt Sol Rg hI hB hT hpb ?_ ?_ hI.lbOk hI.solOk hI.cur (fun c hc => .inl hc) ?_ ?_ ?_
  · rintro c ⟨j, w', hj, hc⟩
    obtain ⟨w, hw, rfl⟩ := get_wake hj
    rw [KW.wake_openNode] at hc
    exact ⟨j, w, hw, hc⟩
  · rintro c ⟨j, hj | hj⟩
    · obtain ⟨w, hw, e⟩ := get_wake hj
      exact ⟨j, .inl (by rw [hw, wake_gwW e.symm])⟩
    · obtain ⟨w, hw, e⟩ := get_wake hj
      exact ⟨j, .inr (by rw [hw, wake_readR e.symm])⟩
  · intro j n hj
    obtain ⟨w, hw, e⟩ := get_wake hj
    exact hI.popmax j n (by rw [hw, wake_gwW e.symm])
  · intro j w' hj
    obtain ⟨w, hw, rfl⟩ := get_wake hj
    exact wake_wok H opt Sol Rg (hI.wok j w hw)
  · rintro ⟨j, hj⟩
    obtain ⟨w, hw, e⟩ := get_wake hj
    exact hI.doneOk ⟨j, by rw [hw, wake_done e.symm]⟩

theorem nothing_open_opt {s : KSys S} (hI : KPInv H opt Sol Rg s) (hf : s.crit.base.fringe = [])
    (hno : ∀ w ∈ s.ws, w.openNode = none ∧ w.pendVal = none ∧ w.pendCut = []) : s.crit.base.bestLb = opt := by
  have hle := hI.lbOk
  by_cases hlt : s.crit.base.bestLb < opt
  · have hb : Beats s opt := ⟨hlt, fun j w v hj hv => by
      have := (hno w (List.mem_of_getElem? hj)).2.1
      rw [this] at hv; cases hv⟩
    rcases hI.root hb with ⟨c, hc, _⟩ | ⟨j, w, hj, hl1⟩
    · rw [hf] at hc; cases hc
    · obtain ⟨h1, _, h3⟩ := hno w (List.mem_of_getElem? hj)
      rcases hl1 with ⟨n, hn, _⟩ | ⟨c, hc, _⟩
      · rw [h1] at hn; cases hn
      · rw [h3] at hc; cases hc
  · omega

/-- **publishing an exact answer closes the node**: whatever the node carried that still beats after the publication is
    carried strictly deeper, by an entry of the virtual cache the compilation read (`CompC.exact`: the answer is the best
    exact value, or the cache cut it) -/
theorem exact_closes {s : KSys S} (hI : KPInv H opt Sol Rg s) {i : Nat} {w0 a : KW S} {n : SubP S} {lb : Int} {cv : Cache S}
    {o : DDOut S} (hw : s.ws[i]? = some w0) (hpv : w0.pendVal = o.bestExact) (hlb : lb ≤ s.crit.base.bestLb)
    (hcov : CvOk s.log cv)
    (hex : ∀ y, optOf H n = some y → y > lb → (∃ w, o.bestExact = some w ∧ y ≤ w) ∨ CacheCov H Rg (viewOf cv) n.depth y)
    (x : Int) (d : Nat) (hcc : Carries H n x d)
    (hb : Beats ({ s with crit := s.crit.updateBest o, ws := s.ws.set i a } : KSys S) x) :
    ∃ x' d', x ≤ x' ∧ d < d' ∧ Live H s x' d' := by
  obtain ⟨hd, y, hy, hxy⟩ := hcc
  have hlt : (s.crit.base.updateBest o).bestLb < x := hb.1
  have hge := updateBest_lb_ge s.crit.base o
  rcases hex y hy (by omega) with ⟨w, hw', hyw⟩ | h3
  · have := updateBest_lb_ge_val s.crit.base o w hw'; omega
  · have hbs : Beats s y := by
      refine (beatsC_of_set (lb := s.crit.base.bestLb) hw hb hge (fun v hv => ?_)).up hxy
      have := updateBest_lb_ge_val s.crit.base o v (hpv ▸ hv); omega
    obtain ⟨x', d', hx', hd', hl'⟩ := cov_live H opt Sol Rg hI hcov h3 hbs
    exact ⟨x', d', by omega, by omega, hl'⟩

/-- **`kstep_kpinv`**: the invariant survives every step of every worker — every critical section, every step inside
    `get_workload`, every end of a compilation (reading a virtual cache assembled from the log), every single threshold
    write — under the contracts `OkRc` / `OkXc`; `hnp`: the step is not a panic; `hcomp`: at `Complete` nothing is in any
    hand (bookkeeping invariant: `ongoing == 0`) -/
theorem kstep_kpinv {nbVars : Nat} {dedup : Bool} {s t : KSys S}
    (h : KStep nbVars dedup (OkRc H opt Sol Rg) (OkXc H opt Sol Rg) s t) (hI : KPInv H opt Sol Rg s)
    (hnp : ∀ (i : Nat) (w : KW S), s.ws[i]? = some w → ¬ Panics nbVars s i w)
    (hcomp : ∀ i, CompletesAt nbVars s i → ∀ w ∈ s.ws, w.openNode = none ∧ w.pendVal = none ∧ w.pendCut = []) :
    KPInv H opt Sol Rg t := by
  cases h with
  | gwEnter i hw hl =>
    exact kpinv_same H opt Sol Rg hI hw ⟨rfl, rfl, rfl⟩ rfl rfl rfl rfl trivial (by simp)
  | gwClear i c' hw hc hcl => exact kpinv_gwClear H opt Sol Rg hI hcl
  | gwComplete i hw hc ho hf =>
    have hopt := nothing_open_opt H opt Sol Rg hI hf (hcomp i ⟨hw, hc, ho, hf⟩)
    exact kpinv_same H opt Sol Rg hI (crit' := s.crit.complete) hw ⟨rfl, rfl, rfl⟩ rfl rfl rfl
      rfl trivial (fun _ => hopt)
  | gwWait i hw hc ho hf =>
    exact kpinv_same H opt Sol Rg hI hw ⟨rfl, rfl, rfl⟩ rfl rfl rfl rfl trivial (by simp)
  | gwToPop i hw hc hf =>
    exact kpinv_same H opt Sol Rg hI hw ⟨rfl, rfl, rfl⟩ rfl rfl rfl rfl trivial (by simp)
  | gwEmpty i hw hf =>
    exact kpinv_same H opt Sol Rg hI hw ⟨rfl, rfl, rfl⟩ rfl rfl rfl rfl trivial (by simp)
  | gwStarve i N rest hw hp hub => exact kpinv_gwStarve H opt Sol Rg hI hw hp hub
  | gwDrop i N rest c' hw hp hub hme hd => exact kpinv_gwDrop H opt Sol Rg hI hp hme hd
  | gwKeep i N rest hw hp hub hme => exact kpinv_gwKeep H opt Sol Rg hI hw hp
  | gwTake i n c' crit' hw hu ht => exact kpinv_gwTake H opt Sol Rg hI hw hu ht
  | readLbR i n hw hl =>
    by_cases hub : n.ub ≤ s.crit.readLb
    · rw [if_pos hub]
      exact kpinv_readLbR_drop H opt Sol Rg hI hw hub
    · rw [if_neg hub]
      exact kpinv_same H opt Sol Rg hI hw ⟨rfl, rfl, rfl⟩ rfl rfl rfl rfl
        (show s.crit.base.bestLb ≤ s.crit.base.bestLb from Int.le_refl _) (by simp)
  | compileR i n lb k0 cv o ups hw hcv hok =>
    have hwk : lb ≤ s.crit.base.bestLb := hI.wok i _ hw
    refine kpinv_local H opt Sol Rg hI hw rfl (fun c hc => by cases hc) (fun v hv => by cases hv)
      rfl ?_ (by simp) (fun c hc => by cases hc)
    exact ⟨hwk, hok, fun u hu => hu, fun st d tt htt => by
      obtain ⟨c, hc, e⟩ := hcv st d tt htt
      exact ⟨c, List.mem_of_mem_take hc, e⟩⟩
  | writeR i n lb o cv ups u todo c' hw hu =>
    obtain ⟨hlbi, hK, htodo, hcov⟩ : lb ≤ s.crit.base.bestLb ∧ OkRc H opt Sol Rg n lb cv o ups ∧
        (∀ u' ∈ u :: todo, u' ∈ ups) ∧ CvOk s.log cv := hI.wok i _ hw
    have huu : u ∈ ups := htodo u List.mem_cons_self
    cases hex : o.isExact with
    | false => rw [hK.2.2 hex] at huu; cases huu
    | true =>
      have hCK := hK.2.1 hex
      refine kpinv_write H opt Sol Rg hI (o := o) (bk := bkOf lb o.bestExact) hw ⟨rfl, rfl, rfl⟩ rfl
        (by simp) ?_ hu hCK.th huu ?_ hcov ?_
      · exact ⟨hlbi, hK, fun u' hu' => htodo u' (List.mem_cons_of_mem _ hu'), hcov.mono (fun c hc => List.mem_cons_of_mem _ hc)⟩
      · exact fun y hb => hb.bk_lt hw rfl hlbi
      · intro c1 hc1 y1 hy1 hb1
        right
        have hbk1 : bkOf lb o.bestExact < y1 := hb1.bk_lt hw rfl hlbi
        rcases hCK.c.ub c1 hc1 y1 hy1 hbk1 with h4 | h4
        · have := hCK.c.exactCut hex c1 hc1; omega
        · exact cov_live H opt Sol Rg hI hcov h4 hb1
  | updateR i n lb o cv ups hw hl =>
    obtain ⟨hlbi, hK, _, hcov⟩ : lb ≤ s.crit.base.bestLb ∧ OkRc H opt Sol Rg n lb cv o ups ∧
        (∀ u' ∈ ([] : List (Up S)), u' ∈ ups) ∧ CvOk s.log cv := hI.wok i _ hw
    cases hex : o.isExact with
    | false =>
      simp only [Bool.false_eq_true, if_false]
      exact kpinv_publish H opt Sol Rg hI hw rfl rfl rfl hK.1 rfl (by simp) trivial (.inl rfl)
    | true =>
      simp only [if_true]
      have hCK := hK.2.1 hex
      refine kpinv_publish H opt Sol Rg hI hw rfl rfl rfl hK.1 rfl (by simp) trivial (.inr ⟨rfl, ?_⟩)
      intro m hm
      cases hm
      exact exact_closes H opt Sol Rg hI hw rfl hlbi hcov (hCK.c.exact hex)
  | readLbX i n hw hl =>
    exact kpinv_same H opt Sol Rg hI hw ⟨rfl, rfl, rfl⟩ rfl rfl rfl rfl
      (show s.crit.base.bestLb ≤ s.crit.base.bestLb from Int.le_refl _) (by simp)
  | compileX i n lb k0 cv o ups hw hcv hok =>
    have hwk : lb ≤ s.crit.base.bestLb := hI.wok i _ hw
    have hcov : CvOk s.log cv := fun st d tt htt => by
      obtain ⟨c, hc, e⟩ := hcv st d tt htt
      exact ⟨c, List.mem_of_mem_take hc, e⟩
    refine kpinv_local H opt Sol Rg hI hw rfl (fun c hc => by cases hc) (fun v hv => by cases hv)
      rfl ⟨hwk, hok, fun u hu => hu, hcov⟩ (by simp) (fun c hc => ?_)
    right
    have hc' : c ∈ (if o.isExact then [] else o.cutset) := hc
    cases hex : o.isExact with
    | true => rw [hex] at hc'; cases hc'
    | false =>
      rw [hex] at hc'
      simp only [Bool.false_eq_true, if_false] at hc'
      refine ⟨hok.c.good c hc', hok.c.rng c hc', fun y hy hb => ?_⟩
      have hbs : Beats s y := beatsC_of_set hw hb (Int.le_refl _) (fun v hv => by cases hv)
      have hbk1 : bkOf lb o.bestExact < y := hb.bk_lt (get_set_self hw) rfl hwk
      rcases hok.c.ub c hc' y hy hbk1 with h4 | h4
      · exact .inl h4
      · right
        obtain ⟨x', d', hx', hd', hl'⟩ := cov_live H opt Sol Rg hI hcov h4 hbs
        exact hl'.mono H hx' (by omega)
  | writeX i n lb o cv ups u todo c' hw hu =>
    obtain ⟨hlbi, hK, htodo, hcov⟩ : lb ≤ s.crit.base.bestLb ∧ OkXc H opt Sol Rg n lb cv o ups ∧
        (∀ u' ∈ u :: todo, u' ∈ ups) ∧ CvOk s.log cv := hI.wok i _ hw
    have huu : u ∈ ups := htodo u List.mem_cons_self
    have hbkB : ∀ y, Beats s y → bkOf lb o.bestExact < y := fun y hb => hb.bk_lt hw rfl hlbi
    refine kpinv_write H opt Sol Rg hI (o := o) (bk := bkOf lb o.bestExact) hw ⟨rfl, rfl, rfl⟩ rfl
      (by simp) ?_ hu hK.th huu hbkB hcov ?_
    · exact ⟨hlbi, hK, fun u' hu' => htodo u' (List.mem_cons_of_mem _ hu'), hcov.mono (fun c hc => List.mem_cons_of_mem _ hc)⟩
    · intro c1 hc1 y1 hy1 hb1
      cases hex : o.isExact with
      | false =>
        left
        refine ⟨?_, hK.fresh1 u huu c1 hc1⟩
        show c1 ∈ (if o.isExact then [] else o.cutset)
        rw [hex]; exact hc1
      | true =>
        right
        rcases hK.c.ub c1 hc1 y1 hy1 (hbkB y1 hb1) with h4 | h4
        · have := hK.c.exactCut hex c1 hc1; have := hbkB y1 hb1; omega
        · exact cov_live H opt Sol Rg hI hcov h4 hb1
  | updateX i n lb o cv ups hw hl =>
    obtain ⟨hlbi, hK, _, hcov⟩ : lb ≤ s.crit.base.bestLb ∧ OkXc H opt Sol Rg n lb cv o ups ∧
        (∀ u' ∈ ([] : List (Up S)), u' ∈ ups) ∧ CvOk s.log cv := hI.wok i _ hw
    have hge := updateBest_lb_ge s.crit.base o
    cases hex : o.isExact with
    | false =>
      simp only [Bool.false_eq_true, if_false]
      refine kpinv_publish H opt Sol Rg hI hw rfl rfl ?_ hK.c.sound rfl (by simp) ?_ (.inl rfl)
      · show o.cutset = (if o.isExact then [] else o.cutset)
        rw [hex]; rfl
      · refine ⟨by show lb ≤ (s.crit.base.updateBest o).bestLb; omega, hK, hex, ?_, hcov⟩
        show bkOf lb o.bestExact ≤ (s.crit.base.updateBest o).bestLb
        unfold bkOf
        cases hbe : o.bestExact with
        | none => dsimp only; omega
        | some v => have := updateBest_lb_ge_val s.crit.base o v hbe; dsimp only; omega
    | true =>
      simp only [if_true]
      refine kpinv_publish H opt Sol Rg hI hw rfl rfl ?_ hK.c.sound rfl (by simp) trivial (.inr ⟨rfl, ?_⟩)
      · show ([] : List (SubP S)) = (if o.isExact then [] else o.cutset)
        rw [hex]; rfl
      intro m hm
      cases hm
      exact exact_closes H opt Sol Rg hI hw rfl hlbi hcov (hK.c.exact hex)
  | enqueue i n lb o cv ups hw hl => exact kpinv_enqueue H opt Sol Rg hI dedup hw hl
  | notify i n c' hw hl hn =>
    obtain ⟨e1, _⟩ := notify_spec hn
    have h1 := kpinv_wake H opt Sol Rg hI
    have hw1 : ({ s with ws := s.ws.map KW.wake } : KSys S).ws[i]? = some (.fin n) := get_wake_of hw
    exact kpinv_same H opt Sol Rg h1 (crit' := c') hw1 ⟨rfl, rfl, rfl⟩ (by rw [e1]) (by rw [e1]) (by rw [e1])
      rfl trivial (by simp)
  | crash i w hw hp => exact absurd hp (hnp i w hw)

theorem init_kpinv (P : Problem S) (dedup : Bool) (U : Nat)
    (hroot : ∀ x, optOf H (rootOf P) = some x → x ≤ opt) (hopt : opt ≤ iMax) (hlo : iMin ≤ opt)
    (hrg : Rg 0 P.initVal) (hatt : optOf H (rootOf P) = some opt) :
    KPInv H opt Sol Rg (KSys.init P dedup U) := by
  obtain ⟨f1, _, _, f2, f3⟩ := init_base P none dedup
  have hws : ∀ (j : Nat) (w : KW S), (KSys.init P dedup U).ws[j]? = some w → w = .idle := by
    intro j w h
    have h : (List.replicate U (KW.idle : KW S))[j]? = some w := h
    rw [List.getElem?_replicate] at h
    split at h
    · injection h with h; exact h.symm
    · cases h
  have hF : (KSys.init P dedup U).crit.base.fringe = [rootOf P] := f1
  have hlb : (KSys.init P dedup U).crit.base.bestLb = iMin := f2
  have hsol : (KSys.init P dedup U).crit.base.bestSol = none := f3
  have hview : ∀ st d, viewOf (Cache.init P.nbVars : Cache S) st d = none := by
    intro st d
    unfold viewOf Cache.get Cache.init
    dsimp only
    rw [List.getElem?_replicate]
    by_cases h : d < P.nbVars + 1
    · rw [if_pos h]; rfl
    · rw [if_neg h]; rfl
  have hnp : ¬ prunM (viewOf (KSys.init P dedup U).cache) (rootOf P) := by
    rintro ⟨t, ht, _⟩
    have := hview (rootOf P).state (rootOf P).depth
    have e : (KSys.init P dedup U).cache = Cache.init P.nbVars := rfl
    rw [e, this] at ht; cases ht
  have hpr : ∀ c, Prunable (KSys.init P dedup U) c → c = rootOf P := by
    rintro c (h | ⟨j, w, hj, hc⟩)
    · rw [hF] at h; simpa using h
    · rw [hws j w hj] at hc; cases hc
  refine ⟨?_, ?_, (by rw [hlb]; exact hlo), (by rw [hsol]; intro p hp; cases hp), List.mem_cons_self, ?_, ?_, ?_, ?_, ?_, ?_⟩
  · rintro c (hc | ⟨j, w, hj, hc⟩)
    · rw [hpr c hc]; exact hroot
    · rw [hws j w hj] at hc; cases hc
  · intro c hc
    rw [hpr c hc]; exact hrg
  · intro _
    exact .inl ⟨rootOf P, by rw [hF]; exact List.mem_cons_self, ⟨Nat.zero_le _, opt, hatt, Int.le_refl _⟩, hnp⟩
  · intro c hc st d tt htt
    have e : c = Cache.init P.nbVars := by
      have : c ∈ [Cache.init P.nbVars] := hc
      simpa using this
    rw [e, hview] at htt; cases htt
  · rintro c (hc | ⟨j, hj⟩)
    · rw [hpr c hc]
      intro y hy _
      left
      have := hroot y hy
      show y ≤ iMax
      omega
    · rcases hj with hj | hj <;> cases hws j _ hj
  · intro j n hj; cases hws j _ hj
  · intro j w hj; rw [hws j w hj]; trivial
  · rintro ⟨j, hj⟩; cases hws j _ hj

theorem complete_opt {nbVars : Nat} {s : KSys S} {i : Nat} (hI : KPInv H opt Sol Rg s) (hc : CompletesAt nbVars s i)
    (hno : ∀ w ∈ s.ws, w.openNode = none ∧ w.pendVal = none ∧ w.pendCut = []) :
    s.crit.base.bestLb = opt ∧ ∀ p, s.crit.base.bestSol = some p → Sol p opt := by
  have h := nothing_open_opt H opt Sol Rg hI hc.2.2.2 hno
  exact ⟨h, fun p hp => h ▸ hI.solOk p hp⟩

end
end Ddo.ParCache

#print axioms Ddo.ParCache.kstep_kpinv
#print axioms Ddo.ParCache.init_kpinv
#print axioms Ddo.ParCache.complete_opt
