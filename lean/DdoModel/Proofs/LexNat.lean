/-! Lexicographic order on the first `n` coordinates of a vector of naturals (`Nat → Nat`, coordinate
    `0` the most significant), its well-foundedness, and what the termination proofs of the solvers take from it: a transition
    system whose steps descend has no infinite run, and with progress every run continues to an end.
    Core Lean only, no import. -/
namespace Ddo

/-- `f` is lexicographically below `g` on the coordinates `0 … n-1` -/
def LexLT (n : Nat) (f g : Nat → Nat) : Prop :=
  ∃ d, d < n ∧ f d < g d ∧ ∀ e, e < d → f e = g e

/-- peeling the least significant coordinate -/
theorem lexLT_succ {n : Nat} {f g : Nat → Nat} (h : LexLT (n + 1) f g) :
    LexLT n f g ∨ ((∀ e, e < n → f e = g e) ∧ f n < g n) := by
  obtain ⟨d, hd, hlt, heq⟩ := h
  by_cases hdn : d < n
  · exact Or.inl ⟨d, hdn, hlt, heq⟩
  · have : d = n := by omega
    subst this
    exact Or.inr ⟨heq, hlt⟩

theorem lexLT_acc_succ (n : Nat) (g : Nat → Nat) (hg : Acc (LexLT n) g) :
    ∀ (k : Nat) (f : Nat → Nat), (∀ e, e < n → f e = g e) → f n = k → Acc (LexLT (n + 1)) f := by
  induction hg with
  | intro g _ ihg =>
    intro k
    induction k using Nat.strongRecOn with
    | _ k ihk =>
      intro f hfg hfk
      refine Acc.intro f (fun f' hlt => ?_)
      rcases lexLT_succ hlt with ⟨d, hd, hlt', heq⟩ | ⟨heq, hlt'⟩
      · -- a more significant coordinate decreases
        have hf'g : LexLT n f' g :=
          ⟨d, hd, by rw [← hfg d hd]; exact hlt', fun e he => by rw [← hfg e (by omega)]; exact heq e he⟩
        exact ihg f' hf'g (f' n) f' (fun _ _ => rfl) rfl
      · -- only the last coordinate decreases
        exact ihk (f' n) (by omega) f' (fun e he => (heq e he).trans (hfg e he)) rfl

theorem lexLT_wf (n : Nat) : WellFounded (LexLT n) := by
  induction n with
  | zero => exact ⟨fun g => Acc.intro g (fun f ⟨d, hd, _⟩ => absurd hd (Nat.not_lt_zero d))⟩
  | succ n ih => exact ⟨fun g => lexLT_acc_succ n g (ih.apply g) (g n) g (fun _ _ => rfl) rfl⟩

/-- a convenient sufficient condition: strictly smaller at `d`, not larger before `d` -/
theorem lexLT_of_le {n : Nat} {f g : Nat → Nat} (d : Nat) (hd : d < n) (hlt : f d < g d)
    (hle : ∀ e, e < d → f e ≤ g e) : LexLT n f g := by
  induction d using Nat.strongRecOn with
  | _ d ih =>
    by_cases hex : ∃ e, e < d ∧ f e ≠ g e
    · obtain ⟨e, he, hne⟩ := hex
      have := hle e he
      exact ih e he (by omega) (by omega) (fun e' he' => hle e' (by omega))
    · exact ⟨d, hd, hlt, fun e he => Decidable.byContradiction (fun h => hex ⟨e, he, h⟩)⟩

/-! ## a vector of `K` coordinates, then scalars

The termination measures of the solvers have this shape: the number of open sub-problems per depth (most significant), then a
few scalars (length of the fringe, busy workers, stage ranks, …). -/

/-- `V` on the coordinates `0 … K-1`, then `tl 0, tl 1, …` -/
def vecThen (K : Nat) (V tl : Nat → Nat) (d : Nat) : Nat := if d < K then V d else tl (d - K)

theorem vecThen_lo {K : Nat} (V tl : Nat → Nat) {d : Nat} (h : d < K) : vecThen K V tl d = V d := if_pos h

theorem vecThen_hi (K : Nat) (V tl : Nat → Nat) (j : Nat) : vecThen K V tl (K + j) = tl j := by
  unfold vecThen
  rw [if_neg (by omega), Nat.add_sub_cancel_left]

theorem lexLT_vec {n K : Nat} {V V' tl tl' : Nat → Nat} (d : Nat) (hd : d < K) (hn : K ≤ n) (hlt : V' d < V d)
    (hle : ∀ e, e < d → V' e ≤ V e) : LexLT n (vecThen K V' tl') (vecThen K V tl) := by
  refine lexLT_of_le d (by omega) ?_ (fun e he => ?_)
  · rw [vecThen_lo _ _ hd, vecThen_lo _ _ hd]; exact hlt
  · rw [vecThen_lo _ _ (by omega), vecThen_lo _ _ (by omega)]; exact hle e he

theorem lexLT_tl {n K : Nat} {V V' tl tl' : Nat → Nat} (k : Nat) (hk : K + k < n) (hV : ∀ e, V' e ≤ V e)
    (hlt : tl' k < tl k) (hle : ∀ j, j < k → tl' j ≤ tl j) : LexLT n (vecThen K V' tl') (vecThen K V tl) := by
  refine lexLT_of_le (K + k) hk ?_ (fun e he => ?_)
  · rw [vecThen_hi, vecThen_hi]; exact hlt
  · by_cases h1 : e < K
    · rw [vecThen_lo _ _ h1, vecThen_lo _ _ h1]; exact hV e
    · obtain ⟨j, rfl⟩ : ∃ j, e = K + j := ⟨e - K, by omega⟩
      rw [vecThen_hi, vecThen_hi]; exact hle j (by omega)

theorem no_infinite_chain {α : Type} {r : α → α → Prop} (hwf : WellFounded r) (f : Nat → α) :
    ¬ ∀ n, r (f (n + 1)) (f n) := by
  intro hf
  have : ∀ a, Acc r a → ∀ n, f n = a → False := by
    intro a ha
    induction ha with
    | intro a _ ih => intro n hn; exact ih (f (n + 1)) (hn ▸ hf n) (n + 1) rfl
  exact this (f 0) (hwf.apply _) 0 rfl

/-- `R` is a transition system and `I` a property every step preserves (an invariant, or "reachable from `s0`"); the steps taken
    from states that satisfy `I` descend in a well-founded `r`: no infinite run from a state that satisfies `I` -/
theorem no_infinite_run_of {σ : Type} {R r : σ → σ → Prop} {I : σ → Prop} (wf : WellFounded r)
    (step : ∀ {s t}, I s → R s t → I t) (lt : ∀ {s t}, I s → R s t → r t s)
    (run : Nat → σ) (h0 : I (run 0)) : ¬ ∀ k, R (run k) (run (k + 1)) := by
  intro hrun
  have hall : ∀ k, I (run k) := by
    intro k
    induction k with
    | zero => exact h0
    | succ k ih => exact step ih (hrun k)
  exact no_infinite_chain wf run (fun k => lt (hall k) (hrun k))

/-- a transition system `R` with its finite runs `Run` (any reflexive relation closed under one more step, at either end),
    well-founded on the states reachable from `s0`, in which some step is enabled in every reachable state that is not `Done`:
    every run from `s0` can be continued to a `Done` state (termination + progress) -/
theorem run_to_end_of {σ : Type} {R Run : σ → σ → Prop} {s0 : σ} {Done : σ → Prop} (refl : ∀ s, Run s s)
    (tail : ∀ {t u}, Run s0 t → R t u → Run s0 u) (head : ∀ {s t u}, R s t → Run t u → Run s u)
    (wf : WellFounded (fun t s => Run s0 s ∧ R s t)) (prog : ∀ s, Run s0 s → ¬ Done s → ∃ u, R s u)
    {s : σ} (hs : Run s0 s) : ∃ t, Run s0 t ∧ Run s t ∧ Done t := by
  refine wf.induction (C := fun s => Run s0 s → ∃ t, Run s0 t ∧ Run s t ∧ Done t) s ?_ hs
  intro s ih hs
  by_cases hd : Done s
  · exact ⟨s, hs, refl s, hd⟩
  · obtain ⟨u, hu⟩ := prog s hs hd
    obtain ⟨t, h1, h2, h3⟩ := ih u ⟨hs, hu⟩ (tail hs hu)
    exact ⟨t, h1, head hu h2, h3⟩

end Ddo
