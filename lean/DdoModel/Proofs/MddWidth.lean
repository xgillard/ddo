import DdoModel.Proofs.MddStep
/-! C13, sentence 1: the list of positions `cur` that `stepLayer` hands to `expandAll` (the nodes on which
    `for_each_in_domain` may be called) is no longer than `cfg.width` after `_squash_if_needed` (`curOf_le_width`), and
    the expansion of a layer logs at most one `Call.domain` per position (`expandAll_domain_calls_le`); for a whole
    compilation, on the per-layer counts `Result.expanded`: `compile_expanded_le_width`. -/
set_option linter.unusedSectionVars false
set_option linter.unusedVariables false
namespace Ddo.Width
open Ddo
variable {S K : Type} [DecidableEq S] [DecidableEq K]

theorem length_sortSquash (cfg : Cfg S K) (layer : List (Node S)) (cur : List Nat) :
    (sortSquash cfg layer cur).length = cur.length := by
  unfold sortSquash
  exact Cover.length_sortBy _ _

theorem restrict_cur_length (cfg : Cfg S K) (layer : List (Node S)) (cur : List Nat) :
    (restrictLayer cfg layer cur).2.length = min cfg.width cur.length := by
  unfold restrictLayer
  dsimp only
  rw [List.length_take, length_sortSquash]

theorem restrict_cur_le_width (cfg : Cfg S K) (layer : List (Node S)) (cur : List Nat) :
    (restrictLayer cfg layer cur).2.length ≤ cfg.width :=
  restrict_cur_length cfg layer cur ▸ Nat.min_le_left _ _

/-- `width - 1` kept nodes plus the fresh merged node, or the `width` best ones when a kept node is recycled -/
theorem relax_cur_length (cfg : Cfg S K) (layers : List (List (Node S))) (layer : List (Node S)) (cur : List Nat)
    (log : List (Call S)) (hW : 1 ≤ cfg.width) (hlen : cfg.width < cur.length) :
    (relaxLayer cfg layers layer cur log).2.1.length = cfg.width := by
  refine Cover.relaxLayer_elim cfg layers layer cur log (fun r => r.2.1.length = cfg.width) ?_ ?_
  · intro _ _
    show (Cover.keepOf cfg layer cur ++ [layer.length]).length = cfg.width
    unfold Cover.keepOf
    rw [List.length_append, List.length_take, length_sortSquash, List.length_singleton]
    omega
  · intro _ _ _
    show ((sortSquash cfg layer cur).take cfg.width).length = cfg.width
    rw [List.length_take, length_sortSquash]
    omega

theorem relax_cur_le_width (cfg : Cfg S K) (layers : List (List (Node S))) (layer : List (Node S)) (cur : List Nat)
    (log : List (Call S)) (hW : 1 ≤ cfg.width) (hlen : cfg.width < cur.length) :
    (relaxLayer cfg layers layer cur log).2.1.length ≤ cfg.width :=
  Nat.le_of_eq (relax_cur_length cfg layers layer cur log hW hlen)

/-- `hc`: `_squash_if_needed` relaxes only when `self.layers.len() > 1`, so the first two layers of a relaxed compilation
    keep their size.  `1 ≤ width` is not needed: for `width = 0` the model answers `none`, the Rust code panics on
    `max_width - 1`. -/
theorem squash_le (cfg : Cfg S K) (dd : DD S K) (layer : List (Node S)) (cur : List Nat)
    (sq : List (Node S) × List Nat × List (Call S) × Option Nat) (h : squash cfg dd layer cur = some sq)
    (hc : cfg.ctype = .restricted ∨ (cfg.ctype = .relaxed ∧ dd.layers.length > 1)) : sq.2.1.length ≤ cfg.width := by
  have hs := squash_spec cfg dd layer cur
  rw [h] at hs
  cases hs with
  | keep h1 h2 => exact hc.elim h1 (fun hc => h2 hc.1 hc.2)
  | restrict _ _ _ => exact restrict_cur_le_width cfg layer cur
  | relax _ hW hlen _ => exact relax_cur_le_width cfg dd.layers layer cur dd.log hW hlen

theorem squash_restricted_le (cfg : Cfg S K) (dd : DD S K) (layer : List (Node S)) (cur : List Nat)
    (layer' : List (Node S)) (cur' : List Nat) (log' : List (Call S)) (lel' : Option Nat)
    (hctype : cfg.ctype = .restricted)
    (h : squash cfg dd layer cur = some (layer', cur', log', lel')) : cur'.length ≤ cfg.width :=
  squash_le cfg dd layer cur _ h (.inl hctype)

theorem squash_relaxed_le (cfg : Cfg S K) (dd : DD S K) (layer : List (Node S)) (cur : List Nat)
    (layer' : List (Node S)) (cur' : List Nat) (log' : List (Call S)) (lel' : Option Nat)
    (hctype : cfg.ctype = .relaxed) (hdeep : dd.layers.length > 1)
    (h : squash cfg dd layer cur = some (layer', cur', log', lel')) : cur'.length ≤ cfg.width :=
  squash_le cfg dd layer cur _ h (.inr ⟨hctype, hdeep⟩)

theorem stepLayer_ok_elim (cfg : Cfg S K) (dd dd' : DD S K) (var : Nat)
    (h : stepLayer cfg dd var = (some dd', .ok)) :
    ∃ sq, squashOf cfg dd = some sq ∧ curOf cfg dd = some sq.2.1 ∧
      dd'.layers = dd.layers ++ [(expandAll cfg var dd.layers.length sq.1 sq.2.1 sq.2.2.1).1] ∧
      dd'.next = (expandAll cfg var dd.layers.length sq.1 sq.2.1 sq.2.2.1).2.1 ∧
      dd'.log = (expandAll cfg var dd.layers.length sq.1 sq.2.1 sq.2.2.1).2.2 := by
  rcases stepLayer_some cfg dd dd' var .ok h with ⟨_, h, _⟩ | ⟨sq, hsq, _, _, hl, hn, hg, _⟩
  · cases h
  · exact ⟨sq, hsq, by rw [curOf, hsq]; rfl, hl, hn, hg⟩

theorem curOf_le_width (cfg : Cfg S K) (dd : DD S K) (cur : List Nat) (h : curOf cfg dd = some cur)
    (hc : cfg.ctype = .restricted ∨ (cfg.ctype = .relaxed ∧ dd.layers.length > 1)) :
    cur.length ≤ cfg.width := by
  obtain ⟨sq, hsq, rfl⟩ := Option.map_eq_some_iff.1 h
  exact squash_le cfg dd _ _ sq (squashOf_elim cfg dd sq hsq) hc

def isDomain : Call S → Bool
  | .domain _ _ => true
  | _ => false

def isNextVar : Call S → Bool
  | .nextVar _ _ _ => true
  | _ => false

def domCount (log : List (Call S)) : Nat := log.countP isDomain

/-- No `next_variable` among the new calls (the log is newest first): `expStep` opens the count of a new layer at each
    one, so the `for_each_in_domain` calls of `ext` all go to the layer in progress (`expandedRev_grows`). -/
def Grows (k : Nat) (lg lg' : List (Call S)) : Prop :=
  ∃ ext, lg' = ext ++ lg ∧ (∀ c ∈ ext, isNextVar c = false) ∧ domCount ext ≤ k

theorem Grows.refl (lg : List (Call S)) : Grows 0 lg lg :=
  ⟨[], rfl, (fun c hc => by cases hc), Nat.le_refl _⟩

theorem Grows.trans {a b : Nat} {l1 l2 l3 : List (Call S)} (h1 : Grows a l1 l2) (h2 : Grows b l2 l3) :
    Grows (a + b) l1 l3 := by
  obtain ⟨e1, rfl, n1, d1⟩ := h1
  obtain ⟨e2, rfl, n2, d2⟩ := h2
  refine ⟨e2 ++ e1, by simp, fun c hc => ?_, ?_⟩
  · rcases List.mem_append.mp hc with h | h
    · exact n2 c h
    · exact n1 c h
  · unfold domCount at *
    rw [List.countP_append]
    omega

theorem Grows.mono {a b : Nat} {l1 l2 : List (Call S)} (h : Grows a l1 l2) (hab : a ≤ b) : Grows b l1 l2 := by
  obtain ⟨e, he, n, d⟩ := h
  exact ⟨e, he, n, Nat.le_trans d hab⟩

theorem Grows.cons_other {lg : List (Call S)} (c : Call S) (h1 : isNextVar c = false) (h2 : isDomain c = false) :
    Grows 0 lg (c :: lg) := by
  refine ⟨[c], rfl, fun c' hc' => ?_, ?_⟩
  · simp only [List.mem_singleton] at hc'; subst hc'; exact h1
  · simp [domCount, h2]

theorem Grows.cons_domain {lg : List (Call S)} (v : Nat) (s : S) : Grows 1 lg (Call.domain v s :: lg) := by
  refine ⟨[Call.domain v s], rfl, fun c' hc' => ?_, ?_⟩
  · simp only [List.mem_singleton] at hc'; subst hc'; rfl
  · simp [domCount, List.countP_cons, isDomain]

theorem Grows.domCount_le {k : Nat} {lg lg' : List (Call S)} (h : Grows k lg lg') : domCount lg' ≤ domCount lg + k := by
  obtain ⟨e, rfl, _, d⟩ := h
  unfold domCount at *
  rw [List.countP_append]
  omega

theorem Grows.foldl {α β : Type} (f : β → α → β) (lg : β → List (Call S)) (k : Nat)
    (h : ∀ b a, Grows k (lg b) (lg (f b a))) (l : List α) (b : β) :
    Grows (l.length * k) (lg b) (lg (l.foldl f b)) := by
  induction l generalizing b with
  | nil => exact (Grows.refl _).mono (Nat.zero_le _)
  | cons a l ih =>
    rw [List.foldl_cons, List.length_cons, Nat.succ_mul, Nat.add_comm]
    exact (h b a).trans (ih (f b a))

theorem branchAll_grows (cfg : Cfg S K) (var lidx p : Nat) (n' : Node S) (ds : List Int)
    (acc : List (Node S) × List (Call S)) : Grows 0 acc.2 (Cover.branchAll cfg var lidx p n' ds acc).2 :=
  (Grows.foldl _ (·.2) 0 (fun _ _ => (Grows.cons_other _ rfl rfl).trans (Grows.cons_other _ rfl rfl)) ds acc).mono
    (Nat.le_of_eq (Nat.mul_zero _))

theorem expandOne_grows (cfg : Cfg S K) (var lidx : Nat) (acc : List (Node S) × List (Node S) × List (Call S)) (p : Nat) :
    Grows 1 acc.2.2 (expandOne cfg var lidx acc p).2.2 := by
  obtain ⟨ly, nx, lg⟩ := acc
  cases h : ly[p]? with
  | none => rw [Cover.expandOne_none _ _ _ _ _ _ _ h]; exact (Grows.refl _).mono (by omega)
  | some n =>
    rw [Cover.expandOne_some _ _ _ _ _ _ _ n h]
    split
    · have h1 : Grows 0 lg (Call.rub n.state :: lg) := Grows.cons_other _ rfl rfl
      have h2 : Grows 1 (Call.rub n.state :: lg) (Call.domain var n.state :: Call.rub n.state :: lg) :=
        Grows.cons_domain var n.state
      exact (h1.trans h2).trans (branchAll_grows cfg var lidx p { n with rub := cfg.R.rub n.state }
        (cfg.P.domain var n.state) (nx, Call.domain var n.state :: Call.rub n.state :: lg))
    · exact (Grows.cons_other (lg := lg) (Call.rub n.state) rfl rfl).mono (by omega)

theorem fold_grows (cfg : Cfg S K) (var lidx : Nat) (cur : List Nat) (acc : List (Node S) × List (Node S) × List (Call S)) :
    Grows cur.length acc.2.2 (cur.foldl (expandOne cfg var lidx) acc).2.2 :=
  (Grows.foldl _ (·.2.2) 1 (expandOne_grows cfg var lidx) cur acc).mono (Nat.le_of_eq (Nat.mul_one _))

theorem expandAll_grows (cfg : Cfg S K) (var lidx : Nat) (layer : List (Node S)) (cur : List Nat) (log : List (Call S)) :
    Grows cur.length log (expandAll cfg var lidx layer cur log).2.2 :=
  fold_grows cfg var lidx cur (layer, [], log)

theorem expandAll_domain_calls_le (cfg : Cfg S K) (var lidx : Nat) (layer : List (Node S)) (cur : List Nat)
    (log : List (Call S)) :
    domCount (expandAll cfg var lidx layer cur log).2.2 ≤ domCount log + cur.length :=
  (expandAll_grows cfg var lidx layer cur log).domCount_le

theorem redirStep_grows (cfg : Cfg S K) (layers : List (List (Node S))) (merged : S) (mpos : Nat) (dropN : Node S)
    (acc : List (Node S) × List (Call S)) (e : Arc) :
    Grows 0 acc.2 (Cover.redirStep cfg layers merged mpos dropN acc e).2 := by
  unfold Cover.redirStep
  split
  · exact Grows.cons_other _ rfl rfl
  · exact Grows.refl _

theorem inner_grows (cfg : Cfg S K) (layers : List (List (Node S))) (merged : S) (mpos : Nat) (dropN : Node S)
    (es : List Arc) (acc : List (Node S) × List (Call S)) :
    Grows 0 acc.2 (es.foldl (Cover.redirStep cfg layers merged mpos dropN) acc).2 :=
  (Grows.foldl _ (·.2) 0 (redirStep_grows cfg layers merged mpos dropN) es acc).mono (Nat.le_of_eq (Nat.mul_zero _))

theorem dropStep_grows (cfg : Cfg S K) (layers : List (List (Node S))) (merged : S) (mpos : Nat)
    (acc : List (Node S) × List (Call S)) (p : Nat) :
    Grows 0 acc.2 (Cover.dropStep cfg layers merged mpos acc p).2 := by
  unfold Cover.dropStep
  split
  · exact Grows.refl _
  · exact inner_grows cfg layers merged mpos _ _ _

theorem outer_grows (cfg : Cfg S K) (layers : List (List (Node S))) (merged : S) (mpos : Nat)
    (ps : List Nat) (acc : List (Node S) × List (Call S)) :
    Grows 0 acc.2 (ps.foldl (Cover.dropStep cfg layers merged mpos) acc).2 :=
  (Grows.foldl _ (·.2) 0 (dropStep_grows cfg layers merged mpos) ps acc).mono (Nat.le_of_eq (Nat.mul_zero _))

theorem relaxLayer_grows (cfg : Cfg S K) (layers : List (List (Node S))) (layer : List (Node S)) (cur : List Nat)
    (log : List (Call S)) : Grows 0 log (relaxLayer cfg layers layer cur log).2.2 := by
  refine relaxLayer_cases cfg layers layer cur log (fun r => Grows 0 log r.2.2) ?_ ?_
  · intro _
    exact (Grows.cons_other _ rfl rfl).trans (outer_grows cfg layers _ _ _ (_, _))
  · intro _ _
    exact (Grows.cons_other _ rfl rfl).trans (outer_grows cfg layers _ _ _ (_, _))

theorem squash_grows (cfg : Cfg S K) (dd : DD S K) (layer : List (Node S)) (cur : List Nat)
    (sq : List (Node S) × List Nat × List (Call S) × Option Nat)
    (h : squash cfg dd layer cur = some sq) : Grows 0 dd.log sq.2.2.1 := by
  have hs := squash_spec cfg dd layer cur
  rw [h] at hs
  cases hs with
  | keep _ _ => exact Grows.refl _
  | restrict _ _ _ => exact Grows.refl _
  | relax _ _ _ _ => exact relaxLayer_grows cfg dd.layers layer cur dd.log

/-- the step of the fold by which `finalize` computes `Result.expanded` from the chronological log -/
def expStep (acc : List Nat) : Call S → List Nat
  | .nextVar _ _ _ => 0 :: acc
  | .domain _ _ => (match acc with | x :: r => (x + 1) :: r | [] => [1])
  | _ => acc

/-- number of `for_each_in_domain` calls per layer, newest layer first (`log` is newest first) -/
def expandedRev (log : List (Call S)) : List Nat := log.reverse.foldl expStep []

theorem finalize_expanded (cfg : Cfg S K) (b : Built S K) (e : Bool) :
    (finalize cfg b e).1.expanded = (expandedRev b.dd.log).reverse := rfl

theorem expandedRev_nil : expandedRev ([] : List (Call S)) = [] := rfl

theorem expandedRev_cons (c : Call S) (log : List (Call S)) :
    expandedRev (c :: log) = expStep (expandedRev log) c := by
  simp [expandedRev, List.foldl_append]

theorem expStep_cons (x : Nat) (r : List Nat) (c : Call S) (hn : isNextVar c = false) :
    expStep (x :: r) c = (x + if isDomain c then 1 else 0) :: r := by
  cases c <;> first | rfl | cases hn

theorem expandedRev_grows {k : Nat} {lg lg' : List (Call S)} (h : Grows k lg lg') {x : Nat} {r : List Nat}
    (hx : expandedRev lg = x :: r) : ∃ d, d ≤ k ∧ expandedRev lg' = (x + d) :: r := by
  obtain ⟨ext, rfl, hn, hd⟩ := h
  induction ext generalizing k with
  | nil => exact ⟨0, Nat.zero_le _, by simpa using hx⟩
  | cons c e ih =>
    obtain ⟨d, hdk, he⟩ := ih (k := domCount e) (fun c' hc' => hn c' (List.mem_cons_of_mem _ hc')) (Nat.le_refl _)
    rw [List.cons_append, expandedRev_cons, he, expStep_cons _ _ _ (hn c List.mem_cons_self), Nat.add_assoc]
    unfold domCount at hd hdk
    rw [List.countP_cons] at hd
    exact ⟨_, Nat.le_trans (Nat.add_le_add_right hdk _) hd, rfl⟩

/-- the layers C13 speaks about: all of them in a restricted compilation, those from index 2 on in a relaxed one -/
def Bounded (cfg : Cfg S K) (i : Nat) : Prop := cfg.ctype = .restricted ∨ (cfg.ctype = .relaxed ∧ 2 ≤ i)

/-- the counts are newest layer first: the head of `x :: r` is the count of layer `r.length` -/
def WOk (cfg : Cfg S K) : List Nat → Prop
  | [] => True
  | x :: r => (Bounded cfg r.length → x ≤ cfg.width) ∧ WOk cfg r

theorem WOk_index (cfg : Cfg S K) (acc : List Nat) (h : WOk cfg acc) (i x : Nat)
    (hi : acc.reverse[i]? = some x) (hb : Bounded cfg i) : x ≤ cfg.width := by
  induction acc with
  | nil => simp at hi
  | cons y r ih =>
    rw [List.reverse_cons] at hi
    by_cases hlt : i < r.length
    · rw [List.getElem?_append_left (by simpa using hlt)] at hi
      exact ih h.2 hi
    · rw [List.getElem?_append_right (by simpa using hlt)] at hi
      simp only [List.length_reverse] at hi
      have h0 : i - r.length = 0 := by
        rcases Nat.eq_zero_or_pos (i - r.length) with h0 | h0
        · exact h0
        · rw [List.getElem?_eq_none (by simp only [List.length_singleton]; omega)] at hi; cases hi
      rw [h0] at hi
      simp only [List.getElem?_cons_zero, Option.some.injEq] at hi
      subst hi
      have : i = r.length := by omega
      subst this
      exact h.1 hb

theorem stepLayer_log (cfg : Cfg S K) (dd dd' : DD S K) (var : Nat) (oc : Outcome)
    (h : stepLayer cfg dd var = (some dd', oc)) :
    dd'.layers.length = dd.layers.length + 1 ∧
    ∃ k, Grows k dd.log dd'.log ∧ (Bounded cfg dd.layers.length → k ≤ cfg.width) := by
  rcases stepLayer_some cfg dd dd' var oc h with ⟨_, _, rfl⟩ | ⟨sq, hsq, _, _, h1, _, h3, _⟩
  · exact ⟨by simp, 0, Grows.refl _, fun _ => Nat.zero_le _⟩
  · have hsq' := squashOf_elim cfg dd sq hsq
    refine ⟨by rw [h1]; simp, sq.2.1.length, ?_, fun hb => squash_le cfg dd _ _ sq hsq' ?_⟩
    · rw [h3]
      exact ((squash_grows cfg dd _ _ sq hsq').trans
        (expandAll_grows cfg var dd.layers.length sq.1 sq.2.1 sq.2.2.1)).mono (by omega)
    · exact hb.imp id (fun hb => ⟨hb.1, hb.2⟩)

structure LInv (cfg : Cfg S K) (dd : DD S K) : Prop where
  len : (expandedRev dd.log).length = dd.layers.length
  ok : WOk cfg (expandedRev dd.log)

theorem stepLayer_linv (cfg : Cfg S K) (dd dd2 dd' : DD S K) (var : Nat) (oc : Outcome)
    (dp : Nat) (sts : List S) (ans : Option Nat) (hI : LInv cfg dd)
    (h : stepLayer cfg dd2 var = (some dd', oc))
    (hl : dd2.layers = dd.layers) (hlog : dd2.log = Call.nextVar dp sts ans :: dd.log) : LInv cfg dd' := by
  obtain ⟨hlen, k, hg, hk⟩ := stepLayer_log cfg dd2 dd' var oc h
  have hx : expandedRev dd2.log = 0 :: expandedRev dd.log := by rw [hlog, expandedRev_cons]; rfl
  obtain ⟨d, hdk, he⟩ := expandedRev_grows hg hx
  constructor
  · rw [he, hlen, hl, List.length_cons, hI.len]
  · rw [he]
    refine ⟨fun hb => ?_, hI.ok⟩
    rw [hI.len, ← hl] at hb
    have := hk hb
    omega

theorem buildLoop_wok (cfg : Cfg S K) (stopAt : Option Nat) :
    ∀ (fuel : Nat) (dd : DD S K), LInv cfg dd → WOk cfg (expandedRev (buildLoop cfg stopAt fuel dd).1.log) := by
  refine buildLoop_induct cfg stopAt (LInv cfg) (fun dd => WOk cfg (expandedRev dd.log)) (fun _ h => h.ok) ?_ ?_
  · intro dd ans _ hI
    rw [expandedRev_cons]
    exact ⟨fun _ => Nat.zero_le _, hI.ok⟩
  · intro dd var dd' oc hI _ hst
    exact stepLayer_linv cfg dd _ dd' var oc _ _ _ hI hst rfl rfl

theorem initDD_linv (cfg : Cfg S K) (cache : Cache S) (store : DomStore S K) (polls : Nat) :
    LInv cfg (initDD cfg cache store polls) :=
  ⟨rfl, trivial⟩

/-- **C13, sentence 1, on the observable of a whole compilation**: in the per-layer counts of
    `for_each_in_domain` calls reported by `compile` (`Result.expanded`, the quantity the correspondence check compares
    with the implementation), every layer of a restricted compilation and every layer of index ≥ 2 of a relaxed
    compilation counts at most `width` calls — for both admissible results -/
theorem compile_expanded_le_width (cfg : Cfg S K) (cache : Cache S) (store : DomStore S K) (polls : Nat)
    (stopAt : Option Nat) (i x : Nat) (hb : Bounded cfg i) :
    ((compile cfg cache store polls stopAt).2.1.expanded[i]? = some x → x ≤ cfg.width) ∧
    (∀ r2, (compile cfg cache store polls stopAt).2.2.1 = some r2 → r2.expanded[i]? = some x → x ≤ cfg.width) := by
  have hw := buildLoop_wok cfg stopAt (cfg.P.nbVars + 2) _ (initDD_linv cfg cache store polls)
  unfold compile
  generalize buildLoop cfg stopAt (cfg.P.nbVars + 2) (initDD cfg cache store polls) = bl at hw ⊢
  obtain ⟨dd, oc⟩ := bl
  dsimp only at hw ⊢
  have key : ∀ e, (finalize cfg (finalizeLayers dd) e).1.expanded[i]? = some x → x ≤ cfg.width := by
    intro e he
    rw [finalize_expanded] at he
    exact WOk_index cfg _ hw i x he hb
  cases oc with
  | ok =>
    dsimp only
    refine ⟨key _, fun r2 h2 => ?_⟩
    split at h2
    · injection h2 with h2; subst h2; exact key _
    · cases h2
  | cutoff =>
    dsimp only
    exact ⟨fun h => by simp at h, fun r2 h2 => by cases h2⟩
  | crash =>
    dsimp only
    exact ⟨fun h => by simp at h, fun r2 h2 => by cases h2⟩

end Ddo.Width
