import DdoModel.Proofs.CompatOrder
/-! C10d — **the pseudo-potential of `GAbove`**.

`GAbove D P n opt k s v` (`Proofs/CompatOrder.lean`) is upward closed in `v` and, under `SimAll` + `RunBound`, bounded below
(`GAbove.lb`: every `GAbove` value is `≥ -B`).  Hence, for every depth `k` and state `s` (reached or not), either no value is
`GAbove` or there is a LEAST one, `t`.  `gpot k s = some (opt - t)` resp. `none` encodes `GAbove` as a potential function:

  `(s, v)` is `GAbove`  ⟺  `v + gpot k s ≥ opt`        (`gpot_spec`)

and `gpot` has the shape of the hypotheses of the potential-based machinery of C09: `Potential.att` (`gpot_att`),
`Potential.term` (`gpot_term`), `MergeOk` (`gpot_mergeOk`), `RubOk` (`gpot_rub`), "a reached item is at most the optimum"
(`gpot_reach_le`), the root has pseudo-optimum `opt` (`gpot_root`), and a dominated item is strictly below (`gpot_dominated`). -/
set_option linter.unusedSectionVars false
set_option linter.unusedVariables false

namespace Ddo.C10d
open Ddo Ddo.C01 Ddo.Closed Ddo.C09 Ddo.C10 Ddo.C10c

section pot
variable {S K : Type}

/-- a non-empty predicate on `Nat` has a least element (core has no `Nat.find`) -/
theorem exists_least (p : Nat → Prop) (h : ∃ m, p m) : ∃ m, p m ∧ ∀ m', p m' → m ≤ m' := by
  obtain ⟨m, hm⟩ := h
  induction m using Nat.strongRecOn with
  | _ m ih =>
    rcases Classical.em (∃ m', m' < m ∧ p m') with h | h
    · obtain ⟨m', hlt, hp⟩ := h
      exact ih m' hlt hp
    · exact ⟨m, hm, fun m' hp' => Nat.le_of_not_lt (fun hlt => h ⟨m', hlt, hp'⟩)⟩

open Classical in
/-- **the pseudo-potential of `GAbove`**: `some (opt - t)` for the least `GAbove` value `t` of `(k, s)`, `none` if there is none.
    `B` is the lower-bound device (every `GAbove` value is `≥ -B`: `GAbove.lb`). -/
noncomputable def gpot (D : DomRule S K) (P : Problem S) (n : Nat) (opt B : Int) (k : Nat) (s : S) : EInt :=
  if h : ∃ m : Nat, GAbove D P n opt k s ((m : Int) - B) then
    some (opt - (((Classical.choose (exists_least (fun m : Nat => GAbove D P n opt k s ((m : Int) - B)) h) : Nat) : Int) - B))
  else none

theorem gpot_raw (D : DomRule S K) (P : Problem S) (n : Nat) (opt B : Int) (k : Nat) (s : S) :
    (∃ m : Nat, gpot D P n opt B k s = some (opt - ((m : Int) - B)) ∧ GAbove D P n opt k s ((m : Int) - B) ∧
        ∀ m' : Nat, GAbove D P n opt k s ((m' : Int) - B) → m ≤ m') ∨
    (gpot D P n opt B k s = none ∧ ∀ m : Nat, ¬ GAbove D P n opt k s ((m : Int) - B)) := by
  unfold gpot
  split
  · rename_i hex
    have hs := Classical.choose_spec (exists_least (fun m : Nat => GAbove D P n opt k s ((m : Int) - B)) hex)
    exact Or.inl ⟨_, rfl, hs.1, hs.2⟩
  · rename_i hex
    exact Or.inr ⟨rfl, fun m hm => hex ⟨m, hm⟩⟩

structure GHyp (D : DomRule S K) (P : Problem S) (R : Relax S) (H : Nat → S → EInt) (n : Nat) (opt B0 B : Int) : Prop where
  hdim : ∀ s, D.dims s = n
  hP : Potential P H
  hNV : NvBound P
  hstat : StaticOrder P
  hsim : SimAll D P n
  hopt : (H 0 P.init).addI P.initVal = some opt
  hRB : RunBound P R B0 B

variable {D : DomRule S K} {P : Problem S} {R : Relax S} {H : Nat → S → EInt} {n : Nat} {opt B0 B : Int}

theorem GAbove.mono {k : Nat} {s : S} {v v' : Int} (h : GAbove D P n opt k s v) (hv : v ≤ v') : GAbove D P n opt k s v' :=
  h.up (Or.inl ⟨rfl, hv⟩)

/-- **every `GAbove` value is `≥ -B`** -/
theorem GAbove.lb (hNV : NvBound P) (hsim : SimAll D P n) (hRB : RunBound P R B0 B) {k : Nat} {s : S} {v : Int}
    (h : GAbove D P n opt k s v) : -B ≤ v := by
  obtain ⟨g, vg, hgood, hge⟩ := h
  obtain ⟨p, hr⟩ := hgood.reach
  have h1 := hsim.value s v g vg hge
  have h2 := (hRB.value_le hNV hr).1
  omega

theorem gpot_cases (hNV : NvBound P) (hsim : SimAll D P n) (hRB : RunBound P R B0 B) (k : Nat) (s : S) :
    (∃ t, gpot D P n opt B k s = some (opt - t) ∧ GAbove D P n opt k s t ∧ ∀ v, GAbove D P n opt k s v → t ≤ v) ∨
    (gpot D P n opt B k s = none ∧ ∀ v, ¬ GAbove D P n opt k s v) := by
  -- a `GAbove` value is `≥ -B`, hence of the form `m - B`
  have key : ∀ v, GAbove D P n opt k s v → (((v + B).toNat : Nat) : Int) - B = v := by
    intro v hv
    have hlb := hv.lb hNV hsim hRB
    omega
  rcases gpot_raw D P n opt B k s with ⟨m, heq, hm, hmin⟩ | ⟨hnone, hno⟩
  · refine .inl ⟨(m : Int) - B, heq, hm, fun v hv => ?_⟩
    have e := key v hv
    have := hmin (v + B).toNat (by rw [e]; exact hv)
    omega
  · exact .inr ⟨hnone, fun v hv => hno (v + B).toNat (by rw [key v hv]; exact hv)⟩

theorem gpot_some (hNV : NvBound P) (hsim : SimAll D P n) (hRB : RunBound P R B0 B) {k : Nat} {s : S} {h : Int}
    (hg : gpot D P n opt B k s = some h) :
    GAbove D P n opt k s (opt - h) ∧ ∀ v, GAbove D P n opt k s v → opt - h ≤ v := by
  rcases gpot_cases hNV hsim hRB k s with ⟨t, heq, ht, hmin⟩ | ⟨hnone, _⟩
  · rw [heq] at hg
    rw [← Option.some.inj hg, Int.sub_sub_self]
    exact ⟨ht, hmin⟩
  · rw [hnone] at hg
    cases hg

theorem gpot_least (hNV : NvBound P) (hsim : SimAll D P n) (hRB : RunBound P R B0 B) {k : Nat} {s : S} {v : Int}
    (hv : GAbove D P n opt k s v) :
    ∃ h, gpot D P n opt B k s = some h ∧ GAbove D P n opt k s (opt - h) ∧ opt - h ≤ v := by
  rcases gpot_cases hNV hsim hRB k s with ⟨t, heq, ht, hmin⟩ | ⟨_, hno⟩
  · exact ⟨_, heq, by rw [Int.sub_sub_self]; exact ht, by rw [Int.sub_sub_self]; exact hmin v hv⟩
  · exact absurd hv (hno v)

/-- **1. the specification of the pseudo-potential**: `(s, v)` is `GAbove` iff `v + gpot k s ≥ opt` -/
theorem gpot_spec (hyp : GHyp D P R H n opt B0 B) {k : Nat} {s : S} {v : Int} :
    GAbove D P n opt k s v ↔ ∃ h, gpot D P n opt B k s = some h ∧ opt ≤ v + h := by
  constructor
  · intro hv
    obtain ⟨h, hg, _, hle⟩ := gpot_least hyp.hNV hyp.hsim hyp.hRB hv
    exact ⟨h, hg, by omega⟩
  · rintro ⟨h, hg, hle⟩
    exact (gpot_some hyp.hNV hyp.hsim hyp.hRB hg).1.mono (by omega)

theorem gpot_none (hyp : GHyp D P R H n opt B0 B) {k : Nat} {s : S} :
    gpot D P n opt B k s = none ↔ ∀ v, ¬ GAbove D P n opt k s v := by
  constructor
  · intro hn v hv
    obtain ⟨h, hg, _⟩ := (gpot_spec hyp).mp hv
    rw [hn] at hg; cases hg
  · intro hall
    cases hg : gpot D P n opt B k s with
    | none => rfl
    | some h => exact absurd (gpot_some hyp.hNV hyp.hsim hyp.hRB hg).1 (hall _)

/-- **2. an exactly reached item is at most the (pseudo-)optimum** -/
theorem gpot_reach_le (hyp : GHyp D P R H n opt B0 B) (hmono : PotMono D n H) {k : Nat} {s : S} {v h : Int} {p : List Dec}
    (hr : Reach P k s v p) (hg : gpot D P n opt B k s = some h) : v + h ≤ opt := by
  have hga := (gpot_some hyp.hNV hyp.hsim hyp.hRB hg).1
  have h1 := hga.pot hyp.hP hyp.hstat hyp.hopt hmono
  have h2 := reach_le_root hyp.hP hr
  rw [hyp.hopt] at h2
  cases hH : H k s with
  | none => rw [hH] at h1; exact absurd h1 (by simp [EInt.addI])
  | some h0 =>
    rw [hH] at h1 h2
    simp only [EInt.addI, Option.map_some, EInt.some_le_some] at h1 h2
    omega

/-- **3. the `Potential.att` shape** -/
theorem gpot_att (hyp : GHyp D P R H n opt B0 B) {k x : Nat} {s : S} {h : Int} (hnv : nvar P k = some x)
    (hg : gpot D P n opt B k s = some h) :
    ∃ d ∈ P.domain x s, ∃ h', gpot D P n opt B (k + 1) (P.trans s ⟨x, d⟩) = some h' ∧
      h ≤ P.cost s (P.trans s ⟨x, d⟩) ⟨x, d⟩ + h' := by
  have hga := (gpot_some hyp.hNV hyp.hsim hyp.hRB hg).1
  obtain ⟨d, hd, hc⟩ := hga.step hyp.hstat hyp.hsim hnv
  obtain ⟨h', hg', _, hle⟩ := gpot_least hyp.hNV hyp.hsim hyp.hRB hc
  exact ⟨d, hd, h', hg', by omega⟩

/-- **4. the `MergeOk` shape** -/
theorem gpot_mergeOk (hyp : GHyp D P R H n opt B0 B) (hmc : MergeCompat D R n) {k : Nat} {X : List S} {u src : S} {d : Dec}
    {c h : Int} (hu : u ∈ X) (hg : gpot D P n opt B k u = some h) :
    ∃ h', gpot D P n opt B k (R.merge X) = some h' ∧ c + h ≤ R.relax src u (R.merge X) d c + h' := by
  have hga := (gpot_some hyp.hNV hyp.hsim hyp.hRB hg).1
  have hm := hga.merge hmc hu (Int.le_refl _)
  obtain ⟨h', hg', _, hle⟩ := gpot_least hyp.hNV hyp.hsim hyp.hRB hm
  have := hmc.relax src u (R.merge X) d c
  exact ⟨h', hg', by omega⟩

theorem gpot_MergeOk (hyp : GHyp D P R H n opt B0 B) (hmc : MergeCompat D R n) : MergeOk R (gpot D P n opt B) :=
  fun k X u src d c h hu hg => gpot_mergeOk hyp hmc hu hg

/-- **5. the `RubOk` shape** -/
theorem gpot_rub (hyp : GHyp D P R H n opt B0 B) (hmono : PotMono D n H) (hrub : RubOk R H) {k : Nat} {s : S} {h : Int}
    (hg : gpot D P n opt B k s = some h) : h ≤ R.rub s := by
  have hga := (gpot_some hyp.hNV hyp.hsim hyp.hRB hg).1
  have := hga.rub hyp.hP hyp.hstat hyp.hopt hmono hrub
  omega

theorem gpot_RubOk (hyp : GHyp D P R H n opt B0 B) (hmono : PotMono D n H) (hrub : RubOk R H) : RubOk R (gpot D P n opt B) :=
  fun k s h hg => gpot_rub hyp hmono hrub hg

/-- **6. the `Potential.term` shape**: at the terminal depth the least `GAbove` value is exactly `opt` -/
theorem gpot_term (hyp : GHyp D P R H n opt B0 B) {k : Nat} {s : S} {h : Int} (hnv : nvar P k = none)
    (hg : gpot D P n opt B k s = some h) : h = 0 := by
  obtain ⟨hga, hmin⟩ := gpot_some hyp.hNV hyp.hsim hyp.hRB hg
  have hge := hga.term hyp.hsim hnv
  have hopt' : GAbove D P n opt k s opt := by
    obtain ⟨g, vg, hgood, hgi⟩ := hga
    cases hgood with
    | term _ _ _ p hr _ hvo hu =>
      subst hvo
      exact ⟨g, vg, Good.term k g vg p hr hnv rfl hu, geItem_left hgi fun _ => Int.le_refl _⟩
    | step _ _ _ p x' dg hr hnv' _ _ _ => rw [hnv'] at hnv; cases hnv
  have := hmin opt hopt'
  omega

/-- **7. a dominated item is strictly below the pseudo-optimum** -/
theorem gpot_dominated (hyp : GHyp D P R H n opt B0 B) {k : Nat} {a s : S} {va v h : Int} {pa : List Dec}
    (hr : Reach P k a va pa) (hd : Dominates D a va s v) (hg : gpot D P n opt B k s = some h) : v + h ≤ opt - 1 := by
  apply Classical.byContradiction
  intro hc
  have hga : GAbove D P n opt k s v := (gpot_spec hyp).mpr ⟨h, hg, by omega⟩
  exact hga.undom hyp.hdim a va pa hr hd

/-- **8. range**: `h ≤ opt + B` (the least `GAbove` value is `≥ -B`) -/
theorem gpot_within (hyp : GHyp D P R H n opt B0 B) {k : Nat} {s : S} {h : Int} (hg : gpot D P n opt B k s = some h) :
    h ≤ opt + B := by
  have := (gpot_some hyp.hNV hyp.hsim hyp.hRB hg).1.lb hyp.hNV hyp.hsim hyp.hRB
  omega

/-- **the pseudo-optimum of the root is `opt`** (the `hopt` hypothesis of the potential-based machinery, for `gpot`) -/
theorem gpot_root (hyp : GHyp D P R H n opt B0 B) (hmono : PotMono D n H) :
    (gpot D P n opt B 0 P.init).addI P.initVal = some opt := by
  obtain ⟨h, hg, hle⟩ := (gpot_spec hyp).mp (GAbove.of_good (n := n) (good_root hyp.hdim hyp.hP hyp.hNV hyp.hstat hyp.hsim hyp.hopt))
  have hge := gpot_reach_le hyp hmono Reach.root hg
  rw [hg]
  have : h + P.initVal = opt := by omega
  simp [EInt.addI, this]

/-- `Potential.att`, literally (with the layer list `L`) -/
theorem gpot_att_L (hyp : GHyp D P R H n opt B0 B) (k : Nat) (L : List S) (x : Nat) (s : S) (h : Int)
    (hnv : P.nextVar k L = some x) (hs : s ∈ L) (hg : gpot D P n opt B k s = some h) :
    ∃ d ∈ P.domain x s, ∃ h', gpot D P n opt B (k + 1) (P.trans s ⟨x, d⟩) = some h' ∧
      h ≤ P.cost s (P.trans s ⟨x, d⟩) ⟨x, d⟩ + h' :=
  gpot_att hyp (by rw [← nv_eq hyp.hstat hs]; exact hnv) hg

/-- `Potential.term` shape, with the layer list `L`: a defined pseudo-potential is `0` at the terminal depth -/
theorem gpot_term_L (hyp : GHyp D P R H n opt B0 B) (k : Nat) (L : List S) (s : S) (h : Int)
    (hnv : P.nextVar k L = none) (hs : s ∈ L) (hg : gpot D P n opt B k s = some h) : h = 0 :=
  gpot_term hyp (by rw [← nv_eq hyp.hstat hs]; exact hnv) hg

end pot

end Ddo.C10d

#print axioms Ddo.C10d.geItem_left
#print axioms Ddo.C10d.gpot_spec
#print axioms Ddo.C10d.gpot_none
#print axioms Ddo.C10d.gpot_reach_le
#print axioms Ddo.C10d.gpot_att
#print axioms Ddo.C10d.gpot_mergeOk
#print axioms Ddo.C10d.gpot_MergeOk
#print axioms Ddo.C10d.gpot_rub
#print axioms Ddo.C10d.gpot_RubOk
#print axioms Ddo.C10d.gpot_term
#print axioms Ddo.C10d.gpot_dominated
#print axioms Ddo.C10d.gpot_within
#print axioms Ddo.C10d.gpot_root
#print axioms Ddo.C10d.gpot_att_L
#print axioms Ddo.C10d.gpot_term_L
