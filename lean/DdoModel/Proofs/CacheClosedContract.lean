import DdoModel.Props.C09b
import DdoModel.Proofs.CacheClosedCut
import DdoModel.Proofs.CacheClosedArcs
import DdoModel.Proofs.CacheClosedDistinct
import DdoModel.Proofs.CompileJoint
import DdoModel.Proofs.CacheClosedRestr
import DdoModel.Proofs.FreshJoint
import DdoModel.Proofs.CutLoop
/-! C09 (closing the caching solver) — **the whole contract `CompC` from the diagram model**, for the two compilations of
`process_one_node` when they consult a cache (`cfg.useCache = true`, any content):

* `ub_contract_of_model`, `exactCut_contract_of_model` — the fields `ub`, `exactCut`, from `Proofs/CacheClosedCut.lean`;
  `fresh_contract_of_model` — the field `fresh`: the instance of `C10d.fresh_contract_joint` (`Proofs/FreshJoint.lean`, any
  configuration), a compilation that ends normally being the one without cutoff (`C19.compile_ok_none`);
* `compC_relaxed_of_model` — all eleven fields for the `must` result of a relaxed compilation (`sound` from
  `isSol_relaxed_cached`: the exact-best-path argument `G2` survives `_filter_with_cache`; `good`, `sub`, `deeper`, `rng` from
  C08 (i)/(ii), which never depended on the cache);
* `compC_restricted_of_model` — a restricted compilation that is **exact** (nothing was dropped, `lel` unset) is, step by
  step, the relaxed compilation of the same input (`restricted_exact_as_relaxed`): same thresholds, same exact value, empty
  cut-set; so its contract is the one of the relaxed compilation.  A restricted compilation that is not exact records
  nothing (`restricted_inexact_no_ups`) and only has to be sound (`Ddo.C01.restricted_sound_within`). -/
set_option linter.unusedSectionVars false
set_option linter.unusedVariables false
namespace Ddo.C09
open Ddo Ddo.Theta Ddo.CacheClosed Ddo.CacheClosedB
variable {S K : Type} [DecidableEq S] [DecidableEq K]

theorem compile_ctx_k (cfg : Cfg S K) (H : Nat → S → EInt) (B : Int) (p0 : List Dec) (cache : Cache S)
    (store : DomStore S K) (polls : Nat) (stopAt : Option Nat)
    (hrel : cfg.ctype = .relaxed) (hdom : cfg.dom = none) (hW : 1 ≤ cfg.width)
    (hP : Potential cfg.P H) (hM : MergeOk cfg.R H) (hAM : Cover.AttMerge cfg.P cfg.R H)
    (hB : NoClamp cfg.P cfg.R cfg.root.value B)
    (hroot : Reach cfg.P cfg.root.depth cfg.root.state cfg.root.value p0)
    (hok : (compile cfg cache store polls stopAt).1 = .ok) (r : Result S)
    (hr : r = (compile cfg cache store polls stopAt).2.1 ∨ (compile cfg cache store polls stopAt).2.2.1 = some r) :
    ∃ (fin : DD S K) (Live : Nat → Nat → Prop) (dd : DD S K) (e : Bool), Ctx cfg H B cache p0 fin Live dd ∧
      KFacts cfg cache (finalizeLayers fin).layers ∧ r = (finalize cfg (finalizeLayers fin) e).1 := by
  obtain ⟨_, e, he⟩ := compile_results cfg cache store polls stopAt hok r hr
  have hbl := (Ddo.compile_ok cfg cache store polls stopAt hok).1
  obtain ⟨Live, dd, hx⟩ := ctx_of_compile cfg H B p0 cache store polls stopAt ⟨hrel, hdom, hW, hP, hM, hAM, hB⟩ hroot hok
  exact ⟨_, Live, dd, e, hx,
    ⟨built_unmarked cfg cache store polls stopAt hrel hdom hW hbl, built_arcs_live cfg cache store polls stopAt hrel hdom hW hbl,
     built_distinct cfg cache store polls stopAt hrel hdom hW hbl, built_filtered cfg cache store polls stopAt hrel hdom hW hbl⟩,
    he⟩

theorem ub_contract_of_model (cfg : Cfg S K) (H : Nat → S → EInt) (B : Int) (p0 : List Dec) (cache : Cache S)
    (store : DomStore S K) (polls : Nat) (stopAt : Option Nat)
    (hrel : cfg.ctype = .relaxed) (hdom : cfg.dom = none) (hW : 1 ≤ cfg.width)
    (hP : Potential cfg.P H) (hR : RubOk cfg.R H) (hM : MergeOk cfg.R H) (hAM : Cover.AttMerge cfg.P cfg.R H)
    (hB : NoClamp cfg.P cfg.R cfg.root.value B) (hlb : cfg.lb < iMax)
    (hroot : Reach cfg.P cfg.root.depth cfg.root.state cfg.root.value p0) (hk0 : cfg.root.depth ≤ cfg.P.nbVars)
    (hok : (compile cfg cache store polls stopAt).1 = .ok) (r : Result S)
    (hr : r = (compile cfg cache store polls stopAt).2.1 ∨ (compile cfg cache store polls stopAt).2.2.1 = some r) :
    ∀ c ∈ (C01.toOut r).cutset, ∀ y, optOf H c = some y → y > bkOf cfg.lb r.bestExactValue →
      y ≤ c.ub ∨ CacheCov H (RgB B) (viewOf cache) c.depth y := by
  intro c hc y hy hgt
  have hdeep := C08.cutset_progress cfg B p0 cache store polls stopAt hrel hroot hB hok r hr c hc
  obtain ⟨fin, Live, dd, e, hx, hk, rfl⟩ := compile_ctx_k cfg H B p0 cache store polls stopAt hrel hdom hW hP hM hAM hB hroot hok r hr
  have h1 := Ddo.Theta.bkOf_ge cfg.lb (finalize cfg (finalizeLayers fin) e).1.bestExactValue
  rcases hx.cut_ub hk hR hlb ((cfg.root.depth : Int) * B) (Int.mul_nonneg (by omega) hB.nonneg) (bd_shift_small hB _ hk0) e
    c hc y hy (by omega) with a | a
  · exact .inl a
  · exact .inr (cacheAlt_cov (by omega) a)

theorem exactCut_contract_of_model (cfg : Cfg S K) (H : Nat → S → EInt) (B : Int) (p0 : List Dec) (cache : Cache S)
    (store : DomStore S K) (polls : Nat) (stopAt : Option Nat)
    (hrel : cfg.ctype = .relaxed) (hdom : cfg.dom = none) (hW : 1 ≤ cfg.width)
    (hP : Potential cfg.P H) (hM : MergeOk cfg.R H) (hAM : Cover.AttMerge cfg.P cfg.R H)
    (hB : NoClamp cfg.P cfg.R cfg.root.value B)
    (hroot : Reach cfg.P cfg.root.depth cfg.root.state cfg.root.value p0)
    (hok : (compile cfg cache store polls stopAt).1 = .ok) (r : Result S)
    (hr : r = (compile cfg cache store polls stopAt).2.1 ∨ (compile cfg cache store polls stopAt).2.2.1 = some r) :
    (C01.toOut r).isExact = true → ∀ c ∈ (C01.toOut r).cutset, c.ub ≤ bkOf cfg.lb r.bestExactValue := by
  intro hex c hc
  obtain ⟨fin, Live, dd, e, hx, rfl⟩ := compile_ctx cfg H B p0 cache store polls stopAt hrel hdom hW hP hM hAM hB hroot hok r hr
  exact hx.cut_exact_le e hex c hc

theorem fresh_contract_of_model (cfg : Cfg S K) (H : Nat → S → EInt) (B : Int) (p0 : List Dec) (cache : Cache S)
    (store : DomStore S K) (polls : Nat) (stopAt : Option Nat)
    (hrel : cfg.ctype = .relaxed) (huse : cfg.useCache = true) (hdom : cfg.dom = none) (hW : 1 ≤ cfg.width)
    (hP : Potential cfg.P H) (hM : MergeOk cfg.R H) (hAM : Cover.AttMerge cfg.P cfg.R H)
    (hB : NoClamp cfg.P cfg.R cfg.root.value B)
    (hroot : Reach cfg.P cfg.root.depth cfg.root.state cfg.root.value p0)
    (hok : (compile cfg cache store polls stopAt).1 = .ok) (r : Result S)
    (hr : r = (compile cfg cache store polls stopAt).2.1 ∨ (compile cfg cache store polls stopAt).2.2.1 = some r)
    (ups : List (S × Nat × Int × Bool)) (hups : ∀ u ∈ ups, u ∈ r.cacheUpdates) :
    ∀ c ∈ (C01.toOut r).cutset, c.ub > bkOf cfg.lb r.bestExactValue → ¬ prunM ((viewOf cache).upds ups) c := by
  have e := C19.compile_ok_none cfg cache store polls stopAt hok
  rw [e] at hok hr
  exact C10d.fresh_contract_joint cfg B p0 cache store polls hrel huse hW hB hroot hok r hr ups hups

section
variable (H : Nat → S → EInt) (opt : Int)

/-- the `must` result; `ups`: the recorded thresholds, in any order; `hval`: the values of the reached sub-problems are within `B`
    (`RunBound.value_le`) -/
theorem compC_relaxed_of_model (cfg : Cfg S K) (B : Int) (p0 : List Dec) (cache : Cache S)
    (store : DomStore S K) (polls : Nat)
    (hrel : cfg.ctype = .relaxed) (huse : cfg.useCache = true) (hdom : cfg.dom = none) (hW : 1 ≤ cfg.width)
    (hP : Potential cfg.P H) (hR : RubOk cfg.R H) (hM : MergeOk cfg.R H) (hAM : Cover.AttMerge cfg.P cfg.R H)
    (hB : NoClamp cfg.P cfg.R cfg.root.value B) (hlb : cfg.lb < iMax)
    (hroot : Reach cfg.P cfg.root.depth cfg.root.state cfg.root.value p0) (hperm : cfg.root.path.Perm p0)
    (hk0 : cfg.root.depth ≤ cfg.P.nbVars)
    (hopt : (H 0 cfg.P.init).addI cfg.P.initVal = some opt)
    (hval : ∀ (k : Nat) (s : S) (v : Int) (p : List Dec), Reach cfg.P k s v p → -B ≤ v ∧ v ≤ B)
    (hok : (compile cfg cache store polls none).1 = .ok)
    (ups : List (S × Nat × Int × Bool)) (hups : ∀ u ∈ ups, u ∈ (compile cfg cache store polls none).2.1.cacheUpdates) :
    CompC H opt (C01.SolOf cfg.P) (RgB B) cfg.root cfg.lb (viewOf cache)
      (C01.toOut (compile cfg cache store polls none).2.1) ups
      (bkOf cfg.lb (compile cfg cache store polls none).2.1.bestExactValue) := by
  refine ⟨?_, ?_, ?_, ?_, ?_, ?_, ?_, ?_, ?_, ?_, ?_⟩
  ·
    intro w hw
    exact (C01.isSol_facts cfg H opt p0 hP hroot hperm hopt w _
      (isSol_relaxed_cached cfg B p0 cache store polls hrel hdom hW hB hroot hok w hw)).1
  · exact exact_contract_of_model cfg H B p0 cache store polls none hrel hdom hW hP hR hM hAM hB hlb hroot hk0 hok _ (.inl rfl)
  · exact exactCut_contract_of_model cfg H B p0 cache store polls none hrel hdom hW hP hM hAM hB hroot hok _ (.inl rfl)
  · intro _
    exact cover_contract_of_model cfg H B p0 cache store polls none hrel hdom hW hP hR hM hAM hB hlb hroot hk0 hok _ (.inl rfl)
  · intro u hu
    exact theta_contract_of_model cfg H B p0 cache store polls none hrel hdom hW hP hR hM hAM hB hlb hroot hk0 hok _ (.inl rfl)
      u (hups u hu)
  · exact Closed.cutset_good cfg H B opt p0 cache store polls none hP hB hroot hopt hok _ (.inl rfl)
  ·
    intro c hc
    obtain ⟨q, hq, _⟩ := C08.cutset_exact cfg B p0 cache store polls none hroot hB hok _ (.inl rfl) c hc
    have hv := hval _ _ _ _ hq
    have h0 := hB.nonneg
    have hm : (0 : Int) ≤ (c.depth : Int) * B := Int.mul_nonneg (by omega) h0
    unfold RgB Cover.Within Cover.Bd
    rw [Int.add_mul, Int.one_mul]
    omega
  · exact Closed.cutset_sub cfg H B p0 cache store polls none hP hB hroot hok _ (.inl rfl)
  · exact C08.cutset_progress cfg B p0 cache store polls none hrel hroot hB hok _ (.inl rfl)
  · exact ub_contract_of_model cfg H B p0 cache store polls none hrel hdom hW hP hR hM hAM hB hlb hroot hk0 hok _ (.inl rfl)
  · exact fresh_contract_of_model cfg H B p0 cache store polls none hrel huse hdom hW hP hM hAM hB hroot hok _ (.inl rfl) ups hups

theorem restricted_inexact_no_ups (cfg : Cfg S K) (cache : Cache S) (store : DomStore S K) (polls : Nat) (stopAt : Option Nat)
    (hres : cfg.ctype = .restricted)
    (hex : (compile cfg cache store polls stopAt).2.1.isExact = false) :
    (compile cfg cache store polls stopAt).2.1.cacheUpdates = [] := by
  by_cases hoc : (compile cfg cache store polls stopAt).1 = .ok
  · obtain ⟨_, _, hres'⟩ := Ddo.compile_ok cfg cache store polls stopAt hoc
    have e2 : (cfg.ctype == CompType.relaxed) = false := by rw [hres]; decide
    rw [e2] at hres'
    have e3 : ∀ b : Built S K, b.ebpMust false = false := fun _ => rfl
    rw [e3] at hres'
    rw [hres'] at hex ⊢
    rw [Ddo.Truth.finalize_isExact, Bool.or_false] at hex
    unfold finalize
    simp only [e2, hex, Bool.or_false, Bool.false_eq_true, if_false]
  · -- a compilation that does not end normally reports the empty result
    unfold compile at hoc ⊢
    generalize buildLoop cfg stopAt (cfg.P.nbVars + 2) (initDD cfg cache store polls) = bl at hoc ⊢
    obtain ⟨dd, oc⟩ := bl
    cases oc
    · exact absurd rfl hoc
    · rfl
    · rfl

theorem compC_restricted_of_model (cfg : Cfg S K) (B : Int) (p0 : List Dec) (cache : Cache S)
    (store : DomStore S K) (polls : Nat)
    (hres : cfg.ctype = .restricted) (huse : cfg.useCache = true) (hdom : cfg.dom = none) (hW : 1 ≤ cfg.width)
    (hP : Potential cfg.P H) (hR : RubOk cfg.R H) (hM : MergeOk cfg.R H) (hAM : Cover.AttMerge cfg.P cfg.R H)
    (hB : NoClamp cfg.P cfg.R cfg.root.value B) (hlb : cfg.lb < iMax)
    (hroot : Reach cfg.P cfg.root.depth cfg.root.state cfg.root.value p0) (hperm : cfg.root.path.Perm p0)
    (hk0 : cfg.root.depth ≤ cfg.P.nbVars)
    (hopt : (H 0 cfg.P.init).addI cfg.P.initVal = some opt)
    (hok : (compile cfg cache store polls none).1 = .ok)
    (hex : (compile cfg cache store polls none).2.1.isExact = true)
    (ups : List (S × Nat × Int × Bool)) (hups : ∀ u ∈ ups, u ∈ (compile cfg cache store polls none).2.1.cacheUpdates) :
    CompC H opt (C01.SolOf cfg.P) (RgB B) cfg.root cfg.lb (viewOf cache)
      (C01.toOut (compile cfg cache store polls none).2.1) ups
      (bkOf cfg.lb (compile cfg cache store polls none).2.1.bestExactValue) := by
  obtain ⟨xok, xex, xbe, xups, hcs, hcsX⟩ := restricted_exact_as_relaxed cfg B p0 cache store polls none hres hB hroot hok hex
  have hcs' : (C01.toOut (compile cfg cache store polls none).2.1).cutset = [] := hcs
  have nomem : ∀ c, c ∈ (C01.toOut (compile cfg cache store polls none).2.1).cutset → False := by
    intro c hc; rw [hcs'] at hc; cases hc
  refine ⟨?_, ?_, ?_, ?_, ?_, ?_, ?_, ?_, ?_, ?_, ?_⟩
  · intro w hw
    exact (C01.restricted_sound_within cfg H B opt p0 cache store polls none hres hP hB hroot hperm hopt hok w hw).1
  · -- exact: the relaxed twin finds the optimum of the root, unless the cache cut it
    intro _ x hx hgt
    have := exact_contract_of_model { cfg with ctype := .relaxed } H B p0 cache store polls none rfl hdom hW hP hR hM hAM hB hlb
      hroot hk0 xok _ (.inl rfl) xex x hx hgt
    rw [show (C01.toOut (compile { cfg with ctype := .relaxed } cache store polls none).2.1).bestExact =
      (C01.toOut (compile cfg cache store polls none).2.1).bestExact from xbe] at this
    exact this
  · intro _ c hc; exact (nomem c hc).elim
  · intro hf; rw [show (C01.toOut (compile cfg cache store polls none).2.1).isExact = true from hex] at hf; cases hf
  · -- theta: the thresholds are those of the relaxed twin, whose cut-set is empty too
    intro u hu v h hv hvt hH
    have hu' : u ∈ (compile { cfg with ctype := .relaxed } cache store polls none).2.1.cacheUpdates := by
      rw [xups]; exact hups u hu
    have := theta_contract_of_model { cfg with ctype := .relaxed } H B p0 cache store polls none rfl hdom hW hP hR hM hAM hB hlb
      hroot hk0 xok _ (.inl rfl) u hu' v h hv hvt hH
    rw [xbe] at this
    rcases this with a | ⟨c, hc, _⟩ | a
    · exact .inl a
    · have : (C01.toOut (compile { cfg with ctype := .relaxed } cache store polls none).2.1).cutset = [] := hcsX
      rw [this] at hc; cases hc
    · exact .inr (.inr a)
  · intro c hc; exact (nomem c hc).elim
  · intro c hc; exact (nomem c hc).elim
  · intro c hc; exact (nomem c hc).elim
  · intro c hc; exact (nomem c hc).elim
  · intro c hc; exact (nomem c hc).elim
  · intro c hc; exact (nomem c hc).elim

/-- the thresholds recorded by a relaxed compilation sit at depths `≤ nb_variables` (they belong to exact nodes), so
    `update_threshold` never indexes `thresholds_by_layer` out of range -/
theorem ups_depth_relaxed (cfg : Cfg S K) (H : Nat → S → EInt) (B : Int) (p0 : List Dec) (cache : Cache S)
    (store : DomStore S K) (polls : Nat) (stopAt : Option Nat)
    (hrel : cfg.ctype = .relaxed) (hdom : cfg.dom = none) (hW : 1 ≤ cfg.width)
    (hP : Potential cfg.P H) (hM : MergeOk cfg.R H) (hAM : Cover.AttMerge cfg.P cfg.R H)
    (hB : NoClamp cfg.P cfg.R cfg.root.value B) (hNV : Closed.NvBound cfg.P)
    (hroot : Reach cfg.P cfg.root.depth cfg.root.state cfg.root.value p0)
    (hok : (compile cfg cache store polls stopAt).1 = .ok) (r : Result S)
    (hr : r = (compile cfg cache store polls stopAt).2.1 ∨ (compile cfg cache store polls stopAt).2.2.1 = some r) :
    ∀ u ∈ r.cacheUpdates, u.2.1 ≤ cfg.P.nbVars := by
  intro u hu
  obtain ⟨fin, Live, dd, e, hx, rfl⟩ := compile_ctx cfg H B p0 cache store polls stopAt hrel hdom hW hP hM hAM hB hroot hok r hr
  obtain ⟨v, q, hq⟩ := hx.ups_reach e u hu
  exact Closed.reach_depth_le hNV hq

/-- the same for a restricted compilation (`ups_depth_joint` does not look at the compilation type) -/
theorem ups_depth_restricted (cfg : Cfg S K) (H : Nat → S → EInt) (B : Int) (p0 : List Dec) (cache : Cache S)
    (store : DomStore S K) (polls : Nat)
    (hres : cfg.ctype = .restricted) (hdom : cfg.dom = none) (hW : 1 ≤ cfg.width)
    (hP : Potential cfg.P H) (hM : MergeOk cfg.R H) (hAM : Cover.AttMerge cfg.P cfg.R H)
    (hB : NoClamp cfg.P cfg.R cfg.root.value B) (hNV : Closed.NvBound cfg.P)
    (hroot : Reach cfg.P cfg.root.depth cfg.root.state cfg.root.value p0)
    (hok : (compile cfg cache store polls none).1 = .ok) :
    ∀ u ∈ (compile cfg cache store polls none).2.1.cacheUpdates, u.2.1 ≤ cfg.P.nbVars :=
  C10c.ups_depth_joint cfg B p0 cache store polls hB hNV hroot hok

end
end Ddo.C09

#print axioms Ddo.C09.ub_contract_of_model
#print axioms Ddo.C09.fresh_contract_of_model
#print axioms Ddo.C09.exactCut_contract_of_model
#print axioms Ddo.C09.compC_relaxed_of_model
#print axioms Ddo.C09.compC_restricted_of_model
#print axioms Ddo.C09.ups_depth_relaxed
#print axioms Ddo.C09.ups_depth_restricted
