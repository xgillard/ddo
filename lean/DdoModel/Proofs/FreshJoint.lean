import DdoModel.Proofs.CacheClosedArcs
import DdoModel.Proofs.CacheClosedDistinct
import DdoModel.Proofs.CompileJoint
import DdoModel.Proofs.SeqCache
/-! The field `fresh` of the contract of one relaxed compilation, for every configuration (any cache content, any store content, any
rule; `cfg.dom` is not read): a cut-set node worth enqueuing is accepted by `must_explore` once the updates of its own compilation are
applied (`fresh_contract_joint`).

Top-down part: one invariant `KJ` of the compilation loop (`buildLoop_kj`, through `buildLoop_ind_joint`) —
* `KInvA` of `Proofs/CacheClosedArcs.lean` (nothing is marked; every inbound arc comes from a node that was handed to the
  expansion, hence neither pruned by the cache nor deleted): `_filter_with_dominance` only removes positions and only writes `theta`;
* `KInvX`: the nodes of a layer that are **not flagged relaxed** have pairwise distinct states (`DistX`) — the form of
  `built_distinct` that survives the checker: a node dropped by the checker is neither deleted nor pruned by the cache, and the
  merged node created by `_relax` may carry its state, but that node is flagged relaxed; and `built_filtered` (`Filt`).

Bottom-up part: `JFacts` collects `KJ`, `CutWF` (`compile_wf`), `FInv` (`buildLoop_finv`) and `Inv2.lelSome`; the analysis of the passes
(`computeThresholds_spec`, `finalize_marked`, the flags of `computeCutset`) does not depend on the filters.  With the checker, a node dropped
by `_filter_with_dominance`, when flagged `above`, DOES emit an update `(state, depth, thr, !cutset)`; it cannot hit the `(state, depth)` of a
cut-set node: both are exact, hence not flagged relaxed, and `DistX` separates them. -/
set_option linter.unusedSectionVars false
set_option linter.unusedVariables false

namespace Ddo.C10d
open Ddo Ddo.C01 Ddo.Closed Ddo.C10 Ddo.C10c Ddo.Truth
variable {S K : Type} [DecidableEq S] [DecidableEq K]

theorem fdStep_keep (D : DomRule S K) (acc : List (Node S) × List Nat × DomStore S K × Bool) (p : Nat) :
    (fdStep D acc p).2.1 = acc.2.1 ∨ (fdStep D acc p).2.1 = acc.2.1 ++ [p] := by
  unfold fdStep
  cases acc.1[p]? with
  | none => exact .inl rfl
  | some n =>
    dsimp only
    by_cases hex : n.isExact = true
    · rw [if_pos hex]
      cases DomStore.query D acc.2.2.1 n.state n.depth n.value with
      | none => exact .inr rfl
      | some r =>
        obtain ⟨st', dom, thr⟩ := r
        cases dom with
        | true => exact .inl rfl
        | false => exact .inr rfl
    · rw [if_neg hex]
      exact .inr rfl

theorem fdFold_sublist (D : DomRule S K) :
    ∀ (l proc : List Nat) (acc : List (Node S) × List Nat × DomStore S K × Bool),
      acc.2.1.Sublist proc → (l.foldl (fdStep D) acc).2.1.Sublist (proc ++ l) := by
  intro l
  induction l with
  | nil => intro proc acc h; simpa using h
  | cons p ps ih =>
    intro proc acc h
    rw [List.foldl_cons]
    have h' : (fdStep D acc p).2.1.Sublist (proc ++ [p]) := by
      rcases fdStep_keep D acc p with e | e
      · rw [e]; exact h.trans (List.sublist_append_left _ _)
      · rw [e]; exact List.Sublist.append h (List.Sublist.refl _)
    have := ih (proc ++ [p]) _ h'
    simpa using this

theorem filterDom_sub (cfg : Cfg S K) (store : DomStore S K) (layer : List (Node S)) (cur : List Nat) :
    (∀ p ∈ (filterDom cfg store layer cur).2.1, p ∈ cur) ∧ (cur.Nodup → (filterDom cfg store layer cur).2.1.Nodup) := by
  cases hD : cfg.dom with
  | none =>
    have : filterDom cfg store layer cur = (layer, cur, store, true) := by
      unfold filterDom; simp only [hD]
    rw [this]
    exact ⟨fun _ h => h, fun h => h⟩
  | some D =>
    rw [filterDom_eq cfg D hD]
    have h := fdFold_sublist D (fdSorted D layer cur) [] (layer, [], store, true) (List.Sublist.refl _)
    rw [List.nil_append] at h
    refine ⟨fun p hp => (Cover.mem_sortBy _ _ _).mp (h.subset hp), fun hn => ?_⟩
    exact h.nodup (C12.nodup_sortBy _ cur hn)

theorem stripT_k {a b : Node S} (h : Bounds.stripT a = Bounds.stripT b) :
    a.state = b.state ∧ a.value = b.value ∧ a.depth = b.depth ∧ a.cache = b.cache ∧ a.deleted = b.deleted ∧
    a.fRelaxed = b.fRelaxed ∧ a.marked = b.marked ∧ a.inb = b.inb := by
  have h1 := congrArg Node.state h
  have h2 := congrArg Node.value h
  have h3 := congrArg Node.depth h
  have h4 := congrArg Node.cache h
  have h5 := congrArg Node.deleted h
  have h6 := congrArg Node.fRelaxed h
  have h7 := congrArg Node.marked h
  have h8 := congrArg Node.inb h
  simp only [Bounds.stripT] at h1 h2 h3 h4 h5 h6 h7 h8
  exact ⟨h1, h2, h3, h4, h5, h6, h7, h8⟩

def DistX (ly : List (Node S)) : Prop :=
  ∀ (p q : Nat) (n m : Node S), ly[p]? = some n → ly[q]? = some m →
    n.fRelaxed = false → m.fRelaxed = false → n.state = m.state → p = q

theorem DistX.of_rubEq {ly ly0 : List (Node S)} (h : RubEq ly ly0) (h0 : DistX ly0) : DistX ly := by
  intro p q n m hn hm hnr hmr hs
  obtain ⟨n0, hn0, sn⟩ := h.get hn
  obtain ⟨m0, hm0, sm⟩ := h.get hm
  obtain ⟨a1, _, _, _, _, a6⟩ := CacheClosedB.strip_flds sn
  obtain ⟨b1, _, _, _, _, b6⟩ := CacheClosedB.strip_flds sm
  exact h0 p q n0 m0 hn0 hm0 (a6 ▸ hnr) (b6 ▸ hmr) (by rw [a1, b1]; exact hs)

theorem map_pos_same {α : Type} (g : Node S → α) {r l : List (Node S)} (h : r.map g = l.map g)
    {q : Nat} {n' : Node S} (hn' : r[q]? = some n') : ∃ n, l[q]? = some n ∧ g n' = g n := by
  have hm : (r.map g)[q]? = some (g n') := by rw [List.getElem?_map, hn']; rfl
  rw [h, List.getElem?_map, Option.map_eq_some_iff] at hm
  exact hm.imp fun n hn => ⟨hn.1, hn.2.symm⟩

theorem map_pos {α : Type} (g : Node S → α) {r l : List (Node S)} {x : α} (h : r.map g = l.map g ++ [x])
    {q : Nat} {n' : Node S} (hn' : r[q]? = some n') :
    (∃ n, l[q]? = some n ∧ g n' = g n) ∨ (q = l.length ∧ g n' = x) := by
  have hm : (r.map g)[q]? = some (g n') := by rw [List.getElem?_map, hn']; rfl
  rw [h] at hm
  rcases getElem?_append_singleton_cases hm with hm | ⟨hq, hx⟩
  · rw [List.getElem?_map, Option.map_eq_some_iff] at hm
    exact .inl (hm.imp fun n hn => ⟨hn.1, hn.2.symm⟩)
  · exact .inr ⟨by rw [hq, List.length_map], hx⟩

/-- `DistX` through `_relax`: the old positions keep their states, the node `_relax` may append is flagged relaxed -/
theorem relaxLayer_distX (cfg : Cfg S K) (layers : List (List (Node S))) (layer : List (Node S)) (cur : List Nat)
    (log : List (Call S))
    (hD : ∀ (p q : Nat) (n m : Node S), layer[p]? = some n → layer[q]? = some m → n.state = m.state → p = q) :
    DistX (relaxLayer cfg layers layer cur log).1 := by
  refine Theta.relaxLayer_elimD cfg layers layer cur log (fun r => DistX r.1) ?_ ?_
  · intro _ lg
    dsimp only
    -- the pair (state, flag relaxed) position-wise: the fresh node is already flagged relaxed
    have hmap : ((Cover.restOf cfg layer cur).foldl (Cover.dropStep cfg layers (Cover.mergedOf cfg layer cur) layer.length)
        (Cover.markRelaxed (layer ++ [Cover.freshMerged (Cover.mergedOf cfg layer cur) (Theta.d0Of cfg layer cur)]) layer.length,
          lg)).1.map (fun n => (n.state, n.fRelaxed)) =
        layer.map (fun n => (n.state, n.fRelaxed)) ++ [(Cover.mergedOf cfg layer cur, true)] := by
      rw [Theta.outer_map (fun n => (n.state, n.fRelaxed))
        (fun src m a => by rw [Cover.appendEdge_state, CacheClosedB.appendEdge_fRelaxed]) (fun _ _ => rfl)]
      dsimp only
      have hget : (layer ++ [Cover.freshMerged (Cover.mergedOf cfg layer cur) (Theta.d0Of cfg layer cur)])[layer.length]? =
          some (Cover.freshMerged (Cover.mergedOf cfg layer cur) (Theta.d0Of cfg layer cur)) := List.getElem?_concat_length
      unfold Cover.markRelaxed
      rw [hget]
      dsimp only
      exact (C12.map_set_same (fun n => (n.state, n.fRelaxed)) _ _ _ _ hget rfl).trans (by rw [List.map_append])
    intro p q n m hn hm hnr hmr hs
    rcases map_pos _ hmap hn with ⟨n0, hn0, en⟩ | ⟨_, en⟩
    · rcases map_pos _ hmap hm with ⟨m0, hm0, em⟩ | ⟨_, em⟩
      · have e1 := congrArg Prod.fst en
        have e2 := congrArg Prod.fst em
        dsimp only at e1 e2
        exact hD p q n0 m0 hn0 hm0 (by rw [← e1, ← e2]; exact hs)
      · have e2 := congrArg Prod.snd em
        dsimp only at e2
        rw [hmr] at e2; cases e2
    · have e2 := congrArg Prod.snd en
      dsimp only at e2
      rw [hnr] at e2; cases e2
  · intro mp _ lg
    dsimp only
    have hmap : (Cover.undelete ((Cover.restOf cfg layer cur).foldl
        (Cover.dropStep cfg layers (Cover.mergedOf cfg layer cur) mp) (Cover.markRelaxed layer mp, lg)).1
        ((sortSquash cfg layer cur).take cfg.width)).map Node.state = layer.map Node.state := by
      rw [Theta.undelete_map Node.state (fun _ _ => rfl),
        Theta.outer_map Node.state (fun src m a => Cover.appendEdge_state src m a) (fun _ _ => rfl)]
      dsimp only
      rw [Theta.markRelaxed_map Node.state (fun _ => rfl)]
    intro p q n m hn hm _ _ hs
    obtain ⟨n0, hn0, en⟩ := map_pos_same _ hmap hn
    obtain ⟨m0, hm0, em⟩ := map_pos_same _ hmap hm
    exact hD p q n0 m0 hn0 hm0 (by rw [← en, ← em]; exact hs)

/-- the part of the invariant that reads the cache -/
structure KInvX (cfg : Cfg S K) (cache : Cache S) (dd : DD S K) : Prop where
  cacheEq : dd.cache = cache
  nextD : (dd.next.map (·.state)).Nodup
  distL : ∀ (i : Nat) ly, dd.layers[i]? = some ly → DistX ly
  filtL : ∀ (i : Nat) ly, 1 ≤ i → dd.layers[i]? = some ly → ∀ n ∈ ly, CacheClosedB.Filt cfg cache n

theorem KInvX.congr {cfg : Cfg S K} {cache : Cache S} {dd dd' : DD S K} (h : KInvX cfg cache dd)
    (h1 : dd'.layers = dd.layers) (h2 : dd'.next = dd.next) (h4 : dd'.cache = dd.cache) : KInvX cfg cache dd' := by
  obtain ⟨a1, a2, a4, a5⟩ := h
  exact ⟨by rw [h4]; exact a1, by rw [h2]; exact a2, by rw [h1]; exact a4, by rw [h1]; exact a5⟩

def KJ (cfg : Cfg S K) (cache : Cache S) (dd : DD S K) : Prop := CacheClosed.KInvA dd ∧ KInvX cfg cache dd

theorem Filt_of_stripT {cfg : Cfg S K} {cache : Cache S} {a b : Node S} (h : Bounds.stripT a = Bounds.stripT b)
    (ha : CacheClosedB.Filt cfg cache a) : CacheClosedB.Filt cfg cache b := by
  obtain ⟨h1, h2, h3, h4, _, h6, _, _⟩ := stripT_k h
  have hlk : Theta.lookup cfg cache a = Theta.lookup cfg cache b := by unfold Theta.lookup; rw [h1, h3]
  intro hc hr t ht
  rw [← h2]
  exact ha (h4 ▸ hc) (h6 ▸ hr) t (hlk ▸ ht)

theorem fd_facts (cfg : Cfg S K) (cache : Cache S) (dd : DD S K) (hI : KJ cfg cache dd) :
    CacheClosed.PostK dd.layers (CacheClosed.fdOf cfg dd).1 (CacheClosed.fdOf cfg dd).2.1 ∧
    (CacheClosed.fdOf cfg dd).2.1.Nodup ∧
    (∀ (p q : Nat) (n m : Node S), (CacheClosed.fdOf cfg dd).1[p]? = some n → (CacheClosed.fdOf cfg dd).1[q]? = some m →
      n.state = m.state → p = q) ∧
    (dd.layers ≠ [] → ∀ n ∈ (CacheClosed.fdOf cfg dd).1, CacheClosedB.Filt cfg cache n) := by
  obtain ⟨hA, hX⟩ := hI
  obtain ⟨hpost, hnd⟩ := CacheClosed.postK_fc cfg dd.cache dd hA _ _ (Theta.fcOf_desc cfg dd)
  have hth : ThEq (CacheClosed.fdOf cfg dd).1 (Theta.fcOf cfg dd).1 :=
    (filterDom_weak' cfg dd.store (Theta.fcOf cfg dd).1 (Theta.fcOf cfg dd).2).1
  obtain ⟨hsub, hnd'⟩ := filterDom_sub cfg dd.store (Theta.fcOf cfg dd).1 (Theta.fcOf cfg dd).2
  have hsub' : ∀ p ∈ (CacheClosed.fdOf cfg dd).2.1, p ∈ (Theta.fcOf cfg dd).2 := hsub
  have hnd'' : (CacheClosed.fdOf cfg dd).2.1.Nodup := hnd' hnd
  refine ⟨⟨?_, ?_⟩, hnd'', ?_, ?_⟩
  · intro n hn
    obtain ⟨i, hi⟩ := List.mem_iff_getElem?.1 hn
    obtain ⟨n0, h0, hs⟩ := hth.get hi
    obtain ⟨_, _, _, _, _, _, h7, h8⟩ := stripT_k hs
    have := hpost.good n0 (List.mem_of_getElem? h0)
    exact ⟨h7 ▸ this.1, h8 ▸ this.2⟩
  · intro q hq
    obtain ⟨n0, h0, c0, d0⟩ := hpost.live q (hsub' q hq)
    obtain ⟨n, hn, hs⟩ := hth.symm.get h0
    obtain ⟨_, _, _, h4, h5, _⟩ := stripT_k hs
    exact ⟨n, hn, by rw [← h4]; exact c0, by rw [← h5]; exact d0⟩
  · -- the states are those of the layer under construction
    obtain ⟨g, keep, hlay, _, _, hg, _⟩ := Theta.fcOf_desc cfg dd
    have hsame : ∀ m, (g m).state = m.state := by
      intro m
      rcases hg m with ⟨_, h⟩ | ⟨_, t, _, _, h⟩
      · rw [h]
      · rw [h]
    have hget : ∀ (q : Nat) n, (CacheClosed.fdOf cfg dd).1[q]? = some n → ∃ m, dd.next[q]? = some m ∧ n.state = m.state := by
      intro q n hn
      obtain ⟨n0, h0, hs⟩ := hth.get hn
      rw [hlay, List.getElem?_map, Option.map_eq_some_iff] at h0
      obtain ⟨m, hm, h0⟩ := h0
      exact ⟨m, hm, by rw [(stripT_k hs).1, ← h0, hsame]⟩
    intro p q n m hn hm hs
    obtain ⟨n0, hn0, en⟩ := hget p n hn
    obtain ⟨m0, hm0, em⟩ := hget q m hm
    exact CacheClosedB.pos_of_nodup (·.state) _ hX.nextD hn0 hm0 (by rw [← en, ← em]; exact hs)
  · intro hne n hn
    obtain ⟨i, hi⟩ := List.mem_iff_getElem?.1 hn
    obtain ⟨n0, h0, hs⟩ := hth.get hi
    refine Filt_of_stripT hs.symm ?_
    have hemp : dd.layers.isEmpty = false := by
      cases h : dd.layers with
      | nil => exact absurd h hne
      | cons _ _ => rfl
    have hm0 := List.mem_of_getElem? h0
    unfold Theta.fcOf at hm0
    rw [hemp] at hm0
    simp only [Bool.false_eq_true, if_false] at hm0
    rw [(Theta.filterCache_spec cfg dd.cache dd.next).1, hX.cacheEq] at hm0
    obtain ⟨m, _, rfl⟩ := List.mem_map.mp hm0
    exact CacheClosedB.fcNode_filt cfg cache m

theorem expand_kinvX (cfg : Cfg S K) (cache : Cache S) (dd dd' : DD S K) (var : Nat) (layer' : List (Node S))
    (cur' : List Nat) (lg : List (Call S)) (hI : KInvX cfg cache dd) (hD : DistX layer')
    (hF : dd.layers ≠ [] → ∀ n ∈ layer', CacheClosedB.Filt cfg cache n)
    (hl : dd'.layers = dd.layers ++ [(expandAll cfg var dd.layers.length layer' cur' lg).1])
    (hn : dd'.next = (expandAll cfg var dd.layers.length layer' cur' lg).2.1)
    (hc : dd'.cache = dd.cache) : KInvX cfg cache dd' := by
  unfold expandAll at hl hn
  have hrub : RubEq (cur'.foldl (expandOne cfg var dd.layers.length) (layer', [], lg)).1 layer' :=
    Bounds.fold_rubEq cfg var dd.layers.length cur' (layer', [], lg)
  refine ⟨by rw [hc]; exact hI.cacheEq, ?_, ?_, ?_⟩
  · rw [hn]
    exact CacheClosedB.fold_nodup cfg var dd.layers.length cur' (layer', [], lg) List.nodup_nil
  · intro i ly hi
    rw [hl] at hi
    rcases getElem?_append_singleton_cases hi with hi | ⟨_, rfl⟩
    · exact hI.distL i ly hi
    · exact DistX.of_rubEq hrub hD
  · intro i ly h1i hi
    rw [hl] at hi
    rcases getElem?_append_singleton_cases hi with hi | ⟨hil, rfl⟩
    · exact hI.filtL i ly h1i hi
    · have hne : dd.layers ≠ [] := by
        intro h; rw [h] at hil; simp only [List.length_nil] at hil; omega
      intro n hnm
      obtain ⟨q, hq⟩ := List.mem_iff_getElem?.mp hnm
      obtain ⟨n0, h0, hs⟩ := hrub.get hq
      exact (hF hne n0 (List.mem_of_getElem? h0)).of_strip hs

theorem step_kj (cfg : Cfg S K) (cache : Cache S) (hrel : cfg.ctype = .relaxed) (hW : 1 ≤ cfg.width)
    (dd dd' : DD S K) (var : Nat) (sq : List (Node S) × List Nat × List (Call S) × Option Nat)
    (hI : KJ cfg cache dd)
    (hsq : squash cfg dd (CacheClosed.fdOf cfg dd).1 (CacheClosed.fdOf cfg dd).2.1 = some sq)
    (hl : dd'.layers = dd.layers ++ [(expandAll cfg var dd.layers.length sq.1 sq.2.1 sq.2.2.1).1])
    (hn : dd'.next = (expandAll cfg var dd.layers.length sq.1 sq.2.1 sq.2.2.1).2.1)
    (hc : dd'.cache = dd.cache) : KJ cfg cache dd' := by
  obtain ⟨f1, f2, f3, f4⟩ := fd_facts cfg cache dd hI
  have key : CacheClosed.PostK dd.layers sq.1 sq.2.1 → DistX sq.1 →
      (dd.layers ≠ [] → ∀ n ∈ sq.1, CacheClosedB.Filt cfg cache n) → KJ cfg cache dd' := by
    intro hp hD hF
    obtain ⟨e1, e2⟩ := CacheClosed.expand_kinv cfg var dd.layers sq.1 sq.2.1 sq.2.2.1 hp hI.1.goodL
    exact ⟨⟨by rw [hn, hl]; exact fun n hn => (e2 n hn).1, by rw [hl]; exact e1, by rw [hn]; exact fun n hn => (e2 n hn).2⟩,
      expand_kinvX cfg cache dd dd' var _ _ _ hI.2 hD hF hl hn hc⟩
  rcases Bounds.squash_cases cfg dd (CacheClosed.fdOf cfg dd).1 (CacheClosed.fdOf cfg dd).2.1 hrel hW with
    ⟨_, hsq'⟩ | ⟨c1, _, hsq'⟩
  · rw [hsq'] at hsq
    cases hsq
    exact key f1 (fun p q n m hn hm _ _ hs => f3 p q n m hn hm hs) f4
  · rw [hsq'] at hsq
    cases hsq
    refine key (CacheClosed.postK_relax cfg dd.layers _ _ dd.log hW c1 f2 f1) (relaxLayer_distX cfg dd.layers _ _ dd.log f3) ?_
    intro hne
    exact CacheClosedB.relaxLayer_filt cfg cache dd.layers _ _ dd.log (f4 hne)

theorem init_kj (cfg : Cfg S K) (cache : Cache S) (store : DomStore S K) (polls : Nat) :
    KJ cfg cache (initDD cfg cache store polls) := by
  have hK := CacheClosedB.init_kinv cfg cache store polls
  refine ⟨CacheClosed.init_kinv cfg cache store polls, hK.cacheEq, hK.nextD, ?_, ?_⟩
  · intro i ly hi
    have hlay : (initDD cfg cache store polls).layers = [] := rfl
    rw [hlay] at hi; simp at hi
  · exact hK.filtL

theorem buildLoop_kj (cfg : Cfg S K) (cache : Cache S) (hrel : cfg.ctype = .relaxed) (hW : 1 ≤ cfg.width) :
    ∀ (fuel : Nat) (dd : DD S K), KJ cfg cache dd → KJ cfg cache (buildLoop cfg none fuel dd).1 := by
  refine buildLoop_ind_joint cfg (fun _ dd => KJ cfg cache dd) (KJ cfg cache) ?_ ?_ ?_ ?_ ?_
  · intro _ dd var h; exact ⟨h.1.congr rfl rfl, h.2.congr rfl rfl rfl⟩
  · intro _ dd h; exact h
  · intro _ dd h; exact ⟨h.1.congr rfl rfl, h.2.congr rfl rfl rfl⟩
  · intro _ dd h hne
    obtain ⟨hA, hX⟩ := h
    refine ⟨⟨?_, ?_, ?_⟩, ⟨hX.cacheEq, hX.nextD, ?_, ?_⟩⟩
    · intro n hn; exact (hA.goodN n hn).mono _
    · intro ly hly n hn
      rcases List.mem_append.mp hly with hly | hly
      · exact (hA.goodL ly hly n hn).mono _
      · rw [List.mem_singleton] at hly
        rw [hly] at hn
        exact absurd hn List.not_mem_nil
    · exact hA.cleanN
    · intro i ly hi
      rcases getElem?_append_singleton_cases hi with hi | ⟨_, rfl⟩
      · exact hX.distL i ly hi
      · intro p q n m hn; simp at hn
    · intro i ly h1i hi
      rcases getElem?_append_singleton_cases hi with hi | ⟨_, rfl⟩
      · exact hX.filtL i ly h1i hi
      · intro n hn; cases hn
  · intro _ dd var sq dd' h _ _ hsq _ hl hn _ hc
    exact step_kj cfg cache hrel hW dd dd' var sq h hsq hl hn hc

end Ddo.C10d

namespace Ddo.C10d
open Ddo Ddo.C01 Ddo.Closed Ddo.C09 Ddo.C10 Ddo.C10c Ddo.Truth Ddo.Bounds Ddo.Theta
variable {S K : Type} [DecidableEq S] [DecidableEq K]

structure JFacts (cfg : Cfg S K) (cache : Cache S) (p0 : List Dec) (fin : DD S K) : Prop where
  rel : cfg.ctype = .relaxed
  wf : CutWF cfg p0 (finalizeLayers fin).layers (finalizeLayers fin).lel
  fl : FInv fin
  lelLt : ∀ k, fin.lel = some k → k < fin.layers.length
  kj : KJ cfg cache fin

section
variable {cfg : Cfg S K} {cache : Cache S} {p0 : List Dec} {fin : DD S K}

theorem JFacts.flags0 (hx : JFacts cfg cache p0 fin) (l p : Nat) (n : Node S)
    (hn : getNode (finalizeLayers fin).layers l p = some n) : n.cutset = false ∧ n.above = false := by
  rcases finalizeLayers_at fin hn with ⟨ly, hly, hm⟩ | ⟨_, hm⟩
  · exact hx.fl.1 ly (List.mem_of_getElem? hly) n hm
  · exact hx.fl.2 n hm

theorem JFacts.good (hx : JFacts cfg cache p0 fin) (l p : Nat) (n : Node S)
    (hn : getNode (finalizeLayers fin).layers l p = some n) : CacheClosed.Good (finalizeLayers fin).layers n :=
  CacheClosed.kinv_final fin hx.kj.1 l p n hn

theorem JFacts.distinct (hx : JFacts cfg cache p0 fin) (l p q : Nat) (n m : Node S)
    (hn : getNode (finalizeLayers fin).layers l p = some n) (hm : getNode (finalizeLayers fin).layers l q = some m)
    (hnr : n.fRelaxed = false) (hmr : m.fRelaxed = false) (hs : n.state = m.state) : p = q := by
  have hv := CacheClosedB.fin_view fin
  rcases view_at hv l p n hn with ⟨ly, hly, hp⟩ | ⟨hl1, hp⟩ <;>
    rcases view_at hv l q m hm with ⟨ly', hly', hq⟩ | ⟨hl2, hq⟩
  · rw [hly] at hly'; cases hly'
    exact hx.kj.2.distL l ly hly p q n m hp hq hnr hmr hs
  · exact absurd (Cover.lt_of_getElem?_some hly) (hl2 ▸ Nat.lt_irrefl _)
  · exact absurd (Cover.lt_of_getElem?_some hly') (hl1 ▸ Nat.lt_irrefl _)
  · exact CacheClosedB.pos_of_nodup (·.state) _ hx.kj.2.nextD hp hq hs

theorem JFacts.filt (hx : JFacts cfg cache p0 fin) (l p : Nat) (n : Node S) (t : Thr) (h1 : 1 ≤ l)
    (hlen : l + 1 < (finalizeLayers fin).layers.length) (hn : getNode (finalizeLayers fin).layers l p = some n)
    (hc : n.cache = false) (hr : n.fRelaxed = false) (ht : lookup cfg cache n = some t) : n.value > t.value := by
  have hv := CacheClosedB.fin_view fin
  have hle : (finalizeLayers fin).layers.length ≤ fin.layers.length + 1 := by
    rcases hv with h | ⟨h, _⟩
    · rw [h, List.length_append, List.length_singleton]; exact Nat.le_refl _
    · rw [h]; exact Nat.le_succ _
  rcases view_at hv l p n hn with ⟨ly, hly, hp⟩ | ⟨hl1, _⟩
  · exact hx.kj.2.filtL l ly h1 hly n (List.mem_of_getElem? hp) hc hr t ht
  · rw [hl1] at hlen
    exact absurd (Nat.lt_of_lt_of_le hlen hle) (Nat.lt_irrefl _)

theorem isExact_fRelaxed {n : Node S} (h : n.isExact = true) : n.fRelaxed = false := by
  unfold Node.isExact at h
  cases hr : n.fRelaxed with
  | false => rfl
  | true => rw [hr] at h; simp at h

/-- **the node behind a sub-problem handed out by `drain_cutset`**, both filters -/
theorem JFacts.cut_node (hx : JFacts cfg cache p0 fin) (e : Bool) (c : SubP S)
    (hc : c ∈ (finalize cfg (finalizeLayers fin) e).1.cutset) :
    ∃ (bv : Int) (l p : Nat) (n3 : Node S), (finalizeLayers fin).bestValue = some bv ∧
      getNode (finalize cfg (finalizeLayers fin) e).2 l p = some n3 ∧ 1 ≤ l ∧ l + 1 < (finalizeLayers fin).layers.length ∧
      n3.marked = true ∧ n3.cutset = true ∧ n3.isExact = true ∧ n3.cache = false ∧ n3.deleted = false ∧
      c = subOf cfg (finalize cfg (finalizeLayers fin) e).2 bv n3 := by
  obtain ⟨bv, l, p, n3, hbv, hn, hl1, hl, hmk, hcut, hex, hceq⟩ :=
    cutset_node cfg p0 (finalizeLayers fin) e hx.rel hx.wf hx.flags0 c hc
  have hne : fin.next ≠ [] := by
    intro hnil
    unfold Built.bestValue at hbv
    rw [terminals_finalizeLayers, hnil] at hbv
    cases hbv
  have hlen : (finalizeLayers fin).layers.length = fin.layers.length + 1 := by
    rw [(finalizeLayers_nonempty fin hne).1, List.length_append, List.length_singleton]
  have hlt : l + 1 < (finalizeLayers fin).layers.length := by
    rcases hl with hl | ⟨h1, h2⟩
    · exact hl
    · rw [finalizeLayers_lel] at h1 h2
      cases hlel : fin.lel with
      | none => rw [hlel, Option.getD_none] at h2; exact absurd h2 (Nat.lt_irrefl _)
      | some k =>
        rw [hlel, Option.getD_some] at h1
        rw [hlen, h1]
        exact Nat.succ_lt_succ (hx.lelLt k hlel)
  obtain ⟨n0, _, _, hn0, _, _, hco⟩ := corr_of_L3 cfg (finalizeLayers fin) e hn
  -- a marked node below the terminal layer is the source of an arc, hence was handed to the expansion
  have hclean : n3.cache = false ∧ n3.deleted = false := by
    rcases CacheClosed.finalize_marked cfg (finalizeLayers fin) e (fun l p n h => (hx.good l p n h).1) l p n3 hn hmk with
      h | ⟨l', p', m, a, hmm, ha, hfl, hfp⟩
    · rw [h] at hlt; exact absurd hlt (Nat.lt_irrefl _)
    · obtain ⟨par, hpar, hc', hd'⟩ := (hx.good l' p' m hmm).2 a ha
      rw [hfl, hfp, hn0] at hpar
      cases hpar
      exact ⟨by rw [hco.cache]; exact hc', by rw [hco.deleted]; exact hd'⟩
  exact ⟨bv, l, p, n3, hbv, hn, hl1, hlt, hmk, hcut, hex, hclean.1, hclean.2, hceq⟩

/-- **the field `fresh`, the consulted cache**, both filters: a sub-problem of the cut-set survived `_filter_with_cache` -/
theorem JFacts.cut_fresh_cache (hx : JFacts cfg cache p0 fin)
    (e : Bool) (c : SubP S) (hc : c ∈ (finalize cfg (finalizeLayers fin) e).1.cutset)
    (huse : cfg.useCache = true) (t : Thr) (ht : cache.get c.state c.depth = some (some t)) : c.value > t.value := by
  obtain ⟨bv, l, p, n3, hbv, hn, hl1, hl, hmk, hcut, hex, hcl, hdl, rfl⟩ := hx.cut_node e c hc
  obtain ⟨n0, n1, n2, hn0, _, _, hco⟩ := corr_of_L3 cfg (finalizeLayers fin) e hn
  simp only [subOf] at ht ⊢
  have hfr : n0.fRelaxed = false := isExact_fRelaxed (by rw [← hco.isExact]; exact hex)
  have hlook : lookup cfg cache n0 = some t := by
    unfold lookup
    rw [if_pos huse, ← hco.state, ← hco.depth, ht]
    rfl
  have := hx.filt l p n0 t hl1 hl hn0 (by rw [← hco.cache]; exact hcl) hfr hlook
  rw [hco.value]; exact this

/-- the threshold of a cut-set node that the cache did not prune and whose bounds both beat the incumbent: its own value -/
theorem ownTheta_cut {bk : Int} {n : Node S} {θp : Option Int} (hc : n.cache = false) (hcut : n.cutset = true)
    (hr : satAdd n.value n.rub > bk) (hv : satAdd n.value n.vbot > bk) : ownTheta bk n θp = some n.value := by
  unfold ownTheta
  rw [hc, hcut, if_neg Bool.false_ne_true, if_neg (Int.not_le.2 hr), if_pos rfl, if_neg (Int.not_le.2 hv)]

/-- **the field `fresh`, the updates of the compilation itself**, both filters: the only threshold recorded for the
    `(state, depth)` of a sub-problem of the cut-set whose bound beats the incumbent is its own value, not explored -/
theorem JFacts.cut_fresh_ups (hx : JFacts cfg cache p0 fin)
    (e : Bool) (c : SubP S) (hc : c ∈ (finalize cfg (finalizeLayers fin) e).1.cutset)
    (hub : c.ub > bkOf cfg.lb (finalize cfg (finalizeLayers fin) e).1.bestExactValue)
    (u : S × Nat × Int × Bool) (hu : u ∈ (finalize cfg (finalizeLayers fin) e).1.cacheUpdates)
    (hs : u.1 = c.state) (hd : u.2.1 = c.depth) : u.2.2.1 = c.value ∧ u.2.2.2 = false := by
  obtain ⟨bv, l, p, n3, hbv, hn, hl1, hl, hmk, hcut, hex, hcl, hdl, rfl⟩ := hx.cut_node e c hc
  obtain ⟨l', p', m3, hm, hmd, hmc, hab, t, hth, rfl⟩ := (finalize_spec cfg p0 _ hx.rel hx.wf e).2 u hu
  simp only [subOf] at hs hd hub ⊢
  obtain ⟨n0, _, _, hn0, _, _, hco⟩ := corr_of_L3 cfg (finalizeLayers fin) e hn
  have hex0 : n0.isExact = true := by rw [← hco.isExact]; exact hex
  obtain ⟨m0, hm0, hmex, ms, mdp, _, _⟩ :=
    above_exact cfg p0 _ e (fLayers1_relaxed cfg _ hx.rel) hx.wf hx.flags0 hm hab
  obtain ⟨_, _, _, hdn⟩ := hx.wf.node l p n0 hn0 hex0
  obtain ⟨_, _, _, hdm⟩ := hx.wf.node l' p' m0 hm0 hmex
  have hdep : n3.depth = n0.depth := hco.depth
  have hll : l' = l := by omega
  subst hll
  have hpp : p' = p := hx.distinct l' p' p m0 n0 hm0 hn0 (isExact_fRelaxed hmex) (isExact_fRelaxed hex0)
    (by rw [← ms, ← hco.state]; exact hs)
  subst hpp
  rw [hn] at hm
  cases hm
  obtain ⟨_, θp, _, _, _, _, hθ⟩ := (finalize_spec cfg p0 _ hx.rel hx.wf e).1 l' p' n3 hn hdl
  obtain ⟨hr, hv⟩ := (fun {a b c k : Int} (h : min (min a b) c > k) => (by omega : a > k ∧ b > k)) hub
  rw [hth, ownTheta_cut hcl hcut hr hv] at hθ
  exact ⟨Option.some.inj hθ, by rw [hcut]; rfl⟩

end

theorem compile_jfacts (cfg : Cfg S K) (B : Int) (p0 : List Dec) (cache : Cache S) (store : DomStore S K) (polls : Nat)
    (hrel : cfg.ctype = .relaxed) (hW : 1 ≤ cfg.width)
    (hB : NoClamp cfg.P cfg.R cfg.root.value B)
    (hroot : Reach cfg.P cfg.root.depth cfg.root.state cfg.root.value p0) :
    JFacts cfg cache p0 (buildLoop cfg none (cfg.P.nbVars + 2) (initDD cfg cache store polls)).1 := by
  have hwf := compile_wf cfg B p0 hB hroot cache store polls none
  have hinv2 := (compile_inv2 cfg B p0 hB hroot cache store polls).2
  have hK := buildLoop_kj cfg cache hrel hW (cfg.P.nbVars + 2) (initDD cfg cache store polls) (init_kj cfg cache store polls)
  exact ⟨hrel, hwf, compile_finv cfg cache store polls, fun k hk => (hinv2.lelSome k hk).1, hK⟩

theorem fresh_contract_joint (cfg : Cfg S K) (B : Int) (p0 : List Dec) (cache : Cache S)
    (store : DomStore S K) (polls : Nat)
    (hrel : cfg.ctype = .relaxed) (huse : cfg.useCache = true) (hW : 1 ≤ cfg.width)
    (hB : NoClamp cfg.P cfg.R cfg.root.value B)
    (hroot : Reach cfg.P cfg.root.depth cfg.root.state cfg.root.value p0)
    (hok : (compile cfg cache store polls none).1 = .ok) (r : Result S)
    (hr : r = (compile cfg cache store polls none).2.1 ∨ (compile cfg cache store polls none).2.2.1 = some r)
    (ups : List (S × Nat × Int × Bool)) (hups : ∀ u ∈ ups, u ∈ r.cacheUpdates) :
    ∀ c ∈ (C01.toOut r).cutset, c.ub > bkOf cfg.lb r.bestExactValue → ¬ prunM ((viewOf cache).upds ups) c := by
  intro c hc hub
  have hx := compile_jfacts cfg B p0 cache store polls hrel hW hB hroot
  obtain ⟨_, e, rfl⟩ := compile_results cfg cache store polls none hok r hr
  generalize (buildLoop cfg none (cfg.P.nbVars + 2) (initDD cfg cache store polls)).1 = fin at hx hc hub hups
  rintro ⟨t, ht, hcond⟩
  rcases upds_get ups (viewOf cache) c.state c.depth t ht with h1 | ⟨u, hu, hus, hud, rfl⟩
  · have hget : cache.get c.state c.depth = some (some t) := by
      unfold viewOf at h1
      cases hg : cache.get c.state c.depth with
      | none => rw [hg] at h1; cases h1
      | some x => rw [hg, Option.getD_some] at h1; rw [h1]
    have := hx.cut_fresh_cache e c hc huse t hget
    omega
  · obtain ⟨h1, h2⟩ := hx.cut_fresh_ups e c hc hub u (hups u hu) hus hud
    dsimp only at hcond
    rw [h2] at hcond
    rcases hcond with h | ⟨_, h⟩
    · omega
    · cases h

end Ddo.C10d

#print axioms Ddo.C10d.buildLoop_kj
#print axioms Ddo.C10d.fresh_contract_joint
