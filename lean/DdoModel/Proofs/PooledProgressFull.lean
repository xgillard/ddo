import DdoModel.Proofs.PooledExact
import DdoModel.Proofs.PooledFull
/-! Cut-set progress (C08 (ii)) without long arcs, for `finalizePOld` (the code before the repair of D5): under `AllImpacted` every arc comes
from the layer just above and the first two layers are exact (`CInv`), so the root is never the parent of an inexact node
(`finalizeP_cutset_progress`).  With long arcs: `Proofs/PooledProgress.lean`; for the repaired code: `Proofs/PooledFix.lean`. -/
set_option linter.unusedSectionVars false
set_option linter.unusedVariables false
namespace Ddo.Pooled
open Ddo
variable {S K : Type} [DecidableEq S] [DecidableEq K]

/-- (relaxed compilations without long arcs) every inbound arc comes from the layer just above; the layers of index
    `≤ 1` and — while at most one layer is materialised — the pool hold exact nodes only -/
structure CInv (cfg : Cfg S K) (pd : PD S K) : Prop where
  arcsL : ∀ (l dp : Nat) (ly : List (Node S)), pd.layers[l]? = some (dp, ly) → ∀ n ∈ ly, ArcOk l n
  arcsP : ∀ n ∈ pd.pool, ArcOk pd.layers.length n
  exL : ∀ (l dp : Nat) (ly : List (Node S)), pd.layers[l]? = some (dp, ly) → l ≤ 1 → ∀ n ∈ ly, n.isExact = true
  exP : pd.layers.length ≤ 1 → ∀ n ∈ pd.pool, n.isExact = true

theorem CInv.congr {cfg : Cfg S K} {pd pd' : PD S K} (h : CInv cfg pd)
    (hl : pd'.layers = pd.layers) (hn : pd'.pool = pd.pool) : CInv cfg pd' := by
  obtain ⟨h1, h2, h3, h4⟩ := h
  exact ⟨hl ▸ h1, hl ▸ hn ▸ h2, hl ▸ h3, hl ▸ hn ▸ h4⟩

theorem stepLayerP_cinv (cfg : Cfg S K) (hall : AllImpacted cfg.P) (hrel : cfg.ctype = .relaxed) (pd pd' : PD S K)
    (var : Nat) (hne : pd.pool ≠ []) (hinv : CInv cfg pd) (h : stepLayerP cfg pd var = some pd') : CInv cfg pd' := by
  obtain ⟨layer, cur, ief, log, hs⟩ := stepLayerP_elim cfg pd pd' var h
  obtain ⟨hrest, hlayers⟩ := hs.mat_of_allImpacted hall hne
  have hcnA : ∀ n ∈ curNodes cfg pd var, ArcOk pd.layers.length n := by
    intro n hn
    obtain ⟨m, hm, _, rfl⟩ := mem_curNodes_iff.1 hn
    exact hinv.arcsP m hm
  have hfdA : ∀ n ∈ (fdOf cfg pd var).1, ArcOk pd.layers.length n := by
    apply filterDom_arcs
    unfold fcOf
    split
    · exact hcnA
    · exact filterCache_arcs _ _ _ _ _ hcnA
  have hlayerA : ∀ n ∈ layer, ArcOk pd.layers.length n := by
    cases hs.sq with
    | restrict hc _ _ _ _ _ => rw [hrel] at hc; cases hc
    | relax _ _ _ _ hl _ _ _ => rw [hl]; exact relaxLayer_arcs _ _ _ _ _ _ hfdA
    | keep _ _ hl _ _ _ => rw [hl]; exact hfdA
  have hlayerE : pd.layers.length ≤ 1 → ∀ n ∈ layer, n.isExact = true := by
    intro hlen n hn
    have hpool := hinv.exP hlen
    cases hs.sq with
    | restrict hc _ _ _ _ _ => rw [hrel] at hc; cases hc
    | relax _ _ h2 _ _ _ _ _ => exact absurd h2 (Nat.not_le.2 (Nat.lt_succ_of_le hlen))
    | keep _ _ hl _ _ _ =>
      rw [hl] at hn
      obtain ⟨n0, h0, he0, _⟩ := fdOf_subS cfg pd var n hn
      rw [← he0]
      obtain ⟨m, hm, _, rfl⟩ := mem_curNodes_iff.1 h0
      exact hpool m hm
  have hrub := expF_rubEq cfg var pd.layers.length layer (restNodes cfg pd var) cur log
  have hkidsA : ∀ c ∈ (expF cfg var pd.layers.length layer (restNodes cfg pd var) cur log).2.1,
      ArcOk (pd.layers.length + 1) c := by
    unfold expF
    refine foldl_inv (β := List (Node S) × List (Node S) × List (Call S))
      (fun acc => ∀ c ∈ acc.2.1, ArcOk (pd.layers.length + 1) c) _ _ _ ?_ ?_
    · rw [hrest]; intro c hc; cases hc
    · intro acc p _ h
      exact expandOne_arcs cfg var pd.layers.length acc p h
  have hkidsE : (∀ n ∈ layer, n.isExact = true) →
      ∀ c ∈ (expF cfg var pd.layers.length layer (restNodes cfg pd var) cur log).2.1, c.isExact = true :=
    fun hl => (expF_allEx cfg var _ layer _ cur log hl (by rw [hrest]; intro c hc; cases hc)).2
  have hpool := hs.pool
  generalize expF cfg var pd.layers.length layer (restNodes cfg pd var) cur log = r at hrub hkidsA hkidsE hlayers hpool
  have hlen' : pd'.layers.length = pd.layers.length + 1 := by
    rw [hlayers, List.length_append, List.length_singleton]
  have hnew : ∀ n ∈ r.1, ∃ n0 ∈ layer, n0.inb = n.inb ∧ n0.isExact = n.isExact ∧ CoreEq n0 n := fun n hn => hrub.mem hn
  have hcases : ∀ (l dp : Nat) (ly : List (Node S)), pd'.layers[l]? = some (dp, ly) →
      pd.layers[l]? = some (dp, ly) ∨ (l = pd.layers.length ∧ ly = r.1) := by
    intro l dp ly hl
    rw [hlayers] at hl
    rcases getElem?_append_singleton_cases hl with hl | ⟨h1, hl⟩
    · exact .inl hl
    · exact .inr ⟨h1, (Prod.mk.inj hl).2⟩
  refine ⟨?_, ?_, ?_, ?_⟩
  · intro l dp ly hl n hn
    rcases hcases l dp ly hl with h1 | ⟨h1, h2⟩
    · exact hinv.arcsL l dp ly h1 n hn
    · subst h2
      obtain ⟨n0, h0, hinb, _⟩ := hnew n hn
      intro e he
      rw [h1]
      exact hlayerA n0 h0 e (hinb ▸ he)
  · intro c hc
    rw [hpool] at hc
    rw [hlen']
    exact hkidsA c hc
  · intro l dp ly hl hl1 n hn
    rcases hcases l dp ly hl with h1 | ⟨h1, h2⟩
    · exact hinv.exL l dp ly h1 hl1 n hn
    · subst h2
      obtain ⟨n0, h0, _, hex, _⟩ := hnew n hn
      rw [← hex]
      exact hlayerE (h1 ▸ hl1) n0 h0
  · intro hl1 c hc
    rw [hpool] at hc
    exact hkidsE (hlayerE (Nat.le_of_succ_le (Nat.le_trans (Nat.le_of_eq hlen'.symm) hl1))) c hc

theorem buildLoopP_cinv (cfg : Cfg S K) (hall : AllImpacted cfg.P) (hrel : cfg.ctype = .relaxed) (stopAt : Option Nat) :
    ∀ (fuel : Nat) (pd : PD S K), CInv cfg pd → CInv cfg (buildLoopP cfg stopAt fuel pd).1 :=
  buildLoopP_ind cfg stopAt (CInv cfg) (fun pd h => ⟨h.congr rfl rfl, h.congr rfl rfl⟩)
    (fun pd pd' var _ hne h hst => stepLayerP_cinv cfg hall hrel pd pd' var hne h hst)

theorem initPD_cinv (cfg : Cfg S K) (cache : Cache S) (store : DomStore S K) (polls : Nat) :
    CInv cfg (initPD cfg cache store polls) := by
  refine ⟨fun l dp ly hl => ?_, fun n hn e he => ?_, fun l dp ly hl => ?_, fun _ n hn => ?_⟩
  · simp only [initPD, List.getElem?_nil] at hl; cases hl
  · simp only [initPD, List.mem_singleton] at hn; subst hn; cases he
  · simp only [initPD, List.getElem?_nil] at hl; cases hl
  · simp only [initPD, List.mem_singleton] at hn; subst hn; rfl

/-- **C08 (ii) for `finalizePOld` without long arcs**, any `hasEBP` bit -/
theorem finalizeP_cutset_progress (cfg : Cfg S K) (B : Int) (p0 : List Dec) (pd : PD S K) (k kf : Nat) (e : Bool)
    (hinv : MInvP cfg B p0 pd k) (hc : CInv cfg pd) (hf : FullInv cfg pd kf) (c : SubP S)
    (hmem : c ∈ (finalizePOld cfg pd e).cutset) : cfg.root.depth < c.depth := by
  obtain ⟨lp, n, hlp, hn, _, _, hd, _⟩ := finalizeP_cutset_mem cfg pd e c hmem
  obtain ⟨n0, hn0, hex, l', p', m, a, hm, hmex, ha, hal, _⟩ := computeCutset_frontier 0 _ lp hlp
  have hx := layers3P_xEq cfg pd e
  obtain ⟨n0', hn0', hsn⟩ := hx.getNode_some hn
  rw [hn0] at hn0'
  cases hn0'
  have e4 : n0.depth = n.depth := by have := congrArg Node.depth hsn; simpa only [stripB] using this
  have hkf : pd.layers.length = kf := by
    have := congrArg List.length hf.depths
    simpa only [List.length_map, List.length_range'] using this
  have hk : k = kf := Nat.add_left_cancel (hinv.depth.symm.trans hf.depth)
  -- the inexact child lives in a layer of index ≥ 2, hence its parent in a layer of index ≥ 1
  have hpos : 1 ≤ lp.1 := by
    rcases getNode_layers0 pd hm with ⟨dp, ly, hl, hmem', _⟩ | ⟨hl, m0, hm0, rfl⟩
    · have h1 := hc.arcsL l' dp ly hl m hmem' a ha
      rcases Nat.lt_or_ge 1 l' with h2 | h2
      · rw [← hal]; exact Nat.le_of_lt_succ (Nat.lt_of_lt_of_eq h2 h1.symm)
      · have := hc.exL l' dp ly hl h2 m hmem'; rw [hmex] at this; cases this
    · have h1 := hc.arcsP m0 hm0 a ha
      rcases Nat.lt_or_ge 1 pd.layers.length with h2 | h2
      · rw [← hal]; exact Nat.le_of_lt_succ (Nat.lt_of_lt_of_eq h2 h1.symm)
      · have := hc.exP h2 m0 hm0
        have hmex' : m0.isExact = false := hmex
        rw [hmex'] at this; cases this
  rw [hd, ← e4]
  rcases getNode_layers0 pd hn0 with ⟨dp, ly, hl, hmem', _⟩ | ⟨hl, m0, hm0, rfl⟩
  · obtain ⟨k', _, hdp, hok⟩ := hinv.layers lp.1 dp ly hl
    rw [(hok n0 hmem').2 hex]
    -- `dp` is the `lp.1`-th entry of the consecutive depths
    have h1 : (pd.layers.map (·.1))[lp.1]? = some dp := by rw [List.getElem?_map, hl]; rfl
    rw [hf.depths] at h1
    have hlt := Cover.lt_of_getElem?_some h1
    rw [List.length_range'] at hlt
    rw [List.getElem?_range' hlt] at h1
    simp only [Option.some.injEq] at h1
    rw [← h1, Nat.one_mul]
    exact Nat.lt_add_of_pos_right hpos
  · dsimp only
    rw [hinv.depth]
    exact Nat.lt_add_of_pos_right (by rw [hk, ← hkf, ← hl]; exact hpos)

end Ddo.Pooled
