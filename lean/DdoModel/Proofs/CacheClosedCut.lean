import DdoModel.Proofs.ThetaCover
/-! C09 (closing the caching solver) — the cut-set of a relaxed compilation that consults a cache, on `finalize`.

`KFacts`: four more facts about the *built* diagram (proved in `CacheClosedArcs.lean` / `CacheClosedDistinct.lean`): nothing is
marked, every inbound arc comes from a node that was handed to the expansion (not pruned by the cache, not deleted), the
nodes of a layer that are neither deleted nor pruned have pairwise distinct states, and an un-merged node of an inner layer
that survived `_filter_with_cache` is strictly above the cached threshold.

From them, for a node `c` handed out by `drain_cutset` (`Ctx.cut_node`): it sits at a position of the cut-set, strictly
between the root layer and the terminal layer, is exact, flagged `cutset`, marked, **not pruned by the cache, not
deleted** (`Ctx.marked_clean`: a marked node below the terminal layer is the source of an arc — `finalize_marked` — hence
was expanded).  Then the fields `ub`, `fresh` (its cache-only reading, from `KFacts.distinct` / `KFacts.filt`; `fresh_contract_of_model`
itself is the instance of `fresh_contract_joint`, `Proofs/FreshJoint.lean`, and does not use it) and `exactCut` of the contract
`CompC`, on `finalize`. -/
set_option linter.unusedSectionVars false
set_option linter.unusedVariables false
namespace Ddo.CacheClosed
open Ddo Ddo.Bounds Ddo.Theta
variable {S K : Type} [DecidableEq S] [DecidableEq K]

/-- facts about the layers of a diagram built with a cache: `unmarked`, `arcsLive` are read by `Ctx.cut_ub` (field `ub` of the caching
    contract); `distinct`, `filt` by `Ctx.cut_fresh_cache` / `Ctx.cut_fresh_ups` only -/
structure KFacts (cfg : Cfg S K) (cache : Cache S) (LS : List (List (Node S))) : Prop where
  unmarked : ∀ (l p : Nat) (n : Node S), getNode LS l p = some n → n.marked = false
  arcsLive : ∀ (l p : Nat) (n : Node S) (a : Arc), getNode LS l p = some n → a ∈ n.inb →
    ∃ par, getNode LS a.fromL a.fromP = some par ∧ par.cache = false ∧ par.deleted = false
  distinct : ∀ (l p q : Nat) (n m : Node S), getNode LS l p = some n → getNode LS l q = some m →
    n.cache = false → n.deleted = false → m.cache = false → m.deleted = false → n.state = m.state → p = q
  filt : ∀ (l p : Nat) (n : Node S) (t : Thr), 1 ≤ l → l + 1 < LS.length → getNode LS l p = some n →
    n.cache = false → n.deleted = false → n.fRelaxed = false → lookup cfg cache n = some t → n.value > t.value

end Ddo.CacheClosed

namespace Ddo.Theta
open Ddo Ddo.Bounds Ddo.CacheClosed
variable {S K : Type} [DecidableEq S] [DecidableEq K]

section
variable {cfg : Cfg S K} {H : Nat → S → EInt} {B : Int} {cache : Cache S} {p0 : List Dec} {fin : DD S K}
  {Live : Nat → Nat → Prop} {dd : DD S K}

theorem Ctx.lenLS (hx : Ctx cfg H B cache p0 fin Live dd) (hne : dd.next ≠ []) :
    (finalizeLayers fin).layers.length = dd.layers.length + 1 := hx.bo.lenT hne

/-- the two facts of `KFacts` that the reading of the cut-set uses, in the form of `ThetaCtxCover.lean` -/
theorem Ctx.kfactsJ (hx : Ctx cfg H B cache p0 fin Live dd) (hk : KFacts cfg cache (finalizeLayers fin).layers) :
    C10d.KFactsJ fin Live where
  unmarked := hk.unmarked
  arcsLive := fun l p n a hn ha => by
    obtain ⟨par, hpar, hc, hd⟩ := hk.arcsLive l p n a hn ha
    rcases hx.bo.at_ _ _ par hpar with ⟨ly, hly, hp⟩ | ⟨hl, _⟩
    · exact (hx.bo.inv.clsL _ _ ly par hly hp).alive hc hd
    · -- the source of an arc is not in the terminal layer
      exfalso
      have harc : a.fromL + 1 = l := by
        rcases hx.bo.at_ l p n hn with ⟨ly, hly, hp⟩ | ⟨hl', hp⟩
        · exact ((hx.bo.inv.baseL l ly hly n (List.mem_of_getElem? hp)).arcs a ha).1
        · exact hl' ▸ ((hx.bo.inv.baseN n (List.mem_of_getElem? hp)).1.arcs a ha).1
      have hle := hx.bo.lenB
      have hlt := Ddo.getNode_lt hn
      omega

theorem Ctx.marked_clean (hx : Ctx cfg H B cache p0 fin Live dd) (hk : KFacts cfg cache (finalizeLayers fin).layers)
    (e : Bool) (hne : dd.next ≠ []) (l p : Nat) (n3 : Node S)
    (hn : getNode (finalize cfg (finalizeLayers fin) e).2 l p = some n3) (hm : n3.marked = true)
    (hl : l < dd.layers.length) : n3.cache = false ∧ n3.deleted = false :=
  have h := (hx.toG 0).marked_clean (hx.kfactsJ hk) e hne l p n3 hn hm hl
  ⟨h.1, h.2.1⟩

theorem maxValue_nil_none : maxValue ([] : List (Node S)) = none := rfl

theorem Ctx.cut_node (hx : Ctx cfg H B cache p0 fin Live dd) (hk : KFacts cfg cache (finalizeLayers fin).layers)
    (e : Bool) (c : SubP S) (hc : c ∈ (finalize cfg (finalizeLayers fin) e).1.cutset) :
    ∃ (bv : Int) (l p : Nat) (n3 : Node S), (finalizeLayers fin).bestValue = some bv ∧ dd.next ≠ [] ∧
      getNode (finalize cfg (finalizeLayers fin) e).2 l p = some n3 ∧ 1 ≤ l ∧ l < dd.layers.length ∧
      n3.marked = true ∧ n3.cutset = true ∧ n3.isExact = true ∧ n3.cache = false ∧ n3.deleted = false ∧
      c = subOf cfg (finalize cfg (finalizeLayers fin) e).2 bv n3 :=
  have ⟨bv, l, p, n3, a1, a2, a3, a4, a5, a6, a7, a8, a9, a10, _, a12⟩ := (hx.toG 0).cut_node (hx.kfactsJ hk) e c hc
  ⟨bv, l, p, n3, a1, a2, a3, a4, a5, a6, a7, a8, a9, a10, a12⟩

/-- **the field `ub` of the contract, on `finalize`**: the bound of a sub-problem of the cut-set dominates its potential
    when that potential beats `lb`, unless the cache cut the diagram strictly below it -/
theorem Ctx.cut_ub (hx : Ctx cfg H B cache p0 fin Live dd) (hk : KFacts cfg cache (finalizeLayers fin).layers)
    (hR : RubOk cfg.R H) (hlb : cfg.lb < iMax)
    (M : Int) (hM0 : 0 ≤ M) (hMs : M + Cover.Bd B (cfg.P.nbVars + 1) ≤ big) (e : Bool)
    (c : SubP S) (hc : c ∈ (finalize cfg (finalizeLayers fin) e).1.cutset)
    (y : Int) (hy : (H c.depth c.state).addI c.value = some y) (hgt : y > cfg.lb) :
    y ≤ c.ub ∨ CacheAlt cfg H B M cache c.depth y :=
  (hx.toG _).cut_ub (hx.kfactsJ hk) hR hlb M hM0 hMs e c hc (Int.le_refl _) (Int.le_refl _) (fun _ _ _ _ => False.elim)
    y hy hgt

/-- **the field `fresh`, the consulted cache**: a sub-problem of the cut-set survived `_filter_with_cache` -/
theorem Ctx.cut_fresh_cache (hx : Ctx cfg H B cache p0 fin Live dd) (hk : KFacts cfg cache (finalizeLayers fin).layers)
    (e : Bool) (c : SubP S) (hc : c ∈ (finalize cfg (finalizeLayers fin) e).1.cutset)
    (huse : cfg.useCache = true) (t : Thr) (ht : cache.get c.state c.depth = some (some t)) : c.value > t.value := by
  obtain ⟨bv, l, p, n3, hbv, hne, hn, hl1, hl, hmk, hcut, hex, hcl, hdl, rfl⟩ := hx.cut_node hk e c hc
  obtain ⟨n0, n1, n2, hn0, _, _, hco⟩ := corr_of_L3 cfg (finalizeLayers fin) e hn
  simp only [subOf] at ht ⊢
  have hlen := hx.lenLS hne
  have hfr : n0.fRelaxed = false := by
    have : n0.isExact = true := by rw [← hco.isExact]; exact hex
    unfold Node.isExact at this
    cases h : n0.fRelaxed with
    | false => rfl
    | true => rw [h] at this; simp at this
  have hlook : lookup cfg cache n0 = some t := by
    unfold lookup
    rw [if_pos huse, ← hco.state, ← hco.depth, ht]
    rfl
  have := hk.filt l p n0 t hl1 (by omega) hn0 (by rw [← hco.cache]; exact hcl) (by rw [← hco.deleted]; exact hdl) hfr hlook
  rw [hco.value]; exact this

theorem satAdd_gt_of_min {a b c bk : Int} (h : min (min a b) c > bk) : a > bk ∧ b > bk := by omega

/-- **the field `fresh`, the updates of the compilation itself**: the only threshold recorded for the `(state, depth)` of a
    sub-problem of the cut-set whose bound beats the incumbent is its own value, not explored -/
theorem Ctx.cut_fresh_ups (hx : Ctx cfg H B cache p0 fin Live dd) (hk : KFacts cfg cache (finalizeLayers fin).layers)
    (e : Bool) (c : SubP S) (hc : c ∈ (finalize cfg (finalizeLayers fin) e).1.cutset)
    (hub : c.ub > bkOf cfg.lb (finalize cfg (finalizeLayers fin) e).1.bestExactValue)
    (u : S × Nat × Int × Bool) (hu : u ∈ (finalize cfg (finalizeLayers fin) e).1.cacheUpdates)
    (hs : u.1 = c.state) (hd : u.2.1 = c.depth) : u.2.2.1 = c.value ∧ u.2.2.2 = false := by
  obtain ⟨bv, l, p, n3, hbv, hne, hn, hl1, hl, hmk, hcut, hex, hcl, hdl, rfl⟩ := hx.cut_node hk e c hc
  obtain ⟨l', p', m3, hm, hmd, hmc, _, t, hth, rfl⟩ := (hx.spec e).2 u hu
  simp only [subOf] at hs hd hub ⊢
  have hdep := hx.depth e l p n3 hn
  have hdep' := hx.depth e l' p' m3 hm
  have hll : l' = l := by omega
  subst hll
  obtain ⟨n0, _, _, hn0, _, _, hco⟩ := corr_of_L3 cfg (finalizeLayers fin) e hn
  obtain ⟨m0, _, _, hm0, _, _, hcm⟩ := corr_of_L3 cfg (finalizeLayers fin) e hm
  have hpp : p' = p := hk.distinct l' p' p m0 n0 hm0 hn0 (by rw [← hcm.cache]; exact hmc) (by rw [← hcm.deleted]; exact hmd)
    (by rw [← hco.cache]; exact hcl) (by rw [← hco.deleted]; exact hdl) (by rw [← hcm.state, ← hco.state]; exact hs)
  subst hpp
  rw [hn] at hm
  cases hm
  obtain ⟨θp, hθ, _, _⟩ := hx.thetaF e l' p' n3 hn hdl
  obtain ⟨hr, hv⟩ := satAdd_gt_of_min hub
  rw [ownTheta_cut hcl (Int.not_le.mpr hr) hcut, if_neg (Int.not_le.mpr hv), hth] at hθ
  exact ⟨Option.some.inj hθ, by rw [hcut]; rfl⟩

/-- **the field `exactCut`**: the cut-set of a diagram that claims exactness holds nothing that beats the incumbent -/
theorem Ctx.cut_exact_le (hx : Ctx cfg H B cache p0 fin Live dd) (e : Bool)
    (hex : (finalize cfg (finalizeLayers fin) e).1.isExact = true)
    (c : SubP S) (hc : c ∈ (finalize cfg (finalizeLayers fin) e).1.cutset) :
    c.ub ≤ bkOf cfg.lb (finalize cfg (finalizeLayers fin) e).1.bestExactValue := by
  obtain ⟨bv, lp, n3, hbv, hlp, hn, hmk, rfl⟩ := (finalize_cutset_iff cfg _ e c).1 hc
  have hex' : ((finalizeLayers fin).isExactField || e) = true := hex
  cases he : e with
  | true =>
    rw [finalize_bestExactValue]
    simp only [if_true, hbv, bkOf, subOf]
    omega
  | false =>
    exfalso
    rw [he, Bool.or_false, finalizeLayers_isExactField] at hex'
    have hnone : fin.lel = none := by
      cases hl : fin.lel with
      | none => rfl
      | some k => rw [hl] at hex'; cases hex'
    have hlel : (finalizeLayers fin).lel = (finalizeLayers fin).layers.length := by
      rw [finalizeLayers_lel, hnone]; rfl
    have := fCs_sub cfg _ _ hlp
    rw [hx.wf.cutset_nil (by rw [hlel]; exact Nat.le_refl _)] at this
    exact absurd this List.not_mem_nil

/-- a recorded threshold belongs to an exact node: its `(state, depth)` is reached exactly -/
theorem Ctx.ups_reach (hx : Ctx cfg H B cache p0 fin Live dd) (e : Bool)
    (u : S × Nat × Int × Bool) (hu : u ∈ (finalize cfg (finalizeLayers fin) e).1.cacheUpdates) :
    ∃ (v : Int) (q : List Dec), Reach cfg.P u.2.1 u.1 v (p0 ++ q) := by
  obtain ⟨l, p, n3, hn, _, _, hab, t, _, rfl⟩ := (hx.spec e).2 u hu
  obtain ⟨n0, n1, n2, hn0, hn1, _, hco⟩ := corr_of_L3 cfg (finalizeLayers fin) e hn
  rw [hco.above] at hab
  rw [fLayers1_relaxed cfg _ hx.hy.rel] at hn1
  have hex : n0.isExact = true := by
    cases hkd : cfg.kind with
    | lel =>
      rw [hkd] at hn1
      exact hx.wf.exactUpTo l p n0 hn0 ((computeCutset_lel_flags _ _ hx.flags0 l p n1 hn1).1.mp hab)
    | frontier =>
      rw [hkd] at hn1
      rw [← hco.isExact1]
      exact ((computeCutset_frontier_flags (finalizeLayers fin).lel _ hx.flags0).1 l p n1 hn1).1.mp hab
  obtain ⟨q, _, hr, _⟩ := hx.wf.node l p n0 hn0 hex
  exact ⟨n0.value, q, by dsimp only; rw [hco.state, hco.depth]; exact hr⟩

end
end Ddo.Theta

#print axioms Ddo.Theta.Ctx.marked_clean
#print axioms Ddo.Theta.Ctx.cut_node
#print axioms Ddo.Theta.Ctx.cut_ub
#print axioms Ddo.Theta.Ctx.cut_fresh_cache
#print axioms Ddo.Theta.Ctx.cut_fresh_ups
#print axioms Ddo.Theta.Ctx.cut_exact_le
#print axioms Ddo.Theta.Ctx.ups_reach
