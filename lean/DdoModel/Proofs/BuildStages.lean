import DdoModel.Proofs.MddCover
import DdoModel.Proofs.MddExact
/-! The stages of one layer step, as the invariants that follow a potential through the top-down build read them (`Theta.TInv`, `C10d.TInvJ`
of `Proofs/BuildInv.lean`, `C10.DInv`, the pooled `BInvP`), none of them mentioned here: the child of an expansion receives the **arc** and
the expanded layer changes in `rub` only; `_relax` position by position (which positions are touched, which nodes end up deleted, which fields
are kept) and for a predicate closed under its elementary updates; `_filter_with_cache` position by position, with one description `FcDesc`
for the filter and for its absence on the first layer. -/
set_option linter.unusedSectionVars false
set_option linter.unusedVariables false
namespace Ddo.Bounds
open Ddo
variable {S K : Type} [DecidableEq S] [DecidableEq K]

/-- a node with state `st`, value ≥ `x`, holding the inbound arc `a` -/
def HasA (nx : List (Node S)) (st : S) (x : Int) (a : Arc) : Prop :=
  ∃ m ∈ nx, m.state = st ∧ x ≤ m.value ∧ a ∈ m.inb

theorem fold_hasA_mono (cfg : Cfg S K) (var lidx : Nat) (cur : List Nat) (acc : List (Node S) × List (Node S) × List (Call S))
    (st : S) (x : Int) (a0 : Arc) (hh : HasA acc.2.1 st x a0) : HasA (cur.foldl (expandOne cfg var lidx) acc).2.1 st x a0 :=
  Cover.fold_hasQ_mono (fun m => a0 ∈ m.inb)
    (fun _ _ _ h => by rw [Cover.appendEdge_inb]; exact List.mem_cons_of_mem _ h) cfg var lidx cur acc st x hh

theorem fold_hasA_new (cfg : Cfg S K) (var lidx : Nat) (cur : List Nat) (acc : List (Node S) × List (Node S) × List (Call S))
    (q : Nat) (hq : q ∈ cur) (s : S) (v : Int) (hk : (acc.1.map Cover.key)[q]? = some (s, v))
    (hrub : satAdd (cfg.R.rub s) v > cfg.lb) (d : Int) (hd : d ∈ cfg.P.domain var s) :
    HasA (cur.foldl (expandOne cfg var lidx) acc).2.1 (cfg.P.trans s ⟨var, d⟩)
      (satAdd v (cfg.P.cost s (cfg.P.trans s ⟨var, d⟩) ⟨var, d⟩))
      ⟨lidx, q, ⟨var, d⟩, cfg.P.cost s (cfg.P.trans s ⟨var, d⟩) ⟨var, d⟩⟩ :=
  Cover.fold_hasQ_new _ (fun _ _ _ h => by rw [Cover.appendEdge_inb]; exact List.mem_cons_of_mem _ h)
    cfg var lidx cur acc q hq s v hk hrub d hd
    (fun par hp m => by rw [Cover.appendEdge_inb, Cover.arcOf, hp]; exact List.mem_cons_self)


theorem appendEdge_cutset (p c : Node S) (a : Arc) : (appendEdge p c a).cutset = c.cutset := by
  unfold appendEdge; dsimp only; split <;> rfl

theorem fold_child_cutset (cfg : Cfg S K) (var lidx : Nat) (cur : List Nat)
    (acc : List (Node S) × List (Node S) × List (Call S)) (hall : ∀ m ∈ acc.2.1, m.cutset = false) :
    ∀ m ∈ (cur.foldl (expandOne cfg var lidx) acc).2.1, m.cutset = false := by
  refine fold_children (fun m => m.cutset = false) cfg var lidx cur acc hall ?_ ?_
  · intro q _ par d n hn; rw [appendEdge_cutset]; exact hn
  · intro q _ par d; rw [appendEdge_cutset]; rfl

theorem expandOne_rubEq (cfg : Cfg S K) (var lidx : Nat) (acc : List (Node S) × List (Node S) × List (Call S)) (p : Nat)
    (ly0 : List (Node S)) (h : RubEq acc.1 ly0) : RubEq (expandOne cfg var lidx acc p).1 ly0 := by
  obtain ⟨ly, nx, lg⟩ := acc
  cases hp : ly[p]? with
  | none => rw [Cover.expandOne_none _ _ _ _ _ _ _ hp]; exact h
  | some n =>
    rw [Cover.expandOne_some _ _ _ _ _ _ _ n hp]
    split <;> exact h.set hp rfl

theorem fold_rubEq (cfg : Cfg S K) (var lidx : Nat) (cur : List Nat)
    (acc : List (Node S) × List (Node S) × List (Call S)) :
    RubEq (cur.foldl (expandOne cfg var lidx) acc).1 acc.1 :=
  Ddo.foldl_inv (fun b => RubEq b.1 acc.1) _ cur acc (RubEq.refl _)
    (fun b q _ hb => expandOne_rubEq cfg var lidx b q acc.1 hb)

/-- the rough upper bound has been recorded in the node at position `q` -/
def RubSet (cfg : Cfg S K) (ly : List (Node S)) (q : Nat) : Prop :=
  ∀ n, ly[q]? = some n → n.rub = cfg.R.rub n.state

theorem expandOne_rubSet_mono (cfg : Cfg S K) (var lidx : Nat) (acc : List (Node S) × List (Node S) × List (Call S))
    (p q : Nat) (h : RubSet cfg acc.1 q) : RubSet cfg (expandOne cfg var lidx acc p).1 q := by
  obtain ⟨ly, nx, lg⟩ := acc
  cases hp : ly[p]? with
  | none => rw [Cover.expandOne_none _ _ _ _ _ _ _ hp]; exact h
  | some n =>
    have key : RubSet cfg (ly.set p { n with rub := cfg.R.rub n.state }) q := by
      intro m hm
      rw [List.getElem?_set] at hm
      split at hm
      · split at hm
        · cases hm; rfl
        · cases hm
      · exact h m hm
    rw [Cover.expandOne_some _ _ _ _ _ _ _ n hp]
    split <;> exact key

theorem expandOne_rubSet_new (cfg : Cfg S K) (var lidx : Nat) (acc : List (Node S) × List (Node S) × List (Call S))
    (p : Nat) : RubSet cfg (expandOne cfg var lidx acc p).1 p := by
  obtain ⟨ly, nx, lg⟩ := acc
  cases hp : ly[p]? with
  | none => rw [Cover.expandOne_none _ _ _ _ _ _ _ hp]; intro m hm; dsimp only at hm; rw [hp] at hm; cases hm
  | some n =>
    have key : RubSet cfg (ly.set p { n with rub := cfg.R.rub n.state }) p := by
      intro m hm
      rw [List.getElem?_set] at hm
      simp only [if_true] at hm
      split at hm
      · cases hm; rfl
      · cases hm
    rw [Cover.expandOne_some _ _ _ _ _ _ _ n hp]
    split <;> exact key

theorem fold_rubSet (cfg : Cfg S K) (var lidx : Nat) (cur : List Nat)
    (acc : List (Node S) × List (Node S) × List (Call S)) (q : Nat) (hq : q ∈ cur ∨ RubSet cfg acc.1 q) :
    RubSet cfg (cur.foldl (expandOne cfg var lidx) acc).1 q := by
  induction cur generalizing acc with
  | nil =>
    rcases hq with hq | hq
    · cases hq
    · exact hq
  | cons y ys ih =>
    rw [List.foldl_cons]
    apply ih
    rcases hq with hq | hq
    · rcases List.mem_cons.mp hq with rfl | hq
      · exact .inr (expandOne_rubSet_new cfg var lidx acc q)
      · exact .inl hq
    · exact .inr (expandOne_rubSet_mono cfg var lidx acc y q hq)


theorem forall_set {Q : Node S → Prop} {ly : List (Node S)} (h : ∀ n ∈ ly, Q n) (p : Nat) {n' : Node S} (hn' : Q n') :
    ∀ n ∈ ly.set p n', Q n :=
  Cover.forall_set h p hn'

theorem dropStep_forall (Q : Node S → Prop) (cfg : Cfg S K) (layers : List (List (Node S))) (merged : S) (mpos : Nat)
    (acc : List (Node S) × List (Call S)) (p : Nat)
    (hdel : ∀ n, Q n → Q { n with deleted := true })
    (happ : ∀ dropN, Q dropN → ∀ e ∈ dropN.inb, ∀ src m, Q m →
      Q (appendEdge src m ⟨e.fromL, e.fromP, e.dec, cfg.R.relax src.state dropN.state merged e.dec e.cost⟩))
    (h : ∀ n ∈ acc.1, Q n) : ∀ n ∈ (Cover.dropStep cfg layers merged mpos acc p).1, Q n :=
  (Cover.dropStep_allM Q Q cfg layers merged mpos acc p (fun _ h => h) hdel hdel (fun d hd e he src m _ => happ d hd e he src m)
    ⟨h, fun m hm => h m (List.mem_of_getElem? hm)⟩).1

theorem relaxLayer_forall (Q : Node S → Prop) (cfg : Cfg S K) (layers : List (List (Node S))) (layer : List (Node S))
    (cur : List Nat) (log : List (Call S))
    (hfresh : ∀ d0, Q (Cover.freshMerged (Cover.mergedOf cfg layer cur) d0))
    (hrel : ∀ n, Q n → Q { n with fRelaxed := true })
    (hdel : ∀ n b, Q n → Q { n with deleted := b })
    (happ : ∀ dropN, Q dropN → ∀ e ∈ dropN.inb, ∀ src m, Q m →
      Q (appendEdge src m ⟨e.fromL, e.fromP, e.dec,
        cfg.R.relax src.state dropN.state (Cover.mergedOf cfg layer cur) e.dec e.cost⟩))
    (h : ∀ n ∈ layer, Q n) : ∀ n ∈ (relaxLayer cfg layers layer cur log).1, Q n :=
  Cover.relaxLayer_forall Q Q cfg layers layer cur log (fun _ h => h) (hfresh _) hrel hdel (fun n hn => hdel n true hn)
    (fun d hd e he src m _ => happ d hd e he src m) h


theorem getNode_of {layers : List (List (Node S))} {l p : Nat} {ly : List (Node S)} {n : Node S}
    (hl : layers[l]? = some ly) (hp : ly[p]? = some n) : getNode layers l p = some n := by
  unfold getNode; rw [hl]; exact hp

end Ddo.Bounds

namespace Ddo.CacheClosed
open Ddo Ddo.Truth
variable {S K : Type} [DecidableEq S] [DecidableEq K]

theorem buildLoop_none (cfg : Cfg S K) (stopAt : Option Nat) (fuel : Nat) (dd : DD S K)
    (h : cfg.P.nextVar dd.depth (dd.next.map (·.state)) = none) :
    buildLoop cfg stopAt (fuel + 1) dd =
      ({ dd with log := Call.nextVar dd.depth (dd.next.map (·.state)) none :: dd.log }, .ok) :=
  buildLoop_none_eq cfg stopAt fuel dd h

/-- the cutoff test of the loop, on the poll counter -/
def stopTest (stopAt : Option Nat) (polls : Nat) : Bool :=
  match stopAt with
  | some k => decide (polls ≥ k)
  | none => false

theorem buildLoop_some (cfg : Cfg S K) (stopAt : Option Nat) (fuel : Nat) (dd : DD S K) (var : Nat)
    (h : cfg.P.nextVar dd.depth (dd.next.map (·.state)) = some var) :
    buildLoop cfg stopAt (fuel + 1) dd =
      if stopTest stopAt (tick dd var).polls = true then (tick dd var, .cutoff)
      else
        match stepLayer cfg (tick dd var) var with
        | (none, _) => (tick dd var, .crash)
        | (some dd', .cutoff) => (dd', .ok)
        | (some dd', .crash) => (dd', .crash)
        | (some dd', .ok) => buildLoop cfg stopAt fuel dd' :=
  buildLoop_some_eq cfg stopAt fuel dd var h

end Ddo.CacheClosed

namespace Ddo.Theta
open Ddo Ddo.Bounds
variable {S K : Type} [DecidableEq S] [DecidableEq K]

theorem getElem?_map_some {α β : Type} {f : α → β} {l : List α} {q : Nat} {b : β} (h : (l.map f)[q]? = some b) :
    ∃ a, l[q]? = some a ∧ b = f a := by
  rw [List.getElem?_map] at h
  obtain ⟨a, ha, e⟩ := Option.map_eq_some_iff.mp h
  exact ⟨a, ha, e.symm⟩

/-- the threshold the cache holds for the node (`none` with `EmptyCache`) -/
def lookup (cfg : Cfg S K) (cache : Cache S) (n : Node S) : Option Thr :=
  if cfg.useCache then (cache.get n.state n.depth).getD none else none

/-- the node as `_filter_with_cache` leaves it -/
def fcNode (cfg : Cfg S K) (cache : Cache S) (n : Node S) : Node S :=
  match lookup cfg cache n with
  | some t => if n.value > t.value then n else { n with cache := true, theta := some t.value }
  | none => n

/-- the node survives `_filter_with_cache` -/
def fcKeep (cfg : Cfg S K) (cache : Cache S) (n : Node S) : Bool :=
  match lookup cfg cache n with
  | some t => decide (n.value > t.value)
  | none => true

def fcStep (cfg : Cfg S K) (cache : Cache S) (acc : List (Node S) × List Nat) (p : Nat) : List (Node S) × List Nat :=
  match acc.1[p]? with
  | none => acc
  | some n => (acc.1.set p (fcNode cfg cache n), if fcKeep cfg cache n then acc.2 ++ [p] else acc.2)

theorem filterCache_eq (cfg : Cfg S K) (cache : Cache S) (layer : List (Node S)) (cur : List Nat) :
    filterCache cfg cache layer cur = cur.foldl (fcStep cfg cache) (layer, []) := by
  unfold filterCache
  congr 1
  funext acc p
  obtain ⟨ly, keep⟩ := acc
  unfold fcStep fcNode fcKeep lookup
  dsimp only
  cases hp : ly[p]? with
  | none => rfl
  | some n =>
    dsimp only
    cases ht : (if cfg.useCache = true then (cache.get n.state n.depth).getD none else none) with
    | none =>
      dsimp only
      rw [Cover.set_same _ _ _ hp]
      rfl
    | some t =>
      dsimp only
      by_cases hv : n.value > t.value
      · simp only [hv, if_true, decide_true]
        rw [Cover.set_same _ _ _ hp]
      · simp only [hv, if_false, decide_false]
        rfl

theorem fcStep_spec (cfg : Cfg S K) (cache : Cache S) (layer : List (Node S)) :
    ∀ (xs : List Nat) (acc : List (Node S) × List Nat), xs.Nodup → (∀ p ∈ xs, acc.1[p]? = layer[p]?) →
      (xs.foldl (fcStep cfg cache) acc).1.length = acc.1.length ∧
      (∀ p, p ∉ xs → (xs.foldl (fcStep cfg cache) acc).1[p]? = acc.1[p]?) ∧
      (∀ p ∈ xs, (xs.foldl (fcStep cfg cache) acc).1[p]? = (layer[p]?).map (fcNode cfg cache)) ∧
      (∀ p, p ∈ (xs.foldl (fcStep cfg cache) acc).2 ↔
        (p ∈ acc.2 ∨ (p ∈ xs ∧ ∃ n, layer[p]? = some n ∧ fcKeep cfg cache n = true))) := by
  intro xs
  induction xs with
  | nil =>
    intro acc _ _
    refine ⟨rfl, fun _ _ => rfl, fun p hp => absurd hp List.not_mem_nil, fun p => ?_⟩
    constructor
    · intro h; exact .inl h
    · rintro (h | ⟨h, _⟩)
      · exact h
      · exact absurd h List.not_mem_nil
  | cons x xs ih =>
    intro acc hnd hacc
    rw [List.foldl_cons]
    have hx : x ∉ xs := (List.nodup_cons.mp hnd).1
    have hnd' : xs.Nodup := (List.nodup_cons.mp hnd).2
    have hstep : (fcStep cfg cache acc x).1.length = acc.1.length ∧
        (∀ p, p ≠ x → (fcStep cfg cache acc x).1[p]? = acc.1[p]?) ∧
        (fcStep cfg cache acc x).1[x]? = (layer[x]?).map (fcNode cfg cache) ∧
        (∀ p, p ∈ (fcStep cfg cache acc x).2 ↔ (p ∈ acc.2 ∨ (p = x ∧ ∃ n, layer[x]? = some n ∧ fcKeep cfg cache n = true))) := by
      unfold fcStep
      have h0 := hacc x List.mem_cons_self
      cases hp : acc.1[x]? with
      | none =>
        dsimp only
        rw [hp] at h0
        refine ⟨rfl, fun _ _ => rfl, by rw [hp, ← h0]; rfl, fun p => ?_⟩
        constructor
        · intro h; exact .inl h
        · rintro (h | ⟨_, n, hn, _⟩)
          · exact h
          · rw [← h0] at hn; cases hn
      | some n =>
        dsimp only
        rw [hp] at h0
        have hlt := Cover.lt_of_getElem?_some hp
        refine ⟨List.length_set, fun p hpx => List.getElem?_set_ne (fun h => hpx h.symm),
          by rw [List.getElem?_set_self hlt, ← h0]; rfl, fun p => ?_⟩
        cases hk : fcKeep cfg cache n with
        | true =>
          simp only [if_true, List.mem_append, List.mem_singleton]
          constructor
          · rintro (h | h)
            · exact .inl h
            · exact .inr ⟨h, n, h0.symm, hk⟩
          · rintro (h | ⟨h, _⟩)
            · exact .inl h
            · exact .inr h
        | false =>
          simp only [Bool.false_eq_true, if_false]
          constructor
          · intro h; exact .inl h
          · rintro (h | ⟨_, n', hn', hk'⟩)
            · exact h
            · rw [← h0] at hn'; cases hn'; rw [hk] at hk'; cases hk'
    obtain ⟨s1, s2, s3, s4⟩ := hstep
    have hacc' : ∀ p ∈ xs, (fcStep cfg cache acc x).1[p]? = layer[p]? := by
      intro p hp
      rw [s2 p (fun h => hx (h ▸ hp))]
      exact hacc p (List.mem_cons_of_mem _ hp)
    obtain ⟨i1, i2, i3, i4⟩ := ih (fcStep cfg cache acc x) hnd' hacc'
    refine ⟨i1.trans s1, fun p hp => ?_, fun p hp => ?_, fun p => ?_⟩
    · rw [i2 p (fun h => hp (List.mem_cons_of_mem _ h)), s2 p (fun h => hp (h ▸ List.mem_cons_self))]
    · rcases List.mem_cons.mp hp with rfl | hp
      · rw [i2 p hx, s3]
      · exact i3 p hp
    · rw [i4 p, s4 p]
      constructor
      · rintro ((h | ⟨rfl, h⟩) | ⟨h1, h2⟩)
        · exact .inl h
        · exact .inr ⟨List.mem_cons_self, h⟩
        · exact .inr ⟨List.mem_cons_of_mem _ h1, h2⟩
      · rintro (h | ⟨h1, h2⟩)
        · exact .inl (.inl h)
        · rcases List.mem_cons.mp h1 with rfl | h1
          · exact .inl (.inr ⟨rfl, h2⟩)
          · exact .inr ⟨h1, h2⟩

/-- **`_filter_with_cache` on a whole layer**: position-wise, every node becomes `fcNode`, and the surviving positions are
    those of the nodes with `fcKeep` -/
theorem filterCache_spec (cfg : Cfg S K) (cache : Cache S) (layer : List (Node S)) :
    (filterCache cfg cache layer (List.range layer.length)).1 = layer.map (fcNode cfg cache) ∧
    (∀ p, p ∈ (filterCache cfg cache layer (List.range layer.length)).2 ↔
      ∃ n, layer[p]? = some n ∧ fcKeep cfg cache n = true) ∧
    (filterCache cfg cache layer (List.range layer.length)).2.Nodup := by
  rw [filterCache_eq]
  obtain ⟨h1, h2, h3, h4⟩ := fcStep_spec cfg cache layer (List.range layer.length) (layer, []) List.nodup_range
    (fun _ _ => rfl)
  refine ⟨?_, fun p => ?_, ?_⟩
  · apply List.ext_getElem?
    intro p
    rw [List.getElem?_map]
    by_cases hp : p < layer.length
    · exact h3 p (List.mem_range.mpr hp)
    · have h1' : (List.foldl (fcStep cfg cache) (layer, []) (List.range layer.length)).1.length = layer.length := h1
      rw [List.getElem?_eq_none (by rw [h1']; exact Nat.le_of_not_lt hp), List.getElem?_eq_none (Nat.le_of_not_lt hp)]; rfl
  · rw [h4 p]
    constructor
    · rintro (h | ⟨_, h⟩)
      · cases h
      · exact h
    · rintro ⟨n, hn, hk⟩
      exact .inr ⟨List.mem_range.mpr (Cover.lt_of_getElem?_some hn), n, hn, hk⟩
  · have := (C12.filterCache_keep cfg cache layer (List.range layer.length)).2
    rw [filterCache_eq] at this
    exact List.Nodup.sublist this List.nodup_range

theorem appendEdge_flds (p c : Node S) (a : Arc) :
    (appendEdge p c a).depth = c.depth ∧ (appendEdge p c a).cutset = c.cutset ∧ (appendEdge p c a).above = c.above ∧
    (appendEdge p c a).theta = c.theta ∧ (appendEdge p c a).cache = c.cache ∧ (appendEdge p c a).deleted = c.deleted ∧
    (appendEdge p c a).rub = c.rub := by
  unfold appendEdge; dsimp only; split <;> exact ⟨rfl, rfl, rfl, rfl, rfl, rfl, rfl⟩

theorem inner_pos (cfg : Cfg S K) (layers : List (List (Node S))) (merged : S) (mpos : Nat) (dropN : Node S)
    (inb : List Arc) (acc : List (Node S) × List (Call S)) :
    (∀ q, q ≠ mpos → (inb.foldl (Cover.redirStep cfg layers merged mpos dropN) acc).1[q]? = acc.1[q]?) ∧
    (∀ m0, acc.1[mpos]? = some m0 →
      ∃ m, (inb.foldl (Cover.redirStep cfg layers merged mpos dropN) acc).1[mpos]? = some m ∧ m.deleted = m0.deleted) := by
  induction inb generalizing acc with
  | nil => exact ⟨fun _ _ => rfl, fun m0 h => ⟨m0, h, rfl⟩⟩
  | cons e es ih =>
    rw [List.foldl_cons]
    obtain ⟨i1, i2⟩ := ih (Cover.redirStep cfg layers merged mpos dropN acc e)
    rcases Cover.redirStep_cases cfg layers merged mpos dropN acc e with ⟨h, _⟩ | ⟨src, m, _, hm, h⟩
    · rw [h] at i1 i2
      exact ⟨i1, i2⟩
    · rw [h] at i1 i2
      have hlt := Cover.lt_of_getElem?_some hm
      refine ⟨fun q hq => ?_, fun m0 hm0 => ?_⟩
      · rw [i1 q hq, List.getElem?_set_ne (fun h' => hq h'.symm)]
      · rw [hm] at hm0; cases hm0
        obtain ⟨m', hm', hd⟩ := i2 _ (List.getElem?_set_self hlt)
        exact ⟨m', hm', hd.trans (appendEdge_flds _ _ _).2.2.2.2.2.1⟩

theorem dropStep_pos (cfg : Cfg S K) (layers : List (List (Node S))) (merged : S) (mpos : Nat)
    (acc : List (Node S) × List (Call S)) (p : Nat) (hpm : p ≠ mpos) :
    (∀ q, q ≠ p → q ≠ mpos → (Cover.dropStep cfg layers merged mpos acc p).1[q]? = acc.1[q]?) ∧
    (Cover.dropStep cfg layers merged mpos acc p).1[p]? = (acc.1[p]?).map (fun n => { n with deleted := true }) ∧
    (∀ m0, acc.1[mpos]? = some m0 →
      ∃ m, (Cover.dropStep cfg layers merged mpos acc p).1[mpos]? = some m ∧ m.deleted = m0.deleted) := by
  unfold Cover.dropStep
  cases hp : acc.1[p]? with
  | none => exact ⟨fun _ _ _ => rfl, by dsimp only; rw [hp]; rfl, fun m0 h => ⟨m0, h, rfl⟩⟩
  | some dropN =>
    dsimp only
    have hlt := Cover.lt_of_getElem?_some hp
    obtain ⟨i1, i2⟩ := inner_pos cfg layers merged mpos dropN dropN.inb (acc.1.set p { dropN with deleted := true }, acc.2)
    refine ⟨fun q hq hqm => ?_, ?_, fun m0 hm0 => ?_⟩
    · rw [i1 q hqm]; exact List.getElem?_set_ne (fun h => hq h.symm)
    · rw [i1 p hpm]; dsimp only; rw [List.getElem?_set_self hlt]; rfl
    · exact i2 m0 (by dsimp only; rw [List.getElem?_set_ne hpm]; exact hm0)

/-- **the merging loop, position-wise**: a position outside `rest ∪ {mpos}` is untouched, a position of `rest` gets
    exactly the `deleted` flag, the merged position keeps its `deleted` flag -/
theorem outer_pos (cfg : Cfg S K) (layers : List (List (Node S))) (merged : S) (mpos : Nat) :
    ∀ (rest : List Nat) (acc : List (Node S) × List (Call S)), rest.Nodup → mpos ∉ rest →
      (∀ q, q ∉ rest → q ≠ mpos → (rest.foldl (Cover.dropStep cfg layers merged mpos) acc).1[q]? = acc.1[q]?) ∧
      (∀ q ∈ rest, (rest.foldl (Cover.dropStep cfg layers merged mpos) acc).1[q]? =
        (acc.1[q]?).map (fun n => { n with deleted := true })) ∧
      (∀ m0, acc.1[mpos]? = some m0 →
        ∃ m, (rest.foldl (Cover.dropStep cfg layers merged mpos) acc).1[mpos]? = some m ∧ m.deleted = m0.deleted) := by
  intro rest
  induction rest with
  | nil => intro acc _ _; exact ⟨fun _ _ _ => rfl, fun q hq => absurd hq List.not_mem_nil, fun m0 h => ⟨m0, h, rfl⟩⟩
  | cons p ps ih =>
    intro acc hnd hm
    rw [List.foldl_cons]
    have hp : p ∉ ps := (List.nodup_cons.mp hnd).1
    have hpm : p ≠ mpos := fun h => hm (h ▸ List.mem_cons_self)
    obtain ⟨s1, s2, s3⟩ := dropStep_pos cfg layers merged mpos acc p hpm
    obtain ⟨i1, i2, i3⟩ := ih (Cover.dropStep cfg layers merged mpos acc p) (List.nodup_cons.mp hnd).2
      (fun h => hm (List.mem_cons_of_mem _ h))
    refine ⟨fun q hq hqm => ?_, fun q hq => ?_, fun m0 hm0 => ?_⟩
    · rw [i1 q (fun h => hq (List.mem_cons_of_mem _ h)) hqm, s1 q (fun h => hq (h ▸ List.mem_cons_self)) hqm]
    · rcases List.mem_cons.mp hq with rfl | hq
      · rw [i1 q hp hpm, s2]
      · rw [i2 q hq, s1 q (fun h => hp (h ▸ hq)) (fun h => hm (h ▸ List.mem_cons_of_mem _ hq))]
    · obtain ⟨m1, hm1, hd1⟩ := s3 m0 hm0
      obtain ⟨m2, hm2, hd2⟩ := i3 m1 hm1
      exact ⟨m2, hm2, by rw [hd2, hd1]⟩

theorem relaxLayer_elimD (cfg : Cfg S K) (layers : List (List (Node S))) (layer : List (Node S)) (cur : List Nat)
    (log : List (Call S)) (P : List (Node S) × List Nat × List (Call S) → Prop)
    (hnone : Cover.recycledOf cfg layer cur = none → ∀ lg,
      P (((Cover.restOf cfg layer cur).foldl (Cover.dropStep cfg layers (Cover.mergedOf cfg layer cur) layer.length)
            (Cover.markRelaxed (layer ++ [Cover.freshMerged (Cover.mergedOf cfg layer cur) (d0Of cfg layer cur)]) layer.length, lg)).1,
         Cover.keepOf cfg layer cur ++ [layer.length],
         ((Cover.restOf cfg layer cur).foldl (Cover.dropStep cfg layers (Cover.mergedOf cfg layer cur) layer.length)
            (Cover.markRelaxed (layer ++ [Cover.freshMerged (Cover.mergedOf cfg layer cur) (d0Of cfg layer cur)]) layer.length, lg)).2))
    (hsome : ∀ mp, Cover.recycledOf cfg layer cur = some mp → ∀ lg,
      P (Cover.undelete ((Cover.restOf cfg layer cur).foldl (Cover.dropStep cfg layers (Cover.mergedOf cfg layer cur) mp)
            (Cover.markRelaxed layer mp, lg)).1 ((sortSquash cfg layer cur).take cfg.width),
         (sortSquash cfg layer cur).take cfg.width,
         ((Cover.restOf cfg layer cur).foldl (Cover.dropStep cfg layers (Cover.mergedOf cfg layer cur) mp)
            (Cover.markRelaxed layer mp, lg)).2)) :
    P (relaxLayer cfg layers layer cur log) :=
  Cover.relaxLayer_elim cfg layers layer cur log P hnone hsome

theorem markRelaxed_pos (l : List (Node S)) (mp : Nat) :
    (∀ q, q ≠ mp → (Cover.markRelaxed l mp)[q]? = l[q]?) ∧
    (Cover.markRelaxed l mp)[mp]? = (l[mp]?).map (fun n => { n with fRelaxed := true }) := by
  unfold Cover.markRelaxed
  cases h : l[mp]? with
  | none => exact ⟨fun _ _ => rfl, by dsimp only; rw [h]; rfl⟩
  | some n =>
    dsimp only
    have hlt := Cover.lt_of_getElem?_some h
    exact ⟨fun q hq => List.getElem?_set_ne (fun h' => hq h'.symm), by rw [List.getElem?_set_self hlt]; rfl⟩

theorem merged_pos (cfg : Cfg S K) (layers : List (List (Node S))) (merged : S) (mp : Nat) (rest : List Nat)
    (base : List (Node S)) (lg : List (Call S)) (hrN : rest.Nodup) (hmr : mp ∉ rest) :
    (∀ q, q ∉ rest → q ≠ mp →
      (rest.foldl (Cover.dropStep cfg layers merged mp) (Cover.markRelaxed base mp, lg)).1[q]? = base[q]?) ∧
    (∀ q ∈ rest, (rest.foldl (Cover.dropStep cfg layers merged mp) (Cover.markRelaxed base mp, lg)).1[q]? =
      (base[q]?).map (fun n => { n with deleted := true })) ∧
    (∀ m0, base[mp]? = some m0 →
      ∃ m, (rest.foldl (Cover.dropStep cfg layers merged mp) (Cover.markRelaxed base mp, lg)).1[mp]? = some m ∧
        m.deleted = m0.deleted) := by
  obtain ⟨m1, m2⟩ := markRelaxed_pos base mp
  obtain ⟨o1, o2, o3⟩ := outer_pos cfg layers merged mp rest (Cover.markRelaxed base mp, lg) hrN hmr
  dsimp only at o1 o2 o3
  refine ⟨fun q hq hqm => (o1 q hq hqm).trans (m1 q hqm), fun q hq => ?_, fun m0 hm0 => ?_⟩
  · rw [o2 q hq, m1 q (fun h => hmr (h ▸ hq))]
  · exact o3 { m0 with fRelaxed := true } (by rw [m2, hm0]; rfl)

theorem undelete_pos (l : List (Node S)) (c : List Nat) (sp : Nat) (hsp : c.getLast? = some sp) :
    (∀ q, q ≠ sp → (Cover.undelete l c)[q]? = l[q]?) ∧
    (Cover.undelete l c)[sp]? = (l[sp]?).map (fun n => { n with deleted := false }) := by
  unfold Cover.undelete
  rw [hsp]
  dsimp only
  cases h : l[sp]? with
  | none => exact ⟨fun _ _ => rfl, by dsimp only; rw [h]; rfl⟩
  | some n =>
    dsimp only
    have hlt := Cover.lt_of_getElem?_some h
    exact ⟨fun q hq => List.getElem?_set_ne (fun h' => hq h'.symm), by rw [List.getElem?_set_self hlt]; rfl⟩

/-- **`_relax`, position-wise** (`cur` = the positions that survived the filters, all of them not deleted):
    positions outside `cur` are untouched; the positions handed to the expansion hold nodes that are not deleted; a node
    of `cur` (or the fresh merged node) that is not deleted is handed to the expansion -/
theorem relaxLayer_pos (cfg : Cfg S K) (layers : List (List (Node S))) (layer : List (Node S)) (cur : List Nat)
    (log : List (Call S)) (hW : 1 ≤ cfg.width) (hlen : cur.length > cfg.width) (hcur : ∀ p ∈ cur, p < layer.length)
    (hnd : cur.Nodup) (hdel : ∀ q ∈ cur, ∀ n, layer[q]? = some n → n.deleted = false) :
    (∀ q, q ∉ cur → q < layer.length → (relaxLayer cfg layers layer cur log).1[q]? = layer[q]?) ∧
    (∀ q ∈ (relaxLayer cfg layers layer cur log).2.1,
      ∃ n', (relaxLayer cfg layers layer cur log).1[q]? = some n' ∧ n'.deleted = false) ∧
    (∀ q n', (relaxLayer cfg layers layer cur log).1[q]? = some n' → n'.deleted = false →
      q ∈ (relaxLayer cfg layers layer cur log).2.1 ∨ (q ∉ cur ∧ q < layer.length)) := by
  have hsN : (sortSquash cfg layer cur).Nodup := by unfold sortSquash; exact C12.nodup_sortBy _ cur hnd
  have hsplit : sortSquash cfg layer cur = Cover.keepOf cfg layer cur ++ Cover.restOf cfg layer cur := by
    unfold Cover.keepOf Cover.restOf; exact (List.take_append_drop _ _).symm
  have hsN' := hsN
  rw [hsplit] at hsN'
  obtain ⟨_, hrN, hdisj⟩ := List.nodup_append.mp hsN'
  have hmemS : ∀ q, q ∈ sortSquash cfg layer cur ↔ q ∈ cur := fun q => by
    unfold sortSquash; exact Cover.mem_sortBy _ _ _
  have hkr : ∀ q, q ∈ cur → q ∈ Cover.keepOf cfg layer cur ∨ q ∈ Cover.restOf cfg layer cur := fun q hq => by
    have := (hmemS q).mpr hq
    rw [hsplit] at this
    exact List.mem_append.mp this
  have hkc : ∀ q ∈ Cover.keepOf cfg layer cur, q ∈ cur := fun q hq =>
    (hmemS q).mp (by rw [hsplit]; exact List.mem_append_left _ hq)
  have hrc : ∀ q ∈ Cover.restOf cfg layer cur, q ∈ cur := fun q hq =>
    (hmemS q).mp (by rw [hsplit]; exact List.mem_append_right _ hq)
  refine relaxLayer_elimD cfg layers layer cur log (fun r =>
    (∀ q, q ∉ cur → q < layer.length → r.1[q]? = layer[q]?) ∧
    (∀ q ∈ r.2.1, ∃ n', r.1[q]? = some n' ∧ n'.deleted = false) ∧
    (∀ q n', r.1[q]? = some n' → n'.deleted = false → q ∈ r.2.1 ∨ (q ∉ cur ∧ q < layer.length))) ?_ ?_
  · -- fresh merged node at position `layer.length`
    intro _ lg
    dsimp only
    generalize hfr : Cover.freshMerged (Cover.mergedOf cfg layer cur) (d0Of cfg layer cur) = fr
    have hfrd : fr.deleted = false := by rw [← hfr]; rfl
    have hmr : layer.length ∉ Cover.restOf cfg layer cur := fun h => Nat.lt_irrefl _ (hcur _ (hrc _ h))
    obtain ⟨o1, o2, o3⟩ := merged_pos cfg layers (Cover.mergedOf cfg layer cur) layer.length (Cover.restOf cfg layer cur)
      (layer ++ [fr]) lg hrN hmr
    have hE := Cover.outer_ext cfg layers (Cover.mergedOf cfg layer cur) layer.length (Cover.restOf cfg layer cur)
      (Cover.markRelaxed (layer ++ [fr]) layer.length, lg)
    have hE1 := Cover.markRelaxed_ext layer.length (layer ++ [fr]) layer.length
    have hlenO : ((Cover.restOf cfg layer cur).foldl (Cover.dropStep cfg layers (Cover.mergedOf cfg layer cur) layer.length)
        (Cover.markRelaxed (layer ++ [fr]) layer.length, lg)).1.length = layer.length + 1 := by
      rw [hE.len]; dsimp only; rw [hE1.len, List.length_append, List.length_singleton]
    have hbase : ∀ q, q < layer.length → (layer ++ [fr])[q]? = layer[q]? := fun q hq => List.getElem?_append_left hq
    refine ⟨fun q hq hlt => ?_, fun q hq => ?_, fun q n' hn' hd' => ?_⟩
    · rw [o1 q (fun h => hq (hrc q h)) (Nat.ne_of_lt hlt)]; exact hbase q hlt
    · rcases List.mem_append.mp hq with hk | hk
      · have hqc := hkc q hk
        have hlt := hcur q hqc
        refine ⟨layer[q], ?_, hdel q hqc _ (List.getElem?_eq_getElem hlt)⟩
        rw [o1 q (fun h => hdisj q hk q h rfl) (Nat.ne_of_lt hlt), hbase q hlt]
        exact List.getElem?_eq_getElem hlt
      · rw [List.mem_singleton] at hk
        subst hk
        obtain ⟨m, hm, hd⟩ := o3 _ List.getElem?_concat_length
        exact ⟨m, hm, hd.trans hfrd⟩
    · have hq := Cover.lt_of_getElem?_some hn'
      rw [hlenO] at hq
      by_cases hql : q = layer.length
      · exact .inl (List.mem_append_right _ (by rw [hql]; exact List.mem_cons_self))
      · have hlt : q < layer.length := Nat.lt_of_le_of_ne (Nat.le_of_lt_succ hq) hql
        by_cases hqc : q ∈ cur
        · rcases hkr q hqc with hk | hr
          · exact .inl (List.mem_append_left _ hk)
          · exfalso
            rw [o2 q hr, hbase q hlt, List.getElem?_eq_getElem hlt] at hn'
            simp only [Option.map_some, Option.some.injEq] at hn'
            rw [← hn'] at hd'
            cases hd'
        · exact .inr ⟨hqc, hlt⟩
  · -- recycled node at the kept position `mp`
    intro mp hrec lg
    dsimp only
    have hmk : mp ∈ Cover.keepOf cfg layer cur := List.mem_of_find?_eq_some hrec
    have hmr : mp ∉ Cover.restOf cfg layer cur := fun h => hdisj mp hmk mp h rfl
    obtain ⟨o1, o2, o3⟩ := merged_pos cfg layers (Cover.mergedOf cfg layer cur) mp (Cover.restOf cfg layer cur)
      layer lg hrN hmr
    -- the saved position
    have hslen : cfg.width - 1 < (sortSquash cfg layer cur).length := by
      unfold sortSquash; rw [Cover.length_sortBy]; exact Nat.lt_of_le_of_lt (Nat.sub_le _ _) hlen
    have htake : (sortSquash cfg layer cur).take cfg.width =
        Cover.keepOf cfg layer cur ++ [(sortSquash cfg layer cur)[cfg.width - 1]] := by
      have e : cfg.width = (cfg.width - 1) + 1 := (Nat.sub_add_cancel hW).symm
      conv => lhs; rw [e]
      rw [List.take_add_one, List.getElem?_eq_getElem hslen]
      rfl
    generalize hsp : (sortSquash cfg layer cur)[cfg.width - 1] = sp at htake
    have hspR : sp ∈ Cover.restOf cfg layer cur := by
      unfold Cover.restOf
      apply List.mem_of_getElem? (i := 0)
      rw [List.getElem?_drop, Nat.add_zero, List.getElem?_eq_getElem hslen, hsp]
    have hlast : ((sortSquash cfg layer cur).take cfg.width).getLast? = some sp := by
      rw [htake]; exact List.getLast?_concat
    have hspm : sp ≠ mp := fun h => hmr (h ▸ hspR)
    obtain ⟨u1, u2⟩ := undelete_pos ((Cover.restOf cfg layer cur).foldl
      (Cover.dropStep cfg layers (Cover.mergedOf cfg layer cur) mp) (Cover.markRelaxed layer mp, lg)).1
      ((sortSquash cfg layer cur).take cfg.width) sp hlast
    have hlenO : (Cover.undelete ((Cover.restOf cfg layer cur).foldl
        (Cover.dropStep cfg layers (Cover.mergedOf cfg layer cur) mp) (Cover.markRelaxed layer mp, lg)).1
        ((sortSquash cfg layer cur).take cfg.width)).length = layer.length := by
      rw [(Cover.undelete_ext mp _ _).len, (Cover.outer_ext cfg layers _ mp _ _).len]
      dsimp only
      rw [(Cover.markRelaxed_ext mp layer mp).len]
    refine ⟨fun q hq hlt => ?_, fun q hq => ?_, fun q n' hn' hd' => ?_⟩
    · have hqs : q ≠ sp := fun h => hq (hrc q (h ▸ hspR))
      have hqm : q ≠ mp := fun h => hq (hkc q (h ▸ hmk))
      rw [u1 q hqs, o1 q (fun h => hq (hrc q h)) hqm]
    · rw [htake] at hq
      rcases List.mem_append.mp hq with hk | hk
      · have hqc := hkc q hk
        have hlt := hcur q hqc
        have hqs : q ≠ sp := fun h => hdisj q hk sp hspR h
        have hqr : q ∉ Cover.restOf cfg layer cur := fun h => hdisj q hk q h rfl
        by_cases hqm : q = mp
        · subst hqm
          obtain ⟨m, hm, hd⟩ := o3 _ (List.getElem?_eq_getElem hlt)
          exact ⟨m, by rw [u1 q hqs]; exact hm, hd.trans (hdel q hqc layer[q] (List.getElem?_eq_getElem hlt))⟩
        · refine ⟨layer[q], ?_, hdel q hqc _ (List.getElem?_eq_getElem hlt)⟩
          rw [u1 q hqs, o1 q hqr hqm]
          exact List.getElem?_eq_getElem hlt
      · rw [List.mem_singleton] at hk
        subst hk
        have hlt := hcur q (hrc q hspR)
        refine ⟨{ ({ layer[q] with deleted := true } : Node S) with deleted := false }, ?_, rfl⟩
        rw [u2, o2 q hspR, List.getElem?_eq_getElem hlt]
        rfl
    · have hq := Cover.lt_of_getElem?_some hn'
      rw [hlenO] at hq
      by_cases hqc : q ∈ cur
      · rcases hkr q hqc with hk | hr
        · exact .inl (by rw [htake]; exact List.mem_append_left _ hk)
        · by_cases hqs : q = sp
          · exact .inl (by rw [htake, hqs]; exact List.mem_append_right _ List.mem_cons_self)
          · exfalso
            have hqm : q ≠ mp := fun h => hmr (h ▸ hr)
            rw [u1 q hqs, o2 q hr, List.getElem?_eq_getElem hq] at hn'
            simp only [Option.map_some, Option.some.injEq] at hn'
            rw [← hn'] at hd'
            cases hd'
      · exact .inr ⟨hqc, hq⟩

theorem relaxLayer_forallD (Q : Node S → Prop) (cfg : Cfg S K) (layers : List (List (Node S))) (layer : List (Node S))
    (cur : List Nat) (log : List (Call S))
    (hfresh : Q (Cover.freshMerged (Cover.mergedOf cfg layer cur) (d0Of cfg layer cur)))
    (hrel : ∀ n, Q n → Q { n with fRelaxed := true })
    (hdel : ∀ n b, Q n → Q { n with deleted := b })
    (happ : ∀ dropN, Q dropN → ∀ e ∈ dropN.inb, ∀ src m, Q m →
      Q (appendEdge src m ⟨e.fromL, e.fromP, e.dec,
        cfg.R.relax src.state dropN.state (Cover.mergedOf cfg layer cur) e.dec e.cost⟩))
    (h : ∀ n ∈ layer, Q n) : ∀ n ∈ (relaxLayer cfg layers layer cur log).1, Q n :=
  Cover.relaxLayer_forall Q Q cfg layers layer cur log (fun _ h => h) hfresh hrel hdel (fun n hn => hdel n true hn)
    (fun d hd e he src m _ => happ d hd e he src m) h

/-- the depth given to the fresh merged node is the depth of the layer -/
theorem d0Of_eq (cfg : Cfg S K) (layer : List (Node S)) (cur : List Nat) (D : Nat) (hW : 1 ≤ cfg.width)
    (hlen : cur.length > cfg.width) (hcur : ∀ p ∈ cur, p < layer.length) (hD : ∀ n ∈ layer, n.depth = D) :
    d0Of cfg layer cur = D := by
  unfold d0Of
  have hl : (Cover.restOf cfg layer cur).length = cur.length - (cfg.width - 1) := by
    unfold Cover.restOf sortSquash; rw [List.length_drop, Cover.length_sortBy]
  cases hr : Cover.restOf cfg layer cur with
  | nil =>
    rw [hr] at hl
    exact absurd (Nat.lt_of_le_of_lt (Nat.sub_le _ _) hlen) (Nat.not_lt_of_le (Nat.le_of_sub_eq_zero hl.symm))
  | cons q0 t =>
    have hq : q0 ∈ Cover.restOf cfg layer cur := by rw [hr]; exact List.mem_cons_self
    have hqc : q0 ∈ cur := by
      unfold Cover.restOf sortSquash at hq
      exact (Cover.mem_sortBy _ _ _).mp (List.mem_of_mem_drop hq)
    have hlt := hcur q0 hqc
    simp only [List.head?_cons]
    rw [List.getElem?_eq_getElem hlt]
    exact hD _ (List.getElem_mem hlt)

/-- a field that `append_edge_to!` and the `deleted` flag leave alone is kept by the writes of `_relax` -/
theorem map_writes {α : Type} (f : Node S → α) (hf : ∀ (src m : Node S) a, f (appendEdge src m a) = f m)
    (hd : ∀ (n : Node S) b, f { n with deleted := b } = f n) (mpos : Nat) :
    Cover.Writes mpos (fun l l' : List (Node S) => l'.map f = l.map f) where
  refl := fun _ => rfl
  trans := fun h1 h2 => h2.trans h1
  del := fun _ h => C12.map_set_same f _ _ _ _ h (hd _ _)
  app := fun _ _ hm => C12.map_set_same f _ _ _ _ hm (hf _ _ _)

theorem outer_map {α : Type} (f : Node S → α) (hf : ∀ (src m : Node S) a, f (appendEdge src m a) = f m)
    (hd : ∀ (n : Node S) b, f { n with deleted := b } = f n)
    (cfg : Cfg S K) (layers : List (List (Node S))) (merged : S) (mpos : Nat) (rest : List Nat)
    (acc : List (Node S) × List (Call S)) :
    (rest.foldl (Cover.dropStep cfg layers merged mpos) acc).1.map f = acc.1.map f :=
  (map_writes f hf hd mpos).outer cfg layers merged rest acc

theorem markRelaxed_map {α : Type} (f : Node S → α) (hr : ∀ n : Node S, f { n with fRelaxed := true } = f n)
    (l : List (Node S)) (mp : Nat) : (Cover.markRelaxed l mp).map f = l.map f := by
  unfold Cover.markRelaxed
  cases h : l[mp]? with
  | none => rfl
  | some n => exact C12.map_set_same f _ _ n _ h (hr n)

theorem undelete_map {α : Type} (f : Node S → α) (hd : ∀ (n : Node S) b, f { n with deleted := b } = f n)
    (l : List (Node S)) (c : List Nat) : (Cover.undelete l c).map f = l.map f := by
  unfold Cover.undelete
  cases c.getLast? with
  | none => rfl
  | some sp =>
    dsimp only
    cases h : l[sp]? with
    | none => rfl
    | some n => exact C12.map_set_same f _ _ n _ h (hd n false)

/-- a field that `append_edge_to!` and the two flags of `_relax` leave alone is kept position-wise; the positions handed
    to the expansion are positions of `cur` or the fresh merged node -/
theorem relaxLayer_map {α : Type} (f : Node S → α) (hf : ∀ (src m : Node S) a, f (appendEdge src m a) = f m)
    (hr : ∀ n : Node S, f { n with fRelaxed := true } = f n)
    (hd : ∀ (n : Node S) b, f { n with deleted := b } = f n)
    (cfg : Cfg S K) (layers : List (List (Node S))) (layer : List (Node S)) (cur : List Nat) (log : List (Call S)) :
    ((relaxLayer cfg layers layer cur log).1.map f = layer.map f ∨
      (relaxLayer cfg layers layer cur log).1.map f =
        layer.map f ++ [f (Cover.freshMerged (Cover.mergedOf cfg layer cur) (d0Of cfg layer cur))]) ∧
    ∀ q ∈ (relaxLayer cfg layers layer cur log).2.1, q ∈ cur ∨ q = layer.length := by
  have hmemS : ∀ q, q ∈ sortSquash cfg layer cur → q ∈ cur := fun q hq => by
    unfold sortSquash at hq; exact (Cover.mem_sortBy _ _ _).mp hq
  refine relaxLayer_elimD cfg layers layer cur log (fun r =>
    (r.1.map f = layer.map f ∨
      r.1.map f = layer.map f ++ [f (Cover.freshMerged (Cover.mergedOf cfg layer cur) (d0Of cfg layer cur))]) ∧
    ∀ q ∈ r.2.1, q ∈ cur ∨ q = layer.length) ?_ ?_
  · intro _ lg
    dsimp only
    refine ⟨.inr ?_, fun q hq => ?_⟩
    · rw [outer_map f hf hd]
      dsimp only
      rw [markRelaxed_map f hr, List.map_append]
      rfl
    · rcases List.mem_append.mp hq with hk | hk
      · exact .inl (hmemS q (List.mem_of_mem_take hk))
      · rw [List.mem_singleton] at hk; exact .inr hk
  · intro mp _ lg
    dsimp only
    refine ⟨.inl ?_, fun q hq => .inl (hmemS q (List.mem_of_mem_take hq))⟩
    rw [undelete_map f hd, outer_map f hf hd]
    dsimp only
    rw [markRelaxed_map f hr]

theorem relaxLayer_fld {α : Type} (f : Node S → α) (hf : ∀ (src m : Node S) a, f (appendEdge src m a) = f m)
    (hr : ∀ n : Node S, f { n with fRelaxed := true } = f n)
    (hd : ∀ (n : Node S) b, f { n with deleted := b } = f n)
    (cfg : Cfg S K) (layers : List (List (Node S))) (layer : List (Node S)) (cur : List Nat) (log : List (Call S))
    (q : Nat) (n' : Node S) (hn' : (relaxLayer cfg layers layer cur log).1[q]? = some n') :
    (∃ n, layer[q]? = some n ∧ f n' = f n) ∨
    (q = layer.length ∧ f n' = f (Cover.freshMerged (Cover.mergedOf cfg layer cur) (d0Of cfg layer cur))) := by
  have hm : ((relaxLayer cfg layers layer cur log).1.map f)[q]? = some (f n') := by
    rw [List.getElem?_map, hn']; rfl
  rcases (relaxLayer_map f hf hr hd cfg layers layer cur log).1 with h | h
  · rw [h] at hm; exact .inl (getElem?_map_some hm)
  · rw [h] at hm
    by_cases hq : q < layer.length
    · rw [List.getElem?_append_left (by rw [List.length_map]; exact hq)] at hm; exact .inl (getElem?_map_some hm)
    · have hlt := Cover.lt_of_getElem?_some hm
      rw [List.length_append, List.length_map, List.length_singleton] at hlt
      obtain rfl : q = layer.length := Nat.le_antisymm (Nat.le_of_lt_succ hlt) (Nat.le_of_not_lt hq)
      have e := List.getElem?_concat_length (l := layer.map f)
        (a := f (Cover.freshMerged (Cover.mergedOf cfg layer cur) (d0Of cfg layer cur)))
      rw [List.length_map] at e
      rw [e] at hm
      exact .inr ⟨rfl, (Option.some.inj hm).symm⟩

/-- what `_relax` needs from the filtered layer -/
structure SqPre (cfg : Cfg S K) (dd : DD S K) (layer : List (Node S)) (cur : List Nat) : Prop where
  nodup : cur.Nodup
  lt : ∀ p ∈ cur, p < layer.length
  states : ∀ u ∈ layer, u.state ∈ dd.next.map (·.state)
  attL : dd.layers ≠ [] → ∀ q ∈ cur, ∀ u, layer[q]? = some u →
    ∃ a ∈ u.inb, ∃ src, getNode dd.layers a.fromL a.fromP = some src

/-- the layer and the positions after `_filter_with_cache` (skipped for the first layer) -/
def fcOf (cfg : Cfg S K) (dd : DD S K) : List (Node S) × List Nat :=
  if dd.layers.isEmpty then (dd.next, List.range dd.next.length)
  else filterCache cfg dd.cache dd.next (List.range dd.next.length)

/-- common description of the filter and of its absence -/
def FcDesc (cfg : Cfg S K) (cache : Cache S) (dd : DD S K) (layer : List (Node S)) (cur : List Nat) : Prop :=
  ∃ (g : Node S → Node S) (keep : Node S → Bool), layer = dd.next.map g ∧
    (∀ p, p ∈ cur ↔ ∃ n, dd.next[p]? = some n ∧ keep n = true) ∧ cur.Nodup ∧
    (∀ m, (keep m = true ∧ g m = m) ∨
      (keep m = false ∧ ∃ t, lookup cfg cache m = some t ∧ m.value ≤ t.value ∧
        g m = { m with cache := true, theta := some t.value })) ∧
    (dd.layers = [] → ∀ m, g m = m)

theorem fcOf_desc (cfg : Cfg S K) (dd : DD S K) : FcDesc cfg dd.cache dd (fcOf cfg dd).1 (fcOf cfg dd).2 := by
  unfold fcOf
  split
  · refine ⟨id, fun _ => true, (List.map_id _).symm, fun p => ?_, List.nodup_range, fun m => .inl ⟨rfl, rfl⟩, fun _ _ => rfl⟩
    dsimp only
    rw [List.mem_range]
    constructor
    · intro hp; exact ⟨_, List.getElem?_eq_getElem hp, rfl⟩
    · rintro ⟨n, hn, _⟩; exact Cover.lt_of_getElem?_some hn
  · rename_i hemp
    obtain ⟨h1, h2, h3⟩ := filterCache_spec cfg dd.cache dd.next
    refine ⟨fcNode cfg dd.cache, fcKeep cfg dd.cache, h1, h2, h3, fun m => ?_, fun h => ?_⟩
    · unfold fcNode fcKeep
      cases ht : lookup cfg dd.cache m with
      | none => exact .inl ⟨rfl, rfl⟩
      | some t =>
        dsimp only
        by_cases hv : m.value > t.value
        · left; simp only [hv, decide_true, if_true]; exact ⟨True.intro, True.intro⟩
        · right
          simp only [hv, decide_false, if_false]
          exact ⟨True.intro, t, rfl, by omega, rfl⟩
    · rw [h] at hemp; exact absurd rfl hemp

theorem expandOne_childrenP (Q Pp : Node S → Prop) (cfg : Cfg S K) (var lidx : Nat)
    (acc : List (Node S) × List (Node S) × List (Call S)) (p : Nat)
    (hprub : ∀ (n : Node S) r, Pp n → Pp { n with rub := r })
    (hold : ∀ (par : Node S) d n, Pp par → Q n → Q (appendEdge par n (Cover.arcOf cfg var lidx p par d)))
    (hfresh : ∀ (par : Node S) d, Pp par → Q (appendEdge par (Cover.freshNode par (cfg.P.trans par.state ⟨var, d⟩)
        (cfg.P.cost par.state (cfg.P.trans par.state ⟨var, d⟩) ⟨var, d⟩)) (Cover.arcOf cfg var lidx p par d)))
    (h : (∀ n ∈ acc.1, Pp n) ∧ ∀ m ∈ acc.2.1, Q m) :
    (∀ n ∈ (expandOne cfg var lidx acc p).1, Pp n) ∧ ∀ m ∈ (expandOne cfg var lidx acc p).2.1, Q m := by
  obtain ⟨ly, nx, lg⟩ := acc
  obtain ⟨hpar, hall⟩ := h
  cases hp : ly[p]? with
  | none => rw [Cover.expandOne_none _ _ _ _ _ _ _ hp]; exact ⟨hpar, hall⟩
  | some n =>
    rw [Cover.expandOne_some _ _ _ _ _ _ _ n hp]
    have hPn : Pp { n with rub := cfg.R.rub n.state } := hprub n _ (hpar n (List.mem_of_getElem? hp))
    split
    · dsimp only at hpar hall ⊢
      exact ⟨forall_set hpar p hPn,
        Cover.branchAll_forall Q cfg var lidx p _ _ (nx, _) hall (fun d _ m hm => hold _ d m hPn hm)
          (fun d _ => hfresh _ d hPn)⟩
    · exact ⟨forall_set hpar p hPn, hall⟩

theorem fold_childrenP (Q Pp : Node S → Prop) (cfg : Cfg S K) (var lidx : Nat) (cur : List Nat)
    (acc : List (Node S) × List (Node S) × List (Call S))
    (hprub : ∀ (n : Node S) r, Pp n → Pp { n with rub := r })
    (hold : ∀ q (par : Node S) d n, Pp par → Q n → Q (appendEdge par n (Cover.arcOf cfg var lidx q par d)))
    (hfresh : ∀ q (par : Node S) d, Pp par → Q (appendEdge par (Cover.freshNode par (cfg.P.trans par.state ⟨var, d⟩)
        (cfg.P.cost par.state (cfg.P.trans par.state ⟨var, d⟩) ⟨var, d⟩)) (Cover.arcOf cfg var lidx q par d)))
    (hpar : ∀ n ∈ acc.1, Pp n) (hall : ∀ m ∈ acc.2.1, Q m) :
    ∀ m ∈ (cur.foldl (expandOne cfg var lidx) acc).2.1, Q m :=
  (Ddo.foldl_inv (fun acc => (∀ n ∈ acc.1, Pp n) ∧ ∀ m ∈ acc.2.1, Q m) _ cur acc ⟨hpar, hall⟩
    (fun b q _ hb => expandOne_childrenP Q Pp cfg var lidx b q hprub (hold q) (hfresh q) hb)).2

theorem fold_childrenM (Q : Node S → Prop) (cfg : Cfg S K) (var lidx : Nat) (cur : List Nat)
    (acc : List (Node S) × List (Node S) × List (Call S))
    (hold : ∀ q ∈ cur, ∀ (par : Node S) d n, Q n → Q (appendEdge par n (Cover.arcOf cfg var lidx q par d)))
    (hfresh : ∀ q ∈ cur, ∀ (par : Node S) d, Q (appendEdge par (Cover.freshNode par (cfg.P.trans par.state ⟨var, d⟩)
        (cfg.P.cost par.state (cfg.P.trans par.state ⟨var, d⟩) ⟨var, d⟩)) (Cover.arcOf cfg var lidx q par d)))
    (hall : ∀ m ∈ acc.2.1, Q m) :
    ∀ m ∈ (cur.foldl (expandOne cfg var lidx) acc).2.1, Q m :=
  (Ddo.foldl_inv (fun acc => (∀ n ∈ acc.1, True) ∧ ∀ m ∈ acc.2.1, Q m) _ cur acc ⟨fun _ _ => True.intro, hall⟩
    (fun b q hq hb => expandOne_childrenP Q (fun _ => True) cfg var lidx b q (fun _ _ _ => True.intro)
      (fun par d n _ hn => hold q hq par d n hn) (fun par d _ => hfresh q hq par d) hb)).2

theorem stripRub_all {a b : Node S} (h : stripRub a = stripRub b) :
    a.state = b.state ∧ a.value = b.value ∧ a.inb = b.inb ∧ a.depth = b.depth ∧ a.cutset = b.cutset ∧
    a.above = b.above ∧ a.theta = b.theta ∧ a.cache = b.cache ∧ a.deleted = b.deleted := by
  exact ⟨(congrArg Node.state h :), (congrArg Node.value h :), (congrArg Node.inb h :), (congrArg Node.depth h :), (congrArg Node.cutset h :),
    (congrArg Node.above h :), (congrArg Node.theta h :), (congrArg Node.cache h :), (congrArg Node.deleted h :)⟩

theorem stepLayer_okT (cfg : Cfg S K) (dd : DD S K) (var : Nat) (hne : dd.next ≠ []) (hd : cfg.dom = none)
    (sq : List (Node S) × List Nat × List (Call S) × Option Nat)
    (hsq : squash cfg dd (fcOf cfg dd).1 (fcOf cfg dd).2 = some sq) :
    ∃ dd', stepLayer cfg dd var = (some dd', .ok) ∧
      dd'.layers = dd.layers ++ [(expandAll cfg var dd.layers.length sq.1 sq.2.1 sq.2.2.1).1] ∧
      dd'.next = (expandAll cfg var dd.layers.length sq.1 sq.2.1 sq.2.2.1).2.1 ∧
      dd'.depth = dd.depth + 1 ∧ dd'.cache = dd.cache ∧ dd'.lel = sq.2.2.2 := by
  unfold stepLayer
  have h1 : dd.next.isEmpty = false := by
    cases h : dd.next with
    | nil => exact absurd h hne
    | cons _ _ => rfl
  unfold fcOf at hsq
  simp only [h1, filterDom, hd, hsq]
  exact ⟨_, rfl, rfl, rfl, rfl, rfl, rfl⟩

end Ddo.Theta
