import DdoModel.Proofs.PooledDefs
import DdoModel.Proofs.PooledStep
import DdoModel.Proofs.PooledFinal
/-! The coverage invariant of the pooled diagram (C06), long arcs allowed: `Cover.Inv` (`Proofs/MddCover.lean`) with the pool in the
    place of the layer under construction — some pool node has potential `≥ o` at the current depth.  A node that is skipped keeps it by
    `SkipRel.up`, an expanded one by `WfRel.att`, a merged one by `WfRel.merge` / `attMerge`; a step that restricts loses it, so it is
    carried for relaxed compilations and for those that end with `isExactField` still set.  Also here: a pooled compilation in
    isolation, width `≥ 1`, does not crash.  Statements: `Props/C15b.lean`. -/
set_option linter.unusedSectionVars false
set_option linter.unusedVariables false
namespace Ddo.PCover
open Ddo Ddo.Pooled Ddo.Cover
variable {S K : Type} [DecidableEq S] [DecidableEq K]

/-- `Cover.NodeOk` with the source of the arcs looked up anywhere: `srcV l p` = value of the node at `(l, p)` -/
structure NodeOkG (srcV : Nat → Nat → Option Int) (B M : Int) (n : Node S) : Prop where
  att : ∃ a ∈ n.inb, ∃ v, srcV a.fromL a.fromP = some v ∧ n.value = satAdd v a.cost
  rng : Within (M + B) n.value
  arc : ∀ a ∈ n.inb, Within B a.cost

theorem appendEdge_okG_old (srcV : Nat → Nat → Option Int) (lidx pp : Nat) (B M : Int) (par n : Node S) (d : Dec) (c : Int)
    (hsrc : srcV lidx pp = some par.value) (hM : Within M par.value) (hc : Within B c) (hn : NodeOkG srcV B M n) :
    NodeOkG srcV B M (appendEdge par n ⟨lidx, pp, d, c⟩) := by
  obtain ⟨⟨a0, ha0, v0, hsv, hv0⟩, hr, harc⟩ := hn
  have harc' : ∀ a ∈ (appendEdge par n ⟨lidx, pp, d, c⟩).inb, Within B a.cost := by
    rw [appendEdge_inb]; intro a ha
    rcases List.mem_cons.mp ha with rfl | ha
    · exact hc
    · exact harc a ha
  rcases appendEdge_value par n ⟨lidx, pp, d, c⟩ with ⟨h1, _⟩ | ⟨h1, _⟩
  · refine ⟨⟨a0, ?_, v0, hsv, ?_⟩, ?_, harc'⟩
    · rw [appendEdge_inb]; exact List.mem_cons_of_mem _ ha0
    · rw [h1]; exact hv0
    · rw [h1]; exact hr
  · refine ⟨⟨⟨lidx, pp, d, c⟩, ?_, par.value, hsrc, ?_⟩, ?_, harc'⟩
    · rw [appendEdge_inb]; exact List.mem_cons_self
    · rw [h1]
    · rw [h1]; exact within_satAdd hM hc

theorem appendEdge_okG_fresh (srcV : Nat → Nat → Option Int) (lidx pp : Nat) (B M : Int) (par : Node S) (dst : S) (d : Dec)
    (c : Int) (hsrc : srcV lidx pp = some par.value) (hM : Within M par.value) (hc : Within B c) :
    NodeOkG srcV B M (appendEdge par (Cover.freshNode par dst c) ⟨lidx, pp, d, c⟩) := by
  have hv : (appendEdge par (Cover.freshNode par dst c) ⟨lidx, pp, d, c⟩).value = satAdd par.value c := by
    rcases appendEdge_value par (Cover.freshNode par dst c) ⟨lidx, pp, d, c⟩ with ⟨h1, h2⟩ | ⟨h1, _⟩
    · simp only [Cover.freshNode] at h2; omega
    · exact h1
  refine ⟨⟨⟨lidx, pp, d, c⟩, ?_, par.value, hsrc, ?_⟩, ?_, ?_⟩
  · rw [appendEdge_inb]; exact List.mem_cons_self
  · rw [hv]
  · rw [hv]; exact within_satAdd hM hc
  · rw [appendEdge_inb]; intro a ha
    rcases List.mem_cons.mp ha with rfl | ha
    · exact hc
    · simp only [Cover.freshNode] at ha; cases ha

theorem expF_okG (cfg : Cfg S K) (var lidx : Nat) (layer rest : List (Node S)) (cur : List Nat) (log : List (Call S))
    (srcV : Nat → Nat → Option Int) (B M : Int)
    (hsrc : ∀ q n, layer[q]? = some n → srcV lidx q = some n.value) (hM : ∀ n ∈ layer, Within M n.value)
    (hcost : ∀ s d, d ∈ cfg.P.domain var s → Within B (cfg.P.cost s (cfg.P.trans s ⟨var, d⟩) ⟨var, d⟩))
    (hall : ∀ m ∈ rest, NodeOkG srcV B M m) :
    ∀ m ∈ (expF cfg var lidx layer rest cur log).2.1, NodeOkG srcV B M m := by
  have hpar : ∀ q (par : Node S), (layer.map key)[q]? = some (key par) →
      srcV lidx q = some par.value ∧ Within M par.value := by
    intro q par hq
    obtain ⟨n0, h0, _, hv⟩ := getElem?_map_key hq
    exact hv ▸ ⟨hsrc q n0 h0, hM n0 (List.mem_of_getElem? h0)⟩
  refine expF_forall (NodeOkG srcV B M) cfg var lidx layer rest cur log hall ?_ ?_
  · intro q _ par hq d hd n hn
    exact appendEdge_okG_old srcV lidx q B M par n _ _ (hpar q par hq).1 (hpar q par hq).2 (hcost par.state d hd) hn
  · intro q _ par hq d hd
    exact appendEdge_okG_fresh srcV lidx q B M par _ _ _ (hpar q par hq).1 (hpar q par hq).2 (hcost par.state d hd)

theorem fold_nil_layer (cfg : Cfg S K) (var lidx : Nat) (cur : List Nat) (rest : List (Node S)) (lg : List (Call S)) :
    (cur.foldl (expandOne cfg var lidx) (([] : List (Node S)), rest, lg)).1 = [] ∧
    (cur.foldl (expandOne cfg var lidx) (([] : List (Node S)), rest, lg)).2.1 = rest :=
  have h : cur.foldl (expandOne cfg var lidx) ([], rest, lg) = ([], rest, lg) := expF_nil cfg var lidx rest cur lg
  ⟨congrArg (·.1) h, congrArg (·.2.1) h⟩

/-- the invariant of `buildLoopP`: `Cover.Inv` with the pool in the place of the layer under construction -/
structure InvP (H : Nat → S → EInt) (V : Nat → S → Prop) (B o : Int) (pd : PD S K) : Prop where
  valid : ∀ n ∈ pd.pool, V pd.depth n.state
  cover : ∃ n ∈ pd.pool, ∃ h, H pd.depth n.state = some h ∧ o ≤ n.value + h
  att : pd.layers ≠ [] → ∀ n ∈ pd.pool, ∃ a ∈ n.inb, ∃ p, getNode pd.plain a.fromL a.fromP = some p ∧
    n.value = satAdd p.value a.cost
  arcs : ∀ n ∈ pd.pool, ∀ a ∈ n.inb, Within B a.cost
  rngN : ∀ n ∈ pd.pool, Within (Bd B pd.layers.length) n.value
  rngL : ∀ (i : Nat) ly, pd.plain[i]? = some ly → ∀ n ∈ ly, Within (Bd B i) n.value
  root0 : pd.layers = [] → ∃ n0, pd.pool = [n0]

theorem InvP.congr {H : Nat → S → EInt} {V : Nat → S → Prop} {B o : Int} {pd pd' : PD S K} (h : InvP H V B o pd)
    (hl : pd'.layers = pd.layers) (hn : pd'.pool = pd.pool) (hd : pd'.depth = pd.depth) : InvP H V B o pd' := by
  obtain ⟨a, b, c, d, e, f, g⟩ := h
  have hp : pd'.plain = pd.plain := by unfold PD.plain; rw [hl]
  exact ⟨by rw [hn, hd]; exact a, by rw [hn, hd]; exact b, by rw [hl, hn, hp]; exact c, by rw [hn]; exact d,
    by rw [hn, hl]; exact e, by rw [hp]; exact f, by rw [hn, hl]; exact g⟩

/-- the hypotheses the loop needs (no hypothesis on the compilation type: see `stepLayerP_cover`) -/
structure HypP (cfg : Cfg S K) (H : Nat → S → EInt) (V : Nat → S → Prop) (B o : Int) : Prop where
  cache : cfg.useCache = false
  dom : cfg.dom = none
  /-- the merge-free part of `WfRel` -/
  wfx : Truth.WfX cfg.P cfg.R H V
  /-- the merge clauses are only needed by relaxed compilations -/
  wfm : cfg.ctype = .relaxed → WfRel cfg.P cfg.R H V
  sk : SkipRel cfg.P H V
  B : NoClampDom cfg.P cfg.R cfg.root.value B
  clamp : ∀ x, o ≤ x → clamp x > cfg.lb

/-- what the expansion needs from the squashed layer (`Cover.SqPost`; the witness is asked for every node of the layer
    of impacted pool nodes whose potential reaches `o`) -/
structure SqPostP (cfg : Cfg S K) (H : Nat → S → EInt) (V : Nat → S → Prop) (B o : Int) (pd : PD S K) (var : Nat)
    (layer' : List (Node S)) (cur' : List Nat) : Prop where
  wit : ∀ u ∈ curNodes cfg pd var, ∀ h, H pd.depth u.state = some h → o ≤ u.value + h →
    ∃ q ∈ cur', ∃ n, layer'[q]? = some n ∧ V pd.depth n.state ∧ ∃ h', H pd.depth n.state = some h' ∧
      o ≤ n.value + h' ∧ AttAt cfg H pd.depth var n.state
  kids : ∀ q ∈ cur', ∀ n, layer'[q]? = some n → ∀ d ∈ cfg.P.domain var n.state,
    V (pd.depth + 1) (cfg.P.trans n.state ⟨var, d⟩)
  rng : ∀ n ∈ layer', Within (Bd B pd.layers.length) n.value

theorem curNodes_facts {cfg : Cfg S K} {H : Nat → S → EInt} {V : Nat → S → Prop} {B o : Int} {pd : PD S K} {var : Nat}
    (hI : InvP H V B o pd) {u : Node S} (hu : u ∈ curNodes cfg pd var) :
    u.state ∈ pd.pool.map (·.state) ∧ V pd.depth u.state ∧ Within (Bd B pd.layers.length) u.value ∧
    (∀ a ∈ u.inb, Within B a.cost) ∧
    (pd.layers ≠ [] → ∃ a ∈ u.inb, ∃ p, getNode pd.plain a.fromL a.fromP = some p ∧ u.value = satAdd p.value a.cost) := by
  obtain ⟨m, hm, _, rfl⟩ := mem_curNodes_iff.1 hu
  exact ⟨List.mem_map.2 ⟨m, hm, rfl⟩, hI.valid m hm, hI.rngN m hm, hI.arcs m hm, fun hne => hI.att hne m hm⟩

theorem sqpostP_id (cfg : Cfg S K) (H : Nat → S → EInt) (V : Nat → S → Prop) (B o : Int) (pd : PD S K) (var : Nat)
    (hwf : Truth.WfX cfg.P cfg.R H V) (hnv : cfg.P.nextVar pd.depth (pd.pool.map (·.state)) = some var)
    (hI : InvP H V B o pd) :
    SqPostP cfg H V B o pd var (curNodes cfg pd var) (List.range (curNodes cfg pd var).length) := by
  constructor
  · intro u hu h hH hle
    obtain ⟨hL, hV, _⟩ := curNodes_facts hI hu
    obtain ⟨q, hq⟩ := List.mem_iff_getElem?.mp hu
    refine ⟨q, mem_of_getElem?_range hq, u, hq, hV, h, hH, hle, ?_⟩
    intro h1 hH1
    exact hwf.att pd.depth _ var u.state h1 hnv hL hV hH1
  · intro q _ n hq d hd
    obtain ⟨hL, hV, _⟩ := curNodes_facts hI (List.mem_of_getElem? hq)
    exact hwf.vstep pd.depth _ var n.state d hnv hL hV hd
  · intro n hn
    exact (curNodes_facts hI hn).2.2.1

theorem srcOk_of_invP (cfg : Cfg S K) (H : Nat → S → EInt) (V : Nat → S → Prop) (B o : Int) (pd : PD S K)
    (hB : NoClampDom cfg.P cfg.R cfg.root.value B) (hI : InvP H V B o pd) :
    SrcOk cfg pd.plain B (Bd B pd.layers.length) := by
  constructor
  · intro l p src c hsrc hc
    obtain ⟨ly, hly, hp⟩ := Cover.getNode_lt hsrc
    have hw := hI.rngL l ly hly src (List.mem_of_getElem? hp)
    have := within_satAdd hw hc
    rw [← Bd_succ] at this
    exact this.mono (Bd_mono hB.nonneg (plain_length pd ▸ lt_of_getElem?_some hly))
  · intro s u m d c hc
    exact hB.relax s u m d c hc

theorem sqpostP_relax (cfg : Cfg S K) (H : Nat → S → EInt) (V : Nat → S → Prop) (B o : Int) (pd : PD S K) (var : Nat)
    (lg : List (Call S)) (hwf : WfRel cfg.P cfg.R H V)
    (hB : NoClampDom cfg.P cfg.R cfg.root.value B) (hW : 1 ≤ cfg.width)
    (hnv : cfg.P.nextVar pd.depth (pd.pool.map (·.state)) = some var)
    (hlen : pd.layers.length ≤ cfg.P.nbVars)
    (hc1 : (List.range (curNodes cfg pd var).length).length > cfg.width) (hc2 : pd.layers.length ≥ 2)
    (hI : InvP H V B o pd) :
    SqPostP cfg H V B o pd var
      (relaxLayer cfg pd.plain (curNodes cfg pd var) (List.range (curNodes cfg pd var).length) lg).1
      (relaxLayer cfg pd.plain (curNodes cfg pd var) (List.range (curNodes cfg pd var).length) lg).2.1 := by
  have hne : pd.layers ≠ [] := by intro h; rw [h] at hc2; simp at hc2
  generalize hL0 : curNodes cfg pd var = L0 at hc1 ⊢
  have hfacts : ∀ u ∈ L0, u.state ∈ pd.pool.map (·.state) ∧ V pd.depth u.state ∧ Within (Bd B pd.layers.length) u.value ∧
      (∀ a ∈ u.inb, Within B a.cost) ∧
      (∃ a ∈ u.inb, ∃ p, getNode pd.plain a.fromL a.fromP = some p ∧ u.value = satAdd p.value a.cost) := by
    intro u hu
    obtain ⟨h1, h2, h3, h4, h5⟩ := curNodes_facts hI (hL0 ▸ hu)
    exact ⟨h1, h2, h3, h4, h5 hne⟩
  have hcur : ∀ p ∈ List.range L0.length, p < L0.length := fun p hp => List.mem_range.mp hp
  have hpost := relaxLayer_spec cfg pd.plain L0 (List.range L0.length) lg hW hc1 hcur
  have hsrc := srcOk_of_invP cfg H V B o pd hB hI
  have hXne := restStates_ne_nil cfg L0 (List.range L0.length) hW hc1 hcur
  have hXsub : ∀ x ∈ restStatesOf cfg L0 (List.range L0.length), x ∈ pd.pool.map (·.state) := by
    intro x hx
    obtain ⟨n0, hn0, rfl⟩ := restStates_sub cfg L0 _ x hx
    exact (hfacts n0 hn0).1
  have hXV : ∀ x ∈ restStatesOf cfg L0 (List.range L0.length), V pd.depth x := by
    intro x hx
    obtain ⟨n0, hn0, rfl⟩ := restStates_sub cfg L0 _ x hx
    exact (hfacts n0 hn0).2.1
  have hVm : V pd.depth (mergedOf cfg L0 (List.range L0.length)) := hwf.vmerge pd.depth _ hXne hXV
  constructor
  · intro u hu h hH hle
    rw [hL0] at hu
    obtain ⟨huL, huV, _, huarcs, a, ha, p, hp, hv⟩ := hfacts u hu
    obtain ⟨q, hq⟩ := List.mem_iff_getElem?.mp hu
    obtain ⟨q', hq', n', hn', hT⟩ := hpost.transfer q (mem_of_getElem?_range hq) u hq
    refine ⟨q', hq', n', hn', ?_⟩
    rcases hT with ⟨hs, hv'⟩ | ⟨hX, hs, harc⟩
    · refine ⟨by rw [hs]; exact huV, h, by rw [hs]; exact hH, Int.le_trans hle (Int.add_le_add_right hv' _), ?_⟩
      intro h1 hH1
      rw [hs] at hH1 ⊢
      exact hwf.att pd.depth _ var u.state h1 hnv huL huV hH1
    · obtain ⟨h', hH', hle'⟩ := hwf.merge pd.depth (restStatesOf cfg L0 (List.range L0.length)) u.state p.state
        a.dec a.cost h hX hXV hH
      have hge := harc a ha p hp
      have hac : Within B a.cost := huarcs a ha
      have hrc := hsrc.rel p.state u.state (mergedOf cfg L0 (List.range L0.length)) a.dec a.cost hac
      obtain ⟨ly, hly, hpl⟩ := Cover.getNode_lt hp
      have hw := hI.rngL _ ly hly p (List.mem_of_getElem? hpl)
      have hs62 : Bd B a.fromL + B ≤ 4611686018427387904 := by
        rw [← Bd_succ]
        exact Int.le_trans (Bd_mono hB.nonneg (plain_length pd ▸ lt_of_getElem?_some hly))
          (Bd_small hB (Nat.le_succ_of_le hlen))
      rw [Cover.satAdd_of_within hw hac hs62] at hv
      rw [Cover.satAdd_of_within hw hrc hs62] at hge
      refine ⟨by rw [hs]; exact hVm, h', by rw [hs]; exact hH', pot_merge (hv ▸ hle) hle' hge, ?_⟩
      · intro h1' hH1
        rw [hs] at hH1 ⊢
        exact hwf.attMerge pd.depth (pd.pool.map (·.state)) var _ h1' hnv hXne hXsub hXV hH1
  · intro q' _ n' hn' d hd
    rcases relaxLayer_states cfg pd.plain L0 (List.range L0.length) lg q' n' hn' with ⟨n0, hn0, hs⟩ | hs
    · rw [hs] at hd ⊢
      exact hwf.vstep pd.depth _ var n0.state d hnv (hfacts n0 hn0).1 (hfacts n0 hn0).2.1 hd
    · rw [hs] at hd ⊢
      exact hwf.vstepMerge pd.depth (pd.pool.map (·.state)) var _ d hnv hXne hXsub hXV hd
  · exact hpost.range B (Bd B pd.layers.length) hsrc (Bd_nonneg hB.nonneg _)
      ⟨fun n hn => ⟨(hfacts n hn).2.2.1, (hfacts n hn).2.2.2.1⟩, fun q _ u hu => by
        obtain ⟨_, _, _, _, a, ha, p, hp, _⟩ := hfacts u (List.mem_of_getElem? hu)
        exact ⟨a, ha, p, hp⟩⟩

theorem InvP.skip {cfg : Cfg S K} {H : Nat → S → EInt} {V : Nat → S → Prop} {B o : Int} {pd pd' : PD S K} {var : Nat}
    (hI : InvP H V B o pd) (hsk : SkipRel cfg.P H V) (hnv : cfg.P.nextVar pd.depth (pd.pool.map (·.state)) = some var)
    (hall : ∀ m ∈ pd.pool, cfg.P.impacted var m.state = false)
    (hl : pd'.layers = pd.layers) (hp : pd'.pool = pd.pool) (hd : pd'.depth = pd.depth + 1) : InvP H V B o pd' := by
  have hplain : pd'.plain = pd.plain := by unfold PD.plain; rw [hl]
  refine ⟨?_, ?_, by rw [hl, hp, hplain]; exact hI.att, by rw [hp]; exact hI.arcs, by rw [hp, hl]; exact hI.rngN,
    by rw [hplain]; exact hI.rngL, by rw [hl, hp]; exact hI.root0⟩
  · rw [hp, hd]
    exact fun m hm => hsk.vskip pd.depth _ var m.state hnv (List.mem_map_of_mem hm) (hI.valid m hm) (hall m hm)
  · obtain ⟨n, hn, h0, hH, hle⟩ := hI.cover
    obtain ⟨h', hH', hle'⟩ :=
      some_le_elim (hsk.up pd.depth _ var n.state hnv (List.mem_map_of_mem hn) (hI.valid n hn) (hall n hn)) hH
    exact ⟨n, by rw [hp]; exact hn, h', by rw [hd]; exact hH', Int.le_trans hle (Int.add_le_add_left hle' _)⟩

/-- the squashed layer is materialised and expanded: a skipped node keeps the invariant by `SkipRel`, the witness of the
    cover, if it is in the layer, hands it to one of its children (`SqPostP.wit`) -/
theorem expand_invP (cfg : Cfg S K) (H : Nat → S → EInt) (V : Nat → S → Prop) (B o : Int) (hy : HypP cfg H V B o)
    (pd pd' : PD S K) (var : Nat) (layer : List (Node S)) (cur : List Nat) (log : List (Call S))
    (hnv : cfg.P.nextVar pd.depth (pd.pool.map (·.state)) = some var) (hlen : pd.layers.length ≤ cfg.P.nbVars)
    (hI : InvP H V B o pd) (hpost : SqPostP cfg H V B o pd var layer cur) (hcn : curNodes cfg pd var ≠ [])
    (hl : pd'.layers = pd.layers ++ [(pd.depth, (expF cfg var pd.layers.length layer (restNodes cfg pd var) cur log).1)])
    (hp : pd'.pool = (expF cfg var pd.layers.length layer (restNodes cfg pd var) cur log).2.1)
    (hd : pd'.depth = pd.depth + 1) : InvP H V B o pd' := by
  have hpl := plain_length pd
  have hplain := plain_of_layers_append hl
  have hlen' : pd'.layers.length = pd.layers.length + 1 := by rw [hl, List.length_append, List.length_singleton]
  have hkeys : (expF cfg var pd.layers.length layer (restNodes cfg pd var) cur log).1.map key = layer.map key :=
    fold_keys cfg var pd.layers.length cur (layer, restNodes cfg pd var, log)
  have hcost : ∀ s d, d ∈ cfg.P.domain var s → Within B (cfg.P.cost s (cfg.P.trans s ⟨var, d⟩) ⟨var, d⟩) :=
    fun s d hd => hy.B.cost var s d hd
  -- as long as nothing is materialised the pool is the root alone, and it goes into the layer
  have hrest0 : pd.layers = [] → restNodes cfg pd var = [] := fun hl0 =>
    let ⟨_, hn0⟩ := hI.root0 hl0; (curNodes_of_singleton hn0 hcn).2
  have hokG : ∀ m ∈ pd'.pool, NodeOkG (fun l p => (getNode pd'.plain l p).map (·.value)) B (Bd B pd.layers.length) m := by
    rw [hp, hplain]
    refine expF_okG cfg var pd.layers.length layer _ cur log _ B (Bd B pd.layers.length) ?_ hpost.rng hcost ?_
    · -- the expanded layer has the values of `layer`
      intro q n hq
      have h1 := getElem?_of_map_key _ _ hkeys q
      rw [List.getElem?_map, hq, Option.map_some, eq_comm, Option.map_eq_some_iff] at h1
      obtain ⟨x, hx, hk⟩ := h1
      have hg := getNode_last pd.plain (expF cfg var pd.layers.length layer (restNodes cfg pd var) cur log).1 q
      rw [hpl] at hg
      rw [hg, hx]
      exact congrArg some (congrArg Prod.snd hk)
    · intro m hm
      obtain ⟨hmp, _⟩ := mem_restNodes_iff.1 hm
      have hne : pd.layers ≠ [] := fun hl0 => by rw [hrest0 hl0] at hm; cases hm
      obtain ⟨a, ha, p, hp', hv⟩ := hI.att hne m hmp
      exact ⟨⟨a, ha, p.value, by rw [getNode_append_left _ _ _ _ _ hp']; rfl, hv⟩,
        (hI.rngN m hmp).mono (Int.le_add_of_nonneg_right hy.B.nonneg), hI.arcs m hmp⟩
  refine ⟨?_, ?_, ?_, fun m hm => (hokG m hm).arc, ?_, ?_, ?_⟩
  · rw [hp, hd]
    refine fold_states (V (pd.depth + 1)) cfg var pd.layers.length cur (layer, restNodes cfg pd var, log)
      (layer.map key) rfl ?_ ?_
    · intro p hp sv hsv d hdm
      rw [List.getElem?_map, Option.map_eq_some_iff] at hsv
      obtain ⟨n0, hlp, rfl⟩ := hsv
      exact hpost.kids p hp n0 hlp d hdm
    · intro m hm
      obtain ⟨hmp, himp⟩ := mem_restNodes_iff.1 hm
      exact hy.sk.vskip pd.depth _ var m.state hnv (List.mem_map_of_mem hmp) (hI.valid m hmp) himp
  · rw [hp, hd]
    obtain ⟨n0, hn0, h0, hH0, hle0⟩ := hI.cover
    cases hi : cfg.P.impacted var n0.state with
    | true =>
      obtain ⟨q, hq, n, hnq, hVn, h, hH, hle, hatt⟩ :=
        hpost.wit _ (mem_curNodes_iff.2 ⟨n0, hn0, hi, rfl⟩) h0 hH0 hle0
      obtain ⟨d, hdm, h', hH', hle'⟩ := hatt h hH
      obtain ⟨m, hm, hms, hmv⟩ := fold_has_new cfg var pd.layers.length cur (layer, restNodes cfg pd var, log) q hq
        n.state n.value (by rw [List.getElem?_map, hnq]; rfl) (rub_test hy.clamp hle (hy.wfx.rub _ _ _ hVn hH)) d hdm
      rw [Cover.satAdd_of_within (hpost.rng n (List.mem_of_getElem? hnq)) (hcost n.state d hdm)
        (by rw [← Bd_succ]; exact Bd_small hy.B (Nat.succ_le_succ hlen))] at hmv
      exact ⟨m, hm, h', by rw [hms]; exact hH', pot_step hle hle' hmv⟩
    | false =>
      have hr : n0 ∈ restNodes cfg pd var := mem_restNodes_iff.2 ⟨hn0, hi⟩
      obtain ⟨h', hH', hle'⟩ :=
        some_le_elim (hy.sk.up pd.depth _ var n0.state hnv (List.mem_map_of_mem hn0) (hI.valid n0 hn0) hi) hH0
      obtain ⟨m, hm, hms, hmv⟩ := fold_has_mono cfg var pd.layers.length cur (layer, restNodes cfg pd var, log)
        n0.state n0.value ⟨n0, hr, rfl, Int.le_refl _⟩
      exact ⟨m, hm, h', by rw [hms]; exact hH', Int.le_trans hle0 (Int.add_le_add hmv hle')⟩
  · intro _ m hm
    obtain ⟨a, ha, v, hv, hval⟩ := (hokG m hm).att
    rw [Option.map_eq_some_iff] at hv
    obtain ⟨p, hg, rfl⟩ := hv
    exact ⟨a, ha, p, hg, hval⟩
  · intro m hm
    rw [hlen', Bd_succ]
    exact (hokG m hm).rng
  · intro i ly hi m hm
    rw [hplain] at hi
    rcases getElem?_append_singleton_cases hi with hi | ⟨rfl, rfl⟩
    · exact hI.rngL i ly hi m hm
    · have : key m ∈ layer.map key := by rw [← hkeys]; exact List.mem_map_of_mem hm
      obtain ⟨n0, hn0, hk0⟩ := List.mem_map.mp this
      have hv : n0.value = m.value := congrArg Prod.snd hk0
      rw [← hv, hpl]
      exact hpost.rng n0 hn0
  · intro hl0; rw [hl0] at hlen'; cases hlen'

/-- **one step of the pooled loop preserves the coverage invariant**, provided the step does not restrict the layer:
    the compilation is relaxed, or `isExactField` is still set afterwards -/
theorem stepLayerP_cover (cfg : Cfg S K) (H : Nat → S → EInt) (V : Nat → S → Prop) (B o : Int) (hy : HypP cfg H V B o)
    (pd pd' : PD S K) (var : Nat) (hnv : cfg.P.nextVar pd.depth (pd.pool.map (·.state)) = some var)
    (hlen : pd.layers.length ≤ cfg.P.nbVars) (hI : InvP H V B o pd)
    (h : stepLayerP cfg pd var = some pd') (hnr : cfg.ctype = .relaxed ∨ pd'.isExactField = true) :
    InvP H V B o pd' ∧ pd'.layers.length ≤ pd.layers.length + 1 := by
  obtain ⟨hdep, hstep⟩ := stepLayerP_iso cfg pd pd' var hy.cache hy.dom h
  cases hstep with
  | skip hall hl hp _ => exact ⟨hI.skip hy.sk hnv hall hl hp hdep, by rw [hl]; exact Nat.le_succ _⟩
  | mat layer cur ief log hcn _ hsq hl hp hief =>
    refine ⟨expand_invP cfg H V B o hy pd pd' var layer cur log hnv hlen hI ?_ hcn hl hp hdep,
      by rw [hl, List.length_append]; exact Nat.le_refl _⟩
    cases hsq with
    | restrict hc _ _ _ _ hief' =>
      rcases hnr with h1 | h1
      · rw [h1] at hc; cases hc
      · rw [hief, hief'] at h1; cases h1
    | relax hrel hc1 hc2 hW hl' hcu _ _ =>
      dsimp only at hc1 hl' hcu
      rw [hl', hcu]
      exact sqpostP_relax cfg H V B o pd var _ (hy.wfm hrel) hy.B hW hnv hlen hc1 hc2 hI
    | keep _ _ hl' hcu _ _ =>
      dsimp only at hl' hcu
      rw [hl', hcu]
      exact sqpostP_id cfg H V B o pd var hy.wfx hnv hI

theorem stepLayerP_ief (cfg : Cfg S K) (pd pd' : PD S K) (var : Nat) (h : stepLayerP cfg pd var = some pd')
    (he : pd'.isExactField = true) : pd.isExactField = true := by
  obtain ⟨layer, cur, ief, log, hs⟩ := stepLayerP_elim cfg pd pd' var h
  rw [hs.ief] at he
  cases hs.sq with
  | restrict _ _ _ _ _ hief => rw [hief] at he; cases he
  | relax _ _ _ _ _ _ _ hief => rw [hief] at he; cases he
  | keep _ _ _ _ _ hief => rw [hief] at he; exact he

/-- **the coverage invariant along the pooled loop**: at a normal exit some pool node (a terminal node) has value `≥ o`,
    for a relaxed compilation, and for any compilation that ends with `isExactField` still set -/
theorem buildLoopP_cover (cfg : Cfg S K) (H : Nat → S → EInt) (V : Nat → S → Prop) (B o : Int) (hy : HypP cfg H V B o)
    (stopAt : Option Nat) :
    ∀ (fuel : Nat) (pd : PD S K), InvP H V B o pd → pd.layers.length + fuel ≤ cfg.P.nbVars + 2 →
      (buildLoopP cfg stopAt fuel pd).2 = .ok →
      (cfg.ctype = .relaxed ∨ (buildLoopP cfg stopAt fuel pd).1.isExactField = true) →
      ∃ n ∈ (buildLoopP cfg stopAt fuel pd).1.pool, o ≤ n.value := by
  intro fuel pd hI hlen hok hnr
  -- a step that restricts clears `isExactField` for good: the invariant is carried under the condition `hnr`
  obtain ⟨k', _, hfin, hterm⟩ := buildLoopP_induct_le cfg stopAt cfg.P.nbVars
    (fun pd k => (cfg.ctype = .relaxed ∨ pd.isExactField = true) → InvP H V B o pd ∧ pd.layers.length ≤ k)
    (fun pd k h => ⟨fun hnr' => ⟨(h hnr').1.congr rfl rfl rfl, (h hnr').2⟩,
      fun hnr' => ⟨(h hnr').1.congr rfl rfl rfl, (h hnr').2⟩⟩)
    (fun pd pd' var k hk hnv _ h hst hnr' => by
      obtain ⟨h1, h2⟩ := h (hnr'.imp id (stepLayerP_ief cfg pd pd' var hst))
      obtain ⟨h1', h2'⟩ := stepLayerP_cover cfg H V B o hy pd pd' var hnv (Nat.le_trans h2 hk) h1 hst hnr'
      exact ⟨h1', Nat.le_trans h2' (Nat.succ_le_succ h2)⟩)
    fuel pd pd.layers.length (fun _ => ⟨hI, Nat.le_refl _⟩) (.inr ⟨hlen, hok⟩)
  obtain ⟨hI', _⟩ := hfin hnr
  obtain ⟨n, hn, h, hH, hle⟩ := hI'.cover
  rcases hterm hok with hemp | hnv
  · rw [hemp] at hn; cases hn
  · have := hy.wfx.term _ _ n.state h hnv (List.mem_map_of_mem hn) (hI'.valid n hn) hH
    exact ⟨n, hn, by omega⟩

theorem initPD_invP (cfg : Cfg S K) (H : Nat → S → EInt) (V : Nat → S → Prop) (B o : Int) (cache : Cache S)
    (store : DomStore S K) (polls : Nat) (hV : V cfg.root.depth cfg.root.state)
    (hB : NoClampDom cfg.P cfg.R cfg.root.value B) (ho : optOf H cfg.root = some o) :
    InvP H V B o (initPD cfg cache store polls) := by
  unfold optOf EInt.addI at ho
  cases hH : H cfg.root.depth cfg.root.state with
  | none => rw [hH] at ho; cases ho
  | some h0 =>
    rw [hH] at ho
    simp only [Option.map_some, Option.some.injEq] at ho
    refine ⟨?_, ⟨_, List.mem_cons_self, h0, hH, Int.le_of_eq (ho.symm.trans (Int.add_comm _ _))⟩, fun h => absurd rfl h,
      ?_, ?_, fun i ly hi => (nomatch hi), fun _ => ⟨_, rfl⟩⟩
    · intro n hn
      obtain rfl := List.eq_of_mem_singleton hn
      exact hV
    · intro n hn a ha
      obtain rfl := List.eq_of_mem_singleton hn
      cases ha
    · intro n hn
      obtain rfl := List.eq_of_mem_singleton hn
      show Within (Bd B 0) cfg.root.value
      rw [Bd_zero]; exact hB.root

theorem maxValue_termsP_ge (pd : PD S K) (n : Node S) (hn : n ∈ pd.pool) :
    ∃ bv, maxValue (termsP pd) = some bv ∧ n.value ≤ bv := by
  have : ({ n with depth := pd.depth } : Node S) ∈ termsP pd := List.mem_map.2 ⟨n, hn, rfl⟩
  exact maxValue_ge _ { n with depth := pd.depth } this

/-- **`bestValue ≥ o`** for a pooled compilation in isolation that ends normally: relaxed, or exact to the end -/
theorem compileP_cover (cfg : Cfg S K) (H : Nat → S → EInt) (V : Nat → S → Prop) (B o : Int) (hy : HypP cfg H V B o)
    (cache : Cache S) (store : DomStore S K) (polls : Nat) (stopAt : Option Nat)
    (hV : V cfg.root.depth cfg.root.state) (ho : optOf H cfg.root = some o)
    (hok : (compileP cfg cache store polls stopAt).1 = .ok)
    (hnr : cfg.ctype = .relaxed ∨ (compileP cfg cache store polls stopAt).2.2.2.isExactField = true) :
    ∃ bv, maxValue (termsP (compileP cfg cache store polls stopAt).2.2.2) = some bv ∧ o ≤ bv := by
  rw [compileP_outcome] at hok
  rw [compileP_pd] at hnr ⊢
  obtain ⟨n, hn, hle⟩ := buildLoopP_cover cfg H V B o hy stopAt (cfg.P.nbVars + 2) (initPD cfg cache store polls)
    (initPD_invP cfg H V B o cache store polls hV hy.B ho) (by simp [initPD]) hok hnr
  obtain ⟨bv, h1, h2⟩ := maxValue_termsP_ge _ n hn
  exact ⟨bv, h1, Int.le_trans hle h2⟩

theorem buildLoopP_none_succ (cfg : Cfg S K) (fuel : Nat) (pd : PD S K) :
    buildLoopP cfg none (fuel + 1) pd =
      match cfg.P.nextVar pd.depth (pd.pool.map (·.state)) with
      | none => (logNV cfg pd, .ok)
      | some var =>
        if pd.pool.isEmpty = true then (polled cfg pd, Outcome.ok)
        else match stepLayerP cfg (polled cfg pd) var with
          | none => (polled cfg pd, Outcome.crash)
          | some pd' => buildLoopP cfg none fuel pd' := by
  cases hnv : cfg.P.nextVar pd.depth (pd.pool.map (·.state)) with
  | none =>
    conv => lhs; unfold buildLoopP
    simp only [hnv, logNV]
  | some var =>
    conv => lhs; unfold buildLoopP
    simp only [hnv, logNV, polled, Bool.false_eq_true, if_false]
    rfl

/-- in isolation, with a width `≥ 1`, `_move_to_next_layer` does not panic -/
theorem stepLayerP_ne_none (cfg : Cfg S K) (pd : PD S K) (var : Nat) (hc : cfg.useCache = false) (hd : cfg.dom = none)
    (hW : 1 ≤ cfg.width) : stepLayerP cfg pd var ≠ none := by
  have hw0 : (cfg.width == 0) = false := by
    cases h : cfg.width with
    | zero => omega
    | succ n => rfl
  have hp : prepLayerP cfg pd var ≠ none := by
    rw [prepLayerP_eq, fdOf_iso cfg pd var hc hd]
    unfold prepCore
    simp [hw0]
  unfold stepLayerP
  cases h : prepLayerP cfg pd var with
  | none => exact absurd h hp
  | some t => obtain ⟨a, b, c, d, e, f⟩ := t; simp

theorem stepLayerP_depth (cfg : Cfg S K) (pd pd' : PD S K) (var : Nat) (h : stepLayerP cfg pd var = some pd') :
    pd'.depth = pd.depth + 1 := by
  obtain ⟨layer, cur, ief, log, hs⟩ := stepLayerP_elim cfg pd pd' var h
  exact hs.depth

/-- **no crash**: the pooled loop without cutoff, in isolation, width `≥ 1`, ends normally — at the latest when
    `next_variable` answers `None` at depth `nb_variables` (`NvB`) -/
theorem buildLoopP_no_crash (cfg : Cfg S K) (hc : cfg.useCache = false) (hd : cfg.dom = none) (hW : 1 ≤ cfg.width)
    (hNV : ∀ k L, cfg.P.nbVars ≤ k → cfg.P.nextVar k L = none) :
    ∀ (fuel : Nat) (pd : PD S K), pd.depth ≤ cfg.P.nbVars → cfg.P.nbVars + 1 ≤ pd.depth + fuel →
      (buildLoopP cfg none fuel pd).2 = .ok := by
  intro fuel
  induction fuel with
  | zero => intro pd h1 h2; omega
  | succ fuel ih =>
    intro pd h1 h2
    rw [buildLoopP_none_succ]
    cases hnv : cfg.P.nextVar pd.depth (pd.pool.map (·.state)) with
    | none => rfl
    | some var =>
      have hlt : pd.depth < cfg.P.nbVars := by
        by_cases hk : cfg.P.nbVars ≤ pd.depth
        · rw [hNV _ _ hk] at hnv; cases hnv
        · exact Nat.lt_of_not_le hk
      dsimp only
      split
      · rfl
      · cases hst : stepLayerP cfg (polled cfg pd) var with
        | none => exact absurd hst (stepLayerP_ne_none cfg _ var hc hd hW)
        | some pd' =>
          dsimp only
          have hdep := stepLayerP_depth cfg _ pd' var hst
          have hpd : (polled cfg pd).depth = pd.depth := rfl
          exact ih pd' (by omega) (by omega)

theorem compileP_no_crash (cfg : Cfg S K) (cache : Cache S) (store : DomStore S K) (polls : Nat)
    (hc : cfg.useCache = false) (hd : cfg.dom = none) (hW : 1 ≤ cfg.width)
    (hNV : ∀ k L, cfg.P.nbVars ≤ k → cfg.P.nextVar k L = none)
    (hdepth : cfg.root.depth ≤ cfg.P.nbVars) : (compileP cfg cache store polls none).1 = .ok := by
  rw [compileP_outcome]
  refine buildLoopP_no_crash cfg hc hd hW hNV _ _ hdepth ?_
  show cfg.P.nbVars + 1 ≤ cfg.root.depth + (cfg.P.nbVars + 2); omega

theorem stepLayerP_allEx (cfg : Cfg S K) (pd pd' : PD S K) (var : Nat) (h : stepLayerP cfg pd var = some pd')
    (he : pd'.isExactField = true) (hall : ∀ n ∈ pd.pool, n.isExact = true) : ∀ n ∈ pd'.pool, n.isExact = true := by
  obtain ⟨layer, cur, ief, log, hs⟩ := stepLayerP_elim cfg pd pd' var h
  rw [hs.ief] at he
  have hlayer : ∀ n ∈ layer, n.isExact = true := by
    cases hs.sq with
    | restrict _ _ _ _ _ hief => rw [hief] at he; cases he
    | relax _ _ _ _ _ _ _ hief => rw [hief] at he; cases he
    | keep _ _ hl _ _ _ =>
      intro n hn
      rw [hl] at hn
      obtain ⟨n0, h0, he0, _⟩ := fdOf_subS cfg pd var n hn
      rw [← he0]
      obtain ⟨m, hm, _, rfl⟩ := mem_curNodes_iff.1 h0
      exact hall m hm
  have hrest : ∀ n ∈ restNodes cfg pd var, n.isExact = true := fun n hn => hall n (mem_restNodes_iff.1 hn).1
  rw [hs.pool]
  exact (expF_allEx cfg var pd.layers.length layer _ cur log hlayer hrest).2

theorem buildLoopP_allEx (cfg : Cfg S K) (stopAt : Option Nat) (fuel : Nat) (pd : PD S K)
    (he : (buildLoopP cfg stopAt fuel pd).1.isExactField = true) (hall : ∀ n ∈ pd.pool, n.isExact = true) :
    ∀ n ∈ (buildLoopP cfg stopAt fuel pd).1.pool, n.isExact = true :=
  buildLoopP_ind cfg stopAt (fun pd => pd.isExactField = true → ∀ n ∈ pd.pool, n.isExact = true) (fun pd h => ⟨h, h⟩)
    (fun pd pd' var _ _ h hst he' => stepLayerP_allEx cfg pd pd' var hst he' (h (stepLayerP_ief cfg pd pd' var hst he')))
    fuel pd (fun _ => hall) he

theorem compileP_allEx (cfg : Cfg S K) (cache : Cache S) (store : DomStore S K) (polls : Nat) (stopAt : Option Nat)
    (he : (compileP cfg cache store polls stopAt).2.2.2.isExactField = true) :
    ∀ n ∈ (compileP cfg cache store polls stopAt).2.2.2.pool, n.isExact = true := by
  rw [compileP_pd] at he ⊢
  refine buildLoopP_allEx cfg stopAt _ _ he ?_
  intro n hn
  simp only [initPD, List.mem_singleton] at hn
  subst hn; rfl

end Ddo.PCover
