import DdoModel.Proofs.DomSound
/-! # Relaxed compilation with the dominance checker enabled — flag analysis of `relaxLayer` / `expandAll`

* `FlagInv`, `relaxLayer_specF` — `relaxLayer` position-wise, flags included: a node of the relaxed layer is kept at its
  position (exactness does not increase, an exact node keeps its value) or merged into the node at the merged position,
  which is flagged relaxed (hence inexact).
* `fold_child_exsrc` — `expandAll`: an exact child only holds arcs from exact nodes of the expanded layer.
-/
set_option linter.unusedSectionVars false
set_option linter.unusedVariables false
namespace Ddo.C10
open Ddo Ddo.C01 Ddo.Closed Ddo.Truth
variable {S K : Type} [DecidableEq S] [DecidableEq K]

/-- `ly` against the layer `base` it was computed from: exactness does not increase position-wise; the node at `mpos` is
    flagged relaxed -/
structure FlagInv (mpos : Nat) (base ly : List (Node S)) : Prop where
  ex : ∀ (q : Nat) (n' : Node S), ly[q]? = some n' → n'.isExact = true → ∃ n, base[q]? = some n ∧ n.isExact = true
  rel : ∀ m, ly[mpos]? = some m → m.fRelaxed = true

theorem FlagInv.set {mpos : Nat} {base ly : List (Node S)} (h : FlagInv mpos base ly) {p : Nat} {n n' : Node S}
    (hp : ly[p]? = some n) (he : n'.isExact = true → n.isExact = true) (hr : n.fRelaxed = true → n'.fRelaxed = true) :
    FlagInv mpos base (ly.set p n') := by
  have hlt := Cover.lt_of_getElem?_some hp
  refine ⟨fun q m hq hm => ?_, fun m hm => ?_⟩
  · by_cases hpq : p = q
    · subst hpq
      rw [List.getElem?_set_self hlt] at hq
      cases hq
      exact h.ex p n hp (he hm)
    · rw [List.getElem?_set_ne hpq] at hq
      exact h.ex q m hq hm
  · by_cases hpq : p = mpos
    · subst hpq
      rw [List.getElem?_set_self hlt] at hm
      cases hm
      exact hr (h.rel n hp)
    · rw [List.getElem?_set_ne hpq] at hm
      exact h.rel m hm

theorem dropStep_flag (cfg : Cfg S K) (layers : List (List (Node S))) (merged : S) (mpos : Nat)
    (acc : List (Node S) × List (Call S)) (p : Nat) (base : List (Node S)) (h : FlagInv mpos base acc.1) :
    FlagInv mpos base (Cover.dropStep cfg layers merged mpos acc p).1 := by
  unfold Cover.dropStep
  cases h1 : acc.1[p]? with
  | none => exact h
  | some dropN =>
    dsimp only
    refine Ddo.foldl_inv (β := List (Node S) × List (Call S)) (fun b => FlagInv mpos base b.1) _ dropN.inb _
      (h.set h1 (fun he => he) (fun hr => hr)) ?_
    -- redirecting an arc of the dropped node appends an edge to the merged node or changes nothing
    intro b e _ hb
    rcases Cover.redirStep_cases cfg layers merged mpos dropN b e with ⟨h1, _⟩ | ⟨src, m, _, hm, h1⟩
    · rw [h1]; exact hb
    · rw [h1]
      refine hb.set hm (fun he => ?_) (fun hr => ?_)
      · rw [Ddo.appendEdge_isExact, Bool.and_eq_true] at he
        exact he.2
      · rw [Ddo.appendEdge_fRelaxed]; exact hr

theorem outer_flag (cfg : Cfg S K) (layers : List (List (Node S))) (merged : S) (mpos : Nat)
    (rest : List Nat) (acc : List (Node S) × List (Call S)) (base : List (Node S)) (h : FlagInv mpos base acc.1) :
    FlagInv mpos base (rest.foldl (Cover.dropStep cfg layers merged mpos) acc).1 :=
  Ddo.foldl_inv (β := List (Node S) × List (Call S)) (fun b => FlagInv mpos base b.1) _ rest acc h
    (fun b p _ hb => dropStep_flag cfg layers merged mpos b p base hb)

theorem markRelaxed_flag (mpos : Nat) (base l : List (Node S))
    (h : ∀ (q : Nat) (n' : Node S), l[q]? = some n' → n'.isExact = true → ∃ n, base[q]? = some n ∧ n.isExact = true) :
    FlagInv mpos base (Cover.markRelaxed l mpos) := by
  unfold Cover.markRelaxed
  cases h1 : l[mpos]? with
  | none => exact ⟨h, fun m hm => by rw [h1] at hm; cases hm⟩
  | some n =>
    dsimp only
    have hlt := Cover.lt_of_getElem?_some h1
    refine ⟨fun q m hq hm => ?_, fun m hm => ?_⟩
    · by_cases hpq : mpos = q
      · subst hpq
        rw [List.getElem?_set_self hlt] at hq
        cases hq
        rw [Ddo.isExact_of_fRelaxed rfl] at hm
        cases hm
      · rw [List.getElem?_set_ne hpq] at hq
        exact h q m hq hm
    · rw [List.getElem?_set_self hlt] at hm
      cases hm
      rfl

theorem undelete_flag (mpos : Nat) (base l : List (Node S)) (c : List Nat) (h : FlagInv mpos base l) :
    FlagInv mpos base (Cover.undelete l c) := by
  unfold Cover.undelete
  cases c.getLast? with
  | none => exact h
  | some sp =>
    dsimp only
    cases h1 : l[sp]? with
    | none => exact h
    | some n => exact h.set h1 (fun he => he) (fun hr => hr)

/-- what a node `u` (position `q`) of the layer becomes after the relaxation, flags included: it is kept at its position
    (value and arcs can only grow, exactness does not increase, an exact node keeps its value), or it is merged into an
    inexact node to which every one of its inbound arcs has been redirected -/
def TransferF (cfg : Cfg S K) (layers : List (List (Node S))) (layer : List (Node S)) (cur : List Nat)
    (u n' : Node S) : Prop :=
  (n'.state = u.state ∧ u.value ≤ n'.value ∧ (∀ a ∈ u.inb, a ∈ n'.inb) ∧
    (n'.isExact = true → u.isExact = true ∧ n'.value = u.value)) ∨
  (n'.isExact = false ∧ u.state ∈ Cover.restStatesOf cfg layer cur ∧ n'.state = Cover.mergedOf cfg layer cur ∧
    ∀ a ∈ u.inb, ∀ src, getNode layers a.fromL a.fromP = some src →
      (⟨a.fromL, a.fromP, a.dec, cfg.R.relax src.state u.state (Cover.mergedOf cfg layer cur) a.dec a.cost⟩ : Arc) ∈ n'.inb ∧
      satAdd src.value (cfg.R.relax src.state u.state (Cover.mergedOf cfg layer cur) a.dec a.cost) ≤ n'.value)

theorem relax_coreF (cfg : Cfg S K) (layers : List (List (Node S))) (layer layer1 out : List (Node S)) (cur cur' : List Nat)
    (mpos : Nat) (lg0 : List (Call S))
    (h1 : ∀ q, q < layer.length → layer1[q]? = layer[q]?)
    (hm0 : ∃ m0, layer1[mpos]? = some m0 ∧ m0.state = Cover.mergedOf cfg layer cur)
    (hout : Cover.Ext mpos ((Cover.restOf cfg layer cur).foldl (Cover.dropStep cfg layers (Cover.mergedOf cfg layer cur) mpos)
            (Cover.markRelaxed layer1 mpos, lg0)).1 out)
    (houtI : Bounds.InbSub mpos ((Cover.restOf cfg layer cur).foldl (Cover.dropStep cfg layers (Cover.mergedOf cfg layer cur) mpos)
            (Cover.markRelaxed layer1 mpos, lg0)).1 out)
    (hF : FlagInv mpos layer out)
    (hkeep : ∀ q ∈ Cover.keepOf cfg layer cur, q ∈ cur') (hmp : mpos ∈ cur')
    (q : Nat) (hq : q ∈ cur) (u : Node S) (hu : layer[q]? = some u) :
    ∃ q' ∈ cur', ∃ n', out[q']? = some n' ∧ TransferF cfg layers layer cur u n' := by
  have hql := Cover.lt_of_getElem?_some hu
  have hu1 : layer1[q]? = some u := by rw [h1 q hql]; exact hu
  have E1 := Cover.markRelaxed_ext mpos layer1 mpos
  have E2 := Cover.outer_ext cfg layers (Cover.mergedOf cfg layer cur) mpos (Cover.restOf cfg layer cur)
    (Cover.markRelaxed layer1 mpos, lg0)
  have E : Cover.Ext mpos layer1 out := E1.trans (E2.trans hout)
  have I1 := Bounds.markRelaxed_inbSub mpos layer1 mpos
  have I2 := Bounds.outer_inbSub cfg layers (Cover.mergedOf cfg layer cur) mpos (Cover.restOf cfg layer cur)
    (Cover.markRelaxed layer1 mpos, lg0)
  have I : Bounds.InbSub mpos layer1 out := I1.trans (I2.trans houtI)
  have hqs : q ∈ Cover.keepOf cfg layer cur ∨ q ∈ Cover.restOf cfg layer cur := by
    have : q ∈ sortSquash cfg layer cur := by unfold sortSquash; exact (Cover.mem_sortBy _ _ _).mpr hq
    rw [← List.take_append_drop (cfg.width - 1) (sortSquash cfg layer cur)] at this
    exact List.mem_append.mp this
  by_cases hqm : q = mpos
  · subst hqm
    obtain ⟨m', hm', hs', hv'⟩ := E.at_m u hu1
    obtain ⟨m'', hm'', hi'⟩ := I u hu1
    rw [hm'] at hm''; cases hm''
    refine ⟨q, hmp, m', hm', Or.inl ⟨hs', hv', hi', fun he => ?_⟩⟩
    rw [Ddo.isExact_of_fRelaxed (hF.rel m' hm')] at he
    cases he
  · have ho := E.other q hqm
    rw [hu1] at ho
    obtain ⟨n', hn', hs', hv', hi'⟩ := Cover.sig_of_map ho
    rcases hqs with hk | hr
    · refine ⟨q, hkeep q hk, n', hn', Or.inl ⟨hs', Int.le_of_eq hv'.symm, fun a ha => by rw [hi']; exact ha, fun he => ?_⟩⟩
      obtain ⟨u', hu', hue⟩ := hF.ex q n' hn' he
      rw [hu] at hu'; cases hu'
      exact ⟨hue, hv'⟩
    · obtain ⟨m0, hm0, hms⟩ := hm0
      obtain ⟨m', hm', hs'', _⟩ := E.at_m m0 hm0
      refine ⟨mpos, hmp, m', hm', Or.inr ⟨Ddo.isExact_of_fRelaxed (hF.rel m' hm'), ?_, by rw [hs'', hms], ?_⟩⟩
      · unfold Cover.restStatesOf
        exact List.mem_filterMap.mpr ⟨q, hr, by rw [hu]; rfl⟩
      · intro a ha src hsrc
        obtain ⟨m1, hm1, _, _⟩ := E1.at_m m0 hm0
        have hlb := Cover.outer_recv cfg layers (Cover.mergedOf cfg layer cur) mpos (Cover.restOf cfg layer cur)
          (Cover.markRelaxed layer1 mpos, lg0) q hr hqm u.state u.value u.inb
          (by rw [E1.other q hqm, hu1]; rfl) a ha src m1 hsrc hm1
        have hla := Bounds.outer_recvA cfg layers (Cover.mergedOf cfg layer cur) mpos (Cover.restOf cfg layer cur)
          (Cover.markRelaxed layer1 mpos, lg0) q hr hqm u.state u.value u.inb
          (by rw [E1.other q hqm, hu1]; rfl) a ha src m1 hsrc hm1
        obtain ⟨m2, hm2, hv2⟩ := Cover.LB_ext hlb hout
        rw [hm'] at hm2; cases hm2
        obtain ⟨m3, hm3, hv3⟩ := Bounds.HasArc_sub hla houtI
        rw [hm'] at hm3; cases hm3
        exact ⟨hv3, hv2⟩

theorem relaxLayer_specF (cfg : Cfg S K) (layers : List (List (Node S))) (layer : List (Node S)) (cur : List Nat)
    (log : List (Call S)) (hW : 1 ≤ cfg.width) (hcur : ∀ p ∈ cur, p < layer.length) :
    ∀ q ∈ cur, ∀ u, layer[q]? = some u →
      ∃ q' ∈ (relaxLayer cfg layers layer cur log).2.1, ∃ n', (relaxLayer cfg layers layer cur log).1[q']? = some n' ∧
        TransferF cfg layers layer cur u n' := by
  apply Cover.relaxLayer_elim cfg layers layer cur log
    (fun r => ∀ q ∈ cur, ∀ u, layer[q]? = some u → ∃ q' ∈ r.2.1, ∃ n', r.1[q']? = some n' ∧ TransferF cfg layers layer cur u n')
  · -- fresh merged node
    intro hrec
    generalize Theta.d0Of cfg layer cur = d0
    intro lg q hq u hu
    have h1 : ∀ q, q < layer.length →
        (layer ++ [Cover.freshMerged (Cover.mergedOf cfg layer cur) d0])[q]? = layer[q]? :=
      fun q hq => List.getElem?_append_left hq
    have hm0 : (layer ++ [Cover.freshMerged (Cover.mergedOf cfg layer cur) d0])[layer.length]? =
        some (Cover.freshMerged (Cover.mergedOf cfg layer cur) d0) := List.getElem?_concat_length
    have hF0 : ∀ (q : Nat) (n' : Node S), (layer ++ [Cover.freshMerged (Cover.mergedOf cfg layer cur) d0])[q]? = some n' →
        n'.isExact = true → ∃ n, layer[q]? = some n ∧ n.isExact = true := by
      intro q n' hq' he
      rcases Nat.lt_or_ge q layer.length with hlt | hge
      · rw [h1 q hlt] at hq'; exact ⟨n', hq', he⟩
      · have hlt2 := Cover.lt_of_getElem?_some hq'
        rw [List.length_append, List.length_singleton] at hlt2
        have : q = layer.length := Nat.le_antisymm (Nat.le_of_lt_succ hlt2) hge
        subst this
        rw [hm0] at hq'
        cases hq'
        cases he
    have hF := outer_flag cfg layers (Cover.mergedOf cfg layer cur) layer.length (Cover.restOf cfg layer cur)
      (Cover.markRelaxed (layer ++ [Cover.freshMerged (Cover.mergedOf cfg layer cur) d0]) layer.length, lg) layer
      (markRelaxed_flag layer.length layer _ hF0)
    exact relax_coreF cfg layers layer _ _ cur _ layer.length lg h1 ⟨_, hm0, rfl⟩ (Cover.Ext.refl _ _)
      (Bounds.InbSub.refl _ _) hF (fun q hq => List.mem_append_left _ hq)
      (List.mem_append_right _ List.mem_cons_self) q hq u hu
  · -- recycled node
    intro mp hrec lg q hq u hu
    have hmk : mp ∈ Cover.keepOf cfg layer cur := List.mem_of_find?_eq_some hrec
    have hmn : ∃ n, layer[mp]? = some n ∧ n.state = Cover.mergedOf cfg layer cur := by
      have := List.find?_some hrec
      cases h : layer[mp]? with
      | none => rw [h] at this; cases this
      | some n => rw [h] at this; exact ⟨n, rfl, of_decide_eq_true this⟩
    have hsub : ∀ q ∈ Cover.keepOf cfg layer cur, q ∈ (sortSquash cfg layer cur).take cfg.width :=
      fun q hq => Cover.mem_take_mono hq (by omega)
    have hF := undelete_flag mp layer _ ((sortSquash cfg layer cur).take cfg.width)
      (outer_flag cfg layers (Cover.mergedOf cfg layer cur) mp (Cover.restOf cfg layer cur)
        (Cover.markRelaxed layer mp, lg) layer (markRelaxed_flag mp layer layer (fun q n' hq' he => ⟨n', hq', he⟩)))
    exact relax_coreF cfg layers layer layer _ cur _ mp lg (fun _ _ => rfl) hmn (Cover.undelete_ext _ _ _)
      (Bounds.undelete_inbSub _ _ _) hF hsub (hsub mp hmk) q hq u hu

/-- every arc of an exact node comes from a position of `ly0` holding an exact node -/
def ExSrc (ly0 : List (Node S)) (m : Node S) : Prop :=
  m.isExact = true → ∀ a ∈ m.inb, ∃ n0, ly0[a.fromP]? = some n0 ∧ n0.isExact = true

theorem fold_child_exsrc (cfg : Cfg S K) (var lidx : Nat) (cur : List Nat) (layer : List (Node S)) (lg : List (Call S)) :
    ∀ m ∈ (cur.foldl (expandOne cfg var lidx) (layer, [], lg)).2.1, ExSrc layer m := by
  have key : RubEq (cur.foldl (expandOne cfg var lidx) (layer, [], lg)).1 layer ∧
      ∀ m ∈ (cur.foldl (expandOne cfg var lidx) (layer, [], lg)).2.1, ExSrc layer m := by
    refine Ddo.foldl_inv (β := List (Node S) × List (Node S) × List (Call S))
      (fun acc => RubEq acc.1 layer ∧ ∀ m ∈ acc.2.1, ExSrc layer m) _ cur _ ⟨RubEq.refl _, fun m hm => by cases hm⟩ ?_
    intro b p _ hb
    refine ⟨Bounds.expandOne_rubEq cfg var lidx b p layer hb.1, ?_⟩
    obtain ⟨hrub, hall⟩ := hb
    obtain ⟨ly, nx, lg'⟩ := b
    cases h : ly[p]? with
    | none => rw [Cover.expandOne_none _ _ _ _ _ _ _ h]; exact hall
    | some n =>
      rw [Cover.expandOne_some _ _ _ _ _ _ _ n h]
      obtain ⟨n0, hn0, hs⟩ := hrub.get h
      have hie : n0.isExact = n.isExact := (Ddo.stripRub_core hs).1
      split
      · dsimp only at hall ⊢
        refine Cover.branchAll_forall (ExSrc layer) cfg var lidx p _ _ (nx, _) hall ?_ ?_
        · intro d _ m hm he a ha
          rw [Ddo.appendEdge_isExact, Bool.and_eq_true] at he
          rw [Cover.appendEdge_inb] at ha
          rcases List.mem_cons.mp ha with ha | ha
          · rw [ha]
            exact ⟨n0, hn0, by rw [hie]; exact he.1⟩
          · exact hm he.2 a ha
        · intro d _ he a ha
          rw [Ddo.appendEdge_isExact, Bool.and_eq_true] at he
          rw [Cover.appendEdge_inb] at ha
          rcases List.mem_cons.mp ha with ha | ha
          · rw [ha]
            exact ⟨n0, hn0, by rw [hie]; exact he.1⟩
          · simp only [Cover.freshNode] at ha; cases ha
      · exact hall
  exact key.2

end Ddo.C10
