import DdoModel.Proofs.CompatStore
import DdoModel.Proofs.SeqCacheDedup
/-! C10e — **the abstract step of the joint invariant** (clauses *main* and *entries* of `Ddo.C10d.CompatInv`) over one compiled
turn, from a **contract of a single compilation**.

`Proofs/SeqCache.lean` proves the step of the caching solver (`step_generic`) for an abstract potential `H`, from the contract
`CompC` of one caching compilation.  The joint invariant is its restriction to ONE level of potential: call an item `(x, v)` of
depth `d` **hot** when `v + H d x ≥ opt` (`Hot`; with the pseudo-potential of `Proofs/CompatPot.lean` "hot" *is* `GAbove`).
Every clause of `CInvC` / `CompC` is read at that level only — which is what makes the dominance checker harmless: whatever it
drops is not hot.

* `MEInv F T`: a hot open node with a bound `≥ opt` that `must_explore` accepts exists (`LiveO … 0`: clause *main*), and every
  cache entry that applies to a hot item is backed by such a node at least as deep (clause *entries*);
* `JCompC N T o ups`: the contract of one compilation of `N` consulting the cache view `T`, output `o`, updates `ups`, **under the
  standing assumption that the incumbent stays below `opt`**: `exact` / `cover` (a hot root reaches the cut-set or a deeper entry of
  `T` that applies to a hot item: `HitO`), `theta` (a recorded threshold that applies to a hot item is justified by a hot cut-set
  node at least as deep or by `HitO`), `ub` (a hot cut-set node has a bound `≥ opt`, or `HitO` below it), `fresh`, `exactCut`,
  `deeper`, `rng`;
* `step_me`: `MEInv (N :: F') T` and `JCompC N T o ups` give the two clauses for the new fringe `Fn` (any list that dominates — in
  the sense of the duplicate-free fringe — the rest of the fringe and, when `o` is not exact, the cut-set nodes whose bound is
  `≥ opt`) and the cache `T.upds ups`.  No hypothesis on the pop order. -/
set_option linter.unusedSectionVars false
set_option linter.unusedVariables false

namespace Ddo.C10d
open Ddo Ddo.C01 Ddo.Closed Ddo.C09 Ddo.C10 Ddo.C10c

section abs
variable {S : Type} [DecidableEq S]
variable (H : Nat → S → EInt) (opt : Int) (Rg : Nat → Int → Prop)

/-- the item `(x, v)` of depth `d` has a potential `≥ opt` -/
def Hot (d : Nat) (x : S) (v : Int) : Prop := ∃ h, H d x = some h ∧ opt ≤ v + h
def HotN (c : SubP S) : Prop := Hot H opt c.depth c.state c.value

/-- a hot open node of depth `≥ d`, bound `≥ opt`, accepted by `must_explore` -/
def LiveO (F : List (SubP S)) (T : CView S) (d : Nat) : Prop :=
  ∃ c ∈ F, d ≤ c.depth ∧ HotN H opt c ∧ opt ≤ c.ub ∧ ¬ prunM T c

/-- the cache `T` holds, strictly deeper than `d`, an entry that applies to a hot item -/
def HitO (T : CView S) (d : Nat) : Prop :=
  ∃ (x : S) (d' : Nat) (t : Thr) (v : Int), T x d' = some t ∧ d < d' ∧ Rg d' v ∧ v ≤ t.value ∧ Hot H opt d' x v

structure MEInv (F : List (SubP S)) (T : CView S) : Prop where
  rng : ∀ c ∈ F, Rg c.depth c.value
  root : LiveO H opt F T 0
  cache : ∀ (x : S) (d : Nat) (t : Thr) (v : Int), T x d = some t → Rg d v → v ≤ t.value → Hot H opt d x v → LiveO H opt F T d

/-- contract of one compilation, at the level `opt`, the incumbent staying below `opt` -/
structure JCompC (N : SubP S) (T : CView S) (o : DDOut S) (ups : List (S × Nat × Int × Bool)) : Prop where
  exact : o.isExact = true → HotN H opt N → HitO H opt Rg T N.depth
  exactCut : o.isExact = true → ∀ c ∈ o.cutset, c.ub < opt
  cover : o.isExact = false → HotN H opt N → (∃ c ∈ o.cutset, HotN H opt c) ∨ HitO H opt Rg T N.depth
  theta : ∀ u ∈ ups, ∀ v, Rg u.2.1 v → v ≤ u.2.2.1 → Hot H opt u.2.1 u.1 v →
    (∃ c ∈ o.cutset, u.2.1 ≤ c.depth ∧ HotN H opt c) ∨ HitO H opt Rg T u.2.1
  rng : ∀ c ∈ o.cutset, Rg c.depth c.value
  deeper : ∀ c ∈ o.cutset, N.depth < c.depth
  ub : ∀ c ∈ o.cutset, HotN H opt c → opt ≤ c.ub ∨ HitO H opt Rg T c.depth
  fresh : ∀ c ∈ o.cutset, opt ≤ c.ub → ¬ prunM (T.upds ups) c

theorem liveO_mono {F : List (SubP S)} {T : CView S} {d d' : Nat} (h : LiveO H opt F T d) (hd : d' ≤ d) : LiveO H opt F T d' := by
  obtain ⟨c, hc, hdc, h1, h2, h3⟩ := h
  exact ⟨c, hc, Nat.le_trans hd hdc, h1, h2, h3⟩

theorem hotN_dom {s c : SubP S} (hd : Dom s c) (h : HotN H opt c) : HotN H opt s := by
  obtain ⟨h0, hH, hle⟩ := h
  have h1 := hd.value
  exact ⟨h0, by rw [hd.state, hd.depth]; exact hH, by omega⟩

theorem liveO_of_dom {F : List (SubP S)} {T : CView S} {d : Nat} {s c : SubP S} (hs : s ∈ F) (hd : Dom s c) (hdc : d ≤ c.depth)
    (hot : HotN H opt c) (hub : opt ≤ c.ub) (hnp : ¬ prunM T c) : LiveO H opt F T d := by
  have h1 := hd.depth
  have h2 := hd.ub
  exact ⟨s, hs, by omega, hotN_dom H opt hd hot, by omega, fun hp => hnp (prunM_dom T hd hp)⟩

theorem step_me (N : SubP S) (F' Fn : List (SubP S)) (T : CView S) (o : DDOut S) (ups : List (S × Nat × Int × Bool))
    (hinv : MEInv H opt Rg (N :: F') T) (hC : JCompC H opt Rg N T o ups)
    (hsubD : ∀ c ∈ F', ∃ s ∈ Fn, Dom s c)
    (henqD : o.isExact = false → ∀ c0 ∈ o.cutset, opt ≤ c0.ub → ∃ s ∈ Fn, Dom s c0) :
    LiveO H opt Fn (T.upds ups) 0 ∧
    ∀ (x : S) (d : Nat) (t : Thr) (v : Int), (T.upds ups) x d = some t → Rg d v → v ≤ t.value → Hot H opt d x v →
      LiveO H opt Fn (T.upds ups) d := by
  have hCC : ∀ d, HitO H opt Rg T d → ∃ d', d < d' ∧ LiveO H opt (N :: F') T d' := by
    intro d hh
    obtain ⟨x, d', t, v, hT, hdd, hrg, hvt, hot⟩ := hh
    exact ⟨d', hdd, hinv.cache x d' t v hT hrg hvt hot⟩
  have hEnq : ∀ c' ∈ o.cutset, HotN H opt c' → LiveO H opt Fn (T.upds ups) c'.depth ∨ HitO H opt Rg T c'.depth := by
    intro c' hc' hot
    rcases hC.ub c' hc' hot with h | h
    · cases hex : o.isExact with
      | true => exact absurd h (Int.not_le.2 (hC.exactCut hex c' hc'))
      | false =>
        left
        obtain ⟨s, hs, hd⟩ := henqD hex c' hc' h
        exact liveO_of_dom H opt hs hd (Nat.le_refl _) hot h (hC.fresh c' hc' h)
    · exact Or.inr h
  obtain ⟨D, hD⟩ := depth_bound (N :: F')
  -- `transfer_by_depth` at the one level `opt`: a witness survives, or a witness strictly deeper stands behind it
  have hTr' : ∀ d, LiveO H opt (N :: F') T d → LiveO H opt Fn (T.upds ups) d := by
    refine fun d => transfer_by_depth (L := fun _ d => LiveO H opt (N :: F') T d) (L' := fun _ d => LiveO H opt Fn (T.upds ups) d)
      (B := fun _ => True) (D := D) (fun _ d hl => ?_) (fun _ _ _ _ => trivial)
      (fun _ _ _ _ h _ hd => liveO_mono H opt h hd) (fun x d _ hL => ?_) opt d trivial
    · obtain ⟨c, hc, hdc, _⟩ := hl
      exact Nat.le_trans hdc (hD c hc)
    obtain ⟨c, hc, hdc, hot, hxu, hnp⟩ := hL
    have hcov : ∀ d1, d ≤ d1 → HitO H opt Rg T d1 →
        LiveO H opt Fn (T.upds ups) d ∨ ∃ (x' : Int) (d' : Nat), x ≤ x' ∧ d < d' ∧ LiveO H opt (N :: F') T d' := by
      intro d1 hd1 hcc
      obtain ⟨d', hdd, hL'⟩ := hCC d1 hcc
      exact .inr ⟨x, d', Int.le_refl _, Nat.lt_of_le_of_lt hd1 hdd, hL'⟩
    have hcs : ∀ c' ∈ o.cutset, d ≤ c'.depth → HotN H opt c' →
        LiveO H opt Fn (T.upds ups) d ∨ ∃ (x' : Int) (d' : Nat), x ≤ x' ∧ d < d' ∧ LiveO H opt (N :: F') T d' := by
      intro c' hc' hdc' hot'
      rcases hEnq c' hc' hot' with h | h
      · exact .inl (liveO_mono H opt h hdc')
      · exact hcov c'.depth hdc' h
    rcases List.mem_cons.mp hc with e | e
    · have e' : N = c := e.symm
      subst e'
      cases hex : o.isExact with
      | true => exact hcov N.depth hdc (hC.exact hex hot)
      | false =>
        rcases hC.cover hex hot with ⟨c', hc', hot'⟩ | h
        · exact hcs c' hc' (Nat.le_trans hdc (Nat.le_of_lt (hC.deeper c' hc'))) hot'
        · exact hcov N.depth hdc h
    · by_cases hp : prunM (T.upds ups) c
      · obtain ⟨u, hu, hus, hud, hvu⟩ := prun_new T ups c hnp hp
        have hrg := hinv.rng c hc
        have hot' : Hot H opt u.2.1 u.1 c.value := by rw [hud, hus]; exact hot
        rcases hC.theta u hu c.value (by rw [hud]; exact hrg) hvu hot' with ⟨c', hc', hdc', hotc⟩ | h3
        · exact hcs c' hc' (Nat.le_trans hdc (hud ▸ hdc')) hotc
        · rw [hud] at h3; exact hcov c.depth hdc h3
      · obtain ⟨s, hs, hd'⟩ := hsubD c e
        exact .inl (liveO_of_dom H opt hs hd' hdc hot hxu hp)
  refine ⟨hTr' 0 hinv.root, ?_⟩
  intro x d t v hT hrg hvt hot
  rcases upds_get ups T x d t hT with h1 | ⟨u, hu, hus, hud, ht⟩
  · exact hTr' _ (hinv.cache x d t v h1 hrg hvt hot)
  · subst ht
    dsimp only at hvt
    have hot' : Hot H opt u.2.1 u.1 v := by rw [hud, hus]; exact hot
    rcases hC.theta u hu v (by rw [hud]; exact hrg) hvt hot' with ⟨c', hc', hdc', hotc⟩ | h3
    · rcases hEnq c' hc' hotc with h4 | h4
      · exact liveO_mono H opt h4 (hud ▸ hdc')
      · obtain ⟨d', hdd, hL'⟩ := hCC c'.depth h4
        exact liveO_mono H opt (hTr' d' hL') (Nat.le_trans (hud ▸ hdc') (Nat.le_of_lt hdd))
    · rw [hud] at h3
      obtain ⟨d', hdd, hL'⟩ := hCC d h3
      exact liveO_mono H opt (hTr' d' hL') (Nat.le_of_lt hdd)

end abs

end Ddo.C10d

#print axioms Ddo.C10d.step_me
