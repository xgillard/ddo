import DdoModel.Proofs.CompatShadowTable
import DdoModel.Proofs.CompatOrder
import DdoModel.Proofs.CacheDomTwin
/-! # `Shadow` — `Ddo.C10c.CachingDominanceCompat` is false as stated (finding **D17**):
`cachingDominanceCompat_false`, `Shadow.finding`

`SimAll` rule, static order, **rule-maximal merge** (`MergeCompat`), `WellFormed` model — every hypothesis of `CachingDominanceCompat`
(`Props/C10c.lean`) — and the solver with cache **and** checker ends with `is_exact = true`, **`best_value = Some(5)`; the optimum is
10**, in all four configurations (both fringes, both cut-set kinds; the pop order is forced); the cache alone and the checker alone
return 10 (the two closed theorems apply).

`Twin` (`Proofs/CacheDomTwin.lean`) needed a merge operator whose result the rule ranks *below* an exact state it replaces.  Here the merged state `J` is at least
as good as both states it replaces, and its child `S` — the **shadow** of the protected state `e`: same rows, strictly better
coordinates — is at least as good as `e`: the relaxed image of the protected path is, as it should be, a path of items at least as good
as the protected ones (`Proofs/CompatOrder.lean`: `GAbove`).  What kills it is the **rough upper bound**: `S` is never reached
exactly and is not the result of a merge, so `WellFormed` asks nothing of `fast_upper_bound(S)` beyond `≥ 0`:  `Potential.le` (the
potential is an upper bound of the value-to-go) binds exactly reached states only, `MergeOk` binds results of `merge` only, and a
potential that is `−∞` on `S` satisfies `Potential.att` vacuously.  `fast_upper_bound(S) = 5` although the value-to-go of `S` is 10
(`rub_below_value`); the relaxed node `S` is not expanded (`5 + 0 ≤ incumbent 5`), the other child of `J` is pruned by the cache in
favour of the open node `k2`, and `k2` is dropped by the checker at its pop because the protected item `E` dominates it — the cycle of
`Twin`, the relaxed image of `E` being cut by the bound instead of being deferred by the cache.

So the statement lacks a hypothesis: **the rough upper bound must be valid on the states the rule ranks above exactly reached
ones** — `Ddo.C10d.PotMono`: the potential is monotone in the rule's order on *all* states (`not_potMono`: false here).  Every shipped
example satisfies it (their `fast_upper_bound` is a bound of the value-to-go of every state, merged or not).

## the model (family `Ddo.C10d.Grid`, `Proofs/CompatGrid.lean`; the tables `T`, `hl`, `ws` are in `Proofs/CompatShadowTable.lean`)

6 binary variables in static order, **11 states**, initial state `R = 0`, value 0, `FixedWidth(1)`, relaxed arc cost = cost.  The tables
are per (variable, state), so one state serves at several depths: `0 R` (the root; also the decoy `u5` at depth 5 and the sink `Z` at
depth 6), `1 C` (the chain `A, a2, a3` of depths 1 – 3), `2 Q` (`P` at depth 1, `N` at depth 2), `3 pE, 4 pF, 5 e, 6 b, 7 t5` — reached
exactly —, `8 J, 9 S, 10 W` — never reached exactly.  Rows (`decision 0 | decision 1` as `next state (cost)`; every row not listed is
`R (0) | R (0)`):

```
x0:  R, t5: C (2) | Q (1)                                         R → A = (C, value 2) | P = (Q, value 1)
x1:  C: C (-2) | C (-2)        Q: Q (-1) | Q (-1)                   A → a2 = (C, 0);  P → N = (Q, 0)
x2:  C: C (0) | C (0)          Q: pE (1) | pF (0)                   a2 → a3 = (C, 0);  N → pE (value 1) | pF (value 0)
x3:  C: b (0) | b (0)          pE: e (-1) | e (-1)      pF: b (-1) | b (-1)      J: S (-1) | b (-1)
x4:  e, b, S: t5 (0) | R (5, the decoy u5)
x5:  t5: R (10) | R (10)       (R: R (0) | R (0): the decoy earns nothing)
W:   every variable: W (largest cost of the variable: 2, 0, 1, 0, 5, 10) on both decisions
```

**Rule**: one key; coordinates `C (10,-10), Q (20,-20)`, `b (40,-40) < e (41,-40) < S (42,-40)`, `pF (50,-49), pE (51,-50) < J (51,-49)`,
`R (60,-60) < t5 (61,-60)` (components pairwise incomparable), `W (100,100)` on top; the value is used.  `e`, `b`, `S` have identical rows,
`J` simulates `pE` (through `S`) and `pF` (through `b`), `t5` simulates `R` (same row at `x0`, better row at `x5`), `W` simulates
everything: `SimAll` (`checkSim`, all 121 pairs × 6 variables).  **Merge**: `join pE pF = J`, `join t5 R = t5`, `join a a = a`, everything
else `W`: an upper bound in the rule's order of the states it replaces (`MergeCompat`).  **Rough upper bound**: 30, except
`fast_upper_bound(S) = 5`.  **Potential** `hl`: the value-to-go on the exactly reached `(depth, state)` pairs, on `W` and on `(0, t5)`,
`9` on `(3, J)`, `−∞` elsewhere (in particular on `S` at every depth); value-to-go by depth: `R 10; A 8, P 9; a2 10, N 10; a3 10, pE 9, pF 9;
e 10, b 10; t5 10, u5 0`.  **Optimum 10** (through `A … k2 = (b, depth 4, value 0), t5` and through `P, N, pE, E = (e, depth 4, value 0), t5`).
The three states that are never reached exactly (`J`, `S`, `W`), the two chains of different length and the decoy / reward pair are
what the mechanism needs.

## the run (four turns, every configuration; forced pop order)

```
turn 1  pop R.  Restricted: A, a2, a3, k2 = (b, depth 4, 0) — recorded by the checker —, the decoy u5: 5.  Incumbent 5.
        Relaxed: {a2, N} are merged into W; cut-set {A (value 2, ub 16), P (value 1, ub 16)}.
turn 2  pop A (value 2 > 1).  Relaxed: exact chain a2, a3, k2; {t5, u5} merged into t5; cut-set {k2}: k2 is enqueued (ub 15), the
        threshold (b, depth 4) ↦ (0, unexplored) is recorded.                       fringe [k2 (ub 15), P (ub 16)]
turn 3  pop P.  Restricted: N, keeps pE, E = (e, depth 4, 0): the checker evicts k2 = (b, 0) — E dominates it — and records E; the
        decoy: 5.  Relaxed: {pE, pF} merged into J = (value 1, inexact), rule-maximal; children of J: S = (value 0) — the image of
        E, at least as good as E — and (b, value 0).  `_filter_with_cache` prunes (b, 0) with the threshold of turn 2;
        S is not expanded: fast_upper_bound(S) + 0 = 5 ≤ incumbent.  No terminal node, `is_exact() = true`, nothing enqueued.
turn 4  pop k2: `must_explore` accepts it; `_filter_with_dominance` drops the root of its diagram (dominated by E).
        fringe [], incumbent 5: `is_exact = true`, `best_value = Some(5)`.
```

Replay on the real library: `Some(5)` with cache + checker (`SeqCachingSolverLel/Fc`, both fringes,
`ParCachingSolverLel/Fc` with one thread, `DefaultCachingSolver`), `Some(10)` with `EmptyCache` or `EmptyDominanceChecker`. -/
set_option linter.unusedSectionVars false
set_option linter.unusedVariables false
namespace Ddo.C10d.Shadow
open Ddo Ddo.C01 Ddo.Closed Ddo.C09 Ddo.C10 Ddo.C10c Ddo.C10d Ddo.C10d.Grid

def sv (dedup : Bool) (kind : CutsetKind) : SolverCfg Int := Grid.sv T ws dedup kind
def dv (dedup : Bool) (kind : CutsetKind) : DSolverCfg Int Int := Grid.dv T ws dedup kind

theorem undomOpt : UndomOpt (rule T) (prob T) (Hof T hl) 10 :=
  undomOpt_of_sim (rule T) (prob T) (Hof T hl) 2 10 (dims2 T) (wellFormed false .lel).pot (wellFormed false .lel).nv staticOrder
    simAll.sim opt10

/-- the shadow `S = 9` is at least as good as `e = 5`; at depth 4 the potential of `e` is 10, that of `S` is `−∞` -/
theorem not_potMono : ¬ PotMono (rule T) 2 (Hof T hl) := by
  intro h
  have hge : GeItem (rule T) 2 9 0 5 0 := (geItem_iff T 9 0 5 0).mpr ⟨by decide, Int.le_refl 0⟩
  have := h 4 9 0 5 0 hge
  have e1 : Hof T hl 4 5 = some 10 := by decide
  have e2 : Hof T hl 4 9 = none := by decide
  rw [e1, e2] at this
  exact absurd this (by decide)

theorem rub_below_value : (rlx T).rub 9 = 5 ∧ Grid.V T 4 9 = some 10 ∧ Grid.V T 4 5 = some 10 ∧ Grid.optimum T = some 10 := by decide +kernel

def after (dedup : Bool) (kind : CutsetKind) (j : Nat) : KDSt Int Int :=
  (dv dedup kind).kdsolveLoop j (KDSt.init (dv dedup kind))

/-- the cache the compilations of the next turn consult -/
def cacheIn (s : KDSt Int Int) : Cache Int := (cleanCache T.n s.st.openByLayer T.n s.st.firstActive s.cache).getD s.cache
def compR (s : KDSt Int Int) := (popMax s.st.fringe).map (fun Nr => (dv false .lel).kdcompR (cacheIn s) s.store Nr.1 s.st.bestLb)
def storeR (s : KDSt Int Int) : DomStore Int Int := match compR s with | some c => c.2.2.2.store | none => s.store
/-- the relaxed compilation of the next turn, provided the restricted one changes neither the incumbent nor the cache -/
def compX (s : KDSt Int Int) := (popMax s.st.fringe).map (fun Nr => (dv false .lel).kdcompX (cacheIn s) (storeR s) Nr.1 s.st.bestLb)
/-- `(best value, is_exact, size of the cut-set, number of dominated verdicts)` of a compilation -/
def summary (c : Option (Outcome × Result Int × Option (Result Int) × DD Int Int)) : Option (Option Int × Bool × Nat × Nat) :=
  c.map (fun c => (c.2.1.bestValue, c.2.1.isExact, c.2.1.cutset.length, c.2.2.2.ndom))
/-- the nodes of a built diagram, layer by layer: `(state, value, exact, pruned by the cache)` -/
def ddView (dd : DD Int Int) : List (List (Int × Int × Bool × Bool)) :=
  (dd.layers ++ [dd.next]).map (fun ly => ly.map (fun n => (n.state, n.value, n.isExact, n.cache)))
/-- the rough upper bounds read in a layer (`iMax`: the node was not handed to the expansion) -/
def rubView (dd : DD Int Int) (l : Nat) : List (Int × Int) := ((dd.layers ++ [dd.next]).getD l []).map (fun n => (n.state, n.rub))
def xLayers (s : KDSt Int Int) : Option (List (List (Int × Int × Bool × Bool))) := (compX s).map (fun c => (ddView c.2.2.2).drop 2)
def xRubs (s : KDSt Int Int) (l : Nat) : Option (List (Int × Int)) := (compX s).map (fun c => rubView c.2.2.2 l)

section
/- Instance synthesis bounds the size of what it builds, and counts the structural `DecidableEq` instance of a nested product or list
   type at a multiple of its depth: under these names the `Decidable` instance of the conjunction `run` stays within the bound. -/
local instance : DecidableEq (List (Int × Int × Int × Nat) × Int) := inferInstance
local instance : DecidableEq (List (Int × List (Int × Int))) := inferInstance
local instance : DecidableEq (Option (Option Int × Bool × Nat × Nat)) := inferInstance
local instance : DecidableEq (List (Int × Int × Bool × Bool)) := inferInstance

/-- the statements `stage1 … stage_end` and `joint_value` together, so that each run is evaluated once -/
theorem run :
    (Twin.viewKD (after false .lel 1) = ([(2, 1, 16, 1), (1, 2, 16, 1)], 5) ∧
      Twin.storeAt (after false .lel 1) 4 = [(0, [(6, 0)])]) ∧
    (Twin.viewKD (after false .lel 2) = ([(6, 0, 15, 4), (2, 1, 16, 1)], 5) ∧
      Twin.cacheAtKD (after false .lel 2) 4 = [(6, 0, false)] ∧ Twin.storeAt (after false .lel 2) 4 = [(0, [(6, 0)])]) ∧
    (summary (compR (after false .lel 2)) = some (some 5, false, 0, 0) ∧
      (storeR (after false .lel 2)).layers.getD 4 [] = [(0, [(5, 0)])]) ∧
    (summary (compX (after false .lel 2)) = some (none, true, 0, 0) ∧
      xLayers (after false .lel 2) =
        some [[(3, 1, true, false), (4, 0, true, false), (8, 1, false, false)], [(9, 0, false, false), (6, 0, false, true)], [], []] ∧
      xRubs (after false .lel 2) 3 = some [(9, 5), (6, iMax)]) ∧
    (Twin.viewKD (after false .lel 3) = ([(6, 0, 15, 4)], 5) ∧ Twin.storeAt (after false .lel 3) 4 = [(0, [(5, 0)])]) ∧
    ((cacheIn (after false .lel 3)).mustExplore 6 4 0 = some true ∧
      summary (compR (after false .lel 3)) = some (none, true, 0, 1)) ∧
    Twin.viewKD (after false .lel 4) = ([], 5) ∧
    ∀ dedup ∈ [false, true], ∀ kind ∈ [CutsetKind.lel, CutsetKind.frontier],
      (after dedup kind 8).st.fringe.length = 0 ∧ (after dedup kind 8).st.completion = (true, some 5) ∧
      (after dedup kind 8).st.explored = 4 ∧ (after dedup kind 8).st.crashed = false := by decide +kernel
end

/-- open nodes as `(state, value, ub, depth)`: `P` and `A` with the same bound 16; the checker holds `k2 = (b = 6, value 0)` at depth 4 -/
theorem stage1 : Twin.viewKD (after false .lel 1) = ([(2, 1, 16, 1), (1, 2, 16, 1)], 5) ∧
    Twin.storeAt (after false .lel 1) 4 = [(0, [(6, 0)])] := run.1

/-- `P` (ub 16) is the only best-first choice; the cache holds `(b = 6, depth 4) ↦ (0, unexplored)`, justified by the open `k2` -/
theorem stage2 : Twin.viewKD (after false .lel 2) = ([(6, 0, 15, 4), (2, 1, 16, 1)], 5) ∧
    Twin.cacheAtKD (after false .lel 2) 4 = [(6, 0, false)] ∧ Twin.storeAt (after false .lel 2) 4 = [(0, [(6, 0)])] := run.2.1

/-- turn 3, the restricted compilation of `P`: `E = (e = 5, value 0)` replaces `k2` in the checker at depth 4 -/
theorem stage3 :
    summary (compR (after false .lel 2)) = some (some 5, false, 0, 0) ∧
    (storeR (after false .lel 2)).layers.getD 4 [] = [(0, [(5, 0)])] := run.2.2.1

/-- turn 3, the relaxed compilation of `P`: the layer of depth 3 is `pE = 3, pF = 4` (merged away) and `J = (8, value 1, inexact)`; the
    layer of depth 4 is the shadow `S = (9, value 0, rough upper bound 5: not expanded)` and `(b = 6, value 0)` **pruned by the cache** -/
theorem stage3x :
    summary (compX (after false .lel 2)) = some (none, true, 0, 0) ∧
    xLayers (after false .lel 2) =
      some [[(3, 1, true, false), (4, 0, true, false), (8, 1, false, false)], [(9, 0, false, false), (6, 0, false, true)], [], []] ∧
    xRubs (after false .lel 2) 3 = some [(9, 5), (6, iMax)] := run.2.2.2.1

theorem stage3b : Twin.viewKD (after false .lel 3) = ([(6, 0, 15, 4)], 5) ∧
    Twin.storeAt (after false .lel 3) 4 = [(0, [(5, 0)])] := run.2.2.2.2.1

theorem stage4 : (cacheIn (after false .lel 3)).mustExplore 6 4 0 = some true ∧
    summary (compR (after false .lel 3)) = some (none, true, 0, 1) := run.2.2.2.2.2.1

theorem stage_end : Twin.viewKD (after false .lel 4) = ([], 5) := run.2.2.2.2.2.2.1

/-- **cache + dominance: four turns, empty fringe, `is_exact = true`, `best_value = Some(5)`**; the optimum is 10 — both fringes, both
    cut-set kinds, nothing panics -/
theorem joint_value : ∀ dedup ∈ [false, true], ∀ kind ∈ [CutsetKind.lel, CutsetKind.frontier],
    (after dedup kind 8).st.fringe.length = 0 ∧ (after dedup kind 8).st.completion = (true, some 5) ∧
    (after dedup kind 8).st.explored = 4 ∧ (after dedup kind 8).st.crashed = false := run.2.2.2.2.2.2.2

theorem dom_only_correct (dedup : Bool) (kind : CutsetKind) (t : DSt Int Int)
    (ht : DRun (dv dedup kind) (dv dedup kind).init t) (hend : t.st.fringe = []) : t.st.completion = (true, some 10) :=
  (((dominance_solver_optimal (dv dedup kind) (Hof T hl) 10 80 10 (wellFormed dedup kind) opt10 undomOpt).2.2 t ht).2 hend).2.2

theorem cache_only_correct (dedup : Bool) (kind : CutsetKind) (t : KSt Int)
    (ht : KRun (sv dedup kind) (KSt.init (sv dedup kind)) t) (hend : t.st.fringe = []) : t.st.completion = (true, some 10) :=
  ((((caching_solver_correct_bestfirst (sv dedup kind) (Hof T hl) 10 80 (wellFormed dedup kind)).2.2 t ht).2.2 hend).1 10 opt10).2.2

theorem joint_run (dedup : Bool) (kind : CutsetKind) :
    ∃ t, KDRun (dv dedup kind) (KDSt.init (dv dedup kind)) t ∧ t.st.fringe = [] ∧ t.st.crashed = false ∧
      t.st.completion = (true, some 5) := by
  have h := joint_value dedup (by cases dedup <;> simp) kind (by cases kind <;> simp)
  exact ⟨_, kdsolveLoop_run (dv dedup kind) 8 _, List.eq_nil_of_length_eq_zero h.1, h.2.2.2, h.2.1⟩

/-- **FINDING D17, packaged**: well-formed model, optimum 10, static order, a rule that satisfies the simulation condition for all pairs
    of states and values, **a merge operator that is maximal for the rule**; cache alone: every run ends with 10; checker alone: every
    run ends with 10; both: a best-first run (forced pop order) ends with `is_exact = true`, `Some(5)` — every fringe, every cut-set
    kind.  The potential is not monotone in the rule's order. -/
theorem finding (dedup : Bool) (kind : CutsetKind) :
    WellFormed (dv dedup kind).sv (Hof T hl) 10 80 ∧ (Hof T hl 0 (prob T).init).addI (prob T).initVal = some 10 ∧
    (∀ s, (rule T).dims s = 2) ∧ StaticOrder (prob T) ∧ SimAll (rule T) (prob T) 2 ∧ MergeCompat (rule T) (rlx T) 2 ∧
    UndomOpt (rule T) (prob T) (Hof T hl) 10 ∧ ¬ PotMono (rule T) 2 (Hof T hl) ∧
    (∀ t, KRun (sv dedup kind) (KSt.init (sv dedup kind)) t → t.st.fringe = [] → t.st.completion = (true, some 10)) ∧
    (∀ t, DRun (dv dedup kind) (dv dedup kind).init t → t.st.fringe = [] → t.st.completion = (true, some 10)) ∧
    (∃ t, KDRun (dv dedup kind) (KDSt.init (dv dedup kind)) t ∧ t.st.fringe = [] ∧ t.st.crashed = false ∧
      t.st.completion = (true, some 5)) :=
  ⟨wellFormed dedup kind, opt10, dims2 T, staticOrder, simAll, mergeCompat, undomOpt, not_potMono, cache_only_correct dedup kind,
    dom_only_correct dedup kind, joint_run dedup kind⟩

end Ddo.C10d.Shadow

namespace Ddo.C10d
open Ddo Ddo.C01 Ddo.Closed Ddo.C09 Ddo.C10 Ddo.C10c Ddo.C10d.Grid

/-- **`Ddo.C10c.CachingDominanceCompat` is false**: the joint statement fails for a `SimAll` rule with a static order and a
    rule-maximal merge operator (model `Shadow`: the rough upper bound of a state that is never reached exactly cuts the relaxed
    image of the protected path) -/
theorem cachingDominanceCompat_false : ¬ CachingDominanceCompat := by
  intro h
  have hJ := h Int Int (Shadow.dv false .lel) (Hof Shadow.T Shadow.hl) 10 80 10 2 (Shadow.wellFormed false .lel) Shadow.opt10
    (dims2 Shadow.T) Shadow.staticOrder Shadow.simAll Shadow.mergeCompat
  obtain ⟨t, ht, hend, _, hc⟩ := Shadow.joint_run false .lel
  have := ((hJ.2.2 t ht).2.2 hend).2.2
  rw [hc] at this
  exact absurd this (by decide)

end Ddo.C10d

#print axioms Ddo.C10d.Shadow.undomOpt
#print axioms Ddo.C10d.Shadow.not_potMono
#print axioms Ddo.C10d.Shadow.rub_below_value
#print axioms Ddo.C10d.Shadow.joint_value
#print axioms Ddo.C10d.Shadow.stage1
#print axioms Ddo.C10d.Shadow.stage2
#print axioms Ddo.C10d.Shadow.stage3
#print axioms Ddo.C10d.Shadow.stage3x
#print axioms Ddo.C10d.Shadow.stage3b
#print axioms Ddo.C10d.Shadow.stage4
#print axioms Ddo.C10d.Shadow.stage_end
#print axioms Ddo.C10d.Shadow.finding
#print axioms Ddo.C10d.cachingDominanceCompat_false
