import DdoModel.Proofs.ParCacheCoverFrame
/-! # The parallel caching solver — `KPInv` through the steps of `process_one_node`

A worker-local step that adds pending data (`kpinv_local`: the end of a compilation), the test `node.ub <= best_lb`
(`kpinv_readLbR_drop`), **one threshold write** (`kpinv_write`: every witness the write makes the cache refuse is dominated — by a
node of the writer's own pending cut-set that its writes do not refuse, or strictly deeper; this is where `ThetaStrict` and
`fresh1` are used), `maybe_update_best` (`kpinv_publish`) and `enqueue_cutset` (`kpinv_enqueue`). -/
set_option linter.unusedSectionVars false
set_option linter.unusedVariables false
namespace Ddo.ParCache
open Ddo Ddo.C09 Ddo.ParSys Ddo.Theta
variable {S : Type} [DecidableEq S]

/-- `enqueue_cutset` on either fringe: the new fringe is a coalescing of the old one plus the cut-set nodes that beat the
    incumbent -/
theorem enq_spec (dedup : Bool) (st : SeqSt S) (cs : List (SubP S)) :
    (st.enqueue dedup cs).bestLb = st.bestLb ∧ (st.enqueue dedup cs).bestSol = st.bestSol ∧
    Coalesces (st.enqueue dedup cs).fringe (fun c => c ∈ st.fringe ∨ ∃ c0 ∈ cs, c = c0 ∧ c0.ub > st.bestLb) :=
  let h := SeqSt.enqueue_spec dedup st cs
  ⟨h.1, h.2.1, h.2.2.2.2.1⟩

section
variable (H : Nat → S → EInt) (opt : Int) (Sol : List Dec → Int → Prop) (Rg : Nat → Int → Prop)

/-- a worker-local step: the open node stays, pending data may be added (the end of a compilation) -/
theorem kpinv_local {s : KSys S} {i : Nat} {w0 a : KW S} (hI : KPInv H opt Sol Rg s)
    (hw : s.ws[i]? = some w0) (ho : a.openNode = w0.openNode) (hpc : ∀ c ∈ w0.pendCut, c ∈ a.pendCut)
    (hpv : ∀ v, w0.pendVal = some v → a.pendVal = some v)
    (hnf : a.fresh = false)
    (hwok : WOk H opt Sol Rg s.crit.base.bestLb s.log a) (hnd : a ≠ .done)
    (hnew : ∀ c ∈ a.pendCut, c ∈ w0.pendCut ∨ (Good (optOf H) opt c ∧ Rg c.depth c.value ∧
      ∀ y, optOf H c = some y → Beats ({ s with ws := s.ws.set i a } : KSys S) y → y ≤ c.ub ∨ Live H s y (c.depth + 1))) :
    KPInv H opt Sol Rg { s with ws := s.ws.set i a } := by
  have hB : ∀ x, Beats ({ s with ws := s.ws.set i a } : KSys S) x → Beats s x :=
    fun x hb => beatsC_of_set hw hb (Int.le_refl _) (fun v hv => hb.2 i a v (get_set_self hw) (hpv v hv))
  have hT : ∀ x d, Beats ({ s with ws := s.ws.set i a } : KSys S) x → Live H s x d →
      Live H ({ s with ws := s.ws.set i a } : KSys S) x d := by
    intro x d _ hl
    refine liveC_cases H (i := i) hl (fun c hc hcc hp => liveC_of_F H hc hcc hp) (fun w1 hw1 hl1 => ?_)
      (fun j w hj hwj hl1 => liveC_of_other H hj hwj hl1)
    rw [hw] at hw1; cases hw1
    rcases hl1 with ⟨n, hn, hcc⟩ | ⟨c, hc, hcc, hp⟩
    · exact liveC_of_self H hw (.inl ⟨n, by rw [ho]; exact hn, hcc⟩)
    · exact liveC_of_self H hw (.inr ⟨c, hpc c hc, hcc, hp⟩)
  have hpr : ∀ c, Prunable ({ s with ws := s.ws.set i a } : KSys S) c → Prunable s c ∨ (c ∈ a.pendCut ∧ c ∉ w0.pendCut) := by
    intro c h
    rcases prunable_set h with h | h | ⟨j, w, _, hj, hc⟩
    · exact .inl (.inl h)
    · by_cases hc : c ∈ w0.pendCut
      · exact .inl (.inr ⟨i, w0, hw, hc⟩)
      · exact .inr ⟨h, hc⟩
    · exact .inl (.inr ⟨j, w, hj, hc⟩)
  refine kpinv_step H opt Sol Rg hI hB hT ?_ ?_ hI.lbOk hI.solOk hI.cur (fun c hc => .inl hc) ?_ ?_ ?_ ?_
  · rintro c (hc | hc)
    · rcases hpr c hc with h | ⟨h1, h2⟩
      · exact hI.good c (.inl h)
      · rcases hnew c h1 with h3 | h3
        · exact absurd h3 h2
        · exact h3.1
    · exact hI.good c (.inr (held_back hw (fun c hc => by rw [← ho]; exact hc) hc))
  · intro c hc
    rcases hpr c hc with h | ⟨h1, h2⟩
    · exact hI.rng c h
    · rcases hnew c h1 with h3 | h3
      · exact absurd h3 h2
      · exact h3.2.1
  · rintro c (hc | hc)
    · rcases hpr c hc with h | ⟨h1, h2⟩
      · exact .inl (.inl h)
      · rcases hnew c h1 with h3 | h3
        · exact absurd h3 h2
        · right
          intro y hy hb
          rcases h3.2.2 y hy hb with h4 | h4
          · exact .inl h4
          · exact .inr (hT _ _ hb h4)
    · exact .inl (.inr (fresh_stale hnf hc))
  · exact popmax_set H opt Sol Rg hI (fun c hc => hc) (fun n e => absurd e (KW.not_fresh hnf n).1)
  · exact wok_set H opt Sol Rg hI (Int.le_refl _) (fun c hc => hc) hwok
  · exact done_set H opt Sol Rg hI (Int.le_refl _) hI.lbOk (fun e => absurd e hnd)

theorem kpinv_readLbR_drop {s : KSys S} (hI : KPInv H opt Sol Rg s) {i : Nat} {n : SubP S}
    (hw : s.ws[i]? = some (.readR n)) (hub : n.ub ≤ s.crit.base.bestLb) :
    KPInv H opt Sol Rg { s with ws := s.ws.set i (.fin n) } := by
  have hB : ∀ x, Beats ({ s with ws := s.ws.set i (.fin n) } : KSys S) x → Beats s x :=
    fun x hb => beatsC_of_set hw hb (Int.le_refl _) (fun v hv => by cases hv)
  have hT : ∀ x d, Beats ({ s with ws := s.ws.set i (.fin n) } : KSys S) x → Live H s x d →
      Live H ({ s with ws := s.ws.set i (.fin n) } : KSys S) x d := by
    apply tp_of_local
    intro x d hb hl
    refine liveC_cases H (i := i) hl (fun c hc hcc hp => .inl (liveC_of_F H hc hcc hp)) (fun w1 hw1 hl1 => ?_)
      (fun j w hj hwj hl1 => .inl (liveC_of_other H hj hwj hl1))
    rw [hw] at hw1; cases hw1
    rcases hl1 with ⟨m, hm, hcc⟩ | ⟨c, hc, _⟩
    · cases hm
      right
      obtain ⟨hd, y, hy, hxy⟩ := hcc
      rcases hI.ub n (.inr ⟨i, .inr hw⟩) y hy ((hB x hb).up hxy) with h1 | h1
      · have := (hB x hb).1; omega
      · exact ⟨y, n.depth + 1, hxy, by omega, h1⟩
    · cases hc
  have hpb : ∀ c, Prunable ({ s with ws := s.ws.set i (.fin n) } : KSys S) c → Prunable s c :=
    fun c h => prunable_back hw (fun c hc => by cases hc) (fun c hc => hc) h
  refine kpinv_step_back H opt Sol Rg hI hB hT hpb
    (fun c hc => held_back (w0 := .readR n) (a := .fin n) hw (fun c hc => by cases hc) hc)
    (fun c hc => fresh_stale (a := .fin n) rfl hc)
    hI.lbOk hI.solOk hI.cur (fun c hc => .inl hc) ?_ ?_ ?_
  · exact popmax_set H opt Sol Rg hI (fun c hc => hc) (fun m e => by cases e)
  · exact wok_set H opt Sol Rg hI (a := .fin n) (Int.le_refl _) (fun c hc => hc) trivial
  · exact done_set H opt Sol Rg hI (Int.le_refl _) hI.lbOk (fun e => by cases e)

/-- **a threshold write** by worker `i` (stage `w0 → a`, same carried data) of `u ∈ ups`, thresholds of a compilation with
    virtual cache `cv`, answer `o`, `bk = max lb best_exact`: every witness the write makes the cache refuse is dominated —
    by a node of the writer's own pending cut-set that its writes do not refuse (`fresh1`), or strictly deeper.  The hypothesis
    `hcut` is that idea as the callers supply it: every cut-set node `c1` of the compilation whose potential beats is either still in
    the writer's pending cut-set and — if its bound beats `bk` — not refused by the consulted cache updated with `u`, or is dominated
    by something `Live` strictly deeper than `c1` (what the callers supply for the cut-set of an exact diagram, which is never
    enqueued: none of its bounds beats `bk`, so a potential that beats is covered by what the consulted cache prunes deeper) -/
theorem kpinv_write {s : KSys S} (hI : KPInv H opt Sol Rg s) {i : Nat} {w0 a : KW S} {u : Up S} {c' : Cache S}
    {cv : Cache S} {o : DDOut S} {ups : List (Up S)} {bk : Int}
    (hw : s.ws[i]? = some w0) (hs : SameW w0 a) (hnf : a.fresh = false) (hnd : a ≠ .done)
    (hwok : WOk H opt Sol Rg s.crit.base.bestLb (c' :: s.log) a)
    (hu : s.cache.update u.1 u.2.1 (upThr u) = some c')
    (hth : ThetaStrict H Rg (viewOf cv) o ups bk) (huu : u ∈ ups)
    (hbk : ∀ y, Beats s y → bk < y) (hcov : CvOk s.log cv)
    (hcut : ∀ c1 ∈ o.cutset, ∀ y1, optOf H c1 = some y1 → Beats s y1 →
      (c1 ∈ w0.pendCut ∧ (c1.ub > bk → ¬ prunM ((viewOf cv).upd u) c1)) ∨
      ∃ x' d', y1 ≤ x' ∧ c1.depth < d' ∧ Live H s x' d') :
    KPInv H opt Sol Rg { s with cache := c', log := c' :: s.log, ws := s.ws.set i a } := by
  have hv : viewOf c' = (viewOf s.cache).upd u := viewOf_update s.cache c' u.1 u.2.1 u.2.2.1 u.2.2.2 hu
  have hB : ∀ x, Beats ({ s with cache := c', log := c' :: s.log, ws := s.ws.set i a } : KSys S) x → Beats s x :=
    fun x hb => (beatsC_set_same hw hs).mp hb
  have hB' : ∀ x, Beats s x → Beats ({ s with cache := c', log := c' :: s.log, ws := s.ws.set i a } : KSys S) x :=
    fun x hb => (beatsC_set_same hw hs).mpr hb
  -- the heart: a prunable witness that the write refuses
  have hnew : ∀ (c : SubP S) (x : Int) (d : Nat), Prunable s c → Carries H c x d → ¬ prunM (viewOf s.cache) c →
      prunM (viewOf c') c → Beats s x →
      Live H ({ s with cache := c', log := c' :: s.log, ws := s.ws.set i a } : KSys S) x d ∨
        ∃ x' d', x ≤ x' ∧ d < d' ∧ Live H s x' d' := by
    intro c x d hpc hcc hnp hp hb
    rw [hv] at hp
    obtain ⟨a1, a2, a3, a4⟩ := prunM_upd_new _ _ c hnp hp
    obtain ⟨hd, y, hy, hxy⟩ := hcc
    obtain ⟨hh, hH, hyh⟩ := optOf_some H c y hy
    have hby : Beats s y := hb.up hxy
    have hvle : c.value ≤ u.2.2.1 := by
      unfold prunBy upThr at a3; dsimp only at a3; omega
    rcases hth u huu c.value hh (by rw [a2]; exact hI.rng c hpc) hvle (by rw [a1, a2]; exact hH) with
      h1 | ⟨c1, hc1, hpos, y1, hy1, hyy1⟩ | h3
    · have := hbk y hby; omega
    · have hby1 : Beats s y1 := hby.up (by omega)
      rcases hcut c1 hc1 y1 hy1 hby1 with ⟨hpend, hfresh⟩ | ⟨x', d', hx', hd', hl'⟩
      · have hpr1 : Prunable s c1 := .inr ⟨i, w0, hw, hpend⟩
        rcases hpos with hlt | ⟨hdeq, hseq⟩
        · right
          exact ⟨y1, c1.depth, by omega, by omega, prunable_live H opt Sol Rg hI hpr1 hy1 hby1⟩
        · by_cases hgt : c1.ub > bk
          · left
            have hcell : (viewOf c') c1.state c1.depth = some (upThr u) := by
              rw [hv, hseq, hdeq, a1, a2]; exact a4
            have hnp1 : ¬ prunM (viewOf c') c1 := by
              apply not_prun_of_cell _ _ _ hcell
              intro hpb
              apply hfresh hgt
              obtain ⟨t', ht', hle, _, _⟩ := upd_cell_ge (viewOf cv) u
              exact ⟨t', by rw [hseq, hdeq]; exact ht', prunBy_mono hle hpb⟩
            exact liveC_of_self H hw (.inr ⟨c1, by rw [hs.2.2]; exact hpend, ⟨by omega, y1, hy1, by omega⟩, hnp1⟩)
          · right
            rcases hI.ub c1 (.inl hpr1) y1 hy1 hby1 with h4 | h4
            · have := hbk y1 hby1; omega
            · exact ⟨y1, c1.depth + 1, by omega, by omega, h4⟩
      · right
        have : u.2.1 ≤ c1.depth := by rcases hpos with h | ⟨h, _⟩ <;> omega
        exact ⟨x', d', by omega, by omega, hl'⟩
    · right
      obtain ⟨x', d', hx', hd', hl'⟩ := cov_live H opt Sol Rg hI hcov h3 (by rw [← hyh]; exact hby)
      exact ⟨x', d', by omega, by omega, hl'⟩
  have hT : ∀ x d, Beats ({ s with cache := c', log := c' :: s.log, ws := s.ws.set i a } : KSys S) x → Live H s x d →
      Live H ({ s with cache := c', log := c' :: s.log, ws := s.ws.set i a } : KSys S) x d := by
    apply tp_of_local
    intro x d hb hl
    refine liveC_cases H (i := i) hl (fun c hc hcc hnp => ?_) (fun w1 hw1 hl1 => ?_) (fun j w hj hwj hl1 => ?_)
    · by_cases hp : prunM (viewOf c') c
      · exact hnew c x d (.inl hc) hcc hnp hp (hB x hb)
      · exact .inl (liveC_of_F H hc hcc hp)
    · rw [hw] at hw1; cases hw1
      rcases hl1 with ⟨m, hm, hcc⟩ | ⟨c, hc, hcc, hnp⟩
      · exact .inl (liveC_of_self H hw (.inl ⟨m, by rw [hs.1]; exact hm, hcc⟩))
      · by_cases hp : prunM (viewOf c') c
        · exact hnew c x d (.inr ⟨i, w0, hw, hc⟩) hcc hnp hp (hB x hb)
        · exact .inl (liveC_of_self H hw (.inr ⟨c, by rw [hs.2.2]; exact hc, hcc, hp⟩))
    · rcases hl1 with ⟨m, hm, hcc⟩ | ⟨c, hc, hcc, hnp⟩
      · exact .inl (liveC_of_other H hj hwj (.inl ⟨m, hm, hcc⟩))
      · by_cases hp : prunM (viewOf c') c
        · exact hnew c x d (.inr ⟨j, w, hwj, hc⟩) hcc hnp hp (hB x hb)
        · exact .inl (liveC_of_other H hj hwj (.inr ⟨c, hc, hcc, hp⟩))
  have hpb : ∀ c, Prunable ({ s with cache := c', log := c' :: s.log, ws := s.ws.set i a } : KSys S) c → Prunable s c :=
    fun c h => prunable_back hw (fun c hc => by rw [← hs.2.2]; exact hc) (fun c hc => hc) h
  refine kpinv_step_back H opt Sol Rg hI hB hT hpb (fun c hc => held_back hw (fun c hc => by rw [← hs.1]; exact hc) hc)
    (fun c hc => fresh_stale hnf hc)
    hI.lbOk hI.solOk List.mem_cons_self ?_ ?_ ?_ ?_
  · -- the new content of the cache is justified
    intro c hc
    rcases List.mem_cons.mp hc with e | e
    · right
      subst e
      intro st d tt htt
      rw [hv] at htt
      rcases upd_get _ _ st d tt htt with h1 | ⟨b1, b2, b3⟩
      · exact (hI.jst s.cache hI.cur st d tt h1).transfer H Rg hB hT
      · subst b1; subst b2; subst b3
        intro v h hrg hvt hH hb
        dsimp only at hvt
        have hbs := hB _ hb
        rcases hth u huu v h hrg hvt hH with h1 | ⟨c1, hc1, hpos, y1, hy1, hyy1⟩ | h3
        · have := hbk _ hbs; omega
        · have hle : u.2.1 ≤ c1.depth := by rcases hpos with h | ⟨h, _⟩ <;> omega
          have hby1 : Beats s y1 := hbs.up hyy1
          rcases hcut c1 hc1 y1 hy1 hby1 with ⟨hpend, _⟩ | ⟨x', d', hx', hd', hl'⟩
          · have := prunable_live H opt Sol Rg hI (.inr ⟨i, w0, hw, hpend⟩) hy1 hby1
            exact (hT _ _ (hB' _ hby1) this).mono H hyy1 hle
          · exact (hT _ _ (hB' _ (hby1.up hx')) hl').mono H (by omega) (by omega)
        · obtain ⟨x', d', hx', hd', hl'⟩ := cov_live H opt Sol Rg hI hcov h3 hbs
          exact (hT _ _ (hB' _ (hbs.up hx')) hl').mono H hx' (by omega)
    · exact .inl e
  · exact popmax_set H opt Sol Rg hI (fun c hc => hc) (fun n e => absurd e (KW.not_fresh hnf n).1)
  · exact wok_set H opt Sol Rg hI (Int.le_refl _) (fun c hc => List.mem_cons_of_mem _ hc) hwok
  · exact done_set H opt Sol Rg hI (Int.le_refl _) hI.lbOk (fun e => absurd e hnd)

/-- **publication** of the exact value of a finished compilation (`w0.pendVal = o.bestExact`); the open node stays
    (`hopen` left) or is closed because everything it carries that still beats is carried strictly deeper (`hopen` right) -/
theorem kpinv_publish {s : KSys S} (hI : KPInv H opt Sol Rg s) {i : Nat} {w0 a : KW S} {o : DDOut S}
    (hw : s.ws[i]? = some w0) (hpv : w0.pendVal = o.bestExact) (hapv : a.pendVal = none) (hpc : a.pendCut = w0.pendCut)
    (hsound : ∀ w, o.bestExact = some w → ∃ p, o.bestExactSol = some p ∧ Sol p w ∧ w ≤ opt)
    (hnf : a.fresh = false) (hnd : a ≠ .done)
    (hwok : WOk H opt Sol Rg (s.crit.updateBest o).base.bestLb s.log a)
    (hopen : a.openNode = w0.openNode ∨ (a.openNode = none ∧ ∀ n, w0.openNode = some n → ∀ x d, Carries H n x d →
      Beats ({ s with crit := s.crit.updateBest o, ws := s.ws.set i a } : KSys S) x →
      ∃ x' d', x ≤ x' ∧ d < d' ∧ Live H s x' d')) :
    KPInv H opt Sol Rg { s with crit := s.crit.updateBest o, ws := s.ws.set i a } := by
  obtain ⟨f1, _⟩ := updateBest_fringe s.crit.base o
  have hge := updateBest_lb_ge s.crit.base o
  obtain ⟨hlb', hsol'⟩ := Ddo.C09.updateBest_ok' opt Sol s.crit.base o hI.lbOk hI.solOk hsound
  have hB : ∀ x, Beats ({ s with crit := s.crit.updateBest o, ws := s.ws.set i a } : KSys S) x → Beats s x := by
    intro x hb
    refine beatsC_of_set hw hb hge (fun v hv => ?_)
    rw [hpv] at hv
    have h1 := updateBest_lb_ge_val s.crit.base o v hv
    have h2 : (s.crit.base.updateBest o).bestLb < x := hb.1
    omega
  have hT : ∀ x d, Beats ({ s with crit := s.crit.updateBest o, ws := s.ws.set i a } : KSys S) x → Live H s x d →
      Live H ({ s with crit := s.crit.updateBest o, ws := s.ws.set i a } : KSys S) x d := by
    apply tp_of_local
    intro x d hb hl
    have hgoal : ∀ {F : List (SubP S)} (h : F = s.crit.base.fringe),
        LiveC H F (viewOf s.cache) (s.ws.set i a) x d →
        Live H ({ s with crit := s.crit.updateBest o, ws := s.ws.set i a } : KSys S) x d := by
      intro F h hl
      show LiveC H (s.crit.base.updateBest o).fringe (viewOf s.cache) (s.ws.set i a) x d
      rw [f1, ← h]; exact hl
    refine liveC_cases H (i := i) hl (fun c hc hcc hp => .inl (hgoal rfl (liveC_of_F H hc hcc hp))) (fun w1 hw1 hl1 => ?_)
      (fun j w hj hwj hl1 => .inl (hgoal rfl (liveC_of_other H hj hwj hl1)))
    rw [hw] at hw1; cases hw1
    rcases hl1 with ⟨m, hm, hcc⟩ | ⟨c, hc, hcc, hp⟩
    · rcases hopen with ho | ⟨_, ho⟩
      · exact .inl (hgoal rfl (liveC_of_self H hw (.inl ⟨m, by rw [ho]; exact hm, hcc⟩)))
      · exact .inr (ho m hm x d hcc hb)
    · exact .inl (hgoal rfl (liveC_of_self H hw (.inr ⟨c, by rw [hpc]; exact hc, hcc, hp⟩)))
  have hpb : ∀ c, Prunable ({ s with crit := s.crit.updateBest o, ws := s.ws.set i a } : KSys S) c → Prunable s c :=
    fun c h => prunable_back hw (fun c hc => by rw [← hpc]; exact hc)
      (fun c hc => by have : c ∈ (s.crit.base.updateBest o).fringe := hc; rw [f1] at this; exact this) h
  have hob : ∀ c, a.openNode = some c → w0.openNode = some c := by
    intro c hc
    rcases hopen with ho | ⟨ho, _⟩
    · rw [← ho]; exact hc
    · rw [ho] at hc; cases hc
  refine kpinv_step_back H opt Sol Rg hI hB hT hpb (fun c hc => held_back hw hob hc)
    (fun c hc => fresh_stale hnf hc)
    hlb' hsol' hI.cur (fun c hc => .inl hc) ?_ ?_ ?_
  · intro j n hj
    show ∀ c ∈ (s.crit.base.updateBest o).fringe, c.ub ≤ n.ub
    rw [f1]
    exact popmax_set H opt Sol Rg hI (fun c hc => hc) (fun n e => absurd e (KW.not_fresh hnf n).1) j n hj
  · exact wok_set H opt Sol Rg hI hge (fun c hc => hc) hwok
  · exact done_set H opt Sol Rg hI hge hlb' (fun e => absurd e hnd)


theorem kpinv_enqueue {s : KSys S} (hI : KPInv H opt Sol Rg s) (dedup : Bool) {i : Nat} {n : SubP S} {lb : Int} {o : DDOut S}
    {cv : Cache S} {ups : List (Up S)} (hw : s.ws[i]? = some (.enq n lb o cv ups)) (hl : LockFree s) :
    KPInv H opt Sol Rg { s with crit := s.crit.enqueue dedup o.cutset, ws := s.ws.set i (.fin n) } := by
  obtain ⟨e2, e3, hco⟩ := enq_spec dedup s.crit.base o.cutset
  obtain ⟨hlbi, hK, hne, hbk, hcov⟩ : lb ≤ s.crit.base.bestLb ∧ OkXc H opt Sol Rg n lb cv o ups ∧ o.isExact = false ∧
      bkOf lb o.bestExact ≤ s.crit.base.bestLb ∧ CvOk s.log cv := hI.wok i _ hw
  have hprc : ∀ c ∈ o.cutset, Prunable s c := fun c hc => .inr ⟨i, _, hw, hc⟩
  have hB : ∀ x, Beats ({ s with crit := s.crit.enqueue dedup o.cutset, ws := s.ws.set i (.fin n) } : KSys S) x → Beats s x := by
    intro x hb
    have hb' : BeatsC (s.crit.base.enqueue dedup o.cutset).bestLb (s.ws.set i (.fin n)) x := hb
    rw [e2] at hb'
    exact beatsC_of_set hw hb' (Int.le_refl _) (fun v hv => by cases hv)
  -- a member of the multiset survives in the coalesced fringe
  have hsurv : ∀ (c : SubP S) (x : Int) (d : Nat), (c ∈ s.crit.base.fringe ∨ ∃ c0 ∈ o.cutset, c = c0 ∧ c0.ub > s.crit.base.bestLb) →
      Carries H c x d → ¬ prunM (viewOf s.cache) c →
      Live H ({ s with crit := s.crit.enqueue dedup o.cutset, ws := s.ws.set i (.fin n) } : KSys S) x d := by
    intro c x d hL hcc hnp
    obtain ⟨s', hs', hd⟩ := hco.2 c hL
    exact .inl ⟨s', hs', carries_cell H hcc hd.state hd.depth hd.value, fun hp => hnp (prunM_dom _ hd hp)⟩
  have hT : ∀ x d, Beats ({ s with crit := s.crit.enqueue dedup o.cutset, ws := s.ws.set i (.fin n) } : KSys S) x →
      Live H s x d → Live H ({ s with crit := s.crit.enqueue dedup o.cutset, ws := s.ws.set i (.fin n) } : KSys S) x d := by
    apply tp_of_local
    intro x d hb hl1
    have hbs := hB x hb
    refine liveC_cases H (i := i) hl1 (fun c hc hcc hnp => .inl (hsurv c x d (.inl hc) hcc hnp)) (fun w1 hw1 hl1 => ?_)
      (fun j w hj hwj hl1 => .inl (liveC_of_other H hj hwj hl1))
    rw [hw] at hw1; cases hw1
    rcases hl1 with ⟨m, hm, hcc⟩ | ⟨c, hc, hcc, hnp⟩
    · -- the node in hand is covered by its cut-set, or strictly deeper
      cases hm
      right
      obtain ⟨hd, y, hy, hxy⟩ := hcc
      have hby := hbs.up hxy
      rcases hK.c.cover hne y hy (by have := hby.1; omega) with ⟨c1, hc1, y1, hy1, hyy1⟩ | h3
      · have := hK.c.deeper c1 hc1
        exact ⟨y1, c1.depth, by omega, by omega, prunable_live H opt Sol Rg hI (hprc c1 hc1) hy1 (hby.up hyy1)⟩
      · obtain ⟨x', d', hx', hd', hl'⟩ := cov_live H opt Sol Rg hI hcov h3 hby
        exact ⟨x', d', by omega, by omega, hl'⟩
    · -- a node of the cut-set: enqueued, or its bound does not beat the incumbent
      have hc : c ∈ o.cutset := hc
      by_cases hgt : c.ub > s.crit.base.bestLb
      · exact .inl (hsurv c x d (.inr ⟨c, hc, rfl, hgt⟩) hcc hnp)
      · right
        obtain ⟨hd, y, hy, hxy⟩ := hcc
        have hby := hbs.up hxy
        rcases hI.ub c (.inl (hprc c hc)) y hy hby with h4 | h4
        · have := hby.1; omega
        · exact ⟨y, c.depth + 1, hxy, by omega, h4⟩
  -- the entries of the new fringe
  have horig : ∀ s' ∈ (s.crit.base.enqueue dedup o.cutset).fringe, ∃ a1 b1, Prunable s a1 ∧ Prunable s b1 ∧
      s' = { a1 with ub := b1.ub } ∧ a1.ub ≤ b1.ub := by
    intro s' hs'
    obtain ⟨a1, b1, ha1, hb1, e, hle⟩ := hco.1 s' hs'
    have hp : ∀ c, (c ∈ s.crit.base.fringe ∨ ∃ c0 ∈ o.cutset, c = c0 ∧ c0.ub > s.crit.base.bestLb) → Prunable s c := by
      rintro c (h | ⟨c0, hc0, rfl, _⟩)
      · exact .inl h
      · exact hprc c hc0
    exact ⟨a1, b1, hp a1 ha1, hp b1 hb1, e, hle⟩
  have hpr : ∀ c, Prunable ({ s with crit := s.crit.enqueue dedup o.cutset, ws := s.ws.set i (.fin n) } : KSys S) c →
      (∃ a1 b1, Prunable s a1 ∧ Prunable s b1 ∧ c = { a1 with ub := b1.ub } ∧ a1.ub ≤ b1.ub) := by
    intro c h
    rcases prunable_set h with h | h | ⟨j, w, _, hj, hc⟩
    · exact horig c h
    · cases h
    · exact ⟨c, c, .inr ⟨j, w, hj, hc⟩, .inr ⟨j, w, hj, hc⟩, rfl, Int.le_refl _⟩
  refine kpinv_step H opt Sol Rg hI hB hT ?_ ?_ (by show (s.crit.base.enqueue dedup o.cutset).bestLb ≤ opt; rw [e2]; exact hI.lbOk)
    (by show ∀ p, (s.crit.base.enqueue dedup o.cutset).bestSol = some p → Sol p (s.crit.base.enqueue dedup o.cutset).bestLb
        rw [e2, e3]; exact hI.solOk) hI.cur (fun c hc => .inl hc) ?_ ?_ ?_ ?_
  · rintro c (hc | hc)
    · obtain ⟨a1, b1, ha1, _, rfl, _⟩ := hpr c hc
      exact hI.good a1 (.inl ha1)
    · exact hI.good c (.inr (held_back (w0 := .enq n lb o cv ups) (a := .fin n) hw (fun c hc => by cases hc) hc))
  · intro c hc
    obtain ⟨a1, b1, ha1, _, rfl, _⟩ := hpr c hc
    exact hI.rng a1 ha1
  · rintro c (hc | hc)
    · right
      obtain ⟨a1, b1, ha1, _, rfl, hle⟩ := hpr c hc
      intro y hy hb
      rcases hI.ub a1 (.inl ha1) y hy (hB _ hb) with h4 | h4
      · left; show y ≤ b1.ub; omega
      · exact .inr (hT _ _ hb h4)
    · exact .inl (.inr (fresh_stale (a := .fin n) rfl hc))
  · intro j m hj
    rcases get_set_split hj with ⟨_, e⟩ | ⟨_, hj'⟩
    · cases e
    · have := hl _ (List.mem_of_getElem? hj')
      cases this
  · intro j w hj
    show WOk H opt Sol Rg (s.crit.base.enqueue dedup o.cutset).bestLb s.log w
    rw [e2]
    exact wok_set H opt Sol Rg hI (a := .fin n) (Int.le_refl _) (fun c hc => hc) trivial j w hj
  · intro h
    show (s.crit.base.enqueue dedup o.cutset).bestLb = opt
    rw [e2]
    exact done_set H opt Sol Rg hI (Int.le_refl _) hI.lbOk (fun e => by cases e) h

end
end Ddo.ParCache
