import DdoModel.Proofs.CompatProcess
import DdoModel.Proofs.FreshJoint
/-! C10e — **the fields of the contract of a single compilation with cache and checker that need no analysis of the thresholds**.

* `jcEasy : JCEasy` (`exactCut`, `rng`, `deeper`) — none depends on what the cache or the checker filtered out: by the definition of
  `finalize` the bound of a cut-set node is capped by the best value of the diagram (`cutset_ub_le_bestValue`, any configuration); a relaxed
  compilation that reports `is_exact` either squashed nothing (empty cut-set) or reports `best_exact_value = best_value`
  (`relaxed_isExact_cases`), so the bound of a cut-set node is at most `bkOf lb bestExactValue` (`exactCut_any`); `rng` from C08 (i) and
  `RunBound.value_le`; `deeper` from C08 (ii), the cut-set of an exact restricted compilation being empty.
* **The contract is needed for relaxed compilations only.**  A restricted compilation that is exact squashed no layer: it *is* the relaxed
  compilation of the same input (`Ddo.CacheClosed.restricted_exact_as_relaxed`, any cache and checker).  So a field that reads the output
  only through `isExact` and `cutset` holds of every compilation that counts as soon as it holds of the relaxed ones
  (`fieldHolds_of_relaxed`): `JCThetaX`, `JCRootX`, `JCUbX`, `JCFreshX` imply `JCTheta`, `JCRoot`, `JCUb`, `JCFresh`.
* `jcFresh : JCFresh`, from `fresh_contract_joint` (`Proofs/FreshJoint.lean`). -/
set_option linter.unusedSectionVars false
set_option linter.unusedVariables false

namespace Ddo.C10d
open Ddo Ddo.C01 Ddo.Closed Ddo.C09 Ddo.C10 Ddo.C10c Ddo.Truth

section
variable {S K : Type} [DecidableEq S] [DecidableEq K]

/-- the bound of a cut-set node is capped by the best value of the diagram (`finalize`: `ub := min (min …) bv`); any cache, any
    checker, any compilation type -/
theorem cutset_ub_le_bestValue (cfg : Cfg S K) (cache : Cache S) (store : DomStore S K) (polls : Nat) (stopAt : Option Nat)
    (hok : (compile cfg cache store polls stopAt).1 = .ok) :
    ∀ c ∈ (compile cfg cache store polls stopAt).2.1.cutset,
      ∃ bv, (compile cfg cache store polls stopAt).2.1.bestValue = some bv ∧ c.ub ≤ bv := by
  obtain ⟨_, _, hr⟩ := Ddo.compile_ok cfg cache store polls stopAt hok
  rw [hr]
  intro c hc
  obtain ⟨bv, lp, n3, hbv, _, _, _, rfl⟩ := (Ddo.Bounds.finalize_cutset_iff cfg _ _ c).1 hc
  refine ⟨bv, ?_, ?_⟩
  · rw [Ddo.finalize_bestValue]; exact hbv
  · simp only [Ddo.Bounds.subOf]
    omega

theorem exactCut_any (cfg : Cfg S K) (B : Int) (p0 : List Dec) (cache : Cache S) (store : DomStore S K) (polls : Nat)
    (hrel : cfg.ctype = .relaxed)
    (hroot : Reach cfg.P cfg.root.depth cfg.root.state cfg.root.value p0)
    (hB : NoClamp cfg.P cfg.R cfg.root.value B)
    (hok : (compile cfg cache store polls none).1 = .ok)
    (hex : (compile cfg cache store polls none).2.1.isExact = true) :
    ∀ c ∈ (compile cfg cache store polls none).2.1.cutset,
      c.ub ≤ Theta.bkOf cfg.lb (compile cfg cache store polls none).2.1.bestExactValue := by
  intro c hc
  rcases relaxed_isExact_cases cfg cache store polls hrel hok hex with hl | ⟨_, hb⟩
  · have hemp := C08.cutset_empty_of_exact cfg B p0 cache store polls none hroot hB hok _ (.inl rfl) hl
    rw [hemp] at hc
    exact absurd hc List.not_mem_nil
  · obtain ⟨bv, hbv, hle⟩ := cutset_ub_le_bestValue cfg cache store polls none hok c hc
    rw [hb, hbv]
    unfold Theta.bkOf
    dsimp only
    omega

end

theorem jcEasy : JCEasy := by
  intro S K _ _ dv H B0 B opt n hM ct N lb cache store p0 hpre
  have hwf := hM.wf
  have hroot := hpre.root
  have hBN := hwf.noClamp hroot
  have hok := hpre.ok
  have hbk := hpre.bk
  refine ⟨?_, ?_, ?_⟩
  ·
    intro hex c hc
    have hex' : (compile (dv.kdcfg ct N lb) cache store 0 none).2.1.isExact = true := hex
    have hc' : c ∈ (compile (dv.kdcfg ct N lb) cache store 0 none).2.1.cutset := hc
    rcases hpre.counts with hrel | ⟨hres, _⟩
    · have := exactCut_any (dv.kdcfg ct N lb) B p0 cache store 0 hrel hroot hBN hok hex' c hc'
      have e : (dv.kdcfg ct N lb).lb = lb := rfl
      rw [e] at this
      omega
    · rw [hpre.cutset_nil hwf hres hex'] at hc'
      exact absurd hc' List.not_mem_nil
  ·
    intro c hc
    have hc' : c ∈ (compile (dv.kdcfg ct N lb) cache store 0 none).2.1.cutset := hc
    obtain ⟨q, hq, _⟩ := C08.cutset_exact (dv.kdcfg ct N lb) B p0 cache store 0 none hroot hBN hok _ (.inl rfl) c hc'
    have hq' : Reach dv.sv.P c.depth c.state c.value (p0 ++ q) := hq
    exact rgB_of_reach hwf hq'
  ·
    intro c hc
    have hc' : c ∈ (compile (dv.kdcfg ct N lb) cache store 0 none).2.1.cutset := hc
    rcases hpre.counts with hrel | ⟨hres, hex⟩
    · exact C08.cutset_progress (dv.kdcfg ct N lb) B p0 cache store 0 none hrel hroot hBN hok _ (.inl rfl) c hc'
    · rw [hpre.cutset_nil hwf hres hex] at hc'
      exact absurd hc' List.not_mem_nil

end Ddo.C10d

#print axioms Ddo.C10d.cutset_ub_le_bestValue
#print axioms Ddo.C10d.exactCut_any
#print axioms Ddo.C10d.jcEasy

namespace Ddo.C10d
open Ddo Ddo.C01 Ddo.Closed Ddo.C09 Ddo.C10 Ddo.C10c Ddo.Truth

section
variable (F : ∀ {S K : Type} [DecidableEq S] [DecidableEq K] (dv : DSolverCfg S K) (B opt : Int) (n : Nat) (N : SubP S) (T : CView S)
  (o : DDOut S) (ups : List (S × Nat × Int × Bool)), Prop)

/-- "the field `F` holds of every **relaxed** compilation with cache and checker" -/
def FieldHoldsX : Prop :=
  ∀ (S K : Type) [DecidableEq S] [DecidableEq K] (dv : DSolverCfg S K) (H : Nat → S → EInt) (B0 B opt : Int) (n : Nat),
    MonoHyp dv H B0 B opt n →
    ∀ (N : SubP S) (lb : Int) (cache : Cache S) (store : DomStore S K) (p0 : List Dec),
      CompPre dv opt .relaxed N lb cache store p0 →
      F dv B opt n N (viewOf cache) (toOut (compile (dv.kdcfg .relaxed N lb) cache store 0 none).2.1)
        (compile (dv.kdcfg .relaxed N lb) cache store 0 none).2.1.cacheUpdates.reverse

/-- a field that reads the output through `isExact` and `cutset` only holds of every compilation that counts as soon as it holds of
    the relaxed ones -/
theorem fieldHolds_of_relaxed
    (hF : ∀ {S K : Type} [DecidableEq S] [DecidableEq K] (dv : DSolverCfg S K) (B opt : Int) (n : Nat) (N : SubP S) (T : CView S)
      (o o' : DDOut S) (ups : List (S × Nat × Int × Bool)), o.isExact = o'.isExact → o.cutset = o'.cutset →
      F dv B opt n N T o ups → F dv B opt n N T o' ups)
    (h : FieldHoldsX F) : FieldHolds F := by
  intro S K _ _ dv H B0 B opt n hM ct N lb cache store p0 hpre
  rcases hpre.counts with rfl | ⟨rfl, hex⟩
  · exact h S K dv H B0 B opt n hM N lb cache store p0 hpre
  · have hBN := hM.wf.noClamp hpre.root
    obtain ⟨h1, h2, h3, h4, h5, h6⟩ := Ddo.CacheClosed.restricted_exact_as_relaxed (dv.kdcfg .restricted N lb) B p0 cache store 0 none rfl
      hBN hpre.root hpre.ok hex
    have ecfg : ({ (dv.kdcfg .restricted N lb) with ctype := .relaxed } : Cfg S K) = dv.kdcfg .relaxed N lb := rfl
    rw [ecfg] at h1 h2 h3 h4 h6
    have hpreX : CompPre dv opt .relaxed N lb cache store p0 :=
      ⟨hpre.root, hpre.sreach, hpre.slen, hpre.clen, h1, by rw [h3]; exact hpre.bk, Or.inl rfl⟩
    have := h S K dv H B0 B opt n hM N lb cache store p0 hpreX
    rw [h4] at this
    exact hF dv B opt n N (viewOf cache) _ _ _ (by show (compile _ _ _ _ _).2.1.isExact = (compile _ _ _ _ _).2.1.isExact; rw [h2, hex])
      (by show (compile _ _ _ _ _).2.1.cutset = (compile _ _ _ _ _).2.1.cutset; rw [h6, h5]) this

end

def JCThetaX : Prop :=
  FieldHoldsX (fun {S K} _ _ dv B opt n N T o ups =>
    ∀ u ∈ ups, ∀ v, RgB B u.2.1 v → v ≤ u.2.2.1 → Hot (gpot dv.D dv.sv.P n opt B) opt u.2.1 u.1 v →
      (∃ c ∈ o.cutset, u.2.1 ≤ c.depth ∧ HotN (gpot dv.D dv.sv.P n opt B) opt c) ∨
      HitO (gpot dv.D dv.sv.P n opt B) opt (RgB B) T u.2.1)

def JCRootX : Prop :=
  FieldHoldsX (fun {S K} _ _ dv B opt n N T o ups =>
    HotN (gpot dv.D dv.sv.P n opt B) opt N →
      (o.isExact = true → HitO (gpot dv.D dv.sv.P n opt B) opt (RgB B) T N.depth) ∧
      (o.isExact = false → (∃ c ∈ o.cutset, HotN (gpot dv.D dv.sv.P n opt B) opt c) ∨
        HitO (gpot dv.D dv.sv.P n opt B) opt (RgB B) T N.depth))

def JCUbX : Prop :=
  FieldHoldsX (fun {S K} _ _ dv B opt n N T o ups =>
    ∀ c ∈ o.cutset, HotN (gpot dv.D dv.sv.P n opt B) opt c → opt ≤ c.ub ∨ HitO (gpot dv.D dv.sv.P n opt B) opt (RgB B) T c.depth)

def JCFreshX : Prop :=
  FieldHoldsX (fun {S K} _ _ dv B opt n N T o ups => ∀ c ∈ o.cutset, opt ≤ c.ub → ¬ prunM (T.upds ups) c)

theorem jcTheta_of_relaxed (h : JCThetaX) : JCTheta :=
  fieldHolds_of_relaxed _ (fun dv B opt n N T o o' ups _ hc hf => by rw [← hc]; exact hf) h

theorem jcRoot_of_relaxed (h : JCRootX) : JCRoot :=
  fieldHolds_of_relaxed _ (fun dv B opt n N T o o' ups he hc hf => by rw [← hc, ← he]; exact hf) h

theorem jcUb_of_relaxed (h : JCUbX) : JCUb :=
  fieldHolds_of_relaxed _ (fun dv B opt n N T o o' ups _ hc hf => by rw [← hc]; exact hf) h

theorem jcFresh_of_relaxed (h : JCFreshX) : JCFresh :=
  fieldHolds_of_relaxed _ (fun dv B opt n N T o o' ups _ hc hf => by rw [← hc]; exact hf) h

end Ddo.C10d

#print axioms Ddo.C10d.fieldHolds_of_relaxed
#print axioms Ddo.C10d.jcTheta_of_relaxed
#print axioms Ddo.C10d.jcRoot_of_relaxed
#print axioms Ddo.C10d.jcUb_of_relaxed
#print axioms Ddo.C10d.jcFresh_of_relaxed

namespace Ddo.C10d
open Ddo Ddo.C01 Ddo.Closed Ddo.C09 Ddo.C10 Ddo.C10c Ddo.Truth Ddo.Bounds Ddo.Theta
variable {S K : Type} [DecidableEq S] [DecidableEq K]

/-- relaxed compilations: `fresh_contract_joint`; a restricted compilation that counts is exact, its cut-set is empty -/
theorem jcFresh : JCFresh := by
  intro S K _ _ dv H B0 B opt n hM ct N lb cache store p0 hpre c hc hub
  have hroot := hpre.root
  have hBN := hM.wf.noClamp hroot
  rcases hpre.counts with hct | ⟨hct, hex⟩
  · subst hct
    have hbk := hpre.bk
    refine fresh_contract_joint (dv.kdcfg .relaxed N lb) B p0 cache store 0 rfl rfl (hM.wf.width N) hBN hroot hpre.ok _ (.inl rfl)
      _ (fun u hu => List.mem_reverse.mp hu) c hc ?_
    show c.ub > bkOf lb (compile (dv.kdcfg .relaxed N lb) cache store 0 none).2.1.bestExactValue
    omega
  · subst hct
    exfalso
    have hc' : c ∈ (compile (dv.kdcfg .restricted N lb) cache store 0 none).2.1.cutset := hc
    rw [hpre.cutset_nil hM.wf rfl hex] at hc'
    cases hc'

end Ddo.C10d

#print axioms Ddo.C10d.jcFresh
