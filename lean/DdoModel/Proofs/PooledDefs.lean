import DdoModel.Proofs.LongArcs
import DdoModel.Proofs.MddTruth
import DdoModel.WfRel
import DdoModel.Proofs.EInt
/-! The pooled diagram as an implementation of the solver's diagram contracts: the contract of `is_impacted_by` in potential form
    (`SkipWf`; `SkipRel` is its upper-bound half relative to a layer-validity predicate), the meaning the documentation of `ddo` gives
    it (`NeutralSkip`), which implies the contract, and what a pooled compilation reports as a solution (`IsSolP`). -/
namespace Ddo
variable {S : Type}

/-- **The contract of `Problem::is_impacted_by`, in potential form.**  `H k s` is the value-to-go of state `s` at depth `k`
    (`Potential`).  When the variable `x` selected for the layer of depth `k` does not impact `s`, the pooled diagram
    leaves the node where it is: same state, same value, depth `k + 1`, no decision.  This is sound iff skipping the variable
    changes nothing to what can still be gained:

    * `up`   — `H k s ≤ H (k+1) s` on **every** state handed to `nextVar` (children of merged nodes included): skipping loses
      no potential.  It is the clause the *upper bound* direction needs (C06, C08 (iii), (iv)); it plays for a skipped node the
      role `Potential.att` plays for an expanded one.
    * `down` — `H (k+1) s ≤ H k s` on states reached exactly (`ReachSkip`): skipping gains nothing.  *Lower bound* direction
      (C07, `CompileOk.sound` / `within`, `CutsetOk.sub` / `good`); the counterpart of `Potential.le`.
    * `le`   — `Potential.le` on the states reached with skips (`Potential.le` only speaks of `Reach`, one decision per layer;
      `Reach ⊆ ReachSkip`, so this clause extends it).

    With `AllImpacted` the first two clauses are void and the third is `Potential.le` (`skipWf_of_allImpacted`); it follows
    from `Potential` and the documented meaning of `is_impacted_by` (`NeutralSkip`, `skipWf_of_neutral`). -/
structure SkipWf (P : Problem S) (H : Nat → S → EInt) : Prop where
  up : ∀ k L x s, P.nextVar k L = some x → s ∈ L → P.impacted x s = false → H k s ≤ H (k + 1) s
  down : ∀ k L x s v p, ReachSkip P k s v p → P.nextVar k L = some x → s ∈ L → P.impacted x s = false →
      H (k + 1) s ≤ H k s
  le : ∀ k L x s v p d, ReachSkip P k s v p → P.nextVar k L = some x → s ∈ L → d ∈ P.domain x s →
      (H (k + 1) (P.trans s ⟨x, d⟩)).addI (P.cost s (P.trans s ⟨x, d⟩) ⟨x, d⟩) ≤ H k s

/-- the upper-bound half of `SkipWf`, relative to a layer-validity predicate (as `WfRel`) -/
structure SkipRel (P : Problem S) (H : Nat → S → EInt) (V : Nat → S → Prop) : Prop where
  vskip : ∀ k L x s, P.nextVar k L = some x → s ∈ L → V k s → P.impacted x s = false → V (k + 1) s
  up : ∀ k L x s, P.nextVar k L = some x → s ∈ L → V k s → P.impacted x s = false → H k s ≤ H (k + 1) s

theorem SkipWf.toRel {P : Problem S} {H : Nat → S → EInt} (h : SkipWf P H) : SkipRel P H (fun _ _ => True) :=
  ⟨fun _ _ _ _ _ _ _ _ => trivial, fun k L x s hnv hs _ hi => h.up k L x s hnv hs hi⟩

theorem skipRel_of_allImpacted {P : Problem S} (H : Nat → S → EInt) (V : Nat → S → Prop) (hall : AllImpacted P) :
    SkipRel P H V :=
  ⟨fun _ _ x s _ _ _ hi => (by rw [hall x s] at hi; cases hi), fun _ _ x s _ _ _ hi => (by rw [hall x s] at hi; cases hi)⟩

theorem skipWf_of_allImpacted {P : Problem S} {H : Nat → S → EInt} (hP : Potential P H) (hall : AllImpacted P) :
    SkipWf P H :=
  ⟨fun _ _ x s _ _ hi => (by rw [hall x s] at hi; cases hi),
   fun _ _ x s _ _ _ _ _ hi => (by rw [hall x s] at hi; cases hi),
   fun k L x s v p d hr hnv hs hd => hP.le k L x s v p d (hr.toReach hall) hnv hs hd⟩

/-- **the documented meaning of `is_impacted_by`**: when `x` does not impact `s`, the domain of `x` in `s` is not empty and
    every decision on `x` leaves the state where it is and costs nothing -/
def NeutralSkip (P : Problem S) : Prop :=
  ∀ x s, P.impacted x s = false → P.domain x s ≠ [] ∧
    ∀ d ∈ P.domain x s, P.trans s ⟨x, d⟩ = s ∧ P.cost s s ⟨x, d⟩ = 0

theorem NeutralSkip.dec {P : Problem S} (hN : NeutralSkip P) {x : Nat} {s : S} (hi : P.impacted x s = false) :
    ∃ d ∈ P.domain x s, P.trans s ⟨x, d⟩ = s ∧ P.cost s s ⟨x, d⟩ = 0 := by
  obtain ⟨hne, hall⟩ := hN x s hi
  obtain ⟨d, hd⟩ := List.exists_mem_of_ne_nil _ hne
  exact ⟨d, hd, hall d hd⟩

theorem ReachSkip.complete {P : Problem S} (hN : NeutralSkip P) {k : Nat} {s : S} {v : Int} {p : List Dec}
    (h : ReachSkip P k s v p) : ∃ p', Reach P k s v p' := by
  induction h with
  | root => exact ⟨[], .root⟩
  | step k s v p L x d _ hnv hs hd ih =>
    obtain ⟨p', hp'⟩ := ih
    exact ⟨_, .step k s v p' L x d hp' hnv hs hd⟩
  | skip k s v p L x _ hnv hs hi ih =>
    obtain ⟨p', hp'⟩ := ih
    obtain ⟨d, hd, e1, e2⟩ := hN.dec hi
    have := Reach.step k s v p' L x d hp' hnv hs hd
    rw [e1, e2, Int.add_zero] at this
    exact ⟨_, this⟩

/-- `Potential` + the documented meaning of `is_impacted_by` ⟹ `SkipWf`: `up` from `Potential.att` (which holds on every
    state: the decision that loses no potential is neutral), `down` / `le` from `Potential.le` on the completed path -/
theorem skipWf_of_neutral {P : Problem S} {H : Nat → S → EInt} (hP : Potential P H) (hN : NeutralSkip P) :
    SkipWf P H := by
  refine ⟨?_, ?_, ?_⟩
  · intro k L x s hnv hs hi
    cases hH : H k s with
    | none => exact EInt.none_le _
    | some h =>
      obtain ⟨d, hd, h', hH', hle⟩ := hP.att k L x s h hnv hs hH
      obtain ⟨e1, e2⟩ := (hN x s hi).2 d hd
      rw [e1] at hH' hle
      rw [e2] at hle
      rw [hH']
      show h ≤ h'
      omega
  · intro k L x s v p hr hnv hs hi
    obtain ⟨p', hp'⟩ := hr.complete hN
    obtain ⟨d, hd, e1, e2⟩ := hN.dec hi
    have := hP.le k L x s v p' d hp' hnv hs hd
    rw [e1, e2] at this
    cases hH : H (k + 1) s with
    | none => exact EInt.none_le _
    | some h =>
      rw [hH] at this
      simpa [EInt.addI] using this
  · intro k L x s v p d hr hnv hs hd
    obtain ⟨p', hp'⟩ := hr.complete hN
    exact hP.le k L x s v p' d hp' hnv hs hd

theorem reachSkip_le_root {P : Problem S} {H : Nat → S → EInt} (hS : SkipWf P H) {k : Nat} {s : S} {v : Int} {p : List Dec}
    (h : ReachSkip P k s v p) : (H k s).addI v ≤ (H 0 P.init).addI P.initVal := by
  induction h with
  | root => exact EInt.le_refl _
  | step k s v p L x d hr hnv hs hd ih =>
    exact EInt.le_trans (Truth.addI_step (hS.le k L x s v p d hr hnv hs hd)) ih
  | skip k s v p L x hr hnv hs hi ih =>
    exact EInt.le_trans (Examples.EMax.addI_mono (hS.down k L x s v p hr hnv hs hi) (Int.le_refl v)) ih

theorem pathRel_potLe {P : Problem S} {H : Nat → S → EInt} (hS : SkipWf P H) (p0 : List Dec) (Φ0 : EInt) :
    PathRel P (fun k s v q => ReachSkip P k s v (p0 ++ q) ∧ (H k s).addI v ≤ Φ0) := by
  refine ⟨?_, ?_⟩
  · intro k s v q L x d ⟨h, hle⟩ hnv hs hd
    refine ⟨by rw [← List.append_assoc]; exact .step k s v _ L x d h hnv hs hd, ?_⟩
    exact EInt.le_trans (Truth.addI_step (hS.le k L x s v _ d h hnv hs hd)) hle
  · intro k s v q L x ⟨h, hle⟩ hnv hs hi
    exact ⟨.skip k s v _ L x h hnv hs hi,
      EInt.le_trans (Examples.EMax.addI_mono (hS.down k L x s v _ h hnv hs hi) (Int.le_refl v)) hle⟩

variable {K : Type}

/-- a complete feasible path (with skips) of value `w` through the root sub-problem, reported as `sol` -/
def IsSolP (cfg : Cfg S K) (p0 : List Dec) (w : Int) (sol : Option (List Dec)) : Prop :=
  ∃ (k : Nat) (s : S) (q : List Dec) (L : List S), ReachSkip cfg.P k s w (p0 ++ q) ∧ s ∈ L ∧ cfg.P.nextVar k L = none ∧
    sol = some (cfg.root.path ++ q.reverse)

end Ddo
