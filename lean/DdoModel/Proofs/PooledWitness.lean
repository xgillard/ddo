import DdoModel.Proofs.PooledTruth
import DdoModel.Proofs.PooledProgress
import DdoModel.Props.C08p
/-! Non-vacuity of the truthfulness theorems (`Proofs/PooledTruth.lean`) and of the progress theorems (`Proofs/PooledProgress.lean`) of the pooled
diagram: the instance `Ddo.C07.WitnessP` (`Props/C07p.lean`) with width 2, whose exact best path goes through a long arc; a model with `SiblingsAlike`
but not `AllImpacted`; and the D5 witness seen through `d5_only_root`. -/
set_option linter.unusedSectionVars false
set_option linter.unusedVariables false
namespace Ddo.PTruth
open Ddo Ddo.Pooled Ddo.Truth
variable {S K : Type} [DecidableEq S] [DecidableEq K]

/-! A relaxed compilation whose exact best path goes through a long arc.

The instance of `Ddo.C07.WitnessP` with width 2.  Block 0 expands the root `0` into `1, 2, 3` (the arc to `3` costs 100);
state `3` is not impacted by variable 1 and stays in the pool during block 1; block 2 keeps `3` and merges `4, 5` into `9`;
both `3` and `9` are expanded into `6`.  The terminal node `6` is **not** flagged exact (one of its two parents is the merged
node) but its only value-attaining parent is `3`, so the `must` test succeeds: the compilation reports the best exact value
109 with a solution of 2 decisions, for a terminal node at depth 3. -/
namespace WitnessP
open Ddo.C07.WitnessP

def cfg2 : Cfg Int Unit := { cfg .relaxed with width := 2 }

theorem run :
    (compileP cfg2 (Cache.init 3) (DomStore.init 3) 0 none).1 = .ok ∧
    (compileP cfg2 (Cache.init 3) (DomStore.init 3) 0 none).2.1.bestExactValue = some 109 ∧
    (compileP cfg2 (Cache.init 3) (DomStore.init 3) 0 none).2.1.bestExactSol = some [⟨2, 6⟩, ⟨0, 3⟩] ∧
    ((compileP cfg2 (Cache.init 3) (DomStore.init 3) 0 none).2.2.2.depth = 3 ∧
      (compileP cfg2 (Cache.init 3) (DomStore.init 3) 0 none).2.2.2.pool.map
        (fun n => (n.state, n.value, n.isExact, n.fRelaxed, n.inb.length)) = [(6, 109, false, false, 2)]) ∧
    (compileP cfg2 (Cache.init 3) (DomStore.init 3) 0 none).2.2.2.layers.map
        (fun l => (l.1, l.2.map (fun n => (n.state, n.value, n.fRelaxed)))) =
      [(0, [(0, 0, false)]), (1, [(1, 1, false), (2, 2, false)]),
       (2, [(3, 100, false), (4, 8, false), (5, 9, false), (9, 9, true)])] := by decide +kernel

example : (compileP cfg2 (Cache.init 3) (DomStore.init 3) 0 none).1 = .ok := run.1
example : (compileP cfg2 (Cache.init 3) (DomStore.init 3) 0 none).2.1.bestExactValue = some 109 := run.2.1
example : (compileP cfg2 (Cache.init 3) (DomStore.init 3) 0 none).2.1.bestExactSol = some [⟨2, 6⟩, ⟨0, 3⟩] := run.2.2.1
/-- the terminal node is not flagged exact, it has two inbound arcs, and sits at depth 3 -/
example : (compileP cfg2 (Cache.init 3) (DomStore.init 3) 0 none).2.2.2.depth = 3 ∧
    (compileP cfg2 (Cache.init 3) (DomStore.init 3) 0 none).2.2.2.pool.map
      (fun n => (n.state, n.value, n.isExact, n.fRelaxed, n.inb.length)) = [(6, 109, false, false, 2)] := run.2.2.2.1
/-- a merge did happen -/
example : (compileP cfg2 (Cache.init 3) (DomStore.init 3) 0 none).2.2.2.layers.map
      (fun l => (l.1, l.2.map (fun n => (n.state, n.value, n.fRelaxed)))) =
    [(0, [(0, 0, false)]), (1, [(1, 1, false), (2, 2, false)]),
     (2, [(3, 100, false), (4, 8, false), (5, 9, false), (9, 9, true)])] := run.2.2.2.2

/-- the theorem applies (`R` := `ReachSkip` from the problem root): 109 is the value of a complete path with skips -/
example : ∃ (k : Nat) (s : Int) (q : List Dec) (L : List Int),
    ReachSkip P k s 109 ([] ++ q) ∧ s ∈ L ∧ P.nextVar k L = none ∧
    (compileP cfg2 (Cache.init 3) (DomStore.init 3) 0 none).2.1.bestExactSol = some ([] ++ q.reverse) :=
  bestExact_rel_relaxed cfg2 200 (fun k s v q => ReachSkip P k s v ([] ++ q)) (pathRel_reachSkip P [])
    ReachSkip.root (noClamp .relaxed) (Cache.init 3) (DomStore.init 3) 0 rfl rfl rfl (by decide) run.1 109 run.2.1

end WitnessP

end Ddo.PTruth

namespace Ddo.PProgress
open Ddo Ddo.Pooled
variable {S K : Type} [DecidableEq S] [DecidableEq K]

/-! `SiblingsAlike` without `AllImpacted`, a cut-set behind a long arc.

Four variables.  Block 0 expands the root `0` into `1, 2, 3`; variable 1 impacts **no** state, so the whole generation
skips block 1 (nothing is materialised at depth 1: long arcs from depth 0 to depth 2); block 2 materialises `1, 2, 3`
as the layer of index 1 — at depth 2 — and expands them into `4, 5, 6`; block 3 (two layers materialised, width 1)
merges `4, 5, 6` into `9`, whose child `7` is the terminal node, at depth 4.  The materialised layers sit at depths
`0, 2, 3`.  Cut-set: the exact parents `1, 2, 3` of the merged node, at depth 2 with one decision each; best solution:
3 decisions for a terminal node at depth 4. -/
namespace Witness

def P : Problem Int :=
  { nbVars := 4, init := 0, initVal := 0, trans := fun _ d => d.val,
    cost := fun _ _ d => max 0 (min 9 d.val),
    nextVar := fun k _ => if k < 4 then some k else none,
    domain := fun v _ => if v = 0 then [1, 2, 3] else if v = 2 then [4, 5, 6] else if v = 3 then [7] else [0],
    impacted := fun v _ => v != 1 }
def R : Relax Int := { merge := fun _ => 9, relax := fun _ _ _ _ c => c, rub := fun _ => 1000 }
def cfg (ct : CompType) : Cfg Int Unit :=
  { P := P, R := R, rank := ⟨fun a b => compare a b⟩, dom := none, useCache := false, kind := .frontier, ctype := ct,
    width := 1, root := { state := 0, value := 0, path := [], ub := 1000, depth := 0 }, lb := -1 }

def pd (ct : CompType) : PD Int Unit := (compileP (cfg ct) (Cache.init 4) (DomStore.init 4) 0 none).2.2.2

/-- whether a variable impacts a state does not depend on the state … -/
theorem siblingsAlike : SiblingsAlike (cfg .relaxed).P := fun _ _ _ _ _ _ _ => rfl

/-- … but variable 1 impacts nothing -/
theorem not_allImpacted : ¬ AllImpacted (cfg .relaxed).P := fun h => by
  have := h 1 0
  revert this
  decide

theorem noClamp (ct : CompType) : NoClamp (cfg ct).P (cfg ct).R (cfg ct).root.value 9 := by
  show NoClamp P R 0 9
  refine ⟨by decide, by decide, fun s s' d => ?_, fun s u m d c h => h, by decide⟩
  show -9 ≤ max 0 (min 9 d.val) ∧ max 0 (min 9 d.val) ≤ 9
  omega

/-- the five facts below, from one evaluation of the compilation -/
theorem run_facts :
    (compileP (cfg .relaxed) (Cache.init 4) (DomStore.init 4) 0 none).1 = .ok ∧
    (pd .relaxed).layers.map (fun l => (l.1, l.2.map (fun n => (n.state, n.value, n.isExact)))) =
      [(0, [(0, 0, true)]), (2, [(1, 1, true), (2, 2, true), (3, 3, true)]),
       (3, [(4, 7, true), (5, 8, true), (6, 9, true), (9, 9, false)])] ∧
    ((pd .relaxed).depth = 4 ∧ (pd .relaxed).pool.map (fun n => (n.state, n.value, n.isExact)) = [(7, 16, false)]) ∧
    (compileP (cfg .relaxed) (Cache.init 4) (DomStore.init 4) 0 none).2.1.cutset.map
      (fun c => (c.state, c.value, c.depth, c.path)) =
        [(1, 1, 2, [⟨0, 1⟩]), (2, 2, 2, [⟨0, 2⟩]), (3, 3, 2, [⟨0, 3⟩])] ∧
    (compileP (cfg .relaxed) (Cache.init 4) (DomStore.init 4) 0 none).2.1.bestSol =
      some [⟨3, 7⟩, ⟨2, 6⟩, ⟨0, 3⟩] ∧
    (compileP (cfg .relaxed) (Cache.init 4) (DomStore.init 4) 0 none).2.1.bestValue = some 16 := by decide +kernel

example : (compileP (cfg .relaxed) (Cache.init 4) (DomStore.init 4) 0 none).1 = .ok := run_facts.1

/-- the materialised layers `(recorded depth, [(state, value, exact?)])`: nothing at depth 1; `4, 5, 6` merged into `9` -/
example : (pd .relaxed).layers.map (fun l => (l.1, l.2.map (fun n => (n.state, n.value, n.isExact)))) =
    [(0, [(0, 0, true)]), (2, [(1, 1, true), (2, 2, true), (3, 3, true)]),
     (3, [(4, 7, true), (5, 8, true), (6, 9, true), (9, 9, false)])] := run_facts.2.1

/-- the terminal node: depth 4 -/
example : (pd .relaxed).depth = 4 ∧ (pd .relaxed).pool.map (fun n => (n.state, n.value, n.isExact)) = [(7, 16, false)] :=
  run_facts.2.2.1

/-- the cut-set `(state, value, depth, path)`: non-empty, the three children of the root, **at depth 2 with one
    decision** (they skipped variable 1) … -/
theorem cutset_eq : (compileP (cfg .relaxed) (Cache.init 4) (DomStore.init 4) 0 none).2.1.cutset.map
    (fun c => (c.state, c.value, c.depth, c.path)) =
      [(1, 1, 2, [⟨0, 1⟩]), (2, 2, 2, [⟨0, 2⟩]), (3, 3, 2, [⟨0, 3⟩])] := run_facts.2.2.2.1

/-- a genuine long arc: the best solution has 3 decisions, the terminal node is at depth 4 -/
example : (compileP (cfg .relaxed) (Cache.init 4) (DomStore.init 4) 0 none).2.1.bestSol =
    some [⟨3, 7⟩, ⟨2, 6⟩, ⟨0, 3⟩] ∧
    (compileP (cfg .relaxed) (Cache.init 4) (DomStore.init 4) 0 none).2.1.bestValue = some 16 := run_facts.2.2.2.2

/-- the children `1, 2, 3` of its root are not alike: variable 1 impacts `1` but not `3` -/
example : ¬ SiblingsAlike (C07.WitnessP.cfg .relaxed).P := fun h => by
  have := h 0 0 1 3 1 (by decide) (by decide)
  revert this
  decide

/-- its cut-set holds a node that is not deeper than the root: by `d5_only_root` it can only be the root itself -/
example : ∀ c ∈ (compilePOld (C07.WitnessP.cfg .relaxed) (Cache.init 3) (DomStore.init 3) 0 none).2.1.cutset,
    c.depth ≤ 0 → c.state = 0 ∧ c.value = 0 ∧ c.depth = 0 ∧ c.path = [] :=
  d5_only_root (C07.WitnessP.cfg .relaxed) 200 [] (Cache.init 3) (DomStore.init 3) 0 none rfl ReachSkip.root
    (C07.WitnessP.noClamp .relaxed) (by decide +kernel) _ (.inl rfl)

end Witness

end Ddo.PProgress
