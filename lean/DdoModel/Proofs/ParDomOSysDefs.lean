import DdoModel.Proofs.ParDomOpLoop
import DdoModel.Proofs.ParDomOpSpec
import DdoModel.Proofs.ParDomLSysDefs
/-! # The parallel solver with the shared dominance checker — compilations that interleave ONE `is_dominated_or_insert` AT A TIME

`OSys`: the shared `Critical` record and the workers (`ParSys.Sys`), **the shared store**, and per worker the progress of its current
compilation (`OProg`): between two layers (`between dd k ops`: the diagram, the number of operations performed so far, the
operations), or inside the `_filter_with_dominance` loop of a layer (`inLayer …`: the positions still to be presented, in the order
of the sort, and the accumulator of the loop).  `OStep`:
* `sec`: a critical section of `ParSys` (they do not touch the checker);
* `enter`: worker `i` starts the next layer of its compilation (`next_variable`, sort of the layer; no access to the store);
* `op`: worker `i` presents the NEXT node of its layer to the shared store: **one atomic `is_dominated_or_insert` on the shared store
  as it is now** (`DomStore.query`), which leaves it updated (an inexact node is skipped without touching the store);
* `leave`: the layer is filtered: restrict / relax, expansion (`stepTailO`); no access to the store;
* `finish`: the loop of the compilation ends (no next variable, or the layer is empty); the worker goes on with `resultOf`.
Between two `op` steps of a worker any number of steps of the other workers take place. -/
set_option linter.unusedSectionVars false
set_option linter.unusedVariables false
namespace Ddo.ParDom
open Ddo Ddo.Truth Ddo.Closed Ddo.ParSys Ddo.ParClosed Ddo.C10
open Ddo.C01 (SolverCfg WellFormed toOut SolOf)
variable {S K : Type} [DecidableEq S] [DecidableEq K]

/-- progress of a compilation -/
inductive OProg (S K : Type)
  /-- between two layers: the diagram, the operation counter, the operations performed so far -/
  | between (dd : DD S K) (k : Nat) (ops : List (Op S))
  /-- inside the filter loop of the layer of `dd` (already ticked) for the variable `var`: positions still to be presented, the
      accumulator `(layer, survivors, counter, flag, operations of this layer)` -/
  | inLayer (dd : DD S K) (var : Nat) (ops : List (Op S)) (rest : List Nat)
      (acc : List (Node S) × List Nat × Nat × Bool × List (Op S))

structure OSys (S K : Type) where
  sys : Sys S
  store : DomStore S K
  prog : List (Option (OProg S K))

def OSys.init (dv : DSolverCfg S K) (U : Nat) : OSys S K :=
  ⟨Sys.init dv.sv.P none dv.sv.dedup U, DomStore.init dv.sv.P.nbVars, List.replicate U none⟩

/-- the progress of a compilation that has not started -/
def oprogOf (dv : DSolverCfg S K) (cfg : Cfg S K) (pr : Option (OProg S K)) : OProg S K :=
  pr.getD (.between (initDD cfg (Cache.init dv.sv.P.nbVars) (DomStore.init dv.sv.P.nbVars) 0) 0 [])

/-- the shared store after the node at position `p` of the accumulator's layer has been presented to it -/
def storeAfter (D : DomRule S K) (st : DomStore S K) (ly : List (Node S)) (p : Nat) : DomStore S K :=
  match ly[p]? with
  | none => st
  | some n =>
    if n.isExact then
      match DomStore.query D st n.state n.depth n.value with
      | none => st
      | some (st', _, _) => st'
    else st

inductive OStep (dv : DSolverCfg S K) : OSys S K → OSys S K → Prop
  | sec (s : OSys S K) (t : Sys S)
      (h : Step dv.sv.dedup (fun _ _ _ => False) (fun _ _ _ => False) s.sys t) (hna : NoAbortS t) :
      OStep dv s ⟨t, s.store, s.prog⟩
  | enter (s : OSys S K) (i : Nat) (w : WSt S) (cfg : Cfg S K) (pr : Option (OProg S K)) (dd : DD S K) (k : Nat)
      (ops : List (Op S)) (var : Nat)
      (hw : s.sys.ws[i]? = some w) (hc : cfgOf dv w = some cfg) (hp : s.prog[i]? = some pr)
      (hb : oprogOf dv cfg pr = .between dd k ops)
      (hnv : cfg.P.nextVar dd.depth (dd.next.map (·.state)) = some var) (hne : dd.next.isEmpty = false) :
      OStep dv s ⟨s.sys, s.store, s.prog.set i (some (.inLayer (tick dd var) var ops
        (fdSorted dv.D (fcOf cfg (tick dd var)).1 (fcOf cfg (tick dd var)).2)
        ((fcOf cfg (tick dd var)).1, [], k, true, [])))⟩
  | op (s : OSys S K) (i : Nat) (w : WSt S) (cfg : Cfg S K) (dd : DD S K) (var : Nat) (ops : List (Op S)) (p : Nat)
      (rest : List Nat) (acc : List (Node S) × List Nat × Nat × Bool × List (Op S))
      (hw : s.sys.ws[i]? = some w) (hc : cfgOf dv w = some cfg)
      (hp : s.prog[i]? = some (some (.inLayer dd var ops (p :: rest) acc))) :
      OStep dv s ⟨s.sys, storeAfter dv.D s.store acc.1 p,
        s.prog.set i (some (.inLayer dd var ops rest (fdStepO dv.D (fun _ => s.store) acc p)))⟩
  | leave (s : OSys S K) (i : Nat) (w : WSt S) (cfg : Cfg S K) (dd : DD S K) (var : Nat) (ops : List (Op S))
      (acc : List (Node S) × List Nat × Nat × Bool × List (Op S)) (dd' : DD S K) (k' : Nat) (ops' : List (Op S))
      (hw : s.sys.ws[i]? = some w) (hc : cfgOf dv w = some cfg)
      (hp : s.prog[i]? = some (some (.inLayer dd var ops [] acc)))
      (hst : stepTailO cfg dd ops var (fcOf cfg dd) acc = (some (dd', k', ops'), .ok)) :
      OStep dv s ⟨s.sys, s.store, s.prog.set i (some (.between dd' k' ops'))⟩
  | finish (s : OSys S K) (i : Nat) (w : WSt S) (cfg : Cfg S K) (pr : Option (OProg S K)) (dd : DD S K) (k : Nat)
      (ops : List (Op S)) (fin : DD S K)
      (hw : s.sys.ws[i]? = some w) (hc : cfgOf dv w = some cfg) (hp : s.prog[i]? = some pr)
      (hb : oprogOf dv cfg pr = .between dd k ops)
      (hfin : (cfg.P.nextVar dd.depth (dd.next.map (·.state)) = none ∧
          fin = { dd with log := Call.nextVar dd.depth (dd.next.map (·.state)) none :: dd.log }) ∨
        (∃ var, cfg.P.nextVar dd.depth (dd.next.map (·.state)) = some var ∧ dd.next.isEmpty = true ∧
          fin = { tick dd var with layers := dd.layers ++ [[]] })) :
      OStep dv s ⟨{ crit := s.sys.crit, ws := s.sys.ws.set i (afterComp (toOut (resultOf cfg fin)) w) }, s.store,
        s.prog.set i none⟩

inductive ORun (dv : DSolverCfg S K) : OSys S K → OSys S K → Prop
  | refl (s : OSys S K) : ORun dv s s
  | tail {s t u : OSys S K} : ORun dv s t → OStep dv t u → ORun dv s u

end Ddo.ParDom
