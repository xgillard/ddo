import DdoModel.Proofs.ThetaCtx
/-! Stage 1 of C09 — one compilation (stages 2 and 3 are the caching solver, `Proofs/SeqCache.lean`): the thresholds recorded by a
    relaxed compilation are sound (`theta_sound`, any cache; its instance for `EmptyCache` is `theta_sound_isolated` in
    `Props/C09b.lean`).  The finished diagram is read by `ThetaCtx.lean` (`CtxG`); here: the top-down invariant `TInv`
    (`BuildInv.lean`) packaged for it (`BuiltOk`, `Ctx`, `Ctx.toG`: a compilation without the dominance checker drops no position),
    its lemmas for `Ctx`, and the reading of the result on `compile`. -/
set_option linter.unusedSectionVars false
set_option linter.unusedVariables false
namespace Ddo.Theta
open Ddo Ddo.Bounds
variable {S K : Type} [DecidableEq S] [DecidableEq K]

/-- the finalized layers of `fin` are the layers of `dd` plus its layer under construction (`dd = fin`, or `fin` = `dd`
    plus an empty layer when the loop stopped on an empty layer) -/
structure BuiltOk (cfg : Cfg S K) (H : Nat → S → EInt) (B : Int) (cache : Cache S) (fin : DD S K)
    (Live : Nat → Nat → Prop) (dd : DD S K) : Prop where
  inv : TInv cfg H B cache Live dd
  at_ : ∀ (l p : Nat) (n : Node S), getNode (finalizeLayers fin).layers l p = some n →
    (∃ ly, dd.layers[l]? = some ly ∧ ly[p]? = some n) ∨ (l = dd.layers.length ∧ dd.next[p]? = some n)
  ofL : ∀ (l : Nat) ly (p : Nat) (n : Node S), dd.layers[l]? = some ly → ly[p]? = some n →
    getNode (finalizeLayers fin).layers l p = some n
  ofN : ∀ (p : Nat) (n : Node S), dd.next[p]? = some n → getNode (finalizeLayers fin).layers dd.layers.length p = some n
  termL : (finalizeLayers fin).termL = if dd.next.isEmpty then none else some dd.layers.length
  terms : (finalizeLayers fin).terminals = dd.next
  nv : dd.next ≠ [] → cfg.P.nextVar dd.depth (dd.next.map (·.state)) = none
  len : dd.layers.length ≤ cfg.P.nbVars + 1
  lenT : dd.next ≠ [] → (finalizeLayers fin).layers.length = dd.layers.length + 1
  lelEq : fin.lel = dd.lel
  same : dd.next ≠ [] → fin = dd
  lenB : (finalizeLayers fin).layers.length ≤ dd.layers.length + 1

theorem view_at {Ls LB : List (List (Node S))} {nx : List (Node S)}
    (hs : LB = Ls ++ [nx] ∨ (LB = Ls ∧ nx = [])) (l p : Nat) (n : Node S) (h : getNode LB l p = some n) :
    (∃ ly, Ls[l]? = some ly ∧ ly[p]? = some n) ∨ (l = Ls.length ∧ nx[p]? = some n) := by
  rcases hs with rfl | ⟨rfl, _⟩
  · rcases Nat.lt_or_ge l Ls.length with hl | hl
    · exact .inl (getNode_full_lt h hl)
    · have hlt := Ddo.getNode_lt h
      rw [List.length_append, List.length_singleton] at hlt
      have : l = Ls.length := by omega
      subst this
      rw [getNode_full_last] at h
      exact .inr ⟨rfl, h⟩
  · exact .inl (Cover.getNode_lt h)

theorem view_ofL {Ls LB : List (List (Node S))} {nx : List (Node S)}
    (hs : LB = Ls ++ [nx] ∨ (LB = Ls ∧ nx = [])) (l : Nat) (ly : List (Node S)) (p : Nat) (n : Node S)
    (hl : Ls[l]? = some ly) (hp : ly[p]? = some n) : getNode LB l p = some n := by
  rcases hs with rfl | ⟨rfl, _⟩
  · exact getNode_full_of hl hp
  · exact getNode_of hl hp

theorem view_ofN {Ls LB : List (List (Node S))} {nx : List (Node S)}
    (hs : LB = Ls ++ [nx] ∨ (LB = Ls ∧ nx = [])) (p : Nat) (n : Node S) (hp : nx[p]? = some n) :
    getNode LB Ls.length p = some n := by
  rcases hs with rfl | ⟨rfl, rfl⟩
  · rw [getNode_full_last]; exact hp
  · simp at hp

theorem finalizeLayers_empty (dd : DD S K) (h : dd.next = []) :
    (finalizeLayers dd).layers = dd.layers ∧ (finalizeLayers dd).termL = none := by
  unfold finalizeLayers; simp only [h, List.isEmpty_nil, if_true, and_self]

theorem finalizeLayers_termL (dd : DD S K) :
    (finalizeLayers dd).termL = if dd.next.isEmpty then none else some dd.layers.length := by
  unfold finalizeLayers; cases dd.next.isEmpty <;> rfl

theorem fin_view (fin : DD S K) :
    (finalizeLayers fin).layers = fin.layers ++ [fin.next] ∨ ((finalizeLayers fin).layers = fin.layers ∧ fin.next = []) := by
  by_cases hne : fin.next = []
  · exact .inr ⟨(finalizeLayers_empty fin hne).1, hne⟩
  · exact .inl (finalizeLayers_nonempty fin hne).1

theorem finalizeLayers_len_le (fin : DD S K) : (finalizeLayers fin).layers.length ≤ fin.layers.length + 1 := by
  rcases fin_view fin with h | ⟨h, _⟩
  · rw [h, List.length_append, List.length_singleton]; exact Nat.le_refl _
  · rw [h]; exact Nat.le_succ _

theorem builtOk_of_done (cfg : Cfg S K) (H : Nat → S → EInt) (B : Int) (cache : Cache S) (fin : DD S K)
    (h : DoneT cfg H B cache fin) : ∃ Live dd, BuiltOk cfg H B cache fin Live dd := by
  cases h with
  | brk Live dd0 hI hn0 hlen hL hN hlel =>
    obtain ⟨hlay, htl⟩ := finalizeLayers_empty fin hN
    have hs : (finalizeLayers fin).layers = dd0.layers ++ [dd0.next] ∨ ((finalizeLayers fin).layers = dd0.layers ∧ dd0.next = []) := by
      left; rw [hlay, hL, hn0]
    refine ⟨Live, dd0, hI, view_at hs, view_ofL hs, view_ofN hs, by rw [hn0]; exact htl, ?_, fun h => absurd hn0 h, hlen,
      fun h => absurd hn0 h, hlel, fun h => absurd hn0 h, ?_⟩
    · rw [terminals_finalizeLayers, hN, hn0]
    · rw [hlay, hL, List.length_append, List.length_singleton]; exact Nat.le_refl _
  | term Live hI hnone hlen =>
    have hs := fin_view fin
    refine ⟨Live, fin, hI, view_at hs, view_ofL hs, view_ofN hs, finalizeLayers_termL fin, terminals_finalizeLayers fin,
      fun _ => hnone, hlen, fun hne => ?_, rfl, fun _ => rfl, finalizeLayers_len_le fin⟩
    rw [(finalizeLayers_nonempty fin hne).1, List.length_append, List.length_singleton]

structure Ctx (cfg : Cfg S K) (H : Nat → S → EInt) (B : Int) (cache : Cache S) (p0 : List Dec) (fin : DD S K)
    (Live : Nat → Nat → Prop) (dd : DD S K) : Prop where
  hy : HypT cfg H B
  bo : BuiltOk cfg H B cache fin Live dd
  wf : CutWF cfg p0 (finalizeLayers fin).layers (finalizeLayers fin).lel
  inv2 : Inv2 cfg fin

section
variable {cfg : Cfg S K} {H : Nat → S → EInt} {B : Int} {cache : Cache S} {p0 : List Dec} {fin : DD S K}
  {Live : Nat → Nat → Prop} {dd : DD S K}

/-- without the dominance checker no position is dropped: the joint reading (`ThetaCtx.lean`) applies, at any level `O` -/
theorem BuiltOk.toJ (O : Int) (h : BuiltOk cfg H B cache fin Live dd) :
    C10d.BuiltOkJ cfg H B cache O fin Live (fun _ _ => False) dd :=
  ⟨h.inv.toJ O, h.at_, h.ofL, h.ofN, h.termL, h.terms, h.nv, h.len, h.lenT, h.lelEq, h.same, h.lenB⟩

theorem Ctx.toG (O : Int) (hx : Ctx cfg H B cache p0 fin Live dd) :
    C10d.CtxG cfg H B cache O p0 fin Live (fun _ _ => False) dd :=
  ⟨hx.hy.rel, hx.hy.B, fun k L s _ hnv hs hH => Option.some.inj (hH.symm.trans (hx.hy.P.term k L s hnv hs)),
    fun _ _ => False.elim, hx.bo.toJ O, hx.wf, hx.inv2⟩

theorem Ctx.locate (hx : Ctx cfg H B cache p0 fin Live dd) (e : Bool) {l p : Nat} {n3 : Node S}
    (h : getNode (finalize cfg (finalizeLayers fin) e).2 l p = some n3) :
    ∃ n0 n1 n2, getNode (finalizeLayers fin).layers l p = some n0 ∧ getNode (fLayers1 cfg (finalizeLayers fin)) l p = some n1 ∧
      getNode (fLayers2 cfg (finalizeLayers fin)) l p = some n2 ∧ Corr n0 n1 n2 n3 ∧
      ((∃ ly, dd.layers[l]? = some ly ∧ ly[p]? = some n0 ∧ l < dd.layers.length) ∨ (l = dd.layers.length ∧ dd.next[p]? = some n0)) :=
  (hx.toG 0).locate e h

theorem Ctx.lmax (hx : Ctx cfg H B cache p0 fin Live dd) (e : Bool) (l p : Nat) (n3 : Node S)
    (h : getNode (finalize cfg (finalizeLayers fin) e).2 l p = some n3) : l ≤ dd.layers.length :=
  (hx.toG 0).lmax e l p n3 h

theorem Ctx.depth (hx : Ctx cfg H B cache p0 fin Live dd) (e : Bool) (l p : Nat) (n3 : Node S)
    (h : getNode (finalize cfg (finalizeLayers fin) e).2 l p = some n3) : n3.depth = cfg.root.depth + l :=
  (hx.toG 0).depth e l p n3 h

theorem Ctx.liveN (hx : Ctx cfg H B cache p0 fin Live dd) (e : Bool) (l p : Nat) (n3 : Node S)
    (h : getNode (finalize cfg (finalizeLayers fin) e).2 l p = some n3) (hdel : n3.deleted = false) (hc : n3.cache = false)
    (hl : l < dd.layers.length) :
    n3.rub = cfg.R.rub n3.state ∧ StepF cfg H B (finalize cfg (finalizeLayers fin) e).2 l p n3 :=
  (hx.toG 0).liveN e l p n3 h hdel hc hl id

theorem Ctx.spec (hx : Ctx cfg H B cache p0 fin Live dd) (e : Bool) :
    (∀ (l p : Nat) (n3 : Node S),
      getNode (finalize cfg (finalizeLayers fin) e).2 l p = some n3 → n3.deleted = false →
      ∃ (n0 : Node S) (θp : Option Int),
        getNode (thInit cfg.kind (finalizeLayers fin).isExactField cfg.lb (finalize cfg (finalizeLayers fin) e).1.bestExactValue
          (finalizeLayers fin).termL (fLayers2 cfg (finalizeLayers fin))) l p = some n0 ∧ stripT n0 = stripT n3 ∧
        (∀ t0, n0.theta = some t0 → ∃ tp, θp = some tp ∧ tp ≤ t0) ∧
        (∀ (p' : Nat) (m3 : Node S) (t : Int) (a : Arc),
          getNode (finalize cfg (finalizeLayers fin) e).2 (l + 1) p' = some m3 →
          m3.deleted = false → m3.theta = some t → a ∈ m3.inb → a.fromP = p →
          ∃ tp, θp = some tp ∧ tp ≤ satSub t a.cost) ∧
        n3.theta = ownTheta (bkOf cfg.lb (finalize cfg (finalizeLayers fin) e).1.bestExactValue) n3 θp) ∧
    (∀ u ∈ (finalize cfg (finalizeLayers fin) e).1.cacheUpdates,
      ∃ (l p : Nat) (n3 : Node S),
        getNode (finalize cfg (finalizeLayers fin) e).2 l p = some n3 ∧
        n3.deleted = false ∧ n3.cache = false ∧ n3.above = true ∧
        ∃ t, n3.theta = some t ∧ u = (n3.state, n3.depth, t, !n3.cutset)) :=
  C10c.finalize_spec cfg p0 _ hx.hy.rel hx.wf e

theorem Ctx.flags0 (hx : Ctx cfg H B cache p0 fin Live dd) (l p : Nat) (n : Node S)
    (h : getNode (finalizeLayers fin).layers l p = some n) : n.cutset = false ∧ n.above = false :=
  (hx.toG 0).flags0 l p n h

theorem Ctx.cutMem (hx : Ctx cfg H B cache p0 fin Live dd) (e : Bool) (l p : Nat) (n3 : Node S)
    (hn : getNode (finalize cfg (finalizeLayers fin) e).2 l p = some n3) (hcut : n3.cutset = true) :
    (l, p) ∈ fCs cfg (finalizeLayers fin) :=
  (hx.toG 0).cutMem e l p n3 hn hcut

theorem Ctx.good (hx : Ctx cfg H B cache p0 fin Live dd) (e : Bool) (l0 q0 : Nat) (c3 : Node S)
    (hc : getNode (finalize cfg (finalizeLayers fin) e).2 l0 q0 = some c3) (hcut : c3.cutset = true)
    (l p : Nat) (h : Int) (r : Nat) (hp : Path (finalize cfg (finalizeLayers fin) e).2 H cfg.root.depth B l p h r) :
    ∃ n3, getNode (finalize cfg (finalizeLayers fin) e).2 l p = some n3 ∧ n3.marked = true ∧ h ≤ n3.vbot :=
  (hx.toG 0).good e l0 q0 c3 hc hcut l p h r hp

theorem Ctx.lel_ne (hx : Ctx cfg H B cache p0 fin Live dd) (hne : dd.next ≠ []) :
    (fin.lel = none ∧ (finalizeLayers fin).lel = dd.layers.length + 1) ∨ (finalizeLayers fin).lel < dd.layers.length :=
  (hx.toG 0).lel_ne hne

theorem Ctx.thetaF (hx : Ctx cfg H B cache p0 fin Live dd) (e : Bool) (l p : Nat) (n3 : Node S)
    (h : getNode (finalize cfg (finalizeLayers fin) e).2 l p = some n3) (hdel : n3.deleted = false) :
    ∃ θp : Option Int, n3.theta = ownTheta (bkOf cfg.lb (finalize cfg (finalizeLayers fin) e).1.bestExactValue) n3 θp ∧
      (∀ (p' : Nat) (m3 : Node S) (t : Int) (a : Arc), getNode (finalize cfg (finalizeLayers fin) e).2 (l + 1) p' = some m3 →
        m3.deleted = false → m3.theta = some t → a ∈ m3.inb → a.fromP = p → ∃ tp, θp = some tp ∧ tp ≤ satSub t a.cost) ∧
      (l = dd.layers.length → n3.above = true →
        ∃ tp, θp = some tp ∧ tp ≤ bkOf cfg.lb (finalize cfg (finalizeLayers fin) e).1.bestExactValue) :=
  have ⟨θp, a, b, c, _⟩ := (hx.toG 0).thetaF e l p n3 h hdel
  ⟨θp, a, b, c⟩

theorem Ctx.ff (hx : Ctx cfg H B cache p0 fin Live dd) (e : Bool) :
    FF cfg H B cache (finalize cfg (finalizeLayers fin) e).2 dd.layers.length
      (bkOf cfg.lb (finalize cfg (finalizeLayers fin) e).1.bestExactValue) :=
  (hx.toG _).ffj e

theorem Ctx.theta_sound_strict (hx : Ctx cfg H B cache p0 fin Live dd) (hR : RubOk cfg.R H) (hlb : cfg.lb < iMax)
    (M : Int) (hM0 : 0 ≤ M) (hMs : M + Cover.Bd B (cfg.P.nbVars + 1) ≤ big) (e : Bool) :
    ∀ u ∈ (finalize cfg (finalizeLayers fin) e).1.cacheUpdates, cfg.root.depth ≤ u.2.1 ∧
      ∀ v h, Cover.Within (M + Cover.Bd B (u.2.1 - cfg.root.depth)) v → v ≤ u.2.2.1 → H u.2.1 u.1 = some h →
        v + h ≤ bkOf cfg.lb (finalize cfg (finalizeLayers fin) e).1.bestExactValue ∨
        (∃ c ∈ (finalize cfg (finalizeLayers fin) e).1.cutset, (u.2.1 < c.depth ∨ (c.depth = u.2.1 ∧ c.state = u.1)) ∧
          ∃ y, (H c.depth c.state).addI c.value = some y ∧ v + h ≤ y) ∨
        (cfg.useCache = true ∧ ∃ (s' : S) (d' : Nat) (t : Thr) (v' h' : Int), cache.get s' d' = some (some t) ∧ u.2.1 < d' ∧
          Cover.Within (M + Cover.Bd B (d' - cfg.root.depth)) v' ∧ v' ≤ t.value ∧ H d' s' = some h' ∧ v + h ≤ v' + h') :=
  (hx.toG _).theta_sound_strict hR hlb M hM0 hMs e (Int.le_refl _)

/-- **soundness of the thresholds, on `finalize`** -/
theorem Ctx.theta_sound (hx : Ctx cfg H B cache p0 fin Live dd) (hR : RubOk cfg.R H) (hlb : cfg.lb < iMax)
    (M : Int) (hM0 : 0 ≤ M) (hMs : M + Cover.Bd B (cfg.P.nbVars + 1) ≤ big) (e : Bool) :
    ∀ u ∈ (finalize cfg (finalizeLayers fin) e).1.cacheUpdates, cfg.root.depth ≤ u.2.1 ∧
      ∀ v h, Cover.Within (M + Cover.Bd B (u.2.1 - cfg.root.depth)) v → v ≤ u.2.2.1 → H u.2.1 u.1 = some h →
        v + h ≤ bkOf cfg.lb (finalize cfg (finalizeLayers fin) e).1.bestExactValue ∨
        (∃ c ∈ (finalize cfg (finalizeLayers fin) e).1.cutset, u.2.1 ≤ c.depth ∧
          ∃ y, (H c.depth c.state).addI c.value = some y ∧ v + h ≤ y) ∨
        (cfg.useCache = true ∧ ∃ (s' : S) (d' : Nat) (t : Thr) (v' h' : Int), cache.get s' d' = some (some t) ∧ u.2.1 < d' ∧
          Cover.Within (M + Cover.Bd B (d' - cfg.root.depth)) v' ∧ v' ≤ t.value ∧ H d' s' = some h' ∧ v + h ≤ v' + h') := fun u hu =>
  ⟨(hx.theta_sound_strict hR hlb M hM0 hMs e u hu).1, fun v h hv hvt hH =>
    ((hx.theta_sound_strict hR hlb M hM0 hMs e u hu).2 v h hv hvt hH).imp_right (Or.imp_left weaken_strict)⟩

end

theorem ctx_of_compile (cfg : Cfg S K) (H : Nat → S → EInt) (B : Int) (p0 : List Dec) (cache : Cache S)
    (store : DomStore S K) (polls : Nat) (stopAt : Option Nat) (hy : HypT cfg H B)
    (hroot : Reach cfg.P cfg.root.depth cfg.root.state cfg.root.value p0)
    (hok : (compile cfg cache store polls stopAt).1 = .ok) :
    ∃ Live dd, Ctx cfg H B cache p0 (buildLoop cfg stopAt (cfg.P.nbVars + 2) (initDD cfg cache store polls)).1 Live dd := by
  have hdone := compile_doneT cfg H B hy cache store polls stopAt hok
  have hwf := compile_wf cfg B p0 hy.B hroot cache store polls stopAt
  have hinv2 := (buildLoop_inv2 cfg B p0 hy.B stopAt (cfg.P.nbVars + 2) (initDD cfg cache store polls)
    (initDD_inv cfg B p0 hy.B hroot cache store polls) (initDD_inv2 cfg cache store polls) rfl
    (by simp only [initDD, List.length_nil]; omega)).2
  obtain ⟨Live, dd, hbo⟩ := builtOk_of_done cfg H B cache _ hdone
  exact ⟨Live, dd, hy, hbo, hwf, hinv2⟩

/-- `theta_sound` with the middle alternative in its strict form: the sub-problem `c` of the
    cut-set of this diagram that carries `v + h` is strictly deeper than the threshold `(s, d, θ, _)`, or it is the
    sub-problem of the node the threshold belongs to (`c.depth = d ∧ c.state = s`). -/
theorem theta_sound_strict (cfg : Cfg S K) (H : Nat → S → EInt) (B M : Int) (p0 : List Dec) (cache : Cache S)
    (store : DomStore S K) (polls : Nat) (stopAt : Option Nat)
    (hrel : cfg.ctype = .relaxed) (hdom : cfg.dom = none) (hW : 1 ≤ cfg.width)
    (hP : Potential cfg.P H) (hR : RubOk cfg.R H) (hM : MergeOk cfg.R H) (hAM : Cover.AttMerge cfg.P cfg.R H)
    (hB : NoClamp cfg.P cfg.R cfg.root.value B) (hlb : cfg.lb < iMax)
    (hroot : Reach cfg.P cfg.root.depth cfg.root.state cfg.root.value p0)
    (hM0 : 0 ≤ M) (hMs : M + Cover.Bd B (cfg.P.nbVars + 1) ≤ big)
    (hok : (compile cfg cache store polls stopAt).1 = .ok) (r : Result S)
    (hr : r = (compile cfg cache store polls stopAt).2.1 ∨ (compile cfg cache store polls stopAt).2.2.1 = some r) :
    ∀ u ∈ r.cacheUpdates, cfg.root.depth ≤ u.2.1 ∧
      ∀ v h, Cover.Within (M + Cover.Bd B (u.2.1 - cfg.root.depth)) v → v ≤ u.2.2.1 → H u.2.1 u.1 = some h →
        v + h ≤ bkOf cfg.lb r.bestExactValue ∨
        (∃ c ∈ r.cutset, (u.2.1 < c.depth ∨ (c.depth = u.2.1 ∧ c.state = u.1)) ∧
          ∃ y, (H c.depth c.state).addI c.value = some y ∧ v + h ≤ y) ∨
        (cfg.useCache = true ∧ ∃ (s' : S) (d' : Nat) (t : Thr) (v' h' : Int), cache.get s' d' = some (some t) ∧ u.2.1 < d' ∧
          Cover.Within (M + Cover.Bd B (d' - cfg.root.depth)) v' ∧ v' ≤ t.value ∧ H d' s' = some h' ∧ v + h ≤ v' + h') := by
  obtain ⟨_, e, rfl⟩ := compile_results cfg cache store polls stopAt hok r hr
  obtain ⟨Live, dd, hx⟩ := ctx_of_compile cfg H B p0 cache store polls stopAt ⟨hrel, hdom, hW, hP, hM, hAM, hB⟩ hroot hok
  exact hx.theta_sound_strict hR hlb M hM0 hMs e


/-- Stage 1 of C09 for a relaxed compilation, with or without cache (no dominance rule): every
    recorded threshold `(s, d, θ, explored)` is sound.  For every value `v ≤ θ` (the rule of `_filter_with_cache`, which
    ignores the `explored` flag and is the stronger of the two pruning rules) in range and every potential `h` of `(d, s)`:
    `v + h ≤ bk` (the incumbent after this diagram), or a sub-problem of the cut-set of *this* diagram, not shallower than
    `d`, has potential `≥ v + h`, or the cache consulted by the compilation prunes, strictly deeper than `d`, a sub-problem
    `(s', d', v')` with potential `≥ v + h`. -/
theorem theta_sound (cfg : Cfg S K) (H : Nat → S → EInt) (B M : Int) (p0 : List Dec) (cache : Cache S) (store : DomStore S K)
    (polls : Nat) (stopAt : Option Nat)
    (hrel : cfg.ctype = .relaxed) (hdom : cfg.dom = none) (hW : 1 ≤ cfg.width)
    (hP : Potential cfg.P H) (hR : RubOk cfg.R H) (hM : MergeOk cfg.R H) (hAM : Cover.AttMerge cfg.P cfg.R H)
    (hB : NoClamp cfg.P cfg.R cfg.root.value B) (hlb : cfg.lb < iMax)
    (hroot : Reach cfg.P cfg.root.depth cfg.root.state cfg.root.value p0)
    (hM0 : 0 ≤ M) (hMs : M + Cover.Bd B (cfg.P.nbVars + 1) ≤ big)
    (hok : (compile cfg cache store polls stopAt).1 = .ok) (r : Result S)
    (hr : r = (compile cfg cache store polls stopAt).2.1 ∨ (compile cfg cache store polls stopAt).2.2.1 = some r) :
    ∀ u ∈ r.cacheUpdates, cfg.root.depth ≤ u.2.1 ∧
      ∀ v h, Cover.Within (M + Cover.Bd B (u.2.1 - cfg.root.depth)) v → v ≤ u.2.2.1 → H u.2.1 u.1 = some h →
        v + h ≤ bkOf cfg.lb r.bestExactValue ∨
        (∃ c ∈ r.cutset, u.2.1 ≤ c.depth ∧ ∃ y, (H c.depth c.state).addI c.value = some y ∧ v + h ≤ y) ∨
        (cfg.useCache = true ∧ ∃ (s' : S) (d' : Nat) (t : Thr) (v' h' : Int), cache.get s' d' = some (some t) ∧ u.2.1 < d' ∧
          Cover.Within (M + Cover.Bd B (d' - cfg.root.depth)) v' ∧ v' ≤ t.value ∧ H d' s' = some h' ∧ v + h ≤ v' + h') := fun u hu =>
  have hs := theta_sound_strict cfg H B M p0 cache store polls stopAt hrel hdom hW hP hR hM hAM hB hlb hroot hM0 hMs hok r hr u hu
  ⟨hs.1, fun v h hv hvt hH => (hs.2 v h hv hvt hH).imp_right (Or.imp_left weaken_strict)⟩

end Ddo.Theta
