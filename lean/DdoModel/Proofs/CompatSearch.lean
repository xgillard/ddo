import DdoModel.Proofs.CompatGrid
import DdoModel.Proofs.NoCapSearch
import DdoModel.Proofs.CacheDomTwin
import DdoModel.Proofs.CompatShadowTable
/-! C10d — **counter-example search for `Ddo.C10c.CachingDominanceCompat`** (cache + dominance checker, `SimAll` rule, static
order, rule-maximal merge) on the table family `Ddo.C10d.Grid` of `Proofs/CompatGrid.lean`.

Executable code only (no theorem depends on it); `searchMain` is the entry point of a small driver (a compiled executable that
imports this module).  A model is drawn **by construction** inside the hypotheses of the open statement:

* the states are the representatives of the points of a grid `ga × gb` (1 ≤ ga, gb ≤ 3; several representatives per point with
  some probability: *coarse* rule, distinct equivalent states); the rule compares the two grid coordinates and the value — for
  `ga, gb ≥ 2` incomparable states exist (*partial* order), for `gb = 1` the order is total (the knapsack regime);
* per variable and decision a **monotone** map of the grid (random monotone closure, "subtract a vector where it fits" — the
  knapsack / multi-resource step —, "add a vector", identity, constant), a monotone cost and an upward closed availability; per
  state the two decisions are randomly swapped and the child is a random representative of the child point: the rule satisfies
  `SimAll` (re-checked by `Grid.checkSim`), and the simulating decision is in general **not** the same decision;
* merge = fold of a join table whose entries are representatives of the least upper bound (or, mode `joinUp`, of a random
  upper bound) of the two points: `MergeCompat` (`Grid.checkJoin`); relaxed arc cost = cost + `bump` (0 or 1);
* rough upper bound: constant or per state, tight or with slack, above the true value-to-go of **every** state (`Grid.checkRub`);
  `rubMode = 2` (secondary regime, see `Props/C10d.lean`): per state, above the value-to-go of the *exactly reachable* items the
  state dominates only;
* costs with many ties (values 0 … 2, sparse rewards), widths `1 … 3` as a function of (depth, state), random ranking, both
  decision orders.

Every model is run in the four configurations (both fringes × both cut-set kinds), best-first (`KDStep`): the deterministic
`popMax` order and, when a tie among maximal nodes was met, `nrand` random resolutions of the ties.  The value held at the empty
fringe is compared with the dynamic program `Grid.optimum`.  Counted besides: runs in which the checker prunes, the cache prunes,
the cache prunes an **inexact** (relaxed) node, `must_explore` refuses a popped node, the checker drops the **root** of a popped
sub-problem (the last step of `Twin`), both mechanisms prune.  In every visited state the executable form of the conjectured joint
invariant `Ddo.C10d.CompatInv` is evaluated (`goodTable`, `invOk`); `nany > 0` adds runs with an **arbitrary** pop order (any open node,
not only a maximal one: a custom ranking, or the parallel solver processing out of order); `mode = 1` is the mutation search around
`Ddo.C10d.Shadow` with the rough upper bound repaired. -/
set_option linter.unusedVariables false
namespace Ddo.C10d.Search
open Ddo Ddo.C01 Ddo.Closed Ddo.C09 Ddo.C10 Ddo.C10c Ddo.C10d.Grid
open Ddo.C09.NoCapSearch (Rng)

/-! ## instrumented turn (the same computation as `DSolverCfg.kdturn`, plus what the two filters did) -/

structure Flags where
  ndom : Nat := 0
  ncache : Nat := 0
  ncacheInexact : Nat := 0
  refused : Nat := 0
  rootDom : Nat := 0
  deriving Repr

def Flags.add (a b : Flags) : Flags :=
  { ndom := a.ndom + b.ndom, ncache := a.ncache + b.ncache, ncacheInexact := a.ncacheInexact + b.ncacheInexact,
    refused := a.refused + b.refused, rootDom := a.rootDom + b.rootDom }

def ddFlags (dd : DD Int Int) : Flags :=
  let nodes := dd.layers.flatMap id ++ dd.next
  let pr := nodes.filter (·.cache)
  { ndom := dd.ndom, ncache := pr.length, ncacheInexact := (pr.filter (fun n => !n.isExact)).length,
    rootDom := if (dd.layers.headD []).length == 1 && (dd.layers.drop 1).all (·.isEmpty) && dd.next.isEmpty && dd.ndom > 0 then 1 else 0 }

def processI (dv : DSolverCfg Int Int) (st : SeqSt Int) (c0 : Cache Int) (d0 : DomStore Int Int) (N : SubP Int) :
    Option (KDSt Int Int × Flags) :=
  if N.ub ≤ st.bestLb then some (⟨st, c0, d0⟩, {})
  else
    match c0.mustExplore N.state N.depth N.value with
    | none => none
    | some false => some (⟨st, c0, d0⟩, { refused := 1 })
    | some true =>
      let cR := dv.kdcompR c0 d0 N st.bestLb
      if cR.1 ≠ .ok then none
      else
        match applyUps c0 cR.2.1.cacheUpdates.reverse with
        | none => none
        | some c1 =>
          let st1 := st.updateBest (toOut cR.2.1)
          let d1 := cR.2.2.2.store
          let fR := ddFlags cR.2.2.2
          if cR.2.1.isExact then some (⟨st1, c1, d1⟩, fR)
          else
            let cX := dv.kdcompX c1 d1 N st1.bestLb
            if cX.1 ≠ .ok then none
            else
              match applyUps c1 cX.2.1.cacheUpdates.reverse with
              | none => none
              | some c2 =>
                let st2 := st1.updateBest (toOut cX.2.1)
                let d2 := cX.2.2.2.store
                let fl := fR.add (ddFlags cX.2.2.2)
                if cX.2.1.isExact then some (⟨st2, c2, d2⟩, fl)
                else some (⟨st2.enqueue dv.sv.dedup cX.2.1.cutset, c2, d2⟩, fl)

def turnI (dv : DSolverCfg Int Int) (s : KDSt Int Int) (N : SubP Int) (rest : List (SubP Int)) :
    Option (KDSt Int Int × Flags) :=
  match cleanCache dv.sv.P.nbVars s.st.openByLayer dv.sv.P.nbVars s.st.firstActive s.cache with
  | none => none
  | some c0 =>
    processI dv (popped s.st N rest (cleanLoop dv.sv.P.nbVars s.st.openByLayer dv.sv.P.nbVars s.st.firstActive)) c0 s.store N

/-- indices of the maximal nodes (`MaxUB`, then value) -/
def maxIdx (l : List (SubP Int)) : List Nat :=
  match l with
  | [] => []
  | c0 :: _ =>
    let best := l.foldl (fun (b : Int × Int) c => if c.ub > b.1 || (c.ub == b.1 && c.value > b.2) then (c.ub, c.value) else b)
      (c0.ub, c0.value)
    (List.range l.length).filter (fun i => match l[i]? with
      | some c => c.ub == best.1 && c.value == best.2
      | none => false)

structure RunOut where
  complete : Bool := false
  panic : Bool := false
  value : Int := 0
  crashed : Bool := false
  turns : Nat := 0
  tie : Bool := false
  fl : Flags := {}
  sched : List Nat := []
  invBad : Nat := 0        -- visited states that violate the conjectured joint invariant (`CompatInv`, executable form)

/-- a best-first run; `rnd = none`: the first maximal node (in fringe order), otherwise a random one -/
def runBF (dv : DSolverCfg Int Int) (chk : KDSt Int Int → Bool := fun _ => true) (anyOrder : Bool := false) :
    Nat → Option Rng → KDSt Int Int → RunOut → Option Rng × RunOut
  | 0, g, _, o => (g, o)
  | fuel + 1, g, s, o =>
    let o := if chk s then o else { o with invBad := o.invBad + 1 }
    if s.st.fringe.isEmpty then (g, { o with complete := true, value := s.st.bestLb, crashed := s.st.crashed })
    else
      -- `anyOrder`: any open node may be popped (a custom ranking, or the parallel solver processing out of order)
      let cands := if anyOrder then List.range s.st.fringe.length else maxIdx s.st.fringe
      let tie := o.tie || cands.length > 1
      let (g, i) : Option Rng × Nat := match g with
        | none => (none, cands.getD 0 0)
        | some r => let (r, j) := r.below cands.length; (some r, cands.getD j 0)
      match popAt s.st.fringe i with
      | none => (g, { o with panic := true })
      | some (N, rest) =>
        match turnI dv s N rest with
        | none => (g, { o with panic := true, sched := i :: o.sched })
        | some (t, fl) => runBF dv chk anyOrder fuel g t { o with turns := o.turns + 1, tie := tie, fl := o.fl.add fl, sched := i :: o.sched }

/-! ## the conjectured joint invariant `Ddo.C10d.CompatInv` (`Proofs/CompatInv.lean`), executable on `Grid` models

`goodTable T opt` computes the protected family `Good` (exactly reached items of each depth that are undominated among the exactly
reached items of the depth and have a `Good` child, or, at the last depth, the value `opt`); `invOk` evaluates the clauses **main** and
**entries** of `CompatInv` in a state of the solver (`GAbove` is upward closed in the value: it is enough to test every entry at its
threshold).  The search counts the visited states in which the invariant fails: evidence for (or against) the named obligation
`CompatProcess`, independent of the final value. -/

def itemsTable (T : Tab) : Array (List (Nat × Int)) := Id.run do
  let mut tab : Array (List (Nat × Int)) := #[[(T.init, 0)]]
  for k in List.range T.n do
    let cur := tab.getD k []
    let mut nx : List (Nat × Int) := []
    for (s, v) in cur do
      for b in [false, true] do
        if allowed T k s b then
          let it := (tr T k s b, v + c T k s b)
          if !nx.contains it then nx := it :: nx
    tab := tab.push nx
  return tab

def domItem (T : Tab) (a : Nat × Int) (b : Nat × Int) : Bool :=
  (geS T a.1 b.1 && decide (b.2 ≤ a.2)) && !(geS T b.1 a.1 && decide (a.2 ≤ b.2))

def goodTable (T : Tab) (opt : Int) : Array (List (Nat × Int)) := Id.run do
  let items := itemsTable T
  let mut good : Array (List (Nat × Int)) := Array.replicate (T.n + 1) []
  let last := items.getD T.n []
  good := good.set! T.n (last.filter (fun it => it.2 == opt && !last.any (fun a => domItem T a it)))
  for j in List.range T.n do
    let k := T.n - 1 - j
    let cur := items.getD k []
    let nxt := good.getD (k + 1) []
    good := good.set! k (cur.filter (fun it =>
      !cur.any (fun a => domItem T a it) &&
      [false, true].any (fun b => allowed T k it.1 b && nxt.contains (tr T k it.1 b, it.2 + c T k it.1 b))))
  return good

def invOk (T : Tab) (opt : Int) (good : Array (List (Nat × Int))) (s : KDSt Int Int) : Bool :=
  if s.st.bestLb ≥ opt then true
  else
    let solidDepths := s.st.fringe.filterMap (fun q =>
      if (good.getD q.depth []).contains (st T q.state, q.value) && decide (opt ≤ q.ub) &&
          (s.cache.mustExplore q.state q.depth q.value == some true) then some q.depth else none)
    -- main
    !solidDepths.isEmpty &&
    -- entries
    (List.range s.cache.layers.length).all (fun d =>
      (s.cache.layers.getD d []).all (fun e =>
        let applies := (good.getD d []).any (fun g => geS T (st T e.1) g.1 && decide (g.2 ≤ e.2.value))
        !applies || solidDepths.any (fun dq => decide (d ≤ dq))))

/-! ## random models -/

def genCost (late : Bool) (mode : Nat) (r : Rng) : Rng × Int :=
  let (r, a) := r.below 100
  match mode with
  | 0 => if a < 55 then (r, 0) else if a < 80 then (r, 1) else if a < 92 then (r, 2)
         else if late then (let (r, b) := r.below 8; (r, (b : Int) + 3)) else (r, 3)
  | 1 => let (r, b) := r.below 3; (r, (b : Int))
  | 2 => let (r, b) := r.below 7; (r, (b : Int) - 3)
  | _ => if a < 70 then (r, 0) else if a < 90 then (r, 1) else (let (r, b) := r.below 10; (r, (b : Int) + 2))

structure Params where
  nlo : Nat := 4
  nhi : Nat := 7
  mmax : Nat := 10
  gmax : Nat := 3        -- largest side of the grid
  nany : Nat := 0        -- runs with an arbitrary pop order per configuration
  rubMode : Nat := 0     -- 0: mixed valid bounds; 2: secondary regime (bound valid for reachable items only)
  deriving Repr

/-- a random model inside the hypotheses; returns the tables and the optimum -/
def genModel (r0 : Rng) (pp : Params) : Rng × Tab := Id.run do
  let mut r := r0
  let (r1, ga0) := r.below pp.gmax; r := r1
  let (r1, gb0) := r.below pp.gmax; r := r1
  let (r1, tot) := r.below 4; r := r1
  let (r1, ga1) := r.below (2 * pp.gmax); r := r1
  let ga := if tot = 0 then ga1 + 2 else ga0 + 1
  let gb := if tot = 0 then 1 else if ga = 1 && gb0 = 0 then 2 else gb0 + 1
  let ncls := ga * gb
  let cjoin := fun (a b : Nat) => (max (a / gb) (b / gb)) * gb + max (a % gb) (b % gb)
  let (r1, nn) := r.below (pp.nhi - pp.nlo + 1); r := r1
  let n := nn + pp.nlo
  let (r1, cmode) := r.below 4; r := r1
  let (r1, pal) := r.below 3; r := r1
  let pAllow := match pal with | 0 => 100 | 1 => 85 | _ => 65
  let (r1, sty) := r.below 10; r := r1
  let style := if sty < 5 then 0 else if sty < 8 then 1 else 2
  let (r1, cr) := r.below 2; r := r1
  let corr := cr = 0
  -- class-level tables, index (k*2+d)*ncls + a
  let mut f : Array Nat := Array.replicate (n * 2 * ncls) 0
  let mut g : Array Int := Array.replicate (n * 2 * ncls) 0
  let mut al : Array Bool := Array.replicate (n * 2 * ncls) false
  for k in List.range n do
    for d in [0, 1] do
      let base := (k * 2 + d) * ncls
      let late := k * 3 ≥ n * 2
      let (r1, kd0) := r.below 10; r := r1
      let (r1, kd1) := r.below 20; r := r1
      -- style 0: knapsack (decision 1 = take, decision 0 = leave); style 1: knapsack with some foreign steps; style 2: mixture
      let kd := if style = 0 then (if d = 1 then 4 else 7)
                else if style = 1 then (if kd1 < 10 then 4 else if kd1 < 13 then 7 else if kd1 < 16 then 8 else if kd1 < 18 then 0 else 9)
                else kd0
      if kd < 3 then
        for a in List.range ncls do
          let (r1, f0) := r.below ncls; r := r1
          let (r1, g0) := genCost late cmode r; r := r1
          let (r1, a0) := r.below 100; r := r1
          let mut fa := f0
          let mut gaa := g0
          let mut ala := decide (a0 < pAllow)
          if a / gb > 0 then
            let p := a - gb
            fa := cjoin fa (f.getD (base + p) 0); gaa := max gaa (g.getD (base + p) 0); ala := ala || al.getD (base + p) false
          if a % gb > 0 then
            let p := a - 1
            fa := cjoin fa (f.getD (base + p) 0); gaa := max gaa (g.getD (base + p) 0); ala := ala || al.getD (base + p) false
          f := f.set! (base + a) fa; g := g.set! (base + a) gaa; al := al.set! (base + a) ala
      else if kd < 7 then
        -- subtract a vector where it fits (knapsack "take"), constant reward
        let (r1, wi) := r.below (min ga 3); r := r1
        let (r1, wj) := r.below (min gb 3); r := r1
        let (r1, p0) := genCost late cmode r; r := r1
        let (r1, p1) := r.below 3; r := r1
        let (r1, p2) := r.below 4; r := r1
        -- style 2: sparse rewards; knapsack styles: reward correlated with the weight (hard instances)
        let p := if style = 2 then p0 + (p1 : Int) else if corr then ((wi + wj : Nat) : Int) * 2 + (p2 : Int) - 1 else (p2 : Int) + (p1 : Int) + 1
        for a in List.range ncls do
          let ok := decide (a / gb ≥ wi) && decide (a % gb ≥ wj)
          f := f.set! (base + a) (if ok then (a / gb - wi) * gb + (a % gb - wj) else 0)
          g := g.set! (base + a) p
          al := al.set! (base + a) ok
      else if kd < 8 then
        -- identity ("leave"), constant small cost
        let (r1, p0) := r.below 4; r := r1
        for a in List.range ncls do
          f := f.set! (base + a) a; g := g.set! (base + a) (if p0 = 3 then 1 else 0); al := al.set! (base + a) true
      else if kd < 9 then
        -- add a vector (gain), monotone cost
        let (r1, wi) := r.below ga; r := r1
        let (r1, wj) := r.below gb; r := r1
        let (r1, p00) := genCost late 2 r; r := r1
        let p0 : Int := if style = 2 then p00 else -(((wi + wj : Nat) : Int)) - (if p00 > 0 then 1 else 0)
        for a in List.range ncls do
          f := f.set! (base + a) ((min (a / gb + wi) (ga - 1)) * gb + min (a % gb + wj) (gb - 1))
          g := g.set! (base + a) p0; al := al.set! (base + a) true
      else
        -- constant map, monotone cost
        let (r1, f0) := r.below ncls; r := r1
        for a in List.range ncls do
          let (r1, g0) := genCost late cmode r; r := r1
          let mut gaa := g0
          if a / gb > 0 then gaa := max gaa (g.getD (base + a - gb) 0)
          if a % gb > 0 then gaa := max gaa (g.getD (base + a - 1) 0)
          f := f.set! (base + a) f0; g := g.set! (base + a) gaa; al := al.set! (base + a) true
  -- states
  let (r1, pd) := r.below 4; r := r1
  let pdup := match pd with | 0 => 0 | 1 => 0 | 2 => 25 | _ => 60
  let mut cls : Array Nat := #[]
  let mut reps : Array (Array Nat) := Array.replicate ncls #[]
  for a in List.range ncls do
    reps := reps.set! a ((reps.getD a #[]).push cls.size); cls := cls.push a
    let (r1, x) := r.below 100; r := r1
    if x < pdup && cls.size + (ncls - a - 1) < pp.mmax then
      reps := reps.set! a ((reps.getD a #[]).push cls.size); cls := cls.push a
  let m := cls.size
  let (r1, swapMode) := r.below 3; r := r1
  let mut trl : Array Nat := Array.replicate (n * m * 2) 0
  let mut cl : Array Int := Array.replicate (n * m * 2) 0
  let mut dl : Array Nat := Array.replicate (n * m) 0
  for k in List.range n do
    for s in List.range m do
      let a := cls.getD s 0
      let (r1, sw0) := r.below 2; r := r1
      let sw := if swapMode = 0 then 0 else sw0
      let mut mask := 0
      for b in [0, 1] do
        let d := if sw = 1 then 1 - b else b
        let base := (k * 2 + d) * ncls
        let fc := f.getD (base + a) 0
        let rp := reps.getD fc #[]
        let (r1, j) := r.below rp.size; r := r1
        trl := trl.set! ((k * m + s) * 2 + b) (rp.getD j 0)
        cl := cl.set! ((k * m + s) * 2 + b) (g.getD (base + a) 0)
        if al.getD (base + a) false then mask := mask + (if b = 0 then 1 else 2)
      dl := dl.set! (k * m + s) mask
  -- initial state
  let (r1, im) := r.below 3; r := r1
  let (r1, ir) := r.below m; r := r1
  let init := if im = 0 then ir else (reps.getD (ncls - 1) #[]).getD 0 0
  -- join table
  let (r1, jm) := r.below 4; r := r1
  let mut jl : Array Nat := Array.replicate (m * m) 0
  for s in List.range m do
    for t in List.range m do
      let mut cj := cjoin (cls.getD s 0) (cls.getD t 0)
      if jm = 0 then
        let (r1, u) := r.below ncls; r := r1
        let (r1, x) := r.below 3; r := r1
        if x = 0 then cj := cjoin cj u
      let rp := reps.getD cj #[]
      let (r1, j) := r.below rp.size; r := r1
      jl := jl.set! (s * m + t) (rp.getD j 0)
  let (r1, bp) := r.below 5; r := r1
  let (r1, rv) := r.below 2; r := r1
  -- ranking: a random permutation (ranks may tie with small probability: then the order of creation decides)
  let (r1, rkl) := r.listOf m (fun r => r.below (m + 2)); r := r1
  let co := cls.toList.map (fun a => (((a / gb : Nat) : Int), ((a % gb : Nat) : Int)))
  let T0 : Tab := { n := n, m := m, init := init, co := co, trl := trl.toList, cl := cl.toList, dl := dl.toList, jl := jl.toList,
                    rubl := List.replicate m 0, rk := rkl, bump := if bp = 0 then 1 else 0, rev := rv = 1 }
  -- value-to-go rows: rows[j][s]
  let mut rows : Array (Array (Option Int)) := #[Array.replicate m (some 0)]
  for j in List.range n do
    let k := n - (j + 1)
    let prev := rows.getD j #[]
    let mut row : Array (Option Int) := #[]
    for s in List.range m do
      let v0 := if allowed T0 k s false then ((prev.getD (tr T0 k s false) none).map (· + c T0 k s false)) else none
      let v1 := if allowed T0 k s true then ((prev.getD (tr T0 k s true) none).map (· + c T0 k s true)) else none
      row := row.push (emax v0 v1)
    rows := rows.push row
  -- reachable states per depth (for the secondary regime)
  let mut reach : Array (Array Bool) := #[(Array.replicate m false).set! init true]
  for k in List.range n do
    let cur := reach.getD k #[]
    let mut nx : Array Bool := Array.replicate m false
    for s in List.range m do
      if cur.getD s false then
        for b in [false, true] do
          if allowed T0 k s b then nx := nx.set! (tr T0 k s b) true
    reach := reach.push nx
  let (r1, rm0) := r.below 2; r := r1
  let rm := if pp.rubMode = 2 then 2 else rm0
  let allV := rows.foldl (fun a row => row.foldl (fun a v => match v with | some x => max a x | none => a) a) (0 : Int)
  let (r1, sl0) := r.below 4; r := r1
  let slack0 : Int := match sl0 with | 0 => 0 | 1 => 1 | 2 => 3 | _ => 20
  let mut rubl : Array Int := #[]
  for s in List.range m do
    let (r1, sl) := r.below 4; r := r1
    let slack : Int := match sl with | 0 => 0 | 1 => 0 | 2 => 1 | _ => 3
    if rm = 0 then rubl := rubl.push (allV + slack0)
    else if rm = 1 then
      let best := (List.range (n + 1)).foldl (fun (a : Option Int) j => emax a ((rows.getD j #[]).getD s none)) none
      rubl := rubl.push ((best.getD (-3)) + slack)
    else
      -- secondary regime: only the exactly reachable items the state dominates count (depth k = n - j)
      let best := (List.range (n + 1)).foldl (fun (a : Option Int) j =>
        let k := n - j
        (List.range m).foldl (fun (a : Option Int) u =>
          if (reach.getD k #[]).getD u false && geS T0 s u then emax a ((rows.getD j #[]).getD u none) else a) a) none
      rubl := rubl.push ((best.getD (-3)) + slack)
  return (r, { T0 with rubl := rubl.toList })

def genWs (r : Rng) (T : Tab) : Rng × List Nat :=
  let len := (T.n + 1) * T.m
  let (r, wm) := r.below 6
  match wm with
  | 0 => (r, List.replicate len 1)
  | 1 => (r, List.replicate len 2)
  | 2 =>
    let (r, k) := r.below 4
    (r, (List.range len).map (fun i => if i / T.m < k then 1 else 2))
  | 3 =>
    let (r, k) := r.below 4
    (r, (List.range len).map (fun i => if i / T.m < k then 2 else 1))
  | _ => r.listOf len (fun r => let (r, w) := r.below 3; (r, w + 1))

structure Tally where
  models : Nat := 0
  infeasible : Nat := 0
  checkFail : Nat := 0
  runs : Nat := 0
  turns : Nat := 0
  bad : Nat := 0
  panics : Nat := 0
  tieCfg : Nat := 0
  rDom : Nat := 0          -- runs in which the checker prunes
  rCache : Nat := 0        -- runs in which the cache prunes a node of a layer
  rCacheInexact : Nat := 0 -- … an inexact node
  rRefused : Nat := 0      -- runs in which `must_explore` refuses a popped node
  rRootDom : Nat := 0      -- runs in which the checker drops the root of a popped sub-problem
  rBoth : Nat := 0         -- checker prunes and cache prunes an inexact node in the same run
  rLong : Nat := 0         -- runs of at least 5 turns
  invBad : Nat := 0        -- visited states violating the conjectured joint invariant
  invRuns : Nat := 0       -- runs with such a state
  anyRuns : Nat := 0       -- runs with an arbitrary pop order (not best-first)
  anyBad : Nat := 0        -- … that do not hold the optimum at the empty fringe
  anyInvBad : Nat := 0     -- … visited states violating the invariant
  nPartial : Nat := 0       -- models whose order is not total (incomparable states)
  coarse : Nat := 0        -- models with several states per grid point
  deriving Repr

def Tally.add (a b : Tally) : Tally :=
  { models := a.models + b.models, infeasible := a.infeasible + b.infeasible, checkFail := a.checkFail + b.checkFail,
    runs := a.runs + b.runs, turns := a.turns + b.turns, bad := a.bad + b.bad, panics := a.panics + b.panics,
    tieCfg := a.tieCfg + b.tieCfg, rDom := a.rDom + b.rDom, rCache := a.rCache + b.rCache,
    rCacheInexact := a.rCacheInexact + b.rCacheInexact, rRefused := a.rRefused + b.rRefused, rRootDom := a.rRootDom + b.rRootDom,
    rBoth := a.rBoth + b.rBoth, rLong := a.rLong + b.rLong, invBad := a.invBad + b.invBad, invRuns := a.invRuns + b.invRuns, anyRuns := a.anyRuns + b.anyRuns, anyBad := a.anyBad + b.anyBad, anyInvBad := a.anyInvBad + b.anyInvBad, nPartial := a.nPartial + b.nPartial, coarse := a.coarse + b.coarse }

def Tally.count (t : Tally) (o : RunOut) (ok : Bool) : Tally :=
  { t with runs := t.runs + 1, turns := t.turns + o.turns, bad := t.bad + (if ok then 0 else 1),
           panics := t.panics + (if o.panic then 1 else 0),
           rDom := t.rDom + (if o.fl.ndom > 0 then 1 else 0), rCache := t.rCache + (if o.fl.ncache > 0 then 1 else 0),
           rCacheInexact := t.rCacheInexact + (if o.fl.ncacheInexact > 0 then 1 else 0),
           rRefused := t.rRefused + (if o.fl.refused > 0 then 1 else 0),
           rRootDom := t.rRootDom + (if o.fl.rootDom > 0 then 1 else 0),
           rBoth := t.rBoth + (if o.fl.ndom > 0 && o.fl.ncacheInexact > 0 then 1 else 0),
           rLong := t.rLong + (if o.turns ≥ 5 then 1 else 0), invBad := t.invBad + o.invBad,
           invRuns := t.invRuns + (if o.invBad > 0 then 1 else 0) }

def showTab (T : Tab) : String :=
  s!"n := {T.n}, m := {T.m}, init := {T.init}, co := {T.co}, trl := {T.trl}, cl := {T.cl}, dl := {T.dl}, jl := {T.jl}, rubl := {T.rubl}, rk := {T.rk}, bump := {T.bump}, rev := {T.rev}"

def oneModel (r0 : Rng) (T : Tab) (opt : Int) (nrand : Nat) (tally : Tally) (log : Array String) :
    Rng × Tally × Array String := Id.run do
  let mut r := r0
  let mut tally := tally
  let mut log := log
  let good := goodTable T opt
  let chk := invOk T opt good
  for (dedup, kind) in [(false, CutsetKind.lel), (false, CutsetKind.frontier), (true, CutsetKind.lel), (true, CutsetKind.frontier)] do
    let (r1, ws) := genWs r T; r := r1
    let dvv := dv T ws dedup kind
    let s0 := KDSt.init dvv
    let (_, o) := runBF dvv chk false 80 none s0 {}
    let ok := o.complete && !o.panic && !o.crashed && o.value == opt
    tally := tally.count o ok
    if o.invBad > 0 && tally.invRuns ≤ 3 then
      log := log.push s!"INV det dedup={dedup} kind={repr kind} ws={ws} opt={opt} got={o.value} invBad={o.invBad} sched={o.sched.reverse} | {showTab T}"
    if !ok then
      log := log.push s!"FAIL det dedup={dedup} kind={repr kind} ws={ws} opt={opt} got={o.value} complete={o.complete} panic={o.panic} sched={o.sched.reverse} | {showTab T}"
    if o.tie then
      tally := { tally with tieCfg := tally.tieCfg + 1 }
      for _ in List.range nrand do
        let (g, o2) := runBF dvv chk false 80 (some r) s0 {}
        r := g.getD r
        let ok2 := o2.complete && !o2.panic && !o2.crashed && o2.value == opt
        tally := tally.count o2 ok2
        if !ok2 then
          log := log.push s!"FAIL rnd dedup={dedup} kind={repr kind} ws={ws} opt={opt} got={o2.value} complete={o2.complete} panic={o2.panic} sched={o2.sched.reverse} | {showTab T}"
  return (r, tally, log)

/-- arbitrary pop orders (the statement `KDStep` is about best-first pops; the cache-only theorem holds for every order) -/
def anyOrderRuns (r0 : Rng) (T : Tab) (opt : Int) (nany : Nat) (tally : Tally) (log : Array String) :
    Rng × Tally × Array String := Id.run do
  let mut r := r0
  let mut tally := tally
  let mut log := log
  let chk := invOk T opt (goodTable T opt)
  for (dedup, kind) in [(false, CutsetKind.lel), (true, CutsetKind.frontier), (false, CutsetKind.frontier), (true, CutsetKind.lel)] do
    let (r1, ws) := genWs r T; r := r1
    let dvv := dv T ws dedup kind
    for _ in List.range nany do
      let (g, o) := runBF dvv chk true 80 (some r) (KDSt.init dvv) {}
      r := g.getD r
      let ok := o.complete && !o.panic && !o.crashed && o.value == opt
      tally := { tally with anyRuns := tally.anyRuns + 1, anyBad := tally.anyBad + (if ok then 0 else 1),
                            anyInvBad := tally.anyInvBad + o.invBad }
      if (!ok || o.invBad > 0) && tally.anyBad + tally.anyInvBad ≤ 6 then
        log := log.push s!"ANYORDER {if ok then "INV" else "FAIL"} dedup={dedup} kind={repr kind} ws={ws} opt={opt} got={o.value} complete={o.complete} panic={o.panic} invBad={o.invBad} sched={o.sched.reverse} | {showTab T}"
  return (r, tally, log)

def search (seed count nrand : Nat) (pp : Params) : Tally × Array String := Id.run do
  let mut r : Rng := ⟨seed.toUInt64 * 0x2545F4914F6CDD1D + 99991⟩
  let mut tally : Tally := {}
  let mut log : Array String := #[]
  let mut tries := 0
  while tally.models < count && tries < count * 50 do
    tries := tries + 1
    let (r1, T) := genModel r pp
    r := r1
    let full := tries % 64 == 1
    let okc := checkShape T && checkSim T && checkJoin T && (if full && pp.rubMode != 2 then checkRub T else true)
    if !okc then
      tally := { tally with checkFail := tally.checkFail + 1 }
      if tally.checkFail ≤ 3 then log := log.push s!"CHECKFAIL shape={checkShape T} sim={checkSim T} join={checkJoin T} | {showTab T}"
    else
      match optimum T with
      | none => tally := { tally with infeasible := tally.infeasible + 1 }
      | some opt =>
        let isPartial := (List.range T.m).any (fun a => (List.range T.m).any (fun b => !geS T a b && !geS T b a))
        let isCoarse := (List.range T.m).any (fun a => (List.range T.m).any (fun b => a != b && geS T a b && geS T b a))
        tally := { tally with models := tally.models + 1, nPartial := tally.nPartial + (if isPartial then 1 else 0),
                              coarse := tally.coarse + (if isCoarse then 1 else 0) }
        let (r2, t2, l2) := oneModel r T opt nrand tally log
        r := r2; tally := t2; log := l2
        if pp.nany > 0 then
          let (r3, t3, l3) := anyOrderRuns r T opt pp.nany tally log
          r := r3; tally := t3; log := l3
  return (tally, log)

/-! ## mutation search around `Shadow` (`Proofs/CompatShadow.lean`) with an honest rough upper bound

`Shadow` loses the optimum because the rough upper bound of the shadow state is below its value-to-go.  With the bound repaired
(`rubl[s] ≥` the value-to-go of `s` at every depth) the solver is right on it; this mode applies `1 … kmax` random point mutations
(a transition, a cost, a domain mask, a join entry, a pair of coordinates, a width), keeps the mutants that still satisfy `SimAll`
and `MergeCompat` (`checkSim`, `checkJoin`; the bound is re-raised above the value-to-go), and runs them in the four
configurations. -/

def honest (T : Tab) : Tab :=
  let rows := (List.range (T.n + 1)).map (fun j => (List.range T.m).map (fun s => vfrom T j s))
  { T with rubl := (List.range T.m).map (fun s =>
      rows.foldl (fun (a : Int) row => match row.getD s none with | some x => max a x | none => a) (T.rubl.getD s 0)) }

def mutate (r : Rng) (T : Tab) (ws : List Nat) (k : Nat) : Rng × Tab × List Nat :=
  (List.range k).foldl (fun (acc : Rng × Tab × List Nat) _ =>
    let (r, T, ws) := acc
    let (r, what) := r.below 12
    if what < 4 then
      let (r, i) := r.below T.trl.length
      let (r, v) := r.below T.m
      (r, { T with trl := T.trl.set i v }, ws)
    else if what < 7 then
      let (r, i) := r.below T.cl.length
      let (r, v) := r.below 9
      (r, { T with cl := T.cl.set i ((v : Int) - 3) }, ws)
    else if what < 8 then
      let (r, i) := r.below T.dl.length
      let (r, v) := r.below 3
      (r, { T with dl := T.dl.set i (v + 1) }, ws)
    else if what < 9 then
      let (r, i) := r.below T.jl.length
      let (r, v) := r.below T.m
      (r, { T with jl := T.jl.set i v }, ws)
    else if what < 11 then
      let (r, i) := r.below T.m
      let (r, j) := r.below T.m
      let (r, w) := r.below 3
      -- move state `i` next to state `j` in the order (just above, just below on one coordinate, or same coordinates)
      let pj := T.co.getD j (0, 0)
      let np : Int × Int := match w with | 0 => (pj.1 + 1, pj.2) | 1 => (pj.1, pj.2 - 1) | _ => pj
      (r, { T with co := T.co.set i np }, ws)
    else
      let (r, i) := r.below ws.length
      let (r, v) := r.below 3
      (r, T, ws.set i (v + 1))) (r, T, ws)

def searchMut (seed count nrand kmax : Nat) : Tally × Array String := Id.run do
  let mut r : Rng := ⟨seed.toUInt64 * 0x2545F4914F6CDD1D + 424243⟩
  let mut tally : Tally := {}
  let mut log : Array String := #[]
  let mut tries := 0
  let base := honest Ddo.C10d.Shadow.T
  while tally.models < count && tries < count * 2000 do
    tries := tries + 1
    let (r1, k) := r.below kmax; r := r1
    let (r2, T1, ws) := mutate r base Ddo.C10d.Shadow.ws (k + 1); r := r2
    let T := honest T1
    if checkShape T && checkSim T && checkJoin T then
      match optimum T with
      | none => tally := { tally with infeasible := tally.infeasible + 1 }
      | some opt =>
        tally := { tally with models := tally.models + 1 }
        -- fixed widths of the mutant (not redrawn per configuration)
        for (dedup, kind) in [(false, CutsetKind.lel), (false, CutsetKind.frontier), (true, CutsetKind.lel), (true, CutsetKind.frontier)] do
          let dvv := dv T ws dedup kind
          let (_, o) := runBF dvv (invOk T opt (goodTable T opt)) false 80 none (KDSt.init dvv) {}
          let ok := o.complete && !o.panic && !o.crashed && o.value == opt
          tally := tally.count o ok
          if o.invBad > 0 && tally.invRuns ≤ 3 then
            log := log.push s!"INV mut dedup={dedup} kind={repr kind} ws={ws} opt={opt} got={o.value} invBad={o.invBad} sched={o.sched.reverse} | {showTab T}"
          if !ok then
            log := log.push s!"FAIL mut dedup={dedup} kind={repr kind} ws={ws} opt={opt} got={o.value} complete={o.complete} panic={o.panic} sched={o.sched.reverse} | {showTab T}"
    else
      tally := { tally with checkFail := tally.checkFail + 1 }
  return (tally, log)

/-- `args = [seed, count, nrand, nlo, nhi, mmax, rubMode, gmax, mode, nany]` (`mode = 1`: mutation search around `Shadow`, `nlo` =
    largest number of mutations; `nany`: runs with an arbitrary pop order per configuration) -/
def searchMain (args : List String) : IO UInt32 := do
  let a := args.map String.toNat!
  let seed := a.getD 0 1
  let count := a.getD 1 1000
  let nrand := a.getD 2 3
  let pp : Params := { nlo := a.getD 3 4, nhi := a.getD 4 7, mmax := a.getD 5 10, rubMode := a.getD 6 0, gmax := a.getD 7 3, nany := a.getD 9 0 }
  -- sanity of the runner: `Twin` (merge not rule-maximal) must come out wrong (5 instead of 10)
  let dT := Ddo.C10c.Twin.dv false .lel
  let (_, oT) := runBF dT (fun _ => true) false 80 none (KDSt.init dT) {}
  IO.println s!"sanity Twin: complete={oT.complete} value={oT.value} (optimum 10) turns={oT.turns} rootDom={oT.fl.rootDom} cacheInexact={oT.fl.ncacheInexact}"
  let dS := dv (honest Ddo.C10d.Shadow.T) Ddo.C10d.Shadow.ws false .lel
  let (_, oS) := runBF dS (invOk (honest Ddo.C10d.Shadow.T) 10 (goodTable (honest Ddo.C10d.Shadow.T) 10)) false 80 none (KDSt.init dS) {}
  let dS0 := dv Ddo.C10d.Shadow.T Ddo.C10d.Shadow.ws false .lel
  let (_, oS0) := runBF dS0 (invOk Ddo.C10d.Shadow.T 10 (goodTable Ddo.C10d.Shadow.T 10)) false 80 none (KDSt.init dS0) {}
  IO.println s!"sanity Shadow: value={oS0.value} (optimum 10); with an honest rough upper bound: value={oS.value} turns={oS.turns}; states violating the invariant: {oS0.invBad} / {oS.invBad}"
  let chunk := 200
  let mut done := 0
  let mut total : Tally := {}
  let mut k := 0
  while done < count do
    let cnt := min chunk (count - done)
    let (t, log) := if a.getD 8 0 = 1 then searchMut (seed * 1000003 + k) cnt nrand pp.nlo else search (seed * 1000003 + k) cnt nrand pp
    for l in log do IO.println l
    total := total.add t
    done := done + t.models
    k := k + 1
    if k % 25 = 0 || done ≥ count then
      IO.println s!"progress seed={seed} models={total.models} nPartial={total.nPartial} coarse={total.coarse} infeasible={total.infeasible} checkFail={total.checkFail} runs={total.runs} turns={total.turns} BAD={total.bad} panics={total.panics} tieCfg={total.tieCfg} | dom={total.rDom} cache={total.rCache} cacheInexact={total.rCacheInexact} refused={total.rRefused} rootDom={total.rRootDom} both={total.rBoth} long={total.rLong} INVBAD={total.invBad} invRuns={total.invRuns} | anyorder runs={total.anyRuns} BAD={total.anyBad} INVBAD={total.anyInvBad}"
      (← IO.getStdout).flush
    if t.models = 0 then break
  return 0

end Ddo.C10d.Search
