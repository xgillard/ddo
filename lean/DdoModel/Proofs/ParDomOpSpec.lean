import DdoModel.Proofs.ParDomOp
/-! # The operation-wise dominance filter `filterDomO`

What holds whatever the oracle (the layer changes in `theta` only, the logged operations present exact nodes of the layer, no more
positions are kept than were presented: `filterDomO_thEq`, `filterDomO_inv`, `filterDomO_keep_len`), and the oracle forms
`filterDomO_spec` / `filterDomO_protected` of `filterDom_spec` / `filterDom_protected` for stores of exactly reached items. -/
set_option linter.unusedSectionVars false
set_option linter.unusedVariables false
namespace Ddo.ParDom
open Ddo Ddo.Truth Ddo.Closed Ddo.C10
variable {S K : Type} [DecidableEq S] [DecidableEq K]

theorem fdStepO_thEq (D : DomRule S K) (τ : Nat → DomStore S K) (layer : List (Node S))
    (acc : List (Node S) × List Nat × Nat × Bool × List (Op S)) (p : Nat) (hth : ThEq acc.1 layer) :
    ThEq (fdStepO D τ acc p).1 layer := by
  fun_cases fdStepO D τ acc p
  case case3 n hn _ _ _ _ => exact hth.set hn rfl
  all_goals exact hth

theorem filterDomO_thEq (cfg : Cfg S K) (τ : Nat → DomStore S K) (k : Nat) (layer : List (Node S)) (cur : List Nat) :
    ThEq (filterDomO cfg τ k layer cur).1 layer := by
  unfold filterDomO
  cases hd : cfg.dom with
  | none => exact ThEq.refl _
  | some D =>
    exact foldl_inv (β := List (Node S) × List Nat × Nat × Bool × List (Op S))
      (fun acc => ThEq acc.1 layer) _ _ _ (ThEq.refl _) (fun acc p _ h => fdStepO_thEq D τ layer acc p h)

/-- the operations present exact nodes of `layer` -/
def OpsOf (layer : List (Node S)) (ops : List (Op S)) : Prop :=
  ∀ op ∈ ops, ∃ m ∈ layer, m.isExact = true ∧ op.state = m.state ∧ op.depth = m.depth ∧ op.value = m.value

theorem OpsOf.snoc {layer : List (Node S)} {ops : List (Op S)} (h : OpsOf layer ops) {n m : Node S} (hm : m ∈ layer)
    (he : m.isExact = true) (es : n.state = m.state) (ed : n.depth = m.depth) (ev : n.value = m.value) :
    OpsOf layer (ops ++ [⟨n.state, n.depth, n.value⟩]) := by
  intro op hop
  rcases List.mem_append.1 hop with hop | hop
  · exact h op hop
  · rw [List.mem_singleton] at hop
    subst hop
    exact ⟨m, hm, he, es, ed, ev⟩

/-- one step of the operation-wise filter: the layer changes in `theta` only; the new operation presents an exact node -/
theorem fdStepO_invR (D : DomRule S K) (τ : Nat → DomStore S K) (layer : List (Node S))
    (acc : List (Node S) × List Nat × Nat × Bool × List (Op S)) (p : Nat)
    (h : SubS acc.1 layer ∧ OpsOf layer acc.2.2.2.2) :
    SubS (fdStepO D τ acc p).1 layer ∧ OpsOf layer (fdStepO D τ acc p).2.2.2.2 := by
  obtain ⟨h1, h2⟩ := h
  have hnew : ∀ n, acc.1[p]? = some n → n.isExact = true → OpsOf layer (acc.2.2.2.2 ++ [⟨n.state, n.depth, n.value⟩]) := by
    intro n hn he
    obtain ⟨n0, h0, he0, hc⟩ := h1 n (List.mem_of_getElem? hn)
    exact h2.snoc h0 (he0.trans he) hc.1.symm hc.2.2.2.symm hc.2.1.symm
  fun_cases fdStepO D τ acc p
  case case1 => exact ⟨h1, h2⟩
  case case2 n hn he _ => exact ⟨h1, hnew n hn he⟩
  case case3 n hn he _ _ _ => exact ⟨h1.set hn rfl ⟨rfl, rfl, rfl, rfl⟩, hnew n hn he⟩
  case case4 n hn he _ _ _ _ _ => exact ⟨h1, hnew n hn he⟩
  case case5 => exact ⟨h1, h2⟩

theorem filterDomO_inv (cfg : Cfg S K) (τ : Nat → DomStore S K) (k : Nat) (layer : List (Node S)) (cur : List Nat) :
    SubS (filterDomO cfg τ k layer cur).1 layer ∧ OpsOf layer (filterDomO cfg τ k layer cur).2.2.2.2 := by
  unfold filterDomO
  cases hd : cfg.dom with
  | none => exact ⟨SubS.refl _, fun op hop => by cases hop⟩
  | some D =>
    exact foldl_inv (β := List (Node S) × List Nat × Nat × Bool × List (Op S))
      (fun acc => SubS acc.1 layer ∧ OpsOf layer acc.2.2.2.2) _ _ _ ⟨SubS.refl _, fun op hop => by cases hop⟩
      (fun acc p _ h => fdStepO_invR D τ layer acc p h)

/-- one step keeps the survivors and at most one more position -/
theorem fdStepO_keep (D : DomRule S K) (τ : Nat → DomStore S K)
    (acc : List (Node S) × List Nat × Nat × Bool × List (Op S)) (p : Nat) :
    (fdStepO D τ acc p).2.1 = acc.2.1 ∨ (fdStepO D τ acc p).2.1 = acc.2.1 ++ [p] := by
  fun_cases fdStepO D τ acc p
  case case1 => exact .inl rfl
  case case3 => exact .inl rfl
  all_goals exact .inr rfl

theorem fdFoldO_keep_len (D : DomRule S K) (τ : Nat → DomStore S K) :
    ∀ (l : List Nat) (acc : List (Node S) × List Nat × Nat × Bool × List (Op S)),
      (l.foldl (fdStepO D τ) acc).2.1.length ≤ acc.2.1.length + l.length := by
  intro l
  induction l with
  | nil => intro acc; exact Nat.le_refl _
  | cons p ps ih =>
    intro acc
    have h2 : (fdStepO D τ acc p).2.1.length ≤ acc.2.1.length + 1 := by
      rcases fdStepO_keep D τ acc p with e | e
      · rw [e]; exact Nat.le_succ _
      · rw [e, List.length_append]; exact Nat.le_refl _
    rw [List.foldl_cons, List.length_cons, Nat.add_comm ps.length 1, ← Nat.add_assoc]
    exact Nat.le_trans (ih _) (Nat.add_le_add_right h2 _)

theorem filterDomO_keep_len (cfg : Cfg S K) (D : DomRule S K) (hD : cfg.dom = some D) (τ : Nat → DomStore S K) (k : Nat)
    (layer : List (Node S)) (cur : List Nat) : (filterDomO cfg τ k layer cur).2.1.length ≤ cur.length := by
  rw [filterDomO_eq cfg D hD]
  refine Nat.le_trans (fdFoldO_keep_len D τ _ _) ?_
  rw [show (fdSorted D layer cur).length = cur.length from Cover.length_sortBy _ _]
  exact Nat.le_of_eq (Nat.zero_add _)

/-- the invariant of the operation-wise fold (`proc` = the positions processed so far) -/
structure FdInvO (D : DomRule S K) (P : Problem S) (layer : List (Node S)) (proc : List Nat)
    (acc : List (Node S) × List Nat × Nat × Bool × List (Op S)) : Prop where
  th : ThEq acc.1 layer
  sub : ∀ p ∈ acc.2.1, p ∈ proc
  ok : acc.2.2.2.1 = true
  pruned : ∀ p ∈ proc, p ∉ acc.2.1 → ∃ m, layer[p]? = some m ∧ m.isExact = true ∧
    ∃ a va pa, Reach P m.depth a va pa ∧ Dominates D a va m.state m.value
  ops : ∀ op ∈ acc.2.2.2.2, ∃ m ∈ layer, m.isExact = true ∧
    op.state = m.state ∧ op.depth = m.depth ∧ op.value = m.value

theorem snoc_sub {keep proc : List Nat} {p : Nat} (h : ∀ q ∈ keep, q ∈ proc) : ∀ q ∈ keep ++ [p], q ∈ proc ++ [p] :=
  fun q hq => (List.mem_append.mp hq).elim (fun hq => List.mem_append_left _ (h q hq)) (List.mem_append_right _)

/-- a position processed and not kept stays so when one more position is processed and kept -/
theorem snoc_pruned {keep proc : List Nat} {p : Nat} {Q : Nat → Prop} (h : ∀ q ∈ proc, q ∉ keep → Q q) :
    ∀ q ∈ proc ++ [p], q ∉ keep ++ [p] → Q q :=
  fun q hq hnq => (List.mem_append.mp hq).elim (fun hq => h q hq (fun hk => hnq (List.mem_append_left _ hk)))
    (fun hq => absurd (List.mem_append_right _ hq) hnq)

theorem fdStepO_inv (D : DomRule S K) (P : Problem S) (τ : Nat → DomStore S K) (hτ : ∀ k, StoreReach D P (τ k))
    (n : Nat) (hlen : ∀ k, (τ k).layers.length = n + 1) (layer : List (Node S))
    (hdepth : ∀ m ∈ layer, m.isExact = true → m.depth ≤ n)
    (proc : List Nat) (acc : List (Node S) × List Nat × Nat × Bool × List (Op S)) (p : Nat) (hp : p < layer.length)
    (h : FdInvO D P layer proc acc) : FdInvO D P layer (proc ++ [p]) (fdStepO D τ acc p) := by
  obtain ⟨hth, hsub, hok, hpr, hops⟩ := h
  have hsubApp := snoc_sub (p := p) hsub
  have hprApp := snoc_pruned (p := p) hpr
  -- an exact node at position `p` of the accumulator is an exact node of `layer`, with the same item
  have hex : ∀ m, acc.1[p]? = some m → m.isExact = true → ∃ m0, layer[p]? = some m0 ∧ m0.isExact = true ∧
      m.state = m0.state ∧ m.depth = m0.depth ∧ m.value = m0.value := by
    intro m hm he
    obtain ⟨m0, h0, hs⟩ := hth.get hm
    obtain ⟨es, ev, ed, ee, _, _⟩ := stripT_all hs
    exact ⟨m0, h0, ee ▸ he, es, ed, ev⟩
  have hopsApp : ∀ m, acc.1[p]? = some m → m.isExact = true → OpsOf layer (acc.2.2.2.2 ++ [⟨m.state, m.depth, m.value⟩]) := by
    intro m hm he
    obtain ⟨m0, h0, he0, es, ed, ev⟩ := hex m hm he
    exact OpsOf.snoc hops (List.mem_of_getElem? h0) he0 es ed ev
  fun_cases fdStepO D τ acc p
  case case1 hn =>
    rw [List.getElem?_eq_getElem (hth.length ▸ hp)] at hn
    cases hn
  case case2 m hm he hq =>
    obtain ⟨m0, h0, he0, _, ed, _⟩ := hex m hm he
    refine absurd hq (query_ne_none D _ _ _ _ ?_)
    rw [hlen, ed]
    exact Nat.lt_succ_of_le (hdepth m0 (List.mem_of_getElem? h0) he0)
  case case3 m hm he st' thr hq =>
    obtain ⟨m0, h0, he0, es, ed, ev⟩ := hex m hm he
    obtain ⟨a, va, ⟨pa, hra⟩, hda⟩ := query_dominated D _ _ st' _ _ _ thr hq (hτ _)
    refine ⟨hth.set hm rfl, fun q hq => List.mem_append_left _ (hsub q hq), hok, fun q hq hnq => ?_, hopsApp m hm he⟩
    rcases List.mem_append.mp hq with hq | hq
    · exact hpr q hq hnq
    · rw [List.mem_singleton] at hq
      subst hq
      exact ⟨m0, h0, he0, a, va, pa, ed ▸ hra, es ▸ ev ▸ hda⟩
  case case4 m hm he _ _ _ _ _ => exact ⟨hth, hsubApp, hok, hprApp, hopsApp m hm he⟩
  case case5 => exact ⟨hth, hsubApp, hok, hprApp, hops⟩

theorem fdFoldO_inv (D : DomRule S K) (P : Problem S) (τ : Nat → DomStore S K) (hτ : ∀ k, StoreReach D P (τ k))
    (n : Nat) (hlen : ∀ k, (τ k).layers.length = n + 1) (layer : List (Node S))
    (hdepth : ∀ m ∈ layer, m.isExact = true → m.depth ≤ n) :
    ∀ (l proc : List Nat) (acc : List (Node S) × List Nat × Nat × Bool × List (Op S)), (∀ p ∈ l, p < layer.length) →
      FdInvO D P layer proc acc → FdInvO D P layer (proc ++ l) (l.foldl (fdStepO D τ) acc) := by
  intro l
  induction l with
  | nil => intro proc acc _ h; rwa [List.append_nil]
  | cons p ps ih =>
    intro proc acc hl h
    have := ih (proc ++ [p]) _ (fun q hq => hl q (List.mem_cons_of_mem _ hq))
      (fdStepO_inv D P τ hτ n hlen layer hdepth proc acc p (hl p List.mem_cons_self) h)
    rwa [List.append_assoc] at this

/-- **`filterDomO_spec`**: whatever stores of exactly reached items answer the operations — the layer changes in `theta` only,
    the survivors are positions of `cur`, no operation panics (depths in range), every position of `cur` that does not survive
    holds an exact node dominated (`Dominates D`) by an exactly reached item of its depth, and every logged operation presents an
    exact node of the layer -/
theorem filterDomO_spec (cfg : Cfg S K) (D : DomRule S K) (hD : cfg.dom = some D) (P : Problem S)
    (τ : Nat → DomStore S K) (hτ : ∀ k, StoreReach D P (τ k)) (n : Nat) (hlen : ∀ k, (τ k).layers.length = n + 1)
    (k : Nat) (layer : List (Node S)) (cur : List Nat) (hcur : ∀ p ∈ cur, p < layer.length)
    (hdepth : ∀ m ∈ layer, m.isExact = true → m.depth ≤ n) :
    ThEq (filterDomO cfg τ k layer cur).1 layer ∧
    (∀ p ∈ (filterDomO cfg τ k layer cur).2.1, p ∈ cur) ∧
    (filterDomO cfg τ k layer cur).2.2.2.1 = true ∧
    (∀ p ∈ cur, p ∉ (filterDomO cfg τ k layer cur).2.1 → ∃ m, layer[p]? = some m ∧ m.isExact = true ∧
      ∃ a va pa, Reach P m.depth a va pa ∧ Dominates D a va m.state m.value) ∧
    (∀ op ∈ (filterDomO cfg τ k layer cur).2.2.2.2, ∃ m ∈ layer, m.isExact = true ∧
      op.state = m.state ∧ op.depth = m.depth ∧ op.value = m.value) := by
  rw [filterDomO_eq cfg D hD]
  have hmem : ∀ p, p ∈ fdSorted D layer cur ↔ p ∈ cur := fun p => Cover.mem_sortBy _ _ _
  have hinit : FdInvO D P layer [] (layer, [], k, true, []) :=
    ⟨ThEq.refl _, (fun p hp => by cases hp), rfl, (fun p hp => by cases hp), (fun op hop => by cases hop)⟩
  have h := fdFoldO_inv D P τ hτ n hlen layer hdepth (fdSorted D layer cur) [] _
    (fun p hp => hcur p ((hmem p).mp hp)) hinit
  rw [List.nil_append] at h
  exact ⟨h.th, fun p hp => (hmem p).mp (h.sub p hp), h.ok, fun p hp hn => h.pruned p ((hmem p).mpr hp) hn, h.ops⟩

theorem fdFoldO_protected (D : DomRule S K) (P : Problem S) (H : Nat → S → EInt) (opt : Int) (Prot : Nat → S → Int → Prop)
    (hPr : Protected D P H opt Prot) (τ : Nat → DomStore S K) (hτ : ∀ k, StoreReach D P (τ k)) (layer : List (Node S))
    (p : Nat) (m : Node S) (hm : layer[p]? = some m) (hprot : m.isExact = true → Prot m.depth m.state m.value) :
    ∀ (l : List Nat) (acc : List (Node S) × List Nat × Nat × Bool × List (Op S)), ThEq acc.1 layer →
      (p ∈ l ∨ p ∈ acc.2.1) → p ∈ (l.foldl (fdStepO D τ) acc).2.1 := by
  intro l
  induction l with
  | nil => intro acc _ h; exact h.elim (fun h => by cases h) id
  | cons q qs ih =>
    intro acc hth h
    refine ih _ (fdStepO_thEq D τ layer acc q hth) ?_
    rcases h with h | h
    · rcases List.mem_cons.mp h with h | h
      · -- the step that processes `p` itself keeps it: the node there is `m` up to `theta`
        subst h
        obtain ⟨n1, hn1, hs1⟩ := hth.symm.get hm
        obtain ⟨es, ev, ed, ee, _, _⟩ := stripT_all hs1
        obtain ⟨hk, _⟩ := fdStepO_protected D P H opt Prot hPr τ hτ acc p n1 hn1
          (fun he => es ▸ ev ▸ ed ▸ hprot (ee ▸ he))
        exact .inr (hk ▸ List.mem_append_right _ (List.mem_singleton.mpr rfl))
      · exact .inl h
    · right
      rcases fdStepO_keep D τ acc q with e | e
      · exact e ▸ h
      · exact e ▸ List.mem_append_left _ h

/-- **`filterDomO_protected`**: a node that is inexact or protected is never dropped, whatever the oracle -/
theorem filterDomO_protected (cfg : Cfg S K) (D : DomRule S K) (hD : cfg.dom = some D) (P : Problem S) (H : Nat → S → EInt)
    (opt : Int) (Prot : Nat → S → Int → Prop) (hPr : Protected D P H opt Prot)
    (τ : Nat → DomStore S K) (hτ : ∀ k, StoreReach D P (τ k)) (k : Nat) (layer : List (Node S)) (cur : List Nat)
    (p : Nat) (hp : p ∈ cur) (m : Node S) (hm : layer[p]? = some m)
    (hprot : m.isExact = true → Prot m.depth m.state m.value) :
    p ∈ (filterDomO cfg τ k layer cur).2.1 := by
  rw [filterDomO_eq cfg D hD]
  exact fdFoldO_protected D P H opt Prot hPr τ hτ layer p m hm hprot (fdSorted D layer cur) _ (ThEq.refl _)
    (Or.inl ((Cover.mem_sortBy _ _ _).mpr hp))

/-- the oracle form of `fdOf_facts`: what the filter does to the layer under construction of a diagram satisfying `MInv`,
    answered by stores of `nbVars + 1` layers of exactly reached items -/
theorem filterDomO_facts (cfg : Cfg S K) (D : DomRule S K) (H : Nat → S → EInt) (opt : Int) (Prot : Nat → S → Int → Prop)
    (B : Int) (hD : cfg.dom = some D) (hNV : NvBound cfg.P) (hP : Protected D cfg.P H opt Prot) (p0 : List Dec)
    (τ : Nat → DomStore S K)
    (hτ : ∀ k, StoreReach D cfg.P (τ k) ∧ (τ k).layers.length = cfg.P.nbVars + 1) (k : Nat)
    (dd : DD S K) (var : Nat) (hM : MInv cfg B p0 dd)
    (hdepth : dd.depth = cfg.root.depth + dd.layers.length)
    (hnv : cfg.P.nextVar dd.depth (dd.next.map (·.state)) = some var) :
    ThEq (filterDomO cfg τ k dd.next (List.range dd.next.length)).1 dd.next ∧
    (∀ p ∈ (filterDomO cfg τ k dd.next (List.range dd.next.length)).2.1, p < dd.next.length) ∧
    (filterDomO cfg τ k dd.next (List.range dd.next.length)).2.2.2.1 = true ∧
    ∀ p n, dd.next[p]? = some n → (n.isExact = true → Prot dd.depth n.state n.value) →
      p ∈ (filterDomO cfg τ k dd.next (List.range dd.next.length)).2.1 := by
  have hlt := nv_depth_lt hNV hnv
  have hcur : ∀ p ∈ List.range dd.next.length, p < dd.next.length := fun p hp => List.mem_range.mp hp
  have hdep : ∀ n ∈ dd.next, n.isExact = true → n.depth = dd.depth := by
    intro n hn he
    obtain ⟨_, _, _, hd, _⟩ := hM.next n hn he
    rw [hd, ← hdepth]
  obtain ⟨h1, h2, h3, _, _⟩ := filterDomO_spec cfg D hD cfg.P τ (fun j => (hτ j).1) cfg.P.nbVars (fun j => (hτ j).2)
    k dd.next _ hcur (fun n hn he => hdep n hn he ▸ Nat.le_of_lt hlt)
  refine ⟨h1, fun p hp => hcur p (h2 p hp), h3, fun p n hp hpr => ?_⟩
  exact filterDomO_protected cfg D hD cfg.P H opt Prot hP τ (fun j => (hτ j).1) k dd.next _ p
    (List.mem_range.mpr (Cover.lt_of_getElem?_some hp)) n hp
    (fun he => hdep n (List.mem_of_getElem? hp) he ▸ hpr he)

end Ddo.ParDom
