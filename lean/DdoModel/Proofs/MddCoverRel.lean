import DdoModel.WfRel
import DdoModel.Proofs.MddStep
/-! # C06 relative to valid layers

`buildLoop` (relaxed, no cache, no dominance) keeps in its current layer a node whose value + potential covers the
optimum of the sub-problem; hence the upper bound `relaxed_ub_rel_valid`, of which `Ddo.C06.relaxed_ub_rel_dom`
(`Props/C06.lean`) is an instance.  The hypotheses only speak about what the compilation can meet:

* `WfRel` quantifies over ANY list `L` handed to `nextVar` (only the member `s` at hand, resp. the merged part `X`, is
  known to be valid); a model whose `next_variable` reads the layer (max2sat: the depth stored in the FIRST state of the
  layer) cannot meet it (`Ddo.Examples.Max2satModel.wfRel_false`).  `WfRelV` asks `∀ u ∈ L, V k u` of every such list.
* `NoClampDom` bounds the transition cost from ANY state and the relaxed cost of ANY triple (source, destination,
  merged) of states; a model whose `relax` adds a state-dependent correction (mcp, max2sat:
  `cost + Σ_v |dst_v| - |merged_v|`) or whose transition cost depends on the state cannot meet it
  (`Ddo.Examples.McpModel.noClampDom_false`, `Ddo.Examples.Max2satModel.noClampDom_false`).  `NoClampRel` bounds by `B0`
  the cost of the decisions of the domain taken from a valid state, on the variable chosen for a valid layer, and by
  `B ≥ B0` (an additive correction is allowed) the relaxed cost of an arc of cost within `B0` into a member `u` of a
  valid part `X` of a layer, redirected to `merge X`. -/
set_option linter.unusedSectionVars false
set_option linter.unusedVariables false
namespace Ddo
variable {S : Type}

structure WfRelV (P : Problem S) (R : Relax S) (H : Nat → S → EInt) (V : Nat → S → Prop) : Prop where
  vstep : ∀ k L x s d, P.nextVar k L = some x → (∀ u ∈ L, V k u) → s ∈ L → d ∈ P.domain x s →
      V (k + 1) (P.trans s ⟨x, d⟩)
  vstepMerge : ∀ k L x X d, P.nextVar k L = some x → (∀ u ∈ L, V k u) → X ≠ [] → (∀ u ∈ X, u ∈ L) →
      d ∈ P.domain x (R.merge X) → V (k + 1) (P.trans (R.merge X) ⟨x, d⟩)
  vmerge : ∀ k X, X ≠ [] → (∀ u ∈ X, V k u) → V k (R.merge X)
  att : ∀ k L x s h, P.nextVar k L = some x → (∀ u ∈ L, V k u) → s ∈ L → H k s = some h →
      ∃ d ∈ P.domain x s, ∃ h', H (k + 1) (P.trans s ⟨x, d⟩) = some h' ∧
        h ≤ P.cost s (P.trans s ⟨x, d⟩) ⟨x, d⟩ + h'
  attMerge : ∀ k L x X h, P.nextVar k L = some x → (∀ u ∈ L, V k u) → X ≠ [] → (∀ u ∈ X, u ∈ L) →
      H k (R.merge X) = some h →
      ∃ d ∈ P.domain x (R.merge X), ∃ h', H (k + 1) (P.trans (R.merge X) ⟨x, d⟩) = some h' ∧
        h ≤ P.cost (R.merge X) (P.trans (R.merge X) ⟨x, d⟩) ⟨x, d⟩ + h'
  term : ∀ k L s h, P.nextVar k L = none → (∀ u ∈ L, V k u) → s ∈ L → H k s = some h → h ≤ 0
  rub : ∀ k s h, V k s → H k s = some h → h ≤ R.rub s
  merge : ∀ k (X : List S) (u src : S) (d : Dec) (c h : Int), u ∈ X → (∀ w ∈ X, V k w) → H k u = some h →
      ∃ h', H k (R.merge X) = some h' ∧ c + h ≤ R.relax src u (R.merge X) d c + h'

theorem WfRel.toV {P : Problem S} {R : Relax S} {H : Nat → S → EInt} {V : Nat → S → Prop} (h : WfRel P R H V) :
    WfRelV P R H V where
  vstep := fun k L x s d hnv hL hs hd => h.vstep k L x s d hnv hs (hL s hs) hd
  vstepMerge := fun k L x X d hnv hL hne hsub hd => h.vstepMerge k L x X d hnv hne hsub (fun u hu => hL u (hsub u hu)) hd
  vmerge := h.vmerge
  att := fun k L x s h' hnv hL hs hH => h.att k L x s h' hnv hs (hL s hs) hH
  attMerge := fun k L x X h' hnv hL hne hsub hH =>
    h.attMerge k L x X h' hnv hne hsub (fun u hu => hL u (hsub u hu)) hH
  term := fun k L s h' hnv hL hs hH => h.term k L s h' hnv hs (hL s hs) hH
  rub := h.rub
  merge := h.merge

/-- `small`: the values of layer `i` stay within `Bd B i = (i + 1) · B`, at most `(nbVars + 2) · B ≤ 2^62`, so that no
    `saturating_add` on a path value saturates -/
structure NoClampRel (P : Problem S) (R : Relax S) (V : Nat → S → Prop) (rootValue B0 B : Int) : Prop where
  nonneg : 0 ≤ B0
  le : B0 ≤ B
  root : -B ≤ rootValue ∧ rootValue ≤ B
  cost : ∀ k L x s d, P.nextVar k L = some x → (∀ u ∈ L, V k u) → V k s → d ∈ P.domain x s →
    -B0 ≤ P.cost s (P.trans s ⟨x, d⟩) ⟨x, d⟩ ∧ P.cost s (P.trans s ⟨x, d⟩) ⟨x, d⟩ ≤ B0
  relax : ∀ k (X : List S) (u src : S) (d : Dec) (c : Int), u ∈ X → (∀ w ∈ X, V k w) → -B0 ≤ c ∧ c ≤ B0 →
    -B ≤ R.relax src u (R.merge X) d c ∧ R.relax src u (R.merge X) d c ≤ B
  small : ((P.nbVars : Int) + 2) * B ≤ 4611686018427387904

theorem NoClampDom.toRel {P : Problem S} {R : Relax S} {rv B : Int} (h : NoClampDom P R rv B) (V : Nat → S → Prop) :
    NoClampRel P R V rv B B :=
  ⟨h.nonneg, Int.le_refl _, h.root, fun _ _ x s d _ _ _ hd => h.cost x s d hd,
   fun _ X u src d c _ _ hc => h.relax src u (R.merge X) d c hc, h.small⟩

end Ddo

namespace Ddo.Cover
open Ddo
variable {S K : Type} [DecidableEq S] [DecidableEq K]

def AttAt (cfg : Cfg S K) (H : Nat → S → EInt) (k var : Nat) (s : S) : Prop :=
  ∀ h, H k s = some h → ∃ d ∈ cfg.P.domain var s, ∃ h', H (k + 1) (cfg.P.trans s ⟨var, d⟩) = some h' ∧
    h ≤ cfg.P.cost s (cfg.P.trans s ⟨var, d⟩) ⟨var, d⟩ + h'

structure SqPost (cfg : Cfg S K) (H : Nat → S → EInt) (V : Nat → S → Prop) (B o : Int) (dd : DD S K) (var : Nat)
    (layer' : List (Node S)) (cur' : List Nat) : Prop where
  wit : ∃ q ∈ cur', ∃ n, layer'[q]? = some n ∧ V dd.depth n.state ∧ ∃ h, H dd.depth n.state = some h ∧
    o ≤ n.value + h ∧ AttAt cfg H dd.depth var n.state
  kids : ∀ q ∈ cur', ∀ n, layer'[q]? = some n → ∀ d ∈ cfg.P.domain var n.state,
    V (dd.depth + 1) (cfg.P.trans n.state ⟨var, d⟩)
  rng : ∀ n ∈ layer', Within (Bd B dd.layers.length) n.value

end Ddo.Cover

namespace Ddo.CoverRel
open Ddo Ddo.Cover
variable {S K : Type} [DecidableEq S] [DecidableEq K]

def UpM (mpos : Nat) (M : Int) (ly : List (Node S)) : Prop := ∀ m, ly[mpos]? = some m → m.value ≤ M

theorem UpM_set {mpos : Nat} {M : Int} {ly : List (Node S)} (h : UpM mpos M ly) (p : Nat) (n' : Node S)
    (hn : p = mpos → n'.value ≤ M) : UpM mpos M (ly.set p n') := by
  intro m hm
  by_cases hp : p = mpos
  · subst hp
    have hlt : p < ly.length := by
      have := lt_of_getElem?_some hm
      rw [List.length_set] at this; exact this
    rw [List.getElem?_set_self hlt] at hm
    cases hm
    exact hn rfl
  · rw [List.getElem?_set_ne hp] at hm
    exact h m hm

theorem redirStep_upM (cfg : Cfg S K) (layers : List (List (Node S))) (merged : S) (mpos : Nat) (dropN : Node S)
    (acc : List (Node S) × List (Call S)) (e : Arc) (B M : Int)
    (hsrc : ∀ l p src c, getNode layers l p = some src → Within B c → Within M (satAdd src.value c))
    (hrc : ∀ s, Within B (cfg.R.relax s dropN.state merged e.dec e.cost))
    (h : UpM mpos M acc.1) : UpM mpos M (redirStep cfg layers merged mpos dropN acc e).1 := by
  rcases redirStep_cases cfg layers merged mpos dropN acc e with ⟨h1, _⟩ | ⟨src, m, hs, hm, h1⟩
  · rw [h1]; exact h
  · rw [h1]
    apply UpM_set h
    intro _
    rcases appendEdge_value src m ⟨e.fromL, e.fromP, e.dec, cfg.R.relax src.state dropN.state merged e.dec e.cost⟩
      with ⟨h2, _⟩ | ⟨h2, _⟩
    · rw [h2]; exact h m hm
    · rw [h2]; exact (hsrc _ _ src _ hs (hrc src.state)).2

theorem inner_upM (cfg : Cfg S K) (layers : List (List (Node S))) (merged : S) (mpos : Nat) (dropN : Node S)
    (inb : List Arc) (acc : List (Node S) × List (Call S)) (B M : Int)
    (hsrc : ∀ l p src c, getNode layers l p = some src → Within B c → Within M (satAdd src.value c))
    (hrc : ∀ e ∈ inb, ∀ s, Within B (cfg.R.relax s dropN.state merged e.dec e.cost))
    (h : UpM mpos M acc.1) : UpM mpos M (inb.foldl (redirStep cfg layers merged mpos dropN) acc).1 :=
  Cover.foldl_inv (fun b => UpM mpos M b.1) _ inb acc h
    (fun b e hmem hb => redirStep_upM cfg layers merged mpos dropN b e B M hsrc (hrc e hmem) hb)

theorem dropStep_upM (cfg : Cfg S K) (layers : List (List (Node S))) (merged : S) (mpos : Nat)
    (acc : List (Node S) × List (Call S)) (p : Nat) (B M : Int)
    (hsrc : ∀ l p src c, getNode layers l p = some src → Within B c → Within M (satAdd src.value c))
    (hp : p ≠ mpos)
    (hrc : ∀ dropN, acc.1[p]? = some dropN → ∀ e ∈ dropN.inb, ∀ s,
      Within B (cfg.R.relax s dropN.state merged e.dec e.cost))
    (h : UpM mpos M acc.1) : UpM mpos M (dropStep cfg layers merged mpos acc p).1 := by
  unfold dropStep
  cases h1 : acc.1[p]? with
  | none => exact h
  | some dropN =>
    dsimp only
    exact inner_upM cfg layers merged mpos _ dropN.inb _ B M hsrc (hrc dropN h1)
      (UpM_set h p _ (fun e => absurd e hp))

/-- the outer fold of `_relax`: the nodes dropped sit at positions `≠ mpos`, hence still are the nodes of the layer
    handed to the fold (`Ext.other`), whose arcs have relaxed costs within `B` -/
theorem outer_upM (cfg : Cfg S K) (layers : List (List (Node S))) (merged : S) (mpos : Nat)
    (rest : List Nat) (layer1 : List (Node S)) (B M : Int)
    (hsrc : ∀ l p src c, getNode layers l p = some src → Within B c → Within M (satAdd src.value c))
    (hrest : ∀ p ∈ rest, p ≠ mpos ∧ ∀ n1, layer1[p]? = some n1 → ∀ e ∈ n1.inb, ∀ s,
      Within B (cfg.R.relax s n1.state merged e.dec e.cost))
    (acc : List (Node S) × List (Call S)) (hE : Ext mpos layer1 acc.1) (h : UpM mpos M acc.1) :
    UpM mpos M (rest.foldl (dropStep cfg layers merged mpos) acc).1 := by
  induction rest generalizing acc with
  | nil => exact h
  | cons p ps ih =>
    rw [List.foldl_cons]
    obtain ⟨hpm, hp⟩ := hrest p List.mem_cons_self
    refine ih (fun q hq => hrest q (List.mem_cons_of_mem _ hq)) _ (hE.trans (dropStep_ext _ _ _ _ _ _)) ?_
    refine dropStep_upM cfg layers merged mpos acc p B M hsrc hpm ?_ h
    intro dropN hd e he s
    have ho := hE.other p hpm
    rw [hd] at ho
    cases hl : layer1[p]? with
    | none => rw [hl] at ho; cases ho
    | some n1 =>
      rw [hl] at ho
      simp only [Option.map_some, sig, Option.some.injEq, Prod.mk.injEq] at ho
      obtain ⟨hs, _, hi⟩ := ho
      rw [hs]
      exact hp n1 hl e (hi ▸ he) s

theorem markRelaxed_upM {mpos : Nat} {M : Int} {l : List (Node S)} (h : UpM mpos M l) (p : Nat) :
    UpM mpos M (markRelaxed l p) := by
  unfold markRelaxed
  cases h1 : l[p]? with
  | none => exact h
  | some n => exact UpM_set h p _ (fun e => by subst e; exact h n h1)

theorem undelete_upM {mpos : Nat} {M : Int} {l : List (Node S)} (h : UpM mpos M l) (c : List Nat) :
    UpM mpos M (undelete l c) := by
  unfold undelete
  cases c.getLast? with
  | none => exact h
  | some sp =>
    dsimp only
    cases h1 : l[sp]? with
    | none => exact h
    | some n => exact UpM_set h sp _ (fun e => by subst e; exact h n h1)

theorem relax_core_range' (cfg : Cfg S K) (layers : List (List (Node S))) (layer layer1 out : List (Node S))
    (cur : List Nat) (mpos : Nat) (lg0 : List (Call S)) (B M : Int)
    (hsrc : ∀ l p src c, getNode layers l p = some src → Within B c → Within M (satAdd src.value c))
    (hrest : ∀ p ∈ restOf cfg layer cur, p ≠ mpos ∧ ∀ n1, layer1[p]? = some n1 → ∀ e ∈ n1.inb, ∀ s,
      Within B (cfg.R.relax s n1.state (mergedOf cfg layer cur) e.dec e.cost))
    (hm1 : UpM mpos M layer1)
    (hw1 : ∀ q n1, q ≠ mpos → layer1[q]? = some n1 → Within M n1.value)
    (hout : Ext mpos ((restOf cfg layer cur).foldl (dropStep cfg layers (mergedOf cfg layer cur) mpos)
            (markRelaxed layer1 mpos, lg0)).1 out)
    (hup : UpM mpos M ((restOf cfg layer cur).foldl (dropStep cfg layers (mergedOf cfg layer cur) mpos)
            (markRelaxed layer1 mpos, lg0)).1 → UpM mpos M out)
    (hlow : LB mpos (-M) out) :
    ∀ n ∈ out, Within M n.value := by
  have E1 := markRelaxed_ext mpos layer1 mpos
  have E2 := outer_ext cfg layers (mergedOf cfg layer cur) mpos (restOf cfg layer cur) (markRelaxed layer1 mpos, lg0)
  have E : Ext mpos layer1 out := E1.trans (E2.trans hout)
  have hU : UpM mpos M out := hup (outer_upM cfg layers _ mpos _ layer1 B M hsrc hrest
    (markRelaxed layer1 mpos, lg0) E1 (markRelaxed_upM hm1 mpos))
  intro n hn
  obtain ⟨q, hq⟩ := List.mem_iff_getElem?.mp hn
  by_cases hqm : q = mpos
  · subst hqm
    refine ⟨?_, hU n hq⟩
    obtain ⟨m, hm, hv⟩ := hlow
    rw [hq] at hm; cases hm; exact hv
  · have ho := E.other q hqm
    rw [hq] at ho
    cases h1 : layer1[q]? with
    | none => rw [h1] at ho; cases ho
    | some n1 =>
      rw [h1] at ho
      simp only [Option.map_some, sig, Option.some.injEq, Prod.mk.injEq] at ho
      have := hw1 q n1 hqm h1
      rw [ho.2.1]; exact this

/-- The bound on the relaxed costs (`hrel`) is only asked of the arcs (cost within `B0`) into the merged-away states of
    this very layer: this is what `NoClampRel.relax` provides. -/
theorem relaxLayer_range' (cfg : Cfg S K) (layers : List (List (Node S))) (layer : List (Node S)) (cur : List Nat)
    (log : List (Call S)) (hW : 1 ≤ cfg.width) (hlen : cur.length > cfg.width) (hcur : ∀ p ∈ cur, p < layer.length)
    (hnd : cur.Nodup) (B0 B M : Int)
    (hsrc : ∀ l p src c, getNode layers l p = some src → Within B c → Within M (satAdd src.value c))
    (hrel : ∀ s u d c, u ∈ restStatesOf cfg layer cur → Within B0 c →
      Within B (cfg.R.relax s u (mergedOf cfg layer cur) d c))
    (hM : 0 ≤ M) (hl : LayerOk layers layer cur B0 M) :
    ∀ n ∈ (relaxLayer cfg layers layer cur log).1, Within M n.value := by
  have hrestlt : ∀ p ∈ restOf cfg layer cur, p < layer.length := fun p hp => by
    unfold restOf sortSquash at hp
    exact hcur p ((mem_sortBy _ _ _).1 (List.mem_of_mem_drop hp))
  have hdisj : ∀ a ∈ keepOf cfg layer cur, ∀ b ∈ restOf cfg layer cur, a ≠ b := by
    have hs : (sortSquash cfg layer cur).Nodup := by unfold sortSquash; exact (sortBy_perm _ cur).nodup_iff.2 hnd
    rw [← List.take_append_drop (cfg.width - 1) (sortSquash cfg layer cur)] at hs
    exact (List.nodup_append.1 hs).2.2
  have hrc : ∀ p ∈ restOf cfg layer cur, ∀ n1, layer[p]? = some n1 → ∀ e ∈ n1.inb, ∀ s,
      Within B (cfg.R.relax s n1.state (mergedOf cfg layer cur) e.dec e.cost) := by
    intro p hp n1 hn1 e he s
    refine hrel s n1.state e.dec e.cost ?_ ((hl.rng n1 (List.mem_of_getElem? hn1)).2 e he)
    unfold restStatesOf
    exact List.mem_filterMap.mpr ⟨p, hp, by rw [hn1]; rfl⟩
  apply relaxLayer_elim cfg layers layer cur log (fun r => ∀ n ∈ r.1, Within M n.value)
  · -- fresh merged node
    intro hrec
    generalize Theta.d0Of cfg layer cur = d0
    intro lg
    dsimp only
    have h1 : ∀ q, q < layer.length →
        (layer ++ [freshMerged (mergedOf cfg layer cur) d0])[q]? = layer[q]? :=
      fun q hq => List.getElem?_append_left hq
    have hm0 : (layer ++ [freshMerged (mergedOf cfg layer cur) d0])[layer.length]? =
        some (freshMerged (mergedOf cfg layer cur) d0) := List.getElem?_concat_length
    refine relax_core_range' cfg layers layer _ _ cur layer.length lg B M hsrc ?_ ?_ ?_ (Ext.refl _ _) (fun h => h) ?_
    · intro p hp
      have hlt := hrestlt p hp
      refine ⟨by omega, fun n1 hn1 => ?_⟩
      rw [h1 p hlt] at hn1
      exact hrc p hp n1 hn1
    · intro m hm
      rw [hm0] at hm; cases hm
      simp only [freshMerged]; unfold iMin; omega
    · intro q n1 hqm hq1
      have hlt := lt_of_getElem?_some hq1
      rw [List.length_append, List.length_singleton] at hlt
      have hq' : q < layer.length := by omega
      rw [h1 q hq'] at hq1
      exact (hl.rng n1 (List.mem_of_getElem? hq1)).1
    · obtain ⟨q0, hq0, hq0c⟩ := rest_nonempty cfg layer cur hW hlen
      have hlt := hcur q0 hq0c
      have hu0 : layer[q0]? = some layer[q0] := List.getElem?_eq_getElem hlt
      obtain ⟨a, ha, src, hsrc'⟩ := hl.att q0 hq0c _ hu0
      have E1 := markRelaxed_ext layer.length (layer ++ [freshMerged (mergedOf cfg layer cur) d0]) layer.length
      obtain ⟨m1, hm1, _, _⟩ := E1.at_m _ hm0
      have hlb := outer_recv cfg layers (mergedOf cfg layer cur) layer.length (restOf cfg layer cur)
        (markRelaxed (layer ++ [freshMerged (mergedOf cfg layer cur) d0]) layer.length, lg) q0 hq0 (by omega)
        layer[q0].state layer[q0].value layer[q0].inb
        (by rw [E1.other q0 (by omega), h1 q0 hlt, hu0]; rfl) a ha src m1 hsrc' hm1
      exact LB_mono hlb (hsrc _ _ src _ hsrc' (hrc q0 hq0 _ hu0 a ha src.state)).1
  · -- recycled node
    intro mp hrec lg
    dsimp only
    obtain ⟨hmk, n, hn, _⟩ := recycledOf_some hrec
    refine relax_core_range' cfg layers layer layer _ cur mp lg B M hsrc ?_ ?_ ?_ (undelete_ext _ _ _)
      (fun h => undelete_upM h _) ?_
    · intro p hp
      exact ⟨fun e => hdisj mp hmk p hp e.symm, fun n1 hn1 => hrc p hp n1 hn1⟩
    · intro m hm; exact (hl.rng m (List.mem_of_getElem? hm)).1.2
    · intro q n1 _ hq1; exact (hl.rng n1 (List.mem_of_getElem? hq1)).1
    · have E : Ext mp layer _ := (markRelaxed_ext mp layer mp).trans
        ((outer_ext cfg layers (mergedOf cfg layer cur) mp (restOf cfg layer cur) (markRelaxed layer mp, lg)).trans
          (undelete_ext mp _ ((sortSquash cfg layer cur).take cfg.width)))
      obtain ⟨m', hm', _, hv'⟩ := E.at_m n hn
      exact ⟨m', hm', by have := (hl.rng n (List.mem_of_getElem? hn)).1.1; omega⟩

/-- `dd.next` is the layer under construction, at depth `dd.depth`.  Its arcs come from the expansion and carry the
    ORIGINAL transition costs (`arcs`, within `B0`); relaxed costs (within `B`) only reach the values, hence `Bd B i`. -/
structure Inv' (H : Nat → S → EInt) (V : Nat → S → Prop) (B0 B o : Int) (dd : DD S K) : Prop where
  valid : ∀ n ∈ dd.next, V dd.depth n.state
  cover : ∃ n ∈ dd.next, ∃ h, H dd.depth n.state = some h ∧ o ≤ n.value + h
  att : dd.layers ≠ [] → ∀ n ∈ dd.next, ∃ a ∈ n.inb, ∃ p, getNode dd.layers a.fromL a.fromP = some p ∧
    n.value = satAdd p.value a.cost
  arcs : ∀ n ∈ dd.next, ∀ a ∈ n.inb, Within B0 a.cost
  rngN : ∀ n ∈ dd.next, Within (Bd B dd.layers.length) n.value
  rngL : ∀ (i : Nat) ly, dd.layers[i]? = some ly → ∀ n ∈ ly, Within (Bd B i) n.value

theorem Inv'.validL {H : Nat → S → EInt} {V : Nat → S → Prop} {B0 B o : Int} {dd : DD S K} (hI : Inv' H V B0 B o dd) :
    ∀ u ∈ dd.next.map (·.state), V dd.depth u := by
  intro u hu
  obtain ⟨n, hn, rfl⟩ := List.mem_map.mp hu
  exact hI.valid n hn

theorem NoClampRel.nonnegB {P : Problem S} {R : Relax S} {V : Nat → S → Prop} {rv B0 B : Int}
    (hB : NoClampRel P R V rv B0 B) : 0 ≤ B := Int.le_trans hB.nonneg hB.le

theorem Bd_small' {P : Problem S} {R : Relax S} {V : Nat → S → Prop} {rv B0 B : Int} (hB : NoClampRel P R V rv B0 B)
    {k : Nat} (hk : k ≤ P.nbVars + 1) : Bd B k ≤ 4611686018427387904 :=
  Bd_le_of_small (NoClampRel.nonnegB hB) hB.small hk

theorem expand_inv' (cfg : Cfg S K) (H : Nat → S → EInt) (V : Nat → S → Prop) (B0 B o : Int) (dd dd' : DD S K)
    (var : Nat) (layer' : List (Node S)) (cur' : List Nat) (lg : List (Call S))
    (hR : ∀ k s h, V k s → H k s = some h → h ≤ cfg.R.rub s) (hle : B0 ≤ B)
    (hcost : ∀ sv ∈ layer'.map key, ∀ d, d ∈ cfg.P.domain var sv.1 →
      Within B0 (cfg.P.cost sv.1 (cfg.P.trans sv.1 ⟨var, d⟩) ⟨var, d⟩))
    (hsmall : Bd B dd.layers.length + B ≤ 4611686018427387904)
    (hclamp : ∀ x, o ≤ x → clamp x > cfg.lb)
    (hI : Inv' H V B0 B o dd) (hsq : SqPost cfg H V B o dd var layer' cur')
    (hl : dd'.layers = dd.layers ++ [(expandAll cfg var dd.layers.length layer' cur' lg).1])
    (hn : dd'.next = (expandAll cfg var dd.layers.length layer' cur' lg).2.1)
    (hd : dd'.depth = dd.depth + 1) : Inv' H V B0 B o dd' := by
  unfold expandAll at hl hn
  have hkeys : (cur'.foldl (expandOne cfg var dd.layers.length) (layer', [], lg)).1.map key = layer'.map key :=
    fold_keys cfg var dd.layers.length cur' (layer', [], lg)
  have hok : ∀ m ∈ (cur'.foldl (expandOne cfg var dd.layers.length) (layer', [], lg)).2.1,
      Cover.NodeOk (layer'.map key) dd.layers.length B0 (Bd B dd.layers.length) m := by
    refine fold_ok' cfg var dd.layers.length cur' (layer', [], lg) (layer'.map key) B0 (Bd B dd.layers.length) rfl ?_ hcost ?_
    · intro sv hsv
      obtain ⟨n, hn, rfl⟩ := List.mem_map.mp hsv
      exact hsq.rng n hn
    · intro m hm; cases hm
  have hlen' : dd'.layers.length = dd.layers.length + 1 := by rw [hl, List.length_append, List.length_singleton]
  refine ⟨?_, ?_, ?_, ?_, ?_, ?_⟩
  · intro m hm
    rw [hn] at hm
    rw [hd]
    refine fold_states (V (dd.depth + 1)) cfg var dd.layers.length cur' (layer', [], lg) (layer'.map key) rfl ?_
      (fun m hm => by cases hm) m hm
    intro p hp sv hsv d hdm
    rw [List.getElem?_map] at hsv
    cases hlp : layer'[p]? with
    | none => rw [hlp] at hsv; cases hsv
    | some n0 =>
      rw [hlp] at hsv
      simp only [Option.map_some, Option.some.injEq] at hsv
      subst hsv
      exact hsq.kids p hp n0 hlp d hdm
  · obtain ⟨q, hq, n, hnq, hVn, h, hH, hle', hatt⟩ := hsq.wit
    obtain ⟨d, hdm, h', hH', hle''⟩ := hatt h hH
    have hrub : satAdd (cfg.R.rub n.state) n.value > cfg.lb := by
      unfold satAdd; apply hclamp
      have := hR _ _ _ hVn hH; omega
    obtain ⟨m, hm, hms, hmv⟩ := fold_has_new cfg var dd.layers.length cur' (layer', [], lg) q hq n.state n.value
      (by rw [List.getElem?_map, hnq]; rfl) hrub d hdm
    have hw := hsq.rng n (List.mem_of_getElem? hnq)
    have hc : Within B0 (cfg.P.cost n.state (cfg.P.trans n.state ⟨var, d⟩) ⟨var, d⟩) :=
      hcost (key n) (List.mem_map_of_mem (List.mem_of_getElem? hnq)) d hdm
    have hsa : satAdd n.value (cfg.P.cost n.state (cfg.P.trans n.state ⟨var, d⟩) ⟨var, d⟩) =
        n.value + cfg.P.cost n.state (cfg.P.trans n.state ⟨var, d⟩) ⟨var, d⟩ :=
      satAdd_of_within hw hc (Int.le_trans (Int.add_le_add_left hle _) hsmall)
    refine ⟨m, by rw [hn]; exact hm, h', by rw [hd, hms]; exact hH', ?_⟩
    omega
  · intro _ m hm
    rw [hn] at hm
    obtain ⟨a, ha, hal, sv, hsv, hv⟩ := (hok m hm).att
    rw [← hkeys, List.getElem?_map] at hsv
    cases hp : (cur'.foldl (expandOne cfg var dd.layers.length) (layer', [], lg)).1[a.fromP]? with
    | none => rw [hp] at hsv; cases hsv
    | some p =>
      rw [hp] at hsv
      simp only [Option.map_some, Option.some.injEq] at hsv
      refine ⟨a, ha, p, ?_, ?_⟩
      · rw [hl, hal, getNode_last]; exact hp
      · rw [hv, ← hsv]; rfl
  · intro m hm a ha
    rw [hn] at hm
    exact (hok m hm).arc a ha
  · intro m hm
    rw [hn] at hm
    rw [hlen', Bd_succ]
    exact (hok m hm).rng.mono (by omega)
  · intro i ly hi m hm
    rw [hl] at hi
    by_cases hlt : i < dd.layers.length
    · rw [List.getElem?_append_left hlt] at hi
      exact hI.rngL i ly hi m hm
    · have hi' := lt_of_getElem?_some hi
      rw [List.length_append, List.length_singleton] at hi'
      have : i = dd.layers.length := by omega
      subst this
      rw [List.getElem?_concat_length] at hi
      cases hi
      have : key m ∈ layer'.map key := by rw [← hkeys]; exact List.mem_map_of_mem hm
      obtain ⟨n0, hn0, hk0⟩ := List.mem_map.mp this
      have hv : n0.value = m.value := congrArg Prod.snd hk0
      rw [← hv]
      exact hsq.rng n0 hn0

theorem sqpost_id' (cfg : Cfg S K) (H : Nat → S → EInt) (V : Nat → S → Prop) (B0 B o : Int) (dd : DD S K) (var : Nat)
    (hwf : WfRelV cfg.P cfg.R H V) (hnv : cfg.P.nextVar dd.depth (dd.next.map (·.state)) = some var)
    (hI : Inv' H V B0 B o dd) :
    SqPost cfg H V B o dd var dd.next (List.range dd.next.length) ∧ ∀ n ∈ dd.next, V dd.depth n.state := by
  refine ⟨⟨?_, ?_, hI.rngN⟩, hI.valid⟩
  · obtain ⟨n, hn, h, hH, hle⟩ := hI.cover
    obtain ⟨q, hq⟩ := List.mem_iff_getElem?.mp hn
    refine ⟨q, mem_of_getElem?_range hq, n, hq, hI.valid n hn, h, hH, hle, ?_⟩
    intro h1 hH1
    exact hwf.att dd.depth _ var n.state h1 hnv hI.validL (List.mem_map_of_mem hn) hH1
  · intro q _ n hq d hd
    have hn := List.mem_of_getElem? hq
    exact hwf.vstep dd.depth _ var n.state d hnv hI.validL (List.mem_map_of_mem hn) hd

theorem sqpost_relax' (cfg : Cfg S K) (H : Nat → S → EInt) (V : Nat → S → Prop) (B0 B o : Int) (dd : DD S K) (var : Nat)
    (lg : List (Call S)) (hwf : WfRelV cfg.P cfg.R H V)
    (hB : NoClampRel cfg.P cfg.R V cfg.root.value B0 B) (hW : 1 ≤ cfg.width)
    (hnv : cfg.P.nextVar dd.depth (dd.next.map (·.state)) = some var)
    (hlen : dd.layers.length ≤ cfg.P.nbVars)
    (hc1 : (List.range dd.next.length).length > cfg.width) (hc2 : dd.layers.length > 1)
    (hI : Inv' H V B0 B o dd) :
    SqPost cfg H V B o dd var (relaxLayer cfg dd.layers dd.next (List.range dd.next.length) lg).1
      (relaxLayer cfg dd.layers dd.next (List.range dd.next.length) lg).2.1 ∧
    ∀ n ∈ (relaxLayer cfg dd.layers dd.next (List.range dd.next.length) lg).1, V dd.depth n.state := by
  have hne : dd.layers ≠ [] := by intro h; rw [h] at hc2; simp at hc2
  have hcur : ∀ p ∈ List.range dd.next.length, p < dd.next.length := fun p hp => List.mem_range.mp hp
  have hpost := relaxLayer_spec cfg dd.layers dd.next (List.range dd.next.length) lg hW hc1 hcur
  have hB' : 0 ≤ B := NoClampRel.nonnegB hB
  have hsrc := src_within hB' hI.rngL
  -- the merged-away states: a non-empty part of the layer, all valid
  have hXne := restStates_ne_nil cfg dd.next (List.range dd.next.length) hW hc1 hcur
  have hXsub : ∀ x ∈ restStatesOf cfg dd.next (List.range dd.next.length), x ∈ dd.next.map (·.state) := by
    intro x hx
    obtain ⟨n0, hn0, rfl⟩ := restStates_sub cfg dd.next _ x hx
    exact List.mem_map_of_mem hn0
  have hXV : ∀ x ∈ restStatesOf cfg dd.next (List.range dd.next.length), V dd.depth x := by
    intro x hx
    obtain ⟨n0, hn0, rfl⟩ := restStates_sub cfg dd.next _ x hx
    exact hI.valid n0 hn0
  have hVm : V dd.depth (mergedOf cfg dd.next (List.range dd.next.length)) := hwf.vmerge dd.depth _ hXne hXV
  have hrel : ∀ s u d c, u ∈ restStatesOf cfg dd.next (List.range dd.next.length) → Within B0 c →
      Within B (cfg.R.relax s u (mergedOf cfg dd.next (List.range dd.next.length)) d c) :=
    fun s u d c hu hc => hB.relax dd.depth _ u s d c hu hXV hc
  refine ⟨⟨?_, ?_, ?_⟩, ?_⟩
  · obtain ⟨u, hu, h, hH, hle⟩ := hI.cover
    obtain ⟨q, hq⟩ := List.mem_iff_getElem?.mp hu
    obtain ⟨q', hq', n', hn', hT⟩ := hpost.transfer q (mem_of_getElem?_range hq) u hq
    refine ⟨q', hq', n', hn', ?_⟩
    rcases hT with ⟨hs, hv⟩ | ⟨hX, hs, harc⟩
    · refine ⟨by rw [hs]; exact hI.valid u hu, h, by rw [hs]; exact hH, by omega, ?_⟩
      intro h1 hH1
      rw [hs] at hH1 ⊢
      exact hwf.att dd.depth _ var u.state h1 hnv hI.validL (List.mem_map_of_mem hu) hH1
    · obtain ⟨a, ha, p, hp, hv⟩ := hI.att hne u hu
      obtain ⟨h', hH', hle'⟩ := hwf.merge dd.depth (restStatesOf cfg dd.next (List.range dd.next.length)) u.state p.state
        a.dec a.cost h hX hXV hH
      have hge := harc a ha p hp
      have hac : Within B0 a.cost := hI.arcs u hu a ha
      have hrc := hrel p.state u.state a.dec a.cost hX hac
      have hsmall : Bd B dd.layers.length ≤ 4611686018427387904 := Bd_small' hB (by omega)
      obtain ⟨ly, hly, hpl⟩ := Cover.getNode_lt hp
      have hw := hI.rngL _ ly hly p (List.mem_of_getElem? hpl)
      have hl := lt_of_getElem?_some hly
      have hbd : Bd B a.fromL + B ≤ Bd B dd.layers.length := by
        rw [← Bd_succ]; exact Bd_mono hB' (by omega)
      have hle0 := hB.le
      have hs2 : Bd B a.fromL + B ≤ 4611686018427387904 := Int.le_trans hbd hsmall
      have e1 : satAdd p.value a.cost = p.value + a.cost :=
        satAdd_of_within hw hac (Int.le_trans (Int.add_le_add_left hle0 _) hs2)
      have e2 : satAdd p.value (cfg.R.relax p.state u.state (mergedOf cfg dd.next (List.range dd.next.length)) a.dec a.cost)
          = p.value + cfg.R.relax p.state u.state (mergedOf cfg dd.next (List.range dd.next.length)) a.dec a.cost :=
        satAdd_of_within hw hrc hs2
      have hH'' : H dd.depth n'.state = some h' := by rw [hs]; exact hH'
      refine ⟨by rw [hs]; exact hVm, h', hH'', ?_, ?_⟩
      · rw [e2] at hge; rw [e1] at hv
        unfold mergedOf at hge
        omega
      · intro h1' hH1
        rw [hs] at hH1 ⊢
        exact hwf.attMerge dd.depth (dd.next.map (·.state)) var _ h1' hnv hI.validL hXne hXsub hH1
  · intro q' _ n' hn' d hd
    rcases relaxLayer_states cfg dd.layers dd.next (List.range dd.next.length) lg q' n' hn' with ⟨n0, hn0, hs⟩ | hs
    · rw [hs] at hd ⊢
      exact hwf.vstep dd.depth _ var n0.state d hnv hI.validL (List.mem_map_of_mem hn0) hd
    · rw [hs] at hd ⊢
      exact hwf.vstepMerge dd.depth (dd.next.map (·.state)) var _ d hnv hI.validL hXne hXsub hd
  · exact relaxLayer_range' cfg dd.layers dd.next (List.range dd.next.length) lg hW hc1 hcur List.nodup_range
      B0 B (Bd B dd.layers.length) hsrc hrel (Bd_nonneg hB' _)
      ⟨fun n hn => ⟨hI.rngN n hn, hI.arcs n hn⟩, fun q _ u hu => by
        obtain ⟨a, ha, p, hp, _⟩ := hI.att hne u (List.mem_of_getElem? hu)
        exact ⟨a, ha, p, hp⟩⟩
  · intro n' hn'
    obtain ⟨q', hq'⟩ := List.mem_iff_getElem?.mp hn'
    rcases relaxLayer_states cfg dd.layers dd.next (List.range dd.next.length) lg q' n' hq' with ⟨n0, hn0, hs⟩ | hs
    · rw [hs]; exact hI.valid n0 hn0
    · rw [hs]; exact hVm

structure Hyp' (cfg : Cfg S K) (H : Nat → S → EInt) (V : Nat → S → Prop) (B0 B o : Int) : Prop where
  rel : cfg.ctype = .relaxed
  cache : cfg.useCache = false
  dom : cfg.dom = none
  W : 1 ≤ cfg.width
  wf : WfRelV cfg.P cfg.R H V
  B : NoClampRel cfg.P cfg.R V cfg.root.value B0 B
  clamp : ∀ x, o ≤ x → clamp x > cfg.lb

theorem stepLayer_inv' (cfg : Cfg S K) (H : Nat → S → EInt) (V : Nat → S → Prop) (B0 B o : Int)
    (hy : Hyp' cfg H V B0 B o) (dd : DD S K) (var : Nat)
    (hnv : cfg.P.nextVar dd.depth (dd.next.map (·.state)) = some var)
    (hlen : dd.layers.length ≤ cfg.P.nbVars) (hI : Inv' H V B0 B o dd) :
    ∃ dd', stepLayer cfg dd var = (some dd', .ok) ∧ Inv' H V B0 B o dd' ∧
      dd'.layers.length = dd.layers.length + 1 := by
  have hne : dd.next ≠ [] := by
    obtain ⟨n, hn, _⟩ := hI.cover
    exact List.ne_nil_of_mem hn
  have key : ∃ sq, squash cfg dd dd.next (List.range dd.next.length) = some sq ∧
      SqPost cfg H V B o dd var sq.1 sq.2.1 ∧ ∀ n ∈ sq.1, V dd.depth n.state := by
    rcases Bounds.squash_cases cfg dd dd.next (List.range dd.next.length) hy.rel hy.W with ⟨_, hsq⟩ | ⟨c1, c2, hsq⟩
    · exact ⟨_, hsq, sqpost_id' cfg H V B0 B o dd var hy.wf hnv hI⟩
    · exact ⟨_, hsq, sqpost_relax' cfg H V B0 B o dd var dd.log hy.wf hy.B hy.W hnv hlen c1 c2 hI⟩
  obtain ⟨sq, hsq, hpost, hval⟩ := key
  obtain ⟨dd', hst, hl, hn, hd, _⟩ := stepLayer_ok cfg dd var hne hy.cache hy.dom sq hsq
  refine ⟨dd', hst, expand_inv' cfg H V B0 B o dd dd' var sq.1 sq.2.1 sq.2.2.1 hy.wf.rub hy.B.le ?_
    (by rw [← Bd_succ]; exact Bd_small' hy.B (by omega)) hy.clamp hI hpost hl hn hd, ?_⟩
  · intro sv hsv d hdm
    obtain ⟨n, hn, rfl⟩ := List.mem_map.mp hsv
    exact hy.B.cost dd.depth _ var n.state d hnv hI.validL (hval n hn) hdm
  rw [hl, List.length_append, List.length_singleton]

theorem Inv'.congr {H : Nat → S → EInt} {V : Nat → S → Prop} {B0 B o : Int} {dd dd' : DD S K} (h : Inv' H V B0 B o dd)
    (h1 : dd'.layers = dd.layers) (h2 : dd'.next = dd.next) (h3 : dd'.depth = dd.depth) : Inv' H V B0 B o dd' := by
  obtain ⟨v, a, b, c, d, e⟩ := h
  constructor
  · rw [h2, h3]; exact v
  · rw [h2, h3]; exact a
  · rw [h1, h2]; exact b
  · rw [h2]; exact c
  · rw [h1, h2]; exact d
  · rw [h1]; exact e

theorem buildLoop_cover' (cfg : Cfg S K) (H : Nat → S → EInt) (V : Nat → S → Prop) (B0 B o : Int)
    (hy : Hyp' cfg H V B0 B o) :
    ∀ (fuel : Nat) (dd : DD S K), Inv' H V B0 B o dd → dd.layers.length + fuel ≤ cfg.P.nbVars + 2 →
      (buildLoop cfg none fuel dd).2 = .ok →
      ∃ n ∈ (buildLoop cfg none fuel dd).1.next, o ≤ n.value := by
  intro fuel dd hI hlen
  refine buildLoop_ok_induct cfg none (fun f dd => Inv' H V B0 B o dd ∧ dd.layers.length + f ≤ cfg.P.nbVars + 2)
    (fun dd => ∃ n ∈ dd.next, o ≤ n.value) ?_ ?_ ?_ fuel dd ⟨hI, hlen⟩
  · intro f dd ⟨hI, _⟩ hnv
    obtain ⟨n, hn, h, hH, hle⟩ := hI.cover
    have := hy.wf.term dd.depth _ n.state h hnv hI.validL (List.mem_map_of_mem hn) hH
    exact ⟨n, hn, by omega⟩
  · intro f dd var ⟨hI, _⟩ _ hne
    obtain ⟨n, hn, _⟩ := hI.cover
    rw [hne] at hn; cases hn
  · intro f dd var dd' ⟨hI, hlen⟩ hnv _ hst
    obtain ⟨dd'', hst', hI', hl'⟩ := stepLayer_inv' cfg H V B0 B o hy (Truth.tick dd var) var hnv
      (by show dd.layers.length ≤ _; omega) (hI.congr rfl rfl rfl)
    rw [hst] at hst'; cases hst'
    exact ⟨hI', by rw [hl']; show dd.layers.length + 1 + (f + 1) ≤ _; omega⟩

theorem init_inv' (cfg : Cfg S K) (H : Nat → S → EInt) (V : Nat → S → Prop) (B0 B o : Int) (cache : Cache S)
    (store : DomStore S K) (polls : Nat) (hV : V cfg.root.depth cfg.root.state)
    (hB : NoClampRel cfg.P cfg.R V cfg.root.value B0 B) (ho : optOf H cfg.root = some o) :
    Inv' H V B0 B o (initDD cfg cache store polls) := by
  unfold optOf EInt.addI at ho
  cases hH : H cfg.root.depth cfg.root.state with
  | none => rw [hH] at ho; cases ho
  | some h0 =>
    rw [hH] at ho
    simp only [Option.map_some, Option.some.injEq] at ho
    constructor
    · intro n hn
      simp only [initDD, List.mem_cons, List.not_mem_nil, or_false] at hn
      subst hn
      exact hV
    · refine ⟨_, List.mem_cons_self, h0, hH, ?_⟩
      show o ≤ cfg.root.value + h0
      omega
    · intro h; exact absurd rfl h
    · intro n hn a ha
      simp only [initDD, List.mem_cons, List.not_mem_nil, or_false] at hn
      subst hn; cases ha
    · intro n hn
      simp only [initDD, List.mem_cons, List.not_mem_nil, or_false] at hn
      subst hn
      have := hB.root
      simp only [initDD, List.length_nil, Bd, Within]
      omega
    · intro i ly hi
      simp [initDD] at hi

/-- **C06 relative to valid layers**: under `WfRelV` / `NoClampRel`, a relaxed compilation (no cache, no dominance) that
    returns `.ok` reports a best value `≥` the optimum `o` of the sub-problem, when `o` beats the incumbent `cfg.lb`. -/
theorem relaxed_ub_rel_valid
    (cfg : Cfg S K) (H : Nat → S → EInt) (V : Nat → S → Prop) (B0 B : Int)
    (cache : Cache S) (store : DomStore S K) (polls : Nat)
    (hrel : cfg.ctype = .relaxed) (hcache : cfg.useCache = false) (hdom : cfg.dom = none) (hW : 1 ≤ cfg.width)
    (hwf : WfRelV cfg.P cfg.R H V) (hV : V cfg.root.depth cfg.root.state)
    (hB : NoClampRel cfg.P cfg.R V cfg.root.value B0 B) (hlb : InI cfg.lb)
    (o : Int) (ho : optOf H cfg.root = some o) (hgt : o > cfg.lb)
    (hO : o ≤ iMax ∨ cfg.lb < iMax) :
    (compile cfg cache store polls none).1 = .ok →
    ∃ bv, (compile cfg cache store polls none).2.1.bestValue = some bv ∧ o ≤ bv := by
  intro hok
  have hy : Hyp' cfg H V B0 B o := ⟨hrel, hcache, hdom, hW, hwf, hB, Truth.clamp_gt hlb hgt hO⟩
  obtain ⟨hbl, hbv⟩ := Cover.compile_ok cfg cache store polls hok
  obtain ⟨n, hn, hle⟩ := buildLoop_cover' cfg H V B0 B o hy (cfg.P.nbVars + 2) (initDD cfg cache store polls)
    (init_inv' cfg H V B0 B o cache store polls hV hB ho) (Nat.le_of_eq (Nat.zero_add _)) hbl
  have hne : (buildLoop cfg none (cfg.P.nbVars + 2) (initDD cfg cache store polls)).1.next ≠ [] :=
    List.ne_nil_of_mem hn
  obtain ⟨bv, h1, h2⟩ := maxValue_ge _ n hn
  refine ⟨bv, ?_, by omega⟩
  rw [hbv]
  unfold Built.bestValue
  rw [terminals_finalize _ hne]
  exact h1

end Ddo.CoverRel

section Axioms
#print axioms Ddo.CoverRel.relaxed_ub_rel_valid
end Axioms
