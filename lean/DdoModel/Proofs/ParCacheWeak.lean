import DdoModel.Proofs.ParCacheExecTools
import DdoModel.Proofs.ParCacheCoverStep
/-! # `CompC` alone — the contract of the SEQUENTIAL caching solver — does not suffice for the PARALLEL system

`Proofs/ParCacheCoverStep.lean` proves the abstract parallel system with the threshold cache (`KStep`) correct under the
contracts `OkRc` / `OkXc` = `CompK` = the sequential contract `CompC` **plus** `ThetaStrict` plus `fresh1`.  This file shows
that the extra part is needed: there is a run of `KStep 3 false okRw okXw`, every compilation of which satisfies `CompC`
(relative to the virtual cache it presents and the incumbent it read) — i.e. everything the sequential proof asks — that
reaches `Complete` with the incumbent `iMin` although the optimum is `10`.

Scenario (`S = Nat`, 3 variables, potential `Hw` = 10 on the five cells used): the root `R` branches into `A` (state 1) and
`B` (state 2) of depth 1; two workers compile them concurrently; `A` hands out `CA` (state 3, depth 2), `B` hands out `CB`
(state 4, depth 2); **each records, besides the honest threshold `(own cell, 0, explored = false)`, the threshold
`(cell of the OTHER worker's cut-set node, 0, explored = true)`**, "justified" (field `CompC.theta`: `u.2.1 ≤ c.depth`) by
its own cut-set node, which sits at the same depth, has the same potential — and another state.  `ThetaStrict` forbids
exactly that.  After both have written, both cells hold `(0, true)`; `CA` and `CB` are refused by `must_explore` at pop;
the fringe is empty; `Complete` (`completes`; the statement is `compC_alone_insufficient`). -/
set_option linter.unusedSectionVars false
set_option linter.unusedVariables false
namespace Ddo.ParCache.Weak
open Ddo Ddo.C09 Ddo.ParSys Ddo.Closed Ddo.ParCache

def Hw : Nat → Nat → EInt
  | 0, 0 => some 10
  | 1, 1 => some 10
  | 1, 2 => some 10
  | 2, 3 => some 10
  | 2, 4 => some 10
  | _, _ => none

def Solw : List Dec → Int → Prop := fun _ _ => False
def Rgw : Nat → Int → Prop := fun _ _ => True

def prob : Problem Nat :=
  { nbVars := 3, init := 0, initVal := 0, trans := fun s _ => s, cost := fun _ _ _ => 0, nextVar := fun _ _ => none,
    domain := fun _ _ => [], impacted := fun _ _ => false }

def nA : SubP Nat := ⟨1, 0, [], 10, 1⟩
def nB : SubP Nat := ⟨2, 0, [], 10, 1⟩
def nCA : SubP Nat := ⟨3, 0, [], 10, 2⟩
def nCB : SubP Nat := ⟨4, 0, [], 10, 2⟩

def r0 : DDOut Nat := ⟨false, none, none, []⟩
def xR : DDOut Nat := ⟨false, none, none, [nA, nB]⟩
def xA : DDOut Nat := ⟨false, none, none, [nCA]⟩
def xB : DDOut Nat := ⟨false, none, none, [nCB]⟩
def upsA : List (Up Nat) := [(3, 2, 0, false), (4, 2, 0, true)]
def upsB : List (Up Nat) := [(4, 2, 0, false), (3, 2, 0, true)]

/-- the contract of a restricted compilation, as `OkRc` with `CompC` in the place of `CompK` -/
def okRw (n : SubP Nat) (lb : Int) (cv : Cache Nat) (o : DDOut Nat) (ups : List (Up Nat)) : Prop :=
  (∀ w, o.bestExact = some w → ∃ p, o.bestExactSol = some p ∧ Solw p w ∧ w ≤ 10) ∧
  (o.isExact = true → CompC Hw 10 Solw Rgw n lb (viewOf cv) o ups (Theta.bkOf lb o.bestExact)) ∧
  (o.isExact = false → ups = [])

/-- the contract of a relaxed compilation: **exactly the sequential contract `CompC`** -/
def okXw (n : SubP Nat) (lb : Int) (cv : Cache Nat) (o : DDOut Nat) (ups : List (Up Nat)) : Prop :=
  CompC Hw 10 Solw Rgw n lb (viewOf cv) o ups (Theta.bkOf lb o.bestExact)

theorem okRw_r0 (n : SubP Nat) (lb : Int) (cv : Cache Nat) : okRw n lb cv r0 [] :=
  ⟨(fun w h => by cases h), (fun h => by cases h), fun _ => rfl⟩

theorem compC_xR (n : SubP Nat) (hs : n.state = 0) (hd : n.depth = 0) (hv : n.value = 0) (lb : Int) (T : CView Nat)
    (h1 : T 1 1 = none) (h2 : T 2 1 = none) : CompC Hw 10 Solw Rgw n lb T xR [] lb := by
  obtain ⟨st, v, p, ub, d⟩ := n
  simp only at hs hd hv
  subst hs hd hv
  have hmem : ∀ c ∈ xR.cutset, c = nA ∨ c = nB := by
    intro c hc
    simpa [xR] using hc
  have hopt : ∀ c ∈ xR.cutset, optOf Hw c = some 10 := by
    intro c hc
    rcases hmem c hc with rfl | rfl <;> rfl
  refine ⟨(fun w h => by cases h), (fun h => by cases h), (fun h => by cases h), ?_, ?_, ?_, fun _ _ => True.intro, ?_, ?_, ?_, ?_⟩
  · intro _ x hx hgt
    have e : (10 : Int) = x := Option.some.inj hx
    exact .inl ⟨nA, by simp [xR], 10, rfl, by omega⟩
  · intro u hu; cases hu
  · intro c hc x hx
    rw [hopt c hc] at hx
    have e : (10 : Int) = x := Option.some.inj hx
    omega
  · intro c hc y hy
    rw [hopt c hc] at hy
    have e : (10 : Int) = y := Option.some.inj hy
    exact ⟨10, rfl, by omega⟩
  · intro c hc
    rcases hmem c hc with rfl | rfl <;> exact Nat.zero_lt_one
  · intro c hc y hy hgt
    rw [hopt c hc] at hy
    have e : (10 : Int) = y := Option.some.inj hy
    refine .inl ?_
    rcases hmem c hc with rfl | rfl <;> (subst e; decide)
  · intro c hc _ hp
    obtain ⟨t, ht, _⟩ := hp
    have ht : T c.state c.depth = some t := ht
    rcases hmem c hc with rfl | rfl
    · rw [show T nA.state nA.depth = T 1 1 from rfl, h1] at ht; cases ht
    · rw [show T nB.state nB.depth = T 2 1 from rfl, h2] at ht; cases ht

/-- the relaxed answer for a node of state `sn`, depth 1, value 0 whose cut-set is the single node `cn` of state `sc`, depth
    2, and which records `(sc, 2, 0, false)` and `(so, 2, 0, true)` for ANOTHER state `so` of the same potential -/
theorem compC_mid (n : SubP Nat) (sn sc so : Nat) (hn : Hw 1 sn = some 10) (hc : Hw 2 sc = some 10) (ho : Hw 2 so = some 10)
    (hne : so ≠ sc) (hs : n.state = sn) (hd : n.depth = 1) (hv : n.value = 0) (lb : Int) (T : CView Nat)
    (h3 : T sc 2 = none) :
    CompC Hw 10 Solw Rgw n lb T ⟨false, none, none, [⟨sc, 0, [], 10, 2⟩]⟩ [(sc, 2, 0, false), (so, 2, 0, true)] lb := by
  obtain ⟨st, v, p, ub, d⟩ := n
  simp only at hs hd hv
  subst hs hd hv
  have hoN : optOf Hw (⟨st, 0, p, ub, 1⟩ : SubP Nat) = some 10 := by
    show (Hw 1 st).addI 0 = some 10
    rw [hn]; rfl
  have hoC : optOf Hw (⟨sc, 0, [], 10, 2⟩ : SubP Nat) = some 10 := by
    show (Hw 2 sc).addI 0 = some 10
    rw [hc]; rfl
  have hmem : ∀ c ∈ [(⟨sc, 0, [], 10, 2⟩ : SubP Nat)], c = ⟨sc, 0, [], 10, 2⟩ := by
    intro c hc
    simpa using hc
  refine ⟨(fun w h => by cases h), (fun h => by cases h), (fun h => by cases h), ?_, ?_, ?_, fun _ _ => True.intro, ?_, ?_, ?_, ?_⟩
  · intro _ x hx hgt
    rw [hoN] at hx
    have e : (10 : Int) = x := Option.some.inj hx
    exact .inl ⟨_, List.mem_cons_self, 10, hoC, by omega⟩
  · intro u hu w h hr hw hH
    have hu' : u = (sc, 2, 0, false) ∨ u = (so, 2, 0, true) := by simpa using hu
    refine .inr (.inl ⟨_, List.mem_cons_self, ?_, 10, hoC, ?_⟩)
    · rcases hu' with rfl | rfl <;> exact Nat.le_refl 2
    · rcases hu' with rfl | rfl
      · have hw : w ≤ 0 := hw
        have hH : Hw 2 sc = some h := hH
        rw [hc] at hH
        have e : (10 : Int) = h := Option.some.inj hH
        omega
      · have hw : w ≤ 0 := hw
        have hH : Hw 2 so = some h := hH
        rw [ho] at hH
        have e : (10 : Int) = h := Option.some.inj hH
        omega
  · intro c hc x hx
    rw [hmem c hc, hoC] at hx
    have e : (10 : Int) = x := Option.some.inj hx
    omega
  · intro c hc y hy
    rw [hmem c hc, hoC] at hy
    have e : (10 : Int) = y := Option.some.inj hy
    exact ⟨10, hoN, by omega⟩
  · intro c hc
    rw [hmem c hc]; exact Nat.lt_succ_self 1
  · intro c hc y hy hgt
    rw [hmem c hc, hoC] at hy
    have e : (10 : Int) = y := Option.some.inj hy
    refine .inl ?_
    rw [hmem c hc]
    show y ≤ 10
    omega
  · intro c hc _ hp
    rw [hmem c hc] at hp
    obtain ⟨t, ht, hcond⟩ := hp
    have ht : (T.upds [(sc, 2, 0, false), (so, 2, 0, true)]) sc 2 = some t := ht
    have hcond : (0 : Int) < t.value ∨ ((0 : Int) = t.value ∧ t.explored = true) := hcond
    rcases upds_get _ T sc 2 t ht with h | ⟨u, hu, hus, hud, rfl⟩
    · rw [h3] at h; cases h
    · have hu' : u = (sc, 2, 0, false) ∨ u = (so, 2, 0, true) := by simpa using hu
      rcases hu' with rfl | rfl
      · rcases hcond with h | ⟨_, h⟩
        · have h : (0 : Int) < 0 := h
          omega
        · cases h
      · exact hne hus

theorem compC_xA (n : SubP Nat) (hs : n.state = 1) (hd : n.depth = 1) (hv : n.value = 0) (lb : Int) (T : CView Nat)
    (h3 : T 3 2 = none) : CompC Hw 10 Solw Rgw n lb T xA upsA lb :=
  compC_mid n 1 3 4 rfl rfl rfl (by decide) hs hd hv lb T h3

theorem compC_xB (n : SubP Nat) (hs : n.state = 2) (hd : n.depth = 1) (hv : n.value = 0) (lb : Int) (T : CView Nat)
    (h4 : T 4 2 = none) : CompC Hw 10 Solw Rgw n lb T xB upsB lb :=
  compC_mid n 2 4 3 rfl rfl rfl (by decide) hs hd hv lb T h4

/-- **the answer of `A` violates the strict threshold contract** (for every virtual cache without deeper entries — in
    particular the empty one — and every incumbent below the optimum) -/
theorem not_thetaStrict_xA (lb : Int) (hlb : lb < 10) : ¬ ThetaStrict Hw Rgw (fun _ _ => none) xA upsA (Theta.bkOf lb xA.bestExact) := by
  intro h
  rcases h (4, 2, 0, true) (by simp [upsA]) 0 10 True.intro (Int.le_refl _) rfl with a | ⟨c, hc, hd, _⟩ | ⟨s, d', t, v, hh, hT, _⟩
  · have a : (0 : Int) + 10 ≤ lb := a
    omega
  · have hc : c = nCA := by simpa [xA] using hc
    subst hc
    rcases hd with hd | ⟨_, hd⟩
    · exact absurd hd (by decide)
    · exact absurd hd (by decide)
  · cases hT

/-- the canned relaxed answer -/
def ansX (n : SubP Nat) : Option (DDOut Nat × List (Up Nat)) :=
  if n.state = 0 ∧ n.depth = 0 ∧ n.value = 0 then some (xR, [])
  else if n.state = 1 ∧ n.depth = 1 ∧ n.value = 0 then some (xA, upsA)
  else if n.state = 2 ∧ n.depth = 1 ∧ n.value = 0 then some (xB, upsB)
  else none

/-- the virtual cache has no entry on the cells of the cut-set nodes handed out -/
def cellsFree (cv : Cache Nat) (o : DDOut Nat) : Bool := o.cutset.all (fun c => decide (viewOf cv c.state c.depth = none))

theorem ansX_ok (n : SubP Nat) (lb : Int) (cv : Cache Nat) (o : DDOut Nat) (ups : List (Up Nat))
    (ha : ansX n = some (o, ups)) (hf : cellsFree cv o = true) : okXw n lb cv o ups := by
  unfold ansX at ha
  unfold cellsFree at hf
  rw [List.all_eq_true] at hf
  have hf : ∀ c ∈ o.cutset, viewOf cv c.state c.depth = none := fun c hc => by simpa using hf c hc
  split at ha
  · next h =>
    injection ha with ha; injection ha with ha1 ha2; subst ha1 ha2
    exact compC_xR n h.1 h.2.1 h.2.2 lb _ (hf nA (by simp [xR])) (hf nB (by simp [xR]))
  · split at ha
    · next h =>
      injection ha with ha; injection ha with ha1 ha2; subst ha1 ha2
      exact compC_xA n h.1 h.2.1 h.2.2 lb _ (hf nCA (by simp [xA]))
    · split at ha
      · next h =>
        injection ha with ha; injection ha with ha1 ha2; subst ha1 ha2
        exact compC_xB n h.1 h.2.1 h.2.2 lb _ (hf nCB (by simp [xB]))
      · cases ha

/-- **the next step of worker `i`**: `nextK` of `Proofs/ParCacheExecTools.lean` with canned answers (`pick`: which admissible snapshot
    of the shared cache a compilation presents) -/
def nextW (pick : Nat) (s : KSys Nat) (i : Nat) : Option (KSys Nat) :=
  match s.ws[i]? with
  | none => none
  | some .idle => if lockFreeB s then some { s with ws := s.ws.set i .gwC } else none
  | some .waiting => none
  | some .done => none
  | some .crashed => none
  | some .gwC =>
    if cleanCond 3 s.crit then
      match s.cache.clearLayer s.crit.base.firstActive with
      | some c' => some { s with crit := bumpFirst s.crit, cache := c', log := c' :: s.log }
      | none => none
    else
      match s.crit.base.fringe with
      | [] =>
        if s.crit.ongoing = 0 then some { s with crit := s.crit.complete, ws := s.ws.set i .done }
        else some { s with ws := s.ws.set i .waiting }
      | _ :: _ => some { s with ws := s.ws.set i .gwP }
  | some .gwP =>
    match popMax s.crit.base.fringe with
    | none => some { s with ws := s.ws.set i .idle }
    | some (N, rest) =>
      if N.ub ≤ s.crit.base.bestLb then some { s with crit := starve s.crit, ws := s.ws.set i .idle }
      else
        match s.cache.mustExplore N.state N.depth N.value with
        | none => none
        | some false =>
          match dropOne s.crit N rest with
          | some c' => some { s with crit := c' }
          | none => none
        | some true => some { s with crit := setFringe s.crit rest, ws := s.ws.set i (.gwW N) }
  | some (.gwW n) =>
    match s.cache.update n.state n.depth ⟨n.value, true⟩ with
    | none => none
    | some c' =>
      match s.crit.take i n with
      | none => none
      | some crit' => some { crit := crit', cache := c', log := c' :: s.log, ws := s.ws.set i (.readR n) }
  | some (.readR n) =>
    if lockFreeB s then
      some { s with ws := s.ws.set i (if n.ub ≤ s.crit.readLb then .fin n else .compR n s.crit.readLb s.log.length) }
    else none
  | some (.compR n lb k0) =>
    match snapshot s k0 pick with
    | none => none
    | some cv => some { s with ws := s.ws.set i (.wrR n lb r0 cv [] []) }
  | some (.wrR n lb o cv ups (u :: todo)) =>
    match s.cache.update u.1 u.2.1 (upThr u) with
    | none => none
    | some c' => some { s with cache := c', log := c' :: s.log, ws := s.ws.set i (.wrR n lb o cv ups todo) }
  | some (.wrR n lb o cv ups []) =>
    if lockFreeB s then
      some { s with crit := s.crit.updateBest o, ws := s.ws.set i (if o.isExact then .fin n else .readX n) }
    else none
  | some (.readX n) =>
    if lockFreeB s then some { s with ws := s.ws.set i (.compX n s.crit.readLb s.log.length) } else none
  | some (.compX n lb k0) =>
    match snapshot s k0 pick with
    | none => none
    | some cv =>
      match ansX n with
      | none => none
      | some (o, ups) => if cellsFree cv o then some { s with ws := s.ws.set i (.wrX n lb o cv ups ups) } else none
  | some (.wrX n lb o cv ups (u :: todo)) =>
    match s.cache.update u.1 u.2.1 (upThr u) with
    | none => none
    | some c' => some { s with cache := c', log := c' :: s.log, ws := s.ws.set i (.wrX n lb o cv ups todo) }
  | some (.wrX n lb o cv ups []) =>
    if lockFreeB s then
      some { s with crit := s.crit.updateBest o, ws := s.ws.set i (if o.isExact then .fin n else .enq n lb o cv ups) }
    else none
  | some (.enq n lb o cv ups) =>
    if lockFreeB s then some { s with crit := s.crit.enqueue false o.cutset, ws := s.ws.set i (.fin n) } else none
  | some (.fin n) =>
    if lockFreeB s then
      match s.crit.notifyFinished i n.depth with
      | some c' => some { s with crit := c', ws := (s.ws.map KW.wake).set i .idle }
      | none => none
    else none

theorem nextW_step {pick : Nat} {s t : KSys Nat} {i : Nat} (h : nextW pick s i = some t) :
    KStep 3 false okRw okXw s t := by
  unfold nextW at h
  split at h
  · cases h
  · next hw =>
    split at h
    · next hl => injection h with h; subst h; exact .gwEnter s i hw ((lockFreeB_iff s).mp hl)
    · cases h
  · cases h
  · cases h
  · cases h
  · next hw =>
    split at h
    · next hc =>
      split at h
      · next c' hcl => injection h with h; subst h; exact .gwClear s i c' hw hc hcl
      · cases h
    · next hc =>
      split at h
      · next hf =>
        split at h
        · next ho => injection h with h; subst h; exact .gwComplete s i hw hc ho hf
        · next ho => injection h with h; subst h; exact .gwWait s i hw hc ho hf
      · next a l hf =>
        injection h with h; subst h
        exact .gwToPop s i hw hc (by rw [hf]; exact List.cons_ne_nil _ _)
  · next hw =>
    split at h
    · next hp =>
      injection h with h; subst h
      exact .gwEmpty s i hw (ParClosed.popMax_none hp)
    · next N rest hp =>
      have hpm := ParClosed.popMax_popMax hp
      split at h
      · next hub => injection h with h; subst h; exact .gwStarve s i N rest hw hpm hub
      · next hub =>
        split at h
        · cases h
        · next hme =>
          split at h
          · next c' hd => injection h with h; subst h; exact .gwDrop s i N rest c' hw hpm hub hme hd
          · cases h
        · next hme => injection h with h; subst h; exact .gwKeep s i N rest hw hpm hub hme
  · next n hw =>
    split at h
    · cases h
    · next c' hu =>
      split at h
      · cases h
      · next crit' ht => injection h with h; subst h; exact .gwTake s i n c' crit' hw hu ht
  · next n hw =>
    split at h
    · next hl => injection h with h; subst h; exact .readLbR s i n hw ((lockFreeB_iff s).mp hl)
    · cases h
  · next n lb k0 hw =>
    split at h
    · cases h
    · next cv hcv =>
      injection h with h; subst h
      exact .compileR s i n lb k0 cv _ _ hw (snapshot_fromLog hcv) (okRw_r0 n lb cv)
  · next n lb o cv ups u todo hw =>
    split at h
    · cases h
    · next c' hu => injection h with h; subst h; exact .writeR s i n lb o cv ups u todo c' hw hu
  · next n lb o cv ups hw =>
    split at h
    · next hl => injection h with h; subst h; exact .updateR s i n lb o cv ups hw ((lockFreeB_iff s).mp hl)
    · cases h
  · next n hw =>
    split at h
    · next hl => injection h with h; subst h; exact .readLbX s i n hw ((lockFreeB_iff s).mp hl)
    · cases h
  · next n lb k0 hw =>
    split at h
    · cases h
    · next cv hcv =>
      split at h
      · cases h
      · next o ups ha =>
        split at h
        · next hf =>
          injection h with h; subst h
          exact .compileX s i n lb k0 cv o ups hw (snapshot_fromLog hcv) (ansX_ok n lb cv o ups ha hf)
        · cases h
  · next n lb o cv ups u todo hw =>
    split at h
    · cases h
    · next c' hu => injection h with h; subst h; exact .writeX s i n lb o cv ups u todo c' hw hu
  · next n lb o cv ups hw =>
    split at h
    · next hl => injection h with h; subst h; exact .updateX s i n lb o cv ups hw ((lockFreeB_iff s).mp hl)
    · cases h
  · next n lb o cv ups hw =>
    split at h
    · next hl => injection h with h; subst h; exact .enqueue s i n lb o cv ups hw ((lockFreeB_iff s).mp hl)
    · cases h
  · next n hw =>
    split at h
    · next hl =>
      split at h
      · next c' hn => injection h with h; subst h; exact .notify s i n c' hw ((lockFreeB_iff s).mp hl) hn
      · cases h
    · cases h

/-- the stepper run along a list of `(worker, pick)` (a step that is not enabled is skipped) -/
def runW : KSys Nat → List (Nat × Nat) → KSys Nat
  | s, [] => s
  | s, (i, pick) :: is =>
    match nextW pick s i with
    | some t => runW t is
    | none => runW s is

theorem runW_run : ∀ (sched : List (Nat × Nat)) (s : KSys Nat), KRun 3 false okRw okXw s (runW s sched) := by
  intro sched
  induction sched with
  | nil => intro s; exact KRun.refl s
  | cons ip is ih =>
    intro s
    obtain ⟨i, pick⟩ := ip
    unfold runW
    cases h : nextW pick s i with
    | none => exact ih s
    | some t => exact KRun.head (nextW_step h) (ih t)

/-- the number of steps of the schedule that are actually taken -/
def takenW : KSys Nat → List (Nat × Nat) → Nat
  | _, [] => 0
  | s, (i, pick) :: is =>
    match nextW pick s i with
    | some t => takenW t is + 1
    | none => takenW s is

def s0 : KSys Nat := KSys.init prob false 2

/-- steps 1–12: worker 0 processes the root (`gwEnter`, `gwToPop`, `gwKeep`, `gwTake`, `readLbR`, `compileR`, `updateR`,
    `readLbX`, `compileX` answering `xR`, `updateX`, `enqueue`, `notify`): the fringe is `{A, B}`.  steps 13–21: worker 0
    enters `get_workload`, clears layer 0, pops and takes `B`, restricted compilation, `readLbX` (`compX`).  steps 22–29:
    worker 1 the same with `A`.  steps 30–31: **both relaxed compilations end** (virtual cache = the current content of the
    shared cache: entries at depth 1 only), answers `xB` / `xA`.  steps 32–35: the four `update_threshold` calls.  steps
    36–41: both `updateX`, `enqueue`, `notify`: the fringe is `{CA, CB}`.  steps 42–47: worker 0 enters `get_workload`,
    clears layer 1, `gwToPop`, **`gwDrop`, `gwDrop`** (`must_explore` refuses both), `gwEmpty`.  steps 48–49: worker 0
    enters `get_workload` again, clears layer 2: `Complete` -/
def sched : List (Nat × Nat) :=
  List.replicate 12 (0, 0) ++ List.replicate 9 (0, 0) ++ List.replicate 8 (1, 0) ++ [(0, 0), (1, 0)] ++
  [(0, 0), (0, 0), (1, 0), (1, 0)] ++ List.replicate 3 (0, 0) ++ List.replicate 3 (1, 0) ++ List.replicate 8 (0, 0)

def at_ (k : Nat) : KSys Nat := runW s0 (sched.take k)

theorem reach (k : Nat) : KRun 3 false okRw okXw s0 (at_ k) := runW_run _ _

/-- what is observed of a worker that has finished a relaxed compilation: the states of its pending cut-set and the
    `update_threshold` calls it still has to issue -/
def pendObs : KW Nat → List Nat × List (Up Nat)
  | .wrX _ _ o _ _ todo => (o.cutset.map (·.state), todo)
  | _ => ([], [])

/-- the run at the steps the statements below speak of, in one evaluation -/
theorem run_obs :
    (sched.length = 49 ∧ takenW s0 sched = 49) ∧
    (ObsIs (at_ 12) (([0, 0], 0, 2), iMin, 2, [1, 0, 0, 0]) ∧ (at_ 12).crit.base.fringe.map (·.state) = [2, 1]) ∧
    (ObsIs (at_ 29) (([11, 11], 2, 0), iMin, 5, [0, 2, 0, 0]) ∧ k0At (at_ 29) 0 = some 4 ∧ k0At (at_ 29) 1 = some 5) ∧
    ObsIs (at_ 31) (([12, 12], 2, 0), iMin, 5, [0, 2, 0, 0]) ∧
    (ObsIs (at_ 41) (([0, 0], 0, 2), iMin, 9, [0, 2, 2, 0]) ∧ (at_ 41).crit.base.fringe.map (·.state) = [3, 4] ∧
      viewOf (at_ 41).cache 3 2 = some ⟨0, true⟩ ∧ viewOf (at_ 41).cache 4 2 = some ⟨0, true⟩ ∧
      (at_ 41).cache.mustExplore 3 2 0 = some false ∧ (at_ 41).cache.mustExplore 4 2 0 = some false) ∧
    (ObsIs (at_ 44) (([5, 0], 0, 2), iMin, 10, [0, 0, 2, 0]) ∧ ObsIs (at_ 46) (([5, 0], 0, 0), iMin, 10, [0, 0, 2, 0]) ∧
      ObsIs (at_ 47) (([0, 0], 0, 0), iMin, 10, [0, 0, 2, 0])) ∧
    (completesAtB 3 (at_ 49) 0 = true ∧ (at_ 49).crit.base.bestLb = iMin) ∧
    (at_ 49).ws.all (fun w => decide (tagK w = 4 ∨ tagK w = 0)) = true := by decide +kernel

theorem all_taken : sched.length = 49 ∧ takenW s0 sched = 49 := run_obs.1

/-- after step 12 worker 0 has branched on the root: `A` and `B` are in the fringe -/
theorem root_obs : obsK (at_ 12) = (([0, 0], 0, 2), iMin, 2, [1, 0, 0, 0]) ∧
    (at_ 12).crit.base.fringe.map (·.state) = [2, 1] := run_obs.2.1

/-- after step 29 both workers are inside their relaxed compilation (`compX`); the shared cache has the two entries of
    depth 1 written by the `take`s and nothing at depth 2 -/
theorem both_compX_obs : obsK (at_ 29) = (([11, 11], 2, 0), iMin, 5, [0, 2, 0, 0]) ∧
    k0At (at_ 29) 0 = some 4 ∧ k0At (at_ 29) 1 = some 5 := run_obs.2.2.1

/-- after step 31 both compilations have ended (`wrX`), nothing is written yet: worker 0 (it took `B`) hands out `CB`
    (state 4) and is about to record `(4, 2, 0, false)`, `(3, 2, 0, true)`; worker 1 (it took `A`) hands out `CA` (state 3)
    and is about to record `(3, 2, 0, false)`, `(4, 2, 0, true)` -/
theorem both_wrX_obs : obsK (at_ 31) = (([12, 12], 2, 0), iMin, 5, [0, 2, 0, 0]) ∧
    (at_ 31).ws.map pendObs = [([4], upsB), ([3], upsA)] := ⟨run_obs.2.2.2.1, by decide +kernel⟩

/-- after step 41 both nodes are acknowledged, `CA` and `CB` are in the fringe — and **both their cells hold `(0, explored =
    true)`**: `must_explore` will refuse both -/
theorem poisoned_obs : obsK (at_ 41) = (([0, 0], 0, 2), iMin, 9, [0, 2, 2, 0]) ∧
    (at_ 41).crit.base.fringe.map (·.state) = [3, 4] ∧
    viewOf (at_ 41).cache 3 2 = some ⟨0, true⟩ ∧ viewOf (at_ 41).cache 4 2 = some ⟨0, true⟩ ∧
    (at_ 41).cache.mustExplore 3 2 0 = some false ∧ (at_ 41).cache.mustExplore 4 2 0 = some false := run_obs.2.2.2.2.1

/-- steps 45 and 46 are the two `gwDrop`s, step 47 is `gwEmpty` -/
theorem drop_obs : obsK (at_ 44) = (([5, 0], 0, 2), iMin, 10, [0, 0, 2, 0]) ∧ obsK (at_ 46) = (([5, 0], 0, 0), iMin, 10, [0, 0, 2, 0]) ∧
    obsK (at_ 47) = (([0, 0], 0, 0), iMin, 10, [0, 0, 2, 0]) := run_obs.2.2.2.2.2.1

/-- after step 49 `get_workload` answers `Complete` to worker 0; the incumbent is still `iMin` -/
theorem completes : CompletesAt 3 (at_ 49) 0 ∧ (at_ 49).crit.base.bestLb = iMin :=
  ⟨completesAtB_sound run_obs.2.2.2.2.2.2.1.1, run_obs.2.2.2.2.2.2.1.2⟩

theorem root_opt : optOf Hw (rootOf prob) = some 10 := rfl

theorem init_inv : KPInv Hw 10 Solw Rgw s0 :=
  init_kpinv Hw 10 Solw Rgw prob false 2
    (fun x hx => by have e : (10 : Int) = x := Option.some.inj hx; omega) (by decide) (by decide) True.intro rfl

/-- the weak contracts are the strong ones (`OkRc` / `OkXc`, under which `kstep_kpinv` holds) minus `ThetaStrict` and
    `fresh1` -/
theorem okXw_of_OkXc {n : SubP Nat} {lb : Int} {cv : Cache Nat} {o : DDOut Nat} {ups : List (Up Nat)}
    (h : OkXc Hw 10 Solw Rgw n lb cv o ups) : okXw n lb cv o ups := h.c

theorem okRw_of_OkRc {n : SubP Nat} {lb : Int} {cv : Cache Nat} {o : DDOut Nat} {ups : List (Up Nat)}
    (h : OkRc Hw 10 Solw Rgw n lb cv o ups) : okRw n lb cv o ups := ⟨h.1, fun he => (h.2.1 he).c, h.2.2⟩

theorem okXw_iff (n : SubP Nat) (lb : Int) (cv : Cache Nat) (o : DDOut Nat) (ups : List (Up Nat)) :
    okXw n lb cv o ups ↔ CompC Hw 10 Solw Rgw n lb (viewOf cv) o ups (Theta.bkOf lb o.bestExact) := Iff.rfl

theorem quiet_of_tag (w : KW Nat) (h : tagK w = 4 ∨ tagK w = 0) :
    w.openNode = none ∧ w.pendVal = none ∧ w.pendCut = [] := by
  cases w <;> simp_all [tagK, KW.openNode, KW.pendVal, KW.pendCut]

/-- **the invariant of the correctness proof is lost along the run** (it holds initially: `init_inv`) -/
theorem final_not_inv : ¬ KPInv Hw 10 Solw Rgw (at_ 49) := by
  intro hI
  have hq : ∀ w ∈ (at_ 49).ws, w.openNode = none ∧ w.pendVal = none ∧ w.pendCut = [] := by
    have hb := run_obs.2.2.2.2.2.2.2
    rw [List.all_eq_true] at hb
    intro w hw
    exact quiet_of_tag w (by simpa using hb w hw)
  have h := (complete_opt Hw 10 Solw Rgw hI completes.1 hq).1
  rw [completes.2] at h
  exact absurd h (by decide)

theorem init_eq (P : Problem Nat) (hn : P.nbVars = 3) (hi : P.init = 0) (hv : P.initVal = 0) : KSys.init P false 2 = s0 := by
  obtain ⟨nb, i0, v0, _, _, _, _, _⟩ := P
  simp only at hn hi hv
  subst hn hi hv
  rfl

theorem rootOf_eq (P : Problem Nat) (hi : P.init = 0) (hv : P.initVal = 0) : rootOf P = rootOf prob := by
  obtain ⟨nb, i0, v0, _, _, _, _, _⟩ := P
  simp only at hi hv
  subst hi hv
  rfl

/-- **`CompC` alone does not suffice for the parallel system.**  For every problem with 3 variables, initial state 0 and
    initial value 0: the potential `Hw` makes 10 the optimum (attained by the root), the initial state satisfies the
    invariant `KPInv` of the correctness proof — and a run of the abstract system in which every restricted compilation
    satisfies `okRw` (= `OkRc` with `CompC` for `CompK`) and every relaxed compilation satisfies `okXw` = `CompC` (relative
    to the virtual cache it presents, an admissible snapshot of the shared cache, and to the incumbent it read) reaches
    `Complete` with the incumbent `iMin < 10`; the final state does not satisfy `KPInv`. -/
theorem compC_alone_insufficient (P : Problem Nat) (hn : P.nbVars = 3) (hi : P.init = 0) (hv : P.initVal = 0) :
    optOf Hw (rootOf P) = some 10 ∧ KPInv Hw 10 Solw Rgw (KSys.init P false 2) ∧
    (∀ n lb cv o ups, okXw n lb cv o ups ↔ CompC Hw 10 Solw Rgw n lb (viewOf cv) o ups (Theta.bkOf lb o.bestExact)) ∧
    ∃ t : KSys Nat, KRun 3 false okRw okXw (KSys.init P false 2) t ∧ CompletesAt 3 t 0 ∧ t.crit.base.bestLb < 10 ∧
      ¬ KPInv Hw 10 Solw Rgw t := by
  rw [init_eq P hn hi hv, rootOf_eq P hi hv]
  refine ⟨root_opt, init_inv, okXw_iff, at_ 49, reach 49, completes.1, ?_, final_not_inv⟩
  rw [completes.2]; decide

end Ddo.ParCache.Weak

#print axioms Ddo.ParCache.Weak.compC_xR
#print axioms Ddo.ParCache.Weak.compC_xA
#print axioms Ddo.ParCache.Weak.compC_xB
#print axioms Ddo.ParCache.Weak.not_thetaStrict_xA
#print axioms Ddo.ParCache.Weak.nextW_step
#print axioms Ddo.ParCache.Weak.runW_run
#print axioms Ddo.ParCache.Weak.all_taken
#print axioms Ddo.ParCache.Weak.root_obs
#print axioms Ddo.ParCache.Weak.both_compX_obs
#print axioms Ddo.ParCache.Weak.both_wrX_obs
#print axioms Ddo.ParCache.Weak.poisoned_obs
#print axioms Ddo.ParCache.Weak.drop_obs
#print axioms Ddo.ParCache.Weak.completes
#print axioms Ddo.ParCache.Weak.root_opt
#print axioms Ddo.ParCache.Weak.init_inv
#print axioms Ddo.ParCache.Weak.okXw_of_OkXc
#print axioms Ddo.ParCache.Weak.okRw_of_OkRc
#print axioms Ddo.ParCache.Weak.final_not_inv
#print axioms Ddo.ParCache.Weak.compC_alone_insufficient
