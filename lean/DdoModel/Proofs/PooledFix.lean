import DdoModel.Proofs.PooledBounds
import DdoModel.Proofs.PooledTruth
import DdoModel.Proofs.PooledProgress
/-! # The repair of D5: the root of a pooled diagram never stands in its own cut-set

`finalizePOld` / `compilePOld` model `pooled.rs` before the repair, `finalizeP` / `compileP` the repaired code: the top-down
build is the same (it records the arcs that leave the root when it is expanded, `PD.rootKids` — `root_edges` in the Rust
code), and when the frontier contains the root (the only node of the layer of index 0), `_drain_cutset` hands out the
children of the root — exact state, value `root.value ⊕ cost`, path `root path ++ [decision]`, depth `root depth + 1`, the
bound of the root — instead of the root.  Every theorem about the old cut-set is reused at the level of `finalizePOld`; what is new
is `KInv` (what `rootKids` holds: exactly the transitions of the model out of the root state on the variable the root was expanded
with) and the new cut-set in terms of the old one (`finalizeP_cutset_cases`).  With them the four clauses of C08 hold for the
repaired `compileP`, long arcs allowed — (ii), `cutset_progress_pooled`, without any structural hypothesis. -/
set_option linter.unusedSectionVars false
set_option linter.unusedVariables false
namespace Ddo.PFix
open Ddo Ddo.Pooled Ddo.PProgress Ddo.PBounds Ddo.Bounds
variable {S K : Type} [DecidableEq S] [DecidableEq K]

theorem mem_kidsOf {pool : List (Node S)} {kid : S × Dec × Int} :
    kid ∈ kidsOf pool ↔ ∃ m ∈ pool, ∃ b ∈ m.inb, kid = (m.state, b.dec, b.cost) := by
  unfold kidsOf
  rw [List.mem_flatMap]
  constructor
  · rintro ⟨m, hm, h⟩
    obtain ⟨b, hb, rfl⟩ := List.mem_map.1 h
    exact ⟨m, hm, b, hb, rfl⟩
  · rintro ⟨m, hm, b, hb, rfl⟩
    exact ⟨m, hm, List.mem_map.2 ⟨b, hb, rfl⟩⟩

theorem go_kids (parent : Node S) (dst : S) (c : Int) (a : Arc) :
    ∀ nx : List (Node S), (∀ kid ∈ kidsOf nx, kid ∈ kidsOf (branchOn.go parent dst c a nx)) ∧
      (dst, a.dec, a.cost) ∈ kidsOf (branchOn.go parent dst c a nx) := by
  intro nx
  induction nx with
  | nil =>
    refine ⟨fun kid hk => ?_, ?_⟩
    · simp [kidsOf] at hk
    · rw [Cover.go_nil]
      exact mem_kidsOf.2 ⟨_, List.mem_singleton.2 rfl, a, by rw [Cover.appendEdge_inb]; exact List.mem_cons_self,
        by rw [Cover.appendEdge_state]; rfl⟩
  | cons n r ih =>
    rw [Cover.go_cons]
    split
    · rename_i hst
      refine ⟨fun kid hk => ?_, ?_⟩
      · obtain ⟨m, hm, b, hb, rfl⟩ := mem_kidsOf.1 hk
        rcases List.mem_cons.1 hm with hm | hm
        · subst hm
          exact mem_kidsOf.2 ⟨_, List.mem_cons_self, b, by rw [Cover.appendEdge_inb]; exact List.mem_cons_of_mem _ hb,
            by rw [Cover.appendEdge_state]⟩
        · exact mem_kidsOf.2 ⟨m, List.mem_cons_of_mem _ hm, b, hb, rfl⟩
      · exact mem_kidsOf.2 ⟨_, List.mem_cons_self, a, by rw [Cover.appendEdge_inb]; exact List.mem_cons_self,
          by rw [Cover.appendEdge_state, hst]⟩
    · refine ⟨fun kid hk => ?_, ?_⟩
      · obtain ⟨m, hm, b, hb, rfl⟩ := mem_kidsOf.1 hk
        rcases List.mem_cons.1 hm with hm | hm
        · subst hm; exact mem_kidsOf.2 ⟨_, List.mem_cons_self, b, hb, rfl⟩
        · obtain ⟨m', hm', b', hb', e⟩ := mem_kidsOf.1 (ih.1 _ (mem_kidsOf.2 ⟨m, hm, b, hb, rfl⟩))
          exact mem_kidsOf.2 ⟨m', List.mem_cons_of_mem _ hm', b', hb', e⟩
      · obtain ⟨m', hm', b', hb', e⟩ := mem_kidsOf.1 ih.2
        exact mem_kidsOf.2 ⟨m', List.mem_cons_of_mem _ hm', b', hb', e⟩

/-- the triple of the model for the decision `v` on `var` in state `s` -/
def mkKid (cfg : Cfg S K) (s : S) (var : Nat) (v : Int) : S × Dec × Int :=
  (cfg.P.trans s ⟨var, v⟩, ⟨var, v⟩, cfg.P.cost s (cfg.P.trans s ⟨var, v⟩) ⟨var, v⟩)

theorem branchAll_kids (cfg : Cfg S K) (var lidx p : Nat) (n' : Node S) :
    ∀ (ds : List Int) (acc : List (Node S) × List (Call S)),
      (∀ kid ∈ kidsOf acc.1, kid ∈ kidsOf (Cover.branchAll cfg var lidx p n' ds acc).1) ∧
      ∀ d ∈ ds, mkKid cfg n'.state var d ∈ kidsOf (Cover.branchAll cfg var lidx p n' ds acc).1 := by
  intro ds
  induction ds with
  | nil => intro acc; exact ⟨fun kid h => h, fun d hd => by cases hd⟩
  | cons d ds ih =>
    intro acc
    obtain ⟨nx, lg⟩ := acc
    rw [Cover.branchAll_cons]
    obtain ⟨h1, h2⟩ := ih (branchOn cfg n' lidx p ⟨var, d⟩ nx,
      Call.cost n'.state (cfg.P.trans n'.state ⟨var, d⟩) ⟨var, d⟩ :: Call.trans n'.state ⟨var, d⟩ :: lg)
    have hg := go_kids n' (cfg.P.trans n'.state ⟨var, d⟩) (cfg.P.cost n'.state (cfg.P.trans n'.state ⟨var, d⟩) ⟨var, d⟩)
      ⟨lidx, p, ⟨var, d⟩, cfg.P.cost n'.state (cfg.P.trans n'.state ⟨var, d⟩) ⟨var, d⟩⟩ nx
    rw [← Cover.branchOn_eq] at hg
    refine ⟨fun kid hk => h1 kid (hg.1 kid hk), fun d' hd' => ?_⟩
    rcases List.mem_cons.1 hd' with rfl | hd'
    · exact h1 _ hg.2
    · exact h2 d' hd'

/-- `expF`, soundness: the pairs (state, arc) of the new pool are those of the skipped nodes, or transitions on `var` out of
    a state of the layer -/
theorem expF_pairs (QP : S → Arc → Prop) (cfg : Cfg S K) (var lidx : Nat) (layer rest : List (Node S)) (cur : List Nat)
    (log : List (Call S))
    (hrest : ∀ m ∈ rest, ∀ b ∈ m.inb, QP m.state b)
    (hnew : ∀ q ∈ cur, ∀ n, layer[q]? = some n → ∀ d ∈ cfg.P.domain var n.state,
      QP (cfg.P.trans n.state ⟨var, d⟩) ⟨lidx, q, ⟨var, d⟩, cfg.P.cost n.state (cfg.P.trans n.state ⟨var, d⟩) ⟨var, d⟩⟩) :
    ∀ m ∈ (expF cfg var lidx layer rest cur log).2.1, ∀ b ∈ m.inb, QP m.state b := by
  refine (expF_children cfg var lidx layer rest cur log (fun m => ∀ b ∈ m.inb, QP m.state b) hrest
    fun q hq n0 par h0 hs d hd m hm hms b hb => ?_).2
  have hst : n0.state = par.state := (stripRub_core hs).2.1
  rw [Cover.appendEdge_state]
  rw [Cover.appendEdge_inb] at hb
  rcases List.mem_cons.1 hb with rfl | hb
  · rw [hms, ← hst]
    exact hnew q hq n0 h0 d (hst ▸ hd)
  · rcases hm with hm | rfl
    · exact hm b hb
    · cases hb

/-- `expF`, completeness: the triples of the skipped nodes stay, and every transition on `var` out of an expanded position
    that passes the rough-bound test is there -/
theorem expF_kids (cfg : Cfg S K) (var lidx : Nat) (layer rest : List (Node S)) (cur : List Nat) (log : List (Call S)) :
    ∀ q ∈ cur, ∀ n, layer[q]? = some n → satAdd (cfg.R.rub n.state) n.value > cfg.lb →
      ∀ d ∈ cfg.P.domain var n.state, mkKid cfg n.state var d ∈ kidsOf (expF cfg var lidx layer rest cur log).2.1 := by
  unfold expF
  suffices h : ∀ (cur : List Nat) (acc : List (Node S) × List (Node S) × List (Call S)),
      acc.1.map Cover.key = layer.map Cover.key →
      (∀ kid ∈ kidsOf acc.2.1, kid ∈ kidsOf (cur.foldl (expandOne cfg var lidx) acc).2.1) ∧
      ∀ q ∈ cur, ∀ n, layer[q]? = some n → satAdd (cfg.R.rub n.state) n.value > cfg.lb →
        ∀ d ∈ cfg.P.domain var n.state, mkKid cfg n.state var d ∈ kidsOf (cur.foldl (expandOne cfg var lidx) acc).2.1 from
    (h cur _ rfl).2
  intro cur
  induction cur with
  | nil => intro acc _; exact ⟨fun kid h => h, fun q hq => by cases hq⟩
  | cons p ps ih =>
    intro acc hk
    rw [List.foldl_cons]
    obtain ⟨h1, h2⟩ := ih (expandOne cfg var lidx acc p) (by rw [Cover.expandOne_keys]; exact hk)
    have hone : (∀ kid ∈ kidsOf acc.2.1, kid ∈ kidsOf (expandOne cfg var lidx acc p).2.1) ∧
        ∀ n, layer[p]? = some n → satAdd (cfg.R.rub n.state) n.value > cfg.lb →
          ∀ d ∈ cfg.P.domain var n.state, mkKid cfg n.state var d ∈ kidsOf (expandOne cfg var lidx acc p).2.1 := by
      obtain ⟨ly, nx, lg⟩ := acc
      cases h : ly[p]? with
      | none =>
        rw [Cover.expandOne_none _ _ _ _ _ _ _ h]
        refine ⟨fun kid h => h, fun n hn => ?_⟩
        have := Cover.getElem?_of_map_key ly _ hk p
        rw [Cover.getElem?_of_map_key layer _ rfl p, h, hn] at this
        cases this
      | some n1 =>
        rw [Cover.expandOne_some _ _ _ _ _ _ _ n1 h]
        have hk2 := Cover.getElem?_of_map_key ly _ hk p
        rw [Cover.getElem?_of_map_key layer _ rfl p, h] at hk2
        split
        · rename_i hrub
          dsimp only
          obtain ⟨b1, b2⟩ := branchAll_kids cfg var lidx p { n1 with rub := cfg.R.rub n1.state }
            (cfg.P.domain var n1.state) (nx, Call.domain var n1.state :: Call.rub n1.state :: lg)
          refine ⟨b1, fun n hn _ d hd => ?_⟩
          rw [hn] at hk2
          simp only [Option.map_some, Option.some.injEq, Cover.key, Prod.mk.injEq] at hk2
          have := b2 d (hk2.1 ▸ hd)
          dsimp only at this
          rw [show n.state = n1.state from hk2.1]
          exact this
        · rename_i hrub
          refine ⟨fun kid h => h, fun n hn hgt => ?_⟩
          rw [hn] at hk2
          simp only [Option.map_some, Option.some.injEq, Cover.key, Prod.mk.injEq] at hk2
          rw [hk2.1, hk2.2] at hgt
          exact absurd hgt hrub
    refine ⟨fun kid hkid => h1 kid (hone.1 kid hkid), fun q hq n hn hgt d hd => ?_⟩
    rcases List.mem_cons.1 hq with rfl | hq
    · exact h1 _ (hone.2 n hn hgt d hd)
    · exact h2 q hq n hn hgt d hd

/-- **what `rootKids` holds** (relaxed compilations): nothing as long as no layer is materialised; then — `dp` being the depth
    of the layer of index 0, i.e. the depth at which the root was expanded, on the variable `x` — transitions of the model
    out of the root state on `x` only, and all of them when the root passes the rough-bound test (no dominance rule) -/
structure KInv (cfg : Cfg S K) (pd : PD S K) : Prop where
  nil : pd.layers = [] → pd.rootKids = [] ∧ ∀ n ∈ pd.pool, n.inb = []
  kids : ∀ (dp : Nat) (ly : List (Node S)), pd.layers[0]? = some (dp, ly) →
    ∃ (x : Nat) (L : List S), cfg.P.nextVar dp L = some x ∧ cfg.root.state ∈ L ∧
      (∀ kid ∈ pd.rootKids, ∃ v ∈ cfg.P.domain x cfg.root.state, kid = mkKid cfg cfg.root.state x v) ∧
      (cfg.dom = none → satAdd (cfg.R.rub cfg.root.state) cfg.root.value > cfg.lb →
        ∀ v ∈ cfg.P.domain x cfg.root.state, mkKid cfg cfg.root.state x v ∈ pd.rootKids)

theorem initPD_kinv (cfg : Cfg S K) (cache : Cache S) (store : DomStore S K) (polls : Nat) :
    KInv cfg (initPD cfg cache store polls) := by
  refine ⟨fun _ => ⟨rfl, fun n hn => ?_⟩, fun dp ly hl => ?_⟩
  · simp only [initPD, List.mem_singleton] at hn; subst hn; rfl
  · simp only [initPD, List.getElem?_nil] at hl; cases hl

theorem fdOf_first (cfg : Cfg S K) (pd : PD S K) (var : Nat) (hemp : pd.layers = []) (hd : cfg.dom = none) :
    fdOf cfg pd var = (curNodes cfg pd var, List.range (curNodes cfg pd var).length, pd.store, true) := by
  have h2 : fcOf cfg pd var = (curNodes cfg pd var, List.range (curNodes cfg pd var).length) := by
    unfold fcOf
    rw [hemp]
    rfl
  unfold fdOf
  rw [h2]
  simp only [filterDom, hd]

theorem stepLayerP_kinv (cfg : Cfg S K) (hrel : cfg.ctype = .relaxed) (pd pd' : PD S K) (var : Nat)
    (hnv : cfg.P.nextVar pd.depth (pd.pool.map (·.state)) = some var) (hne : pd.pool ≠ [])
    (hR : PProgress.RInv cfg pd) (hK : KInv cfg pd) (h : stepLayerP cfg pd var = some pd') : KInv cfg pd' := by
  obtain ⟨layer, cur, ief, log, hs⟩ := stepLayerP_elim cfg pd pd' var h
  have hlayers := hs.layers
  have hpool := hs.pool
  have hkids := hs.kids
  by_cases hemp : pd.layers = []
  · -- nothing materialised so far: the pool holds copies of the root, without inbound arc
    obtain ⟨_, hinb⟩ := hK.nil hemp
    have hroot := hR.root0 hemp
    have hcases := hs.cases
    rw [hemp] at hkids hcases
    simp only [List.isEmpty_nil, if_true, List.length_nil, List.nil_append] at hkids hcases
    rw [hemp] at hpool
    simp only [List.length_nil] at hpool
    have hrestinb : ∀ m ∈ restNodes cfg pd var, m.inb = [] := fun m hm => hinb m (List.mem_filter.1 hm).1
    rcases hcases with ⟨hnil, hlayers, _⟩ | ⟨hlne, _, hlayers⟩
    ·
      rw [hnil, expF_nil] at hpool hkids
      dsimp only at hpool hkids
      refine ⟨fun _ => ⟨?_, fun n hn => hrestinb n (by rw [hpool] at hn; exact hn)⟩, fun dp ly hl => ?_⟩
      · rw [hkids]
        cases hk : kidsOf (restNodes cfg pd var) with
        | nil => rfl
        | cons kid r =>
          exfalso
          have : kid ∈ kidsOf (restNodes cfg pd var) := by rw [hk]; exact List.mem_cons_self
          obtain ⟨m, hm, b, hb, _⟩ := mem_kidsOf.1 this
          rw [hrestinb m hm] at hb; cases hb
      · rw [hlayers] at hl; simp only [List.getElem?_nil] at hl; cases hl
    · -- the first layer: the root is expanded
      have hLC := layer_core cfg hrel pd var layer cur ief log hs.sq (by rw [hemp]; exact Nat.zero_lt_two)
      have hlay : ∀ (q : Nat) (n : Node S), layer[q]? = some n → n.state = cfg.root.state ∧ n.value = cfg.root.value := by
        intro q n hn
        obtain ⟨m, hm, _, _, h2, h3, _⟩ := hLC n (List.mem_of_getElem? hn)
        obtain ⟨r1, r2, _⟩ := hroot m hm
        exact ⟨h2.symm.trans r1, h3.symm.trans r2⟩
      refine ⟨fun h0 => (by rw [hlayers] at h0; cases h0), fun dp ly hl => ?_⟩
      rw [hlayers] at hl
      simp only [List.getElem?_cons_zero, Option.some.injEq, Prod.mk.injEq] at hl
      obtain ⟨rfl, _⟩ := hl
      have hmemL : cfg.root.state ∈ pd.pool.map (·.state) := by
        cases hp : pd.pool with
        | nil => exact absurd hp hne
        | cons m r =>
          have := (hroot m (by rw [hp]; exact List.mem_cons_self)).1
          rw [← this]
          exact List.mem_map_of_mem (by exact List.mem_cons_self)
      refine ⟨var, pd.pool.map (·.state), hnv, hmemL, ?_, ?_⟩
      ·
        intro kid hkid
        rw [hkids] at hkid
        obtain ⟨m, hm, b, hb, rfl⟩ := mem_kidsOf.1 hkid
        exact expF_pairs (fun s b => ∃ v ∈ cfg.P.domain var cfg.root.state, (s, b.dec, b.cost) = mkKid cfg cfg.root.state var v)
          cfg var 0 layer (restNodes cfg pd var) cur log
          (fun m hm b hb => by rw [hrestinb m hm] at hb; cases hb)
          (fun q _ n hn d hd => by
            obtain ⟨e1, _⟩ := hlay q n hn
            rw [e1] at hd ⊢
            exact ⟨d, hd, rfl⟩) m hm b hb
      ·
        intro hd hgt v hv
        rw [hkids]
        have hfd := fdOf_first cfg pd var hemp hd
        have hshape : layer = curNodes cfg pd var ∧ cur = List.range (curNodes cfg pd var).length := by
          cases hs.sq with
          | restrict hc _ _ _ _ _ => rw [hrel] at hc; cases hc
          | relax _ _ h2 _ _ _ _ _ => rw [hemp] at h2; simp at h2
          | keep _ _ hl hc _ _ => rw [hfd] at hl hc; exact ⟨hl, hc⟩
        obtain ⟨n0, r, hl0⟩ : ∃ n0 r, layer = n0 :: r := by
          cases hl0 : layer with
          | nil => exact absurd hl0 hlne
          | cons n0 r => exact ⟨n0, r, rfl⟩
        · have hn0 : layer[0]? = some n0 := by rw [hl0]; rfl
          obtain ⟨e1, e2⟩ := hlay 0 n0 hn0
          have h0cur : 0 ∈ cur := by
            rw [hshape.2, ← hshape.1, hl0]
            exact List.mem_range.2 (by simp)
          have := expF_kids cfg var 0 layer (restNodes cfg pd var) cur log 0 h0cur n0 hn0 (by rw [e1, e2]; exact hgt) v
            (by rw [e1]; exact hv)
          rw [e1] at this
          exact this
  · -- the root was expanded before: nothing changes
    have hne0 : pd.layers.isEmpty = false := by
      cases hl : pd.layers with
      | nil => exact absurd hl hemp
      | cons _ _ => rfl
    rw [hne0] at hkids
    simp only [Bool.false_eq_true, if_false] at hkids
    have h0 : pd'.layers[0]? = pd.layers[0]? := by
      rw [hlayers]
      split
      · rfl
      · cases hl : pd.layers with
        | nil => exact absurd hl hemp
        | cons a r => rfl
    refine ⟨fun hnil => ?_, fun dp ly hl => ?_⟩
    · exfalso
      rw [hlayers] at hnil
      split at hnil
      · exact hemp hnil
      · cases hl : pd.layers with
        | nil => exact absurd hl hemp
        | cons a r => rw [hl] at hnil; cases hnil
    · rw [h0] at hl
      rw [hkids]
      exact hK.kids dp ly hl

theorem buildLoopP_kinv (cfg : Cfg S K) (hrel : cfg.ctype = .relaxed) (stopAt : Option Nat) :
    ∀ (fuel : Nat) (pd : PD S K), PProgress.RInv cfg pd → KInv cfg pd →
      PProgress.RInv cfg (buildLoopP cfg stopAt fuel pd).1 ∧ KInv cfg (buildLoopP cfg stopAt fuel pd).1 :=
  fun fuel pd hR hK =>
    buildLoopP_ind cfg stopAt (fun pd => PProgress.RInv cfg pd ∧ KInv cfg pd)
      (fun pd h => ⟨⟨h.1.congr rfl rfl rfl, h.2.1, h.2.2⟩, ⟨h.1.congr rfl rfl rfl, h.2.1, h.2.2⟩⟩)
      (fun pd pd' var hnv hne h hst => ⟨stepLayerP_rinv cfg hrel pd pd' var h.1 hst,
        stepLayerP_kinv cfg hrel pd pd' var hnv hne h.1 h.2 hst⟩)
      fuel pd ⟨hR, hK⟩

theorem subP_eq (cfg : Cfg S K) (L3 : List (List (Node S))) (bv : Int) (n : Node S) :
    subP cfg L3 bv n = subOf cfg L3 bv n := rfl

/-- a sub-problem of the new cut-set comes from a frontier position `lp`: it is what the old code hands out for it, unless
    `lp` lies in the layer of index 0 (the root) — then it is a child of the root -/
theorem finalizeP_cutset_cases (cfg : Cfg S K) (pd : PD S K) (e : Bool) (c : SubP S)
    (hc : c ∈ (finalizeP cfg pd e).cutset) :
    ∃ (bv : Int) (lp : Nat × Nat) (n : Node S), maxValue (termsP pd) = some bv ∧
      lp ∈ (if pd.isExactField then [] else cs0P cfg pd) ∧
      getNode (layers3P cfg pd e) lp.1 lp.2 = some n ∧ n.marked = true ∧
      subOf cfg (layers3P cfg pd e) bv n ∈ (finalizePOld cfg pd e).cutset ∧
      ((lp.1 ≠ 0 ∧ c = subOf cfg (layers3P cfg pd e) bv n) ∨
       (lp.1 = 0 ∧ ∃ kid ∈ pd.rootKids, c = kidSub cfg (subOf cfg (layers3P cfg pd e) bv n) kid)) := by
  rw [finalizeP_cutset_new] at hc
  split at hc
  · cases hc
  · rename_i bv hbv
    obtain ⟨lp, hlp, hin⟩ := List.mem_flatMap.1 hc
    split at hin
    · rename_i n hn
      split at hin
      · rename_i hmk
        have hold : subOf cfg (layers3P cfg pd e) bv n ∈ (finalizePOld cfg pd e).cutset :=
          (finalizeP_cutset_iff cfg pd e _).2 ⟨bv, lp, n, hbv, hlp, hn, hmk, rfl⟩
        refine ⟨bv, lp, n, hbv, hlp, hn, hmk, hold, ?_⟩
        split at hin
        · rename_i h0
          obtain ⟨kid, hkid, rfl⟩ := List.mem_map.1 hin
          exact .inr ⟨h0, kid, hkid, rfl⟩
        · rename_i h0
          rw [List.mem_singleton] at hin
          exact .inl ⟨h0, hin⟩
      · cases hin
    · cases hin

theorem finalizeP_cutset_of (cfg : Cfg S K) (pd : PD S K) (e : Bool)
    (bv : Int) (lp : Nat × Nat) (n : Node S) (hbv : maxValue (termsP pd) = some bv)
    (hlp : lp ∈ (if pd.isExactField then [] else cs0P cfg pd))
    (hn : getNode (layers3P cfg pd e) lp.1 lp.2 = some n) (hmk : n.marked = true) :
    (lp.1 ≠ 0 → subOf cfg (layers3P cfg pd e) bv n ∈ (finalizeP cfg pd e).cutset) ∧
    (lp.1 = 0 → ∀ kid ∈ pd.rootKids,
      kidSub cfg (subOf cfg (layers3P cfg pd e) bv n) kid ∈ (finalizeP cfg pd e).cutset) := by
  rw [finalizeP_cutset_new, hbv]
  dsimp only
  refine ⟨fun h0 => List.mem_flatMap.2 ⟨lp, hlp, ?_⟩, fun h0 kid hkid => List.mem_flatMap.2 ⟨lp, hlp, ?_⟩⟩
  · rw [hn]
    dsimp only
    rw [if_pos hmk, if_neg h0]
    exact List.mem_singleton.2 rfl
  · rw [hn]
    dsimp only
    rw [if_pos hmk, if_pos h0]
    exact List.mem_map.2 ⟨kid, hkid, rfl⟩

theorem frontier_node (cfg : Cfg S K) (hrel : cfg.ctype = .relaxed) (pd : PD S K) (e : Bool) (hR : PProgress.RInv cfg pd)
    (hdep : ∀ (l dp : Nat) (ly : List (Node S)), pd.layers[l]? = some (dp, ly) → ∀ n ∈ ly, n.isExact = true → n.depth = dp)
    (lp : Nat × Nat) (hlp : lp ∈ (if pd.isExactField then [] else cs0P cfg pd)) (n : Node S)
    (hn : getNode (layers3P cfg pd e) lp.1 lp.2 = some n) :
    ∃ (dp : Nat) (ly : List (Node S)), pd.layers[lp.1]? = some (dp, ly) ∧ n.depth = dp ∧ cfg.root.depth + lp.1 ≤ dp ∧
      (lp.1 = 0 → n.state = cfg.root.state ∧ n.value = cfg.root.value ∧
        bestPath (layers3P cfg pd e) ((layers3P cfg pd e).length + 1) n = []) := by
  have hlp' : lp ∈ (computeCutset .frontier 0 (pd.plain ++ [termsP pd])).2 := by
    split at hlp
    · cases hlp
    · rw [cs0P_relaxed cfg pd hrel] at hlp; exact hlp
  obtain ⟨n0, hn0, hex, l', p', m, a, hm, hmex, ha, hal, _⟩ := computeCutset_frontier 0 _ lp hlp'
  have hx := layers3P_xEq cfg pd e
  obtain ⟨n0', hn0', hsn⟩ := hx.getNode_some hn
  rw [hn0] at hn0'
  cases hn0'
  obtain ⟨e1, e2, _, _, e5, e6⟩ := stripB_fields hsn
  rcases getNode_layers0 pd hn0 with ⟨dp, ly, hl, hmem', _⟩ | ⟨hl, m0, hm0, rfl⟩
  · have hd : n0.depth = dp := hdep lp.1 dp ly hl n0 hmem' hex
    refine ⟨dp, ly, hl, by rw [← e5]; exact hd, hR.depths lp.1 dp ly hl, fun h0 => ?_⟩
    rw [h0] at hl
    obtain ⟨r1, r2, r3, _⟩ := hR.rootL dp ly hl n0 hmem'
    refine ⟨e1.symm.trans r1, e2.symm.trans r2, ?_⟩
    have hnil := (BestChainP.root (layers := layers3P cfg pd e) 0).bestPath_eq n (e6.symm.trans r3)
      ((layers3P cfg pd e).length + 1) (Nat.zero_le _)
    rw [List.reverse_eq_nil_iff] at hnil
    exact hnil
  · -- a terminal node has no outgoing arc
    exfalso
    rcases getNode_layers0 pd hm with ⟨dp, ly, hl', hmem', _⟩ | ⟨hl', m1, hm1, rfl⟩
    · have h1 := hR.arcL l' dp ly hl' m hmem' a ha
      have h2 := Cover.lt_of_getElem?_some hl'
      exact absurd (Nat.lt_trans h1 h2) (by rw [hal, hl]; exact Nat.lt_irrefl _)
    · have h1 := hR.arcP m1 hm1 a ha
      exact absurd h1 (by rw [hal, hl]; exact Nat.lt_irrefl _)

theorem finalizeP_cutset_nonrelaxed (cfg : Cfg S K) (pd : PD S K) (e : Bool) (hrel : cfg.ctype ≠ .relaxed) :
    (finalizeP cfg pd e).cutset = [] := by
  rw [List.eq_nil_iff_forall_not_mem]
  intro c hc
  obtain ⟨bv, lp, n, _, hlp, _⟩ := finalizeP_cutset_cases cfg pd e c hc
  split at hlp
  · cases hlp
  · rename_i hief
    unfold cs0P at hlp
    have : ((cfg.ctype == .relaxed) || pd.isExactField) = false := by
      rw [Bool.or_eq_false_iff]
      exact ⟨beq_eq_false_iff_ne.2 hrel, Bool.eq_false_iff.2 hief⟩
    rw [this, if_neg Bool.false_ne_true] at hlp
    cases hlp


theorem satAdd_root_cost {cfg : Cfg S K} {B : Int} (hB : NoClamp cfg.P cfg.R cfg.root.value B) (s s' : S) (d : Dec) :
    satAdd cfg.root.value (cfg.P.cost s s' d) = cfg.root.value + cfg.P.cost s s' d := by
  have h1 := hB.root
  have h2 := hB.cost s s' d
  have h3 := hB.small
  have h4 := hB.nonneg
  have h5 : 2 * B ≤ ((cfg.P.nbVars : Int) + 2) * B := by
    have : (0 : Int) ≤ (cfg.P.nbVars : Int) := Int.natCast_nonneg _
    have := Int.mul_le_mul_of_nonneg_right (show (2 : Int) ≤ (cfg.P.nbVars : Int) + 2 by omega) h4
    exact this
  apply Cover.satAdd_eq
  · simp only [iMin]; omega
  · simp only [iMax]; omega

theorem kid_facts (cfg : Cfg S K) (hrel : cfg.ctype = .relaxed) (pd : PD S K) (e : Bool) (hR : PProgress.RInv cfg pd)
    (hK : KInv cfg pd)
    (hdep : ∀ (l dp : Nat) (ly : List (Node S)), pd.layers[l]? = some (dp, ly) → ∀ n ∈ ly, n.isExact = true → n.depth = dp)
    (lp : Nat × Nat) (hlp : lp ∈ (if pd.isExactField then [] else cs0P cfg pd)) (n : Node S)
    (hn : getNode (layers3P cfg pd e) lp.1 lp.2 = some n) (h0 : lp.1 = 0) :
    ∃ (x : Nat) (L : List S), cfg.P.nextVar n.depth L = some x ∧ cfg.root.state ∈ L ∧
      n.state = cfg.root.state ∧ n.value = cfg.root.value ∧ cfg.root.depth ≤ n.depth ∧
      bestPath (layers3P cfg pd e) ((layers3P cfg pd e).length + 1) n = [] ∧
      (∀ kid ∈ pd.rootKids, ∃ v ∈ cfg.P.domain x cfg.root.state, kid = mkKid cfg cfg.root.state x v) ∧
      (cfg.dom = none → satAdd (cfg.R.rub cfg.root.state) cfg.root.value > cfg.lb →
        ∀ v ∈ cfg.P.domain x cfg.root.state, mkKid cfg cfg.root.state x v ∈ pd.rootKids) := by
  obtain ⟨dp, ly, hl, hd, hge, hroot⟩ := frontier_node cfg hrel pd e hR hdep lp hlp n hn
  obtain ⟨r1, r2, r3⟩ := hroot h0
  rw [h0] at hl
  obtain ⟨x, L, hnv, hmem, hs, hc⟩ := hK.kids dp ly hl
  exact ⟨x, L, by rw [hd]; exact hnv, hmem, r1, r2, by rw [hd]; exact Nat.le_trans (Nat.le_add_right _ _) hge, r3, hs, hc⟩

theorem root_entry_rel (cfg : Cfg S K) (B : Int) (R : Nat → S → Int → List Dec → Prop) (pd : PD S K) (k : Nat) (e : Bool)
    (hinv : PTruth.MInvR cfg B R pd k) {bv : Int} {n : Node S}
    (hold : subOf cfg (layers3P cfg pd e) bv n ∈ (finalizePOld cfg pd e).cutset)
    (r1 : n.state = cfg.root.state) (r2 : n.value = cfg.root.value)
    (r3 : bestPath (layers3P cfg pd e) ((layers3P cfg pd e).length + 1) n = []) :
    R n.depth cfg.root.state cfg.root.value [] := by
  obtain ⟨q, hq, hpath⟩ := PTruth.finalizeP_cutset_rel cfg B R pd k e hinv _ hold
  simp only [subOf] at hq hpath
  rw [r3, List.append_nil] at hpath
  have hqnil : q = [] :=
    List.reverse_eq_nil_iff.1 (List.append_cancel_left (hpath.symm.trans (List.append_nil _).symm))
  rw [hqnil, r1, r2] at hq
  exact hq

end Ddo.PFix

namespace Ddo.PTruth
open Ddo Ddo.Pooled Ddo.Truth Ddo.PFix Ddo.Bounds
variable {S K : Type} [DecidableEq S] [DecidableEq K]

/-- C08 (i) for the (repaired) pooled diagram in `PathRel` form: any compilation type, any cache / dominance configuration,
    any cutoff, both results -/
theorem cutset_rel_pooled (cfg : Cfg S K) (B : Int) (R : Nat → S → Int → List Dec → Prop)
    (hR : PathRel cfg.P R) (hroot : R cfg.root.depth cfg.root.state cfg.root.value [])
    (hB : NoClamp cfg.P cfg.R cfg.root.value B)
    (cache : Cache S) (store : DomStore S K) (polls : Nat) (stopAt : Option Nat)
    (hok : (compileP cfg cache store polls stopAt).1 = .ok) (r : Result S)
    (hr : r = (compileP cfg cache store polls stopAt).2.1 ∨ (compileP cfg cache store polls stopAt).2.2.1 = some r) :
    ∀ c ∈ r.cutset, ∃ q, R c.depth c.state c.value q ∧ c.path = cfg.root.path ++ q.reverse := by
  obtain ⟨e, rfl⟩ := Ddo.C08.compileP_results_ok cfg cache store polls stopAt hok r hr
  obtain ⟨k, _, hinv, _⟩ := buildLoopP_invR cfg B R hR hB stopAt (cfg.P.nbVars + 2) (initPD cfg cache store polls) 0
    (initPD_invR cfg B R hB hroot cache store polls) (Nat.le_of_eq (Nat.zero_add _))
  intro c hc
  by_cases hrel : cfg.ctype = .relaxed
  case neg => rw [finalizeP_cutset_nonrelaxed cfg _ e hrel] at hc; cases hc
  obtain ⟨hRI, hKI⟩ := buildLoopP_kinv cfg hrel stopAt (cfg.P.nbVars + 2) (initPD cfg cache store polls)
    (PProgress.initPD_rinv cfg cache store polls) (initPD_kinv cfg cache store polls)
  generalize (buildLoopP cfg stopAt (cfg.P.nbVars + 2) (initPD cfg cache store polls)).1 = fin at hc hinv hRI hKI
  obtain ⟨bv, lp, n, hbv, hlp, hn, hmk, hold, hcase⟩ := finalizeP_cutset_cases cfg fin e c hc
  rcases hcase with ⟨_, rfl⟩ | ⟨h0, kid, hkid, rfl⟩
  · exact finalizeP_cutset_rel cfg B R fin k e hinv _ hold
  · obtain ⟨x, L, hnv, hmem, r1, r2, _, r3, hs, _⟩ := kid_facts cfg hrel fin e hRI hKI
      (fun l dp ly hl n hn hex => by obtain ⟨_, _, _, hok'⟩ := hinv.layers l dp ly hl; exact (hok' n hn).2 hex)
      lp hlp n hn h0
    obtain ⟨v, hv, rfl⟩ := hs kid hkid
    have hstep := hR.step n.depth cfg.root.state cfg.root.value [] L x v
      (root_entry_rel cfg B R fin k e hinv hold r1 r2 r3) hnv hmem hv
    refine ⟨[⟨x, v⟩], ?_, ?_⟩
    · simp only [kidSub, subOf, mkKid]
      rw [r2, satAdd_root_cost hB]
      exact hstep
    · simp only [kidSub, mkKid, List.reverse_cons, List.reverse_nil, List.nil_append]

end Ddo.PTruth

namespace Ddo.PFix
open Ddo Ddo.Pooled Ddo.PProgress Ddo.PBounds Ddo.Bounds
variable {S K : Type} [DecidableEq S] [DecidableEq K]

/-- **C08 (ii) for the repaired pooled diagram — a theorem for every model, long arcs allowed**: the sub-problems of the
    cut-set of a relaxed pooled compilation are strictly deeper than the root sub-problem.  No structural hypothesis
    (`AllImpacted`, `SiblingsAlike`), any cache / dominance configuration, any cutoff, both results. -/
theorem cutset_progress_pooled (cfg : Cfg S K) (B : Int) (p0 : List Dec) (cache : Cache S)
    (store : DomStore S K) (polls : Nat) (stopAt : Option Nat) (hrel : cfg.ctype = .relaxed)
    (hroot : ReachSkip cfg.P cfg.root.depth cfg.root.state cfg.root.value p0)
    (hB : NoClamp cfg.P cfg.R cfg.root.value B)
    (hok : (compileP cfg cache store polls stopAt).1 = .ok) (r : Result S)
    (hr : r = (compileP cfg cache store polls stopAt).2.1 ∨ (compileP cfg cache store polls stopAt).2.2.1 = some r) :
    ∀ c ∈ r.cutset, cfg.root.depth < c.depth := by
  obtain ⟨e, rfl⟩ := C08.compileP_results_ok cfg cache store polls stopAt hok r hr
  obtain ⟨k, hinv, _⟩ := buildLoopP_inv cfg B p0 hB stopAt (cfg.P.nbVars + 2) (initPD cfg cache store polls) 0
    (initPD_inv cfg B p0 hB hroot cache store polls) (Nat.le_of_eq (Nat.zero_add _))
  obtain ⟨hRI, hKI⟩ := buildLoopP_kinv cfg hrel stopAt (cfg.P.nbVars + 2) (initPD cfg cache store polls)
    (PProgress.initPD_rinv cfg cache store polls) (initPD_kinv cfg cache store polls)
  intro c hc
  generalize (buildLoopP cfg stopAt (cfg.P.nbVars + 2) (initPD cfg cache store polls)).1 = fin at hc hinv hRI hKI
  obtain ⟨bv, lp, n, hbv, hlp, hn, hmk, hold, hcase⟩ := finalizeP_cutset_cases cfg fin e c hc
  obtain ⟨dp, ly, hl, hd, hge, _⟩ := frontier_node cfg hrel fin e hRI hinv.dep lp hlp n hn
  rcases hcase with ⟨h0, rfl⟩ | ⟨h0, kid, hkid, rfl⟩
  · simp only [subOf]
    rw [hd]; exact Nat.lt_of_lt_of_le (Nat.lt_add_of_pos_right (Nat.pos_of_ne_zero h0)) hge
  · simp only [kidSub, subOf]
    rw [hd]; exact Nat.lt_succ_of_le (Nat.le_trans (Nat.le_add_right _ _) hge)

end Ddo.PFix

namespace Ddo.PBounds
open Ddo Ddo.Pooled Ddo.Bounds Ddo.PFix
variable {S K : Type} [DecidableEq S] [DecidableEq K]

theorem finalizeP_cutset_nil_of_old (cfg : Cfg S K) (pd : PD S K) (e : Bool) (h : (finalizePOld cfg pd e).cutset = []) :
    (finalizeP cfg pd e).cutset = [] := by
  rw [List.eq_nil_iff_forall_not_mem]
  intro c hc
  obtain ⟨_, _, _, _, _, _, _, hold, _⟩ := finalizeP_cutset_cases cfg pd e c hc
  rw [h] at hold
  cases hold

theorem compileP_fin (cfg : Cfg S K) (H : Nat → S → EInt) (B t : Int) (p0 : List Dec) (cache : Cache S)
    (store : DomStore S K) (polls : Nat) (stopAt : Option Nat) (hy : HypP cfg H B t)
    (hroot : ReachSkip cfg.P cfg.root.depth cfg.root.state cfg.root.value p0)
    (hok : (compileP cfg cache store polls stopAt).1 = .ok) :
    ∃ (Live : Nat → Nat → Prop) (k k' : Nat),
      MInvP cfg B p0 (buildLoopP cfg stopAt (cfg.P.nbVars + 2) (initPD cfg cache store polls)).1 k' ∧
      PProgress.RInv cfg (buildLoopP cfg stopAt (cfg.P.nbVars + 2) (initPD cfg cache store polls)).1 ∧
      KInv cfg (buildLoopP cfg stopAt (cfg.P.nbVars + 2) (initPD cfg cache store polls)).1 ∧
      BInvP cfg H B t Live (buildLoopP cfg stopAt (cfg.P.nbVars + 2) (initPD cfg cache store polls)).1 k ∧
      k ≤ cfg.P.nbVars + 1 ∧ TerminalP cfg (buildLoopP cfg stopAt (cfg.P.nbVars + 2) (initPD cfg cache store polls)).1 := by
  obtain ⟨k', hinv, _⟩ := buildLoopP_inv cfg B p0 hy.B stopAt (cfg.P.nbVars + 2) (initPD cfg cache store polls) 0
    (initPD_inv cfg B p0 hy.B hroot cache store polls) (Nat.le_of_eq (Nat.zero_add _))
  obtain ⟨hRI, hKI⟩ := buildLoopP_kinv cfg hy.rel stopAt (cfg.P.nbVars + 2) (initPD cfg cache store polls)
    (PProgress.initPD_rinv cfg cache store polls) (initPD_kinv cfg cache store polls)
  obtain ⟨Live, k, hI, hk, hterm⟩ := compileP_done cfg H B t hy cache store polls stopAt hok
  exact ⟨Live, k, k', hinv, hRI, hKI, hI, hk, hterm⟩

/-- **C08 (iii), (repaired) pooled diagram, long arcs allowed**: the upper bound of a cut-set sub-problem is valid.
    No hypothesis `cfg.lb < iMax`: with `lb = isize::MAX` the cut-set is empty (`compileP_lbmax_cutset`).  A child of the
    root handed out in place of the root carries the bound of the root, which dominates the potential of the root, hence
    (`SkipWf.le`) that of the child. -/
theorem cutset_ub_valid_pooled' (cfg : Cfg S K) (H : Nat → S → EInt) (B : Int) (p0 : List Dec) (cache : Cache S)
    (store : DomStore S K) (polls : Nat) (stopAt : Option Nat)
    (hrel : cfg.ctype = .relaxed) (hcache : cfg.useCache = false) (hdom : cfg.dom = none) (hW : 1 ≤ cfg.width)
    (hP : Potential cfg.P H) (hS : SkipWf cfg.P H) (hR : RubOk cfg.R H) (hM : MergeOk cfg.R H)
    (hAM : Cover.AttMerge cfg.P cfg.R H)
    (hB : NoClamp cfg.P cfg.R cfg.root.value B) (hlb : InI cfg.lb)
    (hroot : ReachSkip cfg.P cfg.root.depth cfg.root.state cfg.root.value p0)
    (hok : (compileP cfg cache store polls stopAt).1 = .ok) (r : Result S)
    (hr : r = (compileP cfg cache store polls stopAt).2.1 ∨ (compileP cfg cache store polls stopAt).2.2.1 = some r) :
    ∀ c ∈ r.cutset, ∀ x, (H c.depth c.state).addI c.value = some x → x > cfg.lb → x ≤ c.ub := by
  intro c hc x hΦ hx
  -- with `lb = isize::MAX` every node is pruned and the cut-set is empty
  by_cases hlb' : cfg.lb < iMax
  case neg =>
    exfalso
    have hlbeq : cfg.lb = iMax := Int.le_antisymm hlb.2 (Int.not_lt.1 hlb')
    obtain ⟨e, rfl⟩ := C08.compileP_results_ok cfg cache store polls stopAt hok r hr
    rw [finalizeP_cutset_nil_of_old cfg _ e
      (compileP_lbmax_cutset cfg hlbeq hrel hW hcache hdom cache store polls stopAt e)] at hc
    cases hc
  have hy : HypP cfg H B x := ⟨hrel, hcache, hdom, hW, hP, hS, hR, hM, hAM, hB, Truth.clamp_gt hlb hx (.inr hlb')⟩
  obtain ⟨e, rfl⟩ := C08.compileP_results_ok cfg cache store polls stopAt hok r hr
  obtain ⟨Live, k, k', hinv, hRI, hKI, hI, hk, hterm⟩ := compileP_fin cfg H B x p0 cache store polls stopAt hy hroot hok
  generalize (buildLoopP cfg stopAt (cfg.P.nbVars + 2) (initPD cfg cache store polls)).1 = fin at hc hinv hI hterm hRI hKI
  have hdep := hinv.dep
  obtain ⟨bv, lp, n, hbv, hlp, hn, hmk, hold, hcase⟩ := finalizeP_cutset_cases cfg fin e c hc
  rcases hterm with hemp | hnone
  · rw [finalizeP_cutset_of_empty cfg fin e hemp] at hold; cases hold
  have hf : FinP cfg H B x Live fin k := ⟨hI, hnone, hk, hdep⟩
  rcases hcase with ⟨_, rfl⟩ | ⟨h0, kid, hkid, rfl⟩
  · exact FinP.cutset_ub hf hy hlb e _ hold x hΦ (Int.le_refl _) hx
  · obtain ⟨x0, L, hnv, hmem, r1, r2, _, r3, hs, _⟩ := kid_facts cfg hrel fin e hRI hKI hdep lp hlp n hn h0
    obtain ⟨v, hv, rfl⟩ := hs kid hkid
    have hq := root_entry_rel cfg B _ fin k' e hinv.toR hold r1 r2 r3
    have hle := Truth.addI_step (v := cfg.root.value) (hS.le n.depth L x0 cfg.root.state cfg.root.value _ v hq hnv hmem hv)
    simp only [kidSub, subOf, mkKid] at hΦ ⊢
    rw [r2, satAdd_root_cost hB] at hΦ
    rw [hΦ] at hle
    cases hH0 : (H n.depth cfg.root.state).addI cfg.root.value with
    | none => rw [hH0] at hle; exact absurd hle (by simp)
    | some y =>
      rw [hH0] at hle
      have hxy : x ≤ y := by simpa using hle
      have := FinP.cutset_ub hf hy hlb e _ hold y (by simp only [subOf]; rw [r1, r2]; exact hH0) hxy (Int.lt_of_lt_of_le hx hxy)
      simp only [subOf] at this
      exact Int.le_trans hxy this

/-- **C08 (iii), pooled diagram, long arcs allowed**, with the (redundant) hypothesis `cfg.lb < iMax` -/
theorem cutset_ub_valid_pooled (cfg : Cfg S K) (H : Nat → S → EInt) (B : Int) (p0 : List Dec) (cache : Cache S)
    (store : DomStore S K) (polls : Nat) (stopAt : Option Nat)
    (hrel : cfg.ctype = .relaxed) (hcache : cfg.useCache = false) (hdom : cfg.dom = none) (hW : 1 ≤ cfg.width)
    (hP : Potential cfg.P H) (hS : SkipWf cfg.P H) (hR : RubOk cfg.R H) (hM : MergeOk cfg.R H)
    (hAM : Cover.AttMerge cfg.P cfg.R H)
    (hB : NoClamp cfg.P cfg.R cfg.root.value B) (hlb : InI cfg.lb) (hlb' : cfg.lb < iMax)
    (hroot : ReachSkip cfg.P cfg.root.depth cfg.root.state cfg.root.value p0)
    (hok : (compileP cfg cache store polls stopAt).1 = .ok) (r : Result S)
    (hr : r = (compileP cfg cache store polls stopAt).2.1 ∨ (compileP cfg cache store polls stopAt).2.2.1 = some r) :
    ∀ c ∈ r.cutset, ∀ x, (H c.depth c.state).addI c.value = some x → x > cfg.lb → x ≤ c.ub :=
  cutset_ub_valid_pooled' cfg H B p0 cache store polls stopAt hrel hcache hdom hW hP hS hR hM hAM hB hlb hroot hok r hr

/-- **C08 (iv), (repaired) pooled diagram, long arcs allowed**: the cut-set covers the root sub-problem, in potential form.
    When the old cut-set covers it with the root itself, the child of the root that attains the potential of the root
    (`Potential.att`) is among the children handed out in its place. -/
theorem cutset_cover_pooled (cfg : Cfg S K) (H : Nat → S → EInt) (B : Int) (p0 : List Dec) (cache : Cache S)
    (store : DomStore S K) (polls : Nat) (stopAt : Option Nat)
    (hrel : cfg.ctype = .relaxed) (hcache : cfg.useCache = false) (hdom : cfg.dom = none) (hW : 1 ≤ cfg.width)
    (hP : Potential cfg.P H) (hS : SkipWf cfg.P H) (hR : RubOk cfg.R H) (hM : MergeOk cfg.R H)
    (hAM : Cover.AttMerge cfg.P cfg.R H)
    (hB : NoClamp cfg.P cfg.R cfg.root.value B) (hlb : InI cfg.lb)
    (hroot : ReachSkip cfg.P cfg.root.depth cfg.root.state cfg.root.value p0)
    (o : Int) (ho : optOf H cfg.root = some o) (hgt : o > cfg.lb) (hO : o ≤ iMax ∨ cfg.lb < iMax)
    (hok : (compileP cfg cache store polls stopAt).1 = .ok) (r : Result S)
    (hr : r = (compileP cfg cache store polls stopAt).2.1 ∨ (compileP cfg cache store polls stopAt).2.2.1 = some r)
    (hbe : ∀ be, r.bestExactValue = some be → be < o) :
    ∃ c ∈ r.cutset, ∃ y, (H c.depth c.state).addI c.value = some y ∧ o ≤ y := by
  have hclamp := Truth.clamp_gt hlb hgt hO
  have hy : HypP cfg H B o := ⟨hrel, hcache, hdom, hW, hP, hS, hR, hM, hAM, hB, hclamp⟩
  obtain ⟨h0, hH0, ho0⟩ := addI_some ho
  have ht : o ≤ cfg.root.value + h0 := Int.le_of_eq (by rw [ho0, Int.add_comm])
  obtain ⟨e, rfl⟩ := C08.compileP_results_ok cfg cache store polls stopAt hok r hr
  obtain ⟨Live, k, k', hinv, hRI, hKI, hI, hk, hterm⟩ := compileP_fin cfg H B o p0 cache store polls stopAt hy hroot hok
  generalize (buildLoopP cfg stopAt (cfg.P.nbVars + 2) (initPD cfg cache store polls)).1 = fin at hbe hinv hI hterm hRI hKI ⊢
  have hdep := hinv.dep
  rcases hterm with hemp | hnone
  · exfalso
    obtain ⟨m, hm, _⟩ := hI.cover_root h0 hH0 ht
    rw [hemp] at hm; cases hm
  have hf : FinP cfg H B o Live fin k := ⟨hI, hnone, hk, hdep⟩
  obtain ⟨c0, hc0, y, hy0, hoy⟩ := FinP.cutset_cover hf hy e h0 hH0 ht hbe
  obtain ⟨bv, lp, n, hbv, hlp, hn, hmk, rfl⟩ := (finalizeP_cutset_iff cfg fin e c0).1 hc0
  obtain ⟨hA, hBk⟩ := finalizeP_cutset_of cfg fin e bv lp n hbv hlp hn hmk
  by_cases hz : lp.1 = 0
  case neg => exact ⟨_, hA hz, y, hy0, hoy⟩
  obtain ⟨x0, L, hnv, hmem, r1, r2, _, r3, _, hfull⟩ := kid_facts cfg hrel fin e hRI hKI hdep lp hlp n hn hz
  simp only [subOf] at hy0
  rw [r1, r2] at hy0
  obtain ⟨h, hH, hyh⟩ := addI_some hy0
  obtain ⟨v, hv, h', hH', hle⟩ := hP.att n.depth L x0 cfg.root.state h hnv hmem hH
  have hrub := hR _ _ _ hH
  have hgt' : satAdd (cfg.R.rub cfg.root.state) cfg.root.value > cfg.lb := by
    unfold satAdd
    exact hclamp _ (by rw [hyh] at hoy; exact Int.le_trans hoy (Int.add_le_add_right hrub _))
  refine ⟨_, hBk hz _ (hfull hdom hgt' v hv), h' + (cfg.root.value + cfg.P.cost cfg.root.state
    (cfg.P.trans cfg.root.state ⟨x0, v⟩) ⟨x0, v⟩), ?_,
    by rw [Int.add_comm]; exact pot_step (by rw [hyh, Int.add_comm] at hoy; exact hoy) hle (Int.le_refl _)⟩
  simp only [kidSub, subOf, mkKid]
  rw [r2, satAdd_root_cost hB, hH']
  rfl

end Ddo.PBounds

/-! ## non-vacuity: the tiny model **with a long arc** of `Proofs/PooledBounds.lean`

Before the repair its cut-set was the root and its child of depth 1 (`compilePOld`); the repaired code hands out the two
children of the root in place of the root. -/
namespace Ddo.PBounds.TinyLong
open Ddo Ddo.Pooled

example : (compilePOld cfg (Cache.init 4) (DomStore.init 4) 0 none).2.1.cutset.map
    (fun c => (c.state, c.value, c.ub, c.depth)) = [(0, 0, 3, 0), (1, 1, 3, 1)] := by decide +kernel

/-- the repaired compilation of the model, evaluated once: it ends normally, hands out the cut-set `(state, value, ub, depth)`
    below — potentials `2`, `3`, `3`: the bounds are valid (and tight for the child `1`) — and reports no exact value -/
theorem run : (compileP cfg (Cache.init 4) (DomStore.init 4) 0 none).1 = .ok ∧
    (compileP cfg (Cache.init 4) (DomStore.init 4) 0 none).2.1.cutset.map
      (fun c => (c.state, c.value, c.ub, c.depth)) = [(0, 0, 3, 1), (1, 1, 3, 1), (1, 1, 3, 1)] ∧
    (compileP cfg (Cache.init 4) (DomStore.init 4) 0 none).2.1.bestExactValue = none := by decide +kernel

example : (compileP cfg (Cache.init 4) (DomStore.init 4) 0 none).2.1.cutset.map
    (fun c => (c.state, c.value, c.ub, c.depth)) = [(0, 0, 3, 1), (1, 1, 3, 1), (1, 1, 3, 1)] := run.2.1

example : ∀ c ∈ (compileP cfg (Cache.init 4) (DomStore.init 4) 0 none).2.1.cutset, 0 < c.depth :=
  PFix.cutset_progress_pooled cfg 1 [] (Cache.init 4) (DomStore.init 4) 0 none rfl ReachSkip.root noClamp run.1 _ (.inl rfl)

example : ∀ c ∈ (compileP cfg (Cache.init 4) (DomStore.init 4) 0 none).2.1.cutset, ∀ x,
    (H c.depth c.state).addI c.value = some x → x > cfg.lb → x ≤ c.ub :=
  cutset_ub_valid_pooled cfg H 1 [] (Cache.init 4) (DomStore.init 4) 0 none rfl rfl rfl (by decide)
    potential skipWf rubOk mergeOk attMerge noClamp (by decide) (by decide) ReachSkip.root run.1 _ (.inl rfl)

example : ∃ c ∈ (compileP cfg (Cache.init 4) (DomStore.init 4) 0 none).2.1.cutset, ∃ y,
    (H c.depth c.state).addI c.value = some y ∧ 3 ≤ y :=
  cutset_cover_pooled cfg H 1 [] (Cache.init 4) (DomStore.init 4) 0 none rfl rfl rfl (by decide)
    potential skipWf rubOk mergeOk attMerge noClamp (by decide) ReachSkip.root 3 rfl (by decide) (.inl (by decide)) run.1 _
    (.inl rfl) (by rw [run.2.2]; intro be hbe; cases hbe)

end Ddo.PBounds.TinyLong


#print axioms Ddo.PTruth.cutset_rel_pooled
#print axioms Ddo.PFix.cutset_progress_pooled
#print axioms Ddo.PBounds.cutset_ub_valid_pooled'
#print axioms Ddo.PBounds.cutset_cover_pooled
