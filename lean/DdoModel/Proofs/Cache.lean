import DdoModel.Cache
/-! Helper lemmas about the cache model (order facts about `Thr`, frame lemmas of the layers). -/
set_option linter.unusedSectionVars false
namespace Ddo
variable {S : Type} [DecidableEq S]

/-- rank of a threshold: the derived order on `(value, explored)` is the order of `2·value + explored` -/
def Thr.key (a : Thr) : Int := 2 * a.value + (if a.explored then 1 else 0)

theorem Thr.le_iff_key (a b : Thr) : Thr.le a b ↔ a.key ≤ b.key := by
  obtain ⟨av, ae⟩ := a; obtain ⟨bv, be⟩ := b
  unfold Thr.le Thr.key; cases ae <;> cases be <;> simp <;> omega

theorem Thr.key_inj (a b : Thr) (h : a.key = b.key) : a = b := by
  obtain ⟨av, ae⟩ := a; obtain ⟨bv, be⟩ := b
  unfold Thr.key at h; cases ae <;> cases be <;> simp at h ⊢ <;> omega

theorem Thr.join_key (a b : Thr) : (Thr.join a b).key = max a.key b.key := by
  unfold Thr.join
  split
  · next h => have := (Thr.le_iff_key a b).mp h; omega
  · next h => have : ¬ a.key ≤ b.key := fun h' => h ((Thr.le_iff_key a b).mpr h'); omega

theorem Thr.join_comm (a b : Thr) : Thr.join a b = Thr.join b a := by
  apply Thr.key_inj; rw [Thr.join_key, Thr.join_key]; exact Int.max_comm _ _
theorem Thr.join_assoc (a b c : Thr) : Thr.join (Thr.join a b) c = Thr.join a (Thr.join b c) := by
  apply Thr.key_inj; simp only [Thr.join_key]; exact Int.max_assoc _ _ _
theorem Thr.join_idem (a : Thr) : Thr.join a a = a := by
  apply Thr.key_inj; rw [Thr.join_key]; exact Int.max_self _
theorem Thr.le_join_left (a b : Thr) : Thr.le a (Thr.join a b) := by
  rw [Thr.le_iff_key, Thr.join_key]; exact Int.le_max_left _ _
theorem Thr.le_join_right (a b : Thr) : Thr.le b (Thr.join a b) := by
  rw [Thr.le_iff_key, Thr.join_key]; exact Int.le_max_right _ _
theorem Thr.le_refl (a : Thr) : Thr.le a a := (Thr.le_iff_key a a).mpr (Int.le_refl _)
theorem Thr.le_trans {a b c : Thr} (h1 : Thr.le a b) (h2 : Thr.le b c) : Thr.le a c :=
  (Thr.le_iff_key a c).mpr (Int.le_trans ((Thr.le_iff_key a b).mp h1) ((Thr.le_iff_key b c).mp h2))
theorem Thr.le_antisymm {a b : Thr} (h1 : Thr.le a b) (h2 : Thr.le b a) : a = b :=
  Thr.key_inj _ _ (Int.le_antisymm ((Thr.le_iff_key a b).mp h1) ((Thr.le_iff_key b a).mp h2))

/-- the cell of one `(state, depth)` after an update -/
def updCell (cell : Option Thr) (t : Thr) : Option Thr :=
  match cell with
  | none => some t
  | some e => some (Thr.join t e)

theorem CLayer.get_upd_same (l : CLayer S) (s : S) (t : Thr) :
    (l.upd s t).get s = updCell (l.get s) t := by
  induction l with
  | nil => simp [CLayer.upd, CLayer.get, updCell]
  | cons p r ih =>
    obtain ⟨s', e⟩ := p
    by_cases h : s' = s
    · simp [CLayer.upd, CLayer.get, h, updCell]
    · simp [CLayer.upd, CLayer.get, h, ih]

theorem CLayer.get_upd_other (l : CLayer S) (s s2 : S) (t : Thr) (hne : s2 ≠ s) :
    (l.upd s t).get s2 = l.get s2 := by
  induction l with
  | nil => simp [CLayer.upd, CLayer.get]; intro h; exact absurd h.symm hne
  | cons p r ih =>
    obtain ⟨s', e⟩ := p
    by_cases h : s' = s
    · subst h
      have : ¬ s' = s2 := fun h' => hne h'.symm
      simp [CLayer.upd, CLayer.get, this]
    · by_cases h2 : s' = s2
      · subst h2; simp [CLayer.upd, CLayer.get, h]
      · simp [CLayer.upd, CLayer.get, h, h2, ih]

theorem Cache.update_eq_some {c c' : Cache S} {s : S} {d : Nat} {t : Thr} (h : c.update s d t = some c') :
    ∃ l, c.layers[d]? = some l ∧ c' = ⟨c.layers.set d (l.upd s t)⟩ := by
  unfold Cache.update at h
  cases hl : c.layers[d]? with
  | none => rw [hl] at h; cases h
  | some l => rw [hl] at h; exact ⟨l, rfl, (Option.some.inj h).symm⟩

theorem Cache.clearLayer_eq_some {c c' : Cache S} {d : Nat} (h : c.clearLayer d = some c') :
    ∃ l, c.layers[d]? = some l ∧ c' = ⟨c.layers.set d []⟩ := by
  unfold Cache.clearLayer at h
  cases hl : c.layers[d]? with
  | none => rw [hl] at h; cases h
  | some l => rw [hl] at h; exact ⟨l, rfl, (Option.some.inj h).symm⟩

theorem Cache.get_eq {c : Cache S} {d : Nat} {l : CLayer S} (hl : c.layers[d]? = some l) (s : S) :
    c.get s d = some (l.get s) := by
  unfold Cache.get; rw [hl]

theorem Cache.get_set (c : Cache S) (d d2 : Nat) (l l' : CLayer S) (hl : c.layers[d]? = some l) (s2 : S) :
    (⟨c.layers.set d l'⟩ : Cache S).get s2 d2 = if d2 = d then some (l'.get s2) else c.get s2 d2 := by
  unfold Cache.get
  dsimp only
  by_cases hdd : d2 = d
  · subst hdd; rw [if_pos rfl, List.getElem?_set_self (List.getElem?_eq_some_iff.mp hl).1]
  · rw [if_neg hdd, List.getElem?_set_ne (fun h' => hdd h'.symm)]

theorem Cache.get_update (c c' : Cache S) (s s2 : S) (d d2 : Nat) (t : Thr)
    (h : c.update s d t = some c') :
    c'.get s2 d2 = if d2 = d ∧ s2 = s then (c.get s2 d2).map (fun cell => updCell cell t) else c.get s2 d2 := by
  obtain ⟨l, hl, rfl⟩ := Cache.update_eq_some h
  rw [Cache.get_set c d d2 l _ hl]
  by_cases hdd : d2 = d
  · subst hdd
    rw [if_pos rfl, Cache.get_eq hl]
    by_cases hs : s2 = s
    · subst hs; rw [if_pos ⟨rfl, rfl⟩, CLayer.get_upd_same]; rfl
    · rw [if_neg (fun h' => hs h'.2), CLayer.get_upd_other _ _ _ _ hs]
  · rw [if_neg hdd, if_neg (fun h' => hdd h'.1)]

theorem Cache.get_clearLayer (c c' : Cache S) (s2 : S) (d d2 : Nat) (h : c.clearLayer d = some c') :
    c'.get s2 d2 = if d2 = d then some none else c.get s2 d2 := by
  obtain ⟨l, hl, rfl⟩ := Cache.clearLayer_eq_some h
  exact Cache.get_set c d d2 l [] hl s2

theorem Cache.get_clear (c : Cache S) (s2 : S) (d2 : Nat) :
    c.clear.get s2 d2 = (c.get s2 d2).map (fun _ => none) := by
  simp only [Cache.get, Cache.clear, List.getElem?_map]
  cases c.layers[d2]? <;> simp [CLayer.get]

theorem Cache.layers_len_update (c c' : Cache S) (s : S) (d : Nat) (t : Thr) (h : c.update s d t = some c') :
    c'.layers.length = c.layers.length := by
  obtain ⟨l, _, rfl⟩ := Cache.update_eq_some h; exact List.length_set
theorem Cache.layers_len_clearLayer (c c' : Cache S) (d : Nat) (h : c.clearLayer d = some c') :
    c'.layers.length = c.layers.length := by
  obtain ⟨l, _, rfl⟩ := Cache.clearLayer_eq_some h; exact List.length_set
theorem Cache.layers_len_clear (c : Cache S) : c.clear.layers.length = c.layers.length := by
  simp [Cache.clear]

theorem Cache.update_isSome (c : Cache S) (s : S) (d : Nat) (t : Thr) (hd : d < c.layers.length) :
    ∃ c', c.update s d t = some c' := by
  unfold Cache.update; rw [List.getElem?_eq_getElem hd]; exact ⟨_, rfl⟩
theorem Cache.clearLayer_isSome (c : Cache S) (d : Nat) (hd : d < c.layers.length) :
    ∃ c', c.clearLayer d = some c' := by
  unfold Cache.clearLayer; rw [List.getElem?_eq_getElem hd]; exact ⟨_, rfl⟩
theorem Cache.update_none (c : Cache S) (s : S) (d : Nat) (t : Thr) (hd : c.layers.length ≤ d) :
    c.update s d t = none := by
  unfold Cache.update; rw [List.getElem?_eq_none_iff.mpr hd]
theorem Cache.clearLayer_none (c : Cache S) (d : Nat) (hd : c.layers.length ≤ d) :
    c.clearLayer d = none := by
  unfold Cache.clearLayer; rw [List.getElem?_eq_none_iff.mpr hd]

end Ddo
