import DdoModel.Proofs.ParCacheExecTools
import DdoModel.Props.C01dWitness
import DdoModel.Proofs.AnyOrderLayered
/-! # The parallel caching solver, executed: evaluated runs along the scheduler of `Proofs/ParCacheExecTools.lean`

Two runs evaluated in the kernel: `TrapK` (`Trap`: two workers, one compiles against a stale snapshot, optimum 4 at
`Complete`) and `CounterK` (`Layered.Counter`, the table of D14: a delayed worker reads the oldest admissible snapshot,
optimum 10).  The schedule search over the D14 family: `Proofs/ParCacheSearch.lean`. -/
set_option linter.unusedSectionVars false
set_option linter.unusedVariables false
namespace Ddo.ParCache
open Ddo Ddo.C01 Ddo.C09 Ddo.ParSys Ddo.Closed
variable {S : Type} [DecidableEq S]


/-! ### `Trap` (optimum 4), two workers, one compilation against a stale snapshot -/
namespace TrapK
open Ddo.C01.Trap

def s0 : KSys Int := KSys.init prob false 2

/-- steps 1–15: thread 0 enters `get_workload`, pops the root, `must_explore` says yes, takes it (first cache write), reads
    the incumbent, restricted compilation (trapped: value 1), `maybe_update_best` (incumbent 1), relaxed compilation, its
    three `update_threshold` calls one per step, `maybe_update_best`, `enqueue_cutset` (two nodes), `notify`.
    steps 16–21: thread 1 enters `get_workload`, `clear_layer(0)`, pops the node of bound 4, takes it, reads the incumbent 1
    and **enters its restricted compilation** (`compR`, the log has length 7).
    steps 22–32: thread 0 takes the node of bound 3 and processes it completely — four more contents of the shared cache —
    while thread 1 is still inside its compilation (after step 27 both hold a node, `ongoing = 2`).
    step 33: **the compilation of thread 1 ends; its reads were answered by the oldest of the 5 admissible snapshots**
    (`pick = 4`: the content of the shared cache when the compilation began — the current one has two more entries).
    steps 34–38: thread 1 writes its thresholds, publishes the incumbent 4, acknowledges.  steps 39–42: thread 1 enters
    `get_workload`, the cleaning loop clears two layers, `Complete`.  steps 43–44: thread 0 gets `Complete` -/
def sched : List (Nat × Nat) :=
  List.replicate 15 (0, 0) ++ List.replicate 6 (1, 0) ++ List.replicate 11 (0, 0) ++ [(1, 4)] ++ List.replicate 9 (1, 0) ++
    [(0, 0), (0, 0)]

def at_ (k : Nat) : KSys Int := runSchedK (sv false .lel) s0 (sched.take k)

theorem reach (k : Nat) : KPRun (sv false .lel) s0 (at_ k) := runSchedK_run _ _ _

/-- the run at the steps the statements below speak of, in one evaluation -/
theorem run_obs :
    ObsIs (at_ 15) (([0, 0], 0, 2), 1, 5, [1, 2, 0, 0]) ∧ ObsIs (at_ 27) (([9, 8], 2, 0), 1, 8, [0, 2, 0, 0]) ∧
    (ObsIs (at_ 32) (([0, 8], 1, 0), 1, 11, [0, 2, 1, 1]) ∧ k0At (at_ 32) 1 = some 7 ∧
      (snapshot (at_ 32) 7 4).map sizes = some [0, 2, 0, 0] ∧ (snapshot (at_ 32) 7 0).map sizes = some [0, 2, 1, 1] ∧
      snapshot (at_ 32) 7 5 = none) ∧
    ObsIs (at_ 33) (([0, 9], 1, 0), 1, 11, [0, 2, 1, 1]) ∧
    (completesAtB 3 (at_ 41) 1 = true ∧ (at_ 41).crit.base.bestLb = 4) ∧
    ObsIs (at_ 44) (([2, 2], 0, 0), 4, 16, [0, 0, 0, 2]) ∧ (at_ 44).crit.base.crashed = false ∧
    (at_ 44).crit.base.completion = (true, some 4) := by decide +kernel

/-- after step 15 thread 0 has branched on the root: two cut-set nodes in the fringe, incumbent 1 -/
theorem root_obs : obsK (at_ 15) = (([0, 0], 0, 2), 1, 5, [1, 2, 0, 0]) := run_obs.1

/-- after step 27 **both threads hold a cut-set node**: thread 0 is writing thresholds (`wrR`), thread 1 is inside its
    restricted compilation (`compR`) -/
theorem mid_obs : obsK (at_ 27) = (([9, 8], 2, 0), 1, 8, [0, 2, 0, 0]) := run_obs.2.1

/-- before step 33: thread 1 is still inside the compilation it entered when the log had length 7; the log has length 11
    now, so 5 snapshots are admissible; the oldest one (`pick = 4`) has the entries `[0, 2, 0, 0]` per layer, the current
    content of the shared cache `[0, 2, 1, 1]` — **the read of step 33 is stale** -/
theorem stale_obs : obsK (at_ 32) = (([0, 8], 1, 0), 1, 11, [0, 2, 1, 1]) ∧ k0At (at_ 32) 1 = some 7 ∧
    (snapshot (at_ 32) 7 4).map sizes = some [0, 2, 0, 0] ∧ (snapshot (at_ 32) 7 0).map sizes = some [0, 2, 1, 1] ∧
    snapshot (at_ 32) 7 5 = none := run_obs.2.2.1

/-- step 33 is taken (the stale compilation ends normally) -/
theorem stale_step_obs : obsK (at_ 33) = (([0, 9], 1, 0), 1, 11, [0, 2, 1, 1]) := run_obs.2.2.2.1

/-- after step 41 `get_workload` answers `Complete` to thread 1, the incumbent is the optimum 4 -/
theorem completes : CompletesAt 3 (at_ 41) 1 ∧ (at_ 41).crit.base.bestLb = 4 :=
  ⟨completesAtB_sound run_obs.2.2.2.2.1.1, run_obs.2.2.2.2.1.2⟩

/-- at the end every worker has left, nothing panicked, `best_lb = 4` -/
theorem end_obs : obsK (at_ 44) = (([2, 2], 0, 0), 4, 16, [0, 0, 0, 2]) ∧ (at_ 44).crit.base.crashed = false ∧
    (at_ 44).crit.base.completion = (true, some 4) := run_obs.2.2.2.2.2

/-- **a complete two-thread run of the caching parallel solver over the diagram model, with a stale snapshot read, reaches
    `Complete` and then `AllDone` with the optimum** -/
theorem complete_run :
    (∃ t, KPRun (sv false .lel) s0 t ∧ CompletesAt (sv false .lel).P.nbVars t 1 ∧ t.crit.base.bestLb = 4) ∧
    (∃ t, KPRun (sv false .lel) s0 t ∧ AllDone t ∧ NoPanic t ∧ t.crit.base.bestLb = 4) := by
  have hd : AllDone (at_ 44) := allDone_of_obsK 2 end_obs.1
  exact ⟨⟨at_ 41, reach 41, completes.1, completes.2⟩, at_ 44, reach 44, hd,
    ⟨fun w hw e => (by rw [hd w hw] at e; cases e), end_obs.2.1⟩, bestLb_of_obsK end_obs.1⟩

end TrapK

/-! ### `Layered.Counter` (optimum 10, the table of the D14 finding): one worker delayed between its pop and the end of its
compilation, which then reads the oldest admissible snapshot -/
namespace CounterK
open Ddo.C09.Layered

def s0 : KSys Int := KSys.init (prob Counter.T) false 2

/-- steps 1–15: thread 0 branches on the root (incumbent 3, two cut-set nodes).  steps 16–21: thread 1 takes the best node,
    reads the incumbent 3 and enters its restricted compilation — **and is delayed there**.  steps 22–77: thread 0 alone
    takes and processes the four other nodes that appear (incumbent 3 → 4 → 10), 18 more contents of the shared cache,
    then parks (`waiting`: the fringe is empty, thread 1 still holds a node).  step 78: the compilation of thread 1 ends,
    answered by **the oldest of its 19 admissible snapshots** (`pick = 18`) and with the stale incumbent 3.  steps 79–85:
    thread 1 finishes its node, `notify` wakes thread 0.  steps 86–93: thread 1 enters `get_workload`, clears six layers,
    `Complete`.  steps 94–95: thread 0 gets `Complete` -/
def sched : List (Nat × Nat) :=
  List.replicate 15 (0, 0) ++ List.replicate 6 (1, 0) ++ List.replicate 56 (0, 0) ++ [(1, 18)] ++ List.replicate 15 (1, 0) ++
    [(0, 0), (0, 0)]

def at_ (k : Nat) : KSys Int := runSchedK (Counter.sv false .lel) s0 (sched.take k)

theorem reach (k : Nat) : KPRun (Counter.sv false .lel) s0 (at_ k) := runSchedK_run _ _ _

/-- the run at the steps the statements below speak of, in one evaluation -/
theorem run_obs :
    (ObsIs (at_ 21) (([0, 8], 1, 1), 3, 7, [0, 2, 0, 0, 0, 0, 0, 0]) ∧ k0At (at_ 21) 1 = some 7) ∧
    (ObsIs (at_ 77) (([1, 8], 1, 0), 10, 25, [0, 2, 1, 1, 1, 2, 3, 1]) ∧ k0At (at_ 77) 1 = some 7 ∧
      (snapshot (at_ 77) 7 18).map sizes = some [0, 2, 0, 0, 0, 0, 0, 0] ∧ snapshot (at_ 77) 7 19 = none) ∧
    ObsIs (at_ 78) (([1, 9], 1, 0), 10, 25, [0, 2, 1, 1, 1, 2, 3, 1]) ∧
    (completesAtB 7 (at_ 92) 1 = true ∧ (at_ 92).crit.base.bestLb = 10) ∧
    ObsIs (at_ 95) (([2, 2], 0, 0), 10, 33, [0, 0, 0, 0, 0, 0, 0, 1]) ∧ (at_ 95).crit.base.crashed = false ∧
    (at_ 95).crit.base.completion = (true, some 10) := by decide +kernel

/-- thread 1 has just entered its compilation (log length 7), thread 0 is idle -/
theorem freeze_obs : obsK (at_ 21) = (([0, 8], 1, 1), 3, 7, [0, 2, 0, 0, 0, 0, 0, 0]) ∧ k0At (at_ 21) 1 = some 7 := run_obs.1

/-- 56 steps of thread 0 later: thread 0 parked, incumbent 10, the log has length 25: 19 admissible snapshots, the oldest
    one has 2 entries, the current content 11 -/
theorem stale_obs : obsK (at_ 77) = (([1, 8], 1, 0), 10, 25, [0, 2, 1, 1, 1, 2, 3, 1]) ∧ k0At (at_ 77) 1 = some 7 ∧
    (snapshot (at_ 77) 7 18).map sizes = some [0, 2, 0, 0, 0, 0, 0, 0] ∧ snapshot (at_ 77) 7 19 = none := run_obs.2.1

/-- the stale compilation ends normally -/
theorem stale_step_obs : obsK (at_ 78) = (([1, 9], 1, 0), 10, 25, [0, 2, 1, 1, 1, 2, 3, 1]) := run_obs.2.2.1

/-- `Complete` for thread 1 with the optimum 10 -/
theorem completes : CompletesAt 7 (at_ 92) 1 ∧ (at_ 92).crit.base.bestLb = 10 :=
  ⟨completesAtB_sound run_obs.2.2.2.1.1, run_obs.2.2.2.1.2⟩

/-- every worker has left, nothing panicked, `best_lb = 10 = optimum` -/
theorem end_obs : obsK (at_ 95) = (([2, 2], 0, 0), 10, 33, [0, 0, 0, 0, 0, 0, 0, 1]) ∧ (at_ 95).crit.base.crashed = false ∧
    (at_ 95).crit.base.completion = (true, some 10) ∧ optimum Counter.T = 10 :=
  ⟨run_obs.2.2.2.2.1, run_obs.2.2.2.2.2.1, run_obs.2.2.2.2.2.2,
    Option.some.inj ((optimum_eq Counter.T).symm.trans Counter.anyorder_counter.2.1)⟩

end CounterK

end Ddo.ParCache

#print axioms Ddo.ParCache.TrapK.root_obs
#print axioms Ddo.ParCache.TrapK.mid_obs
#print axioms Ddo.ParCache.TrapK.stale_obs
#print axioms Ddo.ParCache.TrapK.stale_step_obs
#print axioms Ddo.ParCache.TrapK.completes
#print axioms Ddo.ParCache.TrapK.end_obs
#print axioms Ddo.ParCache.TrapK.complete_run
#print axioms Ddo.ParCache.CounterK.freeze_obs
#print axioms Ddo.ParCache.CounterK.stale_obs
#print axioms Ddo.ParCache.CounterK.stale_step_obs
#print axioms Ddo.ParCache.CounterK.completes
#print axioms Ddo.ParCache.CounterK.end_obs
