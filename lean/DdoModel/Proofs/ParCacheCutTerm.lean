import DdoModel.Proofs.ParCacheCutInv
/-! # The parallel caching solver with cut-off terminates (`ksysC_terminates'`)

Lexicographic measure `fC`: `(flag, stages left once the flag is up, measure of the system without cut-off)`:
* as long as `abort_proof` is `None` every step is a step of `KStep` (`KStepC.toBase`) and decreases the measure `muK` of
  `Proofs/ParCacheTerm.lean`; the first `abort_search` lowers the flag component;
* once the flag is up no worker can pop any more (`gwAborted` comes before the tests), so every worker only moves forward
  through `… → fin → idle → gwC → done`: `rkA` (sum over the workers of the stages left, `KW.rankA`) never increases, and strictly
  decreases at each of the four new steps (a later `abort_search` included); the steps of `KStep` that keep it decrease `muK`. -/
set_option linter.unusedSectionVars false
set_option linter.unusedVariables false
namespace Ddo.ParCache
open Ddo Ddo.ParSys Ddo.C09
variable {S : Type} [DecidableEq S]

/-- stages left once the flag is up -/
def KW.rankA : KW S → Nat
  | .done | .crashed => 0
  | .gwC => 1
  | .idle | .waiting => 2
  | .fin _ => 3
  | .gwP | .gwW _ => 5
  | _ => 4

def rkA (ws : List (KW S)) : Nat := (ws.map KW.rankA).sum

theorem rkA_set {ws : List (KW S)} {i : Nat} {w : KW S} (a : KW S) (hw : ws[i]? = some w) :
    rkA (ws.set i a) + w.rankA = rkA ws + a.rankA := sum_set KW.rankA a hw

/-- the two stages are compared by evaluation -/
theorem rkA_set_le {ws : List (KW S)} {i : Nat} {w a : KW S} (hw : ws[i]? = some w)
    (h : a.rankA.ble w.rankA = true := by rfl) : rkA (ws.set i a) ≤ rkA ws :=
  Nat.le_of_add_le_add_right
    (Nat.le_trans (Nat.le_of_eq (rkA_set a hw)) (Nat.add_le_add_left (Nat.le_of_ble_eq_true h) _))

theorem rkA_set_lt {ws : List (KW S)} {i : Nat} {w a : KW S} (hw : ws[i]? = some w)
    (h : (a.rankA + 1).ble w.rankA = true := by rfl) : rkA (ws.set i a) < rkA ws :=
  Nat.lt_of_add_lt_add_right
    (Nat.lt_of_le_of_lt (Nat.le_of_eq (rkA_set a hw)) (Nat.add_lt_add_left (Nat.le_of_ble_eq_true h) _))

theorem rankA_wake (w : KW S) : w.wake.rankA = w.rankA := KW.wake_congr KW.rankA rfl w

theorem rkA_wake (ws : List (KW S)) : rkA (ws.map KW.wake) = rkA ws := by
  unfold rkA
  rw [List.map_map]
  congr 1
  exact List.map_congr_left (fun w _ => rankA_wake w)

theorem rkA_wake_set_lt {ws : List (KW S)} {i : Nat} {w a : KW S} (hw : ws[i]? = some w)
    (h : (a.rankA + 1).ble w.rankA = true := by rfl) : rkA ((ws.map KW.wake).set i a) < rkA ws :=
  rkA_wake ws ▸ rkA_set_lt (get_wake_of hw) ((rankA_wake w).symm ▸ h)

theorem kstepC_rank_le {nbVars : Nat} {dedup : Bool} {okR okX : SubP S → Int → Cache S → DDOut S → List (Up S) → Prop}
    {s t : KSysC S} (h : KStepC nbVars dedup okR okX s t) (ha' : s.k.crit.base.abort = true) :
    rkA t.k.ws ≤ rkA s.k.ws := by
  cases h with
  | gwEnter s e i hw hl => exact rkA_set_le hw
  | gwClear s e i c' hw hc hcl => exact Nat.le_refl _
  | gwAborted s e i hw hc ha => exact rkA_set_le hw
  | gwComplete s e i hw hc ha ho hf => exact rkA_set_le hw
  | gwWait s e i hw hc ha ho hf => exact absurd (ha'.symm.trans ha) (by decide)
  | gwToPop s e i hw hc ha hf => exact absurd (ha'.symm.trans ha) (by decide)
  | gwEmpty s e i hw hf => exact rkA_set_le hw
  | gwStarve s e i N rest hw hp hub => exact rkA_set_le hw
  | gwDrop s e i N rest c' hw hp hub hme hd => exact Nat.le_refl _
  | gwKeep s e i N rest hw hp hub hme => exact rkA_set_le hw
  | gwTake s e i n c' crit' hw hu ht => exact rkA_set_le hw
  | readLbR s e i n hw hl => exact rkA_set_le hw (by split <;> rfl)
  | compileR s e i n lb k0 cv o ups hw hcv hok => exact rkA_set_le hw
  | writeR s e i n lb o cv ups u todo c' hw hu => exact rkA_set_le hw
  | updateR s e i n lb o cv ups hw hl => exact rkA_set_le hw (by split <;> rfl)
  | readLbX s e i n hw hl => exact rkA_set_le hw
  | compileX s e i n lb k0 cv o ups hw hcv hok => exact rkA_set_le hw
  | writeX s e i n lb o cv ups u todo c' hw hu => exact rkA_set_le hw
  | updateX s e i n lb o cv ups hw hl => exact rkA_set_le hw (by split <;> rfl)
  | enqueue s e i n lb o cv ups hw hl => exact rkA_set_le hw
  | abortR s e i n lb k0 top hw hl htop => exact rkA_set_le hw
  | abortX s e i n lb k0 top hw hl htop => exact rkA_set_le hw
  | notify s e i n c' hw hl hi hn => exact Nat.le_of_lt (rkA_wake_set_lt hw)
  | notifyExit s e i n c' hw hl hi hn => exact Nat.le_of_lt (rkA_wake_set_lt hw)
  | crash s e i w hw hp => exact rkA_set_le hw (Nat.ble_eq_true_of_le (Nat.zero_le _))

theorem newstep_rank_lt {nbVars : Nat} {s t : KSysC S} (h : NewStep nbVars s t) : rkA t.k.ws < rkA s.k.ws := by
  cases h with
  | gwAborted s e i hw hc ha => exact rkA_set_lt hw
  | abortR s e i n lb k0 top hw hl htop => exact rkA_set_lt hw
  | abortX s e i n lb k0 top hw hl htop => exact rkA_set_lt hw
  | notifyExit s e i n c' hw hl hi hn => exact rkA_wake_set_lt hw

theorem lex3 {γ : Type} {r : γ → γ → Prop} {a a' b b' : Nat} {c c' : γ}
    (h : a' < a ∨ (a' = a ∧ (b' < b ∨ (b' = b ∧ r c' c)))) :
    Prod.Lex (· < ·) (Prod.Lex (· < ·) r) (a', b', c') (a, b, c) := by
  rcases h with h | ⟨rfl, h | ⟨rfl, h⟩⟩
  · exact .left _ _ h
  · exact .right _ (.left _ _ h)
  · exact .right _ (.right _ h)

def fC (s : KSysC S) : Nat × Nat × KSys S :=
  (if s.k.crit.base.abort then 0 else 1, if s.k.crit.base.abort then rkA s.k.ws else 0, s.k)

/-- the step relation of the parallel caching solver with cut-off, restricted to the states whose
    pending cut-sets make progress (`ProgOkK`) and in which `exits` is empty while the flag is down, is well-founded: any
    number of threads, any interleaving, any number of aborts at any position -/
theorem ksysC_terminates' (nbVars : Nat) (dedup : Bool) (okR okX : SubP S → Int → Cache S → DDOut S → List (Up S) → Prop) :
    WellFounded (fun t s : KSysC S => KStepC nbVars dedup okR okX s t ∧ ProgOkK nbVars s.k ∧
      ∀ i ∈ s.exits, s.k.crit.base.abort = true) := by
  have wfb := ksys_terminates' nbVars dedup okR okX
  have wfL : WellFounded (Prod.Lex (· < ·) (Prod.Lex (· < ·)
      (fun t s : KSys S => KStep nbVars dedup okR okX s t ∧ ProgOkK nbVars s))) :=
    (@Prod.lex _ _ ⟨_, Nat.lt_wfRel.wf⟩ (@Prod.lex _ _ ⟨_, Nat.lt_wfRel.wf⟩ ⟨_, wfb⟩)).wf
  refine Subrelation.wf ?_ (InvImage.wf fC wfL)
  intro t s ⟨h, hp, hex⟩
  show Prod.Lex _ _ (fC t) (fC s)
  unfold fC
  apply lex3
  cases ha : s.k.crit.base.abort with
  | true =>
    rw [h.flag_stays ha]
    refine .inr ⟨rfl, ?_⟩
    show rkA t.k.ws < rkA s.k.ws ∨ rkA t.k.ws = rkA s.k.ws ∧ _
    rcases h.toBase with ⟨hb, _⟩ | hn
    · exact (Nat.lt_or_eq_of_le (kstepC_rank_le h ha)).imp_right (fun h1 => ⟨h1, hb, hp⟩)
    · exact .inl (newstep_rank_lt hn)
  | false =>
    cases hat : t.k.crit.base.abort with
    | true => exact .inl Nat.zero_lt_one
    | false =>
      refine .inr ⟨rfl, .inr ⟨rfl, ?_, hp⟩⟩
      rcases h.toBase with ⟨hb, _⟩ | hn
      · exact hb
      · exact absurd ((newstep_flag_up hn (fun i hi => hex i hi)).symm.trans hat) (by decide)

end Ddo.ParCache

#print axioms Ddo.ParCache.ksysC_terminates'
