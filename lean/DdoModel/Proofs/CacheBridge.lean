import DdoModel.Proofs.Theta
import DdoModel.Proofs.ThetaCover
import DdoModel.Proofs.SeqCache
import DdoModel.Proofs.SeqCacheDedup
import DdoModel.Proofs.SolverCfg
/-! Between the threshold theorems of the diagram (`Proofs/Theta….lean`) and the abstract caching solver (`Proofs/SeqCache.lean`): the magnitudes
`RgB` of the solver invariant for a model with costs bounded by `B` and their arithmetic (`bd_shift`, `bd_shift_small`), the cache alternative of the
diagram theorems read as the `CacheCov` of the invariant (`cacheAlt_cov`), `bk` of the diagram as the incumbent after `maybe_update_best`
(`bkOf_updateBest`), and two frame facts of the invariant (`cinvC_perm`, `popped_fields`).  The contracts themselves: `Props/C09b.lean`. -/
set_option linter.unusedSectionVars false
set_option linter.unusedVariables false
namespace Ddo.C09
open Ddo Ddo.Theta
variable {S K : Type} [DecidableEq S] [DecidableEq K]

/-- the magnitudes of Stage 2 for a model whose costs are bounded by `B`: a value at depth `d` is within `(d + 1) · B` -/
def RgB (B : Int) (d : Nat) (v : Int) : Prop := Cover.Within (Cover.Bd B d) v

theorem bd_shift (B : Int) (k0 d : Nat) (h : k0 ≤ d) : (k0 : Int) * B + Cover.Bd B (d - k0) = Cover.Bd B d := by
  unfold Cover.Bd
  rw [← Int.add_mul]
  congr 1
  omega

theorem bd_shift_small {P : Problem S} {R : Relax S} {rv B : Int} (hB : NoClamp P R rv B) (k0 : Nat) (hk : k0 ≤ P.nbVars) :
    (k0 : Int) * B + Cover.Bd B (P.nbVars + 1) ≤ big := by
  have h0 := hB.nonneg
  have h1 : (k0 : Int) * B ≤ (P.nbVars : Int) * B := Int.mul_le_mul_of_nonneg_right (by omega) h0
  have h2 := hB.small
  have e1 : ((P.nbVars : Int) + 2) * B = (P.nbVars : Int) * B + 2 * B := by rw [Int.add_mul]
  have e2 : Cover.Bd B (P.nbVars + 1) = (P.nbVars : Int) * B + 2 * B := by
    unfold Cover.Bd
    rw [show ((P.nbVars + 1 : Nat) : Int) + 1 = (P.nbVars : Int) + 2 by omega, Int.add_mul]
  rw [e2]
  rw [e1] at h2
  unfold big
  by_cases hz : B = 0
  · subst hz; simp
  · have : 1 ≤ B := by omega
    omega

theorem cacheAlt_cov {cfg : Cfg S K} {H : Nat → S → EInt} {B : Int} {cache : Cache S} {d : Nat} {x : Int}
    (hd : cfg.root.depth ≤ d) (h : CacheAlt cfg H B ((cfg.root.depth : Int) * B) cache d x) :
    CacheCov H (RgB B) (viewOf cache) d x := by
  obtain ⟨_, s', d', t, v', h', a1, a2, a3, a4, a5, a6⟩ := h
  refine ⟨s', d', t, v', h', ?_, a2, ?_, a4, a5, a6⟩
  · unfold viewOf; rw [a1]; rfl
  · unfold RgB; rw [← bd_shift B cfg.root.depth d' (by omega)]; exact a3

theorem bkOf_updateBest (st : SeqSt S) (o : DDOut S) : bkOf st.bestLb o.bestExact = (st.updateBest o).bestLb := by
  unfold bkOf SeqSt.updateBest
  cases o.bestExact with
  | none => rfl
  | some w =>
    dsimp only
    split
    · dsimp only; omega
    · omega

section
variable (H : Nat → S → EInt) (opt : Int) (Sol : List Dec → Int → Prop) (Rg : Nat → Int → Prop)

theorem cinvC_perm {F F' : List (SubP S)} {T : CView S} {lb : Int} {sol : Option (List Dec)} (hp : F.Perm F')
    (h : CInvC H opt Sol Rg F T lb sol) : CInvC H opt Sol Rg F' T lb sol := by
  have live : ∀ x d, Live H F T x d → Live H F' T x d := by
    rintro x d ⟨c, hc, rest⟩
    exact ⟨c, hp.mem_iff.mp hc, rest⟩
  exact ⟨fun c hc => h.good c (hp.mem_iff.mpr hc), fun c hc => h.rng c (hp.mem_iff.mpr hc), h.lbOk, h.solOk,
    fun hgt => live _ _ (h.root hgt), fun s d t v hh h1 h2 h3 h4 h5 => live _ _ (h.cache s d t v hh h1 h2 h3 h4 h5),
    fun c hc y hy hgt => live _ _ (h.open_ c (hp.mem_iff.mpr hc) y hy hgt)⟩

theorem popped_fields (s : SeqSt S) (N : SubP S) (rest : List (SubP S)) (fa : Nat) :
    (C01.popped s N rest fa).fringe = rest ∧ (C01.popped s N rest fa).bestLb = s.bestLb ∧
    (C01.popped s N rest fa).bestSol = s.bestSol := by
  unfold C01.popped SeqSt.afterPop
  dsimp only
  split <;> exact ⟨rfl, rfl, rfl⟩

end

end Ddo.C09
