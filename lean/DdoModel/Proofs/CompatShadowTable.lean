import DdoModel.Proofs.CompatGridWf
/-! `Shadow`: the 11-state, 6-variable instance of the table family `Grid` (`Proofs/CompatGrid.lean`, `Proofs/CompatGridWf.lean`); its
checks hold by evaluation, hence it is well formed, its rule satisfies `SimAll` and its merge operator is maximal for the rule.  The
runs on it: `Proofs/CompatShadow.lean`. -/
set_option linter.unusedSectionVars false
set_option linter.unusedVariables false
namespace Ddo.C10d.Shadow
open Ddo Ddo.C01 Ddo.Closed Ddo.C09 Ddo.C10 Ddo.C10c Ddo.C10d.Grid

def T : Tab :=
  { n := 6, m := 11, init := 0,
    co := [(60, -60), (10, -10), (20, -20), (51, -50), (50, -49), (41, -40), (40, -40), (61, -60), (51, -49), (42, -40), (100, 100)],
    trl := [1, 2, 0, 0, 0, 0, 0, 0, 0, 0, 0, 0, 0, 0, 1, 2, 0, 0, 0, 0, 10, 10, 0, 0, 1, 1, 2, 2, 0, 0, 0, 0, 0, 0, 0, 0, 0, 0, 0, 0, 0, 0, 10, 10, 0, 0, 1, 1, 3, 4, 0, 0, 0, 0, 0, 0, 0, 0, 0, 0, 0, 0, 0, 0, 10, 10, 0, 0, 6, 6, 0, 0, 5, 5, 6, 6, 0, 0, 0, 0, 0, 0, 9, 6, 0, 0, 10, 10, 0, 0, 0, 0, 0, 0, 0, 0, 0, 0, 7, 0, 7, 0, 0, 0, 0, 0, 7, 0, 10, 10, 0, 0, 0, 0, 0, 0, 0, 0, 0, 0, 0, 0, 0, 0, 0, 0, 0, 0, 0, 0, 10, 10],
    cl := [2, 1, 0, 0, 0, 0, 0, 0, 0, 0, 0, 0, 0, 0, 2, 1, 0, 0, 0, 0, 2, 2, 0, 0, -2, -2, -1, -1, 0, 0, 0, 0, 0, 0, 0, 0, 0, 0, 0, 0, 0, 0, 0, 0, 0, 0, 0, 0, 1, 0, 0, 0, 0, 0, 0, 0, 0, 0, 0, 0, 0, 0, 0, 0, 1, 1, 0, 0, 0, 0, 0, 0, -1, -1, -1, -1, 0, 0, 0, 0, 0, 0, -1, -1, 0, 0, 0, 0, 0, 0, 0, 0, 0, 0, 0, 0, 0, 0, 0, 5, 0, 5, 0, 0, 0, 0, 0, 5, 5, 5, 0, 0, 0, 0, 0, 0, 0, 0, 0, 0, 0, 0, 0, 0, 10, 10, 0, 0, 0, 0, 10, 10],
    dl := [3, 3, 3, 3, 3, 3, 3, 3, 3, 3, 3, 3, 3, 3, 3, 3, 3, 3, 3, 3, 3, 3, 3, 3, 3, 3, 3, 3, 3, 3, 3, 3, 3, 3, 3, 3, 3, 3, 3, 3, 3, 3, 3, 3, 3, 3, 3, 3, 3, 3, 3, 3, 3, 3, 3, 3, 3, 3, 3, 3, 3, 3, 3, 3, 3, 3],
    jl := [0, 10, 10, 10, 10, 10, 10, 7, 10, 10, 10, 10, 1, 10, 10, 10, 10, 10, 10, 10, 10, 10, 10, 10, 2, 10, 10, 10, 10, 10, 10, 10, 10, 10, 10, 10, 3, 8, 10, 10, 10, 10, 10, 10, 10, 10, 10, 8, 4, 10, 10, 10, 10, 10, 10, 10, 10, 10, 10, 10, 5, 10, 10, 10, 10, 10, 10, 10, 10, 10, 10, 10, 6, 10, 10, 10, 10, 7, 10, 10, 10, 10, 10, 10, 7, 10, 10, 10, 10, 10, 10, 10, 10, 10, 10, 10, 8, 10, 10, 10, 10, 10, 10, 10, 10, 10, 10, 10, 9, 10, 10, 10, 10, 10, 10, 10, 10, 10, 10, 10, 10],
    rubl := [30, 30, 30, 30, 30, 30, 30, 30, 30, 5, 30],
    rk := [0, 1, 2, 3, 4, 5, 6, 7, 8, 9, 10] }

def hl : List (Option Int) :=
  [some (10), none, none, none, none, none, none, some (10), none, none, some (18), none, some (8), some (9), none, none, none, none, none, none, none, some (16), none, some (10), some (10), none, none, none, none, none, none, none, some (16), none, some (10), none, some (9), some (9), none, none, none, some (9), none, some (15), none, none, none, none, none, some (10), some (10), none, none, none, some (15), some (0), none, none, none, none, none, none, some (10), none, none, some (10)]

def rl : List Bool :=
  [true, false, false, false, false, false, false, false, false, false, false, false, true, true, false, false, false, false, false, false, false, false, false, true, true, false, false, false, false, false, false, false, false, false, true, false, true, true, false, false, false, false, false, false, false, false, false, false, false, true, true, false, false, false, false, true, false, false, false, false, false, false, true, false, false, false, true, false, false, false, false, false, false, false, false, false, false]

def ws : List Nat := List.replicate 77 1

/-- the three checks in one evaluation (they read the same table entries) -/
theorem checks : checkSim T = true ∧ checkJoin T = true ∧ checkWF T hl rl 10 = true := by decide +kernel
theorem checkSim_true : checkSim T = true := checks.1
theorem checkJoin_true : checkJoin T = true := checks.2.1
theorem checkWF_true : checkWF T hl rl 10 = true := checks.2.2

theorem staticOrder : StaticOrder (prob T) := Grid.staticOrder T
theorem simAll : SimAll (rule T) (prob T) 2 := simAll_of_check T checkSim_true (by decide)
theorem mergeCompat : MergeCompat (rule T) (rlx T) 2 := mergeCompat_of_check T checkJoin_true (by decide)

theorem wellFormed (dedup : Bool) (kind : CutsetKind) : WellFormed (dv T ws dedup kind).sv (Hof T hl) 10 80 :=
  wellFormed_of_check T hl rl ws dedup kind 10 80 checkWF_true (by decide) (by decide)

theorem opt10 : (Hof T hl 0 (prob T).init).addI (prob T).initVal = some 10 := by
  rw [opt_of_check T hl (by decide) (by decide)]; rfl

end Ddo.C10d.Shadow

#print axioms Ddo.C10d.Shadow.checkSim_true
#print axioms Ddo.C10d.Shadow.checkJoin_true
#print axioms Ddo.C10d.Shadow.checkWF_true
#print axioms Ddo.C10d.Shadow.simAll
#print axioms Ddo.C10d.Shadow.mergeCompat
#print axioms Ddo.C10d.Shadow.wellFormed
#print axioms Ddo.C10d.Shadow.opt10
