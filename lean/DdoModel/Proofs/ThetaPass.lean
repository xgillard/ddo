import DdoModel.Proofs.MddBounds
/-! Stage 1 of C09, bottom-up part: what `computeThresholds` (`_compute_thresholds` + `_maybe_update_cache`) computes,
    in *pull* form.  Pure list / fold analysis, no model hypothesis except "every inbound arc comes from the previous layer".

For every node `n` that is not `deleted`, let `θp` be the threshold it holds when its turn comes (`theta` at processing
time).  Then
* `θp` is below the threshold the node started with (`thInit`: the terminal nodes start with `bk` under the conditions of
  the code, the nodes pruned by the cache with the cached value);
* for every child `m` (not deleted, processed before, final threshold `t`) and every inbound arc `e` of `m` coming from `n`:
  `θp ≤ satSub t e.cost`;
* the final threshold of `n` is `ownTheta bk n θp` (the case analysis of the code);
and every emitted cache update is `(state, depth, final theta, !cutset)` of a node that is not deleted, not pruned by the
cache, flagged `above`. -/
set_option linter.unusedSectionVars false
set_option linter.unusedVariables false
namespace Ddo.Theta
open Ddo Ddo.Bounds
variable {S : Type} [DecidableEq S]

/-- `best_known` of `_compute_thresholds` -/
def bkOf (lb : Int) (bestExact : Option Int) : Int :=
  match bestExact with | some v => max lb v | none => lb

def thInit (kind : CutsetKind) (isExactField : Bool) (lb : Int) (bestExact : Option Int)
    (termL : Option Nat) (layers : List (List (Node S))) : List (List (Node S)) :=
  match bestExact, termL with
  | some _, some tl =>
    layers.set tl ((layers[tl]?.getD []).map (fun n =>
      if (kind == .lel && isExactField) || (kind == .frontier && n.isExact) then { n with theta := some (bkOf lb bestExact) } else n))
  | _, _ => layers

/-- the threshold a node ends with, from the threshold `θp` it holds when its turn comes -/
def ownTheta (bk : Int) (n : Node S) (θp : Option Int) : Option Int :=
  if n.cache then θp
  else if satAdd n.value n.rub ≤ bk then some (satSub bk n.rub)
  else if n.cutset then
    (if satAdd n.value n.vbot ≤ bk then some (min (θp.getD iMax) (satSub bk n.vbot)) else some n.value)
  else if n.isExact && θp.isNone then some iMax
  else θp

section
variable {bk : Int} {n : Node S} {θp : Option Int}

theorem ownTheta_rub (hc : n.cache = false) (hr : satAdd n.value n.rub ≤ bk) :
    ownTheta bk n θp = some (satSub bk n.rub) := by
  unfold ownTheta; rw [hc, if_neg Bool.false_ne_true, if_pos hr]

theorem ownTheta_cut (hc : n.cache = false) (hr : ¬ satAdd n.value n.rub ≤ bk) (hcut : n.cutset = true) :
    ownTheta bk n θp =
      if satAdd n.value n.vbot ≤ bk then some (min (θp.getD iMax) (satSub bk n.vbot)) else some n.value := by
  unfold ownTheta; rw [hc, if_neg Bool.false_ne_true, if_neg hr, if_pos hcut]

theorem ownTheta_inner (hc : n.cache = false) (hr : ¬ satAdd n.value n.rub ≤ bk) (hcut : n.cutset = false) (tp : Int) :
    ownTheta bk n (some tp) = some tp := by
  unfold ownTheta
  rw [hc, if_neg Bool.false_ne_true, if_neg hr, hcut, if_neg Bool.false_ne_true, Option.isNone_some, Bool.and_false,
    if_neg Bool.false_ne_true]
end

abbrev Ups (S : Type) := List (S × Nat × Int × Bool)
abbrev Acc (S : Type) := List (List (Node S)) × Ups S

def thUpd (x : Int) (par : Node S) : Node S := { par with theta := some (min (par.theta.getD iMax) x) }
def thArc (t : Int) (ls : List (List (Node S))) (e : Arc) : List (List (Node S)) :=
  modNode ls e.fromL e.fromP (thUpd (satSub t e.cost))
def thOwn (bk : Int) (n : Node S) : Node S :=
  if satAdd n.value n.rub ≤ bk then { n with theta := some (satSub bk n.rub) }
  else if n.cutset then
    if satAdd n.value n.vbot ≤ bk then { n with theta := some (min (n.theta.getD iMax) (satSub bk n.vbot)) }
    else { n with theta := some n.value }
  else if n.isExact && n.theta.isNone then { n with theta := some iMax }
  else n
def thUps (n1 : Node S) (ups : Ups S) : Ups S :=
  match n1.theta with
  | some t => if n1.above then (n1.state, n1.depth, t, !n1.cutset) :: ups else ups
  | none => ups
def thNode (bk : Int) (n : Node S) (ups : Ups S) : Node S × Ups S :=
  if !n.cache then (thOwn bk n, thUps (thOwn bk n) ups) else (n, ups)
def thPos (bk : Int) (l : Nat) (acc : Acc S) (p : Nat) : Acc S :=
  match getNode acc.1 l p with
  | none => acc
  | some n =>
    if n.deleted then acc else
    match (thNode bk n acc.2).1.theta with
    | some t => ((thNode bk n acc.2).1.inb.foldl (thArc t) (modNode acc.1 l p (fun _ => (thNode bk n acc.2).1)), (thNode bk n acc.2).2)
    | none => (modNode acc.1 l p (fun _ => (thNode bk n acc.2).1), (thNode bk n acc.2).2)
def thLayer (bk : Int) (acc : Acc S) (l : Nat) : Acc S :=
  (List.range (acc.1[l]?.getD []).length).foldl (thPos bk l) acc

theorem computeThresholds_eq (kind : CutsetKind) (isExactField : Bool) (lb : Int) (bestExact : Option Int)
    (termL : Option Nat) (layers : List (List (Node S))) :
    computeThresholds kind isExactField lb bestExact termL layers =
      (List.range (thInit kind isExactField lb bestExact termL layers).length).reverse.foldl (thLayer (bkOf lb bestExact))
        (thInit kind isExactField lb bestExact termL layers, []) := by
  rfl

theorem foldl_range_inv {β : Type} (f : β → Nat → β) (P : Nat → β → Prop) (n : Nat) (b : β) (h0 : P 0 b)
    (hstep : ∀ i b, i < n → P i b → P (i + 1) (f b i)) : P n ((List.range n).foldl f b) := by
  induction n with
  | zero => exact h0
  | succ n ih =>
    rw [List.range_succ, List.foldl_append, List.foldl_cons, List.foldl_nil]
    exact hstep n _ (Nat.lt_succ_self n) (ih (fun i b hi => hstep i b (by omega)))

theorem foldl_range_rev_inv {β : Type} (f : β → Nat → β) (P : Nat → β → Prop) (n : Nat) (b : β) (h0 : P n b)
    (hstep : ∀ i b, i < n → P (i + 1) b → P i (f b i)) : P 0 ((List.range n).reverse.foldl f b) := by
  induction n generalizing b with
  | zero => exact h0
  | succ n ih =>
    rw [List.range_succ, List.reverse_append, List.reverse_singleton, List.singleton_append, List.foldl_cons]
    exact ih _ (hstep n b (Nat.lt_succ_self n) h0) (fun i b hi => hstep i b (by omega))

/-- a field that a pass does not write (`g` = the node without the fields of that pass) is the same on both sides -/
theorem strip_congr {α : Type} (g : Node S → Node S) (f : Node S → α) (hg : ∀ n, f (g n) = f n) {a b : Node S}
    (h : g a = g b) : f a = f b := by
  rw [← hg a, h, hg]

theorem stripT_more {a b : Node S} (h : stripT a = stripT b) :
    a.cache = b.cache ∧ a.cutset = b.cutset ∧ a.fExact = b.fExact ∧ a.fRelaxed = b.fRelaxed ∧ a.above = b.above ∧
    a.deleted = b.deleted ∧ a.inb = b.inb :=
  ⟨strip_congr stripT Node.cache (fun _ => rfl) h, strip_congr stripT Node.cutset (fun _ => rfl) h,
    strip_congr stripT Node.fExact (fun _ => rfl) h, strip_congr stripT Node.fRelaxed (fun _ => rfl) h,
    strip_congr stripT Node.above (fun _ => rfl) h, strip_congr stripT Node.deleted (fun _ => rfl) h,
    strip_congr stripT Node.inb (fun _ => rfl) h⟩

theorem ownTheta_congr {a b : Node S} (h : stripT a = stripT b) (bk : Int) (θ : Option Int) :
    ownTheta bk a θ = ownTheta bk b θ := by
  obtain ⟨h1, h2, h3, h4, _, _, _⟩ := stripT_more h
  obtain ⟨_, g2, g3, _, _, g6⟩ := stripT_fields h
  unfold ownTheta Node.isExact
  rw [h1, h2, h3, h4, g2, g3, g6]

theorem thOwn_eq (bk : Int) (n : Node S) (hc : n.cache = false) :
    thOwn bk n = { n with theta := ownTheta bk n n.theta } := by
  unfold thOwn ownTheta
  rw [if_neg (fun h => Bool.false_ne_true (hc ▸ h))]
  by_cases h1 : satAdd n.value n.rub ≤ bk
  · rw [if_pos h1, if_pos h1]
  rw [if_neg h1, if_neg h1]
  by_cases h2 : n.cutset = true
  · rw [if_pos h2, if_pos h2]
    by_cases h3 : satAdd n.value n.vbot ≤ bk
    · rw [if_pos h3, if_pos h3]
    · rw [if_neg h3, if_neg h3]
  rw [if_neg h2, if_neg h2]
  by_cases h4 : (n.isExact && n.theta.isNone) = true
  · rw [if_pos h4, if_pos h4]
  · rw [if_neg h4, if_neg h4]

theorem thNode_strip (bk : Int) (n : Node S) (ups : Ups S) : stripT (thNode bk n ups).1 = stripT n := by
  unfold thNode
  cases hc : n.cache
  · rw [thOwn_eq bk n hc]; rfl
  · rfl

theorem thNode_theta (bk : Int) (n : Node S) (ups : Ups S) : (thNode bk n ups).1.theta = ownTheta bk n n.theta := by
  unfold thNode
  cases hc : n.cache
  · rw [thOwn_eq bk n hc]; rfl
  · unfold ownTheta; rw [hc]; rfl

theorem thNode_ups (bk : Int) (n : Node S) (ups : Ups S) (u : S × Nat × Int × Bool) (hu : u ∈ (thNode bk n ups).2) :
    u ∈ ups ∨ ((thNode bk n ups).1.cache = false ∧ (thNode bk n ups).1.above = true ∧
      ∃ t, (thNode bk n ups).1.theta = some t ∧
        u = ((thNode bk n ups).1.state, (thNode bk n ups).1.depth, t, !(thNode bk n ups).1.cutset)) := by
  have hs := (stripT_more (thNode_strip bk n ups)).1
  revert hu hs
  unfold thNode
  cases hc : n.cache
  · simp only [Bool.not_false, if_true]
    intro hu hs
    unfold thUps at hu
    split at hu
    · rename_i t ht
      split at hu
      · rename_i ha
        rcases List.mem_cons.mp hu with rfl | hu
        · exact Or.inr ⟨hs, ha, t, ht, rfl⟩
        · exact Or.inl hu
      · exact Or.inl hu
    · exact Or.inl hu
  · simp only [Bool.not_true, Bool.false_eq_true, if_false]
    intro hu _
    exact Or.inl hu
def Below (θ : Option Int) (b : Int) : Prop := ∃ tp, θ = some tp ∧ tp ≤ b

theorem thUpd_below (x : Int) (n : Node S) {b : Int} (h : Below n.theta b) : Below (thUpd x n).theta b := by
  obtain ⟨tp, h1, h2⟩ := h
  refine ⟨min tp x, ?_, by omega⟩
  simp only [thUpd, h1, Option.getD_some]

theorem thUpd_new (x : Int) (n : Node S) : Below (thUpd x n).theta x :=
  ⟨min (n.theta.getD iMax) x, rfl, by omega⟩

theorem getNode_thArc (t : Int) (ls : List (List (Node S))) (e : Arc) (l p : Nat) :
    getNode (thArc t ls e) l p =
      if l = e.fromL ∧ p = e.fromP then (getNode ls l p).map (thUpd (satSub t e.cost)) else getNode ls l p :=
  getNode_modNode ls e.fromL e.fromP _ l p

theorem thArcs_tEq (t : Int) (es : List Arc) (ls : List (List (Node S))) : TEq (es.foldl (thArc t) ls) ls :=
  Ddo.foldl_inv (fun b => TEq b ls) _ _ _ (TEq.refl ls) (fun b e _ hb => hb.modNode _ _ _ (fun _ _ => rfl))

theorem thArcs_frame (t : Int) (es : List Arc) (ls : List (List (Node S))) (l p : Nat)
    (h : ∀ e ∈ es, e.fromL ≠ l) : getNode (es.foldl (thArc t) ls) l p = getNode ls l p := by
  refine Ddo.foldl_inv (fun b => getNode b l p = getNode ls l p) _ _ _ rfl ?_
  intro b e he hb
  rw [getNode_thArc, if_neg (fun hc => h e he hc.1.symm)]
  exact hb

theorem thArcs_spec (t : Int) (es : List Arc) : ∀ (ls : List (List (Node S))) (l p : Nat) (x : Node S),
    getNode ls l p = some x →
    ∃ y, getNode (es.foldl (thArc t) ls) l p = some y ∧ (∀ b, Below x.theta b → Below y.theta b) ∧
      (∀ e ∈ es, e.fromL = l → e.fromP = p → Below y.theta (satSub t e.cost)) := by
  induction es with
  | nil => intro ls l p x hx; exact ⟨x, hx, fun _ h => h, fun e he => by cases he⟩
  | cons e es ih =>
    intro ls l p x hx
    rw [List.foldl_cons]
    by_cases hc : l = e.fromL ∧ p = e.fromP
    · have hx' : getNode (thArc t ls e) l p = some (thUpd (satSub t e.cost) x) := by
        rw [getNode_thArc, if_pos hc, hx]; rfl
      obtain ⟨y, hy, hmono, harc⟩ := ih _ l p _ hx'
      refine ⟨y, hy, fun b hb => hmono b (thUpd_below _ x hb), ?_⟩
      intro e' he' h1 h2
      rcases List.mem_cons.mp he' with rfl | he'
      · exact hmono _ (thUpd_new _ x)
      · exact harc e' he' h1 h2
    · have hx' : getNode (thArc t ls e) l p = some x := by
        rw [getNode_thArc, if_neg hc, hx]
      obtain ⟨y, hy, hmono, harc⟩ := ih _ l p _ hx'
      refine ⟨y, hy, hmono, ?_⟩
      intro e' he' h1 h2
      rcases List.mem_cons.mp he' with rfl | he'
      · exact absurd ⟨h1.symm, h2.symm⟩ hc
      · exact harc e' he' h1 h2

theorem thPos_none (bk : Int) (i p : Nat) (ls : List (List (Node S))) (ups : Ups S)
    (hn : getNode ls i p = none) : thPos bk i (ls, ups) p = (ls, ups) := by
  unfold thPos
  dsimp only
  rw [hn]

theorem thPos_deleted (bk : Int) (i p : Nat) (ls : List (List (Node S))) (ups : Ups S) (n : Node S)
    (hn : getNode ls i p = some n) (hd : n.deleted = true) : thPos bk i (ls, ups) p = (ls, ups) := by
  unfold thPos
  dsimp only
  rw [hn]
  dsimp only
  rw [if_pos hd]

theorem thPos_facts (bk : Int) (i p : Nat) (ls : List (List (Node S))) (ups : Ups S) (n : Node S)
    (hn : getNode ls i p = some n) (hd : n.deleted = false) (harcs : ∀ e ∈ n.inb, e.fromL + 1 = i) :
    ∃ n1, stripT n1 = stripT n ∧ n1.theta = ownTheta bk n n.theta ∧
      TEq (thPos bk i (ls, ups) p).1 ls ∧
      getNode (thPos bk i (ls, ups) p).1 i p = some n1 ∧
      (∀ l' p', l' + 1 ≠ i → ¬(l' = i ∧ p' = p) → getNode (thPos bk i (ls, ups) p).1 l' p' = getNode ls l' p') ∧
      (∀ l' p' x, l' + 1 = i → getNode ls l' p' = some x → ∃ y, getNode (thPos bk i (ls, ups) p).1 l' p' = some y ∧
        (∀ b, Below x.theta b → Below y.theta b) ∧
        (∀ t e, n1.theta = some t → e ∈ n1.inb → e.fromP = p' → Below y.theta (satSub t e.cost))) ∧
      (∀ u ∈ (thPos bk i (ls, ups) p).2, u ∈ ups ∨ (n1.cache = false ∧ n1.above = true ∧
        ∃ t, n1.theta = some t ∧ u = (n1.state, n1.depth, t, !n1.cutset))) := by
  have hstrip := thNode_strip bk n ups
  have htheta := thNode_theta bk n ups
  have hups := thNode_ups bk n ups
  unfold thPos
  dsimp only
  rw [hn]
  dsimp only
  rw [if_neg (by rw [hd]; exact Bool.false_ne_true)]
  generalize thNode bk n ups = r at hstrip htheta hups ⊢
  obtain ⟨n1, ups1⟩ := r
  dsimp only at hstrip htheta hups ⊢
  have hinb : n1.inb = n.inb := (stripT_more hstrip).2.2.2.2.2.2
  have harcs1 : ∀ e ∈ n1.inb, e.fromL ≠ i ∧ e.fromL + 1 = i := by
    intro e he; rw [hinb] at he; have := harcs e he; omega
  have hteq1 : TEq (modNode ls i p (fun _ => n1)) ls :=
    (TEq.refl ls).modNode i p _ (fun m hm => by rw [hn] at hm; cases hm; exact hstrip)
  have hself1 : getNode (modNode ls i p (fun _ => n1)) i p = some n1 := by
    rw [getNode_modNode, if_pos ⟨rfl, rfl⟩, hn]; rfl
  have hfr1 : ∀ l' p', ¬(l' = i ∧ p' = p) → getNode (modNode ls i p (fun _ => n1)) l' p' = getNode ls l' p' := by
    intro l' p' h; rw [getNode_modNode, if_neg h]
  refine ⟨n1, hstrip, htheta, ?_⟩
  cases ht : n1.theta with
  | none =>
    dsimp only
    rw [ht] at hups
    refine ⟨hteq1, hself1, fun l' p' _ h => hfr1 l' p' h, ?_, hups⟩
    intro l' p' x hl hx
    refine ⟨x, by rw [hfr1 l' p' (by omega)]; exact hx, fun _ h => h, ?_⟩
    intro t e h; cases h
  | some t =>
    dsimp only
    rw [ht] at hups
    refine ⟨(thArcs_tEq t _ _).trans hteq1, ?_, ?_, ?_, hups⟩
    · rw [thArcs_frame t _ _ i p (fun e he => (harcs1 e he).1)]; exact hself1
    · intro l' p' hl h
      rw [thArcs_frame t _ _ l' p' (fun e he => by have := (harcs1 e he).2; omega)]
      exact hfr1 l' p' h
    · intro l' p' x hl hx
      have hx1 : getNode (modNode ls i p (fun _ => n1)) l' p' = some x := by
        rw [hfr1 l' p' (by omega)]; exact hx
      obtain ⟨y, hy, hmono, harc⟩ := thArcs_spec t n1.inb _ l' p' x hx1
      refine ⟨y, hy, hmono, ?_⟩
      intro t' e ht' he hp
      cases ht'
      exact harc e he (by have := (harcs1 e he).2; omega) hp
/-- `Pr l p`: the node at `(l, p)` has been processed -/
structure Inv (bk : Int) (L0 : List (List (Node S))) (Pr : Nat → Nat → Prop)
    (ls : List (List (Node S))) (ups : Ups S) : Prop where
  teq : TEq ls L0
  done : ∀ (l p : Nat) (n' : Node S), getNode ls l p = some n' → Pr l p → n'.deleted = false →
    ∃ θp : Option Int,
      (∀ (n0 : Node S) (t0 : Int), getNode L0 l p = some n0 → n0.theta = some t0 → Below θp t0) ∧
      (∀ (p' : Nat) (m : Node S) (t : Int) (e : Arc), getNode ls (l + 1) p' = some m → m.deleted = false →
        m.theta = some t → e ∈ m.inb → e.fromP = p → Below θp (satSub t e.cost)) ∧
      n'.theta = ownTheta bk n' θp
  todo : ∀ (l p : Nat) (n' : Node S), getNode ls l p = some n' → ¬ Pr l p →
    (∀ (n0 : Node S) (t0 : Int), getNode L0 l p = some n0 → n0.theta = some t0 → Below n'.theta t0) ∧
    (∀ (p' : Nat) (m : Node S) (t : Int) (e : Arc), getNode ls (l + 1) p' = some m → Pr (l + 1) p' → m.deleted = false →
      m.theta = some t → e ∈ m.inb → e.fromP = p → Below n'.theta (satSub t e.cost))
  ups : ∀ u ∈ ups, ∃ (l p : Nat) (n3 : Node S), getNode ls l p = some n3 ∧ Pr l p ∧
    n3.deleted = false ∧ n3.cache = false ∧ n3.above = true ∧
    ∃ t, n3.theta = some t ∧ u = (n3.state, n3.depth, t, !n3.cutset)

theorem Inv.congr {bk : Int} {L0 : List (List (Node S))} {Pr Pr' : Nat → Nat → Prop}
    {ls : List (List (Node S))} {ups : Ups S} (h : Inv bk L0 Pr ls ups)
    (hc : ∀ (l p : Nat) (n : Node S), getNode ls l p = some n → (Pr l p ↔ Pr' l p)) : Inv bk L0 Pr' ls ups where
  teq := h.teq
  done := fun l p n' hn hp hd => h.done l p n' hn ((hc l p n' hn).mpr hp) hd
  todo := fun l p n' hn hp =>
    ⟨(h.todo l p n' hn (fun hp' => hp ((hc l p n' hn).mp hp'))).1,
     fun p' m t e hm hpr => (h.todo l p n' hn (fun hp' => hp ((hc l p n' hn).mp hp'))).2 p' m t e hm ((hc _ _ m hm).mpr hpr)⟩
  ups := fun u hu => by
    obtain ⟨l, p, n3, hn, hp, r⟩ := h.ups u hu
    exact ⟨l, p, n3, hn, (hc l p n3 hn).mp hp, r⟩

/-- processed when the turn of `(i, p)` comes -/
def Proc (i p l' p' : Nat) : Prop := i < l' ∨ (l' = i ∧ p' < p)

theorem Proc.succ_iff {i p l' p' : Nat} : Proc i (p + 1) l' p' ↔ Proc i p l' p' ∨ (l' = i ∧ p' = p) := by
  unfold Proc; omega

theorem Proc.succ {i p l' p' : Nat} (h : Proc i p l' p') : Proc i (p + 1) l' p' := Proc.succ_iff.mpr (.inl h)

theorem Proc.le {i p l' p' : Nat} (h : Proc i p l' p') : i ≤ l' := by unfold Proc at h; omega

theorem Proc.ne {i p l' p' : Nat} (h : Proc i p l' p') : ¬(l' = i ∧ p' = p) := by unfold Proc at h; omega

theorem succ_ne_of_le {i l : Nat} (h : i ≤ l) : l + 1 ≠ i := by omega

/-- the turn of `(i, p)`: the positions processed afterwards are those processed before and `(i, p)`; the step only touches
    `(i, p)` and layer `i - 1` (`thPos_facts`) -/
theorem thPos_inv (bk : Int) (L0 : List (List (Node S)))
    (harcs : ∀ (l p : Nat) (n : Node S), getNode L0 l p = some n → ∀ e ∈ n.inb, e.fromL + 1 = l)
    (i p : Nat) (ls : List (List (Node S))) (ups : Ups S) (h : Inv bk L0 (Proc i p) ls ups) :
    Inv bk L0 (Proc i (p + 1)) (thPos bk i (ls, ups) p).1 (thPos bk i (ls, ups) p).2 := by
  cases hn : getNode ls i p with
  | none =>
    rw [thPos_none bk i p ls ups hn]
    refine h.congr (fun l' p' n' hn' => ?_)
    have : ¬(l' = i ∧ p' = p) := by
      rintro ⟨rfl, rfl⟩; rw [hn] at hn'; cases hn'
    rw [Proc.succ_iff]
    exact ⟨.inl, fun h => h.resolve_right this⟩
  | some n =>
    have hnp : ¬ Proc i p i p := fun h => h.ne ⟨rfl, rfl⟩
    cases hd : n.deleted with
    | true =>
      rw [thPos_deleted bk i p ls ups n hn hd]
      dsimp only
      refine ⟨h.teq, ?_, ?_, ?_⟩
      · intro l' p' n' hn' hp' hd'
        have hne : ¬(l' = i ∧ p' = p) := by
          rintro ⟨rfl, rfl⟩; rw [hn] at hn'; cases hn'; rw [hd] at hd'; cases hd'
        exact h.done l' p' n' hn' ((Proc.succ_iff.mp hp').resolve_right hne) hd'
      · intro l' p' n' hn' hp'
        obtain ⟨a, b⟩ := h.todo l' p' n' hn' (fun h => hp' h.succ)
        refine ⟨a, ?_⟩
        intro p'' m t e hm hpr hdm
        have hne : ¬(l' + 1 = i ∧ p'' = p) := by
          rintro ⟨h1, rfl⟩; rw [h1, hn] at hm; cases hm; rw [hd] at hdm; cases hdm
        exact b p'' m t e hm ((Proc.succ_iff.mp hpr).resolve_right hne) hdm
      · intro u hu
        obtain ⟨l', p', n3, hn3, hp3, r⟩ := h.ups u hu
        exact ⟨l', p', n3, hn3, hp3.succ, r⟩
    | false =>
      obtain ⟨n0, hn0, hs0⟩ := h.teq.getNode_some hn
      have harcs' : ∀ e ∈ n.inb, e.fromL + 1 = i := by
        intro e he
        rw [← (stripT_more hs0).2.2.2.2.2.2] at he
        exact harcs i p n0 hn0 e he
      obtain ⟨n1, hs1, hth1, hteq, hself, hframe, hpar, hups⟩ := thPos_facts bk i p ls ups n hn hd harcs'
      generalize (thPos bk i (ls, ups) p).1 = ls2 at hteq hself hframe hpar hups ⊢
      generalize (thPos bk i (ls, ups) p).2 = ups2 at hups ⊢
      have hd1 : n1.deleted = false := by rw [(stripT_more hs1).2.2.2.2.2.1]; exact hd
      have hbelow : ∀ l' p'', i ≤ l' → getNode ls2 (l' + 1) p'' = getNode ls (l' + 1) p'' := fun l' p'' hl =>
        hframe (l' + 1) p'' (succ_ne_of_le (Nat.le_succ_of_le hl)) (fun h => succ_ne_of_le hl h.1)
      refine ⟨hteq.trans h.teq, ?_, ?_, ?_⟩
      · -- processed nodes
        intro l' p' n' hn' hp' hd'
        by_cases hc : l' = i ∧ p' = p
        · obtain ⟨rfl, rfl⟩ := hc
          rw [hself] at hn'; cases hn'
          obtain ⟨a, b⟩ := h.todo l' p' n hn hnp
          refine ⟨n.theta, a, ?_, ?_⟩
          · intro p'' m t e hm hdm htm he hep
            rw [hbelow l' p'' (Nat.le_refl _)] at hm
            exact b p'' m t e hm (Or.inl (Nat.lt_succ_self _)) hdm htm he hep
          · rw [hth1]; exact (ownTheta_congr hs1 bk _).symm
        · have hp0 : Proc i p l' p' := (Proc.succ_iff.mp hp').resolve_right hc
          rw [hframe l' p' (succ_ne_of_le hp0.le) hc] at hn'
          obtain ⟨θp, a, b, c⟩ := h.done l' p' n' hn' hp0 hd'
          refine ⟨θp, a, ?_, c⟩
          intro p'' m t e hm
          rw [hbelow l' p'' hp0.le] at hm
          exact b p'' m t e hm
      · -- nodes still to come
        intro l' p' n' hn' hp'
        have hc : ¬(l' = i ∧ p' = p) := fun h => hp' (Proc.succ_iff.mpr (.inr h))
        have hp0 : ¬ Proc i p l' p' := fun h => hp' h.succ
        by_cases hl : l' + 1 = i
        · obtain ⟨x, hx, _⟩ := hteq.getNode_some hn'
          obtain ⟨y, hy, hmono, harc⟩ := hpar l' p' x hl hx
          rw [hn'] at hy; cases hy
          obtain ⟨a, b⟩ := h.todo l' p' x hx hp0
          refine ⟨fun n0 t0 h1 h2 => hmono _ (a n0 t0 h1 h2), ?_⟩
          intro p'' m t e hm hpr hdm htm he hep
          by_cases hc' : p'' = p
          · subst hc'
            rw [hl, hself] at hm; cases hm
            exact harc t e htm he hep
          · rw [hframe (l' + 1) p'' (hl ▸ Nat.succ_ne_self _) (fun h => hc' h.2)] at hm
            exact hmono _ (b p'' m t e hm ((Proc.succ_iff.mp hpr).resolve_right (fun h => hc' h.2)) hdm htm he hep)
        · rw [hframe l' p' hl hc] at hn'
          obtain ⟨a, b⟩ := h.todo l' p' n' hn' hp0
          refine ⟨a, ?_⟩
          intro p'' m t e hm hpr
          rw [hframe (l' + 1) p'' (succ_ne_of_le hpr.le) (fun h => hl h.1)] at hm
          exact b p'' m t e hm ((Proc.succ_iff.mp hpr).resolve_right (fun h => hl h.1))
      · -- cache updates
        intro u hu
        rcases hups u hu with hu | ⟨hc1, ha1, t, ht1, rfl⟩
        · obtain ⟨l', p', n3, hn3, hp3, r⟩ := h.ups u hu
          refine ⟨l', p', n3, ?_, hp3.succ, r⟩
          rw [hframe l' p' (succ_ne_of_le hp3.le) hp3.ne]; exact hn3
        · exact ⟨i, p, n1, hself, Proc.succ_iff.mpr (.inr ⟨rfl, rfl⟩), hd1, hc1, ha1, t, ht1, rfl⟩

theorem thLayer_inv (bk : Int) (L0 : List (List (Node S)))
    (harcs : ∀ (l p : Nat) (n : Node S), getNode L0 l p = some n → ∀ e ∈ n.inb, e.fromL + 1 = l)
    (i : Nat) (ls : List (List (Node S))) (ups : Ups S) (h : Inv bk L0 (fun l' _ => i + 1 ≤ l') ls ups) :
    Inv bk L0 (fun l' _ => i ≤ l') (thLayer bk (ls, ups) i).1 (thLayer bk (ls, ups) i).2 := by
  unfold thLayer
  dsimp only
  have key : Inv bk L0 (Proc i (ls[i]?.getD []).length)
      ((List.range (ls[i]?.getD []).length).foldl (thPos bk i) (ls, ups)).1
      ((List.range (ls[i]?.getD []).length).foldl (thPos bk i) (ls, ups)).2 := by
    refine foldl_range_inv (thPos bk i) (fun p acc => Inv bk L0 (Proc i p) acc.1 acc.2) _ (ls, ups) ?_ ?_
    · exact h.congr (fun l' p' _ _ => by unfold Proc; omega)
    · rintro p ⟨ls', ups'⟩ _ hacc
      exact thPos_inv bk L0 harcs i p ls' ups' hacc
  generalize (List.range (ls[i]?.getD []).length).foldl (thPos bk i) (ls, ups) = res at key ⊢
  refine key.congr (fun l' p' n' hn' => ?_)
  have hlen : (res.1[i]?.getD []).length = (ls[i]?.getD []).length := by
    have := congrArg List.length ((key.teq.trans h.teq.symm).layer i)
    simpa only [List.length_map] using this
  have hp' := getNode_pos_lt hn'
  unfold Proc
  constructor
  · intro hpr; omega
  · intro hle
    by_cases hli : l' = i
    · subst hli; rw [hlen] at hp'; exact Or.inr ⟨rfl, hp'⟩
    · exact Or.inl (by omega)

theorem thInit_tEq (kind : CutsetKind) (isExactField : Bool) (lb : Int) (bestExact : Option Int)
    (termL : Option Nat) (layers : List (List (Node S))) :
    TEq (thInit kind isExactField lb bestExact termL layers) layers := by
  unfold thInit
  split
  · refine (TEq.refl _).set_map _ _ (fun n => ?_)
    split <;> rfl
  · exact TEq.refl _

theorem computeThresholds_spec (kind : CutsetKind) (isExactField : Bool) (lb : Int) (bestExact : Option Int)
    (termL : Option Nat) (layers : List (List (Node S)))
    (harcs : ∀ (l p : Nat) (n : Node S), getNode layers l p = some n → ∀ e ∈ n.inb, e.fromL + 1 = l) :
    (∀ (l p : Nat) (n3 : Node S),
      getNode (computeThresholds kind isExactField lb bestExact termL layers).1 l p = some n3 → n3.deleted = false →
      ∃ (n0 : Node S) (θp : Option Int),
        getNode (thInit kind isExactField lb bestExact termL layers) l p = some n0 ∧ stripT n0 = stripT n3 ∧
        (∀ t0, n0.theta = some t0 → ∃ tp, θp = some tp ∧ tp ≤ t0) ∧
        (∀ (p' : Nat) (m3 : Node S) (t : Int) (e : Arc),
          getNode (computeThresholds kind isExactField lb bestExact termL layers).1 (l + 1) p' = some m3 →
          m3.deleted = false → m3.theta = some t → e ∈ m3.inb → e.fromP = p →
          ∃ tp, θp = some tp ∧ tp ≤ satSub t e.cost) ∧
        n3.theta = ownTheta (bkOf lb bestExact) n3 θp) ∧
    (∀ u ∈ (computeThresholds kind isExactField lb bestExact termL layers).2,
      ∃ (l p : Nat) (n3 : Node S),
        getNode (computeThresholds kind isExactField lb bestExact termL layers).1 l p = some n3 ∧
        n3.deleted = false ∧ n3.cache = false ∧ n3.above = true ∧
        ∃ t, n3.theta = some t ∧ u = (n3.state, n3.depth, t, !n3.cutset)) := by
  rw [computeThresholds_eq]
  have hteq0 := thInit_tEq kind isExactField lb bestExact termL layers
  generalize thInit kind isExactField lb bestExact termL layers = L0 at hteq0 ⊢
  generalize bkOf lb bestExact = bk
  have harcs0 : ∀ (l p : Nat) (n : Node S), getNode L0 l p = some n → ∀ e ∈ n.inb, e.fromL + 1 = l := by
    intro l p n hn e he
    obtain ⟨n', hn', hs⟩ := hteq0.getNode_some hn
    rw [← (stripT_more hs).2.2.2.2.2.2] at he
    exact harcs l p n' hn' e he
  have key : Inv bk L0 (fun l' _ => 0 ≤ l')
      ((List.range L0.length).reverse.foldl (thLayer bk) (L0, [])).1
      ((List.range L0.length).reverse.foldl (thLayer bk) (L0, [])).2 := by
    refine foldl_range_rev_inv (thLayer bk) (fun lo acc => Inv bk L0 (fun l' _ => lo ≤ l') acc.1 acc.2) _ (L0, []) ?_ ?_
    · dsimp only
      refine ⟨TEq.refl L0, ?_, ?_, ?_⟩
      · intro l p n' hn hp
        have := Ddo.getNode_lt hn
        omega
      · intro l p n' hn _
        refine ⟨?_, ?_⟩
        · intro n0 t0 h0 ht0
          rw [hn] at h0; cases h0
          exact ⟨t0, ht0, Int.le_refl _⟩
        · intro p' m t e hm hp
          have := Ddo.getNode_lt hm
          omega
      · intro u hu; cases hu
    · rintro i ⟨ls, ups⟩ _ hacc
      exact thLayer_inv bk L0 harcs0 i ls ups hacc
  generalize (List.range L0.length).reverse.foldl (thLayer bk) (L0, []) = res at key ⊢
  constructor
  · intro l p n3 hn3 hd3
    obtain ⟨n0, hn0, hs0⟩ := key.teq.getNode_some hn3
    obtain ⟨θp, a, b, c⟩ := key.done l p n3 hn3 (Nat.zero_le _) hd3
    exact ⟨n0, θp, hn0, hs0, fun t0 ht0 => a n0 t0 hn0 ht0, b, c⟩
  · intro u hu
    obtain ⟨l, p, n3, hn3, _, r⟩ := key.ups u hu
    exact ⟨l, p, n3, hn3, r⟩

end Ddo.Theta

#print axioms Ddo.Theta.computeThresholds_spec
