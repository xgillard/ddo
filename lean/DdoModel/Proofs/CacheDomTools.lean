import DdoModel.Proofs.CacheDomDefs
import DdoModel.Proofs.Layered
import DdoModel.Props.C09c
import DdoModel.Props.C10b
set_option linter.unusedSectionVars false
set_option linter.unusedVariables false

/-! What the concrete models with cache and dominance checker (`CacheDomTwin`, `CacheDomCross`, … on the family
    `Ddo.C09.Layered`) share: decidability of the dominance relations, their readings on the value, and the closed-solver
    theorems specialised to the end of a run. -/

namespace Ddo.C10c
open Ddo Ddo.C01 Ddo.Closed Ddo.C09 Ddo.C10

/-- the types in which the traces show a state or a diagram.  As instances of their own they count once each in the `Decidable`
    instance of a conjunction of such equations, which therefore stays within the default size of instance search however many
    conjuncts a trace has. -/
instance : DecidableEq (List (Int × Int × Int × Nat) × Int) := inferInstance
instance : DecidableEq (List (Int × List (Int × Int))) := inferInstance
instance : DecidableEq (List (Int × Int × Bool)) := inferInstance
instance : DecidableEq (List (Int × Int × Nat × Bool)) := inferInstance

section rule
variable {S K : Type} [DecidableEq S] [DecidableEq K]

instance (D : DomRule S K) (n : Nat) (a : S) (va : Int) (b : S) (vb : Int) : Decidable (GeItem D n a va b vb) := by
  unfold GeItem
  have : Decidable (∃ k, D.key a = some k ∧ D.key b = some k) :=
    match ha : D.key a, hb : D.key b with
    | some k, some k' => if h : k = k' then isTrue ⟨k, rfl, by rw [h]⟩ else isFalse (by
        rintro ⟨k2, h1, h2⟩; cases h1; cases h2; exact h rfl)
    | none, _ => isFalse (by rintro ⟨k2, h1, _⟩; cases h1)
    | some _, none => isFalse (by rintro ⟨k2, _, h2⟩; cases h2)
  exact inferInstance

theorem geEnt_value {a b : Ent} (h : geEnt true a b = true) : b.value ≤ a.value := by
  simp only [geEnt, Bool.not_true, Bool.false_or, Bool.and_eq_true, decide_eq_true_eq] at h
  exact h.2

theorem geItem_value {D : DomRule S K} (hu : D.useValue = true) {n : Nat} {a b : S} {va vb : Int}
    (h : GeItem D n a va b vb) : vb ≤ va :=
  geEnt_value (hu ▸ h.ge)

theorem geEnt_coords {uv : Bool} {a b : Ent} (h : geEnt uv a b = true) : leB b.coords a.coords = true := by
  simp only [geEnt, Bool.and_eq_true] at h
  exact h.1

theorem dominates_ge {D : DomRule S K} {a b : S} {va vb : Int} (h : Dominates D a va b vb) :
    geEnt D.useValue (D.ent (D.dims b) a va) (D.ent (D.dims b) b vb) = true := by
  have h2 := h.2
  simp only [domEnt, Bool.and_eq_true] at h2
  exact h2.1

theorem dominates_value {D : DomRule S K} (hu : D.useValue = true) {a b : S} {va vb : Int}
    (h : Dominates D a va b vb) : vb ≤ va :=
  geEnt_value (hu ▸ dominates_ge h)

theorem dominates_self {D : DomRule S K} (hu : D.useValue = true) {a : S} {va vb : Int} (h : Dominates D a va a vb) :
    vb < va := by
  have h2 := h.2
  rw [hu] at h2
  simp only [domEnt, geEnt, DomRule.ent, leB_refl, Bool.not_true, Bool.false_or, Bool.true_and, Bool.and_eq_true,
    Bool.not_eq_true'] at h2
  have := of_decide_eq_false h2.2
  omega

theorem cache_only_of {sv : SolverCfg S} {H : Nat → S → EInt} {B0 B opt : Int} (wf : WellFormed sv H B0 B)
    (hopt : (H 0 sv.P.init).addI sv.P.initVal = some opt) (t : KSt S) (ht : KRun sv (KSt.init sv) t)
    (hend : t.st.fringe = []) : t.st.completion = (true, some opt) :=
  ((((caching_solver_correct_bestfirst sv H B0 B wf).2.2 t ht).2.2 hend).1 opt hopt).2.2

theorem dom_only_of {dv : DSolverCfg S K} {H : Nat → S → EInt} {B0 B opt : Int} (wf : WellFormed dv.sv H B0 B)
    (hopt : (H 0 dv.sv.P.init).addI dv.sv.P.initVal = some opt) (hu : UndomOpt dv.D dv.sv.P H opt) (t : DSt S K)
    (ht : DRun dv dv.init t) (hend : t.st.fringe = []) : t.st.completion = (true, some opt) :=
  (((dominance_solver_optimal dv H B0 B opt wf hopt hu).2.2 t ht).2 hend).2.2

/-- `s` is the end of the loop under a name of its own (`after …`): `hs` is then closed by unfolding the name, without evaluating
    the loop -/
theorem joint_run_of (dv : DSolverCfg S K) (n : Nat) (s : KDSt S K) (hs : s = dv.kdsolveLoop n (KDSt.init dv))
    {c : Bool × Option Int} (h0 : s.st.fringe.length = 0) (hc : s.st.completion = c) (hcr : s.st.crashed = false) :
    ∃ t, KDRun dv (KDSt.init dv) t ∧ t.st.fringe = [] ∧ t.st.crashed = false ∧ t.st.completion = c :=
  ⟨s, hs ▸ kdsolveLoop_run dv n _, List.eq_nil_of_length_eq_zero h0, hcr, hc⟩

end rule
end Ddo.C10c

namespace Ddo.C09.Layered
open Ddo Ddo.C01 Ddo.Closed Ddo.C10

theorem mono_of_check {T : Tab} {B0 : Int} (h : check T B0 = true) : Mono T := by
  simp only [check, Bool.and_eq_true, decide_eq_true_eq, List.all_eq_true, List.mem_range] at h
  exact fun j s hj hs => h.1.1.1.2 j (by omega) s (by omega)

/-- items are triples `(depth, state, value)` -/
def child (T : Tab) (e : Nat × Int × Int) (d : Int) : Nat × Int × Int :=
  (e.1 + 1, (prob T).trans e.2.1 ⟨e.1, d⟩, e.2.2 + (prob T).cost e.2.1 ((prob T).trans e.2.1 ⟨e.1, d⟩) ⟨e.1, d⟩)

theorem reach_mem {T : Tab} {tab : List (Nat × Int × Int)} (h0 : (0, 0, 0) ∈ tab)
    (hstep : ∀ e ∈ tab, ∀ d ∈ [(0 : Int), 1], e.1 < T.n → child T e d ∈ tab)
    {k : Nat} {s v : Int} {p : List Dec} (h : Reach (prob T) k s v p) : (k, s, v) ∈ tab := by
  induction h with
  | root => exact h0
  | step k s v p L x d _ hnv _ hd ih =>
    obtain ⟨hk, rfl⟩ := nv_some hnv
    exact hstep (_, s, v) ih d hd hk

theorem reach_of_mem {T : Tab} {L : List (Nat × Int × Int)}
    (hpred : ∀ e ∈ L, e = (0, 0, 0) ∨ ∃ q ∈ L, ∃ d ∈ [(0 : Int), 1], q.1 < T.n ∧ e = child T q d) :
    ∀ (n : Nat) (e : Nat × Int × Int), e ∈ L → e.1 = n → ∃ p, Reach (prob T) e.1 e.2.1 e.2.2 p := by
  intro n
  induction n with
  | zero =>
    intro e he h0
    rcases hpred e he with rfl | ⟨q, _, d, _, _, rfl⟩
    · exact ⟨_, Reach.root⟩
    · cases h0
  | succ n ih =>
    intro e he hn
    rcases hpred e he with rfl | ⟨q, hq, d, hd, hlt, rfl⟩
    · cases hn
    · obtain ⟨p, hp⟩ := ih q hq (Nat.succ.inj hn)
      exact ⟨_, Reach.step q.1 q.2.1 q.2.2 p [q.2.1] q.1 d hp (if_pos hlt) (List.mem_singleton_self _) hd⟩

/-- a strategy given as the list of its items is a protected family: the first four hypotheses are finite checks on the list -/
theorem protected_ofList {T : Tab} {D : DomRule Int Int} {opt : Int} {L : List (Nat × Int × Int)}
    (hroot : (0, 0, 0) ∈ L)
    (hpred : ∀ e ∈ L, e = (0, 0, 0) ∨ ∃ q ∈ L, ∃ d ∈ [(0 : Int), 1], q.1 < T.n ∧ e = child T q d)
    (hopt : ∀ e ∈ L, (H T e.1 e.2.1).addI e.2.2 = some opt)
    (hstep : ∀ e ∈ L, e.1 < T.n → ∃ d ∈ [(0 : Int), 1], child T e d ∈ L)
    (hundom : ∀ e ∈ L, ∀ a va pa, Reach (prob T) e.1 a va pa → ¬ Dominates D a va e.2.1 e.2.2) :
    Protected D (prob T) (H T) opt (fun d s v => (d, s, v) ∈ L) :=
  ⟨hroot, fun d s v h => reach_of_mem hpred d (d, s, v) h rfl, fun d s v h => hopt _ h,
   fun d s v _ x h hnv _ => by
     obtain ⟨hk, rfl⟩ := nv_some hnv
     exact hstep _ h hk,
   fun d s v a va pa h hr => hundom _ h a va pa hr⟩

end Ddo.C09.Layered
