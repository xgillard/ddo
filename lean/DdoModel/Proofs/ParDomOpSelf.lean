import DdoModel.Proofs.ParDomOp
/-! # The operation-wise compilation with the compilation's OWN thread as oracle is the plain compilation

`SelfThreaded D st0 τ ops`: `τ k` is the store obtained from `st0` after the first `k` operations of `ops`.
When `τ` is self-threaded along the operations the operation-wise filter / layer step / build loop / compilation performs itself,
it computes what `filterDom` / `stepLayer` / `buildLoop` / `compile` compute from the store `st0` (`filterDomO_self`,
`stepLayerO_self`, `buildLoopO_self`, `compileOp_self`).
 -/
set_option linter.unusedSectionVars false
set_option linter.unusedVariables false
namespace Ddo.ParDom
open Ddo Ddo.Truth Ddo.Closed Ddo.C10
variable {S K : Type} [DecidableEq S] [DecidableEq K]

/-- `τ` is self-threaded from `st0` along `ops`: `τ k` is the store after the first `k` operations -/
def SelfThreaded (D : DomRule S K) (st0 : DomStore S K) (τ : Nat → DomStore S K) (ops : List (Op S)) : Prop :=
  ∀ k, k ≤ ops.length → runOps D st0 (ops.take k) = some (τ k)

theorem SelfThreaded.prefix {D : DomRule S K} {st0 : DomStore S K} {τ : Nat → DomStore S K} {l ops : List (Op S)}
    (h : SelfThreaded D st0 τ ops) (hp : l <+: ops) : SelfThreaded D st0 τ l := by
  intro k hk
  obtain ⟨t, rfl⟩ := hp
  have := h k (by rw [List.length_append]; omega)
  rwa [List.take_append_of_le_length hk] at this

theorem SelfThreaded.at_len {D : DomRule S K} {st0 : DomStore S K} {τ : Nat → DomStore S K} {ops : List (Op S)}
    (h : SelfThreaded D st0 τ ops) : runOps D st0 ops = some (τ ops.length) := by
  have := h ops.length (Nat.le_refl _)
  rwa [List.take_length] at this

theorem runOps_cons (D : DomRule S K) (st : DomStore S K) (op : Op S) (r : List (Op S)) :
    runOps D st (op :: r) = match applyOp D st op with
      | none => none
      | some (st', _, _) => runOps D st' r := by
  rw [runOps]
  cases applyOp D st op with
  | none => rfl
  | some x => obtain ⟨s', d, t⟩ := x; rfl

theorem runOps_append (D : DomRule S K) (a b : List (Op S)) :
    ∀ st0, runOps D st0 (a ++ b) = (runOps D st0 a).bind (fun s => runOps D s b) := by
  induction a with
  | nil => intro st0; rfl
  | cons op r ih =>
    intro st0
    rw [List.cons_append, runOps_cons, runOps_cons]
    cases applyOp D st0 op with
    | none => rfl
    | some x =>
      obtain ⟨s', d, t⟩ := x
      exact ih s'

theorem runOps_snoc (D : DomRule S K) (ops : List (Op S)) (st0 st : DomStore S K) (op : Op S)
    (h : runOps D st0 ops = some st) :
    runOps D st0 (ops ++ [op]) = match applyOp D st op with
      | none => none
      | some (st', _, _) => some st' := by
  rw [runOps_append, h]
  show runOps D st [op] = _
  rw [runOps_cons]
  cases applyOp D st op with
  | none => rfl
  | some x => obtain ⟨s', d, t⟩ := x; rfl

theorem fdStepO_ops (D : DomRule S K) (τ : Nat → DomStore S K)
    (acc : List (Node S) × List Nat × Nat × Bool × List (Op S)) (p : Nat) :
    acc.2.2.2.2 <+: (fdStepO D τ acc p).2.2.2.2 := by
  fun_cases fdStepO D τ acc p
  case case1 => exact List.prefix_refl _
  case case5 => exact List.prefix_refl _
  all_goals exact List.prefix_append _ _

theorem foldO_ops_prefix (D : DomRule S K) (τ : Nat → DomStore S K) (ps : List Nat) :
    ∀ acc : List (Node S) × List Nat × Nat × Bool × List (Op S),
      acc.2.2.2.2 <+: (ps.foldl (fdStepO D τ) acc).2.2.2.2 := by
  induction ps with
  | nil => intro acc; exact List.prefix_refl _
  | cons p ps ih => intro acc; exact (fdStepO_ops D τ acc p).trans (ih _)

theorem SelfThreaded.append_prefix {D : DomRule S K} {st0 : DomStore S K} {τ : Nat → DomStore S K} {pre a b : List (Op S)}
    (h : SelfThreaded D st0 τ (pre ++ b)) (hp : a <+: b) : SelfThreaded D st0 τ (pre ++ a) :=
  h.prefix ((List.prefix_append_right_inj pre).mpr hp)

/-- the accumulator `x` of the plain filter is the operation-wise accumulator `acc` without its counter and log, and its store is
    the one the log so far leads to from `st0` (`pre`: the operations of the compilation before this call of the filter) -/
def Tracks (D : DomRule S K) (st0 : DomStore S K) (pre : List (Op S))
    (acc : List (Node S) × List Nat × Nat × Bool × List (Op S)) (x : List (Node S) × List Nat × DomStore S K × Bool) : Prop :=
  acc.1 = x.1 ∧ acc.2.1 = x.2.1 ∧ acc.2.2.2.1 = x.2.2.2 ∧ acc.2.2.1 = pre.length + acc.2.2.2.2.length ∧
    runOps D st0 (pre ++ acc.2.2.2.2) = some x.2.2.1

/-- one step: the oracle answers the current operation with the store threaded so far -/
theorem fdStepO_self (D : DomRule S K) (τ : Nat → DomStore S K) (st0 : DomStore S K) (pre : List (Op S))
    (acc : List (Node S) × List Nat × Nat × Bool × List (Op S)) (x : List (Node S) × List Nat × DomStore S K × Bool) (p : Nat)
    (h : Tracks D st0 pre acc x) (hself : SelfThreaded D st0 τ (pre ++ (fdStepO D τ acc p).2.2.2.2)) :
    Tracks D st0 pre (fdStepO D τ acc p) (fdStep D x p) := by
  obtain ⟨l, keep, st, flag⟩ := x
  obtain ⟨rfl, rfl, rfl, hk, hrun⟩ := h
  have hτk : τ acc.2.2.1 = st := by
    have := (hself.append_prefix (fdStepO_ops D τ acc p)).at_len
    rw [hrun, List.length_append, ← hk] at this
    exact (Option.some.inj this).symm
  subst hτk
  -- the run of the log with one more operation
  have hsnoc : ∀ op : Op S, runOps D st0 (pre ++ (acc.2.2.2.2 ++ [op])) =
      (DomStore.query D (τ acc.2.2.1) op.state op.depth op.value).map (·.1) := by
    intro op
    rw [← List.append_assoc, runOps_snoc D _ st0 _ op hrun]
    unfold applyOp
    cases DomStore.query D (τ acc.2.2.1) op.state op.depth op.value with
    | none => rfl
    | some x => rfl
  have hk1 : ∀ op : Op S, acc.2.2.1 + 1 = pre.length + (acc.2.2.2.2 ++ [op]).length := by
    intro op; rw [hk, List.length_append]; rfl
  revert hself
  fun_cases fdStepO D τ acc p <;> intro hself
  case case1 hn => rw [fdStep, hn]; exact ⟨rfl, rfl, rfl, hk, hrun⟩
  case case2 n hn he hq =>
    have := hself.at_len
    rw [hsnoc, hq] at this
    cases this
  case case3 n hn he st' thr hq =>
    rw [fdStep, hn]; dsimp only; rw [if_pos he, hq]
    exact ⟨rfl, rfl, rfl, hk1 _, by rw [hsnoc, hq]; rfl⟩
  case case4 n hn he st' dom thr hq hd =>
    rw [fdStep, hn]; dsimp only; rw [if_pos he, hq]; dsimp only; rw [if_neg hd]
    exact ⟨rfl, rfl, rfl, hk1 _, by rw [hsnoc, hq]; rfl⟩
  case case5 n hn he =>
    rw [fdStep, hn]; dsimp only; rw [if_neg he]
    exact ⟨rfl, rfl, rfl, hk, hrun⟩

theorem foldO_self (D : DomRule S K) (τ : Nat → DomStore S K) (st0 : DomStore S K) (pre : List (Op S)) (ps : List Nat) :
    ∀ (acc : List (Node S) × List Nat × Nat × Bool × List (Op S)) (x : List (Node S) × List Nat × DomStore S K × Bool),
      Tracks D st0 pre acc x → SelfThreaded D st0 τ (pre ++ (ps.foldl (fdStepO D τ) acc).2.2.2.2) →
      Tracks D st0 pre (ps.foldl (fdStepO D τ) acc) (ps.foldl (fdStep D) x) := by
  induction ps with
  | nil => intro acc x h _; exact h
  | cons p ps ih =>
    intro acc x h hself
    exact ih _ _ (fdStepO_self D τ st0 pre acc x p h (hself.append_prefix (foldO_ops_prefix D τ ps (fdStepO D τ acc p)))) hself

/-- `filterDomO` answered by its own thread is `filterDom`.  `pre`: the operations of the compilation before this
    call; `st`: the store they lead to from `st0`. -/
theorem filterDomO_self (cfg : Cfg S K) (D : DomRule S K) (hD : ∀ D', cfg.dom = some D' → D' = D)
    (τ : Nat → DomStore S K) (st0 : DomStore S K) (pre : List (Op S)) (k : Nat) (st : DomStore S K)
    (layer : List (Node S)) (cur : List Nat)
    (hself : SelfThreaded D st0 τ (pre ++ (filterDomO cfg τ k layer cur).2.2.2.2))
    (hk : k = pre.length) (hrun : runOps D st0 pre = some st) :
    Tracks D st0 pre (filterDomO cfg τ k layer cur) (filterDom cfg st layer cur) := by
  have h0 : Tracks D st0 pre (layer, [], k, true, []) (layer, [], st, true) :=
    ⟨rfl, rfl, rfl, hk, by rw [List.append_nil]; exact hrun⟩
  cases hd : cfg.dom with
  | none =>
    have e1 : filterDomO cfg τ k layer cur = (layer, cur, k, true, []) := by unfold filterDomO; rw [hd]
    have e2 : filterDom cfg st layer cur = (layer, cur, st, true) := by unfold filterDom; rw [hd]
    rw [e1, e2]
    exact ⟨rfl, rfl, rfl, h0.2.2.2⟩
  | some D' =>
    obtain rfl := hD D' hd
    rw [filterDomO_eq cfg D' hd] at hself ⊢
    rw [filterDom_eq cfg D' hd st layer cur]
    exact foldO_self D' τ st0 pre (fdSorted D' layer cur) _ _ h0 hself

/-- `stepLayer` after `_filter_with_dominance` (any `useCache`) -/
def stepTailG (cfg : Cfg S K) (dd : DD S K) (var : Nat) (fc : List (Node S) × List Nat)
    (r : List (Node S) × List Nat × DomStore S K × Bool) : Option (DD S K) × Outcome :=
  if (!r.2.2.2) = true then (none, .crash) else
  match squash cfg dd r.1 r.2.1 with
  | none => (none, .crash)
  | some (layer, cur, log, lel) =>
    (some { dd with layers := dd.layers ++ [(expandAll cfg var dd.layers.length layer cur log).1],
                    next := (expandAll cfg var dd.layers.length layer cur log).2.1, depth := dd.depth + 1, lel := lel,
                    store := r.2.2.1, log := (expandAll cfg var dd.layers.length layer cur log).2.2,
                    ndom := dd.ndom + (fc.2.length - r.2.1.length) }, .ok)

theorem stepLayer_unfoldG (cfg : Cfg S K) (dd : DD S K) (var : Nat) (hne : dd.next.isEmpty = false) :
    stepLayer cfg dd var =
      stepTailG cfg dd var (fcOf cfg dd) (filterDom cfg dd.store (fcOf cfg dd).1 (fcOf cfg dd).2) := by
  unfold stepLayer stepTailG fcOf
  simp only [hne, Bool.false_eq_true, if_false]
  rfl

theorem stepLayerO_ops_prefix (cfg : Cfg S K) (τ : Nat → DomStore S K) (dd : DD S K) (k : Nat) (ops : List (Op S)) (var : Nat)
    (dd' : DD S K) (k' : Nat) (ops' : List (Op S)) (oc : Outcome)
    (hs : stepLayerO cfg τ dd k ops var = (some (dd', k', ops'), oc)) : ops <+: ops' := by
  rcases stepLayerO_some cfg τ dd k ops var dd' k' ops' oc hs with ⟨_, _, _, rfl, _⟩ | ⟨_, ht⟩
  · exact List.prefix_refl _
  · rw [stepTailO_ops cfg dd ops var _ _ dd' k' ops' oc ht]
    exact List.prefix_append _ _

/-- **one layer**: if `stepLayerO` succeeds and the oracle is self-threaded along the operations performed so far, `stepLayer`
    from the threaded store does the same (the diagrams agree up to the `store` field, which `stepLayerO` does not maintain) -/
theorem stepLayerO_self (cfg : Cfg S K) (D : DomRule S K) (hD : ∀ D', cfg.dom = some D' → D' = D)
    (τ : Nat → DomStore S K) (st0 : DomStore S K) (dd : DD S K) (k : Nat) (ops : List (Op S)) (var : Nat) (st : DomStore S K)
    (hk : k = ops.length) (hrun : runOps D st0 ops = some st)
    (dd' : DD S K) (k' : Nat) (ops' : List (Op S)) (oc : Outcome)
    (hs : stepLayerO cfg τ dd k ops var = (some (dd', k', ops'), oc))
    (hself : SelfThreaded D st0 τ ops') :
    ∃ st', stepLayer cfg (withStore dd st) var = (some (withStore dd' st'), oc) ∧ k' = ops'.length ∧
      runOps D st0 ops' = some st' := by
  rcases stepLayerO_some cfg τ dd k ops var dd' k' ops' oc hs with ⟨hnil, rfl, rfl, rfl, rfl⟩ | ⟨hne, ht⟩
  · refine ⟨st, ?_, hk, hrun⟩
    unfold stepLayer
    rw [if_pos (show (withStore dd st).next.isEmpty = true from List.isEmpty_iff.2 hnil)]
    rfl
  · have hops := stepTailO_ops cfg dd ops var _ _ dd' k' ops' oc ht
    rw [stepLayer_unfoldG cfg (withStore dd st) var hne]
    show ∃ st', stepTailG cfg (withStore dd st) var (fcOf cfg dd) (filterDom cfg st (fcOf cfg dd).1 (fcOf cfg dd).2) = _ ∧ _
    obtain ⟨f1, f2, f3, f4, f5⟩ :=
      filterDomO_self cfg D hD τ st0 ops k st (fcOf cfg dd).1 (fcOf cfg dd).2 (hops ▸ hself) hk hrun
    generalize filterDomO cfg τ k (fcOf cfg dd).1 (fcOf cfg dd).2 = r at ht f1 f2 f3 f4 f5 hops
    generalize filterDom cfg st (fcOf cfg dd).1 (fcOf cfg dd).2 = r2 at f1 f2 f3 f5 ⊢
    unfold stepTailG
    rw [squash_withStore, ← f1, ← f2, ← f3]
    revert ht
    fun_cases stepTailO cfg dd ops var (fcOf cfg dd) r <;> intro ht
    case case1 => cases ht
    case case2 => cases ht
    case case3 hflag layer cur log lel hsq =>
      cases ht
      rw [if_neg hflag, hsq]
      exact ⟨r2.2.2.1, rfl, by rw [f4, List.length_append], f5⟩

theorem buildLoopO_ops_prefix (cfg : Cfg S K) (τ : Nat → DomStore S K) (fuel : Nat) (dd : DD S K) (k : Nat)
    (ops : List (Op S)) : ops <+: (buildLoopO cfg τ fuel dd k ops).1.2 := by
  fun_induction buildLoopO cfg τ fuel dd k ops with
  | case1 => exact List.prefix_refl _
  | case2 => exact List.prefix_refl _
  | case3 => exact List.prefix_refl _
  | case4 fuel dd k ops var _ dd' k' ops' hs => exact stepLayerO_ops_prefix cfg τ _ k ops var dd' k' ops' _ hs
  | case5 fuel dd k ops var _ dd' k' ops' hs => exact stepLayerO_ops_prefix cfg τ _ k ops var dd' k' ops' _ hs
  | case6 fuel dd k ops var _ dd' k' ops' hs ih => exact (stepLayerO_ops_prefix cfg τ _ k ops var dd' k' ops' _ hs).trans ih

/-- **the loop**: an operation-wise loop that ends well, answered by its own thread, is the plain loop from the threaded store -/
theorem buildLoopO_self (cfg : Cfg S K) (D : DomRule S K) (hD : ∀ D', cfg.dom = some D' → D' = D)
    (τ : Nat → DomStore S K) (st0 : DomStore S K) (fuel : Nat) (dd : DD S K) (k : Nat) (ops : List (Op S)) (st : DomStore S K)
    (hk : k = ops.length) (hrun : runOps D st0 ops = some st)
    (hok : (buildLoopO cfg τ fuel dd k ops).2 = .ok)
    (hself : SelfThreaded D st0 τ (buildLoopO cfg τ fuel dd k ops).1.2) :
    ∃ st', buildLoop cfg none fuel (withStore dd st) = (withStore (buildLoopO cfg τ fuel dd k ops).1.1 st', .ok) ∧
      runOps D st0 (buildLoopO cfg τ fuel dd k ops).1.2 = some st' := by
  fun_induction buildLoopO cfg τ fuel dd k ops generalizing st with
  | case1 => cases hok
  | case2 fuel dd k ops hnv => exact ⟨st, buildLoop_none_eq cfg none fuel (withStore dd st) hnv, hrun⟩
  | case3 => cases hok
  | case4 fuel dd k ops var hnv dd' k' ops' hs =>
    obtain ⟨st1, e1, _, e3⟩ := stepLayerO_self cfg D hD τ st0 (tick dd var) k ops var st hk hrun dd' k' ops' _ hs hself
    rw [buildLoop_step cfg fuel (withStore dd st) var hnv,
      show stepLayer cfg (tick (withStore dd st) var) var = (some (withStore dd' st1), .cutoff) from e1]
    exact ⟨st1, rfl, e3⟩
  | case5 => cases hok
  | case6 fuel dd k ops var hnv dd' k' ops' hs ih =>
    obtain ⟨st1, e1, e2, e3⟩ := stepLayerO_self cfg D hD τ st0 (tick dd var) k ops var st hk hrun dd' k' ops' _ hs
      (hself.prefix (buildLoopO_ops_prefix cfg τ fuel dd' k' ops'))
    rw [buildLoop_step cfg fuel (withStore dd st) var hnv,
      show stepLayer cfg (tick (withStore dd st) var) var = (some (withStore dd' st1), .ok) from e1]
    exact ih st1 e2 e3 hok hself

/-- an operation-wise compilation that ends well and is answered by its OWN thread from `st0` (`τ k` = the store
    after its first `k` operations) is the plain compilation from `st0`: same outcome, same result; the operations it logged lead
    from `st0` to the final store of the plain compilation. -/
theorem compileOp_self (cfg : Cfg S K) (D : DomRule S K) (hD : ∀ D', cfg.dom = some D' → D' = D) (cache : Cache S)
    (τ : Nat → DomStore S K) (st0 : DomStore S K) (polls : Nat)
    (hok : (compileOp cfg cache τ polls).1 = .ok)
    (hself : SelfThreaded D st0 τ (compileOp cfg cache τ polls).2.2) :
    (compile cfg cache st0 polls none).1 = .ok ∧
    (compile cfg cache st0 polls none).2.1 = (compileOp cfg cache τ polls).2.1 ∧
    runOps D st0 (compileOp cfg cache τ polls).2.2 = some (compile cfg cache st0 polls none).2.2.2.store := by
  rw [compileOp_outcome] at hok
  rw [compileOp_ops] at hself ⊢
  rw [compileOp_result]
  obtain ⟨st', hb, hr⟩ := buildLoopO_self cfg D hD τ st0 (cfg.P.nbVars + 2) (initDD cfg cache (τ 0) polls) 0 [] st0 rfl rfl
    hok hself
  have hb' : buildLoop cfg none (cfg.P.nbVars + 2) (initDD cfg cache st0 polls) =
      (withStore (finOp cfg cache τ polls) st', .ok) := hb
  have hc1 : (compile cfg cache st0 polls none).1 = .ok := by
    unfold compile
    rw [hb']
  obtain ⟨_, c2, c3⟩ := compile_ok cfg cache st0 polls none hc1
  refine ⟨hc1, ?_, ?_⟩
  · rw [c3, hb']
    exact resultOf_withStore cfg (finOp cfg cache τ polls) st'
  · rw [c2, hb']
    exact hr

/-- `compileOp_self` with the checker on (`cfg.dom = some D`), the self-threading spelled out -/
theorem compileOp_self_some (cfg : Cfg S K) (D : DomRule S K) (hD : cfg.dom = some D) (cache : Cache S)
    (τ : Nat → DomStore S K) (st0 : DomStore S K) (polls : Nat)
    (hok : (compileOp cfg cache τ polls).1 = .ok)
    (hself : ∀ k, k ≤ (compileOp cfg cache τ polls).2.2.length →
      runOps D st0 ((compileOp cfg cache τ polls).2.2.take k) = some (τ k)) :
    (compile cfg cache st0 polls none).1 = .ok ∧
    (compile cfg cache st0 polls none).2.1 = (compileOp cfg cache τ polls).2.1 :=
  have h := compileOp_self cfg D (fun D' h => by rw [hD] at h; exact (Option.some.inj h).symm) cache τ st0 polls hok hself
  ⟨h.1, h.2.1⟩

end Ddo.ParDom
