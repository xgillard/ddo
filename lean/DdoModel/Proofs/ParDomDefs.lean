import DdoModel.Proofs.DomContract
import DdoModel.Proofs.ParClosed
/-! # The PARALLEL solver with the shared dominance checker — definitions

`ParSys.Step` (the concrete transition system of `parallel.rs`, `DdoModel/ParSys.lean`) instantiated with compilations of the
diagram model **with the dominance checker enabled** (`DSolverCfg.cfg`: `dom := some D`, `EmptyCache`).

* `okRd` / `okXd`: the answer a worker gets is the answer of `compile` run from **some** store all of whose entries are exactly
  reached items (`StoreReach`) — *whatever the shared store is at that moment*: nothing else is assumed of it (adversarial store);
* `QStep` / `QRun`: the projected system (no cut-off: `NoAbortS`, as for `dominance_solver_optimal`);
* `DSys`, `DPStep`: the system that carries the shared store as a state component, every compilation reading and updating it;
* `DWOk`, `DSysInv`: the coverage invariant for a protected family (`BBInv`-style: "some open sub-problem lies on the protected
  family with a bound that does not cut the optimum off, or the incumbent is optimal"), per-worker stage facts;
* `DPCInv`: the side conditions of the diagram theorems. -/
set_option linter.unusedSectionVars false
set_option linter.unusedVariables false
namespace Ddo.ParDom
open Ddo Ddo.Truth Ddo.Closed Ddo.ParSys Ddo.ParClosed Ddo.C10
open Ddo.C01 (SolverCfg WellFormed toOut SolOf)
variable {S K : Type} [DecidableEq S] [DecidableEq K]

/-! ## 1. the answers of the compilations -/

/-- the restricted compilation of `N` with the (stale) incumbent `lb` answered `o`: the result of the diagram model with the
    checker enabled, run from a store whose entries are exactly reached items -/
def okRd (dv : DSolverCfg S K) (N : SubP S) (lb : Int) (o : DDOut S) : Prop :=
  ∃ store : DomStore S K, StoreReach dv.D dv.sv.P store ∧ store.layers.length = dv.sv.P.nbVars + 1 ∧
    (dv.compR store N lb).1 = .ok ∧ o = toOut (dv.compR store N lb).2.1

/-- the same for the relaxed compilation -/
def okXd (dv : DSolverCfg S K) (N : SubP S) (lb : Int) (o : DDOut S) : Prop :=
  ∃ store : DomStore S K, StoreReach dv.D dv.sv.P store ∧ store.layers.length = dv.sv.P.nbVars + 1 ∧
    (dv.compX store N lb).1 = .ok ∧ o = toOut (dv.compX store N lb).2.1

/-- **the steps of the parallel solver with the checker, store abstracted** (no compilation is cut off) -/
def QStep (dv : DSolverCfg S K) (s t : Sys S) : Prop :=
  Step dv.sv.dedup (okRd dv) (okXd dv) s t ∧ NoAbortS t

inductive QRun (dv : DSolverCfg S K) : Sys S → Sys S → Prop
  | refl (s : Sys S) : QRun dv s s
  | tail {s t u : Sys S} : QRun dv s t → QStep dv t u → QRun dv s u

/-! ## 2. the system with the shared store as a state component -/

structure DSys (S K : Type) where
  sys : Sys S
  store : DomStore S K

def DSys.init (dv : DSolverCfg S K) (U : Nat) : DSys S K :=
  ⟨Sys.init dv.sv.P none dv.sv.dedup U, DomStore.init dv.sv.P.nbVars⟩

/-- the critical sections are those of `ParSys` (they do not touch the checker); a compilation reads the shared store and leaves
    it as the compilation left it -/
inductive DPStep (dv : DSolverCfg S K) : DSys S K → DSys S K → Prop
  | sec (s : DSys S K) (t : Sys S)
      (h : Step dv.sv.dedup (fun _ _ _ => False) (fun _ _ _ => False) s.sys t) (hna : NoAbortS t) :
      DPStep dv s ⟨t, s.store⟩
  | compileR (s : DSys S K) (i : Nat) (n : SubP S) (lb : Int) (hw : s.sys.ws[i]? = some (.compR n lb))
      (hok : (dv.compR s.store n lb).1 = .ok) :
      DPStep dv s ⟨{ crit := s.sys.crit, ws := s.sys.ws.set i (.updR n lb (toOut (dv.compR s.store n lb).2.1)) },
        (dv.compR s.store n lb).2.2.2.store⟩
  | compileX (s : DSys S K) (i : Nat) (n : SubP S) (lb : Int) (hw : s.sys.ws[i]? = some (.compX n lb))
      (hok : (dv.compX s.store n lb).1 = .ok) :
      DPStep dv s ⟨{ crit := s.sys.crit, ws := s.sys.ws.set i (.updX n lb (toOut (dv.compX s.store n lb).2.1)) },
        (dv.compX s.store n lb).2.2.2.store⟩

inductive DPRun (dv : DSolverCfg S K) : DSys S K → DSys S K → Prop
  | refl (s : DSys S K) : DPRun dv s s
  | tail {s t u : DSys S K} : DPRun dv s t → DPStep dv t u → DPRun dv s u

/-! ## 3. the coverage invariant for a protected family (abstract in the diagram) -/
section abstract
variable (On : SubP S → Prop) (opt : Int) (Sol : List Dec → Int → Prop)

/-- stage facts of a worker, relative to the *current* incumbent `lbNow` -/
def DWOk (lbNow : Int) : WSt S → Prop
  | .compR _ lb => lb ≤ lbNow
  | .updR n lb o => lb ≤ lbNow ∧ DCompileOk On opt Sol n lb o
  | .compX _ lb => lb ≤ lbNow
  | .updX n lb o => lb ≤ lbNow ∧ DCompileOk On opt Sol n lb o ∧ (o.isExact = false → DCutsetOk On opt n lb o)
  | .enq n lb o => lb ≤ lbNow ∧ DCutsetOk On opt n lb o ∧ (∀ w, o.bestExact = some w → w ≤ lbNow)
  | _ => True

/-- **the coverage invariant of the parallel system, protected-family form** -/
structure DSysInv (s : Sys S) : Prop where
  lbOk : s.crit.base.bestLb ≤ opt
  solOk : ∀ p, s.crit.base.bestSol = some p → Sol p s.crit.base.bestLb
  loc : ∀ (i : Nat) (w : WSt S), s.ws[i]? = some w → DWOk On opt Sol s.crit.base.bestLb w
  /-- if the optimum beats the incumbent, an open node on the protected family still carries it below its bound (or the search
      was aborted) -/
  cover : opt > s.crit.base.bestLb → (∃ x, Open s x ∧ On x ∧ opt ≤ x.ub) ∨ s.crit.base.abort = true
  cnt : s.crit.ongoing = s.ws.countP WSt.holds
  /-- a worker that has left saw the abort flag or the optimum -/
  doneOk : (∃ i : Nat, s.ws[i]? = some .done) → s.crit.base.abort = true ∨ s.crit.base.bestLb = opt
  finAb : ∀ (i : Nat) (n : SubP S), s.ws[i]? = some (.fin n true) → s.crit.base.abort = true

end abstract

/-! ## 4. the side conditions of the diagram theorems -/

/-- what a worker carries between two sections: a stale incumbent in range, an answer of the diagram model -/
def DWInv (dv : DSolverCfg S K) (B : Int) : WSt S → Prop
  | .compR _ lb => iMin ≤ lb ∧ lb ≤ B
  | .compX _ lb => iMin ≤ lb ∧ lb ≤ B
  | .updR n lb o => okRd dv n lb o
  | .updX n lb o => okXd dv n lb o
  | .enq n lb o => okXd dv n lb o
  | _ => True

structure DWOkP (dv : DSolverCfg S K) (B : Int) (w : WSt S) : Prop where
  node : ∀ n, w.node = some n → C01.NodeOk dv.sv.P n
  stage : DWInv dv B w

/-- every fringe entry and every node in hand is reached exactly; incumbents in range; carried answers are the model's -/
structure DPCInv (dv : DSolverCfg S K) (H : Nat → S → EInt) (B : Int) (s : Sys S) : Prop where
  base : BaseOk dv.sv H B s.crit.base
  ws : ∀ w ∈ s.ws, DWOkP dv B w

/-- the model answers together with the side conditions -/
def okRd' (dv : DSolverCfg S K) (B : Int) (n : SubP S) (lb : Int) (o : DDOut S) : Prop :=
  okRd dv n lb o ∧ C01.NodeOk dv.sv.P n ∧ iMin ≤ lb ∧ lb ≤ B
def okXd' (dv : DSolverCfg S K) (B : Int) (n : SubP S) (lb : Int) (o : DDOut S) : Prop :=
  okXd dv n lb o ∧ C01.NodeOk dv.sv.P n ∧ iMin ≤ lb ∧ lb ≤ B

end Ddo.ParDom
