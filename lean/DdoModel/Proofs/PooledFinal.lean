import DdoModel.Proofs.PooledStage
import DdoModel.Proofs.MddCutset
/-! What `finalizeP` makes of the final diagram, with no hypothesis on how it was built: the pool becomes the terminal layer (`termsP`), the
    bottom-up passes write fields on which none of the readings below depends (`layers3P_xEq`), and the repaired `finalizeP` hands out the
    children of the root (`kidSub`) where `finalizePOld`, the code before the repair of D5, handed out the root (`finalizeP_cutset_new`). -/
set_option linter.unusedSectionVars false
set_option linter.unusedVariables false
namespace Ddo.Pooled
open Ddo
variable {S K : Type} [DecidableEq S] [DecidableEq K]

/-- the terminal layer `_finalize_layers` builds from the pool -/
def termsP (pd : PD S K) : List (Node S) := pd.pool.map (fun n => { n with depth := pd.depth })

/-- the layers after the bottom-up passes of `finalizeP` (which does not return them) -/
def layers3P (cfg : Cfg S K) (pd : PD S K) (hasEBP : Bool) : List (List (Node S)) :=
  let relaxed := cfg.ctype == .relaxed
  let terms := pd.pool.map (fun n => { n with depth := pd.depth })
  let layers0 := pd.plain ++ [terms]
  let termL := layers0.length - 1
  let bestValue := maxValue terms
  let bestExactValue := if hasEBP then bestValue else maxValue (terms.filter (·.isExact))
  let doCut := relaxed || pd.isExactField
  let (layers1, cs0) := if doCut then computeCutset .frontier 0 layers0 else (layers0, [])
  let cs := if pd.isExactField then [] else cs0
  let layers2 := if !cs.isEmpty && relaxed then computeLocalBounds layers1 else layers1
  let (layers3, _) := if doCut then computeThresholds .frontier pd.isExactField cfg.lb bestExactValue (some termL) layers2 else (layers2, [])
  layers3

theorem finalizeP_bestValue (cfg : Cfg S K) (pd : PD S K) (e : Bool) :
    (finalizeP cfg pd e).bestValue = maxValue (termsP pd) := rfl

theorem finalizeP_bestSol (cfg : Cfg S K) (pd : PD S K) (e : Bool) :
    (finalizeP cfg pd e).bestSol =
      (match maxValue (termsP pd) with
        | none => none
        | some v => ((layers3P cfg pd e)[(pd.plain ++ [termsP pd]).length - 1]?.getD []).find?
            (fun (n : Node S) => decide (n.value = v))).map
        (fun n => cfg.root.path ++ bestPath (layers3P cfg pd e) ((layers3P cfg pd e).length + 1) n) := rfl

theorem layers3P_keyEq (cfg : Cfg S K) (pd : PD S K) (e : Bool) (hrel : (cfg.ctype == .relaxed) = false) :
    KeyEq (layers3P cfg pd e) (pd.plain ++ [termsP pd]) := by
  unfold layers3P termsP
  simp only [hrel, Bool.and_false, Bool.false_eq_true, if_false, Bool.false_or]
  by_cases hx : pd.isExactField = true
  · simp only [hx, if_true]
    exact (computeThresholds_keyEq _ _ _ _ _ _).trans (computeCutset_keyEq _ _ _)
  · simp only [hx]
    exact KeyEq.refl _

theorem mem_termsP {pd : PD S K} {n' : Node S} (h : n' ∈ termsP pd) :
    ∃ n ∈ pd.pool, n' = { n with depth := pd.depth } := by
  unfold termsP at h
  obtain ⟨n, hn, rfl⟩ := List.mem_map.1 h
  exact ⟨n, hn, rfl⟩

theorem finalizeP_bestSol_eq (cfg : Cfg S K) (pd : PD S K) (e : Bool) (hrel : (cfg.ctype == .relaxed) = false)
    (w : Int) (hw : (finalizeP cfg pd e).bestValue = some w) :
    ∃ n, n ∈ pd.pool ∧ n.value = w ∧ ∀ q, BestChainP pd.plain pd.layers.length n.best q →
      (finalizeP cfg pd e).bestSol = some (cfg.root.path ++ q.reverse) := by
  rw [finalizeP_bestValue] at hw
  obtain ⟨n', hfind, hn', hv⟩ := find?_of_maxValue hw
  obtain ⟨n, hn, rfl⟩ := mem_termsP hn'
  refine ⟨n, hn, hv, fun q hq => ?_⟩
  have hk := layers3P_keyEq cfg pd e hrel
  rw [finalizeP_bestSol, hw]
  dsimp only
  generalize layers3P cfg pd e = L3 at hk ⊢
  have hlen : (pd.plain ++ [termsP pd]).length - 1 = pd.plain.length := by
    rw [List.length_append, List.length_singleton, Nat.add_sub_cancel]
  rw [hlen]
  have hlayer := hk.layer pd.plain.length
  rw [List.getElem?_concat_length, Option.getD_some] at hlayer
  have hf := find?_map_bv w _ _ hlayer
  rw [hfind] at hf
  cases hf3 : (L3[pd.plain.length]?.getD []).find? (fun n => decide (n.value = w)) with
  | none => rw [hf3] at hf; cases hf
  | some n3 =>
    rw [hf3] at hf
    simp only [Option.map_some, Option.some.injEq, bv, Prod.mk.injEq] at hf
    have hchain : BestChainP L3 pd.layers.length n3.best q := by
      rw [hf.2]; exact (hq.mono [termsP pd]).of_keyEq hk
    have := hchain.bestPath_eq n3 rfl (L3.length + 1) (by
      rw [hk.length, List.length_append, List.length_singleton, plain_length]; exact Nat.le_add_right _ 2)
    simp only [Option.map_some, Option.some.injEq, List.append_cancel_left_eq]
    rw [← this, List.reverse_reverse]

/-- the positions `_compute_frontier_cutset` collects (before the `is_exact` test and the `marked` filter) -/
def cs0P (cfg : Cfg S K) (pd : PD S K) : List (Nat × Nat) :=
  (if ((cfg.ctype == .relaxed) || pd.isExactField) = true then
      computeCutset .frontier 0 (pd.plain ++ [termsP pd])
    else (pd.plain ++ [termsP pd], [])).2

theorem finalizeP_cutset (cfg : Cfg S K) (pd : PD S K) (e : Bool) :
    (finalizePOld cfg pd e).cutset =
      match maxValue (termsP pd) with
      | none => []
      | some bv =>
        (if pd.isExactField then [] else cs0P cfg pd).filterMap (fun (lp : Nat × Nat) =>
          match getNode (layers3P cfg pd e) lp.1 lp.2 with
          | some n => if n.marked then
              some { state := n.state, value := n.value,
                     path := cfg.root.path ++ bestPath (layers3P cfg pd e) ((layers3P cfg pd e).length + 1) n,
                     ub := min (min (satAdd n.value n.rub) (satAdd n.value n.vbot)) bv, depth := n.depth }
            else none
          | none => none) := rfl

/-- what the repaired `finalizeP` hands out for a child `kid` of the root, `c0` being what `finalizePOld` hands out for the
    root itself: the exact child, one level deeper, with the bound of the root -/
def kidSub (cfg : Cfg S K) (c0 : SubP S) (kid : S × Dec × Int) : SubP S :=
  { state := kid.1, value := satAdd c0.value kid.2.2, path := cfg.root.path ++ [kid.2.1], ub := c0.ub, depth := c0.depth + 1 }

/-- the sub-problem `finalizePOld` builds from a node of the final layers -/
def subP (cfg : Cfg S K) (L3 : List (List (Node S))) (bv : Int) (n : Node S) : SubP S :=
  { state := n.state, value := n.value, path := cfg.root.path ++ bestPath L3 (L3.length + 1) n,
    ub := min (min (satAdd n.value n.rub) (satAdd n.value n.vbot)) bv, depth := n.depth }

/-- the cut-set of the repaired `finalizeP`: as `finalizePOld`, the positions of the layer of index 0 (the root) being
    replaced by the children of the root -/
theorem finalizeP_cutset_new (cfg : Cfg S K) (pd : PD S K) (e : Bool) :
    (finalizeP cfg pd e).cutset =
      match maxValue (termsP pd) with
      | none => []
      | some bv =>
        (if pd.isExactField then [] else cs0P cfg pd).flatMap (fun (lp : Nat × Nat) =>
          match getNode (layers3P cfg pd e) lp.1 lp.2 with
          | some n => if n.marked then
              (if lp.1 = 0 then pd.rootKids.map (kidSub cfg (subP cfg (layers3P cfg pd e) bv n))
               else [subP cfg (layers3P cfg pd e) bv n])
            else []
          | none => []) := rfl

theorem finalizeP_cutset_mem (cfg : Cfg S K) (pd : PD S K) (e : Bool) (c : SubP S)
    (hc : c ∈ (finalizePOld cfg pd e).cutset) :
    ∃ (lp : Nat × Nat) (n : Node S), lp ∈ (computeCutset .frontier 0 (pd.plain ++ [termsP pd])).2 ∧
      getNode (layers3P cfg pd e) lp.1 lp.2 = some n ∧
      c.state = n.state ∧ c.value = n.value ∧ c.depth = n.depth ∧
      c.path = cfg.root.path ++ bestPath (layers3P cfg pd e) ((layers3P cfg pd e).length + 1) n := by
  rw [finalizeP_cutset] at hc
  split at hc
  · cases hc
  · obtain ⟨lp, hlp, hsome⟩ := List.mem_filterMap.1 hc
    have hlp' : lp ∈ (computeCutset .frontier 0 (pd.plain ++ [termsP pd])).2 := by
      split at hlp
      · cases hlp
      · unfold cs0P at hlp
        split at hlp
        · exact hlp
        · cases hlp
    split at hsome
    · rename_i n hn
      split at hsome
      · simp only [Option.some.injEq] at hsome
        subst hsome
        exact ⟨lp, n, hlp', hn, rfl, rfl, rfl, rfl⟩
      · cases hsome
    · cases hsome

theorem layers3P_xEq (cfg : Cfg S K) (pd : PD S K) (e : Bool) : XEq (layers3P cfg pd e) (pd.plain ++ [termsP pd]) := by
  unfold layers3P termsP
  extract_lets relaxed terms layers0 termL bestValue bestExactValue doCut
  have h1 : XEq (if doCut = true then computeCutset .frontier 0 layers0 else (layers0, [])).1 layers0 := by
    split
    · exact computeCutset_xEq _ _ _
    · exact XEq.refl _
  generalize (if doCut = true then computeCutset .frontier 0 layers0 else (layers0, [])) = r1 at h1 ⊢
  obtain ⟨layers1, cs0⟩ := r1
  dsimp only at h1 ⊢
  have h2 : ∀ b : Bool, XEq (if b = true then computeLocalBounds layers1 else layers1) layers0 := by
    intro b
    cases b
    · exact h1
    · exact (computeLocalBounds_xEq _).trans h1
  generalize hl2 : (if (!(if pd.isExactField = true then [] else cs0).isEmpty && relaxed) = true
      then computeLocalBounds layers1 else layers1) = layers2
  have h2 : XEq layers2 layers0 := hl2 ▸ h2 _
  split
  · exact (computeThresholds_xEq _ _ _ _ _ _).trans h2
  · exact h2

theorem getNode_layers0 (pd : PD S K) {l p : Nat} {n : Node S} (h : getNode (pd.plain ++ [termsP pd]) l p = some n) :
    (∃ dp ly, pd.layers[l]? = some (dp, ly) ∧ n ∈ ly ∧ getNode pd.plain l p = some n) ∨
    (l = pd.layers.length ∧ ∃ m ∈ pd.pool, n = { m with depth := pd.depth }) := by
  obtain ⟨ly, h1, h2⟩ := Cover.getNode_lt h
  rw [List.getElem?_append] at h1
  split at h1
  · have hg : getNode pd.plain l p = some n := by unfold getNode; rw [h1]; exact h2
    obtain ⟨dp, ly', hl, hp⟩ := getNode_map_snd.1 hg
    exact .inl ⟨dp, ly', hl, List.mem_of_getElem? hp, hg⟩
  · rename_i hge
    right
    have hlt := Cover.lt_of_getElem?_some h1
    simp only [List.length_singleton] at hlt
    have h0 : l - pd.plain.length = 0 := Nat.lt_one_iff.1 hlt
    rw [h0] at h1
    simp only [List.getElem?_cons_zero, Option.some.injEq] at h1
    subst h1
    refine ⟨by rw [← plain_length]; exact Nat.le_antisymm (Nat.le_of_sub_eq_zero h0) (Nat.le_of_not_lt hge), ?_⟩
    exact mem_termsP (List.mem_of_getElem? h2)

theorem _root_.Ddo.BestChainP.of_xEq {ls ls' : List (List (Node S))} {l : Nat} {b : Option Arc} {q : List Dec}
    (h : BestChainP ls l b q) (hk : XEq ls' ls) : BestChainP ls' l b q := by
  induction h with
  | root l => exact .root l
  | step l a p q hl hg _ ih =>
    obtain ⟨p', hp', hs⟩ := hk.symm.getNode_some hg
    have hb : p'.best = p.best := by
      have := congrArg Node.best hs
      simpa only [stripB] using this
    exact .step l a p' q hl hp' (hb ▸ ih)

end Ddo.Pooled

namespace Ddo.PBounds
open Ddo Ddo.Pooled
variable {S K : Type} [DecidableEq S] [DecidableEq K]

theorem finalizeP_bestExactValue (cfg : Cfg S K) (pd : PD S K) (e : Bool) :
    (finalizeP cfg pd e).bestExactValue =
      if e then maxValue (termsP pd) else maxValue ((termsP pd).filter (·.isExact)) := rfl

end Ddo.PBounds
