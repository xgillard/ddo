import DdoModel.Proofs.ParCacheCoverFrame
/-! # The parallel caching solver — `KPInv` through the steps of `get_workload`

The cleaning loop (`kpinv_gwClear`: after `clear_layer` the cache refuses no more than before), `nn.ub <= best_lb` at a best-first
pop (`kpinv_gwStarve`: nothing in the fringe carries anything that beats, unless strictly deeper — the one place where `PopMax` is
used), a node refused by `must_explore` (`kpinv_gwDrop`: it carried nothing), a node kept (`kpinv_gwKeep`: it goes from the fringe to
the hand), and the pop-time threshold write with `take` (`kpinv_gwTake`: whatever it makes the cache refuse is carried by the node in
hand). -/
set_option linter.unusedSectionVars false
set_option linter.unusedVariables false
namespace Ddo.ParCache
open Ddo Ddo.C09 Ddo.ParSys Ddo.Theta
variable {S : Type} [DecidableEq S]

section
variable (H : Nat → S → EInt) (opt : Int) (Sol : List Dec → Int → Prop) (Rg : Nat → Int → Prop)

theorem view_clear_sub {c c' : Cache S} {d : Nat} (h : c.clearLayer d = some c') (st : S) (d' : Nat) (t : Thr)
    (ht : viewOf c' st d' = some t) : viewOf c st d' = some t := by
  rcases viewOf_clearLayer c c' d h st d' with e | e
  · rw [← e]; exact ht
  · rw [e] at ht; cases ht

theorem prunM_sub {T T' : CView S} (hsub : ∀ st d t, T' st d = some t → T st d = some t) {c : SubP S} (h : prunM T' c) :
    prunM T c := by
  obtain ⟨t, ht, hp⟩ := h
  exact ⟨t, hsub _ _ _ ht, hp⟩

theorem kpinv_gwClear {s : KSys S} (hI : KPInv H opt Sol Rg s) {c' : Cache S}
    (hcl : s.cache.clearLayer s.crit.base.firstActive = some c') :
    KPInv H opt Sol Rg { s with crit := bumpFirst s.crit, cache := c', log := c' :: s.log } := by
  have hsub := view_clear_sub hcl
  have hB : ∀ x, Beats ({ s with crit := bumpFirst s.crit, cache := c', log := c' :: s.log } : KSys S) x → Beats s x :=
    fun x hb => hb
  have hT : ∀ x d, Beats ({ s with crit := bumpFirst s.crit, cache := c', log := c' :: s.log } : KSys S) x →
      Live H s x d → Live H ({ s with crit := bumpFirst s.crit, cache := c', log := c' :: s.log } : KSys S) x d := by
    intro x d _ hl
    rcases hl with ⟨c, hc, hcc, hp⟩ | ⟨j, w, hw, ⟨n, hn, hcc⟩ | ⟨c, hc, hcc, hp⟩⟩
    · exact .inl ⟨c, hc, hcc, fun h => hp (prunM_sub hsub h)⟩
    · exact .inr ⟨j, w, hw, .inl ⟨n, hn, hcc⟩⟩
    · exact .inr ⟨j, w, hw, .inr ⟨c, hc, hcc, fun h => hp (prunM_sub hsub h)⟩⟩
  refine kpinv_step H opt Sol Rg hI hB hT (fun c hc => hI.good c hc) (fun c hc => hI.rng c hc) hI.lbOk hI.solOk
    List.mem_cons_self ?_ (fun c hc => .inl hc) hI.popmax ?_ hI.doneOk
  · intro c hc
    rcases List.mem_cons.mp hc with e | e
    · right
      subst e
      intro st d tt htt
      exact (hI.jst s.cache hI.cur st d tt (hsub st d tt htt)).transfer H Rg hB hT
    · exact .inl e
  · intro j w hj
    exact (hI.wok j w hj).mono H opt Sol Rg (Int.le_refl _) (fun c hc => List.mem_cons_of_mem _ hc)

theorem mustExplore_prun {c : Cache S} {N : SubP S} {b : Bool} (h : c.mustExplore N.state N.depth N.value = some b) :
    b = false ↔ prunM (viewOf c) N := by
  unfold Cache.mustExplore at h
  cases hg : c.get N.state N.depth with
  | none => rw [hg] at h; cases h
  | some cell =>
    rw [hg] at h
    simp only [Option.map_some, Option.some.injEq] at h
    have hv : viewOf c N.state N.depth = cell := by unfold viewOf; rw [hg]; rfl
    rw [prunM_iff, hv, h]

/-- `nn.ub <= best_lb` at a best-first pop: nothing in the fringe carries anything that beats, unless strictly deeper -/
theorem kpinv_gwStarve {s : KSys S} (hI : KPInv H opt Sol Rg s) {i : Nat} {N : SubP S} {rest : List (SubP S)}
    (hw : s.ws[i]? = some .gwP) (hp : PopMax s.crit.base.fringe N rest) (hub : N.ub ≤ s.crit.base.bestLb) :
    KPInv H opt Sol Rg { s with crit := starve s.crit, ws := s.ws.set i .idle } := by
  have hs : SameW (.gwP : KW S) .idle := ⟨rfl, rfl, rfl⟩
  have hB : ∀ x, Beats ({ s with crit := starve s.crit, ws := s.ws.set i .idle } : KSys S) x → Beats s x :=
    fun x hb => (beatsC_set_same hw hs).mp hb
  have hle : ∀ c ∈ s.crit.base.fringe, c.ub ≤ s.crit.base.bestLb := by
    intro c hc
    rcases (mem_of_popMax hp c).mp hc with e | e
    · subst e; exact hub
    · have := hp.2 c e; omega
  have hT : ∀ x d, Beats ({ s with crit := starve s.crit, ws := s.ws.set i .idle } : KSys S) x →
      Live H s x d → Live H ({ s with crit := starve s.crit, ws := s.ws.set i .idle } : KSys S) x d := by
    apply tp_of_local
    intro x d hb hl
    refine liveC_cases H (i := i) hl (fun c hc hcc _ => ?_) (fun w1 hw1 hl1 => ?_) (fun j w hj hwj hl1 => ?_)
    · right
      obtain ⟨hd, y, hy, hxy⟩ := hcc
      rcases hI.ub c (.inl (.inl hc)) y hy ((hB x hb).up hxy) with h1 | h1
      · have := hle c hc; have := (hB x hb).1; omega
      · exact ⟨y, c.depth + 1, hxy, by omega, h1⟩
    · rw [hw] at hw1; cases hw1
      left
      exact liveC_of_self H hw ((wlive_same H hs.toL).mpr hl1)
    · left
      exact liveC_of_other H hj hwj hl1
  have hpb : ∀ c, Prunable ({ s with crit := starve s.crit, ws := s.ws.set i .idle } : KSys S) c → Prunable s c :=
    fun c h => prunable_back hw (fun c hc => by cases hc) (fun c hc => by cases hc) h
  refine kpinv_step_back H opt Sol Rg hI hB hT hpb (fun c hc => held_back hw (fun c hc => by cases hc) hc)
    (fun c hc => fresh_stale rfl hc) hI.lbOk hI.solOk hI.cur
    (fun c hc => .inl hc) ?_ ?_ ?_
  · intro j n hj c hc
    cases hc
  · exact wok_set H opt Sol Rg hI (Int.le_refl _) (fun c hc => hc) trivial
  · exact done_set H opt Sol Rg hI (Int.le_refl _) hI.lbOk (fun e => by cases e)

theorem dropOne_spec {c c' : ParCrit S} {N : SubP S} {rest : List (SubP S)} (h : dropOne c N rest = some c') :
    c'.base.fringe = rest ∧ c'.base.bestLb = c.base.bestLb ∧ c'.base.bestSol = c.base.bestSol := by
  obtain ⟨l, _, rfl⟩ := dropOne_eq h
  exact ⟨rfl, rfl, rfl⟩

/-- a node refused by `must_explore` carried nothing -/
theorem kpinv_gwDrop {s : KSys S} (hI : KPInv H opt Sol Rg s) {N : SubP S} {rest : List (SubP S)} {c' : ParCrit S}
    (hp : PopMax s.crit.base.fringe N rest)
    (hme : s.cache.mustExplore N.state N.depth N.value = some false) (hd : dropOne s.crit N rest = some c') :
    KPInv H opt Sol Rg { s with crit := c' } := by
  obtain ⟨e1, e2, e3⟩ := dropOne_spec hd
  have hprun : prunM (viewOf s.cache) N := (mustExplore_prun hme).mp rfl
  have hsubF : ∀ c ∈ c'.base.fringe, c ∈ s.crit.base.fringe := by
    intro c hc; rw [e1] at hc; exact (mem_of_popMax hp c).mpr (.inr hc)
  have hB : ∀ x, Beats ({ s with crit := c' } : KSys S) x → Beats s x := by
    intro x hb
    have hb' : BeatsC c'.base.bestLb s.ws x := hb
    rw [e2] at hb'; exact hb'
  have hT : ∀ x d, Beats ({ s with crit := c' } : KSys S) x → Live H s x d → Live H ({ s with crit := c' } : KSys S) x d := by
    intro x d _ hl
    rcases hl with ⟨c, hc, hcc, hnp⟩ | h
    · rcases (mem_of_popMax hp c).mp hc with e | e
      · subst e; exact absurd hprun hnp
      · exact .inl ⟨c, by rw [e1]; exact e, hcc, hnp⟩
    · exact .inr h
  have hpb : ∀ c, Prunable ({ s with crit := c' } : KSys S) c → Prunable s c := by
    rintro c (h | h)
    · exact .inl (hsubF c h)
    · exact .inr h
  refine kpinv_step_back H opt Sol Rg hI hB hT hpb (fun c hc => hc) (fun c hc => hc)
    (by show c'.base.bestLb ≤ opt; rw [e2]; exact hI.lbOk)
    (by show ∀ p, c'.base.bestSol = some p → Sol p c'.base.bestLb; rw [e2, e3]; exact hI.solOk) hI.cur
    (fun c hc => .inl hc) ?_ ?_ ?_
  · intro j n hj c hc
    exact hI.popmax j n hj c (hsubF c hc)
  · intro j w hj
    show WOk H opt Sol Rg c'.base.bestLb s.log w
    rw [e2]; exact hI.wok j w hj
  · intro h
    show c'.base.bestLb = opt
    rw [e2]; exact hI.doneOk h

theorem kpinv_gwKeep {s : KSys S} (hI : KPInv H opt Sol Rg s) {i : Nat} {N : SubP S} {rest : List (SubP S)}
    (hw : s.ws[i]? = some .gwP) (hp : PopMax s.crit.base.fringe N rest) :
    KPInv H opt Sol Rg { s with crit := setFringe s.crit rest, ws := s.ws.set i (.gwW N) } := by
  have hsubF : ∀ c ∈ rest, c ∈ s.crit.base.fringe := fun c hc => (mem_of_popMax hp c).mpr (.inr hc)
  have hNF : N ∈ s.crit.base.fringe := (mem_of_popMax hp N).mpr (.inl rfl)
  have hB : ∀ x, Beats ({ s with crit := setFringe s.crit rest, ws := s.ws.set i (.gwW N) } : KSys S) x → Beats s x :=
    fun x hb => beatsC_of_set hw hb (Int.le_refl _) (fun v hv => by cases hv)
  have hT : ∀ x d, Beats ({ s with crit := setFringe s.crit rest, ws := s.ws.set i (.gwW N) } : KSys S) x →
      Live H s x d → Live H ({ s with crit := setFringe s.crit rest, ws := s.ws.set i (.gwW N) } : KSys S) x d := by
    intro x d _ hl
    refine liveC_cases H (i := i) hl (fun c hc hcc hnp => ?_) (fun w1 hw1 hl1 => ?_) (fun j w hj hwj hl1 => ?_)
    · rcases (mem_of_popMax hp c).mp hc with e | e
      · subst e
        exact liveC_of_self H hw (.inl ⟨c, rfl, hcc⟩)
      · exact liveC_of_F H (F := rest) e hcc hnp
    · rw [hw] at hw1; cases hw1
      rcases hl1 with ⟨n, hn, _⟩ | ⟨c, hc, _⟩
      · cases hn
      · cases hc
    · exact liveC_of_other H hj hwj hl1
  have hpb : ∀ c, Prunable ({ s with crit := setFringe s.crit rest, ws := s.ws.set i (.gwW N) } : KSys S) c → Prunable s c :=
    fun c h => prunable_back hw (fun c hc => by cases hc) hsubF h
  refine kpinv_step H opt Sol Rg hI hB hT ?_ (fun c hc => hI.rng c (hpb c hc)) hI.lbOk hI.solOk hI.cur
    (fun c hc => .inl hc) ?_ ?_ ?_ ?_
  · rintro c (hc | hc)
    · exact hI.good c (.inl (hpb c hc))
    · rcases held_set hc with h | ⟨j, w, _, hj, hc'⟩
      · cases h; exact hI.good _ (.inl (.inl hNF))
      · exact hI.good c (.inr ⟨j, w, hj, hc'⟩)
  · rintro c (hc | hc)
    · exact .inl (.inl (hpb c hc))
    · rcases fresh_set hc with (e | e) | ⟨j, _, hj⟩
      · cases e; exact .inl (.inl (.inl hNF))
      · cases e
      · exact .inl (.inr ⟨j, hj⟩)
  · exact popmax_set H opt Sol Rg hI hsubF (fun n e => by cases e; exact hp.2)
  · exact wok_set H opt Sol Rg hI (Int.le_refl _) (fun c hc => hc) trivial
  · exact done_set H opt Sol Rg hI (Int.le_refl _) hI.lbOk (fun e => by cases e)

/-- the pop-time write `update_threshold(nn.state, nn.depth, nn.value, explored = true)`: whatever it makes the cache refuse
    is carried by the node in hand -/
theorem kpinv_gwTake {s : KSys S} (hI : KPInv H opt Sol Rg s) {i : Nat} {n : SubP S} {c' : Cache S} {crit' : ParCrit S}
    (hw : s.ws[i]? = some (.gwW n)) (hu : s.cache.update n.state n.depth ⟨n.value, true⟩ = some c')
    (ht : s.crit.take i n = some crit') :
    KPInv H opt Sol Rg { crit := crit', cache := c', log := c' :: s.log, ws := s.ws.set i (.readR n) } := by
  obtain ⟨e1, e2, e3, _⟩ := take_spec ht
  have hv : viewOf c' = (viewOf s.cache).upd (n.state, n.depth, n.value, true) := viewOf_update s.cache c' _ _ _ _ hu
  have hs : SameW (.gwW n : KW S) (.readR n) := ⟨rfl, rfl, rfl⟩
  have hB : ∀ x, Beats ({ crit := crit', cache := c', log := c' :: s.log, ws := s.ws.set i (.readR n) } : KSys S) x → Beats s x := by
    intro x hb
    have hb' : BeatsC crit'.base.bestLb (s.ws.set i (.readR n)) x := hb
    rw [e2] at hb'
    exact (beatsC_set_same hw hs).mp hb'
  -- a prunable witness that the write refuses is dominated by the node in hand
  have hnew : ∀ (c : SubP S) (x : Int) (d : Nat), Carries H c x d → ¬ prunM (viewOf s.cache) c → prunM (viewOf c') c →
      Carries H n x d := by
    intro c x d hcc hnp hp
    rw [hv] at hp
    obtain ⟨a1, a2, a3, _⟩ := prunM_upd_new _ _ c hnp hp
    dsimp only at a1 a2
    refine carries_cell H hcc a1 a2 ?_
    unfold prunBy upThr at a3
    dsimp only at a3
    omega
  have hT : ∀ x d, Beats ({ crit := crit', cache := c', log := c' :: s.log, ws := s.ws.set i (.readR n) } : KSys S) x →
      Live H s x d → Live H ({ crit := crit', cache := c', log := c' :: s.log, ws := s.ws.set i (.readR n) } : KSys S) x d := by
    intro x d _ hl
    show LiveC H crit'.base.fringe (viewOf c') (s.ws.set i (.readR n)) x d
    rw [e1]
    refine liveC_cases H (i := i) hl (fun c hc hcc hnp => ?_) (fun w1 hw1 hl1 => ?_) (fun j w hj hwj hl1 => ?_)
    · by_cases hp : prunM (viewOf c') c
      · exact liveC_of_self H hw (.inl ⟨n, rfl, hnew c x d hcc hnp hp⟩)
      · exact liveC_of_F H hc hcc hp
    · rw [hw] at hw1; cases hw1
      rcases hl1 with ⟨m, hm, hcc⟩ | ⟨c, hc, _⟩
      · exact liveC_of_self H hw (.inl ⟨m, hm, hcc⟩)
      · cases hc
    · rcases hl1 with ⟨m, hm, hcc⟩ | ⟨c, hc, hcc, hnp⟩
      · exact liveC_of_other H hj hwj (.inl ⟨m, hm, hcc⟩)
      · by_cases hp : prunM (viewOf c') c
        · exact liveC_of_self H hw (.inl ⟨n, rfl, hnew c x d hcc hnp hp⟩)
        · exact liveC_of_other H hj hwj (.inr ⟨c, hc, hcc, hp⟩)
  have hpb : ∀ c, Prunable ({ crit := crit', cache := c', log := c' :: s.log, ws := s.ws.set i (.readR n) } : KSys S) c →
      Prunable s c :=
    fun c h => prunable_back hw (fun c hc => by cases hc) (fun c hc => by rw [← e1]; exact hc) h
  refine kpinv_step_back H opt Sol Rg hI hB hT hpb
    (fun c hc => held_back (w0 := .gwW n) (a := .readR n) hw (fun c hc => hc) hc)
    (fun c hc => fresh_back hw (fun c hc => by
      rcases hc with e | e
      · cases e
      · cases e; exact .inl rfl) hc)
    (by show crit'.base.bestLb ≤ opt; rw [e2]; exact hI.lbOk)
    (by show ∀ p, crit'.base.bestSol = some p → Sol p crit'.base.bestLb; rw [e2, e3]; exact hI.solOk)
    List.mem_cons_self ?_ ?_ ?_ ?_
  · -- the new content of the cache is justified
    intro c hc
    rcases List.mem_cons.mp hc with e | e
    · right
      subst e
      intro st d tt htt
      rw [hv] at htt
      rcases upd_get _ _ st d tt htt with h1 | ⟨a1, a2, a3⟩
      · exact (hI.jst s.cache hI.cur st d tt h1).transfer H Rg hB hT
      · dsimp only at a1 a2 a3
        subst a1; subst a2; subst a3
        intro v h hrg hvt hH _
        dsimp only at hvt
        refine liveC_of_self H hw (.inl ⟨n, rfl, Nat.le_refl _, n.value + h, ?_, by omega⟩)
        unfold optOf EInt.addI
        rw [hH]
        simp only [Option.map_some]
        congr 1
        omega
    · exact .inl e
  · intro j m hj
    show ∀ c ∈ crit'.base.fringe, c.ub ≤ m.ub
    rw [e1]
    exact popmax_set H opt Sol Rg hI (fun c hc => hc) (fun m e => by cases e) j m hj
  · intro j w hj
    show WOk H opt Sol Rg crit'.base.bestLb (c' :: s.log) w
    rw [e2]
    exact wok_set H opt Sol Rg hI (a := .readR n) (Int.le_refl _) (fun c hc => List.mem_cons_of_mem _ hc) trivial j w hj
  · intro h
    show crit'.base.bestLb = opt
    rw [e2]
    exact done_set H opt Sol Rg hI (Int.le_refl _) hI.lbOk (fun e => by cases e) h

end
end Ddo.ParCache
