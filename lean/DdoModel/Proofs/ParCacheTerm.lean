import DdoModel.Proofs.ParCacheSys
import DdoModel.Proofs.ParSysTerm
/-! # Termination of the parallel solver WITH the threshold cache (`ParCacheSys.KStep`)

A lexicographic measure `muK` on `nbVars + 8` coordinates that EVERY `KStep` strictly decreases (the 21 constructors:
the steps inside `get_workload`, every single cache write, the panics), provided the cut-sets the workers are about to
enqueue hold strictly deeper nodes (`ProgOkK`, an invariant when `okX` guarantees it: `kstep_progOkK`).  No other
invariant is needed: the measure decreases from *any* state, even one in which several workers are inside
`get_workload` at once.

Coordinates, most significant first (`K = nbVars + 1`, depths clamped to `K` by `cdepth` of `Proofs/SeqMeasure.lean`):
* `0 … K` — `VcK`: number of open sub-problems of that depth: fringe entries + nodes in hand not yet closed
             (`KW.openNode`: from `gwW n` — popped and kept — to `enq`);  `gwDrop` / `gwStarve` remove fringe entries for
             good, closing a node (`fin`, a crash with a node in hand) removes a hand, `enqueue` adds deeper nodes only;
* `K + 1` — length of the fringe (`gwKeep` moves a node from the fringe to a hand);
* `K + 2` — `HcK`: number of *busy* workers (`gwW n` … `fin n`): `notify` releases one (and wakes the parked workers,
             which raises the rank sum below);
* `K + 3` — `BcK`: number of workers in stage `gwP` **if the fringe is empty**, else `0`: this is what pays for
             `gwEmpty : gwP → idle` (the only local move that goes *up* in the rank): it can only grow when the fringe
             becomes empty (`gwDrop` / `gwStarve` / `gwKeep`: more significant coordinates decrease) — `gwToPop`, the only
             way into `gwP`, requires a non-empty fringe;
* `K + 4` — `RcK`: sum of the stage ranks (`idle > gwC > gwP, waiting, done`; `gwW > readR > compR > wrR > readX > compX >
             wrX > enq`);
* `K + 5` — `TcK`: sum of the numbers of `update_threshold` calls left (`writeR` / `writeX`; `compileR` / `compileX`
             raise it by an arbitrary amount but lower the rank);
* `K + 6` — `nbVars - first_active_layer` (`gwClear`, which changes nothing else the measure reads). -/
set_option linter.unusedSectionVars false
set_option linter.unusedVariables false
set_option linter.unusedSimpArgs false
namespace Ddo.ParCache
open Ddo Ddo.C09 Ddo.ParSys Ddo.C01t
variable {S : Type} [DecidableEq S]

/-- the worker has popped a node it has not yet acknowledged (`gwW n` … `fin n`) -/
def KW.busy : KW S → Bool
  | .gwW _ | .readR _ | .compR _ _ _ | .wrR _ _ _ _ _ _ | .readX _ | .compX _ _ _ | .wrX _ _ _ _ _ _ | .enq _ _ _ _ _
  | .fin _ => true
  | _ => false

def KW.isP : KW S → Bool
  | .gwP => true
  | _ => false

/-- stages left -/
def KW.rank : KW S → Nat
  | .done | .crashed | .fin _ => 0
  | .waiting | .gwP | .enq _ _ _ _ _ => 1
  | .gwC | .wrX _ _ _ _ _ _ => 2
  | .idle | .compX _ _ _ => 3
  | .readX _ => 4
  | .wrR _ _ _ _ _ _ => 5
  | .compR _ _ _ => 6
  | .readR _ => 7
  | .gwW _ => 8

/-- `update_threshold` calls left -/
def KW.todoLen : KW S → Nat
  | .wrR _ _ _ _ _ todo | .wrX _ _ _ _ _ todo => todo.length
  | _ => 0

/-- does the worker hold an open node of clamped depth `d`? -/
def hpK (K d : Nat) (w : KW S) : Bool :=
  match w.openNode with
  | some n => cdepth K n == d
  | none => false

def handK (K : Nat) (ws : List (KW S)) (d : Nat) : Nat := ws.countP (hpK K d)
def VcK (K : Nat) (fr : List (SubP S)) (ws : List (KW S)) (d : Nat) : Nat := cnt K fr d + handK K ws d
def HcK (ws : List (KW S)) : Nat := ws.countP KW.busy
/-- workers about to pop an empty fringe -/
def BcK : List (SubP S) → List (KW S) → Nat
  | [], ws => ws.countP KW.isP
  | _ :: _, _ => 0
def RcK (ws : List (KW S)) : Nat := (ws.map KW.rank).sum
def TcK (ws : List (KW S)) : Nat := (ws.map KW.todoLen).sum

/-- the coordinates after the open-node counts -/
def tlK (nbVars : Nat) (c : ParCrit S) (ws : List (KW S)) : Nat → Nat
  | 0 => c.base.fringe.length
  | 1 => HcK ws
  | 2 => BcK c.base.fringe ws
  | 3 => RcK ws
  | 4 => TcK ws
  | _ => nbVars - c.base.firstActive

/-- the measure, as a function of what it reads: the shared record and the workers -/
def muC (nbVars : Nat) (c : ParCrit S) (ws : List (KW S)) : Nat → Nat :=
  vecThen (nbVars + 2) (VcK (nbVars + 1) c.base.fringe ws) (tlK nbVars c ws)

def muK (nbVars : Nat) (s : KSys S) : Nat → Nat := muC nbVars s.crit s.ws

theorem BcK_nil (ws : List (KW S)) : BcK ([] : List (SubP S)) ws = ws.countP KW.isP := rfl
theorem BcK_ne {fr : List (SubP S)} (h : fr ≠ []) (ws : List (KW S)) : BcK fr ws = 0 := by
  cases fr with
  | nil => exact absurd rfl h
  | cons _ _ => rfl
theorem BcK_le (fr : List (SubP S)) (ws : List (KW S)) : BcK fr ws ≤ ws.countP KW.isP := by
  cases fr with
  | nil => exact Nat.le_refl _
  | cons _ _ => exact Nat.zero_le _

theorem lt_F {nbVars : Nat} {c c' : ParCrit S} {ws ws' : List (KW S)}
    (hV : ∀ e, VcK (nbVars + 1) c'.base.fringe ws' e ≤ VcK (nbVars + 1) c.base.fringe ws e)
    (hF : c'.base.fringe.length < c.base.fringe.length) :
    LexLT (nbVars + 8) (muC nbVars c' ws') (muC nbVars c ws) :=
  lexLT_tl 0 (by omega) hV hF (fun j hj => absurd hj (Nat.not_lt_zero j))

theorem lt_H {nbVars : Nat} {c c' : ParCrit S} {ws ws' : List (KW S)}
    (hV : ∀ e, VcK (nbVars + 1) c'.base.fringe ws' e ≤ VcK (nbVars + 1) c.base.fringe ws e)
    (hF : c'.base.fringe.length ≤ c.base.fringe.length) (hH : HcK ws' < HcK ws) :
    LexLT (nbVars + 8) (muC nbVars c' ws') (muC nbVars c ws) :=
  lexLT_tl 1 (by omega) hV hH (fun j hj => by
    have : j = 0 := by omega
    subst this; exact hF)

theorem lt_A {nbVars : Nat} {c c' : ParCrit S} {ws : List (KW S)}
    (hfr : c'.base.fringe = c.base.fringe)
    (hA : nbVars - c'.base.firstActive < nbVars - c.base.firstActive) :
    LexLT (nbVars + 8) (muC nbVars c' ws) (muC nbVars c ws) :=
  lexLT_tl 5 (by omega) (fun e => by rw [hfr]; exact Nat.le_refl _) hA (fun j hj => by
    rcases (show j = 0 ∨ j = 1 ∨ j = 2 ∨ j = 3 ∨ j = 4 by omega) with rfl | rfl | rfl | rfl | rfl
    · show c'.base.fringe.length ≤ c.base.fringe.length
      rw [hfr]; exact Nat.le_refl _
    · exact Nat.le_refl _
    · show BcK c'.base.fringe ws ≤ BcK c.base.fringe ws
      rw [hfr]; exact Nat.le_refl _
    · exact Nat.le_refl _
    · exact Nat.le_refl _)

theorem hpK_of_open {K d : Nat} {w : KW S} {n : SubP S} (h : w.openNode = some n) :
    hpK K d w = (cdepth K n == d) := by unfold hpK; rw [h]
theorem hpK_of_none {K d : Nat} {w : KW S} (h : w.openNode = none) : hpK K d w = false := by unfold hpK; rw [h]
theorem hpK_congr {K d : Nat} {w w' : KW S} (h : w'.openNode = w.openNode) : hpK K d w' = hpK K d w := by
  unfold hpK; rw [h]

theorem handK_same {K : Nat} {ws : List (KW S)} {i : Nat} {w : KW S} (hw : ws[i]? = some w) (w' : KW S)
    (hop : w'.openNode = w.openNode) (e : Nat) : handK K (ws.set i w') e = handK K ws e := by
  have := countP_set (hpK K e) w' hw
  rw [hpK_congr hop] at this
  unfold handK
  omega

theorem handK_close {K : Nat} {ws : List (KW S)} {i : Nat} {w : KW S} {n : SubP S} (hw : ws[i]? = some w) (w' : KW S)
    (hop : w.openNode = some n) (hop' : w'.openNode = none) (e : Nat) :
    handK K (ws.set i w') e + (if cdepth K n = e then 1 else 0) = handK K ws e := by
  have := countP_set (hpK K e) w' hw
  simp only [hpK_of_open hop, hpK_of_none hop', beq_iff_eq, Bool.false_eq_true, if_false, Nat.add_zero] at this
  exact this

theorem handK_open {K : Nat} {ws : List (KW S)} {i : Nat} {w : KW S} {n : SubP S} (hw : ws[i]? = some w) (w' : KW S)
    (hop : w.openNode = none) (hop' : w'.openNode = some n) (e : Nat) :
    handK K (ws.set i w') e = handK K ws e + (if cdepth K n = e then 1 else 0) := by
  have := countP_set (hpK K e) w' hw
  simp only [hpK_of_open hop', hpK_of_none hop, beq_iff_eq, Bool.false_eq_true, if_false, Nat.add_zero] at this
  exact this

theorem BcK_set_le {fr : List (SubP S)} {ws : List (KW S)} {i : Nat} {w : KW S} (hw : ws[i]? = some w) (w' : KW S)
    (hP : w'.isP = true → fr ≠ []) : BcK fr (ws.set i w') ≤ BcK fr ws := by
  cases fr with
  | cons _ _ => exact Nat.le_refl _
  | nil =>
    have := countP_set KW.isP w' hw
    have h' : w'.isP = false := by
      cases h : w'.isP with
      | false => rfl
      | true => exact absurd rfl (hP h)
    rw [h'] at this
    rw [BcK_nil, BcK_nil]
    simp at this
    omega

/-- worker `i` changes stage, keeping its node open (or having none), the fringe is untouched: the coordinates above the
    rank sum do not grow -/
theorem kset_le {nbVars : Nat} {c : ParCrit S} {ws : List (KW S)} {i : Nat} {w : KW S} (hw : ws[i]? = some w)
    (c' : ParCrit S) (w' : KW S) (hfr : c'.base.fringe = c.base.fringe) (hop : w'.openNode = w.openNode)
    (hh : w'.busy = w.busy) (hP : w'.isP = true → c.base.fringe ≠ []) :
    (∀ e, VcK (nbVars + 1) c'.base.fringe (ws.set i w') e ≤ VcK (nbVars + 1) c.base.fringe ws e) ∧
    ∀ j, j < 3 → tlK nbVars c' (ws.set i w') j ≤ tlK nbVars c ws j := by
  refine ⟨fun e => ?_, fun j hj => ?_⟩
  · unfold VcK
    rw [hfr, handK_same hw w' hop]; exact Nat.le_refl _
  · rcases (show j = 0 ∨ j = 1 ∨ j = 2 by omega) with rfl | rfl | rfl
    · exact Nat.le_of_eq (congrArg List.length hfr)
    · exact Nat.le_of_eq (countP_set_keep KW.busy _ hw hh)
    · show BcK c'.base.fringe (ws.set i w') ≤ BcK c.base.fringe ws
      rw [hfr]; exact BcK_set_le hw w' hP

/-- a step as in `kset_le` with a strictly smaller stage rank: the measure decreases (at the rank sum) -/
theorem klocal_lt {nbVars : Nat} {c : ParCrit S} {ws : List (KW S)} {i : Nat} {w : KW S} (hw : ws[i]? = some w)
    (c' : ParCrit S) (w' : KW S) (hfr : c'.base.fringe = c.base.fringe) (hop : w'.openNode = w.openNode)
    (hh : w'.busy = w.busy) (hP : w'.isP = true → c.base.fringe ≠ []) (hr : w'.rank < w.rank) :
    LexLT (nbVars + 8) (muC nbVars c' (ws.set i w')) (muC nbVars c ws) := by
  obtain ⟨h1, h2⟩ := kset_le (nbVars := nbVars) hw c' w' hfr hop hh hP
  refine lexLT_tl 3 (by omega) h1 ?_ h2
  have := sum_set KW.rank w' hw
  show RcK (ws.set i w') < RcK ws
  unfold RcK
  omega

/-- a step as in `kset_le` with the same rank and one `update_threshold` call less to make: the measure decreases (at `TcK`) -/
theorem ktodo_lt {nbVars : Nat} {c : ParCrit S} {ws : List (KW S)} {i : Nat} {w : KW S} (hw : ws[i]? = some w)
    (c' : ParCrit S) (w' : KW S) (hfr : c'.base.fringe = c.base.fringe) (hop : w'.openNode = w.openNode)
    (hh : w'.busy = w.busy) (hP : w'.isP = true → c.base.fringe ≠ []) (hr : w'.rank = w.rank)
    (ht : w'.todoLen < w.todoLen) :
    LexLT (nbVars + 8) (muC nbVars c' (ws.set i w')) (muC nbVars c ws) := by
  obtain ⟨h1, h2⟩ := kset_le (nbVars := nbVars) hw c' w' hfr hop hh hP
  refine lexLT_tl 4 (by omega) h1 ?_ (fun j hj => ?_)
  · have := sum_set KW.todoLen w' hw
    show TcK (ws.set i w') < TcK ws
    unfold TcK
    omega
  · rcases Nat.lt_succ_iff_lt_or_eq.mp hj with hj | rfl
    · exact h2 j hj
    · have := sum_set KW.rank w' hw
      show RcK (ws.set i w') ≤ RcK ws
      unfold RcK
      omega

/-- worker `i` closes its node `n` (goes to a stage without open node), the fringe loses nothing shallower and gains
    nothing at the depth of `n` or above -/
theorem kclose_lt {nbVars : Nat} {c : ParCrit S} {ws : List (KW S)} {i : Nat} {w : KW S} {n : SubP S} (hw : ws[i]? = some w)
    (c' : ParCrit S) (w' : KW S) (hop : w.openNode = some n) (hop' : w'.openNode = none)
    (hfr : ∀ e, e ≤ cdepth (nbVars + 1) n → cnt (nbVars + 1) c'.base.fringe e ≤ cnt (nbVars + 1) c.base.fringe e) :
    LexLT (nbVars + 8) (muC nbVars c' (ws.set i w')) (muC nbVars c ws) := by
  refine lexLT_vec (cdepth (nbVars + 1) n) (by unfold cdepth; omega) (by omega) ?_ ?_
  · have h1 := handK_close (K := nbVars + 1) hw w' hop hop' (cdepth (nbVars + 1) n)
    have h2 := hfr _ (Nat.le_refl _)
    rw [if_pos rfl] at h1
    unfold VcK
    omega
  · intro e he
    have h1 := handK_close (K := nbVars + 1) hw w' hop hop' e
    have h2 := hfr e (by omega)
    unfold VcK
    omega

/-- a node leaves the fringe for good, no hand moves -/
theorem kdrop_lt {nbVars : Nat} {c : ParCrit S} {ws ws' : List (KW S)} {N : SubP S} {rest : List (SubP S)}
    (hp' : PopMax c.base.fringe N rest) (c' : ParCrit S)
    (hfr : ∀ e, cnt (nbVars + 1) c'.base.fringe e ≤ cnt (nbVars + 1) rest e)
    (hws : ∀ e, handK (nbVars + 1) ws' e = handK (nbVars + 1) ws e) :
    LexLT (nbVars + 8) (muC nbVars c' ws') (muC nbVars c ws) := by
  refine lexLT_vec (cdepth (nbVars + 1) N) (by unfold cdepth; omega) (by omega) ?_ ?_
  · have h1 := hfr (cdepth (nbVars + 1) N)
    unfold VcK
    rw [hws, cnt_perm _ hp'.1, cnt_cons, if_pos rfl]
    omega
  · intro e he
    have h1 := hfr e
    unfold VcK
    rw [hws, cnt_perm _ hp'.1 e, cnt_cons]
    omega

/-- a kept pop: the node goes from the fringe to a hand -/
theorem kpop_lt {nbVars : Nat} {c : ParCrit S} {ws : List (KW S)} {i : Nat} {w : KW S} {N : SubP S} {rest : List (SubP S)}
    (hw : ws[i]? = some w) (hop : w.openNode = none) (hp' : PopMax c.base.fringe N rest)
    (c' : ParCrit S) (w' : KW S) (hfr : c'.base.fringe = rest) (hop' : w'.openNode = some N) :
    LexLT (nbVars + 8) (muC nbVars c' (ws.set i w')) (muC nbVars c ws) := by
  refine lt_F (fun e => ?_) ?_
  · have := handK_open (K := nbVars + 1) hw w' hop hop' e
    unfold VcK
    rw [hfr, cnt_perm _ hp'.1 e, cnt_cons]
    omega
  · rw [hfr, hp'.1.length_eq]; simp

/-- worker `i` lets go of a node it had closed already (`ws` is `ws0` up to waking parked workers) -/
theorem krelease_lt {nbVars : Nat} {c : ParCrit S} {ws ws0 : List (KW S)} {i : Nat} {w : KW S} (hw : ws[i]? = some w)
    (c' : ParCrit S) (w' : KW S) (hfr : c'.base.fringe = c.base.fringe) (hop : w'.openNode = w.openNode)
    (hb : w.busy = true) (hb' : w'.busy = false)
    (hV : ∀ e, handK (nbVars + 1) ws e = handK (nbVars + 1) ws0 e) (hH : HcK ws = HcK ws0) :
    LexLT (nbVars + 8) (muC nbVars c' (ws.set i w')) (muC nbVars c ws0) := by
  refine lt_H (fun e => ?_) (hfr ▸ Nat.le_refl _) ?_
  · unfold VcK
    rw [hfr, handK_same hw w' hop, hV]; exact Nat.le_refl _
  · have := countP_set_loss KW.busy hw hb hb'
    unfold HcK at hH ⊢
    omega

/-- the cut-set the worker is about to enqueue holds strictly deeper nodes, none beyond the last layer -/
def KW.ProgOk (nbVars : Nat) : KW S → Prop
  | .wrX n _ o _ _ _ => ∀ c ∈ o.cutset, n.depth < c.depth ∧ c.depth ≤ nbVars
  | .enq n _ o _ _ => ∀ c ∈ o.cutset, n.depth < c.depth ∧ c.depth ≤ nbVars
  | _ => True

def ProgOkK (nbVars : Nat) (s : KSys S) : Prop := ∀ w ∈ s.ws, KW.ProgOk nbVars w

theorem progOkK_iff (nbVars : Nat) (s : KSys S) :
    ProgOkK nbVars s ↔
      ∀ (j : Nat) (n : SubP S) (lb : Int) (o : DDOut S) (cv : Cache S) (ups : List (Up S)),
        ((∃ todo, s.ws[j]? = some (.wrX n lb o cv ups todo)) ∨ s.ws[j]? = some (.enq n lb o cv ups)) →
        ∀ c ∈ o.cutset, n.depth < c.depth ∧ c.depth ≤ nbVars := by
  constructor
  · intro h j n lb o cv ups hj
    rcases hj with ⟨todo, hj⟩ | hj
    · exact h _ (List.mem_of_getElem? hj)
    · exact h _ (List.mem_of_getElem? hj)
  · intro h w hw
    obtain ⟨j, hj⟩ := List.getElem?_of_mem hw
    cases w with
    | wrX n lb o cv ups todo => exact h j n lb o cv ups (Or.inl ⟨todo, hj⟩)
    | enq n lb o cv ups => exact h j n lb o cv ups (Or.inr hj)
    | _ => trivial

theorem wake_progOk (nbVars : Nat) (w : KW S) : KW.ProgOk nbVars w.wake ↔ KW.ProgOk nbVars w :=
  Iff.of_eq (KW.wake_congr (KW.ProgOk nbVars) rfl w)

theorem kstep_measure_lt {nbVars : Nat} {dedup : Bool} {okR okX : SubP S → Int → Cache S → DDOut S → List (Up S) → Prop}
    {s t : KSys S} (h : KStep nbVars dedup okR okX s t) (hprog : ProgOkK nbVars s) :
    LexLT (nbVars + 8) (muK nbVars t) (muK nbVars s) := by
  cases h with
  | gwEnter i hw hl => exact klocal_lt hw _ _ rfl rfl rfl (fun h => by cases h) (by simp [KW.rank])
  | gwClear i c' hw hc hcl =>
    refine lt_A (c := s.crit) (c' := bumpFirst s.crit) (ws := s.ws) rfl ?_
    have := hc.1
    show nbVars - (s.crit.base.firstActive + 1) < nbVars - s.crit.base.firstActive
    omega
  | gwComplete i hw hc ho hf => exact klocal_lt hw _ _ rfl rfl rfl (fun h => by cases h) (by simp [KW.rank])
  | gwWait i hw hc ho hf => exact klocal_lt hw _ _ rfl rfl rfl (fun h => by cases h) (by simp [KW.rank])
  | gwToPop i hw hc hf => exact klocal_lt hw _ _ rfl rfl rfl (fun _ => hf) (by simp [KW.rank])
  | gwEmpty i hw hf =>
    obtain ⟨h1, h2⟩ := kset_le (nbVars := nbVars) hw s.crit KW.idle rfl rfl rfl (fun h => by cases h)
    refine lexLT_tl 2 (by omega) h1 ?_ (fun j hj => h2 j (by omega))
    show BcK s.crit.base.fringe (s.ws.set i .idle) < BcK s.crit.base.fringe s.ws
    rw [hf, BcK_nil, BcK_nil]
    have := countP_set_loss KW.isP (a := KW.idle) hw rfl rfl
    omega
  | gwStarve i N rest hw hp' hub =>
    refine kdrop_lt hp' (starve s.crit) (fun e => ?_) (fun e => handK_same hw KW.idle rfl e)
    show cnt _ [] e ≤ _
    rw [cnt_nil]; exact Nat.zero_le _
  | gwDrop i N rest c' hw hp' hub hme hd =>
    obtain ⟨l, _, rfl⟩ := dropOne_eq hd
    exact kdrop_lt hp' _ (fun e => Nat.le_refl _) (fun e => rfl)
  | gwKeep i N rest hw hp' hub hme => exact kpop_lt hw rfl hp' (setFringe s.crit rest) _ rfl rfl
  | gwTake i n c' crit' hw hu ht =>
    exact klocal_lt hw crit' _ (take_spec ht).1 rfl rfl (fun h => by cases h) (by simp [KW.rank])
  | readLbR i n hw hl =>
    show LexLT _ (muC nbVars s.crit (s.ws.set i _)) (muC nbVars s.crit s.ws)
    split
    · exact kclose_lt hw _ _ rfl rfl (fun _ _ => Nat.le_refl _)
    · exact klocal_lt hw _ _ rfl rfl rfl (fun h => by cases h) (by simp [KW.rank])
  | compileR i n lb k0 cv o ups hw hcv hok
  | compileX i n lb k0 cv o ups hw hcv hok =>
    exact klocal_lt hw _ _ rfl rfl rfl (fun h => by cases h) (by simp [KW.rank])
  | writeR i n lb o cv ups u todo c' hw hu
  | writeX i n lb o cv ups u todo c' hw hu =>
    exact ktodo_lt hw _ _ rfl rfl rfl (fun h => by cases h) rfl (Nat.lt_succ_self _)
  | updateR i n lb o cv ups hw hl
  | updateX i n lb o cv ups hw hl =>
    have hfe : (s.crit.updateBest o).base.fringe = s.crit.base.fringe := (updateBest_fringe s.crit.base o).1
    show LexLT _ (muC nbVars (s.crit.updateBest o) (s.ws.set i _)) (muC nbVars s.crit s.ws)
    split
    · exact kclose_lt hw _ _ rfl rfl (fun _ _ => by rw [hfe]; exact Nat.le_refl _)
    · exact klocal_lt hw _ _ hfe rfl rfl (fun h => by cases h) (by simp [KW.rank])
  | readLbX i n hw hl => exact klocal_lt hw _ _ rfl rfl rfl (fun h => by cases h) (by simp [KW.rank])
  | enqueue i n lb o cv ups hw hl =>
    refine kclose_lt hw (s.crit.enqueue dedup o.cutset) _ rfl rfl (fun e he => ?_)
    show cnt _ (s.crit.base.enqueue dedup o.cutset).fringe e ≤ _
    rw [cnt_enqueue_of_ne (nbVars + 1) dedup o.cutset e (fun c hc => ?_)]
    · exact Nat.le_refl _
    · have hpw : KW.ProgOk nbVars (.enq n lb o cv ups) := hprog _ (List.mem_of_getElem? hw)
      obtain ⟨h1, h2⟩ := hpw c hc
      have he' : e ≤ cdepth (nbVars + 1) n := he
      unfold cdepth at he' ⊢
      omega
  | notify i n c' hw hl hn =>
    have hw' : (s.ws.map KW.wake)[i]? = some (.fin n) := by rw [List.getElem?_map, hw]; rfl
    exact krelease_lt hw' c' KW.idle (congrArg SeqSt.fringe (notify_spec hn).1) rfl rfl rfl
      (fun e => KW.countP_wake (hpK (nbVars + 1) e) rfl s.ws) (KW.countP_wake KW.busy rfl s.ws)
  | crash i w hw hp =>
    show LexLT _ (muC nbVars s.crit (s.ws.set i .crashed)) (muC nbVars s.crit s.ws)
    cases w with
    | gwC => exact klocal_lt hw _ _ rfl rfl rfl (fun h => by cases h) (by simp [KW.rank])
    | gwP => exact klocal_lt hw _ _ rfl rfl rfl (fun h => by cases h) (by simp [KW.rank])
    | gwW n => exact kclose_lt hw _ _ rfl rfl (fun _ _ => Nat.le_refl _)
    | wrR n lb o cv ups todo => exact kclose_lt hw _ _ rfl rfl (fun _ _ => Nat.le_refl _)
    | wrX n lb o cv ups todo => exact kclose_lt hw _ _ rfl rfl (fun _ _ => Nat.le_refl _)
    | fin n => exact krelease_lt hw _ _ rfl rfl rfl rfl (fun _ => rfl) rfl
    | _ => exact False.elim hp

/-- the step relation of the parallel solver with the threshold cache, restricted to states whose
    pending cut-sets make progress, is well-founded: any number of threads, any interleaving of the critical sections
    and of the individual cache accesses, both fringes, panics included -/
theorem ksys_terminates' (nbVars : Nat) (dedup : Bool) (okR okX : SubP S → Int → Cache S → DDOut S → List (Up S) → Prop) :
    WellFounded (fun t s : KSys S => KStep nbVars dedup okR okX s t ∧ ProgOkK nbVars s) :=
  Subrelation.wf (r := InvImage (LexLT (nbVars + 8)) (muK nbVars))
    (fun {_ _} h => kstep_measure_lt h.1 h.2) (InvImage.wf _ (lexLT_wf _))

theorem progOk_set {nbVars : Nat} {ws : List (KW S)} (i : Nat) (w' : KW S) (hw' : KW.ProgOk nbVars w')
    (h : ∀ w ∈ ws, KW.ProgOk nbVars w) : ∀ w ∈ ws.set i w', KW.ProgOk nbVars w := by
  intro w hw
  rcases List.mem_or_eq_of_mem_set hw with hw | rfl
  · exact h w hw
  · exact hw'

theorem kstep_progOkK {nbVars : Nat} {dedup : Bool} {okR okX : SubP S → Int → Cache S → DDOut S → List (Up S) → Prop}
    (hX : ∀ n lb cv o ups, okX n lb cv o ups → ∀ c ∈ o.cutset, n.depth < c.depth ∧ c.depth ≤ nbVars)
    {s t : KSys S} (h : KStep nbVars dedup okR okX s t) (hp : ProgOkK nbVars s) : ProgOkK nbVars t := by
  cases h with
  | gwEnter i hw hl => exact progOk_set i _ trivial hp
  | gwClear i c' hw hc hcl => exact hp
  | gwComplete i hw hc ho hf => exact progOk_set i _ trivial hp
  | gwWait i hw hc ho hf => exact progOk_set i _ trivial hp
  | gwToPop i hw hc hf => exact progOk_set i _ trivial hp
  | gwEmpty i hw hf => exact progOk_set i _ trivial hp
  | gwStarve i N rest hw hp' hub => exact progOk_set i _ trivial hp
  | gwDrop i N rest c' hw hp' hub hme hd => exact hp
  | gwKeep i N rest hw hp' hub hme => exact progOk_set i _ trivial hp
  | gwTake i n c' crit' hw hu ht => exact progOk_set i _ trivial hp
  | readLbR i n hw hl =>
    refine progOk_set i _ ?_ hp
    split <;> trivial
  | compileR i n lb k0 cv o ups hw hcv hok => exact progOk_set i _ trivial hp
  | writeR i n lb o cv ups u todo c' hw hu => exact progOk_set i _ trivial hp
  | updateR i n lb o cv ups hw hl =>
    refine progOk_set i _ ?_ hp
    split <;> trivial
  | readLbX i n hw hl => exact progOk_set i _ trivial hp
  | compileX i n lb k0 cv o ups hw hcv hok => exact progOk_set i _ (hX n lb cv o ups hok) hp
  | writeX i n lb o cv ups u todo c' hw hu =>
    have h0 : KW.ProgOk nbVars (.wrX n lb o cv ups (u :: todo)) := hp _ (List.mem_of_getElem? hw)
    exact progOk_set i _ h0 hp
  | updateX i n lb o cv ups hw hl =>
    have h0 : KW.ProgOk nbVars (.wrX n lb o cv ups []) := hp _ (List.mem_of_getElem? hw)
    refine progOk_set i _ ?_ hp
    split
    · trivial
    · exact h0
  | enqueue i n lb o cv ups hw hl => exact progOk_set i _ trivial hp
  | notify i n c' hw hl hn =>
    refine progOk_set i _ trivial (fun w hw => ?_)
    obtain ⟨w0, hw0, rfl⟩ := List.mem_map.mp hw
    exact (wake_progOk nbVars w0).mpr (hp w0 hw0)
  | crash i w hw hp' => exact progOk_set i _ trivial hp

theorem init_progOkK (nbVars : Nat) (P : Problem S) (dedup : Bool) (U : Nat) : ProgOkK nbVars (KSys.init P dedup U) := by
  intro w hw
  have hw : w ∈ List.replicate U (KW.idle : KW S) := hw
  rw [(List.mem_replicate.mp hw).2]
  trivial

theorem k_no_infinite_run_from {nbVars : Nat} {dedup : Bool}
    {okR okX : SubP S → Int → Cache S → DDOut S → List (Up S) → Prop}
    (hX : ∀ n lb cv o ups, okX n lb cv o ups → ∀ c ∈ o.cutset, n.depth < c.depth ∧ c.depth ≤ nbVars)
    (run : Nat → KSys S) (h0 : ProgOkK nbVars (run 0)) : ¬ ∀ k, KStep nbVars dedup okR okX (run k) (run (k + 1)) :=
  no_infinite_run_of (ksys_terminates' nbVars dedup okR okX) (fun hI hs => kstep_progOkK hX hs hI)
    (fun hI hs => ⟨hs, hI⟩) run h0

/-- **no infinite run of the solver**: from `maximize()` after `initialize()`, with any number `U` of threads, there is
    no infinite sequence of steps (critical sections, cache accesses, waits, panics), in any interleaving -/
theorem k_no_infinite_run {nbVars : Nat} {dedup : Bool}
    {okR okX : SubP S → Int → Cache S → DDOut S → List (Up S) → Prop}
    (hX : ∀ n lb cv o ups, okX n lb cv o ups → ∀ c ∈ o.cutset, n.depth < c.depth ∧ c.depth ≤ nbVars)
    (P : Problem S) (U : Nat) (run : Nat → KSys S) (h0 : run 0 = KSys.init P dedup U) :
    ¬ ∀ k, KStep nbVars dedup okR okX (run k) (run (k + 1)) :=
  k_no_infinite_run_from hX run (by rw [h0]; exact init_progOkK nbVars P dedup U)

end Ddo.ParCache

#print axioms Ddo.ParCache.kstep_measure_lt
#print axioms Ddo.ParCache.ksys_terminates'
#print axioms Ddo.ParCache.kstep_progOkK
#print axioms Ddo.ParCache.init_progOkK
#print axioms Ddo.ParCache.k_no_infinite_run_from
#print axioms Ddo.ParCache.k_no_infinite_run
