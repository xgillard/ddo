import DdoModel.Proofs.CompatOrder
import DdoModel.Proofs.CompatStore
/-! C10d — **the joint invariant `CompatInv`** of the solver with cache **and** dominance checker, and the chain of reductions of the
joint statement to one compiled turn.

`CompatInv` says: an open node on the protected family that `must_explore` accepts and whose bound is at least the optimum — `Solid` —
exists unless the incumbent is optimal; every cache entry that applies to a `GAbove` item (`Proofs/CompatOrder.lean`) is backed by a `Solid`
node that is at least as deep; the checker holds exactly reached items.  It holds initially (`init_compatInv`) and gives the optimum at
the empty fringe (`compatInv_end`), and with `Ddo.C10c.jointSound` the joint statement is reduced to its preservation by one turn:
`jointCorrect_of_turn : CompatTurn → CachingDominanceCompatMono` (`compatTurn` is proved in `Props/C10e.lean`).

**`CompatTurn`, reduced to the turns in which the popped node is compiled.**

A turn of the solver with cache and checker (`DSolverCfg.kdturn`) either skips the popped node `N` — `N.ub ≤ best_lb`, or
`must_explore` refuses it — or compiles it.  The two skips preserve `CompatInv`
(`compatInv_skip`): the cache only forgets entries (`cleanCache`), the checker and the incumbent are unchanged, every solid open
node other than `N` stays solid, and `N` itself, if it was solid, is skipped only when `best_lb ≥ opt` (a solid node is accepted
by `must_explore` and has a bound `≥ opt`).  What is left is `CompatProcess`: the turn in which both tests pass and the two
compilations run (`compatProcess`, `Props/C10e.lean`).  `compatTurn_of_process : CompatProcess → CompatTurn`.

Last, `CompatProcessME`: `CompatProcess` without its `store` clause, which is `kdturn_storeReach` of `Proofs/CompatStore.lean`
(`compatProcess_of_me`, `jointCorrect_of_me`). -/
set_option linter.unusedSectionVars false
set_option linter.unusedVariables false
namespace Ddo.C10d
open Ddo Ddo.C01 Ddo.Closed Ddo.C09 Ddo.C10 Ddo.C10c

section solver
variable {S K : Type} [DecidableEq S] [DecidableEq K]

/-- a **solid** open sub-problem: on the protected family, accepted by `must_explore`, with a bound at least the optimum -/
def Solid (dv : DSolverCfg S K) (opt : Int) (s : KDSt S K) (q : SubP S) : Prop :=
  q ∈ s.st.fringe ∧ C10.Good dv.D dv.sv.P opt q.depth q.state q.value ∧ opt ≤ q.ub ∧ ¬ prunM (viewOf s.cache) q

structure CompatInv (dv : DSolverCfg S K) (n : Nat) (opt : Int) (s : KDSt S K) : Prop where
  /-- the incumbent is optimal, or a solid open sub-problem exists -/
  main : opt ≤ s.st.bestLb ∨ ∃ q, Solid dv opt s q
  /-- every threshold that applies to (the image of) a protected item is backed by a solid open sub-problem at least as deep -/
  entries : ∀ (x : S) (d : Nat) (t : Thr), viewOf s.cache x d = some t → ∀ v', v' ≤ t.value →
    GAbove dv.D dv.sv.P n opt d x v' → opt ≤ s.st.bestLb ∨ ∃ q, Solid dv opt s q ∧ d ≤ q.depth
  /-- the checker holds exactly reached items -/
  store : StoreReach dv.D dv.sv.P s.store

/-- **preservation of the joint invariant**: one best-first turn of the solver with cache and checker preserves the joint invariant —
    for `SimAll` rules, a static order, a rule-maximal merge and a potential that is monotone in the rule's order.  Proved in
    `Props/C10e.lean` (`compatTurn`). -/
def CompatTurn : Prop :=
  ∀ (S K : Type) [DecidableEq S] [DecidableEq K] (dv : DSolverCfg S K) (H : Nat → S → EInt) (B0 B opt : Int) (n : Nat),
    WellFormed dv.sv H B0 B → (H 0 dv.sv.P.init).addI dv.sv.P.initVal = some opt → (∀ s, dv.D.dims s = n) →
    StaticOrder dv.sv.P → SimAll dv.D dv.sv.P n → MergeCompat dv.D dv.sv.R n → PotMono dv.D n H →
    ∀ s t, KDRun dv (KDSt.init dv) s → CompatInv dv n opt s → KDStep dv s t → CompatInv dv n opt t

/-- **the repaired statement**: `Ddo.C10c.CachingDominanceCompat` with the potential monotone in the rule's order (which makes
    the rough upper bound valid for the relaxed images of protected items) -/
def CachingDominanceCompatMono : Prop :=
  ∀ (S K : Type) [DecidableEq S] [DecidableEq K] (dv : DSolverCfg S K) (H : Nat → S → EInt) (B0 B opt : Int) (n : Nat),
    WellFormed dv.sv H B0 B → (H 0 dv.sv.P.init).addI dv.sv.P.initVal = some opt → (∀ s, dv.D.dims s = n) →
    StaticOrder dv.sv.P → SimAll dv.D dv.sv.P n → MergeCompat dv.D dv.sv.R n → PotMono dv.D n H → JointCorrect dv opt

variable {dv : DSolverCfg S K} {H : Nat → S → EInt} {B0 B opt : Int} {n : Nat}

/-- **the joint invariant holds initially**: the root is solid, the cache is empty, the checker is empty -/
theorem init_compatInv (hwf : WellFormed dv.sv H B0 B) (hopt : (H 0 dv.sv.P.init).addI dv.sv.P.initVal = some opt)
    (hdim : ∀ s, dv.D.dims s = n) (hstat : StaticOrder dv.sv.P) (hsim : SimAll dv.D dv.sv.P n) :
    CompatInv dv n opt (KDSt.init dv) := by
  have hfr : (SeqSt.init dv.sv.P none dv.sv.dedup).fringe = [⟨dv.sv.P.init, dv.sv.P.initVal, [], iMax, 0⟩] := by
    cases hd : dv.sv.dedup <;> rfl
  have hview : viewOf (KDSt.init dv).cache = fun _ _ => none := C09.viewOf_init dv.sv.P.nbVars
  refine ⟨Or.inr ⟨⟨dv.sv.P.init, dv.sv.P.initVal, [], iMax, 0⟩, ?_, good_root hdim hwf.pot hwf.nv hstat hsim hopt, ?_, ?_⟩, ?_, ?_⟩
  · show _ ∈ (SeqSt.init dv.sv.P none dv.sv.dedup).fringe
    rw [hfr]; exact List.mem_cons_self
  · exact Int.le_of_lt (hwf.opt_range hopt).2
  · rintro ⟨t, ht, _⟩
    rw [hview] at ht
    cases ht
  · intro x d t ht
    rw [hview] at ht
    cases ht
  · exact storeReach_init dv.D dv.sv.P dv.sv.P.nbVars

theorem compatInv_end {s : KDSt S K} (hI : CompatInv dv n opt s) (hend : s.st.fringe = []) : opt ≤ s.st.bestLb := by
  rcases hI.main with h | ⟨q, hq, _⟩
  · exact h
  · rw [hend] at hq; cases hq

/-- **the reduction**: if one turn preserves the joint invariant (`CompatTurn`), the solver with cache and checker is correct for
    `SimAll` rules with a static order, a rule-maximal merge and a potential monotone in the rule's order.  Termination, progress,
    absence of panics and the soundness of the reported value come from `Ddo.C10c.jointSound` (any rule). -/
theorem jointCorrect_of_turn (hturn : CompatTurn) : CachingDominanceCompatMono := by
  intro S K _ _ dv H B0 B opt n hwf hopt hdim hstat hsim hmc hmono
  have hwfd : WellFounded (fun t s : KDSt S K => KDRun dv (KDSt.init dv) s ∧ KDStep dv s t) :=
    (jointSound S K dv H B0 B hwf).1
  have hinv : ∀ t, KDRun dv (KDSt.init dv) t → CompatInv dv n opt t := by
    intro t ht
    induction ht with
    | refl => exact init_compatInv hwf hopt hdim hstat hsim
    | tail hrun hstep ih => exact hturn S K dv H B0 B opt n hwf hopt hdim hstat hsim hmc hmono _ _ hrun ih hstep
  refine ⟨hwfd, ?_, fun t ht => ?_⟩
  · intro run h0 hrun
    exact no_infinite_run_of hwfd KDRun.tail And.intro run (h0 ▸ KDRun.refl _) hrun
  · have hJ := kdrun_inv hwf ht (init_jsinv hwf)
    exact ⟨fun hne => kdstep_progress hwf hJ hne, hJ.lay.2, fun hend => hJ.optimal hwf hopt (compatInv_end (hinv t ht) hend)⟩

end solver

end Ddo.C10d

#print axioms Ddo.C10d.init_compatInv
#print axioms Ddo.C10d.jointCorrect_of_turn

namespace Ddo.C10d
open Ddo Ddo.C01 Ddo.Closed Ddo.C09 Ddo.C10 Ddo.C10c
variable {S K : Type} [DecidableEq S] [DecidableEq K]

theorem view_of_forget {c c0 : Cache S} (hv : ∀ x d, viewOf c0 x d = viewOf c x d ∨ viewOf c0 x d = none) {x : S} {d : Nat}
    {t : Thr} (ht : viewOf c0 x d = some t) : viewOf c x d = some t := by
  rcases hv x d with e | e
  · rw [← e]; exact ht
  · rw [e] at ht; cases ht

/-- a cache that only forgot entries refuses less -/
theorem prunM_of_forget {c c0 : Cache S} (hv : ∀ x d, viewOf c0 x d = viewOf c x d ∨ viewOf c0 x d = none) {q : SubP S}
    (h : prunM (viewOf c0) q) : prunM (viewOf c) q :=
  Exists.imp (fun _ ht => ⟨view_of_forget hv ht.1, ht.2⟩) h

/-- **a skipped node**: the state after the pop of `N`, with a cache that only forgot entries, the same checker and the same
    incumbent, satisfies the joint invariant as soon as `N`, if it was solid, is skipped because `best_lb ≥ opt` -/
theorem compatInv_skip {dv : DSolverCfg S K} {n : Nat} {opt : Int} {s : KDSt S K} {N : SubP S} {rest : List (SubP S)} {fa : Nat}
    {c0 : Cache S} (hI : CompatInv dv n opt s) (hpop : s.st.fringe.Perm (N :: rest))
    (hv : ∀ x d, viewOf c0 x d = viewOf s.cache x d ∨ viewOf c0 x d = none)
    (hN : Solid dv opt s N → opt ≤ s.st.bestLb) :
    CompatInv dv n opt ⟨popped s.st N rest fa, c0, s.store⟩ := by
  obtain ⟨f1, f2, _⟩ := popped_fields s.st N rest fa
  -- a solid node of `s` gives the conclusion in the new state
  have key : ∀ q, Solid dv opt s q →
      opt ≤ (popped s.st N rest fa).bestLb ∨ Solid dv opt ⟨popped s.st N rest fa, c0, s.store⟩ q := by
    intro q hq
    obtain ⟨hmem, hgood, hub, hnp⟩ := hq
    rcases List.mem_cons.mp (hpop.mem_iff.mp hmem) with e | e
    · subst e
      left
      rw [f2]
      exact hN ⟨hmem, hgood, hub, hnp⟩
    · right
      refine ⟨?_, hgood, hub, fun hp => hnp (prunM_of_forget hv hp)⟩
      show q ∈ (popped s.st N rest fa).fringe
      rw [f1]; exact e
  refine ⟨?_, ?_, hI.store⟩
  · rcases hI.main with h | ⟨q, hq⟩
    · left; show opt ≤ (popped s.st N rest fa).bestLb; rw [f2]; exact h
    · rcases key q hq with h | h
      · exact Or.inl h
      · exact Or.inr ⟨q, h⟩
  · intro x d t ht v' hv' hga
    rcases hI.entries x d t (view_of_forget hv ht) v' hv' hga with h | ⟨q, hq, hd⟩
    · left; show opt ≤ (popped s.st N rest fa).bestLb; rw [f2]; exact h
    · rcases key q hq with h | h
      · exact Or.inl h
      · exact Or.inr ⟨q, h, hd⟩

/-- the turn in which the popped node passes both tests and is compiled preserves the joint
    invariant (proved in `Props/C10e.lean`: `compatProcess`) -/
def CompatProcess : Prop :=
  ∀ (S K : Type) [DecidableEq S] [DecidableEq K] (dv : DSolverCfg S K) (H : Nat → S → EInt) (B0 B opt : Int) (n : Nat),
    WellFormed dv.sv H B0 B → (H 0 dv.sv.P.init).addI dv.sv.P.initVal = some opt → (∀ s, dv.D.dims s = n) →
    StaticOrder dv.sv.P → SimAll dv.D dv.sv.P n → MergeCompat dv.D dv.sv.R n → PotMono dv.D n H →
    ∀ (s t : KDSt S K) (N : SubP S) (rest : List (SubP S)) (c0 : Cache S),
      KDRun dv (KDSt.init dv) s → CompatInv dv n opt s → s.st.fringe.Perm (N :: rest) →
      (∀ c ∈ rest, c.ub < N.ub ∨ (c.ub = N.ub ∧ c.value ≤ N.value)) →
      cleanCache dv.sv.P.nbVars s.st.openByLayer dv.sv.P.nbVars s.st.firstActive s.cache = some c0 →
      ¬ N.ub ≤ s.st.bestLb → c0.mustExplore N.state N.depth N.value = some true →
      dv.kdturn s N rest = some t → CompatInv dv n opt t

/-- **the two skips preserve the joint invariant**: what is left of a turn, any popped node, is the case in which the node
    passes both tests and is compiled (`c0`: the cache after `clear_layer`, which only forgot entries) -/
theorem compatInv_turn_cases {dv : DSolverCfg S K} {H : Nat → S → EInt} {B0 B opt : Int} {n : Nat}
    (hwf : WellFormed dv.sv H B0 B) {s t : KDSt S K} {N : SubP S} {rest : List (SubP S)} (hJ : JSInv dv H s)
    (hI : CompatInv dv n opt s) (hpop : s.st.fringe.Perm (N :: rest)) (hturn : dv.kdturn s N rest = some t)
    (hcomp : ∀ c0, cleanCache dv.sv.P.nbVars s.st.openByLayer dv.sv.P.nbVars s.st.firstActive s.cache = some c0 →
      c0.layers.length = dv.sv.P.nbVars + 1 → (∀ x d, viewOf c0 x d = viewOf s.cache x d ∨ viewOf c0 x d = none) →
      ¬ N.ub ≤ s.st.bestLb → c0.mustExplore N.state N.depth N.value = some true → CompatInv dv n opt t) :
    CompatInv dv n opt t := by
  obtain ⟨c0, hc0, hl0, hv0⟩ :=
    cleanCache_spec dv.sv.P.nbVars s.st.openByLayer dv.sv.P.nbVars s.st.firstActive s.cache hJ.clen
  obtain ⟨p0, hroot, hperm⟩ := hJ.nodes N (hpop.mem_iff.mpr List.mem_cons_self)
  have hturn0 := hturn
  generalize hfa : cleanLoop dv.sv.P.nbVars s.st.openByLayer dv.sv.P.nbVars s.st.firstActive = fa at *
  obtain ⟨_, f2, _⟩ := popped_fields s.st N rest fa
  unfold DSolverCfg.kdturn at hturn
  rw [hc0, hfa] at hturn
  dsimp only at hturn
  rcases kdprocess_cases hwf (popped s.st N rest fa) c0 s.store N p0 hroot hperm hl0 hJ.slen with
    ⟨hub, hk⟩ | ⟨_, hp, hk⟩ | ⟨hub, _, hme, _⟩
  · -- pruned by its bound
    rw [hk] at hturn
    cases hturn
    rw [f2] at hub
    exact compatInv_skip hI hpop hv0 (fun hs => Int.le_trans hs.2.2.1 hub)
  · -- refused by `must_explore`
    rw [hk] at hturn
    cases hturn
    exact compatInv_skip hI hpop hv0 (fun hs => absurd (prunM_of_forget hv0 hp) hs.2.2.2)
  · rw [f2] at hub
    exact hcomp c0 hc0 hl0 hv0 hub hme

theorem compatTurn_of_process (hproc : CompatProcess) : CompatTurn := by
  intro S K _ _ dv H B0 B opt n hwf hopt hdim hstat hsim hmc hmono s t hrun hI hstep
  cases hstep with
  | pop N rest hpop hmax hturn =>
    exact compatInv_turn_cases hwf (kdrun_inv hwf hrun (init_jsinv hwf)) hI hpop hturn
      (fun c0 hc0 _ _ hub e =>
        hproc S K dv H B0 B opt n hwf hopt hdim hstat hsim hmc hmono s t N rest c0 hrun hI hpop hmax hc0 hub e hturn)

theorem jointCorrect_of_process (hproc : CompatProcess) : CachingDominanceCompatMono :=
  jointCorrect_of_turn (compatTurn_of_process hproc)

end Ddo.C10d

#print axioms Ddo.C10d.compatInv_skip
#print axioms Ddo.C10d.compatTurn_of_process
#print axioms Ddo.C10d.jointCorrect_of_process

namespace Ddo.C10d
open Ddo Ddo.C01 Ddo.Closed Ddo.C09 Ddo.C10 Ddo.C10c Ddo.Truth
variable {S K : Type} [DecidableEq S] [DecidableEq K]

/-- in a turn that compiles the popped node, the clauses *main* and *entries* of the joint invariant
    are preserved (the clause *store* is `kdturn_storeReach`); proved in `Props/C10e.lean` (`compatProcessME`) -/
def CompatProcessME : Prop :=
  ∀ (S K : Type) [DecidableEq S] [DecidableEq K] (dv : DSolverCfg S K) (H : Nat → S → EInt) (B0 B opt : Int) (n : Nat),
    WellFormed dv.sv H B0 B → (H 0 dv.sv.P.init).addI dv.sv.P.initVal = some opt → (∀ s, dv.D.dims s = n) →
    StaticOrder dv.sv.P → SimAll dv.D dv.sv.P n → MergeCompat dv.D dv.sv.R n → PotMono dv.D n H →
    ∀ (s t : KDSt S K) (N : SubP S) (rest : List (SubP S)) (c0 : Cache S),
      KDRun dv (KDSt.init dv) s → CompatInv dv n opt s → s.st.fringe.Perm (N :: rest) →
      (∀ c ∈ rest, c.ub < N.ub ∨ (c.ub = N.ub ∧ c.value ≤ N.value)) →
      cleanCache dv.sv.P.nbVars s.st.openByLayer dv.sv.P.nbVars s.st.firstActive s.cache = some c0 →
      ¬ N.ub ≤ s.st.bestLb → c0.mustExplore N.state N.depth N.value = some true →
      dv.kdturn s N rest = some t →
      (opt ≤ t.st.bestLb ∨ ∃ q, Solid dv opt t q) ∧
      (∀ (x : S) (d : Nat) (th : Thr), viewOf t.cache x d = some th → ∀ v', v' ≤ th.value →
        GAbove dv.D dv.sv.P n opt d x v' → opt ≤ t.st.bestLb ∨ ∃ q, Solid dv opt t q ∧ d ≤ q.depth)

theorem compatProcess_of_me (h : CompatProcessME) : CompatProcess := by
  intro S K _ _ dv H B0 B opt n hwf hopt hdim hstat hsim hmc hmono s t N rest c0 hrun hI hpop hmax hc0 hub hme hturn
  obtain ⟨h1, h2⟩ := h S K dv H B0 B opt n hwf hopt hdim hstat hsim hmc hmono s t N rest c0 hrun hI hpop hmax hc0 hub hme hturn
  exact ⟨h1, h2, kdturn_storeReach hwf s t N rest (kdrun_inv hwf hrun (init_jsinv hwf)) hI.store hpop hturn⟩

theorem jointCorrect_of_me (h : CompatProcessME) : CachingDominanceCompatMono :=
  jointCorrect_of_process (compatProcess_of_me h)

end Ddo.C10d

#print axioms Ddo.C10d.compatProcess_of_me
#print axioms Ddo.C10d.jointCorrect_of_me
