import DdoModel.Proofs.MddOps
/-! The top-down build of `Mdd.lean`, stage by stage, as the invariant proofs use it: what `squash` answers, `stepLayer` as the two filters +
    `squash` + `expandAll`, one turn of `buildLoop` and the inductions along it.  No invariant is proved here. -/
set_option linter.unusedSectionVars false
namespace Ddo
variable {S K : Type} [DecidableEq S] [DecidableEq K]

/-- what `squash` answers, case by case (`_squash_if_needed`: nothing to do, `_restrict`, `_relax`, or one of the two
    index underflows on which the Rust code panics); when it squashes it sets `lel` unless it is set already -/
inductive SquashSpec (cfg : Cfg S K) (dd : DD S K) (layer : List (Node S)) (cur : List Nat) :
    Option (List (Node S) × List Nat × List (Call S) × Option Nat) → Prop
  | keep : (cfg.ctype = .restricted → cur.length ≤ cfg.width) →
      (cfg.ctype = .relaxed → 1 < dd.layers.length → cur.length ≤ cfg.width) →
      SquashSpec cfg dd layer cur (some (layer, cur, dd.log, dd.lel))
  | restrict : cfg.ctype = .restricted → cfg.width < cur.length → dd.layers ≠ [] →
      SquashSpec cfg dd layer cur (some ((restrictLayer cfg layer cur).1, (restrictLayer cfg layer cur).2, dd.log,
        some (dd.lel.getD (dd.layers.length - 1))))
  | relax : cfg.ctype = .relaxed → 1 ≤ cfg.width → cfg.width < cur.length → 1 < dd.layers.length →
      SquashSpec cfg dd layer cur (some ((relaxLayer cfg dd.layers layer cur dd.log).1,
        (relaxLayer cfg dd.layers layer cur dd.log).2.1, (relaxLayer cfg dd.layers layer cur dd.log).2.2,
        some (dd.lel.getD (dd.layers.length - 1))))
  | crash : (cfg.ctype = .relaxed ∧ cfg.width = 0) ∨ (cfg.ctype = .restricted ∧ dd.layers = []) →
      SquashSpec cfg dd layer cur none

theorem lel_squash (lel : Option Nat) (k : Nat) : (if lel.isNone = true then some k else lel) = some (lel.getD k) := by
  cases lel <;> rfl

theorem lel_squash_cases {lel : Option Nat} {k k' : Nat} (h : some (lel.getD k) = some k') :
    lel = some k' ∨ (lel = none ∧ k = k') := by
  cases lel with
  | none => exact .inr ⟨rfl, Option.some.inj h⟩
  | some _ => exact .inl h

theorem squash_spec (cfg : Cfg S K) (dd : DD S K) (layer : List (Node S)) (cur : List Nat) :
    SquashSpec cfg dd layer cur (squash cfg dd layer cur) := by
  have hlel := lel_squash dd.lel (dd.layers.length - 1)
  unfold squash
  by_cases hw : cfg.width < cur.length
  case neg =>
    have hd : decide (cur.length > cfg.width) = false := decide_eq_false hw
    simp only [hd, Bool.and_false, Bool.false_and, Bool.or_self, Bool.false_eq_true, if_false]
    exact .keep (fun _ => Nat.le_of_not_lt hw) (fun _ _ => Nat.le_of_not_lt hw)
  case pos =>
    have hd : decide (cur.length > cfg.width) = true := decide_eq_true hw
    have err : (CompType.relaxed == CompType.relaxed) = true := rfl
    have ers : (CompType.relaxed == CompType.restricted) = false := rfl
    have esr : (CompType.restricted == CompType.relaxed) = false := rfl
    have ess : (CompType.restricted == CompType.restricted) = true := rfl
    cases hct : cfg.ctype
    · exact .keep (fun h => by rw [hct] at h; cases h) (fun h => by rw [hct] at h; cases h)
    · simp only [hd, err, ers, Bool.true_and, Bool.false_and, Bool.false_or, Bool.false_eq_true, if_false]
      by_cases hdeep : 1 < dd.layers.length
      · simp only [decide_eq_true hdeep, Bool.true_and, if_true, hlel]
        by_cases hW : cfg.width = 0
        · rw [if_pos (by simpa using hW)]
          exact .crash (.inl ⟨hct, hW⟩)
        · rw [if_neg (by simpa using hW)]
          exact .relax hct (Nat.pos_of_ne_zero hW) hw hdeep
      · simp only [decide_eq_false hdeep, Bool.false_and, Bool.false_eq_true, if_false]
        exact .keep (fun h => by rw [hct] at h; cases h) (fun _ h => absurd h hdeep)
    · simp only [hd, esr, ess, Bool.true_and, Bool.false_and, Bool.or_false, Bool.false_eq_true, if_false, if_true, hlel]
      by_cases he : dd.layers = []
      · rw [if_pos (List.isEmpty_iff.2 he)]
        exact .crash (.inr ⟨hct, he⟩)
      · rw [if_neg (mt List.isEmpty_iff.1 he)]
        exact .restrict hct hw he

/-- a relaxed compilation of width at least one never crashes in `squash`: it merges when the layer is too wide and not the
    first one, and leaves the layer alone otherwise -/
theorem Bounds.squash_cases (cfg : Cfg S K) (dd : DD S K) (layer : List (Node S)) (cur : List Nat)
    (hrel : cfg.ctype = .relaxed) (hW : 1 ≤ cfg.width) :
    (¬(cur.length > cfg.width ∧ dd.layers.length > 1) ∧
      squash cfg dd layer cur = some (layer, cur, dd.log, dd.lel)) ∨
    (cur.length > cfg.width ∧ dd.layers.length > 1 ∧
      squash cfg dd layer cur = some ((relaxLayer cfg dd.layers layer cur dd.log).1,
        (relaxLayer cfg dd.layers layer cur dd.log).2.1, (relaxLayer cfg dd.layers layer cur dd.log).2.2,
        if dd.lel.isNone then some (dd.layers.length - 1) else dd.lel)) := by
  rw [lel_squash]
  have hs := squash_spec cfg dd layer cur
  generalize squash cfg dd layer cur = r at hs ⊢
  cases hs with
  | keep _ h => exact .inl ⟨fun c => Nat.not_le_of_lt c.1 (h hrel c.2), rfl⟩
  | restrict h _ _ => rw [hrel] at h; cases h
  | relax _ _ c1 c2 => exact .inr ⟨c1, c2, rfl⟩
  | crash h =>
    rcases h with ⟨_, h⟩ | ⟨h, _⟩
    · exact absurd h (Nat.ne_of_gt hW)
    · rw [hrel] at h; cases h

namespace Width

/-- `_filter_with_cache` + `_filter_with_dominance`: the prefix of `stepLayer` before `_squash_if_needed` -/
def preSquash (cfg : Cfg S K) (dd : DD S K) : List (Node S) × List Nat × DomStore S K × Bool :=
  let fc := if dd.layers.isEmpty then (dd.next, List.range dd.next.length)
            else filterCache cfg dd.cache dd.next (List.range dd.next.length)
  filterDom cfg dd.store fc.1 fc.2

/-- the result of `_squash_if_needed` inside `stepLayer` (`none`: the loop breaks or the step crashes) -/
def squashOf (cfg : Cfg S K) (dd : DD S K) : Option (List (Node S) × List Nat × List (Call S) × Option Nat) :=
  if dd.next.isEmpty then none
  else if !(preSquash cfg dd).2.2.2 then none
  else squash cfg dd (preSquash cfg dd).1 (preSquash cfg dd).2.1

/-- the list of positions that `stepLayer` hands to `expandAll` -/
def curOf (cfg : Cfg S K) (dd : DD S K) : Option (List Nat) := (squashOf cfg dd).map (·.2.1)

theorem stepLayer_eq (cfg : Cfg S K) (dd : DD S K) (var : Nat) :
    stepLayer cfg dd var =
      if dd.next.isEmpty then (some { dd with layers := dd.layers ++ [[]] }, .cutoff)
      else match squashOf cfg dd with
        | none => (none, .crash)
        | some sq =>
          let e := expandAll cfg var dd.layers.length sq.1 sq.2.1 sq.2.2.1
          (some { dd with layers := dd.layers ++ [e.1], next := e.2.1, depth := dd.depth + 1, lel := sq.2.2.2,
                          store := (preSquash cfg dd).2.2.1, log := e.2.2,
                          ndom := dd.ndom + ((if dd.layers.isEmpty then (dd.next, List.range dd.next.length)
                              else filterCache cfg dd.cache dd.next (List.range dd.next.length)).2.length
                            - (preSquash cfg dd).2.1.length) }, .ok) := by
  unfold stepLayer squashOf
  by_cases h1 : dd.next.isEmpty = true
  · simp only [h1, if_true]
  · simp only [h1, Bool.false_eq_true, if_false]
    dsimp only [preSquash]
    have tail : ∀ (k : Nat) (fd : List (Node S) × List Nat × DomStore S K × Bool),
        (if (!fd.2.2.2) = true then ((none : Option (DD S K)), Outcome.crash)
         else match squash cfg dd fd.1 fd.2.1 with
          | none => (none, Outcome.crash)
          | some (layer, cur, log, lel) =>
            (some { dd with layers := dd.layers ++ [(expandAll cfg var dd.layers.length layer cur log).1],
                            next := (expandAll cfg var dd.layers.length layer cur log).2.1, depth := dd.depth + 1,
                            lel := lel, store := fd.2.2.1,
                            log := (expandAll cfg var dd.layers.length layer cur log).2.2,
                            ndom := dd.ndom + (k - fd.2.1.length) }, Outcome.ok)) =
        match (if (!fd.2.2.2) = true then none else squash cfg dd fd.1 fd.2.1) with
          | none => (none, Outcome.crash)
          | some sq =>
            (some { dd with layers := dd.layers ++ [(expandAll cfg var dd.layers.length sq.1 sq.2.1 sq.2.2.1).1],
                            next := (expandAll cfg var dd.layers.length sq.1 sq.2.1 sq.2.2.1).2.1, depth := dd.depth + 1,
                            lel := sq.2.2.2, store := fd.2.2.1,
                            log := (expandAll cfg var dd.layers.length sq.1 sq.2.1 sq.2.2.1).2.2,
                            ndom := dd.ndom + (k - fd.2.1.length) }, Outcome.ok) := by
      rintro k ⟨ly, cur, st, ok⟩
      cases ok
      · rfl
      · cases squash cfg dd ly cur <;> rfl
    exact tail _ _

theorem squashOf_elim (cfg : Cfg S K) (dd : DD S K) (sq : List (Node S) × List Nat × List (Call S) × Option Nat)
    (h : squashOf cfg dd = some sq) :
    squash cfg dd (preSquash cfg dd).1 (preSquash cfg dd).2.1 = some (sq.1, sq.2.1, sq.2.2.1, sq.2.2.2) := by
  unfold squashOf at h
  split at h
  · cases h
  · split at h
    · cases h
    · exact h

/-- a step that answers a diagram either breaks on an empty layer, or appends the layer produced by `expandAll` on what
    `squash` hands over -/
theorem stepLayer_some (cfg : Cfg S K) (dd dd' : DD S K) (var : Nat) (oc : Outcome)
    (h : stepLayer cfg dd var = (some dd', oc)) :
    (dd.next = [] ∧ oc = .cutoff ∧ dd' = { dd with layers := dd.layers ++ [[]] }) ∨
    ∃ sq, squashOf cfg dd = some sq ∧ oc = .ok ∧ dd.next ≠ [] ∧
      dd'.layers = dd.layers ++ [(expandAll cfg var dd.layers.length sq.1 sq.2.1 sq.2.2.1).1] ∧
      dd'.next = (expandAll cfg var dd.layers.length sq.1 sq.2.1 sq.2.2.1).2.1 ∧
      dd'.log = (expandAll cfg var dd.layers.length sq.1 sq.2.1 sq.2.2.1).2.2 ∧
      dd'.depth = dd.depth + 1 ∧ dd'.lel = sq.2.2.2 := by
  rw [stepLayer_eq] at h
  split at h
  · next he =>
    injection h with h1 h2
    exact .inl ⟨List.isEmpty_iff.1 he, h2.symm, (Option.some.inj h1).symm⟩
  · next he =>
    cases hsq : squashOf cfg dd with
    | none => rw [hsq] at h; cases h
    | some sq =>
      rw [hsq] at h
      injection h with h1 h2
      cases Option.some.inj h1
      exact .inr ⟨sq, rfl, h2.symm, mt List.isEmpty_iff.2 he, rfl, rfl, rfl, rfl, rfl⟩

theorem preSquash_iso (cfg : Cfg S K) (dd : DD S K) (hc : cfg.useCache = false) (hd : cfg.dom = none) :
    preSquash cfg dd = (dd.next, List.range dd.next.length, dd.store, true) := by
  have h : (if dd.layers.isEmpty then (dd.next, List.range dd.next.length)
      else filterCache cfg dd.cache dd.next (List.range dd.next.length)) = (dd.next, List.range dd.next.length) := by
    split
    · rfl
    · exact Cover.filterCache_id cfg dd.cache dd.next _ hc (fun p hp => List.mem_range.mp hp)
  unfold preSquash
  rw [h]
  simp only [filterDom, hd]

end Width

theorem Truth.stepLayer_empty (cfg : Cfg S K) (dd : DD S K) (var : Nat) (he : dd.next = []) :
    stepLayer cfg dd var = (some { dd with layers := dd.layers ++ [[]] }, .cutoff) := by
  rw [Width.stepLayer_eq, if_pos (List.isEmpty_iff.2 he)]

theorem Truth.squashOf_iso (cfg : Cfg S K) (dd : DD S K) (hne : dd.next ≠ []) (hc : cfg.useCache = false) (hd : cfg.dom = none) :
    Width.squashOf cfg dd = squash cfg dd dd.next (List.range dd.next.length) := by
  unfold Width.squashOf
  rw [Width.preSquash_iso cfg dd hc hd, if_neg (mt List.isEmpty_iff.1 hne)]
  rfl

theorem Cover.stepLayer_ok (cfg : Cfg S K) (dd : DD S K) (var : Nat) (hne : dd.next ≠ [])
    (hc : cfg.useCache = false) (hd : cfg.dom = none)
    (sq : List (Node S) × List Nat × List (Call S) × Option Nat)
    (hsq : squash cfg dd dd.next (List.range dd.next.length) = some sq) :
    ∃ dd', stepLayer cfg dd var = (some dd', .ok) ∧
      dd'.layers = dd.layers ++ [(expandAll cfg var dd.layers.length sq.1 sq.2.1 sq.2.2.1).1] ∧
      dd'.next = (expandAll cfg var dd.layers.length sq.1 sq.2.1 sq.2.2.1).2.1 ∧
      dd'.depth = dd.depth + 1 ∧ dd'.lel = sq.2.2.2 := by
  rw [Width.stepLayer_eq, if_neg (mt List.isEmpty_iff.1 hne), Truth.squashOf_iso cfg dd hne hc hd, hsq]
  exact ⟨_, rfl, rfl, rfl, rfl, rfl⟩

theorem Cover.stepLayer_some (cfg : Cfg S K) (dd : DD S K) (var : Nat) (hrel : cfg.ctype = .relaxed) (hW : 1 ≤ cfg.width)
    (hc : cfg.useCache = false) (hd : cfg.dom = none) (hne : dd.next ≠ []) :
    ∃ dd', stepLayer cfg dd var = (some dd', .ok) := by
  rcases Bounds.squash_cases cfg dd dd.next (List.range dd.next.length) hrel hW with ⟨_, hsq⟩ | ⟨_, _, hsq⟩ <;>
    exact (Cover.stepLayer_ok cfg dd var hne hc hd _ hsq).imp fun _ h => h.1

/-- the rough-upper-bound test `satAdd rub value > lb`, computed with saturation, lets through every value that is at least
    an `o` beating the incumbent — unless `o` exceeds `isize::MAX` while `lb = isize::MAX` -/
theorem Truth.clamp_gt {lb o : Int} (hlb : InI lb) (hgt : o > lb) (hO : o ≤ iMax ∨ lb < iMax) :
    ∀ x, o ≤ x → clamp x > lb := by
  intro x hx
  unfold InI at hlb
  unfold clamp
  simp only [iMin, iMax] at *
  omega

/-- the diagram on which `buildLoop` calls `stepLayer` -/
def Truth.tick (dd : DD S K) (var : Nat) : DD S K :=
  { dd with log := Call.nextVar dd.depth (dd.next.map (·.state)) (some var) :: dd.log, polls := dd.polls + 1 }

/-- one turn of `buildLoop`: `next_variable` answers `none`; or the cutoff says stop or the step crashes (the diagram is
    left as `tick` made it); or the step breaks on an empty layer or crashes after answering a diagram; or it succeeds
    and the loop goes on -/
theorem buildLoop_succ_cases (cfg : Cfg S K) (stopAt : Option Nat) (fuel : Nat) (dd : DD S K)
    (P : DD S K × Outcome → Prop)
    (hnone : cfg.P.nextVar dd.depth (dd.next.map (·.state)) = none →
      P ({ dd with log := Call.nextVar dd.depth (dd.next.map (·.state)) none :: dd.log }, .ok))
    (hstop : ∀ var oc, cfg.P.nextVar dd.depth (dd.next.map (·.state)) = some var → oc ≠ .ok → P (Truth.tick dd var, oc))
    (hlast : ∀ var dd' oc oc', cfg.P.nextVar dd.depth (dd.next.map (·.state)) = some var →
      stepLayer cfg (Truth.tick dd var) var = (some dd', oc) → (oc = .cutoff ∧ oc' = .ok ∨ oc = .crash ∧ oc' = .crash) →
      P (dd', oc'))
    (hstep : ∀ var dd', cfg.P.nextVar dd.depth (dd.next.map (·.state)) = some var →
      stepLayer cfg (Truth.tick dd var) var = (some dd', .ok) → P (buildLoop cfg stopAt fuel dd')) :
    P (buildLoop cfg stopAt (fuel + 1) dd) := by
  cases stopAt <;>
  · unfold buildLoop
    dsimp only
    split
    · next h => rw [h]; exact hnone h
    · next var h =>
      rw [h]
      split
      · exact hstop var _ h (by decide)
      · split
        · exact hstop var _ h (by decide)
        · next dd' hst => exact hlast var dd' _ _ h hst (.inl ⟨rfl, rfl⟩)
        · next dd' hst => exact hlast var dd' _ _ h hst (.inr ⟨rfl, rfl⟩)
        · next dd' hst => exact hstep var dd' h hst

theorem buildLoop_none_eq (cfg : Cfg S K) (stopAt : Option Nat) (fuel : Nat) (dd : DD S K)
    (h : cfg.P.nextVar dd.depth (dd.next.map (·.state)) = none) :
    buildLoop cfg stopAt (fuel + 1) dd =
      ({ dd with log := Call.nextVar dd.depth (dd.next.map (·.state)) none :: dd.log }, .ok) := by
  conv => lhs; unfold buildLoop
  simp only [h]

theorem buildLoop_some_eq (cfg : Cfg S K) (stopAt : Option Nat) (fuel : Nat) (dd : DD S K) (var : Nat)
    (h : cfg.P.nextVar dd.depth (dd.next.map (·.state)) = some var) :
    buildLoop cfg stopAt (fuel + 1) dd =
      if (match stopAt with | some k => decide ((Truth.tick dd var).polls ≥ k) | none => false) = true then
        (Truth.tick dd var, .cutoff)
      else
        match stepLayer cfg (Truth.tick dd var) var with
        | (none, _) => (Truth.tick dd var, .crash)
        | (some dd', .cutoff) => (dd', .ok)
        | (some dd', .crash) => (dd', .crash)
        | (some dd', .ok) => buildLoop cfg stopAt fuel dd' := by
  conv => lhs; unfold buildLoop
  simp only [h]
  rfl

/-- induction along `buildLoop`: `I` is kept by every layer step, `Q` is what `I` leaves of it when the loop stops (logging
    the last `next_variable` call and counting the poll do not disturb it) -/
theorem buildLoop_induct (cfg : Cfg S K) (stopAt : Option Nat) (I Q : DD S K → Prop) (hQ : ∀ dd, I dd → Q dd)
    (hend : ∀ dd ans p, I dd →
      Q { dd with log := Call.nextVar dd.depth (dd.next.map (·.state)) ans :: dd.log, polls := p })
    (hstep : ∀ dd var dd' oc, I dd → cfg.P.nextVar dd.depth (dd.next.map (·.state)) = some var →
      stepLayer cfg (Truth.tick dd var) var = (some dd', oc) → I dd') :
    ∀ (fuel : Nat) (dd : DD S K), I dd → Q (buildLoop cfg stopAt fuel dd).1 := by
  intro fuel
  induction fuel with
  | zero => intro dd h; exact hQ dd h
  | succ fuel ih =>
    intro dd h
    refine buildLoop_succ_cases cfg stopAt fuel dd (fun r => Q r.1) (fun _ => hend dd _ _ h) (fun _ _ _ _ => hend dd _ _ h)
      (fun var dd' _ _ hv hst _ => hQ dd' (hstep dd var dd' _ h hv hst)) (fun var dd' hv hst => ih dd' (hstep dd var dd' _ h hv hst))

/-- induction along a loop that ends normally (`I` carries the fuel left): it ends when `next_variable` answers `none` or on
    an empty layer; the last unit of fuel is never spent on a successful layer, so a layer step has fuel to spare -/
theorem buildLoop_ok_induct (cfg : Cfg S K) (stopAt : Option Nat) (I : Nat → DD S K → Prop) (Q : DD S K → Prop)
    (hnone : ∀ f dd, I (f + 1) dd → cfg.P.nextVar dd.depth (dd.next.map (·.state)) = none →
      Q { dd with log := Call.nextVar dd.depth (dd.next.map (·.state)) none :: dd.log })
    (hbrk : ∀ f dd var, I (f + 1) dd → cfg.P.nextVar dd.depth (dd.next.map (·.state)) = some var → dd.next = [] →
      Q { Truth.tick dd var with layers := dd.layers ++ [[]] })
    (hstep : ∀ f dd var dd', I (f + 2) dd → cfg.P.nextVar dd.depth (dd.next.map (·.state)) = some var → dd.next ≠ [] →
      stepLayer cfg (Truth.tick dd var) var = (some dd', .ok) → I (f + 1) dd') :
    ∀ (fuel : Nat) (dd : DD S K), I fuel dd → (buildLoop cfg stopAt fuel dd).2 = .ok →
      Q (buildLoop cfg stopAt fuel dd).1 := by
  intro fuel
  induction fuel with
  | zero => intro dd _ h; cases h
  | succ fuel ih =>
    intro dd hI
    refine buildLoop_succ_cases cfg stopAt fuel dd (fun r => r.2 = .ok → Q r.1) (fun hv _ => hnone fuel dd hI hv)
      (fun _ _ _ hoc hok => absurd hok hoc) ?_ ?_
    · intro var dd' oc oc' hv hst h hok
      rcases Width.stepLayer_some cfg _ dd' var oc hst with ⟨hne, _, rfl⟩ | ⟨_, _, rfl, _⟩
      · exact hbrk fuel dd var hI hv hne
      · rcases h with ⟨h, _⟩ | ⟨h, _⟩ <;> cases h
    · intro var dd' hv hst hok
      rcases Width.stepLayer_some cfg _ dd' var _ hst with ⟨_, h, _⟩ | ⟨_, _, _, hne, _⟩
      · cases h
      · cases fuel with
        | zero => cases hok
        | succ f => exact ih dd' (hstep f dd var dd' hI hv hne hst) hok

theorem Truth.buildLoop_step (cfg : Cfg S K) (fuel : Nat) (dd : DD S K) (var : Nat)
    (h : cfg.P.nextVar dd.depth (dd.next.map (·.state)) = some var) :
    buildLoop cfg none (fuel + 1) dd =
      match stepLayer cfg (tick dd var) var with
      | (none, _) => (tick dd var, .crash)
      | (some dd', .cutoff) => (dd', .ok)
      | (some dd', .crash) => (dd', .crash)
      | (some dd', .ok) => buildLoop cfg none fuel dd' :=
  (buildLoop_some_eq cfg none fuel dd var h).trans (if_neg Bool.false_ne_true)

theorem Cover.buildLoop_none (cfg : Cfg S K) (fuel : Nat) (dd : DD S K)
    (h : cfg.P.nextVar dd.depth (dd.next.map (·.state)) = none) :
    (buildLoop cfg none (fuel + 1) dd).2 = .ok ∧ (buildLoop cfg none (fuel + 1) dd).1.next = dd.next := by
  rw [buildLoop_none_eq cfg none fuel dd h]; exact ⟨rfl, rfl⟩

theorem Cover.buildLoop_some (cfg : Cfg S K) (fuel : Nat) (dd : DD S K) (var : Nat)
    (h : cfg.P.nextVar dd.depth (dd.next.map (·.state)) = some var) :
    ∃ dd1 : DD S K, dd1.layers = dd.layers ∧ dd1.next = dd.next ∧ dd1.depth = dd.depth ∧
      ∀ dd', stepLayer cfg dd1 var = (some dd', .ok) →
        buildLoop cfg none (fuel + 1) dd = buildLoop cfg none fuel dd' :=
  ⟨Truth.tick dd var, rfl, rfl, rfl, fun dd' hst => by rw [Truth.buildLoop_step cfg fuel dd var h, hst]⟩

end Ddo

set_option linter.unusedVariables false
namespace Ddo.C12
open Ddo
variable {S K : Type} [DecidableEq S] [DecidableEq K]

theorem map_set_same {α β : Type} (f : α → β) (ly : List α) (p : Nat) (n n' : α) (h : ly[p]? = some n)
    (hs : f n' = f n) : (ly.set p n').map f = ly.map f := by
  rw [List.map_set, hs]
  exact Cover.set_same _ _ _ (by rw [List.getElem?_map, h]; rfl)

theorem nodup_insertBy {α : Type} (before : α → α → Bool) (x : α) (l : List α) (hx : x ∉ l) (hl : l.Nodup) :
    (insertBy before x l).Nodup := by
  induction l with
  | nil => simp [insertBy]
  | cons y r ih =>
    have hy := List.nodup_cons.1 hl
    have hxy : x ≠ y := fun h => hx (h ▸ List.mem_cons_self)
    have hxr : x ∉ r := fun h => hx (List.mem_cons_of_mem _ h)
    simp only [insertBy]
    split
    · refine List.nodup_cons.2 ⟨?_, ih hxr hy.2⟩
      rw [Cover.mem_insertBy]
      rintro (h | h)
      · exact hxy h.symm
      · exact hy.1 h
    · exact List.nodup_cons.2 ⟨hx, hl⟩

theorem nodup_sortBy {α : Type} (before : α → α → Bool) (l : List α) (hl : l.Nodup) : (sortBy before l).Nodup := by
  unfold sortBy
  have : ∀ (l acc : List α), l.Nodup → acc.Nodup → (∀ a ∈ l, a ∉ acc) →
      (l.foldl (fun acc x => insertBy before x acc) acc).Nodup := by
    intro l
    induction l with
    | nil => intro acc _ h _; exact h
    | cons x xs ih =>
      intro acc hl hacc hdis
      have hx := List.nodup_cons.1 hl
      simp only [List.foldl_cons]
      refine ih _ hx.2 (nodup_insertBy before x acc (hdis x List.mem_cons_self) hacc) ?_
      intro a ha
      rw [Cover.mem_insertBy]
      rintro (h | h)
      · exact hx.1 (h ▸ ha)
      · exact hdis a (List.mem_cons_of_mem _ ha) h
  exact this l [] hl List.nodup_nil (fun _ _ h => by cases h)

/-- a fold over positions each step of which keeps states, values and arcs of a layer (`ly`) and at most appends the current
    position to a list (`k`): the layer keeps them, and what is appended is a sub-list of the list folded over -/
theorem foldl_keep_sublist {β : Type} (f : β → Nat → β) (ly : β → List (Node S)) (k : β → List Nat)
    (h : ∀ b p, (ly (f b p)).map Cover.sig = (ly b).map Cover.sig ∧ (k (f b p) = k b ∨ k (f b p) = k b ++ [p])) :
    ∀ (cur : List Nat) (b : β), (ly (cur.foldl f b)).map Cover.sig = (ly b).map Cover.sig ∧
      ∃ sub, List.Sublist sub cur ∧ k (cur.foldl f b) = k b ++ sub := by
  intro cur
  induction cur with
  | nil => intro b; exact ⟨rfl, [], List.Sublist.refl _, by simp⟩
  | cons p ps ih =>
    intro b
    obtain ⟨hl, sub, hsub, hk⟩ := ih (f b p)
    rw [List.foldl_cons, hk, hl]
    refine ⟨(h b p).1, ?_⟩
    rcases (h b p).2 with h1 | h1
    · exact ⟨sub, hsub.cons p, by rw [h1]⟩
    · exact ⟨p :: sub, hsub.cons_cons p, by rw [h1, List.append_assoc, List.singleton_append]⟩

theorem filterCache_keep (cfg : Cfg S K) (cache : Cache S) (layer : List (Node S)) (cur : List Nat) :
    (filterCache cfg cache layer cur).1.map Cover.sig = layer.map Cover.sig ∧
    List.Sublist (filterCache cfg cache layer cur).2 cur := by
  unfold filterCache
  refine (foldl_keep_sublist _ (·.1) (·.2) ?_ cur ((layer, []) : List (Node S) × List Nat)).imp id
    (fun ⟨sub, hsub, hk⟩ => hk ▸ hsub)
  · rintro ⟨ly, keep⟩ p
    dsimp only
    split
    · exact ⟨rfl, .inl rfl⟩
    · rename_i n hn
      split
      · split
        · exact ⟨rfl, .inr rfl⟩
        · exact ⟨map_set_same Cover.sig ly p n _ hn rfl, .inl rfl⟩
      · exact ⟨rfl, .inr rfl⟩

theorem filterDom_keep (cfg : Cfg S K) (store : DomStore S K) (layer : List (Node S)) (cur : List Nat) :
    (filterDom cfg store layer cur).1.map Cover.sig = layer.map Cover.sig ∧
    (cur.Nodup → (filterDom cfg store layer cur).2.1.Nodup) ∧
    ∀ p ∈ (filterDom cfg store layer cur).2.1, p ∈ cur := by
  unfold filterDom
  split
  · exact ⟨rfl, fun h => h, fun _ h => h⟩
  · dsimp only
    generalize hsorted : sortBy _ cur = sorted
    refine (foldl_keep_sublist _ (·.1) (·.2.1) ?_ sorted
      ((layer, [], store, true) : List (Node S) × List Nat × DomStore S K × Bool)).imp id (fun h => ?_)
    · rintro ⟨ly, keep, st, ok⟩ p
      dsimp only
      split
      · exact ⟨rfl, .inl rfl⟩
      · rename_i n hn
        split
        · split
          · exact ⟨rfl, .inr rfl⟩
          · split
            · exact ⟨map_set_same Cover.sig ly p n _ hn rfl, .inl rfl⟩
            · exact ⟨rfl, .inr rfl⟩
        · exact ⟨rfl, .inr rfl⟩
    · obtain ⟨sub, hsub, hk⟩ := h
      rw [hk]
      refine ⟨fun hnd => List.Nodup.sublist hsub (hsorted ▸ nodup_sortBy _ cur hnd), fun p hp => ?_⟩
      exact (Cover.mem_sortBy _ cur p).1 (hsorted ▸ hsub.subset hp)

end Ddo.C12
