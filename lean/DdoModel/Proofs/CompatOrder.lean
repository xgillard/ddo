import DdoModel.Proofs.CompatSound
/-! C10d — **the order-theoretic half of the joint invariant** for the solver with cache **and** dominance checker, under
`SimAll` + static order + `MergeCompat` (`Props/C10c.lean`), (the joint invariant itself is in `Proofs/CompatInv.lean`).

`Good D P opt k s v` (`Proofs/DomSim.lean`) is the protected family of a simulation-admissible rule: exactly reached, undominated,
on an undominated optimal path.  Relaxed nodes are not exactly reached; what a relaxed node *is*, under `MergeCompat`, is
**`GAbove`**: an item `(s, v)` — any state, reached or not — that is at least as good, in the rule's order, as a `Good` item of
its depth.  This file proves that `GAbove`

* is upward closed (`GAbove.up`), contains `Good` (`GAbove.of_good`), and on exactly reached items **is** `Good` (`GAbove.good`);
* is never dominated by an exactly reached item (`GAbove.undom`) — so the checker never drops it, and **the threshold of a
  `dominated` verdict never applies to it** (`GAbove.not_below_threshold`: mechanism 1 of `Props/C10c.lean` — a dominance-derived
  threshold applied to a relaxed node — cannot hit the image of a protected item);
* is closed under the simulating decision (`GAbove.step`), under `merge` and under arc relaxation (`GAbove.merge`,
  `GAbove.relaxed_arc`): **the relaxed image of a protected path is a `GAbove` path** (what `Twin.not_mergeCompat` breaks:
  mechanism 3, the cache deferring the image of `E` to a node that `E` dominates, needs an image the rule ranks below `E`);
* at the terminal depth has a value `≥ opt` (`GAbove.term`);
* has a potential `≥ opt` and is therefore never cut by the rough upper bound while the incumbent is below the optimum —
  **provided the potential is monotone in the rule's order on all states** (`PotMono`, `GAbove.pot`, `GAbove.rub`).  This
  hypothesis is not in `Ddo.C10c.CachingDominanceCompat`, and it is **necessary**: `Ddo.C10d.Shadow` (`Proofs/CompatShadow.lean`, tables in `Proofs/CompatShadowTable.lean`).

**When is the potential monotone in the rule's order?**  (`PotMono`, the hypothesis `Shadow` shows to be missing from
`Ddo.C10c.CachingDominanceCompat`.)

`Potential.le` — "no decision gains potential": the potential is an upper bound of the value-to-go — is required by `WellFormed` on
exactly reached states only.  If it holds on **every** state (`PotLeAll`: the potential *is* the value-to-go of every state, reached
or not — what a user has in mind when writing `fast_upper_bound`, and what the tables `Ddo.C09.Layered.H`, `Ddo.C10.Kp.H` are), then a
rule that satisfies `SimAll` makes the potential monotone in its order: `potMono_of_leAll` (the proof of `Ddo.C10.sim_value` with the
reachability hypotheses dropped).  So the repaired joint statement covers every model whose rough upper bound dominates the
value-to-go of every state.

Last, what `SimAll` and `MergeCompat` force on the shape of the rule: `simAll_useValue`, `mergeCompat_key`. -/
set_option linter.unusedSectionVars false
set_option linter.unusedVariables false
namespace Ddo.C10d
open Ddo Ddo.C01 Ddo.Closed Ddo.C09 Ddo.C10 Ddo.C10c

section order
variable {S K : Type}

/-- the potential is monotone in the rule's order **on all states** (exactly reached or not): an item at least as good has at least
    the potential.  True of a value-to-go defined on every state when the rule satisfies `SimAll`; it makes the rough upper bound
    (`RubOk`) valid for the relaxed images of protected items. -/
def PotMono (D : DomRule S K) (n : Nat) (H : Nat → S → EInt) : Prop :=
  ∀ k a va b vb, GeItem D n a va b vb → (H k b).addI vb ≤ (H k a).addI va

/-- `(s, v)` — any state — is at least as good as a `Good` item of depth `k` -/
def GAbove (D : DomRule S K) (P : Problem S) (n : Nat) (opt : Int) (k : Nat) (s : S) (v : Int) : Prop :=
  ∃ g vg, C10.Good D P opt k g vg ∧ GeItem D n s v g vg

theorem geItem_left {D : DomRule S K} {n : Nat} {a b : S} {va va' vb : Int} (h : GeItem D n a va b vb)
    (hv : vb ≤ va → vb ≤ va') : GeItem D n a va' b vb := by
  rcases h with ⟨rfl, h⟩ | ⟨hk, hge⟩
  · exact Or.inl ⟨rfl, hv h⟩
  · refine Or.inr ⟨hk, ?_⟩
    simp only [geEnt, DomRule.ent, Bool.and_eq_true, Bool.or_eq_true, Bool.not_eq_true'] at hge ⊢
    exact ⟨hge.1, hge.2.imp_right fun h => decide_eq_true (hv (of_decide_eq_true h))⟩

variable {D : DomRule S K} {P : Problem S} {H : Nat → S → EInt} {n : Nat} {opt : Int}

theorem GAbove.of_good {k : Nat} {s : S} {v : Int} (h : C10.Good D P opt k s v) : GAbove D P n opt k s v :=
  ⟨s, v, h, GeItem.refl D n s v⟩

theorem GAbove.up {k : Nat} {a b : S} {va vb : Int} (h : GAbove D P n opt k b vb) (hg : GeItem D n a va b vb) :
    GAbove D P n opt k a va := by
  obtain ⟨g, vg, hgood, hge⟩ := h
  exact ⟨g, vg, hgood, GeItem.trans hg hge⟩

theorem GAbove.undom (hdim : ∀ s, D.dims s = n) {k : Nat} {s : S} {v : Int} (h : GAbove D P n opt k s v) : Undom D P k s v := by
  obtain ⟨g, vg, hgood, hge⟩ := h
  exact hgood.undom.up hdim hge

theorem GAbove.good (hdim : ∀ s, D.dims s = n) (hP : Potential P H) (hstat : StaticOrder P) (hsim : SimAll D P n)
    (hopt : (H 0 P.init).addI P.initVal = some opt) {k : Nat} {s : S} {v : Int} {p : List Dec} (hr : Reach P k s v p)
    (h : GAbove D P n opt k s v) : C10.Good D P opt k s v := by
  obtain ⟨g, vg, hgood, hge⟩ := h
  exact good_up hdim hP hstat hsim.sim hopt hgood s v p hr hge

theorem GAbove.step (hstat : StaticOrder P) (hsim : SimAll D P n) {k : Nat} {s : S} {v : Int} {x : Nat}
    (h : GAbove D P n opt k s v) (hnv : nvar P k = some x) :
    ∃ d ∈ P.domain x s, GAbove D P n opt (k + 1) (P.trans s ⟨x, d⟩) (v + P.cost s (P.trans s ⟨x, d⟩) ⟨x, d⟩) := by
  obtain ⟨g, vg, hgood, hge⟩ := h
  cases hgood with
  | term _ _ _ p hr hnv' _ _ => rw [hnv'] at hnv; cases hnv
  | step _ _ _ p x' dg hr hnv' hdg _ hgc =>
    rw [hnv'] at hnv
    cases hnv
    obtain ⟨da, hda, hgc'⟩ :=
      hsim.step k s v g vg [g] x hge (by rw [nv_one hstat]; exact hnv') List.mem_cons_self dg hdg
    exact ⟨da, hda, _, _, hgc, hgc'⟩

theorem GAbove.term (hsim : SimAll D P n) {k : Nat} {s : S} {v : Int} (h : GAbove D P n opt k s v) (hnv : nvar P k = none) :
    opt ≤ v := by
  obtain ⟨g, vg, hgood, hge⟩ := h
  have hv := hsim.value s v g vg hge
  cases hgood with
  | term _ _ _ p hr _ hvo _ => omega
  | step _ _ _ p x' dg hr hnv' _ _ _ => rw [hnv'] at hnv; cases hnv

theorem GAbove.merge {R : Relax S} (hmc : MergeCompat D R n) {k : Nat} {X : List S} {u : S} {v v' : Int} (hu : u ∈ X)
    (h : GAbove D P n opt k u v) (hv : v ≤ v') : GAbove D P n opt k (R.merge X) v' :=
  h.up (geItem_left (hmc.merge X u v hu) fun h => Int.le_trans h hv)

/-- **the relaxed image of a protected arc**: from a `GAbove` item some decision of its domain leads, whatever set `X` its child is
    merged into, whatever (larger) value the parent node carries, through the relaxed arc to a `GAbove` item -/
theorem GAbove.relaxed_arc {R : Relax S} (hmc : MergeCompat D R n) (hstat : StaticOrder P) (hsim : SimAll D P n) {k : Nat} {s : S}
    {v : Int} {x : Nat} (h : GAbove D P n opt k s v) (hnv : nvar P k = some x) :
    ∃ d ∈ P.domain x s,
      GAbove D P n opt (k + 1) (P.trans s ⟨x, d⟩) (v + P.cost s (P.trans s ⟨x, d⟩) ⟨x, d⟩) ∧
      ∀ X, P.trans s ⟨x, d⟩ ∈ X → ∀ w, v ≤ w →
        GAbove D P n opt (k + 1) (R.merge X)
          (w + R.relax s (P.trans s ⟨x, d⟩) (R.merge X) ⟨x, d⟩ (P.cost s (P.trans s ⟨x, d⟩) ⟨x, d⟩)) := by
  obtain ⟨d, hd, hc⟩ := h.step hstat hsim hnv
  refine ⟨d, hd, hc, fun X hX w hw => hc.merge hmc hX ?_⟩
  exact Int.add_le_add hw (hmc.relax s (P.trans s ⟨x, d⟩) (R.merge X) ⟨x, d⟩ (P.cost s (P.trans s ⟨x, d⟩) ⟨x, d⟩))

theorem GAbove.pot (hP : Potential P H) (hstat : StaticOrder P) (hopt : (H 0 P.init).addI P.initVal = some opt)
    (hmono : PotMono D n H) {k : Nat} {s : S} {v : Int} (h : GAbove D P n opt k s v) : (some opt : EInt) ≤ (H k s).addI v := by
  obtain ⟨g, vg, hgood, hge⟩ := h
  have := hmono k s v g vg hge
  rw [hgood.opt hP hstat hopt] at this
  exact this

theorem GAbove.rub {R : Relax S} (hP : Potential P H) (hstat : StaticOrder P) (hopt : (H 0 P.init).addI P.initVal = some opt)
    (hmono : PotMono D n H) (hrub : RubOk R H) {k : Nat} {s : S} {v : Int} (h : GAbove D P n opt k s v) : opt ≤ v + R.rub s := by
  have hp := h.pot hP hstat hopt hmono
  cases hH : H k s with
  | none => rw [hH] at hp; exact absurd hp (by simp [EInt.addI])
  | some h0 =>
    rw [hH] at hp
    simp only [EInt.addI, Option.map_some, EInt.some_le_some] at hp
    have := hrub k s h0 hH
    omega

/-- **the threshold of a `dominated` verdict never applies to a `GAbove` item**: if the bucket holds exactly reached items of the
    key of `s` and reports `(s, v)` dominated, the threshold `t` it returns is `≥ v` and no `(s, v')` with `v' ≤ t` is `GAbove` -/
theorem GAbove.not_below_threshold (hdim : ∀ s, D.dims s = n) {d : Nat} {kk : K} (b : Bucket S) (s : S) (v : Int) (hv : InI v)
    (hvals : ∀ o ∈ b, InI o.2) (hb : ∀ o ∈ b, D.key o.1 = some kk ∧ ∃ p, Reach P d o.1 o.2 p) (hks : D.key s = some kk)
    (hd : (D.bucketQuery s v b).2.1 = true) :
    ∃ t, (D.bucketQuery s v b).2.2 = some t ∧ v ≤ t ∧ ∀ v', v' ≤ t → ¬ GAbove D P n opt d s v' := by
  obtain ⟨t, ht, hvt, hall⟩ := threshold_sound D b s v hv hvals hd
  refine ⟨t, ht, hvt, fun v' hv' hga => ?_⟩
  have h1 := hall v' hv'
  rw [D.bucketQuery_dom, (D.retain_char s v' b).1] at h1
  obtain ⟨o, ho, hoq⟩ := List.any_eq_true.mp h1
  obtain ⟨hko, p, hr⟩ := hb o ho
  exact hga.undom hdim o.1 o.2 p hr ⟨⟨kk, hko, hks⟩, hoq⟩

theorem good_root (hdim : ∀ s, D.dims s = n) (hP : Potential P H) (hNV : NvBound P) (hstat : StaticOrder P)
    (hsim : SimAll D P n) (hopt : (H 0 P.init).addI P.initVal = some opt) : C10.Good D P opt 0 P.init P.initVal := by
  obtain ⟨s0, v0, hg0⟩ := exists_good hdim hP hNV hstat hsim.sim hopt P.nbVars 0 P.init P.initVal [] (by omega) Reach.root hopt
  obtain ⟨p0, hr0⟩ := hg0.reach
  obtain ⟨rfl, rfl⟩ := reach_zero hr0
  exact hg0

end order

end Ddo.C10d

#print axioms Ddo.C10d.GAbove.good
#print axioms Ddo.C10d.GAbove.step
#print axioms Ddo.C10d.GAbove.relaxed_arc
#print axioms Ddo.C10d.GAbove.rub
#print axioms Ddo.C10d.GAbove.not_below_threshold

namespace Ddo.C10d
open Ddo Ddo.C01 Ddo.Closed Ddo.C09 Ddo.C10 Ddo.C10c
variable {S K : Type}

/-- `Potential.le` on **all** states: no decision of any state gains potential -/
def PotLeAll (P : Problem S) (H : Nat → S → EInt) : Prop :=
  ∀ k L x s d, P.nextVar k L = some x → s ∈ L → d ∈ P.domain x s →
    (H (k + 1) (P.trans s ⟨x, d⟩)).addI (P.cost s (P.trans s ⟨x, d⟩) ⟨x, d⟩) ≤ H k s

/-- at the terminal depth both potentials are `0`: the order on the values decides -/
theorem sim_value_term {D : DomRule S K} {P : Problem S} {H : Nat → S → EInt} {n : Nat} (hP : Potential P H)
    (hstat : StaticOrder P) (hsim : SimAll D P n) {k : Nat} {a b : S} {va vb h : Int} (hnv : nvar P k = none)
    (hg : GeItem D n a va b vb) (hH : H k b = some h) : ∃ h', H k a = some h' ∧ vb + h ≤ va + h' := by
  have hHb := hP.term k [b] b (by rw [nv_one hstat]; exact hnv) List.mem_cons_self
  have hHa := hP.term k [a] a (by rw [nv_one hstat]; exact hnv) List.mem_cons_self
  have h1 := hsim.value a va b vb hg
  rw [hHb] at hH
  cases hH
  exact ⟨0, hHa, by omega⟩

theorem sim_value_all {D : DomRule S K} {P : Problem S} {H : Nat → S → EInt} {n : Nat}
    (hP : Potential P H) (hle : PotLeAll P H) (hNV : NvBound P) (hstat : StaticOrder P) (hsim : SimAll D P n) :
    ∀ (m k : Nat) (a : S) (va : Int) (b : S) (vb : Int), P.nbVars ≤ k + m → GeItem D n a va b vb → ∀ h, H k b = some h →
      ∃ h', H k a = some h' ∧ vb + h ≤ va + h' := by
  intro m
  induction m with
  | zero =>
    intro k a va b vb hk hg h hH
    exact sim_value_term hP hstat hsim (hNV k _ hk) hg hH
  | succ m ih =>
    intro k a va b vb hk hg h hH
    cases hnv : nvar P k with
    | none => exact sim_value_term hP hstat hsim hnv hg hH
    | some x =>
      have hnvb : P.nextVar k [b] = some x := by rw [nv_one hstat]; exact hnv
      have hnva : P.nextVar k [a] = some x := by rw [nv_one hstat]; exact hnv
      obtain ⟨db, hdb, hb', hHb', hle'⟩ := hP.att k [b] x b h hnvb List.mem_cons_self hH
      obtain ⟨da, hda, hgc⟩ := hsim.step k a va b vb [b] x hg hnvb List.mem_cons_self db hdb
      obtain ⟨ha', hHa', hle''⟩ := ih (k + 1) _ _ _ _ (by rw [Nat.add_right_comm]; exact hk) hgc hb' hHb'
      have hla := hle k [a] x a da hnva List.mem_cons_self hda
      rw [hHa'] at hla
      cases hHa : H k a with
      | none => rw [hHa] at hla; exact absurd hla (by simp [EInt.addI])
      | some h0 =>
        rw [hHa] at hla
        simp only [EInt.addI, Option.map_some, EInt.some_le_some] at hla
        exact ⟨h0, rfl, by omega⟩

theorem potMono_of_leAll {D : DomRule S K} {P : Problem S} {H : Nat → S → EInt} {n : Nat}
    (hP : Potential P H) (hle : PotLeAll P H) (hNV : NvBound P) (hstat : StaticOrder P) (hsim : SimAll D P n) : PotMono D n H := by
  intro k a va b vb hg
  cases hH : H k b with
  | none => exact EInt.none_le _
  | some h =>
    obtain ⟨h', hHa, hle'⟩ := sim_value_all hP hle hNV hstat hsim P.nbVars k a va b vb (by omega) hg h hH
    rw [hHa]
    simp only [EInt.addI, Option.map_some, EInt.some_le_some]
    omega

/-- **`SimAll` forces `use_value`**: a rule that gives a key to some state and ignores the value relates `(s, 0)` and `(s, 1)` both ways,
    against `SimAll.value` -/
theorem simAll_useValue {D : DomRule S K} {P : Problem S} {n : Nat} (hsim : SimAll D P n) {s : S} {k : K} (hk : D.key s = some k) :
    D.useValue = true := by
  cases hu : D.useValue with
  | true => rfl
  | false =>
    have hge : GeItem D n s 0 s 1 := by
      refine Or.inr ⟨⟨k, hk, hk⟩, ?_⟩
      simp only [geEnt, hu, Bool.not_false, Bool.true_or, Bool.and_true]
      exact leB_refl _
    have := hsim.value s 0 s 1 hge
    omega

/-- **`MergeCompat` forces one key on everything that is merged**: a state replaced by a different merged state has the key of the
    merged state -/
theorem mergeCompat_key {D : DomRule S K} {R : Relax S} {n : Nat} (hmc : MergeCompat D R n) {X : List S} {u : S} (hu : u ∈ X)
    (hne : R.merge X ≠ u) : ∃ k, D.key (R.merge X) = some k ∧ D.key u = some k := by
  rcases hmc.merge X u 0 hu with ⟨e, _⟩ | ⟨hk, _⟩
  · exact absurd e hne
  · exact hk

end Ddo.C10d

#print axioms Ddo.C10d.potMono_of_leAll
#print axioms Ddo.C10d.simAll_useValue
#print axioms Ddo.C10d.mergeCompat_key
