import DdoModel.Proofs.ParDomBuilt
/-! # A compilation whose layers each read the shared store AT THEIR OWN MOMENT

`buildLoopL cfg σ` / `compileL cfg cache σ polls`: the compilation of the diagram model in which the `_filter_with_dominance` of
the layer of depth `d` runs on the store `σ d` — the content of the SHARED checker at the moment the compilation reaches that
layer, i.e. after every operation the other workers performed in the meantime — instead of the store the compilation itself left
after its previous layer.  Every layer is a `stepLayer` from SOME store of exactly reached items, which is all the diagram theorems
use: the compilation is a chain of layer steps through admissible filters (`buildLoopL_ended`; `Chain`, `Ended` in
`Proofs/BuildChain.lean`, `FilterOk` in `Proofs/DomChain.lean`) and does not crash (`buildLoopL_no_crash`).

`okRL` / `okXL`: the answers of such compilations for ANY sequence `σ` of stores of exactly reached items — the shared checker as it is
when the compilation reaches each layer, whatever the other workers did to it in between; `compileL_ended`, `compileL_no_crash`,
`ansOk_L`: they meet `AnsOk` (`ansOk_built`). -/
set_option linter.unusedSectionVars false
set_option linter.unusedVariables false
namespace Ddo.ParDom
open Ddo Ddo.Truth Ddo.Closed Ddo.C10
variable {S K : Type} [DecidableEq S] [DecidableEq K]

def withStore (dd : DD S K) (st : DomStore S K) : DD S K := { dd with store := st }

/-- the build loop, the layer of depth `d` filtered against the store `σ d` -/
def buildLoopL (cfg : Cfg S K) (σ : Nat → DomStore S K) : Nat → DD S K → DD S K × Outcome
  | 0, dd => (dd, .crash)
  | fuel + 1, dd =>
    match cfg.P.nextVar dd.depth (dd.next.map (·.state)) with
    | none => ({ dd with log := Call.nextVar dd.depth (dd.next.map (·.state)) none :: dd.log }, .ok)
    | some var =>
      match stepLayer cfg (tick (withStore dd (σ dd.depth)) var) var with
      | (none, _) => (tick dd var, .crash)
      | (some dd', .cutoff) => (dd', .ok)
      | (some dd', .crash) => (dd', .crash)
      | (some dd', .ok) => buildLoopL cfg σ fuel dd'

/-- the compilation whose layer of depth `d` reads the store `σ d` -/
def compileL (cfg : Cfg S K) (cache : Cache S) (σ : Nat → DomStore S K) (polls : Nat) : Outcome × Result S × DD S K :=
  ((buildLoopL cfg σ (cfg.P.nbVars + 2) (initDD cfg cache (σ cfg.root.depth) polls)).2,
   resultOf cfg (buildLoopL cfg σ (cfg.P.nbVars + 2) (initDD cfg cache (σ cfg.root.depth) polls)).1,
   (buildLoopL cfg σ (cfg.P.nbVars + 2) (initDD cfg cache (σ cfg.root.depth) polls)).1)

theorem buildLoopL_none (cfg : Cfg S K) (σ : Nat → DomStore S K) (fuel : Nat) (dd : DD S K)
    (h : cfg.P.nextVar dd.depth (dd.next.map (·.state)) = none) :
    buildLoopL cfg σ (fuel + 1) dd =
      ({ dd with log := Call.nextVar dd.depth (dd.next.map (·.state)) none :: dd.log }, .ok) := by
  unfold buildLoopL; simp only [h]

theorem buildLoopL_some (cfg : Cfg S K) (σ : Nat → DomStore S K) (fuel : Nat) (dd : DD S K) (var : Nat)
    (h : cfg.P.nextVar dd.depth (dd.next.map (·.state)) = some var) :
    buildLoopL cfg σ (fuel + 1) dd =
      match stepLayer cfg (tick (withStore dd (σ dd.depth)) var) var with
      | (none, _) => (tick dd var, .crash)
      | (some dd', .cutoff) => (dd', .ok)
      | (some dd', .crash) => (dd', .crash)
      | (some dd', .ok) => buildLoopL cfg σ fuel dd' := by
  conv => lhs; unfold buildLoopL
  simp only [h]

theorem buildLoopL_ok (cfg : Cfg S K) (σ : Nat → DomStore S K) (fuel : Nat) (dd dd' : DD S K) (var : Nat)
    (h : cfg.P.nextVar dd.depth (dd.next.map (·.state)) = some var)
    (hs : stepLayer cfg (tick (withStore dd (σ dd.depth)) var) var = (some dd', .ok)) :
    buildLoopL cfg σ (fuel + 1) dd = buildLoopL cfg σ fuel dd' := by
  rw [buildLoopL_some cfg σ fuel dd var h, hs]

theorem buildLoopL_cutoff (cfg : Cfg S K) (σ : Nat → DomStore S K) (fuel : Nat) (dd dd' : DD S K) (var : Nat)
    (h : cfg.P.nextVar dd.depth (dd.next.map (·.state)) = some var)
    (hs : stepLayer cfg (tick (withStore dd (σ dd.depth)) var) var = (some dd', .cutoff)) :
    buildLoopL cfg σ (fuel + 1) dd = (dd', .ok) := by
  rw [buildLoopL_some cfg σ fuel dd var h, hs]

theorem resultOf_withStore (cfg : Cfg S K) (dd : DD S K) (st : DomStore S K) :
    resultOf cfg (withStore dd st) = resultOf cfg dd := rfl

theorem squash_withStore (cfg : Cfg S K) (dd : DD S K) (st : DomStore S K) (layer : List (Node S)) (cur : List Nat) :
    squash cfg (withStore dd st) layer cur = squash cfg dd layer cur := rfl

/-- **the loop of the layer-wise compilation extends a chain**, whatever stores of exactly reached items the layers read, and is over
    when it ends normally -/
theorem buildLoopL_ended (cfg : Cfg S K) (D : DomRule S K) (H : Nat → S → EInt) (opt : Int) (Prot : Nat → S → Int → Prop)
    (hD : cfg.dom = some D) (hcache : cfg.useCache = false) (hNV : NvBound cfg.P) (hP : Protected D cfg.P H opt Prot)
    (B : Int) (hB : NoClamp cfg.P cfg.R cfg.root.value B) (p0 : List Dec) (σ : Nat → DomStore S K)
    (hσ : ∀ d, StoreReach D cfg.P (σ d) ∧ (σ d).layers.length = cfg.P.nbVars + 1) (dd0 : DD S K) :
    ∀ (fuel : Nat) (dd : DD S K), Chain cfg (FilterOk Prot) B p0 dd0 dd → MInv cfg B p0 dd →
      dd.depth = cfg.root.depth + dd.layers.length → dd.layers.length + fuel ≤ cfg.P.nbVars + 2 →
      (buildLoopL cfg σ fuel dd).2 = .ok →
      Chain cfg (FilterOk Prot) B p0 dd0 (buildLoopL cfg σ fuel dd).1 ∧ Terminal cfg (buildLoopL cfg σ fuel dd).1 := by
  intro fuel
  induction fuel with
  | zero => intro dd _ _ _ _ h; cases h
  | succ fuel ih =>
    intro dd hC hM hdepth hfuel hok
    cases hnv : cfg.P.nextVar dd.depth (dd.next.map (·.state)) with
    | none =>
      rw [buildLoopL_none cfg σ fuel dd hnv]
      exact ⟨hC.congr rfl rfl rfl rfl, .inr ⟨hnv, hdepth⟩⟩
    | some var =>
      rw [buildLoopL_some cfg σ fuel dd var hnv] at hok ⊢
      have hc : AtStep cfg B p0 (tick (withStore dd (σ dd.depth)) var) var :=
        ⟨hM.congr rfl rfl, hdepth, hnv, Nat.le_trans (Nat.le_add_right _ fuel) (Nat.le_of_succ_le_succ hfuel)⟩
      cases hst : stepLayer cfg (tick (withStore dd (σ dd.depth)) var) var with
      | mk o oc =>
        rw [hst] at hok
        cases o with
        | none => cases hok
        | some dd' =>
          have hC' := (hC.congr (dd' := tick (withStore dd (σ dd.depth)) var) rfl rfl rfl rfl).stepLayer hD hcache hNV hP hB
            ⟨(hσ _).1, (hσ _).2⟩ hc hst
          obtain ⟨m1, m2, m3⟩ := Ddo.stepLayer_inv cfg B p0 hB _ var hc.M hc.depth hc.nv hc.len dd' oc hst
          cases oc with
          | cutoff => exact ⟨hC', .inl (m3 (by decide))⟩
          | crash => cases hok
          | ok =>
            obtain ⟨m2a, m2b⟩ := m2 rfl
            exact ih dd' hC' m1 m2a (by rw [m2b]; exact Nat.add_right_comm _ 1 fuel ▸ hfuel) hok

/-- the loop of the layer-wise compilation does not crash, whatever stores with `nb_variables + 1` layers the layers read -/
theorem buildLoopL_no_crash (cfg : Cfg S K) (D : DomRule S K) (hD : cfg.dom = some D) (B : Int) (p0 : List Dec)
    (hc : cfg.useCache = false) (hW : 1 ≤ cfg.width) (hNV : NvBound cfg.P)
    (hB : NoClamp cfg.P cfg.R cfg.root.value B) (σ : Nat → DomStore S K)
    (hσ : ∀ d, (σ d).layers.length = cfg.P.nbVars + 1) :
    ∀ (fuel : Nat) (dd : DD S K), MInv cfg B p0 dd → dd.depth = cfg.root.depth + dd.layers.length →
      (dd.layers = [] → dd.next.length ≤ 1) → dd.depth ≤ cfg.P.nbVars →
      cfg.P.nbVars + 1 ≤ dd.depth + fuel → (buildLoopL cfg σ fuel dd).2 = .ok := by
  intro fuel
  induction fuel with
  | zero => intro dd _ _ _ h1 h2; omega
  | succ fuel ih =>
    intro dd hM hdepth hJ h1 h2
    cases hnv : cfg.P.nextVar dd.depth (dd.next.map (·.state)) with
    | none => rw [buildLoopL_none cfg σ fuel dd hnv]
    | some var =>
      rw [buildLoopL_some cfg σ fuel dd var hnv]
      by_cases hne : dd.next = []
      · rw [stepLayer_empty cfg (tick (withStore dd (σ dd.depth)) var) var hne]
      · obtain ⟨dd', e, m1, m2, _, m4, hdp⟩ := stepLayer_no_crash_dom cfg D hD B p0 hc hW hNV hB (withStore dd (σ dd.depth)) var
          (hM.congr rfl rfl) hdepth (hσ _) hJ hnv hne
        rw [show tick (withStore dd (σ dd.depth)) var = tick (withStore dd (σ dd.depth)) var from rfl, e]
        exact ih dd' m1 m2 (fun h => absurd h m4) (hdp ▸ nv_depth_lt hNV hnv)
          (by rw [hdp]; show cfg.P.nbVars + 1 ≤ dd.depth + 1 + fuel; rw [Nat.add_right_comm]; exact h2)

end Ddo.ParDom

namespace Ddo.ParDom
open Ddo Ddo.Truth Ddo.Closed Ddo.ParSys Ddo.ParClosed Ddo.C10
open Ddo.C01 (SolverCfg WellFormed toOut SolOf)
variable {S K : Type} [DecidableEq S] [DecidableEq K]

/-- the restricted compilation of `N` whose layer of depth `d` is filtered against `σ d` answered `o` -/
def okRL (dv : DSolverCfg S K) (N : SubP S) (lb : Int) (o : DDOut S) : Prop :=
  ∃ σ : Nat → DomStore S K, GoodStores dv σ ∧
    (compileL (dv.cfg .restricted N lb) (Cache.init dv.sv.P.nbVars) σ 0).1 = .ok ∧
    o = toOut (compileL (dv.cfg .restricted N lb) (Cache.init dv.sv.P.nbVars) σ 0).2.1

def okXL (dv : DSolverCfg S K) (N : SubP S) (lb : Int) (o : DDOut S) : Prop :=
  ∃ σ : Nat → DomStore S K, GoodStores dv σ ∧
    (compileL (dv.cfg .relaxed N lb) (Cache.init dv.sv.P.nbVars) σ 0).1 = .ok ∧
    o = toOut (compileL (dv.cfg .relaxed N lb) (Cache.init dv.sv.P.nbVars) σ 0).2.1

/-- a layer-wise compilation that ends normally reports of the final diagram of a chain -/
theorem compileL_ended {dv : DSolverCfg S K} {H : Nat → S → EInt} {B0 B opt : Int} {Prot : Nat → S → Int → Prop}
    (hwf : WellFormed dv.sv H B0 B) (hPr : Protected dv.D dv.sv.P H opt Prot) (ct : CompType) {N : SubP S} {p0 : List Dec}
    (hroot : Reach dv.sv.P N.depth N.state N.value p0) (lb : Int) {σ : Nat → DomStore S K} (hσ : GoodStores dv σ)
    (hok : (compileL (dv.cfg ct N lb) (Cache.init dv.sv.P.nbVars) σ 0).1 = .ok) :
    Ended (dv.cfg ct N lb) (FilterOk Prot) B p0 (compileL (dv.cfg ct N lb) (Cache.init dv.sv.P.nbVars) σ 0).2.2 := by
  have hBN := hwf.bound.noClamp_at hwf.nv hroot
  obtain ⟨hC, hT⟩ := buildLoopL_ended (dv.cfg ct N lb) dv.D H opt Prot rfl rfl hwf.nv hPr B hBN p0 σ hσ _ _ _ .refl
    (initDD_inv (dv.cfg ct N lb) B p0 hBN hroot _ _ 0) rfl (Nat.le_of_eq (Nat.zero_add _)) hok
  exact ⟨⟨_, _, _, hC⟩, hT⟩

theorem compileL_result (cfg : Cfg S K) (cache : Cache S) (σ : Nat → DomStore S K) (polls : Nat) :
    (compileL cfg cache σ polls).2.1 = resultOf cfg (compileL cfg cache σ polls).2.2 := by
  unfold compileL; rfl

theorem compileL_no_crash {dv : DSolverCfg S K} {H : Nat → S → EInt} {B0 B : Int} (hwf : WellFormed dv.sv H B0 B)
    (ct : CompType) {N : SubP S} (hn : C01.NodeOk dv.sv.P N) (lb : Int) {σ : Nat → DomStore S K} (hσ : GoodStores dv σ) :
    (compileL (dv.cfg ct N lb) (Cache.init dv.sv.P.nbVars) σ 0).1 = .ok := by
  obtain ⟨p0, hroot, _⟩ := hn
  have hdepth := reach_depth_le hwf.nv hroot
  refine buildLoopL_no_crash (dv.cfg ct N lb) dv.D rfl B p0 rfl (hwf.width N) hwf.nv (hwf.bound.noClamp_at hwf.nv hroot) σ
    (fun d => (hσ d).2) _ _ (initDD_inv _ B p0 (hwf.bound.noClamp_at hwf.nv hroot) hroot _ _ 0) rfl ?_ hdepth ?_
  · intro _; simp [initDD]
  · show dv.sv.P.nbVars + 1 ≤ N.depth + (dv.sv.P.nbVars + 2); omega

/-- **`AnsOk` holds for the compilations that access the shared store layer by layer** -/
theorem ansOk_L {dv : DSolverCfg S K} {H : Nat → S → EInt} {B0 B opt : Int} {Prot : Nat → S → Int → Prop}
    (hwf : WellFormed dv.sv H B0 B) (hopt : (H 0 dv.sv.P.init).addI dv.sv.P.initVal = some opt)
    (hPr : Protected dv.D dv.sv.P H opt Prot) : AnsOk dv B opt Prot (okRL dv) (okXL dv) :=
  ansOk_built hwf hopt hPr
    (fun n lb o p0 hroot ⟨σ, hσ, hok, ho⟩ =>
      ⟨_, compileL_ended hwf hPr .restricted hroot lb hσ hok, ho.trans (congrArg toOut (compileL_result _ _ σ 0))⟩)
    (fun n lb o p0 hroot ⟨σ, hσ, hok, ho⟩ =>
      ⟨_, compileL_ended hwf hPr .relaxed hroot lb hσ hok, ho.trans (congrArg toOut (compileL_result _ _ σ 0))⟩)
    (fun n lb hn => ⟨_, _, goodStores_const dv, compileL_no_crash hwf .restricted hn lb (goodStores_const dv), rfl⟩)
    (fun n lb hn => ⟨_, _, goodStores_const dv, compileL_no_crash hwf .relaxed hn lb (goodStores_const dv), rfl⟩)

end Ddo.ParDom
