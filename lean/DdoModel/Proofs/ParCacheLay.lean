import DdoModel.Proofs.ParCacheCutSys
import DdoModel.Proofs.ParClosed
/-! # The parallel solver with the threshold cache: bookkeeping invariant, "never panics", "never deadlocks"

The argument of `Proofs/ParClosedLay.lean` (`LayInv`, `pstep_layinv`, `take_ne_none`, `notify_ne_none`) and of
`Proofs/ParClosed.lean` (`pstep_progress`) for the transition system `KStep` of `Proofs/ParCacheSys.lean`, under the hypothesis
`DepthOk`: every node around (fringe, in hand, cut-set about to be enqueued, threshold writes to come) is at a depth `≤ nbVars` —
established from the diagram theorems in `Proofs/ParCacheClosed.lean` (`pck_depthOk`).

`LayInvK` is the bookkeeping invariant of `KStep`; `LayG` is the same invariant for the system with cut-off `KStepC`
(`Proofs/ParCacheCutSys.lean`), whose `abort_search` clears the fringe and leaves `open_by_layer` alone: `OpenK` as long as the flag
is down, nobody in the pop loop once it is up.  The bookkeeping is proved ONCE, on the larger system (`kstepC_layG`): `KStep` is
the part of `KStepC` with the flag down (`KStep.toC`) and `LayInvK` is `LayG` with the flag down, so `kstep_layInvK` is the
flag-down reading of `kstepC_layG` — which is why this module, although it serves the system without cut-off too, stands above
`ParCacheCutSys` (the definition of `KStepC` needs `ParCacheSys` only).  `LayC` is `LayG` with the flag up. -/
set_option linter.unusedSectionVars false
set_option linter.unusedVariables false
namespace Ddo.ParCache
open Ddo Ddo.C09 Ddo.ParSys Ddo.Closed
open Ddo.ParClosed (decLayer_spec bumpLayer_spec layer_set enqueue_len take_full notify_full mem_set_elim popMax_none
  popMax_popMax)
variable {S : Type} [DecidableEq S]

structure DepthOk (nbVars : Nat) (s : KSys S) : Prop where
  fr : ∀ c ∈ s.crit.base.fringe, c.depth ≤ nbVars
  held : ∀ w ∈ s.ws, ∀ n, (w.node = some n ∨ w.openNode = some n) → n.depth ≤ nbVars
  cut : ∀ w ∈ s.ws, ∀ n lb o cv ups, w = .enq n lb o cv ups → ∀ c ∈ o.cutset, c.depth ≤ nbVars
  todo : ∀ w ∈ s.ws, ∀ n lb o cv ups todo, (w = .wrR n lb o cv ups todo ∨ w = .wrX n lb o cv ups todo) →
    ∀ u ∈ todo, u.2.1 ≤ nbVars

/-- the node popped and kept by `get_workload`, `take` not yet done: still counted by `open_by_layer` -/
def KW.gwNode : KW S → Option (SubP S)
  | .gwW n => some n
  | _ => none

/-- the length of the log when the compilation in progress started -/
def KW.k0 : KW S → Nat
  | .compR _ _ k | .compX _ _ k => k
  | _ => 0

def depthIs (o : Option (SubP S)) (d : Nat) : Bool :=
  match o with
  | some n => n.depth == d
  | none => false

/-- number of workers whose `f`-node is at depth `d` -/
def cntF (f : KW S → Option (SubP S)) (ws : List (KW S)) (d : Nat) : Nat := ws.countP (fun w => depthIs (f w) d)

/-- number of nodes of depth `d` taken by the workers (`KW.node`) -/
abbrev handD (ws : List (KW S)) (d : Nat) : Nat := cntF KW.node ws d
/-- number of nodes of depth `d` held in stage `gwW` -/
abbrev gwD (ws : List (KW S)) (d : Nat) : Nat := cntF KW.gwNode ws d

theorem cntF_set_same (f : KW S → Option (SubP S)) {l : List (KW S)} {i : Nat} {w a : KW S} (hw : l[i]? = some w)
    (h : f a = f w) (d : Nat) : cntF f (l.set i a) d = cntF f l d := by
  have := countP_set (fun w => depthIs (f w) d) a hw
  simp only [h] at this
  unfold cntF
  omega

theorem cntF_set_gain (f : KW S → Option (SubP S)) {l : List (KW S)} {i : Nat} {w a : KW S} {n : SubP S}
    (hw : l[i]? = some w) (h1 : f w = none) (h2 : f a = some n) (d : Nat) :
    cntF f (l.set i a) d = cntF f l d + (if n.depth = d then 1 else 0) := by
  have := countP_set (fun w => depthIs (f w) d) a hw
  simp only [h1, h2, depthIs, beq_iff_eq, Bool.false_eq_true, if_false, Nat.add_zero] at this
  exact this

theorem cntF_set_loss (f : KW S → Option (SubP S)) {l : List (KW S)} {i : Nat} {w a : KW S} {n : SubP S}
    (hw : l[i]? = some w) (h1 : f w = some n) (h2 : f a = none) (d : Nat) :
    cntF f (l.set i a) d + (if n.depth = d then 1 else 0) = cntF f l d := by
  have := countP_set (fun w => depthIs (f w) d) a hw
  simp only [h1, h2, depthIs, beq_iff_eq, Bool.false_eq_true, if_false, Nat.add_zero] at this
  exact this

theorem cntF_wake (f : KW S → Option (SubP S)) (h : f .idle = f .waiting) (l : List (KW S)) (d : Nat) :
    cntF f (l.map KW.wake) d = cntF f l d :=
  KW.countP_wake _ (congrArg (depthIs · d) h) l

theorem cntF_zero (f : KW S → Option (SubP S)) {l : List (KW S)} (h : ∀ w ∈ l, f w = none) (d : Nat) :
    cntF f l d = 0 := by
  unfold cntF
  rw [List.countP_eq_zero]
  intro w hw
  rw [h w hw]
  simp [depthIs]

theorem cntF_pos (f : KW S → Option (SubP S)) {l : List (KW S)} {w : KW S} {n : SubP S} (hw : w ∈ l)
    (h : f w = some n) : 0 < cntF f l n.depth := by
  unfold cntF
  exact List.countP_pos_iff.mpr ⟨w, hw, by rw [h]; simp [depthIs]⟩

theorem mustExplore_def (c : Cache S) (s : S) (d : Nat) (v : Int) (hd : d < c.layers.length) :
    ∃ b, c.mustExplore s d v = some b := by
  unfold Cache.mustExplore Cache.get
  rw [List.getElem?_eq_getElem hd]
  exact ⟨_, rfl⟩

/-- `open_by_layer` side: `nbVars + 1` cells; cell `d` counts the fringe entries of depth `d` plus the nodes of depth `d`
    held in stage `gwW` (popped and kept, `take` — which decrements — not yet done); no checked operation failed in
    `enqueue_cutset`; no abort -/
structure OpenK (n : Nat) (b : SeqSt S) (ws : List (KW S)) : Prop where
  openLen : b.openByLayer.length = n + 1
  openCnt : ∀ d, d ≤ n → b.openByLayer[d]? = some (cntD b.fringe d + gwD ws d)
  noPanic : b.crashed = false
  noAbort : b.abort = false

/-- workers side: `ongoing_by_layer` has `nbVars + 1` cells and cell `d` counts the nodes of depth `d` taken (`KW.node`);
    `ongoing` counts the workers that hold a node; one cell of `upper_bounds` per worker; nobody has panicked; a parked
    worker implies work in progress (no lost wake-up); at most one worker is inside `get_workload` -/
structure HandK (n : Nat) (c : ParCrit S) (ws : List (KW S)) : Prop where
  ongoLen : c.ongoingByLayer.length = n + 1
  ongoCnt : ∀ d, d ≤ n → c.ongoingByLayer[d]? = some (handD ws d)
  cnt : c.ongoing = ws.countP KW.holds
  len : ws.length = c.upperBounds.length
  noCrash : ∀ w ∈ ws, w ≠ KW.crashed
  parked : KW.waiting ∈ ws → c.ongoing ≠ 0
  mutex : ws.countP KW.inGw ≤ 1

/-- cache side: `nbVars + 1` layers; the head of the ghost log is the current cache; a compilation in progress started
    when the log was no longer than now -/
structure LogK (n : Nat) (cache : Cache S) (log : List (Cache S)) (ws : List (KW S)) : Prop where
  cacheLen : cache.layers.length = n + 1
  logHead : log.head? = some cache
  logK : ∀ w ∈ ws, w.k0 ≤ log.length

/-- **`LayInvK`**: the bookkeeping invariant of the parallel solver with the cache -/
structure LayInvK (nbVars : Nat) (s : KSys S) : Prop where
  opn : OpenK nbVars s.crit.base s.ws
  hand : HandK nbVars s.crit s.ws
  lg : LogK nbVars s.cache s.log s.ws

theorem lockFree_iff (ws : List (KW S)) : ws.countP KW.inGw = 0 ↔ ∀ w ∈ ws, w.inGw = false := by
  rw [List.countP_eq_zero]
  constructor
  · intro h w hw; simpa using h w hw
  · intro h w hw; simp [h w hw]

theorem mutex_others {ws : List (KW S)} {i : Nat} {w x : KW S} (hm : ws.countP KW.inGw ≤ 1) (hw : ws[i]? = some w)
    (hin : w.inGw = true) (hx : x.inGw = false) : ∀ w' ∈ ws.set i x, w'.inGw = false := by
  have := countP_set KW.inGw x hw
  rw [hin, hx] at this
  simp at this
  exact (lockFree_iff _).mp (by omega)

theorem mutex_index {ws : List (KW S)} {i j : Nat} {w w' : KW S} (hm : ws.countP KW.inGw ≤ 1) (hw : ws[i]? = some w)
    (hin : w.inGw = true) (hw' : ws[j]? = some w') (hin' : w'.inGw = true) : j = i := by
  apply Classical.byContradiction
  intro hne
  have h1 : (ws.set i KW.idle)[j]? = some w' := by
    rw [List.getElem?_set_ne (fun e => hne e.symm)]; exact hw'
  have := mutex_others hm hw hin (x := KW.idle) rfl w' (List.mem_of_getElem? h1)
  rw [hin'] at this
  cases this

theorem wake_k0 (w : KW S) : w.wake.k0 = w.k0 := KW.wake_congr KW.k0 rfl w
theorem wake_ne_waiting (w : KW S) : w.wake ≠ .waiting := by cases w <;> simp [KW.wake]
theorem wake_ne_crashed {w : KW S} (h : w ≠ .crashed) : w.wake ≠ .crashed := by cases w <;> simp_all [KW.wake]

theorem inGw_gwNode {w : KW S} (h : w.inGw = false) : w.gwNode = none := by cases w <;> first | rfl | cases h

theorem handK_set {n : Nat} {c c' : ParCrit S} {ws : List (KW S)} {i : Nat} {w w' : KW S} (h : HandK n c ws)
    (hw : ws[i]? = some w) (hnode : w'.node = w.node) (hcr : w' ≠ .crashed)
    (hwait : w' = .waiting → c.ongoing ≠ 0)
    (hgw : w'.inGw = true → w.inGw = true ∨ ws.countP KW.inGw = 0)
    (e1 : c'.ongoingByLayer = c.ongoingByLayer) (e2 : c'.ongoing = c.ongoing)
    (e3 : c'.upperBounds.length = c.upperBounds.length) : HandK n c' (ws.set i w') := by
  refine ⟨by rw [e1]; exact h.ongoLen, fun d hd' => ?_, ?_, by rw [List.length_set, e3]; exact h.len,
    mem_set_elim h.noCrash hcr, fun hm => ?_, ?_⟩
  · rw [e1, h.ongoCnt d hd']
    show some (cntF _ _ _) = some (cntF _ _ _)
    rw [cntF_set_same KW.node hw hnode]
  · rw [e2, h.cnt, countP_set_keep KW.holds _ hw (by unfold KW.holds; rw [hnode])]
  · rw [e2]
    rcases List.mem_or_eq_of_mem_set hm with h' | h'
    · exact h.parked h'
    · exact hwait h'.symm
  · have := countP_set KW.inGw w' hw
    have hm := h.mutex
    cases h1 : w'.inGw with
    | false =>
      rw [h1] at this
      simp only [Bool.false_eq_true, if_false] at this
      omega
    | true =>
      rcases hgw h1 with h2 | h2
      · rw [h1, h2] at this; omega
      · rw [h1, h2] at this
        simp only [if_true] at this
        omega

theorem openK_set {n : Nat} {b : SeqSt S} {ws : List (KW S)} {i : Nat} {w w' : KW S} (h : OpenK n b ws)
    (hw : ws[i]? = some w) (hg : w'.gwNode = w.gwNode) : OpenK n b (ws.set i w') := by
  refine ⟨h.openLen, fun d hd' => ?_, h.noPanic, h.noAbort⟩
  rw [h.openCnt d hd']
  show some (_ + cntF _ _ _) = some (_ + cntF _ _ _)
  rw [cntF_set_same KW.gwNode hw hg]

/-- one sub-problem of depth `D` fewer is open (it left the fringe, or the hand that had popped it), `open_by_layer[D] -= 1` -/
theorem openK_dec {n : Nat} {b b' : SeqSt S} {ws ws' : List (KW S)} {D : Nat} {l : List Nat} (h : OpenK n b ws)
    (hD : D ≤ n) (hl : decLayer b.openByLayer D = some l) (e1 : b'.openByLayer = l)
    (hcnt : ∀ d, cntD b'.fringe d + gwD ws' d + (if D = d then 1 else 0) = cntD b.fringe d + gwD ws d)
    (e3 : b'.crashed = b.crashed) (e4 : b'.abort = b.abort) : OpenK n b' ws' := by
  obtain ⟨c, hc, hne, rfl⟩ := decLayer_spec hl
  have hcc : c = cntD b.fringe D + gwD ws D := by
    have := h.openCnt D hD
    rw [hc] at this
    exact Option.some.inj this
  obtain ⟨l1, l2⟩ := layer_set h.openLen h.openCnt D (c - 1) (fun d => cntD b'.fringe d + gwD ws' d) hD
    (by have := hcnt D; rw [if_pos rfl] at this; show cntD b'.fringe D + gwD ws' D = c - 1; omega)
    (fun d hne' => by
      have := hcnt d; rw [if_neg (fun e => hne' e.symm)] at this
      show cntD b'.fringe d + gwD ws' d = cntD b.fringe d + gwD ws d; omega)
  exact ⟨e1 ▸ l1, fun d hd' => e1 ▸ l2 d hd', e3 ▸ h.noPanic, e4 ▸ h.noAbort⟩

theorem logK_set {n : Nat} {cache cache' : Cache S} {log log' : List (Cache S)} {ws : List (KW S)} {i : Nat}
    {w' : KW S} (h : LogK n cache log ws) (hc : cache'.layers.length = n + 1) (hh : log'.head? = some cache')
    (hl : log.length ≤ log'.length) (hk : w'.k0 ≤ log'.length) : LogK n cache' log' (ws.set i w') :=
  ⟨hc, hh, mem_set_elim (fun w hw => Nat.le_trans (h.logK w hw) hl) hk⟩

theorem logK_push {n : Nat} {cache cache' : Cache S} {log : List (Cache S)} {ws : List (KW S)}
    (h : LogK n cache log ws) (hc : cache'.layers.length = n + 1) : LogK n cache' (cache' :: log) ws :=
  ⟨hc, rfl, fun w hw => Nat.le_trans (h.logK w hw) (Nat.le_succ _)⟩

/-- neither crashed nor parked -/
def KW.fit : KW S → Bool
  | .crashed | .waiting => false
  | _ => true

/-- in the pop loop of `get_workload` -/
def KW.inPop : KW S → Bool
  | .gwP | .gwW _ => true
  | _ => false

theorem noPop_of {w : KW S} (h : w.inPop = false) : w ≠ KW.gwP ∧ ∀ m, w ≠ KW.gwW m :=
  ⟨(fun e => by rw [e] at h; cases h), (fun m e => by rw [e] at h; cases h)⟩

theorem noPop_of_inGw {w : KW S} (h : w.inGw = false) : w ≠ KW.gwP ∧ ∀ m, w ≠ KW.gwW m :=
  ⟨(fun e => by rw [e] at h; cases h), (fun m e => by rw [e] at h; cases h)⟩

/-- **`LayG`**: the bookkeeping invariant of the parallel caching solver with cut-off.  `abort_search` runs `fringe.clear()` without
    touching `open_by_layer`, so the count (`OpenK`) holds as long as the flag is down (as `ParClosed.CritLay.openOk`); once it is up
    nobody is in the pop loop of `get_workload`, the only place where that counter is decremented (`abort_search` takes the mutex,
    `gwAborted` pre-empts `gwToPop`).  `LayInvK` is `LayG` with the flag down, `LayC` (below) with the flag up. -/
structure LayG (n : Nat) (s : KSys S) : Prop where
  hand : HandK n s.crit s.ws
  lg : LogK n s.cache s.log s.ws
  openLen : s.crit.base.openByLayer.length = n + 1
  noPanic : s.crit.base.crashed = false
  opn : s.crit.base.abort = false → OpenK n s.crit.base s.ws
  noPop : s.crit.base.abort = true → ∀ w ∈ s.ws, w ≠ KW.gwP ∧ ∀ m, w ≠ KW.gwW m

theorem layG_of_lay {n : Nat} {s : KSys S} (h : LayInvK n s) : LayG n s :=
  ⟨h.hand, h.lg, h.opn.openLen, h.opn.noPanic, fun _ => h.opn, fun ha => absurd (h.opn.noAbort.symm.trans ha) (by decide)⟩

theorem LayG.lay {n : Nat} {s : KSys S} (h : LayG n s) (ha : s.crit.base.abort = false) : LayInvK n s :=
  ⟨h.opn ha, h.hand, h.lg⟩

theorem LayG.flag_of_pop {n : Nat} {s : KSys S} (h : LayG n s) {i : Nat} {w : KW S} (hw : s.ws[i]? = some w)
    (hp : w = .gwP ∨ ∃ m, w = .gwW m) : s.crit.base.abort = false := by
  cases ha : s.crit.base.abort with
  | false => rfl
  | true =>
    obtain ⟨h1, h2⟩ := h.noPop ha w (List.mem_of_getElem? hw)
    rcases hp with e | ⟨m, e⟩
    · exact absurd e h1
    · exact absurd e (h2 m)

theorem handK_crit {n : Nat} {c c' : ParCrit S} {ws : List (KW S)} (h : HandK n c ws)
    (e1 : c'.ongoingByLayer = c.ongoingByLayer) (e2 : c'.ongoing = c.ongoing) (e3 : c'.upperBounds = c.upperBounds) :
    HandK n c' ws :=
  ⟨e1 ▸ h.ongoLen, e1 ▸ h.ongoCnt, e2 ▸ h.cnt, e3 ▸ h.len, h.noCrash, e2 ▸ h.parked, h.mutex⟩

theorem layG_push {n : Nat} {s : KSys S} {c' : Cache S} (hL : LayG n s) (hc : c'.layers.length = n + 1) :
    LayG n { s with cache := c', log := c' :: s.log } :=
  ⟨hL.hand, logK_push hL.lg hc, hL.openLen, hL.noPanic, hL.opn, hL.noPop⟩

theorem layG_crit {n : Nat} {s : KSys S} {c' : ParCrit S} (hL : LayG n s)
    (e1 : c'.base.openByLayer = s.crit.base.openByLayer) (e2 : c'.base.fringe = s.crit.base.fringe)
    (e3 : c'.base.crashed = s.crit.base.crashed) (e4 : c'.base.abort = s.crit.base.abort)
    (e5 : c'.ongoingByLayer = s.crit.ongoingByLayer) (e6 : c'.ongoing = s.crit.ongoing)
    (e7 : c'.upperBounds = s.crit.upperBounds) : LayG n { s with crit := c' } :=
  ⟨handK_crit hL.hand e5 e6 e7, hL.lg, e1 ▸ hL.openLen, e3 ▸ hL.noPanic,
    fun ha => have hO := hL.opn (e4 ▸ ha)
      ⟨e1 ▸ hO.openLen, fun d hd' => e1 ▸ e2 ▸ hO.openCnt d hd', e3 ▸ hO.noPanic, ha⟩,
    fun ha => hL.noPop (e4 ▸ ha)⟩

/-- worker `i` moves to a stage with the same taken node and the same `gwW` node; it enters `get_workload` only if
    nobody is inside, and the pop loop only while the flag is down -/
theorem layG_stage {n : Nat} {s : KSys S} {i : Nat} {w w' : KW S} (hL : LayG n s) (hw : s.ws[i]? = some w)
    (hnode : w'.node = w.node) (hgn : w'.gwNode = w.gwNode) (hq : w'.fit = true)
    (hgw : w'.inGw = false ∨ w.inGw = true ∨ LockFree s) (hk : w'.k0 ≤ s.log.length)
    (hp : w'.inPop = false ∨ s.crit.base.abort = false) : LayG n { s with ws := s.ws.set i w' } :=
  ⟨handK_set hL.hand hw hnode (fun e => by rw [e] at hq; cases hq) (fun e => by rw [e] at hq; cases hq)
      (fun h => hgw.elim (fun h' => by rw [h'] at h; cases h) (Or.imp id (lockFree_iff _).mpr)) rfl rfl rfl,
    logK_set hL.lg hL.lg.cacheLen hL.lg.logHead (Nat.le_refl _) hk, hL.openLen, hL.noPanic,
    fun ha => openK_set (hL.opn ha) hw hgn,
    fun ha => mem_set_elim (hL.noPop ha) (noPop_of (hp.resolve_right (fun h => absurd (h.symm.trans ha) (by decide))))⟩

/-- the end of `get_workload`: the worker in stage `gwW nn` takes `nn` -/
theorem handK_take {n : Nat} {c c'' : ParCrit S} {ws : List (KW S)} {i : Nat} {nn : SubP S} (h : HandK n c ws)
    (hw : ws[i]? = some (.gwW nn)) (hd' : nn.depth ≤ n) {ol : List Nat}
    (hb : bumpLayer c.ongoingByLayer nn.depth 1 = some ol)
    (e1 : c''.ongoingByLayer = ol) (e2 : c''.ongoing = c.ongoing + 1)
    (e3 : c''.upperBounds.length = c.upperBounds.length) : HandK n c'' (ws.set i (.readR nn)) := by
  obtain ⟨cc, hcc, rfl⟩ := bumpLayer_spec hb
  have hcc' : cc = handD ws nn.depth := by
    have := h.ongoCnt nn.depth hd'
    rw [hcc] at this
    exact Option.some.inj this
  have hset : ∀ d, handD (ws.set i (.readR nn)) d = handD ws d + (if nn.depth = d then 1 else 0) :=
    cntF_set_gain KW.node (a := .readR nn) (n := nn) hw rfl rfl
  obtain ⟨l1, l2⟩ := layer_set h.ongoLen h.ongoCnt nn.depth (cc + 1) (handD (ws.set i (.readR nn))) hd'
    (by rw [hset, if_pos rfl, hcc']) (fun d hne => by rw [hset, if_neg (fun e => hne e.symm)]; rfl)
  refine ⟨by rw [e1]; exact l1, fun d hd'' => by rw [e1]; exact l2 d hd'', ?_,
    by rw [List.length_set, e3]; exact h.len, mem_set_elim h.noCrash (by intro e; cases e),
    fun _ => by rw [e2]; omega, ?_⟩
  · rw [e2, h.cnt, countP_set_gain KW.holds (a := .readR nn) hw rfl rfl]
  · have := countP_set_loss KW.inGw (a := .readR nn) hw rfl rfl
    have := h.mutex
    omega

/-- `notify_node_finished`: the worker gives its node back and goes to `a` (`idle`, or `done` after its own `abort_search`), every
    parked worker is woken -/
theorem handK_notify {n : Nat} {c c' : ParCrit S} {ws : List (KW S)} {i : Nat} {m : SubP S}
    (h : HandK n c ws) (hw : ws[i]? = some (.fin m)) (hd' : m.depth ≤ n) {ol : List Nat}
    (hb : decLayer c.ongoingByLayer m.depth = some ol)
    (e1 : c'.ongoingByLayer = ol) (e2 : c'.ongoing + 1 = c.ongoing)
    (e3 : c'.upperBounds.length = c.upperBounds.length) {a : KW S} (h1 : a.node = none) (h2 : a.inGw = false)
    (h3 : a.fit = true) : HandK n c' ((ws.map KW.wake).set i a) := by
  obtain ⟨cc, hcc, hne, rfl⟩ := decLayer_spec hb
  have hcc' : cc = handD ws m.depth := by
    have := h.ongoCnt m.depth hd'
    rw [hcc] at this
    exact Option.some.inj this
  have hwk : (ws.map KW.wake)[i]? = some (.fin m) := by rw [List.getElem?_map, hw]; rfl
  have hset : ∀ d, handD ((ws.map KW.wake).set i a) d + (if m.depth = d then 1 else 0) = handD ws d := by
    intro d
    have := cntF_set_loss KW.node (a := a) (n := m) hwk rfl h1 d
    rw [cntF_wake KW.node rfl] at this
    exact this
  obtain ⟨l1, l2⟩ := layer_set h.ongoLen h.ongoCnt m.depth (cc - 1) (handD ((ws.map KW.wake).set i a)) hd'
    (by have := hset m.depth; rw [if_pos rfl] at this; omega)
    (fun d hne' => by have := hset d; rw [if_neg (fun e => hne' e.symm)] at this; omega)
  refine ⟨by rw [e1]; exact l1, fun d hd'' => by rw [e1]; exact l2 d hd'', ?_,
    by rw [List.length_set, List.length_map, e3]; exact h.len, ?_, fun hm => ?_, ?_⟩
  · have := countP_set_loss KW.holds (a := a) hwk rfl (by unfold KW.holds; rw [h1]; rfl)
    rw [KW.countP_wake KW.holds rfl] at this
    have := h.cnt
    omega
  · refine mem_set_elim (fun w hw'' => ?_) (fun e => by rw [e] at h3; cases h3)
    obtain ⟨w0, hw0, rfl⟩ := List.mem_map.mp hw''
    exact wake_ne_crashed (h.noCrash w0 hw0)
  · exfalso
    rcases List.mem_or_eq_of_mem_set hm with h' | h'
    · obtain ⟨w0, _, e⟩ := List.mem_map.mp h'
      exact wake_ne_waiting w0 e
    · rw [← h'] at h3; cases h3
  · rw [countP_set_keep KW.inGw a hwk h2, KW.countP_wake KW.inGw rfl]
    exact h.mutex

theorem take_defined {nbVars : Nat} {s : KSys S} {i : Nat} {n : SubP S} (hL : LayInvK nbVars s)
    (hw : s.ws[i]? = some (.gwW n)) (hN : n.depth ≤ nbVars) : ∃ c'', s.crit.take i n = some c'' := by
  have hmem := List.mem_of_getElem? hw
  have hpos : 0 < gwD s.ws n.depth := cntF_pos KW.gwNode hmem rfl
  have hi : i < s.crit.upperBounds.length := by
    rw [← hL.hand.len]; exact (List.getElem?_eq_some_iff.mp hw).1
  unfold ParCrit.take decLayer bumpLayer
  rw [if_pos hi, hL.opn.openCnt n.depth hN, hL.hand.ongoCnt n.depth hN]
  simp only
  rw [if_neg (by omega)]
  exact ⟨_, rfl⟩

/-- a refused node: the counter of its depth is positive (the node was in the fringe) -/
theorem dropOne_defined {nbVars : Nat} {s : KSys S} {N : SubP S} {rest : List (SubP S)} (hL : LayInvK nbVars s)
    (hp : PopMax s.crit.base.fringe N rest) (hN : N.depth ≤ nbVars) : ∃ c', dropOne s.crit N rest = some c' := by
  have hc : cntD s.crit.base.fringe N.depth = cntD rest N.depth + 1 := by
    rw [cntD_perm hp.1, cntD_cons, if_pos rfl]
  unfold dropOne decLayer
  rw [hL.opn.openCnt N.depth hN]
  simp only
  rw [if_neg (by omega)]
  exact ⟨_, rfl⟩

theorem notify_defined {nbVars : Nat} {s : KSys S} {i : Nat} {n : SubP S} (hH : HandK nbVars s.crit s.ws)
    (hw : s.ws[i]? = some (.fin n)) (hN : n.depth ≤ nbVars) : ∃ c', s.crit.notifyFinished i n.depth = some c' := by
  have hmem := List.mem_of_getElem? hw
  have h1 : s.crit.ongoing ≠ 0 := by
    rw [hH.cnt]
    have : 0 < s.ws.countP KW.holds := List.countP_pos_iff.mpr ⟨_, hmem, rfl⟩
    omega
  have hi : i < s.crit.upperBounds.length := by
    rw [← hH.len]; exact (List.getElem?_eq_some_iff.mp hw).1
  have h3 : 0 < handD s.ws n.depth := cntF_pos KW.node hmem rfl
  unfold ParCrit.notifyFinished decLayer
  rw [if_neg h1, if_pos hi, hH.ongoCnt n.depth hN]
  simp only
  rw [if_neg (by omega)]
  exact ⟨_, rfl⟩

/-- outside the pop loop of `get_workload` the next operation of a worker is defined by the `ongoing` side of the bookkeeping and
    the shape of the cache alone -/
theorem no_panics_hand {nbVars : Nat} {s : KSys S} {i : Nat} {w : KW S} (hH : HandK nbVars s.crit s.ws)
    (hG : LogK nbVars s.cache s.log s.ws) (hD : DepthOk nbVars s) (hw : s.ws[i]? = some w)
    (hpop : w ≠ KW.gwP ∧ ∀ m, w ≠ KW.gwW m) : ¬ Panics nbVars s i w := by
  have hmem := List.mem_of_getElem? hw
  intro hp
  cases w with
  | gwC =>
    obtain ⟨hc, hcl⟩ := hp
    obtain ⟨c', h⟩ := Cache.clearLayer_isSome s.cache s.crit.base.firstActive (by rw [hG.cacheLen]; have := hc.1; omega)
    rw [h] at hcl; cases hcl
  | gwP => exact hpop.1 rfl
  | gwW m => exact hpop.2 m rfl
  | wrR n lb o cv ups todo =>
    cases todo with
    | nil => exact hp
    | cons u todo =>
      have hu := hD.todo _ hmem n lb o cv ups (u :: todo) (Or.inl rfl) u List.mem_cons_self
      obtain ⟨c', hc'⟩ := Cache.update_isSome s.cache u.1 u.2.1 (upThr u) (by rw [hG.cacheLen]; omega)
      have hp : s.cache.update u.1 u.2.1 (upThr u) = none := hp
      rw [hc'] at hp; cases hp
  | wrX n lb o cv ups todo =>
    cases todo with
    | nil => exact hp
    | cons u todo =>
      have hu := hD.todo _ hmem n lb o cv ups (u :: todo) (Or.inr rfl) u List.mem_cons_self
      obtain ⟨c', hc'⟩ := Cache.update_isSome s.cache u.1 u.2.1 (upThr u) (by rw [hG.cacheLen]; omega)
      have hp : s.cache.update u.1 u.2.1 (upThr u) = none := hp
      rw [hc'] at hp; cases hp
  | fin n =>
    obtain ⟨c', hc'⟩ := notify_defined hH hw (hD.held _ hmem n (Or.inl rfl))
    have hp : s.crit.notifyFinished i n.depth = none := hp
    rw [hc'] at hp; cases hp
  | _ => exact hp

/-- **never panics**: under the invariant no `crash` step is enabled -/
theorem no_panics {nbVars : Nat} {s : KSys S} {i : Nat} {w : KW S} (hL : LayInvK nbVars s) (hD : DepthOk nbVars s)
    (hw : s.ws[i]? = some w) : ¬ Panics nbVars s i w := by
  have hmem := List.mem_of_getElem? hw
  cases w with
  | gwP =>
    rintro ⟨N, rest, hpm, hub, h⟩
    have hN := hD.fr N ((mem_of_popMax hpm N).mpr (Or.inl rfl))
    rcases h with h | ⟨_, h⟩
    · obtain ⟨b, hb⟩ := mustExplore_def s.cache N.state N.depth N.value (by rw [hL.lg.cacheLen]; omega)
      rw [hb] at h; cases h
    · obtain ⟨c', hc'⟩ := dropOne_defined hL hpm hN
      rw [hc'] at h; cases h
  | gwW n =>
    have hN := hD.held _ hmem n (Or.inr rfl)
    rintro (h | h)
    · obtain ⟨c', hc'⟩ := Cache.update_isSome s.cache n.state n.depth ⟨n.value, true⟩ (by rw [hL.lg.cacheLen]; omega)
      rw [hc'] at h; cases h
    · obtain ⟨c', hc'⟩ := take_defined hL hw hN
      rw [hc'] at h; cases h
  | _ => exact no_panics_hand hL.hand hL.lg hD hw ⟨(fun e => by cases e), (fun m e => by cases e)⟩

theorem layInvK_noPanic {nbVars : Nat} {s : KSys S} (hL : LayInvK nbVars s) : NoPanic s :=
  ⟨hL.hand.noCrash, hL.opn.noPanic⟩

theorem no_panicsG {n : Nat} {s : KSys S} {i : Nat} {w : KW S} (hL : LayG n s) (hD : DepthOk n s)
    (hw : s.ws[i]? = some w) : ¬ Panics n s i w := by
  cases ha : s.crit.base.abort with
  | false => exact no_panics (hL.lay ha) hD hw
  | true => exact no_panics_hand hL.hand hL.lg hD hw (hL.noPop ha _ (List.mem_of_getElem? hw))

theorem layG_updateBest {n : Nat} {s : KSys S} (hL : LayG n s) (o : DDOut S) :
    LayG n { s with crit := s.crit.updateBest o } := by
  obtain ⟨f1, _, f3, f4, _⟩ := updateBest_fringe s.crit.base o
  exact layG_crit (c' := s.crit.updateBest o) hL f4 f1 (updateBest_crashed s.crit.base o) f3 rfl rfl rfl

theorem gwD_lockFree {s : KSys S} (hl : LockFree s) (d : Nat) : gwD s.ws d = 0 :=
  cntF_zero KW.gwNode (fun w hw => inGw_gwNode (hl w hw)) d

/-- `abort_search` by a compiling worker: it takes the mutex, so nobody is in the pop loop -/
theorem layG_abort {n : Nat} {s : KSys S} {i : Nat} {w : KW S} {m : SubP S} (hL : LayG n s) (hw : s.ws[i]? = some w)
    (hnode : w.node = some m) (hl : LockFree s) (top : Option Int) : LayG n (abortK s i m top) :=
  ⟨handK_set (c' := s.crit.abortSearch m.ub top) hL.hand hw hnode.symm (by intro e; cases e) (fun e => by cases e)
      (fun h => by cases h) rfl rfl rfl,
    logK_set hL.lg ((Cache.layers_len_clear s.cache).trans hL.lg.cacheLen) rfl (Nat.le_succ _) (Nat.zero_le _), hL.openLen, hL.noPanic,
    (fun ha => nomatch ha), fun _ => mem_set_elim (fun w hw' => noPop_of_inGw (hl w hw')) (noPop_of_inGw (w := .fin m) rfl)⟩

theorem layG_notify {n : Nat} {s : KSys S} {i : Nat} {m : SubP S} {c' : ParCrit S} {a : KW S} (hL : LayG n s)
    (hD : DepthOk n s) (hw : s.ws[i]? = some (.fin m)) (hn : s.crit.notifyFinished i m.depth = some c')
    (h1 : a.node = none) (h2 : a.inGw = false) (h3 : a.fit = true) (h4 : a.k0 = 0) :
    LayG n { s with crit := c', ws := (s.ws.map KW.wake).set i a } := by
  obtain ⟨n1, n2, n3, _⟩ := notify_spec hn
  obtain ⟨ol, g1, g2⟩ := notify_full hn
  have hwk : (s.ws.map KW.wake)[i]? = some (.fin m) := by rw [List.getElem?_map, hw]; rfl
  have hz : ∀ d, gwD ((s.ws.map KW.wake).set i a) d = gwD s.ws d := fun d => by
    show cntF _ _ _ = cntF _ _ _
    rw [cntF_set_same KW.gwNode hwk (a := a) (inGw_gwNode h2), cntF_wake KW.gwNode rfl]
  refine ⟨handK_notify hL.hand hw (hD.held _ (List.mem_of_getElem? hw) m (.inl rfl)) g1 g2 n2 (by rw [n3, List.length_set])
      h1 h2 h3,
    ⟨hL.lg.cacheLen, hL.lg.logHead, mem_set_elim (fun w hw' => ?_) (by rw [h4]; exact Nat.zero_le _)⟩,
    by rw [n1]; exact hL.openLen, by rw [n1]; exact hL.noPanic, fun ha => ?_,
    fun ha => mem_set_elim (fun w hw' => ?_) (noPop_of_inGw h2)⟩
  · obtain ⟨w0, hw0, rfl⟩ := List.mem_map.mp hw'
    rw [wake_k0]; exact hL.lg.logK w0 hw0
  · have hO := hL.opn (n1 ▸ ha)
    exact ⟨by rw [n1]; exact hO.openLen, fun d hd' => by rw [n1, hz d]; exact hO.openCnt d hd', by rw [n1]; exact hO.noPanic, ha⟩
  · obtain ⟨w0, hw0, rfl⟩ := List.mem_map.mp hw'
    have h0 := hL.noPop (n1 ▸ ha) w0 hw0
    cases w0 <;> first | exact h0 | exact noPop_of rfl

/-- **every step of every worker of the system with cut-off preserves the bookkeeping invariant**, before and after an abort —
    `crash` included: it is not enabled.  A step in the pop loop is taken with the flag down (`LayG.flag_of_pop`) -/
theorem kstepC_layG {n : Nat} {dedup : Bool} {okR okX : SubP S → Int → Cache S → DDOut S → List (Up S) → Prop}
    {s t : KSysC S} (h : KStepC n dedup okR okX s t) (hL : LayG n s.k) (hD : DepthOk n s.k) : LayG n t.k := by
  have hH := hL.hand
  have hG := hL.lg
  cases h with
  | gwEnter s e i hw hl => exact layG_stage hL hw rfl rfl rfl (.inr (.inr hl)) (Nat.zero_le _) (.inl rfl)
  | gwClear s e i c' hw hc hcl =>
    exact layG_crit (c' := bumpFirst s.crit) (layG_push hL ((Cache.layers_len_clearLayer _ _ _ hcl).trans hG.cacheLen))
      rfl rfl rfl rfl rfl rfl rfl
  | gwAborted s e i hw hc ha => exact layG_stage hL hw rfl rfl rfl (.inl rfl) (Nat.zero_le _) (.inl rfl)
  | gwComplete s e i hw hc ha ho hf =>
    exact layG_stage (layG_crit (c' := s.crit.complete) hL rfl rfl rfl rfl rfl rfl rfl) hw rfl rfl rfl (.inl rfl)
      (Nat.zero_le _) (.inl rfl)
  | gwWait s e i hw hc ha ho hf =>
    exact ⟨handK_set (c' := s.crit) hH hw rfl (by intro e; cases e) (fun _ => ho) (fun e => by cases e) rfl rfl rfl,
      logK_set hG hG.cacheLen hG.logHead (Nat.le_refl _) (Nat.zero_le _), hL.openLen, hL.noPanic,
      fun ha' => openK_set (hL.opn ha') hw rfl, fun ha' => absurd (ha.symm.trans ha') (by decide)⟩
  | gwToPop s e i hw hc ha hf => exact layG_stage hL hw rfl rfl rfl (.inr (.inl rfl)) (Nat.zero_le _) (.inr ha)
  | gwEmpty s e i hw hf => exact layG_stage hL hw rfl rfl rfl (.inl rfl) (Nat.zero_le _) (.inl rfl)
  | gwStarve s e i N rest hw hp hub =>
    have hO : OpenK n s.crit.base s.ws := hL.opn (hL.flag_of_pop hw (.inl rfl))
    have hz : ∀ d, gwD (s.ws.set i .idle) d = 0 := fun d =>
      cntF_zero KW.gwNode (fun w hw' => inGw_gwNode (mutex_others hH.mutex hw rfl (x := .idle) rfl w hw')) d
    refine layG_of_lay ⟨⟨?_, fun d hd' => ?_, hO.noPanic, hO.noAbort⟩,
      handK_set (c' := starve s.crit) hH hw rfl (by intro e; cases e) (fun e => by cases e) (fun e => by cases e)
        rfl rfl rfl,
      logK_set hG hG.cacheLen hG.logHead (Nat.le_refl _) (Nat.zero_le _)⟩
    · show (s.crit.base.openByLayer.map (fun _ => 0)).length = _
      rw [List.length_map]; exact hO.openLen
    · show (s.crit.base.openByLayer.map (fun _ => 0))[d]? = some (cntD [] d + gwD (s.ws.set i .idle) d)
      rw [hz d, List.getElem?_map, List.getElem?_eq_getElem (by rw [hO.openLen]; omega)]
      rfl
  | gwDrop s e i N rest c' hw hp hub hme hd =>
    have hO : OpenK n s.crit.base s.ws := hL.opn (hL.flag_of_pop hw (.inl rfl))
    obtain ⟨l, hl, rfl⟩ := dropOne_eq hd
    refine layG_of_lay ⟨openK_dec hO (hD.fr N ((mem_of_popMax hp N).mpr (Or.inl rfl))) hl rfl (fun d => ?_) rfl rfl,
      handK_crit hH rfl rfl rfl, hG⟩
    show cntD rest d + gwD s.ws d + (if N.depth = d then 1 else 0) = cntD s.crit.base.fringe d + gwD s.ws d
    rw [cntD_perm hp.1, cntD_cons]
    omega
  | gwKeep s e i N rest hw hp hub hme =>
    have hO : OpenK n s.crit.base s.ws := hL.opn (hL.flag_of_pop hw (.inl rfl))
    have hfr : ∀ d, cntD s.crit.base.fringe d = cntD rest d + (if N.depth = d then 1 else 0) := fun d => by
      rw [cntD_perm hp.1, cntD_cons]
    have hset : ∀ d, gwD (s.ws.set i (.gwW N)) d = gwD s.ws d + (if N.depth = d then 1 else 0) :=
      cntF_set_gain KW.gwNode (a := .gwW N) (n := N) hw rfl rfl
    refine layG_of_lay ⟨⟨hO.openLen, fun d hd' => ?_, hO.noPanic, hO.noAbort⟩,
      handK_set (c' := setFringe s.crit rest) hH hw rfl (by intro e; cases e) (fun e => by cases e)
        (fun _ => Or.inl rfl) rfl rfl rfl,
      logK_set hG hG.cacheLen hG.logHead (Nat.le_refl _) (Nat.zero_le _)⟩
    show s.crit.base.openByLayer[d]? = some (cntD rest d + gwD (s.ws.set i (.gwW N)) d)
    rw [hO.openCnt d hd', hset d, hfr d]
    congr 1
    omega
  | gwTake s e i m c' crit' hw hu ht =>
    have hO : OpenK n s.crit.base s.ws := hL.opn (hL.flag_of_pop hw (.inr ⟨_, rfl⟩))
    have hN := hD.held _ (List.mem_of_getElem? hw) m (Or.inr rfl)
    obtain ⟨t1, _, _, _, t5, t6, t7, _⟩ := take_spec ht
    obtain ⟨l, ol, h1, h2, h3, h4, h5⟩ := take_full ht
    refine layG_of_lay ⟨openK_dec hO hN h1 h3 (fun d => ?_) h5 t5,
      handK_take hH hw hN h2 h4 t6 (by rw [t7, List.length_set]),
      logK_set hG (by rw [Cache.layers_len_update _ _ _ _ _ hu]; exact hG.cacheLen) rfl (Nat.le_succ _) (Nat.zero_le _)⟩
    rw [t1, Nat.add_assoc]
    exact congrArg _ (cntF_set_loss KW.gwNode (a := .readR m) (n := m) hw rfl rfl d)
  | readLbR s e i m hw hl =>
    split
    · exact layG_stage hL hw rfl rfl rfl (.inl rfl) (Nat.zero_le _) (.inl rfl)
    · exact layG_stage hL hw rfl rfl rfl (.inl rfl) (Nat.le_refl _) (.inl rfl)
  | compileR s e i m lb k0 cv o ups hw hcv hok
  | compileX s e i m lb k0 cv o ups hw hcv hok =>
    exact layG_stage hL hw rfl rfl rfl (.inl rfl) (Nat.zero_le _) (.inl rfl)
  | writeR s e i m lb o cv ups u todo c' hw hu
  | writeX s e i m lb o cv ups u todo c' hw hu =>
    exact layG_stage (layG_push hL (by rw [Cache.layers_len_update _ _ _ _ _ hu]; exact hG.cacheLen)) hw rfl rfl rfl (.inl rfl)
      (Nat.zero_le _) (.inl rfl)
  | updateR s e i m lb o cv ups hw hl
  | updateX s e i m lb o cv ups hw hl =>
    have hU := layG_updateBest hL o
    split <;> exact layG_stage hU hw rfl rfl rfl (.inl rfl) (Nat.zero_le _) (.inl rfl)
  | readLbX s e i m hw hl => exact layG_stage hL hw rfl rfl rfl (.inl rfl) (Nat.le_refl _) (.inl rfl)
  | enqueue s e i m lb o cv ups hw hl =>
    have hcs : ∀ c ∈ o.cutset, c.depth ≤ n := hD.cut _ (List.mem_of_getElem? hw) m lb o cv ups rfl
    obtain ⟨g0, g2, g3⟩ := enqueue_len n dedup o.cutset hcs _ hL.openLen
    have hz : ∀ d, gwD (s.ws.set i (.fin m)) d = 0 := fun d => by
      show cntF _ _ _ = 0
      rw [cntF_set_same KW.gwNode hw (a := .fin m) rfl]
      exact gwD_lockFree hl d
    refine ⟨handK_set (c' := s.crit.enqueue dedup o.cutset) hH hw rfl (by intro e; cases e) (fun e => by cases e)
        (fun e => by cases e) rfl rfl rfl,
      logK_set hG hG.cacheLen hG.logHead (Nat.le_refl _) (Nat.zero_le _), g0, g2.trans hL.noPanic, fun ha => ?_,
      fun ha => mem_set_elim (hL.noPop (g3 ▸ ha)) (noPop_of rfl)⟩
    have hO := hL.opn (g3 ▸ ha)
    obtain ⟨g1, _⟩ := enqueue_layers n dedup o.cutset hcs _
      ⟨hO.openLen, fun d hd' => by rw [hO.openCnt d hd', gwD_lockFree hl d]; rfl⟩
    exact ⟨g0, fun d hd' => by rw [hz d]; exact g1.2 d hd', g2.trans hL.noPanic, ha⟩
  | abortR s e i m lb k0 top hw hl htop
  | abortX s e i m lb k0 top hw hl htop => exact layG_abort hL hw rfl hl top
  | notify s e i m c' hw hl hi hn => exact layG_notify hL hD hw hn rfl rfl rfl rfl
  | notifyExit s e i m c' hw hl hi hn => exact layG_notify hL hD hw hn rfl rfl rfl rfl
  | crash s e i w hw hp => exact absurd hp (no_panicsG hL hD hw)

/-- **every step of every worker of the system without cut-off preserves `LayInvK`**: it is a step of the system with cut-off
    taken while the flag is down, and it leaves the flag down -/
theorem kstep_layInvK {nbVars : Nat} {dedup : Bool} {okR okX : SubP S → Int → Cache S → DDOut S → List (Up S) → Prop}
    {s t : KSys S} (h : KStep nbVars dedup okR okX s t) (hL : LayInvK nbVars s) (hD : DepthOk nbVars s) :
    LayInvK nbVars t := by
  refine (kstepC_layG (s := ⟨s, []⟩) (t := ⟨t, []⟩) (h.toC hL.opn.noAbort [] (fun _ hi => nomatch hi))
    (layG_of_lay hL) hD).lay ?_
  rcases h.abort_eq with ⟨e, _⟩ | ⟨_, _, e⟩
  · exact e.trans hL.opn.noAbort
  · rw [e]; exact hL.opn.noAbort

/-- what is left of the invariant once the flag is up: the `ongoing` side (`HandK`), the cache shape and the log (`LogK`; `cache.clear()`
    keeps the `nbVars + 1` layers), the length of `open_by_layer` (so that the `open_by_layer[depth] += …` of an `enqueue_cutset` that
    happens after the abort is in range), and `noPop`: no worker is in the pop loop.  It is `LayG` read with the flag up. -/
structure LayC (n : Nat) (s : KSys S) : Prop where
  hand : HandK n s.crit s.ws
  lg : LogK n s.cache s.log s.ws
  openLen : s.crit.base.openByLayer.length = n + 1
  noPanic : s.crit.base.crashed = false
  noPop : ∀ w ∈ s.ws, w ≠ KW.gwP ∧ ∀ m, w ≠ KW.gwW m

theorem gwC_of_inGw {w : KW S} (hin : w.inGw = true) (hp : w ≠ KW.gwP ∧ ∀ m, w ≠ KW.gwW m) : w = KW.gwC := by
  cases w with
  | gwC => rfl
  | gwP => exact absurd rfl hp.1
  | gwW m => exact absurd rfl (hp.2 m)
  | _ => cases hin

theorem layG_of_layC {n : Nat} {s : KSys S} (h : LayC n s) (ha : s.crit.base.abort = true) : LayG n s :=
  ⟨h.hand, h.lg, h.openLen, h.noPanic, fun hf => absurd (hf.symm.trans ha) (by decide), fun _ => h.noPop⟩

theorem LayG.layC {n : Nat} {s : KSys S} (h : LayG n s) (ha : s.crit.base.abort = true) : LayC n s :=
  ⟨h.hand, h.lg, h.openLen, h.noPanic, h.noPop ha⟩

theorem layC_noPanic {n : Nat} {s : KSys S} (hL : LayC n s) : NoPanic s := ⟨hL.hand.noCrash, hL.noPanic⟩

theorem no_panicsC {n : Nat} {s : KSys S} {i : Nat} {w : KW S} (hL : LayC n s) (hD : DepthOk n s)
    (hw : s.ws[i]? = some w) : ¬ Panics n s i w :=
  no_panics_hand hL.hand hL.lg hD hw (hL.noPop _ (List.mem_of_getElem? hw))

theorem kstepC_layC {n : Nat} {dedup : Bool} {okR okX : SubP S → Int → Cache S → DDOut S → List (Up S) → Prop}
    {s t : KSysC S} (h : KStepC n dedup okR okX s t) (hL : LayC n s.k) (hD : DepthOk n s.k)
    (ha' : s.k.crit.base.abort = true) : LayC n t.k :=
  (kstepC_layG h (layG_of_layC hL ha') hD).layC (h.flag_stays ha')

theorem init_layInvK (P : Problem S) (dedup : Bool) (U : Nat) : LayInvK P.nbVars (KSys.init P dedup U) := by
  have hidle : ∀ w ∈ List.replicate U (KW.idle : KW S), w = .idle := fun w hw => List.eq_of_mem_replicate hw
  have hcp : ∀ p : KW S → Bool, p .idle = false → (List.replicate U (KW.idle : KW S)).countP p = 0 := by
    intro p hp
    rw [List.countP_replicate, hp]; rfl
  have hz : ∀ (f : KW S → Option (SubP S)), f .idle = none → ∀ d, cntF f (List.replicate U (KW.idle : KW S)) d = 0 :=
    fun f hf d => cntF_zero f (fun w hw => by rw [hidle w hw]; exact hf) d
  have hzg : ∀ d, gwD (List.replicate U (KW.idle : KW S)) d = 0 := hz KW.gwNode rfl
  have hzh : ∀ d, handD (List.replicate U (KW.idle : KW S)) d = 0 := hz KW.node rfl
  obtain ⟨h1, h2⟩ := init_layers P dedup
  refine ⟨⟨h1.1, fun d hd' => ?_, h2, ?_⟩,
    ⟨by simp [KSys.init, ParCrit.init], fun d hd' => ?_, ?_, by simp [KSys.init, ParCrit.init],
      (fun w hw => by rw [hidle w hw]; intro e; cases e), (fun hm => by cases hidle _ hm), ?_⟩,
    ⟨by simp [KSys.init, Cache.init], rfl, (fun w hw => by rw [hidle w hw]; exact Nat.zero_le _)⟩⟩
  · show (SeqSt.init P none dedup).openByLayer[d]? = some (cntD (SeqSt.init P none dedup).fringe d +
      gwD (List.replicate U (KW.idle : KW S)) d)
    rw [hzg d]; exact h1.2 d hd'
  · show (SeqSt.init P none dedup).abort = false
    rfl
  · show (List.replicate (P.nbVars + 1) 0)[d]? = some (handD (List.replicate U (KW.idle : KW S)) d)
    rw [List.getElem?_replicate, if_pos (by omega), hzh d]
  · show 0 = (List.replicate U (KW.idle : KW S)).countP KW.holds
    rw [hcp _ rfl]
  · show (List.replicate U (KW.idle : KW S)).countP KW.inGw ≤ 1
    rw [hcp _ rfl]; exact Nat.zero_le _

theorem completes_nothing_open {nbVars : Nat} {s : KSys S} {i : Nat} (hL : LayInvK nbVars s)
    (hc : CompletesAt nbVars s i) : ∀ w ∈ s.ws, w.openNode = none ∧ w.pendVal = none ∧ w.pendCut = [] := by
  obtain ⟨hw, _, ho, _⟩ := hc
  intro w hmem
  have hno : w.holds = false := by
    have h0 : s.ws.countP KW.holds = 0 := by rw [← hL.hand.cnt]; exact ho
    have := List.countP_eq_zero.mp h0 w hmem
    simpa using this
  have hnode : w.node = none := by
    unfold KW.holds at hno
    cases h : w.node with
    | none => rfl
    | some n => rw [h] at hno; cases hno
  obtain ⟨j, hj⟩ := List.mem_iff_getElem?.mp hmem
  have hgw : ∀ n, w ≠ .gwW n := by
    intro n e
    subst e
    have := mutex_index hL.hand.mutex hw rfl hj rfl
    subst this
    rw [hw] at hj
    cases hj
  cases w with
  | gwW n => exact absurd rfl (hgw n)
  | idle | waiting | done | crashed | gwC | gwP | fin _ => exact ⟨rfl, rfl, rfl⟩
  | _ => cases hnode

/-- the current cache is a legitimate virtual cache for a compilation that started no later than now -/
theorem fromLog_cur {cache : Cache S} {log : List (Cache S)} {k0 : Nat} (hh : log.head? = some cache)
    (hk : k0 ≤ log.length) : FromLog cache log (log.length + 1 - k0) := by
  intro st d t hv
  refine ⟨cache, ?_, hv⟩
  cases log with
  | nil => cases hh
  | cons c l =>
    simp only [List.head?_cons, Option.some.injEq] at hh
    subst hh
    obtain ⟨m, hm⟩ : ∃ m, (c :: l).length + 1 - k0 = m + 1 := ⟨(c :: l).length - k0, by omega⟩
    rw [hm, List.take_succ_cons]
    exact List.mem_cons_self

theorem gw_moves {nbVars : Nat} {dedup : Bool} {okR okX : SubP S → Int → Cache S → DDOut S → List (Up S) → Prop}
    {s : KSys S} (hL : LayInvK nbVars s) (hD : DepthOk nbVars s) {j : Nat} {w : KW S} (hw : s.ws[j]? = some w)
    (hin : w.inGw = true) : ∃ t, KStep nbVars dedup okR okX s t := by
  have hmem := List.mem_of_getElem? hw
  cases w with
  | gwC =>
    by_cases hc : cleanCond nbVars s.crit
    · obtain ⟨c', h⟩ := Cache.clearLayer_isSome s.cache s.crit.base.firstActive
        (by rw [hL.lg.cacheLen]; have := hc.1; omega)
      exact ⟨_, .gwClear s j c' hw hc h⟩
    · by_cases hf : s.crit.base.fringe = []
      · by_cases ho : s.crit.ongoing = 0
        · exact ⟨_, .gwComplete s j hw hc ho hf⟩
        · exact ⟨_, .gwWait s j hw hc ho hf⟩
      · exact ⟨_, .gwToPop s j hw hc hf⟩
  | gwP =>
    by_cases hf : s.crit.base.fringe = []
    · exact ⟨_, .gwEmpty s j hw hf⟩
    · obtain ⟨N, rest, hpm⟩ := popMax_some _ hf
      have hpm := popMax_popMax hpm
      have hN := hD.fr N ((mem_of_popMax hpm N).mpr (Or.inl rfl))
      by_cases hub : N.ub ≤ s.crit.base.bestLb
      · exact ⟨_, .gwStarve s j N rest hw hpm hub⟩
      · obtain ⟨b, hb⟩ := mustExplore_def s.cache N.state N.depth N.value (by rw [hL.lg.cacheLen]; omega)
        cases b with
        | true => exact ⟨_, .gwKeep s j N rest hw hpm hub hb⟩
        | false =>
          obtain ⟨c', hc'⟩ := dropOne_defined hL hpm hN
          exact ⟨_, .gwDrop s j N rest c' hw hpm hub hb hc'⟩
  | gwW n =>
    have hN := hD.held _ hmem n (Or.inr rfl)
    obtain ⟨c', hc'⟩ := Cache.update_isSome s.cache n.state n.depth ⟨n.value, true⟩ (by rw [hL.lg.cacheLen]; omega)
    obtain ⟨crit', ht⟩ := take_defined hL hw hN
    exact ⟨_, .gwTake s j n c' crit' hw hc' ht⟩
  | _ => cases hin

/-- as long as somebody has not left, some worker is neither gone nor parked: a parked worker means a node is in some hand -/
theorem exists_active {nbVars : Nat} {s : KSys S} (hH : HandK nbVars s.crit s.ws) (hlive : ¬ AllDone s) :
    ∃ w ∈ s.ws, w ≠ KW.done ∧ w ≠ KW.waiting :=
  exists_active_of KW.holds rfl rfl (fun h => hH.cnt ▸ hH.parked h) hlive

theorem free_moves {nbVars : Nat} {dedup : Bool} {okR okX : SubP S → Int → Cache S → DDOut S → List (Up S) → Prop}
    {s : KSys S} (hH : HandK nbVars s.crit s.ws) (hG : LogK nbVars s.cache s.log s.ws) (hD : DepthOk nbVars s)
    (hR : ∀ n lb cv, ∃ o ups, okR n lb cv o ups) (hX : ∀ n lb cv, ∃ o ups, okX n lb cv o ups)
    (hl : LockFree s) {j : Nat} {w : KW S} (hw : s.ws[j]? = some w) (h1 : w ≠ .done) (h2 : w ≠ .waiting) :
    ∃ t, KStep nbVars dedup okR okX s t := by
  have hmem := List.mem_of_getElem? hw
  cases w with
  | idle => exact ⟨_, .gwEnter s j hw hl⟩
  | waiting => exact absurd rfl h2
  | done => exact absurd rfl h1
  | crashed => exact absurd rfl (hH.noCrash _ hmem)
  | gwC => have := hl _ hmem; cases this
  | gwP => have := hl _ hmem; cases this
  | gwW n => have := hl _ hmem; cases this
  | readR n => exact ⟨_, .readLbR s j n hw hl⟩
  | compR n lb k0 =>
    obtain ⟨o, ups, hok⟩ := hR n lb s.cache
    exact ⟨_, .compileR s j n lb k0 s.cache o ups hw (fromLog_cur hG.logHead (hG.logK _ hmem)) hok⟩
  | wrR n lb o cv ups todo =>
    cases todo with
    | nil => exact ⟨_, .updateR s j n lb o cv ups hw hl⟩
    | cons u todo =>
      have hu := hD.todo _ hmem n lb o cv ups (u :: todo) (Or.inl rfl) u List.mem_cons_self
      obtain ⟨c', hc'⟩ := Cache.update_isSome s.cache u.1 u.2.1 (upThr u) (by rw [hG.cacheLen]; omega)
      exact ⟨_, .writeR s j n lb o cv ups u todo c' hw hc'⟩
  | readX n => exact ⟨_, .readLbX s j n hw hl⟩
  | compX n lb k0 =>
    obtain ⟨o, ups, hok⟩ := hX n lb s.cache
    exact ⟨_, .compileX s j n lb k0 s.cache o ups hw (fromLog_cur hG.logHead (hG.logK _ hmem)) hok⟩
  | wrX n lb o cv ups todo =>
    cases todo with
    | nil => exact ⟨_, .updateX s j n lb o cv ups hw hl⟩
    | cons u todo =>
      have hu := hD.todo _ hmem n lb o cv ups (u :: todo) (Or.inr rfl) u List.mem_cons_self
      obtain ⟨c', hc'⟩ := Cache.update_isSome s.cache u.1 u.2.1 (upThr u) (by rw [hG.cacheLen]; omega)
      exact ⟨_, .writeX s j n lb o cv ups u todo c' hw hc'⟩
  | enq n lb o cv ups => exact ⟨_, .enqueue s j n lb o cv ups hw hl⟩
  | fin n =>
    obtain ⟨c', hc'⟩ := notify_defined hH hw (hD.held _ hmem n (Or.inl rfl))
    exact ⟨_, .notify s j n c' hw hl hc'⟩

/-- **never deadlocks** (no lost wake-up, no panic): as long as some worker has not left its loop and the compilations
    answer, some step other than `crash` is enabled — the state reached satisfies the invariant again, in particular no
    worker is `crashed` there -/
theorem kstep_progress {nbVars : Nat} {dedup : Bool} {okR okX : SubP S → Int → Cache S → DDOut S → List (Up S) → Prop}
    {s : KSys S} (hL : LayInvK nbVars s) (hD : DepthOk nbVars s) (hlive : ¬ AllDone s)
    (hR : ∀ n lb cv, ∃ o ups, okR n lb cv o ups) (hX : ∀ n lb cv, ∃ o ups, okX n lb cv o ups) :
    ∃ t, KStep nbVars dedup okR okX s t ∧ LayInvK nbVars t ∧ (∀ w ∈ t.ws, w ≠ KW.crashed) := by
  have hstep : ∃ t, KStep nbVars dedup okR okX s t := by
    by_cases hlk : s.ws.countP KW.inGw = 0
    · have hl : LockFree s := (lockFree_iff _).mp hlk
      obtain ⟨w, hw, h1, h2⟩ := exists_active hL.hand hlive
      obtain ⟨j, hj⟩ := List.mem_iff_getElem?.mp hw
      exact free_moves hL.hand hL.lg hD hR hX hl hj h1 h2
    · have hpos : 0 < s.ws.countP KW.inGw := by omega
      obtain ⟨w, hw, hin⟩ := List.countP_pos_iff.mp hpos
      obtain ⟨j, hj⟩ := List.mem_iff_getElem?.mp hw
      exact gw_moves hL hD hj hin
  obtain ⟨t, ht⟩ := hstep
  have hLt := kstep_layInvK ht hL hD
  exact ⟨t, ht, hLt, hLt.hand.noCrash⟩

theorem krun_layInvK {nbVars : Nat} {dedup : Bool} {okR okX : SubP S → Int → Cache S → DDOut S → List (Up S) → Prop}
    {s t : KSys S} (h : KRun nbVars dedup okR okX s t) (hL : LayInvK nbVars s)
    (hD : ∀ u, KRun nbVars dedup okR okX s u → DepthOk nbVars u) : LayInvK nbVars t := by
  induction h with
  | refl => exact hL
  | tail hr hst ih => exact kstep_layInvK hst ih (hD _ hr)

end Ddo.ParCache

#print axioms Ddo.ParCache.init_layInvK
#print axioms Ddo.ParCache.kstep_layInvK
#print axioms Ddo.ParCache.kstepC_layC
#print axioms Ddo.ParCache.no_panicsC
#print axioms Ddo.ParCache.no_panics
#print axioms Ddo.ParCache.layInvK_noPanic
#print axioms Ddo.ParCache.completes_nothing_open
#print axioms Ddo.ParCache.kstep_progress
#print axioms Ddo.ParCache.krun_layInvK
