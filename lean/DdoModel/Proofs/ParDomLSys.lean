import DdoModel.Proofs.ParDomProg
/-! # The parallel solver with the shared dominance checker — compilations that interleave LAYER BY LAYER (`LStep`)

* `lrun_inv`: along every run the projection on the workers is a run of `GStep` with the answers `okRL` / `okXL`, the shared store
  holds exactly reached items only, and every diagram in progress is reachable (`lreach_compileL`, `lreach_store`);
* `lstep_progress`: no deadlock, no crashing layer; `lsys_terminates`: termination with the layer steps counted (a layer step leaves
  the projection unchanged and decreases what is left of the compilations, `remSum`). -/
set_option linter.unusedSectionVars false
set_option linter.unusedVariables false
namespace Ddo.ParDom
open Ddo Ddo.Truth Ddo.Closed Ddo.ParSys Ddo.ParClosed Ddo.C10
open Ddo.C01 (SolverCfg WellFormed toOut SolOf)
variable {S K : Type} [DecidableEq S] [DecidableEq K]

/-- the diagrams a compilation of `cfg` can have built so far when each of its layers ran on SOME store of exactly reached items -/
inductive LReach (dv : DSolverCfg S K) (cfg : Cfg S K) : DD S K → Prop
  | init : LReach dv cfg (ddOf dv cfg none)
  | step (dd dd' : DD S K) (st : DomStore S K) (var : Nat) : LReach dv cfg dd →
      StoreReach dv.D dv.sv.P st → st.layers.length = dv.sv.P.nbVars + 1 →
      cfg.P.nextVar dd.depth (dd.next.map (·.state)) = some var →
      stepLayer cfg (tick (withStore dd st) var) var = (some dd', .ok) → LReach dv cfg dd'

/-- the store field of the diagram the loop starts from is never read -/
theorem buildLoopL_withStore (cfg : Cfg S K) (σ : Nat → DomStore S K) (fuel : Nat) (dd : DD S K) (x : DomStore S K) :
    (buildLoopL cfg σ fuel (withStore dd x)).2 = (buildLoopL cfg σ fuel dd).2 ∧
    resultOf cfg (buildLoopL cfg σ fuel (withStore dd x)).1 = resultOf cfg (buildLoopL cfg σ fuel dd).1 := by
  cases fuel with
  | zero => exact ⟨rfl, resultOf_withStore cfg dd x⟩
  | succ fuel =>
    cases hnv : cfg.P.nextVar dd.depth (dd.next.map (·.state)) with
    | none =>
      rw [buildLoopL_none cfg σ fuel dd hnv, buildLoopL_none cfg σ fuel (withStore dd x) hnv]
      exact ⟨rfl, resultOf_withStore cfg { dd with log := Call.nextVar dd.depth (dd.next.map (·.state)) none :: dd.log } x⟩
    | some var =>
      rw [buildLoopL_some cfg σ fuel dd var hnv, buildLoopL_some cfg σ fuel (withStore dd x) var hnv]
      have e : stepLayer cfg (tick (withStore (withStore dd x) (σ (withStore dd x).depth)) var) var =
          stepLayer cfg (tick (withStore dd (σ dd.depth)) var) var := rfl
      rw [e]
      cases stepLayer cfg (tick (withStore dd (σ dd.depth)) var) var with
      | mk o oc =>
        cases o with
        | none => exact ⟨rfl, resultOf_withStore cfg (tick dd var) x⟩
        | some a => cases oc <;> exact ⟨rfl, rfl⟩

/-- the loop from the initial diagram is at `dd` after `dd.layers.length` rounds, whatever stores the layers from `dd.depth` on
    will see -/
def SimFrom (dv : DSolverCfg S K) (cfg : Cfg S K) (dd : DD S K) : Prop :=
  ∃ σ : Nat → DomStore S K, GoodStores dv σ ∧ ∀ σ' : Nat → DomStore S K, (∀ d, d < dd.depth → σ' d = σ d) → ∀ fuel : Nat,
    buildLoopL cfg σ' (dd.layers.length + fuel) (ddOf dv cfg none) = buildLoopL cfg σ' fuel dd

structure LI (dv : DSolverCfg S K) (cfg : Cfg S K) (B : Int) (p0 : List Dec) (dd : DD S K) : Prop where
  minv : MInv cfg B p0 dd
  depth : dd.depth = cfg.root.depth + dd.layers.length
  len : dd.layers.length ≤ cfg.P.nbVars + 1
  sim : SimFrom dv cfg dd

theorem lreach_li (dv : DSolverCfg S K) (cfg : Cfg S K) (B : Int) (p0 : List Dec)
    (hB : NoClamp cfg.P cfg.R cfg.root.value B) (hroot : Reach cfg.P cfg.root.depth cfg.root.state cfg.root.value p0)
    (hNV : NvBound cfg.P) {dd : DD S K} (h : LReach dv cfg dd) : LI dv cfg B p0 dd := by
  induction h with
  | init =>
    refine ⟨initDD_inv cfg B p0 hB hroot _ _ _, rfl, Nat.zero_le _, fun _ => DomStore.init dv.sv.P.nbVars,
      goodStores_const dv, fun σ' _ fuel => ?_⟩
    show buildLoopL cfg σ' (0 + fuel) _ = _
    rw [Nat.zero_add]
  | step dd dd' st var hr hst hlen hnv hs ih =>
    obtain ⟨hM, hdep, hl, σ, hσ, hsim⟩ := ih
    have hlt : dd.depth < cfg.P.nbVars := nv_depth_lt hNV hnv
    obtain ⟨m1, m2, _⟩ := Ddo.stepLayer_inv cfg B p0 hB (tick (withStore dd st) var) var (hM.congr rfl rfl) hdep hnv hl
      dd' .ok hs
    obtain ⟨m2a, m2b⟩ := m2 rfl
    have m2b' : dd'.layers.length = dd.layers.length + 1 := m2b
    have hd' : dd'.depth = dd.depth + 1 := by rw [m2a, m2b', hdep]; rfl
    have hl' : dd'.layers.length ≤ cfg.P.nbVars + 1 :=
      m2b' ▸ Nat.succ_le_succ (Nat.le_of_lt (Nat.lt_of_le_of_lt (hdep ▸ Nat.le_add_left _ _) hlt))
    refine ⟨m1, m2a, hl', fun d => if d = dd.depth then st else σ d, goodStores_upd hσ _ hst hlen, ?_⟩
    intro σ' hag fuel
    have h1 := hsim σ' (fun d hd => (hag d (hd' ▸ Nat.lt_succ_of_lt hd)).trans (if_neg (Nat.ne_of_lt hd))) (fuel + 1)
    have h2 : σ' dd.depth = st := (hag dd.depth (hd' ▸ Nat.lt_succ_self _)).trans (if_pos rfl)
    rw [buildLoopL_ok cfg σ' fuel dd dd' var hnv (by rw [h2]; exact hs)] at h1
    rw [m2b', Nat.add_assoc, Nat.add_comm 1]
    exact h1

/-- a reachable diagram is where the loop of `compileL` stands after some rounds, for stores of exactly reached items of which
    the one the next layer sees (`st`) is arbitrary -/
theorem lreach_compileL {dv : DSolverCfg S K} {H : Nat → S → EInt} {B0 B : Int} (hwf : WellFormed dv.sv H B0 B)
    (ct : CompType) {N : SubP S} (hn : C01.NodeOk dv.sv.P N) (lb : Int) {dd : DD S K} {st : DomStore S K}
    (hr : LReach dv (dv.cfg ct N lb) dd) (hst : StoreReach dv.D dv.sv.P st) (hlen : st.layers.length = dv.sv.P.nbVars + 1) :
    ∃ (σ : Nat → DomStore S K) (k : Nat), GoodStores dv σ ∧ σ dd.depth = st ∧
      (compileL (dv.cfg ct N lb) (Cache.init dv.sv.P.nbVars) σ 0).1 = (buildLoopL (dv.cfg ct N lb) σ (k + 1) dd).2 ∧
      (compileL (dv.cfg ct N lb) (Cache.init dv.sv.P.nbVars) σ 0).2.1 =
        resultOf (dv.cfg ct N lb) (buildLoopL (dv.cfg ct N lb) σ (k + 1) dd).1 := by
  obtain ⟨p0, hroot, _⟩ := hn
  have hB : NoClamp dv.sv.P dv.sv.R N.value B := hwf.bound.noClamp_at hwf.nv hroot
  obtain ⟨_, _, hl, σ, hσ, hsim⟩ := lreach_li dv (dv.cfg ct N lb) B p0 hB hroot hwf.nv hr
  obtain ⟨k, hk⟩ := fuel_left (N := dv.sv.P.nbVars) hl
  obtain ⟨σ', hσ'⟩ : ∃ σ' : Nat → DomStore S K, σ' = fun d => if d = dd.depth then st else σ d := ⟨_, rfl⟩
  have h1 := hsim σ' (fun d hd => by rw [hσ']; exact if_neg (Nat.ne_of_lt hd)) (k + 1)
  rw [hk] at h1
  -- the store field of the initial diagram is never read
  have h2 := buildLoopL_withStore (dv.cfg ct N lb) σ' (dv.sv.P.nbVars + 2) (ddOf dv (dv.cfg ct N lb) none)
    (σ' (dv.cfg ct N lb).root.depth)
  rw [h1] at h2
  exact ⟨σ', k, hσ' ▸ goodStores_upd hσ _ hst hlen, by rw [hσ']; exact if_pos rfl, h2.1, h2.2⟩

theorem lreach_store {dv : DSolverCfg S K} {H : Nat → S → EInt} {B0 B : Int} (hwf : WellFormed dv.sv H B0 B)
    (ct : CompType) {N : SubP S} (hn : C01.NodeOk dv.sv.P N) (lb : Int) {dd dd' : DD S K} {st : DomStore S K} {var : Nat}
    (hr : LReach dv (dv.cfg ct N lb) dd) (hst : StoreReach dv.D dv.sv.P st) (hlen : st.layers.length = dv.sv.P.nbVars + 1)
    (hnv : (dv.cfg ct N lb).P.nextVar dd.depth (dd.next.map (·.state)) = some var)
    (hs : stepLayer (dv.cfg ct N lb) (tick (withStore dd st) var) var = (some dd', .ok)) :
    StoreReach dv.D dv.sv.P dd'.store ∧ dd'.store.layers.length = dv.sv.P.nbVars + 1 ∧
      dd'.layers.length = dd.layers.length + 1 ∧ dd.layers.length ≤ dv.sv.P.nbVars + 1 := by
  obtain ⟨p0, hroot, _⟩ := hn
  have hB : NoClamp dv.sv.P dv.sv.R N.value B := hwf.bound.noClamp_at hwf.nv hroot
  obtain ⟨hM, hdep, hl, _⟩ := lreach_li dv (dv.cfg ct N lb) B p0 hB hroot hwf.nv hr
  have hM' : MInv (dv.cfg ct N lb) B p0 (tick (withStore dd st) var) := hM.congr rfl rfl
  obtain ⟨h1, h2⟩ := stepLayer_sinv (dv.cfg ct N lb) dv.D rfl rfl hwf.nv B p0 (tick (withStore dd st) var) dd' var .ok
    ⟨hst, hlen⟩ hM' hdep hnv hs
  obtain ⟨_, m2, _⟩ := Ddo.stepLayer_inv (dv.cfg ct N lb) B p0 hB (tick (withStore dd st) var) var hM' hdep hnv hl dd' .ok hs
  exact ⟨h1, h2, (m2 rfl).2, hl⟩

theorem lfinish_gstep {dv : DSolverCfg S K} {H : Nat → S → EInt} {B0 B opt : Int} {Prot : Nat → S → Int → Prop}
    (hwf : WellFormed dv.sv H B0 B) {s : LSys S K} (hI : GAll dv H (okRL dv) (okXL dv) B opt Prot s.sys)
    (hs : StoreReach dv.D dv.sv.P s.store) (hl : s.store.layers.length = dv.sv.P.nbVars + 1)
    {i : Nat} {w : WSt S} {cfg : Cfg S K} {pr : Option (DD S K)} {fin : DD S K}
    (hw : s.sys.ws[i]? = some w) (hc : cfgOf dv w = some cfg) (hr : LReach dv cfg (ddOf dv cfg pr))
    (hfin : LoopEnd cfg s.store (ddOf dv cfg pr) fin) :
    GStep dv.sv.dedup (okRL dv) (okXL dv) s.sys
      { crit := s.sys.crit, ws := s.sys.ws.set i (afterComp (toOut (resultOf cfg fin)) w) } := by
  refine comp_gstep hI hw hc (fun ct n lb e hn => ?_)
  subst e
  obtain ⟨σ, k, hσ, e, h1, h2⟩ := lreach_compileL hwf ct hn lb hr hs hl
  have hfin' : buildLoopL (dv.cfg ct n lb) σ (k + 1) (ddOf dv (dv.cfg ct n lb) pr) = (fin, .ok) := by
    rcases hfin with ⟨hnv, rfl⟩ | ⟨var, hnv, hst⟩
    · exact buildLoopL_none _ _ _ _ hnv
    · exact buildLoopL_cutoff _ _ _ _ _ var hnv (by rw [e]; exact hst)
  rw [hfin'] at h1 h2
  exact ⟨fun e => by subst e; exact ⟨σ, hσ, h1, by rw [h2]⟩, fun e => by subst e; exact ⟨σ, hσ, h1, by rw [h2]⟩⟩

theorem lreach_of {dv : DSolverCfg S K} {ws : List (WSt S)} {prog : List (Option (DD S K))} (hP : PInv dv (LReach dv) ws prog)
    {i : Nat} {w : WSt S} {cfg : Cfg S K} {pr : Option (DD S K)} (hw : ws[i]? = some w) (hc : cfgOf dv w = some cfg)
    (hp : prog[i]? = some pr) : LReach dv cfg (ddOf dv cfg pr) := by
  cases pr with
  | none => exact LReach.init
  | some dd => exact hP.reach i w _ dd hw hc hp

/-- along every run of the layer-interleaved system from its initial state: the projection reaches `t.sys` by a run
    of `GStep` with the answers `okRL`/`okXL` (layer steps are stuttering steps), the shared store holds exactly reached items
    only, and every diagram in progress is reachable -/
theorem lrun_inv {dv : DSolverCfg S K} {H : Nat → S → EInt} {B0 B opt : Int} {Prot : Nat → S → Int → Prop}
    (hwf : WellFormed dv.sv H B0 B) (hopt : (H 0 dv.sv.P.init).addI dv.sv.P.initVal = some opt)
    (hPr : Protected dv.D dv.sv.P H opt Prot) (U : Nat) {t : LSys S K} (h : LRun dv (LSys.init dv U) t) :
    GRun dv.sv.dedup (okRL dv) (okXL dv) (Sys.init dv.sv.P none dv.sv.dedup U) t.sys ∧
    StoreReach dv.D dv.sv.P t.store ∧ t.store.layers.length = dv.sv.P.nbVars + 1 ∧
    PInv dv (LReach dv) t.sys.ws t.prog := by
  induction h with
  | refl => exact ⟨GRun.refl _, storeReach_init dv.D dv.sv.P _, by simp [LSys.init, DomStore.init], PInv.init U⟩
  | @tail s0 _ _ hstep ih =>
    obtain ⟨hrun, hs, hl, hP⟩ := ih
    have hI := grun_gall hwf hopt hPr (ansOk_L hwf hopt hPr) hrun
    cases hstep with
    | sec t' h hna =>
      exact ⟨GRun.tail hrun ⟨step_mono h (fun _ _ _ _ _ hf => hf.elim) (fun _ _ _ _ _ hf => hf.elim), hna⟩, hs, hl,
        hP.sec h hna⟩
    | layer i w cfg pr var dd' hw hc hp hnv hst =>
      have hr := lreach_of hP hw hc hp
      obtain ⟨ct, n, lb, rfl, hn⟩ := cfgOf_nodeOk hI.pc hw hc
      obtain ⟨s1, s2, _⟩ := lreach_store hwf ct hn lb hr hs hl hnv hst
      exact ⟨hrun, s1, s2, hP.set hw hc hp (LReach.step _ _ _ var hr hs hl hnv hst)⟩
    | finish i w cfg pr fin hw hc hp hfin =>
      exact ⟨GRun.tail hrun (lfinish_gstep hwf hI hs hl hw hc (lreach_of hP hw hc hp) hfin), hs, hl, hP.finish hw hp _⟩

/-- **no deadlock, no crash at layer granularity**: in every reachable state of the layer-interleaved system in which some worker
    has not left, some step is enabled -/
theorem lstep_progress {dv : DSolverCfg S K} {H : Nat → S → EInt} {B0 B opt : Int} {Prot : Nat → S → Int → Prop}
    (hwf : WellFormed dv.sv H B0 B) (hopt : (H 0 dv.sv.P.init).addI dv.sv.P.initVal = some opt)
    (hPr : Protected dv.D dv.sv.P H opt Prot) (U : Nat) {t : LSys S K} (ht : LRun dv (LSys.init dv U) t)
    (hlive : ¬ AllDone t.sys) : ∃ u, LStep dv t u := by
  obtain ⟨hrun, hs, hl, hP⟩ := lrun_inv hwf hopt hPr U ht
  have hI := grun_gall hwf hopt hPr (ansOk_L hwf hopt hPr) hrun
  by_cases hex : ∃ (i : Nat) (w : WSt S) (cfg : Cfg S K), t.sys.ws[i]? = some w ∧ cfgOf dv w = some cfg
  · obtain ⟨i, w, cfg, hw, hc⟩ := hex
    obtain ⟨ct, n, lb, rfl, hn⟩ := cfgOf_nodeOk hI.pc hw hc
    have hilt : i < t.prog.length := by rw [hP.len]; exact (List.getElem?_eq_some_iff.1 hw).1
    obtain ⟨pr, hp⟩ : ∃ pr, t.prog[i]? = some pr := ⟨t.prog[i], List.getElem?_eq_getElem hilt⟩
    have hr := lreach_of hP hw hc hp
    cases hnv : (dv.cfg ct n lb).P.nextVar (ddOf dv (dv.cfg ct n lb) pr).depth
        ((ddOf dv (dv.cfg ct n lb) pr).next.map (·.state)) with
    | none => exact ⟨_, LStep.finish t i w _ pr _ hw hc hp (Or.inl ⟨hnv, rfl⟩)⟩
    | some var =>
      -- the layer neither fails nor crashes: it is the next layer of a `compileL` run
      obtain ⟨σ, k, hσ, e, h1, _⟩ := lreach_compileL hwf ct hn lb hr hs hl
      have h0 := compileL_no_crash hwf ct hn lb hσ
      rw [h1, buildLoopL_some _ _ k _ var hnv, e] at h0
      cases hsl : stepLayer (dv.cfg ct n lb) (tick (withStore (ddOf dv (dv.cfg ct n lb) pr) t.store) var) var with
      | mk o oc =>
        rw [hsl] at h0
        cases o with
        | none => cases h0
        | some dd' =>
          cases oc with
          | crash => cases h0
          | ok => exact ⟨_, LStep.layer t i w _ pr var dd' hw hc hp hnv hsl⟩
          | cutoff => exact ⟨_, LStep.finish t i w _ pr dd' hw hc hp (Or.inr ⟨var, hnv, hsl⟩)⟩
  · obtain ⟨s', hstep, hna⟩ := gstep_progress hwf (ansOk_L hwf hopt hPr).answersR (ansOk_L hwf hopt hPr).answersX hI.pc hI.lay hI.noCut hlive
    have hstep' : Step dv.sv.dedup (fun _ _ _ => False) (fun _ _ _ => False) t.sys s' :=
      step_mono hstep (fun i n lb o hw _ => hex ⟨i, _, _, hw, rfl⟩) (fun i n lb o hw _ => hex ⟨i, _, _, hw, rfl⟩)
    exact ⟨_, LStep.sec t s' hstep' hna⟩

/-- what is left of the compilation of a worker (`N = nb_variables`) -/
def remL (N : Nat) : Option (DD S K) → Nat
  | none => N + 3
  | some dd => N + 2 - dd.layers.length

def remSum (N : Nat) (l : List (Option (DD S K))) : Nat := (l.map (remL N)).sum

theorem remSum_set_lt (N : Nat) (l : List (Option (DD S K))) (i : Nat) (a b : Option (DD S K)) (h : l[i]? = some a)
    (hlt : remL N b < remL N a) : remSum N (l.set i b) < remSum N l := by
  have := ParSys.sum_set (remL N) b h
  unfold remSum
  omega

/-- a step of the layer-interleaved system from a reachable state is a `GStep` of the projection, or it leaves the projection
    unchanged and decreases the measure -/
theorem lstep_dec {dv : DSolverCfg S K} {H : Nat → S → EInt} {B0 B opt : Int} {Prot : Nat → S → Int → Prop}
    (hwf : WellFormed dv.sv H B0 B) (hopt : (H 0 dv.sv.P.init).addI dv.sv.P.initVal = some opt)
    (hPr : Protected dv.D dv.sv.P H opt Prot) (U : Nat) {t u : LSys S K} (ht : LRun dv (LSys.init dv U) t)
    (hstep : LStep dv t u) :
    GStep dv.sv.dedup (okRL dv) (okXL dv) t.sys u.sys ∨
      (u.sys = t.sys ∧ remSum dv.sv.P.nbVars u.prog < remSum dv.sv.P.nbVars t.prog) := by
  obtain ⟨hrun, hs, hl, hP⟩ := lrun_inv hwf hopt hPr U ht
  have hI := grun_gall hwf hopt hPr (ansOk_L hwf hopt hPr) hrun
  cases hstep with
  | sec t' h hna =>
    exact Or.inl ⟨step_mono h (fun _ _ _ _ _ hf => hf.elim) (fun _ _ _ _ _ hf => hf.elim), hna⟩
  | layer i w cfg pr var dd' hw hc hp hnv hst =>
    refine Or.inr ⟨rfl, remSum_set_lt _ _ i pr (some dd') hp ?_⟩
    obtain ⟨ct, n, lb, rfl, hn⟩ := cfgOf_nodeOk hI.pc hw hc
    obtain ⟨_, _, hlen', hle⟩ := lreach_store hwf ct hn lb (lreach_of hP hw hc hp) hs hl hnv hst
    cases pr with
    | none => exact Nat.lt_succ_of_le (Nat.sub_le _ _)
    | some dd => exact Nat.sub_lt_sub_left (Nat.lt_succ_of_le hle) (hlen' ▸ Nat.lt_succ_self _)
  | finish i w cfg pr fin hw hc hp hfin =>
    exact Or.inl (lfinish_gstep hwf hI hs hl hw hc (lreach_of hP hw hc hp) hfin)

/-- **termination at layer granularity**: the step relation of the layer-interleaved system is well-founded on the reachable states -/
theorem lsys_terminates {dv : DSolverCfg S K} {H : Nat → S → EInt} {B0 B opt : Int} {Prot : Nat → S → Int → Prop}
    (hwf : WellFormed dv.sv H B0 B) (hopt : (H 0 dv.sv.P.init).addI dv.sv.P.initVal = some opt)
    (hPr : Protected dv.D dv.sv.P H opt Prot) (U : Nat) :
    WellFounded (fun u t : LSys S K => LRun dv (LSys.init dv U) t ∧ LStep dv t u) := by
  have hG := gpar_terminates hwf hopt hPr (ansOk_L hwf hopt hPr) U
  have hlex := (Prod.lex (⟨_, hG⟩ : WellFoundedRelation (Sys S)) (⟨_, Nat.lt_wfRel.wf⟩ : WellFoundedRelation Nat)).wf
  refine Subrelation.wf (r := InvImage _ (fun t : LSys S K => (t.sys, remSum dv.sv.P.nbVars t.prog))) ?_
    (InvImage.wf _ hlex)
  intro u t ⟨ht, hstep⟩
  obtain ⟨hrun, _⟩ := lrun_inv hwf hopt hPr U ht
  rcases lstep_dec hwf hopt hPr U ht hstep with hg | ⟨he, hlt⟩
  · exact Prod.Lex.left _ _ ⟨hrun, hg⟩
  · show Prod.Lex _ _ (u.sys, _) (t.sys, _)
    rw [he]
    exact Prod.Lex.right _ hlt

end Ddo.ParDom
