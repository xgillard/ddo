import DdoModel.Proofs.SolverCfg
/-! A family of tiny **well-formed** models, for the non-vacuity instance `Revisit` of `Props/C09cWitness.lean`.

`TwoState`: `n` binary variables in static order; the state is the last decision (`0` initially), the cost of a decision is
read in a table `c var (state = 1) (decision = 1)`; the relaxation merges to state `1` whenever it is present (`merge`),
leaves the costs alone, and has a constant rough upper bound.  The value-to-go `hfrom` is the dynamic program over the
table.  The model is `WellFormed` (`Proofs/SolverCfg.lean`) as soon as state `1` dominates state `0` cost-wise (`Dom`: then its
value-to-go dominates too, which is what `MergeOk` needs), the rough upper bound dominates the value-to-go (`RubDom`) and
the costs are bounded.  All three conditions are decidable for a table given as a list (`ofList`). -/
set_option linter.unusedSectionVars false
set_option linter.unusedVariables false
namespace Ddo.C09.TwoState
open Ddo Ddo.C01 Ddo.Closed

structure Tab where
  n : Nat
  /-- `c var (state = 1) (decision = 1)` -/
  c : Nat → Bool → Bool → Int
  rub : Int

def prob (T : Tab) : Problem Int :=
  { nbVars := T.n, init := 0, initVal := 0,
    trans := fun _ d => if d.val = 1 then 1 else 0,
    cost := fun s _ d => T.c d.var (decide (s = 1)) (decide (d.val = 1)),
    nextVar := fun k _ => if k < T.n then some k else none,
    domain := fun _ _ => [0, 1],
    impacted := fun _ _ => true }

def rlx (T : Tab) : Relax Int :=
  { merge := fun X => if (1 : Int) ∈ X then 1 else 0, relax := fun _ _ _ _ c => c, rub := fun _ => T.rub }

def sv (T : Tab) (w : Nat) (dedup : Bool) (kind : CutsetKind) : SolverCfg Int :=
  { P := prob T, R := rlx T, rank := ⟨fun a b => icmp a b⟩, width := fun _ => w, kind := kind, dedup := dedup }

/-- value-to-go with `j` variables left, from state `1` (`true`) / another state (`false`) -/
def hfrom (T : Tab) : Nat → Bool → Int
  | 0, _ => 0
  | j + 1, b => max (T.c (T.n - (j + 1)) b false + hfrom T j false) (T.c (T.n - (j + 1)) b true + hfrom T j true)

def H (T : Tab) (k : Nat) (s : Int) : EInt := some (hfrom T (T.n - k) (decide (s = 1)))

def Dom (T : Tab) : Prop := ∀ k d, T.c k false d ≤ T.c k true d
def RubDom (T : Tab) : Prop := ∀ j b, j ≤ T.n → hfrom T j b ≤ T.rub

theorem nv_some {T : Tab} {k : Nat} {L : List Int} {x : Nat} (h : (prob T).nextVar k L = some x) : k < T.n ∧ x = k := by
  simp only [prob] at h
  split at h
  · next hk => cases h; exact ⟨hk, rfl⟩
  · cases h

theorem hfrom_step (T : Tab) (k : Nat) (hk : k < T.n) (b : Bool) :
    hfrom T (T.n - k) b = max (T.c k b false + hfrom T (T.n - (k + 1)) false) (T.c k b true + hfrom T (T.n - (k + 1)) true) := by
  have e : T.n - k = (T.n - (k + 1)) + 1 := (Nat.succ_pred_eq_of_pos (Nat.sub_pos_of_lt hk)).symm
  rw [e, hfrom, ← e, Nat.sub_sub_self (Nat.le_of_lt hk)]

theorem trans_one (T : Tab) (s : Int) (k : Nat) : (prob T).trans s ⟨k, 1⟩ = 1 := by simp [prob]
theorem trans_zero (T : Tab) (s : Int) (k : Nat) : (prob T).trans s ⟨k, 0⟩ = 0 := by simp [prob]
theorem cost_one (T : Tab) (s s' : Int) (k : Nat) : (prob T).cost s s' ⟨k, 1⟩ = T.c k (decide (s = 1)) true := by
  simp [prob]
theorem cost_zero (T : Tab) (s s' : Int) (k : Nat) : (prob T).cost s s' ⟨k, 0⟩ = T.c k (decide (s = 1)) false := by
  simp [prob]
theorem H_one (T : Tab) (k : Nat) : H T k 1 = some (hfrom T (T.n - k) true) := by simp [H]
theorem H_zero (T : Tab) (k : Nat) : H T k 0 = some (hfrom T (T.n - k) false) := by simp [H]

theorem potential (T : Tab) : Potential (prob T) (H T) := by
  constructor
  · intro k L x s h hnv _ hH
    obtain ⟨hk, hx⟩ := nv_some hnv; subst x
    simp only [H, Option.some.injEq] at hH
    rw [hfrom_step T k hk] at hH
    by_cases hc : T.c k (decide (s = 1)) false + hfrom T (T.n - (k + 1)) false ≤
        T.c k (decide (s = 1)) true + hfrom T (T.n - (k + 1)) true
    · refine ⟨1, by simp [prob], hfrom T (T.n - (k + 1)) true, by rw [trans_one, H_one], ?_⟩
      rw [trans_one, cost_one, ← hH, Int.max_eq_right hc]
      exact Int.le_refl _
    · refine ⟨0, by simp [prob], hfrom T (T.n - (k + 1)) false, by rw [trans_zero, H_zero], ?_⟩
      rw [trans_zero, cost_zero, ← hH, Int.max_eq_left (Int.le_of_lt (Int.not_le.mp hc))]
      exact Int.le_refl _
  · intro k L x s v p d _ hnv _ hd
    obtain ⟨hk, hx⟩ := nv_some hnv; subst x
    have hd' : d = 0 ∨ d = 1 := by simpa [prob] using hd
    have hs : H T k s = some (hfrom T (T.n - k) (decide (s = 1))) := rfl
    rw [hs, hfrom_step T k hk]
    rcases hd' with rfl | rfl
    · rw [trans_zero, cost_zero, H_zero]
      simp only [EInt.addI, Option.map_some, EInt.some_le_some]
      rw [Int.add_comm]
      exact Int.le_max_left _ _
    · rw [trans_one, cost_one, H_one]
      simp only [EInt.addI, Option.map_some, EInt.some_le_some]
      rw [Int.add_comm]
      exact Int.le_max_right _ _
  · intro k L s hnv _
    simp only [prob] at hnv
    split at hnv
    · cases hnv
    · next hk =>
      have : T.n - k = 0 := by omega
      simp only [H, this, hfrom]

theorem hfrom_mono (T : Tab) (hD : Dom T) : ∀ j, hfrom T j false ≤ hfrom T j true := by
  intro j
  cases j with
  | zero => exact Int.le_refl _
  | succ j =>
    simp only [hfrom]
    exact Int.max_le.mpr ⟨Int.le_trans (Int.add_le_add_right (hD _ false) _) (Int.le_max_left _ _),
      Int.le_trans (Int.add_le_add_right (hD _ true) _) (Int.le_max_right _ _)⟩

theorem mergeOk (T : Tab) (hD : Dom T) : MergeOk (rlx T) (H T) := by
  intro k X u src d c h hu hH
  simp only [H, Option.some.injEq] at hH
  by_cases h1 : (1 : Int) ∈ X
  · refine ⟨hfrom T (T.n - k) true, by simp [rlx, h1, H], ?_⟩
    have hm := hfrom_mono T hD (T.n - k)
    simp only [rlx]
    cases hb : decide (u = 1) with
    | true => rw [hb] at hH; omega
    | false => rw [hb] at hH; omega
  · have hu1 : u ≠ 1 := fun e => h1 (e ▸ hu)
    have hb : decide (u = 1) = false := decide_eq_false hu1
    have hz : decide ((0 : Int) = 1) = false := by decide
    refine ⟨hfrom T (T.n - k) false, by simp [rlx, h1, H], ?_⟩
    rw [hb] at hH
    simp only [rlx]
    omega

theorem rubOk (T : Tab) (hR : RubDom T) : RubOk (rlx T) (H T) := by
  intro k s h hH
  simp only [H, Option.some.injEq] at hH
  have := hR (T.n - k) (decide (s = 1)) (by omega)
  simp only [rlx]
  omega

theorem nvBound (T : Tab) : NvBound (prob T) := by
  intro k L hk
  have : ¬ k < T.n := by simp only [prob] at hk; omega
  simp only [prob, this, if_false]

theorem runBound (T : Tab) (B0 B : Int) (hc : ∀ k b d, -B0 ≤ T.c k b d ∧ T.c k b d ≤ B0) (hB0 : 0 ≤ B0)
    (hfit : ((T.n : Int) + 1) * B0 ≤ B) (hsmall : ((T.n : Int) + 2) * B ≤ 4611686018427387904) :
    RunBound (prob T) (rlx T) B0 B := by
  have hBB : B0 ≤ B := by
    have h1 : (0 : Int) ≤ (T.n : Int) * B0 := Int.mul_nonneg (by omega) hB0
    rw [Int.add_mul, Int.one_mul] at hfit
    omega
  refine ⟨⟨by omega, ?_, ?_, fun s u m d c hcc => hcc, hsmall⟩, ⟨?_, ?_⟩, hfit⟩
  · show -B ≤ (0 : Int) ∧ (0 : Int) ≤ B
    omega
  · intro s s' d
    have := hc d.var (decide (s = 1)) (decide (d.val = 1))
    show -B ≤ T.c _ _ _ ∧ T.c _ _ _ ≤ B
    omega
  · show -B0 ≤ (0 : Int) ∧ (0 : Int) ≤ B0
    omega
  · intro s s' d
    exact hc d.var (decide (s = 1)) (decide (d.val = 1))

theorem wellFormed (T : Tab) (w : Nat) (dedup : Bool) (kind : CutsetKind) (B0 B : Int) (hw : 1 ≤ w)
    (hD : Dom T) (hR : RubDom T) (hc : ∀ k b d, -B0 ≤ T.c k b d ∧ T.c k b d ≤ B0) (hB0 : 0 ≤ B0)
    (hfit : ((T.n : Int) + 1) * B0 ≤ B) (hsmall : ((T.n : Int) + 2) * B ≤ 4611686018427387904) :
    WellFormed (sv T w dedup kind) (H T) B0 B :=
  ⟨potential T, rubOk T hR, mergeOk T hD, Cover.attMerge_of_static (potential T) (fun _ _ _ _ _ => rfl),
    runBound T B0 B hc hB0 hfit hsmall, nvBound T, fun _ => hw⟩

/-- the table `[c 0 F F, c 0 F T, c 0 T F, c 0 T T, c 1 F F, …]` -/
def ofList (n : Nat) (l : List Int) (rub : Int) : Tab :=
  { n := n, c := fun k b d => l.getD (4 * k + 2 * b.toNat + d.toNat) 0, rub := rub }

def check (n : Nat) (l : List Int) (rub B0 : Int) : Bool :=
  decide (l.length = 4 * n) &&
  (List.range n).all (fun k => [false, true].all (fun d => decide ((ofList n l rub).c k false d ≤ (ofList n l rub).c k true d))) &&
  (List.range (n + 1)).all (fun j => [false, true].all (fun b => decide (hfrom (ofList n l rub) j b ≤ rub))) &&
  l.all (fun x => decide (-B0 ≤ x ∧ x ≤ B0)) && decide (0 ≤ B0)

theorem wellFormed_ofList (n : Nat) (l : List Int) (rub B0 B : Int) (w : Nat) (dedup : Bool) (kind : CutsetKind)
    (hw : 1 ≤ w) (hck : check n l rub B0 = true)
    (hfit : ((n : Int) + 1) * B0 ≤ B) (hsmall : ((n : Int) + 2) * B ≤ 4611686018427387904) :
    WellFormed (sv (ofList n l rub) w dedup kind) (H (ofList n l rub)) B0 B := by
  simp only [check, Bool.and_eq_true, decide_eq_true_eq, List.all_eq_true, List.mem_range, List.mem_cons,
    List.not_mem_nil, or_false] at hck
  obtain ⟨⟨⟨⟨hlen, hdom⟩, hrub⟩, hbd⟩, hB0⟩ := hck
  refine wellFormed _ w dedup kind B0 B hw ?_ ?_ ?_ hB0 hfit hsmall
  · intro k d
    by_cases hk : k < n
    · exact hdom k hk d (by cases d <;> simp)
    · have h1 : (ofList n l rub).c k false d = 0 := by
        show l.getD _ 0 = 0
        rw [List.getD_eq_getElem?_getD, List.getElem?_eq_none (by omega)]; rfl
      have h2 : (ofList n l rub).c k true d = 0 := by
        show l.getD _ 0 = 0
        rw [List.getD_eq_getElem?_getD, List.getElem?_eq_none (by omega)]; rfl
      rw [h1, h2]; exact Int.le_refl _
  · intro j b hj
    exact hrub j (Nat.lt_succ_of_le hj) b (by cases b <;> simp)
  · intro k b d
    exact Cover.getD_bound l _ B0 hbd hB0

end Ddo.C09.TwoState

#print axioms Ddo.C09.TwoState.wellFormed
#print axioms Ddo.C09.TwoState.wellFormed_ofList
