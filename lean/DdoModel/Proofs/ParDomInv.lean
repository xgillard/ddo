import DdoModel.Proofs.ParDomDefs
/-! # The PARALLEL solver with the shared dominance checker — the coverage invariant `DSysInv` is preserved

`DSysInv On opt Sol` (`Proofs/ParDomDefs.lean`) is the protected-family form of the coverage invariant `SysInv` of
`Proofs/ParSysInv.lean`: "some open sub-problem lies on the protected family `On` with a bound that does not cut the optimum
off, or the search was aborted, or the incumbent is optimal".  `step_dinv` (the counterpart of `ParSys.step_inv`): every section of
every worker (`ParSys.Step`, every interleaving, both fringes) preserves it, under the contracts `DCompileOk` / `DCutsetOk`
taken relative to the *stale* incumbent the worker read.  Core Lean only. -/
set_option linter.unusedSectionVars false
set_option linter.unusedVariables false
namespace Ddo.ParDom
open Ddo Ddo.ParSys Ddo.C10
variable {S : Type} [DecidableEq S]

section
variable (On : SubP S → Prop) (opt : Int) (Sol : List Dec → Int → Prop)

theorem DWOk.mono {lb lb' : Int} (h : lb ≤ lb') {w : WSt S} (hw : DWOk On opt Sol lb w) : DWOk On opt Sol lb' w := by
  cases w with
  | compR _ _ => exact Int.le_trans hw h
  | updR _ _ _ => exact ⟨Int.le_trans hw.1 h, hw.2⟩
  | compX _ _ => exact Int.le_trans hw h
  | updX _ _ _ => exact ⟨Int.le_trans hw.1 h, hw.2⟩
  | enq _ _ _ => exact ⟨Int.le_trans hw.1 h, hw.2.1, fun v hv => Int.le_trans (hw.2.2 v hv) h⟩
  | _ => trivial

theorem wake_DWOk (lb : Int) (w : WSt S) : DWOk On opt Sol lb w.wake ↔ DWOk On opt Sol lb w := by
  cases w <;> exact Iff.rfl

/-- when worker `i` of `s` moves to `w'` and the shared record becomes `c'`: a protected open node that does not cut the optimum
    off is again there afterwards (in the fringe, in the hand of worker `i`, in the hand of another worker), unless the search
    is aborted -/
def DCov (s : Sys S) (i : Nat) (c' : ParCrit S) (w' : WSt S) : Prop :=
  opt > c'.base.bestLb → ∀ x, Open s x → On x → opt ≤ x.ub →
    (∃ y, (y ∈ c'.base.fringe ∨ w'.openNode = some y ∨ Others s.ws i y) ∧ On y ∧ opt ≤ y.ub) ∨ c'.base.abort = true

/-- generic step: worker `i` goes from `w` to `w'`, the shared record from `s.crit` to `c'` -/
theorem dinv_set {s : Sys S} {i : Nat} {w : WSt S} (hi : DSysInv On opt Sol s) (hw : s.ws[i]? = some w)
    (c' : ParCrit S) (w' : WSt S)
    (hab : s.crit.base.abort = true → c'.base.abort = true)
    (hlble : s.crit.base.bestLb ≤ c'.base.bestLb)
    (hlb : c'.base.bestLb ≤ opt) (hsol : ∀ p, c'.base.bestSol = some p → Sol p c'.base.bestLb)
    (hloc : DWOk On opt Sol c'.base.bestLb w')
    (hcnt : c'.ongoing + (if w.holds then 1 else 0) = s.crit.ongoing + (if w'.holds then 1 else 0))
    (hdone : w' = .done → c'.base.abort = true ∨ c'.base.bestLb = opt)
    (hfin : ∀ n, w' = .fin n true → c'.base.abort = true)
    (hcov : DCov On opt s i c' w') :
    DSysInv On opt Sol { crit := c', ws := s.ws.set i w' } := by
  refine ⟨hlb, hsol, ?_, ?_, ?_, ?_, ?_⟩
  · intro j wj hj
    rcases get_set_split hj with ⟨rfl, rfl⟩ | ⟨hne, hj'⟩
    · exact hloc
    · exact DWOk.mono On opt Sol hlble (hi.loc j wj hj')
  · intro hgt
    rcases hi.cover (Int.lt_of_le_of_lt hlble hgt) with ⟨x, hx, hP, hU⟩ | ha
    · rcases hcov hgt x hx hP hU with ⟨y, hy, hPy, hUy⟩ | h
      · exact Or.inl ⟨y, (open_set hw c' w' y).mpr hy, hPy, hUy⟩
      · exact Or.inr h
    · exact Or.inr (hab ha)
  · show c'.ongoing = (s.ws.set i w').countP WSt.holds
    have h1 := countP_set WSt.holds w' hw
    have h2 := hi.cnt
    omega
  · rintro ⟨j, hj⟩
    show c'.base.abort = true ∨ c'.base.bestLb = opt
    rcases get_set_split hj with ⟨_, e⟩ | ⟨hne, hj'⟩
    · exact hdone e.symm
    · rcases hi.doneOk ⟨j, hj'⟩ with h | h
      · exact Or.inl (hab h)
      · exact Or.inr (Int.le_antisymm hlb (h ▸ hlble))
  · intro j n hj
    show c'.base.abort = true
    rcases get_set_split hj with ⟨_, e⟩ | ⟨hne, hj'⟩
    · exact hfin n e.symm
    · exact hab (hi.finAb j n hj')

/-- the nodes in the hands of the other workers stay open: it is enough to cover what was in the fringe or in the hand of
    worker `i` by the new fringe or its new hand -/
theorem dcov_of {s : Sys S} {i : Nat} {w : WSt S} (hw : s.ws[i]? = some w) (c' : ParCrit S) (w' : WSt S)
    (h : opt > c'.base.bestLb → ∀ x, x ∈ s.crit.base.fringe ∨ w.openNode = some x → On x → opt ≤ x.ub →
      ∃ y, (y ∈ c'.base.fringe ∨ w'.openNode = some y) ∧ On y ∧ opt ≤ y.ub) : DCov On opt s i c' w' := by
  intro hgt x hx hP hU
  rcases or_assoc.mpr ((open_split hw x).mp hx) with hx | ho
  · obtain ⟨y, hy, hPy, hUy⟩ := h hgt x hx hP hU
    exact Or.inl ⟨y, or_assoc.mp (Or.inl hy), hPy, hUy⟩
  · exact Or.inl ⟨x, Or.inr (Or.inr ho), hP, hU⟩

/-- the cover witness survives when the fringe and the node in hand are untouched -/
theorem dcov_same {s : Sys S} {i : Nat} {w : WSt S} (hw : s.ws[i]? = some w) (c' : ParCrit S) (w' : WSt S)
    (hfr : c'.base.fringe = s.crit.base.fringe) (hop : w'.openNode = w.openNode) : DCov On opt s i c' w' :=
  dcov_of On opt hw c' w' (fun _ x hx hP hU => ⟨x, by rw [hfr, hop]; exact hx, hP, hU⟩)

/-- a purely local step: only worker `i` changes -/
theorem dinv_local {s : Sys S} {i : Nat} {w : WSt S} (hi : DSysInv On opt Sol s) (hw : s.ws[i]? = some w) (w' : WSt S)
    (hh : w'.holds = w.holds)
    (hst : DWOk On opt Sol s.crit.base.bestLb w')
    (hdone : w' = .done → s.crit.base.abort = true ∨ s.crit.base.bestLb = opt)
    (hfin : ∀ n, w' = .fin n true → s.crit.base.abort = true)
    (hcov : DCov On opt s i s.crit w') :
    DSysInv On opt Sol { crit := s.crit, ws := s.ws.set i w' } :=
  dinv_set On opt Sol hi hw s.crit w' (fun h => h) (Int.le_refl _) hi.lbOk hi.solOk hst (by rw [hh]) hdone hfin hcov

theorem dinv_wake {s : Sys S} (hi : DSysInv On opt Sol s) :
    DSysInv On opt Sol { crit := s.crit, ws := s.ws.map WSt.wake } := by
  refine ⟨hi.lbOk, hi.solOk, ?_, ?_, ?_, ?_, ?_⟩
  · intro j wj' hj
    obtain ⟨wj, hj0, rfl⟩ := get_map_wake hj
    exact (wake_DWOk On opt Sol _ wj).mpr (hi.loc j wj hj0)
  · intro hgt
    rcases hi.cover hgt with ⟨x, hx, hP, hU⟩ | h
    · refine Or.inl ⟨x, ?_, hP, hU⟩
      rcases hx with hx | ⟨j, wj, hj, hx⟩
      · exact Or.inl hx
      · refine Or.inr ⟨j, wj.wake, ?_, by rw [wake_openNode]; exact hx⟩
        show (s.ws.map WSt.wake)[j]? = _
        rw [List.getElem?_map, hj]; rfl
    · exact Or.inr h
  · show s.crit.ongoing = (s.ws.map WSt.wake).countP WSt.holds
    rw [List.countP_map, hi.cnt]
    congr 1
    funext w; exact (wake_holds w).symm
  · rintro ⟨j, hj⟩
    obtain ⟨wj, hj0, e⟩ := get_map_wake hj
    exact hi.doneOk ⟨j, by rw [hj0, wake_eq_done e.symm]⟩
  · intro j n hj
    obtain ⟨wj, hj0, e⟩ := get_map_wake hj
    exact hi.finAb j n (by rw [hj0, wake_eq_fin e.symm])

theorem dinv_gwAborted {s : Sys S} {i : Nat} (hi : DSysInv On opt Sol s) (hw : s.ws[i]? = some .idle)
    (ha : s.crit.base.abort = true) :
    DSysInv On opt Sol { crit := s.crit, ws := s.ws.set i .done } :=
  dinv_local On opt Sol hi hw .done rfl trivial (fun _ => Or.inl ha) (fun _ h => by cases h)
    (dcov_same On opt hw s.crit .done rfl rfl)

theorem dinv_gwWait {s : Sys S} {i : Nat} (hi : DSysInv On opt Sol s) (hw : s.ws[i]? = some .idle) :
    DSysInv On opt Sol { crit := s.crit, ws := s.ws.set i .waiting } :=
  dinv_local On opt Sol hi hw .waiting rfl trivial (fun h => by cases h) (fun _ h => by cases h)
    (dcov_same On opt hw s.crit .waiting rfl rfl)

theorem dnothing_open {s : Sys S} (hi : DSysInv On opt Sol s) (ho : s.crit.ongoing = 0) (hf : s.crit.base.fringe = [])
    (x : SubP S) : ¬ Open s x := by
  rintro (h | ⟨j, wj, hj, hx⟩)
  · rw [hf] at h; cases h
  · have h0 : s.ws.countP WSt.holds = 0 := by rw [← hi.cnt]; exact ho
    have := List.countP_eq_zero.mp h0 wj (List.mem_iff_getElem?.mpr ⟨j, hj⟩)
    exact this (holds_of_open hx)

/-- when `ongoing = 0`, the fringe is empty and the search was not aborted, the incumbent is the optimum -/
theorem dopt_of_closed {s : Sys S} (hi : DSysInv On opt Sol s) (ha : s.crit.base.abort = false)
    (ho : s.crit.ongoing = 0) (hf : s.crit.base.fringe = []) : s.crit.base.bestLb = opt := by
  have h1 : ¬ opt > s.crit.base.bestLb := by
    intro hgt
    rcases hi.cover hgt with ⟨x, hx, _⟩ | h
    · exact dnothing_open On opt Sol hi ho hf x hx
    · rw [ha] at h; cases h
  exact Int.le_antisymm hi.lbOk (Int.not_lt.mp h1)

theorem dinv_gwComplete {s : Sys S} {i : Nat} (hi : DSysInv On opt Sol s) (hw : s.ws[i]? = some .idle)
    (ha : s.crit.base.abort = false) (ho : s.crit.ongoing = 0) (hf : s.crit.base.fringe = []) :
    DSysInv On opt Sol { crit := s.crit.complete, ws := s.ws.set i .done } := by
  have he := dopt_of_closed On opt Sol hi ha ho hf
  exact dinv_set On opt Sol hi hw s.crit.complete .done (fun h => h) (Int.le_refl _) hi.lbOk hi.solOk trivial rfl
    (fun _ => Or.inr he) (fun _ h => by cases h)
    (fun _ x hx => absurd hx (dnothing_open On opt Sol hi ho hf x))

theorem dinv_gwStarve {s : Sys S} {i : Nat} {N : SubP S} {rest : List (SubP S)} {c' : ParCrit S} {k : Nat}
    (hi : DSysInv On opt Sol s) (hw : s.ws[i]? = some .idle) (hp : PopMax s.crit.base.fringe N rest)
    (hl : popLoop (setFringe s.crit rest) [(N, true)] 0 = (c', some none, k)) :
    DSysInv On opt Sol { crit := c', ws := s.ws } := by
  rw [popLoop_single] at hl
  split at hl
  · next hle =>
    have hle : N.ub ≤ s.crit.base.bestLb := hle
    injection hl with hc _
    subst hc
    rw [← set_idle_self hw]
    refine dinv_set On opt Sol hi hw _ .idle (fun h => h) (Int.le_refl _) hi.lbOk hi.solOk trivial rfl
      (fun h => by cases h) (fun _ h => by cases h) (dcov_of On opt hw _ _ fun hgt x hx hP hU => ?_)
    have hgt : opt > s.crit.base.bestLb := hgt
    rcases hx with h | h
    · have : x.ub ≤ N.ub := by
        rcases (mem_of_popMax hp x).mp h with e | e
        · rw [e]; exact Int.le_refl _
        · exact hp.2 x e
      exact absurd (Int.le_trans hU (Int.le_trans this hle)) (Int.not_le.mpr hgt)
    · cases h
  · injection hl with _ hl; injection hl with hl; cases hl

theorem dinv_gwItem {s : Sys S} {i : Nat} {N : SubP S} {rest : List (SubP S)} {c' : ParCrit S} {nn : SubP S} {k : Nat}
    {c'' : ParCrit S}
    (hi : DSysInv On opt Sol s) (hw : s.ws[i]? = some .idle)
    (hp : PopMax s.crit.base.fringe N rest)
    (hl : popLoop (setFringe s.crit rest) [(N, true)] 0 = (c', some (some nn), k))
    (ht : c'.take i nn = some c'') :
    DSysInv On opt Sol { crit := c'', ws := s.ws.set i (.readR nn) } := by
  obtain ⟨rfl, rfl⟩ := popLoop_item hl
  obtain ⟨t1, t2, t3, t4, t5, t6, t7, t8⟩ := take_spec ht
  have t1 : c''.base.fringe = rest := t1
  have t2 : c''.base.bestLb = s.crit.base.bestLb := t2
  have t3 : c''.base.bestSol = s.crit.base.bestSol := t3
  have t5 : c''.base.abort = s.crit.base.abort := t5
  have t6 : c''.ongoing = s.crit.ongoing + 1 := t6
  refine dinv_set On opt Sol hi hw c'' (.readR nn) (fun h => by rw [t5]; exact h)
    (by rw [t2]; exact Int.le_refl _) (by rw [t2]; exact hi.lbOk)
    (by rw [t2, t3]; exact hi.solOk) trivial (by rw [t6]; rfl) (fun h => by cases h) (fun _ h => by cases h)
    (dcov_of On opt hw _ _ fun _ x hx hP hU => ?_)
  rcases hx with h | h
  · rcases (mem_of_popMax hp x).mp h with e | e
    · exact ⟨x, Or.inr (by rw [e]; rfl), hP, hU⟩
    · exact ⟨x, Or.inl (by rw [t1]; exact e), hP, hU⟩
  · cases h

theorem dinv_gwCrash {s : Sys S} {i : Nat} {N : SubP S} {rest : List (SubP S)} {c' : ParCrit S} {nn : SubP S} {k : Nat}
    (hi : DSysInv On opt Sol s) (hw : s.ws[i]? = some .idle) (hp : PopMax s.crit.base.fringe N rest)
    (hl : popLoop (setFringe s.crit rest) [(N, true)] 0 = (c', some (some nn), k)) :
    DSysInv On opt Sol { crit := c'.takeCrash, ws := s.ws.set i (.crashed nn) } := by
  obtain ⟨rfl, rfl⟩ := popLoop_item hl
  refine dinv_set On opt Sol hi hw _ (.crashed nn) (fun h => h) (Int.le_refl _) hi.lbOk hi.solOk trivial rfl
    (fun h => by cases h) (fun _ h => by cases h) (dcov_of On opt hw _ _ fun _ x hx hP hU => ?_)
  rcases hx with h | h
  · rcases (mem_of_popMax hp x).mp h with e | e
    · exact ⟨x, Or.inr (by rw [e]; rfl), hP, hU⟩
    · exact ⟨x, Or.inl e, hP, hU⟩
  · cases h

theorem dinv_readLbR {s : Sys S} {i : Nat} {n : SubP S} (hi : DSysInv On opt Sol s) (hw : s.ws[i]? = some (.readR n)) :
    DSysInv On opt Sol
      { crit := s.crit, ws := s.ws.set i (if n.ub ≤ s.crit.readLb then .fin n false else .compR n s.crit.readLb) } := by
  by_cases hle : n.ub ≤ s.crit.readLb
  · rw [if_pos hle]
    have hle : n.ub ≤ s.crit.base.bestLb := hle
    refine dinv_local On opt Sol hi hw (.fin n false) rfl trivial (fun h => by cases h) (fun _ h => by cases h)
      (dcov_of On opt hw _ _ fun hgt x hx hP hU => ?_)
    rcases hx with h | h
    · exact ⟨x, Or.inl h, hP, hU⟩
    · injection h with h; subst h; exact absurd (Int.le_trans hU hle) (Int.not_le.mpr hgt)
  · rw [if_neg hle]
    exact dinv_local On opt Sol hi hw (.compR n s.crit.readLb) rfl (Int.le_refl _) (fun h => by cases h)
      (fun _ h => by cases h) (dcov_same On opt hw s.crit _ rfl rfl)

theorem dinv_compileR {s : Sys S} {i : Nat} {n : SubP S} {lb : Int} {r : DDRes S}
    (hi : DSysInv On opt Sol s) (hw : s.ws[i]? = some (.compR n lb))
    (hok : ∀ o, r = .ok o → lb ≤ opt → DCompileOk On opt Sol n lb o) :
    DSysInv On opt Sol { crit := s.crit, ws := s.ws.set i (WSt.afterR n lb r) } := by
  have hst : lb ≤ s.crit.base.bestLb := hi.loc i _ hw
  cases r with
  | ok o =>
    exact dinv_local On opt Sol hi hw (.updR n lb o) rfl ⟨hst, hok o rfl (Int.le_trans hst hi.lbOk)⟩ (fun h => by cases h)
      (fun _ h => by cases h) (dcov_same On opt hw s.crit _ rfl rfl)
  | cutoff =>
    exact dinv_local On opt Sol hi hw (.abortS n) rfl trivial (fun h => by cases h)
      (fun _ h => by cases h) (dcov_same On opt hw s.crit _ rfl rfl)

theorem dinv_readLbX {s : Sys S} {i : Nat} {n : SubP S} (hi : DSysInv On opt Sol s) (hw : s.ws[i]? = some (.readX n)) :
    DSysInv On opt Sol { crit := s.crit, ws := s.ws.set i (.compX n s.crit.readLb) } :=
  dinv_local On opt Sol hi hw (.compX n s.crit.readLb) rfl (Int.le_refl _) (fun h => by cases h)
    (fun _ h => by cases h) (dcov_same On opt hw s.crit _ rfl rfl)

theorem dinv_compileX {s : Sys S} {i : Nat} {n : SubP S} {lb : Int} {r : DDRes S}
    (hi : DSysInv On opt Sol s) (hw : s.ws[i]? = some (.compX n lb))
    (hok : ∀ o, r = .ok o → lb ≤ opt →
      DCompileOk On opt Sol n lb o ∧ (o.isExact = false → DCutsetOk On opt n lb o)) :
    DSysInv On opt Sol { crit := s.crit, ws := s.ws.set i (WSt.afterX n lb r) } := by
  have hst : lb ≤ s.crit.base.bestLb := hi.loc i _ hw
  cases r with
  | ok o =>
    have h := hok o rfl (Int.le_trans hst hi.lbOk)
    exact dinv_local On opt Sol hi hw (.updX n lb o) rfl ⟨hst, h.1, h.2⟩ (fun h => by cases h)
      (fun _ h => by cases h) (dcov_same On opt hw s.crit _ rfl rfl)
  | cutoff =>
    exact dinv_local On opt Sol hi hw (.abortS n) rfl trivial (fun h => by cases h)
      (fun _ h => by cases h) (dcov_same On opt hw s.crit _ rfl rfl)

/-- `maybe_update_best` with a compilation meeting the contract: everything global is preserved -/
theorem dupdate_glob {s : Sys S} {n : SubP S} {lb : Int} {o : DDOut S}
    (hi : DSysInv On opt Sol s) (hc : DCompileOk On opt Sol n lb o) :
    s.crit.base.bestLb ≤ (s.crit.updateBest o).base.bestLb ∧
    (s.crit.base.abort = true → (s.crit.updateBest o).base.abort = true) ∧
    (s.crit.updateBest o).base.bestLb ≤ opt ∧
    (∀ p, (s.crit.updateBest o).base.bestSol = some p → Sol p (s.crit.updateBest o).base.bestLb) ∧
    (s.crit.updateBest o).base.fringe = s.crit.base.fringe := by
  obtain ⟨f1, _, f3, _, _⟩ := updateBest_fringe s.crit.base o
  have hge := updateBest_lb_ge s.crit.base o
  obtain ⟨hlb, hsol⟩ := updateBest_sound opt Sol s.crit.base o hi.lbOk hi.solOk hc.sound
  exact ⟨hge, fun h => by show (s.crit.base.updateBest o).abort = true; rw [f3]; exact h, hlb, hsol, f1⟩

/-- the node in hand is closed by an exact diagram: it no longer carries the optimum above the new incumbent -/
theorem dcov_exact {s : Sys S} {i : Nat} {w : WSt S} {n : SubP S} {lb : Int} {o : DDOut S}
    (hi : DSysInv On opt Sol s) (hw : s.ws[i]? = some w) (hop : w.openNode = some n)
    (hst : lb ≤ s.crit.base.bestLb) (hc : DCompileOk On opt Sol n lb o) (hex : o.isExact = true) :
    DCov On opt s i (s.crit.updateBest o) (.fin n false) := by
  refine dcov_of On opt hw _ _ fun hgt x hx hP hU => ?_
  have hfe : (s.crit.updateBest o).base.fringe = s.crit.base.fringe := (updateBest_fringe s.crit.base o).1
  have hge := updateBest_lb_ge s.crit.base o
  have hgt : opt > (s.crit.base.updateBest o).bestLb := hgt
  rcases hx with h | h
  · exact ⟨x, Or.inl (by rw [hfe]; exact h), hP, hU⟩
  · rw [hop] at h
    injection h with h; subst h
    obtain ⟨v, hv, hov⟩ := hc.exact hex hP (Int.lt_of_le_of_lt (Int.le_trans hst hge) hgt)
    exact absurd (Int.le_trans hov (updateBest_lb_ge_val s.crit.base o v hv)) (Int.not_le.mpr hgt)

theorem dinv_updateR {s : Sys S} {i : Nat} {n : SubP S} {lb : Int} {o : DDOut S}
    (hi : DSysInv On opt Sol s) (hw : s.ws[i]? = some (.updR n lb o)) :
    DSysInv On opt Sol
      { crit := s.crit.updateBest o, ws := s.ws.set i (if o.isExact then .fin n false else .readX n) } := by
  obtain ⟨hst, hc⟩ : lb ≤ s.crit.base.bestLb ∧ DCompileOk On opt Sol n lb o := hi.loc i _ hw
  obtain ⟨hle, hab, hlb, hsol, hfe⟩ := dupdate_glob On opt Sol hi hc
  by_cases hex : o.isExact = true
  · rw [if_pos hex]
    exact dinv_set On opt Sol hi hw _ (.fin n false) hab hle hlb hsol trivial rfl (fun h => by cases h)
      (fun _ h => by cases h) (dcov_exact On opt Sol hi hw rfl hst hc hex)
  · rw [if_neg hex]
    exact dinv_set On opt Sol hi hw _ (.readX n) hab hle hlb hsol trivial rfl (fun h => by cases h)
      (fun _ h => by cases h) (dcov_same On opt hw _ _ hfe rfl)

theorem dinv_updateX {s : Sys S} {i : Nat} {n : SubP S} {lb : Int} {o : DDOut S}
    (hi : DSysInv On opt Sol s) (hw : s.ws[i]? = some (.updX n lb o)) :
    DSysInv On opt Sol
      { crit := s.crit.updateBest o, ws := s.ws.set i (if o.isExact then .fin n false else .enq n lb o) } := by
  obtain ⟨hst, hc, hcut⟩ : lb ≤ s.crit.base.bestLb ∧ DCompileOk On opt Sol n lb o ∧
      (o.isExact = false → DCutsetOk On opt n lb o) := hi.loc i _ hw
  obtain ⟨hle, hab, hlb, hsol, hfe⟩ := dupdate_glob On opt Sol hi hc
  by_cases hex : o.isExact = true
  · rw [if_pos hex]
    exact dinv_set On opt Sol hi hw _ (.fin n false) hab hle hlb hsol trivial rfl (fun h => by cases h)
      (fun _ h => by cases h) (dcov_exact On opt Sol hi hw rfl hst hc hex)
  · rw [if_neg hex]
    have hex' : o.isExact = false := by simpa using hex
    refine dinv_set On opt Sol hi hw _ (.enq n lb o) hab hle hlb hsol ?_ rfl (fun h => by cases h)
      (fun _ h => by cases h) (dcov_same On opt hw _ _ hfe rfl)
    exact ⟨Int.le_trans hst hle, hcut hex', fun v hv => updateBest_lb_ge_val s.crit.base o v hv⟩

/-- a protected member of (old fringe + cut-set nodes that beat the incumbent) is covered by a protected entry of the new
    fringe whose bound is not smaller -/
theorem enqueue_dcover (hOn : OnMono On) (dedup : Bool) (st : SeqSt S) (cs : List (SubP S)) :
    (st.enqueue dedup cs).bestLb = st.bestLb ∧ (st.enqueue dedup cs).bestSol = st.bestSol ∧
    (st.enqueue dedup cs).abort = st.abort ∧
    ∀ c, (c ∈ st.fringe ∨ ∃ c0 ∈ cs, c = c0 ∧ c0.ub > st.bestLb) → On c → ∀ u : Int, u ≤ c.ub →
      ∃ y, y ∈ (st.enqueue dedup cs).fringe ∧ On y ∧ u ≤ y.ub :=
  let h := SeqSt.enqueue_spec dedup st cs
  ⟨h.1, h.2.1, h.2.2.2.1, fun _ hc h1 _ h2 => h.2.2.2.2.1.covers hOn hc h1 h2⟩

theorem dinv_enqueue (dedup : Bool) (hOn : OnMono On) {s : Sys S} {i : Nat} {n : SubP S} {lb : Int} {o : DDOut S}
    (hi : DSysInv On opt Sol s) (hw : s.ws[i]? = some (.enq n lb o)) :
    DSysInv On opt Sol { crit := s.crit.enqueue dedup o.cutset, ws := s.ws.set i (.fin n false) } := by
  obtain ⟨hst, hC, hbe⟩ : lb ≤ s.crit.base.bestLb ∧ DCutsetOk On opt n lb o ∧
      (∀ v, o.bestExact = some v → v ≤ s.crit.base.bestLb) := hi.loc i _ hw
  obtain ⟨e1, e2, e4, hF⟩ := enqueue_dcover On hOn dedup s.crit.base o.cutset
  have e1 : (s.crit.enqueue dedup o.cutset).base.bestLb = s.crit.base.bestLb := e1
  have e2 : (s.crit.enqueue dedup o.cutset).base.bestSol = s.crit.base.bestSol := e2
  have e4 : (s.crit.enqueue dedup o.cutset).base.abort = s.crit.base.abort := e4
  refine dinv_set On opt Sol hi hw _ (.fin n false) (fun h => by rw [e4]; exact h)
    (by rw [e1]; exact Int.le_refl _) (by rw [e1]; exact hi.lbOk) (by rw [e1, e2]; exact hi.solOk)
    trivial rfl (fun h => by cases h) (fun _ h => by cases h) (dcov_of On opt hw _ _ fun hgt x hx hP hU => ?_)
  rw [e1] at hgt
  rcases hx with h | h
  · obtain ⟨y, hy, hPy, hUy⟩ := hF x (Or.inl h) hP opt hU
    exact ⟨y, Or.inl hy, hPy, hUy⟩
  · injection h with h; subst h
    obtain ⟨c0, hc0, hOn0, hub0⟩ := hC hP (Int.lt_of_le_of_lt hst hgt) (fun v hv => Int.lt_of_le_of_lt (hbe v hv) hgt)
    obtain ⟨y, hy, hPy, hUy⟩ := hF c0 (Or.inr ⟨c0, hc0, rfl, Int.lt_of_lt_of_le hgt hub0⟩) hOn0 opt hub0
    exact ⟨y, Or.inl hy, hPy, hUy⟩

theorem dinv_abort {s : Sys S} {i : Nat} {n : SubP S} {top : Option Int}
    (hi : DSysInv On opt Sol s) (hw : s.ws[i]? = some (.abortS n)) :
    DSysInv On opt Sol { crit := s.crit.abortSearch n.ub top, ws := s.ws.set i (.fin n true) } := by
  obtain ⟨a1, a2, _, a4, a5, _⟩ := abort_spec s.crit n.ub top
  exact dinv_set On opt Sol hi hw _ (.fin n true) (fun _ => a4) (by rw [a1]; exact Int.le_refl _)
    (by rw [a1]; exact hi.lbOk) (by rw [a1, a2]; exact hi.solOk) trivial (by rw [a5]; rfl)
    (fun h => by cases h) (fun _ _ => a4) (fun _ _ _ _ _ => Or.inr a4)

theorem dinv_notify {s : Sys S} {i : Nat} {n : SubP S} {te : Bool} {c' : ParCrit S}
    (hi : DSysInv On opt Sol s) (hw : s.ws[i]? = some (.fin n te)) (hn : s.crit.notifyFinished i n.depth = some c') :
    DSysInv On opt Sol { crit := c', ws := (s.ws.map WSt.wake).set i (if te then .done else .idle) } := by
  obtain ⟨n1, n2, _, _⟩ := notify_spec hn
  have hi' := dinv_wake On opt Sol hi
  have hw' : (s.ws.map WSt.wake)[i]? = some (.fin n te) := by rw [List.getElem?_map, hw]; rfl
  have key : ∀ w' : WSt S, w'.openNode = none → w'.holds = false → DWOk On opt Sol s.crit.base.bestLb w' →
      (w' = .done → te = true) → (∀ m, w' = .fin m true → False) →
      DSysInv On opt Sol { crit := c', ws := (s.ws.map WSt.wake).set i w' } := by
    intro w' ho hh hst hd hf
    refine dinv_set On opt Sol (s := { crit := s.crit, ws := s.ws.map WSt.wake }) hi' hw' c' w'
      (fun h => by rw [n1]; exact h) (by rw [n1]; exact Int.le_refl _) (by rw [n1]; exact hi.lbOk)
      (by rw [n1]; exact hi.solOk) (by rw [n1]; exact hst) ?_ ?_ ?_ ?_
    · rw [hh]
      show c'.ongoing + 1 = s.crit.ongoing + 0
      omega
    · intro e
      have hte := hd e
      subst hte
      exact Or.inl (by rw [n1]; exact hi.finAb i n hw)
    · intro m e; exact absurd e (fun e => hf m e)
    · refine dcov_of On opt (s := { crit := s.crit, ws := s.ws.map WSt.wake }) hw' c' w' fun _ x hx hP hU => ?_
      rcases hx with h | h
      · exact ⟨x, Or.inl (by rw [n1]; exact h), hP, hU⟩
      · cases h
  cases te
  · exact key .idle rfl rfl trivial (fun h => by cases h) (fun _ h => by cases h)
  · exact key .done rfl rfl trivial (fun _ => rfl) (fun _ h => by cases h)

/-- every section of every worker preserves `DSysInv` -/
theorem step_dinv (dedup : Bool) (hOn : OnMono On) {okR okX : SubP S → Int → DDOut S → Prop}
    (hR : ∀ n lb o, okR n lb o → lb ≤ opt → DCompileOk On opt Sol n lb o)
    (hX : ∀ n lb o, okX n lb o → lb ≤ opt →
      DCompileOk On opt Sol n lb o ∧ (o.isExact = false → DCutsetOk On opt n lb o))
    {s t : Sys S} (h : Step dedup okR okX s t) (hi : DSysInv On opt Sol s) : DSysInv On opt Sol t := by
  cases h with
  | gwAborted i hw ha => exact dinv_gwAborted On opt Sol hi hw ha
  | gwComplete i hw ha ho hf => exact dinv_gwComplete On opt Sol hi hw ha ho hf
  | gwWait i hw ha ho hf => exact dinv_gwWait On opt Sol hi hw
  | gwStarve i N rest c' k hw ha hp hl => exact dinv_gwStarve On opt Sol hi hw hp hl
  | gwItem i N rest c' nn k c'' hw ha hp hl ht => exact dinv_gwItem On opt Sol hi hw hp hl ht
  | gwCrash i N rest c' nn k hw ha hp hl ht => exact dinv_gwCrash On opt Sol hi hw hp hl
  | readLbR i n hw => exact dinv_readLbR On opt Sol hi hw
  | compileR i n lb r hw hok => exact dinv_compileR On opt Sol hi hw (fun o ho => hR n lb o (hok o ho))
  | updateR i n lb o hw => exact dinv_updateR On opt Sol hi hw
  | readLbX i n hw => exact dinv_readLbX On opt Sol hi hw
  | compileX i n lb r hw hok => exact dinv_compileX On opt Sol hi hw (fun o ho => hX n lb o (hok o ho))
  | updateX i n lb o hw => exact dinv_updateX On opt Sol hi hw
  | enqueue i n lb o hw => exact dinv_enqueue On opt Sol dedup hOn hi hw
  | abort i n top hw htop => exact dinv_abort On opt Sol hi hw
  | notify i n te c' hw hn => exact dinv_notify On opt Sol hi hw hn

theorem init_dinv (P : Problem S) (dedup : Bool) (U : Nat) (hroot : On (rootOf P)) (hopt : opt ≤ iMax) (hmin : iMin ≤ opt) :
    DSysInv On opt Sol (Sys.init P none dedup U) := by
  obtain ⟨b1, b2, _, b4, b5⟩ := init_base P none dedup
  have b1 : (Sys.init P none dedup U).crit.base.fringe = [rootOf P] := b1
  have b2 : (Sys.init P none dedup U).crit.base.abort = false := b2
  have b4 : (Sys.init P none dedup U).crit.base.bestLb = iMin := b4
  have b5 : (Sys.init P none dedup U).crit.base.bestSol = none := b5
  have hws : ∀ (i : Nat) (w : WSt S), (Sys.init P none dedup U).ws[i]? = some w → w = .idle := by
    intro i w h
    have h : (List.replicate U (WSt.idle : WSt S))[i]? = some w := h
    rw [List.getElem?_replicate] at h
    split at h
    · injection h with h; exact h.symm
    · cases h
  refine ⟨by rw [b4]; exact hmin, fun p hp => (by rw [b5] at hp; cases hp), ?_, ?_, ?_, ?_, ?_⟩
  · intro i w hw
    rw [hws i w hw]; trivial
  · intro _
    exact Or.inl ⟨rootOf P, Or.inl (by rw [b1]; exact List.mem_cons_self), hroot, hopt⟩
  · show 0 = (List.replicate U (WSt.idle : WSt S)).countP WSt.holds
    rw [List.countP_replicate]; rfl
  · rintro ⟨i, hi⟩
    cases hws i _ hi
  · intro i n hi
    cases hws i _ hi

/-- when `get_workload` answers `Complete` the incumbent is the optimum -/
theorem dcomplete_optimal {s : Sys S} {i : Nat} (hi : DSysInv On opt Sol s) (hc : CompletesAt s i) :
    s.crit.base.bestLb = opt ∧ ∀ p, s.crit.base.bestSol = some p → Sol p opt := by
  obtain ⟨_, ha, ho, hf⟩ := hc
  have := dopt_of_closed On opt Sol hi ha ho hf
  exact ⟨this, fun p hp => this ▸ hi.solOk p hp⟩

/-- when every worker has left and the search was not aborted the incumbent is the optimum -/
theorem dfinal_optimal {s : Sys S} (hi : DSysInv On opt Sol s) (hd : AllDone s) (hne : s.ws ≠ [])
    (ha : s.crit.base.abort = false) : s.crit.base.bestLb = opt := by
  cases hws : s.ws with
  | nil => exact absurd hws hne
  | cons w0 rest =>
    have h0 : s.ws[0]? = some w0 := by rw [hws]; rfl
    have hw0 : w0 = .done := hd w0 (by rw [hws]; exact List.mem_cons_self)
    rcases hi.doneOk ⟨0, by rw [h0, hw0]⟩ with h | h
    · rw [ha] at h; cases h
    · exact h

end
end Ddo.ParDom
