import DdoModel.Proofs.SolverCfg
import DdoModel.Proofs.MddWidth
import DdoModel.Proofs.CutLoop
/-! The sequential solver over the diagram model **with a cutoff** (for `Props/C19b.lean`).

Diagram level: a layer step neither reads nor writes the poll counter, so with `stopAt = some k` the loop does what it does with
`stopAt = none` until the counter reaches `k` (`buildLoop_prefix`, `compile_prefix`).  Solver level: `solveCut`, the loop of `maximize` with the
poll counter threaded through the two compilations of every turn, and the closed form of a turn of the cut run in terms of the same turn of
the uninterrupted run (`cutTurn_closed`: unaffected, or `abortAt`).  Nothing here assumes anything about the model (no `WellFormed`): these
are structural facts about the two loops. -/
set_option linter.unusedSectionVars false
set_option linter.unusedVariables false
namespace Ddo.C19
open Ddo Ddo.Truth Ddo.Closed Ddo.C01
variable {S K : Type} [DecidableEq S] [DecidableEq K]

section Diagram

theorem squash_setPolls (cfg : Cfg S K) (dd : DD S K) (q : Nat) (l : List (Node S)) (c : List Nat) :
    squash cfg { dd with polls := q } l c = squash cfg dd l c := rfl

theorem stepLayer_setPolls (cfg : Cfg S K) (dd : DD S K) (var q : Nat) :
    stepLayer cfg { dd with polls := q } var =
      ((stepLayer cfg dd var).1.map (fun d => { d with polls := q }), (stepLayer cfg dd var).2) := by
  rw [Ddo.Width.stepLayer_eq, Ddo.Width.stepLayer_eq]
  have e : Ddo.Width.squashOf cfg { dd with polls := q } = Ddo.Width.squashOf cfg dd := rfl
  rw [e]
  split
  · rfl
  · split <;> rfl

theorem stepLayer_polls (cfg : Cfg S K) (dd dd' : DD S K) (var : Nat) (oc : Outcome)
    (h : stepLayer cfg dd var = (some dd', oc)) : dd'.polls = dd.polls := by
  rw [Ddo.Width.stepLayer_eq] at h
  split at h
  · cases h; rfl
  · split at h
    · cases h
    · cases h; rfl

theorem tick_polls (dd : DD S K) (var : Nat) : (tick dd var).polls = dd.polls + 1 := rfl

/-- one iteration that is not cut off: the loop goes on from `dd'`, or ends with `res`, the same `dd'` / `res` whatever the cutoff -/
theorem buildLoop_iter (cfg : Cfg S K) (fuel : Nat) (dd : DD S K) (var : Nat)
    (hnv : cfg.P.nextVar dd.depth (dd.next.map (·.state)) = some var) :
    (∃ dd', stepLayer cfg (tick dd var) var = (some dd', .ok) ∧ dd'.polls = dd.polls + 1 ∧
      ∀ stopAt, (∀ k, stopAt = some k → dd.polls + 1 < k) →
        buildLoop cfg stopAt (fuel + 1) dd = buildLoop cfg stopAt fuel dd') ∨
    (∃ res : DD S K × Outcome, res.1.polls = dd.polls + 1 ∧ res.2 ≠ .cutoff ∧
      ∀ stopAt, (∀ k, stopAt = some k → dd.polls + 1 < k) → buildLoop cfg stopAt (fuel + 1) dd = res) := by
  have key : ∀ stopAt, (∀ k, stopAt = some k → dd.polls + 1 < k) → buildLoop cfg stopAt (fuel + 1) dd =
      match stepLayer cfg (tick dd var) var with
      | (none, _) => (tick dd var, .crash)
      | (some dd', .cutoff) => (dd', .ok)
      | (some dd', .crash) => (dd', .crash)
      | (some dd', .ok) => buildLoop cfg stopAt fuel dd' := by
    intro stopAt hgo
    cases stopAt with
    | none => exact buildLoop_step cfg fuel dd var hnv
    | some k => rw [buildLoop_some_step cfg k fuel dd var hnv, if_neg (Nat.not_le_of_lt (hgo k rfl))]; rfl
  generalize hr : stepLayer cfg (tick dd var) var = r at key
  obtain ⟨o, oc⟩ := r
  cases o with
  | none => exact Or.inr ⟨(tick dd var, .crash), rfl, nofun, key⟩
  | some dd' =>
    have hp := stepLayer_polls cfg _ _ var _ hr
    cases oc with
    | ok => exact Or.inl ⟨dd', rfl, hp, key⟩
    | cutoff => exact Or.inr ⟨(dd', .ok), hp, nofun, key⟩
    | crash => exact Or.inr ⟨(dd', .crash), hp, nofun, key⟩

theorem buildLoop_polls_mono (cfg : Cfg S K) (stopAt : Option Nat) :
    ∀ (fuel : Nat) (dd : DD S K), dd.polls ≤ (buildLoop cfg stopAt fuel dd).1.polls := by
  intro fuel
  induction fuel with
  | zero => intro dd; exact Nat.le_refl _
  | succ fuel ih =>
    intro dd
    cases hnv : cfg.P.nextVar dd.depth (dd.next.map (·.state)) with
    | none => rw [buildLoop_stop cfg stopAt fuel dd hnv]; exact Nat.le_refl _
    | some var =>
      by_cases hgo : ∀ k, stopAt = some k → dd.polls + 1 < k
      · rcases buildLoop_iter cfg fuel dd var hnv with ⟨dd', _, hp, e⟩ | ⟨res, hp, _, e⟩ <;> rw [e stopAt hgo]
        · exact Nat.le_trans (Nat.le_trans (Nat.le_succ _) (Nat.le_of_eq hp.symm)) (ih dd')
        · exact Nat.le_trans (Nat.le_succ _) (Nat.le_of_eq hp.symm)
      · cases stopAt with
        | none => exact absurd nofun hgo
        | some k =>
          rw [buildLoop_some_step cfg k fuel dd var hnv, if_pos (Nat.le_of_not_lt fun h => hgo fun _ e => Option.some.inj e ▸ h)]
          exact Nat.le_succ _

theorem buildLoop_none_ne_cutoff (cfg : Cfg S K) :
    ∀ (fuel : Nat) (dd : DD S K), (buildLoop cfg none fuel dd).2 ≠ .cutoff := by
  intro fuel
  induction fuel with
  | zero => intro dd; exact nofun
  | succ fuel ih =>
    intro dd
    cases hnv : cfg.P.nextVar dd.depth (dd.next.map (·.state)) with
    | none => rw [buildLoop_stop cfg none fuel dd hnv]; exact nofun
    | some var =>
      rcases buildLoop_iter cfg fuel dd var hnv with ⟨dd', _, _, e⟩ | ⟨res, _, hne, e⟩ <;> rw [e none nofun]
      · exact ih dd'
      · exact hne

/-- `dd'` is the diagram at the head of a later iteration of the compilation loop started on `dd` (no cutoff, no break in between) -/
inductive LoopReach (cfg : Cfg S K) : DD S K → DD S K → Prop
  | refl (dd : DD S K) : LoopReach cfg dd dd
  | step (dd dd' dd'' : DD S K) (var : Nat) : cfg.P.nextVar dd.depth (dd.next.map (·.state)) = some var →
      stepLayer cfg (tick dd var) var = (some dd', .ok) → LoopReach cfg dd' dd'' → LoopReach cfg dd dd''

/-- **the cut diagram is an intermediate diagram of the uninterrupted loop** (reached through the very same layer steps, `LoopReach`) -/
theorem buildLoop_prefix_trace (cfg : Cfg S K) (k : Nat) :
    ∀ (fuel : Nat) (dd : DD S K), dd.polls < k → k ≤ (buildLoop cfg none fuel dd).1.polls →
      ∃ (dm : DD S K) (var fuel' : Nat), LoopReach cfg dd dm ∧ cfg.P.nextVar dm.depth (dm.next.map (·.state)) = some var ∧
        dm.polls + 1 = k ∧ fuel' < fuel ∧ buildLoop cfg (some k) fuel dd = (tick dm var, .cutoff) ∧
        buildLoop cfg none fuel dd = buildLoop cfg none (fuel' + 1) dm := by
  intro fuel
  induction fuel with
  | zero => intro dd h1 h2; exact absurd h2 (Nat.not_le_of_lt h1)
  | succ fuel ih =>
    intro dd h1 h2
    cases hnv : cfg.P.nextVar dd.depth (dd.next.map (·.state)) with
    | none =>
      rw [buildLoop_stop cfg none fuel dd hnv] at h2
      exact absurd h2 (Nat.not_le_of_lt h1)
    | some var =>
      by_cases hk : k ≤ dd.polls + 1
      · refine ⟨dd, var, fuel, LoopReach.refl dd, hnv, Nat.le_antisymm h1 hk, Nat.lt_succ_self _, ?_, rfl⟩
        rw [buildLoop_some_step cfg k fuel dd var hnv, if_pos hk]
      · have hgo : ∀ k', some k = some k' → dd.polls + 1 < k' := fun _ e => Option.some.inj e ▸ Nat.lt_of_not_le hk
        rcases buildLoop_iter cfg fuel dd var hnv with ⟨dd', hr, hp, e⟩ | ⟨res, hp, _, e⟩ <;>
          rw [e none nofun] at h2 ⊢ <;> rw [e (some k) hgo]
        · obtain ⟨dm, v, f', hreach, hv, hpk, hf, e1, e2⟩ := ih dd' (by rw [hp]; exact Nat.lt_of_not_le hk) h2
          exact ⟨dm, v, f', LoopReach.step dd dd' dm var hnv hr hreach, hv, hpk, Nat.lt_succ_of_lt hf, e1, e2⟩
        · exact absurd (hp ▸ h2) hk

/-- with `stopAt = some k` the loop performs exactly the steps it performs with `stopAt = none` as long as the poll counter stays below `k`,
    then answers `cutoff` at the poll that brings the counter to `k` -/
theorem buildLoop_prefix (cfg : Cfg S K) (k : Nat) :
    ∀ (fuel : Nat) (dd : DD S K),
      ((buildLoop cfg none fuel dd).1.polls < k → buildLoop cfg (some k) fuel dd = buildLoop cfg none fuel dd) ∧
      (dd.polls < k → k ≤ (buildLoop cfg none fuel dd).1.polls →
        (buildLoop cfg (some k) fuel dd).2 = .cutoff ∧ (buildLoop cfg (some k) fuel dd).1.polls = k) := by
  intro fuel dd
  refine ⟨?_, fun h1 h2 => ?_⟩
  · induction fuel generalizing dd with
    | zero => exact fun _ => rfl
    | succ fuel ih =>
      intro h
      cases hnv : cfg.P.nextVar dd.depth (dd.next.map (·.state)) with
      | none => rw [buildLoop_stop cfg none fuel dd hnv, buildLoop_stop cfg (some k) fuel dd hnv]
      | some var =>
        have hgo : ∀ k', some k = some k' → dd.polls + 1 < k' := fun _ e => by
          rcases buildLoop_iter cfg fuel dd var hnv with ⟨dd', _, hp, e'⟩ | ⟨res, hp, _, e'⟩ <;> rw [e' none nofun] at h
          · exact Option.some.inj e ▸ hp ▸ Nat.lt_of_le_of_lt (buildLoop_polls_mono cfg none fuel dd') h
          · exact Option.some.inj e ▸ hp ▸ h
        rcases buildLoop_iter cfg fuel dd var hnv with ⟨dd', _, _, e⟩ | ⟨res, _, _, e⟩ <;>
          rw [e none nofun] at h ⊢ <;> rw [e (some k) hgo]
        exact ih dd' h
  · obtain ⟨dm, var, _, _, _, hpk, _, e, _⟩ := buildLoop_prefix_trace cfg k fuel dd h1 h2
    rw [e]
    exact ⟨rfl, hpk⟩

theorem buildLoop_setPolls (cfg : Cfg S K) :
    ∀ (fuel : Nat) (dd : DD S K) (q : Nat), ∃ q', buildLoop cfg none fuel { dd with polls := q } =
      ({ (buildLoop cfg none fuel dd).1 with polls := q' }, (buildLoop cfg none fuel dd).2) := by
  intro fuel
  induction fuel with
  | zero => intro dd q; exact ⟨q, rfl⟩
  | succ fuel ih =>
    intro dd q
    cases hnv : cfg.P.nextVar dd.depth (dd.next.map (·.state)) with
    | none =>
      rw [buildLoop_stop cfg none fuel dd hnv, buildLoop_stop cfg none fuel { dd with polls := q } hnv]
      exact ⟨q, rfl⟩
    | some var =>
      rw [buildLoop_step cfg fuel dd var hnv, buildLoop_step cfg fuel { dd with polls := q } var hnv]
      have e : tick { dd with polls := q } var = { tick dd var with polls := q + 1 } := rfl
      rw [e, stepLayer_setPolls]
      generalize stepLayer cfg (tick dd var) var = r
      obtain ⟨o, oc⟩ := r
      cases o with
      | none => exact ⟨q + 1, rfl⟩
      | some dd' =>
        cases oc with
        | ok => exact ih dd' (q + 1)
        | cutoff => exact ⟨q + 1, rfl⟩
        | crash => exact ⟨q + 1, rfl⟩

theorem compile_polls (cfg : Cfg S K) (cache : Cache S) (store : DomStore S K) (p : Nat) (stopAt : Option Nat) :
    (compile cfg cache store p stopAt).2.1.polls = (buildLoop cfg stopAt (cfg.P.nbVars + 2) (initDD cfg cache store p)).1.polls := by
  unfold compile
  generalize buildLoop cfg stopAt (cfg.P.nbVars + 2) (initDD cfg cache store p) = bl
  obtain ⟨dd, oc⟩ := bl
  cases oc <;> rfl

theorem compile_polls_mono (cfg : Cfg S K) (cache : Cache S) (store : DomStore S K) (p : Nat) (stopAt : Option Nat) :
    p ≤ (compile cfg cache store p stopAt).2.1.polls := by
  rw [compile_polls]
  exact buildLoop_polls_mono cfg stopAt _ (initDD cfg cache store p)

theorem compile_none_ne_cutoff (cfg : Cfg S K) (cache : Cache S) (store : DomStore S K) (p : Nat) :
    (compile cfg cache store p none).1 ≠ .cutoff := by
  rw [compile_fst]
  exact buildLoop_none_ne_cutoff cfg _ _

theorem compile_prefix (cfg : Cfg S K) (cache : Cache S) (store : DomStore S K) (p k : Nat) :
    ((compile cfg cache store p none).2.1.polls < k → compile cfg cache store p (some k) = compile cfg cache store p none) ∧
    (p < k → k ≤ (compile cfg cache store p none).2.1.polls →
      (compile cfg cache store p (some k)).1 = .cutoff ∧ (compile cfg cache store p (some k)).2.1.polls = k) := by
  obtain ⟨h1, h2⟩ := buildLoop_prefix cfg k (cfg.P.nbVars + 2) (initDD cfg cache store p)
  rw [compile_polls, compile_polls, compile_fst]
  refine ⟨fun h => ?_, fun hp hk => h2 hp hk⟩
  unfold compile
  rw [h1 h]

theorem compile_polls_irrel (cfg : Cfg S K) (cache : Cache S) (store : DomStore S K) (p q : Nat) :
    (compile cfg cache store p none).1 = (compile cfg cache store q none).1 ∧
    toOut (compile cfg cache store p none).2.1 = toOut (compile cfg cache store q none).2.1 := by
  have e : initDD cfg cache store p = { initDD cfg cache store q with polls := p } := rfl
  obtain ⟨q', hq⟩ := buildLoop_setPolls cfg (cfg.P.nbVars + 2) (initDD cfg cache store q) p
  unfold compile
  rw [e, hq]
  generalize buildLoop cfg none (cfg.P.nbVars + 2) (initDD cfg cache store q) = bl
  obtain ⟨dd, oc⟩ := bl
  cases oc
  · exact ⟨rfl, rfl⟩
  · exact ⟨rfl, rfl⟩
  · exact ⟨rfl, rfl⟩

end Diagram

/-- the answer of a compilation as `process_one_node` reads it; a compilation that does not end normally (cutoff — or a panic,
    which the loop below turns into a stop before the answer is looked at) stops `process_one_node` -/
def resOf (c : Outcome × Result S × Option (Result S) × DD S Unit) : DDRes S :=
  match c.1 with
  | .ok => .ok (toOut c.2.1)
  | _ => .cutoff

/-- a compilation of the solver: `EmptyCache`, no dominance checker, entered with `p` polls, cutoff firing at the `k`-th poll
    (`none` = `NoCutoff`) -/
def _root_.Ddo.C01.SolverCfg.comp (sv : SolverCfg S) (k : Option Nat) (ct : CompType) (p : Nat) (N : SubP S) (lb : Int) :
    Outcome × Result S × Option (Result S) × DD S Unit :=
  compile (sv.cfg ct N lb) (Cache.init sv.P.nbVars) (DomStore.init sv.P.nbVars) p k

/-- the restricted compilation of `N` from the popped state `st`, and the relaxed one (entered with the polls the restricted one
    returned and the incumbent it left) -/
def _root_.Ddo.C01.SolverCfg.cR (sv : SolverCfg S) (k : Option Nat) (st : SeqSt S) (N : SubP S) (p : Nat) :=
  sv.comp k .restricted p N st.bestLb
def _root_.Ddo.C01.SolverCfg.cX (sv : SolverCfg S) (k : Option Nat) (st : SeqSt S) (N : SubP S) (p : Nat) :=
  sv.comp k .relaxed (sv.cR k st N p).2.1.polls N (st.updateBest (toOut (sv.cR k st N p).2.1)).bestLb

/-- `process_one_node(N)` from the popped state `st`, `p` polls so far: the new state and the new poll count (the polls of the
    compilations that were actually started: `process` says how many) -/
def _root_.Ddo.C01.SolverCfg.cutTurn (sv : SolverCfg S) (k : Option Nat) (st : SeqSt S) (N : SubP S) (p : Nat) : SeqSt S × Nat :=
  ((st.process sv.dedup N true (resOf (sv.cR k st N p)) (resOf (sv.cX k st N p))).1,
   match (st.process sv.dedup N true (resOf (sv.cR k st N p)) (resOf (sv.cX k st N p))).2 with
   | 0 => p
   | 1 => (sv.cR k st N p).2.1.polls
   | _ => (sv.cX k st N p).2.1.polls)

/-- a compilation that was started panicked -/
def _root_.Ddo.C01.SolverCfg.cutCrash (sv : SolverCfg S) (k : Option Nat) (st : SeqSt S) (N : SubP S) (p : Nat) : Bool :=
  (decide (1 ≤ (st.process sv.dedup N true (resOf (sv.cR k st N p)) (resOf (sv.cX k st N p))).2) &&
      decide ((sv.cR k st N p).1 = .crash)) ||
  (decide ((st.process sv.dedup N true (resOf (sv.cR k st N p)) (resOf (sv.cX k st N p))).2 = 2) &&
      decide ((sv.cX k st N p).1 = .crash))

/-- **the loop of `maximize` with a cutoff**, as a function of the fuel: like `C01.SolverCfg.solveLoop`, with the poll counter
    threaded through all compilations and the cutoff answering "stop" from its `k`-th poll on (`k = none`: `NoCutoff`).
    A cut-off `process_one_node` calls `abort_search`, which empties the fringe: the loop then stops by itself. -/
def _root_.Ddo.C01.SolverCfg.solveCut (sv : SolverCfg S) (k : Option Nat) : Nat → SeqSt S × Nat → SeqSt S × Nat
  | 0, sp => sp
  | n + 1, sp =>
    match popMax sp.1.fringe with
    | none => sp
    | some (N, rest) =>
      if sv.cutCrash k (popped sp.1 N rest (cleanLoop sv.P.nbVars sp.1.openByLayer sv.P.nbVars sp.1.firstActive)) N sp.2 then
        -- a panic: the loop stops; what is returned is the state before the pop (as `solveLoop` does) and the polls made so far
        (sp.1, (sv.cutTurn k (popped sp.1 N rest (cleanLoop sv.P.nbVars sp.1.openByLayer sv.P.nbVars sp.1.firstActive)) N sp.2).2)
      else sv.solveCut k n
        (sv.cutTurn k (popped sp.1 N rest (cleanLoop sv.P.nbVars sp.1.openByLayer sv.P.nbVars sp.1.firstActive)) N sp.2)

/-- what `maximize` leaves behind once the loop has ended (empty fringe): `get_workload` finds the fringe empty and sets
    `best_ub := best_lb` — unless the search was aborted, in which case the loop `break`s without calling `get_workload` again -/
def finish (s : SeqSt S) : SeqSt S := if s.abort then s else s.complete

theorem resOf_ok (c : Outcome × Result S × Option (Result S) × DD S Unit) (h : c.1 = .ok) : resOf c = .ok (toOut c.2.1) := by
  unfold resOf; rw [h]
theorem resOf_not_ok (c : Outcome × Result S × Option (Result S) × DD S Unit) (h : c.1 ≠ .ok) : resOf c = .cutoff := by
  unfold resOf
  split
  · next e => exact absurd e h
  · rfl

/-- the state in which the run cut at poll `k` ends when that poll falls into the turn of `N` (popped state `st`, `p` polls
    before): `abort_search` on the popped state — after the incumbent update of the restricted diagram if the poll falls into the
    relaxed compilation -/
def _root_.Ddo.C01.SolverCfg.abortAt (sv : SolverCfg S) (st : SeqSt S) (N : SubP S) (p k : Nat) : SeqSt S :=
  (if k ≤ (sv.cR none st N p).2.1.polls then st else st.updateBest (toOut (sv.cR none st N p).2.1)).abortSearch

theorem cR_prefix (sv : SolverCfg S) (st : SeqSt S) (N : SubP S) (p k : Nat) :
    ((sv.cR none st N p).2.1.polls < k → sv.cR (some k) st N p = sv.cR none st N p) ∧
    (p < k → k ≤ (sv.cR none st N p).2.1.polls → (sv.cR (some k) st N p).1 = .cutoff ∧ (sv.cR (some k) st N p).2.1.polls = k) :=
  compile_prefix _ _ _ p k

theorem cX_prefix (sv : SolverCfg S) (st : SeqSt S) (N : SubP S) (p k : Nat) (hR : sv.cR (some k) st N p = sv.cR none st N p) :
    ((sv.cX none st N p).2.1.polls < k → sv.cX (some k) st N p = sv.cX none st N p) ∧
    ((sv.cR none st N p).2.1.polls < k → k ≤ (sv.cX none st N p).2.1.polls →
      (sv.cX (some k) st N p).1 = .cutoff ∧ (sv.cX (some k) st N p).2.1.polls = k) := by
  unfold SolverCfg.cX
  rw [hR]
  exact compile_prefix _ _ _ _ k

theorem cR_le_cX (sv : SolverCfg S) (k : Option Nat) (st : SeqSt S) (N : SubP S) (p : Nat) :
    (sv.cR k st N p).2.1.polls ≤ (sv.cX k st N p).2.1.polls := compile_polls_mono _ _ _ _ _

theorem p_le_cR (sv : SolverCfg S) (k : Option Nat) (st : SeqSt S) (N : SubP S) (p : Nat) :
    p ≤ (sv.cR k st N p).2.1.polls := compile_polls_mono _ _ _ _ _

theorem cutTurn_pruned (sv : SolverCfg S) (k : Option Nat) (st : SeqSt S) (N : SubP S) (p : Nat) (h : N.ub ≤ st.bestLb) :
    sv.cutTurn k st N p = (st, p) ∧ sv.cutCrash k st N p = false := by
  unfold SolverCfg.cutTurn SolverCfg.cutCrash
  rw [SeqSt.process_pruned _ _ _ _ _ _ h]
  exact ⟨rfl, rfl⟩

theorem cutTurn_stopR (sv : SolverCfg S) (k : Option Nat) (st : SeqSt S) (N : SubP S) (p : Nat) (st' : SeqSt S)
    (h : ∀ x, st.process sv.dedup N true (resOf (sv.cR k st N p)) x = (st', 1)) :
    sv.cutTurn k st N p = (st', (sv.cR k st N p).2.1.polls) ∧
    sv.cutCrash k st N p = decide ((sv.cR k st N p).1 = .crash) := by
  unfold SolverCfg.cutTurn SolverCfg.cutCrash
  rw [h]
  exact ⟨rfl, by simp⟩

theorem cutTurn_both (sv : SolverCfg S) (k : Option Nat) (st : SeqSt S) (N : SubP S) (p : Nat)
    (h : (st.process sv.dedup N true (resOf (sv.cR k st N p)) (resOf (sv.cX k st N p))).2 = 2) :
    sv.cutTurn k st N p =
      ((st.process sv.dedup N true (resOf (sv.cR k st N p)) (resOf (sv.cX k st N p))).1, (sv.cX k st N p).2.1.polls) ∧
    sv.cutCrash k st N p = (decide ((sv.cR k st N p).1 = .crash) || decide ((sv.cX k st N p).1 = .crash)) := by
  unfold SolverCfg.cutTurn SolverCfg.cutCrash
  rw [h]
  exact ⟨rfl, by simp⟩

theorem cutTurn_none_cases (sv : SolverCfg S) (st : SeqSt S) (N : SubP S) (p : Nat) :
    N.ub ≤ st.bestLb ∨
    (¬ N.ub ≤ st.bestLb ∧
      ((sv.cR none st N p).1 = .crash ∨ ((sv.cR none st N p).1 = .ok ∧ (toOut (sv.cR none st N p).2.1).isExact = true)) ∧
      ∃ st', ∀ x, st.process sv.dedup N true (resOf (sv.cR none st N p)) x = (st', 1)) ∨
    (¬ N.ub ≤ st.bestLb ∧ (sv.cR none st N p).1 = .ok ∧ (toOut (sv.cR none st N p).2.1).isExact = false ∧
      ∀ x, (st.process sv.dedup N true (resOf (sv.cR none st N p)) x).2 = 2) := by
  by_cases hpr : N.ub ≤ st.bestLb
  · exact Or.inl hpr
  · cases hoR : (sv.cR none st N p).1 with
    | cutoff => exact absurd hoR (compile_none_ne_cutoff _ _ _ _)
    | crash =>
      refine Or.inr (Or.inl ⟨hpr, Or.inl rfl, st.abortSearch, fun x => ?_⟩)
      rw [resOf_not_ok _ (by rw [hoR]; exact nofun)]
      exact SeqSt.process_cutR _ _ _ _ hpr
    | ok =>
      rw [resOf_ok _ hoR]
      cases hex : (toOut (sv.cR none st N p).2.1).isExact with
      | true => exact Or.inr (Or.inl ⟨hpr, Or.inr ⟨rfl, rfl⟩, _, fun x => SeqSt.process_exactR _ _ _ _ _ hpr hex⟩)
      | false =>
        refine Or.inr (Or.inr ⟨hpr, rfl, rfl, fun x => ?_⟩)
        cases x with
        | cutoff => rw [SeqSt.process_cutX _ _ _ _ hpr hex]
        | ok x => cases hx : x.isExact with
          | true => rw [SeqSt.process_exactX _ _ _ _ _ hpr hex hx]
          | false => rw [SeqSt.process_enqueue _ _ _ _ _ hpr hex hx]

/-- **closed form of a turn of the run cut at poll `k`**, in terms of the same turn of the uninterrupted run (`p'` = the polls after it):
    `p' < k` — not affected; `k ≤ p'` — cut off: the new state is `abortAt`, the poll count `k` -/
theorem cutTurn_closed (sv : SolverCfg S) (st : SeqSt S) (N : SubP S) (p k : Nat) (hp : p < k) :
    ((sv.cutTurn none st N p).2 < k →
      sv.cutTurn (some k) st N p = sv.cutTurn none st N p ∧ sv.cutCrash (some k) st N p = sv.cutCrash none st N p) ∧
    (k ≤ (sv.cutTurn none st N p).2 →
      sv.cutTurn (some k) st N p = (sv.abortAt st N p k, k) ∧ sv.cutCrash (some k) st N p = false ∧ ¬ N.ub ≤ st.bestLb) := by
  obtain ⟨hRa, hRb⟩ := cR_prefix sv st N p k
  have hle := cR_le_cX sv none st N p
  -- the restricted compilation is cut off
  have cutR : ¬ N.ub ≤ st.bestLb → k ≤ (sv.cR none st N p).2.1.polls →
      sv.cutTurn (some k) st N p = (sv.abortAt st N p k, k) ∧ sv.cutCrash (some k) st N p = false := by
    intro hpr hk
    obtain ⟨h1, h2⟩ := hRb hp hk
    obtain ⟨e1, e2⟩ := cutTurn_stopR sv (some k) st N p st.abortSearch (fun x => by
      rw [resOf_not_ok _ (by rw [h1]; exact nofun)]; exact SeqSt.process_cutR _ _ _ _ hpr)
    rw [e1, e2, h1, h2]
    unfold SolverCfg.abortAt
    rw [if_pos hk]
    exact ⟨rfl, rfl⟩
  rcases cutTurn_none_cases sv st N p with hpr | ⟨hpr, _, st', hst⟩ | ⟨hpr, hoR, hex, h2⟩
  · have e := fun k => cutTurn_pruned sv k st N p hpr
    rw [(e none).1, (e none).2, (e (some k)).1, (e (some k)).2]
    exact ⟨fun _ => ⟨rfl, rfl⟩, fun h => absurd h (Nat.not_le_of_lt hp)⟩
  · obtain ⟨e1, e2⟩ := cutTurn_stopR sv none st N p st' hst
    rw [e1, e2]
    refine ⟨fun hlt => ?_, fun hk => ⟨(cutR hpr hk).1, (cutR hpr hk).2, hpr⟩⟩
    have hR := hRa hlt
    obtain ⟨e1', e2'⟩ := cutTurn_stopR sv (some k) st N p st' (hR ▸ hst)
    rw [e1', e2', hR]
    exact ⟨rfl, rfl⟩
  · obtain ⟨e1, e2⟩ := cutTurn_both sv none st N p (h2 _)
    rw [e1, e2]
    refine ⟨fun hlt => ?_, fun hk => ?_⟩
    · have hR := hRa (Nat.lt_of_le_of_lt hle hlt)
      obtain ⟨e1', e2'⟩ := cutTurn_both sv (some k) st N p (hR ▸ h2 _)
      rw [e1', e2', hR, (cX_prefix sv st N p k hR).1 hlt]
      exact ⟨rfl, rfl⟩
    · by_cases hkR : k ≤ (sv.cR none st N p).2.1.polls
      · exact ⟨(cutR hpr hkR).1, (cutR hpr hkR).2, hpr⟩
      · have hR := hRa (Nat.lt_of_not_le hkR)
        obtain ⟨h1, h2'⟩ := (cX_prefix sv st N p k hR).2 (Nat.lt_of_not_le hkR) hk
        obtain ⟨e1', e2'⟩ := cutTurn_both sv (some k) st N p (hR ▸ h2 _)
        rw [e1', e2', h2', h1, hR, hoR, resOf_ok _ hoR, resOf_not_ok _ (by rw [h1]; exact nofun),
          SeqSt.process_cutX _ _ _ _ hpr hex]
        unfold SolverCfg.abortAt
        rw [if_neg hkR]
        exact ⟨rfl, rfl, hpr⟩

/-- **where the `k`-th poll falls**, when it falls into the turn of `N`: into the restricted compilation, or — that one being then exactly
    the uninterrupted one — into the relaxed one -/
theorem cut_poll_location (sv : SolverCfg S) (st : SeqSt S) (N : SubP S) (p k : Nat) (hp : p < k)
    (hk : k ≤ (sv.cutTurn none st N p).2) :
    (k ≤ (sv.cR none st N p).2.1.polls ∧ (sv.cR (some k) st N p).1 = .cutoff ∧ (sv.cR (some k) st N p).2.1.polls = k) ∨
    ((sv.cR none st N p).2.1.polls < k ∧ k ≤ (sv.cX none st N p).2.1.polls ∧ sv.cR (some k) st N p = sv.cR none st N p ∧
      (sv.cR none st N p).1 = .ok ∧ (toOut (sv.cR none st N p).2.1).isExact = false ∧
      (sv.cX (some k) st N p).1 = .cutoff ∧ (sv.cX (some k) st N p).2.1.polls = k) := by
  obtain ⟨hRa, hRb⟩ := cR_prefix sv st N p k
  by_cases hkR : k ≤ (sv.cR none st N p).2.1.polls
  · exact Or.inl ⟨hkR, hRb hp hkR⟩
  · rcases cutTurn_none_cases sv st N p with hpr | ⟨_, _, st', hst⟩ | ⟨_, hok, hex, h2⟩
    · rw [(cutTurn_pruned sv none st N p hpr).1] at hk
      exact absurd hk (Nat.not_le_of_lt hp)
    · rw [(cutTurn_stopR sv none st N p st' hst).1] at hk
      exact absurd hk hkR
    · rw [(cutTurn_both sv none st N p (h2 _)).1] at hk
      have hR := hRa (Nat.lt_of_not_le hkR)
      exact Or.inr ⟨Nat.lt_of_not_le hkR, hk, hR, hok, hex, (cX_prefix sv st N p k hR).2 (Nat.lt_of_not_le hkR) hk⟩

def _root_.Ddo.C01.SolverCfg.pop (sv : SolverCfg S) (s : SeqSt S) (N : SubP S) (rest : List (SubP S)) : SeqSt S :=
  popped s N rest (cleanLoop sv.P.nbVars s.openByLayer sv.P.nbVars s.firstActive)

theorem solveCut_succ (sv : SolverCfg S) (k : Option Nat) (n : Nat) (sp : SeqSt S × Nat) (N : SubP S) (rest : List (SubP S))
    (h : popMax sp.1.fringe = some (N, rest)) :
    sv.solveCut k (n + 1) sp =
      if sv.cutCrash k (sv.pop sp.1 N rest) N sp.2 then (sp.1, (sv.cutTurn k (sv.pop sp.1 N rest) N sp.2).2)
      else sv.solveCut k n (sv.cutTurn k (sv.pop sp.1 N rest) N sp.2) := by
  conv => lhs; unfold SolverCfg.solveCut
  simp only [h]
  rfl

theorem solveCut_nil (sv : SolverCfg S) (k : Option Nat) (n : Nat) (sp : SeqSt S × Nat) (h : sp.1.fringe = []) :
    sv.solveCut k n sp = sp := by
  cases n with
  | zero => rfl
  | succ n =>
    unfold SolverCfg.solveCut
    rw [h]
    rfl

/-- one turn of the run cut at poll `k`: the same turn of the uninterrupted run while that ends with fewer than `k` polls, else the end, in `abortAt` -/
theorem solveCut_cut_step (sv : SolverCfg S) (k n : Nat) (sp : SeqSt S × Nat) (N : SubP S) (rest : List (SubP S))
    (hpm : popMax sp.1.fringe = some (N, rest)) (hp : sp.2 < k) :
    ((sv.cutTurn none (sv.pop sp.1 N rest) N sp.2).2 < k ∧
      sv.cutTurn (some k) (sv.pop sp.1 N rest) N sp.2 = sv.cutTurn none (sv.pop sp.1 N rest) N sp.2 ∧
      sv.cutCrash (some k) (sv.pop sp.1 N rest) N sp.2 = sv.cutCrash none (sv.pop sp.1 N rest) N sp.2 ∧
      sv.solveCut (some k) (n + 1) sp =
        if sv.cutCrash none (sv.pop sp.1 N rest) N sp.2 then (sp.1, (sv.cutTurn none (sv.pop sp.1 N rest) N sp.2).2)
        else sv.solveCut (some k) n (sv.cutTurn none (sv.pop sp.1 N rest) N sp.2)) ∨
    (k ≤ (sv.cutTurn none (sv.pop sp.1 N rest) N sp.2).2 ∧ ¬ N.ub ≤ (sv.pop sp.1 N rest).bestLb ∧
      sv.solveCut (some k) (n + 1) sp = (sv.abortAt (sv.pop sp.1 N rest) N sp.2 k, k)) := by
  obtain ⟨c1, c2⟩ := cutTurn_closed sv (sv.pop sp.1 N rest) N sp.2 k hp
  rw [solveCut_succ sv (some k) n sp N rest hpm]
  by_cases hlt : (sv.cutTurn none (sv.pop sp.1 N rest) N sp.2).2 < k
  · obtain ⟨e1, e2⟩ := c1 hlt
    exact Or.inl ⟨hlt, e1, e2, by rw [e1, e2]⟩
  · obtain ⟨e1, e2, hnp⟩ := c2 (Nat.le_of_not_lt hlt)
    refine Or.inr ⟨Nat.le_of_not_lt hlt, hnp, ?_⟩
    rw [e1, e2, if_neg Bool.false_ne_true]
    exact solveCut_nil sv _ _ _ rfl

theorem popMax_none (l : List (SubP S)) (h : popMax l = none) : l = [] := popMax_eq_none h

theorem solveCut_stable (sv : SolverCfg S) (k : Option Nat) :
    ∀ (n : Nat) (sp : SeqSt S × Nat), (sv.solveCut k n sp).1.fringe = [] → ∀ m, n ≤ m → sv.solveCut k m sp = sv.solveCut k n sp := by
  intro n
  induction n with
  | zero =>
    intro sp h m _
    exact solveCut_nil sv k m sp h
  | succ n ih =>
    intro sp h m hm
    obtain ⟨m', rfl⟩ := Nat.exists_eq_add_of_lt hm
    cases hp : popMax sp.1.fringe with
    | none =>
      have := popMax_none _ hp
      rw [solveCut_nil sv k _ sp this, solveCut_nil sv k _ sp this]
    | some Nr =>
      obtain ⟨N, rest⟩ := Nr
      rw [solveCut_succ sv k n sp N rest hp] at h ⊢
      rw [solveCut_succ sv k _ sp N rest hp]
      by_cases hc : sv.cutCrash k (sv.pop sp.1 N rest) N sp.2 = true
      · rw [if_pos hc, if_pos hc]
      · rw [if_neg hc] at h ⊢
        rw [if_neg hc]
        exact ih _ h _ (Nat.le_add_right n m')

theorem cutTurn_polls_mono (sv : SolverCfg S) (k : Option Nat) (st : SeqSt S) (N : SubP S) (p : Nat) :
    p ≤ (sv.cutTurn k st N p).2 := by
  have h1 := p_le_cR sv k st N p
  have h2 := cR_le_cX sv k st N p
  unfold SolverCfg.cutTurn
  simp only
  split
  · exact Nat.le_refl _
  · exact h1
  · exact Nat.le_trans h1 h2

theorem solveCut_polls_mono (sv : SolverCfg S) (k : Option Nat) :
    ∀ (n : Nat) (sp : SeqSt S × Nat), sp.2 ≤ (sv.solveCut k n sp).2 := by
  intro n
  induction n with
  | zero => intro sp; exact Nat.le_refl _
  | succ n ih =>
    intro sp
    cases hp : popMax sp.1.fringe with
    | none => rw [solveCut_nil sv k _ sp (popMax_none _ hp)]; exact Nat.le_refl _
    | some Nr =>
      obtain ⟨N, rest⟩ := Nr
      rw [solveCut_succ sv k n sp N rest hp]
      have h1 := cutTurn_polls_mono sv k (sv.pop sp.1 N rest) N sp.2
      split
      · exact h1
      · exact Nat.le_trans h1 (ih _)

theorem solveCut_eq_of_lt (sv : SolverCfg S) (k : Nat) :
    ∀ (n : Nat) (sp : SeqSt S × Nat), (sv.solveCut none n sp).2 < k → sv.solveCut (some k) n sp = sv.solveCut none n sp := by
  intro n
  induction n with
  | zero => intro sp _; rfl
  | succ n ih =>
    intro sp h
    cases hp : popMax sp.1.fringe with
    | none =>
      have := popMax_none _ hp
      rw [solveCut_nil sv _ _ sp this, solveCut_nil sv _ _ sp this]
    | some Nr =>
      obtain ⟨N, rest⟩ := Nr
      have h1 := cutTurn_polls_mono sv none (sv.pop sp.1 N rest) N sp.2
      rw [solveCut_succ sv none n sp N rest hp] at h ⊢
      rw [solveCut_succ sv (some k) n sp N rest hp]
      have hlt : (sv.cutTurn none (sv.pop sp.1 N rest) N sp.2).2 < k := by
        split at h
        · exact h
        · exact Nat.lt_of_le_of_lt (solveCut_polls_mono sv none n _) h
      obtain ⟨e1, e2⟩ := (cutTurn_closed sv (sv.pop sp.1 N rest) N sp.2 k (Nat.lt_of_le_of_lt h1 hlt)).1 hlt
      rw [e1, e2]
      split
      · rfl
      · next hc =>
        rw [if_neg hc] at h
        exact ih _ h

end Ddo.C19
