import DdoModel.Proofs.ThetaPass
import DdoModel.Proofs.CutsetPasses
/-! What `finalize` does to the layers of a relaxed compilation, pass by pass, whatever built them.  Each pass writes its own
    fields (`EqUp f`: position-wise equality up to the node map `f`; it is `MapEq f` of `MddExact.lean`, whose lemmas apply to it as
    they are), so a position holds "the same node" in the built diagram and after each of the three passes (`Corr`).  On top of that:
    the thresholds in pull form and the node behind a sub-problem that is handed out, read on `finalize`; and the converse of
    `computeLocalBounds_good` (a marked node sits in the last layer or is the source of an inbound arc). -/
set_option linter.unusedSectionVars false
set_option linter.unusedVariables false
namespace Ddo.Theta
open Ddo Ddo.Bounds
variable {S : Type} [DecidableEq S]

def EqUp (f : Node S → Node S) (ls ls' : List (List (Node S))) : Prop := ls.map (List.map f) = ls'.map (List.map f)

def stripC (n : Node S) : Node S := { n with cutset := false, above := false }
def stripL (n : Node S) : Node S := { n with vbot := 0, marked := false }


theorem EqUp.refl (f : Node S → Node S) (ls : List (List (Node S))) : EqUp f ls ls := rfl
theorem EqUp.trans {f : Node S → Node S} {a b c : List (List (Node S))} (h1 : EqUp f a b) (h2 : EqUp f b c) : EqUp f a c :=
  Eq.trans h1 h2

theorem EqUp.length {f : Node S → Node S} {ls ls0 : List (List (Node S))} (h : EqUp f ls ls0) : ls.length = ls0.length :=
  MapEq.length h

theorem EqUp.getNode_some {f : Node S → Node S} {ls ls0 : List (List (Node S))} (h : EqUp f ls ls0) {l p : Nat} {n : Node S}
    (hn : getNode ls l p = some n) : ∃ n0, getNode ls0 l p = some n0 ∧ f n0 = f n :=
  MapEq.getNode_some h hn

theorem EqUp.symm {f : Node S → Node S} {a b : List (List (Node S))} (h : EqUp f a b) : EqUp f b a := Eq.symm h

theorem stripC_fields {a b : Node S} (h : stripC a = stripC b) :
    a.state = b.state ∧ a.value = b.value ∧ a.vbot = b.vbot ∧ a.best = b.best ∧ a.inb = b.inb ∧ a.rub = b.rub ∧
    a.theta = b.theta ∧ a.fExact = b.fExact ∧ a.fRelaxed = b.fRelaxed ∧ a.marked = b.marked ∧ a.deleted = b.deleted ∧
    a.cache = b.cache ∧ a.depth = b.depth := by
  exact ⟨(congrArg Node.state h :), (congrArg Node.value h :), (congrArg Node.vbot h :), (congrArg Node.best h :), (congrArg Node.inb h :),
    (congrArg Node.rub h :), (congrArg Node.theta h :), (congrArg Node.fExact h :), (congrArg Node.fRelaxed h :), (congrArg Node.marked h :),
    (congrArg Node.deleted h :), (congrArg Node.cache h :), (congrArg Node.depth h :)⟩

theorem stripL_fields {a b : Node S} (h : stripL a = stripL b) :
    a.state = b.state ∧ a.value = b.value ∧ a.best = b.best ∧ a.inb = b.inb ∧ a.rub = b.rub ∧
    a.theta = b.theta ∧ a.fExact = b.fExact ∧ a.fRelaxed = b.fRelaxed ∧ a.cutset = b.cutset ∧ a.deleted = b.deleted ∧
    a.cache = b.cache ∧ a.above = b.above ∧ a.depth = b.depth := by
  exact ⟨(congrArg Node.state h :), (congrArg Node.value h :), (congrArg Node.best h :), (congrArg Node.inb h :), (congrArg Node.rub h :),
    (congrArg Node.theta h :), (congrArg Node.fExact h :), (congrArg Node.fRelaxed h :), (congrArg Node.cutset h :), (congrArg Node.deleted h :),
    (congrArg Node.cache h :), (congrArg Node.above h :), (congrArg Node.depth h :)⟩

theorem computeCutset_eqC (kind : CutsetKind) (lel : Nat) (layers : List (List (Node S))) :
    EqUp stripC (computeCutset kind lel layers).1 layers :=
  computeCutset_mapEq stripC (fun _ _ _ => rfl) kind lel layers

theorem computeLocalBounds_eqL (layers : List (List (Node S))) : EqUp stripL (computeLocalBounds layers) layers :=
  computeLocalBounds_mapEq stripL (fun _ _ _ => rfl) layers

end Ddo.Theta

#print axioms Ddo.Theta.EqUp.getNode_some
#print axioms Ddo.Theta.stripC_fields
#print axioms Ddo.Theta.stripL_fields
#print axioms Ddo.Theta.computeCutset_eqC
#print axioms Ddo.Theta.computeLocalBounds_eqL

namespace Ddo.Theta
open Ddo Ddo.Bounds
variable {S K : Type} [DecidableEq S] [DecidableEq K]

theorem finalizeLayers_isExactField (dd : DD S K) : (finalizeLayers dd).isExactField = dd.lel.isNone := by
  unfold finalizeLayers
  split <;> rfl

theorem finalize_relaxed (cfg : Cfg S K) (b : Built S K) (e : Bool) (hrel : cfg.ctype = .relaxed) :
    (finalize cfg b e).2 = (computeThresholds cfg.kind b.isExactField cfg.lb (finalize cfg b e).1.bestExactValue b.termL
      (fLayers2 cfg b)).1 ∧
    (finalize cfg b e).1.cacheUpdates = (computeThresholds cfg.kind b.isExactField cfg.lb (finalize cfg b e).1.bestExactValue
      b.termL (fLayers2 cfg b)).2 := by
  have e2 : (cfg.ctype == CompType.relaxed) = true := by rw [hrel]; decide
  unfold finalize fLayers2 fLayers1
  simp only [e2, Bool.true_or, if_true, Bool.and_true]
  trivial

theorem fLayers1_relaxed (cfg : Cfg S K) (b : Built S K) (hrel : cfg.ctype = .relaxed) :
    fLayers1 cfg b = (computeCutset cfg.kind b.lel b.layers).1 := by
  unfold fLayers1
  rw [if_pos (by rw [hrel]; rfl)]

theorem fLayers1_eqC (cfg : Cfg S K) (b : Built S K) : EqUp stripC (fLayers1 cfg b) b.layers := by
  unfold fLayers1
  split
  · exact computeCutset_eqC _ _ _
  · exact EqUp.refl _ _

theorem fLayers2_eqL (cfg : Cfg S K) (b : Built S K) : EqUp stripL (fLayers2 cfg b) (fLayers1 cfg b) := by
  unfold fLayers2
  split
  · exact computeLocalBounds_eqL _
  · exact EqUp.refl _ _

/-- the same node in the four successive diagrams: built (`n0`), after the cut-set (`n1`), after the local bounds (`n2`),
    after the thresholds (`n3`) -/
structure Corr (n0 n1 n2 n3 : Node S) : Prop where
  c01 : stripC n0 = stripC n1
  c12 : stripL n1 = stripL n2
  c23 : stripT n2 = stripT n3

theorem Corr.proj {α : Type} (f : Node S → α) (hC : ∀ n : Node S, f (stripC n) = f n) (hL : ∀ n : Node S, f (stripL n) = f n)
    (hT : ∀ n : Node S, f (stripT n) = f n) {n0 n1 n2 n3 : Node S} (h : Corr n0 n1 n2 n3) : f n3 = f n0 :=
  ((strip_congr stripC f hC h.c01).trans ((strip_congr stripL f hL h.c12).trans (strip_congr stripT f hT h.c23))).symm

theorem Corr.state {n0 n1 n2 n3 : Node S} (h : Corr n0 n1 n2 n3) : n3.state = n0.state :=
  h.proj Node.state (fun _ => rfl) (fun _ => rfl) (fun _ => rfl)
theorem Corr.value {n0 n1 n2 n3 : Node S} (h : Corr n0 n1 n2 n3) : n3.value = n0.value :=
  h.proj Node.value (fun _ => rfl) (fun _ => rfl) (fun _ => rfl)
theorem Corr.inb {n0 n1 n2 n3 : Node S} (h : Corr n0 n1 n2 n3) : n3.inb = n0.inb :=
  h.proj Node.inb (fun _ => rfl) (fun _ => rfl) (fun _ => rfl)
theorem Corr.rub {n0 n1 n2 n3 : Node S} (h : Corr n0 n1 n2 n3) : n3.rub = n0.rub :=
  h.proj Node.rub (fun _ => rfl) (fun _ => rfl) (fun _ => rfl)
theorem Corr.depth {n0 n1 n2 n3 : Node S} (h : Corr n0 n1 n2 n3) : n3.depth = n0.depth :=
  h.proj Node.depth (fun _ => rfl) (fun _ => rfl) (fun _ => rfl)
theorem Corr.deleted {n0 n1 n2 n3 : Node S} (h : Corr n0 n1 n2 n3) : n3.deleted = n0.deleted :=
  h.proj Node.deleted (fun _ => rfl) (fun _ => rfl) (fun _ => rfl)
theorem Corr.cache {n0 n1 n2 n3 : Node S} (h : Corr n0 n1 n2 n3) : n3.cache = n0.cache :=
  h.proj Node.cache (fun _ => rfl) (fun _ => rfl) (fun _ => rfl)
theorem Corr.isExact {n0 n1 n2 n3 : Node S} (h : Corr n0 n1 n2 n3) : n3.isExact = n0.isExact :=
  h.proj Node.isExact (fun _ => rfl) (fun _ => rfl) (fun _ => rfl)
theorem Corr.isExact1 {n0 n1 n2 n3 : Node S} (h : Corr n0 n1 n2 n3) : n1.isExact = n0.isExact :=
  (strip_congr stripC Node.isExact (fun _ => rfl) h.c01).symm
theorem Corr.inb1 {n0 n1 n2 n3 : Node S} (h : Corr n0 n1 n2 n3) : n1.inb = n0.inb := (strip_congr stripC Node.inb (fun _ => rfl) h.c01).symm
/-- the threshold the thresholds pass starts from is the one the top-down build left -/
theorem Corr.theta2 {n0 n1 n2 n3 : Node S} (h : Corr n0 n1 n2 n3) : n2.theta = n0.theta :=
  ((strip_congr stripC Node.theta (fun _ => rfl) h.c01).trans (strip_congr stripL Node.theta (fun _ => rfl) h.c12)).symm
theorem Corr.cutset {n0 n1 n2 n3 : Node S} (h : Corr n0 n1 n2 n3) : n3.cutset = n1.cutset :=
  ((strip_congr stripL Node.cutset (fun _ => rfl) h.c12).trans (strip_congr stripT Node.cutset (fun _ => rfl) h.c23)).symm
theorem Corr.above {n0 n1 n2 n3 : Node S} (h : Corr n0 n1 n2 n3) : n3.above = n1.above :=
  ((strip_congr stripL Node.above (fun _ => rfl) h.c12).trans (strip_congr stripT Node.above (fun _ => rfl) h.c23)).symm

theorem corr_of_L3 (cfg : Cfg S K) (b : Built S K) (e : Bool) {l p : Nat} {n3 : Node S}
    (h : getNode (finalize cfg b e).2 l p = some n3) :
    ∃ n0 n1 n2, getNode b.layers l p = some n0 ∧ getNode (fLayers1 cfg b) l p = some n1 ∧
      getNode (fLayers2 cfg b) l p = some n2 ∧ Corr n0 n1 n2 n3 := by
  obtain ⟨n2, h2, s2⟩ := (finalize_layers_tEq cfg b e).getNode_some h
  obtain ⟨n1, h1, s1⟩ := (fLayers2_eqL cfg b).getNode_some h2
  obtain ⟨n0, h0, s0⟩ := (fLayers1_eqC cfg b).getNode_some h1
  exact ⟨n0, n1, n2, h0, h1, h2, s0, s1, s2⟩

theorem corr_of_L0 (cfg : Cfg S K) (b : Built S K) (e : Bool) {l p : Nat} {n0 : Node S}
    (h : getNode b.layers l p = some n0) :
    ∃ n1 n2 n3, getNode (fLayers1 cfg b) l p = some n1 ∧ getNode (fLayers2 cfg b) l p = some n2 ∧
      getNode (finalize cfg b e).2 l p = some n3 ∧ Corr n0 n1 n2 n3 := by
  obtain ⟨n1, h1, s1⟩ := (fLayers1_eqC cfg b).symm.getNode_some h
  obtain ⟨n2, h2, s2⟩ := (fLayers2_eqL cfg b).symm.getNode_some h1
  obtain ⟨n3, h3, s3⟩ := (finalize_layers_tEq cfg b e).symm.getNode_some h2
  exact ⟨n1, n2, n3, h1, h2, h3, s1.symm, s2.symm, s3.symm⟩

theorem getNode_set_other (ls : List (List (Node S))) (tl : Nat) (ly : List (Node S)) (l p : Nat) (hl : l ≠ tl) :
    getNode (ls.set tl ly) l p = getNode ls l p := by
  unfold getNode
  rw [List.getElem?_set_ne (fun h => hl h.symm)]

theorem thInit_other (kind : CutsetKind) (ie : Bool) (lb : Int) (be : Option Int) (termL : Option Nat)
    (layers : List (List (Node S))) (l p : Nat) (hl : ∀ tl, termL = some tl → l ≠ tl) :
    getNode (thInit kind ie lb be termL layers) l p = getNode layers l p := by
  unfold thInit
  split
  · rename_i tl
    exact getNode_set_other _ _ _ _ _ (hl tl rfl)
  · rfl

theorem thInit_term (kind : CutsetKind) (ie : Bool) (lb : Int) (w : Int) (tl : Nat)
    (layers : List (List (Node S))) (p : Nat) (n : Node S) (hn : getNode layers tl p = some n)
    (hc : ((kind == .lel && ie) || (kind == .frontier && n.isExact)) = true) :
    getNode (thInit kind ie lb (some w) (some tl) layers) tl p = some { n with theta := some (bkOf lb (some w)) } := by
  unfold thInit
  dsimp only
  obtain ⟨ly, hly, hp⟩ := Cover.getNode_lt hn
  have hlt := Cover.lt_of_getElem?_some hly
  unfold getNode
  rw [List.getElem?_set_self hlt]
  dsimp only
  rw [hly, Option.getD_some, List.getElem?_map, hp]
  simp only [Option.map_some, hc, if_true]

theorem fLayers2_arcs (cfg : Cfg S K) (p0 : List Dec) (b : Built S K) (hwf : CutWF cfg p0 b.layers b.lel)
    (l p : Nat) (n : Node S) (h : getNode (fLayers2 cfg b) l p = some n) : ∀ a ∈ n.inb, a.fromL + 1 = l := by
  obtain ⟨n1, h1, s1⟩ := (fLayers2_eqL cfg b).getNode_some h
  obtain ⟨n0, h0, s0⟩ := (fLayers1_eqC cfg b).getNode_some h1
  intro a ha
  refine hwf.arcs l p n0 h0 a ?_
  rw [strip_congr stripC Node.inb (fun _ => rfl) s0, strip_congr stripL Node.inb (fun _ => rfl) s1]
  exact ha

end Ddo.Theta

namespace Ddo.C10c
open Ddo Ddo.Theta Ddo.Bounds
variable {S K : Type} [DecidableEq S] [DecidableEq K]

theorem finalize_spec (cfg : Cfg S K) (p0 : List Dec) (b : Built S K) (hrel : cfg.ctype = .relaxed)
    (hwf : CutWF cfg p0 b.layers b.lel) (e : Bool) :
    (∀ (l p : Nat) (n3 : Node S), getNode (finalize cfg b e).2 l p = some n3 → n3.deleted = false →
      ∃ (n0 : Node S) (θp : Option Int),
        getNode (thInit cfg.kind b.isExactField cfg.lb (finalize cfg b e).1.bestExactValue b.termL (fLayers2 cfg b)) l p =
          some n0 ∧ stripT n0 = stripT n3 ∧
        (∀ t0, n0.theta = some t0 → ∃ tp, θp = some tp ∧ tp ≤ t0) ∧
        (∀ (p' : Nat) (m3 : Node S) (t : Int) (a : Arc), getNode (finalize cfg b e).2 (l + 1) p' = some m3 →
          m3.deleted = false → m3.theta = some t → a ∈ m3.inb → a.fromP = p → ∃ tp, θp = some tp ∧ tp ≤ satSub t a.cost) ∧
        n3.theta = ownTheta (bkOf cfg.lb (finalize cfg b e).1.bestExactValue) n3 θp) ∧
    (∀ u ∈ (finalize cfg b e).1.cacheUpdates, ∃ (l p : Nat) (n3 : Node S), getNode (finalize cfg b e).2 l p = some n3 ∧
      n3.deleted = false ∧ n3.cache = false ∧ n3.above = true ∧
      ∃ t, n3.theta = some t ∧ u = (n3.state, n3.depth, t, !n3.cutset)) := by
  have h := computeThresholds_spec cfg.kind b.isExactField cfg.lb (finalize cfg b e).1.bestExactValue b.termL
    (fLayers2 cfg b) (fLayers2_arcs cfg p0 b hwf)
  obtain ⟨e1, e2⟩ := finalize_relaxed cfg b e hrel
  rw [← e1, ← e2] at h
  exact h



/-- **the node behind a sub-problem handed out by `drain_cutset`** after a relaxed compilation, whatever the filters: marked,
    exact, flagged `cutset`, in a layer `l ≥ 1` that is the last exact layer or has at least two layers after it -/
theorem cutset_node (cfg : Cfg S K) (p0 : List Dec) (b : Built S K) (e : Bool) (hrel : cfg.ctype = .relaxed)
    (hwf : CutWF cfg p0 b.layers b.lel)
    (hfl : ∀ (l p : Nat) (n : Node S), getNode b.layers l p = some n → n.cutset = false ∧ n.above = false)
    (c : SubP S) (hc : c ∈ (finalize cfg b e).1.cutset) :
    ∃ (bv : Int) (l p : Nat) (n3 : Node S), b.bestValue = some bv ∧ getNode (finalize cfg b e).2 l p = some n3 ∧ 1 ≤ l ∧
      (l + 1 < b.layers.length ∨ (l = b.lel ∧ b.lel < b.layers.length)) ∧ n3.marked = true ∧ n3.cutset = true ∧
      n3.isExact = true ∧ c = subOf cfg (finalize cfg b e).2 bv n3 := by
  obtain ⟨bv, lp, n3, hbv, hlp, hn, hmk, hceq⟩ := (finalize_cutset_iff cfg _ e c).1 hc
  have hlp' := fCs_sub cfg _ _ hlp
  obtain ⟨n0', hn0', hex0, hpos⟩ := hwf.cutset_pos lp hlp'
  obtain ⟨n0, n1, n2, hn0, hn1, _, hco⟩ := corr_of_L3 cfg b e hn
  rw [hn0] at hn0'
  cases hn0'
  rw [fLayers1_relaxed cfg _ hrel] at hn1
  have hkey : (lp.1 + 1 < b.layers.length ∨ (lp.1 = b.lel ∧ b.lel < b.layers.length)) ∧ n3.cutset = true := by
    rw [hco.cutset]
    cases hkd : cfg.kind with
    | lel =>
      rw [hkd] at hlp' hn1
      obtain ⟨h1, h2, _⟩ := computeCutset_lel _ _ lp hlp'
      exact ⟨.inr ⟨h1, h2⟩, (computeCutset_lel_flags _ _ hfl lp.1 lp.2 n1 hn1).2.1.mpr h1⟩
    | frontier =>
      rw [hkd] at hlp' hn1
      obtain ⟨n00, hn00, _, l', p', m, a, hm, hmex, ha, hfl', hfp⟩ := computeCutset_frontier _ _ lp hlp'
      have harc := hwf.arcs l' p' m hm a ha
      have hlt := Ddo.getNode_lt hm
      refine ⟨.inl (by omega), ?_⟩
      obtain ⟨m1, hm1, hs⟩ := (computeCutset_eqC cfg.kind b.lel b.layers).symm.getNode_some hm
      rw [hkd] at hm1
      have hf := stripC_fields hs
      have hmex1 : m1.isExact = false := by
        unfold Node.isExact at hmex ⊢
        rw [hf.2.2.2.2.2.2.2.1, hf.2.2.2.2.2.2.2.2.1]; exact hmex
      have ha1 : a ∈ m1.inb := by rw [hf.2.2.2.2.1]; exact ha
      exact (computeCutset_frontier_flags b.lel _ hfl).2 l' p' m1 a n1 hm1 hmex1 ha1
        (by rw [hfl', hfp]; exact hn1) (by rw [hco.isExact1]; exact hex0)
  exact ⟨bv, lp.1, lp.2, n3, hbv, hn, hpos hrel, hkey.1, hmk, hkey.2, by rw [hco.isExact]; exact hex0, hceq⟩

end Ddo.C10c

namespace Ddo.CacheClosed
open Ddo Ddo.Bounds Ddo.Theta
variable {S K : Type} [DecidableEq S] [DecidableEq K]

def Src (LS : List (List (Node S))) (l p : Nat) : Prop :=
  l + 1 = LS.length ∨
  ∃ (l' p' : Nat) (m : Node S) (e : Arc), getNode LS l' p' = some m ∧ e ∈ m.inb ∧ e.fromL = l ∧ e.fromP = p

def MarkOk (LS ls : List (List (Node S))) : Prop :=
  ∀ (l p : Nat) (n : Node S), getNode ls l p = some n → n.marked = true → Src LS l p

theorem lbArc_markOk {LS ls : List (List (Node S))} (h : MarkOk LS ls) (n : Node S) (e : Arc)
    (he : ∃ (l' p' : Nat) (m : Node S), getNode LS l' p' = some m ∧ e ∈ m.inb) : MarkOk LS (lbArc n ls e) := by
  intro l p x hx hmk
  unfold lbArc at hx
  rw [getNode_modNode] at hx
  split at hx
  · rename_i hlp
    obtain ⟨l', p', m, hm, hem⟩ := he
    exact .inr ⟨l', p', m, e, hm, hem, hlp.1.symm, hlp.2.symm⟩
  · exact h l p x hx hmk

theorem lbPos_markOk {LS ls : List (List (Node S))} (hx : XEq ls LS) (h : MarkOk LS ls) (l p : Nat) :
    MarkOk LS (lbPos l ls p) := by
  unfold lbPos
  split
  · exact h
  · rename_i n hn
    split
    · obtain ⟨m, hm, hs⟩ := hx.getNode_some hn
      have hinb : m.inb = n.inb := stripB_inb hs
      exact Ddo.foldl_inv (fun b => MarkOk LS b) _ _ _ h
        (fun b e he hb => lbArc_markOk hb n e ⟨l, p, m, hm, by rw [hinb]; exact he⟩)
    · exact h

theorem lbLayer_markOk {LS ls : List (List (Node S))} (hx : XEq ls LS) (h : MarkOk LS ls) (l : Nat) :
    MarkOk LS (lbLayer ls l) :=
  (Ddo.foldl_inv (fun b => XEq b LS ∧ MarkOk LS b) _ _ _ ⟨hx, h⟩
    (fun b p _ hb => ⟨lbPos_xEq hb.1 l p, lbPos_markOk hb.1 hb.2 l p⟩)).2

theorem computeLocalBounds_marked (LS : List (List (Node S)))
    (hun : ∀ (l p : Nat) (n : Node S), getNode LS l p = some n → n.marked = false) :
    ∀ (l p : Nat) (n : Node S), getNode (computeLocalBounds LS) l p = some n → n.marked = true →
      l + 1 = LS.length ∨
      ∃ (l' p' : Nat) (m : Node S) (e : Arc), getNode LS l' p' = some m ∧ e ∈ m.inb ∧ e.fromL = l ∧ e.fromP = p := by
  rw [computeLocalBounds_eq]
  generalize hL0 : LS.set (LS.length - 1)
    ((LS[LS.length - 1]?.getD []).map (fun n => { n with vbot := 0, marked := true })) = L0
  have hx0 : XEq L0 LS := by rw [← hL0]; exact (XEq.refl LS).set_map _ _ (fun _ => rfl)
  have hm0 : MarkOk LS L0 := by
    intro l p n hn hmk
    have hlt : l < L0.length := Ddo.getNode_lt hn
    rw [hx0.length] at hlt
    by_cases hl : l = LS.length - 1
    · exact .inl (by omega)
    · rw [← hL0, getNode_set_other _ _ _ _ _ hl] at hn
      rw [hun l p n hn] at hmk
      cases hmk
  exact (Ddo.foldl_inv (fun b => XEq b LS ∧ MarkOk LS b) _ _ _ ⟨hx0, hm0⟩
    (fun b l _ hb => ⟨lbLayer_xEq hb.1 l, lbLayer_markOk hb.1 hb.2 l⟩)).2

/-- **marked nodes of `finalize`**: in the layers returned by `finalize` (any compilation type, any resolution of the
    exact-best-path bit), a marked node sits in the last layer or is the source of an inbound arc of some node of the built
    diagram -/
theorem finalize_marked (cfg : Cfg S K) (b : Built S K) (e : Bool)
    (hun : ∀ (l p : Nat) (n : Node S), getNode b.layers l p = some n → n.marked = false)
    (l p : Nat) (n3 : Node S) (h : getNode (finalize cfg b e).2 l p = some n3) (hm : n3.marked = true) :
    l + 1 = b.layers.length ∨
    ∃ (l' p' : Nat) (m : Node S) (a : Arc), getNode b.layers l' p' = some m ∧ a ∈ m.inb ∧ a.fromL = l ∧ a.fromP = p := by
  obtain ⟨n0, n1, n2, h0, h1, h2, hc⟩ := corr_of_L3 cfg b e h
  have hm2 : n2.marked = true := by rw [(stripT_fields hc.c23).2.2.2.2.1]; exact hm
  have hc1 := fLayers1_eqC cfg b
  have hun1 : ∀ (l p : Nat) (n : Node S), getNode (fLayers1 cfg b) l p = some n → n.marked = false := by
    intro l' p' n hn
    obtain ⟨m0, hm0, hs⟩ := hc1.getNode_some hn
    rw [← (stripC_fields hs).2.2.2.2.2.2.2.2.2.1]
    exact hun l' p' m0 hm0
  unfold fLayers2 at h2
  split at h2
  · rcases computeLocalBounds_marked (fLayers1 cfg b) hun1 l p n2 h2 hm2 with hl | ⟨l', p', m, a, hma, ha, hfl, hfp⟩
    · exact .inl (by rw [← hc1.length]; exact hl)
    · obtain ⟨m0, hm0, hs⟩ := hc1.getNode_some hma
      exact .inr ⟨l', p', m0, a, hm0, by rw [(stripC_fields hs).2.2.2.2.1]; exact ha, hfl, hfp⟩
  · rw [hun1 l p n2 h2] at hm2
    cases hm2

end Ddo.CacheClosed

#print axioms Ddo.CacheClosed.computeLocalBounds_marked
#print axioms Ddo.CacheClosed.finalize_marked
