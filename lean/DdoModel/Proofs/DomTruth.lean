import DdoModel.Proofs.CompileJoint
/-! # Relaxed compilations with the dominance checker enabled: soundness of the reported exact value, no crash

The statements of `Proofs/CompileJoint.lean` (any cache, any store, any rule) read at `cfg.dom = some D`, `cfg.useCache = false`:
**`isSol_relaxed_dom`** (`isSol_relaxed_joint`), **`compile_no_crash_dom`** (`compile_no_crash_joint`).  `stepLayer_no_crash_dom`: one step
on a non-empty layer does not crash, from whatever store with the right number of layers (what the loops that take their stores
from elsewhere use, `Proofs/ParDomCompileL.lean`).  `relaxed_isExact_cases` — what `is_exact` means for a relaxed compilation. -/
set_option linter.unusedSectionVars false
set_option linter.unusedVariables false
namespace Ddo.C10
open Ddo Ddo.C01 Ddo.Closed Ddo.Truth
variable {S K : Type} [DecidableEq S] [DecidableEq K]

/-- **soundness of the reported exact value of a relaxed compilation, checker enabled** (`Closed.isSol_relaxed` without
    `cfg.dom = none`; nothing is assumed of the store): the `must` result reports as best exact value the value of the
    reported best exact solution, a complete feasible path through the root sub-problem -/
theorem isSol_relaxed_dom (cfg : Cfg S K) (D : DomRule S K) (hD : cfg.dom = some D) (B : Int) (p0 : List Dec)
    (cache : Cache S) (store : DomStore S K) (polls : Nat)
    (hrel : cfg.ctype = .relaxed) (hcache : cfg.useCache = false) (hW : 1 ≤ cfg.width)
    (hB : NoClamp cfg.P cfg.R cfg.root.value B)
    (hroot : Reach cfg.P cfg.root.depth cfg.root.state cfg.root.value p0)
    (hok : (compile cfg cache store polls none).1 = .ok) (w : Int)
    (hw : (compile cfg cache store polls none).2.1.bestExactValue = some w) :
    IsSol cfg p0 w (compile cfg cache store polls none).2.1.bestExactSol :=
  C10c.isSol_relaxed_joint cfg B p0 cache store polls hrel hW hB hroot hok w hw

/-- `Closed.squash_ne_none` for any layer / list of positions: the only panics of `_squash_if_needed` are a relaxation of
    width 0 and a restriction of the root layer -/
theorem squash_ne_none_gen (cfg : Cfg S K) (dd : DD S K) (layer : List (Node S)) (cur : List Nat) (hW : 1 ≤ cfg.width)
    (hJ : dd.layers = [] → cur.length ≤ 1) : squash cfg dd layer cur ≠ none :=
  Cover.squash_ne_none' cfg dd layer cur hW hJ

/-- one step on a non-empty layer does not crash with the checker enabled: the checker is queried at a depth `< nb_variables` and
    its store keeps its `nb_variables + 1` layers; what the loop needs of the new diagram to go on -/
theorem stepLayer_no_crash_dom (cfg : Cfg S K) (D : DomRule S K) (hD : cfg.dom = some D) (B : Int) (p0 : List Dec)
    (hc : cfg.useCache = false) (hW : 1 ≤ cfg.width) (hNV : NvBound cfg.P)
    (hB : NoClamp cfg.P cfg.R cfg.root.value B) (dd : DD S K) (var : Nat) (hM : MInv cfg B p0 dd)
    (hdepth : dd.depth = cfg.root.depth + dd.layers.length) (hS : dd.store.layers.length = cfg.P.nbVars + 1)
    (hJ : dd.layers = [] → dd.next.length ≤ 1) (hnv : cfg.P.nextVar dd.depth (dd.next.map (·.state)) = some var)
    (hne : dd.next ≠ []) :
    ∃ dd', stepLayer cfg (tick dd var) var = (some dd', .ok) ∧ MInv cfg B p0 dd' ∧
      dd'.depth = cfg.root.depth + dd'.layers.length ∧ dd'.store.layers.length = cfg.P.nbVars + 1 ∧ dd'.layers ≠ [] ∧
      dd'.depth = dd.depth + 1 := by
  have hlt : dd.depth < cfg.P.nbVars := nv_depth_lt hNV hnv
  have hM' : MInv cfg B p0 (tick dd var) := hM.congr rfl rfl
  have hdep : ∀ n ∈ (tick dd var).next, n.isExact = true → n.depth < (tick dd var).store.layers.length := by
    intro n hn he
    obtain ⟨_, _, _, hd, _⟩ := hM.next n hn he
    show n.depth < dd.store.layers.length
    rw [hS, hd, ← hdepth]; exact Nat.lt_succ_of_lt hlt
  obtain ⟨_, f2, f3⟩ := filterDom_weak cfg D hD (tick dd var).store (tick dd var).next
    (List.range (tick dd var).next.length)
  obtain ⟨f4, f5⟩ := f3 hdep
  obtain ⟨s1, s2⟩ := (stepLayer_dom cfg (tick dd var) var hne hc).2 f4
  have hJ' : (tick dd var).layers = [] → (fdOf cfg (tick dd var)).2.1.length ≤ 1 := by
    intro hl
    have := hJ hl
    rw [List.length_range] at f2
    exact Nat.le_trans f2 this
  cases hsq : squash cfg (tick dd var) (fdOf cfg (tick dd var)).1 (fdOf cfg (tick dd var)).2.1 with
  | none => exact absurd hsq (squash_ne_none_gen cfg (tick dd var) _ _ hW hJ')
  | some sq =>
    obtain ⟨dd', e, hl, _, hdp, _, hst, _⟩ := s2 sq hsq
    obtain ⟨m1, m2, _⟩ := Ddo.stepLayer_inv cfg B p0 hB (tick dd var) var hM' hdepth hnv
      (Nat.le_succ_of_le (Nat.le_of_lt (Nat.lt_of_le_of_lt (Nat.le_add_left _ _) (hdepth ▸ hlt)))) dd' .ok e
    exact ⟨dd', e, m1, (m2 rfl).1, by rw [hst]; exact f5.trans hS, by intro h; rw [hl] at h; simp at h, hdp⟩

/-- **no crash, checker enabled**: a compilation without cache, of width ≥ 1, of a sub-problem reached exactly, from a checker
    with `nb_variables + 1` layers (whatever they hold), ends normally (no cutoff) -/
theorem compile_no_crash_dom (cfg : Cfg S K) (D : DomRule S K) (hD : cfg.dom = some D) (B : Int) (p0 : List Dec)
    (cache : Cache S) (store : DomStore S K) (polls : Nat)
    (hc : cfg.useCache = false) (hW : 1 ≤ cfg.width) (hNV : NvBound cfg.P)
    (hB : NoClamp cfg.P cfg.R cfg.root.value B)
    (hroot : Reach cfg.P cfg.root.depth cfg.root.state cfg.root.value p0)
    (hlen : store.layers.length = cfg.P.nbVars + 1) :
    (compile cfg cache store polls none).1 = .ok :=
  (C10c.compile_no_crash_joint cfg B p0 cache store polls hW hNV hB hroot hlen).1

/-- a relaxed compilation that ended normally reports `is_exact` only if nothing was squashed or the `must` bit of
    `has_exact_best_path` is set — and then the best exact value is the best value -/
theorem relaxed_isExact_cases (cfg : Cfg S K) (cache : Cache S) (store : DomStore S K) (polls : Nat)
    (hrel : cfg.ctype = .relaxed) (hok : (compile cfg cache store polls none).1 = .ok)
    (he : (compile cfg cache store polls none).2.1.isExact = true) :
    (compile cfg cache store polls none).2.2.2.lel = none ∨
    ((finalizeLayers (compile cfg cache store polls none).2.2.2).ebpMust true = true ∧
      (compile cfg cache store polls none).2.1.bestExactValue = (compile cfg cache store polls none).2.1.bestValue) := by
  obtain ⟨_, hdd, hr⟩ := Ddo.compile_ok cfg cache store polls none hok
  have e2 : (cfg.ctype == CompType.relaxed) = true := by rw [hrel]; decide
  rw [e2] at hr
  rw [hr] at he ⊢
  rw [hdd]
  rw [finalize_isExact] at he
  cases hm : (finalizeLayers (buildLoop cfg none (cfg.P.nbVars + 2) (initDD cfg cache store polls)).1).ebpMust true with
  | true =>
    right
    refine ⟨rfl, ?_⟩
    rw [finalize_bestExactValue, Ddo.finalize_bestValue]
    rfl
  | false =>
    left
    rw [hm, Bool.or_false] at he
    have : (buildLoop cfg none (cfg.P.nbVars + 2) (initDD cfg cache store polls)).1.lel.isNone = true := he
    simpa using this

#print axioms isSol_relaxed_dom
#print axioms compile_no_crash_dom
#print axioms relaxed_isExact_cases

end Ddo.C10
