import DdoModel.Proofs.CompatLevelStep
import DdoModel.Proofs.CompatInv
import DdoModel.Proofs.CompatPot
import DdoModel.Proofs.DomExact
/-! C10e — **from the contract of a single compilation with both filters (`JointContract`) to the joint theorem**, and the split of that
contract into named fields.

`Proofs/CompatLevelStep.lean` (`step_me`) carries the two clauses *main* and *entries* of the joint invariant over one compilation from its
contract `JCompC`; `Proofs/CompatPot.lean` provides the pseudo-potential `gpot` whose level `opt` is `GAbove` (`gpot_spec`).  Here:

* `kdprocess_shape`: what `process_one_node` with cache and checker computes when the popped node passes both tests (the two
  compilations end normally, the cache updates are in range: `Proofs/CompatSound.lean`), with the views of the two caches;
* `processME_of_contract`: the contracts `JCompC` of the compilations that matter (the restricted one when it is exact, otherwise the
  relaxed one) give the two clauses in the state the turn ends in — both fringes, any popped node;
* `JointContract` — the contract for **every** compilation with cache and checker (relaxed, or restricted and exact) of an exactly
  reached sub-problem, from a checker that holds exactly reached items, *while the incumbent stays below the optimum*, read with `gpot`;
* `compatProcessME_of_jointContract : JointContract → CompatProcessME`, hence (`Proofs/CompatStore.lean`, `Proofs/CompatInv.lean`)
  `cachingDominanceCompatMono_of_jointContract : JointContract → CachingDominanceCompatMono`;
* the fields of the contract as separate statements about ONE compilation: `JCEasy` (`exactCut`, `rng`, `deeper`) and the four that
  carry the argument — `JCTheta` (the dominance-aware `theta_sound`), `JCRoot` (`exact` / `cover`), `JCUb`, `JCFresh`;
  `jointContract_of_fields`;
* **arbitrary pop orders**: nothing in the reduction uses a best-first pop (`compatInv_turn`, `kdturn_inv`, `compatInv_skip`,
  `kdturn_storeReach` are about any element of the fringe), so the repaired joint statement holds for **every** pop order — a custom
  `SubProblemRanking`, or sub-problems processed out of order by the parallel solver (the situation of finding D14): `KDStepAny` /
  `KDRunAny`, `JointCorrectAny`, `jointCorrectAny_of_jointContract`. -/
set_option linter.unusedSectionVars false
set_option linter.unusedVariables false

namespace Ddo.C10d
open Ddo Ddo.C01 Ddo.Closed Ddo.C09 Ddo.C10 Ddo.C10c Ddo.Truth
variable {S K : Type} [DecidableEq S] [DecidableEq K]

theorem kdprocess_shape {dv : DSolverCfg S K} {H : Nat → S → EInt} {B0 B : Int} (hwf : WellFormed dv.sv H B0 B)
    (st : SeqSt S) (c0 : Cache S) (d0 : DomStore S K) (N : SubP S)
    (hN : C01.NodeOk dv.sv.P N) (hclen : c0.layers.length = dv.sv.P.nbVars + 1) (hslen : d0.layers.length = dv.sv.P.nbVars + 1)
    (hub : ¬ N.ub ≤ st.bestLb) (hmeT : c0.mustExplore N.state N.depth N.value = some true) :
    ∃ (c1 c2 : Cache S) (cR cX : Outcome × Result S × Option (Result S) × DD S K),
      cR = dv.kdcompR c0 d0 N st.bestLb ∧ cX = dv.kdcompX c1 cR.2.2.2.store N (st.updateBest (toOut cR.2.1)).bestLb ∧
      viewOf c1 = (viewOf c0).upds cR.2.1.cacheUpdates.reverse ∧ viewOf c2 = (viewOf c1).upds cX.2.1.cacheUpdates.reverse ∧
      cR.1 = .ok ∧ cX.1 = .ok ∧ c1.layers.length = dv.sv.P.nbVars + 1 ∧ cR.2.2.2.store.layers.length = dv.sv.P.nbVars + 1 ∧
      (∀ c ∈ cX.2.1.cutset, C01.NodeOk dv.sv.P c ∧ N.depth < c.depth ∧ c.depth ≤ dv.sv.P.nbVars) ∧
      dv.kdprocess st c0 d0 N = some ⟨(st.process dv.sv.dedup N true (.ok (toOut cR.2.1)) (.ok (toOut cX.2.1))).1,
        if cR.2.1.isExact then c1 else c2, if cR.2.1.isExact then cR.2.2.2.store else cX.2.2.2.store⟩ := by
  obtain ⟨p0, hroot, hperm⟩ := hN
  obtain ⟨c1, c2, cR, cX, h⟩ := kdprocess_compiled hwf st c0 d0 N p0 hroot hperm hclen hslen hub hmeT
  exact ⟨c1, c2, cR, cX, h.eR, h.eX, h.view1, h.view2, h.okR, h.okX, h.len1, h.storeR, h.cutset, h.out⟩

theorem updateBest_bkOf (st : SeqSt S) (o : DDOut S) : (st.updateBest o).bestLb = Theta.bkOf st.bestLb o.bestExact := by
  unfold SeqSt.updateBest Theta.bkOf
  cases o.bestExact with
  | none => rfl
  | some w =>
    dsimp only
    split
    · dsimp only; omega
    · omega

theorem rgB_of_reach {dv : DSolverCfg S K} {H : Nat → S → EInt} {B0 B : Int} (hwf : WellFormed dv.sv H B0 B) {k : Nat} {s : S}
    {v : Int} {p : List Dec} (hr : Reach dv.sv.P k s v p) : RgB B k v := by
  obtain ⟨h1, h2⟩ := hwf.bound.value_le hwf.nv hr
  have hB := hwf.bound.clamp.nonneg
  have h0 : (0 : Int) ≤ (k : Int) * B := Int.mul_nonneg (Int.natCast_nonneg k) hB
  have e : ((k : Int) + 1) * B = (k : Int) * B + B := by rw [Int.add_mul, Int.one_mul]
  unfold RgB Cover.Within Cover.Bd
  rw [e]
  omega

theorem process_main_bestLb (dedup : Bool) (st : SeqSt S) (N : SubP S) (r x : DDOut S) (hub : ¬ N.ub ≤ st.bestLb) :
    (st.process dedup N true (.ok r) (.ok x)).1.bestLb =
      if r.isExact then (st.updateBest r).bestLb else ((st.updateBest r).updateBest x).bestLb := by
  rw [process_main dedup st N r x hub]
  cases r.isExact with
  | true => rfl
  | false =>
    cases x.isExact with
    | true => rfl
    | false => exact enqueue_bestLb _ _ _

/-- **from the contracts of the compilations of a turn to the clauses *main* and *entries* in the state the turn ends in** (the
    incumbent still being below the optimum: otherwise both clauses hold trivially) -/
theorem processME_of_contract {dv : DSolverCfg S K} {H : Nat → S → EInt} {B0 B opt : Int} {n : Nat}
    (hwf : WellFormed dv.sv H B0 B) (hopt : (H 0 dv.sv.P.init).addI dv.sv.P.initVal = some opt) (hdim : ∀ s, dv.D.dims s = n)
    (hstat : StaticOrder dv.sv.P) (hsim : SimAll dv.D dv.sv.P n)
    (Hp : Nat → S → EInt) (hGA : ∀ d x v, GAbove dv.D dv.sv.P n opt d x v ↔ Hot Hp opt d x v)
    (s t : KDSt S K) (N : SubP S) (rest : List (SubP S)) (c0 : Cache S)
    (hJ : JSInv dv H s) (hI : CompatInv dv n opt s) (hpop : s.st.fringe.Perm (N :: rest))
    (hc0 : cleanCache dv.sv.P.nbVars s.st.openByLayer dv.sv.P.nbVars s.st.firstActive s.cache = some c0)
    (hub : ¬ N.ub ≤ s.st.bestLb) (hme : c0.mustExplore N.state N.depth N.value = some true)
    (hturn : dv.kdturn s N rest = some t) (hlt : t.st.bestLb < opt)
    (hCR : ∀ (lb : Int) cR, lb = s.st.bestLb → cR = dv.kdcompR c0 s.store N lb → cR.2.1.isExact = true →
      Theta.bkOf lb cR.2.1.bestExactValue < opt →
      JCompC Hp opt (RgB B) N (viewOf c0) (toOut cR.2.1) cR.2.1.cacheUpdates.reverse)
    (hCX : ∀ (lb lb1 : Int) (c1 : Cache S) cR cX, lb = s.st.bestLb → cR = dv.kdcompR c0 s.store N lb → cR.2.1.isExact = false →
      viewOf c1 = viewOf c0 → c1.layers.length = dv.sv.P.nbVars + 1 → lb ≤ lb1 → lb1 < opt →
      cX = dv.kdcompX c1 cR.2.2.2.store N lb1 → Theta.bkOf lb1 cX.2.1.bestExactValue < opt →
      JCompC Hp opt (RgB B) N (viewOf c0) (toOut cX.2.1) cX.2.1.cacheUpdates.reverse) :
    (∃ q, Solid dv opt t q) ∧
    ∀ (x : S) (d : Nat) (th : Thr), viewOf t.cache x d = some th → ∀ v', v' ≤ th.value →
      GAbove dv.D dv.sv.P n opt d x v' → ∃ q, Solid dv opt t q ∧ d ≤ q.depth := by
  obtain ⟨t', ht', hJt, _⟩ := kdturn_inv hwf s N rest hpop hJ
  rw [hturn] at ht'
  cases ht'
  obtain ⟨c0', hc0', hl0, hv0⟩ :=
    cleanCache_spec dv.sv.P.nbVars s.st.openByLayer dv.sv.P.nbVars s.st.firstActive s.cache hJ.clen
  rw [hc0] at hc0'
  cases hc0'
  have hNok : C01.NodeOk dv.sv.P N := hJ.nodes N (hpop.mem_iff.mpr List.mem_cons_self)
  generalize hfa : cleanLoop dv.sv.P.nbVars s.st.openByLayer dv.sv.P.nbVars s.st.firstActive = fa at *
  obtain ⟨f1, f2, _⟩ := popped_fields s.st N rest fa
  unfold DSolverCfg.kdturn at hturn
  rw [hc0, hfa] at hturn
  dsimp only at hturn
  obtain ⟨c1, c2, cR, cX, eR, eX, hv1, hv2, hokR, hokX, hl1, hsR, hcsX, hkp⟩ :=
    kdprocess_shape hwf (popped s.st N rest fa) c0 s.store N hNok hl0 hJ.slen (by rw [f2]; exact hub) hme
  rw [hkp] at hturn
  have et := (Option.some.inj hturn).symm
  have hproc := process_main dv.sv.dedup (popped s.st N rest fa) N (toOut cR.2.1) (toOut cX.2.1) (by rw [f2]; exact hub)
  have hbl : t.st.bestLb = if (toOut cR.2.1).isExact then ((popped s.st N rest fa).updateBest (toOut cR.2.1)).bestLb
      else (((popped s.st N rest fa).updateBest (toOut cR.2.1)).updateBest (toOut cX.2.1)).bestLb := by
    rw [et]; exact process_main_bestLb dv.sv.dedup _ N _ _ (by rw [f2]; exact hub)
  -- the invariant before the turn, in abstract form
  have hinv : MEInv Hp opt (RgB B) (N :: rest) (viewOf c0) := by
    have hsol : ∀ q, Solid dv opt s q → ∀ d, d ≤ q.depth → LiveO Hp opt (N :: rest) (viewOf c0) d := by
      intro q hq d hd
      obtain ⟨hmem, hgood, hqub, hnp⟩ := hq
      exact ⟨q, hpop.mem_iff.mp hmem, hd, (hGA _ _ _).mp (GAbove.of_good hgood), hqub,
        fun hp => hnp (prunM_of_forget hv0 hp)⟩
    have hlb : ¬ opt ≤ s.st.bestLb := by
      have h1 := updateBest_lb_ge (popped s.st N rest fa) (toOut cR.2.1)
      rw [f2] at h1
      intro hle
      have hge : s.st.bestLb ≤ t.st.bestLb := by
        rw [hbl]
        cases (toOut cR.2.1).isExact with
        | true => exact h1
        | false => exact Int.le_trans h1 (updateBest_lb_ge _ (toOut cX.2.1))
      exact Int.lt_irrefl _ (Int.lt_of_le_of_lt (Int.le_trans hle hge) hlt)
    refine ⟨?_, ?_, ?_⟩
    · intro c hc
      obtain ⟨p, hr, _⟩ := hJ.nodes c (hpop.mem_iff.mpr hc)
      exact rgB_of_reach hwf hr
    · rcases hI.main with h | ⟨q, hq⟩
      · exact absurd h hlb
      · exact hsol q hq 0 (Nat.zero_le _)
    · intro x d th v hT hrg hvt hot
      rcases hI.entries x d th (view_of_forget hv0 hT) v hvt ((hGA _ _ _).mpr hot) with h | ⟨q, hq, hd⟩
      · exact absurd h hlb
      · exact hsol q hq d hd
  -- reading the conclusion
  have hread : ∀ (Ft : List (SubP S)) (Tt : CView S), t.st.fringe = Ft → viewOf t.cache = Tt →
      (LiveO Hp opt Ft Tt 0 ∧ ∀ (x : S) (d : Nat) (th : Thr) (v : Int), Tt x d = some th → RgB B d v → v ≤ th.value →
        Hot Hp opt d x v → LiveO Hp opt Ft Tt d) →
      (∃ q, Solid dv opt t q) ∧
      ∀ (x : S) (d : Nat) (th : Thr), viewOf t.cache x d = some th → ∀ v', v' ≤ th.value →
        GAbove dv.D dv.sv.P n opt d x v' → ∃ q, Solid dv opt t q ∧ d ≤ q.depth := by
    intro Ft Tt eF eT hst
    have hsolid : ∀ d, LiveO Hp opt Ft Tt d → ∃ q, Solid dv opt t q ∧ d ≤ q.depth := by
      intro d hl
      obtain ⟨q, hq, hdq, hot, hqub, hnp⟩ := hl
      have hqm : q ∈ t.st.fringe := by rw [eF]; exact hq
      obtain ⟨p, hr, _⟩ := hJt.nodes q hqm
      have hg := GAbove.good hdim hwf.pot hstat hsim hopt hr ((hGA _ _ _).mpr hot)
      exact ⟨q, ⟨hqm, hg, hqub, by rw [eT]; exact hnp⟩, hdq⟩
    refine ⟨?_, ?_⟩
    · obtain ⟨q, hq, _⟩ := hsolid 0 hst.1
      exact ⟨q, hq⟩
    · intro x d th hT v' hv' hga
      obtain ⟨g, vg, hgood, hge⟩ := hga
      obtain ⟨pg, hrg⟩ := hgood.reach
      have hvg : vg ≤ v' := hsim.value x v' g vg hge
      have hga' : GAbove dv.D dv.sv.P n opt d x vg := ⟨g, vg, hgood, geItem_left hge fun _ => Int.le_refl _⟩
      exact hsolid d (hst.2 x d th vg (by rw [← eT]; exact hT) (rgB_of_reach hwf hrg) (Int.le_trans hvg hv')
        ((hGA _ _ _).mp hga'))
  have hrestF : (popped s.st N rest fa).fringe = rest := f1
  cases hre : cR.2.1.isExact with
  | true =>
    have hre' : (toOut cR.2.1).isExact = true := hre
    rw [hre', if_pos rfl] at hproc
    rw [hre', if_pos rfl] at hbl
    have hbk : Theta.bkOf (popped s.st N rest fa).bestLb cR.2.1.bestExactValue < opt := by
      have h1 : Theta.bkOf (popped s.st N rest fa).bestLb cR.2.1.bestExactValue =
          ((popped s.st N rest fa).updateBest (toOut cR.2.1)).bestLb := (updateBest_bkOf _ (toOut cR.2.1)).symm
      rw [h1, ← hbl]; exact hlt
    have hC := hCR (popped s.st N rest fa).bestLb cR f2 eR hre hbk
    have hF : t.st.fringe = rest := by rw [et]; show (SeqSt.process _ _ _ _ _ _).1.fringe = rest; rw [hproc, (updateBest_fringe _ _).1, hrestF]
    have hT : viewOf t.cache = (viewOf c0).upds cR.2.1.cacheUpdates.reverse := by rw [et]; simp only [hre, if_true]; exact hv1
    exact hread rest _ hF hT
      (step_me Hp opt (RgB B) N rest rest (viewOf c0) (toOut cR.2.1) _ hinv hC (fun c hc => ⟨c, hc, Dom.refl c⟩)
        (fun hf => by rw [hre'] at hf; cases hf))
  | false =>
    have hre' : (toOut cR.2.1).isExact = false := hre
    rw [hre'] at hproc
    simp only [Bool.false_eq_true, if_false] at hproc
    have hups : cR.2.1.cacheUpdates = [] := by
      rw [eR]
      exact Ddo.C09.restricted_inexact_no_ups (dv.kdcfg .restricted N (popped s.st N rest fa).bestLb) c0 s.store 0 none rfl
        (by have h := hre; rw [eR] at h; exact h)
    have hv1' : viewOf c1 = viewOf c0 := by rw [hv1, hups]; rfl
    rw [hre', if_neg Bool.false_ne_true] at hbl
    have hlb1 : ((popped s.st N rest fa).updateBest (toOut cR.2.1)).bestLb < opt :=
      Int.lt_of_le_of_lt (updateBest_lb_ge _ (toOut cX.2.1)) (hbl ▸ hlt)
    have hbkX : Theta.bkOf ((popped s.st N rest fa).updateBest (toOut cR.2.1)).bestLb cX.2.1.bestExactValue < opt := by
      have h1 : Theta.bkOf ((popped s.st N rest fa).updateBest (toOut cR.2.1)).bestLb cX.2.1.bestExactValue =
          (((popped s.st N rest fa).updateBest (toOut cR.2.1)).updateBest (toOut cX.2.1)).bestLb :=
        (updateBest_bkOf _ (toOut cX.2.1)).symm
      rw [h1, ← hbl]; exact hlt
    have hC := hCX (popped s.st N rest fa).bestLb _ c1 cR cX f2 eR hre hv1' hl1
      (updateBest_lb_ge (popped s.st N rest fa) (toOut cR.2.1)) hlb1 eX hbkX
    have hT : viewOf t.cache = (viewOf c0).upds cX.2.1.cacheUpdates.reverse := by
      rw [et]; simp only [hre, Bool.false_eq_true, if_false]; rw [hv2, hv1']
    have hfr2 : (((popped s.st N rest fa).updateBest (toOut cR.2.1)).updateBest (toOut cX.2.1)).fringe = rest := by
      rw [(updateBest_fringe _ _).1, (updateBest_fringe _ _).1, hrestF]
    cases hxe : (toOut cX.2.1).isExact with
    | true =>
      rw [hxe, if_pos rfl] at hproc
      have hF : t.st.fringe = rest := by rw [et]; show (SeqSt.process _ _ _ _ _ _).1.fringe = rest; rw [hproc, hfr2]
      exact hread rest _ hF hT
        (step_me Hp opt (RgB B) N rest rest (viewOf c0) (toOut cX.2.1) _ hinv hC (fun c hc => ⟨c, hc, Dom.refl c⟩)
          (fun hf => by rw [hxe] at hf; cases hf))
    | false =>
      rw [hxe] at hproc
      simp only [Bool.false_eq_true, if_false] at hproc
      have hF : t.st.fringe = ((((popped s.st N rest fa).updateBest (toOut cR.2.1)).updateBest (toOut cX.2.1)).enqueue dv.sv.dedup
          (toOut cX.2.1).cutset).fringe := by rw [et]; show (SeqSt.process _ _ _ _ _ _).1.fringe = _; rw [hproc]
      -- the new fringe dominates the rest of the fringe and the cut-set nodes worth enqueuing
      have hdomF : ∀ c, (c ∈ rest ∨ ∃ c0' ∈ (toOut cX.2.1).cutset, c = c0' ∧
            c0'.ub > (((popped s.st N rest fa).updateBest (toOut cR.2.1)).updateBest (toOut cX.2.1)).bestLb) →
          ∃ s' ∈ ((((popped s.st N rest fa).updateBest (toOut cR.2.1)).updateBest (toOut cX.2.1)).enqueue dv.sv.dedup
            (toOut cX.2.1).cutset).fringe, Dom s' c := by
        intro c hc
        cases hdd : dv.sv.dedup with
        | false =>
          obtain ⟨_, _, _, _, e5⟩ := enqueue_false_spec (((popped s.st N rest fa).updateBest (toOut cR.2.1)).updateBest (toOut cX.2.1))
            (toOut cX.2.1).cutset
          exact ⟨c, (e5 c).mpr (by rw [hfr2]; exact hc), Dom.refl c⟩
        | true =>
          obtain ⟨_, _, _, _, _, hco⟩ := enqueue_true_spec (((popped s.st N rest fa).updateBest (toOut cR.2.1)).updateBest (toOut cX.2.1))
            (toOut cX.2.1).cutset
          exact hco.2 c (by rw [hfr2]; exact hc)
      exact hread _ _ hF hT
        (step_me Hp opt (RgB B) N rest _ (viewOf c0) (toOut cX.2.1) _ hinv hC (fun c hc => hdomF c (Or.inl hc))
          (fun _ c0' hc0' hub' => hdomF c0' (Or.inr ⟨c0', hc0', rfl, by rw [← hbl]; exact Int.lt_of_lt_of_le hlt hub'⟩)))

end Ddo.C10d

#print axioms Ddo.C10d.kdprocess_shape
#print axioms Ddo.C10d.processME_of_contract

namespace Ddo.C10d
open Ddo Ddo.C01 Ddo.Closed Ddo.C09 Ddo.C10 Ddo.C10c Ddo.Truth

/-- the hypotheses of the repaired joint statement, bundled -/
structure MonoHyp {S K : Type} [DecidableEq S] [DecidableEq K] (dv : DSolverCfg S K) (H : Nat → S → EInt) (B0 B opt : Int) (n : Nat) :
    Prop where
  wf : WellFormed dv.sv H B0 B
  opt : (H 0 dv.sv.P.init).addI dv.sv.P.initVal = some opt
  dim : ∀ s, dv.D.dims s = n
  stat : StaticOrder dv.sv.P
  sim : SimAll dv.D dv.sv.P n
  mc : MergeCompat dv.D dv.sv.R n
  mono : PotMono dv.D n H

theorem MonoHyp.ghyp {S K : Type} [DecidableEq S] [DecidableEq K] {dv : DSolverCfg S K} {H : Nat → S → EInt} {B0 B opt : Int} {n : Nat}
    (h : MonoHyp dv H B0 B opt n) : GHyp dv.D dv.sv.P dv.sv.R H n opt B0 B :=
  ⟨h.dim, h.wf.pot, h.wf.nv, h.stat, h.sim, h.opt, h.wf.bound⟩

/-- the compilations the solver reads thresholds and cut-sets from: every relaxed one, and the restricted ones that are exact -/
def Counts {S : Type} (ct : CompType) (r : Result S) : Prop := ct = .relaxed ∨ (ct = .restricted ∧ r.isExact = true)

structure CompPre {S K : Type} [DecidableEq S] [DecidableEq K] (dv : DSolverCfg S K) (opt : Int) (ct : CompType) (N : SubP S) (lb : Int)
    (cache : Cache S) (store : DomStore S K) (p0 : List Dec) : Prop where
  root : Reach dv.sv.P N.depth N.state N.value p0
  sreach : StoreReach dv.D dv.sv.P store
  slen : store.layers.length = dv.sv.P.nbVars + 1
  clen : cache.layers.length = dv.sv.P.nbVars + 1
  ok : (compile (dv.kdcfg ct N lb) cache store 0 none).1 = .ok
  /-- the incumbent stays below the optimum -/
  bk : Theta.bkOf lb (compile (dv.kdcfg ct N lb) cache store 0 none).2.1.bestExactValue < opt
  counts : Counts ct (compile (dv.kdcfg ct N lb) cache store 0 none).2.1

/-- a restricted compilation that is exact squashed nothing: its cut-set is empty -/
theorem CompPre.cutset_nil {S K : Type} [DecidableEq S] [DecidableEq K] {dv : DSolverCfg S K} {H : Nat → S → EInt} {B0 B opt : Int}
    (hwf : WellFormed dv.sv H B0 B) {ct : CompType} {N : SubP S} {lb : Int} {cache : Cache S} {store : DomStore S K} {p0 : List Dec}
    (hpre : CompPre dv opt ct N lb cache store p0) (hres : ct = .restricted)
    (hex : (compile (dv.kdcfg ct N lb) cache store 0 none).2.1.isExact = true) :
    (compile (dv.kdcfg ct N lb) cache store 0 none).2.1.cutset = [] :=
  C08.cutset_empty_of_exact (dv.kdcfg ct N lb) B p0 cache store 0 none hpre.root (hwf.noClamp hpre.root) hpre.ok _ (.inl rfl)
    (restricted_isExact (dv.kdcfg ct N lb) cache store 0 hres hpre.ok hex)

/-- **the contract of a single compilation with cache and checker**, at the level `opt` of the pseudo-potential -/
def JointContract : Prop :=
  ∀ (S K : Type) [DecidableEq S] [DecidableEq K] (dv : DSolverCfg S K) (H : Nat → S → EInt) (B0 B opt : Int) (n : Nat),
    MonoHyp dv H B0 B opt n →
    ∀ (ct : CompType) (N : SubP S) (lb : Int) (cache : Cache S) (store : DomStore S K) (p0 : List Dec),
      CompPre dv opt ct N lb cache store p0 →
      JCompC (gpot dv.D dv.sv.P n opt B) opt (RgB B) N (viewOf cache)
        (toOut (compile (dv.kdcfg ct N lb) cache store 0 none).2.1)
        (compile (dv.kdcfg ct N lb) cache store 0 none).2.1.cacheUpdates.reverse

/-- **one turn — any popped node — preserves the joint invariant**, from the contract of a single compilation -/
theorem compatInv_turn (hJC : JointContract) {S K : Type} [DecidableEq S] [DecidableEq K] {dv : DSolverCfg S K} {H : Nat → S → EInt}
    {B0 B opt : Int} {n : Nat} (hM : MonoHyp dv H B0 B opt n) {s t : KDSt S K} {N : SubP S} {rest : List (SubP S)}
    (hJ : JSInv dv H s) (hI : CompatInv dv n opt s) (hpop : s.st.fringe.Perm (N :: rest)) (hturn : dv.kdturn s N rest = some t) :
    CompatInv dv n opt t := by
  have hwf := hM.wf
  refine compatInv_turn_cases hwf hJ hI hpop hturn (fun c0 hc0 hl0 hv0 hub e => ?_)
  obtain ⟨p0, hroot, _⟩ := hJ.nodes N (hpop.mem_iff.mpr List.mem_cons_self)
  have hBN := hwf.noClamp hroot
  have hstore := kdturn_storeReach hwf s t N rest hJ hI.store hpop hturn
  by_cases hlt : t.st.bestLb < opt
  · have hGA : ∀ d x v, GAbove dv.D dv.sv.P n opt d x v ↔ Hot (gpot dv.D dv.sv.P n opt B) opt d x v :=
      fun d x v => gpot_spec hM.ghyp
    obtain ⟨h1, h2⟩ := processME_of_contract hwf hM.opt hM.dim hM.stat hM.sim (gpot dv.D dv.sv.P n opt B) hGA s t N rest c0 hJ hI
      hpop hc0 hub e hturn hlt
      (by
        intro lb cR elb eR hex hbk
        subst eR
        have hok := (compile_no_crash_joint (dv.kdcfg .restricted N lb) B p0 c0 s.store 0 (hwf.width N) hwf.nv hBN hroot hJ.slen).1
        exact hJC S K dv H B0 B opt n hM .restricted N lb c0 s.store p0
          ⟨hroot, hI.store, hJ.slen, hl0, hok, hbk, Or.inr ⟨rfl, hex⟩⟩)
      (by
        intro lb lb1 c1 cR cX elb eR hex hv1 hl1 hle hlb1 eX hbk
        subst eR
        subst eX
        have hokR := compile_no_crash_joint (dv.kdcfg .restricted N lb) B p0 c0 s.store 0 (hwf.width N) hwf.nv hBN hroot hJ.slen
        have hsR : StoreReach dv.D dv.sv.P (dv.kdcompR c0 s.store N lb).2.2.2.store :=
          compile_storeReach_joint (dv.kdcfg .restricted N lb) dv.D rfl hwf.nv B hBN p0 c0 s.store 0 hroot hI.store hJ.slen hokR.1
        have hokX := compile_no_crash_joint (dv.kdcfg .relaxed N lb1) B p0 c1 (dv.kdcompR c0 s.store N lb).2.2.2.store 0
          (hwf.width N) hwf.nv hBN hroot hokR.2
        have := hJC S K dv H B0 B opt n hM .relaxed N lb1 c1 (dv.kdcompR c0 s.store N lb).2.2.2.store p0
          ⟨hroot, hsR, hokR.2, hl1, hokX.1, hbk, Or.inl rfl⟩
        rw [hv1] at this
        exact this)
    exact ⟨Or.inr h1, fun x d th hT v' hv' hga => Or.inr (h2 x d th hT v' hv' hga), hstore⟩
  · have hge : opt ≤ t.st.bestLb := Int.not_lt.1 hlt
    exact ⟨Or.inl hge, fun _ _ _ _ _ _ _ => Or.inl hge, hstore⟩

theorem compatProcessME_of_jointContract (hJC : JointContract) : CompatProcessME := by
  intro S K _ _ dv H B0 B opt n hwf hopt hdim hstat hsim hmc hmono s t N rest c0 hrun hI hpop hmax hc0 hub hme hturn
  have hI' := compatInv_turn hJC ⟨hwf, hopt, hdim, hstat, hsim, hmc, hmono⟩ (kdrun_inv hwf hrun (init_jsinv hwf)) hI hpop hturn
  exact ⟨hI'.main, hI'.entries⟩

theorem cachingDominanceCompatMono_of_jointContract (hJC : JointContract) : CachingDominanceCompatMono :=
  jointCorrect_of_me (compatProcessME_of_jointContract hJC)

section fields
variable (F : ∀ {S K : Type} [DecidableEq S] [DecidableEq K] (dv : DSolverCfg S K) (B opt : Int) (n : Nat) (N : SubP S) (T : CView S)
  (o : DDOut S) (ups : List (S × Nat × Int × Bool)), Prop)

/-- "the field `F` of the contract holds of every compilation that counts" -/
def FieldHolds : Prop :=
  ∀ (S K : Type) [DecidableEq S] [DecidableEq K] (dv : DSolverCfg S K) (H : Nat → S → EInt) (B0 B opt : Int) (n : Nat),
    MonoHyp dv H B0 B opt n →
    ∀ (ct : CompType) (N : SubP S) (lb : Int) (cache : Cache S) (store : DomStore S K) (p0 : List Dec),
      CompPre dv opt ct N lb cache store p0 →
      F dv B opt n N (viewOf cache) (toOut (compile (dv.kdcfg ct N lb) cache store 0 none).2.1)
        (compile (dv.kdcfg ct N lb) cache store 0 none).2.1.cacheUpdates.reverse

end fields

/-- the easy fields: the cut-set of an exact diagram holds nothing whose bound reaches `opt`; the cut-set nodes are in range and
    strictly deeper than the root -/
def JCEasy : Prop :=
  FieldHolds (fun {S K} _ _ dv B opt n N T o ups =>
    (o.isExact = true → ∀ c ∈ o.cutset, c.ub < opt) ∧ (∀ c ∈ o.cutset, RgB B c.depth c.value) ∧ ∀ c ∈ o.cutset, N.depth < c.depth)

/-- **the dominance-aware `theta_sound`**: a recorded threshold that applies to a hot (`GAbove`) item is justified by a hot cut-set
    node at least as deep, or by a strictly deeper entry of the consulted cache that applies to a hot item.  (Single-mechanism
    version: `Ddo.Theta.theta_sound`, `cfg.dom = none`.  New base case: the threshold of a `dominated` verdict never applies to a hot
    item — `GAbove.not_below_threshold`, `gpot_dominated`.) -/
def JCTheta : Prop :=
  FieldHolds (fun {S K} _ _ dv B opt n N T o ups =>
    ∀ u ∈ ups, ∀ v, RgB B u.2.1 v → v ≤ u.2.2.1 → Hot (gpot dv.D dv.sv.P n opt B) opt u.2.1 u.1 v →
      (∃ c ∈ o.cutset, u.2.1 ≤ c.depth ∧ HotN (gpot dv.D dv.sv.P n opt B) opt c) ∨
      HitO (gpot dv.D dv.sv.P n opt B) opt (RgB B) T u.2.1)

/-- **a hot root is covered**: by a deeper entry of the consulted cache that applies to a hot item when the diagram is exact (it did
    not find `opt`: the incumbent stays below), by a hot cut-set node or such an entry when it is not.  (Single-mechanism version:
    `Proofs/ThetaCover.lean`.) -/
def JCRoot : Prop :=
  FieldHolds (fun {S K} _ _ dv B opt n N T o ups =>
    HotN (gpot dv.D dv.sv.P n opt B) opt N →
      (o.isExact = true → HitO (gpot dv.D dv.sv.P n opt B) opt (RgB B) T N.depth) ∧
      (o.isExact = false → (∃ c ∈ o.cutset, HotN (gpot dv.D dv.sv.P n opt B) opt c) ∨
        HitO (gpot dv.D dv.sv.P n opt B) opt (RgB B) T N.depth))

/-- **the bound of a hot cut-set node reaches `opt`**, unless the consulted cache cut the diagram below it with an entry that applies
    to a hot item.  (Single-mechanism version: `ub_contract_of_model`, `Proofs/CacheClosedContract.lean`.) -/
def JCUb : Prop :=
  FieldHolds (fun {S K} _ _ dv B opt n N T o ups =>
    ∀ c ∈ o.cutset, HotN (gpot dv.D dv.sv.P n opt B) opt c → opt ≤ c.ub ∨ HitO (gpot dv.D dv.sv.P n opt B) opt (RgB B) T c.depth)

/-- **a cut-set node worth enqueuing is accepted by `must_explore`** once the updates of its compilation are applied.  No potential
    involved.  (Single-mechanism version: `fresh_contract_of_model`, `Proofs/CacheClosedContract.lean`.) -/
def JCFresh : Prop :=
  FieldHolds (fun {S K} _ _ dv B opt n N T o ups => ∀ c ∈ o.cutset, opt ≤ c.ub → ¬ prunM (T.upds ups) c)

theorem jointContract_of_fields (hE : JCEasy) (hT : JCTheta) (hR : JCRoot) (hU : JCUb) (hF : JCFresh) : JointContract := by
  intro S K _ _ dv H B0 B opt n hM ct N lb cache store p0 hpre
  obtain ⟨e1, e2, e3⟩ := hE S K dv H B0 B opt n hM ct N lb cache store p0 hpre
  have t1 := hT S K dv H B0 B opt n hM ct N lb cache store p0 hpre
  have r1 := hR S K dv H B0 B opt n hM ct N lb cache store p0 hpre
  have u1 := hU S K dv H B0 B opt n hM ct N lb cache store p0 hpre
  have f1 := hF S K dv H B0 B opt n hM ct N lb cache store p0 hpre
  exact ⟨fun hex hot => (r1 hot).1 hex, e1, fun hex hot => (r1 hot).2 hex, t1, e2, e3, u1, f1⟩

end Ddo.C10d

#print axioms Ddo.C10d.compatProcessME_of_jointContract
#print axioms Ddo.C10d.cachingDominanceCompatMono_of_jointContract
#print axioms Ddo.C10d.jointContract_of_fields
#print axioms Ddo.C10d.compatInv_turn

namespace Ddo.C10d
open Ddo Ddo.C01 Ddo.Closed Ddo.C09 Ddo.C10 Ddo.C10c
variable {S K : Type} [DecidableEq S] [DecidableEq K]

/-- one turn, **any** entry of the fringe being popped -/
inductive KDStepAny (dv : DSolverCfg S K) : KDSt S K → KDSt S K → Prop
  | pop (s t : KDSt S K) (N : SubP S) (rest : List (SubP S)) (hpop : s.st.fringe.Perm (N :: rest))
      (hturn : dv.kdturn s N rest = some t) : KDStepAny dv s t

inductive KDRunAny (dv : DSolverCfg S K) : KDSt S K → KDSt S K → Prop
  | refl (s : KDSt S K) : KDRunAny dv s s
  | tail {s t u : KDSt S K} : KDRunAny dv s t → KDStepAny dv t u → KDRunAny dv s u

theorem kdstep_any {dv : DSolverCfg S K} {s t : KDSt S K} (h : KDStep dv s t) : KDStepAny dv s t := by
  cases h with
  | pop N rest hpop _ hturn => exact KDStepAny.pop s t N rest hpop hturn

theorem kdrun_any {dv : DSolverCfg S K} {s t : KDSt S K} (h : KDRun dv s t) : KDRunAny dv s t := by
  induction h with
  | refl => exact KDRunAny.refl _
  | tail _ hstep ih => exact KDRunAny.tail ih (kdstep_any hstep)

theorem kdstepAny_inv {dv : DSolverCfg S K} {H : Nat → S → EInt} {B0 B : Int} (hwf : WellFormed dv.sv H B0 B) {s t : KDSt S K}
    (h : KDStepAny dv s t) (hI : JSInv dv H s) : JSInv dv H t ∧ C01t.Step dv.sv.P.nbVars dv.sv.dedup s.st t.st := by
  cases h with
  | pop N rest hpop hturn =>
    obtain ⟨t', ht', hT, hS⟩ := kdturn_inv hwf s N rest hpop hI
    rw [hturn] at ht'
    cases ht'
    exact ⟨hT, hS⟩

theorem kdrunAny_inv {dv : DSolverCfg S K} {H : Nat → S → EInt} {B0 B : Int} (hwf : WellFormed dv.sv H B0 B) {s t : KDSt S K}
    (h : KDRunAny dv s t) (hI : JSInv dv H s) : JSInv dv H t := by
  induction h with
  | refl => exact hI
  | tail _ hstep ih => exact (kdstepAny_inv hwf hstep ih).1

theorem kdstepAny_terminates {dv : DSolverCfg S K} {H : Nat → S → EInt} {B0 B : Int} (hwf : WellFormed dv.sv H B0 B) :
    WellFounded (fun t s : KDSt S K => JSInv dv H s ∧ KDStepAny dv s t) :=
  Subrelation.wf (r := InvImage (fun t s : SeqSt S => C01t.Step dv.sv.P.nbVars dv.sv.dedup s t) KDSt.st)
    (fun {_ _} h => (kdstepAny_inv hwf h.2 h.1).2) (InvImage.wf _ (C01t.seq_terminates dv.sv.P.nbVars dv.sv.dedup))

/-- the conclusion of the joint statement, **for every pop order** -/
def JointCorrectAny (dv : DSolverCfg S K) (opt : Int) : Prop :=
  WellFounded (fun t s : KDSt S K => KDRunAny dv (KDSt.init dv) s ∧ KDStepAny dv s t) ∧
  ∀ t, KDRunAny dv (KDSt.init dv) t →
    (∀ N rest, t.st.fringe.Perm (N :: rest) → ∃ u, KDStepAny dv t u) ∧
    t.st.crashed = false ∧
    (t.st.fringe = [] →
      t.st.bestLb = opt ∧ (∃ p, t.st.bestSol = some p ∧ SolOf dv.sv.P p opt) ∧ t.st.completion = (true, some opt))

theorem jointCorrectAny_of_jointContract (hJC : JointContract) {dv : DSolverCfg S K} {H : Nat → S → EInt} {B0 B opt : Int} {n : Nat}
    (hM : MonoHyp dv H B0 B opt n) : JointCorrectAny dv opt := by
  have hwf := hM.wf
  have hinv : ∀ t, KDRunAny dv (KDSt.init dv) t → JSInv dv H t ∧ CompatInv dv n opt t := by
    intro t ht
    induction ht with
    | refl => exact ⟨init_jsinv hwf, init_compatInv hwf hM.opt hM.dim hM.stat hM.sim⟩
    | tail hrun hstep ih =>
      refine ⟨(kdstepAny_inv hwf hstep ih.1).1, ?_⟩
      cases hstep with
      | pop N rest hpop hturn => exact compatInv_turn hJC hM ih.1 ih.2 hpop hturn
  refine ⟨Subrelation.wf (fun {_ _} h => ⟨(hinv _ h.1).1, h.2⟩) (kdstepAny_terminates hwf), fun t ht => ?_⟩
  obtain ⟨hJ, hI⟩ := hinv t ht
  refine ⟨fun N rest hpop => ?_, hJ.lay.2, fun hend => ?_⟩
  · obtain ⟨u, hu, _, _⟩ := kdturn_inv hwf t N rest hpop hJ
    exact ⟨u, KDStepAny.pop t u N rest hpop hu⟩
  · exact hJ.optimal hwf hM.opt (compatInv_end hI hend)

end Ddo.C10d

#print axioms Ddo.C10d.jointCorrectAny_of_jointContract
