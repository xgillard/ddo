import DdoModel.Proofs.CacheClosedContract
import DdoModel.Proofs.CacheClosedDefs
/-! C09 (closing the caching solver) — the loop invariant `KInvSt` of the concrete caching solver of
`Proofs/CacheClosedDefs.lean` and its preservation by one turn (`kturn_inv`): from a state that satisfies the invariant,
**whatever node of the fringe is popped** (no hypothesis on the pop order), the turn does not panic (`kturn = some t`: both
compilations end normally, every cache access is in range), `t` satisfies the invariant, and the projection on the sequential
state is a `Step` of `Props/C01t.lean` (termination measure).

`KInvSt` = what `Ddo.C01.CInvAt` says about the sequential state (open sub-problems reached exactly, incumbent `isize::MIN` or
the value of the stored solution, no abort, nothing reported for an infeasible problem), the `open_by_layer` bookkeeping
(`LInv`), the shape of the cache (`nb_variables + 1` layers) and, for a feasible problem, the invariant `CInvC` of
`Proofs/SeqCache.lean` (coverage + its field `cache`, the invariant of the thresholds) on the fringe and the view of the cache.
`KInvAny` is `KInvSt` with `CInvC` replaced by soundness of the incumbent.

`KInvAny` is preserved on its own, without any contract on the thresholds (`kturn_any`); `kturn_any` carries `CInvC` along when it
holds — that part is `processC_inv_any` of `Proofs/SeqCacheDedup.lean` — which gives `kturn_inv`.

Along runs with **arbitrary pops** (`KStepAny`), from `KInvAny` alone: no turn panics, the bookkeeping stays exact, the incumbent stays
sound (`kstepAny_invAny`, `krunAny_invAny`) and the runs terminate (`kstepAny_terminatesAny`).  `kturn_bounds`: the reported bounds over
one turn, read off the code.  (For the solver before the repair of finding D14 — `enqueue_cutset(ub)` capping the cut-set nodes by the
bound of the processed node — coverage held for best-first pops only: `Ddo.C09.anyOrderOpt_false`.) -/
set_option linter.unusedSectionVars false
set_option linter.unusedVariables false

namespace Ddo.C09
open Ddo Ddo.C01 Ddo.Closed Ddo.Truth
variable {S : Type} [DecidableEq S]

structure KInvSt (sv : SolverCfg S) (H : Nat → S → EInt) (B : Int) (s : KSt S) : Prop where
  nodes : ∀ c ∈ s.st.fringe, C01.NodeOk sv.P c
  lbLo : iMin ≤ s.st.bestLb
  solLb : s.st.bestSol = none → s.st.bestLb = iMin
  noAbort : s.st.abort = false
  /-- feasible problem: coverage + the invariant of the thresholds (`CInvC.cache`) -/
  feas : ∀ opt, (H 0 sv.P.init).addI sv.P.initVal = some opt →
    CInvC H opt (SolOf sv.P) (RgB B) s.st.fringe (viewOf s.cache) s.st.bestLb s.st.bestSol
  /-- infeasible problem: nothing was ever reported -/
  infeas : (H 0 sv.P.init).addI sv.P.initVal = none → s.st.bestLb = iMin ∧ s.st.bestSol = none
  clen : s.cache.layers.length = sv.P.nbVars + 1
  lay : LInv sv s.st

/-- the part of the invariant that does not speak of the cache content: `KInvSt` with the coverage part (`CInvC`: coverage
    + thresholds) replaced by soundness of the incumbent -/
structure KInvAny (sv : SolverCfg S) (H : Nat → S → EInt) (s : KSt S) : Prop where
  nodes : ∀ c ∈ s.st.fringe, C01.NodeOk sv.P c
  lbLo : iMin ≤ s.st.bestLb
  solLb : s.st.bestSol = none → s.st.bestLb = iMin
  noAbort : s.st.abort = false
  /-- feasible problem: the incumbent is sound -/
  snd : ∀ opt, (H 0 sv.P.init).addI sv.P.initVal = some opt →
    s.st.bestLb ≤ opt ∧ ∀ p, s.st.bestSol = some p → SolOf sv.P p s.st.bestLb
  infeas : (H 0 sv.P.init).addI sv.P.initVal = none → s.st.bestLb = iMin ∧ s.st.bestSol = none
  clen : s.cache.layers.length = sv.P.nbVars + 1
  lay : LInv sv s.st

theorem KInvSt.toAny {sv : SolverCfg S} {H : Nat → S → EInt} {B : Int} {s : KSt S} (h : KInvSt sv H B s) :
    KInvAny sv H s :=
  ⟨h.nodes, h.lbLo, h.solLb, h.noAbort, fun opt hopt => ⟨(h.feas opt hopt).lbOk, (h.feas opt hopt).solOk⟩, h.infeas, h.clen,
    h.lay⟩

theorem process_skip_ub (dedup : Bool) (st : SeqSt S) (N : SubP S) (me : Bool) (r x : DDRes S) (h : N.ub ≤ st.bestLb) :
    (st.process dedup N me r x).1 = st := by
  unfold SeqSt.process; rw [if_pos h]

theorem process_skip_me (dedup : Bool) (st : SeqSt S) (N : SubP S) (r x : DDRes S) :
    (st.process dedup N false r x).1 = st := by
  unfold SeqSt.process
  by_cases h : N.ub ≤ st.bestLb
  · rw [if_pos h]
  · rw [if_neg h]; rfl

theorem process_main (dedup : Bool) (st : SeqSt S) (N : SubP S) (r x : DDOut S) (h : ¬ N.ub ≤ st.bestLb) :
    (st.process dedup N true (.ok r) (.ok x)).1 =
      if r.isExact then st.updateBest r
      else if x.isExact then (st.updateBest r).updateBest x
      else ((st.updateBest r).updateBest x).enqueue dedup x.cutset := by
  unfold SeqSt.process
  rw [if_neg h]
  simp only [Bool.not_true, Bool.false_eq_true, if_false]
  cases r.isExact
  · cases x.isExact <;> rfl
  · rfl

theorem viewAfter_main (st : SeqSt S) (T : CView S) (N : SubP S) (r : DDOut S) (rups xups : List (S × Nat × Int × Bool))
    (h1 : ¬ N.ub ≤ st.bestLb) (h2 : ¬ prunM T N) :
    viewAfter st T N r rups xups = if r.isExact then T.upds rups else (T.upds rups).upds xups := by
  unfold viewAfter
  rw [if_neg h1, if_neg h2]

theorem kinv_lb_le {sv : SolverCfg S} {H : Nat → S → EInt} {B0 B : Int} (hwf : WellFormed sv H B0 B) {s : KSt S}
    (hI : KInvAny sv H s) : s.st.bestLb ≤ B := by
  cases hopt : (H 0 sv.P.init).addI sv.P.initVal with
  | none =>
    rw [(hI.infeas hopt).1]
    exact Int.le_trans (by decide) hwf.bound.clamp.nonneg
  | some opt => exact Int.le_trans (hI.snd opt hopt).1 (opt_bound hwf.pot hwf.nv hwf.bound hopt).2

theorem bestExact_none_of_dead {K : Type} (cfg : Cfg S K) (H : Nat → S → EInt) (p0 : List Dec) (hP : Potential cfg.P H)
    (hroot : Reach cfg.P cfg.root.depth cfg.root.state cfg.root.value p0) (hdead : optOf H cfg.root = none) (o : DDOut S)
    (hs : ∀ w, o.bestExact = some w → IsSol cfg p0 w o.bestExactSol) : o.bestExact = none := by
  cases hb : o.bestExact with
  | none => rfl
  | some w =>
    obtain ⟨y, hy, _⟩ := within_of_isSol cfg H p0 hP hroot w _ (hs w hb)
    rw [hdead] at hy
    cases hy

/-- **`process_one_node` with the cache does not panic and preserves the invariant, whatever node was popped**: `st` = the
    popped state, `N` in hand (**any** node of the fringe), `c0` the cache.  The part `KInvAny` needs nothing about the
    thresholds; the coverage part `CInvC` is carried along if it held (`processC_inv_any`, the contracts `compC_*_of_model`). -/
theorem kprocess_any {sv : SolverCfg S} {H : Nat → S → EInt} {B0 B : Int} (hwf : WellFormed sv H B0 B)
    (st : SeqSt S) (c0 : Cache S) (N : SubP S) (hN : C01.NodeOk sv.P N) (hI : KInvAny sv H ⟨st, c0⟩) :
    ∃ (t : KSt S) (me : Bool) (r x : DDRes S), sv.kprocess st c0 N = some t ∧ t.st = (st.process sv.dedup N me r x).1 ∧
      (∀ o, x = .ok o → ∀ c ∈ o.cutset, N.depth < c.depth ∧ c.depth ≤ sv.P.nbVars) ∧ KInvAny sv H t ∧
      ∀ opt, (H 0 sv.P.init).addI sv.P.initVal = some opt →
        CInvC H opt (SolOf sv.P) (RgB B) (N :: st.fringe) (viewOf c0) st.bestLb st.bestSol →
        CInvC H opt (SolOf sv.P) (RgB B) t.st.fringe (viewOf t.cache) t.st.bestLb t.st.bestSol := by
  have hlbB : st.bestLb ≤ B := kinv_lb_le hwf hI
  have ⟨hnodes, hlbLo, hsolLb, hab, hsnd, hinf, hclen, hlay, hcr⟩ := hI
  dsimp only at hnodes hlbLo hsolLb hab hsnd hinf hclen hlay hcr
  obtain ⟨p0, hroot, hperm⟩ := hN
  have hdN : N.depth ≤ sv.P.nbVars := reach_depth_le hwf.nv hroot
  have hBN : NoClamp sv.P sv.R N.value B := hwf.bound.noClamp_at hwf.nv hroot
  have hBs := hwf.bound.B_small
  obtain ⟨hlb1, hlb2⟩ := inI_of_le hlbLo hlbB hBs
  have hme := mustExplore_view c0 N (hclen ▸ Nat.lt_succ_of_le hdN)
  -- the coverage invariant when the node is dropped
  have hdrop : (∀ x, x > st.bestLb → x ≤ N.ub → ¬ prunM (viewOf c0) N → False) →
      ∀ opt, (H 0 sv.P.init).addI sv.P.initVal = some opt →
        CInvC H opt (SolOf sv.P) (RgB B) (N :: st.fringe) (viewOf c0) st.bestLb st.bestSol →
        CInvC H opt (SolOf sv.P) (RgB B) st.fringe (viewOf c0) st.bestLb st.bestSol :=
    fun hno opt _ hC => drop_inv H opt (SolOf sv.P) (RgB B) N st.fringe (viewOf c0) st.bestLb st.bestSol hC hno
  by_cases hub : N.ub ≤ st.bestLb
  · -- pruned by its bound
    refine ⟨⟨st, c0⟩, true, .cutoff, .cutoff, ?_, (process_skip_ub sv.dedup st N true _ _ hub).symm,
      (fun o ho => by cases ho), hI, hdrop (fun x h1 h2 _ => Int.lt_irrefl x (Int.lt_of_le_of_lt (Int.le_trans h2 hub) h1))⟩
    unfold SolverCfg.kprocess; rw [if_pos hub]
  by_cases hp : prunM (viewOf c0) N
  · -- refused by the cache
    refine ⟨⟨st, c0⟩, false, .cutoff, .cutoff, ?_, (process_skip_me sv.dedup st N _ _).symm,
      (fun o ho => by cases ho), hI, hdrop (fun x _ _ h3 => h3 hp)⟩
    unfold SolverCfg.kprocess
    rw [if_neg hub, hme, decide_eq_false (fun hn => hn hp)]
  -- both tests passed: the compilations
  have hmeT : c0.mustExplore N.state N.depth N.value = some true := by rw [hme, decide_eq_true hp]
  -- the restricted compilation
  have hokR : sv.coutR c0 N st.bestLb = .ok :=
    CacheClosed.compile_no_crash_cached _ c0 _ 0 rfl (hwf.width N) hwf.nv hdN
  have hdepR := ups_depth_restricted (sv.ccfg .restricted N st.bestLb) H B p0 c0 (DomStore.init sv.P.nbVars) 0 rfl rfl
    (hwf.width N) hwf.pot hwf.merge hwf.attMerge hBN hwf.nv hroot hokR
  obtain ⟨c1, hc1, hl1, hv1⟩ := applyUps_spec (sv.cresR c0 N st.bestLb).cacheUpdates.reverse c0
    (fun u hu => hclen ▸ Nat.lt_succ_of_le (hdepR u (List.mem_reverse.mp hu)))
  have sR : ∀ w, (toOut (sv.cresR c0 N st.bestLb)).bestExact = some w →
      IsSol (sv.ccfg .restricted N st.bestLb) p0 w (toOut (sv.cresR c0 N st.bestLb)).bestExactSol :=
    fun w hw => isSol_restricted (sv.ccfg .restricted N st.bestLb) B p0 c0 _ 0 none rfl hBN hroot hokR w hw
  have hl1B : (st.updateBest (toOut (sv.cresR c0 N st.bestLb))).bestLb ≤ B :=
    updateBest_le st _ B (fun w hw => (isSol_le hwf _ rfl p0 w _ (sR w hw)).1) hlbB
  have hl1lo : st.bestLb ≤ (st.updateBest (toOut (sv.cresR c0 N st.bestLb))).bestLb := updateBest_lb_ge st _
  obtain ⟨hl1a, hl1b⟩ := inI_of_le (Int.le_trans hlbLo hl1lo) hl1B hBs
  have eR : ∀ w, (toOut (sv.cresR c0 N st.bestLb)).bestExact = some w →
      ∃ p, (toOut (sv.cresR c0 N st.bestLb)).bestExactSol = some p :=
    fun w hw => (isSol_le hwf _ rfl p0 w _ (sR w hw)).2
  -- the relaxed compilation (consulting `c1`)
  have hokX : sv.coutX c1 N (st.updateBest (toOut (sv.cresR c0 N st.bestLb))).bestLb = .ok :=
    CacheClosed.compile_no_crash_cached _ c1 _ 0 rfl (hwf.width N) hwf.nv hdN
  have hdepX := ups_depth_relaxed (sv.ccfg .relaxed N (st.updateBest (toOut (sv.cresR c0 N st.bestLb))).bestLb) H B p0 c1
    (DomStore.init sv.P.nbVars) 0 none rfl rfl (hwf.width N) hwf.pot hwf.merge hwf.attMerge hBN hwf.nv hroot hokX _ (.inl rfl)
  obtain ⟨c2, hc2, hl2, hv2⟩ := applyUps_spec
    (sv.cresX c1 N (st.updateBest (toOut (sv.cresR c0 N st.bestLb))).bestLb).cacheUpdates.reverse c1
    (fun u hu => hl1 ▸ hclen ▸ Nat.lt_succ_of_le (hdepX u (List.mem_reverse.mp hu)))
  have sX : ∀ w, (toOut (sv.cresX c1 N (st.updateBest (toOut (sv.cresR c0 N st.bestLb))).bestLb)).bestExact = some w →
      IsSol (sv.ccfg .relaxed N (st.updateBest (toOut (sv.cresR c0 N st.bestLb))).bestLb) p0 w
        (toOut (sv.cresX c1 N (st.updateBest (toOut (sv.cresR c0 N st.bestLb))).bestLb)).bestExactSol :=
    fun w hw => CacheClosed.isSol_relaxed_cached _ B p0 c1 _ 0 rfl rfl (hwf.width N) hBN hroot hokX w hw
  have eX : ∀ w, (toOut (sv.cresX c1 N (st.updateBest (toOut (sv.cresR c0 N st.bestLb))).bestLb)).bestExact = some w →
      ∃ p, (toOut (sv.cresX c1 N (st.updateBest (toOut (sv.cresR c0 N st.bestLb))).bestLb)).bestExactSol = some p :=
    fun w hw => (isSol_le hwf _ rfl p0 w _ (sX w hw)).2
  have hcsX : ∀ c ∈ (sv.cresX c1 N (st.updateBest (toOut (sv.cresR c0 N st.bestLb))).bestLb).cutset,
      C01.NodeOk sv.P c ∧ N.depth < c.depth ∧ c.depth ≤ sv.P.nbVars := by
    intro c hc
    have h := cutset_node_facts (sv.ccfg .relaxed N (st.updateBest (toOut (sv.cresR c0 N st.bestLb))).bestLb) B p0 c1 _ 0 none
      hwf.nv hroot hperm hBN hokX _ (.inl rfl) c hc
    exact ⟨h.1, h.2.1 rfl, h.2.2⟩
  generalize hr : sv.cresR c0 N st.bestLb = r at *
  generalize hx : sv.cresX c1 N (st.updateBest (toOut r)).bestLb = x at *
  -- the restricted compilation records nothing unless it is exact
  have hrups : r.isExact = false → r.cacheUpdates.reverse = [] := by
    intro hex
    have := restricted_inexact_no_ups (sv.ccfg .restricted N st.bestLb) c0 (DomStore.init sv.P.nbVars) 0 none rfl
      (by rw [← hr] at hex; exact hex)
    rw [← hr]
    show (compile _ c0 _ 0 none).2.1.cacheUpdates.reverse = []
    rw [this]; rfl
  have hc10 : r.isExact = false → c1 = c0 := by
    intro hex
    rw [hrups hex, applyUps_nil] at hc1
    exact (Option.some.inj hc1).symm
  -- the state the turn ends in
  have hkp : sv.kprocess st c0 N = some ⟨(st.process sv.dedup N true (.ok (toOut r)) (.ok (toOut x))).1,
      if r.isExact then c1 else c2⟩ := by
    unfold SolverCfg.kprocess
    rw [if_neg hub, hmeT]
    simp only [hokR, ne_eq, not_true_eq_false, if_false, hr, hc1]
    rw [process_main sv.dedup st N (toOut r) (toOut x) hub]
    have e1 : (toOut r).isExact = r.isExact := rfl
    have e2 : (toOut x).isExact = x.isExact := rfl
    have e3 : (toOut x).cutset = x.cutset := rfl
    rw [e1, e2, e3]
    cases hre : r.isExact with
    | true => simp only [if_true]
    | false =>
      simp only [Bool.false_eq_true, if_false, hokX, not_true_eq_false, hx, hc2]
      cases hxe : x.isExact <;> simp only [Bool.false_eq_true, if_false, if_true]
  -- the exact values the two compilations report are values of feasible solutions
  have hrs : ∀ opt, (H 0 sv.P.init).addI sv.P.initVal = some opt → ∀ w, (toOut r).bestExact = some w →
      ∃ p, (toOut r).bestExactSol = some p ∧ SolOf sv.P p w ∧ w ≤ opt :=
    fun opt hopt w hw => (isSol_facts (sv.ccfg .restricted N st.bestLb) H opt p0 hwf.pot hroot hperm hopt w _ (sR w hw)).1
  have hxs : ∀ opt, (H 0 sv.P.init).addI sv.P.initVal = some opt → ∀ w, (toOut x).bestExact = some w →
      ∃ p, (toOut x).bestExactSol = some p ∧ SolOf sv.P p w ∧ w ≤ opt :=
    fun opt hopt w hw => (isSol_facts (sv.ccfg .relaxed N (st.updateBest (toOut r)).bestLb) H opt p0 hwf.pot hroot hperm hopt
      w _ (sX w hw)).1
  -- incumbent and stored solution after the turn are those of `st`, of `st` updated once, or twice
  have hls := process_lb_sol sv.dedup st N true (toOut r) (toOut x)
  generalize hst' : (st.process sv.dedup N true (.ok (toOut r)) (.ok (toOut x))).1 = st' at hkp hls
  have three : ∀ Q : Int → Option (List Dec) → Prop, Q st.bestLb st.bestSol →
      Q (st.updateBest (toOut r)).bestLb (st.updateBest (toOut r)).bestSol →
      Q ((st.updateBest (toOut r)).updateBest (toOut x)).bestLb ((st.updateBest (toOut r)).updateBest (toOut x)).bestSol →
      Q st'.bestLb st'.bestSol := by
    intro Q q0 q1 q2
    rcases hls with ⟨e1, e2⟩ | ⟨e1, e2⟩ | ⟨e1, e2⟩
    · rw [e1, e2]; exact q0
    · rw [e1, e2]; exact q1
    · rw [e1, e2]; exact q2
  refine ⟨_, true, .ok (toOut r), .ok (toOut x), hkp, hst'.symm, ?_, ⟨?_, ?_, ?_, ?_, ?_, ?_, ?_, ?_⟩, ?_⟩
  · intro o ho c hc
    injection ho with ho
    subst ho
    exact (hcsX c hc).2
  ·
    rw [← hst']
    refine process_forall (C01.NodeOk sv.P) (nodeOk_ub sv.P) sv.dedup st N true _ _ hnodes ?_
    intro o ho c hc
    injection ho with ho
    subst ho
    exact (hcsX c hc).1
  ·
    exact three (fun lb _ => iMin ≤ lb) hlbLo (Int.le_trans hlbLo hl1lo)
      (Int.le_trans hlbLo (Int.le_trans hl1lo (updateBest_lb_ge (st.updateBest (toOut r)) (toOut x))))
  ·
    have a1 := updateBest_solLb st _ eR hsolLb
    exact three (fun lb sol => sol = none → lb = iMin) hsolLb a1 (updateBest_solLb (st.updateBest (toOut r)) _ eX a1)
  ·
    show st'.abort = false
    rw [← hst', process_abort]; exact hab
  · -- soundness of the incumbent
    intro opt hopt
    obtain ⟨hl0, hs0⟩ := hsnd opt hopt
    obtain ⟨hl1', hs1⟩ := updateBest_ok' opt (SolOf sv.P) st (toOut r) hl0 hs0 (hrs opt hopt)
    obtain ⟨hl2', hs2⟩ := updateBest_ok' opt (SolOf sv.P) (st.updateBest (toOut r)) (toOut x) hl1' hs1 (hxs opt hopt)
    exact three (fun lb sol => lb ≤ opt ∧ ∀ p, sol = some p → SolOf sv.P p lb) ⟨hl0, hs0⟩ ⟨hl1', hs1⟩ ⟨hl2', hs2⟩
  · -- infeasible
    intro hinf'
    have hdead : optOf H N = none := reach_dead hwf.pot hinf' hroot
    have nR : (toOut r).bestExact = none :=
      bestExact_none_of_dead (sv.ccfg .restricted N st.bestLb) H p0 hwf.pot hroot hdead _ sR
    have nX : (toOut x).bestExact = none :=
      bestExact_none_of_dead (sv.ccfg .relaxed N (st.updateBest (toOut r)).bestLb) H p0 hwf.pot hroot hdead _ sX
    have u1 := updateBest_none st _ nR
    have u2 := updateBest_none (st.updateBest (toOut r)) _ nX
    exact three (fun lb sol => lb = iMin ∧ sol = none) (hinf hinf') (by rw [u1]; exact hinf hinf')
      (by rw [u2, u1]; exact hinf hinf')
  · -- the cache keeps its shape
    show (if r.isExact then c1 else c2).layers.length = sv.P.nbVars + 1
    split
    · rw [hl1]; exact hclen
    · rw [hl2, hl1]; exact hclen
  · -- bookkeeping
    rw [← hst']
    obtain ⟨h3, h4⟩ := process_layers sv.P.nbVars sv.dedup st N true (toOut r) (toOut x)
      (fun c hc => (hcsX c hc).2.2) hlay
    exact ⟨h3, h4.trans hcr⟩
  · -- coverage: `processC_inv_any`
    intro opt hopt hC
    have hval : ∀ (k : Nat) (s : S) (v : Int) (p : List Dec), Reach sv.P k s v p → -B ≤ v ∧ v ≤ B :=
      fun k s v p h => hwf.bound.value_le hwf.nv h
    have hR : (toOut r).isExact = true → CompC H opt (SolOf sv.P) (RgB B) N st.bestLb (viewOf c0) (toOut r)
        r.cacheUpdates.reverse (st.updateBest (toOut r)).bestLb := by
      intro hex
      rw [← bkOf_updateBest]
      rw [← hr] at hex ⊢
      exact compC_restricted_of_model H opt (sv.ccfg .restricted N st.bestLb) B p0 c0 _ 0 rfl rfl rfl (hwf.width N) hwf.pot
        hwf.rub hwf.merge hwf.attMerge hBN hlb2 hroot hperm hdN hopt hokR hex _ (fun u hu => List.mem_reverse.mp hu)
    have hX : (toOut r).isExact = false → CompC H opt (SolOf sv.P) (RgB B) N (st.updateBest (toOut r)).bestLb (viewOf c0)
        (toOut x) x.cacheUpdates.reverse ((st.updateBest (toOut r)).updateBest (toOut x)).bestLb := by
      intro hex
      have hcc := hc10 hex
      subst hcc
      rw [← bkOf_updateBest (st.updateBest (toOut r)) (toOut x)]
      rw [← hx]
      exact compC_relaxed_of_model H opt (sv.ccfg .relaxed N (st.updateBest (toOut r)).bestLb) B p0 c1 _ 0 rfl rfl rfl
        (hwf.width N) hwf.pot hwf.rub hwf.merge hwf.attMerge hBN hl1b hroot hperm hdN hopt hval hokX _
        (fun u hu => List.mem_reverse.mp hu)
    have hmain := processC_inv_any H opt (SolOf sv.P) (RgB B) sv.dedup st (viewOf c0) N (toOut r) r.cacheUpdates.reverse
      (toOut x) x.cacheUpdates.reverse hC (hrs opt hopt) hR (fun hex => hrups hex) hX
    have hst : stateAfterD sv.dedup st (viewOf c0) N (toOut r) (toOut x) = st' := by
      unfold stateAfterD; rw [decide_eq_true hp]; exact hst'
    have hvw : viewAfter st (viewOf c0) N (toOut r) r.cacheUpdates.reverse x.cacheUpdates.reverse =
        viewOf (if r.isExact then c1 else c2) := by
      rw [viewAfter_main st (viewOf c0) N (toOut r) _ _ hub hp]
      show (if r.isExact = true then _ else _) = _
      cases hre : r.isExact with
      | true => simp only [if_true]; exact hv1.symm
      | false =>
        simp only [Bool.false_eq_true, if_false]
        rw [hv2, hv1]
    rw [hst, hvw] at hmain
    exact hmain

theorem popped_more (s : SeqSt S) (N : SubP S) (rest : List (SubP S)) (fa : Nat) :
    (popped s N rest fa).abort = s.abort := afterPop_abort _ N

/-- **one turn of the caching solver**, **any** node of the fringe being popped: no panic, the invariant is preserved
    (its coverage part if it held), and the sequential state makes a `Step` of `Props/C01t.lean` -/
theorem kturn_any {sv : SolverCfg S} {H : Nat → S → EInt} {B0 B : Int} (hwf : WellFormed sv H B0 B)
    (s : KSt S) (N : SubP S) (rest : List (SubP S)) (hpop : s.st.fringe.Perm (N :: rest)) (hI : KInvAny sv H s) :
    ∃ t, sv.kturn s N rest = some t ∧ KInvAny sv H t ∧ C01t.Step sv.P.nbVars sv.dedup s.st t.st ∧
      ∀ opt, (H 0 sv.P.init).addI sv.P.initVal = some opt →
        CInvC H opt (SolOf sv.P) (RgB B) s.st.fringe (viewOf s.cache) s.st.bestLb s.st.bestSol →
        CInvC H opt (SolOf sv.P) (RgB B) t.st.fringe (viewOf t.cache) t.st.bestLb t.st.bestSol := by
  obtain ⟨c0, hc0, hl0, hv0⟩ := cleanCache_spec sv.P.nbVars s.st.openByLayer sv.P.nbVars s.st.firstActive s.cache hI.clen
  generalize hfa : cleanLoop sv.P.nbVars s.st.openByLayer sv.P.nbVars s.st.firstActive = fa
  obtain ⟨f1, f2, f3⟩ := popped_fields s.st N rest fa
  have hNok : C01.NodeOk sv.P N := hI.nodes N (hpop.mem_iff.mpr List.mem_cons_self)
  obtain ⟨p0, hroot, _⟩ := hNok
  obtain ⟨g1, g2⟩ := afterPop_layers sv.P.nbVars s.st N rest fa (reach_depth_le hwf.nv hroot) hpop hI.lay.1
  obtain ⟨t, me, r, x, hk, hst, hprog, hT, hF⟩ := kprocess_any hwf (popped s.st N rest fa) c0 N
    (hI.nodes N (hpop.mem_iff.mpr List.mem_cons_self))
    ⟨by rw [f1]; exact fun c hc => hI.nodes c (hpop.mem_iff.mpr (List.mem_cons_of_mem _ hc)),
     by rw [f2]; exact hI.lbLo, by rw [f2, f3]; exact hI.solLb, by rw [popped_more]; exact hI.noAbort,
     by rw [f2, f3]; exact hI.snd, by rw [f2, f3]; exact hI.infeas, hl0, g1, g2.trans hI.lay.2⟩
  refine ⟨t, ?_, hT, ?_, fun opt hopt hC => hF opt hopt ?_⟩
  · unfold SolverCfg.kturn
    rw [hc0, hfa]
    exact hk
  · rw [hst]
    exact C01t.Step.pop s.st N rest fa me r x hpop hprog
  · rw [f1, f2, f3]
    exact cinvC_forget H opt (SolOf sv.P) (RgB B) _ (viewOf s.cache) (viewOf c0) _ _ hv0
      (cinvC_perm H opt (SolOf sv.P) (RgB B) hpop hC)

/-- **one turn of the caching solver** from a state that satisfies the invariant, **any** node of the fringe being popped:
    no panic, the invariant is preserved, and the sequential state makes a `Step` of `Props/C01t.lean` -/
theorem kturn_inv {sv : SolverCfg S} {H : Nat → S → EInt} {B0 B : Int} (hwf : WellFormed sv H B0 B)
    (s : KSt S) (N : SubP S) (rest : List (SubP S)) (hpop : s.st.fringe.Perm (N :: rest))
    (hI : KInvSt sv H B s) :
    ∃ t, sv.kturn s N rest = some t ∧ KInvSt sv H B t ∧ C01t.Step sv.P.nbVars sv.dedup s.st t.st := by
  obtain ⟨t, ht, hA, hS, hF⟩ := kturn_any hwf s N rest hpop hI.toAny
  exact ⟨t, ht, ⟨hA.nodes, hA.lbLo, hA.solLb, hA.noAbort, fun opt hopt => hF opt hopt (hI.feas opt hopt), hA.infeas, hA.clen,
    hA.lay⟩, hS⟩

theorem enqueue_bestLb (dedup : Bool) (st : SeqSt S) (cs : List (SubP S)) : (st.enqueue dedup cs).bestLb = st.bestLb :=
  (enqueue_fields dedup st cs).1

theorem kprocess_st (sv : SolverCfg S) (st : SeqSt S) (c0 : Cache S) (N : SubP S) (t : KSt S)
    (h : sv.kprocess st c0 N = some t) :
    t.st = st ∨ ∃ r : DDOut S, t.st = st.updateBest r ∨ ∃ x : DDOut S, t.st = (st.updateBest r).updateBest x ∨
      ∃ cs, t.st = ((st.updateBest r).updateBest x).enqueue sv.dedup cs := by
  unfold SolverCfg.kprocess at h
  by_cases hub : N.ub ≤ st.bestLb
  · rw [if_pos hub] at h; cases h; exact .inl rfl
  rw [if_neg hub] at h
  cases hme : c0.mustExplore N.state N.depth N.value with
  | none => rw [hme] at h; cases h
  | some b =>
    rw [hme] at h
    cases b with
    | false => cases h; exact .inl rfl
    | true =>
      dsimp only at h
      by_cases hR : sv.coutR c0 N st.bestLb ≠ .ok
      · rw [if_pos hR] at h; cases h
      rw [if_neg hR] at h
      cases hc1 : applyUps c0 (sv.cresR c0 N st.bestLb).cacheUpdates.reverse with
      | none => rw [hc1] at h; cases h
      | some c1 =>
        rw [hc1] at h
        dsimp only at h
        refine .inr ⟨toOut (sv.cresR c0 N st.bestLb), ?_⟩
        by_cases hre : (sv.cresR c0 N st.bestLb).isExact = true
        · rw [if_pos hre] at h; cases h; exact .inl rfl
        rw [if_neg hre] at h
        by_cases hX : sv.coutX c1 N (st.updateBest (toOut (sv.cresR c0 N st.bestLb))).bestLb ≠ .ok
        · rw [if_pos hX] at h; cases h
        rw [if_neg hX] at h
        cases hc2 : applyUps c1
            (sv.cresX c1 N (st.updateBest (toOut (sv.cresR c0 N st.bestLb))).bestLb).cacheUpdates.reverse with
        | none => rw [hc2] at h; cases h
        | some c2 =>
          rw [hc2] at h
          dsimp only at h
          refine .inr ⟨toOut (sv.cresX c1 N (st.updateBest (toOut (sv.cresR c0 N st.bestLb))).bestLb), ?_⟩
          by_cases hxe : (sv.cresX c1 N (st.updateBest (toOut (sv.cresR c0 N st.bestLb))).bestLb).isExact = true
          · rw [if_pos hxe] at h; cases h; exact .inl rfl
          · rw [if_neg hxe] at h; cases h; exact .inr ⟨_, rfl⟩

theorem kprocess_bounds (sv : SolverCfg S) (st : SeqSt S) (c0 : Cache S) (N : SubP S) (t : KSt S)
    (h : sv.kprocess st c0 N = some t) : t.st.bestUb = st.bestUb ∧ st.bestLb ≤ t.st.bestLb := by
  have u : ∀ (a : SeqSt S) (o : DDOut S), (a.updateBest o).bestUb = a.bestUb := fun a o => (updateBest_fringe a o).2.1
  have l : ∀ (a : SeqSt S) (o : DDOut S), a.bestLb ≤ (a.updateBest o).bestLb := updateBest_lb_ge
  rcases kprocess_st sv st c0 N t h with e | ⟨r, e | ⟨x, e | ⟨cs, e⟩⟩⟩
  · rw [e]; exact ⟨rfl, Int.le_refl _⟩
  · rw [e]; exact ⟨u _ _, l _ _⟩
  · rw [e]; exact ⟨(u _ _).trans (u _ _), Int.le_trans (l _ _) (l _ _)⟩
  · rw [e, C05.enqueue_bestUb, enqueue_bestLb]; exact ⟨(u _ _).trans (u _ _), Int.le_trans (l _ _) (l _ _)⟩

/-- **one turn**: the reported upper bound becomes the running minimum `min best_ub N.ub` (written by `get_workload` at the
    pop, never touched by `process_one_node`), and the incumbent does not decrease — whatever node is popped -/
theorem kturn_bounds (sv : SolverCfg S) (s t : KSt S) (N : SubP S) (rest : List (SubP S))
    (h : sv.kturn s N rest = some t) : t.st.bestUb = min s.st.bestUb N.ub ∧ s.st.bestLb ≤ t.st.bestLb := by
  unfold SolverCfg.kturn at h
  split at h
  · cases h
  · obtain ⟨h1, h2⟩ := kprocess_bounds sv _ _ N t h
    obtain ⟨_, f2, _⟩ := popped_fields s.st N rest (cleanLoop sv.P.nbVars s.st.openByLayer sv.P.nbVars s.st.firstActive)
    rw [f2] at h2
    refine ⟨h1.trans ?_, h2⟩
    exact (C05.afterPop_ub_le _ N).2.2

end Ddo.C09

#print axioms Ddo.C09.kprocess_any
#print axioms Ddo.C09.kturn_inv
#print axioms Ddo.C09.kturn_bounds

namespace Ddo.C09
open Ddo Ddo.C01 Ddo.Closed Ddo.Truth
variable {S : Type} [DecidableEq S]

theorem kstepAny_invAny {sv : SolverCfg S} {H : Nat → S → EInt} {B0 B : Int} (hwf : WellFormed sv H B0 B) {s t : KSt S}
    (h : KStepAny sv s t) (hI : KInvAny sv H s) : KInvAny sv H t ∧ C01t.Step sv.P.nbVars sv.dedup s.st t.st := by
  cases h with
  | pop N rest hpop hturn =>
    obtain ⟨t', ht', hT, hS, _⟩ := kturn_any hwf s N rest hpop hI
    rw [hturn] at ht'
    cases ht'
    exact ⟨hT, hS⟩

theorem krunAny_invAny {sv : SolverCfg S} {H : Nat → S → EInt} {B0 B : Int} (hwf : WellFormed sv H B0 B) {s t : KSt S}
    (h : KRunAny sv s t) (hI : KInvAny sv H s) : KInvAny sv H t := by
  induction h with
  | refl => exact hI
  | tail _ hstep ih => exact (kstepAny_invAny hwf hstep ih).1

theorem kstepAny_terminatesAny {sv : SolverCfg S} {H : Nat → S → EInt} {B0 B : Int} (hwf : WellFormed sv H B0 B) :
    WellFounded (fun t s : KSt S => KInvAny sv H s ∧ KStepAny sv s t) :=
  Subrelation.wf (r := InvImage (fun t s : SeqSt S => C01t.Step sv.P.nbVars sv.dedup s t) KSt.st)
    (fun {_ _} h => (kstepAny_invAny hwf h.2 h.1).2) (InvImage.wf _ (C01t.seq_terminates sv.P.nbVars sv.dedup))

theorem viewOf_init (n : Nat) : viewOf (Cache.init n : Cache S) = fun _ _ => none := by
  funext s d
  unfold viewOf Cache.get Cache.init
  dsimp only
  cases h : (List.replicate (n + 1) ([] : CLayer S))[d]? with
  | none => rfl
  | some l =>
    have := List.mem_of_getElem? h
    rw [List.mem_replicate] at this
    rw [this.2]
    rfl

end Ddo.C09

#print axioms Ddo.C09.kturn_any
#print axioms Ddo.C09.krunAny_invAny
#print axioms Ddo.C09.kstepAny_terminatesAny
