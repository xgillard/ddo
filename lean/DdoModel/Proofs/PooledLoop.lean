import DdoModel.Proofs.PooledStage
/-! The loop `buildLoopP`, and `compileP` (with `compilePOld`, the code before the repair of D5) around it: the ways an iteration can go,
    what holds when the loop ends normally (`TerminalP`), the induction along the loop for an arbitrary invariant (`buildLoopP_induct`),
    and the results of a compilation in terms of `buildLoopP` and `finalizeP` / `finalizePOld`. -/
set_option linter.unusedSectionVars false
set_option linter.unusedVariables false
namespace Ddo.Pooled
open Ddo
variable {S K : Type} [DecidableEq S] [DecidableEq K]

/-- `pd` after the `next_variable` call of a loop iteration has been logged -/
def logNV (cfg : Cfg S K) (pd : PD S K) : PD S K :=
  { pd with log := Call.nextVar pd.depth (pd.pool.map (·.state)) (cfg.P.nextVar pd.depth (pd.pool.map (·.state))) :: pd.log }
def polled (cfg : Cfg S K) (pd : PD S K) : PD S K := { logNV cfg pd with polls := pd.polls + 1 }

inductive LoopCase (cfg : Cfg S K) (stopAt : Option Nat) (fuel : Nat) (pd : PD S K) : Prop
  | none : cfg.P.nextVar pd.depth (pd.pool.map (·.state)) = none →
      buildLoopP cfg stopAt (fuel + 1) pd = (logNV cfg pd, .ok) → LoopCase cfg stopAt fuel pd
  | cutoff (var : Nat) : cfg.P.nextVar pd.depth (pd.pool.map (·.state)) = some var →
      buildLoopP cfg stopAt (fuel + 1) pd = (polled cfg pd, .cutoff) → LoopCase cfg stopAt fuel pd
  | empty (var : Nat) : cfg.P.nextVar pd.depth (pd.pool.map (·.state)) = some var → pd.pool = [] →
      buildLoopP cfg stopAt (fuel + 1) pd = (polled cfg pd, .ok) → LoopCase cfg stopAt fuel pd
  | crash (var : Nat) : cfg.P.nextVar pd.depth (pd.pool.map (·.state)) = some var →
      stepLayerP cfg (polled cfg pd) var = none →
      buildLoopP cfg stopAt (fuel + 1) pd = (polled cfg pd, .crash) → LoopCase cfg stopAt fuel pd
  | step (var : Nat) (pd' : PD S K) : cfg.P.nextVar pd.depth (pd.pool.map (·.state)) = some var → pd.pool ≠ [] →
      stepLayerP cfg (polled cfg pd) var = some pd' →
      buildLoopP cfg stopAt (fuel + 1) pd = buildLoopP cfg stopAt fuel pd' → LoopCase cfg stopAt fuel pd

theorem buildLoopP_tail (cfg : Cfg S K) (stopAt : Option Nat) (fuel : Nat) (pd : PD S K) (var : Nat)
    (hnv : cfg.P.nextVar pd.depth (pd.pool.map (·.state)) = some var)
    (X : PD S K × Outcome)
    (hX : X = if pd.pool.isEmpty = true then (polled cfg pd, Outcome.ok)
      else match stepLayerP cfg (polled cfg pd) var with
        | none => (polled cfg pd, Outcome.crash)
        | some pd' => buildLoopP cfg stopAt fuel pd')
    (hb : buildLoopP cfg stopAt (fuel + 1) pd = X) : LoopCase cfg stopAt fuel pd := by
  subst hX
  by_cases hemp : pd.pool.isEmpty = true
  · rw [if_pos hemp] at hb
    exact .empty var hnv (List.isEmpty_iff.1 hemp) hb
  · have hne : pd.pool ≠ [] := fun h => hemp (List.isEmpty_iff.2 h)
    rw [if_neg hemp] at hb
    cases hst : stepLayerP cfg (polled cfg pd) var with
    | none => rw [hst] at hb; exact .crash var hnv hst hb
    | some pd' => rw [hst] at hb; exact .step var pd' hnv hne hst hb

theorem buildLoopP_cases (cfg : Cfg S K) (stopAt : Option Nat) (fuel : Nat) (pd : PD S K) : LoopCase cfg stopAt fuel pd := by
  cases hnv : cfg.P.nextVar pd.depth (pd.pool.map (·.state)) with
  | none =>
    refine .none hnv ?_
    unfold buildLoopP
    simp only [hnv, logNV]
  | some var =>
    cases stopAt with
    | none =>
      refine buildLoopP_tail cfg none fuel pd var hnv _ rfl ?_
      conv => lhs; unfold buildLoopP
      simp only [hnv, logNV, polled, Bool.false_eq_true, if_false]
      rfl
    | some k =>
      by_cases hcut : pd.polls + 1 ≥ k
      · refine .cutoff var hnv ?_
        unfold buildLoopP
        simp only [hnv, logNV, polled, hcut, decide_true, if_true]
      · refine buildLoopP_tail cfg (some k) fuel pd var hnv _ rfl ?_
        conv => lhs; unfold buildLoopP
        simp only [hnv, logNV, polled, hcut, decide_false, Bool.false_eq_true, if_false]
        rfl

/-- what holds of the pooled diagram when the loop ends normally: the pool is empty (the `break`), or `nextVar` answered
    `none` on the states of the pool, which is then the terminal layer -/
def TerminalP (cfg : Cfg S K) (pd : PD S K) : Prop :=
  pd.pool = [] ∨ cfg.P.nextVar pd.depth (pd.pool.map (·.state)) = none

/-- **invariants of the loop**: a property `I pd k` (`k` = number of completed iterations) that the bookkeeping of an
    iteration (`logNV`, `polled`: only `log` and `polls` change) keeps, and that a successful layer step from a non-empty pool
    brings from `k` to `k + 1`, holds at the exit of `buildLoopP` after `j ≤ fuel` steps; if the loop ends normally the last
    unit of fuel was not used for a step and the diagram is terminal. -/
theorem buildLoopP_induct (cfg : Cfg S K) (stopAt : Option Nat) (I : PD S K → Nat → Prop)
    (hbook : ∀ pd k, I pd k → I (logNV cfg pd) k ∧ I (polled cfg pd) k)
    (hstep : ∀ (pd pd' : PD S K) var k, cfg.P.nextVar pd.depth (pd.pool.map (·.state)) = some var → pd.pool ≠ [] →
      I pd k → stepLayerP cfg pd var = some pd' → I pd' (k + 1)) :
    ∀ (fuel : Nat) (pd : PD S K) (k : Nat), I pd k →
      ∃ j, j ≤ fuel ∧ I (buildLoopP cfg stopAt fuel pd).1 (k + j) ∧
        ((buildLoopP cfg stopAt fuel pd).2 = .ok → j < fuel ∧ TerminalP cfg (buildLoopP cfg stopAt fuel pd).1) := by
  intro fuel
  induction fuel with
  | zero => intro pd k h; exact ⟨0, Nat.le_refl _, h, fun h => by cases h⟩
  | succ fuel ih =>
    intro pd k h
    cases buildLoopP_cases cfg stopAt fuel pd with
    | none hnv hb => rw [hb]; exact ⟨0, Nat.zero_le _, (hbook pd k h).1, fun _ => ⟨Nat.succ_pos _, .inr hnv⟩⟩
    | cutoff _ _ hb => rw [hb]; exact ⟨0, Nat.zero_le _, (hbook pd k h).2, fun h => by cases h⟩
    | empty _ _ hemp hb => rw [hb]; exact ⟨0, Nat.zero_le _, (hbook pd k h).2, fun _ => ⟨Nat.succ_pos _, .inl hemp⟩⟩
    | crash _ _ _ hb => rw [hb]; exact ⟨0, Nat.zero_le _, (hbook pd k h).2, fun h => by cases h⟩
    | step var pd' hnv hne hst hb =>
      rw [hb]
      obtain ⟨j, hj, hI, hok⟩ := ih pd' (k + 1) (hstep (polled cfg pd) pd' var k hnv hne (hbook pd k h).2 hst)
      exact ⟨j + 1, Nat.succ_le_succ hj, Nat.add_right_comm k 1 j ▸ hI,
        fun h => ⟨Nat.succ_lt_succ (hok h).1, (hok h).2⟩⟩

/-- the same when a step can only be taken at `k ≤ N`: the fuel must not allow more, a run that ends normally being known
    to leave one unit unused -/
theorem buildLoopP_induct_le (cfg : Cfg S K) (stopAt : Option Nat) (N : Nat) (I : PD S K → Nat → Prop)
    (hbook : ∀ pd k, I pd k → I (logNV cfg pd) k ∧ I (polled cfg pd) k)
    (hstep : ∀ (pd pd' : PD S K) var k, k ≤ N → cfg.P.nextVar pd.depth (pd.pool.map (·.state)) = some var → pd.pool ≠ [] →
      I pd k → stepLayerP cfg pd var = some pd' → I pd' (k + 1))
    (fuel : Nat) (pd : PD S K) (k : Nat) (h : I pd k)
    (hfuel : k + fuel ≤ N + 1 ∨ (k + fuel ≤ N + 2 ∧ (buildLoopP cfg stopAt fuel pd).2 = .ok)) :
    ∃ k', k' ≤ N + 1 ∧ I (buildLoopP cfg stopAt fuel pd).1 k' ∧
      ((buildLoopP cfg stopAt fuel pd).2 = .ok → TerminalP cfg (buildLoopP cfg stopAt fuel pd).1) := by
  obtain ⟨j, hj, hI, hok⟩ := buildLoopP_induct cfg stopAt (fun pd k => k ≤ N + 1 → I pd k)
    (fun pd k h => ⟨fun hk => (hbook pd k (h hk)).1, fun hk => (hbook pd k (h hk)).2⟩)
    (fun pd pd' var k hnv hne h hst hk =>
      hstep pd pd' var k (Nat.le_of_succ_le_succ hk) hnv hne (h (Nat.le_of_succ_le hk)) hst)
    fuel pd k (fun _ => h)
  have hk' : k + j ≤ N + 1 := by
    rcases hfuel with hf | ⟨hf, ho⟩
    · exact Nat.le_trans (Nat.add_le_add_left hj k) hf
    · exact Nat.le_of_succ_le_succ (Nat.le_trans (Nat.add_lt_add_left (hok ho).1 k) hf)
  exact ⟨k + j, hk', hI hk', fun h => (hok h).2⟩

theorem buildLoopP_ind (cfg : Cfg S K) (stopAt : Option Nat) (I : PD S K → Prop)
    (hbook : ∀ pd, I pd → I (logNV cfg pd) ∧ I (polled cfg pd))
    (hstep : ∀ (pd pd' : PD S K) var, cfg.P.nextVar pd.depth (pd.pool.map (·.state)) = some var → pd.pool ≠ [] →
      I pd → stepLayerP cfg pd var = some pd' → I pd')
    (fuel : Nat) (pd : PD S K) (h : I pd) : I (buildLoopP cfg stopAt fuel pd).1 :=
  have ⟨_, _, h', _⟩ := buildLoopP_induct cfg stopAt (fun pd _ => I pd) (fun pd _ => hbook pd)
    (fun pd pd' var _ => hstep pd pd' var) fuel pd 0 h
  h'

theorem compileP_pd (cfg : Cfg S K) (cache : Cache S) (store : DomStore S K) (polls : Nat) (stopAt : Option Nat) :
    (compileP cfg cache store polls stopAt).2.2.2 =
      (buildLoopP cfg stopAt (cfg.P.nbVars + 2) (initPD cfg cache store polls)).1 := by
  unfold compileP
  generalize buildLoopP cfg stopAt (cfg.P.nbVars + 2) (initPD cfg cache store polls) = bl
  obtain ⟨pd, oc⟩ := bl
  cases oc <;> rfl

omit [DecidableEq S] in
theorem result_cases {r r1 : Result S} {o2 : Option (Result S)} {f : Bool → Result S} {must may : Bool}
    (h1 : r1 = f must) (h2 : o2 = if may != must then some (f may) else none) (hr : r = r1 ∨ o2 = some r) :
    ∃ e, r = f e := by
  rcases hr with hr | hr
  · exact ⟨must, hr.trans h1⟩
  · rw [h2] at hr
    split at hr
    · exact ⟨may, (Option.some.inj hr).symm⟩
    · cases hr

theorem compileP_ok_results (cfg : Cfg S K) (cache : Cache S) (store : DomStore S K) (polls : Nat) (stopAt : Option Nat)
    (hok : (buildLoopP cfg stopAt (cfg.P.nbVars + 2) (initPD cfg cache store polls)).2 = .ok) :
    ∃ must may, (compileP cfg cache store polls stopAt).2.1 =
        finalizeP cfg (buildLoopP cfg stopAt (cfg.P.nbVars + 2) (initPD cfg cache store polls)).1 must ∧
      (compileP cfg cache store polls stopAt).2.2.1 =
        if may != must then
          some (finalizeP cfg (buildLoopP cfg stopAt (cfg.P.nbVars + 2) (initPD cfg cache store polls)).1 may)
        else none := by
  unfold compileP
  generalize buildLoopP cfg stopAt (cfg.P.nbVars + 2) (initPD cfg cache store polls) = bl at hok ⊢
  obtain ⟨pd, oc⟩ := bl
  dsimp only at hok
  subst hok
  exact ⟨_, _, rfl, rfl⟩

theorem compileP_notok_results (cfg : Cfg S K) (cache : Cache S) (store : DomStore S K) (polls : Nat) (stopAt : Option Nat)
    (hok : (buildLoopP cfg stopAt (cfg.P.nbVars + 2) (initPD cfg cache store polls)).2 ≠ .ok) :
    (compileP cfg cache store polls stopAt).2.1.expanded = [] ∧ (compileP cfg cache store polls stopAt).2.2.1 = none := by
  unfold compileP
  generalize buildLoopP cfg stopAt (cfg.P.nbVars + 2) (initPD cfg cache store polls) = bl at hok ⊢
  obtain ⟨pd, oc⟩ := bl
  dsimp only at hok
  cases oc with
  | ok => exact absurd rfl hok
  | cutoff => exact ⟨rfl, rfl⟩
  | crash => exact ⟨rfl, rfl⟩

theorem compileP_results (cfg : Cfg S K) (cache : Cache S) (store : DomStore S K) (polls : Nat) (stopAt : Option Nat)
    (r : Result S)
    (hr : r = (compileP cfg cache store polls stopAt).2.1 ∨ some r = (compileP cfg cache store polls stopAt).2.2.1) :
    r.expanded = [] ∨ ∃ e, r = finalizeP cfg (compileP cfg cache store polls stopAt).2.2.2 e := by
  rw [compileP_pd]
  by_cases hok : (buildLoopP cfg stopAt (cfg.P.nbVars + 2) (initPD cfg cache store polls)).2 = .ok
  · obtain ⟨must, may, h1, h2⟩ := compileP_ok_results cfg cache store polls stopAt hok
    exact .inr (result_cases h1 h2 (hr.imp id Eq.symm))
  · obtain ⟨h1, h2⟩ := compileP_notok_results cfg cache store polls stopAt hok
    rcases hr with hr | hr
    · exact .inl (by rw [hr]; exact h1)
    · rw [h2] at hr; cases hr

theorem compileP_outcome (cfg : Cfg S K) (cache : Cache S) (store : DomStore S K) (polls : Nat) (stopAt : Option Nat) :
    (compileP cfg cache store polls stopAt).1 =
      (buildLoopP cfg stopAt (cfg.P.nbVars + 2) (initPD cfg cache store polls)).2 := by
  unfold compileP
  generalize buildLoopP cfg stopAt (cfg.P.nbVars + 2) (initPD cfg cache store polls) = bl
  obtain ⟨pd, oc⟩ := bl
  cases oc <;> rfl

theorem compilePOld_ok_results (cfg : Cfg S K) (cache : Cache S) (store : DomStore S K) (polls : Nat) (stopAt : Option Nat)
    (hok : (buildLoopP cfg stopAt (cfg.P.nbVars + 2) (initPD cfg cache store polls)).2 = .ok) :
    ∃ must may, (compilePOld cfg cache store polls stopAt).2.1 =
        finalizePOld cfg (buildLoopP cfg stopAt (cfg.P.nbVars + 2) (initPD cfg cache store polls)).1 must ∧
      (compilePOld cfg cache store polls stopAt).2.2.1 =
        if may != must then
          some (finalizePOld cfg (buildLoopP cfg stopAt (cfg.P.nbVars + 2) (initPD cfg cache store polls)).1 may)
        else none := by
  unfold compilePOld
  generalize buildLoopP cfg stopAt (cfg.P.nbVars + 2) (initPD cfg cache store polls) = bl at hok ⊢
  obtain ⟨pd, oc⟩ := bl
  dsimp only at hok
  subst hok
  exact ⟨_, _, rfl, rfl⟩

theorem compilePOld_outcome (cfg : Cfg S K) (cache : Cache S) (store : DomStore S K) (polls : Nat) (stopAt : Option Nat) :
    (compilePOld cfg cache store polls stopAt).1 =
      (buildLoopP cfg stopAt (cfg.P.nbVars + 2) (initPD cfg cache store polls)).2 := by
  unfold compilePOld
  generalize buildLoopP cfg stopAt (cfg.P.nbVars + 2) (initPD cfg cache store polls) = bl
  obtain ⟨pd, oc⟩ := bl
  cases oc <;> rfl

end Ddo.Pooled

namespace Ddo.C08
open Ddo Ddo.Pooled
variable {S K : Type} [DecidableEq S] [DecidableEq K]

theorem compileP_results_ok (cfg : Cfg S K) (cache : Cache S) (store : DomStore S K) (polls : Nat) (stopAt : Option Nat)
    (hok : (compileP cfg cache store polls stopAt).1 = .ok) (r : Result S)
    (hr : r = (compileP cfg cache store polls stopAt).2.1 ∨ (compileP cfg cache store polls stopAt).2.2.1 = some r) :
    ∃ e, r = finalizeP cfg (buildLoopP cfg stopAt (cfg.P.nbVars + 2) (initPD cfg cache store polls)).1 e := by
  rw [compileP_outcome] at hok
  obtain ⟨must, may, h1, h2⟩ := compileP_ok_results cfg cache store polls stopAt hok
  exact result_cases h1 h2 hr

theorem compilePOld_results_ok (cfg : Cfg S K) (cache : Cache S) (store : DomStore S K) (polls : Nat) (stopAt : Option Nat)
    (hok : (compilePOld cfg cache store polls stopAt).1 = .ok) (r : Result S)
    (hr : r = (compilePOld cfg cache store polls stopAt).2.1 ∨ (compilePOld cfg cache store polls stopAt).2.2.1 = some r) :
    ∃ e, r = finalizePOld cfg (buildLoopP cfg stopAt (cfg.P.nbVars + 2) (initPD cfg cache store polls)).1 e := by
  rw [compilePOld_outcome] at hok
  obtain ⟨must, may, h1, h2⟩ := compilePOld_ok_results cfg cache store polls stopAt hok
  exact result_cases h1 h2 hr

end Ddo.C08
