import DdoModel.Proofs.BuildInv
/-! The invariant `BInv` of a relaxed compilation in isolation (no cache, no dominance), which C08 (iii) / (iv) read (`Proofs/MddBounds.lean`).

`Live l p` is a ghost predicate "position `p` of layer `l` was expanded" (existentially quantified along the loop).  The core of `BInv` is the
one-step fact `StepTo`: an expanded node whose potential `value + H` reaches the threshold `t` has, in the next layer, an expanded node holding
an inbound **arc** from it along which no potential is lost (`h ≤ cost + h'`, `value + cost ≤ value'`).

`BInv` is not preserved on its own: it is a view (`binv_of_tinv`) of the invariant `Theta.TInv` of `Proofs/BuildInv.lean` with the cache off.
No position is pruned then, so the unconditional step fact `StepU` gives `StepTo` at any threshold (the rough-bound test passes by `RubOk` and
`HypB.clamp`); what `BInv` says beyond `TInv` is that the arcs come from live positions (`C10d.KArcM`) and that the layers up to `lel` are
entirely live (`LelLive`). -/
set_option linter.unusedSectionVars false
set_option linter.unusedVariables false
namespace Ddo.Bounds
open Ddo
variable {S K : Type} [DecidableEq S] [DecidableEq K]

/-- one-step fact: if the potential `value + H` of the node `n` (position `(l, p)`, depth `k`) reaches the threshold
    `t`, then a node of the layer `child`, at a position satisfying `LiveC`, holds an inbound arc from `(l, p)`
    along which no potential is lost -/
def StepTo (H : Nat → S → EInt) (B t : Int) (k l p : Nat) (n : Node S) (child : List (Node S)) (LiveC : Nat → Prop) : Prop :=
  ∀ h, H k n.state = some h → t ≤ n.value + h →
    ∃ (p' : Nat) (m : Node S) (e : Arc) (h' : Int), LiveC p' ∧ child[p']? = some m ∧ e ∈ m.inb ∧ e.fromL = l ∧ e.fromP = p ∧
      Cover.Within B e.cost ∧ H (k + 1) m.state = some h' ∧ h ≤ e.cost + h' ∧ n.value + e.cost ≤ m.value

/-- `Live l p`: the node at position `p` of layer `l` has been expanded -/
structure BInv (cfg : Cfg S K) (H : Nat → S → EInt) (B t : Int) (Live : Nat → Nat → Prop) (dd : DD S K) : Prop where
  depth : dd.depth = cfg.root.depth + dd.layers.length
  rngN : ∀ n ∈ dd.next, Cover.Within (Cover.Bd B dd.layers.length) n.value
  rngL : ∀ (i : Nat) ly, dd.layers[i]? = some ly → ∀ n ∈ ly, Cover.Within (Cover.Bd B i) n.value
  arcsN : ∀ n ∈ dd.next, ∀ a ∈ n.inb, Cover.Within B a.cost ∧ a.fromL + 1 = dd.layers.length ∧ Live a.fromL a.fromP
  arcsL : ∀ (i : Nat) ly, dd.layers[i]? = some ly → ∀ n ∈ ly, ∀ a ∈ n.inb, a.fromL + 1 = i ∧ Live a.fromL a.fromP
  att : dd.layers ≠ [] → ∀ n ∈ dd.next, ∃ a ∈ n.inb, ∃ p, getNode dd.layers a.fromL a.fromP = some p
  stepL : ∀ (l p : Nat) ly ly' n, dd.layers[l]? = some ly → dd.layers[l + 1]? = some ly' → Live l p → ly[p]? = some n →
    StepTo H B t (cfg.root.depth + l) l p n ly' (Live (l + 1))
  stepN : ∀ (l p : Nat) ly n, l + 1 = dd.layers.length → dd.layers[l]? = some ly → Live l p → ly[p]? = some n →
    StepTo H B t (cfg.root.depth + l) l p n dd.next (fun _ => True)
  rub : ∀ (l p : Nat) ly n, dd.layers[l]? = some ly → Live l p → ly[p]? = some n → n.rub = cfg.R.rub n.state
  cutL : ∀ ly ∈ dd.layers, ∀ n ∈ ly, n.cutset = false
  cutN : ∀ n ∈ dd.next, n.cutset = false
  liveNone : dd.lel = none → ∀ (l : Nat) ly (p : Nat), dd.layers[l]? = some ly → p < ly.length → Live l p
  liveSome : ∀ k, dd.lel = some k → k < dd.layers.length ∧
    ∀ (l : Nat) ly (p : Nat), l ≤ k → dd.layers[l]? = some ly → p < ly.length → Live l p
  root0 : dd.layers = [] → ∃ n0, dd.next = [n0] ∧ n0.state = cfg.root.state ∧ n0.value = cfg.root.value
  root1 : dd.layers ≠ [] → ∃ ly n0, dd.layers[0]? = some ly ∧ ly[0]? = some n0 ∧ n0.state = cfg.root.state ∧
    n0.value = cfg.root.value ∧ Live 0 0

/-- `t` is the potential threshold of interest -/
structure HypB (cfg : Cfg S K) (H : Nat → S → EInt) (B t : Int) : Prop where
  rel : cfg.ctype = .relaxed
  cache : cfg.useCache = false
  dom : cfg.dom = none
  W : 1 ≤ cfg.width
  P : Potential cfg.P H
  R : RubOk cfg.R H
  M : MergeOk cfg.R H
  AM : Cover.AttMerge cfg.P cfg.R H
  B : NoClamp cfg.P cfg.R cfg.root.value B
  clamp : ∀ x, t ≤ x → clamp x > cfg.lb

theorem stripRub_fields {a b : Node S} (h : stripRub a = stripRub b) :
    a.state = b.state ∧ a.value = b.value ∧ a.inb = b.inb ∧ a.cutset = b.cutset := by
  have h1 := congrArg Node.state h
  have h2 := congrArg Node.value h
  have h3 := congrArg Node.inb h
  have h4 := congrArg Node.cutset h
  simp only [stripRub] at h1 h2 h3 h4
  exact ⟨h1, h2, h3, h4⟩

theorem stepLayer_empty (cfg : Cfg S K) (dd : DD S K) (var : Nat) (he : dd.next = []) :
    stepLayer cfg dd var = (some { dd with layers := dd.layers ++ [[]] }, .cutoff) :=
  Truth.stepLayer_empty cfg dd var he

/-- the two ways the loop ends normally: on an empty layer (`brk`: the invariant held on a diagram whose layer under construction was
    empty), or because `nextVar` answered `none` (`term`) -/
inductive Done (cfg : Cfg S K) (H : Nat → S → EInt) (B t : Int) (fin : DD S K) : Prop
  | brk (Live : Nat → Nat → Prop) (dd0 : DD S K) : BInv cfg H B t Live dd0 → dd0.next = [] → fin.next = [] → Done cfg H B t fin
  | term (Live : Nat → Nat → Prop) : BInv cfg H B t Live fin →
      cfg.P.nextVar fin.depth (fin.next.map (·.state)) = none → fin.layers.length ≤ cfg.P.nbVars + 1 → Done cfg H B t fin

section view
open Ddo.Theta Ddo.C10d

/-- without cache or checker, every position of the layers up to the last exact layer was expanded -/
structure LelLive (Live : Nat → Nat → Prop) (dd : DD S K) : Prop where
  none : dd.lel = none → ∀ (l : Nat) ly (p : Nat), dd.layers[l]? = some ly → p < ly.length → Live l p
  some : ∀ k, dd.lel = some k → k < dd.layers.length ∧
    ∀ (l : Nat) ly (p : Nat), l ≤ k → dd.layers[l]? = some ly → p < ly.length → Live l p

theorem stepTo_of_stepU {cfg : Cfg S K} {H : Nat → S → EInt} {B t : Int} (hy : HypB cfg H B t) {k l p : Nat} {n : Node S}
    {child : List (Node S)} {Ok : Nat → Node S → Prop} {LiveC : Nat → Prop} (h : StepU cfg H B k l p n child Ok)
    (hOk : ∀ q m, child[q]? = some m → Ok q m → LiveC q) : StepTo H B t k l p n child LiveC := by
  intro h0 hH ht
  have hr : satAdd (cfg.R.rub n.state) n.value > cfg.lb := by
    unfold satAdd; apply hy.clamp
    have := hy.R _ _ _ hH; omega
  obtain ⟨p', m, e, h', hm, hok, rest⟩ := h hr h0 hH
  exact ⟨p', m, e, h', hOk p' m hm hok, hm, rest⟩

theorem binv_of_tinv {cfg : Cfg S K} {H : Nat → S → EInt} {B t : Int} (hy : HypB cfg H B t) {cache : Cache S}
    {Live : Nat → Nat → Prop} {dd : DD S K} (hT : TInv cfg H B cache Live dd) (hK : KArcM Live dd) (hL : LelLive Live dd) :
    BInv cfg H B t Live dd := by
  refine ⟨hT.depth, hT.rngN, hT.rngL, fun n hn a ha => ?_, fun i ly hi n hn a ha => ?_, hT.att,
    fun l p ly ly' n a b c d => stepTo_of_stepU hy (hT.stepL l p ly ly' n a b c d) fun q m hm hok => ?_,
    fun l p ly n a b c d => stepTo_of_stepU hy (hT.stepN l p ly n a b c d) fun _ _ _ _ => True.intro,
    hT.rub, fun ly hly n hn => ?_, fun n hn => (hT.baseN n hn).1.cutset, hL.none, hL.some, hT.root0, fun hne => ?_⟩
  · have := (hT.baseN n hn).1.arcs a ha
    exact ⟨this.2, this.1, (hK.N n hn).2 a ha⟩
  · exact ⟨((hT.baseL i ly hi n hn).arcs a ha).1, (hK.L ly (List.mem_of_getElem? hi) n hn).2 a ha⟩
  · -- a child pruned by the cache would have found an entry in it
    rcases hok with hok | hok
    · exact hok
    · obtain ⟨_, t', ht', _⟩ := (hT.clsL (l + 1) q ly' m b hm).pruned hok
      unfold lookup at ht'
      rw [hy.cache] at ht'; cases ht'
  · obtain ⟨i, hi⟩ := List.mem_iff_getElem?.mp hly
    exact (hT.baseL i ly hi n hn).cutset
  · obtain ⟨ly, n0, a, b, c, d, _, _, g⟩ := hT.root1 hne
    exact ⟨ly, n0, a, b, c, d, g⟩

theorem HypB.toT {cfg : Cfg S K} {H : Nat → S → EInt} {B t : Int} (hy : HypB cfg H B t) : HypT cfg H B :=
  ⟨hy.rel, hy.dom, hy.W, hy.P, hy.M, hy.AM, hy.B⟩

theorem expandAll_length (cfg : Cfg S K) (var lidx : Nat) (layer : List (Node S)) (cur : List Nat) (lg : List (Call S)) :
    (expandAll cfg var lidx layer cur lg).1.length = layer.length := by
  have h := congrArg List.length (Cover.fold_keys cfg var lidx cur (layer, [], lg))
  rw [List.length_map, List.length_map] at h
  exact h

theorem stepLayer_tkl (cfg : Cfg S K) (H : Nat → S → EInt) (B t : Int) (cache : Cache S) (hy : HypB cfg H B t)
    (Live : Nat → Nat → Prop) (dd : DD S K) (var : Nat) (hne : dd.next ≠ [])
    (hnv : cfg.P.nextVar dd.depth (dd.next.map (·.state)) = some var) (hlen : dd.layers.length ≤ cfg.P.nbVars)
    (hI : TInv cfg H B cache Live dd ∧ KArcM Live dd ∧ LelLive Live dd) :
    ∃ dd' Live', stepLayer cfg dd var = (some dd', .ok) ∧ (TInv cfg H B cache Live' dd' ∧ KArcM Live' dd' ∧ LelLive Live' dd') ∧
      dd'.layers.length = dd.layers.length + 1 := by
  obtain ⟨hT, hK, hL⟩ := hI
  obtain ⟨sq, dd', hsq, hst, hl, hn, hlel, hT'⟩ := stepLayer_tinv_live cfg H B cache hy.toT Live dd var hne hnv hlen hT
  -- neither filter does anything
  have hfc : fcOf cfg dd = (dd.next, List.range dd.next.length) := by
    unfold fcOf; split
    · rfl
    · exact Cover.filterCache_id cfg dd.cache dd.next _ hy.cache (fun p hp => List.mem_range.mp hp)
  have hfd : Width.preSquash cfg dd = ((fcOf cfg dd).1, (fcOf cfg dd).2, dd.store, true) := by
    show filterDom cfg dd.store (fcOf cfg dd).1 (fcOf cfg dd).2 = _
    unfold filterDom; rw [hy.dom]
  have hlen' : dd'.layers.length = dd.layers.length + 1 := by rw [hl, List.length_append, List.length_singleton]
  have harcL : ∀ ly ∈ dd.layers, ∀ n ∈ ly, ∀ a ∈ n.inb, a.fromL < dd.layers.length := by
    intro ly hly n hnm a ha
    obtain ⟨i, hi⟩ := List.mem_iff_getElem?.mp hly
    have h1 := ((hT.baseL i ly hi n hnm).arcs a ha).1
    exact Nat.lt_trans (h1 ▸ Nat.lt_succ_self a.fromL) (Cover.lt_of_getElem?_some hi)
  have harcN : ∀ n ∈ dd.next, ∀ a ∈ n.inb, a.fromL < dd.layers.length := fun n hnm a ha =>
    ((hT.baseN n hnm).1.arcs a ha).1 ▸ Nat.lt_succ_self a.fromL
  refine ⟨dd', _, hst, ⟨hT', step_karcm cfg hy.rel hy.W Live dd dd' var sq hK harcL harcN (by rw [hfd]; exact hsq) hl hn, ?_⟩, hlen'⟩
  -- the positions of a layer below the new one keep their classification
  have hold : ∀ (l : Nat) ly (p : Nat), l < dd.layers.length → dd'.layers[l]? = some ly → (dd.layers[l]? = some ly → Live l p) →
      (if l = dd.layers.length then p ∈ sq.2.1 else Live l p) := fun l ly p hlt hly h => by
    rw [hl, List.getElem?_append_left hlt] at hly
    rw [if_neg (Nat.ne_of_lt hlt)]; exact h hly
  rw [hfc] at hsq
  rcases squash_cases cfg dd dd.next (List.range dd.next.length) hy.rel hy.W with ⟨_, hsq'⟩ | ⟨c1, c2, hsq'⟩
  · -- nothing is merged: `lel` is kept and the whole new layer is handed to the expansion
    rw [hsq'] at hsq; cases hsq
    dsimp only at hlel hl
    refine ⟨fun h0 l ly p hly hp => ?_, fun k hk => ?_⟩
    · rw [hlel] at h0
      rcases Nat.lt_or_ge l dd.layers.length with hlt | hge
      · exact hold l ly p hlt hly fun hly => hL.none h0 l ly p hly hp
      · rw [hl] at hly
        rcases Cover.getElem?_concat_cases hly with hly | ⟨rfl, rfl⟩
        · exact absurd (Cover.lt_of_getElem?_some hly) (Nat.not_lt_of_ge hge)
        · rw [if_pos rfl]; rw [expandAll_length] at hp; exact List.mem_range.mpr hp
    · rw [hlel] at hk
      obtain ⟨h1, h2⟩ := hL.some k hk
      exact ⟨hlen' ▸ Nat.lt_succ_of_lt h1, fun l ly p hlk hly hp =>
        hold l ly p (Nat.lt_of_le_of_lt hlk h1) hly fun hly => h2 l ly p hlk hly hp⟩
  · -- a merge: `lel`, if not set before, is the layer below the new one
    rw [hsq'] at hsq; cases hsq
    dsimp only at hlel hl
    rw [lel_squash] at hlel
    refine ⟨fun h0 => (by rw [hlel] at h0; cases h0), fun k hk => ?_⟩
    rw [hlel] at hk
    rcases lel_squash_cases hk with hk1 | ⟨hk0, hkk⟩
    · obtain ⟨h1, h2⟩ := hL.some k hk1
      exact ⟨hlen' ▸ Nat.lt_succ_of_lt h1, fun l ly p hlk hly hp =>
        hold l ly p (Nat.lt_of_le_of_lt hlk h1) hly fun hly => h2 l ly p hlk hly hp⟩
    · have h1 : k < dd.layers.length := hkk ▸ Nat.sub_lt (Nat.lt_trans Nat.zero_lt_one c2) Nat.zero_lt_one
      exact ⟨hlen' ▸ Nat.lt_succ_of_lt h1, fun l ly p hlk hly hp =>
        hold l ly p (Nat.lt_of_le_of_lt hlk h1) hly fun hly => hL.none hk0 l ly p hly hp⟩

theorem init_tkl (cfg : Cfg S K) (H : Nat → S → EInt) (B : Int) (cache : Cache S) (store : DomStore S K) (polls : Nat)
    (hB : NoClamp cfg.P cfg.R cfg.root.value B) :
    TInv cfg H B cache (fun _ _ => False) (initDD cfg cache store polls) ∧ KArcM (fun _ _ => False) (initDD cfg cache store polls) ∧
      LelLive (fun _ _ => False) (initDD cfg cache store polls) :=
  ⟨init_tinv cfg H B cache store polls hB,
    ⟨fun ly hly => absurd hly List.not_mem_nil, fun n hn => by
      rw [show (initDD cfg cache store polls).next = [{ state := cfg.root.state, value := cfg.root.value, depth := cfg.root.depth }]
        from rfl, List.mem_singleton] at hn
      subst hn; exact ⟨rfl, fun a ha => absurd ha List.not_mem_nil⟩⟩,
    ⟨fun _ l ly p hly => (by rw [show (initDD cfg cache store polls).layers = [] from rfl] at hly; cases hly), fun k hk => by cases hk⟩⟩

theorem buildLoop_done (cfg : Cfg S K) (H : Nat → S → EInt) (B t : Int) (hy : HypB cfg H B t) (cache : Cache S) (stopAt : Option Nat) :
    ∀ (fuel : Nat) (dd : DD S K) (Live : Nat → Nat → Prop), TInv cfg H B cache Live dd ∧ KArcM Live dd ∧ LelLive Live dd →
      dd.layers.length + fuel ≤ cfg.P.nbVars + 2 → (buildLoop cfg stopAt fuel dd).2 = .ok →
      Done cfg H B t (buildLoop cfg stopAt fuel dd).1 := by
  intro fuel dd Live hI hlen
  refine buildLoop_ok_induct cfg stopAt
    (fun f dd => ∃ Live, (TInv cfg H B cache Live dd ∧ KArcM Live dd ∧ LelLive Live dd) ∧ dd.layers.length + f ≤ cfg.P.nbVars + 2)
    (Done cfg H B t) ?_ ?_ ?_ fuel dd ⟨Live, hI, hlen⟩
  · intro f dd ⟨Live, ⟨hT, hK, hL⟩, hlen⟩ hnone
    exact .term Live (binv_of_tinv hy (hT.congr rfl rfl rfl rfl) ⟨hK.L, hK.N⟩ ⟨hL.none, hL.some⟩) hnone
      (Nat.le_trans (Nat.le_add_right _ f) (Nat.le_of_succ_le_succ hlen))
  · intro f dd var ⟨Live, ⟨hT, hK, hL⟩, _⟩ _ hne
    exact .brk Live (Truth.tick dd var) (binv_of_tinv hy (hT.congr rfl rfl rfl rfl) ⟨hK.L, hK.N⟩ ⟨hL.none, hL.some⟩) hne hne
  · intro f dd var dd' ⟨Live, ⟨hT, hK, hL⟩, hlen⟩ hvar hne hst
    obtain ⟨dd'', Live', hst', hI', hl'⟩ := stepLayer_tkl cfg H B t cache hy Live (Truth.tick dd var) var hne hvar
      (Nat.le_trans (Nat.le_add_right _ f) (Nat.le_of_succ_le_succ (Nat.le_of_succ_le_succ hlen)))
      ⟨hT.congr rfl rfl rfl rfl, ⟨hK.L, hK.N⟩, ⟨hL.none, hL.some⟩⟩
    rw [hst] at hst'; cases hst'
    exact ⟨Live', hI', by rw [hl', Nat.add_right_comm]; exact hlen⟩

end view

end Ddo.Bounds
