import DdoModel.Proofs.PooledStep
import DdoModel.Proofs.PooledProtocol
import DdoModel.Proofs.PooledExact
import DdoModel.Proofs.MddBounds
/-! # Cut-set progress of the pooled diagram with long arcs, before the repair of D5: when D5 struck, and when it could not

`Ddo.C08.not_cutset_progress_pooled` (finding D5, `Props/C08p.lean`): with long arcs a relaxed pooled compilation of the
pre-fix code (`compilePOld` / `finalizePOld`) may hand out its own root in its cut-set.  For the repaired `compileP`,
C08 (ii) is a theorem without structural hypothesis: `Ddo.C08.cutset_progress_pooled` (`Props/C08q.lean`).  Here, about
the pre-fix functions:

* `d5_only_root`: D5 was the **only** way C08 (ii) failed — a cut-set sub-problem that is not strictly deeper than the root
  sub-problem *is* the root sub-problem (state, value, depth, path).  No structural hypothesis; any cache / dominance
  configuration, any `stopAt`, both results of `compilePOld`.
* `finalizeP_cutset_progress_siblings`: C08 (ii) holds for `finalizePOld`, long arcs allowed, as soon as the children of
  one node are impacted by the same variables (`SiblingsAlike`, strictly weaker than `AllImpacted`:
  `siblingsAlike_of_allImpacted`; `Witness` in `Proofs/PooledWitness.lean`).
  Then the children of the root leave the pool *together*: the layer of index 1 holds all of them, it is never relaxed
  (fewer than two layers are materialised when it is squashed), and from then on every arc comes from a layer of index
  `≥ 1`, so the root is never the parent of an inexact node. -/
set_option linter.unusedSectionVars false
set_option linter.unusedVariables false
namespace Ddo.PProgress
open Ddo Ddo.Pooled
variable {S K : Type} [DecidableEq S] [DecidableEq K]

/-- the children of one node are impacted by the same variables -/
def SiblingsAlike (P : Problem S) : Prop :=
  ∀ (y : Nat) (s : S) (a b : Int) (x : Nat), a ∈ P.domain y s → b ∈ P.domain y s →
    P.impacted x (P.trans s ⟨y, a⟩) = P.impacted x (P.trans s ⟨y, b⟩)

theorem siblingsAlike_of_allImpacted {P : Problem S} (h : AllImpacted P) : SiblingsAlike P :=
  fun y s a b x _ _ => (h x _).trans (h x _).symm

/-- the squashed layer of a relaxed compilation: the filters, the relaxation and the expansion keep the property
    "every inbound arc comes from a layer whose index satisfies `Qf`" (redirected arcs keep their origin) -/
theorem layer_arcs (cfg : Cfg S K) (hrel : cfg.ctype = .relaxed) (pd : PD S K) (var : Nat) (layer : List (Node S))
    (cur : List Nat) (ief : Bool) (log : List (Call S))
    (hsq : SquashCase cfg pd.plain pd.layers.length pd.isExactField (fdOf cfg pd var) (impLog pd var) layer cur ief log)
    (Qf : Nat → Prop) (hp : ∀ n ∈ pd.pool, ∀ e ∈ n.inb, Qf e.fromL) : ∀ n ∈ layer, ∀ e ∈ n.inb, Qf e.fromL := by
  obtain ⟨hsig, _, _⟩ := fdOf_keep cfg pd var
  have hfd : ∀ n ∈ (fdOf cfg pd var).1, ∀ e ∈ n.inb, Qf e.fromL := by
    intro n hn e he
    obtain ⟨n0, hn0, _, hi0⟩ := C12.mem_of_sig hsig hn
    obtain ⟨m, hm, _, rfl⟩ := mem_curNodes_iff.1 hn0
    exact hp m hm e (hi0 ▸ he)
  cases hsq with
  | restrict hc _ _ _ _ _ => rw [hrel] at hc; cases hc
  | keep _ _ hl _ _ _ => rw [hl]; exact hfd
  | relax _ _ _ _ hl _ _ _ =>
    rw [hl]
    refine Bounds.relaxLayer_forall (fun n => ∀ e ∈ n.inb, Qf e.fromL) cfg _ _ _ _ ?_ (fun n hn => hn)
      (fun n b hn => hn) ?_ hfd
    · intro d0 e he
      simp only [Cover.freshMerged] at he
      cases he
    · intro dropN hd e he src m hm a ha
      rw [Cover.appendEdge_inb] at ha
      rcases List.mem_cons.1 ha with ha | ha
      · rw [ha]; exact hd e he
      · exact hm a ha

/-- while fewer than two layers are materialised the squashed layer of a relaxed compilation consists of (copies of)
    the impacted pool nodes -/
theorem layer_core (cfg : Cfg S K) (hrel : cfg.ctype = .relaxed) (pd : PD S K) (var : Nat) (layer : List (Node S))
    (cur : List Nat) (ief : Bool) (log : List (Call S))
    (hsq : SquashCase cfg pd.plain pd.layers.length pd.isExactField (fdOf cfg pd var) (impLog pd var) layer cur ief log)
    (hlt : pd.layers.length < 2) :
    ∀ n ∈ layer, ∃ m ∈ pd.pool, cfg.P.impacted var m.state = true ∧
      m.isExact = n.isExact ∧ m.state = n.state ∧ m.value = n.value ∧ m.best = n.best := by
  intro n hn
  cases hsq with
  | restrict hc _ _ _ _ _ => rw [hrel] at hc; cases hc
  | relax _ _ h2 _ _ _ _ _ => exact absurd hlt (Nat.not_lt.2 h2)
  | keep _ _ hl _ _ _ =>
    rw [hl] at hn
    obtain ⟨n0, h0, he0, hc⟩ := fdOf_subS cfg pd var n hn
    obtain ⟨m, hm1, hm2, rfl⟩ := mem_curNodes_iff.1 h0
    exact ⟨m, hm1, hm2, he0, hc.1, hc.2.1, hc.2.2.1⟩

/-- `stepLayerP cfg pd var = some pd'` materialised the layer `ly` (relaxed compilation) -/
structure Mat (cfg : Cfg S K) (pd pd' : PD S K) (var : Nat) (ly : List (Node S)) : Prop where
  ne : ly ≠ []
  layers : pd'.layers = pd.layers ++ [(pd.depth, ly)]
  /-- the arcs of the layer are arcs of pool nodes, possibly redirected (same origin) -/
  lyArcs : ∀ Qf : Nat → Prop, (∀ n ∈ pd.pool, ∀ e ∈ n.inb, Qf e.fromL) → ∀ n ∈ ly, ∀ e ∈ n.inb, Qf e.fromL
  /-- no relaxation before two layers are materialised -/
  lyCore : pd.layers.length < 2 → ∀ n ∈ ly, ∃ m ∈ pd.pool, cfg.P.impacted var m.state = true ∧
    m.isExact = n.isExact ∧ m.state = n.state ∧ m.value = n.value ∧ m.best = n.best
  /-- the arcs of the new pool: those of the skipped nodes, and new arcs from the layer -/
  poolArcs : ∀ Qf : Nat → Prop, Qf pd.layers.length → (∀ n ∈ restNodes cfg pd var, ∀ e ∈ n.inb, Qf e.fromL) →
    ∀ c ∈ pd'.pool, ∀ e ∈ c.inb, Qf e.fromL
  /-- when no pool node is skipped the new pool consists of children of the layer -/
  kids : restNodes cfg pd var = [] → ∀ c ∈ pd'.pool,
    (∃ n ∈ ly, ∃ d ∈ cfg.P.domain var n.state, c.state = cfg.P.trans n.state ⟨var, d⟩) ∧
    ((∀ n ∈ ly, n.isExact = true) → c.isExact = true)

/-- **one step of a relaxed pooled compilation**: either nothing is materialised and the pool loses no node … or `Mat` -/
theorem stepLayerP_shape (cfg : Cfg S K) (hrel : cfg.ctype = .relaxed) (pd pd' : PD S K) (var : Nat)
    (h : stepLayerP cfg pd var = some pd') :
    pd'.depth = pd.depth + 1 ∧
    ((pd'.layers = pd.layers ∧ pd'.pool = restNodes cfg pd var) ∨ ∃ ly, Mat cfg pd pd' var ly) := by
  obtain ⟨layer, cur, ief, log, hs⟩ := stepLayerP_elim cfg pd pd' var h
  refine ⟨hs.depth, ?_⟩
  have hrub := expF_rubEq cfg var pd.layers.length layer (restNodes cfg pd var) cur log
  have hpool := hs.pool
  rcases hs.cases with ⟨_, hlayers, hpool⟩ | ⟨_, hne, hlayers⟩
  · exact .inl ⟨hlayers, hpool⟩
  · right
    have hLA := layer_arcs cfg hrel pd var layer cur ief log hs.sq
    have hLC := layer_core cfg hrel pd var layer cur ief log hs.sq
    obtain ⟨hE1, delta, hE2, hE3, hE4⟩ := expF_logP cfg var pd.layers.length layer (restNodes cfg pd var) cur log
    have hKA : ∀ Qf : Nat → Prop, Qf pd.layers.length → (∀ n ∈ restNodes cfg pd var, ∀ e ∈ n.inb, Qf e.fromL) →
        ∀ c ∈ (expF cfg var pd.layers.length layer (restNodes cfg pd var) cur log).2.1, ∀ e ∈ c.inb, Qf e.fromL := by
      intro Qf hq hr
      unfold expF
      exact Bounds.fold_child_arcs (fun a => Qf a.fromL) cfg var pd.layers.length cur _ hr (fun q _ s d => hq)
    have hKE : (∀ n ∈ layer, n.isExact = true) → (∀ c ∈ restNodes cfg pd var, c.isExact = true) →
        ∀ c ∈ (expF cfg var pd.layers.length layer (restNodes cfg pd var) cur log).2.1, c.isExact = true :=
      fun hl hr => (expF_allEx cfg var pd.layers.length layer _ cur log hl hr).2
    generalize expF cfg var pd.layers.length layer (restNodes cfg pd var) cur log = r at *
    have hnew : ∀ n ∈ r.1, ∃ n0 ∈ layer, n0.inb = n.inb ∧ n0.isExact = n.isExact ∧ CoreEq n0 n := fun n hn => hrub.mem hn
    refine ⟨r.1, ⟨hne, hlayers, ?_, ?_, ?_, ?_⟩⟩
    · intro Qf hp n hn e he
      obtain ⟨n0, h0, hinb, _⟩ := hnew n hn
      exact hLA Qf hp n0 h0 e (hinb ▸ he)
    · intro hlt n hn
      obtain ⟨n0, h0, _, hex, hc⟩ := hnew n hn
      obtain ⟨m, hm, himp, h1, h2, h3, h4⟩ := hLC hlt n0 h0
      exact ⟨m, hm, himp, h1.trans hex, h2.trans hc.1, h3.trans hc.2.1, h4.trans hc.2.2.1⟩
    · intro Qf hq hr c hc
      rw [hpool] at hc
      exact hKA Qf hq hr c hc
    · intro hrest c hc
      rw [hpool] at hc
      refine ⟨?_, fun hall => ?_⟩
      · rcases (hE4 c hc).1 with ⟨src, d, hmem⟩ | ⟨n0, hn0, _⟩
        · obtain ⟨pre, post, _, hq⟩ := hE3.mem (List.mem_reverse.2 hmem)
          obtain ⟨h1, h2, h3, h4, _⟩ := hq
          rw [← hE1] at h4
          obtain ⟨n, hn, hns⟩ := List.mem_map.1 h4
          refine ⟨n, hn, d.val, hns ▸ h2, ?_⟩
          rw [h3, hns]
          cases d
          dsimp only at h1 ⊢
          rw [h1]
        · rw [hrest] at hn0; cases hn0
      · refine hKE ?_ ?_ c hc
        · intro n0 h0
          obtain ⟨p, hp⟩ := List.mem_iff_getElem?.1 h0
          obtain ⟨n, hn, hsr⟩ := hrub.get' hp
          rw [(stripRub_core hsr).1]
          exact hall n (List.mem_of_getElem? hn)
        · rw [hrest]; intro c hc; cases hc

/-- a copy of the root node of the compilation -/
def IsRoot (cfg : Cfg S K) (n : Node S) : Prop :=
  n.state = cfg.root.state ∧ n.value = cfg.root.value ∧ n.best = none ∧ n.isExact = true

/-- (relaxed compilations, no structural hypothesis) the `l`-th materialised layer is at depth `≥ root.depth + l`;
    arcs come from strictly earlier layers; the pool, as long as nothing is materialised, and then the layer of
    index 0 hold copies of the root node only -/
structure RInv (cfg : Cfg S K) (pd : PD S K) : Prop where
  depth : cfg.root.depth + pd.layers.length ≤ pd.depth
  depths : ∀ (l dp : Nat) (ly : List (Node S)), pd.layers[l]? = some (dp, ly) → cfg.root.depth + l ≤ dp
  arcL : ∀ (l dp : Nat) (ly : List (Node S)), pd.layers[l]? = some (dp, ly) → ∀ n ∈ ly, ∀ e ∈ n.inb, e.fromL < l
  arcP : ∀ n ∈ pd.pool, ∀ e ∈ n.inb, e.fromL < pd.layers.length
  root0 : pd.layers = [] → ∀ n ∈ pd.pool, IsRoot cfg n
  rootL : ∀ (dp : Nat) (ly : List (Node S)), pd.layers[0]? = some (dp, ly) → ∀ n ∈ ly, IsRoot cfg n

theorem RInv.congr {cfg : Cfg S K} {pd pd' : PD S K} (h : RInv cfg pd)
    (hl : pd'.layers = pd.layers) (hn : pd'.pool = pd.pool) (hd : pd'.depth = pd.depth) : RInv cfg pd' := by
  obtain ⟨h1, h2, h3, h4, h5, h6⟩ := h
  exact ⟨hl ▸ hd ▸ h1, hl ▸ h2, hl ▸ h3, hl ▸ hn ▸ h4, hl ▸ hn ▸ h5, hl ▸ h6⟩

theorem initPD_rinv (cfg : Cfg S K) (cache : Cache S) (store : DomStore S K) (polls : Nat) :
    RInv cfg (initPD cfg cache store polls) := by
  refine ⟨Nat.le_refl _, fun l dp ly hl => ?_, fun l dp ly hl => ?_, fun n hn e he => ?_, fun _ n hn => ?_,
    fun dp ly hl => ?_⟩
  · simp only [initPD, List.getElem?_nil] at hl; cases hl
  · simp only [initPD, List.getElem?_nil] at hl; cases hl
  · simp only [initPD, List.mem_singleton] at hn; subst hn; cases he
  · simp only [initPD, List.mem_singleton] at hn; subst hn; exact ⟨rfl, rfl, rfl, rfl⟩
  · simp only [initPD, List.getElem?_nil] at hl; cases hl

theorem stepLayerP_rinv (cfg : Cfg S K) (hrel : cfg.ctype = .relaxed) (pd pd' : PD S K) (var : Nat)
    (hinv : RInv cfg pd) (h : stepLayerP cfg pd var = some pd') : RInv cfg pd' := by
  obtain ⟨hdepth, hcase⟩ := stepLayerP_shape cfg hrel pd pd' var h
  rcases hcase with ⟨hl, hp⟩ | ⟨ly, hM⟩
  · have hsub : ∀ n ∈ pd'.pool, n ∈ pd.pool := fun n hn => (mem_restNodes_iff.1 (hp ▸ hn)).1
    refine ⟨?_, ?_, ?_, ?_, ?_, ?_⟩
    · rw [hl, hdepth]; exact Nat.le_succ_of_le hinv.depth
    · rw [hl]; exact hinv.depths
    · rw [hl]; exact hinv.arcL
    · rw [hl]; exact fun n hn => hinv.arcP n (hsub n hn)
    · rw [hl]; exact fun h0 n hn => hinv.root0 h0 n (hsub n hn)
    · rw [hl]; exact hinv.rootL
  · have hlen : pd'.layers.length = pd.layers.length + 1 := by
      rw [hM.layers, List.length_append, List.length_singleton]
    refine ⟨?_, ?_, ?_, ?_, ?_, ?_⟩
    · rw [hlen, hdepth]; exact Nat.succ_le_succ hinv.depth
    · intro l dp ly' hl
      rw [hM.layers] at hl
      rcases getElem?_append_singleton_cases hl with h1 | ⟨h1, h2⟩
      · exact hinv.depths l dp ly' h1
      · cases h2; rw [h1]; exact hinv.depth
    · intro l dp ly' hl
      rw [hM.layers] at hl
      rcases getElem?_append_singleton_cases hl with h1 | ⟨h1, h2⟩
      · exact hinv.arcL l dp ly' h1
      · cases h2; rw [h1]
        exact hM.lyArcs (fun x => x < pd.layers.length) hinv.arcP
    · rw [hlen]
      exact hM.poolArcs (fun x => x < pd.layers.length + 1) (Nat.lt_succ_self _)
        (fun n hn e he => Nat.lt_succ_of_lt (hinv.arcP n (mem_restNodes_iff.1 hn).1 e he))
    · intro h0
      rw [h0] at hlen; cases hlen
    · intro dp ly' hl
      rw [hM.layers] at hl
      rcases getElem?_append_singleton_cases hl with h1 | ⟨h1, h2⟩
      · exact hinv.rootL dp ly' h1
      · cases h2
        intro n hn
        have h0 : pd.layers = [] := List.eq_nil_of_length_eq_zero h1.symm
        obtain ⟨m, hm, _, e1, e2, e3, e4⟩ := hM.lyCore (h1 ▸ Nat.zero_lt_two) n hn
        obtain ⟨r1, r2, r3, r4⟩ := hinv.root0 h0 m hm
        exact ⟨e2 ▸ r1, e3 ▸ r2, e4 ▸ r3, e1 ▸ r4⟩

/-- pool nodes that are impacted by the same variables are all in the layer as soon as one of them is -/
theorem rest_nil_of_alike (cfg : Cfg S K) (pd : PD S K) (var : Nat)
    (halike : ∀ a ∈ pd.pool, ∀ b ∈ pd.pool, cfg.P.impacted var a.state = cfg.P.impacted var b.state)
    (m : Node S) (hm : m ∈ pd.pool) (himp : cfg.P.impacted var m.state = true) : restNodes cfg pd var = [] := by
  unfold restNodes
  rw [List.filter_eq_nil_iff]
  intro n hn
  simp [halike n hn m hm, himp]

/-- (relaxed compilations of a `SiblingsAlike` problem) while exactly one layer is materialised the pool holds exact
    children of the root state, all for the same variable; the layer of index 1 is exact; afterwards no arc of a pool
    node or of a node of a layer of index `≥ 2` comes from the layer of index 0 -/
structure SInv (cfg : Cfg S K) (pd : PD S K) : Prop where
  p1 : pd.layers.length = 1 → ∃ y, ∀ n ∈ pd.pool, n.isExact = true ∧
    ∃ d ∈ cfg.P.domain y cfg.root.state, n.state = cfg.P.trans cfg.root.state ⟨y, d⟩
  p2 : 2 ≤ pd.layers.length → ∀ n ∈ pd.pool, ∀ e ∈ n.inb, 1 ≤ e.fromL
  l1 : ∀ (dp : Nat) (ly : List (Node S)), pd.layers[1]? = some (dp, ly) → ∀ n ∈ ly, n.isExact = true
  l2 : ∀ (l dp : Nat) (ly : List (Node S)), pd.layers[l]? = some (dp, ly) → 2 ≤ l → ∀ n ∈ ly, ∀ e ∈ n.inb, 1 ≤ e.fromL

theorem SInv.congr {cfg : Cfg S K} {pd pd' : PD S K} (h : SInv cfg pd)
    (hl : pd'.layers = pd.layers) (hn : pd'.pool = pd.pool) : SInv cfg pd' := by
  obtain ⟨h1, h2, h3, h4⟩ := h
  exact ⟨hl ▸ hn ▸ h1, hl ▸ hn ▸ h2, hl ▸ h3, hl ▸ h4⟩

theorem initPD_sinv (cfg : Cfg S K) (cache : Cache S) (store : DomStore S K) (polls : Nat) :
    SInv cfg (initPD cfg cache store polls) := by
  refine ⟨fun h => ?_, fun h => ?_, fun dp ly hl => ?_, fun l dp ly hl => ?_⟩
  · simp only [initPD, List.length_nil] at h; cases h
  · simp only [initPD, List.length_nil] at h; cases h
  · simp only [initPD, List.getElem?_nil] at hl; cases hl
  · simp only [initPD, List.getElem?_nil] at hl; cases hl

theorem stepLayerP_sinv (cfg : Cfg S K) (hsib : SiblingsAlike cfg.P) (hrel : cfg.ctype = .relaxed) (pd pd' : PD S K)
    (var : Nat) (hR : RInv cfg pd) (hinv : SInv cfg pd) (h : stepLayerP cfg pd var = some pd') : SInv cfg pd' := by
  obtain ⟨hdepth, hcase⟩ := stepLayerP_shape cfg hrel pd pd' var h
  rcases hcase with ⟨hl, hp⟩ | ⟨ly, hM⟩
  · have hsub : ∀ n ∈ pd'.pool, n ∈ pd.pool := fun n hn => (mem_restNodes_iff.1 (hp ▸ hn)).1
    refine ⟨?_, ?_, ?_, ?_⟩
    · rw [hl]
      intro h1
      obtain ⟨y, hy⟩ := hinv.p1 h1
      exact ⟨y, fun n hn => hy n (hsub n hn)⟩
    · rw [hl]; exact fun h2 n hn => hinv.p2 h2 n (hsub n hn)
    · rw [hl]; exact hinv.l1
    · rw [hl]; exact hinv.l2
  · have hlen : pd'.layers.length = pd.layers.length + 1 := by
      rw [hM.layers, List.length_append, List.length_singleton]
    obtain ⟨n1, hn1⟩ := List.exists_mem_of_ne_nil ly hM.ne
    -- while fewer than two layers are materialised, the whole pool goes into the layer
    have hrest : pd.layers.length < 2 → restNodes cfg pd var = [] := by
      intro hlt
      obtain ⟨m, hm, himp, _⟩ := hM.lyCore hlt n1 hn1
      refine rest_nil_of_alike cfg pd var ?_ m hm himp
      intro a ha b hb
      rcases Nat.eq_zero_or_pos pd.layers.length with h0 | h0
      · have h0' : pd.layers = [] := List.eq_nil_of_length_eq_zero h0
        rw [(hR.root0 h0' a ha).1, (hR.root0 h0' b hb).1]
      · obtain ⟨y, hy⟩ := hinv.p1 (Nat.le_antisymm (Nat.le_of_lt_succ hlt) h0)
        obtain ⟨_, da, hda, hsa⟩ := hy a ha
        obtain ⟨_, db, hdb, hsb⟩ := hy b hb
        rw [hsa, hsb]
        exact hsib y cfg.root.state da db var hda hdb
    refine ⟨?_, ?_, ?_, ?_⟩
    · intro h1
      have h0 : pd.layers.length = 0 := Nat.succ.inj (hlen.symm.trans h1)
      have h0' : pd.layers = [] := List.eq_nil_of_length_eq_zero h0
      have hroot : ∀ n ∈ ly, IsRoot cfg n := by
        intro n hn
        obtain ⟨m, hm, _, e1, e2, e3, e4⟩ := hM.lyCore (h0 ▸ Nat.zero_lt_two) n hn
        obtain ⟨r1, r2, r3, r4⟩ := hR.root0 h0' m hm
        exact ⟨e2 ▸ r1, e3 ▸ r2, e4 ▸ r3, e1 ▸ r4⟩
      refine ⟨var, fun c hc => ?_⟩
      obtain ⟨⟨n, hn, d, hd, hs⟩, hex⟩ := hM.kids (hrest (h0 ▸ Nat.zero_lt_two)) c hc
      rw [(hroot n hn).1] at hd hs
      exact ⟨hex (fun n hn => (hroot n hn).2.2.2), d, hd, hs⟩
    · intro h2
      have h1 : 1 ≤ pd.layers.length := by rw [hlen] at h2; exact Nat.le_of_succ_le_succ h2
      rcases Nat.lt_or_ge pd.layers.length 2 with hlt | hge
      · refine hM.poolArcs (fun x => 1 ≤ x) h1 ?_
        rw [hrest hlt]
        intro n hn; cases hn
      · exact hM.poolArcs (fun x => 1 ≤ x) h1 (fun n hn => hinv.p2 hge n (mem_restNodes_iff.1 hn).1)
    · intro dp ly' hl
      rw [hM.layers] at hl
      rcases getElem?_append_singleton_cases hl with h1 | ⟨h1, h2⟩
      · exact hinv.l1 dp ly' h1
      · cases h2
        intro n hn
        obtain ⟨m, hm, _, e1, _⟩ := hM.lyCore (h1 ▸ Nat.lt_succ_self 1) n hn
        obtain ⟨y, hy⟩ := hinv.p1 h1.symm
        rw [← e1]
        exact (hy m hm).1
    · intro l dp ly' hl h2
      rw [hM.layers] at hl
      rcases getElem?_append_singleton_cases hl with h1 | ⟨h1, h3⟩
      · exact hinv.l2 l dp ly' h1 h2
      · cases h3
        exact hM.lyArcs (fun x => 1 ≤ x) (hinv.p2 (h1 ▸ h2))

/-- a cut-set sub-problem of `finalizePOld`: the exact node `n0` of `pd.plain ++ [terminals]` it comes from, and an inexact
    node `m` of that diagram holding an arc from it -/
theorem finalizeP_cutset_frontier (cfg : Cfg S K) (pd : PD S K) (e : Bool) (c : SubP S)
    (hc : c ∈ (finalizePOld cfg pd e).cutset) :
    ∃ (lp : Nat × Nat) (n n0 : Node S), getNode (layers3P cfg pd e) lp.1 lp.2 = some n ∧
      getNode (pd.plain ++ [termsP pd]) lp.1 lp.2 = some n0 ∧ n0.isExact = true ∧
      c.state = n0.state ∧ c.value = n0.value ∧ c.depth = n0.depth ∧ n.best = n0.best ∧
      c.path = cfg.root.path ++ bestPath (layers3P cfg pd e) ((layers3P cfg pd e).length + 1) n ∧
      ∃ (l' p' : Nat) (m : Node S) (a : Arc), getNode (pd.plain ++ [termsP pd]) l' p' = some m ∧ m.isExact = false ∧
        a ∈ m.inb ∧ a.fromL = lp.1 := by
  obtain ⟨lp, n, hlp, hn, hs, hv, hd, hpath⟩ := finalizeP_cutset_mem cfg pd e c hc
  obtain ⟨n0, hn0, hex, l', p', m, a, hm, hmex, ha, hal, _⟩ := computeCutset_frontier 0 _ lp hlp
  have hx := layers3P_xEq cfg pd e
  obtain ⟨n0', hn0', hsn⟩ := hx.getNode_some hn
  rw [hn0] at hn0'
  cases hn0'
  obtain ⟨e1, e2, _, _, e4, e3⟩ := Bounds.stripB_fields hsn
  exact ⟨lp, n, n0, hn, hn0, hex, hs.trans e1.symm, hv.trans e2.symm, hd.trans e4.symm, e3.symm, hpath,
    l', p', m, a, hm, hmex, ha, hal⟩

/-- **when D5 struck**, for `finalizePOld` -/
theorem finalizeP_d5_only_root (cfg : Cfg S K) (B : Int) (p0 : List Dec) (pd : PD S K) (k : Nat) (e : Bool)
    (hinv : MInvP cfg B p0 pd k) (hR : RInv cfg pd) (c : SubP S) (hmem : c ∈ (finalizePOld cfg pd e).cutset)
    (hle : c.depth ≤ cfg.root.depth) :
    c.state = cfg.root.state ∧ c.value = cfg.root.value ∧ c.depth = cfg.root.depth ∧ c.path = cfg.root.path := by
  obtain ⟨lp, n, n0, hn, hn0, hex, hs, hv, hd, hb, hpath, l', p', m, a, hm, hmex, ha, hal⟩ :=
    finalizeP_cutset_frontier cfg pd e c hmem
  rcases getNode_layers0 pd hn0 with ⟨dp, ly, hl, hmem', _⟩ | ⟨hl, m0, hm0, rfl⟩
  · obtain ⟨k', _, hdp, hok⟩ := hinv.layers lp.1 dp ly hl
    have h1 : n0.depth = dp := (hok n0 hmem').2 hex
    have h2 := hR.depths lp.1 dp ly hl
    have hdp : cfg.root.depth + lp.1 ≤ cfg.root.depth + 0 := Nat.le_trans h2 (h1 ▸ hd ▸ hle)
    have h0 : lp.1 = 0 := Nat.le_zero.1 (Nat.le_of_add_le_add_left hdp)
    rw [h0] at hl h2
    obtain ⟨r1, r2, r3, _⟩ := hR.rootL dp ly hl n0 hmem'
    refine ⟨hs.trans r1, hv.trans r2, Nat.le_antisymm hle (hd ▸ h1 ▸ h2), ?_⟩
    have hnil := (BestChainP.root (layers := layers3P cfg pd e) 0).bestPath_eq n (hb.trans r3)
      ((layers3P cfg pd e).length + 1) (Nat.zero_le _)
    rw [List.reverse_eq_nil_iff] at hnil
    rw [hpath, hnil, List.append_nil]
  · -- a terminal node has no outgoing arc
    exfalso
    rcases getNode_layers0 pd hm with ⟨dp, ly, hl', hmem', _⟩ | ⟨hl', m1, hm1, rfl⟩
    · have h1 := Nat.lt_trans (hR.arcL l' dp ly hl' m hmem' a ha) (Cover.lt_of_getElem?_some hl')
      rw [hal, hl] at h1
      exact Nat.lt_irrefl _ h1
    · have h1 := hR.arcP m1 hm1 a ha
      rw [hal, hl] at h1
      exact Nat.lt_irrefl _ h1

/-- **C08 (ii) for `finalizePOld`, long arcs allowed**, from the invariants -/
theorem finalizeP_cutset_progress_siblings (cfg : Cfg S K) (B : Int) (p0 : List Dec) (pd : PD S K) (k : Nat) (e : Bool)
    (hinv : MInvP cfg B p0 pd k) (hR : RInv cfg pd) (hS : SInv cfg pd) (c : SubP S)
    (hmem : c ∈ (finalizePOld cfg pd e).cutset) : cfg.root.depth < c.depth := by
  obtain ⟨lp, n, n0, hn, hn0, hex, hs, hv, hd, hb, hpath, l', p', m, a, hm, hmex, ha, hal⟩ :=
    finalizeP_cutset_frontier cfg pd e c hmem
  -- the inexact child lives in a layer of index ≥ 2 or in the pool when ≥ 2 layers are materialised
  have hpos : 1 ≤ lp.1 := by
    rw [← hal]
    rcases getNode_layers0 pd hm with ⟨dp, ly, hl', hmem', _⟩ | ⟨hl', m1, hm1, rfl⟩
    · rcases Nat.lt_or_ge l' 2 with h2 | h2
      · exfalso
        have hme : m.isExact = true := by
          rcases Nat.eq_zero_or_pos l' with h0 | h0
          · rw [h0] at hl'; exact (hR.rootL dp ly hl' m hmem').2.2.2
          · have h1 : l' = 1 := Nat.le_antisymm (Nat.le_of_lt_succ h2) h0
            rw [h1] at hl'; exact hS.l1 dp ly hl' m hmem'
        rw [hmex] at hme; cases hme
      · exact hS.l2 l' dp ly hl' h2 m hmem' a ha
    · have hmex' : m1.isExact = false := hmex
      rcases Nat.lt_or_ge pd.layers.length 2 with h2 | h2
      · exfalso
        have hme : m1.isExact = true := by
          rcases Nat.eq_zero_or_pos pd.layers.length with h0 | h0
          · exact (hR.root0 (List.eq_nil_of_length_eq_zero h0) m1 hm1).2.2.2
          · obtain ⟨y, hy⟩ := hS.p1 (Nat.le_antisymm (Nat.le_of_lt_succ h2) h0)
            exact (hy m1 hm1).1
        rw [hmex'] at hme; cases hme
      · exact hS.p2 h2 m1 hm1 a ha
  rw [hd]
  rcases getNode_layers0 pd hn0 with ⟨dp, ly, hl, hmem', _⟩ | ⟨hl, m0, hm0, rfl⟩
  · obtain ⟨k', _, hdp, hok⟩ := hinv.layers lp.1 dp ly hl
    rw [(hok n0 hmem').2 hex]
    exact Nat.lt_of_lt_of_le (Nat.lt_add_of_pos_right hpos) (hR.depths lp.1 dp ly hl)
  · exact Nat.lt_of_lt_of_le (Nat.lt_add_of_pos_right (hl ▸ hpos)) hR.depth

theorem buildLoopP_rinv (cfg : Cfg S K) (hrel : cfg.ctype = .relaxed) (stopAt : Option Nat) (fuel : Nat)
    (cache : Cache S) (store : DomStore S K) (polls : Nat) :
    RInv cfg (buildLoopP cfg stopAt fuel (initPD cfg cache store polls)).1 :=
  buildLoopP_ind cfg stopAt (RInv cfg) (fun pd h => ⟨h.congr rfl rfl rfl, h.congr rfl rfl rfl⟩)
    (fun pd pd' var _ _ h hst => stepLayerP_rinv cfg hrel pd pd' var h hst) fuel _ (initPD_rinv cfg cache store polls)

theorem buildLoopP_sinv (cfg : Cfg S K) (hsib : SiblingsAlike cfg.P) (hrel : cfg.ctype = .relaxed) (stopAt : Option Nat)
    (fuel : Nat) (cache : Cache S) (store : DomStore S K) (polls : Nat) :
    SInv cfg (buildLoopP cfg stopAt fuel (initPD cfg cache store polls)).1 :=
  (buildLoopP_ind cfg stopAt (fun pd => RInv cfg pd ∧ SInv cfg pd)
    (fun pd h => ⟨⟨h.1.congr rfl rfl rfl, h.2.congr rfl rfl⟩, ⟨h.1.congr rfl rfl rfl, h.2.congr rfl rfl⟩⟩)
    (fun pd pd' var _ _ h hst => ⟨stepLayerP_rinv cfg hrel pd pd' var h.1 hst,
      stepLayerP_sinv cfg hsib hrel pd pd' var h.1 h.2 hst⟩)
    fuel _ ⟨initPD_rinv cfg cache store polls, initPD_sinv cfg cache store polls⟩).2

/-- **when D5 struck** (`compilePOld`, the code before the repair): a cut-set sub-problem of a relaxed pooled compilation that is not
    strictly deeper than the root sub-problem IS the root sub-problem.  No structural hypothesis, any cache / dominance configuration. -/
theorem d5_only_root (cfg : Cfg S K) (B : Int) (p0 : List Dec) (cache : Cache S)
    (store : DomStore S K) (polls : Nat) (stopAt : Option Nat) (hrel : cfg.ctype = .relaxed)
    (hroot : ReachSkip cfg.P cfg.root.depth cfg.root.state cfg.root.value p0)
    (hB : NoClamp cfg.P cfg.R cfg.root.value B)
    (hok : (compilePOld cfg cache store polls stopAt).1 = .ok) (r : Result S)
    (hr : r = (compilePOld cfg cache store polls stopAt).2.1 ∨ (compilePOld cfg cache store polls stopAt).2.2.1 = some r) :
    ∀ c ∈ r.cutset, c.depth ≤ cfg.root.depth →
      c.state = cfg.root.state ∧ c.value = cfg.root.value ∧ c.depth = cfg.root.depth ∧ c.path = cfg.root.path := by
  obtain ⟨e, rfl⟩ := C08.compilePOld_results_ok cfg cache store polls stopAt hok r hr
  obtain ⟨k, hinv, _⟩ := buildLoopP_inv cfg B p0 hB stopAt (cfg.P.nbVars + 2) (initPD cfg cache store polls) 0
    (initPD_inv cfg B p0 hB hroot cache store polls) (Nat.le_of_eq (Nat.zero_add _))
  have hR := buildLoopP_rinv cfg hrel stopAt (cfg.P.nbVars + 2) cache store polls
  intro c hmem hle
  exact finalizeP_d5_only_root cfg B p0 _ k e hinv hR c hmem hle

end Ddo.PProgress

#print axioms Ddo.PProgress.siblingsAlike_of_allImpacted
#print axioms Ddo.PProgress.d5_only_root
