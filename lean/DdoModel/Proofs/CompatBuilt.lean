import DdoModel.Proofs.CompatTheta
import DdoModel.Proofs.CompatStore
import DdoModel.Proofs.FreshJoint
/-! C10e — **the diagram built with both filters satisfies the joint threshold invariant** (`builtOkJoint : BuiltOkJoint`,
`builtOkJointK : BuiltOkJointK`).

* The loop is run once, for any invariant indexed by the classification of the positions that implies `TInvJ` and that every step
  preserves (`buildLoop_builtOkJ`; the two ways the loop ends are `builtOkJ_brk` and `builtOkJ_term`); with `init_tinvJ`,
  `builtOkJoint_of_step : StepTInvJoint → BuiltOkJoint`.  The stages of a layer step (`HypJ`, `SqPostJ`, `sqpostJ_fc`, `sqpostJ_drop`,
  `sqpostJ_relax`, `expand_tinvJ`) are in `Proofs/BuildInv.lean`.
* One joint layer step preserves `TInvJ` (`stepTInvJ_of`), from the position-wise description `FdDesc` of `_filter_with_dominance` on the
  cache-filtered layer (`FdSpecJ`); `hypJ_gpot`; `builtOkJoint_of_fd : FdSpecJoint → BuiltOkJoint`.
* What `_filter_with_dominance` records in the nodes it drops (`fdSpecJoint : FdSpecJoint`): the fold of `fdStep`, position by position,
  with the threshold of every `dominated` verdict read through `GAbove.not_below_threshold`.
* The side invariant `KArcM` (nothing is marked, every inbound arc comes from a `Live` position) is kept by a layer step (`step_karcm`,
  `Proofs/BuildInv.lean`), and the same loop is run with `TInvJ` and `KArcM` for the *same* classification `Live` (`builtOkJointK`). -/
set_option linter.unusedSectionVars false
set_option linter.unusedVariables false

namespace Ddo.C10d
open Ddo Ddo.C01 Ddo.Closed Ddo.C09 Ddo.C10 Ddo.C10c Ddo.Truth Ddo.Theta Ddo.Bounds
variable {S K : Type} [DecidableEq S] [DecidableEq K]

/-- **the one-step statement** (discharged by `stepTInvJ_of` below): a successful layer step with cache and checker (the layer after both
    filters, `fdOf`, is squashed to `sq` and expanded into `dd'`) preserves the invariant `TInvJ`, for some new classification -/
def StepTInvJ (cfg : Cfg S K) (D : DomRule S K) (H : Nat → S → EInt) (B : Int) (p0 : List Dec) (cache : Cache S) (O : Int) : Prop :=
  ∀ (Live Drop : Nat → Nat → Prop) (dd dd' : DD S K) (var : Nat) (sq : List (Node S) × List Nat × List (Call S) × Option Nat),
    TInvJ cfg H B cache O Live Drop dd → SInv cfg D dd → MInv cfg B p0 dd → dd.next ≠ [] →
    cfg.P.nextVar dd.depth (dd.next.map (·.state)) = some var → dd.layers.length ≤ cfg.P.nbVars →
    squash cfg dd (CacheClosed.fdOf cfg dd).1 (CacheClosed.fdOf cfg dd).2.1 = some sq →
    dd'.layers = dd.layers ++ [(expandAll cfg var dd.layers.length sq.1 sq.2.1 sq.2.2.1).1] →
    dd'.next = (expandAll cfg var dd.layers.length sq.1 sq.2.1 sq.2.2.1).2.1 →
    dd'.depth = dd.depth + 1 → dd'.cache = dd.cache →
    ∃ Live' Drop', TInvJ cfg H B cache O Live' Drop' dd'

/-- the loop ended on an empty layer: the finalized layers of `fin` are the layers of the last state `dd0` of the loop -/
theorem builtOkJ_brk {cfg : Cfg S K} {H : Nat → S → EInt} {B : Int} {cache : Cache S} {O : Int} {fin dd0 : DD S K}
    {Live Drop : Nat → Nat → Prop} (hI : TInvJ cfg H B cache O Live Drop dd0) (hn0 : dd0.next = [])
    (hlen : dd0.layers.length ≤ cfg.P.nbVars + 1) (hL : fin.layers = dd0.layers ++ [[]]) (hN : fin.next = [])
    (hlel : fin.lel = dd0.lel) : BuiltOkJ cfg H B cache O fin Live Drop dd0 := by
  have hlay : (finalizeLayers fin).layers = fin.layers := by
    unfold finalizeLayers; simp only [hN, List.isEmpty_nil, if_true]
  have hs : (finalizeLayers fin).layers = dd0.layers ++ [dd0.next] ∨ ((finalizeLayers fin).layers = dd0.layers ∧ dd0.next = []) := by
    left; rw [hlay, hL, hn0]
  refine ⟨hI, view_at hs, view_ofL hs, view_ofN hs, ?_, ?_, fun h => absurd hn0 h, hlen,
    fun h => absurd hn0 h, hlel, fun h => absurd hn0 h, ?_⟩
  · rw [hn0]
    unfold finalizeLayers; simp only [hN, List.isEmpty_nil, if_true]
  · rw [terminals_finalizeLayers, hN, hn0]
  · rw [hlay, hL, List.length_append, List.length_singleton]; exact Nat.le_refl _

/-- the loop ended on a terminal layer: `fin` is the last state of the loop -/
theorem builtOkJ_term {cfg : Cfg S K} {H : Nat → S → EInt} {B : Int} {cache : Cache S} {O : Int} {fin : DD S K}
    {Live Drop : Nat → Nat → Prop} (hI : TInvJ cfg H B cache O Live Drop fin)
    (hnone : cfg.P.nextVar fin.depth (fin.next.map (·.state)) = none) (hlen : fin.layers.length ≤ cfg.P.nbVars + 1) :
    BuiltOkJ cfg H B cache O fin Live Drop fin := by
  have hs := CacheClosedB.fin_view fin
  refine ⟨hI, view_at hs, view_ofL hs, view_ofN hs, ?_, terminals_finalizeLayers fin,
    fun _ => hnone, hlen, fun hne => ?_, rfl, fun _ => rfl, ?_⟩
  · cases hn : fin.next with
    | nil => unfold finalizeLayers; simp only [hn, List.isEmpty_nil, if_true]
    | cons x xs => rw [← hn, (finalizeLayers_nonempty fin (by rw [hn]; exact List.cons_ne_nil x xs)).2, hn]; rfl
  · rw [(finalizeLayers_nonempty fin hne).1, List.length_append, List.length_singleton]
  · rcases hs with h | ⟨h, _⟩
    · rw [h, List.length_append, List.length_singleton]; exact Nat.le_refl _
    · rw [h]; exact Nat.le_succ _

/-- a compilation with both filters that ends normally, for an invariant `I` of the diagram under construction, indexed by the
    classification `Live` / `Drop` of its positions, that implies `TInvJ`, reads the fields `layers`, `next`, `depth`, `cache`
    only and that every successful layer step preserves (for some new classification): the diagram the loop returns is seen
    (`BuiltOkJ`) through a state of the loop that satisfies `I` -/
theorem buildLoop_builtOkJ (cfg : Cfg S K) (D : DomRule S K) (hD : cfg.dom = some D) (hNV : NvBound cfg.P)
    (H : Nat → S → EInt) (B : Int) (hB : NoClamp cfg.P cfg.R cfg.root.value B) (p0 : List Dec) (cache : Cache S) (O : Int)
    (store : DomStore S K) (hroot : Reach cfg.P cfg.root.depth cfg.root.state cfg.root.value p0)
    (I : (Nat → Nat → Prop) → (Nat → Nat → Prop) → DD S K → Prop)
    (hTI : ∀ (Live Drop : Nat → Nat → Prop) (dd : DD S K), I Live Drop dd → TInvJ cfg H B cache O Live Drop dd)
    (hcongr : ∀ (Live Drop : Nat → Nat → Prop) (dd dd' : DD S K), I Live Drop dd → dd'.layers = dd.layers →
      dd'.next = dd.next → dd'.depth = dd.depth → dd'.cache = dd.cache → I Live Drop dd')
    (hstep : ∀ (Live Drop : Nat → Nat → Prop) (dd dd' : DD S K) (var : Nat)
      (sq : List (Node S) × List Nat × List (Call S) × Option Nat),
      I Live Drop dd → SInv cfg D dd → MInv cfg B p0 dd → dd.next ≠ [] →
      cfg.P.nextVar dd.depth (dd.next.map (·.state)) = some var → dd.layers.length ≤ cfg.P.nbVars →
      squash cfg dd (CacheClosed.fdOf cfg dd).1 (CacheClosed.fdOf cfg dd).2.1 = some sq →
      dd'.layers = dd.layers ++ [(expandAll cfg var dd.layers.length sq.1 sq.2.1 sq.2.2.1).1] →
      dd'.next = (expandAll cfg var dd.layers.length sq.1 sq.2.1 sq.2.2.1).2.1 →
      dd'.depth = dd.depth + 1 → dd'.cache = dd.cache → ∃ Live' Drop', I Live' Drop' dd')
    (h0 : I (fun _ _ => False) (fun _ _ => False) (initDD cfg cache store 0)) (hS : SInv cfg D (initDD cfg cache store 0))
    (hok : (compile cfg cache store 0 none).1 = .ok) :
    ∃ Live Drop dd, BuiltOkJ cfg H B cache O (buildLoop cfg none (cfg.P.nbVars + 2) (initDD cfg cache store 0)).1 Live Drop dd ∧
      I Live Drop dd := by
  refine buildLoop_rec_joint cfg
    (fun f dd => ∃ Live Drop, I Live Drop dd ∧ SInv cfg D dd ∧ MInv cfg B p0 dd ∧ dd.layers.length + f ≤ cfg.P.nbVars + 2)
    (fun r => r.2 = .ok → ∃ Live Drop dd, BuiltOkJ cfg H B cache O r.1 Live Drop dd ∧ I Live Drop dd) ?_ ?_ ?_ ?_ ?_ ?_
    (cfg.P.nbVars + 2) (initDD cfg cache store 0)
    ⟨_, _, h0, hS, initDD_inv cfg B p0 hB hroot cache store 0, Nat.le_of_eq (Nat.zero_add _)⟩
    (Ddo.compile_ok cfg cache store 0 none hok).1
  · intro f dd var ⟨Live, Drop, hI, hS, hM, hlen⟩
    exact ⟨Live, Drop, hcongr Live Drop dd _ hI rfl rfl rfl rfl, ⟨hS.store, hS.len⟩, hM.congr rfl rfl, hlen⟩
  · intro dd _ h; cases h
  · intro f dd ⟨Live, Drop, hI, _, _, hlen⟩ hnv _
    have hI' := hcongr Live Drop dd { dd with log := Call.nextVar dd.depth (dd.next.map (·.state)) none :: dd.log } hI
      rfl rfl rfl rfl
    exact ⟨Live, Drop, _, builtOkJ_term (hTI _ _ _ hI') hnv
      (Nat.le_trans (Nat.le_add_right _ f) (Nat.le_of_succ_le_succ hlen)), hI'⟩
  · intro f dd ⟨Live, Drop, hI, _, _, hlen⟩ hne _
    exact ⟨Live, Drop, dd, builtOkJ_brk (hTI _ _ _ hI) hne
      (Nat.le_trans (Nat.le_add_right _ f) (Nat.le_of_succ_le_succ hlen)) rfl hne rfl, hI⟩
  · intro f dd var _ _ _ _ h; cases h
  · intro f dd var sq dd' ⟨Live, Drop, hI, hS, hM, hlen⟩ hnv hne _ hsq hst hl hn hdd _ hca
    have hdep := (hTI Live Drop dd hI).depth
    have hll : dd.layers.length ≤ cfg.P.nbVars := by
      have hlt := nv_depth_lt hNV hnv
      rw [hdep] at hlt
      exact Nat.le_of_lt (Nat.lt_of_le_of_lt (Nat.le_add_left _ _) hlt)
    obtain ⟨Live', Drop', hI'⟩ := hstep Live Drop dd dd' var sq hI hS hM hne hnv hll hsq hl hn hdd hca
    obtain ⟨m1, _, _⟩ := Ddo.stepLayer_inv cfg B p0 hB dd var hM hdep hnv (Nat.le_succ_of_le hll) dd' .ok hst
    refine ⟨Live', Drop', hI', stepLayer_sinv_joint cfg D hD hNV B p0 dd dd' var .ok hS hM hdep hnv hst, m1, ?_⟩
    rw [hl, List.length_append, List.length_singleton, Nat.add_right_comm]
    exact hlen

def StepTInvJoint : Prop :=
  ∀ (S K : Type) [DecidableEq S] [DecidableEq K] (dv : DSolverCfg S K) (H : Nat → S → EInt) (B0 B opt : Int) (n : Nat),
    MonoHyp dv H B0 B opt n →
    ∀ (N : SubP S) (lb : Int) (cache : Cache S) (p0 : List Dec), Reach dv.sv.P N.depth N.state N.value p0 →
      StepTInvJ (dv.kdcfg .relaxed N lb) dv.D (gpot dv.D dv.sv.P n opt B) B p0 cache (opt - 1)

theorem builtOkJoint_of_step (h : StepTInvJoint) : BuiltOkJoint := by
  intro S K _ _ dv H B0 B opt n hM N lb cache store p0 hpre
  have hBN := hM.wf.noClamp hpre.root
  obtain ⟨Live, Drop, dd, hbo, _⟩ := buildLoop_builtOkJ (dv.kdcfg .relaxed N lb) dv.D rfl hM.wf.nv _ B hBN p0 cache (opt - 1) store
    hpre.root (TInvJ (dv.kdcfg .relaxed N lb) (gpot dv.D dv.sv.P n opt B) B cache (opt - 1))
    (fun _ _ _ hI => hI) (fun _ _ _ _ hI => hI.congr) (h S K dv H B0 B opt n hM N lb cache p0 hpre.root)
    (init_tinvJ (dv.kdcfg .relaxed N lb) _ B cache (opt - 1) store 0 hBN) ⟨hpre.sreach, hpre.slen⟩ hpre.ok
  exact ⟨Live, Drop, dd, hbo⟩

end Ddo.C10d

#print axioms Ddo.C10d.builtOkJoint_of_step

namespace Ddo.C10d
open Ddo Ddo.C01 Ddo.Closed Ddo.C09 Ddo.C10 Ddo.C10c Ddo.Truth Ddo.Theta Ddo.Bounds
variable {S K : Type} [DecidableEq S] [DecidableEq K]

/-- the description `FdDesc` holds of `_filter_with_dominance` applied to the cache-filtered layer of every diagram of the loop
    (store with exactly reached entries, exact nodes exactly reached) -/
def FdSpecJ (cfg : Cfg S K) (D : DomRule S K) (H : Nat → S → EInt) (O : Int) (B : Int) (p0 : List Dec) : Prop :=
  ∀ (dd : DD S K) (var : Nat), SInv cfg D dd → MInv cfg B p0 dd → dd.depth = cfg.root.depth + dd.layers.length →
    cfg.P.nextVar dd.depth (dd.next.map (·.state)) = some var →
    FdDesc H O dd.depth (Theta.fcOf cfg dd).1 (CacheClosed.fdOf cfg dd).1 (Theta.fcOf cfg dd).2 (CacheClosed.fdOf cfg dd).2.1

theorem stepTInvJ_live (cfg : Cfg S K) (D : DomRule S K) (H : Nat → S → EInt) (B : Int) (p0 : List Dec) (cache : Cache S) (O : Int)
    (hy : HypJ cfg H B) (hfd : FdSpecJ cfg D H O B p0)
    (Live Drop : Nat → Nat → Prop) (dd dd' : DD S K) (var : Nat) (sq : List (Node S) × List Nat × List (Call S) × Option Nat)
    (hI : TInvJ cfg H B cache O Live Drop dd) (hS : SInv cfg D dd) (hM : MInv cfg B p0 dd)
    (hnv : cfg.P.nextVar dd.depth (dd.next.map (·.state)) = some var) (hlen : dd.layers.length ≤ cfg.P.nbVars)
    (hsq : squash cfg dd (CacheClosed.fdOf cfg dd).1 (CacheClosed.fdOf cfg dd).2.1 = some sq)
    (hl : dd'.layers = dd.layers ++ [(expandAll cfg var dd.layers.length sq.1 sq.2.1 sq.2.2.1).1])
    (hn : dd'.next = (expandAll cfg var dd.layers.length sq.1 sq.2.1 sq.2.2.1).2.1)
    (hd : dd'.depth = dd.depth + 1) (hc : dd'.cache = dd.cache) :
    ∃ Drop', TInvJ cfg H B cache O (fun l p => if l = dd.layers.length then p ∈ sq.2.1 else Live l p) Drop' dd' := by
  have hdesc := fcOf_desc cfg dd
  rw [hI.cacheEq] at hdesc
  obtain ⟨hpost0, hpre0, hrub0⟩ := sqpostJ_fc cfg H B cache O Live Drop dd var hy hnv hI _ _ hdesc
  obtain ⟨hpost, hpre⟩ := sqpostJ_drop cfg H B cache O Live dd var _ _ _ _ hpost0 hpre0 hrub0 (hfd dd var hS hM hI.depth hnv)
  rcases Bounds.squash_cases cfg dd (CacheClosed.fdOf cfg dd).1 (CacheClosed.fdOf cfg dd).2.1 hy.rel hy.W with
    ⟨_, hsq'⟩ | ⟨c1, c2, hsq'⟩
  · rw [hsq'] at hsq
    cases hsq
    dsimp only at hl hn
    exact ⟨_, expand_tinvJ cfg H B cache O Live Drop dd dd' var _ _ _ dd.log hy hlen hI hpost hl hn hd hc⟩
  · rw [hsq'] at hsq
    cases hsq
    dsimp only at hl hn
    exact ⟨_, expand_tinvJ cfg H B cache O Live Drop dd dd' var _ _ _ _ hy hlen hI
      (sqpostJ_relax cfg H B cache O Live Drop dd var _ dd.log hy hnv hlen _ _ c1 c2 hI hpost hpre) hl hn hd hc⟩

theorem stepTInvJ_of (cfg : Cfg S K) (D : DomRule S K) (H : Nat → S → EInt) (B : Int) (p0 : List Dec) (cache : Cache S) (O : Int)
    (hy : HypJ cfg H B) (hfd : FdSpecJ cfg D H O B p0) : StepTInvJ cfg D H B p0 cache O := by
  intro Live Drop dd dd' var sq hI hS hM hne hnv hlen hsq hl hn hd hc
  obtain ⟨Drop', h⟩ := stepTInvJ_live cfg D H B p0 cache O hy hfd Live Drop dd dd' var sq hI hS hM hnv hlen hsq hl hn hd hc
  exact ⟨_, Drop', h⟩

theorem hypJ_gpot {dv : DSolverCfg S K} {H : Nat → S → EInt} {B0 B opt : Int} {n : Nat} (hM : MonoHyp dv H B0 B opt n)
    {N : SubP S} {lb : Int} {p0 : List Dec} (hroot : Reach dv.sv.P N.depth N.state N.value p0) :
    HypJ (dv.kdcfg .relaxed N lb) (gpot dv.D dv.sv.P n opt B) B := by
  have hBN := hM.wf.noClamp hroot
  refine ⟨rfl, hM.wf.width N, ?_, gpot_MergeOk hM.ghyp hM.mc, ?_, hBN⟩
  · intro k L x s h hnv hs hg
    exact gpot_att_L hM.ghyp k L x s h hnv hs hg
  · intro k L x X h hnv hX hsub hh
    obtain ⟨u, hu⟩ := List.exists_mem_of_ne_nil X hX
    exact gpot_att hM.ghyp (by rw [← nv_eq hM.stat (hsub u hu)]; exact hnv) hh

/-- `FdSpecJ` for the pseudo-potential at the level `opt - 1` (proved below: `fdSpecJoint`) -/
def FdSpecJoint : Prop :=
  ∀ (S K : Type) [DecidableEq S] [DecidableEq K] (dv : DSolverCfg S K) (H : Nat → S → EInt) (B0 B opt : Int) (n : Nat),
    MonoHyp dv H B0 B opt n →
    ∀ (N : SubP S) (lb : Int) (p0 : List Dec), Reach dv.sv.P N.depth N.state N.value p0 →
      FdSpecJ (dv.kdcfg .relaxed N lb) dv.D (gpot dv.D dv.sv.P n opt B) (opt - 1) B p0

theorem builtOkJoint_of_fd (h : FdSpecJoint) : BuiltOkJoint :=
  builtOkJoint_of_step fun S K _ _ dv H B0 B opt n hM N lb cache p0 hroot =>
    stepTInvJ_of _ _ _ _ _ _ _ (hypJ_gpot hM hroot) (h S K dv H B0 B opt n hM N lb p0 hroot)

section q
variable {D : DomRule S K} {P : Problem S} {R : Relax S} {H : Nat → S → EInt} {n : Nat} {opt B0 B : Int}

theorem reach_InI (hRB : RunBound P R B0 B) (hNV : NvBound P) {k : Nat} {s : S} {v : Int} {p : List Dec}
    (h : Reach P k s v p) : InI v := by
  have h1 := reach_value_bound hRB.cost h
  have h2 := reach_depth_le hNV h
  have h3 := hRB.fit
  have h4 := hRB.B_small
  have h0 := hRB.B0_nonneg
  have h5 : ((k : Int) + 1) * B0 ≤ ((P.nbVars : Int) + 1) * B0 := Int.mul_le_mul_of_nonneg_right (by omega) h0
  unfold InI iMin iMax
  omega

theorem query_thr (hyp : GHyp D P R H n opt B0 B) (st st' : DomStore S K) (s : S) (d : Nat) (v : Int) (thr : Option Int)
    (h : DomStore.query D st s d v = some (st', true, thr)) (hst : StoreReach D P st) (hv : InI v) :
    ∃ t, thr = some t ∧ v ≤ t ∧ DomOkAt (gpot D P n opt B) (opt - 1) d s t := by
  cases hk : D.key s with
  | none =>
    rw [query_no_key D st s d v hk] at h
    cases h
  | some k =>
    obtain ⟨h1, _⟩ := query_refines_bucket D st st' s d v k true thr hk h
    have hd : (D.bucketQuery s v (bucketOf st d k)).2.1 = true := by rw [← h1]
    have ht : (D.bucketQuery s v (bucketOf st d k)).2.2 = thr := by rw [← h1]
    have hb : ∀ o ∈ bucketOf st d k, D.key o.1 = some k ∧ ∃ p, Reach P d o.1 o.2 p := fun o ho => hst d k o.1 o.2 ho
    obtain ⟨t, e, hvt, hall⟩ := GAbove.not_below_threshold (P := P) (opt := opt) hyp.hdim (bucketOf st d k) s v hv
      (fun o ho => by obtain ⟨_, p, hr⟩ := hb o ho; exact reach_InI hyp.hRB hyp.hNV hr) hb hk hd
    refine ⟨t, by rw [← ht, e], hvt, ?_⟩
    intro v' hv' h' hg
    apply Classical.byContradiction
    intro hc
    exact hall v' hv' ((gpot_spec hyp).mpr ⟨h', hg, by omega⟩)

/-- invariant of the fold of `fdStep` (`proc`: the positions processed so far) -/
structure FdInv2 (D : DomRule S K) (P : Problem S) (Hh : Nat → S → EInt) (O : Int) (layer : List (Node S)) (proc : List Nat)
    (acc : List (Node S) × List Nat × DomStore S K × Bool) : Prop where
  sub : ∀ p ∈ acc.2.1, p ∈ proc
  same : ∀ p, (p ∈ acc.2.1 ∨ p ∉ proc) → acc.1[p]? = layer[p]?
  drop : ∀ p ∈ proc, p ∉ acc.2.1 → ∃ n thr, layer[p]? = some n ∧ acc.1[p]? = some { n with theta := some thr } ∧
    n.isExact = true ∧ (∀ h, Hh n.depth n.state = some h → n.value + h ≤ O) ∧ DomOkAt Hh O n.depth n.state thr
  st : StoreReach D P acc.2.2.1

theorem fdInv2_keep {Hh : Nat → S → EInt} {O : Int} {layer : List (Node S)} {proc : List Nat} {ly : List (Node S)}
    {keep : List Nat} {st st' : DomStore S K} {ok ok' : Bool} (p : Nat) (hp : p ∉ proc)
    (hI : FdInv2 D P Hh O layer proc (ly, keep, st, ok)) (hst : StoreReach D P st') :
    FdInv2 D P Hh O layer (proc ++ [p]) (ly, keep ++ [p], st', ok') := by
  obtain ⟨h1, h2, h3, _⟩ := hI
  dsimp only at h1 h2 h3
  refine ⟨?_, ?_, ?_, hst⟩
  · intro q hq
    dsimp only at hq
    rcases List.mem_append.mp hq with hq | hq
    · exact List.mem_append_left _ (h1 q hq)
    · exact List.mem_append_right _ hq
  · intro q hq
    dsimp only at hq ⊢
    rcases hq with hq | hq
    · rcases List.mem_append.mp hq with hq | hq
      · exact h2 q (.inl hq)
      · rw [List.mem_singleton] at hq; subst hq; exact h2 q (.inr hp)
    · exact h2 q (.inr (fun h => hq (List.mem_append_left _ h)))
  · intro q hq hnq
    dsimp only at hnq ⊢
    rcases List.mem_append.mp hq with hq | hq
    · exact h3 q hq (fun h => hnq (List.mem_append_left _ h))
    · exact absurd (List.mem_append_right _ hq) hnq

theorem fdStep_inv2 (hyp : GHyp D P R H n opt B0 B) (layer : List (Node S))
    (hreach : ∀ m ∈ layer, m.isExact = true → ∃ p, Reach P m.depth m.state m.value p)
    (proc : List Nat) (acc : List (Node S) × List Nat × DomStore S K × Bool) (p : Nat) (hlt : p < layer.length) (hp : p ∉ proc)
    (hI : FdInv2 D P (gpot D P n opt B) (opt - 1) layer proc acc) :
    FdInv2 D P (gpot D P n opt B) (opt - 1) layer (proc ++ [p]) (fdStep D acc p) := by
  obtain ⟨ly, keep, st, ok⟩ := acc
  have hn : layer[p]? = some layer[p] := List.getElem?_eq_getElem hlt
  have hlp : ly[p]? = some layer[p] := by rw [← hn]; exact hI.same p (.inr hp)
  have hlt' : p < ly.length := Cover.lt_of_getElem?_some hlp
  generalize layer[p] = m at hn hlp
  unfold fdStep
  dsimp only
  rw [hlp]
  dsimp only
  by_cases hex : m.isExact = true
  · rw [if_pos hex]
    obtain ⟨pp, hr⟩ := hreach m (List.mem_of_getElem? hn) hex
    cases hq : DomStore.query D st m.state m.depth m.value with
    | none => exact fdInv2_keep p hp hI hI.st
    | some r =>
      obtain ⟨st', dom, thr⟩ := r
      dsimp only
      have hst' : StoreReach D P st' := query_storeAll D _ st st' _ _ _ dom thr hq hI.st ⟨pp, hr⟩
      cases dom with
      | false =>
        rw [if_neg (by simp)]
        exact fdInv2_keep p hp hI hst'
      | true =>
        rw [if_pos rfl]
        obtain ⟨t, rfl, hvt, hok⟩ := query_thr hyp st st' m.state m.depth m.value thr hq hI.st (reach_InI hyp.hRB hyp.hNV hr)
        obtain ⟨h1, h2, h3, _⟩ := hI
        dsimp only at h1 h2 h3
        refine ⟨?_, ?_, ?_, hst'⟩
        · intro q hq'; exact List.mem_append_left _ (h1 q hq')
        · intro q hq'
          dsimp only at hq' ⊢
          have hne : p ≠ q := by
            rintro rfl
            rcases hq' with hq' | hq'
            · exact hp (h1 p hq')
            · exact hq' (List.mem_append_right _ (List.mem_singleton.mpr rfl))
          rw [List.getElem?_set_ne hne]
          rcases hq' with hq' | hq'
          · exact h2 q (.inl hq')
          · exact h2 q (.inr (fun h => hq' (List.mem_append_left _ h)))
        · intro q hq' hnq
          dsimp only at hnq ⊢
          rcases List.mem_append.mp hq' with hq' | hq'
          · have hne : p ≠ q := by rintro rfl; exact hp hq'
            rw [List.getElem?_set_ne hne]
            exact h3 q hq' hnq
          · rw [List.mem_singleton] at hq'
            subst hq'
            refine ⟨m, t, hn, ?_, hex, fun h hg => hok m.value hvt h hg, hok⟩
            rw [List.getElem?_set_self hlt']
  · rw [if_neg hex]
    exact fdInv2_keep p hp hI hI.st

theorem fdFold_inv2 (hyp : GHyp D P R H n opt B0 B) (layer : List (Node S))
    (hreach : ∀ m ∈ layer, m.isExact = true → ∃ p, Reach P m.depth m.state m.value p) :
    ∀ (l proc : List Nat) (acc : List (Node S) × List Nat × DomStore S K × Bool), (∀ p ∈ l, p < layer.length) → l.Nodup →
      (∀ p ∈ l, p ∉ proc) → FdInv2 D P (gpot D P n opt B) (opt - 1) layer proc acc →
      FdInv2 D P (gpot D P n opt B) (opt - 1) layer (proc ++ l) (l.foldl (fdStep D) acc) := by
  intro l
  induction l with
  | nil => intro proc acc _ _ _ h; simpa using h
  | cons p ps ih =>
    intro proc acc hl hnd hdis h
    rw [List.foldl_cons]
    obtain ⟨hpn, hnd'⟩ := List.nodup_cons.mp hnd
    have := ih (proc ++ [p]) _ (fun q hq => hl q (List.mem_cons_of_mem _ hq)) hnd'
      (fun q hq hq' => by
        rcases List.mem_append.mp hq' with h1 | h1
        · exact hdis q (List.mem_cons_of_mem _ hq) h1
        · rw [List.mem_singleton] at h1; subst h1; exact hpn hq)
      (fdStep_inv2 hyp layer hreach proc acc p (hl p List.mem_cons_self) (hdis p List.mem_cons_self) h)
    simpa using this

theorem filterDom_desc (hyp : GHyp D P R H n opt B0 B) (cfg : Cfg S K) (hD : cfg.dom = some D) (store : DomStore S K)
    (layer : List (Node S)) (cur : List Nat) (k : Nat) (hcur : ∀ p ∈ cur, p < layer.length) (hnd : cur.Nodup)
    (hreach : ∀ m ∈ layer, m.isExact = true → (∃ p, Reach P m.depth m.state m.value p) ∧ m.depth = k)
    (hst : StoreReach D P store) :
    FdDesc (gpot D P n opt B) (opt - 1) k layer (filterDom cfg store layer cur).1 cur (filterDom cfg store layer cur).2.1 := by
  have hlen := (filterDom_weak' cfg store layer cur).1.length
  obtain ⟨hsub, hnd2⟩ := filterDom_sub cfg store layer cur
  have hmem : ∀ p, p ∈ fdSorted D layer cur ↔ p ∈ cur := fun p => Cover.mem_sortBy _ _ _
  have hinit : FdInv2 D P (gpot D P n opt B) (opt - 1) layer [] (layer, [], store, true) :=
    ⟨(fun p hp => by cases hp), (fun p _ => rfl), (fun p hp => by cases hp), hst⟩
  have h := fdFold_inv2 hyp layer (fun m hm he => (hreach m hm he).1) (fdSorted D layer cur) [] _
    (fun p hp => hcur p ((hmem p).mp hp)) (C12.nodup_sortBy _ _ hnd) (fun p _ hp => (by cases hp)) hinit
  rw [List.nil_append, ← filterDom_eq cfg D hD] at h
  refine ⟨hlen, hsub, hnd2 hnd, fun p hp => ?_, fun p hp hnp => ?_⟩
  · apply h.same p
    rcases hp with hp | hp
    · exact .inl hp
    · exact .inr (fun h' => hp ((hmem p).mp h'))
  · obtain ⟨m, thr, h1, h2, h3, h4, h5⟩ := h.drop p ((hmem p).mpr hp) hnp
    have hk := (hreach m (List.mem_of_getElem? h1) h3).2
    rw [hk] at h4 h5
    exact ⟨m, thr, h1, h2, h3, h4, h5⟩

end q

theorem fdSpecJoint : FdSpecJoint := by
  intro S K _ _ dv H B0 B opt n hM N lb p0 hroot dd var hS hMI hdepth hnv
  obtain ⟨_, _, _, _, hndp, _⟩ := Theta.fcOf_desc (dv.kdcfg .relaxed N lb) dd
  exact filterDom_desc hM.ghyp (dv.kdcfg .relaxed N lb) rfl dd.store _ _ dd.depth (fcOf_cur_lt _ dd) hndp
    (fcOf_exact_reach _ B p0 dd hMI hdepth) hS.store

theorem builtOkJoint : BuiltOkJoint := builtOkJoint_of_fd fdSpecJoint

end Ddo.C10d

#print axioms Ddo.C10d.builtOkJoint_of_fd
#print axioms Ddo.C10d.fdSpecJoint
#print axioms Ddo.C10d.builtOkJoint

namespace Ddo.C10d
open Ddo Ddo.C01 Ddo.Closed Ddo.C09 Ddo.C10 Ddo.C10c Ddo.Truth Ddo.Theta Ddo.Bounds
variable {S K : Type} [DecidableEq S] [DecidableEq K]

theorem stepTK (cfg : Cfg S K) (D : DomRule S K) (H : Nat → S → EInt) (B : Int) (p0 : List Dec) (cache : Cache S) (O : Int)
    (hy : HypJ cfg H B) (hfd : FdSpecJ cfg D H O B p0)
    (Live Drop : Nat → Nat → Prop) (dd dd' : DD S K) (var : Nat) (sq : List (Node S) × List Nat × List (Call S) × Option Nat)
    (hIK : TInvJ cfg H B cache O Live Drop dd ∧ KArcM Live dd) (hS : SInv cfg D dd) (hM : MInv cfg B p0 dd)
    (hne : dd.next ≠ []) (hnv : cfg.P.nextVar dd.depth (dd.next.map (·.state)) = some var)
    (hlen : dd.layers.length ≤ cfg.P.nbVars)
    (hsq : squash cfg dd (CacheClosed.fdOf cfg dd).1 (CacheClosed.fdOf cfg dd).2.1 = some sq)
    (hl : dd'.layers = dd.layers ++ [(expandAll cfg var dd.layers.length sq.1 sq.2.1 sq.2.2.1).1])
    (hn : dd'.next = (expandAll cfg var dd.layers.length sq.1 sq.2.1 sq.2.2.1).2.1)
    (hd : dd'.depth = dd.depth + 1) (hc : dd'.cache = dd.cache) :
    ∃ Live' Drop', TInvJ cfg H B cache O Live' Drop' dd' ∧ KArcM Live' dd' := by
  obtain ⟨hI, hK⟩ := hIK
  obtain ⟨Drop', hI'⟩ := stepTInvJ_live cfg D H B p0 cache O hy hfd Live Drop dd dd' var sq hI hS hM hnv hlen hsq hl hn hd hc
  have harcL : ∀ ly ∈ dd.layers, ∀ n ∈ ly, ∀ a ∈ n.inb, a.fromL < dd.layers.length := by
    intro ly hly n hnm a ha
    obtain ⟨i, hi⟩ := List.mem_iff_getElem?.mp hly
    obtain ⟨q, hq⟩ := List.mem_iff_getElem?.mp hnm
    have h1 := ((hI.baseL i q ly n hi hq).arcs a ha).1
    exact Nat.lt_trans (h1 ▸ Nat.lt_succ_self a.fromL) (Cover.lt_of_getElem?_some hi)
  have harcN : ∀ n ∈ dd.next, ∀ a ∈ n.inb, a.fromL < dd.layers.length := by
    intro n hnm a ha
    have h1 := ((hI.baseN n hnm).1.arcs a ha).1
    exact h1 ▸ Nat.lt_succ_self a.fromL
  exact ⟨_, Drop', hI', step_karcm cfg hy.rel hy.W Live dd dd' var sq hK harcL harcN hsq hl hn⟩

theorem kfacts_of {cfg : Cfg S K} {H : Nat → S → EInt} {B : Int} {cache : Cache S} {O : Int} {fin : DD S K}
    {Live Drop : Nat → Nat → Prop} {dd : DD S K} (hbo : BuiltOkJ cfg H B cache O fin Live Drop dd) (hK : KArcM Live dd) :
    KFactsJ fin Live := by
  refine ⟨fun l p n h => ?_, fun l p n a h ha => ?_⟩
  · rcases hbo.at_ l p n h with ⟨ly, hly, hp⟩ | ⟨_, hp⟩
    · exact (hK.L ly (List.mem_of_getElem? hly) n (List.mem_of_getElem? hp)).1
    · exact (hK.N n (List.mem_of_getElem? hp)).1
  · rcases hbo.at_ l p n h with ⟨ly, hly, hp⟩ | ⟨_, hp⟩
    · exact (hK.L ly (List.mem_of_getElem? hly) n (List.mem_of_getElem? hp)).2 a ha
    · exact (hK.N n (List.mem_of_getElem? hp)).2 a ha

theorem builtOkJointK : BuiltOkJointK := by
  intro S K _ _ dv H B0 B opt n hM N lb cache store p0 hpre
  have hBN := hM.wf.noClamp hpre.root
  have hK0 : KArcM (fun _ _ => False) (initDD (dv.kdcfg .relaxed N lb) cache store 0) := by
    refine ⟨fun ly hly => absurd hly List.not_mem_nil, fun n hn => ?_⟩
    have hnext : (initDD (dv.kdcfg .relaxed N lb) cache store 0).next =
        [{ state := N.state, value := N.value, depth := N.depth }] := rfl
    rw [hnext, List.mem_singleton] at hn
    subst hn
    exact ⟨rfl, fun a ha => absurd ha List.not_mem_nil⟩
  obtain ⟨Live, Drop, dd, hbo, _, hK⟩ := buildLoop_builtOkJ (dv.kdcfg .relaxed N lb) dv.D rfl hM.wf.nv _ B hBN p0 cache (opt - 1) store
    hpre.root
    (fun Live Drop dd => TInvJ (dv.kdcfg .relaxed N lb) (gpot dv.D dv.sv.P n opt B) B cache (opt - 1) Live Drop dd ∧ KArcM Live dd)
    (fun _ _ _ hI => hI.1) (fun _ _ _ _ hI h1 h2 h3 h4 => ⟨hI.1.congr h1 h2 h3 h4, ⟨h1 ▸ hI.2.L, h2 ▸ hI.2.N⟩⟩)
    (stepTK (dv.kdcfg .relaxed N lb) dv.D _ B p0 cache (opt - 1) (hypJ_gpot hM hpre.root)
      (fdSpecJoint S K dv H B0 B opt n hM N lb p0 hpre.root))
    ⟨init_tinvJ (dv.kdcfg .relaxed N lb) _ B cache (opt - 1) store 0 hBN, hK0⟩ ⟨hpre.sreach, hpre.slen⟩ hpre.ok
  exact ⟨Live, Drop, dd, hbo, kfacts_of hbo hK⟩

end Ddo.C10d

#print axioms Ddo.C10d.builtOkJointK
