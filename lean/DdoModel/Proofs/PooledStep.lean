import DdoModel.Proofs.PooledLoop
import DdoModel.Proofs.MddCover
import DdoModel.Proofs.PathP
/-! One step of the pooled loop (`stepLayerP`) in isolation — no cache, no dominance: `StepIso`, the reading of `StepP`
    (`Proofs/PooledStage.lean`) in which the two filters are the identity (`stepLayerP_iso`), and the expansion fold `expF` with the
    parent known by its key (`expF_forall`): what the coverage (`PooledCover`) and bound (`PooledBounds`) invariants start from. -/
set_option linter.unusedSectionVars false
set_option linter.unusedVariables false
namespace Ddo.Pooled
open Ddo
variable {S K : Type} [DecidableEq S] [DecidableEq K]

theorem Bd_zero (B : Int) : Cover.Bd B 0 = B := by unfold Cover.Bd; omega

/-- the rough-upper-bound test of `expandOne` lets a node through when its potential `v + h` reaches a threshold `o`
    that survives clamping -/
theorem rub_test {lb o rub v h : Int} (hclamp : ∀ x, o ≤ x → clamp x > lb) (hle : o ≤ v + h) (hr : h ≤ rub) :
    satAdd rub v > lb := by
  unfold satAdd; exact hclamp _ (by omega)

/-- an arc `src —c→ u` (`h` = potential at `u`) redirected, with cost `r`, to a node of value `w` and potential-to-go `h'` -/
theorem pot_merge {o pv c h r h' w : Int} (hle : o ≤ pv + c + h) (hm : c + h ≤ r + h') (hw : pv + r ≤ w) :
    o ≤ w + h' := by omega

theorem some_le_elim {a b : EInt} {x : Int} (h : a ≤ b) (ha : a = some x) : ∃ y, b = some y ∧ x ≤ y := by
  subst ha
  cases b with
  | none => exact absurd h (by simp)
  | some y => exact ⟨y, rfl, h⟩

theorem appendEdge_within {M : Int} {par n : Node S} {a : Arc} (hn : Cover.Within M n.value)
    (ha : Cover.Within M (satAdd par.value a.cost)) : Cover.Within M (appendEdge par n a).value := by
  rcases Cover.appendEdge_value par n a with ⟨h1, _⟩ | ⟨h1, _⟩
  · rw [h1]; exact hn
  · rw [h1]; exact ha

theorem getElem?_map_key {layer : List (Node S)} {q : Nat} {par : Node S}
    (h : (layer.map Cover.key)[q]? = some (Cover.key par)) :
    ∃ n0, layer[q]? = some n0 ∧ n0.state = par.state ∧ n0.value = par.value := by
  rw [List.getElem?_map, Option.map_eq_some_iff] at h
  obtain ⟨n0, h0, hk⟩ := h
  exact ⟨n0, h0, congrArg Prod.fst hk, congrArg Prod.snd hk⟩

theorem restNodes_of_curNodes_nil {cfg : Cfg S K} {pd : PD S K} {var : Nat} (h : curNodes cfg pd var = []) :
    (∀ m ∈ pd.pool, cfg.P.impacted var m.state = false) ∧ restNodes cfg pd var = pd.pool := by
  have hall : ∀ m ∈ pd.pool, cfg.P.impacted var m.state = false := by
    intro m hm
    cases hi : cfg.P.impacted var m.state with
    | false => rfl
    | true =>
      have := mem_curNodes_iff.2 ⟨m, hm, hi, rfl⟩
      rw [h] at this; cases this
  refine ⟨hall, ?_⟩
  unfold restNodes
  rw [List.filter_eq_self]
  intro m hm
  rw [hall m hm]; rfl

theorem curNodes_of_singleton {cfg : Cfg S K} {pd : PD S K} {var : Nat} {n0 : Node S} (hp : pd.pool = [n0])
    (hcn : curNodes cfg pd var ≠ []) :
    curNodes cfg pd var = [{ n0 with depth := pd.depth }] ∧ restNodes cfg pd var = [] := by
  unfold curNodes restNodes at *
  rw [hp] at hcn ⊢
  cases hi : cfg.P.impacted var n0.state with
  | false => exact absurd (by simp [hi]) hcn
  | true => simp [hi]

theorem plain_of_layers_append {pd pd' : PD S K} {d : Nat} {ly : List (Node S)} (h : pd'.layers = pd.layers ++ [(d, ly)]) :
    pd'.plain = pd.plain ++ [ly] := by
  unfold PD.plain; rw [h, List.map_append]; rfl

theorem expF_forall (Q : Node S → Prop) (cfg : Cfg S K) (var lidx : Nat) (layer rest : List (Node S)) (cur : List Nat)
    (log : List (Call S)) (hall : ∀ m ∈ rest, Q m)
    (hold : ∀ q ∈ cur, ∀ (par : Node S), (layer.map Cover.key)[q]? = some (Cover.key par) →
      ∀ d ∈ cfg.P.domain var par.state, ∀ n, Q n → Q (appendEdge par n (Cover.arcOf cfg var lidx q par d)))
    (hfresh : ∀ q ∈ cur, ∀ (par : Node S), (layer.map Cover.key)[q]? = some (Cover.key par) →
      ∀ d ∈ cfg.P.domain var par.state,
        Q (appendEdge par (Cover.freshNode par (cfg.P.trans par.state ⟨var, d⟩)
          (cfg.P.cost par.state (cfg.P.trans par.state ⟨var, d⟩) ⟨var, d⟩)) (Cover.arcOf cfg var lidx q par d))) :
    ∀ m ∈ (expF cfg var lidx layer rest cur log).2.1, Q m := by
  refine (expF_children cfg var lidx layer rest cur log Q hall fun q hq n0 par h0 hs d hd m hm _ => ?_).2
  have hc := (stripRub_core hs).2
  have hk : (layer.map Cover.key)[q]? = some (Cover.key par) := by
    rw [List.getElem?_map, h0]
    exact congrArg some (Prod.ext hc.1 hc.2.1)
  rcases hm with hm | rfl
  · exact hold q hq par hk d hd m hm
  · exact hfresh q hq par hk d hd

theorem fdOf_iso (cfg : Cfg S K) (pd : PD S K) (var : Nat) (hc : cfg.useCache = false) (hd : cfg.dom = none) :
    fdOf cfg pd var = (curNodes cfg pd var, List.range (curNodes cfg pd var).length, pd.store, true) := by
  have h2 : fcOf cfg pd var = (curNodes cfg pd var, List.range (curNodes cfg pd var).length) := by
    unfold fcOf
    split
    · rfl
    · exact Cover.filterCache_id cfg pd.cache _ _ hc (fun p hp => List.mem_range.mp hp)
  unfold fdOf
  rw [h2]
  simp only [filterDom, hd]

/-- what a successful `stepLayerP cfg pd var = some pd'` did, in isolation: no pool node is impacted and the pool waits
    one depth further, or the impacted pool nodes are squashed into `layer` / `cur` (`_squash_if_needed`) which is
    materialised and expanded -/
inductive StepIso (cfg : Cfg S K) (pd pd' : PD S K) (var : Nat) : Prop
  | skip : (∀ m ∈ pd.pool, cfg.P.impacted var m.state = false) → pd'.layers = pd.layers → pd'.pool = pd.pool →
      pd'.isExactField = pd.isExactField → StepIso cfg pd pd' var
  | mat (layer : List (Node S)) (cur : List Nat) (ief : Bool) (log : List (Call S)) :
      curNodes cfg pd var ≠ [] → layer ≠ [] →
      SquashCase cfg pd.plain pd.layers.length pd.isExactField
        (curNodes cfg pd var, List.range (curNodes cfg pd var).length, pd.store, true) (impLog pd var) layer cur ief log →
      pd'.layers = pd.layers ++ [(pd.depth, (expF cfg var pd.layers.length layer (restNodes cfg pd var) cur log).1)] →
      pd'.pool = (expF cfg var pd.layers.length layer (restNodes cfg pd var) cur log).2.1 →
      pd'.isExactField = ief → StepIso cfg pd pd' var

theorem stepLayerP_iso (cfg : Cfg S K) (pd pd' : PD S K) (var : Nat) (hc : cfg.useCache = false) (hd : cfg.dom = none)
    (h : stepLayerP cfg pd var = some pd') : pd'.depth = pd.depth + 1 ∧ StepIso cfg pd pd' var := by
  obtain ⟨layer, cur, ief, log, hs⟩ := stepLayerP_elim cfg pd pd' var h
  refine ⟨hs.depth, ?_⟩
  have hlen := squashCase_length cfg pd var layer cur ief log hs.sq
  have hsq := hs.sq
  rw [fdOf_iso cfg pd var hc hd] at hsq
  have hlayers := hs.layers
  have hpool := hs.pool
  by_cases hcn : curNodes cfg pd var = []
  · obtain ⟨hall, hrest⟩ := restNodes_of_curNodes_nil hcn
    rw [hcn] at hsq
    have hshape : layer = [] ∧ cur = [] ∧ ief = pd.isExactField := by
      cases hsq with
      | restrict _ hl _ _ _ _ => exact absurd hl (Nat.not_lt_zero _)
      | relax _ hl _ _ _ _ _ _ => exact absurd hl (Nat.not_lt_zero _)
      | keep _ _ hl hcu _ hief => exact ⟨hl, hcu, hief⟩
    obtain ⟨rfl, rfl, rfl⟩ := hshape
    exact .skip hall hlayers (hpool.trans hrest) hs.ief
  · have hlne : layer ≠ [] := by
      intro hl
      rw [hl] at hlen
      exact hcn (List.eq_nil_of_length_eq_zero (Nat.le_zero.mp hlen))
    rcases hs.cases with ⟨hl, _⟩ | ⟨_, _, hmat⟩
    · exact absurd hl hlne
    · exact .mat layer cur ief log hcn hlne hsq hmat hpool hs.ief

end Ddo.Pooled
