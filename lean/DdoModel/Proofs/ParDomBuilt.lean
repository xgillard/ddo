import DdoModel.Proofs.ParDomGenDefs
import DdoModel.Proofs.DomChain
/-! # The answers of any build with the dominance checker that is a chain of layer steps meet `AnsOk`

`resultOf cfg fin`: what `finalize` reports of a final diagram.  `ansOk_built`: `AnsOk` for whatever reports `toOut (resultOf cfg fin)`
of the final diagram `fin` of a build that ended normally (`Ended`, `Proofs/BuildChain.lean`: a chain of layer steps through
admissible filters, `FilterOk` of `Proofs/DomChain.lean`) — nothing is used of how the stores that answered the checker came about.  The layer-wise and the
operation-wise compilations are instances (`Proofs/ParDomCompileL.lean`, `Proofs/ParDomOpLoop.lean`).  `GoodStores`: a sequence of
stores of exactly reached items, what the shared checker holds at successive moments. -/
set_option linter.unusedSectionVars false
set_option linter.unusedVariables false
namespace Ddo.ParDom
open Ddo Ddo.Truth Ddo.Closed Ddo.C10
variable {S K : Type} [DecidableEq S] [DecidableEq K]

/-- what `compile` reports of a finished diagram (the `must` result) -/
def resultOf (cfg : Cfg S K) (dd : DD S K) : Result S :=
  (finalize cfg (finalizeLayers dd) ((finalizeLayers dd).ebpMust (cfg.ctype == .relaxed))).1

end Ddo.ParDom

namespace Ddo.ParDom
open Ddo Ddo.Truth Ddo.Closed Ddo.ParSys Ddo.ParClosed Ddo.C10
open Ddo.C01 (SolverCfg WellFormed toOut SolOf)
variable {S K : Type} [DecidableEq S] [DecidableEq K]

/-- `C01.isSol_le` for any key type of the rule -/
theorem isSol_le' {sv : SolverCfg S} {H : Nat → S → EInt} {B0 B : Int} (hwf : WellFormed sv H B0 B)
    (cfg : Cfg S K) (hP : cfg.P = sv.P) (p0 : List Dec) (w : Int) (sol : Option (List Dec)) (h : IsSol cfg p0 w sol) :
    w ≤ B ∧ ∃ p, sol = some p := by
  obtain ⟨k, s, q, L, hr, _, _, hsol⟩ := h
  rw [hP] at hr
  exact ⟨(hwf.bound.value_le hwf.nv hr).2, _, hsol⟩

/-- a sequence of stores of exactly reached items (what the shared checker holds at successive moments) -/
def GoodStores (dv : DSolverCfg S K) (σ : Nat → DomStore S K) : Prop :=
  ∀ d, StoreReach dv.D dv.sv.P (σ d) ∧ (σ d).layers.length = dv.sv.P.nbVars + 1

theorem goodStores_const (dv : DSolverCfg S K) : GoodStores dv (fun _ => DomStore.init dv.sv.P.nbVars) :=
  fun _ => ⟨storeReach_init dv.D dv.sv.P _, by simp [DomStore.init]⟩

theorem goodStores_upd {dv : DSolverCfg S K} {σ : Nat → DomStore S K} (hσ : GoodStores dv σ) (k : Nat) {st : DomStore S K}
    (hst : StoreReach dv.D dv.sv.P st) (hlen : st.layers.length = dv.sv.P.nbVars + 1) :
    GoodStores dv (fun d => if d = k then st else σ d) := by
  intro d
  by_cases h : d = k
  · simp only [h, if_true]; exact ⟨hst, hlen⟩
  · simp only [h, if_false]; exact hσ d

theorem resultOf_restricted (cfg : Cfg S K) (fin : DD S K) (hres : cfg.ctype = .restricted) :
    resultOf cfg fin = (finalize cfg (finalizeLayers fin) false).1 := by
  rw [resultOf, hres]; rfl

theorem resultOf_relaxed (cfg : Cfg S K) (fin : DD S K) (hrel : cfg.ctype = .relaxed) :
    resultOf cfg fin = (finalize cfg (finalizeLayers fin) ((finalizeLayers fin).ebpMust true)).1 := by
  rw [resultOf, hrel]; rfl

/-- a reported exact value is the value of the reported solution (restricted: no `must` bit; relaxed: by the bit) -/
theorem ended_isSol {cfg : Cfg S K} {F : DD S K → List (Node S) → List Nat → Prop} {B : Int} {p0 : List Dec} {fin : DD S K}
    (h : Ended cfg F B p0 fin) (hct : cfg.ctype = .restricted ∨ cfg.ctype = .relaxed ∧ 1 ≤ cfg.width)
    (hB : NoClamp cfg.P cfg.R cfg.root.value B) (hroot : Reach cfg.P cfg.root.depth cfg.root.state cfg.root.value p0)
    (w : Int) (hw : (resultOf cfg fin).bestExactValue = some w) : IsSol cfg p0 w (resultOf cfg fin).bestExactSol := by
  rcases hct with hres | ⟨hrel, hW⟩
  · rw [resultOf_restricted cfg fin hres] at hw ⊢
    exact h.isSol_false hB hroot w hw
  · rw [resultOf_relaxed cfg fin hrel] at hw ⊢
    cases hm : (finalizeLayers fin).ebpMust true with
    | false => rw [hm] at hw; exact h.isSol_false hB hroot w hw
    | true => rw [hm] at hw; exact (h.ebpMust_sound hrel hW hB hroot hm w hw).exactSol

/-- `is_exact` of a restricted result: nothing was squashed -/
theorem resultOf_isExact_restricted (cfg : Cfg S K) (fin : DD S K) (hres : cfg.ctype = .restricted)
    (he : (resultOf cfg fin).isExact = true) : fin.lel = none := by
  rw [resultOf_restricted cfg fin hres, finalize_isExact, Bool.or_false] at he
  exact Option.isNone_iff_eq_none.1 he

/-- `is_exact` of a relaxed result: nothing was squashed, or the `must` bit is set — and then the best exact value is the best value -/
theorem resultOf_isExact_relaxed (cfg : Cfg S K) (fin : DD S K) (hrel : cfg.ctype = .relaxed)
    (he : (resultOf cfg fin).isExact = true) :
    fin.lel = none ∨ (resultOf cfg fin).bestExactValue = (resultOf cfg fin).bestValue := by
  rw [resultOf_relaxed cfg fin hrel] at he ⊢
  rw [finalize_isExact] at he
  cases hm : (finalizeLayers fin).ebpMust true with
  | true =>
    right
    rw [finalize_bestExactValue, Ddo.finalize_bestValue]
    rfl
  | false =>
    left
    rw [hm, Bool.or_false] at he
    exact Option.isNone_iff_eq_none.1 he

/-! the final-diagram theorems read at `resultOf cfg fin` (`unfold` first: left to the unifier, `resultOf` against `finalize … _` is
   slow to check) -/

theorem ended_cutset {cfg : Cfg S K} {F : DD S K → List (Node S) → List Nat → Prop} {B : Int} {p0 : List Dec} {fin : DD S K}
    (h : Ended cfg F B p0 fin) (hB : NoClamp cfg.P cfg.R cfg.root.value B)
    (hroot : Reach cfg.P cfg.root.depth cfg.root.state cfg.root.value p0) :
    ∀ c ∈ (resultOf cfg fin).cutset,
      (∃ q, Reach cfg.P c.depth c.state c.value (p0 ++ q) ∧ c.path = cfg.root.path ++ q.reverse) ∧
      (cfg.ctype = .relaxed → cfg.root.depth < c.depth) := by
  unfold resultOf
  exact finalize_cutset_sound cfg p0 _ _ (h.wf hB hroot)

theorem ended_exact {cfg : Cfg S K} {D : DomRule S K} {H : Nat → S → EInt} {opt : Int} {Prot : Nat → S → Int → Prop} {B : Int}
    {p0 : List Dec} {fin : DD S K} (h : Ended cfg (FilterOk Prot) B p0 fin) (hy : DomHyp cfg D H opt Prot B)
    (hprot : Prot cfg.root.depth cfg.root.state cfg.root.value) (hl : fin.lel = none) :
    ∃ w, (resultOf cfg fin).bestExactValue = some w ∧ opt ≤ w := by
  unfold resultOf
  exact exact_fin hy fin _ (h.xinv hy hprot) (fun hne => (h.term.resolve_left hne).1) hl

theorem ended_relaxed {cfg : Cfg S K} {D : DomRule S K} {H : Nat → S → EInt} {opt : Int} {Prot : Nat → S → Int → Prop} {B : Int}
    {p0 : List Dec} {fin : DD S K} (h : Ended cfg (FilterOk Prot) B p0 fin) (hy : RHyp cfg D H opt Prot B)
    (hB : NoClamp cfg.P cfg.R cfg.root.value B) (hroot : Reach cfg.P cfg.root.depth cfg.root.state cfg.root.value p0)
    (hprot : Prot cfg.root.depth cfg.root.state cfg.root.value) :
    (∃ bv, (resultOf cfg fin).bestValue = some bv ∧ opt ≤ bv) ∧
    ((∀ w, (resultOf cfg fin).bestExactValue = some w → w < opt) →
      ∃ c ∈ (resultOf cfg fin).cutset, Prot c.depth c.state c.value ∧ opt ≤ c.ub) := by
  have hT := h.tend hy hprot
  unfold resultOf
  exact ⟨hT.bestValue_ge hy.toDomHyp hprot _,
    cutset_dom_fin cfg D H opt Prot B hy p0 fin hprot hT (h.inv2 hB) (h.wf hB hroot) _⟩

/-- **`AnsOk` for the answers of builds that are chains** -/
theorem ansOk_built {dv : DSolverCfg S K} {H : Nat → S → EInt} {B0 B opt : Int} {Prot : Nat → S → Int → Prop}
    (hwf : WellFormed dv.sv H B0 B) (hopt : (H 0 dv.sv.P.init).addI dv.sv.P.initVal = some opt)
    (hPr : Protected dv.D dv.sv.P H opt Prot) {okR okX : SubP S → Int → DDOut S → Prop}
    (hR : ∀ n lb o p0, Reach dv.sv.P n.depth n.state n.value p0 → okR n lb o →
      ∃ fin, Ended (dv.cfg .restricted n lb) (FilterOk Prot) B p0 fin ∧ o = toOut (resultOf (dv.cfg .restricted n lb) fin))
    (hX : ∀ n lb o p0, Reach dv.sv.P n.depth n.state n.value p0 → okX n lb o →
      ∃ fin, Ended (dv.cfg .relaxed n lb) (FilterOk Prot) B p0 fin ∧ o = toOut (resultOf (dv.cfg .relaxed n lb) fin))
    (haR : ∀ n lb, C01.NodeOk dv.sv.P n → ∃ o, okR n lb o) (haX : ∀ n lb, C01.NodeOk dv.sv.P n → ∃ o, okX n lb o) :
    AnsOk dv B opt Prot okR okX where
  factsR := by
    intro n lb o ⟨p0, hroot, hperm⟩ hok
    obtain ⟨fin, hE, rfl⟩ := hR n lb o p0 hroot hok
    have hs := ended_isSol hE (.inl rfl) (hwf.bound.noClamp_at hwf.nv hroot) hroot
    -- with the result a variable, `toOut` reduces without unfolding `finalize`
    generalize resultOf (dv.cfg .restricted n lb) fin = r at hs ⊢
    exact fun w hw => isSol_le' (sv := dv.sv) hwf (dv.cfg .restricted n lb) rfl p0 w _ (hs w hw)
  factsX := by
    intro n lb o ⟨p0, hroot, hperm⟩ hok
    obtain ⟨fin, hE, rfl⟩ := hX n lb o p0 hroot hok
    have hBN := hwf.bound.noClamp_at hwf.nv hroot
    have hs := ended_isSol hE (.inr ⟨rfl, hwf.width n⟩) hBN hroot
    have hc := ended_cutset hE hBN hroot
    generalize resultOf (dv.cfg .relaxed n lb) fin = r at hs hc ⊢
    refine ⟨fun w hw => isSol_le' (sv := dv.sv) hwf (dv.cfg .relaxed n lb) rfl p0 w _ (hs w hw), fun c hc' => ?_⟩
    obtain ⟨⟨q, hq, hpath⟩, hprog⟩ := hc c hc'
    exact ⟨⟨p0 ++ q, hq, by rw [hpath]; exact List.Perm.append hperm (List.reverse_perm q)⟩, hprog rfl,
      reach_depth_le hwf.nv hq⟩
  contractR := by
    intro n lb o ⟨p0, hroot, hperm⟩ h1 _ hle hok
    obtain ⟨fin, hE, rfl⟩ := hR n lb o p0 hroot hok
    have hs := ended_isSol hE (.inl rfl) (hwf.bound.noClamp_at hwf.nv hroot) hroot
    have hlel := resultOf_isExact_restricted (dv.cfg .restricted n lb) fin rfl
    have hex : opt > lb → Prot n.depth n.state n.value → fin.lel = none →
        ∃ w, (resultOf (dv.cfg .restricted n lb) fin).bestExactValue = some w ∧ opt ≤ w := fun hgt hprot hl =>
      ended_exact hE (domHyp_of hwf hopt hPr .restricted n lb p0 hroot h1 hgt) hprot hl
    generalize resultOf (dv.cfg .restricted n lb) fin = r at hs hex hlel ⊢
    exact ⟨fun w hw => (C01.isSol_facts (dv.cfg .restricted n lb) H opt p0 hwf.pot hroot hperm hopt w _ (hs w hw)).1,
      fun he hOn hgt => hex hgt (onP_exact hPr hwf.pot hroot hOn) (hlel he)⟩
  contractX := by
    intro n lb o ⟨p0, hroot, hperm⟩ h1 _ hle hok
    obtain ⟨fin, hE, rfl⟩ := hX n lb o p0 hroot hok
    have hBN := hwf.bound.noClamp_at hwf.nv hroot
    have hs := ended_isSol hE (.inr ⟨rfl, hwf.width n⟩) hBN hroot
    have hcases := resultOf_isExact_relaxed (dv.cfg .relaxed n lb) fin rfl
    have hex : opt > lb → Prot n.depth n.state n.value → fin.lel = none →
        ∃ w, (resultOf (dv.cfg .relaxed n lb) fin).bestExactValue = some w ∧ opt ≤ w := fun hgt hprot hl =>
      ended_exact hE (domHyp_of hwf hopt hPr .relaxed n lb p0 hroot h1 hgt) hprot hl
    have hrel := fun hgt hprot => ended_relaxed hE
      (RHyp.mk' (domHyp_of hwf hopt hPr .relaxed n lb p0 hroot h1 hgt) rfl (hwf.width n) hwf.merge hwf.attMerge) hBN hroot hprot
    have hub := fun hgt hprot => (hrel hgt hprot).1
    have hcut := fun hgt hprot => (hrel hgt hprot).2
    generalize resultOf (dv.cfg .relaxed n lb) fin = r at hs hcases hex hub hcut ⊢
    refine ⟨⟨fun w hw => (C01.isSol_facts (dv.cfg .relaxed n lb) H opt p0 hwf.pot hroot hperm hopt w _ (hs w hw)).1,
      fun he hOn hgt => ?_⟩, fun hne hOn hgt hbe => ?_⟩
    · have hprot := onP_exact hPr hwf.pot hroot hOn
      rcases hcases he with hl | hb
      · exact hex hgt hprot hl
      · obtain ⟨bv, hbv, hle'⟩ := hub hgt hprot
        exact ⟨bv, hb.trans hbv, hle'⟩
    · obtain ⟨c0, hc0, hp0, hu0⟩ := hcut hgt (onP_exact hPr hwf.pot hroot hOn) hbe
      exact ⟨c0, hc0, ⟨c0.value, Int.le_refl _, hp0⟩, hu0⟩
  answersR := haR
  answersX := haX

end Ddo.ParDom

#print axioms Ddo.ParDom.ansOk_built
