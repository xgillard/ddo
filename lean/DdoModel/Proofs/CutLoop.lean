import DdoModel.Proofs.Closed
/-! The compilation loop with a cutoff, unfolded once (`buildLoop_stop`, `buildLoop_some_step`), and the one consequence the closing
    lemmas need: a compilation that ends normally was not touched by its cutoff (`compile_ok_none`), so what is proved of
    `compile … none` holds of every compilation whose outcome is `ok`. -/
set_option linter.unusedSectionVars false
namespace Ddo.C19
open Ddo Ddo.Truth Ddo.Closed
variable {S K : Type} [DecidableEq S] [DecidableEq K]

theorem buildLoop_stop (cfg : Cfg S K) (stopAt : Option Nat) (fuel : Nat) (dd : DD S K)
    (h : cfg.P.nextVar dd.depth (dd.next.map (·.state)) = none) :
    buildLoop cfg stopAt (fuel + 1) dd =
      ({ dd with log := Call.nextVar dd.depth (dd.next.map (·.state)) none :: dd.log }, .ok) :=
  buildLoop_none_eq cfg stopAt fuel dd h

theorem buildLoop_some_step (cfg : Cfg S K) (k fuel : Nat) (dd : DD S K) (var : Nat)
    (h : cfg.P.nextVar dd.depth (dd.next.map (·.state)) = some var) :
    buildLoop cfg (some k) (fuel + 1) dd =
      if k ≤ dd.polls + 1 then (tick dd var, .cutoff) else
      match stepLayer cfg (tick dd var) var with
      | (none, _) => (tick dd var, .crash)
      | (some dd', .cutoff) => (dd', .ok)
      | (some dd', .crash) => (dd', .crash)
      | (some dd', .ok) => buildLoop cfg (some k) fuel dd' := by
  rw [buildLoop_some_eq cfg (some k) fuel dd var h]
  by_cases hk : k ≤ dd.polls + 1
  · rw [if_pos hk]; exact if_pos (decide_eq_true hk)
  · rw [if_neg hk]; exact if_neg fun h => hk (of_decide_eq_true h)

theorem buildLoop_ok_none (cfg : Cfg S K) (k : Nat) :
    ∀ (fuel : Nat) (dd : DD S K), (buildLoop cfg (some k) fuel dd).2 = .ok →
      buildLoop cfg (some k) fuel dd = buildLoop cfg none fuel dd := by
  intro fuel
  induction fuel with
  | zero => intro dd _; rfl
  | succ fuel ih =>
    intro dd h
    cases hnv : cfg.P.nextVar dd.depth (dd.next.map (·.state)) with
    | none => rw [buildLoop_stop cfg (some k) fuel dd hnv, buildLoop_stop cfg none fuel dd hnv]
    | some var =>
      rw [buildLoop_some_step cfg k fuel dd var hnv] at h ⊢
      rw [buildLoop_step cfg fuel dd var hnv]
      by_cases hk : k ≤ dd.polls + 1
      · rw [if_pos hk] at h; cases h
      · rw [if_neg hk] at h ⊢
        generalize stepLayer cfg (tick dd var) var = r at h ⊢
        obtain ⟨o, oc⟩ := r
        cases o with
        | none => rfl
        | some dd' => cases oc with
          | ok => exact ih dd' h
          | cutoff => rfl
          | crash => rfl

theorem compile_ok_none (cfg : Cfg S K) (cache : Cache S) (store : DomStore S K) (polls : Nat) (stopAt : Option Nat)
    (h : (compile cfg cache store polls stopAt).1 = .ok) :
    compile cfg cache store polls stopAt = compile cfg cache store polls none := by
  cases stopAt with
  | none => rfl
  | some k =>
    rw [compile_fst] at h
    unfold compile
    rw [buildLoop_ok_none cfg k _ _ h]

end Ddo.C19
