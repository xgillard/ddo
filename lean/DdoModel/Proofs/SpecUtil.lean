import DdoModel.Examples.Util
/-! The list library the example specifications and their proofs share.  The enumeration helpers of `Examples/Util.lean`
    (`sublists`, `tuples`, `oneTo`) and the permutation enumerator `perms` each list EXACTLY the objects they are meant to
    list; `maxOf` / `minOf` return an extremal element and `none` only on `[]`; `IsMaxOf` / `IsMinOf` state an optimum
    declaratively and `maxOf_isMaxOf`, `minOf_getD_iff`, `perms_spec` tie an enumeration to it (`Props/C16.lean`).  Besides: the
    fold of an operation that selects one of its arguments, sums of a function over a list and over an index range. -/
namespace Ddo.SpecUtil
open Ddo.Examples.Util

theorem mem_sublists {α : Type} {s l : List α} : s ∈ sublists l ↔ s.Sublist l := by
  induction l generalizing s with
  | nil => simp [sublists]
  | cons x xs ih =>
    simp only [sublists, List.mem_append, List.mem_map, ih]
    constructor
    · rintro (h | ⟨t, ht, rfl⟩)
      · exact h.cons _
      · exact ht.cons_cons _
    · intro h
      cases h with
      | cons _ h => exact Or.inl h
      | cons_cons _ h => exact Or.inr ⟨_, h, rfl⟩

theorem length_sublists {α : Type} (l : List α) : (sublists l).length = 2 ^ l.length := by
  induction l with
  | nil => rfl
  | cons x xs ih => simp only [sublists, List.length_append, List.length_map, ih, List.length_cons]; omega

theorem sublist_eq_filter {α β : Type} [DecidableEq β] (f : α → β) {s l : List α}
    (hs : s.Sublist l) (hnd : (l.map f).Nodup) :
    s = l.filter (fun x => (s.map f).contains (f x)) := by
  induction hs with
  | slnil => rfl
  | cons a h ih =>
    rename_i s l'
    simp only [List.map_cons, List.nodup_cons] at hnd
    have hna : f a ∉ s.map f := fun hm => hnd.1 ((h.map f).subset hm)
    rw [List.filter_cons]
    simp only [List.contains_iff_mem, hna]
    simpa using ih hnd.2
  | cons_cons a h ih =>
    rename_i s l'
    simp only [List.map_cons, List.nodup_cons] at hnd
    rw [List.filter_cons]
    simp only [List.map_cons, List.contains_iff_mem, List.mem_cons, true_or, if_true]
    congr 1
    have := ih hnd.2
    refine this.trans (List.filter_congr ?_)
    intro x hx
    have : f x ≠ f a := fun e => hnd.1 (e ▸ List.mem_map_of_mem hx)
    simp [this]

theorem mem_tuples {α : Type} {dom : List α} {k : Nat} {t : List α} :
    t ∈ tuples dom k ↔ t.length = k ∧ ∀ x ∈ t, x ∈ dom := by
  induction k generalizing t with
  | zero =>
    simp only [tuples, List.mem_singleton]
    constructor
    · rintro rfl; simp
    · rintro ⟨h, _⟩; exact List.length_eq_zero_iff.mp h
  | succ k ih =>
    simp only [tuples, List.mem_flatMap, List.mem_map, ih]
    constructor
    · rintro ⟨t', ⟨hl, hd⟩, a, ha, rfl⟩
      refine ⟨by simp [hl], ?_⟩
      intro x hx
      rcases List.mem_cons.mp hx with rfl | hx
      · exact ha
      · exact hd x hx
    · rintro ⟨hl, hd⟩
      cases t with
      | nil => simp at hl
      | cons a t' =>
        refine ⟨t', ⟨by simpa using hl, fun x hx => hd x (List.mem_cons_of_mem _ hx)⟩, a,
          hd a (List.mem_cons_self), rfl⟩

/-- the fold of an operation that returns one of its arguments, above both in the preorder `R`: the result is above the start
    and every term, and is one of them -/
theorem foldl_sel_spec {α β : Type} {op : β → β → β} {R : β → β → Prop} (hrefl : ∀ a, R a a)
    (htr : ∀ {a b c}, R a b → R b c → R a c) (hl : ∀ a b, R a (op a b)) (hr : ∀ a b, R b (op a b))
    (hsel : ∀ a b, op a b = a ∨ op a b = b) (f : α → β) : ∀ (l : List α) (acc : β),
    R acc (l.foldl (fun a v => op a (f v)) acc) ∧ (∀ v ∈ l, R (f v) (l.foldl (fun a v => op a (f v)) acc)) ∧
    (l.foldl (fun a v => op a (f v)) acc = acc ∨ ∃ v ∈ l, l.foldl (fun a v => op a (f v)) acc = f v)
  | [], acc => ⟨hrefl _, fun _ hv => (by cases hv), Or.inl rfl⟩
  | x :: t, acc => by
    obtain ⟨h1, h2, h3⟩ := foldl_sel_spec hrefl htr hl hr hsel f t (op acc (f x))
    refine ⟨htr (hl _ _) h1, ?_, ?_⟩
    · intro v hv
      rcases List.mem_cons.mp hv with rfl | hv
      · exact htr (hr _ _) h1
      · exact h2 v hv
    · rcases h3 with h3 | ⟨v, hv, h3⟩
      · rcases hsel acc (f x) with h | h
        · exact Or.inl (h3.trans h)
        · exact Or.inr ⟨x, List.mem_cons_self, h3.trans h⟩
      · exact Or.inr ⟨v, List.mem_cons_of_mem _ hv, h3⟩

theorem foldl_sel_list {α : Type} {op : α → α → α} {R : α → α → Prop} (hrefl : ∀ a, R a a)
    (htr : ∀ {a b c}, R a b → R b c → R a c) (hl : ∀ a b, R a (op a b)) (hr : ∀ a b, R b (op a b))
    (hsel : ∀ a b, op a b = a ∨ op a b = b) (xs : List α) (x : α) :
    xs.foldl op x ∈ x :: xs ∧ ∀ y ∈ x :: xs, R y (xs.foldl op x) := by
  have h : R x (xs.foldl op x) ∧ (∀ v ∈ xs, R v (xs.foldl op x)) ∧ (xs.foldl op x = x ∨ ∃ v ∈ xs, xs.foldl op x = v) :=
    foldl_sel_spec hrefl htr hl hr hsel id xs x
  refine ⟨?_, fun y hy => (List.mem_cons.mp hy).elim (fun e => e ▸ h.1) (h.2.1 y)⟩
  rcases h.2.2 with e | ⟨v, hv, e⟩ <;> rw [e]
  · exact List.mem_cons_self
  · exact List.mem_cons_of_mem _ hv

theorem foldl_max_spec (xs : List Int) (x : Int) :
    xs.foldl max x ∈ x :: xs ∧ ∀ y ∈ x :: xs, y ≤ xs.foldl max x :=
  foldl_sel_list Int.le_refl Int.le_trans Int.le_max_left Int.le_max_right
    (fun a b => (Int.le_total a b).elim (fun h => Or.inr (Int.max_eq_right h)) (fun h => Or.inl (Int.max_eq_left h))) xs x

theorem foldl_min_spec (xs : List Int) (x : Int) :
    xs.foldl min x ∈ x :: xs ∧ ∀ y ∈ x :: xs, xs.foldl min x ≤ y :=
  foldl_sel_list (R := fun a b => b ≤ a) Int.le_refl (fun h1 h2 => Int.le_trans h2 h1) Int.min_le_left Int.min_le_right
    (fun a b => (Int.le_total a b).elim (fun h => Or.inl (Int.min_eq_left h)) (fun h => Or.inr (Int.min_eq_right h))) xs x

theorem maxOf_eq_none {l : List Int} : maxOf l = none ↔ l = [] := by
  cases l <;> simp [maxOf]

theorem minOf_eq_none {l : List Int} : minOf l = none ↔ l = [] := by
  cases l <;> simp [minOf]

theorem maxOf_eq_some {l : List Int} {v : Int} :
    maxOf l = some v ↔ v ∈ l ∧ ∀ y ∈ l, y ≤ v := by
  cases l with
  | nil => simp [maxOf]
  | cons x xs =>
    obtain ⟨hm, hle⟩ := foldl_max_spec xs x
    simp only [maxOf, Option.some.injEq]
    constructor
    · rintro rfl; exact ⟨hm, hle⟩
    · rintro ⟨hv, hub⟩
      exact Int.le_antisymm (hub _ hm) (hle _ hv)

theorem minOf_eq_some {l : List Int} {v : Int} :
    minOf l = some v ↔ v ∈ l ∧ ∀ y ∈ l, v ≤ y := by
  cases l with
  | nil => simp [minOf]
  | cons x xs =>
    obtain ⟨hm, hle⟩ := foldl_min_spec xs x
    simp only [minOf, Option.some.injEq]
    constructor
    · rintro rfl; exact ⟨hm, hle⟩
    · rintro ⟨hv, hub⟩
      exact Int.le_antisymm (hle _ hv) (hub _ hm)

/-- `v` is the maximum of `obj` over the solutions satisfying `Feas`: attained, and an upper bound -/
def IsMaxOf {σ : Type} (Feas : σ → Prop) (obj : σ → Int) (v : Int) : Prop :=
  (∃ s, Feas s ∧ obj s = v) ∧ ∀ s, Feas s → obj s ≤ v

/-- `v` is the minimum of `obj` over the solutions satisfying `Feas`: attained, and a lower bound -/
def IsMinOf {σ : Type} (Feas : σ → Prop) (obj : σ → Int) (v : Int) : Prop :=
  (∃ s, Feas s ∧ obj s = v) ∧ ∀ s, Feas s → v ≤ obj s

theorem IsMaxOf.unique {σ : Type} {Feas : σ → Prop} {obj : σ → Int} {v w : Int}
    (hv : IsMaxOf Feas obj v) (hw : IsMaxOf Feas obj w) : v = w := by
  obtain ⟨⟨s, hs, rfl⟩, hub⟩ := hv
  obtain ⟨⟨t, ht, rfl⟩, hub'⟩ := hw
  exact Int.le_antisymm (hub' s hs) (hub t ht)

theorem IsMinOf.unique {σ : Type} {Feas : σ → Prop} {obj : σ → Int} {v w : Int}
    (hv : IsMinOf Feas obj v) (hw : IsMinOf Feas obj w) : v = w := by
  obtain ⟨⟨s, hs, rfl⟩, hub⟩ := hv
  obtain ⟨⟨t, ht, rfl⟩, hub'⟩ := hw
  exact Int.le_antisymm (hub t ht) (hub' s hs)

section
variable {σ : Type} {Feas : σ → Prop} {obj : σ → Int} {L : List Int}

/-- the engine of every adequacy proof: when the list `L` holds exactly the objective values of the feasible
    solutions, `maxOf L` is their maximum -/
theorem maxOf_isMaxOf (hL : ∀ x, x ∈ L ↔ ∃ s, Feas s ∧ obj s = x) (v : Int) :
    maxOf L = some v ↔ IsMaxOf Feas obj v := by
  rw [maxOf_eq_some, IsMaxOf, hL]
  exact and_congr_right fun _ =>
    ⟨fun h2 s hs => h2 _ ((hL _).mpr ⟨s, hs, rfl⟩), fun h2 y hy => by obtain ⟨s, hs, rfl⟩ := (hL y).mp hy; exact h2 s hs⟩

/-- the engine for specifications that enumerate only a DOMINANT subset of the solutions (e.g. only the schedules
    in which everything happens as early as possible): every listed value is the objective of a feasible
    solution, and every feasible solution is matched or beaten by a listed value -/
theorem minOf_isMinOf_of_dominant (hsound : ∀ x, x ∈ L → ∃ s, Feas s ∧ obj s = x)
    (hdom : ∀ s, Feas s → ∃ x, x ∈ L ∧ x ≤ obj s) (v : Int) :
    minOf L = some v ↔ IsMinOf Feas obj v := by
  rw [minOf_eq_some, IsMinOf]
  constructor
  · rintro ⟨h1, h2⟩
    refine ⟨hsound v h1, fun s hs => ?_⟩
    obtain ⟨x, hx, hle⟩ := hdom s hs
    exact Int.le_trans (h2 x hx) hle
  · rintro ⟨⟨s, hs, rfl⟩, h2⟩
    obtain ⟨x, hx, hle⟩ := hdom s hs
    obtain ⟨s', hs', rfl⟩ := hsound x hx
    refine ⟨Int.le_antisymm hle (h2 s' hs') ▸ hx, fun y hy => ?_⟩
    obtain ⟨s'', hs'', rfl⟩ := hsound y hy
    exact h2 s'' hs''

theorem dominant_of_exact (hL : ∀ x, x ∈ L ↔ ∃ s, Feas s ∧ obj s = x) :
    (∀ x, x ∈ L → ∃ s, Feas s ∧ obj s = x) ∧ ∀ s, Feas s → ∃ x, x ∈ L ∧ x ≤ obj s :=
  ⟨fun x => (hL x).mp, fun s hs => ⟨obj s, (hL _).mpr ⟨s, hs, rfl⟩, Int.le_refl _⟩⟩

theorem minOf_isMinOf (hL : ∀ x, x ∈ L ↔ ∃ s, Feas s ∧ obj s = x) (v : Int) :
    minOf L = some v ↔ IsMinOf Feas obj v :=
  minOf_isMinOf_of_dominant (dominant_of_exact hL).1 (dominant_of_exact hL).2 v

theorem nil_iff_infeasible (hsound : ∀ x, x ∈ L → ∃ s, Feas s ∧ obj s = x) (hne : ∀ s, Feas s → ∃ x, x ∈ L) :
    L = [] ↔ ¬ ∃ s, Feas s := by
  constructor
  · rintro rfl ⟨s, hs⟩
    obtain ⟨x, hx⟩ := hne s hs
    cases hx
  · intro h
    cases L with
    | nil => rfl
    | cons x xs =>
      obtain ⟨s, hs, _⟩ := hsound x List.mem_cons_self
      exact absurd ⟨s, hs⟩ h

theorem minOf_none_iff_of_dominant (hsound : ∀ x, x ∈ L → ∃ s, Feas s ∧ obj s = x)
    (hdom : ∀ s, Feas s → ∃ x, x ∈ L ∧ x ≤ obj s) : minOf L = none ↔ ¬ ∃ s, Feas s :=
  minOf_eq_none.trans (nil_iff_infeasible hsound fun s hs => (hdom s hs).imp fun _ h => h.1)

theorem maxOf_none_iff (hL : ∀ x, x ∈ L ↔ ∃ s, Feas s ∧ obj s = x) : maxOf L = none ↔ ¬ ∃ s, Feas s :=
  maxOf_eq_none.trans (nil_iff_infeasible (dominant_of_exact hL).1 fun s hs => ((dominant_of_exact hL).2 s hs).imp fun _ h => h.1)

theorem minOf_none_iff (hL : ∀ x, x ∈ L ↔ ∃ s, Feas s ∧ obj s = x) : minOf L = none ↔ ¬ ∃ s, Feas s :=
  minOf_none_iff_of_dominant (dominant_of_exact hL).1 (dominant_of_exact hL).2

/-- a specification that prints `dflt` when there is no solution: `o` is the optional optimum, `P v` says that `v` is
    the optimum (`P` holds of at most one value, and of none when nothing is feasible, `E`) -/
theorem getD_iff_of {o : Option Int} {P : Int → Prop} {E : Prop} (hn : o = none ↔ ¬ E) (hs : ∀ w, o = some w ↔ P w)
    (hu : ∀ v w, P v → P w → v = w) (he : ∀ v, P v → E) (dflt v : Int) :
    o.getD dflt = v ↔ P v ∨ (¬ E ∧ v = dflt) := by
  cases h : o with
  | none =>
    have hno := hn.mp h
    exact ⟨fun e => Or.inr ⟨hno, e.symm⟩, fun e => e.elim (fun hv => absurd (he v hv) hno) (fun e => e.2.symm)⟩
  | some w =>
    have hw := (hs w).mp h
    exact ⟨fun e => Or.inl (e ▸ hw), fun e => e.elim (hu w v hw) (fun e => absurd (he w hw) e.1)⟩

theorem minOf_getD_iff_of_dominant (hsound : ∀ x, x ∈ L → ∃ s, Feas s ∧ obj s = x)
    (hdom : ∀ s, Feas s → ∃ x, x ∈ L ∧ x ≤ obj s) (dflt v : Int) :
    (minOf L).getD dflt = v ↔ IsMinOf Feas obj v ∨ ((¬ ∃ s, Feas s) ∧ v = dflt) :=
  getD_iff_of (minOf_none_iff_of_dominant hsound hdom) (minOf_isMinOf_of_dominant hsound hdom) (fun _ _ => IsMinOf.unique)
    (fun _ h => h.1.imp fun _ h => h.1) dflt v

theorem minOf_getD_iff (hL : ∀ x, x ∈ L ↔ ∃ s, Feas s ∧ obj s = x) (dflt v : Int) :
    (minOf L).getD dflt = v ↔ IsMinOf Feas obj v ∨ ((¬ ∃ s, Feas s) ∧ v = dflt) :=
  minOf_getD_iff_of_dominant (dominant_of_exact hL).1 (dominant_of_exact hL).2 dflt v

theorem maxOf_getD_iff (hL : ∀ x, x ∈ L ↔ ∃ s, Feas s ∧ obj s = x) (dflt v : Int) :
    (maxOf L).getD dflt = v ↔ IsMaxOf Feas obj v ∨ ((¬ ∃ s, Feas s) ∧ v = dflt) :=
  getD_iff_of (maxOf_none_iff hL) (maxOf_isMaxOf hL) (fun _ _ => IsMaxOf.unique) (fun _ h => h.1.imp fun _ h => h.1) dflt v

end

theorem foldl_add (xs : List Int) (a : Int) : xs.foldl (· + ·) a = a + xs.sum := by
  induction xs generalizing a with
  | nil => simp
  | cons x xs ih => simp only [List.foldl_cons, ih, List.sum_cons]; omega

theorem sum_eq (xs : List Int) : sum xs = xs.sum := by
  simp [sum, foldl_add]

@[simp] theorem sum_nil : sum [] = 0 := rfl
theorem sum_cons (x : Int) (xs : List Int) : sum (x :: xs) = x + sum xs := by
  simp [sum_eq]

theorem sum_map_filter {α : Type} (p : α → Bool) (g : α → Int) (l : List α) :
    ((l.filter p).map g).sum = (l.map fun x => if p x then g x else 0).sum := by
  induction l with
  | nil => rfl
  | cons x xs ih =>
    by_cases h : p x <;> simp [h, ih]

theorem foldl_add_map {α : Type} (f : α → Int) (L : List α) (a : Int) :
    L.foldl (fun acc l => acc + f l) a = a + (L.map f).sum := by
  induction L generalizing a with
  | nil => simp
  | cons x xs ih => simp only [List.foldl_cons, ih, List.map_cons, List.sum_cons]; omega

theorem sum_map_add {α : Type} (f g : α → Int) (L : List α) :
    (L.map (fun l => f l + g l)).sum = (L.map f).sum + (L.map g).sum := by
  induction L with
  | nil => simp
  | cons x xs ih => simp only [List.map_cons, List.sum_cons, ih]; omega

theorem sum_map_const {α : Type} (L : List α) (C : Int) : (L.map (fun _ => C)).sum = (L.length : Int) * C := by
  induction L with
  | nil => simp
  | cons x xs ih => rw [List.map_cons, List.sum_cons, ih, List.length_cons, Int.natCast_add, Int.add_mul]; omega

theorem sum_map_zero {α : Type} (L : List α) : (L.map (fun _ => (0 : Int))).sum = 0 := by
  rw [sum_map_const, Int.mul_zero]

theorem sum_sublist_le {α : Type} {f g : α → Int} {T s : List α} (h : T.Sublist s) (hfg : ∀ v ∈ T, f v ≤ g v)
    (hg : ∀ v ∈ s, 0 ≤ g v) : (T.map f).sum ≤ (s.map g).sum := by
  induction h with
  | slnil => exact Int.le_refl 0
  | cons a _ ih =>
    have := hg a List.mem_cons_self
    have := ih hfg (fun v hv => hg v (List.mem_cons_of_mem _ hv))
    simp only [List.map_cons, List.sum_cons]; omega
  | cons_cons a _ ih =>
    have := hfg a List.mem_cons_self
    have := ih (fun v hv => hfg v (List.mem_cons_of_mem _ hv)) (fun v hv => hg v (List.mem_cons_of_mem _ hv))
    simp only [List.map_cons, List.sum_cons]; omega

theorem sum_map_le {α : Type} (f g : α → Int) (L : List α) (h : ∀ l ∈ L, f l ≤ g l) :
    (L.map f).sum ≤ (L.map g).sum := by
  induction L with
  | nil => simp
  | cons x xs ih =>
    simp only [List.map_cons, List.sum_cons]
    have h1 := h x (List.mem_cons_self ..)
    have h2 := ih (fun l hl => h l (List.mem_cons_of_mem _ hl))
    omega

theorem sum_map_congr {α : Type} {q : List α} {a b : α → Int} (h : ∀ j ∈ q, a j = b j) : (q.map a).sum = (q.map b).sum := by
  rw [List.map_congr_left h]

theorem sum_flatMap {α : Type} (l : List α) (f : α → List Int) : (l.flatMap f).sum = (l.map fun x => (f x).sum).sum := by
  induction l with
  | nil => rfl
  | cons x l ih => simp [List.flatMap_cons, List.sum_append, ih]

theorem sum_filter_partition {α : Type} (p : α → Bool) (g : α → Int) : ∀ A : List α,
    (A.map g).sum = ((A.filter p).map g).sum + ((A.filter (fun i => !p i)).map g).sum := by
  intro A
  induction A with
  | nil => rfl
  | cons a A ih =>
    simp only [List.filter_cons]
    cases h : p a <;> simp [ih] <;> omega

theorem sum_map_between {α : Type} (f : α → Int) (L : List α) {A B : Int} (h : ∀ l ∈ L, A ≤ f l ∧ f l ≤ B) :
    (L.length : Int) * A ≤ (L.map f).sum ∧ (L.map f).sum ≤ (L.length : Int) * B :=
  ⟨sum_map_const L A ▸ sum_map_le _ f L fun l hl => (h l hl).1, sum_map_const L B ▸ sum_map_le f _ L fun l hl => (h l hl).2⟩

theorem sum_within {α : Type} (f : α → Int) (L : List α) (C : Int) (h : ∀ l ∈ L, -C ≤ f l ∧ f l ≤ C) :
    -((L.length : Int) * C) ≤ (L.map f).sum ∧ (L.map f).sum ≤ (L.length : Int) * C :=
  Int.mul_neg _ _ ▸ sum_map_between f L h

theorem IsMaxOf.transfer {σ τ : Type} {F : σ → Prop} {G : τ → Prop} {f : σ → Int} {g : τ → Int}
    (h1 : ∀ s, F s → ∃ t, G t ∧ g t = f s) (h2 : ∀ t, G t → ∃ s, F s ∧ f s = g t) (v : Int) :
    IsMaxOf F f v ↔ IsMaxOf G g v := by
  constructor
  · rintro ⟨⟨s, hs, rfl⟩, hub⟩
    obtain ⟨t, ht, e⟩ := h1 s hs
    refine ⟨⟨t, ht, e⟩, fun t' ht' => ?_⟩
    obtain ⟨s', hs', e'⟩ := h2 t' ht'
    exact e' ▸ e ▸ hub s' hs'
  · rintro ⟨⟨t, ht, rfl⟩, hub⟩
    obtain ⟨s, hs, e⟩ := h2 t ht
    refine ⟨⟨s, hs, e⟩, fun s' hs' => ?_⟩
    obtain ⟨t', ht', e'⟩ := h1 s' hs'
    exact e' ▸ e ▸ hub t' ht'

/-- the elements of `l` whose INDEX is selected by `sel` -/
def pickIdx {α : Type} (sel : Nat → Bool) (l : List α) : List α :=
  (l.zipIdx.filter fun p => sel p.2).map (·.1)

theorem pickIdx_sublist {α : Type} (sel : Nat → Bool) (l : List α) : (pickIdx sel l).Sublist l := by
  have := (List.filter_sublist (p := fun p : α × Nat => sel p.2) (l := l.zipIdx)).map (·.1)
  rwa [List.zipIdx_map_fst] at this

theorem exists_pickIdx_of_sublist {α : Type} {s l : List α} (h : s.Sublist l) :
    ∃ sel : Nat → Bool, pickIdx sel l = s := by
  rw [← List.zipIdx_map_fst 0 l] at h
  obtain ⟨s', hs', rfl⟩ := List.sublist_map_iff.mp h
  refine ⟨fun i => (s'.map (·.2)).contains i, ?_⟩
  have hnd : (l.zipIdx.map (·.2)).Nodup := by
    rw [List.zipIdx_map_snd]; exact List.nodup_range' 1
  rw [pickIdx, ← sublist_eq_filter (·.2) hs' hnd]

theorem sum_map_pickIdx {α : Type} (sel : Nat → Bool) (g : α → Int) (l : List α) :
    ((pickIdx sel l).map g).sum = (l.zipIdx.map fun p => if sel p.2 then g p.1 else 0).sum := by
  rw [pickIdx, List.map_map, sum_map_filter]
  rfl

theorem natSum_map_filter {α : Type} (p : α → Bool) (g : α → Nat) (l : List α) :
    ((l.filter p).map g).sum = (l.map fun x => if p x then g x else 0).sum := by
  induction l with
  | nil => rfl
  | cons x xs ih => by_cases h : p x <;> simp [h, ih]

theorem natSum_map_pickIdx {α : Type} (sel : Nat → Bool) (g : α → Nat) (l : List α) :
    ((pickIdx sel l).map g).sum = (l.zipIdx.map fun p => if sel p.2 then g p.1 else 0).sum := by
  rw [pickIdx, List.map_map, natSum_map_filter]
  rfl

/-- `Σ_{i < n} f i` -/
def sumRange (n : Nat) (f : Nat → Int) : Int := ((List.range n).map f).sum

@[simp] theorem sumRange_zero (f : Nat → Int) : sumRange 0 f = 0 := rfl

theorem sumRange_succ' (n : Nat) (f : Nat → Int) :
    sumRange (n + 1) f = f 0 + sumRange n (fun i => f (i + 1)) := by
  simp only [sumRange, List.range_succ_eq_map, List.map_cons, List.sum_cons, List.map_map]
  rfl

theorem sumRange_succ (n : Nat) (f : Nat → Int) : sumRange (n + 1) f = sumRange n f + f n := by
  simp [sumRange, List.range_succ, List.sum_append]

theorem sumRange_add (n : Nat) (f g : Nat → Int) :
    sumRange n (fun i => f i + g i) = sumRange n f + sumRange n g := by
  induction n with
  | zero => rfl
  | succ n ih => simp only [sumRange_succ, ih]; omega

theorem sumRange_congr {n : Nat} {f g : Nat → Int} (h : ∀ i, i < n → f i = g i) :
    sumRange n f = sumRange n g := by
  induction n with
  | zero => rfl
  | succ n ih =>
    rw [sumRange_succ, sumRange_succ, ih (fun i hi => h i (by omega)), h n (by omega)]

theorem sum_map_eq_sumRange {α : Type} (l : List α) (g : α → Int) (d : α) :
    (l.map g).sum = sumRange l.length (fun i => g (l.getD i d)) := by
  induction l with
  | nil => rfl
  | cons x xs ih => rw [List.length_cons, sumRange_succ']; simp [ih]

theorem perm_sum_eq {l₁ l₂ : List Int} (h : l₁.Perm l₂) : l₁.sum = l₂.sum := by
  induction h with
  | nil => rfl
  | cons x _ ih => simp [ih]
  | swap x y l => simp only [List.sum_cons]; omega
  | trans _ _ ih1 ih2 => exact ih1.trans ih2

theorem perm_range_sum {n : Nat} {l : List Nat} (h : l.Perm (List.range n)) (f : Nat → Int) :
    (l.map f).sum = sumRange n f :=
  perm_sum_eq (h.map f)

theorem exists_map_eq {β : Type} {o : List Nat} (hnd : o.Nodup) (rs : List β) (hlen : rs.length = o.length)
    (d : β) : ∃ f : Nat → β, o.map f = rs := by
  induction o generalizing rs with
  | nil => exact ⟨fun _ => d, by simp at hlen; simp [hlen]⟩
  | cons a o' ih =>
    cases rs with
    | nil => simp at hlen
    | cons w rs' =>
      obtain ⟨ha, ho'⟩ := List.nodup_cons.mp hnd
      obtain ⟨f', hf'⟩ := ih ho' rs' (by simpa using hlen)
      refine ⟨fun x => if x = a then w else f' x, ?_⟩
      simp only [List.map_cons, if_true, List.cons.injEq, true_and]
      rw [← hf']
      apply List.map_congr_left
      intro x hx
      have : x ≠ a := fun e => ha (e ▸ hx)
      simp [this]

theorem zip_map_self {α β : Type} (l : List α) (f : α → β) : l.zip (l.map f) = l.map fun a => (a, f a) := by
  induction l with
  | nil => rfl
  | cons x xs ih => simp [ih]

theorem mem_oneTo {n : Nat} {x : Int} : x ∈ oneTo n ↔ 1 ≤ x ∧ x ≤ n := by
  simp only [oneTo, List.mem_map, List.mem_range]
  constructor
  · rintro ⟨i, hi, rfl⟩; simp only [Int.ofNat_eq_natCast]; omega
  · rintro ⟨h1, h2⟩
    exact ⟨(x - 1).toNat, by omega, by simp only [Int.ofNat_eq_natCast]; omega⟩

theorem nodup_oneTo (n : Nat) : (oneTo n).Nodup := by
  unfold oneTo
  rw [List.nodup_iff_pairwise_ne, List.pairwise_map]
  refine List.Pairwise.imp ?_ (List.nodup_iff_pairwise_ne.mp List.nodup_range)
  intro a b h h'
  simp only [Int.ofNat_eq_natCast] at h'
  omega

theorem length_oneTo (n : Nat) : (oneTo n).length = n := by simp [oneTo]

/-- a Boolean-valued set `S ⊆ {1 … n}` and the sub-lists of `oneTo n` are the same thing:
    `(oneTo n).filter S` is the sub-list whose members are the members of `S` -/
theorem contains_filter_oneTo {n : Nat} {S : Int → Bool} (hS : ∀ x, S x = true → 1 ≤ x ∧ x ≤ n) (x : Int) :
    ((oneTo n).filter S).contains x = S x := by
  rw [Bool.eq_iff_iff]
  simp only [List.contains_iff_mem, List.mem_filter, mem_oneTo]
  constructor
  · exact fun h => h.2
  · exact fun h => ⟨hS x h, h⟩

theorem contains_of_sublist_oneTo {n : Nat} {s : List Int} (hs : s.Sublist (oneTo n)) (x : Int)
    (hx : s.contains x = true) : 1 ≤ x ∧ x ≤ n := by
  simp only [List.contains_iff_mem] at hx
  exact mem_oneTo.mp (hs.subset hx)

/-! `[a, b].Sublist l` reads "`a` comes before `b` in `l`" (in a duplicate-free list) -/

theorem before_or_after {α : Type} {l : List α} {a b : α} (ha : a ∈ l) (hb : b ∈ l) (hab : a ≠ b) :
    [a, b].Sublist l ∨ [b, a].Sublist l := by
  induction l with
  | nil => cases ha
  | cons x xs ih =>
    rcases List.mem_cons.mp ha with rfl | ha'
    · rcases List.mem_cons.mp hb with rfl | hb'
      · exact absurd rfl hab
      · exact Or.inl (List.cons_sublist_cons.mpr (List.singleton_sublist.mpr hb'))
    · rcases List.mem_cons.mp hb with rfl | hb'
      · exact Or.inr (List.cons_sublist_cons.mpr (List.singleton_sublist.mpr ha'))
      · exact (ih ha' hb').imp (fun h => h.cons _) (fun h => h.cons _)

theorem not_before_and_after {α : Type} {l : List α} (hl : l.Nodup) {a b : α}
    (h1 : [a, b].Sublist l) (h2 : [b, a].Sublist l) : False := by
  induction l with
  | nil => cases h1
  | cons x xs ih =>
    obtain ⟨hx, hxs⟩ := List.nodup_cons.mp hl
    rcases List.sublist_cons_iff.mp h1 with h1' | ⟨r, hr, h1'⟩
    · rcases List.sublist_cons_iff.mp h2 with h2' | ⟨r', hr', h2'⟩
      · exact ih hxs h1' h2'
      · simp only [List.cons.injEq] at hr'
        have hb : b ∈ xs := h1'.subset (List.mem_cons_of_mem _ List.mem_cons_self)
        exact hx (hr'.1 ▸ hb)
    · simp only [List.cons.injEq] at hr
      rcases List.sublist_cons_iff.mp h2 with h2' | ⟨r', hr', h2'⟩
      · have ha : a ∈ xs := h2'.subset (List.mem_cons_of_mem _ List.mem_cons_self)
        exact hx (hr.1 ▸ ha)
      · simp only [List.cons.injEq] at hr'
        have hb : b ∈ xs := h1'.subset (hr.2 ▸ List.mem_cons_self)
        exact hx (hr'.1 ▸ hb)

/-! Permutations by insertion.  `Sop`, `Srflp`, `Talentsched`, `Tsptw` and `Alp` each declare the same two functions `inserts` /
`perms` (on `List Nat`); the facts are proved once for the polymorphic version and transferred by `inserts_perms_unique`
(`Examples/TourBase.lean`). -/

/-- all ways to insert `x` into a list -/
def inserts {α : Type} (x : α) : List α → List (List α)
  | [] => [[x]]
  | y :: ys => (x :: y :: ys) :: (inserts x ys).map (y :: ·)

/-- all permutations of a list -/
def perms {α : Type} : List α → List (List α)
  | [] => [[]]
  | x :: xs => (perms xs).flatMap (inserts x)

theorem mem_inserts {α : Type} {x : α} {l t : List α} :
    t ∈ inserts x l ↔ ∃ a b, l = a ++ b ∧ t = a ++ x :: b := by
  induction l generalizing t with
  | nil =>
    simp only [inserts, List.mem_singleton]
    constructor
    · rintro rfl; exact ⟨[], [], rfl, rfl⟩
    · rintro ⟨a, b, h, rfl⟩
      have h' := h.symm
      simp only [List.append_eq_nil_iff] at h'
      obtain ⟨rfl, rfl⟩ := h'; rfl
  | cons y ys ih =>
    simp only [inserts, List.mem_cons, List.mem_map, ih]
    constructor
    · rintro (rfl | ⟨t', ⟨a, b, rfl, rfl⟩, rfl⟩)
      · exact ⟨[], y :: ys, rfl, rfl⟩
      · exact ⟨y :: a, b, rfl, rfl⟩
    · rintro ⟨a, b, h, rfl⟩
      cases a with
      | nil => left; simp at h; subst h; rfl
      | cons a0 a' =>
        simp only [List.cons_append, List.cons.injEq] at h
        obtain ⟨rfl, rfl⟩ := h
        right; exact ⟨a' ++ x :: b, ⟨a', b, rfl, rfl⟩, rfl⟩

theorem mem_perms {α : Type} {l t : List α} : t ∈ perms l ↔ t.Perm l := by
  induction l generalizing t with
  | nil => simp [perms]
  | cons x xs ih =>
    simp only [perms, List.mem_flatMap, mem_inserts]
    constructor
    · rintro ⟨p, hp, a, b, rfl, rfl⟩
      exact (List.perm_middle).trans ((ih.mp hp).cons x)
    · intro h
      have hx : x ∈ t := h.symm.subset (List.mem_cons_self)
      obtain ⟨a, b, rfl⟩ := List.append_of_mem hx
      refine ⟨a ++ b, ih.mpr ?_, a, b, rfl, rfl⟩
      exact (List.perm_cons x).mp ((List.perm_middle).symm.trans h)

theorem inserts_perms_unique {ins : Nat → List Nat → List (List Nat)} {prm : List Nat → List (List Nat)}
    (i0 : ∀ x, ins x [] = [[x]]) (i1 : ∀ x y ys, ins x (y :: ys) = (x :: y :: ys) :: (ins x ys).map (y :: ·))
    (p0 : prm [] = [[]]) (p1 : ∀ x xs, prm (x :: xs) = (prm xs).flatMap (ins x)) :
    (∀ x l, ins x l = inserts x l) ∧ ∀ l, prm l = perms l := by
  have hi : ∀ x l, ins x l = inserts x l := by
    intro x l
    induction l with
    | nil => exact i0 x
    | cons y ys ih => rw [i1, ih, inserts]
  refine ⟨hi, fun l => ?_⟩
  induction l with
  | nil => exact p0
  | cons x xs ih => rw [p1, ih, perms, funext (hi x)]

/-- a specification that takes the least objective over ALL orders of `0 … n-1` (its own enumerator `prm`, its own
    objective `f`): every order is a solution, so the default is never returned -/
theorem perms_spec {prm : List Nat → List (List Nat)} (hp : ∀ l, prm l = perms l) {f obj : List Nat → Int}
    (hf : ∀ o, f o = obj o) (n : Nat) (dflt v : Int) :
    (minOf ((prm (List.range n)).map f)).getD dflt = v ↔ IsMinOf (fun o : List Nat => o.Perm (List.range n)) obj v :=
  (minOf_getD_iff (by simp only [List.mem_map, hp, mem_perms, hf, implies_true]) dflt v).trans
    (or_iff_left fun h => h.1 ⟨List.range n, List.Perm.refl _⟩)

theorem pairwise_lt_nodup {l : List Nat} (h : l.Pairwise (· < ·)) : l.Nodup :=
  h.imp (fun hab => Nat.ne_of_lt hab)

theorem sorted_ext {l₁ l₂ : List Nat} (h1 : l₁.Pairwise (· < ·)) (h2 : l₂.Pairwise (· < ·)) (h : ∀ a, a ∈ l₁ ↔ a ∈ l₂) :
    l₁ = l₂ :=
  List.Perm.eq_of_pairwise (le := (· < ·)) (fun _ _ _ _ hab hba => absurd hab (Nat.lt_asymm hba)) h1 h2
    ((List.perm_ext_iff_of_nodup (pairwise_lt_nodup h1) (pairwise_lt_nodup h2)).mpr h)

theorem flatMap_if {α β : Type} (q : α → Bool) (G : α → List β) (l : List α) :
    l.flatMap (fun i => if q i then G i else []) = (l.filter q).flatMap G := by
  induction l with
  | nil => rfl
  | cons a l ih =>
    simp only [List.flatMap_cons, List.filter_cons]
    cases hq : q a <;> simp [ih]

theorem filter_or_perm {α : Type} (p q : α → Bool) (h : ∀ x, p x = true → q x = false) (l : List α) :
    (l.filter (fun x => p x || q x)).Perm (l.filter p ++ l.filter q) := by
  induction l with
  | nil => simp
  | cons a l ih =>
    cases hp : p a with
    | true =>
      simp only [List.filter_cons, hp, h a hp, Bool.true_or, if_true, Bool.false_eq_true, if_false, List.cons_append]
      exact ih.cons _
    | false =>
      cases hq : q a with
      | true =>
        simp only [List.filter_cons, hp, hq, Bool.false_or, if_true, Bool.false_eq_true, if_false]
        exact (ih.cons _).trans List.perm_middle.symm
      | false =>
        simp only [List.filter_cons, hp, hq, Bool.false_or, Bool.false_eq_true, if_false]
        exact ih

theorem getD_nonneg {l : List Int} (h : ∀ x ∈ l, 0 ≤ x) (i : Nat) : 0 ≤ l.getD i 0 := by
  rw [List.getD_eq_getElem?_getD]
  cases hi : l[i]? with
  | none => exact Int.le_refl 0
  | some c => exact h c (List.mem_of_getElem? hi)

theorem find?_range_eq_some (p : Nat → Bool) (N L : Nat) :
    (List.range N).find? p = some L ↔ L < N ∧ p L = true ∧ ∀ j, j < L → p j = false := by
  simp only [List.find?_range_eq_some, List.mem_range, Bool.not_eq_true']
  exact ⟨fun ⟨a, b, c⟩ => ⟨b, a, c⟩, fun ⟨a, b, c⟩ => ⟨b, a, c⟩⟩

theorem le_head_of_dec {l : List Nat} (hl : l.Pairwise (· > ·)) {m : Nat} (hm : m ∈ l) :
    m ≤ l.head?.getD 0 := by
  cases l with
  | nil => cases hm
  | cons x rest =>
    rcases List.mem_cons.mp hm with rfl | h
    · simp
    · have := (List.pairwise_cons.mp hl).1 m h
      simp only [List.head?_cons, Option.getD_some]; omega

theorem dropWhile_isEmpty {α : Type} (q : α → Bool) (l : List α) : (l.dropWhile q).isEmpty = l.all q := by
  induction l with
  | nil => rfl
  | cons x xs ih =>
    rw [List.dropWhile_cons]
    by_cases h : q x <;> simp [h, ih]

theorem all_not_eq {α : Type} (p : α → Bool) (l : List α) : (l.all fun s => !p s) = !l.any p := by
  induction l with
  | nil => rfl
  | cons x xs ih => simp [ih]

end Ddo.SpecUtil

namespace Ddo.C16
open Ddo.Examples Ddo.Examples.Util Ddo.SpecUtil

theorem mem_filterMap_ite {α : Type} {L : List α} {p : α → Bool} {f : α → Int} {x : Int} :
    x ∈ L.filterMap (fun s => if p s = true then some (f s) else none) ↔ ∃ s ∈ L, p s = true ∧ f s = x := by
  simp only [List.mem_filterMap]
  refine exists_congr fun s => and_congr_right fun _ => ?_
  by_cases h : p s = true <;> simp [h]

end Ddo.C16
