import DdoModel.SeqSolver
/-! The coverage invariant `Inv` of the sequential branch-and-bound, the diagram contracts of DESIGN.md §5.3
    (`CompileOk`, `CutsetOk`), and what `maybe_update_best`, `enqueue_cutset` and `process_one_node` (case by case) do
    to the solver state.  That `process_one_node` preserves `Inv` is `Ddo.C01.process_inv` (`Props/C01.lean`); its coverage clause alone,
    for an arbitrary family `On` in place of `Phi · = some opt`, is `Ddo.C10.BBInv` / `process_dinv_false` at the end of this file.

Setting (abstract, so that it applies to any well-formed model): `Phi c : EInt` is the value of the
best completion of sub-problem `c` (`none` = no completion; for a model with potential `H` it is
`c.value + H c.depth c.state`), `opt` the optimum of the whole problem, `Sol p w` = "`p` is a
genuinely feasible solution of value `w`". -/
set_option linter.unusedSectionVars false
namespace Ddo
variable {S : Type} [DecidableEq S]

section
variable (Phi : SubP S → EInt) (opt : Int) (Sol : List Dec → Int → Prop)

/-- an open sub-problem is *good*: whatever it can be completed to is a feasible value, hence `≤ opt` -/
def Good (c : SubP S) : Prop := ∀ x, Phi c = some x → x ≤ opt

def UbOk (lb : Int) (c : SubP S) : Prop := ∀ x, Phi c = some x → x > lb → x ≤ c.ub

/-- contract of a compilation of `N` run with incumbent `lb` (restricted or relaxed):
    a reported exact value is that of the reported feasible solution (so it is `≤ opt`) and belongs to
    a completion of `N`; a diagram that claims exactness finds the optimum of `N` when it beats `lb`. -/
structure CompileOk (N : SubP S) (lb : Int) (o : DDOut S) : Prop where
  sound : ∀ w, o.bestExact = some w → ∃ p, o.bestExactSol = some p ∧ Sol p w ∧ w ≤ opt
  within : ∀ w, o.bestExact = some w → ∃ x, Phi N = some x ∧ w ≤ x
  exact : o.isExact = true → ∀ x, Phi N = some x → x > lb → o.bestExact = some x

/-- contract of the cut-set of a relaxed diagram of `N` that is not exact (C08 (i), (iii), (iv)) -/
structure CutsetOk (N : SubP S) (lb : Int) (o : DDOut S) : Prop where
  good : ∀ c ∈ o.cutset, Good Phi opt c
  ub : ∀ c ∈ o.cutset, UbOk Phi lb c
  cover : ∀ x, Phi N = some x → x > lb → (∀ w, o.bestExact = some w → w < x) →
      ∃ c ∈ o.cutset, ∃ y, Phi c = some y ∧ x ≤ y
  sub : ∀ c ∈ o.cutset, ∀ y, Phi c = some y → ∃ x, Phi N = some x ∧ y ≤ x

/-- the invariant: `open_` is the set of open sub-problems (the fringe, plus the node in hand) -/
structure Inv (open_ : List (SubP S)) (lb : Int) (sol : Option (List Dec)) : Prop where
  good : ∀ c ∈ open_, Good Phi opt c
  ubOk : ∀ c ∈ open_, UbOk Phi lb c
  lbOk : lb ≤ opt
  solOk : ∀ p, sol = some p → Sol p lb
  cover : opt > lb → ∃ c ∈ open_, Phi c = some opt ∧ opt ≤ c.ub

theorem ubOk_mono {lb lb' : Int} (h : lb ≤ lb') {c : SubP S} (hc : UbOk Phi lb c) : UbOk Phi lb' c :=
  fun x hx hgt => hc x hx (Int.lt_of_le_of_lt h hgt)

theorem updateBest_cases (st : SeqSt S) (o : DDOut S) :
    ((∀ w, o.bestExact = some w → w ≤ st.bestLb) ∧ st.updateBest o = st) ∨
    ∃ w, o.bestExact = some w ∧ w > st.bestLb ∧ st.updateBest o = { st with bestLb := w, bestSol := o.bestExactSol } := by
  unfold SeqSt.updateBest
  cases o.bestExact with
  | none => exact Or.inl ⟨fun _ h => (nomatch h), rfl⟩
  | some w =>
    by_cases h : w > st.bestLb
    · exact Or.inr ⟨w, rfl, h, if_pos h⟩
    · exact Or.inl ⟨fun _ e => by cases e; exact Int.not_lt.mp h, if_neg h⟩

theorem updateBest_lb_ge (st : SeqSt S) (o : DDOut S) : st.bestLb ≤ (st.updateBest o).bestLb := by
  rcases updateBest_cases st o with ⟨_, e⟩ | ⟨w, _, h, e⟩ <;> rw [e]
  · exact Int.le_refl _
  · exact Int.le_of_lt h

theorem updateBest_lb_ge_val (st : SeqSt S) (o : DDOut S) (w : Int) (h : o.bestExact = some w) :
    w ≤ (st.updateBest o).bestLb := by
  rcases updateBest_cases st o with ⟨h', e⟩ | ⟨w', hw', _, e⟩ <;> rw [e]
  · exact h' w h
  · cases h.symm.trans hw'; exact Int.le_refl _

theorem updateBest_fringe (st : SeqSt S) (o : DDOut S) :
    (st.updateBest o).fringe = st.fringe ∧ (st.updateBest o).bestUb = st.bestUb ∧
    (st.updateBest o).abort = st.abort ∧ (st.updateBest o).openByLayer = st.openByLayer ∧
    (st.updateBest o).explored = st.explored := by
  rcases updateBest_cases st o with ⟨_, e⟩ | ⟨_, _, _, e⟩ <;> rw [e] <;> exact ⟨rfl, rfl, rfl, rfl, rfl⟩

theorem updateBest_sound (opt : Int) (Sol : List Dec → Int → Prop) (st : SeqSt S) (o : DDOut S)
    (hlb : st.bestLb ≤ opt) (hsol : ∀ p, st.bestSol = some p → Sol p st.bestLb)
    (hs : ∀ w, o.bestExact = some w → ∃ p, o.bestExactSol = some p ∧ Sol p w ∧ w ≤ opt) :
    (st.updateBest o).bestLb ≤ opt ∧ ∀ p, (st.updateBest o).bestSol = some p → Sol p (st.updateBest o).bestLb := by
  rcases updateBest_cases st o with ⟨_, e⟩ | ⟨w, hb, _, e⟩ <;> rw [e]
  · exact ⟨hlb, hsol⟩
  · obtain ⟨p, hp, hS, hw⟩ := hs w hb
    exact ⟨hw, fun p' hp' => by cases hp.symm.trans hp'; exact hS⟩

theorem updateBest_ok (st : SeqSt S) (N : SubP S) (lb0 : Int) (o : DDOut S)
    (hlb : st.bestLb ≤ opt) (hsol : ∀ p, st.bestSol = some p → Sol p st.bestLb)
    (hc : CompileOk Phi opt Sol N lb0 o) :
    (st.updateBest o).bestLb ≤ opt ∧ ∀ p, (st.updateBest o).bestSol = some p → Sol p (st.updateBest o).bestLb :=
  updateBest_sound opt Sol st o hlb hsol hc.sound

/-- one iteration of the `drain_cutset` closure -/
def enqOne (dedup : Bool) (st : SeqSt S) (c : SubP S) : SeqSt S :=
  if c.ub > st.bestLb then
    let fr := pushSpec dedup st.fringe c
    let delta := fr.length - st.fringe.length
    match bumpLayer st.openByLayer c.depth delta with
    | some l => { st with fringe := fr, openByLayer := l }
    | none => { st with fringe := fr, crashed := true }
  else st

theorem enqueue_eq_foldl (dedup : Bool) (st : SeqSt S) (cs : List (SubP S)) :
    st.enqueue dedup cs = cs.foldl (enqOne dedup) st := rfl

theorem enqueue_cons (dedup : Bool) (st : SeqSt S) (c : SubP S) (cs : List (SubP S)) :
    st.enqueue dedup (c :: cs) = (enqOne dedup st c).enqueue dedup cs := rfl

theorem enqOne_spec (dedup : Bool) (st : SeqSt S) (c : SubP S) :
    (enqOne dedup st c).bestLb = st.bestLb ∧ (enqOne dedup st c).bestSol = st.bestSol ∧
    (enqOne dedup st c).bestUb = st.bestUb ∧ (enqOne dedup st c).abort = st.abort ∧
    (enqOne dedup st c).fringe = if c.ub > st.bestLb then pushSpec dedup st.fringe c else st.fringe := by
  unfold enqOne
  split
  · simp only; split <;> exact ⟨rfl, rfl, rfl, rfl, rfl⟩
  · exact ⟨rfl, rfl, rfl, rfl, rfl⟩

theorem enqueue_fields (dedup : Bool) (st : SeqSt S) (cs : List (SubP S)) :
    (st.enqueue dedup cs).bestLb = st.bestLb ∧ (st.enqueue dedup cs).bestSol = st.bestSol ∧
    (st.enqueue dedup cs).bestUb = st.bestUb ∧ (st.enqueue dedup cs).abort = st.abort := by
  induction cs generalizing st with
  | nil => exact ⟨rfl, rfl, rfl, rfl⟩
  | cons c cs ih =>
    obtain ⟨h1, h2, h3, h4, _⟩ := enqOne_spec dedup st c
    obtain ⟨i1, i2, i3, i4⟩ := ih (enqOne dedup st c)
    exact ⟨i1.trans h1, i2.trans h2, i3.trans h3, i4.trans h4⟩

theorem enqueue_false_spec (st : SeqSt S) (cs : List (SubP S)) :
    (st.enqueue false cs).bestLb = st.bestLb ∧ (st.enqueue false cs).bestSol = st.bestSol ∧
    (st.enqueue false cs).bestUb = st.bestUb ∧ (st.enqueue false cs).abort = st.abort ∧
    ∀ c, c ∈ (st.enqueue false cs).fringe ↔
      (c ∈ st.fringe ∨ ∃ c0 ∈ cs, c = c0 ∧ c0.ub > st.bestLb) := by
  have hf := enqueue_fields false st cs
  refine ⟨hf.1, hf.2.1, hf.2.2.1, hf.2.2.2, ?_⟩
  clear hf
  induction cs generalizing st with
  | nil => intro c; exact ⟨Or.inl, fun h => h.elim id (fun ⟨_, h, _⟩ => (nomatch h))⟩
  | cons c0 cs ih =>
    intro c
    obtain ⟨h1, _, _, _, h5⟩ := enqOne_spec false st c0
    rw [enqueue_cons, ih, h1, h5]
    by_cases hgt : c0.ub > st.bestLb <;> simp [hgt, pushSpec, or_left_comm, or_assoc]

/-- **the repaired enqueue is the pre-fix enqueue with a cap that dominates the cut-set** -/
theorem enqueue_eq_capped (dedup : Bool) (U : Int) (cs : List (SubP S)) (hU : ∀ c ∈ cs, c.ub ≤ U) :
    ∀ st : SeqSt S, st.enqueue dedup cs = st.enqueueCapped dedup U cs := by
  induction cs with
  | nil => intro st; rfl
  | cons c cs ih =>
    intro st
    have hm : min U c.ub = c.ub := Int.min_eq_right (hU c List.mem_cons_self)
    unfold SeqSt.enqueue SeqSt.enqueueCapped
    simp only [List.foldl_cons, hm]
    exact ih (fun c h => hU c (List.mem_cons_of_mem _ h)) _

section
variable (dedup : Bool) (st : SeqSt S) (N : SubP S)

theorem SeqSt.process_pruned (me : Bool) (r x : DDRes S) (h : N.ub ≤ st.bestLb) :
    st.process dedup N me r x = (st, 0) := if_pos h

theorem SeqSt.process_refused (r x : DDRes S) (h : ¬ N.ub ≤ st.bestLb) :
    st.process dedup N false r x = (st, 0) := if_neg h

theorem SeqSt.process_cutR (x : DDRes S) (h : ¬ N.ub ≤ st.bestLb) :
    st.process dedup N true .cutoff x = (st.abortSearch, 1) := if_neg h

theorem SeqSt.process_exactR (r : DDOut S) (x : DDRes S) (h : ¬ N.ub ≤ st.bestLb) (he : r.isExact = true) :
    st.process dedup N true (.ok r) x = (st.updateBest r, 1) := by
  unfold SeqSt.process; rw [if_neg h]; simp only [Bool.not_true, Bool.false_eq_true, if_false, he, if_true]

theorem SeqSt.process_cutX (r : DDOut S) (h : ¬ N.ub ≤ st.bestLb) (he : r.isExact = false) :
    st.process dedup N true (.ok r) .cutoff = ((st.updateBest r).abortSearch, 2) := by
  unfold SeqSt.process; rw [if_neg h]; simp only [Bool.not_true, Bool.false_eq_true, if_false, he]

theorem SeqSt.process_exactX (r x : DDOut S) (h : ¬ N.ub ≤ st.bestLb) (he : r.isExact = false) (hx : x.isExact = true) :
    st.process dedup N true (.ok r) (.ok x) = ((st.updateBest r).updateBest x, 2) := by
  unfold SeqSt.process; rw [if_neg h]; simp only [Bool.not_true, Bool.false_eq_true, if_false, he, hx, if_true]

theorem SeqSt.process_enqueue (r x : DDOut S) (h : ¬ N.ub ≤ st.bestLb) (he : r.isExact = false) (hx : x.isExact = false) :
    st.process dedup N true (.ok r) (.ok x) = (((st.updateBest r).updateBest x).enqueue dedup x.cutset, 2) := by
  unfold SeqSt.process; rw [if_neg h]; simp only [Bool.not_true, Bool.false_eq_true, if_false, he, hx]

end

/-- the six ways `process_one_node` ends; which one is taken does not depend on the kind of fringe -/
theorem SeqSt.process_cases (st : SeqSt S) (N : SubP S) (me : Bool) (r x : DDRes S) :
    ((N.ub ≤ st.bestLb ∨ me = false) ∧ ∀ d, st.process d N me r x = (st, 0)) ∨
    (¬ N.ub ≤ st.bestLb ∧ me = true ∧
      ((r = .cutoff ∧ ∀ d, st.process d N me r x = (st.abortSearch, 1)) ∨
       ∃ r0, r = .ok r0 ∧
        ((r0.isExact = true ∧ ∀ d, st.process d N me r x = (st.updateBest r0, 1)) ∨
         (r0.isExact = false ∧
          ((x = .cutoff ∧ ∀ d, st.process d N me r x = ((st.updateBest r0).abortSearch, 2)) ∨
           ∃ x0, x = .ok x0 ∧
            ((x0.isExact = true ∧ ∀ d, st.process d N me r x = ((st.updateBest r0).updateBest x0, 2)) ∨
             (x0.isExact = false ∧
               ∀ d, st.process d N me r x = (((st.updateBest r0).updateBest x0).enqueue d x0.cutset, 2)))))))) := by
  by_cases h : N.ub ≤ st.bestLb
  · exact Or.inl ⟨Or.inl h, fun d => SeqSt.process_pruned d st N me r x h⟩
  cases me with
  | false => exact Or.inl ⟨Or.inr rfl, fun d => SeqSt.process_refused d st N r x h⟩
  | true =>
    refine Or.inr ⟨h, rfl, ?_⟩
    cases r with
    | cutoff => exact Or.inl ⟨rfl, fun d => SeqSt.process_cutR d st N x h⟩
    | ok r0 =>
      refine Or.inr ⟨r0, rfl, ?_⟩
      cases he : r0.isExact with
      | true => exact Or.inl ⟨rfl, fun d => SeqSt.process_exactR d st N r0 x h he⟩
      | false =>
        refine Or.inr ⟨rfl, ?_⟩
        cases x with
        | cutoff => exact Or.inl ⟨rfl, fun d => SeqSt.process_cutX d st N r0 h he⟩
        | ok x0 =>
          refine Or.inr ⟨x0, rfl, ?_⟩
          cases hx : x0.isExact with
          | true => exact Or.inl ⟨rfl, fun d => SeqSt.process_exactX d st N r0 x0 h he hx⟩
          | false => exact Or.inr ⟨rfl, fun d => SeqSt.process_enqueue d st N r0 x0 h he hx⟩

theorem SeqSt.process_ok_cases (st : SeqSt S) (N : SubP S) (me : Bool) (r x : DDOut S) :
    ((N.ub ≤ st.bestLb ∨ me = false) ∧ ∀ d, st.process d N me (.ok r) (.ok x) = (st, 0)) ∨
    (¬ N.ub ≤ st.bestLb ∧ me = true ∧
      ((r.isExact = true ∧ ∀ d, st.process d N me (.ok r) (.ok x) = (st.updateBest r, 1)) ∨
       (r.isExact = false ∧ x.isExact = true ∧
         ∀ d, st.process d N me (.ok r) (.ok x) = ((st.updateBest r).updateBest x, 2)) ∨
       (r.isExact = false ∧ x.isExact = false ∧
         ∀ d, st.process d N me (.ok r) (.ok x) = (((st.updateBest r).updateBest x).enqueue d x.cutset, 2)))) := by
  rcases SeqSt.process_cases st N me (.ok r) (.ok x) with
    h | ⟨h, hm, ⟨h', _⟩ | ⟨_, ⟨⟩, ⟨he, e⟩ | ⟨he, ⟨h', _⟩ | ⟨_, ⟨⟩, ⟨hx, e⟩ | ⟨hx, e⟩⟩⟩⟩⟩
  · exact Or.inl h
  · cases h'
  · exact Or.inr ⟨h, hm, Or.inl ⟨he, e⟩⟩
  · cases h'
  · exact Or.inr ⟨h, hm, Or.inr (Or.inl ⟨he, hx, e⟩)⟩
  · exact Or.inr ⟨h, hm, Or.inr (Or.inr ⟨he, hx, e⟩)⟩

/-- `process_one_node` only ever applies `abort_search` (when a compilation is cut off), `maybe_update_best` and
    `enqueue_cutset` (of the relaxed cut-set) to the state: what these three preserve, it preserves -/
theorem SeqSt.process_frame (Q : SeqSt S → Prop) (dedup : Bool) (st : SeqSt S) (N : SubP S) (me : Bool) (r x : DDRes S)
    (h0 : Q st) (hab : r = .cutoff ∨ x = .cutoff → ∀ s, Q s → Q s.abortSearch)
    (hup : ∀ s o, Q s → Q (s.updateBest o))
    (henq : ∀ s x0, x = .ok x0 → Q s → Q (s.enqueue dedup x0.cutset)) :
    Q (st.process dedup N me r x).1 := by
  rcases SeqSt.process_cases st N me r x with
    ⟨_, e⟩ | ⟨_, _, ⟨hr, e⟩ | ⟨r0, _, ⟨_, e⟩ | ⟨_, ⟨hx, e⟩ | ⟨x0, hx, ⟨_, e⟩ | ⟨_, e⟩⟩⟩⟩⟩ <;> rw [e dedup]
  · exact h0
  · exact hab (Or.inl hr) _ h0
  · exact hup _ _ h0
  · exact hab (Or.inr hx) _ (hup _ _ h0)
  · exact hup _ _ (hup _ _ h0)
  · exact henq _ _ hx (hup _ _ (hup _ _ h0))

end
end Ddo

/-! ## the coverage invariant at its barest: some open sub-problem is *on* the family that has to deliver the optimum

`On c` stands for "`c` still has to deliver `opt`": `Phi c = some opt` for the plain solver (`C01.process_inv`), "on the protected
family" with the dominance checker (`Proofs/DomSound.lean`). -/
namespace Ddo.C10
variable {S : Type} [DecidableEq S]
section abstract
variable (On : SubP S → Prop) (opt : Int) (Sol : List Dec → Int → Prop)

/-- the invariant: the incumbent is a feasible value, and as long as it is not optimal some open sub-problem lies on the
    protected family with a bound that does not cut the optimum off -/
structure BBInv (open_ : List (SubP S)) (lb : Int) (sol : Option (List Dec)) : Prop where
  lbOk : lb ≤ opt
  solOk : ∀ p, sol = some p → Sol p lb
  cover : opt > lb → ∃ c ∈ open_, On c ∧ opt ≤ c.ub

/-- contract of a compilation of `N` with incumbent `lb`, checker enabled: reported exact values are feasible; a diagram of a
    protected sub-problem that claims exactness reports at least the optimum -/
structure DCompileOk (N : SubP S) (lb : Int) (o : DDOut S) : Prop where
  sound : ∀ w, o.bestExact = some w → ∃ p, o.bestExactSol = some p ∧ Sol p w ∧ w ≤ opt
  exact : o.isExact = true → On N → opt > lb → ∃ w, o.bestExact = some w ∧ opt ≤ w

/-- contract of the cut-set of a relaxed diagram of a protected `N` that is not exact and did not find the optimum -/
def DCutsetOk (N : SubP S) (lb : Int) (o : DDOut S) : Prop :=
  On N → opt > lb → (∀ w, o.bestExact = some w → w < opt) → ∃ c ∈ o.cutset, On c ∧ opt ≤ c.ub

theorem process_dinv_false (st : SeqSt S) (N : SubP S) (r x : DDOut S)
    (hinv : BBInv On opt Sol (N :: st.fringe) st.bestLb st.bestSol)
    (hr : DCompileOk On opt Sol N st.bestLb r)
    (hx : DCompileOk On opt Sol N (st.updateBest r).bestLb x)
    (hcut : x.isExact = false → DCutsetOk On opt N (st.updateBest r).bestLb x) :
    BBInv On opt Sol (st.process false N true (.ok r) (.ok x)).1.fringe
      (st.process false N true (.ok r) (.ok x)).1.bestLb (st.process false N true (.ok r) (.ok x)).1.bestSol := by
  -- where can the cover witness be after `N` left the fringe?
  have coverRest : ∀ l, st.bestLb ≤ l → opt > l → (On N → opt ≤ N.ub → False) →
      ∃ c ∈ st.fringe, On c ∧ opt ≤ c.ub := by
    intro l hl hgt hN
    obtain ⟨c, hc, h1, h2⟩ := hinv.cover (Int.lt_of_le_of_lt hl hgt)
    rcases List.mem_cons.mp hc with e | e
    · subst e; exact absurd h2 (fun h => hN h1 h)
    · exact ⟨c, e, h1, h2⟩
  obtain ⟨f1, _, _, _, _⟩ := updateBest_fringe st r
  have hge1 := updateBest_lb_ge st r
  obtain ⟨hlb1, hsol1⟩ := updateBest_sound opt Sol st r hinv.lbOk hinv.solOk hr.sound
  obtain ⟨f2, _, _, _, _⟩ := updateBest_fringe (st.updateBest r) x
  have hge2 := updateBest_lb_ge (st.updateBest r) x
  obtain ⟨hlb2, hsol2⟩ := updateBest_sound opt Sol (st.updateBest r) x hlb1 hsol1 hx.sound
  rcases SeqSt.process_ok_cases st N true r x with ⟨hub, e⟩ | ⟨_, _, ⟨hre, e⟩ | ⟨_, hxe, e⟩ | ⟨_, hxe, e⟩⟩ <;>
    rw [e false] <;> dsimp only
  · have hub : N.ub ≤ st.bestLb := hub.elim id (fun h => nomatch h)
    exact ⟨hinv.lbOk, hinv.solOk, fun hgt => coverRest st.bestLb (Int.le_refl _) hgt
      (fun _ h => absurd (Int.le_trans h hub) (Int.not_le.mpr hgt))⟩
  · refine ⟨hlb1, hsol1, fun hgt => ?_⟩
    rw [f1]
    refine coverRest _ hge1 hgt (fun hP _ => ?_)
    obtain ⟨w, hw, hle⟩ := hr.exact hre hP (Int.lt_of_le_of_lt hge1 hgt)
    exact absurd (Int.le_trans hle (updateBest_lb_ge_val st r w hw)) (Int.not_le.mpr hgt)
  · refine ⟨hlb2, hsol2, fun hgt => ?_⟩
    rw [f2, f1]
    refine coverRest _ (Int.le_trans hge1 hge2) hgt (fun hP _ => ?_)
    obtain ⟨w, hw, hle⟩ := hx.exact hxe hP (Int.lt_of_le_of_lt hge2 hgt)
    exact absurd (Int.le_trans hle (updateBest_lb_ge_val (st.updateBest r) x w hw)) (Int.not_le.mpr hgt)
  · have hC := hcut hxe
    obtain ⟨e1, e2, _, _, e5⟩ := enqueue_false_spec ((st.updateBest r).updateBest x) x.cutset
    rw [e1, e2]
    refine ⟨hlb2, hsol2, fun hgt => ?_⟩
    obtain ⟨c, hc, hP, hU⟩ := hinv.cover (Int.lt_of_le_of_lt (Int.le_trans hge1 hge2) hgt)
    rcases List.mem_cons.mp hc with e | e
    · subst e
      obtain ⟨c0, hc0, hOn0, hub0⟩ := hC hP (Int.lt_of_le_of_lt hge2 hgt)
        (fun w hw => Int.lt_of_le_of_lt (updateBest_lb_ge_val (st.updateBest r) x w hw) hgt)
      exact ⟨c0, (e5 _).mpr (Or.inr ⟨c0, hc0, rfl, Int.lt_of_lt_of_le hgt hub0⟩), hOn0, hub0⟩
    · exact ⟨c, (e5 c).mpr (Or.inl (by rw [f2, f1]; exact e)), hP, hU⟩

theorem dinv_complete (lb : Int) (sol : Option (List Dec)) (h : BBInv On opt Sol [] lb sol) : lb = opt := by
  have := h.lbOk
  by_cases hlt : opt > lb
  · obtain ⟨c, hc, _⟩ := h.cover hlt; cases hc
  · exact Int.le_antisymm this (Int.not_lt.mp hlt)

end abstract
end Ddo.C10

namespace Ddo.C05
variable {S : Type} [DecidableEq S]

theorem enqueue_bestUb (dedup : Bool) (st : SeqSt S) (cs : List (SubP S)) : (st.enqueue dedup cs).bestUb = st.bestUb :=
  (enqueue_fields dedup st cs).2.2.1

/-- the pop writes the running minimum: `best_ub` does not increase, and is at most the bound of the popped node.  (The
    bounds of the popped nodes themselves may increase from pop to pop, since cut-set nodes are not capped by their parent's
    bound — `Ddo.C09.Layered.Rise.popped_bound_increases`: "what is open stays below the node in hand" does not hold.) -/
theorem afterPop_ub_le (st : SeqSt S) (nn : SubP S) :
    (st.afterPop nn).bestUb ≤ st.bestUb ∧ (st.afterPop nn).bestUb ≤ nn.ub ∧ (st.afterPop nn).bestUb = min st.bestUb nn.ub := by
  unfold SeqSt.afterPop
  split <;> exact ⟨Int.min_le_left _ _, Int.min_le_right _ _, rfl⟩

end Ddo.C05
