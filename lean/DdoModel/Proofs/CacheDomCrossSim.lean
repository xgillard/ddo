import DdoModel.Proofs.CacheDomTools
/-! # `CrossSim` — cache + dominance lose the optimum with a **simulation-admissible** rule (finding **D17**, second form)

`Proofs/CacheDomCross.lean` refutes the joint statement for rules with a protected optimal strategy (`UndomOpt`) that are
admissible in the potential form for all pairs of values.  Here the rule satisfies the *simulation condition*
`Ddo.C10.SimAdmissible` (with a static variable order: the hypotheses of `Ddo.C10.undomOpt_of_sim`, the sufficient
condition `Props/C10b.lean` offers for `dominance_solver_optimal`), the optimal solution is **unique**, and the solver with
cache and checker still ends with `is_exact = true` and a wrong value: **10 instead of 15**.

## the model (family `Ddo.C09.Layered`)

6 binary variables in static order, 7 states `0 … 6`, initial state `0`, value `0`.  Tables (`state: (next, cost) for decision
0 | decision 1`; rows that are never reached copy a neighbour):

```
x0:  every state: (4,0)|(5,0)                                                R=0 → a=4 | b=5
x1:  0–4: (4,5)|(4,5)       5, 6: (6,0)|(5,1)                                 a=4 → a2=4 (cost 5);  b=5 → x=6 | y=5 (cost 1)
x2:  0–4: (4,0)|(4,0)       5: (6,-1)|(6,-1)     6: (5,5)|(5,5)               a2=4 → a3=4;  y=5 → y3=6 (cost -1);  x=6 → x3=5 (cost 5)
x3:  0–4: (0,0)|(1,-5)      5: (4,0)|(4,0)       6: (1,0)|(1,0)               a3=4 → J=0 | s*=1 (cost -5);  x3=5 → g=4;  y3=6 → s*=1
x4:  0: (2,0)|(2,0)   1: (3,0)|(3,0)   2–6: (4,0)|(4,0)                       J=0 → J5=2;  s*=1 → s5=3;  g=4 → g5=4
x5:  0–2: (4,5)|(4,0)       3–6: (4,10)|(4,0)                                 J5=2 earns 5;  s5=3 and g5=4 earn 10
```

**Optimum 15**, reached only by `σ1 = R, b, x, x3, g, g5`; `R, a, a2, a3, J, J5` and the paths through `s*` are worth 10.
Relaxation: `merge` = largest state, `relax` = identity, `fast_upper_bound` = 30; ranking: larger state better; `FixedWidth(1)`.

**The rule**: key `0` for the states `0, 1`, key `1` for `2, 3`, none for `4, 5, 6`; one coordinate, `1` for the states `0, 2`
and `0` otherwise; the value is used.  On the reached items it says: `J = (0, value 5)` dominates `s* = (1, value 0)` at depth 4,
`J5 = (2, 5)` dominates `s5 = (3, 0)` at depth 5 — and indeed `J` is worth `5 + 5 = 10 ≥ 0 + 10`, its child `J5` is at least as
good as `s5`, and so on to the terminal layer: the rule is **simulation-admissible** (`simAdmissible`: every decision of the
dominated item is matched by a decision of the dominating item, on all exactly reached pairs), hence admissible in the
potential form (`admissible`) and it has a protected optimal strategy (`undomOpt`).  What the rule is *not*: admissible for
pairs of values that are never reached together (`not_admissibleAll`: `(1, value 5)` would be worth 15).

## the run (three turns, every configuration)

```
turn 1  pop R.  Restricted: b, y, y3, s* = (1, depth 4, 0), s5, terminal: 10.  Incumbent 10.  Relaxed: cut-set {a (ub 20), b (ub 16)}.
turn 2  pop a (ub 20 > 16).  Restricted: a2, a3, {J = (0, 5), s* = (1, 0)}: J is presented first and recorded, s* is dominated by J
        with **threshold 5** (`is_dominated_or_insert`: the dominator's value).  J, J5, terminal 10: exact diagram, nothing new.
        `_compute_thresholds` records (1, depth 4) ↦ (5, explored) in the cache.
turn 3  pop b.  Restricted: keeps y (value 1 > 0), y3, s* = (1, depth 4, value 0) exact: pruned by the cache.  Relaxed: {x3 = (5, value 5),
        y3 = (6, value 0)} merged into M = (state 6, value 5, inexact); its only child is (state 1, depth 4, **value 5**), inexact: it
        stands for g = (4, depth 4, 5) — value-to-go 10, the optimum — and `_filter_with_cache` prunes it: 5 ≤ 5.  No exact item
        (1, depth 4, 5) exists; the checker is never asked about relaxed nodes.  Empty layer, no terminal, `is_exact() = true`.
        fringe [], incumbent 10: `is_exact = true`, `best_value = Some(10)`; the optimum is 15.
```

The threshold `5` is correct as a statement about the rule ("state 1 with a value ≤ 5 is dominated by the stored `J`"), and
harmless for the checker, which only sees exactly reached values of state 1 (here only `0`).  The cache applies it to a relaxed
node whose value `5` is the value of *another* state (`x3`, merged into `M`).

Replay on the real library (harness engine `cachedom`, `harness/src/eng_cachedom.rs`): `Some(10)` with cache + checker (sequential
LEL / frontier, both fringes, parallel with one thread, `DefaultCachingSolver`), `Some(15)` with either mechanism alone. -/
set_option linter.unusedSectionVars false
set_option linter.unusedVariables false
namespace Ddo.C10c.CrossSim
open Ddo Ddo.C01 Ddo.Closed Ddo.C09 Ddo.C10 Ddo.C10c Ddo.C09.Layered

def T : Tab :=
  { n := 6, m := 7,
    --      s0      s1      s2      s3      s4      s5      s6
    trl := [4,5,    4,5,    4,5,    4,5,    4,5,    4,5,    4,5,
            4,4,    4,4,    4,4,    4,4,    4,4,    6,5,    6,5,
            4,4,    4,4,    4,4,    4,4,    4,4,    6,6,    5,5,
            0,1,    0,1,    0,1,    0,1,    0,1,    4,4,    1,1,
            2,2,    3,3,    4,4,    4,4,    4,4,    4,4,    4,4,
            4,4,    4,4,    4,4,    4,4,    4,4,    4,4,    4,4],
    cl :=  [0,0,    0,0,    0,0,    0,0,    0,0,    0,0,    0,0,
            5,5,    5,5,    5,5,    5,5,    5,5,    0,1,    0,1,
            0,0,    0,0,    0,0,    0,0,    0,0,    -1,-1,  5,5,
            0,-5,   0,-5,   0,-5,   0,-5,   0,-5,   0,0,    0,0,
            0,0,    0,0,    0,0,    0,0,    0,0,    0,0,    0,0,
            5,0,    5,0,    5,0,    10,0,   10,0,   10,0,   10,0],
    rub := 30 }

/-- `FixedWidth(1)` -/
def ws : List Nat := List.replicate 49 1

def rule : DomRule Int Int :=
  { key := fun s => if s = 0 ∨ s = 1 then some 0 else if s = 2 ∨ s = 3 then some 1 else none,
    dims := fun _ => 1, coord := fun s _ => if s = 0 ∨ s = 2 then 1 else 0, useValue := true }

def sv (dedup : Bool) (kind : CutsetKind) : SolverCfg Int := Layered.sv T ws dedup kind
def dv (dedup : Bool) (kind : CutsetKind) : DSolverCfg Int Int := ⟨sv dedup kind, rule⟩

theorem ok : tableOk T 10 80 15 = true := by decide +kernel

theorem checked : check T 10 = true := checked_of_ok ok

theorem wellFormed (dedup : Bool) (kind : CutsetKind) : WellFormed (dv dedup kind).sv (H T) 10 80 :=
  wellFormed_of_ok ok ws dedup kind

theorem opt15 : (H T 0 (prob T).init).addI (prob T).initVal = some 15 := opt_of_ok ok

theorem staticOrder : StaticOrder (prob T) := fun _ _ _ _ _ => rfl

/-- `(depth, state, value)` of every exactly reached item -/
def table : List (Nat × Int × Int) :=
  [(0, 0, 0), (1, 4, 0), (1, 5, 0), (2, 4, 5), (2, 6, 0), (2, 5, 1), (3, 4, 5), (3, 5, 5), (3, 6, 0),
   (4, 0, 5), (4, 1, 0), (4, 4, 5), (5, 2, 5), (5, 3, 0), (5, 4, 5), (6, 4, 10), (6, 4, 5), (6, 4, 0), (6, 4, 15)]

theorem step_table : ∀ e ∈ table, ∀ d ∈ [(0 : Int), 1], e.1 < T.n → child T e d ∈ table := by decide +kernel

theorem reach_table {k : Nat} {s v : Int} {p : List Dec} (h : Reach (prob T) k s v p) : (k, s, v) ∈ table :=
  reach_mem (by decide) step_table h

theorem sim_table : ∀ e1 ∈ table, ∀ e2 ∈ table, e1.1 = e2.1 → e1.1 < 6 → GeItem rule 1 e1.2.1 e1.2.2 e2.2.1 e2.2.2 →
    ∀ db ∈ [(0 : Int), 1], ∃ da ∈ [(0 : Int), 1],
      GeItem rule 1 ((prob T).trans e1.2.1 ⟨e1.1, da⟩)
        (e1.2.2 + (prob T).cost e1.2.1 ((prob T).trans e1.2.1 ⟨e1.1, da⟩) ⟨e1.1, da⟩)
        ((prob T).trans e2.2.1 ⟨e1.1, db⟩)
        (e2.2.2 + (prob T).cost e2.2.1 ((prob T).trans e2.2.1 ⟨e1.1, db⟩) ⟨e1.1, db⟩) := by
  decide +kernel

theorem simAdmissible : SimAdmissible rule (prob T) 1 := by
  constructor
  · intro d a va b vb pa pb L x hra hrb hge hnv _ db hdb
    obtain ⟨hk, rfl⟩ := nv_some hnv
    exact sim_table (_, a, va) (reach_table hra) (_, b, vb) (reach_table hrb) rfl hk hge db hdb
  · intro d a va b vb pa pb L _ _ hge _ _
    exact geItem_value rfl hge

theorem undomOpt : UndomOpt rule (prob T) (H T) 15 :=
  undomOpt_of_sim rule (prob T) (H T) 1 15 (fun _ => rfl) (potential T) (nvBound T) staticOrder simAdmissible opt15

theorem admissible : Admissible rule (prob T) (H T) :=
  admissible_of_sim rule (prob T) (H T) 1 (fun _ => rfl) (potential T) (nvBound T) staticOrder simAdmissible

/-- state 1 with value 5 at depth 4 (never reached exactly) would be worth 15; `(0, value 5)`, which dominates it, is worth 10 -/
theorem not_admissibleAll : ¬ AdmissibleAll rule (H T) := by
  intro h
  have := h 4 0 5 1 5 (by decide +kernel)
  exact absurd this (by decide +kernel)

def after (dedup : Bool) (kind : CutsetKind) (j : Nat) : KDSt Int Int :=
  (dv dedup kind).kdsolveLoop j (KDSt.init (dv dedup kind))

def viewKD (s : KDSt Int Int) : List (Int × Int × Int × Nat) × Int :=
  (s.st.fringe.map (fun c => (c.state, c.value, c.ub, c.depth)), s.st.bestLb)
def cacheAtKD (s : KDSt Int Int) (d : Nat) : List (Int × Int × Bool) :=
  (s.cache.layers.getD d []).map (fun e => (e.1, e.2.value, e.2.explored))
/-- the cache the compilations of the next turn consult: `s.cache` after the cache-cleaning loop of `get_workload` -/
def cacheIn (s : KDSt Int Int) : Cache Int :=
  (cleanCache T.n s.st.openByLayer T.n s.st.firstActive s.cache).getD s.cache
/-- the checker as the restricted compilation of `N` leaves it: what the relaxed compilation of the same turn starts from -/
def storeR (s : KDSt Int Int) (N : SubP Int) : DomStore Int Int :=
  ((dv false .lel).kdcompR (cacheIn s) s.store N s.st.bestLb).2.2.2.store
def storeAt (s : KDSt Int Int) (d : Nat) : List (Int × List (Int × Int)) := s.store.layers.getD d []
def cachePruned (dd : DD Int Int) : List (Int × Int × Nat × Bool) :=
  (dd.layers.flatMap id).filterMap (fun n => if n.cache then some (n.state, n.value, n.depth, n.isExact) else none)

/-- all that is read off the runs with cache and checker, in one statement so that each run is evaluated once; the theorems below
    are its conjuncts -/
theorem trace :
    let s1 := after false .lel 1
    let s2 := after false .lel 2
    let a : SubP Int := ⟨4, 0, [⟨0, 0⟩], 20, 1⟩
    let b : SubP Int := ⟨5, 0, [⟨0, 1⟩], 16, 1⟩
    let cA := (dv false .lel).kdcompR (cacheIn s1) s1.store a 10
    let cR := (dv false .lel).kdcompR (cacheIn s2) s2.store b 10
    let cX := (dv false .lel).kdcompX (cacheIn s2) (storeR s2 b) b 10
    (∀ dedup ∈ [false, true], ∀ kind ∈ [CutsetKind.lel, CutsetKind.frontier],
      (after dedup kind 6).st.fringe.length = 0 ∧ (after dedup kind 6).st.completion = (true, some 10) ∧
      (after dedup kind 6).st.explored = 3 ∧ (after dedup kind 6).st.crashed = false) ∧
    (viewKD s1 = ([(5, 0, 16, 1), (4, 0, 20, 1)], 10) ∧ cA.2.2.2.ndom = 1) ∧
    (viewKD s2 = ([(5, 0, 16, 1)], 10) ∧ cacheAtKD s2 4 = [(0, 5, true), (1, 5, true)] ∧ storeAt s2 4 = [(0, [(0, 5)])]) ∧
    (cachePruned cR.2.2.2 = [(1, 0, 4, true)] ∧ cachePruned cX.2.2.2 = [(1, 5, 4, false)] ∧ (4, (1 : Int), (5 : Int)) ∉ table ∧
      cX.2.1.bestValue = none ∧ cX.2.1.isExact = true ∧ cX.2.2.2.ndom = 0) ∧
    viewKD (after false .lel 3) = ([], 10) := by
  intro s1 s2 a b cA cR cX
  decide +kernel

theorem joint_value : ∀ dedup ∈ [false, true], ∀ kind ∈ [CutsetKind.lel, CutsetKind.frontier],
    (after dedup kind 6).st.fringe.length = 0 ∧ (after dedup kind 6).st.completion = (true, some 10) ∧
    (after dedup kind 6).st.explored = 3 ∧ (after dedup kind 6).st.crashed = false :=
  trace.1

theorem dom_only : ∀ dedup ∈ [false, true], ∀ kind ∈ [CutsetKind.lel, CutsetKind.frontier],
    ((dv dedup kind).solveLoop 12 (dv dedup kind).init).st.fringe.length = 0 ∧
    ((dv dedup kind).solveLoop 12 (dv dedup kind).init).st.completion = (true, some 15) := by decide +kernel

theorem cache_only : ∀ dedup ∈ [false, true], ∀ kind ∈ [CutsetKind.lel, CutsetKind.frontier],
    ((sv dedup kind).ksolveLoop 12 (KSt.init (sv dedup kind))).st.fringe.length = 0 ∧
    ((sv dedup kind).ksolveLoop 12 (KSt.init (sv dedup kind))).st.completion = (true, some 15) := by decide +kernel

theorem stage1 : viewKD (after false .lel 1) = ([(5, 0, 16, 1), (4, 0, 20, 1)], 10) ∧
    ((dv false .lel).kdcompR (cacheIn (after false .lel 1)) (after false .lel 1).store ⟨4, 0, [⟨0, 0⟩], 20, 1⟩ 10).2.2.2.ndom = 1 :=
  trace.2.1

theorem stage2 : viewKD (after false .lel 2) = ([(5, 0, 16, 1)], 10) ∧
    cacheAtKD (after false .lel 2) 4 = [(0, 5, true), (1, 5, true)] ∧ storeAt (after false .lel 2) 4 = [(0, [(0, 5)])] :=
  trace.2.2.1

theorem stage3 :
    cachePruned ((dv false .lel).kdcompR (cacheIn (after false .lel 2)) (after false .lel 2).store ⟨5, 0, [⟨0, 1⟩], 16, 1⟩ 10).2.2.2 =
      [(1, 0, 4, true)] ∧
    cachePruned ((dv false .lel).kdcompX (cacheIn (after false .lel 2)) (storeR (after false .lel 2) ⟨5, 0, [⟨0, 1⟩], 16, 1⟩) ⟨5, 0, [⟨0, 1⟩], 16, 1⟩ 10).2.2.2 =
      [(1, 5, 4, false)] ∧
    (4, (1 : Int), (5 : Int)) ∉ table ∧
    ((dv false .lel).kdcompX (cacheIn (after false .lel 2)) (storeR (after false .lel 2) ⟨5, 0, [⟨0, 1⟩], 16, 1⟩) ⟨5, 0, [⟨0, 1⟩], 16, 1⟩ 10).2.1.bestValue = none ∧
    ((dv false .lel).kdcompX (cacheIn (after false .lel 2)) (storeR (after false .lel 2) ⟨5, 0, [⟨0, 1⟩], 16, 1⟩) ⟨5, 0, [⟨0, 1⟩], 16, 1⟩ 10).2.1.isExact = true ∧
    ((dv false .lel).kdcompX (cacheIn (after false .lel 2)) (storeR (after false .lel 2) ⟨5, 0, [⟨0, 1⟩], 16, 1⟩) ⟨5, 0, [⟨0, 1⟩], 16, 1⟩ 10).2.2.2.ndom = 0 :=
  trace.2.2.2.1

theorem stage_end : viewKD (after false .lel 3) = ([], 10) :=
  trace.2.2.2.2

end Ddo.C10c.CrossSim
