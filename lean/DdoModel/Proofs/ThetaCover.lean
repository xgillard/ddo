import DdoModel.Proofs.Theta
import DdoModel.Proofs.ThetaCtxCover
/-! C06 / C07b / C08 (iv) for relaxed compilations that **consult the cache**: the diagram bounds / solves / covers its root
    *unless the cache cut it* — then the potential of the root is carried by a sub-problem that the consulted cache prunes,
    strictly deeper than the root (`CacheAlt`).  This is the soundness of the pruning by `_filter_with_cache` inside a
    compilation, relative to the field `cache` of the solver's invariant `CInvC` (`Proofs/SeqCache.lean`), which discharges `CacheAlt`.
    The reading of the finished diagram is `CtxG.root_np_at`, `CtxG.cover_of_path` of `ThetaCtxCover.lean`, without dropped positions. -/
set_option linter.unusedSectionVars false
set_option linter.unusedVariables false
namespace Ddo.Theta
open Ddo Ddo.Bounds
variable {S K : Type} [DecidableEq S] [DecidableEq K]

section
variable {cfg : Cfg S K} {H : Nat → S → EInt} {B : Int} {cache : Cache S} {p0 : List Dec} {fin : DD S K}
  {Live : Nat → Nat → Prop} {dd : DD S K}

theorem Ctx.root_np (hx : Ctx cfg H B cache p0 fin Live dd) (hR : RubOk cfg.R H) (hlb : cfg.lb < iMax)
    (M : Int) (hM0 : 0 ≤ M) (hMs : M + Cover.Bd B (cfg.P.nbVars + 1) ≤ big) (e : Bool)
    (h0 : Int) (hH0 : H cfg.root.depth cfg.root.state = some h0) :
    cfg.root.value + h0 ≤ cfg.lb ∨ CacheAlt cfg H B M cache cfg.root.depth (cfg.root.value + h0) ∨
    ∃ n0, getNode (finalizeLayers fin).layers 0 0 = some n0 ∧ n0.state = cfg.root.state ∧ n0.value = cfg.root.value ∧
      Path (finalizeLayers fin).layers H cfg.root.depth B 0 0 h0 dd.layers.length :=
  (hx.toG _).root_np_at hR hlb M hM0 hMs e (Int.le_refl _) (Int.le_refl _) (fun _ _ _ _ => False.elim) h0 hH0

theorem Ctx.path_end (hx : Ctx cfg H B cache p0 fin Live dd) {l p : Nat} {h : Int} {r : Nat}
    (hp : Path (finalizeLayers fin).layers H cfg.root.depth B l p h r) (hlr : l + r = dd.layers.length)
    (n0 : Node S) (hn0 : getNode (finalizeLayers fin).layers l p = some n0) :
    ∃ pt tn, getNode (finalizeLayers fin).layers dd.layers.length pt = some tn ∧ tn ∈ dd.next ∧
      n0.value + h ≤ tn.value :=
  (hx.toG 0).path_end hp hlr n0 hn0

theorem Ctx.best_ge (hx : Ctx cfg H B cache p0 fin Live dd) (e : Bool) (tn : Node S) (hmem : tn ∈ dd.next) :
    ∃ bv, (finalize cfg (finalizeLayers fin) e).1.bestValue = some bv ∧ tn.value ≤ bv :=
  (hx.toG 0).best_ge e tn hmem

end

theorem compile_ctx (cfg : Cfg S K) (H : Nat → S → EInt) (B : Int) (p0 : List Dec) (cache : Cache S)
    (store : DomStore S K) (polls : Nat) (stopAt : Option Nat)
    (hrel : cfg.ctype = .relaxed) (hdom : cfg.dom = none) (hW : 1 ≤ cfg.width)
    (hP : Potential cfg.P H) (hM : MergeOk cfg.R H) (hAM : Cover.AttMerge cfg.P cfg.R H)
    (hB : NoClamp cfg.P cfg.R cfg.root.value B)
    (hroot : Reach cfg.P cfg.root.depth cfg.root.state cfg.root.value p0)
    (hok : (compile cfg cache store polls stopAt).1 = .ok) (r : Result S)
    (hr : r = (compile cfg cache store polls stopAt).2.1 ∨ (compile cfg cache store polls stopAt).2.2.1 = some r) :
    ∃ (fin : DD S K) (Live : Nat → Nat → Prop) (dd : DD S K) (e : Bool), Ctx cfg H B cache p0 fin Live dd ∧
      r = (finalize cfg (finalizeLayers fin) e).1 := by
  obtain ⟨_, e, he⟩ := compile_results cfg cache store polls stopAt hok r hr
  obtain ⟨Live, dd, hx⟩ := ctx_of_compile cfg H B p0 cache store polls stopAt ⟨hrel, hdom, hW, hP, hM, hAM, hB⟩ hroot hok
  exact ⟨_, Live, dd, e, hx, he⟩

theorem compile_root (cfg : Cfg S K) (H : Nat → S → EInt) (B M : Int) (p0 : List Dec) (cache : Cache S)
    {fin : DD S K} {Live : Nat → Nat → Prop} {dd : DD S K}
    (hx : Ctx cfg H B cache p0 fin Live dd) (hR : RubOk cfg.R H) (hlb : cfg.lb < iMax)
    (hM0 : 0 ≤ M) (hMs : M + Cover.Bd B (cfg.P.nbVars + 1) ≤ big) (e : Bool)
    (o : Int) (ho : optOf H cfg.root = some o) (hgt : o > cfg.lb) :
    CacheAlt cfg H B M cache cfg.root.depth o ∨
    ∃ n0 h0, getNode (finalizeLayers fin).layers 0 0 = some n0 ∧ o = n0.value + h0 ∧
      Path (finalizeLayers fin).layers H cfg.root.depth B 0 0 h0 dd.layers.length := by
  unfold optOf at ho
  obtain ⟨h0, hH0, ho0⟩ := addI_some ho
  have hov : o = cfg.root.value + h0 := ho0.trans (Int.add_comm _ _)
  rcases hx.root_np hR hlb M hM0 hMs e h0 hH0 with g | g | ⟨n0, hn0, _, hv, hp⟩
  · exact absurd (hov ▸ g) (Int.not_le.mpr hgt)
  · left; rw [hov]; exact g
  · right; exact ⟨n0, h0, hn0, by rw [hv]; exact hov, hp⟩

/-- **C06 with cache**: the best value of a relaxed diagram bounds the potential of its root, unless the cache cut it -/
theorem cached_relaxed_ub (cfg : Cfg S K) (H : Nat → S → EInt) (B M : Int) (p0 : List Dec) (cache : Cache S)
    (store : DomStore S K) (polls : Nat) (stopAt : Option Nat)
    (hrel : cfg.ctype = .relaxed) (hdom : cfg.dom = none) (hW : 1 ≤ cfg.width)
    (hP : Potential cfg.P H) (hR : RubOk cfg.R H) (hM : MergeOk cfg.R H) (hAM : Cover.AttMerge cfg.P cfg.R H)
    (hB : NoClamp cfg.P cfg.R cfg.root.value B) (hlb : cfg.lb < iMax)
    (hroot : Reach cfg.P cfg.root.depth cfg.root.state cfg.root.value p0)
    (hM0 : 0 ≤ M) (hMs : M + Cover.Bd B (cfg.P.nbVars + 1) ≤ big)
    (hok : (compile cfg cache store polls stopAt).1 = .ok) (r : Result S)
    (hr : r = (compile cfg cache store polls stopAt).2.1 ∨ (compile cfg cache store polls stopAt).2.2.1 = some r)
    (o : Int) (ho : optOf H cfg.root = some o) (hgt : o > cfg.lb) :
    (∃ bv, r.bestValue = some bv ∧ o ≤ bv) ∨ CacheAlt cfg H B M cache cfg.root.depth o := by
  obtain ⟨fin, Live, dd, e, hx, rfl⟩ := compile_ctx cfg H B p0 cache store polls stopAt hrel hdom hW hP hM hAM hB hroot hok r hr
  rcases compile_root cfg H B M p0 cache hx hR hlb hM0 hMs e o ho hgt with g | ⟨n0, h0, hn0, hov, hp⟩
  · exact .inr g
  · left
    obtain ⟨pt, tn, _, htmem, hv⟩ := hx.path_end hp (Nat.zero_add _) n0 hn0
    obtain ⟨bv, hbv, hle⟩ := hx.best_ge e tn htmem
    exact ⟨bv, hbv, hov ▸ Int.le_trans hv hle⟩

/-- **C07b / C06b with cache**: a relaxed diagram that claims exactness reports an exact value `≥` the potential of its
    root, unless the cache cut it -/
theorem cached_exact (cfg : Cfg S K) (H : Nat → S → EInt) (B M : Int) (p0 : List Dec) (cache : Cache S)
    (store : DomStore S K) (polls : Nat) (stopAt : Option Nat)
    (hrel : cfg.ctype = .relaxed) (hdom : cfg.dom = none) (hW : 1 ≤ cfg.width)
    (hP : Potential cfg.P H) (hR : RubOk cfg.R H) (hM : MergeOk cfg.R H) (hAM : Cover.AttMerge cfg.P cfg.R H)
    (hB : NoClamp cfg.P cfg.R cfg.root.value B) (hlb : cfg.lb < iMax)
    (hroot : Reach cfg.P cfg.root.depth cfg.root.state cfg.root.value p0)
    (hM0 : 0 ≤ M) (hMs : M + Cover.Bd B (cfg.P.nbVars + 1) ≤ big)
    (hok : (compile cfg cache store polls stopAt).1 = .ok) (r : Result S)
    (hr : r = (compile cfg cache store polls stopAt).2.1 ∨ (compile cfg cache store polls stopAt).2.2.1 = some r)
    (hex : r.isExact = true) (o : Int) (ho : optOf H cfg.root = some o) (hgt : o > cfg.lb) :
    (∃ w, r.bestExactValue = some w ∧ o ≤ w) ∨ CacheAlt cfg H B M cache cfg.root.depth o := by
  obtain ⟨fin, Live, dd, e, hx, rfl⟩ := compile_ctx cfg H B p0 cache store polls stopAt hrel hdom hW hP hM hAM hB hroot hok r hr
  rcases compile_root cfg H B M p0 cache hx hR hlb hM0 hMs e o ho hgt with g | ⟨n0, h0, hn0, hov, hp⟩
  · exact .inr g
  · left
    obtain ⟨pt, tn, _, htmem, hv⟩ := hx.path_end hp (Nat.zero_add _) n0 hn0
    have hex' : ((finalizeLayers fin).isExactField || e) = true := hex
    have hcase : e = true ∨ tn.isExact = true := by
      cases he : e with
      | true => exact .inl rfl
      | false =>
        right
        rw [he, Bool.or_false, finalizeLayers_isExactField] at hex'
        have hnone : fin.lel = none := by
          cases hl : fin.lel with
          | none => rfl
          | some k => rw [hl] at hex'; cases hex'
        have hsame := hx.bo.same (List.ne_nil_of_mem htmem)
        exact (hx.inv2.lelNone hnone).2 tn (by rw [hsame]; exact htmem)
    obtain ⟨w, hw, hle⟩ := (hx.toG 0).bestExact_ge e tn htmem hcase
    exact ⟨w, hw, hov ▸ Int.le_trans hv hle⟩

/-- **C08 (iv) with cache**: if the potential of the root beats `lb` and every reported exact value, a sub-problem of the
    cut-set has a potential at least as good, unless the cache cut the diagram -/
theorem cached_cover (cfg : Cfg S K) (H : Nat → S → EInt) (B M : Int) (p0 : List Dec) (cache : Cache S)
    (store : DomStore S K) (polls : Nat) (stopAt : Option Nat)
    (hrel : cfg.ctype = .relaxed) (hdom : cfg.dom = none) (hW : 1 ≤ cfg.width)
    (hP : Potential cfg.P H) (hR : RubOk cfg.R H) (hM : MergeOk cfg.R H) (hAM : Cover.AttMerge cfg.P cfg.R H)
    (hB : NoClamp cfg.P cfg.R cfg.root.value B) (hlb : cfg.lb < iMax)
    (hroot : Reach cfg.P cfg.root.depth cfg.root.state cfg.root.value p0)
    (hM0 : 0 ≤ M) (hMs : M + Cover.Bd B (cfg.P.nbVars + 1) ≤ big)
    (hok : (compile cfg cache store polls stopAt).1 = .ok) (r : Result S)
    (hr : r = (compile cfg cache store polls stopAt).2.1 ∨ (compile cfg cache store polls stopAt).2.2.1 = some r)
    (o : Int) (ho : optOf H cfg.root = some o) (hgt : o > cfg.lb)
    (hbe : ∀ be, r.bestExactValue = some be → be < o) :
    (∃ c ∈ r.cutset, ∃ y, (H c.depth c.state).addI c.value = some y ∧ o ≤ y) ∨
    CacheAlt cfg H B M cache cfg.root.depth o := by
  obtain ⟨fin, Live, dd, e, hx, rfl⟩ := compile_ctx cfg H B p0 cache store polls stopAt hrel hdom hW hP hM hAM hB hroot hok r hr
  rcases compile_root cfg H B M p0 cache hx hR hlb hM0 hMs e o ho hgt with g | ⟨n0, h0, hn0, hov, hp⟩
  · exact .inr g
  · exact .inl ((hx.toG 0).cover_of_path e o n0 h0 hn0 (Int.le_of_eq hov) hp hbe)

end Ddo.Theta

#print axioms Ddo.Theta.Ctx.root_np
#print axioms Ddo.Theta.cached_relaxed_ub
#print axioms Ddo.Theta.cached_exact
#print axioms Ddo.Theta.cached_cover
