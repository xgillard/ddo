import DdoModel.Proofs.ParSysInv
/-! A concrete two-thread run of the concrete parallel system `ParSys`, built step by step from the
    initial state, used for

    * non-vacuity: the hypotheses of the theorems of `Props/C03b.lean` (`PhiOk`, the contracts, the
      initial conditions) are satisfied by a concrete instance, and the run reaches aborted / completed
      states in which the conclusions can be read off;
    * the violation witness of defect D4b: with the `abort_search` formula between fixes D4 and D4b
      (`ParCrit.abortSearchD4`) the same run ends — every worker gone, `maximize()` returns — with
      `best_ub = 10 < 15 = best_lb = opt`.

    The instance: root `R` (potential 15), whose relaxed diagram has the cut-set `{M, N}` with
    `M.ub = 20` (potential 15) and `N.ub = 10` (potential 7).  Thread B takes `M`, thread A takes `N`;
    B's restricted diagram of `M` is exact and finds 15, B updates the incumbent and acknowledges its node
    (`upper_bounds[B] := MIN`); then A's restricted compilation of `N` is cut off and A calls
    `abort_search(N.ub = 10)`: nothing is in the fringe, `upper_bounds = [10, MIN]`. -/
set_option linter.unusedSectionVars false
set_option linter.unusedVariables false
namespace Ddo.ParSys
variable {S : Type} [DecidableEq S]

namespace Wit

def P0 : Problem Nat :=
  { nbVars := 1, init := 0, initVal := 0, trans := fun s _ => s, cost := fun _ _ _ => 0,
    nextVar := fun _ _ => none, domain := fun _ _ => [], impacted := fun _ _ => true }

def R : SubP Nat := { state := 0, value := 0, path := [], ub := iMax, depth := 0 }
def M : SubP Nat := { state := 1, value := 0, path := [], ub := 20, depth := 1 }
def N : SubP Nat := { state := 2, value := 0, path := [], ub := 10, depth := 1 }

def Phi (c : SubP Nat) : EInt :=
  match c.state with
  | 0 => some 15
  | 1 => some 15
  | 2 => some 7
  | _ => none
def opt : Int := 15
def Sol (_ : List Dec) (w : Int) : Prop := w = 15

/-- restricted diagram of the root -/
def r0 : DDOut Nat := { isExact := false, bestExact := none, bestExactSol := none, cutset := [] }
/-- relaxed diagram of the root -/
def x0 : DDOut Nat := { isExact := false, bestExact := none, bestExactSol := none, cutset := [M, N] }
/-- restricted diagram of `M` -/
def rM : DDOut Nat := { isExact := true, bestExact := some 15, bestExactSol := some [⟨0, 1⟩], cutset := [] }

theorem phiOk : PhiOk Phi false := ⟨fun _ _ => rfl, fun h => by cases h⟩

theorem r0_ok (lb : Int) : OkR Phi opt Sol R lb r0 :=
  ⟨(fun w h => by cases h), (fun w h => by cases h), (fun h => by cases h)⟩

theorem x0_ok (lb : Int) : OkX Phi opt Sol R lb x0 := by
  refine ⟨⟨(fun w h => by cases h), (fun w h => by cases h), (fun h => by cases h)⟩, fun _ => ?_⟩
  have hR : Phi R = some 15 := rfl
  have hcut : ∀ c ∈ x0.cutset, ∀ y, Phi c = some y → y ≤ 15 ∧ y ≤ c.ub := by
    intro c hc y hy
    have hc : c ∈ [M, N] := hc
    rcases List.mem_cons.mp hc with rfl | hc
    · obtain rfl : (15 : Int) = y := Option.some.inj hy
      decide
    · obtain rfl : c = N := List.mem_singleton.mp hc
      obtain rfl : (7 : Int) = y := Option.some.inj hy
      decide
  refine ⟨fun c hc y hy => (hcut c hc y hy).1, fun c hc y hy _ => (hcut c hc y hy).2, fun y hy _ _ => ?_,
    fun c hc y hy => ⟨15, hR, (hcut c hc y hy).1⟩⟩
  obtain rfl : (15 : Int) = y := Option.some.inj hy
  exact ⟨M, List.mem_cons_self, 15, rfl, Int.le_refl _⟩

theorem exact15_ok {n : SubP Nat} (hn : Phi n = some 15) (lb : Int) : OkR Phi opt Sol n lb rM := by
  refine ⟨fun w h => ?_, fun w h => ?_, fun _ y hy _ => ?_⟩
  · have h : some (15 : Int) = some w := h
    injection h with h; subst h
    exact ⟨_, rfl, rfl, Int.le_refl _⟩
  · have h : some (15 : Int) = some w := h
    injection h with h; subst h
    exact ⟨15, hn, Int.le_refl _⟩
  · rw [hn] at hy; injection hy with hy; subst hy; rfl

theorem rM_ok (lb : Int) : OkR Phi opt Sol M lb rM := exact15_ok rfl lb

def w0 : Sys Nat := Sys.init P0 none false 2
def w1 : Sys Nat := nItem w0 0 R []
def w2 : Sys Nat := { crit := w1.crit, ws := w1.ws.set 0 (if R.ub ≤ w1.crit.readLb then .fin R false else .compR R w1.crit.readLb) }
def w3 : Sys Nat := { crit := w2.crit, ws := w2.ws.set 0 (WSt.afterR R iMin (.ok r0)) }
def w4 : Sys Nat := { crit := w3.crit.updateBest r0, ws := w3.ws.set 0 (if r0.isExact then .fin R false else .readX R) }
def w5 : Sys Nat := { crit := w4.crit, ws := w4.ws.set 0 (.compX R w4.crit.readLb) }
def w6 : Sys Nat := { crit := w5.crit, ws := w5.ws.set 0 (WSt.afterX R iMin (.ok x0)) }
def w7 : Sys Nat := { crit := w6.crit.updateBest x0, ws := w6.ws.set 0 (if x0.isExact then .fin R false else .enq R iMin x0) }
def w8 : Sys Nat := { crit := w7.crit.enqueue false x0.cutset, ws := w7.ws.set 0 (.fin R false) }
def w9 : Sys Nat := nNotify w8 0 R.depth false
def w10 : Sys Nat := nItem w9 1 M [N]
def w11 : Sys Nat := nItem w10 0 N []
def w12 : Sys Nat := { crit := w11.crit, ws := w11.ws.set 0 (if N.ub ≤ w11.crit.readLb then .fin N false else .compR N w11.crit.readLb) }
def w13 : Sys Nat := { crit := w12.crit, ws := w12.ws.set 1 (if M.ub ≤ w12.crit.readLb then .fin M false else .compR M w12.crit.readLb) }
def w14 : Sys Nat := { crit := w13.crit, ws := w13.ws.set 1 (WSt.afterR M iMin (.ok rM)) }
def w15 : Sys Nat := { crit := w14.crit.updateBest rM, ws := w14.ws.set 1 (if rM.isExact then .fin M false else .readX M) }
def w16 : Sys Nat := nNotify w15 1 M.depth false
def w17 : Sys Nat := { crit := w16.crit, ws := w16.ws.set 0 (WSt.afterR N iMin .cutoff) }


abbrev St (ab : ParCrit Nat → Int → Option Int → ParCrit Nat) : Sys Nat → Sys Nat → Prop :=
  StepG ab false (OkR Phi opt Sol) (OkX Phi opt Sol)

section
variable (ab : ParCrit Nat → Int → Option Int → ParCrit Nat)

theorem s1 : St ab w0 w1 :=
  step_item w0 0 R [] rfl rfl ⟨List.Perm.refl _, fun c hc => by cases hc⟩ (by decide) (by decide)
theorem s2 : St ab w1 w2 := StepG.readLbR w1 0 R rfl
theorem s3 : St ab w2 w3 := StepG.compileR w2 0 R iMin (.ok r0) rfl (fun o h => by injection h with h; subst h; exact r0_ok _)
theorem s4 : St ab w3 w4 := StepG.updateR w3 0 R iMin r0 rfl
theorem s5 : St ab w4 w5 := StepG.readLbX w4 0 R rfl
theorem s6 : St ab w5 w6 := StepG.compileX w5 0 R iMin (.ok x0) rfl (fun o h => by injection h with h; subst h; exact x0_ok _)
theorem s7 : St ab w6 w7 := StepG.updateX w6 0 R iMin x0 rfl
theorem s8 : St ab w7 w8 := StepG.enqueue w7 0 R iMin x0 rfl
theorem s9 : St ab w8 w9 := step_notify w8 0 R false rfl (by decide)


theorem fr9 : w9.crit.base.fringe = [N, M] := rfl

theorem s10 : St ab w9 w10 := by
  refine step_item w9 1 M [N] rfl rfl ⟨?_, fun c hc => ?_⟩ (by decide) (by decide)
  · rw [fr9]; exact List.Perm.swap M N []
  · have : c = N := by simpa using hc
    subst this; decide

theorem fr10 : w10.crit.base.fringe = [N] := rfl

theorem s11 : St ab w10 w11 :=
  step_item w10 0 N [] rfl rfl ⟨by rw [fr10], fun c hc => by cases hc⟩ (by decide) (by decide)
theorem s12 : St ab w11 w12 := StepG.readLbR w11 0 N rfl
theorem s13 : St ab w12 w13 := StepG.readLbR w12 1 M rfl
theorem s14 : St ab w13 w14 := StepG.compileR w13 1 M iMin (.ok rM) rfl (fun o h => by injection h with h; subst h; exact rM_ok _)
theorem s15 : St ab w14 w15 := StepG.updateR w14 1 M iMin rM rfl
theorem s16 : St ab w15 w16 := step_notify w15 1 M false rfl (by decide)
theorem s17 : St ab w16 w17 := StepG.compileR w16 0 N iMin .cutoff rfl (fun o h => by cases h)

/-- the state in which thread A is about to call `abort_search` is reachable, whatever the formula -/
theorem run17 : RunG ab false (OkR Phi opt Sol) (OkX Phi opt Sol) w0 w17 :=
  (s1 ab).head <| (s2 ab).head <| (s3 ab).head <| (s4 ab).head <| (s5 ab).head <| (s6 ab).head <| (s7 ab).head <|
  (s8 ab).head <| (s9 ab).head <| (s10 ab).head <| (s11 ab).head <| (s12 ab).head <| (s13 ab).head <| (s14 ab).head <|
  (s15 ab).head <| (s16 ab).head <| (s17 ab).head <| RunG.refl _

theorem at17 : w17.ws = [.abortS N, .idle] ∧ w17.crit.base.bestLb = 15 ∧ w17.crit.base.fringe = [] ∧
    w17.crit.upperBounds = [10, iMin] ∧ w17.crit.base.abort = false ∧ w17.crit.ongoing = 1 :=
  ⟨rfl, rfl, rfl, rfl, rfl, rfl⟩


def w18 : Sys Nat := { crit := ab w17.crit N.ub none, ws := w17.ws.set 0 (.fin N true) }
def w19 : Sys Nat := nNotify (w18 ab) 0 N.depth true
def w20 : Sys Nat := { crit := (w19 ab).crit, ws := (w19 ab).ws.set 1 .done }

theorem s18 : St ab w17 (w18 ab) := StepG.abort w17 0 N none rfl (Or.inl ⟨rfl, rfl⟩)

/-- the whole run, for a formula that raises the abort flag and leaves `ongoing` alone -/
theorem run20 (hn : ((w18 ab).crit.notifyFinished 0 N.depth).isSome = true) (ha : (w19 ab).crit.base.abort = true) :
    RunG ab false (OkR Phi opt Sol) (OkX Phi opt Sol) w0 (w20 ab) :=
  RunG.tail (RunG.tail (RunG.tail (run17 ab) (s18 ab)) (step_notify _ 0 N true rfl hn)) (StepG.gwAborted _ 1 rfl ha)

end

theorem runD4 : RunG ParCrit.abortSearchD4 false (OkR Phi opt Sol) (OkX Phi opt Sol) w0 (w20 ParCrit.abortSearchD4) :=
  run20 _ (by decide) rfl

/-- **finding** (D4b): with the formula between fixes D4 and D4b the run ends, every worker gone, with
    `best_ub = 10 < 15 = best_lb = opt` -/
theorem endD4 : (w20 ParCrit.abortSearchD4).ws = [.done, .done] ∧ (w20 ParCrit.abortSearchD4).crit.base.abort = true ∧
    (w20 ParCrit.abortSearchD4).crit.base.bestLb = 15 ∧ (w20 ParCrit.abortSearchD4).crit.base.bestUb = 10 :=
  ⟨rfl, rfl, rfl, rfl⟩

theorem runNow : Run false (OkR Phi opt Sol) (OkX Phi opt Sol) w0 (w20 ParCrit.abortSearch) :=
  run20 _ (by decide) rfl

/-- with the `abort_search` of the code (`ParCrit.abortSearch`, after fix D4b) the same schedule ends with `best_lb = best_ub = 15 = opt` -/
theorem endNow : (w20 ParCrit.abortSearch).ws = [.done, .done] ∧ (w20 ParCrit.abortSearch).crit.base.abort = true ∧
    (w20 ParCrit.abortSearch).crit.base.bestLb = 15 ∧ (w20 ParCrit.abortSearch).crit.base.bestUb = 15 :=
  ⟨rfl, rfl, rfl, rfl⟩

theorem inv_init (U : Nat) : SysInv Phi opt Sol (Sys.init P0 none false U) :=
  init_inv Phi opt Sol P0 none false U (fun x hx => by
      have hx : some (15 : Int) = some x := hx
      injection hx with hx; subst hx; exact Int.le_refl _)
    (by decide) (by decide) (fun p hp => by cases hp) (fun _ => rfl)

theorem inv0 : SysInv Phi opt Sol w0 := inv_init 2

/-! ### a run that completes: one thread, the restricted diagram of the root is exact -/

def rR : DDOut Nat := { isExact := true, bestExact := some 15, bestExactSol := some [⟨0, 1⟩], cutset := [] }

theorem rR_ok (lb : Int) : OkR Phi opt Sol R lb rR := exact15_ok rfl lb

def c0 : Sys Nat := Sys.init P0 none false 1
def c1 : Sys Nat := nItem c0 0 R []
def c2 : Sys Nat := { crit := c1.crit, ws := c1.ws.set 0 (if R.ub ≤ c1.crit.readLb then .fin R false else .compR R c1.crit.readLb) }
def c3 : Sys Nat := { crit := c2.crit, ws := c2.ws.set 0 (WSt.afterR R iMin (.ok rR)) }
def c4 : Sys Nat := { crit := c3.crit.updateBest rR, ws := c3.ws.set 0 (if rR.isExact then .fin R false else .readX R) }
def c5 : Sys Nat := nNotify c4 0 R.depth false

theorem runC : Run false (OkR Phi opt Sol) (OkX Phi opt Sol) c0 c5 := by
  have h1 : St ParCrit.abortSearch c0 c1 :=
    step_item c0 0 R [] rfl rfl ⟨List.Perm.refl _, fun c hc => by cases hc⟩ (by decide) (by decide)
  have h2 : St ParCrit.abortSearch c1 c2 := StepG.readLbR c1 0 R rfl
  have h3 : St ParCrit.abortSearch c2 c3 :=
    StepG.compileR c2 0 R iMin (.ok rR) rfl (fun o h => by injection h with h; subst h; exact rR_ok _)
  have h4 : St ParCrit.abortSearch c3 c4 := StepG.updateR c3 0 R iMin rR rfl
  have h5 : St ParCrit.abortSearch c4 c5 := step_notify c4 0 R false rfl (by decide)
  exact RunG.tail (RunG.tail (RunG.tail (RunG.tail (RunG.tail (RunG.refl _) h1) h2) h3) h4) h5

theorem completesC : CompletesAt c5 0 := ⟨rfl, rfl, rfl, rfl⟩

theorem invC0 : SysInv Phi opt Sol c0 := inv_init 1

end Wit
end Ddo.ParSys
