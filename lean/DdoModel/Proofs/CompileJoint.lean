import DdoModel.Proofs.CacheClosedRestr
import DdoModel.Proofs.DomSound
/-! One compilation, every configuration: facts that hold whatever the cache holds, whatever the store holds and whatever the rule is
(`cfg.useCache` and `cfg.dom` arbitrary), because neither filter (`_filter_with_cache`, then `_filter_with_dominance`) touches what these
facts read — a node that survives both filters is a node of `dd.next` up to the fields `cache` / `theta` (`fdOf_node`).  The loop therefore has
one induction principle for all configurations (`buildLoop_rec_joint`, `buildLoop_ind_joint`), and no crash, the invariant `G2` of
`Proofs/MddTruth.lean` (the arcs into nodes not flagged relaxed are genuine) with the soundness of the reported exact value, the flags of the
bottom-up passes staying down during the top-down build (`FInv`) and the range of the emitted `update_threshold`s are proved once by it.

The caching solver without checker reads them at `cfg.dom = none` (`Ddo.CacheClosed.buildLoop_g2_cached`, `ebpMust_sound_cached`,
`isSol_relaxed_cached`, at the end). -/
set_option linter.unusedSectionVars false
set_option linter.unusedVariables false

namespace Ddo.C10
open Ddo Ddo.Truth
variable {S : Type} [DecidableEq S]

theorem ess_of_stripT {a b : Node S} (h : Bounds.stripT a = Bounds.stripT b) : Ess a b := by
  have h1 := congrArg Node.state h
  have h2 := congrArg Node.value h
  have h3 := congrArg Node.best h
  have h4 := congrArg Node.inb h
  have h5 := congrArg Node.fRelaxed h
  have h6 := congrArg Node.fExact h
  simp only [Bounds.stripT] at h1 h2 h3 h4 h5 h6
  exact ⟨h1, h2, h3, h4, h5, h6⟩

end Ddo.C10

namespace Ddo.C10c
open Ddo Ddo.C01 Ddo.Closed Ddo.C10 Ddo.Truth
variable {S K : Type} [DecidableEq S] [DecidableEq K]

theorem stepLayer_joint (cfg : Cfg S K) (dd : DD S K) (var : Nat) (hne : dd.next ≠ []) :
    ((CacheClosed.fdOf cfg dd).2.2.2 = false → stepLayer cfg dd var = (none, .crash)) ∧
    ((CacheClosed.fdOf cfg dd).2.2.2 = true →
      (squash cfg dd (CacheClosed.fdOf cfg dd).1 (CacheClosed.fdOf cfg dd).2.1 = none →
        stepLayer cfg dd var = (none, .crash)) ∧
      ∀ sq, squash cfg dd (CacheClosed.fdOf cfg dd).1 (CacheClosed.fdOf cfg dd).2.1 = some sq →
        ∃ dd', stepLayer cfg dd var = (some dd', .ok) ∧
          dd'.layers = dd.layers ++ [(expandAll cfg var dd.layers.length sq.1 sq.2.1 sq.2.2.1).1] ∧
          dd'.next = (expandAll cfg var dd.layers.length sq.1 sq.2.1 sq.2.2.1).2.1 ∧
          dd'.depth = dd.depth + 1 ∧ dd'.lel = sq.2.2.2 ∧ dd'.store = (CacheClosed.fdOf cfg dd).2.2.1 ∧
          dd'.cache = dd.cache) := by
  have h1 : dd.next.isEmpty = false := by
    cases h : dd.next with
    | nil => exact absurd h hne
    | cons _ _ => rfl
  unfold stepLayer CacheClosed.fdOf Theta.fcOf
  simp only [h1, Bool.false_eq_true, if_false]
  generalize (if dd.layers.isEmpty = true then (dd.next, List.range dd.next.length)
      else filterCache cfg dd.cache dd.next (List.range dd.next.length)) = fc
  generalize filterDom cfg dd.store fc.1 fc.2 = fd
  obtain ⟨l, c, st, ok⟩ := fd
  refine ⟨fun h => ?_, fun h => ⟨fun hsq => ?_, fun sq hsq => ?_⟩⟩
  · dsimp only at h
    subst h
    rfl
  · dsimp only at h hsq
    subst h
    simp only [hsq]
    rfl
  · dsimp only at h hsq
    subst h
    simp only [hsq]
    exact ⟨_, rfl, rfl, rfl, rfl, rfl, rfl, rfl⟩

/-- a node of the cache-filtered layer is a node of `dd.next` up to the fields `cache` / `theta` -/
theorem fcOf_node (cfg : Cfg S K) (dd : DD S K) :
    ∀ m ∈ (Theta.fcOf cfg dd).1, ∃ n00 ∈ dd.next, Ess n00 m ∧ m.depth = n00.depth ∧ m.cutset = n00.cutset ∧
      m.above = n00.above ∧ m.marked = n00.marked := by
  obtain ⟨g, keep, hl, _, _, hg, _⟩ := Theta.fcOf_desc cfg dd
  intro m hm
  rw [hl] at hm
  obtain ⟨n00, h00, rfl⟩ := List.mem_map.1 hm
  refine ⟨n00, h00, ?_⟩
  rcases hg n00 with ⟨_, e⟩ | ⟨_, t, _, _, e⟩
  · rw [e]; exact ⟨⟨rfl, rfl, rfl, rfl, rfl, rfl⟩, rfl, rfl, rfl, rfl⟩
  · rw [e]; exact ⟨⟨rfl, rfl, rfl, rfl, rfl, rfl⟩, rfl, rfl, rfl, rfl⟩

theorem fcOf_cur_lt (cfg : Cfg S K) (dd : DD S K) : ∀ p ∈ (Theta.fcOf cfg dd).2, p < (Theta.fcOf cfg dd).1.length := by
  obtain ⟨g, keep, hl, hk, _⟩ := Theta.fcOf_desc cfg dd
  intro p hp
  obtain ⟨n, hn, _⟩ := (hk p).1 hp
  rw [hl, List.length_map]
  exact Cover.lt_of_getElem?_some hn

theorem fcOf_exact_reach (cfg : Cfg S K) (B : Int) (p0 : List Dec) (dd : DD S K) (hM : MInv cfg B p0 dd)
    (hdepth : dd.depth = cfg.root.depth + dd.layers.length) :
    ∀ n ∈ (Theta.fcOf cfg dd).1, n.isExact = true → (∃ p, Reach cfg.P n.depth n.state n.value p) ∧ n.depth = dd.depth := by
  intro n hn he
  obtain ⟨n00, h00, e00, d00, _⟩ := fcOf_node cfg dd n hn
  obtain ⟨q, _, hr, hd, _⟩ := hM.next n00 h00 (by rw [ess_isExact e00]; exact he)
  refine ⟨⟨p0 ++ q, ?_⟩, ?_⟩
  · rw [d00, ← e00.1, ← e00.2.1]; exact hr
  · rw [d00, hd, ← hdepth]

/-- `filterDom_weak` for any `cfg.dom` -/
theorem filterDom_weak' (cfg : Cfg S K) (store : DomStore S K) (layer : List (Node S)) (cur : List Nat) :
    ThEq (filterDom cfg store layer cur).1 layer ∧
    (filterDom cfg store layer cur).2.1.length ≤ cur.length ∧
    ((∀ n ∈ layer, n.isExact = true → n.depth < store.layers.length) →
      (filterDom cfg store layer cur).2.2.2 = true ∧
      (filterDom cfg store layer cur).2.2.1.layers.length = store.layers.length) := by
  cases hD : cfg.dom with
  | none =>
    have : filterDom cfg store layer cur = (layer, cur, store, true) := by
      unfold filterDom; simp only [hD]
    rw [this]
    exact ⟨ThEq.refl _, Nat.le_refl _, fun _ => ⟨rfl, rfl⟩⟩
  | some D => exact filterDom_weak cfg D hD store layer cur

/-- a node of the layer after both filters is a node of `dd.next` up to `cache` / `theta` -/
theorem fdOf_node (cfg : Cfg S K) (dd : DD S K) :
    ∀ m ∈ (CacheClosed.fdOf cfg dd).1, ∃ n00 ∈ dd.next, Ess n00 m ∧ m.depth = n00.depth ∧ m.cutset = n00.cutset ∧
      m.above = n00.above ∧ m.marked = n00.marked := by
  intro m hm
  obtain ⟨i, hi⟩ := List.mem_iff_getElem?.1 hm
  obtain ⟨n0, h0, hs⟩ := (filterDom_weak' cfg dd.store (Theta.fcOf cfg dd).1 (Theta.fcOf cfg dd).2).1.get hi
  obtain ⟨n00, h00, e00, d00, c00, a00, m00⟩ := fcOf_node cfg dd n0 (List.mem_of_getElem? h0)
  obtain ⟨_, _, _, hd, _, _⟩ := Bounds.stripT_fields hs
  obtain ⟨_, hc, _, _, ha, _, _⟩ := Theta.stripT_more hs
  have hm : m.marked = n0.marked := by
    have := congrArg Node.marked hs
    simpa only [Bounds.stripT] using this
  exact ⟨n00, h00, e00.trans (ess_of_stripT hs.symm), by rw [hd, d00], by rw [hc, c00], by rw [ha, a00], by rw [hm, m00]⟩

/-- `J` is kept by every successful layer step (and is insensitive to the log / the poll counter); `T` is what is wanted of
    the diagram and the outcome the loop returns: out of fuel, no variable left, an empty layer, a panic in one of the filters
    or in `squash` -/
theorem buildLoop_rec_joint (cfg : Cfg S K) (J : Nat → DD S K → Prop) (T : DD S K × Outcome → Prop)
    (htick : ∀ f dd var, J f dd → J f (tick dd var))
    (hzero : ∀ dd, J 0 dd → T (dd, .crash))
    (hnone : ∀ f dd, J (f + 1) dd → cfg.P.nextVar dd.depth (dd.next.map (·.state)) = none →
      T ({ dd with log := Call.nextVar dd.depth (dd.next.map (·.state)) none :: dd.log }, .ok))
    (hempty : ∀ f (dd : DD S K), J (f + 1) dd → dd.next = [] → T ({ dd with layers := dd.layers ++ [[]] }, .ok))
    (hcrash : ∀ f dd var, J (f + 1) dd → cfg.P.nextVar dd.depth (dd.next.map (·.state)) = some var → dd.next ≠ [] →
      ((CacheClosed.fdOf cfg dd).2.2.2 = false ∨
        squash cfg dd (CacheClosed.fdOf cfg dd).1 (CacheClosed.fdOf cfg dd).2.1 = none) → T (dd, .crash))
    (hstep : ∀ f dd var sq dd', J (f + 1) dd → cfg.P.nextVar dd.depth (dd.next.map (·.state)) = some var → dd.next ≠ [] →
      (CacheClosed.fdOf cfg dd).2.2.2 = true →
      squash cfg dd (CacheClosed.fdOf cfg dd).1 (CacheClosed.fdOf cfg dd).2.1 = some sq →
      stepLayer cfg dd var = (some dd', .ok) →
      dd'.layers = dd.layers ++ [(expandAll cfg var dd.layers.length sq.1 sq.2.1 sq.2.2.1).1] →
      dd'.next = (expandAll cfg var dd.layers.length sq.1 sq.2.1 sq.2.2.1).2.1 →
      dd'.depth = dd.depth + 1 → dd'.store = (CacheClosed.fdOf cfg dd).2.2.1 → dd'.cache = dd.cache → J f dd') :
    ∀ (fuel : Nat) (dd : DD S K), J fuel dd → T (buildLoop cfg none fuel dd) := by
  intro fuel
  induction fuel with
  | zero => intro dd hJ; exact hzero dd hJ
  | succ fuel ih =>
    intro dd hJ
    cases hnv : cfg.P.nextVar dd.depth (dd.next.map (·.state)) with
    | none =>
      rw [CacheClosed.buildLoop_none cfg none fuel dd hnv]
      exact hnone fuel dd hJ hnv
    | some var =>
      have hJ1 : J (fuel + 1) (tick dd var) := htick _ dd var hJ
      rw [buildLoop_step cfg fuel dd var hnv]
      by_cases hne : (tick dd var).next = []
      · rw [stepLayer_empty cfg _ var hne]
        exact hempty fuel _ hJ1 hne
      · obtain ⟨s0, s2⟩ := stepLayer_joint cfg (tick dd var) var hne
        cases hokd : (CacheClosed.fdOf cfg (tick dd var)).2.2.2 with
        | false =>
          rw [s0 hokd]
          exact hcrash fuel _ var hJ1 hnv hne (.inl hokd)
        | true =>
          obtain ⟨s1, s2⟩ := s2 hokd
          cases hsq : squash cfg (tick dd var) (CacheClosed.fdOf cfg (tick dd var)).1
              (CacheClosed.fdOf cfg (tick dd var)).2.1 with
          | none =>
            rw [s1 hsq]
            exact hcrash fuel _ var hJ1 hnv hne (.inr hsq)
          | some sq =>
            obtain ⟨dd', hst, hl, hn, hdd, _, hsto, hca⟩ := s2 sq hsq
            rw [hst]
            exact ih dd' (hstep fuel (tick dd var) var sq dd' hJ1 hnv hne hokd hsq hst hl hn hdd hsto hca)

/-- `J` is kept by every successful layer step; `T` is what is wanted of the diagram the loop returns, whatever its outcome -/
theorem buildLoop_ind_joint (cfg : Cfg S K) (J : Nat → DD S K → Prop) (T : DD S K → Prop)
    (htick : ∀ f dd var, J f dd → J f (tick dd var))
    (hJT : ∀ f dd, J f dd → T dd)
    (hnone : ∀ f dd, J (f + 1) dd → T { dd with log := Call.nextVar dd.depth (dd.next.map (·.state)) none :: dd.log })
    (hempty : ∀ f (dd : DD S K), J (f + 1) dd → dd.next = [] → T { dd with layers := dd.layers ++ [[]] })
    (hstep : ∀ f dd var sq dd', J (f + 1) dd → cfg.P.nextVar dd.depth (dd.next.map (·.state)) = some var → dd.next ≠ [] →
      squash cfg dd (CacheClosed.fdOf cfg dd).1 (CacheClosed.fdOf cfg dd).2.1 = some sq →
      stepLayer cfg dd var = (some dd', .ok) →
      dd'.layers = dd.layers ++ [(expandAll cfg var dd.layers.length sq.1 sq.2.1 sq.2.2.1).1] →
      dd'.next = (expandAll cfg var dd.layers.length sq.1 sq.2.1 sq.2.2.1).2.1 →
      dd'.depth = dd.depth + 1 → dd'.cache = dd.cache → J f dd') :
    ∀ (fuel : Nat) (dd : DD S K), J fuel dd → T (buildLoop cfg none fuel dd).1 :=
  buildLoop_rec_joint cfg J (fun r => T r.1) htick (hJT 0) (fun f dd h _ => hnone f dd h) hempty
    (fun f dd _ h _ _ _ => hJT _ dd h)
    (fun f dd var sq dd' h hnv hne _ hsq hst hl hn hd _ hc => hstep f dd var sq dd' h hnv hne hsq hst hl hn hd hc)

/-- `_filter_with_dominance` on the cache-filtered layer of a diagram satisfying `MInv`, the store having `nb_variables + 1`
    layers: no panic (the checker is queried at depths `≤ nb_variables` only), the store keeps its layers -/
theorem fdOf_ok_joint (cfg : Cfg S K) (B : Int) (p0 : List Dec) (dd : DD S K) (hM : MInv cfg B p0 dd)
    (hdepth : dd.depth = cfg.root.depth + dd.layers.length) (hS : dd.store.layers.length = cfg.P.nbVars + 1)
    (h1 : dd.depth ≤ cfg.P.nbVars) :
    (CacheClosed.fdOf cfg dd).2.2.2 = true ∧ (CacheClosed.fdOf cfg dd).2.2.1.layers.length = cfg.P.nbVars + 1 ∧
    (CacheClosed.fdOf cfg dd).2.1.length ≤ (Theta.fcOf cfg dd).2.length := by
  have hdep : ∀ n ∈ (Theta.fcOf cfg dd).1, n.isExact = true → n.depth < dd.store.layers.length := by
    intro n hn he
    rw [hS, (fcOf_exact_reach cfg B p0 dd hM hdepth n hn he).2]; exact Nat.lt_succ_of_le h1
  obtain ⟨_, f2, f3⟩ := filterDom_weak' cfg dd.store (Theta.fcOf cfg dd).1 (Theta.fcOf cfg dd).2
  obtain ⟨f4, f5⟩ := f3 hdep
  exact ⟨f4, f5.trans hS, f2⟩

theorem buildLoop_no_crash_joint (cfg : Cfg S K) (B : Int) (p0 : List Dec)
    (hW : 1 ≤ cfg.width) (hNV : NvBound cfg.P) (hB : NoClamp cfg.P cfg.R cfg.root.value B) :
    ∀ (fuel : Nat) (dd : DD S K), MInv cfg B p0 dd → dd.depth = cfg.root.depth + dd.layers.length →
      dd.store.layers.length = cfg.P.nbVars + 1 → (dd.layers = [] → dd.next.length ≤ 1) → dd.depth ≤ cfg.P.nbVars →
      cfg.P.nbVars + 1 ≤ dd.depth + fuel →
      (buildLoop cfg none fuel dd).2 = .ok ∧ (buildLoop cfg none fuel dd).1.store.layers.length = cfg.P.nbVars + 1 := by
  intro fuel dd hM hdepth hS hJ h1 h2
  refine buildLoop_rec_joint cfg
    (fun f dd => MInv cfg B p0 dd ∧ dd.depth = cfg.root.depth + dd.layers.length ∧
      dd.store.layers.length = cfg.P.nbVars + 1 ∧ (dd.layers = [] → dd.next.length ≤ 1) ∧ dd.depth ≤ cfg.P.nbVars ∧
      cfg.P.nbVars + 1 ≤ dd.depth + f)
    (fun r => r.2 = .ok ∧ r.1.store.layers.length = cfg.P.nbVars + 1) ?_ ?_ ?_ ?_ ?_ ?_ fuel dd ⟨hM, hdepth, hS, hJ, h1, h2⟩
  · intro f dd var h; exact ⟨h.1.congr rfl rfl, h.2⟩
  · intro dd h; exact absurd (Nat.le_trans h.2.2.2.2.2 h.2.2.2.2.1) (Nat.not_succ_le_self _)
  · intro f dd h _; exact ⟨rfl, h.2.2.1⟩
  · intro f dd h _; exact ⟨rfl, h.2.2.1⟩
  · intro f dd var ⟨hM, hdepth, hS, hJ, h1, _⟩ _ _ hbad
    obtain ⟨f4, _, f2⟩ := fdOf_ok_joint cfg B p0 dd hM hdepth hS h1
    rcases hbad with hb | hb
    · rw [f4] at hb; cases hb
    · refine absurd hb (Cover.squash_ne_none' cfg dd _ _ hW (fun hl => ?_))
      rw [CacheClosed.fcOf_first cfg _ hl] at f2
      exact Nat.le_trans f2 (hJ hl)
  · intro f dd var sq dd' ⟨hM, hdepth, hS, hJ, h1, h2⟩ hnv _ _ _ hst hl _ hdp hsto _
    have hlt : dd.depth < cfg.P.nbVars := nv_depth_lt hNV hnv
    obtain ⟨_, f5, _⟩ := fdOf_ok_joint cfg B p0 dd hM hdepth hS h1
    have hll : dd.layers.length ≤ cfg.P.nbVars + 1 := by
      rw [hdepth] at h1
      exact Nat.le_succ_of_le (Nat.le_trans (Nat.le_add_left _ _) h1)
    obtain ⟨m1, m2, _⟩ := Ddo.stepLayer_inv cfg B p0 hB dd var hM hdepth hnv hll dd' .ok hst
    refine ⟨m1, (m2 rfl).1, by rw [hsto]; exact f5, fun h => ?_, by rw [hdp]; exact hlt, ?_⟩
    · rw [hl] at h; simp at h
    · rw [hdp, Nat.add_right_comm]; exact h2

theorem compile_store (cfg : Cfg S K) (cache : Cache S) (store : DomStore S K) (polls : Nat) (stopAt : Option Nat) :
    (compile cfg cache store polls stopAt).2.2.2 =
      (buildLoop cfg stopAt (cfg.P.nbVars + 2) (initDD cfg cache store polls)).1 := by
  unfold compile
  generalize buildLoop cfg stopAt (cfg.P.nbVars + 2) (initDD cfg cache store polls) = bl
  obtain ⟨dd, oc⟩ := bl
  cases oc <;> rfl

/-- **no crash, cache and checker enabled**, whatever the cache and the `nb_variables + 1` layers of the checker hold; the checker
    the compilation leaves still has `nb_variables + 1` layers -/
theorem compile_no_crash_joint (cfg : Cfg S K) (B : Int) (p0 : List Dec)
    (cache : Cache S) (store : DomStore S K) (polls : Nat)
    (hW : 1 ≤ cfg.width) (hNV : NvBound cfg.P)
    (hB : NoClamp cfg.P cfg.R cfg.root.value B)
    (hroot : Reach cfg.P cfg.root.depth cfg.root.state cfg.root.value p0)
    (hlen : store.layers.length = cfg.P.nbVars + 1) :
    (compile cfg cache store polls none).1 = .ok ∧
    (compile cfg cache store polls none).2.2.2.store.layers.length = cfg.P.nbVars + 1 := by
  rw [compile_fst, compile_store]
  have hdepth := reach_depth_le hNV hroot
  refine buildLoop_no_crash_joint cfg B p0 hW hNV hB _ _ (initDD_inv cfg B p0 hB hroot cache store polls) rfl hlen
    ?_ hdepth ?_
  · intro _; simp [initDD]
  · show cfg.P.nbVars + 1 ≤ cfg.root.depth + (cfg.P.nbVars + 2)
    exact Nat.le_trans (Nat.le_succ _) (Nat.le_add_left _ _)

theorem buildLoop_len_joint (cfg : Cfg S K) (N : Nat) :
    ∀ (fuel : Nat) (dd : DD S K), dd.layers.length + fuel ≤ N → (buildLoop cfg none fuel dd).1.layers.length ≤ N := by
  refine buildLoop_ind_joint cfg (fun f dd => dd.layers.length + f ≤ N) (fun dd => dd.layers.length ≤ N) ?_ ?_ ?_ ?_ ?_
  · intro f dd var h; exact h
  · intro f dd h; exact Nat.le_trans (Nat.le_add_right _ f) h
  · intro f dd h; exact Nat.le_trans (Nat.le_add_right _ (f + 1)) h
  · intro f dd h _
    show (dd.layers ++ [[]]).length ≤ N
    rw [List.length_append, List.length_singleton]
    exact Nat.le_trans (Nat.add_le_add_left (Nat.succ_le_succ (Nat.zero_le f)) _) h
  · intro f dd var sq dd' h _ _ _ _ hl _ _ _
    show dd'.layers.length + f ≤ N
    rw [hl, List.length_append, List.length_singleton, Nat.add_right_comm]; exact h

/-- the build keeps `G2` with cache and checker, from any diagram and whatever the outcome of the loop (`Truth.stepLayer_g2`
    layer by layer; for a build that ends normally from an initial diagram also `Chain.g2` along `joint_ended`) -/
theorem buildLoop_g2_joint (cfg : Cfg S K) (hrel : cfg.ctype = .relaxed) (hW : 1 ≤ cfg.width) :
    ∀ (fuel : Nat) (dd : DD S K), G2 cfg dd → dd.depth = cfg.root.depth + dd.layers.length →
      G2 cfg (buildLoop cfg none fuel dd).1 := by
  intro fuel dd hG hdepth
  refine buildLoop_ind_joint cfg (fun _ dd => G2 cfg dd ∧ dd.depth = cfg.root.depth + dd.layers.length) (G2 cfg)
    ?_ ?_ ?_ ?_ ?_ fuel dd ⟨hG, hdepth⟩
  · intro _ dd var h; exact ⟨h.1.congr rfl rfl, h.2⟩
  · intro _ dd h; exact h.1
  · intro _ dd h; exact h.1.congr rfl rfl
  · intro _ dd h hne
    refine ⟨?_, ?_⟩
    · exact gOk_append_layer h.1.layers (fun n hn => by cases hn)
    · intro n hn
      have : n ∈ dd.next := hn
      rw [hne] at this; cases this
  · intro _ dd var sq dd' h hnv hne hsq hst hl hn hdd _
    refine ⟨stepLayer_g2 cfg hrel hW dd dd' var _ _ (fun m hm => ?_) h.1 h.2 hnv sq hsq hl hn, ?_⟩
    · obtain ⟨n00, h00, e00, _⟩ := fdOf_node cfg dd m hm
      exact ⟨n00, h00, e00⟩
    · rw [hdd, hl, List.length_append, List.length_singleton, h.2, Nat.add_assoc]

theorem compile_inv2 (cfg : Cfg S K) (B : Int) (p0 : List Dec) (hB : NoClamp cfg.P cfg.R cfg.root.value B)
    (hroot : Reach cfg.P cfg.root.depth cfg.root.state cfg.root.value p0) (cache : Cache S) (store : DomStore S K)
    (polls : Nat) :
    MInv cfg B p0 (buildLoop cfg none (cfg.P.nbVars + 2) (initDD cfg cache store polls)).1 ∧
    Inv2 cfg (buildLoop cfg none (cfg.P.nbVars + 2) (initDD cfg cache store polls)).1 :=
  buildLoop_inv2 cfg B p0 hB none (cfg.P.nbVars + 2) (initDD cfg cache store polls)
    (initDD_inv cfg B p0 hB hroot cache store polls) (initDD_inv2 cfg cache store polls) rfl (Nat.le_of_eq (Nat.zero_add _))

/-- with any cache, any store and any rule the two filters are framed (`fdOf_node`): a loop that ends normally is a chain of layer
    steps (`Proofs/BuildChain.lean`) -/
theorem joint_ended (cfg : Cfg S K) (B : Int) (p0 : List Dec) (hB : NoClamp cfg.P cfg.R cfg.root.value B)
    (hroot : Reach cfg.P cfg.root.depth cfg.root.state cfg.root.value p0) (cache : Cache S) (store : DomStore S K) (polls : Nat)
    (hok : (buildLoop cfg none (cfg.P.nbVars + 2) (initDD cfg cache store polls)).2 = .ok) :
    Ended cfg (fun _ _ _ => True) B p0 (buildLoop cfg none (cfg.P.nbVars + 2) (initDD cfg cache store polls)).1 :=
  buildLoop_ended_frame cfg B p0 hB (fun dd m hm => by
    obtain ⟨n, hn, e, hd, _⟩ := fdOf_node cfg dd m hm
    exact ⟨n, hn, e, hd⟩) cache store polls hroot hok

/-- `Truth.ebpMust_sound` with cache and checker -/
theorem ebpMust_sound_joint (cfg : Cfg S K) (B : Int) (p0 : List Dec)
    (hrel : cfg.ctype = .relaxed) (hW : 1 ≤ cfg.width)
    (hB : NoClamp cfg.P cfg.R cfg.root.value B)
    (hroot : Reach cfg.P cfg.root.depth cfg.root.state cfg.root.value p0)
    (cache : Cache S) (store : DomStore S K) (polls : Nat)
    (hok : (buildLoop cfg none (cfg.P.nbVars + 2) (initDD cfg cache store polls)).2 = .ok)
    (hmust : (finalizeLayers (buildLoop cfg none (cfg.P.nbVars + 2) (initDD cfg cache store polls)).1).ebpMust true = true)
    (w : Int)
    (hw : (finalize cfg (finalizeLayers (buildLoop cfg none (cfg.P.nbVars + 2) (initDD cfg cache store polls)).1) true).1.bestExactValue
      = some w) :
    Truthful cfg p0 w (finalize cfg (finalizeLayers (buildLoop cfg none (cfg.P.nbVars + 2) (initDD cfg cache store polls)).1) true).1 :=
  (joint_ended cfg B p0 hB hroot cache store polls hok).ebpMust_sound hrel hW hB hroot hmust w hw

/-- **soundness of the reported exact value of a relaxed compilation with cache and checker** (nothing is assumed of the
    cache, of the store or of the rule): the `must` result reports as best exact value the value of the reported best exact
    solution, a complete feasible path through the root sub-problem -/
theorem isSol_relaxed_joint (cfg : Cfg S K) (B : Int) (p0 : List Dec)
    (cache : Cache S) (store : DomStore S K) (polls : Nat)
    (hrel : cfg.ctype = .relaxed) (hW : 1 ≤ cfg.width)
    (hB : NoClamp cfg.P cfg.R cfg.root.value B)
    (hroot : Reach cfg.P cfg.root.depth cfg.root.state cfg.root.value p0)
    (hok : (compile cfg cache store polls none).1 = .ok) (w : Int)
    (hw : (compile cfg cache store polls none).2.1.bestExactValue = some w) :
    IsSol cfg p0 w (compile cfg cache store polls none).2.1.bestExactSol := by
  obtain ⟨hbl, _, hres'⟩ := Ddo.compile_ok cfg cache store polls none hok
  have e2 : (cfg.ctype == CompType.relaxed) = true := by rw [hrel]; decide
  rw [e2] at hres'
  rw [hres'] at hw ⊢
  cases hm : (finalizeLayers (buildLoop cfg none (cfg.P.nbVars + 2) (initDD cfg cache store polls)).1).ebpMust true with
  | false =>
    rw [hm] at hw
    exact bestExact_sol_false cfg B p0 hB hroot cache store polls none hbl w hw
  | true =>
    rw [hm] at hw
    exact (ebpMust_sound_joint cfg B p0 hrel hW hB hroot cache store polls hbl hm w hw).exactSol

def FlagOk (n : Node S) : Prop := n.cutset = false ∧ n.above = false

theorem relaxLayer_flag (cfg : Cfg S K) (layers : List (List (Node S))) (layer : List (Node S)) (cur : List Nat)
    (log : List (Call S)) (h : ∀ n ∈ layer, FlagOk n) : ∀ n ∈ (relaxLayer cfg layers layer cur log).1, FlagOk n :=
  Bounds.relaxLayer_forall FlagOk cfg layers layer cur log (fun _ => ⟨rfl, rfl⟩) (fun n hn => hn) (fun n b hn => hn)
    (fun dropN _ e _ src m hm => by
      obtain ⟨_, h2, h3, _⟩ := Theta.appendEdge_flds src m
        ⟨e.fromL, e.fromP, e.dec, cfg.R.relax src.state dropN.state (Cover.mergedOf cfg layer cur) e.dec e.cost⟩
      exact ⟨h2.trans hm.1, h3.trans hm.2⟩) h

theorem squash_flag (cfg : Cfg S K) (dd : DD S K) (layer : List (Node S)) (cur : List Nat)
    (sq : List (Node S) × List Nat × List (Call S) × Option Nat)
    (h : squash cfg dd layer cur = some sq) (hl : ∀ n ∈ layer, FlagOk n) : ∀ n ∈ sq.1, FlagOk n := by
  have hs := squash_spec cfg dd layer cur
  rw [h] at hs
  cases hs with
  | keep _ _ => exact hl
  | restrict _ _ _ => exact restrictLayer_forall (fun _ hn => hn) cfg layer cur hl
  | relax _ _ _ _ => exact relaxLayer_flag cfg dd.layers layer cur dd.log hl

theorem expandAll_flag (cfg : Cfg S K) (var lidx : Nat) (layer : List (Node S)) (cur : List Nat) (log : List (Call S))
    (hl : ∀ n ∈ layer, FlagOk n) :
    (∀ n ∈ (expandAll cfg var lidx layer cur log).1, FlagOk n) ∧
    (∀ n ∈ (expandAll cfg var lidx layer cur log).2.1, FlagOk n) := by
  constructor
  · intro n hn
    obtain ⟨i, hi⟩ := List.mem_iff_getElem?.1 hn
    obtain ⟨n0, h0, hs⟩ := (expandAll_ginv cfg lidx var layer cur log).rub.get hi
    obtain ⟨_, _, _, _, hc, ha, _⟩ := Theta.stripRub_all hs
    have := hl n0 (List.mem_of_getElem? h0)
    exact ⟨hc ▸ this.1, ha ▸ this.2⟩
  · unfold expandAll
    refine Theta.fold_childrenP FlagOk (fun _ => True) cfg var lidx cur _ (fun _ _ _ => trivial) ?_ ?_
      (fun _ _ => trivial) (fun m hm => by cases hm)
    · intro q par d n _ hn
      obtain ⟨_, h2, h3, _⟩ := Theta.appendEdge_flds par n (Cover.arcOf cfg var lidx q par d)
      exact ⟨h2.trans hn.1, h3.trans hn.2⟩
    · intro q par d _
      obtain ⟨_, h2, h3, _⟩ := Theta.appendEdge_flds par (Cover.freshNode par (cfg.P.trans par.state ⟨var, d⟩)
        (cfg.P.cost par.state (cfg.P.trans par.state ⟨var, d⟩) ⟨var, d⟩)) (Cover.arcOf cfg var lidx q par d)
      exact ⟨h2.trans rfl, h3.trans rfl⟩

def FInv (dd : DD S K) : Prop := (∀ ly ∈ dd.layers, ∀ n ∈ ly, FlagOk n) ∧ ∀ n ∈ dd.next, FlagOk n

theorem buildLoop_finv (cfg : Cfg S K) : ∀ (fuel : Nat) (dd : DD S K), FInv dd → FInv (buildLoop cfg none fuel dd).1 := by
  refine buildLoop_ind_joint cfg (fun _ dd => FInv dd) FInv ?_ ?_ ?_ ?_ ?_
  · intro _ dd var h; exact h
  · intro _ dd h; exact h
  · intro _ dd h; exact h
  · intro _ dd h hne
    refine ⟨fun ly hly n hn => ?_, h.2⟩
    rcases List.mem_append.1 hly with hly | hly
    · exact h.1 ly hly n hn
    · rw [List.mem_singleton] at hly; subst hly; cases hn
  · intro _ dd var sq dd' h _ _ hsq _ hl hn _ _
    have hfd : ∀ m ∈ (CacheClosed.fdOf cfg dd).1, FlagOk m := by
      intro m hm
      obtain ⟨n00, h00, _, _, c00, a00, _⟩ := fdOf_node cfg dd m hm
      have := h.2 n00 h00
      exact ⟨c00.trans this.1, a00.trans this.2⟩
    have hsqf := squash_flag cfg dd _ _ sq hsq hfd
    obtain ⟨e1, e2⟩ := expandAll_flag cfg var dd.layers.length sq.1 sq.2.1 sq.2.2.1 hsqf
    refine ⟨fun ly hly n hn' => ?_, fun n hn' => ?_⟩
    · rw [hl] at hly
      rcases List.mem_append.1 hly with hly | hly
      · exact h.1 ly hly n hn'
      · rw [List.mem_singleton] at hly; subst hly; exact e1 n hn'
    · rw [hn] at hn'; exact e2 n hn'

theorem compile_finv (cfg : Cfg S K) (cache : Cache S) (store : DomStore S K) (polls : Nat) :
    FInv (buildLoop cfg none (cfg.P.nbVars + 2) (initDD cfg cache store polls)).1 := by
  refine buildLoop_finv cfg _ _ ⟨fun ly hly => (by cases hly), fun n hn => ?_⟩
  simp only [initDD, List.mem_singleton] at hn
  subst hn
  exact ⟨rfl, rfl⟩

/-- the thresholds pass runs iff the cut-set pass ran -/
theorem finalize_ups_cases (cfg : Cfg S K) (b : Built S K) (e : Bool) :
    (finalize cfg b e).1.cacheUpdates = [] ∨
    (((cfg.ctype == .relaxed) || b.isExactField) = true ∧
      (finalize cfg b e).2 = (computeThresholds cfg.kind b.isExactField cfg.lb (finalize cfg b e).1.bestExactValue b.termL
        (Bounds.fLayers2 cfg b)).1 ∧
      (finalize cfg b e).1.cacheUpdates = (computeThresholds cfg.kind b.isExactField cfg.lb
        (finalize cfg b e).1.bestExactValue b.termL (Bounds.fLayers2 cfg b)).2) := by
  cases hdc : ((cfg.ctype == .relaxed) || b.isExactField) with
  | false =>
    left
    unfold finalize
    simp only [hdc, Bool.false_eq_true, if_false]
  | true =>
    right
    refine ⟨rfl, ?_⟩
    unfold finalize Bounds.fLayers2 Bounds.fLayers1
    simp only [hdc, if_true]
    trivial

open Ddo.Theta Ddo.Bounds in
/-- a node of the finished diagram that is flagged `above` is exact (`hf1`: the cut-set pass ran) -/
theorem above_exact (cfg : Cfg S K) (p0 : List Dec) (b : Built S K) (e : Bool)
    (hf1 : fLayers1 cfg b = (computeCutset cfg.kind b.lel b.layers).1) (hwf : CutWF cfg p0 b.layers b.lel)
    (hfl : ∀ (l p : Nat) (n : Node S), getNode b.layers l p = some n → n.cutset = false ∧ n.above = false)
    {l p : Nat} {n3 : Node S} (hn : getNode (finalize cfg b e).2 l p = some n3) (hab : n3.above = true) :
    ∃ n0, getNode b.layers l p = some n0 ∧ n0.isExact = true ∧ n3.state = n0.state ∧ n3.depth = n0.depth ∧
      n3.cache = n0.cache ∧ n3.deleted = n0.deleted := by
  obtain ⟨n0, n1, n2, hn0, hn1, _, hco⟩ := corr_of_L3 cfg b e hn
  rw [hco.above] at hab
  rw [hf1] at hn1
  refine ⟨n0, hn0, ?_, hco.state, hco.depth, hco.cache, hco.deleted⟩
  cases hkd : cfg.kind with
  | lel =>
    rw [hkd] at hn1
    exact hwf.exactUpTo l p n0 hn0 ((computeCutset_lel_flags _ _ hfl l p n1 hn1).1.mp hab)
  | frontier =>
    rw [hkd] at hn1
    rw [← hco.isExact1]
    exact ((computeCutset_frontier_flags b.lel _ hfl).1 l p n1 hn1).1.mp hab

/-- **a recorded threshold belongs to an exact node of the built diagram**, whatever the cache, the checker and the compilation
    type: its `(state, depth)` is reached exactly -/
theorem ups_reach_joint (cfg : Cfg S K) (p0 : List Dec) (dd : DD S K)
    (hwf : CutWF cfg p0 (finalizeLayers dd).layers (finalizeLayers dd).lel) (hF : FInv dd) (e : Bool)
    (u : S × Nat × Int × Bool) (hu : u ∈ (finalize cfg (finalizeLayers dd) e).1.cacheUpdates) :
    ∃ (v : Int) (q : List Dec), Reach cfg.P u.2.1 u.1 v (p0 ++ q) := by
  have h0 : ∀ (l p : Nat) (n : Node S), getNode (finalizeLayers dd).layers l p = some n →
      n.cutset = false ∧ n.above = false := by
    intro l p n hn
    rcases finalizeLayers_at dd hn with ⟨ly, hly, hm⟩ | ⟨_, hm⟩
    · exact hF.1 ly (List.mem_of_getElem? hly) n hm
    · exact hF.2 n hm
  rcases finalize_ups_cases cfg (finalizeLayers dd) e with hnil | ⟨hdc, e1, e2⟩
  · rw [hnil] at hu; cases hu
  · have hspec := (Theta.computeThresholds_spec cfg.kind (finalizeLayers dd).isExactField cfg.lb
      (finalize cfg (finalizeLayers dd) e).1.bestExactValue (finalizeLayers dd).termL (Bounds.fLayers2 cfg (finalizeLayers dd))
      (Theta.fLayers2_arcs cfg p0 (finalizeLayers dd) hwf)).2
    rw [← e1, ← e2] at hspec
    obtain ⟨l, p, n3, hn, _, _, hab, t, _, rfl⟩ := hspec u hu
    obtain ⟨n0, hn0, hex, hs, hd, _⟩ := above_exact cfg p0 _ e (by unfold Bounds.fLayers1; rw [if_pos hdc]) hwf h0 hn hab
    obtain ⟨q, _, hr, _⟩ := hwf.node l p n0 hn0 hex
    exact ⟨n0.value, q, by dsimp only; rw [hs, hd]; exact hr⟩

/-- **every `update_threshold` emitted by a compilation that ended normally is in range** (`depth ≤ nb_variables`) — any
    compilation type, any cache, any checker -/
theorem ups_depth_joint (cfg : Cfg S K) (B : Int) (p0 : List Dec) (cache : Cache S) (store : DomStore S K) (polls : Nat)
    (hB : NoClamp cfg.P cfg.R cfg.root.value B) (hNV : NvBound cfg.P)
    (hroot : Reach cfg.P cfg.root.depth cfg.root.state cfg.root.value p0)
    (hok : (compile cfg cache store polls none).1 = .ok) :
    ∀ u ∈ (compile cfg cache store polls none).2.1.cacheUpdates, u.2.1 ≤ cfg.P.nbVars := by
  intro u hu
  obtain ⟨_, _, hres⟩ := Ddo.compile_ok cfg cache store polls none hok
  rw [hres] at hu
  have hwf := compile_wf cfg B p0 hB hroot cache store polls none
  obtain ⟨v, q, hq⟩ := ups_reach_joint cfg p0 _ hwf (compile_finv cfg cache store polls) _ u hu
  exact reach_depth_le hNV hq

#print axioms compile_no_crash_joint
#print axioms isSol_relaxed_joint
#print axioms ups_depth_joint

end Ddo.C10c

namespace Ddo.CacheClosed
open Ddo Ddo.Truth
variable {S K : Type} [DecidableEq S] [DecidableEq K]

/-- `buildLoop_g2_joint` without checker, with any cache configuration -/
theorem buildLoop_g2_cached (cfg : Cfg S K) (hrel : cfg.ctype = .relaxed) (hW : 1 ≤ cfg.width) (hd : cfg.dom = none) :
    ∀ (fuel : Nat) (dd : DD S K), G2 cfg dd → dd.depth = cfg.root.depth + dd.layers.length →
      G2 cfg (buildLoop cfg none fuel dd).1 ∧
      (buildLoop cfg none fuel dd).1.layers.length ≤ dd.layers.length + fuel :=
  fun fuel dd hG hdepth => ⟨C10c.buildLoop_g2_joint cfg hrel hW fuel dd hG hdepth,
    C10c.buildLoop_len_joint cfg _ fuel dd (Nat.le_refl _)⟩

/-- `Truth.ebpMust_sound` without the hypothesis `cfg.useCache = false`: whatever the incumbent and the content of the cache -/
theorem ebpMust_sound_cached (cfg : Cfg S K) (B : Int) (p0 : List Dec)
    (hrel : cfg.ctype = .relaxed) (hW : 1 ≤ cfg.width) (hd : cfg.dom = none)
    (hB : NoClamp cfg.P cfg.R cfg.root.value B)
    (hroot : Reach cfg.P cfg.root.depth cfg.root.state cfg.root.value p0)
    (cache : Cache S) (store : DomStore S K) (polls : Nat)
    (hok : (buildLoop cfg none (cfg.P.nbVars + 2) (initDD cfg cache store polls)).2 = .ok)
    (hmust : (finalizeLayers (buildLoop cfg none (cfg.P.nbVars + 2) (initDD cfg cache store polls)).1).ebpMust true = true)
    (w : Int)
    (hw : (finalize cfg (finalizeLayers (buildLoop cfg none (cfg.P.nbVars + 2) (initDD cfg cache store polls)).1) true).1.bestExactValue
      = some w) :
    Truthful cfg p0 w (finalize cfg (finalizeLayers (buildLoop cfg none (cfg.P.nbVars + 2) (initDD cfg cache store polls)).1) true).1 :=
  C10c.ebpMust_sound_joint cfg B p0 hrel hW hB hroot cache store polls hok hmust w hw

/-- `Closed.isSol_relaxed` without the hypothesis `cfg.useCache = false` (any cache content) -/
theorem isSol_relaxed_cached (cfg : Cfg S K) (B : Int) (p0 : List Dec)
    (cache : Cache S) (store : DomStore S K) (polls : Nat)
    (hrel : cfg.ctype = .relaxed) (hdom : cfg.dom = none) (hW : 1 ≤ cfg.width)
    (hB : NoClamp cfg.P cfg.R cfg.root.value B)
    (hroot : Reach cfg.P cfg.root.depth cfg.root.state cfg.root.value p0)
    (hok : (compile cfg cache store polls none).1 = .ok) (w : Int)
    (hw : (compile cfg cache store polls none).2.1.bestExactValue = some w) :
    IsSol cfg p0 w (compile cfg cache store polls none).2.1.bestExactSol :=
  C10c.isSol_relaxed_joint cfg B p0 cache store polls hrel hW hB hroot hok w hw

end Ddo.CacheClosed

#print axioms Ddo.CacheClosed.buildLoop_g2_cached
#print axioms Ddo.CacheClosed.ebpMust_sound_cached
#print axioms Ddo.CacheClosed.isSol_relaxed_cached
