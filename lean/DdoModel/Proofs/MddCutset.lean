import DdoModel.Proofs.MddExact
/-! Cut-sets of the clean diagram model (C08, clauses (i) and (ii)).

The bottom-up passes of `finalize` only write `vbot`, `theta`, `marked`, `cutset`, `above`: the final layers equal
`b.layers` up to these fields (`XEq`, the instance `f := stripB` of `MapEq`).  So the sub-problems handed out are read
off `b.layers`, about which the top-down build has established `CutWF`: the exactness invariant `MInv` of `MddExact`
and a second invariant `Inv2` about the source layer of the arcs and the last exact layer `dd.lel`. -/
set_option linter.unusedSectionVars false
namespace Ddo
variable {S K : Type} [DecidableEq S] [DecidableEq K]

def stripB (n : Node S) : Node S := { n with vbot := 0, theta := none, marked := false, cutset := false, above := false }

def XEq (ls ls' : List (List (Node S))) : Prop := ls.map (List.map stripB) = ls'.map (List.map stripB)

theorem XEq.refl (ls : List (List (Node S))) : XEq ls ls := rfl
theorem XEq.symm {a b : List (List (Node S))} (h : XEq a b) : XEq b a := Eq.symm h
theorem XEq.trans {a b c : List (List (Node S))} (h1 : XEq a b) (h2 : XEq b c) : XEq a c := Eq.trans h1 h2

theorem XEq.set_map {ls ls0 : List (List (Node S))} (h : XEq ls ls0) (l : Nat) (f : Node S → Node S)
    (hf : ∀ n, stripB (f n) = stripB n) : XEq (ls.set l ((ls[l]?.getD []).map f)) ls0 :=
  MapEq.set_map h l f hf

theorem XEq.modNode {ls ls0 : List (List (Node S))} (h : XEq ls ls0) (l p : Nat) (f : Node S → Node S)
    (hf : ∀ n, getNode ls l p = some n → stripB (f n) = stripB n) : XEq (Ddo.modNode ls l p f) ls0 :=
  MapEq.modNode h l p f hf

theorem XEq.length {ls ls0 : List (List (Node S))} (h : XEq ls ls0) : ls.length = ls0.length :=
  MapEq.length h

theorem XEq.layer {ls ls0 : List (List (Node S))} (h : XEq ls ls0) (l : Nat) :
    (ls[l]?.getD []).map stripB = (ls0[l]?.getD []).map stripB :=
  MapEq.layer h l

theorem XEq.getNode_some {ls ls0 : List (List (Node S))} (h : XEq ls ls0) {l p : Nat} {n : Node S}
    (hn : Ddo.getNode ls l p = some n) : ∃ n0, Ddo.getNode ls0 l p = some n0 ∧ stripB n0 = stripB n :=
  MapEq.getNode_some h hn

theorem computeCutset_xEq (kind : CutsetKind) (lel : Nat) (layers : List (List (Node S))) :
    XEq (computeCutset kind lel layers).1 layers :=
  computeCutset_mapEq stripB (fun _ _ _ => rfl) kind lel layers

theorem computeThresholds_xEq (kind : CutsetKind) (isExactField : Bool) (lb : Int) (bestExact : Option Int)
    (termL : Option Nat) (layers : List (List (Node S))) :
    XEq (computeThresholds kind isExactField lb bestExact termL layers).1 layers :=
  computeThresholds_mapEq stripB (fun _ _ => rfl) kind isExactField lb bestExact termL layers

theorem computeLocalBounds_xEq (layers : List (List (Node S))) : XEq (computeLocalBounds layers) layers :=
  computeLocalBounds_mapEq stripB (fun _ _ _ => rfl) layers

theorem finalize_layers_xEq (cfg : Cfg S K) (b : Built S K) (e : Bool) : XEq (finalize cfg b e).2 b.layers :=
  finalize_layers_mapEq stripB (fun _ _ _ _ _ _ => rfl) cfg b e

theorem stripB_isExact {a b : Node S} (h : stripB a = stripB b) : a.isExact = b.isExact :=
  (congrArg Node.isExact h :)

theorem stripB_inb {a b : Node S} (h : stripB a = stripB b) : a.inb = b.inb :=
  (congrArg Node.inb h :)

/-- what `_compute_frontier_cutset` collects: the exact parents of inexact nodes -/
def FrontierOk (layers : List (List (Node S))) (lp : Nat × Nat) : Prop :=
  ∃ n0, getNode layers lp.1 lp.2 = some n0 ∧ n0.isExact = true ∧
    ∃ (l' p' : Nat) (m : Node S) (e : Arc), getNode layers l' p' = some m ∧ m.isExact = false ∧
      e ∈ m.inb ∧ e.fromL = lp.1 ∧ e.fromP = lp.2

theorem computeCutset_frontier (lel : Nat) (layers : List (List (Node S))) :
    ∀ lp ∈ (computeCutset .frontier lel layers).2, FrontierOk layers lp := by
  unfold computeCutset
  dsimp only
  refine (foldl_inv (β := List (List (Node S)) × List (Nat × Nat))
    (fun acc => XEq acc.1 layers ∧ ∀ lp ∈ acc.2, FrontierOk layers lp) _ _ _ ⟨XEq.refl _, ?_⟩ ?_).2
  · intro lp h; cases h
  rintro ⟨ls, cs⟩ l _ h
  dsimp only at h ⊢
  refine foldl_inv (β := List (List (Node S)) × List (Nat × Nat))
    (fun acc => XEq acc.1 layers ∧ ∀ lp ∈ acc.2, FrontierOk layers lp) _ _ _ h ?_
  rintro ⟨ls, cs⟩ p _ h
  dsimp only at h ⊢
  split
  · exact h
  · rename_i n hn
    split
    · exact ⟨h.1.modNode l p _ (fun _ _ => rfl), h.2⟩
    · rename_i hnex
      obtain ⟨m, hm, hsm⟩ := h.1.getNode_some hn
      have hmex : m.isExact = false := by rw [stripB_isExact hsm]; simpa using hnex
      refine foldl_inv (β := List (List (Node S)) × List (Nat × Nat))
        (fun acc => XEq acc.1 layers ∧ ∀ lp ∈ acc.2, FrontierOk layers lp) _ _ _ h ?_
      rintro ⟨ls, cs⟩ e he h
      dsimp only at h ⊢
      split
      · rename_i par hpar
        split
        · rename_i hcond
          refine ⟨h.1.modNode _ _ _ (fun _ _ => rfl), fun lp hlp => ?_⟩
          rcases List.mem_append.1 hlp with hlp | hlp
          · exact h.2 lp hlp
          · rw [List.mem_singleton] at hlp
            subst hlp
            obtain ⟨par0, hpar0, hsp⟩ := h.1.getNode_some hpar
            simp only [Bool.and_eq_true] at hcond
            exact ⟨par0, hpar0, by rw [stripB_isExact hsp]; exact hcond.1,
              l, p, m, e, hm, hmex, by rw [stripB_inb hsm]; exact he, rfl, rfl⟩
        · exact h
      · exact h

theorem getNode_of_lt {layers : List (List (Node S))} {l p : Nat} (hp : p < (layers[l]?.getD []).length) :
    ∃ n, getNode layers l p = some n := by
  unfold getNode
  cases h : layers[l]? with
  | none => rw [h] at hp; simp at hp
  | some ly =>
    rw [h] at hp
    simp only [Option.getD_some] at hp
    exact ⟨ly[p], List.getElem?_eq_getElem hp⟩

theorem computeCutset_lel (lel : Nat) (layers : List (List (Node S))) :
    ∀ lp ∈ (computeCutset .lel lel layers).2, lp.1 = lel ∧ lel < layers.length ∧ ∃ n, getNode layers lp.1 lp.2 = some n := by
  unfold computeCutset
  dsimp only
  intro lp hlp
  split at hlp
  · rename_i hlt
    obtain ⟨p, hp, rfl⟩ := List.mem_map.1 hlp
    exact ⟨rfl, hlt, getNode_of_lt (List.mem_range.1 hp)⟩
  · cases hlp

theorem finalize_cutset (cfg : Cfg S K) (b : Built S K) (e : Bool) :
    (finalize cfg b e).1.cutset =
      match b.bestValue with
      | none => []
      | some bv =>
        (if ((cfg.ctype == .relaxed) || b.isExactField) = true then computeCutset cfg.kind b.lel b.layers
          else (b.layers, [])).2.filterMap (fun (lp : Nat × Nat) =>
          match getNode (finalize cfg b e).2 lp.1 lp.2 with
          | some n => if n.marked then
              some { state := n.state, value := n.value,
                     path := cfg.root.path ++ bestPath (finalize cfg b e).2 ((finalize cfg b e).2.length + 1) n,
                     ub := min (min (satAdd n.value n.rub) (satAdd n.value n.vbot)) bv, depth := n.depth }
            else none
          | none => none) := rfl

theorem finalize_cutset_mem (cfg : Cfg S K) (b : Built S K) (e : Bool) (c : SubP S)
    (hc : c ∈ (finalize cfg b e).1.cutset) :
    ∃ (lp : Nat × Nat) (n : Node S), lp ∈ (computeCutset cfg.kind b.lel b.layers).2 ∧
      getNode (finalize cfg b e).2 lp.1 lp.2 = some n ∧
      c.state = n.state ∧ c.value = n.value ∧ c.depth = n.depth ∧
      c.path = cfg.root.path ++ bestPath (finalize cfg b e).2 ((finalize cfg b e).2.length + 1) n := by
  rw [finalize_cutset] at hc
  split at hc
  · cases hc
  · obtain ⟨lp, hlp, hsome⟩ := List.mem_filterMap.1 hc
    have hlp' : lp ∈ (computeCutset cfg.kind b.lel b.layers).2 := by
      split at hlp
      · exact hlp
      · cases hlp
    split at hsome
    · rename_i n hn
      split at hsome
      · simp only [Option.some.injEq] at hsome
        subst hsome
        exact ⟨lp, n, hlp', hn, rfl, rfl, rfl, rfl⟩
      · cases hsome
    · cases hsome

theorem BestChain.of_xEq {ls ls' : List (List (Node S))} {l : Nat} {b : Option Arc} {q : List Dec}
    (h : BestChain ls l b q) (hk : XEq ls' ls) : BestChain ls' l b q :=
  h.of_mapEq (f := stripB) (fun _ _ hs => (congrArg Node.best hs :)) hk.symm

theorem getNode_lt {layers : List (List (Node S))} {l p : Nat} {n : Node S} (h : getNode layers l p = some n) :
    l < layers.length := by
  obtain ⟨ly, hly, _⟩ := Cover.getNode_lt h
  exact Cover.lt_of_getElem?_some hly

structure CutWF (cfg : Cfg S K) (p0 : List Dec) (LS : List (List (Node S))) (lel : Nat) : Prop where
  node : ∀ (l p : Nat) (n : Node S), getNode LS l p = some n → n.isExact = true →
    ∃ q, BestChain LS l n.best q ∧ Reach cfg.P n.depth n.state n.value (p0 ++ q) ∧ n.depth = cfg.root.depth + l
  arcs : ∀ (l p : Nat) (n : Node S), getNode LS l p = some n → ∀ e ∈ n.inb, e.fromL + 1 = l
  exactUpTo : ∀ (l p : Nat) (n : Node S), getNode LS l p = some n → l ≤ lel → n.isExact = true
  lelPos : cfg.ctype = .relaxed → lel < LS.length → 1 ≤ lel

theorem CutWF.cutset_pos {cfg : Cfg S K} {p0 : List Dec} {LS : List (List (Node S))} {lel : Nat}
    (h : CutWF cfg p0 LS lel) (lp : Nat × Nat) (hlp : lp ∈ (computeCutset cfg.kind lel LS).2) :
    ∃ n0, getNode LS lp.1 lp.2 = some n0 ∧ n0.isExact = true ∧ (cfg.ctype = .relaxed → 1 ≤ lp.1) := by
  cases hk : cfg.kind with
  | lel =>
    rw [hk] at hlp
    obtain ⟨h1, h2, n, hn⟩ := computeCutset_lel lel LS lp hlp
    exact ⟨n, hn, h.exactUpTo _ _ n hn (by omega), fun hr => by have := h.lelPos hr h2; omega⟩
  | frontier =>
    rw [hk] at hlp
    obtain ⟨n0, hn0, hex, l', p', m, e, hm, hmex, he, hl, _⟩ := computeCutset_frontier lel LS lp hlp
    refine ⟨n0, hn0, hex, fun hr => ?_⟩
    have harc := h.arcs l' p' m hm e he
    have hlt := getNode_lt hm
    have hl' : lel < l' := by
      rcases Nat.lt_or_ge lel l' with h' | h'
      · exact h'
      · have := h.exactUpTo l' p' m hm h'; rw [hmex] at this; cases this
    have := h.lelPos hr (by omega)
    omega

/-- **C08 (i) + (ii)** for `finalize`, any `hasEBP` bit -/
theorem finalize_cutset_sound (cfg : Cfg S K) (p0 : List Dec) (b : Built S K) (e : Bool)
    (hwf : CutWF cfg p0 b.layers b.lel) (c : SubP S) (hc : c ∈ (finalize cfg b e).1.cutset) :
    (∃ q, Reach cfg.P c.depth c.state c.value (p0 ++ q) ∧ c.path = cfg.root.path ++ q.reverse) ∧
    (cfg.ctype = .relaxed → cfg.root.depth < c.depth) := by
  obtain ⟨lp, n, hlp, hn, hs, hv, hd, hpath⟩ := finalize_cutset_mem cfg b e c hc
  obtain ⟨n0, hn0, hex, hpos⟩ := hwf.cutset_pos lp hlp
  have hx := finalize_layers_xEq cfg b e
  obtain ⟨n0', hn0', hsn⟩ := hx.getNode_some hn
  rw [hn0] at hn0'
  cases hn0'
  obtain ⟨q, hq, hreach, hdepth⟩ := hwf.node _ _ n0 hn0 hex
  have e1 : n0.state = n.state := (congrArg Node.state hsn :)
  have e2 : n0.value = n.value := (congrArg Node.value hsn :)
  have e3 : n0.best = n.best := (congrArg Node.best hsn :)
  have e4 : n0.depth = n.depth := (congrArg Node.depth hsn :)
  refine ⟨⟨q, ?_, ?_⟩, fun hr => ?_⟩
  · rw [hs, hv, hd, ← e1, ← e2, ← e4]; exact hreach
  · have hchain : BestChain (finalize cfg b e).2 lp.1 n.best q := e3 ▸ hq.of_xEq hx
    have := hchain.bestPath_eq n rfl ((finalize cfg b e).2.length + 1) (by
      have := getNode_lt hn; omega)
    rw [hpath, ← this, List.reverse_reverse]
  · have := hpos hr
    rw [hd, ← e4, hdepth]; omega

def ArcOk (l : Nat) (n : Node S) : Prop := ∀ e ∈ n.inb, e.fromL + 1 = l

theorem forall_mem_set {α : Type} {Q : α → Prop} {ly : List α} (h : ∀ n ∈ ly, Q n) (p : Nat) {n' : α} (hn' : Q n') :
    ∀ n ∈ ly.set p n', Q n :=
  Cover.forall_set h p hn'

theorem filterCache_arcs (cfg : Cfg S K) (cache : Cache S) (layer : List (Node S)) (cur : List Nat) (l : Nat)
    (h : ∀ n ∈ layer, ArcOk l n) : ∀ n ∈ (filterCache cfg cache layer cur).1, ArcOk l n :=
  filterCache_forall (fun _ _ h => h) cfg cache layer cur h

theorem filterDom_arcs (cfg : Cfg S K) (store : DomStore S K) (layer : List (Node S)) (cur : List Nat) (l : Nat)
    (h : ∀ n ∈ layer, ArcOk l n) : ∀ n ∈ (filterDom cfg store layer cur).1, ArcOk l n :=
  filterDom_forall (fun _ _ h => h) cfg store layer cur h

theorem restrictLayer_arcs (cfg : Cfg S K) (layer : List (Node S)) (cur : List Nat) (l : Nat)
    (h : ∀ n ∈ layer, ArcOk l n) : ∀ n ∈ (restrictLayer cfg layer cur).1, ArcOk l n :=
  restrictLayer_forall (fun _ h => h) cfg layer cur h

theorem appendEdge_inb (p c : Node S) (a : Arc) : (appendEdge p c a).inb = a :: c.inb :=
  Cover.appendEdge_inb p c a

/-- a redirected arc keeps the source layer of the arc it replaces -/
theorem relaxLayer_arcs (cfg : Cfg S K) (layers : List (List (Node S))) (layer : List (Node S)) (cur : List Nat)
    (log : List (Call S)) (l : Nat) (h : ∀ n ∈ layer, ArcOk l n) :
    ∀ n ∈ (relaxLayer cfg layers layer cur log).1, ArcOk l n := by
  refine Cover.relaxLayer_forall (ArcOk l) (ArcOk l) cfg layers layer cur log (fun _ h => h) (fun _ he => nomatch he)
    (fun _ h => h) (fun _ _ h => h) (fun _ h => h) ?_ h
  intro dropN hd e he src m _ hm a ha
  rw [Cover.appendEdge_inb] at ha
  rcases List.mem_cons.1 ha with rfl | ha
  · exact hd e he
  · exact hm a ha

theorem expandOne_arcs (cfg : Cfg S K) (var lidx : Nat) (acc : List (Node S) × List (Node S) × List (Call S)) (p : Nat)
    (h : ∀ c ∈ acc.2.1, ArcOk (lidx + 1) c) : ∀ c ∈ (expandOne cfg var lidx acc p).2.1, ArcOk (lidx + 1) c :=
  Bounds.fold_child_arcs (fun a => a.fromL + 1 = lidx + 1) cfg var lidx [p] acc h (fun _ _ _ _ => rfl)

theorem expandAll_arcs (cfg : Cfg S K) (var lidx : Nat) (layer : List (Node S)) (cur : List Nat) (log : List (Call S)) :
    ∀ c ∈ (expandAll cfg var lidx layer cur log).2.1, ArcOk (lidx + 1) c := by
  unfold expandAll
  exact Bounds.fold_child_arcs (fun a => a.fromL + 1 = lidx + 1) cfg var lidx cur (layer, [], log)
    (fun _ hm => by cases hm) (fun _ _ _ _ => rfl)

theorem squash_lel (cfg : Cfg S K) (dd : DD S K) (layer : List (Node S)) (cur : List Nat)
    (l : List (Node S)) (c : List Nat) (lg : List (Call S)) (lel : Option Nat)
    (h : squash cfg dd layer cur = some (l, c, lg, lel)) :
    (lel = none → l = layer ∧ dd.lel = none) ∧
    (∀ k, lel = some k → dd.lel = some k ∨
      (dd.lel = none ∧ k + 1 = dd.layers.length ∧ (cfg.ctype = .relaxed → 2 ≤ dd.layers.length))) ∧
    (∀ lidx, (∀ n ∈ layer, ArcOk lidx n) → ∀ n ∈ l, ArcOk lidx n) := by
  -- `lel` is set at most once, to the index of the last complete layer
  have hlel : 1 ≤ dd.layers.length → ∀ k, some (dd.lel.getD (dd.layers.length - 1)) = some k →
      dd.lel = some k ∨ (dd.lel = none ∧ k + 1 = dd.layers.length) :=
    fun hpos k hk => (lel_squash_cases hk).imp id fun h => ⟨h.1, by omega⟩
  have hs := squash_spec cfg dd layer cur
  rw [h] at hs
  cases hs with
  | keep _ _ => exact ⟨fun hn => ⟨rfl, hn⟩, fun k hk => .inl hk, fun _ h => h⟩
  | restrict hres _ hne =>
    refine ⟨nofun, fun k hk => ?_, fun lidx => restrictLayer_arcs cfg layer cur lidx⟩
    exact (hlel (List.length_pos_iff.2 hne) k hk).imp id (fun h => ⟨h.1, h.2, fun hr => by rw [hr] at hres; cases hres⟩)
  | relax _ _ _ hlen =>
    refine ⟨nofun, fun k hk => ?_, fun lidx => relaxLayer_arcs cfg dd.layers layer cur dd.log lidx⟩
    exact (hlel (Nat.le_of_lt hlen) k hk).imp id (fun h => ⟨h.1, h.2, fun _ => by omega⟩)

theorem getElem?_append_singleton_cases {α : Type} {layers : List α} {lyF ly : α} {l : Nat}
    (hl : (layers ++ [lyF])[l]? = some ly) : layers[l]? = some ly ∨ (l = layers.length ∧ ly = lyF) :=
  Cover.getElem?_concat_cases hl

theorem getElem?_lt_of_some {α : Type} {xs : List α} {l : Nat} {x : α} (h : xs[l]? = some x) : l < xs.length :=
  Cover.lt_of_getElem?_some h

/-- `1 ≤ k` in `lelSome`: `_squash_if_needed` relaxes only when `self.layers.len() > 1`, and `_maybe_save_lel` then stores
    `layers.len() - 1`.  It is what puts the cut-set of a relaxed compilation strictly below the root (C08 (ii)). -/
structure Inv2 (cfg : Cfg S K) (dd : DD S K) : Prop where
  arcsL : ∀ (l : Nat) (ly : List (Node S)), dd.layers[l]? = some ly → ∀ n ∈ ly, ArcOk l n
  arcsN : ∀ n ∈ dd.next, ArcOk dd.layers.length n
  lelNone : dd.lel = none → (∀ ly ∈ dd.layers, ∀ n ∈ ly, n.isExact = true) ∧ ∀ n ∈ dd.next, n.isExact = true
  lelSome : ∀ k, dd.lel = some k → k < dd.layers.length ∧ (cfg.ctype = .relaxed → 1 ≤ k) ∧
    ∀ (l : Nat) (ly : List (Node S)), l ≤ k → dd.layers[l]? = some ly → ∀ n ∈ ly, n.isExact = true

theorem Inv2.congr {cfg : Cfg S K} {dd dd' : DD S K} (h : Inv2 cfg dd)
    (hl : dd'.layers = dd.layers) (hn : dd'.next = dd.next) (hlel : dd'.lel = dd.lel) : Inv2 cfg dd' := by
  obtain ⟨h1, h2, h3, h4⟩ := h
  exact ⟨hl ▸ h1, hl ▸ hn ▸ h2, hl ▸ hn ▸ hlel ▸ h3, hl ▸ hlel ▸ h4⟩

theorem initDD_inv2 (cfg : Cfg S K) (cache : Cache S) (store : DomStore S K) (polls : Nat) :
    Inv2 cfg (initDD cfg cache store polls) := by
  refine ⟨?_, ?_, ?_, ?_⟩
  · intro l ly hl
    simp only [initDD, List.getElem?_nil] at hl
    cases hl
  · intro n hn
    simp only [initDD, List.mem_singleton] at hn
    subst hn
    intro e he; cases he
  · intro _
    refine ⟨(fun ly hly => by simp only [initDD] at hly; cases hly), fun n hn => ?_⟩
    simp only [initDD, List.mem_singleton] at hn
    subst hn
    rfl
  · intro k hk
    simp only [initDD] at hk
    cases hk

theorem stepLayer_inv2 (cfg : Cfg S K) (B : Int) (p0 : List Dec) (hB : NoClamp cfg.P cfg.R cfg.root.value B)
    (dd : DD S K) (var : Nat) (hinv : MInv cfg B p0 dd) (hinv2 : Inv2 cfg dd)
    (hdepth : dd.depth = cfg.root.depth + dd.layers.length)
    (hnv : cfg.P.nextVar dd.depth (dd.next.map (·.state)) = some var)
    (hlen : dd.layers.length ≤ cfg.P.nbVars + 1) (dd' : DD S K) (oc : Outcome)
    (h : stepLayer cfg dd var = (some dd', oc)) : Inv2 cfg dd' := by
  rcases Width.stepLayer_some cfg dd dd' var oc h with ⟨hnil, _, rfl⟩ | ⟨sq, hsq, _, _, hl, hn, _, _, hlel⟩
  · refine ⟨?_, ?_, ?_, ?_⟩
    · intro l ly hl
      rcases getElem?_append_singleton_cases hl with hl | ⟨_, rfl⟩
      · exact hinv2.arcsL l ly hl
      · intro n hn; cases hn
    · dsimp only; rw [hnil]; intro n hn; cases hn
    · intro hnone
      refine ⟨fun ly hly n hn => ?_, (hinv2.lelNone hnone).2⟩
      rcases List.mem_append.1 hly with hly | hly
      · exact (hinv2.lelNone hnone).1 ly hly n hn
      · rw [List.mem_singleton] at hly; subst hly; cases hn
    · intro k hk
      obtain ⟨h1, h2, h3⟩ := hinv2.lelSome k hk
      refine ⟨by dsimp only; rw [List.length_append]; omega, h2, fun l ly hlk hl n hn => ?_⟩
      rcases getElem?_append_singleton_cases hl with hl | ⟨_, rfl⟩
      · exact h3 l ly hlk hl n hn
      · cases hn
  · have hsq := Width.squashOf_elim cfg dd sq hsq
    have hpre := preSquash_subS cfg dd
    obtain ⟨hsub, _⟩ := squash_sub cfg dd _ _ sq.1 sq.2.1 sq.2.2.1 sq.2.2.2 hsq
    obtain ⟨hlelN, hlelS, hsqA⟩ := squash_lel cfg dd _ _ sq.1 sq.2.1 sq.2.2.1 sq.2.2.2 hsq
    have hpar0 : ∀ n ∈ dd.next, ParOk cfg B p0 dd.layers (dd.next.map (·.state)) n := fun n hn =>
      ⟨hinv.next n hn, fun _ => List.mem_map.2 ⟨n, hn, rfl⟩⟩
    have hpar : ∀ n ∈ sq.1, ParOk cfg B p0 dd.layers (dd.next.map (·.state)) n :=
      ParOk.of_sub (hsub.trans hpre.toSub) hpar0
    have hE := expandAll_inv cfg B p0 hB dd.layers hlen sq.1 (dd.next.map (·.state)) var (hdepth ▸ hnv) hpar sq.2.1 sq.2.2.1
    have hEA := expandAll_arcs cfg var dd.layers.length sq.1 sq.2.1 sq.2.2.1
    generalize expandAll cfg var dd.layers.length sq.1 sq.2.1 sq.2.2.1 = ex at hE hEA hl hn
    obtain ⟨hrub, _, hallEx⟩ := hE
    have hlsqA : ∀ n ∈ sq.1, ArcOk dd.layers.length n :=
      hsqA _ (preSquash_forall (fun _ _ h => h) (fun _ _ h => h) cfg dd hinv2.arcsN)
    have hFA : ∀ n ∈ ex.1, ArcOk dd.layers.length n := by
      intro n hn
      obtain ⟨i, hi⟩ := List.mem_iff_getElem?.1 hn
      obtain ⟨n0, h0, hs⟩ := hrub.get hi
      have : n0.inb = n.inb := by have := congrArg Node.inb hs; simpa only [stripRub] using this
      intro e he
      exact hlsqA n0 (List.mem_of_getElem? h0) e (this ▸ he)
    have hFE : (∀ n ∈ sq.1, n.isExact = true) → ∀ n ∈ ex.1, n.isExact = true := by
      intro hall n hn
      obtain ⟨n0, h0, he0, _⟩ := hrub.subS n hn
      rw [← he0]; exact hall n0 h0
    refine ⟨?_, ?_, ?_, ?_⟩
    · intro l ly hl'
      rw [hl] at hl'
      rcases getElem?_append_singleton_cases hl' with hl' | ⟨rfl, rfl⟩
      · exact hinv2.arcsL l ly hl'
      · exact hFA
    · rw [hl, hn, List.length_append, List.length_singleton]
      exact hEA
    · rw [hl, hn, hlel]
      intro hnone
      obtain ⟨heq, hdn⟩ := hlelN hnone
      obtain ⟨hLs, hNx⟩ := hinv2.lelNone hdn
      have hall : ∀ n ∈ sq.1, n.isExact = true := by
        intro n hn
        rw [heq] at hn
        obtain ⟨n0, h0, he0, _⟩ := hpre n hn
        rw [← he0]; exact hNx n0 h0
      refine ⟨fun ly hly n hn => ?_, hallEx hall⟩
      rcases List.mem_append.1 hly with hly | hly
      · exact hLs ly hly n hn
      · rw [List.mem_singleton] at hly; subst hly; exact hFE hall n hn
    · rw [hl, hlel]
      intro k hk
      rw [List.length_append, List.length_singleton]
      rcases hlelS k hk with hold | ⟨hdn, hkL, hrel⟩
      · obtain ⟨h1, h2, h3⟩ := hinv2.lelSome k hold
        refine ⟨by omega, h2, fun l ly hlk hl n hn => ?_⟩
        rcases getElem?_append_singleton_cases hl with hl | ⟨rfl, _⟩
        · exact h3 l ly hlk hl n hn
        · omega
      · obtain ⟨hLs, _⟩ := hinv2.lelNone hdn
        refine ⟨by omega, fun hr => by have := hrel hr; omega, fun l ly hlk hl n hn => ?_⟩
        rcases getElem?_append_singleton_cases hl with hl | ⟨rfl, _⟩
        · exact hLs ly (List.mem_of_getElem? hl) n hn
        · omega

theorem buildLoop_inv2 (cfg : Cfg S K) (B : Int) (p0 : List Dec) (hB : NoClamp cfg.P cfg.R cfg.root.value B)
    (stopAt : Option Nat) :
    ∀ (fuel : Nat) (dd : DD S K), MInv cfg B p0 dd → Inv2 cfg dd → dd.depth = cfg.root.depth + dd.layers.length →
      dd.layers.length + fuel ≤ cfg.P.nbVars + 2 →
      MInv cfg B p0 (buildLoop cfg stopAt fuel dd).1 ∧ Inv2 cfg (buildLoop cfg stopAt fuel dd).1 := by
  intro fuel
  induction fuel with
  | zero =>
    intro dd hinv hinv2 _ _
    exact ⟨hinv, hinv2⟩
  | succ fuel ih =>
    intro dd hinv hinv2 hdepth hfuel
    have hlen : dd.layers.length ≤ cfg.P.nbVars + 1 := by omega
    have hstep := fun var hvar => stepLayer_inv cfg B p0 hB (Truth.tick dd var) var (hinv.congr rfl rfl) hdepth hvar hlen
    have hstep2 := fun var hvar => stepLayer_inv2 cfg B p0 hB (Truth.tick dd var) var (hinv.congr rfl rfl)
      (hinv2.congr rfl rfl rfl) hdepth hvar hlen
    refine buildLoop_succ_cases cfg stopAt fuel dd (fun r => MInv cfg B p0 r.1 ∧ Inv2 cfg r.1)
      (fun _ => ⟨hinv.congr rfl rfl, hinv2.congr rfl rfl rfl⟩) (fun _ _ _ _ => ⟨hinv.congr rfl rfl, hinv2.congr rfl rfl rfl⟩)
      (fun var dd' _ _ hvar heq _ => ⟨(hstep var hvar dd' _ heq).1, hstep2 var hvar dd' _ heq⟩) ?_
    intro var dd' hvar heq
    obtain ⟨h1, h2, _⟩ := hstep var hvar dd' _ heq
    obtain ⟨h2a, h2b⟩ := h2 rfl
    exact ih dd' h1 (hstep2 var hvar dd' _ heq) h2a (by rw [h2b]; show dd.layers.length + 1 + fuel ≤ _; omega)

def AtLayer (dd : DD S K) (l : Nat) (n : Node S) : Prop :=
  (∃ ly, dd.layers[l]? = some ly ∧ n ∈ ly) ∨ (l = dd.layers.length ∧ n ∈ dd.next)

theorem finalizeLayers_at (dd : DD S K) {l p : Nat} {n : Node S}
    (h : getNode (finalizeLayers dd).layers l p = some n) : AtLayer dd l n := by
  by_cases hne : dd.next = []
  · have : (finalizeLayers dd).layers = dd.layers := by
      unfold finalizeLayers; simp only [hne, List.isEmpty_nil, if_true]
    rw [this] at h
    unfold getNode at h
    split at h
    · cases h
    · rename_i ly hly
      exact .inl ⟨ly, hly, List.mem_of_getElem? h⟩
  · rw [(finalizeLayers_nonempty dd hne).1] at h
    unfold getNode at h
    split at h
    · cases h
    · rename_i ly hly
      rcases getElem?_append_singleton_cases hly with hly | ⟨rfl, rfl⟩
      · exact .inl ⟨ly, hly, List.mem_of_getElem? h⟩
      · exact .inr ⟨rfl, List.mem_of_getElem? h⟩

theorem finalizeLayers_chain (dd : DD S K) {l : Nat} {b : Option Arc} {q : List Dec}
    (h : BestChain dd.layers l b q) : BestChain (finalizeLayers dd).layers l b q := by
  by_cases hne : dd.next = []
  · have : (finalizeLayers dd).layers = dd.layers := by
      unfold finalizeLayers; simp only [hne, List.isEmpty_nil, if_true]
    rw [this]; exact h
  · rw [(finalizeLayers_nonempty dd hne).1]; exact h.mono _

theorem finalizeLayers_length (dd : DD S K) : dd.layers.length ≤ (finalizeLayers dd).layers.length := by
  by_cases hne : dd.next = []
  · have : (finalizeLayers dd).layers = dd.layers := by
      unfold finalizeLayers; simp only [hne, List.isEmpty_nil, if_true]
    rw [this]; exact Nat.le_refl _
  · rw [(finalizeLayers_nonempty dd hne).1, List.length_append]; omega

theorem finalizeLayers_lel (dd : DD S K) : (finalizeLayers dd).lel = dd.lel.getD (finalizeLayers dd).layers.length := by
  unfold finalizeLayers
  split <;> rfl

theorem finalizeLayers_wf (cfg : Cfg S K) (B : Int) (p0 : List Dec) (dd : DD S K)
    (hinv : MInv cfg B p0 dd) (hinv2 : Inv2 cfg dd) :
    CutWF cfg p0 (finalizeLayers dd).layers (finalizeLayers dd).lel := by
  refine ⟨?_, ?_, ?_, ?_⟩
  · intro l p n hn hex
    rcases finalizeLayers_at dd hn with ⟨ly, hly, hmem⟩ | ⟨rfl, hmem⟩
    · obtain ⟨q, h1, h2, h3, _⟩ := hinv.layers l ly hly n hmem hex
      exact ⟨q, finalizeLayers_chain dd h1, h2, h3⟩
    · obtain ⟨q, h1, h2, h3, _⟩ := hinv.next n hmem hex
      exact ⟨q, finalizeLayers_chain dd h1, h2, h3⟩
  · intro l p n hn
    rcases finalizeLayers_at dd hn with ⟨ly, hly, hmem⟩ | ⟨rfl, hmem⟩
    · exact hinv2.arcsL l ly hly n hmem
    · exact hinv2.arcsN n hmem
  · intro l p n hn hle
    rw [finalizeLayers_lel] at hle
    cases hlel : dd.lel with
    | none =>
      obtain ⟨h1, h2⟩ := hinv2.lelNone hlel
      rcases finalizeLayers_at dd hn with ⟨ly, hly, hmem⟩ | ⟨_, hmem⟩
      · exact h1 ly (List.mem_of_getElem? hly) n hmem
      · exact h2 n hmem
    | some k =>
      rw [hlel, Option.getD_some] at hle
      obtain ⟨h1, _, h3⟩ := hinv2.lelSome k hlel
      rcases finalizeLayers_at dd hn with ⟨ly, hly, hmem⟩ | ⟨rfl, _⟩
      · exact h3 l ly hle hly n hmem
      · omega
  · intro hr hlt
    rw [finalizeLayers_lel] at hlt ⊢
    cases hlel : dd.lel with
    | none => rw [hlel, Option.getD_none] at hlt; omega
    | some k =>
      rw [Option.getD_some]
      exact (hinv2.lelSome k hlel).2.1 hr

theorem compile_results (cfg : Cfg S K) (cache : Cache S) (store : DomStore S K) (polls : Nat) (stopAt : Option Nat)
    (hok : (compile cfg cache store polls stopAt).1 = .ok) (r : Result S)
    (hr : r = (compile cfg cache store polls stopAt).2.1 ∨ (compile cfg cache store polls stopAt).2.2.1 = some r) :
    (compile cfg cache store polls stopAt).2.2.2 = (buildLoop cfg stopAt (cfg.P.nbVars + 2) (initDD cfg cache store polls)).1 ∧
    ∃ e, r = (finalize cfg (finalizeLayers (buildLoop cfg stopAt (cfg.P.nbVars + 2) (initDD cfg cache store polls)).1) e).1 := by
  unfold compile at hok hr ⊢
  generalize buildLoop cfg stopAt (cfg.P.nbVars + 2) (initDD cfg cache store polls) = bl at hok hr ⊢
  obtain ⟨dd, oc⟩ := bl
  dsimp only at hok hr ⊢
  cases oc
  · dsimp only at hr ⊢
    refine ⟨rfl, ?_⟩
    rcases hr with hr | hr
    · exact ⟨_, hr⟩
    · split at hr
      · simp only [Option.some.injEq] at hr
        exact ⟨_, hr.symm⟩
      · cases hr
  · cases hok
  · cases hok

theorem CutWF.cutset_nil {cfg : Cfg S K} {p0 : List Dec} {LS : List (List (Node S))} {lel : Nat}
    (h : CutWF cfg p0 LS lel) (hlel : LS.length ≤ lel) : (computeCutset cfg.kind lel LS).2 = [] := by
  rw [List.eq_nil_iff_forall_not_mem]
  intro lp hlp
  cases hk : cfg.kind with
  | lel =>
    rw [hk] at hlp
    obtain ⟨_, h2, _⟩ := computeCutset_lel lel LS lp hlp
    omega
  | frontier =>
    rw [hk] at hlp
    obtain ⟨_, _, _, l', p', m, e, hm, hmex, _⟩ := computeCutset_frontier lel LS lp hlp
    have := h.exactUpTo l' p' m hm (by have := getNode_lt hm; omega)
    rw [hmex] at this; cases this

theorem finalize_cutset_nil (cfg : Cfg S K) (p0 : List Dec) (b : Built S K) (e : Bool)
    (hwf : CutWF cfg p0 b.layers b.lel) (hlel : b.layers.length ≤ b.lel) : (finalize cfg b e).1.cutset = [] := by
  rw [List.eq_nil_iff_forall_not_mem]
  intro c hc
  obtain ⟨lp, _, hlp, _⟩ := finalize_cutset_mem cfg b e c hc
  rw [hwf.cutset_nil hlel] at hlp
  cases hlp

theorem compile_wf (cfg : Cfg S K) (B : Int) (p0 : List Dec) (hB : NoClamp cfg.P cfg.R cfg.root.value B)
    (hroot : Reach cfg.P cfg.root.depth cfg.root.state cfg.root.value p0)
    (cache : Cache S) (store : DomStore S K) (polls : Nat) (stopAt : Option Nat) :
    CutWF cfg p0 (finalizeLayers (buildLoop cfg stopAt (cfg.P.nbVars + 2) (initDD cfg cache store polls)).1).layers
      (finalizeLayers (buildLoop cfg stopAt (cfg.P.nbVars + 2) (initDD cfg cache store polls)).1).lel := by
  obtain ⟨h1, h2⟩ := buildLoop_inv2 cfg B p0 hB stopAt (cfg.P.nbVars + 2) (initDD cfg cache store polls)
    (initDD_inv cfg B p0 hB hroot cache store polls) (initDD_inv2 cfg cache store polls) rfl
    (Nat.le_of_eq (Nat.zero_add _))
  exact finalizeLayers_wf cfg B p0 _ h1 h2

end Ddo
