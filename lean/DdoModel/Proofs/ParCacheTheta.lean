import DdoModel.Proofs.Theta
import DdoModel.Proofs.CacheClosedContract
/-! A **strict** form of the threshold soundness theorem of one compilation (Stage 1 of C09; the stages are laid out in
`Props/C09b.lean`), for the parallel solver with the cache.

`Ddo.Theta.theta_sound` justifies a recorded threshold `u = (s, d, θ, explored)` by (among others) a sub-problem `c` of the
cut-set with `d ≤ c.depth`.  In the strict form the same alternative is sharpened: `c` is **strictly deeper** than `d`, or it
is the very node the threshold belongs to (`c.depth = d ∧ c.state = s`).  The argument is the one of `gt_all` (`ThetaCore.lean`):
the alternative `Handed` is produced either for the node itself, or inherited from a child (one layer deeper); `HandedS` records
that, in the way `CutBy` already does (`l ≤ l' ∧ (l' = l → p' = p)`).  The core induction (`HandedS`, `GTS`, `gt_all_s`) is in
`ThetaCore.lean`, `Ctx.theta_sound_strict` and `theta_sound_strict` (on `finalize`, on `compile`) in `Theta.lean`; here it is put
in the form of the contract `CompC` (`ThetaStrict`). -/
set_option linter.unusedSectionVars false
set_option linter.unusedVariables false
namespace Ddo.Theta
open Ddo Ddo.Bounds
variable {S K : Type} [DecidableEq S] [DecidableEq K]

end Ddo.Theta

namespace Ddo.C09
open Ddo Ddo.Theta Ddo.CacheClosed
variable {S K : Type} [DecidableEq S] [DecidableEq K]

/-- **Stage 1 in the form of the field `theta` of `CompC`, strict form** (`theta_contract_of_model` with the cut-set
    alternative sharpened: strictly deeper, or the node of the threshold itself) -/
theorem theta_contract_strict_of_model (cfg : Cfg S K) (H : Nat → S → EInt) (B : Int) (p0 : List Dec) (cache : Cache S)
    (store : DomStore S K) (polls : Nat) (stopAt : Option Nat)
    (hrel : cfg.ctype = .relaxed) (hdom : cfg.dom = none) (hW : 1 ≤ cfg.width)
    (hP : Potential cfg.P H) (hR : RubOk cfg.R H) (hM : MergeOk cfg.R H) (hAM : Cover.AttMerge cfg.P cfg.R H)
    (hB : NoClamp cfg.P cfg.R cfg.root.value B) (hlb : cfg.lb < iMax)
    (hroot : Reach cfg.P cfg.root.depth cfg.root.state cfg.root.value p0) (hk0 : cfg.root.depth ≤ cfg.P.nbVars)
    (hok : (compile cfg cache store polls stopAt).1 = .ok) (r : Result S)
    (hr : r = (compile cfg cache store polls stopAt).2.1 ∨ (compile cfg cache store polls stopAt).2.2.1 = some r) :
    ∀ u ∈ r.cacheUpdates, ∀ v h, RgB B u.2.1 v → v ≤ u.2.2.1 → H u.2.1 u.1 = some h →
      v + h ≤ bkOf cfg.lb r.bestExactValue ∨
      (∃ c ∈ (C01.toOut r).cutset, (u.2.1 < c.depth ∨ (c.depth = u.2.1 ∧ c.state = u.1)) ∧
        ∃ y, optOf H c = some y ∧ v + h ≤ y) ∨
      CacheCov H (RgB B) (viewOf cache) u.2.1 (v + h) := by
  intro u hu v h hv hvt hH
  obtain ⟨h1, h2⟩ := Ddo.Theta.theta_sound_strict cfg H B ((cfg.root.depth : Int) * B) p0 cache store polls stopAt hrel hdom hW
    hP hR hM hAM hB hlb hroot (Int.mul_nonneg (by omega) hB.nonneg) (bd_shift_small hB _ hk0) hok r hr u hu
  rcases h2 v h (by rw [bd_shift B _ _ h1]; exact hv) hvt hH with a | a | ⟨_, s', d', t, v', h', a1, a2, a3, a4, a5, a6⟩
  · exact .inl a
  · exact .inr (.inl a)
  · right; right
    refine ⟨s', d', t, v', h', ?_, a2, ?_, a4, a5, a6⟩
    · unfold viewOf; rw [a1]; rfl
    · unfold RgB; rw [← bd_shift B cfg.root.depth d' (by omega)]; exact a3

def ThetaStrict (H : Nat → S → EInt) (Rg : Nat → Int → Prop) (T : CView S) (o : DDOut S)
    (ups : List (S × Nat × Int × Bool)) (bk : Int) : Prop :=
  ∀ u ∈ ups, ∀ v h, Rg u.2.1 v → v ≤ u.2.2.1 → H u.2.1 u.1 = some h →
    v + h ≤ bk ∨
    (∃ c ∈ o.cutset, (u.2.1 < c.depth ∨ (c.depth = u.2.1 ∧ c.state = u.1)) ∧ ∃ y, optOf H c = some y ∧ v + h ≤ y) ∨
    CacheCov H Rg T u.2.1 (v + h)

theorem ThetaStrict.theta {H : Nat → S → EInt} {Rg : Nat → Int → Prop} {T : CView S} {o : DDOut S}
    {ups : List (S × Nat × Int × Bool)} {bk : Int} (hs : ThetaStrict H Rg T o ups bk) :
    ∀ u ∈ ups, ∀ v h, Rg u.2.1 v → v ≤ u.2.2.1 → H u.2.1 u.1 = some h →
      v + h ≤ bk ∨ (∃ c ∈ o.cutset, u.2.1 ≤ c.depth ∧ ∃ y, optOf H c = some y ∧ v + h ≤ y) ∨ CacheCov H Rg T u.2.1 (v + h) := by
  intro u hu v h hv hvt hH
  rcases hs u hu v h hv hvt hH with a | ⟨c, hc, hd, hy⟩ | a
  · exact .inl a
  · refine .inr (.inl ⟨c, hc, ?_, hy⟩)
    rcases hd with hd | ⟨hd, _⟩ <;> omega
  · exact .inr (.inr a)

section
variable (H : Nat → S → EInt)

theorem thetaStrict_relaxed_of_model (cfg : Cfg S K) (B : Int) (p0 : List Dec) (cache : Cache S)
    (store : DomStore S K) (polls : Nat)
    (hrel : cfg.ctype = .relaxed) (hdom : cfg.dom = none) (hW : 1 ≤ cfg.width)
    (hP : Potential cfg.P H) (hR : RubOk cfg.R H) (hM : MergeOk cfg.R H) (hAM : Cover.AttMerge cfg.P cfg.R H)
    (hB : NoClamp cfg.P cfg.R cfg.root.value B) (hlb : cfg.lb < iMax)
    (hroot : Reach cfg.P cfg.root.depth cfg.root.state cfg.root.value p0)
    (hk0 : cfg.root.depth ≤ cfg.P.nbVars)
    (hok : (compile cfg cache store polls none).1 = .ok)
    (ups : List (S × Nat × Int × Bool)) (hups : ∀ u ∈ ups, u ∈ (compile cfg cache store polls none).2.1.cacheUpdates) :
    ThetaStrict H (RgB B) (viewOf cache) (C01.toOut (compile cfg cache store polls none).2.1) ups
      (bkOf cfg.lb (compile cfg cache store polls none).2.1.bestExactValue) := by
  intro u hu
  exact theta_contract_strict_of_model cfg H B p0 cache store polls none hrel hdom hW hP hR hM hAM hB hlb hroot hk0 hok _
    (.inl rfl) u (hups u hu)

/-- **`ThetaStrict` for an exact restricted compilation that consults a cache**: its thresholds are those of its relaxed
    twin (`restricted_exact_as_relaxed`), whose cut-set is empty -/
theorem thetaStrict_restricted_of_model (cfg : Cfg S K) (B : Int) (p0 : List Dec) (cache : Cache S)
    (store : DomStore S K) (polls : Nat)
    (hres : cfg.ctype = .restricted) (hdom : cfg.dom = none) (hW : 1 ≤ cfg.width)
    (hP : Potential cfg.P H) (hR : RubOk cfg.R H) (hM : MergeOk cfg.R H) (hAM : Cover.AttMerge cfg.P cfg.R H)
    (hB : NoClamp cfg.P cfg.R cfg.root.value B) (hlb : cfg.lb < iMax)
    (hroot : Reach cfg.P cfg.root.depth cfg.root.state cfg.root.value p0)
    (hk0 : cfg.root.depth ≤ cfg.P.nbVars)
    (hok : (compile cfg cache store polls none).1 = .ok)
    (hex : (compile cfg cache store polls none).2.1.isExact = true)
    (ups : List (S × Nat × Int × Bool)) (hups : ∀ u ∈ ups, u ∈ (compile cfg cache store polls none).2.1.cacheUpdates) :
    ThetaStrict H (RgB B) (viewOf cache) (C01.toOut (compile cfg cache store polls none).2.1) ups
      (bkOf cfg.lb (compile cfg cache store polls none).2.1.bestExactValue) := by
  obtain ⟨xok, xex, xbe, xups, hcs, xcs⟩ := restricted_exact_as_relaxed cfg B p0 cache store polls none hres hB hroot hok hex
  intro u hu v h hv hvt hH
  have hu' : u ∈ (compile { cfg with ctype := .relaxed } cache store polls none).2.1.cacheUpdates := by
    rw [xups]; exact hups u hu
  have := theta_contract_strict_of_model { cfg with ctype := .relaxed } H B p0 cache store polls none rfl hdom hW hP hR hM hAM
    hB hlb hroot hk0 xok _ (.inl rfl) u hu' v h hv hvt hH
  rw [xbe] at this
  rcases this with a | ⟨c, hc, _⟩ | a
  · exact .inl a
  · exfalso
    have hnil : (C01.toOut (compile { cfg with ctype := .relaxed } cache store polls none).2.1).cutset = [] := xcs
    rw [hnil] at hc; cases hc
  · exact .inr (.inr a)

end
end Ddo.C09

#print axioms Ddo.Theta.gt_all_s
#print axioms Ddo.Theta.theta_sound_strict
#print axioms Ddo.C09.theta_contract_strict_of_model
#print axioms Ddo.C09.thetaStrict_relaxed_of_model
#print axioms Ddo.C09.thetaStrict_restricted_of_model
