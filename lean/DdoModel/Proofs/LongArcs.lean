import DdoModel.Proofs.MddCutset
/-! Long arcs, on the side of the model and on the side of the diagram: `ReachSkip` is `Reach` in which a layer whose variable does
    not impact the state reached so far may contribute no decision; a `PathRel` — a relation closed under a transition of the model and
    under a skip — is the form in which the exactness invariant of the pooled diagram is stated.  With them, the facts about `BestChainP`
    (`Proofs/MddExact.lean`), `RubEq` and `Bnd` that the pooled invariants use. -/
set_option linter.unusedSectionVars false
set_option linter.unusedVariables false
namespace Ddo
variable {S : Type}

/-- `Reach` with skipped variables (long arcs): `(s, v)` is reached at depth `k` by the decisions `p` (in order) from the
    problem root, where a layer whose variable does not impact the state reached so far may contribute **no decision**
    (`skip`: state and value unchanged, depth + 1).  `p.length ≤ k` (`ReachSkip.length_le`), with equality iff no layer
    was skipped.  This is the relational form of `evalSkip` (`Dp.lean`). -/
inductive ReachSkip (P : Problem S) : Nat → S → Int → List Dec → Prop
  | root : ReachSkip P 0 P.init P.initVal []
  | step (k : Nat) (s : S) (v : Int) (p : List Dec) (L : List S) (x : Nat) (d : Int) :
      ReachSkip P k s v p → P.nextVar k L = some x → s ∈ L → d ∈ P.domain x s →
      ReachSkip P (k + 1) (P.trans s ⟨x, d⟩) (v + P.cost s (P.trans s ⟨x, d⟩) ⟨x, d⟩) (p ++ [⟨x, d⟩])
  | skip (k : Nat) (s : S) (v : Int) (p : List Dec) (L : List S) (x : Nat) :
      ReachSkip P k s v p → P.nextVar k L = some x → s ∈ L → P.impacted x s = false →
      ReachSkip P (k + 1) s v p

/-- every variable impacts every state: no long arcs -/
def AllImpacted (P : Problem S) : Prop := ∀ x s, P.impacted x s = true

theorem Reach.toSkip {P : Problem S} {k : Nat} {s : S} {v : Int} {p : List Dec} (h : Reach P k s v p) :
    ReachSkip P k s v p := by
  induction h with
  | root => exact .root
  | step k s v p L x d _ h2 h3 h4 ih => exact .step k s v p L x d ih h2 h3 h4

theorem ReachSkip.toReach {P : Problem S} (hall : AllImpacted P) {k : Nat} {s : S} {v : Int} {p : List Dec}
    (h : ReachSkip P k s v p) : Reach P k s v p := by
  induction h with
  | root => exact .root
  | step k s v p L x d _ h2 h3 h4 ih => exact .step k s v p L x d ih h2 h3 h4
  | skip k s v p L x _ _ _ h4 _ => rw [hall x s] at h4; cases h4

theorem ReachSkip.length_le {P : Problem S} {k : Nat} {s : S} {v : Int} {p : List Dec} (h : ReachSkip P k s v p) :
    p.length ≤ k := by
  induction h with
  | root => exact Nat.le_refl _
  | step k s v p L x d _ _ _ _ ih => rw [List.length_append, List.length_singleton]; exact Nat.succ_le_succ ih
  | skip k s v p L x _ _ _ _ ih => exact Nat.le_succ_of_le ih

theorem BestChainP.mono {layers : List (List (Node S))} (more : List (List (Node S))) {l : Nat} {b : Option Arc}
    {q : List Dec} (h : BestChainP layers l b q) : BestChainP (layers ++ more) l b q := by
  induction h with
  | root l => exact .root l
  | step l a p q hl hg _ ih => exact .step l a p q hl (getNode_append_left _ _ _ _ _ hg) ih

variable [DecidableEq S]

/-- the index of a chain is only an upper bound on the layers it visits -/
theorem BestChainP.of_le {layers : List (List (Node S))} {l l' : Nat} {b : Option Arc} {q : List Dec}
    (h : BestChainP layers l b q) (hl : l ≤ l' ∨ layers.length ≤ l') : BestChainP layers l' b q := by
  cases h with
  | root l => exact .root l'
  | step l a p q hlt hg hch =>
    refine .step l' a p q ?_ hg hch
    rcases hl with hl | hl
    · exact Nat.lt_of_lt_of_le hlt hl
    · exact Nat.lt_of_lt_of_le (getNode_lt hg) hl

theorem BestChainP.of_keyEq {ls ls' : List (List (Node S))} {l : Nat} {b : Option Arc} {q : List Dec}
    (h : BestChainP ls l b q) (hk : KeyEq ls' ls) : BestChainP ls' l b q := by
  induction h with
  | root l => exact .root l
  | step l a p q hl hg _ ih =>
    have := hk.getNode a.fromL a.fromP
    rw [hg] at this
    cases hg' : getNode ls' a.fromL a.fromP with
    | none => rw [hg'] at this; cases this
    | some p' =>
      rw [hg'] at this
      simp only [Option.map_some, Option.some.injEq, bv, Prod.mk.injEq] at this
      exact .step l a p' q hl hg' (this.2 ▸ ih)

/-- an empty last layer holds no ancestor -/
theorem BestChainP.drop_nil {layers : List (List (Node S))} {l : Nat} {b : Option Arc} {q : List Dec}
    (h : BestChainP (layers ++ [[]]) l b q) : BestChainP layers l b q := by
  generalize hL : layers ++ [[]] = L at h
  induction h with
  | root l => exact .root l
  | step l a p q hl hg _ ih =>
    subst hL
    have hg' : getNode layers a.fromL a.fromP = some p := by
      obtain ⟨ly, h1, h2⟩ := Cover.getNode_lt hg
      rcases getElem?_append_singleton_cases h1 with h1 | ⟨_, rfl⟩
      · unfold getNode; rw [h1]; exact h2
      · cases h2
    exact .step l a p q hl hg' ih

theorem Bnd.mono {B : Int} (hB : 0 ≤ B) {k k' : Nat} {v : Int} (h : Bnd B k v) (hk : k ≤ k') : Bnd B k' v := by
  unfold Bnd at *
  have h1 : ((k : Int) + 1) * B ≤ ((k' : Int) + 1) * B := Int.mul_le_mul_of_nonneg_right (by omega) hB
  omega

theorem keyEq_of_rubEq (plain : List (List (Node S))) {ly ly0 : List (Node S)} (h : RubEq ly ly0) :
    KeyEq (plain ++ [ly]) (plain ++ [ly0]) := by
  unfold KeyEq
  rw [List.map_append, List.map_append]
  congr 1
  simp only [List.map_cons, List.map_nil, List.cons.injEq, and_true]
  apply List.ext_getElem?
  intro j
  rw [List.getElem?_map, List.getElem?_map]
  have := h j
  cases h1 : ly[j]? <;> cases h2 : ly0[j]? <;> rw [h1, h2] at this <;>
    simp only [Option.map_none, Option.map_some, Option.some.injEq, reduceCtorEq] at this ⊢
  have hc := stripRub_core this
  simp only [bv, Prod.mk.injEq]
  exact ⟨hc.2.2.1, hc.2.2.2.1⟩

theorem RubEq.length {ly ly0 : List (Node S)} (h : RubEq ly ly0) : ly.length = ly0.length := by
  rcases Nat.lt_trichotomy ly.length ly0.length with hlt | heq | hgt
  · have := h ly.length
    rw [List.getElem?_eq_none (Nat.le_refl _), List.getElem?_eq_getElem hlt] at this
    cases this
  · exact heq
  · have := h ly0.length
    rw [List.getElem?_eq_none (Nat.le_refl _), List.getElem?_eq_getElem hgt] at this
    cases this

theorem Bnd.zero {B v : Int} (h : -B ≤ v ∧ v ≤ B) : Bnd B 0 v := by
  show -((((0 : Nat) : Int) + 1) * B) ≤ v ∧ v ≤ (((0 : Nat) : Int) + 1) * B
  rw [show (((0 : Nat) : Int) + 1) = 1 by rfl, Int.one_mul]
  exact h

theorem RubEq.mem {ly ly0 : List (Node S)} (h : RubEq ly ly0) {n : Node S} (hn : n ∈ ly) :
    ∃ n0 ∈ ly0, n0.inb = n.inb ∧ n0.isExact = n.isExact ∧ CoreEq n0 n := by
  obtain ⟨p, hp⟩ := List.mem_iff_getElem?.1 hn
  obtain ⟨n0, h0, hsr⟩ := h.get hp
  have hinb : n0.inb = n.inb := by
    have := congrArg Node.inb hsr
    simpa only [stripRub] using this
  exact ⟨n0, List.mem_of_getElem? h0, hinb, (stripRub_core hsr).1, (stripRub_core hsr).2⟩

theorem RubEq.isEmpty_iff {ly ly0 : List (Node S)} (h : RubEq ly ly0) : ly.isEmpty = true ↔ ly0 = [] := by
  rw [List.isEmpty_iff, ← List.length_eq_zero_iff, h.length, List.length_eq_zero_iff]

/-- a relation on (depth, state, value, decisions) closed under a transition of the model and under a skip -/
structure PathRel (P : Problem S) (R : Nat → S → Int → List Dec → Prop) : Prop where
  step : ∀ k s v q L x d, R k s v q → P.nextVar k L = some x → s ∈ L → d ∈ P.domain x s →
    R (k + 1) (P.trans s ⟨x, d⟩) (v + P.cost s (P.trans s ⟨x, d⟩) ⟨x, d⟩) (q ++ [⟨x, d⟩])
  skip : ∀ k s v q L x, R k s v q → P.nextVar k L = some x → s ∈ L → P.impacted x s = false → R (k + 1) s v q

theorem pathRel_reachSkip (P : Problem S) (p0 : List Dec) : PathRel P (fun k s v q => ReachSkip P k s v (p0 ++ q)) :=
  ⟨fun k s v q L x d h hnv hs hd => (by rw [← List.append_assoc]; exact .step k s v _ L x d h hnv hs hd),
   fun k s v q L x h hnv hs hi => .skip k s v _ L x h hnv hs hi⟩

end Ddo
