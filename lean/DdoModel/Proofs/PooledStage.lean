import DdoModel.Pooled
import DdoModel.Proofs.LongArcs
import DdoModel.Proofs.MddProtocol
/-! One step of the pooled loop, stage by stage: `prepLayerP` in terms of the stages it shares with the clean diagram — the impacted pool
    nodes form the layer (`curNodes`; the others, `restNodes`, wait), `filterCache`, `filterDom`, then restrict / relax / keep
    (`SquashCase`) — and the expansion `expF`, which starts from the waiting nodes.  `StepP` is what a successful `stepLayerP` did; every
    invariant of the pooled build starts from it.  `StepIso` (`Proofs/PooledStep.lean`: no cache, no dominance) and `PProgress.Mat`
    (`Proofs/PooledProgress.lean`: relaxed compilations) are readings of it for particular settings. -/
set_option linter.unusedSectionVars false
set_option linter.unusedVariables false
namespace Ddo.Pooled
open Ddo
variable {S K : Type} [DecidableEq S] [DecidableEq K]

def impLog (pd : PD S K) (var : Nat) : List (Call S) :=
  pd.pool.foldl (fun lg n => Call.impacted var n.state :: lg) pd.log
def curNodes (cfg : Cfg S K) (pd : PD S K) (var : Nat) : List (Node S) :=
  (pd.pool.filter (fun n => cfg.P.impacted var n.state)).map (fun n => { n with depth := pd.depth })
def fcOf (cfg : Cfg S K) (pd : PD S K) (var : Nat) : List (Node S) × List Nat :=
  if pd.layers.isEmpty then (curNodes cfg pd var, List.range (curNodes cfg pd var).length)
  else filterCache cfg pd.cache (curNodes cfg pd var) (List.range (curNodes cfg pd var).length)
def fdOf (cfg : Cfg S K) (pd : PD S K) (var : Nat) : List (Node S) × List Nat × DomStore S K × Bool :=
  filterDom cfg pd.store (fcOf cfg pd var).1 (fcOf cfg pd var).2

/-- `prepLayerP` after the filters, the filtered layer `fd` being a parameter -/
def prepCore (cfg : Cfg S K) (plain : List (List (Node S))) (nlayers : Nat) (ief0 : Bool) (ndom : Nat)
    (fd : List (Node S) × List Nat × DomStore S K × Bool) (log : List (Call S)) :
    Option (List (Node S) × List Nat × DomStore S K × Nat × Bool × List (Call S)) :=
  let (layer, cur, store, okDom) := fd
  if !okDom then none else
  let needRestrict := cfg.ctype == .restricted && cur.length > cfg.width
  let needRelax := cfg.ctype == .relaxed && cur.length > cfg.width && nlayers ≥ 2
  if needRelax && cfg.width == 0 then none else
  let isExactField := ief0 && !(needRestrict || needRelax)
  let (layer, cur, log) :=
    if needRestrict then let (l, c) := restrictLayer cfg layer cur; (l, c, log)
    else if needRelax then relaxLayer cfg plain layer cur log
    else (layer, cur, log)
  some (layer, cur, store, ndom, isExactField, log)

theorem prepLayerP_eq (cfg : Cfg S K) (pd : PD S K) (var : Nat) :
    prepLayerP cfg pd var =
      prepCore cfg pd.plain pd.layers.length pd.isExactField
        (pd.ndom + ((fcOf cfg pd var).2.length - (fdOf cfg pd var).2.1.length)) (fdOf cfg pd var) (impLog pd var) := by
  rfl

inductive SquashCase (cfg : Cfg S K) (plain : List (List (Node S))) (nlayers : Nat) (ief0 : Bool)
    (fd : List (Node S) × List Nat × DomStore S K × Bool) (log0 : List (Call S))
    (layer : List (Node S)) (cur : List Nat) (ief : Bool) (log : List (Call S)) : Prop
  | restrict :
      cfg.ctype = .restricted → fd.2.1.length > cfg.width →
      layer = (restrictLayer cfg fd.1 fd.2.1).1 → cur = (restrictLayer cfg fd.1 fd.2.1).2 →
      log = log0 → ief = false → SquashCase cfg plain nlayers ief0 fd log0 layer cur ief log
  | relax :
      cfg.ctype = .relaxed → fd.2.1.length > cfg.width → nlayers ≥ 2 → 1 ≤ cfg.width →
      layer = (relaxLayer cfg plain fd.1 fd.2.1 log0).1 → cur = (relaxLayer cfg plain fd.1 fd.2.1 log0).2.1 →
      log = (relaxLayer cfg plain fd.1 fd.2.1 log0).2.2 → ief = false →
      SquashCase cfg plain nlayers ief0 fd log0 layer cur ief log
  | keep :
      ¬ (cfg.ctype = .restricted ∧ fd.2.1.length > cfg.width) →
      ¬ (cfg.ctype = .relaxed ∧ fd.2.1.length > cfg.width ∧ nlayers ≥ 2) →
      layer = fd.1 → cur = fd.2.1 → log = log0 → ief = ief0 →
      SquashCase cfg plain nlayers ief0 fd log0 layer cur ief log

theorem prepCore_elim (cfg : Cfg S K) (plain : List (List (Node S))) (nlayers : Nat) (ief0 : Bool) (ndom0 : Nat)
    (fd : List (Node S) × List Nat × DomStore S K × Bool) (log0 : List (Call S))
    (layer : List (Node S)) (cur : List Nat) (store : DomStore S K) (ndom : Nat) (ief : Bool) (log : List (Call S))
    (h : prepCore cfg plain nlayers ief0 ndom0 fd log0 = some (layer, cur, store, ndom, ief, log)) :
    store = fd.2.2.1 ∧ fd.2.2.2 = true ∧ SquashCase cfg plain nlayers ief0 fd log0 layer cur ief log := by
  obtain ⟨l0, c0, st0, ok0⟩ := fd
  unfold prepCore at h
  dsimp only at h ⊢
  cases ok0 with
  | false => cases h
  | true =>
    generalize hR : (cfg.ctype == CompType.restricted && decide (c0.length > cfg.width)) = nR at h
    generalize hX : (cfg.ctype == CompType.relaxed && decide (c0.length > cfg.width) && decide (nlayers ≥ 2)) = nX at h
    have eR : nR = true ↔ cfg.ctype = .restricted ∧ c0.length > cfg.width := by
      rw [← hR, Bool.and_eq_true, beq_iff_eq, decide_eq_true_iff]
    have eX : nX = true ↔ cfg.ctype = .relaxed ∧ c0.length > cfg.width ∧ nlayers ≥ 2 := by
      rw [← hX, Bool.and_eq_true, Bool.and_eq_true, beq_iff_eq, decide_eq_true_iff, decide_eq_true_iff, and_assoc]
    simp only [Bool.not_true, Bool.false_eq_true, if_false] at h
    cases nR with
    | true =>
      have hr := eR.1 rfl
      cases nX with
      | true => exact absurd ((eX.1 rfl).1.symm.trans hr.1) (by decide)
      | false =>
        simp only [Bool.false_and, Bool.false_eq_true, if_false, if_true, Bool.true_or, Bool.not_true, Bool.and_false] at h
        cases h
        exact ⟨rfl, rfl, .restrict hr.1 hr.2 rfl rfl rfl rfl⟩
    | false =>
      have hr : ¬ (cfg.ctype = .restricted ∧ c0.length > cfg.width) := fun c => Bool.false_ne_true (eR.2 c)
      cases nX with
      | true =>
        have hx := eX.1 rfl
        cases hw : cfg.width == 0 with
        | true => rw [hw] at h; cases h
        | false =>
          simp only [hw, Bool.and_false, Bool.false_eq_true, if_false, if_true, Bool.false_or, Bool.not_true] at h
          cases h
          exact ⟨rfl, rfl, .relax hx.1 hx.2.1 hx.2.2 (Nat.pos_of_ne_zero (by simpa using hw)) rfl rfl rfl rfl⟩
      | false =>
        have hx : ¬ (cfg.ctype = .relaxed ∧ c0.length > cfg.width ∧ nlayers ≥ 2) := fun c => Bool.false_ne_true (eX.2 c)
        simp only [Bool.false_and, Bool.false_eq_true, if_false, Bool.or_false, Bool.not_false, Bool.and_true] at h
        cases h
        exact ⟨rfl, rfl, .keep hr hx rfl rfl rfl rfl⟩

/-- the pool nodes that are skipped past the layer (long arcs) -/
def restNodes (cfg : Cfg S K) (pd : PD S K) (var : Nat) : List (Node S) :=
  pd.pool.filter (fun n => !cfg.P.impacted var n.state)

theorem mem_curNodes_iff {cfg : Cfg S K} {pd : PD S K} {var : Nat} {n : Node S} :
    n ∈ curNodes cfg pd var ↔ ∃ m ∈ pd.pool, cfg.P.impacted var m.state = true ∧ n = { m with depth := pd.depth } := by
  unfold curNodes
  rw [List.mem_map]
  constructor
  · rintro ⟨m, hm, rfl⟩
    obtain ⟨h1, h2⟩ := List.mem_filter.1 hm
    exact ⟨m, h1, h2, rfl⟩
  · rintro ⟨m, h1, h2, rfl⟩
    exact ⟨m, List.mem_filter.2 ⟨h1, h2⟩, rfl⟩

theorem mem_restNodes_iff {cfg : Cfg S K} {pd : PD S K} {var : Nat} {m : Node S} :
    m ∈ restNodes cfg pd var ↔ m ∈ pd.pool ∧ cfg.P.impacted var m.state = false := by
  unfold restNodes
  rw [List.mem_filter, Bool.not_eq_true']

/-- the expansion of the positions `cur` of `layer`, the children joining the nodes `rest` in the pool -/
def expF (cfg : Cfg S K) (var lidx : Nat) (layer rest : List (Node S)) (cur : List Nat) (log : List (Call S)) :
    List (Node S) × List (Node S) × List (Call S) :=
  cur.foldl (expandOne cfg var lidx) (layer, rest, log)

/-- a successful `stepLayerP cfg pd var = some pd'`, in terms of the squashed layer `(layer, cur, ief, log)` -/
structure StepP (cfg : Cfg S K) (pd pd' : PD S K) (var : Nat) (layer : List (Node S)) (cur : List Nat) (ief : Bool)
    (log : List (Call S)) : Prop where
  okDom : (fdOf cfg pd var).2.2.2 = true
  sq : SquashCase cfg pd.plain pd.layers.length pd.isExactField (fdOf cfg pd var) (impLog pd var) layer cur ief log
  layers : pd'.layers =
    if (expF cfg var pd.layers.length layer (restNodes cfg pd var) cur log).1.isEmpty then pd.layers
    else pd.layers ++ [(pd.depth, (expF cfg var pd.layers.length layer (restNodes cfg pd var) cur log).1)]
  pool : pd'.pool = (expF cfg var pd.layers.length layer (restNodes cfg pd var) cur log).2.1
  kids : pd'.rootKids = if pd.layers.isEmpty then
      kidsOf (expF cfg var pd.layers.length layer (restNodes cfg pd var) cur log).2.1 else pd.rootKids
  log : pd'.log = (expF cfg var pd.layers.length layer (restNodes cfg pd var) cur log).2.2
  depth : pd'.depth = pd.depth + 1
  ief : pd'.isExactField = ief
  polls : pd'.polls = pd.polls

theorem stepLayerP_elim (cfg : Cfg S K) (pd pd' : PD S K) (var : Nat) (h : stepLayerP cfg pd var = some pd') :
    ∃ layer cur ief log, StepP cfg pd pd' var layer cur ief log := by
  unfold stepLayerP at h
  rw [prepLayerP_eq] at h
  cases hp : prepCore cfg pd.plain pd.layers.length pd.isExactField
      (pd.ndom + ((fcOf cfg pd var).2.length - (fdOf cfg pd var).2.1.length)) (fdOf cfg pd var) (impLog pd var) with
  | none => rw [hp] at h; cases h
  | some t =>
    obtain ⟨layer, cur, store, ndom, ief, log⟩ := t
    rw [hp] at h
    obtain ⟨_, hok, hsq⟩ := prepCore_elim cfg _ _ _ _ _ _ _ _ _ _ _ _ hp
    simp only [Option.some.injEq] at h
    subst h
    exact ⟨layer, cur, ief, log, hok, hsq, rfl, rfl, rfl, rfl, rfl, rfl, rfl⟩

theorem StepP.plain {cfg : Cfg S K} {pd pd' : PD S K} {var : Nat} {layer : List (Node S)} {cur : List Nat} {ief : Bool}
    {log : List (Call S)} (h : StepP cfg pd pd' var layer cur ief log) :
    pd'.plain =
      if (expF cfg var pd.layers.length layer (restNodes cfg pd var) cur log).1.isEmpty then pd.plain
      else pd.plain ++ [(expF cfg var pd.layers.length layer (restNodes cfg pd var) cur log).1] := by
  unfold PD.plain
  rw [h.layers]
  split
  · rfl
  · rw [List.map_append]; rfl

theorem plain_length (pd : PD S K) : pd.plain.length = pd.layers.length := by
  unfold PD.plain; rw [List.length_map]

theorem getNode_map_snd {LF : List (Nat × List (Node S))} {l p : Nat} {n : Node S} :
    getNode (LF.map (·.2)) l p = some n ↔ ∃ dp ly, LF[l]? = some (dp, ly) ∧ ly[p]? = some n := by
  unfold getNode
  rw [List.getElem?_map]
  cases LF[l]? with
  | none => exact ⟨fun h => (nomatch h), fun ⟨_, _, h, _⟩ => (nomatch h)⟩
  | some dl => exact ⟨fun h => ⟨dl.1, dl.2, rfl, h⟩, fun ⟨_, _, h, hp⟩ => (Option.some.inj h) ▸ hp⟩

theorem impLog_eq (pd : PD S K) (var : Nat) :
    impLog pd var = (pd.pool.map (fun n => Call.impacted var n.state)).reverse ++ pd.log := by
  unfold impLog
  generalize pd.log = lg
  induction pd.pool generalizing lg with
  | nil => rfl
  | cons n r ih =>
    rw [List.foldl_cons, ih, List.map_cons, List.reverse_cons, List.append_assoc]
    rfl

theorem fdOf_subS (cfg : Cfg S K) (pd : PD S K) (var : Nat) : SubS (fdOf cfg pd var).1 (curNodes cfg pd var) := by
  have hfc : SubS (fcOf cfg pd var).1 (curNodes cfg pd var) := by
    unfold fcOf
    split
    · exact SubS.refl _
    · exact filterCache_subS _ _ _ _
  exact (filterDom_subS cfg pd.store (fcOf cfg pd var).1 (fcOf cfg pd var).2).trans hfc

theorem squashCase_sub (cfg : Cfg S K) (plain : List (List (Node S))) (nl : Nat) (ief0 : Bool)
    (fd : List (Node S) × List Nat × DomStore S K × Bool) (log0 : List (Call S))
    (layer : List (Node S)) (cur : List Nat) (ief : Bool) (log : List (Call S))
    (h : SquashCase cfg plain nl ief0 fd log0 layer cur ief log) :
    SubE layer fd.1 ∧ (cfg.ctype ≠ .relaxed → SubS layer fd.1) := by
  cases h with
  | restrict _ _ hl _ _ _ =>
    rw [hl]; exact ⟨(restrictLayer_subS cfg _ _).toSub, fun _ => restrictLayer_subS cfg _ _⟩
  | relax hc _ _ _ hl _ _ _ =>
    rw [hl]; exact ⟨relaxLayer_sub cfg _ _ _ _, fun hne => absurd hc hne⟩
  | keep _ _ hl _ _ _ =>
    rw [hl]; exact ⟨SubE.refl _, fun _ => SubS.refl _⟩

/-- a property `Q` of the pool nodes survives the expansion when `appendEdge` from an expanded node keeps it or gives it to a fresh
    node; the layer changes in its `rub` fields only -/
theorem expF_children (cfg : Cfg S K) (var lidx : Nat) (ly0 rest : List (Node S)) (cur : List Nat) (log : List (Call S))
    (Q : Node S → Prop) (hrest : ∀ c ∈ rest, Q c)
    (hchild : ∀ p ∈ cur, ∀ (n0 par : Node S), ly0[p]? = some n0 → stripRub n0 = stripRub par →
      ∀ d ∈ cfg.P.domain var par.state, ∀ m : Node S, (Q m ∨ m = freshNode cfg par ⟨var, d⟩) →
        m.state = cfg.P.trans par.state ⟨var, d⟩ →
        Q (appendEdge par m ⟨lidx, p, ⟨var, d⟩, cfg.P.cost par.state (cfg.P.trans par.state ⟨var, d⟩) ⟨var, d⟩⟩)) :
    RubEq (expF cfg var lidx ly0 rest cur log).1 ly0 ∧ ∀ c ∈ (expF cfg var lidx ly0 rest cur log).2.1, Q c :=
  foldl_inv (β := List (Node S) × List (Node S) × List (Call S)) (fun acc => RubEq acc.1 ly0 ∧ ∀ c ∈ acc.2.1, Q c)
    _ cur _ ⟨RubEq.refl _, hrest⟩
    (fun acc p hp h => expandOne_rub_children Q cfg var lidx ly0 acc p h.1 h.2 (hchild p hp))

theorem expF_allEx (cfg : Cfg S K) (var lidx : Nat) (layer rest : List (Node S)) (cur : List Nat) (log : List (Call S))
    (hl : ∀ n ∈ layer, n.isExact = true) (hr : ∀ n ∈ rest, n.isExact = true) :
    (∀ n ∈ (expF cfg var lidx layer rest cur log).1, n.isExact = true) ∧
      ∀ c ∈ (expF cfg var lidx layer rest cur log).2.1, c.isExact = true :=
  have ⟨hrub, hc⟩ := expF_children cfg var lidx layer rest cur log (·.isExact = true) hr
    fun p _ n0 par h0 hs d _ m hm _ => by
      have hpe : par.isExact = true := (stripRub_core hs).1 ▸ hl n0 (List.mem_of_getElem? h0)
      rw [appendEdge_isExact, hpe, Bool.true_and]
      rcases hm with hm | hm
      · exact hm
      · rw [hm, freshNode_isExact]; exact hpe
  ⟨fun n hn => let ⟨n0, h0, he, _⟩ := hrub.subS n hn; he ▸ hl n0 h0, hc⟩

theorem stepLayerP_allEx (cfg : Cfg S K) (pd pd' : PD S K) (var : Nat) (hne : cfg.ctype ≠ .relaxed)
    (hall : ∀ n ∈ pd.pool, n.isExact = true) (h : stepLayerP cfg pd var = some pd') : ∀ n ∈ pd'.pool, n.isExact = true := by
  obtain ⟨layer, cur, ief, log, hs⟩ := stepLayerP_elim cfg pd pd' var h
  rw [hs.pool]
  refine (expF_allEx cfg var _ layer _ cur log (fun n hn => ?_) (fun n hn => hall n (mem_restNodes_iff.1 hn).1)).2
  obtain ⟨n0, h0, he0, _⟩ := ((squashCase_sub cfg _ _ _ _ _ _ _ _ _ hs.sq).2 hne).trans (fdOf_subS cfg pd var) n hn
  obtain ⟨m, hm, _, rfl⟩ := mem_curNodes_iff.1 h0
  rw [← he0]
  exact hall m hm

theorem expF_rubEq (cfg : Cfg S K) (var lidx : Nat) (layer rest : List (Node S)) (cur : List Nat) (log : List (Call S)) :
    RubEq (expF cfg var lidx layer rest cur log).1 layer :=
  (expF_children cfg var lidx layer rest cur log (fun _ => True) (fun _ _ => trivial)
    (fun _ _ _ _ _ _ _ _ _ _ _ => trivial)).1

theorem expF_nil (cfg : Cfg S K) (var lidx : Nat) (rest : List (Node S)) (cur : List Nat) (log : List (Call S)) :
    expF cfg var lidx [] rest cur log = ([], rest, log) := by
  unfold expF
  induction cur with
  | nil => rfl
  | cons p ps ih =>
    rw [List.foldl_cons]
    have : expandOne cfg var lidx (([] : List (Node S)), rest, log) p = ([], rest, log) := by
      unfold expandOne
      simp only [List.getElem?_nil]
    rw [this]
    exact ih

/-- the two shapes of a successful step: the squashed layer is empty, nothing is materialised and the pool is what waited;
    or it is materialised (non-empty) once expanded -/
theorem StepP.cases {cfg : Cfg S K} {pd pd' : PD S K} {var : Nat} {layer : List (Node S)} {cur : List Nat} {ief : Bool}
    {log : List (Call S)} (h : StepP cfg pd pd' var layer cur ief log) :
    (layer = [] ∧ pd'.layers = pd.layers ∧ pd'.pool = restNodes cfg pd var) ∨
    (layer ≠ [] ∧ (expF cfg var pd.layers.length layer (restNodes cfg pd var) cur log).1 ≠ [] ∧
      pd'.layers = pd.layers ++ [(pd.depth, (expF cfg var pd.layers.length layer (restNodes cfg pd var) cur log).1)]) := by
  have hl := h.layers
  by_cases hnil : layer = []
  · have hp := h.pool
    rw [hnil, expF_nil] at hl hp
    exact .inl ⟨hnil, hl.trans (if_pos rfl), hp⟩
  · have hne := fun he => hnil ((expF_rubEq cfg var pd.layers.length layer (restNodes cfg pd var) cur log).isEmpty_iff.1 he)
    rw [if_neg hne] at hl
    exact .inr ⟨hnil, fun h0 => hne (List.isEmpty_iff.2 h0), hl⟩

theorem fdOf_keep (cfg : Cfg S K) (pd : PD S K) (var : Nat) :
    (fdOf cfg pd var).1.map Cover.sig = (curNodes cfg pd var).map Cover.sig ∧
    (fdOf cfg pd var).2.1.Nodup ∧ ∀ p ∈ (fdOf cfg pd var).2.1, p < (fdOf cfg pd var).1.length := by
  have hfc : (fcOf cfg pd var).1.map Cover.sig = (curNodes cfg pd var).map Cover.sig ∧
      (fcOf cfg pd var).2.Nodup ∧ ∀ p ∈ (fcOf cfg pd var).2, p < (curNodes cfg pd var).length := by
    unfold fcOf
    split
    · exact ⟨rfl, List.nodup_range, fun p hp => List.mem_range.1 hp⟩
    · obtain ⟨h1, h2⟩ := C12.filterCache_keep cfg pd.cache (curNodes cfg pd var) (List.range (curNodes cfg pd var).length)
      exact ⟨h1, List.Nodup.sublist h2 List.nodup_range, fun p hp => List.mem_range.1 (h2.subset hp)⟩
  obtain ⟨hfc1, hfc2, hfc3⟩ := hfc
  obtain ⟨hfd1, hfd2, hfd3⟩ := C12.filterDom_keep cfg pd.store (fcOf cfg pd var).1 (fcOf cfg pd var).2
  have hsig : (fdOf cfg pd var).1.map Cover.sig = (curNodes cfg pd var).map Cover.sig := hfd1.trans hfc1
  refine ⟨hsig, hfd2 hfc2, fun p hp => ?_⟩
  have hlen : (fdOf cfg pd var).1.length = (curNodes cfg pd var).length := by
    have := congrArg List.length hsig
    simpa only [List.length_map] using this
  rw [hlen]
  exact hfc3 p (hfd3 p hp)

theorem squashCase_length (cfg : Cfg S K) (pd : PD S K) (var : Nat) (layer : List (Node S)) (cur : List Nat) (ief : Bool)
    (log : List (Call S))
    (h : SquashCase cfg pd.plain pd.layers.length pd.isExactField (fdOf cfg pd var) (impLog pd var) layer cur ief log) :
    (curNodes cfg pd var).length ≤ layer.length := by
  obtain ⟨hsig, hnd, hcur⟩ := fdOf_keep cfg pd var
  have hstates : (fdOf cfg pd var).1.map (·.state) = (curNodes cfg pd var).map (·.state) := C12.states_of_sig hsig
  have hlen : (fdOf cfg pd var).1.length = (curNodes cfg pd var).length := by
    have := congrArg List.length hstates
    simpa only [List.length_map] using this
  rw [← hlen]
  cases h with
  | restrict _ _ hl _ _ _ =>
    have := congrArg List.length (C12.restrictLayer_states cfg (fdOf cfg pd var).1 (fdOf cfg pd var).2.1)
    rw [hl]
    simp only [List.length_map] at this
    exact Nat.le_of_eq this.symm
  | keep _ _ hl _ _ _ => rw [hl]; exact Nat.le_refl _
  | relax _ _ _ _ hl _ _ _ =>
    obtain ⟨hR1, _⟩ :=
      C12.relaxLayer_log cfg pd.plain (fdOf cfg pd var).1 (fdOf cfg pd var).2.1 (impLog pd var) hcur hnd
    rw [hl]
    rcases hR1 with hR1 | hR1
    · have := congrArg List.length hR1
      simp only [List.length_map] at this
      omega
    · have := congrArg List.length hR1
      simp only [List.length_map, List.length_append, List.length_singleton] at this
      omega

end Ddo.Pooled
