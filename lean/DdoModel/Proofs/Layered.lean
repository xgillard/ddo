import DdoModel.Proofs.SolverCfg
import DdoModel.Proofs.CacheClosedDefs
import DdoModel.Proofs.SpecUtil
/-! `Layered`: a family of tiny **well-formed** table models, the scaffolding of the concrete witnesses of the caching solver
(`Proofs/AnyOrderLayered.lean`, `Props/C09d.lean` and others).

`n` binary variables in static order; the states are `0 … m-1` (as `Int`, clamped into the range); transition
and cost are read in tables `tr var state decision`, `c var state decision` (lists, `getD`); the relaxation merges to the
**largest** state of the merged set, leaves the costs alone and has a constant rough upper bound.  The value-to-go `hfrom`
is the dynamic program over the tables.  The model is `WellFormed` (`Proofs/SolverCfg.lean`) as soon as `hfrom` is monotone in
the state at every depth (a larger state dominates: what `MergeOk` needs), the rough upper bound dominates `hfrom` and the
costs are bounded.  The three conditions are decidable (`check`; evaluated on the rows of the dynamic program,
`check_of_rows`; one evaluation per model: `tableOk`).  The width is a *function* of the sub-problem
(`max 1 (ws[depth · m + state])`), both cut-set kinds and both fringes are available. -/
set_option linter.unusedSectionVars false
set_option linter.unusedVariables false
namespace Ddo.C09.Layered
open Ddo Ddo.C01 Ddo.Closed

/-- the tables: entry `(var · m + state) · 2 + decision` -/
structure Tab where
  n : Nat
  m : Nat
  trl : List Nat
  cl : List Int
  rub : Int

def idx (T : Tab) (k s : Nat) (b : Bool) : Nat := (k * T.m + s) * 2 + b.toNat
def st (T : Tab) (s : Int) : Nat := min s.toNat (T.m - 1)
def tr (T : Tab) (k s : Nat) (b : Bool) : Nat := min (T.trl.getD (idx T k s b) 0) (T.m - 1)
def c (T : Tab) (k s : Nat) (b : Bool) : Int := T.cl.getD (idx T k s b) 0

def prob (T : Tab) : Problem Int :=
  { nbVars := T.n, init := 0, initVal := 0,
    trans := fun s d => ((tr T d.var (st T s) (decide (d.val = 1)) : Nat) : Int),
    cost := fun s _ d => c T d.var (st T s) (decide (d.val = 1)),
    nextVar := fun k _ => if k < T.n then some k else none,
    domain := fun _ _ => [0, 1],
    impacted := fun _ _ => true }

def lmax (a : Int) (X : List Int) : Int := X.foldl max a

def rlx (T : Tab) : Relax Int :=
  { merge := fun X => lmax 0 X, relax := fun _ _ _ _ c => c, rub := fun _ => T.rub }

/-- a `WidthHeuristic` that looks at the depth and the state of the sub-problem -/
def widthOf (T : Tab) (ws : List Nat) (N : SubP Int) : Nat := max 1 (ws.getD (N.depth * T.m + st T N.state) 1)

def sv (T : Tab) (ws : List Nat) (dedup : Bool) (kind : CutsetKind) : SolverCfg Int :=
  { P := prob T, R := rlx T, rank := ⟨fun a b => icmp a b⟩, width := widthOf T ws, kind := kind, dedup := dedup }

/-- value-to-go with `j` variables left, from state `s` -/
def hfrom (T : Tab) : Nat → Nat → Int
  | 0, _ => 0
  | j + 1, s => max (c T (T.n - (j + 1)) s false + hfrom T j (tr T (T.n - (j + 1)) s false))
                    (c T (T.n - (j + 1)) s true + hfrom T j (tr T (T.n - (j + 1)) s true))

def H (T : Tab) (k : Nat) (s : Int) : EInt := some (hfrom T (T.n - k) (st T s))

def Mono (T : Tab) : Prop := ∀ j s, j ≤ T.n → s + 1 < T.m → hfrom T j s ≤ hfrom T j (s + 1)
def RubDom (T : Tab) : Prop := ∀ j s, j ≤ T.n → s < T.m → hfrom T j s ≤ T.rub

theorem nv_some {T : Tab} {k : Nat} {L : List Int} {x : Nat} (h : (prob T).nextVar k L = some x) : k < T.n ∧ x = k := by
  simp only [prob] at h
  split at h
  · next hk => cases h; exact ⟨hk, rfl⟩
  · cases h

theorem hfrom_step (T : Tab) (k : Nat) (hk : k < T.n) (s : Nat) :
    hfrom T (T.n - k) s = max (c T k s false + hfrom T (T.n - (k + 1)) (tr T k s false))
      (c T k s true + hfrom T (T.n - (k + 1)) (tr T k s true)) := by
  have e : T.n - k = (T.n - (k + 1)) + 1 := by omega
  rw [e, hfrom]
  have e2 : T.n - (T.n - (k + 1) + 1) = k := by omega
  rw [e2]

theorem st_lt (T : Tab) (hm : 1 ≤ T.m) (s : Int) : st T s < T.m := by
  unfold st; omega

theorem st_tr (T : Tab) (k s : Nat) (b : Bool) : st T ((tr T k s b : Nat) : Int) = tr T k s b := by
  have h : tr T k s b ≤ T.m - 1 := by unfold tr; omega
  unfold st
  rw [Int.toNat_natCast]
  omega

theorem st_mono (T : Tab) {a b : Int} (h : a ≤ b) : st T a ≤ st T b := by
  have := Int.toNat_le_toNat h
  unfold st; omega

theorem trans_one (T : Tab) (s : Int) (k : Nat) : (prob T).trans s ⟨k, 1⟩ = ((tr T k (st T s) true : Nat) : Int) := by
  simp [prob]
theorem trans_zero (T : Tab) (s : Int) (k : Nat) : (prob T).trans s ⟨k, 0⟩ = ((tr T k (st T s) false : Nat) : Int) := by
  simp [prob]
theorem cost_one (T : Tab) (s s' : Int) (k : Nat) : (prob T).cost s s' ⟨k, 1⟩ = c T k (st T s) true := by
  simp [prob]
theorem cost_zero (T : Tab) (s s' : Int) (k : Nat) : (prob T).cost s s' ⟨k, 0⟩ = c T k (st T s) false := by
  simp [prob]
theorem H_nat (T : Tab) (k j s : Nat) (b : Bool) : H T k ((tr T j s b : Nat) : Int) = some (hfrom T (T.n - k) (tr T j s b)) := by
  unfold H; rw [st_tr]

theorem potential (T : Tab) : Potential (prob T) (H T) := by
  constructor
  · intro k L x s h hnv _ hH
    obtain ⟨hk, hx⟩ := nv_some hnv; subst x
    simp only [H, Option.some.injEq] at hH
    rw [hfrom_step T k hk] at hH
    by_cases hc : c T k (st T s) false + hfrom T (T.n - (k + 1)) (tr T k (st T s) false) ≤
        c T k (st T s) true + hfrom T (T.n - (k + 1)) (tr T k (st T s) true)
    · refine ⟨1, by simp [prob], hfrom T (T.n - (k + 1)) (tr T k (st T s) true), by rw [trans_one, H_nat], ?_⟩
      rw [trans_one, cost_one]
      omega
    · refine ⟨0, by simp [prob], hfrom T (T.n - (k + 1)) (tr T k (st T s) false), by rw [trans_zero, H_nat], ?_⟩
      rw [trans_zero, cost_zero]
      omega
  · intro k L x s v p d _ hnv _ hd
    obtain ⟨hk, hx⟩ := nv_some hnv; subst x
    have hd' : d = 0 ∨ d = 1 := by simpa [prob] using hd
    have hs : H T k s = some (hfrom T (T.n - k) (st T s)) := rfl
    rw [hs, hfrom_step T k hk]
    rcases hd' with rfl | rfl
    · rw [trans_zero, cost_zero, H_nat]
      simp only [EInt.addI, Option.map_some, EInt.some_le_some]
      omega
    · rw [trans_one, cost_one, H_nat]
      simp only [EInt.addI, Option.map_some, EInt.some_le_some]
      omega
  · intro k L s hnv _
    simp only [prob] at hnv
    split at hnv
    · cases hnv
    · next hk =>
      have : T.n - k = 0 := by omega
      simp only [H, this, hfrom]

theorem hfrom_mono (T : Tab) (hM : Mono T) (j : Nat) (hj : j ≤ T.n) {s s' : Nat} (h : s ≤ s') (hs : s' < T.m) :
    hfrom T j s ≤ hfrom T j s' := by
  induction h with
  | refl => exact Int.le_refl _
  | step h ih => exact Int.le_trans (ih (by omega)) (hM j _ hj hs)

theorem mergeOk (T : Tab) (hm : 1 ≤ T.m) (hM : Mono T) : MergeOk (rlx T) (H T) := by
  intro k X u src d c0 h hu hH
  simp only [H, Option.some.injEq] at hH
  have hle : u ≤ lmax 0 X := (SpecUtil.foldl_max_spec X 0).2 u (List.mem_cons_of_mem _ hu)
  refine ⟨hfrom T (T.n - k) (st T (lmax 0 X)), rfl, ?_⟩
  have := hfrom_mono T hM (T.n - k) (by omega) (st_mono T hle) (st_lt T hm (lmax 0 X))
  simp only [rlx]
  omega

theorem rubOk (T : Tab) (hm : 1 ≤ T.m) (hR : RubDom T) : RubOk (rlx T) (H T) := by
  intro k s h hH
  simp only [H, Option.some.injEq] at hH
  have := hR (T.n - k) (st T s) (by omega) (st_lt T hm s)
  simp only [rlx]
  omega

theorem nvBound (T : Tab) : NvBound (prob T) := by
  intro k L hk
  have : ¬ k < T.n := by simp only [prob] at hk; omega
  simp only [prob, this, if_false]

theorem runBound (T : Tab) (B0 B : Int) (hc : ∀ k s d, -B0 ≤ c T k s d ∧ c T k s d ≤ B0) (hB0 : 0 ≤ B0)
    (hfit : ((T.n : Int) + 1) * B0 ≤ B) (hsmall : ((T.n : Int) + 2) * B ≤ 4611686018427387904) :
    RunBound (prob T) (rlx T) B0 B := by
  have hBB : B0 ≤ B := by
    have h1 : (0 : Int) ≤ (T.n : Int) * B0 := Int.mul_nonneg (by omega) hB0
    rw [Int.add_mul, Int.one_mul] at hfit
    omega
  refine ⟨⟨by omega, ?_, ?_, fun s u m d c hcc => hcc, hsmall⟩, ⟨?_, ?_⟩, hfit⟩
  · show -B ≤ (0 : Int) ∧ (0 : Int) ≤ B
    omega
  · intro s s' d
    have := hc d.var (st T s) (decide (d.val = 1))
    show -B ≤ c T _ _ _ ∧ c T _ _ _ ≤ B
    omega
  · show -B0 ≤ (0 : Int) ∧ (0 : Int) ≤ B0
    omega
  · intro s s' d
    exact hc d.var (st T s) (decide (d.val = 1))

theorem width_pos (T : Tab) (ws : List Nat) (N : SubP Int) : 1 ≤ widthOf T ws N := by
  unfold widthOf; omega

theorem wellFormed (T : Tab) (ws : List Nat) (dedup : Bool) (kind : CutsetKind) (B0 B : Int) (hm : 1 ≤ T.m)
    (hM : Mono T) (hR : RubDom T) (hc : ∀ k s d, -B0 ≤ c T k s d ∧ c T k s d ≤ B0) (hB0 : 0 ≤ B0)
    (hfit : ((T.n : Int) + 1) * B0 ≤ B) (hsmall : ((T.n : Int) + 2) * B ≤ 4611686018427387904) :
    WellFormed (sv T ws dedup kind) (H T) B0 B :=
  ⟨potential T, rubOk T hm hR, mergeOk T hm hM, Cover.attMerge_of_static (potential T) (fun _ _ _ _ _ => rfl),
    runBound T B0 B hc hB0 hfit hsmall, nvBound T, width_pos T ws⟩

def check (T : Tab) (B0 : Int) : Bool :=
  decide (1 ≤ T.m) &&
  (List.range (T.n + 1)).all (fun j => (List.range (T.m - 1)).all (fun s => decide (hfrom T j s ≤ hfrom T j (s + 1)))) &&
  (List.range (T.n + 1)).all (fun j => (List.range T.m).all (fun s => decide (hfrom T j s ≤ T.rub))) &&
  T.cl.all (fun x => decide (-B0 ≤ x ∧ x ≤ B0)) && decide (0 ≤ B0)

theorem wellFormed_ofTables (T : Tab) (B0 B : Int) (ws : List Nat) (dedup : Bool) (kind : CutsetKind)
    (hck : check T B0 = true)
    (hfit : ((T.n : Int) + 1) * B0 ≤ B) (hsmall : ((T.n : Int) + 2) * B ≤ 4611686018427387904) :
    WellFormed (sv T ws dedup kind) (H T) B0 B := by
  simp only [check, Bool.and_eq_true, decide_eq_true_eq, List.all_eq_true, List.mem_range] at hck
  obtain ⟨⟨⟨⟨hm, hmono⟩, hrub⟩, hbd⟩, hB0⟩ := hck
  refine wellFormed T ws dedup kind B0 B hm ?_ ?_ ?_ hB0 hfit hsmall
  · intro j s hj hs
    exact hmono j (by omega) s (by omega)
  · intro j s hj hs
    exact hrub j (by omega) s hs
  · intro k s d
    exact Cover.getD_bound T.cl _ B0 hbd hB0

/-- the values-to-go `hfrom T j s`, `s < T.m`, as one list per `j`, each computed from the one before: evaluating `hfrom T j s`
    itself takes `2 ^ j` steps -/
def hrow (T : Tab) : Nat → List Int
  | 0 => List.replicate T.m 0
  | j + 1 => (List.range T.m).map fun s =>
      max (c T (T.n - (j + 1)) s false + (hrow T j).getD (tr T (T.n - (j + 1)) s false) 0)
          (c T (T.n - (j + 1)) s true + (hrow T j).getD (tr T (T.n - (j + 1)) s true) 0)

theorem tr_lt (T : Tab) (hm : 1 ≤ T.m) (k s : Nat) (b : Bool) : tr T k s b < T.m := by
  unfold tr; omega

theorem hrow_getD (T : Tab) (hm : 1 ≤ T.m) : ∀ j s, s < T.m → (hrow T j).getD s 0 = hfrom T j s
  | 0, s, hs => by
    rw [hrow, hfrom, List.getD_eq_getElem?_getD, List.getElem?_replicate, if_pos hs]; rfl
  | j + 1, s, hs => by
    rw [hrow, hfrom, List.getD_eq_getElem?_getD, List.getElem?_map, List.getElem?_range hs, Option.map_some, Option.getD_some,
      hrow_getD T hm j _ (tr_lt T hm _ _ _), hrow_getD T hm j _ (tr_lt T hm _ _ _)]

def checkRows (T : Tab) (B0 : Int) : Bool :=
  decide (1 ≤ T.m) &&
  (List.range (T.n + 1)).all (fun j => (List.range (T.m - 1)).all (fun s => decide ((hrow T j).getD s 0 ≤ (hrow T j).getD (s + 1) 0))) &&
  (List.range (T.n + 1)).all (fun j => (List.range T.m).all (fun s => decide ((hrow T j).getD s 0 ≤ T.rub))) &&
  T.cl.all (fun x => decide (-B0 ≤ x ∧ x ≤ B0)) && decide (0 ≤ B0)

theorem check_of_rows {T : Tab} {B0 : Int} (h : checkRows T B0 = true) : check T B0 = true := by
  simp only [checkRows, check, Bool.and_eq_true, decide_eq_true_eq, List.all_eq_true, List.mem_range] at h ⊢
  obtain ⟨⟨⟨⟨hm, hmono⟩, hrub⟩, hbd⟩, hB0⟩ := h
  refine ⟨⟨⟨⟨hm, fun j hj s hs => ?_⟩, fun j hj s hs => ?_⟩, hbd⟩, hB0⟩
  · rw [← hrow_getD T hm j s (by omega), ← hrow_getD T hm j (s + 1) (by omega)]; exact hmono j hj s hs
  · rw [← hrow_getD T hm j s hs]; exact hrub j hj s hs

def optimum (T : Tab) : Int := hfrom T T.n 0

theorem optimum_eq (T : Tab) : (H T 0 (prob T).init).addI (prob T).initVal = some (optimum T) := by
  simp [H, prob, optimum, EInt.addI, st]

/-- all that a witness needs of its table — `check` with cost bound `B0`, the optimum `opt`, and that the run bound `B` fits — as
    one decidable statement, so that the rows of the dynamic program are computed once per model -/
def tableOk (T : Tab) (B0 B opt : Int) : Bool :=
  checkRows T B0 && decide ((hrow T T.n).getD 0 0 = opt) &&
  decide (((T.n : Int) + 1) * B0 ≤ B) && decide (((T.n : Int) + 2) * B ≤ 4611686018427387904)

section tableOk
variable {T : Tab} {B0 B opt : Int} (h : tableOk T B0 B opt = true)
include h

theorem checked_of_ok : check T B0 = true := by
  simp only [tableOk, Bool.and_eq_true] at h
  exact check_of_rows h.1.1.1

theorem wellFormed_of_ok (ws : List Nat) (dedup : Bool) (kind : CutsetKind) : WellFormed (sv T ws dedup kind) (H T) B0 B := by
  have hc := checked_of_ok h
  simp only [tableOk, Bool.and_eq_true, decide_eq_true_eq] at h
  exact wellFormed_ofTables T B0 B ws dedup kind hc h.1.2 h.2

theorem opt_of_ok : (H T 0 (prob T).init).addI (prob T).initVal = some opt := by
  have hc := checked_of_ok h
  simp only [tableOk, Bool.and_eq_true, decide_eq_true_eq] at h
  simp only [check, Bool.and_eq_true, decide_eq_true_eq] at hc
  rw [optimum_eq, optimum, ← hrow_getD T hc.1.1.1.1 T.n 0 (by omega), h.1.1.2]

end tableOk

/-- what the traces of the witnesses show of a state: the fringe as `(state, value, ub, depth)` (plain fringe: newest push
    first) and the incumbent -/
def view (s : KSt Int) : List (Int × Int × Int × Nat) × Int :=
  (s.st.fringe.map (fun c => (c.state, c.value, c.ub, c.depth)), s.st.bestLb)
/-- layer `d` of the cache as `(state, threshold, explored)` -/
def cacheAt (s : KSt Int) (d : Nat) : List (Int × Int × Bool) :=
  (s.cache.layers.getD d []).map (fun e => (e.1, e.2.value, e.2.explored))

/-- the size of the fringe, `completion` = (`is_exact`, `best_value`), the number of explored nodes and the panic flag -/
def outcome (s : KSt Int) : Nat × (Bool × Option Int) × Nat × Bool :=
  (s.st.fringe.length, s.st.completion, s.st.explored, s.st.crashed)

theorem outcome_eq {s : KSt Int} {n e : Nat} {c : Bool × Option Int} {p : Bool} (h : outcome s = (n, c, e, p)) :
    s.st.fringe.length = n ∧ s.st.completion = c ∧ s.st.explored = e ∧ s.st.crashed = p := by
  simpa only [outcome, Prod.mk.injEq] using h

/-! Shortcuts for instance search, which gives up on a conjunction of more than a few equations between nested lists and
tuples: with them a whole trace is one decidable statement, and the run it speaks of is evaluated once. -/
instance (s : KSt Int) (v : List (Int × Int × Int × Nat) × Int) : Decidable (view s = v) := inferInstance
instance (s : KSt Int) (d : Nat) (cl : List (Int × Int × Bool)) : Decidable (cacheAt s d = cl) := inferInstance
instance (s : KSt Int) (r : Nat × (Bool × Option Int) × Nat × Bool) : Decidable (outcome s = r) := inferInstance

end Ddo.C09.Layered

#print axioms Ddo.C09.Layered.wellFormed
#print axioms Ddo.C09.Layered.wellFormed_ofTables
