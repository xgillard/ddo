import DdoModel.Proofs.CacheClosedRestr
/-! Two structural facts about the diagram built by a RELAXED compilation without dominance rule, with or without cache
    (any content of the cache, any `stopAt`, whatever the outcome of the loop):

* `built_unmarked`: no node of the built diagram is `marked` (the top-down build never touches the flag);
* `built_arcs_live`: every inbound arc of a node of the built diagram comes from a node that was handed to the expansion,
  hence neither pruned by the cache (`cache = false`) nor deleted (`deleted = false`).

`KInvA` is the invariant of the compilation loop behind both facts. -/
set_option linter.unusedSectionVars false
set_option linter.unusedVariables false

namespace Ddo.CacheClosed
open Ddo Ddo.Bounds Ddo.Theta
variable {S K : Type} [DecidableEq S] [DecidableEq K]

def SrcLive (L : List (List (Node S))) (a : Arc) : Prop :=
  ∃ par, getNode L a.fromL a.fromP = some par ∧ par.cache = false ∧ par.deleted = false

/-- the node is not marked and all its inbound arcs come from live nodes of `L` -/
def Good (L : List (List (Node S))) (n : Node S) : Prop :=
  n.marked = false ∧ ∀ a ∈ n.inb, SrcLive L a

theorem SrcLive.mono {L : List (List (Node S))} (more : List (List (Node S))) {a : Arc} (h : SrcLive L a) :
    SrcLive (L ++ more) a := by
  obtain ⟨par, hp, hc, hd⟩ := h
  exact ⟨par, getNode_append_left _ _ _ _ _ hp, hc, hd⟩

theorem Good.mono {L : List (List (Node S))} (more : List (List (Node S))) {n : Node S} (h : Good L n) :
    Good (L ++ more) n :=
  ⟨h.1, fun a ha => (h.2 a ha).mono more⟩

theorem appendEdge_marked (p c : Node S) (a : Arc) : (appendEdge p c a).marked = c.marked := by
  unfold appendEdge; dsimp only; split <;> rfl

theorem Good.appendEdge {L : List (List (Node S))} {m : Node S} (src : Node S) {a : Arc} (hm : Good L m)
    (ha : SrcLive L a) : Good L (appendEdge src m a) := by
  refine ⟨by rw [appendEdge_marked]; exact hm.1, fun b hb => ?_⟩
  rw [Cover.appendEdge_inb] at hb
  rcases List.mem_cons.mp hb with rfl | hb
  · exact ha
  · exact hm.2 b hb

theorem Good.of_strip {L : List (List (Node S))} {a b : Node S} (h : stripRub a = stripRub b) (ha : Good L a) :
    Good L b := by
  exact ⟨strip_congr stripRub Node.marked (fun _ => rfl) h ▸ ha.1, strip_congr stripRub Node.inb (fun _ => rfl) h ▸ ha.2⟩

structure KInvA (dd : DD S K) : Prop where
  goodN : ∀ n ∈ dd.next, Good dd.layers n
  goodL : ∀ ly ∈ dd.layers, ∀ n ∈ ly, Good dd.layers n
  cleanN : ∀ n ∈ dd.next, n.cache = false ∧ n.deleted = false

theorem KInvA.congr {dd dd' : DD S K} (h : KInvA dd) (h1 : dd'.layers = dd.layers) (h2 : dd'.next = dd.next) :
    KInvA dd' := by
  obtain ⟨a1, a2, a3⟩ := h
  exact ⟨by rw [h1, h2]; exact a1, by rw [h1]; exact a2, by rw [h2]; exact a3⟩

/-- what the expansion needs from the filtered / squashed layer: every node is good, the positions handed to the expansion
    hold nodes that are neither pruned nor deleted -/
structure PostK (L : List (List (Node S))) (layer : List (Node S)) (cur : List Nat) : Prop where
  good : ∀ n ∈ layer, Good L n
  live : ∀ q ∈ cur, ∃ n, layer[q]? = some n ∧ n.cache = false ∧ n.deleted = false

theorem postK_fc (cfg : Cfg S K) (cache : Cache S) (dd : DD S K) (hI : KInvA dd) (layer : List (Node S)) (cur : List Nat)
    (hfc : FcDesc cfg cache dd layer cur) : PostK dd.layers layer cur ∧ cur.Nodup := by
  obtain ⟨g, keep, hlay, hcur, hnd, hg, _⟩ := hfc
  refine ⟨⟨?_, ?_⟩, hnd⟩
  · intro n hn
    rw [hlay] at hn
    obtain ⟨m, hm, rfl⟩ := List.mem_map.mp hn
    rcases hg m with ⟨_, h⟩ | ⟨_, t, _, _, h⟩
    · rw [h]; exact hI.goodN m hm
    · rw [h]; exact hI.goodN m hm
  · intro q hq
    obtain ⟨m, hm, hk⟩ := (hcur q).mp hq
    rcases hg m with ⟨_, h⟩ | ⟨hk', _⟩
    · refine ⟨m, ?_, hI.cleanN m (List.mem_of_getElem? hm)⟩
      rw [hlay, List.getElem?_map, hm, Option.map_some, h]
    · rw [hk] at hk'; cases hk'

theorem postK_relax (cfg : Cfg S K) (L : List (List (Node S))) (layer : List (Node S)) (cur : List Nat)
    (lg : List (Call S)) (hW : 1 ≤ cfg.width) (hlen : cur.length > cfg.width) (hnd : cur.Nodup)
    (hp : PostK L layer cur) :
    PostK L (relaxLayer cfg L layer cur lg).1 (relaxLayer cfg L layer cur lg).2.1 := by
  have hcur : ∀ p ∈ cur, p < layer.length := fun p hpc => by
    obtain ⟨n, hn, _⟩ := hp.live p hpc
    exact Cover.lt_of_getElem?_some hn
  have hdel : ∀ q ∈ cur, ∀ n, layer[q]? = some n → n.deleted = false := fun q hq n hn => by
    obtain ⟨n', hn', _, hd⟩ := hp.live q hq
    rw [hn] at hn'; cases hn'; exact hd
  obtain ⟨_, p2, _⟩ := relaxLayer_pos cfg L layer cur lg hW hlen hcur hnd hdel
  have hsub := (relaxLayer_map Node.cache (fun src m a => (appendEdge_flds src m a).2.2.2.2.1) (fun _ => rfl) (fun _ _ => rfl)
    cfg L layer cur lg).2
  have hfld := relaxLayer_fld Node.cache (fun src m a => (appendEdge_flds src m a).2.2.2.2.1) (fun _ => rfl) (fun _ _ => rfl)
    cfg L layer cur lg
  refine ⟨?_, ?_⟩
  · refine relaxLayer_forallD (Good L) cfg L layer cur lg ?_ ?_ ?_ ?_ hp.good
    · exact ⟨rfl, fun a ha => absurd ha List.not_mem_nil⟩
    · intro n hn; exact hn
    · intro n b hn; exact hn
    · intro dropN hd e he src m hm
      exact hm.appendEdge src (hd.2 e he)
  · intro q hq
    obtain ⟨n', hn', hd'⟩ := p2 q hq
    refine ⟨n', hn', ?_, hd'⟩
    rcases hfld q n' hn' with ⟨n, hn, hc⟩ | ⟨_, hc⟩
    · have hlt := Cover.lt_of_getElem?_some hn
      rcases hsub q hq with hqc | hqc
      · obtain ⟨n0, hn0, hc0, _⟩ := hp.live q hqc
        rw [hn] at hn0; cases hn0
        rw [hc]; exact hc0
      · omega
    · rw [hc]; rfl

theorem expand_kinv (cfg : Cfg S K) (var : Nat) (L : List (List (Node S))) (layer' : List (Node S)) (cur' : List Nat)
    (lg : List (Call S)) (hp : PostK L layer' cur') (hL : ∀ ly ∈ L, ∀ n ∈ ly, Good L n) :
    (∀ ly ∈ L ++ [(expandAll cfg var L.length layer' cur' lg).1], ∀ n ∈ ly,
      Good (L ++ [(expandAll cfg var L.length layer' cur' lg).1]) n) ∧
    (∀ n ∈ (expandAll cfg var L.length layer' cur' lg).2.1,
      Good (L ++ [(expandAll cfg var L.length layer' cur' lg).1]) n ∧ n.cache = false ∧ n.deleted = false) := by
  unfold expandAll
  generalize hlyF : (cur'.foldl (expandOne cfg var L.length) (layer', [], lg)).1 = lyF
  generalize hnx : (cur'.foldl (expandOne cfg var L.length) (layer', [], lg)).2.1 = nx
  have hrub : RubEq lyF layer' := by rw [← hlyF]; exact fold_rubEq cfg var L.length cur' (layer', [], lg)
  have hkid : ∀ m ∈ nx, m.marked = false ∧ m.cache = false ∧ m.deleted = false ∧
      ∀ a ∈ m.inb, a.fromL = L.length ∧ a.fromP ∈ cur' := by
    rw [← hnx]
    refine fold_childrenM (fun m => m.marked = false ∧ m.cache = false ∧ m.deleted = false ∧
        ∀ a ∈ m.inb, a.fromL = L.length ∧ a.fromP ∈ cur') cfg var L.length cur' (layer', [], lg) ?_ ?_
      (fun m hm => absurd hm List.not_mem_nil)
    · intro q hq par d n ⟨q1, q2, q3, q4⟩
      obtain ⟨_, _, _, _, f5, f6, _⟩ := appendEdge_flds par n (Cover.arcOf cfg var L.length q par d)
      refine ⟨by rw [appendEdge_marked]; exact q1, f5 ▸ q2, f6 ▸ q3, ?_⟩
      intro a ha
      rw [Cover.appendEdge_inb] at ha
      rcases List.mem_cons.mp ha with ha | ha
      · rw [ha]; exact ⟨rfl, hq⟩
      · exact q4 a ha
    · intro q hq par d
      obtain ⟨_, _, _, _, f5, f6, _⟩ := appendEdge_flds par (Cover.freshNode par (cfg.P.trans par.state ⟨var, d⟩)
        (cfg.P.cost par.state (cfg.P.trans par.state ⟨var, d⟩) ⟨var, d⟩)) (Cover.arcOf cfg var L.length q par d)
      refine ⟨by rw [appendEdge_marked]; rfl, by rw [f5]; rfl, by rw [f6]; rfl, ?_⟩
      intro a ha
      rw [Cover.appendEdge_inb] at ha
      rcases List.mem_cons.mp ha with ha | ha
      · rw [ha]; exact ⟨rfl, hq⟩
      · simp only [Cover.freshNode] at ha; exact absurd ha List.not_mem_nil
  refine ⟨?_, ?_⟩
  · intro ly hly n hn
    rcases List.mem_append.mp hly with hly | hly
    · exact (hL ly hly n hn).mono _
    · rw [List.mem_singleton] at hly
      subst hly
      obtain ⟨q, hq⟩ := List.mem_iff_getElem?.mp hn
      obtain ⟨n0, h0, hs⟩ := hrub.get hq
      exact ((hp.good n0 (List.mem_of_getElem? h0)).of_strip hs).mono _
  · intro m hm
    obtain ⟨k1, k2, k3, k4⟩ := hkid m hm
    refine ⟨⟨k1, fun a ha => ?_⟩, k2, k3⟩
    obtain ⟨a1, a2⟩ := k4 a ha
    obtain ⟨n0, h0, c0, d0⟩ := hp.live a.fromP a2
    obtain ⟨n, hn, hs⟩ := hrub.get' h0
    refine ⟨n, ?_, strip_congr stripRub Node.cache (fun _ => rfl) hs ▸ c0,
      strip_congr stripRub Node.deleted (fun _ => rfl) hs ▸ d0⟩
    rw [a1, Cover.getNode_last]; exact hn

theorem stepLayer_kinv (cfg : Cfg S K) (dd dd' : DD S K) (var : Nat) (oc : Outcome)
    (hrel : cfg.ctype = .relaxed) (hdom : cfg.dom = none) (hW : 1 ≤ cfg.width) (hI : KInvA dd)
    (hst : stepLayer cfg dd var = (some dd', oc)) : KInvA dd' := by
  by_cases hne : dd.next = []
  · rw [stepLayer_empty cfg dd var hne] at hst
    simp only [Prod.mk.injEq, Option.some.injEq] at hst
    obtain ⟨hdd, _⟩ := hst
    rw [← hdd]
    refine ⟨?_, ?_, ?_⟩
    · intro n hn; exact (hI.goodN n hn).mono _
    · intro ly hly n hn
      rcases List.mem_append.mp hly with hly | hly
      · exact (hI.goodL ly hly n hn).mono _
      · rw [List.mem_singleton] at hly
        rw [hly] at hn
        exact absurd hn List.not_mem_nil
    · exact hI.cleanN
  · obtain ⟨hpost, hnd⟩ := postK_fc cfg dd.cache dd hI _ _ (fcOf_desc cfg dd)
    have key : ∀ sq, squash cfg dd (fcOf cfg dd).1 (fcOf cfg dd).2 = some sq → PostK dd.layers sq.1 sq.2.1 →
        KInvA dd' := by
      intro sq hsq hp
      obtain ⟨dd'', hst', hl, hn, _⟩ := stepLayer_okT cfg dd var hne hdom sq hsq
      rw [hst'] at hst
      simp only [Prod.mk.injEq, Option.some.injEq] at hst
      obtain ⟨hdd, _⟩ := hst
      rw [← hdd]
      obtain ⟨e1, e2⟩ := expand_kinv cfg var dd.layers sq.1 sq.2.1 sq.2.2.1 hp hI.goodL
      exact ⟨by rw [hn, hl]; exact fun n hn => (e2 n hn).1, by rw [hl]; exact e1,
        by rw [hn]; exact fun n hn => (e2 n hn).2⟩
    rcases squash_cases cfg dd (fcOf cfg dd).1 (fcOf cfg dd).2 hrel hW with ⟨_, hsq⟩ | ⟨c1, _, hsq⟩
    · exact key _ hsq hpost
    · exact key _ hsq (postK_relax cfg dd.layers _ _ dd.log hW c1 hnd hpost)

theorem buildLoop_kinv (cfg : Cfg S K) (stopAt : Option Nat)
    (hrel : cfg.ctype = .relaxed) (hdom : cfg.dom = none) (hW : 1 ≤ cfg.width) :
    ∀ (fuel : Nat) (dd : DD S K), KInvA dd → KInvA (buildLoop cfg stopAt fuel dd).1 := by
  intro fuel dd hI
  obtain ⟨_, _, h⟩ := buildLoop_frame cfg stopAt (fun _ => KInvA) (fun _ _ _ h h1 h2 _ _ => h.congr h1 h2)
    (fun _ dd dd' var oc h _ hst => stepLayer_kinv cfg dd dd' var oc hrel hdom hW h hst) fuel 0 dd hI
  exact h

theorem init_kinv (cfg : Cfg S K) (cache : Cache S) (store : DomStore S K) (polls : Nat) :
    KInvA (initDD cfg cache store polls) := by
  have hnext : (initDD cfg cache store polls).next =
      [{ state := cfg.root.state, value := cfg.root.value, depth := cfg.root.depth }] := rfl
  have hlay : (initDD cfg cache store polls).layers = [] := rfl
  refine ⟨?_, ?_, ?_⟩
  · intro n hn
    rw [hnext, List.mem_singleton] at hn
    subst hn
    exact ⟨rfl, fun a ha => absurd ha List.not_mem_nil⟩
  · intro ly hly; rw [hlay] at hly; exact absurd hly List.not_mem_nil
  · intro n hn
    rw [hnext, List.mem_singleton] at hn
    subst hn
    exact ⟨rfl, rfl⟩

theorem kinv_final (dd : DD S K) (hI : KInvA dd) :
    ∀ (l p : Nat) (n : Node S), getNode (finalizeLayers dd).layers l p = some n → Good (finalizeLayers dd).layers n := by
  intro l p n hget
  by_cases hne : dd.next = []
  · rw [(finalizeLayers_empty dd hne).1] at hget ⊢
    obtain ⟨ly, hly, hp⟩ := Cover.getNode_lt hget
    exact hI.goodL ly (List.mem_of_getElem? hly) n (List.mem_of_getElem? hp)
  · obtain ⟨h1, _⟩ := finalizeLayers_nonempty dd hne
    rw [h1] at hget ⊢
    rcases view_at (.inl rfl) l p n hget with ⟨ly, hly, hp⟩ | ⟨_, hp⟩
    · exact (hI.goodL ly (List.mem_of_getElem? hly) n (List.mem_of_getElem? hp)).mono _
    · exact (hI.goodN n (List.mem_of_getElem? hp)).mono _

theorem built_good (cfg : Cfg S K) (cache : Cache S) (store : DomStore S K) (polls : Nat) (stopAt : Option Nat)
    (hrel : cfg.ctype = .relaxed) (hdom : cfg.dom = none) (hW : 1 ≤ cfg.width) :
    ∀ (l p : Nat) (n : Node S),
      getNode (finalizeLayers (buildLoop cfg stopAt (cfg.P.nbVars + 2) (initDD cfg cache store polls)).1).layers l p = some n →
      Good (finalizeLayers (buildLoop cfg stopAt (cfg.P.nbVars + 2) (initDD cfg cache store polls)).1).layers n :=
  kinv_final _ (buildLoop_kinv cfg stopAt hrel hdom hW _ _ (init_kinv cfg cache store polls))

theorem built_unmarked (cfg : Cfg S K) (cache : Cache S) (store : DomStore S K) (polls : Nat) (stopAt : Option Nat)
    (hrel : cfg.ctype = .relaxed) (hdom : cfg.dom = none) (hW : 1 ≤ cfg.width)
    (hok : (buildLoop cfg stopAt (cfg.P.nbVars + 2) (initDD cfg cache store polls)).2 = .ok) :
    ∀ (l p : Nat) (n : Node S),
      getNode (finalizeLayers (buildLoop cfg stopAt (cfg.P.nbVars + 2) (initDD cfg cache store polls)).1).layers l p = some n →
      n.marked = false :=
  fun l p n h => (built_good cfg cache store polls stopAt hrel hdom hW l p n h).1

theorem built_arcs_live (cfg : Cfg S K) (cache : Cache S) (store : DomStore S K) (polls : Nat) (stopAt : Option Nat)
    (hrel : cfg.ctype = .relaxed) (hdom : cfg.dom = none) (hW : 1 ≤ cfg.width)
    (hok : (buildLoop cfg stopAt (cfg.P.nbVars + 2) (initDD cfg cache store polls)).2 = .ok) :
    ∀ (l p : Nat) (n : Node S) (a : Arc),
      getNode (finalizeLayers (buildLoop cfg stopAt (cfg.P.nbVars + 2) (initDD cfg cache store polls)).1).layers l p = some n →
      a ∈ n.inb →
      ∃ par, getNode (finalizeLayers (buildLoop cfg stopAt (cfg.P.nbVars + 2) (initDD cfg cache store polls)).1).layers
          a.fromL a.fromP = some par ∧ par.cache = false ∧ par.deleted = false :=
  fun l p n a h ha => (built_good cfg cache store polls stopAt hrel hdom hW l p n h).2 a ha

end Ddo.CacheClosed

#print axioms Ddo.CacheClosed.built_unmarked
#print axioms Ddo.CacheClosed.built_arcs_live
