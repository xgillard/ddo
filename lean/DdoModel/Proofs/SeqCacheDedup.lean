import DdoModel.Proofs.SeqCache
import DdoModel.Proofs.SeqInvDedup
/-! C09 for the duplicate-free fringe (`NoDupFringe`, `dedup = true`) — the sequential branch-and-bound **with** the threshold cache.

As for the cache-less solver (`Proofs/SeqInvDedup.lean`): the state after `process_one_node` with the duplicate-free fringe has the incumbent
of the plain one and a fringe that is a coalescing (`Coalesces`) of the plain one (`processD_rel`), and `CInvC` is stable under coalescing — a
member `c` of the multiset is dominated (`Dom`) by an entry `s`, which has the same depth, a potential `≥` (`optOf_dom`), a bound `≥`, and is
not refused by the cache when `c` is not (`prunM_dom`).  Hence `processC_inv_any`, like `processC_inv` without hypothesis on the pop order. -/
set_option linter.unusedSectionVars false
set_option linter.unusedVariables false
namespace Ddo.C09
open Ddo
variable {S : Type} [DecidableEq S]

/-- the solver state after `process_one_node (N)`, `must_explore` answered by the cache, either fringe -/
def stateAfterD (dedup : Bool) (st : SeqSt S) (T : CView S) (N : SubP S) (r x : DDOut S) : SeqSt S :=
  (st.process dedup N (decide (¬ prunM T N)) (.ok r) (.ok x)).1

theorem stateAfterD_false (st : SeqSt S) (T : CView S) (N : SubP S) (r x : DDOut S) :
    stateAfterD false st T N r x = stateAfter st T N r x := rfl

theorem optOf_ub (H : Nat → S → EInt) (c : SubP S) (u : Int) : optOf H { c with ub := u } = optOf H c := rfl

theorem optOf_phiMono (H : Nat → S → EInt) : PhiMono (optOf H : SubP S → EInt) :=
  phiMono_of_potential H

theorem optOf_dom (H : Nat → S → EInt) {s c : SubP S} (hd : Dom s c) (y : Int) (hy : optOf H c = some y) :
    ∃ y', optOf H s = some y' ∧ y ≤ y' := by
  have hle : optOf H c ≤ optOf H s := optOf_phiMono H c s hd.state.symm hd.depth.symm hd.value
  rw [hy] at hle
  cases hs : optOf H s with
  | none => rw [hs] at hle; exact absurd hle (by simp)
  | some y' => rw [hs] at hle; exact ⟨y', rfl, by simpa using hle⟩

/-- `prunM` is antitone in the value: what the cache refuses, it refuses with a smaller value -/
theorem prunM_dom (T : CView S) {s c : SubP S} (hd : Dom s c) (hp : prunM T s) : prunM T c := by
  obtain ⟨t, ht, hcond⟩ := hp
  rw [hd.state, hd.depth] at ht
  refine ⟨t, ht, ?_⟩
  have hv := hd.value
  rcases hcond with h | ⟨h, he⟩
  · exact Or.inl (by omega)
  · by_cases hlt : c.value < t.value
    · exact Or.inl hlt
    · exact Or.inr ⟨by omega, he⟩

theorem processD_rel (st : SeqSt S) (T : CView S) (N : SubP S) (r x : DDOut S) :
    (stateAfterD true st T N r x).bestLb = (stateAfter st T N r x).bestLb ∧
    (stateAfterD true st T N r x).bestSol = (stateAfter st T N r x).bestSol ∧
    Coalesces (stateAfterD true st T N r x).fringe (fun c => c ∈ (stateAfter st T N r x).fringe) := by
  obtain ⟨e1, e2, _, _, _, _, hco⟩ := C01b.process_dedup_rel st N (decide (¬ prunM T N)) (.ok r) (.ok x)
  exact ⟨e1, e2, hco⟩

section
variable (H : Nat → S → EInt) (opt : Int) (Sol : List Dec → Int → Prop)
variable (Rg : Nat → Int → Prop)

theorem Live.of_coalesce {L F : List (SubP S)} {T : CView S} {x : Int} {d : Nat}
    (hco : Coalesces F (fun c => c ∈ L)) (h : Live H L T x d) : Live H F T x d := by
  obtain ⟨c, hc, hdc, ⟨y, hy, hxy⟩, hxu, hnp⟩ := h
  obtain ⟨s, hs, hd⟩ := hco.2 c hc
  obtain ⟨y', hy', hyy'⟩ := optOf_dom H hd y hy
  have h1 := hd.depth
  have h2 := hd.ub
  exact ⟨s, hs, by omega, ⟨y', hy', by omega⟩, by omega, fun hp => hnp (prunM_dom T hd hp)⟩

theorem CInvC.of_coalesce {L F : List (SubP S)} {T : CView S} {lb : Int} {sol : Option (List Dec)}
    (hinv : CInvC H opt Sol Rg L T lb sol) (hco : Coalesces F (fun c => c ∈ L)) :
    CInvC H opt Sol Rg F T lb sol := by
  refine ⟨?_, ?_, hinv.lbOk, hinv.solOk, fun hgt => Live.of_coalesce H hco (hinv.root hgt), ?_, ?_⟩
  ·
    intro s hs
    obtain ⟨a, b, ha, _, rfl, _⟩ := hco.1 s hs
    exact hinv.good a ha
  ·
    intro s hs
    obtain ⟨a, b, ha, _, rfl, _⟩ := hco.1 s hs
    exact hinv.rng a ha
  ·
    intro s d t v h hT hrg hvt hH hgt
    exact Live.of_coalesce H hco (hinv.cache s d t v h hT hrg hvt hH hgt)
  ·
    intro s hs y hy hgt
    obtain ⟨a, b, ha, _, rfl, _⟩ := hco.1 s hs
    exact Live.of_coalesce H hco (hinv.open_ a ha y hy hgt)

theorem processC_inv_any (dedup : Bool)
    (st : SeqSt S) (T : CView S) (N : SubP S) (r : DDOut S) (rups : List (S × Nat × Int × Bool))
    (x : DDOut S) (xups : List (S × Nat × Int × Bool))
    (hinv : CInvC H opt Sol Rg (N :: st.fringe) T st.bestLb st.bestSol)
    (hrs : ∀ w, r.bestExact = some w → ∃ p, r.bestExactSol = some p ∧ Sol p w ∧ w ≤ opt)
    (hr : r.isExact = true → CompC H opt Sol Rg N st.bestLb T r rups (st.updateBest r).bestLb)
    (hrups : r.isExact = false → rups = [])
    (hx : r.isExact = false → CompC H opt Sol Rg N (st.updateBest r).bestLb T x xups ((st.updateBest r).updateBest x).bestLb) :
    CInvC H opt Sol Rg (stateAfterD dedup st T N r x).fringe (viewAfter st T N r rups xups)
      (stateAfterD dedup st T N r x).bestLb (stateAfterD dedup st T N r x).bestSol := by
  have h := processC_inv H opt Sol Rg st T N r rups x xups hinv hrs hr hrups hx
  cases dedup
  · exact h
  · -- the duplicate-free fringe is a coalescing of the plain one, with the same incumbent
    obtain ⟨e1, e2, hco⟩ := processD_rel st T N r x
    rw [e1, e2]
    exact CInvC.of_coalesce H opt Sol Rg h hco

end
end Ddo.C09

#print axioms Ddo.C09.CInvC.of_coalesce
#print axioms Ddo.C09.processC_inv_any
