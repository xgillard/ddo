import DdoModel.Proofs.ParCacheExecTools
import DdoModel.Proofs.NoCapSearch
set_option linter.unusedSectionVars false
set_option linter.unusedVariables false
namespace Ddo.ParCache
open Ddo Ddo.C01 Ddo.C09 Ddo.ParSys Ddo.Closed
variable {S : Type} [DecidableEq S]

/-! # A schedule search for the parallel caching solver (executable code only; no theorem depends on it)

`Search.ksearchMain` is the entry point (run it from a scratch file `def main := Ddo.ParCache.Search.ksearchMain` with
`lake env lean --run`).  Tables: the three instances of `Proofs/AnyOrderLayered.lean` on which
the pre-fix solver lost the optimum (`NoCapSearch.bases`), point mutants of them (`NoCapSearch.mutate`, accepted by
`Layered.check`, hence `WellFormed`), random tables (`NoCapSearch.genTab`, `genWs`).  Per table: 4 configurations (fringe ×
cut-set kind) × `U ∈ {2, 3}` workers × (240 delayed-worker schedules `delayed` + `4 · nrand` pseudo-random schedules
`Drv.random`, bursts 0 / 2 / 8 / 30); every run goes on until every worker has left (`allDoneB`), nobody is enabled
(`stuck`: covers an operation that would panic, `nextK` never takes it) or a step bound (`timeout`); the final `best_lb` is
compared with `Layered.optimum`.  `d14Sensitive`: tables on which the pre-fix capped *sequential* solver loses the optimum
for some pop order (`NoCapSearch.oneModel`). -/
namespace Search
open Ddo.C09.Layered Ddo.C09.NoCapSearch

/-- the number of admissible snapshots for the compilation worker `i` is in (0: it is not in a compilation) -/
def avail (s : KSys Int) (i : Nat) : Nat :=
  match s.ws[i]? with
  | some (.compR _ _ k0) => min s.log.length (s.log.length + 1 - k0)
  | some (.compX _ _ k0) => min s.log.length (s.log.length + 1 - k0)
  | _ => 0

/-- which snapshot a compilation reads -/
inductive Pick
  | newest
  | oldest
  | idx (k : Nat)   -- clamped to the admissible range

def Pick.eval (p : Pick) (s : KSys Int) (i : Nat) : Nat :=
  match p with
  | .newest => 0
  | .oldest => avail s i - 1
  | .idx k => min k (avail s i - 1)

/-- a run under construction: the state, the schedule so far (newest first), counters -/
structure Drv where
  s : KSys Int
  rev : List (Nat × Nat) := []
  steps : Nat := 0
  notifies : Nat := 0      -- nodes acknowledged
  stale : Nat := 0         -- compilations answered from a snapshot that is not the newest one …
  staleDiff : Nat := 0     -- … and whose content differs from the current content of the shared cache
  /-- CALIBRATION ONLY (not a step of `KPStep`): `enqueue_cutset` caps the bounds by the bound of the node processed, as the
      code did before the repair of D14 -/
  capped : Bool := false

def Drv.step (sv : SolverCfg Int) (d : Drv) (i : Nat) (p : Pick) : Option Drv :=
  let k := p.eval d.s i
  match nextK sv k d.s i with
  | none => none
  | some t =>
    let fin := match d.s.ws[i]? with | some (.fin _) => 1 | _ => 0
    let diff := if k = 0 then 0 else
      match snapshot d.s (match d.s.ws[i]? with | some (.compR _ _ k0) => k0 | some (.compX _ _ k0) => k0 | _ => 0) k with
      | some c => if c.layers = d.s.cache.layers then 0 else 1
      | none => 0
    let t := if d.capped then
        match d.s.ws[i]? with
        | some (.enq n _ o _ _) =>
          { t with crit := { d.s.crit with base := d.s.crit.base.enqueueCapped sv.dedup n.ub o.cutset } }
        | _ => t
      else t
    some { d with s := t, rev := (i, k) :: d.rev, steps := d.steps + 1, notifies := d.notifies + fin,
                  stale := d.stale + (if k = 0 then 0 else 1), staleDiff := d.staleDiff + diff }

def tagAt (s : KSys Int) (i : Nat) : Nat := (s.ws[i]?.map tagK).getD 99

/-- worker `i` alone, until `stop` holds or it is not enabled -/
def Drv.runW (sv : SolverCfg Int) (i : Nat) (p : Pick) (stop : Drv → Bool) : Nat → Drv → Drv
  | 0, d => d
  | f + 1, d => if stop d then d else
    match d.step sv i p with
    | some d' => Drv.runW sv i p stop f d'
    | none => d

/-- round robin, one step each, until everybody has left; `true`: stuck (nobody enabled, not all done) -/
def Drv.finish (sv : SolverCfg Int) (U : Nat) (p : Pick) : Nat → Nat → Drv → Drv × Bool
  | 0, _, d => (d, false)
  | f + 1, last, d =>
    if allDoneB d.s then (d, false) else
    match (List.range U).findSome? (fun j => let i := (last + 1 + j) % U; (d.step sv i p).map (fun d' => (i, d'))) with
    | some (i, d') => Drv.finish sv U p f i d'
    | none => (d, true)

def lcg (x : Nat) : Nat := (x * 6364136223846793005 + 1442695040888963407) % 18446744073709551616

/-- pseudo-random schedule over `(worker, pick)`, `pick ∈ {0, 1, 2, 5}` (clamped); `burst`: the same worker is kept with
    probability `burst / (burst + 1)` -/
def Drv.random (sv : SolverCfg Int) (U burst : Nat) : Nat → Nat → Nat → Drv → Drv × Bool × Nat
  | 0, g, _, d => (d, false, g)
  | f + 1, g, cur, d =>
    if allDoneB d.s then (d, false, g) else
    let g := lcg g
    let keep := (g >>> 33) % (burst + 1) != 0
    let g := lcg g
    let w := if keep then cur else (g >>> 33) % U
    let g := lcg g
    let pk := [0, 1, 2, 5].getD ((g >>> 33) % 4) 0
    match d.step sv w (.idx pk) with
    | some d' => Drv.random sv U burst f g w d'
    | none =>
      match (List.range U).findSome? (fun j => let i := (w + 1 + j) % U; (d.step sv i (.idx pk)).map (fun d' => (i, d'))) with
      | some (i, d') => Drv.random sv U burst f g i d'
      | none => (d, true, g)

/-- the delayed-worker schedules of the D14 finding: worker 0 alone for `e` nodes; workers `1 … U-1` pop and run up to the
    stage `fz` (7 `readR`, 8 `compR`, 10 `readX`, 11 `compX`) and are frozen; worker 0 completes `k` more nodes; the frozen
    workers complete their node reading the snapshot `pk`; round robin with `pf` to the end -/
def delayed (sv : SolverCfg Int) (cap : Bool) (U e fz k : Nat) (pk pf : Pick) (s0 : KSys Int) : Drv × Bool :=
  let d : Drv := { s := s0, capped := cap }
  let d := Drv.runW sv 0 .newest (fun d => d.notifies ≥ e) 2000 d
  let d := (List.range (U - 1)).foldl (fun d j => Drv.runW sv (j + 1) .newest (fun d => tagAt d.s (j + 1) == fz) 2000 d) d
  let n0 := d.notifies
  let d := Drv.runW sv 0 .newest (fun d => d.notifies ≥ n0 + k) 4000 d
  let d := (List.range (U - 1)).foldl (fun d j => let n1 := d.notifies; Drv.runW sv (j + 1) pk (fun d => d.notifies ≥ n1 + 1) 2000 d) d
  Drv.finish sv U pf 20000 0 d

structure KTally where
  runs : Nat := 0
  allDone : Nat := 0
  bad : Nat := 0           -- all done, `best_lb ≠ optimum`
  stuck : Nat := 0         -- nobody enabled, not all done (covers: an operation that would panic)
  timeout : Nat := 0
  steps : Nat := 0
  stale : Nat := 0
  staleDiff : Nat := 0
  deriving Repr

def KTally.add (a b : KTally) : KTally :=
  { runs := a.runs + b.runs, allDone := a.allDone + b.allDone, bad := a.bad + b.bad, stuck := a.stuck + b.stuck,
    timeout := a.timeout + b.timeout, steps := a.steps + b.steps, stale := a.stale + b.stale,
    staleDiff := a.staleDiff + b.staleDiff }

def showCfg (T : Tab) (ws : List Nat) (dedup : Bool) (kind : CutsetKind) (U : Nat) : String :=
  s!"U={U} dedup={dedup} kind={repr kind} ws={ws} {showTab T}"

def record (opt : Int) (what : String) (r : Drv × Bool) (acc : KTally × Array String) : KTally × Array String :=
  let (d, stuck) := r
  let done := allDoneB d.s
  let bad := done && d.s.crit.base.bestLb != opt
  let t := acc.1
  let t := { t with runs := t.runs + 1, allDone := t.allDone + (if done then 1 else 0), bad := t.bad + (if bad then 1 else 0),
                    stuck := t.stuck + (if stuck then 1 else 0), timeout := t.timeout + (if !done && !stuck then 1 else 0),
                    steps := t.steps + d.steps, stale := t.stale + d.stale, staleDiff := t.staleDiff + d.staleDiff }
  let log := if bad then acc.2.push s!"BAD lb={d.s.crit.base.bestLb} opt={opt} {what} sched={d.rev.reverse}"
    else if stuck then acc.2.push s!"STUCK tags={d.s.ws.map tagK} lb={d.s.crit.base.bestLb} opt={opt} {what} sched={d.rev.reverse}"
    else if !done then acc.2.push s!"TIMEOUT tags={d.s.ws.map tagK} steps={d.steps} {what}"
    else acc.2
  (t, log)

/-- all runs on one configuration: the delayed family, `nrand` random schedules per burst length -/
def oneConfig (cap : Bool) (T : Tab) (ws : List Nat) (dedup : Bool) (kind : CutsetKind) (U nrand seed : Nat)
    (acc : KTally × Array String) : KTally × Array String := Id.run do
  let sv := Layered.sv T ws dedup kind
  let opt := optimum T
  let s0 := KSys.init (prob T) dedup U
  let what := showCfg T ws dedup kind U
  let mut acc := acc
  for e in [1, 2, 3] do
    for fz in [7, 8, 10, 11] do
      for k in [1, 2, 3, 5, 1000] do
        for (pk, pkn) in [(Pick.oldest, "oldest"), (Pick.newest, "newest")] do
          for (pf, pfn) in [(Pick.newest, "newest"), (Pick.oldest, "oldest")] do
            acc := record opt s!"delayed e={e} fz={fz} k={k} pk={pkn} pf={pfn} {what}" (delayed sv cap U e fz k pk pf s0) acc
  let mut g := lcg (seed + 17)
  for burst in [0, 2, 8, 30] do
    for _ in List.range nrand do
      let (d, stuck, g') := Drv.random sv U burst 20000 g 0 { s := s0, capped := cap }
      g := lcg g'
      acc := record opt s!"random burst={burst} {what}" (d, stuck) acc
  return acc

def configs : List (Bool × CutsetKind) :=
  [(false, CutsetKind.lel), (false, CutsetKind.frontier), (true, CutsetKind.lel), (true, CutsetKind.frontier)]

/-- all four configurations, `U ∈ Us` -/
def oneTable (cap : Bool) (T : Tab) (ws : List Nat) (Us : List Nat) (nrand seed : Nat) (acc : KTally × Array String) :
    KTally × Array String := Id.run do
  let mut acc := acc
  for (dedup, kind) in configs do
    for U in Us do
      acc := oneConfig cap T ws dedup kind U nrand seed acc
  return acc

/-- does the pre-fix (capped) sequential solver lose the optimum on this table for some pop order? (the D14 regime) -/
def d14Sensitive (T : Tab) (ws : List Nat) : Bool :=
  let (_, t, _) := oneModel ⟨1⟩ T (some ws) 60 5 true {} #[]
  t.capBadModels > 0

/-- `args = [mode (0: the three base tables, 1: mutants of them, 2: random tables), seed, count, nrand, kmax, maxU,
    capped (1: CALIBRATION, the pre-fix capped `enqueue_cutset`)]` -/
def ksearchMain (args : List String) : IO UInt32 := do
  let a := args.map String.toNat!
  let mode := a.getD 0 0
  let seed := a.getD 1 1
  let count := a.getD 2 10
  let nrand := a.getD 3 10
  let kmax := a.getD 4 4
  let maxU := a.getD 5 3
  let Us := if maxU ≥ 3 then [2, 3] else [2]
  let cap := a.getD 6 0 != 0
  let mut badTables := 0
  let mut r : Rng := ⟨seed.toUInt64 * 0x2545F4914F6CDD1D + 99⟩
  let mut tally : KTally := {}
  let mut tables := 0
  let mut sensitive := 0
  let mut rejected := 0
  let mut tries := 0
  let mut seen : List (List Nat × List Int × List Nat) := []
  let mut distinct := 0
  while tables < count && tries < count * 400 do
    tries := tries + 1
    let mut cand : Option (Tab × List Nat) := none
    if mode = 0 then
      cand := bases[tables]?
      if cand.isNone then break
    else if mode = 1 then
      let (r1, b) := r.below bases.length
      let (T0, ws0) := bases.getD b (Layered.Counter.T, Layered.Counter.ws)
      let (r2, k) := r1.below kmax
      let (r3, T, ws) := mutate r2 T0 ws0 (k + 1)
      r := r3
      let hmax := (List.range (T.n + 1)).foldl (fun a j => (List.range T.m).foldl (fun a s => max a (hfrom T j s)) a) 0
      cand := some ({ T with rub := max T.rub hmax }, ws)
    else
      let (r1, n) := r.below 4
      let (r2, m) := r1.below 3
      let (r3, md) := r2.below 3
      let (r4, mo) := r3.below 3
      let (r5, T) := genTab r4 (n + 4) (m + 2) md (mo = 0)
      let (r6, ws) := genWs r5 T
      r := r6
      cand := some (T, ws)
    match cand with
    | none => pure ()
    | some (T, ws) =>
      if check T (costBound T) then
        tables := tables + 1
        let key := (T.trl, T.cl ++ [T.rub], ws)
        if !seen.contains key then
          seen := key :: seen
          distinct := distinct + 1
        if d14Sensitive T ws then sensitive := sensitive + 1
        let (t2, log) := oneTable cap T ws Us nrand (seed * 1000 + tables) ({}, #[])
        for l in log.toList.take 3 do IO.println l
        if t2.bad > 0 || t2.stuck > 0 || t2.timeout > 0 then badTables := badTables + 1
        tally := tally.add t2
        if tables % 5 = 0 || mode = 0 then
          IO.println s!"progress mode={mode} capped={cap} failingTables={badTables} seed={seed} tables={tables} distinct={distinct} d14sensitive={sensitive} rejected={rejected} | {repr tally}"
          (← IO.getStdout).flush
      else rejected := rejected + 1
  IO.println s!"FINAL mode={mode} capped={cap} failingTables={badTables} seed={seed} tables={tables} distinct={distinct} d14sensitive={sensitive} rejected={rejected} | runs={tally.runs} allDone={tally.allDone} bad={tally.bad} stuck={tally.stuck} timeout={tally.timeout} steps={tally.steps} staleReads={tally.stale} staleReadsDifferent={tally.staleDiff}"
  return 0

end Search

end Ddo.ParCache
