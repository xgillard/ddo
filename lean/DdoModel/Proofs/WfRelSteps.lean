import DdoModel.WfRel
/-! `WfRel` from the clauses a model really proves.  In every shipped example the merged state is treated like any other
    valid state: `vstepMerge` and `attMerge` are `vstep` and `att` at `merge X`, which `vmerge` makes valid, and the list
    handed to `nextVar` matters only through the answer (`WfRel.of_steps`).  `WfRel.strengthen` adds one more invariant,
    kept by the decisions and the merges, to the layer validity of a well-formed model (the bounds `NoClampRel` asks for). -/
namespace Ddo
variable {S : Type} {P : Problem S} {R : Relax S} {H : Nat → S → EInt} {V V' : Nat → S → Prop}

theorem WfRel.of_steps
    (vstep : ∀ k L x s d, P.nextVar k L = some x → V k s → d ∈ P.domain x s → V (k + 1) (P.trans s ⟨x, d⟩))
    (vmerge : ∀ k X, X ≠ [] → (∀ u ∈ X, V k u) → V k (R.merge X))
    (att : ∀ k L x s h, P.nextVar k L = some x → V k s → H k s = some h →
      ∃ d ∈ P.domain x s, ∃ h', H (k + 1) (P.trans s ⟨x, d⟩) = some h' ∧ h ≤ P.cost s (P.trans s ⟨x, d⟩) ⟨x, d⟩ + h')
    (term : ∀ k L s h, P.nextVar k L = none → s ∈ L → V k s → H k s = some h → h ≤ 0)
    (rub : ∀ k s h, V k s → H k s = some h → h ≤ R.rub s)
    (merge : ∀ k (X : List S) (u src : S) (d : Dec) (c h : Int), u ∈ X → (∀ w ∈ X, V k w) → H k u = some h →
      ∃ h', H k (R.merge X) = some h' ∧ c + h ≤ R.relax src u (R.merge X) d c + h') :
    WfRel P R H V where
  vstep := fun k L x s d hnv _ hV hd => vstep k L x s d hnv hV hd
  vstepMerge := fun k L x X d hnv hne _ hV hd => vstep k L x _ d hnv (vmerge k X hne hV) hd
  vmerge := vmerge
  att := fun k L x s h hnv _ hV hh => att k L x s h hnv hV hh
  attMerge := fun k L x X h hnv hne _ hV hh => att k L x _ h hnv (vmerge k X hne hV) hh
  term := term
  rub := rub
  merge := merge

theorem WfRel.strengthen (h : WfRel P R H V) (hsub : ∀ k s, V' k s → V k s)
    (vstep : ∀ k L x s d, P.nextVar k L = some x → V' k s → d ∈ P.domain x s → V' (k + 1) (P.trans s ⟨x, d⟩))
    (vmerge : ∀ k X, X ≠ [] → (∀ u ∈ X, V' k u) → V' k (R.merge X)) : WfRel P R H V' where
  vstep := fun k L x s d hnv _ hV hd => vstep k L x s d hnv hV hd
  vstepMerge := fun k L x X d hnv hne _ hV hd => vstep k L x _ d hnv (vmerge k X hne hV) hd
  vmerge := vmerge
  att := fun k L x s a hnv hs hV hh => h.att k L x s a hnv hs (hsub k s hV) hh
  attMerge := fun k L x X a hnv hne hX hV hh => h.attMerge k L x X a hnv hne hX (fun u hu => hsub k u (hV u hu)) hh
  term := fun k L s a hnv hs hV hh => h.term k L s a hnv hs (hsub k s hV) hh
  rub := fun k s a hV hh => h.rub k s a (hsub k s hV) hh
  merge := fun k X u src d c a hu hV hh => h.merge k X u src d c a hu (fun w hw => hsub k w (hV w hw)) hh

end Ddo
