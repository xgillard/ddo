import DdoModel.Proofs.PooledLoop
import DdoModel.Proofs.MddProtocol
/-! The callback protocol (C12) of the pooled diagram, `ProtocolOkP`: as for the clean diagram, except that a `relax` call may concern an
    arc created by any earlier block whose destination has waited in the pool since (`ArcAvail`).  The log of an expansion that starts from
    a non-empty pool is `C12.expand_logP` of `Proofs/MddProtocol.lean`.  Statements: `Props/C12p.lean`. -/
set_option linter.unusedSectionVars false
set_option linter.unusedVariables false
namespace Ddo.Pooled
open Ddo
variable {S K : Type} [DecidableEq S] [DecidableEq K]

open Ddo.C12 (LogOk ArcFrom ExpQ NxOkP)

/-- an earlier layer block: its variable, the states handed to its `next_variable` call (the pool), its body -/
abbrev Blk (S : Type) := Nat × List S × List (Call S)

/-- the arc `src —d,c→ dst` is available to the block that follows the blocks `prevs` (most recent first): it was created
    by the most recent block (`ArcFrom`), or `dst` was in the pool of that block, not impacted by its variable (so it
    stayed in the pool with its arcs: a long arc) and the arc was already available to that block -/
def ArcAvail (P : Problem S) : List (Blk S) → S → S → Dec → Int → Prop
  | [], _, _, _, _ => False
  | b :: more, src, dst, d, c =>
      ArcFrom P b.2.2 src dst d c ∨ (dst ∈ b.2.1 ∧ P.impacted b.1 dst = false ∧ ArcAvail P more src dst d c)

/-- `s` is a state of the layer of the block: a pool state impacted by the variable of the block, or the result of a
    `merge` call issued earlier in the same block -/
def InLayerP (P : Problem S) (var : Nat) (states : List S) (pre : List (Call S)) (s : S) : Prop :=
  (s ∈ states ∧ P.impacted var s = true) ∨ ∃ sts, Call.merge sts s ∈ pre

/-- one call of the body of a pooled layer block (`var` = answer of `next_variable` on the pool `states`; `prevs` = the
    earlier blocks, most recent first; `pre` = the calls that precede it in the body).  The `is_impacted_by` calls are
    not part of the body: they form the prefix of the block (`BlocksP.block`). -/
def CallOkP (P : Problem S) (R : Relax S) (var : Nat) (states : List S) (prevs : List (Blk S))
    (pre : List (Call S)) : Call S → Prop
  | .nextVar _ _ _ => False
  | .rub s => InLayerP P var states pre s
  | .domain v s => v = var ∧ InLayerP P var states pre s
  | .trans s d => d.var = var ∧ d.val ∈ P.domain var s ∧ InLayerP P var states pre s ∧ Call.domain var s ∈ pre
  | .cost s t d => d.var = var ∧ d.val ∈ P.domain var s ∧ t = P.trans s d ∧ InLayerP P var states pre s ∧
      ∃ pre', pre = pre' ++ [Call.trans s d]
  | .merge sts res => pre = [] ∧ res = R.merge sts ∧ 2 ≤ sts.length ∧ ∀ s ∈ sts, s ∈ states ∧ P.impacted var s = true
  | .relax src dst merged d c =>
      (∃ sts, Call.merge sts merged ∈ pre ∧ dst ∈ sts) ∧ ArcAvail P prevs src dst d c
  | .impacted _ _ => False

def BodyOkP (P : Problem S) (R : Relax S) (var : Nat) (states : List S) (prevs : List (Blk S))
    (body : List (Call S)) : Prop :=
  LogOk (CallOkP P R var states prevs) [] body

/-- the pool handed to `next_variable`: every state is the destination of a transition of the previous block, or was
    already in the pool of the previous block and is not impacted by its variable -/
def StatesOkP (P : Problem S) : List (Blk S) → List S → Prop
  | [], _ => True
  | b :: _, states => ∀ s ∈ states, (∃ src d, Call.cost src s d ∈ b.2.2) ∨ (s ∈ b.2.1 ∧ P.impacted b.1 s = false)

/-- `BlocksP P R k prevs log`: `log` (chronological) is a sequence of pooled layer blocks, the first of which is at depth
    `k` and is preceded by the blocks `prevs`.  A complete block is the `next_variable` call, one `is_impacted_by` call
    per pool state (in pool order, for the selected variable), then the body.  `cut`: the compilation stops right after
    the `next_variable` call (cutoff, empty pool, or crash). -/
inductive BlocksP (P : Problem S) (R : Relax S) : Nat → List (Blk S) → List (Call S) → Prop
  | done (k : Nat) (prevs : List (Blk S)) : BlocksP P R k prevs []
  | last (k : Nat) (prevs : List (Blk S)) (states : List S) :
      P.nextVar k states = none → StatesOkP P prevs states →
      BlocksP P R k prevs [Call.nextVar k states none]
  | cut (k : Nat) (prevs : List (Blk S)) (states : List S) (var : Nat) :
      P.nextVar k states = some var → StatesOkP P prevs states →
      BlocksP P R k prevs [Call.nextVar k states (some var)]
  | block (k : Nat) (prevs : List (Blk S)) (states : List S) (var : Nat) (body rest : List (Call S)) :
      P.nextVar k states = some var → StatesOkP P prevs states →
      BodyOkP P R var states prevs body → BlocksP P R (k + 1) ((var, states, body) :: prevs) rest →
      BlocksP P R k prevs (Call.nextVar k states (some var) :: (states.map (Call.impacted var) ++ (body ++ rest)))

/-- **the callback protocol of the pooled diagram** on the chronological log of a compilation rooted at depth `rootDepth` -/
def ProtocolOkP (P : Problem S) (R : Relax S) (rootDepth : Nat) (log : List (Call S)) : Prop :=
  BlocksP P R rootDepth [] log

theorem expF_logP (cfg : Cfg S K) (var lidx : Nat) (layer rest : List (Node S)) (cur : List Nat) (log : List (Call S)) :
    (expF cfg var lidx layer rest cur log).1.map (·.state) = layer.map (·.state) ∧
    ∃ delta, (expF cfg var lidx layer rest cur log).2.2 = delta ++ log ∧
      LogOk (ExpQ cfg.P var (layer.map (·.state))) [] delta.reverse ∧
      ∀ n ∈ (expF cfg var lidx layer rest cur log).2.1, NxOkP cfg.P (layer.map (·.state)) lidx rest delta n :=
  C12.expand_logP cfg var lidx layer rest cur log

/-- invariant of `buildLoopP` for the protocol (`prevs` = the earlier blocks, most recent first): every inbound arc of a
    pool node is available (`ArcAvail`: created by an earlier block, its destination skipped by all the blocks in
    between), its parent is where the arc says; the pool states satisfy `StatesOkP` -/
structure LoopInvP (cfg : Cfg S K) (pd : PD S K) (prevs : List (Blk S)) : Prop where
  arcs : ∀ n ∈ pd.pool, ∀ e ∈ n.inb, ∃ src, getNode pd.plain e.fromL e.fromP = some src ∧
    ArcAvail cfg.P prevs src.state n.state e.dec e.cost
  origin : StatesOkP cfg.P prevs (pd.pool.map (·.state))

theorem LoopInvP.congr {cfg : Cfg S K} {pd pd' : PD S K} {prevs : List (Blk S)} (h : LoopInvP cfg pd prevs)
    (hl : pd'.layers = pd.layers) (hn : pd'.pool = pd.pool) : LoopInvP cfg pd' prevs := by
  obtain ⟨h1, h2⟩ := h
  have hp : pd'.plain = pd.plain := by unfold PD.plain; rw [hl]
  exact ⟨hp ▸ hn ▸ h1, hn ▸ h2⟩

theorem CallOkP.of_expQ {P : Problem S} {R : Relax S} {var : Nat} {states : List S} {prevs : List (Blk S)}
    {L : List S} {pfx pre : List (Call S)} {c : Call S} (hL : ∀ s ∈ L, InLayerP P var states pfx s)
    (h : ExpQ P var L pre c) : CallOkP P R var states prevs (pfx ++ pre) c := by
  have hin : ∀ s ∈ L, InLayerP P var states (pfx ++ pre) s := fun s hs =>
    (hL s hs).imp id (fun ⟨sts, h⟩ => ⟨sts, List.mem_append_left _ h⟩)
  cases c with
  | rub s => exact hin s h
  | domain v s => exact ⟨h.1, hin s h.2⟩
  | trans s d => exact ⟨h.1, h.2.1, hin s h.2.2.1, List.mem_append_right _ h.2.2.2⟩
  | cost s t d =>
    obtain ⟨h1, h2, h3, h4, pre', h5⟩ := h
    exact ⟨h1, h2, h3, hin s h4, pfx ++ pre', by rw [h5, List.append_assoc]⟩
  | nextVar _ _ _ => exact h
  | merge _ _ => exact False.elim h
  | relax _ _ _ _ _ => exact False.elim h
  | impacted _ _ => exact h

theorem stepLayerP_protocol (cfg : Cfg S K) (pd pd' : PD S K) (var : Nat) (prevs : List (Blk S))
    (hinv : LoopInvP cfg pd prevs) (h : stepLayerP cfg pd var = some pd') :
    ∃ body, pd'.log.reverse = pd.log.reverse ++ ((pd.pool.map (·.state)).map (Call.impacted var) ++ body) ∧
      BodyOkP cfg.P cfg.R var (pd.pool.map (·.state)) prevs body ∧ pd'.depth = pd.depth + 1 ∧
      LoopInvP cfg pd' ((var, pd.pool.map (·.state), body) :: prevs) := by
  obtain ⟨layer, cur, ief, log, hs⟩ := stepLayerP_elim cfg pd pd' var h
  obtain ⟨hsig, hnd, hcur⟩ := fdOf_keep cfg pd var
  have hstates : (fdOf cfg pd var).1.map (·.state) = (curNodes cfg pd var).map (·.state) := C12.states_of_sig hsig
  have hcn : ∀ s ∈ (curNodes cfg pd var).map (·.state), s ∈ pd.pool.map (·.state) ∧ cfg.P.impacted var s = true := by
    intro s hs'
    obtain ⟨n, hn, rfl⟩ := List.mem_map.1 hs'
    obtain ⟨m, hm, himp, rfl⟩ := mem_curNodes_iff.1 hn
    exact ⟨List.mem_map.2 ⟨m, hm, rfl⟩, himp⟩
  have hsqz : ∃ pfx, log = pfx.reverse ++ impLog pd var ∧
      LogOk (CallOkP cfg.P cfg.R var (pd.pool.map (·.state)) prevs) [] pfx ∧
      ∀ s ∈ layer.map (·.state), InLayerP cfg.P var (pd.pool.map (·.state)) pfx s := by
    cases hs.sq with
    | restrict _ _ hl _ hlg _ =>
      refine ⟨[], by rw [hlg]; rfl, LogOk.nil _ _, fun s hs' => .inl ?_⟩
      rw [hl, C12.restrictLayer_states, hstates] at hs'
      exact hcn s hs'
    | keep _ _ hl _ hlg _ =>
      refine ⟨[], by rw [hlg]; rfl, LogOk.nil _ _, fun s hs' => .inl ?_⟩
      rw [hl, hstates] at hs'
      exact hcn s hs'
    | relax _ hwide _ hW hl _ hlg _ =>
      obtain ⟨hR1, rel, hR2, hR3⟩ :=
        C12.relaxLayer_log cfg pd.plain (fdOf cfg pd var).1 (fdOf cfg pd var).2.1 (impLog pd var) hcur hnd
      obtain ⟨hF1, hF2, hF3⟩ := C12.restStates_facts cfg (fdOf cfg pd var).1 (fdOf cfg pd var).2.1 hcur
      rw [← hl] at hR1
      rw [← hlg] at hR2
      generalize hfd : fdOf cfg pd var = fd at *
      have hmem : ∀ pre : List (Call S),
          Call.merge (Cover.restStatesOf cfg fd.1 fd.2.1) (Cover.mergedOf cfg fd.1 fd.2.1) ∈
            ([] ++ [Call.merge (Cover.restStatesOf cfg fd.1 fd.2.1) (Cover.mergedOf cfg fd.1 fd.2.1)]) ++ pre :=
        fun pre => List.mem_append_left _ List.mem_cons_self
      refine ⟨Call.merge (Cover.restStatesOf cfg fd.1 fd.2.1) (Cover.mergedOf cfg fd.1 fd.2.1) :: rel.reverse, ?_, ?_, ?_⟩
      · rw [hR2, List.reverse_cons, List.reverse_reverse, List.append_assoc]; rfl
      · refine LogOk.cons_iff.2 ⟨⟨rfl, rfl, hF1 hW hwide, fun s hs' => hcn s (hstates ▸ hF2 s hs')⟩, LogOk.of_forall ?_⟩
        intro c hc pre
        obtain ⟨p, hp, n, hn, e, he, src, hsrc, rfl⟩ := hR3 c (List.mem_reverse.1 hc)
        refine ⟨⟨Cover.restStatesOf cfg fd.1 fd.2.1, hmem pre, hF3 p hp n hn⟩, ?_⟩
        obtain ⟨n0, hn0, hs0, hi0⟩ := C12.mem_of_sig hsig (List.mem_of_getElem? hn)
        obtain ⟨m, hm, _, rfl⟩ := mem_curNodes_iff.1 hn0
        obtain ⟨src', hsrc', harc⟩ := hinv.arcs m hm e (hi0 ▸ he)
        rw [hsrc] at hsrc'
        cases hsrc'
        rw [← hs0]
        exact harc
      · intro s hs'
        rcases hR1 with hR1 | hR1
        · rw [hR1, hstates] at hs'; exact .inl (hcn s hs')
        · rw [hR1, hstates] at hs'
          rcases List.mem_append.1 hs' with hs' | hs'
          · exact .inl (hcn s hs')
          · rw [List.mem_singleton] at hs'
            exact .inr ⟨Cover.restStatesOf cfg fd.1 fd.2.1, hs' ▸ List.mem_cons_self⟩
  obtain ⟨pfx, hp1, hp2, hp3⟩ := hsqz
  obtain ⟨hE1, delta, hE2, hE3, hE4⟩ := expF_logP cfg var pd.layers.length layer (restNodes cfg pd var) cur log
  have hplain := hs.plain
  have hpool := hs.pool
  have hlog := hs.log
  generalize expF cfg var pd.layers.length layer (restNodes cfg pd var) cur log = r at hE1 hE2 hE4 hplain hpool hlog
  have hsub : ∀ x ∈ delta, x ∈ pfx ++ delta.reverse := fun x hx =>
    List.mem_append_right _ (List.mem_reverse.2 hx)
  refine ⟨pfx ++ delta.reverse, ?_, ?_, hs.depth, ⟨?_, ?_⟩⟩
  · rw [hlog, hE2, hp1, impLog_eq, List.map_map]
    simp only [List.reverse_append, List.reverse_reverse, List.append_assoc]
    rfl
  · refine LogOk.append_iff.2 ⟨hp2, ?_⟩
    exact hE3.mono (fun pre c _ hq => CallOkP.of_expQ hp3 hq)
  · intro n hn e he
    rw [hpool] at hn
    rcases (hE4 n hn).2 e he with ⟨n0, hn0, hs0, he0⟩ | ⟨hfrom, s, hsL, harc⟩
    · obtain ⟨hn0p, himp⟩ := mem_restNodes_iff.1 hn0
      obtain ⟨src, hsrc, havail⟩ := hinv.arcs n0 hn0p e he0
      refine ⟨src, ?_, .inr ⟨?_, ?_, ?_⟩⟩
      · rw [hplain]
        split
        · exact hsrc
        · exact getNode_append_left _ _ _ _ _ hsrc
      · exact List.mem_map.2 ⟨n0, hn0p, hs0⟩
      · rw [← hs0]; exact himp
      · rw [← hs0]; exact havail
    · obtain ⟨srcN, hsrcN, hst⟩ := C12.getElem?_of_map_state hE1 hsL
      have hne : r.1.isEmpty = false := by
        cases hr : r.1 with
        | nil => rw [hr] at hsrcN; cases hsrcN
        | cons _ _ => rfl
      refine ⟨srcN, ?_, .inl ?_⟩
      · rw [hplain, hne, hfrom, ← plain_length]
        simp only [Bool.false_eq_true, if_false]
        rw [Cover.getNode_last]
        exact hsrcN
      · rw [hst]; exact harc.mono hsub
  · intro s hs'
    rw [hpool] at hs'
    obtain ⟨n, hn, rfl⟩ := List.mem_map.1 hs'
    rcases (hE4 n hn).1 with ⟨src, d, hmem⟩ | ⟨n0, hn0, hs0⟩
    · exact .inl ⟨src, d, hsub _ hmem⟩
    · obtain ⟨hn0p, himp⟩ := mem_restNodes_iff.1 hn0
      exact .inr ⟨List.mem_map.2 ⟨n0, hn0p, hs0⟩, hs0 ▸ himp⟩

theorem logNV_log_reverse (cfg : Cfg S K) (pd : PD S K) :
    (logNV cfg pd).log.reverse = pd.log.reverse ++
      [Call.nextVar pd.depth (pd.pool.map (·.state)) (cfg.P.nextVar pd.depth (pd.pool.map (·.state)))] := by
  unfold logNV
  dsimp only
  rw [List.reverse_cons]

theorem polled_log_reverse (cfg : Cfg S K) (pd : PD S K) :
    (polled cfg pd).log.reverse = pd.log.reverse ++
      [Call.nextVar pd.depth (pd.pool.map (·.state)) (cfg.P.nextVar pd.depth (pd.pool.map (·.state)))] :=
  logNV_log_reverse cfg pd

theorem buildLoopP_blocks (cfg : Cfg S K) (stopAt : Option Nat) :
    ∀ (fuel : Nat) (pd : PD S K) (prevs : List (Blk S)), LoopInvP cfg pd prevs →
      ∃ tail, (buildLoopP cfg stopAt fuel pd).1.log.reverse = pd.log.reverse ++ tail ∧
        BlocksP cfg.P cfg.R pd.depth prevs tail ∧
        (fuel ≠ 0 → ∃ ans rest, tail = Call.nextVar pd.depth (pd.pool.map (·.state)) ans :: rest) := by
  intro fuel
  induction fuel with
  | zero =>
    intro pd prevs _
    exact ⟨[], by unfold buildLoopP; rw [List.append_nil], BlocksP.done _ _, fun h => absurd rfl h⟩
  | succ fuel ih =>
    intro pd prevs hinv
    have hst := hinv.origin
    have hcut : ∀ var, cfg.P.nextVar pd.depth (pd.pool.map (·.state)) = some var →
        ∃ tail, (polled cfg pd).log.reverse = pd.log.reverse ++ tail ∧ BlocksP cfg.P cfg.R pd.depth prevs tail ∧
          (fuel + 1 ≠ 0 → ∃ ans rest, tail = Call.nextVar pd.depth (pd.pool.map (·.state)) ans :: rest) := by
      intro var hnv
      refine ⟨_, polled_log_reverse cfg pd, ?_, fun _ => ⟨_, _, rfl⟩⟩
      rw [hnv]
      exact BlocksP.cut _ _ _ var hnv hst
    cases buildLoopP_cases cfg stopAt fuel pd with
    | none hnv hb =>
      rw [hb]
      refine ⟨_, logNV_log_reverse cfg pd, ?_, fun _ => ⟨_, _, rfl⟩⟩
      rw [hnv]
      exact BlocksP.last _ _ _ hnv hst
    | cutoff var hnv hb => rw [hb]; exact hcut var hnv
    | empty var hnv _ hb => rw [hb]; exact hcut var hnv
    | crash var hnv _ hb => rw [hb]; exact hcut var hnv
    | step var pd' hnv _ hstep hb =>
      rw [hb]
      obtain ⟨body, hb1, hb2, hd, hinv'⟩ :=
        stepLayerP_protocol cfg (polled cfg pd) pd' var prevs (hinv.congr rfl rfl) hstep
      obtain ⟨tail, ht1, ht2, _⟩ := ih pd' _ hinv'
      have hd' : pd'.depth = pd.depth + 1 := hd
      rw [hd'] at ht2
      have hpool : (polled cfg pd).pool = pd.pool := rfl
      rw [hpool] at hb1 ht2
      refine ⟨Call.nextVar pd.depth (pd.pool.map (·.state)) (some var) ::
          ((pd.pool.map (·.state)).map (Call.impacted var) ++ (body ++ tail)), ?_,
        BlocksP.block _ _ _ var body tail hnv hst hb2 ht2, fun _ => ⟨_, _, rfl⟩⟩
      rw [ht1, hb1, polled_log_reverse, hnv]
      simp only [List.append_assoc, List.cons_append, List.nil_append]

theorem initPD_loopInvP (cfg : Cfg S K) (cache : Cache S) (store : DomStore S K) (polls : Nat) :
    LoopInvP cfg (initPD cfg cache store polls) [] := by
  refine ⟨fun n hn e he => ?_, trivial⟩
  simp only [initPD, List.mem_singleton] at hn
  subst hn
  cases he

end Ddo.Pooled
