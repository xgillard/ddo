import DdoModel.Proofs.ParSysInv
import DdoModel.Proofs.SeqMeasure
import DdoModel.Proofs.LexNat
/-! Termination of the concrete parallel system `ParSys` (`sys_terminates`): a lexicographic measure that every `Step`
    decreases (`step_measure_lt`), provided the cut-sets the workers are about to enqueue hold strictly deeper nodes
    (`ProgOk`, the progress clause C08 (ii), an invariant of the system when `okX` guarantees it).

    Coordinates, most significant first (`K = nbVars + 1`, depths clamped to `K` by `cdepth` of `Proofs/SeqMeasure.lean`):
    * `0 … K`  — number of open sub-problems of that depth: fringe entries + nodes in hand not yet closed;
    * `K + 1`  — length of the fringe (a pop moves a node from the fringe to a hand);
    * `K + 2`  — number of workers holding a node (`notify_node_finished` releases one);
    * `K + 3`  — sum over the workers of the number of stages left in their current activity
                 (`idle` > `waiting` > `done`; `readR` > `compR` > … > `enq`).
    Since `notify_all` is the only way out of `waiting` (no spurious wake-ups with `parking_lot`), even the
    wait steps are counted: there is no infinite run at all.  Core Lean only. -/
set_option linter.unusedSectionVars false
set_option linter.unusedVariables false
set_option linter.unusedSimpArgs false
namespace Ddo.ParSys
open Ddo.C01t
variable {S : Type} [DecidableEq S]

theorem sum_set {α : Type} (f : α → Nat) {l : List α} {i : Nat} {w : α} (a : α) (h : l[i]? = some w) :
    ((l.set i a).map f).sum + f w = (l.map f).sum + f a := by
  induction l generalizing i with
  | nil => cases h
  | cons x xs ih =>
    cases i with
    | zero =>
      simp only [List.getElem?_cons_zero] at h
      injection h with h; subst h
      simp only [List.set_cons_zero, List.map_cons, List.sum_cons]
      omega
    | succ i =>
      simp only [List.getElem?_cons_succ] at h
      simp only [List.set_cons_succ, List.map_cons, List.sum_cons]
      have := ih h
      omega

/-- does the worker hold an open node of clamped depth `d`? -/
def hp (K d : Nat) (w : WSt S) : Bool :=
  match w.openNode with
  | some n => cdepth K n == d
  | none => false

/-- coordinate `K + 3`: stages left in the worker's current activity -/
def WSt.rank : WSt S → Nat
  | .done | .crashed _ | .fin _ _ => 0
  | .waiting | .abortS _ => 1
  | .idle | .enq _ _ _ => 2
  | .updX _ _ _ => 3
  | .compX _ _ => 4
  | .readX _ => 5
  | .updR _ _ _ => 6
  | .compR _ _ => 7
  | .readR _ => 8

def hand (K : Nat) (ws : List (WSt S)) (d : Nat) : Nat := ws.countP (hp K d)
def Vc (K : Nat) (s : Sys S) (d : Nat) : Nat := cnt K s.crit.base.fringe d + hand K s.ws d
def Fc (s : Sys S) : Nat := s.crit.base.fringe.length
def Hc (s : Sys S) : Nat := s.ws.countP WSt.holds
def Rc (s : Sys S) : Nat := (s.ws.map WSt.rank).sum

/-- the measure (see the head of the file): the open sub-problems per clamped depth, then `Fc`, `Hc`, `Rc` -/
def mu (nbVars : Nat) (s : Sys S) : Nat → Nat :=
  vecThen (nbVars + 2) (Vc (nbVars + 1) s) (fun | 0 => Fc s | 1 => Hc s | _ => Rc s)

theorem lt_of_V {nbVars : Nat} {s t : Sys S} (d : Nat) (hd : d ≤ nbVars + 1)
    (hlt : Vc (nbVars + 1) t d < Vc (nbVars + 1) s d) (hle : ∀ e, e < d → Vc (nbVars + 1) t e ≤ Vc (nbVars + 1) s e) :
    LexLT (nbVars + 5) (mu nbVars t) (mu nbVars s) :=
  lexLT_vec d (by omega) (by omega) hlt hle

theorem lt_of_F {nbVars : Nat} {s t : Sys S} (hV : ∀ e, Vc (nbVars + 1) t e = Vc (nbVars + 1) s e) (hF : Fc t < Fc s) :
    LexLT (nbVars + 5) (mu nbVars t) (mu nbVars s) :=
  lexLT_tl 0 (by omega) (fun e => Nat.le_of_eq (hV e)) hF (fun _ h => absurd h (Nat.not_lt_zero _))

theorem lt_of_H {nbVars : Nat} {s t : Sys S} (hV : ∀ e, Vc (nbVars + 1) t e = Vc (nbVars + 1) s e) (hF : Fc t = Fc s)
    (hH : Hc t < Hc s) : LexLT (nbVars + 5) (mu nbVars t) (mu nbVars s) :=
  lexLT_tl 1 (by omega) (fun e => Nat.le_of_eq (hV e)) hH (fun j hj => by
    obtain rfl : j = 0 := by omega
    exact Nat.le_of_eq hF)

theorem lt_of_R {nbVars : Nat} {s t : Sys S} (hV : ∀ e, Vc (nbVars + 1) t e = Vc (nbVars + 1) s e) (hF : Fc t = Fc s)
    (hH : Hc t = Hc s) (hR : Rc t < Rc s) : LexLT (nbVars + 5) (mu nbVars t) (mu nbVars s) :=
  lexLT_tl 2 (by omega) (fun e => Nat.le_of_eq (hV e)) hR (fun j hj => by
    rcases (show j = 0 ∨ j = 1 by omega) with rfl | rfl
    · exact Nat.le_of_eq hF
    · exact Nat.le_of_eq hH)

theorem hp_of_open {K d : Nat} {w : WSt S} {n : SubP S} (h : w.openNode = some n) :
    hp K d w = (cdepth K n == d) := by unfold hp; rw [h]
theorem hp_of_none {K d : Nat} {w : WSt S} (h : w.openNode = none) : hp K d w = false := by unfold hp; rw [h]
theorem hp_congr {K d : Nat} {w w' : WSt S} (h : w'.openNode = w.openNode) : hp K d w' = hp K d w := by
  unfold hp; rw [h]

/-- worker `i` changes stage, keeping its node open (or having none): only the rank moves -/
theorem local_lt {nbVars : Nat} {s : Sys S} {i : Nat} {w : WSt S} (hw : s.ws[i]? = some w) (c' : ParCrit S) (w' : WSt S)
    (hfr : c'.base.fringe = s.crit.base.fringe) (hop : w'.openNode = w.openNode) (hh : w'.holds = w.holds)
    (hr : w'.rank < w.rank) :
    LexLT (nbVars + 5) (mu nbVars { crit := c', ws := s.ws.set i w' }) (mu nbVars s) := by
  refine lt_of_R (fun e => ?_) ?_ ?_ ?_
  · show cnt _ c'.base.fringe e + (s.ws.set i w').countP _ = cnt _ s.crit.base.fringe e + s.ws.countP _
    rw [hfr, countP_set_keep _ w' hw (hp_congr hop)]
  · show c'.base.fringe.length = _; rw [hfr]; rfl
  · exact countP_set_keep _ w' hw hh
  · have := sum_set WSt.rank w' hw
    show ((s.ws.set i w').map _).sum < (s.ws.map _).sum
    omega

/-- worker `i` closes its node `n` (goes to a stage without open node), the fringe loses nothing shallower
    and gains nothing at the depth of `n` or above -/
theorem close_lt {nbVars : Nat} {s : Sys S} {i : Nat} {w : WSt S} {n : SubP S} (hw : s.ws[i]? = some w) (c' : ParCrit S)
    (w' : WSt S) (hop : w.openNode = some n) (hop' : w'.openNode = none)
    (hfr : ∀ e, e ≤ cdepth (nbVars + 1) n → cnt (nbVars + 1) c'.base.fringe e ≤ cnt (nbVars + 1) s.crit.base.fringe e) :
    LexLT (nbVars + 5) (mu nbVars { crit := c', ws := s.ws.set i w' }) (mu nbVars s) := by
  have hset : ∀ e, hand (nbVars + 1) (s.ws.set i w') e + (if cdepth (nbVars + 1) n = e then 1 else 0) = hand (nbVars + 1) s.ws e :=
    fun e => countP_set_out _ w' hw (hp_of_none hop') (hp_of_open hop)
  refine lt_of_V (cdepth (nbVars + 1) n) (by unfold cdepth; omega) ?_ ?_
  · have h1 := hset (cdepth (nbVars + 1) n)
    have h2 := hfr _ (Nat.le_refl _)
    rw [if_pos rfl] at h1
    show cnt _ c'.base.fringe _ + hand _ (s.ws.set i w') _ < cnt _ s.crit.base.fringe _ + hand _ s.ws _
    omega
  · intro e he
    have h1 := hset e
    have h2 := hfr e (by omega)
    show cnt _ c'.base.fringe _ + hand _ (s.ws.set i w') _ ≤ cnt _ s.crit.base.fringe _ + hand _ s.ws _
    omega

/-- the cut-sets about to be enqueued hold strictly deeper nodes, none beyond the last layer -/
def ProgOk (nbVars : Nat) (s : Sys S) : Prop :=
  ∀ (j : Nat) (n : SubP S) (lb : Int) (o : DDOut S),
    (s.ws[j]? = some (.updX n lb o) ∨ s.ws[j]? = some (.enq n lb o)) →
    ∀ c ∈ o.cutset, n.depth < c.depth ∧ c.depth ≤ nbVars

/-- a pop: the node goes from the fringe to a hand -/
theorem pop_lt {nbVars : Nat} {s : Sys S} {i : Nat} {w : WSt S} {N : SubP S} {rest : List (SubP S)}
    (hw : s.ws[i]? = some w) (hop : w.openNode = none) (hp' : PopMax s.crit.base.fringe N rest)
    (c' : ParCrit S) (w' : WSt S) (hfr : c'.base.fringe = rest) (hop' : w'.openNode = some N) :
    LexLT (nbVars + 5) (mu nbVars { crit := c', ws := s.ws.set i w' }) (mu nbVars s) := by
  refine lt_of_F (fun e => ?_) ?_
  · show cnt _ c'.base.fringe e + (s.ws.set i w').countP _ = cnt _ s.crit.base.fringe e + s.ws.countP _
    rw [hfr, cnt_perm _ hp'.1 e, cnt_cons, countP_set_in _ w' hw (hp_of_none hop) (hp_of_open hop')]
    omega
  · show c'.base.fringe.length < s.crit.base.fringe.length
    rw [hfr, hp'.1.length_eq]; simp

theorem step_measure_lt {nbVars : Nat} {dedup : Bool} {okR okX : SubP S → Int → DDOut S → Prop} {s t : Sys S}
    (h : Step dedup okR okX s t) (hprog : ProgOk nbVars s) : LexLT (nbVars + 5) (mu nbVars t) (mu nbVars s) := by
  cases h with
  | gwAborted i hw ha | gwComplete i hw ha ho hf | gwWait i hw ha ho hf | readLbX i n hw =>
    exact local_lt hw _ _ rfl rfl rfl (of_decide_eq_true rfl)
  | gwStarve i N rest c' k hw ha hp' hl =>
    obtain ⟨_, rfl⟩ := popLoop_starve hl
    refine lt_of_V (cdepth (nbVars + 1) N) (by unfold cdepth; omega) ?_ (fun e _ => ?_)
    · show cnt _ [] _ + hand _ s.ws _ < cnt _ s.crit.base.fringe _ + hand _ s.ws _
      rw [cnt_perm _ hp'.1, cnt_cons, cnt_nil, if_pos rfl]; omega
    · show cnt _ [] _ + hand _ s.ws _ ≤ cnt _ s.crit.base.fringe _ + hand _ s.ws _
      rw [cnt_nil]; omega
  | gwItem i N rest c' nn k c'' hw ha hp' hl ht =>
    obtain ⟨rfl, rfl⟩ := popLoop_item hl
    exact pop_lt hw rfl hp' c'' _ (take_spec ht).1 rfl
  | gwCrash i N rest c' nn k hw ha hp' hl ht =>
    obtain ⟨rfl, rfl⟩ := popLoop_item hl
    exact pop_lt hw rfl hp' _ _ rfl rfl
  | readLbR i n hw =>
    split
    · exact close_lt hw _ _ rfl rfl (fun _ _ => Nat.le_refl _)
    · exact local_lt hw _ _ rfl rfl rfl (of_decide_eq_true rfl)
  | compileR i n lb r hw hok | compileX i n lb r hw hok =>
    cases r <;> exact local_lt hw _ _ rfl rfl rfl (of_decide_eq_true rfl)
  | updateR i n lb o hw | updateX i n lb o hw =>
    have hfe : (s.crit.updateBest o).base.fringe = s.crit.base.fringe := (updateBest_fringe s.crit.base o).1
    split
    · exact close_lt hw _ _ rfl rfl (fun _ _ => by rw [hfe]; exact Nat.le_refl _)
    · exact local_lt hw _ _ hfe rfl rfl (of_decide_eq_true rfl)
  | enqueue i n lb o hw =>
    refine close_lt hw _ _ rfl rfl (fun e he => ?_)
    show cnt _ (s.crit.base.enqueue dedup o.cutset).fringe e ≤ _
    rw [cnt_enqueue_of_ne (nbVars + 1) dedup o.cutset e (fun c hc => ?_)]
    · exact Nat.le_refl _
    · obtain ⟨h1, h2⟩ := hprog i n lb o (Or.inr hw) c hc
      unfold cdepth at he ⊢
      omega
  | abort i n top hw htop =>
    refine close_lt hw _ _ rfl rfl (fun e _ => ?_)
    show cnt _ [] e ≤ _
    rw [cnt_nil]; exact Nat.zero_le _
  | notify i n te c' hw hn =>
    obtain ⟨n1, _, _, _⟩ := notify_spec hn
    have hw' : (s.ws.map WSt.wake)[i]? = some (.fin n te) := by rw [List.getElem?_map, hw]; rfl
    have key : ∀ w' : WSt S, w'.openNode = none → w'.holds = false →
        LexLT (nbVars + 5) (mu nbVars { crit := c', ws := (s.ws.map WSt.wake).set i w' }) (mu nbVars s) := by
      intro w' ho hh
      refine lt_of_H (fun e => ?_) ?_ ?_
      · show cnt _ c'.base.fringe e + ((s.ws.map WSt.wake).set i w').countP _ = cnt _ s.crit.base.fringe e + s.ws.countP _
        rw [n1, countP_set_keep _ w' hw' ((hp_of_none ho).trans (hp_of_none (w := WSt.fin n te) rfl).symm),
          countP_wake _ (fun w => hp_congr (wake_openNode w))]
      · show c'.base.fringe.length = _; rw [n1]; rfl
      · have := countP_set_out WSt.holds w' hw' hh (Q := True) rfl
        rw [countP_wake _ wake_holds, if_pos trivial] at this
        show ((s.ws.map WSt.wake).set i w').countP _ < s.ws.countP _
        omega
    cases te
    · exact key .idle rfl rfl
    · exact key .done rfl rfl

/-- the step relation of the concrete parallel system, restricted to states whose
    pending cut-sets make progress, is well-founded: any number of threads, any interleaving, both fringes,
    cut-offs and panics included -/
theorem sys_terminates (nbVars : Nat) (dedup : Bool) (okR okX : SubP S → Int → DDOut S → Prop) :
    WellFounded (fun t s : Sys S => Step dedup okR okX s t ∧ ProgOk nbVars s) :=
  Subrelation.wf (r := InvImage (LexLT (nbVars + 5)) (mu nbVars))
    (fun {_ _} h => step_measure_lt h.1 h.2) (InvImage.wf _ (lexLT_wf _))

/-- `ProgOk`, read worker by worker -/
def WProg (nbVars : Nat) : WSt S → Prop
  | .updX n _ o | .enq n _ o => ∀ c ∈ o.cutset, n.depth < c.depth ∧ c.depth ≤ nbVars
  | _ => True

theorem progOk_iff {nbVars : Nat} {s : Sys S} : ProgOk nbVars s ↔ ∀ w ∈ s.ws, WProg nbVars w := by
  constructor
  · intro h w hw
    obtain ⟨j, hj⟩ := List.mem_iff_getElem?.mp hw
    cases w with
    | updX n lb o => exact h j n lb o (Or.inl hj)
    | enq n lb o => exact h j n lb o (Or.inr hj)
    | _ => trivial
  · rintro h j n lb o (hj | hj)
    · exact h _ (List.mem_of_getElem? hj)
    · exact h _ (List.mem_of_getElem? hj)

theorem WProg.wake {nbVars : Nat} {w : WSt S} (h : WProg nbVars w) : WProg nbVars w.wake := by
  cases w <;> exact h

/-- `ProgOk` is an invariant when the relaxed compilations guarantee progress: a worker enters `updX` with a relaxed
    diagram it has just received, and `enq` with the one it held in `updX` -/
theorem step_progOk {nbVars : Nat} {dedup : Bool} {okR okX : SubP S → Int → DDOut S → Prop}
    (hX : ∀ n lb o, okX n lb o → ∀ c ∈ o.cutset, n.depth < c.depth ∧ c.depth ≤ nbVars)
    {s t : Sys S} (h : Step dedup okR okX s t) (hp : ProgOk nbVars s) : ProgOk nbVars t := by
  rw [progOk_iff] at hp ⊢
  cases h with
  | gwStarve i N rest c' k hw ha hp' hl => exact hp
  | readLbR i n hw => exact forall_set_of hp (by split <;> trivial)
  | compileR i n lb r hw hok => exact forall_set_of hp (by cases r <;> trivial)
  | updateR i n lb o hw => exact forall_set_of hp (by split <;> trivial)
  | compileX i n lb r hw hok =>
    refine forall_set_of hp ?_
    cases r with
    | ok o => exact hX n lb o (hok o rfl)
    | cutoff => trivial
  | updateX i n lb o hw =>
    refine forall_set_of hp ?_
    split
    · trivial
    · exact hp (.updX n lb o) (List.mem_of_getElem? hw)
  | notify i n te c' hw hn =>
    refine forall_set_of (fun w hw' => ?_) (by cases te <;> trivial)
    obtain ⟨w0, hw0, rfl⟩ := List.mem_map.mp hw'
    exact (hp w0 hw0).wake
  | _ => exact forall_set_of hp trivial

theorem init_progOk (nbVars : Nat) (P : Problem S) (primal : Option (Int × List Dec)) (dedup : Bool) (U : Nat) :
    ProgOk nbVars (Sys.init P primal dedup U) := by
  rw [progOk_iff]
  intro w hw
  rw [init_idle hw]
  trivial

/-- **no infinite run** from a state whose pending cut-sets make progress, when the relaxed compilations do -/
theorem no_infinite_run {nbVars : Nat} {dedup : Bool} {okR okX : SubP S → Int → DDOut S → Prop}
    (hX : ∀ n lb o, okX n lb o → ∀ c ∈ o.cutset, n.depth < c.depth ∧ c.depth ≤ nbVars)
    (run : Nat → Sys S) (h0 : ProgOk nbVars (run 0)) : ¬ ∀ k, Step dedup okR okX (run k) (run (k + 1)) :=
  no_infinite_run_of (sys_terminates nbVars dedup okR okX) (fun hI hs => step_progOk hX hs hI) (fun hI hs => ⟨hs, hI⟩) run h0

end Ddo.ParSys
