import DdoModel.Proofs.SolverCfg
import DdoModel.Props.C10
import DdoModel.Proofs.BuildChain
/-! # Soundness of dominance pruning (C10, sentence 1): the rule, the solver with the checker enabled, `_filter_with_dominance`

`Dominates D a va b vb` is what `SimpleDominanceChecker` tests: same key and `(a, va)` strictly better than `(b, vb)` (coordinate-wise
`≥`, value included when `use_value`, not the other way round), coordinates read with the dimension of the *presented* state `b` as
`Dominance::partial_cmp` does.  Admissibility is stated in the potential form (value-to-go `H`, `none = −∞`, so feasibility is
included).  `DSolverCfg` is the sequential solver of `Props/C01d.lean` with `dom := some D` and the **shared** store threaded through
every compilation (restricted and relaxed, every sub-problem).

The argument: `_filter_with_dominance` changes the layer in `theta` only; every entry of the new store was there before or is a kept
exact node of the layer; a dropped position holds an exact node dominated by such an entry (`filterDom_spec`).  For a protected family
(`Protected`: exactly reached items on optimal solutions, closed under some decision of every variable, none dominated by an exactly
reached item) a store of exactly reached items never reports a protected item dominated, whatever its history (`query_protected`), so
an inexact or protected node is never dropped (`filterDom_protected`) and the entries stay exactly reached along a compilation (`SInv`,
`compile_storeReach`).  Last section: the abstract branch-and-bound invariant of `Proofs/SeqInv.lean` for a protected family, on both
fringes.

Builds as chains of layer steps: `Proofs/BuildChain.lean`, `Proofs/DomChain.lean`; the exact phase: `Proofs/DomExact.lean`; the relaxed
compilations: `Proofs/DomRelaxFlags.lean`, `DomRelaxInv.lean`, `DomRelax.lean`, `Proofs/DomTruth.lean`; `Proofs/DomSim.lean` derives
`UndomOpt` from the simulation condition.  Property theorems and the counter-example: `Props/C10b.lean`. -/
set_option linter.unusedSectionVars false
set_option linter.unusedVariables false
namespace Ddo.C10
open Ddo Ddo.C01 Ddo.Closed Ddo.Truth
variable {S K : Type} [DecidableEq S] [DecidableEq K]

/-- `(a, va)` dominates `(b, vb)` as `is_dominated_or_insert(b, _, vb)` sees it when `(a, va)` sits in the bucket of `b`'s key -/
def Dominates (D : DomRule S K) (a : S) (va : Int) (b : S) (vb : Int) : Prop :=
  (∃ k, D.key a = some k ∧ D.key b = some k) ∧
  domEnt D.useValue (D.ent (D.dims b) a va) (D.ent (D.dims b) b vb) = true

instance (D : DomRule S K) (a : S) (va : Int) (b : S) (vb : Int) : Decidable (Dominates D a va b vb) := by
  unfold Dominates
  have : Decidable (∃ k, D.key a = some k ∧ D.key b = some k) :=
    match ha : D.key a, hb : D.key b with
    | some k, some k' => if h : k = k' then isTrue ⟨k, rfl, by rw [h]⟩ else isFalse (by
        rintro ⟨k2, h1, h2⟩; cases h1; cases h2; exact h rfl)
    | none, _ => isFalse (by rintro ⟨k2, h1, _⟩; cases h1)
    | some _, none => isFalse (by rintro ⟨k2, _, h2⟩; cases h2)
  exact inferInstance

/-- **admissible rule, potential form**: whenever the rule says that `(a, va)` dominates `(b, vb)` at depth `d` — both reached
    exactly —, the best completion of `b` is matched by one of `a`: `H d b + vb ≤ H d a + va` in `EInt` (`none = −∞`: if `b` has a
    completion then so has `a`, i.e. feasibility is part of the statement). -/
def Admissible (D : DomRule S K) (P : Problem S) (H : Nat → S → EInt) : Prop :=
  ∀ d a va b vb pa pb, Reach P d a va pa → Reach P d b vb pb → Dominates D a va b vb →
    (H d b).addI vb ≤ (H d a).addI va

/-- the same for all pairs of values, reached or not (what one checks on a concrete rule) -/
def AdmissibleAll (D : DomRule S K) (H : Nat → S → EInt) : Prop :=
  ∀ d a va b vb, Dominates D a va b vb → (H d b).addI vb ≤ (H d a).addI va

theorem AdmissibleAll.admissible {D : DomRule S K} {P : Problem S} {H : Nat → S → EInt} (h : AdmissibleAll D H) :
    Admissible D P H := fun d a va b vb _ _ _ _ hd => h d a va b vb hd

/-- a run of `SequentialSolver` with `SimpleDominanceChecker::new(D, nb_variables)`, `EmptyCache`, `NoCutoff` -/
structure DSolverCfg (S K : Type) where
  sv : SolverCfg S
  D : DomRule S K

/-- the `CompilationInput` of `process_one_node` for the node `N` with incumbent `lb` -/
def DSolverCfg.cfg (dv : DSolverCfg S K) (ct : CompType) (N : SubP S) (lb : Int) : Cfg S K :=
  { P := dv.sv.P, R := dv.sv.R, rank := dv.sv.rank, dom := some dv.D, useCache := false, kind := dv.sv.kind, ctype := ct,
    width := dv.sv.width N, root := N, lb := lb }

/-- solver state: the state of `SequentialSolver` and the contents of the (shared) dominance checker -/
structure DSt (S K : Type) where
  st : SeqSt S
  store : DomStore S K

def DSolverCfg.compR (dv : DSolverCfg S K) (store : DomStore S K) (N : SubP S) (lb : Int) :=
  compile (dv.cfg .restricted N lb) (Cache.init dv.sv.P.nbVars) store 0 none
def DSolverCfg.compX (dv : DSolverCfg S K) (store : DomStore S K) (N : SubP S) (lb : Int) :=
  compile (dv.cfg .relaxed N lb) (Cache.init dv.sv.P.nbVars) store 0 none

/-- `process_one_node(N)` from the popped state: the restricted compilation reads and updates the store, the relaxed one (run
    only when the code reaches it) continues from the store the restricted one left.  `none` = a compilation did not end
    normally.  When the restricted diagram is exact the code returns before the relaxed compilation: `process` does not consult its
    second answer then, and the restricted result is passed in its place. -/
def DSolverCfg.turn (dv : DSolverCfg S K) (s : DSt S K) (N : SubP S) : Option (DSt S K) :=
  if N.ub ≤ s.st.bestLb then some s else
  let cR := dv.compR s.store N s.st.bestLb
  if cR.1 ≠ .ok then none else
  let r := toOut cR.2.1
  let st1 := s.st.updateBest r
  if r.isExact then some ⟨(s.st.process dv.sv.dedup N true (.ok r) (.ok r)).1, cR.2.2.2.store⟩ else
  let cX := dv.compX cR.2.2.2.store N st1.bestLb
  if cX.1 ≠ .ok then none else
  some ⟨(s.st.process dv.sv.dedup N true (.ok r) (.ok (toOut cX.2.1))).1, cX.2.2.2.store⟩

/-- the loop of `maximize` (deterministic pop `popMax`), stops when the fringe is empty, the fuel runs out or a compilation
    does not end normally -/
def DSolverCfg.solveLoop (dv : DSolverCfg S K) : Nat → DSt S K → DSt S K
  | 0, s => s
  | n + 1, s =>
    match popMax s.st.fringe with
    | none => s
    | some (N, rest) =>
      let st := popped s.st N rest (cleanLoop dv.sv.P.nbVars s.st.openByLayer dv.sv.P.nbVars s.st.firstActive)
      match dv.turn ⟨st, s.store⟩ N with
      | none => s
      | some s' => dv.solveLoop n s'

/-- `new` + `initialize`: the root on the fringe, an empty checker -/
def DSolverCfg.init (dv : DSolverCfg S K) : DSt S K :=
  ⟨SeqSt.init dv.sv.P none dv.sv.dedup, DomStore.init dv.sv.P.nbVars⟩


def fdStep (D : DomRule S K) (acc : List (Node S) × List Nat × DomStore S K × Bool) (p : Nat) :
    List (Node S) × List Nat × DomStore S K × Bool :=
  match acc.1[p]? with
  | none => acc
  | some n =>
    if n.isExact then
      match DomStore.query D acc.2.2.1 n.state n.depth n.value with
      | none => (acc.1, acc.2.1 ++ [p], acc.2.2.1, false)
      | some (st', dominated, thr) =>
        if dominated then (acc.1.set p { n with theta := thr }, acc.2.1, st', acc.2.2.2)
        else (acc.1, acc.2.1 ++ [p], st', acc.2.2.2)
    else (acc.1, acc.2.1 ++ [p], acc.2.2.1, acc.2.2.2)

def fdSorted (D : DomRule S K) (layer : List (Node S)) (cur : List Nat) : List Nat :=
  sortBy (fun a b => match layer[a]?, layer[b]? with
      | some x, some y => D.cmp x.state x.value y.state y.value == .gt
      | _, _ => false) cur

theorem filterDom_eq (cfg : Cfg S K) (D : DomRule S K) (hD : cfg.dom = some D) (store : DomStore S K)
    (layer : List (Node S)) (cur : List Nat) :
    filterDom cfg store layer cur = (fdSorted D layer cur).foldl (fdStep D) (layer, [], store, true) := by
  unfold filterDom
  rw [hD]
  rfl


/-- every entry of the store sits in the bucket of its key and satisfies `Q` -/
def StoreAll (D : DomRule S K) (Q : Nat → S → Int → Prop) (st : DomStore S K) : Prop :=
  ∀ d k a va, (a, va) ∈ bucketOf st d k → D.key a = some k ∧ Q d a va

theorem StoreAll.mono {D : DomRule S K} {Q Q' : Nat → S → Int → Prop} {st : DomStore S K} (h : StoreAll D Q st)
    (hq : ∀ d a va, Q d a va → Q' d a va) : StoreAll D Q' st :=
  fun d k a va hm => ⟨(h d k a va hm).1, hq _ _ _ (h d k a va hm).2⟩

theorem bucketOf_init (n d : Nat) (k : K) : bucketOf (DomStore.init n : DomStore S K) d k = [] := by
  unfold bucketOf DomStore.init
  simp only
  cases h : (List.replicate (n + 1) ([] : DLayer S K))[d]? with
  | none => rfl
  | some l =>
    have := List.mem_of_getElem? h
    rw [List.mem_replicate] at this
    rw [this.2]; rfl

theorem storeAll_init (D : DomRule S K) (Q : Nat → S → Int → Prop) (n : Nat) : StoreAll D Q (DomStore.init n) := by
  intro d k a va hm
  rw [bucketOf_init] at hm
  cases hm

theorem query_len (D : DomRule S K) (st st' : DomStore S K) (s : S) (d : Nat) (v : Int) (dom : Bool) (thr : Option Int)
    (h : DomStore.query D st s d v = some (st', dom, thr)) : st'.layers.length = st.layers.length := by
  unfold DomStore.query at h
  split at h
  · cases h; rfl
  · split at h
    · cases h
    · split at h
      · cases h; simp
      · cases h; simp

theorem query_ne_none (D : DomRule S K) (st : DomStore S K) (s : S) (d : Nat) (v : Int) (hd : d < st.layers.length) :
    DomStore.query D st s d v ≠ none := by
  unfold DomStore.query
  split
  · simp
  · rw [List.getElem?_eq_getElem hd]
    dsimp only
    split <;> simp

/-- what a query does to the store: an entry of the new store was there before, or — the verdict being "not dominated" — it is
    the presented pair, in the bucket of its key at the queried depth -/
theorem query_mem (D : DomRule S K) (st st' : DomStore S K) (s : S) (d : Nat) (v : Int) (dom : Bool) (thr : Option Int)
    (h : DomStore.query D st s d v = some (st', dom, thr)) (d2 : Nat) (k2 : K) (a : S) (va : Int)
    (hm : (a, va) ∈ bucketOf st' d2 k2) :
    (a, va) ∈ bucketOf st d2 k2 ∨ (dom = false ∧ d2 = d ∧ D.key s = some k2 ∧ a = s ∧ va = v) := by
  cases hk : D.key s with
  | none =>
    rw [query_no_key D st s d v hk] at h
    cases h; exact Or.inl hm
  | some k =>
    obtain ⟨h1, h2⟩ := query_refines_bucket D st st' s d v k dom thr hk h
    by_cases hne : d2 ≠ d ∨ k2 ≠ k
    · rw [h2 d2 k2 hne] at hm; exact Or.inl hm
    · have e1 : d2 = d := Classical.byContradiction (fun h' => hne (Or.inl h'))
      have e2 : k2 = k := Classical.byContradiction (fun h' => hne (Or.inr h'))
      subst e1; subst e2
      have hb : bucketOf st' d2 k2 = (D.bucketQuery s v (bucketOf st d2 k2)).1 := by rw [← h1]
      have hdm : dom = (D.retain s v (bucketOf st d2 k2)).1 := by rw [← D.bucketQuery_dom, ← h1]
      rw [hb, D.bucketQuery_fst, (D.retain_char s v _).2] at hm
      split at hm
      · exact Or.inl (List.mem_filter.mp hm).1
      · next hd =>
        rcases List.mem_append.mp hm with hm | hm
        · exact Or.inl (List.mem_filter.mp hm).1
        · rw [List.mem_singleton, Prod.mk.injEq] at hm
          exact Or.inr ⟨by rw [hdm]; simpa using hd, rfl, rfl, hm.1, hm.2⟩

theorem query_storeAll (D : DomRule S K) (Q : Nat → S → Int → Prop) (st st' : DomStore S K) (s : S) (d : Nat) (v : Int)
    (dom : Bool) (thr : Option Int) (h : DomStore.query D st s d v = some (st', dom, thr))
    (hQ : StoreAll D Q st) (hs : Q d s v) : StoreAll D Q st' := by
  intro d2 k2 a va hm
  rcases query_mem D st st' s d v dom thr h d2 k2 a va hm with hm | ⟨_, rfl, hk, rfl, rfl⟩
  · exact hQ d2 k2 a va hm
  · exact ⟨hk, hs⟩

theorem query_dominated (D : DomRule S K) (Q : Nat → S → Int → Prop) (st st' : DomStore S K) (s : S) (d : Nat) (v : Int)
    (thr : Option Int) (h : DomStore.query D st s d v = some (st', true, thr)) (hQ : StoreAll D Q st) :
    ∃ a va, Q d a va ∧ Dominates D a va s v := by
  cases hk : D.key s with
  | none =>
    rw [query_no_key D st s d v hk] at h
    cases h
  | some k =>
    obtain ⟨h1, _⟩ := query_refines_bucket D st st' s d v k true thr hk h
    have hd : (D.bucketQuery s v (bucketOf st d k)).2.1 = true := by rw [← h1]
    rw [D.bucketQuery_dom, (D.retain_char s v _).1] at hd
    obtain ⟨o, ho, hoq⟩ := List.any_eq_true.mp hd
    obtain ⟨hko, hqo⟩ := hQ d k o.1 o.2 ho
    exact ⟨o.1, o.2, hqo, ⟨k, hko, hk⟩, hoq⟩



def ThEq (ly ly' : List (Node S)) : Prop := ly.map Bounds.stripT = ly'.map Bounds.stripT

theorem ThEq.refl (ly : List (Node S)) : ThEq ly ly := rfl
theorem ThEq.symm {a b : List (Node S)} (h : ThEq a b) : ThEq b a := Eq.symm h
theorem ThEq.trans {a b c : List (Node S)} (h1 : ThEq a b) (h2 : ThEq b c) : ThEq a c := Eq.trans h1 h2
theorem ThEq.length {a b : List (Node S)} (h : ThEq a b) : a.length = b.length := by
  have := congrArg List.length h
  simpa using this
theorem ThEq.get {a b : List (Node S)} (h : ThEq a b) {p : Nat} {n : Node S} (hp : a[p]? = some n) :
    ∃ n0, b[p]? = some n0 ∧ Bounds.stripT n = Bounds.stripT n0 := by
  have := congrArg (fun l => l[p]?) h
  simp only [List.getElem?_map, hp, Option.map_some] at this
  cases hb : b[p]? with
  | none => rw [hb] at this; cases this
  | some n0 => rw [hb] at this; exact ⟨n0, rfl, by simpa using this⟩
theorem ThEq.set {a b : List (Node S)} (h : ThEq a b) {p : Nat} {n n' : Node S} (hp : a[p]? = some n)
    (hn : Bounds.stripT n' = Bounds.stripT n) : ThEq (a.set p n') b := by
  unfold ThEq at *
  rw [List.map_set, hn, ← h]
  exact List.set_self' (by rw [List.getElem?_map, hp]; rfl)

/-- the fields of a node that `_filter_with_dominance` does not touch -/
theorem stripT_all {a b : Node S} (h : Bounds.stripT a = Bounds.stripT b) :
    a.state = b.state ∧ a.value = b.value ∧ a.depth = b.depth ∧ a.isExact = b.isExact ∧ a.inb = b.inb ∧ a.best = b.best := by
  have h1 := congrArg Node.state h
  have h2 := congrArg Node.value h
  have h3 := congrArg Node.depth h
  have h4 := congrArg Node.fExact h
  have h5 := congrArg Node.fRelaxed h
  have h6 := congrArg Node.inb h
  have h7 := congrArg Node.best h
  simp only [Bounds.stripT] at h1 h2 h3 h4 h5 h6 h7
  exact ⟨h1, h2, h3, by unfold Node.isExact; rw [h4, h5], h6, h7⟩

/-- the weak invariant of the fold: `k` bounds the number of positions kept -/
structure FdW (store : DomStore S K) (layer : List (Node S)) (k : Nat)
    (acc : List (Node S) × List Nat × DomStore S K × Bool) : Prop where
  th : ThEq acc.1 layer
  klen : acc.2.1.length ≤ k
  ok : (∀ n ∈ layer, n.isExact = true → n.depth < store.layers.length) →
    acc.2.2.2 = true ∧ acc.2.2.1.layers.length = store.layers.length

theorem fdStep_weak (D : DomRule S K) (store : DomStore S K) (layer : List (Node S)) (k : Nat)
    (acc : List (Node S) × List Nat × DomStore S K × Bool) (p : Nat) (h : FdW store layer k acc) :
    FdW store layer (k + 1) (fdStep D acc p) := by
  obtain ⟨ly, keep, st, ok⟩ := acc
  obtain ⟨hth, hk, hok⟩ := h
  dsimp only at hth hk hok
  unfold fdStep
  dsimp only
  cases hp : ly[p]? with
  | none => exact ⟨hth, Nat.le_succ_of_le hk, hok⟩
  | some n =>
    dsimp only
    have hkA : (keep ++ [p]).length ≤ k + 1 := by rw [List.length_append, List.length_singleton]; exact Nat.succ_le_succ hk
    by_cases hex : n.isExact = true
    · rw [if_pos hex]
      cases hq : DomStore.query D st n.state n.depth n.value with
      | none =>
        dsimp only
        refine ⟨hth, hkA, fun hd => ?_⟩
        exfalso
        obtain ⟨n0, hn0, hs0⟩ := hth.get hp
        obtain ⟨_, _, ed, ee, _, _⟩ := stripT_all hs0
        have := hd n0 (List.mem_of_getElem? hn0) (by rw [← ee]; exact hex)
        exact query_ne_none D st n.state n.depth n.value (by rw [(hok hd).2, ed]; exact this) hq
      | some r =>
        obtain ⟨st', dom, thr⟩ := r
        dsimp only
        have hlen' := query_len D st st' _ _ _ dom thr hq
        cases dom with
        | true =>
          rw [if_pos rfl]
          exact ⟨hth.set hp rfl, Nat.le_succ_of_le hk, fun hd => ⟨(hok hd).1, hlen'.trans (hok hd).2⟩⟩
        | false =>
          rw [if_neg Bool.false_ne_true]
          exact ⟨hth, hkA, fun hd => ⟨(hok hd).1, hlen'.trans (hok hd).2⟩⟩
    · rw [if_neg hex]
      exact ⟨hth, hkA, hok⟩

theorem fdFold_weak (D : DomRule S K) (store : DomStore S K) (layer : List (Node S)) :
    ∀ (l : List Nat) (k : Nat) (acc : List (Node S) × List Nat × DomStore S K × Bool), FdW store layer k acc →
      FdW store layer (k + l.length) (l.foldl (fdStep D) acc) := by
  intro l
  induction l with
  | nil => intro k acc h; simpa using h
  | cons p ps ih =>
    intro k acc h
    rw [List.foldl_cons]
    have := ih (k + 1) _ (fdStep_weak D store layer k acc p h)
    rw [List.length_cons, show k + (ps.length + 1) = k + 1 + ps.length from (Nat.add_right_comm k 1 ps.length).symm]
    exact this

/-- **`_filter_with_dominance`, whatever the store holds**: the layer changes in `theta` only; no more positions are kept than
    were presented; when the exact nodes of the layer have a depth inside the store the checker does not panic and the store
    keeps its number of layers -/
theorem filterDom_weak (cfg : Cfg S K) (D : DomRule S K) (hD : cfg.dom = some D) (store : DomStore S K)
    (layer : List (Node S)) (cur : List Nat) :
    ThEq (filterDom cfg store layer cur).1 layer ∧
    (filterDom cfg store layer cur).2.1.length ≤ cur.length ∧
    ((∀ n ∈ layer, n.isExact = true → n.depth < store.layers.length) →
      (filterDom cfg store layer cur).2.2.2 = true ∧
      (filterDom cfg store layer cur).2.2.1.layers.length = store.layers.length) := by
  rw [filterDom_eq cfg D hD]
  have h := fdFold_weak D store layer (fdSorted D layer cur) 0 (layer, [], store, true)
    ⟨ThEq.refl _, Nat.le_refl _, fun _ => ⟨rfl, rfl⟩⟩
  have hl : (fdSorted D layer cur).length = cur.length := Cover.length_sortBy _ _
  rw [hl, Nat.zero_add] at h
  exact ⟨h.th, h.klen, h.ok⟩

section fold
variable (D : DomRule S K) (Q0 : Nat → S → Int → Prop) (layer : List (Node S))

/-- where an entry of the store may come from during `_filter_with_dominance`: it satisfied `Q0` (it was there before) or it
    is an exact node of the layer that was kept -/
def QK (keep : List Nat) (d : Nat) (a : S) (va : Int) : Prop :=
  Q0 d a va ∨ ∃ q ∈ keep, ∃ m, layer[q]? = some m ∧ m.isExact = true ∧ m.state = a ∧ m.value = va ∧ m.depth = d

theorem QK.mono {keep keep' : List Nat} (h : ∀ q ∈ keep, q ∈ keep') {d : Nat} {a : S} {va : Int}
    (hq : QK Q0 layer keep d a va) : QK Q0 layer keep' d a va := by
  rcases hq with hq | ⟨q, hq, m, h1⟩
  · exact Or.inl hq
  · exact Or.inr ⟨q, h q hq, m, h1⟩

/-- the invariant of the fold (`proc` = the positions processed so far) -/
structure FdInv (store : DomStore S K) (proc : List Nat) (acc : List (Node S) × List Nat × DomStore S K × Bool) : Prop where
  th : ThEq acc.1 layer
  sub : ∀ p ∈ acc.2.1, p ∈ proc
  st : StoreAll D (QK Q0 layer acc.2.1) acc.2.2.1
  ok : acc.2.2.2 = true
  len : acc.2.2.1.layers.length = store.layers.length
  pruned : ∀ p ∈ proc, p ∉ acc.2.1 → ∃ n, layer[p]? = some n ∧ n.isExact = true ∧
    ∃ a va, QK Q0 layer acc.2.1 n.depth a va ∧ Dominates D a va n.state n.value

theorem fdStep_inv (store : DomStore S K) (hdepth : ∀ n ∈ layer, n.isExact = true → n.depth < store.layers.length)
    (proc : List Nat) (acc : List (Node S) × List Nat × DomStore S K × Bool) (p : Nat) (hp : p < layer.length)
    (h : FdInv D Q0 layer store proc acc) : FdInv D Q0 layer store (proc ++ [p]) (fdStep D acc p) := by
  obtain ⟨ly, keep, st, ok⟩ := acc
  obtain ⟨hth, hsub, hst, hok, hlen, hpr⟩ := h
  dsimp only at hth hsub hst hok hlen hpr
  have hp' : p < ly.length := by rw [hth.length]; exact hp
  unfold fdStep
  dsimp only
  rw [List.getElem?_eq_getElem hp']
  dsimp only
  obtain ⟨n0, hn0, hs0⟩ := hth.get (List.getElem?_eq_getElem hp')
  obtain ⟨es, ev, ed, ee, _, _⟩ := stripT_all hs0
  have hmemApp : ∀ q ∈ keep, q ∈ keep ++ [p] := fun q hq => List.mem_append_left _ hq
  have hsubApp : ∀ q ∈ keep ++ [p], q ∈ proc ++ [p] := by
    intro q hq
    rcases List.mem_append.mp hq with hq | hq
    · exact List.mem_append_left _ (hsub q hq)
    · exact List.mem_append_right _ hq
  -- a position processed earlier and not kept stays justified when `keep` grows
  have hprMono : ∀ keep', (∀ q ∈ keep, q ∈ keep') → ∀ q ∈ proc, q ∉ keep' → ∃ n, layer[q]? = some n ∧ n.isExact = true ∧
      ∃ a va, QK Q0 layer keep' n.depth a va ∧ Dominates D a va n.state n.value := by
    intro keep' hk q hq hnq
    obtain ⟨n, h1, h2, a, va, h3, h4⟩ := hpr q hq (fun hqk => hnq (hk q hqk))
    exact ⟨n, h1, h2, a, va, h3.mono Q0 layer hk, h4⟩
  by_cases hex : ly[p].isExact = true
  · rw [if_pos hex]
    have hd : ly[p].depth < st.layers.length := by
      rw [hlen, ed]; exact hdepth n0 (List.mem_of_getElem? hn0) (by rw [← ee]; exact hex)
    cases hq : DomStore.query D st ly[p].state ly[p].depth ly[p].value with
    | none => exact absurd hq (query_ne_none D st _ _ _ hd)
    | some r =>
      obtain ⟨st', dom, thr⟩ := r
      dsimp only
      have hlen' := query_len D st st' _ _ _ dom thr hq
      cases dom with
      | true =>
        rw [if_pos rfl]
        obtain ⟨a, va, hqa, hda⟩ := query_dominated D _ st st' _ _ _ thr hq hst
        refine ⟨hth.set (List.getElem?_eq_getElem hp') rfl, fun q hq => List.mem_append_left _ (hsub q hq), ?_, hok,
          hlen'.trans hlen, ?_⟩
        · -- the presented pair is not inserted when dominated
          intro d2 k2 b vb hm
          rcases query_mem D st st' _ _ _ true thr hq d2 k2 b vb hm with hm | ⟨h, _⟩
          · exact hst d2 k2 b vb hm
          · cases h
        · intro q hq hnq
          rcases List.mem_append.mp hq with hq | hq
          · exact hprMono keep (fun _ h => h) q hq hnq
          · have : q = p := List.mem_singleton.mp hq
            subst this
            refine ⟨n0, hn0, by rw [← ee]; exact hex, a, va, ?_, ?_⟩
            · rw [← ed]; exact hqa
            · rw [← es, ← ev]; exact hda
      | false =>
        rw [if_neg Bool.false_ne_true]
        refine ⟨hth, hsubApp, ?_, hok, hlen'.trans hlen, ?_⟩
        · refine query_storeAll D _ st st' _ _ _ false thr hq (hst.mono (fun d a va h => h.mono Q0 layer hmemApp)) ?_
          exact Or.inr ⟨p, List.mem_append_right _ (List.mem_singleton.mpr rfl), n0, hn0, by rw [← ee]; exact hex, es.symm, ev.symm, ed.symm⟩
        · intro q hq hnq
          rcases List.mem_append.mp hq with hq | hq
          · exact hprMono _ hmemApp q hq hnq
          · exact absurd (List.mem_append_right _ hq) hnq
  · rw [if_neg hex]
    refine ⟨hth, hsubApp, hst.mono (fun d a va h => h.mono Q0 layer hmemApp), hok, hlen, ?_⟩
    intro q hq hnq
    rcases List.mem_append.mp hq with hq | hq
    · exact hprMono _ hmemApp q hq hnq
    · exact absurd (List.mem_append_right _ hq) hnq

theorem fdFold_inv (store : DomStore S K) (hdepth : ∀ n ∈ layer, n.isExact = true → n.depth < store.layers.length) :
    ∀ (l proc : List Nat) (acc : List (Node S) × List Nat × DomStore S K × Bool), (∀ p ∈ l, p < layer.length) →
      FdInv D Q0 layer store proc acc → FdInv D Q0 layer store (proc ++ l) (l.foldl (fdStep D) acc) := by
  intro l
  induction l with
  | nil => intro proc acc _ h; simpa using h
  | cons p ps ih =>
    intro proc acc hl h
    rw [List.foldl_cons]
    have := ih (proc ++ [p]) _ (fun q hq => hl q (List.mem_cons_of_mem _ hq))
      (fdStep_inv D Q0 layer store hdepth proc acc p (hl p List.mem_cons_self) h)
    simpa using this

end fold


/-- **specification of `_filter_with_dominance`** (checker enabled): the layer changes in `theta` only; the positions kept are
    positions of `cur`; the checker never panics when the depths of the exact nodes are in range; every entry of the new store
    sits in the bucket of its key and was in the store before (`Q0`) or is an exact node of the layer that was kept; a position
    that was dropped holds an exact node dominated (`Dominates`) by such an entry. -/
theorem filterDom_spec (cfg : Cfg S K) (D : DomRule S K) (hD : cfg.dom = some D) (Q0 : Nat → S → Int → Prop)
    (store : DomStore S K) (layer : List (Node S)) (cur : List Nat)
    (hcur : ∀ p ∈ cur, p < layer.length)
    (hdepth : ∀ n ∈ layer, n.isExact = true → n.depth < store.layers.length)
    (h0 : StoreAll D Q0 store) :
    ThEq (filterDom cfg store layer cur).1 layer ∧
    (∀ p ∈ (filterDom cfg store layer cur).2.1, p ∈ cur) ∧
    StoreAll D (QK Q0 layer (filterDom cfg store layer cur).2.1) (filterDom cfg store layer cur).2.2.1 ∧
    (filterDom cfg store layer cur).2.2.2 = true ∧
    (filterDom cfg store layer cur).2.2.1.layers.length = store.layers.length ∧
    (∀ p ∈ cur, p ∉ (filterDom cfg store layer cur).2.1 → ∃ n, layer[p]? = some n ∧ n.isExact = true ∧
      ∃ a va, QK Q0 layer (filterDom cfg store layer cur).2.1 n.depth a va ∧ Dominates D a va n.state n.value) := by
  rw [filterDom_eq cfg D hD]
  have hmem : ∀ p, p ∈ fdSorted D layer cur ↔ p ∈ cur := fun p => Cover.mem_sortBy _ _ _
  have hinit : FdInv D Q0 layer store [] (layer, [], store, true) :=
    ⟨ThEq.refl _, (fun p hp => by cases hp), h0.mono (fun d a va h => Or.inl h), rfl, rfl, (fun p hp => by cases hp)⟩
  have h := fdFold_inv D Q0 layer store hdepth (fdSorted D layer cur) [] _ (fun p hp => hcur p ((hmem p).mp hp)) hinit
  rw [List.nil_append] at h
  exact ⟨h.th, fun p hp => (hmem p).mp (h.sub p hp), h.st, h.ok, h.len, fun p hp hn => h.pruned p ((hmem p).mpr hp) hn⟩

/-- **a protected optimal strategy**: a family `Prot depth state value` of exactly reached items that contains the root, lies on
    optimal solutions (`value + H = opt`), is closed under *some* decision of every variable `next_variable` may select, and none
    of whose items is dominated — in the sense of the rule — by an exactly reached item of the same depth. -/
structure Protected (D : DomRule S K) (P : Problem S) (H : Nat → S → EInt) (opt : Int) (Prot : Nat → S → Int → Prop) : Prop where
  root : Prot 0 P.init P.initVal
  reach : ∀ d s v, Prot d s v → ∃ p, Reach P d s v p
  opt : ∀ d s v, Prot d s v → (H d s).addI v = some opt
  step : ∀ d s v L x, Prot d s v → P.nextVar d L = some x → s ∈ L →
    ∃ dec ∈ P.domain x s, Prot (d + 1) (P.trans s ⟨x, dec⟩) (v + P.cost s (P.trans s ⟨x, dec⟩) ⟨x, dec⟩)
  undom : ∀ d s v a va pa, Prot d s v → Reach P d a va pa → ¬ Dominates D a va s v

/-- the rule has an undominated optimal strategy -/
def UndomOpt (D : DomRule S K) (P : Problem S) (H : Nat → S → EInt) (opt : Int) : Prop :=
  ∃ Prot, Protected D P H opt Prot

/-- among the values a state is reached with exactly, a protected one is the largest (both lie on solutions, the protected one
    on an optimal one) -/
theorem Protected.reach_ge {D : DomRule S K} {P : Problem S} {H : Nat → S → EInt} {opt : Int} {Prot : Nat → S → Int → Prop}
    (hPr : Protected D P H opt Prot) (hP : Potential P H) {d : Nat} {s : S} {v v' : Int} {p : List Dec}
    (hp : Prot d s v) (hr : Reach P d s v' p) (hge : v ≤ v') : Prot d s v' := by
  obtain ⟨h0, hH, e⟩ := EInt.addI_eq_some (hPr.opt _ _ _ hp)
  have h2 := reach_le_root hP hr
  rw [hPr.opt _ _ _ hPr.root, hH] at h2
  have h3 : h0 + v' ≤ opt := h2
  exact Int.le_antisymm hge (Int.le_of_add_le_add_left (e ▸ h3)) ▸ hp

/-- every entry of the checker was reached exactly at its depth with its value (and sits in the bucket of its key) -/
def StoreReach (D : DomRule S K) (P : Problem S) (st : DomStore S K) : Prop :=
  StoreAll D (fun d a va => ∃ p, Reach P d a va p) st

theorem storeReach_init (D : DomRule S K) (P : Problem S) (n : Nat) : StoreReach D P (DomStore.init n) :=
  storeAll_init D _ n

/-- **the interleaving-independent core**: whatever the history of the (shared) checker — any order of queries, from any
    compilation or worker —, as long as its entries are exactly reached items, a protected item presented to it is never reported
    dominated, and the entries stay exactly reached -/
theorem query_protected (D : DomRule S K) (P : Problem S) (H : Nat → S → EInt) (opt : Int) (Prot : Nat → S → Int → Prop)
    (hPr : Protected D P H opt Prot) (st st' : DomStore S K) (s : S) (d : Nat) (v : Int) (dom : Bool) (thr : Option Int)
    (hst : StoreReach D P st) (hp : Prot d s v) (h : DomStore.query D st s d v = some (st', dom, thr)) :
    dom = false ∧ StoreReach D P st' := by
  refine ⟨?_, query_storeAll D _ st st' s d v dom thr h hst (hPr.reach d s v hp)⟩
  cases dom with
  | false => rfl
  | true =>
    obtain ⟨a, va, ⟨pa, hra⟩, hdom⟩ := query_dominated D _ st st' s d v thr h hst
    exact absurd hdom (hPr.undom d s v a va pa hp hra)

/-- `_filter_with_dominance` on a layer whose exact nodes are reached exactly, from a store of exactly reached entries:
    the new store has exactly reached entries, and **a node that is inexact or protected is never dropped** -/
theorem filterDom_protected (cfg : Cfg S K) (D : DomRule S K) (hD : cfg.dom = some D)
    (store : DomStore S K) (layer : List (Node S)) (cur : List Nat)
    (hcur : ∀ p ∈ cur, p < layer.length)
    (hdepth : ∀ n ∈ layer, n.isExact = true → n.depth < store.layers.length)
    (hreach : ∀ n ∈ layer, n.isExact = true → ∃ p, Reach cfg.P n.depth n.state n.value p)
    (h0 : StoreReach D cfg.P store) :
    StoreReach D cfg.P (filterDom cfg store layer cur).2.2.1 ∧
    ∀ (H : Nat → S → EInt) (opt : Int) (Prot : Nat → S → Int → Prop), Protected D cfg.P H opt Prot →
      ∀ p ∈ cur, ∀ n, layer[p]? = some n → (n.isExact = true → Prot n.depth n.state n.value) →
        p ∈ (filterDom cfg store layer cur).2.1 := by
  obtain ⟨_, _, hst, _, _, hpr⟩ := filterDom_spec cfg D hD _ store layer cur hcur hdepth h0
  have hq : ∀ d a va, QK (fun d a va => ∃ p, Reach cfg.P d a va p) layer (filterDom cfg store layer cur).2.1 d a va →
      ∃ p, Reach cfg.P d a va p := by
    intro d a va h
    rcases h with h | ⟨q, _, m, hm, hex, rfl, rfl, rfl⟩
    · exact h
    · exact hreach m (List.mem_of_getElem? hm) hex
  refine ⟨hst.mono hq, fun H opt Prot hP p hp n hn hprot => ?_⟩
  apply Classical.byContradiction
  intro hnot
  obtain ⟨n', hn', hex, a, va, hqa, hdom⟩ := hpr p hp hnot
  rw [hn] at hn'; cases hn'
  obtain ⟨pa, hra⟩ := hq _ a va hqa
  exact hP.undom _ _ _ a va pa (hprot hex) hra hdom



/-- what `_filter_with_dominance` is applied to (no cache) -/
def fdOf (cfg : Cfg S K) (dd : DD S K) := filterDom cfg dd.store dd.next (List.range dd.next.length)

/-- one step of the build with the checker on and no cache, on a non-empty layer: a panic of the checker or of
    `_squash_if_needed` is a crash, otherwise the squashed layer is expanded -/
theorem stepLayer_dom (cfg : Cfg S K) (dd : DD S K) (var : Nat) (hne : dd.next ≠ []) (hc : cfg.useCache = false) :
    ((fdOf cfg dd).2.2.2 = false → stepLayer cfg dd var = (none, .crash)) ∧
    ((fdOf cfg dd).2.2.2 = true →
      (squash cfg dd (fdOf cfg dd).1 (fdOf cfg dd).2.1 = none → stepLayer cfg dd var = (none, .crash)) ∧
      ∀ sq, squash cfg dd (fdOf cfg dd).1 (fdOf cfg dd).2.1 = some sq →
        ∃ dd', stepLayer cfg dd var = (some dd', .ok) ∧
          dd'.layers = dd.layers ++ [(expandAll cfg var dd.layers.length sq.1 sq.2.1 sq.2.2.1).1] ∧
          dd'.next = (expandAll cfg var dd.layers.length sq.1 sq.2.1 sq.2.2.1).2.1 ∧
          dd'.depth = dd.depth + 1 ∧ dd'.lel = sq.2.2.2 ∧ dd'.store = (fdOf cfg dd).2.2.1 ∧ dd'.cache = dd.cache) := by
  have h1 : dd.next.isEmpty = false := by
    cases h : dd.next with
    | nil => exact absurd h hne
    | cons _ _ => rfl
  have h2 : (if dd.layers.isEmpty then (dd.next, List.range dd.next.length)
      else filterCache cfg dd.cache dd.next (List.range dd.next.length)) = (dd.next, List.range dd.next.length) := by
    split
    · rfl
    · exact Cover.filterCache_id cfg dd.cache dd.next _ hc (fun p hp => List.mem_range.mp hp)
  unfold fdOf
  refine ⟨fun hok => ?_, fun hok => ⟨fun hsq => ?_, fun sq hsq => ?_⟩⟩
  · unfold stepLayer
    simp only [h1, h2, hok]
    rfl
  · unfold stepLayer
    simp only [h1, h2, hok, hsq]
    rfl
  · unfold stepLayer
    simp only [h1, h2, hok, hsq]
    exact ⟨_, rfl, rfl, rfl, rfl, rfl, rfl, rfl⟩

/-- what the diagram theorems with the checker enabled assume of one compilation -/
structure DomHyp (cfg : Cfg S K) (D : DomRule S K) (H : Nat → S → EInt) (opt : Int) (Prot : Nat → S → Int → Prop) (B : Int) :
    Prop where
  dom : cfg.dom = some D
  cache : cfg.useCache = false
  P : Potential cfg.P H
  R : RubOk cfg.R H
  B : NoClamp cfg.P cfg.R cfg.root.value B
  nv : NvBound cfg.P
  prot : Protected D cfg.P H opt Prot
  lb : InI cfg.lb
  gt : opt > cfg.lb
  optLe : opt ≤ iMax ∨ cfg.lb < iMax

/-- the store part of the invariant: exactly reached entries, `nb_variables + 1` layers -/
structure SInv (cfg : Cfg S K) (D : DomRule S K) (dd : DD S K) : Prop where
  store : StoreReach D cfg.P dd.store
  len : dd.store.layers.length = cfg.P.nbVars + 1

theorem nv_depth_lt {P : Problem S} (hNV : NvBound P) {k : Nat} {L : List S} {x : Nat} (h : P.nextVar k L = some x) :
    k < P.nbVars :=
  hNV.lt h

theorem next_reach {cfg : Cfg S K} {B : Int} {p0 : List Dec} {dd : DD S K} (hM : MInv cfg B p0 dd)
    (hdepth : dd.depth = cfg.root.depth + dd.layers.length) :
    ∀ n ∈ dd.next, n.isExact = true → n.depth = dd.depth ∧ ∃ p, Reach cfg.P n.depth n.state n.value p := by
  intro n hn he
  obtain ⟨q, _, hr, hd, _⟩ := hM.next n hn he
  exact ⟨by rw [hd, hdepth], _, hr⟩

/-- the checker is queried inside its store: the depth of the layer under construction is below `nb_variables` -/
theorem next_depth_lt {cfg : Cfg S K} {B : Int} {p0 : List Dec} {dd : DD S K} {var : Nat} (hNV : NvBound cfg.P)
    (hM : MInv cfg B p0 dd) (hdepth : dd.depth = cfg.root.depth + dd.layers.length)
    (hnv : cfg.P.nextVar dd.depth (dd.next.map (·.state)) = some var)
    (hlenS : dd.store.layers.length = cfg.P.nbVars + 1) :
    ∀ n ∈ dd.next, n.isExact = true → n.depth < dd.store.layers.length := by
  intro n hn he
  rw [hlenS, (next_reach hM hdepth n hn he).1]
  exact Nat.lt_succ_of_lt (nv_depth_lt hNV hnv)

theorem fdOf_facts (cfg : Cfg S K) (D : DomRule S K) (hD : cfg.dom = some D) (hNV : NvBound cfg.P) (B : Int) (p0 : List Dec)
    (dd : DD S K) (var : Nat) (hS : SInv cfg D dd) (hM : MInv cfg B p0 dd)
    (hdepth : dd.depth = cfg.root.depth + dd.layers.length)
    (hnv : cfg.P.nextVar dd.depth (dd.next.map (·.state)) = some var) :
    ThEq (fdOf cfg dd).1 dd.next ∧ (∀ p ∈ (fdOf cfg dd).2.1, p < dd.next.length) ∧
    StoreReach D cfg.P (fdOf cfg dd).2.2.1 ∧ (fdOf cfg dd).2.2.2 = true ∧
    (fdOf cfg dd).2.2.1.layers.length = cfg.P.nbVars + 1 ∧
    ∀ (H : Nat → S → EInt) (opt : Int) (Prot : Nat → S → Int → Prop), Protected D cfg.P H opt Prot →
      ∀ p n, dd.next[p]? = some n → (n.isExact = true → Prot dd.depth n.state n.value) → p ∈ (fdOf cfg dd).2.1 := by
  have hdep := next_depth_lt hNV hM hdepth hnv hS.len
  obtain ⟨h1, h2, _, h4, h5, _⟩ :=
    filterDom_spec cfg D hD _ dd.store dd.next _ (fun p hp => List.mem_range.mp hp) hdep hS.store
  obtain ⟨h6, h7⟩ := filterDom_protected cfg D hD dd.store dd.next _ (fun p hp => List.mem_range.mp hp) hdep
    (fun n hn he => (next_reach hM hdepth n hn he).2) hS.store
  refine ⟨h1, fun p hp => List.mem_range.mp (h2 p hp), h6, h4, h5.trans hS.len, fun H opt Prot hP p n hp hpr => ?_⟩
  refine h7 H opt Prot hP p (List.mem_range.mpr (Cover.lt_of_getElem?_some hp)) n hp (fun he => ?_)
  rw [(next_reach hM hdepth n (List.mem_of_getElem? hp) he).1]; exact hpr he

/-- `stepLayer_dom` read backwards: a step that returns a diagram went through `_squash_if_needed` and the expansion -/
theorem stepLayer_dom_inv (cfg : Cfg S K) (dd : DD S K) (var : Nat) (hne : dd.next ≠ []) (hc : cfg.useCache = false)
    (hok : (fdOf cfg dd).2.2.2 = true) {dd' : DD S K} {oc : Outcome} (hst : stepLayer cfg dd var = (some dd', oc)) :
    ∃ sq, squash cfg dd (fdOf cfg dd).1 (fdOf cfg dd).2.1 = some sq ∧ oc = .ok ∧
      dd'.layers = dd.layers ++ [(expandAll cfg var dd.layers.length sq.1 sq.2.1 sq.2.2.1).1] ∧
      dd'.next = (expandAll cfg var dd.layers.length sq.1 sq.2.1 sq.2.2.1).2.1 ∧
      dd'.depth = dd.depth + 1 ∧ dd'.lel = sq.2.2.2 ∧ dd'.store = (fdOf cfg dd).2.2.1 := by
  obtain ⟨s1, s2⟩ := (stepLayer_dom cfg dd var hne hc).2 hok
  cases hsq : squash cfg dd (fdOf cfg dd).1 (fdOf cfg dd).2.1 with
  | none => rw [s1 hsq] at hst; cases hst
  | some sq =>
    obtain ⟨dd1, e, el, en, ed, ell, es, _⟩ := s2 sq hsq
    rw [e] at hst
    cases hst
    exact ⟨sq, rfl, rfl, el, en, ed, ell, es⟩

theorem stepLayer_sinv (cfg : Cfg S K) (D : DomRule S K) (hD : cfg.dom = some D) (hc : cfg.useCache = false) (hNV : NvBound cfg.P)
    (B : Int) (p0 : List Dec) (dd dd' : DD S K) (var : Nat) (oc : Outcome) (hS : SInv cfg D dd) (hM : MInv cfg B p0 dd)
    (hdepth : dd.depth = cfg.root.depth + dd.layers.length)
    (hnv : cfg.P.nextVar dd.depth (dd.next.map (·.state)) = some var)
    (hst : stepLayer cfg dd var = (some dd', oc)) : SInv cfg D dd' := by
  by_cases hne : dd.next = []
  · rw [stepLayer_empty cfg dd var hne] at hst
    cases hst
    exact ⟨hS.store, hS.len⟩
  · obtain ⟨_, _, f3, f4, f5, _⟩ := fdOf_facts cfg D hD hNV B p0 dd var hS hM hdepth hnv
    obtain ⟨_, _, _, _, _, _, _, es⟩ := stepLayer_dom_inv cfg dd var hne hc f4 hst
    exact ⟨es ▸ f3, es ▸ f5⟩
/-- a node whose potential exceeds the incumbent passes the rough-upper-bound test of `_branch_on` -/
theorem rub_gt {cfg : Cfg S K} {H : Nat → S → EInt} {o : Int} (hR : RubOk cfg.R H) (hlb : InI cfg.lb) (hgt : o > cfg.lb)
    (hle : o ≤ iMax ∨ cfg.lb < iMax) {k : Nat} {s : S} {h v : Int} (hH : H k s = some h) (ho : o ≤ v + h) :
    satAdd (cfg.R.rub s) v > cfg.lb := by
  unfold satAdd
  apply clamp_gt hlb hgt hle
  have := hR k s h hH
  omega

/-- **the checker's entries stay exactly reached** across a whole compilation (any compilation type, any root reached exactly) -/
theorem compile_storeReach (cfg : Cfg S K) (D : DomRule S K) (hD : cfg.dom = some D) (hc : cfg.useCache = false)
    (hNV : NvBound cfg.P) (B : Int) (hB : NoClamp cfg.P cfg.R cfg.root.value B) (p0 : List Dec)
    (cache : Cache S) (store : DomStore S K) (polls : Nat)
    (hroot : Reach cfg.P cfg.root.depth cfg.root.state cfg.root.value p0)
    (hst : StoreReach D cfg.P store) (hlen : store.layers.length = cfg.P.nbVars + 1)
    (hok : (compile cfg cache store polls none).1 = .ok) :
    StoreReach D cfg.P (compile cfg cache store polls none).2.2.2.store ∧
    (compile cfg cache store polls none).2.2.2.store.layers.length = cfg.P.nbVars + 1 := by
  obtain ⟨fin, hT, _, _, _, _, _, es⟩ := compile_ind cfg B p0 hB (J := SInv cfg D) (fun dd var h => ⟨h.store, h.len⟩)
    (fun dd var dd' oc hJ h hst => stepLayer_sinv cfg D hD hc hNV B p0 dd dd' var oc hJ h.M h.depth h.nv hst)
    cache store polls hroot ⟨hst, hlen⟩ hok
  rw [← es]
  exact ⟨hT.store, hT.len⟩

section abstract
variable (On : SubP S → Prop) (opt : Int) (Sol : List Dec → Int → Prop)

/-- `On` reads a sub-problem through `(state, depth, value)` only and is upward closed in the value -/
def OnMono : Prop := ∀ a b : SubP S, a.state = b.state → a.depth = b.depth → a.value ≤ b.value → On a → On b

theorem OnMono.ub {On : SubP S → Prop} (h : OnMono On) (c : SubP S) (u : Int) : On c → On { c with ub := u } :=
  h c { c with ub := u } rfl rfl (Int.le_refl _)

theorem BBInv.of_coalesce (hOn : OnMono On) {L F : List (SubP S)} {lb : Int} {sol : Option (List Dec)}
    (hinv : BBInv On opt Sol L lb sol) (hco : Coalesces F (fun c => c ∈ L)) : BBInv On opt Sol F lb sol := by
  refine ⟨hinv.lbOk, hinv.solOk, fun hgt => ?_⟩
  obtain ⟨c, hc, h1, h2⟩ := hinv.cover hgt
  obtain ⟨s, hs, hd⟩ := hco.2 c hc
  exact ⟨s, hs, hOn c s hd.state.symm hd.depth.symm hd.value h1, Int.le_trans h2 hd.ub⟩

theorem process_dinv (hOn : OnMono On) (dedup : Bool) (st : SeqSt S) (N : SubP S) (r x : DDOut S)
    (hinv : BBInv On opt Sol (N :: st.fringe) st.bestLb st.bestSol)
    (hr : DCompileOk On opt Sol N st.bestLb r)
    (hx : DCompileOk On opt Sol N (st.updateBest r).bestLb x)
    (hcut : x.isExact = false → DCutsetOk On opt N (st.updateBest r).bestLb x) :
    BBInv On opt Sol (st.process dedup N true (.ok r) (.ok x)).1.fringe
      (st.process dedup N true (.ok r) (.ok x)).1.bestLb (st.process dedup N true (.ok r) (.ok x)).1.bestSol := by
  have h := process_dinv_false On opt Sol st N r x hinv hr hx hcut
  cases dedup with
  | false => exact h
  | true =>
    obtain ⟨e1, e2, _, _, _, _, hco⟩ := C01b.process_dedup_rel st N true (.ok r) (.ok x)
    rw [e1, e2]
    exact BBInv.of_coalesce On opt Sol hOn h hco

end abstract

theorem isSol_some {cfg : Cfg S K} {p0 : List Dec} {w : Int} {sol : Option (List Dec)} (h : IsSol cfg p0 w sol) :
    ∃ p, sol = some p := by
  obtain ⟨k, s, q, L, _, _, _, hsol⟩ := h
  exact ⟨_, hsol⟩

end Ddo.C10
