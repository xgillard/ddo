import DdoModel.Proofs.ParDomCompileL
/-! # The parallel solver with the shared dominance checker — compilations that interleave LAYER BY LAYER on the shared store

`LSys`: the shared `Critical` record and the workers (`ParSys.Sys`), **the shared store**, and per worker the diagram its current
compilation has built so far.  `LStep`:
* `sec`: a critical section of `ParSys` (they do not touch the checker);
* `layer`: ONE iteration of the `while let Some(var) = next_variable(..)` loop of the compilation of worker `i`: the
  `_filter_with_dominance` of that layer runs on **the shared store as it is now** (whatever the other workers — and this worker
  in its previous layers — did to it) and leaves it updated; then restrict / relax, expansion;
* `finish`: the loop of worker `i` ends (no next variable, or the layer is empty); the worker goes on with the answer of
  `finalize` (`resultOf`).
Between two `layer` steps of a worker any number of steps of the other workers take place. -/
set_option linter.unusedSectionVars false
set_option linter.unusedVariables false
namespace Ddo.ParDom
open Ddo Ddo.Truth Ddo.Closed Ddo.ParSys Ddo.ParClosed Ddo.C10
open Ddo.C01 (SolverCfg WellFormed toOut SolOf)
variable {S K : Type} [DecidableEq S] [DecidableEq K]

/-- the `CompilationInput` of the compilation a worker is in -/
def cfgOf (dv : DSolverCfg S K) : WSt S → Option (Cfg S K)
  | .compR n lb => some (dv.cfg .restricted n lb)
  | .compX n lb => some (dv.cfg .relaxed n lb)
  | _ => none

/-- where the answer `o` of its compilation sends the worker -/
def afterComp (o : DDOut S) : WSt S → WSt S
  | .compR n lb => .updR n lb o
  | .compX n lb => .updX n lb o
  | w => w

structure LSys (S K : Type) where
  sys : Sys S
  store : DomStore S K
  prog : List (Option (DD S K))

def LSys.init (dv : DSolverCfg S K) (U : Nat) : LSys S K :=
  ⟨Sys.init dv.sv.P none dv.sv.dedup U, DomStore.init dv.sv.P.nbVars, List.replicate U none⟩

/-- the diagram under construction (`none`: the compilation has not started: `initDD`; its `store` field is never read, every
    layer takes the shared store) -/
def ddOf (dv : DSolverCfg S K) (cfg : Cfg S K) (pr : Option (DD S K)) : DD S K :=
  pr.getD (initDD cfg (Cache.init dv.sv.P.nbVars) (DomStore.init dv.sv.P.nbVars) 0)

/-- the loop of the compilation ends at `dd` (the shared store being `st`) with the diagram `fin` -/
def LoopEnd (cfg : Cfg S K) (st : DomStore S K) (dd fin : DD S K) : Prop :=
  (cfg.P.nextVar dd.depth (dd.next.map (·.state)) = none ∧
    fin = { dd with log := Call.nextVar dd.depth (dd.next.map (·.state)) none :: dd.log }) ∨
  (∃ var, cfg.P.nextVar dd.depth (dd.next.map (·.state)) = some var ∧
    stepLayer cfg (tick (withStore dd st) var) var = (some fin, .cutoff))

inductive LStep (dv : DSolverCfg S K) : LSys S K → LSys S K → Prop
  | sec (s : LSys S K) (t : Sys S)
      (h : Step dv.sv.dedup (fun _ _ _ => False) (fun _ _ _ => False) s.sys t) (hna : NoAbortS t) :
      LStep dv s ⟨t, s.store, s.prog⟩
  | layer (s : LSys S K) (i : Nat) (w : WSt S) (cfg : Cfg S K) (pr : Option (DD S K)) (var : Nat) (dd' : DD S K)
      (hw : s.sys.ws[i]? = some w) (hc : cfgOf dv w = some cfg) (hp : s.prog[i]? = some pr)
      (hnv : cfg.P.nextVar (ddOf dv cfg pr).depth ((ddOf dv cfg pr).next.map (·.state)) = some var)
      (hst : stepLayer cfg (tick (withStore (ddOf dv cfg pr) s.store) var) var = (some dd', .ok)) :
      LStep dv s ⟨s.sys, dd'.store, s.prog.set i (some dd')⟩
  | finish (s : LSys S K) (i : Nat) (w : WSt S) (cfg : Cfg S K) (pr : Option (DD S K)) (fin : DD S K)
      (hw : s.sys.ws[i]? = some w) (hc : cfgOf dv w = some cfg) (hp : s.prog[i]? = some pr)
      (hfin : LoopEnd cfg s.store (ddOf dv cfg pr) fin) :
      LStep dv s ⟨{ crit := s.sys.crit, ws := s.sys.ws.set i (afterComp (toOut (resultOf cfg fin)) w) }, s.store,
        s.prog.set i none⟩

inductive LRun (dv : DSolverCfg S K) : LSys S K → LSys S K → Prop
  | refl (s : LSys S K) : LRun dv s s
  | tail {s t u : LSys S K} : LRun dv s t → LStep dv t u → LRun dv s u

end Ddo.ParDom
