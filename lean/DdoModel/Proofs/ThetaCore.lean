import DdoModel.Proofs.BuildInv
import DdoModel.Proofs.ThetaPass
/-! Stage 1 of C09, the core argument: soundness of the thresholds on a finished diagram, from the facts `FFJ` that the
    top-down invariant and the analyses of the bottom-up passes (`ThetaPass.lean`, `CutsetPasses.lean`,
    `computeLocalBounds_good`) provide.  It is made once, for a compilation with cache and dominance checker; the compilation
    without the checker (`FF`, `np_all`, `gt_all_s`) is the instance "no dropped position, level `bk`".

For a node `n` of layer `l` that is not deleted, an *abstract value* `w` (the value with which some sub-problem reaches the
state of `n`; `w` may exceed `n.value`) below the final threshold of `n`, and the potential `h` of the state of `n`:
* `w + h ≤ O` for the level `O ≥ bk` everything is read at (cannot improve the incumbent; with the checker on, `O = opt - 1` and
  `bk = bkOf lb bestExact < opt`: the thresholds are still the ones the code computes with the real `bk`, `ownTheta bk`), or
* `HandedS`: a node `c` of the cut-set — `n` itself or strictly deeper —, flagged `cutset`, marked, whose rough bound and local
  bound both beat `bk` (so that it is handed out with `theta = value`), with `w + h ≤ c.value + H c`, or
* `CutBy`: a node pruned by the cache at a layer `≥ l` (`> l` when `n` itself was not pruned) whose cached threshold `t`
  admits a value `v' ≤ t` with `w + h ≤ v' + H`, or
* (only for the nodes that are not `above`) a potential-preserving path from `n` to the terminal layer.
Downward induction on the layers (`gtj_all_s`); `NPJ` is the same statement for `w = n.value`, without thresholds, at any level
`O1 ≥ lb`.

The positions `Drop l p` are those dropped by `_filter_with_dominance`.  Such a node is neither deleted nor pruned by the cache,
sits strictly above the terminal layer, was never expanded (no `StepF` is asked of it), its `rub` field still bounds every
potential of its state (it is `iMax`), the item `(state, value)` itself does not beat `O`, and the threshold `θp` it enters
`ownTheta` with is `some tp` where no value `≤ tp` beats `O` (`DomOkAt`).  The potential `H` is only asked `RubOk`, and at the
terminal layer a *defined* potential is `0`. -/
set_option linter.unusedSectionVars false
set_option linter.unusedVariables false
namespace Ddo.Theta
open Ddo Ddo.Bounds
variable {S K : Type} [DecidableEq S] [DecidableEq K]

/-- the bound on the magnitudes: `isize::MAX` (the value of `iMax`) -/
def big : Int := 9223372036854775807

theorem satSub_chain {w b r h : Int} (hw : -big ≤ w) (h1 : w ≤ satSub b r) (h2 : h ≤ r) : w + h ≤ b := by
  unfold satSub clamp at h1
  simp only [iMin, iMax, big] at *
  omega

theorem rub_fail {r v lb h : Int} (h1 : ¬ satAdd r v > lb) (hlb : lb < iMax) (h2 : h ≤ r) : v + h ≤ lb := by
  unfold satAdd clamp at h1
  simp only [iMin, iMax] at *
  omega

theorem satAdd_comm (a b : Int) : satAdd a b = satAdd b a := by
  unfold satAdd; rw [Int.add_comm]

/-- a cut-set node that is handed out (with `theta = value`) carries the potential `x` -/
def Handed (cfg : Cfg S K) (H : Nat → S → EInt) (L3 : List (List (Node S))) (nE : Nat) (bk : Int) (l : Nat) (x : Int) : Prop :=
  ∃ (l' p' : Nat) (c3 : Node S) (hc : Int), l ≤ l' ∧ getNode L3 l' p' = some c3 ∧ c3.deleted = false ∧ c3.cutset = true ∧
    c3.marked = true ∧ satAdd c3.value c3.vbot > bk ∧ satAdd c3.value c3.rub > bk ∧
    (∃ pt tn, getNode L3 nE pt = some tn) ∧
    H (cfg.root.depth + l') c3.state = some hc ∧ x ≤ c3.value + hc

/-- a node pruned by the cache carries the potential `x` -/
def CutBy (cfg : Cfg S K) (H : Nat → S → EInt) (B M : Int) (cache : Cache S) (L3 : List (List (Node S)))
    (l p : Nat) (x : Int) : Prop :=
  ∃ (l' p' : Nat) (m3 : Node S) (t : Thr) (v' h' : Int), l ≤ l' ∧ (l' = l → p' = p) ∧ getNode L3 l' p' = some m3 ∧
    m3.deleted = false ∧ m3.cache = true ∧ lookup cfg cache m3 = some t ∧ v' ≤ t.value ∧
    Cover.Within (M + Cover.Bd B l') v' ∧ H (cfg.root.depth + l') m3.state = some h' ∧ x ≤ v' + h'

/-- `Handed`, with the position: the cut-set node that is handed out is the node `(l, p)` itself or sits strictly deeper -/
def HandedS (cfg : Cfg S K) (H : Nat → S → EInt) (L3 : List (List (Node S))) (nE : Nat) (bk : Int) (l p : Nat) (x : Int) :
    Prop :=
  ∃ (l' p' : Nat) (c3 : Node S) (hc : Int), l ≤ l' ∧ (l' = l → p' = p) ∧ getNode L3 l' p' = some c3 ∧ c3.deleted = false ∧
    c3.cutset = true ∧ c3.marked = true ∧ satAdd c3.value c3.vbot > bk ∧ satAdd c3.value c3.rub > bk ∧
    (∃ pt tn, getNode L3 nE pt = some tn) ∧
    H (cfg.root.depth + l') c3.state = some hc ∧ x ≤ c3.value + hc

theorem Handed.mono {cfg : Cfg S K} {H : Nat → S → EInt} {L3 : List (List (Node S))} {nE : Nat} {bk : Int} {l l0 : Nat} {x x0 : Int}
    (h : Handed cfg H L3 nE bk l x) (hl : l0 ≤ l) (hx : x0 ≤ x) : Handed cfg H L3 nE bk l0 x0 := by
  obtain ⟨l', p', c3, hc, a1, a2, a3, a4, a5, a6, a7, a8, a9, a10⟩ := h
  exact ⟨l', p', c3, hc, Nat.le_trans hl a1, a2, a3, a4, a5, a6, a7, a8, a9, Int.le_trans hx a10⟩

/-- a witness one layer down is strictly deeper, so the clause about the same layer holds whatever the position -/
theorem deeper_ne {l l' : Nat} (h : l + 1 ≤ l') {P : Prop} (e : l' = l) : P :=
  absurd (e ▸ h) (Nat.not_succ_le_self l)

theorem HandedS.up {cfg : Cfg S K} {H : Nat → S → EInt} {L3 : List (List (Node S))} {nE : Nat} {bk : Int}
    {l p p0 : Nat} {x x0 : Int} (h : HandedS cfg H L3 nE bk (l + 1) p x) (hx : x0 ≤ x) :
    HandedS cfg H L3 nE bk l p0 x0 := by
  obtain ⟨l', p', c3, hc, a1, a2, a3, a4, a5, a6, a7, a8, a9, a10, a11⟩ := h
  exact ⟨l', p', c3, hc, Nat.le_of_succ_le a1, deeper_ne a1, a3, a4, a5, a6, a7, a8, a9, a10, Int.le_trans hx a11⟩

theorem HandedS.mono {cfg : Cfg S K} {H : Nat → S → EInt} {L3 : List (List (Node S))} {nE : Nat} {bk : Int}
    {l p : Nat} {x x0 : Int} (h : HandedS cfg H L3 nE bk l p x) (hx : x0 ≤ x) : HandedS cfg H L3 nE bk l p x0 := by
  obtain ⟨l', p', c3, hc, a1, a2, a3, a4, a5, a6, a7, a8, a9, a10, a11⟩ := h
  exact ⟨l', p', c3, hc, a1, a2, a3, a4, a5, a6, a7, a8, a9, a10, Int.le_trans hx a11⟩

theorem HandedS.handed {cfg : Cfg S K} {H : Nat → S → EInt} {L3 : List (List (Node S))} {nE : Nat} {bk : Int}
    {l p : Nat} {x : Int} (h : HandedS cfg H L3 nE bk l p x) : Handed cfg H L3 nE bk l x := by
  obtain ⟨l', p', c3, hc, a1, a2, a3, a4, a5, a6, a7, a8, a9, a10, a11⟩ := h
  exact ⟨l', p', c3, hc, a1, a3, a4, a5, a6, a7, a8, a9, a10, a11⟩

theorem CutBy.up {cfg : Cfg S K} {H : Nat → S → EInt} {B M : Int} {cache : Cache S} {L3 : List (List (Node S))}
    {l p p0 : Nat} {x x0 : Int} (h : CutBy cfg H B M cache L3 (l + 1) p x) (hx : x0 ≤ x) :
    CutBy cfg H B M cache L3 l p0 x0 := by
  obtain ⟨l', p', m3, t, v', h', a1, a2, a3, a4, a5, a6, a7, a8, a9, a10⟩ := h
  exact ⟨l', p', m3, t, v', h', Nat.le_of_succ_le a1, deeper_ne a1, a3, a4, a5, a6, a7, a8, a9, Int.le_trans hx a10⟩

theorem CutBy.mono {cfg : Cfg S K} {H : Nat → S → EInt} {B M : Int} {cache : Cache S} {L3 : List (List (Node S))}
    {l p : Nat} {x x0 : Int} (h : CutBy cfg H B M cache L3 l p x) (hx : x0 ≤ x) : CutBy cfg H B M cache L3 l p x0 := by
  obtain ⟨l', p', m3, t, v', h', a1, a2, a3, a4, a5, a6, a7, a8, a9, a10⟩ := h
  exact ⟨l', p', m3, t, v', h', a1, a2, a3, a4, a5, a6, a7, a8, a9, Int.le_trans hx a10⟩

def StepF (cfg : Cfg S K) (H : Nat → S → EInt) (B : Int) (L3 : List (List (Node S))) (l p : Nat) (n3 : Node S) : Prop :=
  satAdd (cfg.R.rub n3.state) n3.value > cfg.lb → ∀ h, H (cfg.root.depth + l) n3.state = some h →
    ∃ (p' : Nat) (m3 : Node S) (e : Arc) (h' : Int), getNode L3 (l + 1) p' = some m3 ∧ m3.deleted = false ∧ e ∈ m3.inb ∧
      e.fromL = l ∧ e.fromP = p ∧ Cover.Within B e.cost ∧ H (cfg.root.depth + l + 1) m3.state = some h' ∧
      h ≤ e.cost + h' ∧ n3.value + e.cost ≤ m3.value


end Ddo.Theta

namespace Ddo.C10d
open Ddo Ddo.Theta Ddo.Bounds
variable {S K : Type} [DecidableEq S] [DecidableEq K]

/-- the facts about the finished diagram `L3` with both filters (`nE` = index of the terminal layer, if any; `bk` = the incumbent
    the thresholds are computed with; `O ≥ bk` the level everything is read at; `Drop` = positions dropped by the checker) -/
structure FFJ (cfg : Cfg S K) (H : Nat → S → EInt) (B : Int) (cache : Cache S) (L3 : List (List (Node S))) (nE : Nat)
    (bk O : Int) (Drop : Nat → Nat → Prop) : Prop where
  lmax : ∀ (l p : Nat) (n3 : Node S), getNode L3 l p = some n3 → l ≤ nE
  rng : ∀ (l p : Nat) (n3 : Node S), getNode L3 l p = some n3 → Cover.Within (Cover.Bd B l) n3.value
  cacheN : ∀ (l p : Nat) (n3 : Node S), getNode L3 l p = some n3 → n3.deleted = false → n3.cache = true →
    l < nE ∧ ∃ (t : Thr) (tf : Int), lookup cfg cache n3 = some t ∧ n3.value ≤ t.value ∧ n3.theta = some tf ∧ tf ≤ t.value
  liveN : ∀ (l p : Nat) (n3 : Node S), getNode L3 l p = some n3 → n3.deleted = false → n3.cache = false → l < nE → ¬ Drop l p →
    n3.rub = cfg.R.rub n3.state ∧ StepF cfg H B L3 l p n3
  dropN : ∀ (l p : Nat) (n3 : Node S), getNode L3 l p = some n3 → Drop l p →
    n3.deleted = false ∧ n3.cache = false ∧ l < nE ∧
    (∀ h, H (cfg.root.depth + l) n3.state = some h → h ≤ n3.rub) ∧
    (∀ h, H (cfg.root.depth + l) n3.state = some h → n3.value + h ≤ O)
  termN : ∀ (p : Nat) (n3 : Node S), getNode L3 nE p = some n3 →
    n3.deleted = false ∧ n3.cache = false ∧ n3.cutset = false ∧ n3.rub = iMax ∧
    (∀ h, H (cfg.root.depth + nE) n3.state = some h → h = 0) ∧ L3.length = nE + 1
  theta : ∀ (l p : Nat) (n3 : Node S), getNode L3 l p = some n3 → n3.deleted = false →
    ∃ θp : Option Int, n3.theta = ownTheta bk n3 θp ∧
      (∀ (p' : Nat) (m3 : Node S) (t : Int) (e : Arc), getNode L3 (l + 1) p' = some m3 → m3.deleted = false →
        m3.theta = some t → e ∈ m3.inb → e.fromP = p → ∃ tp, θp = some tp ∧ tp ≤ satSub t e.cost) ∧
      (l = nE → n3.above = true → ∃ tp, θp = some tp ∧ tp ≤ bk) ∧
      (Drop l p → ∃ tp, θp = some tp ∧ DomOkAt H O (cfg.root.depth + l) n3.state tp)
  flagStep : ∀ (l p p' : Nat) (n3 m3 : Node S) (e : Arc), getNode L3 l p = some n3 → n3.above = true → n3.cutset = false →
    getNode L3 (l + 1) p' = some m3 → e ∈ m3.inb → e.fromL = l → e.fromP = p → m3.above = true
  good : ∀ (l0 p0 : Nat) (c3 : Node S), getNode L3 l0 p0 = some c3 → c3.cutset = true →
    ∀ (l p : Nat) (h : Int) (r : Nat), Path L3 H cfg.root.depth B l p h r →
      ∃ n3, getNode L3 l p = some n3 ∧ n3.marked = true ∧ h ≤ n3.vbot

structure HypFJ (cfg : Cfg S K) (H : Nat → S → EInt) (B M : Int) (nE : Nat) (bk O : Int) : Prop where
  R : RubOk cfg.R H
  lbMax : cfg.lb < iMax
  lbBk : cfg.lb ≤ bk
  bkO : bk ≤ O
  B0 : 0 ≤ B
  M0 : 0 ≤ M
  small : M + Cover.Bd B nE ≤ big

def NPJ (cfg : Cfg S K) (H : Nat → S → EInt) (B M : Int) (cache : Cache S) (L3 : List (List (Node S))) (nE : Nat) (O : Int)
    (l p : Nat) (n3 : Node S) : Prop :=
  ∀ h, H (cfg.root.depth + l) n3.state = some h →
    n3.value + h ≤ O ∨ CutBy cfg H B M cache L3 l p (n3.value + h) ∨ Path L3 H cfg.root.depth B l p h (nE - l)

def GTJS (cfg : Cfg S K) (H : Nat → S → EInt) (B M : Int) (cache : Cache S) (L3 : List (List (Node S))) (nE : Nat) (bk O : Int)
    (l p : Nat) (n3 : Node S) : Prop :=
  ∀ w, Cover.Within (M + Cover.Bd B l) w → (∀ t, n3.theta = some t → w ≤ t) →
    ∀ h, H (cfg.root.depth + l) n3.state = some h →
      w + h ≤ O ∨ HandedS cfg H L3 nE bk l p (w + h) ∨ CutBy cfg H B M cache L3 l p (w + h) ∨
      (n3.above = false ∧ Path L3 H cfg.root.depth B l p h (nE - l))

def GTJ (cfg : Cfg S K) (H : Nat → S → EInt) (B M : Int) (cache : Cache S) (L3 : List (List (Node S))) (nE : Nat) (bk O : Int)
    (l p : Nat) (n3 : Node S) : Prop :=
  ∀ w, Cover.Within (M + Cover.Bd B l) w → (∀ t, n3.theta = some t → w ≤ t) →
    ∀ h, H (cfg.root.depth + l) n3.state = some h →
      w + h ≤ O ∨ Handed cfg H L3 nE bk l (w + h) ∨ CutBy cfg H B M cache L3 l p (w + h) ∨
      (n3.above = false ∧ Path L3 H cfg.root.depth B l p h (nE - l))

section
variable {cfg : Cfg S K} {H : Nat → S → EInt} {B M : Int} {cache : Cache S} {L3 : List (List (Node S))} {nE : Nat} {bk O : Int}
  {Drop : Nat → Nat → Prop}

theorem bd_leJ (hy : HypFJ cfg H B M nE bk O) {l : Nat} (hl : l ≤ nE) : M + Cover.Bd B l ≤ big :=
  Int.le_trans (Int.add_le_add_left (Cover.Bd_mono hy.B0 hl) M) hy.small

theorem bd_stepJ (hy : HypFJ cfg H B M nE bk O) {l : Nat} (hl : l < nE) :
    M + Cover.Bd B l + B = M + Cover.Bd B (l + 1) ∧ M + Cover.Bd B (l + 1) ≤ big ∧ M + Cover.Bd B l ≤ big :=
  ⟨by rw [Cover.Bd_succ, Int.add_assoc], bd_leJ hy hl, bd_leJ hy (Nat.le_of_lt hl)⟩

theorem sub_eq_sub_succ {l nE : Nat} (h : l < nE) : nE - l = (nE - (l + 1)) + 1 := by omega

theorem within_ge {X w : Int} (h : Cover.Within X w) (hX : X ≤ big) : -big ≤ w := by
  unfold Cover.Within at h; omega

theorem within_add {X B w c : Int} (hw : Cover.Within X w) (hc : Cover.Within B c) : Cover.Within (X + B) (w + c) := by
  unfold Cover.Within at *; omega

theorem arc_le {v h c h' m : Int} (hle : h ≤ c + h') (hval : v + c ≤ m) : v + h ≤ m + h' := by omega

/-- **nodes without thresholds**, at any level `O1 ≥ lb` that the dropped nodes do not beat -/
theorem npj_all_at (hf : FFJ cfg H B cache L3 nE bk O Drop) (hy : HypFJ cfg H B M nE bk O) {O1 : Int} (hlb1 : cfg.lb ≤ O1)
    (hdrop1 : ∀ (l p : Nat) (n3 : Node S), getNode L3 l p = some n3 → Drop l p →
      ∀ h, H (cfg.root.depth + l) n3.state = some h → n3.value + h ≤ O1) :
    ∀ (d l p : Nat) (n3 : Node S), l + d = nE → getNode L3 l p = some n3 → n3.deleted = false →
      NPJ cfg H B M cache L3 nE O1 l p n3 := by
  intro d
  induction d with
  | zero =>
    intro l p n3 hl hn hdel h hH
    have hl' : l = nE := hl
    subst hl'
    obtain ⟨_, _, _, _, hH0, hlen⟩ := hf.termN p n3 hn
    have h0 := hH0 h hH
    subst h0
    right; right
    rw [Nat.sub_self]
    exact .term l p n3 hlen.symm hn hH
  | succ d ih =>
    intro l p n3 hl hn hdel h hH
    have hlt : l < nE := hl ▸ Nat.lt_add_of_pos_right (Nat.succ_pos d)
    have hrng := hf.rng l p n3 hn
    by_cases hc : n3.cache = true
    · obtain ⟨_, t, tf, ht, hvt, _, _⟩ := hf.cacheN l p n3 hn hdel hc
      right; left
      exact ⟨l, p, n3, t, n3.value, h, Nat.le_refl _, fun _ => rfl, hn, hdel, hc, ht, hvt,
        hrng.mono (Int.le_add_of_nonneg_left hy.M0), hH, Int.le_refl _⟩
    · have hc' : n3.cache = false := by simpa using hc
      by_cases hD : Drop l p
      · left
        exact hdrop1 l p n3 hn hD h hH
      obtain ⟨hrub, hstep⟩ := hf.liveN l p n3 hn hdel hc' hlt hD
      by_cases htest : satAdd (cfg.R.rub n3.state) n3.value > cfg.lb
      · obtain ⟨p', m3, e, h', hm, hmd, he, hfl, hfp, hw, hH', hle, hval⟩ := hstep htest h hH
        have hH'' : H (cfg.root.depth + (l + 1)) m3.state = some h' := by rw [← Nat.add_assoc]; exact hH'
        rcases ih (l + 1) p' m3 ((Nat.add_right_comm l 1 d).trans hl) hm hmd h' hH'' with h1 | h1 | h1
        · exact .inl (Int.le_trans (arc_le hle hval) h1)
        · exact .inr (.inl (h1.up (arc_le hle hval)))
        · right; right
          rw [sub_eq_sub_succ hlt]
          exact .step l p p' n3 m3 e h h' _ hn hm he hfl hfp hw hH hH' hle hval h1
      · exact .inl (Int.le_trans (rub_fail htest hy.lbMax (hy.R _ _ _ hH)) hlb1)

theorem npj_all (hf : FFJ cfg H B cache L3 nE bk O Drop) (hy : HypFJ cfg H B M nE bk O) :
    ∀ (d l p : Nat) (n3 : Node S), l + d = nE → getNode L3 l p = some n3 → n3.deleted = false →
      NPJ cfg H B M cache L3 nE O l p n3 :=
  npj_all_at hf hy (Int.le_trans hy.lbBk hy.bkO) (fun l p n3 hn hD => (hf.dropN l p n3 hn hD).2.2.2.2)

theorem path_termJ {l p : Nat} {h : Int} (hl : l ≤ nE) (hp : Path L3 H cfg.root.depth B l p h (nE - l)) :
    ∃ pt tn, getNode L3 nE pt = some tn := by
  obtain ⟨n, hn, _⟩ := hp.node
  obtain ⟨pt, tn, htn, _⟩ := hp.terminal n hn
  rw [show l + (nE - l) = nE by omega] at htn
  exact ⟨pt, tn, htn⟩

/-- what `w ≤ θ` says of a node that the cache did not prune, by the branch of `ownTheta` that set its threshold `θ` -/
theorem ownTheta_le {bk w : Int} {n : Node S} {θp : Option Int} (hc : n.cache = false)
    (hθ : n.theta = ownTheta bk n θp) (hth : ∀ t, n.theta = some t → w ≤ t) :
    (satAdd n.value n.rub ≤ bk ∧ w ≤ satSub bk n.rub) ∨
    (¬ satAdd n.value n.rub ≤ bk ∧
      ((n.cutset = true ∧ satAdd n.value n.vbot ≤ bk ∧ w ≤ satSub bk n.vbot ∧ ∀ tp, θp = some tp → w ≤ tp) ∨
       (n.cutset = true ∧ ¬ satAdd n.value n.vbot ≤ bk ∧ w ≤ n.value) ∨
       (n.cutset = false ∧ ∀ tp, θp = some tp → w ≤ tp))) := by
  unfold ownTheta at hθ
  rw [hc] at hθ
  simp only [Bool.false_eq_true, if_false] at hθ
  by_cases hr : satAdd n.value n.rub ≤ bk
  · rw [if_pos hr] at hθ
    exact .inl ⟨hr, hth _ hθ⟩
  rw [if_neg hr] at hθ
  refine .inr ⟨hr, ?_⟩
  cases hcut : n.cutset with
  | true =>
    rw [hcut, if_pos rfl] at hθ
    by_cases hv : satAdd n.value n.vbot ≤ bk
    · rw [if_pos hv] at hθ
      have h1 := hth _ hθ
      refine .inl ⟨rfl, hv, by omega, fun tp htp => ?_⟩
      rw [htp, Option.getD_some] at h1
      omega
    · rw [if_neg hv] at hθ
      exact .inr (.inl ⟨rfl, hv, hth _ hθ⟩)
  | false =>
    rw [hcut] at hθ
    simp only [Bool.false_eq_true, if_false] at hθ
    refine .inr (.inr ⟨rfl, fun tp htp => ?_⟩)
    rw [htp] at hθ
    simp only [Option.isNone_some, Bool.and_false, Bool.false_eq_true, if_false] at hθ
    exact hth tp hθ

/-- **nodes with thresholds**, strict form: the cut-set node that is handed out is the node itself or sits strictly deeper.
    A value `w` below the final threshold of a node is below the threshold `θp` the node held when its turn came, hence `w + cost` is
    below the final threshold of every child: the alternatives of the child are alternatives of the node (`child`).  What remains is
    the branch of `ownTheta` that set the threshold (`ownTheta_le`): rough bound `≤ bk` (then `w + h ≤ bk`); cut-set node whose local
    bound is `≤ bk` (a path from it would contradict `good`); cut-set node whose bounds beat `bk` (`θ = value`: the node itself is
    handed out, or `npj_all`); not in the cut-set (`θ = θp`: the children).  A pruned node is its own `CutBy`, a dropped one is
    below the level by `DomOkAt`. -/
theorem gtj_all_s (hf : FFJ cfg H B cache L3 nE bk O Drop) (hy : HypFJ cfg H B M nE bk O) :
    ∀ (d l p : Nat) (n3 : Node S), l + d = nE → getNode L3 l p = some n3 → n3.deleted = false →
      GTJS cfg H B M cache L3 nE bk O l p n3 := by
  have hbkO := hy.bkO
  intro d
  induction d with
  | zero =>
    intro l p n3 hl hn hdel w hw hth h hH
    have hl' : l = nE := hl
    subst hl'
    obtain ⟨_, hc, hcut, hrub, hH0, hlen⟩ := hf.termN p n3 hn
    have h0 := hH0 h hH
    subst h0
    obtain ⟨θp, hθ, _, hterm, _⟩ := hf.theta l p n3 hn hdel
    have hwb : -big ≤ w := within_ge hw (bd_leJ hy (Nat.le_refl l))
    rcases ownTheta_le hc hθ hth with ⟨_, h1⟩ | ⟨_, ⟨hcut', _⟩ | ⟨hcut', _⟩ | ⟨_, hwθ⟩⟩
    · rw [hrub] at h1
      exact .inl (Int.le_trans (satSub_chain hwb h1 (by unfold iMax; decide)) hbkO)
    · rw [hcut] at hcut'; cases hcut'
    · rw [hcut] at hcut'; cases hcut'
    · cases hab : n3.above with
      | true =>
        obtain ⟨tp, htp, hle⟩ := hterm rfl hab
        rw [Int.add_zero]
        exact .inl (Int.le_trans (Int.le_trans (hwθ tp htp) hle) hbkO)
      | false =>
        refine .inr (.inr (.inr ⟨rfl, ?_⟩))
        rw [Nat.sub_self]
        exact .term l p n3 hlen.symm hn hH
  | succ d ih =>
    intro l p n3 hl hn hdel w hw hth h hH
    have hlt : l < nE := hl ▸ Nat.lt_add_of_pos_right (Nat.succ_pos d)
    obtain ⟨hb1, hb2, hb3⟩ := bd_stepJ hy hlt
    have hwb : -big ≤ w := within_ge hw hb3
    by_cases hc : n3.cache = true
    · obtain ⟨_, t, tf, ht, hvt, htf, htfle⟩ := hf.cacheN l p n3 hn hdel hc
      refine .inr (.inr (.inl ?_))
      exact ⟨l, p, n3, t, w, h, Nat.le_refl _, fun _ => rfl, hn, hdel, hc, ht, Int.le_trans (hth tf htf) htfle, hw, hH,
        Int.le_refl _⟩
    have hc' : n3.cache = false := by simpa using hc
    obtain ⟨θp, hθ, hkids, _, hdrop⟩ := hf.theta l p n3 hn hdel
    have hcases := ownTheta_le hc' hθ hth
    by_cases hD : Drop l p
    · -- dropped by the checker: no value below its threshold, nor its own value, is hot
      left
      obtain ⟨_, _, _, hrubD, hown⟩ := hf.dropN l p n3 hn hD
      obtain ⟨tp, htp, hdom⟩ := hdrop hD
      rcases hcases with ⟨_, h1⟩ | ⟨_, ⟨_, _, _, hwθ⟩ | ⟨_, _, hwv⟩ | ⟨_, hwθ⟩⟩
      · exact Int.le_trans (satSub_chain hwb h1 (hrubD h hH)) hbkO
      · exact hdom w (hwθ tp htp) h hH
      · exact Int.le_trans (Int.add_le_add_right hwv h) (hown h hH)
      · exact hdom w (hwθ tp htp) h hH
    obtain ⟨hrub, hstep⟩ := hf.liveN l p n3 hn hdel hc' hlt hD
    rcases hcases with ⟨_, h1⟩ | ⟨hr, hcases⟩
    · rw [hrub] at h1
      exact .inl (Int.le_trans (satSub_chain hwb h1 (hy.R _ _ _ hH)) hbkO)
    have htest : satAdd (cfg.R.rub n3.state) n3.value > cfg.lb := by
      rw [satAdd_comm, ← hrub]
      exact Int.lt_of_le_of_lt hy.lbBk (Int.not_le.1 hr)
    -- the step to a child, for a value under the threshold `θp` handed up by the children
    have child : (∀ tp, θp = some tp → w ≤ tp) →
        w + h ≤ O ∨ HandedS cfg H L3 nE bk l p (w + h) ∨ CutBy cfg H B M cache L3 l p (w + h) ∨
        ∃ (p' : Nat) (m3 : Node S) (e : Arc), getNode L3 (l + 1) p' = some m3 ∧ e ∈ m3.inb ∧ e.fromL = l ∧ e.fromP = p ∧
          m3.above = false ∧ Path L3 H cfg.root.depth B l p h (nE - l) := by
      intro hwθ
      obtain ⟨p', m3, e, h', hm, hmd, he, hfl, hfp, hwc, hH', hle, hval⟩ := hstep htest h hH
      have hH'' : H (cfg.root.depth + (l + 1)) m3.state = some h' := by rw [← Nat.add_assoc]; exact hH'
      have hw' : Cover.Within (M + Cover.Bd B (l + 1)) (w + e.cost) := hb1 ▸ within_add hw hwc
      have hth' : ∀ t, m3.theta = some t → w + e.cost ≤ t := by
        intro t ht
        obtain ⟨tp, htp, hle'⟩ := hkids p' m3 t e hm hmd ht he hfp
        exact satSub_chain hwb (Int.le_trans (hwθ tp htp) hle') (Int.le_refl _)
      have hwh : w + h ≤ w + e.cost + h' := by rw [Int.add_assoc]; exact Int.add_le_add_left hle w
      rcases ih (l + 1) p' m3 ((Nat.add_right_comm l 1 d).trans hl) hm hmd (w + e.cost) hw' hth' h' hH'' with h1 | h1 | h1 | ⟨h1, h2⟩
      · exact .inl (Int.le_trans hwh h1)
      · exact .inr (.inl (h1.up hwh))
      · exact .inr (.inr (.inl (h1.up hwh)))
      · refine .inr (.inr (.inr ⟨p', m3, e, hm, he, hfl, hfp, h1, ?_⟩))
        rw [sub_eq_sub_succ hlt]
        exact .step l p p' n3 m3 e h h' _ hn hm he hfl hfp hwc hH hH' hle hval h2
    rcases hcases with ⟨hcut, hlocb, h2, hwθ⟩ | ⟨hcut, hlocb, hwv⟩ | ⟨hcut, hwθ⟩
    · rcases child hwθ with c1 | c1 | c1 | ⟨p', m3, e, _, _, _, _, _, hpath⟩
      · exact .inl c1
      · exact .inr (.inl c1)
      · exact .inr (.inr (.inl c1))
      · obtain ⟨n3', hn3', _, hvb⟩ := hf.good l p n3 hn hcut l p h _ hpath
        rw [hn] at hn3'; cases hn3'
        exact .inl (Int.le_trans (satSub_chain hwb h2 hvb) hbkO)
    · have hwh : w + h ≤ n3.value + h := Int.add_le_add_right hwv h
      by_cases hT : (∃ pt tn, getNode L3 nE pt = some tn) ∧ n3.marked = true
      · exact .inr (.inl ⟨l, p, n3, h, Nat.le_refl _, fun _ => rfl, hn, hdel, hcut, hT.2, Int.not_le.1 hlocb, Int.not_le.1 hr, hT.1, hH, hwh⟩)
      · rcases npj_all hf hy (d + 1) l p n3 hl hn hdel h hH with c1 | c1 | c1
        · exact .inl (Int.le_trans hwh c1)
        · exact .inr (.inr (.inl (c1.mono hwh)))
        · exfalso
          apply hT
          refine ⟨path_termJ (Nat.le_of_lt hlt) c1, ?_⟩
          obtain ⟨n3', hn3', hmk, _⟩ := hf.good l p n3 hn hcut l p h _ c1
          rw [hn] at hn3'; cases hn3'
          exact hmk
    · rcases child hwθ with c1 | c1 | c1 | ⟨p', m3, e, hm, he, hfl, hfp, hmab, hpath⟩
      · exact .inl c1
      · exact .inr (.inl c1)
      · exact .inr (.inr (.inl c1))
      · refine .inr (.inr (.inr ⟨?_, hpath⟩))
        cases hab : n3.above with
        | false => rfl
        | true =>
          have := hf.flagStep l p p' n3 m3 e hn hab hcut hm he hfl hfp
          rw [hmab] at this; cases this

theorem gtj_all (hf : FFJ cfg H B cache L3 nE bk O Drop) (hy : HypFJ cfg H B M nE bk O) :
    ∀ (d l p : Nat) (n3 : Node S), l + d = nE → getNode L3 l p = some n3 → n3.deleted = false →
      GTJ cfg H B M cache L3 nE bk O l p n3 :=
  fun d l p n3 hl hn hdel w hw hth h hH =>
    (gtj_all_s hf hy d l p n3 hl hn hdel w hw hth h hH).imp_right (Or.imp_left HandedS.handed)

end
end Ddo.C10d

#print axioms Ddo.C10d.npj_all
#print axioms Ddo.C10d.gtj_all

namespace Ddo.Theta
open Ddo Ddo.Bounds Ddo.C10d
variable {S K : Type} [DecidableEq S] [DecidableEq K]

abbrev FF (cfg : Cfg S K) (H : Nat → S → EInt) (B : Int) (cache : Cache S) (L3 : List (List (Node S))) (nE : Nat)
    (bk : Int) : Prop :=
  FFJ cfg H B cache L3 nE bk bk (fun _ _ => False)

structure HypF (cfg : Cfg S K) (H : Nat → S → EInt) (B M : Int) (nE : Nat) (bk : Int) : Prop where
  R : RubOk cfg.R H
  lbMax : cfg.lb < iMax
  lbBk : cfg.lb ≤ bk
  B0 : 0 ≤ B
  M0 : 0 ≤ M
  small : M + Cover.Bd B nE ≤ big

abbrev NP (cfg : Cfg S K) (H : Nat → S → EInt) (B M : Int) (cache : Cache S) (L3 : List (List (Node S))) (nE : Nat)
    (l p : Nat) (n3 : Node S) : Prop :=
  NPJ cfg H B M cache L3 nE cfg.lb l p n3

abbrev GT (cfg : Cfg S K) (H : Nat → S → EInt) (B M : Int) (cache : Cache S) (L3 : List (List (Node S))) (nE : Nat) (bk : Int)
    (l p : Nat) (n3 : Node S) : Prop :=
  GTJ cfg H B M cache L3 nE bk bk l p n3

abbrev GTS (cfg : Cfg S K) (H : Nat → S → EInt) (B M : Int) (cache : Cache S) (L3 : List (List (Node S))) (nE : Nat) (bk : Int)
    (l p : Nat) (n3 : Node S) : Prop :=
  GTJS cfg H B M cache L3 nE bk bk l p n3

section
variable {cfg : Cfg S K} {H : Nat → S → EInt} {B M : Int} {cache : Cache S} {L3 : List (List (Node S))} {nE : Nat} {bk : Int}

theorem HypF.toJ (hy : HypF cfg H B M nE bk) : HypFJ cfg H B M nE bk bk :=
  ⟨hy.R, hy.lbMax, hy.lbBk, Int.le_refl _, hy.B0, hy.M0, hy.small⟩

theorem bd_step (hy : HypF cfg H B M nE bk) {l : Nat} (hl : l < nE) :
    M + Cover.Bd B l + B = M + Cover.Bd B (l + 1) ∧ M + Cover.Bd B (l + 1) ≤ big ∧ M + Cover.Bd B l ≤ big :=
  bd_stepJ hy.toJ hl

theorem bd_le (hy : HypF cfg H B M nE bk) {l : Nat} (hl : l ≤ nE) : M + Cover.Bd B l ≤ big :=
  bd_leJ hy.toJ hl

theorem np_all (hf : FF cfg H B cache L3 nE bk) (hy : HypF cfg H B M nE bk) :
    ∀ (d l p : Nat) (n3 : Node S), l + d = nE → getNode L3 l p = some n3 → n3.deleted = false →
      NP cfg H B M cache L3 nE l p n3 :=
  npj_all_at hf hy.toJ (Int.le_refl _) (fun _ _ _ _ => False.elim)

theorem path_term {l p : Nat} {h : Int} (hl : l ≤ nE) (hp : Path L3 H cfg.root.depth B l p h (nE - l)) :
    ∃ pt tn, getNode L3 nE pt = some tn :=
  path_termJ hl hp

theorem gt_all_s (hf : FF cfg H B cache L3 nE bk) (hy : HypF cfg H B M nE bk) :
    ∀ (d l p : Nat) (n3 : Node S), l + d = nE → getNode L3 l p = some n3 → n3.deleted = false →
      GTS cfg H B M cache L3 nE bk l p n3 :=
  gtj_all_s hf hy.toJ

theorem gt_all (hf : FF cfg H B cache L3 nE bk) (hy : HypF cfg H B M nE bk) :
    ∀ (d l p : Nat) (n3 : Node S), l + d = nE → getNode L3 l p = some n3 → n3.deleted = false →
      GT cfg H B M cache L3 nE bk l p n3 :=
  gtj_all hf hy.toJ

end
end Ddo.Theta
