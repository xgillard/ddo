/-! Abstract model of one iteration of the sequential branch-and-bound (`step`), its coverage invariant `Inv` and the diagram
    contracts of DESIGN §5.3 (potential form).  That `step` preserves `Inv` (`step_inv`) is proved in `Proofs/ParCover.lean`:
    the iteration is a schedule of the parallel skeleton with a single worker. -/
namespace Ddo.AbsSeq

abbrev EInt := Option Int
def ele (a : EInt) (b : Int) : Prop := match a with | none => True | some x => x ≤ b   -- a ≤ b

structure Sub where
  id : Nat
  ub : Int
  depth : Nat
deriving DecidableEq

structure DDOut where
  isExact   : Bool
  bestExact : Option Int
  cutset    : List Sub

structure St where
  fringe : List Sub
  lb     : Int

def upd (lb : Int) (o : Option Int) : Int :=
  match o with
  | some w => max lb w
  | none => lb

theorem upd_ge (lb : Int) (o : Option Int) : lb ≤ upd lb o := by
  cases o <;> simp [upd] <;> omega
theorem upd_ge_some (lb w : Int) : w ≤ upd lb (some w) := by
  simp [upd]; omega

theorem upd_le (lb : Int) (o : Option Int) {b : Int} (hl : lb ≤ b) (ho : ∀ w, o = some w → w ≤ b) : upd lb o ≤ b := by
  cases o with
  | none => exact hl
  | some w => have := ho w rfl; show max lb w ≤ b; omega

/-- what `enqueue_cutset` pushes: the cut-set nodes whose own bound still beats the incumbent (since the repair of
    finding D14 the bound is **not** capped by the bound of the node just processed) -/
def keepCut (lb : Int) (cs : List Sub) : List Sub :=
  cs.filter (fun c => decide (c.ub > lb))

/-- **pre-fix** `enqueue_cutset(ub)`: every cut-set node capped by the bound of the processed node `N` first -/
def capCut (N : Sub) (lb : Int) (cs : List Sub) : List Sub :=
  (cs.map (fun c => { c with ub := min N.ub c.ub })).filter (fun c => decide (c.ub > lb))

/-- `process_one_node` after the pop of `N` (fringe already without `N`) -/
def step (rest : List Sub) (lb : Int) (N : Sub) (r x : DDOut) : St :=
  if N.ub ≤ lb then ⟨rest, lb⟩
  else
    let lb1 := upd lb r.bestExact
    if r.isExact then ⟨rest, lb1⟩
    else
      let lb2 := upd lb1 x.bestExact
      if x.isExact then ⟨rest, lb2⟩
      else ⟨rest ++ keepCut lb2 x.cutset, lb2⟩

section
variable (Phi : Nat → EInt) (opt : Int) (Ach : Int → Prop)

/-- exact reachable node: its potential is a genuine solution value, hence ≤ opt -/
def Good (c : Sub) : Prop := ∀ x, Phi c.id = some x → Ach x ∧ x ≤ opt

/-- both compilations: a reported exact value is achieved; an exact diagram finds the node's optimum if it beats lb -/
def CompileOk (N : Sub) (lb : Int) (o : DDOut) : Prop :=
  (∀ w, o.bestExact = some w → Ach w ∧ w ≤ opt) ∧
  (o.isExact = true → ∀ x, Phi N.id = some x → x > lb → o.bestExact = some x)

/-- cut-set contract of a non-exact relaxed diagram -/
def CutsetOk (N : Sub) (lb : Int) (o : DDOut) : Prop :=
  (∀ c ∈ o.cutset, Good Phi opt Ach c) ∧
  (∀ c ∈ o.cutset, ∀ x, Phi c.id = some x → x > lb → x ≤ c.ub) ∧
  (∀ x, Phi N.id = some x → x > lb → (∀ w, o.bestExact = some w → w < x) →
      ∃ c ∈ o.cutset, ∃ y, Phi c.id = some y ∧ x ≤ y)

structure Inv (fr : List Sub) (lb : Int) : Prop where
  good  : ∀ c ∈ fr, Good Phi opt Ach c
  lbOk  : lb ≤ opt
  cover : opt > lb → ∃ c ∈ fr, Phi c.id = some opt ∧ opt ≤ c.ub

/-- the cut-set of a non-exact relaxed diagram of `N`, compiled with the incumbent `lb`, still covers the optimum under a later
    incumbent `lb'`: if the optimum is below `N` and beats `lb'`, a cut-set node carries it below its bound and is enqueued -/
theorem cutset_cover {N : Sub} {lb lb' : Int} {x : DDOut} (hC : CutsetOk Phi opt Ach N lb x) (hlb : lb ≤ lb')
    (hbest : ∀ w, x.bestExact = some w → w ≤ lb') (hP : Phi N.id = some opt) (hgt : opt > lb') :
    ∃ c ∈ keepCut lb' x.cutset, Phi c.id = some opt ∧ opt ≤ c.ub := by
  obtain ⟨hcg, hcub, hccov⟩ := hC
  have hw : ∀ w, x.bestExact = some w → w < opt := fun w hw => by have := hbest w hw; omega
  obtain ⟨c, hc, y, hy, hxy⟩ := hccov opt hP (by omega) hw
  have hyo := (hcg c hc y hy).2
  have hyeq : y = opt := by omega
  subst hyeq
  have hcu := hcub c hc y hy (by omega)
  exact ⟨c, List.mem_filter.mpr ⟨hc, by simpa using (by omega : c.ub > lb')⟩, hy, hcu⟩
end
end Ddo.AbsSeq
