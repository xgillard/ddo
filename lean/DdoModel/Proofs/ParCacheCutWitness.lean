import DdoModel.Proofs.ParCacheCutInv
import DdoModel.Proofs.ParCacheExecTools
import DdoModel.Proofs.Layered
/-! # FINDING (model level, evaluated): with the cache, `abort_search` can record `best_ub < opt` — and `best_lb > best_ub`

A well-formed layered model (`CutWitness.T`: `Layered.Hand.T` with three entries changed — 7 binary variables, 4 states, optimum 6;
`check T 5 = true`, hence `WellFormed`), **two workers**, plain fringe, last-exact-layer cut-sets, and a schedule of the
deterministic scheduler `nextK` of `Proofs/ParCacheExecTools.lean` (`nextK_step`: it only takes steps of `KPStep`) in which **every
compilation reads the newest content of the shared cache** (`pick = 0` throughout: no stale read is involved).  After 80 steps
(`CutWitness.obs`, evaluated):

* worker 1 holds `(state 0, depth 2, value 1, ub 4)`.  Its bound 4 was computed in a relaxed diagram **cut by the cache** (the
  potential of the node is 6).  Its own restricted compilation has since FOUND the value 6 — the optimum — below it, all its
  thresholds are written, `maybe_update_best` is its next step: the value is not yet published, `best_lb = 2`;
* worker 0 holds `(state 1, depth 2, value 0, ub 3)` and is inside its restricted compilation; the fringe is empty;
  `upper_bounds = [3, 4]`; nobody is inside `get_workload`.

The compilation of worker 0 is cut off there: `abort_search(reason, 3)` records
`best_ub = max(3, upper_bounds = [3, 4], best_lb = 2) = 4 < 6 = opt` (`abort_bound_below_opt`, `cutoff_run`).  Worker 1 then publishes:
`best_lb = 6 > best_ub = 4` (`end_obs`, `complete_cutoff_run`).  Both are reachable states of `KPStepC`; `AbortBoundOk` is false
(`abortBoundOk_false`, `Props/C05e.lean`).

Why the cache-less argument fails: `abort_search` takes `upper_bounds[j]` as a valid bound of everything below the node worker `j`
holds.  Without the cache that is `UbOk`.  With the cache the bound of a cut-set node only accounts for what the diagram that
produced it did not prune (`CompC.ub`: `pot ≤ ub ∨ CacheCov`), and the worker that later compiles the node can find more below
it than that bound (here 6 > 4) — what was pruned was "carried elsewhere", but *elsewhere* can have been closed since by this
very worker's thresholds (they are justified by its pending value), so that the only trace of the optimum is a value in a
worker's hand that `abort_search` does not see. -/
set_option linter.unusedSectionVars false
set_option linter.unusedVariables false
namespace Ddo.ParCache

namespace CutWitness
open Ddo Ddo.C01 Ddo.C09 Ddo.C09.Layered Ddo.ParSys Ddo.Closed

/-- `Layered.Hand.T` with three point mutations (`trl[13]`, `trl[16]`, `cl[54]`) -/
def T : Tab :=
  { n := 7, m := 4,
    trl := [1,0, 1,0, 1,0, 1,0,   2,2, 1,0, 1,1, 1,0,   2,0, 1,1, 2,2, 2,2,   0,2, 1,3, 3,3, 3,3,   0,0, 1,1, 0,2, 0,2,
            0,0, 2,2, 1,3, 1,3,   0,0, 0,0, 0,0, 0,0],
    cl :=  [0,1, 0,1, 0,1, 0,1,   0,0, 0,1, 0,1, 0,1,   0,0, 0,0, 0,0, 0,0,   1,0, 0,0, 0,0, 0,0,   0,0, 0,0, 0,0, 1,0,
            0,0, 0,0, 1,0, 1,0,   0,0, 0,2, 3,3, 1,5],
    rub := 100 }

def ws : List Nat := [1,1,1,1, 1,1,1,1, 3] ++ List.replicate 23 2
def sv : SolverCfg Int := Layered.sv T ws false .lel

theorem checked : check T 5 = true := check_of_rows (by decide +kernel)

theorem wellFormed : WellFormed sv (H T) 5 40 :=
  wellFormed_ofTables T 5 40 ws false .lel checked (by decide) (by decide)

theorem opt6 : (H T 0 sv.P.init).addI sv.P.initVal = some 6 := by
  have h : optimum T = 6 := by decide +kernel
  rw [← h]; exact optimum_eq T

def s0 : KSys Int := KSys.init sv.P sv.dedup 2

/-- worker 0: the root (6 steps up to its restricted compilation); worker 1 enters `get_workload` and parks; worker 0 finishes
    the root (incumbent 2, two cut-set nodes) and processes … (24 steps); worker 1 pops `(0, 2, 1, ub 4)`, compiles it
    (restricted: finds 6) and writes all its thresholds (31 steps); worker 0 acknowledges, pops `(1, 2, 0, ub 3)` and enters its
    restricted compilation (17 steps).  Every compilation reads the newest content of the cache. -/
def sched : List (Nat × Nat) :=
  List.replicate 6 (0, 0) ++ List.replicate 2 (1, 0) ++ List.replicate 24 (0, 0) ++ List.replicate 31 (1, 0) ++
    List.replicate 17 (0, 0)

def cut : KSys Int := runSchedK sv s0 sched

theorem reach : KPRun sv s0 cut := runSchedK_run _ _ _

/-- from the cut-off to the return of `maximize()`: an executable stepper for the handful of `KStepC` steps the tail of the run
    needs (`tailStep_sound`: it only takes steps of `KPStepC`): worker 0 `abort_search`, worker 1 `maybe_update_best`, worker 1
    `notify_node_finished` (its restricted diagram was exact), worker 0 `notify_node_finished` and `break`, worker 1 `get_workload`
    (cleaning loop, then `Aborted`) -/
def tailStep (s : KSysC Int) (i : Nat) : Option (KSysC Int) :=
  match (s.k.ws[i]? : Option (KW Int)) with
  | some (KW.compR n _ _) =>
    if lockFreeB s.k = true ∧ s.k.crit.base.fringe = [] then some ⟨abortK s.k i n none, i :: s.exits⟩ else none
  | some (KW.wrR n _ o _ _ []) =>
    if lockFreeB s.k = true then
      some ⟨{ s.k with crit := s.k.crit.updateBest o, ws := s.k.ws.set i (if o.isExact then .fin n else .readX n) }, s.exits⟩
    else none
  | some (KW.fin n) =>
    if lockFreeB s.k = true then
      match s.k.crit.notifyFinished i n.depth with
      | some c' =>
        if i ∈ s.exits then some ⟨{ s.k with crit := c', ws := (s.k.ws.map KW.wake).set i .done }, s.exits⟩
        else some ⟨{ s.k with crit := c', ws := (s.k.ws.map KW.wake).set i .idle }, s.exits⟩
      | none => none
    else none
  | some KW.idle => if lockFreeB s.k = true then some ⟨{ s.k with ws := s.k.ws.set i .gwC }, s.exits⟩ else none
  | some KW.gwC =>
    if cleanCond sv.P.nbVars s.k.crit then
      match s.k.cache.clearLayer s.k.crit.base.firstActive with
      | some c' => some ⟨{ s.k with crit := bumpFirst s.k.crit, cache := c', log := c' :: s.k.log }, s.exits⟩
      | none => none
    else if s.k.crit.base.abort = true then some ⟨{ s.k with ws := s.k.ws.set i .done }, s.exits⟩
    else none
  | _ => none

theorem tailStep_sound {s t : KSysC Int} {i : Nat} (h : tailStep s i = some t) : KPStepC sv s t := by
  obtain ⟨k, e⟩ := s
  unfold tailStep at h
  split at h
  · next n lb k0 hw =>
    split at h
    · next hc =>
      cases h
      exact KStepC.abortR k e i n lb k0 none hw ((lockFreeB_iff _).mp hc.1) (.inl ⟨hc.2, rfl⟩)
    · cases h
  · next n lb o cv ups hw =>
    split at h
    · next hc => cases h; exact KStepC.updateR k e i n lb o cv ups hw ((lockFreeB_iff _).mp hc)
    · cases h
  · next n hw =>
    split at h
    · next hc =>
      split at h
      · next c' hn =>
        split at h
        · next hi => cases h; exact KStepC.notifyExit k e i n c' hw ((lockFreeB_iff _).mp hc) hi hn
        · next hi => cases h; exact KStepC.notify k e i n c' hw ((lockFreeB_iff _).mp hc) hi hn
      · cases h
    · cases h
  · next hw =>
    split at h
    · next hc => cases h; exact KStepC.gwEnter k e i hw ((lockFreeB_iff _).mp hc)
    · cases h
  · next hw =>
    split at h
    · next hc =>
      split at h
      · next c' hcl => cases h; exact KStepC.gwClear k e i c' hw hc hcl
      · cases h
    · next hc =>
      split at h
      · next ha => cases h; exact KStepC.gwAborted k e i hw hc ha
      · cases h
  · cases h

/-- the stepper along a list of workers (a step that is not enabled is skipped) -/
def runTail : KSysC Int → List Nat → KSysC Int
  | s, [] => s
  | s, i :: is =>
    match tailStep s i with
    | some t => runTail t is
    | none => runTail s is

theorem runTail_run : ∀ (is : List Nat) (s : KSysC Int), KPRunC sv s (runTail s is) := by
  intro is
  induction is with
  | nil => intro s; exact KRunC.refl s
  | cons i is ih =>
    intro s
    unfold runTail
    cases h : tailStep s i with
    | none => exact ih s
    | some t =>
      exact KRunC.trans (KRunC.tail (KRunC.refl _) (tailStep_sound h)) (ih t)

def fin_ : KSysC Int := runTail ⟨cut, []⟩ ([0, 1, 1, 0] ++ List.replicate 12 1)

/-- the state in which the cut-off happens and the end of the run, in one evaluation -/
theorem run_obs :
    (lockFreeB cut = true ∧ cut.crit.base.fringe = [] ∧ cut.crit.base.bestLb = 2 ∧
      cut.crit.upperBounds = [3, 4] ∧ cut.ws.map tagK = [8, 9] ∧
      (compRAt cut 0).map (fun x => (x.1.state, x.1.depth, x.1.value, x.1.ub)) = some (1, 2, 0, 3) ∧
      (compRAt cut 0).map (fun x => (cut.crit.abortSearch x.1.ub none).base.bestUb) = some 4 ∧
      (wrRDoneAt cut 1).map (fun y => (y.1.state, y.1.depth, y.1.value, y.1.ub, y.2.2.1.bestExact)) =
        some (0, 2, 1, 4, some 6)) ∧
    allDoneB fin_.k = true ∧ fin_.k.crit.base.abort = true ∧ fin_.k.crit.base.completion = (false, some 6) ∧
      fin_.k.crit.base.bestLb = 6 ∧ fin_.k.crit.base.bestUb = 4 ∧ fin_.k.crit.base.crashed = false ∧ fin_.exits = [0] := by
  decide +kernel

/-- **the state in which the cut-off happens** -/
theorem obs : lockFreeB cut = true ∧ cut.crit.base.fringe = [] ∧ cut.crit.base.bestLb = 2 ∧
    cut.crit.upperBounds = [3, 4] ∧ cut.ws.map tagK = [8, 9] ∧
    (compRAt cut 0).map (fun x => (x.1.state, x.1.depth, x.1.value, x.1.ub)) = some (1, 2, 0, 3) ∧
    (compRAt cut 0).map (fun x => (cut.crit.abortSearch x.1.ub none).base.bestUb) = some 4 ∧
    (wrRDoneAt cut 1).map (fun y => (y.1.state, y.1.depth, y.1.value, y.1.ub, y.2.2.1.bestExact)) =
      some (0, 2, 1, 4, some 6) := run_obs.1

/-- **when `maximize()` returns**: every worker has left, `abort_proof` is set, the report is `(is_exact = false, Some(6))`,
    `best_lb = 6`, `best_ub = 4`, nothing panicked -/
theorem end_obs : allDoneB fin_.k = true ∧ fin_.k.crit.base.abort = true ∧ fin_.k.crit.base.completion = (false, some 6) ∧
    fin_.k.crit.base.bestLb = 6 ∧ fin_.k.crit.base.bestUb = 4 ∧ fin_.k.crit.base.crashed = false ∧ fin_.exits = [0] :=
  run_obs.2

/-- **`AbortBoundOk` is false** for this well-formed model and two workers -/
theorem abort_bound_below_opt :
    ∃ (s : KSys Int) (i : Nat) (n : SubP Int) (lb : Int) (k0 : Nat), KPRun sv (KSys.init sv.P sv.dedup 2) s ∧
      s.ws[i]? = some (.compR n lb k0) ∧ LockFree s ∧ AbortTop s.crit.base.fringe none ∧
      (s.crit.abortSearch n.ub none).base.bestUb = 4 := by
  obtain ⟨h1, h2, _, _, _, _, h7, _⟩ := obs
  cases hx : compRAt cut 0 with
  | none => rw [hx] at h7; cases h7
  | some x =>
    rw [hx] at h7
    exact ⟨cut, 0, x.1, x.2.1, x.2.2, reach, compRAt_sound hx, (lockFreeB_iff _).mp h1, .inl ⟨h2, rfl⟩, Option.some.inj h7⟩

theorem krun_toC {s : KSys Int} (hs : KPRun sv (KSys.init sv.P sv.dedup 2) s) :
    KPRunC sv (KSysC.init sv.P sv.dedup 2) ⟨s, []⟩ := by
  induction hs with
  | refl => exact KRunC.refl _
  | tail hr hst ih =>
    exact KRunC.tail ih (hst.toC (kprun_inv wellFormed 2 hr).lay.opn.noAbort [] (fun i hi => by cases hi))

/-- the two steps after the cut-off point, for any state `c` with the observed properties -/
theorem cutoff_general {c : KSys Int} (hpre : KPRunC sv (KSysC.init sv.P sv.dedup 2) ⟨c, []⟩)
    {x : SubP Int × Int × Nat} {y : SubP Int × Int × DDOut Int × Cache Int × List (Up Int)}
    (hw0 : c.ws[0]? = some (.compR x.1 x.2.1 x.2.2))
    (hw1 : c.ws[1]? = some (.wrR y.1 y.2.1 y.2.2.1 y.2.2.2.1 y.2.2.2.2 []))
    (hl : LockFree c) (hf : c.crit.base.fringe = []) (hlb : c.crit.base.bestLb = 2)
    (hub : (c.crit.abortSearch x.1.ub none).base.bestUb = 4) (hbe : y.2.2.1.bestExact = some 6) :
    ∃ s1 s2 : KSysC Int, KPRunC sv (KSysC.init sv.P sv.dedup 2) s1 ∧ KPStepC sv s1 s2 ∧
      s1.k.crit.base.abort = true ∧ s1.k.crit.base.bestUb = 4 ∧ s1.k.crit.base.bestLb = 2 ∧
      s2.k.crit.base.abort = true ∧ s2.k.crit.base.bestUb = 4 ∧ 6 ≤ s2.k.crit.base.bestLb := by
  -- the cut-off
  have hstep1 : KPStepC sv ⟨c, []⟩ ⟨abortK c 0 x.1 none, [0]⟩ :=
    KStepC.abortR c [] 0 x.1 x.2.1 x.2.2 none hw0 hl (.inl ⟨hf, rfl⟩)
  -- worker 1 publishes
  have hw1' : (abortK c 0 x.1 none).ws[1]? = some (.wrR y.1 y.2.1 y.2.2.1 y.2.2.2.1 y.2.2.2.2 []) := by
    show (c.ws.set 0 (.fin x.1))[1]? = _
    rw [List.getElem?_set_ne (by decide)]; exact hw1
  have hl' : LockFree (abortK c 0 x.1 none) := by
    intro w hw
    have hw : w ∈ c.ws.set 0 (.fin x.1) := hw
    rcases List.mem_or_eq_of_mem_set hw with h | h
    · exact hl w h
    · rw [h]; rfl
  have hstep2 := KStepC.updateR (nbVars := sv.P.nbVars) (dedup := sv.dedup) (okR := okRk sv) (okX := okXk sv)
    (abortK c 0 x.1 none) [0] 1 y.1 y.2.1 y.2.2.1 y.2.2.2.1 y.2.2.2.2 hw1' hl'
  refine ⟨_, _, KRunC.tail hpre hstep1, hstep2, rfl, hub, hlb, ?_, ?_, ?_⟩
  · exact (updateBest_fringe (c.crit.abortSearch x.1.ub none).base y.2.2.1).2.2.1
  · exact (updateBest_fringe (c.crit.abortSearch x.1.ub none).base y.2.2.1).2.1.trans hub
  · exact updateBest_lb_ge_val (c.crit.abortSearch x.1.ub none).base y.2.2.1 6 hbe

/-- **the cut-off run**: a reachable state of the system with cut-off in which `abort_proof` is set and `best_ub = 4 < 6 = opt`,
    and one step later (`maybe_update_best` of the other worker) `best_lb ≥ 6 > 4 = best_ub` -/
theorem cutoff_run :
    ∃ s1 s2 : KSysC Int, KPRunC sv (KSysC.init sv.P sv.dedup 2) s1 ∧ KPStepC sv s1 s2 ∧
      s1.k.crit.base.abort = true ∧ s1.k.crit.base.bestUb = 4 ∧ s1.k.crit.base.bestLb = 2 ∧
      s2.k.crit.base.abort = true ∧ s2.k.crit.base.bestUb = 4 ∧ 6 ≤ s2.k.crit.base.bestLb := by
  obtain ⟨h1, h2, h3, _, _, _, h7, h8⟩ := obs
  cases hx : compRAt cut 0 with
  | none => rw [hx] at h7; cases h7
  | some x =>
  cases hy : wrRDoneAt cut 1 with
  | none => rw [hy] at h8; cases h8
  | some y =>
    rw [hx] at h7
    rw [hy] at h8
    have hbe : y.2.2.1.bestExact = some 6 := by
      have := Option.some.inj h8
      exact (Prod.mk.inj (Prod.mk.inj (Prod.mk.inj (Prod.mk.inj this).2).2).2).2
    exact cutoff_general (krun_toC reach) (compRAt_sound hx) (wrRDoneAt_sound hy) ((lockFreeB_iff _).mp h1) h2 h3
      (Option.some.inj h7) hbe

/-- **a complete run with one cut-off that returns `best_lb = 6 > best_ub = 4`** (the optimum is 6) -/
theorem complete_cutoff_run :
    ∃ t : KSysC Int, KPRunC sv (KSysC.init sv.P sv.dedup 2) t ∧ AllDone t.k ∧ t.k.crit.base.abort = true ∧
      t.k.crit.base.completion = (false, some 6) ∧ t.k.crit.base.bestLb = 6 ∧ t.k.crit.base.bestUb = 4 := by
  obtain ⟨h1, h2, h3, h4, h5, _, _⟩ := end_obs
  have hrun : KPRunC sv (KSysC.init sv.P sv.dedup 2) fin_ :=
    KRunC.trans (krun_toC reach) (runTail_run ([0, 1, 1, 0] ++ List.replicate 12 1) ⟨cut, []⟩)
  exact ⟨fin_, hrun, (allDoneB_iff _).mp h1, h2, h3, h4, h5⟩

end CutWitness
end Ddo.ParCache

#print axioms Ddo.ParCache.CutWitness.wellFormed
#print axioms Ddo.ParCache.CutWitness.obs
#print axioms Ddo.ParCache.CutWitness.abort_bound_below_opt
#print axioms Ddo.ParCache.CutWitness.cutoff_run
#print axioms Ddo.ParCache.CutWitness.tailStep_sound
#print axioms Ddo.ParCache.CutWitness.end_obs
#print axioms Ddo.ParCache.CutWitness.complete_cutoff_run
