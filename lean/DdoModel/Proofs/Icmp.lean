import DdoModel.Basic
/-! The three-way comparison `icmp` on integers (`Basic.lean`; `Dominance.lean` spells the same function `icompare`),
    read as `<`, `=`, `>`. -/
namespace Ddo

theorem icmp_cases (a b : Int) :
    (a < b ∧ icmp a b = .lt) ∨ (a = b ∧ icmp a b = .eq) ∨ (b < a ∧ icmp a b = .gt) := by
  unfold icmp
  by_cases h1 : a < b
  · exact .inl ⟨h1, if_pos h1⟩
  · rw [if_neg h1]
    by_cases h2 : a = b
    · exact .inr (.inl ⟨h2, if_pos h2⟩)
    · exact .inr (.inr ⟨by omega, if_neg h2⟩)

theorem icmp_ne_gt_iff (a b : Int) : icmp a b ≠ .gt ↔ a ≤ b := by
  rcases icmp_cases a b with ⟨h, e⟩ | ⟨h, e⟩ | ⟨h, e⟩ <;> simp [e] <;> omega
theorem icmp_eq_iff (a b : Int) : icmp a b = .eq ↔ a = b := by
  rcases icmp_cases a b with ⟨h, e⟩ | ⟨h, e⟩ | ⟨h, e⟩ <;> simp [e] <;> omega
theorem icmp_lt_iff (a b : Int) : icmp a b = .lt ↔ a < b := by
  rcases icmp_cases a b with ⟨h, e⟩ | ⟨h, e⟩ | ⟨h, e⟩ <;> simp [e] <;> omega

end Ddo
