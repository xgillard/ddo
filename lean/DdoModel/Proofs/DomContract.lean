import DdoModel.Proofs.DomSound
import DdoModel.Proofs.DomTruth
import DdoModel.Proofs.DomSim
import DdoModel.Proofs.DomRelax
/-! What the solver-level arguments use of a compilation with the dominance checker enabled, for every well-formed model and every rule with a
protected family: the node relation `OnP` ("lies on the protected family"), the bundle `RelaxedOk` of the facts about relaxed compilations
(`relaxedOk`, from the diagram theorems), and the restricted / relaxed contracts relativised to `OnP` (`restricted_contract`, `relaxed_contract`,
`domHyp_of`).  The sequential solver with the checker (`Props/C10b.lean`) and the parallel one (`Proofs/ParDom….lean`) start from these. -/
set_option linter.unusedSectionVars false
set_option linter.unusedVariables false
namespace Ddo.C10
open Ddo Ddo.C01 Ddo.Closed Ddo.Truth
variable {S K : Type} [DecidableEq S] [DecidableEq K]

/-- a sub-problem lies on the protected family (`∃ v' ≤ value`: closed upwards so that the duplicate-free fringe keeps it) -/
def OnP (Prot : Nat → S → Int → Prop) (c : SubP S) : Prop := ∃ v', v' ≤ c.value ∧ Prot c.depth c.state v'

theorem onP_mono (Prot : Nat → S → Int → Prop) : OnMono (OnP Prot) := by
  intro a b hs hd hv ⟨v', h1, h2⟩
  exact ⟨v', Int.le_trans h1 hv, by rw [← hs, ← hd]; exact h2⟩

theorem onP_exact {D : DomRule S K} {P : Problem S} {H : Nat → S → EInt} {opt : Int} {Prot : Nat → S → Int → Prop}
    (hPr : Protected D P H opt Prot) (hP : Potential P H) {c : SubP S} {p0 : List Dec}
    (hr : Reach P c.depth c.state c.value p0) (h : OnP Prot c) : Prot c.depth c.state c.value := by
  obtain ⟨v', hv, hp⟩ := h
  exact hPr.reach_ge hP hp hr hv

/-- what the solver-level argument uses of the *relaxed* compilations with the checker enabled; it holds of every well-formed model
    (`relaxedOk`, from the diagram theorems) -/
structure RelaxedOk (dv : DSolverCfg S K) (H : Nat → S → EInt) (B : Int) : Prop where
  noCrash : ∀ (ct : CompType) (N : SubP S) (lb : Int) (store : DomStore S K) (p0 : List Dec),
    Reach dv.sv.P N.depth N.state N.value p0 → store.layers.length = dv.sv.P.nbVars + 1 →
    (compile (dv.cfg ct N lb) (Cache.init dv.sv.P.nbVars) store 0 none).1 = .ok
  sound : ∀ (N : SubP S) (lb : Int) (store : DomStore S K) (p0 : List Dec) (w : Int),
    Reach dv.sv.P N.depth N.state N.value p0 → store.layers.length = dv.sv.P.nbVars + 1 →
    (dv.compX store N lb).1 = .ok → (dv.compX store N lb).2.1.bestExactValue = some w →
    IsSol (dv.cfg .relaxed N lb) p0 w (dv.compX store N lb).2.1.bestExactSol
  /-- the relaxed diagram of a protected sub-problem bounds the optimum from above -/
  ub : ∀ (opt : Int) (Prot : Nat → S → Int → Prop) (N : SubP S) (lb : Int) (store : DomStore S K) (p0 : List Dec),
    Protected dv.D dv.sv.P H opt Prot → Reach dv.sv.P N.depth N.state N.value p0 → Prot N.depth N.state N.value →
    StoreReach dv.D dv.sv.P store → store.layers.length = dv.sv.P.nbVars + 1 → InI lb → opt > lb →
    (dv.compX store N lb).1 = .ok → ∃ bv, (dv.compX store N lb).2.1.bestValue = some bv ∧ opt ≤ bv
  /-- its cut-set holds a protected sub-problem whose bound does not cut the optimum off -/
  cut : ∀ (opt : Int) (Prot : Nat → S → Int → Prop) (N : SubP S) (lb : Int) (store : DomStore S K) (p0 : List Dec),
    Protected dv.D dv.sv.P H opt Prot → Reach dv.sv.P N.depth N.state N.value p0 → Prot N.depth N.state N.value →
    StoreReach dv.D dv.sv.P store → store.layers.length = dv.sv.P.nbVars + 1 → InI lb → opt > lb →
    (dv.compX store N lb).1 = .ok → (∀ w, (dv.compX store N lb).2.1.bestExactValue = some w → w < opt) →
    ∃ c ∈ (dv.compX store N lb).2.1.cutset, Prot c.depth c.state c.value ∧ opt ≤ c.ub

section inv
variable {dv : DSolverCfg S K} {H : Nat → S → EInt} {B0 B opt : Int} {Prot : Nat → S → Int → Prop}

theorem lb_range (hwf : WellFormed dv.sv H B0 B) (hopt : (H 0 dv.sv.P.init).addI dv.sv.P.initVal = some opt)
    {lb : Int} (h1 : iMin ≤ lb) (h2 : lb ≤ opt) : InI lb ∧ lb < iMax ∧ opt ≤ iMax :=
  have h := inI_of_le h1 (Int.le_trans h2 (opt_bound hwf.pot hwf.nv hwf.bound hopt).2) hwf.bound.B_small
  ⟨h.1, h.2, Int.le_of_lt (hwf.opt_range hopt).2⟩

theorem domHyp_of (hwf : WellFormed dv.sv H B0 B) (hopt : (H 0 dv.sv.P.init).addI dv.sv.P.initVal = some opt)
    (hPr : Protected dv.D dv.sv.P H opt Prot) (ct : CompType) (N : SubP S) (lb : Int) (p0 : List Dec)
    (hroot : Reach dv.sv.P N.depth N.state N.value p0) (h1 : iMin ≤ lb) (h2 : opt > lb) :
    DomHyp (dv.cfg ct N lb) dv.D H opt Prot B := by
  obtain ⟨a, b, c⟩ := lb_range hwf hopt h1 (Int.le_of_lt h2)
  exact ⟨rfl, rfl, hwf.pot, hwf.rub, hwf.bound.noClamp_at hwf.nv hroot, hwf.nv, hPr, a, h2, Or.inl c⟩

theorem restricted_contract (hwf : WellFormed dv.sv H B0 B) (hopt : (H 0 dv.sv.P.init).addI dv.sv.P.initVal = some opt)
    (hPr : Protected dv.D dv.sv.P H opt Prot) (N : SubP S) (lb : Int) (store : DomStore S K) (p0 : List Dec)
    (hroot : Reach dv.sv.P N.depth N.state N.value p0) (hperm : N.path.Perm p0)
    (hst : StoreReach dv.D dv.sv.P store) (hlen : store.layers.length = dv.sv.P.nbVars + 1)
    (h1 : iMin ≤ lb) (h2 : lb ≤ opt) (hok : (dv.compR store N lb).1 = .ok) :
    DCompileOk (OnP Prot) opt (SolOf dv.sv.P) N lb (toOut (dv.compR store N lb).2.1) := by
  have hBN : NoClamp dv.sv.P dv.sv.R N.value B := hwf.bound.noClamp_at hwf.nv hroot
  constructor
  · intro w hw
    have hs := isSol_restricted (dv.cfg .restricted N lb) B p0 (Cache.init dv.sv.P.nbVars) store 0 none rfl hBN hroot hok w hw
    exact (isSol_facts (dv.cfg .restricted N lb) H opt p0 hwf.pot hroot hperm hopt w _ hs).1
  · intro hex hOn hgt
    have hprot := onP_exact hPr hwf.pot hroot hOn
    exact restricted_exact_dom (dv.cfg .restricted N lb) dv.D H opt Prot B
      (domHyp_of hwf hopt hPr .restricted N lb p0 hroot h1 hgt) p0 _ store 0 rfl hroot hprot hst hlen hok hex

/-- **`RelaxedOk` holds for every well-formed model**: no crash and soundness from `Proofs/DomTruth.lean`, upper bound and
    cut-set from `Proofs/DomRelax.lean` -/
theorem relaxedOk (hwf : WellFormed dv.sv H B0 B) : RelaxedOk dv H B := by
  have hyp : ∀ (opt : Int) (Prot : Nat → S → Int → Prop) (N : SubP S) (lb : Int) (p0 : List Dec),
      Protected dv.D dv.sv.P H opt Prot → Reach dv.sv.P N.depth N.state N.value p0 → InI lb → opt > lb →
      DomHyp (dv.cfg .relaxed N lb) dv.D H opt Prot B := by
    intro opt Prot N lb p0 hPr hroot hlb hgt
    have hopt := hPr.opt _ _ _ hPr.root
    exact domHyp_of hwf hopt hPr .relaxed N lb p0 hroot hlb.1 hgt
  refine ⟨?_, ?_, ?_, ?_⟩
  · intro ct N lb store p0 hroot hlen
    exact compile_no_crash_dom (dv.cfg ct N lb) dv.D rfl B p0 _ store 0 rfl (hwf.width N) hwf.nv
      (hwf.bound.noClamp_at hwf.nv hroot) hroot hlen
  · intro N lb store p0 w hroot hlen hok hw
    exact isSol_relaxed_dom (dv.cfg .relaxed N lb) dv.D rfl B p0 _ store 0 rfl rfl (hwf.width N)
      (hwf.bound.noClamp_at hwf.nv hroot) hroot hok w hw
  · intro opt Prot N lb store p0 hPr hroot hprot hst hlen hlb hgt hok
    exact relaxed_ub_dom (dv.cfg .relaxed N lb) dv.D H opt Prot B (hyp opt Prot N lb p0 hPr hroot hlb hgt) rfl (hwf.width N)
      hwf.merge hwf.attMerge p0 _ store 0 hroot hprot hst hlen hok
  · intro opt Prot N lb store p0 hPr hroot hprot hst hlen hlb hgt hok hbe
    exact relaxed_cutset_dom (dv.cfg .relaxed N lb) dv.D H opt Prot B (hyp opt Prot N lb p0 hPr hroot hlb hgt) rfl (hwf.width N)
      hwf.merge hwf.attMerge p0 _ store 0 hroot hprot hst hlen hok hbe

theorem relaxed_contract (hwf : WellFormed dv.sv H B0 B) (hopt : (H 0 dv.sv.P.init).addI dv.sv.P.initVal = some opt)
    (hPr : Protected dv.D dv.sv.P H opt Prot) (N : SubP S) (lb : Int) (store : DomStore S K)
    (p0 : List Dec) (hroot : Reach dv.sv.P N.depth N.state N.value p0) (hperm : N.path.Perm p0)
    (hst : StoreReach dv.D dv.sv.P store) (hlen : store.layers.length = dv.sv.P.nbVars + 1)
    (h1 : iMin ≤ lb) (h2 : lb ≤ opt) (hok : (dv.compX store N lb).1 = .ok) :
    DCompileOk (OnP Prot) opt (SolOf dv.sv.P) N lb (toOut (dv.compX store N lb).2.1) ∧
    ((toOut (dv.compX store N lb).2.1).isExact = false →
      DCutsetOk (OnP Prot) opt N lb (toOut (dv.compX store N lb).2.1)) := by
  obtain ⟨a, b, c⟩ := lb_range hwf hopt h1 h2
  refine ⟨⟨?_, ?_⟩, ?_⟩
  · intro w hw
    have hs := (relaxedOk hwf).sound N lb store p0 w hroot hlen hok hw
    exact (isSol_facts (dv.cfg .relaxed N lb) H opt p0 hwf.pot hroot hperm hopt w _ hs).1
  · intro hex hOn hgt
    have hprot := onP_exact hPr hwf.pot hroot hOn
    rcases relaxed_isExact_cases (dv.cfg .relaxed N lb) _ store 0 rfl hok hex with hl | ⟨_, hb⟩
    · exact exact_diagram_dom (dv.cfg .relaxed N lb) dv.D H opt Prot B
        (domHyp_of hwf hopt hPr .relaxed N lb p0 hroot h1 hgt) p0 _ store 0 hroot hprot hst hlen hok hl
    · obtain ⟨bv, hbv, hle⟩ := (relaxedOk hwf).ub opt Prot N lb store p0 hPr hroot hprot hst hlen a hgt hok
      exact ⟨bv, hb.trans hbv, hle⟩
  · intro hne hOn hgt hbe
    have hprot := onP_exact hPr hwf.pot hroot hOn
    obtain ⟨c0, hc0, hp0, hu0⟩ := (relaxedOk hwf).cut opt Prot N lb store p0 hPr hroot hprot hst hlen a hgt hok hbe
    exact ⟨c0, hc0, ⟨c0.value, Int.le_refl _, hp0⟩, hu0⟩

end inv

end Ddo.C10
