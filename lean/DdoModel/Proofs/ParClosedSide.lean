import DdoModel.Proofs.SolverCfg
import DdoModel.Props.C03b
/-! # The parallel solver over the diagram model: the side conditions of the diagram theorems as an invariant; the contracts

Closing the composition "diagram model ∘ concrete parallel solver model" (`Props/C03c.lean`), first part.
* `okRm` / `okXm`: the compilation outcomes of the parallel system are not arbitrary contract-abiding answers but
  **the answers of the diagram model** `compile` (`DdoModel/Mdd.lean`) for the node in hand and the (stale) incumbent the
  worker read; `PStep` / `PRun`: the instance of `ParSys.Step` / `ParSys.Run` with these;
* `PCInv`: the optimum-free side conditions of the diagram theorems as an invariant of the parallel system (every fringe
  entry and every node in hand is reached exactly by a permutation of its path with exactly its value; the incumbent — and
  hence every stale copy a worker read — is in `[isize::MIN, B]`; what a worker carries between two sections *is* an answer
  of the diagram model), preserved by every section of every worker in every interleaving (`pstep_pcinv`); it is `PCInvG`
  — the same for arbitrary answer relations, `gstep_pcinv` — at `okRm` / `okXm`, as `ParDom.GPCInv` / `ParDom.DPCInv` are at theirs;
* `okR'` / `okX'`: the model answers together with these side conditions; they imply the contracts `OkR` / `OkX` of
  `Props/C03b.lean` (`okR'_contract`, `okX'_contract`) and the progress clause (`okX'_progress`); on the states that
  satisfy `PCInv` every step of the concrete system is a step of the system constrained by `okR'` / `okX'` (`pstep_lift`). -/
set_option linter.unusedSectionVars false
set_option linter.unusedVariables false
namespace Ddo.ParClosed
open Ddo Ddo.Truth Ddo.Closed Ddo.ParSys
open Ddo.C01 (SolverCfg WellFormed toOut SolOf)
variable {S : Type} [DecidableEq S]

/-- the restricted compilation of `N` with the incumbent `lb` the worker read answered `o`: the `must` result of the
    diagram model (`EmptyCache`, no dominance checker, no cutoff: `stopAt = none`), read through `toOut`; the contents of
    the — unused — cache, dominance store and poll counter are arbitrary -/
def okRm (sv : SolverCfg S) (N : SubP S) (lb : Int) (o : DDOut S) : Prop :=
  ∃ (cache : Cache S) (store : DomStore S Unit) (polls : Nat),
    sv.outR cache store polls N lb = .ok ∧ o = toOut (sv.resR cache store polls N lb)

def okXm (sv : SolverCfg S) (N : SubP S) (lb : Int) (o : DDOut S) : Prop :=
  ∃ (cache : Cache S) (store : DomStore S Unit) (polls : Nat),
    sv.outX cache store polls N lb = .ok ∧ o = toOut (sv.resX cache store polls N lb)

/-- **the steps of the parallel solver over the diagram model** (any interleaving; a cut-off may strike any compilation) -/
abbrev PStep (sv : SolverCfg S) : Sys S → Sys S → Prop := Step sv.dedup (okRm sv) (okXm sv)
abbrev PRun (sv : SolverCfg S) : Sys S → Sys S → Prop := Run sv.dedup (okRm sv) (okXm sv)

/-- the contract parameters of `StepG` only matter at the worker that compiles -/
theorem step_mono {ab : ParCrit S → Int → Option Int → ParCrit S} {dedup : Bool}
    {okR okX okR' okX' : SubP S → Int → DDOut S → Prop} {s t : Sys S}
    (h : StepG ab dedup okR okX s t)
    (hR : ∀ (i : Nat) (n : SubP S) (lb : Int) (o : DDOut S), s.ws[i]? = some (WSt.compR n lb) → okR n lb o → okR' n lb o)
    (hX : ∀ (i : Nat) (n : SubP S) (lb : Int) (o : DDOut S), s.ws[i]? = some (WSt.compX n lb) → okX n lb o → okX' n lb o) :
    StepG ab dedup okR' okX' s t := by
  cases h with
  | gwAborted i hw ha => exact .gwAborted s i hw ha
  | gwComplete i hw ha ho hf => exact .gwComplete s i hw ha ho hf
  | gwWait i hw ha ho hf => exact .gwWait s i hw ha ho hf
  | gwStarve i N rest c' k hw ha hp hl => exact .gwStarve s i N rest c' k hw ha hp hl
  | gwItem i N rest c' nn k c'' hw ha hp hl ht => exact .gwItem s i N rest c' nn k c'' hw ha hp hl ht
  | gwCrash i N rest c' nn k hw ha hp hl ht => exact .gwCrash s i N rest c' nn k hw ha hp hl ht
  | readLbR i n hw => exact .readLbR s i n hw
  | compileR i n lb r hw hok => exact .compileR s i n lb r hw (fun o ho => hR i n lb o hw (hok o ho))
  | updateR i n lb o hw => exact .updateR s i n lb o hw
  | readLbX i n hw => exact .readLbX s i n hw
  | compileX i n lb r hw hok => exact .compileX s i n lb r hw (fun o ho => hX i n lb o hw (hok o ho))
  | updateX i n lb o hw => exact .updateX s i n lb o hw
  | enqueue i n lb o hw => exact .enqueue s i n lb o hw
  | abort i n top hw htop => exact .abort s i n top hw htop
  | notify i n te c' hw hn => exact .notify s i n te c' hw hn

/-- what a worker carries between two sections: a stale incumbent in range, an answer of the diagram model -/
def WInv (sv : SolverCfg S) (B : Int) : WSt S → Prop
  | .compR _ lb => iMin ≤ lb ∧ lb ≤ B
  | .compX _ lb => iMin ≤ lb ∧ lb ≤ B
  | .updR n lb o => okRm sv n lb o
  | .updX n lb o => okXm sv n lb o
  | .enq n lb o => okXm sv n lb o
  | _ => True

structure WOkP (sv : SolverCfg S) (B : Int) (w : WSt S) : Prop where
  node : ∀ n, w.node = some n → C01.NodeOk sv.P n
  stage : WInv sv B w

structure BaseOk (sv : SolverCfg S) (H : Nat → S → EInt) (B : Int) (b : SeqSt S) : Prop where
  /-- every fringe entry is reached exactly, by a permutation of its path, with exactly its value -/
  fr : ∀ c ∈ b.fringe, C01.NodeOk sv.P c
  lbLo : iMin ≤ b.bestLb
  lbHi : b.bestLb ≤ B
  solLb : b.bestSol = none → b.bestLb = iMin
  /-- infeasible problem: nothing was ever reported -/
  infeas : (H 0 sv.P.init).addI sv.P.initVal = none → b.bestLb = iMin ∧ b.bestSol = none

/-- a stored solution exists once the incumbent is the optimum (it is not the sentinel) -/
theorem BaseOk.sol_some {sv : SolverCfg S} {H : Nat → S → EInt} {B0 B opt : Int} {b : SeqSt S} (hb : BaseOk sv H B b)
    (hwf : WellFormed sv H B0 B) (hopt : (H 0 sv.P.init).addI sv.P.initVal = some opt) (hlb : b.bestLb = opt) :
    ∃ p, b.bestSol = some p := by
  have ho := opt_bound hwf.pot hwf.nv hwf.bound hopt
  have hBs := hwf.bound.B_small
  cases hs : b.bestSol with
  | none =>
    have := hb.solLb hs
    simp only [iMin] at this
    omega
  | some p => exact ⟨p, rfl⟩

/-- **`PCInv`**: the side conditions of `compileOk_*` / `cutsetOk_relaxed`, for every open node and every worker -/
structure PCInv (sv : SolverCfg S) (H : Nat → S → EInt) (B : Int) (s : Sys S) : Prop where
  base : BaseOk sv H B s.crit.base
  ws : ∀ w ∈ s.ws, WOkP sv B w

/-- apart from the fringe, `BaseOk` reads the incumbent and the stored solution only -/
theorem BaseOk.of_lb_sol {sv : SolverCfg S} {H : Nat → S → EInt} {B : Int} {b b' : SeqSt S} (h : BaseOk sv H B b)
    (hfr : ∀ c ∈ b'.fringe, C01.NodeOk sv.P c) (hlb : b'.bestLb = b.bestLb) (hsol : b'.bestSol = b.bestSol) :
    BaseOk sv H B b' :=
  ⟨hfr, by rw [hlb]; exact h.lbLo, by rw [hlb]; exact h.lbHi,
   by rw [hlb, hsol]; exact h.solLb, by rw [hlb, hsol]; exact h.infeas⟩

theorem BaseOk.of_eq {sv : SolverCfg S} {H : Nat → S → EInt} {B : Int} {b b' : SeqSt S} (h : BaseOk sv H B b)
    (hfr : ∀ c ∈ b'.fringe, c ∈ b.fringe) (hlb : b'.bestLb = b.bestLb) (hsol : b'.bestSol = b.bestSol) :
    BaseOk sv H B b' :=
  h.of_lb_sol (fun c hc => h.fr c (hfr c hc)) hlb hsol

/-- what a diagram of a reached node whose reported value is a solution (`IsSol`) tells, without reference to an optimum:
    the value is in range and comes with a decision list; nothing is reported when the problem is infeasible -/
theorem diagram_sol_facts {sv : SolverCfg S} {H : Nat → S → EInt} {B0 B : Int} (hwf : WellFormed sv H B0 B)
    {n : SubP S} {p0 : List Dec} (hroot : Reach sv.P n.depth n.state n.value p0) (cfg : Cfg S Unit) (hP : cfg.P = sv.P)
    (hr : cfg.root = n) {o : DDOut S} (hs : ∀ w, o.bestExact = some w → IsSol cfg p0 w o.bestExactSol) :
    (∀ w, o.bestExact = some w → w ≤ B ∧ ∃ p, o.bestExactSol = some p) ∧
    ((H 0 sv.P.init).addI sv.P.initVal = none → o.bestExact = none) := by
  refine ⟨fun w hw => C01.isSol_le hwf cfg hP p0 w _ (hs w hw), fun hinf => ?_⟩
  have hdead : optOf H n = none := reach_dead hwf.pot hinf hroot
  cases hb : o.bestExact with
  | none => rfl
  | some w =>
    obtain ⟨x, hx, _⟩ := within_of_isSol cfg H p0 (by rw [hP]; exact hwf.pot) (by rw [hP, hr]; exact hroot) w _ (hs w hb)
    rw [hr, hdead] at hx
    cases hx

theorem okRm_facts {sv : SolverCfg S} {H : Nat → S → EInt} {B0 B : Int} (hwf : WellFormed sv H B0 B)
    {n : SubP S} {lb : Int} {o : DDOut S} (hn : C01.NodeOk sv.P n) (hok : okRm sv n lb o) :
    (∀ w, o.bestExact = some w → w ≤ B ∧ ∃ p, o.bestExactSol = some p) ∧
    ((H 0 sv.P.init).addI sv.P.initVal = none → o.bestExact = none) := by
  obtain ⟨p0, hroot, hperm⟩ := hn
  obtain ⟨cache, store, polls, hout, rfl⟩ := hok
  have hBN : NoClamp sv.P sv.R n.value B := hwf.bound.noClamp_at hwf.nv hroot
  exact diagram_sol_facts hwf hroot (sv.cfg .restricted n lb) rfl rfl (o := toOut (sv.resR cache store polls n lb))
    (fun w hw => isSol_restricted (sv.cfg .restricted n lb) B p0 cache store polls none rfl hBN hroot hout w hw)

/-- `okRm_facts` for a relaxed compilation, and its cut-set: exact nodes (C08 (i)), strictly deeper (C08 (ii)), not deeper
    than `nb_variables` (`NvBound`) -/
theorem okXm_facts {sv : SolverCfg S} {H : Nat → S → EInt} {B0 B : Int} (hwf : WellFormed sv H B0 B)
    {n : SubP S} {lb : Int} {o : DDOut S} (hn : C01.NodeOk sv.P n) (hok : okXm sv n lb o) :
    (∀ w, o.bestExact = some w → w ≤ B ∧ ∃ p, o.bestExactSol = some p) ∧
    ((H 0 sv.P.init).addI sv.P.initVal = none → o.bestExact = none) ∧
    (∀ c ∈ o.cutset, C01.NodeOk sv.P c ∧ n.depth < c.depth ∧ c.depth ≤ sv.P.nbVars) := by
  obtain ⟨p0, hroot, hperm⟩ := hn
  obtain ⟨cache, store, polls, hout, rfl⟩ := hok
  have hBN : NoClamp sv.P sv.R n.value B := hwf.bound.noClamp_at hwf.nv hroot
  obtain ⟨h1, h2⟩ := diagram_sol_facts hwf hroot (sv.cfg .relaxed n lb) rfl rfl (o := toOut (sv.resX cache store polls n lb))
    (fun w hw => isSol_relaxed (sv.cfg .relaxed n lb) B p0 cache store polls rfl rfl rfl (hwf.width n) hBN hroot hout w hw)
  refine ⟨h1, h2, fun c hc => ?_⟩
  have hc : c ∈ (sv.resX cache store polls n lb).cutset := hc
  have h := cutset_node_facts (sv.cfg .relaxed n lb) B p0 cache store polls none hwf.nv hroot hperm hBN hout _ (.inl rfl) c hc
  exact ⟨h.1, h.2.1 rfl, h.2.2⟩

/-- `maybe_update_best` with a diagram whose reported values are in range and come with a solution -/
theorem baseOk_update {sv : SolverCfg S} {H : Nat → S → EInt} {B : Int} {b : SeqSt S} {o : DDOut S}
    (hb : BaseOk sv H B b) (h1 : ∀ w, o.bestExact = some w → w ≤ B ∧ ∃ p, o.bestExactSol = some p)
    (h2 : (H 0 sv.P.init).addI sv.P.initVal = none → o.bestExact = none) : BaseOk sv H B (b.updateBest o) := by
  refine ⟨?_, ?_, ?_, ?_, ?_⟩
  · rw [(updateBest_fringe b o).1]; exact hb.fr
  · have := updateBest_lb_ge b o
    have := hb.lbLo
    omega
  · exact C01.updateBest_le b o B (fun w hw => (h1 w hw).1) hb.lbHi
  · exact updateBest_solLb b o (fun w hw => (h1 w hw).2) hb.solLb
  · intro hinf
    rw [updateBest_none b o (h2 hinf)]
    exact hb.infeas hinf

/-- either fringe: a property of sub-problems that does not look at the bound passes from the old fringe and the cut-set
    to the fringe after `enqueue_cutset` -/
theorem enqueue_forall (Q : SubP S → Prop) (hQ : ∀ (c : SubP S) (u : Int), Q c → Q { c with ub := u })
    (dedup : Bool) (st : SeqSt S) (cs : List (SubP S))
    (h1 : ∀ c ∈ st.fringe, Q c) (h2 : ∀ c ∈ cs, Q c) : ∀ c ∈ (st.enqueue dedup cs).fringe, Q c :=
  Closed.enqueue_forall Q hQ dedup cs h2 st h1

theorem mem_set_elim {α : Type} {P : α → Prop} {l : List α} {i : Nat} {a : α} (hl : ∀ x ∈ l, P x) (ha : P a) :
    ∀ x ∈ l.set i a, P x :=
  forall_set_of hl ha

theorem wake_node (w : WSt S) : w.wake.node = w.node := by cases w <;> rfl

theorem wokp_free {sv : SolverCfg S} {B : Int} {w : WSt S} (hn : w.node = none) (hs : WInv sv B w) : WOkP sv B w :=
  ⟨fun n h => (by rw [hn] at h; cases h), hs⟩

/-! ### the side conditions for arbitrary answer relations

`PCInv` (answers of the diagram model), `ParDom.GPCInv` / `ParDom.DPCInv` (answers of compilations with the dominance checker) are
`PCInvG` at their answer relations; what a step needs of the relations is what `updateR` / `updateX` / `enqueue` read of an answer. -/

def WInvG (okR okX : SubP S → Int → DDOut S → Prop) (B : Int) : WSt S → Prop
  | .compR _ lb => iMin ≤ lb ∧ lb ≤ B
  | .compX _ lb => iMin ≤ lb ∧ lb ≤ B
  | .updR n lb o => okR n lb o
  | .updX n lb o => okX n lb o
  | .enq n lb o => okX n lb o
  | _ => True

structure WOkG (sv : SolverCfg S) (okR okX : SubP S → Int → DDOut S → Prop) (B : Int) (w : WSt S) : Prop where
  node : ∀ n, w.node = some n → C01.NodeOk sv.P n
  stage : WInvG okR okX B w

structure PCInvG (sv : SolverCfg S) (H : Nat → S → EInt) (okR okX : SubP S → Int → DDOut S → Prop) (B : Int) (s : Sys S) :
    Prop where
  base : BaseOk sv H B s.crit.base
  ws : ∀ w ∈ s.ws, WOkG sv okR okX B w

theorem winv_iff {sv : SolverCfg S} {B : Int} (w : WSt S) : WInv sv B w ↔ WInvG (okRm sv) (okXm sv) B w := by
  cases w <;> exact Iff.rfl

theorem pcinv_iff {sv : SolverCfg S} {H : Nat → S → EInt} {B : Int} {s : Sys S} :
    PCInv sv H B s ↔ PCInvG sv H (okRm sv) (okXm sv) B s :=
  ⟨fun h => ⟨h.base, fun w m => ⟨(h.ws w m).node, (winv_iff w).mp (h.ws w m).stage⟩⟩,
   fun h => ⟨h.base, fun w m => ⟨(h.ws w m).node, (winv_iff w).mpr (h.ws w m).stage⟩⟩⟩

theorem wokg_wake {sv : SolverCfg S} {okR okX : SubP S → Int → DDOut S → Prop} {B : Int} {w : WSt S}
    (h : WOkG sv okR okX B w) : WOkG sv okR okX B w.wake := by
  cases w <;> first | exact h | exact ⟨fun n hn => (by cases hn), trivial⟩

theorem wokg_free {sv : SolverCfg S} {okR okX : SubP S → Int → DDOut S → Prop} {B : Int} {w : WSt S}
    (hn : w.node = none) (hs : WInvG okR okX B w) : WOkG sv okR okX B w :=
  ⟨fun n h => (by rw [hn] at h; cases h), hs⟩

theorem wokg_keep {sv : SolverCfg S} {okR okX : SubP S → Int → DDOut S → Prop} {B : Int} {w w' : WSt S} {n : SubP S}
    (h : WOkG sv okR okX B w) (hn : w.node = some n) (hn' : w'.node = some n) (hs : WInvG okR okX B w') :
    WOkG sv okR okX B w' :=
  ⟨fun m hm => (by rw [hn'] at hm; injection hm with hm; subst hm; exact h.node _ hn), hs⟩

/-- what a step reads of the answers: reported exact values are in range and come with a solution, nothing is reported when
    the problem is infeasible; cut-set nodes are reached exactly -/
def AnsFacts (sv : SolverCfg S) (H : Nat → S → EInt) (B : Int) (ok : SubP S → Int → DDOut S → Prop) : Prop :=
  ∀ n lb o, C01.NodeOk sv.P n → ok n lb o →
    (∀ w, o.bestExact = some w → w ≤ B ∧ ∃ p, o.bestExactSol = some p) ∧
    ((H 0 sv.P.init).addI sv.P.initVal = none → o.bestExact = none)

/-- the cut-set of an answer of the relaxed compilation: reached exactly, strictly deeper, not deeper than `nb_variables` -/
def CutFacts (sv : SolverCfg S) (okX : SubP S → Int → DDOut S → Prop) : Prop :=
  ∀ n lb o, C01.NodeOk sv.P n → okX n lb o →
    ∀ c ∈ o.cutset, C01.NodeOk sv.P c ∧ n.depth < c.depth ∧ c.depth ≤ sv.P.nbVars

/-- **every section of every worker preserves the side conditions**, whatever the answer relations -/
theorem gstep_pcinv {sv : SolverCfg S} {H : Nat → S → EInt} {B : Int} {okR okX : SubP S → Int → DDOut S → Prop}
    (hfR : AnsFacts sv H B okR) (hfX : AnsFacts sv H B okX) (hcX : CutFacts sv okX) {s t : Sys S}
    (h : Step sv.dedup okR okX s t) (hI : PCInvG sv H okR okX B s) : PCInvG sv H okR okX B t := by
  have hmem : ∀ {i : Nat} {w : WSt S}, s.ws[i]? = some w → WOkG sv okR okX B w :=
    fun hw => hI.ws _ (List.mem_of_getElem? hw)
  cases h with
  | gwAborted i hw ha | gwWait i hw ha ho hf => exact ⟨hI.base, forall_set_of hI.ws (wokg_free rfl trivial)⟩
  | gwComplete i hw ha ho hf =>
    exact ⟨hI.base.of_eq (fun c hc => hc) rfl rfl, forall_set_of hI.ws (wokg_free rfl trivial)⟩
  | gwStarve i N rest c' k hw ha hp hl =>
    obtain ⟨_, rfl⟩ := popLoop_starve hl
    exact ⟨hI.base.of_eq (fun c hc => by cases hc) rfl rfl, hI.ws⟩
  | gwItem i N rest c' nn k c'' hw ha hp hl ht =>
    obtain ⟨rfl, rfl⟩ := popLoop_item hl
    obtain ⟨t1, t2, t3, _⟩ := take_spec ht
    have hN : nn ∈ s.crit.base.fringe := (mem_of_popMax hp nn).mpr (Or.inl rfl)
    refine ⟨hI.base.of_eq (fun c hc => ?_) t2 t3, forall_set_of hI.ws ⟨fun m hm => ?_, trivial⟩⟩
    · rw [t1] at hc
      exact (mem_of_popMax hp c).mpr (Or.inr hc)
    · injection hm with hm; subst hm; exact hI.base.fr _ hN
  | gwCrash i N rest c' nn k hw ha hp hl ht =>
    obtain ⟨rfl, rfl⟩ := popLoop_item hl
    have hN : nn ∈ s.crit.base.fringe := (mem_of_popMax hp nn).mpr (Or.inl rfl)
    refine ⟨hI.base.of_eq (fun c hc => ?_) rfl rfl, forall_set_of hI.ws ⟨fun m hm => ?_, trivial⟩⟩
    · exact (mem_of_popMax hp c).mpr (Or.inr hc)
    · injection hm with hm; subst hm; exact hI.base.fr _ hN
  | readLbR i n hw =>
    refine ⟨hI.base, forall_set_of hI.ws ?_⟩
    split
    · exact wokg_keep (hmem hw) rfl rfl trivial
    · exact wokg_keep (hmem hw) rfl rfl ⟨hI.base.lbLo, hI.base.lbHi⟩
  | compileR i n lb r hw hok | compileX i n lb r hw hok =>
    refine ⟨hI.base, forall_set_of hI.ws ?_⟩
    cases r with
    | ok o => exact wokg_keep (hmem hw) rfl rfl (hok o rfl)
    | cutoff => exact wokg_keep (hmem hw) rfl rfl trivial
  | updateR i n lb o hw =>
    obtain ⟨f1, f2⟩ := hfR _ _ _ ((hmem hw).node n rfl) (hmem hw).stage
    refine ⟨baseOk_update hI.base f1 f2, forall_set_of hI.ws ?_⟩
    split <;> exact wokg_keep (hmem hw) rfl rfl trivial
  | readLbX i n hw =>
    exact ⟨hI.base, forall_set_of hI.ws (wokg_keep (hmem hw) rfl rfl ⟨hI.base.lbLo, hI.base.lbHi⟩)⟩
  | updateX i n lb o hw =>
    obtain ⟨f1, f2⟩ := hfX _ _ _ ((hmem hw).node n rfl) (hmem hw).stage
    refine ⟨baseOk_update hI.base f1 f2, forall_set_of hI.ws ?_⟩
    split
    · exact wokg_keep (hmem hw) rfl rfl trivial
    · exact wokg_keep (hmem hw) rfl rfl (hmem hw).stage
  | enqueue i n lb o hw =>
    have f3 := hcX _ _ _ ((hmem hw).node n rfl) (hmem hw).stage
    obtain ⟨e1, e2⟩ := enqueue_lb_sol sv.dedup s.crit.base o.cutset
    exact ⟨hI.base.of_lb_sol (enqueue_forall (C01.NodeOk sv.P) (C01.nodeOk_ub sv.P) sv.dedup s.crit.base o.cutset hI.base.fr
        (fun c hc => (f3 c hc).1)) e1 e2, forall_set_of hI.ws (wokg_keep (hmem hw) rfl rfl trivial)⟩
  | abort i n top hw htop =>
    exact ⟨hI.base.of_eq (fun c hc => by cases hc) rfl rfl, forall_set_of hI.ws (wokg_keep (hmem hw) rfl rfl trivial)⟩
  | notify i n te c' hw hn =>
    obtain ⟨n1, _, _, _⟩ := notify_spec hn
    refine ⟨by rw [n1]; exact hI.base, forall_set_of (fun w hw' => ?_) ?_⟩
    · obtain ⟨w0, hw0, rfl⟩ := List.mem_map.mp hw'
      exact wokg_wake (hI.ws w0 hw0)
    · cases te
      · exact wokg_free rfl trivial
      · exact wokg_free rfl trivial

theorem okRm_ansFacts {sv : SolverCfg S} {H : Nat → S → EInt} {B0 B : Int} (hwf : WellFormed sv H B0 B) :
    AnsFacts sv H B (okRm sv) := fun _ _ _ hn hok => okRm_facts hwf hn hok

theorem okXm_ansFacts {sv : SolverCfg S} {H : Nat → S → EInt} {B0 B : Int} (hwf : WellFormed sv H B0 B) :
    AnsFacts sv H B (okXm sv) ∧ CutFacts sv (okXm sv) :=
  ⟨fun _ _ _ hn hok => ⟨(okXm_facts hwf hn hok).1, (okXm_facts hwf hn hok).2.1⟩,
   fun _ _ _ hn hok => (okXm_facts hwf hn hok).2.2⟩

theorem pstep_pcinv {sv : SolverCfg S} {H : Nat → S → EInt} {B0 B : Int} (hwf : WellFormed sv H B0 B) {s t : Sys S}
    (h : PStep sv s t) (hI : PCInv sv H B s) : PCInv sv H B t :=
  pcinv_iff.mpr (gstep_pcinv (okRm_ansFacts hwf) (okXm_ansFacts hwf).1 (okXm_ansFacts hwf).2 h (pcinv_iff.mp hI))

theorem prun_pcinv {sv : SolverCfg S} {H : Nat → S → EInt} {B0 B : Int} (hwf : WellFormed sv H B0 B) {s t : Sys S}
    (h : PRun sv s t) (hI : PCInv sv H B s) : PCInv sv H B t := by
  induction h with
  | refl => exact hI
  | tail _ hst ih => exact pstep_pcinv hwf hst ih

/-- the answer of the diagram model **together with** the side conditions of the diagram theorems -/
def okR' (sv : SolverCfg S) (B : Int) (n : SubP S) (lb : Int) (o : DDOut S) : Prop :=
  okRm sv n lb o ∧ C01.NodeOk sv.P n ∧ iMin ≤ lb ∧ lb ≤ B
def okX' (sv : SolverCfg S) (B : Int) (n : SubP S) (lb : Int) (o : DDOut S) : Prop :=
  okXm sv n lb o ∧ C01.NodeOk sv.P n ∧ iMin ≤ lb ∧ lb ≤ B

theorem lb_range {sv : SolverCfg S} {H : Nat → S → EInt} {B0 B : Int} (hwf : WellFormed sv H B0 B) {lb : Int}
    (h1 : iMin ≤ lb) (h2 : lb ≤ B) : InI lb ∧ lb < iMax :=
  C01.inI_of_le h1 h2 hwf.bound.B_small

/-- **the contract of the restricted compilation, discharged**: relative to the (stale) incumbent `lb` the worker read -/
theorem okR'_contract {sv : SolverCfg S} {H : Nat → S → EInt} {B0 B : Int} (hwf : WellFormed sv H B0 B) {opt : Int}
    (hopt : (H 0 sv.P.init).addI sv.P.initVal = some opt) (n : SubP S) (lb : Int) (o : DDOut S)
    (h : okR' sv B n lb o) : OkR (optOf H) opt (SolOf sv.P) n lb o := by
  obtain ⟨⟨cache, store, polls, hout, rfl⟩, ⟨p0, hroot, hperm⟩, h1, h2⟩ := h
  obtain ⟨hlb1, hlb2⟩ := lb_range hwf h1 h2
  exact C01.compileOk_restricted (sv.cfg .restricted n lb) H B opt p0 cache store polls rfl rfl rfl hwf.pot hwf.rub
    (hwf.bound.noClamp_at hwf.nv hroot) hlb1 hlb2 hroot hperm hopt hout

/-- **the contracts of the relaxed compilation, discharged** (`CompileOk` and, all four fields, `CutsetOk`) -/
theorem okX'_contract {sv : SolverCfg S} {H : Nat → S → EInt} {B0 B : Int} (hwf : WellFormed sv H B0 B) {opt : Int}
    (hopt : (H 0 sv.P.init).addI sv.P.initVal = some opt) (n : SubP S) (lb : Int) (o : DDOut S)
    (h : okX' sv B n lb o) : OkX (optOf H) opt (SolOf sv.P) n lb o := by
  obtain ⟨⟨cache, store, polls, hout, rfl⟩, ⟨p0, hroot, hperm⟩, h1, h2⟩ := h
  obtain ⟨hlb1, hlb2⟩ := lb_range hwf h1 h2
  have hBN : NoClamp sv.P sv.R n.value B := hwf.bound.noClamp_at hwf.nv hroot
  refine ⟨?_, fun _ => ?_⟩
  · exact C01.compileOk_relaxed (sv.cfg .relaxed n lb) H B opt p0 cache store polls rfl rfl rfl (hwf.width n) hwf.pot
      hwf.rub hwf.merge hwf.attMerge hBN hlb1 hlb2 hroot hperm hopt hout
  · exact C01.cutsetOk_relaxed (sv.cfg .relaxed n lb) H B opt p0 cache store polls none rfl rfl rfl (hwf.width n) hwf.pot
      hwf.rub hwf.merge hwf.attMerge hBN hlb1 hlb2 hroot hopt hout _ (.inl rfl)

/-- the progress clause C08 (ii) and the depth bound, for `ProgOk` -/
theorem okX'_progress {sv : SolverCfg S} {H : Nat → S → EInt} {B0 B : Int} (hwf : WellFormed sv H B0 B)
    (n : SubP S) (lb : Int) (o : DDOut S) (h : okX' sv B n lb o) :
    ∀ c ∈ o.cutset, n.depth < c.depth ∧ c.depth ≤ sv.P.nbVars :=
  fun c hc => ((okXm_facts hwf h.2.1 h.1).2.2 c hc).2

theorem pstep_lift {sv : SolverCfg S} {H : Nat → S → EInt} {B : Int} {s t : Sys S}
    (h : PStep sv s t) (hI : PCInv sv H B s) : Step sv.dedup (okR' sv B) (okX' sv B) s t :=
  step_mono h
    (fun i n lb o hw hok => ⟨hok, (hI.ws _ (List.mem_of_getElem? hw)).node n rfl, (hI.ws _ (List.mem_of_getElem? hw)).stage⟩)
    (fun i n lb o hw hok => ⟨hok, (hI.ws _ (List.mem_of_getElem? hw)).node n rfl, (hI.ws _ (List.mem_of_getElem? hw)).stage⟩)

theorem pstep_unlift {sv : SolverCfg S} {B : Int} {s t : Sys S}
    (h : Step sv.dedup (okR' sv B) (okX' sv B) s t) : PStep sv s t :=
  step_mono h (fun _ _ _ _ _ hok => hok.1) (fun _ _ _ _ _ hok => hok.1)

theorem prun_lift {sv : SolverCfg S} {H : Nat → S → EInt} {B0 B : Int} (hwf : WellFormed sv H B0 B) {s t : Sys S}
    (h : PRun sv s t) (hI : PCInv sv H B s) : Run sv.dedup (okR' sv B) (okX' sv B) s t ∧ PCInv sv H B t := by
  induction h with
  | refl => exact ⟨RunG.refl _, hI⟩
  | tail _ hst ih => exact ⟨RunG.tail ih.1 (pstep_lift hst ih.2), pstep_pcinv hwf hst ih.2⟩

theorem solOf_facts {sv : SolverCfg S} {H : Nat → S → EInt} {B0 B : Int} (hwf : WellFormed sv H B0 B)
    {p : List Dec} {v : Int} (h : SolOf sv.P p v) :
    -B ≤ v ∧ v ≤ B ∧ ∃ x, (H 0 sv.P.init).addI sv.P.initVal = some x ∧ v ≤ x := by
  obtain ⟨k, s, q, L, hr, hs, hnv, _⟩ := h
  obtain ⟨h1, h2⟩ := hwf.bound.value_le hwf.nv hr
  obtain ⟨x, hx, hle⟩ := complete_le_opt (N := ⟨sv.P.init, sv.P.initVal, [], 0, 0⟩) (lowRel_of_potential hwf.pot) Reach.root
    trivial (q := q) (by simpa using hr) hs hnv
  exact ⟨h1, h2, x, hx, hle⟩

/-- **`PCInv` holds initially** (`with_nb_threads(U)` + optional `set_primal` with a feasible solution + `initialize`) -/
theorem init_pcinv {sv : SolverCfg S} {H : Nat → S → EInt} {B0 B : Int} (hwf : WellFormed sv H B0 B)
    (primal : Option (Int × List Dec)) (hp : ∀ v sol, primal = some (v, sol) → SolOf sv.P sol v) (U : Nat) :
    PCInv sv H B (Sys.init sv.P primal sv.dedup U) := by
  obtain ⟨b1, _, _, b4, b5⟩ := init_base sv.P primal sv.dedup
  have hB0 := hwf.bound.clamp.nonneg
  -- the incumbent after `set_primal`: the sentinel, or the value of a feasible solution
  have hlb : iMin ≤ primalLb primal ∧ primalLb primal ≤ B ∧
      ((H 0 sv.P.init).addI sv.P.initVal = none → primalLb primal = iMin ∧ primalSol primal = none) := by
    rcases primal_cases primal with ⟨h1, h2⟩ | ⟨v, sol, rfl, hv, h1, _⟩
    · rw [h1]; exact ⟨Int.le_refl _, by simp only [iMin]; omega, fun _ => ⟨rfl, h2⟩⟩
    · obtain ⟨_, hvB, x, hx, _⟩ := solOf_facts hwf (hp v sol rfl)
      rw [h1]; exact ⟨Int.le_of_lt hv, hvB, fun hinf => by rw [hinf] at hx; cases hx⟩
  refine ⟨⟨?_, ?_, ?_, init_noSol sv.P primal sv.dedup U, ?_⟩, ?_⟩
  · intro c hc
    have hc : c ∈ (SeqSt.init sv.P primal sv.dedup).fringe := hc
    rw [b1] at hc
    rcases List.mem_cons.mp hc with e | e
    · subst e; exact ⟨[], Reach.root, List.Perm.refl _⟩
    · cases e
  · show iMin ≤ (SeqSt.init sv.P primal sv.dedup).bestLb
    rw [b4]; exact hlb.1
  · show (SeqSt.init sv.P primal sv.dedup).bestLb ≤ B
    rw [b4]; exact hlb.2.1
  · show _ → (SeqSt.init sv.P primal sv.dedup).bestLb = iMin ∧ (SeqSt.init sv.P primal sv.dedup).bestSol = none
    rw [b4, b5]; exact hlb.2.2
  · intro w hw
    rw [init_idle hw]
    exact wokp_free rfl trivial

end Ddo.ParClosed
