import DdoModel.Props.C10c
import DdoModel.Proofs.CompileJoint
import DdoModel.Proofs.CacheClosedSolver
/-! # C09 + C10 together — `JointSound`: the sequential solver with the threshold cache **and** the dominance checker, for
**every** rule: termination, no panic, soundness of what is reported

`Props/C10c.lean` shows that the joint solver does not return the optimum in general (finding D17) and states
`JointSound`.  It is proved here (`jointSound`), with no hypothesis on the rule: both filters only remove nodes of the diagram
(`Proofs/CompileJoint.lean`: no compilation crashes, the store keeps its shape, every `update_threshold` is in range, a
reported exact value is the value of the reported solution, a feasible complete path), so the order-free invariant
`Ddo.C09.KInvAny` of the caching solver — plus "the store has `nb_variables + 1` layers" — is kept by every turn (`kdturn_inv`),
and the sequential state makes a `Step` of `Props/C01t.lean` (termination measure). -/
set_option linter.unusedSectionVars false
set_option linter.unusedVariables false
namespace Ddo.C10c
open Ddo Ddo.C01 Ddo.Closed Ddo.C09 Ddo.C10 Ddo.Truth
variable {S K : Type} [DecidableEq S] [DecidableEq K]

theorem _root_.Ddo.C01.WellFormed.noClamp {sv : SolverCfg S} {H : Nat → S → EInt} {B0 B : Int} (hwf : WellFormed sv H B0 B)
    {k : Nat} {s : S} {v : Int} {p : List Dec} (hr : Reach sv.P k s v p) : NoClamp sv.P sv.R v B :=
  hwf.bound.noClamp_at hwf.nv hr

/-- **the soundness invariant of the solver with cache and checker**: every open sub-problem is reached exactly; the incumbent is
    `isize::MIN` or the value of the stored solution, a feasible complete path (hence `≤` the optimum); nothing is reported for an
    infeasible problem; no abort; cache and store have `nb_variables + 1` layers; the `open_by_layer` bookkeeping is exact and
    nothing crashed.  Nothing is said of the contents of the cache or of the store. -/
structure JSInv (dv : DSolverCfg S K) (H : Nat → S → EInt) (s : KDSt S K) : Prop where
  nodes : ∀ c ∈ s.st.fringe, C01.NodeOk dv.sv.P c
  lbLo : iMin ≤ s.st.bestLb
  solLb : s.st.bestSol = none → s.st.bestLb = iMin
  noAbort : s.st.abort = false
  snd : ∀ opt, (H 0 dv.sv.P.init).addI dv.sv.P.initVal = some opt →
    s.st.bestLb ≤ opt ∧ ∀ p, s.st.bestSol = some p → SolOf dv.sv.P p s.st.bestLb
  infeas : (H 0 dv.sv.P.init).addI dv.sv.P.initVal = none → s.st.bestLb = iMin ∧ s.st.bestSol = none
  clen : s.cache.layers.length = dv.sv.P.nbVars + 1
  slen : s.store.layers.length = dv.sv.P.nbVars + 1
  lay : LInv dv.sv s.st

theorem JSInv.optimal {dv : DSolverCfg S K} {H : Nat → S → EInt} {B0 B opt : Int} (hwf : WellFormed dv.sv H B0 B)
    (hopt : (H 0 dv.sv.P.init).addI dv.sv.P.initVal = some opt) {t : KDSt S K} (hJ : JSInv dv H t)
    (hge : opt ≤ t.st.bestLb) :
    t.st.bestLb = opt ∧ (∃ p, t.st.bestSol = some p ∧ SolOf dv.sv.P p opt) ∧ t.st.completion = (true, some opt) := by
  obtain ⟨hle, hsol⟩ := hJ.snd opt hopt
  have heq : t.st.bestLb = opt := Int.le_antisymm hle hge
  cases hs : t.st.bestSol with
  | none => exact absurd (heq.symm.trans (hJ.solLb hs)) (Int.ne_of_gt (hwf.opt_range hopt).1)
  | some p =>
    refine ⟨heq, ⟨p, rfl, heq ▸ hsol p hs⟩, ?_⟩
    unfold SeqSt.completion
    rw [hJ.noAbort, hs, heq]; rfl

theorem kdcomp_facts {dv : DSolverCfg S K} {H : Nat → S → EInt} {B0 B : Int} (hwf : WellFormed dv.sv H B0 B)
    (ct : CompType) (N : SubP S) (lb : Int) (p0 : List Dec) (hroot : Reach dv.sv.P N.depth N.state N.value p0)
    (c : Cache S) (d : DomStore S K) (hclen : c.layers.length = dv.sv.P.nbVars + 1)
    (hslen : d.layers.length = dv.sv.P.nbVars + 1) :
    (compile (dv.kdcfg ct N lb) c d 0 none).1 = .ok ∧
    (compile (dv.kdcfg ct N lb) c d 0 none).2.2.2.store.layers.length = dv.sv.P.nbVars + 1 ∧
    ∃ c', applyUps c (compile (dv.kdcfg ct N lb) c d 0 none).2.1.cacheUpdates.reverse = some c' ∧
      c'.layers.length = dv.sv.P.nbVars + 1 ∧
      viewOf c' = (viewOf c).upds (compile (dv.kdcfg ct N lb) c d 0 none).2.1.cacheUpdates.reverse := by
  have hBN := hwf.noClamp hroot
  obtain ⟨hok, hs⟩ := compile_no_crash_joint (dv.kdcfg ct N lb) B p0 c d 0 (hwf.width N) hwf.nv hBN hroot hslen
  have hdep := ups_depth_joint (dv.kdcfg ct N lb) B p0 c d 0 hBN hwf.nv hroot hok
  obtain ⟨c', hc', hl', hv'⟩ := applyUps_spec (compile (dv.kdcfg ct N lb) c d 0 none).2.1.cacheUpdates.reverse c (by
    intro u hu
    rw [hclen]; exact Nat.lt_succ_of_le (hdep u (List.mem_reverse.mp hu)))
  exact ⟨hok, hs, c', hc', hl'.trans hclen, hv'⟩

theorem kdprocess_eq (dv : DSolverCfg S K) (st : SeqSt S) (c0 c1 c2 : Cache S) (d0 : DomStore S K) (N : SubP S)
    (cR cX : Outcome × Result S × Option (Result S) × DD S K)
    (hub : ¬ N.ub ≤ st.bestLb) (hmeT : c0.mustExplore N.state N.depth N.value = some true)
    (hr : dv.kdcompR c0 d0 N st.bestLb = cR) (hokR : cR.1 = .ok)
    (hc1 : applyUps c0 cR.2.1.cacheUpdates.reverse = some c1)
    (hx : dv.kdcompX c1 cR.2.2.2.store N (st.updateBest (toOut cR.2.1)).bestLb = cX) (hokX : cX.1 = .ok)
    (hc2 : applyUps c1 cX.2.1.cacheUpdates.reverse = some c2) :
    dv.kdprocess st c0 d0 N = some ⟨(st.process dv.sv.dedup N true (.ok (toOut cR.2.1)) (.ok (toOut cX.2.1))).1,
      if cR.2.1.isExact then c1 else c2, if cR.2.1.isExact then cR.2.2.2.store else cX.2.2.2.store⟩ := by
  unfold DSolverCfg.kdprocess
  rw [if_neg hub, hmeT]
  simp only [hr, hokR, ne_eq, not_true_eq_false, if_false, hc1]
  rw [process_main dv.sv.dedup st N (toOut cR.2.1) (toOut cX.2.1) hub]
  have e1 : (toOut cR.2.1).isExact = cR.2.1.isExact := rfl
  have e2 : (toOut cX.2.1).isExact = cX.2.1.isExact := rfl
  have e3 : (toOut cX.2.1).cutset = cX.2.1.cutset := rfl
  rw [e1, e2, e3]
  cases hre : cR.2.1.isExact with
  | true => simp only [if_true]
  | false =>
    simp only [Bool.false_eq_true, if_false, hx, hokX, not_true_eq_false, hc2]
    cases hxe : cX.2.1.isExact <;> simp only [Bool.false_eq_true, if_false, if_true]

/-- a turn that compiles the popped node `N` (reached exactly along `p0`): `cR`, `cX` are the restricted and the relaxed
    compilation, `c1`, `c2` the caches after their updates -/
structure Compiled (dv : DSolverCfg S K) (st : SeqSt S) (c0 : Cache S) (d0 : DomStore S K) (N : SubP S) (p0 : List Dec)
    (c1 c2 : Cache S) (cR cX : Outcome × Result S × Option (Result S) × DD S K) : Prop where
  eR : cR = dv.kdcompR c0 d0 N st.bestLb
  eX : cX = dv.kdcompX c1 cR.2.2.2.store N (st.updateBest (toOut cR.2.1)).bestLb
  view1 : viewOf c1 = (viewOf c0).upds cR.2.1.cacheUpdates.reverse
  view2 : viewOf c2 = (viewOf c1).upds cX.2.1.cacheUpdates.reverse
  okR : cR.1 = .ok
  okX : cX.1 = .ok
  len1 : c1.layers.length = dv.sv.P.nbVars + 1
  len2 : c2.layers.length = dv.sv.P.nbVars + 1
  storeR : cR.2.2.2.store.layers.length = dv.sv.P.nbVars + 1
  storeX : cX.2.2.2.store.layers.length = dv.sv.P.nbVars + 1
  solR : ∀ w, (toOut cR.2.1).bestExact = some w →
    IsSol (dv.kdcfg .restricted N st.bestLb) p0 w (toOut cR.2.1).bestExactSol
  solX : ∀ w, (toOut cX.2.1).bestExact = some w →
    IsSol (dv.kdcfg .relaxed N (st.updateBest (toOut cR.2.1)).bestLb) p0 w (toOut cX.2.1).bestExactSol
  cutset : ∀ c ∈ cX.2.1.cutset, C01.NodeOk dv.sv.P c ∧ N.depth < c.depth ∧ c.depth ≤ dv.sv.P.nbVars
  out : dv.kdprocess st c0 d0 N = some ⟨(st.process dv.sv.dedup N true (.ok (toOut cR.2.1)) (.ok (toOut cX.2.1))).1,
    if cR.2.1.isExact then c1 else c2, if cR.2.1.isExact then cR.2.2.2.store else cX.2.2.2.store⟩

theorem kdprocess_compiled {dv : DSolverCfg S K} {H : Nat → S → EInt} {B0 B : Int} (hwf : WellFormed dv.sv H B0 B)
    (st : SeqSt S) (c0 : Cache S) (d0 : DomStore S K) (N : SubP S) (p0 : List Dec)
    (hroot : Reach dv.sv.P N.depth N.state N.value p0) (hperm : N.path.Perm p0)
    (hclen : c0.layers.length = dv.sv.P.nbVars + 1) (hslen : d0.layers.length = dv.sv.P.nbVars + 1)
    (hub : ¬ N.ub ≤ st.bestLb) (hmeT : c0.mustExplore N.state N.depth N.value = some true) :
    ∃ c1 c2 cR cX, Compiled dv st c0 d0 N p0 c1 c2 cR cX := by
  have hBN := hwf.noClamp hroot
  obtain ⟨hokR, hsR, c1, hc1, hl1, hv1⟩ := kdcomp_facts hwf .restricted N st.bestLb p0 hroot c0 d0 hclen hslen
  generalize hr : compile (dv.kdcfg .restricted N st.bestLb) c0 d0 0 none = cR at *
  obtain ⟨hokX, hsX, c2, hc2, hl2, hv2⟩ := kdcomp_facts hwf .relaxed N (st.updateBest (toOut cR.2.1)).bestLb p0 hroot c1
    cR.2.2.2.store hl1 hsR
  refine ⟨c1, c2, cR, _, hr.symm, rfl, hv1, hv2, hokR, hokX, hl1, hl2, hsR, hsX, ?_, ?_, ?_,
    kdprocess_eq dv st c0 c1 c2 d0 N cR _ hub hmeT hr hokR hc1 rfl hokX hc2⟩
  · intro w hw
    rw [← hr]
    exact isSol_restricted (dv.kdcfg .restricted N st.bestLb) B p0 c0 d0 0 none rfl hBN hroot (hr ▸ hokR) w (hr ▸ hw)
  · exact fun w hw => isSol_relaxed_joint (dv.kdcfg .relaxed N (st.updateBest (toOut cR.2.1)).bestLb) B p0 c1
      cR.2.2.2.store 0 rfl (hwf.width N) hBN hroot hokX w hw
  · intro c hc
    have h := cutset_node_facts (dv.kdcfg .relaxed N (st.updateBest (toOut cR.2.1)).bestLb) B p0 c1 cR.2.2.2.store 0 none
      hwf.nv hroot hperm hBN hokX _ (.inl rfl) c hc
    exact ⟨h.1, h.2.1 rfl, h.2.2⟩

/-- **the three courses of `process_one_node` with cache and checker**: the popped node is cut by its bound, or refused by
    `must_explore` (both leave the state as it is), or compiled -/
theorem kdprocess_cases {dv : DSolverCfg S K} {H : Nat → S → EInt} {B0 B : Int} (hwf : WellFormed dv.sv H B0 B)
    (st : SeqSt S) (c0 : Cache S) (d0 : DomStore S K) (N : SubP S) (p0 : List Dec)
    (hroot : Reach dv.sv.P N.depth N.state N.value p0) (hperm : N.path.Perm p0)
    (hclen : c0.layers.length = dv.sv.P.nbVars + 1) (hslen : d0.layers.length = dv.sv.P.nbVars + 1) :
    (N.ub ≤ st.bestLb ∧ dv.kdprocess st c0 d0 N = some ⟨st, c0, d0⟩) ∨
    (¬ N.ub ≤ st.bestLb ∧ prunM (viewOf c0) N ∧ dv.kdprocess st c0 d0 N = some ⟨st, c0, d0⟩) ∨
    (¬ N.ub ≤ st.bestLb ∧ ¬ prunM (viewOf c0) N ∧ c0.mustExplore N.state N.depth N.value = some true ∧
      ∃ c1 c2 cR cX, Compiled dv st c0 d0 N p0 c1 c2 cR cX) := by
  have hme := mustExplore_view c0 N (by rw [hclen]; exact Nat.lt_succ_of_le (reach_depth_le hwf.nv hroot))
  by_cases hub : N.ub ≤ st.bestLb
  · exact .inl ⟨hub, by unfold DSolverCfg.kdprocess; rw [if_pos hub]⟩
  by_cases hp : prunM (viewOf c0) N
  · exact .inr (.inl ⟨hub, hp, by
      unfold DSolverCfg.kdprocess; rw [if_neg hub, hme, decide_eq_false (fun hn => hn hp)]⟩)
  · have hmeT : c0.mustExplore N.state N.depth N.value = some true := by rw [hme, decide_eq_true hp]
    exact .inr (.inr ⟨hub, hp, hmeT, kdprocess_compiled hwf st c0 d0 N p0 hroot hperm hclen hslen hub hmeT⟩)

/-- the incumbent (bound and stored solution) after a turn with two compilations is that of the state before, after the first
    update or after both: what holds of the three holds of it -/
theorem process_incumbent (Q : Int → Option (List Dec) → Prop) (dedup : Bool) (st : SeqSt S) (N : SubP S) (me : Bool)
    (r x : DDOut S) (h0 : Q st.bestLb st.bestSol) (h1 : Q (st.updateBest r).bestLb (st.updateBest r).bestSol)
    (h2 : Q ((st.updateBest r).updateBest x).bestLb ((st.updateBest r).updateBest x).bestSol) :
    Q (st.process dedup N me (.ok r) (.ok x)).1.bestLb (st.process dedup N me (.ok r) (.ok x)).1.bestSol := by
  rcases process_lb_sol dedup st N me r x with ⟨e1, e2⟩ | ⟨e1, e2⟩ | ⟨e1, e2⟩
  · rw [e1, e2]; exact h0
  · rw [e1, e2]; exact h1
  · rw [e1, e2]; exact h2

theorem kdprocess_inv {dv : DSolverCfg S K} {H : Nat → S → EInt} {B0 B : Int} (hwf : WellFormed dv.sv H B0 B)
    (st : SeqSt S) (c0 : Cache S) (d0 : DomStore S K) (N : SubP S)
    (hN : C01.NodeOk dv.sv.P N) (hnodes : ∀ c ∈ st.fringe, C01.NodeOk dv.sv.P c) (hlbLo : iMin ≤ st.bestLb)
    (hsolLb : st.bestSol = none → st.bestLb = iMin) (hab : st.abort = false)
    (hsnd : ∀ opt, (H 0 dv.sv.P.init).addI dv.sv.P.initVal = some opt →
      st.bestLb ≤ opt ∧ ∀ p, st.bestSol = some p → SolOf dv.sv.P p st.bestLb)
    (hinf : (H 0 dv.sv.P.init).addI dv.sv.P.initVal = none → st.bestLb = iMin ∧ st.bestSol = none)
    (hclen : c0.layers.length = dv.sv.P.nbVars + 1) (hslen : d0.layers.length = dv.sv.P.nbVars + 1)
    (hlay : LayersOk dv.sv.P.nbVars st.openByLayer st.fringe) (hcr : st.crashed = false) :
    ∃ (t : KDSt S K) (me : Bool) (r x : DDRes S), dv.kdprocess st c0 d0 N = some t ∧
      t.st = (st.process dv.sv.dedup N me r x).1 ∧
      (∀ o, x = .ok o → ∀ c ∈ o.cutset, N.depth < c.depth ∧ c.depth ≤ dv.sv.P.nbVars) ∧ JSInv dv H t := by
  obtain ⟨p0, hroot, hperm⟩ := hN
  have hsame : JSInv dv H ⟨st, c0, d0⟩ := ⟨hnodes, hlbLo, hsolLb, hab, hsnd, hinf, hclen, hslen, ⟨hlay, hcr⟩⟩
  rcases kdprocess_cases hwf st c0 d0 N p0 hroot hperm hclen hslen with
    ⟨hub, hk⟩ | ⟨_, _, hk⟩ | ⟨hub, _, _, c1, c2, cR, cX, hC⟩
  · exact ⟨⟨st, c0, d0⟩, true, .cutoff, .cutoff, hk, (process_skip_ub dv.sv.dedup st N true _ _ hub).symm,
      (fun o ho => by cases ho), hsame⟩
  · exact ⟨⟨st, c0, d0⟩, false, .cutoff, .cutoff, hk, (process_skip_me dv.sv.dedup st N _ _).symm,
      (fun o ho => by cases ho), hsame⟩
  have sR := hC.solR
  have sX := hC.solX
  have hcsX := hC.cutset
  have eR : ∀ w, (toOut cR.2.1).bestExact = some w → ∃ p, (toOut cR.2.1).bestExactSol = some p :=
    fun w hw => isSol_some (sR w hw)
  have eX : ∀ w, (toOut cX.2.1).bestExact = some w → ∃ p, (toOut cX.2.1).bestExactSol = some p :=
    fun w hw => isSol_some (sX w hw)
  refine ⟨_, true, .ok (toOut cR.2.1), .ok (toOut cX.2.1), hC.out, rfl, ?_, ?_⟩
  · intro o ho c hc
    injection ho with ho
    subst ho
    exact (hcsX c hc).2
  · refine ⟨?_, ?_, ?_, ?_, ?_, ?_, ?_, ?_, ?_⟩
    · refine process_forall (C01.NodeOk dv.sv.P) (nodeOk_ub dv.sv.P) dv.sv.dedup st N true _ _ hnodes ?_
      intro o ho c hc
      injection ho with ho
      subst ho
      exact (hcsX c hc).1
    · have h1 := updateBest_lb_ge st (toOut cR.2.1)
      have h2 := updateBest_lb_ge (st.updateBest (toOut cR.2.1)) (toOut cX.2.1)
      exact process_incumbent (fun lb _ => iMin ≤ lb) dv.sv.dedup st N true _ _ hlbLo (Int.le_trans hlbLo h1)
        (Int.le_trans hlbLo (Int.le_trans h1 h2))
    · have a1 := updateBest_solLb st _ eR hsolLb
      have a2 := updateBest_solLb (st.updateBest (toOut cR.2.1)) _ eX a1
      exact process_incumbent (fun lb sol => sol = none → lb = iMin) dv.sv.dedup st N true _ _ hsolLb a1 a2
    · show (st.process dv.sv.dedup N true (.ok (toOut cR.2.1)) (.ok (toOut cX.2.1))).1.abort = false
      rw [process_abort]; exact hab
    ·
      intro opt hopt
      obtain ⟨hl0, hs0⟩ := hsnd opt hopt
      have hrs : ∀ w, (toOut cR.2.1).bestExact = some w →
          ∃ p, (toOut cR.2.1).bestExactSol = some p ∧ SolOf dv.sv.P p w ∧ w ≤ opt := by
        intro w hw
        exact (isSol_facts (dv.kdcfg .restricted N st.bestLb) H opt p0 hwf.pot hroot hperm hopt w _ (sR w hw)).1
      have hxs : ∀ w, (toOut cX.2.1).bestExact = some w →
          ∃ p, (toOut cX.2.1).bestExactSol = some p ∧ SolOf dv.sv.P p w ∧ w ≤ opt := by
        intro w hw
        exact (isSol_facts (dv.kdcfg .relaxed N (st.updateBest (toOut cR.2.1)).bestLb) H opt p0 hwf.pot hroot hperm hopt w _
          (sX w hw)).1
      obtain ⟨hl1', hs1⟩ := Ddo.C09.updateBest_ok' opt (SolOf dv.sv.P) st (toOut cR.2.1) hl0 hs0 hrs
      obtain ⟨hl2', hs2⟩ := Ddo.C09.updateBest_ok' opt (SolOf dv.sv.P) (st.updateBest (toOut cR.2.1)) (toOut cX.2.1) hl1' hs1 hxs
      exact process_incumbent (fun lb sol => lb ≤ opt ∧ ∀ p, sol = some p → SolOf dv.sv.P p lb) dv.sv.dedup st N true _ _
        ⟨hl0, hs0⟩ ⟨hl1', hs1⟩ ⟨hl2', hs2⟩
    · intro hinf'
      have hdead : optOf H N = none := reach_dead hwf.pot hinf' hroot
      have nR : (toOut cR.2.1).bestExact = none := by
        cases hb : (toOut cR.2.1).bestExact with
        | none => rfl
        | some w =>
          obtain ⟨y, hy, _⟩ := within_of_isSol (dv.kdcfg .restricted N st.bestLb) H p0 hwf.pot hroot w _ (sR w hb)
          rw [show optOf H (dv.kdcfg .restricted N st.bestLb).root = optOf H N from rfl, hdead] at hy
          cases hy
      have nX : (toOut cX.2.1).bestExact = none := by
        cases hb : (toOut cX.2.1).bestExact with
        | none => rfl
        | some w =>
          obtain ⟨y, hy, _⟩ := within_of_isSol (dv.kdcfg .relaxed N (st.updateBest (toOut cR.2.1)).bestLb) H p0 hwf.pot hroot
            w _ (sX w hb)
          rw [show optOf H (dv.kdcfg .relaxed N (st.updateBest (toOut cR.2.1)).bestLb).root = optOf H N from rfl, hdead] at hy
          cases hy
      have u1 := updateBest_none st _ nR
      have u2 := updateBest_none (st.updateBest (toOut cR.2.1)) _ nX
      exact process_incumbent (fun lb sol => lb = iMin ∧ sol = none) dv.sv.dedup st N true _ _ (hinf hinf')
        (by rw [u1]; exact hinf hinf') (by rw [u2, u1]; exact hinf hinf')
    · show (if cR.2.1.isExact then c1 else c2).layers.length = dv.sv.P.nbVars + 1
      cases cR.2.1.isExact with
      | true => exact hC.len1
      | false => exact hC.len2
    · show (if cR.2.1.isExact then cR.2.2.2.store else cX.2.2.2.store).layers.length = dv.sv.P.nbVars + 1
      cases cR.2.1.isExact with
      | true => exact hC.storeR
      | false => exact hC.storeX
    · obtain ⟨h3, h4⟩ := process_layers dv.sv.P.nbVars dv.sv.dedup st N true (toOut cR.2.1) (toOut cX.2.1)
        (fun c hc => (hcsX c hc).2.2) hlay
      exact ⟨h3, h4.trans hcr⟩

/-- **one turn of the solver with cache and checker, any popped node, any rule**: no panic, the invariant is preserved, the
    sequential state makes a `Step` of `Props/C01t.lean` -/
theorem kdturn_inv {dv : DSolverCfg S K} {H : Nat → S → EInt} {B0 B : Int} (hwf : WellFormed dv.sv H B0 B)
    (s : KDSt S K) (N : SubP S) (rest : List (SubP S)) (hpop : s.st.fringe.Perm (N :: rest)) (hI : JSInv dv H s) :
    ∃ t, dv.kdturn s N rest = some t ∧ JSInv dv H t ∧ C01t.Step dv.sv.P.nbVars dv.sv.dedup s.st t.st := by
  obtain ⟨c0, hc0, hl0, _⟩ := cleanCache_spec dv.sv.P.nbVars s.st.openByLayer dv.sv.P.nbVars s.st.firstActive s.cache hI.clen
  generalize hfa : cleanLoop dv.sv.P.nbVars s.st.openByLayer dv.sv.P.nbVars s.st.firstActive = fa
  obtain ⟨f1, f2, f3⟩ := popped_fields s.st N rest fa
  have hNok : C01.NodeOk dv.sv.P N := hI.nodes N (hpop.mem_iff.mpr List.mem_cons_self)
  obtain ⟨p0, hroot, _⟩ := hNok
  have hdN := reach_depth_le hwf.nv hroot
  obtain ⟨g1, g2⟩ := afterPop_layers dv.sv.P.nbVars s.st N rest fa hdN hpop hI.lay.1
  obtain ⟨t, me, r, x, hk, hst, hprog, hT⟩ := kdprocess_inv hwf (popped s.st N rest fa) c0 s.store N
    (hI.nodes N (hpop.mem_iff.mpr List.mem_cons_self))
    (by rw [f1]; exact fun c hc => hI.nodes c (hpop.mem_iff.mpr (List.mem_cons_of_mem _ hc)))
    (by rw [f2]; exact hI.lbLo) (by rw [f2, f3]; exact hI.solLb) (by rw [popped_more]; exact hI.noAbort)
    (by rw [f2, f3]; exact hI.snd) (by rw [f2, f3]; exact hI.infeas) hl0 hI.slen g1 (g2.trans hI.lay.2)
  refine ⟨t, ?_, hT, ?_⟩
  · unfold DSolverCfg.kdturn
    rw [hc0, hfa]
    exact hk
  · rw [hst]
    exact C01t.Step.pop s.st N rest fa me r x hpop hprog

theorem init_jsinv {dv : DSolverCfg S K} {H : Nat → S → EInt} {B0 B : Int} (hwf : WellFormed dv.sv H B0 B) :
    JSInv dv H (KDSt.init dv) := by
  have hfr : (SeqSt.init dv.sv.P none dv.sv.dedup).fringe = [⟨dv.sv.P.init, dv.sv.P.initVal, [], iMax, 0⟩] := by
    cases hd : dv.sv.dedup <;> rfl
  refine ⟨?_, Int.le_refl _, fun _ => rfl, rfl, ?_, fun _ => ⟨rfl, rfl⟩, ?_, ?_, init_linv dv.sv⟩
  · intro c hc
    rw [show (KDSt.init dv).st.fringe = _ from hfr] at hc
    rcases List.mem_cons.mp hc with e | e
    · subst e; exact ⟨[], Reach.root, List.Perm.refl _⟩
    · cases e
  · intro opt hopt
    exact ⟨Int.le_of_lt (hwf.opt_range hopt).1, fun p hp => by cases hp⟩
  · show (Cache.init dv.sv.P.nbVars : Cache S).layers.length = dv.sv.P.nbVars + 1
    simp [Cache.init]
  · show (DomStore.init dv.sv.P.nbVars : DomStore S K).layers.length = dv.sv.P.nbVars + 1
    simp [DomStore.init]

theorem kdstep_inv {dv : DSolverCfg S K} {H : Nat → S → EInt} {B0 B : Int} (hwf : WellFormed dv.sv H B0 B) {s t : KDSt S K}
    (h : KDStep dv s t) (hI : JSInv dv H s) : JSInv dv H t ∧ C01t.Step dv.sv.P.nbVars dv.sv.dedup s.st t.st := by
  cases h with
  | pop N rest hpop hmax hturn =>
    obtain ⟨t', ht', hT, hS⟩ := kdturn_inv hwf s N rest hpop hI
    rw [hturn] at ht'
    cases ht'
    exact ⟨hT, hS⟩

theorem kdrun_inv {dv : DSolverCfg S K} {H : Nat → S → EInt} {B0 B : Int} (hwf : WellFormed dv.sv H B0 B) {s t : KDSt S K}
    (h : KDRun dv s t) (hI : JSInv dv H s) : JSInv dv H t := by
  induction h with
  | refl => exact hI
  | tail _ hstep ih => exact (kdstep_inv hwf hstep ih).1

theorem kdstep_terminates {dv : DSolverCfg S K} {H : Nat → S → EInt} {B0 B : Int} (hwf : WellFormed dv.sv H B0 B) :
    WellFounded (fun t s : KDSt S K => JSInv dv H s ∧ KDStep dv s t) :=
  Subrelation.wf (r := InvImage (fun t s : SeqSt S => C01t.Step dv.sv.P.nbVars dv.sv.dedup s t) KDSt.st)
    (fun {_ _} h => (kdstep_inv hwf h.2 h.1).2) (InvImage.wf _ (C01t.seq_terminates dv.sv.P.nbVars dv.sv.dedup))

theorem kdstep_progress {dv : DSolverCfg S K} {H : Nat → S → EInt} {B0 B : Int} (hwf : WellFormed dv.sv H B0 B) {s : KDSt S K}
    (hI : JSInv dv H s) (hne : s.st.fringe ≠ []) : ∃ t, KDStep dv s t := by
  obtain ⟨N, rest, hp⟩ := popMax_some s.st.fringe hne
  obtain ⟨hpop, hmax⟩ := popMax_spec s.st.fringe N rest hp
  obtain ⟨t, ht, _, _⟩ := kdturn_inv hwf s N rest hpop hI
  exact ⟨t, KDStep.pop s t N rest hpop hmax ht⟩

/-- **`JointSound`** (stated in `Props/C10c.lean`): for every well-formed model and **every** dominance rule, the
    sequential solver with the threshold cache and the dominance checker terminates, never panics, is never aborted, and only
    ever reports the value of a stored solution that is a feasible complete path (so `best_lb ≤ optimum`; nothing is reported
    for an infeasible problem) -/
theorem jointSound : JointSound := by
  intro S K _ _ dv H B0 B hwf
  refine ⟨?_, fun t ht => ?_⟩
  · exact Subrelation.wf (fun {_ _} h => ⟨kdrun_inv hwf h.1 (init_jsinv hwf), h.2⟩) (kdstep_terminates hwf)
  · have hI := kdrun_inv hwf ht (init_jsinv hwf)
    exact ⟨fun hne => kdstep_progress hwf hI hne, hI.lay.2, hI.noAbort, hI.snd, fun hinf => (hI.infeas hinf).2⟩

end Ddo.C10c

#print axioms Ddo.C10c.kdprocess_inv
#print axioms Ddo.C10c.kdturn_inv
#print axioms Ddo.C10c.jointSound
