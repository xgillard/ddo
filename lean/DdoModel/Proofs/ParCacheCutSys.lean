import DdoModel.Proofs.ParCacheSys
/-! # The parallel solver WITH the threshold cache AND the cut-off — the transition system `KStepC`

`Proofs/ParCacheSys.lean` (`KStep`) is the parallel solver with the shared `SimpleCache`, every single cache access a step of
its own, **without** cut-off.  Here the cut-off is added, exactly as `parallel.rs` has it:

* a compilation may end with `Err(reason)` at any poll (`clean.rs:352`, before `_compute_thresholds`: a cut-off compilation has
  issued reads only, no `update_threshold`).  The worker then calls `abort_search(reason, node.ub)`, a critical section.  A
  worker whose compilation has returned `Err` and that waits for the mutex is indistinguishable from a worker that is still
  compiling, so the two are one step: `abortR` (from stage `compR`) / `abortX` (from stage `compX`), enabled when nobody is
  inside `get_workload` (`LockFree`: `get_workload` holds the mutex over several steps).  Effect = `abortK`:
  `ParCrit.abortSearch s.crit n.ub top` (the bound `fold(current_ub, upper_bounds, max)`, `max top.ub` for the `fringe.pop()`
  — `AbortTop` —, `max best_ub` if `abort_proof.is_some()`, finally `.max(best_lb)`; `abort_proof = Some`; `fringe.clear()`
  — `open_by_layer` is NOT touched) and `shared.cache.clear()` (`Cache.clear`; the ghost log records the new content).
  The worker then runs `notify_node_finished` and `break`s: its index is recorded in `exits`, `notifyExit` sends it to `done`.
  **Modelling assumption:** `cache.clear()` is ONE atomic step here; in the code it is a loop of per-layer `DashMap::clear()`s
  under the mutex, with which the lock-free writes of other workers interleave.  Nothing proved about `KStepC` depends on the
  content of the cache once the flag is up (`Ddo.C05e.cache_content_irrelevant`: the invariants survive the replacement of
  the cache by any cache of the same shape; the termination measure does not mention the cache).
* `get_workload`: after the cleaning loop, `if critical.abort_proof.is_some() { return Aborted }` (`gwAborted`) **before** the
  completion / wait / pop tests, which therefore carry `abort = false` here (`gwComplete`, `gwWait`, `gwToPop`).  The cleaning
  loop itself (`gwClear`) runs whatever the flag says, as in the code.
* every other step is the step of `KStep` of the same name, unchanged: in particular the workers that were compiling when
  another one aborted go on — they end their compilation, WRITE their thresholds into the cleared cache (`writeR` / `writeX`),
  publish (`updateR` / `updateX`), enqueue their cut-set onto the cleared fringe (`enqueue`), notify, and leave through
  `gwAborted` at their next `get_workload`; a later `abortR` / `abortX` of one of them accumulates the bound. -/
set_option linter.unusedSectionVars false
set_option linter.unusedVariables false
namespace Ddo.ParCache
open Ddo Ddo.C09 Ddo.ParSys
variable {S : Type} [DecidableEq S]

/-- the cached parallel system plus the set of workers that have run `abort_search` (they leave after their
    `notify_node_finished`) -/
structure KSysC (S : Type) where
  k : KSys S
  exits : List Nat

def KSysC.init (P : Problem S) (dedup : Bool) (U : Nat) : KSysC S := ⟨KSys.init P dedup U, []⟩

/-- `abort_search(reason, n.ub)` by worker `i`: the `Critical` part (`ParCrit.abortSearch`, the code as it is since D4b),
    `shared.cache.clear()`, and the worker goes on to `notify_node_finished` -/
def abortK (s : KSys S) (i : Nat) (n : SubP S) (top : Option Int) : KSys S :=
  { crit := s.crit.abortSearch n.ub top, cache := s.cache.clear, log := s.cache.clear :: s.log, ws := s.ws.set i (.fin n) }

/-- **the steps of the parallel caching solver with cut-off** -/
inductive KStepC (nbVars : Nat) (dedup : Bool)
    (okR okX : SubP S → Int → Cache S → DDOut S → List (Up S) → Prop) : KSysC S → KSysC S → Prop
  /- ### `get_workload(i)` -/
  | gwEnter (s : KSys S) (e : List Nat) (i : Nat) (hw : s.ws[i]? = some .idle) (hl : LockFree s) :
      KStepC nbVars dedup okR okX ⟨s, e⟩ ⟨{ s with ws := s.ws.set i .gwC }, e⟩
  | gwClear (s : KSys S) (e : List Nat) (i : Nat) (c' : Cache S) (hw : s.ws[i]? = some .gwC) (hc : cleanCond nbVars s.crit)
      (hcl : s.cache.clearLayer s.crit.base.firstActive = some c') :
      KStepC nbVars dedup okR okX ⟨s, e⟩ ⟨{ s with crit := bumpFirst s.crit, cache := c', log := c' :: s.log }, e⟩
  /-- `if critical.abort_proof.is_some() { return WorkLoad::Aborted; }` — the worker `break`s -/
  | gwAborted (s : KSys S) (e : List Nat) (i : Nat) (hw : s.ws[i]? = some .gwC) (hc : ¬ cleanCond nbVars s.crit)
      (ha : s.crit.base.abort = true) :
      KStepC nbVars dedup okR okX ⟨s, e⟩ ⟨{ s with ws := s.ws.set i .done }, e⟩
  | gwComplete (s : KSys S) (e : List Nat) (i : Nat) (hw : s.ws[i]? = some .gwC) (hc : ¬ cleanCond nbVars s.crit)
      (ha : s.crit.base.abort = false) (ho : s.crit.ongoing = 0) (hf : s.crit.base.fringe = []) :
      KStepC nbVars dedup okR okX ⟨s, e⟩ ⟨{ s with crit := s.crit.complete, ws := s.ws.set i .done }, e⟩
  | gwWait (s : KSys S) (e : List Nat) (i : Nat) (hw : s.ws[i]? = some .gwC) (hc : ¬ cleanCond nbVars s.crit)
      (ha : s.crit.base.abort = false) (ho : s.crit.ongoing ≠ 0) (hf : s.crit.base.fringe = []) :
      KStepC nbVars dedup okR okX ⟨s, e⟩ ⟨{ s with ws := s.ws.set i .waiting }, e⟩
  | gwToPop (s : KSys S) (e : List Nat) (i : Nat) (hw : s.ws[i]? = some .gwC) (hc : ¬ cleanCond nbVars s.crit)
      (ha : s.crit.base.abort = false) (hf : s.crit.base.fringe ≠ []) :
      KStepC nbVars dedup okR okX ⟨s, e⟩ ⟨{ s with ws := s.ws.set i .gwP }, e⟩
  | gwEmpty (s : KSys S) (e : List Nat) (i : Nat) (hw : s.ws[i]? = some .gwP) (hf : s.crit.base.fringe = []) :
      KStepC nbVars dedup okR okX ⟨s, e⟩ ⟨{ s with ws := s.ws.set i .idle }, e⟩
  | gwStarve (s : KSys S) (e : List Nat) (i : Nat) (N : SubP S) (rest : List (SubP S)) (hw : s.ws[i]? = some .gwP)
      (hp : PopMax s.crit.base.fringe N rest) (hub : N.ub ≤ s.crit.base.bestLb) :
      KStepC nbVars dedup okR okX ⟨s, e⟩ ⟨{ s with crit := starve s.crit, ws := s.ws.set i .idle }, e⟩
  | gwDrop (s : KSys S) (e : List Nat) (i : Nat) (N : SubP S) (rest : List (SubP S)) (c' : ParCrit S)
      (hw : s.ws[i]? = some .gwP) (hp : PopMax s.crit.base.fringe N rest) (hub : ¬ N.ub ≤ s.crit.base.bestLb)
      (hme : s.cache.mustExplore N.state N.depth N.value = some false) (hd : dropOne s.crit N rest = some c') :
      KStepC nbVars dedup okR okX ⟨s, e⟩ ⟨{ s with crit := c' }, e⟩
  | gwKeep (s : KSys S) (e : List Nat) (i : Nat) (N : SubP S) (rest : List (SubP S)) (hw : s.ws[i]? = some .gwP)
      (hp : PopMax s.crit.base.fringe N rest) (hub : ¬ N.ub ≤ s.crit.base.bestLb)
      (hme : s.cache.mustExplore N.state N.depth N.value = some true) :
      KStepC nbVars dedup okR okX ⟨s, e⟩ ⟨{ s with crit := setFringe s.crit rest, ws := s.ws.set i (.gwW N) }, e⟩
  | gwTake (s : KSys S) (e : List Nat) (i : Nat) (n : SubP S) (c' : Cache S) (crit' : ParCrit S)
      (hw : s.ws[i]? = some (.gwW n)) (hu : s.cache.update n.state n.depth ⟨n.value, true⟩ = some c')
      (ht : s.crit.take i n = some crit') :
      KStepC nbVars dedup okR okX ⟨s, e⟩ ⟨{ crit := crit', cache := c', log := c' :: s.log, ws := s.ws.set i (.readR n) }, e⟩
  /- ### `process_one_node` -/
  | readLbR (s : KSys S) (e : List Nat) (i : Nat) (n : SubP S) (hw : s.ws[i]? = some (.readR n)) (hl : LockFree s) :
      KStepC nbVars dedup okR okX ⟨s, e⟩
        ⟨{ s with ws := s.ws.set i (if n.ub ≤ s.crit.readLb then .fin n else .compR n s.crit.readLb s.log.length) }, e⟩
  | compileR (s : KSys S) (e : List Nat) (i : Nat) (n : SubP S) (lb : Int) (k0 : Nat) (cv : Cache S) (o : DDOut S)
      (ups : List (Up S)) (hw : s.ws[i]? = some (.compR n lb k0)) (hcv : FromLog cv s.log (s.log.length + 1 - k0))
      (hok : okR n lb cv o ups) :
      KStepC nbVars dedup okR okX ⟨s, e⟩ ⟨{ s with ws := s.ws.set i (.wrR n lb o cv ups ups) }, e⟩
  | writeR (s : KSys S) (e : List Nat) (i : Nat) (n : SubP S) (lb : Int) (o : DDOut S) (cv : Cache S) (ups : List (Up S))
      (u : Up S) (todo : List (Up S)) (c' : Cache S) (hw : s.ws[i]? = some (.wrR n lb o cv ups (u :: todo)))
      (hu : s.cache.update u.1 u.2.1 (upThr u) = some c') :
      KStepC nbVars dedup okR okX ⟨s, e⟩
        ⟨{ s with cache := c', log := c' :: s.log, ws := s.ws.set i (.wrR n lb o cv ups todo) }, e⟩
  | updateR (s : KSys S) (e : List Nat) (i : Nat) (n : SubP S) (lb : Int) (o : DDOut S) (cv : Cache S) (ups : List (Up S))
      (hw : s.ws[i]? = some (.wrR n lb o cv ups [])) (hl : LockFree s) :
      KStepC nbVars dedup okR okX ⟨s, e⟩
        ⟨{ s with crit := s.crit.updateBest o, ws := s.ws.set i (if o.isExact then .fin n else .readX n) }, e⟩
  | readLbX (s : KSys S) (e : List Nat) (i : Nat) (n : SubP S) (hw : s.ws[i]? = some (.readX n)) (hl : LockFree s) :
      KStepC nbVars dedup okR okX ⟨s, e⟩ ⟨{ s with ws := s.ws.set i (.compX n s.crit.readLb s.log.length) }, e⟩
  | compileX (s : KSys S) (e : List Nat) (i : Nat) (n : SubP S) (lb : Int) (k0 : Nat) (cv : Cache S) (o : DDOut S)
      (ups : List (Up S)) (hw : s.ws[i]? = some (.compX n lb k0)) (hcv : FromLog cv s.log (s.log.length + 1 - k0))
      (hok : okX n lb cv o ups) :
      KStepC nbVars dedup okR okX ⟨s, e⟩ ⟨{ s with ws := s.ws.set i (.wrX n lb o cv ups ups) }, e⟩
  | writeX (s : KSys S) (e : List Nat) (i : Nat) (n : SubP S) (lb : Int) (o : DDOut S) (cv : Cache S) (ups : List (Up S))
      (u : Up S) (todo : List (Up S)) (c' : Cache S) (hw : s.ws[i]? = some (.wrX n lb o cv ups (u :: todo)))
      (hu : s.cache.update u.1 u.2.1 (upThr u) = some c') :
      KStepC nbVars dedup okR okX ⟨s, e⟩
        ⟨{ s with cache := c', log := c' :: s.log, ws := s.ws.set i (.wrX n lb o cv ups todo) }, e⟩
  | updateX (s : KSys S) (e : List Nat) (i : Nat) (n : SubP S) (lb : Int) (o : DDOut S) (cv : Cache S) (ups : List (Up S))
      (hw : s.ws[i]? = some (.wrX n lb o cv ups [])) (hl : LockFree s) :
      KStepC nbVars dedup okR okX ⟨s, e⟩
        ⟨{ s with crit := s.crit.updateBest o, ws := s.ws.set i (if o.isExact then .fin n else .enq n lb o cv ups) }, e⟩
  | enqueue (s : KSys S) (e : List Nat) (i : Nat) (n : SubP S) (lb : Int) (o : DDOut S) (cv : Cache S) (ups : List (Up S))
      (hw : s.ws[i]? = some (.enq n lb o cv ups)) (hl : LockFree s) :
      KStepC nbVars dedup okR okX ⟨s, e⟩ ⟨{ s with crit := s.crit.enqueue dedup o.cutset, ws := s.ws.set i (.fin n) }, e⟩
  /- ### cut-off: `Err(reason)` from a compilation, then `abort_search(reason, node.ub)` -/
  | abortR (s : KSys S) (e : List Nat) (i : Nat) (n : SubP S) (lb : Int) (k0 : Nat) (top : Option Int)
      (hw : s.ws[i]? = some (.compR n lb k0)) (hl : LockFree s) (htop : AbortTop s.crit.base.fringe top) :
      KStepC nbVars dedup okR okX ⟨s, e⟩ ⟨abortK s i n top, i :: e⟩
  | abortX (s : KSys S) (e : List Nat) (i : Nat) (n : SubP S) (lb : Int) (k0 : Nat) (top : Option Int)
      (hw : s.ws[i]? = some (.compX n lb k0)) (hl : LockFree s) (htop : AbortTop s.crit.base.fringe top) :
      KStepC nbVars dedup okR okX ⟨s, e⟩ ⟨abortK s i n top, i :: e⟩
  /- ### `notify_node_finished(i, depth)` -/
  | notify (s : KSys S) (e : List Nat) (i : Nat) (n : SubP S) (c' : ParCrit S) (hw : s.ws[i]? = some (.fin n))
      (hl : LockFree s) (hi : i ∉ e) (hn : s.crit.notifyFinished i n.depth = some c') :
      KStepC nbVars dedup okR okX ⟨s, e⟩ ⟨{ s with crit := c', ws := (s.ws.map KW.wake).set i .idle }, e⟩
  /-- `notify_node_finished` of a worker that has run `abort_search`, then `break` -/
  | notifyExit (s : KSys S) (e : List Nat) (i : Nat) (n : SubP S) (c' : ParCrit S) (hw : s.ws[i]? = some (.fin n))
      (hl : LockFree s) (hi : i ∈ e) (hn : s.crit.notifyFinished i n.depth = some c') :
      KStepC nbVars dedup okR okX ⟨s, e⟩ ⟨{ s with crit := c', ws := (s.ws.map KW.wake).set i .done }, e⟩
  /- ### a panic -/
  | crash (s : KSys S) (e : List Nat) (i : Nat) (w : KW S) (hw : s.ws[i]? = some w) (hp : Panics nbVars s i w) :
      KStepC nbVars dedup okR okX ⟨s, e⟩ ⟨{ s with ws := s.ws.set i .crashed }, e⟩

inductive KRunC (nbVars : Nat) (dedup : Bool) (okR okX : SubP S → Int → Cache S → DDOut S → List (Up S) → Prop) :
    KSysC S → KSysC S → Prop
  | refl (s : KSysC S) : KRunC nbVars dedup okR okX s s
  | tail {s t u : KSysC S} : KRunC nbVars dedup okR okX s t → KStepC nbVars dedup okR okX t u →
      KRunC nbVars dedup okR okX s u

theorem KRunC.trans {nbVars : Nat} {dedup : Bool} {okR okX : SubP S → Int → Cache S → DDOut S → List (Up S) → Prop}
    {s t u : KSysC S} (h1 : KRunC nbVars dedup okR okX s t) (h2 : KRunC nbVars dedup okR okX t u) :
    KRunC nbVars dedup okR okX s u := by
  induction h2 with
  | refl => exact h1
  | tail _ hs ih => exact .tail ih hs

/-- the four kinds of steps that `KStep` does not have -/
inductive NewStep (nbVars : Nat) : KSysC S → KSysC S → Prop
  | gwAborted (s : KSys S) (e : List Nat) (i : Nat) (hw : s.ws[i]? = some .gwC) (hc : ¬ cleanCond nbVars s.crit)
      (ha : s.crit.base.abort = true) : NewStep nbVars ⟨s, e⟩ ⟨{ s with ws := s.ws.set i .done }, e⟩
  | abortR (s : KSys S) (e : List Nat) (i : Nat) (n : SubP S) (lb : Int) (k0 : Nat) (top : Option Int)
      (hw : s.ws[i]? = some (.compR n lb k0)) (hl : LockFree s) (htop : AbortTop s.crit.base.fringe top) :
      NewStep nbVars ⟨s, e⟩ ⟨abortK s i n top, i :: e⟩
  | abortX (s : KSys S) (e : List Nat) (i : Nat) (n : SubP S) (lb : Int) (k0 : Nat) (top : Option Int)
      (hw : s.ws[i]? = some (.compX n lb k0)) (hl : LockFree s) (htop : AbortTop s.crit.base.fringe top) :
      NewStep nbVars ⟨s, e⟩ ⟨abortK s i n top, i :: e⟩
  | notifyExit (s : KSys S) (e : List Nat) (i : Nat) (n : SubP S) (c' : ParCrit S) (hw : s.ws[i]? = some (.fin n))
      (hl : LockFree s) (hi : i ∈ e) (hn : s.crit.notifyFinished i n.depth = some c') :
      NewStep nbVars ⟨s, e⟩ ⟨{ s with crit := c', ws := (s.ws.map KW.wake).set i .done }, e⟩

theorem dropOne_flag {c c' : ParCrit S} {N : SubP S} {rest : List (SubP S)} (h : dropOne c N rest = some c') :
    c'.base.abort = c.base.abort ∧ c'.base.bestUb = c.base.bestUb := by
  unfold dropOne at h
  split at h
  · cases h; exact ⟨rfl, rfl⟩
  · cases h

theorem take_flag {c c' : ParCrit S} {i : Nat} {n : SubP S} (h : c.take i n = some c') :
    c'.base.abort = c.base.abort ∧ c'.base.bestUb = c.base.bestUb :=
  ⟨(take_spec h).2.2.2.2.1, (take_spec h).2.2.2.1⟩

theorem updateBest_flag (b : SeqSt S) (o : DDOut S) :
    (b.updateBest o).abort = b.abort ∧ (b.updateBest o).bestUb = b.bestUb :=
  ⟨(updateBest_fringe b o).2.2.1, (updateBest_fringe b o).2.1⟩

theorem enqueue_flag (dedup : Bool) (b : SeqSt S) (cs : List (SubP S)) :
    (b.enqueue dedup cs).abort = b.abort ∧ (b.enqueue dedup cs).bestUb = b.bestUb :=
  ⟨(enqueue_fields dedup b cs).2.2.2, (enqueue_fields dedup b cs).2.2.1⟩

theorem notify_flag {c c' : ParCrit S} {i d : Nat} (h : c.notifyFinished i d = some c') :
    c'.base.abort = c.base.abort ∧ c'.base.bestUb = c.base.bestUb := by
  rw [(notify_spec h).1]; exact ⟨rfl, rfl⟩

/-- a step of the system with cut-off is a step of the system without — same `exits`, and it leaves the flag alone and,
    once the flag is up, the recorded bound (`gwComplete`, which overwrites it, asks for the flag to be down) — or one of the
    four new steps -/
theorem KStepC.toBase {nbVars : Nat} {dedup : Bool} {okR okX : SubP S → Int → Cache S → DDOut S → List (Up S) → Prop}
    {s t : KSysC S} (h : KStepC nbVars dedup okR okX s t) :
    (KStep nbVars dedup okR okX s.k t.k ∧ t.exits = s.exits ∧ t.k.crit.base.abort = s.k.crit.base.abort ∧
      (s.k.crit.base.abort = true → t.k.crit.base.bestUb = s.k.crit.base.bestUb)) ∨ NewStep nbVars s t := by
  have keep : ∀ {a b : Bool} {x y : Int}, a = b ∧ x = y → a = b ∧ (b = true → x = y) := fun h => ⟨h.1, fun _ => h.2⟩
  cases h with
  | gwEnter s e i hw hl => exact .inl ⟨.gwEnter s i hw hl, rfl, keep ⟨rfl, rfl⟩⟩
  | gwClear s e i c' hw hc hcl => exact .inl ⟨.gwClear s i c' hw hc hcl, rfl, keep ⟨rfl, rfl⟩⟩
  | gwAborted s e i hw hc ha => exact .inr (.gwAborted s e i hw hc ha)
  | gwComplete s e i hw hc ha ho hf =>
    exact .inl ⟨.gwComplete s i hw hc ho hf, rfl, rfl, fun h => absurd (h.symm.trans ha) (by decide)⟩
  | gwWait s e i hw hc ha ho hf => exact .inl ⟨.gwWait s i hw hc ho hf, rfl, keep ⟨rfl, rfl⟩⟩
  | gwToPop s e i hw hc ha hf => exact .inl ⟨.gwToPop s i hw hc hf, rfl, keep ⟨rfl, rfl⟩⟩
  | gwEmpty s e i hw hf => exact .inl ⟨.gwEmpty s i hw hf, rfl, keep ⟨rfl, rfl⟩⟩
  | gwStarve s e i N rest hw hp hub => exact .inl ⟨.gwStarve s i N rest hw hp hub, rfl, keep ⟨rfl, rfl⟩⟩
  | gwDrop s e i N rest c' hw hp hub hme hd =>
    exact .inl ⟨.gwDrop s i N rest c' hw hp hub hme hd, rfl, keep (dropOne_flag hd)⟩
  | gwKeep s e i N rest hw hp hub hme => exact .inl ⟨.gwKeep s i N rest hw hp hub hme, rfl, keep ⟨rfl, rfl⟩⟩
  | gwTake s e i n c' crit' hw hu ht => exact .inl ⟨.gwTake s i n c' crit' hw hu ht, rfl, keep (take_flag ht)⟩
  | readLbR s e i n hw hl => exact .inl ⟨.readLbR s i n hw hl, rfl, keep ⟨rfl, rfl⟩⟩
  | compileR s e i n lb k0 cv o ups hw hcv hok =>
    exact .inl ⟨.compileR s i n lb k0 cv o ups hw hcv hok, rfl, keep ⟨rfl, rfl⟩⟩
  | writeR s e i n lb o cv ups u todo c' hw hu =>
    exact .inl ⟨.writeR s i n lb o cv ups u todo c' hw hu, rfl, keep ⟨rfl, rfl⟩⟩
  | updateR s e i n lb o cv ups hw hl =>
    exact .inl ⟨.updateR s i n lb o cv ups hw hl, rfl, keep (updateBest_flag s.crit.base o)⟩
  | readLbX s e i n hw hl => exact .inl ⟨.readLbX s i n hw hl, rfl, keep ⟨rfl, rfl⟩⟩
  | compileX s e i n lb k0 cv o ups hw hcv hok =>
    exact .inl ⟨.compileX s i n lb k0 cv o ups hw hcv hok, rfl, keep ⟨rfl, rfl⟩⟩
  | writeX s e i n lb o cv ups u todo c' hw hu =>
    exact .inl ⟨.writeX s i n lb o cv ups u todo c' hw hu, rfl, keep ⟨rfl, rfl⟩⟩
  | updateX s e i n lb o cv ups hw hl =>
    exact .inl ⟨.updateX s i n lb o cv ups hw hl, rfl, keep (updateBest_flag s.crit.base o)⟩
  | enqueue s e i n lb o cv ups hw hl =>
    exact .inl ⟨.enqueue s i n lb o cv ups hw hl, rfl, keep (enqueue_flag dedup s.crit.base o.cutset)⟩
  | abortR s e i n lb k0 top hw hl htop => exact .inr (.abortR s e i n lb k0 top hw hl htop)
  | abortX s e i n lb k0 top hw hl htop => exact .inr (.abortX s e i n lb k0 top hw hl htop)
  | notify s e i n c' hw hl hi hn => exact .inl ⟨.notify s i n c' hw hl hn, rfl, keep (notify_flag hn)⟩
  | notifyExit s e i n c' hw hl hi hn => exact .inr (.notifyExit s e i n c' hw hl hi hn)
  | crash s e i w hw hp => exact .inl ⟨.crash s i w hw hp, rfl, keep ⟨rfl, rfl⟩⟩

/-- a step of the system without cut-off, taken while the flag is down or while nobody is inside `get_workload`, is a step
    of the system with cut-off — unless it is the `notify_node_finished` of a worker that has run `abort_search`, which
    `break`s instead of going back to `idle` -/
theorem KStep.toC_or {nbVars : Nat} {dedup : Bool} {okR okX : SubP S → Int → Cache S → DDOut S → List (Up S) → Prop}
    {s t : KSys S} (h : KStep nbVars dedup okR okX s t) (hg : s.crit.base.abort = false ∨ LockFree s) (e : List Nat) :
    KStepC nbVars dedup okR okX ⟨s, e⟩ ⟨t, e⟩ ∨
    ∃ i ∈ e, ∃ n c', s.ws[i]? = some (.fin n) ∧ LockFree s ∧ s.crit.notifyFinished i n.depth = some c' := by
  have gw : ∀ {i : Nat}, s.ws[i]? = some .gwC → s.crit.base.abort = false :=
    fun hw => hg.elim id (fun hl => nomatch hl _ (List.mem_of_getElem? hw))
  cases h with
  | gwEnter i hw hl => exact .inl (.gwEnter s e i hw hl)
  | gwClear i c' hw hc hcl => exact .inl (.gwClear s e i c' hw hc hcl)
  | gwComplete i hw hc ho hf => exact .inl (.gwComplete s e i hw hc (gw hw) ho hf)
  | gwWait i hw hc ho hf => exact .inl (.gwWait s e i hw hc (gw hw) ho hf)
  | gwToPop i hw hc hf => exact .inl (.gwToPop s e i hw hc (gw hw) hf)
  | gwEmpty i hw hf => exact .inl (.gwEmpty s e i hw hf)
  | gwStarve i N rest hw hp hub => exact .inl (.gwStarve s e i N rest hw hp hub)
  | gwDrop i N rest c' hw hp hub hme hd => exact .inl (.gwDrop s e i N rest c' hw hp hub hme hd)
  | gwKeep i N rest hw hp hub hme => exact .inl (.gwKeep s e i N rest hw hp hub hme)
  | gwTake i n c' crit' hw hu ht => exact .inl (.gwTake s e i n c' crit' hw hu ht)
  | readLbR i n hw hl => exact .inl (.readLbR s e i n hw hl)
  | compileR i n lb k0 cv o ups hw hcv hok => exact .inl (.compileR s e i n lb k0 cv o ups hw hcv hok)
  | writeR i n lb o cv ups u todo c' hw hu => exact .inl (.writeR s e i n lb o cv ups u todo c' hw hu)
  | updateR i n lb o cv ups hw hl => exact .inl (.updateR s e i n lb o cv ups hw hl)
  | readLbX i n hw hl => exact .inl (.readLbX s e i n hw hl)
  | compileX i n lb k0 cv o ups hw hcv hok => exact .inl (.compileX s e i n lb k0 cv o ups hw hcv hok)
  | writeX i n lb o cv ups u todo c' hw hu => exact .inl (.writeX s e i n lb o cv ups u todo c' hw hu)
  | updateX i n lb o cv ups hw hl => exact .inl (.updateX s e i n lb o cv ups hw hl)
  | enqueue i n lb o cv ups hw hl => exact .inl (.enqueue s e i n lb o cv ups hw hl)
  | notify i n c' hw hl hn =>
    by_cases hi : i ∈ e
    · exact .inr ⟨i, hi, n, c', hw, hl, hn⟩
    · exact .inl (.notify s e i n c' hw hl hi hn)
  | crash i w hw hp => exact .inl (.crash s e i w hw hp)

/-- as long as the flag is down (then `exits` is empty) a step of the system without cut-off is a step of the system with -/
theorem KStep.toC {nbVars : Nat} {dedup : Bool} {okR okX : SubP S → Int → Cache S → DDOut S → List (Up S) → Prop}
    {s t : KSys S} (h : KStep nbVars dedup okR okX s t) (ha : s.crit.base.abort = false) (e : List Nat)
    (he : ∀ i, i ∉ e) : KStepC nbVars dedup okR okX ⟨s, e⟩ ⟨t, e⟩ :=
  (h.toC_or (.inl ha) e).resolve_right (fun ⟨i, hi, _⟩ => he i hi)

/-- a step of `KStep` never raises the flag: it leaves the flag and the recorded bound alone, or it is the `Complete` exit
    (`best_ub := best_lb`).  Hence a run of `KStep` from a state with the flag down is a run of `KStepC` (`C05e.kprun_toC`) -/
theorem KStep.abort_eq {nbVars : Nat} {dedup : Bool} {okR okX : SubP S → Int → Cache S → DDOut S → List (Up S) → Prop}
    {s t : KSys S} (h : KStep nbVars dedup okR okX s t) :
    t.crit.base.abort = s.crit.base.abort ∧ t.crit.base.bestUb = s.crit.base.bestUb ∨
    (∃ i, CompletesAt nbVars s i ∧ t.crit = s.crit.complete) := by
  cases h with
  | gwComplete i hw hc ho hf => exact .inr ⟨i, ⟨hw, hc, ho, hf⟩, rfl⟩
  | gwDrop i N rest c' hw hp hub hme hd => exact .inl (dropOne_flag hd)
  | gwTake i n c' crit' hw hu ht => exact .inl (take_flag ht)
  | updateR i n lb o cv ups hw hl => exact .inl (updateBest_flag s.crit.base o)
  | updateX i n lb o cv ups hw hl => exact .inl (updateBest_flag s.crit.base o)
  | enqueue i n lb o cv ups hw hl => exact .inl (enqueue_flag dedup s.crit.base o.cutset)
  | notify i n c' hw hl hn => exact .inl (notify_flag hn)
  | _ => exact .inl ⟨rfl, rfl⟩

/-- a step either leaves the flag alone (and, if it is up, the recorded bound), or is an `abort_search` -/
theorem KStepC.flag {nbVars : Nat} {dedup : Bool} {okR okX : SubP S → Int → Cache S → DDOut S → List (Up S) → Prop}
    {s t : KSysC S} (h : KStepC nbVars dedup okR okX s t) :
    (t.k.crit.base.abort = s.k.crit.base.abort ∧ (s.k.crit.base.abort = true → t.k.crit.base.bestUb = s.k.crit.base.bestUb)) ∨
    (∃ (i : Nat) (n : SubP S) (top : Option Int),
      (∃ lb k0, s.k.ws[i]? = some (.compR n lb k0) ∨ s.k.ws[i]? = some (.compX n lb k0)) ∧ LockFree s.k ∧
      AbortTop s.k.crit.base.fringe top ∧ t.k = abortK s.k i n top) := by
  rcases h.toBase with ⟨_, _, h1, h2⟩ | hn
  · exact .inl ⟨h1, h2⟩
  · cases hn with
    | gwAborted s e i hw hc ha => exact .inl ⟨rfl, fun _ => rfl⟩
    | abortR s e i n lb k0 top hw hl htop => exact .inr ⟨i, n, top, ⟨lb, k0, .inl hw⟩, hl, htop, rfl⟩
    | abortX s e i n lb k0 top hw hl htop => exact .inr ⟨i, n, top, ⟨lb, k0, .inr hw⟩, hl, htop, rfl⟩
    | notifyExit s e i n c' hw hl hi hn => exact .inl ⟨(notify_flag hn).1, fun _ => (notify_flag hn).2⟩

theorem KStepC.flag_stays {nbVars : Nat} {dedup : Bool} {okR okX : SubP S → Int → Cache S → DDOut S → List (Up S) → Prop}
    {s t : KSysC S} (h : KStepC nbVars dedup okR okX s t) (ha : s.k.crit.base.abort = true) :
    t.k.crit.base.abort = true := by
  rcases h.flag with ⟨h1, _⟩ | ⟨_, n, top, _, _, _, e⟩
  · exact h1.trans ha
  · rw [e]; rfl

/-- after any of the four new steps the flag is up (`exits` holds only workers that have run `abort_search`) -/
theorem newstep_flag_up {nbVars : Nat} {s t : KSysC S} (h : NewStep nbVars s t)
    (hex : ∀ i ∈ s.exits, s.k.crit.base.abort = true) : t.k.crit.base.abort = true := by
  cases h with
  | gwAborted s e i hw hc ha => exact ha
  | abortR s e i n lb k0 top hw hl htop => rfl
  | abortX s e i n lb k0 top hw hl htop => rfl
  | notifyExit s e i n c' hw hl hi hn => exact (congrArg SeqSt.abort (notify_spec hn).1).trans (hex i hi)

end Ddo.ParCache
