import DdoModel.Proofs.ParSysInv
/-! What `maximize()` returns when no cut-off happened: an auxiliary invariant `DoneInv` of the concrete
    parallel system saying that a worker can only have left its loop, with the abort flag down, through
    `Complete` — and then nothing is open any more, for ever.  With `SysInv` this gives the final-state
    theorem `final_optimal`.  Core Lean only. -/
set_option linter.unusedSectionVars false
set_option linter.unusedVariables false
namespace Ddo.ParSys
variable {S : Type} [DecidableEq S]

/-- (1) if some worker has left and the search is not aborted, nothing is in the fringe, nothing is in
    progress and `best_ub = best_lb`; (2) a worker on its way out after its own `abort_search` implies
    the abort flag -/
structure DoneInv (s : Sys S) : Prop where
  closed : (∃ j : Nat, s.ws[j]? = some .done) → s.crit.base.abort = false →
    s.crit.base.fringe = [] ∧ s.crit.ongoing = 0 ∧ s.crit.base.bestUb = s.crit.base.bestLb
  exiting : ∀ (j : Nat) (n : SubP S), s.ws[j]? = some (.fin n true) → s.crit.base.abort = true

section
variable (Phi : SubP S → EInt) (opt : Int) (Sol : List Dec → Int → Prop)

/-- a cell found equal to `x` after another value was written somewhere held `x` before -/
theorem get_set_of_ne {α : Type} {l : List α} {i j : Nat} {a x : α} (hne : a ≠ x) (h : (l.set i a)[j]? = some x) :
    l[j]? = some x := by
  rcases get_set_split h with ⟨_, e⟩ | ⟨_, e⟩
  · exact absurd e.symm hne
  · exact e

/-- a step of a worker that holds a node, that does not lower the abort flag and sends nobody new to `done`
    or to `fin _ true` keeps `DoneInv` -/
theorem done_of_holder {s : Sys S} (hi : SysInv Phi opt Sol s) (hd : DoneInv s) {i : Nat} {w : WSt S}
    (hw : s.ws[i]? = some w) (hh : w.holds = true) (c' : ParCrit S) (ws' : List (WSt S))
    (hab : c'.base.abort = s.crit.base.abort)
    (hdone : ∀ j : Nat, ws'[j]? = some .done → s.ws[j]? = some .done)
    (hfin : ∀ (j : Nat) (n : SubP S), ws'[j]? = some (.fin n true) → s.ws[j]? = some (.fin n true)) :
    DoneInv { crit := c', ws := ws' } := by
  refine ⟨fun ⟨j, hj⟩ ha => ?_, fun j n hj => ?_⟩
  · have ha : c'.base.abort = false := ha
    rw [hab] at ha
    obtain ⟨_, h0, _⟩ := hd.closed ⟨j, hdone j hj⟩ ha
    -- `ongoing` counts the holders, and `w` is one
    have h1 : s.ws.countP WSt.holds = 0 := hi.cnt ▸ h0
    exact absurd hh (List.countP_eq_zero.mp h1 w (List.mem_of_getElem? hw))
  · show c'.base.abort = true
    rw [hab]; exact hd.exiting j n (hfin j n hj)

/-- the local steps of `process_one_node` (shared record untouched or only its incumbent) -/
theorem done_local {s : Sys S} (hi : SysInv Phi opt Sol s) (hd : DoneInv s) {i : Nat} {w : WSt S}
    (hw : s.ws[i]? = some w) (hh : w.holds = true) (c' : ParCrit S) (w' : WSt S)
    (hab : c'.base.abort = s.crit.base.abort) (h1 : w' ≠ .done) (h2 : ∀ m, w' ≠ .fin m true) :
    DoneInv { crit := c', ws := s.ws.set i w' } :=
  done_of_holder Phi opt Sol hi hd hw hh c' _ hab (fun j h => get_set_of_ne h1 h) (fun j n h => get_set_of_ne (h2 n) h)

theorem enqueue_abort (dedup : Bool) (st : SeqSt S) (cs : List (SubP S)) :
    (st.enqueue dedup cs).abort = st.abort :=
  (enqueue_fields dedup st cs).2.2.2

theorem step_done (dedup : Bool) {okR okX : SubP S → Int → DDOut S → Prop}
    {s t : Sys S} (h : Step dedup okR okX s t) (hi : SysInv Phi opt Sol s) (hd : DoneInv s) : DoneInv t := by
  cases h with
  | gwAborted i hw ha =>
    refine ⟨fun _ h => ?_, fun j n hj => ?_⟩
    · have h : s.crit.base.abort = false := h
      rw [ha] at h; cases h
    · exact ha
  | gwComplete i hw ha ho hf => exact ⟨fun _ _ => ⟨hf, ho, rfl⟩, fun j n hj => by
      have := hd.exiting j n (get_set_of_ne (a := WSt.done) (by simp) hj)
      rw [ha] at this; cases this⟩
  | gwWait i hw ha ho hf =>
    refine ⟨fun ⟨j, hj⟩ _ => ?_, fun j n hj => ?_⟩
    · obtain ⟨_, h0, _⟩ := hd.closed ⟨j, get_set_of_ne (a := WSt.waiting) (by simp) hj⟩ ha
      exact absurd h0 ho
    · exact hd.exiting j n (get_set_of_ne (a := WSt.waiting) (by simp) hj)
  | gwStarve i N rest c' k hw ha hp hl =>
    refine ⟨fun hj _ => ?_, fun j n hj => ?_⟩
    · obtain ⟨hf, _, _⟩ := hd.closed hj ha
      have := (mem_of_popMax hp N).mpr (Or.inl rfl)
      rw [hf] at this; cases this
    · have := hd.exiting j n hj
      rw [ha] at this; cases this
  | gwItem i N rest c' nn k c'' hw ha hp hl ht | gwCrash i N rest c' nn k hw ha hp hl ht =>
    refine ⟨fun ⟨j, hj⟩ _ => ?_, fun j n hj => ?_⟩
    · obtain ⟨hf, _, _⟩ := hd.closed ⟨j, get_set_of_ne (by simp) hj⟩ ha
      have := (mem_of_popMax hp N).mpr (Or.inl rfl)
      rw [hf] at this; cases this
    · have := hd.exiting j n (get_set_of_ne (by simp) hj)
      rw [ha] at this; cases this
  | readLbR i n hw =>
    refine done_local Phi opt Sol hi hd hw rfl _ _ rfl ?_ ?_
    · split <;> simp
    · intro m; split <;> simp
  | compileR i n lb r hw hok | compileX i n lb r hw hok =>
    refine done_local Phi opt Sol hi hd hw rfl _ _ rfl ?_ ?_
    · cases r <;> simp [WSt.afterR, WSt.afterX]
    · intro m; cases r <;> simp [WSt.afterR, WSt.afterX]
  | updateR i n lb o hw | updateX i n lb o hw =>
    refine done_local Phi opt Sol hi hd hw rfl _ _ (updateBest_fringe s.crit.base o).2.2.1 ?_ ?_
    · split <;> simp
    · intro m; split <;> simp
  | readLbX i n hw => exact done_local Phi opt Sol hi hd hw rfl _ _ rfl (by simp) (fun m => by simp)
  | enqueue i n lb o hw =>
    exact done_local Phi opt Sol hi hd hw rfl _ _ (enqueue_abort dedup _ _) (by simp) (fun m => by simp)
  | abort i n top hw htop =>
    refine ⟨fun _ h => ?_, fun _ _ _ => rfl⟩
    have h : (s.crit.abortSearch n.ub top).base.abort = false := h
    cases h
  | notify i n te c' hw hn =>
    obtain ⟨n1, _, _, _⟩ := notify_spec hn
    have hab : c'.base.abort = s.crit.base.abort := by rw [n1]
    cases te with
    | false =>
      refine done_of_holder Phi opt Sol hi hd hw rfl c' _ hab (fun j h => ?_) (fun j m h => ?_)
      · obtain ⟨w, hw', e⟩ := get_map_wake (get_set_of_ne (a := WSt.idle) (by simp) h)
        rw [hw', wake_eq_done e.symm]
      · obtain ⟨w, hw', e⟩ := get_map_wake (get_set_of_ne (a := WSt.idle) (by simp) h)
        rw [hw', wake_eq_fin e.symm]
    | true =>
      have ha := hd.exiting i n hw
      refine ⟨fun _ h => ?_, fun _ _ _ => ?_⟩
      · have h : c'.base.abort = false := h
        rw [hab, ha] at h; cases h
      · show c'.base.abort = true
        rw [hab]; exact ha

theorem init_done (P : Problem S) (primal : Option (Int × List Dec)) (dedup : Bool) (U : Nat) :
    DoneInv (Sys.init P primal dedup U) := by
  exact ⟨(fun ⟨j, hj⟩ _ => by cases init_idle (List.mem_of_getElem? hj)),
    (fun j n hj => by cases init_idle (List.mem_of_getElem? hj))⟩

theorem run_done (dedup : Bool) (hphi : PhiOk Phi dedup) {okR okX : SubP S → Int → DDOut S → Prop}
    (hR : ∀ n lb o, okR n lb o → OkR Phi opt Sol n lb o) (hX : ∀ n lb o, okX n lb o → OkX Phi opt Sol n lb o)
    {s t : Sys S} (h : Run dedup okR okX s t) (hi : SysInv Phi opt Sol s) (hd : DoneInv s) : DoneInv t := by
  induction h with
  | refl => exact hd
  | tail hr hst ih => exact step_done Phi opt Sol dedup hst (run_inv Phi opt Sol dedup hphi hR hX hr hi) ih

/-- when some worker has left and the abort flag is down, the incumbent is the optimum and `best_ub` equals it -/
theorem final_optimal {s : Sys S} (hi : SysInv Phi opt Sol s) (hd : DoneInv s) {j : Nat} (hj : s.ws[j]? = some .done)
    (ha : s.crit.base.abort = false) :
    s.crit.base.bestLb = opt ∧ s.crit.base.bestUb = opt ∧ ∀ p, s.crit.base.bestSol = some p → Sol p opt := by
  obtain ⟨hf, ho, hub⟩ := hd.closed ⟨j, hj⟩ ha
  have h1 : ¬ opt > s.crit.base.bestLb := by
    intro hgt
    rcases hi.cover hgt with ⟨x, hx, _⟩ | ⟨h, _⟩
    · exact nothing_open Phi opt Sol hi ho hf x hx
    · rw [ha] at h; cases h
  have h2 := hi.lbOk
  have : s.crit.base.bestLb = opt := by omega
  exact ⟨this, by rw [hub]; exact this, fun p hp => this ▸ hi.solOk p hp⟩


/-- `best_sol` and `best_lb` are written together: without a stored solution the lower bound is the sentinel -/
def NoSol (s : Sys S) : Prop := s.crit.base.bestSol = none → s.crit.base.bestLb = iMin

theorem enqueue_lb_sol (dedup : Bool) (st : SeqSt S) (cs : List (SubP S)) :
    (st.enqueue dedup cs).bestLb = st.bestLb ∧ (st.enqueue dedup cs).bestSol = st.bestSol :=
  ⟨(enqueue_fields dedup st cs).1, (enqueue_fields dedup st cs).2.1⟩

theorem update_noSol {b : SeqSt S} {n : SubP S} {lb : Int} {o : DDOut S} (hc : CompileOk Phi opt Sol n lb o)
    (h : b.bestSol = none → b.bestLb = iMin) :
    (b.updateBest o).bestSol = none → (b.updateBest o).bestLb = iMin := by
  unfold SeqSt.updateBest
  cases hb : o.bestExact with
  | none => exact h
  | some w =>
    simp only
    split
    · intro hn
      obtain ⟨p, hp, _⟩ := hc.sound w hb
      have hn : o.bestExactSol = none := hn
      rw [hp] at hn; cases hn
    · exact h

theorem NoSol.of_eq {s : Sys S} (hn : NoSol s) {c' : ParCrit S} (ws' : List (WSt S))
    (e1 : c'.base.bestLb = s.crit.base.bestLb) (e2 : c'.base.bestSol = s.crit.base.bestSol) :
    NoSol { crit := c', ws := ws' } := by
  intro h
  have h : c'.base.bestSol = none := h
  show c'.base.bestLb = iMin
  rw [e1]; exact hn (e2 ▸ h)

theorem step_noSol (dedup : Bool) {okR okX : SubP S → Int → DDOut S → Prop}
    {s t : Sys S} (h : Step dedup okR okX s t) (hi : SysInv Phi opt Sol s) (hn : NoSol s) : NoSol t := by
  cases h with
  | gwStarve i N rest c' k hw ha hp hl =>
    obtain ⟨_, rfl⟩ := popLoop_starve hl
    exact hn
  | gwItem i N rest c' nn k c'' hw ha hp hl ht =>
    obtain ⟨rfl, rfl⟩ := popLoop_item hl
    exact hn.of_eq _ (take_spec ht).2.1 (take_spec ht).2.2.1
  | gwCrash i N rest c' nn k hw ha hp hl ht =>
    obtain ⟨rfl, rfl⟩ := popLoop_item hl
    exact hn
  | updateR i n lb o hw => exact update_noSol Phi opt Sol ((hi.loc i _ hw).stage : _ ∧ _).2 hn
  | updateX i n lb o hw => exact update_noSol Phi opt Sol ((hi.loc i _ hw).stage : _ ∧ _ ∧ _).2.1 hn
  | enqueue i n lb o hw =>
    exact hn.of_eq _ (enqueue_lb_sol dedup s.crit.base o.cutset).1 (enqueue_lb_sol dedup s.crit.base o.cutset).2
  | notify i n te c' hw hn' => exact hn.of_eq _ (by rw [(notify_spec hn').1]) (by rw [(notify_spec hn').1])
  | _ => exact hn

theorem init_noSol (P : Problem S) (primal : Option (Int × List Dec)) (dedup : Bool) (U : Nat) :
    NoSol (Sys.init P primal dedup U) := by
  obtain ⟨_, _, _, b4, b5⟩ := init_base P primal dedup
  intro h
  have h : (SeqSt.init P primal dedup).bestSol = none := h
  show (SeqSt.init P primal dedup).bestLb = iMin
  rw [b4]; rw [b5] at h
  rcases primal_cases primal with ⟨h1, _⟩ | ⟨_, _, _, _, _, h2⟩
  · exact h1
  · rw [h2] at h; cases h

theorem run_noSol (dedup : Bool) (hphi : PhiOk Phi dedup) {okR okX : SubP S → Int → DDOut S → Prop}
    (hR : ∀ n lb o, okR n lb o → OkR Phi opt Sol n lb o) (hX : ∀ n lb o, okX n lb o → OkX Phi opt Sol n lb o)
    {s t : Sys S} (h : Run dedup okR okX s t) (hi : SysInv Phi opt Sol s) (hn : NoSol s) : NoSol t := by
  induction h with
  | refl => exact hn
  | tail hr hst ih => exact step_noSol Phi opt Sol dedup hst (run_inv Phi opt Sol dedup hphi hR hX hr hi) ih

/-- the contracts are monotone in the optimum and in the feasibility predicate (what an unverified primal needs) -/
theorem CompileOk.weaken {opt' : Int} {Sol' : List Dec → Int → Prop} (hle : opt ≤ opt') (hS : ∀ p w, Sol p w → Sol' p w)
    {n : SubP S} {lb : Int} {o : DDOut S} (h : CompileOk Phi opt Sol n lb o) : CompileOk Phi opt' Sol' n lb o :=
  ⟨fun w hw => by
      obtain ⟨p, hp, hs, hw'⟩ := h.sound w hw
      exact ⟨p, hp, hS p w hs, by omega⟩,
   h.within, h.exact⟩

theorem CutsetOk.weaken {opt' : Int} (hle : opt ≤ opt') {n : SubP S} {lb : Int} {o : DDOut S}
    (h : CutsetOk Phi opt n lb o) : CutsetOk Phi opt' n lb o :=
  ⟨fun c hc x hx => by have := h.good c hc x hx; omega, h.ub, h.cover, h.sub⟩

end
end Ddo.ParSys
