import DdoModel.Proofs.SeqInv
import DdoModel.Proofs.Cache
import DdoModel.Wf
/-! The sequential branch-and-bound **with** the threshold cache, abstract over the diagram (stages 2 and 3 of C09; stage 1, the thresholds
of one compilation, is `Proofs/Theta.lean`).

Setting: `H : depth → state → EInt` the potential, `Φ c = (H c.depth c.state).addI c.value` the potential of a
sub-problem (`optOf H c`), `opt` the optimum, `Sol` feasibility.  The cache is seen through its *view*
`T : S → Nat → Option Thr` (what `get_threshold` answers; `Props/C18.lean`: the maximum of what was recorded since the
last clear), `T.upd` = one `update_threshold`, `T.upds` = the updates of a compilation.

A sub-problem is *prunable at pop* (`prunM`, the negation of `Cache::must_explore`) when the stored threshold is above its
value, or equal to it with the `explored` flag; it is *prunable inside a compilation* (`_filter_with_cache`) as soon as the
threshold is `≥` its value, whatever the flag.

`Live F T x d`: some open sub-problem of depth `≥ d` *carries* the potential `x`: its potential is `≥ x`, its upper
bound is `≥ x`, and the cache does not refuse it at pop.

The invariant `CInvC` (coverage invariant of `Proofs/SeqInv.lean` + the clause `cache`, called CacheOk in the comments):
* `root`  : if `opt > lb`, `opt` is carried;
* `cache` (**CacheOk**): whatever the cache can prune — any sub-problem `(s, d, v)` with `v ≤ T s d` (rule of
  `_filter_with_cache`, the stronger one) — has its potential `v + H d s`, if it beats `lb`, carried by an open
  sub-problem of depth `≥ d`;
* `open_` : the potential of an open sub-problem, if it beats `lb`, is carried (by itself, or — when its own upper
  bound was computed in a diagram cut by the cache — by another one).  It is carried along; `root` and `cache` never read it.

The diagram contracts (`CompC`) are those of `SeqInv.lean` weakened by the alternative "… or the potential is the one of a
sub-problem that the cache consulted by the compilation prunes, deeper than …" (`CacheCov`), plus the threshold contract
`theta` (Stage 1, `Proofs/Theta.lean`) and `fresh` (a cut-set node handed out is not refused by the cache once the
updates of its own compilation are applied).

**No hypothesis on the order**: the popped node `N` is *any* element of the fringe.  `enqueue_cutset` pushes a cut-set
node with the bound its own diagram gave it (repair of finding D14), so a bound computed in a diagram cut by the cache is
never transferred to another node and the invariant is preserved for every pop order (`step_generic`, `processC_inv`).  (Before
the repair the cut-set nodes were capped by `N.ub` — `ub.min(cutset_node.ub)` — which is harmless only when `N` has the largest
bound of the fringe; `Ddo.C09.anyOrderOpt_false` is what happens otherwise.) -/
set_option linter.unusedSectionVars false
set_option linter.unusedVariables false
namespace Ddo.C09
open Ddo
variable {S : Type} [DecidableEq S]

/-- the view of a cache: what `get_threshold (state, depth)` answers -/
abbrev CView (S : Type) := S → Nat → Option Thr

/-- one `update_threshold (s, d, θ, explored)` -/
def CView.upd (T : CView S) (u : S × Nat × Int × Bool) : CView S :=
  fun s d => if d = u.2.1 ∧ s = u.1 then updCell (T s d) ⟨u.2.2.1, u.2.2.2⟩ else T s d

/-- the updates of one compilation -/
def CView.upds (T : CView S) (ups : List (S × Nat × Int × Bool)) : CView S := ups.foldl CView.upd T

/-- refused by `must_explore` at pop -/
def prunM (T : CView S) (c : SubP S) : Prop :=
  ∃ t, T c.state c.depth = some t ∧ (c.value < t.value ∨ (c.value = t.value ∧ t.explored = true))

instance (T : CView S) (c : SubP S) : Decidable (prunM T c) := by
  unfold prunM
  cases h : T c.state c.depth with
  | none => exact isFalse (fun ⟨t, ht, _⟩ => by cases ht)
  | some t =>
    by_cases hc : c.value < t.value ∨ (c.value = t.value ∧ t.explored = true)
    · exact isTrue ⟨t, rfl, hc⟩
    · exact isFalse (fun ⟨t', ht', hc'⟩ => by cases ht'; exact hc hc')

theorem upd_get (T : CView S) (u : S × Nat × Int × Bool) (s : S) (d : Nat) (t : Thr)
    (h : (T.upd u) s d = some t) :
    T s d = some t ∨ (u.1 = s ∧ u.2.1 = d ∧ t = ⟨u.2.2.1, u.2.2.2⟩) := by
  unfold CView.upd at h
  split at h
  · next hc =>
    obtain ⟨hd, hs⟩ := hc
    cases hT : T s d with
    | none =>
      rw [hT] at h
      simp only [updCell, Option.some.injEq] at h
      exact Or.inr ⟨hs.symm, hd.symm, h.symm⟩
    | some e =>
      rw [hT] at h
      simp only [updCell, Option.some.injEq] at h
      unfold Thr.join at h
      split at h
      · exact Or.inl (by rw [h])
      · exact Or.inr ⟨hs.symm, hd.symm, h.symm⟩
  · exact Or.inl h

theorem upds_get (ups : List (S × Nat × Int × Bool)) (T : CView S) (s : S) (d : Nat) (t : Thr)
    (h : (T.upds ups) s d = some t) :
    T s d = some t ∨ ∃ u ∈ ups, u.1 = s ∧ u.2.1 = d ∧ t = ⟨u.2.2.1, u.2.2.2⟩ := by
  induction ups generalizing T with
  | nil => exact Or.inl h
  | cons u us ih =>
    have h' : ((T.upd u).upds us) s d = some t := h
    rcases ih (T.upd u) h' with h1 | ⟨u', hu', h2⟩
    · rcases upd_get T u s d t h1 with h3 | h3
      · exact Or.inl h3
      · exact Or.inr ⟨u, List.mem_cons_self, h3⟩
    · exact Or.inr ⟨u', List.mem_cons_of_mem _ hu', h2⟩

theorem prun_new (T : CView S) (ups : List (S × Nat × Int × Bool)) (c : SubP S)
    (hn : ¬ prunM T c) (hp : prunM (T.upds ups) c) :
    ∃ u ∈ ups, u.1 = c.state ∧ u.2.1 = c.depth ∧ c.value ≤ u.2.2.1 := by
  obtain ⟨t, ht, hcond⟩ := hp
  rcases upds_get ups T c.state c.depth t ht with h1 | ⟨u, hu, hs, hd, rfl⟩
  · exact absurd ⟨t, h1, hcond⟩ hn
  · refine ⟨u, hu, hs, hd, ?_⟩
    dsimp only at hcond
    omega

theorem depth_bound (l : List (SubP S)) : ∃ D, ∀ c ∈ l, c.depth ≤ D := by
  induction l with
  | nil => exact ⟨0, fun c hc => by cases hc⟩
  | cons a l ih =>
    obtain ⟨D, hD⟩ := ih
    refine ⟨max D a.depth, fun c hc => ?_⟩
    rcases List.mem_cons.mp hc with e | e
    · subst e; omega
    · have := hD c e; omega

/-- **transfer by depth**: `L x d` ("the potential `x` is carried at depth `≥ d`" before a step) is bounded in `d`; if every
    such fact whose potential still counts (`B`) either holds after the step (`L'`) or is dominated by one *strictly deeper*
    before the step, then every such fact holds after the step.  The induction behind `step_generic`, the joint (cache +
    dominance) step and the parallel `tp_of_local`. -/
theorem transfer_by_depth {L L' : Int → Nat → Prop} {B : Int → Prop} {D : Nat} (hD : ∀ x d, L x d → d ≤ D)
    (hup : ∀ x x', B x → x ≤ x' → B x') (hmono : ∀ x x' d d', L' x d → x' ≤ x → d' ≤ d → L' x' d')
    (hloc : ∀ x d, B x → L x d → L' x d ∨ ∃ x' d', x ≤ x' ∧ d < d' ∧ L x' d') :
    ∀ x d, B x → L x d → L' x d := by
  have key : ∀ n x d, D < d + n → B x → L x d → L' x d := by
    intro n
    induction n with
    | zero => intro x d hd _ hl; exact absurd (hD x d hl) (Nat.not_le.mpr hd)
    | succ n ih =>
      intro x d hd hb hl
      rcases hloc x d hb hl with h | ⟨x', d', hx, hdd, hl'⟩
      · exact h
      · exact hmono _ _ _ _ (ih x' d' (by omega) (hup x x' hb hx) hl') hx (Nat.le_of_lt hdd)
  exact fun x d => key (D + 1) x d (by omega)

theorem optOf_some (H : Nat → S → EInt) (c : SubP S) (y : Int) (h : optOf H c = some y) :
    ∃ hh, H c.depth c.state = some hh ∧ y = c.value + hh := by
  unfold optOf EInt.addI at h
  cases hH : H c.depth c.state with
  | none => rw [hH] at h; cases h
  | some hh =>
    rw [hH] at h
    simp only [Option.map_some, Option.some.injEq] at h
    exact ⟨hh, rfl, by omega⟩

theorem updateBest_ok' (opt : Int) (Sol : List Dec → Int → Prop) (st : SeqSt S) (o : DDOut S)
    (hlb : st.bestLb ≤ opt) (hsol : ∀ p, st.bestSol = some p → Sol p st.bestLb)
    (hs : ∀ w, o.bestExact = some w → ∃ p, o.bestExactSol = some p ∧ Sol p w ∧ w ≤ opt) :
    (st.updateBest o).bestLb ≤ opt ∧ ∀ p, (st.updateBest o).bestSol = some p → Sol p (st.updateBest o).bestLb :=
  updateBest_sound opt Sol st o hlb hsol hs

section
variable (H : Nat → S → EInt) (opt : Int) (Sol : List Dec → Int → Prop)
-- magnitudes: the values `v` the statements quantify over are those in range at their depth
variable (Rg : Nat → Int → Prop)

def Live (F : List (SubP S)) (T : CView S) (x : Int) (d : Nat) : Prop :=
  ∃ c ∈ F, d ≤ c.depth ∧ (∃ y, optOf H c = some y ∧ x ≤ y) ∧ x ≤ c.ub ∧ ¬ prunM T c

/-- the potential `x` is (dominated by) the potential of a sub-problem of depth `> d` that the cache `T` prunes inside a
    compilation -/
def CacheCov (T : CView S) (d : Nat) (x : Int) : Prop :=
  ∃ (s : S) (d' : Nat) (t : Thr) (v h : Int), T s d' = some t ∧ d < d' ∧ Rg d' v ∧ v ≤ t.value ∧ H d' s = some h ∧ x ≤ v + h

structure CInvC (F : List (SubP S)) (T : CView S) (lb : Int) (sol : Option (List Dec)) : Prop where
  good : ∀ c ∈ F, Good (optOf H) opt c
  rng : ∀ c ∈ F, Rg c.depth c.value
  lbOk : lb ≤ opt
  solOk : ∀ p, sol = some p → Sol p lb
  root : opt > lb → Live H F T opt 0
  /-- **CacheOk** -/
  cache : ∀ (s : S) (d : Nat) (t : Thr) (v h : Int), T s d = some t → Rg d v → v ≤ t.value → H d s = some h → v + h > lb →
    Live H F T (v + h) d
  open_ : ∀ c ∈ F, ∀ y, optOf H c = some y → y > lb → Live H F T y c.depth

/-- contract of one caching compilation of `N`, started with incumbent `lb`, consulting the cache `T`; `o` what the solver
    reads (`o.cutset` is enqueued iff `o.isExact = false`), `ups` the `update_threshold` calls, `bk` the incumbent once the
    solver has absorbed `o.bestExact`.  The step consumes `exact`, `exactCut`, `cover`, `theta`, `rng`, `deeper`, `ub`, `fresh` (and `sound`
    for the incumbent); `good` and `sub` are only carried along. -/
structure CompC (N : SubP S) (lb : Int) (T : CView S) (o : DDOut S) (ups : List (S × Nat × Int × Bool)) (bk : Int) : Prop where
  sound : ∀ w, o.bestExact = some w → ∃ p, o.bestExactSol = some p ∧ Sol p w ∧ w ≤ opt
  /-- an exact diagram finds the optimum of `N`, unless the cache cut it -/
  exact : o.isExact = true → ∀ x, optOf H N = some x → x > lb → (∃ w, o.bestExact = some w ∧ x ≤ w) ∨ CacheCov H Rg T N.depth x
  /-- the cut-set of an exact diagram (not enqueued) holds nothing that beats the incumbent -/
  exactCut : o.isExact = true → ∀ c ∈ o.cutset, c.ub ≤ bk
  /-- a diagram that is not exact covers `N` by its cut-set, unless the cache cut it -/
  cover : o.isExact = false → ∀ x, optOf H N = some x → x > bk →
    (∃ c ∈ o.cutset, ∃ y, optOf H c = some y ∧ x ≤ y) ∨ CacheCov H Rg T N.depth x
  /-- **Stage 1** (`theta_sound`): whatever a recorded threshold prunes cannot beat `bk`, or is carried by the cut-set, or
      by what the consulted cache prunes deeper -/
  theta : ∀ u ∈ ups, ∀ v h, Rg u.2.1 v → v ≤ u.2.2.1 → H u.2.1 u.1 = some h →
    v + h ≤ bk ∨ (∃ c ∈ o.cutset, u.2.1 ≤ c.depth ∧ ∃ y, optOf H c = some y ∧ v + h ≤ y) ∨ CacheCov H Rg T u.2.1 (v + h)
  good : ∀ c ∈ o.cutset, Good (optOf H) opt c
  rng : ∀ c ∈ o.cutset, Rg c.depth c.value
  sub : ∀ c ∈ o.cutset, ∀ y, optOf H c = some y → ∃ x, optOf H N = some x ∧ y ≤ x
  deeper : ∀ c ∈ o.cutset, N.depth < c.depth
  /-- the bound of a cut-set node dominates its potential, unless the cache cut the diagram below it -/
  ub : ∀ c ∈ o.cutset, ∀ y, optOf H c = some y → y > bk → y ≤ c.ub ∨ CacheCov H Rg T c.depth y
  /-- a cut-set node worth enqueuing is not refused by the cache once the updates of its compilation are applied -/
  fresh : ∀ c ∈ o.cutset, c.ub > bk → ¬ prunM (T.upds ups) c

/-- the view of the cache after `process_one_node (N)`: the updates of the compilations that were run -/
def viewAfter (st : SeqSt S) (T : CView S) (N : SubP S) (r : DDOut S) (rups : List (S × Nat × Int × Bool))
    (xups : List (S × Nat × Int × Bool)) : CView S :=
  if N.ub ≤ st.bestLb then T
  else if prunM T N then T
  else if r.isExact then T.upds rups
  else (T.upds rups).upds xups

/-- the solver state after `process_one_node (N)`, `must_explore` answered by the cache -/
def stateAfter (st : SeqSt S) (T : CView S) (N : SubP S) (r x : DDOut S) : SeqSt S :=
  (st.process false N (decide (¬ prunM T N)) (.ok r) (.ok x)).1

theorem live_mono {F : List (SubP S)} {T : CView S} {x x' : Int} {d d' : Nat}
    (h : Live H F T x d) (hx : x' ≤ x) (hd : d' ≤ d) : Live H F T x' d' := by
  obtain ⟨c, hc, hdc, ⟨y, hy, hxy⟩, hxu, hnp⟩ := h
  exact ⟨c, hc, Nat.le_trans hd hdc, ⟨y, hy, Int.le_trans hx hxy⟩, Int.le_trans hx hxu, hnp⟩

/-- the popped node is dropped (pruned by its bound or by the cache): it was not a carrier -/
theorem drop_inv (N : SubP S) (F' : List (SubP S)) (T : CView S) (lb : Int) (sol : Option (List Dec))
    (hinv : CInvC H opt Sol Rg (N :: F') T lb sol)
    (hno : ∀ x, x > lb → x ≤ N.ub → ¬ prunM T N → False) :
    CInvC H opt Sol Rg F' T lb sol := by
  have hL : ∀ x d, x > lb → Live H (N :: F') T x d → Live H F' T x d := by
    intro x d hgt hl
    obtain ⟨c, hc, hdc, hy, hxu, hnp⟩ := hl
    rcases List.mem_cons.mp hc with e | e
    · subst e; exact (hno x hgt hxu hnp).elim
    · exact ⟨c, e, hdc, hy, hxu, hnp⟩
  refine ⟨fun c hc => hinv.good c (List.mem_cons_of_mem _ hc), fun c hc => hinv.rng c (List.mem_cons_of_mem _ hc),
    hinv.lbOk, hinv.solOk, fun hgt => hL _ _ hgt (hinv.root hgt), ?_, ?_⟩
  · intro s d t v h hT hrg hvt hH hgt
    exact hL _ _ hgt (hinv.cache s d t v h hT hrg hvt hH hgt)
  · intro c hc y hy hgt
    exact hL _ _ hgt (hinv.open_ c (List.mem_cons_of_mem _ hc) y hy hgt)

/-- one compilation `o` of the popped node `N` (updates `ups`, contract `hC`), new fringe `Fn` = the rest of the fringe
    plus the cut-set nodes (with their own bounds) that beat `bk` when `o` is not exact.  `N` is any element of the fringe:
    no hypothesis on the pop order. -/
theorem step_generic (N : SubP S) (F' Fn : List (SubP S)) (T : CView S) (lb0 lbS bk : Int) (sol0 soln : Option (List Dec))
    (o : DDOut S) (ups : List (S × Nat × Int × Bool))
    (hinv : CInvC H opt Sol Rg (N :: F') T lb0 sol0)
    (hC : CompC H opt Sol Rg N lbS T o ups bk)
    (h0S : lb0 ≤ lbS) (hSk : lbS ≤ bk)
    (hval : ∀ w, o.bestExact = some w → w ≤ bk)
    (hsub : ∀ c ∈ F', c ∈ Fn)
    (hFn : ∀ c ∈ Fn, c ∈ F' ∨ (o.isExact = false ∧ ∃ c0 ∈ o.cutset, c = c0 ∧ c0.ub > bk))
    (henq : o.isExact = false → ∀ c0 ∈ o.cutset, c0.ub > bk → c0 ∈ Fn)
    (hlbn : bk ≤ opt) (hsoln : ∀ p, soln = some p → Sol p bk) :
    CInvC H opt Sol Rg Fn (T.upds ups) bk soln := by
  have h0k : lb0 ≤ bk := Int.le_trans h0S hSk
  -- what a pruning of the consulted cache covers is carried by a deeper open sub-problem
  have hCC : ∀ d y, CacheCov H Rg T d y → y > lb0 → ∃ d' y'', d < d' ∧ y ≤ y'' ∧ Live H (N :: F') T y'' d' := by
    intro d y hcc hgt
    obtain ⟨s, d', t, v, h, hT, hdd, hrg, hvt, hH, hle⟩ := hcc
    exact ⟨d', v + h, hdd, hle, hinv.cache s d' t v h hT hrg hvt hH (Int.lt_of_lt_of_le hgt hle)⟩
  -- a cut-set node whose potential beats `bk` is enqueued and carries it, unless the cache cut the diagram below it
  have hEnq : ∀ c' ∈ o.cutset, ∀ y' x, optOf H c' = some y' → x ≤ y' → x > bk →
      Live H Fn (T.upds ups) x c'.depth ∨ CacheCov H Rg T c'.depth y' := by
    intro c' hc' y' x hy' hxy hxb
    have hyb : y' > bk := Int.lt_of_lt_of_le hxb hxy
    rcases hC.ub c' hc' y' hy' hyb with h | h
    · cases hex : o.isExact with
      | true => exact absurd (Int.le_trans h (hC.exactCut hex c' hc')) (Int.not_le.mpr hyb)
      | false =>
        have hm : c'.ub > bk := Int.lt_of_lt_of_le hyb h
        exact .inl ⟨c', henq hex c' hc' hm, Nat.le_refl _, ⟨y', hy', hxy⟩, Int.le_trans hxy h, hC.fresh c' hc' hm⟩
    · exact Or.inr h
  -- transfer (`transfer_by_depth`): a witness survives, or is dominated strictly deeper
  obtain ⟨D, hD⟩ := depth_bound (N :: F')
  have hTr' : ∀ x d, x > bk → Live H (N :: F') T x d → Live H Fn (T.upds ups) x d := by
    refine transfer_by_depth (D := D) (fun x d hl => ?_) (fun x x' hb hx => Int.lt_of_lt_of_le hb hx)
      (fun _ _ _ _ h hx hd => live_mono H h hx hd) (fun x d hxb hL => ?_)
    · obtain ⟨c, hc, hdc, _⟩ := hl
      exact Nat.le_trans hdc (hD c hc)
    obtain ⟨c, hc, hdc, ⟨y, hy, hxy⟩, hxu, hnp⟩ := hL
    have hcov : ∀ d1 y1, d ≤ d1 → x ≤ y1 → CacheCov H Rg T d1 y1 →
        Live H Fn (T.upds ups) x d ∨ ∃ x' d', x ≤ x' ∧ d < d' ∧ Live H (N :: F') T x' d' := by
      intro d1 y1 hd1 hx1 hcc
      obtain ⟨d', y'', hdd, hyy, hL'⟩ := hCC d1 y1 hcc (Int.lt_of_le_of_lt h0k (Int.lt_of_lt_of_le hxb hx1))
      exact .inr ⟨y'', d', Int.le_trans hx1 hyy, Nat.lt_of_le_of_lt hd1 hdd, hL'⟩
    have hcs : ∀ c' ∈ o.cutset, ∀ y', d ≤ c'.depth → optOf H c' = some y' → x ≤ y' →
        Live H Fn (T.upds ups) x d ∨ ∃ x' d', x ≤ x' ∧ d < d' ∧ Live H (N :: F') T x' d' := by
      intro c' hc' y' hdc' hy' hxy'
      rcases hEnq c' hc' y' x hy' hxy' hxb with h | h
      · exact .inl (live_mono H h (Int.le_refl _) hdc')
      · exact hcov c'.depth y' hdc' hxy' h
    have hyb : y > bk := Int.lt_of_lt_of_le hxb hxy
    rcases List.mem_cons.mp hc with e | e
    · have e' : N = c := e.symm
      subst e'
      cases hex : o.isExact with
      | true =>
        rcases hC.exact hex y hy (Int.lt_of_le_of_lt hSk hyb) with ⟨w, hw, hyw⟩ | h
        · exact absurd (Int.le_trans hyw (hval w hw)) (Int.not_le.mpr hyb)
        · exact hcov N.depth y hdc hxy h
      | false =>
        rcases hC.cover hex y hy hyb with ⟨c', hc', y', hy', hyy'⟩ | h
        · exact hcs c' hc' y' (Nat.le_trans hdc (Nat.le_of_lt (hC.deeper c' hc'))) hy' (Int.le_trans hxy hyy')
        · exact hcov N.depth y hdc hxy h
    · by_cases hp : prunM (T.upds ups) c
      · -- the updates made the cache refuse `c`: the contract of the thresholds applies to its value
        obtain ⟨u, hu, hus, hud, hvu⟩ := prun_new T ups c hnp hp
        obtain ⟨hh, hH, rfl⟩ := optOf_some H c y hy
        have hrg := hinv.rng c hc
        rcases hC.theta u hu c.value hh (by rw [hud]; exact hrg) hvu (by rw [hud, hus]; exact hH) with
          h1 | ⟨c', hc', hdc', y', hy', hyy'⟩ | h3
        · exact absurd h1 (Int.not_le.mpr hyb)
        · exact hcs c' hc' y' (Nat.le_trans hdc (hud ▸ hdc')) hy' (Int.le_trans hxy hyy')
        · rw [hud] at h3; exact hcov c.depth _ hdc hxy h3
      · exact .inl ⟨c, hsub c e, hdc, ⟨y, hy, hxy⟩, hxu, hp⟩
  -- a potential that a pruning of `T` below depth `d1 ≥ d` covers
  have hcov' : ∀ d d1 x y1, d ≤ d1 → x ≤ y1 → x > bk → CacheCov H Rg T d1 y1 → Live H Fn (T.upds ups) x d := by
    intro d d1 x y1 hd1 hx1 hxb hcc
    obtain ⟨d', y'', hdd, hyy, hL'⟩ := hCC d1 y1 hcc (Int.lt_of_le_of_lt h0k (Int.lt_of_lt_of_le hxb hx1))
    have hx'' := Int.le_trans hx1 hyy
    exact live_mono H (hTr' y'' d' (Int.lt_of_lt_of_le hxb hx'') hL') hx'' (Nat.le_trans hd1 (Nat.le_of_lt hdd))
  refine ⟨?_, ?_, hlbn, hsoln, fun hgt => hTr' opt 0 hgt (hinv.root (Int.lt_of_le_of_lt h0k hgt)), ?_, ?_⟩
  ·
    intro c hc
    rcases hFn c hc with h | ⟨_, c0, hc0, rfl, _⟩
    · exact hinv.good c (List.mem_cons_of_mem _ h)
    · exact hC.good c hc0
  ·
    intro c hc
    rcases hFn c hc with h | ⟨_, c0, hc0, rfl, _⟩
    · exact hinv.rng c (List.mem_cons_of_mem _ h)
    · exact hC.rng c hc0
  ·
    intro s d t v h hT hrg hvt hH hgt
    rcases upds_get ups T s d t hT with h1 | ⟨u, hu, hus, hud, ht⟩
    · exact hTr' _ _ hgt (hinv.cache s d t v h h1 hrg hvt hH (Int.lt_of_le_of_lt h0k hgt))
    · subst ht
      rcases hC.theta u hu v h (by rw [hud]; exact hrg) hvt (by rw [hud, hus]; exact hH) with
        h1 | ⟨c', hc', hdc', y', hy', hyy'⟩ | h3
      · exact absurd h1 (Int.not_le.mpr hgt)
      · rcases hEnq c' hc' y' (v + h) hy' hyy' hgt with h4 | h4
        · exact live_mono H h4 (Int.le_refl _) (hud ▸ hdc')
        · exact hcov' d c'.depth _ y' (hud ▸ hdc') hyy' hgt h4
      · exact hcov' d d _ _ (Nat.le_refl d) (Int.le_refl _) hgt (hud ▸ h3)
  ·
    intro c hc y hy hgt
    rcases hFn c hc with h | ⟨_, c0, hc0, rfl, _⟩
    · exact hTr' y c.depth hgt (hinv.open_ c (List.mem_cons_of_mem _ h) y hy (Int.lt_of_le_of_lt h0k hgt))
    · rcases hEnq c hc0 y y hy (Int.le_refl _) hgt with h4 | h4
      · exact h4
      · exact hcov' c.depth c.depth y y (Nat.le_refl _) (Int.le_refl _) hgt h4

/-- `prunM` is the negation of `Cache::must_explore` -/
theorem prunM_iff (T : CView S) (c : SubP S) : prunM T c ↔ mustExploreThr (T c.state c.depth) c.value = false := by
  unfold prunM mustExploreThr
  cases hT : T c.state c.depth with
  | none =>
    constructor
    · rintro ⟨t, ht, _⟩; cases ht
    · intro h; cases h
  | some t =>
    constructor
    · rintro ⟨t', ht', hc⟩
      cases ht'
      cases he : t.explored <;> simp [he] at hc ⊢ <;> omega
    · intro h
      refine ⟨t, rfl, ?_⟩
      cases he : t.explored <;> simp [he] at h ⊢ <;> omega

/-- **Stage 2**: one `process_one_node` with the cache preserves the invariant.  `N` = the popped node (**any** element
    of the fringe: no hypothesis on the pop order), `st.fringe` = the rest of the fringe; the restricted compilation `r` consults `T`; a restricted diagram that
    is not exact records nothing (`hrups`) and only has to be sound (`hrs`); the relaxed compilation `x` runs with the
    updated incumbent. -/
theorem processC_inv (st : SeqSt S) (T : CView S) (N : SubP S) (r : DDOut S) (rups : List (S × Nat × Int × Bool))
    (x : DDOut S) (xups : List (S × Nat × Int × Bool))
    (hinv : CInvC H opt Sol Rg (N :: st.fringe) T st.bestLb st.bestSol)
    (hrs : ∀ w, r.bestExact = some w → ∃ p, r.bestExactSol = some p ∧ Sol p w ∧ w ≤ opt)
    (hr : r.isExact = true → CompC H opt Sol Rg N st.bestLb T r rups (st.updateBest r).bestLb)
    (hrups : r.isExact = false → rups = [])
    (hx : r.isExact = false → CompC H opt Sol Rg N (st.updateBest r).bestLb T x xups ((st.updateBest r).updateBest x).bestLb) :
    CInvC H opt Sol Rg (stateAfter st T N r x).fringe (viewAfter st T N r rups xups)
      (stateAfter st T N r x).bestLb (stateAfter st T N r x).bestSol := by
  have hge1 := updateBest_lb_ge st r
  have hge2 := updateBest_lb_ge (st.updateBest r) x
  obtain ⟨f1, _, _, _, _⟩ := updateBest_fringe st r
  obtain ⟨f2, _, _, _, _⟩ := updateBest_fringe (st.updateBest r) x
  obtain ⟨hlb1, hsol1⟩ := updateBest_ok' opt Sol st r hinv.lbOk hinv.solOk hrs
  unfold stateAfter viewAfter SeqSt.process
  by_cases hub : N.ub ≤ st.bestLb
  · -- A: pruned by its bound
    simp only [hub, if_true]
    exact drop_inv H opt Sol Rg N st.fringe T st.bestLb st.bestSol hinv (fun x h1 h2 _ => by omega)
  · simp only [hub, if_false]
    by_cases hp : prunM T N
    · -- B: refused by the cache
      simp only [hp, not_true_eq_false, decide_false, Bool.not_false, if_true]
      exact drop_inv H opt Sol Rg N st.fringe T st.bestLb st.bestSol hinv (fun x _ _ h3 => h3 hp)
    · simp only [hp, not_false_eq_true, decide_true, Bool.not_true, Bool.false_eq_true, if_false]
      by_cases hre : r.isExact = true
      · -- C1: the restricted diagram was exact
        simp only [hre, if_true]
        rw [f1]
        exact step_generic H opt Sol Rg N st.fringe st.fringe T st.bestLb st.bestLb (st.updateBest r).bestLb
          st.bestSol (st.updateBest r).bestSol r rups hinv (hr hre) (Int.le_refl _) hge1
          (fun w hw => updateBest_lb_ge_val st r w hw) (fun c hc => hc) (fun c hc => Or.inl hc)
          (fun hf => by rw [hre] at hf; cases hf) hlb1 hsol1
      · have hre' : r.isExact = false := by simpa using hre
        simp only [hre', Bool.false_eq_true, if_false]
        have hX := hx hre'
        obtain ⟨hlb2, hsol2⟩ := updateBest_ok' opt Sol (st.updateBest r) x hlb1 hsol1 hX.sound
        have hfr : ((st.updateBest r).updateBest x).fringe = st.fringe := f2.trans f1
        have hups : (T.upds rups).upds xups = T.upds xups := by rw [hrups hre']; rfl
        rw [hups]
        by_cases hxe : x.isExact = true
        · -- C2: the relaxed diagram was exact
          simp only [hxe, if_true]
          rw [hfr]
          exact step_generic H opt Sol Rg N st.fringe st.fringe T st.bestLb (st.updateBest r).bestLb
            ((st.updateBest r).updateBest x).bestLb
            st.bestSol ((st.updateBest r).updateBest x).bestSol x xups hinv hX hge1 hge2
            (fun w hw => updateBest_lb_ge_val (st.updateBest r) x w hw) (fun c hc => hc) (fun c hc => Or.inl hc)
            (fun hf => by rw [hxe] at hf; cases hf) hlb2 hsol2
        · -- C3: the cut-set is enqueued
          have hxe' : x.isExact = false := by simpa using hxe
          simp only [hxe', Bool.false_eq_true, if_false]
          obtain ⟨e1, e2, _, _, e5⟩ := enqueue_false_spec ((st.updateBest r).updateBest x) x.cutset
          rw [e1, e2]
          refine step_generic H opt Sol Rg N st.fringe _ T st.bestLb (st.updateBest r).bestLb
            ((st.updateBest r).updateBest x).bestLb
            st.bestSol ((st.updateBest r).updateBest x).bestSol x xups hinv hX hge1 hge2
            (fun w hw => updateBest_lb_ge_val (st.updateBest r) x w hw) ?_ ?_ ?_ hlb2 hsol2
          · intro c hc
            exact (e5 c).mpr (Or.inl (by rw [hfr]; exact hc))
          · intro c hc
            rcases (e5 c).mp hc with h | ⟨c0, hc0, h1, h2⟩
            · rw [hfr] at h; exact Or.inl h
            · exact Or.inr ⟨hxe', c0, hc0, h1, h2⟩
          · intro _ c0 hc0 hm
            exact (e5 _).mpr (Or.inr ⟨c0, hc0, rfl, hm⟩)

theorem init_cinvC (root : SubP S) (lb : Int) (sol : Option (List Dec))
    (hroot : ∀ x, optOf H root = some x → x ≤ opt) (hub : root.ub = iMax) (hopt : opt ≤ iMax)
    (hrg : Rg root.depth root.value)
    (hlb : lb ≤ opt) (hsol : ∀ p, sol = some p → Sol p lb) (hatt : opt > lb → optOf H root = some opt) :
    CInvC H opt Sol Rg [root] (fun _ _ => none) lb sol := by
  have hnp : ¬ prunM (fun _ _ => none : CView S) root := by
    rintro ⟨t, ht, _⟩; cases ht
  refine ⟨?_, ?_, hlb, hsol, ?_, ?_, ?_⟩
  · intro c hc
    rcases List.mem_cons.mp hc with e | e
    · subst e; exact hroot
    · cases e
  · intro c hc
    rcases List.mem_cons.mp hc with e | e
    · subst e; exact hrg
    · cases e
  · intro hgt
    exact ⟨root, List.mem_cons_self, Nat.zero_le _, ⟨opt, hatt hgt, Int.le_refl _⟩, by omega, hnp⟩
  · intro s d t v h hT
    cases hT
  · intro c hc y hy hgt
    rcases List.mem_cons.mp hc with e | e
    · subst e
      have := hroot y hy
      exact ⟨c, List.mem_cons_self, Nat.le_refl _, ⟨y, hy, Int.le_refl _⟩, by omega, hnp⟩
    · cases e

theorem caching_solver_optimal (T : CView S) (lb : Int) (sol : Option (List Dec))
    (hinv : CInvC H opt Sol Rg [] T lb sol) : lb = opt ∧ ∀ p, sol = some p → Sol p opt := by
  have h1 : ¬ opt > lb := fun hgt => by obtain ⟨c, hc, _⟩ := hinv.root hgt; cases hc
  have : lb = opt := by have := hinv.lbOk; omega
  exact ⟨this, fun p hp => this ▸ hinv.solOk p hp⟩

/-- **Stage 3**: forgetting thresholds (`clear_layer`, `clear`) preserves the invariant -/
theorem cinvC_forget (F : List (SubP S)) (T T' : CView S) (lb : Int) (sol : Option (List Dec))
    (hsub : ∀ s d, T' s d = T s d ∨ T' s d = none)
    (hinv : CInvC H opt Sol Rg F T lb sol) : CInvC H opt Sol Rg F T' lb sol := by
  have hT : ∀ s d t, T' s d = some t → T s d = some t := by
    intro s d t h
    rcases hsub s d with e | e
    · rw [← e]; exact h
    · rw [e] at h; cases h
  have hL : ∀ x d, Live H F T x d → Live H F T' x d := by
    intro x d hl
    obtain ⟨c, hc, hdc, hy, hxu, hnp⟩ := hl
    refine ⟨c, hc, hdc, hy, hxu, ?_⟩
    rintro ⟨t, ht, hcond⟩
    exact hnp ⟨t, hT _ _ _ ht, hcond⟩
  refine ⟨hinv.good, hinv.rng, hinv.lbOk, hinv.solOk, fun hgt => hL _ _ (hinv.root hgt), ?_, ?_⟩
  · intro s d t v h hT' hrg hvt hH hgt
    exact hL _ _ (hinv.cache s d t v h (hT _ _ _ hT') hrg hvt hH hgt)
  · intro c hc y hy hgt
    exact hL _ _ (hinv.open_ c hc y hy hgt)

end

def viewOf (c : Cache S) : CView S := fun s d => (c.get s d).getD none

theorem viewOf_update (c c' : Cache S) (s : S) (d : Nat) (θ : Int) (e : Bool)
    (h : c.update s d ⟨θ, e⟩ = some c') : viewOf c' = (viewOf c).upd (s, d, θ, e) := by
  funext s2 d2
  unfold viewOf CView.upd
  rw [Cache.get_update c c' s s2 d d2 ⟨θ, e⟩ h]
  by_cases hc : d2 = d ∧ s2 = s
  · simp only [hc, and_self, if_true]
    obtain ⟨l, hl, _⟩ := Cache.update_eq_some h
    rw [Cache.get_eq hl]
    rfl
  · simp only [hc, if_false]

theorem viewOf_clearLayer (c c' : Cache S) (d : Nat) (h : c.clearLayer d = some c') :
    ∀ s d', viewOf c' s d' = viewOf c s d' ∨ viewOf c' s d' = none := by
  intro s d'
  unfold viewOf
  rw [Cache.get_clearLayer c c' s d d' h]
  by_cases hd : d' = d
  · right; simp [hd]
  · left; simp [hd]

end Ddo.C09

#print axioms Ddo.C09.prunM_iff
#print axioms Ddo.C09.processC_inv
#print axioms Ddo.C09.init_cinvC
#print axioms Ddo.C09.caching_solver_optimal
#print axioms Ddo.C09.cinvC_forget
#print axioms Ddo.C09.viewOf_update
#print axioms Ddo.C09.viewOf_clearLayer
