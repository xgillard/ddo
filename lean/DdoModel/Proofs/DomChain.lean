import DdoModel.Proofs.DomTruth
/-! # Builds with the dominance checker as chains through filters that keep the protected family

`Proofs/BuildChain.lean` has the chains of layer steps and the invariants that need the frame only.  With the checker on, the
invariants of a protected family need more of `_filter_with_dominance`, whatever store answered it — `FilterOk`: the layer changed
in `theta` only (which gives the frame), the survivors are positions of the layer, an inexact or protected node survives.  The
compilation of the diagram model from a store of exactly reached items is a `Chain cfg (FilterOk Prot)`, and so are the compilations
whose layers, or whose single operations, are answered by other stores of exactly reached items (`Proofs/ParDomCompileL.lean`,
`Proofs/ParDomOpLoop.lean`); the exact phase and the relaxed phase along such chains: `Proofs/DomExact.lean`, `Proofs/DomRelax.lean`. -/
set_option linter.unusedSectionVars false
set_option linter.unusedVariables false
namespace Ddo.C10
open Ddo Ddo.C01 Ddo.Closed Ddo.Truth
variable {S K : Type} [DecidableEq S] [DecidableEq K]

theorem subS_of_thEq {a b : List (Node S)} (h : ThEq a b) : SubS a b := by
  intro n hn
  obtain ⟨q, hq⟩ := List.mem_iff_getElem?.mp hn
  obtain ⟨n0, h0, hs⟩ := h.get hq
  obtain ⟨es, ev, ed, ee, _, eb⟩ := stripT_all hs
  exact ⟨n0, List.mem_of_getElem? h0, ee.symm, es.symm, ev.symm, eb.symm, ed.symm⟩

structure FilterOk (Prot : Nat → S → Int → Prop) (dd : DD S K) (fl : List (Node S)) (fk : List Nat) : Prop where
  thEq : ThEq fl dd.next
  lt : ∀ p ∈ fk, p < dd.next.length
  keep : ∀ p n, dd.next[p]? = some n → (n.isExact = true → Prot dd.depth n.state n.value) → p ∈ fk

theorem FilterOk.frame {Prot : Nat → S → Int → Prop} {dd : DD S K} {fl : List (Node S)} {fk : List Nat}
    (h : FilterOk Prot dd fl fk) : FrameOk dd fl := by
  intro m hm
  obtain ⟨i, hi⟩ := List.mem_iff_getElem?.1 hm
  obtain ⟨n0, h0, hs⟩ := h.thEq.get hi
  exact ⟨n0, List.mem_of_getElem? h0, ess_of_stripT hs.symm, (stripT_all hs).2.2.1⟩

theorem stepLayer_filterOk (cfg : Cfg S K) (D : DomRule S K) (H : Nat → S → EInt) (opt : Int) (Prot : Nat → S → Int → Prop)
    (hD : cfg.dom = some D) (hcache : cfg.useCache = false) (hNV : NvBound cfg.P) (hP : Protected D cfg.P H opt Prot)
    (B : Int) (p0 : List Dec) (dd dd' : DD S K) (var : Nat) (oc : Outcome)
    (hS : SInv cfg D dd) (hc : AtStep cfg B p0 dd var) (hne : dd.next ≠ [])
    (hst : stepLayer cfg dd var = (some dd', oc)) :
    FilterOk Prot dd (fdOf cfg dd).1 (fdOf cfg dd).2.1 ∧ LayerStep cfg var dd dd' (fdOf cfg dd).1 (fdOf cfg dd).2.1 := by
  obtain ⟨f1, f2, _, f4, _, f6⟩ := fdOf_facts cfg D hD hNV B p0 dd var hS hc.M hc.depth hc.nv
  obtain ⟨sq, hsq, _, el, en, ed, ell, _⟩ := stepLayer_dom_inv cfg dd var hne hcache f4 hst
  exact ⟨⟨f1, f2, f6 H opt Prot hP⟩, sq, hsq, el, en, ed, ell⟩

theorem Chain.stepLayer {cfg : Cfg S K} {D : DomRule S K} {H : Nat → S → EInt} {opt : Int} {Prot : Nat → S → Int → Prop}
    (hD : cfg.dom = some D) (hcache : cfg.useCache = false) (hNV : NvBound cfg.P) (hP : Protected D cfg.P H opt Prot)
    {B : Int} (hB : NoClamp cfg.P cfg.R cfg.root.value B) {p0 : List Dec} {dd0 dd dd' : DD S K} {var : Nat} {oc : Outcome}
    (hC : Chain cfg (FilterOk Prot) B p0 dd0 dd) (hS : SInv cfg D dd) (hc : AtStep cfg B p0 dd var)
    (hst : stepLayer cfg dd var = (some dd', oc)) : Chain cfg (FilterOk Prot) B p0 dd0 dd' := by
  by_cases hne : dd.next = []
  · rw [stepLayer_empty cfg dd var hne] at hst
    cases hst
    exact hC.brk hc hne
  · obtain ⟨hf, hl⟩ := stepLayer_filterOk cfg D H opt Prot hD hcache hNV hP B p0 dd dd' var oc hS hc hne hst
    exact hC.layer hc hne hf.frame hf hl (Ddo.stepLayer_inv cfg B p0 hB dd var hc.M hc.depth hc.nv hc.len dd' oc hst).1

theorem compile_chain (cfg : Cfg S K) (D : DomRule S K) (H : Nat → S → EInt) (opt : Int) (Prot : Nat → S → Int → Prop)
    (hD : cfg.dom = some D) (hcache : cfg.useCache = false) (hNV : NvBound cfg.P) (hP : Protected D cfg.P H opt Prot)
    (B : Int) (hB : NoClamp cfg.P cfg.R cfg.root.value B) (p0 : List Dec) (cache : Cache S) (store : DomStore S K) (polls : Nat)
    (hroot : Reach cfg.P cfg.root.depth cfg.root.state cfg.root.value p0)
    (hst : StoreReach D cfg.P store) (hlen : store.layers.length = cfg.P.nbVars + 1)
    (hok : (compile cfg cache store polls none).1 = .ok) :
    Ended cfg (FilterOk Prot) B p0 (compile cfg cache store polls none).2.2.2 :=
  compile_ended cfg _ B p0 hB (J := SInv cfg D) (fun dd var h => ⟨h.store, h.len⟩)
    (fun dd var dd' oc hJ hc hs => ⟨stepLayer_sinv cfg D hD hcache hNV B p0 dd dd' var oc hJ hc.M hc.depth hc.nv hs, fun hne => by
      obtain ⟨hf, hl⟩ := stepLayer_filterOk cfg D H opt Prot hD hcache hNV hP B p0 dd dd' var oc hJ hc hne hs
      exact ⟨_, _, hf.frame, hf, hl⟩⟩)
    cache store polls hroot ⟨hst, hlen⟩ hok

end Ddo.C10
