import DdoModel.Proofs.ParCacheModel
import DdoModel.Proofs.ParClosed
import DdoModel.Proofs.SolverCfg
/-! # The parallel caching solver as a function: a deterministic scheduler for `KPStep`, and what the evaluated runs observe

`nextK sv pick s i` is the next step of worker `i` in `s` as a function (`none`: not enabled — parked, gone, crashed, needs
the mutex while somebody is inside `get_workload`, or the operation would panic / the compilation does not end normally).
The pop is `popMax`; a compilation that ends reads **the `pick`-th admissible snapshot** of the shared cache, i.e.
`(s.log.take (s.log.length + 1 - k0))[pick]?`: `pick = 0` is the current content, a larger `pick` an OLDER content (a
stale read of the whole cache).  It only takes steps of `KPStep sv` (`nextK_step`), so every state reached along a schedule
(`runSchedK`) is reachable.  The evaluated runs are in `Proofs/ParCacheExec.lean`, `Proofs/ParCacheWeak.lean`,
`Proofs/ParCacheCutWitness.lean`. -/
set_option linter.unusedSectionVars false
set_option linter.unusedVariables false
namespace Ddo.ParCache
open Ddo Ddo.C01 Ddo.C09 Ddo.ParSys Ddo.Closed
variable {S : Type} [DecidableEq S]

def lockFreeB (s : KSys S) : Bool := s.ws.all (fun w => !w.inGw)

theorem lockFreeB_iff (s : KSys S) : lockFreeB s = true ↔ LockFree s := by
  unfold lockFreeB LockFree
  rw [List.all_eq_true]
  constructor
  · intro h w hw
    have := h w hw
    cases hh : w.inGw
    · rfl
    · rw [hh] at this; cases this
  · intro h w hw
    rw [h w hw]; rfl

/-- every content among the `m` newest ones is an admissible virtual cache -/
theorem fromLog_mem {c : Cache S} {log : List (Cache S)} {m : Nat} (h : c ∈ log.take m) : FromLog c log m :=
  fun _ _ t ht => ⟨c, h, ht⟩

/-- the `pick`-th admissible snapshot for a compilation begun when the log had length `k0` (0 = newest) -/
def snapshot (s : KSys S) (k0 pick : Nat) : Option (Cache S) := (s.log.take (s.log.length + 1 - k0))[pick]?

theorem snapshot_fromLog {s : KSys S} {k0 pick : Nat} {cv : Cache S} (h : snapshot s k0 pick = some cv) :
    FromLog cv s.log (s.log.length + 1 - k0) :=
  fromLog_mem (List.mem_of_getElem? h)

def nextK (sv : SolverCfg S) (pick : Nat) (s : KSys S) (i : Nat) : Option (KSys S) :=
  match s.ws[i]? with
  | none => none
  | some .idle => if lockFreeB s then some { s with ws := s.ws.set i .gwC } else none
  | some .waiting => none
  | some .done => none
  | some .crashed => none
  | some .gwC =>
    if cleanCond sv.P.nbVars s.crit then
      match s.cache.clearLayer s.crit.base.firstActive with
      | some c' => some { s with crit := bumpFirst s.crit, cache := c', log := c' :: s.log }
      | none => none
    else
      match s.crit.base.fringe with
      | [] =>
        if s.crit.ongoing = 0 then some { s with crit := s.crit.complete, ws := s.ws.set i .done }
        else some { s with ws := s.ws.set i .waiting }
      | _ :: _ => some { s with ws := s.ws.set i .gwP }
  | some .gwP =>
    match popMax s.crit.base.fringe with
    | none => some { s with ws := s.ws.set i .idle }
    | some (N, rest) =>
      if N.ub ≤ s.crit.base.bestLb then some { s with crit := starve s.crit, ws := s.ws.set i .idle }
      else
        match s.cache.mustExplore N.state N.depth N.value with
        | none => none
        | some false =>
          match dropOne s.crit N rest with
          | some c' => some { s with crit := c' }
          | none => none
        | some true => some { s with crit := setFringe s.crit rest, ws := s.ws.set i (.gwW N) }
  | some (.gwW n) =>
    match s.cache.update n.state n.depth ⟨n.value, true⟩ with
    | none => none
    | some c' =>
      match s.crit.take i n with
      | none => none
      | some crit' => some { crit := crit', cache := c', log := c' :: s.log, ws := s.ws.set i (.readR n) }
  | some (.readR n) =>
    if lockFreeB s then
      some { s with ws := s.ws.set i (if n.ub ≤ s.crit.readLb then .fin n else .compR n s.crit.readLb s.log.length) }
    else none
  | some (.compR n lb k0) =>
    match snapshot s k0 pick with
    | none => none
    | some cv =>
      if sv.coutR cv n lb = .ok then
        some { s with ws := s.ws.set i (.wrR n lb (toOut (sv.cresR cv n lb)) cv (sv.cresR cv n lb).cacheUpdates.reverse
                                          (sv.cresR cv n lb).cacheUpdates.reverse) }
      else none
  | some (.wrR n lb o cv ups (u :: todo)) =>
    match s.cache.update u.1 u.2.1 (upThr u) with
    | none => none
    | some c' => some { s with cache := c', log := c' :: s.log, ws := s.ws.set i (.wrR n lb o cv ups todo) }
  | some (.wrR n lb o cv ups []) =>
    if lockFreeB s then
      some { s with crit := s.crit.updateBest o, ws := s.ws.set i (if o.isExact then .fin n else .readX n) }
    else none
  | some (.readX n) =>
    if lockFreeB s then some { s with ws := s.ws.set i (.compX n s.crit.readLb s.log.length) } else none
  | some (.compX n lb k0) =>
    match snapshot s k0 pick with
    | none => none
    | some cv =>
      if sv.coutX cv n lb = .ok then
        some { s with ws := s.ws.set i (.wrX n lb (toOut (sv.cresX cv n lb)) cv (sv.cresX cv n lb).cacheUpdates.reverse
                                          (sv.cresX cv n lb).cacheUpdates.reverse) }
      else none
  | some (.wrX n lb o cv ups (u :: todo)) =>
    match s.cache.update u.1 u.2.1 (upThr u) with
    | none => none
    | some c' => some { s with cache := c', log := c' :: s.log, ws := s.ws.set i (.wrX n lb o cv ups todo) }
  | some (.wrX n lb o cv ups []) =>
    if lockFreeB s then
      some { s with crit := s.crit.updateBest o, ws := s.ws.set i (if o.isExact then .fin n else .enq n lb o cv ups) }
    else none
  | some (.enq n lb o cv ups) =>
    if lockFreeB s then some { s with crit := s.crit.enqueue sv.dedup o.cutset, ws := s.ws.set i (.fin n) } else none
  | some (.fin n) =>
    if lockFreeB s then
      match s.crit.notifyFinished i n.depth with
      | some c' => some { s with crit := c', ws := (s.ws.map KW.wake).set i .idle }
      | none => none
    else none

theorem nextK_step {sv : SolverCfg S} {pick : Nat} {s t : KSys S} {i : Nat} (h : nextK sv pick s i = some t) :
    KPStep sv s t := by
  unfold nextK at h
  split at h
  · cases h
  · next hw =>
    split at h
    · next hl => injection h with h; subst h; exact .gwEnter s i hw ((lockFreeB_iff s).mp hl)
    · cases h
  · cases h
  · cases h
  · cases h
  · next hw =>
    split at h
    · next hc =>
      split at h
      · next c' hcl => injection h with h; subst h; exact .gwClear s i c' hw hc hcl
      · cases h
    · next hc =>
      split at h
      · next hf =>
        split at h
        · next ho => injection h with h; subst h; exact .gwComplete s i hw hc ho hf
        · next ho => injection h with h; subst h; exact .gwWait s i hw hc ho hf
      · next a l hf =>
        injection h with h; subst h
        exact .gwToPop s i hw hc (by rw [hf]; exact List.cons_ne_nil _ _)
  · next hw =>
    split at h
    · next hp =>
      injection h with h; subst h
      exact .gwEmpty s i hw (ParClosed.popMax_none hp)
    · next N rest hp =>
      have hpm := ParClosed.popMax_popMax hp
      split at h
      · next hub => injection h with h; subst h; exact .gwStarve s i N rest hw hpm hub
      · next hub =>
        split at h
        · cases h
        · next hme =>
          split at h
          · next c' hd => injection h with h; subst h; exact .gwDrop s i N rest c' hw hpm hub hme hd
          · cases h
        · next hme => injection h with h; subst h; exact .gwKeep s i N rest hw hpm hub hme
  · next n hw =>
    split at h
    · cases h
    · next c' hu =>
      split at h
      · cases h
      · next crit' ht => injection h with h; subst h; exact .gwTake s i n c' crit' hw hu ht
  · next n hw =>
    split at h
    · next hl => injection h with h; subst h; exact .readLbR s i n hw ((lockFreeB_iff s).mp hl)
    · cases h
  · next n lb k0 hw =>
    split at h
    · cases h
    · next cv hcv =>
      split at h
      · next hok =>
        injection h with h; subst h
        exact .compileR s i n lb k0 cv _ _ hw (snapshot_fromLog hcv) ⟨hok, rfl, rfl⟩
      · cases h
  · next n lb o cv ups u todo hw =>
    split at h
    · cases h
    · next c' hu => injection h with h; subst h; exact .writeR s i n lb o cv ups u todo c' hw hu
  · next n lb o cv ups hw =>
    split at h
    · next hl => injection h with h; subst h; exact .updateR s i n lb o cv ups hw ((lockFreeB_iff s).mp hl)
    · cases h
  · next n hw =>
    split at h
    · next hl => injection h with h; subst h; exact .readLbX s i n hw ((lockFreeB_iff s).mp hl)
    · cases h
  · next n lb k0 hw =>
    split at h
    · cases h
    · next cv hcv =>
      split at h
      · next hok =>
        injection h with h; subst h
        exact .compileX s i n lb k0 cv _ _ hw (snapshot_fromLog hcv) ⟨hok, rfl, rfl⟩
      · cases h
  · next n lb o cv ups u todo hw =>
    split at h
    · cases h
    · next c' hu => injection h with h; subst h; exact .writeX s i n lb o cv ups u todo c' hw hu
  · next n lb o cv ups hw =>
    split at h
    · next hl => injection h with h; subst h; exact .updateX s i n lb o cv ups hw ((lockFreeB_iff s).mp hl)
    · cases h
  · next n lb o cv ups hw =>
    split at h
    · next hl => injection h with h; subst h; exact .enqueue s i n lb o cv ups hw ((lockFreeB_iff s).mp hl)
    · cases h
  · next n hw =>
    split at h
    · next hl =>
      split at h
      · next c' hn => injection h with h; subst h; exact .notify s i n c' hw ((lockFreeB_iff s).mp hl) hn
      · cases h
    · cases h

/-- the scheduler run along a list of `(worker, pick)` (a step that is not enabled is skipped) -/
def runSchedK (sv : SolverCfg S) : KSys S → List (Nat × Nat) → KSys S
  | s, [] => s
  | s, (i, pick) :: is =>
    match nextK sv pick s i with
    | some t => runSchedK sv t is
    | none => runSchedK sv s is

theorem runSchedK_run' (sv : SolverCfg S) : ∀ (sched : List (Nat × Nat)) (s : KSys S), KPRun sv s (runSchedK sv s sched) := by
  intro sched
  induction sched with
  | nil => intro s; exact KRun.refl s
  | cons ip is ih =>
    intro s
    obtain ⟨i, pick⟩ := ip
    unfold runSchedK
    cases h : nextK sv pick s i with
    | none => exact ih s
    | some t => exact KRun.head (nextK_step h) (ih t)

theorem runSchedK_run (sv : SolverCfg S) (s : KSys S) (sched : List (Nat × Nat)) : KPRun sv s (runSchedK sv s sched) :=
  runSchedK_run' sv sched s

/-- observable summary of a worker state (for `decide`) -/
def tagK : KW S → Nat
  | .idle => 0 | .waiting => 1 | .done => 2 | .crashed => 3 | .gwC => 4 | .gwP => 5 | .gwW _ => 6 | .readR _ => 7
  | .compR _ _ _ => 8 | .wrR _ _ _ _ _ _ => 9 | .readX _ => 10 | .compX _ _ _ => 11 | .wrX _ _ _ _ _ _ => 12
  | .enq _ _ _ _ _ => 13 | .fin _ => 14

theorem tagK_done {w : KW S} (h : tagK w = 2) : w = .done := by cases w <;> simp_all [tagK]
theorem tagK_gwC {w : KW S} (h : tagK w = 4) : w = .gwC := by cases w <;> simp_all [tagK]

/-- what is observed of a state: (the stage of every worker, `ongoing`, the size of the fringe), (the incumbent, the length
    of the log = 1 + number of cache writes so far, the number of entries of the shared cache per layer) -/
def obsK (t : KSys S) : (List Nat × Nat × Nat) × (Int × Nat × List Nat) :=
  ((t.ws.map tagK, t.crit.ongoing, t.crit.base.fringe.length),
   (t.crit.base.bestLb, t.log.length, t.cache.layers.map List.length))

/-- `obsK s = v` as a proposition of its own: a conjunction of many observations of a run is then decided instance by
    instance (as equations between tuples they exceed the default size of an instance problem) -/
def ObsIs (s : KSys S) (v : (List Nat × Nat × Nat) × (Int × Nat × List Nat)) : Prop := obsK s = v

instance (s : KSys S) (v : (List Nat × Nat × Nat) × (Int × Nat × List Nat)) : Decidable (ObsIs s v) :=
  inferInstanceAs (Decidable (obsK s = v))

def allDoneB (s : KSys S) : Bool := s.ws.all (fun w => tagK w == 2)

theorem allDoneB_iff (s : KSys S) : allDoneB s = true ↔ AllDone s := by
  unfold allDoneB AllDone
  rw [List.all_eq_true]
  constructor
  · intro h w hw; exact tagK_done (by simpa using h w hw)
  · intro h w hw; rw [h w hw]; rfl

theorem allDone_of_obsK {s : KSys S} (n : Nat) {x : Nat × Nat} {y : Int × Nat × List Nat}
    (h : obsK s = ((List.replicate n 2, x), y)) : AllDone s := by
  intro w hw
  have hm : tagK w ∈ (obsK s).1.1 := List.mem_map_of_mem hw
  rw [h] at hm
  exact tagK_done (List.eq_of_mem_replicate hm)

theorem bestLb_of_obsK {s : KSys S} {x : List Nat × Nat × Nat} {b : Int} {y : Nat × List Nat} (h : obsK s = (x, b, y)) :
    s.crit.base.bestLb = b :=
  congrArg (·.2.1) h

def completesAtB (nbVars : Nat) (s : KSys S) (i : Nat) : Bool :=
  ((s.ws[i]?.map tagK) == some 4) && !decide (cleanCond nbVars s.crit) && (s.crit.ongoing == 0) && s.crit.base.fringe.isEmpty

theorem completesAtB_sound {nbVars : Nat} {s : KSys S} {i : Nat} (h : completesAtB nbVars s i = true) :
    CompletesAt nbVars s i := by
  unfold completesAtB at h
  simp only [Bool.and_eq_true, beq_iff_eq, Bool.not_eq_true', decide_eq_false_iff_not, List.isEmpty_iff] at h
  obtain ⟨⟨⟨h1, h2⟩, h3⟩, h4⟩ := h
  refine ⟨?_, h2, h3, h4⟩
  cases hw : s.ws[i]? with
  | none => rw [hw] at h1; cases h1
  | some w =>
    rw [hw] at h1
    simp only [Option.map_some, Option.some.injEq] at h1
    rw [tagK_gwC h1]

/-- the log length recorded when worker `i` entered the compilation it is in -/
def k0At (s : KSys S) (i : Nat) : Option Nat :=
  match s.ws[i]? with
  | some (.compR _ _ k0) => some k0
  | some (.compX _ _ k0) => some k0
  | _ => none

/-- the number of entries per layer -/
def sizes (c : Cache S) : List Nat := c.layers.map List.length

end Ddo.ParCache

namespace Ddo.ParCache

/-- worker `i` is inside a restricted compilation -/
def compRAt {S : Type} (s : KSys S) (i : Nat) : Option (SubP S × Int × Nat) :=
  match (s.ws[i]? : Option (KW S)) with
  | some (KW.compR n lb k0) => some (n, lb, k0)
  | _ => none

theorem compRAt_sound {S : Type} {s : KSys S} {i : Nat} {x : SubP S × Int × Nat} (h : compRAt s i = some x) :
    s.ws[i]? = some (.compR x.1 x.2.1 x.2.2) := by
  unfold compRAt at h
  split at h
  · next n lb k0 hw => cases h; exact hw
  · cases h

/-- worker `i` has finished a restricted compilation and written all its thresholds; `maybe_update_best` is next -/
def wrRDoneAt {S : Type} (s : KSys S) (i : Nat) : Option (SubP S × Int × DDOut S × Cache S × List (Up S)) :=
  match (s.ws[i]? : Option (KW S)) with
  | some (KW.wrR n lb o cv ups []) => some (n, lb, o, cv, ups)
  | _ => none

theorem wrRDoneAt_sound {S : Type} {s : KSys S} {i : Nat} {y : SubP S × Int × DDOut S × Cache S × List (Up S)}
    (h : wrRDoneAt s i = some y) : s.ws[i]? = some (.wrR y.1 y.2.1 y.2.2.1 y.2.2.2.1 y.2.2.2.2 []) := by
  unfold wrRDoneAt at h
  split at h
  · next n lb o cv ups hw => cases h; exact hw
  · cases h

end Ddo.ParCache

#print axioms Ddo.ParCache.lockFreeB_iff
#print axioms Ddo.ParCache.fromLog_mem
#print axioms Ddo.ParCache.nextK_step
#print axioms Ddo.ParCache.runSchedK_run
#print axioms Ddo.ParCache.allDoneB_iff
#print axioms Ddo.ParCache.completesAtB_sound
