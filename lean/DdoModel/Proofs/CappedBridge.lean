import DdoModel.Proofs.SeqCache
/-! C09 / D14 — **the bridge between the solver and its pre-fix (capped) variant**.

Before the repair of finding D14, `enqueue_cutset(ub)` of `implementation/solver/sequential.rs` capped the bound of every
cut-set node by the bound of the sub-problem that was just processed (`cutset_node.ub = ub.min(cutset_node.ub)`):
`SeqSt.enqueueCapped` / `SeqSt.processCapped` of `SeqSolver.lean`.  The repaired solver (`SeqSt.enqueue`, `SeqSt.process`)
pushes a cut-set node with the bound its own diagram gave it.

The relation between the two (`Proofs/SeqInv.lean`: `enqueue_eq_capped`; here `process_eq_capped`): **the repaired enqueue is
the capped enqueue with any cap that dominates the bounds of the cut-set**, so processing `N` is processing `N` with its bound
raised (`raise N U`, `U ≥` every bound of the cut-set) by the pre-fix code — the solver reads `N.ub` only in the test
`node.ub ≤ best_lb` at the top of `process_one_node`.

`cinvC_raise`, `compC_raise`: the invariant `CInvC` of `Proofs/SeqCache.lean` is monotone in the bound of a node (a larger bound
only makes it a better carrier; the invariant never asks a bound to be *small*) and the contract `CompC` of a compilation does
not read the bound of its root.  (`raise N U` with `U` above every bound of the fringe *is* a best-first pop of the pre-fix
solver: an arbitrary pop of the repaired solver is a best-first pop of the capped one.  `processC_inv` of `Proofs/SeqCache.lean`
has no hypothesis on the order and does not go through these lemmas.) -/
set_option linter.unusedSectionVars false
set_option linter.unusedVariables false
namespace Ddo
variable {S : Type} [DecidableEq S]

/-- a bound that dominates the bounds of a list of sub-problems -/
def capOf (cs : List (SubP S)) : Int := cs.foldl (fun a c => max a c.ub) 0

def raise (N : SubP S) (U : Int) : SubP S := { N with ub := max N.ub U }

theorem capOf_ge_aux (cs : List (SubP S)) : ∀ a : Int, a ≤ cs.foldl (fun a c => max a c.ub) a ∧
    ∀ c ∈ cs, c.ub ≤ cs.foldl (fun a c => max a c.ub) a := by
  induction cs with
  | nil => intro a; exact ⟨Int.le_refl _, fun c hc => by cases hc⟩
  | cons c0 cs ih =>
    intro a
    obtain ⟨h1, h2⟩ := ih (max a c0.ub)
    simp only [List.foldl_cons]
    refine ⟨by omega, fun c hc => ?_⟩
    rcases List.mem_cons.mp hc with e | e
    · subst e; omega
    · exact h2 c e

theorem capOf_ge (cs : List (SubP S)) : ∀ c ∈ cs, c.ub ≤ capOf cs := (capOf_ge_aux cs 0).2

/-- the cut-set bound of a relaxed answer (`0` for a cutoff) -/
def capX : DDRes S → Int
  | .ok o => capOf o.cutset
  | .cutoff => 0

/-- **processing `N` = processing `N` with a raised bound by the pre-fix (capped) code** (when `N` passes the bound test;
    otherwise nothing happens) -/
theorem process_eq_capped (dedup : Bool) (st : SeqSt S) (N : SubP S) (me : Bool) (r x : DDRes S) (U : Int) (hU : capX x ≤ U) :
    st.process dedup N me r x = if N.ub ≤ st.bestLb then (st, 0) else st.processCapped dedup (raise N U) me r x := by
  by_cases hub : N.ub ≤ st.bestLb
  · simp only [SeqSt.process, if_pos hub]
  · have hub' : ¬ (raise N U).ub ≤ st.bestLb := by
      show ¬ max N.ub U ≤ st.bestLb; omega
    cases x with
    | cutoff => simp only [SeqSt.process, SeqSt.processCapped, if_neg hub, if_neg hub']
    | ok x =>
      have hcap : ∀ c ∈ x.cutset, c.ub ≤ (raise N U).ub := fun c hc => by
        have h1 := capOf_ge x.cutset c hc
        have h2 : capOf x.cutset ≤ U := hU
        show c.ub ≤ max N.ub U; omega
      simp only [SeqSt.process, SeqSt.processCapped, if_neg hub, if_neg hub', enqueue_eq_capped dedup _ x.cutset hcap]

end Ddo

namespace Ddo.C09
open Ddo
variable {S : Type} [DecidableEq S]

section
variable (H : Nat → S → EInt) (opt : Int) (Sol : List Dec → Int → Prop) (Rg : Nat → Int → Prop)

theorem live_raise {N : SubP S} {U : Int} {F : List (SubP S)} {T : CView S} {x : Int} {d : Nat}
    (h : Live H (N :: F) T x d) : Live H (raise N U :: F) T x d := by
  obtain ⟨c, hc, hdc, hy, hxu, hnp⟩ := h
  rcases List.mem_cons.mp hc with e | e
  · subst e
    refine ⟨raise c U, List.mem_cons_self, hdc, hy, ?_, hnp⟩
    show x ≤ max c.ub U
    omega
  · exact ⟨c, List.mem_cons_of_mem _ e, hdc, hy, hxu, hnp⟩

/-- **`CInvC` is monotone in the bound of a node**: the invariant never asks a bound to be small -/
theorem cinvC_raise (N : SubP S) (U : Int) (F : List (SubP S)) (T : CView S) (lb : Int) (sol : Option (List Dec))
    (h : CInvC H opt Sol Rg (N :: F) T lb sol) : CInvC H opt Sol Rg (raise N U :: F) T lb sol := by
  have hg := List.forall_mem_cons.mp h.good
  have hr := List.forall_mem_cons.mp h.rng
  refine ⟨List.forall_mem_cons.mpr ⟨hg.1, hg.2⟩, List.forall_mem_cons.mpr ⟨hr.1, hr.2⟩, h.lbOk, h.solOk, fun hgt => live_raise H (h.root hgt),
    fun s d t v hh hT hrg hvt hH hgt => live_raise H (h.cache s d t v hh hT hrg hvt hH hgt), ?_⟩
  · intro c hc y hy hgt
    rcases List.mem_cons.mp hc with e | e
    · subst e; exact live_raise H (h.open_ N List.mem_cons_self y hy hgt)
    · exact live_raise H (h.open_ c (List.mem_cons_of_mem _ e) y hy hgt)

/-- **the contract of a compilation does not read the bound of its root** -/
theorem compC_raise {N : SubP S} (U : Int) {lb : Int} {T : CView S} {o : DDOut S} {ups : List (S × Nat × Int × Bool)}
    {bk : Int} (h : CompC H opt Sol Rg N lb T o ups bk) : CompC H opt Sol Rg (raise N U) lb T o ups bk :=
  ⟨h.sound, h.exact, h.exactCut, h.cover, h.theta, h.good, h.rng, h.sub, h.deeper, h.ub, h.fresh⟩

end
end Ddo.C09

#print axioms Ddo.process_eq_capped
#print axioms Ddo.C09.cinvC_raise
#print axioms Ddo.C09.compC_raise
