import DdoModel.Proofs.Closed
import DdoModel.Proofs.Theta
/-! Closing lemmas for the composition "diagram model ∘ solver model" when a cache is in use.

* `buildLoop_frame` — the frame through which the invariants that only read the diagram (`KInvA`, `KInv`, `G2`) are
  carried to whatever the loop returns (from the two equations of the loop, `buildLoop_none` / `buildLoop_some`).
* `compile_no_crash_cached` — `Ddo.Closed.compile_no_crash` for any cache (`cfg.useCache` arbitrary, any cache content),
  any compilation type: a compilation of width ≥ 1, without dominance rule and without cutoff, of a sub-problem that is not
  deeper than `nb_variables` ends normally.
* `restricted_exact_as_relaxed` — a restricted compilation that ends normally and declares itself exact (no layer was
  squashed: `lel` is still unset) *is* a relaxed compilation: with `ctype := .relaxed` and everything else unchanged the
  loop builds the very same diagram (`buildLoop_relaxed_eq`), the result is exact again, reports the same best exact value
  and the same cache updates, and both cut-sets are empty. -/
set_option linter.unusedSectionVars false
set_option linter.unusedVariables false
namespace Ddo.CacheClosed
open Ddo Ddo.Truth Ddo.Closed
variable {S K : Type} [DecidableEq S] [DecidableEq K]

/-- **an invariant of the compilation loop**, indexed by the number of layer steps made: `I` reads only the layers, the
    layer under construction, the depth and the cache (`hfr`: the log and the poll counter do not matter) and every call of
    `stepLayer` that returns a diagram makes one step (`hstep`, whatever the outcome: the `break` on an empty layer
    included).  Then it holds on whatever the loop returns, after at most `fuel` steps. -/
theorem buildLoop_frame (cfg : Cfg S K) (stopAt : Option Nat) (I : Nat → DD S K → Prop)
    (hfr : ∀ k (dd dd' : DD S K), I k dd → dd'.layers = dd.layers → dd'.next = dd.next → dd'.depth = dd.depth →
      dd'.cache = dd.cache → I k dd')
    (hstep : ∀ k (dd dd' : DD S K) (var : Nat) (oc : Outcome), I k dd →
      cfg.P.nextVar dd.depth (dd.next.map (·.state)) = some var → stepLayer cfg dd var = (some dd', oc) → I (k + 1) dd') :
    ∀ (fuel k : Nat) (dd : DD S K), I k dd → ∃ j, j ≤ fuel ∧ I (k + j) (buildLoop cfg stopAt fuel dd).1 := by
  intro fuel
  induction fuel with
  | zero => intro k dd h; exact ⟨0, Nat.le_refl _, h⟩
  | succ fuel ih =>
    intro k dd h
    cases hnv : cfg.P.nextVar dd.depth (dd.next.map (·.state)) with
    | none =>
      rw [buildLoop_none cfg stopAt fuel dd hnv]
      exact ⟨0, Nat.zero_le _, hfr k dd _ h rfl rfl rfl rfl⟩
    | some var =>
      rw [buildLoop_some cfg stopAt fuel dd var hnv]
      have ht : I k (tick dd var) := hfr k dd _ h rfl rfl rfl rfl
      generalize stopTest stopAt (tick dd var).polls = stop
      cases stop with
      | true => exact ⟨0, Nat.zero_le _, ht⟩
      | false =>
        rw [if_neg Bool.false_ne_true]
        cases hst : stepLayer cfg (tick dd var) var with
        | mk o oc =>
          cases o with
          | none => exact ⟨0, Nat.zero_le _, ht⟩
          | some dd' =>
            have h' := hstep k (tick dd var) dd' var oc ht hnv hst
            cases oc with
            | ok =>
              obtain ⟨j, hj, hI⟩ := ih (k + 1) dd' h'
              exact ⟨j + 1, Nat.succ_le_succ hj, by rw [Nat.add_comm j 1, ← Nat.add_assoc]; exact hI⟩
            | cutoff => exact ⟨1, Nat.succ_le_succ (Nat.zero_le _), h'⟩
            | crash => exact ⟨1, Nat.succ_le_succ (Nat.zero_le _), h'⟩

theorem fcOf_first (cfg : Cfg S K) (dd : DD S K) (h : dd.layers = []) :
    (Theta.fcOf cfg dd).2.length = dd.next.length := by
  unfold Theta.fcOf
  rw [h]
  simp only [List.isEmpty_nil, if_true, List.length_range]

theorem buildLoop_no_crash_cached (cfg : Cfg S K) (hd : cfg.dom = none) (hW : 1 ≤ cfg.width) (hNV : NvBound cfg.P) :
    ∀ (fuel : Nat) (dd : DD S K), (dd.layers = [] → dd.next.length ≤ 1) → dd.depth ≤ cfg.P.nbVars →
      cfg.P.nbVars + 1 ≤ dd.depth + fuel → (buildLoop cfg none fuel dd).2 = .ok := by
  intro fuel
  induction fuel with
  | zero => intro dd _ h1 h2; omega
  | succ fuel ih =>
    intro dd hJ h1 h2
    cases hnv : cfg.P.nextVar dd.depth (dd.next.map (·.state)) with
    | none => rw [buildLoop_none cfg none fuel dd hnv]
    | some var =>
      have hlt : dd.depth < cfg.P.nbVars := by
        by_cases hk : cfg.P.nbVars ≤ dd.depth
        · rw [hNV _ _ hk] at hnv; cases hnv
        · omega
      rw [buildLoop_step cfg fuel dd var hnv]
      by_cases hne : dd.next = []
      · rw [stepLayer_empty cfg (tick dd var) var hne]
      · have hJ' : (tick dd var).layers = [] → (Theta.fcOf cfg (tick dd var)).2.length ≤ 1 := by
          intro h
          rw [fcOf_first cfg _ h]
          exact hJ h
        cases hsq : squash cfg (tick dd var) (Theta.fcOf cfg (tick dd var)).1 (Theta.fcOf cfg (tick dd var)).2 with
        | none => exact absurd hsq (Cover.squash_ne_none' cfg (tick dd var) _ _ hW hJ')
        | some sq =>
          obtain ⟨dd', e, hl, _, hdep, _⟩ := Theta.stepLayer_okT cfg (tick dd var) var hne hd sq hsq
          rw [e]
          refine ih dd' ?_ ?_ ?_
          · intro h; rw [hl] at h; simp at h
          · rw [hdep]; show dd.depth + 1 ≤ _; omega
          · rw [hdep]; show _ ≤ dd.depth + 1 + fuel; omega

theorem compile_no_crash_cached (cfg : Cfg S K) (cache : Cache S) (store : DomStore S K) (polls : Nat)
    (hd : cfg.dom = none) (hW : 1 ≤ cfg.width) (hNV : NvBound cfg.P)
    (hdepth : cfg.root.depth ≤ cfg.P.nbVars) : (compile cfg cache store polls none).1 = .ok := by
  rw [compile_fst]
  refine buildLoop_no_crash_cached cfg hd hW hNV _ _ ?_ hdepth ?_
  · intro _; simp [initDD]
  · show cfg.P.nbVars + 1 ≤ cfg.root.depth + (cfg.P.nbVars + 2); omega

/-- the layer, the positions, the store and the verdict after both filters -/
def fdOf (cfg : Cfg S K) (dd : DD S K) : List (Node S) × List Nat × DomStore S K × Bool :=
  filterDom cfg dd.store (Theta.fcOf cfg dd).1 (Theta.fcOf cfg dd).2

theorem squash_small (cfg : Cfg S K) (dd : DD S K) (layer : List (Node S)) (cur : List Nat)
    (h : cur.length ≤ cfg.width) : squash cfg dd layer cur = some (layer, cur, dd.log, dd.lel) := by
  unfold squash
  have h3 : decide (cur.length > cfg.width) = false := decide_eq_false (by omega)
  simp only [h3, Bool.and_false, Bool.false_and, Bool.or_self, Bool.false_eq_true, if_false]

theorem squash_restricted_small (cfg : Cfg S K) (hres : cfg.ctype = .restricted) (dd : DD S K) (layer : List (Node S))
    (cur : List Nat) (sq : List (Node S) × List Nat × List (Call S) × Option Nat)
    (h : squash cfg dd layer cur = some sq) (hn : sq.2.2.2 = none) : cur.length ≤ cfg.width := by
  by_cases hle : cur.length ≤ cfg.width
  · exact hle
  · exfalso
    unfold squash at h
    have e1 : (cfg.ctype == CompType.restricted) = true := by rw [hres]; decide
    have e2 : (cfg.ctype == CompType.relaxed) = false := by rw [hres]; decide
    have e3 : decide (cur.length > cfg.width) = true := decide_eq_true (by omega)
    simp only [e1, e2, e3, Bool.and_self, Bool.false_and, Bool.true_and, Bool.true_or, Bool.false_eq_true, if_false,
      if_true] at h
    split at h
    · cases h
    · simp only [Option.some.injEq] at h
      subst h
      dsimp only at hn
      split at hn
      · cases hn
      · rename_i hx
        simp only [Bool.not_eq_true, Option.isNone_eq_false_iff, Option.isSome_iff_exists] at hx
        obtain ⟨k, hk⟩ := hx; rw [hk] at hn; cases hn

theorem stepLayer_sq (cfg : Cfg S K) (dd dd' : DD S K) (var : Nat) (oc : Outcome) (hne : dd.next.isEmpty = false)
    (h : stepLayer cfg dd var = (some dd', oc)) :
    ∃ sq, squash cfg dd (fdOf cfg dd).1 (fdOf cfg dd).2.1 = some sq ∧ dd'.lel = sq.2.2.2 := by
  unfold stepLayer at h
  simp only [hne, Bool.false_eq_true, if_false] at h
  unfold fdOf Theta.fcOf
  generalize (if dd.layers.isEmpty = true then (dd.next, List.range dd.next.length)
      else filterCache cfg dd.cache dd.next (List.range dd.next.length)) = fc at h ⊢
  generalize filterDom cfg dd.store fc.1 fc.2 = fd at h ⊢
  split at h
  · cases h
  · split at h
    · cases h
    · rename_i lsq csq lgsq lel hsq
      simp only [Prod.mk.injEq, Option.some.injEq] at h
      obtain ⟨rfl, _⟩ := h
      exact ⟨_, hsq, rfl⟩

/-- two configurations whose filters and expansion agree, and whose `squash` agrees on the filtered layer, make the same
    step -/
theorem stepLayer_congr (cfg1 cfg2 : Cfg S K) (dd : DD S K) (var : Nat)
    (hfc : ∀ c l cur, filterCache cfg1 c l cur = filterCache cfg2 c l cur)
    (hfd : ∀ s l cur, filterDom cfg1 s l cur = filterDom cfg2 s l cur)
    (hex : ∀ v i l cur lg, expandAll cfg1 v i l cur lg = expandAll cfg2 v i l cur lg)
    (hsq : dd.next.isEmpty = false →
      squash cfg1 dd (fdOf cfg2 dd).1 (fdOf cfg2 dd).2.1 = squash cfg2 dd (fdOf cfg2 dd).1 (fdOf cfg2 dd).2.1) :
    stepLayer cfg1 dd var = stepLayer cfg2 dd var := by
  unfold stepLayer
  cases hne : dd.next.isEmpty with
  | true => simp only [if_true]
  | false =>
    have hsq' := hsq hne
    unfold fdOf Theta.fcOf at hsq'
    simp only [Bool.false_eq_true, if_false, hfc, hfd, hex]
    generalize (if dd.layers.isEmpty = true then (dd.next, List.range dd.next.length)
        else filterCache cfg2 dd.cache dd.next (List.range dd.next.length)) = fc at hsq' ⊢
    generalize filterDom cfg2 dd.store fc.1 fc.2 = fd at hsq' ⊢
    rw [hsq']

theorem stepLayer_relaxed_eq (cfg : Cfg S K) (hres : cfg.ctype = .restricted) (dd dd' : DD S K) (var : Nat) (oc : Outcome)
    (h : stepLayer cfg dd var = (some dd', oc)) (hn : dd'.lel = none) :
    stepLayer { cfg with ctype := .relaxed } dd var = stepLayer cfg dd var := by
  refine stepLayer_congr _ cfg dd var (fun _ _ _ => rfl) (fun _ _ _ => rfl) (fun _ _ _ _ _ => rfl) (fun hne => ?_)
  obtain ⟨sq, hsq, hl⟩ := stepLayer_sq cfg dd dd' var oc hne h
  have hle := squash_restricted_small cfg hres dd _ _ sq hsq (hl ▸ hn)
  rw [squash_small cfg dd _ _ hle]
  exact squash_small { cfg with ctype := .relaxed } dd _ _ hle

theorem buildLoop_relaxed_eq (cfg : Cfg S K) (hres : cfg.ctype = .restricted) (stopAt : Option Nat) :
    ∀ (fuel : Nat) (dd : DD S K), (buildLoop cfg stopAt fuel dd).2 = .ok → (buildLoop cfg stopAt fuel dd).1.lel = none →
      buildLoop { cfg with ctype := .relaxed } stopAt fuel dd = buildLoop cfg stopAt fuel dd := by
  intro fuel
  induction fuel with
  | zero => intro dd _ _; rfl
  | succ fuel ih =>
    intro dd hok hn
    cases hnv : cfg.P.nextVar dd.depth (dd.next.map (·.state)) with
    | none =>
      rw [buildLoop_none cfg stopAt fuel dd hnv, buildLoop_none { cfg with ctype := .relaxed } stopAt fuel dd hnv]
    | some var =>
      rw [buildLoop_some cfg stopAt fuel dd var hnv] at hok hn ⊢
      rw [buildLoop_some { cfg with ctype := .relaxed } stopAt fuel dd var hnv]
      generalize stopTest stopAt (tick dd var).polls = stop at hok hn ⊢
      cases stop with
      | true => rfl
      | false =>
        rw [if_neg Bool.false_ne_true] at hok hn
        rw [if_neg Bool.false_ne_true, if_neg Bool.false_ne_true]
        cases hst : stepLayer cfg (tick dd var) var with
        | mk o oc =>
          rw [hst] at hok hn
          cases o with
          | none => cases hok
          | some dd' =>
            cases oc with
            | crash => cases hok
            | cutoff =>
              rw [stepLayer_relaxed_eq cfg hres _ dd' var _ hst hn, hst]
            | ok =>
              dsimp only at hok hn
              have hn' := buildLoop_lel cfg stopAt fuel dd' hn
              rw [stepLayer_relaxed_eq cfg hres _ dd' var _ hst hn', hst]
              exact ih dd' hok hn

theorem finalize_exact_relaxed (cfg : Cfg S K) (hres : cfg.ctype = .restricted) (b : Built S K) (e : Bool)
    (hx : b.isExactField = true) (hlel : b.layers.length ≤ b.lel) (hall : ∀ n ∈ b.terminals, n.isExact = true) :
    (finalize { cfg with ctype := .relaxed } b e).1.isExact = true ∧
    (finalize { cfg with ctype := .relaxed } b e).1.bestExactValue = (finalize cfg b false).1.bestExactValue ∧
    (finalize { cfg with ctype := .relaxed } b e).1.cacheUpdates = (finalize cfg b false).1.cacheUpdates := by
  have hbev : (if e = true then b.bestValue else maxValue (b.terminals.filter (·.isExact))) =
      maxValue (b.terminals.filter (·.isExact)) := by
    cases e
    · rfl
    · simp only [if_true]; unfold Built.bestValue; rw [List.filter_eq_self.2 hall]
  refine ⟨?_, ?_, ?_⟩
  · rw [finalize_isExact, hx]; rfl
  · rw [finalize_bestExactValue, finalize_bestExactValue, hbev]; rfl
  · have e1 : (cfg.ctype == CompType.relaxed) = false := by rw [hres]; decide
    have e2 : decide (b.lel < b.layers.length) = false := decide_eq_false (by omega)
    unfold finalize
    simp only [e1, e2, hx, hbev, Bool.false_and, Bool.or_true, Bool.false_eq_true, if_false, if_true]

/-- (`must` results; any cache / dominance configuration, same cutoff) -/
theorem restricted_exact_as_relaxed (cfg : Cfg S K) (B : Int) (p0 : List Dec)
    (cache : Cache S) (store : DomStore S K) (polls : Nat) (stopAt : Option Nat)
    (hres : cfg.ctype = .restricted)
    (hB : NoClamp cfg.P cfg.R cfg.root.value B)
    (hroot : Reach cfg.P cfg.root.depth cfg.root.state cfg.root.value p0)
    (hok : (compile cfg cache store polls stopAt).1 = .ok)
    (hex : (compile cfg cache store polls stopAt).2.1.isExact = true) :
    (compile { cfg with ctype := .relaxed } cache store polls stopAt).1 = .ok ∧
    (compile { cfg with ctype := .relaxed } cache store polls stopAt).2.1.isExact = true ∧
    (compile { cfg with ctype := .relaxed } cache store polls stopAt).2.1.bestExactValue =
      (compile cfg cache store polls stopAt).2.1.bestExactValue ∧
    (compile { cfg with ctype := .relaxed } cache store polls stopAt).2.1.cacheUpdates =
      (compile cfg cache store polls stopAt).2.1.cacheUpdates ∧
    (compile cfg cache store polls stopAt).2.1.cutset = [] ∧
    (compile { cfg with ctype := .relaxed } cache store polls stopAt).2.1.cutset = [] := by
  obtain ⟨hbl, hdd, hr⟩ := Ddo.compile_ok cfg cache store polls stopAt hok
  have e2 : (cfg.ctype == CompType.relaxed) = false := by rw [hres]; decide
  rw [e2] at hr
  have e3 : ∀ b : Built S K, b.ebpMust false = false := fun _ => rfl
  rw [e3] at hr
  -- no layer was squashed
  have hlel : (buildLoop cfg stopAt (cfg.P.nbVars + 2) (initDD cfg cache store polls)).1.lel = none := by
    rw [hr, finalize_isExact, Bool.or_false, Theta.finalizeLayers_isExactField] at hex
    exact Option.isNone_iff_eq_none.mp hex
  -- the relaxed loop is the same loop
  have hloop : buildLoop { cfg with ctype := .relaxed } stopAt
      (({ cfg with ctype := .relaxed } : Cfg S K).P.nbVars + 2) (initDD { cfg with ctype := .relaxed } cache store polls) =
      buildLoop cfg stopAt (cfg.P.nbVars + 2) (initDD cfg cache store polls) :=
    buildLoop_relaxed_eq cfg hres stopAt (cfg.P.nbVars + 2) (initDD cfg cache store polls) hbl hlel
  have hokX : (compile { cfg with ctype := .relaxed } cache store polls stopAt).1 = .ok := by
    rw [compile_fst, hloop]; exact hbl
  obtain ⟨_, hddX, hrX⟩ := Ddo.compile_ok { cfg with ctype := .relaxed } cache store polls stopAt hokX
  rw [hloop] at hrX hddX
  -- the common built diagram
  obtain ⟨_, hinv2⟩ := buildLoop_inv2 cfg B p0 hB stopAt (cfg.P.nbVars + 2) (initDD cfg cache store polls)
    (initDD_inv cfg B p0 hB hroot cache store polls) (initDD_inv2 cfg cache store polls) rfl
    (by simp only [initDD, List.length_nil]; omega)
  generalize (buildLoop cfg stopAt (cfg.P.nbVars + 2) (initDD cfg cache store polls)).1 = fin at hr hrX hlel hinv2 hdd hddX
  have hx : (finalizeLayers fin).isExactField = true := by rw [Theta.finalizeLayers_isExactField, hlel]; rfl
  have hle : (finalizeLayers fin).layers.length ≤ (finalizeLayers fin).lel := by
    rw [finalizeLayers_lel, hlel, Option.getD_none]; exact Nat.le_refl _
  have hall : ∀ n ∈ (finalizeLayers fin).terminals, n.isExact = true := by
    rw [terminals_finalizeLayers]; exact (hinv2.lelNone hlel).2
  obtain ⟨f1, f2, f3⟩ := finalize_exact_relaxed cfg hres (finalizeLayers fin)
    ((finalizeLayers fin).ebpMust (({ cfg with ctype := .relaxed } : Cfg S K).ctype == .relaxed)) hx hle hall
  refine ⟨hokX, ?_, ?_, ?_, ?_, ?_⟩
  · rw [hrX]; exact f1
  · rw [hrX, hr]; exact f2
  · rw [hrX, hr]; exact f3
  · exact C08.cutset_empty_of_exact cfg B p0 cache store polls stopAt hroot hB hok _ (.inl rfl) (by rw [hdd]; exact hlel)
  · refine C08.cutset_empty_of_exact { cfg with ctype := .relaxed } B p0 cache store polls stopAt hroot hB hokX _ (.inl rfl)
      (by rw [hddX]; exact hlel)

end Ddo.CacheClosed

#print axioms Ddo.CacheClosed.compile_no_crash_cached
#print axioms Ddo.CacheClosed.buildLoop_relaxed_eq
#print axioms Ddo.CacheClosed.restricted_exact_as_relaxed
