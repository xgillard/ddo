import DdoModel.Proofs.ParClosedLay
/-! # The parallel solver over the diagram model: progress, a deterministic scheduler, uninterrupted runs

With the side conditions (`PCInvG` / `PCInv`, `Proofs/ParClosedSide.lean`) and the bookkeeping `LayInv` (`Proofs/ParClosedLay.lean`):
* `gstep_progress`: whatever the answer relations, as long as a worker has not left its loop some section is enabled — a parked worker
  implies one that is neither parked nor gone (`exists_active`), and for each stage of such a worker the section is there (no panic in
  `take`, `notify_node_finished`; a compilation answers); `pstep_progress`: the instance at the answers of the diagram model;
* `next` / `runSched`: a deterministic scheduler (which worker moves next is the input; `next_step`: it only takes steps of the concrete
  system), for the evaluated runs;
* `NoCut` / `URun`: uninterrupted runs (no compilation is ever cut off), along which the abort flag stays down; `cutoffAt`: a
  cut-off injected by hand. -/
set_option linter.unusedSectionVars false
set_option linter.unusedVariables false
namespace Ddo.ParClosed
open Ddo Ddo.Truth Ddo.Closed Ddo.ParSys
open Ddo.C01 (SolverCfg WellFormed toOut SolOf)
variable {S : Type} [DecidableEq S]

/-- the fringe cleared, the open counters zeroed (`get_workload`, branch `nn.ub <= best_lb`) -/
def starved (c : ParCrit S) : ParCrit S :=
  { c with base := { c.base with fringe := [], openByLayer := c.base.openByLayer.map (fun _ => 0) } }

/-- what `abort_search`'s `fringe.pop()` contributes, computed with `popMax` -/
def topOf (fr : List (SubP S)) : Option Int := (popMax fr).map (fun p => p.1.ub)

/-- the empty cache / dominance store the scheduler hands to the compilations -/
def cache0 (sv : SolverCfg S) : Cache S := Cache.init sv.P.nbVars
def store0 (sv : SolverCfg S) : DomStore S Unit := DomStore.init sv.P.nbVars

/-- **the next section of worker `i`**, as a function: the pop is `popMax` (the first maximal entry), the compilations are
    those of the diagram model with the empty cache / store, no cut-off ever strikes.  `none`: the worker is parked, has
    left, does not exist — or the section panics / the compilation does not end normally (`next_some`: this does not
    happen on reachable states). -/
def next (sv : SolverCfg S) (s : Sys S) (i : Nat) : Option (Sys S) :=
  match s.ws[i]? with
  | none => none
  | some .idle =>
    if s.crit.base.abort then some { crit := s.crit, ws := s.ws.set i .done }
    else
      match popMax s.crit.base.fringe with
      | none =>
        if s.crit.ongoing = 0 then some { crit := s.crit.complete, ws := s.ws.set i .done }
        else some { crit := s.crit, ws := s.ws.set i .waiting }
      | some (N, rest) =>
        if N.ub ≤ s.crit.base.bestLb then some { crit := starved (setFringe s.crit rest), ws := s.ws }
        else
          match (setFringe s.crit rest).take i N with
          | some c'' => some { crit := c'', ws := s.ws.set i (.readR N) }
          | none => none
  | some .waiting => none
  | some .done => none
  | some (.crashed _) => none
  | some (.readR n) =>
    some { crit := s.crit, ws := s.ws.set i (if n.ub ≤ s.crit.readLb then .fin n false else .compR n s.crit.readLb) }
  | some (.compR n lb) =>
    if sv.outR (cache0 sv) (store0 sv) 0 n lb = .ok then
      some { crit := s.crit, ws := s.ws.set i (.updR n lb (toOut (sv.resR (cache0 sv) (store0 sv) 0 n lb))) }
    else none
  | some (.updR n _ o) =>
    some { crit := s.crit.updateBest o, ws := s.ws.set i (if o.isExact then .fin n false else .readX n) }
  | some (.readX n) => some { crit := s.crit, ws := s.ws.set i (.compX n s.crit.readLb) }
  | some (.compX n lb) =>
    if sv.outX (cache0 sv) (store0 sv) 0 n lb = .ok then
      some { crit := s.crit, ws := s.ws.set i (.updX n lb (toOut (sv.resX (cache0 sv) (store0 sv) 0 n lb))) }
    else none
  | some (.updX n lb o) =>
    some { crit := s.crit.updateBest o, ws := s.ws.set i (if o.isExact then .fin n false else .enq n lb o) }
  | some (.enq n _ o) => some { crit := s.crit.enqueue sv.dedup o.cutset, ws := s.ws.set i (.fin n false) }
  | some (.abortS n) =>
    some { crit := s.crit.abortSearch n.ub (topOf s.crit.base.fringe), ws := s.ws.set i (.fin n true) }
  | some (.fin n te) =>
    match s.crit.notifyFinished i n.depth with
    | some c' => some { crit := c', ws := (s.ws.map WSt.wake).set i (if te then .done else .idle) }
    | none => none

omit [DecidableEq S] in
theorem popMax_none {l : List (SubP S)} (h : popMax l = none) : l = [] := popMax_eq_none h

omit [DecidableEq S] in
theorem popMax_popMax {l : List (SubP S)} {N : SubP S} {rest : List (SubP S)} (h : popMax l = some (N, rest)) :
    PopMax l N rest := by
  obtain ⟨h1, h2⟩ := popMax_spec l N rest h
  exact ⟨h1, fun c hc => by have := h2 c hc; omega⟩

omit [DecidableEq S] in
theorem topOf_abortTop (fr : List (SubP S)) : AbortTop fr (topOf fr) := by
  unfold topOf
  cases h : popMax fr with
  | none => exact Or.inl ⟨popMax_none h, rfl⟩
  | some p =>
    obtain ⟨N, rest⟩ := p
    obtain ⟨h1, h2⟩ := popMax_popMax h
    refine Or.inr ⟨N, h1.mem_iff.mpr List.mem_cons_self, rfl, fun c hc => ?_⟩
    rcases List.mem_cons.mp (h1.mem_iff.mp hc) with e | e
    · rw [e]; exact Int.le_refl _
    · exact h2 c e

/-- **the scheduler only takes steps of the concrete system** -/
theorem next_step {sv : SolverCfg S} {s t : Sys S} {i : Nat} (h : next sv s i = some t) : PStep sv s t := by
  unfold next at h
  split at h
  · cases h
  · next hw =>
    split at h
    · next ha => injection h with h; subst h; exact .gwAborted s i hw ha
    · next ha =>
      have ha : s.crit.base.abort = false := by simpa using ha
      split at h
      · next hp =>
        have hf := popMax_none hp
        split at h
        · next ho => injection h with h; subst h; exact .gwComplete s i hw ha ho hf
        · next ho => injection h with h; subst h; exact .gwWait s i hw ha ho hf
      · next N rest hp =>
        have hpm := popMax_popMax hp
        split at h
        · next hle =>
          injection h with h; subst h
          refine .gwStarve s i N rest _ 1 hw ha hpm ?_
          rw [popLoop_single]
          exact if_pos hle
        · next hgt =>
          have hl : popLoop (setFringe s.crit rest) [(N, true)] 0 = (setFringe s.crit rest, some (some N), 1) := by
            rw [popLoop_single]; exact if_neg hgt
          split at h
          · next c'' ht => injection h with h; subst h; exact .gwItem s i N rest _ N 1 c'' hw ha hpm hl ht
          · cases h
  · cases h
  · cases h
  · cases h
  · next n hw => injection h with h; subst h; exact .readLbR s i n hw
  · next n lb hw =>
    split at h
    · next hok =>
      injection h with h; subst h
      exact .compileR s i n lb (.ok _) hw (fun o ho => by injection ho with ho; subst ho; exact ⟨_, _, _, hok, rfl⟩)
    · cases h
  · next n lb o hw => injection h with h; subst h; exact .updateR s i n lb o hw
  · next n hw => injection h with h; subst h; exact .readLbX s i n hw
  · next n lb hw =>
    split at h
    · next hok =>
      injection h with h; subst h
      exact .compileX s i n lb (.ok _) hw (fun o ho => by injection ho with ho; subst ho; exact ⟨_, _, _, hok, rfl⟩)
    · cases h
  · next n lb o hw => injection h with h; subst h; exact .updateX s i n lb o hw
  · next n lb o hw => injection h with h; subst h; exact .enqueue s i n lb o hw
  · next n hw => injection h with h; subst h; exact .abort s i n _ hw (topOf_abortTop _)
  · next n te hw =>
    split at h
    · next c' hn => injection h with h; subst h; exact .notify s i n te c' hw hn
    · cases h

/-- as long as a worker has not left, some worker is neither gone nor parked: a parked worker implies a node in hand
    (`HandLay.parked`), and who holds a node is neither -/
theorem exists_active {sv : SolverCfg S} {s : Sys S} (hL : LayInv sv s) (hlive : ¬ AllDone s) :
    ∃ w ∈ s.ws, w ≠ WSt.done ∧ w ≠ WSt.waiting :=
  exists_active_of WSt.holds rfl rfl (fun h => hL.hand.cnt ▸ hL.hand.parked h) hlive

/-- the scheduler run along a list of worker indices (a worker that cannot move is skipped) -/
def runSched (sv : SolverCfg S) : Sys S → List Nat → Sys S
  | s, [] => s
  | s, i :: is =>
    match next sv s i with
    | some t => runSched sv t is
    | none => runSched sv s is

theorem prun_head {sv : SolverCfg S} {s t u : Sys S} (h : PStep sv s t) (r : PRun sv t u) : PRun sv s u := StepG.head h r

theorem prun_trans {sv : SolverCfg S} {s t u : Sys S} (h1 : PRun sv s t) (h2 : PRun sv t u) : PRun sv s u := by
  induction h2 with
  | refl => exact h1
  | tail _ hst ih => exact RunG.tail ih hst

theorem runSched_run (sv : SolverCfg S) : ∀ (is : List Nat) (s : Sys S), PRun sv s (runSched sv s is) := by
  intro is
  induction is with
  | nil => intro s; exact RunG.refl s
  | cons i is ih =>
    intro s
    unfold runSched
    cases h : next sv s i with
    | none => exact ih s
    | some t => exact prun_head (next_step h) (ih t)

/-- observable summary of a worker state (for `decide`) -/
def tag : WSt S → Nat
  | .idle => 0 | .waiting => 1 | .done => 2 | .crashed _ => 3 | .readR _ => 4 | .compR _ _ => 5 | .updR _ _ _ => 6
  | .readX _ => 7 | .compX _ _ => 8 | .updX _ _ _ => 9 | .enq _ _ _ => 10 | .abortS _ => 11 | .fin _ _ => 12

theorem tag_idle {w : WSt S} (h : tag w = 0) : w = .idle := by cases w <;> first | rfl | cases h
theorem tag_done {w : WSt S} (h : tag w = 2) : w = .done := by cases w <;> first | rfl | cases h

/-- no cut-off has struck so far: the abort flag is down, no worker is on the abort path -/
def NoCut (s : Sys S) : Prop :=
  s.crit.base.abort = false ∧ ∀ w ∈ s.ws, ∀ n, w ≠ WSt.abortS n ∧ w ≠ WSt.fin n true

def NoAbortS (s : Sys S) : Prop := ∀ w ∈ s.ws, ∀ n, w ≠ WSt.abortS n

theorem noCut_set {ws : List (WSt S)} {i : Nat} {w' : WSt S}
    (h : ∀ w ∈ ws, ∀ n, w ≠ WSt.abortS n ∧ w ≠ WSt.fin n true) (hn : ∀ w ∈ ws.set i w', ∀ n, w ≠ WSt.abortS n)
    (hw' : ∀ n, w' ≠ WSt.fin n true) : ∀ w ∈ ws.set i w', ∀ n, w ≠ WSt.abortS n ∧ w ≠ WSt.fin n true := by
  intro w hw n
  refine ⟨hn w hw n, ?_⟩
  rcases List.mem_or_eq_of_mem_set hw with h' | h'
  · exact (h w h' n).2
  · rw [h']; exact hw' n

theorem step_noCut {ab : ParCrit S → Int → Option Int → ParCrit S} {dedup : Bool}
    {okR okX : SubP S → Int → DDOut S → Prop} {s t : Sys S}
    (h : StepG ab dedup okR okX s t) (hs : NoCut s) (ht : NoAbortS t) : NoCut t := by
  obtain ⟨ha0, hws⟩ := hs
  have hmem : ∀ {i : Nat} {w : WSt S}, s.ws[i]? = some w → ∀ n, w ≠ WSt.abortS n ∧ w ≠ WSt.fin n true :=
    fun hw => hws _ (List.mem_of_getElem? hw)
  cases h with
  | gwAborted i hw ha => rw [ha0] at ha; cases ha
  | gwComplete i hw ha ho hf | gwWait i hw ha ho hf | readLbX i n hw => exact ⟨ha0, noCut_set hws ht (fun n => by simp)⟩
  | gwCrash i N rest c' nn k hw ha hp hl ht' =>
    obtain ⟨rfl, rfl⟩ := popLoop_item hl
    exact ⟨ha0, noCut_set hws ht (fun n => by simp)⟩
  | gwStarve i N rest c' k hw ha hp hl =>
    obtain ⟨_, rfl⟩ := popLoop_starve hl
    exact ⟨ha0, hws⟩
  | gwItem i N rest c' nn k c'' hw ha hp hl ht' =>
    obtain ⟨rfl, rfl⟩ := popLoop_item hl
    obtain ⟨_, _, _, _, t5, _⟩ := take_spec ht'
    exact ⟨t5.trans ha0, noCut_set hws ht (fun n => by simp)⟩
  | readLbR i n hw => exact ⟨ha0, noCut_set hws ht (fun m => by split <;> simp)⟩
  | compileR i n lb r hw hok | compileX i n lb r hw hok => exact ⟨ha0, noCut_set hws ht (fun m => by cases r <;> nofun)⟩
  | updateR i n lb o hw | updateX i n lb o hw =>
    exact ⟨(updateBest_fringe s.crit.base o).2.2.1.trans ha0, noCut_set hws ht (fun m => by split <;> simp)⟩
  | enqueue i n lb o hw => exact ⟨(enqueue_abort dedup _ _).trans ha0, noCut_set hws ht (fun m => by simp)⟩
  | abort i n top hw htop => exact absurd rfl (hmem hw n).1
  | notify i n te c' hw hn =>
    obtain ⟨n1, _, _, _⟩ := notify_spec hn
    cases te with
    | true => exact absurd rfl (hmem hw n).2
    | false =>
      refine ⟨by rw [n1]; exact ha0, noCut_set (fun w hw' m => ?_) ht (fun m => by simp)⟩
      obtain ⟨w0, hw0, rfl⟩ := List.mem_map.mp hw'
      refine ⟨fun e => ?_, fun e => ?_⟩
      · exact (hws w0 hw0 m).1 (wake_eq e nofun)
      · exact (hws w0 hw0 m).2 (wake_eq_fin e)

/-- **no deadlock, no lost wake-up, no panic**, whatever the answer relations, provided a compilation of an exactly reached node
    answers: as long as some worker has not left its loop some section is enabled, and it sends no worker to `abort_search` unless
    one was on its way (no panic: `take_ne_none`, `notify_ne_none`; a parked worker implies a worker that can move: `exists_active`) -/
theorem gstep_progress {sv : SolverCfg S} {H : Nat → S → EInt} {B0 B : Int} {okR okX : SubP S → Int → DDOut S → Prop}
    (hwf : WellFormed sv H B0 B) (haR : ∀ n lb, C01.NodeOk sv.P n → ∃ o, okR n lb o)
    (haX : ∀ n lb, C01.NodeOk sv.P n → ∃ o, okX n lb o) {s : Sys S} (hI : PCInvG sv H okR okX B s) (hL : LayInv sv s)
    (hlive : ¬ AllDone s) : ∃ t, Step sv.dedup okR okX s t ∧ (NoAbortS s → NoAbortS t) := by
  obtain ⟨w, hw, h1, h2⟩ := exists_active hL hlive
  obtain ⟨i, hi⟩ := List.mem_iff_getElem?.mp hw
  have hcr := hL.hand.noCrash w hw
  have hwok := hI.ws w hw
  have key : ∀ (c : ParCrit S) (w' : WSt S), (∀ n, w' ≠ WSt.abortS n) → NoAbortS s → NoAbortS { crit := c, ws := s.ws.set i w' } :=
    fun c w' hw' hws => forall_set_of (P := fun w => ∀ n, w ≠ WSt.abortS n) hws hw'
  cases w with
  | idle =>
    cases ha : s.crit.base.abort with
    | true => exact ⟨_, .gwAborted s i hi ha, key _ _ (fun n => by simp)⟩
    | false =>
    cases hp : popMax s.crit.base.fringe with
    | none =>
      have hf := popMax_none hp
      by_cases ho : s.crit.ongoing = 0
      · exact ⟨_, .gwComplete s i hi ha ho hf, key _ _ (fun n => by simp)⟩
      · exact ⟨_, .gwWait s i hi ha ho hf, key _ _ (fun n => by simp)⟩
    | some p =>
      obtain ⟨N, rest⟩ := p
      have hpm := popMax_popMax hp
      by_cases hle : N.ub ≤ s.crit.base.bestLb
      · refine ⟨_, .gwStarve s i N rest (starved (setFringe s.crit rest)) 1 hi ha hpm ?_, id⟩
        rw [popLoop_single]
        exact if_pos hle
      · have hl : popLoop (setFringe s.crit rest) [(N, true)] 0 = (setFringe s.crit rest, some (some N), 1) := by
          rw [popLoop_single]; exact if_neg hle
        have hN : N.depth ≤ sv.P.nbVars :=
          node_depth_le hwf (hI.base.fr N ((mem_of_popMax hpm N).mpr (Or.inl rfl)))
        obtain ⟨c'', hc''⟩ := take_ne_none hL hi ha hpm hN
        exact ⟨_, .gwItem s i N rest _ N 1 c'' hi ha hpm hl hc'', key _ _ (fun n => by simp)⟩
  | waiting => exact absurd rfl h2
  | done => exact absurd rfl h1
  | crashed n => cases hcr
  | readR n => exact ⟨_, .readLbR s i n hi, key _ _ (fun m => by split <;> simp)⟩
  | compR n lb =>
    obtain ⟨o0, ho0⟩ := haR n lb (hwok.node n rfl)
    refine ⟨_, .compileR s i n lb (.ok o0) hi (fun o ho => ?_), key _ _ (fun m => by simp [WSt.afterR])⟩
    injection ho with ho; subst ho
    exact ho0
  | updR n lb o => exact ⟨_, .updateR s i n lb o hi, key _ _ (fun m => by split <;> simp)⟩
  | readX n => exact ⟨_, .readLbX s i n hi, key _ _ (fun m => by simp)⟩
  | compX n lb =>
    obtain ⟨o0, ho0⟩ := haX n lb (hwok.node n rfl)
    refine ⟨_, .compileX s i n lb (.ok o0) hi (fun o ho => ?_), key _ _ (fun m => by simp [WSt.afterX])⟩
    injection ho with ho; subst ho
    exact ho0
  | updX n lb o => exact ⟨_, .updateX s i n lb o hi, key _ _ (fun m => by split <;> simp)⟩
  | enq n lb o => exact ⟨_, .enqueue s i n lb o hi, key _ _ (fun m => by simp)⟩
  | abortS n => exact ⟨_, .abort s i n _ hi (topOf_abortTop _), fun hws => absurd rfl (hws _ hw n)⟩
  | fin n te =>
    obtain ⟨c', hc'⟩ := notify_ne_none hL hi (node_depth_le hwf (hwok.node n rfl))
    refine ⟨_, .notify s i n te c' hi hc', fun hws => ?_⟩
    refine forall_set_of (P := fun w => ∀ n, w ≠ WSt.abortS n) (fun w hw' m e => ?_) (fun m => by split <;> simp)
    obtain ⟨w0, hw0, rfl⟩ := List.mem_map.mp hw'
    exact hws w0 hw0 m (wake_eq e nofun)

/-- `gstep_progress` at the answers of the diagram model: a compilation of an exactly reached node ends normally (`compile_no_crash`) -/
theorem pstep_progress {sv : SolverCfg S} {H : Nat → S → EInt} {B0 B : Int} (hwf : WellFormed sv H B0 B) {s : Sys S}
    (hI : PCInv sv H B s) (hL : LayInv sv s) (hlive : ¬ AllDone s) : ∃ t, PStep sv s t ∧ (NoAbortS s → NoAbortS t) :=
  gstep_progress hwf
    (fun n lb hn => ⟨_, cache0 sv, store0 sv, 0,
      compile_no_crash (sv.cfg .restricted n lb) _ _ 0 rfl rfl (hwf.width n) hwf.nv (node_depth_le hwf hn), rfl⟩)
    (fun n lb hn => ⟨_, cache0 sv, store0 sv, 0,
      compile_no_crash (sv.cfg .relaxed n lb) _ _ 0 rfl rfl (hwf.width n) hwf.nv (node_depth_le hwf hn), rfl⟩)
    (pcinv_iff.mp hI) hL hlive

/-- a cut-off strikes the compilation worker `i` is about to run (`none`: the worker is not about to compile) -/
def cutoffAt (s : Sys S) (i : Nat) : Option (Sys S) :=
  match s.ws[i]? with
  | some (.compR n _) => some { crit := s.crit, ws := s.ws.set i (.abortS n) }
  | some (.compX n _) => some { crit := s.crit, ws := s.ws.set i (.abortS n) }
  | _ => none

theorem cutoffAt_step {sv : SolverCfg S} {s t : Sys S} {i : Nat} (h : cutoffAt s i = some t) : PStep sv s t := by
  unfold cutoffAt at h
  split at h
  · next n lb hw => injection h with h; subst h; exact .compileR s i n lb .cutoff hw (fun o ho => by cases ho)
  · next n lb hw => injection h with h; subst h; exact .compileX s i n lb .cutoff hw (fun o ho => by cases ho)
  · cases h

/-- **uninterrupted runs**: finite schedules along which no compilation is ever cut off -/
inductive URun (sv : SolverCfg S) : Sys S → Sys S → Prop
  | refl (s : Sys S) : URun sv s s
  | tail {s t u : Sys S} : URun sv s t → PStep sv t u → NoAbortS u → URun sv s u

theorem URun.toRun {sv : SolverCfg S} {s t : Sys S} (h : URun sv s t) : PRun sv s t := by
  induction h with
  | refl => exact RunG.refl _
  | tail _ hst _ ih => exact RunG.tail ih hst

theorem URun.noCut {sv : SolverCfg S} {s t : Sys S} (h : URun sv s t) (hs : NoCut s) : NoCut t := by
  induction h with
  | refl => exact hs
  | tail _ hst hn ih => exact step_noCut hst ih hn

theorem init_noCut (P : Problem S) (primal : Option (Int × List Dec)) (dedup : Bool) (U : Nat) :
    NoCut (Sys.init P primal dedup U) := by
  refine ⟨(init_base P primal dedup).2.1, fun w hw n => ?_⟩
  rw [init_idle hw]
  exact ⟨nofun, nofun⟩

end Ddo.ParClosed
