import DdoModel.Proofs.CacheDomTools
/-! # `Twin` — cache + dominance lose the optimum with a rule that is valid in every sense (finding **D17**, strongest form)

`Cross` (rule admissible for all values, protected strategy), `CrossSim` (simulation condition on exactly reached items) and
`Carrier` (the carrier of a potential is dropped by the checker) still leave room for "the rule was too weak".  Here it is not:
two states, `0` and `1`, have **identical transitions and costs at every depth** (they are bisimilar), and the rule says "`0` is at
least as good as `1`" — which is true.  The rule satisfies the simulation condition for **all** pairs of states and values
(`SimAll` of `Props/C10c.lean`: `Twin.simAll` in `Props/C10cWitness.lean`; here its consequences `simAdmissible`, `admissibleAll`, `undomOpt`).  The
relaxation merges to the largest state (a valid relaxation: `WellFormed`), and the largest state happens to be the one the rule
likes less.  The solver with cache and checker ends with `is_exact = true`, **`best_value = Some(5)`; the optimum is 10** — both
fringes, both cut-set kinds, forced pop order; each mechanism alone returns 10.

## the model (family `Ddo.C09.Layered`)

6 binary variables in static order, 5 states `0 … 4`, initial state `0`, value `0`.  Tables (`state: (next, cost) for decision 0 |
decision 1`; the rows of the states `0` and `1` are equal at every depth):

```
x0:  every state: (2,2)|(3,1)                                R=0 → A=2 (cost 2) | P=3 (cost 1)
x1:  0, 1, 2: (2,-2)|(2,-2)      3, 4: (3,-1)|(3,-1)          A=2 → a2=2 (cost -2);  P=3 → N=3 (cost -1)
x2:  0, 1, 2: (4,0)|(4,0)        3, 4: (2,1)|(3,0)            a2=2 → a3=4;  N=3 → pE=2 (cost 1) | pF=3
x3:  0, 1, 2: (0,-1)|(0,-1)      3: (1,-1)|(1,-1)   4: (1,0)|(1,0)     pE=2 → e=0 (cost -1);  pF=3 → s=1 (cost -1);  a3=4 → s=1
x4:  every state: (3,0)|(2,5)                                 e=0, s=1 → t5=3 | u5=2 (cost 5, the decoy)
x5:  0, 1, 2: (2,0)|(2,0)        3, 4: (2,10)|(2,0)           t5=3 earns 10;  u5=2 earns 0
```

Value-to-go by depth: 0: `10 ×5`; 1: `8,8,8,9,9`; 2: `10 ×5`; 3: `9,9,9,9,10`; 4: `10 ×5`; 5: `0,0,0,10,10`.  **Optimum 10**: through
`A` (`R, A, a2, a3, k2 = (s = 1, depth 4, value 0), t5`) and through `P` (`R, P, N, pE, E = (e = 0, depth 4, value 0), t5`;
`R, P, N, pF, (1, depth 4, value -1) …` is worth 9).  Relaxation: `merge` = largest state, `relax` = identity,
`fast_upper_bound` = 30; ranking: larger state better; `FixedWidth(1)`.

**The rule**: key `0` for the states `0` and `1`, none for the others; one coordinate: `1` for state `0`, `0` for state `1`; the value is
used: `(0, v)` dominates `(1, v')` whenever `v ≥ v'`.

## the run (four turns, every configuration; the pop order is forced: no ties)

```
turn 1  pop R.  Restricted: A, a2, a3, k2 = (1, depth 4, 0) — recorded by the checker —, then the decoy u5: 5.  Incumbent 5.
        Relaxed: cut-set {A = (2, value 2, ub 15), P = (3, value 1, ub 15)}.
turn 2  pop A (value 2 > 1).  Relaxed: exact chain a2, a3, k2; the depth-5 layer {t5, u5} is merged; cut-set {k2}: k2 is enqueued
        (ub 15) and the threshold (1, depth 4) ↦ (0, **unexplored**) is recorded: "whoever reaches state 1 at depth 4 with a value ≤ 0
        may stop: k2 is open and will do the work".   fringe [k2 = (1, 0, 15, 4), P = (3, 1, 15, 1)].
turn 3  pop P (value 1 > 0).  Restricted (width 1): N, keeps pE (value 1 > 0), then E = (0, depth 4, value 0): the checker evicts the
        entry k2 = (1, 0) — E dominates it — and records E; then the decoy: 5.  Relaxed: {pE (value 1), pF (value 0)} are merged into
        M = (state 3, value 1, inexact); the only child of M is (**state 1**, depth 4, value 0), inexact — the image of E, whose state 0
        was merged away — and `_filter_with_cache` prunes it with the threshold of turn 2.  Empty layer, no terminal node,
        `is_exact() = true`, nothing enqueued: the cut-set node N, which leads to E, is gone.   fringe [k2].
turn 4  pop k2: `must_explore` accepts it (0 = threshold, unexplored); `_filter_with_dominance` drops the **root** of its diagram:
        dominated by the entry E of turn 3.  "E is at least as good: whoever explored E did the work."
        fringe [], incumbent 5: `is_exact = true`, `best_value = Some(5)`.
```

**Mechanism: a cycle of deferrals.**  The cache defers the relaxed image of `E` to the open node `k2` (sound for the cache alone:
`k2` is explored later); the checker defers `k2` to `E` (sound for the checker alone: `E`'s sub-tree is covered by the cut-set
node `N` of the diagram that recorded it — which the relaxed compilation of the same turn enqueues, unless something prunes
below it); the pruning below `N` is the first deferral.  Each invariant — C09's "an open sub-problem carries the potential",
C10's "a protected / simulating item is never dropped" — holds of its own mechanism and is broken by the other.  The state the
relaxation produces (`1`, reached through the merged `pF`) is dominated by an exact state (`0`) it stands for: the merge
operator is a valid relaxation but not *maximal for the rule*.

Replay on the real library (harness engine `cachedom`, `harness/src/eng_cachedom.rs`): `Some(5)` with cache + checker (sequential LEL /
frontier, both fringes, parallel with one thread, `DefaultCachingSolver`), `Some(10)` with either mechanism alone. -/
set_option linter.unusedSectionVars false
set_option linter.unusedVariables false
namespace Ddo.C10c.Twin
open Ddo Ddo.C01 Ddo.Closed Ddo.C09 Ddo.C10 Ddo.C10c Ddo.C09.Layered

def T : Tab :=
  { n := 6, m := 5,
    --      s0      s1      s2      s3      s4
    trl := [2,3,    2,3,    2,3,    2,3,    2,3,
            2,2,    2,2,    2,2,    3,3,    3,3,
            4,4,    4,4,    4,4,    2,3,    2,3,
            0,0,    0,0,    0,0,    1,1,    1,1,
            3,2,    3,2,    3,2,    3,2,    3,2,
            2,2,    2,2,    2,2,    2,2,    2,2],
    cl :=  [2,1,    2,1,    2,1,    2,1,    2,1,
            -2,-2,  -2,-2,  -2,-2,  -1,-1,  -1,-1,
            0,0,    0,0,    0,0,    1,0,    1,0,
            -1,-1,  -1,-1,  -1,-1,  -1,-1,  0,0,
            0,5,    0,5,    0,5,    0,5,    0,5,
            0,0,    0,0,    0,0,    10,0,   10,0],
    rub := 30 }

/-- `FixedWidth(1)` -/
def ws : List Nat := List.replicate 35 1

def rule : DomRule Int Int :=
  { key := fun s => if s = 0 ∨ s = 1 then some 0 else none, dims := fun _ => 1,
    coord := fun s _ => if s = 0 then 1 else 0, useValue := true }

def sv (dedup : Bool) (kind : CutsetKind) : SolverCfg Int := Layered.sv T ws dedup kind
def dv (dedup : Bool) (kind : CutsetKind) : DSolverCfg Int Int := ⟨sv dedup kind, rule⟩

theorem ok : tableOk T 10 80 10 = true := by decide +kernel

theorem checked : check T 10 = true := checked_of_ok ok

theorem wellFormed (dedup : Bool) (kind : CutsetKind) : WellFormed (dv dedup kind).sv (H T) 10 80 :=
  wellFormed_of_ok ok ws dedup kind

theorem opt10 : (H T 0 (prob T).init).addI (prob T).initVal = some 10 := opt_of_ok ok

theorem staticOrder : StaticOrder (prob T) := fun _ _ _ _ _ => rfl

theorem twins : ∀ k ∈ List.range 6, ∀ b ∈ [false, true], tr T k 0 b = tr T k 1 b ∧ c T k 0 b = c T k 1 b := by decide +kernel

theorem key_some {s : Int} {k : Int} (h : rule.key s = some k) : s = 0 ∨ s = 1 := by
  simp only [rule] at h
  split at h
  · next hc => exact hc
  · cases h

theorem twin_trans {x : Nat} (hx : x < 6) (d : Int) {a b : Int} (ha : a = 0 ∨ a = 1) (hb : b = 0 ∨ b = 1) :
    (prob T).trans a ⟨x, d⟩ = (prob T).trans b ⟨x, d⟩ ∧
    (prob T).cost a ((prob T).trans a ⟨x, d⟩) ⟨x, d⟩ = (prob T).cost b ((prob T).trans b ⟨x, d⟩) ⟨x, d⟩ := by
  have h := twins x (List.mem_range.mpr hx) (decide (d = 1)) (by cases decide (d = 1) <;> simp)
  have e0 : st T 0 = 0 := rfl
  have e1 : st T 1 = 1 := rfl
  show (((tr T x (st T a) (decide (d = 1)) : Nat) : Int) = ((tr T x (st T b) (decide (d = 1)) : Nat) : Int)) ∧
    c T x (st T a) (decide (d = 1)) = c T x (st T b) (decide (d = 1))
  rcases ha with rfl | rfl <;> rcases hb with rfl | rfl <;> simp only [e0, e1, h.1, h.2, and_self]

/-- for all pairs of states and values, not only exactly reached ones: the same decision leads `a` and `b` to the same state at
    the same cost (`twin_trans`) -/
theorem sim_step (d : Nat) (a va b vb : Int) (L : List Int) (x : Nat) (hge : GeItem rule 1 a va b vb)
    (hnv : (prob T).nextVar d L = some x) (db : Int) (hdb : db ∈ (prob T).domain x b) :
    ∃ da ∈ (prob T).domain x a,
      GeItem rule 1 ((prob T).trans a ⟨x, da⟩) (va + (prob T).cost a ((prob T).trans a ⟨x, da⟩) ⟨x, da⟩)
        ((prob T).trans b ⟨x, db⟩) (vb + (prob T).cost b ((prob T).trans b ⟨x, db⟩) ⟨x, db⟩) := by
  obtain ⟨hk, hx⟩ := nv_some hnv
  have hx6 : x < 6 := by rw [hx]; exact hk
  have hv : vb ≤ va := geItem_value rfl hge
  refine ⟨db, hdb, ?_⟩
  rcases hge with ⟨rfl, _⟩ | ⟨⟨k, hka, hkb⟩, _⟩
  · exact Or.inl ⟨rfl, by omega⟩
  · obtain ⟨e1, e2⟩ := twin_trans hx6 db (key_some hka) (key_some hkb)
    exact Or.inl ⟨e1, by rw [e2]; omega⟩

theorem simAdmissible : SimAdmissible rule (prob T) 1 :=
  ⟨fun d a va b vb _ _ L x _ _ hge hnv _ db hdb => sim_step d a va b vb L x hge hnv db hdb,
   fun _ a va b vb _ _ _ _ _ hge _ _ => geItem_value rfl hge⟩

theorem undomOpt : UndomOpt rule (prob T) (H T) 10 :=
  undomOpt_of_sim rule (prob T) (H T) 1 10 (fun _ => rfl) (potential T) (nvBound T) staticOrder simAdmissible opt10

theorem hfrom_twins (j : Nat) : hfrom T j 0 = hfrom T j 1 := by
  cases j with
  | zero => rfl
  | succ j =>
    have hk : T.n - (j + 1) ∈ List.range 6 := List.mem_range.mpr (by show 6 - (j + 1) < 6; omega)
    have h0 := twins _ hk false (by simp)
    have h1 := twins _ hk true (by simp)
    rw [hfrom, hfrom, h0.1, h0.2, h1.1, h1.2]

theorem admissibleAll : AdmissibleAll rule (H T) := by
  intro d a va b vb hdom
  have hH : H T d b = H T d a := by
    obtain ⟨⟨k, hka, hkb⟩, _⟩ := hdom
    have h := hfrom_twins (T.n - d)
    show some (hfrom T (T.n - d) (st T b)) = some (hfrom T (T.n - d) (st T a))
    rcases key_some hka with rfl | rfl <;> rcases key_some hkb with rfl | rfl <;> 
      first | rfl | exact congrArg some h | exact congrArg some h.symm
  rw [hH]
  exact Examples.EMax.addI_mono (EInt.le_refl _) (dominates_value rfl hdom)

def after (dedup : Bool) (kind : CutsetKind) (j : Nat) : KDSt Int Int :=
  (dv dedup kind).kdsolveLoop j (KDSt.init (dv dedup kind))

def viewKD (s : KDSt Int Int) : List (Int × Int × Int × Nat) × Int :=
  (s.st.fringe.map (fun c => (c.state, c.value, c.ub, c.depth)), s.st.bestLb)
def cacheAtKD (s : KDSt Int Int) (d : Nat) : List (Int × Int × Bool) :=
  (s.cache.layers.getD d []).map (fun e => (e.1, e.2.value, e.2.explored))
/-- the cache the compilations of the next turn consult: `s.cache` after the cache-cleaning loop of `get_workload` -/
def cacheIn (s : KDSt Int Int) : Cache Int :=
  (cleanCache T.n s.st.openByLayer T.n s.st.firstActive s.cache).getD s.cache
/-- the checker as the restricted compilation of `N` leaves it: what the relaxed compilation of the same turn starts from -/
def storeR (s : KDSt Int Int) (N : SubP Int) : DomStore Int Int :=
  ((dv false .lel).kdcompR (cacheIn s) s.store N s.st.bestLb).2.2.2.store
def storeAt (s : KDSt Int Int) (d : Nat) : List (Int × List (Int × Int)) := s.store.layers.getD d []
def cachePruned (dd : DD Int Int) : List (Int × Int × Nat × Bool) :=
  (dd.layers.flatMap id).filterMap (fun n => if n.cache then some (n.state, n.value, n.depth, n.isExact) else none)

/-- all that is read off the runs with cache and checker, in one statement so that each run is evaluated once; the theorems below
    are its conjuncts -/
theorem trace :
    let s1 := after false .lel 1
    let s2 := after false .lel 2
    let s3 := after false .lel 3
    let P : SubP Int := ⟨3, 1, [⟨0, 1⟩], 15, 1⟩
    let k2 : SubP Int := ⟨1, 0, [⟨0, 0⟩, ⟨1, 1⟩, ⟨2, 1⟩, ⟨3, 1⟩], 15, 4⟩
    let cR := (dv false .lel).kdcompR (cacheIn s2) s2.store P 5
    let cX := (dv false .lel).kdcompX (cacheIn s2) (storeR s2 P) P 5
    let cR4 := (dv false .lel).kdcompR (cacheIn s3) s3.store k2 5
    (∀ dedup ∈ [false, true], ∀ kind ∈ [CutsetKind.lel, CutsetKind.frontier],
      (after dedup kind 8).st.fringe.length = 0 ∧ (after dedup kind 8).st.completion = (true, some 5) ∧
      (after dedup kind 8).st.explored = 4 ∧ (after dedup kind 8).st.crashed = false) ∧
    (viewKD s1 = ([(3, 1, 15, 1), (2, 2, 15, 1)], 5) ∧ storeAt s1 4 = [(0, [(1, 0)])]) ∧
    (viewKD s2 = ([(1, 0, 15, 4), (3, 1, 15, 1)], 5) ∧ cacheAtKD s2 4 = [(1, 0, false)] ∧ storeAt s2 4 = [(0, [(1, 0)])]) ∧
    (cR.2.1.bestValue = some 5 ∧ cR.2.2.2.ndom = 0 ∧ (storeR s2 P).layers.getD 4 [] = [(0, [(0, 0)])] ∧
      cachePruned cX.2.2.2 = [(1, 0, 4, false)] ∧ cX.2.1.bestValue = none ∧ cX.2.1.isExact = true ∧
      cX.2.1.cutset.length = 0 ∧ cX.2.2.2.ndom = 0) ∧
    (viewKD s3 = ([(1, 0, 15, 4)], 5) ∧ storeAt s3 4 = [(0, [(0, 0)])]) ∧
    ((cacheIn s3).mustExplore 1 4 0 = some true ∧ cR4.2.2.2.ndom = 1 ∧ cR4.2.1.isExact = true ∧ cR4.2.1.bestValue = none) ∧
    viewKD (after false .lel 4) = ([], 5) := by
  intro s1 s2 s3 P k2 cR cX cR4
  decide +kernel

theorem joint_value : ∀ dedup ∈ [false, true], ∀ kind ∈ [CutsetKind.lel, CutsetKind.frontier],
    (after dedup kind 8).st.fringe.length = 0 ∧ (after dedup kind 8).st.completion = (true, some 5) ∧
    (after dedup kind 8).st.explored = 4 ∧ (after dedup kind 8).st.crashed = false :=
  trace.1

theorem dom_only : ∀ dedup ∈ [false, true], ∀ kind ∈ [CutsetKind.lel, CutsetKind.frontier],
    ((dv dedup kind).solveLoop 16 (dv dedup kind).init).st.fringe.length = 0 ∧
    ((dv dedup kind).solveLoop 16 (dv dedup kind).init).st.completion = (true, some 10) := by decide +kernel

theorem cache_only : ∀ dedup ∈ [false, true], ∀ kind ∈ [CutsetKind.lel, CutsetKind.frontier],
    ((sv dedup kind).ksolveLoop 16 (KSt.init (sv dedup kind))).st.fringe.length = 0 ∧
    ((sv dedup kind).ksolveLoop 16 (KSt.init (sv dedup kind))).st.completion = (true, some 10) := by decide +kernel

theorem stage1 : viewKD (after false .lel 1) = ([(3, 1, 15, 1), (2, 2, 15, 1)], 5) ∧
    storeAt (after false .lel 1) 4 = [(0, [(1, 0)])] :=
  trace.2.1

theorem stage2 : viewKD (after false .lel 2) = ([(1, 0, 15, 4), (3, 1, 15, 1)], 5) ∧
    cacheAtKD (after false .lel 2) 4 = [(1, 0, false)] ∧ storeAt (after false .lel 2) 4 = [(0, [(1, 0)])] :=
  trace.2.2.1

theorem stage3 :
    ((dv false .lel).kdcompR (cacheIn (after false .lel 2)) (after false .lel 2).store ⟨3, 1, [⟨0, 1⟩], 15, 1⟩ 5).2.1.bestValue = some 5 ∧
    ((dv false .lel).kdcompR (cacheIn (after false .lel 2)) (after false .lel 2).store ⟨3, 1, [⟨0, 1⟩], 15, 1⟩ 5).2.2.2.ndom = 0 ∧
    (storeR (after false .lel 2) ⟨3, 1, [⟨0, 1⟩], 15, 1⟩).layers.getD 4 [] = [(0, [(0, 0)])] ∧
    cachePruned ((dv false .lel).kdcompX (cacheIn (after false .lel 2)) (storeR (after false .lel 2) ⟨3, 1, [⟨0, 1⟩], 15, 1⟩)
      ⟨3, 1, [⟨0, 1⟩], 15, 1⟩ 5).2.2.2 = [(1, 0, 4, false)] ∧
    ((dv false .lel).kdcompX (cacheIn (after false .lel 2)) (storeR (after false .lel 2) ⟨3, 1, [⟨0, 1⟩], 15, 1⟩)
      ⟨3, 1, [⟨0, 1⟩], 15, 1⟩ 5).2.1.bestValue = none ∧
    ((dv false .lel).kdcompX (cacheIn (after false .lel 2)) (storeR (after false .lel 2) ⟨3, 1, [⟨0, 1⟩], 15, 1⟩)
      ⟨3, 1, [⟨0, 1⟩], 15, 1⟩ 5).2.1.isExact = true ∧
    ((dv false .lel).kdcompX (cacheIn (after false .lel 2)) (storeR (after false .lel 2) ⟨3, 1, [⟨0, 1⟩], 15, 1⟩)
      ⟨3, 1, [⟨0, 1⟩], 15, 1⟩ 5).2.1.cutset.length = 0 ∧
    ((dv false .lel).kdcompX (cacheIn (after false .lel 2)) (storeR (after false .lel 2) ⟨3, 1, [⟨0, 1⟩], 15, 1⟩)
      ⟨3, 1, [⟨0, 1⟩], 15, 1⟩ 5).2.2.2.ndom = 0 :=
  trace.2.2.2.1

theorem stage3b : viewKD (after false .lel 3) = ([(1, 0, 15, 4)], 5) ∧ storeAt (after false .lel 3) 4 = [(0, [(0, 0)])] :=
  trace.2.2.2.2.1

theorem stage4 : (cacheIn (after false .lel 3)).mustExplore 1 4 0 = some true ∧
    ((dv false .lel).kdcompR (cacheIn (after false .lel 3)) (after false .lel 3).store ⟨1, 0, [⟨0, 0⟩, ⟨1, 1⟩, ⟨2, 1⟩, ⟨3, 1⟩], 15, 4⟩ 5).2.2.2.ndom = 1 ∧
    ((dv false .lel).kdcompR (cacheIn (after false .lel 3)) (after false .lel 3).store ⟨1, 0, [⟨0, 0⟩, ⟨1, 1⟩, ⟨2, 1⟩, ⟨3, 1⟩], 15, 4⟩ 5).2.1.isExact = true ∧
    ((dv false .lel).kdcompR (cacheIn (after false .lel 3)) (after false .lel 3).store ⟨1, 0, [⟨0, 0⟩, ⟨1, 1⟩, ⟨2, 1⟩, ⟨3, 1⟩], 15, 4⟩ 5).2.1.bestValue = none :=
  trace.2.2.2.2.2.1

theorem stage_end : viewKD (after false .lel 4) = ([], 5) :=
  trace.2.2.2.2.2.2

end Ddo.C10c.Twin
