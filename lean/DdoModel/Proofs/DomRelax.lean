import DdoModel.Proofs.DomRelaxInv
import DdoModel.Proofs.DomExact
/-! # Relaxed compilation with the dominance checker enabled (C10): upper bound and cut-set of the protected family

`DomRelaxFlags` (flag analysis of `relaxLayer` / `expandAll`), `DomRelaxInv` (the invariant `DInv` of the top-down build) and this
file extend the diagram theorems about relaxed compilations — C06 (`Proofs/MddCover.lean`), C08 (iii) / (iv)
(`Proofs/MddBounds.lean`, `Props/C08b.lean`), all stated for `cfg.dom = none` — to `cfg.dom = some D`, for a sub-problem
that belongs to a *protected family* (`Protected` of `Proofs/DomSound.lean`):

* `relaxed_ub_dom` — the best value of the relaxed diagram is at least the optimum;
* `relaxed_cutset_dom` — unless the diagram reports an exact value reaching the optimum, the cut-set (either kind) contains a
  protected sub-problem whose upper bound is at least the optimum.

The argument goes through protected potential-preserving paths (`PPath` of `Proofs/MddBounds.lean` with `QNode`: every non-terminal
node was expanded and is inexact or protected), which start at every live node whose potential reaches the threshold.  Non-vacuity (a rule that does prune): `Proofs/DomRelaxWitness.lean`. -/
set_option linter.unusedSectionVars false
set_option linter.unusedVariables false
namespace Ddo.C10
open Ddo Ddo.C01 Ddo.Closed Ddo.Truth
variable {S K : Type} [DecidableEq S] [DecidableEq K]

/-- what is recorded of a non-terminal node (layer `l`) of a protected path: it was expanded, it is inexact or protected -/
def QNode (cfg : Cfg S K) (Prot : Nat → S → Int → Prop) (l : Nat) (n : Node S) : Prop :=
  n.rub = cfg.R.rub n.state ∧ (n.isExact = true → Prot (cfg.root.depth + l) n.state n.value)

theorem DInv.root_node {cfg : Cfg S K} {H : Nat → S → EInt} {Prot : Nat → S → Int → Prop} {B t : Int}
    {Live : Nat → Nat → Prop} {dd : DD S K} (hI : DInv cfg H Prot B t Live dd) :
    ∃ n0, getNode (dd.layers ++ [dd.next]) 0 0 = some n0 ∧ n0.state = cfg.root.state ∧ n0.value = cfg.root.value ∧
      (0 < dd.layers.length → Live 0 0) := by
  by_cases hemp : dd.layers = []
  · obtain ⟨n0, hn0, hs, hv⟩ := hI.root0 hemp
    refine ⟨n0, ?_, hs, hv, fun h => by rw [hemp] at h; simp at h⟩
    rw [hemp, hn0]; rfl
  · obtain ⟨ly, n0, hly, hn0, hs, hv, hlive⟩ := hI.root1 hemp
    exact ⟨n0, Bounds.getNode_full_of hly hn0, hs, hv, fun _ => hlive⟩

/-- the one-step fact read in the whole diagram (complete layers and the layer under construction): a live node whose
    potential reaches `t` has an arc, losing no potential, into a node of the next layer — live when that layer is complete -/
theorem DInv.step {cfg : Cfg S K} {H : Nat → S → EInt} {Prot : Nat → S → Int → Prop} {B t : Int}
    {Live : Nat → Nat → Prop} {dd : DD S K} (hI : DInv cfg H Prot B t Live dd) {l p : Nat} {n : Node S} {h : Int}
    (hlt : l < dd.layers.length) (hlive : Live l p) (hn : getNode (dd.layers ++ [dd.next]) l p = some n)
    (hH : H (cfg.root.depth + l) n.state = some h) (ht : t ≤ n.value + h) :
    ∃ (p' : Nat) (m : Node S) (e : Arc) (h' : Int), getNode (dd.layers ++ [dd.next]) (l + 1) p' = some m ∧
      (l + 1 < dd.layers.length → Live (l + 1) p') ∧ e ∈ m.inb ∧ e.fromL = l ∧ e.fromP = p ∧ Cover.Within B e.cost ∧
      H (cfg.root.depth + l + 1) m.state = some h' ∧ h ≤ e.cost + h' ∧ n.value + e.cost ≤ m.value := by
  obtain ⟨ly, hly, hnp⟩ := Bounds.getNode_full_lt hn hlt
  by_cases hl1 : l + 1 = dd.layers.length
  · obtain ⟨p', m, e, h', _, hm, he, hfl, hfp, hw, hH', hle, hval, _⟩ := hI.stepN l p ly n hl1 hly hlive hnp h hH ht
    exact ⟨p', m, e, h', by rw [hl1, Bounds.getNode_full_last]; exact hm, fun hh => absurd hl1 (Nat.ne_of_lt hh), he, hfl, hfp, hw, hH', hle, hval⟩
  · have hlt1 : l + 1 < dd.layers.length := Nat.lt_of_le_of_ne hlt hl1
    have hly' : dd.layers[l + 1]? = some dd.layers[l + 1] := List.getElem?_eq_getElem hlt1
    obtain ⟨p', m, e, h', hlive', hm, he, hfl, hfp, hw, hH', hle, hval, _⟩ :=
      hI.stepL l p ly _ n hly hly' hlive hnp h hH ht
    exact ⟨p', m, e, h', Bounds.getNode_full_of hly' hm, fun _ => hlive', he, hfl, hfp, hw, hH', hle, hval⟩

/-- **cover**: if the potential of the root reaches `t`, every layer (the one under construction included) holds a node —
    live when the layer is complete — whose potential reaches it -/
theorem DInv.cover {cfg : Cfg S K} {H : Nat → S → EInt} {Prot : Nat → S → Int → Prop} {B t : Int}
    {Live : Nat → Nat → Prop} {dd : DD S K} (hI : DInv cfg H Prot B t Live dd)
    (h0 : Int) (hH0 : H cfg.root.depth cfg.root.state = some h0) (ht : t ≤ cfg.root.value + h0) :
    ∀ l, l ≤ dd.layers.length → ∃ p n h, getNode (dd.layers ++ [dd.next]) l p = some n ∧
      (l < dd.layers.length → Live l p) ∧ H (cfg.root.depth + l) n.state = some h ∧ t ≤ n.value + h := by
  intro l
  induction l with
  | zero =>
    intro _
    obtain ⟨n0, hn0, hs, hv, hlive⟩ := hI.root_node
    exact ⟨0, n0, h0, hn0, hlive, by rw [hs]; exact hH0, by rw [hv]; exact ht⟩
  | succ l ih =>
    intro hl
    obtain ⟨p, n, h, hn, hlive, hH, hth⟩ := ih (Nat.le_of_succ_le hl)
    obtain ⟨p', m, e, h', hm, hlive', _, _, _, _, hH', hle, hval⟩ := hI.step hl (hlive hl) hn hH hth
    exact ⟨p', m, h', hm, hlive', hH', Int.le_trans hth (pot_step_le hle hval)⟩

theorem DInv.next_ne {cfg : Cfg S K} {H : Nat → S → EInt} {Prot : Nat → S → Int → Prop} {B t : Int}
    {Live : Nat → Nat → Prop} {dd : DD S K} (hI : DInv cfg H Prot B t Live dd)
    (h0 : Int) (hH0 : H cfg.root.depth cfg.root.state = some h0) (ht : t ≤ cfg.root.value + h0) : dd.next ≠ [] := by
  obtain ⟨p, n, h, hn, _⟩ := hI.cover h0 hH0 ht dd.layers.length (Nat.le_refl _)
  rw [Bounds.getNode_full_last] at hn
  exact List.ne_nil_of_mem (List.mem_of_getElem? hn)

theorem ppath_of_live (cfg : Cfg S K) (H : Nat → S → EInt) (Prot : Nat → S → Int → Prop) (B t : Int) (hP : Potential cfg.P H)
    (Live : Nat → Nat → Prop) (fin : DD S K) (hI : DInv cfg H Prot B t Live fin)
    (hdepth : fin.depth = cfg.root.depth + fin.layers.length)
    (hnone : cfg.P.nextVar fin.depth (fin.next.map (·.state)) = none) :
    ∀ (d l p : Nat) (n : Node S) (h : Int), l + d = fin.layers.length → (l < fin.layers.length → Live l p) →
      getNode (fin.layers ++ [fin.next]) l p = some n → H (cfg.root.depth + l) n.state = some h → t ≤ n.value + h →
      PPath (fin.layers ++ [fin.next]) H cfg.root.depth B (QNode cfg Prot) l p h d := by
  intro d
  induction d with
  | zero =>
    intro l p n h hl _ hn hH _
    have hl' : l = fin.layers.length := hl
    subst hl'
    rw [Bounds.getNode_full_last] at hn
    have hterm := hP.term fin.depth _ n.state hnone (List.mem_map_of_mem (List.mem_of_getElem? hn))
    rw [hdepth] at hterm
    rw [hterm] at hH
    cases hH
    exact .term _ p n (by rw [List.length_append, List.length_singleton]) (by rw [Bounds.getNode_full_last]; exact hn) hterm
  | succ d ih =>
    intro l p n h hl hlive hn hH ht
    have hlt : l < fin.layers.length := hl ▸ Nat.lt_add_of_pos_right (Nat.succ_pos d)
    obtain ⟨ly, hly, hnp⟩ := Bounds.getNode_full_lt hn hlt
    have hq : QNode cfg Prot l n :=
      ⟨hI.rub l p ly n hly (hlive hlt) hnp, fun hex => hI.prot l p ly n hly (hlive hlt) hnp hex⟩
    obtain ⟨p', m, e, h', hm, hlive', he, hfl, hfp, hw, hH', hle, hval⟩ := hI.step hlt (hlive hlt) hn hH ht
    exact .step l p p' n m e h h' d hn hq hm he hfl hfp hw hH hH' hle hval
      (ih (l + 1) p' m h' ((Nat.add_right_comm l 1 d).trans hl) hlive' hm hH' (Int.le_trans ht (pot_step_le hle hval)))

/-- what the top-down build of a compilation that ends normally leaves -/
def TEnd (cfg : Cfg S K) (H : Nat → S → EInt) (opt : Int) (Prot : Nat → S → Int → Prop) (B : Int) (fin : DD S K) : Prop :=
  ∃ Live, DInv cfg H Prot B opt Live fin ∧ cfg.P.nextVar fin.depth (fin.next.map (·.state)) = none ∧
    fin.depth = cfg.root.depth + fin.layers.length

theorem root_potential (cfg : Cfg S K) (D : DomRule S K) (H : Nat → S → EInt) (opt : Int) (Prot : Nat → S → Int → Prop) (B : Int)
    (hy : DomHyp cfg D H opt Prot B) (hprot : Prot cfg.root.depth cfg.root.state cfg.root.value) :
    ∃ h0, H cfg.root.depth cfg.root.state = some h0 ∧ opt = h0 + cfg.root.value :=
  EInt.addI_eq_some (hy.prot.opt _ _ _ hprot)

/-- **the relaxed phase along a chain**: the layer under construction of a protected root is never empty, so the `break` does not occur -/
theorem Chain.dinv {cfg : Cfg S K} {D : DomRule S K} {H : Nat → S → EInt} {opt : Int} {Prot : Nat → S → Int → Prop} {B : Int}
    (hy : RHyp cfg D H opt Prot B) {p0 : List Dec} {dd0 fin : DD S K} (hC : Chain cfg (FilterOk Prot) B p0 dd0 fin)
    (hprot : Prot cfg.root.depth cfg.root.state cfg.root.value)
    (h0 : ∃ Live, DInv cfg H Prot B opt Live dd0) : ∃ Live, DInv cfg H Prot B opt Live fin := by
  induction hC with
  | refl => exact h0
  | congr _ hl hn _ _ ih => exact ih.imp fun _ hI => hI.congr hl hn
  | brk _ _ hnil ih =>
    obtain ⟨h0', hH0, ho0⟩ := root_potential cfg D H opt Prot B hy.toDomHyp hprot
    exact ih.elim fun _ hI => absurd hnil (hI.next_ne h0' hH0 (Int.le_of_eq (ho0.trans (Int.add_comm _ _))))
  | layer _ hc _ _ hf hs hM' ih => exact hs.dinv hy hf hprot hc.depth hc.nv hM' ih

theorem Chain.tend {cfg : Cfg S K} {D : DomRule S K} {H : Nat → S → EInt} {opt : Int} {Prot : Nat → S → Int → Prop} {B : Int}
    (hy : RHyp cfg D H opt Prot B) {p0 : List Dec} {cache : Cache S} {store : DomStore S K} {polls : Nat} {fin : DD S K}
    (hC : Chain cfg (FilterOk Prot) B p0 (initDD cfg cache store polls) fin)
    (hprot : Prot cfg.root.depth cfg.root.state cfg.root.value)
    (hend : fin.next = [] ∨ cfg.P.nextVar fin.depth (fin.next.map (·.state)) = none ∧
      fin.depth = cfg.root.depth + fin.layers.length) : TEnd cfg H opt Prot B fin := by
  obtain ⟨Live, hI⟩ := hC.dinv hy hprot ⟨_, init_dinv cfg H Prot B opt cache store polls hy.B⟩
  obtain ⟨h0, hH0, ho0⟩ := root_potential cfg D H opt Prot B hy.toDomHyp hprot
  rcases hend with hnil | ⟨hnv, hdepth⟩
  · exact absurd hnil (hI.next_ne h0 hH0 (Int.le_of_eq (ho0.trans (Int.add_comm _ _))))
  · exact ⟨Live, hI, hnv, hdepth⟩

theorem Ended.tend {cfg : Cfg S K} {D : DomRule S K} {H : Nat → S → EInt} {opt : Int} {Prot : Nat → S → Int → Prop} {B : Int}
    (hy : RHyp cfg D H opt Prot B) {p0 : List Dec} {fin : DD S K} (h : Ended cfg (FilterOk Prot) B p0 fin)
    (hprot : Prot cfg.root.depth cfg.root.state cfg.root.value) : TEnd cfg H opt Prot B fin := by
  obtain ⟨cache, store, polls, hC⟩ := h.chain
  exact hC.tend hy hprot h.term

theorem compile_dinv (cfg : Cfg S K) (D : DomRule S K) (H : Nat → S → EInt) (opt : Int) (Prot : Nat → S → Int → Prop) (B : Int)
    (hy : RHyp cfg D H opt Prot B) (p0 : List Dec) (cache : Cache S) (store : DomStore S K) (polls : Nat)
    (hroot : Reach cfg.P cfg.root.depth cfg.root.state cfg.root.value p0)
    (hprot : Prot cfg.root.depth cfg.root.state cfg.root.value)
    (hst : StoreReach D cfg.P store) (hlen : store.layers.length = cfg.P.nbVars + 1)
    (hok : (compile cfg cache store polls none).1 = .ok) :
    TEnd cfg H opt Prot B (buildLoop cfg none (cfg.P.nbVars + 2) (initDD cfg cache store polls)).1 := by
  have hE := compile_chain cfg D H opt Prot hy.dom hy.cache hy.nv hy.prot B hy.B p0 cache store polls hroot hst hlen hok
  rw [(Ddo.compile_ok cfg cache store polls none hok).2.1] at hE
  exact hE.tend hy hprot

theorem RHyp.mk' {cfg : Cfg S K} {D : DomRule S K} {H : Nat → S → EInt} {opt : Int} {Prot : Nat → S → Int → Prop} {B : Int}
    (hy : DomHyp cfg D H opt Prot B) (hrel : cfg.ctype = .relaxed) (hW : 1 ≤ cfg.width)
    (hM : MergeOk cfg.R H) (hAM : Cover.AttMerge cfg.P cfg.R H) : RHyp cfg D H opt Prot B :=
  { toDomHyp := hy, rel := hrel, W := hW, M := hM, AM := hAM }

theorem TEnd.root_path {cfg : Cfg S K} {H : Nat → S → EInt} {opt : Int} {Prot : Nat → S → Int → Prop} {B : Int} {fin : DD S K}
    (hT : TEnd cfg H opt Prot B fin) (hP : Potential cfg.P H)
    (h0 : Int) (hH0 : H cfg.root.depth cfg.root.state = some h0) (ho0 : opt ≤ cfg.root.value + h0) :
    ∃ n0, getNode (fin.layers ++ [fin.next]) 0 0 = some n0 ∧ n0.value = cfg.root.value ∧
      PPath (fin.layers ++ [fin.next]) H cfg.root.depth B (QNode cfg Prot) 0 0 h0 fin.layers.length := by
  obtain ⟨Live, hI, hnone, hdepth⟩ := hT
  obtain ⟨n0, hn0, hs0, hv0, hlive0⟩ := hI.root_node
  exact ⟨n0, hn0, hv0, ppath_of_live cfg H Prot B opt hP Live fin hI hdepth hnone fin.layers.length 0 0 n0 h0 (Nat.zero_add _) hlive0
    hn0 (by rw [Nat.add_zero, hs0]; exact hH0) (by rw [hv0]; exact ho0)⟩

/-- **relaxed upper bound**, of the final diagram of any build that kept `DInv`: the protected path from the root ends in a terminal
    node whose value is at least the optimum -/
theorem TEnd.bestValue_ge {cfg : Cfg S K} {D : DomRule S K} {H : Nat → S → EInt} {opt : Int} {Prot : Nat → S → Int → Prop} {B : Int}
    {fin : DD S K} (hT : TEnd cfg H opt Prot B fin) (hy : DomHyp cfg D H opt Prot B)
    (hprot : Prot cfg.root.depth cfg.root.state cfg.root.value) (e : Bool) :
    ∃ bv, (finalize cfg (finalizeLayers fin) e).1.bestValue = some bv ∧ opt ≤ bv := by
  obtain ⟨h0, hH0, ho0⟩ := root_potential cfg D H opt Prot B hy hprot
  have hle0 : opt ≤ cfg.root.value + h0 := Int.le_of_eq (ho0.trans (Int.add_comm _ _))
  obtain ⟨n0, hn0, hv0, hpath⟩ := hT.root_path hy.P h0 hH0 hle0
  obtain ⟨pt, tn, htn, hv⟩ := hpath.toPath.terminal n0 hn0
  rw [Nat.zero_add, Bounds.getNode_full_last] at htn
  obtain ⟨bv, h1, h2⟩ := bestValue_ge_of_terminal _ (List.mem_of_getElem? htn)
  exact ⟨bv, (Ddo.finalize_bestValue cfg _ e).trans h1, Int.le_trans hle0 (Int.le_trans (hv0 ▸ hv) h2)⟩

/-- **relaxed upper bound, checker enabled**: the best value of a relaxed compilation of a protected sub-problem, run from a
    store of exactly reached entries, is at least the optimum -/
theorem relaxed_ub_dom (cfg : Cfg S K) (D : DomRule S K) (H : Nat → S → EInt) (opt : Int) (Prot : Nat → S → Int → Prop)
    (B : Int) (hy : DomHyp cfg D H opt Prot B) (hrel : cfg.ctype = .relaxed) (hW : 1 ≤ cfg.width)
    (hM : MergeOk cfg.R H) (hAM : Cover.AttMerge cfg.P cfg.R H)
    (p0 : List Dec) (cache : Cache S) (store : DomStore S K) (polls : Nat)
    (hroot : Reach cfg.P cfg.root.depth cfg.root.state cfg.root.value p0)
    (hprot : Prot cfg.root.depth cfg.root.state cfg.root.value)
    (hst : StoreReach D cfg.P store) (hlen : store.layers.length = cfg.P.nbVars + 1)
    (hok : (compile cfg cache store polls none).1 = .ok) :
    ∃ bv, (compile cfg cache store polls none).2.1.bestValue = some bv ∧ opt ≤ bv := by
  have hyR := RHyp.mk' hy hrel hW hM hAM
  have hT := compile_dinv cfg D H opt Prot B hyR p0 cache store polls hroot hprot hst hlen hok
  rw [(Ddo.compile_ok cfg cache store polls none hok).2.2]
  exact hT.bestValue_ge hy hprot _

/-- the cut-set of the final diagram, for any value of the `hasEBP` bit -/
theorem cutset_dom_fin (cfg : Cfg S K) (D : DomRule S K) (H : Nat → S → EInt) (opt : Int) (Prot : Nat → S → Int → Prop) (B : Int)
    (hy : RHyp cfg D H opt Prot B) (p0 : List Dec) (fin : DD S K)
    (hprot : Prot cfg.root.depth cfg.root.state cfg.root.value)
    (hT : TEnd cfg H opt Prot B fin) (hinv2 : Inv2 cfg fin)
    (hwf : CutWF cfg p0 (finalizeLayers fin).layers (finalizeLayers fin).lel) (e : Bool)
    (hbe : ∀ w, (finalize cfg (finalizeLayers fin) e).1.bestExactValue = some w → w < opt) :
    ∃ c ∈ (finalize cfg (finalizeLayers fin) e).1.cutset, Prot c.depth c.state c.value ∧ opt ≤ c.ub := by
  obtain ⟨h0, hH0, ho0⟩ := root_potential cfg D H opt Prot B hy.toDomHyp hprot
  have hle0 : opt ≤ cfg.root.value + h0 := Int.le_of_eq (ho0.trans (Int.add_comm _ _))
  obtain ⟨n0, hn0, hv0, hpath0⟩ := hT.root_path hy.P h0 hH0 hle0
  obtain ⟨Live, hI, hnone, hdepth⟩ := hT
  have hne : fin.next ≠ [] := hI.next_ne h0 hH0 hle0
  rw [← (finalizeLayers_nonempty fin hne).1] at hn0 hpath0
  have hcut : ∀ (l p : Nat) (n : Node S), getNode (finalizeLayers fin).layers l p = some n → n.cutset = false := by
    intro l p n hn
    rcases finalizeLayers_at fin hn with ⟨ly, hly, hmem⟩ | ⟨_, hmem⟩
    · exact hI.cutL ly (List.mem_of_getElem? hly) n hmem
    · exact hI.cutN n hmem
  rcases PPath.cut_pos cfg p0 fin hne hwf (fun k hk => (hinv2.lelSome k hk).1) hcut H B _ opt n0 h0 _ hn0 (by rw [hv0]; exact hle0)
    hpath0 with ⟨tn, htn, hex, hv⟩ | ⟨l, p, n, h, r', hp, hn, hex, hv, hcs⟩
  · obtain ⟨w, hw, hle⟩ := finalize_bestExact_ge cfg fin e htn hex hv
    exact absurd (hbe w hw) (Int.not_lt.mpr hle)
  · obtain ⟨n3, bv, tn, _, hvb, e1, e2, e4, e5, hH, htmem, htv, _, hb2, hc⟩ :=
      Bounds.cut_handed cfg B hy.B hy.rel p0 fin hne hI.len hwf e H l p n h _ hp.toPath hn hex hcs
    obtain ⟨hqr, hqp⟩ := hp.head n hn
    refine ⟨_, hc, ?_, ?_⟩
    · simp only [Bounds.subOf]
      rw [e5, e1, e2]
      exact hqp hex
    · simp only [Bounds.subOf]
      have hsm : tn.value ≤ 4611686018427387904 := Int.le_trans (hI.rngN tn htmem).2 (Cover.Bd_small hy.B.toDom hI.len)
      have hot : opt ≤ tn.value := Int.le_trans hv htv
      have ho' : opt ≤ iMax := Int.le_trans hot (Int.le_trans hsm (by decide))
      have h1 : opt ≤ satAdd n3.value n3.rub :=
        Pooled.le_satAdd (by rw [e2, e4, hqr]; exact Int.le_trans hv (Int.add_le_add_left (hy.R _ _ _ hH) _)) ho'
      have h2 : opt ≤ satAdd n3.value n3.vbot := Pooled.le_satAdd (by rw [e2]; exact Int.le_trans hv (Int.add_le_add_left hvb _)) ho'
      exact Int.le_min.mpr ⟨Int.le_min.mpr ⟨h1, h2⟩, Int.le_trans hot hb2⟩

/-- cut-set coverage and bound for the protected family, checker enabled, for both results of `compile` (the two admissible
    resolutions of the exact-best-path tie) -/
theorem relaxed_cutset_dom_both (cfg : Cfg S K) (D : DomRule S K) (H : Nat → S → EInt) (opt : Int) (Prot : Nat → S → Int → Prop)
    (B : Int) (hy : DomHyp cfg D H opt Prot B) (hrel : cfg.ctype = .relaxed) (hW : 1 ≤ cfg.width)
    (hM : MergeOk cfg.R H) (hAM : Cover.AttMerge cfg.P cfg.R H)
    (p0 : List Dec) (cache : Cache S) (store : DomStore S K) (polls : Nat)
    (hroot : Reach cfg.P cfg.root.depth cfg.root.state cfg.root.value p0)
    (hprot : Prot cfg.root.depth cfg.root.state cfg.root.value)
    (hst : StoreReach D cfg.P store) (hlen : store.layers.length = cfg.P.nbVars + 1)
    (hok : (compile cfg cache store polls none).1 = .ok) (r : Result S)
    (hr : r = (compile cfg cache store polls none).2.1 ∨ (compile cfg cache store polls none).2.2.1 = some r)
    (hbe : ∀ w, r.bestExactValue = some w → w < opt) :
    ∃ c ∈ r.cutset, Prot c.depth c.state c.value ∧ opt ≤ c.ub := by
  have hyR := RHyp.mk' hy hrel hW hM hAM
  have hT := compile_dinv cfg D H opt Prot B hyR p0 cache store polls hroot hprot hst hlen hok
  have hwf := compile_wf cfg B p0 hy.B hroot cache store polls none
  have hinv2 := (buildLoop_inv2 cfg B p0 hy.B none (cfg.P.nbVars + 2) (initDD cfg cache store polls)
    (initDD_inv cfg B p0 hy.B hroot cache store polls) (initDD_inv2 cfg cache store polls) rfl
    (Nat.le_of_eq (Nat.zero_add _))).2
  obtain ⟨_, e, rfl⟩ := compile_results cfg cache store polls none hok r hr
  exact cutset_dom_fin cfg D H opt Prot B hyR p0 _ hprot hT hinv2 hwf e hbe

/-- **cut-set coverage and bound for the protected family, checker enabled**: unless the relaxed diagram reports an exact value
    reaching the optimum, its cut-set (last exact layer or frontier) contains a protected sub-problem whose upper bound is at
    least the optimum -/
theorem relaxed_cutset_dom (cfg : Cfg S K) (D : DomRule S K) (H : Nat → S → EInt) (opt : Int) (Prot : Nat → S → Int → Prop)
    (B : Int) (hy : DomHyp cfg D H opt Prot B) (hrel : cfg.ctype = .relaxed) (hW : 1 ≤ cfg.width)
    (hM : MergeOk cfg.R H) (hAM : Cover.AttMerge cfg.P cfg.R H)
    (p0 : List Dec) (cache : Cache S) (store : DomStore S K) (polls : Nat)
    (hroot : Reach cfg.P cfg.root.depth cfg.root.state cfg.root.value p0)
    (hprot : Prot cfg.root.depth cfg.root.state cfg.root.value)
    (hst : StoreReach D cfg.P store) (hlen : store.layers.length = cfg.P.nbVars + 1)
    (hok : (compile cfg cache store polls none).1 = .ok)
    (hbe : ∀ w, (compile cfg cache store polls none).2.1.bestExactValue = some w → w < opt) :
    ∃ c ∈ (compile cfg cache store polls none).2.1.cutset, Prot c.depth c.state c.value ∧ opt ≤ c.ub :=
  relaxed_cutset_dom_both cfg D H opt Prot B hy hrel hW hM hAM p0 cache store polls hroot hprot hst hlen hok _ (.inl rfl) hbe

#print axioms relaxed_ub_dom
#print axioms relaxed_cutset_dom
#print axioms relaxed_cutset_dom_both

end Ddo.C10
