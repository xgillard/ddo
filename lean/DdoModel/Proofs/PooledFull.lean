import DdoModel.Proofs.PooledWidth
/-! Without long arcs (`AllImpacted`) every iteration of the pooled loop materialises a layer: `FullInv` (the `k` layers sit at the depths
`root.depth, …, root.depth + k - 1`), so `matBefore` counts iterations (`FullInv.matBefore`) and the pooled width statement is the clean one. -/
set_option linter.unusedSectionVars false
set_option linter.unusedVariables false
namespace Ddo.Pooled
open Ddo
variable {S K : Type} [DecidableEq S] [DecidableEq K]

theorem matBefore_eq (layers : List (Nat × List (Node S))) (d : Nat) :
    matBefore layers d = ((layers.map (·.1)).filter (fun x => decide (x < d))).length := by
  unfold matBefore
  rw [List.filter_map, List.length_map]
  rfl

theorem countLt_range' (a k i : Nat) :
    ((List.range' a k).filter (fun x => decide (x < a + i))).length = min i k := by
  induction k with
  | zero => simp
  | succ k ih =>
    rw [List.range'_1_concat, List.filter_append, List.length_append, ih]
    by_cases h : k < i
    · have : decide (a + k < a + i) = true := by simpa using h
      simp only [List.filter_cons, this, if_true, List.filter_nil, List.length_singleton]; omega
    · have : decide (a + k < a + i) = false := by simpa using h
      simp only [List.filter_cons, this, Bool.false_eq_true, if_false, List.filter_nil, List.length_nil]; omega

structure FullInv (cfg : Cfg S K) (pd : PD S K) (k : Nat) : Prop where
  depth : pd.depth = cfg.root.depth + k
  depths : pd.layers.map (·.1) = List.range' cfg.root.depth k

theorem FullInv.congr {cfg : Cfg S K} {pd pd' : PD S K} {k : Nat} (h : FullInv cfg pd k)
    (hl : pd'.layers = pd.layers) (hd : pd'.depth = pd.depth) : FullInv cfg pd' k :=
  ⟨hd ▸ h.depth, hl ▸ h.depths⟩

theorem FullInv.matBefore {cfg : Cfg S K} {pd : PD S K} {k : Nat} (h : FullInv cfg pd k) (i : Nat) :
    matBefore pd.layers (cfg.root.depth + i) = min i k := by
  rw [matBefore_eq, h.depths, countLt_range']

theorem StepP.mat_of_allImpacted {cfg : Cfg S K} {pd pd' : PD S K} {var : Nat} {layer : List (Node S)} {cur : List Nat}
    {ief : Bool} {log : List (Call S)} (hs : StepP cfg pd pd' var layer cur ief log) (hall : AllImpacted cfg.P)
    (hne : pd.pool ≠ []) :
    restNodes cfg pd var = [] ∧
    pd'.layers = pd.layers ++ [(pd.depth, (expF cfg var pd.layers.length layer (restNodes cfg pd var) cur log).1)] := by
  refine ⟨List.filter_eq_nil_iff.2 fun n _ => by simp [hall var n.state], ?_⟩
  rcases hs.cases with ⟨hnil, _⟩ | ⟨_, _, hl⟩
  · exfalso
    have hlay := squashCase_length cfg pd var layer cur ief log hs.sq
    rw [hnil] at hlay
    obtain ⟨m, hm⟩ := List.exists_mem_of_ne_nil _ hne
    have := mem_curNodes_iff.2 ⟨m, hm, hall var m.state, rfl⟩
    rw [List.eq_nil_of_length_eq_zero (Nat.le_zero.1 hlay)] at this
    cases this
  · exact hl

theorem stepLayerP_full (cfg : Cfg S K) (hall : AllImpacted cfg.P) (pd pd' : PD S K) (var k : Nat)
    (hne : pd.pool ≠ []) (hinv : FullInv cfg pd k) (h : stepLayerP cfg pd var = some pd') : FullInv cfg pd' (k + 1) := by
  obtain ⟨layer, cur, ief, log, hs⟩ := stepLayerP_elim cfg pd pd' var h
  obtain ⟨_, hlayers⟩ := hs.mat_of_allImpacted hall hne
  refine ⟨by rw [hs.depth, hinv.depth]; rfl, ?_⟩
  rw [hlayers, List.map_append, hinv.depths, List.range'_1_concat, hinv.depth]
  rfl

theorem buildLoopP_full (cfg : Cfg S K) (hall : AllImpacted cfg.P) (stopAt : Option Nat) :
    ∀ (fuel : Nat) (pd : PD S K) (k : Nat), FullInv cfg pd k → ∃ k', FullInv cfg (buildLoopP cfg stopAt fuel pd).1 k' :=
  fun fuel pd k h =>
    have ⟨j, _, h', _⟩ := buildLoopP_induct cfg stopAt (FullInv cfg)
      (fun pd k h => ⟨h.congr rfl rfl, h.congr rfl rfl⟩)
      (fun pd pd' var k _ hne h hst => stepLayerP_full cfg hall pd pd' var k hne h hst) fuel pd k h
    ⟨k + j, h'⟩

theorem initPD_full (cfg : Cfg S K) (cache : Cache S) (store : DomStore S K) (polls : Nat) :
    FullInv cfg (initPD cfg cache store polls) 0 := ⟨rfl, rfl⟩

end Ddo.Pooled
