import DdoModel.Proofs.PooledDefs
import DdoModel.Proofs.PooledExact
/-! # What the pooled diagram reports as *best exact value / solution* is sound

Stated for an arbitrary `PathRel cfg.P R` (`Proofs/LongArcs.lean`); the exact-node invariant `MInvR` is in `Proofs/PooledExact.lean`.
Beside it the build keeps `G2P` — genuine arcs: every node that is not flagged relaxed has inbound arcs that transfer `R` from
their source (when the source is not flagged relaxed) to the node, at the depth of the node's location (the transition of
the model, then one skip per iteration during which the node lingered in the pool), and its `best` arc attains its value.
Any compilation type, any cache / dominance configuration (the filters only touch `theta` / `cache` / `deleted`: `SubG`), any
cutoff — no isolation hypothesis is needed.  On the final diagram a node with `ebpAll = true` is then `R`-reached by its `best`
chain with its value (`ebpAll_reachP`), which is what makes the reported best exact value and solution sound (`bestExact_rel`).
Non-vacuity: `Proofs/PooledWitness.lean`. -/
set_option linter.unusedSectionVars false
set_option linter.unusedVariables false
namespace Ddo.PTruth
open Ddo Ddo.Pooled Ddo.Truth
variable {S K : Type} [DecidableEq S] [DecidableEq K]

theorem Ess.rfl' (a : Node S) : Ess a a := ⟨rfl, rfl, rfl, rfl, rfl, rfl⟩

def SubG (ly ly0 : List (Node S)) : Prop := ∀ n ∈ ly, ∃ n0 ∈ ly0, Ess n0 n
def SubNE (ly ly0 : List (Node S)) : Prop := ∀ n ∈ ly, n.fRelaxed = false → ∃ n0 ∈ ly0, Ess n0 n

theorem SubG.refl (ly : List (Node S)) : SubG ly ly := fun n hn => ⟨n, hn, Ess.rfl' n⟩
theorem SubG.trans {a b c : List (Node S)} (h1 : SubG a b) (h2 : SubG b c) : SubG a c := fun n hn => by
  obtain ⟨n1, hn1, e1⟩ := h1 n hn
  obtain ⟨n2, hn2, e2⟩ := h2 n1 hn1
  exact ⟨n2, hn2, e2.trans e1⟩
theorem SubG.toNE {a b : List (Node S)} (h : SubG a b) : SubNE a b := fun n hn _ => h n hn
theorem SubNE.trans {a b c : List (Node S)} (h1 : SubNE a b) (h2 : SubG b c) : SubNE a c := fun n hn hr => by
  obtain ⟨n1, hn1, e1⟩ := h1 n hn hr
  obtain ⟨n2, hn2, e2⟩ := h2 n1 hn1
  exact ⟨n2, hn2, e2.trans e1⟩

theorem SubG.set {ly ly0 : List (Node S)} (h : SubG ly ly0) {p : Nat} {n n' : Node S} (hp : ly[p]? = some n)
    (he : Ess n n') : SubG (ly.set p n') ly0 := fun m hm => by
  rcases List.mem_or_eq_of_mem_set hm with hm | rfl
  · exact h m hm
  · obtain ⟨n0, h0, e0⟩ := h n (List.mem_of_getElem? hp)
    exact ⟨n0, h0, e0.trans he⟩

theorem filterCache_subG (cfg : Cfg S K) (cache : Cache S) (layer : List (Node S)) (cur : List Nat) :
    SubG (filterCache cfg cache layer cur).1 layer := by
  unfold filterCache
  refine foldl_inv (β := List (Node S) × List Nat) (fun acc => SubG acc.1 layer) _ _ _ ?_ ?_
  · exact SubG.refl _
  · rintro ⟨ly, keep⟩ p _ h
    dsimp only at h ⊢
    split
    · exact h
    · rename_i n hn
      split
      · split
        · exact h
        · exact h.set hn ⟨rfl, rfl, rfl, rfl, rfl, rfl⟩
      · exact h

theorem filterDom_subG (cfg : Cfg S K) (store : DomStore S K) (layer : List (Node S)) (cur : List Nat) :
    SubG (filterDom cfg store layer cur).1 layer := by
  unfold filterDom
  split
  · exact SubG.refl _
  · rename_i D _
    refine foldl_inv (β := List (Node S) × List Nat × DomStore S K × Bool) (fun acc => SubG acc.1 layer) _ _ _ ?_ ?_
    · exact SubG.refl _
    · rintro ⟨ly, keep, st, ok⟩ p _ h
      dsimp only at h ⊢
      split
      · exact h
      · rename_i n hn
        split
        · split
          · exact h
          · split
            · exact h.set hn ⟨rfl, rfl, rfl, rfl, rfl, rfl⟩
            · exact h
        · exact h

theorem restrictLayer_subG (cfg : Cfg S K) (layer : List (Node S)) (cur : List Nat) :
    SubG (restrictLayer cfg layer cur).1 layer := by
  unfold restrictLayer
  dsimp only
  refine foldl_inv (β := List (Node S)) (fun acc => SubG acc layer) _ _ _ ?_ ?_
  · exact SubG.refl _
  · intro ly p _ h
    split
    · rename_i n hn
      exact h.set hn ⟨rfl, rfl, rfl, rfl, rfl, rfl⟩
    · exact h

theorem curNodes_subG (cfg : Cfg S K) (pd : PD S K) (var : Nat) : SubG (curNodes cfg pd var) pd.pool := by
  intro n hn
  obtain ⟨m, hm, _, rfl⟩ := mem_curNodes_iff.1 hn
  exact ⟨m, hm, rfl, rfl, rfl, rfl, rfl, rfl⟩

theorem fdOf_subG (cfg : Cfg S K) (pd : PD S K) (var : Nat) : SubG (fdOf cfg pd var).1 (curNodes cfg pd var) := by
  have hfc : SubG (fcOf cfg pd var).1 (curNodes cfg pd var) := by
    unfold fcOf
    split
    · exact SubG.refl _
    · exact filterCache_subG _ _ _ _
  exact (filterDom_subG cfg pd.store (fcOf cfg pd var).1 (fcOf cfg pd var).2).trans hfc

theorem squashCase_subNE (cfg : Cfg S K) (plain : List (List (Node S))) (nl : Nat) (ief0 : Bool)
    (fd : List (Node S) × List Nat × DomStore S K × Bool) (log0 : List (Call S))
    (layer : List (Node S)) (cur : List Nat) (ief : Bool) (log : List (Call S))
    (h : SquashCase cfg plain nl ief0 fd log0 layer cur ief log) : SubNE layer fd.1 := by
  cases h with
  | restrict _ _ hl _ _ _ => rw [hl]; exact (restrictLayer_subG cfg _ _).toNE
  | relax hc _ _ _ hl _ _ _ =>
    rw [hl]
    intro n hn hr
    obtain ⟨n0, h0, hs⟩ := relaxLayer_subN cfg plain fd.1 fd.2.1 log0 n hn hr
    exact ⟨n0, h0, ess_of_stripD hs⟩
  | keep _ _ hl _ _ _ => rw [hl]; exact (SubG.refl _).toNE

theorem mapSnd_of_getNode {LF : List (Nat × List (Node S))} {l p : Nat} {n : Node S}
    (h : getNode (LF.map (·.2)) l p = some n) : ∃ dp ly, LF[l]? = some (dp, ly) ∧ ly[p]? = some n :=
  getNode_map_snd.1 h

/-- **one genuine inbound arc** `a` of a node of state `s` located `k` iterations below the root of the compilation (all its
    ancestors in layers of index `< l`): its source `par` sits in the materialised layer `a.fromL`, of recorded depth
    `root.depth + k'` with `k' < k`; its cost is bounded; and when `par` is not flagged relaxed, `R` is transferred from
    `par` (at the depth of its layer) to `s` (at depth `root.depth + k`) along the arc — the transition of the model followed
    by the skips of the iterations during which the node lingered in the pool -/
def ArcOkP (cfg : Cfg S K) (B : Int) (R : Nat → S → Int → List Dec → Prop) (LF : List (Nat × List (Node S))) (l k : Nat)
    (s : S) (a : Arc) : Prop :=
  a.fromL < l ∧ (-B ≤ a.cost ∧ a.cost ≤ B) ∧
  ∃ (k' : Nat) (lyp : List (Node S)) (par : Node S), k' < k ∧ LF[a.fromL]? = some (cfg.root.depth + k', lyp) ∧
    lyp[a.fromP]? = some par ∧
    (par.fRelaxed = false → ∀ v q, R (cfg.root.depth + k') par.state v q →
      R (cfg.root.depth + k) s (v + a.cost) (q ++ [a.dec]))

/-- **a node that is not flagged relaxed has genuine arcs**: without `best` arc it is the root of the compilation (lingering
    in the pool, possibly with arcs of smaller value), `R`-reached with its value by the empty path; otherwise its `best` arc
    is one of its inbound arcs and attains its value; every inbound arc is genuine (`ArcOkP`) -/
def GOkP (cfg : Cfg S K) (B : Int) (R : Nat → S → Int → List Dec → Prop) (LF : List (Nat × List (Node S))) (l k : Nat)
    (n : Node S) : Prop :=
  n.fRelaxed = false →
    (n.best = none → R (cfg.root.depth + k) n.state n.value [] ∧ Bnd B k n.value) ∧
    (∀ a0, n.best = some a0 → a0 ∈ n.inb ∧
      ∃ par, getNode (LF.map (·.2)) a0.fromL a0.fromP = some par ∧ n.value = satAdd par.value a0.cost) ∧
    ∀ a ∈ n.inb, ArcOkP cfg B R LF l k n.state a

theorem ArcOkP.mono {cfg : Cfg S K} {B : Int} {R : Nat → S → Int → List Dec → Prop} {LF : List (Nat × List (Node S))}
    {l k : Nat} {s : S} {a : Arc} (h : ArcOkP cfg B R LF l k s a) (more : List (Nat × List (Node S))) {l' : Nat}
    (hl : l ≤ l') : ArcOkP cfg B R (LF ++ more) l' k s a := by
  obtain ⟨h1, h2, k', lyp, par, h3, h4, h5, h6⟩ := h
  refine ⟨Nat.lt_of_lt_of_le h1 hl, h2, k', lyp, par, h3, ?_, h5, h6⟩
  rw [List.getElem?_append_left (Cover.lt_of_getElem?_some h4)]
  exact h4

theorem ArcOkP.skip {cfg : Cfg S K} {B : Int} {R : Nat → S → Int → List Dec → Prop} (hR : PathRel cfg.P R)
    {LF : List (Nat × List (Node S))} {l k : Nat} {s : S} {a : Arc} (h : ArcOkP cfg B R LF l k s a)
    {L : List S} {var : Nat} (hnv : cfg.P.nextVar (cfg.root.depth + k) L = some var) (hs : s ∈ L)
    (hi : cfg.P.impacted var s = false) : ArcOkP cfg B R LF l (k + 1) s a := by
  obtain ⟨h1, h2, k', lyp, par, h3, h4, h5, h6⟩ := h
  refine ⟨h1, h2, k', lyp, par, Nat.lt_succ_of_lt h3, h4, h5, fun hr v q hv => ?_⟩
  exact hR.skip _ _ _ _ L var (h6 hr v q hv) hnv hs hi

theorem ArcOkP.of_rubEq {cfg : Cfg S K} {B : Int} {R : Nat → S → Int → List Dec → Prop} {LF : List (Nat × List (Node S))}
    {dp l k : Nat} {s : S} {a : Arc} {ly0 lyF : List (Node S)} (hrub : RubEq lyF ly0)
    (h : ArcOkP cfg B R (LF ++ [(dp, ly0)]) l k s a) : ArcOkP cfg B R (LF ++ [(dp, lyF)]) l k s a := by
  obtain ⟨h1, h2, k', lyp, par, h3, h4, h5, h6⟩ := h
  rcases getElem?_append_singleton_cases h4 with h4 | ⟨hfl, h4'⟩
  · refine ⟨h1, h2, k', lyp, par, h3, ?_, h5, h6⟩
    rw [List.getElem?_append_left (Cover.lt_of_getElem?_some h4)]
    exact h4
  · simp only [Prod.mk.injEq] at h4'
    obtain ⟨hdp, rfl⟩ := h4'
    obtain ⟨parF, hpF, hsF⟩ := hrub.get' h5
    have eF := ess_of_stripRub hsF
    refine ⟨h1, h2, k', lyF, parF, h3, ?_, hpF, ?_⟩
    · rw [hfl, hdp]; exact List.getElem?_concat_length
    · intro hr v q hv
      rw [← eF.1] at hv
      exact h6 (eF.2.2.2.2.1.trans hr) v q hv

theorem GOkP.of_ess {cfg : Cfg S K} {B : Int} {R : Nat → S → Int → List Dec → Prop} {LF : List (Nat × List (Node S))}
    {l k : Nat} {n0 n : Node S} (h : GOkP cfg B R LF l k n0) (he : Ess n0 n) : GOkP cfg B R LF l k n := by
  obtain ⟨e1, e2, e3, e4, e5, e6⟩ := he
  intro hr
  obtain ⟨c1, c2, c3⟩ := h (e5.trans hr)
  refine ⟨fun hb => ?_, fun a0 hb => ?_, fun a ha => ?_⟩
  · rw [← e1, ← e2]; exact c1 (e3.trans hb)
  · rw [← e2, ← e4]; exact c2 a0 (e3.trans hb)
  · rw [← e1]; exact c3 a (e4 ▸ ha)

theorem GOkP.mono {cfg : Cfg S K} {B : Int} {R : Nat → S → Int → List Dec → Prop} {LF : List (Nat × List (Node S))}
    {l k : Nat} {n : Node S} (h : GOkP cfg B R LF l k n) (more : List (Nat × List (Node S))) {l' : Nat} (hl : l ≤ l') :
    GOkP cfg B R (LF ++ more) l' k n := by
  intro hr
  obtain ⟨c1, c2, c3⟩ := h hr
  refine ⟨c1, fun a0 hb => ?_, fun a ha => (c3 a ha).mono more hl⟩
  obtain ⟨h1, par, h2, h3⟩ := c2 a0 hb
  refine ⟨h1, par, ?_, h3⟩
  rw [List.map_append]
  exact getNode_append_left _ _ _ _ _ h2

theorem GOkP.skip {cfg : Cfg S K} {B : Int} {R : Nat → S → Int → List Dec → Prop} (hR : PathRel cfg.P R)
    (hB : 0 ≤ B) {LF : List (Nat × List (Node S))} {l k : Nat} {n : Node S} (h : GOkP cfg B R LF l k n)
    {L : List S} {var : Nat} (hnv : cfg.P.nextVar (cfg.root.depth + k) L = some var) (hs : n.state ∈ L)
    (hi : cfg.P.impacted var n.state = false) : GOkP cfg B R LF l (k + 1) n := by
  intro hr
  obtain ⟨c1, c2, c3⟩ := h hr
  refine ⟨fun hb => ?_, c2, fun a ha => (c3 a ha).skip hR hnv hs hi⟩
  obtain ⟨h1, h2⟩ := c1 hb
  exact ⟨hR.skip _ _ _ _ L var h1 hnv hs hi, h2.mono hB (Nat.le_succ k)⟩

theorem GOkP.of_rubEq {cfg : Cfg S K} {B : Int} {R : Nat → S → Int → List Dec → Prop} {LF : List (Nat × List (Node S))}
    {dp l k : Nat} {n : Node S} {ly0 lyF : List (Node S)} (hrub : RubEq lyF ly0)
    (h : GOkP cfg B R (LF ++ [(dp, ly0)]) l k n) : GOkP cfg B R (LF ++ [(dp, lyF)]) l k n := by
  intro hr
  obtain ⟨c1, c2, c3⟩ := h hr
  refine ⟨c1, fun a0 hb => ?_, fun a ha => (c3 a ha).of_rubEq hrub⟩
  obtain ⟨h1, par, h2, h3⟩ := c2 a0 hb
  have hk := (keyEq_of_rubEq (LF.map (·.2)) hrub).getNode a0.fromL a0.fromP
  rw [List.map_append, List.map_cons, List.map_nil] at h2 ⊢
  rw [h2] at hk
  cases hg : getNode (LF.map (·.2) ++ [lyF]) a0.fromL a0.fromP with
  | none => rw [hg] at hk; cases hk
  | some parF =>
    rw [hg] at hk
    simp only [Option.map_some, Option.some.injEq, bv, Prod.mk.injEq] at hk
    exact ⟨h1, parF, rfl, by rw [h3, hk.1]⟩

theorem getNode_mapLast (LF : List (Nat × List (Node S))) (dp : Nat) (ly : List (Node S)) (p : Nat) :
    getNode ((LF ++ [(dp, ly)]).map (·.2)) LF.length p = ly[p]? := by
  rw [List.map_append, List.map_cons, List.map_nil]
  have := Cover.getNode_last (LF.map (·.2)) ly p
  rw [List.length_map] at this
  exact this

theorem gOkP_appendEdge (cfg : Cfg S K) (B : Int) (R : Nat → S → Int → List Dec → Prop) (hR : PathRel cfg.P R)
    (hB : NoClamp cfg.P cfg.R cfg.root.value B)
    (LF : List (Nat × List (Node S))) (k : Nat) (ly0 : List (Node S)) (L : List S) (var : Nat)
    (hnv : cfg.P.nextVar (cfg.root.depth + k) L = some var)
    (p : Nat) (n0 par : Node S) (h0 : ly0[p]? = some n0) (hinL : n0.fRelaxed = false → n0.state ∈ L)
    (hs : stripRub n0 = stripRub par) (d : Int) (hd : d ∈ cfg.P.domain var par.state)
    (m : Node S)
    (hm : GOkP cfg B R (LF ++ [(cfg.root.depth + k, ly0)]) (LF.length + 1) (k + 1) m ∨ m = freshNode cfg par ⟨var, d⟩)
    (hms : m.state = cfg.P.trans par.state ⟨var, d⟩) :
    GOkP cfg B R (LF ++ [(cfg.root.depth + k, ly0)]) (LF.length + 1) (k + 1) (appendEdge par m
      ⟨LF.length, p, ⟨var, d⟩, cfg.P.cost par.state (cfg.P.trans par.state ⟨var, d⟩) ⟨var, d⟩⟩) := by
  intro hr
  rw [appendEdge_fRelaxed] at hr
  obtain ⟨_, hst, hv, _, _⟩ := stripRub_core hs
  have hnew : ArcOkP cfg B R (LF ++ [(cfg.root.depth + k, ly0)]) (LF.length + 1) (k + 1) m.state
      ⟨LF.length, p, ⟨var, d⟩, cfg.P.cost par.state (cfg.P.trans par.state ⟨var, d⟩) ⟨var, d⟩⟩ := by
    refine ⟨Nat.lt_succ_self _, hB.cost _ _ _, k, ly0, n0, Nat.lt_succ_self _, List.getElem?_concat_length, h0, ?_⟩
    intro hfr v q hvq
    have hstep := hR.step _ _ _ _ L var d hvq hnv (hinL hfr) (hst ▸ hd)
    rw [hst] at hstep
    rw [hms]
    exact hstep
  have hmG : m = freshNode cfg par ⟨var, d⟩ ∨
      ((m.best = none → R (cfg.root.depth + (k + 1)) m.state m.value [] ∧ Bnd B (k + 1) m.value) ∧
      (∀ a0, m.best = some a0 → a0 ∈ m.inb ∧
        ∃ par', getNode ((LF ++ [(cfg.root.depth + k, ly0)]).map (·.2)) a0.fromL a0.fromP = some par' ∧
          m.value = satAdd par'.value a0.cost) ∧
      ∀ a ∈ m.inb, ArcOkP cfg B R (LF ++ [(cfg.root.depth + k, ly0)]) (LF.length + 1) (k + 1) m.state a) := by
    rcases hm with hm | hm
    · exact .inr (hm hr)
    · exact .inl hm
  rw [Ddo.appendEdge_state, Ddo.appendEdge_inb]
  have harcs : ∀ a ∈ (⟨LF.length, p, ⟨var, d⟩, cfg.P.cost par.state (cfg.P.trans par.state ⟨var, d⟩) ⟨var, d⟩⟩ : Arc) :: m.inb,
      ArcOkP cfg B R (LF ++ [(cfg.root.depth + k, ly0)]) (LF.length + 1) (k + 1) m.state a := by
    intro a ha
    rcases List.mem_cons.1 ha with rfl | ha
    · exact hnew
    · rcases hmG with hmG | hmG
      · rw [hmG] at ha; simp only [freshNode] at ha; cases ha
      · exact hmG.2.2 a ha
  rcases appendEdge_best_value par m
    ⟨LF.length, p, ⟨var, d⟩, cfg.P.cost par.state (cfg.P.trans par.state ⟨var, d⟩) ⟨var, d⟩⟩ with
      ⟨_, hbest, hval⟩ | ⟨hlt, hbest, hval⟩
  · refine ⟨fun hb => ?_, fun a0 hb => ?_, harcs⟩
    · rw [hbest] at hb; cases hb
    · rw [hbest] at hb
      simp only [Option.some.injEq] at hb
      subst hb
      refine ⟨List.mem_cons_self, n0, ?_, ?_⟩
      · dsimp only
        rw [getNode_mapLast]
        exact h0
      · rw [hval, hv]
  · rcases hmG with hmG | hmG
    · exfalso
      apply hlt
      rw [hmG]
      simp only [freshNode]
      exact Int.le_refl _
    · rw [hbest, hval]
      refine ⟨hmG.1, fun a0 hb => ?_, harcs⟩
      obtain ⟨h1, h2⟩ := hmG.2.1 a0 hb
      exact ⟨List.mem_cons_of_mem _ h1, h2⟩

theorem expFP_ginv (cfg : Cfg S K) (B : Int) (R : Nat → S → Int → List Dec → Prop) (hR : PathRel cfg.P R)
    (hB : NoClamp cfg.P cfg.R cfg.root.value B)
    (LF : List (Nat × List (Node S))) (k : Nat) (ly0 : List (Node S)) (L : List S) (var : Nat) (rest : List (Node S))
    (hnv : cfg.P.nextVar (cfg.root.depth + k) L = some var)
    (hpar : ∀ n ∈ ly0, n.fRelaxed = false → n.state ∈ L)
    (hrest : ∀ c ∈ rest, GOkP cfg B R (LF ++ [(cfg.root.depth + k, ly0)]) (LF.length + 1) (k + 1) c)
    (cur : List Nat) (log : List (Call S)) :
    RubEq (expF cfg var LF.length ly0 rest cur log).1 ly0 ∧
      ∀ c ∈ (expF cfg var LF.length ly0 rest cur log).2.1,
        GOkP cfg B R (LF ++ [(cfg.root.depth + k, ly0)]) (LF.length + 1) (k + 1) c :=
  expF_children cfg var LF.length ly0 rest cur log _ hrest fun p _ n0 par h0 hs d hd m hm hms =>
    gOkP_appendEdge cfg B R hR hB LF k ly0 L var hnv p n0 par h0 (hpar n0 (List.mem_of_getElem? h0)) hs d hd m hm hms

/-- **the genuine-arc invariant of the top-down build of the pooled diagram**, `k` = number of completed iterations: the
    nodes of a materialised layer are located at the iteration recorded with the layer, the pool nodes at the current one -/
structure G2P (cfg : Cfg S K) (B : Int) (R : Nat → S → Int → List Dec → Prop) (pd : PD S K) (k : Nat) : Prop where
  depth : pd.depth = cfg.root.depth + k
  layers : ∀ (l dp : Nat) (ly : List (Node S)), pd.layers[l]? = some (dp, ly) →
    ∃ k', k' < k ∧ dp = cfg.root.depth + k' ∧ ∀ n ∈ ly, GOkP cfg B R pd.layers l k' n
  pool : ∀ n ∈ pd.pool, GOkP cfg B R pd.layers pd.layers.length k n

theorem G2P.congr {cfg : Cfg S K} {B : Int} {R : Nat → S → Int → List Dec → Prop} {pd pd' : PD S K} {k : Nat}
    (h : G2P cfg B R pd k) (hl : pd'.layers = pd.layers) (hn : pd'.pool = pd.pool) (hd : pd'.depth = pd.depth) :
    G2P cfg B R pd' k := by
  obtain ⟨h0, h1, h2⟩ := h
  exact ⟨hd ▸ h0, hl ▸ h1, hl ▸ hn ▸ h2⟩

theorem stepLayerP_g2 (cfg : Cfg S K) (B : Int) (R : Nat → S → Int → List Dec → Prop) (hR : PathRel cfg.P R)
    (hB : NoClamp cfg.P cfg.R cfg.root.value B)
    (pd pd' : PD S K) (var k : Nat) (hG : G2P cfg B R pd k)
    (hnv : cfg.P.nextVar pd.depth (pd.pool.map (·.state)) = some var)
    (h : stepLayerP cfg pd var = some pd') : G2P cfg B R pd' (k + 1) := by
  obtain ⟨layer, cur, ief, log, hs⟩ := stepLayerP_elim cfg pd pd' var h
  have hnv' : cfg.P.nextVar (cfg.root.depth + k) (pd.pool.map (·.state)) = some var := hG.depth ▸ hnv
  have hback : SubNE layer pd.pool :=
    (squashCase_subNE cfg _ _ _ _ _ _ _ _ _ hs.sq).trans ((fdOf_subG cfg pd var).trans (curNodes_subG cfg pd var))
  have hpar : ∀ n ∈ layer, n.fRelaxed = false → n.state ∈ pd.pool.map (·.state) := by
    intro n hn hr
    obtain ⟨m, hm, e⟩ := hback n hn hr
    exact List.mem_map.2 ⟨m, hm, e.1⟩
  have hskip : ∀ c ∈ restNodes cfg pd var, GOkP cfg B R pd.layers pd.layers.length (k + 1) c := by
    intro c hc
    obtain ⟨hcp, himp⟩ := mem_restNodes_iff.1 hc
    exact (hG.pool c hcp).skip hR hB.nonneg hnv' (List.mem_map.2 ⟨c, hcp, rfl⟩) himp
  have hold : ∀ (l dp : Nat) (ly : List (Node S)) (more : List (Nat × List (Node S))), pd.layers[l]? = some (dp, ly) →
      ∃ k', k' < k + 1 ∧ dp = cfg.root.depth + k' ∧ ∀ n ∈ ly, GOkP cfg B R (pd.layers ++ more) l k' n := by
    intro l dp ly more hl
    obtain ⟨k', hk', hdp, hn⟩ := hG.layers l dp ly hl
    exact ⟨k', Nat.lt_succ_of_lt hk', hdp, fun n hnm => (hn n hnm).mono more (Nat.le_refl _)⟩
  rcases hs.cases with ⟨_, hlayers, hpool⟩ | ⟨_, _, hlayers⟩
  ·
    refine ⟨by rw [hs.depth, hG.depth]; rfl, ?_, ?_⟩
    · intro l dp ly hl
      rw [hlayers] at hl ⊢
      have := hold l dp ly [] hl
      rw [List.append_nil] at this
      exact this
    · rw [hpool, hlayers]
      exact hskip
  · have hrest : ∀ c ∈ restNodes cfg pd var,
        GOkP cfg B R (pd.layers ++ [(cfg.root.depth + k, layer)]) (pd.layers.length + 1) (k + 1) c :=
      fun c hc => (hskip c hc).mono _ (Nat.le_succ _)
    have hE := expFP_ginv cfg B R hR hB pd.layers k layer (pd.pool.map (·.state)) var (restNodes cfg pd var)
      hnv' hpar hrest cur log
    have hpool := hs.pool
    generalize expF cfg var pd.layers.length layer (restNodes cfg pd var) cur log = r at hE hlayers hpool
    obtain ⟨hrub, hchild⟩ := hE
    rw [hG.depth] at hlayers
    refine ⟨by rw [hs.depth, hG.depth]; rfl, ?_, ?_⟩
    · intro l dp ly hl
      rw [hlayers] at hl ⊢
      rcases getElem?_append_singleton_cases hl with hl | ⟨hll, hl'⟩
      · exact hold l dp ly _ hl
      · simp only [Prod.mk.injEq] at hl'
        obtain ⟨rfl, rfl⟩ := hl'
        refine ⟨k, Nat.lt_succ_self _, rfl, fun n hnm hr => ?_⟩
        obtain ⟨i, hi⟩ := List.mem_iff_getElem?.1 hnm
        obtain ⟨n0, h0, hs0⟩ := hrub.get hi
        have e0 := ess_of_stripRub hs0
        obtain ⟨m, hm, e⟩ := hback n0 (List.mem_of_getElem? h0) (e0.2.2.2.2.1.trans hr)
        rw [hll]
        exact (((hG.pool m hm).of_ess (e.trans e0)).mono _ (Nat.le_refl _)) hr
    · intro c hc
      rw [hpool] at hc
      rw [hlayers, List.length_append, List.length_singleton]
      exact (hchild c hc).of_rubEq hrub

theorem initPD_g2 (cfg : Cfg S K) (B : Int) (R : Nat → S → Int → List Dec → Prop)
    (hB : NoClamp cfg.P cfg.R cfg.root.value B)
    (hroot : R cfg.root.depth cfg.root.state cfg.root.value [])
    (cache : Cache S) (store : DomStore S K) (polls : Nat) : G2P cfg B R (initPD cfg cache store polls) 0 := by
  refine ⟨rfl, ?_, ?_⟩
  · intro l dp ly hl
    simp only [initPD, List.getElem?_nil] at hl
    cases hl
  · intro n hn
    simp only [initPD, List.mem_singleton] at hn
    subst hn
    intro _
    exact ⟨fun _ => ⟨hroot, Bnd.zero hB.root⟩, fun a0 hb => (by cases hb), fun a ha => (by cases ha)⟩

/-- the two invariants of the top-down build -/
structure TInv (cfg : Cfg S K) (B : Int) (R : Nat → S → Int → List Dec → Prop) (pd : PD S K) (k : Nat) : Prop where
  ex : MInvR cfg B R pd k
  gen : G2P cfg B R pd k

theorem TInv.congr {cfg : Cfg S K} {B : Int} {R : Nat → S → Int → List Dec → Prop} {pd pd' : PD S K} {k : Nat}
    (h : TInv cfg B R pd k) (hl : pd'.layers = pd.layers) (hn : pd'.pool = pd.pool) (hd : pd'.depth = pd.depth) :
    TInv cfg B R pd' k := ⟨h.ex.congr hl hn hd, h.gen.congr hl hn hd⟩

theorem buildLoopP_tinv (cfg : Cfg S K) (B : Int) (R : Nat → S → Int → List Dec → Prop) (hR : PathRel cfg.P R)
    (hB : NoClamp cfg.P cfg.R cfg.root.value B) (stopAt : Option Nat) :
    ∀ (fuel : Nat) (pd : PD S K) (k : Nat), TInv cfg B R pd k → k + fuel ≤ cfg.P.nbVars + 2 →
      ∃ k', k' ≤ cfg.P.nbVars + 2 ∧ TInv cfg B R (buildLoopP cfg stopAt fuel pd).1 k' ∧
        ((buildLoopP cfg stopAt fuel pd).2 = .ok → TerminalP cfg (buildLoopP cfg stopAt fuel pd).1) :=
  fun fuel pd k h hk => buildLoopP_induct_le cfg stopAt (cfg.P.nbVars + 1) (TInv cfg B R)
    (fun pd k h => ⟨h.congr rfl rfl rfl, h.congr rfl rfl rfl⟩)
    (fun pd pd' var k hk hnv _ h hst => ⟨stepLayerP_invR cfg B R hR hB pd pd' var k h.ex hnv hk hst,
      stepLayerP_g2 cfg B R hR hB pd pd' var k h.gen hnv hst⟩) fuel pd k h (.inl hk)

theorem initPD_tinv (cfg : Cfg S K) (B : Int) (R : Nat → S → Int → List Dec → Prop)
    (hB : NoClamp cfg.P cfg.R cfg.root.value B)
    (hroot : R cfg.root.depth cfg.root.state cfg.root.value [])
    (cache : Cache S) (store : DomStore S K) (polls : Nat) : TInv cfg B R (initPD cfg cache store polls) 0 :=
  ⟨initPD_invR cfg B R hB hroot cache store polls, initPD_g2 cfg B R hB hroot cache store polls⟩

/-- the facts about the finished diagram `LF` (all layers with their recorded depths, the terminal layer included) -/
structure FinOkP (cfg : Cfg S K) (B : Int) (R : Nat → S → Int → List Dec → Prop) (LF : List (Nat × List (Node S))) :
    Prop where
  ok : ∀ (l dp : Nat) (ly : List (Node S)), LF[l]? = some (dp, ly) →
    ∃ k, k ≤ cfg.P.nbVars + 2 ∧ dp = cfg.root.depth + k ∧
      ∀ n ∈ ly, NodeOkR cfg B R (LF.map (·.2)) l k n ∧ GOkP cfg B R LF l k n

/-- the final diagram of a pooled compilation: the pool becomes the last layer, at the current depth -/
def finalLF (pd : PD S K) : List (Nat × List (Node S)) := pd.layers ++ [(pd.depth, termsP pd)]

theorem finalLF_plain (pd : PD S K) : (finalLF pd).map (·.2) = pd.plain ++ [termsP pd] := by
  unfold finalLF PD.plain
  rw [List.map_append]
  rfl

theorem finOkP_of_tinv {cfg : Cfg S K} {B : Int} {R : Nat → S → Int → List Dec → Prop} {pd : PD S K} {k : Nat}
    (h : TInv cfg B R pd k) (hk : k ≤ cfg.P.nbVars + 2) : FinOkP cfg B R (finalLF pd) := by
  refine ⟨fun l dp ly hl => ?_⟩
  rw [finalLF_plain]
  unfold finalLF at hl ⊢
  rcases getElem?_append_singleton_cases hl with hl | ⟨hll, hl'⟩
  · obtain ⟨k1, hk1, hdp1, hn1⟩ := h.ex.layers l dp ly hl
    obtain ⟨k2, hk2, hdp2, hn2⟩ := h.gen.layers l dp ly hl
    have : k2 = k1 := Nat.add_left_cancel (hdp2.symm.trans hdp1)
    subst this
    exact ⟨k2, Nat.le_trans (Nat.le_of_lt hk2) hk, hdp1, fun n hn => ⟨(hn1 n hn).1.mono _, (hn2 n hn).mono _ (Nat.le_refl _)⟩⟩
  · simp only [Prod.mk.injEq] at hl'
    obtain ⟨rfl, rfl⟩ := hl'
    refine ⟨k, hk, h.ex.depth, fun n hn => ?_⟩
    obtain ⟨m, hm, rfl⟩ := mem_termsP hn
    rw [hll]
    exact ⟨((h.ex.pool m hm).of_core (fun h => h) rfl rfl rfl).mono _,
      ((h.gen.pool m hm).of_ess ⟨rfl, rfl, rfl, rfl, rfl, rfl⟩).mono _ (Nat.le_refl _)⟩

/-- **every** resolution of the ties gives an exact best path ⇒ the `best` chain of the node `R`-reaches it with its value,
    at the depth of its layer -/
theorem ebpAll_reachP (cfg : Cfg S K) (B : Int) (R : Nat → S → Int → List Dec → Prop)
    (hB : NoClamp cfg.P cfg.R cfg.root.value B) (LF : List (Nat × List (Node S))) (hF : FinOkP cfg B R LF) :
    ∀ (fuel l k : Nat) (ly : List (Node S)) (n : Node S), LF[l]? = some (cfg.root.depth + k, ly) → n ∈ ly →
      ebpAll (LF.map (·.2)) fuel n = true → SelfR cfg B R (LF.map (·.2)) l k n := by
  have hloc : ∀ (l k : Nat) (ly : List (Node S)) (n : Node S), LF[l]? = some (cfg.root.depth + k, ly) → n ∈ ly →
      k ≤ cfg.P.nbVars + 2 ∧ NodeOkR cfg B R (LF.map (·.2)) l k n ∧ GOkP cfg B R LF l k n := by
    intro l k ly n hly hn
    obtain ⟨k0, hk0, hdp, hall⟩ := hF.ok l _ ly hly
    have : k0 = k := (Nat.add_left_cancel hdp).symm
    subst this
    exact ⟨hk0, hall n hn⟩
  intro fuel
  induction fuel with
  | zero =>
    intro l k ly n hly hn h
    exact (hloc l k ly n hly hn).2.1 (by simpa [ebpAll] using h)
  | succ fuel ih =>
    intro l k ly n hly hn h
    obtain ⟨hk, hex, hgen⟩ := hloc l k ly n hly hn
    by_cases hx : n.isExact = true
    · exact hex hx
    · have hr := ebpAll_fRelaxed h
      obtain ⟨c1, c2, c3⟩ := hgen hr
      cases hb0 : n.best with
      | none =>
        obtain ⟨h1, h2⟩ := c1 hb0
        exact ⟨[], hb0 ▸ .root l, h1, h2⟩
      | some a0 =>
        simp only [ebpAll, hb0, Bool.or_eq_true, Bool.and_eq_true, List.all_eq_true] at h
        rcases h with h | ⟨_, hall⟩
        · exact absurd h hx
        · obtain ⟨ha0, par0, hg0, hv0⟩ := c2 a0 hb0
          obtain ⟨hfl, hcost, k', lyp, par, hk', hlyp, hpar, htr⟩ := c3 a0 ha0
          have hg' := getNode_map_snd.2 ⟨_, _, hlyp, hpar⟩
          rw [hg0] at hg'
          cases hg'
          have hpe := hall par0 (mem_argmaxParents.mpr ⟨a0, ha0, hg0, hv0.symm⟩)
          obtain ⟨q, hc, hq, hbq⟩ := ih a0.fromL k' lyp par0 hlyp (List.mem_of_getElem? hpar) hpe
          have hbnd' : Bnd B (k' + 1) (par0.value + a0.cost) := hbq.step hcost
          have hsat : satAdd par0.value a0.cost = par0.value + a0.cost :=
            clamp_of_in (satAdd_of_bnd hB (Nat.le_trans hk' hk) hbnd')
          refine ⟨q ++ [a0.dec], ?_, ?_, ?_⟩
          · rw [hb0]
            exact BestChainP.step l a0 par0 q hfl hg0 hc
          · rw [hv0, hsat]
            exact htr (ebpAll_fRelaxed hpe) _ _ hq
          · rw [hv0, hsat]
            exact hbnd'.mono hB.nonneg hk'

theorem finalizeP_bestExactSol (cfg : Cfg S K) (pd : PD S K) (e : Bool) :
    (finalizeP cfg pd e).bestExactSol =
      (if e then
        (match maxValue (termsP pd) with
          | none => none
          | some v => ((layers3P cfg pd e)[(pd.plain ++ [termsP pd]).length - 1]?.getD []).find?
              (fun (n : Node S) => decide (n.value = v)))
       else
        (match (if e then maxValue (termsP pd) else maxValue ((termsP pd).filter (·.isExact))) with
          | none => none
          | some v => ((layers3P cfg pd e)[(pd.plain ++ [termsP pd]).length - 1]?.getD []).find?
              (fun (n : Node S) => n.isExact && decide (n.value = v)))).map
        (fun n => cfg.root.path ++ bestPath (layers3P cfg pd e) ((layers3P cfg pd e).length + 1) n) := rfl

theorem find_chainP (cfg : Cfg S K) (pd : PD S K) (L3 : List (List (Node S))) (hk : XEq L3 (pd.plain ++ [termsP pd]))
    (f : Node S → Bool) (hf : ∀ a b, stripB a = stripB b → f a = f b) (n : Node S)
    (hfind : (termsP pd).find? f = some n) (q : List Dec)
    (hq : BestChainP (pd.plain ++ [termsP pd]) pd.layers.length n.best q) :
    ((L3[(pd.plain ++ [termsP pd]).length - 1]?.getD []).find? f).map
        (fun n => cfg.root.path ++ bestPath L3 (L3.length + 1) n) = some (cfg.root.path ++ q.reverse) := by
  have hlen : (pd.plain ++ [termsP pd]).length - 1 = pd.plain.length := by
    rw [List.length_append, List.length_singleton, Nat.add_sub_cancel]
  rw [hlen]
  have hlayer := hk.layer pd.plain.length
  rw [List.getElem?_concat_length, Option.getD_some] at hlayer
  have hf3 := find?_stripB f hf _ _ hlayer
  rw [hfind] at hf3
  cases h3 : (L3[pd.plain.length]?.getD []).find? f with
  | none => rw [h3] at hf3; cases hf3
  | some n3 =>
    rw [h3] at hf3
    simp only [Option.map_some, Option.some.injEq] at hf3
    have hchain : BestChainP L3 pd.layers.length n3.best q := by
      rw [stripB_best hf3]; exact hq.of_xEq hk
    have := hchain.bestPath_eq n3 rfl (L3.length + 1) (by
      rw [hk.length, List.length_append, List.length_singleton, plain_length]; exact Nat.le_add_right _ 2)
    simp only [Option.map_some, Option.some.injEq, List.append_cancel_left_eq]
    rw [← this, List.reverse_reverse]

/-- the `must` bit `compileP` hands to `finalizeP` for its first result -/
def mustBit (cfg : Cfg S K) (pd : PD S K) : Bool :=
  (cfg.ctype == .relaxed) &&
    (match maxValue (termsP pd) with
      | none => []
      | some v => (termsP pd).filter (fun (n : Node S) => decide (n.value = v))).all
      (ebpAll (pd.plain ++ [termsP pd]) (pd.plain ++ [termsP pd]).length)

theorem compileP_must (cfg : Cfg S K) (cache : Cache S) (store : DomStore S K) (polls : Nat) (stopAt : Option Nat)
    (hok : (buildLoopP cfg stopAt (cfg.P.nbVars + 2) (initPD cfg cache store polls)).2 = .ok) :
    (compileP cfg cache store polls stopAt).2.1 =
      finalizeP cfg (buildLoopP cfg stopAt (cfg.P.nbVars + 2) (initPD cfg cache store polls)).1
        (mustBit cfg (buildLoopP cfg stopAt (cfg.P.nbVars + 2) (initPD cfg cache store polls)).1) := by
  unfold compileP
  generalize buildLoopP cfg stopAt (cfg.P.nbVars + 2) (initPD cfg cache store polls) = bl at hok ⊢
  obtain ⟨pd, oc⟩ := bl
  dsimp only at hok
  subst hok
  rfl

/-- **finalisation, detailed form**, on a final diagram that satisfies the two invariants, with a `hasEBP` bit that is only set when
    `compileP`'s `must` test succeeds -/
theorem finalizeP_bestExact_rel (cfg : Cfg S K) (B : Int) (R : Nat → S → Int → List Dec → Prop)
    (hB : NoClamp cfg.P cfg.R cfg.root.value B) (pd : PD S K) (k : Nat) (hinv : TInv cfg B R pd k)
    (hk : k ≤ cfg.P.nbVars + 2) (hterm : TerminalP cfg pd) (e : Bool) (he : e = true → mustBit cfg pd = true) (w : Int)
    (hw : (finalizeP cfg pd e).bestExactValue = some w) :
    ∃ (n : Node S) (q : List Dec), n ∈ pd.pool ∧ n.value = w ∧ R pd.depth n.state w q ∧
      BestChainP (pd.plain ++ [termsP pd]) pd.layers.length n.best q ∧
      cfg.P.nextVar pd.depth (pd.pool.map (·.state)) = none ∧
      (finalizeP cfg pd e).bestExactSol = some (cfg.root.path ++ q.reverse) := by
  have hF := finOkP_of_tinv hinv hk
  have hx := layers3P_xEq cfg pd e
  have hlast : (finalLF pd)[pd.layers.length]? = some (cfg.root.depth + k, termsP pd) := by
    unfold finalLF; rw [hinv.ex.depth]; exact List.getElem?_concat_length
  -- a terminal node that is reached gives the conclusion
  have hfin : ∀ (n' : Node S), n' ∈ termsP pd → n'.value = w →
      ∃ (n : Node S), n ∈ pd.pool ∧ n.value = w ∧ n.state = n'.state ∧ n.best = n'.best ∧
        cfg.P.nextVar pd.depth (pd.pool.map (·.state)) = none := by
    intro n' hn' hv
    obtain ⟨m, hm, rfl⟩ := mem_termsP hn'
    rcases hterm with hnil | hnone
    · rw [hnil] at hm; cases hm
    · exact ⟨m, hm, hv, rfl, rfl, hnone⟩
  cases e with
  | false =>
    rw [PBounds.finalizeP_bestExactValue] at hw
    simp only [Bool.false_eq_true, if_false] at hw
    obtain ⟨n2, hfind2, hn2, hx2, hv2⟩ := find?_of_maxValue_f (fun n : Node S => n.isExact) hw
    obtain ⟨k0, _, hdp, hall⟩ := hF.ok _ _ _ hlast
    have : k0 = k := by omega
    subst this
    have hself := (hall n2 hn2).1 hx2
    obtain ⟨m, hm, hmv, hms, hmb, hnone⟩ := hfin n2 hn2 hv2
    obtain ⟨q, hq, hr, _⟩ := hself
    rw [finalLF_plain] at hq
    refine ⟨m, q, hm, hmv, ?_, hmb ▸ hq, hnone, ?_⟩
    · rw [hinv.ex.depth, hms, ← hv2]; exact hr
    · rw [finalizeP_bestExactSol]
      simp only [Bool.false_eq_true, if_false, hw]
      refine find_chainP cfg pd _ hx _ ?_ n2 hfind2 q hq
      intro a b h
      rw [stripB_value h, stripB_isExact h]
  | true =>
    have hmust := he rfl
    rw [PBounds.finalizeP_bestExactValue] at hw
    simp only [if_true] at hw
    obtain ⟨n1, hfind1, hn1, hv1⟩ := find?_of_maxValue hw
    simp only [mustBit, hw, Bool.and_eq_true, List.all_eq_true, List.mem_filter, decide_eq_true_eq] at hmust
    have hebp := hmust.2 n1 ⟨hn1, hv1⟩
    rw [← finalLF_plain] at hebp
    have hself := ebpAll_reachP cfg B R hB (finalLF pd) hF _ _ k _ n1 hlast hn1 hebp
    obtain ⟨m, hm, hmv, hms, hmb, hnone⟩ := hfin n1 hn1 hv1
    obtain ⟨q, hq, hr, _⟩ := hself
    rw [finalLF_plain] at hq
    refine ⟨m, q, hm, hmv, ?_, hmb ▸ hq, hnone, ?_⟩
    · rw [hinv.ex.depth, hms, ← hv1]; exact hr
    · rw [finalizeP_bestExactSol]
      simp only [if_true, hw]
      refine find_chainP cfg pd _ hx _ ?_ n1 hfind1 q hq
      intro a b h
      rw [stripB_value h]

/-- **what `compileP` reports as best exact value / solution is sound**, detailed form: any compilation type, any cache /
    dominance configuration, any cutoff -/
theorem bestExact_rel_detail (cfg : Cfg S K) (B : Int) (R : Nat → S → Int → List Dec → Prop)
    (hR : PathRel cfg.P R) (hroot : R cfg.root.depth cfg.root.state cfg.root.value [])
    (hB : NoClamp cfg.P cfg.R cfg.root.value B)
    (cache : Cache S) (store : DomStore S K) (polls : Nat) (stopAt : Option Nat)
    (hok : (compileP cfg cache store polls stopAt).1 = .ok) (w : Int)
    (hw : (compileP cfg cache store polls stopAt).2.1.bestExactValue = some w) :
    ∃ (n : Node S) (q : List Dec),
      n ∈ (compileP cfg cache store polls stopAt).2.2.2.pool ∧ n.value = w ∧
      R (compileP cfg cache store polls stopAt).2.2.2.depth n.state w q ∧
      (∀ fuel, (compileP cfg cache store polls stopAt).2.2.2.layers.length ≤ fuel →
        q = (bestPath ((compileP cfg cache store polls stopAt).2.2.2.plain ++
          [termsP (compileP cfg cache store polls stopAt).2.2.2]) fuel n).reverse) ∧
      cfg.P.nextVar (compileP cfg cache store polls stopAt).2.2.2.depth
        ((compileP cfg cache store polls stopAt).2.2.2.pool.map (·.state)) = none ∧
      (compileP cfg cache store polls stopAt).2.1.bestExactSol = some (cfg.root.path ++ q.reverse) := by
  rw [compileP_outcome] at hok
  rw [compileP_must cfg cache store polls stopAt hok] at hw ⊢
  rw [compileP_pd]
  obtain ⟨k, hk, hinv, hterm⟩ := buildLoopP_tinv cfg B R hR hB stopAt (cfg.P.nbVars + 2) (initPD cfg cache store polls) 0
    (initPD_tinv cfg B R hB hroot cache store polls) (Nat.le_of_eq (Nat.zero_add _))
  generalize (buildLoopP cfg stopAt (cfg.P.nbVars + 2) (initPD cfg cache store polls)) = bl at *
  obtain ⟨pd, oc⟩ := bl
  dsimp only at hok hw hinv hterm ⊢
  obtain ⟨n, q, h1, h2, h3, h4, h5, h6⟩ :=
    finalizeP_bestExact_rel cfg B R hB pd k hinv hk (hterm hok) (mustBit cfg pd) id w hw
  exact ⟨n, q, h1, h2, h3, fun fuel hf => (h4.bestPath_eq n rfl fuel hf).symm, h5, h6⟩

/-- **what `compileP` reports as best exact value / solution is sound**: any compilation type, any cache / dominance
    configuration, any cutoff -/
theorem bestExact_rel (cfg : Cfg S K) (B : Int) (R : Nat → S → Int → List Dec → Prop)
    (hR : PathRel cfg.P R) (hroot : R cfg.root.depth cfg.root.state cfg.root.value [])
    (hB : NoClamp cfg.P cfg.R cfg.root.value B)
    (cache : Cache S) (store : DomStore S K) (polls : Nat) (stopAt : Option Nat)
    (hok : (compileP cfg cache store polls stopAt).1 = .ok) (w : Int)
    (hw : (compileP cfg cache store polls stopAt).2.1.bestExactValue = some w) :
    ∃ (k : Nat) (s : S) (q : List Dec) (L : List S), R k s w q ∧ s ∈ L ∧ cfg.P.nextVar k L = none ∧
      (compileP cfg cache store polls stopAt).2.1.bestExactSol = some (cfg.root.path ++ q.reverse) := by
  obtain ⟨n, q, hn, _, hr, _, hnone, hsol⟩ := bestExact_rel_detail cfg B R hR hroot hB cache store polls stopAt hok w hw
  exact ⟨_, n.state, q, _, hr, List.mem_map.2 ⟨n, hn, rfl⟩, hnone, hsol⟩

/-- restricted (or exact-mode) pooled compilation, any cache / dominance configuration, any cutoff -/
theorem bestExact_rel_restricted (cfg : Cfg S K) (B : Int) (R : Nat → S → Int → List Dec → Prop)
    (hR : PathRel cfg.P R) (hroot : R cfg.root.depth cfg.root.state cfg.root.value [])
    (hB : NoClamp cfg.P cfg.R cfg.root.value B)
    (cache : Cache S) (store : DomStore S K) (polls : Nat) (stopAt : Option Nat)
    (hty : cfg.ctype = .restricted ∨ cfg.ctype = .exact)
    (hok : (compileP cfg cache store polls stopAt).1 = .ok) (w : Int)
    (hw : (compileP cfg cache store polls stopAt).2.1.bestExactValue = some w) :
    ∃ (k : Nat) (s : S) (q : List Dec) (L : List S), R k s w q ∧ s ∈ L ∧ cfg.P.nextVar k L = none ∧
      (compileP cfg cache store polls stopAt).2.1.bestExactSol = some (cfg.root.path ++ q.reverse) :=
  bestExact_rel cfg B R hR hroot hB cache store polls stopAt hok w hw

/-- relaxed pooled compilation, the `must` result `(compileP …).2.1`, any cache / dominance configuration, any cutoff -/
theorem bestExact_rel_relaxed_gen (cfg : Cfg S K) (B : Int) (R : Nat → S → Int → List Dec → Prop)
    (hR : PathRel cfg.P R) (hroot : R cfg.root.depth cfg.root.state cfg.root.value [])
    (hB : NoClamp cfg.P cfg.R cfg.root.value B)
    (cache : Cache S) (store : DomStore S K) (polls : Nat) (stopAt : Option Nat)
    (hrel : cfg.ctype = .relaxed)
    (hok : (compileP cfg cache store polls stopAt).1 = .ok) (w : Int)
    (hw : (compileP cfg cache store polls stopAt).2.1.bestExactValue = some w) :
    ∃ (k : Nat) (s : S) (q : List Dec) (L : List S), R k s w q ∧ s ∈ L ∧ cfg.P.nextVar k L = none ∧
      (compileP cfg cache store polls stopAt).2.1.bestExactSol = some (cfg.root.path ++ q.reverse) :=
  bestExact_rel cfg B R hR hroot hB cache store polls stopAt hok w hw

/-- relaxed pooled compilation in isolation, the `must` result `(compileP …).2.1` -/
theorem bestExact_rel_relaxed (cfg : Cfg S K) (B : Int) (R : Nat → S → Int → List Dec → Prop)
    (hR : PathRel cfg.P R) (hroot : R cfg.root.depth cfg.root.state cfg.root.value [])
    (hB : NoClamp cfg.P cfg.R cfg.root.value B)
    (cache : Cache S) (store : DomStore S K) (polls : Nat)
    (hrel : cfg.ctype = .relaxed) (hcache : cfg.useCache = false) (hdom : cfg.dom = none) (hW : 1 ≤ cfg.width)
    (hok : (compileP cfg cache store polls none).1 = .ok) (w : Int)
    (hw : (compileP cfg cache store polls none).2.1.bestExactValue = some w) :
    ∃ (k : Nat) (s : S) (q : List Dec) (L : List S), R k s w q ∧ s ∈ L ∧ cfg.P.nextVar k L = none ∧
      (compileP cfg cache store polls none).2.1.bestExactSol = some (cfg.root.path ++ q.reverse) :=
  bestExact_rel cfg B R hR hroot hB cache store polls none hok w hw

end Ddo.PTruth

#print axioms Ddo.PTruth.bestExact_rel_detail
#print axioms Ddo.PTruth.bestExact_rel
#print axioms Ddo.PTruth.bestExact_rel_restricted
#print axioms Ddo.PTruth.bestExact_rel_relaxed_gen
#print axioms Ddo.PTruth.bestExact_rel_relaxed
