import DdoModel.Proofs.MddCoverRel
/-! The coverage invariant of `MddCoverRel` (C06) with one bound `B` for transition costs and relaxed costs, and the
    step from the global hypotheses `Potential` / `MergeOk` / `RubOk` / `AttMerge` to `WfRel`. -/
set_option linter.unusedSectionVars false
set_option linter.unusedVariables false
namespace Ddo.Cover
open Ddo
variable {S K : Type} [DecidableEq S] [DecidableEq K]

/-- `Potential.att` for the merged state of a (non-empty) part of a layer, **for the variable chosen for the
    un-merged layer**: the implementation asks `next_variable` *before* it squashes the layer, so the merged node is
    branched on a variable that was selected without knowing its state.  `Potential.att` only speaks about states that
    belong to the list handed to `nextVar`; this is the missing clause for merged states (it follows from
    `Potential.att` whenever `nextVar` does not depend on the list of states, see `attMerge_of_static`). -/
def AttMerge (P : Problem S) (R : Relax S) (H : Nat → S → EInt) : Prop :=
  ∀ k L x X h, P.nextVar k L = some x → X ≠ [] → (∀ u ∈ X, u ∈ L) → H k (R.merge X) = some h →
    ∃ d ∈ P.domain x (R.merge X), ∃ h', H (k + 1) (P.trans (R.merge X) ⟨x, d⟩) = some h' ∧
      h ≤ P.cost (R.merge X) (P.trans (R.merge X) ⟨x, d⟩) ⟨x, d⟩ + h'

theorem attMerge_of_static {P : Problem S} {R : Relax S} {H : Nat → S → EInt} (hP : Potential P H)
    (hstat : ∀ k L L', L ≠ [] → L' ≠ [] → P.nextVar k L = P.nextVar k L') : AttMerge P R H := by
  intro k L x X h hnv hX hsub hh
  have hL : L ≠ [] := by
    cases X with
    | nil => exact absurd rfl hX
    | cons u _ => exact List.ne_nil_of_mem (hsub u List.mem_cons_self)
  have h2 : P.nextVar k [R.merge X] = some x := by
    rw [← hstat k L [R.merge X] hL (List.cons_ne_nil _ _)]; exact hnv
  exact hP.att k [R.merge X] x (R.merge X) h h2 List.mem_cons_self hh

theorem squash_elim (cfg : Cfg S K) (dd : DD S K) (layer : List (Node S)) (cur : List Nat)
    (hrel : cfg.ctype = .relaxed) (hW : 1 ≤ cfg.width)
    (P : Option (List (Node S) × List Nat × List (Call S) × Option Nat) → Prop)
    (h1 : cur.length > cfg.width → dd.layers.length > 1 → ∀ lel,
      P (some ((relaxLayer cfg dd.layers layer cur dd.log).1, (relaxLayer cfg dd.layers layer cur dd.log).2.1,
        (relaxLayer cfg dd.layers layer cur dd.log).2.2, lel)))
    (h2 : ∀ lel, P (some (layer, cur, dd.log, lel))) : P (squash cfg dd layer cur) := by
  rcases Bounds.squash_cases cfg dd layer cur hrel hW with ⟨_, e⟩ | ⟨c1, c2, e⟩ <;> rw [e]
  · exact h2 _
  · exact h1 c1 c2 _

abbrev Inv (H : Nat → S → EInt) (V : Nat → S → Prop) (B o : Int) (dd : DD S K) : Prop := CoverRel.Inv' H V B B o dd

theorem Inv.valid {H : Nat → S → EInt} {V : Nat → S → Prop} {B o : Int} {dd : DD S K} (self : Inv H V B o dd) :
    ∀ n ∈ dd.next, V dd.depth n.state := CoverRel.Inv'.valid self

theorem Inv.cover {H : Nat → S → EInt} {V : Nat → S → Prop} {B o : Int} {dd : DD S K} (self : Inv H V B o dd) :
    ∃ n ∈ dd.next, ∃ h, H dd.depth n.state = some h ∧ o ≤ n.value + h := CoverRel.Inv'.cover self

theorem Inv.att {H : Nat → S → EInt} {V : Nat → S → Prop} {B o : Int} {dd : DD S K} (self : Inv H V B o dd) :
    dd.layers ≠ [] → ∀ n ∈ dd.next, ∃ a ∈ n.inb, ∃ p, getNode dd.layers a.fromL a.fromP = some p ∧
    n.value = satAdd p.value a.cost := CoverRel.Inv'.att self

theorem Inv.arcs {H : Nat → S → EInt} {V : Nat → S → Prop} {B o : Int} {dd : DD S K} (self : Inv H V B o dd) :
    ∀ n ∈ dd.next, ∀ a ∈ n.inb, Within B a.cost := CoverRel.Inv'.arcs self

theorem Inv.rngN {H : Nat → S → EInt} {V : Nat → S → Prop} {B o : Int} {dd : DD S K} (self : Inv H V B o dd) :
    ∀ n ∈ dd.next, Within (Bd B dd.layers.length) n.value := CoverRel.Inv'.rngN self

theorem Inv.rngL {H : Nat → S → EInt} {V : Nat → S → Prop} {B o : Int} {dd : DD S K} (self : Inv H V B o dd) :
    ∀ (i : Nat) ly, dd.layers[i]? = some ly → ∀ n ∈ ly, Within (Bd B i) n.value := CoverRel.Inv'.rngL self

theorem Inv.congr {H : Nat → S → EInt} {V : Nat → S → Prop} {B o : Int} {dd dd' : DD S K} (h : Inv H V B o dd)
    (h1 : dd'.layers = dd.layers) (h2 : dd'.next = dd.next) (h3 : dd'.depth = dd.depth) : Inv H V B o dd' :=
  CoverRel.Inv'.congr h h1 h2 h3

theorem Bd_small {P : Problem S} {R : Relax S} {rv B : Int} (hB : NoClampDom P R rv B) {k : Nat} (hk : k ≤ P.nbVars + 1) :
    Bd B k ≤ 4611686018427387904 :=
  Bd_le_of_small hB.nonneg hB.small hk

theorem expand_inv (cfg : Cfg S K) (H : Nat → S → EInt) (V : Nat → S → Prop) (B o : Int) (dd dd' : DD S K) (var : Nat)
    (layer' : List (Node S)) (cur' : List Nat) (lg : List (Call S))
    (hR : ∀ k s h, V k s → H k s = some h → h ≤ cfg.R.rub s) (hB : NoClampDom cfg.P cfg.R cfg.root.value B)
    (hclamp : ∀ x, o ≤ x → clamp x > cfg.lb)
    (hlen : dd.layers.length ≤ cfg.P.nbVars)
    (hI : Inv H V B o dd) (hsq : SqPost cfg H V B o dd var layer' cur')
    (hl : dd'.layers = dd.layers ++ [(expandAll cfg var dd.layers.length layer' cur' lg).1])
    (hn : dd'.next = (expandAll cfg var dd.layers.length layer' cur' lg).2.1)
    (hd : dd'.depth = dd.depth + 1) : Inv H V B o dd' :=
  CoverRel.expand_inv' cfg H V B B o dd dd' var layer' cur' lg hR (Int.le_refl B) (fun sv _ d hd => hB.cost var sv.1 d hd)
    (by rw [← Bd_succ]; exact Bd_small hB (by omega)) hclamp hI hsq hl hn hd

theorem wfRel_of_global {P : Problem S} {R : Relax S} {H : Nat → S → EInt} (hP : Potential P H) (hR : RubOk R H)
    (hM : MergeOk R H) (hAM : AttMerge P R H) : WfRel P R H (fun _ _ => True) where
  vstep := fun _ _ _ _ _ _ _ _ _ => trivial
  vstepMerge := fun _ _ _ _ _ _ _ _ _ _ => trivial
  vmerge := fun _ _ _ _ => trivial
  att := fun k L x s h hnv hs _ hH => hP.att k L x s h hnv hs hH
  attMerge := fun k L x X h hnv hX hsub _ hH => hAM k L x X h hnv hX hsub hH
  term := fun k L s h hnv hs _ hH => by
    rw [hP.term k L s hnv hs] at hH; cases hH; exact Int.le_refl _
  rub := fun k s h _ hH => hR k s h hH
  merge := fun k X u src d c h hu _ hH => hM k X u src d c h hu hH

structure Hyp (cfg : Cfg S K) (H : Nat → S → EInt) (V : Nat → S → Prop) (B o : Int) : Prop where
  rel : cfg.ctype = .relaxed
  cache : cfg.useCache = false
  dom : cfg.dom = none
  W : 1 ≤ cfg.width
  wf : WfRel cfg.P cfg.R H V
  B : NoClampDom cfg.P cfg.R cfg.root.value B
  clamp : ∀ x, o ≤ x → clamp x > cfg.lb

theorem Hyp.toRel {cfg : Cfg S K} {H : Nat → S → EInt} {V : Nat → S → Prop} {B o : Int} (hy : Hyp cfg H V B o) :
    CoverRel.Hyp' cfg H V B B o :=
  ⟨hy.rel, hy.cache, hy.dom, hy.W, hy.wf.toV, hy.B.toRel V, hy.clamp⟩

theorem buildLoop_cover (cfg : Cfg S K) (H : Nat → S → EInt) (V : Nat → S → Prop) (B o : Int) (hy : Hyp cfg H V B o) :
    ∀ (fuel : Nat) (dd : DD S K), Inv H V B o dd → dd.layers.length + fuel ≤ cfg.P.nbVars + 2 →
      (buildLoop cfg none fuel dd).2 = .ok →
      ∃ n ∈ (buildLoop cfg none fuel dd).1.next, o ≤ n.value :=
  CoverRel.buildLoop_cover' cfg H V B B o hy.toRel

theorem init_inv (cfg : Cfg S K) (H : Nat → S → EInt) (V : Nat → S → Prop) (B o : Int) (cache : Cache S)
    (store : DomStore S K) (polls : Nat) (hV : V cfg.root.depth cfg.root.state)
    (hB : NoClampDom cfg.P cfg.R cfg.root.value B) (ho : optOf H cfg.root = some o) :
    Inv H V B o (initDD cfg cache store polls) :=
  CoverRel.init_inv' cfg H V B B o cache store polls hV (hB.toRel V) ho

end Ddo.Cover
