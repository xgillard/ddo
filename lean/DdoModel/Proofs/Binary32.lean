import DdoModel.GapFloat
/-! # binary32 as `GapFloat.lean` models it: the encoding, the floor, round-to-nearest-even

Nothing here is about `Solver::gap`: these are the facts about the format and its rounding (`F.val`, `F.floorBits`,
`F.roundAt`, `F.decode`, `F.round`, `F.ofNat`, `F.div`) that `Props/C17f.lean` uses, each proved for the concrete definitions.
It is also proved that `F.roundAt` is exactly roundTiesToEven (`roundAt_nearest`, `roundAt_tie_even`, `roundAt_unique`).

| fact | patterns (`Nat`) | floats (`F`) |
|---|---|---|
| encoding is order preserving | `val_lt_iff`, `val_le_iff` | `decode_le_decode` |
| floor is the floor | `floorBits_spec`, `floorBits_unique` | |
| monotone | `roundAt_mono`, `roundBits_mono` | `round_mono`, `ofNat_mono` |
| exact on representable values | `roundAt_exact`, `roundBits_val` | `round_exact`, `ofNat_exact`, `ofNat_eq_of_mag` |
| sandwich by representable values (⇒ no underflow to 0, no overflow, `≤ 1`) | `le_roundAt`, `roundAt_le` | `le_round`, `round_le`, `round_no_underflow`, `round_le_one` |
| sign preserved, never NaN, result in the format | | `round_signBit`, `round_isNaN`, `round_wf` |
| relative error `≤ 2^-24` in the normal range | `roundAt_relerr` | |
| commutes with doubling | `roundAt_double` | |

Magnitude patterns that occur as numerals (exponent field `E`, fraction 0, i.e. `E · 2^23`; their values: `val_oneBits` … `val_two`):
`536870912 = 0x20000000` is `2^-63` (`E = 64`), `1065353216 = 0x3F800000` is `1.0` (`E = 127`), `1073741824 = 0x40000000` is `2.0`
(`E = 128`), `1593835520 = 0x5F000000` is `2^63` (`E = 190`), `1602224128 = 0x5F800000` is `2^64` (`E = 191`),
`2139095040 = 0x7F800000` is `F.infBits` (`E = 255`). -/
-- `F.mag` of an infinity is `2 ^ 277`, above the default threshold for evaluating powers
set_option exponentiation.threshold 400
namespace Ddo.C17
open Ddo.F

/-- every pattern is `E · 2^23 + f` with `f < 2^23`: exponent field `E`, fraction field `f` -/
theorem pattern_cases (b : Nat) : ∃ E f, f < 2 ^ 23 ∧ b = E * 2 ^ 23 + f :=
  ⟨b / 2 ^ 23, b % 2 ^ 23, by omega, by omega⟩

theorem fields_mk (E f : Nat) (hf : f < 2 ^ 23) :
    (E * 2 ^ 23 + f) / 2 ^ 23 = E ∧ (E * 2 ^ 23 + f) % 2 ^ 23 = f := by omega

theorem val_mk (E f : Nat) (hf : f < 2 ^ 23) :
    val (E * 2 ^ 23 + f) = if E = 0 then f else (2 ^ 23 + f) * 2 ^ (E - 1) := by
  unfold val; rw [(fields_mk E f hf).1, (fields_mk E f hf).2]

theorem mantOf_mk (E f : Nat) (hf : f < 2 ^ 23) :
    mantOf (E * 2 ^ 23 + f) = if E = 0 then f else 2 ^ 23 + f := by
  unfold mantOf; rw [(fields_mk E f hf).1, (fields_mk E f hf).2]

theorem expOf_mk (E f : Nat) (hf : f < 2 ^ 23) :
    expOf (E * 2 ^ 23 + f) = if E = 0 then -149 else (E : Int) - 150 := by
  unfold expOf; rw [(fields_mk E f hf).1]

/-- one step in the pattern is one unit in the last place: `2^(E-1)`, and `1` in the two lowest binades -/
theorem val_succ (b : Nat) : val (b + 1) = val b + 2 ^ (b / 2 ^ 23 - 1) := by
  obtain ⟨E, f, hf, rfl⟩ := pattern_cases b
  rw [(fields_mk E f hf).1, val_mk _ _ hf]
  by_cases hc : f + 1 < 2 ^ 23
  · rw [Nat.add_assoc, val_mk _ _ hc]
    split
    · subst E; rfl
    · rw [← Nat.add_assoc, Nat.add_mul, Nat.one_mul]
  · have hf1 : f = 2 ^ 23 - 1 := by omega
    subst hf1
    rw [show E * 2 ^ 23 + (2 ^ 23 - 1) + 1 = (E + 1) * 2 ^ 23 + 0 by omega, val_mk _ _ (by decide),
      if_neg (by omega), Nat.add_sub_cancel]
    cases E with
    | zero => rfl
    | succ k => rw [if_neg (by omega), Nat.add_sub_cancel, Nat.pow_succ]; omega

theorem val_succ_lt (b : Nat) : val b < val (b + 1) := by
  rw [val_succ]; exact Nat.lt_add_of_pos_right (Nat.pow_pos (by decide))

theorem ulp_le {b : Nat} (h : 2 ^ 23 ≤ b) : 2 ^ (b / 2 ^ 23 - 1) * 2 ^ 23 ≤ val b := by
  unfold val
  rw [if_neg (by omega), Nat.mul_comm]
  exact Nat.mul_le_mul_right _ (Nat.le_add_right _ _)

/-- adding 1 to the exponent field doubles a normal number -/
theorem val_double {b : Nat} (h : 2 ^ 23 ≤ b) : val (b + 2 ^ 23) = 2 * val b := by
  obtain ⟨E, f, hf, rfl⟩ := pattern_cases b
  obtain ⟨k, rfl⟩ : ∃ k, E = k + 1 := ⟨E - 1, by omega⟩
  rw [show (k + 1) * 2 ^ 23 + f + 2 ^ 23 = (k + 1 + 1) * 2 ^ 23 + f by omega, val_mk _ _ hf, val_mk _ _ hf,
    if_neg (by omega), if_neg (by omega), Nat.add_sub_cancel, Nat.add_sub_cancel, @Nat.pow_succ 2 k, ← Nat.mul_assoc,
    Nat.mul_comm]

/-- subnormals and the first binade have unit `2^-149`: value = pattern -/
theorem val_small (b : Nat) (h : b < 2 ^ 24) : val b = b := by
  obtain ⟨E, f, hf, rfl⟩ := pattern_cases b
  rw [val_mk _ _ hf]
  split
  · subst E; omega
  · rw [show E = 1 by omega]; omega

/-- a normal number: mantissa `m ∈ [2^23, 2^24)`, shifted by `sh` -/
theorem val_norm (sh m : Nat) (h1 : 2 ^ 23 ≤ m) (h2 : m < 2 ^ 24) :
    val (sh * 2 ^ 23 + m) = m * 2 ^ sh := by
  rw [show sh * 2 ^ 23 + m = (sh + 1) * 2 ^ 23 + (m - 2 ^ 23) by omega, val_mk _ _ (by omega), if_neg (by omega),
    Nat.add_sub_cancel, Nat.add_sub_cancel' h1]

theorem val_lt_of_lt {a b : Nat} (h : a < b) : val a < val b := by
  induction b with
  | zero => omega
  | succ k ih =>
    by_cases hk : a = k
    · subst hk; exact val_succ_lt a
    · exact Nat.lt_trans (ih (by omega)) (val_succ_lt k)

theorem val_le_of_le {a b : Nat} (h : a ≤ b) : val a ≤ val b := by
  by_cases e : a = b
  · subst e; exact Nat.le_refl _
  · exact Nat.le_of_lt (val_lt_of_lt (by omega))

theorem val_le_iff {a b : Nat} : val a ≤ val b ↔ a ≤ b := by
  constructor
  · intro h; by_cases c : a ≤ b
    · exact c
    · have := val_lt_of_lt (show b < a by omega); omega
  · exact val_le_of_le

theorem val_lt_iff {a b : Nat} : val a < val b ↔ a < b := by
  rw [← Nat.not_le, ← Nat.not_le, val_le_iff]

theorem val_inj {a b : Nat} (h : val a = val b) : a = b := by
  have h1 := (@val_le_iff a b).1 (by omega)
  have h2 := (@val_le_iff b a).1 (by omega)
  omega

theorem floorBits_spec (t : Nat) : val (floorBits t) ≤ t ∧ t < val (floorBits t + 1) := by
  rw [val_succ]
  unfold floorBits
  by_cases h0 : t = 0
  · subst h0; decide
  have hlo : 2 ^ t.log2 ≤ t := Nat.log2_self_le h0
  have hhi : t < 2 ^ (t.log2 + 1) := Nat.lt_log2_self
  generalize t.log2 = L at hlo hhi
  by_cases hL : L ≤ 23
  · have : (2:Nat) ^ (L + 1) ≤ 2 ^ 24 := Nat.pow_le_pow_right (by decide) (by omega)
    rw [show L - 23 = 0 by omega, Nat.zero_mul, Nat.zero_add, Nat.shiftRight_zero, val_small t (by omega),
      show t / 2 ^ 23 - 1 = 0 by omega]
    omega
  · obtain ⟨sh, rfl⟩ : ∃ sh, L = sh + 23 := ⟨L - 23, by omega⟩
    rw [Nat.add_sub_cancel, Nat.shiftRight_eq_div_pow]
    have hP : 0 < 2 ^ sh := Nat.pow_pos (by decide)
    rw [Nat.pow_add, Nat.mul_comm] at hlo
    rw [Nat.add_assoc, Nat.pow_add, Nat.mul_comm] at hhi
    have hm1 : 2 ^ 23 ≤ t / 2 ^ sh := (Nat.le_div_iff_mul_le hP).2 hlo
    have hm2 : t / 2 ^ sh < 2 ^ 24 := (Nat.div_lt_iff_lt_mul hP).2 hhi
    rw [show (sh * 2 ^ 23 + t / 2 ^ sh) / 2 ^ 23 - 1 = sh by omega, val_norm sh _ hm1 hm2, ← Nat.succ_mul,
      Nat.mul_comm (t / 2 ^ sh).succ]
    exact ⟨Nat.div_mul_le_self t _, Nat.lt_mul_div_succ t hP⟩

theorem floorBits_unique {t b : Nat} (h1 : val b ≤ t) (h2 : t < val (b + 1)) : floorBits t = b := by
  have ⟨s1, s2⟩ := floorBits_spec t
  have a : floorBits t < b + 1 := val_lt_iff.1 (by omega)
  have c : b < floorBits t + 1 := val_lt_iff.1 (by omega)
  omega

theorem floorBits_mono {s t : Nat} (h : s ≤ t) : floorBits s ≤ floorBits t := by
  have ⟨s1, _⟩ := floorBits_spec s
  have ⟨_, t2⟩ := floorBits_spec t
  have : floorBits s < floorBits t + 1 := val_lt_iff.1 (by omega)
  omega

theorem floorBits_val (b : Nat) : floorBits (val b) = b :=
  floorBits_unique (Nat.le_refl _) (val_succ_lt b)

/-- the floor with respect to a rational: `val b ≤ x/d < val (b+1)`, cross-multiplied -/
theorem floorBits_frac (x d : Nat) (hd : 0 < d) :
    val (floorBits (x / d)) * d ≤ x ∧ x < val (floorBits (x / d) + 1) * d := by
  have ⟨s1, s2⟩ := floorBits_spec (x / d)
  exact ⟨(Nat.le_div_iff_mul_le hd).1 s1, (Nat.div_lt_iff_lt_mul hd).1 s2⟩

theorem val_mul_le {a b : Nat} (d : Nat) (h : a ≤ b) : val a * d ≤ val b * d :=
  Nat.mul_le_mul_right d (val_le_of_le h)

theorem val_mul_lt {a b d : Nat} (hd : 0 < d) (h : a < b) : val a * d < val b * d :=
  Nat.mul_lt_mul_of_pos_right (val_lt_of_lt h) hd

/-- what `roundAt` computes: with `b` the floor pattern, `x/d` lies between `val b` and `val (b+1)`; the result is `b` if
    `x/d` is not above their midpoint, `b + 1` if it is not below, and even if it is on the midpoint -/
theorem roundAt_spec (x : Nat) {d : Nat} (hd : 0 < d) :
    ∃ b, b = floorBits (x / d) ∧ val b * d ≤ x ∧ x < val (b + 1) * d ∧
      (roundAt x d = b ∧ 2 * x ≤ val b * d + val (b + 1) * d
        ∨ roundAt x d = b + 1 ∧ val b * d + val (b + 1) * d ≤ 2 * x) ∧
      (2 * x = val b * d + val (b + 1) * d → roundAt x d % 2 = 0) := by
  have ⟨f1, f2⟩ := floorBits_frac x d hd
  refine ⟨_, rfl, f1, f2, ?_⟩
  unfold roundAt
  simp only [Nat.add_mul]
  split <;> omega

/-- `q₁ ≤ q₂ ⇒ ⌊q₁⌋ ≤ ⌊q₂⌋` on fractions -/
theorem frac_floor_mono {x1 d1 x2 d2 : Nat} (h1 : 0 < d1) (h2 : 0 < d2) (h : x1 * d2 ≤ x2 * d1) :
    x1 / d1 ≤ x2 / d2 := by
  rw [Nat.le_div_iff_mul_le h2]
  have hx : x1 / d1 * d1 ≤ x1 := Nat.div_mul_le_self _ _
  generalize x1 / d1 = x at *
  have : (x * d2) * d1 ≤ x2 * d1 := by
    have a := Nat.mul_le_mul_right d2 hx
    grind
  exact Nat.le_of_mul_le_mul_right this h1

theorem roundAt_cases (x d : Nat) :
    roundAt x d = floorBits (x / d) ∨ roundAt x d = floorBits (x / d) + 1 := by
  unfold roundAt; simp only []; split <;> simp

/-- **monotone**: `x₁/d₁ ≤ x₂/d₂ ⇒ round (x₁/d₁) ≤ round (x₂/d₂)` -/
theorem roundAt_mono {x1 d1 x2 d2 : Nat} (h1 : 0 < d1) (h2 : 0 < d2) (hX : x1 * d2 ≤ x2 * d1) :
    roundAt x1 d1 ≤ roundAt x2 d2 := by
  have hf := floorBits_mono (frac_floor_mono h1 h2 hX)
  rcases Nat.lt_or_ge (floorBits (x1 / d1)) (floorBits (x2 / d2)) with hlt | hge
  · have := roundAt_cases x1 d1
    have := roundAt_cases x2 d2
    omega
  · -- same floor: were the first rounded up and the second not, both would sit on the midpoint, with opposite parities
    obtain ⟨b, hb, -, -, hr, ht⟩ := roundAt_spec x1 h1
    obtain ⟨b', hb', -, -, hr', ht'⟩ := roundAt_spec x2 h2
    obtain rfl : b = b' := by rw [hb, hb']; exact Nat.le_antisymm hf hge
    rw [← Nat.add_mul] at hr ht hr' ht'
    generalize val b + val (b + 1) = M at hr ht hr' ht'
    rcases hr with ⟨e, -⟩ | ⟨e, c1⟩ <;> rcases hr' with ⟨e', c2⟩ | ⟨e', -⟩
    · rw [e, e']; exact Nat.le_refl _
    · rw [e, e']; exact Nat.le_succ _
    · have k1 := Nat.mul_le_mul_right d2 c1
      have k2 := Nat.mul_le_mul_right d1 c2
      have hX2 := Nat.mul_le_mul_left 2 hX
      rw [Nat.mul_right_comm M, Nat.mul_assoc 2] at k1
      rw [Nat.mul_assoc 2] at k2
      have t1 := ht (Nat.eq_of_mul_eq_mul_right h2 (by
        rw [Nat.mul_right_comm M, Nat.mul_assoc 2]; exact Nat.le_antisymm (Nat.le_trans hX2 k2) k1))
      have t2 := ht' (Nat.eq_of_mul_eq_mul_right h1 (by
        rw [Nat.mul_assoc 2]; exact Nat.le_antisymm k2 (Nat.le_trans k1 hX2)))
      rw [e] at t1; rw [e'] at t2
      omega
    · rw [e, e']; exact Nat.le_refl _

/-- **exact**: a representable value is returned unchanged -/
theorem roundAt_exact {x d b : Nat} (hd : 0 < d) (h : x = val b * d) : roundAt x d = b := by
  unfold roundAt
  simp only []
  rw [h, Nat.mul_div_cancel _ hd, floorBits_val, Nat.add_mul]
  have := Nat.mul_lt_mul_of_pos_right (val_succ_lt b) hd
  rw [if_neg (by omega)]

/-- lower sandwich: a representable value below `x/d` stays below the rounded result -/
theorem le_roundAt {x d c : Nat} (hd : 0 < d) (h : val c * d ≤ x) : c ≤ roundAt x d := by
  have := roundAt_mono hd hd (Nat.mul_le_mul_right d h)
  rwa [roundAt_exact hd rfl] at this

theorem roundAt_le {x d c : Nat} (hd : 0 < d) (h : x ≤ val c * d) : roundAt x d ≤ c := by
  have := roundAt_mono hd hd (Nat.mul_le_mul_right d h)
  rwa [roundAt_exact hd rfl] at this

/-- distance between two naturals, as the statements about rounding write it -/
def dist (v x : Nat) : Nat := ((v : Int) - x).natAbs

/-- on one side of `x`, farther out is farther away -/
theorem dist_lt_left {A B x : Nat} (h : A < B) (hB : B ≤ x) : dist B x < dist A x := by
  unfold dist; omega

theorem dist_lt_right {A B x : Nat} (hA : x ≤ A) (h : A < B) : dist A x < dist B x := by
  unfold dist; omega

theorem dist_le_left {A B x : Nat} (h : A ≤ B) (hB : B ≤ x) : dist B x ≤ dist A x :=
  (Nat.eq_or_lt_of_le h).elim (fun e => e ▸ Nat.le_refl _) fun h => Nat.le_of_lt (dist_lt_left h hB)

theorem dist_le_right {A B x : Nat} (hA : x ≤ A) (h : A ≤ B) : dist A x ≤ dist B x :=
  (Nat.eq_or_lt_of_le h).elim (fun e => e ▸ Nat.le_refl _) fun h => Nat.le_of_lt (dist_lt_right hA h)

/-- between two neighbours, the side of the midpoint tells which one is closer -/
theorem dist_mid {V W x : Nat} (f1 : V ≤ x) (f2 : x < W) :
    (2 * x ≤ V + W → dist V x ≤ dist W x) ∧ (V + W ≤ 2 * x → dist W x ≤ dist V x) := by
  unfold dist; omega

/-- **nearest**: no pattern `c` is closer to `x/d` than the result (distances multiplied by `d`) -/
theorem roundAt_nearest {x d : Nat} (hd : 0 < d) (c : Nat) :
    ((val (roundAt x d) * d : Int) - x).natAbs ≤ ((val c * d : Int) - x).natAbs := by
  obtain ⟨b, -, f1, f2, hr, -⟩ := roundAt_spec x hd
  have hm := dist_mid f1 f2
  rcases hr with ⟨e, h⟩ | ⟨e, h⟩ <;> rw [e] <;> rcases Nat.lt_or_ge b c with hc | hc
  · exact Nat.le_trans (hm.1 h) (dist_le_right (Nat.le_of_lt f2) (val_mul_le d hc))
  · exact dist_le_left (val_mul_le d hc) f1
  · exact dist_le_right (Nat.le_of_lt f2) (val_mul_le d hc)
  · exact Nat.le_trans (hm.2 h) (dist_le_left (val_mul_le d hc) f1)

/-- at equal distances from both neighbours, `x` is their midpoint -/
theorem mid_of_dist_eq {V W x : Nat} (f1 : V ≤ x) (f2 : x < W) (h : dist W x = dist V x) : 2 * x = V + W := by
  unfold dist at h; omega

/-- **ties to even**: if another pattern is exactly as close, the result is the even one -/
theorem roundAt_tie_even {x d : Nat} (hd : 0 < d) (c : Nat) (hne : c ≠ roundAt x d)
    (h : ((val c * d : Int) - x).natAbs = ((val (roundAt x d) * d : Int) - x).natAbs) :
    roundAt x d % 2 = 0 := by
  obtain ⟨b, -, f1, f2, hr, htie⟩ := roundAt_spec x hd
  apply htie
  -- `c` is as close as the result, hence as close as `b` and `b + 1`: it is one of the two, the result the other
  have n1 := roundAt_nearest (x := x) hd b
  have n2 := roundAt_nearest (x := x) hd (b + 1)
  rw [← h] at n1 n2
  have h1 : b ≤ c := Nat.le_of_not_lt fun hlt =>
    Nat.not_le.2 (dist_lt_left (val_mul_lt hd hlt) f1) n1
  have h2 : c ≤ b + 1 := Nat.le_of_not_lt fun hlt =>
    Nat.not_le.2 (dist_lt_right (Nat.le_of_lt f2) (val_mul_lt hd hlt)) n2
  rcases hr with ⟨e, -⟩ | ⟨e, -⟩ <;> rw [e] at h hne
  · obtain rfl : c = b + 1 := Nat.le_antisymm h2 (Nat.lt_of_le_of_ne h1 (Ne.symm hne))
    exact mid_of_dist_eq f1 f2 h
  · obtain rfl : c = b := Nat.le_antisymm (Nat.le_of_lt_succ (Nat.lt_of_le_of_ne h2 hne)) h1
    exact mid_of_dist_eq f1 f2 h.symm

/-- two patterns at the same distance from `x/d`, the lower one being at least as close as its successor,
    are neighbours -/
theorem tie_adjacent {x d a c : Nat} (hd : 0 < d) (hac : a < c) (heq : dist (val a * d) x = dist (val c * d) x)
    (hmin : dist (val a * d) x ≤ dist (val (a + 1) * d) x) : c = a + 1 := by
  apply Decidable.byContradiction
  intro hne
  have h1 := val_mul_lt hd (Nat.lt_add_one a)
  have h2 := val_mul_lt hd (show a + 1 < c by omega)
  rcases Nat.le_total (val (a + 1) * d) x with hm | hm
  · exact Nat.not_le.2 (dist_lt_left h1 hm) hmin
  · exact Nat.not_le.2 (dist_lt_right hm h2) (heq ▸ hmin)

/-- **the two properties determine the result**: `roundAt x d` is *the* pattern that is nearest to
    `x/d` and even in case of a tie — i.e. the definition is exactly IEEE-754 roundTiesToEven
    (on the unbounded-exponent extension of the format). -/
theorem roundAt_unique {x d c : Nat} (hd : 0 < d)
    (hnear : ∀ c', ((val c * d : Int) - x).natAbs ≤ ((val c' * d : Int) - x).natAbs)
    (heven : ∀ c', c' ≠ c → ((val c' * d : Int) - x).natAbs = ((val c * d : Int) - x).natAbs → c % 2 = 0) :
    c = roundAt x d := by
  apply Decidable.byContradiction
  intro hcr
  have heq : ((val c * d : Int) - x).natAbs = ((val (roundAt x d) * d : Int) - x).natAbs :=
    Nat.le_antisymm (hnear _) (roundAt_nearest hd c)
  have ev_r := roundAt_tie_even hd c hcr heq
  have ev_c := heven (roundAt x d) (Ne.symm hcr) heq.symm
  rcases Nat.lt_or_gt_of_ne hcr with hlt | hlt
  · have := tie_adjacent hd hlt heq (hnear _); omega
  · have := tie_adjacent hd hlt heq.symm (roundAt_nearest hd _); omega

/-- rounding commutes with doubling in the normal range (no overflow: exponent field unbounded) -/
theorem roundAt_double {x d : Nat} (hd : 0 < d) (hn : 2 ^ 23 ≤ floorBits (x / d)) :
    roundAt (2 * x) d = roundAt x d + 2 ^ 23 := by
  obtain ⟨b, hb, f1, f2, hr, ht⟩ := roundAt_spec x hd
  obtain ⟨b', hb', -, -, hr', ht'⟩ := roundAt_spec (2 * x) hd
  rw [← hb] at hn
  -- floor and both neighbours double, so the comparison with the midpoint and the parity are the same
  have hfl : b' = b + 2 ^ 23 := by
    rw [hb']; apply floorBits_unique
    · rw [val_double hn, Nat.le_div_iff_mul_le hd, Nat.mul_assoc]; omega
    · rw [Nat.add_right_comm, val_double (by omega), Nat.div_lt_iff_lt_mul hd, Nat.mul_assoc]; omega
  subst hfl
  rw [Nat.add_right_comm b, val_double hn, val_double (b := b + 1) (by omega), Nat.mul_assoc, Nat.mul_assoc]
    at hr' ht'
  clear hb hb' hn
  rcases hr with ⟨e, h⟩ | ⟨e, h⟩ <;> rcases hr' with ⟨e', h'⟩ | ⟨e', h'⟩ <;> omega

/-! the same facts for `roundBits n d = roundAt (n · 2^149) d`, the rounding of the rational `n/d` -/

theorem roundBits_mono {n1 d1 n2 d2 : Nat} (h1 : 0 < d1) (h2 : 0 < d2) (h : n1 * d2 ≤ n2 * d1) :
    roundBits n1 d1 ≤ roundBits n2 d2 := by
  unfold roundBits
  apply roundAt_mono h1 h2
  rw [Nat.mul_right_comm n1, Nat.mul_right_comm n2]
  exact Nat.mul_le_mul_right _ h

/-- the result depends on the value `n/d` only -/
theorem roundBits_congr {n1 d1 n2 d2 : Nat} (h1 : 0 < d1) (h2 : 0 < d2) (h : n1 * d2 = n2 * d1) :
    roundBits n1 d1 = roundBits n2 d2 :=
  Nat.le_antisymm (roundBits_mono h1 h2 (by omega)) (roundBits_mono h2 h1 (by omega))

theorem roundBits_val (b : Nat) : roundBits (val b) (2 ^ 149) = b :=
  roundAt_exact (Nat.pow_pos (by decide)) rfl

/-- **relative error `≤ 2^-24`** when the result is a normal number:
    `|round(x/d) − x/d| ≤ 2^-24 · x/d` (multiplied by `d`, two-sided) -/
theorem roundAt_relerr {x d : Nat} (hd : 0 < d) (hn : 2 ^ 23 ≤ floorBits (x / d)) :
    -(x : Int) ≤ 16777216 * ((val (roundAt x d) * d : Int) - x)
    ∧ 16777216 * ((val (roundAt x d) * d : Int) - x) ≤ x := by
  obtain ⟨b, hb, f1, f2, hr, -⟩ := roundAt_spec x hd
  rw [← hb] at hn
  -- the two neighbours are one unit in the last place apart, which is at most `2^-23 · val b`
  have hP := Nat.mul_le_mul_right d (ulp_le hn)
  rw [Nat.mul_right_comm] at hP
  rw [val_succ, Nat.add_mul] at f2 hr
  simp only [← Int.natCast_mul]
  clear hb hn
  rcases hr with ⟨e, h⟩ | ⟨e, h⟩
  · rw [e]; omega
  · rw [e, val_succ, Nat.add_mul]; omega

theorem decode_isNaN (s : Bool) (b : Nat) : (decode s b).isNaN = false := by
  unfold decode; split <;> rfl

theorem decode_signBit (s : Bool) (b : Nat) : (decode s b).signBit = s := by
  unfold decode; split <;> rfl

theorem decode_wf (s : Bool) (b : Nat) : (decode s b).WF := by
  unfold decode; split
  · trivial
  · rename_i h
    unfold infBits at h
    simp only [WF]
    unfold mantOf expOf
    split <;> omega

theorem val_infBits : val infBits = 2 ^ 277 := by decide

theorem decode_mag (s : Bool) {b : Nat} (h : b ≤ infBits) : (decode s b).mag = val b := by
  unfold decode; split
  · rename_i h'
    have : b = infBits := by omega
    subst this; exact val_infBits.symm
  · simp only [mag]
    unfold mantOf expOf val
    split
    · simp
    · rename_i h'
      have : (((b / 2 ^ 23 : Nat) : Int) - 150 + 149).toNat = b / 2 ^ 23 - 1 := by omega
      rw [this]

theorem decode_ext {b : Nat} (h : b ≤ infBits) : (decode false b).ext = val b := by
  unfold ext; rw [decode_signBit, decode_mag _ h]; simp

theorem decode_le_decode {b1 b2 : Nat} (h1 : b1 ≤ infBits) (h2 : b2 ≤ infBits) :
    decode false b1 ≤ decode false b2 ↔ b1 ≤ b2 := by
  show F.le _ _ ↔ _
  unfold F.le
  rw [decode_isNaN, decode_isNaN, decode_ext h1, decode_ext h2]
  simp only [true_and, Int.ofNat_le]
  exact val_le_iff

theorem decode_lt_decode {b1 b2 : Nat} (h1 : b1 ≤ infBits) (h2 : b2 ≤ infBits) :
    decode false b1 < decode false b2 ↔ b1 < b2 := by
  show F.lt _ _ ↔ _
  unfold F.lt
  rw [decode_isNaN, decode_isNaN, decode_ext h1, decode_ext h2]
  simp only [true_and, Int.ofNat_lt]
  exact val_lt_iff

theorem decode_eq_fin (s : Bool) {r : Nat} (h : r < infBits) : decode s r = fin s (mantOf r) (expOf r) := by
  unfold decode; rw [if_neg (by omega)]

theorem decode_bits (s : Bool) {b : Nat} (h : b ≤ infBits) : (decode s b).bits = b := by
  unfold decode; split
  · exact Nat.le_antisymm ‹_› h
  · obtain ⟨E, f, hf, rfl⟩ := pattern_cases b
    simp only [bits, mantOf_mk _ _ hf, expOf_mk _ _ hf]
    by_cases hE : E = 0
    · subst hE; rw [if_pos rfl, if_pos hf, Nat.zero_mul, Nat.zero_add]
    · rw [if_neg hE, if_neg hE, if_neg (by omega)]; omega

/-- every value of the format is the decoding of its pattern -/
theorem decode_bits_self {a : F} (hw : a.WF) (hn : a.isNaN = false) : decode a.signBit a.bits = a := by
  cases a with
  | nan => cases hn
  | inf s => rfl
  | fin s m e =>
    simp only [WF] at hw
    simp only [bits, signBit]
    by_cases hm : m < 2 ^ 23
    · obtain rfl : e = -149 := by omega
      have h1 := mantOf_mk 0 m hm
      have h2 := expOf_mk 0 m hm
      rw [Nat.zero_mul, Nat.zero_add, if_pos rfl] at h1 h2
      rw [if_pos hm, decode_eq_fin _ (by unfold infBits; omega), h1, h2]
    · rw [if_neg hm, decode_eq_fin _ (by unfold infBits; omega),
        show (e + 149).toNat * 2 ^ 23 + m = ((e + 149).toNat + 1) * 2 ^ 23 + (m - 2 ^ 23) by omega,
        mantOf_mk _ _ (by omega), expOf_mk _ _ (by omega), if_neg (Nat.succ_ne_zero _), if_neg (Nat.succ_ne_zero _),
        Nat.add_sub_cancel' (Nat.le_of_not_lt hm)]
      congr 1; omega

theorem bits_le_infBits {a : F} (hw : a.WF) (hn : a.isNaN = false) : a.bits ≤ infBits := by
  cases a with
  | nan => cases hn
  | inf s => exact Nat.le_refl _
  | fin s m e =>
    simp only [WF] at hw; simp only [bits, infBits]; split <;> omega

theorem mag_eq_val_bits {a : F} (hw : a.WF) (hn : a.isNaN = false) : a.mag = val a.bits := by
  have := decode_mag a.signBit (bits_le_infBits hw hn)
  rw [decode_bits_self hw hn] at this; exact this

/-! `round neg n d` is the only place where a real number is turned into a float (`ofNat n = round false n 1`,
`div a b = round _ a.mag b.mag`).  What the clauses of C17 need from it: -/

theorem round_isNaN (s : Bool) (n d : Nat) : (round s n d).isNaN = false := decode_isNaN _ _
/-- sign preserving (a zero result keeps the sign of the exact value: IEEE signed zero) -/
theorem round_signBit (s : Bool) (n d : Nat) : (round s n d).signBit = s := decode_signBit _ _
theorem round_wf (s : Bool) (n d : Nat) : (round s n d).WF := decode_wf _ _

theorem round_mono {n1 d1 n2 d2 : Nat} (h1 : 0 < d1) (h2 : 0 < d2) (h : n1 * d2 ≤ n2 * d1) :
    round false n1 d1 ≤ round false n2 d2 := by
  unfold round
  rw [decode_le_decode (Nat.min_le_right _ _) (Nat.min_le_right _ _)]
  have := roundBits_mono h1 h2 h
  omega

/-- **exact on representable values**: every non-NaN value `a` of the format (value
    `±a.mag · 2^-149`) is the rounding of itself -/
theorem round_exact {a : F} (hw : a.WF) (hn : a.isNaN = false) : round a.signBit a.mag (2 ^ 149) = a := by
  unfold round
  rw [mag_eq_val_bits hw hn, roundBits_val, Nat.min_eq_left (bits_le_infBits hw hn), decode_bits_self hw hn]

/-- more generally, whenever `n/d` is the value of `a` -/
theorem round_eq_of_mag {a : F} (hw : a.WF) (hn : a.isNaN = false) {n d : Nat} (hd : 0 < d)
    (h : n * 2 ^ 149 = a.mag * d) : round a.signBit n d = a := by
  have := round_exact hw hn
  unfold round at *
  rw [roundBits_congr hd (Nat.pow_pos (by decide)) h]; exact this

theorem round_zero (s : Bool) {d : Nat} (hd : 0 < d) : round s 0 d = fin s 0 (-149) := by
  unfold round
  rw [show roundBits 0 d = 0 from roundAt_exact hd (by simp [val])]; rfl

/-- **no spurious overflow/underflow, sandwich**: a representable `a ≥ 0` with `a ≤ n/d` stays `≤` the result … -/
theorem le_round {a : F} (hw : a.WF) (hn : a.isNaN = false) (hs : a.signBit = false) {n d : Nat} (hd : 0 < d)
    (h : a.mag * d ≤ n * 2 ^ 149) : a ≤ round false n d := by
  have e := round_exact hw hn
  rw [hs] at e; rw [← e]
  exact round_mono (Nat.pow_pos (by decide)) hd h

/-- … and one with `n/d ≤ a` stays `≥` -/
theorem round_le {a : F} (hw : a.WF) (hn : a.isNaN = false) (hs : a.signBit = false) {n d : Nat} (hd : 0 < d)
    (h : n * 2 ^ 149 ≤ a.mag * d) : round false n d ≤ a := by
  have e := round_exact hw hn
  rw [hs] at e; rw [← e]
  exact round_mono hd (Nat.pow_pos (by decide)) h

/-- in particular a quotient `≥ 2^-149` is not flushed to zero (nor one `≥ 2^-126` below `2^-126`) -/
theorem round_no_underflow {n d : Nat} (hd : 0 < d) (h : d ≤ n * 2 ^ 149) : minPos ≤ round false n d :=
  le_round (a := minPos) (by decide) rfl rfl hd (by simpa [mag, minPos] using h)

theorem round_ge_minNormal {n d : Nat} (hd : 0 < d) (h : d ≤ n * 2 ^ 126) :
    fin false 8388608 (-149) ≤ round false n d := by
  apply le_round (by decide) rfl rfl hd
  simp only [mag]
  have : n * 2 ^ 149 = n * 2 ^ 126 * 2 ^ 23 := by rw [Nat.mul_assoc]
  rw [this]
  have := Nat.mul_le_mul_right (2 ^ 23) h
  simpa [Nat.mul_comm] using this

theorem round_le_one {n d : Nat} (hd : 0 < d) (h : n ≤ d) : round false n d ≤ one := by
  apply round_le (by decide) rfl rfl hd
  have : one.mag = 2 ^ 149 := by decide
  rw [this, Nat.mul_comm]; exact Nat.mul_le_mul_left _ h

/-- a result below the pattern of ∞ is the finite number stored in it -/
theorem round_fin_of_lt {s : Bool} {n d : Nat} (h : roundBits n d < infBits) :
    round s n d = fin s (mantOf (roundBits n d)) (expOf (roundBits n d)) := by
  unfold round decode
  rw [Nat.min_eq_left (by omega), if_neg (by omega)]

theorem ofNat_isNaN (n : Nat) : (ofNat n).isNaN = false := round_isNaN _ _ _
theorem ofNat_signBit (n : Nat) : (ofNat n).signBit = false := round_signBit _ _ _
theorem ofNat_wf (n : Nat) : (ofNat n).WF := round_wf _ _ _
theorem ofNat_zero : ofNat 0 = zero := by decide +kernel
theorem ofNat_one : ofNat 1 = one := by decide +kernel

theorem ofNat_mono {m n : Nat} (h : m ≤ n) : ofNat m ≤ ofNat n :=
  round_mono (by decide) (by decide) (by omega)

/-- exact whenever the integer is representable (`n = a.mag · 2^-149` for a value `a` of the format) -/
theorem ofNat_eq_of_mag {a : F} (hw : a.WF) (hn : a.isNaN = false) (hs : a.signBit = false) {n : Nat}
    (h : n * 2 ^ 149 = a.mag) : ofNat n = a := by
  have := round_eq_of_mag hw hn (n := n) (d := 1) (by decide) (by omega)
  rw [hs] at this; exact this

theorem val_oneBits : val 1065353216 = 2 ^ 149 := by decide       -- 1.0    = pattern 127·2^23
theorem val_b63 : val 1593835520 = 2 ^ 212 := by decide           -- 2^63   = pattern 190·2^23
theorem val_b64 : val 1602224128 = 2 ^ 213 := by decide           -- 2^64   = pattern 191·2^23
theorem val_bm63 : val 536870912 = 2 ^ 86 := by decide            -- 2^-63  = pattern 64·2^23
theorem val_two : val 1073741824 = 2 ^ 150 := by decide           -- 2.0    = pattern 128·2^23

theorem ofNat_bits_mono {m n : Nat} (h : m ≤ n) : roundBits m 1 ≤ roundBits n 1 :=
  roundBits_mono (by decide) (by decide) (by omega)

theorem one_le_ofNat_bits {n : Nat} (h : 1 ≤ n) : 1065353216 ≤ roundBits n 1 :=
  le_roundAt (by decide) (by rw [val_oneBits]; omega)

theorem ofNat_bits_le_b64 {n : Nat} (h : n ≤ 2 ^ 64) : roundBits n 1 ≤ 1602224128 :=
  roundAt_le (by decide) (by rw [val_b64]; omega)

theorem ofNat_bits_le_b63 {n : Nat} (h : n ≤ 2 ^ 63) : roundBits n 1 ≤ 1593835520 :=
  roundAt_le (by decide) (by rw [val_b63]; omega)

/-- always finite on the `usize` range (no overflow to ∞: `2^64 < 2^128`) -/
theorem ofNat_fin {n : Nat} (h : n ≤ 2 ^ 64) :
    ofNat n = fin false (mantOf (roundBits n 1)) (expOf (roundBits n 1)) ∧ (ofNat n).mag = val (roundBits n 1) := by
  have hb := ofNat_bits_le_b64 h
  refine ⟨round_fin_of_lt (by unfold infBits; omega), ?_⟩
  unfold ofNat round
  rw [Nat.min_eq_left (by unfold infBits; omega), decode_mag _ (by unfold infBits; omega)]

theorem ofNat_finite {n : Nat} (h : n ≤ 2 ^ 64) : (ofNat n).isFinite = true := by
  rw [(ofNat_fin h).1]; rfl

theorem one_le_ofNat {n : Nat} (h : 1 ≤ n) : one ≤ ofNat n := by
  rw [← ofNat_one]; exact ofNat_mono h

theorem ofNat_pos {n : Nat} (h : 0 < n) : zero < ofNat n := by
  show decode false 0 < decode false (min (roundBits n 1) infBits)
  rw [decode_lt_decode (by decide) (Nat.min_le_right _ _)]
  have := one_le_ofNat_bits h
  unfold infBits; omega

/-- exact below `2^24` -/
theorem ofNat_exact {n : Nat} (h : n < 2 ^ 24) : (ofNat n).mag = n * 2 ^ 149 := by
  by_cases h0 : n = 0
  · subst h0; decide
  have hl : n.log2 < 24 := (Nat.log2_lt h0).2 h
  have hlo : 2 ^ n.log2 ≤ n := Nat.log2_self_le h0
  have hhi : n < 2 ^ (n.log2 + 1) := Nat.lt_log2_self
  generalize n.log2 = l at *
  have hP : 0 < 2 ^ (23 - l) := Nat.pow_pos (by decide)
  have m1 : 2 ^ 23 ≤ n * 2 ^ (23 - l) := by
    have := Nat.mul_le_mul_right (2 ^ (23 - l)) hlo
    rw [← Nat.pow_add, show l + (23 - l) = 23 by omega] at this; exact this
  have m2 : n * 2 ^ (23 - l) < 2 ^ 24 := by
    have := Nat.mul_lt_mul_of_pos_right hhi hP
    rw [← Nat.pow_add, show l + 1 + (23 - l) = 24 by omega] at this; exact this
  have hv := val_norm (126 + l) _ m1 m2
  have e : n * 2 ^ (23 - l) * 2 ^ (126 + l) = n * 2 ^ 149 := by
    rw [Nat.mul_assoc, ← Nat.pow_add, show 23 - l + (126 + l) = 149 by omega]
  rw [e] at hv
  have hr : roundBits n 1 = (126 + l) * 2 ^ 23 + n * 2 ^ (23 - l) :=
    roundAt_exact (by decide) (by rw [hv, Nat.mul_one])
  rw [(ofNat_fin (by omega)).2, hr, hv]

/-- an integer `≥ 1` is converted in the normal range -/
theorem floor_normal_of_ge_one {n : Nat} (h : 1 ≤ n) : 2 ^ 23 ≤ floorBits (n * 2 ^ 149 / 1) := by
  rw [Nat.div_one]
  have h1 : 2 ^ 149 ≤ n * 2 ^ 149 := by
    have := Nat.mul_le_mul_right (2 ^ 149) h; omega
  have h2 : floorBits (val 1065353216) ≤ floorBits (n * 2 ^ 149) :=
    floorBits_mono (by rw [val_oneBits]; exact h1)
  rw [floorBits_val] at h2
  omega

theorem div_fin (s t : Bool) (m m' : Nat) (e e' : Int) (h : (fin t m' e').mag ≠ 0) :
    div (fin s m e) (fin t m' e') = round (s != t) (fin s m e).mag (fin t m' e').mag := by
  simp only [div, if_neg h]

end Ddo.C17
