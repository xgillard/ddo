import DdoModel.Proofs.ParDomOpSpec
import DdoModel.Proofs.DomChain
/-! # The loop of the operation-wise compilation (`buildLoopO`, `compileOp`), whatever the oracle

For ANY sequence of stores `τ` (even ill-formed ones) the exactness invariant `MInv` of `Proofs/MddExact.lean` holds along the loop
(the filter only `set`s `theta`), and every operation logged by `compileOp` presents an exact node of the layer about to be expanded,
hence an exactly reached item (`compileOp_ops_reached`).  Answered by stores of exactly reached items, the compilation is a chain of
layer steps through admissible filters (`Proofs/BuildChain.lean`, `Proofs/DomChain.lean`), it ends normally (`compileOp_no_crash`), and
its answers meet `AnsOk` (`ansOk_built` of `Proofs/ParDomBuilt.lean`: `ansOk_Op`, `perOpObligation_holds`). -/
set_option linter.unusedSectionVars false
set_option linter.unusedVariables false
namespace Ddo.ParDom
open Ddo Ddo.Truth Ddo.Closed Ddo.C10
variable {S K : Type} [DecidableEq S] [DecidableEq K]

theorem filterDomO_ops (cfg : Cfg S K) (τ : Nat → DomStore S K) (k : Nat) (layer : List (Node S)) (cur : List Nat) :
    ∀ op ∈ (filterDomO cfg τ k layer cur).2.2.2.2,
      ∃ m ∈ layer, m.isExact = true ∧ op.state = m.state ∧ op.depth = m.depth ∧ op.value = m.value :=
  (filterDomO_inv cfg τ k layer cur).2

theorem fcOf_subS (cfg : Cfg S K) (dd : DD S K) : SubS (fcOf cfg dd).1 dd.next := by
  unfold fcOf
  split
  · exact SubS.refl _
  · exact filterCache_subS _ _ _ _

theorem expand_minv (cfg : Cfg S K) (B : Int) (p0 : List Dec) (hB : NoClamp cfg.P cfg.R cfg.root.value B)
    (dd dd' : DD S K) (var : Nat) (hinv : MInv cfg B p0 dd) (hdepth : dd.depth = cfg.root.depth + dd.layers.length)
    (hnv : cfg.P.nextVar dd.depth (dd.next.map (·.state)) = some var) (hlen : dd.layers.length ≤ cfg.P.nbVars + 1)
    (fl : List (Node S)) (fk : List Nat) (hfl : SubS fl dd.next)
    (sq : List (Node S) × List Nat × List (Call S) × Option Nat) (hsq : squash cfg dd fl fk = some sq)
    (hl : dd'.layers = dd.layers ++ [(expandAll cfg var dd.layers.length sq.1 sq.2.1 sq.2.2.1).1])
    (hn : dd'.next = (expandAll cfg var dd.layers.length sq.1 sq.2.1 sq.2.2.1).2.1) : MInv cfg B p0 dd' := by
  obtain ⟨_, hsubS⟩ := squash_sub cfg dd fl fk sq.1 sq.2.1 sq.2.2.1 sq.2.2.2 hsq
  obtain ⟨hpar, hE⟩ := squash_expand_einv cfg B p0 hB dd var hinv hdepth hnv hlen fl fk hfl sq hsq
  generalize expandAll cfg var dd.layers.length sq.1 sq.2.1 sq.2.2.1 = ex at hE hl hn
  obtain ⟨hrub, hchild, hallEx⟩ := hE
  refine ⟨?_, ?_, ?_⟩
  · rw [hl]
    exact MInv.append_layer hinv.layers fun n hn => (ParOk.of_sub hrub.subS.toSub hpar n hn).1
  · rw [hl, hn]
    intro c hc hex
    obtain ⟨a, pn, q, hbest, hfrom, hpn, hchain, hreach, hd, hbnd⟩ := hchild c hc hex
    obtain ⟨pF, hpF, hsF⟩ := hrub.get' hpn
    refine ⟨q ++ [a.dec], ?_, hreach, ?_, ?_⟩
    · rw [hbest, List.length_append, List.length_singleton]
      refine BestChain.step _ a pF q hfrom ?_ ?_
      · unfold getNode
        rw [List.getElem?_concat_length]
        exact hpF
      · rw [← (stripRub_core hsF).2.2.2.1]
        exact hchain.mono _
    · rw [hd, List.length_append, List.length_singleton]
    · rw [List.length_append, List.length_singleton]; exact hbnd
  · rw [hn]
    intro hne c hc
    refine hallEx ?_ c hc
    intro n hn
    obtain ⟨n0, h0, he0, _⟩ := (hsubS hne).trans hfl n hn
    rw [← he0]
    exact hinv.allEx hne n0 h0

/-- **one layer** (the analogue of `stepLayer_inv`): the exactness invariant is kept, and the new operations present exactly
    reached items — whatever the oracle -/
theorem stepLayerO_inv (cfg : Cfg S K) (B : Int) (p0 : List Dec) (hB : NoClamp cfg.P cfg.R cfg.root.value B)
    (τ : Nat → DomStore S K) (dd : DD S K) (k : Nat) (ops : List (Op S)) (var : Nat)
    (hinv : MInv cfg B p0 dd) (hdepth : dd.depth = cfg.root.depth + dd.layers.length)
    (hnv : cfg.P.nextVar dd.depth (dd.next.map (·.state)) = some var)
    (hlen : dd.layers.length ≤ cfg.P.nbVars + 1) (dd' : DD S K) (k' : Nat) (ops' : List (Op S)) (oc : Outcome)
    (h : stepLayerO cfg τ dd k ops var = (some (dd', k', ops'), oc)) :
    MInv cfg B p0 dd' ∧
      (oc = .ok → dd'.depth = cfg.root.depth + dd'.layers.length ∧ dd'.layers.length = dd.layers.length + 1) ∧
      (∀ op ∈ ops', op ∈ ops ∨ OpReached cfg.P op) := by
  rcases stepLayerO_some cfg τ dd k ops var dd' k' ops' oc h with ⟨hnil, rfl, _, rfl, rfl⟩ | ⟨_, ht⟩
  · refine ⟨⟨MInv.append_layer hinv.layers (fun n hn => by cases hn), ?_, ?_⟩, (fun h => by cases h), fun op hop => .inl hop⟩
    · dsimp only; rw [hnil]; intro n hn; cases hn
    · dsimp only; rw [hnil]; intro _ n hn; cases hn
  · obtain ⟨_, _, rfl, sq, hsq, hl, hn, hd, _⟩ := stepTailO_some cfg dd ops var _ _ dd' k' ops' oc ht
    have hfc := fcOf_subS cfg dd
    obtain ⟨hfd, hfo⟩ := filterDomO_inv cfg τ k (fcOf cfg dd).1 (fcOf cfg dd).2
    refine ⟨expand_minv cfg B p0 hB dd dd' var hinv hdepth hnv hlen _ _ (hfd.trans hfc) sq hsq hl hn, fun _ => ⟨?_, ?_⟩, ?_⟩
    · rw [hd, hl, hdepth, List.length_append, List.length_singleton, Nat.add_assoc]
    · rw [hl, List.length_append, List.length_singleton]
    · intro op hop
      refine (List.mem_append.1 hop).imp_right fun hop => ?_
      obtain ⟨m, hm, hme, e1, e2, e3⟩ := hfo op hop
      obtain ⟨n0, h0, he0, hc⟩ := hfc m hm
      obtain ⟨q, _, hr, _, _⟩ := hinv.next n0 h0 (he0.trans hme)
      exact ⟨p0 ++ q, by rw [e1, e2, e3, ← hc.1, ← hc.2.1, ← hc.2.2.2]; exact hr⟩

theorem len_le_depth {d r l : Nat} (hd : d = r + l) : l ≤ d := hd ▸ Nat.le_add_left l r

theorem fuel_len {l fuel N : Nat} (h : l + (fuel + 1) ≤ N + 2) : l ≤ N + 1 :=
  Nat.le_trans (Nat.le_add_right l fuel) (Nat.le_of_succ_le_succ h)

theorem fuel_step {l l' fuel N : Nat} (hl : l' = l + 1) (h : l + (fuel + 1) ≤ N + 2) : l' + fuel ≤ N + 2 := by
  rw [hl, Nat.add_right_comm]; exact h

/-- **the loop**: the exactness invariant holds of the final diagram, which has at most `nbVars + 2` layers and is terminal when
    the loop ends normally; every operation logged is exactly reached -/
theorem buildLoopO_inv (cfg : Cfg S K) (B : Int) (p0 : List Dec) (hB : NoClamp cfg.P cfg.R cfg.root.value B)
    (τ : Nat → DomStore S K) (fuel : Nat) (dd : DD S K) (k : Nat) (ops : List (Op S)) (hM : MInv cfg B p0 dd)
    (hdepth : dd.depth = cfg.root.depth + dd.layers.length) (hfuel : dd.layers.length + fuel ≤ cfg.P.nbVars + 2)
    (hops : ∀ op ∈ ops, OpReached cfg.P op) :
    MInv cfg B p0 (buildLoopO cfg τ fuel dd k ops).1.1 ∧
      (buildLoopO cfg τ fuel dd k ops).1.1.layers.length ≤ cfg.P.nbVars + 2 ∧
      ((buildLoopO cfg τ fuel dd k ops).2 = .ok → Terminal cfg (buildLoopO cfg τ fuel dd k ops).1.1) ∧
      ∀ op ∈ (buildLoopO cfg τ fuel dd k ops).1.2, OpReached cfg.P op := by
  fun_induction buildLoopO cfg τ fuel dd k ops with
  | case1 => exact ⟨hM, hfuel, (fun h => nomatch h), hops⟩
  | case2 fuel dd k ops hnv => exact ⟨hM.congr rfl rfl, Nat.le_trans (Nat.le_add_right _ _) hfuel, fun _ => .inr ⟨hnv, hdepth⟩, hops⟩
  | case3 => exact ⟨hM.congr rfl rfl, Nat.le_trans (Nat.le_add_right _ _) hfuel, (fun h => nomatch h), hops⟩
  | case4 fuel dd k ops var hnv dd' k' ops' hs =>
    obtain ⟨m1, _, m3⟩ := stepLayerO_inv cfg B p0 hB τ (tick dd var) k ops var (hM.congr rfl rfl) hdepth hnv
      (fuel_len hfuel) dd' k' ops' _ hs
    rcases stepLayerO_some cfg τ _ k ops var dd' k' ops' _ hs with ⟨hnil, rfl, _⟩ | ⟨_, ht⟩
    · refine ⟨m1, ?_, fun _ => .inl hnil, fun op hop => (m3 op hop).elim (hops op) id⟩
      show (dd.layers ++ [[]]).length ≤ _
      rw [List.length_append]
      exact Nat.le_trans (Nat.add_le_add_left (Nat.succ_le_succ (Nat.zero_le fuel)) _) hfuel
    · cases (stepTailO_some cfg _ ops var _ _ dd' k' ops' _ ht).1
  | case5 fuel dd k ops var hnv dd' k' ops' hs =>
    rcases stepLayerO_some cfg τ _ k ops var dd' k' ops' _ hs with ⟨_, _, _, _, h⟩ | ⟨_, ht⟩
    · cases h
    · cases (stepTailO_some cfg _ ops var _ _ dd' k' ops' _ ht).1
  | case6 fuel dd k ops var hnv dd' k' ops' hs ih =>
    obtain ⟨m1, m2, m3⟩ := stepLayerO_inv cfg B p0 hB τ (tick dd var) k ops var (hM.congr rfl rfl) hdepth hnv
      (fuel_len hfuel) dd' k' ops' _ hs
    obtain ⟨m2a, m2b⟩ := m2 rfl
    exact ih m1 m2a (fuel_step m2b hfuel) (fun op hop => (m3 op hop).elim (hops op) id)

/-- a property of the diagram that only its `layers`, `next`, `depth`, `lel` decide and that one `stepLayerO` keeps holds of
    the final diagram of the loop -/
theorem buildLoopO_keeps (cfg : Cfg S K) (B : Int) (p0 : List Dec) (hB : NoClamp cfg.P cfg.R cfg.root.value B)
    (τ : Nat → DomStore S K) (J : DD S K → Prop)
    (hcongr : ∀ dd dd' : DD S K, J dd → dd'.layers = dd.layers → dd'.next = dd.next → dd'.depth = dd.depth →
      dd'.lel = dd.lel → J dd')
    (hstep : ∀ (dd : DD S K) (k : Nat) (ops : List (Op S)) (var : Nat) (dd' : DD S K) (k' : Nat) (ops' : List (Op S))
      (oc : Outcome), MInv cfg B p0 dd → dd.depth = cfg.root.depth + dd.layers.length →
      cfg.P.nextVar dd.depth (dd.next.map (·.state)) = some var → dd.layers.length ≤ cfg.P.nbVars + 1 →
      stepLayerO cfg τ dd k ops var = (some (dd', k', ops'), oc) → J dd → J dd')
    (fuel : Nat) (dd : DD S K) (k : Nat) (ops : List (Op S)) (hM : MInv cfg B p0 dd)
    (hdepth : dd.depth = cfg.root.depth + dd.layers.length) (hfuel : dd.layers.length + fuel ≤ cfg.P.nbVars + 2)
    (hJ : J dd) : J (buildLoopO cfg τ fuel dd k ops).1.1 := by
  fun_induction buildLoopO cfg τ fuel dd k ops with
  | case1 => exact hJ
  | case2 => exact hcongr _ _ hJ rfl rfl rfl rfl
  | case3 => exact hcongr _ _ hJ rfl rfl rfl rfl
  | case4 fuel dd k ops var hnv dd' k' ops' hs =>
    exact hstep (tick dd var) k ops var dd' k' ops' _ (hM.congr rfl rfl) hdepth hnv (fuel_len hfuel) hs
      (hcongr _ _ hJ rfl rfl rfl rfl)
  | case5 fuel dd k ops var hnv dd' k' ops' hs =>
    exact hstep (tick dd var) k ops var dd' k' ops' _ (hM.congr rfl rfl) hdepth hnv (fuel_len hfuel) hs
      (hcongr _ _ hJ rfl rfl rfl rfl)
  | case6 fuel dd k ops var hnv dd' k' ops' hs ih =>
    have hl := fuel_len hfuel
    obtain ⟨m1, m2, _⟩ := stepLayerO_inv cfg B p0 hB τ (tick dd var) k ops var (hM.congr rfl rfl) hdepth hnv hl dd' k' ops' _ hs
    obtain ⟨m2a, m2b⟩ := m2 rfl
    exact ih m1 m2a (fuel_step m2b hfuel)
      (hstep (tick dd var) k ops var dd' k' ops' _ (hM.congr rfl rfl) hdepth hnv hl hs (hcongr _ _ hJ rfl rfl rfl rfl))

theorem compileOp_inv (cfg : Cfg S K) (B : Int) (p0 : List Dec) (hB : NoClamp cfg.P cfg.R cfg.root.value B)
    (hroot : Reach cfg.P cfg.root.depth cfg.root.state cfg.root.value p0)
    (cache : Cache S) (τ : Nat → DomStore S K) (polls : Nat) :
    MInv cfg B p0 (finOp cfg cache τ polls) ∧ (finOp cfg cache τ polls).layers.length ≤ cfg.P.nbVars + 2 ∧
      ((compileOp cfg cache τ polls).1 = .ok → Terminal cfg (finOp cfg cache τ polls)) ∧
      ∀ op ∈ (compileOp cfg cache τ polls).2.2, OpReached cfg.P op := by
  rw [compileOp_outcome, compileOp_ops]
  exact buildLoopO_inv cfg B p0 hB τ (cfg.P.nbVars + 2) (initDD cfg cache (τ 0) polls) 0 []
    (initDD_inv cfg B p0 hB hroot cache (τ 0) polls) rfl (Nat.le_of_eq (Nat.zero_add _)) (fun op hop => by cases hop)

theorem compileOp_keeps (cfg : Cfg S K) (B : Int) (p0 : List Dec) (hB : NoClamp cfg.P cfg.R cfg.root.value B)
    (hroot : Reach cfg.P cfg.root.depth cfg.root.state cfg.root.value p0)
    (cache : Cache S) (τ : Nat → DomStore S K) (polls : Nat) (J : DD S K → Prop)
    (hcongr : ∀ dd dd' : DD S K, J dd → dd'.layers = dd.layers → dd'.next = dd.next → dd'.depth = dd.depth →
      dd'.lel = dd.lel → J dd')
    (hstep : ∀ (dd : DD S K) (k : Nat) (ops : List (Op S)) (var : Nat) (dd' : DD S K) (k' : Nat) (ops' : List (Op S))
      (oc : Outcome), MInv cfg B p0 dd → dd.depth = cfg.root.depth + dd.layers.length →
      cfg.P.nextVar dd.depth (dd.next.map (·.state)) = some var → dd.layers.length ≤ cfg.P.nbVars + 1 →
      stepLayerO cfg τ dd k ops var = (some (dd', k', ops'), oc) → J dd → J dd')
    (h0 : J (initDD cfg cache (τ 0) polls)) : J (finOp cfg cache τ polls) :=
  buildLoopO_keeps cfg B p0 hB τ J hcongr hstep (cfg.P.nbVars + 2) (initDD cfg cache (τ 0) polls) 0 []
    (initDD_inv cfg B p0 hB hroot cache (τ 0) polls) rfl (Nat.le_of_eq (Nat.zero_add _)) h0

/-- a successful `stepLayerO` on a non-empty layer is a layer step through an admissible filter, whatever stores of exactly reached
    items answer the operations -/
theorem stepLayerO_layerStep (cfg : Cfg S K) (D : DomRule S K) (H : Nat → S → EInt) (opt : Int) (Prot : Nat → S → Int → Prop)
    (hD : cfg.dom = some D) (hcache : cfg.useCache = false) (hNV : NvBound cfg.P) (hP : Protected D cfg.P H opt Prot)
    (B : Int) (p0 : List Dec) (τ : Nat → DomStore S K)
    (hτ : ∀ k, StoreReach D cfg.P (τ k) ∧ (τ k).layers.length = cfg.P.nbVars + 1)
    (dd : DD S K) (k : Nat) (ops : List (Op S)) (var : Nat) (dd' : DD S K) (k' : Nat) (ops' : List (Op S)) (oc : Outcome)
    (hM : MInv cfg B p0 dd) (hdepth : dd.depth = cfg.root.depth + dd.layers.length)
    (hnv : cfg.P.nextVar dd.depth (dd.next.map (·.state)) = some var) (hne : dd.next ≠ [])
    (hst : stepLayerO cfg τ dd k ops var = (some (dd', k', ops'), oc)) :
    ∃ fl fk, FilterOk Prot dd fl fk ∧ LayerStep cfg var dd dd' fl fk := by
  rcases stepLayerO_some cfg τ dd k ops var dd' k' ops' oc hst with ⟨hnil, _⟩ | ⟨_, ht⟩
  · exact absurd hnil hne
  · rw [fcOf_id cfg hcache dd] at ht
    obtain ⟨_, _, _, sq, hsq, hl, hn, hd, hlel⟩ := stepTailO_some cfg dd ops var _ _ dd' k' ops' oc ht
    obtain ⟨f1, f2, _, f6⟩ := filterDomO_facts cfg D H opt Prot B hD hNV hP p0 τ hτ k dd var hM hdepth hnv
    exact ⟨_, _, ⟨f1, f2, f6⟩, sq, hsq, hl, hn, hd, hlel⟩

theorem compileOp_chain (cfg : Cfg S K) (D : DomRule S K) (H : Nat → S → EInt) (opt : Int) (Prot : Nat → S → Int → Prop)
    (hD : cfg.dom = some D) (hcache : cfg.useCache = false) (hNV : NvBound cfg.P) (hP : Protected D cfg.P H opt Prot)
    (B : Int) (hB : NoClamp cfg.P cfg.R cfg.root.value B) (p0 : List Dec) (cache : Cache S) (τ : Nat → DomStore S K) (polls : Nat)
    (hroot : Reach cfg.P cfg.root.depth cfg.root.state cfg.root.value p0)
    (hτ : ∀ k, StoreReach D cfg.P (τ k) ∧ (τ k).layers.length = cfg.P.nbVars + 1) :
    Chain cfg (FilterOk Prot) B p0 (initDD cfg cache (τ 0) polls) (finOp cfg cache τ polls) := by
  refine compileOp_keeps cfg B p0 hB hroot cache τ polls _ (fun _ _ h h1 h2 h3 h4 => h.congr h1 h2 h3 h4) ?_ .refl
  intro dd k ops var dd' k' ops' oc hM hdepth hnv hlen hst hC
  by_cases hne : dd.next = []
  · rcases stepLayerO_some cfg τ dd k ops var dd' k' ops' oc hst with ⟨_, rfl, _⟩ | ⟨he, _⟩
    · exact hC.brk ⟨hM, hdepth, hnv, hlen⟩ hne
    · rw [hne] at he; cases he
  · obtain ⟨fl, fk, hf, hs⟩ := stepLayerO_layerStep cfg D H opt Prot hD hcache hNV hP B p0 τ hτ dd k ops var dd' k' ops' oc hM
      hdepth hnv hne hst
    exact hC.layer ⟨hM, hdepth, hnv, hlen⟩ hne hf.frame hf hs
      (stepLayerO_inv cfg B p0 hB τ dd k ops var hM hdepth hnv hlen dd' k' ops' oc hst).1

theorem compileOp_ended (cfg : Cfg S K) (D : DomRule S K) (H : Nat → S → EInt) (opt : Int) (Prot : Nat → S → Int → Prop)
    (hD : cfg.dom = some D) (hcache : cfg.useCache = false) (hNV : NvBound cfg.P) (hP : Protected D cfg.P H opt Prot)
    (B : Int) (hB : NoClamp cfg.P cfg.R cfg.root.value B) (p0 : List Dec) (cache : Cache S) (τ : Nat → DomStore S K) (polls : Nat)
    (hroot : Reach cfg.P cfg.root.depth cfg.root.state cfg.root.value p0)
    (hτ : ∀ k, StoreReach D cfg.P (τ k) ∧ (τ k).layers.length = cfg.P.nbVars + 1)
    (hok : (compileOp cfg cache τ polls).1 = .ok) : Ended cfg (FilterOk Prot) B p0 (finOp cfg cache τ polls) :=
  ⟨⟨_, _, _, compileOp_chain cfg D H opt Prot hD hcache hNV hP B hB p0 cache τ polls hroot hτ⟩,
    (compileOp_inv cfg B p0 hB hroot cache τ polls).2.2.1 hok⟩

/-- **whatever the oracle** (ANY stores, even ill-formed ones), every item an operation-wise compilation of an exactly reached
    root presents to the shared store is an exactly reached item -/
theorem compileOp_ops_reached (cfg : Cfg S K) (B : Int) (p0 : List Dec) (hB : NoClamp cfg.P cfg.R cfg.root.value B)
    (hroot : Reach cfg.P cfg.root.depth cfg.root.state cfg.root.value p0)
    (cache : Cache S) (τ : Nat → DomStore S K) (polls : Nat) :
    ∀ op ∈ (compileOp cfg cache τ polls).2.2, OpReached cfg.P op :=
  (compileOp_inv cfg B p0 hB hroot cache τ polls).2.2.2

end Ddo.ParDom

namespace Ddo.ParDom
open Ddo Ddo.Truth Ddo.Closed Ddo.C10
open Ddo.C01 (SolverCfg WellFormed toOut SolOf)
variable {S K : Type} [DecidableEq S] [DecidableEq K]

theorem stepLayerO_ok (cfg : Cfg S K) (D : DomRule S K) (hD : cfg.dom = some D) (B : Int) (p0 : List Dec)
    (hc : cfg.useCache = false) (hW : 1 ≤ cfg.width)
    (τ : Nat → DomStore S K) (hτ : ∀ k, StoreReach D cfg.P (τ k) ∧ (τ k).layers.length = cfg.P.nbVars + 1)
    (dd : DD S K) (k : Nat) (ops : List (Op S)) (var : Nat)
    (hM : MInv cfg B p0 dd) (hdepth : dd.depth = cfg.root.depth + dd.layers.length) (hlt : dd.depth < cfg.P.nbVars)
    (hJ : dd.layers = [] → dd.next.length ≤ 1) :
    ∃ x oc, stepLayerO cfg τ dd k ops var = (some x, oc) ∧ oc ≠ .crash := by
  cases hne : dd.next.isEmpty with
  | true => exact ⟨_, _, stepLayerO_empty cfg τ dd k ops var hne, by decide⟩
  | false =>
    rw [stepLayerO_unfold cfg τ dd k ops var hne, fcOf_id cfg hc dd]
    have f3 := (filterDomO_spec cfg D hD cfg.P τ (fun j => (hτ j).1) cfg.P.nbVars (fun j => (hτ j).2) k dd.next
      (List.range dd.next.length) (fun p hp => List.mem_range.mp hp) (by
        intro m hm he
        obtain ⟨_, _, _, hd, _⟩ := hM.next m hm he
        rw [hd, ← hdepth]; exact Nat.le_of_lt hlt)).2.2.1
    have f2 := filterDomO_keep_len cfg D hD τ k dd.next (List.range dd.next.length)
    rw [List.length_range] at f2
    generalize filterDomO cfg τ k dd.next (List.range dd.next.length) = r at f3 f2
    fun_cases stepTailO cfg dd ops var (dd.next, List.range dd.next.length) r
    case case1 h => rw [f3] at h; cases h
    case case2 _ hsq => exact absurd hsq (squash_ne_none_gen cfg dd _ _ hW (fun hl => Nat.le_trans f2 (hJ hl)))
    case case3 => exact ⟨_, _, rfl, by decide⟩

theorem buildLoopO_no_crash (cfg : Cfg S K) (D : DomRule S K) (hD : cfg.dom = some D) (B : Int) (p0 : List Dec)
    (hc : cfg.useCache = false) (hW : 1 ≤ cfg.width) (hNV : NvBound cfg.P)
    (hB : NoClamp cfg.P cfg.R cfg.root.value B)
    (τ : Nat → DomStore S K) (hτ : ∀ k, StoreReach D cfg.P (τ k) ∧ (τ k).layers.length = cfg.P.nbVars + 1)
    (fuel : Nat) (dd : DD S K) (k : Nat) (ops : List (Op S)) (hM : MInv cfg B p0 dd)
    (hdepth : dd.depth = cfg.root.depth + dd.layers.length) (hJ : dd.layers = [] → dd.next.length ≤ 1)
    (h1 : dd.depth ≤ cfg.P.nbVars) (h2 : cfg.P.nbVars + 1 ≤ dd.depth + fuel) :
    (buildLoopO cfg τ fuel dd k ops).2 = .ok := by
  fun_induction buildLoopO cfg τ fuel dd k ops with
  | case1 => exact absurd (Nat.le_trans h2 h1) (Nat.not_succ_le_self _)
  | case2 => rfl
  | case3 fuel dd k ops var hnv oc hs =>
    obtain ⟨x, oc', e, _⟩ := stepLayerO_ok cfg D hD B p0 hc hW τ hτ (tick dd var) k ops var (hM.congr rfl rfl) hdepth
      (nv_depth_lt hNV hnv) hJ
    rw [hs] at e; cases e
  | case4 => rfl
  | case5 fuel dd k ops var hnv dd' k' ops' hs =>
    obtain ⟨x, oc', e, hne⟩ := stepLayerO_ok cfg D hD B p0 hc hW τ hτ (tick dd var) k ops var (hM.congr rfl rfl) hdepth
      (nv_depth_lt hNV hnv) hJ
    rw [hs] at e; cases e
    exact absurd rfl hne
  | case6 fuel dd k ops var hnv dd' k' ops' hs ih =>
    have hlt : dd.depth < cfg.P.nbVars := nv_depth_lt hNV hnv
    obtain ⟨m1, m2, _⟩ := stepLayerO_inv cfg B p0 hB τ (tick dd var) k ops var (hM.congr rfl rfl) hdepth hnv
      (Nat.le_trans (len_le_depth hdepth) (Nat.le_of_lt (Nat.lt_succ_of_lt hlt))) dd' k' ops' .ok hs
    obtain ⟨m2a, m2b⟩ := m2 rfl
    have m2b' : dd'.layers.length = dd.layers.length + 1 := m2b
    have hd : dd'.depth = dd.depth + 1 := by rw [m2a, m2b', hdepth]; rfl
    exact ih m1 m2a (fun h => by rw [h] at m2b'; cases m2b') (by rw [hd]; exact hlt)
      (by rw [hd, Nat.add_right_comm]; exact h2)

/-- **no crash, operation-wise**: a compilation without cache, of width ≥ 1, of a sub-problem reached exactly, each
    `is_dominated_or_insert` of which is answered by any store of `nb_variables + 1` layers of exactly reached items, ends
    normally -/
theorem compileOp_no_crash (cfg : Cfg S K) (D : DomRule S K) (hD : cfg.dom = some D) (B : Int) (p0 : List Dec)
    (cache : Cache S) (τ : Nat → DomStore S K) (polls : Nat)
    (hc : cfg.useCache = false) (hW : 1 ≤ cfg.width) (hNV : NvBound cfg.P)
    (hB : NoClamp cfg.P cfg.R cfg.root.value B)
    (hroot : Reach cfg.P cfg.root.depth cfg.root.state cfg.root.value p0)
    (hτ : ∀ k, StoreReach D cfg.P (τ k) ∧ (τ k).layers.length = cfg.P.nbVars + 1) :
    (compileOp cfg cache τ polls).1 = .ok := by
  rw [compileOp_outcome]
  exact buildLoopO_no_crash cfg D hD B p0 hc hW hNV hB τ hτ _ _ 0 []
    (initDD_inv cfg B p0 hB hroot cache (τ 0) polls) rfl (fun _ => Nat.le_refl 1) (reach_depth_le hNV hroot)
    (Nat.le_trans (Nat.le_succ _) (Nat.le_add_left _ _))

end Ddo.ParDom

namespace Ddo.ParDom
open Ddo Ddo.Truth Ddo.Closed Ddo.ParSys Ddo.ParClosed Ddo.C10
open Ddo.C01 (SolverCfg WellFormed toOut SolOf)
variable {S K : Type} [DecidableEq S] [DecidableEq K]

theorem ansOk_Op {dv : DSolverCfg S K} {H : Nat → S → EInt} {B0 B opt : Int} {Prot : Nat → S → Int → Prop}
    (hwf : WellFormed dv.sv H B0 B) (hopt : (H 0 dv.sv.P.init).addI dv.sv.P.initVal = some opt)
    (hPr : Protected dv.D dv.sv.P H opt Prot) : AnsOk dv B opt Prot (okROp dv) (okXOp dv) := by
  have hE : ∀ (ct : CompType) (n : SubP S) (lb : Int) (o : DDOut S) (p0 : List Dec) (τ : Nat → DomStore S K),
      Reach dv.sv.P n.depth n.state n.value p0 → GoodStores dv τ →
      (compileOp (dv.cfg ct n lb) (Cache.init dv.sv.P.nbVars) τ 0).1 = .ok →
      o = toOut (compileOp (dv.cfg ct n lb) (Cache.init dv.sv.P.nbVars) τ 0).2.1 →
      ∃ fin, Ended (dv.cfg ct n lb) (FilterOk Prot) B p0 fin ∧ o = toOut (resultOf (dv.cfg ct n lb) fin) :=
    fun ct n lb o p0 τ hroot hτ hok ho => ⟨_, compileOp_ended (dv.cfg ct n lb) dv.D H opt Prot rfl rfl hwf.nv hPr B
      (hwf.bound.noClamp_at hwf.nv hroot) p0 _ τ 0 hroot hτ hok, by rw [ho, compileOp_result]⟩
  have hA : ∀ (ct : CompType) (n : SubP S) (lb : Int), C01.NodeOk dv.sv.P n →
      (compileOp (dv.cfg ct n lb) (Cache.init dv.sv.P.nbVars) (fun _ => DomStore.init dv.sv.P.nbVars) 0).1 = .ok :=
    fun ct n lb ⟨p0, hroot, _⟩ => compileOp_no_crash (dv.cfg ct n lb) dv.D rfl B p0 _ _ 0 rfl (hwf.width n) hwf.nv
      (hwf.bound.noClamp_at hwf.nv hroot) hroot (goodStores_const dv)
  exact ansOk_built hwf hopt hPr
    (fun n lb o p0 hroot ⟨τ, hτ, hok, ho⟩ => hE .restricted n lb o p0 τ hroot hτ hok ho)
    (fun n lb o p0 hroot ⟨τ, hτ, hok, ho⟩ => hE .relaxed n lb o p0 τ hroot hτ hok ho)
    (fun n lb hn => ⟨_, _, goodStores_const dv, hA .restricted n lb hn, rfl⟩)
    (fun n lb hn => ⟨_, _, goodStores_const dv, hA .relaxed n lb hn, rfl⟩)

theorem perOpObligation_holds {dv : DSolverCfg S K} {H : Nat → S → EInt} {B0 B opt : Int} {Prot : Nat → S → Int → Prop}
    (hwf : WellFormed dv.sv H B0 B) (hopt : (H 0 dv.sv.P.init).addI dv.sv.P.initVal = some opt)
    (hPr : Protected dv.D dv.sv.P H opt Prot) : PerOpObligation dv B opt Prot := by
  refine ⟨ansOk_Op hwf hopt hPr, fun ct N lb τ hn _ => ?_⟩
  obtain ⟨p0, hroot, _⟩ := hn
  exact compileOp_ops_reached (dv.cfg ct N lb) B p0 (hwf.bound.noClamp_at hwf.nv hroot) hroot _ τ 0

end Ddo.ParDom
