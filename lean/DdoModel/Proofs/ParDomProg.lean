import DdoModel.Proofs.ParDomLSysDefs
import DdoModel.Proofs.ParDomClosed
/-! # Systems that carry, per worker, the progress of the compilation it is in (`ParDomLSysDefs`, `ParDomOSysDefs`): the frame

Whatever the type `α` of the progress records (a diagram between two layers, a position inside the filter loop of a layer):
`PInv dv R ws prog` — a worker outside a compilation has no record, a worker inside the compilation `cfg` has one that is reachable
(`R cfg`); it holds initially (`PInv.init`), a critical section leaves it alone (`sec_frame`, `PInv.sec`), a step of a compilation
updates one record (`PInv.update`, `PInv.set`), the end of a compilation removes it (`PInv.finish`).  `comp_gstep`: a worker that
goes on with an answer of its compilation takes a step of the store-abstracted system. -/
set_option linter.unusedSectionVars false
set_option linter.unusedVariables false
namespace Ddo.ParDom
open Ddo Ddo.Truth Ddo.Closed Ddo.ParSys Ddo.ParClosed Ddo.C10
open Ddo.C01 (SolverCfg WellFormed toOut SolOf)
variable {S K : Type} [DecidableEq S] [DecidableEq K]

theorem fuel_left {n N : Nat} (h : n ≤ N + 1) : ∃ k, n + (k + 1) = N + 2 := ⟨N + 1 - n, by omega⟩

/-- what holds of the progress records `prog` of the workers `ws`, for compilations whose progress is of type `α` and reachable
    progress `R cfg`: a worker outside a compilation has none, a worker inside the compilation `cfg` has a reachable one -/
structure PInv {α : Type} (dv : DSolverCfg S K) (R : Cfg S K → α → Prop) (ws : List (WSt S)) (prog : List (Option α)) :
    Prop where
  len : prog.length = ws.length
  idle : ∀ (i : Nat) (w : WSt S), ws[i]? = some w → cfgOf dv w = none → prog[i]? = some none
  reach : ∀ (i : Nat) (w : WSt S) (cfg : Cfg S K) (a : α), ws[i]? = some w → cfgOf dv w = some cfg →
    prog[i]? = some (some a) → R cfg a

theorem cfgOf_some {dv : DSolverCfg S K} {w : WSt S} {cfg : Cfg S K} (h : cfgOf dv w = some cfg) :
    ∃ ct n lb, cfg = dv.cfg ct n lb ∧ w.node = some n ∧
      ((w = .compR n lb ∧ ct = .restricted) ∨ (w = .compX n lb ∧ ct = .relaxed)) := by
  cases w <;> first | (cases h; done) | skip
  · rename_i n lb
    injection h with h
    exact ⟨.restricted, n, lb, h.symm, rfl, Or.inl ⟨rfl, rfl⟩⟩
  · rename_i n lb
    injection h with h
    exact ⟨.relaxed, n, lb, h.symm, rfl, Or.inr ⟨rfl, rfl⟩⟩

/-- the compilation a worker is in is that of an exactly reached node -/
theorem cfgOf_nodeOk {dv : DSolverCfg S K} {H : Nat → S → EInt} {B : Int} {okR okX : SubP S → Int → DDOut S → Prop} {s : Sys S}
    (hI : GPCInv dv H okR okX B s) {i : Nat} {w : WSt S} {cfg : Cfg S K} (hw : s.ws[i]? = some w)
    (hc : cfgOf dv w = some cfg) : ∃ ct n lb, cfg = dv.cfg ct n lb ∧ C01.NodeOk dv.sv.P n := by
  obtain ⟨ct, n, lb, e, hnode, _⟩ := cfgOf_some hc
  exact ⟨ct, n, lb, e, (hI.ws w (List.mem_of_getElem? hw)).node n hnode⟩

theorem set_frame {dv : DSolverCfg S K} (ws : List (WSt S)) (i : Nat) (w wn : WSt S) (hw : ws[i]? = some w)
    (h : cfgOf dv w = none) (j : Nat) : (ws.set i wn)[j]? = ws[j]? ∨ ∃ w, ws[j]? = some w ∧ cfgOf dv w = none := by
  by_cases hj : i = j
  · subst hj; exact Or.inr ⟨w, hw, h⟩
  · exact Or.inl (List.getElem?_set_ne hj)

/-- a critical section leaves every worker that is inside a compilation alone -/
theorem sec_frame {dv : DSolverCfg S K} {dedup : Bool} {s t : Sys S}
    (h : Step dedup (fun _ _ _ => False) (fun _ _ _ => False) s t) (hna : NoAbortS t) :
    t.ws.length = s.ws.length ∧ ∀ j : Nat, t.ws[j]? = s.ws[j]? ∨ ∃ w, s.ws[j]? = some w ∧ cfgOf dv w = none := by
  cases h with
  | gwAborted i hw ha => exact ⟨List.length_set, set_frame _ _ _ _ hw rfl⟩
  | gwComplete i hw ha ho hf => exact ⟨List.length_set, set_frame _ _ _ _ hw rfl⟩
  | gwWait i hw ha ho hf => exact ⟨List.length_set, set_frame _ _ _ _ hw rfl⟩
  | gwStarve i N rest c' k hw ha hp hl => exact ⟨rfl, fun _ => Or.inl rfl⟩
  | gwItem i N rest c' nn k c'' hw ha hp hl ht => exact ⟨List.length_set, set_frame _ _ _ _ hw rfl⟩
  | gwCrash i N rest c' nn k hw ha hp hl ht => exact ⟨List.length_set, set_frame _ _ _ _ hw rfl⟩
  | readLbR i n hw => exact ⟨List.length_set, set_frame _ _ _ _ hw rfl⟩
  | compileR i n lb r hw hok =>
    cases r with
    | ok o => exact (hok o rfl).elim
    | cutoff => exact (hna _ (List.mem_of_getElem? (get_set_self hw)) n rfl).elim
  | updateR i n lb o hw => exact ⟨List.length_set, set_frame _ _ _ _ hw rfl⟩
  | readLbX i n hw => exact ⟨List.length_set, set_frame _ _ _ _ hw rfl⟩
  | compileX i n lb r hw hok =>
    cases r with
    | ok o => exact (hok o rfl).elim
    | cutoff => exact (hna _ (List.mem_of_getElem? (get_set_self hw)) n rfl).elim
  | updateX i n lb o hw => exact ⟨List.length_set, set_frame _ _ _ _ hw rfl⟩
  | enqueue i n lb o hw => exact ⟨List.length_set, set_frame _ _ _ _ hw rfl⟩
  | abort i n top hw htop => exact ⟨List.length_set, set_frame _ _ _ _ hw rfl⟩
  | notify i n te c' hw hn =>
    refine ⟨by simp, fun j => ?_⟩
    by_cases hj : i = j
    · subst hj; exact Or.inr ⟨_, hw, rfl⟩
    · show ((s.ws.map WSt.wake).set i _)[j]? = _ ∨ _
      rw [List.getElem?_set_ne hj, List.getElem?_map]
      cases hwj : s.ws[j]? with
      | none => exact Or.inl rfl
      | some w =>
        by_cases hwt : w = .waiting
        · subst hwt; exact Or.inr ⟨_, rfl, rfl⟩
        · refine Or.inl ?_
          cases w <;> first | rfl | exact (hwt rfl).elim

section pinv
variable {α : Type} {dv : DSolverCfg S K} {R : Cfg S K → α → Prop}

theorem PInv.init (U : Nat) : PInv dv R (List.replicate U (WSt.idle : WSt S)) (List.replicate U none) := by
  refine ⟨by simp, fun i w hw _ => ?_, fun i w cfg a _ _ hp => ?_⟩
  · rw [List.getElem?_replicate] at hw ⊢
    split at hw
    · rename_i hlt; rw [if_pos hlt]
    · cases hw
  · rw [List.getElem?_replicate] at hp
    split at hp <;> cases hp

theorem PInv.sec {dedup : Bool} {s t : Sys S} {prog : List (Option α)} (hP : PInv dv R s.ws prog)
    (h : Step dedup (fun _ _ _ => False) (fun _ _ _ => False) s t) (hna : NoAbortS t) : PInv dv R t.ws prog := by
  obtain ⟨f1, f2⟩ := sec_frame (dv := dv) h hna
  refine ⟨hP.len.trans f1.symm, fun j w hw hc => ?_, fun j w cfg a hw hc hp => ?_⟩
  · rcases f2 j with e | ⟨w0, e, hc0⟩
    · exact hP.idle j w (e ▸ hw) hc
    · exact hP.idle j w0 e hc0
  · rcases f2 j with e | ⟨w0, e, hc0⟩
    · exact hP.reach j w cfg a (e ▸ hw) hc hp
    · rw [hP.idle j w0 e hc0] at hp; cases hp

theorem PInv.update {ws : List (WSt S)} {prog : List (Option α)} (hP : PInv dv R ws prog) {i : Nat} {w : WSt S}
    {a0 : Option α} (hw : ws[i]? = some w) (hp : prog[i]? = some a0) (w' : WSt S) (a' : Option α)
    (hidle : cfgOf dv w' = none → a' = none) (hreach : ∀ cfg a, cfgOf dv w' = some cfg → a' = some a → R cfg a) :
    PInv dv R (ws.set i w') (prog.set i a') := by
  refine ⟨by rw [List.length_set, List.length_set]; exact hP.len, fun j w0 hw0 hc0 => ?_, fun j w0 cfg0 a1 hw0 hc0 hp0 => ?_⟩
  · rcases get_set_split hw0 with ⟨rfl, rfl⟩ | ⟨hne, hw0⟩
    · rw [get_set_self hp, hidle hc0]
    · rw [List.getElem?_set_ne (Ne.symm hne)]
      exact hP.idle j w0 hw0 hc0
  · rcases get_set_split hw0 with ⟨rfl, rfl⟩ | ⟨hne, hw0⟩
    · rw [get_set_self hp] at hp0
      exact hreach cfg0 a1 hc0 (Option.some.inj hp0)
    · rw [List.getElem?_set_ne (Ne.symm hne)] at hp0
      exact hP.reach j w0 cfg0 a1 hw0 hc0 hp0

/-- the worker `i`, inside the compilation `cfg`, moves on to a reachable progress -/
theorem PInv.set {ws : List (WSt S)} {prog : List (Option α)} (hP : PInv dv R ws prog) {i : Nat} {w : WSt S} {cfg : Cfg S K}
    {a0 : Option α} {a : α} (hw : ws[i]? = some w) (hc : cfgOf dv w = some cfg) (hp : prog[i]? = some a0) (hr : R cfg a) :
    PInv dv R ws (prog.set i (some a)) := by
  have h := hP.update hw hp w (some a) (fun h => by rw [hc] at h; cases h)
    (fun cfg' a' hc' e => by rw [hc] at hc'; cases hc'; cases e; exact hr)
  rwa [set_idle_self hw] at h

theorem PInv.finish {ws : List (WSt S)} {prog : List (Option α)} (hP : PInv dv R ws prog) {i : Nat} {w : WSt S}
    {a0 : Option α} (hw : ws[i]? = some w) (hp : prog[i]? = some a0) (w' : WSt S) :
    PInv dv R (ws.set i w') (prog.set i none) :=
  hP.update hw hp w' none (fun _ => rfl) (fun _ _ _ e => nomatch e)

end pinv

/-- a worker inside the compilation `cfg` that goes on with an answer `o` of that compilation takes a step of the projection -/
theorem comp_gstep {dv : DSolverCfg S K} {H : Nat → S → EInt} {B opt : Int} {Prot : Nat → S → Int → Prop}
    {okR okX : SubP S → Int → DDOut S → Prop} {sys : Sys S} (hI : GAll dv H okR okX B opt Prot sys)
    {i : Nat} {w : WSt S} {cfg : Cfg S K} {o : DDOut S} (hw : sys.ws[i]? = some w) (hc : cfgOf dv w = some cfg)
    (hans : ∀ ct n lb, cfg = dv.cfg ct n lb → C01.NodeOk dv.sv.P n →
      (ct = .restricted → okR n lb o) ∧ (ct = .relaxed → okX n lb o)) :
    GStep dv.sv.dedup okR okX sys { crit := sys.crit, ws := sys.ws.set i (afterComp o w) } := by
  obtain ⟨ct, n, lb, rfl, hnode, hcase⟩ := cfgOf_some hc
  obtain ⟨hR, hX⟩ := hans ct n lb rfl ((hI.pc.ws w (List.mem_of_getElem? hw)).node n hnode)
  refine ⟨?_, fun w0 hw0 m => ?_⟩
  · rcases hcase with ⟨rfl, rfl⟩ | ⟨rfl, rfl⟩
    · exact StepG.compileR _ i n lb (.ok o) hw (fun o' ho => by injection ho with ho; subst ho; exact hR rfl)
    · exact StepG.compileX _ i n lb (.ok o) hw (fun o' ho => by injection ho with ho; subst ho; exact hX rfl)
  · rcases List.mem_or_eq_of_mem_set hw0 with h' | h'
    · exact (hI.noCut.2 w0 h' m).1
    · rw [h']; rcases hcase with ⟨rfl, _⟩ | ⟨rfl, _⟩ <;> simp [afterComp]

end Ddo.ParDom
