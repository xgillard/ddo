import DdoModel.Basic
/-! Model of the default method `Solver::gap` (`ddo/src/abstraction/solver.rs`).
    The `f32` result is modelled by the exact fraction `num / den` (`nan` = IEEE NaN);
    the rounding of `as f32` and of `/` is not modelled here: `GapFloat.lean` models it bit for bit (`gapF`). -/
namespace Ddo

inductive Gap | one | nan | frac (num den : Int)
deriving DecidableEq, Repr

/-- the formula of the pinned commit (before `fix:` D1): `(u − l) / u` with
    `u = max |ub| |lb|`, `l = min |ub| |lb|`, `0/0 = NaN`.  Kept for the negation witnesses. -/
def gapOld (lb ub : Int) : Gap :=
  if ub = iMax ∨ lb = iMin then .one
  else
    let u : Int := max ub.natAbs lb.natAbs
    let l : Int := min ub.natAbs lb.natAbs
    if u = 0 then .nan else .frac (u - l) u

/-- the code as it is now: sentinel ⇒ 1; equal bounds ⇒ 0; otherwise `|ub − lb| / max |ub| |lb|`
    (`abs_diff`, `unsigned_abs`: no overflow). -/
def gap (lb ub : Int) : Gap :=
  if ub = iMax ∨ lb = iMin then .one
  else if ub = lb then .frac 0 1
  else .frac ((ub - lb).natAbs) (max ub.natAbs lb.natAbs)

/-- An `f32` that is not NaN/∞, given exactly as `(-1)^neg · mant · 2^exp`. -/
structure F32 where
  neg : Bool
  mant : Nat
  exp : Int
deriving Repr

inductive FOut | nan | inf (neg : Bool) | fin (f : F32)
deriving Repr

def F32.isZero (f : F32) : Bool := f.mant == 0
/-- `f ≤ 1` -/
def F32.leOne (f : F32) : Bool :=
  f.neg || (if f.exp ≥ 0 then f.mant * 2 ^ f.exp.toNat ≤ 1 else f.mant ≤ 2 ^ (-f.exp).toNat)
def F32.eqOne (f : F32) : Bool :=
  !f.neg && (if f.exp ≥ 0 then f.mant * 2 ^ f.exp.toNat == 1 else f.mant == 2 ^ (-f.exp).toNat)
def F32.nonneg (f : F32) : Bool := !f.neg || f.mant == 0

/-- the property predicate of C17 evaluated on an observed output, for `lb ≤ ub` -/
def phiGap (lb ub : Int) (o : FOut) : Bool :=
  match o with
  | .nan => false
  | .inf _ => false
  | .fin f =>
    f.nonneg
    && (if ub = iMax ∨ lb = iMin then f.eqOne else true)
    && (if ub ≠ iMax ∧ lb ≠ iMin then (f.isZero == decide (lb = ub)) else true)
    && (if (0 ≤ lb ∧ 0 ≤ ub) ∨ (lb ≤ 0 ∧ ub ≤ 0) then f.leOne else true)

/-- `|f − num/den| ≤ 2^-20 · num/den` (three roundings of relative error `2^-24` each) -/
def closeTo (f : F32) (num den : Int) : Bool :=
  if f.neg && f.mant != 0 then false else
  -- compare f.mant * 2^exp * den  with num
  let (a, b) : Int × Int :=
    if f.exp ≥ 0 then ((f.mant : Int) * 2 ^ f.exp.toNat * den, num)
    else ((f.mant : Int) * den, num * 2 ^ (-f.exp).toNat)
  (a - b).natAbs * 2 ^ 20 ≤ b.natAbs

def gapAgrees (g : Gap) (o : FOut) : Bool :=
  match g, o with
  | .nan, .nan => true
  | .one, .fin f => f.eqOne
  | .frac n d, .fin f => closeTo f n d
  | _, _ => false

end Ddo
