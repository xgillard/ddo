import DdoModel.Props.C01
/-! # C05 (sequential part) — bounds stay sound when the search is cut off at any point
    # C19 — sequential anytime behaviour is monotone in the cutoff point

The cutoff can only fire inside a compilation (`DDRes.cutoff`), i.e. while a popped node `N` is
being processed; `abort_search` then leaves `best_lb` and `best_ub` as they are.
`best_ub` is the **running minimum** of the bounds of the popped nodes (`get_workload`:
`best_ub = best_ub.min(nn.ub)`, `SeqSt.afterPop`): `enqueue_cutset` does not cap the bound of a cut-set node by the
bound of its parent (repair of finding D14), so the bounds of the popped nodes themselves may rise
(`Ddo.C09.Layered.Rise`).  On top of the coverage invariant of C01: the fringe
pops a maximum, so every node left in the fringe has `ub ≤ N.ub` (`Below`), and a node's bound is
valid for its own completions (`Inv.ubOk`); hence `opt ≤ N.ub` at every pop of a node that is not
pruned (`bounds_at_pop`), and the minimum of bounds that were all `≥ opt` is `≥ opt` (`RepOk`,
`repOk_pop`, `repOk_update`).  Hence, at whichever poll the cutoff fires, `best_lb ≤ opt ≤ best_ub`
(`cutoff_bounds_restricted`, `cutoff_bounds_relaxed`), for every instance and every `k`.
Monotonicity (C19): the incumbent never decreases (`process_lb_mono`); `best_ub` is only written at
a pop, by a minimum (`afterPop_ub_le`), and never by `process_one_node` (`process_ub_eq`), so it
never increases.  The parallel part of C05 is in `Props/C03b.lean`. -/
set_option linter.unusedSectionVars false
namespace Ddo.C05
variable {S : Type} [DecidableEq S]

def Below (fr : List (SubP S)) (N : SubP S) : Prop := ∀ c ∈ fr, c.ub ≤ N.ub

section
variable (Phi : SubP S → EInt) (opt : Int) (Sol : List Dec → Int → Prop)

/-- bounds while `N` is in hand and nothing of it has been compiled yet -/
theorem bounds_at_pop (fr : List (SubP S)) (lb : Int) (sol : Option (List Dec)) (N : SubP S)
    (hinv : Inv Phi opt Sol (N :: fr) lb sol) (hmax : Below fr N) (hlbub : lb ≤ N.ub) :
    lb ≤ opt ∧ opt ≤ N.ub := by
  refine ⟨hinv.lbOk, ?_⟩
  by_cases hgt : opt > lb
  · obtain ⟨c, hc, _, h2⟩ := hinv.cover hgt
    rcases List.mem_cons.mp hc with e | e
    · subst e; exact h2
    · exact Int.le_trans h2 (hmax c e)
  · exact Int.le_trans (Int.not_lt.mp hgt) hlbub

theorem update_le_ub (st : SeqSt S) (N : SubP S) (lb0 : Int) (o : DDOut S)
    (hN : UbOk Phi st.bestLb N) (hok : CompileOk Phi opt Sol N lb0 o) (hlbub : st.bestLb ≤ N.ub) :
    (st.updateBest o).bestLb ≤ N.ub := by
  rcases updateBest_cases st o with ⟨_, e⟩ | ⟨w, hb, hw, e⟩ <;> rw [e]
  · exact hlbub
  · obtain ⟨x, hx, hwx⟩ := hok.within w hb
    exact Int.le_trans hwx (hN x hx (Int.lt_of_lt_of_le hw hwx))

def RepOk (st : SeqSt S) : Prop := st.bestLb ≤ st.bestUb ∧ opt ≤ st.bestUb

/-- **the running minimum stays sound at a best-first pop**: `ub0` is the bound reported before the pop (sound), `N` the
    popped node (a maximum of the fringe, not pruned), `best_ub = min ub0 N.ub` afterwards -/
theorem repOk_pop (st : SeqSt S) (N : SubP S) (ub0 : Int)
    (hinv : Inv Phi opt Sol (N :: st.fringe) st.bestLb st.bestSol) (hmax : Below st.fringe N)
    (hub : st.bestUb = min ub0 N.ub) (h0 : st.bestLb ≤ ub0 ∧ opt ≤ ub0) (hnp : ¬ N.ub ≤ st.bestLb) :
    RepOk opt st := by
  have hlt := Int.le_of_lt (Int.not_le.mp hnp)
  have hb := bounds_at_pop Phi opt Sol st.fringe st.bestLb st.bestSol N hinv hmax hlt
  unfold RepOk
  rw [hub]
  exact ⟨Int.le_min.mpr ⟨h0.1, hlt⟩, Int.le_min.mpr ⟨h0.2, hb.2⟩⟩

theorem repOk_update (st : SeqSt S) (o : DDOut S) (h : RepOk opt st) (hlb : (st.updateBest o).bestLb ≤ opt) :
    RepOk opt (st.updateBest o) := by
  unfold RepOk
  rw [(updateBest_fringe st o).2.1]
  exact ⟨Int.le_trans hlb h.2, h.2⟩

/-- **`cutoff_bounds_restricted`**: the cutoff fires during the restricted compilation of `N`; `best_ub` is the running
    minimum `min ub0 N.ub`, `ub0` = what was reported before `N` was popped -/
theorem cutoff_bounds_restricted (st : SeqSt S) (N : SubP S) (x : DDRes S) (ub0 : Int)
    (hinv : Inv Phi opt Sol (N :: st.fringe) st.bestLb st.bestSol) (hmax : Below st.fringe N)
    (hub : st.bestUb = min ub0 N.ub) (h0 : st.bestLb ≤ ub0 ∧ opt ≤ ub0) (hnp : ¬ N.ub ≤ st.bestLb) :
    let st' := (st.process false N true .cutoff x).1
    st'.abort = true ∧ st'.bestLb ≤ opt ∧ opt ≤ st'.bestUb ∧ st'.bestLb ≤ st'.bestUb ∧
      (∀ p, st'.bestSol = some p → Sol p st'.bestLb) := by
  have hr := repOk_pop Phi opt Sol st N ub0 hinv hmax hub h0 hnp
  rw [SeqSt.process_cutR false st N x hnp]
  exact ⟨rfl, hinv.lbOk, hr.2, hr.1, hinv.solOk⟩

/-- **`cutoff_bounds_relaxed`**: the cutoff fires during the relaxed compilation of `N` (after the
    restricted one updated the incumbent) -/
theorem cutoff_bounds_relaxed (st : SeqSt S) (N : SubP S) (r : DDOut S) (ub0 : Int)
    (hinv : Inv Phi opt Sol (N :: st.fringe) st.bestLb st.bestSol) (hmax : Below st.fringe N)
    (hr : CompileOk Phi opt Sol N st.bestLb r) (hre : r.isExact = false)
    (hub : st.bestUb = min ub0 N.ub) (h0 : st.bestLb ≤ ub0 ∧ opt ≤ ub0) (hnp : ¬ N.ub ≤ st.bestLb) :
    let st' := (st.process false N true (.ok r) .cutoff).1
    st'.abort = true ∧ st'.bestLb ≤ opt ∧ opt ≤ st'.bestUb ∧ st'.bestLb ≤ st'.bestUb ∧
      (∀ p, st'.bestSol = some p → Sol p st'.bestLb) := by
  have hrep := repOk_pop Phi opt Sol st N ub0 hinv hmax hub h0 hnp
  obtain ⟨hlb1, hsol1⟩ := updateBest_ok Phi opt Sol st N st.bestLb r hinv.lbOk hinv.solOk hr
  have hrep1 := repOk_update opt st r hrep hlb1
  rw [SeqSt.process_cutX false st N r hnp hre]
  exact ⟨rfl, hlb1, hrep1.2, hrep1.1, hsol1⟩

/-- `is_exact` is reported only by a run that was not aborted: an aborted state never claims exactness -/
theorem aborted_not_exact (st : SeqSt S) (h : st.abort = true) : st.completion.1 = false := by
  simp [SeqSt.completion, h]

end

theorem process_lb_mono (dedup : Bool) (st : SeqSt S) (N : SubP S) (me : Bool) (r x : DDRes S) :
    st.bestLb ≤ (st.process dedup N me r x).1.bestLb :=
  SeqSt.process_frame (st.bestLb ≤ ·.bestLb) dedup st N me r x (Int.le_refl _) (fun _ _ h => h)
    (fun s o h => Int.le_trans h (updateBest_lb_ge s o)) (fun s x0 _ h => (enqueue_fields dedup s x0.cutset).1.symm ▸ h)

theorem process_ub_eq (dedup : Bool) (st : SeqSt S) (N : SubP S) (me : Bool) (r x : DDRes S) :
    (st.process dedup N me r x).1.bestUb = st.bestUb :=
  SeqSt.process_frame (·.bestUb = st.bestUb) dedup st N me r x rfl (fun _ _ h => h)
    (fun s o h => (updateBest_fringe s o).2.1.trans h) (fun s x0 _ h => (enqueue_bestUb dedup s x0.cutset).trans h)

/-- **`turn_ub_le`**: over one turn of the loop (pop, then `process_one_node`) the reported upper bound does not increase -/
theorem turn_ub_le (dedup : Bool) (st : SeqSt S) (rest : List (SubP S)) (N : SubP S) (me : Bool) (r x : DDRes S) :
    (({ st.afterPop N with fringe := rest } : SeqSt S).process dedup N me r x).1.bestUb ≤ st.bestUb := by
  rw [process_ub_eq]
  exact (afterPop_ub_le st N).1

theorem below_after_max_pop (fr : List (SubP S)) (M : SubP S) (hmaxM : ∀ c ∈ fr, c.ub ≤ M.ub) : Below fr M := hmaxM

/-- the last step of an uninterrupted run, `best_ub := best_lb`, does not increase `best_ub`
    as long as the incumbent is below the last popped bound -/
theorem complete_ub_le (st : SeqSt S) (h : st.bestLb ≤ st.bestUb) : st.complete.bestUb ≤ st.bestUb ∧ st.complete.bestUb = st.complete.bestLb := by
  simp [SeqSt.complete, h]

end Ddo.C05
