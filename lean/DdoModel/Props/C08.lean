import DdoModel.Proofs.MddCutset
/-! C08 — the cut-set of a compiled diagram, clauses (i) and (ii).

For a compilation that ends normally (`.ok`), any cache / dominance configuration, both cut-set kinds
(`cfg.kind = .lel` / `.frontier`), and for both results of `compile` (the `must` result `.2.1` and, when
present, the `may` result `.2.2.1`):

* `Ddo.C08.cutset_exact` (i): every sub-problem `c` of the cut-set is exact — reached exactly (`Reach`) at
  `(c.depth, c.state, c.value)` by `p0 ++ q`, where `p0` reaches the root sub-problem and `q` lists the
  decisions of the diagram from its root down to the node, and `c.path = cfg.root.path ++ q.reverse`
  (the path lists the decisions of the diagram last arc first, as `_best_path` collects them).
  Holds for every compilation type (the cut-set of a non-relaxed compilation is empty).
* `Ddo.C08.cutset_progress` (ii): in a relaxed compilation every sub-problem of the cut-set is strictly deeper
  than the sub-problem the diagram was compiled for.
* `Ddo.C08.cutset_empty_of_exact`: the cut-set is empty when no layer was squashed (`lel` unset,
  i.e. `Built.isExactField`).

All three follow from the well-formedness `Ddo.CutWF` of the finalized layers (`Ddo.compile_wf`,
`DdoModel/Proofs/MddCutset.lean`). -/
namespace Ddo.C08
open Ddo
variable {S K : Type} [DecidableEq S] [DecidableEq K]

/-- (i) and (ii) for `finalize` and any `hasEBP` bit; `Ddo.compile_wf` provides `hwf` for
    `b = finalizeLayers (buildLoop …).1` -/
theorem finalize_cutset (cfg : Cfg S K) (p0 : List Dec) (b : Built S K) (hasEBP : Bool)
    (hwf : CutWF cfg p0 b.layers b.lel) (c : SubP S) (hc : c ∈ (finalize cfg b hasEBP).1.cutset) :
    (∃ q, Reach cfg.P c.depth c.state c.value (p0 ++ q) ∧ c.path = cfg.root.path ++ q.reverse) ∧
    (cfg.ctype = .relaxed → cfg.root.depth < c.depth) :=
  finalize_cutset_sound cfg p0 b hasEBP hwf c hc

/-- **C08 (i)**: the sub-problems of the cut-set are exact.  `r` is either result of the compilation; `p0` is
    `cfg.root.path` when the root path happens to be in order, in general a permutation of it. -/
theorem cutset_exact (cfg : Cfg S K) (B : Int) (p0 : List Dec) (cache : Cache S) (store : DomStore S K) (polls : Nat)
    (stopAt : Option Nat)
    (hroot : Reach cfg.P cfg.root.depth cfg.root.state cfg.root.value p0)
    (hB : NoClamp cfg.P cfg.R cfg.root.value B)
    (hok : (compile cfg cache store polls stopAt).1 = .ok) (r : Result S)
    (hr : r = (compile cfg cache store polls stopAt).2.1 ∨ (compile cfg cache store polls stopAt).2.2.1 = some r) :
    ∀ c ∈ r.cutset, ∃ q, Reach cfg.P c.depth c.state c.value (p0 ++ q) ∧ c.path = cfg.root.path ++ q.reverse := by
  obtain ⟨_, e, rfl⟩ := compile_results cfg cache store polls stopAt hok r hr
  intro c hc
  exact (finalize_cutset_sound cfg p0 _ e (compile_wf cfg B p0 hB hroot cache store polls stopAt) c hc).1

/-- **C08 (ii)**: in a relaxed compilation the sub-problems of the cut-set are strictly deeper than the
    root sub-problem of the compilation. -/
theorem cutset_progress (cfg : Cfg S K) (B : Int) (p0 : List Dec) (cache : Cache S) (store : DomStore S K) (polls : Nat)
    (stopAt : Option Nat) (hrel : cfg.ctype = .relaxed)
    (hroot : Reach cfg.P cfg.root.depth cfg.root.state cfg.root.value p0)
    (hB : NoClamp cfg.P cfg.R cfg.root.value B)
    (hok : (compile cfg cache store polls stopAt).1 = .ok) (r : Result S)
    (hr : r = (compile cfg cache store polls stopAt).2.1 ∨ (compile cfg cache store polls stopAt).2.2.1 = some r) :
    ∀ c ∈ r.cutset, cfg.root.depth < c.depth := by
  obtain ⟨_, e, rfl⟩ := compile_results cfg cache store polls stopAt hok r hr
  intro c hc
  exact (finalize_cutset_sound cfg p0 _ e (compile_wf cfg B p0 hB hroot cache store polls stopAt) c hc).2 hrel

theorem cutset_empty_of_exact (cfg : Cfg S K) (B : Int) (p0 : List Dec) (cache : Cache S) (store : DomStore S K)
    (polls : Nat) (stopAt : Option Nat)
    (hroot : Reach cfg.P cfg.root.depth cfg.root.state cfg.root.value p0)
    (hB : NoClamp cfg.P cfg.R cfg.root.value B)
    (hok : (compile cfg cache store polls stopAt).1 = .ok) (r : Result S)
    (hr : r = (compile cfg cache store polls stopAt).2.1 ∨ (compile cfg cache store polls stopAt).2.2.1 = some r)
    (hlel : (compile cfg cache store polls stopAt).2.2.2.lel = none) : r.cutset = [] := by
  obtain ⟨hdd, e, rfl⟩ := compile_results cfg cache store polls stopAt hok r hr
  rw [hdd] at hlel
  refine finalize_cutset_nil cfg p0 _ e (compile_wf cfg B p0 hB hroot cache store polls stopAt) ?_
  rw [finalizeLayers_lel, hlel, Option.getD_none]
  exact Nat.le_refl _

end Ddo.C08
