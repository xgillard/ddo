import DdoModel.Props.C09b
/-! Non-vacuity of the threshold theorems of `Props/C09b.lean` on the tiny model of `Props/C06.lean`: a relaxed compilation that emits thresholds. -/
set_option linter.unusedSectionVars false
set_option linter.unusedVariables false
namespace Ddo.C09
open Ddo Ddo.Theta
variable {S K : Type} [DecidableEq S] [DecidableEq K]

namespace Example
open Ddo.C06

/-- the tiny model of C06 (three binary variables, cost = value, rough bound 3), width 3: no merge, an exact diagram -/
def cfgW : Cfg Int Unit := { Tiny.cfg with width := 3 }

/-- the diagram records the non-trivial threshold `(state 1, depth 2) ↦ (2, explored)`: the node has value `1`, the
    threshold is `2` — a sub-problem reaching one `1` after two variables with value `2` is still useless against the
    incumbent `3` found by the diagram (`2 + H 2 1 = 3`) -/
theorem cfgW_run : ((1 : Int), 2, (2 : Int), true) ∈
      (compile cfgW (Cache.init 3) (DomStore.init 3) 0 none).2.1.cacheUpdates ∧
    (compile cfgW (Cache.init 3) (DomStore.init 3) 0 none).2.1.bestExactValue = some 3 := by decide +kernel

example : ((1 : Int), 2, (2 : Int), true) ∈
    (compile cfgW (Cache.init 3) (DomStore.init 3) 0 none).2.1.cacheUpdates := cfgW_run.1

example : (compile cfgW (Cache.init 3) (DomStore.init 3) 0 none).2.1.bestExactValue = some 3 := cfgW_run.2

theorem attMerge : Cover.AttMerge Tiny.prob Tiny.rlx Tiny.H :=
  Cover.attMerge_of_static Tiny.potential (fun _ _ _ _ _ => rfl)

/-- `theta_sound_isolated` applies: every value `v ≤ 2` reaching state `1` at depth `2` has `v + 1 ≤ 3`, the cut-set being
    empty -/
example : ∀ v h, Cover.Within (Cover.Bd 1 (2 - 0)) v → v ≤ 2 → Tiny.H 2 1 = some h →
    v + h ≤ bkOf cfgW.lb (compile cfgW (Cache.init 3) (DomStore.init 3) 0 none).2.1.bestExactValue ∨
    (∃ c ∈ (compile cfgW (Cache.init 3) (DomStore.init 3) 0 none).2.1.cutset, 2 ≤ c.depth ∧
      ∃ y, (Tiny.H c.depth c.state).addI c.value = some y ∧ v + h ≤ y) :=
  (theta_sound_isolated cfgW Tiny.H 1 [] (Cache.init 3) (DomStore.init 3) 0 none rfl rfl rfl (by decide)
    Tiny.potential Tiny.rubOk Tiny.mergeOk attMerge Tiny.noClamp (by decide) Reach.root (by decide) _ (.inl rfl)
    ((1 : Int), 2, (2 : Int), true) cfgW_run.1).2

/-- width 1 (a merge on the third layer, last-exact-layer cut-set `{(0, value 0), (1, value 1)}` at depth 1): the root
    threshold `(state 0, depth 0) ↦ (0, explored)` is justified by the cut-set node of potential `3` -/
theorem tiny_root_update : ((0 : Int), 0, (0 : Int), true) ∈
    (compile Tiny.cfg (Cache.init 3) (DomStore.init 3) 0 none).2.1.cacheUpdates := by decide +kernel

example : ((0 : Int), 0, (0 : Int), true) ∈
    (compile Tiny.cfg (Cache.init 3) (DomStore.init 3) 0 none).2.1.cacheUpdates := tiny_root_update

example : ∀ v h, Cover.Within (Cover.Bd 1 (0 - 0)) v → v ≤ 0 → Tiny.H 0 0 = some h →
    v + h ≤ bkOf Tiny.cfg.lb (compile Tiny.cfg (Cache.init 3) (DomStore.init 3) 0 none).2.1.bestExactValue ∨
    (∃ c ∈ (compile Tiny.cfg (Cache.init 3) (DomStore.init 3) 0 none).2.1.cutset, 0 ≤ c.depth ∧
      ∃ y, (Tiny.H c.depth c.state).addI c.value = some y ∧ v + h ≤ y) :=
  (theta_sound_isolated Tiny.cfg Tiny.H 1 [] (Cache.init 3) (DomStore.init 3) 0 none rfl rfl rfl (by decide)
    Tiny.potential Tiny.rubOk Tiny.mergeOk attMerge Tiny.noClamp (by decide) Reach.root (by decide) _ (.inl rfl)
    ((0 : Int), 0, (0 : Int), true) tiny_root_update).2

end Example

end Ddo.C09
