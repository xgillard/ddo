import DdoModel.Pooled
import DdoModel.Props.C01
/-! # C15 — long arcs (skipped variables) preserve optimum and termination

* The pooled diagram model `Pooled.lean` reproduces the implementation exactly on every explored
  compilation, with and without long arcs (engine `mdd --pooled [--long-arcs]`), and the solver
  tapes with the pooled diagram are validated by the solver model (engine `seq --pooled --long-arcs`,
  with deterministic non-termination detection: a pop cap on the recording fringe).
* Proved on the model, for every input: a pool node that is **not impacted** by the variable of the
  layer is skipped past the layer — it stays in the pool with its state, and its value can only
  grow (`unimpacted_stays_in_pool`); only impacted nodes form the layer (`layer_only_impacted`).
* The solver-level theorems of C01 / C05 are generic in the diagram, so they apply to solvers using the
  pooled diagram *provided it meets the contracts* `CompileOk` / `CutsetOk`.
* Before the repair of D5 (`compilePOld`, see `KNOWN_FINDINGS.txt`) it did **not** meet `CutsetOk` with long arcs: the
  root could be handed out by its own cut-set, and the solvers then did not terminate.  For the repaired code cut-set
  progress is the theorem `Ddo.C08.cutset_progress_pooled` (`Props/C08q.lean`); the statement "both return the optimum"
  is decided in `Props/C15b.lean`. -/
set_option linter.unusedSectionVars false
namespace Ddo.C15
variable {S K : Type} [DecidableEq S] [DecidableEq K]

def Continues (n n' : Node S) : Prop := n'.state = n.state ∧ n.value ≤ n'.value

theorem appendEdge_continues (p c : Node S) (a : Arc) : Continues c (appendEdge p c a) := by
  unfold appendEdge Continues
  simp only
  split
  · next h => exact ⟨rfl, h⟩
  · exact ⟨rfl, Int.le_refl _⟩

theorem branchOn_keeps (cfg : Cfg S K) (par : Node S) (pl pp : Nat) (d : Dec) (nx : List (Node S)) (n : Node S)
    (hn : n ∈ nx) : ∃ n' ∈ branchOn cfg par pl pp d nx, Continues n n' := by
  unfold branchOn
  simp only
  induction nx with
  | nil => cases hn
  | cons m r ih =>
    simp only [branchOn.go]
    split
    · rcases List.mem_cons.mp hn with e | e
      · subst e; exact ⟨_, List.mem_cons_self, appendEdge_continues _ _ _⟩
      · exact ⟨n, List.mem_cons_of_mem _ e, rfl, Int.le_refl _⟩
    · rcases List.mem_cons.mp hn with e | e
      · subst e; exact ⟨n, List.mem_cons_self, rfl, Int.le_refl _⟩
      · obtain ⟨n', hn', hc⟩ := ih e
        exact ⟨n', List.mem_cons_of_mem _ hn', hc⟩

theorem continues_trans {a b c : Node S} (h1 : Continues a b) (h2 : Continues b c) : Continues a c :=
  ⟨h2.1.trans h1.1, Int.le_trans h1.2 h2.2⟩

theorem expandOne_keeps (cfg : Cfg S K) (var lidx : Nat) (ly nx : List (Node S)) (lg : List (Call S)) (p : Nat)
    (n : Node S) (hn : n ∈ nx) : ∃ n' ∈ (expandOne cfg var lidx (ly, nx, lg) p).2.1, Continues n n' := by
  simp only [expandOne]
  split
  · exact ⟨n, hn, rfl, Int.le_refl _⟩
  · next m hm =>
    split
    ·
      have key : ∀ (ds : List Int) (acc : List (Node S) × List (Call S)), (∃ n' ∈ acc.1, Continues n n') →
          ∃ n' ∈ (ds.foldl (fun (acc : List (Node S) × List (Call S)) d =>
              (branchOn cfg { m with rub := cfg.R.rub m.state } lidx p ⟨var, d⟩ acc.1,
               Call.cost m.state (cfg.P.trans m.state ⟨var, d⟩) ⟨var, d⟩ :: Call.trans m.state ⟨var, d⟩ :: acc.2)) acc).1,
            Continues n n' := by
        intro ds
        induction ds with
        | nil => intro acc h; exact h
        | cons d ds ih =>
          intro acc ⟨n1, hn1, hc1⟩
          simp only [List.foldl_cons]
          apply ih
          obtain ⟨n2, hn2, hc2⟩ := branchOn_keeps cfg { m with rub := cfg.R.rub m.state } lidx p ⟨var, d⟩ acc.1 n1 hn1
          exact ⟨n2, hn2, continues_trans hc1 hc2⟩
      exact key _ (nx, _) ⟨n, hn, rfl, Int.le_refl _⟩
    · exact ⟨n, hn, rfl, Int.le_refl _⟩

theorem expandFold_keeps (cfg : Cfg S K) (var lidx : Nat) (cur : List Nat) (acc : List (Node S) × List (Node S) × List (Call S))
    (n : Node S) (hn : ∃ n' ∈ acc.2.1, Continues n n') :
    ∃ n' ∈ (cur.foldl (expandOne cfg var lidx) acc).2.1, Continues n n' := by
  induction cur generalizing acc with
  | nil => exact hn
  | cons p ps ih =>
    simp only [List.foldl_cons]
    apply ih
    obtain ⟨ly, nx, lg⟩ := acc
    obtain ⟨n1, hn1, hc1⟩ := hn
    obtain ⟨n2, hn2, hc2⟩ := expandOne_keeps cfg var lidx ly nx lg p n1 hn1
    exact ⟨n2, hn2, continues_trans hc1 hc2⟩

/-- **`unimpacted_stays_in_pool`**: a pool node whose state is not impacted by the variable of the
    layer is skipped past the layer: after `_move_to_next_layer` + expansion it is still in the pool,
    with the same state and a value that did not decrease -/
theorem unimpacted_stays_in_pool (cfg : Cfg S K) (pd pd' : PD S K) (var : Nat) (n : Node S)
    (hn : n ∈ pd.pool) (himp : cfg.P.impacted var n.state = false) (h : stepLayerP cfg pd var = some pd') :
    ∃ n' ∈ pd'.pool, Continues n n' := by
  have hrest : n ∈ pd.pool.filter (fun n => !cfg.P.impacted var n.state) := List.mem_filter.mpr ⟨hn, by simp [himp]⟩
  unfold stepLayerP at h
  cases hp : prepLayerP cfg pd var with
  | none => rw [hp] at h; cases h
  | some t =>
    obtain ⟨layer, cur, store, ndom, ief, log⟩ := t
    rw [hp] at h
    simp only [Option.some.injEq] at h
    subst h
    exact expandFold_keeps cfg var _ cur (layer, _, log) n ⟨n, hrest, rfl, Int.le_refl _⟩

/-- only impacted pool nodes form the layer (before filtering and squashing) -/
theorem layer_only_impacted (cfg : Cfg S K) (pd : PD S K) (var : Nat) (n : Node S)
    (hn : n ∈ (pd.pool.filter (fun n => cfg.P.impacted var n.state))) : cfg.P.impacted var n.state = true :=
  (List.mem_filter.mp hn).2

end Ddo.C15
