import DdoModel.Proofs.Binary32
import DdoModel.Props.C17
/-! # C17 on the `f32` that `Solver::gap` really returns

`Props/C17.lean` proves the clauses of C17 on the exact fraction.  Here they are proved on `gapF`
(`GapFloat.lean`), the Rust computation with its binary32 arithmetic, for **all** `isize` bounds.

What remains trusted is only: *Rust's `usize as f32` and `f32 / f32` are IEEE-754 binary32
round-to-nearest-even* (`F.ofNat`, `F.div` spell that out, and `Proofs/Binary32.lean` proves that `F.roundAt` is exactly
roundTiesToEven: `roundAt_nearest`, `roundAt_tie_even`, `roundAt_unique`).  The rounding facts the clauses use (monotone, exact on
representable values, sandwich, relative error, doubling) are **proved** for these definitions in `Proofs/Binary32.lean`.

`gapF_pattern` describes the magnitude pattern of the result with one fact per clause.  The clauses are read
off it: `gapF_not_nan`, `gapF_finite`, `gapF_signBit`/`gapF_nonneg`, `gapF_one_of_infinite`, `gapF_zero_iff` (+ the
quantitative `gapF_ge_of_ne`: `≥ 2^-63`), `gapF_le_one_same_sign`, `gapF_le_two`; summary `c17_float`.  Ties to the exact
model and the driver: `gapF_eq_toF`, `gapF_phi`, `gapF_agrees`.
The converse of "1 while a bound is infinite" is false: `gapF_one_finite_witness`. -/
-- `F.mag` of an infinity is `2 ^ 277`, above the default threshold for evaluating powers
set_option exponentiation.threshold 400
namespace Ddo.C17
open Ddo.F

/-! The quotient computed by `gap`: `num = ub.abs_diff(lb)`, `den = max |ub| |lb|` with `1 ≤ num ≤ 2^64`, `1 ≤ den ≤ 2^63`.
`r` is the magnitude pattern of the result: between the patterns of `2^-63` and `2^64`
(no underflow, no overflow), at most the pattern of `1.0` when `num ≤ den` and of `2.0` when `num ≤ 2·den`
(rounding commutes with doubling). -/

/-- the operands of the division, for different finite bounds of the `isize` range -/
theorem gap_operands {lb ub : Int} (hl : InI lb) (hu : InI ub) (_ : ub ≠ iMax) (_ : lb ≠ iMin) (h : ub ≠ lb) :
    1 ≤ (ub - lb).natAbs ∧ (ub - lb).natAbs ≤ 2 ^ 64
      ∧ 1 ≤ max ub.natAbs lb.natAbs ∧ max ub.natAbs lb.natAbs ≤ 2 ^ 63
      ∧ (ub - lb).natAbs ≤ 2 * max ub.natAbs lb.natAbs
      ∧ ((0 ≤ lb ∧ 0 ≤ ub) ∨ (lb ≤ 0 ∧ ub ≤ 0) → (ub - lb).natAbs ≤ max ub.natAbs lb.natAbs) := by
  unfold InI iMin iMax at *
  omega

/-! The three roundings stay within the driver's tolerance `2^-20`: each rounding (`num as f32`, `den as f32`, `/`) lands in the normal range, where round-to-nearest has
relative error `≤ 2^-24`; together `|gapF − num/den| ≤ 2^-20 · num/den`, which is the test `closeTo`
(`gapAgrees`) that the driver applies to the observed `f32`. -/

theorem close_core (n d U va vb G : Int) (hn : 0 ≤ n) (hd : 0 ≤ d) (hU : 0 ≤ U) (hvb : 0 < vb)
    (a1 : -(n * U) ≤ 16777216 * (va - n * U)) (a2 : 16777216 * (va - n * U) ≤ n * U)
    (b1 : -(d * U) ≤ 16777216 * (vb - d * U)) (b2 : 16777216 * (vb - d * U) ≤ d * U)
    (c1 : -(va * U) ≤ 16777216 * (G * vb - va * U)) (c2 : 16777216 * (G * vb - va * U) ≤ va * U) :
    -(n * U) ≤ 1048576 * (G * d - n * U) ∧ 1048576 * (G * d - n * U) ≤ n * U := by
  have hdU : 0 ≤ d * U := Int.mul_nonneg hd hU
  have hnU : 0 ≤ n * U := Int.mul_nonneg hn hU
  have q1 := Int.mul_le_mul_of_nonneg_left a1 hdU
  have q2 := Int.mul_le_mul_of_nonneg_left a2 hdU
  have q3 := Int.mul_le_mul_of_nonneg_left b1 hnU
  have q4 := Int.mul_le_mul_of_nonneg_left b2 hnU
  have q5 := Int.mul_le_mul_of_nonneg_left c1 hd
  have q6 := Int.mul_le_mul_of_nonneg_left c2 hd
  have m1 : 0 ≤ n * U * (d * U) := Int.mul_nonneg hnU hdU
  have g1 : vb * (-(n * U)) ≤ vb * (1048576 * (G * d - n * U)) := by grind
  have g2 : vb * (1048576 * (G * d - n * U)) ≤ vb * (n * U) := by grind
  exact ⟨Int.le_of_mul_le_mul_left g1 hvb, Int.le_of_mul_le_mul_left g2 hvb⟩

/-- a two-sided bound of tolerance `2^-20` with a common positive factor `K` removed, as the test `closeTo` wants it -/
theorem natAbs_scaled_le {z b K : Int} (hK : 0 < K) (hb : 0 ≤ b) (h1 : -(b * K) ≤ 1048576 * (z * K))
    (h2 : 1048576 * (z * K) ≤ b * K) : z.natAbs * 2 ^ 20 ≤ b.natAbs := by
  have a1 : -b ≤ 1048576 * z :=
    Int.le_of_mul_le_mul_right (by rw [Int.neg_mul, Int.mul_assoc]; exact h1) hK
  have a2 : 1048576 * z ≤ b := Int.le_of_mul_le_mul_right (by rw [Int.mul_assoc]; exact h2) hK
  omega

/-- the driver's closeness test follows from the two-sided bound on the magnitude `m · 2^(e+149)`
    (units of `2^-149`; `U = 2^149`) -/
theorem closeTo_of_scaled (m : Nat) (e : Int) (he : -149 ≤ e) (hc : e < 0) (num den U : Nat) (hU : U = 2 ^ 149)
    (h1 : -((num : Int) * U) ≤ 1048576 * (((m * 2 ^ (e + 149).toNat : Nat) : Int) * den - num * U))
    (h2 : 1048576 * (((m * 2 ^ (e + 149).toNat : Nat) : Int) * den - num * U) ≤ (num : Int) * U) :
    closeTo ⟨false, m, e⟩ num den = true := by
  -- `U = 2^(e+149) · 2^(-e)`: both sides of the test are those of the bound divided by `2^(e+149)`
  simp only [closeTo, Bool.false_and, if_neg (Int.not_le.2 hc)]
  rw [if_neg (by decide), decide_eq_true_eq]
  have hJ : (0 : Int) < 2 ^ (e + 149).toNat := Int.pow_pos (by decide)
  have hK : (0 : Int) ≤ 2 ^ (-e).toNat := Int.le_of_lt (Int.pow_pos (by decide))
  rw [show U = 2 ^ (e + 149).toNat * 2 ^ (-e).toNat by rw [hU, ← Nat.pow_add]; congr 1; omega] at h1 h2
  push_cast at h1 h2
  generalize (2 : Int) ^ (e + 149).toNat = J at *
  generalize (2 : Int) ^ (-e).toNat = K at *
  rw [show (m : Int) * J * den - num * (J * K) = (m * den - num * K) * J by
      rw [Int.sub_mul]; congr 1 <;> ac_rfl,
    show (num : Int) * (J * K) = num * K * J by ac_rfl] at h1 h2
  exact natAbs_scaled_le hJ (Int.mul_nonneg (Int.natCast_nonneg _) hK) h1 h2

/-- the quotient `div (ofNat num) (ofNat den)` computed for operands as `gap_operands` gives them: its magnitude pattern `r`
    is at least that of `2^-63`, at most that of `1.0` when `num ≤ den` and of `2.0` when `num ≤ 2·den`, and the three
    roundings together keep `G = val r` within `|G·2^-149 − num/den| ≤ 2^-20 · num/den`
    (multiplied by `den · 2^149`; `U = 2^149`) -/
theorem quot_core {num den : Nat} (h1 : 1 ≤ num) (h2 : num ≤ 2 ^ 64) (h3 : 1 ≤ den) (h4 : den ≤ 2 ^ 63)
    (U : Nat) (hU : U = 2 ^ 149) :
    ∃ r, div (ofNat num) (ofNat den) = decode false r
      ∧ 536870912 ≤ r ∧ (num ≤ den → r ≤ 1065353216) ∧ (num ≤ 2 * den → r ≤ 1073741824)
      ∧ -((num : Int) * U) ≤ 1048576 * ((val r : Int) * den - num * U)
      ∧ 1048576 * ((val r : Int) * den - num * U) ≤ (num : Int) * U := by
  have h5 : den ≤ 2 ^ 64 := Nat.le_trans h4 (by decide)
  obtain ⟨ea, ma⟩ := ofNat_fin h2
  obtain ⟨eb, mb⟩ := ofNat_fin h5
  -- both magnitudes lie in `[2^149, 2^213]` (units of `2^-149`), in the order of `num`, `den`, resp. `num`, `2·den`
  have hva1 := val_le_of_le (one_le_ofNat_bits h1)
  have hva2 := val_le_of_le (ofNat_bits_le_b64 h2)
  have hvb1 := val_le_of_le (one_le_ofNat_bits h3)
  have hvb2 := val_le_of_le (ofNat_bits_le_b63 h4)
  have hmono : num ≤ den → val (roundBits num 1) ≤ val (roundBits den 1) :=
    fun h => val_le_of_le (ofNat_bits_mono h)
  have hdbl : num ≤ 2 * den → val (roundBits num 1) ≤ 2 * val (roundBits den 1) := fun h => by
    have hd : roundBits (2 * den) 1 = roundBits den 1 + 2 ^ 23 := by
      unfold roundBits
      rw [Nat.mul_assoc]
      exact roundAt_double (by decide) (floor_normal_of_ge_one h3)
    have := val_le_of_le (ofNat_bits_mono h)
    rwa [hd, val_double (Nat.le_trans (by decide) (one_le_ofNat_bits h3))] at this
  -- and each is within relative error `2^-24` of its integer
  have A : _ ∧ _ := roundAt_relerr (x := num * 2 ^ 149) (d := 1) (by decide) (floor_normal_of_ge_one h1)
  have B : _ ∧ _ := roundAt_relerr (x := den * 2 ^ 149) (d := 1) (by decide) (floor_normal_of_ge_one h3)
  rw [show roundAt (num * 2 ^ 149) 1 = roundBits num 1 from rfl, ← ma] at A
  rw [show roundAt (den * 2 ^ 149) 1 = roundBits den 1 from rfl, ← mb] at B
  rw [val_oneBits] at hva1 hvb1
  rw [val_b64] at hva2
  rw [val_b63] at hvb2
  rw [← ma] at hva1 hva2 hmono hdbl
  rw [← mb] at hvb1 hvb2 hmono hdbl
  have hdiv : div (ofNat num) (ofNat den) = round false (ofNat num).mag (ofNat den).mag := by
    have hne : (ofNat den).mag ≠ 0 := by omega
    rw [eb] at hne; rw [ea, eb]
    exact div_fin false false _ _ _ _ hne
  rw [hdiv]
  unfold round roundBits
  clear hdiv ea eb ma mb
  generalize (ofNat num).mag = va at *
  generalize (ofNat den).mag = vb at *
  have hvb0 : 0 < vb := Nat.lt_of_lt_of_le (Nat.pow_pos (by decide)) hvb1
  have lo : 536870912 ≤ roundAt (va * 2 ^ 149) vb := by
    apply le_roundAt hvb0; rw [val_bm63]; omega
  have hi : roundAt (va * 2 ^ 149) vb ≤ 1602224128 := by
    apply roundAt_le hvb0; rw [val_b64]; omega
  have hs : num ≤ den → roundAt (va * 2 ^ 149) vb ≤ 1065353216 := fun h => by
    apply roundAt_le hvb0; rw [val_oneBits]
    have := hmono h; omega
  have ht : num ≤ 2 * den → roundAt (va * 2 ^ 149) vb ≤ 1073741824 := fun h => by
    apply roundAt_le hvb0; rw [val_two]
    have := hdbl h; omega
  -- so the quotient is rounded in the normal range too
  have C := roundAt_relerr hvb0 (x := va * 2 ^ 149) (by
    rcases roundAt_cases (va * 2 ^ 149) vb with e | e <;> omega)
  generalize roundAt (va * 2 ^ 149) vb = r at *
  rw [← hU] at A B C
  push_cast at A B C
  simp only [Int.mul_one] at A B
  exact ⟨r, by rw [Nat.min_eq_left (by unfold infBits; omega)], lo, hs, ht,
    close_core num den U va vb (val r) (by omega) (by omega) (by omega) (by omega) A.1 A.2 B.1 B.2 C.1 C.2⟩

theorem lt_infBits {r : Nat} (h : r ≤ 1073741824) : r < infBits := Nat.lt_of_le_of_lt h (by decide)
theorem le_infBits {r : Nat} (h : r ≤ 1073741824) : r ≤ infBits := Nat.le_of_lt (lt_infBits h)

/-- a pattern `r` up to that of `2.0` whose value is within the tolerance of `num/den` passes the driver's closeness test -/
theorem quot_closeTo {num den r : Nat} (hr : r ≤ 1073741824)
    (hc : -((num : Int) * (2 ^ 149 : Nat)) ≤ 1048576 * ((val r : Int) * den - num * (2 ^ 149 : Nat))
      ∧ 1048576 * ((val r : Int) * den - num * (2 ^ 149 : Nat)) ≤ (num : Int) * (2 ^ 149 : Nat)) :
    closeTo ⟨false, mantOf r, expOf r⟩ num den = true := by
  have hm := decode_mag false (le_infBits hr)
  rw [decode_eq_fin _ (lt_infBits hr)] at hm
  simp only [mag] at hm
  apply closeTo_of_scaled _ _ (by unfold expOf; split <;> omega) (by unfold expOf; split <;> omega) _ _ _ rfl
  · rw [hm]; exact hc.1
  · rw [hm]; exact hc.2

theorem one_eq_decode : one = decode false 1065353216 := by decide
theorem zero_eq_decode : zero = decode false 0 := by decide
theorem two_eq_decode : two = decode false 1073741824 := by decide

/-- `gapF` on bounds in the `isize` range is the non-negative float with a magnitude pattern `r` that is at most the
    pattern of `2.0`, at most that of `1.0` for bounds of the same sign, and by the three branches of the code: that of
    `1.0`; `0`; the rounded quotient, at least the pattern of `2^-63` (no underflow) and within the driver's tolerance
    of the exact quotient -/
theorem gapF_pattern (lb ub : Int) (hl : InI lb) (hu : InI ub) :
    ∃ r, gapF lb ub = decode false r ∧ r ≤ 1073741824
      ∧ ((0 ≤ lb ∧ 0 ≤ ub) ∨ (lb ≤ 0 ∧ ub ≤ 0) → r ≤ 1065353216)
      ∧ (ub = iMax ∨ lb = iMin → r = 1065353216)
      ∧ (ub ≠ iMax → lb ≠ iMin → ub = lb → r = 0)
      ∧ (ub ≠ iMax → lb ≠ iMin → ub ≠ lb → 536870912 ≤ r
          ∧ closeTo ⟨false, mantOf r, expOf r⟩ (ub - lb).natAbs (max ub.natAbs lb.natAbs : Nat) = true) := by
  unfold gapF
  by_cases h1 : ub = iMax ∨ lb = iMin
  · exact ⟨_, by rw [if_pos h1, one_eq_decode], by decide, fun _ => Nat.le_refl _, fun _ => rfl,
      fun a b => (h1.elim a b).elim, fun a b => (h1.elim a b).elim⟩
  · rw [if_neg h1]
    by_cases h2 : ub = lb
    · exact ⟨_, by rw [if_pos h2, zero_eq_decode], by decide, fun _ => by decide, fun h => (h1 h).elim,
        fun _ _ _ => rfl, fun _ _ h => (h h2).elim⟩
    · rw [if_neg h2]
      obtain ⟨a1, a2, a3, a4, a5, a6⟩ := gap_operands hl hu (fun h => h1 (.inl h)) (fun h => h1 (.inr h)) h2
      obtain ⟨r, e, lo, hs, ht, hc⟩ := quot_core a1 a2 a3 a4 _ rfl
      have hi := ht a5
      exact ⟨r, e, hi, fun h => hs (a6 h), fun h => (h1 h).elim, fun _ _ h => (h2 h).elim,
        fun _ _ _ => ⟨lo, quot_closeTo hi hc⟩⟩

/-! The clauses of C17 on the float that `gap()` returns, all for arbitrary `lb`, `ub` in the `isize` range (`InI`).  The solvers' invariant `lb ≤ ub` is **not**
needed for any clause: the formula is symmetric (`abs_diff`, `max` of the absolute values). -/

theorem gapF_not_nan (lb ub : Int) (hl : InI lb) (hu : InI ub) : (gapF lb ub).isNaN = false := by
  obtain ⟨r, e, -⟩ := gapF_pattern lb ub hl hu
  rw [e]; exact decode_isNaN _ _

/-- always a finite value of the format (never ±∞ either) -/
theorem gapF_finite (lb ub : Int) (hl : InI lb) (hu : InI ub) :
    (gapF lb ub).isFinite = true ∧ (gapF lb ub).WF := by
  obtain ⟨r, e, hi, -⟩ := gapF_pattern lb ub hl hu
  rw [e]
  exact ⟨by rw [decode_eq_fin _ (lt_infBits hi)]; rfl, decode_wf _ _⟩

/-- never negative, in the strongest sense: the sign bit is clear (not even `-0.0`) … -/
theorem gapF_signBit (lb ub : Int) (hl : InI lb) (hu : InI ub) : (gapF lb ub).signBit = false := by
  obtain ⟨r, e, -⟩ := gapF_pattern lb ub hl hu
  rw [e]; exact decode_signBit _ _

/-- … and as an IEEE comparison: `0.0 ≤ gap()` -/
theorem gapF_nonneg (lb ub : Int) (hl : InI lb) (hu : InI ub) : zero ≤ gapF lb ub := by
  obtain ⟨r, e, hi, -⟩ := gapF_pattern lb ub hl hu
  rw [e, zero_eq_decode, decode_le_decode (by decide) (le_infBits hi)]; exact Nat.zero_le r

/-- returns `1.0` while either bound is still infinite (any other bound, no range condition) -/
theorem gapF_one_of_infinite (lb ub : Int) (h : ub = iMax ∨ lb = iMin) : gapF lb ub = one := by
  unfold gapF; rw [if_pos h]

/-- the magnitude is zero exactly when the finite bounds coincide … -/
theorem gapF_mag_zero_iff (lb ub : Int) (hl : InI lb) (hu : InI ub) (h1 : ub ≠ iMax) (h2 : lb ≠ iMin) :
    (gapF lb ub).mag = 0 ↔ lb = ub := by
  obtain ⟨r, e, hi, -, -, h0, hne⟩ := gapF_pattern lb ub hl hu
  rw [e, decode_mag _ (le_infBits hi)]
  constructor
  · intro hv
    have : r = 0 := val_inj (b := 0) hv
    exact Decidable.byContradiction fun c => by have := (hne h1 h2 (Ne.symm c)).1; omega
  · intro c; rw [h0 h1 h2 c.symm]; rfl

/-- … i.e. `gap()` returns `0.0` exactly when `lb = ub`: the float quotient of different bounds never
    rounds (underflows) to zero -/
theorem gapF_zero_iff (lb ub : Int) (hl : InI lb) (hu : InI ub) (h1 : ub ≠ iMax) (h2 : lb ≠ iMin) :
    gapF lb ub = zero ↔ lb = ub := by
  constructor
  · intro h; exact (gapF_mag_zero_iff lb ub hl hu h1 h2).1 (by rw [h]; decide)
  · intro h
    obtain ⟨r, e, -, -, -, heq, -⟩ := gapF_pattern lb ub hl hu
    rw [e, heq h1 h2 h.symm, zero_eq_decode]

/-- quantitatively: different finite bounds give at least `2^-63` (`= fin 0 8388608 -86`) -/
theorem gapF_ge_of_ne (lb ub : Int) (hl : InI lb) (hu : InI ub) (h1 : ub ≠ iMax) (h2 : lb ≠ iMin)
    (hne : lb ≠ ub) : fin false 8388608 (-86) ≤ gapF lb ub := by
  obtain ⟨r, e, hi, -, -, -, h⟩ := gapF_pattern lb ub hl hu
  rw [e, show fin false 8388608 (-86) = decode false 536870912 by decide,
    decode_le_decode (by decide) (le_infBits hi)]
  exact (h h1 h2 (Ne.symm hne)).1

/-- at most `1.0` whenever both bounds have the same sign -/
theorem gapF_le_one_same_sign (lb ub : Int) (hl : InI lb) (hu : InI ub)
    (hs : (0 ≤ lb ∧ 0 ≤ ub) ∨ (lb ≤ 0 ∧ ub ≤ 0)) : gapF lb ub ≤ one := by
  obtain ⟨r, e, hi, h, -⟩ := gapF_pattern lb ub hl hu
  rw [e, one_eq_decode, decode_le_decode (le_infBits hi) (by decide)]
  exact h hs

/-- at most `2.0` whatever the signs, since `|ub − lb| ≤ 2 · max |ub| |lb|` (attained: `gapF (-5) 5 = 2.0`) -/
theorem gapF_le_two (lb ub : Int) (hl : InI lb) (hu : InI ub) : gapF lb ub ≤ two := by
  obtain ⟨r, e, hi, -⟩ := gapF_pattern lb ub hl hu
  rw [e, two_eq_decode, decode_le_decode (le_infBits hi) (by decide)]; exact hi

/-! ### The converse of "1 while a bound is infinite" is false — on the exact fraction already
(`lb = 0 < ub` gives `ub/ub`), and on floats also where the exact quotient differs from 1:
`lb = 1`, `ub = 2^24 + 1`: exact gap `2^24 / (2^24+1) < 1`, but `(2^24+1) as f32 = 2^24` (tie, to even). -/
theorem gapF_one_finite_witness :
    gapF 1 16777217 = one ∧ gap 1 16777217 = .frac 16777216 16777217 := by decide +kernel
/-- opposite signs, exact gap `(2^30+1)/2^30 > 1`, float `1.0` -/
theorem gapF_one_finite_witness' :
    gapF (-1) 1073741824 = one ∧ gap (-1) 1073741824 = .frac 1073741825 1073741824 := by decide +kernel
/-- and the float can exceed 1 (up to 2) when the signs differ -/
theorem gapF_two_witness : gapF (-5) 5 = two := by decide +kernel

/-- `gapF` is the rounding of the exact model: sentinel ↦ `1.0`, fraction `n/d` ↦ `(n as f32) / (d as f32)` -/
theorem gapF_eq_toF (lb ub : Int) : gapF lb ub = (gap lb ub).toF := by
  unfold gapF gap
  split
  · rfl
  · split
    · decide
    · simp only [Gap.toF]
      congr 2 <;> omega

theorem leOne_of_bits {r : Nat} (h1 : 2 ^ 23 ≤ r) (h2 : r ≤ 1065353216) :
    F32.leOne ⟨false, mantOf r, expOf r⟩ = true := by
  obtain ⟨E, f, hf, rfl⟩ := pattern_cases r
  have hE : E ≠ 0 := by omega
  have hneg : ¬ ((E : Int) - 150 ≥ 0) := by omega
  simp only [F32.leOne, mantOf_mk _ _ hf, expOf_mk _ _ hf, if_neg hE, Bool.false_or, if_neg hneg, decide_eq_true_eq]
  rw [show (-((E : Int) - 150)).toNat = 150 - E by omega]
  by_cases c : E = 127
  · subst c; omega
  · have : (2 : Nat) ^ 24 ≤ 2 ^ (150 - E) := Nat.pow_le_pow_right (by decide) (by omega)
    omega

/-- the property predicate that the driver evaluates on the observed `f32` holds for the modelled
    `f32`, for all `isize` bounds (with or without `lb ≤ ub`) -/
theorem gapF_phi (lb ub : Int) (hl : InI lb) (hu : InI ub) : phiGap lb ub (gapF lb ub).toFOut = true := by
  obtain ⟨r, e, hi, hs, hinf, heq, hne⟩ := gapF_pattern lb ub hl hu
  rw [e]
  by_cases h0 : ub = iMax ∨ lb = iMin
  · rw [hinf h0, ← one_eq_decode]
    simp only [one, toFOut, phiGap, if_pos h0]
    have : ¬ (ub ≠ iMax ∧ lb ≠ iMin) := fun ⟨a, b⟩ => h0.elim a b
    rw [if_neg this]
    split <;> decide
  have h1 : ub ≠ iMax := fun h => h0 (.inl h)
  have h2 : lb ≠ iMin := fun h => h0 (.inr h)
  by_cases h : ub = lb
  · rw [heq h1 h2 h, ← zero_eq_decode]
    simp only [zero, toFOut, phiGap, if_neg h0, if_pos (And.intro h1 h2)]
    rw [decide_eq_true h.symm]
    split <;> decide
  · have lo := (hne h1 h2 h).1
    rw [decode_eq_fin _ (lt_infBits hi)]
    simp only [toFOut, phiGap, if_neg h0, if_pos (And.intro h1 h2)]
    rw [decide_eq_false (fun h' => h h'.symm)]
    have hm : mantOf r ≠ 0 := by unfold mantOf; split <;> omega
    have e1 : F32.nonneg ⟨false, mantOf r, expOf r⟩ = true := rfl
    have e2 : F32.isZero ⟨false, mantOf r, expOf r⟩ = false := by
      simp [F32.isZero, hm]
    rw [e1, e2]
    split
    · rename_i hsame; rw [leOne_of_bits (by omega) (hs hsame)]; rfl
    · rfl

/-- the modelled `f32` passes the driver's agreement test against the exact model `gap`, for all
    `isize` bounds -/
theorem gapF_agrees (lb ub : Int) (hl : InI lb) (hu : InI ub) :
    gapAgrees (gap lb ub) (gapF lb ub).toFOut = true := by
  obtain ⟨r, e, hi, -, hinf, heq, hne⟩ := gapF_pattern lb ub hl hu
  rw [e]
  unfold gap
  by_cases h0 : ub = iMax ∨ lb = iMin
  · rw [if_pos h0, hinf h0]; decide
  have h1 : ub ≠ iMax := fun h => h0 (.inl h)
  have h2 : lb ≠ iMin := fun h => h0 (.inr h)
  rw [if_neg h0]
  by_cases h : ub = lb
  · rw [if_pos h, heq h1 h2 h]; decide
  · rw [if_neg h, decode_eq_fin _ (lt_infBits hi),
      show max (ub.natAbs : Int) (lb.natAbs : Int) = ((max ub.natAbs lb.natAbs : Nat) : Int) by omega]
    exact (hne h1 h2 h).2

/-- C17, every clause, on the `f32` result — for all bounds in the `isize` range.  (The solvers
    maintain `lb ≤ ub`; no clause needs it.) -/
theorem c17_float (lb ub : Int) (hl : InI lb) (hu : InI ub) :
    (gapF lb ub).isNaN = false                                          -- never NaN
    ∧ (gapF lb ub).signBit = false ∧ zero ≤ gapF lb ub                  -- never negative
    ∧ (ub = iMax ∨ lb = iMin → gapF lb ub = one)                        -- 1 while a bound is infinite
    ∧ (ub ≠ iMax → lb ≠ iMin → (gapF lb ub = zero ↔ lb = ub))           -- 0 exactly when the bounds coincide
    ∧ ((0 ≤ lb ∧ 0 ≤ ub) ∨ (lb ≤ 0 ∧ ub ≤ 0) → gapF lb ub ≤ one) :=    -- ≤ 1 for bounds of the same sign
  ⟨gapF_not_nan lb ub hl hu, gapF_signBit lb ub hl hu, gapF_nonneg lb ub hl hu,
   gapF_one_of_infinite lb ub, gapF_zero_iff lb ub hl hu, gapF_le_one_same_sign lb ub hl hu⟩

/-- the clause that is deliberately **not** claimed: "returns 1 only while a bound is infinite".
    Kept as a `Prop` to record that it is refuted (`not_oneOnlyIfInfinite`). -/
def OneOnlyIfInfinite : Prop :=
  ∀ lb ub : Int, InI lb → InI ub → lb ≤ ub → gapF lb ub = one → (ub = iMax ∨ lb = iMin)

theorem not_oneOnlyIfInfinite : ¬ OneOnlyIfInfinite := by
  intro h
  have := h 1 16777217 (by decide) (by decide) (by decide) gapF_one_finite_witness.1
  revert this; decide

/-! Executable cross-check: exact binary32 results, in the harness' token form
`fin <sign> <mantissa incl. hidden bit> <exponent>` (`harness/src/eng_small.rs: f32_tokens`), and as
`to_bits()` patterns.  All by kernel evaluation of the definitions. -/

example : gapF 0 0 = fin false 0 (-149) := by decide +kernel
example : gapF (-5) 5 = fin false 8388608 (-22) := by decide +kernel
example : gapF 0 1 = fin false 8388608 (-23) := by decide +kernel
example : gapF 1 (2 ^ 24 + 1) = fin false 8388608 (-23) := by decide +kernel
example : gapF (-(2 ^ 62)) (2 ^ 62) = fin false 8388608 (-22) := by decide +kernel
example : gapF (iMin + 1) (iMax - 1) = fin false 8388608 (-22) := by decide +kernel

example : (gapF 0 0).toTokens = ["fin", "0", "0", "-149"] := by decide +kernel
example : (gapF (-5) 5).toTokens = ["fin", "0", "8388608", "-22"] := by decide +kernel
example : (gapF 0 1).toTokens = ["fin", "0", "8388608", "-23"] := by decide +kernel
example : (gapF 1 (2 ^ 24 + 1)).toTokens = ["fin", "0", "8388608", "-23"] := by decide +kernel
example : (gapF (-(2 ^ 62)) (2 ^ 62)).toTokens = ["fin", "0", "8388608", "-22"] := by decide +kernel
example : (gapF (iMin + 1) (iMax - 1)).toTokens = ["fin", "0", "8388608", "-22"] := by decide +kernel
example : (gapF 1 3).toTokens = ["fin", "0", "11184811", "-24"] := by decide +kernel               -- 2/3
example : (gapF 100 220).toTokens = ["fin", "0", "9151209", "-24"] := by decide +kernel            -- 120/220
example : (gapF (-220) (-100)).toTokens = ["fin", "0", "9151209", "-24"] := by decide +kernel
example : (gapF (-3) 7).toTokens = ["fin", "0", "11983726", "-23"] := by decide +kernel            -- 10/7
example : (gapF 1000000007 1000000009).toTokens = ["fin", "0", "9007199", "-52"] := by decide +kernel
-- the smallest value the non-zero branch can return: 1 / 2^63
example : (gapF (iMin + 1) (iMin + 2)).toTokens = ["fin", "0", "8388608", "-86"] := by decide +kernel
example : (gapF iMin iMax).toTokens = ["fin", "0", "8388608", "-23"] := by decide +kernel
example : (gapF 7 iMax).toTokens = ["fin", "0", "8388608", "-23"] := by decide +kernel
example : (gapF iMax iMax).toTokens = ["fin", "0", "8388608", "-23"] := by decide +kernel          -- `lb = ub = MAX`: 1, not 0
example : (gapF 0 0).toBits = 0x00000000 := by decide +kernel
example : (gapF 0 1).toBits = 0x3F800000 := by decide +kernel
example : (gapF (-5) 5).toBits = 0x40000000 := by decide +kernel
example : (gapF 1 3).toBits = 0x3F2AAAAB := by decide +kernel
example : (ofNat 16777217).toTokens = ["fin", "0", "8388608", "1"] := by decide +kernel            -- 2^24+1 ↦ 2^24 (tie → even)
example : (ofNat 16777219).toTokens = ["fin", "0", "8388610", "1"] := by decide +kernel            -- 2^24+3 ↦ 2^24+4 (tie → even)
example : (ofNat (2 ^ 64 - 1)).toTokens = ["fin", "0", "8388608", "41"] := by decide +kernel       -- usize::MAX ↦ 2^64
example : (div (ofNat 1) (ofNat 10)).toBits = 0x3DCCCCCD := by decide +kernel                      -- 0.1f32
example : (div (ofNat 1) (ofNat 3)).toBits = 0x3EAAAAAB := by decide +kernel
example : div (ofNat 1) (ofNat 0) = inf false := by decide +kernel
example : div (ofNat 0) (ofNat 0) = nan := by decide +kernel
example : round false (2 ^ 128 - 2 ^ 103) 1 = inf false := by decide +kernel                       -- overflow threshold (tie → even = ∞)
example : round false (2 ^ 128 - 2 ^ 103 - 1) 1 = fin false 16777215 104 := by decide +kernel      -- f32::MAX
example : round false 1 (2 ^ 150) = zero := by decide +kernel                                      -- half the smallest subnormal: tie → even = 0
example : round false 3 (2 ^ 150) = fin false 2 (-149) := by decide +kernel
example : round false 16777215 (2 ^ 150) = fin false 8388608 (-149) := by decide +kernel           -- rounds up into the normal range

#print axioms roundAt_mono
#print axioms roundAt_exact
#print axioms roundAt_nearest
#print axioms roundAt_tie_even
#print axioms roundAt_unique
#print axioms roundAt_relerr
#print axioms round_mono
#print axioms round_exact
#print axioms le_round
#print axioms round_le
#print axioms round_no_underflow
#print axioms ofNat_mono
#print axioms ofNat_exact
#print axioms ofNat_pos
#print axioms ofNat_finite
#print axioms gapF_not_nan
#print axioms gapF_finite
#print axioms gapF_signBit
#print axioms gapF_nonneg
#print axioms gapF_one_of_infinite
#print axioms gapF_zero_iff
#print axioms gapF_mag_zero_iff
#print axioms gapF_ge_of_ne
#print axioms gapF_le_one_same_sign
#print axioms gapF_le_two
#print axioms gapF_one_finite_witness
#print axioms gapF_eq_toF
#print axioms gapF_phi
#print axioms gapF_agrees
#print axioms c17_float
#print axioms not_oneOnlyIfInfinite

end Ddo.C17
