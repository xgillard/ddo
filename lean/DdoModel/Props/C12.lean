import DdoModel.Proofs.MddProtocol
/-! # C12 — calls into user code are coherent with the model (callback protocol)

For the model of the diagram compiler (`Mdd.lean`, shared by the pooled model), the
calls logged by the two places that call `transition_cost` and `relax` are coherent *by
construction*, for every input:
* `expandAll_calls_ok`: every `transition` / `transition_cost` / `for_each_in_domain` /
  `fast_upper_bound` call issued while expanding a layer is made for the variable of that layer,
  on the state of a node of that layer, with `dst = transition(src, d)` and `d ∈ domain(var, src)`;
* `relaxLayer_calls_ok`: every `relax` call issued while merging receives as `merged` the state
  just returned by `merge` over the states of the merged-away nodes and as `dst` the state of one of
  them (nothing is claimed about `(src, decision, cost)`).
The protocol of a whole compilation is `compile_protocol` in `Props/C12b.lean`.
The tie to the code is the *log correspondence* of engine `mdd` (the multiset of calls of the
implementation equals the model's, per compilation) plus `phi`: the full protocol predicate of the
property (`phiProtocol` in `Engines/Mdd.lean`: depth argument of `next_variable`, domains only for
the selected variable and for states of the layer, …) evaluated on the implementation's
chronological log. -/
set_option linter.unusedSectionVars false
namespace Ddo.C12
variable {S K : Type} [DecidableEq S] [DecidableEq K]

def ExpandCallOk (P : Problem S) (var : Nat) (states : List S) : Call S → Prop
  | .rub s => s ∈ states
  | .domain v s => v = var ∧ s ∈ states
  | .trans s d => s ∈ states ∧ d.var = var ∧ d.val ∈ P.domain var s
  | .cost s t d => s ∈ states ∧ d.var = var ∧ d.val ∈ P.domain var s ∧ t = P.trans s d
  | _ => False

theorem ExpandCallOk.of_expQ {P : Problem S} {var : Nat} {L : List S} {pre : List (Call S)} {c : Call S}
    (h : ExpQ P var L pre c) : ExpandCallOk P var L c := by
  cases c with
  | rub s => exact h
  | domain v s => exact h
  | trans s d => exact ⟨h.2.2.1, h.1, h.2.1⟩
  | cost s t d => exact ⟨h.2.2.2.1, h.1, h.2.1, h.2.2.1⟩
  | nextVar _ _ _ => exact h
  | merge _ _ => exact h
  | relax _ _ _ _ _ => exact h
  | impacted _ _ => exact h

theorem expandOne_calls_ok (cfg : Cfg S K) (var lidx : Nat) (ly nx : List (Node S)) (lg : List (Call S)) (p : Nat) :
    ∀ c ∈ (expandOne cfg var lidx (ly, nx, lg) p).2.2, c ∈ lg ∨ ExpandCallOk cfg.P var (ly.map (·.state)) c := by
  simp only [expandOne]
  split
  · intro c hc; exact Or.inl hc
  · next n hn =>
    have hmem : n.state ∈ ly.map (·.state) := List.mem_map.mpr ⟨n, List.mem_of_getElem? hn, rfl⟩
    split
    · -- expanded: fold over the domain
      have key : ∀ (ds : List Int) (acc : List (Node S) × List (Call S)),
          (∀ d ∈ ds, d ∈ cfg.P.domain var n.state) →
          (∀ c ∈ acc.2, c ∈ lg ∨ ExpandCallOk cfg.P var (ly.map (·.state)) c) →
          ∀ c ∈ (ds.foldl (fun (acc : List (Node S) × List (Call S)) d =>
              (branchOn cfg { n with rub := cfg.R.rub n.state } lidx p ⟨var, d⟩ acc.1,
               Call.cost n.state (cfg.P.trans n.state ⟨var, d⟩) ⟨var, d⟩ :: Call.trans n.state ⟨var, d⟩ :: acc.2)) acc).2,
            c ∈ lg ∨ ExpandCallOk cfg.P var (ly.map (·.state)) c := by
        intro ds
        induction ds with
        | nil => intro acc _ h; exact h
        | cons d ds ih =>
          intro acc hds hacc
          simp only [List.foldl_cons]
          apply ih
          · exact fun d' hd' => hds d' (List.mem_cons_of_mem _ hd')
          · intro c hc
            have hd := hds d List.mem_cons_self
            rcases List.mem_cons.mp hc with h | h
            · subst h; exact Or.inr ⟨hmem, rfl, hd, rfl⟩
            · rcases List.mem_cons.mp h with h | h
              · subst h; exact Or.inr ⟨hmem, rfl, hd⟩
              · exact hacc c h
      intro c hc
      refine key (cfg.P.domain var n.state) (nx, Call.domain var n.state :: Call.rub n.state :: lg) (fun d hd => hd) ?_ c (by simpa using hc)
      intro c hc
      rcases List.mem_cons.mp hc with h | h
      · subst h; exact Or.inr ⟨rfl, hmem⟩
      · rcases List.mem_cons.mp h with h | h
        · subst h; exact Or.inr hmem
        · exact Or.inl h
    · intro c hc
      rcases List.mem_cons.mp hc with h | h
      · subst h; exact Or.inr hmem
      · exact Or.inl h

theorem mem_sortBy {α : Type} (before : α → α → Bool) (y : α) (l : List α) : y ∈ sortBy before l ↔ y ∈ l :=
  Cover.mem_sortBy before l y

theorem expandAll_calls_ok (cfg : Cfg S K) (var lidx : Nat) (layer : List (Node S)) (cur : List Nat) (log : List (Call S)) :
    ∀ c ∈ (expandAll cfg var lidx layer cur log).2.2, c ∈ log ∨ ExpandCallOk cfg.P var (layer.map (·.state)) c := by
  obtain ⟨_, delta, h2, h3, _⟩ := expandAll_log cfg var lidx layer cur log
  intro c hc
  rw [h2] at hc
  rcases List.mem_append.1 hc with hc | hc
  · obtain ⟨_, _, _, hq⟩ := LogOk.mem h3 (List.mem_reverse.2 hc)
    exact .inr (ExpandCallOk.of_expQ hq)
  · exact .inl hc

def RelaxCallOk (R : Relax S) (restStates : List S) : Call S → Prop
  | .merge sts res => sts = restStates ∧ res = R.merge restStates
  | .relax _ dst merged _ _ => merged = R.merge restStates ∧ dst ∈ restStates
  | _ => False

theorem relaxLayer_calls_ok (cfg : Cfg S K) (layers : List (List (Node S))) (layer : List (Node S)) (cur : List Nat)
    (log : List (Call S)) (hcur : ∀ p ∈ cur, p < layer.length) :
    let rest := (sortSquash cfg layer cur).drop (cfg.width - 1)
    let restStates := rest.filterMap (fun p => (layer[p]?).map (·.state))
    ∀ c ∈ (relaxLayer cfg layers layer cur log).2.2, c ∈ log ∨ RelaxCallOk cfg.R restStates c := by
  intro rest restStates c hc
  obtain ⟨_, rel, h1, h2⟩ := relaxLayer_rel cfg layers layer cur log hcur
  rw [h1] at hc
  rcases List.mem_append.1 hc with hc | hc
  · obtain ⟨p, hp, dropN, hst, _, e, _, src, _, rfl⟩ := h2 c hc
    exact .inr ⟨rfl, List.mem_filterMap.2 ⟨p, hp, hst⟩⟩
  · rcases List.mem_cons.1 hc with rfl | hc
    · exact .inr ⟨rfl, rfl⟩
    · exact .inl hc

end Ddo.C12
