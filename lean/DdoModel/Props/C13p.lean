import DdoModel.Proofs.PooledFull
import DdoModel.Props.C13b
/-! # C13 (sentence 1) for the pooled diagram — the maximum width bounds the work done per layer

Model: `DdoModel/Pooled.lean` (`_squash_if_needed` of `pooled.rs` = the `needRestrict` / `needRelax` tests of
`prepLayerP`).  "Block `i`" = the `i`-th iteration of the compilation loop, opened by the `i`-th `next_variable` call
at depth `root.depth + i`; entry `i` of `Result.expanded` counts the `for_each_in_domain` calls of block `i`.

* `compileP_expanded_le_width`: entry `i` of `Result.expanded` is at most `width`
  - for every `i` in a restricted compilation;
  - in a relaxed compilation, for every `i` such that **at least two layers were materialised before block `i`**
    (`matBefore pd.layers (root.depth + i) ≥ 2`, `pd` the final diagram).
* `compileP_expanded_le_width_of_index`: when moreover every iteration before `i` materialised a layer (as many
  layers at a depth `< root.depth + i` as iterations), this is `2 ≤ i`, the clean statement.
* `compileP_expanded_le_width_allImpacted`: that is the case when every variable impacts every state (`AllImpacted`, no
  long arcs): then the pooled diagram satisfies exactly the clean statement (`i ≥ 2` when relaxed).

**Difference with the clean diagram (`Ddo.C13.compile_expanded_le_width`).**  `Mdd` exempts the layers of index
`0` and `1` (`layers.len() > 1`, and `layers` gets one entry per iteration).  `Pooled` tests `self.layers.len() >= 2`
where `layers` only holds the *non-empty* layers: an iteration in which no pool node is impacted by the variable
materialises nothing, so the exemption lasts until two layers are non-empty — with long arcs this can be any
iteration, not just the first two.  In terms of the *index of the materialised layer* the exemption is the same as in
`Mdd` (the layers of index `0` — the root — and `1`); in terms of the *iteration index* `i` by which `Result.expanded`
is indexed (one entry per `next_variable` call) it is not.  `WitnessP` below: root not impacted by the first variable; the
relaxed pooled compilation of width 1 expands 3 nodes in block 2 (the clean diagram on the same input expands 1). -/
set_option linter.unusedSectionVars false
set_option linter.unusedVariables false
namespace Ddo.C13
open Ddo Ddo.Width Ddo.Pooled
variable {S K : Type} [DecidableEq S] [DecidableEq K]

/-- one layer step: the number of positions handed to the expansion — hence of `for_each_in_domain` calls — is at
    most `width` in a restricted compilation, and in a relaxed one as soon as two layers are materialised -/
theorem stepLayerP_domain_calls_le_width (cfg : Cfg S K) (pd pd' : PD S K) (var : Nat)
    (h : stepLayerP cfg pd var = some pd')
    (hb : cfg.ctype = .restricted ∨ (cfg.ctype = .relaxed ∧ 2 ≤ pd.layers.length)) :
    domCount pd'.log ≤ domCount pd.log + cfg.width := by
  obtain ⟨k, hg, hk⟩ := stepLayerP_log cfg pd pd' var h
  have h1 := hg.domCount_le
  have h2 : k ≤ cfg.width := hk hb
  omega

/-- **C13 (sentence 1), pooled diagram, on the observable of a whole compilation.**  `r` is either admissible result of
    `compileP`, `pd = (compileP …).2.2.2` the final diagram.  Entry `i` of `r.expanded` is at most `width` when the
    compilation is restricted, or relaxed with at least two layers materialised at a depth `< root.depth + i`. -/
theorem compileP_expanded_le_width (cfg : Cfg S K) (cache : Cache S) (store : DomStore S K) (polls : Nat)
    (stopAt : Option Nat) (r : Result S)
    (hr : r = (compileP cfg cache store polls stopAt).2.1 ∨ some r = (compileP cfg cache store polls stopAt).2.2.1)
    (i x : Nat) (hx : r.expanded[i]? = some x)
    (hb : cfg.ctype = .restricted ∨
      (cfg.ctype = .relaxed ∧
        2 ≤ matBefore (compileP cfg cache store polls stopAt).2.2.2.layers (cfg.root.depth + i))) :
    x ≤ cfg.width := by
  rcases compileP_results cfg cache store polls stopAt r hr with h0 | ⟨e, rfl⟩
  · rw [h0] at hx; cases hx
  · rw [finalizeP_expanded] at hx
    have hw := buildLoopP_wpost cfg stopAt (cfg.P.nbVars + 2) _ (initPD_winv cfg cache store polls)
    rw [← compileP_pd] at hw
    exact hw.ok i x hx hb

/-- the restricted case, no side condition -/
theorem compileP_expanded_le_width_restricted (cfg : Cfg S K) (cache : Cache S) (store : DomStore S K) (polls : Nat)
    (stopAt : Option Nat) (r : Result S)
    (hr : r = (compileP cfg cache store polls stopAt).2.1 ∨ some r = (compileP cfg cache store polls stopAt).2.2.1)
    (hc : cfg.ctype = .restricted) (i x : Nat) (hx : r.expanded[i]? = some x) : x ≤ cfg.width :=
  compileP_expanded_le_width cfg cache store polls stopAt r hr i x hx (.inl hc)

/-- the relaxed case when every iteration before block `i` materialised a layer: `2 ≤ i` suffices, as for `Mdd` -/
theorem compileP_expanded_le_width_of_index (cfg : Cfg S K) (cache : Cache S) (store : DomStore S K) (polls : Nat)
    (stopAt : Option Nat) (r : Result S)
    (hr : r = (compileP cfg cache store polls stopAt).2.1 ∨ some r = (compileP cfg cache store polls stopAt).2.2.1)
    (hc : cfg.ctype = .relaxed) (i x : Nat) (hx : r.expanded[i]? = some x) (hi : 2 ≤ i)
    (hall : matBefore (compileP cfg cache store polls stopAt).2.2.2.layers (cfg.root.depth + i) = i) : x ≤ cfg.width :=
  compileP_expanded_le_width cfg cache store polls stopAt r hr i x hx (.inr ⟨hc, by omega⟩)

/-- **without long arcs the pooled statement is the clean one**: when every variable impacts every state
    (`AllImpacted`), every iteration materialises a layer, and entry `i` of `Result.expanded` of a relaxed compilation
    is at most `width` for every `i ≥ 2` -/
theorem compileP_expanded_le_width_allImpacted (cfg : Cfg S K) (cache : Cache S) (store : DomStore S K) (polls : Nat)
    (stopAt : Option Nat) (hall : AllImpacted cfg.P) (r : Result S)
    (hr : r = (compileP cfg cache store polls stopAt).2.1 ∨ some r = (compileP cfg cache store polls stopAt).2.2.1)
    (i x : Nat) (hx : r.expanded[i]? = some x)
    (hb : cfg.ctype = .restricted ∨ (cfg.ctype = .relaxed ∧ 2 ≤ i)) : x ≤ cfg.width := by
  rcases hb with hb | ⟨hb, hi⟩
  · exact compileP_expanded_le_width cfg cache store polls stopAt r hr i x hx (.inl hb)
  · refine compileP_expanded_le_width cfg cache store polls stopAt r hr i x hx (.inr ⟨hb, ?_⟩)
    rcases compileP_results cfg cache store polls stopAt r hr with h0 | ⟨e, rfl⟩
    · rw [h0] at hx; cases hx
    · rw [finalizeP_expanded] at hx
      have hw := buildLoopP_wpost cfg stopAt (cfg.P.nbVars + 2) _ (initPD_winv cfg cache store polls)
      obtain ⟨k, hk⟩ := buildLoopP_full cfg hall stopAt (cfg.P.nbVars + 2) _ 0 (initPD_full cfg cache store polls)
      rw [← compileP_pd] at hw hk
      rw [hk.matBefore]
      have hlt := Cover.lt_of_getElem?_some hx
      rw [List.length_reverse] at hlt
      have hlen := hw.len
      rw [hk.depth] at hlen
      omega

/-! ## the side condition cannot be replaced by `2 ≤ i`: a witness with a skipped variable

Four variables, domain `{0,1,2}` everywhere, `width = 1`, state = last decision; **no state is impacted by variable 0**.
Iteration 0 materialises nothing (the root stays in the pool), iteration 1 expands the root, iteration 2 sees only one
materialised layer and does not relax: 3 nodes expanded in block 2, although `2 ≤ 2`.  From block 3 on the bound holds.
The clean diagram on the same input relaxes at index 2. -/
namespace WitnessP

def P : Problem Int :=
  { nbVars := 4, init := 0, initVal := 0, trans := fun _ d => d.val, cost := fun _ _ _ => 0,
    nextVar := fun k _ => if k < 4 then some k else none, domain := fun _ _ => [0, 1, 2],
    impacted := fun v _ => decide (1 ≤ v) }
def R : Relax Int := { merge := fun _ => 7, relax := fun _ _ _ _ c => c, rub := fun _ => 10 }
def cfg (ct : CompType) : Cfg Int Unit :=
  { P := P, R := R, rank := ⟨fun a b => compare a b⟩, dom := none, useCache := false, kind := .frontier, ctype := ct,
    width := 1, root := { state := 0, value := 0, path := [], ub := 100, depth := 0 }, lb := -1 }

theorem relaxed_run :
    (compileP (cfg .relaxed) (Cache.init 4) (DomStore.init 4) 0 none).2.1.expanded = [0, 1, 3, 1, 0] ∧
    (compileP (cfg .relaxed) (Cache.init 4) (DomStore.init 4) 0 none).2.2.2.layers.map (·.1) = [1, 2, 3] ∧
    matBefore (compileP (cfg .relaxed) (Cache.init 4) (DomStore.init 4) 0 none).2.2.2.layers 2 = 1 ∧
    matBefore (compileP (cfg .relaxed) (Cache.init 4) (DomStore.init 4) 0 none).2.2.2.layers 3 = 2 := by decide +kernel

/-- relaxed, pooled: block 2 exceeds the width -/
example : (compileP (cfg .relaxed) (Cache.init 4) (DomStore.init 4) 0 none).2.1.expanded = [0, 1, 3, 1, 0] := relaxed_run.1
/-- … because only one layer is materialised before it (depths of the materialised layers: 1, 2, 3) -/
example : (compileP (cfg .relaxed) (Cache.init 4) (DomStore.init 4) 0 none).2.2.2.layers.map (·.1) = [1, 2, 3] := relaxed_run.2.1
example : matBefore (compileP (cfg .relaxed) (Cache.init 4) (DomStore.init 4) 0 none).2.2.2.layers 2 = 1 := relaxed_run.2.2.1
example : matBefore (compileP (cfg .relaxed) (Cache.init 4) (DomStore.init 4) 0 none).2.2.2.layers 3 = 2 := relaxed_run.2.2.2
/-- the clean diagram on the same input: bounded from index 2 on -/
example : (compile (cfg .relaxed) (Cache.init 4) (DomStore.init 4) 0 none).2.1.expanded = [1, 3, 1, 1, 0] := by decide +kernel
/-- restricted, pooled: never more than the width -/
example : (compileP (cfg .restricted) (Cache.init 4) (DomStore.init 4) 0 none).2.1.expanded = [0, 1, 1, 1, 0] := by decide +kernel

/-! ### a second instance, with a genuine long arc

Three variables; block 0 expands the root `0` into `1, 2, 3`; state `3` is not impacted by variable 1 and stays in the pool
during block 1 (long arc `0 → 3`); block 2 is the first one with two materialised layers before it: it merges `3, 4, 5`
and expands 1 node.  Block 1 (one materialised layer before it) expands 2 > width nodes, as allowed. -/
def PL : Problem Int :=
  { nbVars := 3, init := 0, initVal := 0, trans := fun _ d => d.val, cost := fun s t _ => s + t,
    nextVar := fun k _ => if k < 3 then some k else none,
    domain := fun v _ => if v = 0 then [1, 2, 3] else if v = 1 then [4, 5] else [6],
    impacted := fun v s => !(v == 1 && s == 3) }
def cfgL (ct : CompType) : Cfg Int Unit :=
  { P := PL, R := { merge := fun _ => 9, relax := fun _ _ _ _ c => c, rub := fun _ => 100 },
    rank := ⟨fun a b => compare a b⟩, dom := none, useCache := false, kind := .frontier, ctype := ct,
    width := 1, root := { state := 0, value := 0, path := [], ub := 100, depth := 0 }, lb := -1 }

theorem relaxed_runL :
    (compileP (cfgL .relaxed) (Cache.init 3) (DomStore.init 3) 0 none).2.1.expanded = [1, 2, 1, 0] ∧
    (compileP (cfgL .relaxed) (Cache.init 3) (DomStore.init 3) 0 none).2.2.2.layers.map
      (fun l => (l.1, l.2.map (·.state))) = [(0, [0]), (1, [1, 2]), (2, [3, 4, 5, 9])] := by decide +kernel

example : (compileP (cfgL .relaxed) (Cache.init 3) (DomStore.init 3) 0 none).2.1.expanded = [1, 2, 1, 0] := relaxed_runL.1
example : (compileP (cfgL .relaxed) (Cache.init 3) (DomStore.init 3) 0 none).2.2.2.layers.map
    (fun l => (l.1, l.2.map (·.state))) = [(0, [0]), (1, [1, 2]), (2, [3, 4, 5, 9])] := relaxed_runL.2
example : (compileP (cfgL .restricted) (Cache.init 3) (DomStore.init 3) 0 none).2.1.expanded = [1, 1, 1, 0] := by decide +kernel

end WitnessP

end Ddo.C13

#print axioms Ddo.C13.compileP_expanded_le_width
#print axioms Ddo.C13.compileP_expanded_le_width_restricted
#print axioms Ddo.C13.compileP_expanded_le_width_of_index
#print axioms Ddo.C13.compileP_expanded_le_width_allImpacted
#print axioms Ddo.C13.stepLayerP_domain_calls_le_width
