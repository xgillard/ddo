import DdoModel.Proofs.SpecUtil
import DdoModel.Examples.Knapsack
import DdoModel.Examples.Misp
import DdoModel.Examples.Max2sat
import DdoModel.Examples.Mcp
import DdoModel.Examples.Lcs
import DdoModel.Examples.Golomb
import DdoModel.Examples.Psp
import DdoModel.Examples.Sop
import DdoModel.Examples.Tsptw
import DdoModel.Examples.Srflp
import DdoModel.Examples.Talentsched
import DdoModel.Examples.Alp
import DdoModel.Examples.TourBase
/-! # C16 — adequacy of the executable example specifications

The differential harness compares what the twelve `ddo` example programs print with the value of the
executable specifications `DdoModel/Examples/*.lean`.  Those specifications are exhaustive enumerations; this
file ties each of them (`<name>_spec_adequate`) to a DECLARATIVE statement of the optimisation problem, `IsOpt… inst v`:
without any reference to the enumeration, "some feasible solution has objective `v` and no feasible solution has a
better objective" (`SpecUtil.IsMaxOf` / `SpecUtil.IsMinOf` over a plain `Feasible` predicate and an objective function
written from the problem statement; both live in a namespace `<Name>D`).  The statement is `… = some v ↔ IsOpt…` where the
specification answers an option (misp, mcp, max2sat, lcs on at least one string, golomb for `n ≥ 1`), `… = v ↔ IsOpt…` where a solution always
exists (knapsack, srflp, talentsched), and `… = v ↔ IsOpt… ∨ (nothing feasible ∧ v = -1)` where the program prints `-1`
for "no solution" (sop, psp, tsptw, alp; `_feasible` / `_infeasible` are the two cases).  The enumeration lemmas are in
`Proofs/SpecUtil.lean`, the bridges from an example's own enumerator to them in `Examples/TourBase.lean`.

Finding recorded here (the specifications are frozen): `Sop.respects` ignores a `-1` on the DIAGONAL of the
matrix ("job `i` before itself"), whereas the problem statement read literally — and the `sop` program, whose
reader makes `i` its own predecessor — then has no solution; hence the hypothesis `hdiag` of
`sop_spec_adequate` and the `example` after it.  The instance generator never writes such a matrix. -/
namespace Ddo.C16
open Ddo.Examples Ddo.Examples.Util Ddo.SpecUtil

/-- mcp and max2sat enumerate the subsets `S ⊆ {1 … n}` as `sublists (oneTo n)` and read a sub-list only through its
    membership test: the values listed are those of the objective on the characteristic functions supported on `1 … n` -/
theorem values_sides {n : Nat} {f : List Int → Int} {g : (Int → Bool) → Int}
    (hfg : ∀ s : List Int, f s = g (fun x => s.contains x)) (x : Int) :
    x ∈ (sublists (oneTo n)).map f ↔ ∃ S : Int → Bool, (∀ y, S y = true → 1 ≤ y ∧ y ≤ n) ∧ g S = x := by
  simp only [List.mem_map, mem_sublists]
  constructor
  · rintro ⟨s, hs, rfl⟩
    exact ⟨fun x => s.contains x, fun x hx => contains_of_sublist_oneTo hs x hx, (hfg s).symm⟩
  · rintro ⟨S, hS, rfl⟩
    refine ⟨(oneTo n).filter S, List.filter_sublist, ?_⟩
    rw [hfg]
    congr 1
    funext x
    exact contains_filter_oneTo hS x

/-! ## knapsack

Items are pairs `(profit, weight)`.  A solution is a sub-multiset of the items, represented as a sub-list
(`List.Sublist`: items kept in file order — the order is irrelevant for the sums).  It is feasible when its
total weight is at most the capacity; its objective is its total profit. -/
namespace KnapsackD

def weight (s : List (Int × Nat)) : Nat := (s.map (·.2)).sum
def profit (s : List (Int × Nat)) : Int := (s.map (·.1)).sum

def Feasible (cap : Nat) (items s : List (Int × Nat)) : Prop := s.Sublist items ∧ weight s ≤ cap

end KnapsackD

def IsOptKnapsack (cap : Nat) (items : List (Int × Nat)) (v : Int) : Prop :=
  IsMaxOf (KnapsackD.Feasible cap items) KnapsackD.profit v

theorem knapsack_best_isOpt (cap : Nat) (items : List (Int × Nat)) :
    IsOptKnapsack cap items (Knapsack.best cap items) := by
  induction items generalizing cap with
  | nil =>
    refine ⟨⟨[], ⟨List.Sublist.slnil, Nat.zero_le _⟩, rfl⟩, ?_⟩
    rintro s ⟨hs, _⟩
    have : s = [] := List.sublist_nil.mp hs
    subst this; simp [KnapsackD.profit, Knapsack.best]
  | cons it rest ih =>
    obtain ⟨p, w⟩ := it
    obtain ⟨⟨s0, ⟨hs0, hw0⟩, hp0⟩, hub0⟩ := ih cap
    have hcons : ∀ s, KnapsackD.Feasible cap ((p, w) :: rest) s →
        (KnapsackD.Feasible cap rest s) ∨
        (w ≤ cap ∧ ∃ s', s = (p, w) :: s' ∧ KnapsackD.Feasible (cap - w) rest s') := by
      rintro s ⟨hs, hw⟩
      cases hs with
      | cons _ h => exact Or.inl ⟨h, hw⟩
      | cons_cons _ h =>
        rename_i s'
        simp only [KnapsackD.weight, List.map_cons, List.sum_cons] at hw
        exact Or.inr ⟨by omega, s', rfl, h, by simp only [KnapsackD.weight]; omega⟩
    simp only [Knapsack.best]
    by_cases hwc : w ≤ cap
    · simp only [hwc, if_true]
      obtain ⟨⟨s1, ⟨hs1, hw1⟩, hp1⟩, hub1⟩ := ih (cap - w)
      constructor
      · by_cases hle : Knapsack.best cap rest ≤ p + Knapsack.best (cap - w) rest
        · refine ⟨(p, w) :: s1, ⟨hs1.cons_cons _, ?_⟩, ?_⟩
          · simp only [KnapsackD.weight, List.map_cons, List.sum_cons] at hw1 ⊢; omega
          · simp only [KnapsackD.profit, List.map_cons, List.sum_cons] at hp1 ⊢; omega
        · exact ⟨s0, ⟨hs0.cons _, hw0⟩, by omega⟩
      · intro s hs
        rcases hcons s hs with h | ⟨_, s', rfl, h⟩
        · have := hub0 s h; omega
        · have := hub1 s' h
          simp only [KnapsackD.profit, List.map_cons, List.sum_cons] at this ⊢; omega
    · simp only [hwc, if_false]
      refine ⟨⟨s0, ⟨hs0.cons _, hw0⟩, hp0⟩, ?_⟩
      intro s hs
      rcases hcons s hs with h | ⟨h, _⟩
      · exact hub0 s h
      · exact absurd h hwc

/-- **knapsack**: the specification returns `v` iff `v` is the largest total profit of a sub-multiset of the
    items whose total weight fits the capacity (it is a total function: such a `v` always exists) -/
theorem knapsack_spec_adequate (cap : Nat) (items : List (Int × Nat)) (v : Int) :
    Knapsack.best cap items = v ↔ IsOptKnapsack cap items v := by
  constructor
  · rintro rfl; exact knapsack_best_isOpt cap items
  · intro h; exact (knapsack_best_isOpt cap items).unique h

namespace KnapsackD

/-- total weight / profit of the items whose index is selected by `sel` (`items.zipIdx` pairs every item with
    its index) -/
def weightSel (items : List (Int × Nat)) (sel : Nat → Bool) : Nat :=
  (items.zipIdx.map fun p => if sel p.2 then p.1.2 else 0).sum
def profitSel (items : List (Int × Nat)) (sel : Nat → Bool) : Int :=
  (items.zipIdx.map fun p => if sel p.2 then p.1.1 else 0).sum

end KnapsackD

/-- **knapsack**, solutions as SETS OF ITEM INDICES: the specification returns the largest total profit of a set
    of items whose total weight fits the capacity -/
theorem knapsack_spec_adequate_idx (cap : Nat) (items : List (Int × Nat)) (v : Int) :
    Knapsack.best cap items = v ↔
      IsMaxOf (fun sel : Nat → Bool => KnapsackD.weightSel items sel ≤ cap) (KnapsackD.profitSel items) v := by
  rw [knapsack_spec_adequate, IsOptKnapsack]
  apply IsMaxOf.transfer
  · rintro s ⟨hs, hw⟩
    obtain ⟨sel, rfl⟩ := exists_pickIdx_of_sublist hs
    refine ⟨sel, ?_, ?_⟩
    · rw [KnapsackD.weight, natSum_map_pickIdx] at hw; exact hw
    · rw [KnapsackD.profit, sum_map_pickIdx]; rfl
  · intro sel hw
    refine ⟨pickIdx sel items, ⟨pickIdx_sublist sel items, ?_⟩, ?_⟩
    · rw [KnapsackD.weight, natSum_map_pickIdx]; exact hw
    · rw [KnapsackD.profit, sum_map_pickIdx]; rfl

/-- the instance of finding D10 (`KNOWN_FINDINGS.txt`): 4 items, capacity 3, optimum 3 -/
example : Knapsack.specFromTokens [4, 3, 2, 2, 49, 49, 2, 2, 3, 3] = some 3 := by decide +kernel

/-! ## misp (maximum weight independent set)

A solution is a set of vertices `S ⊆ {1 … n}`, represented by its characteristic function `Int → Bool`; it is
feasible when no edge has both end points in `S` (so a vertex with a self-loop is in no feasible set); its
objective is the total weight of its members. -/
namespace MispD

def Feasible (n : Nat) (edges : List (Int × Int)) (S : Int → Bool) : Prop :=
  (∀ x, S x = true → 1 ≤ x ∧ x ≤ n) ∧ ∀ u v, (u, v) ∈ edges → ¬ (S u = true ∧ S v = true)

/-- total weight of `S`: `weights.zipIdx` pairs the weight of vertex `i + 1` with the index `i` -/
def weight (weights : List Int) (S : Int → Bool) : Int :=
  (weights.zipIdx.map fun (w, i) => if S ((i : Int) + 1) then w else 0).sum

end MispD

theorem misp_independent_iff (edges : List (Int × Int)) (s : List Int) :
    Misp.independent edges s = true ↔
      ∀ u v, (u, v) ∈ edges → ¬ (s.contains u = true ∧ s.contains v = true) := by
  simp only [Misp.independent, List.all_eq_true, Prod.forall, Bool.not_eq_true', ← Bool.and_eq_true, Bool.not_eq_true]

theorem misp_vertices (weights : List Int) :
    (oneTo weights.length).zip weights = weights.zipIdx.map fun (w, i) => ((i : Int) + 1, w) := by
  apply List.ext_getElem
  · simp [length_oneTo]
  · intro i h1 h2
    simp [oneTo]

theorem misp_map_fst (weights : List Int) :
    ((oneTo weights.length).zip weights).map (·.1) = oneTo weights.length :=
  List.map_fst_zip (by simp [length_oneTo])

theorem misp_weight_filter (weights : List Int) (S : Int → Bool) :
    sum ((((oneTo weights.length).zip weights).filter fun p => S p.1).map (·.2)) = MispD.weight weights S := by
  rw [sum_eq, sum_map_filter, misp_vertices, List.map_map]
  rfl

def IsOptMisp (weights : List Int) (edges : List (Int × Int)) (v : Int) : Prop :=
  IsMaxOf (MispD.Feasible weights.length edges) (MispD.weight weights) v

theorem misp_values (weights : List Int) (edges : List (Int × Int)) (x : Int) :
    x ∈ (sublists ((oneTo weights.length).zip weights)).filterMap (fun s =>
          if Misp.independent edges (s.map (·.1)) then some (sum (s.map (·.2))) else none) ↔
      ∃ S, MispD.Feasible weights.length edges S ∧ MispD.weight weights S = x := by
  rw [mem_filterMap_ite]
  simp only [mem_sublists]
  constructor
  · rintro ⟨s, hs, hind, rfl⟩
    have hfst : (s.map (·.1)).Sublist (oneTo weights.length) := misp_map_fst weights ▸ hs.map _
    refine ⟨fun x => (s.map (·.1)).contains x, ⟨?_, (misp_independent_iff _ _).mp hind⟩, ?_⟩
    · exact fun x hx => contains_of_sublist_oneTo hfst x hx
    · rw [← misp_weight_filter]
      congr 2
      exact (sublist_eq_filter Prod.fst hs (by rw [misp_map_fst]; exact nodup_oneTo _)).symm
  · rintro ⟨S, ⟨hS, hind⟩, rfl⟩
    refine ⟨((oneTo weights.length).zip weights).filter fun p => S p.1, List.filter_sublist, ?_, misp_weight_filter weights S⟩
    have hfst : (((oneTo weights.length).zip weights).filter fun p => S p.1).map (·.1)
        = (oneTo weights.length).filter S := by
      conv => rhs; rw [← misp_map_fst weights, List.filter_map]
      rfl
    rw [misp_independent_iff, hfst]
    intro u v huv
    rw [contains_filter_oneTo hS, contains_filter_oneTo hS]
    exact hind u v huv

/-- **misp**: the specification returns `some v` iff `v` is the largest total weight of an independent set -/
theorem misp_spec_adequate (weights : List Int) (edges : List (Int × Int)) (v : Int) :
    Misp.best weights edges = some v ↔ IsOptMisp weights edges v :=
  maxOf_isMaxOf (misp_values weights edges) v

/-- the empty set is independent: the specification never returns `none` -/
theorem misp_spec_ne_none (weights : List Int) (edges : List (Int × Int)) :
    Misp.best weights edges ≠ none := by
  intro h
  refine (maxOf_none_iff (misp_values weights edges)).mp h ⟨fun _ => false, ?_, ?_⟩ <;> simp

/-- the instance of finding D7 (`KNOWN_FINDINGS.txt`): `p edge 3 1 / n 1 1 / n 2 -1 / n 3 2 / e 1 3`, optimum 2 -/
example : Misp.specFromTokens [3, 1, 1, -1, 2, 1, 3] = some 2 := by decide +kernel

/-! ## mcp (maximum cut)

A solution is a side `S ⊆ {1 … n}` of the bipartition `(S, V \\ S)`, as a characteristic function; every side is
feasible; the objective is the total weight of the edges with exactly one end point in `S` (parallel edges add
up, a self-loop is never cut). -/
namespace McpD

def Feasible (n : Nat) (S : Int → Bool) : Prop := ∀ x, S x = true → 1 ≤ x ∧ x ≤ n

def cut (edges : List (Int × Int × Int)) (S : Int → Bool) : Int :=
  (edges.map fun (u, v, w) => if S u ≠ S v then w else 0).sum

end McpD

def IsOptMcp (n : Nat) (edges : List (Int × Int × Int)) (v : Int) : Prop :=
  IsMaxOf (McpD.Feasible n) (McpD.cut edges) v

theorem mcp_cutWeight (edges : List (Int × Int × Int)) (s : List Int) :
    Mcp.cutWeight edges s = McpD.cut edges (fun x => s.contains x) := by
  simp only [Mcp.cutWeight, McpD.cut, sum_eq, bne_iff_ne]

/-- **mcp**: the specification returns `some v` iff `v` is the largest weight of a cut `(S, V \ S)` -/
theorem mcp_spec_adequate (n : Nat) (edges : List (Int × Int × Int)) (v : Int) :
    Mcp.best n edges = some v ↔ IsOptMcp n edges v :=
  maxOf_isMaxOf (values_sides (mcp_cutWeight edges)) v

/-- `S = ∅` is a side: the specification never returns `none` -/
theorem mcp_spec_ne_none (n : Nat) (edges : List (Int × Int × Int)) : Mcp.best n edges ≠ none := by
  intro h
  exact (maxOf_none_iff (values_sides (mcp_cutWeight edges))).mp h ⟨fun _ => false, by simp [McpD.Feasible]⟩

/-- a triangle with weights 1, 2, 3 and a pendant edge of weight -4: the best cut takes the edges 2 and 3 -/
example : Mcp.specFromTokens [4, 4, 1, 2, 1, 2, 3, 2, 1, 3, 3, 3, 4, -4] = some 5 := by decide +kernel

/-! ## max2sat (weighted MAX-2-SAT)

A solution is a truth assignment of the variables `1 … n`; every assignment is feasible; the objective is the
total weight of the clauses `x ∨ y` it satisfies (repeated clauses add up, tautologies count). -/
namespace Max2satD

/-- a truth assignment of the variables `1 … n` (as a function on all integers that is `false` outside `1 … n`,
    so that assignments differing only outside the variables are not counted twice — harmless, see
    `max2sat_spec_adequate_wf`) -/
def Feasible (n : Nat) (a : Int → Bool) : Prop := ∀ x, a x = true → 1 ≤ x ∧ x ≤ n

/-- the literal `+v` holds when `v` is true, the literal `-v` when `v` is false -/
def holds (a : Int → Bool) (l : Int) : Prop := (0 < l ∧ a l = true) ∨ (l ≤ 0 ∧ a (-l) = false)

instance (a : Int → Bool) (l : Int) : Decidable (holds a l) := by unfold holds; infer_instance

/-- total weight of the clauses `(w, x, y)` = `x ∨ y` satisfied by `a` -/
def satWeight (clauses : List (Int × Int × Int)) (a : Int → Bool) : Int :=
  (clauses.map fun (w, x, y) => if holds a x ∨ holds a y then w else 0).sum

end Max2satD

def IsOptMax2sat (n : Nat) (clauses : List (Int × Int × Int)) (v : Int) : Prop :=
  IsMaxOf (Max2satD.Feasible n) (Max2satD.satWeight clauses) v

theorem max2sat_litTrue (s : List Int) (l : Int) :
    Max2sat.litTrue s l = true ↔ Max2satD.holds (fun x => s.contains x) l := by
  unfold Max2sat.litTrue Max2satD.holds
  by_cases h : l > 0
  · simp [h]; omega
  · simp [h]; omega

theorem max2sat_satisfiedWeight (clauses : List (Int × Int × Int)) (s : List Int) :
    Max2sat.satisfiedWeight clauses s = Max2satD.satWeight clauses (fun x => s.contains x) := by
  simp only [Max2sat.satisfiedWeight, Max2satD.satWeight, sum_eq, Bool.or_eq_true, max2sat_litTrue]

/-- **max2sat**: the specification returns `some v` iff `v` is the largest total weight of the clauses
    satisfied by a truth assignment of the variables `1 … n` -/
theorem max2sat_spec_adequate (n : Nat) (clauses : List (Int × Int × Int)) (v : Int) :
    Max2sat.best n clauses = some v ↔ IsOptMax2sat n clauses v :=
  maxOf_isMaxOf (values_sides (max2sat_satisfiedWeight clauses)) v

theorem max2sat_spec_ne_none (n : Nat) (clauses : List (Int × Int × Int)) :
    Max2sat.best n clauses ≠ none := by
  intro h
  exact (maxOf_none_iff (values_sides (max2sat_satisfiedWeight clauses))).mp h ⟨fun _ => false, by simp [Max2satD.Feasible]⟩

/-- the instance of finding D8 (`KNOWN_FINDINGS.txt`): `p wcnf 3 3 / 2 2 3 0 / 1 1 0 / 1 -2 -1 0`, optimum 4 -/
example : Max2sat.specFromTokens [3, 3, 2, 2, 3, 1, 1, 1, 1, -2, -1] = some 4 := by decide +kernel

/-- every literal is `±v` for a variable `v ∈ 1 … n` (what `Max2sat.specFromTokens` checks) -/
def Max2satD.WellFormed (n : Nat) (clauses : List (Int × Int × Int)) : Prop :=
  ∀ w x y, (w, x, y) ∈ clauses → (x ≠ 0 ∧ -(n : Int) ≤ x ∧ x ≤ n) ∧ (y ≠ 0 ∧ -(n : Int) ≤ y ∧ y ≤ n)

theorem max2sat_restrict {n : Nat} {clauses : List (Int × Int × Int)}
    (hwf : Max2satD.WellFormed n clauses) (a : Int → Bool) :
    Max2satD.satWeight clauses (fun x => a x && decide (1 ≤ x ∧ x ≤ (n : Int))) =
      Max2satD.satWeight clauses a := by
  unfold Max2satD.satWeight
  congr 1
  apply List.map_congr_left
  rintro ⟨w, x, y⟩ hc
  obtain ⟨⟨hx0, hx1, hx2⟩, ⟨hy0, hy1, hy2⟩⟩ := hwf w x y hc
  have key : ∀ l : Int, l ≠ 0 → -(n : Int) ≤ l → l ≤ n →
      (Max2satD.holds (fun x => a x && decide (1 ≤ x ∧ x ≤ (n : Int))) l ↔ Max2satD.holds a l) := by
    intro l h0 h1 h2
    unfold Max2satD.holds
    by_cases hl : 0 < l
    · have : (1 ≤ l ∧ l ≤ (n : Int)) := by omega
      have hl' : ¬ l ≤ 0 := by omega
      simp [this, hl, hl']
    · have : (1 ≤ -l ∧ -l ≤ (n : Int)) := by omega
      have hl' : l ≤ 0 := by omega
      simp [this, hl, hl']
  simp only [key x hx0 hx1 hx2, key y hy0 hy1 hy2]

/-- **max2sat**, on well-formed instances: the optimum over ALL assignments `Int → Bool` -/
theorem max2sat_spec_adequate_wf (n : Nat) (clauses : List (Int × Int × Int))
    (hwf : Max2satD.WellFormed n clauses) (v : Int) :
    Max2sat.best n clauses = some v ↔ IsMaxOf (fun _ : Int → Bool => True) (Max2satD.satWeight clauses) v := by
  rw [max2sat_spec_adequate]
  constructor
  · rintro ⟨⟨a, _, ha⟩, hub⟩
    refine ⟨⟨a, trivial, ha⟩, fun b _ => ?_⟩
    rw [← max2sat_restrict hwf b]
    exact hub _ (fun x hx => of_decide_eq_true (Bool.and_eq_true _ _ ▸ hx).2)
  · rintro ⟨⟨a, _, ha⟩, hub⟩
    refine ⟨⟨_, fun x hx => ?_, (max2sat_restrict hwf a).trans ha⟩, fun b _ => hub b trivial⟩
    exact of_decide_eq_true (Bool.and_eq_true _ _ ▸ hx).2

/-! ## golomb (optimal Golomb ruler with `n` marks)

A solution is a list of `n` marks `0 = m_1 < … < m_n` whose pairwise differences are all distinct; the objective
(to be minimised) is the last mark.  `Golomb.shortest` searches the lengths `L < 2^(n-1)` in increasing order,
building rulers mark by mark in DEcreasing list order; the proof relates that search to the declarative
statement, and shows that the bound `2^(n-1)` loses nothing (`0, 1, 3, 7, …` is a Golomb ruler). -/
namespace GolombD

/-- all pairwise differences are distinct: two pairs of marks with the same difference are the same pair -/
def AllDiffsDistinct (marks : List Nat) : Prop :=
  ∀ a b c d, a ∈ marks → b ∈ marks → c ∈ marks → d ∈ marks → a < b → c < d → b - a = d - c → a = c ∧ b = d

structure IsRuler (n : Nat) (marks : List Nat) : Prop where
  length : marks.length = n
  increasing : marks.Pairwise (· < ·)
  zero : marks.head? = some 0
  golomb : AllDiffsDistinct marks

/-- the length of a ruler is its last (= largest) mark -/
def rulerLength (marks : List Nat) : Nat := marks.getLast?.getD 0

end GolombD
open GolombD

theorem golomb_distinct (l : List Nat) : Golomb.distinct l = true ↔ l.Nodup := by
  induction l with
  | nil => simp [Golomb.distinct]
  | cons x xs ih => simp [Golomb.distinct, ih]

theorem golomb_diffs_dec (m : Nat) (rest : List Nat) (h : ∀ a ∈ rest, a < m) :
    Golomb.diffs (m :: rest) = rest.map (m - ·) ++ Golomb.diffs rest := by
  simp only [Golomb.diffs]
  congr 1
  apply List.map_congr_left
  intro a ha
  have := h a ha
  rw [if_pos (by omega)]

theorem golomb_mem_diffs {l : List Nat} (hl : l.Pairwise (· > ·)) {x : Nat} :
    x ∈ Golomb.diffs l ↔ ∃ a b, a ∈ l ∧ b ∈ l ∧ a < b ∧ x = b - a := by
  induction l with
  | nil => simp [Golomb.diffs]
  | cons m rest ih =>
    obtain ⟨hm, hrest⟩ := List.pairwise_cons.mp hl
    rw [golomb_diffs_dec m rest hm, List.mem_append, ih hrest, List.mem_map]
    constructor
    · rintro (⟨a, ha, rfl⟩ | ⟨a, b, ha, hb, hab, rfl⟩)
      · exact ⟨a, m, List.mem_cons_of_mem _ ha, List.mem_cons_self, hm a ha, rfl⟩
      · exact ⟨a, b, List.mem_cons_of_mem _ ha, List.mem_cons_of_mem _ hb, hab, rfl⟩
    · rintro ⟨a, b, ha, hb, hab, rfl⟩
      rcases List.mem_cons.mp hb with rfl | hb'
      · rcases List.mem_cons.mp ha with rfl | ha'
        · omega
        · exact Or.inl ⟨a, ha', rfl⟩
      · rcases List.mem_cons.mp ha with rfl | ha'
        · have := hm b hb'; omega
        · exact Or.inr ⟨a, b, ha', hb', hab, rfl⟩

theorem golomb_nodup_diffs {l : List Nat} (hl : l.Pairwise (· > ·)) :
    (Golomb.diffs l).Nodup ↔ AllDiffsDistinct l := by
  induction l with
  | nil => simp [Golomb.diffs, AllDiffsDistinct]
  | cons m rest ih =>
    obtain ⟨hm, hrest⟩ := List.pairwise_cons.mp hl
    rw [golomb_diffs_dec m rest hm, List.nodup_append, ih hrest]
    have hA : (rest.map (m - ·)).Nodup := by
      rw [List.nodup_iff_pairwise_ne, List.pairwise_map]
      refine List.Pairwise.imp_of_mem ?_ hrest
      intro a b ha hb hab
      have := hm a ha; have := hm b hb
      omega
    constructor
    · rintro ⟨_, hG, hdisj⟩ a b c d ha hb hc hd hab hcd he
      -- every mark of `m :: rest` below another mark is in `rest`
      have low : ∀ x y, x ∈ m :: rest → y ∈ m :: rest → x < y → x ∈ rest := by
        intro x y hx hy hxy
        rcases List.mem_cons.mp hx with rfl | hx
        · rcases List.mem_cons.mp hy with rfl | hy
          · omega
          · have := hm y hy; omega
        · exact hx
      have ha' := low a b ha hb hab
      have hc' := low c d hc hd hcd
      rcases List.mem_cons.mp hb with rfl | hb' <;> rcases List.mem_cons.mp hd with rfl | hd'
      · have := hm a ha'; have := hm c hc'; omega
      · exfalso
        exact hdisj (b - a) (List.mem_map.mpr ⟨a, ha', rfl⟩) (d - c)
          ((golomb_mem_diffs hrest).mpr ⟨c, d, hc', hd', hcd, rfl⟩) he
      · exfalso
        exact hdisj (d - c) (List.mem_map.mpr ⟨c, hc', rfl⟩) (b - a)
          ((golomb_mem_diffs hrest).mpr ⟨a, b, ha', hb', hab, rfl⟩) he.symm
      · exact hG a b c d ha' hb' hc' hd' hab hcd he
    · intro hG
      refine ⟨hA, ?_, ?_⟩
      · intro a b c d ha hb hc hd
        exact hG a b c d (List.mem_cons_of_mem _ ha) (List.mem_cons_of_mem _ hb)
          (List.mem_cons_of_mem _ hc) (List.mem_cons_of_mem _ hd)
      · intro x hx y hy hxy
        obtain ⟨a, ha, rfl⟩ := List.mem_map.mp hx
        obtain ⟨c, d, hc, hd, hcd, rfl⟩ := (golomb_mem_diffs hrest).mp hy
        have := hG a m c d (List.mem_cons_of_mem _ ha) List.mem_cons_self
          (List.mem_cons_of_mem _ hc) (List.mem_cons_of_mem _ hd) (hm a ha) hcd hxy
        have := hm d hd
        omega

theorem golomb_iff {l : List Nat} (hl : l.Pairwise (· > ·)) :
    Golomb.golomb l = true ↔ AllDiffsDistinct l := by
  rw [Golomb.golomb, golomb_distinct, golomb_nodup_diffs hl]

theorem golomb_allDiffs_mono {l l' : List Nat} (h : ∀ x ∈ l', x ∈ l) (hg : AllDiffsDistinct l) :
    AllDiffsDistinct l' :=
  fun a b c d ha hb hc hd => hg a b c d (h a ha) (h b hb) (h c hc) (h d hd)

/-- `canPlace L k marks`: the (decreasing) Golomb list `marks` can be extended by `k` larger marks `≤ L` -/
theorem golomb_canPlace (L k : Nat) (marks : List Nat) (hdec : marks.Pairwise (· > ·))
    (hg : AllDiffsDistinct marks) :
    Golomb.canPlace L k marks = true ↔
      ∃ ext : List Nat, ext.length = k ∧ (ext ++ marks).Pairwise (· > ·) ∧ (∀ m ∈ ext, m ≤ L) ∧
        AllDiffsDistinct (ext ++ marks) := by
  induction k generalizing marks with
  | zero =>
    simp only [Golomb.canPlace, true_iff]
    exact ⟨[], rfl, hdec, by simp, hg⟩
  | succ k ih =>
    simp only [Golomb.canPlace, List.any_eq_true, List.mem_range, Bool.and_eq_true, List.all_eq_true,
      decide_eq_true_eq]
    constructor
    · rintro ⟨m, hmL, ⟨hall, hgol⟩, hcp⟩
      have hdec' : (m :: marks).Pairwise (· > ·) := List.pairwise_cons.mpr ⟨fun a ha => hall a ha, hdec⟩
      obtain ⟨ext, hlen, hd, hle, hG⟩ := (ih (m :: marks) hdec' ((golomb_iff hdec').mp hgol)).mp hcp
      refine ⟨ext ++ [m], by simp [hlen], by simpa using hd, ?_, by simpa using hG⟩
      intro x hx
      rcases List.mem_append.mp hx with hx | hx
      · exact hle x hx
      · simp at hx; omega
    · rintro ⟨ext, hlen, hd, hle, hG⟩
      rcases List.eq_nil_or_concat ext with rfl | ⟨ext', m, rfl⟩
      · simp at hlen
      · rw [List.concat_eq_append] at hlen hd hle hG
        have e : ext' ++ [m] ++ marks = ext' ++ m :: marks := by simp
        rw [e] at hd hG
        have hdec' : (m :: marks).Pairwise (· > ·) := (List.pairwise_append.mp hd).2.1
        have hG' : AllDiffsDistinct (m :: marks) := golomb_allDiffs_mono (fun x hx => List.mem_append_right _ hx) hG
        refine ⟨m, ?_, ⟨fun a ha => (List.pairwise_cons.mp hdec').1 a ha, (golomb_iff hdec').mpr hG'⟩, ?_⟩
        · have := hle m (by simp); omega
        · refine (ih (m :: marks) hdec' hG').mpr ⟨ext', by simpa using hlen, hd, ?_, hG⟩
          exact fun x hx => hle x (List.mem_append_left _ hx)

/-- the search predicate of `Golomb.shortest`: there is a ruler with `n` marks of length at most `L` -/
theorem golomb_canPlace_root (n : Nat) (hn : 1 ≤ n) (L : Nat) :
    Golomb.canPlace L (n - 1) [0] = true ↔ ∃ marks, IsRuler n marks ∧ rulerLength marks ≤ L := by
  have h0 : AllDiffsDistinct [0] := by
    intro a b c d ha hb _ _ hab
    simp only [List.mem_singleton] at ha hb
    omega
  rw [golomb_canPlace L (n - 1) [0] (by simp) h0]
  constructor
  · rintro ⟨ext, hlen, hd, hle, hG⟩
    refine ⟨(ext ++ [0]).reverse, ⟨by simp [hlen]; omega, ?_, by simp, ?_⟩, ?_⟩
    · exact List.pairwise_reverse.mpr hd
    · exact golomb_allDiffs_mono (fun x hx => List.mem_reverse.mp hx) hG
    · simp only [rulerLength, List.getLast?_reverse]
      cases ext with
      | nil => simp
      | cons x ext' => simpa using hle x List.mem_cons_self
  · rintro ⟨marks, ⟨hlen, hinc, hzero, hG⟩, hL⟩
    have hlast : marks.reverse.getLast? = some 0 := by rw [List.getLast?_reverse]; exact hzero
    obtain ⟨ext, hext⟩ := List.getLast?_eq_some_iff.mp hlast
    have hdec : (ext ++ [0]).Pairwise (· > ·) := by
      rw [← hext]; exact List.pairwise_reverse.mpr (by simpa using hinc)
    refine ⟨ext, ?_, hdec, ?_, ?_⟩
    · have : (ext ++ [0]).length = n := by rw [← hext]; simpa using hlen
      simp at this; omega
    · intro m hm
      have h1 := le_head_of_dec hdec (List.mem_append_left _ hm)
      have h2 : (ext ++ [0]).head?.getD 0 = rulerLength marks := by
        rw [← hext, List.head?_reverse]; rfl
      omega
    · exact golomb_allDiffs_mono (fun x hx => List.mem_reverse.mp (hext ▸ hx)) hG

def IsOptGolomb (n : Nat) (L : Nat) : Prop :=
  IsMinOf (IsRuler n) (fun marks => (rulerLength marks : Int)) L

theorem golomb_shortest_iff (n : Nat) (hn : 1 ≤ n) (L : Nat) :
    Golomb.shortest n = some L ↔ IsOptGolomb n L ∧ L < 2 ^ (n - 1) := by
  rw [Golomb.shortest, find?_range_eq_some]
  constructor
  · rintro ⟨hN, hp, hmin⟩
    obtain ⟨marks, hr, hlen⟩ := (golomb_canPlace_root n hn L).mp hp
    have key : ∀ marks', IsRuler n marks' → L ≤ rulerLength marks' := by
      intro marks' hr'
      have hp' := (golomb_canPlace_root n hn (rulerLength marks')).mpr ⟨marks', hr', Nat.le_refl _⟩
      refine Nat.le_of_not_lt fun hlt => ?_
      have := hmin _ hlt
      simp [hp'] at this
    have := key marks hr
    refine ⟨⟨⟨marks, hr, by simp only []; omega⟩, fun m hm => ?_⟩, hN⟩
    have := key m hm
    simp only []; omega
  · rintro ⟨⟨⟨marks, hr, hlen⟩, hlb⟩, hN⟩
    simp only [] at hlen
    refine ⟨hN, (golomb_canPlace_root n hn L).mpr ⟨marks, hr, by omega⟩, fun j hj => ?_⟩
    cases hp : Golomb.canPlace j (n - 1) [0] with
    | false => rfl
    | true =>
      obtain ⟨m, hm, hmj⟩ := (golomb_canPlace_root n hn j).mp hp
      have := hlb m hm
      simp only [] at this; omega

/-- the ruler `0, 1, 3, 7, …, 2^(n-1) - 1` -/
def GolombD.powRuler (n : Nat) : List Nat := (List.range n).map fun i => 2 ^ i - 1

theorem two_pow_double {x y : Nat} (h : x < y) : 2 * 2 ^ x ≤ 2 ^ y := by
  have := Nat.pow_le_pow_right (n := 2) (by omega) (show x + 1 ≤ y by omega)
  rw [Nat.pow_succ] at this; omega

theorem two_pow_lt_imp {x y : Nat} (h : 2 ^ x - 1 < 2 ^ y - 1) : x < y := by
  refine Nat.lt_of_not_le fun hle => ?_
  have := Nat.pow_le_pow_right (n := 2) (by omega) hle
  omega

/-- a difference of two powers of two determines both (`2 ^ j - 2 ^ i = 2 ^ l - 2 ^ k`, without subtraction) -/
theorem two_pow_sub_inj {i j k l : Nat} (hij : i < j) (hkl : k < l) (he : 2 ^ j + 2 ^ k = 2 ^ l + 2 ^ i) : i = k ∧ j = l := by
  have h1 := two_pow_double hij
  have h2 := two_pow_double hkl
  have := Nat.two_pow_pos i
  have := Nat.two_pow_pos k
  have hjl : j = l := by
    rcases Nat.lt_trichotomy j l with h | h | h
    · have := two_pow_double h; omega
    · exact h
    · have := two_pow_double h; omega
  subst hjl
  refine ⟨?_, rfl⟩
  rcases Nat.lt_trichotomy i k with h | h | h
  · have := two_pow_double h; omega
  · exact h
  · have := two_pow_double h; omega

theorem golomb_powRuler (n : Nat) (hn : 1 ≤ n) :
    IsRuler n (powRuler n) ∧ rulerLength (powRuler n) = 2 ^ (n - 1) - 1 := by
  refine ⟨⟨by simp [powRuler], ?_, ?_, ?_⟩, ?_⟩
  · rw [powRuler, List.pairwise_map]
    refine List.Pairwise.imp ?_ List.pairwise_lt_range
    intro i j hij
    have := two_pow_double hij
    have := Nat.two_pow_pos i
    omega
  · obtain ⟨k, rfl⟩ : ∃ k, n = k + 1 := ⟨n - 1, by omega⟩
    simp [powRuler, List.range_succ_eq_map]
  · intro a b c d ha hb hc hd hab hcd he
    simp only [powRuler, List.mem_map, List.mem_range] at ha hb hc hd
    obtain ⟨i, _, rfl⟩ := ha
    obtain ⟨j, _, rfl⟩ := hb
    obtain ⟨k, _, rfl⟩ := hc
    obtain ⟨l, _, rfl⟩ := hd
    have hij := two_pow_lt_imp hab
    have hkl := two_pow_lt_imp hcd
    rw [Nat.sub_sub_sub_cancel_right (Nat.two_pow_pos i), Nat.sub_sub_sub_cancel_right (Nat.two_pow_pos k)] at he
    have := two_pow_double hij
    have := two_pow_double hkl
    obtain ⟨rfl, rfl⟩ := two_pow_sub_inj hij hkl (by omega)
    exact ⟨rfl, rfl⟩
  · obtain ⟨k, rfl⟩ : ∃ k, n = k + 1 := ⟨n - 1, by omega⟩
    simp [rulerLength, powRuler, List.range_succ]

/-- **golomb**: for `n ≥ 1`, the specification returns `some L` iff `L` is the smallest length (= last mark) of a
    Golomb ruler with `n` marks -/
theorem golomb_spec_adequate (n : Nat) (hn : 1 ≤ n) (L : Nat) :
    Golomb.shortest n = some L ↔ IsOptGolomb n L := by
  rw [golomb_shortest_iff n hn]
  refine ⟨fun h => h.1, fun h => ⟨h, ?_⟩⟩
  obtain ⟨hr, hlen⟩ := golomb_powRuler n hn
  have := h.2 _ hr
  have := Nat.two_pow_pos (n - 1)
  simp only [] at *
  omega

/-- the search always succeeds: `0, 1, 3, …, 2^(n-1) - 1` is a Golomb ruler -/
theorem golomb_spec_ne_none (n : Nat) (hn : 1 ≤ n) : Golomb.shortest n ≠ none := by
  intro h
  rw [Golomb.shortest, List.find?_eq_none] at h
  obtain ⟨hr, hlen⟩ := golomb_powRuler n hn
  have := Nat.two_pow_pos (n - 1)
  exact h (2 ^ (n - 1) - 1) (List.mem_range.mpr (by omega))
    ((golomb_canPlace_root n hn _).mpr ⟨_, hr, by omega⟩)

/-- what the program prints: minus the length, and it is the MAXIMUM of minus the length -/
theorem golomb_specFromTokens (n : Nat) (hn : 1 ≤ n) (v : Int) :
    Golomb.specFromTokens [(n : Int)] = some v ↔
      IsMaxOf (IsRuler n) (fun marks => -(rulerLength marks : Int)) v := by
  have hn' : ¬ ((n : Int) < 1) := by omega
  simp only [Golomb.specFromTokens, hn', if_false, Int.toNat_natCast]
  cases hs : Golomb.shortest n with
  | none => exact absurd hs (golomb_spec_ne_none n hn)
  | some L =>
    obtain ⟨⟨m, hm, hlen⟩, hlb⟩ := (golomb_spec_adequate n hn L).mp hs
    have hmax : IsMaxOf (IsRuler n) (fun marks => -(rulerLength marks : Int)) (-(L : Int)) := by
      refine ⟨⟨m, hm, by simp only [] at hlen ⊢; omega⟩, fun s hs => ?_⟩
      have := hlb s hs
      simp only [] at this ⊢; omega
    show some (-(L : Int)) = some v ↔ _
    simp only [Option.some.injEq]
    constructor
    · rintro rfl; exact hmax
    · intro h; exact hmax.unique h

/-- the values quoted in the header of `Examples/Golomb.lean`: `-11` for `n = 5` (`0 1 4 9 11`), `0` for `n = 1` -/
example : Golomb.specFromTokens [5] = some (-11) := by decide +kernel
example : Golomb.specFromTokens [1] = some 0 := by decide +kernel
example : Golomb.specFromTokens [4] = some (-6) := by decide +kernel

/-! ## lcs (longest common subsequence of `k ≥ 1` strings)

A solution is a string that is a subsequence (`List.Sublist`) of every input string; the objective is its length. -/
namespace LcsD

def Feasible (strings : List (List Int)) (c : List Int) : Prop := ∀ s ∈ strings, c.Sublist s

end LcsD

def IsOptLcs (strings : List (List Int)) (v : Int) : Prop :=
  IsMaxOf (LcsD.Feasible strings) (fun c => (c.length : Int)) v

theorem lcs_values (first : List Int) (others : List (List Int)) (x : Int) :
    x ∈ (sublists first).filterMap (fun c =>
          if others.all (Lcs.isSubseq c) then some (c.length : Int) else none) ↔
      ∃ c, LcsD.Feasible (first :: others) c ∧ (c.length : Int) = x := by
  rw [mem_filterMap_ite]
  simp only [mem_sublists, LcsD.Feasible, List.forall_mem_cons, List.all_eq_true, lcs_isSubseq]
  exact ⟨fun ⟨c, hc, hall, hx⟩ => ⟨c, ⟨hc, hall⟩, hx⟩, fun ⟨c, ⟨hc, hall⟩, hx⟩ => ⟨c, hc, hall, hx⟩⟩

/-- **lcs**: on `k ≥ 1` strings the specification returns `some v` iff `v` is the largest length of a common
    subsequence of all the strings -/
theorem lcs_spec_adequate (strings : List (List Int)) (hne : strings ≠ []) (v : Int) :
    Lcs.best strings = some v ↔ IsOptLcs strings v := by
  cases strings with
  | nil => exact absurd rfl hne
  | cons first others => exact maxOf_isMaxOf (lcs_values first others) v

/-- the specification returns `none` only when there is no string at all (then every string is a common
    subsequence and there is no maximum); with `k ≥ 1` strings the empty string is a solution -/
theorem lcs_spec_none (strings : List (List Int)) : Lcs.best strings = none ↔ strings = [] := by
  cases strings with
  | nil => simp [Lcs.best]
  | cons first others =>
    simp only [reduceCtorEq, iff_false]
    intro h
    refine (maxOf_none_iff (lcs_values first others)).mp h ⟨[], ?_⟩
    intro s _; exact List.nil_sublist s

set_option maxRecDepth 100000 in
/-- the instance of the open finding on lcs (`KNOWN_FINDINGS.txt`): `acaaaa` / `caaaca`, optimum 5 (`caaaa`) -/
example : Lcs.specFromTokens [2, 2, 6, 0, 1, 0, 0, 0, 0, 6, 1, 0, 0, 0, 1, 0] = some 5 := by decide +kernel

/-! ## sop (sequential ordering problem)

A solution is a sequence containing every job `0 … n-1` exactly once, starting with job `0`, ending with job
`n-1`, in which `j` comes before `i` whenever `d i j = -1`; its cost (to be minimised) is the sum of `d a b` over
consecutive jobs `a, b`. -/
namespace SopD

/-- `seq` is a solution of the instance (`n` jobs, matrix `d`): it contains every job exactly once, starts with
    job `0`, ends with job `n - 1`, and `j` comes before `i` (`[j, i].Sublist seq`) whenever `d i j = -1` -/
structure Feasible (n : Nat) (d : Nat → Nat → Int) (seq : List Nat) : Prop where
  perm : seq.Perm (List.range n)
  first : seq.head? = some 0
  last : seq.getLast? = some (n - 1)
  prec : ∀ i j, i < n → j < n → d i j = -1 → [j, i].Sublist seq

def cost (d : Nat → Nat → Int) (seq : List Nat) : Int :=
  ((seq.zip seq.tail).map fun (a, b) => d a b).sum

end SopD

def IsOptSop (n : Nat) (d : Nat → Nat → Int) (v : Int) : Prop :=
  IsMinOf (SopD.Feasible n d) (SopD.cost d) v

/-- `Sop.cost` and `Psp.changeoverCost` add one term per pair of consecutive elements -/
theorem sum_consecutive {f : List Nat → Int} {g : Nat → Nat → Int} (h0 : f [] = 0) (h1 : ∀ a, f [a] = 0)
    (h2 : ∀ a b rest, f (a :: b :: rest) = g a b + f (b :: rest)) :
    ∀ l : List Nat, f l = ((l.zip l.tail).map fun (a, b) => g a b).sum
  | [] => h0
  | [a] => h1 a
  | a :: b :: rest => by rw [h2, sum_consecutive h0 h1 h2 (b :: rest)]; rfl

theorem sop_cost (d : Nat → Nat → Int) (seq : List Nat) : Sop.cost d seq = SopD.cost d seq :=
  sum_consecutive rfl (fun _ => rfl) (fun _ _ _ => rfl) seq

theorem sop_respects (d : Nat → Nat → Int) (seq : List Nat) :
    Sop.respects d seq = true ↔ seq.Pairwise (fun i j => d i j ≠ -1) := by
  induction seq with
  | nil => simp [Sop.respects]
  | cons i later ih => simp [Sop.respects, ih]

/-- on a sequence without repetition, "no `i` before `j` with `d i j = -1`" (what `Sop.respects` checks) is
    "`j` before `i` whenever `d i j = -1`" (the problem statement) — provided no job is its own predecessor -/
theorem sop_prec {n : Nat} {d : Nat → Nat → Int} {seq : List Nat} (hp : seq.Perm (List.range n))
    (hdiag : ∀ i, i < n → d i i ≠ -1) :
    seq.Pairwise (fun i j => d i j ≠ -1) ↔
      ∀ i j, i < n → j < n → d i j = -1 → [j, i].Sublist seq := by
  have hmem : ∀ i, i ∈ seq ↔ i < n := fun i => hp.mem_iff.trans List.mem_range
  have hnd : seq.Nodup := hp.symm.nodup List.nodup_range
  rw [List.pairwise_iff_forall_sublist]
  constructor
  · intro h i j hi hj hij
    have hne : i ≠ j := fun e => hdiag i hi (e ▸ hij)
    rcases before_or_after ((hmem i).mpr hi) ((hmem j).mpr hj) hne with hb | hb
    · exact absurd hij (h hb)
    · exact hb
  · intro h i j hb hij
    have hi : i < n := (hmem i).mp (hb.subset (by simp))
    have hj : j < n := (hmem j).mp (hb.subset (by simp))
    exact not_before_and_after hnd hb (h i j hi hj hij)

theorem sop_mem_seqs (n : Nat) (hn : 1 ≤ n) (seq : List Nat) :
    seq ∈ (if n = 1 then [[0]]
           else (Sop.perms ((List.range (n - 1)).drop 1)).map (fun p => 0 :: p ++ [n - 1])) ↔
      seq.Perm (List.range n) ∧ seq.head? = some 0 ∧ seq.getLast? = some (n - 1) := by
  by_cases h1 : n = 1
  · subst h1
    simp only [if_true, List.mem_singleton]
    constructor
    · rintro rfl; simp [List.range_succ]
    · rintro ⟨hp, _, _⟩
      have : List.range 1 = [0] := rfl
      rw [this] at hp
      exact List.perm_singleton.mp hp
  · obtain ⟨m, rfl⟩ : ∃ m, n = m + 2 := ⟨n - 2, by omega⟩
    simp only [h1, if_false, Tour.sop_perms_eq, List.mem_map, mem_perms]
    have e1 : (List.range (m + 2 - 1)).drop 1 = (List.range m).map Nat.succ := by
      show (List.range (m + 1)).drop 1 = _
      rw [List.range_succ_eq_map]; rfl
    have e2 : List.range (m + 2) = 0 :: ((List.range m).map Nat.succ ++ [m + 1]) := by
      rw [List.range_succ, List.range_succ_eq_map]; rfl
    have e3 : m + 2 - 1 = m + 1 := rfl
    rw [e1, e2, e3]
    constructor
    · rintro ⟨p, hp, rfl⟩
      refine ⟨?_, rfl, List.getLast?_eq_some_iff.mpr ⟨0 :: p, rfl⟩⟩
      exact (List.perm_cons 0).mpr ((List.perm_append_right_iff _).mpr hp)
    · rintro ⟨hp, hh, hl⟩
      obtain ⟨t, rfl⟩ := List.head?_eq_some_iff.mp hh
      obtain ⟨ys, hys⟩ := List.getLast?_eq_some_iff.mp hl
      cases ys with
      | nil => simp at hys
      | cons y p =>
        simp only [List.cons_append, List.cons.injEq] at hys
        obtain ⟨_, rfl⟩ := hys
        exact ⟨p, (List.perm_append_right_iff _).mp ((List.perm_cons 0).mp hp), rfl⟩

/-- **sop**: for `n ≥ 1` jobs and a matrix in which no job is its own predecessor, the specification returns
    the minimum cost of a feasible sequence, and `-1` exactly when there is none (or when `-1` happens to be
    the minimum cost, which needs negative distances) -/
theorem sop_spec_adequate (n : Nat) (hn : 1 ≤ n) (d : Nat → Nat → Int) (hdiag : ∀ i, i < n → d i i ≠ -1)
    (v : Int) :
    Sop.spec n d = v ↔ IsOptSop n d v ∨ ((¬ ∃ seq, SopD.Feasible n d seq) ∧ v = -1) := by
  simp only [Sop.spec, Tour.sop_minimum_eq]
  refine minOf_getD_iff (fun x => ?_) (-1) v
  simp only [List.mem_map, List.mem_filter, sop_mem_seqs n hn, sop_respects, sop_cost]
  exact ⟨fun ⟨seq, ⟨⟨hp, hh, hl⟩, hr⟩, e⟩ => ⟨seq, ⟨hp, hh, hl, (sop_prec hp hdiag).mp hr⟩, e⟩,
    fun ⟨seq, ⟨hp, hh, hl, hr⟩, e⟩ => ⟨seq, ⟨⟨hp, hh, hl⟩, (sop_prec hp hdiag).mpr hr⟩, e⟩⟩

theorem sop_spec_feasible (n : Nat) (hn : 1 ≤ n) (d : Nat → Nat → Int) (hdiag : ∀ i, i < n → d i i ≠ -1)
    (hf : ∃ seq, SopD.Feasible n d seq) (v : Int) : Sop.spec n d = v ↔ IsOptSop n d v :=
  (sop_spec_adequate n hn d hdiag v).trans (or_iff_left fun h => h.1 hf)

theorem sop_spec_infeasible (n : Nat) (hn : 1 ≤ n) (d : Nat → Nat → Int) (hdiag : ∀ i, i < n → d i i ≠ -1)
    (hf : ¬ ∃ seq, SopD.Feasible n d seq) : Sop.spec n d = -1 :=
  (sop_spec_adequate n hn d hdiag (-1)).mpr (Or.inr ⟨hf, rfl⟩)

/-- a past failure of the sop example (corpus `C16/cases.txt`): 6 jobs, one precedence (3 before 2) -/
example : Sop.specFromTokens [6, 0, 6, 6, 4, 4, 4, -1, 0, 2, 4, 4, 2, -1, 2, 0, -1, 2, 6, -1, 4, 4, 0, 6, 6,
    -1, 4, 0, 6, 0, 4, -1, -1, -1, -1, -1, 0] = some 14 := by decide +kernel

/-- cyclic precedences (1 before 4 before 1, finding D11): no solution, the program must print `-1` -/
example : Sop.specFromTokens [6, 0, 1, 0, 1, 0, 1000000, -1, 0, 0, 0, -1, 0, -1, 0, 0, -1, 1, 0, -1, -1, 1, 0,
    0, 0, -1, -1, 1, 0, 0, 1, -1, -1, -1, -1, -1, 0] = some (-1) := by decide +kernel

/-- the hypothesis `hdiag` of `sop_spec_adequate` is needed: the specification ignores a `-1` on the diagonal
    ("job 1 before itself", unsatisfiable if the statement is read literally) -/
example : Sop.specFromTokens [3, 0, 1, 1, -1, -1, 1, -1, -1, 0] = some 2 := by decide +kernel

/-! ## srflp (single-row facility layout)

A solution is an order (permutation) of the departments `0 … n-1`; its cost (to be minimised) is the sum over all
pairs of positions `a < b` of the flow between the two departments times the distance between their centres.
The specification and the statement below both use TWICE the distance, to stay in the integers. -/
namespace SrflpD

def Feasible (n : Nat) (order : List Nat) : Prop := order.Perm (List.range n)

/-- the flow between two departments, read from the upper triangle of `c` -/
def flow (c : Nat → Nat → Int) (i j : Nat) : Int := c (min i j) (max i j)

/-- TWICE the distance between the centres of the departments placed at positions `a < b` of the order: the
    length of each of the two departments plus twice the lengths of the departments placed between them -/
def dist2 (l : Nat → Int) (order : List Nat) (a b : Nat) : Int :=
  l (order.getD a 0) + l (order.getD b 0) + 2 * (((order.take b).drop (a + 1)).map l).sum

/-- TWICE the cost of an order: `Σ_{a < b} flow(order[a], order[b]) * 2 distance(a, b)` over the pairs of positions -/
def cost2 (l : Nat → Int) (c : Nat → Nat → Int) (order : List Nat) : Int :=
  sumRange order.length fun b => sumRange b fun a =>
    flow c (order.getD a 0) (order.getD b 0) * dist2 l order a b

end SrflpD

def IsOptSrflp (n : Nat) (l : Nat → Int) (c : Nat → Nat → Int) (v : Int) : Prop :=
  IsMinOf (SrflpD.Feasible n) (SrflpD.cost2 l c) v

theorem srflp_pairsFrom (l : Nat → Int) (c : Nat → Nat → Int) (i : Nat) (B : Int) (rest : List Nat) :
    Srflp.pairsFrom l c i B rest = sumRange rest.length fun b =>
      SrflpD.flow c i (rest.getD b 0) * (l i + l (rest.getD b 0) + B + 2 * ((rest.take b).map l).sum) := by
  induction rest generalizing B with
  | nil => rfl
  | cons j rest ih =>
    rw [Srflp.pairsFrom, ih, List.length_cons, sumRange_succ']
    congr 1
    · simp [SrflpD.flow]
    · apply sumRange_congr
      intro b _
      simp only [List.getD_cons_succ, List.take_succ_cons, List.map_cons, List.sum_cons]
      congr 1
      omega

theorem srflp_cost2 (l : Nat → Int) (c : Nat → Nat → Int) (order : List Nat) :
    Srflp.cost2 l c order = SrflpD.cost2 l c order := by
  induction order with
  | nil => rfl
  | cons i rest ih =>
    rw [Srflp.cost2, ih, srflp_pairsFrom]
    simp only [SrflpD.cost2, List.length_cons, sumRange_succ', sumRange_zero, sumRange_add, Int.zero_add]
    congr 1
    · apply sumRange_congr
      intro b _
      simp [SrflpD.dist2]

/-- **srflp**: the specification returns TWICE the minimum cost of an order of the departments (every order is a
    solution, so the default `-2` is never returned) -/
theorem srflp_spec_adequate (n : Nat) (l : Nat → Int) (c : Nat → Nat → Int) (v : Int) :
    Srflp.spec n l c = v ↔ IsOptSrflp n l c v :=
  perms_spec srflp_perms (srflp_cost2 l c) n (-2) v

/-- three departments of lengths 1, 2, 3 and flows c01 = 1, c02 = 2, c12 = 3: an optimal order is `1 0 2`
    (2·cost = 1·3 + 3·7 + 2·4 = 32; the program prints `16`) -/
example : Srflp.specFromTokens [3, 1, 2, 3, 0, 1, 2, 1, 0, 3, 2, 3, 0] = some 32 := by decide +kernel

/-! ## talentsched (talent scheduling)

A solution is an order (permutation) of the scenes `0 … n-1`; every actor is paid for each scene shot between
the first and the last scene he plays in (both included); the total pay is to be minimised. -/
namespace TalentD

def Feasible (nScenes : Nat) (order : List Nat) : Prop := order.Perm (List.range nScenes)

/-- the actor is on location while the `k`-th scene of the order is shot: he plays in one of the scenes shot up
    to then (that one included) and in one of the scenes shot from then on (that one included) -/
def present (plays : Nat → Bool) (order : List Nat) (k : Nat) : Bool :=
  (order.take (k + 1)).any plays && (order.drop k).any plays

/-- total pay: every actor is paid his daily cost for the duration of each scene during which he is on location -/
def pay (nActors : Nat) (plays : Nat → Nat → Bool) (cost duration : Nat → Int) (order : List Nat) : Int :=
  sumRange nActors fun a => cost a * sumRange order.length fun k =>
    if present (plays a) order k then duration (order.getD k 0) else 0

end TalentD

def IsOptTalentsched (nScenes nActors : Nat) (plays : Nat → Nat → Bool) (cost duration : Nat → Int)
    (v : Int) : Prop :=
  IsMinOf (TalentD.Feasible nScenes) (TalentD.pay nActors plays cost duration) v

theorem talent_trimR (p : Nat → Bool) (g : Nat → Int) (m : List Nat) :
    ((m.reverse.dropWhile fun s => !p s).map g).sum =
      sumRange m.length fun k => if (m.drop k).any p then g (m.getD k 0) else 0 := by
  induction m with
  | nil => rfl
  | cons y ys ih =>
    have hA : (ys.reverse.dropWhile fun s => !p s).isEmpty = !ys.any p := by
      rw [dropWhile_isEmpty, List.all_reverse, all_not_eq]
    have hshift : (sumRange ys.length fun i =>
        if ((y :: ys).drop (i + 1)).any p then g ((y :: ys).getD (i + 1) 0) else 0) =
        ((ys.reverse.dropWhile fun s => !p s).map g).sum := by rw [ih]; rfl
    rw [List.length_cons, sumRange_succ', hshift, List.reverse_cons, List.dropWhile_append, hA]
    cases hys : ys.any p with
    | false =>
      have hnil : (ys.reverse.dropWhile fun s => !p s) = [] :=
        List.isEmpty_iff.mp (by rw [hA, hys]; rfl)
      rw [hnil]
      cases hy : p y <;> simp [hy, hys]
    | true =>
      simp [hys, List.sum_append]; omega

/-- the scenes kept by `Talentsched.onLocation` are those during which the actor is `present` -/
theorem talent_onLocation (p : Nat → Bool) (g : Nat → Int) (l : List Nat) :
    ((Talentsched.onLocation p l).map g).sum =
      sumRange l.length fun k => if TalentD.present p l k then g (l.getD k 0) else 0 := by
  induction l with
  | nil => rfl
  | cons x xs ih =>
    cases hx : p x with
    | false =>
      have e : Talentsched.onLocation p (x :: xs) = Talentsched.onLocation p xs := by
        simp [Talentsched.onLocation, hx]
      rw [e, ih, List.length_cons, sumRange_succ']
      have h0 : TalentD.present p (x :: xs) 0 = false := by simp [TalentD.present, hx]
      rw [h0]
      simp only [Bool.false_eq_true, if_false, Int.zero_add]
      apply sumRange_congr
      intro k _
      simp [TalentD.present, hx]
    | true =>
      have e : Talentsched.onLocation p (x :: xs) = ((x :: xs).reverse.dropWhile fun s => !p s) := by
        simp [Talentsched.onLocation, hx]
      rw [e, talent_trimR]
      apply sumRange_congr
      intro k _
      simp [TalentD.present, hx]

theorem talent_pay (nActors : Nat) (plays : Nat → Nat → Bool) (cost duration : Nat → Int) (order : List Nat) :
    Talentsched.pay nActors plays cost duration order = TalentD.pay nActors plays cost duration order := by
  simp only [Talentsched.pay, TalentD.pay, talent_sum, talent_onLocation]
  rfl

/-- **talentsched**: the specification returns the minimum total pay over all orders of the scenes (every order
    is a solution, so the default `-1` is never returned) -/
theorem talentsched_spec_adequate (nScenes nActors : Nat) (plays : Nat → Nat → Bool)
    (cost duration : Nat → Int) (v : Int) :
    Talentsched.spec nScenes nActors plays cost duration = v ↔
      IsOptTalentsched nScenes nActors plays cost duration v :=
  perms_spec talent_perms (talent_pay nActors plays cost duration) nScenes (-1) v

/-- 3 scenes (durations 1, 2, 3) and 2 actors: actor 0 (cost 10) plays in scenes 0 and 2, actor 1 (cost 1) in
    scenes 0 and 1.  Shooting `1 0 2` keeps actor 0 for 4 days and actor 1 for 3 days: 43 -/
example : Talentsched.specFromTokens [3, 2, 1, 0, 1, 10, 1, 1, 0, 1, 1, 2, 3] = some 43 := by decide +kernel

/-! ## psp (pigment sequencing / discrete lot sizing)

A solution is a production plan (per period: idle, or one unit of an item) whose cumulated production covers the
cumulated demand of every item at the end of every period and equals it at the end of the horizon; its cost (to be
minimised) is the stocking cost plus the changeover costs between consecutively produced items. -/
namespace PspD

/-- a production plan: one entry per period `0 … T-1`, `none` = idle, `some i` = one unit of item `i < n` -/
def IsPlan (I : Psp.Inst) (p : Psp.Plan) : Prop := p.length = I.T ∧ ∀ i, some i ∈ p → i < I.n

def produced (p : Psp.Plan) (i t : Nat) : Nat := (p.take (t + 1)).count (some i)

def due (I : Psp.Inst) (i t : Nat) : Int := ((I.d.getD i []).take (t + 1)).sum

def stock (I : Psp.Inst) (p : Psp.Plan) (i t : Nat) : Int := (produced p i t : Int) - due I i t

structure Feasible (I : Psp.Inst) (p : Psp.Plan) : Prop where
  plan : IsPlan I p
  noBacklog : ∀ i t, i < I.n → t < I.T → 0 ≤ stock I p i t
  noExcess : ∀ i, i < I.n → stock I p i (I.T - 1) = 0

/-- `h[i]` per unit of item `i` in stock at the end of each period -/
def stocking (I : Psp.Inst) (p : Psp.Plan) : Int :=
  sumRange I.n fun i => sumRange I.T fun t => I.h.getD i 0 * stock I p i t

/-- `q[a][b]` for every two consecutively PRODUCED items `a`, `b` (idle periods skipped) -/
def changeover (I : Psp.Inst) (p : Psp.Plan) : Int :=
  let made := p.filterMap id
  ((made.zip made.tail).map fun (a, b) => (I.q.getD a []).getD b 0).sum

def cost (I : Psp.Inst) (p : Psp.Plan) : Int := stocking I p + changeover I p

end PspD

def IsOptPsp (I : Psp.Inst) (v : Int) : Prop := IsMinOf (PspD.Feasible I) (PspD.cost I) v

theorem psp_stock (I : Psp.Inst) (p : Psp.Plan) (i t : Nat) : Psp.stock I p i t = PspD.stock I p i t := by
  simp [Psp.stock, PspD.stock, PspD.produced, PspD.due, sum_eq]

theorem psp_feasible (I : Psp.Inst) (p : Psp.Plan) :
    Psp.feasible I p = true ↔
      (∀ i t, i < I.n → t < I.T → 0 ≤ PspD.stock I p i t) ∧ ∀ i, i < I.n → PspD.stock I p i (I.T - 1) = 0 := by
  simp only [Psp.feasible, List.all_eq_true, List.mem_range, Bool.and_eq_true, decide_eq_true_eq,
    beq_iff_eq, psp_stock, ge_iff_le]
  constructor
  · intro h; exact ⟨fun i t hi ht => (h i hi).1 t ht, fun i hi => (h i hi).2⟩
  · rintro ⟨h1, h2⟩ i hi; exact ⟨fun t ht => h1 i t hi ht, h2 i hi⟩

theorem psp_stockingCost (I : Psp.Inst) (p : Psp.Plan) : Psp.stockingCost I p = PspD.stocking I p := by
  simp only [Psp.stockingCost, PspD.stocking, sum_eq, psp_stock]
  rfl

theorem psp_changeoverCost (I : Psp.Inst) (l : List Nat) :
    Psp.changeoverCost I l = ((l.zip l.tail).map fun (a, b) => (I.q.getD a []).getD b 0).sum :=
  sum_consecutive (g := fun a b => (I.q.getD a []).getD b 0) rfl (fun _ => rfl) (fun _ _ _ => rfl) l

theorem psp_mem_dom (n : Nat) (x : Option Nat) :
    x ∈ (none :: (List.range n).map some) ↔ ∀ i, x = some i → i < n := by
  cases x with
  | none => simp
  | some j => simp

theorem psp_values (I : Psp.Inst) (x : Int) :
    x ∈ (tuples (none :: (List.range I.n).map some) I.T).filterMap (fun p =>
        if Psp.feasible I p then some (Psp.stockingCost I p + Psp.changeoverCost I (p.filterMap id))
        else none) ↔
      ∃ p, PspD.Feasible I p ∧ PspD.cost I p = x := by
  rw [mem_filterMap_ite]
  simp only [mem_tuples, psp_mem_dom, psp_feasible, psp_stockingCost, psp_changeoverCost]
  constructor
  · rintro ⟨p, ⟨hlen, hdom⟩, ⟨h1, h2⟩, rfl⟩
    exact ⟨p, ⟨⟨hlen, fun i hi => hdom _ hi i rfl⟩, h1, h2⟩, rfl⟩
  · rintro ⟨p, ⟨⟨hlen, hdom⟩, h1, h2⟩, rfl⟩
    exact ⟨p, ⟨hlen, fun y hy i hi => hdom i (hi ▸ hy)⟩, ⟨h1, h2⟩, rfl⟩

/-- **psp**: the specification returns the minimum total stocking + changeover cost of a production plan that
    meets every demand in time, and `-1` exactly when no such plan exists (or when `-1` happens to be the
    minimum cost, which needs negative costs) -/
theorem psp_spec_adequate (I : Psp.Inst) (v : Int) :
    Psp.best I = v ↔ IsOptPsp I v ∨ ((¬ ∃ p, PspD.Feasible I p) ∧ v = -1) := by
  simp only [Psp.best]
  exact minOf_getD_iff (psp_values I) (-1) v

theorem psp_spec_feasible (I : Psp.Inst) (hf : ∃ p, PspD.Feasible I p) (v : Int) :
    Psp.best I = v ↔ IsOptPsp I v :=
  (psp_spec_adequate I v).trans (or_iff_left fun h => h.1 hf)

theorem psp_spec_infeasible (I : Psp.Inst) (hf : ¬ ∃ p, PspD.Feasible I p) : Psp.best I = -1 :=
  (psp_spec_adequate I (-1)).mpr (Or.inr ⟨hf, rfl⟩)

/-- a past failure of the psp example (corpus `C16/cases.txt`, finding D11): `T = 2`, 2 items, item 0 is due in both periods
    and item 1 in period 0: three units in two periods, no solution -/
example : Psp.specFromTokens [2, 2, 0, 0, 0, 0, 5, 0, 1, 1, 1, 0] = some (-1) := by decide +kernel

/-- `T = 3`, item 0 due at the end of periods 0 and 2, item 1 at the end of period 2; `q01 = 3`, `q10 = 1`,
    `h = (5, 1)`: producing `0 1 0` costs one period of stock of item 1 plus both changeovers = 5,
    `0 0 1` costs one period of stock of item 0 plus one changeover = 8, `0 _ …` is impossible -/
example : Psp.specFromTokens [3, 2, 0, 3, 1, 0, 5, 1, 1, 0, 1, 0, 0, 1] = some 5 := by decide +kernel

/-! ## tsptw (travelling salesman with time windows, makespan objective)

A solution is the list of the visits `(node, time)` of a tour: depot at time 0, every other node exactly once,
back to the depot; between consecutive visits the clock advances by the travel time, the arrival must not be
later than the closing of the window and the salesman waits for its opening.  The objective (to be minimised) is
the time of the last visit (the return to the depot). -/
namespace TsptwD

/-- between two consecutive visits `a = (i, tᵢ)`, `b = (j, tⱼ)` (node, time at which the salesman is ready to
    leave it): he arrives at `j` at `tᵢ + d i j`, not after `latest j`, and is ready at that time or at
    `earliest j`, whichever is later -/
def Step (d : Nat → Nat → Int) (earliest latest : Nat → Int) (a b : Nat × Int) : Prop :=
  a.2 + d a.1 b.1 ≤ latest b.1 ∧ b.2 = max (a.2 + d a.1 b.1) (earliest b.1)

/-- a solution is a list of visits `(node, time)`: it starts at the depot `0` at time `0`, then visits every other
    node `1 … n-1` exactly once, then returns to the depot; every two consecutive visits satisfy `Step` -/
structure Feasible (n : Nat) (d : Nat → Nat → Int) (earliest latest : Nat → Int)
    (vs : List (Nat × Int)) : Prop where
  start : vs.head? = some (0, 0)
  tour : ∃ p : List Nat, p.Perm ((List.range n).drop 1) ∧ vs.map (·.1) = 0 :: (p ++ [0])
  steps : ∀ x ∈ vs.zip vs.tail, Step d earliest latest x.1 x.2

def cost (vs : List (Nat × Int)) : Int := (vs.getLast?.map (·.2)).getD 0

end TsptwD

def IsOptTsptw (n : Nat) (d : Nat → Nat → Int) (earliest latest : Nat → Int) (v : Int) : Prop :=
  IsMinOf (TsptwD.Feasible n d earliest latest) TsptwD.cost v

/-- the clock simulation `Tsptw.finish` succeeds with `T` iff the route can be completed into a list of visits
    satisfying `Step` and ending at time `T` -/
theorem tsptw_finish (d : Nat → Nat → Int) (e l : Nat → Int) (route : List Nat) (i : Nat) (t T : Int) :
    Tsptw.finish d e l i t route = some T ↔
      ∃ vs : List (Nat × Int), vs.map (·.1) = route ∧
        (∀ x ∈ ((i, t) :: vs).zip vs, TsptwD.Step d e l x.1 x.2) ∧ TsptwD.cost ((i, t) :: vs) = T := by
  induction route generalizing i t with
  | nil =>
    simp only [Tsptw.finish, Option.some.injEq, List.map_eq_nil_iff]
    constructor
    · rintro rfl; exact ⟨[], rfl, by simp, rfl⟩
    · rintro ⟨vs, rfl, _, h⟩; exact h
  | cons j rest ih =>
    simp only [Tsptw.finish]
    constructor
    · intro h
      split at h
      · rename_i harr
        obtain ⟨vs', hmap, hsteps, hlast⟩ := (ih _ _).mp h
        refine ⟨(j, max (t + d i j) (e j)) :: vs', by simp [hmap], ?_, ?_⟩
        · intro x hx
          simp only [List.zip_cons_cons, List.mem_cons] at hx
          rcases hx with rfl | hx
          · exact ⟨harr, rfl⟩
          · exact hsteps x hx
        · simpa [TsptwD.cost] using hlast
      · cases h
    · rintro ⟨vs, hmap, hsteps, hlast⟩
      cases vs with
      | nil => simp at hmap
      | cons v vs' =>
        obtain ⟨j', t'⟩ := v
        simp only [List.map_cons, List.cons.injEq] at hmap
        obtain ⟨rfl, hmap⟩ := hmap
        have h0 := hsteps ((i, t), (j', t')) (by simp)
        obtain ⟨harr, ht'⟩ := h0
        simp only at harr ht'
        rw [if_pos harr, ← ht']
        refine (ih _ _).mpr ⟨vs', hmap, fun x hx => hsteps x ?_, ?_⟩
        · simp only [List.zip_cons_cons, List.mem_cons]; exact Or.inr hx
        · simpa [TsptwD.cost] using hlast

/-- **tsptw**: the specification returns the earliest time at which a tour respecting the time windows can end,
    and `-1` exactly when there is no such tour (or when `-1` happens to be that time, which needs negative
    travel times or windows) -/
theorem tsptw_spec_adequate (n : Nat) (d : Nat → Nat → Int) (earliest latest : Nat → Int) (v : Int) :
    Tsptw.spec n d earliest latest = v ↔
      IsOptTsptw n d earliest latest v ∨ ((¬ ∃ vs, TsptwD.Feasible n d earliest latest vs) ∧ v = -1) := by
  simp only [Tsptw.spec, Tour.tsptw_minimum_eq]
  refine minOf_getD_iff (fun x => ?_) (-1) v
  simp only [List.mem_filterMap, List.mem_map, Tour.tsptw_perms_eq, mem_perms, tsptw_finish]
  constructor
  · rintro ⟨_, ⟨p, hp, rfl⟩, vs, hmap, hsteps, hcost⟩
    exact ⟨(0, 0) :: vs, ⟨rfl, ⟨p, hp, by simp [hmap]⟩, hsteps⟩, hcost⟩
  · rintro ⟨vs, ⟨hstart, ⟨p, hp, hmap⟩, hsteps⟩, hcost⟩
    obtain ⟨vs', rfl⟩ := List.head?_eq_some_iff.mp hstart
    simp only [List.map_cons, List.cons.injEq, true_and] at hmap
    exact ⟨p ++ [0], ⟨p, hp, rfl⟩, vs', hmap, hsteps, hcost⟩

theorem tsptw_spec_feasible (n : Nat) (d : Nat → Nat → Int) (earliest latest : Nat → Int)
    (hf : ∃ vs, TsptwD.Feasible n d earliest latest vs) (v : Int) :
    Tsptw.spec n d earliest latest = v ↔ IsOptTsptw n d earliest latest v :=
  (tsptw_spec_adequate n d earliest latest v).trans (or_iff_left fun h => h.1 hf)

theorem tsptw_spec_infeasible (n : Nat) (d : Nat → Nat → Int) (earliest latest : Nat → Int)
    (hf : ¬ ∃ vs, TsptwD.Feasible n d earliest latest vs) : Tsptw.spec n d earliest latest = -1 :=
  (tsptw_spec_adequate n d earliest latest (-1)).mpr (Or.inr ⟨hf, rfl⟩)

/-- a past failure of the tsptw example (corpus `C16/cases.txt`): 5 nodes, no binding window, optimum `4.00` -/
example : Tsptw.specFromTokens [5, 0, 100, 100, 100, 200, 200, 0, 200, 200, 200, 100, 100, 0, 0, 100, 100, 200,
    200, 0, 100, 0, 100, 100, 100, 0, 0, 100000, 0, 100000, 0, 100000, 0, 100000, 0, 100000] = some 400 := by
  decide +kernel

/-- 3 nodes: node 2 closes at 5 and node 1 opens at 10, so the tour must be `0 2 1 0` and waits at node 1 -/
example : Tsptw.specFromTokens [3, 0, 1, 4, 1, 0, 2, 4, 2, 0, 0, 100, 10, 100, 0, 5] = some 11 := by decide +kernel

/-- the same with node 1 closing at time 0: it cannot be reached in time, no feasible tour -/
example : Tsptw.specFromTokens [3, 0, 1, 4, 1, 0, 2, 4, 2, 0, 0, 100, 0, 0, 0, 5] = some (-1) := by decide +kernel

/-! ## alp (aircraft landing, several runways, cost = total delay)

A solution assigns a runway and a landing time within `[target, latest]` to every aircraft, such that on each
runway the landings can be ordered with every aircraft separated from ALL the earlier ones.  The specification
enumerates landing orders and runway assignments and lands every aircraft as early as possible: the theorem shows
that this greedy choice is sound and dominant, i.e. that nothing is lost w.r.t. arbitrary landing times. -/
namespace AlpD

/-- a solution gives every aircraft `a < n` a runway `rw a < r` and a landing time `t a` within
    `[target a, latest a]`, such that the aircraft can be listed in an order in which every aircraft is separated
    (by `sep` of the two classes) from ALL the aircraft listed before it that use the same runway.  (One global
    list instead of one list per runway: concatenate the lists of the runways / restrict the global list.) -/
structure Feasible (n r : Nat) (I : Alp.Inst) (s : (Nat → Nat) × (Nat → Int)) : Prop where
  runway : ∀ a, a < n → s.1 a < r
  window : ∀ a, a < n → I.target a ≤ s.2 a ∧ s.2 a ≤ I.latest a
  separated : ∃ order : List Nat, order.Perm (List.range n) ∧
    order.Pairwise fun a b => s.1 a = s.1 b → s.2 a + I.sep (I.cls a) (I.cls b) ≤ s.2 b

def cost (n : Nat) (I : Alp.Inst) (s : (Nat → Nat) × (Nat → Int)) : Int :=
  sumRange n fun a => s.2 a - I.target a

end AlpD

def IsOptAlp (n r : Nat) (I : Alp.Inst) (v : Int) : Prop := IsMinOf (AlpD.Feasible n r I) (AlpD.cost n I) v

/-- the earliest time at which aircraft `a` can land on runway `rw` after the aircraft of `landed` -/
def alpEarliest (I : Alp.Inst) (a rw : Nat) (landed : List (Nat × Nat × Int)) (init : Int) : Int :=
  landed.foldl (fun t (rw', a', t') =>
    if rw' = rw then max t (t' + I.sep (I.cls a') (I.cls a)) else t) init

theorem alp_delay_cons (I : Alp.Inst) (a rw : Nat) (todo : List (Nat × Nat)) (landed : List (Nat × Nat × Int)) :
    Alp.delay I ((a, rw) :: todo) landed =
      if alpEarliest I a rw landed (I.target a) ≤ I.latest a then
        (Alp.delay I todo ((rw, a, alpEarliest I a rw landed (I.target a)) :: landed)).map
          (fun rest => (alpEarliest I a rw landed (I.target a) - I.target a) + rest)
      else none := by
  rw [Alp.delay]; rfl

theorem alpEarliest_spec (I : Alp.Inst) (a rw : Nat) (landed : List (Nat × Nat × Int)) (init : Int) :
    init ≤ alpEarliest I a rw landed init ∧
    (∀ x ∈ landed, x.1 = rw → x.2.2 + I.sep (I.cls x.2.1) (I.cls a) ≤ alpEarliest I a rw landed init) ∧
    (∀ B, init ≤ B → (∀ x ∈ landed, x.1 = rw → x.2.2 + I.sep (I.cls x.2.1) (I.cls a) ≤ B) →
      alpEarliest I a rw landed init ≤ B) := by
  induction landed generalizing init with
  | nil => simp [alpEarliest]
  | cons x rest ih =>
    obtain ⟨rw', a', t'⟩ := x
    have e : alpEarliest I a rw ((rw', a', t') :: rest) init =
        alpEarliest I a rw rest (if rw' = rw then max init (t' + I.sep (I.cls a') (I.cls a)) else init) := rfl
    by_cases hrw : rw' = rw
    · rw [if_pos hrw] at e
      rw [e]
      obtain ⟨h1, h2, h3⟩ := ih (max init (t' + I.sep (I.cls a') (I.cls a)))
      refine ⟨by omega, ?_, ?_⟩
      · intro x hx hx'
        rcases List.mem_cons.mp hx with rfl | hx
        · simp only; omega
        · exact h2 x hx hx'
      · intro B hB hall
        apply h3 B
        · have := hall (rw', a', t') List.mem_cons_self hrw
          simp only at this; omega
        · exact fun x hx => hall x (List.mem_cons_of_mem _ hx)
    · rw [if_neg hrw] at e
      rw [e]
      obtain ⟨h1, h2, h3⟩ := ih init
      refine ⟨h1, ?_, ?_⟩
      · intro x hx hx'
        rcases List.mem_cons.mp hx with rfl | hx
        · exact absurd hx' hrw
        · exact h2 x hx hx'
      · intro B hB hall
        exact h3 B hB (fun x hx => hall x (List.mem_cons_of_mem _ hx))

/-- soundness of the greedy landing times: when `Alp.delay` succeeds, the times it computed form a schedule of
    the aircraft of `l` (in that listing order, on the runways `rw`) whose total delay is the returned value -/
theorem alp_delay_sound (I : Alp.Inst) (rw : Nat → Nat) (l : List Nat) (hnd : l.Nodup)
    (landed : List (Nat × Nat × Int)) (v : Int)
    (h : Alp.delay I (l.map fun a => (a, rw a)) landed = some v) :
    ∃ t : Nat → Int,
      (∀ a ∈ l, I.target a ≤ t a ∧ t a ≤ I.latest a) ∧
      (∀ a ∈ l, ∀ x ∈ landed, x.1 = rw a → x.2.2 + I.sep (I.cls x.2.1) (I.cls a) ≤ t a) ∧
      l.Pairwise (fun a b => rw a = rw b → t a + I.sep (I.cls a) (I.cls b) ≤ t b) ∧
      v = (l.map fun a => t a - I.target a).sum := by
  induction l generalizing landed v with
  | nil =>
    simp only [List.map_nil, Alp.delay, Option.some.injEq] at h
    exact ⟨fun _ => 0, by simp, by simp, List.Pairwise.nil, by simp [← h]⟩
  | cons a l' ih =>
    obtain ⟨ha, hl'⟩ := List.nodup_cons.mp hnd
    rw [List.map_cons, alp_delay_cons] at h
    obtain ⟨e1, e2, _⟩ := alpEarliest_spec I a (rw a) landed (I.target a)
    generalize alpEarliest I a (rw a) landed (I.target a) = t0 at h e1 e2
    split at h
    · rename_i hlat
      obtain ⟨rest, hrest, rfl⟩ := Option.map_eq_some_iff.mp h
      obtain ⟨t', w1, w2, w3, w4⟩ := ih hl' _ _ hrest
      have hne : ∀ x ∈ l', x ≠ a := fun x hx e => ha (e ▸ hx)
      have ht : ∀ x ∈ l', (if x = a then t0 else t' x) = t' x := fun x hx => by simp [hne x hx]
      refine ⟨fun x => if x = a then t0 else t' x, ?_, ?_, ?_, ?_⟩
      · intro x hx
        rcases List.mem_cons.mp hx with rfl | hx
        · simp only [if_true]; exact ⟨e1, hlat⟩
        · simp only [ht x hx]; exact w1 x hx
      · intro x hx y hy hrw
        rcases List.mem_cons.mp hx with rfl | hx
        · simp only [if_true]; exact e2 y hy hrw
        · simp only [ht x hx]; exact w2 x hx y (List.mem_cons_of_mem _ hy) hrw
      · refine List.pairwise_cons.mpr ⟨?_, ?_⟩
        · intro b hb hrw
          simp only [if_true, ht b hb]
          exact w2 b hb (rw a, a, t0) List.mem_cons_self hrw
        · refine List.Pairwise.imp_of_mem ?_ w3
          intro x y hx hy hxy hrw
          simp only [ht x hx, ht y hy]; exact hxy hrw
      · simp only [List.map_cons, List.sum_cons, if_true]
        rw [w4]
        congr 1
        congr 1
        apply List.map_congr_left
        intro x hx
        simp only [ht x hx]
    · cases h

/-- dominance of the greedy landing times: whenever the aircraft of `l` can be scheduled in that listing order at
    the times `t`, `Alp.delay` succeeds and its total delay is not larger -/
theorem alp_delay_dominant (I : Alp.Inst) (rw : Nat → Nat) (t : Nat → Int) (l : List Nat)
    (landed : List (Nat × Nat × Int))
    (hwin : ∀ a ∈ l, I.target a ≤ t a ∧ t a ≤ I.latest a)
    (hland : ∀ a ∈ l, ∀ x ∈ landed, x.1 = rw a → x.2.2 + I.sep (I.cls x.2.1) (I.cls a) ≤ t a)
    (hpair : l.Pairwise (fun a b => rw a = rw b → t a + I.sep (I.cls a) (I.cls b) ≤ t b)) :
    ∃ v, Alp.delay I (l.map fun a => (a, rw a)) landed = some v ∧
      v ≤ (l.map fun a => t a - I.target a).sum := by
  induction l generalizing landed with
  | nil => exact ⟨0, by simp [Alp.delay], by simp⟩
  | cons a l' ih =>
    obtain ⟨hpa, hpl'⟩ := List.pairwise_cons.mp hpair
    obtain ⟨_, _, e3⟩ := alpEarliest_spec I a (rw a) landed (I.target a)
    have ht0 := e3 (t a) (hwin a List.mem_cons_self).1 (hland a List.mem_cons_self)
    rw [List.map_cons, alp_delay_cons]
    generalize alpEarliest I a (rw a) landed (I.target a) = t0 at ht0
    have hlat := (hwin a List.mem_cons_self).2
    rw [if_pos (by omega)]
    obtain ⟨v', hv', hle⟩ := ih ((rw a, a, t0) :: landed)
      (fun b hb => hwin b (List.mem_cons_of_mem _ hb))
      (by
        intro b hb x hx hrw
        rcases List.mem_cons.mp hx with rfl | hx
        · have := hpa b hb hrw
          simp only; omega
        · exact hland b (List.mem_cons_of_mem _ hb) x hx hrw)
      hpl'
    refine ⟨(t0 - I.target a) + v', by rw [hv']; rfl, ?_⟩
    simp only [List.map_cons, List.sum_cons]
    omega

theorem alp_mem_values (n r : Nat) (I : Alp.Inst) (x : Int) :
    x ∈ (Alp.perms (List.range n)).flatMap (fun o =>
          (Alp.assignments r n).filterMap (fun rs => Alp.delay I (o.zip rs) [])) ↔
      ∃ o : List Nat, o.Perm (List.range n) ∧ ∃ rw : Nat → Nat, (∀ a ∈ o, rw a < r) ∧
        Alp.delay I (o.map fun a => (a, rw a)) [] = some x := by
  simp only [List.mem_flatMap, List.mem_filterMap, alp_perms, mem_perms, alp_assignments, mem_tuples,
    List.mem_range]
  constructor
  · rintro ⟨o, ho, rs, ⟨hlen, hr⟩, hd⟩
    have hnd : o.Nodup := ho.symm.nodup List.nodup_range
    have hlen' : rs.length = o.length := by rw [hlen, ho.length_eq, List.length_range]
    obtain ⟨rw, rfl⟩ := exists_map_eq hnd rs hlen' 0
    refine ⟨o, ho, rw, fun a ha => hr _ (List.mem_map_of_mem ha), ?_⟩
    rw [← zip_map_self]; exact hd
  · rintro ⟨o, ho, rw, hr, hd⟩
    refine ⟨o, ho, o.map rw, ⟨by rw [List.length_map, ho.length_eq, List.length_range], ?_⟩, ?_⟩
    · intro y hy
      obtain ⟨a, ha, rfl⟩ := List.mem_map.mp hy
      exact hr a ha
    · rw [zip_map_self]; exact hd

theorem alp_sound (n r : Nat) (I : Alp.Inst) (x : Int)
    (hx : x ∈ (Alp.perms (List.range n)).flatMap (fun o =>
          (Alp.assignments r n).filterMap (fun rs => Alp.delay I (o.zip rs) []))) :
    ∃ s, AlpD.Feasible n r I s ∧ AlpD.cost n I s = x := by
  obtain ⟨o, ho, rw, hr, hd⟩ := (alp_mem_values n r I x).mp hx
  have hmem : ∀ a, a ∈ o ↔ a < n := fun a => ho.mem_iff.trans List.mem_range
  obtain ⟨t, w1, _, w3, w4⟩ := alp_delay_sound I rw o (ho.symm.nodup List.nodup_range) [] x hd
  refine ⟨(rw, t), ⟨fun a ha => hr a ((hmem a).mpr ha), fun a ha => w1 a ((hmem a).mpr ha), o, ho, w3⟩, ?_⟩
  rw [w4]
  exact (perm_range_sum ho _).symm

theorem alp_dominant (n r : Nat) (I : Alp.Inst) (s : (Nat → Nat) × (Nat → Int))
    (hs : AlpD.Feasible n r I s) :
    ∃ x, x ∈ (Alp.perms (List.range n)).flatMap (fun o =>
          (Alp.assignments r n).filterMap (fun rs => Alp.delay I (o.zip rs) [])) ∧ x ≤ AlpD.cost n I s := by
  obtain ⟨hrun, hwin, order, ho, hpair⟩ := hs
  have hmem : ∀ a, a ∈ order ↔ a < n := fun a => ho.mem_iff.trans List.mem_range
  obtain ⟨v, hv, hle⟩ := alp_delay_dominant I s.1 s.2 order []
    (fun a ha => hwin a ((hmem a).mp ha)) (by simp) hpair
  refine ⟨v, (alp_mem_values n r I v).mpr ⟨order, ho, s.1, fun a ha => hrun a ((hmem a).mp ha), hv⟩, ?_⟩
  rw [perm_range_sum ho] at hle
  exact hle

/-- **alp**: the specification (which only enumerates the schedules where every aircraft lands as early as the
    aircraft listed before it permit) returns the minimum total delay over ALL feasible assignments of runways and
    landing times, and `-1` exactly when there is none (a total delay is never negative: `alp_cost_nonneg`,
    `alp_spec_infeasible`) -/
theorem alp_spec_adequate (n r : Nat) (I : Alp.Inst) (v : Int) :
    Alp.spec n r I = v ↔ IsOptAlp n r I v ∨ ((¬ ∃ s, AlpD.Feasible n r I s) ∧ v = -1) := by
  simp only [Alp.spec, alp_minimum]
  exact minOf_getD_iff_of_dominant (alp_sound n r I) (alp_dominant n r I) (-1) v

/-- the delay of a feasible solution is never negative, so the output `-1` is unambiguous -/
theorem alp_cost_nonneg (n r : Nat) (I : Alp.Inst) (s : (Nat → Nat) × (Nat → Int))
    (hs : AlpD.Feasible n r I s) : 0 ≤ AlpD.cost n I s := by
  have : ∀ m, m ≤ n → 0 ≤ sumRange m fun a => s.2 a - I.target a := by
    intro m hm
    induction m with
    | zero => simp
    | succ m ih =>
      rw [sumRange_succ]
      have := ih (by omega)
      have := (hs.window m (by omega)).1
      omega
  exact this n (Nat.le_refl n)

/-- hence: the specification returns `-1` iff the instance has no solution -/
theorem alp_spec_infeasible (n r : Nat) (I : Alp.Inst) :
    Alp.spec n r I = -1 ↔ ¬ ∃ s, AlpD.Feasible n r I s := by
  rw [alp_spec_adequate]
  constructor
  · rintro (⟨⟨s, hs, hc⟩, _⟩ | ⟨h, _⟩)
    · have := alp_cost_nonneg n r I s hs; omega
    · exact h
  · exact fun h => Or.inr ⟨h, rfl⟩

theorem alp_spec_feasible (n r : Nat) (I : Alp.Inst) (hf : ∃ s, AlpD.Feasible n r I s) (v : Int) :
    Alp.spec n r I = v ↔ IsOptAlp n r I v :=
  (alp_spec_adequate n r I v).trans (or_iff_left fun h => h.1 hf)

/-- a past failure of the alp example (corpus `C16/cases.txt`, finding D11): 4 aircraft of one class, one runway, separation 6,
    windows `[3,7] [3,7] [4,7] [5,9]`: no solution -/
example : Alp.specFromTokens [4, 1, 1, 3, 7, 0, 3, 7, 0, 4, 7, 0, 5, 9, 0, 6] = some (-1) := by decide +kernel

set_option maxRecDepth 100000 in
/-- 3 aircraft (targets 0, 1, 2; classes 0, 1, 0), one runway, `sep = [[2, 3], [5, 2]]`: the best landing order is
    `0 2 1` at times 0, 2, 5 — total delay 4 (landing in file order costs 8) -/
example : Alp.specFromTokens [3, 2, 1, 0, 10, 0, 1, 10, 1, 2, 10, 0, 2, 3, 5, 2] = some 4 := by decide +kernel

end Ddo.C16

#print axioms Ddo.C16.knapsack_spec_adequate
#print axioms Ddo.C16.misp_spec_adequate
#print axioms Ddo.C16.misp_spec_ne_none
#print axioms Ddo.C16.mcp_spec_adequate
#print axioms Ddo.C16.mcp_spec_ne_none
#print axioms Ddo.C16.max2sat_spec_adequate
#print axioms Ddo.C16.max2sat_spec_ne_none
#print axioms Ddo.C16.max2sat_spec_adequate_wf
#print axioms Ddo.C16.golomb_spec_adequate
#print axioms Ddo.C16.golomb_spec_ne_none
#print axioms Ddo.C16.golomb_specFromTokens
#print axioms Ddo.C16.lcs_spec_adequate
#print axioms Ddo.C16.lcs_spec_none
#print axioms Ddo.C16.sop_spec_adequate
#print axioms Ddo.C16.srflp_spec_adequate
#print axioms Ddo.C16.talentsched_spec_adequate
#print axioms Ddo.C16.psp_spec_adequate
#print axioms Ddo.C16.tsptw_spec_adequate
#print axioms Ddo.C16.alp_spec_adequate
#print axioms Ddo.C16.alp_spec_infeasible
#print axioms Ddo.C16.knapsack_spec_adequate_idx
#print axioms Ddo.C16.sop_spec_feasible
#print axioms Ddo.C16.sop_spec_infeasible
#print axioms Ddo.C16.psp_spec_feasible
#print axioms Ddo.C16.psp_spec_infeasible
#print axioms Ddo.C16.tsptw_spec_feasible
#print axioms Ddo.C16.tsptw_spec_infeasible
#print axioms Ddo.C16.alp_spec_feasible
