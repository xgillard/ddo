import DdoModel.Gap
/-! # C17 — the optimality gap is well defined and zero only at optimality

Theorems about `Ddo.gap`, the model of `Solver::gap` (`ddo/src/abstraction/solver.rs`), for **all**
pairs of bounds `lb ≤ ub`.  The result `frac n d` denotes the real number `n / d`; the property's
clauses are stated on it.  The `f32` roundings are not part of `Ddo.gap`; `Props/C17f.lean` proves the same
clauses on `gapF`, the computation with its binary32 arithmetic (trusted there: Rust's `as f32` and `/` are
IEEE-754 round-to-nearest-even; the driver's `phiGap` evaluates the clauses on the float the code returns). -/
namespace Ddo.C17

/-- a fraction is returned for finite bounds only: `0/1` for equal ones, else `|ub − lb| / max |ub| |lb|` -/
theorem gap_frac {lb ub n d : Int} (h : gap lb ub = .frac n d) :
    ub ≠ iMax ∧ lb ≠ iMin ∧ n = (ub - lb).natAbs ∧ (ub = lb ∧ d = 1 ∨ ub ≠ lb ∧ d = max (ub.natAbs : Int) lb.natAbs) := by
  unfold gap at h
  split at h
  · cases h
  · rename_i h0
    refine ⟨fun e => h0 (.inl e), fun e => h0 (.inr e), ?_⟩
    split at h <;> cases h
    · rename_i e; exact ⟨by omega, .inl ⟨e, rfl⟩⟩
    · rename_i e; exact ⟨rfl, .inr ⟨e, rfl⟩⟩

theorem gap_not_nan (lb ub : Int) : gap lb ub ≠ .nan := by
  unfold gap; split <;> (try split) <;> simp

/-- the denominator is positive: the fraction is a well defined real number -/
theorem gap_den_pos (lb ub n d : Int) (h : gap lb ub = .frac n d) : 0 < d := by
  obtain ⟨-, -, -, hd⟩ := gap_frac h
  omega

theorem gap_nonneg (lb ub n d : Int) (h : gap lb ub = .frac n d) : 0 ≤ n := by
  rw [(gap_frac h).2.2.1]; exact Int.natCast_nonneg _

/-- returns 1 while either bound is still infinite … -/
theorem gap_one_of_infinite (lb ub : Int) (h : ub = iMax ∨ lb = iMin) : gap lb ub = .one := by
  unfold gap; exact if_pos h

/-- … and only then answers with the sentinel `.one`.  This is about the constructor, not about the value 1: finite bounds can
    give a fraction equal to 1 (`gap 0 5 = .frac 5 5`), and `C17f.not_oneOnlyIfInfinite` refutes the converse on the float -/
theorem gap_one_iff_infinite (lb ub : Int) : gap lb ub = .one ↔ (ub = iMax ∨ lb = iMin) := by
  constructor
  · intro h; unfold gap at h; split at h
    · assumption
    · split at h <;> cases h
  · exact gap_one_of_infinite lb ub

/-- returns 0 exactly when the (finite) bounds coincide -/
theorem gap_zero_iff_eq (lb ub n d : Int) (h : gap lb ub = .frac n d) : n = 0 ↔ lb = ub := by
  obtain ⟨-, -, hn, -⟩ := gap_frac h
  omega

/-- at most 1 whenever both bounds have the same sign -/
theorem gap_le_one_same_sign (lb ub n d : Int) (hs : (0 ≤ lb ∧ 0 ≤ ub) ∨ (lb ≤ 0 ∧ ub ≤ 0))
    (h : gap lb ub = .frac n d) : n ≤ d := by
  obtain ⟨-, -, hn, hd⟩ := gap_frac h
  omega

/-- every finite pair yields a fraction: together with the clauses above this is the whole property -/
theorem gap_total (lb ub : Int) (h1 : ub ≠ iMax) (h2 : lb ≠ iMin) : ∃ n d, gap lb ub = .frac n d := by
  unfold gap; split
  · rename_i h; rcases h with h | h <;> contradiction
  · split <;> exact ⟨_, _, rfl⟩

/-! non-vacuity: concrete bounds meet the hypotheses -/
example : gap 0 0 = .frac 0 1 := by decide
example : gap (-5) 5 = .frac 10 5 := by decide
example : gap 100 220 = .frac 120 220 := by decide
example : gap (-220) (-100) = .frac 120 220 := by decide

/-! ## The defect this check found in the pinned commit (D1, repaired by a `fix:` commit)
`gapOld` is the formula before the repair; the two clauses it violates, with witnesses. -/
theorem gapOld_nan : gapOld 0 0 = .nan := by decide
theorem gapOld_zero_but_different : gapOld (-5) 5 = .frac 0 5 := by decide

end Ddo.C17
