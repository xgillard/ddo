import DdoModel.Props.C05
/-! # C02 (sequential part) — the reported solution is feasible and consistent with the reported value
    # C14 — a warm-start primal never makes the solver miss a better solution

C02: the incumbent value and solution are written together by `maybe_update_best` from the same
diagram (`updateBest`), the contract `CompileOk.sound` says the diagram's best exact solution is a
genuinely feasible solution with exactly the best exact value; hence at every point of every run —
also after a cutoff (`cutoff_bounds_*` carry the clause) — `best_solution()` is feasible with value
`best_lower_bound()` (`Inv.solOk`, `best_is_solution`); a value is present iff a solution is
(`value_iff_solution`), equals the lower bound (`completion_value_eq_lb`), and after an
uninterrupted run the upper bound equals it too (`ub_eq_value_uninterrupted`).
That the *diagram's* solution is feasible with the right value is C06 / C07 (`CompileOk.sound`).
C14: `set_primal` replaces the incumbent only by a strictly greater value (`set_primal_strict`);
a run started from any feasible primal keeps the invariant (`init_inv` takes the initial incumbent as
a parameter), so it ends with `max(primal, optimum)` = `opt` of the invariant (`from_primal_optimal`). -/
set_option linter.unusedSectionVars false
namespace Ddo.C02
variable {S : Type} [DecidableEq S]

/-- **`best_is_solution`**: after `maybe_update_best`, the stored solution is a feasible solution whose
    value is the stored lower bound -/
theorem best_is_solution (Phi : SubP S → EInt) (opt : Int) (Sol : List Dec → Int → Prop)
    (st : SeqSt S) (N : SubP S) (lb0 : Int) (o : DDOut S)
    (hlb : st.bestLb ≤ opt) (hsol : ∀ p, st.bestSol = some p → Sol p st.bestLb)
    (hc : CompileOk Phi opt Sol N lb0 o) :
    ∀ p, (st.updateBest o).bestSol = some p → Sol p (st.updateBest o).bestLb :=
  (updateBest_ok Phi opt Sol st N lb0 o hlb hsol hc).2

theorem value_iff_solution (st : SeqSt S) : st.completion.2.isSome = st.bestSol.isSome := by
  simp [SeqSt.completion]

theorem completion_value_eq_lb (st : SeqSt S) (v : Int) (h : st.completion.2 = some v) : v = st.bestLb := by
  simp only [SeqSt.completion, Option.map_eq_some_iff] at h
  obtain ⟨_, _, h⟩ := h; exact h.symm

/-- after an uninterrupted run `best_upper_bound() = best_lower_bound()` -/
theorem ub_eq_value_uninterrupted (st : SeqSt S) : st.complete.bestUb = st.complete.bestLb := rfl

/-- **`set_primal_strict`**: the incumbent is replaced exactly when the new value is strictly greater -/
theorem set_primal_strict (st : SeqSt S) (v : Int) (sol : List Dec) :
    (v > st.bestLb → (st.setPrimal v sol).bestLb = v ∧ (st.setPrimal v sol).bestSol = some sol) ∧
    (¬ v > st.bestLb → st.setPrimal v sol = st) := by
  unfold SeqSt.setPrimal
  constructor
  · intro h; simp [h]
  · intro h; simp [h]

/-- **`from_primal_optimal`**: started from a primal that belongs to a genuinely feasible solution
    (`Sol sol v`, hence `v ≤ opt` where `opt` is the maximum of the primal and the true optimum,
    attained by `Phi root` whenever it beats the primal), the invariant holds initially; with
    `process_inv` and `complete_optimal` the run therefore ends with value `opt`, `is_exact`. -/
theorem from_primal_optimal (Phi : SubP S → EInt) (opt : Int) (Sol : List Dec → Int → Prop)
    (root : SubP S) (v : Int) (sol : List Dec)
    (hroot : ∀ x, Phi root = some x → x ≤ opt) (hub : root.ub = iMax) (hopt : opt ≤ iMax)
    (hv : v ≤ opt) (hsol : Sol sol v) (hatt : opt > v → Phi root = some opt) :
    Inv Phi opt Sol [root] v (some sol) :=
  C01.init_inv Phi opt Sol root v (some sol) hroot hub hopt hv
    (fun p hp => by injection hp with hp; subst hp; exact hsol) hatt

end Ddo.C02
