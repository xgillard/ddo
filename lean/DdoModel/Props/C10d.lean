import DdoModel.Props.C10c
import DdoModel.Proofs.CompileJoint
import DdoModel.Proofs.CompatSound
import DdoModel.Proofs.CompatOrder
import DdoModel.Proofs.CompatInv
import DdoModel.Proofs.CompatStore
/-! # C09 + C10 together, rule-maximal merge operators — the sub-question `CachingDominanceCompat` of `Props/C10c.lean`, and `JointSound`

`Props/C10c.lean` refutes the joint statement "cache **and** dominance checker together return the optimum" for every notion of valid
rule (`Twin`: simulation for all pairs); all its counter-examples need a merge operator whose result the rule ranks below an
exact state it replaces.  `CachingDominanceCompat` excludes that: `WellFormed` + `SimAll` + static order + `MergeCompat`.

## verdicts

1. **`JointSound` is a theorem** (`Ddo.C10c.jointSound`, `Proofs/CompatSound*.lean`; here `joint_sound`): for every well-formed model and
   **every** dominance rule the sequential solver with `SimpleCache` and `SimpleDominanceChecker` terminates, never panics, is never
   aborted, and only ever reports the value of a stored feasible complete path (`best_lb ≤ optimum`; nothing for an infeasible
   problem).  Diagram-level facts, for any cache content, any store content, any rule: `compile_no_crash_joint` (no panic, the store
   keeps its layers), `isSol_relaxed_joint` (the exact-best-path invariant `G2` survives both filters), `ups_depth_joint` (every
   `update_threshold` is in range; the recorded thresholds belong to exactly reached nodes).  So D17 is a loss of *optimality* only:
   the value reported with `is_exact = true` is the value of a feasible solution, never more than the optimum.

2. **`CachingDominanceCompat` is false as stated** (`cachingDominanceCompat_false`, model `Ddo.C10d.Shadow`, `Proofs/CompatShadow.lean`;
   finding **D17**, form `Shadow`): a `WellFormed` model, static order, a rule that satisfies `SimAll`, a merge operator that is an upper bound, in the
   rule's order, of the states it replaces (`MergeCompat`), 6 binary variables, 11 states, `FixedWidth(1)`: cache alone 10, checker alone
   10 (the closed theorems apply: `Shadow.cache_only_correct`, `Shadow.dom_only_correct`), **both: `is_exact = true`,
   `best_value = Some(5)`, optimum 10** — both fringes, both cut-set kinds, forced pop order, four turns explained in
   `Shadow.stage1 … stage_end`, all evaluated in the kernel; reproduced on the real library (`SeqCachingSolverLel/Fc`,
   both fringes, `ParCachingSolverLel/Fc` with one thread, `DefaultCachingSolver` report `Some(5)`; `EmptyCache` or
   `EmptyDominanceChecker` report `Some(10)`).
   The hypothesis that is missing is not about the merge operator but about the **rough upper bound**: `WellFormed` ties
   `fast_upper_bound` to the potential `H`, and `H` to the value-to-go on *exactly reached* states (and results of `merge`) only.  The
   relaxed image of a protected path passes through states that are neither (children of merged states); `SimAll` + `MergeCompat` make
   those states at least as good, in the rule's order, as the protected ones — but nothing makes their rough upper bound valid.
   `Shadow`: `fast_upper_bound(S) = 5`, value-to-go of `S` = 10 (`Shadow.rub_below_value`).  With the bound of `S` raised to its
   value-to-go the same tables give 10 in every configuration (`ShadowH.joint_value`).

3. **The repaired statement `CachingDominanceCompatMono`** — `CachingDominanceCompat` + **`PotMono`**: the potential is monotone in the
   rule's order on *all* states, i.e. the rough upper bound is valid on every state the rule ranks above an exactly reached one (true of
   every shipped example: their `fast_upper_bound` bounds the value-to-go of every state; `Kp.potMono`; in general
   `potMono_of_leAll`, `Proofs/CompatOrder.lean`: a potential that satisfies `Potential.le` on **all** states — the value-to-go of every
   state, reached or not — is monotone in the order of any `SimAll` rule) — is a theorem
   (`caching_dominance_solver_correct_mono`, `Props/C10e.lean`).  The proof is an invariant argument: the joint invariant `CompatInv`
   (next section) holds initially (`init_compatInv`), gives the optimum at the empty fringe (`compatInv_end`), and is preserved by one turn
   (`CompatTurn`); termination, progress, absence of panics and soundness are `jointSound`
   (`jointCorrect_of_turn : CompatTurn → CachingDominanceCompatMono`).  Of one turn, what does not look into a compilation is here:
   a turn that skips the popped node (`ub ≤ best_lb`, or `must_explore` refuses) preserves the invariant (`compatInv_skip`,
   `Proofs/CompatInv.lean`); in a turn that compiles it (`CompatProcess`) the clause *store* holds because with both filters on the checker
   only ever holds exactly reached items (`compile_storeReach_joint`, `kdturn_storeReach`, `krun_storeReach`, `Proofs/CompatStore.lean`).
   What the two compilations have to deliver is therefore the clauses *main* and *entries* over a compiled turn — `CompatProcessME`
   (`jointCorrect_of_process`, `jointCorrect_of_me`); that is `Props/C10e.lean` (`compatProcessME`, `compatProcess`, `compatTurn`).

## the joint invariant (`Proofs/CompatOrder.lean`, `Proofs/CompatInv.lean`)

`Good` (`Proofs/DomSim.lean`) = the protected family of a simulation-admissible rule: exactly reached, undominated, on an undominated
optimal path; upward closed among exactly reached items.  `GAbove k s v` = "`(s, v)` — **any** state — is at least as good, in the
rule's order, as a `Good` item of depth `k`": what a relaxed node is under `MergeCompat`.  `Solid q` = `q` is open, `Good`, accepted by
`must_explore`, and `q.ub ≥ opt`.  `CompatInv`:

* **main** — `best_lb ≥ opt`, or a solid open sub-problem exists;
* **entries** — every cache entry `(x, d) ↦ θ` that *applies to a `GAbove` item* (`v' ≤ θ`, `(x, v')` `GAbove` at depth `d`) is backed by
  `best_lb ≥ opt` or a solid open sub-problem of depth `≥ d` (the depth stratification of C09: a compilation consumes entries strictly
  deeper than its root);
* **store** — the checker holds exactly reached items.

It replaces the potential-based invariant of C09 ("what the cache prunes has a potential carried by an open node": `Carrier` and `Twin`
show that the carrier may be dropped by the checker) by an order-based one: only pruning that hits the `GAbove` family matters, and
that pruning is always deferred to a **protected** open node, which the checker never drops.  Proved: `GAbove` is upward closed, is
`Good` on exactly reached items (`GAbove.good`), is never dominated by an exactly reached item (`GAbove.undom`), is closed under the
simulating decision, `merge` and arc relaxation (`GAbove.step`, `GAbove.merge`, `GAbove.relaxed_arc`), has a value `≥ opt` at the
terminal depth (`GAbove.term`), is never cut by the rough upper bound while `best_lb < opt` **if `PotMono`** (`GAbove.rub`), and is never
below the threshold of a `dominated` verdict (`GAbove.not_below_threshold`).

**How `MergeCompat` (+ `PotMono`) breaks the three cycles of `Props/C10c.lean`.**
1. *A dominance verdict applied to relaxed nodes* (`Cross`, `CrossSim`): the threshold `t` of a verdict on `(s, v)` says "`(s, v')` is
   dominated by an exactly reached item for every `v' ≤ t`".  A relaxed node with state `s` and value `≤ t` stands, under `MergeCompat`,
   for exact items it is at least as good as; if one of them were protected the node would be `GAbove`, and a `GAbove` item is never
   dominated by an exactly reached item: `GAbove.not_below_threshold`.  The thresholds derived from verdicts never touch the family.
2. *The carrier of a potential is dropped by the checker* (`Carrier`): the invariant does not speak of potentials.  The witness of an
   entry that matters is `Solid`, hence `Good`, hence never reported dominated (`query_protected`).
3. *A cycle of deferrals* (`Twin`): the cache defers the image `M` of a protected `E` to an open node `k2` only through an entry at
   `M`'s `(state, depth)` with threshold `≥ M.value`; the entry `k2` writes for itself is `(k2.state, k2.value)`.  If the checker is
   later to drop `k2` in favour of `E`, then `E` strictly dominates `k2`; `M` is at least as good as `E` (`GAbove.merge`), so either
   `M.state ≠ k2.state` or `M.value ≥ E.value > k2.value`: the entry does not apply.  Entries propagated upwards from `k2` are handled
   by following the simulating decision downwards (`GAbove.relaxed_arc`) until the cut-set node kept open (which is then `Good`:
   `GAbove.good`), a terminal node (value `≥ opt`: `GAbove.term`, contradiction with `θ = best`), a node cut by the rough upper bound
   (excluded by `GAbove.rub` — **the step that fails in `Shadow`**), a dominated node (excluded by 1), or a node pruned by an older,
   strictly deeper entry (induction).

**Why `CompatTurn` holds, informally** (the proof, `compatTurn` in `Props/C10e.lean`, goes through the pseudo-potential `gpot`
instead of this walk).  Processing a solid `q`: its root is not dropped by the checker; follow the
simulating decisions through the relaxed diagram.  The nodes met are `GAbove`; an exact one is `Good` and carries exactly the value of
the protected item (a larger value would beat the optimum).  The walk ends (a) at a terminal node: a restricted / exact diagram then
reports `≥ opt`; in a relaxed diagram the last exact node of the walk is a cut-set node `c`, `Good`, marked, with local bound `≥ opt`,
enqueued, and its own entry `(c.value, unexplored)` lets `must_explore` accept it: `c` is solid; or (b) at a node pruned by the cache:
the entry applies to a `GAbove` item and is strictly deeper than `q`: **entries** gives a solid node other than `q`.  Rough upper bound
and dominance cannot end the walk (`GAbove.rub`, `GAbove.undom`).  New entries: for an exact node `x` above the cut-set and a `GAbove`
item `(x.state, v')` with `v' ≤ θ(x)`, the same walk from `x` with the invariant `v' + (cost so far) ≤ θ(node)` (the propagation rule of
`_compute_thresholds`, `min` over all arcs, thresholds of pruned / dominated / bound-cut nodes below the cut-set included) ends in a
cut-set node kept open (solid), a pruned node (older entry, induction) or a contradiction.  Processing any other node only adds
exactly reached items to the checker, and entries whose `(state, depth)` is that of a solid `q` cannot exceed `q.value` unless they
come from a node that equals `q` as an item — which `q`'s own entry pruned.  Skipped nodes (`ub ≤ best_lb`, `must_explore`) are not
solid unless `best_lb ≥ opt`.

`Proofs/CompatSearch.lean` (family `Ddo.C10d.Grid` of `Proofs/CompatGrid.lean`) is an executable search inside the hypotheses of
`CachingDominanceCompatMono`; besides the final value it evaluates the clauses *main* and *entries* of `CompatInv` in every visited
state (`goodTable`, `invOk`).  No theorem depends on it. -/
set_option linter.unusedSectionVars false
set_option linter.unusedVariables false
namespace Ddo.C10d
open Ddo Ddo.C01 Ddo.Closed Ddo.C09 Ddo.C10 Ddo.C10c

theorem joint_sound : JointSound := jointSound

/-- the corollary for one run: whatever the rule, whatever is reported at the empty fringe is the value of a feasible solution, at
    most the optimum — D17 loses optimality, never soundness -/
theorem joint_reports_feasible {S K : Type} [DecidableEq S] [DecidableEq K] (dv : DSolverCfg S K) (H : Nat → S → EInt) (B0 B opt : Int)
    (hwf : WellFormed dv.sv H B0 B) (hopt : (H 0 dv.sv.P.init).addI dv.sv.P.initVal = some opt) (t : KDSt S K)
    (ht : KDRun dv (KDSt.init dv) t) :
    t.st.bestLb ≤ opt ∧ t.st.crashed = false ∧ t.st.abort = false ∧ ∀ p, t.st.bestSol = some p → SolOf dv.sv.P p t.st.bestLb := by
  obtain ⟨_, h⟩ := jointSound S K dv H B0 B hwf
  obtain ⟨_, hc, ha, hs, _⟩ := h t ht
  exact ⟨(hs opt hopt).1, hc, ha, (hs opt hopt).2⟩

end Ddo.C10d

#print axioms Ddo.C10c.compile_no_crash_joint
#print axioms Ddo.C10c.isSol_relaxed_joint
#print axioms Ddo.C10c.ups_depth_joint
#print axioms Ddo.C10c.kdturn_inv
#print axioms Ddo.C10c.jointSound
#print axioms Ddo.C10d.joint_sound
#print axioms Ddo.C10d.joint_reports_feasible
#print axioms Ddo.C10d.GAbove.good
#print axioms Ddo.C10d.GAbove.undom
#print axioms Ddo.C10d.GAbove.step
#print axioms Ddo.C10d.GAbove.term
#print axioms Ddo.C10d.GAbove.merge
#print axioms Ddo.C10d.GAbove.relaxed_arc
#print axioms Ddo.C10d.GAbove.rub
#print axioms Ddo.C10d.GAbove.not_below_threshold
#print axioms Ddo.C10d.init_compatInv
#print axioms Ddo.C10d.compatInv_end
#print axioms Ddo.C10d.jointCorrect_of_turn
#print axioms Ddo.C10d.compatInv_skip
#print axioms Ddo.C10d.compatTurn_of_process
#print axioms Ddo.C10d.jointCorrect_of_process
#print axioms Ddo.C10d.compile_storeReach_joint
#print axioms Ddo.C10d.krun_storeReach
#print axioms Ddo.C10d.compatProcess_of_me
#print axioms Ddo.C10d.jointCorrect_of_me
#print axioms Ddo.C10d.potMono_of_leAll
#print axioms Ddo.C10d.simAll_useValue
#print axioms Ddo.C10d.mergeCompat_key
