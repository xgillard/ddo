import DdoModel.Proofs.MddCover
/-! # C06 — a relaxed decision diagram is a valid upper bound

`Ddo.C06.relaxed_ub`: a relaxed compilation carried out in isolation (no cache, no dominance checker), any
width ≥ 1, any incumbent `lb`: if the optimum `o` of the sub-problem beats the incumbent, the diagram reports a
best value ≥ `o`.  The proof (`Ddo.CoverRel.relaxed_ub_rel_valid`, `Proofs/MddCoverRel.lean`) is an invariant of
`buildLoop` (`CoverRel.Inv'`): some node of the layer under construction has value + potential ≥ `o`.

Two hypotheses are less obvious than the others; both are necessary (counter-examples below).

* `hAM : AttMerge cfg.P cfg.R H`.  The implementation asks `next_variable` **before** it squashes the layer, so the
  merged node is branched on a variable selected for a list of states that does not contain the merged state, and
  `Potential.att` (which only speaks about states `s ∈ L` with `nextVar k L = some x`) says nothing about it.
  `AttMerge` is exactly the missing clause: `Potential.att` for `merge X`, `X ≠ []` a part of the layer `L`, and the
  variable chosen for `L`.  It follows from `Potential.att` when `nextVar` does not look at the states
  (`Ddo.Cover.attMerge_of_static`, corollary `relaxed_ub_static`).
  Counter-example without it (`Ddo.C06.CounterA.counter`, machine-checked below): `nextVar 2 L` answers variable 2 unless `99 ∈ L`,
  in which case it answers 5; the third layer `{10, 11}` is merged into state `99`, whose domain for variable 2 is
  empty; all costs are 0 and `H ≡ some 0`, every other hypothesis holds (`att` at depth 2 is only
  required for variable 2 on states ≠ 99 and for variable 5 on lists containing 99), `o = 0 > lb = -1`, yet the
  compilation ends with an empty terminal layer: `bestValue = none`.
* `hO : o ≤ iMax ∨ cfg.lb < iMax`.  The rough-upper-bound test is `saturating_add(rub, value) > lb`; with
  `lb = isize::MAX` it prunes every node, although `o = value + H` (an unbounded `Int` in the model) may exceed
  `isize::MAX`: the root is pruned, the next layer is empty and `bestValue = none`
  (`Ddo.C06.CounterB.counter`, machine-checked below).  `InI o` would do as well; the disjunction is weaker.

No hypothesis relating `cfg.root.depth` and `cfg.P.nbVars` is needed: when the fuel `nbVars + 2` runs out the
outcome is `.crash`, which the premise `(compile …).1 = .ok` excludes. -/
namespace Ddo.C06
open Ddo Ddo.Cover

/-- C06 with well-formedness required only on the pairs (depth, state) of a predicate `V` that holds at the root and
    is closed under expansion and merge (`WfRel`): the form that can be instantiated for models whose state embeds the
    depth (knapsack: `DdoModel/Examples/KnapsackModel.lean`). -/
theorem relaxed_ub_rel_dom {S K : Type} [DecidableEq S] [DecidableEq K]
    (cfg : Cfg S K) (H : Nat → S → EInt) (V : Nat → S → Prop) (B : Int)
    (cache : Cache S) (store : DomStore S K) (polls : Nat)
    (hrel : cfg.ctype = .relaxed) (hcache : cfg.useCache = false) (hdom : cfg.dom = none) (hW : 1 ≤ cfg.width)
    (hwf : WfRel cfg.P cfg.R H V) (hV : V cfg.root.depth cfg.root.state)
    (hB : NoClampDom cfg.P cfg.R cfg.root.value B) (hlb : InI cfg.lb)
    (o : Int) (ho : optOf H cfg.root = some o) (hgt : o > cfg.lb)
    (hO : o ≤ iMax ∨ cfg.lb < iMax) :
    (compile cfg cache store polls none).1 = .ok →
    ∃ bv, (compile cfg cache store polls none).2.1.bestValue = some bv ∧ o ≤ bv := 
  CoverRel.relaxed_ub_rel_valid cfg H V B B cache store polls hrel hcache hdom hW hwf.toV hV (hB.toRel V) hlb o ho hgt hO

theorem relaxed_ub_rel {S K : Type} [DecidableEq S] [DecidableEq K]
    (cfg : Cfg S K) (H : Nat → S → EInt) (V : Nat → S → Prop) (B : Int)
    (cache : Cache S) (store : DomStore S K) (polls : Nat)
    (hrel : cfg.ctype = .relaxed) (hcache : cfg.useCache = false) (hdom : cfg.dom = none) (hW : 1 ≤ cfg.width)
    (hwf : WfRel cfg.P cfg.R H V) (hV : V cfg.root.depth cfg.root.state)
    (hB : NoClamp cfg.P cfg.R cfg.root.value B) (hlb : InI cfg.lb)
    (o : Int) (ho : optOf H cfg.root = some o) (hgt : o > cfg.lb)
    (hO : o ≤ iMax ∨ cfg.lb < iMax) :
    (compile cfg cache store polls none).1 = .ok →
    ∃ bv, (compile cfg cache store polls none).2.1.bestValue = some bv ∧ o ≤ bv :=
  relaxed_ub_rel_dom cfg H V B cache store polls hrel hcache hdom hW hwf hV hB.toDom hlb o ho hgt hO

theorem relaxed_ub {S K : Type} [DecidableEq S] [DecidableEq K]
    (cfg : Cfg S K) (H : Nat → S → EInt) (B : Int) (cache : Cache S) (store : DomStore S K) (polls : Nat)
    (hrel : cfg.ctype = .relaxed) (hcache : cfg.useCache = false) (hdom : cfg.dom = none) (hW : 1 ≤ cfg.width)
    (hP : Potential cfg.P H) (hR : RubOk cfg.R H) (hM : MergeOk cfg.R H)
    (hB : NoClamp cfg.P cfg.R cfg.root.value B) (hlb : InI cfg.lb)
    (o : Int) (ho : optOf H cfg.root = some o) (hgt : o > cfg.lb)
    (hAM : AttMerge cfg.P cfg.R H)
    (hO : o ≤ iMax ∨ cfg.lb < iMax) :
    (compile cfg cache store polls none).1 = .ok →
    ∃ bv, (compile cfg cache store polls none).2.1.bestValue = some bv ∧ o ≤ bv :=
  relaxed_ub_rel cfg H (fun _ _ => True) B cache store polls hrel hcache hdom hW
    (wfRel_of_global hP hR hM hAM) trivial hB hlb o ho hgt hO

theorem relaxed_ub_static {S K : Type} [DecidableEq S] [DecidableEq K]
    (cfg : Cfg S K) (H : Nat → S → EInt) (B : Int) (cache : Cache S) (store : DomStore S K) (polls : Nat)
    (hrel : cfg.ctype = .relaxed) (hcache : cfg.useCache = false) (hdom : cfg.dom = none) (hW : 1 ≤ cfg.width)
    (hP : Potential cfg.P H) (hR : RubOk cfg.R H) (hM : MergeOk cfg.R H)
    (hB : NoClamp cfg.P cfg.R cfg.root.value B) (hlb : InI cfg.lb)
    (o : Int) (ho : optOf H cfg.root = some o) (hgt : o > cfg.lb)
    (hstat : ∀ k L L', L ≠ [] → L' ≠ [] → cfg.P.nextVar k L = cfg.P.nextVar k L')
    (hO : o ≤ iMax ∨ cfg.lb < iMax) :
    (compile cfg cache store polls none).1 = .ok →
    ∃ bv, (compile cfg cache store polls none).2.1.bestValue = some bv ∧ o ≤ bv :=
  relaxed_ub cfg H B cache store polls hrel hcache hdom hW hP hR hM hB hlb o ho hgt
    (attMerge_of_static hP hstat) hO

theorem countdown_potential {P : Problem Int} {n : Nat}
    (hnv : ∀ k L, P.nextVar k L = if k < n then some k else none)
    (hdom : ∀ x s, (1 : Int) ∈ P.domain x s)
    (hcost : ∀ s t d, P.cost s t d = if d.val = 1 then 1 else 0) :
    Potential P (fun k _ => some ((n - k : Nat) : Int)) := by
  have nv : ∀ {k L x}, P.nextVar k L = some x → k < n ∧ x = k := by
    intro k L x h
    rw [hnv] at h
    split at h
    · next hk => cases h; exact ⟨hk, rfl⟩
    · cases h
  constructor
  · intro k L x s h hn _ hH
    obtain ⟨hk, rfl⟩ := nv hn
    cases (Option.some.inj hH : ((n - x : Nat) : Int) = h)
    refine ⟨1, hdom x s, ((n - (x + 1) : Nat) : Int), rfl, ?_⟩
    rw [hcost, if_pos rfl]
    omega
  · intro k L x s v p d _ hn _ _
    obtain ⟨hk, rfl⟩ := nv hn
    show (((n - (x + 1) : Nat) : Int) + P.cost _ _ _ : Int) ≤ ((n - x : Nat) : Int)
    rw [hcost]
    split <;> omega
  · intro k L s hn _
    rw [hnv] at hn
    split at hn
    · cases hn
    · next hk => exact congrArg some (by omega)

namespace Tiny

def prob : Problem Int :=
  { nbVars := 3, init := 0, initVal := 0,
    trans := fun s d => s + d.val,
    cost := fun _ _ d => if d.val = 1 then 1 else 0,
    nextVar := fun k _ => if k < 3 then some k else none,
    domain := fun _ _ => [0, 1],
    impacted := fun _ _ => true }

def rlx : Relax Int :=
  { merge := fun X => X.foldl max 0, relax := fun _ _ _ _ c => c, rub := fun _ => 3 }

def cfg : Cfg Int Unit :=
  { P := prob, R := rlx, rank := ⟨fun a b => icmp a b⟩, dom := none, useCache := false, kind := .lel,
    ctype := .relaxed, width := 1, root := ⟨0, 0, [], iMax, 0⟩, lb := 0 }

def H (k : Nat) (_ : Int) : EInt := some ((3 - k : Nat) : Int)

theorem nv_some {k : Nat} {L : List Int} {x : Nat} (h : prob.nextVar k L = some x) : k < 3 ∧ x = k := by
  simp only [prob] at h
  split at h
  · next hk => cases h; exact ⟨hk, rfl⟩
  · cases h

theorem potential : Potential prob H :=
  countdown_potential (fun _ _ => rfl) (fun _ _ => List.mem_cons_of_mem _ List.mem_cons_self) (fun _ _ _ => rfl)

theorem rubOk : RubOk rlx H := by
  intro k s h hH
  simp only [H, Option.some.injEq] at hH
  simp only [rlx]; omega

theorem mergeOk : MergeOk rlx H := by
  intro k X u src d c h _ hH
  exact ⟨h, hH, Int.le_refl _⟩

theorem noClamp : NoClamp prob rlx cfg.root.value 1 := by
  constructor
  · decide
  · decide
  · intro s s' d; simp only [prob]; split <;> omega
  · intro s u m d c hc; exact hc
  · decide

/-- non-vacuity: the hypotheses of `relaxed_ub_static` hold for `Tiny.cfg` and the compilation succeeds, with a merge on
    the third layer (width 1) -/
example : ∃ bv, (compile cfg (Cache.init 3) (DomStore.init 3) 0 none).2.1.bestValue = some bv ∧ 3 ≤ bv :=
  relaxed_ub_static cfg H 1 (Cache.init 3) (DomStore.init 3) 0 rfl rfl rfl (by decide)
    potential rubOk mergeOk noClamp (by decide) 3 rfl (by decide) (fun _ _ _ _ _ => rfl) (Or.inl (by decide))
    (by decide +kernel)

end Tiny

namespace CounterA

def prob : Problem Int :=
  { nbVars := 3, init := 0, initVal := 0,
    trans := fun _ d => if d.var = 1 then 10 + d.val else if d.var = 0 then 0 else 99,
    cost := fun _ _ _ => 0,
    nextVar := fun k L => if k = 0 then some 0 else if k = 1 then some 1 else
      if k = 2 then (if 99 ∈ L then some 5 else some 2) else none,
    domain := fun x s => if x = 1 then [0, 1] else if x = 2 then (if s = 99 then [] else [0]) else [0],
    impacted := fun _ _ => true }

def rlx : Relax Int := { merge := fun _ => 99, relax := fun _ _ _ _ c => c, rub := fun _ => 0 }

def cfg : Cfg Int Unit :=
  { P := prob, R := rlx, rank := ⟨fun a b => icmp a b⟩, dom := none, useCache := false, kind := .lel,
    ctype := .relaxed, width := 1, root := ⟨0, 0, [], iMax, 0⟩, lb := -1 }

def H (_ : Nat) (_ : Int) : EInt := some 0

theorem dom_ne {k : Nat} {L : List Int} {x : Nat} {s : Int} (hnv : prob.nextVar k L = some x) (hs : s ∈ L) :
    ∃ d, d ∈ prob.domain x s := by
  simp only [prob] at hnv ⊢
  by_cases h1 : x = 1
  · exact ⟨0, by simp [h1]⟩
  · by_cases h2 : x = 2
    · subst h2
      have hs99 : s ≠ 99 := by
        intro h; subst h
        split at hnv
        · cases hnv
        · split at hnv
          · cases hnv
          · split at hnv
            · simp at hnv
            · cases hnv
      exact ⟨0, by simp [hs99]⟩
    · exact ⟨0, by simp [h1, h2]⟩

theorem potential : Potential prob H := by
  constructor
  · intro k L x s h hnv hs hH
    obtain ⟨d, hd⟩ := dom_ne hnv hs
    simp only [H, Option.some.injEq] at hH
    exact ⟨d, hd, 0, rfl, by simp only [prob]; omega⟩
  · intro k L x s v p d _ _ _ _
    simp [H, EInt.addI, prob]
  · intro k L s _ _; rfl

theorem rubOk : RubOk rlx H := by
  intro k s h hH
  simp only [H, Option.some.injEq] at hH
  simp only [rlx]; omega

theorem mergeOk : MergeOk rlx H := by
  intro k X u src d c h _ hH
  exact ⟨h, hH, Int.le_refl _⟩

theorem noClamp : NoClamp prob rlx cfg.root.value 0 := by
  constructor
  · decide
  · decide
  · intro s s' d; simp [prob]
  · intro s u m d c hc; exact hc
  · decide

/-- every hypothesis of `relaxed_ub` but `AttMerge` holds (`o = 0 > lb = -1`), the compilation succeeds, and yet the
    diagram has no terminal node -/
theorem counter :
    cfg.ctype = .relaxed ∧ cfg.useCache = false ∧ cfg.dom = none ∧ 1 ≤ cfg.width ∧
    Potential cfg.P H ∧ RubOk cfg.R H ∧ MergeOk cfg.R H ∧ NoClamp cfg.P cfg.R cfg.root.value 0 ∧ InI cfg.lb ∧
    optOf H cfg.root = some 0 ∧ 0 > cfg.lb ∧ ((0 : Int) ≤ iMax ∨ cfg.lb < iMax) ∧
    (compile cfg (Cache.init 3) (DomStore.init 3) 0 none).1 = .ok ∧
    (compile cfg (Cache.init 3) (DomStore.init 3) 0 none).2.1.bestValue = none :=
  ⟨rfl, rfl, rfl, by decide, potential, rubOk, mergeOk, noClamp, by decide, rfl, by decide, Or.inl (by decide),
   by decide +kernel⟩

end CounterA

namespace CounterB

def big : Int := 9223372036854775808

def prob : Problem Int :=
  { nbVars := 1, init := 0, initVal := 0, trans := fun s _ => s, cost := fun _ _ _ => 0,
    nextVar := fun _ _ => some 0, domain := fun _ _ => [0], impacted := fun _ _ => true }

def rlx : Relax Int := { merge := fun _ => 0, relax := fun _ _ _ _ c => c, rub := fun _ => big }

def cfg : Cfg Int Unit :=
  { P := prob, R := rlx, rank := ⟨fun a b => icmp a b⟩, dom := none, useCache := false, kind := .lel,
    ctype := .relaxed, width := 1, root := ⟨0, 0, [], iMax, 0⟩, lb := iMax }

def H (_ : Nat) (_ : Int) : EInt := some big

theorem potential : Potential prob H := by
  constructor
  · intro k L x s h _ _ hH
    simp only [H, Option.some.injEq] at hH
    exact ⟨0, by simp [prob], big, rfl, by simp only [prob]; omega⟩
  · intro k L x s v p d _ _ _ _
    simp [H, EInt.addI, prob]
  · intro k L s hnv _; simp [prob] at hnv

theorem attMerge : AttMerge prob rlx H := by
  intro k L x X h _ _ _ hH
  simp only [H, Option.some.injEq] at hH
  exact ⟨0, by simp [prob], big, rfl, by simp only [prob]; omega⟩

theorem rubOk : RubOk rlx H := by
  intro k s h hH
  simp only [H, Option.some.injEq] at hH
  simp only [rlx]; omega

theorem mergeOk : MergeOk rlx H := by
  intro k X u src d c h _ hH
  exact ⟨h, hH, Int.le_refl _⟩

theorem noClamp : NoClamp prob rlx cfg.root.value 0 := by
  constructor
  · decide
  · decide
  · intro s s' d; simp [prob]
  · intro s u m d c hc; exact hc
  · decide

/-- all the other hypotheses (`AttMerge` included) hold with `lb = isize::MAX` and `o = 2^63 > lb`; the root is pruned by
    the saturated rough-upper-bound test and the diagram has no terminal node -/
theorem counter :
    cfg.ctype = .relaxed ∧ cfg.useCache = false ∧ cfg.dom = none ∧ 1 ≤ cfg.width ∧
    Potential cfg.P H ∧ RubOk cfg.R H ∧ MergeOk cfg.R H ∧ NoClamp cfg.P cfg.R cfg.root.value 0 ∧ InI cfg.lb ∧
    optOf H cfg.root = some big ∧ big > cfg.lb ∧ AttMerge cfg.P cfg.R H ∧
    (compile cfg (Cache.init 1) (DomStore.init 1) 0 none).1 = .ok ∧
    (compile cfg (Cache.init 1) (DomStore.init 1) 0 none).2.1.bestValue = none :=
  ⟨rfl, rfl, rfl, by decide, potential, rubOk, mergeOk, noClamp, by decide, rfl, by decide, attMerge,
   by decide +kernel⟩

end CounterB

end Ddo.C06
