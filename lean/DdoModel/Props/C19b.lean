import DdoModel.Props.C01d
import DdoModel.Proofs.CutRun
/-! # C19 (whole runs) — cutting the sequential search off later never yields worse information

`Props/C05.lean` / `Props/C01b.lean` give the two mechanisms of C19 for **one** turn (`process_lb_mono`: the incumbent never decreases;
`afterPop_ub_le` / `process_ub_eq`: `best_ub` is the running minimum of the popped bounds — written by a minimum at the pop, never by
`process_one_node`; cut-set nodes are not capped by the bound of their parent (repair of finding D14), so the bounds of
the popped nodes themselves may rise, `Ddo.C09.Layered.Rise`: "whatever is open stays below the node in hand" does not hold).  Here
the property is decided as a theorem about **whole runs** of the closed solver of `Props/C01d.lean` (sequential solver over the diagram
model `DdoModel/Mdd.lean`, `EmptyCache`, no dominance checker, either fringe, either cut-set kind), as a function of the poll index `k`
at which the cutoff fires (`compile … (stopAt := some k)`, polls counted across compilations).  **The property holds.**

1. `SolverCfg.solveCut sv k n (s, p)` (`Proofs/CutRun.lean`): the loop of `maximize` as a function of the fuel `n`, like
   `C01.SolverCfg.solveLoop`, the poll counter `p` threaded through every compilation that is started, `stopAt := k` in both
   compilations; a cut-off compilation makes `process_one_node` call `abort_search` (fringe emptied: the loop stops).  `finish` = what
   `maximize` leaves behind (`best_ub := best_lb` unless aborted).  **`solveCut_none`**: without cutoff, for a well-formed model,
   `solveCut` *is* `solveLoop` (whatever the poll counter: `compile_polls_irrel`), hence a run of `CStep` (`solveCut_none_run`).
2. **`cut_run_is_prefix`** (no hypothesis on the model; in `Proofs/CutRun.lean`, diagram level: `buildLoop_prefix`, `buildLoop_prefix_trace`, `compile_prefix`;
   turn level: `cutTurn_closed`, `solveCut_cut_step`, `cut_poll_location`): the run cut at poll `k` makes exactly the turns of the uninterrupted run
   (`SameTurns`: same popped nodes, same states — incumbent, solution, fringe, bookkeeping —, same polls) until the turn into which the
   `k`-th poll falls; there the compilation concerned answers `cutoff` where the uninterrupted one goes on, and the run ends in
   `abortAt`: `best_lb` = the incumbent of the uninterrupted run at that moment (after the update by the restricted diagram iff the
   poll falls into the relaxed compilation), `best_ub` = the running minimum of the bounds popped so far, the node in hand included
   (`abortAt_report`).  If the uninterrupted run
   makes fewer than `k` polls the two runs coincide.
3. **`cut_bounds_monotone`**: well-formed model, `1 ≤ k ≤ k'`: `best_lb(k) ≤ best_lb(k')` and `best_ub(k') ≤ best_ub(k)`
   (`cut_pair_mono`, from any common state; `later_report`: whatever is reported later is within `[incumbent, reported bound]`), a run
   that ends before its cutoff fires reporting `(opt, opt)` — which is below every earlier report because the running minimum is sound
   (`RepInv`, `init_repInv`, `uturn_repInv`: the bound of a popped node that is not pruned is `≥ opt`, so is the minimum of such
   bounds; once a popped maximum is pruned nothing open beats the incumbent any more and no cutoff can fire).
   `cut_bounds_bracket`: `best_lb(k) ≤ opt ≤ best_ub(k)`.
4. **`eventually_exact`**: well-formed model: with `K` = the number of polls of the uninterrupted run, for every `k > K` the cut run *is*
   the uninterrupted run (`solveCut_eq_of_lt`): `Completion { is_exact: true, best_value: Some(opt) }` with a feasible solution
   (`None` iff infeasible), `best_lb = best_ub = opt`.  `c19_sequential`: everything in one statement.
5. non-vacuity: `TrapCut` — the trap model of `Props/C01dWitness.lean` (3 turns, 8 polls): the table `(best_lb, best_ub, is_exact, polls)` for
   `k = 1 … 9` by `decide`, both fringes / cut-set kinds; it is monotone and ends exact; the theorems instantiated on it.

## hypotheses

`WellFormed sv H B0 B` of `Props/C01d.lean` (needed: the runs end, no compilation panics, and `best_lb ≤ opt ≤` bound of a node that is
not pruned, to compare a cut run with a run that ends normally).  The structural part (1. except `solveCut_none`, 2.) needs nothing.
`k ≥ 1` (polls are numbered from 1).

## remarks

* `abort_search` leaves `best_ub` as the pop wrote it (the running minimum), whichever of the two compilations is cut off: no difference
  between the restricted and the relaxed compilation of the same node; the duplicate-free fringe coalesces bounds with `max`, which can
  only raise the bound of an open node — harmless for the reported bound, which is a minimum over *popped* bounds.  No counter-example.
* Inside the loop `best_ub` is transiently *below* the optimum: a popped node that is pruned (`ub ≤ best_lb`) still lowers
  `best_ub` to its bound (`TrapCut.transient_ub`: `best_ub = 3 < 4 = best_lb` after the third pop).  No cutoff can observe it in the sequential
  solver — a pruned node starts no compilation, hence no poll — and `get_workload` repairs it (`best_ub := best_lb`) when it finds
  the fringe empty.
* panics: `solveCut` stops when a compilation *that was started* does not end (`cutCrash`), `solveLoop` when either modelled compilation
  does not, started or not; for a well-formed model neither happens (`uturn_facts`), which is why `solveCut_none` assumes it. -/
set_option linter.unusedSectionVars false
set_option linter.unusedVariables false
namespace Ddo.C19
open Ddo Ddo.Truth Ddo.Closed Ddo.C01
variable {S : Type} [DecidableEq S]

theorem cutTurn_none_fst (sv : SolverCfg S) (st : SeqSt S) (N : SubP S) (p q q' : Nat)
    (hR : (sv.cR none st N p).1 = .ok) (hX : (sv.cX none st N p).1 = .ok) :
    (sv.cutTurn none st N p).1 =
      sv.turn st N (Cache.init sv.P.nbVars) (Cache.init sv.P.nbVars) (DomStore.init sv.P.nbVars) (DomStore.init sv.P.nbVars) q q' := by
  have e1 : toOut (sv.cR none st N p).2.1 = toOut (sv.resR (Cache.init sv.P.nbVars) (DomStore.init sv.P.nbVars) q N st.bestLb) :=
    (compile_polls_irrel _ _ _ p q).2
  have e2 : toOut (sv.cX none st N p).2.1 =
      toOut (sv.resX (Cache.init sv.P.nbVars) (DomStore.init sv.P.nbVars) q' N
        (sv.lb1 st N (Cache.init sv.P.nbVars) (DomStore.init sv.P.nbVars) q)) := by
    unfold SolverCfg.cX SolverCfg.lb1
    rw [e1]
    exact (compile_polls_irrel _ _ _ _ q').2
  unfold SolverCfg.cutTurn SolverCfg.turn
  rw [resOf_ok _ hR, resOf_ok _ hX, e1, e2]

theorem cutCrash_none_false (sv : SolverCfg S) (st : SeqSt S) (N : SubP S) (p : Nat)
    (hR : (sv.cR none st N p).1 = .ok) (hX : (sv.cX none st N p).1 = .ok) : sv.cutCrash none st N p = false := by
  unfold SolverCfg.cutCrash
  rw [hR, hX]
  simp

/-- the optimum as an integer (`isize::MIN` for an infeasible problem): what an uninterrupted run reports in `best_lb` -/
def optV (sv : SolverCfg S) (H : Nat → S → EInt) : Int := ((H 0 sv.P.init).addI sv.P.initVal).getD iMin

theorem cinv_lb_le_optV {sv : SolverCfg S} {H : Nat → S → EInt} {open_ : List (SubP S)} {lb : Int} {sol : Option (List Dec)}
    {abort : Bool} (hI : CInvAt sv H open_ lb sol abort) : lb ≤ optV sv H := by
  unfold optV
  cases hopt : (H 0 sv.P.init).addI sv.P.initVal with
  | none => rw [(hI.infeas hopt).1]; exact Int.le_refl _
  | some opt => exact (hI.feas opt hopt).lbOk

theorem pop_bounds (sv : SolverCfg S) (s : SeqSt S) (N : SubP S) (rest : List (SubP S)) :
    (sv.pop s N rest).bestLb = s.bestLb ∧ (sv.pop s N rest).bestUb = min s.bestUb N.ub :=
  ⟨(C01t.afterPop_lb_sol _ N).1, (C05.afterPop_ub_le _ N).2.2⟩

theorem cutTurn_bounds (sv : SolverCfg S) (k : Option Nat) (st : SeqSt S) (N : SubP S) (p : Nat) :
    (sv.cutTurn k st N p).1.bestUb = st.bestUb ∧ st.bestLb ≤ (sv.cutTurn k st N p).1.bestLb :=
  ⟨C05.process_ub_eq sv.dedup st N true _ _, C05.process_lb_mono sv.dedup st N true _ _⟩

/-- one turn of the uninterrupted run of a well-formed model from a state that satisfies the loop invariant: no compilation
    panics, the invariant is kept, and a node that is not pruned has a bound `≥` the optimum and an incumbent after the turn `≥`
    the one the restricted diagram left -/
theorem uturn_facts {sv : SolverCfg S} {H : Nat → S → EInt} {B0 B : Int} (hwf : WellFormed sv H B0 B) {s : SeqSt S}
    (hI : CInv sv H s) {N : SubP S} {rest : List (SubP S)} (hpop : popMax s.fringe = some (N, rest)) (p : Nat) :
    (sv.cR none (sv.pop s N rest) N p).1 = .ok ∧ (sv.cX none (sv.pop s N rest) N p).1 = .ok ∧
    sv.cutCrash none (sv.pop s N rest) N p = false ∧
    CInv sv H (sv.cutTurn none (sv.pop s N rest) N p).1 ∧
    (¬ N.ub ≤ (sv.pop s N rest).bestLb → optV sv H ≤ N.ub ∧
      ((sv.pop s N rest).updateBest (toOut (sv.cR none (sv.pop s N rest) N p).2.1)).bestLb ≤
        (sv.cutTurn none (sv.pop s N rest) N p).1.bestLb) := by
  obtain ⟨hperm, hmax⟩ := popMax_spec s.fringe N rest hpop
  have hN := hI.nodes N (hperm.mem_iff.mpr List.mem_cons_self)
  have hR : (sv.cR none (sv.pop s N rest) N p).1 = .ok := hwf.no_crash hN _ _ _ _ _
  have hX : (sv.cX none (sv.pop s N rest) N p).1 = .ok := hwf.no_crash hN _ _ _ _ _
  have hIp := popped_cinv (sv := sv) (H := H) N rest (cleanLoop sv.P.nbVars s.openByLayer sv.P.nbVars s.firstActive) hperm hI
  have hcut : (sv.cutTurn none (sv.pop s N rest) N p).1 =
      ((sv.pop s N rest).process sv.dedup N true (.ok (toOut (sv.cR none (sv.pop s N rest) N p).2.1))
        (.ok (toOut (sv.cX none (sv.pop s N rest) N p).2.1))).1 := by
    unfold SolverCfg.cutTurn
    rw [resOf_ok _ hR, resOf_ok _ hX]
  refine ⟨hR, hX, cutCrash_none_false sv _ N p hR hX, ?_, fun hnp => ⟨?_, ?_⟩⟩
  · rw [hcut]
    exact turn_cinv hwf _ N _ _ _ _ _ _ hIp hR hX
  · -- the optimum is below the bound of a node that is not pruned
    unfold optV
    cases hopt : (H 0 sv.P.init).addI sv.P.initVal with
    | none =>
      have h1 : (sv.pop s N rest).bestLb = iMin := (hIp.infeas hopt).1
      rw [h1] at hnp
      exact Int.le_of_lt (Int.lt_of_not_ge hnp)
    | some opt =>
      refine (C05.bounds_at_pop (optOf H) opt (SolOf sv.P) _ _ _ N (hIp.feas opt hopt) (fun c hc => ?_)
        (Int.le_of_lt (Int.lt_of_not_ge hnp))).2
      have hfr : (sv.pop s N rest).fringe = rest := C01t.afterPop_fringe _ N
      exact (hmax c (hfr ▸ hc)).elim Int.le_of_lt (fun h => Int.le_of_eq h.1)
  · rw [hcut]
    rcases SeqSt.process_ok_cases (sv.pop s N rest) N true (toOut (sv.cR none (sv.pop s N rest) N p).2.1)
      (toOut (sv.cX none (sv.pop s N rest) N p).2.1) with ⟨h, _⟩ | ⟨_, _, ⟨_, e⟩ | ⟨_, _, e⟩ | ⟨_, _, e⟩⟩ <;>
      try refine (e sv.dedup).symm ▸ ?_
    · exact absurd (h.elim id (fun h => nomatch h)) hnp
    · exact Int.le_refl _
    · exact updateBest_lb_ge _ _
    · exact Int.le_trans (updateBest_lb_ge _ _) (Int.le_of_eq (enqueue_fields sv.dedup _ _).1.symm)

theorem abortAt_facts (sv : SolverCfg S) (st : SeqSt S) (N : SubP S) (p k : Nat) :
    (sv.abortAt st N p k).fringe = [] ∧ (sv.abortAt st N p k).abort = true ∧ (sv.abortAt st N p k).bestUb = st.bestUb ∧
    st.bestLb ≤ (sv.abortAt st N p k).bestLb ∧
    (sv.abortAt st N p k).bestLb ≤ (st.updateBest (toOut (sv.cR none st N p).2.1)).bestLb ∧
    (k ≤ (sv.cR none st N p).2.1.polls → (sv.abortAt st N p k).bestLb = st.bestLb) ∧
    (¬ k ≤ (sv.cR none st N p).2.1.polls →
      (sv.abortAt st N p k).bestLb = (st.updateBest (toOut (sv.cR none st N p).2.1)).bestLb) ∧
    finish (sv.abortAt st N p k) = sv.abortAt st N p k := by
  have h := updateBest_lb_ge st (toOut (sv.cR none st N p).2.1)
  have hf := (updateBest_fringe st (toOut (sv.cR none st N p).2.1)).2.1
  by_cases hk : k ≤ (sv.cR none st N p).2.1.polls
  · have e : sv.abortAt st N p k = st.abortSearch := by unfold SolverCfg.abortAt; rw [if_pos hk]
    rw [e]
    exact ⟨rfl, rfl, rfl, Int.le_refl _, h, fun _ => rfl, fun h' => absurd hk h', rfl⟩
  · have e : sv.abortAt st N p k = (st.updateBest (toOut (sv.cR none st N p).2.1)).abortSearch := by
      unfold SolverCfg.abortAt; rw [if_neg hk]
    rw [e]
    exact ⟨rfl, rfl, hf, h, Int.le_refl _, fun h' => absurd h' hk, fun _ => rfl, rfl⟩

theorem finish_of_cinv {sv : SolverCfg S} {H : Nat → S → EInt} {s : SeqSt S} (hI : CInv sv H s) :
    (finish s).bestLb = s.bestLb ∧ (finish s).bestUb = s.bestLb ∧ (finish s).completion = s.completion ∧
    (finish s).bestSol = s.bestSol ∧ (finish s).abort = false := by
  have : s.abort = false := hI.noAbort
  unfold finish
  rw [this]
  exact ⟨rfl, rfl, rfl, rfl, this⟩

/-- **`solveCut_none`**: for a well-formed model, from a state that satisfies the loop invariant (in particular from `initialize`),
    `solveCut` without cutoff *is* the uninterrupted loop `C01.SolverCfg.solveLoop` — whatever the poll counter it is started with -/
theorem solveCut_none {sv : SolverCfg S} {H : Nat → S → EInt} {B0 B : Int} (hwf : WellFormed sv H B0 B) :
    ∀ (n : Nat) (sp : SeqSt S × Nat), CInv sv H sp.1 → (sv.solveCut none n sp).1 = sv.solveLoop n sp.1 := by
  intro n
  induction n with
  | zero => intro sp _; rfl
  | succ n ih =>
    intro sp hI
    cases hp : popMax sp.1.fringe with
    | none =>
      rw [solveCut_nil sv none _ sp (popMax_none _ hp), SolverCfg.solveLoop]
      simp only [hp]
    | some Nr =>
      obtain ⟨N, rest⟩ := Nr
      obtain ⟨hR, hX, hcr, hI', _⟩ := uturn_facts hwf hI hp sp.2
      have hN := hI.nodes N ((popMax_spec _ N rest hp).1.mem_iff.mpr List.mem_cons_self)
      rw [solveCut_succ sv none n sp N rest hp, hcr, SolverCfg.solveLoop]
      simp only [hp, Bool.false_eq_true, if_false]
      rw [if_pos (hwf.turn_ok hN _ _ _ _ _ _ _), ih _ hI',
        cutTurn_none_fst sv _ N sp.2 0 0 hR hX]
      rfl

/-- the run without cutoff is a run of the concrete step relation `CStep` of `Props/C01d.lean`: every theorem about `CRun` applies to it -/
theorem solveCut_none_run {sv : SolverCfg S} {H : Nat → S → EInt} {B0 B : Int} (hwf : WellFormed sv H B0 B) (n : Nat)
    (sp : SeqSt S × Nat) (hI : CInv sv H sp.1) : CRun sv sp.1 (sv.solveCut none n sp).1 := by
  rw [solveCut_none hwf n sp hI]
  exact solveLoop_run sv n sp.1

/-- **what the cut run reports** when the `k`-th poll falls into the turn of `N` popped from `s`: `best_ub` = the running minimum of
    the bounds popped so far, the node in hand included; `best_lb` = the incumbent before the turn if the poll falls into the restricted compilation, the incumbent after
    `maybe_update_best` on the restricted diagram if it falls into the relaxed one; `is_exact = false` -/
theorem abortAt_report (sv : SolverCfg S) (s : SeqSt S) (N : SubP S) (rest : List (SubP S)) (p k : Nat) :
    (finish (sv.abortAt (sv.pop s N rest) N p k)).bestUb = min s.bestUb N.ub ∧
    (finish (sv.abortAt (sv.pop s N rest) N p k)).bestLb =
      (if k ≤ (sv.cR none (sv.pop s N rest) N p).2.1.polls then s.bestLb
       else ((sv.pop s N rest).updateBest (toOut (sv.cR none (sv.pop s N rest) N p).2.1)).bestLb) ∧
    (finish (sv.abortAt (sv.pop s N rest) N p k)).completion.1 = false := by
  obtain ⟨_, a2, a3, _, _, a6, a7, a8⟩ := abortAt_facts sv (sv.pop s N rest) N p k
  obtain ⟨hlb, hub⟩ := pop_bounds sv s N rest
  rw [a8, a3, hub]
  refine ⟨rfl, ?_, by simp [SeqSt.completion, a2]⟩
  by_cases hk : k ≤ (sv.cR none (sv.pop s N rest) N p).2.1.polls
  · rw [if_pos hk, a6 hk, hlb]
  · rw [if_neg hk, a7 hk]

/-- `j` complete turns during which the run cut at poll `k` and the uninterrupted run do exactly the same thing: the same node is
    popped, neither panics, `process_one_node` leaves the same state (incumbent, solution, fringe, bookkeeping) and the same poll
    count -/
inductive SameTurns (sv : SolverCfg S) (k : Nat) : Nat → SeqSt S × Nat → SeqSt S × Nat → Prop
  | zero (sp : SeqSt S × Nat) : SameTurns sv k 0 sp sp
  | succ (j : Nat) (sp tp : SeqSt S × Nat) (N : SubP S) (rest : List (SubP S)) :
      popMax sp.1.fringe = some (N, rest) →
      sv.cutCrash none (sv.pop sp.1 N rest) N sp.2 = false → sv.cutCrash (some k) (sv.pop sp.1 N rest) N sp.2 = false →
      sv.cutTurn (some k) (sv.pop sp.1 N rest) N sp.2 = sv.cutTurn none (sv.pop sp.1 N rest) N sp.2 →
      SameTurns sv k j (sv.cutTurn none (sv.pop sp.1 N rest) N sp.2) tp → SameTurns sv k (j + 1) sp tp

theorem SameTurns.solveCut {sv : SolverCfg S} {k j : Nat} {sp tp : SeqSt S × Nat} (h : SameTurns sv k j sp tp) (m : Nat) :
    sv.solveCut none (j + m) sp = sv.solveCut none m tp ∧ sv.solveCut (some k) (j + m) sp = sv.solveCut (some k) m tp := by
  induction h with
  | zero sp => rw [Nat.zero_add]; exact ⟨rfl, rfl⟩
  | succ j sp tp N rest hp hc1 hc2 ht _ ih =>
    have e : j + 1 + m = (j + m) + 1 := Nat.add_right_comm j 1 m
    rw [e, solveCut_succ sv none _ sp N rest hp, solveCut_succ sv (some k) _ sp N rest hp, hc1, hc2, ht]
    exact ih

/-- **`cut_run_is_prefix`** (no hypothesis on the model): the run cut at poll `k`, started with fewer than `k` polls, with fuel `n`.
    * Either the uninterrupted run with the same fuel makes fewer than `k` polls: then the two runs coincide;
    * or there are `j < n` common turns (`SameTurns`: same popped nodes, same incumbents, same fringes, same polls, still `< k`)
      leading to a state `up` from which the next node `N` is popped and the `k`-th poll falls into the turn of `N` (the uninterrupted
      turn ends with `≥ k` polls): the cut run then ends in `abortAt` — `abort_search` on the popped state, after the incumbent
      update by the restricted diagram if the poll falls into the relaxed compilation — with exactly `k` polls. -/
theorem cut_run_is_prefix (sv : SolverCfg S) (k : Nat) :
    ∀ (n : Nat) (sp : SeqSt S × Nat), sp.2 < k →
      ((sv.solveCut none n sp).2 < k ∧ sv.solveCut (some k) n sp = sv.solveCut none n sp) ∨
      (∃ (j : Nat) (up : SeqSt S × Nat) (N : SubP S) (rest : List (SubP S)), j < n ∧ SameTurns sv k j sp up ∧ up.2 < k ∧
        popMax up.1.fringe = some (N, rest) ∧ ¬ N.ub ≤ (sv.pop up.1 N rest).bestLb ∧
        k ≤ (sv.cutTurn none (sv.pop up.1 N rest) N up.2).2 ∧
        sv.solveCut (some k) n sp = (sv.abortAt (sv.pop up.1 N rest) N up.2 k, k)) := by
  intro n
  induction n with
  | zero => intro sp h; exact Or.inl ⟨h, rfl⟩
  | succ n ih =>
    intro sp h
    cases hp : popMax sp.1.fringe with
    | none =>
      have := popMax_none _ hp
      rw [solveCut_nil sv _ _ sp this, solveCut_nil sv _ _ sp this]
      exact Or.inl ⟨h, rfl⟩
    | some Nr =>
      obtain ⟨N, rest⟩ := Nr
      rcases solveCut_cut_step sv k n sp N rest hp h with ⟨hlt, e1, e2, e⟩ | ⟨hk, hnp, e⟩
      · rw [solveCut_succ sv none n sp N rest hp, e]
        by_cases hc : sv.cutCrash none (sv.pop sp.1 N rest) N sp.2 = true
        · rw [if_pos hc, if_pos hc]
          exact Or.inl ⟨hlt, rfl⟩
        · rw [if_neg hc, if_neg hc]
          have hc := eq_false_of_ne_true hc
          rcases ih _ hlt with hh | ⟨j, up, M, rest', hj, hs, hup, hpm, hnp, hk, he⟩
          · exact Or.inl hh
          · exact Or.inr ⟨j + 1, up, M, rest', Nat.succ_lt_succ hj,
              SameTurns.succ j sp up N rest hp hc (e2.trans hc) e1 hs, hup, hpm, hnp, hk, he⟩
      · exact Or.inr ⟨0, sp, N, rest, Nat.succ_pos n, SameTurns.zero sp, h, hp, hnp, hk, e⟩

/-- **the reported pair is sound along the uninterrupted run**: either `best_lb ≤ best_ub` and the optimum is `≤ best_ub` (the running
    minimum of the bounds popped so far), or the search is over in all but name: nothing left in the fringe beats the incumbent (every
    further pop is pruned, no compilation is started, no cutoff can fire; this is the phase in which `best_ub` is transiently below
    `best_lb`, `TrapCut.transient_ub`) -/
def RepInv (sv : SolverCfg S) (H : Nat → S → EInt) (s : SeqSt S) : Prop :=
  (s.bestLb ≤ s.bestUb ∧ optV sv H ≤ s.bestUb) ∨ (∀ c ∈ s.fringe, c.ub ≤ s.bestLb)

/-- `RepInv` holds after `initialize`: `best_ub = isize::MAX` -/
theorem init_repInv {sv : SolverCfg S} {H : Nat → S → EInt} {B0 B : Int} (hwf : WellFormed sv H B0 B) :
    RepInv sv H (SeqSt.init sv.P none sv.dedup) := by
  refine Or.inl ⟨(by decide : iMin ≤ iMax), ?_⟩
  unfold optV
  cases hopt : (H 0 sv.P.init).addI sv.P.initVal with
  | none => show iMin ≤ iMax; decide
  | some opt =>
    exact Int.le_of_lt (hwf.opt_range hopt).2

/-- **`RepInv` is preserved by every turn of the uninterrupted run** (best-first pop; the bound of a popped node that is not pruned is
    `≥` the optimum, `uturn_facts`; a pruned maximum means that nothing open beats the incumbent any more) -/
theorem uturn_repInv {sv : SolverCfg S} {H : Nat → S → EInt} {B0 B : Int} (hwf : WellFormed sv H B0 B) {s : SeqSt S}
    (hI : CInv sv H s) (hR : RepInv sv H s) {N : SubP S} {rest : List (SubP S)} (hpop : popMax s.fringe = some (N, rest)) (p : Nat) :
    RepInv sv H (sv.cutTurn none (sv.pop s N rest) N p).1 ∧
    (¬ N.ub ≤ (sv.pop s N rest).bestLb →
      (sv.pop s N rest).bestLb ≤ (sv.pop s N rest).bestUb ∧ optV sv H ≤ (sv.pop s N rest).bestUb) := by
  obtain ⟨hperm, hmax⟩ := popMax_spec s.fringe N rest hpop
  obtain ⟨_, _, _, hI', hnp⟩ := uturn_facts hwf hI hpop p
  obtain ⟨hubeq, hmono⟩ := cutTurn_bounds sv none (sv.pop s N rest) N p
  obtain ⟨hlb, hub⟩ := pop_bounds sv s N rest
  have hmem : N ∈ s.fringe := hperm.mem_iff.mpr List.mem_cons_self
  have hfr : (sv.pop s N rest).fringe = rest := C01t.afterPop_fringe _ N
  -- the second conjunct first: the first one uses it
  refine (fun hgood => ⟨?_, hgood⟩) (fun hn => ?_)
  · obtain ⟨ho, _⟩ := hnp hn
    rw [hlb] at hn
    rcases hR with ⟨h1, h2⟩ | h
    · rw [hub, hlb]
      exact ⟨Int.le_min.mpr ⟨h1, Int.le_of_lt (Int.not_le.mp hn)⟩, Int.le_min.mpr ⟨h2, ho⟩⟩
    · exact absurd (h N hmem) hn
  · by_cases hle : N.ub ≤ (sv.pop s N rest).bestLb
    · right
      rw [(cutTurn_pruned sv none _ N p hle).1]
      show ∀ c ∈ (sv.pop s N rest).fringe, c.ub ≤ (sv.pop s N rest).bestLb
      rw [hfr]
      exact fun c hc => Int.le_trans ((hmax c hc).elim Int.le_of_lt (fun h => Int.le_of_eq h.1)) hle
    · obtain ⟨_, h2⟩ := hgood hle
      left
      rw [hubeq]
      exact ⟨Int.le_trans (cinv_lb_le_optV hI') h2, h2⟩

/-- whatever a cut run reports later is at least as good: from a state `sp` of a well-formed model that satisfies the loop invariant,
    whose reported upper bound is `≤ u` with `optV ≤ u`, a run cut at any later poll `k` that has ended reports a lower bound `≥` the
    incumbent of `sp` and an upper bound `≤ u` (`best_ub` is only ever written by a minimum at a pop, or by `best_ub := best_lb ≤ optV`
    at the end) -/
theorem later_report {sv : SolverCfg S} {H : Nat → S → EInt} {B0 B : Int} (hwf : WellFormed sv H B0 B) (k : Nat) (u : Int)
    (hu : optV sv H ≤ u) :
    ∀ (n : Nat) (sp : SeqSt S × Nat), CInv sv H sp.1 → sp.2 < k → sp.1.bestUb ≤ u →
      (sv.solveCut (some k) n sp).1.fringe = [] →
      sp.1.bestLb ≤ (finish (sv.solveCut (some k) n sp).1).bestLb ∧ (finish (sv.solveCut (some k) n sp).1).bestUb ≤ u := by
  have base : ∀ sp : SeqSt S × Nat, CInv sv H sp.1 →
      sp.1.bestLb ≤ (finish sp.1).bestLb ∧ (finish sp.1).bestUb ≤ u := by
    intro sp hI
    obtain ⟨f1, f2, _⟩ := finish_of_cinv hI
    rw [f1, f2]
    exact ⟨Int.le_refl _, Int.le_trans (cinv_lb_le_optV hI) hu⟩
  intro n
  induction n with
  | zero => intro sp hI _ _ _; exact base sp hI
  | succ n ih =>
    intro sp hI hp hfr hend
    cases hpm : popMax sp.1.fringe with
    | none => rw [solveCut_nil sv _ _ sp (popMax_none _ hpm)]; exact base sp hI
    | some Nr =>
      obtain ⟨N, rest⟩ := Nr
      obtain ⟨_, _, hcr, hI', _⟩ := uturn_facts hwf hI hpm sp.2
      obtain ⟨hubeq, hmono⟩ := cutTurn_bounds sv none (sv.pop sp.1 N rest) N sp.2
      obtain ⟨hlb, hub⟩ := pop_bounds sv sp.1 N rest
      have hNu : (sv.pop sp.1 N rest).bestUb ≤ u := hub ▸ Int.le_trans (Int.min_le_left _ _) hfr
      rcases solveCut_cut_step sv k n sp N rest hpm hp with ⟨hlt, _, _, e⟩ | ⟨_, _, e⟩ <;> rw [e] at hend ⊢
      · rw [hcr, if_neg Bool.false_ne_true] at hend ⊢
        obtain ⟨h1, h2⟩ := ih _ hI' hlt (by rw [hubeq]; exact hNu) hend
        exact ⟨Int.le_trans (hlb ▸ hmono) h1, h2⟩
      · obtain ⟨_, _, a3, a4, _, _, _, a8⟩ := abortAt_facts sv (sv.pop sp.1 N rest) N sp.2 k
        rw [a8, a3]
        exact ⟨hlb ▸ a4, hNu⟩

/-- **monotonicity, from a common state**: two runs of a well-formed model from the same state (loop invariant, sound reported pair,
    fewer than `k` polls), cut at the polls `k ≤ k'`, both ended: the later cut reports a lower bound at least as large and an upper
    bound at most as large -/
theorem cut_pair_mono {sv : SolverCfg S} {H : Nat → S → EInt} {B0 B : Int} (hwf : WellFormed sv H B0 B) (k k' : Nat)
    (hkk : k ≤ k') :
    ∀ (n n' : Nat) (sp : SeqSt S × Nat), CInv sv H sp.1 → RepInv sv H sp.1 → sp.2 < k →
      (sv.solveCut (some k) n sp).1.fringe = [] → (sv.solveCut (some k') n' sp).1.fringe = [] →
      (finish (sv.solveCut (some k) n sp).1).bestLb ≤ (finish (sv.solveCut (some k') n' sp).1).bestLb ∧
      (finish (sv.solveCut (some k') n' sp).1).bestUb ≤ (finish (sv.solveCut (some k) n sp).1).bestUb := by
  -- on an empty fringe both runs have ended in the same state
  have same : ∀ (n n' : Nat) (sp : SeqSt S × Nat), sp.1.fringe = [] →
      sv.solveCut (some k) n sp = sv.solveCut (some k') n' sp := fun n n' sp h =>
    (solveCut_nil sv _ n sp h).trans (solveCut_nil sv _ n' sp h).symm
  intro n
  induction n with
  | zero => intro n' sp _ _ _ hend _; rw [same 0 n' sp hend]; exact ⟨Int.le_refl _, Int.le_refl _⟩
  | succ n ih =>
    intro n' sp hI hRep hp hend hend'
    cases hpm : popMax sp.1.fringe with
    | none => rw [same _ n' sp (popMax_none _ hpm)]; exact ⟨Int.le_refl _, Int.le_refl _⟩
    | some Nr =>
      obtain ⟨N, rest⟩ := Nr
      cases n' with
      | zero =>
        have : sp.1.fringe = [] := hend'
        rw [this] at hpm
        cases hpm
      | succ m =>
        obtain ⟨_, _, hcr, hI', hnp⟩ := uturn_facts hwf hI hpm sp.2
        obtain ⟨hubeq, hmono⟩ := cutTurn_bounds sv none (sv.pop sp.1 N rest) N sp.2
        obtain ⟨hlb, hub⟩ := pop_bounds sv sp.1 N rest
        obtain ⟨hRep', hgood⟩ := uturn_repInv hwf hI hRep hpm sp.2
        rcases solveCut_cut_step sv k n sp N rest hpm hp with ⟨hlt, _, _, e⟩ | ⟨hk, hnpr, e⟩ <;> rw [e] at hend ⊢
        · -- the turn is common to both runs
          rcases solveCut_cut_step sv k' m sp N rest hpm (Nat.lt_of_lt_of_le hp hkk) with ⟨_, _, _, e'⟩ | ⟨hk', _, _⟩
          · rw [e'] at hend' ⊢
            rw [hcr, if_neg Bool.false_ne_true] at hend hend' ⊢
            exact ih m _ hI' hRep' hlt hend hend'
          · exact absurd (Nat.le_trans hkk hk') (Nat.not_le_of_lt hlt)
        · -- the earlier cutoff fires in this turn
          obtain ⟨_, _, a3, a4, a5, a6, a7, a8⟩ := abortAt_facts sv (sv.pop sp.1 N rest) N sp.2 k
          rw [a8, a3]
          rcases solveCut_cut_step sv k' m sp N rest hpm (Nat.lt_of_lt_of_le hp hkk) with ⟨hlt', _, _, e'⟩ | ⟨hk', _, e'⟩ <;>
            rw [e'] at hend' ⊢
          · -- the later one does not: its run goes on from the state after the uninterrupted turn
            rw [hcr, if_neg Bool.false_ne_true] at hend' ⊢
            obtain ⟨h1, h2⟩ := later_report hwf k' (sv.pop sp.1 N rest).bestUb (hgood hnpr).2 m _ hI' hlt'
              (by rw [hubeq]; exact Int.le_refl _) hend'
            exact ⟨Int.le_trans (Int.le_trans a5 (hnp hnpr).2) h1, h2⟩
          · -- both fire in this turn
            obtain ⟨_, _, b3, b4, _, _, b7, b8⟩ := abortAt_facts sv (sv.pop sp.1 N rest) N sp.2 k'
            rw [b8, b3]
            refine ⟨?_, Int.le_refl _⟩
            by_cases hkR : k ≤ (sv.cR none (sv.pop sp.1 N rest) N sp.2).2.1.polls
            · rw [a6 hkR]; exact b4
            · rw [a7 hkR, b7 (fun h => hkR (Nat.le_trans hkk h))]; exact Int.le_refl _

/-- the start of a run: `initialize` (no primal), no poll yet -/
def _root_.Ddo.C01.SolverCfg.start (sv : SolverCfg S) : SeqSt S × Nat := (SeqSt.init sv.P none sv.dedup, 0)

/-- the solver as `maximize` leaves it when the cutoff fires at poll `k` (`none`: never), fuel `n` -/
def _root_.Ddo.C01.SolverCfg.cutReport (sv : SolverCfg S) (k : Option Nat) (n : Nat) : SeqSt S :=
  finish (sv.solveCut k n sv.start).1

def _root_.Ddo.C01.SolverCfg.ended (sv : SolverCfg S) (k : Option Nat) (n : Nat) : Prop :=
  (sv.solveCut k n sv.start).1.fringe = []

/-- a cut run has ended as soon as the uninterrupted run has (no hypothesis on the model) -/
theorem cut_run_ends (sv : SolverCfg S) (k : Nat) (hk : 1 ≤ k) (n : Nat) (hn : sv.ended none n) : sv.ended (some k) n := by
  unfold SolverCfg.ended at hn ⊢
  rcases cut_run_is_prefix sv k n sv.start hk with ⟨_, e⟩ | ⟨j, up, N, rest, _, _, _, _, _, _, e⟩
  · rw [e]; exact hn
  · rw [e]; exact (abortAt_facts sv _ N up.2 k).1

/-- **`cut_bounds_monotone`** — C19 for the sequential solver over the diagram model: for a well-formed model and cutoff polls
    `1 ≤ k ≤ k'`, the run cut at `k'` reports a lower bound at least as large and an upper bound at most as large as the run cut at
    `k` (both runs given enough fuel to end; a run that ends before its cutoff fires reports `best_ub = best_lb`, the optimum) -/
theorem cut_bounds_monotone {sv : SolverCfg S} {H : Nat → S → EInt} {B0 B : Int} (hwf : WellFormed sv H B0 B) (k k' : Nat)
    (hk : 1 ≤ k) (hkk : k ≤ k') (n n' : Nat) (hn : sv.ended (some k) n) (hn' : sv.ended (some k') n') :
    (sv.cutReport (some k) n).bestLb ≤ (sv.cutReport (some k') n').bestLb ∧
    (sv.cutReport (some k') n').bestUb ≤ (sv.cutReport (some k) n).bestUb :=
  cut_pair_mono hwf k k' hkk n n' sv.start (init_cinv hwf) (init_repInv hwf) hk hn hn'

/-- **`eventually_exact`**: for a well-formed model there are a fuel `nU` and a poll count `K` — the uninterrupted run ends within `nU`
    turns and makes `K` polls — such that for every `k > K` and every fuel `n ≥ nU` the run cut at poll `k` *is* the uninterrupted
    run: not aborted, `best_lb = best_ub =` the optimum, `Completion { is_exact: true, best_value: Some(opt) }` with a feasible
    solution of that value (`best_value: None` iff the problem is infeasible) -/
theorem eventually_exact {sv : SolverCfg S} {H : Nat → S → EInt} {B0 B : Int} (hwf : WellFormed sv H B0 B) :
    ∃ nU K : Nat, sv.ended none nU ∧ K = (sv.solveCut none nU sv.start).2 ∧
      (sv.solveCut none nU sv.start).1 = sv.solveLoop nU (SeqSt.init sv.P none sv.dedup) ∧
      ∀ k, K < k → ∀ n, nU ≤ n →
        sv.solveCut (some k) n sv.start = sv.solveCut none nU sv.start ∧
        (sv.cutReport (some k) n).abort = false ∧
        (sv.cutReport (some k) n).bestLb = optV sv H ∧ (sv.cutReport (some k) n).bestUb = optV sv H ∧
        (∀ opt, (H 0 sv.P.init).addI sv.P.initVal = some opt →
          (sv.cutReport (some k) n).completion = (true, some opt) ∧
          ∃ p, (sv.cutReport (some k) n).bestSol = some p ∧ SolOf sv.P p opt) ∧
        ((H 0 sv.P.init).addI sv.P.initVal = none → (sv.cutReport (some k) n).completion = (true, none)) := by
  obtain ⟨nU, hend⟩ := solveLoop_total hwf _ (init_cinv (sv := sv) hwf)
  have e0 : (sv.solveCut none nU sv.start).1 = sv.solveLoop nU (SeqSt.init sv.P none sv.dedup) :=
    solveCut_none hwf nU sv.start (init_cinv hwf)
  have hendU : sv.ended none nU := by unfold SolverCfg.ended; rw [e0]; exact hend
  refine ⟨nU, _, hendU, rfl, e0, ?_⟩
  intro k hk n hn
  have hst := solveCut_stable sv none nU sv.start hendU n hn
  have heq : sv.solveCut (some k) n sv.start = sv.solveCut none nU sv.start := by
    rw [← hst]
    exact solveCut_eq_of_lt sv k n sv.start (by rw [hst]; exact hk)
  have hI : CInv sv H (sv.solveLoop nU (SeqSt.init sv.P none sv.dedup)) :=
    crun_inv hwf (solveLoop_run sv nU _) (init_cinv hwf)
  obtain ⟨f1, f2, f3, f4, hab⟩ := finish_of_cinv hI
  obtain ⟨g1, g2⟩ := cinv_end_correct hwf hI hend
  have hrep : sv.cutReport (some k) n = finish (sv.solveLoop nU (SeqSt.init sv.P none sv.dedup)) := by
    unfold SolverCfg.cutReport; rw [heq, e0]
  have hlb : (sv.solveLoop nU (SeqSt.init sv.P none sv.dedup)).bestLb = optV sv H := by
    unfold optV
    cases hopt : (H 0 sv.P.init).addI sv.P.initVal with
    | none => exact (hI.infeas hopt).1
    | some opt => exact (g1 opt hopt).1
  rw [hrep, f1, f2, f3, f4]
  exact ⟨heq, hab, hlb, hlb, fun opt hopt => ⟨(g1 opt hopt).2.2, (g1 opt hopt).2.1⟩, fun hinf => (g2 hinf).2⟩

/-- a cut run brackets the optimum, i.e. what the uninterrupted run reports: `best_lb ≤ opt ≤ best_ub` (the case `k' = ∞` of
    `cut_bounds_monotone`) -/
theorem cut_bounds_bracket {sv : SolverCfg S} {H : Nat → S → EInt} {B0 B : Int} (hwf : WellFormed sv H B0 B) (k : Nat)
    (hk : 1 ≤ k) (n : Nat) (hn : sv.ended (some k) n) :
    (sv.cutReport (some k) n).bestLb ≤ optV sv H ∧ optV sv H ≤ (sv.cutReport (some k) n).bestUb := by
  obtain ⟨nU, K, hU, _, _, hex⟩ := eventually_exact hwf
  obtain ⟨heq, _, e1, e2, _⟩ := hex (max k (K + 1)) (Nat.lt_of_lt_of_le (Nat.lt_succ_self K) (Nat.le_max_right _ _)) nU (Nat.le_refl _)
  have hend' : sv.ended (some (max k (K + 1))) nU := by unfold SolverCfg.ended; rw [heq]; exact hU
  have := cut_bounds_monotone hwf k (max k (K + 1)) hk (Nat.le_max_left _ _) n nU hn hend'
  rw [e1, e2] at this
  exact this

/-- **C19, sequential solver, all in one**: for a well-formed model there are a fuel `nU` and a poll count `K` such that
    (i) with fuel `≥ nU` every run — uninterrupted, or cut at any poll `k ≥ 1` — has ended, and its result does not depend on the fuel;
    (ii) as functions of the poll `k ≥ 1` at which the cutoff fires, the reported lower bound is non-decreasing and the reported upper
    bound is non-increasing, and they bracket the optimum;
    (iii) for every `k > K` the run is exact: not aborted, both bounds equal to the optimum. -/
theorem c19_sequential (sv : SolverCfg S) (H : Nat → S → EInt) (B0 B : Int) (hwf : WellFormed sv H B0 B) :
    ∃ nU K : Nat,
      (∀ k, 1 ≤ k → ∀ n, nU ≤ n → sv.ended (some k) nU ∧ sv.solveCut (some k) n sv.start = sv.solveCut (some k) nU sv.start) ∧
      (∀ k k', 1 ≤ k → k ≤ k' →
        (sv.cutReport (some k) nU).bestLb ≤ (sv.cutReport (some k') nU).bestLb ∧
        (sv.cutReport (some k') nU).bestUb ≤ (sv.cutReport (some k) nU).bestUb ∧
        (sv.cutReport (some k) nU).bestLb ≤ optV sv H ∧ optV sv H ≤ (sv.cutReport (some k) nU).bestUb) ∧
      (∀ k, K < k → (sv.cutReport (some k) nU).abort = false ∧
        (sv.cutReport (some k) nU).bestLb = optV sv H ∧ (sv.cutReport (some k) nU).bestUb = optV sv H) := by
  obtain ⟨nU, K, hU, _, _, hex⟩ := eventually_exact hwf
  refine ⟨nU, K, fun k hk n hn => ?_, fun k k' hk hkk => ?_, fun k hk => ?_⟩
  · have h := cut_run_ends sv k hk nU hU
    exact ⟨h, solveCut_stable sv (some k) nU sv.start h n hn⟩
  · have h := cut_run_ends sv k hk nU hU
    have h' := cut_run_ends sv k' (Nat.le_trans hk hkk) nU hU
    obtain ⟨m1, m2⟩ := cut_bounds_monotone hwf k k' hk hkk nU nU h h'
    obtain ⟨b1, b2⟩ := cut_bounds_bracket hwf k hk nU h
    exact ⟨m1, m2, b1, b2⟩
  · obtain ⟨_, a, b, c, _⟩ := hex k hk nU (Nat.le_refl _)
    exact ⟨a, b, c⟩

end Ddo.C19

#print axioms Ddo.C19.buildLoop_prefix
#print axioms Ddo.C19.buildLoop_prefix_trace
#print axioms Ddo.C19.compile_prefix
#print axioms Ddo.C19.compile_polls_irrel
#print axioms Ddo.C19.cutTurn_closed
#print axioms Ddo.C19.cut_poll_location
#print axioms Ddo.C19.solveCut_eq_of_lt
#print axioms Ddo.C19.solveCut_none
#print axioms Ddo.C19.solveCut_none_run
#print axioms Ddo.C19.cut_run_is_prefix
#print axioms Ddo.C19.abortAt_report
#print axioms Ddo.C19.later_report
#print axioms Ddo.C19.cut_pair_mono
#print axioms Ddo.C19.cut_run_ends
#print axioms Ddo.C19.cut_bounds_monotone
#print axioms Ddo.C19.eventually_exact
#print axioms Ddo.C19.cut_bounds_bracket
#print axioms Ddo.C19.c19_sequential
