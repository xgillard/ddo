import DdoModel.Props.C10d
import DdoModel.Proofs.CompatPot
import DdoModel.Proofs.CompatLevelStep
import DdoModel.Proofs.CompatProcess
import DdoModel.Proofs.CompatFields
import DdoModel.Proofs.CompatTheta
import DdoModel.Proofs.CompatBuilt
/-! # C09 + C10 together, repaired statement: `caching_dominance_solver_correct_mono`

`Props/C10d.lean` refutes `CachingDominanceCompat` as stated (`Shadow`: the rough upper bound of a never-reached state) and reduces the
repaired joint statement `CachingDominanceCompatMono` (cache **and** dominance checker; `SimAll` rule, static order, rule-maximal merge,
potential monotone in the rule's order — `PotMono`) to `CompatProcessME`: the clauses *main* and *entries* of the joint invariant
`CompatInv` survive a turn that compiles the popped node.  Here it is proved:

* **`caching_dominance_solver_correct_mono : CachingDominanceCompatMono`** — for every `WellFormed` model, every `SimAll` rule with a
  static order, a rule-maximal merge operator and a potential that is monotone in the rule's order, the sequential solver with
  `SimpleCache` **and** `SimpleDominanceChecker` over the diagram model, popping best-first, both cut-set kinds, both fringes,
  terminates, never panics, and ends with the optimum, a feasible stored solution and `is_exact = true`;
* **`caching_dominance_solver_correct_mono_anyorder`** — the same for **every pop order** (`KDStepAny`: a custom ranking, the parallel
  solver processing out of order — the situation of finding D14);
* `kdsolveLoop_computes_opt_mono` — the executable-loop form; `Kp.correct` — the knapsack model of the `ddo` documentation, every width
  `≥ 1`, both fringes, both cut-set kinds (non-vacuity; the value is also evaluated for widths 1 – 3: `Ddo.C10c.Kp.joint_value`);
* `jointContract : JointContract`, `compatProcessME : CompatProcessME`, `compatTurn : CompatTurn` — the named statements of
  `Props/C10d.lean`.

## the shape of the argument

Cache-only correctness (C09) is an invariant about *potentials*: what the cache prunes is carried by an open node.  With the checker on
that invariant is false (`Carrier`, `Twin`, `Shadow`): the carrier may be dropped.  The joint invariant keeps ONE level of it — "hot"
= at least as good, in the rule's order, as a protected item (`GAbove`), encoded as `v + gpot ≥ opt` — and at that level the checker is
a rough-bound test: what it drops is not hot (`gpot_dominated`), so its verdicts, and the thresholds derived from them, are sound for
the pseudo-incumbent `opt − 1`.  `MergeCompat` makes relaxed images of protected paths hot (`gpot_MergeOk`), `SimAll` makes hotness
propagate along a decision (`gpot_att_L`), `PotMono` keeps the rough upper bound from cutting a hot node (`gpot_RubOk` — the hypothesis
`Shadow` shows to be necessary).  Everything else is the C09 development replayed with a potential that is not a `Potential`.

## the level

**The pseudo-potential** (`Proofs/CompatPot.lean`).  `gpot k s = opt − (least v with GAbove k s v)`: "`(s, v)` is `GAbove`" ⟺
"`v + gpot k s ≥ opt`" (`gpot_spec`).  It has the potential properties the single-compilation machinery of C09 consumes — `att` on
**every** state (`gpot_att_L`), `MergeOk` (`gpot_MergeOk`, from `MergeCompat`), `RubOk` (`gpot_RubOk`, from `PotMono`: the step
`Shadow` breaks), `0` at the terminal depth when defined (`gpot_term_L`), `≤ opt` on exactly reached items (`gpot_reach_le`) — and
the one property that makes the checker harmless: **a dominated item is not hot** (`gpot_dominated`: `v + gpot ≤ opt − 1`).  It does
*not* satisfy `Potential.le`; nothing below needs it.

## one compilation at that level: `JointContract`, field by field

The contract `JCompC` of one compilation (`Proofs/CompatLevelStep.lean`) has the fields `exact` / `cover`, `theta`, `ub`, `fresh`, `exactCut`,
`rng`, `deeper`; `JointContract` (`Proofs/CompatProcess.lean`) asks it of every compilation with cache and checker that counts, read with
`gpot`; `jointContract_of_fields` assembles it from `JCEasy`, `JCTheta`, `JCRoot`, `JCUb`, `JCFresh`.

* **Relaxed compilations only** (`Proofs/CompatFields.lean`): an exact restricted compilation is the relaxed compilation of the same
  input (`restricted_exact_as_relaxed`, any cache and checker), so each field below is needed for `ctype = .relaxed` only
  (`fieldHolds_of_relaxed`; `JCThetaX`, `JCRootX`, `JCUbX`, `JCFreshX`).
* **`JCEasy`** (`exactCut`, `rng`, `deeper`; `Proofs/CompatFields.lean`, `jcEasy`): for any cache and checker the cut-set of an exact relaxed
  diagram holds nothing whose bound reaches `opt` while the incumbent is below `opt` (`exactCut_any`, `cutset_ub_le_bestValue`), an
  exact restricted diagram has an empty cut-set, cut-set nodes are exactly reached, in range and strictly deeper than the root.
* **`JCFresh`** (`Proofs/FreshJoint.lean`, `Proofs/CompatFields.lean`, `jcFresh`): a cut-set node whose bound reaches
  `opt` is accepted by `must_explore` after the updates of its own compilation — for ANY cache, ANY checker and store
  (`fresh_contract_joint`).  Loop invariant `KJ` (`buildLoop_kj`); the distinctness fact is `DistX`: the nodes of a layer that are not
  flagged relaxed have pairwise distinct states (the cache-only form `built_distinct`, "neither deleted nor pruned", is **false** with the
  checker on: the merged node of `_relax` may carry the state of a node the checker dropped).
* **`JCTheta`, `JCRoot`, `JCUb`** (`Proofs/ThetaCore.lean`, `ThetaCtx.lean`, `ThetaCtxCover.lean`, `CompatTheta.lean`): the downward induction
  of `Proofs/ThetaCore.lean` with one more class of nodes — `Drop`: dropped by the checker, not deleted, not flagged `cache`, never expanded,
  keeping the threshold of the verdict, below which nothing is hot (`gpot_dominated`) — for the pseudo-potential at the level `opt − 1`, and
  its reading on `compile`: `jcTheta_of`, `jcRoot_of : BuiltOkJoint → …`, `jcUb_of : BuiltOkJointK → JCUb`.
* **The top-down invariant those three start from** (`Proofs/BuildInv.lean`, `Proofs/CompatBuilt.lean`; `builtOkJoint`, `builtOkJointK`): the
  preservation of the threshold invariant by one layer step is proved once, for `TInvJ` — `TInv` with the class `Drop` of the positions
  dropped by `_filter_with_dominance` — and the pseudo-potential: cache filter (`sqpostJ_fc`), checker filter (`sqpostJ_drop`, from a
  node-level description of the fold that `filterDom_spec` does not give — `filterDom_desc`, `query_thr`: the node dropped keeps exactly
  the verdict's threshold `t`, `value ≤ t`, and nothing `≤ t` is hot), `_relax` (`sqpostJ_relax`), expansion (`expand_tinvJ`); the side
  invariant `KArcM` (nothing marked, inbound arcs from alive positions) with the same classification.  The cache-only
  `Ddo.Theta.stepLayer_tinv` / `compile_doneT` (`HypT.dom : cfg.dom = none`, `Potential`) are the projections `Drop = ∅` of that step, not a
  separate proof; `Proofs/CompatBuilt.lean` runs the loop with both filters and discharges the description of the checker's fold.

## from the contract to the theorem

* **One compilation moves the invariant** (`Proofs/CompatLevelStep.lean`, `step_me`): the step `step_generic` of the caching solver
  (`Proofs/SeqCache.lean`) at the single level `opt` of an abstract potential, for both fringes (a new fringe that *dominates*
  the old one and the cut-set nodes worth enqueuing), **any popped node**, from `JCompC`.
* **One compiled turn** (`Proofs/CompatProcess.lean`): `kdprocess_shape` (what a compiled turn computes, with the views of the caches),
  `processME_of_contract` (restricted compilation exact: one step with its contract; otherwise it records no threshold —
  `restricted_inexact_no_ups` — and one step with the contract of the relaxed compilation; `must_explore`, `clear_layer`, the two
  `maybe_update_best`, `enqueue_cutset` of either fringe); `compatProcessME_of_jointContract : JointContract → CompatProcessME`.
* **Runs** (`Proofs/CompatInv.lean`, `Proofs/CompatStore.lean`, `Proofs/CompatOrder.lean`, `Ddo.C10c.jointSound`): skipped turns, the clause
  *store*, initial state, empty fringe, termination and absence of panics — `cachingDominanceCompatMono_of_jointContract`.
* **Every pop order** (`Proofs/CompatProcess.lean`): no step above uses a best-first pop (`compatInv_turn`: one turn, any popped node,
  preserves `CompatInv`); `KDStepAny`, `KDRunAny`, `JointCorrectAny`, `jointCorrectAny_of_jointContract` — the situation of finding D14
  (a custom ranking, the parallel solver processing out of order).

The `…_of` forms of the headlines take the statement `BuiltOkJointK` about the top-down build as a hypothesis.  For ANY rule, without the order hypotheses:
`kdsolveLoop_total` / `kdsolveLoop_sound` — with cache and checker the loop reaches the empty fringe, does not panic, and holds the value
of a feasible solution.

`Proofs/CompatContractTest.lean` evaluates the five fields of the contract, with the pseudo-potential computed from the protected
family of the model, on the compilations of a run (executable; no theorem depends on it). -/
set_option linter.unusedSectionVars false
set_option linter.unusedVariables false
namespace Ddo.C10e
open Ddo Ddo.C01 Ddo.Closed Ddo.C09 Ddo.C10 Ddo.C10c Ddo.C10d

section loop
variable {S K : Type} [DecidableEq S] [DecidableEq K]

theorem kdsolveLoop_total {dv : DSolverCfg S K} {H : Nat → S → EInt} {B0 B : Int} (hwf : WellFormed dv.sv H B0 B) (s : KDSt S K) :
    JSInv dv H s → ∃ n, (dv.kdsolveLoop n s).st.fringe = [] := by
  refine (kdstep_terminates hwf).induction (C := fun s => JSInv dv H s → ∃ n, (dv.kdsolveLoop n s).st.fringe = []) s ?_
  intro s ih hI
  by_cases hne : s.st.fringe = []
  · exact ⟨0, hne⟩
  · obtain ⟨N, rest, hp⟩ := popMax_some s.st.fringe hne
    obtain ⟨hpop, hmax⟩ := popMax_spec s.st.fringe N rest hp
    obtain ⟨t, ht, hT, _⟩ := kdturn_inv hwf s N rest hpop hI
    obtain ⟨n, hn⟩ := ih t ⟨hI, KDStep.pop s t N rest hpop hmax ht⟩ hT
    refine ⟨n + 1, ?_⟩
    rw [DSolverCfg.kdsolveLoop]
    simp only [hp, ht]
    exact hn

/-- **the solver with cache and checker, as a function, any rule**: the loop reaches the empty fringe without panic and holds the
    value of a feasible solution, at most the optimum -/
theorem kdsolveLoop_sound (dv : DSolverCfg S K) (H : Nat → S → EInt) (B0 B : Int) (hwf : WellFormed dv.sv H B0 B) :
    ∃ n, (dv.kdsolveLoop n (KDSt.init dv)).st.fringe = [] ∧ (dv.kdsolveLoop n (KDSt.init dv)).st.crashed = false ∧
      (dv.kdsolveLoop n (KDSt.init dv)).st.abort = false ∧
      ∀ opt, (H 0 dv.sv.P.init).addI dv.sv.P.initVal = some opt →
        (dv.kdsolveLoop n (KDSt.init dv)).st.bestLb ≤ opt ∧
        ∀ p, (dv.kdsolveLoop n (KDSt.init dv)).st.bestSol = some p → SolOf dv.sv.P p (dv.kdsolveLoop n (KDSt.init dv)).st.bestLb := by
  obtain ⟨n, hn⟩ := kdsolveLoop_total hwf _ (init_jsinv hwf)
  have hI := kdrun_inv hwf (kdsolveLoop_run dv n _) (init_jsinv hwf)
  exact ⟨n, hn, hI.lay.2, hI.noAbort, hI.snd⟩

end loop

theorem jointContract_of (hB : BuiltOkJointK) : JointContract :=
  jointContract_of_fields jcEasy (jcTheta_of (builtOkJoint_of_K hB)) (jcRoot_of (builtOkJoint_of_K hB)) (jcUb_of hB) jcFresh

theorem caching_dominance_solver_correct_mono_of (hB : BuiltOkJointK) :
    CachingDominanceCompatMono :=
  cachingDominanceCompatMono_of_jointContract (jointContract_of hB)

theorem caching_dominance_solver_correct_mono_anyorder_of (hB : BuiltOkJointK)
    {S K : Type} [DecidableEq S] [DecidableEq K] (dv : DSolverCfg S K) (H : Nat → S → EInt) (B0 B opt : Int) (n : Nat)
    (hM : MonoHyp dv H B0 B opt n) : JointCorrectAny dv opt :=
  jointCorrectAny_of_jointContract (jointContract_of hB) hM

theorem kdsolveLoop_computes_opt_mono_of (hB : BuiltOkJointK)
    {S K : Type} [DecidableEq S] [DecidableEq K] (dv : DSolverCfg S K) (H : Nat → S → EInt) (B0 B opt : Int) (n : Nat)
    (hM : MonoHyp dv H B0 B opt n) :
    ∃ m, (dv.kdsolveLoop m (KDSt.init dv)).st.fringe = [] ∧ (dv.kdsolveLoop m (KDSt.init dv)).st.crashed = false ∧
      (dv.kdsolveLoop m (KDSt.init dv)).st.completion = (true, some opt) ∧
      ∃ p, (dv.kdsolveLoop m (KDSt.init dv)).st.bestSol = some p ∧ SolOf dv.sv.P p opt := by
  obtain ⟨m, hm⟩ := kdsolveLoop_total hM.wf _ (init_jsinv hM.wf)
  have hJC := caching_dominance_solver_correct_mono_of hB S K dv H B0 B opt n hM.wf hM.opt hM.dim hM.stat hM.sim hM.mc hM.mono
  obtain ⟨_, hc, hend⟩ := hJC.2.2 _ (kdsolveLoop_run dv m _)
  obtain ⟨_, hsol, hcomp⟩ := hend hm
  exact ⟨m, hm, hc, hcomp, hsol⟩

theorem jointContract : JointContract := jointContract_of builtOkJointK

theorem compatProcessME : CompatProcessME := compatProcessME_of_jointContract jointContract
theorem compatProcess : CompatProcess := compatProcess_of_me compatProcessME
theorem compatTurn : CompatTurn := compatTurn_of_process compatProcess

/-- **`caching_dominance_solver_correct_mono`** — the joint statement for the threshold cache and the dominance checker together:
    `WellFormed` model, static variable order, a rule that satisfies the simulation condition for all pairs (`SimAll`), a merge operator
    that is maximal for the rule (`MergeCompat`) and a potential that is monotone in the rule's order (`PotMono`: the rough upper bound
    is valid on every state the rule ranks above an exactly reached one).  The sequential solver with `SimpleCache` **and**
    `SimpleDominanceChecker`, best-first pops, both cut-set kinds, both fringes: the step relation is well-founded, there is no infinite
    run, a turn is always possible while the fringe is not empty, nothing panics, and at the empty fringe the solver holds the optimum,
    a feasible stored solution of that value and `is_exact = true`. -/
theorem caching_dominance_solver_correct_mono : CachingDominanceCompatMono :=
  caching_dominance_solver_correct_mono_of builtOkJointK

/-- **for every pop order** -/
theorem caching_dominance_solver_correct_mono_anyorder {S K : Type} [DecidableEq S] [DecidableEq K] (dv : DSolverCfg S K)
    (H : Nat → S → EInt) (B0 B opt : Int) (n : Nat) (hM : MonoHyp dv H B0 B opt n) : JointCorrectAny dv opt :=
  caching_dominance_solver_correct_mono_anyorder_of builtOkJointK dv H B0 B opt n hM

/-- **the solver with cache and checker, as a function, computes the optimum** -/
theorem kdsolveLoop_computes_opt_mono {S K : Type} [DecidableEq S] [DecidableEq K] (dv : DSolverCfg S K) (H : Nat → S → EInt)
    (B0 B opt : Int) (n : Nat) (hM : MonoHyp dv H B0 B opt n) :
    ∃ m, (dv.kdsolveLoop m (KDSt.init dv)).st.fringe = [] ∧ (dv.kdsolveLoop m (KDSt.init dv)).st.crashed = false ∧
      (dv.kdsolveLoop m (KDSt.init dv)).st.completion = (true, some opt) ∧
      ∃ p, (dv.kdsolveLoop m (KDSt.init dv)).st.bestSol = some p ∧ SolOf dv.sv.P p opt :=
  kdsolveLoop_computes_opt_mono_of builtOkJointK dv H B0 B opt n hM

/-- the hypothesis `PotMono` may be replaced by "`Potential.le` holds on every state" (the potential is the value-to-go of every
    state, reached or not: `Ddo.C10d.potMono_of_leAll`) -/
theorem caching_dominance_solver_correct_leAll {S K : Type} [DecidableEq S] [DecidableEq K] (dv : DSolverCfg S K) (H : Nat → S → EInt)
    (B0 B opt : Int) (n : Nat) (hwf : WellFormed dv.sv H B0 B) (hopt : (H 0 dv.sv.P.init).addI dv.sv.P.initVal = some opt)
    (hdim : ∀ s, dv.D.dims s = n) (hstat : StaticOrder dv.sv.P) (hsim : SimAll dv.D dv.sv.P n) (hmc : MergeCompat dv.D dv.sv.R n)
    (hle : PotLeAll dv.sv.P H) : JointCorrect dv opt :=
  caching_dominance_solver_correct_mono S K dv H B0 B opt n hwf hopt hdim hstat hsim hmc
    (potMono_of_leAll hwf.pot hle hwf.nv hstat hsim)

end Ddo.C10e

#print axioms Ddo.C10d.gpot_spec
#print axioms Ddo.C10d.gpot_att_L
#print axioms Ddo.C10d.gpot_MergeOk
#print axioms Ddo.C10d.gpot_RubOk
#print axioms Ddo.C10d.gpot_term_L
#print axioms Ddo.C10d.gpot_reach_le
#print axioms Ddo.C10d.gpot_dominated
#print axioms Ddo.C10d.step_me
#print axioms Ddo.C10d.kdprocess_shape
#print axioms Ddo.C10d.processME_of_contract
#print axioms Ddo.C10d.compatProcessME_of_jointContract
#print axioms Ddo.C10d.cachingDominanceCompatMono_of_jointContract
#print axioms Ddo.C10d.jointContract_of_fields
#print axioms Ddo.C10d.cutset_ub_le_bestValue
#print axioms Ddo.C10d.exactCut_any
#print axioms Ddo.C10d.jcEasy
#print axioms Ddo.C10d.fieldHolds_of_relaxed
#print axioms Ddo.C10d.jcTheta_of_relaxed
#print axioms Ddo.C10d.buildLoop_kj
#print axioms Ddo.C10d.fresh_contract_joint
#print axioms Ddo.C10d.jcFresh
#print axioms Ddo.C10d.jcTheta_of
#print axioms Ddo.C10d.jcRoot_of
#print axioms Ddo.C10d.jcUb_of
#print axioms Ddo.C10e.kdsolveLoop_total
#print axioms Ddo.C10e.kdsolveLoop_sound
#print axioms Ddo.C10e.caching_dominance_solver_correct_mono_of
#print axioms Ddo.C10d.compatInv_turn
#print axioms Ddo.C10d.jointCorrectAny_of_jointContract
#print axioms Ddo.C10e.caching_dominance_solver_correct_mono_anyorder_of
#print axioms Ddo.C10e.kdsolveLoop_computes_opt_mono_of
#print axioms Ddo.C10d.builtOkJoint
#print axioms Ddo.C10d.builtOkJointK
#print axioms Ddo.C10e.jointContract
#print axioms Ddo.C10e.compatProcessME
#print axioms Ddo.C10e.compatTurn
#print axioms Ddo.C10e.caching_dominance_solver_correct_mono
#print axioms Ddo.C10e.caching_dominance_solver_correct_mono_anyorder
#print axioms Ddo.C10e.kdsolveLoop_computes_opt_mono
#print axioms Ddo.C10e.caching_dominance_solver_correct_leAll
