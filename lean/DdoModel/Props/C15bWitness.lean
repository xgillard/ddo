import DdoModel.Props.C15b
/-! The instances of `Props/C15b.lean`: `LongArc`, a well-formed model with a genuine long arc (the pooled solver terminates with the optimum at
width 2 and, before the repair of D5, ran for ever at width 1), and `D5`, the witness `Ddo.C07.WitnessP` on which the pooled solver looped
before the repair; with the solver loop over the diagrams before the repair (`solveLoopPOld`), which only they use. -/
set_option linter.unusedSectionVars false
set_option linter.unusedVariables false
namespace Ddo.C15
open Ddo Ddo.Pooled Ddo.Truth Ddo.Closed Ddo.C01
variable {S K : Type} [DecidableEq S] [DecidableEq K]

def outXPOld (sv : SolverCfg S) (cache : Cache S) (store : DomStore S Unit) (polls : Nat) (N : SubP S) (lb : Int) : Outcome :=
  (compilePOld (sv.cfg .relaxed N lb) cache store polls none).1
def resXPOld (sv : SolverCfg S) (cache : Cache S) (store : DomStore S Unit) (polls : Nat) (N : SubP S) (lb : Int) : Result S :=
  (compilePOld (sv.cfg .relaxed N lb) cache store polls none).2.1
def turnPOld (sv : SolverCfg S) (st : SeqSt S) (N : SubP S) (cache cache' : Cache S) (store store' : DomStore S Unit)
    (polls polls' : Nat) : SeqSt S :=
  (st.process sv.dedup N true (.ok (toOut (resRP sv cache store polls N st.bestLb)))
    (.ok (toOut (resXPOld sv cache' store' polls' N (lb1P sv st N cache store polls))))).1
/-- `solveLoopP` with the relaxed compilation of the old code -/
def solveLoopPOld (sv : SolverCfg S) : Nat → SeqSt S → SeqSt S
  | 0, s => s
  | n + 1, s =>
    match popMax s.fringe with
    | none => s
    | some (N, rest) =>
      let st := popped s N rest (cleanLoop sv.P.nbVars s.openByLayer sv.P.nbVars s.firstActive)
      let c : Cache S := Cache.init sv.P.nbVars
      let d : DomStore S Unit := DomStore.init sv.P.nbVars
      if outRP sv c d 0 N st.bestLb = .ok ∧ outXPOld sv c d 0 N (lb1P sv st N c d 0) = .ok then
        solveLoopPOld sv n (turnPOld sv st N c c d d 0 0)
      else s
/-- `CutProgress` for the old code -/
def CutProgressOld (sv : SolverCfg S) (B : Int) : Prop :=
  ∀ (N : SubP S) (lb : Int) (p0 : List Dec) (cache : Cache S) (store : DomStore S Unit) (polls : Nat),
    ReachSkip sv.P N.depth N.state N.value p0 → NoClamp sv.P sv.R N.value B →
    (compilePOld (sv.cfg .relaxed N lb) cache store polls none).1 = .ok →
    ∀ c ∈ (compilePOld (sv.cfg .relaxed N lb) cache store polls none).2.1.cutset, N.depth < c.depth

/-! `explored` is a counter that nothing reads, so a stretch of turns that brings the loop back to the state it started from, up to
that counter, can be repeated: this is how the witnesses below show that the old loop spends any fuel. -/

def tick (k : Nat) (s : SeqSt S) : SeqSt S := { s with explored := s.explored + k }

omit [DecidableEq S] in
theorem tick_tick (a b : Nat) (s : SeqSt S) : tick a (tick b s) = tick (b + a) s := by
  simp only [tick, Nat.add_assoc]

theorem enqueue_tick (dedup : Bool) (k : Nat) (cs : List (SubP S)) (st : SeqSt S) :
    (tick k st).enqueue dedup cs = tick k (st.enqueue dedup cs) := by
  refine List.foldl_hom (tick k) fun st c => ?_
  dsimp only [tick]
  split
  · generalize bumpLayer _ _ _ = b
    cases b <;> rfl
  · rfl

omit [DecidableEq S] in
theorem updateBest_tick (k : Nat) (st : SeqSt S) (o : DDOut S) : (tick k st).updateBest o = tick k (st.updateBest o) := by
  unfold SeqSt.updateBest
  cases o.bestExact with
  | none => rfl
  | some w =>
    show (if w > st.bestLb then _ else _) = tick k (if w > st.bestLb then _ else _)
    split <;> rfl

theorem process_tick (dedup : Bool) (k : Nat) (st : SeqSt S) (N : SubP S) (m : Bool) (r x : DDRes S) :
    ((tick k st).process dedup N m r x).1 = tick k (st.process dedup N m r x).1 := by
  unfold SeqSt.process
  rw [show (tick k st).bestLb = st.bestLb from rfl]
  by_cases h1 : N.ub ≤ st.bestLb
  · rw [if_pos h1, if_pos h1]
  · rw [if_neg h1, if_neg h1]
    cases m with
    | false => rfl
    | true =>
      cases r with
      | cutoff => rfl
      | ok r =>
        dsimp only [Bool.not_true, Bool.false_eq_true, if_false]
        rw [updateBest_tick]
        cases r.isExact with
        | true => rfl
        | false =>
          cases x with
          | cutoff => rfl
          | ok x =>
            dsimp only [Bool.false_eq_true, if_false]
            rw [updateBest_tick]
            cases x.isExact with
            | true => rfl
            | false => exact enqueue_tick dedup k _ _

omit [DecidableEq S] in
theorem popped_tick (k : Nat) (s : SeqSt S) (N : SubP S) (rest : List (SubP S)) (fa : Nat) :
    popped (tick k s) N rest fa = tick k (popped s N rest fa) := by
  unfold popped SeqSt.afterPop
  dsimp only [tick]
  split <;> simp only [Nat.add_right_comm]

theorem lb1P_tick (sv : SolverCfg S) (k : Nat) (st : SeqSt S) (N : SubP S) (c : Cache S) (d : DomStore S Unit) (p : Nat) :
    lb1P sv (tick k st) N c d p = lb1P sv st N c d p := by
  unfold lb1P
  rw [show (tick k st).bestLb = st.bestLb from rfl, updateBest_tick]
  rfl

theorem turnPOld_tick (sv : SolverCfg S) (k : Nat) (st : SeqSt S) (N : SubP S) (c c' : Cache S) (d d' : DomStore S Unit)
    (p p' : Nat) : turnPOld sv (tick k st) N c c' d d' p p' = tick k (turnPOld sv st N c c' d d' p p') := by
  unfold turnPOld
  rw [lb1P_tick, process_tick]
  rfl

theorem solveLoopPOld_tick (sv : SolverCfg S) (k : Nat) :
    ∀ (n : Nat) (s : SeqSt S), solveLoopPOld sv n (tick k s) = tick k (solveLoopPOld sv n s)
  | 0, _ => rfl
  | n + 1, s => by
    unfold solveLoopPOld
    show (match popMax s.fringe with | none => _ | some (N, rest) => _) = _
    cases popMax s.fringe with
    | none => rfl
    | some Nr =>
      have e1 : (tick k s).openByLayer = s.openByLayer := rfl
      have e2 : (tick k s).firstActive = s.firstActive := rfl
      dsimp only
      rw [popped_tick, turnPOld_tick, solveLoopPOld_tick sv k n, e1, e2, lb1P_tick, apply_ite (tick k)]
      rfl

theorem solveLoopPOld_succ (sv : SolverCfg S) :
    ∀ (n : Nat) (s : SeqSt S), solveLoopPOld sv (n + 1) s = solveLoopPOld sv n (solveLoopPOld sv 1 s)
  | 0, _ => rfl
  | n + 1, s => by
    rw [solveLoopPOld.eq_2 sv s (n + 1), solveLoopPOld.eq_2 sv s 0]
    cases hp : popMax s.fringe with
    | none => simp only [solveLoopPOld, hp]
    | some Nr =>
      dsimp only
      split
      · rfl
      · next hc => simp only [solveLoopPOld, hp, hc, if_false]

theorem solveLoopPOld_add (sv : SolverCfg S) :
    ∀ (m n : Nat) (s : SeqSt S), solveLoopPOld sv (m + n) s = solveLoopPOld sv n (solveLoopPOld sv m s)
  | 0, n, s => by rw [Nat.zero_add]; rfl
  | m + 1, n, s => by
    rw [Nat.add_right_comm, solveLoopPOld_succ, solveLoopPOld_add sv m n, ← solveLoopPOld_succ]

/-- if the first `a` turns lead to `c` and `p` more turns from `c` only move the counter, so do `p * q` more turns -/
theorem solveLoopPOld_cycle (sv : SolverCfg S) (s c : SeqSt S) (a p : Nat) (ha : solveLoopPOld sv a s = c)
    (hp : solveLoopPOld sv p c = tick p c) : ∀ q, solveLoopPOld sv (a + p * q) s = tick (p * q) c
  | 0 => ha
  | q + 1 => by
    rw [Nat.mul_succ, ← Nat.add_assoc, solveLoopPOld_add, solveLoopPOld_cycle sv s c a p ha hp q, solveLoopPOld_tick, hp,
      tick_tick, Nat.add_comm]

deriving instance DecidableEq for SeqSt

/-! `LongArc`: a well-formed model with a genuine long arc — the pooled solver terminates with the optimum at width 2 and, before the
repair of D5, ran for ever at width 1.

Three variables.  Variable 0 sends the root `0` to `1, 2, 3` (gains `1, 2, 9`).  Variable 1 impacts the states `1` and `2` only
(`1 → 4` for free, `2 → 5` gaining `5`); every other state — in particular `3` — is **not impacted**: its only decision on variable 1
is neutral (same state, cost `0`), which is what `is_impacted_by = false` means (`neutral`).  Variable 2 sends every state to `6`,
gaining `20` from `3`, `40` from the merged state `9`, `1` otherwise.  Optimum `29 = 9 + 20`: `0 → 3 ⇢ 6`, **two decisions for three
variables**: in the pooled diagram the node `3` skips the layer of variable 1 (a long arc from depth 0 to depth 2), while its
siblings `1, 2` do not (`not_siblings`: `SiblingsAlike` fails, so does `AllImpacted`).  The model is `WellFormedP`
(`Potential`, `RubOk`, `MergeOk`, `AttMerge`, `RunBound`, `NvBound`, and `SkipWf` through `skipWf_of_neutral`).

* width 2: three turns (the relaxed diagram of the root keeps `3`, merges `4, 5`; cut-set `{1, 2, 3}`, `3` is pruned by its
  bound; `2` and `1` are solved exactly) — `loop_value`, and `correct`: what `pooled_partial_correct_long_arcs` says of *every* run;
* width 1: the relaxed diagram of the root merges `3, 4, 5`: the lingering child `3` of the root is merged two layers below it, the
  root is the exact parent of the merged node; with the code before the repair **the root was handed out by its own cut-set** and the
  loop re-enqueued it for ever although the incumbent already was the optimum — `d5_loops_wellformed` (D5 was therefore not an artefact
  of ill-formed models); the repaired code hands out the children of the root and terminates — `root_replaced`, `repaired_terminates`. -/
namespace LongArc

def cost2 (s : Int) : Int := if s = 3 then 20 else if s = 9 then 40 else 1
def prob : Problem Int :=
  { nbVars := 3, init := 0, initVal := 0,
    trans := fun s d => if d.var = 1 ∧ s ≠ 1 ∧ s ≠ 2 then s else d.val,
    cost := fun s _ d =>
      if d.var = 0 then (if d.val = 3 then 9 else if d.val = 2 then 2 else if d.val = 1 then 1 else 0)
      else if d.var = 1 then (if s = 2 then 5 else 0) else cost2 s,
    nextVar := fun k _ => if k < 3 then some k else none,
    domain := fun v s => if v = 0 then [1, 2, 3] else if v = 1 then (if s = 1 then [4] else if s = 2 then [5] else [0]) else [6],
    impacted := fun v s => !(v == 1 && s != 1 && s != 2) }
def rlx : Relax Int := { merge := fun _ => 9, relax := fun _ _ _ _ c => c, rub := fun _ => 1000 }
def sv (w : Nat) (dedup : Bool) : SolverCfg Int :=
  { P := prob, R := rlx, rank := ⟨fun a b => icmp a b⟩, width := fun _ => w, kind := .frontier, dedup := dedup }

def H (k : Nat) (s : Int) : EInt :=
  if k = 0 then some 29
  else if k = 1 then (if s = 1 then some 1 else if s = 2 then some 6 else some (cost2 s))
  else if k = 2 then some (cost2 s) else some 0

theorem cost2_range (s : Int) : 1 ≤ cost2 s ∧ cost2 s ≤ 40 := by
  unfold cost2; split <;> (try split) <;> omega

theorem nv_some {k : Nat} {L : List Int} {x : Nat} (h : prob.nextVar k L = some x) : k < 3 ∧ x = k := by
  simp only [prob] at h
  split at h
  · next hk => cases h; exact ⟨hk, rfl⟩
  · cases h

theorem var1_neutral {s : Int} (h1 : s ≠ 1) (h2 : s ≠ 2) :
    prob.domain 1 s = [0] ∧ (∀ d, prob.trans s ⟨1, d⟩ = s) ∧ (∀ s' d, prob.cost s s' ⟨1, d⟩ = 0) ∧
      H 1 s = some (cost2 s) :=
  ⟨by show (if s = 1 then _ else if s = 2 then _ else _) = _; rw [if_neg h1, if_neg h2],
   fun d => by show (if 1 = 1 ∧ s ≠ 1 ∧ s ≠ 2 then s else d) = s; rw [if_pos ⟨rfl, h1, h2⟩],
   fun _ _ => by show (if s = 2 then 5 else 0) = (0 : Int); rw [if_neg h2],
   by show (if s = 1 then _ else if s = 2 then _ else _) = _; rw [if_neg h1, if_neg h2]⟩

theorem potential : Potential prob H := by
  refine ⟨fun k L x s h hnv _ hH => ?_, fun k L x s v p d _ hnv _ hd => ?_, fun k L s hnv _ => ?_⟩
  · obtain ⟨hk, hx⟩ := nv_some hnv; subst x
    have hk3 : k = 0 ∨ k = 1 ∨ k = 2 := by omega
    rcases hk3 with rfl | rfl | rfl
    · cases hH
      exact ⟨3, List.mem_cons_of_mem _ (List.mem_cons_of_mem _ List.mem_cons_self), 20, rfl, Int.le_refl _⟩
    · by_cases h1 : s = 1
      · subst h1; cases hH
        exact ⟨4, List.mem_cons_self, 1, rfl, Int.le_refl _⟩
      · by_cases h2 : s = 2
        · subst h2; cases hH
          exact ⟨5, List.mem_cons_self, 1, rfl, Int.le_refl _⟩
        · obtain ⟨e1, e2, e3, e4⟩ := var1_neutral h1 h2
          rw [e4] at hH; cases hH
          refine ⟨0, by rw [e1]; exact List.mem_cons_self, cost2 s, by rw [e2]; rfl, ?_⟩
          rw [e3, Int.zero_add]; exact Int.le_refl _
    · cases hH
      exact ⟨6, List.mem_cons_self, 0, rfl, by show cost2 s ≤ cost2 s + 0; rw [Int.add_zero]; exact Int.le_refl _⟩
  · obtain ⟨hk, hx⟩ := nv_some hnv; subst x
    have hk3 : k = 0 ∨ k = 1 ∨ k = 2 := by omega
    rcases hk3 with rfl | rfl | rfl
    · have hd' : d = 1 ∨ d = 2 ∨ d = 3 := by
        rcases List.mem_cons.1 hd with h | h
        · exact .inl h
        · rcases List.mem_cons.1 h with h | h
          · exact .inr (.inl h)
          · exact .inr (.inr (List.mem_singleton.1 h))
      rcases hd' with rfl | rfl | rfl
      · exact (by decide : (1 : Int) + 1 ≤ 29)
      · exact (by decide : (6 : Int) + 2 ≤ 29)
      · exact (by decide : (20 : Int) + 9 ≤ 29)
    · by_cases h1 : s = 1
      · subst h1
        cases List.mem_singleton.1 hd
        exact (by decide : (1 : Int) + 0 ≤ 1)
      · by_cases h2 : s = 2
        · subst h2
          cases List.mem_singleton.1 hd
          exact (by decide : (1 : Int) + 5 ≤ 6)
        · obtain ⟨e1, e2, e3, e4⟩ := var1_neutral h1 h2
          rw [e2, e3, e4]
          show (some (cost2 s + 0) : EInt) ≤ some (cost2 s)
          rw [Int.add_zero]; exact EInt.le_refl _
    · cases List.mem_singleton.1 hd
      show (some (0 + cost2 s) : EInt) ≤ some (cost2 s)
      rw [Int.zero_add]; exact EInt.le_refl _
  · have hk : ¬ k < 3 := fun h => by rw [show prob.nextVar k L = if k < 3 then some k else none from rfl, if_pos h] at hnv; cases hnv
    show (if k = 0 then _ else if k = 1 then _ else if k = 2 then _ else _) = _
    rw [if_neg (by omega), if_neg (by omega), if_neg (by omega)]

theorem H_le (k : Nat) (s : Int) : ∃ h, H k s = some h ∧ 0 ≤ h ∧ h ≤ 40 := by
  have := cost2_range s
  unfold H
  by_cases h0 : k = 0
  · rw [if_pos h0]; exact ⟨29, rfl, by decide, by decide⟩
  rw [if_neg h0]
  by_cases h1 : k = 1
  · rw [if_pos h1]
    by_cases a : s = 1
    · rw [if_pos a]; exact ⟨1, rfl, by decide, by decide⟩
    rw [if_neg a]
    by_cases b : s = 2
    · rw [if_pos b]; exact ⟨6, rfl, by decide, by decide⟩
    rw [if_neg b]; exact ⟨_, rfl, by omega, by omega⟩
  rw [if_neg h1]
  by_cases h2 : k = 2
  · rw [if_pos h2]; exact ⟨_, rfl, by omega, by omega⟩
  rw [if_neg h2]; exact ⟨0, rfl, by decide, by decide⟩

theorem rubOk : RubOk rlx H := by
  intro k s h hH
  obtain ⟨h', e, _, h4⟩ := H_le k s
  rw [hH] at e; cases e
  show h ≤ 1000
  omega

/-- the merged state `9` dominates every state at every depth -/
theorem H9 (k : Nat) (u : Int) (h : Int) (hH : H k u = some h) : ∃ h', H k 9 = some h' ∧ h ≤ h' := by
  obtain ⟨hh, e, _, hle⟩ := H_le k u
  rw [hH] at e; cases e
  by_cases h0 : k = 0
  · subst h0
    refine ⟨29, rfl, ?_⟩
    simp [H] at hH; omega
  · by_cases h1 : k = 1
    · subst h1; exact ⟨40, by simp [H, cost2], hle⟩
    · by_cases h2 : k = 2
      · subst h2; exact ⟨40, by simp [H, cost2], hle⟩
      · refine ⟨0, by simp [H, h0, h1, h2], ?_⟩
        simp [H, h0, h1, h2] at hH; omega

theorem mergeOk : MergeOk rlx H := by
  intro k X u src d c h _ hH
  obtain ⟨h', e, hle⟩ := H9 k u h hH
  exact ⟨h', e, by show c + h ≤ c + h'; omega⟩

theorem nvBound : NvBound prob := by
  intro k L hk
  have : ¬ k < 3 := by simp only [prob] at hk; omega
  simp only [prob, this, if_false]

theorem costBound (s s' : Int) (d : Dec) : -40 ≤ prob.cost s s' d ∧ prob.cost s s' d ≤ 40 := by
  have := cost2_range s
  rw [show prob.cost s s' d = (if d.var = 0 then (if d.val = 3 then 9 else if d.val = 2 then 2 else if d.val = 1 then 1 else 0)
    else if d.var = 1 then (if s = 2 then 5 else 0) else cost2 s) from rfl]
  by_cases h0 : d.var = 0
  · rw [if_pos h0]
    by_cases a : d.val = 3
    · rw [if_pos a]; decide
    rw [if_neg a]
    by_cases b : d.val = 2
    · rw [if_pos b]; decide
    rw [if_neg b]
    by_cases c : d.val = 1
    · rw [if_pos c]; decide
    rw [if_neg c]; decide
  rw [if_neg h0]
  by_cases h1 : d.var = 1
  · rw [if_pos h1]
    by_cases a : s = 2
    · rw [if_pos a]; decide
    rw [if_neg a]; decide
  rw [if_neg h1]; omega

theorem runBound : RunBound prob rlx 40 160 :=
  ⟨⟨by decide, by decide, fun s s' d => by have := costBound s s' d; omega, fun s u m d c hc => hc, by decide⟩,
   ⟨by decide, costBound⟩, by decide⟩

theorem wellFormed (w : Nat) (hw : 1 ≤ w) (dedup : Bool) : WellFormed (sv w dedup) H 40 160 :=
  ⟨potential, rubOk, mergeOk, Cover.attMerge_of_static potential (fun _ _ _ _ _ => rfl), runBound,
    nvBound, fun _ => hw⟩

/-- `is_impacted_by` means what the documentation says: variable 1 leaves every state but `1` and `2` where it is, for free -/
theorem neutral : NeutralSkip prob := by
  intro x s hi
  have hx : x = 1 ∧ s ≠ 1 ∧ s ≠ 2 := by
    simp only [prob, Bool.not_eq_false', Bool.and_eq_true, beq_iff_eq, bne_iff_ne] at hi
    exact ⟨hi.1.1, hi.1.2, hi.2⟩
  obtain ⟨rfl, h1, h2⟩ := hx
  obtain ⟨e1, e2, e3, _⟩ := var1_neutral h1 h2
  exact ⟨by rw [e1]; exact List.cons_ne_nil _ _, fun d _ => ⟨e2 d, e3 s d⟩⟩

theorem wellFormedP (w : Nat) (hw : 1 ≤ w) (dedup : Bool) : WellFormedP (sv w dedup) H 40 160 :=
  ⟨wellFormed w hw dedup, skipWf_of_neutral potential neutral⟩

theorem not_allImpacted : ¬ AllImpacted prob := fun h => by
  have := h 1 3
  revert this; decide

theorem not_siblings : ¬ PProgress.SiblingsAlike prob := fun h => by
  have := h 0 0 1 3 1 (by decide) (by decide)
  revert this; decide

example : (H 0 prob.init).addI prob.initVal = some 29 := rfl

theorem loop_value : (solveLoopP (sv 2 false) 6 (SeqSt.init prob none false)).completion = (true, some 29) ∧
    (solveLoopP (sv 2 false) 6 (SeqSt.init prob none false)).fringe.length = 0 ∧
    (solveLoopP (sv 2 false) 6 (SeqSt.init prob none false)).explored = 3 ∧
    (solveLoopP (sv 2 false) 6 (SeqSt.init prob none false)).bestSol = some [⟨2, 6⟩, ⟨0, 3⟩] := by decide +kernel


/-- every run at width 2 (either fringe) that reaches the empty fringe reports `is_exact = true`, `best_value = Some(29)`; before
    that a turn is always possible; nothing panics — by `pooled_partial_correct_long_arcs` -/
theorem correct (dedup : Bool) (t : SeqSt Int) (ht : CRunP (sv 2 dedup) (SeqSt.init prob none dedup) t) :
    (t.fringe = [] → t.completion = (true, some 29)) ∧ (t.fringe ≠ [] → ∃ u, CStepP (sv 2 dedup) t u) ∧ t.crashed = false :=
  have h := pooled_partial_correct_long_arcs (sv 2 dedup) H 40 160 (wellFormedP 2 (by decide) dedup) t ht
  ⟨fun hend => ((h.2.2.2 hend).1 29 rfl).2.2, h.2.1, h.2.2.1⟩

/-- the value computed by the fuel-driven loop is the one the theorem predicts -/
example : (solveLoopP (sv 2 false) 6 (SeqSt.init prob none false)).completion = (true, some 29) :=
  (correct false _ (solveLoopP_run (sv 2 false) 6 _)).1 (List.eq_nil_of_length_eq_zero loop_value.2.1)

/-- the same with the duplicate-free fringe -/
theorem loop_value' : (solveLoopP (sv 2 true) 6 (SeqSt.init prob none true)).completion = (true, some 29) ∧
    (solveLoopP (sv 2 true) 6 (SeqSt.init prob none true)).fringe.length = 0 := by decide +kernel

/-- **before the repair** the relaxed pooled diagram of the root at width 1 handed out its own root `(state 0, value 0, depth 0)`, with bound `49 > 29` -/
theorem root_in_cutset : (compilePOld ((sv 1 true).cfg .relaxed ⟨0, 0, [], iMax, 0⟩ 29) (Cache.init 3) (DomStore.init 3) 0 none).2.1.cutset.map
    (fun c => (c.state, c.value, c.ub, c.depth, c.path.length)) = [(1, 1, 41, 1, 1), (2, 2, 47, 1, 1), (0, 0, 49, 0, 0)] := by
  decide +kernel

/-- before the repair `WellFormedP` did not imply cut-set progress: C08 (ii) failed on this well-formed model -/
theorem not_cutProgress (dedup : Bool) : ¬ CutProgressOld (sv 1 dedup) 160 := by
  intro h
  have e : (sv 1 dedup).cfg .relaxed ⟨0, 0, [], iMax, 0⟩ 29 = (sv 1 true).cfg .relaxed ⟨0, 0, [], iMax, 0⟩ 29 := rfl
  have h1 := h ⟨0, 0, [], iMax, 0⟩ 29 [] (Cache.init 3) (DomStore.init 3) 0 ReachSkip.root runBound.clamp
    (by rw [e]; decide +kernel)
  rw [e] at h1
  obtain ⟨c, hc, hd⟩ : ∃ c ∈ (compilePOld ((sv 1 true).cfg .relaxed ⟨0, 0, [], iMax, 0⟩ 29) (Cache.init 3) (DomStore.init 3) 0
      none).2.1.cutset, c.depth = 0 := by decide +kernel
  have := h1 c hc
  have h0 : (⟨0, 0, [], iMax, 0⟩ : SubP Int).depth = 0 := rfl
  omega

/-- what is observed of a solver state: `[turns performed, incumbent]`, then one row `[state, value, bound, depth]` per fringe
    entry -/
def view (s : SeqSt Int) : List (List Int) :=
  [(s.explored : Int), s.bestLb] :: s.fringe.map (fun c => [c.state, c.value, c.ub, (c.depth : Int)])

/-- the state of the old loop at width 1 after four turns (duplicate-free fringe): three more turns lead back to it -/
def stuck : SeqSt Int :=
  { fringe := [⟨1, 1, [⟨0, 1⟩], 41, 1⟩, ⟨2, 2, [⟨0, 2⟩], 47, 1⟩, ⟨0, 0, [], 49, 0⟩], bestLb := 29, bestUb := 49,
    bestSol := some [⟨2, 6⟩, ⟨0, 3⟩], openByLayer := [1, 2, 0, 0], explored := 4 }

/-- **D5 on a well-formed model** (old code): at width 1 the fuel-driven loop spent all of a generous fuel (40 turns; three variables), the
    incumbent is the optimum `29` from the first turn on, and the fringe still holds the root sub-problem
    `(state 0, value 0, bound 49, depth 0)`: every third turn pops it and re-enqueues it, with its two children (duplicate-free
    fringe; the plain fringe in addition grows without bound: `d5_loops_wellformed_plain`) -/
theorem d5_loops_wellformed : view (solveLoopPOld (sv 1 true) 40 (SeqSt.init prob none true)) =
    [[40, 29], [1, 1, 41, 1], [2, 2, 47, 1], [0, 0, 49, 0]] := by
  rw [solveLoopPOld_cycle (sv 1 true) _ stuck 4 3 (by decide +kernel) (by decide +kernel) 12]
  decide +kernel

theorem d5_loops_wellformed_plain :
    (solveLoopPOld (sv 1 false) 12 (SeqSt.init prob none false)).explored = 12 ∧
    (solveLoopPOld (sv 1 false) 12 (SeqSt.init prob none false)).fringe.length = 25 := by decide +kernel

/-- **the repaired code on the same model at width 1**: the relaxed diagram of the root hands out the three children of the
    root (bound 49, depth 1) instead of the root … -/
theorem root_replaced : (compileP ((sv 1 true).cfg .relaxed ⟨0, 0, [], iMax, 0⟩ 29) (Cache.init 3) (DomStore.init 3) 0 none).2.1.cutset.map
    (fun c => (c.state, c.value, c.ub, c.depth, c.path.length)) =
      [(1, 1, 41, 1, 1), (2, 2, 47, 1, 1), (1, 1, 49, 1, 1), (2, 2, 49, 1, 1), (3, 9, 49, 1, 1)] := by
  decide +kernel

/-- … and the loop terminates with the optimum, as `sequential_solver_correct_pooled_long_arcs` says (both fringes) -/
theorem repaired_terminates :
    (solveLoopP (sv 1 true) 40 (SeqSt.init prob none true)).completion = (true, some 29) ∧
    (solveLoopP (sv 1 true) 40 (SeqSt.init prob none true)).fringe.length = 0 ∧
    (solveLoopP (sv 1 false) 40 (SeqSt.init prob none false)).completion = (true, some 29) ∧
    (solveLoopP (sv 1 false) 40 (SeqSt.init prob none false)).fringe.length = 0 := by decide +kernel

/-- on the same model at width 1 the solver over the **clean** diagrams terminates (4 turns) with the optimum -/
theorem clean_terminates : ((sv 1 false).solveLoop 20 (SeqSt.init prob none false)).completion = (true, some 29) ∧
    ((sv 1 false).solveLoop 20 (SeqSt.init prob none false)).fringe.length = 0 ∧
    ((sv 1 false).solveLoop 20 (SeqSt.init prob none false)).explored = 4 := by decide +kernel

end LongArc

/-! ### `D5`: the witness `Ddo.C07.WitnessP` made the pooled solver loop before the repair

`Ddo.C07.WitnessP.cutset_contains_root`: the relaxed pooled diagram of the root of that instance (width 1) hands out its own
root.  The solver over the pooled diagram then pops the root, compiles, re-enqueues the root, … for ever: from the second turn on
the state is a fixed point of the loop (up to the counter `explored`).  (That instance declares state `3` "not impacted" by a
variable that does change it, so it is not `SkipWf`; `LongArc` above shows the same on a well-formed model.) -/
namespace D5

def sv (dedup : Bool) : SolverCfg Int :=
  { P := C07.WitnessP.P, R := C07.WitnessP.R, rank := ⟨fun a b => compare a b⟩, width := fun _ => 1, kind := .frontier,
    dedup := dedup }

/-- the compilation the solver starts at the root is the one of `cutset_contains_root` -/
example : (sv false).cfg .relaxed ⟨0, 0, [], 1000, 0⟩ (-1) = C07.WitnessP.cfg .relaxed := rfl

/-- what is observed of a solver state: `[turns performed, incumbent]`, then one row `[state, value, bound, depth, length of the
    path]` per fringe entry -/
def view (s : SeqSt Int) : List (List Int) :=
  [(s.explored : Int), s.bestLb] :: s.fringe.map (fun c => [c.state, c.value, c.ub, (c.depth : Int), (c.path.length : Int)])

/-- the state of the old loop after two turns (either fringe): one more turn leads back to it -/
def stuck : SeqSt Int :=
  { fringe := [⟨0, 0, [], 115, 0⟩], bestLb := 109, bestUb := 115, bestSol := some [⟨2, 6⟩, ⟨0, 3⟩], openByLayer := [1, 0, 0, 0],
    explored := 2 }

theorem reach_stuck (dedup : Bool) : solveLoopPOld (sv dedup) 2 (SeqSt.init C07.WitnessP.P none dedup) = stuck := by
  cases dedup <;> decide +kernel

theorem stuck_turn (dedup : Bool) : solveLoopPOld (sv dedup) 1 stuck = tick 1 stuck := by
  cases dedup <;> decide +kernel

/-- after two turns: incumbent `109` (the optimum of the restricted diagram), the fringe is the root sub-problem, just re-enqueued -/
theorem two_turns : view (solveLoopPOld (sv false) 2 (SeqSt.init C07.WitnessP.P none false)) = [[2, 109], [0, 0, 115, 0, 0]] := by
  rw [reach_stuck]; rfl

/-- **`d5_loops`**: with a generous fuel (40 turns; three variables) the fuel-driven pooled loop does not terminate: it performed
    all 40 turns, the incumbent has been `109` since the first turn, and the fringe is, as after the second turn, exactly the root
    sub-problem `(state 0, value 0, bound 115, depth 0, empty path)`, which every turn pops and re-enqueues -/
theorem d5_loops : view (solveLoopPOld (sv false) 40 (SeqSt.init C07.WitnessP.P none false)) = [[40, 109], [0, 0, 115, 0, 0]] := by
  rw [solveLoopPOld_cycle (sv false) _ stuck 2 1 (reach_stuck false) (stuck_turn false) 38]; rfl

/-- the same with the duplicate-free fringe -/
theorem d5_loops_dedup : view (solveLoopPOld (sv true) 40 (SeqSt.init C07.WitnessP.P none true)) = [[40, 109], [0, 0, 115, 0, 0]] := by
  rw [solveLoopPOld_cycle (sv true) _ stuck 2 1 (reach_stuck true) (stuck_turn true) 38]; rfl

/-- with the repaired code the loop terminates on this instance too (with the value `109` of the pooled diagrams) -/
theorem repaired_terminates : (solveLoopP (sv false) 40 (SeqSt.init C07.WitnessP.P none false)).fringe.length = 0 ∧
    (solveLoopP (sv false) 40 (SeqSt.init C07.WitnessP.P none false)).completion = (true, some 109) := by decide +kernel

/-- the witness is not a well-formed model of `is_impacted_by`: state `3` is declared "not impacted" by variable 1, which does
    change it; the solver over the clean diagrams (which ignore `is_impacted_by`) terminates with `119`, the pooled diagrams skip
    the variable and the pooled solver's incumbent stays at `109` -/
theorem clean_vs_pooled : ((sv false).solveLoop 20 (SeqSt.init C07.WitnessP.P none false)).completion = (true, some 119) ∧
    ((sv false).solveLoop 20 (SeqSt.init C07.WitnessP.P none false)).fringe.length = 0 := by decide +kernel

end D5

end Ddo.C15

#print axioms Ddo.C15.LongArc.wellFormedP
#print axioms Ddo.C15.LongArc.not_cutProgress
#print axioms Ddo.C15.LongArc.correct
#print axioms Ddo.C15.LongArc.loop_value
#print axioms Ddo.C15.LongArc.d5_loops_wellformed
#print axioms Ddo.C15.D5.d5_loops
#print axioms Ddo.C15.D5.d5_loops_dedup
