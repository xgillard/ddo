import DdoModel.Proofs.BuildChain
import DdoModel.Proofs.SeqInv
import DdoModel.Props.C01
import DdoModel.Props.C06b
import DdoModel.Props.C07b
/-! # C01 (packaging) — the diagram model meets the solver's compilation contract

`Proofs/SeqInv.lean` proves the coverage invariant of the sequential branch-and-bound for *any* diagram whose answers meet
the contracts `Ddo.CompileOk` (restricted and relaxed compilations) and `Ddo.CutsetOk` (cut-set of a relaxed compilation that
is not exact).  Here: the compilation model of `DdoModel/Mdd.lean`, read through `toOut` (what the solver reads: `is_exact`,
`best_exact_value`, `best_exact_solution`, the cut-set), **satisfies `CompileOk`** for a well-formed model, with

* `Phi c := optOf H c = (H c.depth c.state).addI c.value` (the form of `phiMono_of_potential`),
* `opt` the optimum of the whole problem: `(H 0 P.init).addI P.initVal = some opt`,
* `Sol p w := SolOf P p w`: `p` lists, in some order, the decisions of a path of the model (`Reach`) from the problem root to a
  complete state (`nextVar = none`), of value `w`.

`compileOk_restricted`, `compileOk_relaxed` (the `must` result).  Compilations in isolation (`useCache = false`, `dom = none`): the
field `exact` is false otherwise (`Ddo.C07.CounterCache`).  `sound` / `within` of a *restricted* compilation hold for any cache
and dominance configuration (`restricted_sound_within`).  For the `may` result of a relaxed compilation `exact` and `within`
hold as well but `sound` does not (the model's own `bestExactSol` may be infeasible: `Ddo.C06.Tie.finding`), so it is not
packaged.  `CutsetOk` is `cutsetOk_relaxed` in `Proofs/SolverCfg.lean` (from C08 (i)–(iv)): `process_inv_of_model` takes it as a hypothesis. -/
namespace Ddo.Closed
open Ddo Ddo.Truth
variable {S K : Type} [DecidableEq S] [DecidableEq K]

/-- restricted compilation, any cache / dominance configuration, any cutoff: a reported exact value is the value of the
    reported solution, a complete feasible path through the root sub-problem -/
theorem isSol_restricted (cfg : Cfg S K) (B : Int) (p0 : List Dec)
    (cache : Cache S) (store : DomStore S K) (polls : Nat) (stopAt : Option Nat)
    (hres : cfg.ctype = .restricted) (hB : NoClamp cfg.P cfg.R cfg.root.value B)
    (hroot : Reach cfg.P cfg.root.depth cfg.root.state cfg.root.value p0)
    (hok : (compile cfg cache store polls stopAt).1 = .ok) (w : Int)
    (hw : (compile cfg cache store polls stopAt).2.1.bestExactValue = some w) :
    IsSol cfg p0 w (compile cfg cache store polls stopAt).2.1.bestExactSol := by
  obtain ⟨hbl, _, hres'⟩ := Ddo.compile_ok cfg cache store polls stopAt hok
  have e2 : (cfg.ctype == CompType.relaxed) = false := by rw [hres]; decide
  rw [e2] at hres'
  have e3 : ∀ b : Built S K, b.ebpMust false = false := fun _ => rfl
  rw [e3] at hres'
  rw [hres'] at hw ⊢
  exact bestExact_sol_false cfg B p0 hB hroot cache store polls stopAt hbl w hw

/-- relaxed compilation in isolation, the `must` result: the same -/
theorem isSol_relaxed (cfg : Cfg S K) (B : Int) (p0 : List Dec)
    (cache : Cache S) (store : DomStore S K) (polls : Nat)
    (hrel : cfg.ctype = .relaxed) (hcache : cfg.useCache = false) (hdom : cfg.dom = none) (hW : 1 ≤ cfg.width)
    (hB : NoClamp cfg.P cfg.R cfg.root.value B)
    (hroot : Reach cfg.P cfg.root.depth cfg.root.state cfg.root.value p0)
    (hok : (compile cfg cache store polls none).1 = .ok) (w : Int)
    (hw : (compile cfg cache store polls none).2.1.bestExactValue = some w) :
    IsSol cfg p0 w (compile cfg cache store polls none).2.1.bestExactSol := by
  obtain ⟨hbl, _, hres'⟩ := Ddo.compile_ok cfg cache store polls none hok
  have e2 : (cfg.ctype == CompType.relaxed) = true := by rw [hrel]; decide
  rw [e2] at hres'
  rw [hres'] at hw ⊢
  cases hm : (finalizeLayers (buildLoop cfg none (cfg.P.nbVars + 2) (initDD cfg cache store polls)).1).ebpMust true with
  | false =>
    rw [hm] at hw
    exact bestExact_sol_false cfg B p0 hB hroot cache store polls none hbl w hw
  | true =>
    rw [hm] at hw
    exact (ebpMust_sound cfg B p0 hrel hW hcache hdom hB hroot cache store polls hbl hm w hw).exactSol

end Ddo.Closed

namespace Ddo.C01
open Ddo Ddo.Truth
variable {S K : Type} [DecidableEq S] [DecidableEq K]

/-- what the solver reads from a finished compilation -/
def toOut (r : Result S) : DDOut S :=
  { isExact := r.isExact, bestExact := r.bestExactValue, bestExactSol := r.bestExactSol, cutset := r.cutset }

/-- `p` lists (in some order) the decisions of a complete path of the model, of value `w` -/
def SolOf (P : Problem S) (p : List Dec) (w : Int) : Prop :=
  ∃ (k : Nat) (s : S) (q : List Dec) (L : List S), Reach P k s w q ∧ s ∈ L ∧ P.nextVar k L = none ∧ p.Perm q

omit [DecidableEq S] [DecidableEq K] in
/-- a reported solution (`IsSol`) is a solution of the whole problem, bounded by both optima -/
theorem isSol_facts (cfg : Cfg S K) (H : Nat → S → EInt) (opt : Int) (p0 : List Dec) (hP : Potential cfg.P H)
    (hroot : Reach cfg.P cfg.root.depth cfg.root.state cfg.root.value p0) (hperm : cfg.root.path.Perm p0)
    (hopt : (H 0 cfg.P.init).addI cfg.P.initVal = some opt) (w : Int) (sol : Option (List Dec))
    (h : IsSol cfg p0 w sol) :
    (∃ p, sol = some p ∧ SolOf cfg.P p w ∧ w ≤ opt) ∧ ∃ x, optOf H cfg.root = some x ∧ w ≤ x := by
  obtain ⟨k, s, q, L, hr, hs, hnv, hsol⟩ := h
  have hL := lowRel_of_potential hP
  refine ⟨⟨_, hsol, ⟨k, s, p0 ++ q, L, hr, hs, hnv, ?_⟩, ?_⟩, ?_⟩
  · exact List.Perm.append hperm (List.reverse_perm q)
  · obtain ⟨x, hx, hwx⟩ := complete_le_opt (N := ⟨cfg.P.init, cfg.P.initVal, [], 0, 0⟩) hL Reach.root trivial
      (q := p0 ++ q) (by simpa using hr) hs hnv
    have : x = opt := by
      unfold optOf at hx
      rw [hopt] at hx
      exact (Option.some.inj hx).symm
    omega
  · exact complete_le_opt hL hroot trivial hr hs hnv

theorem restricted_sound_within (cfg : Cfg S K) (H : Nat → S → EInt) (B opt : Int) (p0 : List Dec)
    (cache : Cache S) (store : DomStore S K) (polls : Nat) (stopAt : Option Nat)
    (hres : cfg.ctype = .restricted) (hP : Potential cfg.P H)
    (hB : NoClamp cfg.P cfg.R cfg.root.value B)
    (hroot : Reach cfg.P cfg.root.depth cfg.root.state cfg.root.value p0) (hperm : cfg.root.path.Perm p0)
    (hopt : (H 0 cfg.P.init).addI cfg.P.initVal = some opt)
    (hok : (compile cfg cache store polls stopAt).1 = .ok) (w : Int)
    (hw : (toOut (compile cfg cache store polls stopAt).2.1).bestExact = some w) :
    (∃ p, (toOut (compile cfg cache store polls stopAt).2.1).bestExactSol = some p ∧ SolOf cfg.P p w ∧ w ≤ opt) ∧
    ∃ x, optOf H cfg.root = some x ∧ w ≤ x :=
  isSol_facts cfg H opt p0 hP hroot hperm hopt w _
    (Closed.isSol_restricted cfg B p0 cache store polls stopAt hres hB hroot hok w hw)

/-- **the contract of a restricted compilation** (in isolation) -/
theorem compileOk_restricted (cfg : Cfg S K) (H : Nat → S → EInt) (B opt : Int) (p0 : List Dec)
    (cache : Cache S) (store : DomStore S K) (polls : Nat)
    (hres : cfg.ctype = .restricted) (hcache : cfg.useCache = false) (hdom : cfg.dom = none)
    (hP : Potential cfg.P H) (hR : RubOk cfg.R H)
    (hB : NoClamp cfg.P cfg.R cfg.root.value B) (hlb : InI cfg.lb) (hlb' : cfg.lb < iMax)
    (hroot : Reach cfg.P cfg.root.depth cfg.root.state cfg.root.value p0) (hperm : cfg.root.path.Perm p0)
    (hopt : (H 0 cfg.P.init).addI cfg.P.initVal = some opt)
    (hok : (compile cfg cache store polls none).1 = .ok) :
    CompileOk (optOf H) opt (SolOf cfg.P) cfg.root cfg.lb (toOut (compile cfg cache store polls none).2.1) := by
  refine ⟨fun w hw => ?_, fun w hw => ?_, fun hex x hx hgt => ?_⟩
  · exact (restricted_sound_within cfg H B opt p0 cache store polls none hres hP hB hroot hperm hopt hok w hw).1
  · exact (restricted_sound_within cfg H B opt p0 cache store polls none hres hP hB hroot hperm hopt hok w hw).2
  · exact (C07.restricted_exact_truthful cfg H B x p0 cache store polls hres hcache hdom hP hR hB hlb hroot hx hgt
      (Or.inr hlb') hok _ (.inl rfl) hex).bestExactValue

/-- **the contract of a relaxed compilation** (in isolation, the `must` result) -/
theorem compileOk_relaxed (cfg : Cfg S K) (H : Nat → S → EInt) (B opt : Int) (p0 : List Dec)
    (cache : Cache S) (store : DomStore S K) (polls : Nat)
    (hrel : cfg.ctype = .relaxed) (hcache : cfg.useCache = false) (hdom : cfg.dom = none) (hW : 1 ≤ cfg.width)
    (hP : Potential cfg.P H) (hR : RubOk cfg.R H) (hM : MergeOk cfg.R H) (hAM : Cover.AttMerge cfg.P cfg.R H)
    (hB : NoClamp cfg.P cfg.R cfg.root.value B) (hlb : InI cfg.lb) (hlb' : cfg.lb < iMax)
    (hroot : Reach cfg.P cfg.root.depth cfg.root.state cfg.root.value p0) (hperm : cfg.root.path.Perm p0)
    (hopt : (H 0 cfg.P.init).addI cfg.P.initVal = some opt)
    (hok : (compile cfg cache store polls none).1 = .ok) :
    CompileOk (optOf H) opt (SolOf cfg.P) cfg.root cfg.lb (toOut (compile cfg cache store polls none).2.1) := by
  have hsw := fun w hw => isSol_facts cfg H opt p0 hP hroot hperm hopt w _
    (Closed.isSol_relaxed cfg B p0 cache store polls hrel hcache hdom hW hB hroot hok w hw)
  refine ⟨fun w hw => (hsw w hw).1, fun w hw => (hsw w hw).2, fun hex x hx hgt => ?_⟩
  exact (C06.relaxed_exact_value cfg H B x p0 cache store polls hrel hcache hdom hW hP hR hM hAM hB hlb hroot hx hgt
    (Or.inr hlb') hok _ (.inl rfl) hex).1

/-- **C01 for the diagram model**: one `process_one_node` of the sequential solver in which both compilations are the
    `Mdd.lean` compilations (in isolation) of the popped node with the solver's incumbent preserves the coverage invariant.
    `cR` / `cX`: the configurations of the restricted / relaxed compilation (same model, root = the popped node `N`,
    `lb` = the incumbent at the time of the call).  `hcut` (C08 (iii)/(iv)) is left as a hypothesis. -/
theorem process_inv_of_model (H : Nat → S → EInt) (B opt : Int) (p0 : List Dec)
    (cR cX : Cfg S K) (cache : Cache S) (store : DomStore S K) (polls polls' : Nat)
    (st : SeqSt S) (N : SubP S)
    (hPR : cX.P = cR.P) (hNR : cR.root = N) (hNX : cX.root = N)
    (hlbR : cR.lb = st.bestLb)
    (hlbX : cX.lb = (st.updateBest (toOut (compile cR cache store polls none).2.1)).bestLb)
    (hres : cR.ctype = .restricted) (hrel : cX.ctype = .relaxed)
    (hcR : cR.useCache = false) (hdR : cR.dom = none) (hcX : cX.useCache = false) (hdX : cX.dom = none) (hW : 1 ≤ cX.width)
    (hP : Potential cR.P H) (hRR : RubOk cR.R H) (hRX : RubOk cX.R H) (hM : MergeOk cX.R H)
    (hAM : Cover.AttMerge cX.P cX.R H)
    (hBR : NoClamp cR.P cR.R cR.root.value B) (hBX : NoClamp cX.P cX.R cX.root.value B)
    (hlbR1 : InI cR.lb) (hlbR2 : cR.lb < iMax) (hlbX1 : InI cX.lb) (hlbX2 : cX.lb < iMax)
    (hroot : Reach cR.P N.depth N.state N.value p0) (hperm : N.path.Perm p0)
    (hopt : (H 0 cR.P.init).addI cR.P.initVal = some opt)
    (hokR : (compile cR cache store polls none).1 = .ok) (hokX : (compile cX cache store polls' none).1 = .ok)
    (hinv : Inv (optOf H) opt (SolOf cR.P) (N :: st.fringe) st.bestLb st.bestSol)
    (hcut : (toOut (compile cX cache store polls' none).2.1).isExact = false →
      CutsetOk (optOf H) opt N (st.updateBest (toOut (compile cR cache store polls none).2.1)).bestLb
        (toOut (compile cX cache store polls' none).2.1)) :
    Inv (optOf H) opt (SolOf cR.P)
      (st.process false N true (.ok (toOut (compile cR cache store polls none).2.1))
        (.ok (toOut (compile cX cache store polls' none).2.1))).1.fringe
      (st.process false N true (.ok (toOut (compile cR cache store polls none).2.1))
        (.ok (toOut (compile cX cache store polls' none).2.1))).1.bestLb
      (st.process false N true (.ok (toOut (compile cR cache store polls none).2.1))
        (.ok (toOut (compile cX cache store polls' none).2.1))).1.bestSol := by
  have h1 := compileOk_restricted cR H B opt p0 cache store polls hres hcR hdR hP hRR hBR hlbR1 hlbR2
    (by rw [hNR]; exact hroot) (by rw [hNR]; exact hperm) hopt hokR
  have h2 := compileOk_relaxed cX H B opt p0 cache store polls' hrel hcX hdX hW (hPR ▸ hP) hRX hM hAM hBX hlbX1 hlbX2
    (by rw [hNX, hPR]; exact hroot) (by rw [hNX]; exact hperm) (by rw [hPR]; exact hopt) hokX
  rw [hNR, hlbR] at h1
  rw [hNX, hlbX, hPR] at h2
  refine process_inv (optOf H) opt (SolOf cR.P) (fun c u => rfl) st N _ _ hinv h1 h2 hcut

/-! ## non-vacuity: the tiny model of `Props/C06.lean` (optimum 3) meets both contracts -/
namespace TinyC
open Ddo.C06.Tiny

example : CompileOk (optOf H) 3 (SolOf prob) cfg.root cfg.lb
    (toOut (compile cfg (Cache.init 3) (DomStore.init 3) 0 none).2.1) :=
  compileOk_relaxed cfg H 1 3 [] (Cache.init 3) (DomStore.init 3) 0 rfl rfl rfl (by decide) potential rubOk mergeOk
    (Cover.attMerge_of_static potential (fun _ _ _ _ _ => rfl)) noClamp (by decide) (by decide) .root (List.Perm.refl _)
    rfl (by decide)

example : CompileOk (optOf H) 3 (SolOf prob) cfg.root cfg.lb
    (toOut (compile { cfg with ctype := .restricted } (Cache.init 3) (DomStore.init 3) 0 none).2.1) :=
  compileOk_restricted { cfg with ctype := .restricted } H 1 3 [] (Cache.init 3) (DomStore.init 3) 0 rfl rfl rfl potential rubOk
    noClamp (by decide) (by decide) .root (List.Perm.refl _) rfl (by decide)

end TinyC

end Ddo.C01

#print axioms Ddo.C01.restricted_sound_within
#print axioms Ddo.C01.compileOk_restricted
#print axioms Ddo.C01.compileOk_relaxed
#print axioms Ddo.C01.process_inv_of_model
