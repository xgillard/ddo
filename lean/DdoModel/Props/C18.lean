import DdoModel.Proofs.Cache
/-! # C18 — the cache matches its sequential specification (the dominance store: `Props/C10.lean`, `store_eq_pareto_front`)

`Cache` is the model of `SimpleCache`.  The specification is the property's own sentence: for a
`(state, depth)` pair the cache returns the maximum, in `(value, explored)` order, of all
thresholds recorded since that layer was last cleared.  The theorems hold for every operation
sequence (induction over the history); the tie to the code is the correspondence engine `cache`
(exhaustive short sequences + long random ones against the real `SimpleCache`, plus concurrent
update phases with real threads whose final state must equal the model's — unique — state). -/
set_option linter.unusedSectionVars false
namespace Ddo.C18
variable {S : Type} [DecidableEq S]

/-- thresholds recorded for `(s, d)` since layer `d` was last cleared; history given latest first -/
def recorded (s : S) (d : Nat) : List (COp S) → List Thr
  | [] => []
  | .update s' d' t :: r => if d' = d ∧ s' = s then t :: recorded s d r else recorded s d r
  | .clearLayer d' :: r => if d' = d then [] else recorded s d r
  | .clear :: _ => []
  | .get _ _ :: r => recorded s d r
  | .mustExplore _ _ _ :: r => recorded s d r

/-- maximum in `(value, explored)` order -/
def maxThr : List Thr → Option Thr
  | [] => none
  | t :: r => updCell (maxThr r) t

/-- final cache after a history (latest first) started from the freshly initialised cache -/
def after (n : Nat) (hist : List (COp S)) : Cache S := ((Cache.init n).run hist.reverse).1

theorem run_append (c : Cache S) (a b : List (COp S)) :
    (c.run (a ++ b)).1 = ((c.run a).1.run b).1 := by
  induction a generalizing c with
  | nil => simp [Cache.run]
  | cons op ops ih => simp only [List.cons_append, Cache.run]; exact ih _

theorem after_cons (n : Nat) (op : COp S) (hist : List (COp S)) :
    after n (op :: hist) = ((after n hist).step op).1 := by
  simp only [after, List.reverse_cons, run_append, Cache.run]

theorem after_len (n : Nat) (hist : List (COp S)) : (after n hist).layers.length = n + 1 := by
  induction hist with
  | nil => simp [after, Cache.run, Cache.init]
  | cons op r ih =>
    rw [after_cons]
    cases op with
    | get s d => simp only [Cache.step]; split <;> exact ih
    | mustExplore s d v => simp only [Cache.step]; split <;> exact ih
    | update s d t =>
      simp only [Cache.step]; split
      · exact ih
      · next c' h => rw [Cache.layers_len_update _ _ _ _ _ h]; exact ih
    | clearLayer d =>
      simp only [Cache.step]; split
      · exact ih
      · next c' h => rw [Cache.layers_len_clearLayer _ _ _ h]; exact ih
    | clear => simp only [Cache.step, Cache.layers_len_clear]; exact ih

/-- **Main theorem (sentence 1 of C18)**: after *any* operation sequence, `get_threshold(s, d)`
    returns the maximum of all thresholds recorded for `(s, d)` since layer `d` was last cleared. -/
theorem get_eq_max_since_clear (n : Nat) (hist : List (COp S)) (s : S) (d : Nat) (hd : d ≤ n) :
    (after n hist).get s d = some (maxThr (recorded s d hist)) := by
  induction hist with
  | nil =>
    simp only [after, List.reverse_nil, Cache.run, Cache.get, Cache.init, recorded, maxThr]
    rw [List.getElem?_replicate]
    have : d < n + 1 := by omega
    simp [this, CLayer.get]
  | cons op r ih =>
    rw [after_cons]
    have hlen := after_len (S := S) n r
    cases op with
    | get s' d' => simp only [Cache.step, recorded]; split <;> exact ih
    | mustExplore s' d' v => simp only [Cache.step, recorded]; split <;> exact ih
    | update s' d' t =>
      simp only [Cache.step, recorded]
      split
      · next h =>
        -- the call panicked: d' out of range, hence d' ≠ d
        have : ¬ (d' = d ∧ s' = s) := by
          intro hh
          obtain ⟨c', hc'⟩ := Cache.update_isSome (after n r) s' d' t (by omega)
          rw [hc'] at h; cases h
        simp only [this, if_false]; exact ih
      · next c' h =>
        rw [Cache.get_update _ _ _ _ _ _ _ h]
        by_cases hh : d' = d ∧ s' = s
        · obtain ⟨h1, h2⟩ := hh; subst h1; subst h2
          simp [ih, maxThr]
        · have : ¬ (d = d' ∧ s = s') := fun h' => hh ⟨h'.1.symm, h'.2.symm⟩
          simp only [this, hh, if_false]; exact ih
    | clearLayer d' =>
      simp only [Cache.step, recorded]
      split
      · next h =>
        have : d' ≠ d := by
          intro hh
          obtain ⟨c', hc'⟩ := Cache.clearLayer_isSome (after n r) d' (by omega)
          rw [hc'] at h; cases h
        simp only [this, if_false]; exact ih
      · next c' h =>
        rw [Cache.get_clearLayer _ _ _ _ _ h]
        by_cases hh : d' = d
        · subst hh; simp [maxThr]
        · have : ¬ d = d' := fun h' => hh h'.symm
          simp only [this, hh, if_false]; exact ih
    | clear =>
      simp only [Cache.step, recorded, Cache.get_clear, ih, maxThr, Option.map]

/-- clearing one layer affects no other -/
theorem clear_layer_local (c c' : Cache S) (d d2 : Nat) (s : S) (h : c.clearLayer d = some c') (hne : d2 ≠ d) :
    c'.get s d2 = c.get s d2 := by
  rw [Cache.get_clearLayer _ _ _ _ _ h]; simp [hne]

/-- an update of one key affects no other key -/
theorem update_local (c c' : Cache S) (s s2 : S) (d d2 : Nat) (t : Thr) (h : c.update s d t = some c')
    (hne : ¬ (d2 = d ∧ s2 = s)) : c'.get s2 d2 = c.get s2 d2 := by
  rw [Cache.get_update _ _ _ _ _ _ _ h]; simp [hne]

/-- no update is lost and a stored threshold never decreases: the cell after an update dominates
    both the written threshold and the previous content -/
theorem update_ge (cell : Option Thr) (t : Thr) :
    ∃ r, updCell cell t = some r ∧ Thr.le t r ∧ ∀ e, cell = some e → Thr.le e r := by
  cases cell with
  | none => exact ⟨t, rfl, Thr.le_refl t, by simp⟩
  | some e => exact ⟨Thr.join t e, rfl, Thr.le_join_left t e, fun e' he => by injection he with he; subst he; exact Thr.le_join_right t e⟩

/-- the maximum is an upper bound of everything recorded, and is itself one of the recorded thresholds -/
theorem maxThr_spec (l : List Thr) :
    (l = [] → maxThr l = none) ∧ (l ≠ [] → ∃ m, maxThr l = some m ∧ m ∈ l ∧ ∀ t ∈ l, Thr.le t m) := by
  induction l with
  | nil => simp [maxThr]
  | cons t r ih =>
    refine ⟨by simp, fun _ => ?_⟩
    cases r with
    | nil => exact ⟨t, by simp [maxThr, updCell], by simp, by intro x hx; simp at hx; subst hx; exact Thr.le_refl _⟩
    | cons t2 r2 =>
      obtain ⟨m, hm, hmem, hub⟩ := ih.2 (by simp)
      refine ⟨Thr.join t m, by simp only [maxThr] at hm ⊢; rw [hm]; rfl, ?_, ?_⟩
      · unfold Thr.join; split
        · exact List.mem_cons_of_mem _ hmem
        · exact List.mem_cons_self
      · intro x hx
        rcases List.mem_cons.mp hx with hx | hx
        · subst hx; exact Thr.le_join_left _ _
        · exact Thr.le_trans (hub x hx) (Thr.le_join_right _ _)

/-- updates of one cell commute and are idempotent … -/
theorem update_comm (cell : Option Thr) (a b : Thr) : updCell (updCell cell a) b = updCell (updCell cell b) a := by
  cases cell with
  | none => exact congrArg some (Thr.join_comm b a)
  | some e => exact congrArg some (by rw [← Thr.join_assoc, Thr.join_comm b a, Thr.join_assoc])
theorem update_idem (cell : Option Thr) (a : Thr) : updCell (updCell cell a) a = updCell cell a := by
  cases cell with
  | none => exact congrArg some (Thr.join_idem a)
  | some e => exact congrArg some (by rw [← Thr.join_assoc, Thr.join_idem])

/-- … hence the outcome of a phase of concurrent updates (each one atomic) does not depend on the
    order in which the updates are linearised: every permutation yields the same cell. -/
theorem updates_perm_invariant (cell : Option Thr) (l1 l2 : List Thr) (h : l1.Perm l2) :
    l1.foldl updCell cell = l2.foldl updCell cell := by
  induction h generalizing cell with
  | nil => rfl
  | cons x _ ih => simp only [List.foldl_cons]; exact ih _
  | swap x y l => simp only [List.foldl_cons]; rw [update_comm]
  | trans _ _ ih1 ih2 => exact (ih1 cell).trans (ih2 cell)

/-- `must_explore` as the property states it -/
theorem must_explore_spec (t : Option Thr) (v : Int) :
    mustExploreThr t v = true ↔ (t = none ∨ ∃ th, t = some th ∧ (v > th.value ∨ (v = th.value ∧ th.explored = false))) := by
  cases t with
  | none => simp [mustExploreThr]
  | some th => simp [mustExploreThr]

/-! non-vacuity -/
example : (after (S := Nat) 2 [.update 7 1 ⟨3, false⟩, .clearLayer 1, .update 7 1 ⟨9, true⟩]).get 7 1
    = some (some ⟨3, false⟩) := by decide
example : (after (S := Nat) 2 [.update 7 1 ⟨3, false⟩, .update 7 1 ⟨3, true⟩, .update 7 0 ⟨9, true⟩]).get 7 1
    = some (some ⟨3, true⟩) := by decide

end Ddo.C18
