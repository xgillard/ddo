import DdoModel.Proofs.SeqInv
/-! # C01 — sequential branch-and-bound returns the true optimum

Theorems about the model `SeqSolver.lean` of `SequentialSolver` (tied to the code by *tape
validation*: engine `seq` replays every call the real solver makes to its diagram, cache and fringe
through the model).  The diagram is universally quantified under the contracts `CompileOk` /
`CutsetOk` (which are the statements of C06–C08), the fringe is the specification multiset with an
arbitrary maximal pop, so the theorems hold for every model, every diagram implementation meeting
the contracts, every width, every ranking.

Proved here: the coverage invariant is preserved by `process_one_node` (`process_inv`) and holds
initially (`init_inv`), and
when the fringe is found empty the incumbent is the optimum and is the value of the stored feasible
solution (`complete_optimal`); a compilation of a node without completion reports nothing
(`infeasible_no_update`).  Configuration covered by the proof: plain multiset fringe
(`SimpleFringe`), no threshold cache (`mustExplore = true`), no cutoff.
Termination and the duplicate-free fringe: Props/C01t.lean, Props/C01b.lean.
The cache and the dominance checker: Props/C09b.lean, Props/C10b.lean. -/
set_option linter.unusedSectionVars false
set_option linter.unusedVariables false
namespace Ddo.C01
variable {S : Type} [DecidableEq S]

section
variable (Phi : SubP S → EInt) (opt : Int) (Sol : List Dec → Int → Prop)

/-- **`process_inv`**: one `process_one_node` (both compilations answered, no cache) preserves the
    coverage invariant; `N` is the popped node, `st.fringe` what is left in the fringe. -/
theorem process_inv (hPhi : ∀ (c : SubP S) (u : Int), Phi { c with ub := u } = Phi c)
    (st : SeqSt S) (N : SubP S) (r x : DDOut S)
    (hinv : Inv Phi opt Sol (N :: st.fringe) st.bestLb st.bestSol)
    (hr : CompileOk Phi opt Sol N st.bestLb r)
    (hx : CompileOk Phi opt Sol N (st.updateBest r).bestLb x)
    (hcut : x.isExact = false → CutsetOk Phi opt N (st.updateBest r).bestLb x) :
    Inv Phi opt Sol (st.process false N true (.ok r) (.ok x)).1.fringe
      (st.process false N true (.ok r) (.ok x)).1.bestLb (st.process false N true (.ok r) (.ok x)).1.bestSol := by
  -- coverage: the instance `On c := Phi c = some opt` of the bare invariant
  have hb := C10.process_dinv_false (fun c => Phi c = some opt) opt Sol st N r x ⟨hinv.lbOk, hinv.solOk, hinv.cover⟩
    ⟨hr.sound, fun he hP hgt => ⟨opt, hr.exact he opt hP hgt, Int.le_refl _⟩⟩
    ⟨hx.sound, fun he hP hgt => ⟨opt, hx.exact he opt hP hgt, Int.le_refl _⟩⟩
    (fun hxe hP hgt hw => by
      obtain ⟨c, hc, y, hy, hxy⟩ := (hcut hxe).cover opt hP hgt hw
      have e : y = opt := Int.le_antisymm ((hcut hxe).good c hc y hy) hxy
      exact ⟨c, hc, e ▸ hy, e ▸ (hcut hxe).ub c hc y hy (e ▸ hgt)⟩)
  -- every entry of the new fringe is an old one, or a cut-set node with the bound of its own diagram (no cap since the repair of D14)
  have old : ∀ l, st.bestLb ≤ l → ∀ c ∈ st.fringe, Good Phi opt c ∧ UbOk Phi l c := fun l hl c hc =>
    ⟨hinv.good c (List.mem_cons_of_mem _ hc), ubOk_mono Phi hl (hinv.ubOk c (List.mem_cons_of_mem _ hc))⟩
  have f1 := (updateBest_fringe st r).1
  have f2 := (updateBest_fringe (st.updateBest r) x).1.trans f1
  have hge1 := updateBest_lb_ge st r
  have hge2 := updateBest_lb_ge (st.updateBest r) x
  suffices h : ∀ c ∈ (st.process false N true (.ok r) (.ok x)).1.fringe,
      Good Phi opt c ∧ UbOk Phi (st.process false N true (.ok r) (.ok x)).1.bestLb c from
    ⟨fun c hc => (h c hc).1, fun c hc => (h c hc).2, hb.lbOk, hb.solOk, hb.cover⟩
  rcases SeqSt.process_ok_cases st N true r x with ⟨_, e⟩ | ⟨_, _, ⟨_, e⟩ | ⟨_, _, e⟩ | ⟨_, hxe, e⟩⟩ <;> rw [e false] <;> dsimp only
  · exact old _ (Int.le_refl _)
  · rw [f1]; exact old _ hge1
  · rw [f2]; exact old _ (Int.le_trans hge1 hge2)
  · obtain ⟨e1, _, _, _, e5⟩ := enqueue_false_spec ((st.updateBest r).updateBest x) x.cutset
    rw [e1]
    intro c hc
    rcases (e5 c).mp hc with h | ⟨c0, hc0, rfl, _⟩
    · exact old _ (Int.le_trans hge1 hge2) c (f2 ▸ h)
    · exact ⟨(hcut hxe).good c hc0, ubOk_mono Phi hge2 ((hcut hxe).ub c hc0)⟩

/-- the root node satisfies the invariant: `Phi root = opt` by definition of the optimum -/
theorem init_inv (root : SubP S) (lb : Int) (sol : Option (List Dec))
    (hroot : ∀ x, Phi root = some x → x ≤ opt) (hub : root.ub = iMax) (hopt : opt ≤ iMax)
    (hlb : lb ≤ opt) (hsol : ∀ p, sol = some p → Sol p lb)
    (hatt : opt > lb → Phi root = some opt) :
    Inv Phi opt Sol [root] lb sol := by
  refine ⟨?_, ?_, hlb, hsol, fun hgt => ⟨root, List.mem_cons_self, hatt hgt, hub ▸ hopt⟩⟩
  · intro c hc; rcases List.mem_cons.mp hc with e | e
    · subst e; exact hroot
    · cases e
  · intro c hc; rcases List.mem_cons.mp hc with e | e
    · subst e; exact fun x hx _ => Int.le_trans (hroot x hx) (hub ▸ hopt)
    · cases e

/-- **`complete_optimal`**: when `get_workload` finds the fringe empty the incumbent is the optimum
    and is the value of the stored, genuinely feasible solution -/
theorem complete_optimal (lb : Int) (sol : Option (List Dec)) (hinv : Inv Phi opt Sol [] lb sol) :
    lb = opt ∧ ∀ p, sol = some p → Sol p opt := by
  have h1 : ¬ opt > lb := fun hgt => by obtain ⟨c, hc, _⟩ := hinv.cover hgt; cases hc
  have : lb = opt := Int.le_antisymm hinv.lbOk (Int.not_lt.mp h1)
  exact ⟨this, fun p hp => this ▸ hinv.solOk p hp⟩

end

def Dead (Phi : SubP S → EInt) (open_ : List (SubP S)) : Prop := ∀ c ∈ open_, Phi c = none

/-- with `Phi N = none` a contract-abiding compilation reports no exact value, so the incumbent stays
    untouched: an infeasible problem ends with `best_value = None` -/
theorem infeasible_no_update (Phi : SubP S → EInt) (opt : Int) (Sol : List Dec → Int → Prop)
    (st : SeqSt S) (N : SubP S) (lb0 : Int) (o : DDOut S)
    (hN : Phi N = none) (hc : CompileOk Phi opt Sol N lb0 o) : st.updateBest o = st := by
  unfold SeqSt.updateBest
  cases hb : o.bestExact with
  | none => rfl
  | some w => obtain ⟨x, hx, _⟩ := hc.within w hb; rw [hN] at hx; cases hx

end Ddo.C01
