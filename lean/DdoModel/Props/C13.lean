import DdoModel.Width
/-! # C13 (part 1) — the width-heuristic combinators never yield a width of zero

`WExpr.eval` models arbitrarily nested `Times` / `DivBy` / `FixedWidth` / `NbUnassignedWidth`
(`implementation/heuristics/width.rs`); `none` = the Rust call panics (division by zero, checked
`usize` overflow / underflow).  Whenever a combinator returns, it returns at least 1 (`combinator_never_zero`). -/
namespace Ddo.C13

theorem times_pos (k : Nat) (i : Option Nat) (r : Nat) (h : times k i = some r) : 1 ≤ r := by
  unfold times at h
  split at h
  · cases h
  · split at h
    · injection h with h; omega
    · cases h

theorem divBy_pos (k : Nat) (i : Option Nat) (r : Nat) (h : divBy k i = some r) : 1 ≤ r := by
  unfold divBy at h
  split at h
  · cases h
  · split at h
    · cases h
    · injection h with h; omega

/-- **C13, last sentence**, for every nesting and every sub-problem (path length) -/
theorem combinator_never_zero (e : WExpr) (pathLen r : Nat) (hc : e.isCombinator = true)
    (h : e.eval pathLen = some r) : 1 ≤ r := by
  cases e with
  | fixed w => cases hc
  | nbUnassigned n => cases hc
  | times k e => exact times_pos k _ r h
  | divBy k e => exact divBy_pos k _ r h

/-- `DivBy(0, _)` is rejected (panics) rather than totalised -/
theorem divBy_zero_crashes (i : Option Nat) : divBy 0 i = none := by
  unfold divBy; split <;> simp

theorem times_le_uMax (k : Nat) (i : Option Nat) (r : Nat) (h : times k i = some r) : r ≤ uMax := by
  unfold times at h
  split at h
  · cases h
  · split at h
    · injection h with h; unfold uMax at *; omega
    · cases h

example : (WExpr.times 0 (.fixed 5)).eval 0 = some 1 := by decide
example : (WExpr.divBy 7 (.nbUnassigned 3)).eval 1 = some 1 := by decide
example : (WExpr.divBy 0 (.fixed 3)).eval 0 = none := by decide

end Ddo.C13
