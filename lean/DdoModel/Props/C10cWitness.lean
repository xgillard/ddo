import DdoModel.Props.C10bKp
import DdoModel.Props.C10c
import DdoModel.Proofs.CacheDomCross
import DdoModel.Proofs.CacheDomCrossSim
import DdoModel.Proofs.CacheDomCarrier
import DdoModel.Proofs.CacheDomTwin
/-! The refutations and the non-vacuity instance of `Props/C10c.lean`: the joint statements of that file are false on the models `Cross`,
`CrossSim`, `Twin`, `Carrier` (`Proofs/CacheDom….lean`: each mechanism alone returns the optimum, both together do not), and on the
knapsack rule of the `ddo` documentation both mechanisms prune and the value is the optimum (`Kp`). -/
set_option linter.unusedSectionVars false
set_option linter.unusedVariables false
namespace Ddo.C10c
open Ddo Ddo.C01 Ddo.Closed Ddo.C09 Ddo.C10

namespace Cross
open Ddo.C09.Layered

theorem joint_run (dedup : Bool) (kind : CutsetKind) :
    ∃ t, KDRun (dv dedup kind) (KDSt.init (dv dedup kind)) t ∧ t.st.fringe = [] ∧ t.st.crashed = false ∧
      t.st.completion = (true, some 5) := by
  have h := joint_value dedup (by cases dedup <;> simp) kind (by cases kind <;> simp)
  exact joint_run_of (dv dedup kind) 6 (after dedup kind 6) rfl h.1 h.2.1 h.2.2.2

/-- **FINDING D17**: a well-formed model with optimum 10 and a rule that has a protected optimal strategy and is admissible in the
    potential form for all pairs of values; with the cache alone and with the checker alone every run ends with
    `is_exact = true`, `Some(10)`; with both a best-first run ends with `is_exact = true`, `Some(5)` — every fringe, every
    cut-set kind -/
theorem finding (dedup : Bool) (kind : CutsetKind) :
    WellFormed (dv dedup kind).sv (H T) 10 80 ∧ (H T 0 (prob T).init).addI (prob T).initVal = some 10 ∧
    UndomOpt rule (prob T) (H T) 10 ∧ AdmissibleAll rule (H T) ∧
    (∀ t, KRun (sv dedup kind) (KSt.init (sv dedup kind)) t → t.st.fringe = [] → t.st.completion = (true, some 10)) ∧
    (∀ t, DRun (dv dedup kind) (dv dedup kind).init t → t.st.fringe = [] → t.st.completion = (true, some 10)) ∧
    (∃ t, KDRun (dv dedup kind) (KDSt.init (dv dedup kind)) t ∧ t.st.fringe = [] ∧ t.st.crashed = false ∧
      t.st.completion = (true, some 5)) :=
  ⟨wellFormed dedup kind, opt10, undomOpt, admissibleAll, cache_only_of (wellFormed dedup kind) opt10,
    dom_only_of (wellFormed dedup kind) opt10 undomOpt, joint_run dedup kind⟩

end Cross

/-- **the joint statement is false** -/
theorem caching_dominance_solver_correct_false : ¬ CachingDominanceSolverCorrect := by
  intro h
  have hJ := h Int Int (Cross.dv false .lel) (Ddo.C09.Layered.H Cross.T) 10 80 10 (Cross.wellFormed false .lel) Cross.opt10
    Cross.undomOpt
  obtain ⟨t, ht, hend, _, hc⟩ := Cross.joint_run false .lel
  have := ((hJ.2.2 t ht).2.2 hend).2.2
  rw [hc] at this
  exact absurd this (by decide)

/-- it stays false when the rule is moreover required to be admissible in the potential form for all pairs of values -/
theorem caching_dominance_admissible_false :
    ¬ ∀ (dv : DSolverCfg Int Int) (H : Nat → Int → EInt) (B0 B opt : Int), WellFormed dv.sv H B0 B →
        (H 0 dv.sv.P.init).addI dv.sv.P.initVal = some opt → UndomOpt dv.D dv.sv.P H opt → AdmissibleAll dv.D H →
        ∀ t, KDRun dv (KDSt.init dv) t → t.st.fringe = [] → t.st.completion = (true, some opt) := by
  intro h
  obtain ⟨t, ht, hend, _, hc⟩ := Cross.joint_run false .lel
  have := h (Cross.dv false .lel) (Ddo.C09.Layered.H Cross.T) 10 80 10 (Cross.wellFormed false .lel) Cross.opt10
    Cross.undomOpt Cross.admissibleAll t ht hend
  rw [hc] at this
  exact absurd this (by decide)

/-- **the executable-loop form is false**: on `Cross` the loop is stationary after three turns, on `(true, Some(5))` -/
theorem kdsolveLoop_computes_opt_false : ¬ KdsolveLoopComputesOpt := by
  intro h
  obtain ⟨n, hfr, _, hc⟩ := h Int Int (Cross.dv false .lel) (Ddo.C09.Layered.H Cross.T) 10 80 10 (Cross.wellFormed false .lel)
    Cross.opt10 Cross.undomOpt
  have h6 := Cross.joint_value false (by simp) .lel (by simp)
  unfold Cross.after at h6
  rw [kdsolveLoop_eq_of_empty _ _ hfr (List.eq_nil_of_length_eq_zero h6.1)] at hc
  exact absurd (hc.symm.trans h6.2.1) (by decide)

namespace CrossSim
open Ddo.C09.Layered

theorem joint_run (dedup : Bool) (kind : CutsetKind) :
    ∃ t, KDRun (dv dedup kind) (KDSt.init (dv dedup kind)) t ∧ t.st.fringe = [] ∧ t.st.crashed = false ∧
      t.st.completion = (true, some 10) := by
  have h := joint_value dedup (by cases dedup <;> simp) kind (by cases kind <;> simp)
  exact joint_run_of (dv dedup kind) 6 (after dedup kind 6) rfl h.1 h.2.1 h.2.2.2

/-- **FINDING D17, second form**: a well-formed model with optimum 15 (unique optimal solution), static variable order, and a
    rule that satisfies the simulation condition (hence `UndomOpt` and `Admissible`); cache alone: 15; checker alone: 15; both: a
    best-first run ends with `is_exact = true`, `Some(10)` -/
theorem finding (dedup : Bool) (kind : CutsetKind) :
    WellFormed (dv dedup kind).sv (H T) 10 80 ∧ (H T 0 (prob T).init).addI (prob T).initVal = some 15 ∧
    StaticOrder (prob T) ∧ SimAdmissible rule (prob T) 1 ∧ UndomOpt rule (prob T) (H T) 15 ∧ Admissible rule (prob T) (H T) ∧
    (∀ t, KRun (sv dedup kind) (KSt.init (sv dedup kind)) t → t.st.fringe = [] → t.st.completion = (true, some 15)) ∧
    (∀ t, DRun (dv dedup kind) (dv dedup kind).init t → t.st.fringe = [] → t.st.completion = (true, some 15)) ∧
    (∃ t, KDRun (dv dedup kind) (KDSt.init (dv dedup kind)) t ∧ t.st.fringe = [] ∧ t.st.crashed = false ∧
      t.st.completion = (true, some 10)) :=
  ⟨wellFormed dedup kind, opt15, staticOrder, simAdmissible, undomOpt, admissible, cache_only_of (wellFormed dedup kind) opt15,
    dom_only_of (wellFormed dedup kind) opt15 undomOpt, joint_run dedup kind⟩

end CrossSim

/-- **the joint statement is false for simulation-admissible rules** (`SimAdmissible` + `StaticOrder`, the sufficient condition
    of `Props/C10b.lean`) -/
theorem caching_dominance_sim_false :
    ¬ ∀ (dv : DSolverCfg Int Int) (H : Nat → Int → EInt) (B0 B opt : Int) (n : Nat), WellFormed dv.sv H B0 B →
        (H 0 dv.sv.P.init).addI dv.sv.P.initVal = some opt → (∀ s, dv.D.dims s = n) → StaticOrder dv.sv.P →
        SimAdmissible dv.D dv.sv.P n →
        ∀ t, KDRun dv (KDSt.init dv) t → t.st.fringe = [] → t.st.completion = (true, some opt) := by
  intro h
  obtain ⟨t, ht, hend, _, hc⟩ := CrossSim.joint_run false .lel
  have := h (CrossSim.dv false .lel) (Ddo.C09.Layered.H CrossSim.T) 10 80 15 1 (CrossSim.wellFormed false .lel) CrossSim.opt15
    (fun _ => rfl) CrossSim.staticOrder CrossSim.simAdmissible t ht hend
  rw [hc] at this
  exact absurd this (by decide)

namespace Twin
open Ddo.C09.Layered

theorem simAll : SimAll rule (prob T) 1 :=
  ⟨fun d a va b vb L x hge hnv _ db hdb => sim_step d a va b vb L x hge hnv db hdb, fun _ _ _ _ hge => geItem_value rfl hge⟩

theorem joint_run (dedup : Bool) (kind : CutsetKind) :
    ∃ t, KDRun (dv dedup kind) (KDSt.init (dv dedup kind)) t ∧ t.st.fringe = [] ∧ t.st.crashed = false ∧
      t.st.completion = (true, some 5) := by
  have h := joint_value dedup (by cases dedup <;> simp) kind (by cases kind <;> simp)
  exact joint_run_of (dv dedup kind) 8 (after dedup kind 8) rfl h.1 h.2.1 h.2.2.2

/-- `{0, 1}` is merged to `1` (the largest state), which the rule puts below `0` -/
theorem not_mergeCompat : ¬ MergeCompat rule (rlx T) 1 := by
  intro h
  rcases h.merge [0, 1] 0 0 (by simp) with ⟨h1, _⟩ | ⟨_, h2⟩
  · exact absurd h1 (by decide)
  · exact absurd h2 (by decide)

/-- **FINDING D17, strongest form**: well-formed model, optimum 10, static order, a rule that satisfies the simulation condition for
    all pairs of states and values (the two comparable states have identical transitions and costs), hence `SimAdmissible`,
    `UndomOpt`, `AdmissibleAll`; cache alone: every run ends with 10; checker alone: every run ends with 10; both: a best-first run
    (forced pop order) ends with `is_exact = true`, `Some(5)` — every fringe, every cut-set kind -/
theorem finding (dedup : Bool) (kind : CutsetKind) :
    WellFormed (dv dedup kind).sv (H T) 10 80 ∧ (H T 0 (prob T).init).addI (prob T).initVal = some 10 ∧
    StaticOrder (prob T) ∧ SimAll rule (prob T) 1 ∧ SimAdmissible rule (prob T) 1 ∧ UndomOpt rule (prob T) (H T) 10 ∧
    AdmissibleAll rule (H T) ∧
    (∀ t, KRun (sv dedup kind) (KSt.init (sv dedup kind)) t → t.st.fringe = [] → t.st.completion = (true, some 10)) ∧
    (∀ t, DRun (dv dedup kind) (dv dedup kind).init t → t.st.fringe = [] → t.st.completion = (true, some 10)) ∧
    (∃ t, KDRun (dv dedup kind) (KDSt.init (dv dedup kind)) t ∧ t.st.fringe = [] ∧ t.st.crashed = false ∧
      t.st.completion = (true, some 5)) :=
  ⟨wellFormed dedup kind, opt10, staticOrder, simAll, simAdmissible, undomOpt, admissibleAll,
    cache_only_of (wellFormed dedup kind) opt10, dom_only_of (wellFormed dedup kind) opt10 undomOpt, joint_run dedup kind⟩

end Twin

namespace Carrier
open Ddo.C09.Layered

/-- **FINDING D17, third form** (no dominance-derived threshold involved): well-formed model, optimum 13, a rule with a protected
    optimal strategy; with the duplicate-free fringe and the last-exact-layer cut-set every run with the cache alone and every run with
    the checker alone ends with 13, and a best-first run with both ends with `is_exact = true`, `Some(7)` -/
theorem finding :
    WellFormed (dv true .lel).sv (H T) 10 80 ∧ (H T 0 (prob T).init).addI (prob T).initVal = some 13 ∧
    UndomOpt rule (prob T) (H T) 13 ∧
    (∀ t, KRun (sv true .lel) (KSt.init (sv true .lel)) t → t.st.fringe = [] → t.st.completion = (true, some 13)) ∧
    (∀ t, DRun (dv true .lel) (dv true .lel).init t → t.st.fringe = [] → t.st.completion = (true, some 13)) ∧
    (∃ t, KDRun (dv true .lel) (KDSt.init (dv true .lel)) t ∧ t.st.fringe = [] ∧ t.st.crashed = false ∧
      t.st.completion = (true, some 7)) :=
  ⟨wellFormed true .lel, opt13, undomOpt, cache_only_of (wellFormed true .lel) opt13,
    dom_only_of (wellFormed true .lel) opt13 undomOpt,
    joint_run_of (dv true .lel) 8 (after 8) rfl joint_value.1 joint_value.2.1 joint_value.2.2.2⟩

end Carrier

namespace Kp
open Ddo.C10.Kp

/-- on `Ddo.C10.Kp` (capacity 5, items (2,3), (3,3), (4,5); the knapsack rule of the `ddo` documentation) the solver with cache
    and checker returns the optimum 6 -/
theorem joint_value : ∀ w ∈ [1, 2, 3], ∀ dedup ∈ [false, true], ∀ kind ∈ [CutsetKind.lel, CutsetKind.frontier],
    ((dv w dedup kind).kdsolveLoop 12 (KDSt.init (dv w dedup kind))).st.fringe.length = 0 ∧
    ((dv w dedup kind).kdsolveLoop 12 (KDSt.init (dv w dedup kind))).st.completion = (true, some 6) ∧
    ((dv w dedup kind).kdsolveLoop 12 (KDSt.init (dv w dedup kind))).st.crashed = false := by decide +kernel

def after1 : KDSt Int Unit := (dv 2 true .frontier).kdsolveLoop 1 (KDSt.init (dv 2 true .frontier))

/-- **both mechanisms prune** (two turns): the compilations of the root receive two `dominated` verdicts from the checker; the second
    turn pops `(capacity 3, value 3, depth 1)` and its restricted compilation has a node pruned by `_filter_with_cache` -/
theorem both_prune :
    ((dv 2 true .frontier).kdsolveLoop 12 (KDSt.init (dv 2 true .frontier))).st.explored = 2 ∧
    ((dv 2 true .frontier).kdcompR (Cache.init 3) (DomStore.init 3) ⟨5, 0, [], iMax, 0⟩ iMin).2.2.2.ndom +
      ((dv 2 true .frontier).kdcompX (Cache.init 3)
        ((dv 2 true .frontier).kdcompR (Cache.init 3) (DomStore.init 3) ⟨5, 0, [], iMax, 0⟩ iMin).2.2.2.store
        ⟨5, 0, [], iMax, 0⟩ 6).2.2.2.ndom = 2 ∧
    (popMax after1.st.fringe).map (fun Nr => (Nr.1.state, Nr.1.value, Nr.1.depth)) = some (3, 3, 1) ∧
    (match popMax after1.st.fringe with
     | none => false
     | some (N, _) =>
       match cleanCache 3 after1.st.openByLayer 3 after1.st.firstActive after1.cache with
       | none => false
       | some c0 => ((dv 2 true .frontier).kdcompR c0 after1.store N after1.st.bestLb).2.2.2.layers.any
           (fun ly => ly.any (·.cache))) = true := by decide +kernel

end Kp

/-- **the joint statement is false even for rules that satisfy the simulation condition for all pairs of states and values** -/
theorem caching_dominance_simAll_false : ¬ CachingDominanceSimAll := by
  intro h
  have hJ := h Int Int (Twin.dv false .lel) (Ddo.C09.Layered.H Twin.T) 10 80 10 1 (Twin.wellFormed false .lel) Twin.opt10
    (fun _ => rfl) Twin.staticOrder Twin.simAll
  obtain ⟨t, ht, hend, _, hc⟩ := Twin.joint_run false .lel
  have := ((hJ.2.2 t ht).2.2 hend).2.2
  rw [hc] at this
  exact absurd this (by decide)

namespace Kp
open Ddo.C10.Kp

theorem simAll : SimAll rule prob 1 := by
  constructor
  · intro d a va b vb L x hge hnv _ db hdb
    rw [geItem_iff] at hge
    simp only [prob] at hdb ⊢
    by_cases hw : wt x ≤ b
    · rw [if_pos hw] at hdb
      have hwa : wt x ≤ a := by omega
      rw [if_pos hwa]
      have hd' : db = 1 ∨ db = 0 := by simpa using hdb
      rcases hd' with rfl | rfl
      · refine ⟨1, by simp, ?_⟩
        rw [geItem_iff]; simp only [if_true]; omega
      · refine ⟨0, by simp, ?_⟩
        rw [geItem_iff]; simp only [Int.zero_ne_one, if_false]; omega
    · rw [if_neg hw] at hdb
      have hd' : db = 0 := by simpa using hdb
      subst hd'
      refine ⟨0, by split <;> simp, ?_⟩
      rw [geItem_iff]; simp only [Int.zero_ne_one, if_false]; omega
  · intro a va b vb hge
    rw [geItem_iff] at hge
    exact hge.2

theorem mergeCompat : MergeCompat rule rlx 1 := by
  constructor
  · intro X u v hu
    rw [geItem_iff]
    exact ⟨maxL_ge X u hu, Int.le_refl v⟩
  · intro _ _ _ _ c
    exact Int.le_refl c

end Kp

end Ddo.C10c

#print axioms Ddo.C10c.Cross.wellFormed
#print axioms Ddo.C10c.Cross.admissibleAll
#print axioms Ddo.C10c.Cross.undomOpt
#print axioms Ddo.C10c.Cross.joint_value
#print axioms Ddo.C10c.Cross.dom_only
#print axioms Ddo.C10c.Cross.cache_only
#print axioms Ddo.C10c.Cross.stage1
#print axioms Ddo.C10c.Cross.stage2a
#print axioms Ddo.C10c.Cross.stage2b
#print axioms Ddo.C10c.Cross.stage3
#print axioms Ddo.C10c.Cross.stage_end
#print axioms Ddo.C10c.Cross.theta_unjustified
#print axioms Ddo.C10c.Cross.finding
#print axioms Ddo.C10c.caching_dominance_solver_correct_false
#print axioms Ddo.C10c.caching_dominance_admissible_false
#print axioms Ddo.C10c.kdsolveLoop_computes_opt_false
#print axioms Ddo.C10c.CrossSim.wellFormed
#print axioms Ddo.C10c.CrossSim.simAdmissible
#print axioms Ddo.C10c.CrossSim.undomOpt
#print axioms Ddo.C10c.CrossSim.not_admissibleAll
#print axioms Ddo.C10c.CrossSim.joint_value
#print axioms Ddo.C10c.CrossSim.dom_only
#print axioms Ddo.C10c.CrossSim.cache_only
#print axioms Ddo.C10c.CrossSim.stage1
#print axioms Ddo.C10c.CrossSim.stage2
#print axioms Ddo.C10c.CrossSim.stage3
#print axioms Ddo.C10c.CrossSim.stage_end
#print axioms Ddo.C10c.CrossSim.finding
#print axioms Ddo.C10c.caching_dominance_sim_false
#print axioms Ddo.C10c.Twin.wellFormed
#print axioms Ddo.C10c.Twin.simAll
#print axioms Ddo.C10c.Twin.simAdmissible
#print axioms Ddo.C10c.Twin.undomOpt
#print axioms Ddo.C10c.Twin.admissibleAll
#print axioms Ddo.C10c.Twin.not_mergeCompat
#print axioms Ddo.C10c.Twin.joint_value
#print axioms Ddo.C10c.Twin.dom_only
#print axioms Ddo.C10c.Twin.cache_only
#print axioms Ddo.C10c.Twin.stage1
#print axioms Ddo.C10c.Twin.stage2
#print axioms Ddo.C10c.Twin.stage3
#print axioms Ddo.C10c.Twin.stage3b
#print axioms Ddo.C10c.Twin.stage4
#print axioms Ddo.C10c.Twin.stage_end
#print axioms Ddo.C10c.Twin.finding
#print axioms Ddo.C10c.caching_dominance_simAll_false
#print axioms Ddo.C10c.Carrier.undomOpt
#print axioms Ddo.C10c.Carrier.joint_value
#print axioms Ddo.C10c.Carrier.single_values
#print axioms Ddo.C10c.Carrier.stage2
#print axioms Ddo.C10c.Carrier.stage3
#print axioms Ddo.C10c.Carrier.stage4
#print axioms Ddo.C10c.Carrier.stage_end
#print axioms Ddo.C10c.Carrier.finding
#print axioms Ddo.C10c.Kp.joint_value
#print axioms Ddo.C10c.Kp.both_prune
#print axioms Ddo.C10c.Kp.simAll
#print axioms Ddo.C10c.Kp.mergeCompat
