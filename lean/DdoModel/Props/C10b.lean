import DdoModel.Props.C01d
import DdoModel.Proofs.DomSound
import DdoModel.Proofs.DomTruth
import DdoModel.Proofs.DomSim
import DdoModel.Proofs.DomRelax
import DdoModel.Proofs.DomContract
/-! # C10, sentence 1 — "with any admissible dominance rule, enabling the dominance checker never changes the optimal value
    returned by any solver" (solver level)

`Props/C10.lean` proves that `SimpleDominanceChecker` is a Pareto front per `(depth, key)`.  This file decides the solver-level
sentence for the **sequential solver over the diagram model** (`DSolverCfg`: `C01.SolverCfg` + a rule `D`; `dom := some D`,
`EmptyCache`, no cutoff; ONE store threaded through every restricted and relaxed compilation of every sub-problem:
`DSolverCfg.turn`, `DStep`, `DRun`, `DSolverCfg.solveLoop` in `Proofs/DomSound.lean` / below).

## verdict

* **Refuted for the value-based ("potential") notion of admissibility** — `Admissible D P H` (`Proofs/DomSound.lean`): *whenever the rule says `(a, va)`
  dominates `(b, vb)` (same depth, same key, coordinate-wise `≥` with value, strictly better somewhere) then
  `H d b + vb ≤ H d a + va` in `EInt`* (feasibility included: `none = −∞`).  `Cyc.finding` / `Cyc.admissible_not_sufficient`: a
  4-variable model meeting every hypothesis of `C01.sequential_solver_correct` whose rule is admissible for *all* pairs of values
  (`AdmissibleAll`), on which the solver returns 10 without the checker and **`is_exact = true`, `best_value = Some(5)` with it**
  (`decide` on the composed model; reproduced with the real library, every solver: `Props/C10bCyc.lean`).  Mechanism: two optimal
  solutions of equal value, σ1 dominated at depth 3, σ2 at depth 2 (ties + a rule that is not consistent with the transitions);
  the entry that kills σ1 was recorded by the *restricted* compilation for a node `_restrict` then deleted.
* **Proved for rules that have a protected optimal strategy** — `UndomOpt D P H opt` (`Proofs/DomSound.lean`): a family of exactly reached items on
  optimal solutions, containing the root, closed under some decision of every variable, none of which is dominated by an exactly
  reached item.  `dominance_solver_optimal`: for every `C01.WellFormed` model, ranking, width function, cut-set kind and fringe the
  solver with the checker terminates, never gets stuck (no crash, the checker never panics) and ends with `is_exact = true`, the
  optimum and a feasible stored solution — the same `Completion` as without the checker (`dominance_same_value`).
  Sufficient, checkable conditions: `SimAdmissible` + `StaticOrder` (`Proofs/DomSim.lean`, `undomOpt_of_sim`: the classical consistency condition —
  every decision of the dominated state is matched by a decision of the dominating one with an at-least-as-good child; it also
  implies `Admissible`: `admissible_of_sim`) and `StrictAdmissible` (`undomOpt_of_strict`: no ties).  The knapsack rule of the
  `ddo` documentation is simulation-admissible (`Kp.simAdmissible`), the checker really prunes on it, inside a layer and across
  compilations (`Kp.prunes_in_layer`, `Kp.prunes_across`), and the headline applies (`Kp.correct`).

## why the shared store is sound (invariant; `Proofs/DomSound.lean`)

`StoreReach`: every entry `(a, va)` of depth `d` was reached exactly (`Reach P d a va p`) — true of every exact node whatever
became of it afterwards (deleted by `_restrict`, merged away, rub-pruned, its sub-problem open / closed / cut off): *no
justification of the entry is needed*.  A protected item is never dominated by an exactly reached item, so it is never dropped by
`_filter_with_dominance`, whatever the history of the store (`query_protected`, `filterDom_protected`); inexact nodes are never
presented to the checker.  Hence the branch-and-bound invariant (`BBInv`: some open sub-problem lies on the protected family with a
bound `≥ opt`, or the incumbent is optimal) goes through with the contracts `DCompileOk` / `DCutsetOk` (`process_dinv`), which
hold for the diagram model: restricted / exact phase `exact_diagram_dom`, `restricted_exact_dom`; relaxed `relaxed_ub_dom`,
`relaxed_cutset_dom` (`Proofs/DomRelax.lean`), `isSol_relaxed_dom`, `compile_no_crash_dom` (`Proofs/DomTruth.lean`).
An invariant of the form "every entry is covered by an open sub-problem or the incumbent" is *not* maintained by the code (the
entry `B2` of `Cyc` is covered by nothing) — and with value-based admissibility nothing weaker suffices.

## single compilation, value-based admissibility

`exact_diagram_adm` (`Proofs/DomExact.lean`): from a store of exactly reached entries, a compilation that squashes nothing reports at least the optimum of
its root **or an entry of the store it started from carries it**.  The relaxed counterpart is stated only (`RelaxedUbAdmStmt`).

## elsewhere, and not covered

Cache + dominance (the `theta` of a dominated node feeds `_compute_thresholds`): `Proofs/CacheDomDefs.lean`, `Props/C10c.lean` – `Props/C10e.lean`.
The parallel solver with the shared checker, every interleaving of the individual `is_dominated_or_insert` calls: `Props/C10f.lean`
(`Proofs/ParDom*.lean`); the key facts `query_protected` / `query_storeAll` are per query, hence independent of the interleaving.  The cutoff
and pooled diagrams are not modelled with the checker enabled.  The negative result carries over to all of them (real library, `Props/C10bCyc.lean`). -/
set_option linter.unusedSectionVars false
set_option linter.unusedVariables false
namespace Ddo.C10
open Ddo Ddo.C01 Ddo.Closed Ddo.Truth
variable {S K : Type} [DecidableEq S] [DecidableEq K]

/-- one turn of the loop of `maximize` with the checker enabled: pop a maximal node, `process_one_node` over the diagram model,
    the store threaded through both compilations -/
inductive DStep (dv : DSolverCfg S K) : DSt S K → DSt S K → Prop
  | pop (s : DSt S K) (N : SubP S) (rest : List (SubP S)) (fa : Nat) (s' : DSt S K)
      (hpop : s.st.fringe.Perm (N :: rest))
      (hmax : ∀ c ∈ rest, c.ub < N.ub ∨ (c.ub = N.ub ∧ c.value ≤ N.value))
      (hturn : dv.turn ⟨popped s.st N rest fa, s.store⟩ N = some s') : DStep dv s s'

inductive DRun (dv : DSolverCfg S K) : DSt S K → DSt S K → Prop
  | refl (s : DSt S K) : DRun dv s s
  | tail {s t u : DSt S K} : DRun dv s t → DStep dv t u → DRun dv s u

theorem turn_spec (dv : DSolverCfg S K) (s s' : DSt S K) (N : SubP S) (h : dv.turn s N = some s') :
    let cR := dv.compR s.store N s.st.bestLb
    let cX := dv.compX cR.2.2.2.store N (s.st.updateBest (toOut cR.2.1)).bestLb
    (N.ub ≤ s.st.bestLb ∧ s' = s) ∨
    (¬ N.ub ≤ s.st.bestLb ∧ cR.1 = .ok ∧
      (((toOut cR.2.1).isExact = true ∧
        s' = ⟨(s.st.process dv.sv.dedup N true (.ok (toOut cR.2.1)) (.ok (toOut cR.2.1))).1, cR.2.2.2.store⟩) ∨
       ((toOut cR.2.1).isExact = false ∧ cX.1 = .ok ∧
        s' = ⟨(s.st.process dv.sv.dedup N true (.ok (toOut cR.2.1)) (.ok (toOut cX.2.1))).1, cX.2.2.2.store⟩))) := by
  intro cR cX
  have hcR : cR = dv.compR s.store N s.st.bestLb := rfl
  have hcX : cX = dv.compX cR.2.2.2.store N (s.st.updateBest (toOut cR.2.1)).bestLb := rfl
  unfold DSolverCfg.turn at h
  dsimp only at h
  rw [← hcR, ← hcX] at h
  clear_value cR cX
  by_cases hub : N.ub ≤ s.st.bestLb
  · rw [if_pos hub] at h
    exact Or.inl ⟨hub, (Option.some.inj h).symm⟩
  · rw [if_neg hub] at h
    refine Or.inr ⟨hub, ?_⟩
    by_cases hR : cR.1 = .ok
    · rw [if_neg (not_not_intro hR)] at h
      refine ⟨hR, ?_⟩
      cases hex : (toOut cR.2.1).isExact
      · rw [hex, if_neg Bool.false_ne_true] at h
        by_cases hX : cX.1 = .ok
        · rw [if_neg (not_not_intro hX)] at h
          exact Or.inr ⟨rfl, hX, (Option.some.inj h).symm⟩
        · rw [if_pos hX] at h; cases h
      · rw [hex, if_pos rfl] at h
        exact Or.inl ⟨rfl, (Option.some.inj h).symm⟩
    · rw [if_pos hR] at h; cases h

theorem turn_some (dv : DSolverCfg S K) (s : DSt S K) (N : SubP S) (hR : (dv.compR s.store N s.st.bestLb).1 = .ok)
    (hX : (dv.compX (dv.compR s.store N s.st.bestLb).2.2.2.store N
      (s.st.updateBest (toOut (dv.compR s.store N s.st.bestLb).2.1)).bestLb).1 = .ok) : ∃ t, dv.turn s N = some t := by
  unfold DSolverCfg.turn
  dsimp only
  rw [if_neg (not_not_intro hR), if_neg (not_not_intro hX)]
  split
  · exact ⟨_, rfl⟩
  · split <;> exact ⟨_, rfl⟩

/-- the solver-state part of the loop invariant; `open_` = the open sub-problems (the fringe, with the node in hand while it
    is processed) -/
structure SeqOk (P : Problem S) (opt : Int) (Prot : Nat → S → Int → Prop) (open_ : List (SubP S)) (st : SeqSt S) : Prop where
  nodes : ∀ c ∈ open_, C01.NodeOk P c
  lbLo : iMin ≤ st.bestLb
  solLb : st.bestSol = none → st.bestLb = iMin
  noAbort : st.abort = false
  inv : BBInv (OnP Prot) opt (SolOf P) open_ st.bestLb st.bestSol

structure DCInv (dv : DSolverCfg S K) (opt : Int) (Prot : Nat → S → Int → Prop) (s : DSt S K) : Prop
    extends SeqOk dv.sv.P opt Prot s.st.fringe s.st where
  store : StoreReach dv.D dv.sv.P s.store
  storeLen : s.store.layers.length = dv.sv.P.nbVars + 1

theorem SeqOk.pop {P : Problem S} {opt : Int} {Prot : Nat → S → Int → Prop} {st : SeqSt S}
    (h : SeqOk P opt Prot st.fringe st) {N : SubP S} {rest : List (SubP S)} (hpop : st.fringe.Perm (N :: rest)) (fa : Nat) :
    SeqOk P opt Prot (N :: (popped st N rest fa).fringe) (popped st N rest fa) := by
  have e1 : (popped st N rest fa).fringe = rest := C01t.afterPop_fringe _ N
  have e2 : (popped st N rest fa).bestLb = st.bestLb := (C01t.afterPop_lb_sol _ N).1
  have e3 : (popped st N rest fa).bestSol = st.bestSol := (C01t.afterPop_lb_sol _ N).2
  have e4 : (popped st N rest fa).abort = st.abort := afterPop_abort _ N
  rw [e1]
  refine ⟨fun c hc => h.nodes c (hpop.mem_iff.mpr hc), e2 ▸ h.lbLo, by rw [e2, e3]; exact h.solLb, e4 ▸ h.noAbort, ?_⟩
  rw [e2, e3]
  refine ⟨h.inv.lbOk, h.inv.solOk, fun hgt => ?_⟩
  obtain ⟨c, hc, h1, h2⟩ := h.inv.cover hgt
  exact ⟨c, hpop.mem_iff.mp hc, h1, h2⟩

/-- a node whose bound does not exceed the incumbent is not the one the invariant speaks of -/
theorem SeqOk.drop_pruned {P : Problem S} {opt : Int} {Prot : Nat → S → Int → Prop} {open_ : List (SubP S)} {st : SeqSt S}
    {N : SubP S} (h : SeqOk P opt Prot (N :: open_) st) (hub : N.ub ≤ st.bestLb) : SeqOk P opt Prot open_ st := by
  refine ⟨fun c hc => h.nodes c (List.mem_cons_of_mem _ hc), h.lbLo, h.solLb, h.noAbort, h.inv.lbOk, h.inv.solOk, fun hgt => ?_⟩
  obtain ⟨c, hc, h1, h2⟩ := h.inv.cover hgt
  rcases List.mem_cons.mp hc with e | e
  · subst e; exact absurd (Int.le_trans h2 hub) (Int.not_le.mpr hgt)
  · exact ⟨c, e, h1, h2⟩

theorem SeqOk.process {P : Problem S} {opt : Int} {Prot : Nat → S → Int → Prop} (dedup : Bool) {st : SeqSt S} {N : SubP S}
    {r x : DDOut S} (h : SeqOk P opt Prot (N :: st.fringe) st)
    (hcs : ∀ c ∈ x.cutset, C01.NodeOk P c)
    (sR : ∀ w, r.bestExact = some w → ∃ p, r.bestExactSol = some p)
    (sX : ∀ w, x.bestExact = some w → ∃ p, x.bestExactSol = some p)
    (hr : DCompileOk (OnP Prot) opt (SolOf P) N st.bestLb r)
    (hx : DCompileOk (OnP Prot) opt (SolOf P) N (st.updateBest r).bestLb x)
    (hcut : x.isExact = false → DCutsetOk (OnP Prot) opt N (st.updateBest r).bestLb x) :
    SeqOk P opt Prot (st.process dedup N true (.ok r) (.ok x)).1.fringe (st.process dedup N true (.ok r) (.ok x)).1 := by
  have a1 := updateBest_solLb st r sR h.solLb
  have a2 := updateBest_solLb (st.updateBest r) x sX a1
  have l0 := h.lbLo
  have l1 := updateBest_lb_ge st r
  have l2 := updateBest_lb_ge (st.updateBest r) x
  refine ⟨?_, ?_, ?_, ?_, process_dinv (OnP Prot) opt (SolOf P) (onP_mono Prot) dedup st N r x h.inv hr hx hcut⟩
  · refine process_forall (C01.NodeOk P) (nodeOk_ub P) dedup st N true _ _ (fun c hc => h.nodes c (List.mem_cons_of_mem _ hc)) ?_
    intro o ho
    injection ho with ho
    subst ho
    exact hcs
  · rcases process_lb_sol dedup st N true r x with ⟨e, _⟩ | ⟨e, _⟩ | ⟨e, _⟩
    · rw [e]; exact l0
    · rw [e]; exact Int.le_trans l0 l1
    · rw [e]; exact Int.le_trans l0 (Int.le_trans l1 l2)
  · rcases process_lb_sol dedup st N true r x with ⟨e1, e2⟩ | ⟨e1, e2⟩ | ⟨e1, e2⟩
    · rw [e1, e2]; exact h.solLb
    · rw [e1, e2]; exact a1
    · rw [e1, e2]; exact a2
  · rw [process_abort]; exact h.noAbort

section inv
variable {dv : DSolverCfg S K} {H : Nat → S → EInt} {B0 B opt : Int} {Prot : Nat → S → Int → Prop}

theorem cutset_nodeOk (hwf : WellFormed dv.sv H B0 B) {N : SubP S} {p0 : List Dec}
    (hroot : Reach dv.sv.P N.depth N.state N.value p0) (hperm : N.path.Perm p0) (ct : CompType) (lb : Int)
    (store : DomStore S K) (hok : (compile (dv.cfg ct N lb) (Cache.init dv.sv.P.nbVars) store 0 none).1 = .ok) :
    ∀ c ∈ (toOut (compile (dv.cfg ct N lb) (Cache.init dv.sv.P.nbVars) store 0 none).2.1).cutset, C01.NodeOk dv.sv.P c :=
  fun c hc => (cutset_node_facts (dv.cfg ct N lb) B p0 _ store 0 none hwf.nv hroot hperm (hwf.bound.noClamp_at hwf.nv hroot) hok _
    (.inl rfl) c hc).1

/-- **the invariant is preserved by one turn** -/
theorem dstep_inv (hwf : WellFormed dv.sv H B0 B) (hopt : (H 0 dv.sv.P.init).addI dv.sv.P.initVal = some opt)
    (hPr : Protected dv.D dv.sv.P H opt Prot) {s s' : DSt S K}
    (hstep : DStep dv s s') (hI : DCInv dv opt Prot s) : DCInv dv opt Prot s' := by
  cases hstep with
  | pop N rest fa _ hpop hmax hturn =>
    have h0 := hI.toSeqOk.pop hpop fa
    obtain ⟨p0, hroot, hperm⟩ := h0.nodes N List.mem_cons_self
    have hBN : NoClamp dv.sv.P dv.sv.R N.value B := hwf.bound.noClamp_at hwf.nv hroot
    rcases turn_spec dv _ s' N hturn with ⟨hub, rfl⟩ | ⟨hub, hokR, hcase⟩
    · exact ⟨h0.drop_pruned hub, hI.store, hI.storeLen⟩
    · dsimp only at hokR hcase
      have hR := restricted_contract hwf hopt hPr N _ s.store p0 hroot hperm hI.store hI.storeLen h0.lbLo h0.inv.lbOk hokR
      obtain ⟨hstR, hlenR⟩ := compile_storeReach (dv.cfg .restricted N _) dv.D rfl rfl hwf.nv B hBN
        p0 (Cache.init dv.sv.P.nbVars) s.store 0 hroot hI.store hI.storeLen hokR
      have sR : ∀ w, (toOut (dv.compR s.store N (popped s.st N rest fa).bestLb).2.1).bestExact = some w → ∃ p, _ = some p :=
        fun w hw => isSol_some (isSol_restricted (dv.cfg .restricted N _) B p0 _ s.store 0 none rfl hBN hroot hokR w hw)
      have hge1 := updateBest_lb_ge (popped s.st N rest fa) (toOut (dv.compR s.store N (popped s.st N rest fa).bestLb).2.1)
      rcases hcase with ⟨hex, rfl⟩ | ⟨hex, hokX, rfl⟩
      · -- the restricted diagram is exact: the relaxed one is not compiled, the restricted result stands in for it
        exact ⟨h0.process dv.sv.dedup (cutset_nodeOk hwf hroot hperm .restricted _ _ hokR) sR sR hR
          ⟨hR.sound, fun he hOn hgt => hR.exact he hOn (Int.lt_of_le_of_lt hge1 hgt)⟩ (fun hne => by rw [hex] at hne; cases hne), hstR, hlenR⟩
      · have hlb1hi := (updateBest_sound opt (SolOf dv.sv.P) (popped s.st N rest fa) _ h0.inv.lbOk h0.inv.solOk hR.sound).1
        obtain ⟨hX, hcut⟩ := relaxed_contract hwf hopt hPr N _ _ p0 hroot hperm hstR hlenR (Int.le_trans h0.lbLo hge1)
          hlb1hi hokX
        obtain ⟨hstX, hlenX⟩ := compile_storeReach (dv.cfg .relaxed N _) dv.D rfl rfl hwf.nv B hBN
          p0 (Cache.init dv.sv.P.nbVars) _ 0 hroot hstR hlenR hokX
        exact ⟨h0.process dv.sv.dedup (cutset_nodeOk hwf hroot hperm .relaxed _ _ hokX) sR
          (fun w hw => isSol_some ((relaxedOk hwf).sound N _ _ p0 w hroot hlenR hokX hw)) hR hX hcut, hstX, hlenX⟩

end inv
section run
variable {dv : DSolverCfg S K} {H : Nat → S → EInt} {B0 B opt : Int} {Prot : Nat → S → Int → Prop}

theorem drun_inv (hwf : WellFormed dv.sv H B0 B) (hopt : (H 0 dv.sv.P.init).addI dv.sv.P.initVal = some opt)
    (hPr : Protected dv.D dv.sv.P H opt Prot) {s t : DSt S K}
    (h : DRun dv s t) (hI : DCInv dv opt Prot s) : DCInv dv opt Prot t := by
  induction h with
  | refl => exact hI
  | tail _ hstep ih => exact dstep_inv hwf hopt hPr hstep ih

theorem init_dcinv (hwf : WellFormed dv.sv H B0 B) (hopt : (H 0 dv.sv.P.init).addI dv.sv.P.initVal = some opt)
    (hPr : Protected dv.D dv.sv.P H opt Prot) : DCInv dv opt Prot dv.init := by
  have hfr : (SeqSt.init dv.sv.P none dv.sv.dedup).fringe = [⟨dv.sv.P.init, dv.sv.P.initVal, [], iMax, 0⟩] := by
    cases hd : dv.sv.dedup <;> rfl
  have hb := opt_bound hwf.pot hwf.nv hwf.bound hopt
  have hBs := hwf.bound.B_small
  refine ⟨⟨?_, Int.le_refl _, fun _ => rfl, rfl, ?_⟩, storeReach_init _ _ _, ?_⟩
  · intro c hc
    change c ∈ (SeqSt.init dv.sv.P none dv.sv.dedup).fringe at hc
    rw [hfr] at hc
    rcases List.mem_cons.mp hc with e | e
    · subst e; exact ⟨[], Reach.root, List.Perm.refl _⟩
    · cases e
  · show BBInv _ _ _ (SeqSt.init dv.sv.P none dv.sv.dedup).fringe iMin none
    rw [hfr]
    refine ⟨by simp only [iMin]; omega, (fun p hp => by cases hp), fun _ => ?_⟩
    exact ⟨_, List.mem_cons_self, ⟨dv.sv.P.initVal, Int.le_refl _, hPr.root⟩, by simp only [iMax]; omega⟩
  · show (DomStore.init dv.sv.P.nbVars : DomStore S K).layers.length = _
    simp [DomStore.init]

/-- **partial correctness**: a state that satisfies the invariant and has an empty fringe reports the optimum, with a stored
    solution that is a feasible complete path of that value, and `is_exact = true` -/
theorem dcinv_end_correct (hwf : WellFormed dv.sv H B0 B) (hopt : (H 0 dv.sv.P.init).addI dv.sv.P.initVal = some opt)
    {t : DSt S K} (hI : DCInv dv opt Prot t) (hend : t.st.fringe = []) :
    t.st.bestLb = opt ∧ (∃ p, t.st.bestSol = some p ∧ SolOf dv.sv.P p opt) ∧ t.st.completion = (true, some opt) := by
  have hinv := hI.inv
  rw [hend] at hinv
  have h1 := dinv_complete (OnP Prot) opt (SolOf dv.sv.P) _ _ hinv
  have hb := opt_bound hwf.pot hwf.nv hwf.bound hopt
  have hBs := hwf.bound.B_small
  cases hs : t.st.bestSol with
  | none =>
    have := hI.solLb hs
    simp only [iMin] at this
    omega
  | some p =>
    refine ⟨h1, ⟨p, rfl, h1 ▸ hinv.solOk p hs⟩, ?_⟩
    unfold SeqSt.completion
    rw [hI.noAbort, hs, h1]; rfl

/-- under the invariant a turn is a `Step` of `Props/C01t.lean` on the solver state -/
theorem dstep_step (hwf : WellFormed dv.sv H B0 B) {s t : DSt S K} (hI : DCInv dv opt Prot s) (h : DStep dv s t) :
    C01t.Step dv.sv.P.nbVars dv.sv.dedup s.st t.st := by
  cases h with
  | pop N rest fa _ hpop hmax hturn =>
    obtain ⟨p0, hroot, hperm⟩ := hI.nodes N (hpop.mem_iff.mpr List.mem_cons_self)
    have hBN : NoClamp dv.sv.P dv.sv.R N.value B := hwf.bound.noClamp_at hwf.nv hroot
    rcases turn_spec dv _ t N hturn with ⟨hub, rfl⟩ | ⟨hub, hokR, ⟨hex, rfl⟩ | ⟨hex, hokX, rfl⟩⟩
    · -- pruned at pop: `process` returns the popped state whatever the answers
      have : (popped s.st N rest fa) = ((popped s.st N rest fa).process dv.sv.dedup N true (.cutoff : DDRes S) .cutoff).1 := by
        unfold SeqSt.process
        rw [if_pos hub]
      show C01t.Step _ _ s.st (popped s.st N rest fa)
      rw [this]
      exact C01t.Step.pop s.st N rest fa true _ _ hpop (fun o ho => by cases ho)
    · refine C01t.Step.pop s.st N rest fa true _ _ hpop ?_
      intro o ho c hc
      injection ho with ho; subst ho
      dsimp only at hokR
      -- the placeholder is the restricted result, reported exact: its cut-set is empty
      have hlel := restricted_isExact (dv.cfg .restricted N _) _ s.store 0 rfl hokR hex
      have hemp := C08.cutset_empty_of_exact (dv.cfg .restricted N _) B p0 _ s.store 0 none hroot hBN hokR _ (.inl rfl) hlel
      have hc' : c ∈ (compile (dv.cfg .restricted N (popped s.st N rest fa).bestLb) (Cache.init dv.sv.P.nbVars) s.store 0
          none).2.1.cutset := hc
      rw [hemp] at hc'
      cases hc'
    · refine C01t.Step.pop s.st N rest fa true _ _ hpop ?_
      intro o ho c hc
      injection ho with ho; subst ho
      dsimp only at hokX
      have h1 := C08.cutset_progress (dv.cfg .relaxed N _) B p0 _ _ 0 none rfl hroot hBN hokX _ (.inl rfl) c hc
      obtain ⟨q, hq, _⟩ := C08.cutset_exact (dv.cfg .relaxed N _) B p0 _ _ 0 none hroot hBN hokX _ (.inl rfl) c hc
      exact ⟨h1, reach_depth_le hwf.nv hq⟩

/-- **termination**: the step relation, on the states that satisfy the invariant, is well-founded -/
theorem dstep_terminates (hwf : WellFormed dv.sv H B0 B) :
    WellFounded (fun t s : DSt S K => DCInv dv opt Prot s ∧ DStep dv s t) :=
  Subrelation.wf (r := InvImage (fun t s : SeqSt S => C01t.Step dv.sv.P.nbVars dv.sv.dedup s t) DSt.st)
    (fun {_ _} h => dstep_step hwf h.1 h.2) (InvImage.wf _ (C01t.seq_terminates dv.sv.P.nbVars dv.sv.dedup))

/-- **progress**: from a state that satisfies the invariant and still has open sub-problems a turn is possible (no compilation
    crashes, the checker does not panic) -/
theorem dstep_progress (hwf : WellFormed dv.sv H B0 B) {s : DSt S K}
    (hI : DCInv dv opt Prot s) (hne : s.st.fringe ≠ []) (fa : Nat) : ∃ t, DStep dv s t := by
  obtain ⟨N, rest, hp⟩ := popMax_some s.st.fringe hne
  obtain ⟨hpop, hmax⟩ := popMax_spec s.st.fringe N rest hp
  obtain ⟨p0, hroot, hperm⟩ := hI.nodes N (hpop.mem_iff.mpr List.mem_cons_self)
  have hBN : NoClamp dv.sv.P dv.sv.R N.value B := hwf.bound.noClamp_at hwf.nv hroot
  have hokR := (relaxedOk hwf).noCrash .restricted N (popped s.st N rest fa).bestLb s.store p0 hroot hI.storeLen
  have hlenR := (compile_storeReach (dv.cfg .restricted N (popped s.st N rest fa).bestLb) dv.D rfl rfl hwf.nv B hBN
    p0 (Cache.init dv.sv.P.nbVars) s.store 0 hroot hI.store hI.storeLen hokR).2
  have hokX := (relaxedOk hwf).noCrash .relaxed N ((popped s.st N rest fa).updateBest
    (toOut (dv.compR s.store N (popped s.st N rest fa).bestLb).2.1)).bestLb _ p0 hroot hlenR
  obtain ⟨t, ht⟩ := turn_some dv ⟨popped s.st N rest fa, s.store⟩ N hokR hokX
  exact ⟨t, DStep.pop s N rest fa t hpop hmax ht⟩

theorem DRun.head {s t u : DSt S K} (h1 : DStep dv s t) (h2 : DRun dv t u) : DRun dv s u := by
  induction h2 with
  | refl => exact DRun.tail (DRun.refl _) h1
  | tail _ hstep ih => exact DRun.tail ih hstep

theorem solveLoop_drun (dv : DSolverCfg S K) : ∀ (n : Nat) (s : DSt S K), DRun dv s (dv.solveLoop n s) := by
  intro n
  induction n with
  | zero => intro s; exact DRun.refl s
  | succ n ih =>
    intro s
    unfold DSolverCfg.solveLoop
    cases hp : popMax s.st.fringe with
    | none => exact DRun.refl s
    | some Nr =>
      obtain ⟨N, rest⟩ := Nr
      obtain ⟨hpop, hmax⟩ := popMax_spec s.st.fringe N rest hp
      dsimp only
      cases ht : dv.turn ⟨popped s.st N rest (cleanLoop dv.sv.P.nbVars s.st.openByLayer dv.sv.P.nbVars s.st.firstActive), s.store⟩ N with
      | none => exact DRun.refl s
      | some s' => exact DRun.head (DStep.pop s N rest _ s' hpop hmax ht) (ih s')

end run
section headline
variable {dv : DSolverCfg S K} {H : Nat → S → EInt} {B0 B : Int}

/-- **`dominance_solver_optimal`** (C10, sentence 1, sequential solver, closed): for every well-formed model (`C01.WellFormed`, the
    hypotheses of `C01.sequential_solver_correct`), every ranking, width function, cut-set kind, either fringe, and every dominance
    rule that has a protected optimal strategy (`UndomOpt`; implied by `SimAdmissible` + `StaticOrder`: `undomOpt_of_sim`, and
    by `StrictAdmissible`: `undomOpt_of_strict`), the sequential solver with the dominance checker enabled — one checker shared by
    all restricted and relaxed compilations of all sub-problems — terminates, never gets stuck, and ends with `is_exact = true`, the
    optimum, and a stored solution that is a feasible complete path of that value: the value `C01.sequential_solver_correct` says
    the solver returns without the checker. -/
theorem dominance_solver_optimal (dv : DSolverCfg S K) (H : Nat → S → EInt) (B0 B opt : Int)
    (hwf : WellFormed dv.sv H B0 B) (hopt : (H 0 dv.sv.P.init).addI dv.sv.P.initVal = some opt)
    (hU : UndomOpt dv.D dv.sv.P H opt) :
    WellFounded (fun t s : DSt S K => DRun dv dv.init s ∧ DStep dv s t) ∧
    (∀ run : Nat → DSt S K, run 0 = dv.init → ¬ ∀ n, DStep dv (run n) (run (n + 1))) ∧
    ∀ t, DRun dv dv.init t →
      (t.st.fringe ≠ [] → ∃ u, DStep dv t u) ∧
      (t.st.fringe = [] →
        t.st.bestLb = opt ∧ (∃ p, t.st.bestSol = some p ∧ SolOf dv.sv.P p opt) ∧ t.st.completion = (true, some opt)) := by
  obtain ⟨Prot, hPr⟩ := hU
  have hinit := init_dcinv hwf hopt hPr
  have hall : ∀ t, DRun dv dv.init t → DCInv dv opt Prot t := fun t ht => drun_inv hwf hopt hPr ht hinit
  refine ⟨?_, ?_, fun t ht => ⟨fun hne => dstep_progress hwf (hall t ht) hne 0,
    fun hend => dcinv_end_correct hwf hopt (hall t ht) hend⟩⟩
  · exact Subrelation.wf (fun {_ _} h => ⟨hall _ h.1, h.2⟩) (dstep_terminates (opt := opt) (Prot := Prot) hwf)
  · intro run h0 hrun
    exact no_infinite_run_of (dstep_terminates (opt := opt) (Prot := Prot) hwf) (fun hI hs => dstep_inv hwf hopt hPr hs hI)
      And.intro run (h0 ▸ hinit) hrun

/-- the checker on and the checker off return the same thing: whenever a run with the checker and a run without both reach the
    empty fringe, they report the same `Completion` -/
theorem dominance_same_value (dv : DSolverCfg S K) (H : Nat → S → EInt) (B0 B opt : Int)
    (hwf : WellFormed dv.sv H B0 B) (hopt : (H 0 dv.sv.P.init).addI dv.sv.P.initVal = some opt)
    (hU : UndomOpt dv.D dv.sv.P H opt) (t : DSt S K) (ht : DRun dv dv.init t) (hend : t.st.fringe = [])
    (t0 : SeqSt S) (ht0 : CRun dv.sv (SeqSt.init dv.sv.P none dv.sv.dedup) t0) (hend0 : t0.fringe = []) :
    t.st.completion = t0.completion := by
  have h1 := (((dominance_solver_optimal dv H B0 B opt hwf hopt hU).2.2 t ht).2 hend).2.2
  have h2 := ((((sequential_solver_correct dv.sv H B0 B hwf).2.2 t0 ht0).2.2 hend0).1 opt hopt).2.2
  rw [h1, h2]

/-- the fuel-driven loop with the checker enabled computes the optimum -/
theorem solveLoop_dom_correct (dv : DSolverCfg S K) (H : Nat → S → EInt) (B0 B opt : Int)
    (hwf : WellFormed dv.sv H B0 B) (hopt : (H 0 dv.sv.P.init).addI dv.sv.P.initVal = some opt)
    (hU : UndomOpt dv.D dv.sv.P H opt) (n : Nat) (hend : (dv.solveLoop n dv.init).st.fringe = []) :
    (dv.solveLoop n dv.init).st.completion = (true, some opt) :=
  (((dominance_solver_optimal dv H B0 B opt hwf hopt hU).2.2 _ (solveLoop_drun dv n _)).2 hend).2.2

end headline
end Ddo.C10

namespace Ddo.C10
open Ddo Ddo.C01 Ddo.Closed Ddo.Truth
variable {S K : Type} [DecidableEq S] [DecidableEq K]

/-- **strictly admissible rule**: a dominated (exactly reached) state that has a completion is *strictly* worse than the state
    that dominates it -/
def StrictAdmissible (D : DomRule S K) (P : Problem S) (H : Nat → S → EInt) : Prop :=
  ∀ d a va b vb pa pb y, Reach P d a va pa → Reach P d b vb pb → Dominates D a va b vb →
    (H d b).addI vb = some y → ∃ x, (H d a).addI va = some x ∧ y < x

omit [DecidableEq S] [DecidableEq K] in
/-- without ties every optimal strategy is protected: the exactly reached items on optimal solutions form a protected family -/
theorem undomOpt_of_strict (D : DomRule S K) (P : Problem S) (H : Nat → S → EInt) (opt : Int)
    (hP : Potential P H) (hS : StrictAdmissible D P H) (hopt : (H 0 P.init).addI P.initVal = some opt) :
    UndomOpt D P H opt := by
  refine ⟨fun d s v => (∃ p, Reach P d s v p) ∧ (H d s).addI v = some opt, ⟨⟨[], Reach.root⟩, hopt⟩, fun d s v h => h.1,
    fun d s v h => h.2, ?_, ?_⟩
  · rintro d s v L x ⟨⟨p, hr⟩, ho⟩ hnv hs
    obtain ⟨h, hH, e⟩ := EInt.addI_eq_some ho
    obtain ⟨dec, hdec, h', hH', hle⟩ := hP.att d L x s h hnv hs hH
    have hr' := Reach.step d s v p L x dec hr hnv hs hdec
    refine ⟨dec, hdec, ⟨_, hr'⟩, ?_⟩
    have hle' := reach_le_root hP hr'
    rw [hopt, hH'] at hle'
    have : h' + (v + P.cost s (P.trans s ⟨x, dec⟩) ⟨x, dec⟩) ≤ opt := hle'
    rw [hH']
    show some (h' + (v + P.cost s (P.trans s ⟨x, dec⟩) ⟨x, dec⟩)) = some opt
    congr 1; omega
  · rintro d s v a va pa ⟨⟨p, hr⟩, ho⟩ hra hdom
    obtain ⟨x, hx, hlt⟩ := hS d a va s v pa p opt hra hr hdom ho
    have hle := reach_le_root hP hra
    rw [hopt, hx] at hle
    have : x ≤ opt := hle
    omega

end Ddo.C10

namespace Ddo.C10
open Ddo Ddo.C01 Ddo.Closed Ddo.Truth

/-! ## stated, not proved -/

/-- **Stated only** — the relaxed counterpart of `exact_diagram_adm` (value-based admissibility, merges allowed): the relaxed
    diagram bounds the optimum of its root from above **or** an entry of the store it started from carries it.  Expected true
    (the witness node of `Proofs/MddCover.lean` is either inexact — never dropped by `_filter_with_dominance` —, or dropped in
    favour of a kept node of the layer, which becomes the witness, or dropped in favour of an entry of the initial store); not
    needed for the solver-level theorem, which goes through the protected family instead (`relaxed_ub_dom`). -/
def RelaxedUbAdmStmt : Prop :=
  ∀ (S K : Type) [DecidableEq S] [DecidableEq K] (cfg : Cfg S K) (D : DomRule S K) (H : Nat → S → EInt) (o B : Int),
    AdmHyp cfg D H o B → cfg.ctype = .relaxed → 1 ≤ cfg.width → MergeOk cfg.R H → Cover.AttMerge cfg.P cfg.R H →
    ∀ (p0 : List Dec) (cache : Cache S) (store : DomStore S K) (polls : Nat),
      Reach cfg.P cfg.root.depth cfg.root.state cfg.root.value p0 → optOf H cfg.root = some o →
      StoreReach D cfg.P store → store.layers.length = cfg.P.nbVars + 1 →
      (compile cfg cache store polls none).1 = .ok →
      (∃ bv, (compile cfg cache store polls none).2.1.bestValue = some bv ∧ o ≤ bv) ∨ Carried cfg H store o

end Ddo.C10

#print axioms Ddo.C10.filterDom_spec
#print axioms Ddo.C10.query_protected
#print axioms Ddo.C10.filterDom_protected
#print axioms Ddo.C10.compile_storeReach
#print axioms Ddo.C10.exact_diagram_dom
#print axioms Ddo.C10.restricted_exact_dom
#print axioms Ddo.C10.exact_diagram_adm
#print axioms Ddo.C10.relaxed_ub_dom
#print axioms Ddo.C10.relaxed_cutset_dom
#print axioms Ddo.C10.isSol_relaxed_dom
#print axioms Ddo.C10.compile_no_crash_dom
#print axioms Ddo.C10.process_dinv
#print axioms Ddo.C10.dstep_inv
#print axioms Ddo.C10.relaxedOk
#print axioms Ddo.C10.dominance_solver_optimal
#print axioms Ddo.C10.dominance_same_value
#print axioms Ddo.C10.solveLoop_dom_correct
#print axioms Ddo.C10.undomOpt_of_sim
#print axioms Ddo.C10.admissible_of_sim
#print axioms Ddo.C10.undomOpt_of_strict
