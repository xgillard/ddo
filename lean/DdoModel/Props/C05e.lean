import DdoModel.Proofs.ParCacheCutTerm
import DdoModel.Props.C09e
/-! # C05 (parallel solver WITH the threshold cache) — the cut-off

`Ddo.C09e.parallel_caching_solver_correct` closes the parallel solver with `SimpleCache` for every interleaving **without**
cut-off.  Here the cut-off is added to that system (`Proofs/ParCacheCutSys.lean`: `KStepC` = the 21 steps of `KStep` + `abortR`
/ `abortX` (`Err(reason)` from a compilation at any poll, then `abort_search(reason, node.ub)` **with** `shared.cache.clear()`
and `fringe.clear()`) + `gwAborted` (`get_workload` answers `Aborted` after its cleaning loop, before every other test) +
`notifyExit` (the aborting worker `break`s after its `notify_node_finished`)).

## proved, for every `WellFormed` model, `U ≥ 0` workers, every interleaving (single cache reads / writes included), every
## number of cut-offs at every position (`parallel_caching_cutoff_sound`)
* **termination**: the step relation is well-founded on the reachable states, there is no infinite run
  (`Proofs/ParCacheCutTerm.lean`: lexicographic `(flag, stages left once the flag is up, muK)`);
* **never panics, never deadlocks**, before and after an abort: ONE bookkeeping invariant `LayG` (`Proofs/ParCacheLay.lean`) is kept
  by every step of `KStepC` (`kstepC_layG`, `kprunC_layG`) — `abort_search` clears the fringe WITHOUT touching `open_by_layer`, so the
  count of `open_by_layer` is claimed only while the flag is down (then `LayG` is `LayInvK`), and once it is up "nobody is in the pop
  loop", the only place where that counter is decremented (then `LayG` is `LayC`: the `ongoing` half of `LayInvK` + the cache
  shape + that clause; `kprunC_layC`, `no_panicsC`); `kstepC_progress_after` below;
  every run can be completed (`kpC_run_to_end`);
* in every reachable state, before and after any number of aborts (`KInvC`, `Proofs/ParCacheCutInv.lean`):
  `best_lb ≤ opt`, the stored solution is a feasible complete path of value `best_lb` (infeasible problem: nothing stored,
  no value reported), every compilation that ENDS after the abort is still the sound answer of the diagram model (`PCK`);
* `is_exact = true` is reported only if no abort happened, and then the state is a reachable state of the system WITHOUT
  cut-off, to which the whole of `parallel_caching_solver_correct` applies (optimum at `Complete` / at the return of
  `maximize()`, no panic, progress);
* **the cache after an abort**: `cache.clear()` empties it while other workers are compiling and WRITE thresholds afterwards.
  Harmless: no clause of `KInvC` mentions the cache or the fringe (the justification clauses of `KPInv` are dropped for good at
  the first abort — `reach` is all that is kept of them, guarded by the flag), the ghost log only grows, and the only steps
  that take a decision from the cache (`gwDrop` / `gwKeep`) sit behind `gwToPop`, which `gwAborted` pre-empts.

## `opt ≤ best_ub` after an abort is FALSE — finding, `parallel_caching_cutoff_ub_false`
Later aborts (`abort_proof.is_some()` accumulation) and every other step keep or raise the recorded bound
(`KStepC.flag`, `abortSearch_facts`, `krunC_flag_up`), so `opt ≤ best_ub` reduces to the FIRST abort, i.e. to a statement about the
reachable states of the system WITHOUT cut-off: `AbortBoundOk` (`parallel_caching_cutoff_bounds` is the conditional theorem).
**`AbortBoundOk` is false** (`abortBoundOk_false`), and so are both `opt ≤ best_ub` and `best_lb ≤ best_ub`
(`parallel_caching_cutoff_ub_false`): `Proofs/ParCacheCutWitness.lean` evaluates (in the kernel) a run of a well-formed layered model
(a point mutant of `Layered.Hand.T`, optimum 6) with TWO workers in which every compilation reads the newest content of the
cache, to a state where worker 1 holds a node of bound 4 below which its restricted compilation has found the value 6 (not yet
published), worker 0 is compiling a node of bound 3, the fringe is empty and `best_lb = 2`.  Cut-off of worker 0:
`best_ub = max(3, upper_bounds = [3, 4], best_lb = 2) = 4 < 6`; worker 1 then publishes: `best_lb = 6 > best_ub = 4`; the run
is evaluated to the return of `maximize()`: `Completion (false, Some(6))`, `best_lb = 6`, `best_ub = 4`
(`CutWitness.complete_cutoff_run`).

Mechanism.  With the cache, the bound of a sub-problem is computed in a diagram **cut by the cache**: `CompC.ub` only gives
`pot(c) ≤ c.ub ∨ CacheCov …` (what was pruned below `c` is carried elsewhere, strictly deeper), and the invariant keeps even that
only for nodes the cache can still refuse or that were just popped (`KPInv.ub`: `Prunable ∨ Fresh`).  `abort_search` however takes
`upper_bounds[j] = n_j.ub` of every node in a hand **as a valid bound of everything below `n_j`**.  It is not: the worker that
compiles `n_j` can find more below it than `n_j.ub` (here 6 > 4), and the "elsewhere" that justified the cut can have been
closed since by this very worker's thresholds (they are justified by its pending value / pending cut-set).  Two shapes:
 (a) the optimum is an exact value in a worker's hand, not yet published (`pendVal`; the evaluated run);
 (b) the optimum is carried only by a node of a worker's pending cut-set (`c.ub ≥ opt` but `n_j.ub < opt`; since the repair of
     D14 `enqueue_cutset` does not cap `c.ub` by `n_j.ub`, and the enqueue happens after the abort) — no theorem for this shape.
The sequential caching solver is immune (its bound is the popped maximum of the fringe, `C05.RepOk`); the cache-less parallel
solver too (`UbOk` is unconditional there: `sys_cutoff_bounds`).  Reproduced on the Rust code with the schedule imposed
(finding D21); random scheduling does not reach it (the window is between the return of `compile` and `maybe_update_best`
of one thread, during which another thread must call `abort_search`).
A repair has to make the recorded bound cover what is found or enqueued after the abort (e.g. `best_ub = max(best_ub, best_lb)`
in `maybe_update_best` and `best_ub = max(best_ub, node.ub)` in `enqueue_cutset` once `abort_proof` is set); the code is not repaired. -/
set_option linter.unusedSectionVars false
set_option linter.unusedVariables false
namespace Ddo.ParCache
open Ddo Ddo.C09 Ddo.ParSys Ddo.Closed Ddo.ParClosed
open Ddo.C01 (SolverCfg WellFormed toOut SolOf)
variable {S : Type} [DecidableEq S]

/-- **no deadlock after an abort**: in a state with the flag up that satisfies `LayC`, as long as some worker has not left its loop
    some step other than `crash` is enabled, and the state it leads to satisfies `LayC` again.  The mutex is free: a worker that is
    neither gone nor parked exists (a parked worker implies a node in a hand, `HandK.parked` — the aborting worker itself still has
    its `notify_node_finished`, which wakes everybody, ahead) and can perform its next section (compilations answer:
    `C09e.comp_answers`; cache writes are in range; `notify_node_finished` does not underflow).  Or a worker is inside
    `get_workload`: it is in the cleaning loop (`noPop`), which either clears one more layer or is over — and then `gwAborted` is
    enabled. -/
theorem kstepC_progress_after {sv : SolverCfg S} {H : Nat → S → EInt} {B0 B : Int} (hwf : WellFormed sv H B0 B)
    {t : KSysC S} (hL : LayC sv.P.nbVars t.k) (hD : DepthOk sv.P.nbVars t.k) (ha : t.k.crit.base.abort = true)
    (hlive : ¬ AllDone t.k) : ∃ u, KPStepC sv t u ∧ LayC sv.P.nbVars u.k := by
  obtain ⟨s, e⟩ := t
  have hL : LayC sv.P.nbVars s := hL
  have hD : DepthOk sv.P.nbVars s := hD
  have ha : s.crit.base.abort = true := ha
  have hlive : ¬ AllDone s := hlive
  have hstep : ∃ u, KPStepC sv ⟨s, e⟩ u := by
    by_cases hlk : s.ws.countP KW.inGw = 0
    · have hl : LockFree s := (lockFree_iff _).mp hlk
      obtain ⟨w, hmem, h1, h2⟩ := exists_active hL.hand hlive
      obtain ⟨j, hw⟩ := List.mem_iff_getElem?.mp hmem
      obtain ⟨hR, hX⟩ := C09e.comp_answers hwf
      obtain ⟨u, hu⟩ := free_moves (dedup := sv.dedup) hL.hand hL.lg hD hR hX hl hw h1 h2
      have hu : KPStep sv s u := hu.mono
        (fun i n lb k0 cv o ups hw _ hok => hok (hD.held _ (List.mem_of_getElem? hw) n (.inl rfl)))
        (fun i n lb k0 cv o ups hw _ hok => hok (hD.held _ (List.mem_of_getElem? hw) n (.inl rfl)))
      rcases hu.toC_or (.inr hl) e with h | ⟨i, hi, n, c', hw, hl, hn⟩
      · exact ⟨_, h⟩
      · exact ⟨_, .notifyExit s e i n c' hw hl hi hn⟩
    · obtain ⟨w, hmem, hin⟩ := List.countP_pos_iff.mp (Nat.pos_of_ne_zero hlk)
      obtain ⟨j, hw⟩ := List.mem_iff_getElem?.mp hmem
      obtain rfl := gwC_of_inGw hin (hL.noPop _ hmem)
      by_cases hc : cleanCond sv.P.nbVars s.crit
      · obtain ⟨c', h⟩ := Cache.clearLayer_isSome s.cache s.crit.base.firstActive
          (by rw [hL.lg.cacheLen]; exact Nat.lt_succ_of_lt hc.1)
        exact ⟨_, .gwClear s e j c' hw hc h⟩
      · exact ⟨_, .gwAborted s e j hw hc ha⟩
  obtain ⟨u, hu⟩ := hstep
  exact ⟨u, hu, kstepC_layC hu hL hD ha⟩

end Ddo.ParCache

namespace Ddo.C05e
open Ddo Ddo.Truth Ddo.Closed Ddo.ParSys Ddo.ParClosed Ddo.ParCache Ddo.C09
open Ddo.C01 (SolverCfg WellFormed toOut SolOf)
variable {S : Type} [DecidableEq S]

theorem kprunC_inv {sv : SolverCfg S} {H : Nat → S → EInt} {B0 B : Int} (hwf : WellFormed sv H B0 B) (U : Nat) {t : KSysC S}
    (ht : KPRunC sv (KSysC.init sv.P sv.dedup U) t) : KInvC sv H B U t := by
  induction ht with
  | refl => exact init_kinvC hwf U
  | tail _ hst ih => exact kpstepC_kinvC hwf hst ih

/-- **termination**: the step relation of the parallel caching solver with cut-off, on the reachable states, is well-founded -/
theorem kpC_terminates {sv : SolverCfg S} {H : Nat → S → EInt} {B0 B : Int} (hwf : WellFormed sv H B0 B) (U : Nat) :
    WellFounded (fun t s : KSysC S => KPRunC sv (KSysC.init sv.P sv.dedup U) s ∧ KPStepC sv s t) :=
  Subrelation.wf
    (fun {_ _} h => ⟨h.2, C09e.pck_progOkK hwf (kprunC_inv hwf U h.1).pck, (kprunC_inv hwf U h.1).exitsUp⟩)
    (ksysC_terminates' sv.P.nbVars sv.dedup (okRk sv) (okXk sv))

/-- … there is no infinite run (any interleaving, any number of cut-offs at any position) -/
theorem kpC_no_infinite_run {sv : SolverCfg S} {H : Nat → S → EInt} {B0 B : Int} (hwf : WellFormed sv H B0 B) (U : Nat)
    (run : Nat → KSysC S) (h0 : run 0 = KSysC.init sv.P sv.dedup U) : ¬ ∀ k, KPStepC sv (run k) (run (k + 1)) :=
  no_infinite_run_of (kpC_terminates hwf U) KRunC.tail And.intro run (h0 ▸ KRunC.refl _)

theorem kprunC_layG {sv : SolverCfg S} {H : Nat → S → EInt} {B0 B : Int} (hwf : WellFormed sv H B0 B) (U : Nat) {t : KSysC S}
    (ht : KPRunC sv (KSysC.init sv.P sv.dedup U) t) : LayG sv.P.nbVars t.k := by
  induction ht with
  | refl => exact layG_of_lay (init_layInvK sv.P sv.dedup U)
  | tail hr hst ih => exact kstepC_layG hst ih (pck_depthOk hwf (kprunC_inv hwf U hr).pck)

/-- **the bookkeeping after an abort**: `LayC` holds in every reachable state in which the flag is up -/
theorem kprunC_layC {sv : SolverCfg S} {H : Nat → S → EInt} {B0 B : Int} (hwf : WellFormed sv H B0 B) (U : Nat) {t : KSysC S}
    (ht : KPRunC sv (KSysC.init sv.P sv.dedup U) t) : t.k.crit.base.abort = true → LayC sv.P.nbVars t.k :=
  (kprunC_layG hwf U ht).layC

/-- **never panics**: in every reachable state nobody has panicked and the next operation of no worker panics -/
theorem kpC_noPanic {sv : SolverCfg S} {H : Nat → S → EInt} {B0 B : Int} (hwf : WellFormed sv H B0 B) (U : Nat) {t : KSysC S}
    (ht : KPRunC sv (KSysC.init sv.P sv.dedup U) t) :
    NoPanic t.k ∧ ∀ (i : Nat) (w : KW S), t.k.ws[i]? = some w → ¬ Panics sv.P.nbVars t.k i w :=
  have hL := kprunC_layG hwf U ht
  ⟨⟨hL.hand.noCrash, hL.noPanic⟩, fun _ _ hw => no_panicsG hL (pck_depthOk hwf (kprunC_inv hwf U ht).pck) hw⟩

/-- **never deadlocks** (no lost wake-up, no panic ahead): in every reachable state in which some worker has not left its
    loop, some step that is not a panic is enabled -/
theorem kpC_progress {sv : SolverCfg S} {H : Nat → S → EInt} {B0 B : Int} (hwf : WellFormed sv H B0 B) (U : Nat) {t : KSysC S}
    (ht : KPRunC sv (KSysC.init sv.P sv.dedup U) t) (hlive : ¬ AllDone t.k) : ∃ u, KPStepC sv t u ∧ NoPanic u.k := by
  have hI := kprunC_inv hwf U ht
  have hD := pck_depthOk hwf hI.pck
  cases hab : t.k.crit.base.abort with
  | true =>
    obtain ⟨u, hu, hLu⟩ := kstepC_progress_after hwf (kprunC_layC hwf U ht hab) hD hab hlive
    exact ⟨u, hu, layC_noPanic hLu⟩
  | false =>
    obtain ⟨u0, hu0, hn⟩ := C09e.kp_progress hwf U (hI.reach hab) hlive
    obtain ⟨s, e⟩ := t
    refine ⟨⟨u0, e⟩, KStep.toC hu0 hab e (fun i hi => ?_), hn⟩
    have := hI.exitsUp i hi
    rw [hab] at this; cases this

/-- every run can be continued until every worker has left (termination + progress) -/
theorem kpC_run_to_end {sv : SolverCfg S} {H : Nat → S → EInt} {B0 B : Int} (hwf : WellFormed sv H B0 B) (U : Nat)
    {s : KSysC S} (hs : KPRunC sv (KSysC.init sv.P sv.dedup U) s) :
    ∃ t, KPRunC sv (KSysC.init sv.P sv.dedup U) t ∧ KPRunC sv s t ∧ AllDone t.k :=
  run_to_end_of (Done := fun t : KSysC S => ParCache.AllDone t.k) KRunC.refl KRunC.tail (fun hu h2 => (KRunC.tail (KRunC.refl _) hu).trans h2)
    (kpC_terminates hwf U) (fun _ hs hd => (kpC_progress hwf U hs hd).imp fun _ h => h.1) hs

theorem krunC_flag_up {nbVars : Nat} {dedup : Bool} {okR okX : SubP S → Int → Cache S → DDOut S → List (Up S) → Prop}
    {s t : KSysC S} (h : KRunC nbVars dedup okR okX s t) (ha : s.k.crit.base.abort = true) :
    t.k.crit.base.abort = true ∧ s.k.crit.base.bestUb ≤ t.k.crit.base.bestUb := by
  induction h with
  | refl => exact ⟨ha, Int.le_refl _⟩
  | @tail t u _ hst ih =>
    obtain ⟨h1, h2⟩ := ih
    rcases hst.flag with ⟨f1, f2⟩ | ⟨i, n, top, _, _, _, e⟩
    · exact ⟨by rw [f1]; exact h1, by rw [f2 h1]; exact h2⟩
    · rw [e]
      have := (abortSearch_facts t.k.crit n.ub top).2.2.2.2.2 h1
      exact ⟨rfl, by show s.k.crit.base.bestUb ≤ (t.k.crit.abortSearch n.ub top).base.bestUb; omega⟩

theorem kprun_toC {sv : SolverCfg S} {H : Nat → S → EInt} {B0 B : Int} (hwf : WellFormed sv H B0 B) (U : Nat) {s : KSys S}
    (hs : KPRun sv (KSys.init sv.P sv.dedup U) s) : KPRunC sv (KSysC.init sv.P sv.dedup U) ⟨s, []⟩ := by
  induction hs with
  | refl => exact KRunC.refl _
  | tail hr hst ih =>
    exact KRunC.tail ih (KStep.toC hst (kprun_inv hwf U hr).lay.opn.noAbort [] (fun i hi => by cases hi))

/-- **`parallel_caching_cutoff_sound`** — the unconditional part of C05 for the parallel solver with the cache: for every
    well-formed model, every number of workers, every interleaving of the critical sections, of the steps inside
    `get_workload` and of the single cache reads / writes, and **cut-offs at any polls of any compilations**:

    * the system terminates (well-founded step relation on the reachable states; no infinite run);
    * in every reachable state `t` (`t.k` the solver, `t.exits` the workers that ran `abort_search`):
      - `KInvC` holds;
      - nothing has panicked, the next operation of no worker panics (`Panics`: every index in range, no `usize` underflow —
        also for the `open_by_layer[depth] += …` of an `enqueue_cutset` that runs after the abort and for the threshold
        writes into the cleared cache), and — no deadlock, no lost wake-up — some step that is not a panic is enabled unless
        every worker has left; after an abort the bookkeeping invariant `LayC` holds;
      - feasible problem, optimum `opt`: `best_lb ≤ opt` and the stored solution is a feasible complete path of value `best_lb`;
      - infeasible problem: nothing is stored, no value is reported;
      - `is_exact` (first component of `completion`) is `true` **iff** no abort happened; in that case `t.k` is a reachable
        state of the system WITHOUT cut-off — `parallel_caching_solver_correct` applies — and when `maximize()` returns
        (`AllDone`) the report is `(true, Some(opt))` with a feasible solution of value `opt` (`U ≥ 1`). -/
theorem parallel_caching_cutoff_sound (sv : SolverCfg S) (H : Nat → S → EInt) (B0 B : Int) (hwf : WellFormed sv H B0 B)
    (U : Nat) :
    WellFounded (fun t s : KSysC S => KPRunC sv (KSysC.init sv.P sv.dedup U) s ∧ KPStepC sv s t) ∧
    (∀ run : Nat → KSysC S, run 0 = KSysC.init sv.P sv.dedup U → ¬ ∀ k, KPStepC sv (run k) (run (k + 1))) ∧
    ∀ t, KPRunC sv (KSysC.init sv.P sv.dedup U) t →
      KInvC sv H B U t ∧
      (NoPanic t.k ∧ (∀ (i : Nat) (w : KW S), t.k.ws[i]? = some w → ¬ Panics sv.P.nbVars t.k i w) ∧
        (¬ AllDone t.k → ∃ u, KPStepC sv t u ∧ NoPanic u.k)) ∧
      (t.k.crit.base.abort = true → LayC sv.P.nbVars t.k) ∧
      (∀ opt, (H 0 sv.P.init).addI sv.P.initVal = some opt →
        t.k.crit.base.bestLb ≤ opt ∧ (∀ p, t.k.crit.base.bestSol = some p → SolOf sv.P p t.k.crit.base.bestLb)) ∧
      ((H 0 sv.P.init).addI sv.P.initVal = none → t.k.crit.base.bestSol = none ∧ t.k.crit.base.completion.2 = none) ∧
      (t.k.crit.base.completion.1 = true ↔ t.k.crit.base.abort = false) ∧
      (t.k.crit.base.abort = false → KPRun sv (KSys.init sv.P sv.dedup U) t.k) ∧
      (t.k.crit.base.completion.1 = true → 1 ≤ U → AllDone t.k →
        ∀ opt, (H 0 sv.P.init).addI sv.P.initVal = some opt →
          t.k.crit.base.completion = (true, some opt) ∧ t.k.crit.base.bestLb = opt ∧
          ∃ p, t.k.crit.base.bestSol = some p ∧ SolOf sv.P p opt) := by
  refine ⟨kpC_terminates hwf U, kpC_no_infinite_run hwf U, fun t ht => ?_⟩
  have hI := kprunC_inv hwf U ht
  have hex : t.k.crit.base.completion.1 = true ↔ t.k.crit.base.abort = false := by
    show (!t.k.crit.base.abort) = true ↔ _
    cases t.k.crit.base.abort <;> simp
  refine ⟨hI, ⟨(kpC_noPanic hwf U ht).1, (kpC_noPanic hwf U ht).2, kpC_progress hwf U ht⟩, kprunC_layC hwf U ht,
    fun opt hopt => ⟨(hI.snd opt hopt).lbOk, (hI.snd opt hopt).solOk⟩, fun hinf => ?_, hex, hI.reach, ?_⟩
  · have h2 := (hI.pck.base.infeas hinf).2
    refine ⟨h2, ?_⟩
    show t.k.crit.base.bestSol.map (fun _ => t.k.crit.base.bestLb) = none
    rw [h2]; rfl
  · intro hc hU hd opt hopt
    obtain ⟨h1, h2, h3⟩ := C09e.kp_final hwf hopt U hU (hI.reach (hex.mp hc)) hd
    exact ⟨h3, h1, h2⟩

/-! ## the content of the cache after an abort is irrelevant

`abortK` models `shared.cache.clear()` as ONE atomic step.  In the code it is a loop of per-layer `DashMap::clear()`s executed
under the mutex, with which the lock-free threshold writes of the other workers interleave (an entry written into a layer
already cleared survives, one written into a layer not yet cleared does not).  No clause proved here can tell the difference:
once the flag is up, the invariants `KInvC` and `LayC` survive the replacement of the shared cache by ANY cache of the same
shape (and the termination measure does not mention the cache). -/

theorem cache_content_irrelevant {sv : SolverCfg S} {H : Nat → S → EInt} {B : Int} {U : Nat} {s : KSys S} {e : List Nat}
    (ha : s.crit.base.abort = true) (c' : Cache S) (hc : c'.layers.length = sv.P.nbVars + 1)
    (hI : KInvC sv H B U ⟨s, e⟩) (hL : LayC sv.P.nbVars s) :
    KInvC sv H B U ⟨{ s with cache := c', log := c' :: s.log }, e⟩ ∧
    LayC sv.P.nbVars { s with cache := c', log := c' :: s.log } :=
  ⟨⟨⟨hI.pck.base, hI.pck.ws⟩, (fun h => by have h : s.crit.base.abort = false := h; rw [ha] at h; cases h),
      (fun opt hopt => ⟨(hI.snd opt hopt).lbOk, (hI.snd opt hopt).solOk, (hI.snd opt hopt).ws⟩), hI.lbUb0, hI.exitsUp⟩,
    ⟨hL.hand, logK_push hL.lg hc, hL.openLen, hL.noPanic, hL.noPop⟩⟩

/-- **what `opt ≤ best_ub` after an abort reduces to** — a statement about the reachable states of the system WITHOUT cut-off
    (`KPRun`, the system of `parallel_caching_solver_correct`): whenever a worker is compiling `n` and nobody is inside
    `get_workload`, the bound `abort_search(_, n.ub)` would record — `max` of `n.ub`, of `upper_bounds`, of the best bound of
    the fringe and of `best_lb` — is at least the optimum.  **False**: `abortBoundOk_false`. -/
def AbortBoundOk (sv : SolverCfg S) (H : Nat → S → EInt) (U : Nat) : Prop :=
  ∀ s, KPRun sv (KSys.init sv.P sv.dedup U) s → ∀ opt, (H 0 sv.P.init).addI sv.P.initVal = some opt →
    ∀ (i : Nat) (n : SubP S) (top : Option Int),
      (∃ lb k0, s.ws[i]? = some (.compR n lb k0) ∨ s.ws[i]? = some (.compX n lb k0)) → LockFree s →
      AbortTop s.crit.base.fringe top → opt ≤ (s.crit.abortSearch n.ub top).base.bestUb

/-- given `AbortBoundOk`, the recorded bound covers the optimum in every reachable state after an abort: later
    aborts accumulate (`abort_proof.is_some()`), no other step touches `best_ub` once the flag is up -/
theorem kprunC_ub {sv : SolverCfg S} {H : Nat → S → EInt} {B0 B : Int} (hwf : WellFormed sv H B0 B) (U : Nat)
    (hAB : AbortBoundOk sv H U) {t : KSysC S} (ht : KPRunC sv (KSysC.init sv.P sv.dedup U) t) :
    t.k.crit.base.abort = true → ∀ opt, (H 0 sv.P.init).addI sv.P.initVal = some opt → opt ≤ t.k.crit.base.bestUb := by
  induction ht with
  | refl => intro ha; cases ha
  | @tail s t hr hst ih =>
    have hI := kprunC_inv hwf U hr
    intro ha opt hopt
    rcases hst.flag with ⟨h1, h2⟩ | ⟨i, n, top, hw, hl, htop, e⟩
    · have ha' : s.k.crit.base.abort = true := by rw [← h1]; exact ha
      rw [h2 ha']; exact ih ha' opt hopt
    · rw [e]
      show opt ≤ (s.k.crit.abortSearch n.ub top).base.bestUb
      cases hab : s.k.crit.base.abort with
      | false => exact hAB _ (hI.reach hab) opt hopt i n top hw hl htop
      | true =>
        have h3 := (abortSearch_facts s.k.crit n.ub top).2.2.2.2.2 hab
        have h4 := ih hab opt hopt
        omega

/-- **`parallel_caching_cutoff_bounds`** (conditional on `AbortBoundOk`): at every reachable state with `abort = true` — in
    particular when `maximize()` returns after a cut-off — `best_lb ≤ best_ub`, and for a feasible problem
    `best_lb ≤ opt ≤ best_ub` with a feasible stored solution of value `best_lb`; `is_exact = false` is reported -/
theorem parallel_caching_cutoff_bounds (sv : SolverCfg S) (H : Nat → S → EInt) (B0 B : Int) (hwf : WellFormed sv H B0 B)
    (U : Nat) (hAB : AbortBoundOk sv H U) :
    ∀ t, KPRunC sv (KSysC.init sv.P sv.dedup U) t → t.k.crit.base.abort = true →
      t.k.crit.base.bestLb ≤ t.k.crit.base.bestUb ∧ t.k.crit.base.completion.1 = false ∧
      ∀ opt, (H 0 sv.P.init).addI sv.P.initVal = some opt →
        t.k.crit.base.bestLb ≤ opt ∧ opt ≤ t.k.crit.base.bestUb ∧
        ∀ p, t.k.crit.base.bestSol = some p → SolOf sv.P p t.k.crit.base.bestLb := by
  intro t ht ha
  have hI := kprunC_inv hwf U ht
  have hub := kprunC_ub hwf U hAB ht ha
  refine ⟨?_, by show (!t.k.crit.base.abort) = false; rw [ha]; rfl, fun opt hopt =>
    ⟨(hI.snd opt hopt).lbOk, hub opt hopt, (hI.snd opt hopt).solOk⟩⟩
  cases hf : (H 0 sv.P.init).addI sv.P.initVal with
  | none => exact hI.lbUb0 ha hf
  | some opt =>
    have h1 := (hI.snd opt hf).lbOk
    have h2 := hub opt hf
    omega

end Ddo.C05e
#print axioms Ddo.ParCache.KStepC.toBase
#print axioms Ddo.ParCache.KStepC.flag
#print axioms Ddo.ParCache.kpstep_snd
#print axioms Ddo.ParCache.kpstepC_kinvC
#print axioms Ddo.ParCache.ksysC_terminates'
#print axioms Ddo.C05e.kprunC_inv
#print axioms Ddo.C05e.kpC_terminates
#print axioms Ddo.C05e.kpC_no_infinite_run
#print axioms Ddo.C05e.parallel_caching_cutoff_sound
#print axioms Ddo.C05e.kprunC_layC
#print axioms Ddo.C05e.kpC_noPanic
#print axioms Ddo.ParCache.kstepC_progress_after
#print axioms Ddo.C05e.kpC_progress
#print axioms Ddo.C05e.kpC_run_to_end
#print axioms Ddo.C05e.krunC_flag_up
#print axioms Ddo.C05e.kprun_toC
#print axioms Ddo.C05e.cache_content_irrelevant
#print axioms Ddo.C05e.kprunC_ub
#print axioms Ddo.C05e.parallel_caching_cutoff_bounds
