import DdoModel.Props.C09d
import DdoModel.Proofs.AnyOrderLayered
/-! The instances of `Props/C09d.lean`: `Layered.Counter` without the cap (the repaired solver returns the optimum on the schedule that broke the
pre-fix one), and `Layered.Rise` (without the cap the bounds of the popped nodes can increase, the reported bound does not). -/
set_option linter.unusedSectionVars false
set_option linter.unusedVariables false

/-! `Layered.Counter` without the cap (the repaired solver): the model, the breadth-first order (shallowest open sub-problem
first, then the larger state) and the names `R, A, P, N, k2, c'` are those of `Proofs/AnyOrderLayered.lean`.  Seven turns (plain
fringe, last-exact-layer cut-set; `(state, value, ub, depth)`; schedule `Counter.schedNC`, states `Counter.afterNC j`):

```
turns 1–3  as in the capped run: N is handed out with ub(N) = 4 < 10 = pot(N) (its image was cut at a child of a merged node
        by the threshold that k2 carries).            fringe [N = (0,0,4,2), k2 = (2,0,13,4)], incumbent 3
turn 4  pop N (not best-first).  Restricted finds 4.  Cut-set = {c' = (2, value 0, depth 5), (0, 0, 5)} with the bounds of N's
        own diagram, 10 and 12 — **not capped to ub(N) = 4, hence enqueued**; thresholds (2, depth 5) ↦ (0, explored = false),
        (0, depth 5) ↦ (0, false) as before.         fringe [(0,0,12,5), c' = (2,0,10,5), k2], incumbent 4
turn 5  pop k2: its child (2, value 0, depth 5) is pruned by the threshold recorded at turn 4 — rightly so, c' is open and
        carries the potential 10.                     fringe [(0,0,12,5), c'], incumbent 4
turn 6  pop c': `must_explore` accepts it (value 0 = threshold 0, explored = false); finds 10.   fringe [(0,0,12,5)], incumbent 10
turn 7  pop (0,0,12,5): finds nothing better.         fringe [], incumbent 10 = optimum
``` -/
namespace Ddo.C09.Layered.Counter
open Ddo Ddo.C01 Ddo.Closed

theorem nocap_bfs_value : ∀ dedup ∈ [false, true], ∀ kind ∈ [CutsetKind.lel, CutsetKind.frontier],
    ((sv dedup kind).ksolveSched (schedNC dedup kind) (KSt.init (sv dedup kind))).st.fringe.length = 0 ∧
    ((sv dedup kind).ksolveSched (schedNC dedup kind) (KSt.init (sv dedup kind))).st.completion = (true, some 10) ∧
    ((sv dedup kind).ksolveSched (schedNC dedup kind) (KSt.init (sv dedup kind))).st.explored = 7 ∧
    ((sv dedup kind).ksolveSched (schedNC dedup kind) (KSt.init (sv dedup kind))).st.crashed = false :=
  fun d hd k hk => outcome_eq (breadthfirst_runs.2.1 d hd k hk)

theorem nocap_stage_N : view (afterNC 3) = ([(0, 0, 4, 2), (2, 0, 13, 4)], 3) ∧ view (after 3) = view (afterNC 3) ∧
    cacheAt (afterNC 3) 4 = [(2, 0, false)] :=
  have h := breadthfirst_runs.2.2.1
  ⟨h.1, stage_N.1.trans h.1.symm, h.2⟩

theorem nocap_stage_cprime : view (afterNC 4) = ([(0, 0, 12, 5), (2, 0, 10, 5), (2, 0, 13, 4)], 4) ∧
    cacheAt (afterNC 4) 5 = [(2, 0, false), (0, 0, false)] ∧
    view (after 4) = ([(2, 0, 13, 4)], 4) :=
  have h := breadthfirst_runs.2.2.2.1
  ⟨h.1, h.2, stage_cprime.1⟩

theorem nocap_stage_k2 : view (afterNC 5) = ([(0, 0, 12, 5), (2, 0, 10, 5)], 4) ∧
    (afterNC 5).cache.mustExplore 2 5 0 = some true := breadthfirst_runs.2.2.2.2.1

theorem nocap_stage_end : view (afterNC 6) = ([(0, 0, 12, 5)], 10) ∧ view (afterNC 7) = ([], 10) := breadthfirst_runs.2.2.2.2.2

theorem nocap_any_order (dedup : Bool) (kind : CutsetKind) (t : KSt Int)
    (ht : KRunAny (sv dedup kind) (KSt.init (sv dedup kind)) t) :
    (t.st.fringe = [] → t.st.completion = (true, some 10)) ∧
    (∀ N rest, t.st.fringe.Perm (N :: rest) → ∃ u, (sv dedup kind).kturn t N rest = some u) ∧
    t.st.crashed = false := by
  have h := (caching_solver_correct (sv dedup kind) (H T) 10 80 (wellFormed dedup kind)).2.2 t ht
  refine ⟨fun hend => ((h.2.2.2 hend).1 10 opt10).2.2, fun N rest hp => ?_, h.2.1⟩
  obtain ⟨u, _, hu⟩ := h.1 N rest hp
  exact ⟨u, hu⟩

/-- the value computed by the scheduled loop is the one the theorem predicts -/
example : ((sv false .lel).ksolveSched (schedNC false .lel) (KSt.init (sv false .lel))).st.completion = (true, some 10) :=
  (nocap_any_order false .lel _ (ksolveSched_run _ _ _)).1
    (List.eq_nil_of_length_eq_zero (nocap_bfs_value false (by simp) .lel (by simp)).1)

theorem cap_vs_nocap :
    ((sv false .lel).ksolveSchedCapped (sched false .lel) (KSt.init (sv false .lel))).st.completion = (true, some 4) ∧
    ((sv false .lel).ksolveSched (schedNC false .lel) (KSt.init (sv false .lel))).st.completion = (true, some 10) :=
  ⟨anyorder_counter.2.2.2, (nocap_bfs_value false (by simp) .lel (by simp)).2.1⟩

end Ddo.C09.Layered.Counter

/-! Without the cap the bounds of the popped nodes can increase, even best-first; the reported bound does not (running minimum).

`Rise`: 4 binary variables, 2 states, merge = largest state, constant rough upper bound 5, width 1, static order.
Tables (`state: (next, cost) for decision 0 | (next, cost) for decision 1`):

```
x0:  0: (0,0)|(1,0)   1*: (0,0)|(1,0)
x1:  0: (0,0)|(1,0)   1: (0,3)|(1,0)
x2:  0: (0,0)|(0,1)   1: (1,0)|(1,0)
x3:  0: (0,0)|(0,0)   1: (0,1)|(0,2)
```

Value-to-go: depth 3: `0, 2`; depth 2: `1, 2`; depth 1: `2, 4`; depth 0: `4`.  Optimum 4 (`x0 = 1, x1 = 0` earns 3, then `x2 = 1`
earns 1).  The fringe never holds more than one node, so *every* pop order is best-first.

```
turn 1  pop the root.  Restricted: 4.  Relaxed (width 1): depth 1 = {0, 1} is kept (the first layer is never squashed);
        depth 2 = {(0, value 3), (1, value 0)} is merged into (1, value 3); then (1, 3), terminal 3 + 2 = 5.  Cut-set = depth 1;
        local bounds: (state 1, value 0) ↦ 5, (state 0, value 0) ↦ 2 (not enqueued: 2 ≤ incumbent 4).
        fringe [(1, 0, 5, 1)], incumbent 4, reported best_ub = +∞
turn 2  pop (1, 0, 5, 1): reported best_ub = min(+∞, 5) = 5.  Relaxed: depth 2 = {(0, 3), (1, 0)} is kept (first layer); depth 3 = {(0, value 4), (1, value 0)}
        is merged into (1, value 4): the merge happens one layer later than in the root's diagram, after `x2 = 1` has earned 1
        from state 0; terminal 4 + 2 = 6.  Cut-set = depth 2: (state 0, value 3) ↦ local bound **6** (rough bound 3 + 5 = 8).
        With the cap it is enqueued with min(5, 6) = 5; without the cap with 6.
        fringe [(0, 3, 6, 2)], incumbent 4
turn 3  pop (0, 3, 6, 2): **popped bound 6 > 5**; reported best_ub = min(5, 6) = 5.  Exact, nothing better than 4.
        fringe [], incumbent 4 = optimum
```

No threshold of the cache plays any role here: the relaxation of the child is simply worse than what the parent's diagram saw
of the same paths. -/
namespace Ddo.C09.Layered.Rise
open Ddo Ddo.C01 Ddo.Closed

def T : Tab :=
  { n := 4, m := 2,
    trl := [0,1, 0,1,   0,1, 0,1,   0,0, 1,1,   0,0, 0,0],
    cl :=  [0,0, 0,0,   0,0, 3,0,   0,1, 0,0,   0,0, 1,2],
    rub := 5 }

/-- `FixedWidth(1)` -/
def ws : List Nat := List.replicate 10 1

def sv (dedup : Bool) (kind : CutsetKind) : SolverCfg Int := Layered.sv T ws dedup kind

theorem ok : tableOk T 3 15 4 = true := by decide +kernel

theorem checked : check T 3 = true := checked_of_ok ok

theorem wellFormed (dedup : Bool) (kind : CutsetKind) : WellFormed (sv dedup kind) (H T) 3 15 :=
  wellFormed_of_ok ok ws dedup kind

theorem opt4 : (H T 0 (prob T).init).addI (prob T).initVal = some 4 := opt_of_ok ok

def poppedTrace (sv : SolverCfg Int) : Nat → KSt Int → List Int
  | 0, _ => []
  | n + 1, s =>
    match popMax s.st.fringe with
    | none => []
    | some (N, rest) =>
      match sv.kturn s N rest with
      | none => []
      | some t => N.ub :: poppedTrace sv n t

def ubTrace (sv : SolverCfg Int) : Nat → KSt Int → List Int
  | 0, _ => []
  | n + 1, s =>
    match popMax s.st.fringe with
    | none => []
    | some (N, rest) =>
      match sv.kturn s N rest with
      | none => []
      | some t => t.st.bestUb :: ubTrace sv n t

def ubTraceCapped (sv : SolverCfg Int) : Nat → KSt Int → List Int
  | 0, _ => []
  | n + 1, s =>
    match popMax s.st.fringe with
    | none => []
    | some (N, rest) =>
      match sv.kturnCapped s N rest with
      | none => []
      | some t => t.st.bestUb :: ubTraceCapped sv n t

theorem runs : ∀ dedup ∈ [false, true], ∀ kind ∈ [CutsetKind.lel, CutsetKind.frontier],
    (poppedTrace (sv dedup kind) 10 (KSt.init (sv dedup kind)) = [iMax, 5, 6] ∧
      view ((sv dedup kind).ksolveLoop 1 (KSt.init (sv dedup kind))) = ([(1, 0, 5, 1)], 4) ∧
      view ((sv dedup kind).ksolveLoop 2 (KSt.init (sv dedup kind))) = ([(0, 3, 6, 2)], 4)) ∧
    ubTrace (sv dedup kind) 10 (KSt.init (sv dedup kind)) = [iMax, 5, 5] ∧
    outcome ((sv dedup kind).ksolveLoop 10 (KSt.init (sv dedup kind))) = (0, (true, some 4), 3, false) ∧
    ubTraceCapped (sv dedup kind) 10 (KSt.init (sv dedup kind)) = [iMax, 5, 5] ∧
    view ((sv dedup kind).ksolveLoopCapped 2 (KSt.init (sv dedup kind))) = ([(0, 3, 5, 2)], 4) ∧
    ((sv dedup kind).ksolveLoopCapped 10 (KSt.init (sv dedup kind))).st.completion = (true, some 4) := by decide +kernel

theorem popped_bound_increases : ∀ dedup ∈ [false, true], ∀ kind ∈ [CutsetKind.lel, CutsetKind.frontier],
    poppedTrace (sv dedup kind) 10 (KSt.init (sv dedup kind)) = [iMax, 5, 6] ∧
    view ((sv dedup kind).ksolveLoop 1 (KSt.init (sv dedup kind))) = ([(1, 0, 5, 1)], 4) ∧
    view ((sv dedup kind).ksolveLoop 2 (KSt.init (sv dedup kind))) = ([(0, 3, 6, 2)], 4) :=
  fun d hd k hk => (runs d hd k hk).1

theorem reported_ub_monotone_on_rise : ∀ dedup ∈ [false, true], ∀ kind ∈ [CutsetKind.lel, CutsetKind.frontier],
    ubTrace (sv dedup kind) 10 (KSt.init (sv dedup kind)) = [iMax, 5, 5] := fun d hd k hk => (runs d hd k hk).2.1

theorem nocap_value : ∀ dedup ∈ [false, true], ∀ kind ∈ [CutsetKind.lel, CutsetKind.frontier],
    ((sv dedup kind).ksolveLoop 10 (KSt.init (sv dedup kind))).st.fringe.length = 0 ∧
    ((sv dedup kind).ksolveLoop 10 (KSt.init (sv dedup kind))).st.completion = (true, some 4) ∧
    ((sv dedup kind).ksolveLoop 10 (KSt.init (sv dedup kind))).st.explored = 3 :=
  fun d hd k hk => have h := outcome_eq (runs d hd k hk).2.2.1; ⟨h.1, h.2.1, h.2.2.1⟩

theorem bestub_capped : ∀ dedup ∈ [false, true], ∀ kind ∈ [CutsetKind.lel, CutsetKind.frontier],
    ubTraceCapped (sv dedup kind) 10 (KSt.init (sv dedup kind)) = [iMax, 5, 5] ∧
    view ((sv dedup kind).ksolveLoopCapped 2 (KSt.init (sv dedup kind))) = ([(0, 3, 5, 2)], 4) ∧
    ((sv dedup kind).ksolveLoopCapped 10 (KSt.init (sv dedup kind))).st.completion = (true, some 4) :=
  fun d hd k hk => (runs d hd k hk).2.2.2

/-- the bound 6 is a valid but weaker bound: the potential of that node is 4 -/
theorem rise_potential : optOf (H T) ⟨0, 3, [], 6, 2⟩ = some 4 ∧ optOf (H T) ⟨1, 0, [], 5, 1⟩ = some 4 := by decide +kernel

/-- there is a well-formed model and a best-first run in which a sub-problem is popped with a bound strictly above the bound
    popped before it (`u1`, `u2`: the bounds of the nodes that `popMax` returns after `j` and after `j + 1` turns) -/
theorem popped_bound_not_monotone : ∃ (sv : CSolverCfg Int) (H : Nat → Int → EInt) (B0 B : Int), WellFormed sv H B0 B ∧
    ∃ (j : Nat) (u1 u2 : Int),
      (popMax (sv.ksolveLoop j (KSt.init sv)).st.fringe).map (fun Nr => Nr.1.ub) = some u1 ∧
      (popMax (sv.ksolveLoop (j + 1) (KSt.init sv)).st.fringe).map (fun Nr => Nr.1.ub) = some u2 ∧ u1 < u2 := by
  refine ⟨sv false .lel, H T, 3, 15, wellFormed false .lel, 1, 5, 6, ?_⟩
  decide +kernel

theorem rise_reported_ub_valid (dedup : Bool) (kind : CutsetKind) (t : KSt Int)
    (ht : KRun (sv dedup kind) (KSt.init (sv dedup kind)) t) : t.st.bestLb ≤ 4 ∧ 4 ≤ max t.st.bestLb t.st.bestUb :=
  reported_ub_valid (sv dedup kind) (H T) 3 15 (wellFormed dedup kind) t ht 4 opt4

end Ddo.C09.Layered.Rise

#print axioms Ddo.C09.Layered.Counter.nocap_bfs_value
#print axioms Ddo.C09.Layered.Counter.nocap_stage_N
#print axioms Ddo.C09.Layered.Counter.nocap_stage_cprime
#print axioms Ddo.C09.Layered.Counter.nocap_stage_k2
#print axioms Ddo.C09.Layered.Counter.nocap_stage_end
#print axioms Ddo.C09.Layered.Counter.nocap_any_order
#print axioms Ddo.C09.Layered.Counter.cap_vs_nocap
#print axioms Ddo.C09.Layered.Rise.wellFormed
#print axioms Ddo.C09.Layered.Rise.popped_bound_increases
#print axioms Ddo.C09.Layered.Rise.reported_ub_monotone_on_rise
#print axioms Ddo.C09.Layered.Rise.nocap_value
#print axioms Ddo.C09.Layered.Rise.bestub_capped
#print axioms Ddo.C09.Layered.Rise.popped_bound_not_monotone
#print axioms Ddo.C09.Layered.Rise.rise_reported_ub_valid
