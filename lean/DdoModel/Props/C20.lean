import DdoModel.Viz
import DdoModel.Proofs.SpecUtil
/-! C20 — `as_graphviz` draws the diagram faithfully.

    Theorems about the model `Ddo.Viz.render` (byte-exact against the implementation on the harness cases,
    see `DdoModel/Engines/Viz.lean`).  `render d c = (renderLines d c).map linesText` holds by definition
    (`render_eq`), so statements about the list of `Line`s returned by `renderLines` are statements about the
    structure of the rendered text: every `Line` is one `push_str` unit of the Rust code and `Line.toText`
    gives its bytes (`edge_text`, `terminalEdge_text` … below are the relevant instances, by unfolding). -/
namespace Ddo.C20
open Ddo.Viz

/-- the id declared by a node-declaration line -/
def declId? : Line → Option Nat
  | .node id _ => some id
  | _ => none

/-- the arc drawn by an edge line and whether it is bold (`penwidth=3`) -/
def edge? : Line → Option (DEdge × Bool)
  | .edge e b => some (e, b)
  | _ => none

/-- the source of an edge to `terminal` and whether it is bold -/
def termEdge? : Line → Option (Nat × Bool)
  | .terminalEdge i b => some (i, b)
  | _ => none

/-- the key `k` of a `subgraph cluster_k` block -/
def clusterKey? : Line → Option Nat
  | .cluster k _ => some k
  | _ => none

/-- the part of the text a line belongs to: 0 header, 1 node section, 2 clusters, 3 terminal section, 4 footer -/
def sec : Line → Nat
  | .header => 0
  | .node _ _ | .edge _ _ => 1
  | .cluster _ _ => 2
  | .terminalDecl | .terminalEdge _ _ => 3
  | .footer => 4

theorem render_eq (d : Dump) (c : VizCfg) : render d c = (renderLines d c).map linesText := rfl

/-- the bytes of an edge line: source, target, decision and cost of the arc; `penwidth=3` iff `b` -/
theorem edge_text (e : DEdge) (b : Bool) :
    (Line.edge e b).toText =
      "\t" ++ toString e.src ++ " -> " ++ toString e.dst ++ " [penwidth=" ++ (if b then "3" else "1")
        ++ ",label=\"(x" ++ toString e.var ++ " = " ++ toString e.val ++ ")\\ncost = " ++ toString e.cost
        ++ "\"];\n" := rfl

theorem node_text (i : Nat) (a : String) : (Line.node i a).toText = "\t" ++ toString i ++ " [" ++ a ++ "];\n" := rfl

theorem terminalEdge_text (i : Nat) (b : Bool) :
    (Line.terminalEdge i b).toText =
      if b then "\t" ++ toString i ++ " -> terminal [penwidth=3];\n" else "\t" ++ toString i ++ " -> terminal;\n" := by
  cases b <;> rfl

theorem terminalDecl_text :
    Line.terminalDecl.toText =
      "\tterminal [shape=\"circle\", label=\"\", style=\"filled\", color=\"black\", group=\"terminal\"];\n" := rfl

theorem idsOk_iff {ns : List DNode} {ids : List Nat} : idsOk ns ids = true ↔ ∀ i ∈ ids, i < ns.length := by
  simp [idsOk]

theorem idsOk_false_iff {ns : List DNode} {ids : List Nat} :
    idsOk ns ids = false ↔ ∃ i ∈ ids, ns.length ≤ i := by
  simp only [idsOk, List.all_eq_false, decide_eq_true_eq, Nat.not_lt]

theorem maxOf_spec {xs : List Int} (hne : xs ≠ []) : maxOf xs ∈ xs ∧ ∀ y ∈ xs, y ≤ maxOf xs := by
  cases xs with
  | nil => exact absurd rfl hne
  | cons x r => exact SpecUtil.foldl_max_spec r x

theorem maxOf_nil : maxOf [] = iMax := rfl

theorem sec_nodeSection (d : Dump) (c : VizCfg) : ∀ l ∈ nodeSection d c, sec l = 1 := by
  intro l hl
  simp only [nodeSection, List.mem_flatMap, nodeLines, List.mem_cons, List.mem_map] at hl
  obtain ⟨n, _, rfl | ⟨e, _, rfl⟩⟩ := hl <;> rfl

/-- clean.rs: the clusters are the non-empty sets of merged nodes of the layers, keyed by layer index -/
theorem clusters0_eq (ns : List DNode) (i : Nat) (ls : List (List Nat)) :
    clusters0 ns i ls = (ls.zipIdx i).filterMap (fun lj =>
      if (lj.1.filter (mergedAt ns)).isEmpty then none else some (Line.cluster lj.2 (lj.1.filter (mergedAt ns)))) := by
  induction ls generalizing i with
  | nil => rfl
  | cons a ls ih =>
    rw [clusters0, List.zipIdx_cons, List.filterMap_cons, ih]
    by_cases hemp : (a.filter (mergedAt ns)).isEmpty = true
    · simp only [hemp, ↓reduceIte]
    · simp only [hemp, ↓reduceIte, Bool.false_eq_true]

theorem sec_clusters0 (ns : List DNode) (i : Nat) (ls : List (List Nat)) : ∀ l ∈ clusters0 ns i ls, sec l = 2 := by
  intro l hl
  obtain ⟨lj, _, h⟩ := List.mem_filterMap.mp (clusters0_eq ns i ls ▸ hl)
  split at h <;> cases h
  rfl

theorem sec_clusterSection {d : Dump} {c : VizCfg} {cl : List Line}
    (h : clusterSection d c = some cl) : ∀ l ∈ cl, sec l = 2 := by
  unfold clusterSection at h
  split at h
  · split at h
    · split at h
      · cases h; exact sec_clusters0 _ _ _
      · cases h
    · cases h
      intro l hl
      obtain ⟨g, _, rfl⟩ := List.mem_map.mp hl
      rfl
  · cases h; simp

theorem terminalLines_cons (ns : List DNode) (i : Nat) (is : List Nat) :
    terminalLines ns (i :: is) = Line.terminalDecl :: (i :: is).map (fun j =>
      Line.terminalEdge j (decide (valueAt ns j = maxOf ((i :: is).map (valueAt ns))))) := rfl

theorem sec_terminalLines (ns : List DNode) (ids : List Nat) : ∀ l ∈ terminalLines ns ids, sec l = 3 := by
  intro l hl
  cases ids with
  | nil => cases hl
  | cons i is =>
    simp only [terminalLines_cons, List.mem_cons, List.mem_map] at hl
    rcases hl with rfl | ⟨j, _, rfl⟩ <;> rfl

theorem clusterSection_eq_none_iff {d : Dump} {c : VizCfg} :
    clusterSection d c = none ↔
      (c.showDeleted = true ∧ c.groupMerged = true ∧ d.kind = 0 ∧ ∃ l ∈ d.layers, ∃ i ∈ l, d.nodes.length ≤ i) := by
  have hall : d.layers.all (idsOk d.nodes) = false ↔ ∃ l ∈ d.layers, ∃ i ∈ l, d.nodes.length ≤ i := by
    simp only [List.all_eq_false, Bool.not_eq_true, idsOk_false_iff]
  rw [← hall, clusterSection]
  split
  · rename_i hc
    simp only [Bool.and_eq_true] at hc
    split
    · rename_i hk
      cases d.layers.all (idsOk d.nodes) <;> simp [hc, hk]
    · rename_i hk
      simp [hk]
  · rename_i hc
    simp only [Bool.and_eq_true] at hc
    simp only [reduceCtorEq, false_iff]
    exact fun h => hc ⟨h.1, h.2.1⟩

theorem terminalSection_eq_none_iff {d : Dump} :
    terminalSection d = none ↔
      (d.layers = [] ∨ ∃ last, d.layers.getLast? = some last ∧ ∃ i ∈ last, d.nodes.length ≤ i) := by
  simp only [← idsOk_false_iff, ← List.getLast?_eq_none_iff, terminalSection]
  cases d.layers.getLast? with
  | none => simp
  | some ids => cases idsOk d.nodes ids <;> simp

theorem terminalSection_eq_some {d : Dump} {tm : List Line} (h : terminalSection d = some tm) :
    ∃ last, d.layers.getLast? = some last ∧ idsOk d.nodes last = true ∧ tm = terminalLines d.nodes last := by
  unfold terminalSection at h
  split at h
  · cases h
  · rename_i ids hl
    split at h
    · rename_i hok
      cases h
      exact ⟨ids, hl, hok, rfl⟩
    · cases h

/-- shape of a successful rendering: header, node section, clusters, terminal section, footer -/
theorem renderLines_eq_some {d : Dump} {c : VizCfg} {ls : List Line} (h : renderLines d c = some ls) :
    ∃ cl last, clusterSection d c = some cl ∧ d.layers.getLast? = some last ∧ idsOk d.nodes last = true ∧
      ls = Line.header :: (nodeSection d c ++ cl ++ terminalLines d.nodes last ++ [Line.footer]) := by
  unfold renderLines at h
  split at h
  · rename_i cl tm hcl htm
    obtain ⟨last, hl, hok, rfl⟩ := terminalSection_eq_some htm
    cases h
    exact ⟨cl, last, hcl, hl, hok, rfl⟩
  · cases h

/-- exact characterisation of the panics of `as_graphviz`: no layer at all (`layers.last().unwrap()`), or an
    id of the last layer that is not a node (`self.nodes[..]` in `add_terminal_node`), or — clean.rs, clusters
    requested — an id of any layer that is not a node. -/
theorem render_none_iff (d : Dump) (c : VizCfg) :
    render d c = none ↔
      (d.layers = []
        ∨ (∃ last, d.layers.getLast? = some last ∧ ∃ i ∈ last, d.nodes.length ≤ i)
        ∨ (c.showDeleted = true ∧ c.groupMerged = true ∧ d.kind = 0 ∧
            ∃ l ∈ d.layers, ∃ i ∈ l, d.nodes.length ≤ i)) := by
  rw [render_eq, Option.map_eq_none_iff, renderLines, ← or_assoc, ← terminalSection_eq_none_iff,
    ← clusterSection_eq_none_iff]
  cases clusterSection d c <;> cases terminalSection d <;> simp

theorem wfDump_iff {d : Dump} : wfDump d = true ↔
    d.nodes.map (·.id) = List.range d.nodes.length ∧
    (∀ n ∈ d.nodes, ∀ e ∈ n.edges, e.dst = n.id ∧ e.src < d.nodes.length) ∧
    ∀ l ∈ d.layers, ∀ i ∈ l, i < d.nodes.length := by
  simp only [wfDump, idsOk, Bool.and_eq_true, beq_iff_eq, List.all_eq_true, decide_eq_true_eq, and_assoc]

/-- (a) on a well-formed dump the only partial operation is taking the last layer -/
theorem render_total {d : Dump} (hwf : wfDump d = true) (c : VizCfg) :
    render d c = none ↔ d.layers = [] := by
  rw [render_none_iff]
  constructor
  · rintro (h | ⟨last, hl, i, hi, hle⟩ | ⟨_, _, _, l, hl, i, hi, hle⟩)
    · exact h
    · have := (wfDump_iff.mp hwf).2.2 last (List.mem_of_getLast? hl) i hi
      omega
    · have := (wfDump_iff.mp hwf).2.2 l hl i hi
      omega
  · intro h; exact Or.inl h

theorem not_mem_of_sec {ls : List Line} {k : Nat} (h : ∀ l ∈ ls, sec l = k) {x : Line} (hx : sec x ≠ k) : x ∉ ls :=
  fun hm => hx (h x hm)

/-- a projection that only sees the lines of part `k` sees nothing in another part -/
theorem filterMap_nil_of_sec {β : Type} {p : Line → Option β} {k k' : Nat} (hp : ∀ l, p l ≠ none → sec l = k)
    {ls : List Line} (h : ∀ l ∈ ls, sec l = k') (hk : k' ≠ k) : ls.filterMap p = [] :=
  List.filterMap_eq_nil_iff.mpr fun l hl => by
    cases hl' : p l with
    | none => rfl
    | some b => exact absurd ((h l hl).symm.trans (hp l (by rw [hl']; exact Option.some_ne_none b))) hk

theorem filterMap_render {β : Type} {p : Line → Option β} (h0 : p .header = none) (h4 : p .footer = none)
    (a b c : List Line) :
    (Line.header :: (a ++ b ++ c ++ [Line.footer])).filterMap p = a.filterMap p ++ b.filterMap p ++ c.filterMap p := by
  simp only [List.filterMap_cons, h0, h4, List.filterMap_append, List.filterMap_nil, List.append_nil]

theorem filterMap_map_some {α β γ : Type} {f : α → β} {p : β → Option γ} {g : α → γ} (l : List α)
    (h : ∀ a, p (f a) = some (g a)) : (l.map f).filterMap p = l.map g := by
  rw [List.filterMap_map, ← List.filterMap_eq_map']
  exact congrArg (List.filterMap · l) (funext h)

theorem declId?_sec (l : Line) (h : declId? l ≠ none) : sec l = 1 := by
  cases l with
  | node => rfl
  | _ => exact absurd rfl h

theorem edge?_sec (l : Line) (h : edge? l ≠ none) : sec l = 1 := by
  cases l with
  | edge => rfl
  | _ => exact absurd rfl h

theorem termEdge?_sec (l : Line) (h : termEdge? l ≠ none) : sec l = 3 := by
  cases l with
  | terminalEdge => rfl
  | _ => exact absurd rfl h

theorem clusterKey?_sec (l : Line) (h : clusterKey? l ≠ none) : sec l = 2 := by
  cases l with
  | cluster => rfl
  | _ => exact absurd rfl h

theorem nodeLines_decl (c : VizCfg) (n : DNode) : (nodeLines c n).filterMap declId? = [n.id] := by
  simp only [nodeLines, List.filterMap_cons, declId?]
  rw [List.filterMap_eq_nil_iff.mpr]
  intro x hx
  obtain ⟨e, _, rfl⟩ := List.mem_map.mp hx
  rfl

theorem nodeLines_edge (c : VizCfg) (n : DNode) :
    (nodeLines c n).filterMap edge? = n.edges.map (fun e => (e, decide (n.best = some e))) :=
  filterMap_map_some _ (fun _ => rfl)

theorem terminalLines_termEdge (ns : List DNode) (ids : List Nat) :
    (terminalLines ns ids).filterMap termEdge? =
      ids.map (fun i => (i, decide (valueAt ns i = maxOf (ids.map (valueAt ns))))) := by
  cases ids with
  | nil => rfl
  | cons i is => exact filterMap_map_some _ (fun _ => rfl)

theorem terminalLines_count_decl (ns : List DNode) (ids : List Nat) :
    (terminalLines ns ids).count Line.terminalDecl = if ids = [] then 0 else 1 := by
  cases ids with
  | nil => rfl
  | cons i is =>
    rw [terminalLines_cons, List.count_cons_self, List.count_eq_zero.mpr (by simp)]
    rfl

/-- (b) the terminal declaration is drawn once if the last layer is non-empty, and not at all otherwise … -/
theorem terminal_decl_count {d : Dump} {c : VizCfg} {ls : List Line} (h : renderLines d c = some ls) :
    ls.count Line.terminalDecl = if d.layers.getLast? = some [] then 0 else 1 := by
  obtain ⟨cl, last, hcl, hl, _, rfl⟩ := renderLines_eq_some h
  rw [List.count_cons, List.count_append, List.count_append, List.count_append, terminalLines_count_decl, hl,
    List.count_eq_zero.mpr (not_mem_of_sec (sec_nodeSection d c) (by decide)),
    List.count_eq_zero.mpr (not_mem_of_sec (sec_clusterSection hcl) (by decide))]
  cases last <;> simp

/-- … in particular it is drawn iff the last layer is non-empty -/
theorem terminal_iff_last_layer_nonempty {d : Dump} {c : VizCfg} {ls : List Line}
    (h : renderLines d c = some ls) :
    Line.terminalDecl ∈ ls ↔ ∃ last, d.layers.getLast? = some last ∧ last ≠ [] := by
  rw [← List.count_pos_iff, terminal_decl_count h]
  obtain ⟨_, last, _, hl, _, _⟩ := renderLines_eq_some h
  rw [hl]
  cases last <;> simp

/-- (c) the node declarations are the non-hidden nodes, in the order of the dump … -/
theorem nodes_once {d : Dump} {c : VizCfg} {ls : List Line} (h : renderLines d c = some ls) :
    ls.filterMap declId? = (d.nodes.filter (visible c)).map (·.id) := by
  obtain ⟨cl, last, hcl, _, _, rfl⟩ := renderLines_eq_some h
  rw [filterMap_render rfl rfl, filterMap_nil_of_sec declId?_sec (sec_clusterSection hcl) (by decide),
    filterMap_nil_of_sec declId?_sec (sec_terminalLines _ _) (by decide), List.append_nil, List.append_nil,
    nodeSection, List.filterMap_flatMap]
  simp only [nodeLines_decl]
  exact List.map_eq_flatMap.symm

theorem wf_getElem_id {d : Dump} (hwf : wfDump d = true) {i : Nat} (hi : i < d.nodes.length) :
    (d.nodes[i]).id = i := by
  have h := congrArg (·[i]?) (wfDump_iff.mp hwf).1
  simpa [hi] using h

theorem wf_id_inj {d : Dump} (hwf : wfDump d = true) {m n : DNode} (hm : m ∈ d.nodes) (hn : n ∈ d.nodes)
    (h : m.id = n.id) : m = n := by
  obtain ⟨i, hi, rfl⟩ := List.mem_iff_getElem.mp hm
  obtain ⟨j, hj, rfl⟩ := List.mem_iff_getElem.mp hn
  rw [wf_getElem_id hwf hi, wf_getElem_id hwf hj] at h
  subst h; rfl

/-- ids are positions, so any selection of the nodes has strictly increasing ids -/
theorem wf_ids_lt {d : Dump} (hwf : wfDump d = true) (p : DNode → Bool) :
    ((d.nodes.filter p).map (·.id)).Pairwise (· < ·) :=
  List.Pairwise.sublist ((wfDump_iff.mp hwf).1 ▸ List.filter_sublist.map _) List.pairwise_lt_range

/-- … and, on a well-formed dump (ids `0..n-1`), strictly increasing: every non-hidden node is declared
    exactly once and no hidden node is declared -/
theorem nodes_once_wf {d : Dump} {c : VizCfg} {ls : List Line} (hwf : wfDump d = true)
    (h : renderLines d c = some ls) :
    (ls.filterMap declId?).Pairwise (· < ·) ∧
      ∀ n ∈ d.nodes, (ls.filterMap declId?).count n.id = if visible c n then 1 else 0 := by
  rw [nodes_once h]
  have hpw := wf_ids_lt hwf (visible c)
  refine ⟨hpw, ?_⟩
  intro n hn
  have hnd : ((d.nodes.filter (visible c)).map (·.id)).Nodup :=
    List.Pairwise.imp (fun h => by omega) hpw
  rw [hnd.count]
  have : n.id ∈ (d.nodes.filter (visible c)).map (·.id) ↔ visible c n = true := by
    simp only [List.mem_map, List.mem_filter]
    constructor
    · rintro ⟨m, ⟨hm, hv⟩, hid⟩
      rw [← wf_id_inj hwf hm hn hid]; exact hv
    · intro hv; exact ⟨n, ⟨hn, hv⟩, rfl⟩
  by_cases hv : visible c n = true <;> simp [this, hv]

/-- (d) the edge lines are exactly the inbound edges of the non-hidden nodes (in dump order, with
    multiplicity), each with its own decision and cost (`edge_text`), bold iff equal to the node's best edge -/
theorem edges_faithful {d : Dump} {c : VizCfg} {ls : List Line} (h : renderLines d c = some ls) :
    ls.filterMap edge? =
      (d.nodes.filter (visible c)).flatMap (fun n => n.edges.map (fun e => (e, decide (n.best = some e)))) := by
  obtain ⟨cl, last, hcl, _, _, rfl⟩ := renderLines_eq_some h
  rw [filterMap_render rfl rfl, filterMap_nil_of_sec edge?_sec (sec_clusterSection hcl) (by decide),
    filterMap_nil_of_sec edge?_sec (sec_terminalLines _ _) (by decide), List.append_nil, List.append_nil,
    nodeSection, List.filterMap_flatMap]
  simp only [nodeLines_edge]

/-- every drawn edge is an inbound arc of a declared node, and is bold iff it is that node's best edge -/
theorem edges_sound {d : Dump} {c : VizCfg} {ls : List Line} (h : renderLines d c = some ls)
    {e : DEdge} {b : Bool} (he : Line.edge e b ∈ ls) :
    ∃ n ∈ d.nodes, visible c n = true ∧ e ∈ n.edges ∧ (b = true ↔ n.best = some e) := by
  have hm : (e, b) ∈ ls.filterMap edge? := List.mem_filterMap.mpr ⟨_, he, rfl⟩
  rw [edges_faithful h] at hm
  simp only [List.mem_flatMap, List.mem_filter, List.mem_map] at hm
  obtain ⟨n, ⟨hn, hv⟩, e', he', heq⟩ := hm
  cases heq
  exact ⟨n, hn, hv, he', by simp⟩

/-- on a well-formed dump both endpoints of a drawn edge are nodes of the diagram: the target is the declared
    node the arc enters, the source is a node that is either declared or hidden by the configuration -/
theorem edges_endpoints {d : Dump} {c : VizCfg} {ls : List Line} (hwf : wfDump d = true)
    (h : renderLines d c = some ls) {e : DEdge} {b : Bool} (he : Line.edge e b ∈ ls) :
    (∃ n ∈ d.nodes, n.id = e.dst ∧ visible c n = true ∧ e ∈ n.edges) ∧ (∃ m ∈ d.nodes, m.id = e.src) := by
  obtain ⟨n, hn, hv, hen, _⟩ := edges_sound h he
  obtain ⟨hdst, hs⟩ := (wfDump_iff.mp hwf).2.1 n hn e hen
  refine ⟨⟨n, hn, hdst.symm, hv, hen⟩, ?_⟩
  exact ⟨d.nodes[e.src], List.getElem_mem hs, wf_getElem_id hwf hs⟩

/-- among nodes with distinct ids whose edges all enter their own node, the edges entering `n` are those of `n` -/
theorem count_flatMap_one {ns : List DNode} (hnd : (ns.map (·.id)).Nodup)
    (hed : ∀ m ∈ ns, ∀ e ∈ m.edges, e.dst = m.id) {n : DNode} (hn : n ∈ ns) {e : DEdge} (he : e.dst = n.id) :
    (ns.flatMap (·.edges)).count e = n.edges.count e := by
  have hz : ∀ m ∈ ns, m.id ≠ n.id → m.edges.count e = 0 := fun m hm hne =>
    List.count_eq_zero.mpr fun hmem => hne ((hed m hm e hmem).symm.trans he)
  induction ns with
  | nil => cases hn
  | cons m r ih =>
    rw [List.map_cons, List.nodup_cons, List.mem_map] at hnd
    rw [List.flatMap_cons, List.count_append]
    rcases List.mem_cons.mp hn with rfl | hr
    · suffices h0 : (r.flatMap (·.edges)).count e = 0 by rw [h0, Nat.add_zero]
      refine List.count_eq_zero.mpr fun hmem => ?_
      obtain ⟨m', hm', he'⟩ := List.mem_flatMap.mp hmem
      exact List.count_eq_zero.mp (hz m' (List.mem_cons_of_mem _ hm') fun h => hnd.1 ⟨m', hm', h⟩) he'
    · rw [hz m (List.mem_cons_self ..) fun h => hnd.1 ⟨n, hr, h.symm⟩, Nat.zero_add]
      exact ih hnd.2 (fun m' hm' => hed m' (List.mem_cons_of_mem _ hm')) hr
        (fun m' hm' => hz m' (List.mem_cons_of_mem _ hm'))

/-- on a well-formed dump every inbound arc of a non-hidden node is drawn exactly as often as it occurs -/
theorem edges_count {d : Dump} {c : VizCfg} {ls : List Line} (hwf : wfDump d = true)
    (h : renderLines d c = some ls) {n : DNode} (hn : n ∈ d.nodes) (hv : visible c n = true)
    {e : DEdge} (he : e.dst = n.id) :
    ((ls.filterMap edge?).map Prod.fst).count e = n.edges.count e := by
  rw [edges_faithful h]
  have : ((d.nodes.filter (visible c)).flatMap (fun n => n.edges.map (fun e => (e, decide (n.best = some e))))).map Prod.fst
      = (d.nodes.filter (visible c)).flatMap (·.edges) := by
    rw [List.map_flatMap]
    congr 1
    funext n
    simp [List.map_map, Function.comp_def]
  rw [this]
  apply count_flatMap_one
  · exact (wf_ids_lt hwf _).imp (fun h => by omega)
  · intro m hm e he
    exact ((wfDump_iff.mp hwf).2.1 m (List.mem_filter.mp hm).1 e he).1
  · exact List.mem_filter.mpr ⟨hn, hv⟩
  · exact he

/-- and nothing is drawn towards a hidden node -/
theorem edges_hidden {d : Dump} {c : VizCfg} {ls : List Line} (hwf : wfDump d = true)
    (h : renderLines d c = some ls) {n : DNode} (hn : n ∈ d.nodes) (hv : visible c n = false)
    {e : DEdge} {b : Bool} (he : e.dst = n.id) : Line.edge e b ∉ ls := by
  intro hmem
  obtain ⟨m, hm, hvm, hem, _⟩ := edges_sound h hmem
  have := ((wfDump_iff.mp hwf).2.1 m hm e hem).1
  have hmn : m = n := wf_id_inj hwf hm hn (by omega)
  subst hmn
  rw [hv] at hvm
  cases hvm

/-- (e) exactly the nodes of the last layer get an edge to `terminal` (in the stored order, once per
    occurrence), bold iff their value equals `maxOf` of the values of the layer … -/
theorem terminal_edges {d : Dump} {c : VizCfg} {ls : List Line} {last : List Nat}
    (h : renderLines d c = some ls) (hl : d.layers.getLast? = some last) :
    ls.filterMap termEdge? =
      last.map (fun i => (i, decide (valueAt d.nodes i = maxOf (last.map (valueAt d.nodes))))) := by
  obtain ⟨cl, last', hcl, hl', _, rfl⟩ := renderLines_eq_some h
  rw [hl] at hl'
  cases hl'
  rw [filterMap_render rfl rfl, filterMap_nil_of_sec termEdge?_sec (sec_nodeSection d c) (by decide),
    filterMap_nil_of_sec termEdge?_sec (sec_clusterSection hcl) (by decide), List.nil_append, List.nil_append]
  exact terminalLines_termEdge _ _

/-- … that is: iff no node of the last layer has a larger value (the node is a best terminal node) -/
theorem terminal_edges_bold {d : Dump} {c : VizCfg} {ls : List Line} {last : List Nat}
    (h : renderLines d c = some ls) (hl : d.layers.getLast? = some last) {i : Nat} {b : Bool}
    (hi : Line.terminalEdge i b ∈ ls) :
    i ∈ last ∧ (b = true ↔ ∀ j ∈ last, valueAt d.nodes j ≤ valueAt d.nodes i) := by
  have hm : (i, b) ∈ ls.filterMap termEdge? := List.mem_filterMap.mpr ⟨_, hi, rfl⟩
  rw [terminal_edges h hl] at hm
  obtain ⟨i', hi', heq⟩ := List.mem_map.mp hm
  cases heq
  refine ⟨hi', ?_⟩
  have hne : last.map (valueAt d.nodes) ≠ [] := by
    intro h0
    rw [List.map_eq_nil_iff] at h0
    rw [h0] at hi'
    cases hi'
  obtain ⟨hmem, hmax⟩ := maxOf_spec hne
  rw [decide_eq_true_iff]
  constructor
  · intro heq j hj
    rw [heq]
    exact hmax _ (List.mem_map_of_mem hj)
  · intro hall
    obtain ⟨j, hj, hje⟩ := List.mem_map.mp hmem
    have h1 := hall j hj
    have h2 := hmax _ (List.mem_map_of_mem hi')
    omega

/-- the value read for a node of the last layer is that node's `value_top` (well-formed dump) -/
theorem valueAt_of_mem {d : Dump} (hwf : wfDump d = true) {n : DNode} (hn : n ∈ d.nodes) :
    valueAt d.nodes n.id = n.valueTop := by
  obtain ⟨i, hi, rfl⟩ := List.mem_iff_getElem.mp hn
  rw [wf_getElem_id hwf hi]
  simp [valueAt, hi]

/-- the text is `digraph {` … `}`: the header comes first, the footer last, and neither occurs in between -/
theorem skeleton {d : Dump} {c : VizCfg} {ls : List Line} (h : renderLines d c = some ls) :
    ∃ body, ls = Line.header :: (body ++ [Line.footer]) ∧ Line.header ∉ body ∧ Line.footer ∉ body := by
  obtain ⟨cl, last, hcl, _, _, rfl⟩ := renderLines_eq_some h
  have hbody : ∀ l ∈ nodeSection d c ++ cl ++ terminalLines d.nodes last, sec l = 1 ∨ sec l = 2 ∨ sec l = 3 := by
    intro l hl
    rcases List.mem_append.mp hl with hl | hl
    · rcases List.mem_append.mp hl with hl | hl
      · exact .inl (sec_nodeSection d c l hl)
      · exact .inr (.inl (sec_clusterSection hcl l hl))
    · exact .inr (.inr (sec_terminalLines _ _ l hl))
  exact ⟨_, rfl, (fun hm => by rcases hbody _ hm with h | h | h <;> cases h),
    (fun hm => by rcases hbody _ hm with h | h | h <;> cases h)⟩

theorem cluster_mem_iff {d : Dump} {c : VizCfg} {ls : List Line} (h : renderLines d c = some ls)
    {k : Nat} {ids : List Nat} :
    Line.cluster k ids ∈ ls ↔ ∃ cl, clusterSection d c = some cl ∧ Line.cluster k ids ∈ cl := by
  obtain ⟨cl, last, hcl, _, _, rfl⟩ := renderLines_eq_some h
  simp only [List.mem_cons, List.mem_append, List.mem_nil_iff, or_false, hcl, Option.some.injEq,
    exists_eq_left']
  constructor
  · rintro (h | ((h | h) | h) | h)
    · cases h
    · exact absurd h (not_mem_of_sec (sec_nodeSection d c) (show (2 : Nat) ≠ 1 by decide))
    · exact h
    · exact absurd h (not_mem_of_sec (sec_terminalLines _ _) (show (2 : Nat) ≠ 3 by decide))
    · cases h
  · intro h; right; left; left; right; exact h

theorem clusters0_mem_iff (ns : List DNode) (ls : List (List Nat)) (k : Nat) (ids : List Nat) :
    Line.cluster k ids ∈ clusters0 ns 0 ls ↔ ∃ l, ls[k]? = some l ∧ ids = l.filter (mergedAt ns) ∧ ids ≠ [] := by
  rw [clusters0_eq, List.mem_filterMap]
  constructor
  · rintro ⟨⟨l, j⟩, hj, h⟩
    split at h
    · cases h
    · rename_i hne
      cases h
      exact ⟨l, List.mem_zipIdx_iff_getElem?.mp hj, rfl, fun h0 => hne (h0 ▸ rfl)⟩
  · rintro ⟨l, hl, rfl, hne⟩
    exact ⟨(l, k), List.mem_zipIdx_iff_getElem?.mpr hl, if_neg (fun h0 => hne (List.isEmpty_iff.mp h0))⟩

/-- clean.rs: `cluster_k` is drawn iff clusters are requested and layer `k` has deleted or relaxed nodes; it
    lists exactly those, in layer order -/
theorem clusters_kind0 {d : Dump} {c : VizCfg} {ls : List Line} (h : renderLines d c = some ls)
    (hk : d.kind = 0) {k : Nat} {ids : List Nat} :
    Line.cluster k ids ∈ ls ↔
      (c.showDeleted = true ∧ c.groupMerged = true ∧
        ∃ l, d.layers[k]? = some l ∧ ids = l.filter (mergedAt d.nodes) ∧ ids ≠ []) := by
  rw [cluster_mem_iff h]
  by_cases hc : c.showDeleted = true ∧ c.groupMerged = true
  · obtain ⟨cl, _, hcl, _⟩ := renderLines_eq_some h
    have hsec : clusterSection d c =
        if d.layers.all (idsOk d.nodes) then some (clusters0 d.nodes 0 d.layers) else none := by
      simp [clusterSection, hc.1, hc.2, hk]
    rw [hsec] at hcl ⊢
    split at hcl
    · cases hcl
      simp only [↓reduceIte, *, Option.some.injEq, exists_eq_left', clusters0_mem_iff, true_and]
    · cases hcl
  · have : clusterSection d c = some [] := by simp [clusterSection, hc]
    simp only [this, Option.some.injEq, exists_eq_left', List.not_mem_nil, false_iff]
    exact fun h' => hc ⟨h'.1, h'.2.1⟩

/-- on a list sorted by key, `insertGroup k v` appends `v` to the group of key `k`, or opens that group at its place -/
theorem insertGroup_eq (k v : Nat) {acc : List (Nat × List Nat)} (hs : (acc.map (·.1)).Pairwise (· < ·)) :
    ∃ l₁ vs l₂, insertGroup k v acc = l₁ ++ (k, vs ++ [v]) :: l₂ ∧
      (acc = l₁ ++ (k, vs) :: l₂ ∨
        vs = [] ∧ acc = l₁ ++ l₂ ∧ (∀ g ∈ l₁, g.1 < k) ∧ ∀ g ∈ l₂, k < g.1) := by
  induction acc with
  | nil => exact ⟨[], [], [], rfl, .inr ⟨rfl, rfl, nofun, nofun⟩⟩
  | cons a r ih =>
    obtain ⟨k', vs'⟩ := a
    rw [List.map_cons, List.pairwise_cons] at hs
    rw [insertGroup]
    split
    · rename_i hlt
      refine ⟨[], [], (k', vs') :: r, rfl, .inr ⟨rfl, rfl, nofun, fun g hg => ?_⟩⟩
      rcases List.mem_cons.mp hg with rfl | hg
      · exact hlt
      · exact Nat.lt_trans hlt (hs.1 _ (List.mem_map_of_mem hg))
    · split
      · rename_i heq
        subst heq
        exact ⟨[], vs', r, rfl, .inl rfl⟩
      · obtain ⟨l₁, vs, l₂, e, h⟩ := ih hs.2
        refine ⟨(k', vs') :: l₁, vs, l₂, by rw [e]; rfl, ?_⟩
        rcases h with h | ⟨h1, h2, h3, h4⟩
        · exact .inl (by rw [h]; rfl)
        · refine .inr ⟨h1, by rw [h2]; rfl, fun g hg => ?_, h4⟩
          rcases List.mem_cons.mp hg with rfl | hg
          · show k' < k
            omega
          · exact h3 g hg

/-- the grouping of pooled.rs: invariant of the fold over the merged nodes `P` seen so far -/
structure GroupInv (P : List DNode) (acc : List (Nat × List Nat)) : Prop where
  sorted : (acc.map (·.1)).Pairwise (· < ·)
  sound : ∀ g ∈ acc, g.2 ≠ [] ∧ ∀ v ∈ g.2, ∃ n ∈ P, n.id = v ∧ n.depth = g.1
  complete : ∀ n ∈ P, ∃ g ∈ acc, g.1 = n.depth ∧ n.id ∈ g.2

theorem GroupInv.insert {P : List DNode} {acc : List (Nat × List Nat)} (h : GroupInv P acc) (n : DNode) :
    GroupInv (P ++ [n]) (insertGroup n.depth n.id acc) := by
  obtain ⟨l₁, vs, l₂, e, hacc⟩ := insertGroup_eq n.depth n.id h.sorted
  -- the groups other than that of `n.depth` are groups of `acc`; that one extends a group of `acc` or is new
  have hsub : ∀ g, g ∈ l₁ ∨ g ∈ l₂ → g ∈ acc := by
    rcases hacc with rfl | ⟨_, rfl, _⟩ <;> simp +contextual [or_imp]
  have hold : vs = [] ∨ (n.depth, vs) ∈ acc := by
    rcases hacc with rfl | ⟨rfl, _⟩ <;> simp
  rw [e]
  refine ⟨?_, ?_, ?_⟩
  · have hs := h.sorted
    rcases hacc with rfl | ⟨_, rfl, h3, h4⟩
    · simpa using hs
    · simp only [List.map_append, List.map_cons, List.pairwise_append, List.pairwise_cons, List.mem_map,
        List.mem_cons] at hs ⊢
      refine ⟨hs.1, ⟨?_, hs.2.1⟩, ?_⟩
      · rintro x ⟨g, hg, rfl⟩
        exact h4 g hg
      · rintro x ⟨g, hg, rfl⟩ y (rfl | hy)
        · exact h3 g hg
        · exact hs.2.2 _ ⟨g, hg, rfl⟩ y hy
  · have lift : ∀ g ∈ acc, g.2 ≠ [] ∧ ∀ x ∈ g.2, ∃ m ∈ P ++ [n], m.id = x ∧ m.depth = g.1 := fun g hg =>
      ⟨(h.sound g hg).1, fun x hx => let ⟨m, hm, e⟩ := (h.sound g hg).2 x hx; ⟨m, List.mem_append_left _ hm, e⟩⟩
    intro g hg
    rcases List.mem_append.mp hg with hg | hg
    · exact lift g (hsub g (.inl hg))
    rcases List.mem_cons.mp hg with rfl | hg
    · refine ⟨by simp, fun x hx => ?_⟩
      rcases List.mem_append.mp hx with hx | hx
      · rcases hold with rfl | hold
        · cases hx
        · exact (lift _ hold).2 x hx
      · exact ⟨n, by simp, (List.mem_singleton.mp hx).symm, rfl⟩
    · exact lift g (hsub g (.inr hg))
  · intro m hm
    rcases List.mem_append.mp hm with hm | hm
    · obtain ⟨g, hg, e1, e2⟩ := h.complete m hm
      rcases hacc with rfl | ⟨_, rfl, _⟩
      · rcases List.mem_append.mp hg with hg | hg
        · exact ⟨g, List.mem_append_left _ hg, e1, e2⟩
        rcases List.mem_cons.mp hg with rfl | hg
        · exact ⟨(n.depth, vs ++ [n.id]), by simp, e1, List.mem_append_left _ e2⟩
        · exact ⟨g, by simp [hg], e1, e2⟩
      · exact ⟨g, by rcases List.mem_append.mp hg with hg | hg <;> simp [hg], e1, e2⟩
    · cases List.mem_singleton.mp hm
      exact ⟨(n.depth, vs ++ [n.id]), by simp, rfl, by simp⟩

theorem groupInv_foldl (S : List DNode) (P : List DNode) (acc : List (Nat × List Nat)) (h : GroupInv P acc) :
    GroupInv (P ++ S) (S.foldl (fun acc n => insertGroup n.depth n.id acc) acc) := by
  induction S generalizing P acc with
  | nil => simpa using h
  | cons n S ih => simpa using ih _ _ (h.insert n)
/-- pooled.rs: when clusters are requested, the cluster keys are strictly increasing depths, every cluster is
    non-empty and lists ids of deleted or relaxed nodes of that depth, and every deleted or relaxed node is
    listed in the cluster of its depth -/
theorem clusters_kind1 {d : Dump} {c : VizCfg} {ls : List Line} (h : renderLines d c = some ls)
    (hk : d.kind ≠ 0) :
    (∀ k ids, Line.cluster k ids ∈ ls →
        c.showDeleted = true ∧ c.groupMerged = true ∧ ids ≠ [] ∧
          ∀ i ∈ ids, ∃ n ∈ d.nodes, n.id = i ∧ n.depth = k ∧ (n.isDeleted || n.isRelaxed) = true) ∧
    (c.showDeleted = true → c.groupMerged = true → ∀ n ∈ d.nodes, (n.isDeleted || n.isRelaxed) = true →
        ∃ ids, Line.cluster n.depth ids ∈ ls ∧ n.id ∈ ids) ∧
    ((ls.filterMap clusterKey?).Pairwise (· < ·)) := by
  have inv := groupInv_foldl (d.nodes.filter (fun n => n.isDeleted || n.isRelaxed)) [] []
    ⟨by simp, by simp, by simp⟩
  simp only [List.nil_append] at inv
  have hsec : clusterSection d c =
      if (c.showDeleted && c.groupMerged) = true then some (clusters1 d.nodes) else some [] := by
    unfold clusterSection
    simp [hk]
  refine ⟨?_, ?_, ?_⟩
  · intro k ids hmem
    rw [cluster_mem_iff h, hsec] at hmem
    obtain ⟨cl, hcl, hmem⟩ := hmem
    split at hcl
    · rename_i hc
      simp only [Bool.and_eq_true] at hc
      cases hcl
      simp only [clusters1, List.mem_map] at hmem
      obtain ⟨g, hg, heq⟩ := hmem
      cases heq
      obtain ⟨h1, h2⟩ := inv.sound g hg
      refine ⟨hc.1, hc.2, h1, fun i hi => ?_⟩
      obtain ⟨n, hn, e1, e2⟩ := h2 i hi
      have := List.mem_filter.mp hn
      exact ⟨n, this.1, e1, e2, this.2⟩
    · cases hcl; cases hmem
  · intro h1 h2 n hn hm
    obtain ⟨g, hg, e1, e2⟩ := inv.complete n (List.mem_filter.mpr ⟨hn, hm⟩)
    refine ⟨g.2, ?_, e2⟩
    rw [cluster_mem_iff h, hsec]
    refine ⟨clusters1 d.nodes, by simp [h1, h2], ?_⟩
    simp only [clusters1, List.mem_map]
    exact ⟨g, hg, by rw [e1]⟩
  · obtain ⟨cl, last, hcl, _, _, rfl⟩ := renderLines_eq_some h
    rw [filterMap_render rfl rfl, filterMap_nil_of_sec clusterKey?_sec (sec_nodeSection d c) (by decide),
      filterMap_nil_of_sec clusterKey?_sec (sec_terminalLines _ _) (by decide), List.nil_append, List.append_nil]
    rw [hsec] at hcl
    split at hcl
    · cases hcl
      rw [clusters1, filterMap_map_some (p := clusterKey?) _ (fun _ => rfl)]
      exact inv.sorted
    · cases hcl; simp

/-- NOT PROVED.  Text-level reading of (b): the *bytes* returned by `render` contain the terminal declaration
    line iff the last layer is non-empty.  It needs a hypothesis on the states (a `Debug` text containing a tab
    followed by `terminal [shape=…` would be a counter-example) and reasoning on `String` concatenation that the
    structured statement `terminal_iff_last_layer_nonempty` avoids.  The link between the two levels is
    `render_eq` (`render = map linesText ∘ renderLines`, by `rfl`) and the `*_text` lemmas. -/
def TerminalTextLevel : Prop :=
  ∀ (d : Dump) (c : VizCfg) (s : String), render d c = some s →
    (∀ n ∈ d.nodes, '\t' ∉ n.state.toList) →
    (terminalDeclText.toList <:+: s.toList ↔ ∃ last, d.layers.getLast? = some last ∧ last ≠ [])

def exNode (id depth : Nat) (v : Int) (best : Option DEdge) (edges : List DEdge) (deleted : Bool := false) : DNode :=
  { id, depth, valueTop := v, valueBot := iMin, rub := iMax, theta := none,
    isExact := !deleted, isRelaxed := false, isMarked := false, isCutset := false, isDeleted := deleted,
    isPruned := false, isAbove := false, state := toString id, best, edges }

/-- root `0`, two children `1`, `2` (the second one deleted by a restriction), one terminal-layer node `3` -/
def exDump : Dump :=
  { kind := 0,
    nodes := [ exNode 0 0 0 none [],
               exNode 1 1 3 (some ⟨0, 1, 0, 1, 3⟩) [⟨0, 1, 0, 1, 3⟩],
               exNode 2 1 (-2) (some ⟨0, 2, 0, 0, -2⟩) [⟨0, 2, 0, 0, -2⟩] true,
               exNode 3 2 5 (some ⟨1, 3, 1, 1, 2⟩) [⟨1, 3, 1, 0, 0⟩, ⟨1, 3, 1, 1, 2⟩] ],
    layers := [[0], [1, 2], [3]] }

example : wfDump exDump = true := by decide

def exCfg : VizCfg :=
  { showValue := true, showLocb := false, showRub := false, showThreshold := false, showDeleted := false,
    groupMerged := false }

example : (render exDump exCfg).isSome = true := by
  cases h : render exDump exCfg with
  | some _ => rfl
  | none => rw [render_total (by decide)] at h; cases h

example : renderLines exDump exCfg = some
    [ .header,
      .node 0 "shape=circle,style=filled,color=\"#99ccff\",peripheries=1,group=\"root\",label=\"0\\nval: 0\"",
      .node 1 "shape=circle,style=filled,color=\"#99ccff\",peripheries=1,group=\"0\",label=\"1\\nval: 3\"",
      .edge ⟨0, 1, 0, 1, 3⟩ true,
      .node 3 "shape=circle,style=filled,color=\"#99ccff\",peripheries=1,group=\"1\",label=\"3\\nval: 5\"",
      .edge ⟨1, 3, 1, 0, 0⟩ false,
      .edge ⟨1, 3, 1, 1, 2⟩ true,
      .terminalDecl,
      .terminalEdge 3 true,
      .footer ] := by decide +kernel

set_option maxRecDepth 1000000 in
/-- the bytes, checked by the kernel -/
example : render exDump exCfg = some
  ("digraph {\n\tranksep = 3;\n\n"
   ++ "\t0 [shape=circle,style=filled,color=\"#99ccff\",peripheries=1,group=\"root\",label=\"0\\nval: 0\"];\n"
   ++ "\t1 [shape=circle,style=filled,color=\"#99ccff\",peripheries=1,group=\"0\",label=\"1\\nval: 3\"];\n"
   ++ "\t0 -> 1 [penwidth=3,label=\"(x0 = 1)\\ncost = 3\"];\n"
   ++ "\t3 [shape=circle,style=filled,color=\"#99ccff\",peripheries=1,group=\"1\",label=\"3\\nval: 5\"];\n"
   ++ "\t1 -> 3 [penwidth=1,label=\"(x1 = 0)\\ncost = 0\"];\n"
   ++ "\t1 -> 3 [penwidth=3,label=\"(x1 = 1)\\ncost = 2\"];\n"
   ++ "\tterminal [shape=\"circle\", label=\"\", style=\"filled\", color=\"black\", group=\"terminal\"];\n"
   ++ "\t3 -> terminal [penwidth=3];\n"
   ++ "}\n") := by decide +kernel

end Ddo.C20

#print axioms Ddo.C20.render_none_iff
#print axioms Ddo.C20.render_total
#print axioms Ddo.C20.terminal_iff_last_layer_nonempty
#print axioms Ddo.C20.terminal_decl_count
#print axioms Ddo.C20.nodes_once
#print axioms Ddo.C20.nodes_once_wf
#print axioms Ddo.C20.edges_faithful
#print axioms Ddo.C20.edges_sound
#print axioms Ddo.C20.edges_endpoints
#print axioms Ddo.C20.edges_count
#print axioms Ddo.C20.edges_hidden
#print axioms Ddo.C20.terminal_edges
#print axioms Ddo.C20.terminal_edges_bold
#print axioms Ddo.C20.valueAt_of_mem
#print axioms Ddo.C20.skeleton
#print axioms Ddo.C20.clusters_kind0
#print axioms Ddo.C20.clusters_kind1
#print axioms Ddo.C20.maxOf_spec
