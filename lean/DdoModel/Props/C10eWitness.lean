import DdoModel.Props.C10e
import DdoModel.Props.C10dWitness
/-! The instance of `Props/C10e.lean`: the knapsack model of the `ddo` documentation satisfies the hypotheses of
`caching_dominance_solver_correct_mono` (`Kp.monoHyp`), so the solver with cache and checker is correct on it for every width (`Kp.correct`). -/
set_option linter.unusedSectionVars false
set_option linter.unusedVariables false
namespace Ddo.C10e
open Ddo Ddo.C01 Ddo.Closed Ddo.C09 Ddo.C10 Ddo.C10c Ddo.C10d

namespace Kp
open Ddo.C10.Kp

theorem monoHyp (w : Nat) (hw : 1 ≤ w) (dedup : Bool) (kind : CutsetKind) : MonoHyp (dv w dedup kind) H 5 20 6 1 := by
  obtain ⟨h1, h2, h3, h4, h5, h6, h7⟩ := Ddo.C10d.Kp.hypotheses w hw dedup kind
  exact ⟨h1, h2, h3, h4, h5, h6, h7⟩

/-- the instance of the conditional headline `caching_dominance_solver_correct_mono_of`: `hB` is the top-down obligation on one relaxed
    compilation with both filters (`Proofs/CompatTheta.lean`) -/
theorem correct_of (hB : BuiltOkJointK) (w : Nat) (hw : 1 ≤ w) (dedup : Bool) (kind : CutsetKind) :
    JointCorrect (dv w dedup kind) 6 :=
  let h := monoHyp w hw dedup kind
  caching_dominance_solver_correct_mono_of hB Int Unit (dv w dedup kind) H 5 20 6 1 h.wf h.opt h.dim h.stat h.sim h.mc h.mono

/-- **the solver with cache and checker is correct on the knapsack model** (optimum 6), every width `≥ 1`, both fringes, both cut-set
    kinds -/
theorem correct (w : Nat) (hw : 1 ≤ w) (dedup : Bool) (kind : CutsetKind) : JointCorrect (dv w dedup kind) 6 :=
  correct_of builtOkJointK w hw dedup kind

theorem correct_run (w : Nat) (hw : 1 ≤ w) (dedup : Bool) (kind : CutsetKind) (t : KDSt Int Unit)
    (ht : KDRun (dv w dedup kind) (KDSt.init (dv w dedup kind)) t) (hend : t.st.fringe = []) :
    t.st.completion = (true, some 6) :=
  (((correct w hw dedup kind).2.2 t ht).2.2 hend).2.2

/-- from well-formedness alone (`kdsolveLoop_sound`: any rule): the loop ends, does not panic and its incumbent is at most 6 -/
theorem sound (w : Nat) (hw : 1 ≤ w) (dedup : Bool) (kind : CutsetKind) :
    ∃ m, ((dv w dedup kind).kdsolveLoop m (KDSt.init (dv w dedup kind))).st.fringe = [] ∧
      ((dv w dedup kind).kdsolveLoop m (KDSt.init (dv w dedup kind))).st.crashed = false ∧
      ((dv w dedup kind).kdsolveLoop m (KDSt.init (dv w dedup kind))).st.bestLb ≤ 6 := by
  obtain ⟨m, h1, h2, _, h4⟩ := kdsolveLoop_sound (dv w dedup kind) H 5 20 (monoHyp w hw dedup kind).wf
  exact ⟨m, h1, h2, (h4 6 (monoHyp w hw dedup kind).opt).1⟩

end Kp

end Ddo.C10e

#print axioms Ddo.C10e.Kp.monoHyp
#print axioms Ddo.C10e.Kp.correct
#print axioms Ddo.C10e.Kp.correct_run
#print axioms Ddo.C10e.Kp.correct_of
#print axioms Ddo.C10e.Kp.sound
