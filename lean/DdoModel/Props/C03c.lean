import DdoModel.Props.C01dWitness
import DdoModel.Proofs.ParClosed
/-! # C03 / C04 (closed) — the parallel solver over the diagram model returns the optimum, no contract hypothesis left

`Props/C03b.lean` proves the coverage invariant, partial correctness, the cut-off bounds and termination of the **concrete**
parallel transition system `ParSys` (`DdoModel/ParSys.lean`: the shared `Critical` record evolved by the functions of
`ParSolver.lean`, one worker-local state per thread, one step per critical section / lock-free compilation) for *any*
compilation outcomes that meet the contracts `OkR = CompileOk`, `OkX = CompileOk ∧ (not exact → CutsetOk)` relative to the
stale incumbent the worker read — the contracts are **hypotheses** there (`hR`, `hX`).  `Props/C01c.lean` / `C01d.lean`
discharge these contracts from the compilation model `DdoModel/Mdd.lean` for a well-formed model, one compilation in
isolation, and close the *sequential* composition.  Here the **parallel** composition is closed.

* The concrete system: `PStep sv` / `PRun sv` (`Proofs/ParClosedSide.lean`) = `ParSys.Step` / `ParSys.Run` (with the
  `abort_search` of the code, `ParCrit.abortSearch`) instantiated with `okRm sv` / `okXm sv`: *the answer `o` a worker
  gets for the node `N` in hand and the incumbent `lb` it read is `toOut` of the `must` result of
  `compile (sv.cfg .restricted / .relaxed N lb)` — `EmptyCache`, no dominance checker, `stopAt = none`, outcome `.ok`*
  (`okRm_iff`, `okXm_iff`; the contents of the unused cache / store / poll counter are arbitrary as in `C01.CStep`).
  A cut-off may still strike any compilation of any worker at any time (`ParSys` allows the answer `.cutoff` always).
  `sv : C01.SolverCfg` (problem, relaxation, ranking, width function, cut-set kind, kind of fringe); the number of
  threads `U` is the parameter of `Sys.init` (`U` workers, `U` cells of `upper_bounds`).
* The contracts `hR`, `hX` of `C03b` become theorems because their side conditions are an invariant of the parallel system (`PCInv`,
  `Proofs/ParClosedSide.lean`: every fringe entry and every node in hand is `Reach`ed by a permutation of its path with exactly its
  value; the incumbent, and every stale copy a worker holds, is in `[isize::MIN, B]`; what a worker carries from a compilation to
  `maybe_update_best` / `enqueue_cutset` is an answer of the diagram model); nothing panics because the bookkeeping is one (`LayInv`,
  `Proofs/ParClosedLay.lean`).  Headline: `parallel_solver_correct`; from a feasible primal: `parallel_solver_primal`; total
  correctness of uninterrupted runs (`URun`: no compilation is ever cut off): `parallel_solver_total`.
* Non-vacuity: the `Trap` model of `Props/C01d.lean` (optimum 4, a genuine branch-and-bound: the first restricted
  diagram is sub-optimal, the relaxed one is not exact) with **2 threads**, scheduled by the deterministic scheduler
  `ParClosed.next` / `runSched` (`runSched_run`: a run of the concrete system): thread 0 branches on the root while
  thread 1 is parked, then both take a cut-set node each and work on them concurrently (thread 1 with a stale
  incumbent); the run reaches `Complete` with the optimum (`Trap2.completes`, read off the kernel-evaluated run), and what the
  headline predicts is what the run shows.  `Trap2.cutRun`: the same run with the compilation of thread 1 cut off
  (`cutoffAt`): `maximize()` returns aborted with `best_lb = 4 = best_ub`, the bounds of `par_final` are attained.
  `NoNvBound2.stuck`: without `NvBound` the first compilation of the first worker does not end normally.

## hypotheses
`WellFormed sv H B0 B` exactly as in `C01d` (`Potential`, `RubOk`, `MergeOk`, `AttMerge`, `RunBound`, `NvBound`, widths ≥ 1)
— see the header of `Props/C01d.lean`, including why `NvBound` is needed and its counter-example `C01.NoNvBound.counter`
(the same counter-example applies here: the first compilation of the first worker does not end normally).  Nothing else:
the per-worker side conditions are all derived (`PCInv`).  `U ≥ 1` is only used for "`maximize()` returns" (`AllDone` with
no worker at all is the initial state: `Trap2.zero_threads`, a — minor — finding: `nb_threads = 0` is accepted by the code and
makes `maximize()` claim exactness without a value). -/
set_option linter.unusedSectionVars false
set_option linter.unusedVariables false
namespace Ddo.C03c
open Ddo Ddo.Truth Ddo.Closed Ddo.ParSys Ddo.ParClosed
open Ddo.C01 (SolverCfg WellFormed toOut SolOf)
variable {S : Type} [DecidableEq S]

theorem okRm_iff (sv : SolverCfg S) (N : SubP S) (lb : Int) (o : DDOut S) :
    okRm sv N lb o ↔ ∃ (cache : Cache S) (store : DomStore S Unit) (polls : Nat),
      (compile (sv.cfg .restricted N lb) cache store polls none).1 = .ok ∧
      o = toOut (compile (sv.cfg .restricted N lb) cache store polls none).2.1 := Iff.rfl

theorem okXm_iff (sv : SolverCfg S) (N : SubP S) (lb : Int) (o : DDOut S) :
    okXm sv N lb o ↔ ∃ (cache : Cache S) (store : DomStore S Unit) (polls : Nat),
      (compile (sv.cfg .relaxed N lb) cache store polls none).1 = .ok ∧
      o = toOut (compile (sv.cfg .relaxed N lb) cache store polls none).2.1 := Iff.rfl

/-- the per-node `CompilationInput`: the node in hand as root, the incumbent the worker read, `EmptyCache`, no dominance -/
example (sv : SolverCfg S) (ct : CompType) (N : SubP S) (lb : Int) :
    (sv.cfg ct N lb).root = N ∧ (sv.cfg ct N lb).lb = lb ∧ (sv.cfg ct N lb).useCache = false ∧
    (sv.cfg ct N lb).dom = none ∧ (sv.cfg ct N lb).ctype = ct ∧ (sv.cfg ct N lb).width = sv.width N :=
  ⟨rfl, rfl, rfl, rfl, rfl, rfl⟩

/-- the primal handed to `set_primal` (if any) is a feasible solution with the claimed value -/
def PrimalOk (sv : SolverCfg S) (primal : Option (Int × List Dec)) : Prop :=
  ∀ v sol, primal = some (v, sol) → SolOf sv.P sol v

theorem primalOk_none (sv : SolverCfg S) : PrimalOk sv none := fun _ _ h => by cases h

/-- **`par_pcinv`**: `PCInv` holds in every state reachable from the initial one — any number of threads, every
    interleaving, cut-offs included -/
theorem par_pcinv {sv : SolverCfg S} {H : Nat → S → EInt} {B0 B : Int} (hwf : WellFormed sv H B0 B)
    {primal : Option (Int × List Dec)} (hp : PrimalOk sv primal) (U : Nat) {t : Sys S}
    (ht : PRun sv (Sys.init sv.P primal sv.dedup U) t) : PCInv sv H B t :=
  prun_pcinv hwf ht (init_pcinv hwf primal hp U)

/-- **the contract of the restricted compilation holds in every reachable state**: whatever the diagram model answers to a
    worker about to compile, for the node it holds and the (possibly stale) incumbent it read, meets `OkR` -/
theorem par_contract_R {sv : SolverCfg S} {H : Nat → S → EInt} {B0 B : Int} (hwf : WellFormed sv H B0 B) {opt : Int}
    (hopt : (H 0 sv.P.init).addI sv.P.initVal = some opt)
    {primal : Option (Int × List Dec)} (hp : PrimalOk sv primal) (U : Nat) {t : Sys S}
    (ht : PRun sv (Sys.init sv.P primal sv.dedup U) t) {i : Nat} {n : SubP S} {lb : Int} {o : DDOut S}
    (hw : t.ws[i]? = some (.compR n lb)) (hok : okRm sv n lb o) : OkR (optOf H) opt (SolOf sv.P) n lb o := by
  have hI := par_pcinv hwf hp U ht
  have hwk := hI.ws _ (List.mem_of_getElem? hw)
  exact okR'_contract hwf hopt n lb o ⟨hok, hwk.node n rfl, hwk.stage⟩

/-- **the contracts of the relaxed compilation hold in every reachable state** (`CompileOk` and `CutsetOk`) -/
theorem par_contract_X {sv : SolverCfg S} {H : Nat → S → EInt} {B0 B : Int} (hwf : WellFormed sv H B0 B) {opt : Int}
    (hopt : (H 0 sv.P.init).addI sv.P.initVal = some opt)
    {primal : Option (Int × List Dec)} (hp : PrimalOk sv primal) (U : Nat) {t : Sys S}
    (ht : PRun sv (Sys.init sv.P primal sv.dedup U) t) {i : Nat} {n : SubP S} {lb : Int} {o : DDOut S}
    (hw : t.ws[i]? = some (.compX n lb)) (hok : okXm sv n lb o) : OkX (optOf H) opt (SolOf sv.P) n lb o := by
  have hI := par_pcinv hwf hp U ht
  have hwk := hI.ws _ (List.mem_of_getElem? hw)
  exact okX'_contract hwf hopt n lb o ⟨hok, hwk.node n rfl, hwk.stage⟩

/-- every run of the concrete system from the initial state is a run of the system whose compilations are constrained by
    `okR'` / `okX'` (the model's answers + the side conditions), to which the theorems of `Props/C03b.lean` apply -/
theorem par_run_lift {sv : SolverCfg S} {H : Nat → S → EInt} {B0 B : Int} (hwf : WellFormed sv H B0 B)
    {primal : Option (Int × List Dec)} (hp : PrimalOk sv primal) (U : Nat) {t : Sys S}
    (ht : PRun sv (Sys.init sv.P primal sv.dedup U) t) :
    Run sv.dedup (okR' sv B) (okX' sv B) (Sys.init sv.P primal sv.dedup U) t :=
  (prun_lift hwf ht (init_pcinv hwf primal hp U)).1

theorem phiOk (H : Nat → S → EInt) (dedup : Bool) : PhiOk (optOf H) dedup :=
  ⟨fun _ _ => rfl, fun _ => phiMono_of_potential H⟩

theorem init_sysinv {sv : SolverCfg S} {H : Nat → S → EInt} {B0 B : Int} (hwf : WellFormed sv H B0 B) {opt : Int}
    (hopt : (H 0 sv.P.init).addI sv.P.initVal = some opt)
    {primal : Option (Int × List Dec)} (hp : PrimalOk sv primal) (U : Nat) :
    SysInv (optOf H) opt (SolOf sv.P) (Sys.init sv.P primal sv.dedup U) := by
  have hb := opt_bound hwf.pot hwf.nv hwf.bound hopt
  have hBs := hwf.bound.B_small
  have hroot : Good (optOf H) opt (rootOf sv.P) := by
    intro x hx
    have e : optOf H (rootOf sv.P) = some opt := hopt
    rw [e] at hx
    have := Option.some.inj hx
    omega
  have h1 : opt ≤ iMax := by simp only [iMax]; omega
  have h2 : iMin ≤ opt := by simp only [iMin]; omega
  cases primal with
  | none => exact C03b.sys_inv_init (optOf H) opt (SolOf sv.P) sv.P sv.dedup U hroot h1 h2 (fun _ => hopt)
  | some vs =>
    obtain ⟨v, sol⟩ := vs
    obtain ⟨_, _, x, hx, hle⟩ := solOf_facts hwf (hp v sol rfl)
    have hxo : x = opt := by rw [hopt] at hx; exact (Option.some.inj hx).symm
    exact C03b.sys_inv_init_primal (optOf H) opt (SolOf sv.P) sv.P sv.dedup U v sol hroot h1 h2 (by omega) (hp v sol rfl)
      (fun _ _ => hopt)

/-- **`par_sys_inv`**: every reachable state of the concrete system over the diagram model satisfies the coverage
    invariant `SysInv` of `Props/C03b.lean` — no contract hypothesis -/
theorem par_sys_inv {sv : SolverCfg S} {H : Nat → S → EInt} {B0 B : Int} (hwf : WellFormed sv H B0 B) {opt : Int}
    (hopt : (H 0 sv.P.init).addI sv.P.initVal = some opt)
    {primal : Option (Int × List Dec)} (hp : PrimalOk sv primal) (U : Nat) {t : Sys S}
    (ht : PRun sv (Sys.init sv.P primal sv.dedup U) t) : SysInv (optOf H) opt (SolOf sv.P) t :=
  C03b.sys_inv (optOf H) opt (SolOf sv.P) sv.dedup (phiOk H sv.dedup) (okR'_contract hwf hopt) (okX'_contract hwf hopt)
    (par_run_lift hwf hp U ht) (init_sysinv hwf hopt hp U)

/-- `ProgOk` (pending cut-sets strictly deeper, not beyond `nb_variables`: C08 (ii) + C08 (i) + `NvBound`) holds in every
    reachable state -/
theorem par_progOk {sv : SolverCfg S} {H : Nat → S → EInt} {B0 B : Int} (hwf : WellFormed sv H B0 B)
    {primal : Option (Int × List Dec)} (hp : PrimalOk sv primal) (U : Nat) {t : Sys S}
    (ht : PRun sv (Sys.init sv.P primal sv.dedup U) t) : ProgOk sv.P.nbVars t :=
  C03b.sys_progOk (okX'_progress hwf) sv.P primal U (par_run_lift hwf hp U ht)

/-- **`par_terminates`**: the step relation of the concrete system, on the reachable states, is well-founded -/
theorem par_terminates {sv : SolverCfg S} {H : Nat → S → EInt} {B0 B : Int} (hwf : WellFormed sv H B0 B)
    {primal : Option (Int × List Dec)} (hp : PrimalOk sv primal) (U : Nat) :
    WellFounded (fun t s : Sys S => PRun sv (Sys.init sv.P primal sv.dedup U) s ∧ PStep sv s t) :=
  Subrelation.wf (fun {_ _} h => ⟨pstep_lift h.2 (par_pcinv hwf hp U h.1), par_progOk hwf hp U h.1⟩)
    (C03b.sys_terminates sv.P.nbVars sv.dedup (okR' sv B) (okX' sv B))

/-- … **`par_no_infinite_run`**: there is no infinite run from the initial state (any interleaving, wait steps counted) -/
theorem par_no_infinite_run {sv : SolverCfg S} {H : Nat → S → EInt} {B0 B : Int} (hwf : WellFormed sv H B0 B)
    {primal : Option (Int × List Dec)} (hp : PrimalOk sv primal) (U : Nat)
    (run : Nat → Sys S) (h0 : run 0 = Sys.init sv.P primal sv.dedup U) : ¬ ∀ k, PStep sv (run k) (run (k + 1)) :=
  no_infinite_run_of (par_terminates hwf hp U) RunG.tail And.intro run (h0 ▸ RunG.refl _)

/-- **`par_layinv`**: the bookkeeping invariant holds in every reachable state -/
theorem par_layinv {sv : SolverCfg S} {H : Nat → S → EInt} {B0 B : Int} (hwf : WellFormed sv H B0 B)
    {primal : Option (Int × List Dec)} (hp : PrimalOk sv primal) (U : Nat) {t : Sys S}
    (ht : PRun sv (Sys.init sv.P primal sv.dedup U) t) : LayInv sv t :=
  prun_layinv hwf ht (init_pcinv hwf primal hp U) (init_layinv sv primal U)

/-- **the panic step of `get_workload` is never enabled**: in a reachable state, whenever a worker pops a node that beats the
    incumbent, the bookkeeping at the end of `get_workload` (`upper_bounds[i]`, `open_by_layer[d] -= 1`,
    `ongoing_by_layer[d] += 1`) succeeds -/
theorem par_no_gwCrash {sv : SolverCfg S} {H : Nat → S → EInt} {B0 B : Int} (hwf : WellFormed sv H B0 B)
    {primal : Option (Int × List Dec)} (hp : PrimalOk sv primal) (U : Nat) {t : Sys S}
    (ht : PRun sv (Sys.init sv.P primal sv.dedup U) t) {i : Nat} {N nn : SubP S} {rest : List (SubP S)} {c' : ParCrit S}
    {k : Nat} (hw : t.ws[i]? = some .idle) (ha : t.crit.base.abort = false) (hpm : PopMax t.crit.base.fringe N rest)
    (hl : popLoop (setFringe t.crit rest) [(N, true)] 0 = (c', some (some nn), k)) : c'.take i nn ≠ none := by
  obtain ⟨rfl, rfl⟩ := popLoop_item hl
  have hI := par_pcinv hwf hp U ht
  have hN := node_depth_le hwf (hI.base.fr nn ((mem_of_popMax hpm nn).mpr (Or.inl rfl)))
  obtain ⟨c'', hc''⟩ := take_ne_none (par_layinv hwf hp U ht) hw ha hpm hN
  rw [hc'']; simp

/-- **`notify_node_finished` never panics**: it is defined for every worker about to call it -/
theorem par_notify_defined {sv : SolverCfg S} {H : Nat → S → EInt} {B0 B : Int} (hwf : WellFormed sv H B0 B)
    {primal : Option (Int × List Dec)} (hp : PrimalOk sv primal) (U : Nat) {t : Sys S}
    (ht : PRun sv (Sys.init sv.P primal sv.dedup U) t) {i : Nat} {n : SubP S} {te : Bool}
    (hw : t.ws[i]? = some (.fin n te)) : ∃ c', t.crit.notifyFinished i n.depth = some c' := by
  have hI := par_pcinv hwf hp U ht
  exact notify_ne_none (par_layinv hwf hp U ht) hw (node_depth_le hwf ((hI.ws _ (List.mem_of_getElem? hw)).node n rfl))

/-- **no panic**: in every reachable state no worker has panicked and `enqueue_cutset` never indexed `open_by_layer`
    out of range -/
theorem par_no_panic {sv : SolverCfg S} {H : Nat → S → EInt} {B0 B : Int} (hwf : WellFormed sv H B0 B)
    {primal : Option (Int × List Dec)} (hp : PrimalOk sv primal) (U : Nat) {t : Sys S}
    (ht : PRun sv (Sys.init sv.P primal sv.dedup U) t) : NoCrash t ∧ t.crit.base.crashed = false :=
  ⟨(par_layinv hwf hp U ht).hand.noCrash, (par_layinv hwf hp U ht).crit.noPanic⟩

/-- **no deadlock, no lost wake-up**: in every reachable state in which some worker has not left its loop, some section
    is enabled -/
theorem par_progress {sv : SolverCfg S} {H : Nat → S → EInt} {B0 B : Int} (hwf : WellFormed sv H B0 B)
    {primal : Option (Int × List Dec)} (hp : PrimalOk sv primal) (U : Nat) {t : Sys S}
    (ht : PRun sv (Sys.init sv.P primal sv.dedup U) t) (hlive : ¬ AllDone t) : ∃ u, PStep sv t u := by
  obtain ⟨u, hu, _⟩ := pstep_progress hwf (par_pcinv hwf hp U ht) (par_layinv hwf hp U ht) hlive
  exact ⟨u, hu⟩

/-- **`par_complete_optimal`**: when a worker's `get_workload` answers `Complete` the incumbent is the optimum, a
    solution is stored and it is a genuinely feasible complete path of value `opt`; the section then sets
    `best_ub = best_lb = opt` and `maximize()` reports `is_exact = true`, `best_value = Some(opt)` -/
theorem par_complete_optimal {sv : SolverCfg S} {H : Nat → S → EInt} {B0 B : Int} (hwf : WellFormed sv H B0 B) {opt : Int}
    (hopt : (H 0 sv.P.init).addI sv.P.initVal = some opt)
    {primal : Option (Int × List Dec)} (hp : PrimalOk sv primal) (U : Nat) {t : Sys S}
    (ht : PRun sv (Sys.init sv.P primal sv.dedup U) t) {i : Nat} (hc : CompletesAt t i) :
    t.crit.base.bestLb = opt ∧ (∃ p, t.crit.base.bestSol = some p ∧ SolOf sv.P p opt) ∧
    t.crit.complete.base.bestUb = opt ∧ t.crit.complete.base.completion = (true, some opt) := by
  obtain ⟨h1, h2, _, h4, h5⟩ := C03b.sys_complete_optimal (optOf H) opt (SolOf sv.P) (par_sys_inv hwf hopt hp U ht) hc
  obtain ⟨p, hs⟩ := (par_pcinv hwf hp U ht).base.sol_some hwf hopt h1
  refine ⟨h1, ⟨p, hs, h2 p hs⟩, h4, ?_⟩
  rw [h5, hs]; rfl

/-- infeasible problem: nothing is ever stored; at `Complete`, `is_exact = true` and no value -/
theorem par_infeasible {sv : SolverCfg S} {H : Nat → S → EInt} {B0 B : Int} (hwf : WellFormed sv H B0 B)
    (hinf : (H 0 sv.P.init).addI sv.P.initVal = none)
    {primal : Option (Int × List Dec)} (hp : PrimalOk sv primal) (U : Nat) {t : Sys S}
    (ht : PRun sv (Sys.init sv.P primal sv.dedup U) t) :
    t.crit.base.bestSol = none ∧ t.crit.base.completion.2 = none ∧
    (∀ i, CompletesAt t i → t.crit.complete.base.completion = (true, none)) := by
  obtain ⟨_, h2⟩ := (par_pcinv hwf hp U ht).base.infeas hinf
  refine ⟨h2, ?_, fun i hc => ?_⟩
  · show t.crit.base.bestSol.map (fun _ => t.crit.base.bestLb) = none
    rw [h2]; rfl
  · show (!t.crit.base.abort, t.crit.base.bestSol.map (fun _ => t.crit.base.bestLb)) = _
    rw [h2, hc.2.1]; rfl

/-- **`par_final`**: in any reachable state in which every worker has left its loop (`maximize()` joins them), `U ≥ 1`:
    abort flag down — the optimum, `best_ub = best_lb = opt`, `is_exact = true`, a feasible solution of value `opt`;
    abort flag up (cut-offs) — `best_lb ≤ opt ≤ best_ub`, `is_exact = false`; in both cases the stored solution is feasible
    with value `best_lb` -/
theorem par_final {sv : SolverCfg S} {H : Nat → S → EInt} {B0 B : Int} (hwf : WellFormed sv H B0 B) {opt : Int}
    (hopt : (H 0 sv.P.init).addI sv.P.initVal = some opt)
    {primal : Option (Int × List Dec)} (hp : PrimalOk sv primal) (U : Nat) (hU : 1 ≤ U) {t : Sys S}
    (ht : PRun sv (Sys.init sv.P primal sv.dedup U) t) (hd : AllDone t) :
    (t.crit.base.abort = false → t.crit.base.bestLb = opt ∧ t.crit.base.bestUb = opt ∧
        (∃ p, t.crit.base.bestSol = some p ∧ SolOf sv.P p opt) ∧ t.crit.base.completion = (true, some opt)) ∧
    (t.crit.base.abort = true → t.crit.base.bestLb ≤ opt ∧ opt ≤ t.crit.base.bestUb ∧ t.crit.base.completion.1 = false) ∧
    (∀ p, t.crit.base.bestSol = some p → SolOf sv.P p t.crit.base.bestLb) := by
  have hne : t.ws ≠ [] := by
    have hlen : t.ws.length = U := (RunG.length_ws ht).trans List.length_replicate
    intro e; rw [e] at hlen; exact absurd hlen.symm (Nat.ne_of_gt hU)
  obtain ⟨f1, f2, f3⟩ := C03b.sys_final (optOf H) opt (SolOf sv.P) sv.dedup (phiOk H sv.dedup) (okR'_contract hwf hopt)
    (okX'_contract hwf hopt) sv.P primal U (init_sysinv hwf hopt hp U) (par_run_lift hwf hp U ht) hd hne
  refine ⟨fun ha => ?_, f2, f3⟩
  obtain ⟨g1, g2, g3⟩ := f1 ha
  obtain ⟨p, hs⟩ := (par_pcinv hwf hp U ht).base.sol_some hwf hopt g1
  refine ⟨g1, g2, ⟨p, hs, g1 ▸ f3 p hs⟩, ?_⟩
  rw [g3, hs]; rfl

/-- **`par_cutoff_bounds`**: in every reachable state `best_lb ≤ opt` and the stored solution is feasible with value
    `best_lb`; once the search has been aborted (by any number of cut-offs), `opt ≤ best_ub` and `is_exact = false` -/
theorem par_cutoff_bounds {sv : SolverCfg S} {H : Nat → S → EInt} {B0 B : Int} (hwf : WellFormed sv H B0 B) {opt : Int}
    (hopt : (H 0 sv.P.init).addI sv.P.initVal = some opt)
    {primal : Option (Int × List Dec)} (hp : PrimalOk sv primal) (U : Nat) {t : Sys S}
    (ht : PRun sv (Sys.init sv.P primal sv.dedup U) t) :
    t.crit.base.bestLb ≤ opt ∧ (∀ p, t.crit.base.bestSol = some p → SolOf sv.P p t.crit.base.bestLb) ∧
    (t.crit.base.abort = true → opt ≤ t.crit.base.bestUb ∧ t.crit.base.completion.1 = false) := by
  have hi := par_sys_inv hwf hopt hp U ht
  obtain ⟨h1, h2⟩ := C03b.sys_cutoff_bounds (optOf H) opt (SolOf sv.P) sv.dedup (phiOk H sv.dedup) (okR'_contract hwf hopt)
    (okX'_contract hwf hopt) (par_run_lift hwf hp U ht) (init_sysinv hwf hopt hp U)
  exact ⟨h1, hi.solOk, fun ha => h2 ha (par_no_panic hwf hp U ht).1⟩

/-- **`parallel_solver_primal`**: started from a feasible primal `(v, sol)`, whenever a worker's `get_workload` answers
    `Complete` the incumbent is `max v opt` (= `opt`), the value of a stored feasible solution -/
theorem parallel_solver_primal (sv : SolverCfg S) (H : Nat → S → EInt) (B0 B : Int) (hwf : WellFormed sv H B0 B) (U : Nat)
    (v : Int) (sol : List Dec) (hsol : SolOf sv.P sol v) :
    ∃ opt, (H 0 sv.P.init).addI sv.P.initVal = some opt ∧ v ≤ opt ∧
      ∀ t, PRun sv (Sys.init sv.P (some (v, sol)) sv.dedup U) t → ∀ i, CompletesAt t i →
        t.crit.base.bestLb = max v opt ∧ (∃ p, t.crit.base.bestSol = some p ∧ SolOf sv.P p (max v opt)) ∧
        t.crit.complete.base.completion = (true, some (max v opt)) := by
  obtain ⟨_, _, opt, hopt, hle⟩ := solOf_facts hwf hsol
  have hp : PrimalOk sv (some (v, sol)) := by
    intro v' sol' e
    injection e with e
    injection e with e1 e2
    subst e1; subst e2; exact hsol
  refine ⟨opt, hopt, hle, fun t ht i hc => ?_⟩
  obtain ⟨h1, h2, _, h4⟩ := par_complete_optimal hwf hopt hp U ht hc
  rw [Int.max_eq_right hle]
  exact ⟨h1, h2, h4⟩

/-- **`parallel_solver_correct`**: for every well-formed model (`WellFormed`: `Potential`, `RubOk`, `MergeOk`, `AttMerge`,
    `RunBound`, `NvBound`, widths ≥ 1), every ranking, width function, cut-set kind, either fringe and **every number of
    threads `U ≥ 1`**, the parallel solver over the diagram model (`EmptyCache`, no dominance; a cut-off may strike any
    compilation), from `Sys.init sv.P none sv.dedup U`, in **every interleaving**:

    * terminates: the step relation is well-founded on the reachable states, there is no infinite run;
    * in every reachable state `t`:
      - the side conditions `PCInv` of the diagram theorems hold (so the contracts are met: `par_contract_R/X`);
      - nothing has panicked (`NoCrash`, `crashed = false`; `gwCrash` is not enabled, `notify_node_finished` is
        defined: `par_no_gwCrash`, `par_notify_defined`) and some section is enabled unless every worker has left;
      - feasible problem, optimum `opt`: `SysInv`; whenever a worker's `get_workload` answers `Complete`:
        `best_lb = opt`, the stored solution is a genuinely feasible complete path of value `opt`, `best_ub := opt`,
        `Completion = (true, Some(opt))`; when `maximize()` returns: without cut-off the same, with cut-offs
        `best_lb ≤ opt ≤ best_ub` and `is_exact = false`; always: the stored solution is feasible with value `best_lb ≤ opt`;
      - infeasible problem: no solution is ever stored, no value is reported, `Complete` reports `(true, None)`. -/
theorem parallel_solver_correct (sv : SolverCfg S) (H : Nat → S → EInt) (B0 B : Int) (hwf : WellFormed sv H B0 B)
    (U : Nat) (hU : 1 ≤ U) :
    WellFounded (fun t s : Sys S => PRun sv (Sys.init sv.P none sv.dedup U) s ∧ PStep sv s t) ∧
    (∀ run : Nat → Sys S, run 0 = Sys.init sv.P none sv.dedup U → ¬ ∀ k, PStep sv (run k) (run (k + 1))) ∧
    ∀ t, PRun sv (Sys.init sv.P none sv.dedup U) t →
      PCInv sv H B t ∧
      (NoCrash t ∧ t.crit.base.crashed = false ∧ (¬ AllDone t → ∃ u, PStep sv t u)) ∧
      (∀ opt, (H 0 sv.P.init).addI sv.P.initVal = some opt →
        SysInv (optOf H) opt (SolOf sv.P) t ∧
        (∀ i, CompletesAt t i →
          t.crit.base.bestLb = opt ∧ (∃ p, t.crit.base.bestSol = some p ∧ SolOf sv.P p opt) ∧
          t.crit.complete.base.bestUb = opt ∧ t.crit.complete.base.completion = (true, some opt)) ∧
        (AllDone t → t.crit.base.abort = false →
          t.crit.base.bestLb = opt ∧ t.crit.base.bestUb = opt ∧
          (∃ p, t.crit.base.bestSol = some p ∧ SolOf sv.P p opt) ∧ t.crit.base.completion = (true, some opt)) ∧
        (AllDone t → t.crit.base.abort = true →
          t.crit.base.bestLb ≤ opt ∧ opt ≤ t.crit.base.bestUb ∧ t.crit.base.completion.1 = false) ∧
        t.crit.base.bestLb ≤ opt ∧ (∀ p, t.crit.base.bestSol = some p → SolOf sv.P p t.crit.base.bestLb)) ∧
      ((H 0 sv.P.init).addI sv.P.initVal = none →
        t.crit.base.bestSol = none ∧ t.crit.base.completion.2 = none ∧
        (∀ i, CompletesAt t i → t.crit.complete.base.completion = (true, none))) := by
  have hp := primalOk_none sv
  refine ⟨par_terminates hwf hp U, par_no_infinite_run hwf hp U, fun t ht => ⟨par_pcinv hwf hp U ht,
    ⟨(par_no_panic hwf hp U ht).1, (par_no_panic hwf hp U ht).2, par_progress hwf hp U ht⟩,
    fun opt hopt => ⟨par_sys_inv hwf hopt hp U ht, fun i hc => par_complete_optimal hwf hopt hp U ht hc,
      fun hd => (par_final hwf hopt hp U hU ht hd).1, fun hd => (par_final hwf hopt hp U hU ht hd).2.1,
      (par_cutoff_bounds hwf hopt hp U ht).1, (par_cutoff_bounds hwf hopt hp U ht).2.1⟩,
    fun hinf => par_infeasible hwf hinf hp U ht⟩⟩

/-- a run that cannot be extended has every worker gone: `maximize()` returns (no deadlock, no lost wake-up, no panic) -/
theorem par_maximal_allDone {sv : SolverCfg S} {H : Nat → S → EInt} {B0 B : Int} (hwf : WellFormed sv H B0 B)
    {primal : Option (Int × List Dec)} (hp : PrimalOk sv primal) (U : Nat) {t : Sys S}
    (ht : PRun sv (Sys.init sv.P primal sv.dedup U) t) (hmax : ∀ u, ¬ PStep sv t u) : AllDone t := by
  apply Classical.byContradiction
  intro h
  obtain ⟨u, hu⟩ := par_progress hwf hp U ht h
  exact hmax u hu

/-- **`par_uninterrupted_correct`**: when `maximize()` returns after an uninterrupted run (`URun`: no compilation was cut
    off) it reports `is_exact = true` and the optimum, `best_ub = best_lb = opt`, with a genuinely feasible stored solution of
    that value -/
theorem par_uninterrupted_correct {sv : SolverCfg S} {H : Nat → S → EInt} {B0 B : Int} (hwf : WellFormed sv H B0 B)
    {opt : Int} (hopt : (H 0 sv.P.init).addI sv.P.initVal = some opt)
    {primal : Option (Int × List Dec)} (hp : PrimalOk sv primal) (U : Nat) (hU : 1 ≤ U) {t : Sys S}
    (ht : URun sv (Sys.init sv.P primal sv.dedup U) t) (hd : AllDone t) :
    t.crit.base.bestLb = opt ∧ t.crit.base.bestUb = opt ∧ (∃ p, t.crit.base.bestSol = some p ∧ SolOf sv.P p opt) ∧
    t.crit.base.completion = (true, some opt) :=
  (par_final hwf hopt hp U hU ht.toRun hd).1 (ht.noCut (init_noCut sv.P primal sv.dedup U)).1

/-- **`par_run_to_end`**: every uninterrupted run can be continued, uninterrupted, until every worker has left
    (termination + progress; the enabled section of `pstep_progress` cuts nothing off) -/
theorem par_run_to_end {sv : SolverCfg S} {H : Nat → S → EInt} {B0 B : Int} (hwf : WellFormed sv H B0 B)
    {primal : Option (Int × List Dec)} (hp : PrimalOk sv primal) (U : Nat) {s : Sys S}
    (hs : URun sv (Sys.init sv.P primal sv.dedup U) s) :
    ∃ t, URun sv (Sys.init sv.P primal sv.dedup U) t ∧ PRun sv s t ∧ AllDone t := by
  refine (par_terminates hwf hp U).induction
    (C := fun s => URun sv (Sys.init sv.P primal sv.dedup U) s →
      ∃ t, URun sv (Sys.init sv.P primal sv.dedup U) t ∧ PRun sv s t ∧ AllDone t) s ?_ hs
  intro s ih hs
  by_cases hd : AllDone s
  · exact ⟨s, hs, RunG.refl _, hd⟩
  · obtain ⟨u, hu, hna⟩ := pstep_progress hwf (par_pcinv hwf hp U hs.toRun) (par_layinv hwf hp U hs.toRun) hd
    have hnc := hs.noCut (init_noCut sv.P primal sv.dedup U)
    have hu' : URun sv (Sys.init sv.P primal sv.dedup U) u := URun.tail hs hu (hna (fun w hw n => (hnc.2 w hw n).1))
    obtain ⟨t, h1, h2, h3⟩ := ih u ⟨hs.toRun, hu⟩ hu'
    exact ⟨t, h1, prun_head hu h2, h3⟩

/-- **`parallel_solver_total`** (total correctness, uninterrupted): for every well-formed model and every `U ≥ 1` the
    parallel solver has an uninterrupted run from `initialize()` to the return of `maximize()`; **every** such run — every
    interleaving — reports `is_exact = true` with the optimum and a feasible solution of that value, or no value iff the
    problem is infeasible -/
theorem parallel_solver_total (sv : SolverCfg S) (H : Nat → S → EInt) (B0 B : Int) (hwf : WellFormed sv H B0 B)
    (U : Nat) (hU : 1 ≤ U) :
    (∃ t, URun sv (Sys.init sv.P none sv.dedup U) t ∧ AllDone t) ∧
    ∀ t, URun sv (Sys.init sv.P none sv.dedup U) t → AllDone t →
      (∀ opt, (H 0 sv.P.init).addI sv.P.initVal = some opt →
        t.crit.base.completion = (true, some opt) ∧ t.crit.base.bestLb = opt ∧ t.crit.base.bestUb = opt ∧
        ∃ p, t.crit.base.bestSol = some p ∧ SolOf sv.P p opt) ∧
      ((H 0 sv.P.init).addI sv.P.initVal = none → t.crit.base.completion = (true, none)) := by
  have hp := primalOk_none sv
  refine ⟨?_, fun t ht hd => ⟨fun opt hopt => ?_, fun hinf => ?_⟩⟩
  · obtain ⟨t, h1, _, h3⟩ := par_run_to_end hwf hp U (URun.refl _)
    exact ⟨t, h1, h3⟩
  · obtain ⟨h1, h2, h3, h4⟩ := par_uninterrupted_correct hwf hopt hp U hU ht hd
    exact ⟨h4, h1, h2, h3⟩
  · obtain ⟨h1, _, _⟩ := par_infeasible hwf hinf hp U ht.toRun
    show (!t.crit.base.abort, t.crit.base.bestSol.map (fun _ => t.crit.base.bestLb)) = _
    rw [h1, (ht.noCut (init_noCut sv.P none sv.dedup U)).1]; rfl

/-! ## non-vacuity: the `Trap` model of `Props/C01d.lean` with two threads -/
namespace Trap2
open Ddo.C01.Trap

/-- `maximize()` after `initialize()`, two workers -/
def s0 (dedup : Bool) : Sys Int := Sys.init prob none dedup 2

/-- the schedule (which worker runs its next section): thread 0 takes the root, thread 1 finds the fringe empty and parks;
    thread 0 runs `process_one_node` on the root (restricted diagram trapped: incumbent 1; relaxed diagram not exact:
    cut-set of two nodes enqueued) and acknowledges it, which wakes thread 1; thread 0 takes the node of bound 4, thread 1
    the node of bound 3, both read the incumbent 1; thread 0 compiles and raises the incumbent to 4 **while thread 1 still
    holds its stale copy 1**, acknowledges and parks; thread 1 compiles with the stale incumbent, updates (nothing better),
    acknowledges, which wakes thread 0: both idle, nothing open -/
def schedA : List Nat := [0, 1, 0, 0, 0, 0, 0, 0, 0, 0, 0, 0, 1, 0, 1, 0, 0, 0, 1, 1, 1]
/-- … then both workers get `Complete` and leave -/
def schedB : List Nat := schedA ++ [1, 0]
/-- the prefix after which thread 0 has published the incumbent 4 and thread 1 is about to compile with the stale 1 -/
def schedMid : List Nat := [0, 1, 0, 0, 0, 0, 0, 0, 0, 0, 0, 0, 1, 0, 1, 0]

/-- what is observed of a state: the stage of every worker, the abort flag, `ongoing`, the size of the fringe, the incumbent,
    `best_ub`, the stale incumbents the workers hold -/
def obs (t : Sys Int) : (List Nat × Bool × Nat × Nat) × (Int × Int × List (Option Int)) :=
  ((t.ws.map tag, t.crit.base.abort, t.crit.ongoing, t.crit.base.fringe.length), (t.crit.base.bestLb, t.crit.base.bestUb,
   t.ws.map (fun w => match w with | .compR _ lb => some lb | .compX _ lb => some lb | _ => none)))

/-- every scheduled state is reachable in the concrete system -/
theorem reach (dedup : Bool) (kind : CutsetKind) (is : List Nat) :
    PRun (sv dedup kind) (s0 dedup) (runSched (sv dedup kind) (s0 dedup) is) := runSched_run _ _ _

/-- in the middle of the run the two threads work concurrently: thread 0 has just published the incumbent 4 and is about
    to acknowledge its node (`fin`), thread 1 holds the other cut-set node and is about to compile it with the **stale**
    incumbent 1 -/
theorem mid_obs : obs (runSched (sv false .lel) (s0 false) schedMid) =
    (([12, 5], false, 2, 0), (4, iMax, [none, some 1])) := by decide +kernel

/-- at the end of `schedA` both workers are idle, nothing is open or in progress, the incumbent is 4 -/
theorem endA_obs : obs (runSched (sv false .lel) (s0 false) schedA) = (([0, 0], false, 0, 0), (4, iMax, [none, none])) := by
  decide +kernel

/-- … so `get_workload` answers `Complete` to thread 0 (and to thread 1) -/
theorem completes : CompletesAt (runSched (sv false .lel) (s0 false) schedA) 0 := by
  have h := endA_obs
  simp only [obs, Prod.mk.injEq] at h
  obtain ⟨⟨h1, h2, h3, h4⟩, _⟩ := h
  refine ⟨?_, h2, h3, List.eq_nil_of_length_eq_zero h4⟩
  cases hws : (runSched (sv false .lel) (s0 false) schedA).ws with
  | nil => rw [hws] at h1; simp at h1
  | cons w ws =>
    rw [hws] at h1
    simp only [List.map_cons, List.cons.injEq] at h1
    rw [tag_idle h1.1]; rfl

/-- **a complete two-thread run of the concrete system over the diagram model reaches `Complete` with the optimum** — what
    the run shows (`endA_obs`: incumbent 4) is what the headline predicts -/
theorem complete_run :
    ∃ t, PRun (sv false .lel) (s0 false) t ∧ CompletesAt t 0 ∧ t.crit.base.bestLb = 4 ∧
      (∃ p, t.crit.base.bestSol = some p ∧ SolOf prob p 4) ∧ t.crit.complete.base.completion = (true, some 4) := by
  refine ⟨_, reach false .lel schedA, completes, ?_⟩
  obtain ⟨h1, h2, _, h4⟩ := par_complete_optimal (wellFormed false .lel) (opt := 4) rfl (primalOk_none _) 2
    (reach false .lel schedA) completes
  exact ⟨h1, h2, h4⟩

/-- after `schedB` every worker has left: `maximize()` returns `Completion { is_exact: true, best_value: Some(4) }`,
    `best_ub = best_lb = 4` -/
theorem endB_obs : obs (runSched (sv false .lel) (s0 false) schedB) = (([2, 2], false, 0, 0), (4, 4, [none, none])) ∧
    (runSched (sv false .lel) (s0 false) schedB).crit.base.completion = (true, some 4) := by decide +kernel

/-- the same schedule with the duplicate-free fringe and the frontier cut-set -/
theorem endB_obs' : obs (runSched (sv true .frontier) (s0 true) schedB) = (([2, 2], false, 0, 0), (4, 4, [none, none])) ∧
    (runSched (sv true .frontier) (s0 true) schedB).crit.base.completion = (true, some 4) := by decide +kernel

/-- **a run with a cut-off**: from the middle state (thread 0 has published the incumbent 4, thread 1 is about to compile with
    the stale incumbent 1) the compilation of thread 1 is cut off; thread 1 calls `abort_search` and leaves, thread 0
    acknowledges its node, gets `Aborted` and leaves -/
def cutRun : Sys Int :=
  match cutoffAt (runSched (sv false .lel) (s0 false) schedMid) 1 with
  | some t => runSched (sv false .lel) t [1, 1, 0, 0]
  | none => s0 false

theorem cutRun_reach : PRun (sv false .lel) (s0 false) cutRun := by
  unfold cutRun
  cases h : cutoffAt (runSched (sv false .lel) (s0 false) schedMid) 1 with
  | none => exact RunG.refl _
  | some t => exact prun_trans (RunG.tail (reach false .lel schedMid) (cutoffAt_step h)) (runSched_run _ _ _)

/-- every worker has left, the search is aborted, `best_lb = 4 = best_ub`: the bounds `par_final` gives are attained -/
theorem cutRun_obs : obs cutRun = (([2, 2], true, 0, 0), (4, 4, [none, none])) ∧
    cutRun.crit.base.completion = (false, some 4) := by decide +kernel

example : cutRun.crit.base.bestLb ≤ 4 ∧ 4 ≤ cutRun.crit.base.bestUb := by
  have hd : AllDone cutRun := by
    intro w hw
    have h1 : cutRun.ws.map tag = [2, 2] := (Prod.mk.inj (Prod.mk.inj cutRun_obs.1).1).1
    have h2 : tag w ∈ [2, 2] := h1 ▸ List.mem_map_of_mem hw
    exact tag_done ((List.mem_replicate (n := 2)).mp h2).2
  have ha : cutRun.crit.base.abort = true := (Prod.mk.inj (Prod.mk.inj (Prod.mk.inj cutRun_obs.1).1).2).1
  obtain ⟨h1, h2, _⟩ := (par_final (wellFormed false .lel) (opt := 4) rfl (primalOk_none _) 2 (by decide) cutRun_reach hd).2.1 ha
  exact ⟨h1, h2⟩

/-- the headline, instantiated with two threads: every reachable state of every interleaving; no infinite run -/
theorem correct (dedup : Bool) (kind : CutsetKind) (t : Sys Int) (ht : PRun (sv dedup kind) (s0 dedup) t) :
    NoCrash t ∧ (¬ AllDone t → ∃ u, PStep (sv dedup kind) t u) ∧
    (∀ i, CompletesAt t i → t.crit.base.bestLb = 4 ∧ t.crit.complete.base.completion = (true, some 4)) ∧
    (AllDone t → t.crit.base.abort = false → t.crit.base.completion = (true, some 4)) ∧
    (AllDone t → t.crit.base.abort = true → t.crit.base.bestLb ≤ 4 ∧ 4 ≤ t.crit.base.bestUb) := by
  obtain ⟨_, ⟨a1, _, a3⟩, hf, _⟩ := (parallel_solver_correct (sv dedup kind) H 2 8 (wellFormed dedup kind) 2 (by decide)).2.2 t ht
  obtain ⟨_, b2, b3, b4, _⟩ := hf 4 rfl
  exact ⟨a1, a3, fun i hc => ⟨(b2 i hc).1, (b2 i hc).2.2.2⟩, fun hd ha => (b3 hd ha).2.2.2,
    fun hd ha => ⟨(b4 hd ha).1, (b4 hd ha).2.1⟩⟩

theorem terminates (dedup : Bool) (kind : CutsetKind) (run : Nat → Sys Int) (h0 : run 0 = s0 dedup) :
    ¬ ∀ k, PStep (sv dedup kind) (run k) (run (k + 1)) :=
  (parallel_solver_correct (sv dedup kind) H 2 8 (wellFormed dedup kind) 2 (by decide)).2.1 run h0

/-- **`U ≥ 1` is necessary** for the statements about the return of `maximize()`: built with `nb_threads = 0` (`custom(.., 0)` /
    `with_nb_threads(0)`: nothing in `parallel.rs` rejects it) no worker is spawned, every worker "has left" in the initial
    state and `maximize()` returns `Completion { is_exact: true, best_value: None }` although the optimum is 4 -/
theorem zero_threads : AllDone (Sys.init prob none false 0) ∧ (Sys.init prob none false 0).crit.base.abort = false ∧
    (Sys.init prob none false 0).crit.base.completion = (true, none) ∧ (H 0 prob.init).addI prob.initVal = some 4 :=
  ⟨fun w hw => by simp [Sys.init] at hw, rfl, rfl, rfl⟩

end Trap2

/-! ## the hypothesis `NvBound` is necessary (as in `Props/C01d.lean`) -/
namespace NoNvBound2
open Ddo.C01.NoNvBound

/-- the model of `C01.NoNvBound.counter` (every hypothesis of `WellFormed` but `NvBound` holds; `nb_variables` is wrong), one
    thread: after `get_workload` and `best_lb()` the worker is about to compile the root (`compR`) and the compilation of the
    diagram model does not end normally — the scheduler is stuck there, the conclusion "some section is enabled without a
    cut-off" of `par_run_to_end` fails.  (See `C01.NoNvBound.counter` for what the Rust code does: it panics on
    `open_by_layer[depth]` / `ongoing_by_layer[depth]`, `vec![0; nb_variables + 1]`, once a cut-set node is deeper than
    `nb_variables`.) -/
theorem stuck :
    (runSched sv (Sys.init sv.P none sv.dedup 1) [0, 0]).ws.map tag = [5] ∧
    (next sv (runSched sv (Sys.init sv.P none sv.dedup 1) [0, 0]) 0).isNone = true := by decide +kernel

end NoNvBound2

end Ddo.C03c

#print axioms Ddo.C03c.par_pcinv
#print axioms Ddo.C03c.par_contract_R
#print axioms Ddo.C03c.par_contract_X
#print axioms Ddo.C03c.par_sys_inv
#print axioms Ddo.C03c.par_terminates
#print axioms Ddo.C03c.par_no_infinite_run
#print axioms Ddo.C03c.par_layinv
#print axioms Ddo.C03c.par_no_gwCrash
#print axioms Ddo.C03c.par_notify_defined
#print axioms Ddo.C03c.par_no_panic
#print axioms Ddo.C03c.par_progress
#print axioms Ddo.C03c.par_complete_optimal
#print axioms Ddo.C03c.par_infeasible
#print axioms Ddo.C03c.par_final
#print axioms Ddo.C03c.par_cutoff_bounds
#print axioms Ddo.C03c.parallel_solver_primal
#print axioms Ddo.C03c.parallel_solver_correct
#print axioms Ddo.C03c.par_maximal_allDone
#print axioms Ddo.C03c.par_uninterrupted_correct
#print axioms Ddo.C03c.par_run_to_end
#print axioms Ddo.C03c.parallel_solver_total
#print axioms Ddo.C03c.Trap2.mid_obs
#print axioms Ddo.C03c.Trap2.endA_obs
#print axioms Ddo.C03c.Trap2.complete_run
#print axioms Ddo.C03c.Trap2.endB_obs
#print axioms Ddo.C03c.Trap2.endB_obs'
#print axioms Ddo.C03c.Trap2.cutRun_obs
#print axioms Ddo.C03c.Trap2.zero_threads
#print axioms Ddo.C03c.Trap2.correct
#print axioms Ddo.C03c.Trap2.terminates
#print axioms Ddo.C03c.NoNvBound2.stuck
