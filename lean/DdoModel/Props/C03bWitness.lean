import DdoModel.Props.C03b
import DdoModel.Proofs.ParSysWitness
/-! The instance of `Props/C03b.lean` (the two-thread run `Wit` of `Proofs/ParSysWitness.lean`): the violation witness of defect D4b, and non-vacuity
of the hypotheses of the theorems of that file. -/
set_option linter.unusedSectionVars false
set_option linter.unusedVariables false
namespace Ddo.C03b
open Ddo.ParSys
variable {S : Type} [DecidableEq S]

/-- the system built with the `abort_search` formula between fixes D4 and D4b
    (`ParCrit.abortSearchD4`: no final `max … best_lb`) violates the upper half of C05.  There is an
    instance meeting every hypothesis of the theorems of `Props/C03b.lean` (`PhiOk`, the initial invariant, all
    compilations under contract) and a schedule of two threads from the initial state after which every
    worker has left (`maximize()` returns), the search is aborted, `best_lb = opt` and
    `best_ub < best_lb`: thread B raised the incumbent above the bound of the only node left (held by
    thread A) and acknowledged its own node before A was cut off.  (Observed on the real code with the
    controlled scheduler; repaired by `ub.max(critical.best_lb)`.) -/
theorem d4b_witness :
    ∃ (Phi : SubP Nat → EInt) (opt : Int) (Sol : List Dec → Int → Prop) (P : Problem Nat) (t : Sys Nat),
      PhiOk Phi false ∧ SysInv Phi opt Sol (Sys.init P none false 2) ∧
      RunG ParCrit.abortSearchD4 false (OkR Phi opt Sol) (OkX Phi opt Sol) (Sys.init P none false 2) t ∧
      AllDone t ∧ t.crit.base.abort = true ∧ t.crit.base.bestLb = opt ∧ t.crit.base.bestUb < t.crit.base.bestLb := by
  refine ⟨Wit.Phi, Wit.opt, Wit.Sol, Wit.P0, Wit.w20 ParCrit.abortSearchD4, Wit.phiOk, Wit.inv0, Wit.runD4,
    allDone_of_ws (n := 2) Wit.endD4.1, Wit.endD4.2.1, Wit.endD4.2.2.1, ?_⟩
  rw [Wit.endD4.2.2.1, Wit.endD4.2.2.2]; decide

/-- the same schedule with the `abort_search` of the code (after fix D4b): a reachable, aborted, final state of the real system;
    `sys_cutoff_bounds_final` applies to it (its hypotheses are satisfiable) and the bounds it gives are
    attained: `best_lb = opt = best_ub = 15` -/
theorem d4b_fixed :
    ∃ t : Sys Nat, Run false (OkR Wit.Phi Wit.opt Wit.Sol) (OkX Wit.Phi Wit.opt Wit.Sol) (Sys.init Wit.P0 none false 2) t ∧
      AllDone t ∧ t.crit.base.abort = true ∧ t.crit.base.bestLb = 15 ∧ t.crit.base.bestUb = 15 := by
  exact ⟨Wit.w20 ParCrit.abortSearch, Wit.runNow, allDone_of_ws (n := 2) Wit.endNow.1, Wit.endNow.2.1, Wit.endNow.2.2.1,
    Wit.endNow.2.2.2⟩

/-- non-vacuity of `sys_cutoff_bounds_final` (and of `sys_inv`, `sys_solution_feasible`): every hypothesis holds
    for the instance and the aborted run `Wit.runNow` -/
example : (Wit.w20 ParCrit.abortSearch).crit.base.bestLb ≤ Wit.opt ∧ Wit.opt ≤ (Wit.w20 ParCrit.abortSearch).crit.base.bestUb ∧
    (∀ p, (Wit.w20 ParCrit.abortSearch).crit.base.bestSol = some p → Wit.Sol p (Wit.w20 ParCrit.abortSearch).crit.base.bestLb) :=
  sys_cutoff_bounds_final Wit.Phi Wit.opt Wit.Sol false Wit.phiOk (fun _ _ _ h => h) (fun _ _ _ h => h) Wit.runNow Wit.inv0
    (allDone_of_ws (n := 2) Wit.endNow.1) Wit.endNow.2.1

/-- non-vacuity of `sys_complete_optimal`: a one-thread run of the instance reaches a state in which
    `get_workload` answers `Complete`; there the incumbent is `opt = 15` -/
example : Wit.c5.crit.base.bestLb = Wit.opt :=
  (sys_complete_optimal Wit.Phi Wit.opt Wit.Sol
    (sys_inv Wit.Phi Wit.opt Wit.Sol false Wit.phiOk (fun _ _ _ h => h) (fun _ _ _ h => h) Wit.runC Wit.invC0)
    Wit.completesC).1

end Ddo.C03b

#print axioms Ddo.C03b.d4b_witness
#print axioms Ddo.C03b.d4b_fixed
