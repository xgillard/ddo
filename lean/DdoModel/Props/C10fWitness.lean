import DdoModel.Props.C10f
import DdoModel.Proofs.ParDomExec
/-! The instance of `Props/C10f.lean`: the parallel solver with the shared dominance checker on the knapsack rule of the `ddo` documentation. -/
set_option linter.unusedSectionVars false
set_option linter.unusedVariables false
namespace Ddo.C10f
open Ddo Ddo.Truth Ddo.Closed Ddo.ParSys Ddo.ParClosed Ddo.C10 Ddo.ParDom
open Ddo.C01 (SolverCfg WellFormed toOut SolOf)
variable {S K : Type} [DecidableEq S] [DecidableEq K]

/-! ## non-vacuity: the knapsack rule of the `ddo` documentation -/
namespace Kp
open Ddo.C10.Kp

/-- on the knapsack instance of `Props/C10b.lean` (optimum 6, `Kp.simAdmissible`; the checker really prunes: `Kp.prunes_in_layer`,
    `Kp.prunes_across`), any width ≥ 1, either fringe, either cut-set kind, any number of workers ≥ 1, every interleaving: nothing
    panics, `Complete` and the return of `maximize()` report 6, and a complete run exists -/
theorem par_correct (w : Nat) (hw : 1 ≤ w) (dedup : Bool) (kind : CutsetKind) (U : Nat) (hU : 1 ≤ U) :
    (∀ t, GRun (dv w dedup kind).sv.dedup (okRL (dv w dedup kind)) (okXL (dv w dedup kind))
        (Sys.init (dv w dedup kind).sv.P none (dv w dedup kind).sv.dedup U) t →
      NoCrash t ∧ (∀ i, CompletesAt t i → t.crit.complete.base.completion = (true, some 6)) ∧
      (AllDone t → t.crit.base.completion = (true, some 6))) ∧
    (∃ t, GRun (dv w dedup kind).sv.dedup (okRL (dv w dedup kind)) (okXL (dv w dedup kind))
        (Sys.init (dv w dedup kind).sv.P none (dv w dedup kind).sv.dedup U) t ∧ AllDone t) := by
  obtain ⟨_, _, h3, h4⟩ := parallel_dominance_solver_optimal_L (dv w dedup kind) H 5 20 6 (wellFormed w hw dedup kind) opt6
    undomOpt U hU
  refine ⟨fun t ht => ?_, h4⟩
  obtain ⟨_, b, c, d, _⟩ := h3 t ht
  exact ⟨b.1, fun i hc => (c i hc).2.2.2, fun hd => (d hd).2.2⟩

end Kp

end Ddo.C10f

#print axioms Ddo.C10f.Kp.par_correct
#print axioms Ddo.ParDom.nextL_step
#print axioms Ddo.ParDom.Kp2.complete_run
#print axioms Ddo.ParDom.Kq.mid_obs
#print axioms Ddo.ParDom.Kq.mid_obs_other
#print axioms Ddo.ParDom.Kq.complete_run
#print axioms Ddo.ParDom.Kq.overlap_run
