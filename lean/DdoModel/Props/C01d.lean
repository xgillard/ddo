import DdoModel.Proofs.SolverCfg
import DdoModel.Props.C01t
/-! # C01 (closed) — the sequential solver over the diagram model returns the optimum, no contract hypothesis left

`Props/C01.lean` … `Props/C01t.lean` prove the coverage invariant, partial correctness and termination of the sequential
branch-and-bound for *any* diagram meeting the contracts `CompileOk` / `CutsetOk`; `Props/C01c.lean` discharges `CompileOk` from the
compilation model `DdoModel/Mdd.lean`, `Proofs/SolverCfg.lean` discharges `CutsetOk` (`cutsetOk_relaxed`: `good`, `sub` from C08 (i); `ub` =
C08 (iii); `cover` = C08 (iv); `enqueue_cutset` does not cap the bounds by the parent's — repair of D14 — so the cut-set is used as the
diagram hands it out).  Here the composition is closed for the concrete solver of `Proofs/SolverCfg.lean` (`CStep`: pop a maximal node `N`,
`afterPop`, restricted compilation, relaxed compilation with the updated incumbent, `process`; `EmptyCache`, no dominance checker, no cutoff).

The loop invariant `CInv` is the coverage invariant `Inv` of C01 **plus** what the diagram theorems need at every node: every open sub-problem
is reached exactly (`Reach`) by a permutation of its path with exactly its value; the incumbent is `isize::MIN` or the value of the stored
solution; no abort.  It is preserved by a turn (a), gives partial correctness at the empty fringe (b), the step relation terminates on it (c),
a turn is always possible from a non-empty fringe (no compilation crashes) and the `open_by_layer` bookkeeping stays exact (`LInv`, hence
`crashed = false`): the headline `sequential_solver_correct` (d).  `solveLoop`, the loop as a fuel-driven function with the deterministic pop
`popMax`, is a run of `CStep` and computes the optimum (`solveLoop_computes_opt`).  Non-vacuity (`Tiny3`, `Trap`) and the counter-example
`NoNvBound`: `Props/C01dWitness.lean`.

## hypotheses of the headline (`WellFormed sv H B0 B`)

* `Potential P H`, `RubOk R H`, `MergeOk R H`, `AttMerge P R H` — as in C06–C08;
* `RunBound P R B0 B` — `NoClamp P R P.initVal B` (the hypothesis of C06–C08 at the root) **and** a finer bound `B0` on the initial
  value and on the single transition costs with `(nbVars + 1) · B0 ≤ B`.  C06–C08 need `NoClamp P R N.value B` at the root `N` of
  every compilation; the value of a sub-problem at depth `k` is only bounded by `(k + 1) · B0`, so `NoClamp … P.initVal B` alone
  does not give it (`RunBound.noClamp_at`);
* `NvBound P` — `next_variable` answers `None` from depth `nb_variables` on.  **Not guaranteed by the Rust code** (nothing checks
  it): it bounds the depth of every sub-problem by `nb_variables`, which the solver needs to index
  `open_by_layer : vec![0; nb_variables + 1]` (index out of bounds for a cut-set node deeper than `nb_variables`), the compilation
  model needs for its fuel `nb_variables + 2` (`compile_no_crash`), and the magnitude argument above needs for
  `(k + 1) · B0 ≤ B`.  Counter-example without it: `NoNvBound.counter` (every other hypothesis holds, the first compilation of
  the model ends with `.crash`);
* `1 ≤ sv.width N` for every `N`.

The per-node side conditions of the diagram theorems (`InI lb`, `lb < iMax`, `hroot`, `hperm`, `NoClamp` at `N.value`, `hO`)
are all **derived** from `CInv` and `WellFormed` (`cinv_lb_range`, `RunBound.noClamp_at`, `CInvAt.nodes`).

The relaxed compilation is read through its `must` result (`(compile …).2.1`); for the `may` result `CompileOk.sound` is false
(`Ddo.C06.Tie.finding`), see `Props/C01c.lean`. -/
set_option linter.unusedSectionVars false
set_option linter.unusedVariables false
namespace Ddo.C01
open Ddo Ddo.Truth Ddo.Closed
variable {S : Type} [DecidableEq S]

theorem process_inv_closed {K : Type} [DecidableEq K] (dedup : Bool) (H : Nat → S → EInt) (B opt : Int) (p0 : List Dec)
    (cR cX : Cfg S K) (cache : Cache S) (store : DomStore S K) (polls polls' : Nat)
    (st : SeqSt S) (N : SubP S)
    (hPR : cX.P = cR.P) (hNR : cR.root = N) (hNX : cX.root = N)
    (hlbR : cR.lb = st.bestLb)
    (hlbX : cX.lb = (st.updateBest (toOut (compile cR cache store polls none).2.1)).bestLb)
    (hres : cR.ctype = .restricted) (hrel : cX.ctype = .relaxed)
    (hcR : cR.useCache = false) (hdR : cR.dom = none) (hcX : cX.useCache = false) (hdX : cX.dom = none) (hW : 1 ≤ cX.width)
    (hP : Potential cR.P H) (hRR : RubOk cR.R H) (hRX : RubOk cX.R H) (hM : MergeOk cX.R H)
    (hAM : Cover.AttMerge cX.P cX.R H)
    (hBR : NoClamp cR.P cR.R cR.root.value B) (hBX : NoClamp cX.P cX.R cX.root.value B)
    (hlbR1 : InI cR.lb) (hlbR2 : cR.lb < iMax) (hlbX1 : InI cX.lb) (hlbX2 : cX.lb < iMax)
    (hroot : Reach cR.P N.depth N.state N.value p0) (hperm : N.path.Perm p0)
    (hopt : (H 0 cR.P.init).addI cR.P.initVal = some opt)
    (hokR : (compile cR cache store polls none).1 = .ok) (hokX : (compile cX cache store polls' none).1 = .ok)
    (hinv : Inv (optOf H) opt (SolOf cR.P) (N :: st.fringe) st.bestLb st.bestSol) :
    Inv (optOf H) opt (SolOf cR.P)
      (st.process dedup N true (.ok (toOut (compile cR cache store polls none).2.1))
        (.ok (toOut (compile cX cache store polls' none).2.1))).1.fringe
      (st.process dedup N true (.ok (toOut (compile cR cache store polls none).2.1))
        (.ok (toOut (compile cX cache store polls' none).2.1))).1.bestLb
      (st.process dedup N true (.ok (toOut (compile cR cache store polls none).2.1))
        (.ok (toOut (compile cX cache store polls' none).2.1))).1.bestSol := by
  have h1 := compileOk_restricted cR H B opt p0 cache store polls hres hcR hdR hP hRR hBR hlbR1 hlbR2
    (by rw [hNR]; exact hroot) (by rw [hNR]; exact hperm) hopt hokR
  have h2 := compileOk_relaxed cX H B opt p0 cache store polls' hrel hcX hdX hW (hPR ▸ hP) hRX hM hAM hBX hlbX1 hlbX2
    (by rw [hNX, hPR]; exact hroot) (by rw [hNX]; exact hperm) (by rw [hPR]; exact hopt) hokX
  have h3 := cutsetOk_relaxed cX H B opt p0 cache store polls' none hrel hcX hdX hW (hPR ▸ hP) hRX hM hAM hBX hlbX1 hlbX2
    (by rw [hNX, hPR]; exact hroot) (by rw [hPR]; exact hopt) hokX _ (.inl rfl)
  rw [hNR, hlbR] at h1
  rw [hNX, hlbX, hPR] at h2
  rw [hNX, hlbX] at h3
  exact C01b.process_inv_any (optOf H) opt (SolOf cR.P) dedup (phiMono_of_potential H) st N _ _ hinv h1 h2 (fun _ => h3)

section
variable {sv : SolverCfg S} {H : Nat → S → EInt} {B0 B : Int}

theorem cinv_lb_le (hwf : WellFormed sv H B0 B)
    {open_ : List (SubP S)} {lb : Int} {sol : Option (List Dec)} {abort : Bool} (hI : CInvAt sv H open_ lb sol abort) :
    lb ≤ B := by
  cases hopt : (H 0 sv.P.init).addI sv.P.initVal with
  | none =>
    have := (hI.infeas hopt).1
    have := hwf.bound.clamp.nonneg
    simp only [iMin] at *; omega
  | some opt =>
    have := (hI.feas opt hopt).lbOk
    have := (opt_bound hwf.pot hwf.nv hwf.bound hopt).2
    omega

/-- **the side conditions `InI lb`, `lb < iMax` of the diagram theorems follow from the invariant** -/
theorem cinv_lb_range (hwf : WellFormed sv H B0 B)
    {open_ : List (SubP S)} {lb : Int} {sol : Option (List Dec)} {abort : Bool} (hI : CInvAt sv H open_ lb sol abort) :
    InI lb ∧ lb < iMax :=
  inI_of_le hI.lbLo (cinv_lb_le hwf hI) hwf.bound.B_small

/-- a reached node is not deeper than `nb_variables`, so neither of its compilations panics, whatever incumbent, cache,
    store and poll counter it is started with -/
theorem WellFormed.no_crash (hwf : WellFormed sv H B0 B) {N : SubP S} (hN : NodeOk sv.P N) (ct : CompType) (lb : Int)
    (cache : Cache S) (store : DomStore S Unit) (polls : Nat) :
    (compile (sv.cfg ct N lb) cache store polls none).1 = .ok :=
  let ⟨_, hroot, _⟩ := hN
  compile_no_crash _ cache store polls rfl rfl (hwf.width N) hwf.nv (reach_depth_le hwf.nv hroot)

theorem WellFormed.turn_ok (hwf : WellFormed sv H B0 B) {N : SubP S} (hN : NodeOk sv.P N) (st : SeqSt S)
    (cache cache' : Cache S) (store store' : DomStore S Unit) (polls polls' : Nat) :
    sv.outR cache store polls N st.bestLb = .ok ∧ sv.outX cache' store' polls' N (sv.lb1 st N cache store polls) = .ok :=
  ⟨hwf.no_crash hN _ _ _ _ _, hwf.no_crash hN _ _ _ _ _⟩

/-- the cut-set of a relaxed compilation of a reached node: reached nodes (C08 (i)), strictly deeper (C08 (ii)), not deeper
    than `nb_variables` -/
theorem cutset_nodeOk (hwf : WellFormed sv H B0 B) {N : SubP S} (hN : NodeOk sv.P N) (cache : Cache S)
    (store : DomStore S Unit) (polls : Nat) (lb : Int) (hokX : sv.outX cache store polls N lb = .ok) :
    ∀ c ∈ (toOut (sv.resX cache store polls N lb)).cutset, NodeOk sv.P c ∧ N.depth < c.depth ∧ c.depth ≤ sv.P.nbVars := by
  obtain ⟨p0, hroot, hperm⟩ := hN
  intro c hc
  have h := cutset_node_facts (sv.cfg .relaxed N lb) B p0 cache store polls none hwf.nv hroot hperm
    (hwf.bound.noClamp_at hwf.nv hroot) hokX _ (.inl rfl) c hc
  exact ⟨h.1, h.2.1 rfl, h.2.2⟩

/-- `process_one_node` preserves the loop invariant for any two answers `r`, `x` that report a solution with every value,
    hand out reached nodes, meet the contracts of C01 when the problem is feasible and report nothing when it is not -/
theorem process_cinv (st : SeqSt S) (N : SubP S) (r x : DDOut S)
    (hI : CInvAt sv H (N :: st.fringe) st.bestLb st.bestSol st.abort)
    (eR : ∀ w, r.bestExact = some w → ∃ p, r.bestExactSol = some p)
    (eX : ∀ w, x.bestExact = some w → ∃ p, x.bestExactSol = some p)
    (hcs : ∀ c ∈ x.cutset, NodeOk sv.P c)
    (hfeas : ∀ opt, (H 0 sv.P.init).addI sv.P.initVal = some opt →
      CompileOk (optOf H) opt (SolOf sv.P) N st.bestLb r ∧
      CompileOk (optOf H) opt (SolOf sv.P) N (st.updateBest r).bestLb x ∧
      CutsetOk (optOf H) opt N (st.updateBest r).bestLb x)
    (hinf : (H 0 sv.P.init).addI sv.P.initVal = none → r.bestExact = none ∧ x.bestExact = none) :
    CInv sv H (st.process sv.dedup N true (.ok r) (.ok x)).1 := by
  have a1 := updateBest_solLb st r eR hI.solLb
  have a2 := updateBest_solLb (st.updateBest r) x eX a1
  refine ⟨?_, Int.le_trans hI.lbLo (C05.process_lb_mono _ _ _ _ _ _), ?_, (process_abort _ _ _ _ _ _).trans hI.noAbort,
    fun opt hopt => ?_, fun hi => ?_⟩
  · exact process_forall (NodeOk sv.P) (nodeOk_ub sv.P) sv.dedup st N true _ _
      (fun c hc => hI.nodes c (List.mem_cons_of_mem _ hc)) (fun o ho => DDRes.ok.inj ho ▸ hcs)
  · rcases process_lb_sol sv.dedup st N true r x with ⟨e1, e2⟩ | ⟨e1, e2⟩ | ⟨e1, e2⟩ <;> rw [e1, e2]
    · exact hI.solLb
    · exact a1
    · exact a2
  · obtain ⟨h1, h2, h3⟩ := hfeas opt hopt
    exact C01b.process_inv_any (optOf H) opt (SolOf sv.P) sv.dedup (phiMono_of_potential H) st N r x (hI.feas opt hopt)
      h1 h2 (fun _ => h3)
  · have u1 := updateBest_none st r (hinf hi).1
    have u2 := (updateBest_none (st.updateBest r) x (hinf hi).2).trans u1
    rcases process_lb_sol sv.dedup st N true r x with ⟨e1, e2⟩ | ⟨e1, e2⟩ | ⟨e1, e2⟩ <;> rw [e1, e2]
    · exact hI.infeas hi
    · exact u1.symm ▸ hI.infeas hi
    · exact u2.symm ▸ hI.infeas hi

/-- **the invariant is preserved by `process_one_node` over the diagram model** (`st` = the popped state, `N` in hand) -/
theorem turn_cinv (hwf : WellFormed sv H B0 B)
    (st : SeqSt S) (N : SubP S) (cache cache' : Cache S) (store store' : DomStore S Unit) (polls polls' : Nat)
    (hI : CInvAt sv H (N :: st.fringe) st.bestLb st.bestSol st.abort)
    (hokR : sv.outR cache store polls N st.bestLb = .ok)
    (hokX : sv.outX cache' store' polls' N (sv.lb1 st N cache store polls) = .ok) :
    CInv sv H (sv.turn st N cache cache' store store' polls polls') := by
  obtain ⟨p0, hroot, hperm⟩ := hI.nodes N List.mem_cons_self
  have hBN : NoClamp sv.P sv.R N.value B := hwf.bound.noClamp_at hwf.nv hroot
  obtain ⟨hlb1, hlb2⟩ := cinv_lb_range hwf hI
  -- what the two compilations report, optimum-free
  have sR := fun w hw => isSol_restricted (sv.cfg .restricted N st.bestLb) B p0 cache store polls none rfl hBN hroot hokR w hw
  have sX := fun w hw => isSol_relaxed (sv.cfg .relaxed N (sv.lb1 st N cache store polls)) B p0 cache' store' polls' rfl rfl rfl
    (hwf.width N) hBN hroot hokX w hw
  have hl1 : InI (sv.lb1 st N cache store polls) ∧ sv.lb1 st N cache store polls < iMax :=
    inI_of_le (Int.le_trans hI.lbLo (updateBest_lb_ge st _))
      (updateBest_le st _ B (fun w hw => (isSol_le hwf _ rfl p0 w _ (sR w hw)).1) (cinv_lb_le hwf hI)) hwf.bound.B_small
  have hdead := fun hi => reach_dead hwf.pot hi hroot
  refine process_cinv st N _ _ hI (fun w hw => (isSol_le hwf _ rfl p0 w _ (sR w hw)).2)
    (fun w hw => (isSol_le hwf _ rfl p0 w _ (sX w hw)).2)
    (fun c hc => (cutset_nodeOk hwf (hI.nodes N List.mem_cons_self) cache' store' polls' _ hokX c hc).1)
    (fun opt hopt => ⟨?_, ?_, ?_⟩) (fun hi => ⟨?_, ?_⟩)
  · exact compileOk_restricted (sv.cfg .restricted N st.bestLb) H B opt p0 cache store polls rfl rfl rfl hwf.pot hwf.rub hBN
      hlb1 hlb2 hroot hperm hopt hokR
  · exact compileOk_relaxed (sv.cfg .relaxed N (sv.lb1 st N cache store polls)) H B opt p0 cache' store' polls' rfl rfl rfl
      (hwf.width N) hwf.pot hwf.rub hwf.merge hwf.attMerge hBN hl1.1 hl1.2 hroot hperm hopt hokX
  · exact cutsetOk_relaxed (sv.cfg .relaxed N (sv.lb1 st N cache store polls)) H B opt p0 cache' store' polls' none rfl rfl rfl
      (hwf.width N) hwf.pot hwf.rub hwf.merge hwf.attMerge hBN hl1.1 hl1.2 hroot hopt hokX _ (.inl rfl)
  · cases hb : (toOut (sv.resR cache store polls N st.bestLb)).bestExact with
    | none => rfl
    | some w =>
      obtain ⟨x, hx, _⟩ := within_of_isSol (sv.cfg .restricted N st.bestLb) H p0 hwf.pot hroot w _ (sR w hb)
      exact nomatch (hdead hi).symm.trans hx
  · cases hb : (toOut (sv.resX cache' store' polls' N (sv.lb1 st N cache store polls))).bestExact with
    | none => rfl
    | some w =>
      obtain ⟨x, hx, _⟩ := within_of_isSol (sv.cfg .relaxed N (sv.lb1 st N cache store polls)) H p0 hwf.pot hroot w _
        (sX w hb)
      exact nomatch (hdead hi).symm.trans hx

theorem popped_cinv {s : SeqSt S} (N : SubP S) (rest : List (SubP S)) (fa : Nat)
    (hpop : s.fringe.Perm (N :: rest)) (hI : CInv sv H s) :
    CInvAt sv H (N :: (popped s N rest fa).fringe) (popped s N rest fa).bestLb (popped s N rest fa).bestSol
      (popped s N rest fa).abort := by
  unfold popped
  rw [C01t.afterPop_fringe, (C01t.afterPop_lb_sol _ N).1, (C01t.afterPop_lb_sol _ N).2, afterPop_abort]
  exact ⟨fun c hc => hI.nodes c (hpop.mem_iff.mpr hc), hI.lbLo, hI.solLb, hI.noAbort,
    fun opt hopt => C01t.inv_of_mem (optOf H) opt (SolOf sv.P) (fun c hc => hpop.mem_iff.mpr hc)
      (fun c hc => hpop.mem_iff.mp hc) (hI.feas opt hopt), hI.infeas⟩

/-- **(a) `CInv` is a loop invariant of the concrete solver** -/
theorem cstep_inv (hwf : WellFormed sv H B0 B) {s t : SeqSt S}
    (h : CStep sv s t) (hI : CInv sv H s) : CInv sv H t := by
  cases h with
  | pop N rest fa cache cache' store store' polls polls' hpop hmax hokR hokX =>
    exact turn_cinv hwf _ N cache cache' store store' polls polls' (popped_cinv N rest fa hpop hI) hokR hokX

theorem crun_inv {sv : SolverCfg S} {H : Nat → S → EInt} {B0 B : Int} (hwf : WellFormed sv H B0 B) {s t : SeqSt S}
    (h : CRun sv s t) (hI : CInv sv H s) : CInv sv H t := by
  induction h with
  | refl => exact hI
  | tail _ hstep ih => exact cstep_inv hwf hstep ih

theorem init_cinv (hwf : WellFormed sv H B0 B) :
    CInv sv H (SeqSt.init sv.P none sv.dedup) := by
  unfold CInv
  rw [init_fringe]
  refine ⟨?_, Int.le_refl _, fun _ => rfl, rfl, ?_, fun _ => ⟨rfl, rfl⟩⟩
  · intro c hc
    rcases List.mem_cons.mp hc with e | e
    · subst e; exact ⟨[], Reach.root, List.Perm.refl _⟩
    · cases e
  · intro opt hopt
    exact init_inv (optOf H) opt (SolOf sv.P) _ iMin none
      (fun x hx => Int.le_of_eq (Option.some.inj (hopt.symm.trans hx)).symm) rfl (Int.le_of_lt (hwf.opt_range hopt).2)
      (Int.le_of_lt (hwf.opt_range hopt).1) (fun p hp => nomatch hp) (fun _ => hopt)

/-- **(b) partial correctness**: a state that satisfies the invariant and has an empty fringe (`get_workload` answers
    `Complete`) reports the optimum with a feasible solution of that value — or nothing iff the problem is infeasible;
    `is_exact` is reported in both cases -/
theorem cinv_end_correct (hwf : WellFormed sv H B0 B) {t : SeqSt S}
    (hI : CInv sv H t) (hend : t.fringe = []) :
    (∀ opt, (H 0 sv.P.init).addI sv.P.initVal = some opt →
      t.bestLb = opt ∧ (∃ p, t.bestSol = some p ∧ SolOf sv.P p opt) ∧ t.completion = (true, some opt)) ∧
    ((H 0 sv.P.init).addI sv.P.initVal = none → t.bestSol = none ∧ t.completion = (true, none)) := by
  have hab : t.abort = false := hI.noAbort
  constructor
  · intro opt hopt
    have hinv := hI.feas opt hopt
    rw [hend] at hinv
    obtain ⟨h1, h2⟩ := complete_optimal (optOf H) opt (SolOf sv.P) t.bestLb t.bestSol hinv
    cases hs : t.bestSol with
    | none => exact absurd (h1.symm.trans (hI.solLb hs)) (Int.ne_of_gt (hwf.opt_range hopt).1)
    | some p =>
      refine ⟨h1, ⟨p, rfl, h2 p hs⟩, ?_⟩
      unfold SeqSt.completion
      rw [hab, hs, h1]; rfl
  · intro hinf
    obtain ⟨_, h2⟩ := hI.infeas hinf
    refine ⟨h2, ?_⟩
    unfold SeqSt.completion
    rw [hab, h2]; rfl

theorem crun_end_correct {sv : SolverCfg S} {H : Nat → S → EInt} {B0 B : Int} (hwf : WellFormed sv H B0 B) {t : SeqSt S}
    (h : CRun sv (SeqSt.init sv.P none sv.dedup) t) (hend : t.fringe = []) :
    (∀ opt, (H 0 sv.P.init).addI sv.P.initVal = some opt →
      t.bestLb = opt ∧ (∃ p, t.bestSol = some p ∧ SolOf sv.P p opt) ∧ t.completion = (true, some opt)) ∧
    ((H 0 sv.P.init).addI sv.P.initVal = none → t.bestSol = none ∧ t.completion = (true, none)) :=
  cinv_end_correct hwf (crun_inv hwf h (init_cinv hwf)) hend

/-- under the invariant a turn of the concrete loop is a `Step` of `Props/C01t.lean`: the cut-set nodes are strictly
    deeper than the popped node (C08 (ii)) and not deeper than `nb_variables` (C08 (i) + `NvBound`) -/
theorem cstep_step (hwf : WellFormed sv H B0 B) {s t : SeqSt S}
    (hI : CInv sv H s) (h : CStep sv s t) : C01t.Step sv.P.nbVars sv.dedup s t := by
  cases h with
  | pop N rest fa cache cache' store store' polls polls' hpop hmax hokR hokX =>
    refine C01t.Step.pop s N rest fa true _ _ hpop fun o ho c hc => ?_
    cases ho
    exact (cutset_nodeOk hwf (hI.nodes N (hpop.mem_iff.mpr List.mem_cons_self)) cache' store' polls' _ hokX c hc).2

/-- **(c) termination**: the concrete step relation, on the states that satisfy the invariant (all reachable states do), is
    well-founded -/
theorem cstep_terminates {sv : SolverCfg S} {H : Nat → S → EInt} {B0 B : Int} (hwf : WellFormed sv H B0 B) :
    WellFounded (fun t s : SeqSt S => CInv sv H s ∧ CStep sv s t) :=
  Subrelation.wf (fun {_ _} h => cstep_step hwf h.1 h.2) (C01t.seq_terminates sv.P.nbVars sv.dedup)

theorem no_infinite_crun {sv : SolverCfg S} {H : Nat → S → EInt} {B0 B : Int} (hwf : WellFormed sv H B0 B)
    (run : Nat → SeqSt S) (h0 : run 0 = SeqSt.init sv.P none sv.dedup) : ¬ ∀ n, CStep sv (run n) (run (n + 1)) :=
  no_infinite_run_of (cstep_terminates hwf) (fun hI hs => cstep_inv hwf hs hI) And.intro run (h0 ▸ init_cinv hwf)

/-- **no crash**: from a state that satisfies the invariant and still has open sub-problems a turn of the loop is possible —
    a maximal node can be popped and both compilations end normally -/
theorem cstep_progress {sv : SolverCfg S} {H : Nat → S → EInt} {B0 B : Int} (hwf : WellFormed sv H B0 B) {s : SeqSt S}
    (hI : CInv sv H s) (hne : s.fringe ≠ []) (fa : Nat) (cache cache' : Cache S) (store store' : DomStore S Unit)
    (polls polls' : Nat) : ∃ t, CStep sv s t := by
  obtain ⟨N, rest, hp⟩ := popMax_some s.fringe hne
  obtain ⟨hpop, hmax⟩ := popMax_spec s.fringe N rest hp
  have hN := hI.nodes N (hpop.mem_iff.mpr List.mem_cons_self)
  obtain ⟨hokR, hokX⟩ := hwf.turn_ok hN (popped s N rest fa) cache cache' store store' polls polls'
  exact ⟨_, CStep.pop s N rest fa cache cache' store store' polls polls' hpop hmax hokR hokX⟩

/-- the bookkeeping invariant is preserved by a turn of the loop (the depth of the popped node and of the cut-set nodes is
    at most `nb_variables`: C08 (i) + `NvBound`) -/
theorem cstep_linv (hwf : WellFormed sv H B0 B) {s t : SeqSt S}
    (h : CStep sv s t) (hI : CInv sv H s) (hL : LInv sv s) : LInv sv t := by
  cases h with
  | pop N rest fa cache cache' store store' polls polls' hpop hmax hokR hokX =>
    have hN := hI.nodes N (hpop.mem_iff.mpr List.mem_cons_self)
    have hd : N.depth ≤ sv.P.nbVars := let ⟨_, hroot, _⟩ := hN; reach_depth_le hwf.nv hroot
    obtain ⟨h1, h2⟩ := afterPop_layers sv.P.nbVars s N rest fa hd hpop hL.1
    obtain ⟨h3, h4⟩ := process_layers sv.P.nbVars sv.dedup (popped s N rest fa) N true
      (toOut (sv.resR cache store polls N (popped s N rest fa).bestLb)) _
      (fun c hc => (cutset_nodeOk hwf hN cache' store' polls' _ hokX c hc).2.2) h1
    exact ⟨h3, h4.trans (h2.trans hL.2)⟩

theorem crun_linv (hwf : WellFormed sv H B0 B) {s t : SeqSt S}
    (h : CRun sv s t) (hI : CInv sv H s) (hL : LInv sv s) : LInv sv t := by
  induction h with
  | refl => exact hL
  | tail hrun hstep ih => exact cstep_linv hwf hstep (crun_inv hwf hrun hI) ih

end

/-- **`sequential_solver_correct`**: for every well-formed model (`WellFormed`: `Potential`, `RubOk`, `MergeOk`, `AttMerge`,
    `RunBound` = `NoClamp` at the root + `(nbVars + 1) · B0 ≤ B`, `NvBound`, widths ≥ 1), every ranking, width function,
    cut-set kind and either fringe, the sequential solver over the diagram model (`EmptyCache`, no dominance, no cutoff)

    * terminates: the step relation is well-founded on the reachable states, there is no infinite run;
    * never gets stuck before the fringe is empty (no compilation crashes) and never panics in the `open_by_layer`
      bookkeeping (`crashed = false`);
    * when the fringe is empty: reports `is_exact = true` and the optimum, with a stored solution that is a genuinely
      feasible complete path of that value — or reports no value iff the problem is infeasible. -/
theorem sequential_solver_correct (sv : SolverCfg S) (H : Nat → S → EInt) (B0 B : Int) (hwf : WellFormed sv H B0 B) :
    WellFounded (fun t s : SeqSt S => CRun sv (SeqSt.init sv.P none sv.dedup) s ∧ CStep sv s t) ∧
    (∀ run : Nat → SeqSt S, run 0 = SeqSt.init sv.P none sv.dedup → ¬ ∀ n, CStep sv (run n) (run (n + 1))) ∧
    ∀ t, CRun sv (SeqSt.init sv.P none sv.dedup) t →
      (t.fringe ≠ [] → ∃ u, CStep sv t u) ∧
      t.crashed = false ∧
      (t.fringe = [] →
        (∀ opt, (H 0 sv.P.init).addI sv.P.initVal = some opt →
          t.bestLb = opt ∧ (∃ p, t.bestSol = some p ∧ SolOf sv.P p opt) ∧ t.completion = (true, some opt)) ∧
        ((H 0 sv.P.init).addI sv.P.initVal = none → t.bestSol = none ∧ t.completion = (true, none))) := by
  refine ⟨?_, fun run h0 => no_infinite_crun hwf run h0, fun t ht => ⟨fun hne => ?_,
    (crun_linv hwf ht (init_cinv hwf) (init_linv sv)).2, fun hend => crun_end_correct hwf ht hend⟩⟩
  · exact Subrelation.wf (fun {_ _} h => ⟨crun_inv hwf h.1 (init_cinv hwf), h.2⟩) (cstep_terminates hwf)
  · exact cstep_progress hwf (crun_inv hwf ht (init_cinv hwf)) hne 0 (Cache.init sv.P.nbVars) (Cache.init sv.P.nbVars)
      (DomStore.init sv.P.nbVars) (DomStore.init sv.P.nbVars) 0 0

theorem CRun.head {sv : SolverCfg S} {s t u : SeqSt S} (h1 : CStep sv s t) (h2 : CRun sv t u) : CRun sv s u := by
  induction h2 with
  | refl => exact CRun.tail (CRun.refl _) h1
  | tail _ hstep ih => exact CRun.tail ih hstep

/-- the loop of `maximize` as a function: `get_workload` (cache-cleaning loop, pop of a maximal node — `popMax`, the first
    maximal one in the list —, `afterPop`), `process_one_node` over the diagram model with the empty cache / store; stops when the
    fringe is empty, when the fuel runs out, or when a compilation does not end normally -/
def SolverCfg.solveLoop (sv : SolverCfg S) : Nat → SeqSt S → SeqSt S
  | 0, s => s
  | n + 1, s =>
    match popMax s.fringe with
    | none => s
    | some (N, rest) =>
      let st := popped s N rest (cleanLoop sv.P.nbVars s.openByLayer sv.P.nbVars s.firstActive)
      let c : Cache S := Cache.init sv.P.nbVars
      let d : DomStore S Unit := DomStore.init sv.P.nbVars
      if sv.outR c d 0 N st.bestLb = .ok ∧ sv.outX c d 0 N (sv.lb1 st N c d 0) = .ok then
        sv.solveLoop n (sv.turn st N c c d d 0 0)
      else s

theorem solveLoop_run (sv : SolverCfg S) : ∀ (n : Nat) (s : SeqSt S), CRun sv s (sv.solveLoop n s) := by
  intro n
  induction n with
  | zero => intro s; exact CRun.refl s
  | succ n ih =>
    intro s
    unfold SolverCfg.solveLoop
    cases hp : popMax s.fringe with
    | none => exact CRun.refl s
    | some Nr =>
      obtain ⟨N, rest⟩ := Nr
      obtain ⟨hpop, hmax⟩ := popMax_spec s.fringe N rest hp
      simp only
      split
      · next hok =>
        exact CRun.head (CStep.pop s N rest _ _ _ _ _ 0 0 hpop hmax hok.1 hok.2) (ih _)
      · exact CRun.refl s

/-- with a well-formed model the fuel-driven loop only stops on the empty fringe or for lack of fuel; whenever it returns a
    state with an empty fringe that state is correct -/
theorem solveLoop_correct (sv : SolverCfg S) (H : Nat → S → EInt) (B0 B : Int) (hwf : WellFormed sv H B0 B) (n : Nat)
    (hend : (sv.solveLoop n (SeqSt.init sv.P none sv.dedup)).fringe = []) :
    (∀ opt, (H 0 sv.P.init).addI sv.P.initVal = some opt →
      (sv.solveLoop n (SeqSt.init sv.P none sv.dedup)).completion = (true, some opt) ∧
      ∃ p, (sv.solveLoop n (SeqSt.init sv.P none sv.dedup)).bestSol = some p ∧ SolOf sv.P p opt) ∧
    ((H 0 sv.P.init).addI sv.P.initVal = none →
      (sv.solveLoop n (SeqSt.init sv.P none sv.dedup)).completion = (true, none)) := by
  obtain ⟨h1, h2⟩ := crun_end_correct hwf (solveLoop_run sv n _) hend
  exact ⟨fun opt hopt => ⟨(h1 opt hopt).2.2, (h1 opt hopt).2.1⟩, fun hinf => (h2 hinf).2⟩

/-- **total correctness of the fuel-driven loop**: with a well-formed model, from any state that satisfies the invariant, enough
    fuel brings the loop to the empty fringe (termination `cstep_terminates` + no crash `compile_no_crash`) -/
theorem solveLoop_total {sv : SolverCfg S} {H : Nat → S → EInt} {B0 B : Int} (hwf : WellFormed sv H B0 B) (s : SeqSt S) :
    CInv sv H s → ∃ n, (sv.solveLoop n s).fringe = [] := by
  refine (cstep_terminates hwf).induction (C := fun s => CInv sv H s → ∃ n, (sv.solveLoop n s).fringe = []) s ?_
  intro s ih hI
  by_cases hne : s.fringe = []
  · exact ⟨0, hne⟩
  · obtain ⟨N, rest, hp⟩ := popMax_some s.fringe hne
    obtain ⟨hpop, hmax⟩ := popMax_spec s.fringe N rest hp
    have hN := hI.nodes N (hpop.mem_iff.mpr List.mem_cons_self)
    have hok := hwf.turn_ok hN (popped s N rest (cleanLoop sv.P.nbVars s.openByLayer sv.P.nbVars s.firstActive))
      (Cache.init sv.P.nbVars) (Cache.init sv.P.nbVars) (DomStore.init sv.P.nbVars) (DomStore.init sv.P.nbVars) 0 0
    have hstep := CStep.pop s N rest _ _ _ _ _ 0 0 hpop hmax hok.1 hok.2
    obtain ⟨n, hn⟩ := ih _ ⟨hI, hstep⟩ (cstep_inv hwf hstep hI)
    refine ⟨n + 1, ?_⟩
    rw [SolverCfg.solveLoop]
    simp only [hp]
    exact (if_pos hok).symm ▸ hn

/-- **the sequential solver, as a function, computes the optimum**: for some amount of fuel the loop started from
    `initialize` ends with the empty fringe, and then reports `is_exact = true` and the optimum with a feasible solution of that
    value — or no value iff the problem is infeasible -/
theorem solveLoop_computes_opt (sv : SolverCfg S) (H : Nat → S → EInt) (B0 B : Int) (hwf : WellFormed sv H B0 B) :
    ∃ n, (sv.solveLoop n (SeqSt.init sv.P none sv.dedup)).fringe = [] ∧
      (sv.solveLoop n (SeqSt.init sv.P none sv.dedup)).crashed = false ∧
      (∀ opt, (H 0 sv.P.init).addI sv.P.initVal = some opt →
        (sv.solveLoop n (SeqSt.init sv.P none sv.dedup)).completion = (true, some opt) ∧
        ∃ p, (sv.solveLoop n (SeqSt.init sv.P none sv.dedup)).bestSol = some p ∧ SolOf sv.P p opt) ∧
      ((H 0 sv.P.init).addI sv.P.initVal = none →
        (sv.solveLoop n (SeqSt.init sv.P none sv.dedup)).completion = (true, none)) := by
  obtain ⟨n, hn⟩ := solveLoop_total hwf _ (init_cinv hwf)
  obtain ⟨h1, h2⟩ := solveLoop_correct sv H B0 B hwf n hn
  exact ⟨n, hn, (crun_linv hwf (solveLoop_run sv n _) (init_cinv hwf) (init_linv sv)).2, h1, h2⟩

end Ddo.C01

#print axioms Ddo.C01.cutsetOk_relaxed
#print axioms Ddo.C01.process_inv_closed
#print axioms Ddo.C01.cstep_inv
#print axioms Ddo.C01.crun_end_correct
#print axioms Ddo.C01.cstep_terminates
#print axioms Ddo.C01.cstep_progress
#print axioms Ddo.C01.cstep_linv
#print axioms Ddo.C01.sequential_solver_correct
#print axioms Ddo.C01.solveLoop_run
#print axioms Ddo.C01.solveLoop_correct
#print axioms Ddo.C01.solveLoop_total
#print axioms Ddo.C01.solveLoop_computes_opt
