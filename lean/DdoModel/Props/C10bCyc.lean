import DdoModel.Props.C10b
set_option linter.unusedSectionVars false
set_option linter.unusedVariables false

/-! ## FINDING — value-based admissibility is not sufficient: a model on which enabling the checker loses the optimum

Four binary variables.  States (an integer label): root `0`; depth 1: `Y1 = 1`, `Y2 = 2`; depth 2: `A1 = 11` (child of `Y1`),
`A2 = 12` (child of `Y2`); depth 3: `B1 = 21` (child of `A1`), `B2 = 22` and `D = 23` (children of `A2`, the arc to `D` gains 5);
terminal `30`; `B1 → 30` and `B2 → 30` gain 10, `D → 30` gains 0.  Two optimal solutions of value 10: `σ1 = 0,Y1,A1,B1` and
`σ2 = 0,Y2,A2,B2`; the decoy through `D` is worth 5.

The rule (one coordinate, value used): key 2 = `{A1, A2}` with `A1` better, key 3 = `{B1, B2}` with `B2` better.  It is
admissible in the potential form — every dominated state has a dominating state with an equally good best completion
(`admissibleAll`: all four keyed states have value-to-go 10, feasibility included) — but σ1 is dominated at depth 3 and σ2 at
depth 2 (a *tie*, and the rule is not consistent with the transitions: `A1 ≻ A2` although no child of `A1` matches `B2`).

Width 1, ranking = the label.  The restricted diagram of the root keeps `Y2`, reaches `A2`, records `A2`, `B2` and `D` in the
checker, then `_restrict` drops `B2` in favour of `D`: value 5, not exact.  The relaxed diagram of the root (same checker!)
presents `A1` before `A2` (`A2` is dropped, dominated by `A1`), expands `A1` into `B1`, and `B1` is dropped — dominated by the
entry `B2` recorded by the *restricted* compilation for a node nobody will ever explore.  The layer is empty, nothing was
squashed: the relaxed diagram is "exact", no cut-set, the fringe is empty and the solver reports `is_exact = true`,
`best_value = Some(5)`.  Without the checker it reports 10.

Reproduction with the real library (a crate depending on `ddo` by path): `Problem` with
`nb_variables = 4`, `next_variable(depth) = Variable(depth)` for `depth < 4`, domain `{0, 1}`, the transitions / costs above;
`Relaxation`: `merge = 99`, `relax = cost`, `fast_upper_bound = 10`; `StateRanking`: `a.cmp(b)` on the label; `FixedWidth(1)`;
`Dominance`: `get_key` = `Some(2)` for 11, 12, `Some(3)` for 21, 22, else `None`; `nb_dimensions = 1`; `get_coordinate` = 1 for
11 and 22, else 0; `use_value = true`; `SimpleDominanceChecker::new(Dom, 4)`; `NoCutoff`; `SimpleFringe` / `MaxUB`.  Result:
`is_exact = true, best_value = Some(5)` for `SeqNoCachingSolverLel`, `…Fc`, `…Pooled`, `SeqCachingSolverLel/Fc`,
`ParNoCachingSolverLel` (1 and 4 threads), `ParCachingSolverFc`; `Some(10)` with `EmptyDominanceChecker`. -/
namespace Ddo.C10.Cyc
open Ddo Ddo.C01 Ddo.Closed

def prob : Problem Int :=
  { nbVars := 4, init := 0, initVal := 0,
    trans := fun s d =>
      if s = 0 then (if d.val = 0 then 1 else 2)
      else if s = 1 then 11 else if s = 2 then 12
      else if s = 11 then 21
      else if s = 12 then (if d.val = 0 then 22 else 23)
      else if s = 21 ∨ s = 22 ∨ s = 23 then 30
      else s,
    cost := fun s _ d =>
      if s = 12 then (if d.val = 0 then 0 else 5)
      else if s = 21 ∨ s = 22 then 10
      else if s = 99 ∧ d.var = 3 then 10
      else 0,
    nextVar := fun k _ => if k < 4 then some k else none,
    domain := fun _ _ => [0, 1],
    impacted := fun _ _ => true }
def rlx : Relax Int := { merge := fun _ => 99, relax := fun _ _ _ _ c => c, rub := fun _ => 10 }
def sv (dedup : Bool) (kind : CutsetKind) : SolverCfg Int :=
  { P := prob, R := rlx, rank := ⟨fun a b => icmp a b⟩, width := fun _ => 1, kind := kind, dedup := dedup }
def rule : DomRule Int Int :=
  { key := fun s => if s = 11 ∨ s = 12 then some 2 else if s = 21 ∨ s = 22 then some 3 else none,
    dims := fun _ => 1,
    coord := fun s _ => if s = 11 ∨ s = 22 then 1 else 0,
    useValue := true }
def dv (dedup : Bool) (kind : CutsetKind) : DSolverCfg Int Int := ⟨sv dedup kind, rule⟩

def H (k : Nat) (s : Int) : EInt :=
  if 4 ≤ k then some 0
  else if s = 99 then some 10
  else if (k = 0 ∧ s = 0) ∨ (k = 1 ∧ (s = 1 ∨ s = 2)) ∨ (k = 2 ∧ (s = 11 ∨ s = 12)) ∨ (k = 3 ∧ (s = 21 ∨ s = 22)) then some 10
  else if k = 3 ∧ s = 23 then some 0
  else none

def table : List (Nat × Int) := [(0, 0), (1, 1), (1, 2), (2, 11), (2, 12), (3, 21), (3, 22), (3, 23), (4, 30)]

theorem nv_some {k : Nat} {L : List Int} {x : Nat} (h : prob.nextVar k L = some x) : k < 4 ∧ x = k := by
  simp only [prob] at h
  split at h
  · next hk => cases h; exact ⟨hk, rfl⟩
  · cases h

theorem nv_none {k : Nat} {L : List Int} (h : prob.nextVar k L = none) : 4 ≤ k := by
  simp only [prob] at h
  split at h
  · cases h
  · omega

theorem H_term {k : Nat} (hk : 4 ≤ k) (s : Int) : H k s = some 0 := if_pos hk

theorem step_table : ∀ ks ∈ table, ∀ d ∈ [(0 : Int), 1], ks.1 < 4 → (ks.1 + 1, prob.trans ks.2 ⟨ks.1, d⟩) ∈ table := by decide

theorem reach_table {k : Nat} {s : Int} {v : Int} {p : List Dec} (h : Reach prob k s v p) : (k, s) ∈ table := by
  induction h with
  | root => decide
  | step k s v p L x d _ hnv _ hd ih =>
    obtain ⟨hk, rfl⟩ := nv_some hnv
    exact step_table (_, s) ih d hd hk

theorem le_table : ∀ ks ∈ table, ∀ d ∈ [(0 : Int), 1], ks.1 < 4 →
    (H (ks.1 + 1) (prob.trans ks.2 ⟨ks.1, d⟩)).addI (prob.cost ks.2 (prob.trans ks.2 ⟨ks.1, d⟩) ⟨ks.1, d⟩) ≤ H ks.1 ks.2 := by
  decide

theorem H_some {k : Nat} {s : Int} {h : Int} (hk : k < 4) (hH : H k s = some h) :
    (s = 99 ∧ h = 10) ∨ ((k, s) ∈ table ∧ ((k = 3 ∧ s = 23 ∧ h = 0) ∨ (¬ (k = 3 ∧ s = 23) ∧ h = 10))) := by
  unfold H at hH
  rw [if_neg (by omega)] at hH
  split at hH
  · next h99 => cases hH; exact Or.inl ⟨h99, rfl⟩
  · split at hH
    · next hc =>
      cases hH
      right
      rcases hc with ⟨rfl, rfl⟩ | ⟨rfl, rfl | rfl⟩ | ⟨rfl, rfl | rfl⟩ | ⟨rfl, rfl | rfl⟩ <;>
        exact ⟨by decide, Or.inr ⟨by decide, rfl⟩⟩
    · split at hH
      · next hc =>
        cases hH
        obtain ⟨rfl, rfl⟩ := hc
        exact Or.inr ⟨by decide, Or.inl ⟨rfl, rfl, rfl⟩⟩
      · cases hH

theorem att_table : ∀ ks ∈ table, ks.1 < 4 → ∃ d ∈ [(0 : Int), 1],
    H ks.1 ks.2 ≤ (H (ks.1 + 1) (prob.trans ks.2 ⟨ks.1, d⟩)).addI (prob.cost ks.2 (prob.trans ks.2 ⟨ks.1, d⟩) ⟨ks.1, d⟩) ∧
    (H (ks.1 + 1) (prob.trans ks.2 ⟨ks.1, d⟩)).isSome = true := by
  decide

theorem potential : Potential prob H := by
  refine ⟨?_, ?_, ?_⟩
  · intro k L x s h hnv _ hH
    obtain ⟨hk, rfl⟩ := nv_some hnv
    rcases H_some hk hH with ⟨rfl, rfl⟩ | ⟨ht, _⟩
    · -- the merged state
      have hk4 : x = 0 ∨ x = 1 ∨ x = 2 ∨ x = 3 := by omega
      rcases hk4 with rfl | rfl | rfl | rfl
      · exact ⟨0, by decide, 10, by decide, by decide⟩
      · exact ⟨0, by decide, 10, by decide, by decide⟩
      · exact ⟨0, by decide, 10, by decide, by decide⟩
      · exact ⟨0, by decide, 0, by decide, by decide⟩
    · obtain ⟨d, hd, hle, hsome⟩ := att_table (_, s) ht hk
      refine ⟨d, hd, ?_⟩
      dsimp only at hle hsome
      cases hc : H (x + 1) (prob.trans s ⟨x, d⟩) with
      | none => rw [hc] at hsome; cases hsome
      | some h' =>
        refine ⟨h', rfl, ?_⟩
        rw [hc, hH] at hle
        exact Int.le_trans hle (Int.le_of_eq (Int.add_comm _ _))
  · intro k L x s v p d hr hnv _ hd
    obtain ⟨hk, rfl⟩ := nv_some hnv
    exact le_table (_, s) (reach_table hr) d hd hk
  · intro k L s hnv _
    exact H_term (nv_none hnv) s

theorem H_le10 (k : Nat) (s : Int) (h : Int) (hH : H k s = some h) : 0 ≤ h ∧ h ≤ 10 := by
  by_cases hk : 4 ≤ k
  · rw [H_term hk] at hH
    cases hH
    decide
  · rcases H_some (Nat.lt_of_not_le hk) hH with ⟨_, rfl⟩ | ⟨_, ⟨_, _, rfl⟩ | ⟨_, rfl⟩⟩ <;> decide

theorem rubOk : RubOk rlx H := fun k s h hH => (H_le10 k s h hH).2

theorem mergeOk : MergeOk rlx H := by
  intro k X u src d c h _ hH
  by_cases hk : 4 ≤ k
  · rw [H_term hk] at hH
    cases hH
    exact ⟨0, H_term hk _, Int.le_refl _⟩
  · refine ⟨10, by simp [rlx, H, hk], ?_⟩
    have := (H_le10 k u h hH).2
    simp only [rlx]; omega

theorem nvBound : NvBound prob := fun k L hk => if_neg (Nat.not_lt.mpr hk)

theorem costBound (s s' : Int) (d : Dec) : -10 ≤ prob.cost s s' d ∧ prob.cost s s' d ≤ 10 := by
  simp only [prob]
  split
  · split <;> decide
  · split
    · decide
    · split <;> decide

theorem runBound : RunBound prob rlx 10 50 :=
  ⟨⟨by decide, by decide, fun s s' d => by have := costBound s s' d; omega, fun s u m d c hc => hc, by decide⟩,
   ⟨by decide, costBound⟩, by decide⟩

theorem wellFormed (dedup : Bool) (kind : CutsetKind) : WellFormed (sv dedup kind) H 10 50 :=
  ⟨potential, rubOk, mergeOk, Cover.attMerge_of_static potential (fun _ _ _ _ _ => rfl), runBound, nvBound,
    fun _ => Nat.le_refl 1⟩

theorem opt10 : (H 0 prob.init).addI prob.initVal = some 10 := by decide


theorem key_some {s : Int} {k : Int} (h : rule.key s = some k) :
    (k = 2 ∧ (s = 11 ∨ s = 12)) ∨ (k = 3 ∧ (s = 21 ∨ s = 22)) := by
  simp only [rule] at h
  split at h
  · next hc => cases h; exact Or.inl ⟨rfl, hc⟩
  · split at h
    · next hc => cases h; exact Or.inr ⟨rfl, hc⟩
    · cases h

theorem H_pair (d : Nat) : H d 11 = H d 12 ∧ H d 21 = H d 22 := by
  unfold H
  by_cases h4 : 4 ≤ d
  · simp only [h4, if_true, and_self]
  · have hd : d = 0 ∨ d = 1 ∨ d = 2 ∨ d = 3 := by omega
    rcases hd with rfl | rfl | rfl | rfl <;> decide

/-- **the rule is admissible in the potential form, for all pairs of values** (feasibility included: `none = −∞`) -/
theorem admissibleAll : AdmissibleAll rule H := by
  intro d a va b vb ⟨⟨k, hka, hkb⟩, hdom⟩
  have hge : geEnt true (rule.ent 1 a va) (rule.ent 1 b vb) = true := by
    have : rule.useValue = true := rfl
    rw [this] at hdom
    have : rule.dims b = 1 := rfl
    rw [this] at hdom
    simp only [domEnt, Bool.and_eq_true] at hdom
    exact hdom.1
  have hv : vb ≤ va := by
    simp only [geEnt, Bool.not_true, Bool.false_or, Bool.and_eq_true, decide_eq_true_eq] at hge
    exact hge.2
  have hco : rule.coord b 0 ≤ rule.coord a 0 := by
    simp only [geEnt, Bool.and_eq_true] at hge
    have h1 := hge.1
    have e : ∀ s v, (rule.ent 1 s v).coords = [rule.coord s 0] := fun s v => rfl
    rw [e, e] at h1
    simpa [leB] using h1
  have hp := H_pair d
  rcases key_some hka with ⟨rfl, ha⟩ | ⟨rfl, ha⟩ <;> rcases key_some hkb with ⟨hk, hb⟩ | ⟨hk, hb⟩ <;>
    (try (exfalso; omega)) <;> rcases ha with rfl | rfl <;> rcases hb with rfl | rfl
  · exact Examples.EMax.addI_mono (EInt.le_refl _) hv
  · rw [← hp.1]; exact Examples.EMax.addI_mono (EInt.le_refl _) hv
  · simp [rule] at hco
  · exact Examples.EMax.addI_mono (EInt.le_refl _) hv
  · exact Examples.EMax.addI_mono (EInt.le_refl _) hv
  · simp [rule] at hco
  · rw [hp.2]; exact Examples.EMax.addI_mono (EInt.le_refl _) hv
  · exact Examples.EMax.addI_mono (EInt.le_refl _) hv


theorem without_checker :
    ((sv false .lel).solveLoop 12 (SeqSt.init prob none false)).completion = (true, some 10) ∧
    ((sv false .lel).solveLoop 12 (SeqSt.init prob none false)).fringe.length = 0 := by decide +kernel

/-- **with the checker the solver model stops after one turn, claims exactness, and reports 5** -/
theorem with_checker :
    ((dv false .lel).solveLoop 12 (dv false .lel).init).st.completion = (true, some 5) ∧
    ((dv false .lel).solveLoop 12 (dv false .lel).init).st.fringe.length = 0 ∧
    ((dv false .lel).solveLoop 12 (dv false .lel).init).st.explored = 1 := by decide +kernel

theorem with_checker' :
    ((dv true .frontier).solveLoop 12 (dv true .frontier).init).st.completion = (true, some 5) ∧
    ((dv true .frontier).solveLoop 12 (dv true .frontier).init).st.fringe.length = 0 := by decide +kernel

theorem reach_1 : Reach prob 1 1 0 [⟨0, 0⟩] :=
  Reach.step (P := prob) 0 0 0 [] [0] 0 0 Reach.root rfl (by decide) (by decide)
theorem reach_2 : Reach prob 1 2 0 [⟨0, 1⟩] :=
  Reach.step (P := prob) 0 0 0 [] [0] 0 1 Reach.root rfl (by decide) (by decide)
theorem reach_11 : Reach prob 2 11 0 [⟨0, 0⟩, ⟨1, 0⟩] :=
  Reach.step (P := prob) 1 1 0 [⟨0, 0⟩] [1] 1 0 reach_1 rfl (by decide) (by decide)
theorem reach_12 : Reach prob 2 12 0 [⟨0, 1⟩, ⟨1, 0⟩] :=
  Reach.step (P := prob) 1 2 0 [⟨0, 1⟩] [2] 1 0 reach_2 rfl (by decide) (by decide)
theorem reach_22 : Reach prob 3 22 0 [⟨0, 1⟩, ⟨1, 0⟩, ⟨2, 0⟩] :=
  Reach.step (P := prob) 2 12 0 [⟨0, 1⟩, ⟨1, 0⟩] [12] 2 0 reach_12 rfl (by decide) (by decide)

theorem dom_cases {x : Nat} {s d : Int} (h : d ∈ prob.domain x s) : d = 0 ∨ d = 1 :=
  (List.mem_cons.mp h).imp_right List.mem_singleton.mp

/-- the hypothesis of the positive theorem fails on this model: every optimal strategy runs into a dominated item
    (`A2 = 12` is dominated by the reached `A1 = 11` at depth 2, `B1 = 21` by the reached `B2 = 22` at depth 3) -/
theorem not_undomOpt : ¬ UndomOpt rule prob H 10 := by
  rintro ⟨Prot, hP⟩
  have h0 := hP.root
  obtain ⟨d0, hd0, h1⟩ := hP.step 0 0 0 [0] 0 h0 rfl (by decide)
  rcases dom_cases hd0 with rfl | rfl
  · -- through `Y1 = 1`, `A1 = 11`, `B1 = 21`
    obtain ⟨d1, hd1, h2⟩ := hP.step 1 1 0 [1] 1 h1 rfl (by decide)
    have h2' : Prot 2 11 0 := by
      rcases dom_cases hd1 with rfl | rfl <;> exact h2
    obtain ⟨d2, hd2, h3⟩ := hP.step 2 11 0 [11] 2 h2' rfl (by decide)
    have h3' : Prot 3 21 0 := by
      rcases dom_cases hd2 with rfl | rfl <;> exact h3
    exact hP.undom 3 21 0 22 0 _ h3' reach_22 (by decide)
  · -- through `Y2 = 2`, `A2 = 12`
    obtain ⟨d1, hd1, h2⟩ := hP.step 1 2 0 [2] 1 h1 rfl (by decide)
    have h2' : Prot 2 12 0 := by
      rcases dom_cases hd1 with rfl | rfl <;> exact h2
    exact hP.undom 2 12 0 11 0 _ h2' reach_11 (by decide)

end Ddo.C10.Cyc

namespace Ddo.C10.Cyc
open Ddo Ddo.C01 Ddo.Closed

/-- **FINDING, packaged**: the model meets every hypothesis of `C01.sequential_solver_correct` (so every run without the checker
    ends with the optimum 10), its rule is admissible in the potential form for all pairs of values, and a run of the solver
    with the checker enabled ends with the empty fringe, `is_exact = true` and `best_value = Some(5)`.  The hypothesis `UndomOpt`
    of the positive theorem fails, as it must. -/
theorem finding :
    WellFormed (sv false .lel) H 10 50 ∧ (H 0 prob.init).addI prob.initVal = some 10 ∧
    AdmissibleAll rule H ∧ Admissible rule prob H ∧
    (∀ t, CRun (sv false .lel) (SeqSt.init prob none false) t → t.fringe = [] → t.completion = (true, some 10)) ∧
    (∃ t, DRun (dv false .lel) (dv false .lel).init t ∧ t.st.fringe = [] ∧ t.st.completion = (true, some 5)) ∧
    ¬ UndomOpt rule prob H 10 := by
  refine ⟨wellFormed false .lel, opt10, admissibleAll, admissibleAll.admissible, ?_, ?_, not_undomOpt⟩
  · intro t ht hend
    exact ((((sequential_solver_correct (sv false .lel) H 10 50 (wellFormed false .lel)).2.2 t ht).2.2 hend).1 10 opt10).2.2
  · refine ⟨_, solveLoop_drun (dv false .lel) 12 _, List.eq_nil_of_length_eq_zero with_checker.2.1, with_checker.1⟩

/-- sentence 1 of C10, read with the potential form of admissibility, is **false** for the sequential solver model -/
theorem admissible_not_sufficient :
    ¬ ∀ (dv : DSolverCfg Int Int) (H : Nat → Int → EInt) (B0 B opt : Int), WellFormed dv.sv H B0 B →
        (H 0 dv.sv.P.init).addI dv.sv.P.initVal = some opt → AdmissibleAll dv.D H →
        ∀ t, DRun dv dv.init t → t.st.fringe = [] → t.st.completion = (true, some opt) := by
  intro h
  obtain ⟨t, ht, hend, hc⟩ := finding.2.2.2.2.2.1
  have := h (dv false .lel) H 10 50 10 (wellFormed false .lel) opt10 admissibleAll t ht hend
  rw [hc] at this
  cases this

end Ddo.C10.Cyc

#print axioms Ddo.C10.Cyc.wellFormed
#print axioms Ddo.C10.Cyc.admissibleAll
#print axioms Ddo.C10.Cyc.without_checker
#print axioms Ddo.C10.Cyc.with_checker
#print axioms Ddo.C10.Cyc.with_checker'
#print axioms Ddo.C10.Cyc.not_undomOpt
#print axioms Ddo.C10.Cyc.finding
#print axioms Ddo.C10.Cyc.admissible_not_sufficient
