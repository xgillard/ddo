import DdoModel.Props.C01d
/-! The instances of `Props/C01d.lean`: non-vacuity of `sequential_solver_correct` on the tiny model of `Props/C06.lean` (`Tiny3`) and on a
model with a genuine branch-and-bound (`Trap`: the first restricted diagram is trapped); the hypothesis `NvBound` is necessary (`NoNvBound`). -/
set_option linter.unusedSectionVars false
set_option linter.unusedVariables false
namespace Ddo.C01
open Ddo Ddo.Truth Ddo.Closed
variable {S : Type} [DecidableEq S]

namespace Tiny3
open Ddo.C06

def sv (dedup : Bool) (kind : CutsetKind) : SolverCfg Int :=
  { P := Tiny.prob, R := Tiny.rlx, rank := ⟨fun a b => icmp a b⟩, width := fun _ => 1, kind := kind, dedup := dedup }

theorem nvBound : NvBound Tiny.prob := NvBound.of_lt fun _ _ => rfl

theorem costBound (s s' : Int) (d : Dec) : -1 ≤ Tiny.prob.cost s s' d ∧ Tiny.prob.cost s s' d ≤ 1 :=
  ite_prop (fun z : Int => -1 ≤ z ∧ z ≤ 1) (by decide) (by decide)

theorem runBound : RunBound Tiny.prob Tiny.rlx 1 4 :=
  ⟨⟨by decide, by decide, fun s s' d => by have := costBound s s' d; omega, fun s u m d c hc => hc, by decide⟩,
   ⟨by decide, costBound⟩, by decide⟩

theorem wellFormed (dedup : Bool) (kind : CutsetKind) : WellFormed (sv dedup kind) Tiny.H 1 4 :=
  ⟨Tiny.potential, Tiny.rubOk, Tiny.mergeOk, Cover.attMerge_of_static Tiny.potential (fun _ _ _ _ _ => rfl), runBound,
    nvBound, fun _ => Nat.le_refl 1⟩

/-- the headline, instantiated: every run (either fringe, either cut-set kind) that reaches the empty fringe reports
    `is_exact = true`, `best_value = Some(3)`; a turn is always possible before the fringe is empty -/
theorem correct (dedup : Bool) (kind : CutsetKind) (t : SeqSt Int)
    (ht : CRun (sv dedup kind) (SeqSt.init Tiny.prob none dedup) t) :
    (t.fringe = [] → t.completion = (true, some 3)) ∧ (t.fringe ≠ [] → ∃ u, CStep (sv dedup kind) t u) :=
  ⟨fun hend => ((((sequential_solver_correct (sv dedup kind) Tiny.H 1 4 (wellFormed dedup kind)).2.2 t ht).2.2 hend).1 3 rfl).2.2,
   ((sequential_solver_correct (sv dedup kind) Tiny.H 1 4 (wellFormed dedup kind)).2.2 t ht).1⟩

theorem terminates (dedup : Bool) (kind : CutsetKind) (run : Nat → SeqSt Int) (h0 : run 0 = SeqSt.init Tiny.prob none dedup) :
    ¬ ∀ n, CStep (sv dedup kind) (run n) (run (n + 1)) :=
  (sequential_solver_correct (sv dedup kind) Tiny.H 1 4 (wellFormed dedup kind)).2.1 run h0

example : (Tiny.H 0 Tiny.prob.init).addI Tiny.prob.initVal = some 3 := rfl

/-- one evaluation of the run for the two facts below -/
theorem loop_run : (let u := (sv false .lel).solveLoop 12 (SeqSt.init Tiny.prob none false)
    u.fringe.length = 0 ∧ u.completion = (true, some 3)) := by decide +kernel

theorem loop_ends : ((sv false .lel).solveLoop 12 (SeqSt.init Tiny.prob none false)).fringe.length = 0 := loop_run.1

theorem loop_value : ((sv false .lel).solveLoop 12 (SeqSt.init Tiny.prob none false)).completion = (true, some 3) := loop_run.2

example : ((sv false .lel).solveLoop 12 (SeqSt.init Tiny.prob none false)).completion = (true, some 3) :=
  ((solveLoop_correct (sv false .lel) Tiny.H 1 4 (wellFormed false .lel) 12 (List.eq_nil_of_length_eq_zero loop_ends)).1 3
    rfl).1

theorem loop_value' : ((sv true .frontier).solveLoop 12 (SeqSt.init Tiny.prob none true)).completion = (true, some 3) ∧
    ((sv true .frontier).solveLoop 12 (SeqSt.init Tiny.prob none true)).fringe.length = 0 := by decide +kernel

end Tiny3

/-! ## non-vacuity with a genuine branch-and-bound: a model on which the first restricted diagram is trapped

Three binary variables; from the free state `0` variable 0 set to 1 gains 1 and leads to a trapped state (no further gain),
variables 1 and 2 set to 1 gain 2 each.  Optimum 4 (`0, 1, 1`).  Width 1: the restricted diagram of the root keeps the trapped
node (value 1), the relaxed one merges the third layer (bound 4, not exact), the cut-set `{(0, value 0, ub 4), (1, value 1, ub 3)}`
is enqueued; the second turn solves the free node exactly (incumbent 4), the third prunes the trapped one. -/
namespace Trap
def prob : Problem Int :=
  { nbVars := 3, init := 0, initVal := 0,
    trans := fun s d => if s = 0 then (if d.var = 0 ∧ d.val = 1 then 1 else 0) else s,
    cost := fun s _ d => if s = 0 then (if d.val = 1 then (if d.var = 0 then 1 else 2) else 0) else 0,
    nextVar := fun k _ => if k < 3 then some k else none,
    domain := fun _ _ => [0, 1],
    impacted := fun _ _ => true }
def rlx : Relax Int :=
  { merge := fun X => if 0 ∈ X then 0 else 1, relax := fun _ _ _ _ c => c, rub := fun _ => 4 }
def sv (dedup : Bool) (kind : CutsetKind) : SolverCfg Int :=
  { P := prob, R := rlx, rank := ⟨fun a b => icmp a b⟩, width := fun _ => 1, kind := kind, dedup := dedup }

/-- value-to-go: from the free state `0` both remaining gains of 2 (variables 1 and 2), nothing from a trapped state -/
def H (k : Nat) (s : Int) : EInt := if s = 0 then (if k = 0 then some 4 else some ((2 * (3 - k) : Nat) : Int)) else some 0

theorem nv_some {k : Nat} {L : List Int} {x : Nat} (h : prob.nextVar k L = some x) : k < 3 ∧ x = k := by
  simp only [prob] at h
  split at h
  · next hk => cases h; exact ⟨hk, rfl⟩
  · cases h

theorem trapped {s : Int} (hs : s ≠ 0) (k : Nat) (s' : Int) (d : Dec) :
    prob.trans s d = s ∧ prob.cost s s' d = 0 ∧ H k s = some 0 := ⟨if_neg hs, if_neg hs, if_neg hs⟩

theorem potential : Potential prob H := by
  refine ⟨fun k L x s h hnv _ hH => ?_, fun k L x s v p d _ hnv _ hd => ?_, fun k L s hnv _ => ?_⟩
  · obtain ⟨hk, hx⟩ := nv_some hnv; subst x
    by_cases hs : s = 0
    · subst hs
      have hk3 : k = 0 ∨ k = 1 ∨ k = 2 := by omega
      rcases hk3 with rfl | rfl | rfl <;> cases hH
      · exact ⟨0, by decide, 4, rfl, by decide⟩
      · exact ⟨1, by decide, 2, rfl, by decide⟩
      · exact ⟨1, by decide, 0, rfl, by decide⟩
    · obtain ⟨e1, e2, e3⟩ := trapped hs k s ⟨k, 0⟩
      cases e3.symm.trans hH
      exact ⟨0, List.mem_cons_self, 0, by rw [e1]; exact (trapped hs _ s ⟨k, 0⟩).2.2, by rw [e1, e2]; decide⟩
  · obtain ⟨hk, hx⟩ := nv_some hnv; subst x
    by_cases hs : s = 0
    · subst hs
      have hd' : d = 0 ∨ d = 1 := by
        rcases List.mem_cons.mp hd with e | e
        · exact Or.inl e
        · exact Or.inr (List.mem_singleton.mp e)
      have hk3 : k = 0 ∨ k = 1 ∨ k = 2 := by omega
      rcases hk3 with rfl | rfl | rfl <;> rcases hd' with rfl | rfl <;> decide
    · obtain ⟨e1, e2, e3⟩ := trapped hs k s ⟨k, d⟩
      rw [e1, e2, e3, (trapped hs (k + 1) s ⟨k, d⟩).2.2]
      decide
  · have hk : ¬ k < 3 := fun h => nomatch (if_pos h).symm.trans hnv
    by_cases hs : s = 0
    · subst hs
      have e : 3 - k = 0 := by omega
      have hk0 : k ≠ 0 := by omega
      show (if (0 : Int) = 0 then (if k = 0 then some 4 else some ((2 * (3 - k) : Nat) : Int)) else some 0) = some 0
      rw [if_pos rfl, if_neg hk0, e]
      rfl
    · exact (trapped hs k s ⟨0, 0⟩).2.2

theorem H_le (k : Nat) (s : Int) : ∃ h, H k s = some h ∧ 0 ≤ h ∧ h ≤ 4 ∧ ∀ h0, H k 0 = some h0 → h ≤ h0 := by
  have h0 : ∃ a : Int, H k 0 = some a ∧ 0 ≤ a ∧ a ≤ 4 := by
    by_cases hk : k = 0
    · subst hk; exact ⟨4, rfl, by decide, by decide⟩
    · exact ⟨((2 * (3 - k) : Nat) : Int), (if_pos rfl).trans (if_neg hk), Int.natCast_nonneg _, by omega⟩
  obtain ⟨a, ea, a0, a4⟩ := h0
  by_cases hs : s = 0
  · subst hs
    exact ⟨a, ea, a0, a4, fun b eb => Int.le_of_eq (Option.some.inj (ea.symm.trans eb))⟩
  · exact ⟨0, (trapped hs k s ⟨0, 0⟩).2.2, Int.le_refl _, by decide, fun b eb => Option.some.inj (ea.symm.trans eb) ▸ a0⟩

theorem rubOk : RubOk rlx H := by
  intro k s h hH
  obtain ⟨h', e, _, h4, _⟩ := H_le k s
  rw [hH] at e; cases e
  exact h4

theorem mergeOk : MergeOk rlx H := by
  intro k X u src d c h hu hH
  by_cases h0 : (0 : Int) ∈ X
  · obtain ⟨h0', e0, _, _, _⟩ := H_le k 0
    obtain ⟨h', e, _, _, hle⟩ := H_le k u
    rw [hH] at e; cases e
    refine ⟨h0', by simp only [rlx, h0, if_true]; exact e0, ?_⟩
    have := hle h0' e0
    simp only [rlx]; omega
  · have hu0 : u ≠ 0 := fun e => h0 (e ▸ hu)
    refine ⟨0, by simp [rlx, h0, H], ?_⟩
    simp [H, hu0] at hH
    simp only [rlx]; omega

theorem nvBound : NvBound prob := NvBound.of_lt fun _ _ => rfl

theorem costBound (s s' : Int) (d : Dec) : -2 ≤ prob.cost s s' d ∧ prob.cost s s' d ≤ 2 :=
  let P := fun z : Int => -2 ≤ z ∧ z ≤ 2
  ite_prop P (ite_prop P (ite_prop P (by decide) (by decide)) (by decide)) (by decide)

theorem runBound : RunBound prob rlx 2 8 :=
  ⟨⟨by decide, by decide, fun s s' d => by have := costBound s s' d; omega, fun s u m d c hc => hc, by decide⟩,
   ⟨by decide, costBound⟩, by decide⟩

theorem wellFormed (dedup : Bool) (kind : CutsetKind) : WellFormed (sv dedup kind) H 2 8 :=
  ⟨potential, rubOk, mergeOk, Cover.attMerge_of_static potential (fun _ _ _ _ _ => rfl), runBound,
    nvBound, fun _ => Nat.le_refl 1⟩

example : (H 0 prob.init).addI prob.initVal = some 4 := rfl

/-- one evaluation of the run (fuel 1 and 5) for `turn1` and `loop_value` -/
theorem loop_run :
    (let t := (sv false .lel).solveLoop 1 (SeqSt.init prob none false)
     (t.fringe.map (fun c => (c.state, c.value, c.ub, c.depth)), t.bestLb) = ([(1, 1, 3, 1), (0, 0, 4, 1)], 1)) ∧
    (let u := (sv false .lel).solveLoop 5 (SeqSt.init prob none false)
     u.completion = (true, some 4) ∧ u.fringe.length = 0 ∧ u.explored = 3) := by decide +kernel

theorem turn1 : (((sv false .lel).solveLoop 1 (SeqSt.init prob none false)).fringe.map (fun c => (c.state, c.value, c.ub, c.depth)),
    ((sv false .lel).solveLoop 1 (SeqSt.init prob none false)).bestLb) = ([(1, 1, 3, 1), (0, 0, 4, 1)], 1) := loop_run.1

theorem loop_value : ((sv false .lel).solveLoop 5 (SeqSt.init prob none false)).completion = (true, some 4) ∧
    ((sv false .lel).solveLoop 5 (SeqSt.init prob none false)).fringe.length = 0 ∧
    ((sv false .lel).solveLoop 5 (SeqSt.init prob none false)).explored = 3 := loop_run.2

theorem loop_value' : ((sv true .frontier).solveLoop 5 (SeqSt.init prob none true)).completion = (true, some 4) ∧
    ((sv true .frontier).solveLoop 5 (SeqSt.init prob none true)).fringe.length = 0 ∧
    ((sv true .frontier).solveLoop 5 (SeqSt.init prob none true)).explored = 3 := by decide +kernel
/-- the headline, instantiated: every run of the concrete solver on the trap model (either fringe, either cut-set kind) that
    reaches the empty fringe reports `is_exact = true`, `best_value = Some(4)`; before that a turn is always possible; nothing
    panics -/
theorem correct (dedup : Bool) (kind : CutsetKind) (t : SeqSt Int)
    (ht : CRun (sv dedup kind) (SeqSt.init prob none dedup) t) :
    (t.fringe = [] → t.completion = (true, some 4)) ∧ (t.fringe ≠ [] → ∃ u, CStep (sv dedup kind) t u) ∧ t.crashed = false :=
  ⟨fun hend => ((((sequential_solver_correct (sv dedup kind) H 2 8 (wellFormed dedup kind)).2.2 t ht).2.2 hend).1 4 rfl).2.2,
   ((sequential_solver_correct (sv dedup kind) H 2 8 (wellFormed dedup kind)).2.2 t ht).1,
   ((sequential_solver_correct (sv dedup kind) H 2 8 (wellFormed dedup kind)).2.2 t ht).2.1⟩

theorem terminates (dedup : Bool) (kind : CutsetKind) (run : Nat → SeqSt Int) (h0 : run 0 = SeqSt.init prob none dedup) :
    ¬ ∀ n, CStep (sv dedup kind) (run n) (run (n + 1)) :=
  (sequential_solver_correct (sv dedup kind) H 2 8 (wellFormed dedup kind)).2.1 run h0

/-- the value computed by the fuel-driven loop is the one the theorem predicts -/
example : ((sv false .lel).solveLoop 5 (SeqSt.init prob none false)).completion = (true, some 4) :=
  (correct false .lel _ (solveLoop_run (sv false .lel) 5 _)).1 (List.eq_nil_of_length_eq_zero loop_value.2.1)

end Trap

namespace NoNvBound
open Ddo.C06

/-- the tiny model with a wrong `nb_variables` (1 instead of 3): `next_variable` still answers `Some` at depths 1 and 2 -/
def prob : Problem Int := { Tiny.prob with nbVars := 1 }

def sv : SolverCfg Int :=
  { P := prob, R := Tiny.rlx, rank := ⟨fun a b => icmp a b⟩, width := fun _ => 1, kind := .lel, dedup := false }

theorem potential : Potential prob Tiny.H := ⟨Tiny.potential.att, fun k L x s v p d hr => by
  have hr' : Reach Tiny.prob k s v p := by
    induction hr with
    | root => exact Reach.root
    | step k s v p L x d _ hnv hs hd ih => exact Reach.step k s v p L x d ih hnv hs hd
  exact Tiny.potential.le k L x s v p d hr', Tiny.potential.term⟩

/-- every hypothesis of `sequential_solver_correct` but `NvBound` holds (the bounds with `B0 = 1`, `B = 2`), the fringe holds the
    root, and the very first compilation does not end normally: the conclusion "a turn is possible" fails.
    In the model the fuel `nb_variables + 2` of `buildLoop` runs out (a modelling bound: the Rust loop has no fuel).  The Rust
    solver itself panics (`open_by_layer[depth]`, `vec![0; nb_variables + 1]`) once a cut-set node lies deeper than
    `nb_variables`, which needs `next_variable` to answer `Some` at a depth `≥ nb_variables + 2`; an overshoot by one or two
    levels (as here) is harmless for the Rust code but already outside the diagram model. -/
theorem counter :
    Potential sv.P Tiny.H ∧ RubOk sv.R Tiny.H ∧ MergeOk sv.R Tiny.H ∧ Cover.AttMerge sv.P sv.R Tiny.H ∧
    RunBound sv.P sv.R 1 2 ∧ (∀ N, 1 ≤ sv.width N) ∧ ¬ NvBound sv.P ∧
    (SeqSt.init sv.P none sv.dedup).fringe.length = 1 ∧
    sv.outR (Cache.init 1) (DomStore.init 1) 0 ⟨sv.P.init, sv.P.initVal, [], iMax, 0⟩ iMin = .crash := by
  refine ⟨potential, Tiny.rubOk, Tiny.mergeOk, Cover.attMerge_of_static potential (fun _ _ _ _ _ => rfl), ?_,
    fun _ => Nat.le_refl 1, ?_, rfl, by decide +kernel⟩
  · exact ⟨⟨by decide, by decide, fun s s' d => ⟨Int.le_trans (by decide) (Tiny3.costBound s s' d).1,
        Int.le_trans (Tiny3.costBound s s' d).2 (by decide)⟩, fun s u m d c hc => hc, by decide⟩,
      ⟨by decide, Tiny3.costBound⟩, by decide⟩
  · intro h
    have := h 1 [] (Nat.le_refl 1)
    simp [sv, prob, Tiny.prob] at this

end NoNvBound

end Ddo.C01

#print axioms Ddo.C01.Tiny3.correct
#print axioms Ddo.C01.Tiny3.loop_value
#print axioms Ddo.C01.Tiny3.loop_value'
#print axioms Ddo.C01.Trap.wellFormed
#print axioms Ddo.C01.Trap.correct
#print axioms Ddo.C01.Trap.loop_value
#print axioms Ddo.C01.Trap.loop_value'
#print axioms Ddo.C01.NoNvBound.counter
