import DdoModel.Proofs.MddBounds
import DdoModel.Props.C06
/-! C08 — the cut-set of a compiled diagram, clauses (iii) and (iv): relaxed compilation in isolation
    (`cfg.useCache = false`, `cfg.dom = none`), width `≥ 1`, outcome `.ok`, both cut-set kinds, both results of
    `compile`, any `stopAt`.  `Φ c := (H c.depth c.state).addI c.value` is the potential (optimum) of a sub-problem.

* `Ddo.C08.cutset_ub_valid` (iii): the upper bound `c.ub = min (min (value ⊕ rub) (value ⊕ vbot)) bestValue` attached to
  a sub-problem of the cut-set dominates its potential whenever that potential beats the incumbent `lb`
  (all three terms: rough upper bound, local bound, best value of the diagram).
* `Ddo.C08.cutset_cover` (iv): if the potential `o` of the root sub-problem beats `lb` and the best exact value of the
  diagram, some sub-problem of the cut-set has potential `≥ o`.

Hypotheses: those of `Ddo.C06.relaxed_ub` (`Potential`, `RubOk`, `MergeOk`, `AttMerge`, `NoClamp`, `InI cfg.lb`), plus
* `hroot : Reach … p0` — the root sub-problem is exact (as in C08 (i)); it is what gives `c.depth = cfg.root.depth + `
  (index of the layer) for the (exact) nodes of the cut-set, hence the depth at which `H` is evaluated;
* (iv) `hO : o ≤ iMax ∨ cfg.lb < iMax` — as in C06: the rough-upper-bound test `satAdd rub value > lb` is computed
  with saturation, with `lb = isize::MAX` it prunes everything.  (iii) needs no such hypothesis: with `lb = isize::MAX`
  the cut-set is empty (`Ddo.Bounds.compile_lbmax_cutset`). -/
namespace Ddo.C08
open Ddo Ddo.Bounds

/-- **C08 (iii)**: the upper bound of a cut-set sub-problem is valid. -/
theorem cutset_ub_valid {S K : Type} [DecidableEq S] [DecidableEq K]
    (cfg : Cfg S K) (H : Nat → S → EInt) (B : Int) (p0 : List Dec) (cache : Cache S) (store : DomStore S K)
    (polls : Nat) (stopAt : Option Nat)
    (hrel : cfg.ctype = .relaxed) (hcache : cfg.useCache = false) (hdom : cfg.dom = none) (hW : 1 ≤ cfg.width)
    (hP : Potential cfg.P H) (hR : RubOk cfg.R H) (hM : MergeOk cfg.R H) (hAM : Cover.AttMerge cfg.P cfg.R H)
    (hB : NoClamp cfg.P cfg.R cfg.root.value B) (hlb : InI cfg.lb)
    (hroot : Reach cfg.P cfg.root.depth cfg.root.state cfg.root.value p0)
    (hok : (compile cfg cache store polls stopAt).1 = .ok) (r : Result S)
    (hr : r = (compile cfg cache store polls stopAt).2.1 ∨ (compile cfg cache store polls stopAt).2.2.1 = some r) :
    ∀ c ∈ r.cutset, ∀ x, (H c.depth c.state).addI c.value = some x → x > cfg.lb → x ≤ c.ub := by
  intro c hc x hΦ hx
  -- with `lb = isize::MAX` every node is pruned and the cut-set is empty
  by_cases hlbmax : cfg.lb < iMax
  case neg =>
    exfalso
    have hlbeq : cfg.lb = iMax := by unfold InI at hlb; omega
    obtain ⟨_, e, rfl⟩ := compile_results cfg cache store polls stopAt hok r hr
    rw [compile_lbmax_cutset cfg B p0 hlbeq hrel hW hcache hdom hB hroot cache store polls stopAt hok e] at hc
    cases hc
  have hy : HypB cfg H B x := ⟨hrel, hcache, hdom, hW, hP, hR, hM, hAM, hB, Truth.clamp_gt hlb hx (.inr hlbmax)⟩
  obtain ⟨_, e, rfl⟩ := compile_results cfg cache store polls stopAt hok r hr
  have hwf := compile_wf cfg B p0 hB hroot cache store polls stopAt
  have hdone := compile_done cfg H B x hy cache store polls stopAt hok
  generalize (buildLoop cfg stopAt (cfg.P.nbVars + 2) (initDD cfg cache store polls)).1 = fin at hc hwf hdone
  cases hdone with
  | brk Live dd0 _ _ hn => rw [finalize_cutset_of_empty cfg fin e hn] at hc; cases hc
  | term Live hI hnone hlen =>
    by_cases hn : fin.next = []
    · rw [finalize_cutset_of_empty cfg fin e hn] at hc; cases hc
    · exact Fin.cutset_ub ⟨hI, hnone, hlen, hn⟩ hy hlb p0 hwf e c hc x hΦ (Int.le_refl _) hx

/-- **C08 (iv)**: the cut-set covers the root sub-problem, in potential form. -/
theorem cutset_cover {S K : Type} [DecidableEq S] [DecidableEq K]
    (cfg : Cfg S K) (H : Nat → S → EInt) (B : Int) (p0 : List Dec) (cache : Cache S) (store : DomStore S K)
    (polls : Nat) (stopAt : Option Nat)
    (hrel : cfg.ctype = .relaxed) (hcache : cfg.useCache = false) (hdom : cfg.dom = none) (hW : 1 ≤ cfg.width)
    (hP : Potential cfg.P H) (hR : RubOk cfg.R H) (hM : MergeOk cfg.R H) (hAM : Cover.AttMerge cfg.P cfg.R H)
    (hB : NoClamp cfg.P cfg.R cfg.root.value B) (hlb : InI cfg.lb)
    (hroot : Reach cfg.P cfg.root.depth cfg.root.state cfg.root.value p0)
    (o : Int) (ho : optOf H cfg.root = some o) (hgt : o > cfg.lb) (hO : o ≤ iMax ∨ cfg.lb < iMax)
    (hok : (compile cfg cache store polls stopAt).1 = .ok) (r : Result S)
    (hr : r = (compile cfg cache store polls stopAt).2.1 ∨ (compile cfg cache store polls stopAt).2.2.1 = some r)
    (hbe : ∀ be, r.bestExactValue = some be → be < o) :
    ∃ c ∈ r.cutset, ∃ y, (H c.depth c.state).addI c.value = some y ∧ o ≤ y := by
  have hy : HypB cfg H B o := ⟨hrel, hcache, hdom, hW, hP, hR, hM, hAM, hB, Truth.clamp_gt hlb hgt hO⟩
  obtain ⟨h0, hH0, ho0⟩ := addI_some ho
  have ht : o ≤ cfg.root.value + h0 := by omega
  obtain ⟨_, e, rfl⟩ := compile_results cfg cache store polls stopAt hok r hr
  have hwf := compile_wf cfg B p0 hB hroot cache store polls stopAt
  have hdone := compile_done cfg H B o hy cache store polls stopAt hok
  generalize (buildLoop cfg stopAt (cfg.P.nbVars + 2) (initDD cfg cache store polls)).1 = fin at hbe hwf hdone ⊢
  cases hdone with
  | brk Live dd0 hI0 hn0 _ => exact absurd hn0 (hI0.next_ne h0 hH0 ht)
  | term Live hI hnone hlen =>
    exact Fin.cutset_cover ⟨hI, hnone, hlen, hI.next_ne h0 hH0 ht⟩ hy p0 hwf e h0 hH0 ht hbe

namespace TinyCut
open Ddo.C06

def cfgF : Cfg Int Unit := { Tiny.cfg with kind := .frontier }

theorem attMerge : Cover.AttMerge Tiny.prob Tiny.rlx Tiny.H :=
  Cover.attMerge_of_static Tiny.potential (fun _ _ _ _ _ => rfl)

/-- non-vacuity of (iii) and (iv) on the tiny model of C06 (width 1, a merge on the third layer), for both cut-set kinds
    (`runF`); the run is evaluated once.  The potentials of the two sub-problems are `2` and `3`: the bounds are tight. -/
theorem run :
    (compile Tiny.cfg (Cache.init 3) (DomStore.init 3) 0 none).1 = .ok ∧
    ((compile Tiny.cfg (Cache.init 3) (DomStore.init 3) 0 none).2.1.cutset.map
      (fun c => (c.state, c.value, c.ub, c.depth))) = [(0, 0, 2, 1), (1, 1, 3, 1)] ∧
    (compile Tiny.cfg (Cache.init 3) (DomStore.init 3) 0 none).2.1.bestExactValue = none := by
  decide +kernel

theorem runF :
    (compile cfgF (Cache.init 3) (DomStore.init 3) 0 none).1 = .ok ∧
    ((compile cfgF (Cache.init 3) (DomStore.init 3) 0 none).2.1.cutset.map
      (fun c => (c.state, c.value, c.ub, c.depth))) = [(0, 0, 2, 1), (1, 1, 3, 1)] ∧
    (compile cfgF (Cache.init 3) (DomStore.init 3) 0 none).2.1.bestExactValue = none := by
  decide +kernel

example : ((compile Tiny.cfg (Cache.init 3) (DomStore.init 3) 0 none).2.1.cutset.map
    (fun c => (c.state, c.value, c.ub, c.depth))) = [(0, 0, 2, 1), (1, 1, 3, 1)] := run.2.1

example : ∀ c ∈ (compile Tiny.cfg (Cache.init 3) (DomStore.init 3) 0 none).2.1.cutset, ∀ x,
    (Tiny.H c.depth c.state).addI c.value = some x → x > Tiny.cfg.lb → x ≤ c.ub :=
  cutset_ub_valid Tiny.cfg Tiny.H 1 [] (Cache.init 3) (DomStore.init 3) 0 none rfl rfl rfl (by decide)
    Tiny.potential Tiny.rubOk Tiny.mergeOk attMerge Tiny.noClamp (by decide) Reach.root run.1 _ (.inl rfl)

example : ∃ c ∈ (compile Tiny.cfg (Cache.init 3) (DomStore.init 3) 0 none).2.1.cutset, ∃ y,
    (Tiny.H c.depth c.state).addI c.value = some y ∧ 3 ≤ y :=
  cutset_cover Tiny.cfg Tiny.H 1 [] (Cache.init 3) (DomStore.init 3) 0 none rfl rfl rfl (by decide)
    Tiny.potential Tiny.rubOk Tiny.mergeOk attMerge Tiny.noClamp (by decide) Reach.root 3 rfl (by decide)
    (.inl (by decide)) run.1 _ (.inl rfl) (fun be hbe => by rw [run.2.2] at hbe; cases hbe)

example : ((compile cfgF (Cache.init 3) (DomStore.init 3) 0 none).2.1.cutset.map
    (fun c => (c.state, c.value, c.ub, c.depth))) = [(0, 0, 2, 1), (1, 1, 3, 1)] := runF.2.1

example : ∀ c ∈ (compile cfgF (Cache.init 3) (DomStore.init 3) 0 none).2.1.cutset, ∀ x,
    (Tiny.H c.depth c.state).addI c.value = some x → x > cfgF.lb → x ≤ c.ub :=
  cutset_ub_valid cfgF Tiny.H 1 [] (Cache.init 3) (DomStore.init 3) 0 none rfl rfl rfl (by decide)
    Tiny.potential Tiny.rubOk Tiny.mergeOk attMerge Tiny.noClamp (by decide) Reach.root runF.1 _ (.inl rfl)

example : ∃ c ∈ (compile cfgF (Cache.init 3) (DomStore.init 3) 0 none).2.1.cutset, ∃ y,
    (Tiny.H c.depth c.state).addI c.value = some y ∧ 3 ≤ y :=
  cutset_cover cfgF Tiny.H 1 [] (Cache.init 3) (DomStore.init 3) 0 none rfl rfl rfl (by decide)
    Tiny.potential Tiny.rubOk Tiny.mergeOk attMerge Tiny.noClamp (by decide) Reach.root 3 rfl (by decide)
    (.inl (by decide)) runF.1 _ (.inl rfl) (fun be hbe => by rw [runF.2.2] at hbe; cases hbe)

end TinyCut

end Ddo.C08
