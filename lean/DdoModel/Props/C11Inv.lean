import DdoModel.Proofs.FringeInv
/-! # C11 — the indexed heap of `NoDupFringe` keeps its invariants and refines `KeyedPQ`

What `Props/C11.lean` states as `Prop`s (`NoDupInvariantInductive`, `NoDupRefinesKeyed`) and what the driver
checks at run time (`NoDup.wfB`, `NoDup.heapOrdB`) is settled here for the executable model `NoDup`
(`DdoModel/Fringe.lean`).  Proofs: `DdoModel/Proofs/FringeInv.lean`.

**Hypothesis on the state ranking** — `RankOK rank`:
`trans : ∀ x y z, rank x y ≠ .gt → rank y z ≠ .gt → rank x z ≠ .gt` and
`flip : ∀ x y, rank x y = .gt → rank y x = .lt`.
It follows from the "total preorder" wording (`RankOK.of_total_preorder`), `icmp` satisfies it
(`icmp_rankOK`), and it is needed: without `flip` the invariant is *not* inductive
(`NoDupInvariantInductive_literal_false`).  Refinement and absence of crashes need nothing of `rank`.

**Invariant** — `NoDup.Inv rank f := f.WF ∧ f.HeapOrd rank`, where `NoDup.WF` is a `Prop` structure;
`Inv` is *equivalent* to the Boolean checks of the driver (`inv_iff_checked`). -/
namespace Ddo.C11

section
variable (rank : Int → Int → Ordering)

theorem inv_iff_checked (f : NoDup) :
    f.Inv rank ↔ (f.wfB = true ∧ f.heapOrdB rank = true) := inv_iff_bool rank f

theorem inv_empty : NoDup.empty.Inv rank := Ddo.inv_empty rank

theorem inv_clear (f : NoDup) : f.clear.Inv rank := Ddo.inv_clear rank f

theorem inv_push (hr : RankOK rank) (f f' : NoDup) (x : Sub) (hI : f.Inv rank)
    (h : f.push rank x = some f') : f'.Inv rank := Ddo.inv_push rank hr f f' x hI h

theorem inv_pop (hr : RankOK rank) (f f' : NoDup) (o : Option Sub) (hI : f.Inv rank)
    (h : f.pop rank = some (f', o)) : f'.Inv rank := Ddo.inv_pop rank hr f f' o hI h

/-- the model answers `none` exactly where the Rust code would index out of range: never, on a
    well-formed fringe -/
theorem push_no_crash (f : NoDup) (x : Sub) (hI : f.Inv rank) : ∃ f', f.push rank x = some f' :=
  Ddo.push_no_crash rank f x hI

theorem pop_no_crash (f : NoDup) (hI : f.Inv rank) : ∃ r, f.pop rank = some r :=
  Ddo.pop_no_crash rank f hI

/-- every state reachable from `empty` by `push` / `pop` / `clear` satisfies the invariant -/
theorem reachable_inv (hr : RankOK rank) (f : NoDup) (h : NoDup.Reach rank f) : f.Inv rank :=
  reach_inv hr h

/-- the fuel never cuts the loops short: any amount above `me` (resp. `heap.length - me`) yields
    the same result, in particular `heap.length + 1`, the amount the model passes -/
theorem bubbleUp_fuel_irrelevant (fuel fuel' : Nat) (f : NoDup) (me : Nat) (hC : f.Coh)
    (hme : me < f.heap.length) (h1 : me < fuel) (h2 : me < fuel') :
    f.bubbleUpAt rank me fuel = f.bubbleUpAt rank me fuel' :=
  bubbleUpAt_fuel rank fuel fuel' f me hC hme h1 h2

theorem bubbleDown_fuel_irrelevant (fuel fuel' : Nat) (f : NoDup) (me : Nat) (hC : f.Coh)
    (h1 : f.heap.length - me < fuel) (h2 : f.heap.length - me < fuel') :
    f.bubbleDownAt rank me fuel = f.bubbleDownAt rank me fuel' :=
  bubbleDownAt_fuel rank fuel fuel' f me hC h1 h2

/-- what the two loops achieve (no failure, only a permutation of `heap` with `pos` kept its
    inverse, heap order restored from the one-defect shape) -/
theorem bubbleUp_correct (fuel : Nat) (f : NoDup) (me : Nat) (hC : f.Coh) (hme : me < f.heap.length) :
    ∃ f', f.bubbleUpAt rank me fuel = some f' ∧ f'.Coh ∧ f.Same f' ∧
      (RankOK rank → me < fuel → HeapF.HeapExcept (subLe rank) f.heap.length f.val me →
        HeapF.Heap (subLe rank) f'.heap.length f'.val) := bubbleUpAt_spec rank fuel f me hC hme

theorem bubbleDown_correct (fuel : Nat) (f : NoDup) (me : Nat) (hC : f.Coh) :
    ∃ f', f.bubbleDownAt rank me fuel = some f' ∧ f'.Coh ∧ f.Same f' ∧
      (RankOK rank → f.heap.length - me < fuel →
        HeapF.HeapExceptDown (subLe rank) f.heap.length f.val me →
        HeapF.Heap (subLe rank) f'.heap.length f'.val) := bubbleDownAt_spec rank fuel f me hC

theorem live_keys_distinct (f : NoDup) (hW : f.WF) : ((absNoDup f).map Sub.key).Nodup :=
  abs_keys_nodup hW

theorem live_length (f : NoDup) (hW : f.WF) : (absNoDup f).length = f.len := abs_length hW

/-- `push` is the specification's push on the live nodes (as lists up to permutation) -/
theorem push_refines_perm (f f' : NoDup) (x : Sub) (hW : f.WF) (h : f.push rank x = some f') :
    (absNoDup f').Perm (KeyedPQ.push (absNoDup f) x) := Ddo.push_refines_perm rank f f' x hW h

theorem push_refines (f f' : NoDup) (x : Sub) (hW : f.WF) (h : f.push rank x = some f') :
    ∀ z, z ∈ absNoDup f' ↔ z ∈ KeyedPQ.push (absNoDup f) x := Ddo.push_refines rank f f' x hW h

/-- `pop` removes exactly the returned node from the live nodes -/
theorem pop_refines (f f' : NoDup) (z : Sub) (hW : f.WF) (h : f.pop rank = some (f', some z)) :
    z ∈ absNoDup f ∧ (absNoDup f).Perm (z :: absNoDup f') ∧
      (absNoDup f').Perm ((absNoDup f).erase z) := Ddo.pop_refines rank f f' z hW h

/-- `pop` answers `None` exactly when nothing is live, and then leaves the fringe alone -/
theorem pop_none_iff (f : NoDup) (hW : f.WF) :
    (∃ f', f.pop rank = some (f', none)) ↔ absNoDup f = [] := Ddo.pop_none_iff rank f hW

theorem pop_none_unchanged (f f' : NoDup) (hW : f.WF) (h : f.pop rank = some (f', none)) : f' = f :=
  pop_none_eq rank f f' hW h

theorem pop_is_max_live (hr : RankOK rank) (f f' : NoDup) (z : Sub) (hI : f.Inv rank)
    (h : f.pop rank = some (f', some z)) :
    z ∈ absNoDup f ∧ ∀ y ∈ absNoDup f, subLe rank y z := pop_is_max_abs rank hr f f' z hI h

/-- `NoDupInvariantInductive`, with `RankOK.flip` in place of its vacuous second hypothesis -/
theorem NoDupInvariantInductive_total (hr : RankOK rank) (f : NoDup) (hwf : f.wfB = true)
    (hord : f.heapOrdB rank = true) :
    (∀ x f', f.push rank x = some f' → f'.wfB = true ∧ f'.heapOrdB rank = true) ∧
    (∀ f' o, f.pop rank = some (f', o) → f'.wfB = true ∧ f'.heapOrdB rank = true) :=
  noDupInvariantInductive rank hr f hwf hord

theorem checked_no_crash (f : NoDup) (hwf : f.wfB = true) :
    (∀ x, ∃ f', f.push rank x = some f') ∧ (∃ r, f.pop rank = some r) := noDup_no_crash rank f hwf

end

theorem NoDupRefinesKeyed_holds : NoDupRefinesKeyed := noDupRefinesKeyed

/-- `NoDupInvariantInductive` as literally stated admits non-total rankings and is false -/
theorem NoDupInvariantInductive_literal_false : ¬ NoDupInvariantInductive :=
  noDupInvariantInductive_literal_false

/-! non-vacuity: the integer ranking, and the three-node example of `Props/C11.lean` -/

theorem icmp_ok : RankOK icmp := icmp_rankOK

example : exF.Inv icmp := (inv_iff_checked icmp exF).mpr (by decide +kernel)

/-- all of the above instantiated at `icmp` -/
theorem icmp_fringe (f : NoDup) (h : NoDup.Reach icmp f) :
    f.Inv icmp ∧ (∀ x, ∃ f', f.push icmp x = some f' ∧ f'.Inv icmp ∧
        (absNoDup f').Perm (KeyedPQ.push (absNoDup f) x)) ∧
      (∀ f' z, f.pop icmp = some (f', some z) → KeyedPQ.popOk icmp (absNoDup f) z ∧
        (absNoDup f).Perm (z :: absNoDup f')) := by
  have hI := reach_inv icmp_rankOK h
  refine ⟨hI, fun x => ?_, fun f' z hp => ?_⟩
  · obtain ⟨f', hf'⟩ := Ddo.push_no_crash icmp f x hI
    exact ⟨f', hf', Ddo.inv_push icmp icmp_rankOK f f' x hI hf',
      Ddo.push_refines_perm icmp f f' x hI.1 hf'⟩
  · exact ⟨pop_is_max_abs icmp icmp_rankOK f f' z hI hp, (Ddo.pop_refines icmp f f' z hI.1 hp).2.1⟩

end Ddo.C11

#print axioms Ddo.C11.inv_iff_checked
#print axioms Ddo.C11.inv_empty
#print axioms Ddo.C11.inv_push
#print axioms Ddo.C11.inv_pop
#print axioms Ddo.C11.push_no_crash
#print axioms Ddo.C11.pop_no_crash
#print axioms Ddo.C11.reachable_inv
#print axioms Ddo.C11.bubbleUp_fuel_irrelevant
#print axioms Ddo.C11.bubbleDown_fuel_irrelevant
#print axioms Ddo.C11.bubbleUp_correct
#print axioms Ddo.C11.bubbleDown_correct
#print axioms Ddo.C11.live_keys_distinct
#print axioms Ddo.C11.push_refines_perm
#print axioms Ddo.C11.push_refines
#print axioms Ddo.C11.pop_refines
#print axioms Ddo.C11.pop_none_iff
#print axioms Ddo.C11.pop_is_max_live
#print axioms Ddo.C11.NoDupInvariantInductive_total
#print axioms Ddo.C11.checked_no_crash
#print axioms Ddo.C11.NoDupRefinesKeyed_holds
#print axioms Ddo.C11.NoDupInvariantInductive_literal_false
#print axioms Ddo.C11.icmp_ok
#print axioms Ddo.C11.icmp_fringe
