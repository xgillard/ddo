import DdoModel.Props.C09c
import DdoModel.Proofs.AnyOrderLayered
import DdoModel.Proofs.CacheClosedTwoState
/-! The instances of `Props/C09c.lean`: `Revisit`, a well-formed model on which the cache really prunes (non-vacuity of
`caching_solver_correct`), and the refutation of `AnyOrderOpt` for the pre-fix solver on `Layered.Counter` (`anyOrderOpt_false`, finding D14). -/
set_option linter.unusedSectionVars false
set_option linter.unusedVariables false
namespace Ddo.C09
open Ddo Ddo.C01 Ddo.Closed Ddo.Truth
variable {S : Type} [DecidableEq S]

/-! `Revisit` (family `TwoState` of `Proofs/CacheClosedTwoState.lean`): four binary variables, the state is the last decision,
costs `c var state decision` = `[1,0,2,1], [2,0,3,2], [1,0,3,0], [1,0,3,1]` (per variable: `c·00, c·01, c·10, c·11`), merge to
state `1` when present, constant rough upper bound 20, width 1, plain fringe, last-exact-layer cut-set.  Optimum 6.

Six best-first turns.  Third turn: `_filter_with_cache` prunes a node inside both compilations of `(state 1, value 0,
depth 1)` (`filter_prunes`).  Sixth turn: the popped node `(state 1, value 1, ub 7, depth 2)` still beats the incumbent 6 by
its bound but `must_explore` refuses it — `(state 1, depth 2)` was explored with value 2 from another parent (`refused`).
The loop ends with `is_exact = true`, `best_value = Some(6)` (`loop_value`), as `caching_solver_correct` predicts
(`correct`). -/
namespace Revisit
open Ddo.C09.TwoState

def tbl : List Int := [1, 0, 2, 1,  2, 0, 3, 2,  1, 0, 3, 0,  1, 0, 3, 1]
def T : Tab := ofList 4 tbl 20
def sv (dedup : Bool) (kind : CutsetKind) : CSolverCfg Int := TwoState.sv T 1 dedup kind

theorem checked : check 4 tbl 20 3 = true := by decide +kernel

theorem wellFormed (dedup : Bool) (kind : CutsetKind) : WellFormed (sv dedup kind) (H T) 3 15 :=
  wellFormed_ofList 4 tbl 20 3 15 1 dedup kind (Nat.le_refl 1) checked (by decide) (by decide)

theorem opt6 : (H T 0 (prob T).init).addI (prob T).initVal = some 6 := by decide +kernel

theorem correct (dedup : Bool) (kind : CutsetKind) (t : KSt Int)
    (ht : KRun (sv dedup kind) (KSt.init (sv dedup kind)) t) :
    (t.st.fringe = [] → t.st.completion = (true, some 6)) ∧ (t.st.fringe ≠ [] → ∃ u, KStep (sv dedup kind) t u) ∧
    t.st.crashed = false :=
  have h := (caching_solver_correct_bestfirst (sv dedup kind) (H T) 3 15 (wellFormed dedup kind)).2.2 t ht
  ⟨fun hend => ((h.2.2 hend).1 6 opt6).2.2, h.1, h.2.1⟩

theorem correct_anyorder (dedup : Bool) (kind : CutsetKind) (t : KSt Int)
    (ht : KRunAny (sv dedup kind) (KSt.init (sv dedup kind)) t) :
    (t.st.fringe = [] → t.st.completion = (true, some 6)) ∧
    (∀ N rest, t.st.fringe.Perm (N :: rest) → ∃ u, (sv dedup kind).kturn t N rest = some u) ∧
    t.st.crashed = false := by
  have h := (caching_solver_correct (sv dedup kind) (H T) 3 15 (wellFormed dedup kind)).2.2 t ht
  refine ⟨fun hend => ((h.2.2.2 hend).1 6 opt6).2.2, fun N rest hp => ?_, h.2.1⟩
  obtain ⟨u, _, hu⟩ := h.1 N rest hp
  exact ⟨u, hu⟩

def after (j : Nat) : KSt Int := (sv false .lel).ksolveLoop j (KSt.init (sv false .lel))

theorem run :
    ((after 8).st.completion = (true, some 6) ∧ (after 8).st.fringe.length = 0 ∧
      (after 8).st.explored = 6 ∧ (after 8).st.crashed = false) ∧
    (after 5).st.bestLb = 6 ∧
    (popMax (after 5).st.fringe).map (fun Nr => (Nr.1.state, Nr.1.value, Nr.1.ub, Nr.1.depth,
      (after 5).cache.mustExplore Nr.1.state Nr.1.depth Nr.1.value)) = some (1, 1, 7, 2, some false) := by decide +kernel

theorem loop_value : (after 8).st.completion = (true, some 6) ∧ (after 8).st.fringe.length = 0 ∧
    (after 8).st.explored = 6 ∧ (after 8).st.crashed = false := run.1

/-- the value computed by the loop is the one the theorem predicts -/
example : (after 8).st.completion = (true, some 6) :=
  (correct false .lel _ (ksolveLoop_run (sv false .lel) 8 _)).1 (List.eq_nil_of_length_eq_zero loop_value.2.1)

/-- **`must_explore` refuses a popped node whose bound still beats the incumbent** (sixth turn) -/
theorem refused :
    (after 5).st.bestLb = 6 ∧
    (popMax (after 5).st.fringe).map (fun Nr => (Nr.1.state, Nr.1.value, Nr.1.ub, Nr.1.depth,
      (after 5).cache.mustExplore Nr.1.state Nr.1.depth Nr.1.value)) = some (1, 1, 7, 2, some false) := run.2

/-- **`_filter_with_cache` prunes a node inside a compilation** (third turn): the diagrams built by the restricted and by the
    relaxed compilation of the popped node both hold a node flagged "pruned by the cache" -/
theorem filter_prunes :
    (match popMax (after 2).st.fringe with
     | none => none
     | some (N, _) =>
       match cleanCache 4 (after 2).st.openByLayer 4 (after 2).st.firstActive (after 2).cache with
       | none => none
       | some c0 =>
         some (N.state, N.value, N.depth,
           (compile ((sv false .lel).ccfg .restricted N (after 2).st.bestLb) c0 (DomStore.init 4) 0 none).2.2.2.layers.any
             (fun ly => ly.any (·.cache)),
           (compile ((sv false .lel).ccfg .relaxed N (after 2).st.bestLb) c0 (DomStore.init 4) 0 none).2.2.2.layers.any
             (fun ly => ly.any (·.cache)))) = some (1, 0, 1, true, true) := by decide +kernel

theorem loop_value' : ((sv true .frontier).ksolveLoop 10 (KSt.init (sv true .frontier))).st.completion = (true, some 6) ∧
    ((sv true .frontier).ksolveLoop 10 (KSt.init (sv true .frontier))).st.fringe.length = 0 := by decide +kernel

end Revisit

/-- **`AnyOrderOpt` is false** (finding D14; a statement about the **pre-fix solver**).  With the capped `enqueue_cutset(ub)`
    the invariant `CInvC` needs a best-first hypothesis, and the closed statement fails.  `Ddo.C09.Layered.Counter`
    (`Proofs/AnyOrderLayered.lean`: tables and turn-by-turn trace) is a `WellFormed` model — 7 binary variables, 3 states,
    merge = largest state, width 1 for sub-problems of depth ≤ 1 and 2 below — on which the capped caching solver popping
    **breadth-first** (shallowest open sub-problem first) runs five turns without panic, ends with the empty fringe and
    `is_exact = true`, and reports 4; the optimum is 10 (best-first pops return 10:
    `Layered.Counter.bestfirst_value_capped`).  Both cut-set kinds, both fringes (`Layered.Counter.anyorder_counter_all`); with
    `FixedWidth(2)` for every sub-problem: `Layered.Fixed.anyorder_counter`.

    Mechanism (in `step_generic` it is the step `hEnq` that a cap breaks: the capped node must still carry what it is a witness
    for).  (1) A fringe node `N` has `ub(N) < pot(N)`:
    in the diagram of its parent, the relaxed image of `N`'s optimal path was cut by `_filter_with_cache` at a child `s*` of
    a *merged* node — a state the exact path from `N` never visits — whose threshold is carried by an open node `k2` with
    `ub(k2) ≥ pot(N)`.  (2) `N` is popped before `k2` (impossible with best-first pops).  Its own diagram is not cut there,
    reaches a cut-set node `c'` with `pot(c') = pot(N)`, records the threshold `(c'.value, explored = false)` for it, and
    `enqueue_cutset` caps its bound: `min(ub(N), ·) < pot(c')`; once the incumbent is `≥ ub(N)` the node `c'` is not enqueued
    (or dropped by `node.ub ≤ best_lb` later).  (3) `k2`'s optimal path converges with `N`'s at `c'`'s `(state, depth)` with the
    same value: when `k2` is popped, `_filter_with_cache` prunes it there.  Nothing carries `pot(N)` any more.
    The thresholds are individually sound (`theta_sound`: each is justified by the cut-set of its own diagram); what breaks
    is the composition `cutset_node.ub = ub.min(cutset_node.ub)` with a parent bound that is only valid "modulo what the
    cache covers".  Without the cache every pop order is correct (`Props/C01t.lean`); with the cache and **without the cap**
    every pop order is correct too (`caching_solver_correct`; on this very model: `Layered.Counter.nocap_bfs_value` in
    `Props/C09d.lean`). -/
theorem anyOrderOpt_false : ¬ AnyOrderOpt := by
  intro h
  obtain ⟨hfr, hlb⟩ := Prod.mk.inj Layered.Counter.stage_end.2
  have h4 := h Int (Layered.Counter.sv false .lel) (Layered.H Layered.Counter.T) 10 80 (Layered.Counter.wellFormed false .lel)
    (Layered.Counter.after 5) (ksolveSchedCapped_run _ _ _) (List.map_eq_nil_iff.mp hfr) 10 Layered.Counter.opt10
  rw [hlb] at h4
  exact absurd h4 (by decide)

end Ddo.C09

#print axioms Ddo.C09.Revisit.wellFormed
#print axioms Ddo.C09.Revisit.correct
#print axioms Ddo.C09.Revisit.correct_anyorder
#print axioms Ddo.C09.Revisit.loop_value
#print axioms Ddo.C09.Revisit.refused
#print axioms Ddo.C09.Revisit.filter_prunes
#print axioms Ddo.C09.anyOrderOpt_false
#print axioms Ddo.C09.Layered.Counter.anyorder_counter
#print axioms Ddo.C09.Layered.Counter.anyorder_counter_all
#print axioms Ddo.C09.Layered.Fixed.anyorder_counter
