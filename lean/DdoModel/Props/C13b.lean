import DdoModel.Proofs.MddWidth
/-! # C13 (sentence 1) — the maximum width bounds the work done per layer

*In a restricted compilation no layer has more than `max_width` states expanded, and in a relaxed
compilation no layer other than the root layer and the first layer below it has.*

"Expanded" = the positions of the list `cur` that `stepLayer` hands to `expandAll` (the nodes on
which `for_each_in_domain` may be called; the rough-bound test may skip some of them).  The model
is `Mdd.lean` (`_squash_if_needed` = `squash`, `_restrict` = `restrictLayer`, `_relax` =
`relaxLayer`); the theorems hold for every configuration, cache, dominance rule and input.

The list that leaves `_squash_if_needed` has at most `width` positions and `expandAll` logs at most one
`Call.domain` per position; hence (`compile_expanded_le_width`) every entry of `Result.expanded` — the
per-layer counts that the correspondence check of engine `mdd` compares with the implementation — of index
`i` is at most `width` (`i` arbitrary when restricted, `i ≥ 2` when relaxed).

`1 ≤ width` is kept in the statements for the relaxed case as in the property, but it is not needed
(`Ddo.Width.squash_relaxed_le`): with `width = 0` a relaxed compilation that needs to merge answers
`none` (the Rust code panics on `max_width - 1`), it never hands over a longer list. -/
set_option linter.unusedSectionVars false
set_option linter.unusedVariables false
namespace Ddo.C13
open Ddo Ddo.Width
variable {S K : Type} [DecidableEq S] [DecidableEq K]

/-- `_restrict` hands over `sorted.take width` -/
theorem restrict_cur_le_width (cfg : Cfg S K) (layer : List (Node S)) (cur : List Nat) :
    (restrictLayer cfg layer cur).2.length ≤ cfg.width :=
  Width.restrict_cur_le_width cfg layer cur

/-- `_relax` hands over `sorted.take (width-1) ++ [merged]` (fresh merged node) or `sorted.take width`
    (recycled one) -/
theorem relax_cur_le_width (cfg : Cfg S K) (layers : List (List (Node S))) (layer : List (Node S)) (cur : List Nat)
    (log : List (Call S)) (hW : 1 ≤ cfg.width) (hlen : cfg.width < cur.length) :
    (relaxLayer cfg layers layer cur log).2.1.length ≤ cfg.width :=
  Width.relax_cur_le_width cfg layers layer cur log hW hlen

theorem squash_cur_le_width (cfg : Cfg S K) (dd : DD S K) (layer : List (Node S)) (cur : List Nat)
    (layer' : List (Node S)) (cur' : List Nat) (log' : List (Call S)) (lel' : Option Nat)
    (h : squash cfg dd layer cur = some (layer', cur', log', lel')) :
    (cfg.ctype = .restricted → cur'.length ≤ cfg.width) ∧
    (cfg.ctype = .relaxed → 1 ≤ cfg.width → dd.layers.length > 1 → cur'.length ≤ cfg.width) :=
  ⟨fun hc => squash_restricted_le cfg dd layer cur layer' cur' log' lel' hc h,
   fun hc _ hd => squash_relaxed_le cfg dd layer cur layer' cur' log' lel' hc hd h⟩

/-- the number of positions that `stepLayer cfg dd var` hands to `expandAll` (`none`: the loop breaks on an empty
    layer, or the step crashes) -/
def expandedOf (cfg : Cfg S K) (dd : DD S K) (_var : Nat) : Option Nat := (curOf cfg dd).map List.length

theorem stepLayer_expandedOf (cfg : Cfg S K) (dd dd' : DD S K) (var : Nat)
    (h : stepLayer cfg dd var = (some dd', .ok)) :
    ∃ (layer0 : List (Node S)) (cur0 : List Nat) (layer : List (Node S)) (cur : List Nat) (log : List (Call S))
      (lel : Option Nat),
      squash cfg dd layer0 cur0 = some (layer, cur, log, lel) ∧
      expandedOf cfg dd var = some cur.length ∧
      dd'.layers = dd.layers ++ [(expandAll cfg var dd.layers.length layer cur log).1] ∧
      dd'.next = (expandAll cfg var dd.layers.length layer cur log).2.1 ∧
      dd'.log = (expandAll cfg var dd.layers.length layer cur log).2.2 := by
  rcases stepLayer_some cfg dd dd' var _ h with ⟨_, h, _⟩ | ⟨sq, hsq, _, _, h1, h2, h3, _⟩
  · cases h
  · refine ⟨_, _, sq.1, sq.2.1, sq.2.2.1, sq.2.2.2, squashOf_elim cfg dd sq hsq, ?_, h1, h2, h3⟩
    rw [expandedOf, curOf, hsq]
    rfl

theorem stepLayer_expandedOf_none (cfg : Cfg S K) (dd : DD S K) (var : Nat) (h : expandedOf cfg dd var = none) :
    stepLayer cfg dd var = (some { dd with layers := dd.layers ++ [[]] }, .cutoff) ∨
    stepLayer cfg dd var = (none, .crash) := by
  rw [stepLayer_eq]
  have hs : squashOf cfg dd = none := by
    cases hsq : squashOf cfg dd with
    | none => rfl
    | some sq => simp [expandedOf, curOf, hsq] at h
  split
  · exact Or.inl rfl
  · rw [hs]; exact Or.inr rfl

theorem stepLayer_expanded_le_width (cfg : Cfg S K) (dd : DD S K) (var n : Nat)
    (h : expandedOf cfg dd var = some n) :
    (cfg.ctype = .restricted → n ≤ cfg.width) ∧
    (cfg.ctype = .relaxed → 1 ≤ cfg.width → dd.layers.length > 1 → n ≤ cfg.width) := by
  unfold expandedOf at h
  cases hc : curOf cfg dd with
  | none => rw [hc] at h; cases h
  | some cur =>
    rw [hc] at h
    simp only [Option.map_some, Option.some.injEq] at h
    subst h
    exact ⟨fun hr => curOf_le_width cfg dd cur hc (Or.inl hr),
           fun hr _ hd => curOf_le_width cfg dd cur hc (Or.inr ⟨hr, hd⟩)⟩

theorem expandAll_domain_calls_le (cfg : Cfg S K) (var lidx : Nat) (layer : List (Node S)) (cur : List Nat)
    (log : List (Call S)) :
    domCount (expandAll cfg var lidx layer cur log).2.2 ≤ domCount log + cur.length :=
  Width.expandAll_domain_calls_le cfg var lidx layer cur log

theorem stepLayer_domain_calls_le_width (cfg : Cfg S K) (dd dd' : DD S K) (var : Nat) (oc : Outcome)
    (h : stepLayer cfg dd var = (some dd', oc))
    (hb : cfg.ctype = .restricted ∨ (cfg.ctype = .relaxed ∧ dd.layers.length > 1)) :
    domCount dd'.log ≤ domCount dd.log + cfg.width := by
  obtain ⟨_, k, hg, hk⟩ := stepLayer_log cfg dd dd' var oc h
  have h1 := hg.domCount_le
  have h2 : k ≤ cfg.width := hk (by
    rcases hb with hb | ⟨hb, hd⟩
    · exact Or.inl hb
    · exact Or.inr ⟨hb, hd⟩)
  omega

/-- **C13, sentence 1**, on the observable of a whole compilation: entry `i` of `Result.expanded` is the number of
    `for_each_in_domain` calls issued for layer `i`, as `finalize` computes it from the call log; `r` is either of the
    two admissible results returned by `compile` -/
theorem compile_expanded_le_width (cfg : Cfg S K) (cache : Cache S) (store : DomStore S K) (polls : Nat)
    (stopAt : Option Nat) (r : Result S)
    (hr : r = (compile cfg cache store polls stopAt).2.1 ∨ some r = (compile cfg cache store polls stopAt).2.2.1)
    (i x : Nat) (hx : r.expanded[i]? = some x)
    (hb : cfg.ctype = .restricted ∨ (cfg.ctype = .relaxed ∧ 2 ≤ i)) : x ≤ cfg.width := by
  have := Width.compile_expanded_le_width cfg cache store polls stopAt i x hb
  rcases hr with rfl | hr
  · exact this.1 hx
  · exact this.2 r hr.symm hx

/-! The statement is tight.  Three variables, domain `{0,1,2}` everywhere, `width = 1`.  The relaxed compilation
expands 3 nodes in the first layer below the root (index 1: `_squash_if_needed` does not relax while
`layers.len() ≤ 1`) and 1 from index 2 on; the restricted one never more than 1; the exact one is not bounded. -/
namespace Witness

def P : Problem Int :=
  { nbVars := 3, init := 0, initVal := 0, trans := fun _ d => d.val, cost := fun _ _ _ => 0,
    nextVar := fun k _ => if k < 3 then some k else none, domain := fun _ _ => [0, 1, 2], impacted := fun _ _ => true }
def R : Relax Int := { merge := fun _ => 7, relax := fun _ _ _ _ c => c, rub := fun _ => 10 }
def cfg (ct : CompType) : Cfg Int Unit :=
  { P := P, R := R, rank := ⟨fun a b => compare a b⟩, dom := none, useCache := false, kind := .lel, ctype := ct,
    width := 1, root := { state := 0, value := 0, path := [], ub := 100, depth := 0 }, lb := -1 }

example : (compile (cfg .relaxed) (Cache.init 3) (DomStore.init 3) 0 none).2.1.expanded = [1, 3, 1, 0] := by decide +kernel
example : (compile (cfg .restricted) (Cache.init 3) (DomStore.init 3) 0 none).2.1.expanded = [1, 1, 1, 0] := by decide +kernel
example : (compile (cfg .exact) (Cache.init 3) (DomStore.init 3) 0 none).2.1.expanded = [1, 3, 3, 0] := by decide +kernel

end Witness

end Ddo.C13

#print axioms Ddo.C13.restrict_cur_le_width
#print axioms Ddo.C13.relax_cur_le_width
#print axioms Ddo.C13.squash_cur_le_width
#print axioms Ddo.Width.squash_relaxed_le
#print axioms Ddo.Width.stepLayer_eq
#print axioms Ddo.C13.stepLayer_expandedOf
#print axioms Ddo.C13.stepLayer_expandedOf_none
#print axioms Ddo.C13.stepLayer_expanded_le_width
#print axioms Ddo.C13.expandAll_domain_calls_le
#print axioms Ddo.C13.stepLayer_domain_calls_le_width
#print axioms Ddo.C13.compile_expanded_le_width
