import DdoModel.Proofs.ParSync
import DdoModel.ParSolver
/-! # C04 — the parallel solver always terminates (no deadlock, no lost wake-up, no crash)

`ParSync` is the synchronisation skeleton of `parallel.rs`: one `Step` per outcome of a critical
section (`get_workload`: complete / aborted / park / starve / take / takeCrash; `enqueue_cutset`;
`notify_node_finished` on the normal and on the abort path; `abort_search`), for **any** number of
workers and **every** interleaving (the theorems are inductions over `Step` / `Reachable`), with and
without the cutoff firing at any moment (`abortS` is enabled whenever a worker holds a node).
It abstracts the executable model `ParSolver.lean`; the driver checks on every validated trace that
each section of the executable model is invisible to the skeleton or exactly one of its steps
(`stepOrStutter`, sound by `stepOrStutter_sound`) and that `invB` holds in every state.

Proved: the bookkeeping invariant (`ongoing` = number of workers holding a node; a parked worker
implies work in progress) is inductive (`step_inv`, `reachable_inv`); no worker crashes when
`upper_bounds` has a cell per worker (`no_crash` — `with_nb_threads` resizes it since fix D3);
in every reachable state in which some worker has not left its loop some step is enabled
(`reachable_not_stuck`: no deadlock, no lost wake-up); the search is declared complete only when
nothing is open or in progress (`complete_only_when_closed`).
Not a property of the skeleton: termination proper (well-foundedness of the step relation: finitely many
steps) needs the data-level progress argument of C08 (ii) (cut-set nodes strictly deeper); it is
`par_terminates` on the concrete closed system (`Props/C03c.lean`, `Proofs/ParSysTerm.lean`).
`d3_step1`, `d3_step2`, `s2_stuck` are the witness of defect D3 in the pinned commit: with two workers
and `upper_bounds` of size one, a reachable state with a parked worker and no enabled step. -/
namespace Ddo.C04
open Ddo.ParSync

theorem par_ongoing_inv {s t : PSt} (h : Step s t) (hi : Inv s) : Inv t := step_inv h hi

theorem par_reachable_inv (s0 s : PSt) (h0 : Inv s0) (h : Reachable s0 s) : Inv s := reachable_inv s0 s h0 h

theorem par_no_crash (s0 s : PSt) (hsz : s0.pcs.length ≤ s0.ubSlots) (hc0 : count .crashed s0.pcs = 0)
    (h : Reachable s0 s) : count .crashed s.pcs = 0 := (no_crash s0 s hsz hc0 h).1

theorem par_no_stuck (s0 s : PSt) (h0 : Inv s0) (hsz : s0.pcs.length ≤ s0.ubSlots) (hc0 : count .crashed s0.pcs = 0)
    (h : Reachable s0 s) (hlive : ∃ (i : Nat) (p : Pc), s.pcs[i]? = some p ∧ p ≠ Pc.done) : ∃ t, Step s t :=
  reachable_not_stuck s0 s h0 hsz hc0 h hlive

theorem par_complete_only_when_closed {s t : PSt} (i : Nat) (h : Step s t) (hidle : s.pcs[i]? = some Pc.idle)
    (hdone : t.pcs[i]? = some Pc.done) (hna : s.abort = false) : s.ongoing = 0 ∧ s.fringe = 0 :=
  complete_only_when_closed i h hidle hdone hna

/-- the initial state of `maximize()`: `T` idle workers, the root in the fringe, `upper_bounds` of size `U` -/
def initial (T U : Nat) : PSt := { fringe := 1, ongoing := 0, abort := false, pcs := List.replicate T .idle, ubSlots := U }

theorem count_replicate_ne (p q : Pc) (n : Nat) (h : q ≠ p) : count p (List.replicate n q) = 0 := by
  induction n with
  | zero => rfl
  | succ k ih => simp [List.replicate_succ, count, ih, h]

theorem initial_inv (T U : Nat) : Inv (initial T U) := by
  refine ⟨?_, fun hw => ?_⟩
  · simp [initial, count_replicate_ne]
  · exfalso; apply hw; simp [initial, count_replicate_ne]

/-- **C04, liveness half, for every thread count `T ≥ 0` and every schedule**: from the initial state of
    `maximize()` (with a cell per worker), every reachable state with a worker still in its loop can move. -/
theorem maximize_never_stuck (T : Nat) (s : PSt) (h : Reachable (initial T T) s)
    (hlive : ∃ (i : Nat) (p : Pc), s.pcs[i]? = some p ∧ p ≠ Pc.done) : ∃ t, Step s t :=
  par_no_stuck (initial T T) s (initial_inv T T) (by simp [initial]) (by simp [initial, count_replicate_ne]) h hlive

end Ddo.C04
