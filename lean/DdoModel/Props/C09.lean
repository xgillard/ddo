import DdoModel.Props.C18
import DdoModel.ParSolver
/-! # C09 — the threshold cache never changes the answer: the cache itself and the cleaning loops

What is proved (for every input / history):
* the cache is a faithful max-map (C18: `get_eq_max_since_clear`, `update_comm`, …) and
  `must_explore` is exactly the rule of the property (`must_explore_spec`: value above the
  threshold, or equal to it and not explored);
* `clear_layer_safe_seq` / `clear_layer_safe_par`: the solvers clear a cache layer only when no open
  node (sequential) / no open or in-progress node (parallel) has that depth, and layers are cleared
  in increasing order (so every smaller depth has been cleared before).
That pruning with thresholds written by other compilations is globally safe is `caching_solver_correct`
(`Props/C09c.lean`).  Watched besides (DESIGN.md §6 C09): the thresholds the implementation
writes are compared, per compilation, with those of the diagram models (exact equality of the
multiset of `update_threshold` calls, also with a pre-filled cache: engine `mdd`); caching solvers
are compared with the exact optimum on re-convergent instances, sequentially (tape validation,
engine `seq`) and under the controlled scheduler with every cache read / write inside a compilation
as a scheduling point (engine `par`). -/
set_option linter.unusedSectionVars false
namespace Ddo.C09

/-- the sequential cleaning loop only passes over layers without open nodes -/
theorem clear_layer_safe_seq (nbVars : Nat) (openByLayer : List Nat) (fuel fa : Nat) :
    fa ≤ cleanLoop nbVars openByLayer fuel fa ∧
    ∀ d, fa ≤ d → d < cleanLoop nbVars openByLayer fuel fa → openByLayer[d]? = some 0 ∧ d < nbVars := by
  induction fuel generalizing fa with
  | zero => simp only [cleanLoop]; exact ⟨Nat.le_refl _, fun d h1 h2 => by omega⟩
  | succ n ih =>
    simp only [cleanLoop]
    split
    · next h =>
      obtain ⟨i1, i2⟩ := ih (fa + 1)
      refine ⟨by omega, fun d hd hlt => ?_⟩
      by_cases e : d = fa
      · subst e; exact ⟨h.2, h.1⟩
      · exact i2 d (by omega) hlt
    · exact ⟨Nat.le_refl _, fun d hd hlt => by omega⟩

/-- the parallel cleaning loop only passes over layers with nothing open and nothing in progress -/
theorem clear_layer_safe_par (nbVars : Nat) (openByLayer ongoingByLayer : List Nat) (fuel fa : Nat) :
    fa ≤ cleanLoopPar nbVars openByLayer ongoingByLayer fuel fa ∧
    ∀ d, fa ≤ d → d < cleanLoopPar nbVars openByLayer ongoingByLayer fuel fa →
      (openByLayer[d]?.getD 1) + (ongoingByLayer[d]?.getD 1) = 0 ∧ d < nbVars := by
  induction fuel generalizing fa with
  | zero => simp only [cleanLoopPar]; exact ⟨Nat.le_refl _, fun d h1 h2 => by omega⟩
  | succ n ih =>
    simp only [cleanLoopPar]
    split
    · next h =>
      obtain ⟨i1, i2⟩ := ih (fa + 1)
      refine ⟨by omega, fun d hd hlt => ?_⟩
      by_cases e : d = fa
      · subst e; exact ⟨h.2, h.1⟩
      · exact i2 d (by omega) hlt
    · exact ⟨Nat.le_refl _, fun d hd hlt => by omega⟩

/-- `must_explore`, as the property states it (re-exported from C18) -/
theorem must_explore_spec (t : Option Thr) (v : Int) :
    mustExploreThr t v = true ↔ (t = none ∨ ∃ th, t = some th ∧ (v > th.value ∨ (v = th.value ∧ th.explored = false))) :=
  C18.must_explore_spec t v

/-- a stored threshold never decreases, whatever the order of the writes (re-exported from C18) -/
theorem threshold_never_decreases (cell : Option Thr) (t : Thr) :
    ∃ r, updCell cell t = some r ∧ Thr.le t r ∧ ∀ e, cell = some e → Thr.le e r := C18.update_ge cell t

/-! Sentence 1 ("for arbitrary runs the caching solvers return the optimum") is `caching_solver_correct` in `Props/C09c.lean`
    (every pop order); threshold soundness of a single compilation is `theta_sound` /
    `theta_sound_isolated` in `Props/C09b.lean`. -/

end Ddo.C09
