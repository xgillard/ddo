import DdoModel.Proofs.PooledCover
import DdoModel.Proofs.PooledBounds
import DdoModel.Proofs.PooledTruth
import DdoModel.Proofs.PooledProgress
import DdoModel.Proofs.PooledFix
import DdoModel.Props.C15
import DdoModel.Props.C01d
import DdoModel.Props.C07p
import DdoModel.Props.C08p
import DdoModel.Props.C08q
import DdoModel.ParSysExec
/-! # C15 (closed) — the pooled diagram as a third diagram implementation of the closed solver theorem

`Props/C01d.lean` closes the composition "clean diagram model ∘ sequential solver model" (`sequential_solver_correct`).  Here the
same is done for the **pooled** diagram `compileP` (`DdoModel/Pooled.lean`), whose nodes may skip the layers of the variables
that do not impact them (*long arcs*).  Helpers: `Proofs/PooledDefs.lean` (shared definitions), `PooledCover.lean` (C06),
`PooledBounds.lean` (C08 (iii), (iv)), `PooledTruth.lean` (what is reported as exact is sound), `PooledProgress.lean` (C08 (ii)).

## the contract of `is_impacted_by`: `SkipWf P H`

The pooled diagram leaves a node whose state `s` is not impacted by the variable `x` of the layer where it is: same state, same
value, depth `+ 1`, **no decision**.  With `H k s` the value-to-go (`Potential`), this is sound iff skipping changes nothing to
what can still be gained: `impacted x s = false → H (k+1) s = H k s`.  `SkipWf` (in `Proofs/PooledDefs.lean`, with `NeutralSkip`
and the two `skipWf_of_…` lemmas named below) states the two inequalities separately, each
exactly where it is needed — `up : H k s ≤ H (k+1) s` on every state handed to `nextVar` (upper-bound direction: C06, C08
(iii)/(iv); the counterpart of `Potential.att` for a skipped node), `down : H (k+1) s ≤ H k s` on states reached exactly
(lower-bound direction: `CompileOk.sound/within`, `CutsetOk.good/sub`; the counterpart of `Potential.le`) — plus `le`:
`Potential.le` on the states reached *with skips* (`ReachSkip`; `Potential.le` only speaks of `Reach`).  It is the right
contract because (a) it is void without long arcs (`skipWf_of_allImpacted`), (b) it follows from `Potential` and the documented
meaning of `is_impacted_by` — a decision on a variable that does not impact a state leaves the state where it is and costs nothing
(`NeutralSkip`, `skipWf_of_neutral`) —, and (c) it is necessary: `Ddo.C07.WitnessP` declares "not impacted" a state that the
variable does change, no `H` satisfies `Potential` + `SkipWf` there (`19 ≤ H 1 3 ≤ H 2 3 ≤ 9`), and skipping loses the optimum
(`D5.clean_vs_pooled`, `Props/C15bWitness.lean`: the solver over the clean diagrams reports `119`, the pooled diagrams never see
more than `109`).

## results (all with arbitrary long arcs unless `AllImpacted` is mentioned)

Per compilation: C06 (`relaxed_ub_pooled`), C08 (iii) / (iv) (`cutset_ub_valid_pooled`, `cutset_cover_pooled`; (i) and (ii) are in
`Props/C08q.lean`), soundness of what is reported as exact (`bestExact_restricted_pooled`, `bestExact_relaxed_pooled`,
`pooled_exact_truthful`), hence the solver's contracts `CompileOk` / `CutsetOk` with `Sol := SolOfSkip`.  For the solver:
`sequential_solver_correct_pooled` (under `WellFormed` + `AllImpacted`, conclusion word for word that of
`sequential_solver_correct`) and **`sequential_solver_correct_pooled_long_arcs`** — since the repair of D5 (`Proofs/PooledFix.lean`)
C08 (ii) is a theorem for every model, so termination and optimality hold for every well-formed long-arc model;
`pooled_partial_correct_long_arcs` (which does not need (ii)) and `sequential_solver_correct_pooled_gen` (termination from
`CutProgress`) are its two halves.  About the code before the repair (`compilePOld`): `d5_only_root`; the loop that did not terminate
and the other instances are in `Props/C15bWitness.lean`.

No clean-diagram theorem other than C08 (ii) was found to fail for the pooled model before the repair; none fails after it. -/
set_option linter.unusedSectionVars false
set_option linter.unusedVariables false
namespace Ddo.C15
open Ddo Ddo.Pooled Ddo.Truth Ddo.Closed Ddo.C01
variable {S K : Type} [DecidableEq S] [DecidableEq K]

theorem finalizeP_isExact (cfg : Cfg S K) (pd : PD S K) (e : Bool) :
    (finalizeP cfg pd e).isExact = (pd.isExactField || e) := rfl

theorem compileP_result1 (cfg : Cfg S K) (cache : Cache S) (store : DomStore S K) (polls : Nat) (stopAt : Option Nat)
    (hok : (compileP cfg cache store polls stopAt).1 = .ok) :
    ∃ X : Bool, (compileP cfg cache store polls stopAt).2.1 =
      finalizeP cfg (compileP cfg cache store polls stopAt).2.2.2 ((cfg.ctype == .relaxed) && X) := by
  rw [compileP_outcome] at hok
  unfold compileP
  generalize buildLoopP cfg stopAt (cfg.P.nbVars + 2) (initPD cfg cache store polls) = bl at hok ⊢
  obtain ⟨pd, oc⟩ := bl
  dsimp only at hok
  subst hok
  exact ⟨_, rfl⟩

/-- **`relaxed_ub_pooled`** — the analogue of `Ddo.C06.relaxed_ub_rel_dom` for `compileP`: a relaxed pooled compilation in
    isolation (no cache, no dominance), any width, any cutoff that lets it end normally, **long arcs allowed**: if the
    optimum `o` of the root sub-problem beats the incumbent, the diagram reports a best value `≥ o` (both results).
    Relative to a layer-validity predicate `V` (`WfRel`, `NoClampDom`), as the clean theorem.

    The only new hypothesis is `hsk : SkipRel cfg.P H V` — the contract of `is_impacted_by`, upper-bound half: a state `s`
    of the list handed to `nextVar k` that is not impacted by the answer stays valid at depth `k + 1` and
    `H k s ≤ H (k+1) s` (skipping the variable loses no potential).  It is void when every variable impacts every state
    (`skipRel_of_allImpacted`), and it is the `up` clause of `SkipWf` (`SkipWf.toRel`).
    `1 ≤ cfg.width` is not needed: width `0` makes the compilation crash, which `hok` excludes. -/
theorem relaxed_ub_pooled (cfg : Cfg S K) (H : Nat → S → EInt) (V : Nat → S → Prop) (B : Int)
    (cache : Cache S) (store : DomStore S K) (polls : Nat) (stopAt : Option Nat)
    (hrel : cfg.ctype = .relaxed) (hcache : cfg.useCache = false) (hdom : cfg.dom = none)
    (hwf : WfRel cfg.P cfg.R H V) (hsk : SkipRel cfg.P H V) (hV : V cfg.root.depth cfg.root.state)
    (hB : NoClampDom cfg.P cfg.R cfg.root.value B) (hlb : InI cfg.lb)
    (o : Int) (ho : optOf H cfg.root = some o) (hgt : o > cfg.lb) (hO : o ≤ iMax ∨ cfg.lb < iMax)
    (hok : (compileP cfg cache store polls stopAt).1 = .ok) (r : Result S)
    (hr : r = (compileP cfg cache store polls stopAt).2.1 ∨ (compileP cfg cache store polls stopAt).2.2.1 = some r) :
    ∃ bv, r.bestValue = some bv ∧ o ≤ bv := by
  have hy : PCover.HypP cfg H V B o := ⟨hcache, hdom, WfX.of_rel hwf, fun _ => hwf, hsk, hB, clamp_gt hlb hgt hO⟩
  obtain ⟨bv, h1, h2⟩ := PCover.compileP_cover cfg H V B o hy cache store polls stopAt hV ho hok (.inl hrel)
  obtain ⟨e, rfl⟩ := C08.compileP_results_ok cfg cache store polls stopAt hok r hr
  rw [compileP_pd] at h1
  exact ⟨bv, by rw [finalizeP_bestValue]; exact h1, h2⟩

/-- the un-relativised form (the hypotheses of `Ddo.C06.relaxed_ub` + `SkipWf`) -/
theorem relaxed_ub_pooled_global (cfg : Cfg S K) (H : Nat → S → EInt) (B : Int)
    (cache : Cache S) (store : DomStore S K) (polls : Nat) (stopAt : Option Nat)
    (hrel : cfg.ctype = .relaxed) (hcache : cfg.useCache = false) (hdom : cfg.dom = none)
    (hP : Potential cfg.P H) (hS : SkipWf cfg.P H) (hR : RubOk cfg.R H) (hM : MergeOk cfg.R H)
    (hAM : Cover.AttMerge cfg.P cfg.R H)
    (hB : NoClamp cfg.P cfg.R cfg.root.value B) (hlb : InI cfg.lb)
    (o : Int) (ho : optOf H cfg.root = some o) (hgt : o > cfg.lb) (hO : o ≤ iMax ∨ cfg.lb < iMax)
    (hok : (compileP cfg cache store polls stopAt).1 = .ok) (r : Result S)
    (hr : r = (compileP cfg cache store polls stopAt).2.1 ∨ (compileP cfg cache store polls stopAt).2.2.1 = some r) :
    ∃ bv, r.bestValue = some bv ∧ o ≤ bv :=
  relaxed_ub_pooled cfg H (fun _ _ => True) B cache store polls stopAt hrel hcache hdom
    (Cover.wfRel_of_global hP hR hM hAM) hS.toRel trivial hB.toDom hlb o ho hgt hO hok r hr

/-! The defect D5 (before its repair the root could be handed out by its own cut-set) concerned clause (ii) of C08 only: (i)
    (`Ddo.C08.cutset_exact_pooled`), (iii) and (iv) hold with arbitrary long arcs.  Proofs: `Proofs/PooledBounds.lean`, `PooledFix.lean`. -/

/-- **C08 (iii), pooled**: the upper bound `min (min (value ⊕ rub) (value ⊕ vbot)) bestValue` of a cut-set sub-problem
    dominates its potential when that potential beats the incumbent.  Hypotheses of the clean theorem
    (`Ddo.C08.cutset_ub_valid`) + `SkipWf` (only `up` is used); `hroot` with skips.  (With the degenerate incumbent
    `lb = isize::MAX` the pooled cut-set is empty, as for the clean diagram: `Ddo.PBounds.compileP_lbmax_cutset`.) -/
theorem cutset_ub_valid_pooled (cfg : Cfg S K) (H : Nat → S → EInt) (B : Int) (p0 : List Dec) (cache : Cache S)
    (store : DomStore S K) (polls : Nat) (stopAt : Option Nat)
    (hrel : cfg.ctype = .relaxed) (hcache : cfg.useCache = false) (hdom : cfg.dom = none) (hW : 1 ≤ cfg.width)
    (hP : Potential cfg.P H) (hS : SkipWf cfg.P H) (hR : RubOk cfg.R H) (hM : MergeOk cfg.R H)
    (hAM : Cover.AttMerge cfg.P cfg.R H)
    (hB : NoClamp cfg.P cfg.R cfg.root.value B) (hlb : InI cfg.lb)
    (hroot : ReachSkip cfg.P cfg.root.depth cfg.root.state cfg.root.value p0)
    (hok : (compileP cfg cache store polls stopAt).1 = .ok) (r : Result S)
    (hr : r = (compileP cfg cache store polls stopAt).2.1 ∨ (compileP cfg cache store polls stopAt).2.2.1 = some r) :
    ∀ c ∈ r.cutset, ∀ x, (H c.depth c.state).addI c.value = some x → x > cfg.lb → x ≤ c.ub :=
  PBounds.cutset_ub_valid_pooled' cfg H B p0 cache store polls stopAt hrel hcache hdom hW hP hS hR hM hAM hB hlb hroot
    hok r hr

/-- **C08 (iv), pooled**: if the potential `o` of the root sub-problem beats the incumbent and the best exact value of the
    diagram, some sub-problem of the cut-set has potential `≥ o`. -/
theorem cutset_cover_pooled (cfg : Cfg S K) (H : Nat → S → EInt) (B : Int) (p0 : List Dec) (cache : Cache S)
    (store : DomStore S K) (polls : Nat) (stopAt : Option Nat)
    (hrel : cfg.ctype = .relaxed) (hcache : cfg.useCache = false) (hdom : cfg.dom = none) (hW : 1 ≤ cfg.width)
    (hP : Potential cfg.P H) (hS : SkipWf cfg.P H) (hR : RubOk cfg.R H) (hM : MergeOk cfg.R H)
    (hAM : Cover.AttMerge cfg.P cfg.R H)
    (hB : NoClamp cfg.P cfg.R cfg.root.value B) (hlb : InI cfg.lb)
    (hroot : ReachSkip cfg.P cfg.root.depth cfg.root.state cfg.root.value p0)
    (o : Int) (ho : optOf H cfg.root = some o) (hgt : o > cfg.lb) (hO : o ≤ iMax ∨ cfg.lb < iMax)
    (hok : (compileP cfg cache store polls stopAt).1 = .ok) (r : Result S)
    (hr : r = (compileP cfg cache store polls stopAt).2.1 ∨ (compileP cfg cache store polls stopAt).2.2.1 = some r)
    (hbe : ∀ be, r.bestExactValue = some be → be < o) :
    ∃ c ∈ r.cutset, ∃ y, (H c.depth c.state).addI c.value = some y ∧ o ≤ y :=
  PBounds.cutset_cover_pooled cfg H B p0 cache store polls stopAt hrel hcache hdom hW hP hS hR hM hAM hB hlb hroot o ho hgt
    hO hok r hr hbe

theorem rel_facts (cfg : Cfg S K) (H : Nat → S → EInt) (p0 : List Dec) (hP : Potential cfg.P H) {w : Int}
    {sol : Option (List Dec)}
    (h : ∃ (k : Nat) (s : S) (q : List Dec) (L : List S),
      (ReachSkip cfg.P k s w (p0 ++ q) ∧ (H k s).addI w ≤ optOf H cfg.root) ∧ s ∈ L ∧ cfg.P.nextVar k L = none ∧
      sol = some (cfg.root.path ++ q.reverse)) :
    IsSolP cfg p0 w sol ∧ ∃ x, optOf H cfg.root = some x ∧ w ≤ x := by
  obtain ⟨k, s, q, L, ⟨hr, hle⟩, hs, hnv, hsol⟩ := h
  refine ⟨⟨k, s, q, L, hr, hs, hnv, hsol⟩, ?_⟩
  rw [hP.term k L s hnv hs] at hle
  cases hN : optOf H cfg.root with
  | none => rw [hN] at hle; exact absurd hle (by simp [EInt.addI])
  | some x =>
    rw [hN] at hle
    simp only [EInt.addI, Option.map_some, EInt.some_le_some] at hle
    exact ⟨x, rfl, by rw [Int.zero_add] at hle; exact hle⟩

/-- restricted pooled compilation, any cache / dominance configuration, any cutoff: a reported exact value is the value of the
    reported solution, a complete feasible path (with skips) through the root sub-problem, and is at most the optimum of the
    root sub-problem -/
theorem bestExact_restricted_pooled (cfg : Cfg S K) (H : Nat → S → EInt) (B : Int) (p0 : List Dec)
    (cache : Cache S) (store : DomStore S K) (polls : Nat) (stopAt : Option Nat)
    (hty : cfg.ctype = .restricted ∨ cfg.ctype = .exact) (hP : Potential cfg.P H) (hS : SkipWf cfg.P H)
    (hB : NoClamp cfg.P cfg.R cfg.root.value B)
    (hroot : ReachSkip cfg.P cfg.root.depth cfg.root.state cfg.root.value p0)
    (hok : (compileP cfg cache store polls stopAt).1 = .ok) (w : Int)
    (hw : (compileP cfg cache store polls stopAt).2.1.bestExactValue = some w) :
    IsSolP cfg p0 w (compileP cfg cache store polls stopAt).2.1.bestExactSol ∧ ∃ x, optOf H cfg.root = some x ∧ w ≤ x :=
  rel_facts cfg H p0 hP (PTruth.bestExact_rel_restricted cfg B _ (pathRel_potLe hS p0 (optOf H cfg.root))
    ⟨by rw [List.append_nil]; exact hroot, EInt.le_refl _⟩ hB cache store polls stopAt hty hok w hw)

/-- relaxed pooled compilation in isolation, the `must` result: the same -/
theorem bestExact_relaxed_pooled (cfg : Cfg S K) (H : Nat → S → EInt) (B : Int) (p0 : List Dec)
    (cache : Cache S) (store : DomStore S K) (polls : Nat)
    (hrel : cfg.ctype = .relaxed) (hcache : cfg.useCache = false) (hdom : cfg.dom = none) (hW : 1 ≤ cfg.width)
    (hP : Potential cfg.P H) (hS : SkipWf cfg.P H) (hB : NoClamp cfg.P cfg.R cfg.root.value B)
    (hroot : ReachSkip cfg.P cfg.root.depth cfg.root.state cfg.root.value p0)
    (hok : (compileP cfg cache store polls none).1 = .ok) (w : Int)
    (hw : (compileP cfg cache store polls none).2.1.bestExactValue = some w) :
    IsSolP cfg p0 w (compileP cfg cache store polls none).2.1.bestExactSol ∧ ∃ x, optOf H cfg.root = some x ∧ w ≤ x :=
  rel_facts cfg H p0 hP (PTruth.bestExact_rel_relaxed cfg B _ (pathRel_potLe hS p0 (optOf H cfg.root))
    ⟨by rw [List.append_nil]; exact hroot, EInt.le_refl _⟩ hB cache store polls hrel hcache hdom hW hok w hw)

theorem maxValue_filter_all (l : List (Node S)) (h : ∀ n ∈ l, n.isExact = true) :
    maxValue (l.filter (·.isExact)) = maxValue l := by
  rw [List.filter_eq_self.2 h]

/-- **truthful exactness, pooled diagram** (the `exact` field of `CompileOk`), long arcs allowed: a pooled compilation in
    isolation — restricted, or relaxed (its `must` result) — that declares itself exact reports, as best exact value, the
    optimum `x` of the root sub-problem as soon as it beats the incumbent.
    (`hwm`: the merge clauses `MergeOk` / `AttMerge` are only needed for a relaxed compilation.) -/
theorem pooled_exact_truthful (cfg : Cfg S K) (H : Nat → S → EInt) (B : Int) (p0 : List Dec)
    (cache : Cache S) (store : DomStore S K) (polls : Nat)
    (hcache : cfg.useCache = false) (hdom : cfg.dom = none)
    (hP : Potential cfg.P H) (hS : SkipWf cfg.P H) (hR : RubOk cfg.R H)
    (hwm : cfg.ctype = .relaxed → MergeOk cfg.R H ∧ Cover.AttMerge cfg.P cfg.R H)
    (hB : NoClamp cfg.P cfg.R cfg.root.value B) (hlb : InI cfg.lb)
    (hok : (compileP cfg cache store polls none).1 = .ok)
    (hwithin : ∀ w, (compileP cfg cache store polls none).2.1.bestExactValue = some w →
      ∃ x, optOf H cfg.root = some x ∧ w ≤ x)
    (hex : (compileP cfg cache store polls none).2.1.isExact = true)
    (x : Int) (hx : optOf H cfg.root = some x) (hgt : x > cfg.lb) (hO : x ≤ iMax ∨ cfg.lb < iMax) :
    (compileP cfg cache store polls none).2.1.bestExactValue = some x := by
  obtain ⟨X, hres⟩ := compileP_result1 cfg cache store polls none hok
  have hy : PCover.HypP cfg H (fun _ _ => True) B x :=
    ⟨hcache, hdom, wfX_of_potential hP hR, fun h => Cover.wfRel_of_global hP hR (hwm h).1 (hwm h).2, hS.toRel, hB.toDom,
      clamp_gt hlb hgt hO⟩
  rw [hres] at hex hwithin ⊢
  rw [finalizeP_isExact] at hex
  -- the best value is `≥ x` …
  have hcov : (cfg.ctype = .relaxed ∨ (compileP cfg cache store polls none).2.2.2.isExactField = true) →
      ∃ bv, maxValue (termsP (compileP cfg cache store polls none).2.2.2) = some bv ∧ x ≤ bv :=
    PCover.compileP_cover cfg H (fun _ _ => True) B x hy cache store polls none trivial hx hok
  -- … and it is the best exact value
  have key : ∃ bv, (finalizeP cfg (compileP cfg cache store polls none).2.2.2
      ((cfg.ctype == .relaxed) && X)).bestExactValue = some bv ∧ x ≤ bv := by
    rw [PBounds.finalizeP_bestExactValue]
    cases he : ((cfg.ctype == .relaxed) && X) with
    | true =>
      have hrelx : cfg.ctype = .relaxed := by
        rw [Bool.and_eq_true] at he
        exact beq_iff_eq.1 he.1
      simp only [if_true]
      exact hcov (.inl hrelx)
    | false =>
      rw [he] at hex
      have hief : (compileP cfg cache store polls none).2.2.2.isExactField = true := by simpa using hex
      simp only [Bool.false_eq_true, if_false]
      rw [maxValue_filter_all]
      · exact hcov (.inr hief)
      · intro n hn
        obtain ⟨m, hm, rfl⟩ := mem_termsP hn
        exact PCover.compileP_allEx cfg cache store polls none hief m hm
  obtain ⟨bv, h1, h2⟩ := key
  obtain ⟨x', hx', hle⟩ := hwithin bv h1
  rw [hx] at hx'
  have : x' = x := (Option.some.inj hx').symm
  rw [h1]
  congr 1
  exact Int.le_antisymm (this ▸ hle) h2

/-! The contracts, with `Phi c := optOf H c`, `opt` the optimum of the whole problem, `Sol p w := SolOfSkip P p w`: `p` lists, in some
    order, the decisions of a path **with skips** of the model from the problem root to a complete state, of value `w` (a variable that
    does not impact the state reached so far carries no decision). -/

/-- `p` lists (in some order) the decisions of a complete path with skips of the model, of value `w` -/
def SolOfSkip (P : Problem S) (p : List Dec) (w : Int) : Prop :=
  ∃ (k : Nat) (s : S) (q : List Dec) (L : List S), ReachSkip P k s w q ∧ s ∈ L ∧ P.nextVar k L = none ∧ p.Perm q

omit [DecidableEq S] in
theorem SolOfSkip.toSolOf {P : Problem S} (hall : AllImpacted P) {p : List Dec} {w : Int} (h : SolOfSkip P p w) :
    SolOf P p w := by
  obtain ⟨k, s, q, L, h1, h2, h3, h4⟩ := h
  exact ⟨k, s, q, L, h1.toReach hall, h2, h3, h4⟩

omit [DecidableEq S] [DecidableEq K] in
theorem isSolP_facts (cfg : Cfg S K) (H : Nat → S → EInt) (opt : Int) (p0 : List Dec) (hP : Potential cfg.P H)
    (hS : SkipWf cfg.P H) (hperm : cfg.root.path.Perm p0)
    (hopt : (H 0 cfg.P.init).addI cfg.P.initVal = some opt) (w : Int) (sol : Option (List Dec))
    (h : IsSolP cfg p0 w sol) : ∃ p, sol = some p ∧ SolOfSkip cfg.P p w ∧ w ≤ opt := by
  obtain ⟨k, s, q, L, hr, hs, hnv, hsol⟩ := h
  refine ⟨_, hsol, ⟨k, s, p0 ++ q, L, hr, hs, hnv, List.Perm.append hperm (List.reverse_perm q)⟩, ?_⟩
  have hle := reachSkip_le_root hS hr
  rw [hP.term k L s hnv hs, hopt] at hle
  simpa [EInt.addI] using hle

theorem compileOkP_of (cfg : Cfg S K) (H : Nat → S → EInt) (B opt : Int) (p0 : List Dec)
    (cache : Cache S) (store : DomStore S K) (polls : Nat) (hcache : cfg.useCache = false) (hdom : cfg.dom = none)
    (hP : Potential cfg.P H) (hS : SkipWf cfg.P H) (hR : RubOk cfg.R H)
    (hwm : cfg.ctype = .relaxed → MergeOk cfg.R H ∧ Cover.AttMerge cfg.P cfg.R H)
    (hB : NoClamp cfg.P cfg.R cfg.root.value B) (hlb : InI cfg.lb) (hlb' : cfg.lb < iMax)
    (hperm : cfg.root.path.Perm p0) (hopt : (H 0 cfg.P.init).addI cfg.P.initVal = some opt)
    (hok : (compileP cfg cache store polls none).1 = .ok)
    (hsw : ∀ w, (compileP cfg cache store polls none).2.1.bestExactValue = some w →
      IsSolP cfg p0 w (compileP cfg cache store polls none).2.1.bestExactSol ∧ ∃ x, optOf H cfg.root = some x ∧ w ≤ x) :
    CompileOk (optOf H) opt (SolOfSkip cfg.P) cfg.root cfg.lb (toOut (compileP cfg cache store polls none).2.1) :=
  ⟨fun w hw => isSolP_facts cfg H opt p0 hP hS hperm hopt w _ (hsw w hw).1, fun w hw => (hsw w hw).2,
    fun hex x hx hgt => pooled_exact_truthful cfg H B p0 cache store polls hcache hdom hP hS hR hwm hB hlb hok
      (fun w hw => (hsw w hw).2) hex x hx hgt (.inr hlb')⟩

/-- **the contract of a restricted pooled compilation** (in isolation) -/
theorem compileOkP_restricted (cfg : Cfg S K) (H : Nat → S → EInt) (B opt : Int) (p0 : List Dec)
    (cache : Cache S) (store : DomStore S K) (polls : Nat)
    (hres : cfg.ctype = .restricted) (hcache : cfg.useCache = false) (hdom : cfg.dom = none)
    (hP : Potential cfg.P H) (hS : SkipWf cfg.P H) (hR : RubOk cfg.R H)
    (hB : NoClamp cfg.P cfg.R cfg.root.value B) (hlb : InI cfg.lb) (hlb' : cfg.lb < iMax)
    (hroot : ReachSkip cfg.P cfg.root.depth cfg.root.state cfg.root.value p0) (hperm : cfg.root.path.Perm p0)
    (hopt : (H 0 cfg.P.init).addI cfg.P.initVal = some opt)
    (hok : (compileP cfg cache store polls none).1 = .ok) :
    CompileOk (optOf H) opt (SolOfSkip cfg.P) cfg.root cfg.lb (toOut (compileP cfg cache store polls none).2.1) :=
  compileOkP_of cfg H B opt p0 cache store polls hcache hdom hP hS hR (fun h => nomatch hres.symm.trans h) hB hlb hlb' hperm
    hopt hok (bestExact_restricted_pooled cfg H B p0 cache store polls none (.inl hres) hP hS hB hroot hok)

/-- **the contract of a relaxed pooled compilation** (in isolation, the `must` result) -/
theorem compileOkP_relaxed (cfg : Cfg S K) (H : Nat → S → EInt) (B opt : Int) (p0 : List Dec)
    (cache : Cache S) (store : DomStore S K) (polls : Nat)
    (hrel : cfg.ctype = .relaxed) (hcache : cfg.useCache = false) (hdom : cfg.dom = none) (hW : 1 ≤ cfg.width)
    (hP : Potential cfg.P H) (hS : SkipWf cfg.P H) (hR : RubOk cfg.R H) (hM : MergeOk cfg.R H)
    (hAM : Cover.AttMerge cfg.P cfg.R H)
    (hB : NoClamp cfg.P cfg.R cfg.root.value B) (hlb : InI cfg.lb) (hlb' : cfg.lb < iMax)
    (hroot : ReachSkip cfg.P cfg.root.depth cfg.root.state cfg.root.value p0) (hperm : cfg.root.path.Perm p0)
    (hopt : (H 0 cfg.P.init).addI cfg.P.initVal = some opt)
    (hok : (compileP cfg cache store polls none).1 = .ok) :
    CompileOk (optOf H) opt (SolOfSkip cfg.P) cfg.root cfg.lb (toOut (compileP cfg cache store polls none).2.1) :=
  compileOkP_of cfg H B opt p0 cache store polls hcache hdom hP hS hR (fun _ => ⟨hM, hAM⟩) hB hlb hlb' hperm hopt hok
    (bestExact_relaxed_pooled cfg H B p0 cache store polls hrel hcache hdom hW hP hS hB hroot hok)

theorem cutset_reach_sub (cfg : Cfg S K) (H : Nat → S → EInt) (B : Int) (p0 : List Dec)
    (cache : Cache S) (store : DomStore S K) (polls : Nat) (stopAt : Option Nat)
    (hS : SkipWf cfg.P H) (hB : NoClamp cfg.P cfg.R cfg.root.value B)
    (hroot : ReachSkip cfg.P cfg.root.depth cfg.root.state cfg.root.value p0)
    (hok : (compileP cfg cache store polls stopAt).1 = .ok) (r : Result S)
    (hr : r = (compileP cfg cache store polls stopAt).2.1 ∨ (compileP cfg cache store polls stopAt).2.2.1 = some r) :
    ∀ c ∈ r.cutset, (∃ q, ReachSkip cfg.P c.depth c.state c.value (p0 ++ q) ∧ c.path = cfg.root.path ++ q.reverse) ∧
      optOf H c ≤ optOf H cfg.root := by
  intro c hc
  obtain ⟨q, ⟨h1, h2⟩, h3⟩ := PTruth.cutset_rel_pooled cfg B _ (pathRel_potLe hS p0 (optOf H cfg.root))
    ⟨by rw [List.append_nil]; exact hroot, EInt.le_refl _⟩ hB cache store polls stopAt hok r hr c hc
  exact ⟨⟨q, h1, h3⟩, h2⟩

/-- **the cut-set contract of a relaxed pooled compilation** (in isolation; either result; any cutoff), long arcs allowed: all
    four fields of `Ddo.CutsetOk` — `good` and `sub` from C08 (i), `ub` is C08 (iii), `cover` is C08 (iv).
    Clause (ii) (progress) is *not* part of the contract: the coverage invariant does not need it, only termination does. -/
theorem cutsetOkP_relaxed (cfg : Cfg S K) (H : Nat → S → EInt) (B opt : Int) (p0 : List Dec)
    (cache : Cache S) (store : DomStore S K) (polls : Nat) (stopAt : Option Nat)
    (hrel : cfg.ctype = .relaxed) (hcache : cfg.useCache = false) (hdom : cfg.dom = none) (hW : 1 ≤ cfg.width)
    (hP : Potential cfg.P H) (hS : SkipWf cfg.P H) (hR : RubOk cfg.R H) (hM : MergeOk cfg.R H)
    (hAM : Cover.AttMerge cfg.P cfg.R H)
    (hB : NoClamp cfg.P cfg.R cfg.root.value B) (hlb : InI cfg.lb) (hlb' : cfg.lb < iMax)
    (hroot : ReachSkip cfg.P cfg.root.depth cfg.root.state cfg.root.value p0)
    (hopt : (H 0 cfg.P.init).addI cfg.P.initVal = some opt)
    (hok : (compileP cfg cache store polls stopAt).1 = .ok) (r : Result S)
    (hr : r = (compileP cfg cache store polls stopAt).2.1 ∨ (compileP cfg cache store polls stopAt).2.2.1 = some r) :
    CutsetOk (optOf H) opt cfg.root cfg.lb (toOut r) := by
  have hrs := cutset_reach_sub cfg H B p0 cache store polls stopAt hS hB hroot hok r hr
  refine ⟨?_, ?_, ?_, ?_⟩
  · intro c hc y hy
    obtain ⟨⟨q, hq, _⟩, _⟩ := hrs c hc
    have hle := reachSkip_le_root hS hq
    unfold optOf at hy
    rw [hy, hopt] at hle
    simpa using hle
  · intro c hc x hx hgt
    exact cutset_ub_valid_pooled cfg H B p0 cache store polls stopAt hrel hcache hdom hW hP hS hR hM hAM hB hlb hroot
      hok r hr c hc x hx hgt
  · intro x hx hgt hbe
    exact cutset_cover_pooled cfg H B p0 cache store polls stopAt hrel hcache hdom hW hP hS hR hM hAM hB hlb hroot x hx hgt
      (.inr hlb') hok r hr hbe
  · intro c hc y hy
    have hle := (hrs c hc).2
    rw [hy] at hle
    cases hN : optOf H cfg.root with
    | none => rw [hN] at hle; exact absurd hle (by simp)
    | some x => rw [hN] at hle; exact ⟨x, rfl, by simpa using hle⟩

/-! The concrete sequential solver over the pooled diagram — `Props/C01d.lean` with `compileP` in the place of `compile`: `CStepP` = one
    turn of the loop of `maximize` (pop a maximal node `N`, `afterPop`, restricted pooled compilation, relaxed pooled compilation with the
    updated incumbent, `process`) with `EmptyCache`, no dominance checker, no cutoff; `CInvP` = the coverage invariant `Inv` of C01 plus:
    every open sub-problem is reached **with skips** by a permutation of its path with exactly its value. -/

section model
variable {P : Problem S}

omit [DecidableEq S] in
theorem reachSkip_depth_le (hNV : NvBound P) {k : Nat} {s : S} {v : Int} {p : List Dec}
    (h : ReachSkip P k s v p) : k ≤ P.nbVars := by
  cases h with
  | root => omega
  | step k s v p L x d hr hnv hs hd =>
    by_cases hk : P.nbVars ≤ k
    · rw [hNV k L hk] at hnv; cases hnv
    · omega
  | skip k s v p L x hr hnv hs hi =>
    by_cases hk : P.nbVars ≤ k
    · rw [hNV k L hk] at hnv; cases hnv
    · omega

omit [DecidableEq S] in
theorem reachSkip_value_bound {B0 : Int} (hC : CostBound P B0) {k : Nat} {s : S} {v : Int} {p : List Dec}
    (h : ReachSkip P k s v p) : -(((k : Int) + 1) * B0) ≤ v ∧ v ≤ ((k : Int) + 1) * B0 := by
  have hB0 : 0 ≤ B0 := by have := hC.init; omega
  induction h with
  | root => exact Bnd.zero hC.init
  | step k s v p L x d hr hnv hs hd ih => exact Bnd.step ih (hC.cost s (P.trans s ⟨x, d⟩) ⟨x, d⟩)
  | skip k s v p L x hr hnv hs hi ih => exact Bnd.mono hB0 ih (Nat.le_succ k)

omit [DecidableEq S] in
theorem _root_.Ddo.Closed.RunBound.value_le_skip {R : Relax S} {B0 B : Int} (h : RunBound P R B0 B) (hNV : NvBound P)
    {k : Nat} {s : S} {v : Int} {p : List Dec} (hr : ReachSkip P k s v p) : -B ≤ v ∧ v ≤ B := by
  have h1 := reachSkip_value_bound h.cost hr
  have hk := reachSkip_depth_le hNV hr
  have h2 : ((k : Int) + 1) * B0 ≤ ((P.nbVars : Int) + 1) * B0 :=
    Int.mul_le_mul_of_nonneg_right (by omega) h.B0_nonneg
  have := h.fit
  omega

omit [DecidableEq S] in
theorem _root_.Ddo.Closed.RunBound.noClamp_at_skip {R : Relax S} {B0 B : Int} (h : RunBound P R B0 B) (hNV : NvBound P)
    {k : Nat} {s : S} {v : Int} {p : List Dec} (hr : ReachSkip P k s v p) : NoClamp P R v B :=
  ⟨h.clamp.nonneg, h.value_le_skip hNV hr, h.clamp.cost, h.clamp.relax, h.clamp.small⟩

omit [DecidableEq S] in
theorem reachSkip_dead {H : Nat → S → EInt} (hS : SkipWf P H)
    (hinf : (H 0 P.init).addI P.initVal = none) {k : Nat} {s : S} {v : Int} {p : List Dec}
    (hr : ReachSkip P k s v p) : (H k s).addI v = none := by
  have := reachSkip_le_root hS hr
  rw [hinf] at this
  cases h : (H k s).addI v with
  | none => rfl
  | some x => rw [h] at this; exact absurd this (by simp)

end model

/-- outcome / result of the restricted pooled compilation of `N` -/
def outRP (sv : SolverCfg S) (cache : Cache S) (store : DomStore S Unit) (polls : Nat) (N : SubP S) (lb : Int) : Outcome :=
  (compileP (sv.cfg .restricted N lb) cache store polls none).1
def resRP (sv : SolverCfg S) (cache : Cache S) (store : DomStore S Unit) (polls : Nat) (N : SubP S) (lb : Int) : Result S :=
  (compileP (sv.cfg .restricted N lb) cache store polls none).2.1
/-- outcome / result (`must`) of the relaxed pooled compilation of `N` -/
def outXP (sv : SolverCfg S) (cache : Cache S) (store : DomStore S Unit) (polls : Nat) (N : SubP S) (lb : Int) : Outcome :=
  (compileP (sv.cfg .relaxed N lb) cache store polls none).1
def resXP (sv : SolverCfg S) (cache : Cache S) (store : DomStore S Unit) (polls : Nat) (N : SubP S) (lb : Int) : Result S :=
  (compileP (sv.cfg .relaxed N lb) cache store polls none).2.1

/-- the incumbent the relaxed compilation is started with -/
def lb1P (sv : SolverCfg S) (st : SeqSt S) (N : SubP S) (cache : Cache S) (store : DomStore S Unit) (polls : Nat) : Int :=
  (st.updateBest (toOut (resRP sv cache store polls N st.bestLb))).bestLb

/-- `process_one_node(N)` from the popped state `st`, both compilations answered by the pooled diagram model -/
def turnP (sv : SolverCfg S) (st : SeqSt S) (N : SubP S) (cache cache' : Cache S) (store store' : DomStore S Unit)
    (polls polls' : Nat) : SeqSt S :=
  (st.process sv.dedup N true (.ok (toOut (resRP sv cache store polls N st.bestLb)))
    (.ok (toOut (resXP sv cache' store' polls' N (lb1P sv st N cache store polls))))).1

/-- **one turn of the concrete solver loop over the pooled diagram** -/
inductive CStepP (sv : SolverCfg S) : SeqSt S → SeqSt S → Prop
  | pop (s : SeqSt S) (N : SubP S) (rest : List (SubP S)) (fa : Nat) (cache cache' : Cache S) (store store' : DomStore S Unit)
      (polls polls' : Nat)
      (hpop : s.fringe.Perm (N :: rest))
      (hmax : ∀ c ∈ rest, c.ub < N.ub ∨ (c.ub = N.ub ∧ c.value ≤ N.value))
      (hokR : outRP sv cache store polls N (popped s N rest fa).bestLb = .ok)
      (hokX : outXP sv cache' store' polls' N (lb1P sv (popped s N rest fa) N cache store polls) = .ok) :
      CStepP sv s (turnP sv (popped s N rest fa) N cache cache' store store' polls polls')

inductive CRunP (sv : SolverCfg S) : SeqSt S → SeqSt S → Prop
  | refl (s : SeqSt S) : CRunP sv s s
  | tail {s t u : SeqSt S} : CRunP sv s t → CStepP sv t u → CRunP sv s u

/-- a well-formed model for the pooled diagram: `WellFormed` (C01d) + the contract of `is_impacted_by` -/
structure WellFormedP (sv : SolverCfg S) (H : Nat → S → EInt) (B0 B : Int) : Prop where
  wf : WellFormed sv H B0 B
  skip : SkipWf sv.P H

theorem wellFormedP_of_allImpacted {sv : SolverCfg S} {H : Nat → S → EInt} {B0 B : Int} (hwf : WellFormed sv H B0 B)
    (hall : AllImpacted sv.P) : WellFormedP sv H B0 B := ⟨hwf, skipWf_of_allImpacted hwf.pot hall⟩

/-- an open sub-problem is reached with skips, by a permutation of its path, with exactly its value -/
def NodeOkS (P : Problem S) (c : SubP S) : Prop := ∃ p0, ReachSkip P c.depth c.state c.value p0 ∧ c.path.Perm p0

structure CInvAtP (sv : SolverCfg S) (H : Nat → S → EInt) (open_ : List (SubP S)) (lb : Int) (sol : Option (List Dec))
    (abort : Bool) : Prop where
  nodes : ∀ c ∈ open_, NodeOkS sv.P c
  lbLo : iMin ≤ lb
  solLb : sol = none → lb = iMin
  noAbort : abort = false
  feas : ∀ opt, (H 0 sv.P.init).addI sv.P.initVal = some opt → Inv (optOf H) opt (SolOfSkip sv.P) open_ lb sol
  infeas : (H 0 sv.P.init).addI sv.P.initVal = none → lb = iMin ∧ sol = none

/-- **`CInvP`**: the loop invariant of the concrete solver over the pooled diagram -/
def CInvP (sv : SolverCfg S) (H : Nat → S → EInt) (s : SeqSt S) : Prop :=
  CInvAtP sv H s.fringe s.bestLb s.bestSol s.abort

theorem nodeOkS_ub (P : Problem S) (c : SubP S) (u : Int) (h : NodeOkS P c) : NodeOkS P { c with ub := u } := h

theorem cinvP_lb_le {sv : SolverCfg S} {H : Nat → S → EInt} {B0 B : Int} (hwf : WellFormedP sv H B0 B)
    {open_ : List (SubP S)} {lb : Int} {sol : Option (List Dec)} {abort : Bool} (hI : CInvAtP sv H open_ lb sol abort) :
    lb ≤ B := by
  cases hopt : (H 0 sv.P.init).addI sv.P.initVal with
  | none =>
    have := (hI.infeas hopt).1
    have := hwf.wf.bound.clamp.nonneg
    simp only [iMin] at *; omega
  | some opt =>
    have := (hI.feas opt hopt).lbOk
    have := (opt_bound hwf.wf.pot hwf.wf.nv hwf.wf.bound hopt).2
    omega

theorem cinvP_lb_range {sv : SolverCfg S} {H : Nat → S → EInt} {B0 B : Int} (hwf : WellFormedP sv H B0 B)
    {open_ : List (SubP S)} {lb : Int} {sol : Option (List Dec)} {abort : Bool} (hI : CInvAtP sv H open_ lb sol abort) :
    InI lb ∧ lb < iMax :=
  inI_of_le hI.lbLo (cinvP_lb_le hwf hI) hwf.wf.bound.B_small

theorem isSolP_le {sv : SolverCfg S} {H : Nat → S → EInt} {B0 B : Int} (hwf : WellFormedP sv H B0 B)
    (cfg : Cfg S Unit) (hP : cfg.P = sv.P) (p0 : List Dec) (w : Int) (sol : Option (List Dec)) (h : IsSolP cfg p0 w sol) :
    w ≤ B ∧ ∃ p, sol = some p := by
  obtain ⟨k, s, q, L, hr, _, _, hsol⟩ := h
  rw [hP] at hr
  exact ⟨(hwf.wf.bound.value_le_skip hwf.wf.nv hr).2, _, hsol⟩

theorem processP_cinv {sv : SolverCfg S} {H : Nat → S → EInt} (st : SeqSt S) (N : SubP S) (r x : DDOut S)
    (hI : CInvAtP sv H (N :: st.fringe) st.bestLb st.bestSol st.abort)
    (eR : ∀ w, r.bestExact = some w → ∃ p, r.bestExactSol = some p)
    (eX : ∀ w, x.bestExact = some w → ∃ p, x.bestExactSol = some p)
    (hcs : ∀ c ∈ x.cutset, NodeOkS sv.P c)
    (hfeas : ∀ opt, (H 0 sv.P.init).addI sv.P.initVal = some opt →
      CompileOk (optOf H) opt (SolOfSkip sv.P) N st.bestLb r ∧
      CompileOk (optOf H) opt (SolOfSkip sv.P) N (st.updateBest r).bestLb x ∧
      CutsetOk (optOf H) opt N (st.updateBest r).bestLb x)
    (hinf : (H 0 sv.P.init).addI sv.P.initVal = none → r.bestExact = none ∧ x.bestExact = none) :
    CInvP sv H (st.process sv.dedup N true (.ok r) (.ok x)).1 := by
  have a1 := updateBest_solLb st r eR hI.solLb
  have a2 := updateBest_solLb (st.updateBest r) x eX a1
  refine ⟨?_, Int.le_trans hI.lbLo (C05.process_lb_mono _ _ _ _ _ _), ?_, (process_abort _ _ _ _ _ _).trans hI.noAbort,
    fun opt hopt => ?_, fun hi => ?_⟩
  · exact process_forall (NodeOkS sv.P) (nodeOkS_ub sv.P) sv.dedup st N true _ _
      (fun c hc => hI.nodes c (List.mem_cons_of_mem _ hc)) (fun o ho => DDRes.ok.inj ho ▸ hcs)
  · rcases process_lb_sol sv.dedup st N true r x with ⟨e1, e2⟩ | ⟨e1, e2⟩ | ⟨e1, e2⟩ <;> rw [e1, e2]
    · exact hI.solLb
    · exact a1
    · exact a2
  · obtain ⟨h1, h2, h3⟩ := hfeas opt hopt
    exact C01b.process_inv_any (optOf H) opt (SolOfSkip sv.P) sv.dedup (phiMono_of_potential H) st N r x (hI.feas opt hopt)
      h1 h2 (fun _ => h3)
  · have u1 := updateBest_none st r (hinf hi).1
    have u2 := (updateBest_none (st.updateBest r) x (hinf hi).2).trans u1
    rcases process_lb_sol sv.dedup st N true r x with ⟨e1, e2⟩ | ⟨e1, e2⟩ | ⟨e1, e2⟩ <;> rw [e1, e2]
    · exact hI.infeas hi
    · exact u1.symm ▸ hI.infeas hi
    · exact u2.symm ▸ hI.infeas hi

omit [DecidableEq S] in
theorem bestExact_none_of_dead {be : Option Int} {o : EInt} (h : ∀ w, be = some w → ∃ x, o = some x ∧ w ≤ x)
    (hd : o = none) : be = none := by
  cases hb : be with
  | none => rfl
  | some w =>
    obtain ⟨x, hx, _⟩ := h w hb
    exact nomatch hd.symm.trans hx

/-- **the invariant is preserved by `process_one_node` over the pooled diagram** (`st` = the popped state, `N` in hand);
    long arcs allowed, no progress hypothesis -/
theorem turnP_cinv {sv : SolverCfg S} {H : Nat → S → EInt} {B0 B : Int} (hwf : WellFormedP sv H B0 B)
    (st : SeqSt S) (N : SubP S) (cache cache' : Cache S) (store store' : DomStore S Unit) (polls polls' : Nat)
    (hI : CInvAtP sv H (N :: st.fringe) st.bestLb st.bestSol st.abort)
    (hokR : outRP sv cache store polls N st.bestLb = .ok)
    (hokX : outXP sv cache' store' polls' N (lb1P sv st N cache store polls) = .ok) :
    CInvP sv H (turnP sv st N cache cache' store store' polls polls') := by
  obtain ⟨p0, hroot, hperm⟩ := hI.nodes N List.mem_cons_self
  have hBN : NoClamp sv.P sv.R N.value B := hwf.wf.bound.noClamp_at_skip hwf.wf.nv hroot
  obtain ⟨hlb1, hlb2⟩ := cinvP_lb_range hwf hI
  have sR := bestExact_restricted_pooled (sv.cfg .restricted N st.bestLb) H B p0 cache store polls none (.inl rfl)
    hwf.wf.pot hwf.skip hBN hroot hokR
  have hl1 : InI (lb1P sv st N cache store polls) ∧ lb1P sv st N cache store polls < iMax :=
    inI_of_le (Int.le_trans hI.lbLo (updateBest_lb_ge st _))
      (updateBest_le st _ B (fun w hw => (isSolP_le hwf _ rfl p0 w _ (sR w hw).1).1) (cinvP_lb_le hwf hI)) hwf.wf.bound.B_small
  have sX := bestExact_relaxed_pooled (sv.cfg .relaxed N (lb1P sv st N cache store polls)) H B p0 cache' store' polls'
    rfl rfl rfl (hwf.wf.width N) hwf.wf.pot hwf.skip hBN hroot hokX
  have hdead : (H 0 sv.P.init).addI sv.P.initVal = none → optOf H N = none := fun hi => reachSkip_dead hwf.skip hi hroot
  refine processP_cinv st N _ _ hI (fun w hw => (isSolP_le hwf _ rfl p0 w _ (sR w hw).1).2)
    (fun w hw => (isSolP_le hwf _ rfl p0 w _ (sX w hw).1).2) (fun c hc => ?_) (fun opt hopt => ⟨?_, ?_, ?_⟩)
    (fun hi => ⟨bestExact_none_of_dead (fun w hw => (sR w hw).2) (hdead hi),
      bestExact_none_of_dead (fun w hw => (sX w hw).2) (hdead hi)⟩)
  ·
    obtain ⟨q, hq, hpath⟩ := C08.cutset_exact_pooled (sv.cfg .relaxed N (lb1P sv st N cache store polls)) B p0 cache' store'
      polls' none hroot hBN hokX _ (.inl rfl) c hc
    exact ⟨p0 ++ q, hq, hpath ▸ List.Perm.append hperm (List.reverse_perm q)⟩
  · exact compileOkP_restricted (sv.cfg .restricted N st.bestLb) H B opt p0 cache store polls rfl rfl rfl hwf.wf.pot hwf.skip
      hwf.wf.rub hBN hlb1 hlb2 hroot hperm hopt hokR
  · exact compileOkP_relaxed (sv.cfg .relaxed N (lb1P sv st N cache store polls)) H B opt p0 cache' store' polls' rfl rfl rfl
      (hwf.wf.width N) hwf.wf.pot hwf.skip hwf.wf.rub hwf.wf.merge hwf.wf.attMerge hBN hl1.1 hl1.2 hroot hperm hopt hokX
  · exact cutsetOkP_relaxed (sv.cfg .relaxed N (lb1P sv st N cache store polls)) H B opt p0 cache' store' polls' none rfl rfl rfl
      (hwf.wf.width N) hwf.wf.pot hwf.skip hwf.wf.rub hwf.wf.merge hwf.wf.attMerge hBN hl1.1 hl1.2 hroot hopt hokX _
      (.inl rfl)

theorem poppedP_cinv {sv : SolverCfg S} {H : Nat → S → EInt} {s : SeqSt S} (N : SubP S) (rest : List (SubP S)) (fa : Nat)
    (hpop : s.fringe.Perm (N :: rest)) (hI : CInvP sv H s) :
    CInvAtP sv H (N :: (popped s N rest fa).fringe) (popped s N rest fa).bestLb (popped s N rest fa).bestSol
      (popped s N rest fa).abort := by
  have e1 : (popped s N rest fa).fringe = rest := C01t.afterPop_fringe _ N
  have e2 : (popped s N rest fa).bestLb = s.bestLb := (C01t.afterPop_lb_sol _ N).1
  have e3 : (popped s N rest fa).bestSol = s.bestSol := (C01t.afterPop_lb_sol _ N).2
  have e4 : (popped s N rest fa).abort = s.abort := afterPop_abort _ N
  rw [e1, e2, e3, e4]
  exact ⟨fun c hc => hI.nodes c (hpop.mem_iff.mpr hc), hI.lbLo, hI.solLb, hI.noAbort,
    fun opt hopt => C01t.inv_of_mem (optOf H) opt (SolOfSkip sv.P) (fun c hc => hpop.mem_iff.mpr hc)
      (fun c hc => hpop.mem_iff.mp hc) (hI.feas opt hopt), hI.infeas⟩

/-- **(a) `CInvP` is a loop invariant of the concrete solver over the pooled diagram**, long arcs allowed -/
theorem cstepP_inv {sv : SolverCfg S} {H : Nat → S → EInt} {B0 B : Int} (hwf : WellFormedP sv H B0 B) {s t : SeqSt S}
    (h : CStepP sv s t) (hI : CInvP sv H s) : CInvP sv H t := by
  cases h with
  | pop N rest fa cache cache' store store' polls polls' hpop hmax hokR hokX =>
    exact turnP_cinv hwf _ N cache cache' store store' polls polls' (poppedP_cinv N rest fa hpop hI) hokR hokX

theorem crunP_inv {sv : SolverCfg S} {H : Nat → S → EInt} {B0 B : Int} (hwf : WellFormedP sv H B0 B) {s t : SeqSt S}
    (h : CRunP sv s t) (hI : CInvP sv H s) : CInvP sv H t := by
  induction h with
  | refl => exact hI
  | tail _ hstep ih => exact cstepP_inv hwf hstep ih

/-- the invariant holds initially (`new` + `initialize`, no primal) -/
theorem init_cinvP {sv : SolverCfg S} {H : Nat → S → EInt} {B0 B : Int} (hwf : WellFormedP sv H B0 B) :
    CInvP sv H (SeqSt.init sv.P none sv.dedup) := by
  have hfr : (SeqSt.init sv.P none sv.dedup).fringe = [⟨sv.P.init, sv.P.initVal, [], iMax, 0⟩] := by
    cases hd : sv.dedup <;> rfl
  unfold CInvP
  rw [hfr]
  refine ⟨?_, Int.le_refl _, fun _ => rfl, rfl, ?_, fun _ => ⟨rfl, rfl⟩⟩
  · intro c hc
    rcases List.mem_cons.mp hc with e | e
    · subst e; exact ⟨[], ReachSkip.root, List.Perm.refl _⟩
    · cases e
  · intro opt hopt
    have hb := opt_bound hwf.wf.pot hwf.wf.nv hwf.wf.bound hopt
    have hBs := hwf.wf.bound.B_small
    refine init_inv (optOf H) opt (SolOfSkip sv.P) _ iMin none ?_ rfl ?_ ?_ (fun p hp => by cases hp) (fun _ => hopt)
    · intro x hx
      have : optOf H ⟨sv.P.init, sv.P.initVal, [], iMax, 0⟩ = some opt := hopt
      rw [this] at hx
      have := Option.some.inj hx
      omega
    · simp only [iMax]; omega
    · show iMin ≤ opt
      simp only [iMin]; omega

/-- **(b) partial correctness**: a state that satisfies the invariant and has an empty fringe reports the optimum with a
    feasible solution (with skips) of that value — or nothing iff the problem is infeasible -/
theorem cinvP_end_correct {sv : SolverCfg S} {H : Nat → S → EInt} {B0 B : Int} (hwf : WellFormedP sv H B0 B) {t : SeqSt S}
    (hI : CInvP sv H t) (hend : t.fringe = []) :
    (∀ opt, (H 0 sv.P.init).addI sv.P.initVal = some opt →
      t.bestLb = opt ∧ (∃ p, t.bestSol = some p ∧ SolOfSkip sv.P p opt) ∧ t.completion = (true, some opt)) ∧
    ((H 0 sv.P.init).addI sv.P.initVal = none → t.bestSol = none ∧ t.completion = (true, none)) := by
  have hab : t.abort = false := hI.noAbort
  constructor
  · intro opt hopt
    have hinv := hI.feas opt hopt
    rw [hend] at hinv
    obtain ⟨h1, h2⟩ := complete_optimal (optOf H) opt (SolOfSkip sv.P) t.bestLb t.bestSol hinv
    have hb := opt_bound hwf.wf.pot hwf.wf.nv hwf.wf.bound hopt
    have hBs := hwf.wf.bound.B_small
    cases hs : t.bestSol with
    | none =>
      have := hI.solLb hs
      simp only [iMin] at this
      omega
    | some p =>
      refine ⟨h1, ⟨p, rfl, h2 p hs⟩, ?_⟩
      unfold SeqSt.completion
      rw [hab, hs, h1]; rfl
  · intro hinf
    obtain ⟨_, h2⟩ := hI.infeas hinf
    refine ⟨h2, ?_⟩
    unfold SeqSt.completion
    rw [hab, h2]; rfl

/-- **no crash**: from a state that satisfies the invariant and still has open sub-problems a turn of the loop is possible -/
theorem cstepP_progress {sv : SolverCfg S} {H : Nat → S → EInt} {B0 B : Int} (hwf : WellFormedP sv H B0 B) {s : SeqSt S}
    (hI : CInvP sv H s) (hne : s.fringe ≠ []) (fa : Nat) (cache cache' : Cache S) (store store' : DomStore S Unit)
    (polls polls' : Nat) : ∃ t, CStepP sv s t := by
  obtain ⟨N, rest, hp⟩ := popMax_some s.fringe hne
  obtain ⟨hpop, hmax⟩ := popMax_spec s.fringe N rest hp
  obtain ⟨p0, hroot, _⟩ := hI.nodes N (hpop.mem_iff.mpr List.mem_cons_self)
  have hd := reachSkip_depth_le hwf.wf.nv hroot
  refine ⟨_, CStepP.pop s N rest fa cache cache' store store' polls polls' hpop hmax ?_ ?_⟩
  · exact PCover.compileP_no_crash _ cache store polls rfl rfl (hwf.wf.width N) hwf.wf.nv hd
  · exact PCover.compileP_no_crash _ cache' store' polls' rfl rfl (hwf.wf.width N) hwf.wf.nv hd

theorem cstepP_linv {sv : SolverCfg S} {H : Nat → S → EInt} {B0 B : Int} (hwf : WellFormedP sv H B0 B) {s t : SeqSt S}
    (h : CStepP sv s t) (hI : CInvP sv H s) (hL : LInv sv s) : LInv sv t := by
  cases h with
  | pop N rest fa cache cache' store store' polls polls' hpop hmax hokR hokX =>
    obtain ⟨p0, hroot, hperm⟩ := hI.nodes N (hpop.mem_iff.mpr List.mem_cons_self)
    have hBN : NoClamp sv.P sv.R N.value B := hwf.wf.bound.noClamp_at_skip hwf.wf.nv hroot
    have hN := reachSkip_depth_le hwf.wf.nv hroot
    obtain ⟨h1, h2⟩ := afterPop_layers sv.P.nbVars s N rest fa hN hpop hL.1
    have hcs : ∀ c ∈ (toOut (resXP sv cache' store' polls' N (lb1P sv (popped s N rest fa) N cache store polls))).cutset,
        c.depth ≤ sv.P.nbVars := by
      intro c hc
      obtain ⟨q, hq, _⟩ := C08.cutset_exact_pooled (sv.cfg .relaxed N (lb1P sv (popped s N rest fa) N cache store polls)) B p0
        cache' store' polls' none hroot hBN hokX _ (.inl rfl) c hc
      exact reachSkip_depth_le hwf.wf.nv hq
    obtain ⟨h3, h4⟩ := process_layers sv.P.nbVars sv.dedup (popped s N rest fa) N true
      (toOut (resRP sv cache store polls N (popped s N rest fa).bestLb)) _ hcs h1
    exact ⟨h3, h4.trans (h2.trans hL.2)⟩

theorem crunP_linv {sv : SolverCfg S} {H : Nat → S → EInt} {B0 B : Int} (hwf : WellFormedP sv H B0 B) {s t : SeqSt S}
    (h : CRunP sv s t) (hI : CInvP sv H s) (hL : LInv sv s) : LInv sv t := by
  induction h with
  | refl => exact hL
  | tail hrun hstep ih => exact cstepP_linv hwf hstep (crunP_inv hwf hrun hI) ih

/-- **`pooled_partial_correct_long_arcs`** — the positive part of C15 that holds with arbitrary long arcs.  For every well-formed
    model (`WellFormedP` = `WellFormed` of C01d + `SkipWf`, the contract of `is_impacted_by`), every ranking, width function and
    either fringe, along **every** run of the sequential solver over the pooled diagram (`EmptyCache`, no dominance, no cutoff):

    * the coverage invariant `CInvP` holds (so do C06, C08 (i), (iii), (iv) at every compilation: `relaxed_ub_pooled`,
      `Ddo.C08.cutset_exact_pooled`, `cutset_ub_valid_pooled`, `cutset_cover_pooled`);
    * the solver never gets stuck before the fringe is empty (no compilation crashes) and never panics in the `open_by_layer`
      bookkeeping;
    * **if** it reaches the empty fringe — if it terminates — it reports `is_exact = true` and the optimum, with a stored solution
      that is a genuinely feasible complete path with skips of that value, or no value iff the problem is infeasible.

    Termination is not claimed here: it needs C08 (ii) (`sequential_solver_correct_pooled_long_arcs`). -/
theorem pooled_partial_correct_long_arcs (sv : SolverCfg S) (H : Nat → S → EInt) (B0 B : Int) (hwf : WellFormedP sv H B0 B) :
    ∀ t, CRunP sv (SeqSt.init sv.P none sv.dedup) t →
      CInvP sv H t ∧
      (t.fringe ≠ [] → ∃ u, CStepP sv t u) ∧
      t.crashed = false ∧
      (t.fringe = [] →
        (∀ opt, (H 0 sv.P.init).addI sv.P.initVal = some opt →
          t.bestLb = opt ∧ (∃ p, t.bestSol = some p ∧ SolOfSkip sv.P p opt) ∧ t.completion = (true, some opt)) ∧
        ((H 0 sv.P.init).addI sv.P.initVal = none → t.bestSol = none ∧ t.completion = (true, none))) := by
  intro t ht
  have hI := crunP_inv hwf ht (init_cinvP hwf)
  refine ⟨hI, fun hne => ?_, (crunP_linv hwf ht (init_cinvP hwf) (init_linv sv)).2, fun hend => cinvP_end_correct hwf hI hend⟩
  exact cstepP_progress hwf hI hne 0 (Cache.init sv.P.nbVars) (Cache.init sv.P.nbVars)
    (DomStore.init sv.P.nbVars) (DomStore.init sv.P.nbVars) 0 0

/-- **cut-set progress for the model `sv`** (C08 (ii) at every compilation the solver can start): the sub-problems of the cut-set
    of the relaxed pooled compilation of a sub-problem `N` reached with skips are strictly deeper than `N` -/
def CutProgress (sv : SolverCfg S) (B : Int) : Prop :=
  ∀ (N : SubP S) (lb : Int) (p0 : List Dec) (cache : Cache S) (store : DomStore S Unit) (polls : Nat),
    ReachSkip sv.P N.depth N.state N.value p0 → NoClamp sv.P sv.R N.value B →
    (compileP (sv.cfg .relaxed N lb) cache store polls none).1 = .ok →
    ∀ c ∈ (compileP (sv.cfg .relaxed N lb) cache store polls none).2.1.cutset, N.depth < c.depth

/-- **cut-set progress holds for every model** (repaired code, `Ddo.C08.cutset_progress_pooled`): no structural hypothesis -/
theorem cutProgress (sv : SolverCfg S) (B : Int) : CutProgress sv B :=
  fun N lb p0 cache store polls hroot hB hok =>
    C08.cutset_progress_pooled (sv.cfg .relaxed N lb) B p0 cache store polls none rfl hroot hB hok _ (.inl rfl)

/-- under the invariant and cut-set progress a turn of the concrete loop is a `Step` of `Props/C01t.lean` -/
theorem cstepP_step {sv : SolverCfg S} {H : Nat → S → EInt} {B0 B : Int} (hwf : WellFormedP sv H B0 B)
    (hprog : CutProgress sv B) {s t : SeqSt S} (hI : CInvP sv H s) (h : CStepP sv s t) :
    C01t.Step sv.P.nbVars sv.dedup s t := by
  cases h with
  | pop N rest fa cache cache' store store' polls polls' hpop hmax hokR hokX =>
    obtain ⟨p0, hroot, hperm⟩ := hI.nodes N (hpop.mem_iff.mpr List.mem_cons_self)
    have hBN : NoClamp sv.P sv.R N.value B := hwf.wf.bound.noClamp_at_skip hwf.wf.nv hroot
    refine C01t.Step.pop s N rest fa true _ _ hpop ?_
    intro o ho c hc
    injection ho with ho
    subst ho
    have h1 := hprog N _ p0 cache' store' polls' hroot hBN hokX c hc
    obtain ⟨q, hq, _⟩ := C08.cutset_exact_pooled (sv.cfg .relaxed N (lb1P sv (popped s N rest fa) N cache store polls)) B p0
      cache' store' polls' none hroot hBN hokX _ (.inl rfl) c hc
    exact ⟨h1, reachSkip_depth_le hwf.wf.nv hq⟩

/-- **(c) termination** under cut-set progress -/
theorem cstepP_terminates {sv : SolverCfg S} {H : Nat → S → EInt} {B0 B : Int} (hwf : WellFormedP sv H B0 B)
    (hprog : CutProgress sv B) : WellFounded (fun t s : SeqSt S => CInvP sv H s ∧ CStepP sv s t) :=
  Subrelation.wf (fun {_ _} h => cstepP_step hwf hprog h.1 h.2) (C01t.seq_terminates sv.P.nbVars sv.dedup)

theorem no_infinite_crunP {sv : SolverCfg S} {H : Nat → S → EInt} {B0 B : Int} (hwf : WellFormedP sv H B0 B)
    (hprog : CutProgress sv B) (run : Nat → SeqSt S) (h0 : run 0 = SeqSt.init sv.P none sv.dedup) :
    ¬ ∀ n, CStepP sv (run n) (run (n + 1)) :=
  no_infinite_run_of (cstepP_terminates hwf hprog) (fun hI hs => cstepP_inv hwf hs hI) And.intro run (h0 ▸ init_cinvP hwf)

/-- **the closed solver theorem for the pooled diagram, general form**: `WellFormedP` (long arcs allowed) + cut-set progress
    `CutProgress` ⟹ termination, no crash, optimum with a feasible solution (with skips) at the empty fringe, nothing iff
    infeasible -/
theorem sequential_solver_correct_pooled_gen (sv : SolverCfg S) (H : Nat → S → EInt) (B0 B : Int)
    (hwf : WellFormedP sv H B0 B) (hprog : CutProgress sv B) :
    WellFounded (fun t s : SeqSt S => CRunP sv (SeqSt.init sv.P none sv.dedup) s ∧ CStepP sv s t) ∧
    (∀ run : Nat → SeqSt S, run 0 = SeqSt.init sv.P none sv.dedup → ¬ ∀ n, CStepP sv (run n) (run (n + 1))) ∧
    ∀ t, CRunP sv (SeqSt.init sv.P none sv.dedup) t →
      (t.fringe ≠ [] → ∃ u, CStepP sv t u) ∧
      t.crashed = false ∧
      (t.fringe = [] →
        (∀ opt, (H 0 sv.P.init).addI sv.P.initVal = some opt →
          t.bestLb = opt ∧ (∃ p, t.bestSol = some p ∧ SolOfSkip sv.P p opt) ∧ t.completion = (true, some opt)) ∧
        ((H 0 sv.P.init).addI sv.P.initVal = none → t.bestSol = none ∧ t.completion = (true, none))) := by
  refine ⟨?_, fun run h0 => no_infinite_crunP hwf hprog run h0, fun t ht => (pooled_partial_correct_long_arcs sv H B0 B hwf t ht).2⟩
  exact Subrelation.wf (fun {_ _} h => ⟨crunP_inv hwf h.1 (init_cinvP hwf), h.2⟩) (cstepP_terminates hwf hprog)

/-- **`sequential_solver_correct_pooled`** — the closed solver theorem with the pooled diagram as third diagram implementation:
    both compilations are `compileP`; hypotheses `WellFormed` (exactly those of `Ddo.C01.sequential_solver_correct`) +
    `AllImpacted` (no long arcs: then `ReachSkip = Reach`, `SkipWf` is void and C08 (ii) holds).  Conclusion word for word that
    of the clean theorem: termination (well-founded step relation, no infinite run), no crash (a turn is always possible before
    the fringe is empty, `crashed = false`), and at the empty fringe `is_exact = true` and the optimum with a stored solution
    that is a genuinely feasible complete path (`SolOf`: `Reach`, one decision per variable) — or no value iff infeasible. -/
theorem sequential_solver_correct_pooled (sv : SolverCfg S) (H : Nat → S → EInt) (B0 B : Int) (hwf : WellFormed sv H B0 B)
    (hall : AllImpacted sv.P) :
    WellFounded (fun t s : SeqSt S => CRunP sv (SeqSt.init sv.P none sv.dedup) s ∧ CStepP sv s t) ∧
    (∀ run : Nat → SeqSt S, run 0 = SeqSt.init sv.P none sv.dedup → ¬ ∀ n, CStepP sv (run n) (run (n + 1))) ∧
    ∀ t, CRunP sv (SeqSt.init sv.P none sv.dedup) t →
      (t.fringe ≠ [] → ∃ u, CStepP sv t u) ∧
      t.crashed = false ∧
      (t.fringe = [] →
        (∀ opt, (H 0 sv.P.init).addI sv.P.initVal = some opt →
          t.bestLb = opt ∧ (∃ p, t.bestSol = some p ∧ SolOf sv.P p opt) ∧ t.completion = (true, some opt)) ∧
        ((H 0 sv.P.init).addI sv.P.initVal = none → t.bestSol = none ∧ t.completion = (true, none))) := by
  obtain ⟨h1, h2, h3⟩ := sequential_solver_correct_pooled_gen sv H B0 B (wellFormedP_of_allImpacted hwf hall)
    (cutProgress sv B)
  refine ⟨h1, h2, fun t ht => ?_⟩
  obtain ⟨a, b, c⟩ := h3 t ht
  refine ⟨a, b, fun hend => ?_⟩
  obtain ⟨c1, c2⟩ := c hend
  refine ⟨fun opt hopt => ?_, c2⟩
  obtain ⟨d1, ⟨p, d2, d3⟩, d4⟩ := c1 opt hopt
  exact ⟨d1, ⟨p, d2, d3.toSolOf hall⟩, d4⟩

/-- **long arcs, with termination**: the same under the structural hypothesis `SiblingsAlike` (the children of one node are
    impacted by the same variables), which is strictly weaker than `AllImpacted` and allows long arcs
    (`Ddo.PProgress.Witness`; `LongArc`, `Props/C15bWitness.lean`) -/
theorem sequential_solver_correct_pooled_siblings (sv : SolverCfg S) (H : Nat → S → EInt) (B0 B : Int)
    (hwf : WellFormedP sv H B0 B) (hsib : PProgress.SiblingsAlike sv.P) :
    WellFounded (fun t s : SeqSt S => CRunP sv (SeqSt.init sv.P none sv.dedup) s ∧ CStepP sv s t) ∧
    (∀ run : Nat → SeqSt S, run 0 = SeqSt.init sv.P none sv.dedup → ¬ ∀ n, CStepP sv (run n) (run (n + 1))) ∧
    ∀ t, CRunP sv (SeqSt.init sv.P none sv.dedup) t →
      (t.fringe ≠ [] → ∃ u, CStepP sv t u) ∧
      t.crashed = false ∧
      (t.fringe = [] →
        (∀ opt, (H 0 sv.P.init).addI sv.P.initVal = some opt →
          t.bestLb = opt ∧ (∃ p, t.bestSol = some p ∧ SolOfSkip sv.P p opt) ∧ t.completion = (true, some opt)) ∧
        ((H 0 sv.P.init).addI sv.P.initVal = none → t.bestSol = none ∧ t.completion = (true, none))) :=
  sequential_solver_correct_pooled_gen sv H B0 B hwf (cutProgress sv B)

/-- **`sequential_solver_correct_pooled_long_arcs` — the closed solver theorem for the (repaired) pooled diagram with arbitrary
    long arcs**: for every well-formed model (`WellFormedP` = the hypotheses of `Ddo.C01.sequential_solver_correct` + the
    contract `SkipWf` of `is_impacted_by`), **no structural hypothesis** (`AllImpacted`, `SiblingsAlike`): termination
    (well-founded step relation, no infinite run), no crash (a turn is always possible before the fringe is empty), and at the
    empty fringe `is_exact = true` and the optimum with a stored solution that is a feasible complete path with skips — or no
    value iff infeasible.  Before the repair of D5 termination was false (`LongArc.d5_loops_wellformed`). -/
theorem sequential_solver_correct_pooled_long_arcs (sv : SolverCfg S) (H : Nat → S → EInt) (B0 B : Int)
    (hwf : WellFormedP sv H B0 B) :
    WellFounded (fun t s : SeqSt S => CRunP sv (SeqSt.init sv.P none sv.dedup) s ∧ CStepP sv s t) ∧
    (∀ run : Nat → SeqSt S, run 0 = SeqSt.init sv.P none sv.dedup → ¬ ∀ n, CStepP sv (run n) (run (n + 1))) ∧
    ∀ t, CRunP sv (SeqSt.init sv.P none sv.dedup) t →
      (t.fringe ≠ [] → ∃ u, CStepP sv t u) ∧
      t.crashed = false ∧
      (t.fringe = [] →
        (∀ opt, (H 0 sv.P.init).addI sv.P.initVal = some opt →
          t.bestLb = opt ∧ (∃ p, t.bestSol = some p ∧ SolOfSkip sv.P p opt) ∧ t.completion = (true, some opt)) ∧
        ((H 0 sv.P.init).addI sv.P.initVal = none → t.bestSol = none ∧ t.completion = (true, none))) :=
  sequential_solver_correct_pooled_gen sv H B0 B hwf (cutProgress sv B)

/-- **D5 was the only way C08 (ii) failed for the pooled diagram** (`compilePOld`, the code before the repair): a sub-problem of the
    cut-set of a relaxed pooled compilation that
    is not strictly deeper than the root sub-problem *is* the root sub-problem — same state, value, depth and path.  (It sits in
    the layer of index 0, which holds the root only; it is in the frontier because a child of the root that was **not placed in
    the second materialised layer** — it lingered in the pool: a long arc — was later merged, or received an arc from an inexact
    node.)  No hypothesis on the model; any cache / dominance configuration, any cutoff, both results.  So the only obstacle to
    termination is the solver re-enqueueing the very node it has just processed. -/
theorem d5_only_root (cfg : Cfg S K) (B : Int) (p0 : List Dec) (cache : Cache S)
    (store : DomStore S K) (polls : Nat) (stopAt : Option Nat) (hrel : cfg.ctype = .relaxed)
    (hroot : ReachSkip cfg.P cfg.root.depth cfg.root.state cfg.root.value p0)
    (hB : NoClamp cfg.P cfg.R cfg.root.value B)
    (hok : (compilePOld cfg cache store polls stopAt).1 = .ok) (r : Result S)
    (hr : r = (compilePOld cfg cache store polls stopAt).2.1 ∨ (compilePOld cfg cache store polls stopAt).2.2.1 = some r) :
    ∀ c ∈ r.cutset, c.depth ≤ cfg.root.depth →
      c.state = cfg.root.state ∧ c.value = cfg.root.value ∧ c.depth = cfg.root.depth ∧ c.path = cfg.root.path :=
  PProgress.d5_only_root cfg B p0 cache store polls stopAt hrel hroot hB hok r hr

/-- **C08 (ii), pooled diagram, long arcs allowed**: it holds as soon as the children of one node are impacted by the same
    variables (`Ddo.PProgress.SiblingsAlike`, strictly weaker than `AllImpacted`): then the children of the root leave the pool
    together, into the second materialised layer, which is never relaxed -/
theorem cutset_progress_pooled_siblings (cfg : Cfg S K) (B : Int) (p0 : List Dec) (cache : Cache S)
    (store : DomStore S K) (polls : Nat) (stopAt : Option Nat) (hsib : PProgress.SiblingsAlike cfg.P)
    (hrel : cfg.ctype = .relaxed)
    (hroot : ReachSkip cfg.P cfg.root.depth cfg.root.state cfg.root.value p0)
    (hB : NoClamp cfg.P cfg.R cfg.root.value B)
    (hok : (compileP cfg cache store polls stopAt).1 = .ok) (r : Result S)
    (hr : r = (compileP cfg cache store polls stopAt).2.1 ∨ (compileP cfg cache store polls stopAt).2.2.1 = some r) :
    ∀ c ∈ r.cutset, cfg.root.depth < c.depth :=
  C08.cutset_progress_pooled cfg B p0 cache store polls stopAt hrel hroot hB hok r hr

theorem CRunP.head {sv : SolverCfg S} {s t u : SeqSt S} (h1 : CStepP sv s t) (h2 : CRunP sv t u) : CRunP sv s u := by
  induction h2 with
  | refl => exact CRunP.tail (CRunP.refl _) h1
  | tail _ hstep ih => exact CRunP.tail ih hstep

/-- the loop of `maximize` over the pooled diagram as a function (`Ddo.C01.SolverCfg.solveLoop` with `compileP`): stops when the
    fringe is empty, when the fuel runs out, or when a compilation does not end normally -/
def solveLoopP (sv : SolverCfg S) : Nat → SeqSt S → SeqSt S
  | 0, s => s
  | n + 1, s =>
    match popMax s.fringe with
    | none => s
    | some (N, rest) =>
      let st := popped s N rest (cleanLoop sv.P.nbVars s.openByLayer sv.P.nbVars s.firstActive)
      let c : Cache S := Cache.init sv.P.nbVars
      let d : DomStore S Unit := DomStore.init sv.P.nbVars
      if outRP sv c d 0 N st.bestLb = .ok ∧ outXP sv c d 0 N (lb1P sv st N c d 0) = .ok then
        solveLoopP sv n (turnP sv st N c c d d 0 0)
      else s

theorem solveLoopP_run (sv : SolverCfg S) : ∀ (n : Nat) (s : SeqSt S), CRunP sv s (solveLoopP sv n s) := by
  intro n
  induction n with
  | zero => intro s; exact CRunP.refl s
  | succ n ih =>
    intro s
    unfold solveLoopP
    cases hp : popMax s.fringe with
    | none => exact CRunP.refl s
    | some Nr =>
      obtain ⟨N, rest⟩ := Nr
      obtain ⟨hpop, hmax⟩ := popMax_spec s.fringe N rest hp
      simp only
      split
      · next hok =>
        exact CRunP.head (CStepP.pop s N rest _ _ _ _ _ 0 0 hpop hmax hok.1 hok.2) (ih _)
      · exact CRunP.refl s

theorem solveLoopP_correct (sv : SolverCfg S) (H : Nat → S → EInt) (B0 B : Int) (hwf : WellFormedP sv H B0 B) (n : Nat)
    (hend : (solveLoopP sv n (SeqSt.init sv.P none sv.dedup)).fringe = []) :
    (∀ opt, (H 0 sv.P.init).addI sv.P.initVal = some opt →
      (solveLoopP sv n (SeqSt.init sv.P none sv.dedup)).completion = (true, some opt) ∧
      ∃ p, (solveLoopP sv n (SeqSt.init sv.P none sv.dedup)).bestSol = some p ∧ SolOfSkip sv.P p opt) ∧
    ((H 0 sv.P.init).addI sv.P.initVal = none →
      (solveLoopP sv n (SeqSt.init sv.P none sv.dedup)).completion = (true, none)) := by
  obtain ⟨h1, h2⟩ := (pooled_partial_correct_long_arcs sv H B0 B hwf _ (solveLoopP_run sv n _)).2.2.2 hend
  exact ⟨fun opt hopt => ⟨(h1 opt hopt).2.2, (h1 opt hopt).2.1⟩, fun hinf => (h2 hinf).2⟩

/-- **total correctness of the fuel-driven loop** under cut-set progress: enough fuel brings it to the empty fringe -/
theorem solveLoopP_total {sv : SolverCfg S} {H : Nat → S → EInt} {B0 B : Int} (hwf : WellFormedP sv H B0 B)
    (hprog : CutProgress sv B) (s : SeqSt S) : CInvP sv H s → ∃ n, (solveLoopP sv n s).fringe = [] := by
  refine (cstepP_terminates hwf hprog).induction (C := fun s => CInvP sv H s → ∃ n, (solveLoopP sv n s).fringe = []) s ?_
  intro s ih hI
  by_cases hne : s.fringe = []
  · exact ⟨0, hne⟩
  · obtain ⟨N, rest, hp⟩ := popMax_some s.fringe hne
    obtain ⟨hpop, hmax⟩ := popMax_spec s.fringe N rest hp
    obtain ⟨p0, hroot, _⟩ := hI.nodes N (hpop.mem_iff.mpr List.mem_cons_self)
    have hd := reachSkip_depth_le hwf.wf.nv hroot
    have hokR : outRP sv (Cache.init sv.P.nbVars) (DomStore.init sv.P.nbVars) 0 N
        (popped s N rest (cleanLoop sv.P.nbVars s.openByLayer sv.P.nbVars s.firstActive)).bestLb = .ok :=
      PCover.compileP_no_crash _ _ _ 0 rfl rfl (hwf.wf.width N) hwf.wf.nv hd
    have hokX : outXP sv (Cache.init sv.P.nbVars) (DomStore.init sv.P.nbVars) 0 N
        (lb1P sv (popped s N rest (cleanLoop sv.P.nbVars s.openByLayer sv.P.nbVars s.firstActive)) N
          (Cache.init sv.P.nbVars) (DomStore.init sv.P.nbVars) 0) = .ok :=
      PCover.compileP_no_crash _ _ _ 0 rfl rfl (hwf.wf.width N) hwf.wf.nv hd
    have hstep := CStepP.pop s N rest (cleanLoop sv.P.nbVars s.openByLayer sv.P.nbVars s.firstActive)
      (Cache.init sv.P.nbVars) (Cache.init sv.P.nbVars) (DomStore.init sv.P.nbVars) (DomStore.init sv.P.nbVars) 0 0
      hpop hmax hokR hokX
    obtain ⟨n, hn⟩ := ih _ ⟨hI, hstep⟩ (cstepP_inv hwf hstep hI)
    refine ⟨n + 1, ?_⟩
    rw [solveLoopP]
    simp only [hp]
    rw [if_pos ⟨hokR, hokX⟩]
    exact hn

/-- **the pooled sequential solver, as a function, computes the optimum** (under cut-set progress) -/
theorem solveLoopP_computes_opt (sv : SolverCfg S) (H : Nat → S → EInt) (B0 B : Int) (hwf : WellFormedP sv H B0 B)
    (hprog : CutProgress sv B) :
    ∃ n, (solveLoopP sv n (SeqSt.init sv.P none sv.dedup)).fringe = [] ∧
      (solveLoopP sv n (SeqSt.init sv.P none sv.dedup)).crashed = false ∧
      (∀ opt, (H 0 sv.P.init).addI sv.P.initVal = some opt →
        (solveLoopP sv n (SeqSt.init sv.P none sv.dedup)).completion = (true, some opt) ∧
        ∃ p, (solveLoopP sv n (SeqSt.init sv.P none sv.dedup)).bestSol = some p ∧ SolOfSkip sv.P p opt) ∧
      ((H 0 sv.P.init).addI sv.P.initVal = none →
        (solveLoopP sv n (SeqSt.init sv.P none sv.dedup)).completion = (true, none)) := by
  obtain ⟨n, hn⟩ := solveLoopP_total hwf hprog _ (init_cinvP hwf)
  obtain ⟨h1, h2⟩ := solveLoopP_correct sv H B0 B hwf n hn
  exact ⟨n, hn, (pooled_partial_correct_long_arcs sv H B0 B hwf _ (solveLoopP_run sv n _)).2.2.1, h1, h2⟩

/-- **`pooled_eq_clean_opt_allImpacted`** (the sentence of the property), without long arcs: for a well-formed model in which every
    variable impacts every state, the sequential solver over the pooled diagram and the one over the clean diagrams both
    terminate and report the same completion (the optimum, or no value iff infeasible) -/
theorem pooled_eq_clean_opt_allImpacted (sv : SolverCfg S) (H : Nat → S → EInt) (B0 B : Int) (hwf : WellFormed sv H B0 B)
    (hall : AllImpacted sv.P) :
    ∃ n m, (sv.solveLoop n (SeqSt.init sv.P none sv.dedup)).fringe = [] ∧
      (solveLoopP sv m (SeqSt.init sv.P none sv.dedup)).fringe = [] ∧
      (sv.solveLoop n (SeqSt.init sv.P none sv.dedup)).completion =
        (solveLoopP sv m (SeqSt.init sv.P none sv.dedup)).completion := by
  obtain ⟨n, hn, _, a1, a2⟩ := solveLoop_computes_opt sv H B0 B hwf
  obtain ⟨m, hm, _, b1, b2⟩ := solveLoopP_computes_opt sv H B0 B (wellFormedP_of_allImpacted hwf hall)
    (cutProgress sv B)
  refine ⟨n, m, hn, hm, ?_⟩
  cases hopt : (H 0 sv.P.init).addI sv.P.initVal with
  | none => rw [a2 hopt, b2 hopt]
  | some opt => rw [(a1 opt hopt).1, (b1 opt hopt).1]

end Ddo.C15

#print axioms Ddo.C15.relaxed_ub_pooled
#print axioms Ddo.C15.relaxed_ub_pooled_global
#print axioms Ddo.C15.cutset_ub_valid_pooled
#print axioms Ddo.C15.cutset_cover_pooled
#print axioms Ddo.C15.bestExact_restricted_pooled
#print axioms Ddo.C15.bestExact_relaxed_pooled
#print axioms Ddo.C15.pooled_exact_truthful
#print axioms Ddo.C15.compileOkP_restricted
#print axioms Ddo.C15.compileOkP_relaxed
#print axioms Ddo.C15.cutsetOkP_relaxed
#print axioms Ddo.C15.cstepP_inv
#print axioms Ddo.C15.pooled_partial_correct_long_arcs
#print axioms Ddo.C15.cstepP_terminates
#print axioms Ddo.C15.sequential_solver_correct_pooled_gen
#print axioms Ddo.C15.sequential_solver_correct_pooled
#print axioms Ddo.C15.sequential_solver_correct_pooled_siblings
#print axioms Ddo.C15.solveLoopP_run
#print axioms Ddo.C15.solveLoopP_correct
#print axioms Ddo.C15.solveLoopP_total
#print axioms Ddo.C15.solveLoopP_computes_opt
#print axioms Ddo.C15.d5_only_root
#print axioms Ddo.C15.cutset_progress_pooled_siblings
#print axioms Ddo.C15.pooled_eq_clean_opt_allImpacted
