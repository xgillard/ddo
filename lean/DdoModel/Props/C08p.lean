import DdoModel.Proofs.PooledLoop
import DdoModel.Props.C08
import DdoModel.Props.C07p
import DdoModel.Props.C13b
/-! # C08 for the pooled diagram — what failed before the repair of D5

* (ii) cut-set progress was **false** for the pooled diagram with long arcs before the repair (finding D5):
  `not_cutset_progress_pooled` exhibits a relaxed pooled compilation (`compilePOld`), rooted at
  `(state 0, value 0, depth 0)`, whose cut-set contains `(state 0, value 0, depth 0)`.  Mechanism: a child of the root that is
  not impacted by the next variable lingers in the pool; two layers later `_squash_if_needed` may merge it, which makes the
  *root* the exact parent of an inexact node, i.e. a frontier cut-set node.
* The clauses for the repaired code — (i) `cutset_exact_pooled`, (ii) `cutset_progress_pooled` (a theorem for every
  model), `cutset_progress_pooled_allImpacted` — are in `Props/C08q.lean` (proofs: `Proofs/PooledFix.lean`). -/
set_option linter.unusedSectionVars false
set_option linter.unusedVariables false
namespace Ddo.C08
open Ddo Ddo.Pooled
variable {S K : Type} [DecidableEq S] [DecidableEq K]

/-- C08 (ii) stated in full generality for the pooled diagram **before the repair of D5** (`compilePOld`) — **false**
    (`not_cutset_progress_pooled`).  For the repaired code it is the theorem `Ddo.C08.cutset_progress_pooled`
    (`Props/C08q.lean`). -/
def cutset_progress_pooledOld : Prop :=
  ∀ (cfg : Cfg Int Unit) (B : Int) (p0 : List Dec) (cache : Cache Int) (store : DomStore Int Unit) (polls : Nat)
    (stopAt : Option Nat), cfg.ctype = .relaxed →
    ReachSkip cfg.P cfg.root.depth cfg.root.state cfg.root.value p0 → NoClamp cfg.P cfg.R cfg.root.value B →
    (compilePOld cfg cache store polls stopAt).1 = .ok →
    ∀ c ∈ (compilePOld cfg cache store polls stopAt).2.1.cutset, cfg.root.depth < c.depth

/-- the witness of `Ddo.C07.WitnessP` refutes it: well-formed instance, hypotheses met, root in its own cut-set -/
theorem not_cutset_progress_pooled : ¬ cutset_progress_pooledOld := by
  intro h
  have h1 := h (C07.WitnessP.cfg .relaxed) 200 [] (Cache.init 3) (DomStore.init 3) 0 none rfl ReachSkip.root
    (C07.WitnessP.noClamp .relaxed) (by decide +kernel)
  have h2 : ((0 : Int), (0 : Int), 0, 0) ∈ (compilePOld (C07.WitnessP.cfg .relaxed) (Cache.init 3) (DomStore.init 3) 0
      none).2.1.cutset.map (fun c => (c.state, c.value, c.depth, c.path.length)) := by
    rw [C07.WitnessP.cutset_contains_root]; decide
  obtain ⟨c, hc, he⟩ := List.mem_map.1 h2
  have hd : c.depth = 0 := (Prod.mk.inj (Prod.mk.inj (Prod.mk.inj he).2).2).1
  have h3 := h1 c hc
  have h4 : (C07.WitnessP.cfg .relaxed).root.depth = 0 := rfl
  omega

/-! ## an instance without long arcs with a non-empty cut-set (evaluated in `Props/C08q.lean`, `WitnessP.run`)

`Ddo.C13.Witness` (three variables, domain `{0,1,2}`, every state impacted by every variable), relaxed, width 1. -/
namespace WitnessP
open Ddo.C13.Witness

theorem allImpacted : AllImpacted (cfg .relaxed).P := fun _ _ => rfl

theorem noClamp : NoClamp (cfg .relaxed).P (cfg .relaxed).R (cfg .relaxed).root.value 1 := by
  show NoClamp P R 0 1
  exact ⟨by decide, by decide, fun _ _ _ => ⟨by show (-1 : Int) ≤ 0; decide, by show (0 : Int) ≤ 1; decide⟩,
    fun _ _ _ _ c h => h, by decide⟩

end WitnessP

end Ddo.C08

#print axioms Ddo.C08.not_cutset_progress_pooled
