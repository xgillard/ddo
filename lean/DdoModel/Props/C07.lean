import DdoModel.Proofs.MddExact
/-! C07 — the node flag `is_exact` is sound, and restricted / exact compilations are feasible lower bounds.

* `Ddo.C07.exact_nodes_reachable` (A): at the end of the top-down compilation (`buildLoop`, any fuel, so
  at every intermediate stage as well), for any compilation type and any cache / dominance
  configuration, every node flagged exact is reached exactly (`Reach`) by the root path followed by the
  decisions of its `best` chain.  The invariant is `Ddo.MInv` (`DdoModel/Proofs/MddExact.lean`).
* `Ddo.C07.restricted_sound` (B): a restricted or exact compilation that ends normally reports as best
  value the value of a genuinely feasible complete solution, and reports that solution. -/
namespace Ddo.C07
open Ddo
variable {S K : Type} [DecidableEq S] [DecidableEq K]

omit [DecidableEq S] [DecidableEq K] in
theorem root_reach (cfg : Cfg S K) (hd : cfg.root.depth = 0) (hs : cfg.root.state = cfg.P.init)
    (hv : cfg.root.value = cfg.P.initVal) (hp : cfg.root.path = []) :
    Reach cfg.P cfg.root.depth cfg.root.state cfg.root.value cfg.root.path := by
  rw [hd, hs, hv, hp]; exact .root

/-- (A) for any decision list `p0` by which the root sub-problem is reached exactly.  `fuel ≤ nbVars + 2` (`compile` uses
    exactly `nbVars + 2`) bounds the number of layers, which is what makes `NoClamp.small` applicable. -/
theorem exact_nodes_reachable_gen (cfg : Cfg S K) (B : Int) (p0 : List Dec)
    (hB : NoClamp cfg.P cfg.R cfg.root.value B)
    (hroot : Reach cfg.P cfg.root.depth cfg.root.state cfg.root.value p0)
    (cache : Cache S) (store : DomStore S K) (polls : Nat) (stopAt : Option Nat) (fuel : Nat)
    (hfuel : fuel ≤ cfg.P.nbVars + 2) :
    ExactReach cfg p0 (buildLoop cfg stopAt fuel (initDD cfg cache store polls)).1 :=
  buildLoop_exact_reach cfg B p0 hB hroot cache store polls stopAt fuel hfuel

/-- **C07 (A)**: every node flagged exact, in a finished layer or in `dd.next` (the layer under construction, the terminal
    layer at loop exit), is reached with its value by the root path followed by the decisions of its `best` chain. -/
theorem exact_nodes_reachable (cfg : Cfg S K) (B : Int) (hB : NoClamp cfg.P cfg.R cfg.root.value B)
    (hroot : Reach cfg.P cfg.root.depth cfg.root.state cfg.root.value cfg.root.path)
    (cache : Cache S) (store : DomStore S K) (polls : Nat) (stopAt : Option Nat) (fuel : Nat)
    (hfuel : fuel ≤ cfg.P.nbVars + 2) :
    let dd := (buildLoop cfg stopAt fuel (initDD cfg cache store polls)).1
    (∀ (l : Nat) (ly : List (Node S)), dd.layers[l]? = some ly → ∀ n ∈ ly, n.isExact = true →
      n.depth = cfg.root.depth + l ∧ ∀ fuel', l ≤ fuel' →
        Reach cfg.P n.depth n.state n.value (cfg.root.path ++ (bestPath dd.layers fuel' n).reverse)) ∧
    (∀ n ∈ dd.next, n.isExact = true →
      n.depth = cfg.root.depth + dd.layers.length ∧ ∀ fuel', dd.layers.length ≤ fuel' →
        Reach cfg.P n.depth n.state n.value (cfg.root.path ++ (bestPath dd.layers fuel' n).reverse)) :=
  exact_nodes_reachable_gen cfg B cfg.root.path hB hroot cache store polls stopAt fuel hfuel

theorem exact_nodes_step (cfg : Cfg S K) (B : Int) (p0 : List Dec) (hB : NoClamp cfg.P cfg.R cfg.root.value B)
    (dd : DD S K) (var : Nat) (hinv : MInv cfg B p0 dd) (hdepth : dd.depth = cfg.root.depth + dd.layers.length)
    (hnv : cfg.P.nextVar dd.depth (dd.next.map (·.state)) = some var)
    (hlen : dd.layers.length ≤ cfg.P.nbVars + 1) (dd' : DD S K) (oc : Outcome)
    (h : stepLayer cfg dd var = (some dd', oc)) : MInv cfg B p0 dd' ∧ ExactReach cfg p0 dd' :=
  have h' := (stepLayer_inv cfg B p0 hB dd var hinv hdepth hnv hlen dd' oc h).1
  ⟨h', h'.exactReach⟩

/-- **C07 (B)**: restricted / exact compilations are feasible lower bounds: the reported best value is the value of a
    complete path `cfg.root.path ++ q` of the model (complete: its end state belongs to a layer, the terminal layer of the
    diagram, on which `nextVar` answers `none`), and the reported best solution is the root path followed by `q`, last
    decision first (the order in which `_best_path` collects them). -/
theorem restricted_sound (cfg : Cfg S K) (B : Int) (cache : Cache S) (store : DomStore S K) (polls : Nat)
    (stopAt : Option Nat) (hty : cfg.ctype = .restricted ∨ cfg.ctype = .exact)
    (hroot : Reach cfg.P cfg.root.depth cfg.root.state cfg.root.value cfg.root.path)
    (hB : NoClamp cfg.P cfg.R cfg.root.value B) :
    (compile cfg cache store polls stopAt).1 = .ok →
    ∀ w, (compile cfg cache store polls stopAt).2.1.bestValue = some w →
      ∃ (k : Nat) (s : S) (q : List Dec) (L : List S),
        Reach cfg.P k s w (cfg.root.path ++ q) ∧ s ∈ L ∧ cfg.P.nextVar k L = none ∧
        (compile cfg cache store polls stopAt).2.1.bestSol = some (cfg.root.path ++ q.reverse) := by
  intro hok w hw
  obtain ⟨n, q, hn, _, _, hreach, _, hnone, hsol⟩ :=
    restricted_sound_detail cfg B cfg.root.path cache store polls stopAt hty hroot hB hok w hw
  exact ⟨_, n.state, q, _, hreach, List.mem_map.2 ⟨n, hn, rfl⟩, hnone, hsol⟩

end Ddo.C07
