import DdoModel.Props.C01
import DdoModel.Props.C05
import DdoModel.Proofs.SeqInvDedup
/-! # C01 / C05 / C19 for the duplicate-free fringe (`NoDupFringe`, `dedup = true`)

`process_dedup_rel`: whatever the answers of the cache and of the two compilations, the state after
`process_one_node` with the duplicate-free fringe has the same incumbent / bounds / abort flag as
with the plain multiset fringe, and its fringe is a *coalescing* (`Coalesces`, see
`Proofs/SeqInvDedup.lean`) of the plain one.  Since the coverage invariant is stable under
coalescing when `Phi` is monotone in the value (`Inv.of_coalesce`), `process_inv_dedup` follows from
`C01.process_inv`.  The cutoff theorems of C05 carry over verbatim because a cut-off
`process_one_node` never touches the fringe (`process_cutoff_dedup_irrel`); `best_ub` (the running
minimum of the popped bounds) is not written by `process_one_node` with either fringe
(`C05.process_ub_eq`), so C19's monotonicity of the reported upper bound is `turn_ub_le_any`. -/
set_option linter.unusedSectionVars false
namespace Ddo.C01b
variable {S : Type} [DecidableEq S]

section
variable (Phi : SubP S → EInt) (opt : Int) (Sol : List Dec → Int → Prop)

/-- **`process_inv_dedup`**: one `process_one_node` with the duplicate-free fringe (both compilations
    answered, no cache) preserves the coverage invariant.  Same hypotheses as `C01.process_inv`,
    except that `hPhi` (the potential ignores the bound) is replaced by the stronger `PhiMono`: `Phi`
    reads a sub-problem through `(state, depth, value)` only, monotonically in `value`. -/
theorem process_inv_dedup (hmono : PhiMono Phi)
    (st : SeqSt S) (N : SubP S) (r x : DDOut S)
    (hinv : Inv Phi opt Sol (N :: st.fringe) st.bestLb st.bestSol)
    (hr : CompileOk Phi opt Sol N st.bestLb r)
    (hx : CompileOk Phi opt Sol N (st.updateBest r).bestLb x)
    (hcut : x.isExact = false → CutsetOk Phi opt N (st.updateBest r).bestLb x) :
    Inv Phi opt Sol (st.process true N true (.ok r) (.ok x)).1.fringe
      (st.process true N true (.ok r) (.ok x)).1.bestLb (st.process true N true (.ok r) (.ok x)).1.bestSol := by
  have h := C01.process_inv Phi opt Sol hmono.ub_irrel st N r x hinv hr hx hcut
  obtain ⟨e1, e2, _, _, _, _, hco⟩ := process_dedup_rel st N true (.ok r) (.ok x)
  rw [e1, e2]
  exact Inv.of_coalesce Phi opt Sol hmono h hco

/-- the same with the explicit hypotheses of the task statement -/
theorem process_inv_dedup'
    (hPhiMono : ∀ a b : SubP S, a.state = b.state → a.depth = b.depth → a.value ≤ b.value → Phi a ≤ Phi b)
    (st : SeqSt S) (N : SubP S) (r x : DDOut S)
    (hinv : Inv Phi opt Sol (N :: st.fringe) st.bestLb st.bestSol)
    (hr : CompileOk Phi opt Sol N st.bestLb r)
    (hx : CompileOk Phi opt Sol N (st.updateBest r).bestLb x)
    (hcut : x.isExact = false → CutsetOk Phi opt N (st.updateBest r).bestLb x) :
    Inv Phi opt Sol (st.process true N true (.ok r) (.ok x)).1.fringe
      (st.process true N true (.ok r) (.ok x)).1.bestLb (st.process true N true (.ok r) (.ok x)).1.bestSol :=
  process_inv_dedup Phi opt Sol hPhiMono st N r x hinv hr hx hcut

theorem process_inv_any (dedup : Bool) (hmono : PhiMono Phi)
    (st : SeqSt S) (N : SubP S) (r x : DDOut S)
    (hinv : Inv Phi opt Sol (N :: st.fringe) st.bestLb st.bestSol)
    (hr : CompileOk Phi opt Sol N st.bestLb r)
    (hx : CompileOk Phi opt Sol N (st.updateBest r).bestLb x)
    (hcut : x.isExact = false → CutsetOk Phi opt N (st.updateBest r).bestLb x) :
    Inv Phi opt Sol (st.process dedup N true (.ok r) (.ok x)).1.fringe
      (st.process dedup N true (.ok r) (.ok x)).1.bestLb (st.process dedup N true (.ok r) (.ok x)).1.bestSol := by
  cases dedup
  · exact C01.process_inv Phi opt Sol hmono.ub_irrel st N r x hinv hr hx hcut
  · exact process_inv_dedup Phi opt Sol hmono st N r x hinv hr hx hcut

end

/-- **`process_inv_dedup_potential`**: the instance the solver model uses — `Phi c` is the value so
    far plus the potential `H depth state` of the best completion; no hypothesis on `Phi` is left -/
theorem process_inv_dedup_potential (H : Nat → S → EInt) (opt : Int) (Sol : List Dec → Int → Prop)
    (st : SeqSt S) (N : SubP S) (r x : DDOut S)
    (hinv : Inv (fun c : SubP S => (H c.depth c.state).addI c.value) opt Sol (N :: st.fringe) st.bestLb st.bestSol)
    (hr : CompileOk (fun c : SubP S => (H c.depth c.state).addI c.value) opt Sol N st.bestLb r)
    (hx : CompileOk (fun c : SubP S => (H c.depth c.state).addI c.value) opt Sol N (st.updateBest r).bestLb x)
    (hcut : x.isExact = false →
      CutsetOk (fun c : SubP S => (H c.depth c.state).addI c.value) opt N (st.updateBest r).bestLb x) :
    Inv (fun c : SubP S => (H c.depth c.state).addI c.value) opt Sol
      (st.process true N true (.ok r) (.ok x)).1.fringe
      (st.process true N true (.ok r) (.ok x)).1.bestLb (st.process true N true (.ok r) (.ok x)).1.bestSol :=
  process_inv_dedup _ opt Sol (phiMono_of_potential H) st N r x hinv hr hx hcut

/-- **C19 for either fringe**: over one turn of the loop (pop of `N`, then `process_one_node`) the reported upper bound —
    the running minimum of the popped bounds — does not increase, and the incumbent does not decrease.  ("Everything open
    stays below the bound of the node in hand" is false for the repaired solver, whose cut-set nodes keep the bound of their
    own diagram.) -/
theorem turn_ub_le_any (dedup : Bool) (st : SeqSt S) (rest : List (SubP S)) (N : SubP S) (me : Bool) (r x : DDRes S) :
    (({ st.afterPop N with fringe := rest } : SeqSt S).process dedup N me r x).1.bestUb ≤ st.bestUb ∧
    st.bestLb ≤ (({ st.afterPop N with fringe := rest } : SeqSt S).process dedup N me r x).1.bestLb := by
  refine ⟨C05.turn_ub_le dedup st rest N me r x, ?_⟩
  have h := C05.process_lb_mono dedup ({ st.afterPop N with fringe := rest } : SeqSt S) N me r x
  have e : ({ st.afterPop N with fringe := rest } : SeqSt S).bestLb = st.bestLb := by
    unfold SeqSt.afterPop; split <;> rfl
  exact e ▸ h

theorem process_cutoff_dedup_irrel (dedup : Bool) (st : SeqSt S) (N : SubP S) (me : Bool) (r x : DDRes S)
    (h : r = .cutoff ∨ ∃ r0, r = .ok r0 ∧ (r0.isExact = true ∨ x = .cutoff)) :
    st.process dedup N me r x = st.process false N me r x := by
  unfold SeqSt.process
  rcases h with rfl | ⟨r0, rfl, h | rfl⟩
  · rfl
  · simp only [h, if_true]
  · rfl

section
variable (Phi : SubP S → EInt) (opt : Int) (Sol : List Dec → Int → Prop)

theorem cutoff_bounds_restricted_any (dedup : Bool) (st : SeqSt S) (N : SubP S) (x : DDRes S)
    (ub0 : Int) (hinv : Inv Phi opt Sol (N :: st.fringe) st.bestLb st.bestSol) (hmax : C05.Below st.fringe N)
    (hub : st.bestUb = min ub0 N.ub) (h0 : st.bestLb ≤ ub0 ∧ opt ≤ ub0) (hnp : ¬ N.ub ≤ st.bestLb) :
    let st' := (st.process dedup N true .cutoff x).1
    st'.abort = true ∧ st'.bestLb ≤ opt ∧ opt ≤ st'.bestUb ∧ st'.bestLb ≤ st'.bestUb ∧
      (∀ p, st'.bestSol = some p → Sol p st'.bestLb) := by
  rw [process_cutoff_dedup_irrel dedup st N true .cutoff x (Or.inl rfl)]
  exact C05.cutoff_bounds_restricted Phi opt Sol st N x ub0 hinv hmax hub h0 hnp

theorem cutoff_bounds_relaxed_any (dedup : Bool) (st : SeqSt S) (N : SubP S) (r : DDOut S)
    (ub0 : Int) (hinv : Inv Phi opt Sol (N :: st.fringe) st.bestLb st.bestSol) (hmax : C05.Below st.fringe N)
    (hr : CompileOk Phi opt Sol N st.bestLb r) (hre : r.isExact = false)
    (hub : st.bestUb = min ub0 N.ub) (h0 : st.bestLb ≤ ub0 ∧ opt ≤ ub0) (hnp : ¬ N.ub ≤ st.bestLb) :
    let st' := (st.process dedup N true (.ok r) .cutoff).1
    st'.abort = true ∧ st'.bestLb ≤ opt ∧ opt ≤ st'.bestUb ∧ st'.bestLb ≤ st'.bestUb ∧
      (∀ p, st'.bestSol = some p → Sol p st'.bestLb) := by
  rw [process_cutoff_dedup_irrel dedup st N true (.ok r) .cutoff (Or.inr ⟨r, rfl, Or.inr rfl⟩)]
  exact C05.cutoff_bounds_relaxed Phi opt Sol st N r ub0 hinv hmax hr hre hub h0 hnp

end
end Ddo.C01b
