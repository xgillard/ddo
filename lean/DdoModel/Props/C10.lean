import DdoModel.Proofs.Dominance
/-! # C10 — the dominance checker implements Pareto-front semantics (checker part)

`DomRule.partialCmp`, `DomRule.cmp`, `DomRule.retain`, `DomRule.bucketQuery`, `DomStore.query` model
`Dominance::{partial_cmp, cmp}` and `SimpleDominanceChecker::is_dominated_or_insert`.  Theorems for
**every** sequence of queries to one `(depth, key)` bucket (induction over the history), for any
rule of uniform dimension (`∀ s, D.dims s = n`: the code reads both states with the dimension of
the first, so a rule whose dimension varies within a key is outside the trait's contract), with and
without value: the verdict (`dominated_iff`), the store as the Pareto front of everything presented (`store_antichain`,
`store_eq_pareto_front`, `front_perm_invariant`), the threshold (`threshold_sound`), the sorting comparator
(`cmp_of_dominates`), and the store-level query as a bucket query (`query_refines_bucket`, `query_no_key`).

Solver level (sentence 1 of C10: enabling the checker never changes the optimum) is *not* a theorem
here: it is watched by the correspondence runs of C01/C03 with dominance enabled (see DESIGN.md §6 C10);
the missing hypothesis is made precise and decided in `Props/C10b.lean` (`UndomOpt`, `dominance_solver_optimal`). -/
set_option linter.unusedSectionVars false
namespace Ddo.C10
variable {S K : Type}

section bucket
variable (D : DomRule S K) (n : Nat)

local notation "E" => D.entU n
local notation "uv" => D.useValue

/-- the partial order is a strict order: irreflexive and transitive -/
theorem dom_strict_order (a b c : Ent) (h1 : a.coords.length = b.coords.length) (h2 : b.coords.length = c.coords.length) :
    domEnt uv a a = false ∧ (domEnt uv a b = true → domEnt uv b c = true → domEnt uv a c = true) := by
  refine ⟨domEnt_irrefl _ _, fun hab hbc => ?_⟩
  exact dom_ge_trans h1 h2 hab (by simp only [domEnt, Bool.and_eq_true] at hbc; exact hbc.1)

/-- **`pcmp_spec`**: the four outcomes of `partial_cmp` are exactly dominated / equal / dominating / incomparable -/
theorem pcmp_spec (hdim : ∀ s, D.dims s = n) (a : S) (va : Int) (b : S) (vb : Int) :
    let ea := D.entU n (a, va); let eb := D.entU n (b, vb)
    ((∃ f, D.partialCmp a va b vb = some (.lt, f)) ↔ domEnt uv eb ea = true) ∧
    ((∃ f, D.partialCmp a va b vb = some (.gt, f)) ↔ domEnt uv ea eb = true) ∧
    ((∃ f, D.partialCmp a va b vb = some (.eq, f)) ↔ (geEnt uv ea eb = true ∧ geEnt uv eb ea = true)) ∧
    (D.partialCmp a va b vb = none ↔ (geEnt uv ea eb = false ∧ geEnt uv eb ea = false)) := by
  intro ea eb
  have hc := D.partialCmp_char a va b vb
  simp only [hdim a] at hc
  have e1 : D.ent n a va = ea := rfl
  have e2 : D.ent n b vb = eb := rfl
  rw [e1, e2] at hc
  rw [hc]
  simp only [domEnt]
  cases geEnt uv eb ea <;> cases geEnt uv ea eb <;> simp

theorem entU_len_eq (x y : S × Int) : (E x).coords.length = (E y).coords.length := by
  rw [D.entU_len, D.entU_len]

theorem retain_charU (hdim : ∀ s, D.dims s = n) (q : S × Int) (b : Bucket S) :
    (D.retain q.1 q.2 b).1 = b.any (fun o => domEnt uv (E o) (E q)) ∧
    (D.retain q.1 q.2 b).2.2 = b.filter (fun o => keepPred uv (E q) (E o)) := by
  have h := D.retain_char q.1 q.2 b
  simp only [D.entQ_eq_entU n hdim q.1] at h
  exact h

theorem query_covers (hdim : ∀ s, D.dims s = n) (b : Bucket S) (hist : List (S × Int)) (q : S × Int)
    (h : Covers uv (b.map E) (hist.map E)) :
    Covers uv ((D.bucketQuery q.1 q.2 b).1.map E) ((q :: hist).map E) := by
  obtain ⟨hdomc, hkept⟩ := retain_charU D n hdim q b
  have hl := entU_len_eq D n
  have hkeptMem : ∀ f0 ∈ b, keepPred uv (E q) (E f0) = true → f0 ∈ (D.bucketQuery q.1 q.2 b).1 := by
    intro f0 hf0 hk
    rw [D.bucketQuery_fst, hkept]
    split
    · exact List.mem_filter.mpr ⟨hf0, hk⟩
    · exact List.mem_append_left _ (List.mem_filter.mpr ⟨hf0, hk⟩)
  -- the presented pair is covered: by a dominator, which is kept, or by its own entry
  obtain ⟨w, hw, hwq⟩ : ∃ w ∈ (D.bucketQuery q.1 q.2 b).1, geEnt uv (E w) (E q) = true := by
    by_cases hd : (D.retain q.1 q.2 b).1 = true
    · rw [hdomc] at hd
      obtain ⟨o, ho, hoq⟩ := List.any_eq_true.mp hd
      refine ⟨o, hkeptMem o ho (by simp [keepPred, hoq]), ?_⟩
      simp only [domEnt, Bool.and_eq_true] at hoq
      exact hoq.1
    · refine ⟨q, ?_, geEnt_refl _ _⟩
      rw [D.bucketQuery_fst, if_neg hd]
      exact List.mem_append_right _ (List.mem_singleton.mpr rfl)
  intro p hp
  rw [List.map_cons] at hp
  rcases List.mem_cons.mp hp with hp | hp
  · subst hp
    exact ⟨E w, List.mem_map_of_mem hw, hwq⟩
  · obtain ⟨p0, hp0, rfl⟩ := List.mem_map.mp hp
    obtain ⟨f, hf, hfp⟩ := h (E p0) (List.mem_map.mpr ⟨p0, hp0, rfl⟩)
    obtain ⟨f0, hf0, rfl⟩ := List.mem_map.mp hf
    by_cases hk : keepPred uv (E q) (E f0) = true
    · exact ⟨E f0, List.mem_map_of_mem (hkeptMem f0 hf0 hk), hfp⟩
    · -- `f0` is dropped: the presented pair is at least as good, and so is what covers it
      simp only [keepPred, Bool.or_eq_true, Bool.not_eq_true', not_or, Bool.not_eq_true, Bool.not_eq_false] at hk
      exact ⟨E w, List.mem_map_of_mem hw, geEnt_trans (hl _ _) (hl _ _) hwq (geEnt_trans (hl _ _) (hl _ _) hk.2 hfp)⟩

theorem query_sub (b : Bucket S) (hist : List (S × Int)) (q : S × Int) (h : ∀ f ∈ b, f ∈ hist) :
    ∀ f ∈ (D.bucketQuery q.1 q.2 b).1, f ∈ q :: hist := by
  intro f hf
  rw [D.bucketQuery_fst, (D.retain_char q.1 q.2 b).2] at hf
  split at hf
  · exact List.mem_cons_of_mem _ (h f (List.mem_filter.mp hf).1)
  · rcases List.mem_append.mp hf with hf | hf
    · exact List.mem_cons_of_mem _ (h f (List.mem_filter.mp hf).1)
    · simp at hf; subst hf; exact List.mem_cons_self

/-- the store covers everything that was ever presented (history latest first) -/
theorem store_covers_history (hdim : ∀ s, D.dims s = n) (hist : List (S × Int)) :
    Covers uv ((D.bucketAfter hist).map E) (hist.map E) := by
  induction hist with
  | nil => intro p hp; simp at hp
  | cons q hist ih => exact query_covers D n hdim _ hist q ih

theorem store_sub_history (hist : List (S × Int)) : ∀ f ∈ D.bucketAfter hist, f ∈ hist := by
  induction hist with
  | nil => intro f hf; simp [DomRule.bucketAfter] at hf
  | cons q hist ih => exact query_sub D _ hist q ih

/-- **`dominated_iff`**: a state is reported dominated exactly when a previously presented state
    (same depth, same key) is at least as good in every coordinate (and in value when values are
    used) and strictly better somewhere. -/
theorem dominated_iff (hdim : ∀ s, D.dims s = n) (hist : List (S × Int)) (q : S × Int) :
    (D.bucketQuery q.1 q.2 (D.bucketAfter hist)).2.1 = true ↔ ∃ p ∈ hist, domEnt uv (E p) (E q) = true := by
  have hl := entU_len_eq D n
  rw [D.bucketQuery_dom, (retain_charU D n hdim q _).1]
  constructor
  · intro h
    obtain ⟨o, ho, hoq⟩ := List.any_eq_true.mp h
    exact ⟨o, store_sub_history D hist o ho, hoq⟩
  · rintro ⟨p, hp, hpq⟩
    obtain ⟨f, hf, hfp⟩ := store_covers_history D n hdim hist (E p) (List.mem_map.mpr ⟨p, hp, rfl⟩)
    obtain ⟨f0, hf0, rfl⟩ := List.mem_map.mp hf
    exact List.any_eq_true.mpr ⟨f0, hf0, ge_dom_trans (hl _ _) (hl _ _) hfp hpq⟩

/-- otherwise the state is recorded (with no threshold) … -/
theorem not_dominated_inserts (b : Bucket S) (q : S × Int) (h : (D.bucketQuery q.1 q.2 b).2.1 = false) :
    q ∈ (D.bucketQuery q.1 q.2 b).1 ∧ (D.bucketQuery q.1 q.2 b).2.2 = none := by
  rw [D.bucketQuery_dom] at h
  rw [D.bucketQuery_fst, D.bucketQuery_thr, h]
  simp

/-- … and every recorded state it dominates or equals is dropped -/
theorem insert_drops_dominated (hdim : ∀ s, D.dims s = n) (b : Bucket S) (q o : S × Int) (hob : o ∈ b)
    (hnd : (D.bucketQuery q.1 q.2 b).2.1 = false) (hge : geEnt uv (E q) (E o) = true) :
    o ∉ (D.retain q.1 q.2 b).2.2 := by
  obtain ⟨hdomc, hkept⟩ := retain_charU D n hdim q b
  rw [D.bucketQuery_dom, hdomc] at hnd
  have hno : domEnt uv (E o) (E q) = false := by simpa using List.any_eq_false.mp hnd o hob
  rw [hkept, List.mem_filter]
  simp [keepPred, hno, hge]

/-- the store is always an antichain: no stored state is at least as good as another one -/
theorem store_antichain (hdim : ∀ s, D.dims s = n) (hist : List (S × Int)) :
    (D.bucketAfter hist).Pairwise (fun a b => geEnt uv (E a) (E b) = false ∧ geEnt uv (E b) (E a) = false) := by
  induction hist with
  | nil => simp [DomRule.bucketAfter]
  | cons q hist ih =>
    obtain ⟨hdomc, hkept⟩ := retain_charU D n hdim q (D.bucketAfter hist)
    simp only [DomRule.bucketAfter]
    rw [D.bucketQuery_fst, hkept]
    have hfil := ih.sublist (List.filter_sublist (l := D.bucketAfter hist) (p := fun o => keepPred uv (E q) (E o)))
    split
    · exact hfil
    · next hnd =>
      rw [List.pairwise_append]
      refine ⟨hfil, by simp, ?_⟩
      intro a ha b hb
      have hbq : b = q := by simpa using hb
      rw [hbq]
      have hnd' : (D.retain q.1 q.2 (D.bucketAfter hist)).1 = false := by simpa using hnd
      rw [hdomc] at hnd'
      have ha' := List.mem_filter.mp ha
      have hnot : domEnt uv (E a) (E q) = false := by
        have := List.any_eq_false.mp hnd' a ha'.1
        simpa using this
      have hk := ha'.2
      simp only [keepPred, hnot, Bool.false_or, Bool.not_eq_true'] at hk
      refine ⟨?_, hk⟩
      -- a ≥ q together with ¬(q ≥ a) would be domination
      cases hge : geEnt uv (E a) (E q) with
      | false => rfl
      | true => simp [domEnt, hge, hk] at hnot

theorem pairwise_mem {α : Type} {R : α → α → Prop} {l : List α} (hp : l.Pairwise R) {a b : α}
    (ha : a ∈ l) (hb : b ∈ l) : a = b ∨ R a b ∨ R b a := by
  induction l with
  | nil => cases ha
  | cons x xs ih =>
    rw [List.pairwise_cons] at hp
    rcases List.mem_cons.mp ha with ha' | ha' <;> rcases List.mem_cons.mp hb with hb' | hb'
    · exact Or.inl (ha'.trans hb'.symm)
    · rw [ha']; exact Or.inr (Or.inl (hp.1 b hb'))
    · rw [hb']; exact Or.inr (Or.inr (hp.1 a ha'))
    · exact ih hp.2 ha' hb'

/-- what the order sees of an entry: its coordinates, and its value only when values are used -/
def vis (useValue : Bool) (e : Ent) : List Int × Option Int := (e.coords, if useValue then some e.value else none)

/-- **`store_eq_pareto_front`**: as a set of coordinate/value vectors, the store is exactly the set of
    maximal (non-dominated) elements of everything presented so far — whatever the order of presentation. -/
theorem store_eq_pareto_front (hdim : ∀ s, D.dims s = n) (hist : List (S × Int)) (w : List Int × Option Int) :
    (∃ f ∈ D.bucketAfter hist, vis uv (E f) = w) ↔
    (∃ p ∈ hist, vis uv (E p) = w ∧ ∀ p' ∈ hist, domEnt uv (E p') (E p) = false) := by
  have hl := entU_len_eq D n
  have hanti := store_antichain D n hdim hist
  have hcov := store_covers_history D n hdim hist
  have hsub := store_sub_history D hist
  constructor
  · rintro ⟨f, hf, rfl⟩
    refine ⟨f, hsub f hf, rfl, fun p' hp' => ?_⟩
    cases hdom : domEnt uv (E p') (E f) with
    | false => rfl
    | true =>
      exfalso
      obtain ⟨g, hg, hgp⟩ := hcov (E p') (List.mem_map.mpr ⟨p', hp', rfl⟩)
      obtain ⟨g0, hg0, rfl⟩ := List.mem_map.mp hg
      have hgf : domEnt uv (E g0) (E f) = true := ge_dom_trans (hl _ _) (hl _ _) hgp hdom
      rcases pairwise_mem hanti hg0 hf with h | h | h
      · subst h; simp [domEnt_irrefl] at hgf
      · simp [domEnt, h.1] at hgf
      · simp [domEnt, h.2] at hgf
  · rintro ⟨p, hp, rfl, hmax⟩
    obtain ⟨f, hf, hfp⟩ := hcov (E p) (List.mem_map.mpr ⟨p, hp, rfl⟩)
    obtain ⟨f0, hf0, rfl⟩ := List.mem_map.mp hf
    refine ⟨f0, hf0, ?_⟩
    have hnd := hmax f0 (hsub f0 hf0)
    have hpf : geEnt uv (E p) (E f0) = true := by
      cases h : geEnt uv (E p) (E f0) with
      | true => rfl
      | false => simp [domEnt, hfp, h] at hnd
    -- mutual ≥ on vectors of equal length: equal coordinates and (when used) equal value
    have hc : (E f0).coords = (E p).coords := by
      simp only [geEnt, Bool.and_eq_true] at hfp hpf
      exact leB_antisymm (hl _ _) hpf.1 hfp.1
    cases huv : D.useValue with
    | false => simp [vis, hc]
    | true =>
      rw [huv] at hfp hpf
      simp only [geEnt, Bool.not_true, Bool.false_or, Bool.and_eq_true, decide_eq_true_eq] at hfp hpf
      have : (E f0).value = (E p).value := by omega
      simp [vis, hc, this]

/-- order independence: two histories with the same elements (e.g. permutations of each other, as
    produced by different linearisations of concurrent queries) leave the same Pareto front -/
theorem front_perm_invariant (hdim : ∀ s, D.dims s = n) (h1 h2 : List (S × Int)) (hperm : ∀ x, x ∈ h1 ↔ x ∈ h2)
    (w : List Int × Option Int) :
    (∃ f ∈ D.bucketAfter h1, vis uv (E f) = w) ↔ (∃ f ∈ D.bucketAfter h2, vis uv (E f) = w) := by
  rw [store_eq_pareto_front D n hdim h1 w, store_eq_pareto_front D n hdim h2 w]
  constructor
  · rintro ⟨p, hp, hw, hmax⟩
    exact ⟨p, (hperm p).mp hp, hw, fun p' hp' => hmax p' ((hperm p').mpr hp')⟩
  · rintro ⟨p, hp, hw, hmax⟩
    exact ⟨p, (hperm p).mpr hp, hw, fun p' hp' => hmax p' ((hperm p').mp hp')⟩

/-- **`threshold_sound`**: the threshold returned with a dominated verdict is at least the presented
    value, and the same state presented with any value up to it would be dominated too. -/
theorem threshold_sound (b : Bucket S) (s : S) (v : Int) (hv : InI v) (hvals : ∀ o ∈ b, InI o.2)
    (hd : (D.bucketQuery s v b).2.1 = true) :
    ∃ t, (D.bucketQuery s v b).2.2 = some t ∧ v ≤ t ∧
      ∀ v', v' ≤ t → (D.bucketQuery s v' b).2.1 = true := by
  obtain ⟨t, ht, hvt, _, hsound⟩ := D.retain_thr s v b hv hvals
  rw [D.bucketQuery_dom] at hd
  refine ⟨t, ?_, hvt, fun v' hv' => ?_⟩
  · rw [D.bucketQuery_thr, hd]; simpa using ht
  · rw [D.bucketQuery_dom, (D.retain_char s v' b).1]
    cases huv : D.useValue with
    | true =>
      obtain ⟨o, ho, h'⟩ := hsound hd huv
      exact List.any_eq_true.mpr ⟨o, ho, h' v' hv'⟩
    | false =>
      -- value unused: dominance does not depend on the presented value
      rw [(D.retain_char s v b).1, huv] at hd
      obtain ⟨o, ho, h'⟩ := List.any_eq_true.mp hd
      exact List.any_eq_true.mpr ⟨o, ho, by simpa [domEnt, geEnt, DomRule.entQ, DomRule.ent] using h'⟩

theorem lexLoop_of_le (as bs : List Int) (hlen : as.length = bs.length) (hle : leB bs as = true) (hne : leB as bs = false) :
    lexLoop as bs = .gt := by
  induction as generalizing bs with
  | nil => cases bs <;> simp [leB] at hne
  | cons a as ih =>
    cases bs with
    | nil => simp at hlen
    | cons b bs =>
      simp only [leB, Bool.and_eq_true, decide_eq_true_eq, Bool.and_eq_false_iff, decide_eq_false_iff_not,
        List.length_cons, Nat.add_right_cancel_iff] at *
      rcases Int.lt_or_eq_of_le hle.1 with h | h
      · simp [lexLoop, icompare_gt h]
      · rcases hne with hne | hne
        · omega
        · simp only [lexLoop, icompare_eq h.symm]; exact ih bs hlen hle.2 hne

/-- **`cmp_of_dominates`**: the sorting comparator ranks a dominating state first
    (`cmp a b = Greater`, so the descending sort of `_filter_with_dominance` presents it earlier). -/
theorem cmp_of_dominates (hdim : ∀ s, D.dims s = n) (a : S) (va : Int) (b : S) (vb : Int)
    (h : domEnt uv (E (a, va)) (E (b, vb)) = true) : D.cmp a va b vb = .gt := by
  have hlen : (D.coordsN n a).length = (D.coordsN n b).length := by simp [DomRule.coordsN_len]
  simp only [DomRule.cmp, hdim a]
  cases huv : D.useValue with
  | false =>
    rw [huv] at h
    simp only [domEnt, geEnt, DomRule.entU, DomRule.ent, Bool.not_false, Bool.true_or, Bool.and_true,
      Bool.and_eq_true, Bool.not_eq_true'] at h
    simp only [Bool.false_eq_true, if_false]
    exact lexLoop_of_le _ _ hlen h.1 h.2
  | true =>
    rw [huv] at h
    simp only [domEnt, geEnt, DomRule.entU, DomRule.ent, Bool.not_true, Bool.false_or,
      Bool.and_eq_true, Bool.not_eq_true', Bool.and_eq_false_iff] at h
    obtain ⟨⟨hc, hvle⟩, h2⟩ := h
    have hvle' : vb ≤ va := of_decide_eq_true hvle
    simp only [if_true]
    rcases Int.lt_or_eq_of_le hvle' with hlt | heq
    · simp [icompare_gt hlt]
    · simp only [icompare_eq heq.symm]
      rcases h2 with h2 | h2
      · exact lexLoop_of_le _ _ hlen hc h2
      · have : ¬ va ≤ vb := of_decide_eq_false h2
        omega

end bucket

variable [DecidableEq K]

theorem DLayer.find_put_same (l : DLayer S K) (k : K) (b : Bucket S) : (l.put k b).find k = some b := by
  induction l with
  | nil => simp [DLayer.put, DLayer.find]
  | cons p r ih =>
    obtain ⟨k', b'⟩ := p
    by_cases h : k' = k <;> simp [DLayer.put, DLayer.find, h, ih]

theorem DLayer.find_put_other (l : DLayer S K) (k k2 : K) (b : Bucket S) (hne : k2 ≠ k) :
    (l.put k b).find k2 = l.find k2 := by
  induction l with
  | nil => simp [DLayer.put, DLayer.find]; intro h; exact absurd h.symm hne
  | cons p r ih =>
    obtain ⟨k', b'⟩ := p
    by_cases h : k' = k
    · subst h
      have : ¬ k' = k2 := fun h' => hne h'.symm
      simp [DLayer.put, DLayer.find, this]
    · by_cases h2 : k' = k2
      · subst h2; simp [DLayer.put, DLayer.find, h]
      · simp [DLayer.put, DLayer.find, h, h2, ih]

def bucketOf (st : DomStore S K) (d : Nat) (k : K) : Bucket S :=
  match st.layers[d]? with
  | none => []
  | some l => (l.find k).getD []

/-- **`query_refines_bucket`**: at store level a query behaves as `bucketQuery` on the bucket of its own
    `(depth, key)` (a vacant entry behaves as the empty bucket) and leaves every other bucket unchanged. -/
theorem query_refines_bucket (D : DomRule S K) (st st' : DomStore S K) (s : S) (d : Nat) (v : Int) (k : K)
    (dom : Bool) (thr : Option Int) (hk : D.key s = some k)
    (h : DomStore.query D st s d v = some (st', dom, thr)) :
    (bucketOf st' d k, dom, thr) = D.bucketQuery s v (bucketOf st d k) ∧
    ∀ d2 k2, (d2 ≠ d ∨ k2 ≠ k) → bucketOf st' d2 k2 = bucketOf st d2 k2 := by
  simp only [DomStore.query, hk] at h
  cases hl : st.layers[d]? with
  | none => simp [hl] at h
  | some l =>
    have hd : d < st.layers.length := by
      rcases Nat.lt_or_ge d st.layers.length with h' | h'
      · exact h'
      · rw [List.getElem?_eq_none_iff.mpr h'] at hl; cases hl
    simp only [hl] at h
    have frame : ∀ (b' : Bucket S) d2 k2, (d2 ≠ d ∨ k2 ≠ k) →
        bucketOf ⟨st.layers.set d (l.put k b')⟩ d2 k2 = bucketOf st d2 k2 := by
      intro b' d2 k2 hne
      by_cases hdd : d2 = d
      · subst hdd
        have hk2 : k2 ≠ k := by rcases hne with h' | h'; exact absurd rfl h'; exact h'
        simp [bucketOf, List.getElem?_set_self hd, hl, DLayer.find_put_other _ _ _ _ hk2]
      · simp only [bucketOf]; rw [List.getElem?_set_ne (fun h' => hdd h'.symm)]
    cases hf : l.find k with
    | none =>
      simp only [hf, Option.some.injEq, Prod.mk.injEq] at h
      obtain ⟨h1, h2, h3⟩ := h
      subst h1; subst h2; subst h3
      refine ⟨?_, frame _⟩
      simp [bucketOf, List.getElem?_set_self hd, hl, hf, DLayer.find_put_same, DomRule.bucketQuery, DomRule.retain]
    | some b =>
      simp only [hf, Option.some.injEq, Prod.mk.injEq] at h
      obtain ⟨h1, h2, h3⟩ := h
      subst h1; subst h2; subst h3
      refine ⟨?_, frame _⟩
      simp [bucketOf, List.getElem?_set_self hd, hl, hf, DLayer.find_put_same]

/-- a state without key is never dominated and never recorded -/
theorem query_no_key (D : DomRule S K) (st : DomStore S K) (s : S) (d : Nat) (v : Int) (hk : D.key s = none) :
    DomStore.query D st s d v = some (st, false, none) := by
  simp [DomStore.query, hk]

/-! non-vacuity: a concrete rule (2 coordinates, value used) and a concrete history -/
def exRule : DomRule (List Int) Nat := { key := fun _ => some 0, dims := fun _ => 2, coord := fun s i => s.getD i 0, useValue := true }
example : ∀ s, exRule.dims s = 2 := fun _ => rfl
example : (exRule.bucketQuery [1, 1] 5 (exRule.bucketAfter [([2, 1], 7), ([0, 0], 9)])).2 = (true, some 7) := by decide +kernel
example : (exRule.bucketQuery [2, 1] 5 (exRule.bucketAfter [([2, 1], 7), ([0, 0], 9)])).2 = (true, some 6) := by decide +kernel
example : (exRule.bucketQuery [3, 0] 5 (exRule.bucketAfter [([2, 1], 7), ([0, 0], 9)])).2 = (false, none) := by decide +kernel

end Ddo.C10
