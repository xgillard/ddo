import DdoModel.Proofs.ParDomAtomic
import DdoModel.Proofs.ParDomCompileL
import DdoModel.Proofs.ParDomOp
import DdoModel.Proofs.ParDomLSys
import DdoModel.Proofs.ParDomOpSelf
import DdoModel.Proofs.ParDomOpLoop
import DdoModel.Proofs.ParDomOSysDefs
import DdoModel.Proofs.ParDomOSys
/-! # C10 / C03 — the PARALLEL solver with the shared dominance checker (`SimpleDominanceChecker`, a `DashMap` per depth) returns
the optimum, for every interleaving of the critical sections **and of the individual `is_dominated_or_insert` calls**

`Ddo.C10.dominance_solver_optimal` is the sequential solver with the shared store threaded through all compilations;
`Ddo.C03c.parallel_solver_correct` the parallel solver without checker.  Here: the parallel solver with the checker.
In the code the store only ever changes through `is_dominated_or_insert` (ONE atomic operation per node, under the shard lock),
called from `_filter_with_dominance` inside the lock-free compilations of all workers (`clear_layer` of the checker is never called
by the solvers).  Headline: `parallel_dominance_solver_optimal`.

## architecture
**System** = `ParSys.Step` (`DdoModel/ParSys.lean`: the shared `Critical` record evolved by the functions of `ParSolver.lean`, one
worker-local state per thread, one step per critical section / lock-free compilation — the system of `C03c`), no cache, no
compilation cut off (`NoAbortS`, as for `dominance_solver_optimal`), compilations of the diagram model with `dom := some D`.

* `parallel_dominance_of` (`Proofs/ParDomClosed.lean`), generic: for ANY answer relations `okR`/`okX` of the compilations that meet
  `AnsOk` (`Proofs/ParDomGenDefs.lean`: facts, protected-family contracts relative to the STALE incumbent, a compilation ends
  normally) — termination, `GAll` (side conditions `GPCInv`, bookkeeping `LayInv`, `NoCut`, coverage `DSysInv`) in every reachable
  state of every interleaving, no panic, no deadlock, the optimum with a feasible solution at every `Complete` and when
  `maximize()` returns.  The coverage invariant `DSysInv` (`Proofs/ParDomDefs.lean`, `step_dinv` in `Proofs/ParDomInv.lean`) is the
  `BBInv` of the sequential proof lifted to the parallel system: *if the optimum beats the incumbent, a sub-problem in the fringe or
  in the hand of a worker lies on the protected family with a bound that does not cut the optimum off*; per-worker stage facts carry
  the contracts relative to the stale incumbent.  (`ParSys.SysInv` of `C03b` cannot be reused with `Phi := "on the protected family"`: its
  cut-set contract asks `UbOk` of EVERY cut-set node, which the diagram theorems with the checker give for ONE protected node.)
* **why the shared store needs no justification**: the contracts hold for a compilation answered by ANY stores all of whose entries
  are exactly reached items — an *adversarial* store: nothing about who wrote what when; a protected item is never dominated by an
  exactly reached item.  And the shared store never holds anything else, operation by operation: `applyOp_storeReach`,
  `runOps_storeReach` (the store after ANY log of atomic operations, i.e. any interleaving), `runOps_defined` (no panic),
  `runOps_protected`; the items a compilation presents are exactly reached WHATEVER it is answered (`compileOp_ops_reached`).

## three granularities of the interleaving
* **one operation** — `parallel_dominance_solver_optimal`.  `compileOp cfg cache τ polls` (`Proofs/ParDomOp.lean`): the compilation of
  the diagram model in which the `k`-th `is_dominated_or_insert` OF THE COMPILATION is answered by the oracle store `τ k` — the shared
  store at that moment, after everything any worker did before (nothing is threaded: the compilation's own insertions are in
  `τ (k+1)` only if nobody removed them); sanity `compileOp_self` (`Proofs/ParDomOpSelf.lean`): with the compilation's own thread as
  oracle it is `compile`.  No simulation by `compile` is available here: two incomparable nodes `x₁`, `x₂` of one layer with the same
  key and a foreign entry `e` dominating both that arrives between their two operations give the verdicts (kept, dropped), which
  threading from no single store of exactly reached items reproduces.  What `compile`, the layer-wise and the operation-wise
  compilation share is the level below: each is a **chain of layer steps through admissible filters** (`Proofs/BuildChain.lean`,
  `Proofs/DomChain.lean`); the diagram invariants are kept along every chain, the theorems about what a finished diagram reports are
  stated of the final diagram of a chain, and `AnsOk` is proved once for the answers of such builds (`ansOk_built`,
  `Proofs/ParDomBuilt.lean`); with `compileOp_no_crash` it gives `perOpObligation_holds` (`Proofs/ParDomOpLoop.lean`).
  `OStep` (`Proofs/ParDomOSysDefs.lean`): the small-step system with the shared store in the state, ONE `DomStore.query` on the
  shared store per step (`op`): `parallel_dominance_opwise` (`orun_inv`, `oreach_finish`, `oreach_store` in `Proofs/ParDomOSys.lean`:
  safety, store invariant and projection; termination / progress are proved for the projected system, where a compilation is one step).
* **one layer** — `parallel_dominance_solver_optimal_L`, `parallel_dominance_layerwise`.  `LStep` (`Proofs/ParDomLSysDefs.lean`):
  shared store in the state, ONE iteration of the compilation loop of one worker (its `_filter_with_dominance` call on the shared
  store as it is NOW, + restrict / relax + expansion) per step.  The compilation whose layer of depth `d` reads the store `σ d`
  (`compileL`) is a chain as well (`buildLoopL_ended`, `compileL_ended`): every layer is a `stepLayer` from a store of exactly
  reached items, whichever; it does not crash (`buildLoopL_no_crash`); `ansOk_L` is `ansOk_built` at these answers.
  For `LStep` itself: termination with layer steps counted (`lsys_terminates`), no deadlock and
  no crashing layer (`lstep_progress`), the store invariant and the projection (`lrun_inv`).
* **one compilation** — `parallel_dominance_solver_optimal_d`, `parallel_dominance_atomic` (`DPStep`: whole compilations atomic
  w.r.t. the store, several nodes in progress; `dprun_inv`).
* non-vacuity (`Proofs/ParDomExec.lean`: deterministic scheduler `nextL`, `nextL_step`, runs evaluated in the kernel): `Kp2` — the
  knapsack of `C10b` with 2 workers, a complete run ending `(true, Some(6))`; `Kq` — a 4-item knapsack (optimum 11) on which both
  workers are inside restricted compilations at the same time with their layers alternating; `Kq.mid_obs` / `Kq.mid_obs_other`:
  worker 0's third layer receives a `dominated` verdict exactly when worker 1's third layer ran just before it (an entry inserted
  by ANOTHER worker's compilation in progress prunes), and none in the other order; both orders end `(true, Some(11))`.
  `Kp.par_correct`: the headline on the knapsack rule of the `ddo` documentation.

## hypotheses
`WellFormed dv.sv H B0 B` exactly as `C01d` / `C03c` / `C10b`; a feasible problem (`hopt`); `UndomOpt` (implied by `SimAdmissible` +
`StaticOrder`, `C10.undomOpt_of_sim`); `U ≥ 1` workers.  Not covered: cut-offs (`NoAbortS`), the cache together with the checker. -/
set_option linter.unusedSectionVars false
set_option linter.unusedVariables false
namespace Ddo.C10f
open Ddo Ddo.Truth Ddo.Closed Ddo.ParSys Ddo.ParClosed Ddo.C10 Ddo.ParDom
open Ddo.C01 (SolverCfg WellFormed toOut SolOf)
variable {S K : Type} [DecidableEq S] [DecidableEq K]

/-- what the headline says of a reachable state `t` of the parallel system with the answer relations `okR` / `okX` -/
def GoodState (dv : DSolverCfg S K) (H : Nat → S → EInt) (okR okX : SubP S → Int → DDOut S → Prop) (B opt : Int)
    (t : Sys S) : Prop :=
  (GPCInv dv H okR okX B t ∧ LayInv dv.sv t ∧ NoCut t) ∧
  (NoCrash t ∧ t.crit.base.crashed = false ∧ (¬ AllDone t → ∃ u, GStep dv.sv.dedup okR okX t u)) ∧
  (∀ i, CompletesAt t i →
    t.crit.base.bestLb = opt ∧ (∃ p, t.crit.base.bestSol = some p ∧ SolOf dv.sv.P p opt) ∧
    t.crit.complete.base.bestUb = opt ∧ t.crit.complete.base.completion = (true, some opt)) ∧
  (AllDone t →
    t.crit.base.bestLb = opt ∧ (∃ p, t.crit.base.bestSol = some p ∧ SolOf dv.sv.P p opt) ∧
    t.crit.base.completion = (true, some opt)) ∧
  t.crit.base.bestLb ≤ opt ∧ (∀ p, t.crit.base.bestSol = some p → SolOf dv.sv.P p t.crit.base.bestLb)

/-- the generic headline with `UndomOpt` -/
theorem parallel_dominance_undom (dv : DSolverCfg S K) (H : Nat → S → EInt) (B0 B opt : Int)
    (okR okX : SubP S → Int → DDOut S → Prop)
    (hwf : WellFormed dv.sv H B0 B) (hopt : (H 0 dv.sv.P.init).addI dv.sv.P.initVal = some opt)
    (hUO : UndomOpt dv.D dv.sv.P H opt)
    (hA : ∀ Prot, Protected dv.D dv.sv.P H opt Prot → AnsOk dv B opt Prot okR okX) (U : Nat) (hU : 1 ≤ U) :
    WellFounded (fun t s : Sys S =>
      GRun dv.sv.dedup okR okX (Sys.init dv.sv.P none dv.sv.dedup U) s ∧ GStep dv.sv.dedup okR okX s t) ∧
    (∀ run : Nat → Sys S, run 0 = Sys.init dv.sv.P none dv.sv.dedup U →
      ¬ ∀ k, GStep dv.sv.dedup okR okX (run k) (run (k + 1))) ∧
    (∀ t, GRun dv.sv.dedup okR okX (Sys.init dv.sv.P none dv.sv.dedup U) t → GoodState dv H okR okX B opt t) ∧
    (∃ t, GRun dv.sv.dedup okR okX (Sys.init dv.sv.P none dv.sv.dedup U) t ∧ AllDone t) := by
  obtain ⟨Prot, hPr⟩ := hUO
  obtain ⟨h1, h2, h3⟩ := parallel_dominance_of dv H B0 B opt Prot okR okX hwf hopt hPr (hA Prot hPr) U hU
  refine ⟨h1, h2, fun t ht => ?_, (parallel_dominance_total dv H B0 B opt Prot okR okX hwf hopt hPr (hA Prot hPr) U hU).1⟩
  obtain ⟨a, b, c, d, e, f⟩ := h3 t ht
  exact ⟨⟨a.pc, a.lay, a.noCut⟩, b, c, d, e, f⟩

/-- **`parallel_dominance_solver_optimal_L`** (layer-wise answers): for every well-formed model, every dominance rule with a protected optimal strategy
    (`UndomOpt`), every ranking, width function, cut-set kind, either fringe and **every number of workers `U ≥ 1`**, the parallel
    solver with the shared dominance checker (no cache, no cut-off), each compilation reading — LAYER BY LAYER — whatever the
    shared store holds at that moment (`okRL` / `okXL`: any sequence of stores of exactly reached items), in **every
    interleaving**: terminates (well-founded step relation, no infinite run); in every reachable state nothing has panicked, some
    step is enabled unless every worker has left (no deadlock, no lost wake-up), whenever `get_workload` answers `Complete` and when
    `maximize()` returns: `best_lb = opt`, a genuinely feasible stored solution of value `opt`,
    `Completion { is_exact: true, best_value: Some(opt) }`; a complete run exists. -/
theorem parallel_dominance_solver_optimal_L (dv : DSolverCfg S K) (H : Nat → S → EInt) (B0 B opt : Int)
    (hwf : WellFormed dv.sv H B0 B) (hopt : (H 0 dv.sv.P.init).addI dv.sv.P.initVal = some opt)
    (hUO : UndomOpt dv.D dv.sv.P H opt) (U : Nat) (hU : 1 ≤ U) :
    WellFounded (fun t s : Sys S =>
      GRun dv.sv.dedup (okRL dv) (okXL dv) (Sys.init dv.sv.P none dv.sv.dedup U) s ∧ GStep dv.sv.dedup (okRL dv) (okXL dv) s t) ∧
    (∀ run : Nat → Sys S, run 0 = Sys.init dv.sv.P none dv.sv.dedup U →
      ¬ ∀ k, GStep dv.sv.dedup (okRL dv) (okXL dv) (run k) (run (k + 1))) ∧
    (∀ t, GRun dv.sv.dedup (okRL dv) (okXL dv) (Sys.init dv.sv.P none dv.sv.dedup U) t →
      GoodState dv H (okRL dv) (okXL dv) B opt t) ∧
    (∃ t, GRun dv.sv.dedup (okRL dv) (okXL dv) (Sys.init dv.sv.P none dv.sv.dedup U) t ∧ AllDone t) :=
  parallel_dominance_undom dv H B0 B opt _ _ hwf hopt hUO (fun _ hPr => ansOk_L hwf hopt hPr) U hU

/-- the same with every compilation answered from ONE store of exactly reached items (whole compilations atomic) -/
theorem parallel_dominance_solver_optimal_d (dv : DSolverCfg S K) (H : Nat → S → EInt) (B0 B opt : Int)
    (hwf : WellFormed dv.sv H B0 B) (hopt : (H 0 dv.sv.P.init).addI dv.sv.P.initVal = some opt)
    (hUO : UndomOpt dv.D dv.sv.P H opt) (U : Nat) (hU : 1 ≤ U) :
    WellFounded (fun t s : Sys S =>
      GRun dv.sv.dedup (okRd dv) (okXd dv) (Sys.init dv.sv.P none dv.sv.dedup U) s ∧ GStep dv.sv.dedup (okRd dv) (okXd dv) s t) ∧
    (∀ run : Nat → Sys S, run 0 = Sys.init dv.sv.P none dv.sv.dedup U →
      ¬ ∀ k, GStep dv.sv.dedup (okRd dv) (okXd dv) (run k) (run (k + 1))) ∧
    (∀ t, GRun dv.sv.dedup (okRd dv) (okXd dv) (Sys.init dv.sv.P none dv.sv.dedup U) t →
      GoodState dv H (okRd dv) (okXd dv) B opt t) ∧
    (∃ t, GRun dv.sv.dedup (okRd dv) (okXd dv) (Sys.init dv.sv.P none dv.sv.dedup U) t ∧ AllDone t) :=
  parallel_dominance_undom dv H B0 B opt _ _ hwf hopt hUO (fun _ hPr => ansOk_d hwf hopt hPr) U hU

/-- **`parallel_dominance_layerwise`**: the system `LStep` — shared store in the state, one step per LAYER of one compilation (its
    `_filter_with_dominance` call acts on the shared store as it is at that moment), any interleaving with the layers and the
    critical sections of the other workers: the step relation is well-founded on the reachable states (layer steps counted); in
    every reachable state some step is enabled unless every worker has left (no deadlock, no layer crashes), the shared store holds
    exactly reached items only, and the solver state is a reachable state of the system of `parallel_dominance_solver_optimal` —
    hence no panic, and the optimum at every `Complete` and at the return of `maximize()` -/
theorem parallel_dominance_layerwise (dv : DSolverCfg S K) (H : Nat → S → EInt) (B0 B opt : Int)
    (hwf : WellFormed dv.sv H B0 B) (hopt : (H 0 dv.sv.P.init).addI dv.sv.P.initVal = some opt)
    (hUO : UndomOpt dv.D dv.sv.P H opt) (U : Nat) (hU : 1 ≤ U) :
    WellFounded (fun u t : LSys S K => LRun dv (LSys.init dv U) t ∧ LStep dv t u) ∧
    ∀ t, LRun dv (LSys.init dv U) t →
      (¬ AllDone t.sys → ∃ u, LStep dv t u) ∧
      StoreReach dv.D dv.sv.P t.store ∧ t.store.layers.length = dv.sv.P.nbVars + 1 ∧
      GRun dv.sv.dedup (okRL dv) (okXL dv) (Sys.init dv.sv.P none dv.sv.dedup U) t.sys ∧
      GoodState dv H (okRL dv) (okXL dv) B opt t.sys := by
  obtain ⟨Prot, hPr⟩ := hUO
  refine ⟨lsys_terminates hwf hopt hPr U, fun t ht => ?_⟩
  obtain ⟨h1, h2, h3, _⟩ := lrun_inv hwf hopt hPr U ht
  exact ⟨fun hl => lstep_progress hwf hopt hPr U ht hl, h2, h3, h1,
    (parallel_dominance_solver_optimal_L dv H B0 B opt hwf hopt ⟨Prot, hPr⟩ U hU).2.2.1 _ h1⟩

/-- **`parallel_dominance_atomic`**: the system `DPStep` — shared store in the state, whole compilations atomic w.r.t. the store,
    several nodes in progress -/
theorem parallel_dominance_atomic (dv : DSolverCfg S K) (H : Nat → S → EInt) (B0 B opt : Int)
    (hwf : WellFormed dv.sv H B0 B) (hopt : (H 0 dv.sv.P.init).addI dv.sv.P.initVal = some opt)
    (hUO : UndomOpt dv.D dv.sv.P H opt) (U : Nat) (hU : 1 ≤ U) (t : DSys S K) (ht : DPRun dv (DSys.init dv U) t) :
    StoreReach dv.D dv.sv.P t.store ∧ t.store.layers.length = dv.sv.P.nbVars + 1 ∧
    GRun dv.sv.dedup (okRd dv) (okXd dv) (Sys.init dv.sv.P none dv.sv.dedup U) t.sys ∧
    GoodState dv H (okRd dv) (okXd dv) B opt t.sys := by
  obtain ⟨Prot, hPr⟩ := hUO
  obtain ⟨h1, h2, h3⟩ := dprun_inv hwf hopt hPr U ht
  exact ⟨h2, h3, h1, (parallel_dominance_solver_optimal_d dv H B0 B opt hwf hopt ⟨Prot, hPr⟩ U hU).2.2.1 _ h1⟩

/-- under `PerOpObligation` (a theorem: `perOpObligation_holds`, `Proofs/ParDomOpLoop.lean`) the headline holds for the system whose compilations interleave their INDIVIDUAL
    `is_dominated_or_insert` calls with those of the other workers -/
theorem parallel_dominance_perOp_of (dv : DSolverCfg S K) (H : Nat → S → EInt) (B0 B opt : Int)
    (hwf : WellFormed dv.sv H B0 B) (hopt : (H 0 dv.sv.P.init).addI dv.sv.P.initVal = some opt)
    (hUO : UndomOpt dv.D dv.sv.P H opt)
    (hO : ∀ Prot, Protected dv.D dv.sv.P H opt Prot → PerOpObligation dv B opt Prot) (U : Nat) (hU : 1 ≤ U) :
    WellFounded (fun t s : Sys S =>
      GRun dv.sv.dedup (okROp dv) (okXOp dv) (Sys.init dv.sv.P none dv.sv.dedup U) s ∧
        GStep dv.sv.dedup (okROp dv) (okXOp dv) s t) ∧
    (∀ run : Nat → Sys S, run 0 = Sys.init dv.sv.P none dv.sv.dedup U →
      ¬ ∀ k, GStep dv.sv.dedup (okROp dv) (okXOp dv) (run k) (run (k + 1))) ∧
    (∀ t, GRun dv.sv.dedup (okROp dv) (okXOp dv) (Sys.init dv.sv.P none dv.sv.dedup U) t →
      GoodState dv H (okROp dv) (okXOp dv) B opt t) ∧
    (∃ t, GRun dv.sv.dedup (okROp dv) (okXOp dv) (Sys.init dv.sv.P none dv.sv.dedup U) t ∧ AllDone t) :=
  parallel_dominance_undom dv H B0 B opt _ _ hwf hopt hUO (fun Prot hPr => (hO Prot hPr).1) U hU

/-- **`parallel_dominance_solver_optimal`** — THE HEADLINE, every INDIVIDUAL `is_dominated_or_insert` interleaved: for every
    well-formed model, every dominance rule with a protected optimal strategy (`UndomOpt`), every ranking, width function, cut-set
    kind, either fringe and **every number of workers `U ≥ 1`**, the parallel solver with the shared dominance checker (no cache, no
    cut-off), the `k`-th `is_dominated_or_insert` of every compilation answered by WHATEVER the shared store holds at that moment
    (`okROp` / `okXOp`: `compileOp` against any sequence `τ` of stores of exactly reached items — and the shared store never holds
    anything else: `runOps_storeReach` + `compileOp_ops_reached`), in **every interleaving of the critical sections and of the
    individual operations**: terminates (well-founded step relation, no infinite run); in every reachable state nothing has
    panicked, some step is enabled unless every worker has left (no deadlock, no lost wake-up), whenever `get_workload` answers
    `Complete` and when `maximize()` returns: `best_lb = opt`, a genuinely feasible stored solution of value `opt`,
    `Completion { is_exact: true, best_value: Some(opt) }`; a complete run exists. -/
theorem parallel_dominance_solver_optimal (dv : DSolverCfg S K) (H : Nat → S → EInt) (B0 B opt : Int)
    (hwf : WellFormed dv.sv H B0 B) (hopt : (H 0 dv.sv.P.init).addI dv.sv.P.initVal = some opt)
    (hUO : UndomOpt dv.D dv.sv.P H opt) (U : Nat) (hU : 1 ≤ U) :
    WellFounded (fun t s : Sys S =>
      GRun dv.sv.dedup (okROp dv) (okXOp dv) (Sys.init dv.sv.P none dv.sv.dedup U) s ∧
        GStep dv.sv.dedup (okROp dv) (okXOp dv) s t) ∧
    (∀ run : Nat → Sys S, run 0 = Sys.init dv.sv.P none dv.sv.dedup U →
      ¬ ∀ k, GStep dv.sv.dedup (okROp dv) (okXOp dv) (run k) (run (k + 1))) ∧
    (∀ t, GRun dv.sv.dedup (okROp dv) (okXOp dv) (Sys.init dv.sv.P none dv.sv.dedup U) t →
      GoodState dv H (okROp dv) (okXOp dv) B opt t) ∧
    (∃ t, GRun dv.sv.dedup (okROp dv) (okXOp dv) (Sys.init dv.sv.P none dv.sv.dedup U) t ∧ AllDone t) :=
  parallel_dominance_perOp_of dv H B0 B opt hwf hopt hUO (fun _ hPr => perOpObligation_holds hwf hopt hPr) U hU

/-- **`parallel_dominance_opwise`**: the small-step system `OStep` — the shared store is a state component; ONE atomic
    `is_dominated_or_insert` (`DomStore.query`) on the shared store AS IT IS AT THAT MOMENT per step `op` of one worker, arbitrarily
    interleaved with the operations, layer entries / exits and critical sections of all the other workers: in every reachable state
    the shared store holds exactly reached items only, and the solver state is a reachable state of the system of
    `parallel_dominance_solver_optimal` — hence nothing has panicked, and every `Complete` / the return of `maximize()` holds the
    optimum with a feasible solution -/
theorem parallel_dominance_opwise (dv : DSolverCfg S K) (H : Nat → S → EInt) (B0 B opt : Int)
    (hwf : WellFormed dv.sv H B0 B) (hopt : (H 0 dv.sv.P.init).addI dv.sv.P.initVal = some opt)
    (hUO : UndomOpt dv.D dv.sv.P H opt) (U : Nat) (hU : 1 ≤ U) (t : OSys S K) (ht : ORun dv (OSys.init dv U) t) :
    StoreReach dv.D dv.sv.P t.store ∧ t.store.layers.length = dv.sv.P.nbVars + 1 ∧
    GRun dv.sv.dedup (okROp dv) (okXOp dv) (Sys.init dv.sv.P none dv.sv.dedup U) t.sys ∧
    GoodState dv H (okROp dv) (okXOp dv) B opt t.sys := by
  obtain ⟨Prot, hPr⟩ := hUO
  obtain ⟨h1, h2, h3, _⟩ := orun_inv (okR := okROp dv) (okX := okXOp dv) hwf hopt hPr (ansOk_Op hwf hopt hPr) U ht
  exact ⟨h2, h3, h1, (parallel_dominance_solver_optimal dv H B0 B opt hwf hopt ⟨Prot, hPr⟩ U hU).2.2.1 _ h1⟩

end Ddo.C10f

#print axioms Ddo.ParDom.step_dinv
#print axioms Ddo.ParDom.parallel_dominance_of
#print axioms Ddo.ParDom.parallel_dominance_total
#print axioms Ddo.ParDom.ansOk_d
#print axioms Ddo.ParDom.ansOk_L
#print axioms Ddo.ParDom.ansOk_built
#print axioms Ddo.ParDom.compileL_ended
#print axioms Ddo.ParDom.dprun_inv
#print axioms Ddo.ParDom.lrun_inv
#print axioms Ddo.ParDom.lstep_progress
#print axioms Ddo.ParDom.lsys_terminates
#print axioms Ddo.ParDom.compileOp_self
#print axioms Ddo.ParDom.runOps_storeReach
#print axioms Ddo.ParDom.runOps_defined
#print axioms Ddo.ParDom.runOps_protected
#print axioms Ddo.ParDom.fdStepO_protected
#print axioms Ddo.C10f.parallel_dominance_undom
#print axioms Ddo.C10f.parallel_dominance_solver_optimal_L
#print axioms Ddo.C10f.parallel_dominance_solver_optimal_d
#print axioms Ddo.C10f.parallel_dominance_layerwise
#print axioms Ddo.C10f.parallel_dominance_atomic
#print axioms Ddo.C10f.parallel_dominance_perOp_of
#print axioms Ddo.ParDom.filterDomO_spec
#print axioms Ddo.ParDom.filterDomO_protected
#print axioms Ddo.ParDom.compileOp_ops_reached
#print axioms Ddo.ParDom.compileOp_no_crash
#print axioms Ddo.ParDom.compileOp_ended
#print axioms Ddo.C10.Ended.isSol_false
#print axioms Ddo.C10.Ended.ebpMust_sound
#print axioms Ddo.C10.Ended.wf
#print axioms Ddo.C10.exact_fin
#print axioms Ddo.C10.TEnd.bestValue_ge
#print axioms Ddo.C10.cutset_dom_fin
#print axioms Ddo.ParDom.ansOk_Op
#print axioms Ddo.ParDom.perOpObligation_holds
#print axioms Ddo.C10f.parallel_dominance_solver_optimal
#print axioms Ddo.ParDom.orun_inv
#print axioms Ddo.C10f.parallel_dominance_opwise
