import DdoModel.Props.C01b
import DdoModel.Proofs.LexNat
import DdoModel.Proofs.SeqMeasure
/-! # Termination of the sequential branch-and-bound loop (both fringes)

`Step nbVars dedup s t`: one turn of the loop of `maximize` on the model `SeqSolver.lean` —
`get_workload` pops *some* node `N` of the fringe (any node: a maximal one in particular, see
`StepMax`), moves `first_active_layer` anywhere, runs `afterPop`, then `process_one_node` runs with
*arbitrary* answers of the cache and of the two compilations (including cutoffs), subject only to the
progress clause of the cut-set contract (C08 (ii)): every node the relaxed diagram hands out is
strictly deeper than `N` and not deeper than `nbVars`.

Measure: the vector, indexed by depth from shallow to deep (`0 … nbVars`, plus one last coordinate
for "deeper than `nbVars`", so that no assumption on the initial state is needed), of the number of
fringe entries of that depth, ordered lexicographically (`LexLT`, well-founded by `lexLT_wf`).  A pop
removes one entry at the depth of `N`; what is pushed is strictly deeper; a push on the
duplicate-free fringe either appends the node or replaces an entry *of the same depth*
(`cnt_pushSpec_of_ne`); an abort empties the fringe.  Hence `step_measure_lt`, and
`seq_terminates : WellFounded (fun t s => Step nbVars dedup s t)`. -/
set_option linter.unusedSectionVars false
namespace Ddo.C01t
variable {S : Type} [DecidableEq S]

/-- one turn of the solver loop (see the header) -/
inductive Step (nbVars : Nat) (dedup : Bool) : SeqSt S → SeqSt S → Prop
  | pop (s : SeqSt S) (N : SubP S) (rest : List (SubP S)) (fa : Nat) (me : Bool) (r x : DDRes S)
      (hpop : s.fringe.Perm (N :: rest))
      (hprog : ∀ o, x = .ok o → ∀ c ∈ o.cutset, N.depth < c.depth ∧ c.depth ≤ nbVars) :
      Step nbVars dedup s
        ((({ s with fringe := rest, firstActive := fa }).afterPop N).process dedup N me r x).1

/-- the same with the pop restricted to a maximal element (what the fringe does) -/
inductive StepMax (nbVars : Nat) (dedup : Bool) : SeqSt S → SeqSt S → Prop
  | pop (s : SeqSt S) (N : SubP S) (rest : List (SubP S)) (fa : Nat) (me : Bool) (r x : DDRes S)
      (hpop : s.fringe.Perm (N :: rest))
      (hmax : ∀ c ∈ rest, c.ub < N.ub ∨ (c.ub = N.ub ∧ c.value ≤ N.value))
      (hprog : ∀ o, x = .ok o → ∀ c ∈ o.cutset, N.depth < c.depth ∧ c.depth ≤ nbVars) :
      StepMax nbVars dedup s
        ((({ s with fringe := rest, firstActive := fa }).afterPop N).process dedup N me r x).1

theorem StepMax.step {nbVars : Nat} {dedup : Bool} {s t : SeqSt S} (h : StepMax nbVars dedup s t) :
    Step nbVars dedup s t := by
  cases h with
  | pop N rest fa me r x hpop _ hprog => exact Step.pop s N rest fa me r x hpop hprog

/-- the measure: number of fringe entries per (clamped) depth, shallow first -/
def mu (nbVars : Nat) (s : SeqSt S) : Nat → Nat := cnt (nbVars + 1) s.fringe

theorem step_measure_lt {nbVars : Nat} {dedup : Bool} {s t : SeqSt S} (h : Step nbVars dedup s t) :
    LexLT (nbVars + 2) (mu nbVars t) (mu nbVars s) := by
  cases h with
  | pop N rest fa me r x hpop hprog =>
    have hle : ∀ e, e ≤ cdepth (nbVars + 1) N →
        mu nbVars ((({ s with fringe := rest, firstActive := fa }).afterPop N).process dedup N me r x).1 e
          ≤ cnt (nbVars + 1) rest e := by
      intro e he
      have := process_cnt_le (nbVars + 1) dedup (({ s with fringe := rest, firstActive := fa }).afterPop N) N me r x e
        (by
          intro o ho c hc
          obtain ⟨h1, h2⟩ := hprog o ho c hc
          unfold cdepth at he ⊢
          omega)
      rw [afterPop_fringe] at this
      exact this
    have hs : ∀ e, mu nbVars s e = cnt (nbVars + 1) rest e + if cdepth (nbVars + 1) N = e then 1 else 0 := by
      intro e
      unfold mu
      rw [cnt_perm _ hpop, cnt_cons]
    refine lexLT_of_le (cdepth (nbVars + 1) N) (Nat.lt_succ_of_le (Nat.min_le_right _ _)) ?_ ?_
    · rw [hs, if_pos rfl]
      exact Nat.lt_succ_of_le (hle _ (Nat.le_refl _))
    · intro e he
      rw [hs]
      exact Nat.le_trans (hle e (Nat.le_of_lt he)) (Nat.le_add_right _ _)

/-- **`seq_terminates`**: the loop relation is well-founded — from *any* state, with either fringe,
    whatever the diagrams, the cache and the pop order answer, there is no infinite run -/
theorem seq_terminates (nbVars : Nat) (dedup : Bool) :
    WellFounded (fun t s : SeqSt S => Step nbVars dedup s t) :=
  Subrelation.wf (r := InvImage (LexLT (nbVars + 2)) (mu nbVars))
    (fun {_ _} h => step_measure_lt h) (InvImage.wf _ (lexLT_wf _))

theorem seq_terminates_max (nbVars : Nat) (dedup : Bool) :
    WellFounded (fun t s : SeqSt S => StepMax nbVars dedup s t) :=
  Subrelation.wf (fun {_ _} h => h.step) (seq_terminates nbVars dedup)

theorem seq_acc (nbVars : Nat) (dedup : Bool) (s : SeqSt S) :
    Acc (fun t s : SeqSt S => Step nbVars dedup s t) s := (seq_terminates nbVars dedup).apply s

theorem no_infinite_run (nbVars : Nat) (dedup : Bool) (run : Nat → SeqSt S) :
    ¬ ∀ n, Step nbVars dedup (run n) (run (n + 1)) :=
  no_infinite_chain (seq_terminates nbVars dedup) run

/-- a step is possible only from a non-empty fringe: `get_workload` returns `Complete` otherwise,
    and after an abort (`fringe = []`) the loop is over -/
theorem step_fringe_ne_nil {nbVars : Nat} {dedup : Bool} {s t : SeqSt S} (h : Step nbVars dedup s t) :
    s.fringe ≠ [] := by
  cases h with
  | pop N rest fa me r x hpop _ =>
    intro hnil; rw [hnil] at hpop
    exact absurd hpop.length_eq (by simp)

/-! ## partial + total correctness of the loop, both fringes (no cache, no cutoff)

Putting `C01b.process_inv_any` and `seq_terminates` together: a `GoodStep` is a `Step` whose two
compilations answer under the contracts of C06–C08; the coverage invariant is a loop invariant
(`goodStep_inv`, `run_inv`), a run that reaches the empty fringe holds the optimum
(`run_end_optimal`), and there is no infinite run (`good_terminates`). -/
section
variable (Phi : SubP S → EInt) (opt : Int) (Sol : List Dec → Int → Prop)

theorem afterPop_lb_sol (st : SeqSt S) (N : SubP S) :
    (st.afterPop N).bestLb = st.bestLb ∧ (st.afterPop N).bestSol = st.bestSol := by
  unfold SeqSt.afterPop
  split <;> exact ⟨rfl, rfl⟩

/-- the invariant reads the open list only through membership -/
theorem inv_of_mem {L L' : List (SubP S)} {lb : Int} {sol : Option (List Dec)}
    (h : ∀ c, c ∈ L' → c ∈ L) (h' : ∀ c, c ∈ L → c ∈ L')
    (hinv : Inv Phi opt Sol L lb sol) : Inv Phi opt Sol L' lb sol :=
  ⟨fun c hc => hinv.good c (h c hc), fun c hc => hinv.ubOk c (h c hc), hinv.lbOk, hinv.solOk,
    fun hgt => by obtain ⟨c, hc, h1, h2⟩ := hinv.cover hgt; exact ⟨c, h' c hc, h1, h2⟩⟩

/-- a turn of the loop whose compilations meet their contracts (the state `st'` in hand is the one
    after `get_workload`: popped, `afterPop` applied) -/
inductive GoodStep (nbVars : Nat) (dedup : Bool) : SeqSt S → SeqSt S → Prop
  | pop (s : SeqSt S) (N : SubP S) (rest : List (SubP S)) (fa : Nat) (r x : DDOut S)
      (hpop : s.fringe.Perm (N :: rest))
      (hprog : ∀ c ∈ x.cutset, N.depth < c.depth ∧ c.depth ≤ nbVars)
      (hr : CompileOk Phi opt Sol N (({ s with fringe := rest, firstActive := fa }).afterPop N).bestLb r)
      (hx : CompileOk Phi opt Sol N
        ((({ s with fringe := rest, firstActive := fa }).afterPop N).updateBest r).bestLb x)
      (hcut : x.isExact = false → CutsetOk Phi opt N
        ((({ s with fringe := rest, firstActive := fa }).afterPop N).updateBest r).bestLb x) :
      GoodStep nbVars dedup s
        ((({ s with fringe := rest, firstActive := fa }).afterPop N).process dedup N true (.ok r) (.ok x)).1

theorem GoodStep.step {nbVars : Nat} {dedup : Bool} {s t : SeqSt S}
    (h : GoodStep Phi opt Sol nbVars dedup s t) : Step nbVars dedup s t := by
  cases h with
  | pop N rest fa r x hpop hprog _ _ _ =>
    exact Step.pop s N rest fa true (.ok r) (.ok x) hpop
      (fun o ho => by injection ho with ho; subst ho; exact hprog)

theorem goodStep_inv (hmono : PhiMono Phi) {nbVars : Nat} {dedup : Bool} {s t : SeqSt S}
    (h : GoodStep Phi opt Sol nbVars dedup s t) (hinv : Inv Phi opt Sol s.fringe s.bestLb s.bestSol) :
    Inv Phi opt Sol t.fringe t.bestLb t.bestSol := by
  cases h with
  | pop N rest fa r x hpop _ hr hx hcut =>
    refine C01b.process_inv_any Phi opt Sol dedup hmono _ N r x ?_ hr hx hcut
    rw [afterPop_fringe, (afterPop_lb_sol _ N).1, (afterPop_lb_sol _ N).2]
    exact inv_of_mem Phi opt Sol (fun c hc => hpop.mem_iff.mpr hc) (fun c hc => hpop.mem_iff.mp hc) hinv

inductive Run (nbVars : Nat) (dedup : Bool) : SeqSt S → SeqSt S → Prop
  | refl (s : SeqSt S) : Run nbVars dedup s s
  | tail {s t u : SeqSt S} : Run nbVars dedup s t → GoodStep Phi opt Sol nbVars dedup t u → Run nbVars dedup s u

theorem run_inv (hmono : PhiMono Phi) {nbVars : Nat} {dedup : Bool} {s t : SeqSt S}
    (h : Run Phi opt Sol nbVars dedup s t) (hinv : Inv Phi opt Sol s.fringe s.bestLb s.bestSol) :
    Inv Phi opt Sol t.fringe t.bestLb t.bestSol := by
  induction h with
  | refl => exact hinv
  | tail _ hstep ih => exact goodStep_inv Phi opt Sol hmono hstep ih

/-- **partial correctness**: a run that started under the invariant and reached the empty fringe
    (`get_workload` answers `Complete`) holds the optimum and a feasible solution of that value -/
theorem run_end_optimal (hmono : PhiMono Phi) {nbVars : Nat} {dedup : Bool} {s t : SeqSt S}
    (h : Run Phi opt Sol nbVars dedup s t) (hinv : Inv Phi opt Sol s.fringe s.bestLb s.bestSol)
    (hend : t.fringe = []) : t.bestLb = opt ∧ ∀ p, t.bestSol = some p → Sol p opt := by
  have := run_inv Phi opt Sol hmono h hinv
  rw [hend] at this
  exact C01.complete_optimal Phi opt Sol t.bestLb t.bestSol this

/-- **termination** of the contract-abiding loop -/
theorem good_terminates (nbVars : Nat) (dedup : Bool) :
    WellFounded (fun t s : SeqSt S => GoodStep Phi opt Sol nbVars dedup s t) :=
  Subrelation.wf (fun {_ _} h => h.step) (seq_terminates nbVars dedup)

end

end Ddo.C01t
