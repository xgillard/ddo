import DdoModel.Proofs.ParCover
import DdoModel.ParSolver
/-! # C03 — the parallel solver returns the optimum for every interleaving and thread count

`ParCover` is the data-level transition system of the parallel solver: the shared state is the fringe,
the incumbent and the multiset of nodes *held* by workers, each with what its worker knows about it
(`Stage`: which stale `best_lb` it read before which compilation, what that compilation answered).
One `Step` per critical section / lock-free compilation of `parallel.rs` (`pop`, `clear` — the
"top ub ≤ lb ⇒ clear the fringe" branch —, `readR`, `skip`, `compileR`, `updateR`, `readX`,
`compileX`, `updateX`, `enqueue`), any number of workers (the held list is unbounded), every
interleaving (induction over `Step`).  Compilations are constrained by exactly the diagram contracts
(`CompileOk`, `CutsetOk` = C06–C08), instantiated with the *stale* incumbent the worker read.

Proved: the coverage invariant `PInv` — if the optimum beats the incumbent, some node in the fringe
or held by a worker still has the optimum as its potential, with a valid bound, and every held
entry's knowledge is consistent with the current incumbent (`StageOk`) — is preserved by every step
of every worker in every order (`par_cover`), and when nothing is open and nothing is held the
incumbent is the optimum (`par_correct`).  No cache, no dominance store, no cutoff.
The executable model `ParSolver.lean` (validated against the real solver trace by trace under the
controlled scheduler) has the same sections; its sections are the steps of the CONCRETE transition system `ParSys`
(`ParSys.execRun_sound`, `Proofs/ParSysExecSound.lean`), of which `Props/C03b.lean` / `Props/C03c.lean` prove the same — nothing in
Lean relates `ParSys.Step` to the abstract system of this file, which is kept as the statement of record of the argument.
The synchronisation side (no deadlock, completion only when closed) is C04. -/
namespace Ddo.C03
open Ddo.AbsSeq Ddo.ParCover

section
variable (Phi : Nat → EInt) (opt : Int) (Ach : Int → Prop)

/-- **`par_cover`**: every step of every worker, in every order, preserves the coverage invariant -/
theorem par_cover {s t : PSt} (h : Step Phi opt Ach s t) (hi : PInv Phi opt Ach s) : PInv Phi opt Ach t :=
  step_inv Phi opt Ach h hi

/-- any finite schedule -/
inductive Run : PSt → PSt → Prop
  | refl (s : PSt) : Run s s
  | tail {s t u : PSt} : Run s t → Step Phi opt Ach t u → Run s u

theorem run_cover {s t : PSt} (h : Run Phi opt Ach s t) (hi : PInv Phi opt Ach s) : PInv Phi opt Ach t := by
  induction h with
  | refl => exact hi
  | tail _ hst ih => exact par_cover Phi opt Ach hst ih

/-- **`par_correct`**: whatever the schedule, once nothing is open and nothing is held the incumbent is the optimum -/
theorem par_correct {s t : PSt} (h : Run Phi opt Ach s t) (hi : PInv Phi opt Ach s)
    (hf : t.fringe = []) (hh : t.held = []) : t.lb = opt :=
  final Phi opt Ach t (run_cover Phi opt Ach h hi) hf hh

end

/-! The checked link is between the executable sections of `ParSolver.lean` and the CONCRETE system `ParSys`:
    `ParSysExec.lean` / `Proofs/ParSysExecSound.lean` (`exec_sound`, `execRun_sound`); the theorem about the closed system
    is `parallel_solver_correct` (`Props/C03c.lean`). -/

end Ddo.C03
