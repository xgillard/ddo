import DdoModel.Proofs.BuildChain
import DdoModel.Props.C06
/-! # C06, second sentence — a relaxed diagram that declares itself exact is truthful

`Ddo.C06.relaxed_exact_truthful`: a relaxed compilation in isolation (no cache, no dominance checker), width ≥ 1, any
incumbent `lb`; `r` is **either** admissible result of `compile` (the `must` result `.2.1`, or the `may` result `.2.2.1`
that exists when `has_exact_best_path` depends on the hash order).  If `r.isExact = true` and the optimum `o` of the root
sub-problem beats `lb`, then

* `r.bestValue = r.bestExactValue = some o`, and `o` is the value of a complete feasible path `p0 ++ q` of the model
  through the root sub-problem (`Ddo.Truth.TruthfulVal`);
* if moreover `r` is the `must` result, or no merge happened at all (`lel` unset), the reported `bestSol` and `bestExactSol`
  are such a path: `root.path ++ q.reverse` (`Ddo.Truth.Truthful`).

`is_exact()` is `lel.is_none() || has_exact_best_path` (`clean.rs`, `_finalize_exact`):

* `lel.is_none()`: no merge happened; `Ddo.Truth.compile_unsquashed` — the coverage invariant survives un-squashed steps,
  every terminal node is exact.  Only `Potential` + `RubOk` are used (`relaxed_nomerge_truthful`: no `MergeOk`, no `AttMerge`,
  any width).
* `has_exact_best_path`: upper direction = `relaxed_ub` (C06, first sentence: needs `MergeOk`, `AttMerge`, width ≥ 1); lower
  direction = an invariant `Ddo.Truth.G2` of the top-down build: every inbound arc of a node that is **not flagged
  relaxed** is a genuine transition of the model (`ArcGen`: decision in the domain, `trans`, `cost`), from a parent whose
  state belongs to the list handed to `nextVar` (unless the parent is flagged relaxed), and the `best` arc attains the
  node's value.  Hence a best terminal node with `ebpSome` (`ebpAll`) is `Reach`ed with its value by some chain of arg-max
  arcs (by its `best` chain): `Ddo.Truth.ebpSome_reach` / `ebpAll_reach`; a reached complete path is `≤ o` (`reach_le`).

**Finding (model, not implementation)** — `Tie.finding` below, machine-checked: for the `may` result the model's `bestSol` /
`bestExactSol` follow the *model's* resolution of the ties (`best` = the arc appended last among the arg-max arcs), which
need not be the resolution that makes `has_exact_best_path` true.  On the model `Tie.prob 3` (every hypothesis of the theorem
holds, `o = 5`), the `may` result has `isExact = true`, `bestExactValue = some 5` — truthful — but its `bestExactSol`
`[⟨2,0⟩, ⟨1,1⟩, ⟨0,0⟩]` runs through the merged node and is **not** a path of the model (`evalFrom` fails); in the Rust run whose
hash order yields `has_exact_best_path = true` the reported solution is `[⟨2,0⟩, ⟨1,0⟩, ⟨0,0⟩]`.  So the `Truthful` clause
cannot be proved for the `may` result, and a checker must not replay the model's `bestExactSol` of a `may` result against
the implementation's `is_exact = true`: paths are validated by replay of the *implementation's* answer, never compared
(DESIGN.md §4), and the model's own answer may even be infeasible. -/
namespace Ddo.C06
open Ddo Ddo.Cover Ddo.Truth

theorem hasEBP_of_isExact {S K : Type} [DecidableEq S] [DecidableEq K] (cfg : Cfg S K) (dd : DD S K) (e : Bool)
    (hl : dd.lel ≠ none) (h : (finalize cfg (finalizeLayers dd) e).1.isExact = true) : e = true := by
  rw [finalize_isExact] at h
  have : (finalizeLayers dd).isExactField = false := by
    show Option.isNone _ = false
    cases hd : dd.lel with
    | none => exact absurd hd hl
    | some _ => rfl
  rw [this] at h
  simpa using h

/-- relative to a validity predicate `V`: `WfRel` as in `relaxed_ub_rel`, `LowRel` = `Potential.le` / `Potential.term` on
    valid states -/
theorem relaxed_exact_truthful_rel {S K : Type} [DecidableEq S] [DecidableEq K]
    (cfg : Cfg S K) (H : Nat → S → EInt) (V : Nat → S → Prop) (B o : Int) (p0 : List Dec)
    (cache : Cache S) (store : DomStore S K) (polls : Nat)
    (hrel : cfg.ctype = .relaxed) (hcache : cfg.useCache = false) (hdom : cfg.dom = none) (hW : 1 ≤ cfg.width)
    (hwf : WfRel cfg.P cfg.R H V) (hL : LowRel cfg.P H V) (hV : V cfg.root.depth cfg.root.state)
    (hB : NoClamp cfg.P cfg.R cfg.root.value B) (hlb : InI cfg.lb)
    (hroot : Reach cfg.P cfg.root.depth cfg.root.state cfg.root.value p0)
    (ho : optOf H cfg.root = some o) (hgt : o > cfg.lb) (hO : o ≤ iMax ∨ cfg.lb < iMax)
    (hok : (compile cfg cache store polls none).1 = .ok) (r : Result S)
    (hr : r = (compile cfg cache store polls none).2.1 ∨ (compile cfg cache store polls none).2.2.1 = some r)
    (hex : r.isExact = true) :
    TruthfulVal cfg p0 o r ∧
    ((r = (compile cfg cache store polls none).2.1 ∨ (compile cfg cache store polls none).2.2.2.lel = none) →
      Truthful cfg p0 o r) := by
  by_cases hl : (compile cfg cache store polls none).2.2.2.lel = none
  · have := (compile_unsquashed cfg H V B o p0 cache store polls hcache hdom (WfX.of_rel hwf) hL hV hB hlb hroot ho hgt hO
      hok hl r hr).2
    exact ⟨this.toVal, fun _ => this⟩
  · obtain ⟨hbl, hdd, e, he, hre⟩ := compile_results' cfg cache store polls none hok r hr
    obtain ⟨_, _, hmust⟩ := Ddo.compile_ok cfg cache store polls none hok
    rw [hdd] at hl
    have e2 : (cfg.ctype == CompType.relaxed) = true := by rw [hrel]; decide
    rw [e2] at he hmust
    have hy : Hyp cfg H V B o := ⟨hrel, hcache, hdom, hW, hwf, hB.toDom, clamp_gt hlb hgt hO⟩
    obtain ⟨h1, h2⟩ := ebp_truthful cfg H V B o p0 hy hL hV hB hroot ho cache store polls hbl
    have het : e = true := hasEBP_of_isExact cfg _ e hl (hre ▸ hex)
    refine ⟨?_, fun h => ?_⟩
    · rcases he with he | he
      · rw [hre, het]; exact (h1 (he ▸ het)).toVal
      · rw [hre, het]; exact h2 (he ▸ het)
    · rcases h with h | h
      · rw [h, hmust] at hex
        have hm := hasEBP_of_isExact cfg _ _ hl hex
        rw [h, hmust, hm]
        exact h1 hm
      · rw [hdd] at h; exact absurd h hl

/-- **C06, second sentence**: a relaxed diagram that reports `is_exact()` reports the optimum of the root sub-problem when
    it beats `lb` (either result), with feasible solutions of that value for the `must` result or when no merge happened.
    Hypotheses: those of `relaxed_ub`, and a reachable root sub-problem. -/
theorem relaxed_exact_truthful {S K : Type} [DecidableEq S] [DecidableEq K]
    (cfg : Cfg S K) (H : Nat → S → EInt) (B o : Int) (p0 : List Dec)
    (cache : Cache S) (store : DomStore S K) (polls : Nat)
    (hrel : cfg.ctype = .relaxed) (hcache : cfg.useCache = false) (hdom : cfg.dom = none) (hW : 1 ≤ cfg.width)
    (hP : Potential cfg.P H) (hR : RubOk cfg.R H) (hM : MergeOk cfg.R H) (hAM : AttMerge cfg.P cfg.R H)
    (hB : NoClamp cfg.P cfg.R cfg.root.value B) (hlb : InI cfg.lb)
    (hroot : Reach cfg.P cfg.root.depth cfg.root.state cfg.root.value p0)
    (ho : optOf H cfg.root = some o) (hgt : o > cfg.lb) (hO : o ≤ iMax ∨ cfg.lb < iMax)
    (hok : (compile cfg cache store polls none).1 = .ok) (r : Result S)
    (hr : r = (compile cfg cache store polls none).2.1 ∨ (compile cfg cache store polls none).2.2.1 = some r)
    (hex : r.isExact = true) :
    TruthfulVal cfg p0 o r ∧
    ((r = (compile cfg cache store polls none).2.1 ∨ (compile cfg cache store polls none).2.2.2.lel = none) →
      Truthful cfg p0 o r) :=
  relaxed_exact_truthful_rel cfg H (fun _ _ => True) B o p0 cache store polls hrel hcache hdom hW
    (wfRel_of_global hP hR hM hAM) (lowRel_of_potential hP) trivial hB hlb hroot ho hgt hO hok r hr hex

theorem relaxed_exact_value {S K : Type} [DecidableEq S] [DecidableEq K]
    (cfg : Cfg S K) (H : Nat → S → EInt) (B o : Int) (p0 : List Dec)
    (cache : Cache S) (store : DomStore S K) (polls : Nat)
    (hrel : cfg.ctype = .relaxed) (hcache : cfg.useCache = false) (hdom : cfg.dom = none) (hW : 1 ≤ cfg.width)
    (hP : Potential cfg.P H) (hR : RubOk cfg.R H) (hM : MergeOk cfg.R H) (hAM : AttMerge cfg.P cfg.R H)
    (hB : NoClamp cfg.P cfg.R cfg.root.value B) (hlb : InI cfg.lb)
    (hroot : Reach cfg.P cfg.root.depth cfg.root.state cfg.root.value p0)
    (ho : optOf H cfg.root = some o) (hgt : o > cfg.lb) (hO : o ≤ iMax ∨ cfg.lb < iMax)
    (hok : (compile cfg cache store polls none).1 = .ok) (r : Result S)
    (hr : r = (compile cfg cache store polls none).2.1 ∨ (compile cfg cache store polls none).2.2.1 = some r)
    (hex : r.isExact = true) : r.bestExactValue = some o ∧ r.bestValue = some o :=
  have h := (relaxed_exact_truthful cfg H B o p0 cache store polls hrel hcache hdom hW hP hR hM hAM hB hlb hroot ho hgt hO
    hok r hr hex).1
  ⟨h.bestExactValue, h.bestValue⟩

theorem relaxed_exact_solution {S K : Type} [DecidableEq S] [DecidableEq K]
    (cfg : Cfg S K) (H : Nat → S → EInt) (B o : Int) (p0 : List Dec)
    (cache : Cache S) (store : DomStore S K) (polls : Nat)
    (hrel : cfg.ctype = .relaxed) (hcache : cfg.useCache = false) (hdom : cfg.dom = none) (hW : 1 ≤ cfg.width)
    (hP : Potential cfg.P H) (hR : RubOk cfg.R H) (hM : MergeOk cfg.R H) (hAM : AttMerge cfg.P cfg.R H)
    (hB : NoClamp cfg.P cfg.R cfg.root.value B) (hlb : InI cfg.lb)
    (hroot : Reach cfg.P cfg.root.depth cfg.root.state cfg.root.value p0)
    (ho : optOf H cfg.root = some o) (hgt : o > cfg.lb) (hO : o ≤ iMax ∨ cfg.lb < iMax)
    (hok : (compile cfg cache store polls none).1 = .ok)
    (hex : (compile cfg cache store polls none).2.1.isExact = true) :
    ∃ (k : Nat) (s : S) (q : List Dec) (L : List S),
      Reach cfg.P k s o (p0 ++ q) ∧ s ∈ L ∧ cfg.P.nextVar k L = none ∧
      (compile cfg cache store polls none).2.1.bestExactSol = some (cfg.root.path ++ q.reverse) :=
  ((relaxed_exact_truthful cfg H B o p0 cache store polls hrel hcache hdom hW hP hR hM hAM hB hlb hroot ho hgt hO
    hok _ (.inl rfl) hex).2 (.inl rfl)).exactSol

theorem relaxed_nomerge_truthful {S K : Type} [DecidableEq S] [DecidableEq K]
    (cfg : Cfg S K) (H : Nat → S → EInt) (B o : Int) (p0 : List Dec)
    (cache : Cache S) (store : DomStore S K) (polls : Nat)
    (hcache : cfg.useCache = false) (hdom : cfg.dom = none)
    (hP : Potential cfg.P H) (hR : RubOk cfg.R H)
    (hB : NoClamp cfg.P cfg.R cfg.root.value B) (hlb : InI cfg.lb)
    (hroot : Reach cfg.P cfg.root.depth cfg.root.state cfg.root.value p0)
    (ho : optOf H cfg.root = some o) (hgt : o > cfg.lb) (hO : o ≤ iMax ∨ cfg.lb < iMax)
    (hok : (compile cfg cache store polls none).1 = .ok)
    (hlel : (compile cfg cache store polls none).2.2.2.lel = none) (r : Result S)
    (hr : r = (compile cfg cache store polls none).2.1 ∨ (compile cfg cache store polls none).2.2.1 = some r) :
    r.isExact = true ∧ Truthful cfg p0 o r :=
  compile_unsquashed cfg H (fun _ _ => True) B o p0 cache store polls hcache hdom (wfX_of_potential hP hR)
    (lowRel_of_potential hP) trivial hB hlb hroot ho hgt hO hok hlel r hr

namespace Tiny

/-- non-vacuity: the tiny model of `Props/C06.lean` with width 2: a merge happens (`lel = some 1`) and the best path is exact -/
def cfg2 : Cfg Int Unit := { cfg with width := 2 }

/-- the run of `compile cfg2`, evaluated once -/
theorem run2 :
    (compile cfg2 (Cache.init 3) (DomStore.init 3) 0 none).1 = .ok ∧
    (compile cfg2 (Cache.init 3) (DomStore.init 3) 0 none).2.2.2.lel = some 1 ∧
    (compile cfg2 (Cache.init 3) (DomStore.init 3) 0 none).2.1.isExact = true := by decide +kernel

example : (compile cfg2 (Cache.init 3) (DomStore.init 3) 0 none).2.2.2.lel = some 1 := run2.2.1

example : (compile cfg2 (Cache.init 3) (DomStore.init 3) 0 none).2.1.bestExactValue = some 3 ∧
    (compile cfg2 (Cache.init 3) (DomStore.init 3) 0 none).2.1.bestValue = some 3 :=
  relaxed_exact_value cfg2 H 1 3 [] (Cache.init 3) (DomStore.init 3) 0 rfl rfl rfl (by decide)
    potential rubOk mergeOk (attMerge_of_static potential (fun _ _ _ _ _ => rfl)) noClamp (by decide) .root rfl (by decide)
    (Or.inl (by decide)) run2.1 _ (.inl rfl) run2.2.2

/-- with width 1 the same compilation merges the best path away and says so: `is_exact = false` -/
example : (compile cfg (Cache.init 3) (DomStore.init 3) 0 none).2.1.isExact = false := by decide +kernel

end Tiny

namespace Tie

def cost1 (a v : Int) : Int := if v = 0 then 5 else if v = 1 then a else if v = 2 then 1 else 0
def cost2 (s : Int) : Int := if s = 99 then 2 else if s = 11 ∨ s = 12 then 1 else 0

/-- `0 ≤ a ≤ 3`, width 2: the states 11 and 12 of the third layer are merged into 99; the best terminal node (state 100) is
    not flagged exact and has an arc from the exact node 10 (value 5) and one from the merged node (value `a + 2`) -/
def prob (a : Int) : Problem Int :=
  { nbVars := 3, init := 0, initVal := 0,
    trans := fun _ d => if d.var = 0 then 1 else if d.var = 1 then 10 + d.val else (if d.val = 0 then 100 else 101),
    cost := fun s _ d => if d.var = 0 then 0 else if d.var = 1 then cost1 a d.val else cost2 s,
    nextVar := fun k _ => if k < 3 then some k else none,
    domain := fun x s => if x = 0 then [0] else if x = 1 then [0, 1, 2] else (if s = 11 ∨ s = 12 then [1] else [0]),
    impacted := fun _ _ => true }

def rlx : Relax Int := { merge := fun _ => 99, relax := fun _ _ _ _ c => c, rub := fun _ => 10 }

def cfg (a : Int) : Cfg Int Unit :=
  { P := prob a, R := rlx, rank := ⟨fun a b => icmp a b⟩, dom := none, useCache := false, kind := .lel,
    ctype := .relaxed, width := 2, root := ⟨0, 0, [], iMax, 0⟩, lb := 0 }

/-- the true value-to-go -/
def H (k : Nat) (s : Int) : EInt := if k < 2 then some 5 else if k = 2 then some (cost2 s) else some 0

theorem cost1_le {a : Int} (ha : 0 ≤ a ∧ a ≤ 3) (v : Int) : 0 ≤ cost1 a v ∧ cost1 a v ≤ 5 := by
  unfold cost1; split <;> (try split) <;> (try split) <;> omega
theorem cost2_le (s : Int) : 0 ≤ cost2 s ∧ cost2 s ≤ 2 := by unfold cost2; split <;> (try split) <;> omega

theorem nv_some {a : Int} {k : Nat} {L : List Int} {x : Nat} (h : (prob a).nextVar k L = some x) : k < 3 ∧ x = k := by
  simp only [prob] at h
  split at h
  · next hk => cases h; exact ⟨hk, rfl⟩
  · cases h

theorem potential {a : Int} (ha : 0 ≤ a ∧ a ≤ 3) : Potential (prob a) H := by
  constructor
  · intro k L x s h hnv _ hH
    obtain ⟨hk, rfl⟩ := nv_some hnv
    have hk' : x = 0 ∨ x = 1 ∨ x = 2 := by omega
    rcases hk' with rfl | rfl | rfl
    · cases (Option.some.inj hH : (5 : Int) = h)
      exact ⟨0, List.mem_singleton.2 rfl, 5, rfl, Int.le_refl _⟩
    · cases (Option.some.inj hH : (5 : Int) = h)
      exact ⟨0, List.mem_cons_self, 0, rfl, Int.le_refl _⟩
    · cases (Option.some.inj hH : cost2 s = h)
      by_cases hs : s = 11 ∨ s = 12
      · refine ⟨1, ?_, 0, rfl, Int.le_of_eq (Int.add_zero _).symm⟩
        show 1 ∈ (if s = 11 ∨ s = 12 then [1] else [0])
        rw [if_pos hs]; exact List.mem_singleton.2 rfl
      · refine ⟨0, ?_, 0, rfl, Int.le_of_eq (Int.add_zero _).symm⟩
        show 0 ∈ (if s = 11 ∨ s = 12 then [1] else [0])
        rw [if_neg hs]; exact List.mem_singleton.2 rfl
  · intro k L x s v p d _ hnv _ hd
    obtain ⟨hk, rfl⟩ := nv_some hnv
    have hk' : x = 0 ∨ x = 1 ∨ x = 2 := by omega
    rcases hk' with rfl | rfl | rfl
    · exact Int.le_refl _
    · show (cost2 (10 + d) + cost1 a d : Int) ≤ 5
      have hd' : d = 0 ∨ d = 1 ∨ d = 2 :=
        (List.mem_cons.1 hd).imp id (fun h => (List.mem_cons.1 h).imp id List.mem_singleton.1)
      rcases hd' with rfl | rfl | rfl
      · exact Int.le_refl _
      · show (1 + a : Int) ≤ 5; omega
      · show (1 + 1 : Int) ≤ 5; decide
    · show (0 + cost2 s : Int) ≤ cost2 s
      omega
  · intro k L s hnv _
    have hk : ¬ k < 3 := fun h => by
      rw [show (prob a).nextVar k L = if k < 3 then some k else none from rfl, if_pos h] at hnv
      cases hnv
    show (if k < 2 then some 5 else if k = 2 then some (cost2 s) else some 0 : EInt) = some 0
    rw [if_neg (by omega), if_neg (by omega)]

theorem rubOk : RubOk rlx H := by
  intro k s h hH
  have := cost2_le s
  simp only [H] at hH
  split at hH
  · simp only [Option.some.injEq] at hH; simp only [rlx]; omega
  · split at hH <;> (simp only [Option.some.injEq] at hH; simp only [rlx]; omega)

theorem mergeOk : MergeOk rlx H := by
  intro k X u src d c h _ hH
  have := cost2_le u
  simp only [H] at hH ⊢
  split at hH
  · next hk => simp only [Option.some.injEq] at hH; exact ⟨5, by simp [hk], by simp only [rlx]; omega⟩
  · next hk =>
    split at hH
    · next hk2 =>
      simp only [Option.some.injEq] at hH
      exact ⟨2, by simp [hk2, rlx, cost2], by simp only [rlx]; omega⟩
    · next hk2 =>
      simp only [Option.some.injEq] at hH
      exact ⟨0, by simp [hk, hk2], by simp only [rlx]; omega⟩

theorem noClamp {a : Int} (ha : 0 ≤ a ∧ a ≤ 3) : NoClamp (prob a) rlx (cfg a).root.value 5 := by
  constructor
  · decide
  · show -5 ≤ (0 : Int) ∧ (0 : Int) ≤ 5; decide
  · intro s s' d
    have := cost1_le ha d.val
    have := cost2_le s
    simp only [prob]
    split
    · omega
    · split <;> omega
  · intro s u m d c hc; exact hc
  · show (((3 : Nat) : Int) + 2) * 5 ≤ 4611686018427387904; decide

theorem attMerge {a : Int} (ha : 0 ≤ a ∧ a ≤ 3) : AttMerge (prob a) rlx H :=
  attMerge_of_static (potential ha) (fun _ _ _ _ _ => rfl)

/-- the run of `compile (cfg 2)`, evaluated once -/
theorem run_2 :
    (compile (cfg 2) (Cache.init 3) (DomStore.init 3) 0 none).1 = .ok ∧
    (compile (cfg 2) (Cache.init 3) (DomStore.init 3) 0 none).2.2.2.lel = some 1 ∧
    (compile (cfg 2) (Cache.init 3) (DomStore.init 3) 0 none).2.2.2.next.all (fun n => !n.isExact) = true ∧
    (compile (cfg 2) (Cache.init 3) (DomStore.init 3) 0 none).2.1.isExact = true ∧
    (compile (cfg 2) (Cache.init 3) (DomStore.init 3) 0 none).2.1.bestExactSol = some [⟨2, 0⟩, ⟨1, 0⟩, ⟨0, 0⟩] := by
  decide +kernel

/-- `a = 2` (the arc from the merged node loses, 4 < 5): non-vacuity of the `has_exact_best_path` case on a terminal node
    that is not flagged exact; the `must` result declares itself exact, and `relaxed_exact_solution` applies -/
theorem must_example :
    (compile (cfg 2) (Cache.init 3) (DomStore.init 3) 0 none).2.2.2.lel = some 1 ∧
    (compile (cfg 2) (Cache.init 3) (DomStore.init 3) 0 none).2.2.2.next.all (fun n => !n.isExact) = true ∧
    (compile (cfg 2) (Cache.init 3) (DomStore.init 3) 0 none).2.1.isExact = true ∧
    (compile (cfg 2) (Cache.init 3) (DomStore.init 3) 0 none).2.1.bestExactSol = some [⟨2, 0⟩, ⟨1, 0⟩, ⟨0, 0⟩] ∧
    ∃ (k : Nat) (s : Int) (q : List Dec) (L : List Int),
      Reach (prob 2) k s 5 ([] ++ q) ∧ s ∈ L ∧ (prob 2).nextVar k L = none ∧
      (compile (cfg 2) (Cache.init 3) (DomStore.init 3) 0 none).2.1.bestExactSol = some ((cfg 2).root.path ++ q.reverse) :=
  ⟨run_2.2.1, run_2.2.2.1, run_2.2.2.2.1, run_2.2.2.2.2,
   relaxed_exact_solution (cfg 2) H 5 5 [] (Cache.init 3) (DomStore.init 3) 0 rfl rfl rfl (by decide)
    (potential (by decide)) rubOk mergeOk (attMerge (by decide)) (noClamp (by decide)) (by decide) .root rfl (by decide)
    (Or.inl (by decide)) run_2.1 run_2.2.2.2.1⟩

/-- **the finding**, `a = 3` (the two arcs tie, 5 = 5: `must` fails, `may` holds): every hypothesis of
    `relaxed_exact_truthful` holds with `o = 5 > lb = 0`; the `may` result declares itself exact, reports the optimum — and a
    `bestExactSol` whose replay fails: decision `⟨2, 0⟩` is not in the domain of variable 2 in state 11 (the path runs through
    the merged node).  The replay of the path through the exact node (the one the implementation reports when its hash
    order gives `has_exact_best_path = true`) succeeds with value 5. -/
theorem finding :
    (cfg 3).ctype = .relaxed ∧ (cfg 3).useCache = false ∧ (cfg 3).dom = none ∧ 1 ≤ (cfg 3).width ∧
    Potential (cfg 3).P H ∧ RubOk (cfg 3).R H ∧ MergeOk (cfg 3).R H ∧ AttMerge (cfg 3).P (cfg 3).R H ∧
    NoClamp (cfg 3).P (cfg 3).R (cfg 3).root.value 5 ∧ InI (cfg 3).lb ∧
    Reach (cfg 3).P (cfg 3).root.depth (cfg 3).root.state (cfg 3).root.value [] ∧ optOf H (cfg 3).root = some 5 ∧
    5 > (cfg 3).lb ∧
    (compile (cfg 3) (Cache.init 3) (DomStore.init 3) 0 none).1 = .ok ∧
    (compile (cfg 3) (Cache.init 3) (DomStore.init 3) 0 none).2.1.isExact = false ∧
    (compile (cfg 3) (Cache.init 3) (DomStore.init 3) 0 none).2.2.1.map (·.isExact) = some true ∧
    (compile (cfg 3) (Cache.init 3) (DomStore.init 3) 0 none).2.2.1.map (·.bestExactValue) = some (some 5) ∧
    (compile (cfg 3) (Cache.init 3) (DomStore.init 3) 0 none).2.2.1.map (·.bestExactSol) =
      some (some [⟨2, 0⟩, ⟨1, 1⟩, ⟨0, 0⟩]) ∧
    evalFrom (prob 3) 0 0 0 [⟨0, 0⟩, ⟨1, 1⟩, ⟨2, 0⟩] = none ∧
    evalFrom (prob 3) 0 0 0 [⟨0, 0⟩, ⟨1, 0⟩, ⟨2, 0⟩] = some (100, 5, 3) :=
  ⟨rfl, rfl, rfl, by decide, potential (by decide), rubOk, mergeOk, attMerge (by decide), noClamp (by decide), by decide,
   .root, rfl, by decide, by decide +kernel⟩   -- the last seven conjuncts: one evaluation of the compilation, two replays

/-- the value clause of the theorem applies to the `may` result of that compilation -/
example (r : Result Int) (hr : (compile (cfg 3) (Cache.init 3) (DomStore.init 3) 0 none).2.2.1 = some r)
    (hex : r.isExact = true) : r.bestExactValue = some 5 ∧ r.bestValue = some 5 :=
  relaxed_exact_value (cfg 3) H 5 5 [] (Cache.init 3) (DomStore.init 3) 0 rfl rfl rfl (by decide)
    (potential (by decide)) rubOk mergeOk (attMerge (by decide)) (noClamp (by decide)) (by decide) .root rfl (by decide)
    (Or.inl (by decide)) finding.2.2.2.2.2.2.2.2.2.2.2.2.2.1 r (.inr hr) hex   -- the conjunct `(compile …).1 = .ok`

end Tie

end Ddo.C06

#print axioms Ddo.C06.relaxed_exact_truthful_rel
#print axioms Ddo.C06.relaxed_exact_truthful
#print axioms Ddo.C06.relaxed_exact_value
#print axioms Ddo.C06.relaxed_exact_solution
#print axioms Ddo.C06.relaxed_nomerge_truthful
#print axioms Ddo.C06.Tie.finding
#print axioms Ddo.C06.Tie.must_example
