import DdoModel.Proofs.PooledProtocol
import DdoModel.Props.C12b
/-! # C12 over whole compilations of the pooled diagram — the callback protocol as a theorem

`ProtocolOkP P R rootDepth log` (`Proofs/PooledProtocol.lean`) is the protocol of `Pooled<T>` as a predicate on the
chronological log of one compilation; `buildLoopP_protocol` / `compileP_protocol` prove it for **every** compilation of
the model `DdoModel/Pooled.lean` (any problem, relaxation, ranking, compilation type, width, cache, dominance rule,
cutoff, fuel).  No hypothesis.

The log is a sequence of layer blocks (`BlocksP`).  Block `j`
* opens with `next_variable (rootDepth + j, pool states)` (`nextVar_depths_pooled`), answer recorded faithfully;
* if the compilation goes on, continues with **one `is_impacted_by (var, s)` call per pool state `s`**, in pool order, for
  the variable `var` just selected — these are the only `is_impacted_by` calls (`protocolOkP_impacted`);
* then the body (`BodyOkP`, every call judged against its predecessors in the body by `CallOkP`): `fast_upper_bound`,
  `for_each_in_domain`, `transition`, `transition_cost` only for `var` and only on **states of the layer = pool states
  impacted by `var`** (or the state `merge` returned in this block) (`InLayerP`), `dst = transition (src, d)`,
  `d ∈ domain`, `transition` after the domain enumeration of its state, `transition_cost` right after its `transition`;
  `merge` — first call of the body, hence at most one per block — over at least two impacted pool states; every `relax`
  after the `merge` that produced its `merged` argument, with `dst` among the merged states, and for an **available arc**
  (`ArcAvail`).

**Differences with the clean protocol (`Ddo.C12.ProtocolOk`).**
1. `is_impacted_by` calls exist (`CallOk` forbids them), exactly as described above.
2. "States of the layer" are the *impacted* pool states, not all the states handed to `next_variable`.
3. `relax (src, dst, merged, d, c)`: in `Mdd` the arc `(src, dst, d, c)` was created by the *previous* block.  In
   `Pooled` it was created by *some* earlier block `j'`, and `dst` was in the pool of, and not impacted by the variable
   of, every block strictly between `j'` and the current one (`ArcAvail`, `arcAvail_iff`): a long arc.  `WitnessP`
   shows a `relax` call on an arc created two blocks earlier.
4. `StatesOkP`: a pool state handed to `next_variable` is the destination of a `transition_cost` call of the previous
   block **or** a pool state of the previous block not impacted by its variable (in `Mdd`: always the former).
5. `BlocksP.cut`: a compilation may stop right after a `next_variable` call that answered `some var` (cutoff, empty pool,
   crash) — no `is_impacted_by` call then (in `Mdd` this is a `block` with an empty body).
The depth clause is unchanged: block `j` is at depth `rootDepth + j` whether or not it materialises a layer. -/
set_option linter.unusedSectionVars false
set_option linter.unusedVariables false
namespace Ddo.C12
open Ddo Ddo.Pooled
variable {S K : Type} [DecidableEq S] [DecidableEq K]

/-- **C12 (whole compilation, pooled diagram), loop form.** -/
theorem buildLoopP_protocol (cfg : Cfg S K) (cache : Cache S) (store : DomStore S K) (polls : Nat)
    (stopAt : Option Nat) (fuel : Nat) :
    ProtocolOkP cfg.P cfg.R cfg.root.depth
      (buildLoopP cfg stopAt fuel (initPD cfg cache store polls)).1.log.reverse := by
  obtain ⟨tail, h1, h2, _⟩ := buildLoopP_blocks cfg stopAt fuel _ [] (initPD_loopInvP cfg cache store polls)
  rw [h1]
  exact h2

/-- the first call of a pooled compilation is `next_variable` on the root state alone, at the root depth -/
theorem buildLoopP_first_call (cfg : Cfg S K) (cache : Cache S) (store : DomStore S K) (polls : Nat)
    (stopAt : Option Nat) (fuel : Nat) :
    ∃ ans rest, (buildLoopP cfg stopAt (fuel + 1) (initPD cfg cache store polls)).1.log.reverse =
      Call.nextVar cfg.root.depth [cfg.root.state] ans :: rest := by
  obtain ⟨tail, h1, _, h3⟩ := buildLoopP_blocks cfg stopAt (fuel + 1) _ [] (initPD_loopInvP cfg cache store polls)
  obtain ⟨ans, rest, h4⟩ := h3 (Nat.succ_ne_zero _)
  exact ⟨ans, rest, by rw [h1, h4]; rfl⟩

/-- **C12 (whole compilation, pooled diagram).**  The chronological log of `compileP` — whatever its outcome —
    satisfies the pooled callback protocol. -/
theorem compileP_protocol (cfg : Cfg S K) (cache : Cache S) (store : DomStore S K) (polls : Nat) (stopAt : Option Nat) :
    ProtocolOkP cfg.P cfg.R cfg.root.depth (compileP cfg cache store polls stopAt).2.2.2.log.reverse := by
  rw [compileP_pd]
  exact buildLoopP_protocol cfg cache store polls stopAt _

theorem bodyOkP_iff (P : Problem S) (R : Relax S) (var : Nat) (states : List S) (prevs : List (Blk S))
    (body : List (Call S)) :
    BodyOkP P R var states prevs body ↔
      ∀ pre c post, body = pre ++ c :: post → CallOkP P R var states prevs pre c := by
  unfold BodyOkP LogOk
  simp only [List.nil_append]

theorem bodyOkP_mem {P : Problem S} {R : Relax S} {var : Nat} {states : List S} {prevs : List (Blk S)}
    {body : List (Call S)} (h : BodyOkP P R var states prevs body) {c : Call S} (hc : c ∈ body) :
    ∃ pre post, body = pre ++ c :: post ∧ CallOkP P R var states prevs pre c := by
  obtain ⟨pre, post, hb, hq⟩ := LogOk.mem h hc
  exact ⟨pre, post, hb, by rwa [List.nil_append] at hq⟩

/-- an available arc, unfolded: it was created by an earlier block `b` (`ArcFrom`), and its destination was in the pool
    of, and not impacted by the variable of, every block `b'` more recent than `b` -/
theorem arcAvail_iff (P : Problem S) (prevs : List (Blk S)) (src dst : S) (d : Dec) (c : Int) :
    ArcAvail P prevs src dst d c ↔
      ∃ pre b post, prevs = pre ++ b :: post ∧ ArcFrom P b.2.2 src dst d c ∧
        ∀ b' ∈ pre, dst ∈ b'.2.1 ∧ P.impacted b'.1 dst = false := by
  induction prevs with
  | nil =>
    refine ⟨fun h => False.elim h, ?_⟩
    rintro ⟨pre, b, post, h, _⟩
    cases pre <;> cases h
  | cons b0 more ih =>
    constructor
    · rintro (h | ⟨h1, h2, h3⟩)
      · exact ⟨[], b0, more, rfl, h, fun _ hb => by cases hb⟩
      · obtain ⟨pre, b, post, hp, ha, hs⟩ := ih.1 h3
        refine ⟨b0 :: pre, b, post, by rw [hp]; rfl, ha, fun b' hb' => ?_⟩
        rcases List.mem_cons.1 hb' with rfl | hb'
        · exact ⟨h1, h2⟩
        · exact hs b' hb'
    · rintro ⟨pre, b, post, hp, ha, hs⟩
      cases pre with
      | nil =>
        simp only [List.nil_append, List.cons.injEq] at hp
        exact .inl (hp.1 ▸ ha)
      | cons b1 pre' =>
        simp only [List.cons_append, List.cons.injEq] at hp
        obtain ⟨rfl, hp⟩ := hp
        exact .inr ⟨(hs _ List.mem_cons_self).1, (hs _ List.mem_cons_self).2,
          ih.2 ⟨pre', b, post, hp, ha, fun b' hb' => hs b' (List.mem_cons_of_mem _ hb')⟩⟩

/-- a non-empty conforming log starts with the `next_variable` call at the root depth, and records its answer -/
theorem protocolOkP_head {P : Problem S} {R : Relax S} {rootDepth : Nat} {c : Call S} {rest : List (Call S)}
    (h : ProtocolOkP P R rootDepth (c :: rest)) :
    ∃ states, c = Call.nextVar rootDepth states (P.nextVar rootDepth states) := by
  unfold ProtocolOkP at h
  generalize hl : c :: rest = log at h
  cases h with
  | done => cases hl
  | last _ _ states hnv _ =>
    simp only [List.cons.injEq] at hl
    exact ⟨states, by rw [hl.1, hnv]⟩
  | cut _ _ states var hnv _ =>
    simp only [List.cons.injEq] at hl
    exact ⟨states, by rw [hl.1, hnv]⟩
  | block _ _ states var body rest' hnv _ _ _ =>
    simp only [List.cons.injEq] at hl
    exact ⟨states, by rw [hl.1, hnv]⟩

theorem nextVarDepths_bodyP {P : Problem S} {R : Relax S} {var : Nat} {states : List S} {prevs : List (Blk S)}
    {body : List (Call S)} (h : BodyOkP P R var states prevs body) : nextVarDepths body = [] := by
  unfold nextVarDepths
  rw [List.filterMap_eq_nil_iff]
  intro c hc
  obtain ⟨pre, post, _, hq⟩ := LogOk.mem h hc
  cases c with
  | nextVar _ _ _ => exact False.elim hq
  | _ => rfl

theorem nextVarDepths_impacted (var : Nat) (states : List S) :
    nextVarDepths (states.map (Call.impacted var)) = [] := by
  unfold nextVarDepths
  rw [List.filterMap_eq_nil_iff]
  intro c hc
  obtain ⟨s, _, rfl⟩ := List.mem_map.1 hc
  rfl

theorem BlocksP.depths {P : Problem S} {R : Relax S} {k : Nat} {prevs : List (Blk S)} {log : List (Call S)}
    (h : BlocksP P R k prevs log) : ∃ n, nextVarDepths log = List.range' k n := by
  induction h with
  | done k prevs => exact ⟨0, rfl⟩
  | last k prevs states _ _ => exact ⟨1, rfl⟩
  | cut k prevs states var _ _ => exact ⟨1, rfl⟩
  | block k prevs states var body rest _ _ hb _ ih =>
    obtain ⟨n, hn⟩ := ih
    refine ⟨n + 1, ?_⟩
    have : nextVarDepths (Call.nextVar k states (some var) :: (states.map (Call.impacted var) ++ (body ++ rest))) =
        k :: (nextVarDepths (states.map (Call.impacted var)) ++ (nextVarDepths body ++ nextVarDepths rest)) := by
      unfold nextVarDepths
      rw [List.filterMap_cons, List.filterMap_append, List.filterMap_append]
    rw [this, nextVarDepths_bodyP hb, nextVarDepths_impacted, hn, List.nil_append, List.nil_append, List.range'_succ]

/-- **the depth clause**: the depths handed to `next_variable` during one pooled compilation are
    `rootDepth, rootDepth + 1, rootDepth + 2, …` — one per loop iteration, whether or not a layer is materialised -/
theorem nextVar_depths_pooled {P : Problem S} {R : Relax S} {rootDepth : Nat} {log : List (Call S)}
    (h : ProtocolOkP P R rootDepth log) : ∃ n, nextVarDepths log = List.range' rootDepth n :=
  BlocksP.depths h

theorem nextVar_depth_at_pooled {P : Problem S} {R : Relax S} {rootDepth : Nat} {log : List (Call S)}
    (h : ProtocolOkP P R rootDepth log) (j d : Nat) (hj : (nextVarDepths log)[j]? = some d) : d = rootDepth + j := by
  obtain ⟨n, hn⟩ := nextVar_depths_pooled h
  rw [hn] at hj
  have hjn : j < n := by
    have := Cover.lt_of_getElem?_some hj
    simpa only [List.length_range'] using this
  rw [List.getElem?_range' hjn] at hj
  simp only [Option.some.injEq] at hj
  omega

/-- every earlier block known to a block of the log is itself part of the log (or of the `prevs` parameter) -/
def PrevsIn (log : List (Call S)) (prevs0 prevs : List (Blk S)) : Prop :=
  ∀ b ∈ prevs, b ∈ prevs0 ∨ ∃ k, Call.nextVar k b.2.1 (some b.1) ∈ log ∧ ∀ x ∈ b.2.2, x ∈ log

theorem BlocksP.mem_cases {P : Problem S} {R : Relax S} {k : Nat} {prevs : List (Blk S)} {log : List (Call S)}
    (h : BlocksP P R k prevs log) {c : Call S} (hc : c ∈ log) :
    (∃ d sts ans, c = Call.nextVar d sts ans) ∨
    ∃ k' var states prevs' body, Call.nextVar k' states (some var) ∈ log ∧ P.nextVar k' states = some var ∧
      BodyOkP P R var states prevs' body ∧ (∀ x ∈ body, x ∈ log) ∧ PrevsIn log prevs prevs' ∧
      ((∃ s ∈ states, c = Call.impacted var s) ∨ c ∈ body) := by
  induction h with
  | done k prevs => cases hc
  | last k prevs states _ _ =>
    rw [List.mem_singleton] at hc
    exact .inl ⟨_, _, _, hc⟩
  | cut k prevs states var _ _ =>
    rw [List.mem_singleton] at hc
    exact .inl ⟨_, _, _, hc⟩
  | block k prevs states var body rest hnv _ hb hrest ih =>
    have himp : ∀ x ∈ states.map (Call.impacted var),
        x ∈ Call.nextVar k states (some var) :: (states.map (Call.impacted var) ++ (body ++ rest)) :=
      fun x hx => List.mem_cons_of_mem _ (List.mem_append_left _ hx)
    have hbody : ∀ x ∈ body, x ∈ Call.nextVar k states (some var) :: (states.map (Call.impacted var) ++ (body ++ rest)) :=
      fun x hx => List.mem_cons_of_mem _ (List.mem_append_right _ (List.mem_append_left _ hx))
    have hrst : ∀ x ∈ rest, x ∈ Call.nextVar k states (some var) :: (states.map (Call.impacted var) ++ (body ++ rest)) :=
      fun x hx => List.mem_cons_of_mem _ (List.mem_append_right _ (List.mem_append_right _ hx))
    have hself : PrevsIn (Call.nextVar k states (some var) :: (states.map (Call.impacted var) ++ (body ++ rest)))
        prevs prevs := fun b hb => .inl hb
    rcases List.mem_cons.1 hc with hc | hc
    · exact .inl ⟨_, _, _, hc⟩
    · rcases List.mem_append.1 hc with hc | hc
      · obtain ⟨s, hs, rfl⟩ := List.mem_map.1 hc
        exact .inr ⟨k, var, states, prevs, body, List.mem_cons_self, hnv, hb, hbody, hself, .inl ⟨s, hs, rfl⟩⟩
      · rcases List.mem_append.1 hc with hc | hc
        · exact .inr ⟨k, var, states, prevs, body, List.mem_cons_self, hnv, hb, hbody, hself, .inr hc⟩
        · rcases ih hc with h1 | ⟨k', var', states', prevs', body', h1, h2, h3, h5, h6, h7⟩
          · exact .inl h1
          · refine .inr ⟨k', var', states', prevs', body', hrst _ h1, h2, h3, fun x hx => hrst x (h5 x hx), ?_, h7⟩
            intro b hbm
            rcases h6 b hbm with h8 | ⟨k'', h8, h9⟩
            · rcases List.mem_cons.1 h8 with rfl | h8
              · exact .inr ⟨k, List.mem_cons_self, hbody⟩
              · exact .inl h8
            · exact .inr ⟨k'', hrst _ h8, fun x hx => hrst x (h9 x hx)⟩

/-- **`is_impacted_by`**: only for the variable just selected by `next_variable`, only on the pool states handed to that
    call -/
theorem protocolOkP_impacted {P : Problem S} {R : Relax S} {rootDepth : Nat} {log : List (Call S)}
    (h : ProtocolOkP P R rootDepth log) {v : Nat} {s : S} (hc : Call.impacted v s ∈ log) :
    ∃ k states, Call.nextVar k states (some v) ∈ log ∧ P.nextVar k states = some v ∧ s ∈ states := by
  rcases BlocksP.mem_cases h hc with ⟨_, _, _, h1⟩ | ⟨k', var, states, prevs', body, h1, h2, h3, _, _, h7⟩
  · cases h1
  · rcases h7 with ⟨s', hs', he⟩ | h7
    · cases he
      exact ⟨k', states, h1, h2, hs'⟩
    · obtain ⟨_, _, _, hq⟩ := bodyOkP_mem h3 h7
      exact False.elim hq

/-- a state of the layer, on the whole log: an impacted pool state, or the result of the `merge` of the block over
    impacted pool states -/
def InLayerLog (P : Problem S) (R : Relax S) (log : List (Call S)) (var : Nat) (states : List S) (s : S) : Prop :=
  (s ∈ states ∧ P.impacted var s = true) ∨
    ∃ sts, Call.merge sts s ∈ log ∧ s = R.merge sts ∧ ∀ u ∈ sts, u ∈ states ∧ P.impacted var u = true

theorem inLayerLog_of {P : Problem S} {R : Relax S} {log : List (Call S)} {var : Nat} {states : List S}
    {prevs : List (Blk S)} {body pre post : List (Call S)} {c : Call S} {s : S}
    (h3 : BodyOkP P R var states prevs body) (h5 : ∀ x ∈ body, x ∈ log) (hb : body = pre ++ c :: post)
    (hin : InLayerP P var states pre s) : InLayerLog P R log var states s := by
  rcases hin with hin | ⟨sts, hm⟩
  · exact .inl hin
  · have hmb : Call.merge sts s ∈ body := by rw [hb]; exact List.mem_append_left _ hm
    obtain ⟨_, _, _, hq⟩ := bodyOkP_mem h3 hmb
    exact .inr ⟨sts, h5 _ hmb, hq.2.1, hq.2.2.2⟩

/-- **`for_each_in_domain`**: only for the variable selected by `next_variable` for the current block, only for states of
    the layer — pool states *impacted by that variable*, or the merged state -/
theorem protocolOkP_domain {P : Problem S} {R : Relax S} {rootDepth : Nat} {log : List (Call S)}
    (h : ProtocolOkP P R rootDepth log) {v : Nat} {s : S} (hc : Call.domain v s ∈ log) :
    ∃ k states, Call.nextVar k states (some v) ∈ log ∧ P.nextVar k states = some v ∧ InLayerLog P R log v states s := by
  rcases BlocksP.mem_cases h hc with ⟨_, _, _, h1⟩ | ⟨k', var, states, prevs', body, h1, h2, h3, h5, _, h7⟩
  · cases h1
  · rcases h7 with ⟨s', _, he⟩ | h7
    · cases he
    · obtain ⟨pre, post, hb, hv, hin⟩ := bodyOkP_mem h3 h7
      subst hv
      exact ⟨k', states, h1, h2, inLayerLog_of h3 h5 hb hin⟩

/-- **`transition_cost`**: `dst = transition (src, d)`, `d` in the domain of its variable at `src`, that variable is the
    one selected for a block of which `src` is a layer state -/
theorem protocolOkP_cost {P : Problem S} {R : Relax S} {rootDepth : Nat} {log : List (Call S)}
    (h : ProtocolOkP P R rootDepth log) {s t : S} {d : Dec} (hc : Call.cost s t d ∈ log) :
    t = P.trans s d ∧ d.val ∈ P.domain d.var s ∧
    ∃ k states, Call.nextVar k states (some d.var) ∈ log ∧ P.nextVar k states = some d.var ∧
      InLayerLog P R log d.var states s := by
  rcases BlocksP.mem_cases h hc with ⟨_, _, _, h1⟩ | ⟨k', var, states, prevs', body, h1, h2, h3, h5, _, h7⟩
  · cases h1
  · rcases h7 with ⟨s', _, he⟩ | h7
    · cases he
    · obtain ⟨pre, post, hb, hv, hd, ht, hin, _⟩ := bodyOkP_mem h3 h7
      exact ⟨ht, hv ▸ hd, k', states, hv ▸ h1, hv ▸ h2, hv ▸ inLayerLog_of h3 h5 hb hin⟩

/-- **`merge`**: over at least two pool states impacted by the variable of the block -/
theorem protocolOkP_merge {P : Problem S} {R : Relax S} {rootDepth : Nat} {log : List (Call S)}
    (h : ProtocolOkP P R rootDepth log) {sts : List S} {res : S} (hc : Call.merge sts res ∈ log) :
    res = R.merge sts ∧ 2 ≤ sts.length ∧
    ∃ k states var, Call.nextVar k states (some var) ∈ log ∧ ∀ u ∈ sts, u ∈ states ∧ P.impacted var u = true := by
  rcases BlocksP.mem_cases h hc with ⟨_, _, _, h1⟩ | ⟨k', var, states, prevs', body, h1, _, h3, _, _, h7⟩
  · cases h1
  · rcases h7 with ⟨s', _, he⟩ | h7
    · cases he
    · obtain ⟨_, _, _, hq⟩ := bodyOkP_mem h3 h7
      exact ⟨hq.2.1, hq.2.2.1, k', states, var, h1, hq.2.2.2⟩

/-- **`relax`**: `merged` is the state returned by an earlier `merge` of the log over at least two states, one of which is
    `dst`; `(src, dst, d, c)` is an arc of the diagram as `branchOn` created it in **some earlier block**:
    `transition_cost (src, dst, d)` was called, `dst = transition (src, d)`, `d ∈ domain`, `c` is the cost of that arc -/
theorem protocolOkP_relax {P : Problem S} {R : Relax S} {rootDepth : Nat} {log : List (Call S)}
    (h : ProtocolOkP P R rootDepth log) {src dst merged : S} {d : Dec} {c : Int}
    (hc : Call.relax src dst merged d c ∈ log) :
    dst = P.trans src d ∧ d.val ∈ P.domain d.var src ∧ c = P.cost src dst d ∧ Call.cost src dst d ∈ log ∧
    ∃ sts, Call.merge sts merged ∈ log ∧ merged = R.merge sts ∧ 2 ≤ sts.length ∧ dst ∈ sts := by
  rcases BlocksP.mem_cases h hc with ⟨_, _, _, h1⟩ | ⟨k', var, states, prevs', body, _, _, h3, h5, h6, h7⟩
  · cases h1
  · rcases h7 with ⟨s', _, he⟩ | h7
    · cases he
    · obtain ⟨pre, post, hb, ⟨sts, hm, hdst⟩, hav⟩ := bodyOkP_mem h3 h7
      have hmb : Call.merge sts merged ∈ body := by rw [hb]; exact List.mem_append_left _ hm
      obtain ⟨_, _, _, hq⟩ := bodyOkP_mem h3 hmb
      obtain ⟨pre', b, post', hp, ⟨ha1, ha2, ha3, ha4⟩, _⟩ := (arcAvail_iff P prevs' src dst d c).1 hav
      have hbm : b ∈ prevs' := by rw [hp]; exact List.mem_append_right _ List.mem_cons_self
      have hbl : ∀ x ∈ b.2.2, x ∈ log := by
        rcases h6 b hbm with h8 | ⟨_, _, h9⟩
        · cases h8
        · exact h9
      exact ⟨ha2, ha3, ha4, hbl _ ha1, sts, h5 _ hmb, hq.2.1, hq.2.2.1, hdst⟩

/-! ## non-vacuity: a relaxed pooled compilation with a long arc that gets relaxed

Three variables, `width = 1`.  Block 0 expands the root (state `0`) into `1, 2, 3`.  State `3` is **not impacted by
variable 1**: block 1 expands `1, 2` into `4, 5` while `3` stays in the pool.  Block 2 merges `3, 4, 5` into `9`: the
`relax` calls concern the arcs `1→4, 2→4, 1→5, 2→5` created in block 1 **and the arc `0→3` created in block 0**. -/
namespace WitnessP

def P : Problem Int :=
  { nbVars := 3, init := 0, initVal := 0, trans := fun _ d => d.val, cost := fun s t _ => s + t,
    nextVar := fun k _ => if k < 3 then some k else none,
    domain := fun v _ => if v = 0 then [1, 2, 3] else if v = 1 then [4, 5] else [6],
    impacted := fun v s => !(v == 1 && s == 3) }
def R : Relax Int := { merge := fun _ => 9, relax := fun _ _ _ _ c => c, rub := fun _ => 100 }
def cfg : Cfg Int Unit :=
  { P := P, R := R, rank := ⟨fun a b => compare a b⟩, dom := none, useCache := false, kind := .frontier,
    ctype := .relaxed, width := 1, root := { state := 0, value := 0, path := [], ub := 100, depth := 0 }, lb := -1 }

/-- a readable code for a call: `(kind, a, b)` -/
def code : Call Int → Int × Int × Int
  | .nextVar k sts _ => (0, k, sts.length)
  | .impacted v s => (1, v, s)
  | .rub s => (2, s, 0)
  | .domain v s => (3, v, s)
  | .trans s d => (4, s, d.val)
  | .cost s t _ => (5, s, t)
  | .merge sts res => (6, sts.length, res)
  | .relax src dst _ _ _ => (7, src, dst)

def log : List (Call Int) := (compileP cfg (Cache.init 3) (DomStore.init 3) 0 none).2.2.2.log.reverse

/-- the theorem applies … -/
example : ProtocolOkP P R 0 log := compileP_protocol cfg (Cache.init 3) (DomStore.init 3) 0 none

/-- … to this log: block 0 `(0,0,1) …`, block 1 `(0,1,3) …` in which `is_impacted_by (1, 3)` is asked but `3` is not
    expanded, block 2 `(0,2,3) …` with the `merge` of three states and the `relax (0, 3, …)` of the long arc -/
example : log.map code =
    [(0, 0, 1), (1, 0, 0), (2, 0, 0), (3, 0, 0), (4, 0, 1), (5, 0, 1), (4, 0, 2), (5, 0, 2), (4, 0, 3), (5, 0, 3),
     (0, 1, 3), (1, 1, 1), (1, 1, 2), (1, 1, 3), (2, 1, 0), (3, 1, 1), (4, 1, 4), (5, 1, 4), (4, 1, 5), (5, 1, 5),
       (2, 2, 0), (3, 1, 2), (4, 2, 4), (5, 2, 4), (4, 2, 5), (5, 2, 5),
     (0, 2, 3), (1, 2, 3), (1, 2, 4), (1, 2, 5), (6, 3, 9), (7, 2, 5), (7, 1, 5), (7, 2, 4), (7, 1, 4), (7, 0, 3),
       (2, 9, 0), (3, 2, 9), (4, 9, 6), (5, 9, 6),
     (0, 3, 1)] := by decide +kernel

end WitnessP

end Ddo.C12

#print axioms Ddo.C12.buildLoopP_protocol
#print axioms Ddo.C12.compileP_protocol
#print axioms Ddo.C12.arcAvail_iff
#print axioms Ddo.C12.nextVar_depth_at_pooled
#print axioms Ddo.C12.protocolOkP_impacted
#print axioms Ddo.C12.protocolOkP_domain
#print axioms Ddo.C12.protocolOkP_cost
#print axioms Ddo.C12.protocolOkP_merge
#print axioms Ddo.C12.protocolOkP_relax
