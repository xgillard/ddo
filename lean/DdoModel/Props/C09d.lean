import DdoModel.Proofs.CappedBridge
import DdoModel.Props.C09c
/-! # C09 / D14 — without the cap of `enqueue_cutset` the caching solver is correct for **every** pop order

The pre-fix solver caps the bound of every cut-set node by the bound of the sub-problem just processed (`enqueue_cutset(ub)`:
`cutset_node.ub = ub.min(cutset_node.ub)`).  With the threshold cache that bound may be valid only "modulo what deeper open
nodes cover", and the capped solver returns the optimum when the fringe is popped best-first but can lose it otherwise
(`anyOrderOpt_false`, `Layered.Counter`: breadth-first pops end with 4, optimum 10; same on the real library, also for the
parallel solver with a delayed worker — finding D14).

The cap is the only obstacle.  The repaired code has none, and `get_workload` keeps the *reported* bound monotone by itself
(`best_ub := min best_ub node.ub` at the pop).  The model (`SeqSt.enqueue`, `SolverCfg.kturn`, `KRunAny`, …) is the repaired
solver; the capped one is the named pre-fix variant (`…Capped`), which differs by the single `min nodeUb ·` of
`SeqSt.enqueueCapped` (`enqueue_eq_capped`, `process_eq_capped`: the repaired code is the capped code run with a cap that
dominates the bounds of the cut-set).  The any-order theorem is the headline `caching_solver_correct` of `Props/C09c.lean`,
for every `WellFormed` model (the bundle of `sequential_solver_correct`, nothing added).

**The invariant** is `KInvSt` of `Proofs/CacheClosedSolver.lean`; its coverage part `CInvC` (`Proofs/SeqCache.lean`) is
depth-stratified.  `Live F T x d` — "the potential `x` is carried at depth `≥ d`": an open sub-problem `c`, `c.depth ≥ d`, with
potential `Φ(c) ≥ x`, bound `c.ub ≥ x`, not refused by `must_explore`.  As long as they beat `best_lb`, `opt` is carried at
depth `≥ 0` (`root`); whatever the cache can prune at `(s, d)` (`v ≤ θ(s, d)`, the rule of `_filter_with_cache`) is carried at
depth `≥ d` (`cache`: *an entry of depth `d` is justified by open witnesses of depth `≥ d`*); and the potential of an open
sub-problem `c` is carried at depth `≥ c.depth` (`open_`) — by `c` itself when its bound is honest, by a not shallower witness
when its bound was computed in a diagram cut by the cache.

One turn (`step_generic`): the diagram of the popped node `N` replaces `N` as a witness by cut-set nodes **strictly deeper**
than `N` (`CompC.cover`, `CompC.deeper`), or by the new incumbent, or — when the cache cut the diagram — by what the cache
covers **strictly deeper** (`CacheCov`, the last alternative of `CompC.theta`, `cover`, `ub`); a witness that the new thresholds
make prunable is replaced in the same way (`CompC.theta`); the transfer lemma `hTr'` is an induction on the depth, deepest
first, so no circular justification can arise.  A cut-set node `c'` handed out with `c'.ub ≥ Φ(c')` (or covered deeper:
`CompC.ub`) is a legitimate witness **iff it is enqueued with that bound** (`hEnq`): with the cap it takes a best-first pop for
`min N.ub c'.ub` still to dominate what `c'` must carry; without the cap nothing of the kind is needed, and `step_generic` /
`processC_inv` have no hypothesis on the pop order.

**Without the cap the bounds of the popped nodes are not monotone, even with best-first pops and without any help of the
cache** (`Layered.Rise`, at the end of the file): keeping them monotone is what the cap was for (C19's monotonicity of the
reported bounds).  The *reported* bound is the running minimum `best_ub := min best_ub node.ub` written at the pop: it never
increases (`bestUb_antitone`) and is valid along best-first runs (`reported_ub_valid`). -/
set_option linter.unusedSectionVars false
set_option linter.unusedVariables false
namespace Ddo.C09
open Ddo Ddo.C01 Ddo.Closed Ddo.Truth
variable {S : Type} [DecidableEq S]

/-- word for word the headline `Ddo.C09.caching_solver_correct`, under a name that says which solver the model is: for every
    well-formed model, every ranking, width function, cut-set kind and either fringe, the sequential solver with the
    threshold cache **whose `enqueue_cutset` does not cap the bounds of the cut-set nodes**, popping the fringe in **any
    order**, terminates, never panics, and at the empty fringe reports `is_exact = true` and **the optimum** with a feasible
    stored solution — or no value iff the problem is infeasible. -/
theorem caching_solver_anyorder_nocap_correct (sv : CSolverCfg S) (H : Nat → S → EInt) (B0 B : Int)
    (hwf : WellFormed sv H B0 B) :
    WellFounded (fun t s : KSt S => KRunAny sv (KSt.init sv) s ∧ KStepAny sv s t) ∧
    (∀ run : Nat → KSt S, run 0 = KSt.init sv → ¬ ∀ n, KStepAny sv (run n) (run (n + 1))) ∧
    ∀ t, KRunAny sv (KSt.init sv) t →
      (∀ N rest, t.st.fringe.Perm (N :: rest) → ∃ u, KStepAny sv t u ∧ sv.kturn t N rest = some u) ∧
      t.st.crashed = false ∧ t.st.abort = false ∧
      (t.st.fringe = [] →
        (∀ opt, (H 0 sv.P.init).addI sv.P.initVal = some opt →
          t.st.bestLb = opt ∧ (∃ p, t.st.bestSol = some p ∧ SolOf sv.P p opt) ∧ t.st.completion = (true, some opt)) ∧
        ((H 0 sv.P.init).addI sv.P.initVal = none → t.st.bestSol = none ∧ t.st.completion = (true, none))) :=
  caching_solver_correct sv H B0 B hwf

/-- **the invariant on the reachable states**, any pop order: what `KInvSt.feas` = `CInvC` says (`lbOk`, `root`, `cache`,
    `open_`), with `Live` unfolded -/
theorem nocap_reachable_invariant (sv : CSolverCfg S) (H : Nat → S → EInt) (B0 B : Int) (hwf : WellFormed sv H B0 B)
    (t : KSt S) (ht : KRunAny sv (KSt.init sv) t) (opt : Int) (hopt : (H 0 sv.P.init).addI sv.P.initVal = some opt) :
    t.st.bestLb ≤ opt ∧
    (opt > t.st.bestLb →
      ∃ c ∈ t.st.fringe, (∃ y, optOf H c = some y ∧ opt ≤ y) ∧ opt ≤ c.ub ∧ ¬ prunM (viewOf t.cache) c) ∧
    (∀ (s : S) (d : Nat) (θ : Thr) (v h : Int), viewOf t.cache s d = some θ → RgB B d v → v ≤ θ.value → H d s = some h →
      v + h > t.st.bestLb →
      ∃ c ∈ t.st.fringe, d ≤ c.depth ∧ (∃ y, optOf H c = some y ∧ v + h ≤ y) ∧ v + h ≤ c.ub ∧ ¬ prunM (viewOf t.cache) c) ∧
    (∀ c ∈ t.st.fringe, ∀ y, optOf H c = some y → y > t.st.bestLb →
      ∃ c' ∈ t.st.fringe, c.depth ≤ c'.depth ∧ (∃ y', optOf H c' = some y' ∧ y ≤ y') ∧ y ≤ c'.ub ∧
        ¬ prunM (viewOf t.cache) c') := by
  have hC := (krunAny_inv hwf ht (init_kinv hwf)).feas opt hopt
  refine ⟨hC.lbOk, fun hgt => ?_, fun s d θ v h hT hrg hv hH hgt => hC.cache s d θ v h hT hrg hv hH hgt,
    fun c hc y hy hgt => hC.open_ c hc y hy hgt⟩
  obtain ⟨c, hc, _, h1, h2, h3⟩ := hC.root hgt
  exact ⟨c, hc, h1, h2, h3⟩

/-- **the bounds of the open sub-problems stay valid**: in every reachable state (any pop order) the optimum is `≤` the
    incumbent or `≤` the bound of some open sub-problem; so with a best-first pop the bound of the popped node is `≥` the
    optimum as long as the incumbent is not optimal.  This is what keeps the running minimum `best_ub` sound
    (`reported_ub_valid`). -/
theorem nocap_bound_valid (sv : CSolverCfg S) (H : Nat → S → EInt) (B0 B : Int) (hwf : WellFormed sv H B0 B)
    (t : KSt S) (ht : KRunAny sv (KSt.init sv) t) (opt : Int) (hopt : (H 0 sv.P.init).addI sv.P.initVal = some opt) :
    (opt ≤ t.st.bestLb ∨ ∃ c ∈ t.st.fringe, opt ≤ c.ub) ∧
    ∀ N rest, t.st.fringe.Perm (N :: rest) → (∀ c ∈ rest, c.ub ≤ N.ub) → opt > t.st.bestLb → opt ≤ N.ub := by
  obtain ⟨_, h2, _, _⟩ := nocap_reachable_invariant sv H B0 B hwf t ht opt hopt
  constructor
  · by_cases hgt : opt > t.st.bestLb
    · obtain ⟨c, hc, _, hu, _⟩ := h2 hgt
      exact Or.inr ⟨c, hc, hu⟩
    · exact Or.inl (by omega)
  · intro N rest hp hmax hgt
    obtain ⟨c, hc, _, hu, _⟩ := h2 hgt
    rcases List.mem_cons.mp (hp.mem_iff.mp hc) with e | e
    · subst e; exact hu
    · have := hmax c e; omega

/-- **the reported `best_ub` never increases**, whatever node is popped: `get_workload` writes `min best_ub node.ub`,
    `process_one_node` never writes `best_ub` (`kturn_bounds`) -/
theorem bestUb_antitone {sv : SolverCfg S} {s t : KSt S} (h : KRunAny sv s t) : t.st.bestUb ≤ s.st.bestUb := by
  induction h with
  | refl => exact Int.le_refl _
  | tail _ hstep ih =>
    cases hstep with
    | pop N rest hpop hturn =>
      have := (kturn_bounds sv _ _ N rest hturn).1
      omega

theorem bestLb_monotone {sv : SolverCfg S} {s t : KSt S} (h : KRunAny sv s t) : s.st.bestLb ≤ t.st.bestLb := by
  induction h with
  | refl => exact Int.le_refl _
  | tail _ hstep ih =>
    cases hstep with
    | pop N rest hpop hturn =>
      have := (kturn_bounds sv _ _ N rest hturn).2
      omega

theorem krun_reported_ub {sv : SolverCfg S} {H : Nat → S → EInt} {B0 B : Int} (hwf : WellFormed sv H B0 B) (opt : Int)
    (hopt : (H 0 sv.P.init).addI sv.P.initVal = some opt) {s t : KSt S} (h : KRun sv s t) (hI : KInvSt sv H B s)
    (h0 : opt ≤ max s.st.bestLb s.st.bestUb) : opt ≤ max t.st.bestLb t.st.bestUb := by
  induction h with
  | refl => exact h0
  | @tail t' u hrun hstep ih =>
    have hI' := krun_inv hwf hrun hI
    cases hstep with
    | pop N rest hpop hmax hturn =>
      obtain ⟨b1, b2⟩ := kturn_bounds sv _ _ N rest hturn
      by_cases hgt : opt > t'.st.bestLb
      · obtain ⟨c, hc, _, _, hu, _⟩ := (hI'.feas opt hopt).root hgt
        have hN : opt ≤ N.ub := by
          rcases List.mem_cons.mp (hpop.mem_iff.mp hc) with e | e
          · subst e; exact hu
          · rcases hmax c e with h | ⟨h, _⟩ <;> omega
        omega
      · omega

/-- along any **best-first** run (`KRun`: the popped node has the largest bound of the fringe — the `MaxUB` order of the
    shipped solvers) of a well-formed feasible model the reported pair brackets the optimum, `best_ub` being the running
    minimum of the bounds of the popped nodes: either the incumbent is already optimal or every popped bound so far dominated
    the optimum (`nocap_bound_valid`). -/
theorem reported_ub_valid (sv : CSolverCfg S) (H : Nat → S → EInt) (B0 B : Int) (hwf : WellFormed sv H B0 B)
    (t : KSt S) (ht : KRun sv (KSt.init sv) t) (opt : Int) (hopt : (H 0 sv.P.init).addI sv.P.initVal = some opt) :
    t.st.bestLb ≤ opt ∧ opt ≤ max t.st.bestLb t.st.bestUb := by
  refine ⟨((krun_inv hwf ht (init_kinv hwf)).feas opt hopt).lbOk, krun_reported_ub hwf opt hopt ht (init_kinv hwf) ?_⟩
  have hb := opt_bound hwf.pot hwf.nv hwf.bound hopt
  have hBs := hwf.bound.B_small
  have e : (KSt.init sv).st.bestUb = iMax := by
    show (SeqSt.init sv.P none sv.dedup).bestUb = iMax
    cases sv.dedup <;> rfl
  rw [e]
  simp only [iMax]
  omega

/-- `AnyOrderOpt` of `Props/C09c.lean` (false for the pre-fix solver, `anyOrderOpt_false`) holds for the solver without the cap -/
theorem anyOrderOptNC_true : AnyOrderOptFixed := anyOrderOptFixed_true

theorem ksolveSched_correct (sv : CSolverCfg S) (H : Nat → S → EInt) (B0 B : Int) (hwf : WellFormed sv H B0 B)
    (sched : List Nat) (hend : (sv.ksolveSched sched (KSt.init sv)).st.fringe = []) :
    (sv.ksolveSched sched (KSt.init sv)).st.crashed = false ∧
    (∀ opt, (H 0 sv.P.init).addI sv.P.initVal = some opt →
      (sv.ksolveSched sched (KSt.init sv)).st.completion = (true, some opt) ∧
      ∃ p, (sv.ksolveSched sched (KSt.init sv)).st.bestSol = some p ∧ SolOf sv.P p opt) ∧
    ((H 0 sv.P.init).addI sv.P.initVal = none → (sv.ksolveSched sched (KSt.init sv)).st.completion = (true, none)) := by
  have hI := krunAny_inv hwf (ksolveSched_run sv sched _) (init_kinv hwf)
  obtain ⟨h1, h2⟩ := kinv_end_correct hwf hI hend
  exact ⟨hI.lay.2, fun opt hopt => ⟨(h1 opt hopt).2.2, (h1 opt hopt).2.1⟩, fun hinf => (h2 hinf).2⟩

/-- the scheduled loop never stops on a panic: `ksolveSched` stops early only on an index that is not in the fringe -/
theorem ksolveSched_no_panic (sv : CSolverCfg S) (H : Nat → S → EInt) (B0 B : Int) (hwf : WellFormed sv H B0 B)
    (s : KSt S) (hI : KInvSt sv H B s) (i : Nat) (N : SubP S) (rest : List (SubP S))
    (hp : popAt s.st.fringe i = some (N, rest)) : sv.kturn s N rest ≠ none := by
  intro hn
  obtain ⟨u, _, hu⟩ := kstepAny_progress hwf hI N rest (popAt_perm _ _ _ _ hp)
  rw [hn] at hu
  cases hu

end Ddo.C09

#print axioms Ddo.process_eq_capped
#print axioms Ddo.C09.cinvC_raise
#print axioms Ddo.C09.compC_raise
#print axioms Ddo.C09.kturn_inv
#print axioms Ddo.C09.kturn_bounds
#print axioms Ddo.C09.kstepAny_inv
#print axioms Ddo.C09.krunAny_inv
#print axioms Ddo.C09.kstepAny_terminates
#print axioms Ddo.C09.caching_solver_correct
#print axioms Ddo.C09.caching_solver_anyorder_nocap_correct
#print axioms Ddo.C09.nocap_reachable_invariant
#print axioms Ddo.C09.nocap_bound_valid
#print axioms Ddo.C09.bestUb_antitone
#print axioms Ddo.C09.bestLb_monotone
#print axioms Ddo.C09.reported_ub_valid
#print axioms Ddo.C09.anyOrderOptNC_true
#print axioms Ddo.C09.anyOrderOptFixed_true
#print axioms Ddo.C09.ksolveSched_correct
#print axioms Ddo.C09.ksolveSched_no_panic
#print axioms Ddo.C09.ksolveLoop_total
#print axioms Ddo.C09.ksolveLoop_computes_opt
