import DdoModel.Props.C05e
import DdoModel.Proofs.ParCacheCutWitness
import DdoModel.Proofs.ParCacheExec
/-! The instances of `Props/C05e.lean`: `AbortBoundOk` is false and the upper bound reported after a cut-off can lie below the optimum (the run
`CutWitness` of `Proofs/ParCacheCutWitness.lean`); non-vacuity of the cut-off theorems on `Trap` with two workers (`Trap2KC`). -/
set_option linter.unusedSectionVars false
set_option linter.unusedVariables false
namespace Ddo.C05e
open Ddo Ddo.Truth Ddo.Closed Ddo.ParSys Ddo.ParClosed Ddo.ParCache Ddo.C09
open Ddo.C01 (SolverCfg WellFormed toOut SolOf)
variable {S : Type} [DecidableEq S]

/-- **`AbortBoundOk` is false** for the well-formed model `CutWitness.sv` and two workers -/
theorem abortBoundOk_false : ¬ AbortBoundOk CutWitness.sv (Layered.H CutWitness.T) 2 := by
  intro h
  obtain ⟨s, i, n, lb, k0, hs, hw, hl, htop, hub⟩ := CutWitness.abort_bound_below_opt
  have := h s hs 6 CutWitness.opt6 i n none ⟨lb, k0, .inl hw⟩ hl htop
  omega

/-- **`parallel_caching_cutoff_ub_false`** — the bound clauses of C05 that mention `best_ub` FAIL for the parallel solver with
    the cache: there are a well-formed model (optimum 6), two workers and a run with ONE cut-off (every cache read fresh) that
    reaches a state with `abort_proof` set and `best_ub = 4 < opt`, one step later `best_ub = 4 < 6 ≤ best_lb`, and **returns**
    (every worker gone, nothing panicked) with `Completion { is_exact: false, best_value: Some(6) }`, `best_lb = 6`,
    `best_ub = 4` -/
theorem parallel_caching_cutoff_ub_false :
    ∃ (sv : SolverCfg Int) (H : Nat → Int → EInt) (B0 B : Int), WellFormed sv H B0 B ∧
      (H 0 sv.P.init).addI sv.P.initVal = some 6 ∧
      (∃ t, KPRunC sv (KSysC.init sv.P sv.dedup 2) t ∧ t.k.crit.base.abort = true ∧ t.k.crit.base.bestUb < 6) ∧
      (∃ t, KPRunC sv (KSysC.init sv.P sv.dedup 2) t ∧ t.k.crit.base.abort = true ∧
        t.k.crit.base.bestUb < t.k.crit.base.bestLb) ∧
      (∃ t, KPRunC sv (KSysC.init sv.P sv.dedup 2) t ∧ AllDone t.k ∧ NoPanic t.k ∧
        t.k.crit.base.completion = (false, some 6) ∧ t.k.crit.base.bestLb = 6 ∧ t.k.crit.base.bestUb = 4) := by
  obtain ⟨s1, s2, h1, h2, a1, u1, _, a2, u2, l2⟩ := CutWitness.cutoff_run
  obtain ⟨t, ht, hd, _, hc, hl, hu⟩ := CutWitness.complete_cutoff_run
  refine ⟨CutWitness.sv, Layered.H CutWitness.T, 5, 40, CutWitness.wellFormed, CutWitness.opt6,
    ⟨s1, h1, a1, by omega⟩, ⟨s2, KRunC.tail h1 h2, a2, by omega⟩,
    ⟨t, ht, hd, (kpC_noPanic CutWitness.wellFormed 2 ht).1, hc, hl, hu⟩⟩

/-! ## non-vacuity: a cut-off on `Trap` with two workers

The run `ParCache.TrapK` (`Proofs/ParCacheExec.lean`) up to step 32: worker 0 has processed the root and one cut-set node and is
idle, worker 1 is **inside its restricted compilation** of the node of bound 4 (`compR`), the fringe is empty, the incumbent is 1
(the optimum is 4).  The compilation is cut off there: `abortR` records `best_ub = 4`, clears the cache; every continuation
(`kpC_run_to_end`) ends with every worker gone, the flag up, `is_exact = false`, `1 ≤ best_lb ≤ 4 ≤ best_ub`. -/
namespace Trap2KC
open Ddo.C01.Trap

/-- the state in which the cut-off happens, and the bound `abort_search` records there -/
theorem cut_obs : lockFreeB (TrapK.at_ 32) = true ∧ (TrapK.at_ 32).crit.base.fringe = [] ∧
    (TrapK.at_ 32).crit.base.bestLb = 1 ∧
    (compRAt (TrapK.at_ 32) 1).map (fun x => (x.1.ub, ((TrapK.at_ 32).crit.abortSearch x.1.ub none).base.bestUb)) =
      some (4, 4) := by decide +kernel

/-- **a run with a cut-off exists, can be completed, and every completion of it reports sound bounds** -/
theorem cutoff_run :
    ∃ s, KPRunC (sv false .lel) (KSysC.init prob false 2) s ∧ s.k.crit.base.abort = true ∧ s.k.crit.base.bestUb = 4 ∧
      (∃ t, KPRunC (sv false .lel) s t ∧ AllDone t.k) ∧
      ∀ t, KPRunC (sv false .lel) (KSysC.init prob false 2) t → KPRunC (sv false .lel) s t →
        NoPanic t.k ∧ t.k.crit.base.completion.1 = false ∧ t.k.crit.base.bestLb ≤ 4 ∧ 4 ≤ t.k.crit.base.bestUb := by
  obtain ⟨h1, h2, _, h4⟩ := cut_obs
  cases hx : compRAt (TrapK.at_ 32) 1 with
  | none => rw [hx] at h4; cases h4
  | some x =>
    rw [hx] at h4
    have hub : ((TrapK.at_ 32).crit.abortSearch x.1.ub none).base.bestUb = 4 := by
      have := Option.some.inj h4
      exact (Prod.mk.inj this).2
    have hw := compRAt_sound hx
    have hl : LockFree (TrapK.at_ 32) := (lockFreeB_iff _).mp h1
    have hpre : KPRunC (sv false .lel) (KSysC.init prob false 2) ⟨TrapK.at_ 32, []⟩ :=
      kprun_toC (wellFormed false .lel) 2 (TrapK.reach 32)
    have hstep : KPStepC (sv false .lel) ⟨TrapK.at_ 32, []⟩ ⟨abortK (TrapK.at_ 32) 1 x.1 none, [1]⟩ :=
      KStepC.abortR (TrapK.at_ 32) [] 1 x.1 x.2.1 x.2.2 none hw hl (.inl ⟨h2, rfl⟩)
    have hs := KRunC.tail hpre hstep
    refine ⟨_, hs, rfl, hub, ?_, fun t ht hst => ?_⟩
    · obtain ⟨t, _, ht2, ht3⟩ := kpC_run_to_end (wellFormed false .lel) 2 hs
      exact ⟨t, ht2, ht3⟩
    · obtain ⟨f1, f2⟩ := krunC_flag_up hst rfl
      have f2 : ((TrapK.at_ 32).crit.abortSearch x.1.ub none).base.bestUb ≤ t.k.crit.base.bestUb := f2
      obtain ⟨_, ⟨np, _, _⟩, _, hf, _⟩ := (parallel_caching_cutoff_sound (sv false .lel) H 2 8 (wellFormed false .lel) 2).2.2 t ht
      refine ⟨np, ?_, (hf 4 rfl).1, by omega⟩
      show (!t.k.crit.base.abort) = false
      rw [f1]; rfl

end Trap2KC

end Ddo.C05e
#print axioms Ddo.C05e.Trap2KC.cutoff_run
#print axioms Ddo.C05e.abortBoundOk_false
#print axioms Ddo.C05e.parallel_caching_cutoff_ub_false
