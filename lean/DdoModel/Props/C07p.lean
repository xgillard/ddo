import DdoModel.Proofs.PooledExact
import DdoModel.Props.C07
/-! # C07 for the pooled diagram — the node flag `is_exact` is sound, restricted / exact compilations are feasible

Model: `DdoModel/Pooled.lean`.  Proofs: `Proofs/PooledExact.lean` (the invariant), `Proofs/PooledFinal.lean` (what `finalizeP` reports).

**`Reach` cannot express long arcs.**  `Reach P k s v p` (`Wf.lean`) takes exactly one decision per layer
(`reach_length_eq`: `p.length = k`).  In the pooled diagram a node whose state is not impacted by the variable of a layer
is skipped past it: its path has *fewer* decisions than its depth.  `Ddo.ReachSkip` (`Proofs/LongArcs.lean`) adds the constructor
`skip` (`nextVar k L = some x`, `s ∈ L`, `impacted x s = false` ⟹ depth + 1, same state, value and path); it is the relational
form of `evalSkip` (`Dp.lean`), and it is `Reach` when every variable impacts every state (`AllImpacted`).

* (A) `exact_nodes_reachable_pooled`: at every stage of the top-down compilation, any compilation type, any cache / dominance
  configuration, every node flagged exact is `ReachSkip`-reached with exactly its state and value by the decisions of its `best` chain
  (`Ddo.Pooled.ExactReachP`).
* (B) `restricted_sound_pooled`: a restricted or exact pooled compilation that ends normally reports as best value the
  value of a genuinely feasible complete solution (`ReachSkip`), and reports that solution.

Differences with the clean theorems (`Ddo.C07.exact_nodes_reachable_gen`, `restricted_sound`): `ReachSkip` instead of
`Reach` (hypothesis `hroot` weakened accordingly); the depth of a layer node is the depth recorded with the layer
(`root.depth + ` number of the iteration that materialised it), **not** `root.depth + ` (index of the layer), since
iterations that materialise nothing still advance the depth; `best` arcs may come from any earlier layer
(`BestChainP`); pool nodes are located at the *current* depth, their own `depth` field is stale.

**Cut-set progress (C08 (ii))** was false for the pooled diagram with long arcs before the repair of D5 (`compilePOld`):
`WitnessP` is a 3-variable instance where the pre-fix relaxed pooled diagram hands out its own root
(`cutset_contains_root` below).  For the repaired code it is the theorem `Ddo.C08.cutset_progress_pooled` (`Props/C08q.lean`). -/
set_option linter.unusedSectionVars false
set_option linter.unusedVariables false
namespace Ddo.C07
open Ddo Ddo.Pooled
variable {S K : Type} [DecidableEq S] [DecidableEq K]

omit [DecidableEq S] [DecidableEq K] in
theorem reach_length_eq {P : Problem S} {k : Nat} {s : S} {v : Int} {p : List Dec} (h : Reach P k s v p) :
    p.length = k := by
  induction h with
  | root => rfl
  | step k s v p L x d _ _ _ _ ih => rw [List.length_append, List.length_singleton, ih]

omit [DecidableEq S] [DecidableEq K] in
theorem reachSkip_length_le {P : Problem S} {k : Nat} {s : S} {v : Int} {p : List Dec} (h : ReachSkip P k s v p) :
    p.length ≤ k := h.length_le

omit [DecidableEq S] [DecidableEq K] in
theorem reach_toSkip {P : Problem S} {k : Nat} {s : S} {v : Int} {p : List Dec} (h : Reach P k s v p) :
    ReachSkip P k s v p := h.toSkip

omit [DecidableEq S] [DecidableEq K] in
theorem reachSkip_toReach {P : Problem S} (hall : AllImpacted P) {k : Nat} {s : S} {v : Int} {p : List Dec}
    (h : ReachSkip P k s v p) : Reach P k s v p := h.toReach hall

/-- **(A)**, general form, pooled diagram.  See `Ddo.Pooled.ExactReachP`.

    Hypotheses: the root sub-problem is reached (`hroot`, with or without skips); no saturation (`hB`);
    `fuel ≤ nbVars + 2` (`compileP` uses exactly `nbVars + 2`): it bounds the number of iterations, which is what makes
    `NoClamp.small` applicable. -/
theorem exact_nodes_reachable_pooled (cfg : Cfg S K) (B : Int) (p0 : List Dec)
    (hB : NoClamp cfg.P cfg.R cfg.root.value B)
    (hroot : ReachSkip cfg.P cfg.root.depth cfg.root.state cfg.root.value p0)
    (cache : Cache S) (store : DomStore S K) (polls : Nat) (stopAt : Option Nat) (fuel : Nat)
    (hfuel : fuel ≤ cfg.P.nbVars + 2) :
    ExactReachP cfg p0 (buildLoopP cfg stopAt fuel (initPD cfg cache store polls)).1 :=
  buildLoopP_exact_reach cfg B p0 hB hroot cache store polls stopAt fuel hfuel

/-- **(A)** unfolded, on the diagram returned by `compileP`, with `p0 := cfg.root.path` -/
theorem exact_nodes_reachable_pooled_compile (cfg : Cfg S K) (B : Int) (hB : NoClamp cfg.P cfg.R cfg.root.value B)
    (hroot : ReachSkip cfg.P cfg.root.depth cfg.root.state cfg.root.value cfg.root.path)
    (cache : Cache S) (store : DomStore S K) (polls : Nat) (stopAt : Option Nat) :
    let pd := (compileP cfg cache store polls stopAt).2.2.2
    (∀ (l dp : Nat) (ly : List (Node S)), pd.layers[l]? = some (dp, ly) → ∀ n ∈ ly, n.isExact = true →
      n.depth = dp ∧ cfg.root.depth ≤ dp ∧ dp < pd.depth ∧ ∀ fuel', l ≤ fuel' →
        ReachSkip cfg.P dp n.state n.value (cfg.root.path ++ (bestPath pd.plain fuel' n).reverse)) ∧
    (∀ n ∈ pd.pool, n.isExact = true → ∀ fuel', pd.layers.length ≤ fuel' →
        ReachSkip cfg.P pd.depth n.state n.value (cfg.root.path ++ (bestPath pd.plain fuel' n).reverse)) := by
  rw [compileP_pd]
  exact exact_nodes_reachable_pooled cfg B cfg.root.path hB hroot cache store polls stopAt _ (Nat.le_refl _)

/-- **(A)** when no variable can be skipped: the clean conclusion (`Reach`, one decision per layer) -/
theorem exact_nodes_reachable_pooled_allImpacted (cfg : Cfg S K) (B : Int) (p0 : List Dec)
    (hall : AllImpacted cfg.P) (hB : NoClamp cfg.P cfg.R cfg.root.value B)
    (hroot : Reach cfg.P cfg.root.depth cfg.root.state cfg.root.value p0)
    (cache : Cache S) (store : DomStore S K) (polls : Nat) (stopAt : Option Nat) (fuel : Nat)
    (hfuel : fuel ≤ cfg.P.nbVars + 2) :
    let pd := (buildLoopP cfg stopAt fuel (initPD cfg cache store polls)).1
    (∀ (l dp : Nat) (ly : List (Node S)), pd.layers[l]? = some (dp, ly) → ∀ n ∈ ly, n.isExact = true →
      n.depth = dp ∧ ∀ fuel', l ≤ fuel' →
        Reach cfg.P n.depth n.state n.value (p0 ++ (bestPath pd.plain fuel' n).reverse)) ∧
    (∀ n ∈ pd.pool, n.isExact = true → ∀ fuel', pd.layers.length ≤ fuel' →
        Reach cfg.P pd.depth n.state n.value (p0 ++ (bestPath pd.plain fuel' n).reverse)) := by
  obtain ⟨h1, h2⟩ := exact_nodes_reachable_pooled cfg B p0 hB hroot.toSkip cache store polls stopAt fuel hfuel
  refine ⟨fun l dp ly hl n hn he => ?_, fun n hn he fuel' hf => (h2 n hn he fuel' hf).toReach hall⟩
  obtain ⟨h3, _, _, h4⟩ := h1 l dp ly hl n hn he
  exact ⟨h3, fun fuel' hf => h3 ▸ (h4 fuel' hf).toReach hall⟩

/-- (A), one iteration: `stepLayerP` preserves the invariant `Ddo.Pooled.MInvP` (which implies `ExactReachP`) -/
theorem exact_nodes_step_pooled (cfg : Cfg S K) (B : Int) (p0 : List Dec) (hB : NoClamp cfg.P cfg.R cfg.root.value B)
    (pd pd' : PD S K) (var k : Nat) (hinv : MInvP cfg B p0 pd k)
    (hnv : cfg.P.nextVar pd.depth (pd.pool.map (·.state)) = some var) (hk : k ≤ cfg.P.nbVars + 1)
    (h : stepLayerP cfg pd var = some pd') : MInvP cfg B p0 pd' (k + 1) ∧ ExactReachP cfg p0 pd' :=
  have h' := stepLayerP_inv cfg B p0 hB pd pd' var k hinv hnv hk h
  ⟨h', h'.exactReach⟩

/-- **(B)**, detailed form, in terms of the final diagram and of any `p0` reaching the root sub-problem; the reported solution lists the
    decisions of the `best` chain of a terminal node of the best value, last one first (`_best_path` order) -/
theorem restricted_sound_detail_pooled (cfg : Cfg S K) (B : Int) (p0 : List Dec) (cache : Cache S) (store : DomStore S K)
    (polls : Nat) (stopAt : Option Nat) (hty : cfg.ctype = .restricted ∨ cfg.ctype = .exact)
    (hroot : ReachSkip cfg.P cfg.root.depth cfg.root.state cfg.root.value p0)
    (hB : NoClamp cfg.P cfg.R cfg.root.value B)
    (hok : (compileP cfg cache store polls stopAt).1 = .ok) (w : Int)
    (hw : (compileP cfg cache store polls stopAt).2.1.bestValue = some w) :
    ∃ (n : Node S) (q : List Dec),
      n ∈ (compileP cfg cache store polls stopAt).2.2.2.pool ∧ n.value = w ∧ n.isExact = true ∧
      ReachSkip cfg.P (compileP cfg cache store polls stopAt).2.2.2.depth n.state w (p0 ++ q) ∧
      (∀ fuel, (compileP cfg cache store polls stopAt).2.2.2.layers.length ≤ fuel →
        q = (bestPath (compileP cfg cache store polls stopAt).2.2.2.plain fuel n).reverse) ∧
      cfg.P.nextVar (compileP cfg cache store polls stopAt).2.2.2.depth
        ((compileP cfg cache store polls stopAt).2.2.2.pool.map (·.state)) = none ∧
      (compileP cfg cache store polls stopAt).2.1.bestSol = some (cfg.root.path ++ q.reverse) := by
  rw [compileP_outcome] at hok
  obtain ⟨must, may, hres, _⟩ := compileP_ok_results cfg cache store polls stopAt hok
  rw [hres] at hw ⊢
  rw [compileP_pd]
  obtain ⟨k, hinv, hterm⟩ := buildLoopP_inv cfg B p0 hB stopAt (cfg.P.nbVars + 2) (initPD cfg cache store polls) 0
    (initPD_inv cfg B p0 hB hroot cache store polls) (by omega)
  generalize (buildLoopP cfg stopAt (cfg.P.nbVars + 2) (initPD cfg cache store polls)) = bl at *
  obtain ⟨pd, oc⟩ := bl
  dsimp only at hok hw hinv hterm ⊢
  have hne : cfg.ctype ≠ .relaxed := by
    rcases hty with h | h <;> rw [h] <;> decide
  have hrel : (cfg.ctype == .relaxed) = false := by
    rcases hty with h | h <;> rw [h] <;> rfl
  obtain ⟨n, hn, hv, hsol⟩ := finalizeP_bestSol_eq cfg pd must hrel w hw
  have hex := hinv.allEx hne n hn
  obtain ⟨q, hq, hreach, _⟩ := hinv.pool n hn hex
  rcases hterm hok with hnil | hnone
  · rw [hnil] at hn; cases hn
  · refine ⟨n, q, hn, hv, hex, ?_, fun fuel hf => (hq.bestPath_eq n rfl fuel hf).symm, hnone, hsol q hq⟩
    rw [hinv.depth, ← hv]; exact hreach

/-- **(B)** restricted / exact pooled compilations are feasible lower bounds: the reported best value `w` is the value of
    a state `s` reached (`ReachSkip`: unimpacted variables carry no decision) at some depth `k` by the decisions
    `cfg.root.path ++ q`, and `s` is complete: it belongs to a list `L` (the pool at exit) on which `nextVar` answers
    `none`.  Moreover the reported best solution consists of the root path followed by the same decisions `q`, listed
    last one first. -/
theorem restricted_sound_pooled (cfg : Cfg S K) (B : Int) (cache : Cache S) (store : DomStore S K) (polls : Nat)
    (stopAt : Option Nat) (hty : cfg.ctype = .restricted ∨ cfg.ctype = .exact)
    (hroot : ReachSkip cfg.P cfg.root.depth cfg.root.state cfg.root.value cfg.root.path)
    (hB : NoClamp cfg.P cfg.R cfg.root.value B) :
    (compileP cfg cache store polls stopAt).1 = .ok →
    ∀ w, (compileP cfg cache store polls stopAt).2.1.bestValue = some w →
      ∃ (k : Nat) (s : S) (q : List Dec) (L : List S),
        ReachSkip cfg.P k s w (cfg.root.path ++ q) ∧ s ∈ L ∧ cfg.P.nextVar k L = none ∧
        (compileP cfg cache store polls stopAt).2.1.bestSol = some (cfg.root.path ++ q.reverse) := by
  intro hok w hw
  obtain ⟨n, q, hn, _, _, hreach, _, hnone, hsol⟩ :=
    restricted_sound_detail_pooled cfg B cfg.root.path cache store polls stopAt hty hroot hB hok w hw
  exact ⟨_, n.state, q, _, hreach, List.mem_map.2 ⟨n, hn, rfl⟩, hnone, hsol⟩

/-- (B) without long arcs: the clean conclusion -/
theorem restricted_sound_pooled_allImpacted (cfg : Cfg S K) (B : Int) (cache : Cache S) (store : DomStore S K)
    (polls : Nat) (stopAt : Option Nat) (hall : AllImpacted cfg.P)
    (hty : cfg.ctype = .restricted ∨ cfg.ctype = .exact)
    (hroot : Reach cfg.P cfg.root.depth cfg.root.state cfg.root.value cfg.root.path)
    (hB : NoClamp cfg.P cfg.R cfg.root.value B) :
    (compileP cfg cache store polls stopAt).1 = .ok →
    ∀ w, (compileP cfg cache store polls stopAt).2.1.bestValue = some w →
      ∃ (k : Nat) (s : S) (q : List Dec) (L : List S),
        Reach cfg.P k s w (cfg.root.path ++ q) ∧ s ∈ L ∧ cfg.P.nextVar k L = none ∧
        (compileP cfg cache store polls stopAt).2.1.bestSol = some (cfg.root.path ++ q.reverse) := by
  intro hok w hw
  obtain ⟨k, s, q, L, h1, h2, h3, h4⟩ :=
    restricted_sound_pooled cfg B cache store polls stopAt hty hroot.toSkip hB hok w hw
  exact ⟨k, s, q, L, h1.toReach hall, h2, h3, h4⟩

/-! ## non-vacuity: a best solution through a long arc

Three variables; block 0 expands the root `0` into `1, 2, 3` (the arc to `3` costs 100); state `3` is not impacted by
variable 1 and stays in the pool during block 1; block 2 keeps `3` (restricted, width 1) and expands it into `6`.
The best solution `[⟨2,6⟩, ⟨0,3⟩]` has 2 decisions, the terminal node is at depth 3. -/
namespace WitnessP

def P : Problem Int :=
  { nbVars := 3, init := 0, initVal := 0, trans := fun _ d => d.val,
    cost := fun s t _ => if t = 3 then 100 else max (-50) (min 50 (s + t)),
    nextVar := fun k _ => if k < 3 then some k else none,
    domain := fun v _ => if v = 0 then [1, 2, 3] else if v = 1 then [4, 5] else [6],
    impacted := fun v s => !(v == 1 && s == 3) }
def R : Relax Int := { merge := fun _ => 9, relax := fun _ _ _ _ c => c, rub := fun _ => 1000 }
def cfg (ct : CompType) : Cfg Int Unit :=
  { P := P, R := R, rank := ⟨fun a b => compare a b⟩, dom := none, useCache := false, kind := .frontier, ctype := ct,
    width := 1, root := { state := 0, value := 0, path := [], ub := 1000, depth := 0 }, lb := -1 }

def pd (ct : CompType) : PD Int Unit := (compileP (cfg ct) (Cache.init 3) (DomStore.init 3) 0 none).2.2.2

theorem restricted_run :
    (compileP (cfg .restricted) (Cache.init 3) (DomStore.init 3) 0 none).1 = .ok ∧
    (compileP (cfg .restricted) (Cache.init 3) (DomStore.init 3) 0 none).2.1.bestValue = some 109 ∧
    (compileP (cfg .restricted) (Cache.init 3) (DomStore.init 3) 0 none).2.1.bestSol = some [⟨2, 6⟩, ⟨0, 3⟩] ∧
    (pd .restricted).depth = 3 ∧ (pd .restricted).pool.map (fun n => (n.state, n.value, n.isExact)) = [(6, 109, true)] := by
  decide +kernel

example : (compileP (cfg .restricted) (Cache.init 3) (DomStore.init 3) 0 none).1 = .ok := restricted_run.1
example : (compileP (cfg .restricted) (Cache.init 3) (DomStore.init 3) 0 none).2.1.bestValue = some 109 := restricted_run.2.1
/-- two decisions … -/
example : (compileP (cfg .restricted) (Cache.init 3) (DomStore.init 3) 0 none).2.1.bestSol = some [⟨2, 6⟩, ⟨0, 3⟩] :=
  restricted_run.2.2.1
/-- … for a terminal node at depth 3 -/
example : (pd .restricted).depth = 3 ∧ (pd .restricted).pool.map (fun n => (n.state, n.value, n.isExact)) = [(6, 109, true)] :=
  restricted_run.2.2.2

/-- the exact pooled diagram, layer by layer: `(state, value, depth field, length of the best path)`, all nodes flagged
    exact — the node of state `3` sits in the layer of depth 2 with a best path of length 1 -/
def view (l : Nat × List (Node Int)) : Nat × List (Int × Int × Nat × Nat) :=
  (l.1, l.2.map (fun n => (n.state, n.value, n.depth, (bestPath (pd .exact).plain 5 n).length)))
example : (pd .exact).layers.map view =
    [(0, [(0, 0, 0, 0)]), (1, [(1, 1, 1, 1), (2, 2, 1, 1)]), (2, [(3, 100, 2, 1), (4, 8, 2, 2), (5, 9, 2, 2)])] := by
  decide +kernel
example : (pd .exact).layers.all (fun l => l.2.all (·.isExact)) = true := by decide +kernel

/-- the skipping path of that node, by hand -/
example : ReachSkip P 2 3 100 [⟨0, 3⟩] := by
  have h1 : ReachSkip P 1 (P.trans 0 ⟨0, 3⟩) (0 + P.cost 0 (P.trans 0 ⟨0, 3⟩) ⟨0, 3⟩) ([] ++ [⟨0, 3⟩]) :=
    ReachSkip.step 0 0 0 [] [0] 0 3 ReachSkip.root (by decide) (by decide) (by decide)
  exact ReachSkip.skip 1 3 100 [⟨0, 3⟩] [3] 1 h1 (by decide) (by decide) (by decide)

/-- `Reach` cannot express that path (`reach_length_eq`) -/
example : ¬ Reach P 2 3 100 [⟨0, 3⟩] := fun h => by
  have := reach_length_eq h
  simp at this

/-- the hypotheses of the theorems hold for the witness (`B = 200`) … -/
theorem noClamp (ct : CompType) : NoClamp (cfg ct).P (cfg ct).R (cfg ct).root.value 200 := by
  show NoClamp P R 0 200
  refine ⟨by decide, by decide, fun s s' d => ?_, fun s u m d c h => h, by decide⟩
  show -200 ≤ (if s' = 3 then 100 else max (-50) (min 50 (s + s'))) ∧
    (if s' = 3 then 100 else max (-50) (min 50 (s + s'))) ≤ 200
  split <;> omega

/-- … so (B) applies: the reported value 109 is that of a complete state reached with skips -/
example : ∃ (k : Nat) (s : Int) (q : List Dec) (L : List Int),
    ReachSkip P k s 109 ([] ++ q) ∧ s ∈ L ∧ P.nextVar k L = none ∧
    (compileP (cfg .restricted) (Cache.init 3) (DomStore.init 3) 0 none).2.1.bestSol = some ([] ++ q.reverse) :=
  restricted_sound_pooled (cfg .restricted) 200 (Cache.init 3) (DomStore.init 3) 0 none (.inl rfl) ReachSkip.root
    (noClamp .restricted) restricted_run.1 109 restricted_run.2.1

/-- **C08 (ii) failed for the pooled diagram with long arcs before the repair of D5** (`compilePOld`): the relaxed
    compilation of the same instance merges the lingering child `3` of the root in block 2, so the root —
    `(state 0, value 0, depth 0)`, empty path — was handed out in the cut-set of the diagram compiled *from* `(0, 0, depth 0)` -/
theorem cutset_contains_root :
    (compilePOld (cfg .relaxed) (Cache.init 3) (DomStore.init 3) 0 none).2.1.cutset.map
      (fun c => (c.state, c.value, c.depth, c.path.length)) = [(1, 1, 1, 1), (2, 2, 1, 1), (0, 0, 0, 0)] := by decide +kernel

/-- the repaired code hands out the three children of the root instead of the root -/
theorem cutset_root_replaced :
    (compileP (cfg .relaxed) (Cache.init 3) (DomStore.init 3) 0 none).2.1.cutset.map
      (fun c => (c.state, c.value, c.depth, c.path.length)) =
      [(1, 1, 1, 1), (2, 2, 1, 1), (1, 1, 1, 1), (2, 2, 1, 1), (3, 100, 1, 1)] := by decide +kernel

end WitnessP

end Ddo.C07

#print axioms Ddo.C07.exact_nodes_reachable_pooled
#print axioms Ddo.C07.exact_nodes_reachable_pooled_compile
#print axioms Ddo.C07.exact_nodes_reachable_pooled_allImpacted
#print axioms Ddo.C07.restricted_sound_detail_pooled
#print axioms Ddo.C07.restricted_sound_pooled
#print axioms Ddo.C07.restricted_sound_pooled_allImpacted
#print axioms Ddo.C07.reachSkip_toReach
