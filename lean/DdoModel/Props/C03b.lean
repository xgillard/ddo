import DdoModel.Proofs.ParSysInv
import DdoModel.Proofs.ParSysFinal
import DdoModel.Proofs.ParSysTerm
/-! # C03 / C02 / C05 / C14, parallel part — theorems about the CONCRETE model of `ParallelSolver`

`ParSys` (`DdoModel/ParSys.lean`) is the transition system whose state is the shared `Critical` record
`ParCrit S` plus one worker-local state per thread and whose steps are the critical sections of
`parallel.rs`, composed from the very functions of `ParSolver.lean` that the trace validator
`Engines/Par.lean` replays against recorded runs of the real solver.  The theorems below are about `ParCrit`
and the `ParSolver.lean` functions themselves, not about the abstract system `ParCover` of `Props/C03.lean`.

Setting as in `Proofs/SeqInv.lean`: `Phi c` = value of the best completion of `c`, `opt`, `Sol p w`.
`PhiOk Phi dedup`: `Phi` ignores the bound, and is `PhiMono` when the duplicate-free fringe is used.
Compilations are arbitrary outcomes allowed by `okR` / `okX`, which are assumed to imply the diagram
contracts `OkR = CompileOk` and `OkX = CompileOk ∧ (not exact → CutsetOk)` **relative to the stale
incumbent the worker read** (`hR`, `hX`).  Any number of threads, every interleaving (induction over
`Run`), cut-offs at any compilation of any worker, several aborts, panicking workers included. -/
set_option linter.unusedSectionVars false
set_option linter.unusedVariables false
namespace Ddo.C03b
open Ddo.ParSys
variable {S : Type} [DecidableEq S]

section
variable (Phi : SubP S → EInt) (opt : Int) (Sol : List Dec → Int → Prop)

/-- **`sys_inv_init`**: `SysInv` holds in the initial state (`ParCrit.init`, `U` idle workers), without a
    primal … -/
theorem sys_inv_init (P : Problem S) (dedup : Bool) (U : Nat)
    (hroot : Good Phi opt (rootOf P)) (hopt : opt ≤ iMax) (hmin : iMin ≤ opt)
    (hatt : opt > iMin → Phi (rootOf P) = some opt) :
    SysInv Phi opt Sol (Sys.init P none dedup U) :=
  init_inv Phi opt Sol P none dedup U hroot hopt hmin (fun p hp => by cases hp) hatt

/-- … **`sys_inv_init_primal`**: and after `set_primal(v, sol)` with a feasible solution `sol` of value `v` -/
theorem sys_inv_init_primal (P : Problem S) (dedup : Bool) (U : Nat) (v : Int) (sol : List Dec)
    (hroot : Good Phi opt (rootOf P)) (hopt : opt ≤ iMax) (hmin : iMin ≤ opt)
    (hv : v ≤ opt) (hsol : Sol sol v) (hatt : opt > v → opt > iMin → Phi (rootOf P) = some opt) :
    SysInv Phi opt Sol (Sys.init P (some (v, sol)) dedup U) := by
  refine init_inv Phi opt Sol P (some (v, sol)) dedup U hroot hopt ?_ ?_ ?_
  · show (if v > iMin then v else iMin) ≤ opt
    split <;> omega
  · intro p hp
    have hp : (if v > iMin then some sol else none) = some p := hp
    show Sol p (if v > iMin then v else iMin)
    split at hp
    · next h => rw [if_pos h]; injection hp with hp; subst hp; exact hsol
    · cases hp
  · intro hgt
    have hgt : opt > (if v > iMin then v else iMin) := hgt
    split at hgt
    · exact hatt hgt (by omega)
    · exact hatt (by omega) hgt

/-- **`sys_inv_step`**: every section of every worker preserves `SysInv` -/
theorem sys_inv_step (dedup : Bool) (hphi : PhiOk Phi dedup) {okR okX : SubP S → Int → DDOut S → Prop}
    (hR : ∀ n lb o, okR n lb o → OkR Phi opt Sol n lb o) (hX : ∀ n lb o, okX n lb o → OkX Phi opt Sol n lb o)
    {s t : Sys S} (h : Step dedup okR okX s t) (hi : SysInv Phi opt Sol s) : SysInv Phi opt Sol t :=
  step_inv Phi opt Sol dedup hphi hR hX h hi

/-- **`sys_inv`**: hence it holds after any finite schedule -/
theorem sys_inv (dedup : Bool) (hphi : PhiOk Phi dedup) {okR okX : SubP S → Int → DDOut S → Prop}
    (hR : ∀ n lb o, okR n lb o → OkR Phi opt Sol n lb o) (hX : ∀ n lb o, okX n lb o → OkX Phi opt Sol n lb o)
    {s t : Sys S} (h : Run dedup okR okX s t) (hi : SysInv Phi opt Sol s) : SysInv Phi opt Sol t :=
  run_inv Phi opt Sol dedup hphi hR hX h hi

/-- as long as the search is not aborted, `SysInv` contains the sequential coverage invariant `Inv` over
    `fringe ++ nodes in hand` -/
theorem sys_inv_seq {s : Sys S} (hi : SysInv Phi opt Sol s) (ha : s.crit.base.abort = false) :
    Inv Phi opt Sol s.openList s.crit.base.bestLb s.crit.base.bestSol :=
  hi.toInv Phi opt Sol ha

/-- **`sys_complete_optimal`**: when a worker's `get_workload` answers `Complete` (abort flag down,
    `ongoing = 0`, fringe empty) the incumbent is the optimum, the stored solution (if any) is feasible
    with value `opt`; the section then sets `best_ub = best_lb = opt` and `maximize` reports
    `is_exact = true` with that value -/
theorem sys_complete_optimal {s : Sys S} {i : Nat} (hi : SysInv Phi opt Sol s) (hc : CompletesAt s i) :
    s.crit.base.bestLb = opt ∧ (∀ p, s.crit.base.bestSol = some p → Sol p opt) ∧
    s.crit.complete.base.bestLb = opt ∧ s.crit.complete.base.bestUb = opt ∧
    s.crit.complete.base.completion = (true, s.crit.base.bestSol.map (fun _ => opt)) := by
  obtain ⟨h1, h2⟩ := complete_optimal Phi opt Sol hi hc
  refine ⟨h1, h2, h1, h1, ?_⟩
  show (!s.crit.base.abort, s.crit.base.bestSol.map (fun _ => s.crit.base.bestLb)) = _
  rw [hc.2.1, h1]; rfl

/-! ## C02, parallel part -/

/-- **`sys_solution_feasible`**: in every reachable state — before, during and after any number of cut-offs —
    the stored solution is a feasible solution whose value is the stored lower bound -/
theorem sys_solution_feasible (dedup : Bool) (hphi : PhiOk Phi dedup) {okR okX : SubP S → Int → DDOut S → Prop}
    (hR : ∀ n lb o, okR n lb o → OkR Phi opt Sol n lb o) (hX : ∀ n lb o, okX n lb o → OkX Phi opt Sol n lb o)
    {s t : Sys S} (h : Run dedup okR okX s t) (hi : SysInv Phi opt Sol s) :
    (∀ p, t.crit.base.bestSol = some p → Sol p t.crit.base.bestLb) ∧
    (∀ v, t.crit.base.completion.2 = some v → v = t.crit.base.bestLb ∧ ∃ p, t.crit.base.bestSol = some p ∧ Sol p v) := by
  have ht := run_inv Phi opt Sol dedup hphi hR hX h hi
  refine ⟨ht.solOk, fun v hv => ?_⟩
  have hv : t.crit.base.bestSol.map (fun _ => t.crit.base.bestLb) = some v := hv
  cases hs : t.crit.base.bestSol with
  | none => rw [hs] at hv; cases hv
  | some p =>
    rw [hs] at hv
    have : t.crit.base.bestLb = v := by simpa using hv
    exact ⟨this.symm, p, rfl, this ▸ ht.solOk p hs⟩

/-! ## C05, parallel part -/

/-- **`sys_cutoff_bounds`**: in every reachable state `best_lb ≤ opt`; and once the search has been aborted
    (by one or several `abort_search`), in every later state in which no worker has panicked,
    `best_lb ≤ opt ≤ best_ub` — the sharp bound, thanks to the final `max … best_lb` of `abort_search`
    (fix D4b; `d4b_witness` below shows it fails without it). -/
theorem sys_cutoff_bounds (dedup : Bool) (hphi : PhiOk Phi dedup) {okR okX : SubP S → Int → DDOut S → Prop}
    (hR : ∀ n lb o, okR n lb o → OkR Phi opt Sol n lb o) (hX : ∀ n lb o, okX n lb o → OkX Phi opt Sol n lb o)
    {s t : Sys S} (h : Run dedup okR okX s t) (hi : SysInv Phi opt Sol s) :
    t.crit.base.bestLb ≤ opt ∧
    (t.crit.base.abort = true → NoCrash t → opt ≤ t.crit.base.bestUb ∧ t.crit.base.completion.1 = false) := by
  have ht := run_inv Phi opt Sol dedup hphi hR hX h hi
  refine ⟨ht.lbOk, fun ha hnc => ⟨(cutoff_bounds Phi opt Sol ht ha hnc).2, ?_⟩⟩
  show (!t.crit.base.abort) = false
  rw [ha]; rfl

/-- the same when `maximize()` returns after a cut-off: every worker has left its loop -/
theorem sys_cutoff_bounds_final (dedup : Bool) (hphi : PhiOk Phi dedup) {okR okX : SubP S → Int → DDOut S → Prop}
    (hR : ∀ n lb o, okR n lb o → OkR Phi opt Sol n lb o) (hX : ∀ n lb o, okX n lb o → OkX Phi opt Sol n lb o)
    {s t : Sys S} (h : Run dedup okR okX s t) (hi : SysInv Phi opt Sol s)
    (hd : AllDone t) (ha : t.crit.base.abort = true) :
    t.crit.base.bestLb ≤ opt ∧ opt ≤ t.crit.base.bestUb ∧
    (∀ p, t.crit.base.bestSol = some p → Sol p t.crit.base.bestLb) := by
  have ht := run_inv Phi opt Sol dedup hphi hR hX h hi
  obtain ⟨h1, h2⟩ := cutoff_bounds Phi opt Sol ht ha (allDone_noCrash hd)
  exact ⟨h1, h2, ht.solOk⟩

/-! ## C14, parallel part -/

/-- **`sys_primal`**: started from a feasible primal `(v, sol)`, whenever a worker's `get_workload` answers
    `Complete` the incumbent is `max v opt` (`opt` being an upper bound of every feasible value it is
    `opt` itself), the value of a stored feasible solution -/
theorem sys_primal (dedup : Bool) (hphi : PhiOk Phi dedup) {okR okX : SubP S → Int → DDOut S → Prop}
    (hR : ∀ n lb o, okR n lb o → OkR Phi opt Sol n lb o) (hX : ∀ n lb o, okX n lb o → OkX Phi opt Sol n lb o)
    (P : Problem S) (U : Nat) (v : Int) (sol : List Dec)
    (hroot : Good Phi opt (rootOf P)) (hopt : opt ≤ iMax) (hmin : iMin ≤ opt)
    (hv : v ≤ opt) (hsol : Sol sol v) (hatt : opt > v → opt > iMin → Phi (rootOf P) = some opt)
    {t : Sys S} {i : Nat} (h : Run dedup okR okX (Sys.init P (some (v, sol)) dedup U) t) (hc : CompletesAt t i) :
    t.crit.base.bestLb = max v opt ∧ ∀ p, t.crit.base.bestSol = some p → Sol p (max v opt) := by
  have ht := run_inv Phi opt Sol dedup hphi hR hX h
    (sys_inv_init_primal Phi opt Sol P dedup U v sol hroot hopt hmin hv hsol hatt)
  obtain ⟨h1, h2⟩ := complete_optimal Phi opt Sol ht hc
  rw [Int.max_eq_right hv]; exact ⟨h1, h2⟩

/-- **`sys_primal_any`**: the same for a primal that is *not verified* (`set_primal` does not check the
    solution it is given): contracts relative to the true optimum `opt` and the true feasibility predicate
    `Sol`, any claimed value `v ≤ isize::MAX` with any decision list `sol`.  At completion the incumbent is
    `max v opt`, and the stored solution is genuinely feasible with that value unless it is the caller's own
    `sol` with value `v` -/
theorem sys_primal_any (dedup : Bool) (hphi : PhiOk Phi dedup) {okR okX : SubP S → Int → DDOut S → Prop}
    (hR : ∀ n lb o, okR n lb o → OkR Phi opt Sol n lb o) (hX : ∀ n lb o, okX n lb o → OkX Phi opt Sol n lb o)
    (P : Problem S) (U : Nat) (v : Int) (sol : List Dec)
    (hroot : Good Phi opt (rootOf P)) (hopt : opt ≤ iMax) (hmin : iMin ≤ opt) (hv : v ≤ iMax)
    (hatt : opt > iMin → Phi (rootOf P) = some opt)
    {t : Sys S} {i : Nat} (h : Run dedup okR okX (Sys.init P (some (v, sol)) dedup U) t) (hc : CompletesAt t i) :
    t.crit.base.bestLb = max v opt ∧
    ∀ p, t.crit.base.bestSol = some p → Sol p (max v opt) ∨ (p = sol ∧ v = max v opt) := by
  have hle : opt ≤ max v opt := Int.le_max_right _ _
  have hS : ∀ p w, Sol p w → (Sol p w ∨ (p = sol ∧ w = v)) := fun _ _ h => Or.inl h
  have hR' : ∀ n lb o, okR n lb o → OkR Phi (max v opt) (fun p w => Sol p w ∨ (p = sol ∧ w = v)) n lb o :=
    fun n lb o h => CompileOk.weaken Phi opt Sol hle hS (hR n lb o h)
  have hX' : ∀ n lb o, okX n lb o → OkX Phi (max v opt) (fun p w => Sol p w ∨ (p = sol ∧ w = v)) n lb o :=
    fun n lb o h => ⟨CompileOk.weaken Phi opt Sol hle hS (hX n lb o h).1,
      fun he => CutsetOk.weaken Phi opt hle ((hX n lb o h).2 he)⟩
  -- the initial invariant for the optimum `max v opt`, the primal counting as a solution of value `v`
  have h0 := sys_inv_init_primal Phi (max v opt) (fun p w => Sol p w ∨ (p = sol ∧ w = v)) P dedup U v sol
    (fun x hx => Int.le_trans (hroot x hx) hle) (Int.max_le.mpr ⟨hv, hopt⟩) (Int.le_trans hmin hle) (Int.le_max_left _ _)
    (Or.inr ⟨rfl, rfl⟩) (fun h1 h2 => by
      rcases Int.le_total v opt with hvo | hvo
      · rw [Int.max_eq_right hvo] at h2 ⊢; exact hatt h2
      · rw [Int.max_eq_left hvo] at h1; exact absurd h1 (Int.lt_irrefl _))
  have ht := run_inv Phi (max v opt) _ dedup hphi hR' hX' h h0
  obtain ⟨h1, h2⟩ := complete_optimal Phi (max v opt) _ ht hc
  refine ⟨h1, fun p hp => ?_⟩
  rcases h2 p hp with h | ⟨h, h'⟩
  · exact Or.inl h
  · exact Or.inr ⟨h, h'.symm⟩

/-- **`sys_complete_value`**: when `get_workload` answers `Complete` a value is reported (a solution is stored)
    iff the problem is feasible — with the convention of the setting that `opt = isize::MIN` stands for
    "no feasible solution" (`hmin`: no feasible solution has that value) -/
theorem sys_complete_value (dedup : Bool) (hphi : PhiOk Phi dedup) {okR okX : SubP S → Int → DDOut S → Prop}
    (hR : ∀ n lb o, okR n lb o → OkR Phi opt Sol n lb o) (hX : ∀ n lb o, okX n lb o → OkX Phi opt Sol n lb o)
    (P : Problem S) (primal : Option (Int × List Dec)) (U : Nat)
    (hi : SysInv Phi opt Sol (Sys.init P primal dedup U)) (hmin : ∀ p, ¬ Sol p iMin)
    {t : Sys S} {i : Nat} (h : Run dedup okR okX (Sys.init P primal dedup U) t) (hc : CompletesAt t i) :
    (t.crit.base.bestSol = none ↔ opt = iMin) ∧ (t.crit.base.completion.2 = none ↔ opt = iMin) := by
  have ht := run_inv Phi opt Sol dedup hphi hR hX h hi
  have hn := run_noSol Phi opt Sol dedup hphi hR hX h hi (init_noSol P primal dedup U)
  obtain ⟨h1, h2⟩ := complete_optimal Phi opt Sol ht hc
  have key : t.crit.base.bestSol = none ↔ opt = iMin := by
    constructor
    · intro hs; rw [← h1]; exact hn hs
    · intro ho
      cases hs : t.crit.base.bestSol with
      | none => rfl
      | some p => exact absurd (ho ▸ h2 p hs) (hmin p)
  refine ⟨key, ?_⟩
  rw [← key]
  show t.crit.base.bestSol.map (fun _ => t.crit.base.bestLb) = none ↔ _
  cases t.crit.base.bestSol <;> simp


/-- **`sys_final`**: in any state reached from the initial one in which every worker has left its loop
    (`maximize()` joins them and reads the shared record), with at least one thread and no panic:
    * abort flag down — the incumbent is the optimum, `best_ub = best_lb = opt`, `is_exact = true` is reported
      with the value `opt` iff a solution is stored;
    * abort flag up — `best_lb ≤ opt ≤ best_ub` and `is_exact = false`;
    * in both cases the stored solution is feasible and has the value `best_lb`. -/
theorem sys_final (dedup : Bool) (hphi : PhiOk Phi dedup) {okR okX : SubP S → Int → DDOut S → Prop}
    (hR : ∀ n lb o, okR n lb o → OkR Phi opt Sol n lb o) (hX : ∀ n lb o, okX n lb o → OkX Phi opt Sol n lb o)
    (P : Problem S) (primal : Option (Int × List Dec)) (U : Nat)
    (hi : SysInv Phi opt Sol (Sys.init P primal dedup U))
    {t : Sys S} (h : Run dedup okR okX (Sys.init P primal dedup U) t) (hd : AllDone t) (hne : t.ws ≠ []) :
    (t.crit.base.abort = false → t.crit.base.bestLb = opt ∧ t.crit.base.bestUb = opt ∧
        t.crit.base.completion = (true, t.crit.base.bestSol.map (fun _ => opt))) ∧
    (t.crit.base.abort = true → t.crit.base.bestLb ≤ opt ∧ opt ≤ t.crit.base.bestUb ∧ t.crit.base.completion.1 = false) ∧
    (∀ p, t.crit.base.bestSol = some p → Sol p t.crit.base.bestLb) := by
  have ht := run_inv Phi opt Sol dedup hphi hR hX h hi
  have hdn := run_done Phi opt Sol dedup hphi hR hX h hi (init_done P primal dedup U)
  refine ⟨fun ha => ?_, fun ha => ?_, ht.solOk⟩
  · obtain ⟨w, ws, hws⟩ := List.exists_cons_of_ne_nil hne
    have hw : t.ws[0]? = some .done := by
      rw [hws]; simp only [List.getElem?_cons_zero]
      rw [hd w (by rw [hws]; exact List.mem_cons_self)]
    obtain ⟨h1, h2, _⟩ := final_optimal Phi opt Sol ht hdn hw ha
    refine ⟨h1, h2, ?_⟩
    show (!t.crit.base.abort, t.crit.base.bestSol.map (fun _ => t.crit.base.bestLb)) = _
    rw [ha, h1]; rfl
  · obtain ⟨h1, h2⟩ := cutoff_bounds Phi opt Sol ht ha (allDone_noCrash hd)
    refine ⟨h1, h2, ?_⟩
    show (!t.crit.base.abort) = false
    rw [ha]; rfl

end

/-- **`sys_terminates`**: the step relation of the concrete system, on the states whose pending cut-sets hold
    strictly deeper nodes (`ProgOk`, the progress clause C08 (ii)), is well-founded — any number of threads,
    every interleaving, both fringes, cut-offs and panics included, wait steps counted -/
theorem sys_terminates (nbVars : Nat) (dedup : Bool) (okR okX : SubP S → Int → DDOut S → Prop) :
    WellFounded (fun t s : Sys S => Step dedup okR okX s t ∧ ProgOk nbVars s) :=
  ParSys.sys_terminates nbVars dedup okR okX

/-- `ProgOk` holds initially and is preserved when the relaxed compilations guarantee progress … -/
theorem sys_progOk {nbVars : Nat} {dedup : Bool} {okR okX : SubP S → Int → DDOut S → Prop}
    (hX : ∀ n lb o, okX n lb o → ∀ c ∈ o.cutset, n.depth < c.depth ∧ c.depth ≤ nbVars)
    (P : Problem S) (primal : Option (Int × List Dec)) (U : Nat)
    {t : Sys S} (h : Run dedup okR okX (Sys.init P primal dedup U) t) : ProgOk nbVars t := by
  induction h with
  | refl => exact init_progOk nbVars P primal dedup U
  | tail _ hst ih => exact step_progOk hX hst ih

/-- … **`sys_no_infinite_run`**: hence the solver has no infinite run from its initial state -/
theorem sys_no_infinite_run {nbVars : Nat} {dedup : Bool} {okR okX : SubP S → Int → DDOut S → Prop}
    (hX : ∀ n lb o, okX n lb o → ∀ c ∈ o.cutset, n.depth < c.depth ∧ c.depth ≤ nbVars)
    (P : Problem S) (primal : Option (Int × List Dec)) (U : Nat)
    (run : Nat → Sys S) (h0 : run 0 = Sys.init P primal dedup U) :
    ¬ ∀ k, Step dedup okR okX (run k) (run (k + 1)) :=
  no_infinite_run hX run (h0 ▸ init_progOk nbVars P primal dedup U)

end Ddo.C03b

#print axioms Ddo.C03b.sys_inv_init
#print axioms Ddo.C03b.sys_inv_init_primal
#print axioms Ddo.C03b.sys_inv_step
#print axioms Ddo.C03b.sys_inv
#print axioms Ddo.C03b.sys_inv_seq
#print axioms Ddo.C03b.sys_complete_optimal
#print axioms Ddo.C03b.sys_solution_feasible
#print axioms Ddo.C03b.sys_cutoff_bounds
#print axioms Ddo.C03b.sys_cutoff_bounds_final
#print axioms Ddo.C03b.sys_primal
#print axioms Ddo.C03b.sys_primal_any
#print axioms Ddo.C03b.sys_complete_value
#print axioms Ddo.C03b.sys_final
#print axioms Ddo.C03b.sys_terminates
#print axioms Ddo.C03b.sys_progOk
#print axioms Ddo.C03b.sys_no_infinite_run
