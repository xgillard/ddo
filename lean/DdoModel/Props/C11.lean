import DdoModel.Proofs.Fringe
/-! # C11 — fringes are faithful priority queues; de-duplication never merges distinct sub-problems

* The *specification* `KeyedPQ` (a list of sub-problems with the coalescing rule of the property) and its laws for every push:
  only an entry with the same `(state, depth)` is ever touched, the survivor keeps the larger value with that value's own path
  and the larger upper bound, nothing else is lost or invented, the length grows by one exactly when no equal sub-problem is present.
* The *concrete* model `NoDup` (a field-by-field mirror of `NoDupFringe`, tied to the code by exact trace equality): `pop` returns
  the node at the heap root; in a well-formed, heap-ordered fringe that node is maximal for `MaxUB` (`pop_is_max`), hence pops come
  in non-increasing upper-bound order with ties by larger value, and `len` is the number of poppable items.
* That the invariants (`NoDup.wfB`, `NoDup.heapOrdB`, also evaluated by the driver on every state of every explored trace) are
  inductive and that `NoDup` refines `KeyedPQ` is `Props/C11Inv.lean`.  Of the two `Prop`s stated at the end of this file,
  `NoDupRefinesKeyed` holds; `NoDupInvariantInductive` has a vacuous hypothesis on the ranking (its second premise is `… → True`)
  and is false: the true statement is `NoDupInvariantInductive_total`.
* `SimpleFringe` is `binary_heap_plus::BinaryHeap` (modelled, not verified): `KeyedPQ.popOk`. -/
namespace Ddo.C11

/-- entries of other sub-problems are untouched by a push -/
theorem push_keeps_others (q : List Sub) (x y : Sub) (hy : y ∈ q) (hne : y.key ≠ x.key) :
    y ∈ KeyedPQ.push q x := by
  induction q with
  | nil => cases hy
  | cons z r ih =>
    simp only [KeyedPQ.push]
    split
    · next hz =>
      rcases List.mem_cons.mp hy with h | h
      · subst h; exact absurd hz hne
      · exact List.mem_cons_of_mem _ h
    · rcases List.mem_cons.mp hy with h | h
      · subst h; exact List.mem_cons_self
      · exact List.mem_cons_of_mem _ (ih h)

/-- whatever a push changes or removes denotes the same
    sub-problem (same state *and* same depth) as the pushed one -/
theorem coalesce_only_same_subproblem (q : List Sub) (x y : Sub) (hy : y ∈ q) (hgone : y ∉ KeyedPQ.push q x) :
    y.state = x.state ∧ y.depth = x.depth := by
  have : y.key = x.key := by
    cases h : decide (y.key = x.key) with
    | true => exact of_decide_eq_true h
    | false => exact absurd (push_keeps_others q x y hy (of_decide_eq_false h)) hgone
  simp only [Sub.key, FKey.mk.injEq] at this
  exact this

/-- nothing is invented: every entry after a push is an old entry, the pushed one, or their coalescing -/
theorem push_no_invention (q : List Sub) (x z : Sub) (hz : z ∈ KeyedPQ.push q x) :
    z ∈ q ∨ z = x ∨ ∃ y ∈ q, y.key = x.key ∧ z = coalesce y x := by
  induction q with
  | nil => simp [KeyedPQ.push] at hz; exact Or.inr (Or.inl hz)
  | cons w r ih =>
    simp only [KeyedPQ.push] at hz
    split at hz
    · next hw =>
      rcases List.mem_cons.mp hz with h | h
      · exact Or.inr (Or.inr ⟨w, List.mem_cons_self, hw, h⟩)
      · exact Or.inl (List.mem_cons_of_mem _ h)
    · rcases List.mem_cons.mp hz with h | h
      · exact Or.inl (h ▸ List.mem_cons_self)
      · rcases ih h with h' | h' | ⟨y, hy, hk, he⟩
        · exact Or.inl (List.mem_cons_of_mem _ h')
        · exact Or.inr (Or.inl h')
        · exact Or.inr (Or.inr ⟨y, List.mem_cons_of_mem _ hy, hk, he⟩)

/-- the survivor keeps the larger value together with that value's own path
    (tag) and depth, and the larger of the two upper bounds -/
theorem survivor_fields (old new : Sub) (hk : old.key = new.key) :
    let s := coalesce old new
    s.value = max old.value new.value ∧ s.ub = max new.ub old.ub ∧ s.key = new.key ∧
    (new.value > old.value → s.tag = new.tag) ∧ (new.value ≤ old.value → s.tag = old.tag) := by
  simp only [coalesce]
  split
  · next h => refine ⟨by simp; omega, rfl, rfl, fun _ => rfl, fun h' => by omega⟩
  · next h => refine ⟨by simp; omega, rfl, hk, fun h' => by omega, fun _ => rfl⟩

/-- the pushed sub-problem is represented afterwards (no loss of the new one either) -/
theorem push_represents_new (q : List Sub) (x : Sub) :
    ∃ z ∈ KeyedPQ.push q x, z.key = x.key ∧ x.value ≤ z.value ∧ x.ub ≤ z.ub := by
  induction q with
  | nil => exact ⟨x, by simp [KeyedPQ.push], rfl, Int.le_refl _, Int.le_refl _⟩
  | cons w r ih =>
    simp only [KeyedPQ.push]
    split
    · next hw =>
      refine ⟨coalesce w x, List.mem_cons_self, ?_, ?_, ?_⟩
      · exact (survivor_fields w x hw).2.2.1
      · rw [(survivor_fields w x hw).1]; omega
      · rw [(survivor_fields w x hw).2.1]; omega
    · obtain ⟨z, hz, h⟩ := ih
      exact ⟨z, List.mem_cons_of_mem _ hz, h⟩

/-- length: a push adds one item exactly when no equal sub-problem is present -/
theorem push_length (q : List Sub) (x : Sub) :
    (KeyedPQ.push q x).length = if q.any (fun y => decide (y.key = x.key)) then q.length else q.length + 1 := by
  induction q with
  | nil => simp [KeyedPQ.push]
  | cons w r ih =>
    simp only [KeyedPQ.push]
    split
    · next hw => simp [hw]
    · next hw => simp [hw, ih]; split <;> simp

section concrete
variable (rank : Int → Int → Ordering)

theorem swapPos_nodes (f f' : NoDup) (a b : Nat) (h : f.swapPos a b = some f') :
    f'.nodes = f.nodes ∧ f'.states = f.states ∧ f'.bin = f.bin ∧ f'.heap.length = f.heap.length := by
  unfold NoDup.swapPos at h
  cases h1 : f.heap[a]? with
  | none => simp [h1] at h
  | some ia =>
    cases h2 : f.heap[b]? with
    | none => simp [h1, h2] at h
    | some ib =>
      simp only [h1, h2, Option.bind_eq_bind, Option.bind_some] at h
      split at h
      · injection h with h; subst h; simp
      · cases h

theorem bubbleDownAt_nodes (fuel : Nat) (f f' : NoDup) (me : Nat) (h : f.bubbleDownAt rank me fuel = some f') :
    f'.nodes = f.nodes ∧ f'.states = f.states ∧ f'.bin = f.bin ∧ f'.heap.length = f.heap.length := by
  induction fuel generalizing f me with
  | zero => simp [NoDup.bubbleDownAt] at h; subst h; simp
  | succ n ih =>
    simp only [NoDup.bubbleDownAt] at h
    split at h
    · cases h
    · next kid _ =>
      split at h
      · injection h with h; subst h; simp
      · split at h
        · cases h
        · split at h
          · cases h
          · next f1 hs =>
            obtain ⟨a1, a2, a3, a4⟩ := swapPos_nodes f f1 _ _ hs
            obtain ⟨b1, b2, b3, b4⟩ := ih f1 kid h
            exact ⟨b1.trans a1, b2.trans a2, b3.trans a3, b4.trans a4⟩
        · injection h with h; subst h; simp

theorem bubbleDown_nodes (f f' : NoDup) (id : Nat) (h : f.bubbleDown rank id = some f') :
    f'.nodes = f.nodes ∧ f'.states = f.states ∧ f'.bin = f.bin ∧ f'.heap.length = f.heap.length := by
  unfold NoDup.bubbleDown at h
  split at h
  · cases h
  · exact bubbleDownAt_nodes rank _ f f' _ h

/-- `pop` hands out the node stored at the heap root, and shortens the heap by one: `len` is the
    number of poppable items -/
theorem pop_returns_root (f f' : NoDup) (x : Sub) (h : f.pop rank = some (f', some x)) :
    f.at? 0 = some x ∧ f'.len + 1 = f.len := by
  unfold NoDup.pop at h
  cases hh : f.heap with
  | nil => simp [hh] at h
  | cons id rest =>
    simp only [hh] at h
    split at h
    · cases h
    · next f2 hf2 =>
      split at h
      · cases h
      · next node hn =>
        simp only [Option.some.injEq, Prod.mk.injEq] at h
        obtain ⟨h1, h2⟩ := h
        subst h2
        -- f2 has the nodes of f and a heap one shorter
        have key : f2.nodes = f.nodes ∧ f2.heap.length + 1 = (id :: rest).length := by
          split at hf2
          · next hnil =>
            injection hf2 with hf2; subst hf2
            refine ⟨rfl, ?_⟩
            simp only at hnil ⊢
            rw [hnil]
            by_cases hl : (id :: rest).length = 1
            · simp [hl]
            · rw [if_neg hl] at hnil
              have : ((id :: rest).set 0 ((id :: rest).getLast?.getD id)).dropLast.length = 0 := by rw [hnil]; rfl
              simp at this; simp; omega
          · next h0 tl hcons =>
            split at hf2
            · obtain ⟨e1, _, _, e4⟩ := bubbleDown_nodes rank _ f2 _ hf2
              refine ⟨e1, ?_⟩
              rw [e4]
              simp only
              by_cases hl : (id :: rest).length = 1
              · rw [if_pos hl] at hcons; cases hcons
              · rw [if_neg hl]; simp
            · cases hf2
        constructor
        · simp only [NoDup.at?, hh, List.getElem?_cons_zero]
          rw [← key.1]; exact hn
        · subst h1
          simp only [NoDup.len, hh]
          exact key.2

/-- in a well-formed, heap-ordered fringe the popped sub-problem is maximal for the
    `MaxUB` ranking among everything the fringe holds … -/
theorem pop_is_max (hr : ∀ x y z, rank x y ≠ .gt → rank y z ≠ .gt → rank x z ≠ .gt) (hrefl : ∀ x, rank x x ≠ .gt)
    (f f' : NoDup) (x : Sub) (hord : f.HeapOrd rank) (htot : f.Total)
    (h : f.pop rank = some (f', some x)) :
    ∀ j, j < f.heap.length → ∀ a, f.at? j = some a → subLe rank a x := by
  intro j hj a ha
  exact NoDup.root_max rank hr hrefl f hord htot j hj a x ha (pop_returns_root rank f f' x h).1

/-- … hence pops come in non-increasing upper-bound order, ties by larger value -/
theorem pop_max_ub_value (hr : ∀ x y z, rank x y ≠ .gt → rank y z ≠ .gt → rank x z ≠ .gt) (hrefl : ∀ x, rank x x ≠ .gt)
    (f f' : NoDup) (x : Sub) (hord : f.HeapOrd rank) (htot : f.Total)
    (h : f.pop rank = some (f', some x)) :
    ∀ j, j < f.heap.length → ∀ a, f.at? j = some a → a.ub < x.ub ∨ (a.ub = x.ub ∧ a.value ≤ x.value) :=
  fun j hj a ha => subLe_ub_value rank a x (pop_is_max rank hr hrefl f f' x hord htot h j hj a ha)

/-- `pop` on an empty fringe returns `None` and changes nothing; `clear` empties it -/
theorem pop_empty (f : NoDup) (h : f.heap = []) : f.pop rank = some (f, none) := by
  unfold NoDup.pop; rw [h]
theorem clear_len (f : NoDup) : f.clear.len = 0 := rfl

end concrete

/-- the Boolean heap-order check the driver evaluates implies the `Prop` used above -/
theorem heapOrdB_sound (rank : Int → Int → Ordering) (f : NoDup) (h : f.heapOrdB rank = true) : f.HeapOrd rank := by
  intro j hj0 hjn a b ha hb
  simp only [NoDup.heapOrdB, List.all_eq_true, List.mem_range] at h
  have := h j hjn
  have hj : (j == 0) = false := by simp; omega
  simp only [hj, Bool.false_or, ha, hb] at this
  simpa [subLe] using this

/-- the checked invariants are inductive: preserved by every operation that returns.  **False as stated** (the second premise on
    `rank` is vacuous): `NoDupInvariantInductive_literal_false`; with `RankOK`: `NoDupInvariantInductive_total`. -/
def NoDupInvariantInductive : Prop :=
  ∀ (rank : Int → Int → Ordering), (∀ x y z, rank x y ≠ .gt → rank y z ≠ .gt → rank x z ≠ .gt) →
    (∀ x y, rank x y = .gt ∨ rank y x ≠ .lt → True) →
  ∀ (f : NoDup), f.wfB = true → f.heapOrdB rank = true →
    (∀ x f', f.push rank x = some f' → f'.wfB = true ∧ f'.heapOrdB rank = true) ∧
    (∀ f' o, f.pop rank = some (f', o) → f'.wfB = true ∧ f'.heapOrdB rank = true)

/-- abstraction of the concrete fringe: the live nodes -/
def absNoDup (f : NoDup) : List Sub := f.heap.filterMap (fun id => f.nodes[id]?)

/-- refinement: every concrete push is the specification's push on the abstraction (up to order) -/
def NoDupRefinesKeyed : Prop :=
  ∀ (rank : Int → Int → Ordering) (f f' : NoDup) (x : Sub), f.wfB = true → f.push rank x = some f' →
    ∀ z, z ∈ absNoDup f' ↔ z ∈ KeyedPQ.push (absNoDup f) x

/-! ## the defect found in the pinned commit (D2, repaired by a `fix:` commit): the old key merged
    distinct sub-problems -/
theorem keyOld_merges_distinct :
    (⟨0, 0, 0, 2, 1⟩ : Sub).keyOld = (⟨0, 1, 0, 2, 2⟩ : Sub).keyOld ∧
    (⟨0, 0, 0, 2, 1⟩ : Sub).key ≠ (⟨0, 1, 0, 2, 2⟩ : Sub).key := by decide

/-! non-vacuity: a concrete well-formed, heap-ordered fringe with three nodes -/
def exF : NoDup := ((NoDup.empty.push icmp ⟨1, 0, 5, 10, 1⟩).bind (·.push icmp ⟨2, 0, 7, 12, 2⟩)).bind (·.push icmp ⟨1, 1, 3, 12, 3⟩) |>.getD NoDup.empty
example : exF.wfB = true ∧ exF.heapOrdB icmp = true ∧ exF.len = 3 := by decide +kernel
example : (exF.pop icmp).map (·.2) = some (some ⟨2, 0, 7, 12, 2⟩) := by decide +kernel

end Ddo.C11
