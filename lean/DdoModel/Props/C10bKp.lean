import DdoModel.Props.C10b
set_option linter.unusedSectionVars false
set_option linter.unusedVariables false

/-! ## non-vacuity of the positive theorem: the knapsack rule of the `ddo` documentation, with real pruning

Capacity 5, items (weight, profit) = (2,3), (3,3), (4,5), optimum 6.  State = remaining capacity; rule: same depth, more capacity
is better, value used.  The model is `WellFormed`, the rule is simulation-admissible (`simAdmissible`), hence has a protected
optimal strategy (`undomOpt`); the checker does prune (inside a layer: `prunes_in_layer`; across compilations through the shared
store: `prunes_across`), and the solver with the checker enabled returns the optimum (`decide`, and by the headline). -/
namespace Ddo.C10.Kp
open Ddo Ddo.C01 Ddo.Closed

def items : List (Int × Int) := [(2, 3), (3, 3), (4, 5)]
def wt (x : Nat) : Int := (items.getD x (0, 0)).1
def pr (x : Nat) : Int := (items.getD x (0, 0)).2

def prob : Problem Int :=
  { nbVars := 3, init := 5, initVal := 0,
    trans := fun s d => if d.val = 1 then s - wt d.var else s,
    cost := fun _ _ d => if d.val = 1 then pr d.var else 0,
    nextVar := fun k _ => if k < 3 then some k else none,
    domain := fun x s => if wt x ≤ s then [1, 0] else [0],
    impacted := fun _ _ => true }
def maxL : List Int → Int
  | [] => 0
  | [x] => x
  | x :: y :: r => max x (maxL (y :: r))
def rlx : Relax Int := { merge := maxL, relax := fun _ _ _ _ c => c, rub := fun _ => 11 }
def rule : DomRule Int Unit := { key := fun _ => some (), dims := fun _ => 1, coord := fun s _ => s, useValue := true }
def sv (w : Nat) (dedup : Bool) (kind : CutsetKind) : SolverCfg Int :=
  { P := prob, R := rlx, rank := ⟨fun a b => icmp a b⟩, width := fun _ => w, kind := kind, dedup := dedup }
def dv (w : Nat) (dedup : Bool) (kind : CutsetKind) : DSolverCfg Int Unit := ⟨sv w dedup kind, rule⟩

def kpH : List (Int × Int) → Int → Int
  | [], _ => 0
  | wp :: r, c => if wp.1 ≤ c then max (kpH r c) (wp.2 + kpH r (c - wp.1)) else kpH r c
def H (k : Nat) (s : Int) : EInt := some (kpH (items.drop k) s)

theorem kpH_mono (l : List (Int × Int)) : ∀ c c', c ≤ c' → kpH l c ≤ kpH l c' := by
  induction l with
  | nil => intro _ _ _; exact Int.le_refl _
  | cons wp r ih =>
    intro c c' h
    simp only [kpH]
    by_cases h1 : wp.1 ≤ c
    · rw [if_pos h1, if_pos (Int.le_trans h1 h)]
      exact Int.max_le.mpr ⟨Int.le_trans (ih c c' h) (Int.le_max_left _ _),
        Int.le_trans (Int.add_le_add_left (ih _ _ (Int.sub_le_sub_right h _)) _) (Int.le_max_right _ _)⟩
    · rw [if_neg h1]
      by_cases h2 : wp.1 ≤ c'
      · rw [if_pos h2]; exact Int.le_trans (ih c c' h) (Int.le_max_left _ _)
      · rw [if_neg h2]; exact ih c c' h

theorem kpH_bounds (l : List (Int × Int)) (hp : ∀ wp ∈ l, 0 ≤ wp.2) : ∀ c, 0 ≤ kpH l c ∧ kpH l c ≤ (l.map (·.2)).sum := by
  induction l with
  | nil => intro c; simp [kpH]
  | cons wp r ih =>
    intro c
    have h0 := hp wp List.mem_cons_self
    have ihr := ih (fun x hx => hp x (List.mem_cons_of_mem _ hx))
    have h1 := ihr c
    have h2 := ihr (c - wp.1)
    simp only [kpH, List.map_cons, List.sum_cons]
    split <;> omega

theorem nv_some {k : Nat} {L : List Int} {x : Nat} (h : prob.nextVar k L = some x) : k < 3 ∧ x = k := by
  simp only [prob] at h
  split at h
  · next hk => cases h; exact ⟨hk, rfl⟩
  · cases h

theorem H_step {k : Nat} (hk : k < 3) (s : Int) :
    kpH (items.drop k) s = if wt k ≤ s then max (kpH (items.drop (k + 1)) s) (pr k + kpH (items.drop (k + 1)) (s - wt k))
      else kpH (items.drop (k + 1)) s := by
  have hk3 : k = 0 ∨ k = 1 ∨ k = 2 := by omega
  rcases hk3 with rfl | rfl | rfl <;> rfl

theorem potential : Potential prob H := by
  refine ⟨?_, ?_, ?_⟩
  · intro k L x s h hnv _ hH
    obtain ⟨hk, rfl⟩ := nv_some hnv
    simp only [H, Option.some.injEq] at hH
    rw [H_step hk] at hH
    by_cases hw : wt x ≤ s
    · rw [if_pos hw] at hH
      by_cases hm : kpH (items.drop (x + 1)) s ≤ pr x + kpH (items.drop (x + 1)) (s - wt x)
      · rw [Int.max_eq_right hm] at hH
        refine ⟨1, by simp [prob, hw], _, rfl, ?_⟩
        simp only [prob, if_true]
        exact Int.le_of_eq hH.symm
      · rw [Int.max_eq_left (Int.le_of_lt (Int.not_le.mp hm))] at hH
        refine ⟨0, by simp [prob, hw], _, rfl, ?_⟩
        simp only [prob, Int.zero_ne_one, if_false, Int.zero_add]
        exact Int.le_of_eq hH.symm
    · rw [if_neg hw] at hH
      refine ⟨0, by simp [prob, hw], _, rfl, ?_⟩
      simp only [prob, Int.zero_ne_one, if_false, Int.zero_add]
      exact Int.le_of_eq hH.symm
  · intro k L x s v p d _ hnv _ hd
    obtain ⟨hk, rfl⟩ := nv_some hnv
    show EInt.addI (some (kpH (items.drop (x + 1)) (prob.trans s ⟨x, d⟩))) (prob.cost s (prob.trans s ⟨x, d⟩) ⟨x, d⟩) ≤
      (some (kpH (items.drop x) s) : EInt)
    rw [H_step hk]
    simp only [prob] at hd ⊢
    by_cases hw : wt x ≤ s
    · rw [if_pos hw] at hd ⊢
      have hd' : d = 1 ∨ d = 0 := by simpa using hd
      rcases hd' with rfl | rfl
      · simp only [if_true, EInt.addI, Option.map_some, EInt.some_le_some]
        exact Int.le_trans (Int.le_of_eq (Int.add_comm _ _)) (Int.le_max_right _ _)
      · simp only [Int.zero_ne_one, if_false, EInt.addI, Option.map_some, EInt.some_le_some, Int.add_zero]
        exact Int.le_max_left _ _
    · rw [if_neg hw] at hd ⊢
      have hd' : d = 0 := by simpa using hd
      subst hd'
      simp only [Int.zero_ne_one, if_false, EInt.addI, Option.map_some, EInt.some_le_some, Int.add_zero]
      exact Int.le_refl _
  · intro k L s hnv _
    have hk : 3 ≤ k := Nat.le_of_not_lt (fun h => by simp only [prob, if_pos h] at hnv; cases hnv)
    have : items.drop k = [] := List.drop_eq_nil_of_le (by simpa [items] using hk)
    simp only [H, this, kpH]

theorem items_pos : ∀ wp ∈ items, 0 ≤ wp.2 := by decide

theorem rubOk : RubOk rlx H := by
  intro k s h hH
  simp only [H, Option.some.injEq] at hH
  have hb := (kpH_bounds (items.drop k) (fun wp h => items_pos wp (List.mem_of_mem_drop h)) s).2
  -- the profits of the items still to come sum up to at most 11
  have : ((items.drop k).map (·.2)).sum ≤ 11 := by
    have hk4 : k = 0 ∨ k = 1 ∨ k = 2 ∨ 3 ≤ k := by omega
    rcases hk4 with rfl | rfl | rfl | hk
    · decide
    · decide
    · decide
    · rw [List.drop_eq_nil_of_le (by simpa [items] using hk)]; decide
  simp only [rlx]; omega

theorem maxL_ge : ∀ (X : List Int) (u : Int), u ∈ X → u ≤ maxL X := by
  intro X
  induction X with
  | nil => intro u hu; cases hu
  | cons x r ih =>
    intro u hu
    cases r with
    | nil =>
      have : u = x := by simpa using hu
      subst this; exact Int.le_refl _
    | cons y r' =>
      rcases List.mem_cons.mp hu with rfl | hu
      · simp only [maxL]; omega
      · have := ih u hu
        simp only [maxL] at this ⊢; omega

theorem mergeOk : MergeOk rlx H := by
  intro k X u src d c h hu hH
  simp only [H, Option.some.injEq] at hH
  refine ⟨_, rfl, ?_⟩
  have := kpH_mono (items.drop k) u (maxL X) (maxL_ge X u hu)
  simp only [rlx]; omega

theorem nvBound : NvBound prob := fun k L hk => if_neg (Nat.not_lt.mpr hk)

theorem pr_range (x : Nat) : 0 ≤ pr x ∧ pr x ≤ 5 := by
  have hk4 : x = 0 ∨ x = 1 ∨ x = 2 ∨ 3 ≤ x := by omega
  rcases hk4 with rfl | rfl | rfl | hk
  · decide
  · decide
  · decide
  · have : items.getD x (0, 0) = (0, 0) := by
      unfold List.getD
      rw [List.getElem?_eq_none (by simpa [items] using hk)]; rfl
    simp only [pr, this]; omega

theorem costBound (s s' : Int) (d : Dec) : -5 ≤ prob.cost s s' d ∧ prob.cost s s' d ≤ 5 := by
  have := pr_range d.var
  simp only [prob]
  split <;> omega

theorem runBound : RunBound prob rlx 5 20 :=
  ⟨⟨by decide, by decide, fun s s' d => by have := costBound s s' d; omega, fun s u m d c hc => hc, by decide⟩,
   ⟨by decide, costBound⟩, by decide⟩

theorem wellFormed (w : Nat) (hw : 1 ≤ w) (dedup : Bool) (kind : CutsetKind) : WellFormed (sv w dedup kind) H 5 20 :=
  ⟨potential, rubOk, mergeOk, Cover.attMerge_of_static potential (fun _ _ _ _ _ => rfl), runBound, nvBound, fun _ => hw⟩

theorem opt6 : (H 0 prob.init).addI prob.initVal = some 6 := by decide


theorem geItem_iff (a : Int) (va : Int) (b : Int) (vb : Int) : GeItem rule 1 a va b vb ↔ (b ≤ a ∧ vb ≤ va) := by
  have e : ∀ s v, (rule.ent 1 s v).coords = [s] := fun s v => rfl
  have ev : ∀ s v, (rule.ent 1 s v).value = v := fun s v => rfl
  have hu : rule.useValue = true := rfl
  unfold GeItem
  rw [hu]
  simp only [geEnt, e, ev, leB, Bool.not_true, Bool.false_or, Bool.and_true, Bool.and_eq_true, decide_eq_true_eq]
  constructor
  · rintro (⟨rfl, h⟩ | ⟨_, h1, h2⟩)
    · exact ⟨Int.le_refl _, h⟩
    · exact ⟨h1, h2⟩
  · rintro ⟨h1, h2⟩
    exact Or.inr ⟨⟨(), rfl, rfl⟩, h1, h2⟩

/-- more capacity and more value can mimic every decision -/
theorem simAdmissible : SimAdmissible rule prob 1 := by
  constructor
  · intro d a va b vb pa pb L x _ _ hge hnv _ db hdb
    rw [geItem_iff] at hge
    simp only [prob] at hdb ⊢
    by_cases hw : wt x ≤ b
    · rw [if_pos hw] at hdb
      have hwa : wt x ≤ a := Int.le_trans hw hge.1
      rw [if_pos hwa]
      have hd' : db = 1 ∨ db = 0 := by simpa using hdb
      rcases hd' with rfl | rfl
      · refine ⟨1, by simp, ?_⟩
        rw [geItem_iff]; simp only [if_true]
        exact ⟨Int.sub_le_sub_right hge.1 _, Int.add_le_add_right hge.2 _⟩
      · refine ⟨0, by simp, ?_⟩
        rw [geItem_iff]; simp only [Int.zero_ne_one, if_false]
        exact ⟨hge.1, Int.add_le_add_right hge.2 _⟩
    · rw [if_neg hw] at hdb
      have hd' : db = 0 := by simpa using hdb
      subst hd'
      refine ⟨0, by split <;> simp, ?_⟩
      rw [geItem_iff]; simp only [Int.zero_ne_one, if_false]
      exact ⟨hge.1, Int.add_le_add_right hge.2 _⟩
  · intro d a va b vb pa pb L _ _ hge _ _
    rw [geItem_iff] at hge
    exact hge.2

theorem staticOrder : StaticOrder prob := fun _ _ _ _ _ => rfl

theorem undomOpt : UndomOpt rule prob H 6 :=
  undomOpt_of_sim rule prob H 1 6 (fun _ => rfl) potential nvBound staticOrder simAdmissible opt6

/-- one restricted compilation of the root, width 3: the layer of depth 2 holds `(capacity, value)` = `(0,6), (3,3), (2,3), (5,0)`;
    `(2,3)` is dominated by `(3,3)` and dropped (`ndom = 1`) -/
theorem prunes_in_layer :
    ((dv 3 false .lel).compR (DomStore.init 3) ⟨5, 0, [], iMax, 0⟩ iMin).2.2.2.ndom = 1 := by decide +kernel

/-- width 1: the run with the checker explores 2 sub-problems, the run without explores 3 (an entry recorded by one compilation
    prunes a node of a later one: the store is shared); both return the optimum -/
theorem prunes_across :
    ((dv 1 false .lel).solveLoop 12 (dv 1 false .lel).init).st.completion = (true, some 6) ∧
    ((dv 1 false .lel).solveLoop 12 (dv 1 false .lel).init).st.fringe.length = 0 ∧
    ((dv 1 false .lel).solveLoop 12 (dv 1 false .lel).init).st.explored = 2 ∧
    ((sv 1 false .lel).solveLoop 12 (SeqSt.init prob none false)).completion = (true, some 6) ∧
    ((sv 1 false .lel).solveLoop 12 (SeqSt.init prob none false)).explored = 3 := by decide +kernel

theorem loop_value (w : Nat) (hw : w = 1 ∨ w = 2 ∨ w = 3) :
    ((dv w true .frontier).solveLoop 12 (dv w true .frontier).init).st.completion = (true, some 6) ∧
    ((dv w true .frontier).solveLoop 12 (dv w true .frontier).init).st.fringe.length = 0 := by
  rcases hw with rfl | rfl | rfl <;> decide +kernel

end Ddo.C10.Kp

namespace Ddo.C10.Kp
open Ddo Ddo.C01 Ddo.Closed

/-- **the headline (`dominance_solver_optimal`), instantiated on the knapsack rule**: every run of the solver with the checker enabled
    (any width ≥ 1, either fringe, either cut-set kind) that reaches the empty fringe reports `is_exact = true`,
    `best_value = Some(6)`; before that a turn is always possible -/
theorem correct (w : Nat) (hw : 1 ≤ w) (dedup : Bool) (kind : CutsetKind) (t : DSt Int Unit)
    (ht : DRun (dv w dedup kind) (dv w dedup kind).init t) :
    (t.st.fringe = [] → t.st.completion = (true, some 6)) ∧ (t.st.fringe ≠ [] → ∃ u, DStep (dv w dedup kind) t u) :=
  ⟨fun hend => (((dominance_solver_optimal (dv w dedup kind) H 5 20 6 (wellFormed w hw dedup kind) opt6 undomOpt).2.2 t ht).2
      hend).2.2,
   ((dominance_solver_optimal (dv w dedup kind) H 5 20 6 (wellFormed w hw dedup kind) opt6 undomOpt).2.2 t ht).1⟩

/-- the value computed by the fuel-driven loop is the one the theorem predicts -/
example : ((dv 1 false .lel).solveLoop 12 (dv 1 false .lel).init).st.completion = (true, some 6) :=
  (correct 1 (Nat.le_refl 1) false .lel _ (solveLoop_drun (dv 1 false .lel) 12 _)).1
    (List.eq_nil_of_length_eq_zero prunes_across.2.1)

end Ddo.C10.Kp

#print axioms Ddo.C10.Kp.wellFormed
#print axioms Ddo.C10.Kp.simAdmissible
#print axioms Ddo.C10.Kp.undomOpt
#print axioms Ddo.C10.Kp.prunes_in_layer
#print axioms Ddo.C10.Kp.prunes_across
#print axioms Ddo.C10.Kp.loop_value
#print axioms Ddo.C10.Kp.correct
