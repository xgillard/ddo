import DdoModel.Proofs.CacheClosedSolver
/-! # C09 (closed) — the caching sequential solver over the diagram model returns the optimum, **for every pop order**

`Props/C09b.lean` has the soundness of the thresholds (`theta_sound`) and discharges three fields of the contract `CompC` of a
caching compilation from the diagram model; the abstract invariant `CInvC` of the caching solver under `CompC`, whatever node is
popped, is `processC_inv_any` (`Proofs/SeqCacheDedup.lean`).  The remaining fields are in `Proofs/CacheClosedContract.lean`; here the composition is
closed in the style of `Props/C01d.lean` (`Ddo.C01.sequential_solver_correct`).

**Finding D14 and its repair.**  The solver used to cap the bound of every cut-set node by the bound of the sub-problem just
processed (`enqueue_cutset(ub)`: `cutset_node.ub = ub.min(cutset_node.ub)`).  With the threshold cache that is unsound when
sub-problems are not processed best-first: `anyOrderOpt_false` (a statement about that **pre-fix** solver, modelled as the
named variant `kturnCapped` / `KRunAnyCapped` / `ksolveSchedCapped` of `Proofs/CacheClosedDefs.lean`).  The code was repaired
by **dropping the cap** (and taking `best_ub := min best_ub node.ub` at pop, so that the *reported* bound stays monotone); the
model of this development — `SeqSt.enqueue`, `SolverCfg.kturn`, `KStepAny`, … — is the repaired solver, and the headline
`caching_solver_correct` holds for **every** pop order.

## the contract `CompC` from the diagram model (`Proofs/CacheClosed*.lean`)

For a compilation that consults a cache (`cfg.useCache = true`, **any** content — the content is constrained by the solver
invariant, clause `CInvC.cache`, not by the compilation), well-formed model, width ≥ 1, no dominance rule:

* `ub_contract_of_model` — field `ub`.  Facts about the diagram: *a node pruned by the cache is never marked*
  (`Ddo.Theta.Ctx.marked_clean`: `_compute_local_bounds` only marks the terminal layer and the sources of inbound arcs —
  `Ddo.CacheClosed.finalize_marked` —, and every inbound arc comes from a node that was handed to the expansion —
  `Ddo.CacheClosed.built_arcs_live`), so a node handed out by `drain_cutset` was not pruned and the cache alternative of
  `np_all` is strictly deeper;
* `fresh_contract_of_model` — field `fresh`: the instance of `Ddo.C10d.fresh_contract_joint` (`Proofs/FreshJoint.lean`, which holds for
  every cache, store and rule).  Facts: *the nodes of a layer that are not flagged relaxed have pairwise distinct states*
  (`DistX`) and *an un-merged node of an inner layer that is not pruned is strictly above the cached threshold* (`Filt`).
  Hence the only update of the compilation that hits the `(state, depth)` of a cut-set node whose bound beats the incumbent is
  `(value, explored = false)`, which `must_explore` accepts.  (`KFacts.distinct` / `KFacts.filt`, the cache-only form of the two
  facts from `Proofs/CacheClosedDistinct.lean`, are not read here.)
* `exactCut_contract_of_model`; `sound` from `Ddo.CacheClosed.isSol_relaxed_cached` (the exact-best-path argument `G2`
  survives `_filter_with_cache`, which only removes nodes); `good`, `rng`, `sub`, `deeper` from C08 (i)/(ii), which never
  depended on the cache;
* `compC_relaxed_of_model` — all eleven fields, relaxed compilation (`must` result);
* `compC_restricted_of_model` — the **restricted** compilation.  When it is exact (nothing was dropped) it *is*, step by step,
  the relaxed compilation of the same input (`Ddo.CacheClosed.restricted_exact_as_relaxed`: same built diagram, same exact
  value, same thresholds, empty cut-set), so `TInv` / `theta_sound` apply to it as they are; when it is not exact it records
  nothing (`restricted_inexact_no_ups`);
* `Ddo.CacheClosed.compile_no_crash_cached`, `ups_depth_relaxed` / `ups_depth_restricted`: no compilation crashes, and every
  `update_threshold` is in range (`depth ≤ nb_variables`).

## the concrete solver (`Proofs/CacheClosedDefs.lean`)

`CSolverCfg = Ddo.C01.SolverCfg` with the compilations configured by `SolverCfg.ccfg` (`useCache := true`); state `KSt` =
`SeqSt` + `Cache`; `SolverCfg.kturn` = one turn (cache-cleaning loop with its `clear_layer` calls, pop, `afterPop`, bound
test, `must_explore` — **read-only**: `Cache::must_explore` in `abstraction/cache.rs` only calls `get_threshold`, it does not
record the popped node —, restricted compilation consulting the cache + replay of its `update_threshold` calls, relaxed
compilation consulting the *updated* cache + replay, `maybe_update_best`, `enqueue_cutset` — no cap); `KStepAny` (one turn, any
entry of the fringe popped), `KRunAny`, `KStep` (best-first pop), `KRun`, `SolverCfg.ksolveLoop` (fuel-driven, best-first),
`SolverCfg.ksolveSched` (explicit pop schedule).

## the headline `caching_solver_correct`

Same hypotheses as `sequential_solver_correct` (`WellFormed sv H B0 B`, nothing added), **any pop order**.  `KInvSt` is the loop
invariant; `kturn_inv` (in `Proofs/CacheClosedSolver.lean`): a turn from a state satisfying it, whatever node is popped, does
not panic, preserves it, and is a `Step` of `Props/C01t.lean` on the sequential state (a node skipped by `must_explore` also
decreases the measure).  `caching_solver_correct_bestfirst`: the corollary for best-first pops (`KStep` / `KRun`).

## non-vacuity — `Revisit` (`Props/C09cWitness.lean`): a model on which `must_explore` really refuses a popped node (evaluated through the fuel loop).

## arbitrary pop orders — `caching_solver_anyorder_sound` (every pop order: termination, no panic, soundness; a corollary of the
headline), `AnyOrderOptFixed` / `anyOrderOptFixed_true` (optimality for every pop order: the headline) and, about the
**pre-fix** solver, `AnyOrderOpt` / `anyOrderOpt_false` (**optimality failed** for a breadth-first pop order on a well-formed
model; `Props/C09cWitness.lean`, counter-example in `Proofs/AnyOrderLayered.lean`). -/
set_option linter.unusedSectionVars false
set_option linter.unusedVariables false
namespace Ddo.C09
open Ddo Ddo.C01 Ddo.Closed Ddo.Truth
variable {S : Type} [DecidableEq S]

theorem init_kinv {sv : SolverCfg S} {H : Nat → S → EInt} {B0 B : Int} (hwf : WellFormed sv H B0 B) :
    KInvSt sv H B (KSt.init sv) := by
  have hfr : (SeqSt.init sv.P none sv.dedup).fringe = [⟨sv.P.init, sv.P.initVal, [], iMax, 0⟩] := by
    cases hd : sv.dedup <;> rfl
  refine ⟨?_, Int.le_refl _, fun _ => rfl, rfl, ?_, fun _ => ⟨rfl, rfl⟩, ?_, init_linv sv⟩
  · intro c hc
    rw [show (KSt.init sv).st.fringe = _ from hfr] at hc
    rcases List.mem_cons.mp hc with e | e
    · subst e; exact ⟨[], Reach.root, List.Perm.refl _⟩
    · cases e
  · intro opt hopt
    have hb := opt_bound hwf.pot hwf.nv hwf.bound hopt
    have hBs := hwf.bound.B_small
    show CInvC H opt (SolOf sv.P) (RgB B) (SeqSt.init sv.P none sv.dedup).fringe (viewOf (Cache.init sv.P.nbVars)) iMin none
    rw [hfr, viewOf_init]
    refine init_cinvC H opt (SolOf sv.P) (RgB B) _ iMin none ?_ rfl ?_ ?_ ?_ (fun p hp => by cases hp) (fun _ => hopt)
    · intro x hx
      have : optOf H ⟨sv.P.init, sv.P.initVal, [], iMax, 0⟩ = some opt := hopt
      rw [this] at hx
      have := Option.some.inj hx
      omega
    · simp only [iMax]; omega
    · have := hwf.bound.clamp.root
      show Cover.Within (Cover.Bd B 0) sv.P.initVal
      unfold Cover.Within Cover.Bd
      simp only [Int.natCast_zero, Int.zero_add, Int.one_mul]
      exact this
    · show iMin ≤ opt
      simp only [iMin]; omega
  · show (Cache.init sv.P.nbVars : Cache S).layers.length = sv.P.nbVars + 1
    simp [Cache.init]

/-- **(a) `KInvSt` is a loop invariant of the caching solver for every pop order**, and a turn is a `Step` of
    `Props/C01t.lean` on the sequential state -/
theorem kstepAny_inv {sv : SolverCfg S} {H : Nat → S → EInt} {B0 B : Int} (hwf : WellFormed sv H B0 B) {s t : KSt S}
    (h : KStepAny sv s t) (hI : KInvSt sv H B s) : KInvSt sv H B t ∧ C01t.Step sv.P.nbVars sv.dedup s.st t.st := by
  cases h with
  | pop N rest hpop hturn =>
    obtain ⟨t', ht', hT, hS⟩ := kturn_inv hwf s N rest hpop hI
    rw [hturn] at ht'
    cases ht'
    exact ⟨hT, hS⟩

theorem krunAny_inv {sv : SolverCfg S} {H : Nat → S → EInt} {B0 B : Int} (hwf : WellFormed sv H B0 B) {s t : KSt S}
    (h : KRunAny sv s t) (hI : KInvSt sv H B s) : KInvSt sv H B t := by
  induction h with
  | refl => exact hI
  | tail _ hstep ih => exact (kstepAny_inv hwf hstep ih).1

theorem kstep_inv {sv : SolverCfg S} {H : Nat → S → EInt} {B0 B : Int} (hwf : WellFormed sv H B0 B) {s t : KSt S}
    (h : KStep sv s t) (hI : KInvSt sv H B s) : KInvSt sv H B t := (kstepAny_inv hwf h.any hI).1

theorem krun_inv {sv : SolverCfg S} {H : Nat → S → EInt} {B0 B : Int} (hwf : WellFormed sv H B0 B) {s t : KSt S}
    (h : KRun sv s t) (hI : KInvSt sv H B s) : KInvSt sv H B t := krunAny_inv hwf h.any hI

/-- **(b)**: a state that satisfies the invariant and has an empty fringe reports the optimum with a feasible solution of
    that value — or nothing iff the problem is infeasible; `is_exact` is reported in both cases -/
theorem kinv_end_correct {sv : SolverCfg S} {H : Nat → S → EInt} {B0 B : Int} (hwf : WellFormed sv H B0 B) {t : KSt S}
    (hI : KInvSt sv H B t) (hend : t.st.fringe = []) :
    (∀ opt, (H 0 sv.P.init).addI sv.P.initVal = some opt →
      t.st.bestLb = opt ∧ (∃ p, t.st.bestSol = some p ∧ SolOf sv.P p opt) ∧ t.st.completion = (true, some opt)) ∧
    ((H 0 sv.P.init).addI sv.P.initVal = none → t.st.bestSol = none ∧ t.st.completion = (true, none)) := by
  have hab : t.st.abort = false := hI.noAbort
  constructor
  · intro opt hopt
    have hinv := hI.feas opt hopt
    rw [hend] at hinv
    obtain ⟨h1, h2⟩ := caching_solver_optimal H opt (SolOf sv.P) (RgB B) _ _ _ hinv
    have hb := opt_bound hwf.pot hwf.nv hwf.bound hopt
    have hBs := hwf.bound.B_small
    cases hs : t.st.bestSol with
    | none =>
      have := hI.solLb hs
      simp only [iMin] at this
      omega
    | some p =>
      refine ⟨h1, ⟨p, rfl, h2 p hs⟩, ?_⟩
      unfold SeqSt.completion
      rw [hab, hs, h1]; rfl
  · intro hinf
    obtain ⟨_, h2⟩ := hI.infeas hinf
    refine ⟨h2, ?_⟩
    unfold SeqSt.completion
    rw [hab, h2]; rfl

/-- **(c) termination**: the step relation with arbitrary pops, on the states that satisfy the invariant, is well-founded -/
theorem kstepAny_terminates {sv : SolverCfg S} {H : Nat → S → EInt} {B0 B : Int} (hwf : WellFormed sv H B0 B) :
    WellFounded (fun t s : KSt S => KInvSt sv H B s ∧ KStepAny sv s t) :=
  Subrelation.wf (r := InvImage (fun t s : SeqSt S => C01t.Step sv.P.nbVars sv.dedup s t) KSt.st)
    (fun {_ _} h => (kstepAny_inv hwf h.2 h.1).2) (InvImage.wf _ (C01t.seq_terminates sv.P.nbVars sv.dedup))

theorem no_infinite_krunAny {sv : SolverCfg S} {H : Nat → S → EInt} {B0 B : Int} (hwf : WellFormed sv H B0 B)
    (run : Nat → KSt S) (h0 : run 0 = KSt.init sv) : ¬ ∀ n, KStepAny sv (run n) (run (n + 1)) :=
  no_infinite_run_of (I := KInvSt sv H B) (kstepAny_terminates hwf) (fun hI hs => (kstepAny_inv hwf hs hI).1) And.intro run
    (h0 ▸ init_kinv hwf)

/-- under the invariant a best-first turn is a `Step` of `Props/C01t.lean` on the sequential state (skipped nodes included) -/
theorem kstep_step {sv : SolverCfg S} {H : Nat → S → EInt} {B0 B : Int} (hwf : WellFormed sv H B0 B) {s t : KSt S}
    (hI : KInvSt sv H B s) (h : KStep sv s t) : C01t.Step sv.P.nbVars sv.dedup s.st t.st := (kstepAny_inv hwf h.any hI).2

theorem kstep_terminates {sv : SolverCfg S} {H : Nat → S → EInt} {B0 B : Int} (hwf : WellFormed sv H B0 B) :
    WellFounded (fun t s : KSt S => KInvSt sv H B s ∧ KStep sv s t) :=
  Subrelation.wf (fun {_ _} h => ⟨h.1, h.2.any⟩) (kstepAny_terminates hwf)

theorem no_infinite_krun {sv : SolverCfg S} {H : Nat → S → EInt} {B0 B : Int} (hwf : WellFormed sv H B0 B)
    (run : Nat → KSt S) (h0 : run 0 = KSt.init sv) : ¬ ∀ n, KStep sv (run n) (run (n + 1)) :=
  fun hrun => no_infinite_krunAny hwf run h0 (fun n => (hrun n).any)

/-- **whatever entry of the fringe is popped, the turn is possible**: no cache access is out of range, both compilations end
    normally -/
theorem kstepAny_progress {sv : SolverCfg S} {H : Nat → S → EInt} {B0 B : Int} (hwf : WellFormed sv H B0 B) {s : KSt S}
    (hI : KInvSt sv H B s) (N : SubP S) (rest : List (SubP S)) (hpop : s.st.fringe.Perm (N :: rest)) :
    ∃ u, KStepAny sv s u ∧ sv.kturn s N rest = some u := by
  obtain ⟨u, hu, _, _⟩ := kturn_inv hwf s N rest hpop hI
  exact ⟨u, KStepAny.pop s u N rest hpop hu, hu⟩

theorem kstep_progress {sv : SolverCfg S} {H : Nat → S → EInt} {B0 B : Int} (hwf : WellFormed sv H B0 B) {s : KSt S}
    (hI : KInvSt sv H B s) (hne : s.st.fringe ≠ []) : ∃ t, KStep sv s t := by
  obtain ⟨N, rest, hp⟩ := popMax_some s.st.fringe hne
  obtain ⟨hpop, hmax⟩ := popMax_spec s.st.fringe N rest hp
  obtain ⟨t, ht, _, _⟩ := kturn_inv hwf s N rest hpop hI
  exact ⟨t, KStep.pop s t N rest hpop hmax ht⟩

/-- **`caching_solver_correct`**: for every well-formed model (`Ddo.C01.WellFormed`, the bundle of
    `sequential_solver_correct`: `Potential`, `RubOk`, `MergeOk`, `AttMerge`, `RunBound`, `NvBound`, widths ≥ 1 — nothing
    added), every ranking, width function, cut-set kind and either fringe, the sequential solver **with the threshold cache**
    over the diagram model (both compilations consult and update the cache; `must_explore` at pop; `clear_layer` in
    `get_workload`; `enqueue_cutset` pushes the cut-set nodes with the bounds of their own diagram — no cap; no dominance, no
    cutoff), popping the fringe in **any order** (`KStepAny`: a custom `SubProblemRanking`, or sub-problems processed out of
    order)

    * terminates: the step relation is well-founded on the reachable states, there is no infinite run;
    * never panics: whatever entry of the fringe is popped the turn is possible (no compilation crashes, no cache access is
      out of range), the `open_by_layer` bookkeeping never under- or overflows, the search is not aborted;
    * when the fringe is empty: reports `is_exact = true` and **the optimum**, with a stored solution that is a genuinely
      feasible complete path of that value — or reports no value iff the problem is infeasible.

    (Before the repair of finding D14 this held for best-first pops only: `caching_solver_correct_bestfirst`,
    `anyOrderOpt_false`.) -/
theorem caching_solver_correct (sv : CSolverCfg S) (H : Nat → S → EInt) (B0 B : Int)
    (hwf : WellFormed sv H B0 B) :
    WellFounded (fun t s : KSt S => KRunAny sv (KSt.init sv) s ∧ KStepAny sv s t) ∧
    (∀ run : Nat → KSt S, run 0 = KSt.init sv → ¬ ∀ n, KStepAny sv (run n) (run (n + 1))) ∧
    ∀ t, KRunAny sv (KSt.init sv) t →
      (∀ N rest, t.st.fringe.Perm (N :: rest) → ∃ u, KStepAny sv t u ∧ sv.kturn t N rest = some u) ∧
      t.st.crashed = false ∧ t.st.abort = false ∧
      (t.st.fringe = [] →
        (∀ opt, (H 0 sv.P.init).addI sv.P.initVal = some opt →
          t.st.bestLb = opt ∧ (∃ p, t.st.bestSol = some p ∧ SolOf sv.P p opt) ∧ t.st.completion = (true, some opt)) ∧
        ((H 0 sv.P.init).addI sv.P.initVal = none → t.st.bestSol = none ∧ t.st.completion = (true, none))) := by
  refine ⟨?_, fun run h0 => no_infinite_krunAny hwf run h0, fun t ht => ?_⟩
  · exact Subrelation.wf (fun {_ _} h => ⟨krunAny_inv hwf h.1 (init_kinv hwf), h.2⟩) (kstepAny_terminates hwf)
  · have hI := krunAny_inv hwf ht (init_kinv hwf)
    exact ⟨fun N rest hpop => kstepAny_progress hwf hI N rest hpop, hI.lay.2, hI.noAbort,
      fun hend => kinv_end_correct hwf hI hend⟩

/-- **`caching_solver_correct_bestfirst`** (corollary): the same with best-first pops
    (`KStep`: the popped node has the largest upper bound, then the largest value — the `MaxUB` order of the shipped
    solvers): termination, a turn is always possible before the fringe is empty, no panic, and at the empty fringe the
    optimum with a feasible stored solution. -/
theorem caching_solver_correct_bestfirst (sv : CSolverCfg S) (H : Nat → S → EInt) (B0 B : Int) (hwf : WellFormed sv H B0 B) :
    WellFounded (fun t s : KSt S => KRun sv (KSt.init sv) s ∧ KStep sv s t) ∧
    (∀ run : Nat → KSt S, run 0 = KSt.init sv → ¬ ∀ n, KStep sv (run n) (run (n + 1))) ∧
    ∀ t, KRun sv (KSt.init sv) t →
      (t.st.fringe ≠ [] → ∃ u, KStep sv t u) ∧
      t.st.crashed = false ∧
      (t.st.fringe = [] →
        (∀ opt, (H 0 sv.P.init).addI sv.P.initVal = some opt →
          t.st.bestLb = opt ∧ (∃ p, t.st.bestSol = some p ∧ SolOf sv.P p opt) ∧ t.st.completion = (true, some opt)) ∧
        ((H 0 sv.P.init).addI sv.P.initVal = none → t.st.bestSol = none ∧ t.st.completion = (true, none))) := by
  refine ⟨?_, fun run h0 => no_infinite_krun hwf run h0, fun t ht => ?_⟩
  · exact Subrelation.wf (fun {_ _} h => ⟨krun_inv hwf h.1 (init_kinv hwf), h.2⟩) (kstep_terminates hwf)
  · have hI := krun_inv hwf ht (init_kinv hwf)
    exact ⟨fun hne => kstep_progress hwf hI hne, hI.lay.2, fun hend => kinv_end_correct hwf hI hend⟩

theorem ksolveLoop_run (sv : SolverCfg S) : ∀ (n : Nat) (s : KSt S), KRun sv s (sv.ksolveLoop n s) := by
  intro n
  induction n with
  | zero => intro s; exact KRun.refl s
  | succ n ih =>
    intro s
    unfold SolverCfg.ksolveLoop
    cases hp : popMax s.st.fringe with
    | none => exact KRun.refl s
    | some Nr =>
      obtain ⟨N, rest⟩ := Nr
      obtain ⟨hpop, hmax⟩ := popMax_spec s.st.fringe N rest hp
      dsimp only
      cases ht : sv.kturn s N rest with
      | none => exact KRun.refl s
      | some t => exact KRun.head (KStep.pop s t N rest hpop hmax ht) (ih t)

theorem ksolveLoop_correct (sv : SolverCfg S) (H : Nat → S → EInt) (B0 B : Int) (hwf : WellFormed sv H B0 B) (n : Nat)
    (hend : (sv.ksolveLoop n (KSt.init sv)).st.fringe = []) :
    (∀ opt, (H 0 sv.P.init).addI sv.P.initVal = some opt →
      (sv.ksolveLoop n (KSt.init sv)).st.completion = (true, some opt) ∧
      ∃ p, (sv.ksolveLoop n (KSt.init sv)).st.bestSol = some p ∧ SolOf sv.P p opt) ∧
    ((H 0 sv.P.init).addI sv.P.initVal = none → (sv.ksolveLoop n (KSt.init sv)).st.completion = (true, none)) := by
  obtain ⟨h1, h2⟩ := kinv_end_correct hwf (krun_inv hwf (ksolveLoop_run sv n _) (init_kinv hwf)) hend
  exact ⟨fun opt hopt => ⟨(h1 opt hopt).2.2, (h1 opt hopt).2.1⟩, fun hinf => (h2 hinf).2⟩

theorem ksolveLoop_total {sv : SolverCfg S} {H : Nat → S → EInt} {B0 B : Int} (hwf : WellFormed sv H B0 B) (s : KSt S) :
    KInvSt sv H B s → ∃ n, (sv.ksolveLoop n s).st.fringe = [] := by
  refine (kstep_terminates hwf).induction (C := fun s => KInvSt sv H B s → ∃ n, (sv.ksolveLoop n s).st.fringe = []) s ?_
  intro s ih hI
  by_cases hne : s.st.fringe = []
  · exact ⟨0, hne⟩
  · obtain ⟨N, rest, hp⟩ := popMax_some s.st.fringe hne
    obtain ⟨hpop, hmax⟩ := popMax_spec s.st.fringe N rest hp
    obtain ⟨t, ht, hT, _⟩ := kturn_inv hwf s N rest hpop hI
    obtain ⟨n, hn⟩ := ih t ⟨hI, KStep.pop s t N rest hpop hmax ht⟩ hT
    refine ⟨n + 1, ?_⟩
    rw [SolverCfg.ksolveLoop]
    simp only [hp, ht]
    exact hn

/-- **the caching solver, as a function, computes the optimum** -/
theorem ksolveLoop_computes_opt (sv : CSolverCfg S) (H : Nat → S → EInt) (B0 B : Int) (hwf : WellFormed sv H B0 B) :
    ∃ n, (sv.ksolveLoop n (KSt.init sv)).st.fringe = [] ∧
      (sv.ksolveLoop n (KSt.init sv)).st.crashed = false ∧
      (∀ opt, (H 0 sv.P.init).addI sv.P.initVal = some opt →
        (sv.ksolveLoop n (KSt.init sv)).st.completion = (true, some opt) ∧
        ∃ p, (sv.ksolveLoop n (KSt.init sv)).st.bestSol = some p ∧ SolOf sv.P p opt) ∧
      ((H 0 sv.P.init).addI sv.P.initVal = none → (sv.ksolveLoop n (KSt.init sv)).st.completion = (true, none)) := by
  obtain ⟨n, hn⟩ := ksolveLoop_total hwf _ (init_kinv hwf)
  obtain ⟨h1, h2⟩ := ksolveLoop_correct sv H B0 B hwf n hn
  exact ⟨n, hn, (krun_inv hwf (ksolveLoop_run sv n _) (init_kinv hwf)).lay.2, h1, h2⟩

/-! ## arbitrary pop orders

For **every** pop order (`KStepAny`: any entry of the fringe may be popped — a custom `SubProblemRanking`) the headline
`caching_solver_correct` gives termination, no panic / crash **and optimality** at the empty fringe (`anyOrderOptFixed_true`).
`caching_solver_anyorder_sound` — termination, no panic / crash, and soundness of whatever is reported in *every* reachable
state (the incumbent is the value of the stored solution, a genuinely feasible complete path, hence `≤` the optimum) — is
a corollary of the invariant.

`AnyOrderOpt` / `anyOrderOpt_false` are statements about the **pre-fix solver** (`KRunAnyCapped`: `enqueue_cutset(ub)` capping
the cut-set nodes by the bound of the processed node): for it optimality really needed best-first pops.  D14 is repaired in
the code by dropping the cap. -/

/-- **`caching_solver_anyorder_sound`**: for every well-formed model and **every pop order**, the caching sequential solver
    over the diagram model terminates, never panics (whatever entry of the fringe is popped, the turn is possible), keeps the
    `open_by_layer` bookkeeping exact, and only ever reports the value of a stored solution that is a genuinely feasible
    complete path (so `best_lb ≤ optimum`; nothing is reported for an infeasible problem). -/
theorem caching_solver_anyorder_sound (sv : CSolverCfg S) (H : Nat → S → EInt) (B0 B : Int) (hwf : WellFormed sv H B0 B) :
    WellFounded (fun t s : KSt S => KRunAny sv (KSt.init sv) s ∧ KStepAny sv s t) ∧
    (∀ run : Nat → KSt S, run 0 = KSt.init sv → ¬ ∀ n, KStepAny sv (run n) (run (n + 1))) ∧
    ∀ t, KRunAny sv (KSt.init sv) t →
      (∀ N rest, t.st.fringe.Perm (N :: rest) → ∃ u, KStepAny sv t u ∧ sv.kturn t N rest = some u) ∧
      t.st.crashed = false ∧ t.st.abort = false ∧
      (∀ opt, (H 0 sv.P.init).addI sv.P.initVal = some opt →
        t.st.bestLb ≤ opt ∧ ∀ p, t.st.bestSol = some p → SolOf sv.P p t.st.bestLb) ∧
      ((H 0 sv.P.init).addI sv.P.initVal = none → t.st.bestSol = none) := by
  obtain ⟨h1, h2, h3⟩ := caching_solver_correct sv H B0 B hwf
  refine ⟨h1, h2, fun t ht => ?_⟩
  have hI := (krunAny_inv hwf ht (init_kinv hwf)).toAny
  exact ⟨(h3 t ht).1, hI.lay.2, hI.noAbort, hI.snd, fun hinf => (hI.infeas hinf).2⟩

/-- **`AnyOrderOpt`** — a statement about the **pre-fix solver** (`KRunAnyCapped`: `enqueue_cutset(ub)` with
    `cutset_node.ub = ub.min(cutset_node.ub)`, the code before the repair of D14): optimality of the caching solver at the
    empty fringe for **arbitrary** pop orders.  **It is false** (`anyOrderOpt_false`).  For the repaired solver:
    `AnyOrderOptFixed`, which is true. -/
def AnyOrderOpt : Prop :=
  ∀ (S : Type) [DecidableEq S] (sv : CSolverCfg S) (H : Nat → S → EInt) (B0 B : Int), WellFormed sv H B0 B →
    ∀ t, KRunAnyCapped sv (KSt.init sv) t → t.st.fringe = [] →
      ∀ opt, (H 0 sv.P.init).addI sv.P.initVal = some opt → t.st.bestLb = opt

/-- **`AnyOrderOptFixed`**: the statement `AnyOrderOpt` for the repaired solver (`KRunAny`: no cap in `enqueue_cutset`) —
    optimality at the empty fringe for **arbitrary** pop orders.  **It is true** (`anyOrderOptFixed_true`). -/
def AnyOrderOptFixed : Prop :=
  ∀ (S : Type) [DecidableEq S] (sv : CSolverCfg S) (H : Nat → S → EInt) (B0 B : Int), WellFormed sv H B0 B →
    ∀ t, KRunAny sv (KSt.init sv) t → t.st.fringe = [] →
      ∀ opt, (H 0 sv.P.init).addI sv.P.initVal = some opt → t.st.bestLb = opt

/-- **without the cap, optimality holds for arbitrary pop orders** (`AnyOrderOpt` is false, `AnyOrderOptFixed` is true: the cap
    of `enqueue_cutset` was the only obstacle) -/
theorem anyOrderOptFixed_true : AnyOrderOptFixed := by
  intro S _ sv H B0 B hwf t ht hend opt hopt
  exact ((((caching_solver_correct sv H B0 B hwf).2.2 t ht).2.2.2 hend).1 opt hopt).1

/-! The parallel solver with the cache (nodes in hand of other threads, interleaved `update_threshold` calls) is
`Props/C09e.lean` (`parallel_caching_solver_correct`).  What the any-order headline covers is the sequential shadow of its
scheduling freedom — "popped best-first is not processed best-first" is an arbitrary pop order of `KStepAny`. -/

end Ddo.C09

#print axioms Ddo.C09.ub_contract_of_model
#print axioms Ddo.C09.fresh_contract_of_model
#print axioms Ddo.C09.exactCut_contract_of_model
#print axioms Ddo.C09.compC_relaxed_of_model
#print axioms Ddo.C09.compC_restricted_of_model
#print axioms Ddo.C09.kturn_inv
#print axioms Ddo.C09.kstepAny_inv
#print axioms Ddo.C09.krunAny_inv
#print axioms Ddo.C09.kstepAny_terminates
#print axioms Ddo.C09.caching_solver_correct
#print axioms Ddo.C09.caching_solver_correct_bestfirst
#print axioms Ddo.C09.ksolveLoop_run
#print axioms Ddo.C09.ksolveLoop_correct
#print axioms Ddo.C09.ksolveLoop_total
#print axioms Ddo.C09.ksolveLoop_computes_opt
#print axioms Ddo.C09.caching_solver_anyorder_sound
#print axioms Ddo.C09.anyOrderOptFixed_true
