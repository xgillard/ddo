import DdoModel.Props.C09e
import DdoModel.Proofs.ParCacheExec
import DdoModel.Proofs.ParCacheWeak
/-! The instances of `Props/C09e.lean`: non-vacuity of `parallel_caching_solver_correct` on `Trap` with two workers (`Trap2K`), and the D14
counter-example in its parallel form, repaired (`Counter2K`: the delayed-worker schedule on `Layered.Counter` reports 10). -/
set_option linter.unusedSectionVars false
set_option linter.unusedVariables false
namespace Ddo.C09e
open Ddo Ddo.Truth Ddo.Closed Ddo.ParSys Ddo.ParClosed Ddo.ParCache Ddo.C09
open Ddo.C01 (SolverCfg WellFormed toOut SolOf)
variable {S : Type} [DecidableEq S]

/-! `Proofs/ParCacheExecTools.lean`: a deterministic scheduler `nextK` (`nextK_step`: it only takes steps of `KPStep`; the compile steps
read the `pick`-th admissible snapshot of the log — `pick ≥ 1`: a STALE content); `Proofs/ParCacheExec.lean`: two runs evaluated in the kernel:
`TrapK` (2 workers on `C01.Trap`, thread 1 compiles against the oldest of its 5 admissible snapshots: `TrapK.stale_obs`,
`TrapK.end_obs`) and `CounterK` — **the D14 scenario on `Layered.Counter`**: thread 1 pops the best node and is frozen inside
`compR`, thread 0 alone processes four nodes (incumbent 3 → 4 → 10) and parks, thread 1 then compiles with the stale incumbent
3 against the oldest of its 19 snapshots; the run ends `Completion (true, Some(10))` (`CounterK.end_obs`).  The same file holds a
search driver (executable only; no theorem depends on it). -/

namespace Trap2K
open Ddo.C01.Trap

/-- the headline on `Trap` with two workers: every reachable state of every interleaving; what the evaluated run
    `ParCache.TrapK.end_obs` shows (incumbent 4) is what the theorem predicts -/
theorem correct (dedup : Bool) (kind : CutsetKind) (t : KSys Int) (ht : KPRun (sv dedup kind) (KSys.init prob dedup 2) t) :
    NoPanic t ∧ (¬ AllDone t → ∃ u, KPStep (sv dedup kind) t u ∧ NoPanic u) ∧
    (∀ i, CompletesAt 3 t i → t.crit.base.bestLb = 4 ∧ t.crit.complete.base.completion = (true, some 4)) ∧
    (AllDone t → t.crit.base.completion = (true, some 4)) := by
  obtain ⟨_, ⟨a1, _, a3⟩, hf, _⟩ := (parallel_caching_solver_correct (sv dedup kind) H 2 8 (wellFormed dedup kind) 2 (by decide)).2.2 t ht
  obtain ⟨b1, b2, _⟩ := hf 4 rfl
  exact ⟨a1, a3, fun i hc => ⟨(b1 i hc).1, (b1 i hc).2.2.2⟩, fun hd => (b2 hd).2.2⟩

theorem terminates (dedup : Bool) (kind : CutsetKind) (run : Nat → KSys Int) (h0 : run 0 = KSys.init prob dedup 2) :
    ¬ ∀ k, KPStep (sv dedup kind) (run k) (run (k + 1)) :=
  (parallel_caching_solver_correct (sv dedup kind) H 2 8 (wellFormed dedup kind) 2 (by decide)).2.1 run h0

/-- a complete two-worker run with a stale snapshot read exists and ends with the optimum -/
example : ∃ t, KPRun (sv false .lel) (KSys.init prob false 2) t ∧ AllDone t ∧ NoPanic t ∧ t.crit.base.bestLb = 4 :=
  ParCache.TrapK.complete_run.2

end Trap2K

namespace Counter2K
open Ddo.C09.Layered

/-- **the counter-example of finding D14, in its parallel form, on the repaired solver**: on `Layered.Counter` (optimum 10;
    the pre-fix solver returned 4 when a worker was delayed between its pop and its compilation), for every number of workers
    `U ≥ 1`, either fringe, either cut-set kind, **every** interleaving — delayed workers, stale reads — that reaches `Complete`
    or the return of `maximize()` reports 10 -/
theorem counter_is_ten (dedup : Bool) (kind : CutsetKind) (U : Nat) (hU : 1 ≤ U) (t : KSys Int)
    (ht : KPRun (Counter.sv dedup kind) (KSys.init (Counter.sv dedup kind).P (Counter.sv dedup kind).dedup U) t) :
    NoPanic t ∧ (∀ i, CompletesAt (Counter.sv dedup kind).P.nbVars t i → t.crit.base.bestLb = 10) ∧
    (AllDone t → t.crit.base.completion = (true, some 10)) := by
  obtain ⟨_, ⟨a1, _, _⟩, hf, _⟩ :=
    (parallel_caching_solver_correct (Counter.sv dedup kind) (H Counter.T) 10 80 (Counter.wellFormed dedup kind) U hU).2.2 t ht
  obtain ⟨b1, b2, _⟩ := hf 10 Counter.opt10
  exact ⟨a1, fun i hc => (b1 i hc).1, fun hd => (b2 hd).2.2⟩

end Counter2K

end Ddo.C09e

#print axioms Ddo.C09e.Trap2K.correct
#print axioms Ddo.C09e.Trap2K.terminates
#print axioms Ddo.C09e.Counter2K.counter_is_ten
#print axioms Ddo.ParCache.TrapK.end_obs
#print axioms Ddo.ParCache.TrapK.complete_run
#print axioms Ddo.ParCache.CounterK.end_obs
#print axioms Ddo.ParCache.Weak.compC_alone_insufficient
#print axioms Ddo.ParCache.nextK_step
