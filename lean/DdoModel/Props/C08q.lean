import DdoModel.Proofs.PooledFix
import DdoModel.Props.C08p
/-! # C08 for the pooled diagram after the repair of D5: clauses (i) and (ii)

`compileP` models the repaired `pooled.rs`: when the frontier contains the root of the diagram, `_drain_cutset` hands out the
children of the root instead (`Proofs/PooledFix.lean`).  For a pooled compilation that ends normally (`.ok`), any cache /
dominance configuration, both results of `compileP`, **long arcs allowed, no structural hypothesis on the model**:

* `cutset_exact_pooled` (i): every sub-problem `c` of the cut-set is reached (`ReachSkip`) at `(c.depth, c.state, c.value)` by
  `p0 ++ q` with `c.path = cfg.root.path ++ q.reverse`.
* **`cutset_progress_pooled` (ii): every sub-problem of the cut-set of a relaxed compilation is strictly deeper than the root
  sub-problem**; for the code before the repair (`compilePOld`) it is refuted by
  `not_cutset_progress_pooled` (`Props/C08p.lean`).  `cutset_progress_pooled_allImpacted` is the special case.

(iii) and (iv): `Ddo.C15.cutset_ub_valid_pooled`, `Ddo.C15.cutset_cover_pooled`. -/
set_option linter.unusedSectionVars false
set_option linter.unusedVariables false
namespace Ddo.C08
open Ddo Ddo.Pooled
variable {S K : Type} [DecidableEq S] [DecidableEq K]

/-- **C08 (i), pooled diagram**: the sub-problems of the cut-set are exact.  `r` is either result of the compilation.
    Hypotheses: `p0` reaches the root sub-problem (`hroot`, with or without skips); no saturation (`hB`). -/
theorem cutset_exact_pooled (cfg : Cfg S K) (B : Int) (p0 : List Dec) (cache : Cache S) (store : DomStore S K)
    (polls : Nat) (stopAt : Option Nat)
    (hroot : ReachSkip cfg.P cfg.root.depth cfg.root.state cfg.root.value p0)
    (hB : NoClamp cfg.P cfg.R cfg.root.value B)
    (hok : (compileP cfg cache store polls stopAt).1 = .ok) (r : Result S)
    (hr : r = (compileP cfg cache store polls stopAt).2.1 ∨ (compileP cfg cache store polls stopAt).2.2.1 = some r) :
    ∀ c ∈ r.cutset, ∃ q, ReachSkip cfg.P c.depth c.state c.value (p0 ++ q) ∧ c.path = cfg.root.path ++ q.reverse :=
  PTruth.cutset_rel_pooled cfg B _ (pathRel_reachSkip cfg.P p0) (by rw [List.append_nil]; exact hroot) hB cache store polls
    stopAt hok r hr

/-- **C08 (ii), pooled diagram — every model, long arcs allowed**: in a relaxed compilation the sub-problems of the cut-set
    are strictly deeper than the root sub-problem. -/
theorem cutset_progress_pooled (cfg : Cfg S K) (B : Int) (p0 : List Dec) (cache : Cache S)
    (store : DomStore S K) (polls : Nat) (stopAt : Option Nat) (hrel : cfg.ctype = .relaxed)
    (hroot : ReachSkip cfg.P cfg.root.depth cfg.root.state cfg.root.value p0)
    (hB : NoClamp cfg.P cfg.R cfg.root.value B)
    (hok : (compileP cfg cache store polls stopAt).1 = .ok) (r : Result S)
    (hr : r = (compileP cfg cache store polls stopAt).2.1 ∨ (compileP cfg cache store polls stopAt).2.2.1 = some r) :
    ∀ c ∈ r.cutset, cfg.root.depth < c.depth :=
  PFix.cutset_progress_pooled cfg B p0 cache store polls stopAt hrel hroot hB hok r hr

/-- C08 (ii) without long arcs: a special case of `cutset_progress_pooled` -/
theorem cutset_progress_pooled_allImpacted (cfg : Cfg S K) (B : Int) (p0 : List Dec) (cache : Cache S)
    (store : DomStore S K) (polls : Nat) (stopAt : Option Nat) (hall : AllImpacted cfg.P) (hrel : cfg.ctype = .relaxed)
    (hroot : ReachSkip cfg.P cfg.root.depth cfg.root.state cfg.root.value p0)
    (hB : NoClamp cfg.P cfg.R cfg.root.value B)
    (hok : (compileP cfg cache store polls stopAt).1 = .ok) (r : Result S)
    (hr : r = (compileP cfg cache store polls stopAt).2.1 ∨ (compileP cfg cache store polls stopAt).2.2.1 = some r) :
    ∀ c ∈ r.cutset, cfg.root.depth < c.depth :=
  cutset_progress_pooled cfg B p0 cache store polls stopAt hrel hroot hB hok r hr

namespace WitnessP
open Ddo.C13.Witness

/-- an instance without long arcs, evaluated once: the compilation ends normally and the cut-set is the three children of the
    root, at depth 1 (from the frontier itself) … -/
theorem run : (compileP (cfg .relaxed) (Cache.init 3) (DomStore.init 3) 0 none).1 = .ok ∧
    (compileP (cfg .relaxed) (Cache.init 3) (DomStore.init 3) 0 none).2.1.cutset.map
      (fun c => (c.state, c.value, c.depth, c.path.length)) = [(0, 0, 1, 1), (1, 0, 1, 1), (2, 0, 1, 1)] := by decide +kernel

example : (compileP (cfg .relaxed) (Cache.init 3) (DomStore.init 3) 0 none).2.1.cutset.map
    (fun c => (c.state, c.value, c.depth, c.path.length)) = [(0, 0, 1, 1), (1, 0, 1, 1), (2, 0, 1, 1)] := run.2

example : ∀ c ∈ (compileP (cfg .relaxed) (Cache.init 3) (DomStore.init 3) 0 none).2.1.cutset, 0 < c.depth :=
  cutset_progress_pooled (cfg .relaxed) 1 [] (Cache.init 3) (DomStore.init 3) 0 none rfl ReachSkip.root noClamp run.1 _ (.inl rfl)

/-- the D5 witness (`Ddo.C07.WitnessP`, long arcs): the old code handed out the root (`not_cutset_progress_pooled`), the
    repaired code hands out its three children (`Ddo.C07.WitnessP.cutset_root_replaced`), all at depth 1 -/
example : ∀ c ∈ (compileP (C07.WitnessP.cfg .relaxed) (Cache.init 3) (DomStore.init 3) 0 none).2.1.cutset, 0 < c.depth :=
  cutset_progress_pooled (C07.WitnessP.cfg .relaxed) 200 [] (Cache.init 3) (DomStore.init 3) 0 none rfl ReachSkip.root
    (C07.WitnessP.noClamp .relaxed) (by decide +kernel) _ (.inl rfl)

end WitnessP

end Ddo.C08

#print axioms Ddo.C08.cutset_exact_pooled
#print axioms Ddo.C08.cutset_progress_pooled
#print axioms Ddo.C08.cutset_progress_pooled_allImpacted
