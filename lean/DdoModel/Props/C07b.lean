import DdoModel.Proofs.MddTruth
import DdoModel.Props.C06
import DdoModel.Props.C07
/-! # C07, remaining clauses — exact-mode and restricted compilations that declare themselves exact are truthful

* `Ddo.C07.exact_mode_opt` — a compilation in `Exact` mode carried out in isolation (no cache, no dominance checker), **any
  width** (the width is never read in exact mode), any incumbent `lb`: if the optimum `o` of the root sub-problem beats
  `lb`, the diagram declares itself exact and reports `best_value = best_exact_value = o` together with a feasible complete
  solution of value `o` (`Ddo.Truth.Truthful`: `bestSol` and `bestExactSol` are `root.path ++ q.reverse` where `p0 ++ q`
  is a path of the model from the problem root to a complete state, of value `o`).
* `Ddo.C07.restricted_exact_truthful` — the same for a restricted compilation whose result has `is_exact() = true`
  (`r` is either admissible result of `compile`; they coincide for non-relaxed compilations).
* `Ddo.C07.nonrelaxed_le_opt` / `exact_mode_le` — the "otherwise" clause: whatever the incumbent, the cache, the dominance
  checker and the cut-off, a value reported by a restricted / exact compilation is the value of a complete path through
  the root sub-problem, hence `≤` its optimum (`≤ lb` when the optimum does not beat `lb`); if the root sub-problem has no
  completion (`optOf = none`) nothing is reported.
* `_rel` forms: well-formedness relative to a layer-validity predicate `V` (`Ddo.Truth.WfX` = merge-free part of `WfRel`,
  `Ddo.Truth.LowRel` = `Potential.le` / `Potential.term` on valid states).  Neither `MergeOk` nor `AttMerge` is needed.

Proof (`DdoModel/Proofs/MddTruth.lean`): `is_exact` of a non-relaxed compilation is `lel.is_none()`; `lel` is monotone, so no
layer was squashed; then (upper direction) the coverage invariant `Ddo.Cover.Inv` of C06 is preserved by every step
(`buildLoop_cover_x`), and (lower direction) every terminal node is exact (`Inv2.lelNone`), hence `Reach`ed
(`MInv`), hence of value `≤ o` (`reach_le`: `Potential.le` along the extension of the root path).

Hypotheses and why they are needed:
* `hcache`, `hdom` (isolation): the cache and the dominance checker prune nodes on the strength of *other* compilations
  without unsetting `is_exact`; counter-example `CounterCache` below (machine-checked): the cache holds an explored threshold for the
  only child of the root, the restricted compilation prunes it, ends with an empty terminal layer, `is_exact = true`,
  `best_value = none` although `o = 1 > lb = 0`.
* `hroot`: `Potential.le` only speaks about states reached exactly from the problem root, so `o = optOf H root` is only
  known to bound the completions of a *reachable* root sub-problem (same hypothesis as in `restricted_sound`).
* `hB : NoClamp` (no `isize` saturation on path values), `hlb : InI lb`, `hO : o ≤ iMax ∨ lb < iMax` (the saturated rough upper bound
  test can see that `o` beats `lb`; counter-example `Ddo.C06.CounterB`, which does not depend on the compilation type:
  `CounterClamp` below).
* `RubOk`: rough-upper-bound pruning against `lb` is active in every mode. -/
namespace Ddo.C07
open Ddo Ddo.Truth
variable {S K : Type} [DecidableEq S] [DecidableEq K]

theorem exact_mode_opt_rel (cfg : Cfg S K) (H : Nat → S → EInt) (V : Nat → S → Prop) (B o : Int) (p0 : List Dec)
    (cache : Cache S) (store : DomStore S K) (polls : Nat)
    (hx : cfg.ctype = .exact) (hcache : cfg.useCache = false) (hdom : cfg.dom = none)
    (hwf : WfX cfg.P cfg.R H V) (hL : LowRel cfg.P H V) (hV : V cfg.root.depth cfg.root.state)
    (hB : NoClamp cfg.P cfg.R cfg.root.value B) (hlb : InI cfg.lb)
    (hroot : Reach cfg.P cfg.root.depth cfg.root.state cfg.root.value p0)
    (ho : optOf H cfg.root = some o) (hgt : o > cfg.lb) (hO : o ≤ iMax ∨ cfg.lb < iMax)
    (hok : (compile cfg cache store polls none).1 = .ok) :
    (compile cfg cache store polls none).2.1.isExact = true ∧
    Truthful cfg p0 o (compile cfg cache store polls none).2.1 ∧
    (compile cfg cache store polls none).2.2.1 = none := by
  obtain ⟨_, hdd, _⟩ := compile_ok cfg cache store polls none hok
  have hlel : (compile cfg cache store polls none).2.2.2.lel = none := by
    rw [hdd]; exact buildLoop_lel_exact cfg hx none _ _ rfl
  obtain ⟨h1, h2⟩ := compile_unsquashed cfg H V B o p0 cache store polls hcache hdom hwf hL hV hB hlb hroot ho hgt hO hok
    hlel _ (.inl rfl)
  refine ⟨h1, h2, ?_⟩
  -- the two admissible results coincide: `relaxed = false`
  unfold compile at hok ⊢
  generalize buildLoop cfg none (cfg.P.nbVars + 2) (initDD cfg cache store polls) = bl at hok ⊢
  obtain ⟨dd, oc⟩ := bl
  cases oc
  · have e2 : (cfg.ctype == CompType.relaxed) = false := by rw [hx]; decide
    simp [e2, Built.ebpMust, Built.ebpMay]
  · cases hok
  · cases hok

/-- **C07, exact mode**; the last conjunct: there is no `may` result -/
theorem exact_mode_opt (cfg : Cfg S K) (H : Nat → S → EInt) (B o : Int) (p0 : List Dec)
    (cache : Cache S) (store : DomStore S K) (polls : Nat)
    (hx : cfg.ctype = .exact) (hcache : cfg.useCache = false) (hdom : cfg.dom = none)
    (hP : Potential cfg.P H) (hR : RubOk cfg.R H)
    (hB : NoClamp cfg.P cfg.R cfg.root.value B) (hlb : InI cfg.lb)
    (hroot : Reach cfg.P cfg.root.depth cfg.root.state cfg.root.value p0)
    (ho : optOf H cfg.root = some o) (hgt : o > cfg.lb) (hO : o ≤ iMax ∨ cfg.lb < iMax)
    (hok : (compile cfg cache store polls none).1 = .ok) :
    (compile cfg cache store polls none).2.1.isExact = true ∧
    Truthful cfg p0 o (compile cfg cache store polls none).2.1 ∧
    (compile cfg cache store polls none).2.2.1 = none :=
  exact_mode_opt_rel cfg H (fun _ _ => True) B o p0 cache store polls hx hcache hdom (wfX_of_potential hP hR)
    (lowRel_of_potential hP) trivial hB hlb hroot ho hgt hO hok

theorem exact_mode_opt_value (cfg : Cfg S K) (H : Nat → S → EInt) (B o : Int) (p0 : List Dec)
    (cache : Cache S) (store : DomStore S K) (polls : Nat)
    (hx : cfg.ctype = .exact) (hcache : cfg.useCache = false) (hdom : cfg.dom = none)
    (hP : Potential cfg.P H) (hR : RubOk cfg.R H)
    (hB : NoClamp cfg.P cfg.R cfg.root.value B) (hlb : InI cfg.lb)
    (hroot : Reach cfg.P cfg.root.depth cfg.root.state cfg.root.value p0)
    (ho : optOf H cfg.root = some o) (hgt : o > cfg.lb) (hO : o ≤ iMax ∨ cfg.lb < iMax)
    (hok : (compile cfg cache store polls none).1 = .ok) :
    (compile cfg cache store polls none).2.1.bestValue = some o ∧
    ∃ (k : Nat) (s : S) (q : List Dec) (L : List S),
      Reach cfg.P k s o (p0 ++ q) ∧ s ∈ L ∧ cfg.P.nextVar k L = none ∧
      (compile cfg cache store polls none).2.1.bestSol = some (cfg.root.path ++ q.reverse) :=
  have h := (exact_mode_opt cfg H B o p0 cache store polls hx hcache hdom hP hR hB hlb hroot ho hgt hO hok).2.1
  ⟨h.bestValue, h.sol⟩

theorem restricted_exact_truthful_rel (cfg : Cfg S K) (H : Nat → S → EInt) (V : Nat → S → Prop) (B o : Int) (p0 : List Dec)
    (cache : Cache S) (store : DomStore S K) (polls : Nat)
    (hres : cfg.ctype = .restricted) (hcache : cfg.useCache = false) (hdom : cfg.dom = none)
    (hwf : WfX cfg.P cfg.R H V) (hL : LowRel cfg.P H V) (hV : V cfg.root.depth cfg.root.state)
    (hB : NoClamp cfg.P cfg.R cfg.root.value B) (hlb : InI cfg.lb)
    (hroot : Reach cfg.P cfg.root.depth cfg.root.state cfg.root.value p0)
    (ho : optOf H cfg.root = some o) (hgt : o > cfg.lb) (hO : o ≤ iMax ∨ cfg.lb < iMax)
    (hok : (compile cfg cache store polls none).1 = .ok) (r : Result S)
    (hr : r = (compile cfg cache store polls none).2.1 ∨ (compile cfg cache store polls none).2.2.1 = some r)
    (hex : r.isExact = true) : Truthful cfg p0 o r := by
  obtain ⟨_, hdd, e, he, hre⟩ := compile_results' cfg cache store polls none hok r hr
  have e2 : (cfg.ctype == CompType.relaxed) = false := by rw [hres]; decide
  rw [e2] at he
  have he' : e = false := by rcases he with h | h <;> exact h
  have hlel : (compile cfg cache store polls none).2.2.2.lel = none := by
    rw [hdd]
    rw [hre, finalize_isExact, he', Bool.or_false] at hex
    exact Option.isNone_iff_eq_none.mp hex
  exact (compile_unsquashed cfg H V B o p0 cache store polls hcache hdom hwf hL hV hB hlb hroot ho hgt hO hok hlel r hr).2

/-- **C07, a restricted compilation that declares itself exact** reports the optimum with a feasible complete solution -/
theorem restricted_exact_truthful (cfg : Cfg S K) (H : Nat → S → EInt) (B o : Int) (p0 : List Dec)
    (cache : Cache S) (store : DomStore S K) (polls : Nat)
    (hres : cfg.ctype = .restricted) (hcache : cfg.useCache = false) (hdom : cfg.dom = none)
    (hP : Potential cfg.P H) (hR : RubOk cfg.R H)
    (hB : NoClamp cfg.P cfg.R cfg.root.value B) (hlb : InI cfg.lb)
    (hroot : Reach cfg.P cfg.root.depth cfg.root.state cfg.root.value p0)
    (ho : optOf H cfg.root = some o) (hgt : o > cfg.lb) (hO : o ≤ iMax ∨ cfg.lb < iMax)
    (hok : (compile cfg cache store polls none).1 = .ok) (r : Result S)
    (hr : r = (compile cfg cache store polls none).2.1 ∨ (compile cfg cache store polls none).2.2.1 = some r)
    (hex : r.isExact = true) : Truthful cfg p0 o r :=
  restricted_exact_truthful_rel cfg H (fun _ _ => True) B o p0 cache store polls hres hcache hdom (wfX_of_potential hP hR)
    (lowRel_of_potential hP) trivial hB hlb hroot ho hgt hO hok r hr hex

theorem restricted_exact_value (cfg : Cfg S K) (H : Nat → S → EInt) (B o : Int) (p0 : List Dec)
    (cache : Cache S) (store : DomStore S K) (polls : Nat)
    (hres : cfg.ctype = .restricted) (hcache : cfg.useCache = false) (hdom : cfg.dom = none)
    (hP : Potential cfg.P H) (hR : RubOk cfg.R H)
    (hB : NoClamp cfg.P cfg.R cfg.root.value B) (hlb : InI cfg.lb)
    (hroot : Reach cfg.P cfg.root.depth cfg.root.state cfg.root.value p0)
    (ho : optOf H cfg.root = some o) (hgt : o > cfg.lb) (hO : o ≤ iMax ∨ cfg.lb < iMax)
    (hok : (compile cfg cache store polls none).1 = .ok)
    (hex : (compile cfg cache store polls none).2.1.isExact = true) :
    (compile cfg cache store polls none).2.1.bestValue = some o :=
  (restricted_exact_truthful cfg H B o p0 cache store polls hres hcache hdom hP hR hB hlb hroot ho hgt hO hok _ (.inl rfl)
    hex).bestValue

/-- **C07, the "otherwise" clause** (any incumbent, any cache / dominance configuration, any cut-off) -/
theorem nonrelaxed_le_opt (cfg : Cfg S K) (H : Nat → S → EInt) (B : Int) (p0 : List Dec)
    (cache : Cache S) (store : DomStore S K) (polls : Nat) (stopAt : Option Nat)
    (hty : cfg.ctype = .restricted ∨ cfg.ctype = .exact) (hP : Potential cfg.P H)
    (hroot : Reach cfg.P cfg.root.depth cfg.root.state cfg.root.value p0)
    (hB : NoClamp cfg.P cfg.R cfg.root.value B)
    (hok : (compile cfg cache store polls stopAt).1 = .ok) (w : Int)
    (hw : (compile cfg cache store polls stopAt).2.1.bestValue = some w) :
    ∃ x, optOf H cfg.root = some x ∧ w ≤ x :=
  Truth.nonrelaxed_le_opt cfg H (fun _ _ => True) B p0 cache store polls stopAt hty (lowRel_of_potential hP) trivial hroot hB
    hok w hw

theorem exact_mode_le (cfg : Cfg S K) (H : Nat → S → EInt) (B : Int) (p0 : List Dec)
    (cache : Cache S) (store : DomStore S K) (polls : Nat) (stopAt : Option Nat)
    (hx : cfg.ctype = .exact) (hP : Potential cfg.P H)
    (hroot : Reach cfg.P cfg.root.depth cfg.root.state cfg.root.value p0)
    (hB : NoClamp cfg.P cfg.R cfg.root.value B)
    (hok : (compile cfg cache store polls stopAt).1 = .ok) :
    (∀ o, optOf H cfg.root = some o → o ≤ cfg.lb →
      ∀ w, (compile cfg cache store polls stopAt).2.1.bestValue = some w → w ≤ cfg.lb) ∧
    (optOf H cfg.root = none → (compile cfg cache store polls stopAt).2.1.bestValue = none) := by
  refine ⟨fun o ho hle w hw => ?_, fun hn => ?_⟩
  · obtain ⟨x, hx', hwx⟩ := nonrelaxed_le_opt cfg H B p0 cache store polls stopAt (.inr hx) hP hroot hB hok w hw
    rw [ho] at hx'; cases hx'; omega
  · cases hbv : (compile cfg cache store polls stopAt).2.1.bestValue with
    | none => rfl
    | some w =>
      obtain ⟨x, hx', _⟩ := nonrelaxed_le_opt cfg H B p0 cache store polls stopAt (.inr hx) hP hroot hB hok w hbv
      rw [hn] at hx'; cases hx'

namespace Tiny
open Ddo.C06.Tiny

/-- non-vacuity of `exact_mode_opt`: the tiny model of `Props/C06.lean` in exact mode, width 1 (ignored) -/
def cfgX : Cfg Int Unit := { Ddo.C06.Tiny.cfg with ctype := .exact }
/-- non-vacuity of `restricted_exact_value`: width 4, nothing is dropped (layers have at most 4 nodes) -/
def cfgR : Cfg Int Unit := { Ddo.C06.Tiny.cfg with ctype := .restricted, width := 4 }

example : (compile cfgX (Cache.init 3) (DomStore.init 3) 0 none).2.1.bestValue = some 3 :=
  (exact_mode_opt cfgX H 1 3 [] (Cache.init 3) (DomStore.init 3) 0 rfl rfl rfl potential rubOk noClamp (by decide)
    .root rfl (by decide) (Or.inl (by decide)) (by decide +kernel)).2.1.bestValue

example : (compile cfgR (Cache.init 3) (DomStore.init 3) 0 none).2.1.bestValue = some 3 :=
  have run : (compile cfgR (Cache.init 3) (DomStore.init 3) 0 none).1 = .ok ∧
      (compile cfgR (Cache.init 3) (DomStore.init 3) 0 none).2.1.isExact = true := by decide +kernel
  restricted_exact_value cfgR H 1 3 [] (Cache.init 3) (DomStore.init 3) 0 rfl rfl rfl potential rubOk noClamp (by decide)
    .root rfl (by decide) (Or.inl (by decide)) run.1 run.2

/-- the premise `is_exact` is not vacuous the other way either: with width 1 the restricted compilation drops nodes,
    reports `is_exact = false` -/
example : (compile { cfgR with width := 1 } (Cache.init 3) (DomStore.init 3) 0 none).2.1.isExact = false := by
  decide +kernel

end Tiny

namespace CounterCache

def prob : Problem Int :=
  { nbVars := 2, init := 0, initVal := 0,
    trans := fun s d => s + d.val,
    cost := fun _ _ d => if d.val = 1 then 1 else 0,
    nextVar := fun k _ => if k < 2 then some k else none,
    domain := fun _ _ => [1],
    impacted := fun _ _ => true }

def rlx : Relax Int := { merge := fun _ => 0, relax := fun _ _ _ _ c => c, rub := fun _ => 2 }

def cfg : Cfg Int Unit :=
  { P := prob, R := rlx, rank := ⟨fun a b => icmp a b⟩, dom := none, useCache := true, kind := .lel,
    ctype := .restricted, width := 10, root := ⟨0, 0, [], iMax, 0⟩, lb := 0 }

def H (k : Nat) (_ : Int) : EInt := some ((2 - k : Nat) : Int)

/-- the cache knows state `1` at depth `1` with an explored threshold of value 5 (left there by another compilation) -/
def cache : Cache Int := ⟨[[], [(1, ⟨5, true⟩)], []]⟩

theorem potential : Potential prob H :=
  Ddo.C06.countdown_potential (fun _ _ => rfl) (fun _ _ => List.mem_cons_self) (fun _ _ _ => rfl)

theorem rubOk : RubOk rlx H := by
  intro k s h hH
  simp only [H, Option.some.injEq] at hH
  simp only [rlx]; omega

theorem noClamp : NoClamp prob rlx cfg.root.value 1 := by
  constructor
  · decide
  · decide
  · intro s s' d; simp only [prob]; split <;> omega
  · intro s u m d c hc; exact hc
  · decide

/-- every hypothesis of `restricted_exact_truthful` except `useCache = false` holds (`o = 2 > lb = 0`); the only node of the
    second layer is pruned by the cache, the terminal layer is empty: `is_exact = true` and `best_value = none` -/
theorem counter :
    cfg.ctype = .restricted ∧ cfg.dom = none ∧ Potential cfg.P H ∧ RubOk cfg.R H ∧
    NoClamp cfg.P cfg.R cfg.root.value 1 ∧ InI cfg.lb ∧
    Reach cfg.P cfg.root.depth cfg.root.state cfg.root.value [] ∧
    optOf H cfg.root = some 2 ∧ 2 > cfg.lb ∧ ((2 : Int) ≤ iMax ∨ cfg.lb < iMax) ∧
    (compile cfg cache (DomStore.init 2) 0 none).1 = .ok ∧
    (compile cfg cache (DomStore.init 2) 0 none).2.1.isExact = true ∧
    (compile cfg cache (DomStore.init 2) 0 none).2.1.bestValue = none :=
  ⟨rfl, rfl, potential, rubOk, noClamp, by decide, .root, rfl, by decide, Or.inl (by decide), by decide +kernel⟩

/-- with `useCache = false` (same cache) the same compilation is truthful -/
example : (compile { cfg with useCache := false } cache (DomStore.init 2) 0 none).2.1.bestValue = some 2 :=
  have run : (compile { cfg with useCache := false } cache (DomStore.init 2) 0 none).1 = .ok ∧
      (compile { cfg with useCache := false } cache (DomStore.init 2) 0 none).2.1.isExact = true := by decide +kernel
  restricted_exact_value { cfg with useCache := false } H 1 2 [] cache (DomStore.init 2) 0 rfl rfl rfl potential rubOk noClamp
    (by decide) .root rfl (by decide) (Or.inl (by decide)) run.1 run.2

end CounterCache

namespace CounterClamp
open Ddo.C06.CounterB

def cfgX : Cfg Int Unit := { Ddo.C06.CounterB.cfg with ctype := .exact }

/-- every hypothesis of `exact_mode_opt` except `hO` holds; the root is pruned by the saturated rough-upper-bound test, the
    diagram is "exact" and empty -/
theorem counter :
    cfgX.ctype = .exact ∧ cfgX.useCache = false ∧ cfgX.dom = none ∧ Potential cfgX.P H ∧ RubOk cfgX.R H ∧
    NoClamp cfgX.P cfgX.R cfgX.root.value 0 ∧ InI cfgX.lb ∧
    Reach cfgX.P cfgX.root.depth cfgX.root.state cfgX.root.value [] ∧
    optOf H cfgX.root = some big ∧ big > cfgX.lb ∧
    (compile cfgX (Cache.init 1) (DomStore.init 1) 0 none).1 = .ok ∧
    (compile cfgX (Cache.init 1) (DomStore.init 1) 0 none).2.1.isExact = true ∧
    (compile cfgX (Cache.init 1) (DomStore.init 1) 0 none).2.1.bestValue = none :=
  ⟨rfl, rfl, rfl, potential, rubOk, noClamp, by decide, .root, rfl, by decide, by decide +kernel⟩

end CounterClamp

end Ddo.C07

#print axioms Ddo.C07.exact_mode_opt_rel
#print axioms Ddo.C07.exact_mode_opt
#print axioms Ddo.C07.exact_mode_opt_value
#print axioms Ddo.C07.restricted_exact_truthful_rel
#print axioms Ddo.C07.restricted_exact_truthful
#print axioms Ddo.C07.restricted_exact_value
#print axioms Ddo.C07.nonrelaxed_le_opt
#print axioms Ddo.C07.exact_mode_le
#print axioms Ddo.C07.CounterCache.counter
#print axioms Ddo.C07.CounterClamp.counter
