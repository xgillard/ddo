import DdoModel.Props.C19b
import DdoModel.Props.C01dWitness
/-! The instance of `Props/C19b.lean`: the cut-off table of the trap model `C01.Trap` (three turns, optimum 4, `K = 8` polls), evaluated, and the
theorems of that file read on it. -/
set_option linter.unusedSectionVars false
set_option linter.unusedVariables false
namespace Ddo.C19
open Ddo Ddo.Truth Ddo.Closed Ddo.C01
variable {S : Type} [DecidableEq S]

/-! ## non-vacuity: the trap model of `Props/C01dWitness.lean` (three turns, optimum 4, `K = 8` polls) -/
namespace TrapCut

/-- `(best_lb, best_ub, is_exact, polls made)` of the run of the trap model cut at poll `k`, fuel 5 -/
def row (dedup : Bool) (kind : CutsetKind) (k : Option Nat) : Int × Int × Bool × Nat :=
  (((Trap.sv dedup kind).cutReport k 5).bestLb, ((Trap.sv dedup kind).cutReport k 5).bestUb,
   ((Trap.sv dedup kind).cutReport k 5).completion.1, ((Trap.sv dedup kind).solveCut k 5 (Trap.sv dedup kind).start).2)

/-- the expected table for `k = 1 … 9`: the first turn (root) makes 3 + 3 polls — cut during the restricted compilation: nothing known;
    during the relaxed one: incumbent 1 (the trapped solution), bound still `isize::MAX` (the root's) —, the second turn (the free
    node, bound 4) makes 2 polls — cut there: `(1, 4)` —, the third node is pruned without a poll; from `k = 9` on the run is exact -/
def expected : List (Int × Int × Bool × Nat) :=
  [(iMin, iMax, false, 1), (iMin, iMax, false, 2), (iMin, iMax, false, 3),
   (1, iMax, false, 4), (1, iMax, false, 5), (1, iMax, false, 6),
   (1, 4, false, 7), (1, 4, false, 8),
   (4, 4, true, 8)]

/-- one evaluation of the uninterrupted run (fuel 2, 3 and 5) for `uninterrupted` and `transient_ub` -/
theorem run_none : row false .lel none = (4, 4, true, 8) ∧
    (let r := (Trap.sv false .lel).solveCut none 3 (Trap.sv false .lel).start
     (r.1.bestLb, r.1.bestUb, r.1.fringe.length, ((Trap.sv false .lel).solveCut none 2 (Trap.sv false .lel).start).2, r.2)
       = (4, 3, 0, 8, 8)) := by decide +kernel

theorem uninterrupted : row false .lel none = (4, 4, true, 8) := run_none.1

theorem table : (List.range 9).map (fun i => row false .lel (some (i + 1))) = expected := by decide +kernel

theorem table' : (List.range 9).map (fun i => row true .frontier (some (i + 1))) = expected := by decide +kernel

/-- adjacent rows: lower bound non-decreasing, upper bound non-increasing -/
def monotone : List (Int × Int × Bool × Nat) → Bool
  | a :: b :: r => decide (a.1 ≤ b.1) && decide (b.2.1 ≤ a.2.1) && monotone (b :: r)
  | _ => true

/-- the table is monotone, ends exact with both bounds equal to the optimum 4, and no earlier row claims exactness -/
theorem table_monotone : monotone expected = true ∧ expected.getLast? = some (4, 4, true, 8) ∧
    (expected.dropLast.all (fun r => !r.2.2.1)) = true := by decide

theorem ended_none (dedup : Bool) (kind : CutsetKind) : (Trap.sv dedup kind).ended none 5 := by
  unfold SolverCfg.ended
  apply List.eq_nil_of_length_eq_zero
  have byLoop : ∀ d k, ((Trap.sv d k).solveLoop 5 (SeqSt.init Trap.prob none d)).fringe.length = 0 →
      ((Trap.sv d k).solveCut none 5 (Trap.sv d k).start).1.fringe.length = 0 := fun d k h =>
    (solveCut_none (Trap.wellFormed d k) 5 (Trap.sv d k).start (init_cinv (Trap.wellFormed d k))).symm ▸ h
  cases dedup <;> cases kind
  · exact byLoop _ _ Trap.loop_value.2.1
  · decide +kernel
  · decide +kernel
  · exact byLoop _ _ Trap.loop_value'.2.1

/-- the general theorems instantiated: the trap model is well-formed, so every pair of rows is ordered -/
theorem monotone_by_theorem (dedup : Bool) (kind : CutsetKind) (k k' : Nat) (hk : 1 ≤ k) (hkk : k ≤ k') :
    ((Trap.sv dedup kind).cutReport (some k) 5).bestLb ≤ ((Trap.sv dedup kind).cutReport (some k') 5).bestLb ∧
    ((Trap.sv dedup kind).cutReport (some k') 5).bestUb ≤ ((Trap.sv dedup kind).cutReport (some k) 5).bestUb :=
  cut_bounds_monotone (Trap.wellFormed dedup kind) k k' hk hkk 5 5
    (cut_run_ends _ k hk 5 (ended_none dedup kind)) (cut_run_ends _ k' (Nat.le_trans hk hkk) 5 (ended_none dedup kind))

/-- every row brackets the optimum 4 (`cut_bounds_bracket` on the trap model) -/
theorem bracket_by_theorem (dedup : Bool) (kind : CutsetKind) (k : Nat) (hk : 1 ≤ k) :
    ((Trap.sv dedup kind).cutReport (some k) 5).bestLb ≤ 4 ∧ 4 ≤ ((Trap.sv dedup kind).cutReport (some k) 5).bestUb :=
  cut_bounds_bracket (Trap.wellFormed dedup kind) k hk 5 (cut_run_ends _ k hk 5 (ended_none dedup kind))

/-- every cutoff after the 8-th poll leaves the run exact (`solveCut_eq_of_lt`; 8 = the polls of the uninterrupted run) -/
theorem exact_by_theorem (k : Nat) (hk : 8 < k) : row false .lel (some k) = (4, 4, true, 8) := by
  have h8 := uninterrupted
  simp only [row, Prod.mk.injEq] at h8
  rw [← uninterrupted]
  unfold row SolverCfg.cutReport
  rw [solveCut_eq_of_lt (Trap.sv false .lel) k 5 (Trap.sv false .lel).start (by rw [h8.2.2.2]; exact hk)]

/-- inside the loop `best_ub` is transiently below the optimum: after the third pop (the trapped node, bound 3, pruned against the
    incumbent 4) the state has `best_ub = 3 < 4 = best_lb`; no poll is made in that turn, so no cutoff reports it, and `finish`
    (`get_workload` on the empty fringe) sets `best_ub := best_lb` -/
theorem transient_ub :
    (((Trap.sv false .lel).solveCut none 3 (Trap.sv false .lel).start).1.bestLb,
     ((Trap.sv false .lel).solveCut none 3 (Trap.sv false .lel).start).1.bestUb,
     ((Trap.sv false .lel).solveCut none 3 (Trap.sv false .lel).start).1.fringe.length,
     ((Trap.sv false .lel).solveCut none 2 (Trap.sv false .lel).start).2,
     ((Trap.sv false .lel).solveCut none 3 (Trap.sv false .lel).start).2) = (4, 3, 0, 8, 8) := run_none.2

end TrapCut
end Ddo.C19

#print axioms Ddo.C19.TrapCut.table
#print axioms Ddo.C19.TrapCut.table'
#print axioms Ddo.C19.TrapCut.table_monotone
#print axioms Ddo.C19.TrapCut.monotone_by_theorem
#print axioms Ddo.C19.TrapCut.bracket_by_theorem
#print axioms Ddo.C19.TrapCut.exact_by_theorem
#print axioms Ddo.C19.TrapCut.transient_ub
