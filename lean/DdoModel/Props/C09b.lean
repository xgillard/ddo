import DdoModel.Proofs.Theta
import DdoModel.Proofs.ThetaCover
import DdoModel.Proofs.SeqCache
import DdoModel.Proofs.SeqCacheDedup
import DdoModel.Props.C01d
import DdoModel.Props.C09
import DdoModel.Proofs.CacheBridge
/-! # C09 (second stage) — the thresholds are sound, the caching sequential solver returns the optimum

## Stage 1 — one compilation (`Proofs/BuildInv.lean`, `ThetaPass.lean`, `CutsetPasses.lean`, `FinalizeSpec.lean`, `ThetaCore.lean`,
`ThetaCtx.lean`, `Theta.lean`)

`theta_sound` — relaxed compilation of the diagram model `DdoModel/Mdd.lean`, **both cut-set kinds, with or without cache**
(`cfg.useCache` arbitrary, any content of the cache; no dominance rule), width `≥ 1`, any cutoff, both results of `compile`,
well-formed model (`Potential`, `RubOk`, `MergeOk`, `AttMerge`, `NoClamp`), root reached exactly, `lb < isize::MAX`.
Let `bk = max lb bestExactValue` (`bkOf`) be the incumbent once the solver has absorbed the diagram.  For every recorded
update `(s, d, θ, explored)`, every value `v ≤ θ` in range and every potential `h = H d s` of the state:

* `v + h ≤ bk` — a sub-problem `(s, d, v)` cannot strictly improve the incumbent; or
* a sub-problem `c` of the cut-set **of this diagram**, `d ≤ c.depth`, has potential `c.value + H c ≥ v + h`; or
* (only when the compilation consults a cache) the cache prunes, strictly deeper than `d`, a sub-problem `(s', d', v')`
  (`v' ≤` the cached threshold, in range) whose potential `v' + H d' s' ≥ v + h`.

The rule is **`v ≤ θ`, whatever the `explored` flag**: that is the rule of `_filter_with_cache` (`filterCache`), which prunes a
node of a layer under construction as soon as `value ≤ θ`; `must_explore` (used when a node is popped) is weaker
(`v < θ`, or `v = θ` and `explored`), so the statement covers both.  The third alternative is what makes the statement
*compose*: it is discharged by the invariant `CacheOk` of Stage 2.

The argument (`Proofs/ThetaCore.lean`, `gtj_all_s`): downward induction over the layers of the finished diagram.  A value `w`
below the final threshold of a node is below the threshold the node held when the thresholds pass reached it, hence `w + cost` is
below the final threshold of every child, and the alternatives of a child are alternatives of the node; at the node itself the
branch of `ownTheta` that set the threshold decides (rough bound, local bound of a cut-set node, cut-set node handed out with
`θ = value`, inner node).  The facts it needs of the finished diagram come from the top-down invariant and from the pull form of the
three bottom-up passes (`Proofs/ThetaCtx.lean`); it is made once for cache and dominance checker together, and read here without
dropped positions.

`theta_sound_isolated` — the same without cache: only the first two alternatives.
`theta_contract_of_model` — `theta_sound` in the form of the field `CompC.theta` of Stage 2.

## Stage 2 / 3 — the solver (`Proofs/SeqCache.lean`, `Proofs/SeqCacheDedup.lean`)

`CInvC` = the coverage invariant of C01 + `CacheOk` (field `cache`): *whatever the cache can prune — any sub-problem `(s, d, v)`
with `v ≤` the stored threshold — has its potential, if it beats the incumbent, carried by an open sub-problem of depth `≥ d`
that the cache does not refuse at pop and whose upper bound is large enough*.  It is preserved by `process_one_node` with
`must_explore` answered by the cache (`processC_inv`, both fringes), under the diagram contracts `CompC` (those of C01 weakened by
"… or the cache consulted by the compilation prunes something at least as good, deeper", plus `theta` = Stage 1 and `fresh`),
**whatever node of the fringe is popped** (no hypothesis on the pop order: `enqueue_cutset` does not cap the bounds of the cut-set
nodes), and by forgetting thresholds (Stage 3: `clear_layer` / `clear`).  Here: finite runs `CacheRun` (pop of **any** node +
`process_one_node`, or forgetting thresholds); a run that ends with an empty fringe ends with the optimum and a feasible solution
of that value — the answer of the solver without cache (`caching_run_optimal`); a popped node refused by `must_explore` is not
needed (`cachePruneOk`).

The fields `theta`, `exact`, `cover` of `CompC` are discharged here from the diagram model for a relaxed compilation that consults a
cache (Stage 1; C07b / C06b and C08 (iv) with cache, `Proofs/ThetaCover.lean`): the soundness of the pruning by
`_filter_with_cache` *inside* a compilation, relative to `CacheOk`.

## What is not in this file

* the remaining fields of `CompC` for the diagram model consulting a cache (`ub`, `fresh`, `sound` of a relaxed compilation;
  the whole contract of an exact *restricted* compilation, which also records thresholds), and with them the closed theorem
  "caching solver over the diagram model" in the style of `Ddo.C01.sequential_solver_correct`: `compC_relaxed_of_model`,
  `compC_restricted_of_model` (`Proofs/CacheClosedContract.lean`), `caching_solver_correct` (`Props/C09c.lean`);
* the solver whose `enqueue_cutset(ub)` caps the bound of every cut-set node by the bound of the processed node
  (`SeqSt.enqueueCapped`, finding D14): a parent's bound computed in a diagram cut by the cache is only valid "modulo what the cache
  covers", and capping a child by it can kill the child's own claim; optimality is then false for pop orders that are not
  best-first (`Ddo.C09.anyOrderOpt_false`, `Props/C09c.lean`);
* the parallel solver with the cache: `Props/C09e.lean` (`parallel_caching_solver_correct`). -/
set_option linter.unusedSectionVars false
set_option linter.unusedVariables false
namespace Ddo.C09
open Ddo Ddo.Theta
variable {S K : Type} [DecidableEq S] [DecidableEq K]

/-- **`theta_sound`** (re-export of `Ddo.Theta.theta_sound`): the thresholds recorded by a relaxed compilation, with or
    without cache, are sound. -/
theorem theta_sound (cfg : Cfg S K) (H : Nat → S → EInt) (B M : Int) (p0 : List Dec) (cache : Cache S) (store : DomStore S K)
    (polls : Nat) (stopAt : Option Nat)
    (hrel : cfg.ctype = .relaxed) (hdom : cfg.dom = none) (hW : 1 ≤ cfg.width)
    (hP : Potential cfg.P H) (hR : RubOk cfg.R H) (hM : MergeOk cfg.R H) (hAM : Cover.AttMerge cfg.P cfg.R H)
    (hB : NoClamp cfg.P cfg.R cfg.root.value B) (hlb : cfg.lb < iMax)
    (hroot : Reach cfg.P cfg.root.depth cfg.root.state cfg.root.value p0)
    (hM0 : 0 ≤ M) (hMs : M + Cover.Bd B (cfg.P.nbVars + 1) ≤ big)
    (hok : (compile cfg cache store polls stopAt).1 = .ok) (r : Result S)
    (hr : r = (compile cfg cache store polls stopAt).2.1 ∨ (compile cfg cache store polls stopAt).2.2.1 = some r) :
    ∀ u ∈ r.cacheUpdates, cfg.root.depth ≤ u.2.1 ∧
      ∀ v h, Cover.Within (M + Cover.Bd B (u.2.1 - cfg.root.depth)) v → v ≤ u.2.2.1 → H u.2.1 u.1 = some h →
        v + h ≤ bkOf cfg.lb r.bestExactValue ∨
        (∃ c ∈ r.cutset, u.2.1 ≤ c.depth ∧ ∃ y, (H c.depth c.state).addI c.value = some y ∧ v + h ≤ y) ∨
        (cfg.useCache = true ∧ ∃ (s' : S) (d' : Nat) (t : Thr) (v' h' : Int), cache.get s' d' = some (some t) ∧ u.2.1 < d' ∧
          Cover.Within (M + Cover.Bd B (d' - cfg.root.depth)) v' ∧ v' ≤ t.value ∧ H d' s' = some h' ∧ v + h ≤ v' + h') :=
  Ddo.Theta.theta_sound cfg H B M p0 cache store polls stopAt hrel hdom hW hP hR hM hAM hB hlb hroot hM0 hMs hok r hr

/-- **`theta_sound_isolated`**: a relaxed compilation that does not consult the cache.  Every recorded threshold
    `(s, d, θ, explored)`, every `v ≤ θ` (in range: `|v| ≤ (d - root.depth + 1) · B`) and potential `h` of `(d, s)`: the
    sub-problem `(s, d, v)` cannot improve `bk = max lb bestExactValue`, or a sub-problem of the cut-set of this diagram,
    not shallower, has a potential at least as good. -/
theorem theta_sound_isolated (cfg : Cfg S K) (H : Nat → S → EInt) (B : Int) (p0 : List Dec) (cache : Cache S)
    (store : DomStore S K) (polls : Nat) (stopAt : Option Nat)
    (hrel : cfg.ctype = .relaxed) (hcache : cfg.useCache = false) (hdom : cfg.dom = none) (hW : 1 ≤ cfg.width)
    (hP : Potential cfg.P H) (hR : RubOk cfg.R H) (hM : MergeOk cfg.R H) (hAM : Cover.AttMerge cfg.P cfg.R H)
    (hB : NoClamp cfg.P cfg.R cfg.root.value B) (hlb : cfg.lb < iMax)
    (hroot : Reach cfg.P cfg.root.depth cfg.root.state cfg.root.value p0)
    (hok : (compile cfg cache store polls stopAt).1 = .ok) (r : Result S)
    (hr : r = (compile cfg cache store polls stopAt).2.1 ∨ (compile cfg cache store polls stopAt).2.2.1 = some r) :
    ∀ u ∈ r.cacheUpdates, cfg.root.depth ≤ u.2.1 ∧
      ∀ v h, Cover.Within (Cover.Bd B (u.2.1 - cfg.root.depth)) v → v ≤ u.2.2.1 → H u.2.1 u.1 = some h →
        v + h ≤ bkOf cfg.lb r.bestExactValue ∨
        (∃ c ∈ r.cutset, u.2.1 ≤ c.depth ∧ ∃ y, (H c.depth c.state).addI c.value = some y ∧ v + h ≤ y) := by
  have hs : (0 : Int) + Cover.Bd B (cfg.P.nbVars + 1) ≤ big := by
    have := Cover.Bd_small hB.toDom (Nat.le_refl (cfg.P.nbVars + 1))
    unfold big; omega
  intro u hu
  obtain ⟨h1, h2⟩ := Ddo.Theta.theta_sound cfg H B 0 p0 cache store polls stopAt hrel hdom hW hP hR hM hAM hB hlb hroot
    (Int.le_refl 0) hs hok r hr u hu
  refine ⟨h1, fun v h hv hvt hH => ?_⟩
  rcases h2 v h (by rw [Int.zero_add]; exact hv) hvt hH with a | a | ⟨a, _⟩
  · exact .inl a
  · exact .inr a
  · rw [hcache] at a; cases a

/-- **Stage 1 is the field `theta` of the contract `CompC` of Stage 2**, for the diagram model: relaxed compilation of the
    sub-problem `cfg.root` (not deeper than `nb_variables`), consulting `cache` -/
theorem theta_contract_of_model (cfg : Cfg S K) (H : Nat → S → EInt) (B : Int) (p0 : List Dec) (cache : Cache S)
    (store : DomStore S K) (polls : Nat) (stopAt : Option Nat)
    (hrel : cfg.ctype = .relaxed) (hdom : cfg.dom = none) (hW : 1 ≤ cfg.width)
    (hP : Potential cfg.P H) (hR : RubOk cfg.R H) (hM : MergeOk cfg.R H) (hAM : Cover.AttMerge cfg.P cfg.R H)
    (hB : NoClamp cfg.P cfg.R cfg.root.value B) (hlb : cfg.lb < iMax)
    (hroot : Reach cfg.P cfg.root.depth cfg.root.state cfg.root.value p0) (hk0 : cfg.root.depth ≤ cfg.P.nbVars)
    (hok : (compile cfg cache store polls stopAt).1 = .ok) (r : Result S)
    (hr : r = (compile cfg cache store polls stopAt).2.1 ∨ (compile cfg cache store polls stopAt).2.2.1 = some r) :
    ∀ u ∈ r.cacheUpdates, ∀ v h, RgB B u.2.1 v → v ≤ u.2.2.1 → H u.2.1 u.1 = some h →
      v + h ≤ bkOf cfg.lb r.bestExactValue ∨
      (∃ c ∈ (C01.toOut r).cutset, u.2.1 ≤ c.depth ∧ ∃ y, optOf H c = some y ∧ v + h ≤ y) ∨
      CacheCov H (RgB B) (viewOf cache) u.2.1 (v + h) := by
  intro u hu v h hv hvt hH
  obtain ⟨h1, h2⟩ := Ddo.Theta.theta_sound cfg H B ((cfg.root.depth : Int) * B) p0 cache store polls stopAt hrel hdom hW hP hR
    hM hAM hB hlb hroot (Int.mul_nonneg (by omega) hB.nonneg) (bd_shift_small hB _ hk0) hok r hr u hu
  exact (h2 v h (by rw [bd_shift B _ _ h1]; exact hv) hvt hH).imp_right (Or.imp_right (cacheAlt_cov h1))

/-- **the field `exact` of `CompC`** for a relaxed compilation of the diagram model that consults `cache`
    (C07b / C06b with cache, `Ddo.Theta.cached_exact`) -/
theorem exact_contract_of_model (cfg : Cfg S K) (H : Nat → S → EInt) (B : Int) (p0 : List Dec) (cache : Cache S)
    (store : DomStore S K) (polls : Nat) (stopAt : Option Nat)
    (hrel : cfg.ctype = .relaxed) (hdom : cfg.dom = none) (hW : 1 ≤ cfg.width)
    (hP : Potential cfg.P H) (hR : RubOk cfg.R H) (hM : MergeOk cfg.R H) (hAM : Cover.AttMerge cfg.P cfg.R H)
    (hB : NoClamp cfg.P cfg.R cfg.root.value B) (hlb : cfg.lb < iMax)
    (hroot : Reach cfg.P cfg.root.depth cfg.root.state cfg.root.value p0) (hk0 : cfg.root.depth ≤ cfg.P.nbVars)
    (hok : (compile cfg cache store polls stopAt).1 = .ok) (r : Result S)
    (hr : r = (compile cfg cache store polls stopAt).2.1 ∨ (compile cfg cache store polls stopAt).2.2.1 = some r) :
    (C01.toOut r).isExact = true → ∀ x, optOf H cfg.root = some x → x > cfg.lb →
      (∃ w, (C01.toOut r).bestExact = some w ∧ x ≤ w) ∨ CacheCov H (RgB B) (viewOf cache) cfg.root.depth x := by
  intro hex x hx hgt
  rcases cached_exact cfg H B ((cfg.root.depth : Int) * B) p0 cache store polls stopAt hrel hdom hW hP hR hM hAM hB hlb hroot
    (Int.mul_nonneg (by omega) hB.nonneg) (bd_shift_small hB _ hk0) hok r hr hex x hx hgt with a | a
  · exact .inl a
  · exact .inr (cacheAlt_cov (Nat.le_refl _) a)

/-- **the field `cover` of `CompC`** for a relaxed compilation of the diagram model that consults `cache`
    (C08 (iv) with cache, `Ddo.Theta.cached_cover`); `bk = bkOf lb bestExactValue` -/
theorem cover_contract_of_model (cfg : Cfg S K) (H : Nat → S → EInt) (B : Int) (p0 : List Dec) (cache : Cache S)
    (store : DomStore S K) (polls : Nat) (stopAt : Option Nat)
    (hrel : cfg.ctype = .relaxed) (hdom : cfg.dom = none) (hW : 1 ≤ cfg.width)
    (hP : Potential cfg.P H) (hR : RubOk cfg.R H) (hM : MergeOk cfg.R H) (hAM : Cover.AttMerge cfg.P cfg.R H)
    (hB : NoClamp cfg.P cfg.R cfg.root.value B) (hlb : cfg.lb < iMax)
    (hroot : Reach cfg.P cfg.root.depth cfg.root.state cfg.root.value p0) (hk0 : cfg.root.depth ≤ cfg.P.nbVars)
    (hok : (compile cfg cache store polls stopAt).1 = .ok) (r : Result S)
    (hr : r = (compile cfg cache store polls stopAt).2.1 ∨ (compile cfg cache store polls stopAt).2.2.1 = some r) :
    ∀ x, optOf H cfg.root = some x → x > bkOf cfg.lb r.bestExactValue →
      (∃ c ∈ (C01.toOut r).cutset, ∃ y, optOf H c = some y ∧ x ≤ y) ∨ CacheCov H (RgB B) (viewOf cache) cfg.root.depth x := by
  intro x hx hgt
  have h1 := Ddo.Theta.bkOf_ge cfg.lb r.bestExactValue
  have hbe : ∀ be, r.bestExactValue = some be → be < x := by
    intro be hbe
    rw [hbe] at hgt
    unfold bkOf at hgt
    dsimp only at hgt
    omega
  rcases cached_cover cfg H B ((cfg.root.depth : Int) * B) p0 cache store polls stopAt hrel hdom hW hP hR hM hAM hB hlb hroot
    (Int.mul_nonneg (by omega) hB.nonneg) (bd_shift_small hB _ hk0) hok r hr x hx (by omega) hbe with a | a
  · exact .inl a
  · exact .inr (cacheAlt_cov (Nat.le_refl _) a)

section
variable (H : Nat → S → EInt) (opt : Int) (Sol : List Dec → Int → Prop) (Rg : Nat → Int → Prop)

/-- finite runs of the caching sequential solver, abstract over the diagram: a turn pops **any** node `N` of the fringe
    (`rest` = what is left in the fringe, `fa` the new `first_active_layer`) and processes it — `must_explore`
    answered by the cache `T`, the restricted compilation `r` (updates `rups`) and, if it is not exact, the relaxed one `x`
    (updates `xups`) meeting the contracts `CompC` —, or forgets thresholds (`clear_layer`). -/
inductive CacheRun (dedup : Bool) : SeqSt S × CView S → SeqSt S × CView S → Prop
  | refl (s : SeqSt S) (T : CView S) : CacheRun dedup (s, T) (s, T)
  | turn {a : SeqSt S × CView S} (s : SeqSt S) (T : CView S) (N : SubP S) (rest : List (SubP S)) (fa : Nat)
      (r : DDOut S) (rups : List (S × Nat × Int × Bool)) (x : DDOut S) (xups : List (S × Nat × Int × Bool)) :
      CacheRun dedup a (s, T) → s.fringe.Perm (N :: rest) →
      (∀ w, r.bestExact = some w → ∃ p, r.bestExactSol = some p ∧ Sol p w ∧ w ≤ opt) →
      (r.isExact = true → CompC H opt Sol Rg N s.bestLb T r rups (s.updateBest r).bestLb) →
      (r.isExact = false → rups = []) →
      (r.isExact = false → CompC H opt Sol Rg N (s.updateBest r).bestLb T x xups ((s.updateBest r).updateBest x).bestLb) →
      CacheRun dedup a (stateAfterD dedup (C01.popped s N rest fa) T N r x, viewAfter (C01.popped s N rest fa) T N r rups xups)
  | forget {a : SeqSt S × CView S} (s : SeqSt S) (T T' : CView S) :
      CacheRun dedup a (s, T) → (∀ s' d, T' s' d = T s' d ∨ T' s' d = none) → CacheRun dedup a (s, T')

/-- **the invariant holds along every run**, whatever nodes are popped -/
theorem cacheRun_inv (dedup : Bool)
    {a b : SeqSt S × CView S} (hrun : CacheRun H opt Sol Rg dedup a b)
    (ha : CInvC H opt Sol Rg a.1.fringe a.2 a.1.bestLb a.1.bestSol) :
    CInvC H opt Sol Rg b.1.fringe b.2 b.1.bestLb b.1.bestSol := by
  induction hrun with
  | refl s T => exact ha
  | turn s T N rest fa r rups x xups _ hperm hrs hr hrups hx ih =>
    obtain ⟨f1, f2, f3⟩ := popped_fields s N rest fa
    have hI : CInvC H opt Sol Rg (N :: (C01.popped s N rest fa).fringe) T (C01.popped s N rest fa).bestLb
        (C01.popped s N rest fa).bestSol := by
      rw [f1, f2, f3]; exact cinvC_perm H opt Sol Rg hperm (ih ha)
    have hue : ∀ o : DDOut S, ((C01.popped s N rest fa).updateBest o).bestLb = (s.updateBest o).bestLb := by
      intro o; rw [← bkOf_updateBest, ← bkOf_updateBest, f2]
    have hue2 : ∀ o o' : DDOut S, (((C01.popped s N rest fa).updateBest o).updateBest o').bestLb =
        ((s.updateBest o).updateBest o').bestLb := by
      intro o o'; rw [← bkOf_updateBest, ← bkOf_updateBest, ← bkOf_updateBest, ← bkOf_updateBest, f2]
    exact processC_inv_any H opt Sol Rg dedup (C01.popped s N rest fa) T N r rups x xups hI hrs
      (fun h => by rw [f2, hue]; exact hr h) hrups (fun h => by rw [hue, hue2]; exact hx h)
  | forget s T T' _ hsub ih => exact cinvC_forget H opt Sol Rg _ T T' _ _ hsub (ih ha)

/-- **`caching_run_optimal`**: a run of the caching solver from a state satisfying the invariant (e.g. the initial one,
    `init_cinvC`) that ends with an empty fringe ends with the optimum, and the stored solution is feasible with that value:
    the same answer as the solver without cache (`Ddo.C01.complete_optimal`). -/
theorem caching_run_optimal (dedup : Bool)
    {a b : SeqSt S × CView S} (hrun : CacheRun H opt Sol Rg dedup a b)
    (ha : CInvC H opt Sol Rg a.1.fringe a.2 a.1.bestLb a.1.bestSol) (hend : b.1.fringe = []) :
    b.1.bestLb = opt ∧ ∀ p, b.1.bestSol = some p → Sol p opt := by
  have h := cacheRun_inv H opt Sol Rg dedup hrun ha
  rw [hend] at h
  exact caching_solver_optimal H opt Sol Rg b.2 _ _ h

/-- **`cachePruneOk`**: under the invariant, dropping a popped node that
    `must_explore` refuses preserves the invariant — whatever it could lead to is carried by another open sub-problem. -/
theorem cachePruneOk (F : List (SubP S)) (T : CView S) (N : SubP S) (lb : Int) (sol : Option (List Dec))
    (h : CInvC H opt Sol Rg (N :: F) T lb sol) (hp : prunM T N) : CInvC H opt Sol Rg F T lb sol := by
  have live : ∀ x d, Live H (N :: F) T x d → Live H F T x d := by
    rintro x d ⟨c, hc, h1, h2, h3, h4⟩
    rcases List.mem_cons.mp hc with rfl | hc
    · exact absurd hp h4
    · exact ⟨c, hc, h1, h2, h3, h4⟩
  exact ⟨fun c hc => h.good c (List.mem_cons_of_mem _ hc), fun c hc => h.rng c (List.mem_cons_of_mem _ hc), h.lbOk, h.solOk,
    fun hgt => live _ _ (h.root hgt), fun s d t v hh h1 h2 h3 h4 h5 => live _ _ (h.cache s d t v hh h1 h2 h3 h4 h5),
    fun c hc y hy hgt => live _ _ (h.open_ c (List.mem_cons_of_mem _ hc) y hy hgt)⟩

/-- Stage 3 on the concrete cache: `clear_layer` preserves the invariant -/
theorem clear_layer_preserves (F : List (SubP S)) (c c' : Cache S) (d : Nat) (lb : Int) (sol : Option (List Dec))
    (hc : c.clearLayer d = some c') (h : CInvC H opt Sol Rg F (viewOf c) lb sol) : CInvC H opt Sol Rg F (viewOf c') lb sol :=
  cinvC_forget H opt Sol Rg F (viewOf c) (viewOf c') lb sol (viewOf_clearLayer c c' d hc) h

end

end Ddo.C09

#print axioms Ddo.C09.theta_sound
#print axioms Ddo.C09.theta_sound_isolated
#print axioms Ddo.C09.theta_contract_of_model
#print axioms Ddo.C09.exact_contract_of_model
#print axioms Ddo.C09.cover_contract_of_model
#print axioms Ddo.Theta.cached_relaxed_ub
#print axioms Ddo.C09.processC_inv_any
#print axioms Ddo.C09.processC_inv
#print axioms Ddo.C09.init_cinvC
#print axioms Ddo.C09.cinvC_forget
#print axioms Ddo.C09.caching_solver_optimal
#print axioms Ddo.C09.cacheRun_inv
#print axioms Ddo.C09.caching_run_optimal
#print axioms Ddo.C09.cachePruneOk
#print axioms Ddo.C09.clear_layer_preserves
