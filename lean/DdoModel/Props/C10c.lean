import DdoModel.Proofs.CacheDomDefs
import DdoModel.Proofs.DomSim
/-! # C09 + C10 together — the sequential solver with the threshold cache **and** the dominance checker

`Props/C09c.lean` (`Ddo.C09.caching_solver_correct`: cache, no checker) and `Props/C10b.lean`
(`Ddo.C10.dominance_solver_optimal`: checker, no cache) are closed theorems over the diagram model `compile`.  The shipped
solvers (`DefaultCachingSolver`, the knapsack / alp / tsptw / lcs examples) enable both at once: every compilation consults
the cache and the shared checker, and `_compute_thresholds` derives cache thresholds from dominance-pruned nodes too.  Here:
the **joint statement** for the sequential solver (`Proofs/CacheDomDefs.lean`: `KDSt`, `DSolverCfg.kdprocess`,
`DSolverCfg.kdturn`, `KDStep`, `KDRun`, `DSolverCfg.kdsolveLoop`; ONE compilation input with `useCache := true` and
`dom := some D`, the cache replayed and the store threaded out of each compilation).

## verdict: the joint statement is **false** — for every notion of "valid rule" this development has (finding **D17**)

`CachingDominanceSolverCorrect` — "for every `WellFormed` model and every rule with a protected optimal strategy (`UndomOpt`,
the hypothesis of `dominance_solver_optimal`), both cut-set kinds, both fringes, best-first pops, the solver with cache and
checker terminates, never panics, and at the empty fringe holds the optimum, a feasible stored solution and
`is_exact = true`" — is refuted (`caching_dominance_solver_correct_false`), and so are its executable-loop form
(`kdsolveLoop_computes_opt_false`) and every strengthening of the hypothesis on the rule:

| model (file `Proofs/CacheDom….lean`) | the rule satisfies | reported / optimum | theorem |
|---|---|---|---|
| `Twin`     | simulation for **all** pairs of states and values (`SimAll`: the two compared states are bisimilar), hence `SimAdmissible`, `AdmissibleAll`, `UndomOpt` | 5 / 10  | `caching_dominance_simAll_false`, `Twin.finding` |
| `CrossSim` | `SimAdmissible` + static order (the sufficient condition of C10b), unique optimal solution | 10 / 15 | `caching_dominance_sim_false`, `CrossSim.finding` |
| `Cross`    | `UndomOpt` + `AdmissibleAll` | 5 / 10  | `caching_dominance_admissible_false`, `Cross.finding` |
| `Carrier`  | `UndomOpt` (one configuration) | 7 / 13  | `Carrier.finding` |

In every case: `WellFormed` model of the family `Ddo.C09.Layered` (6–7 binary variables, 3–7 states, `FixedWidth(1)`), best-first
pops (forced, no ties, except `Carrier`), 3–4 turns, no panic, empty fringe, `is_exact = true`, wrong value; both fringes and both
cut-set kinds (except `Carrier`); on the same model **every** run with the cache alone and **every** run with the checker alone
ends with the optimum — by the two closed theorems, whose hypotheses are proved (`….finding`).  All run facts are evaluated (kernel) on
the composed executable model and explained turn by turn (`stage…` theorems).  `Twin`, `CrossSim` and `Cross` were replayed on
the **real library** (engine `cachedom`): same numbers for `SeqCachingSolverLel/Fc` (both fringes),
`ParCachingSolverLel/Fc` (one thread) and `DefaultCachingSolver` with `SimpleDominanceChecker`; the optimum with `EmptyCache` or
`EmptyDominanceChecker`.

## mechanisms

1. **A dominance verdict is applied to relaxed nodes** (`Cross`, `CrossSim`).  A verdict is a statement about one *exactly reached*
   item `(state, depth, value)`; `is_dominated_or_insert` returns with it a threshold (the dominator's value).
   `_filter_with_dominance` stores it in `node.theta`, `_compute_thresholds` publishes it — and what it propagates to the ancestors —
   to the cache, and `_filter_with_cache` applies thresholds to **every** node of a layer, relaxed ones included, while the checker
   is, by design, never asked about relaxed nodes.  A relaxed node with that state stands for *other* exact items: other states
   (`Cross`: the protected `g4`), or a value of the state that is never reached exactly (`CrossSim`: threshold 5 applied to a
   relaxed node of value 5, the only exact value of that state is 0).  `Cross.theta_unjustified`: the threshold has none of the
   three justifications of `Ddo.C09.theta_sound`.
2. **The carrier of a potential is dropped by the checker** (`Carrier`; no dominance-derived threshold).  C09's invariant says
   "what the cache prunes is carried by an open sub-problem"; C10's says "the protected family is never dropped".  Nothing forces
   the carrier to be protected.
3. **A cycle of deferrals, with a rule that is simply true** (`Twin`).  The cache defers the relaxed image of an exact item `E` to
   an open node `k2` with the same state ("`k2` will be explored"); the checker later drops `k2` at its pop because `E` — a
   bisimilar state the rule prefers — is in the store ("`E` was explored"); and `E`'s sub-tree was handed to the cut-set node above
   it, whose diagram is the one the first deferral emptied.  The merge operator (largest state — a valid relaxation) produces a
   state that the rule likes less than an exact state it stands for; that is all it takes.

## what holds

* `Kp.joint_value`, `Kp.both_prune`: on `Ddo.C10.Kp` (the knapsack rule of the `ddo` documentation) the solver with both mechanisms
  returns the optimum in every configuration and both mechanisms prune.  That rule satisfies `SimAll` (`Kp.simAll`) and its merge
  operator is **maximal for the rule** (`Kp.mergeCompat`: the merged state is at least as good, in the rule's order, as every state
  it replaces).  Together the two exclude mechanisms 1 and 3 (a relaxed image is then at least as good, in the rule's order and
  for every value, as what it stands for: whatever dominates the image dominates what it stands for, and the image of an item that
  dominates an open node is strictly above the threshold that node carries).
* `CachingDominanceCompat` — the joint statement for `SimAll` rules with a static order **and** a rule-maximal merge
  (`MergeCompat`) — is still false (`cachingDominanceCompat_false`, `Proofs/CompatShadow.lean`; `Props/C10d.lean`); with a potential
  that is monotone in the rule's order it holds (`caching_dominance_solver_correct_mono`, `Props/C10e.lean`).  `JointSound` —
  termination, no panic and soundness of the reported value for every rule — is a theorem (`jointSound`, `Proofs/CompatSound.lean`).
  The single-compilation contracts of C09 (`theta_sound`, `CompC`) are proved for `cfg.dom = none` and those of C10
  (`DomRelax*.lean`, `DomTruth.lean`) for `cfg.useCache = false`; the contracts for `useCache = true ∧ dom = some D` are those of
  `Props/C10e.lean`, under its hypotheses. -/
set_option linter.unusedSectionVars false
set_option linter.unusedVariables false
namespace Ddo.C10c
open Ddo Ddo.C01 Ddo.Closed Ddo.C09 Ddo.C10

/-- what the two existing theorems conclude, for the solver with cache **and** checker: termination (well-founded step
    relation on the reachable states, no infinite run), progress and no panic before the fringe is empty, and at the empty
    fringe the optimum, a feasible stored solution of that value and `is_exact = true` -/
def JointCorrect {S K : Type} [DecidableEq S] [DecidableEq K] (dv : DSolverCfg S K) (opt : Int) : Prop :=
  WellFounded (fun t s : KDSt S K => KDRun dv (KDSt.init dv) s ∧ KDStep dv s t) ∧
  (∀ run : Nat → KDSt S K, run 0 = KDSt.init dv → ¬ ∀ n, KDStep dv (run n) (run (n + 1))) ∧
  ∀ t, KDRun dv (KDSt.init dv) t →
    (t.st.fringe ≠ [] → ∃ u, KDStep dv t u) ∧
    t.st.crashed = false ∧
    (t.st.fringe = [] →
      t.st.bestLb = opt ∧ (∃ p, t.st.bestSol = some p ∧ SolOf dv.sv.P p opt) ∧ t.st.completion = (true, some opt))

/-- **the joint statement**, with the hypotheses of `Ddo.C10.dominance_solver_optimal`
    (which include those of `Ddo.C09.caching_solver_correct`).  **It is false**: `caching_dominance_solver_correct_false`. -/
def CachingDominanceSolverCorrect : Prop :=
  ∀ (S K : Type) [DecidableEq S] [DecidableEq K] (dv : DSolverCfg S K) (H : Nat → S → EInt) (B0 B opt : Int),
    WellFormed dv.sv H B0 B → (H 0 dv.sv.P.init).addI dv.sv.P.initVal = some opt → UndomOpt dv.D dv.sv.P H opt →
    JointCorrect dv opt

/-- the executable-loop form (`…_computes_opt`): with enough fuel the loop ends with the empty fringe, no panic,
    `is_exact = true` and the optimum.  **False** as well: `kdsolveLoop_computes_opt_false`. -/
def KdsolveLoopComputesOpt : Prop :=
  ∀ (S K : Type) [DecidableEq S] [DecidableEq K] (dv : DSolverCfg S K) (H : Nat → S → EInt) (B0 B opt : Int),
    WellFormed dv.sv H B0 B → (H 0 dv.sv.P.init).addI dv.sv.P.initVal = some opt → UndomOpt dv.D dv.sv.P H opt →
    ∃ n, (dv.kdsolveLoop n (KDSt.init dv)).st.fringe = [] ∧ (dv.kdsolveLoop n (KDSt.init dv)).st.crashed = false ∧
      (dv.kdsolveLoop n (KDSt.init dv)).st.completion = (true, some opt)

section stated
variable {S K : Type}

/-- the simulation condition **for all pairs of states and values** — not only for exactly reached ones: whenever `(a, va)` is at
    least as good as `(b, vb)`, every decision available to `b` is matched by a decision available to `a` whose child is at least as
    good as `b`'s child, and "at least as good" includes the value.  The knapsack rule satisfies it (`Kp.simAll`), and so does `Twin.rule`
    (`Twin.simAll`); `CrossSim.rule` does not (its verdict on `(1, value 5)` is wrong), `Cross.rule` does not either. -/
structure SimAll (D : DomRule S K) (P : Problem S) (n : Nat) : Prop where
  step : ∀ d a va b vb L x, GeItem D n a va b vb → P.nextVar d L = some x → b ∈ L →
    ∀ db ∈ P.domain x b, ∃ da ∈ P.domain x a,
      GeItem D n (P.trans a ⟨x, da⟩) (va + P.cost a (P.trans a ⟨x, da⟩) ⟨x, da⟩)
                 (P.trans b ⟨x, db⟩) (vb + P.cost b (P.trans b ⟨x, db⟩) ⟨x, db⟩)
  value : ∀ a va b vb, GeItem D n a va b vb → vb ≤ va

theorem SimAll.sim {D : DomRule S K} {P : Problem S} {n : Nat} (h : SimAll D P n) : SimAdmissible D P n :=
  ⟨fun d a va b vb _ _ L x _ _ hge hnv hb db hdb => h.step d a va b vb L x hge hnv hb db hdb,
   fun _ a va b vb _ _ _ _ _ hge _ _ => h.value a va b vb hge⟩

/-- **the merge operator is maximal for the rule**: the merged state, with any value, is at least as good — in the rule's order — as
    every state it replaces with that value, and `relax` never lowers a cost.  True of "merge = component-wise best" relaxations
    (`Kp.mergeCompat`); false of `Twin` (`Twin.not_mergeCompat`: `{0, 1}` is merged to `1`; in the run `{pE, pF}` is merged to `pF`,
    whose child `1` is what the rule puts below `pE`'s child `0`). -/
structure MergeCompat (D : DomRule S K) (R : Relax S) (n : Nat) : Prop where
  merge : ∀ (X : List S) (u : S) (v : Int), u ∈ X → GeItem D n (R.merge X) v u v
  relax : ∀ (src dst merged : S) (d : Dec) (c : Int), c ≤ R.relax src dst merged d c

end stated

section loop
variable {S K : Type} [DecidableEq S] [DecidableEq K]

theorem kdsolveLoop_empty (dv : DSolverCfg S K) (s : KDSt S K) (h : s.st.fringe = []) : ∀ m, dv.kdsolveLoop m s = s := by
  intro m
  cases m with
  | zero => rfl
  | succ m =>
    unfold DSolverCfg.kdsolveLoop
    rw [h]
    rfl

theorem kdsolveLoop_stuck (dv : DSolverCfg S K) (s : KDSt S K) (N : SubP S) (rest : List (SubP S))
    (hp : popMax s.st.fringe = some (N, rest)) (ht : dv.kdturn s N rest = none) : ∀ m, dv.kdsolveLoop m s = s := by
  intro m
  cases m with
  | zero => rfl
  | succ m =>
    unfold DSolverCfg.kdsolveLoop
    rw [hp]
    dsimp only
    rw [ht]

theorem kdsolveLoop_add (dv : DSolverCfg S K) : ∀ (n m : Nat) (s : KDSt S K),
    dv.kdsolveLoop (n + m) s = dv.kdsolveLoop m (dv.kdsolveLoop n s) := by
  intro n
  induction n with
  | zero => intro m s; rw [Nat.zero_add]; rfl
  | succ n ih =>
    intro m s
    have e : n + 1 + m = (n + m) + 1 := by omega
    rw [e]
    cases hp : popMax s.st.fringe with
    | none =>
      have hfr : s.st.fringe = [] := by
        cases hf : s.st.fringe with
        | nil => rfl
        | cons c l =>
          obtain ⟨N, rest, h⟩ := popMax_some s.st.fringe (by rw [hf]; exact List.cons_ne_nil _ _)
          rw [h] at hp; cases hp
      rw [kdsolveLoop_empty dv s hfr, kdsolveLoop_empty dv s hfr, kdsolveLoop_empty dv s hfr]
    | some Nr =>
      obtain ⟨N, rest⟩ := Nr
      cases ht : dv.kdturn s N rest with
      | none => rw [kdsolveLoop_stuck dv s N rest hp ht, kdsolveLoop_stuck dv s N rest hp ht, kdsolveLoop_stuck dv s N rest hp ht]
      | some t =>
        have e1 : dv.kdsolveLoop (n + m + 1) s = dv.kdsolveLoop (n + m) t := by
          rw [DSolverCfg.kdsolveLoop]; simp only [hp, ht]
        have e2 : dv.kdsolveLoop (n + 1) s = dv.kdsolveLoop n t := by
          rw [DSolverCfg.kdsolveLoop]; simp only [hp, ht]
        rw [e1, e2]
        exact ih m t

theorem kdsolveLoop_stable (dv : DSolverCfg S K) (s : KDSt S K) (n : Nat) (h : (dv.kdsolveLoop n s).st.fringe = []) (m : Nat)
    (hm : n ≤ m) : dv.kdsolveLoop m s = dv.kdsolveLoop n s := by
  have e : m = n + (m - n) := by omega
  rw [e, kdsolveLoop_add, kdsolveLoop_empty dv _ h]

theorem kdsolveLoop_eq_of_empty (dv : DSolverCfg S K) (s : KDSt S K) {n m : Nat} (hn : (dv.kdsolveLoop n s).st.fringe = [])
    (hm : (dv.kdsolveLoop m s).st.fringe = []) : dv.kdsolveLoop n s = dv.kdsolveLoop m s := by
  rcases Nat.le_total n m with h | h
  · exact (kdsolveLoop_stable dv s n hn m h).symm
  · exact kdsolveLoop_stable dv s m hm n h

end loop

/-- the joint statement for rules that satisfy the simulation condition for all pairs, with a static variable order.
    **False**: `caching_dominance_simAll_false` (model `Twin`). -/
def CachingDominanceSimAll : Prop :=
  ∀ (S K : Type) [DecidableEq S] [DecidableEq K] (dv : DSolverCfg S K) (H : Nat → S → EInt) (B0 B opt : Int) (n : Nat),
    WellFormed dv.sv H B0 B → (H 0 dv.sv.P.init).addI dv.sv.P.initVal = some opt → (∀ s, dv.D.dims s = n) →
    StaticOrder dv.sv.P → SimAll dv.D dv.sv.P n → JointCorrect dv opt

/-- the joint statement for rules that satisfy the simulation condition for all pairs, with a static variable order and a merge
    operator that is maximal for the rule.  **False**: `cachingDominanceCompat_false` (`Proofs/CompatShadow.lean`). -/
def CachingDominanceCompat : Prop :=
  ∀ (S K : Type) [DecidableEq S] [DecidableEq K] (dv : DSolverCfg S K) (H : Nat → S → EInt) (B0 B opt : Int) (n : Nat),
    WellFormed dv.sv H B0 B → (H 0 dv.sv.P.init).addI dv.sv.P.initVal = some opt → (∀ s, dv.D.dims s = n) →
    StaticOrder dv.sv.P → SimAll dv.D dv.sv.P n → MergeCompat dv.D dv.sv.R n → JointCorrect dv opt

/-- for **every** rule (no hypothesis on it) the solver with cache and checker terminates, never panics, and only
    ever reports the value of a stored solution that is a feasible complete path (so `best_lb ≤ optimum`) — what
    `Ddo.C09.caching_solver_anyorder_sound` says of the caching solver for every pop order.  A theorem: `jointSound`
    (`Proofs/CompatSound.lean`). -/
def JointSound : Prop :=
  ∀ (S K : Type) [DecidableEq S] [DecidableEq K] (dv : DSolverCfg S K) (H : Nat → S → EInt) (B0 B : Int),
    WellFormed dv.sv H B0 B →
    WellFounded (fun t s : KDSt S K => KDRun dv (KDSt.init dv) s ∧ KDStep dv s t) ∧
    ∀ t, KDRun dv (KDSt.init dv) t →
      (t.st.fringe ≠ [] → ∃ u, KDStep dv t u) ∧ t.st.crashed = false ∧ t.st.abort = false ∧
      (∀ opt, (H 0 dv.sv.P.init).addI dv.sv.P.initVal = some opt →
        t.st.bestLb ≤ opt ∧ ∀ p, t.st.bestSol = some p → SolOf dv.sv.P p t.st.bestLb) ∧
      ((H 0 dv.sv.P.init).addI dv.sv.P.initVal = none → t.st.bestSol = none)

end Ddo.C10c

#print axioms Ddo.C10c.kdsolveLoop_run
#print axioms Ddo.C10c.kdsolveLoop_stable
#print axioms Ddo.C10c.SimAll.sim
