import DdoModel.Proofs.ParCacheClosed
import DdoModel.Proofs.ParCacheOracle
/-! # C09 / C03 (closed) — the PARALLEL solver WITH the threshold cache returns the optimum, for every interleaving of the
critical sections **and of the individual cache reads / writes**

`Ddo.C03c.parallel_solver_correct` is the cache-less parallel solver; `Ddo.C09.caching_solver_correct` the sequential solver
with `SimpleCache` (any pop order since the repair of D14).  Here: the parallel solver with the cache.  Before the
repair the statement was false (finding D14, parallel form: a worker delayed between its pop and its compilation).

## the system (`Proofs/ParCacheSys.lean`, `Proofs/ParCacheModel.lean`)
`KPStep sv` / `KPRun sv`: shared `Critical` record (`ParCrit`; `take`, `maybe_update_best`, `enqueue_cutset`,
`notify_node_finished`, `complete` are the functions of `ParSolver.lean`, while the pop loop and the cleaning loop of `get_workload`
— `popLoop` / `cleanLoopPar` there — are spelt out step by step in `ParCacheSys.lean`: `starve`, `dropOne`, `cleanCond`, `bumpFirst`),
the shared cache, one worker-local state per thread; 21 kinds of steps.  What is **atomic** is what is atomic in the code and nothing more:
* a critical section other than `get_workload` (they do not touch the cache) — one step, enabled when nobody is inside
  `get_workload` (`LockFree`);
* `get_workload` holds the mutex over **several** steps — `gwEnter`, one `clear_layer` per `gwClear` (condition of the code:
  `open_by_layer[fa] + ongoing_by_layer[fa] == 0`), `gwComplete` / `gwWait` / `gwToPop`, then per popped node (best-first pop
  `PopMax`) `gwStarve` / `gwDrop` (`must_explore` = ONE atomic read) / `gwKeep`, and separately `gwTake` = the pop-time write
  `update_threshold(nn.state, nn.depth, nn.value, explored = true)` + the bookkeeping + unlock — so that the lock-free cache
  accesses of the other workers interleave with every one of its cache accesses;
* the end of a compilation (`compileR` / `compileX`, lock-free): the worker presents the **virtual cache** `cv` its reads
  assembled — every entry of `cv` was an entry of the shared cache at some moment between the worker's `best_lb()` and now
  (`FromLog`, over the ghost history `log`); the answer is that of the diagram model run against `cv` (`okRk`, `okXk`).
  *Why this is all a compilation can observe:* it issues at most one `get_threshold` per `(state, depth)`
  (`Ddo.ParCache.compileReads_ok`: the cells read by one compilation are pairwise distinct), and a compilation whose `j`-th read
  is answered by the `j`-th element of an ARBITRARY sequence of caches is the compilation against a virtual cache each of whose
  entries is an entry of one of them (`Ddo.ParCache.compileO_sim`, `Proofs/ParCacheOracle.lean`: `compileO` = `compile` with
  the cache a function of the read index).  Reads need not even be consistent in time;
* every `update_threshold` of a finished compilation is a step of its own (`writeR` / `writeX`, lock-free, in call order),
  **before** the worker's `maybe_update_best` (as in the code: `_compute_thresholds` runs inside `compile`);
* `enqueue_cutset` without cap (repair of D14); no cut-off (`NoCutoff`, as for `caching_solver_correct`);
* panics are explicit (`crash`, enabled exactly when the next operation of the worker would panic: `Panics`).

## the invariant, in words (`Proofs/ParCacheCover.lean`: `KPInv`)
`x` **beats** when it exceeds the incumbent *and every exact value a worker has found but not yet published*.  `x` is **live at
depth `d`** when a sub-problem of depth `≥ d` and potential `≥ x` is (i) in the fringe and accepted by `must_explore` now, or
(ii) in the hand of a worker (popped and kept, not yet closed — whatever the cache says: its own pop-time write refuses it), or
(iii) in the cut-set of a finished relaxed compilation not yet enqueued, and accepted by `must_explore` now.  Then:
* if the optimum beats, it is live at depth 0;
* **every entry `(s, d) ↦ θ` that the shared cache has EVER held is justified NOW**: whatever it prunes (`v ≤ θ`) and beats is
  live at depth `≥ d`.  Justification is *monotone in time* (`tp_of_local`, the transfer principle: every step maps live facts to
  live facts — a witness that disappears is dominated by a witness strictly deeper, induction on the bounded depth); that is
  exactly why a read of an old value, of a value written meanwhile, or of a value cleared since, is equally sound, and why
  `clear_layer` needs no safety condition at all for correctness;
* every node the cache can refuse (fringe, pending cut-sets) and every node just popped has a bound that dominates its
  potential, or its potential is live *strictly deeper* (bounds computed in diagrams cut by the cache);
* a worker past a compilation carries the contract of that compilation relative to ITS virtual cache and ITS stale incumbent
  (`CompK`: the sequential contract `CompC` + the strict threshold contract + `fresh1`), and the entries of its virtual cache are
  in the log; between `gwKeep` and `gwTake` the kept node has the largest bound of the fringe.
`kstep_kpinv`: preserved by each of the 21 steps.  `KInvAll` adds the side conditions of the diagram theorems (`PCK`) and the
bookkeeping (`LayInvK`: counters, `ongoing`, mutual exclusion, cache shape — hence no panic).

## finding (proof structure, not code): the sequential threshold contract is too weak for the parallel system
`CompC.theta` justifies a recorded threshold `(s, d, θ)` by a cut-set node of the same diagram **not shallower than `d`**.  In the
sequential proof that is enough because a later compilation *reads* the earlier thresholds.  Concurrently it is not: two workers
whose cut-set nodes `c₁`, `c₂` sit at the same depth with equal potentials could each record a threshold on the *other's* state
"justified" by their own node — every field of `CompC` holds, both nodes are then refused at pop, the optimum is lost.  The real
diagram cannot do that: a threshold of a node that is not itself handed out is justified **strictly deeper**
(`Ddo.Theta.gt_all_s`, `Proofs/ThetaCore.lean`; `Ddo.C09.ThetaStrict`, `Proofs/ParCacheTheta.lean`: same layer ⇒ same node), and that strict form is what
the parallel invariant uses (`kpinv_write`).  **This is a theorem, not a remark**: `Ddo.ParCache.Weak.compC_alone_insufficient`
(`Proofs/ParCacheWeak.lean`) — a 49-step run of the abstract system with two workers, every compilation of which satisfies
`CompC` (the weak contracts are exactly `OkRc` / `OkXc` minus `ThetaStrict` and `fresh1`), from an initial state that satisfies
`KPInv`, reaches `Complete` with `best_lb = isize::MIN` although the optimum is 10 (`not_thetaStrict_xA`: the answers violate
the strict form, as they must).  Nothing false was found about the code: no counter can underflow
(`Ddo.ParCache.no_panics`), the mutex held across the whole pop loop is what makes `gwStarve`'s zeroing of `open_by_layer`
exact; the best-first pop (`PopMax`) is used in exactly one place, `gwStarve` (`nn.ub <= best_lb` ⇒ the whole fringe is
cleared) — the pop-time write, `must_explore` and everything about the cache hold for any pop order (the clause `popmax` of
`KPInv` is recorded but not used).

## the headline `parallel_caching_solver_correct` — hypotheses: `WellFormed sv H B0 B` exactly as `C01d` / `C03c` / `C09c`,
`U ≥ 1` workers.  Nothing else. -/
set_option linter.unusedSectionVars false
set_option linter.unusedVariables false
namespace Ddo.C09e
open Ddo Ddo.Truth Ddo.Closed Ddo.ParSys Ddo.ParClosed Ddo.ParCache Ddo.C09
open Ddo.C01 (SolverCfg WellFormed toOut SolOf)
variable {S : Type} [DecidableEq S]

theorem pck_progOkK {sv : SolverCfg S} {H : Nat → S → EInt} {B0 B : Int} (hwf : WellFormed sv H B0 B) {s : KSys S}
    (hI : PCK sv H B s) : ProgOkK sv.P.nbVars s := by
  intro w hw
  cases w with
  | wrX n lb o cv ups todo =>
    obtain ⟨_, h2, _⟩ : (iMin ≤ lb ∧ lb ≤ B) ∧ okXk sv n lb cv o ups ∧ ∀ u' ∈ todo, u' ∈ ups := (hI.ws _ hw).stage
    exact fun c hc => ((okXk_facts hwf ((hI.ws _ hw).node n (.inl rfl)) h2).2.2.2 c hc).2
  | enq n lb o cv ups =>
    obtain ⟨_, h2⟩ : (iMin ≤ lb ∧ lb ≤ B) ∧ okXk sv n lb cv o ups := (hI.ws _ hw).stage
    exact fun c hc => ((okXk_facts hwf ((hI.ws _ hw).node n (.inl rfl)) h2).2.2.2 c hc).2
  | _ => trivial

/-- **termination**: the step relation of the parallel caching solver, on the reachable states, is well-founded -/
theorem kp_terminates {sv : SolverCfg S} {H : Nat → S → EInt} {B0 B : Int} (hwf : WellFormed sv H B0 B) (U : Nat) :
    WellFounded (fun t s : KSys S => KPRun sv (KSys.init sv.P sv.dedup U) s ∧ KPStep sv s t) :=
  Subrelation.wf (fun {_ _} h => ⟨h.2, pck_progOkK hwf (kprun_inv hwf U h.1).pck⟩)
    (ksys_terminates' sv.P.nbVars sv.dedup (okRk sv) (okXk sv))

/-- … there is no infinite run (any interleaving; wait steps, steps inside `get_workload`, single cache writes counted) -/
theorem kp_no_infinite_run {sv : SolverCfg S} {H : Nat → S → EInt} {B0 B : Int} (hwf : WellFormed sv H B0 B) (U : Nat)
    (run : Nat → KSys S) (h0 : run 0 = KSys.init sv.P sv.dedup U) : ¬ ∀ k, KPStep sv (run k) (run (k + 1)) :=
  no_infinite_run_of (kp_terminates hwf U) ParCache.KRun.tail And.intro run (h0 ▸ ParCache.KRun.refl _)

/-- compilations of nodes in range always answer (`compile_no_crash_cached`) -/
theorem comp_answers {sv : SolverCfg S} {H : Nat → S → EInt} {B0 B : Int} (hwf : WellFormed sv H B0 B) :
    (∀ n lb cv, ∃ o ups, n.depth ≤ sv.P.nbVars → okRk sv n lb cv o ups) ∧
    (∀ n lb cv, ∃ o ups, n.depth ≤ sv.P.nbVars → okXk sv n lb cv o ups) :=
  ⟨fun n lb cv => ⟨_, _, fun hd => ⟨CacheClosed.compile_no_crash_cached _ cv _ 0 rfl (hwf.width n) hwf.nv hd, rfl, rfl⟩⟩,
   fun n lb cv => ⟨_, _, fun hd => ⟨CacheClosed.compile_no_crash_cached _ cv _ 0 rfl (hwf.width n) hwf.nv hd, rfl, rfl⟩⟩⟩

/-- **no deadlock, no lost wake-up, no panic ahead**: in every reachable state in which some worker has not left its loop, some
    step that is not a panic is enabled -/
theorem kp_progress {sv : SolverCfg S} {H : Nat → S → EInt} {B0 B : Int} (hwf : WellFormed sv H B0 B) (U : Nat) {t : KSys S}
    (ht : KPRun sv (KSys.init sv.P sv.dedup U) t) (hlive : ¬ AllDone t) : ∃ u, KPStep sv t u ∧ NoPanic u := by
  have hI := kprun_inv hwf U ht
  have hD := pck_depthOk hwf hI.pck
  obtain ⟨hR, hX⟩ := comp_answers hwf
  obtain ⟨u, hu, hL, _⟩ := kstep_progress (dedup := sv.dedup)
    (okR := fun n lb cv o ups => n.depth ≤ sv.P.nbVars → okRk sv n lb cv o ups)
    (okX := fun n lb cv o ups => n.depth ≤ sv.P.nbVars → okXk sv n lb cv o ups) hI.lay hD hlive hR hX
  refine ⟨u, hu.mono (fun i n lb k0 cv o ups hw _ hok => hok ?_) (fun i n lb k0 cv o ups hw _ hok => hok ?_), layInvK_noPanic hL⟩
  · exact hD.held _ (List.mem_of_getElem? hw) n (.inl rfl)
  · exact hD.held _ (List.mem_of_getElem? hw) n (.inl rfl)

theorem kprun_len {sv : SolverCfg S} {s u : KSys S} (h : KPRun sv s u) : u.ws.length = s.ws.length := by
  induction h with
  | refl => rfl
  | tail _ hst ih =>
    rw [← ih]
    cases hst <;> simp [List.length_set, List.length_map]

theorem sol_some {sv : SolverCfg S} {H : Nat → S → EInt} {B0 B : Int} (hwf : WellFormed sv H B0 B) {opt : Int}
    (hopt : (H 0 sv.P.init).addI sv.P.initVal = some opt) {t : KSys S} (hI : PCK sv H B t)
    (hlb : t.crit.base.bestLb = opt) : ∃ p, t.crit.base.bestSol = some p :=
  hI.base.sol_some hwf hopt hlb

/-- **at `Complete`**: the incumbent is the optimum, the stored solution is a feasible complete path of that value,
    `best_ub := opt`, `Completion { is_exact: true, best_value: Some(opt) }` -/
theorem kp_complete_optimal {sv : SolverCfg S} {H : Nat → S → EInt} {B0 B : Int} (hwf : WellFormed sv H B0 B) {opt : Int}
    (hopt : (H 0 sv.P.init).addI sv.P.initVal = some opt) (U : Nat) {t : KSys S}
    (ht : KPRun sv (KSys.init sv.P sv.dedup U) t) {i : Nat} (hc : CompletesAt sv.P.nbVars t i) :
    t.crit.base.bestLb = opt ∧ (∃ p, t.crit.base.bestSol = some p ∧ SolOf sv.P p opt) ∧
    t.crit.complete.base.bestUb = opt ∧ t.crit.complete.base.completion = (true, some opt) := by
  have hI := kprun_inv hwf U ht
  obtain ⟨h1, h2⟩ := complete_opt H opt (SolOf sv.P) (RgB B) (hI.cov opt hopt) hc (completes_nothing_open hI.lay hc)
  obtain ⟨p, hs⟩ := sol_some hwf hopt hI.pck h1
  refine ⟨h1, ⟨p, hs, h2 p hs⟩, h1, ?_⟩
  show (!t.crit.base.abort, t.crit.base.bestSol.map (fun _ => t.crit.base.bestLb)) = _
  rw [hI.lay.opn.noAbort, hs, h1]; rfl

/-- **when `maximize()` returns** (every worker has left, `U ≥ 1`): the optimum, a feasible solution of that value,
    `is_exact = true` -/
theorem kp_final {sv : SolverCfg S} {H : Nat → S → EInt} {B0 B : Int} (hwf : WellFormed sv H B0 B) {opt : Int}
    (hopt : (H 0 sv.P.init).addI sv.P.initVal = some opt) (U : Nat) (hU : 1 ≤ U) {t : KSys S}
    (ht : KPRun sv (KSys.init sv.P sv.dedup U) t) (hd : AllDone t) :
    t.crit.base.bestLb = opt ∧ (∃ p, t.crit.base.bestSol = some p ∧ SolOf sv.P p opt) ∧
    t.crit.base.completion = (true, some opt) := by
  have hI := kprun_inv hwf U ht
  have hlen : t.ws.length = U := by rw [kprun_len ht]; simp [KSys.init]
  have h0 : ∃ w, t.ws[0]? = some w := by
    cases hws : t.ws with
    | nil => rw [hws] at hlen; simp at hlen; omega
    | cons w _ => exact ⟨w, rfl⟩
  obtain ⟨w, hw⟩ := h0
  have hwd : w = .done := hd w (List.mem_of_getElem? hw)
  have h1 := (hI.cov opt hopt).doneOk ⟨0, by rw [hw, hwd]⟩
  obtain ⟨p, hs⟩ := sol_some hwf hopt hI.pck h1
  refine ⟨h1, ⟨p, hs, h1 ▸ (hI.cov opt hopt).solOk p hs⟩, ?_⟩
  show (!t.crit.base.abort, t.crit.base.bestSol.map (fun _ => t.crit.base.bestLb)) = _
  rw [hI.lay.opn.noAbort, hs, h1]; rfl

/-- infeasible problem: nothing is ever stored; at `Complete`, `is_exact = true` and no value -/
theorem kp_infeasible {sv : SolverCfg S} {H : Nat → S → EInt} {B0 B : Int} (hwf : WellFormed sv H B0 B)
    (hinf : (H 0 sv.P.init).addI sv.P.initVal = none) (U : Nat) {t : KSys S}
    (ht : KPRun sv (KSys.init sv.P sv.dedup U) t) :
    t.crit.base.bestSol = none ∧ t.crit.base.completion.2 = none ∧
    (∀ i, CompletesAt sv.P.nbVars t i → t.crit.complete.base.completion = (true, none)) := by
  have hI := kprun_inv hwf U ht
  obtain ⟨_, h2⟩ := hI.pck.base.infeas hinf
  refine ⟨h2, ?_, fun i hc => ?_⟩
  · show t.crit.base.bestSol.map (fun _ => t.crit.base.bestLb) = none
    rw [h2]; rfl
  · show (!t.crit.base.abort, t.crit.base.bestSol.map (fun _ => t.crit.base.bestLb)) = _
    rw [h2, hI.lay.opn.noAbort]; rfl

/-- **`parallel_caching_solver_correct`**: for every well-formed model (`WellFormed`: `Potential`, `RubOk`, `MergeOk`,
    `AttMerge`, `RunBound`, `NvBound`, widths ≥ 1), every ranking of the states, width function, cut-set kind, either fringe and
    **every number of workers `U ≥ 1`**, the parallel solver with `SimpleCache` over the diagram model (best-first pops, no
    dominance, no cut-off), from `KSys.init sv.P sv.dedup U`, in **every interleaving of the critical sections, of the steps
    inside `get_workload`, and of the individual cache reads and writes** (each compilation reading, per cell, any content the
    shared cache had while it ran):

    * terminates: the step relation is well-founded on the reachable states; there is no infinite run;
    * in every reachable state `t`:
      - the whole invariant `KInvAll` (side conditions `PCK`, bookkeeping `LayInvK`, coverage `KPInv`);
      - nothing has panicked, the next operation of no worker panics (`Panics`: every index in range, no `usize` underflow),
        and — no deadlock, no lost wake-up — some step that is not a panic is enabled unless every worker has left;
      - feasible problem, optimum `opt`: whenever a worker's `get_workload` answers `Complete`, `best_lb = opt`, the stored
        solution is a genuinely feasible complete path of value `opt`, `best_ub := opt`,
        `Completion = (true, Some(opt))`; when `maximize()` returns (every worker gone) the same; always `best_lb ≤ opt` and the
        stored solution is feasible with value `best_lb`;
      - infeasible problem: no solution is ever stored, `Complete` reports `(true, None)`. -/
theorem parallel_caching_solver_correct (sv : SolverCfg S) (H : Nat → S → EInt) (B0 B : Int) (hwf : WellFormed sv H B0 B)
    (U : Nat) (hU : 1 ≤ U) :
    WellFounded (fun t s : KSys S => KPRun sv (KSys.init sv.P sv.dedup U) s ∧ KPStep sv s t) ∧
    (∀ run : Nat → KSys S, run 0 = KSys.init sv.P sv.dedup U → ¬ ∀ k, KPStep sv (run k) (run (k + 1))) ∧
    ∀ t, KPRun sv (KSys.init sv.P sv.dedup U) t →
      KInvAll sv H B t ∧
      (NoPanic t ∧ (∀ (i : Nat) (w : KW S), t.ws[i]? = some w → ¬ Panics sv.P.nbVars t i w) ∧
        (¬ AllDone t → ∃ u, KPStep sv t u ∧ NoPanic u)) ∧
      (∀ opt, (H 0 sv.P.init).addI sv.P.initVal = some opt →
        (∀ i, CompletesAt sv.P.nbVars t i →
          t.crit.base.bestLb = opt ∧ (∃ p, t.crit.base.bestSol = some p ∧ SolOf sv.P p opt) ∧
          t.crit.complete.base.bestUb = opt ∧ t.crit.complete.base.completion = (true, some opt)) ∧
        (AllDone t →
          t.crit.base.bestLb = opt ∧ (∃ p, t.crit.base.bestSol = some p ∧ SolOf sv.P p opt) ∧
          t.crit.base.completion = (true, some opt)) ∧
        t.crit.base.bestLb ≤ opt ∧ (∀ p, t.crit.base.bestSol = some p → SolOf sv.P p t.crit.base.bestLb)) ∧
      ((H 0 sv.P.init).addI sv.P.initVal = none →
        t.crit.base.bestSol = none ∧ t.crit.base.completion.2 = none ∧
        (∀ i, CompletesAt sv.P.nbVars t i → t.crit.complete.base.completion = (true, none))) := by
  refine ⟨kp_terminates hwf U, kp_no_infinite_run hwf U, fun t ht => ?_⟩
  have hI := kprun_inv hwf U ht
  have hD := pck_depthOk hwf hI.pck
  exact ⟨hI, ⟨layInvK_noPanic hI.lay, fun i w hw => no_panics hI.lay hD hw, kp_progress hwf U ht⟩,
    fun opt hopt => ⟨fun i hc => kp_complete_optimal hwf hopt U ht hc, fun hd => kp_final hwf hopt U hU ht hd,
      (hI.cov opt hopt).lbOk, (hI.cov opt hopt).solOk⟩,
    fun hinf => kp_infeasible hwf hinf U ht⟩

/-! ## the reads of a compilation, one by one

The step `compileR` / `compileX` of the system takes a virtual cache.  These two theorems say that this covers a compilation
whose **individual reads** are answered, one after the other, by arbitrary (possibly different, not even chronologically
ordered) contents the shared cache had while the compilation ran: `compileO cfg cs …` is the compilation of the diagram model
in which the `j`-th `get_threshold` is answered by the cache `cs j` (`Proofs/ParCacheOracle.lean`). -/

theorem view_of_get {c : Cache S} {st : S} {d : Nat} {t : Thr} (h : c.get st d = some (some t)) : viewOf c st d = some t := by
  unfold viewOf; rw [h]; rfl

theorem get_of_view {c : Cache S} {st : S} {d : Nat} {t : Thr} (h : viewOf c st d = some t) : c.get st d = some (some t) := by
  unfold viewOf at h
  cases hg : c.get st d with
  | none => rw [hg] at h; cases h
  | some x => rw [hg, Option.getD_some] at h; rw [h]

/-- a restricted compilation whose `j`-th read is answered by `cs j`, every `cs j` being a content the shared cache had since
    the worker entered the stage `compR`, **is a step of the system** -/
theorem oracle_compileR {sv : SolverCfg S} {s : KSys S} {i : Nat} {n : SubP S} {lb : Int} {k0 : Nat}
    (hw : s.ws[i]? = some (.compR n lb k0)) (cs : Nat → Cache S)
    (hcs : ∀ j, cs j ∈ s.log.take (s.log.length + 1 - k0))
    (hok : (compileO (sv.ccfg .restricted n lb) cs (DomStore.init sv.P.nbVars) 0 none).1 = .ok) :
    ∃ cv, KPStep sv s { s with ws := s.ws.set i (.wrR n lb
      (toOut (compileO (sv.ccfg .restricted n lb) cs (DomStore.init sv.P.nbVars) 0 none).2.1) cv
      (compileO (sv.ccfg .restricted n lb) cs (DomStore.init sv.P.nbVars) 0 none).2.1.cacheUpdates.reverse
      (compileO (sv.ccfg .restricted n lb) cs (DomStore.init sv.P.nbVars) 0 none).2.1.cacheUpdates.reverse) } := by
  obtain ⟨cv, _, hent, heq⟩ := compileO_sim (sv.ccfg .restricted n lb) cs (DomStore.init sv.P.nbVars) 0 none
    ((sv.ccfg .restricted n lb).root.depth + (sv.ccfg .restricted n lb).P.nbVars + 2) (.inr (Nat.le_refl _))
  refine ⟨cv, ?_⟩
  rw [heq] at hok ⊢
  refine KStep.compileR s i n lb k0 cv _ _ hw (fun st d t ht => ?_) ⟨hok, rfl, rfl⟩
  obtain ⟨j, hj⟩ := hent st d t (get_of_view ht)
  exact ⟨cs j, hcs j, view_of_get hj⟩

/-- the same for the relaxed compilation -/
theorem oracle_compileX {sv : SolverCfg S} {s : KSys S} {i : Nat} {n : SubP S} {lb : Int} {k0 : Nat}
    (hw : s.ws[i]? = some (.compX n lb k0)) (cs : Nat → Cache S)
    (hcs : ∀ j, cs j ∈ s.log.take (s.log.length + 1 - k0))
    (hok : (compileO (sv.ccfg .relaxed n lb) cs (DomStore.init sv.P.nbVars) 0 none).1 = .ok) :
    ∃ cv, KPStep sv s { s with ws := s.ws.set i (.wrX n lb
      (toOut (compileO (sv.ccfg .relaxed n lb) cs (DomStore.init sv.P.nbVars) 0 none).2.1) cv
      (compileO (sv.ccfg .relaxed n lb) cs (DomStore.init sv.P.nbVars) 0 none).2.1.cacheUpdates.reverse
      (compileO (sv.ccfg .relaxed n lb) cs (DomStore.init sv.P.nbVars) 0 none).2.1.cacheUpdates.reverse) } := by
  obtain ⟨cv, _, hent, heq⟩ := compileO_sim (sv.ccfg .relaxed n lb) cs (DomStore.init sv.P.nbVars) 0 none
    ((sv.ccfg .relaxed n lb).root.depth + (sv.ccfg .relaxed n lb).P.nbVars + 2) (.inr (Nat.le_refl _))
  refine ⟨cv, ?_⟩
  rw [heq] at hok ⊢
  refine KStep.compileX s i n lb k0 cv _ _ hw (fun st d t ht => ?_) ⟨hok, rfl, rfl⟩
  obtain ⟨j, hj⟩ := hent st d t (get_of_view ht)
  exact ⟨cs j, hcs j, view_of_get hj⟩

/-- every run can be continued until every worker has left (termination + progress) -/
theorem kp_run_to_end {sv : SolverCfg S} {H : Nat → S → EInt} {B0 B : Int} (hwf : WellFormed sv H B0 B) (U : Nat) {s : KSys S}
    (hs : KPRun sv (KSys.init sv.P sv.dedup U) s) :
    ∃ t, KPRun sv (KSys.init sv.P sv.dedup U) t ∧ KPRun sv s t ∧ AllDone t :=
  run_to_end_of ParCache.KRun.refl ParCache.KRun.tail ParCache.KRun.head (kp_terminates hwf U)
    (fun _ hs hd => (kp_progress hwf U hs hd).imp fun _ h => h.1) hs

/-- **`parallel_caching_solver_total`**: the parallel caching solver has a run from `initialize()` to the return of
    `maximize()`, every run can be completed to one, and **every** such run — every interleaving — reports `is_exact = true`
    with the optimum and a feasible solution of that value, or no value iff the problem is infeasible -/
theorem parallel_caching_solver_total (sv : SolverCfg S) (H : Nat → S → EInt) (B0 B : Int) (hwf : WellFormed sv H B0 B)
    (U : Nat) (hU : 1 ≤ U) :
    (∃ t, KPRun sv (KSys.init sv.P sv.dedup U) t ∧ AllDone t) ∧
    ∀ t, KPRun sv (KSys.init sv.P sv.dedup U) t → AllDone t →
      (∀ opt, (H 0 sv.P.init).addI sv.P.initVal = some opt →
        t.crit.base.completion = (true, some opt) ∧ t.crit.base.bestLb = opt ∧
        ∃ p, t.crit.base.bestSol = some p ∧ SolOf sv.P p opt) ∧
      ((H 0 sv.P.init).addI sv.P.initVal = none → t.crit.base.completion = (true, none)) := by
  refine ⟨?_, fun t ht hd => ⟨fun opt hopt => ?_, fun hinf => ?_⟩⟩
  · obtain ⟨t, h1, _, h3⟩ := kp_run_to_end hwf U (KRun.refl _)
    exact ⟨t, h1, h3⟩
  · obtain ⟨h1, h2, h3⟩ := kp_final hwf hopt U hU ht hd
    exact ⟨h3, h1, h2⟩
  · obtain ⟨h1, _, _⟩ := kp_infeasible hwf hinf U ht
    show (!t.crit.base.abort, t.crit.base.bestSol.map (fun _ => t.crit.base.bestLb)) = _
    rw [h1, (kprun_inv hwf U ht).lay.opn.noAbort]; rfl

end Ddo.C09e

#print axioms Ddo.C09e.kp_terminates
#print axioms Ddo.C09e.kp_no_infinite_run
#print axioms Ddo.C09e.kp_progress
#print axioms Ddo.C09e.kp_complete_optimal
#print axioms Ddo.C09e.kp_final
#print axioms Ddo.C09e.kp_infeasible
#print axioms Ddo.C09e.parallel_caching_solver_correct
#print axioms Ddo.C09e.oracle_compileR
#print axioms Ddo.C09e.oracle_compileX
#print axioms Ddo.C09e.kp_run_to_end
#print axioms Ddo.C09e.parallel_caching_solver_total
#print axioms Ddo.ParCache.kstep_kpinv
#print axioms Ddo.ParCache.okRk_contract
#print axioms Ddo.ParCache.okXk_contract
#print axioms Ddo.ParCache.kprun_inv
#print axioms Ddo.ParCache.no_panics
#print axioms Ddo.ParCache.kstep_progress
#print axioms Ddo.ParCache.ksys_terminates'
#print axioms Ddo.ParCache.compileO_sim
#print axioms Ddo.ParCache.compileReads_ok
#print axioms Ddo.C09.thetaStrict_relaxed_of_model
