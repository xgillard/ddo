import DdoModel.Proofs.MddProtocol
/-! # C12 over whole compilations — the callback protocol of the diagram compiler as a theorem

Property C12: *the library only calls `transition_cost (src, dst, d)` and `relax (src, dst, merged, d, cost)` with
`dst = transition (src, d)`, `d` in the domain of its variable at `src`, `cost` equal to the current cost of that
arc, and `merged` equal to the state just returned by `merge` over a set of at least two same-layer states that
contains `dst`.  Domains are enumerated only for the variable selected by `next_variable` for the current layer and
only for states of that layer, and the depth handed to `next_variable` equals the number of layers between the
problem root and that layer.*

`ProtocolOk P R rootDepth log` (`Proofs/MddProtocol.lean`) is this property as a predicate on the chronological log
of one compilation; `buildLoop_protocol` / `compile_protocol` prove it for **every** compilation of the model
(`DdoModel/Mdd.lean`): any problem, relaxation, ranking, compilation type, width (`0` included — the relaxation
then crashes before it logs anything), cache, dominance rule, cutoff and fuel.  No hypothesis.

What the predicate says, call by call (`nextVar_depths` and `protocolOk_cost` / `_domain` / `_merge` / `_relax` below are
its flat consequences, stated on the whole log):
* `next_variable`: the `j`-th call of a compilation receives the depth `rootDepth + j`;
* `transition_cost (s, t, d)`: `t = transition (s, d)`, `d ∈ domain (d.var, s)`, `d.var` is the variable selected by the
  `next_variable` call that opens its block, `s` a state of that layer (`InLayer`: handed to `next_variable`, or returned by
  the `merge` of the block); the call is immediately preceded by `transition (s, d)` (in `CallOk`, not in the flat form);
* `for_each_in_domain`: only for that variable and only for states of the layer;
* `merge sts`: `2 ≤ |sts|`, `sts ⊆` the states handed to `next_variable`; it is the first call of its block;
* `relax (src, dst, merged, d, c)`: comes after the `merge sts` of the same block, `merged = merge sts`, `dst ∈ sts`, and
  the arc is one the previous block created: `transition_cost (src, dst, d)` was called there, `dst = transition (src, d)`,
  `d ∈ domain (d.var, src)`, `c = cost (src, dst, d)`. -/
set_option linter.unusedSectionVars false
set_option linter.unusedVariables false
namespace Ddo.C12
open Ddo
variable {S K : Type} [DecidableEq S] [DecidableEq K]

theorem buildLoop_protocol (cfg : Cfg S K) (cache : Cache S) (store : DomStore S K) (polls : Nat)
    (stopAt : Option Nat) (fuel : Nat) :
    ProtocolOk cfg.P cfg.R cfg.root.depth
      (buildLoop cfg stopAt fuel (initDD cfg cache store polls)).1.log.reverse := by
  obtain ⟨tail, h1, h2, _⟩ := buildLoop_blocks cfg stopAt fuel _ none (initDD_loopInv cfg cache store polls)
  rw [h1]
  exact h2

theorem buildLoop_first_call (cfg : Cfg S K) (cache : Cache S) (store : DomStore S K) (polls : Nat)
    (stopAt : Option Nat) (fuel : Nat) :
    ∃ ans rest, (buildLoop cfg stopAt (fuel + 1) (initDD cfg cache store polls)).1.log.reverse =
      Call.nextVar cfg.root.depth [cfg.root.state] ans :: rest := by
  obtain ⟨tail, h1, _, h3⟩ := buildLoop_blocks cfg stopAt (fuel + 1) _ none (initDD_loopInv cfg cache store polls)
  obtain ⟨ans, rest, h4⟩ := h3 (Nat.succ_ne_zero _)
  exact ⟨ans, rest, by rw [h1, h4]; rfl⟩

theorem compile_dd (cfg : Cfg S K) (cache : Cache S) (store : DomStore S K) (polls : Nat) (stopAt : Option Nat) :
    (compile cfg cache store polls stopAt).2.2.2 =
      (buildLoop cfg stopAt (cfg.P.nbVars + 2) (initDD cfg cache store polls)).1 := by
  unfold compile
  generalize buildLoop cfg stopAt (cfg.P.nbVars + 2) (initDD cfg cache store polls) = bl
  obtain ⟨dd, oc⟩ := bl
  cases oc <;> rfl

/-- **C12 (whole compilation).**  The chronological log of `compile` — whatever its outcome — satisfies the
    callback protocol. -/
theorem compile_protocol (cfg : Cfg S K) (cache : Cache S) (store : DomStore S K) (polls : Nat) (stopAt : Option Nat) :
    ProtocolOk cfg.P cfg.R cfg.root.depth (compile cfg cache store polls stopAt).2.2.2.log.reverse := by
  rw [compile_dd]
  exact buildLoop_protocol cfg cache store polls stopAt _

theorem bodyOk_iff (P : Problem S) (R : Relax S) (var : Nat) (states : List S) (prev : Option (List (Call S)))
    (body : List (Call S)) :
    BodyOk P R var states prev body ↔
      ∀ pre c post, body = pre ++ c :: post → CallOk P R var states prev pre c := by
  unfold BodyOk LogOk
  simp only [List.nil_append]

theorem protocolOk_head {P : Problem S} {R : Relax S} {rootDepth : Nat} {c : Call S} {rest : List (Call S)}
    (h : ProtocolOk P R rootDepth (c :: rest)) :
    ∃ states, c = Call.nextVar rootDepth states (P.nextVar rootDepth states) := by
  unfold ProtocolOk at h
  generalize hl : c :: rest = log at h
  cases h with
  | done => cases hl
  | last _ _ states hnv _ =>
    simp only [List.cons.injEq] at hl
    exact ⟨states, by rw [hl.1, hnv]⟩
  | block _ _ states var body rest' hnv _ _ _ =>
    simp only [List.cons.injEq] at hl
    exact ⟨states, by rw [hl.1, hnv]⟩

def nextVarDepths (log : List (Call S)) : List Nat :=
  log.filterMap (fun c => match c with | .nextVar d _ _ => some d | _ => none)

theorem nextVarDepths_body {P : Problem S} {R : Relax S} {var : Nat} {states : List S} {prev : Option (List (Call S))}
    {body : List (Call S)} (h : BodyOk P R var states prev body) : nextVarDepths body = [] := by
  unfold nextVarDepths
  rw [List.filterMap_eq_nil_iff]
  intro c hc
  obtain ⟨pre, post, _, hq⟩ := LogOk.mem h hc
  cases c with
  | nextVar _ _ _ => exact False.elim hq
  | _ => rfl

theorem Blocks.depths {P : Problem S} {R : Relax S} {k : Nat} {prev : Option (List (Call S))} {log : List (Call S)}
    (h : Blocks P R k prev log) : ∃ n, nextVarDepths log = List.range' k n := by
  induction h with
  | done k prev => exact ⟨0, rfl⟩
  | last k prev states _ _ => exact ⟨1, rfl⟩
  | block k prev states var body rest _ _ hb _ ih =>
    obtain ⟨n, hn⟩ := ih
    refine ⟨n + 1, ?_⟩
    have : nextVarDepths (Call.nextVar k states (some var) :: (body ++ rest)) =
        k :: (nextVarDepths body ++ nextVarDepths rest) := by
      unfold nextVarDepths
      rw [List.filterMap_cons, List.filterMap_append]
    rw [this, nextVarDepths_body hb, hn, List.nil_append, List.range'_succ]

theorem nextVar_depths {P : Problem S} {R : Relax S} {rootDepth : Nat} {log : List (Call S)}
    (h : ProtocolOk P R rootDepth log) : ∃ n, nextVarDepths log = List.range' rootDepth n :=
  Blocks.depths h

theorem nextVar_depth_at {P : Problem S} {R : Relax S} {rootDepth : Nat} {log : List (Call S)}
    (h : ProtocolOk P R rootDepth log) (j d : Nat) (hj : (nextVarDepths log)[j]? = some d) : d = rootDepth + j := by
  obtain ⟨n, hn⟩ := nextVar_depths h
  rw [hn] at hj
  have hjn : j < n := by
    have := Cover.lt_of_getElem?_some hj
    simpa only [List.length_range'] using this
  rw [List.getElem?_range' hjn] at hj
  simp only [Option.some.injEq] at hj
  omega

theorem Blocks.mem_cases {P : Problem S} {R : Relax S} {k : Nat} {prev : Option (List (Call S))} {log : List (Call S)}
    (h : Blocks P R k prev log) {c : Call S} (hc : c ∈ log) :
    (∃ d sts ans, c = Call.nextVar d sts ans) ∨
    ∃ k' var states prev' body, Call.nextVar k' states (some var) ∈ log ∧ P.nextVar k' states = some var ∧
      BodyOk P R var states prev' body ∧ c ∈ body ∧ (∀ x ∈ body, x ∈ log) ∧
      (prev' = prev ∨ ∃ pb, prev' = some pb ∧ ∀ x ∈ pb, x ∈ log) := by
  induction h with
  | done k prev => cases hc
  | last k prev states _ _ =>
    rw [List.mem_singleton] at hc
    exact .inl ⟨_, _, _, hc⟩
  | block k prev states var body rest hnv _ hb hrest ih =>
    have hbody : ∀ x ∈ body, x ∈ Call.nextVar k states (some var) :: (body ++ rest) :=
      fun x hx => List.mem_cons_of_mem _ (List.mem_append_left _ hx)
    have hrst : ∀ x ∈ rest, x ∈ Call.nextVar k states (some var) :: (body ++ rest) :=
      fun x hx => List.mem_cons_of_mem _ (List.mem_append_right _ hx)
    rcases List.mem_cons.1 hc with hc | hc
    · exact .inl ⟨_, _, _, hc⟩
    · rcases List.mem_append.1 hc with hc | hc
      · exact .inr ⟨k, var, states, prev, body, List.mem_cons_self, hnv, hb, hc, hbody, .inl rfl⟩
      · rcases ih hc with h1 | ⟨k', var', states', prev', body', h1, h2, h3, h4, h5, h6⟩
        · exact .inl h1
        · refine .inr ⟨k', var', states', prev', body', hrst _ h1, h2, h3, h4, fun x hx => hrst x (h5 x hx), .inr ?_⟩
          rcases h6 with h6 | ⟨pb, h6, h7⟩
          · exact ⟨body, h6, hbody⟩
          · exact ⟨pb, h6, fun x hx => hrst x (h7 x hx)⟩

theorem bodyOk_mem {P : Problem S} {R : Relax S} {var : Nat} {states : List S} {prev : Option (List (Call S))}
    {body : List (Call S)} (h : BodyOk P R var states prev body) {c : Call S} (hc : c ∈ body) :
    ∃ pre post, body = pre ++ c :: post ∧ CallOk P R var states prev pre c := by
  obtain ⟨pre, post, hb, hq⟩ := LogOk.mem h hc
  exact ⟨pre, post, hb, by rwa [List.nil_append] at hq⟩

theorem inLayer_log {P : Problem S} {R : Relax S} {var : Nat} {states : List S} {prev : Option (List (Call S))}
    {body log pre post : List (Call S)} {c : Call S} {s : S} (h : BodyOk P R var states prev body)
    (hlog : ∀ x ∈ body, x ∈ log) (hb : body = pre ++ c :: post) (hin : InLayer states pre s) :
    s ∈ states ∨ ∃ sts, Call.merge sts s ∈ log ∧ s = R.merge sts ∧ ∀ u ∈ sts, u ∈ states := by
  rcases hin with hin | ⟨sts, hm⟩
  · exact .inl hin
  · have hmb : Call.merge sts s ∈ body := by rw [hb]; exact List.mem_append_left _ hm
    obtain ⟨_, _, _, hq⟩ := bodyOk_mem h hmb
    exact .inr ⟨sts, hlog _ hmb, hq.2.1, hq.2.2.2⟩

theorem protocolOk_cost {P : Problem S} {R : Relax S} {rootDepth : Nat} {log : List (Call S)}
    (h : ProtocolOk P R rootDepth log) {s t : S} {d : Dec} (hc : Call.cost s t d ∈ log) :
    t = P.trans s d ∧ d.val ∈ P.domain d.var s ∧
    ∃ k states, Call.nextVar k states (some d.var) ∈ log ∧ P.nextVar k states = some d.var ∧
      (s ∈ states ∨ ∃ sts, Call.merge sts s ∈ log ∧ s = R.merge sts ∧ ∀ u ∈ sts, u ∈ states) := by
  rcases Blocks.mem_cases h hc with ⟨_, _, _, h1⟩ | ⟨k', var, states, prev', body, h1, h2, h3, h4, h5, _⟩
  · cases h1
  · obtain ⟨pre, post, hb, hv, hd, ht, hin, _⟩ := bodyOk_mem h3 h4
    exact ⟨ht, hv ▸ hd, k', states, hv ▸ h1, hv ▸ h2, inLayer_log h3 h5 hb hin⟩

theorem protocolOk_domain {P : Problem S} {R : Relax S} {rootDepth : Nat} {log : List (Call S)}
    (h : ProtocolOk P R rootDepth log) {v : Nat} {s : S} (hc : Call.domain v s ∈ log) :
    ∃ k states, Call.nextVar k states (some v) ∈ log ∧ P.nextVar k states = some v ∧
      (s ∈ states ∨ ∃ sts, Call.merge sts s ∈ log ∧ s = R.merge sts ∧ ∀ u ∈ sts, u ∈ states) := by
  rcases Blocks.mem_cases h hc with ⟨_, _, _, h1⟩ | ⟨k', var, states, prev', body, h1, h2, h3, h4, h5, _⟩
  · cases h1
  · obtain ⟨pre, post, hb, hv, hin⟩ := bodyOk_mem h3 h4
    exact ⟨k', states, hv ▸ h1, hv ▸ h2, inLayer_log h3 h5 hb hin⟩

theorem protocolOk_merge {P : Problem S} {R : Relax S} {rootDepth : Nat} {log : List (Call S)}
    (h : ProtocolOk P R rootDepth log) {sts : List S} {res : S} (hc : Call.merge sts res ∈ log) :
    res = R.merge sts ∧ 2 ≤ sts.length ∧
    ∃ k states var, Call.nextVar k states (some var) ∈ log ∧ ∀ u ∈ sts, u ∈ states := by
  rcases Blocks.mem_cases h hc with ⟨_, _, _, h1⟩ | ⟨k', var, states, prev', body, h1, _, h3, h4, _, _⟩
  · cases h1
  · obtain ⟨_, _, _, hq⟩ := bodyOk_mem h3 h4
    exact ⟨hq.2.1, hq.2.2.1, k', states, var, h1, hq.2.2.2⟩

theorem protocolOk_relax {P : Problem S} {R : Relax S} {rootDepth : Nat} {log : List (Call S)}
    (h : ProtocolOk P R rootDepth log) {src dst merged : S} {d : Dec} {c : Int}
    (hc : Call.relax src dst merged d c ∈ log) :
    dst = P.trans src d ∧ d.val ∈ P.domain d.var src ∧ c = P.cost src dst d ∧ Call.cost src dst d ∈ log ∧
    ∃ sts, Call.merge sts merged ∈ log ∧ merged = R.merge sts ∧ 2 ≤ sts.length ∧ dst ∈ sts := by
  rcases Blocks.mem_cases h hc with ⟨_, _, _, h1⟩ | ⟨k', var, states, prev', body, _, _, h3, h4, h5, h6⟩
  · cases h1
  · obtain ⟨pre, post, hb, ⟨sts, hm, hdst⟩, pb, hpb, ha1, ha2, ha3, ha4⟩ := bodyOk_mem h3 h4
    have hmb : Call.merge sts merged ∈ body := by rw [hb]; exact List.mem_append_left _ hm
    obtain ⟨_, _, _, hq⟩ := bodyOk_mem h3 hmb
    have hpbl : ∀ x ∈ pb, x ∈ log := by
      rcases h6 with h6 | ⟨pb', h6, h7⟩
      · rw [h6] at hpb; cases hpb
      · rw [h6] at hpb; cases hpb; exact h7
    exact ⟨ha2, ha3, ha4, hpbl _ ha1, sts, h5 _ hmb, hq.2.1, hq.2.2.1, hdst⟩

end Ddo.C12
