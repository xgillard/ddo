import DdoModel.Props.C10d
import DdoModel.Props.C10cWitness
import DdoModel.Proofs.CompatGrid
import DdoModel.Proofs.CompatGridWf
import DdoModel.Proofs.CompatShadow
import DdoModel.Proofs.CompatSearch
/-! The instances of `Props/C10d.lean`: the knapsack example satisfies every hypothesis of the repaired joint statement (`Kp.hypotheses`);
`Shadow` (`Proofs/CompatShadow.lean`: `cachingDominanceCompat_false`) with the rough upper bound repaired returns the optimum (`ShadowH`). -/
set_option linter.unusedSectionVars false
set_option linter.unusedVariables false
namespace Ddo.C10d
open Ddo Ddo.C01 Ddo.Closed Ddo.C09 Ddo.C10 Ddo.C10c

namespace Kp
open Ddo.C10.Kp

/-- the potential of the knapsack model is defined on every state, reached or not (best profit from the remaining items with the
    remaining capacity), and is monotone in the capacity (`kpH_mono`) -/
theorem potMono : PotMono rule 1 H := by
  intro k a va b vb hge
  rw [geItem_iff] at hge
  have := kpH_mono (items.drop k) b a hge.1
  show EInt.addI (some (kpH (items.drop k) b)) vb ≤ EInt.addI (some (kpH (items.drop k) a)) va
  simp only [EInt.addI, Option.map_some, EInt.some_le_some]
  omega

/-- all hypotheses of `CachingDominanceCompatMono` hold of the knapsack model (so `Ddo.C10e.Kp.correct` applies, for
    every width and configuration) -/
theorem hypotheses (w : Nat) (hw : 1 ≤ w) (dedup : Bool) (kind : CutsetKind) :
    WellFormed (dv w dedup kind).sv H 5 20 ∧ (H 0 prob.init).addI prob.initVal = some 6 ∧ (∀ s, rule.dims s = 1) ∧ StaticOrder prob ∧
    SimAll rule prob 1 ∧ MergeCompat rule rlx 1 ∧ PotMono rule 1 H :=
  ⟨wellFormed w hw dedup kind, opt6, fun _ => rfl, staticOrder, Ddo.C10c.Kp.simAll, Ddo.C10c.Kp.mergeCompat, potMono⟩

end Kp

namespace ShadowH
open Ddo.C10d.Grid

/-- the tables of `Shadow` with `fast_upper_bound(S) = 30` -/
def T : Tab := { Shadow.T with rubl := List.replicate 11 30 }
def dv (dedup : Bool) (kind : CutsetKind) : DSolverCfg Int Int := Grid.dv T Shadow.ws dedup kind

theorem checkSim_true : checkSim T = true := (checkSim_rubl Shadow.T _).trans Shadow.checkSim_true

/-- the rough upper bound dominates the value-to-go of every state at every depth (`checkRub`: `W = 10` is at least as good as
    every state and its value-to-go is at most 30); the rule and the merge operator are those of `Shadow` -/
theorem checks : checkRub T = true ∧ checkSim T = true ∧ checkJoin T = true :=
  ⟨checkRub_of_top checkSim_true (by decide) 10 (by decide) (by decide +kernel) 30 (by decide +kernel) (by decide +kernel),
    checkSim_true, (checkJoin_rubl Shadow.T _).trans Shadow.checkJoin_true⟩

/-- cache + dominance on the repaired model: the optimum 10, every configuration -/
theorem joint_value : ∀ dedup ∈ [false, true], ∀ kind ∈ [CutsetKind.lel, CutsetKind.frontier],
    ((dv dedup kind).kdsolveLoop 16 (KDSt.init (dv dedup kind))).st.fringe.length = 0 ∧
    ((dv dedup kind).kdsolveLoop 16 (KDSt.init (dv dedup kind))).st.completion = (true, some 10) ∧
    ((dv dedup kind).kdsolveLoop 16 (KDSt.init (dv dedup kind))).st.crashed = false := by decide +kernel

end ShadowH

end Ddo.C10d

#print axioms Ddo.C10d.Grid.simAll_of_check
#print axioms Ddo.C10d.Grid.mergeCompat_of_check
#print axioms Ddo.C10d.Grid.wellFormed_of_check
#print axioms Ddo.C10d.Shadow.wellFormed
#print axioms Ddo.C10d.Shadow.simAll
#print axioms Ddo.C10d.Shadow.mergeCompat
#print axioms Ddo.C10d.Shadow.undomOpt
#print axioms Ddo.C10d.Shadow.not_potMono
#print axioms Ddo.C10d.Shadow.rub_below_value
#print axioms Ddo.C10d.Shadow.joint_value
#print axioms Ddo.C10d.Shadow.stage3
#print axioms Ddo.C10d.Shadow.stage3x
#print axioms Ddo.C10d.Shadow.stage4
#print axioms Ddo.C10d.Shadow.finding
#print axioms Ddo.C10d.cachingDominanceCompat_false
#print axioms Ddo.C10d.Kp.potMono
#print axioms Ddo.C10d.Kp.hypotheses
#print axioms Ddo.C10d.ShadowH.checks
#print axioms Ddo.C10d.ShadowH.joint_value
