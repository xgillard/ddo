/-! Shared conventions: machine integers (`isize` as `Int` with explicit clamping), orderings. -/
namespace Ddo

def iMax : Int := 9223372036854775807
def iMin : Int := -9223372036854775808

/-- clamp an exact integer result into the `isize` range -/
def clamp (x : Int) : Int := min iMax (max iMin x)

/-- `isize::saturating_add` -/
def satAdd (a b : Int) : Int := clamp (a + b)
/-- `isize::saturating_sub` -/
def satSub (a b : Int) : Int := clamp (a - b)

def InI (x : Int) : Prop := iMin ≤ x ∧ x ≤ iMax
instance (x : Int) : Decidable (InI x) := by unfold InI; exact inferInstance

theorem clamp_of_in {x : Int} (h : InI x) : clamp x = x := by
  unfold clamp; rw [Int.max_eq_right h.1, Int.min_eq_right h.2]

theorem clamp_in (x : Int) : InI (clamp x) :=
  ⟨Int.le_min.mpr ⟨by decide, Int.le_max_left _ _⟩, Int.min_le_left _ _⟩

theorem clamp_mono {x y : Int} (h : x ≤ y) : clamp x ≤ clamp y :=
  Int.le_min.mpr ⟨Int.min_le_left _ _, Int.le_trans (Int.min_le_right _ _)
    (Int.max_le.mpr ⟨Int.le_max_left _ _, Int.le_trans h (Int.le_max_right _ _)⟩)⟩

theorem satAdd_mono_left {a b c : Int} (h : a ≤ b) : satAdd a c ≤ satAdd b c := by
  unfold satAdd; exact clamp_mono (by omega)

/-- `Ordering` of two integers, as `Ord::cmp` -/
def icmp (a b : Int) : Ordering := if a < b then .lt else if a = b then .eq else .gt

def Ordering.rev : Ordering → Ordering
  | .lt => .gt | .eq => .eq | .gt => .lt

/-- `Ordering::then_with` -/
def Ordering.thenWith (a : Ordering) (b : Unit → Ordering) : Ordering :=
  match a with | .eq => b () | o => o

end Ddo
