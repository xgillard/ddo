import DdoModel.Dp
import DdoModel.Cache
import DdoModel.Dominance
/-! Functional model of `Mdd<T, LAST_EXACT_LAYER>` and `Mdd<T, FRONTIER>`
    (`implementation/mdd/clean.rs`), all three compilation types.

Layers are lists of nodes in creation order (the Rust index range `from..to` of a layer, the
merged node last); an arc names its parent by `(layer index, position)`.  The top-down build
follows `_compile` / `_move_to_next_layer` / `_filter_with_cache` / `_filter_with_dominance` /
`_squash_if_needed` / `_restrict` / `_relax` / `_branch_on` / `append_edge_to!`; the bottom-up
passes follow `_finalize_*`, `_compute_local_bounds`, `_compute_thresholds`, `_drain_cutset` in
the same *push* form (walk the layers in reverse, update the parents through the inbound arcs).

Hash-order: where the Rust code iterates a hash map the model uses creation order; the only
observables that depend on it are which of several equal-valued arcs / terminal nodes becomes
`best` — hence the decision paths (validated by replay, never compared) and
`has_exact_best_path`, for which the model computes `ebpMust` / `ebpMay` (DESIGN.md §4). -/
namespace Ddo

structure Arc where
  fromL : Nat
  fromP : Nat
  dec : Dec
  cost : Int
deriving Repr

structure Node (S : Type) where
  state : S
  value : Int                 -- `value_top`
  vbot : Int := iMin          -- `value_bot`
  best : Option Arc := none
  inb : List Arc := []        -- inbound arcs, newest first
  rub : Int := iMax
  theta : Option Int := none
  fExact : Bool := true
  fRelaxed : Bool := false
  marked : Bool := false
  cutset : Bool := false
  deleted : Bool := false
  cache : Bool := false       -- pruned by cache
  above : Bool := false       -- above cut-set
  depth : Nat

def Node.isExact {S : Type} (n : Node S) : Bool := n.fExact && !n.fRelaxed

/-- calls into user code, logged for C12 / C13 -/
inductive Call (S : Type)
  | nextVar (depth : Nat) (states : List S) (ans : Option Nat)
  | domain (var : Nat) (s : S)
  | trans (s : S) (d : Dec)
  | cost (src dst : S) (d : Dec)
  | merge (states : List S) (res : S)
  | relax (src dst merged : S) (d : Dec) (c : Int)
  | rub (s : S)
  | impacted (var : Nat) (s : S)

/-- configuration of one compilation -/
structure Cfg (S K : Type) where
  P : Problem S
  R : Relax S
  rank : Ranking S
  dom : Option (DomRule S K)     -- `none` = `EmptyDominanceChecker`
  useCache : Bool                -- `false` = `EmptyCache`
  kind : CutsetKind
  ctype : CompType
  width : Nat
  root : SubP S
  lb : Int

structure DD (S K : Type) where
  layers : List (List (Node S)) := []
  next : List (Node S) := []
  depth : Nat
  lel : Option Nat := none
  cache : Cache S
  store : DomStore S K
  log : List (Call S) := []                         -- newest first
  cacheLog : List (S × Nat × Int × Bool) := []      -- `update_threshold` calls, newest first
  polls : Nat := 0                                  -- cutoff polls so far
  ndom : Nat := 0                                   -- number of `dominated` verdicts received

variable {S K : Type} [DecidableEq S] [DecidableEq K]

def getNode (layers : List (List (Node S))) (l p : Nat) : Option (Node S) :=
  match layers[l]? with
  | none => none
  | some ly => ly[p]?

def modNode (layers : List (List (Node S))) (l p : Nat) (f : Node S → Node S) : List (List (Node S)) :=
  match layers[l]? with
  | none => layers
  | some ly => match ly[p]? with
    | none => layers
    | some n => layers.set l (ly.set p (f n))

/-- `append_edge_to!`: the child after receiving an arc from `parent` -/
def appendEdge (parent child : Node S) (a : Arc) : Node S :=
  let value := satAdd parent.value a.cost
  let exact := parent.isExact && child.isExact
  let c := { child with fExact := exact, inb := a :: child.inb }
  if value ≥ c.value then { c with best := some a, value := value } else c

/-- stable insertion sort, `before a b = true` ⇒ `a` is placed before `b` -/
def insertBy {α : Type} (before : α → α → Bool) (x : α) : List α → List α
  | [] => [x]
  | y :: r => if before y x || !(before x y) then y :: insertBy before x r else x :: y :: r
def sortBy {α : Type} (before : α → α → Bool) (l : List α) : List α :=
  l.foldl (fun acc x => insertBy before x acc) []

/-- `_branch_on`: insert-or-update the child keyed by its state in `next` -/
def branchOn (cfg : Cfg S K) (parent : Node S) (pl pp : Nat) (d : Dec) (next : List (Node S)) : List (Node S) :=
  let dst := cfg.P.trans parent.state d
  let c := cfg.P.cost parent.state dst d
  let a : Arc := ⟨pl, pp, d, c⟩
  let rec go : List (Node S) → List (Node S)
    | [] =>
      let fresh : Node S := { state := dst, value := satAdd parent.value c, fExact := parent.isExact, depth := parent.depth + 1 }
      [appendEdge parent fresh a]
    | n :: r => if n.state = dst then appendEdge parent n a :: r else n :: go r
  go next

inductive Outcome | ok | cutoff | crash
deriving DecidableEq, Repr

/-- `_filter_with_cache`: returns the layer (flags/theta updated) and the surviving positions -/
def filterCache (cfg : Cfg S K) (cache : Cache S) (layer : List (Node S)) (cur : List Nat) : List (Node S) × List Nat :=
  cur.foldl (fun (ly, keep) p =>
    match ly[p]? with
    | none => (ly, keep)
    | some n =>
      let t := if cfg.useCache then (cache.get n.state n.depth).getD none else none
      match t with
      | some t => if n.value > t.value then (ly, keep ++ [p])
                  else (ly.set p { n with cache := true, theta := some t.value }, keep)
      | none => (ly, keep ++ [p])) (layer, [])

/-- `_filter_with_dominance` -/
def filterDom (cfg : Cfg S K) (store : DomStore S K) (layer : List (Node S)) (cur : List Nat) :
    List (Node S) × List Nat × DomStore S K × Bool :=
  match cfg.dom with
  | none => (layer, cur, store, true)
  | some D =>
    let nodeAt := fun p => layer[p]?
    let sorted := sortBy (fun a b => match nodeAt a, nodeAt b with
      | some x, some y => D.cmp x.state x.value y.state y.value == .gt
      | _, _ => false) cur
    sorted.foldl (fun (ly, keep, st, ok) p =>
      match ly[p]? with
      | none => (ly, keep, st, ok)
      | some n =>
        if n.isExact then
          match DomStore.query D st n.state n.depth n.value with
          | none => (ly, keep ++ [p], st, false)       -- the real call panics (depth out of range)
          | some (st', dominated, thr) =>
            if dominated then (ly.set p { n with theta := thr }, keep, st', ok) else (ly, keep ++ [p], st', ok)
        else (ly, keep ++ [p], st, ok)) (layer, [], store, true)

/-- sort of `_restrict` / `_relax`: by value, then ranking, descending -/
def sortSquash (cfg : Cfg S K) (layer : List (Node S)) (cur : List Nat) : List Nat :=
  sortBy (fun a b => match layer[a]?, layer[b]? with
    | some x, some y =>
      (match icmp x.value y.value with
       | .eq => cfg.rank.cmp x.state y.state
       | o => o) == .gt
    | _, _ => false) cur

/-- `_restrict` -/
def restrictLayer (cfg : Cfg S K) (layer : List (Node S)) (cur : List Nat) : List (Node S) × List Nat :=
  let sorted := sortSquash cfg layer cur
  let dropped := sorted.drop cfg.width
  let layer' := dropped.foldl (fun ly p => match ly[p]? with
    | some n => ly.set p { n with deleted := true } | none => ly) layer
  (layer', sorted.take cfg.width)

/-- `_relax`; `lidx` = index the current layer will get; parents live in `layers` -/
def relaxLayer (cfg : Cfg S K) (layers : List (List (Node S))) (layer : List (Node S)) (cur : List Nat)
    (log : List (Call S)) : List (Node S) × List Nat × List (Call S) :=
  let sorted := sortSquash cfg layer cur
  let keep := sorted.take (cfg.width - 1)
  let rest := sorted.drop (cfg.width - 1)
  let restStates := rest.filterMap (fun p => (layer[p]?).map (·.state))
  let merged := cfg.R.merge restStates
  let log := Call.merge restStates merged :: log
  let recycled := keep.find? (fun p => match layer[p]? with | some n => decide (n.state = merged) | none => false)
  let depth0 := match rest.head? with
    | some p => (match layer[p]? with | some n => n.depth | none => 0)
    | none => 0
  let (layer1, mpos) : List (Node S) × Nat := match recycled with
    | some p => (layer, p)
    | none => (layer ++ [{ state := merged, value := iMin, fExact := false, fRelaxed := true, depth := depth0 }], layer.length)
  let layer2 := match layer1[mpos]? with
    | some n => layer1.set mpos { n with fRelaxed := true }
    | none => layer1
  -- redirect the inbound arcs of every merged-away node
  let (layer3, log) := rest.foldl (fun (ly, lg) p =>
    match ly[p]? with
    | none => (ly, lg)
    | some dropN =>
      let ly := ly.set p { dropN with deleted := true }
      dropN.inb.foldl (fun (ly, lg) e =>
        match getNode layers e.fromL e.fromP, ly[mpos]? with
        | some src, some m =>
          let rcost := cfg.R.relax src.state dropN.state merged e.dec e.cost
          (ly.set mpos (appendEdge src m ⟨e.fromL, e.fromP, e.dec, rcost⟩),
           Call.relax src.state dropN.state merged e.dec e.cost :: lg)
        | _, _ => (ly, lg)) (ly, lg)) (layer2, log)
  -- `if recycled.is_some() { curr_l.truncate(max_width); saved = curr_l[max_width - 1]; set_deleted(false) }`: when a kept node takes the
  -- arcs, no node is added, so the layer has room for one more: the FIRST merged-away node (position `width - 1` of the sorted list) is
  -- kept after all and its `deleted` flag taken back, although its arcs have been redirected as well (it stays in both)
  match recycled with
  | some _ =>
    let cur' := sorted.take cfg.width
    let layer4 := match cur'.getLast? with
      | some sp => (match layer3[sp]? with | some n => layer3.set sp { n with deleted := false } | none => layer3)
      | none => layer3
    (layer4, cur', log)
  | none => (layer3, keep ++ [mpos], log)

/-- expansion of one node of the current layer (`fast_upper_bound`, rough-bound test, `for_each_in_domain`
    + `_branch_on`): `(layer, next layer under construction, log)` -/
def expandOne (cfg : Cfg S K) (var lidx : Nat) (acc : List (Node S) × List (Node S) × List (Call S)) (p : Nat) :
    List (Node S) × List (Node S) × List (Call S) :=
  let (ly, nx, lg) := acc
  match ly[p]? with
  | none => (ly, nx, lg)
  | some n =>
    let rub := cfg.R.rub n.state
    let n' := { n with rub := rub }
    let ly := ly.set p n'
    let lg := Call.rub n.state :: lg
    if satAdd rub n.value > cfg.lb then
      let ds := cfg.P.domain var n.state
      let lg := Call.domain var n.state :: lg
      let (nx, lg) := ds.foldl (fun (nx, lg) d =>
        let dec : Dec := ⟨var, d⟩
        let dst := cfg.P.trans n.state dec
        (branchOn cfg n' lidx p dec nx, Call.cost n.state dst dec :: Call.trans n.state dec :: lg)) (nx, lg)
      (ly, nx, lg)
    else (ly, nx, lg)

def expandAll (cfg : Cfg S K) (var lidx : Nat) (layer : List (Node S)) (cur : List Nat) (log : List (Call S)) :
    List (Node S) × List (Node S) × List (Call S) :=
  cur.foldl (expandOne cfg var lidx) (layer, ([] : List (Node S)), log)

/-- `_squash_if_needed` (+ `_maybe_save_lel`); `none` = the Rust code panics -/
def squash (cfg : Cfg S K) (dd : DD S K) (layer : List (Node S)) (cur : List Nat) :
    Option (List (Node S) × List Nat × List (Call S) × Option Nat) :=
  let needRestrict := cfg.ctype == .restricted && cur.length > cfg.width
  let needRelax := cfg.ctype == .relaxed && cur.length > cfg.width && dd.layers.length > 1
  if needRelax && cfg.width == 0 then none else                       -- `max_width - 1` underflows
  if needRestrict && dd.layers.isEmpty then none else                 -- `layers.len() - 1` underflows
  let lel := if (needRestrict || needRelax) && dd.lel.isNone then some (dd.layers.length - 1) else dd.lel
  if needRestrict then let (l, c) := restrictLayer cfg layer cur; some (l, c, dd.log, lel)
  else if needRelax then let (l, c, lg) := relaxLayer cfg dd.layers layer cur dd.log; some (l, c, lg, lel)
  else some (layer, cur, dd.log, lel)

/-- one iteration of the `while let Some(var) = next_variable(..)` loop after the poll:
    `_move_to_next_layer` + the expansion of the surviving nodes.  `(some dd, .cutoff)` = `break`. -/
def stepLayer (cfg : Cfg S K) (dd : DD S K) (var : Nat) : Option (DD S K) × Outcome :=
  if dd.next.isEmpty then
    (some { dd with layers := dd.layers ++ [[]] }, .cutoff)     -- `.cutoff` is used as the "break" marker here
  else
    let layer := dd.next
    let cur := List.range layer.length
    let (layer, cur) := if dd.layers.isEmpty then (layer, cur) else filterCache cfg dd.cache layer cur
    let before := cur.length
    let (layer, cur, store, okDom) := filterDom cfg dd.store layer cur
    let ndom := dd.ndom + (before - cur.length)
    if !okDom then (none, .crash) else
    match squash cfg dd layer cur with
    | none => (none, .crash)
    | some (layer, cur, log, lel) =>
      let lidx := dd.layers.length
      let (layer, next, log) := expandAll cfg var lidx layer cur log
      (some { dd with layers := dd.layers ++ [layer], next := next, depth := dd.depth + 1, lel := lel, store := store, log := log, ndom := ndom }, .ok)

/-- the compilation loop.  `stopAt = some k`: the cutoff answers "stop" from its `k`-th poll on
    (polls are counted across compilations by the caller through `dd.polls`). -/
def buildLoop (cfg : Cfg S K) (stopAt : Option Nat) : Nat → DD S K → DD S K × Outcome
  | 0, dd => (dd, .crash)
  | fuel + 1, dd =>
    let states := dd.next.map (·.state)
    let ans := cfg.P.nextVar dd.depth states
    let dd := { dd with log := Call.nextVar dd.depth states ans :: dd.log }
    match ans with
    | none => (dd, .ok)
    | some var =>
      let dd := { dd with polls := dd.polls + 1 }
      if (match stopAt with | some k => decide (dd.polls ≥ k) | none => false) then (dd, .cutoff)
      else
        match stepLayer cfg dd var with
        | (none, _) => (dd, .crash)
        | (some dd', .cutoff) => (dd', .ok)          -- `break`
        | (some dd', .crash) => (dd', .crash)
        | (some dd', .ok) => buildLoop cfg stopAt fuel dd'

def initDD (cfg : Cfg S K) (cache : Cache S) (store : DomStore S K) (polls : Nat) : DD S K :=
  { next := [{ state := cfg.root.state, value := cfg.root.value, depth := cfg.root.depth }],
    depth := cfg.root.depth, cache := cache, store := store, polls := polls }

/-! ## finalisation -/

/-- the built diagram, terminal layer included, plus what the bottom-up passes need -/
structure Built (S K : Type) where
  dd : DD S K
  layers : List (List (Node S))     -- after `_finalize_layers`
  termL : Option Nat                -- index of the terminal layer (the nodes left in `next_l`), if non-empty
  lel : Nat
  isExactField : Bool

def finalizeLayers (dd : DD S K) : Built S K :=
  let (layers, termL) := if dd.next.isEmpty then (dd.layers, none) else (dd.layers ++ [dd.next], some dd.layers.length)
  { dd := dd, layers := layers, termL := termL, lel := dd.lel.getD layers.length, isExactField := dd.lel.isNone }

def Built.terminals (b : Built S K) : List (Node S) :=
  match b.termL with
  | none => []
  | some l => b.layers[l]?.getD []

def maxValue (l : List (Node S)) : Option Int :=
  l.foldl (fun acc n => match acc with | none => some n.value | some m => some (max m n.value)) none

/-- parents reached through an arc that attains the node's value (candidates for `best`) -/
def argmaxParents (layers : List (List (Node S))) (n : Node S) : List (Node S) :=
  n.inb.filterMap (fun a =>
    match getNode layers a.fromL a.fromP with
    | some p => if satAdd p.value a.cost = n.value then some p else none
    | none => none)

/-- `_has_exact_best_path` over *all* / *some* resolution of the ties; `fuel` = number of layers -/
def ebpAll (layers : List (List (Node S))) : Nat → Node S → Bool
  | 0, n => n.isExact
  | fuel + 1, n =>
    n.isExact || (!n.fRelaxed && (match n.best with
      | none => true
      | some _ => (argmaxParents layers n).all (ebpAll layers fuel)))
def ebpSome (layers : List (List (Node S))) : Nat → Node S → Bool
  | 0, n => n.isExact
  | fuel + 1, n =>
    n.isExact || (!n.fRelaxed && (match n.best with
      | none => true
      | some _ => (argmaxParents layers n).any (ebpSome layers fuel)))

def Built.bestValue (b : Built S K) : Option Int := maxValue b.terminals
def Built.bestTerminals (b : Built S K) : List (Node S) :=
  match b.bestValue with
  | none => []
  | some v => b.terminals.filter (fun n => n.value = v)

/-- `has_exact_best_path` must / may hold (`best_node = None` ⇒ `true`) -/
def Built.ebpMust (b : Built S K) (relaxed : Bool) : Bool :=
  relaxed && b.bestTerminals.all (ebpAll b.layers b.layers.length)
def Built.ebpMay (b : Built S K) (relaxed : Bool) : Bool :=
  relaxed && (b.bestTerminals.isEmpty || b.bestTerminals.any (ebpSome b.layers b.layers.length))

/-- `_compute_last_exact_layer_cutset` / `_compute_frontier_cutset`: flags + the cut-set as positions -/
def computeCutset (kind : CutsetKind) (lel : Nat) (layers : List (List (Node S))) : List (List (Node S)) × List (Nat × Nat) :=
  match kind with
  | .lel =>
    let layers1 := (List.range layers.length).foldl (fun ls l =>
      if l = lel then ls.set l ((ls[l]?.getD []).map (fun n => { n with cutset := true, above := true }))
      else if l < lel then ls.set l ((ls[l]?.getD []).map (fun n => { n with above := true }))
      else ls) layers
    let cs := if lel < layers.length then (List.range (layers[lel]?.getD []).length).map (fun p => (lel, p)) else []
    (layers1, cs)
  | .frontier =>
    (List.range layers.length).reverse.foldl (fun (ls, cs) l =>
      (List.range (ls[l]?.getD []).length).foldl (fun (ls, cs) p =>
        match getNode ls l p with
        | none => (ls, cs)
        | some n =>
          if n.isExact then (modNode ls l p (fun n => { n with above := true }), cs)
          else n.inb.foldl (fun (ls, cs) e =>
            match getNode ls e.fromL e.fromP with
            | some par => if par.isExact && !par.cutset then
                (modNode ls e.fromL e.fromP (fun x => { x with cutset := true }), cs ++ [(e.fromL, e.fromP)])
              else (ls, cs)
            | none => (ls, cs)) (ls, cs)) (ls, cs)) (layers, [])

/-- `_compute_local_bounds` -/
def computeLocalBounds (layers : List (List (Node S))) : List (List (Node S)) :=
  let last := layers.length - 1
  let layers0 := layers.set last ((layers[last]?.getD []).map (fun n => { n with vbot := 0, marked := true }))
  (List.range layers0.length).reverse.foldl (fun ls l =>
    (List.range (ls[l]?.getD []).length).foldl (fun ls p =>
      match getNode ls l p with
      | none => ls
      | some n =>
        if n.marked then
          n.inb.foldl (fun ls e =>
            modNode ls e.fromL e.fromP (fun par => { par with marked := true, vbot := max par.vbot (satAdd n.vbot e.cost) })) ls
        else ls) ls) layers0

/-- `_compute_thresholds` (with `_maybe_update_cache`); returns the layers and the emitted cache updates -/
def computeThresholds (kind : CutsetKind) (isExactField : Bool) (lb : Int) (bestExact : Option Int)
    (termL : Option Nat) (layers : List (List (Node S))) : List (List (Node S)) × List (S × Nat × Int × Bool) :=
  let bk := match bestExact with | some v => max lb v | none => lb
  let layers0 := match bestExact, termL with
    | some _, some tl =>
      layers.set tl ((layers[tl]?.getD []).map (fun n =>
        if (kind == .lel && isExactField) || (kind == .frontier && n.isExact) then { n with theta := some bk } else n))
    | _, _ => layers
  (List.range layers0.length).reverse.foldl (fun (ls, ups) l =>
    (List.range (ls[l]?.getD []).length).foldl (fun (ls, ups) p =>
      match getNode ls l p with
      | none => (ls, ups)
      | some n =>
        if n.deleted then (ls, ups) else
        let (n1, ups) :=
          if !n.cache then
            let n1 :=
              if satAdd n.value n.rub ≤ bk then { n with theta := some (satSub bk n.rub) }
              else if n.cutset then
                if satAdd n.value n.vbot ≤ bk then { n with theta := some (min (n.theta.getD iMax) (satSub bk n.vbot)) }
                else { n with theta := some n.value }
              else if n.isExact && n.theta.isNone then { n with theta := some iMax }
              else n
            let ups := match n1.theta with
              | some t => if n1.above then (n1.state, n1.depth, t, !n1.cutset) :: ups else ups
              | none => ups
            (n1, ups)
          else (n, ups)
        let ls := modNode ls l p (fun _ => n1)
        match n1.theta with
        | some t =>
          (n1.inb.foldl (fun ls e =>
            modNode ls e.fromL e.fromP (fun par => { par with theta := some (min (par.theta.getD iMax) (satSub t e.cost)) })) ls, ups)
        | none => (ls, ups)) (ls, ups)) (layers0, [])

/-- decisions along the `best` chain, last arc first (as `_best_path` pushes them) -/
def bestPath (layers : List (List (Node S))) : Nat → Node S → List Dec
  | 0, _ => []
  | fuel + 1, n => match n.best with
    | none => []
    | some a => a.dec :: (match getNode layers a.fromL a.fromP with
        | some p => bestPath layers fuel p
        | none => [])

/-- everything observable of one compilation, for one resolution of the exact-best-path tie -/
structure Result (S : Type) where
  outcome : Outcome
  isExact : Bool                       -- `Completion.is_exact` = `DecisionDiagram::is_exact()`
  bestValue : Option Int
  bestExactValue : Option Int
  bestSol : Option (List Dec)          -- one admissible best path (validated by replay, not compared)
  bestExactSol : Option (List Dec)
  cutset : List (SubP S)               -- what `drain_cutset` hands out
  cacheUpdates : List (S × Nat × Int × Bool)
  expanded : List Nat                  -- number of nodes expanded (domain enumerated) per layer  (C13)
  polls : Nat

def finalize (cfg : Cfg S K) (b : Built S K) (hasEBP : Bool) : Result S × List (List (Node S)) :=
  let relaxed := cfg.ctype == .relaxed
  let terms := b.terminals
  let bestValue := b.bestValue
  let exactTerms := terms.filter (·.isExact)
  let bestExactValue := if hasEBP then bestValue else maxValue exactTerms
  let doCut := relaxed || b.isExactField
  let (layers1, cs) := if doCut then computeCutset cfg.kind b.lel b.layers else (b.layers, [])
  let layers2 := if b.lel < b.layers.length && relaxed then computeLocalBounds layers1 else layers1
  let (layers3, ups) := if doCut then computeThresholds cfg.kind b.isExactField cfg.lb bestExactValue b.termL layers2 else (layers2, [])
  let fuel := layers3.length + 1
  let pathOf := fun (n : Node S) => cfg.root.path ++ bestPath layers3 fuel n
  let bestNode := match bestValue with
    | none => none
    | some v => (b.termL.bind (fun l => (layers3[l]?.getD []).find? (fun (n : Node S) => decide (n.value = v))))
  let bestExactNode := if hasEBP then bestNode else
    match bestExactValue with
    | none => none
    | some v => (b.termL.bind (fun l => (layers3[l]?.getD []).find? (fun (n : Node S) => n.isExact && decide (n.value = v))))
  let cutset := match bestValue with
    | none => []
    | some bv => cs.filterMap (fun (l, p) =>
        match getNode layers3 l p with
        | some n => if n.marked then
            some { state := n.state, value := n.value, path := pathOf n,
                   ub := min (min (satAdd n.value n.rub) (satAdd n.value n.vbot)) bv, depth := n.depth }
          else none
        | none => none)
  let expanded := (b.dd.log.reverse.foldl (fun acc c => match c with
    | .nextVar _ _ _ => 0 :: acc
    | .domain _ _ => (match acc with | x :: r => (x + 1) :: r | [] => [1])
    | _ => acc) ([] : List Nat)).reverse
  ({ outcome := .ok, isExact := b.isExactField || hasEBP, bestValue := bestValue, bestExactValue := bestExactValue,
     bestSol := bestNode.map pathOf, bestExactSol := bestExactNode.map pathOf,
     cutset := cutset, cacheUpdates := ups, expanded := expanded, polls := b.dd.polls }, layers3)

/-- `compile`: the two admissible results (`must` first); they coincide when no tie matters -/
def compile (cfg : Cfg S K) (cache : Cache S) (store : DomStore S K) (polls : Nat) (stopAt : Option Nat) :
    Outcome × Result S × Option (Result S) × DD S K :=
  let (dd, oc) := buildLoop cfg stopAt (cfg.P.nbVars + 2) (initDD cfg cache store polls)
  let empty : Result S := { outcome := oc, isExact := false, bestValue := none, bestExactValue := none, bestSol := none,
                            bestExactSol := none, cutset := [], cacheUpdates := [], expanded := [], polls := dd.polls }
  match oc with
  | .ok =>
    let b := finalizeLayers dd
    let relaxed := cfg.ctype == .relaxed
    let must := b.ebpMust relaxed
    let may := b.ebpMay relaxed
    let r1 := (finalize cfg b must).1
    (oc, r1, if may != must then some (finalize cfg b may).1 else none, dd)
  | _ => (oc, empty, none, dd)

end Ddo
