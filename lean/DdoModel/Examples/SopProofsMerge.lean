import DdoModel.Examples.SopProofsStep
/-! `MergeOkStmt` for the repaired sop example: the merged state simulates every merged-away state (`Sim`).  Both repairs of
    D12 are what keeps the simulation: `b` allows every job `a` allows because the repaired `can_schedule` counts the optional
    jobs that are no predecessors (`inDom_sim`), and the successors are again in simulation because the repaired `transition`
    removes the predecessors of the job from `maybe` (`sim_succ`); the arc of `b` is at least as good, `b` having more previous
    jobs (`mdist_anti`). -/
namespace Ddo.Examples.SopModel
open Ddo Ddo.Examples Ddo.Examples.Util

variable {T : Tab}

structure Sim (a b : St) : Prop where
  depth : a.depth = b.depth
  prev : ∀ p, isPrev a p → isPrev b p
  must : ∀ x, b.must.testBit x = true → a.must.testBit x = true
  pend : ∀ x, a.must.testBit x = true ∨ (mb a).testBit x = true → b.must.testBit x = true ∨ (mb b).testBit x = true

theorem mdist_anti (hT : TabOk T) {a b : St} (h : Sim a b) (ha : Inv T a) (hb : Inv T b) {j : Nat} (hj : j < T.n) :
    mdist T b j ≤ mdist T a j := by
  obtain ⟨_, _, _, h4⟩ := mdist_spec hT ha.prev_lt hj
  obtain ⟨_, g2, g3, _⟩ := mdist_spec hT hb.prev_lt hj
  rcases h4 with h4 | ⟨p, hp, hne, h4⟩
  · rw [h4]; exact g2
  · have := g3 p (h.prev p hp)
    unfold dI at this
    rw [if_neg hne] at this
    rw [h4]; exact this

theorem inDom_sim {a b : St} (h : Sim a b) (ha : Inv T a) {j : Nat} (hj : InDom T a j) : InDom T b j := by
  unfold InDom at hj ⊢
  rw [← h.depth]
  split
  · rename_i hl; rw [if_pos hl] at hj; exact hj
  · rename_i hl
    rw [if_neg hl] at hj
    obtain ⟨hmem, hcan⟩ := hj
    obtain ⟨hc1, _⟩ := (canB_iff a j).mp hcan
    refine ⟨h.pend j hmem, (canB_iff b j).mpr ⟨?_, ?_⟩⟩
    · intro x hx
      cases hbx : b.must.testBit x with
      | false => rfl
      | true => exact absurd (h.must x hbx) (by rw [hc1 x hx]; simp)
    · intro y hy
      have hyb : mb b = y := mb_of_some hy
      -- the pending jobs of `a` that are no predecessors of `j` are such jobs of `b`: the count of `can_schedule` carries over
      have hA := canB_count ha hcan
      have hdisj : card (a.must ||| diff (mb a) (predOf T j)) = card a.must + card (diff (mb a) (predOf T j)) := by
        apply card_union_disj
        intro x hx
        rw [testBit_diff, ha.disj x hx]; rfl
      have hsub : card (a.must ||| diff (mb a) (predOf T j)) ≤ card (b.must ||| diff y (predOf T j)) := by
        apply card_mono
        intro x hx
        rw [Nat.testBit_or, Bool.or_eq_true] at hx ⊢
        have hxp : (predOf T j).testBit x = false := by
          rcases hx with hx | hx
          · cases hp : (predOf T j).testBit x with
            | false => rfl
            | true => rw [hc1 x hp] at hx; cases hx
          · rw [testBit_diff] at hx; simp at hx; exact hx.2
        have hpend : b.must.testBit x = true ∨ (mb b).testBit x = true := by
          apply h.pend
          rcases hx with hx | hx
          · exact Or.inl hx
          · rw [testBit_diff] at hx; simp at hx; exact Or.inr hx.1
        rcases hpend with hp | hp
        · exact Or.inl hp
        · right; rw [testBit_diff, ← hyb, hp, hxp]; rfl
      have hle := card_union_le b.must (diff y (predOf T j))
      rw [← h.depth]
      omega

theorem sim_succ {a b : St} (h : Sim a b) {j : Nat} (hcan : canB T a j = true) : Sim (succSt T a j) (succSt T b j) := by
  obtain ⟨hc1, _⟩ := (canB_iff a j).mp hcan
  refine ⟨?_, ?_, ?_, ?_⟩
  · show a.depth + 1 = b.depth + 1
    rw [h.depth]
  · intro p hp; exact hp
  · intro x hx
    have hx' : (diff b.must (single j)).testBit x = true := hx
    show (diff a.must (single j)).testBit x = true
    rw [testBit_diff] at hx' ⊢
    simp at hx' ⊢
    exact ⟨h.must x hx'.1, hx'.2⟩
  · intro x hx
    rw [mb_succSt] at hx ⊢
    show (diff b.must (single j)).testBit x = true ∨ _
    have hx' : (diff a.must (single j)).testBit x = true ∨
        (diff (diff (mb a) (single j)) (predOf T j)).testBit x = true := hx
    simp only [testBit_diff, testBit_single] at hx' ⊢
    simp at hx' ⊢
    rcases hx' with ⟨h1, h2⟩ | ⟨⟨h1, h2⟩, h3⟩
    · have hxp : (predOf T j).testBit x = false := by
        cases hp : (predOf T j).testBit x with
        | false => rfl
        | true => rw [hc1 x hp] at h1; cases h1
      rcases h.pend x (Or.inl h1) with hp | hp
      · exact Or.inl ⟨hp, h2⟩
      · exact Or.inr ⟨⟨hp, h2⟩, hxp⟩
    · rcases h.pend x (Or.inr h1) with hp | hp
      · exact Or.inl ⟨hp, h2⟩
      · exact Or.inr ⟨⟨hp, h2⟩, h3⟩

theorem sim_le (hT : TabOk T) : ∀ (fuel : Nat) (a b : St), Inv T a → Inv T b → Sim a b →
    bestRemF T .code fuel a ≤ bestRemF T .code fuel b := by
  intro fuel
  induction fuel with
  | zero => intro a b _ _ _; exact EInt.le_refl _
  | succ fuel ih =>
    intro a b ha hb h
    by_cases hd : nv T ≤ a.depth
    · rw [bestRemF_done _ a hd, bestRemF_done _ b (by rw [← h.depth]; exact hd)]
      exact EInt.le_refl _
    · have hda : a.depth < nv T := by omega
      have hdb : b.depth < nv T := by rw [← h.depth]; exact hda
      cases hv : bestRemF T .code (fuel + 1) a with
      | none => exact EInt.none_le _
      | some g =>
        obtain ⟨j, hj, g', hg', hg⟩ := bestRemF_att hT ha hda fuel hv
        have hjb := inDom_sim h ha hj
        have hjn := hj.lt hT ha
        have hmd := mdist_anti hT h ha hb hjn
        have hge := bestRemF_ge hT hb hdb fuel hjb
        have hstep : (some g' : EInt) ≤ bestRemF T .code fuel (succSt T b j) := by
          by_cases hl : a.depth = T.n - 2
          · have : nv T ≤ (succSt T a j).depth := by rw [succSt_depth]; unfold nv at *; omega
            rw [bestRemF_done _ _ this] at hg'
            have : nv T ≤ (succSt T b j).depth := by rw [succSt_depth, ← h.depth]; unfold nv at *; omega
            rw [bestRemF_done _ _ this, ← hg']
            exact EInt.le_refl _
          · have hcan : canB T a j = true := by
              unfold InDom at hj
              rw [if_neg hl] at hj
              exact hj.2
            rw [← hg']
            exact ih _ _ (inv_succ hT ha hda hj) (inv_succ hT hb hdb hjb) (sim_succ h hcan)
        obtain ⟨g'', hb', h1⟩ := EMax.of_some_le hstep
        rw [hb'] at hge
        refine EInt.le_trans ?_ hge
        show g ≤ g'' + -mdist T b j
        omega

theorem inv_of_validB (hT : TabOk T) {s : St} (h : validB T s = true) : Inv T s := by
  unfold validB at h
  simp only [Bool.and_eq_true, decide_eq_true_eq, beq_iff_eq] at h
  obtain ⟨⟨⟨⟨⟨⟨h1, h2⟩, h3⟩, h4⟩, _⟩, _⟩, h7⟩ := h
  have hall : ∀ x, (s.must ||| mb s).testBit x = true → 0 < x ∧ x < T.n := by
    intro x hx
    have := testBit_of_eq_zero h2 x
    rw [testBit_diff] at this
    have hx' : (s.must ||| s.maybe.getD 0).testBit x = true := hx
    rw [hx'] at this
    have h5 : (allJobs T.n).testBit x = true := by
      cases hA : (allJobs T.n).testBit x with
      | true => rfl
      | false =>
        unfold allJobs at hA
        rw [hA] at this
        exact absurd this (by decide)
    rw [testBit_allJobs] at h5
    simpa using h5
  refine ⟨h1, ?_, ?_, ?_, ?_, ?_⟩
  · intro x hx; exact hall x (by rw [Nat.testBit_or, hx]; rfl)
  · intro x hx; exact hall x (by rw [Nat.testBit_or, hx]; simp)
  · intro x hx; exact and_eq_zero_iff.mp h3 x hx
  · intro p hp
    cases hpv : s.prev with
    | job i =>
      rw [hpv] at h4
      have : p = i := by simpa [isPrev, hpv] using hp
      simp at h4
      omega
    | virt c =>
      rw [hpv] at h4
      have hpc : c.testBit p = true := by simpa [isPrev, hpv] using hp
      simp only [Bool.and_eq_true, beq_iff_eq] at h4
      have := testBit_of_eq_zero h4.1.2 p
      rw [testBit_diff, hpc] at this
      have h5 : (ofList ((List.range T.n).drop 1) ||| 1).testBit p = true := by
        cases hA : (ofList ((List.range T.n).drop 1) ||| 1).testBit p with
        | true => rfl
        | false =>
          rw [hA] at this
          exact absurd this (by decide)
      rw [Nat.testBit_or, Bool.or_eq_true] at h5
      rcases h5 with h5 | h5
      · have h6 : (allJobs T.n).testBit p = true := h5
        rw [testBit_allJobs] at h6
        have : 0 < p ∧ p < T.n := by simpa using h6
        exact this.2
      · have := Nat.testBit_one_eq_true_iff_self_eq_zero.mp h5
        have := hT.n_pos
        omega
  · have := card_union_le s.must (mb s)
    have h7' : nv T - s.depth ≤ card (s.must ||| mb s) := h7
    omega

theorem foldl_depth_eq (d : Nat) : ∀ (X : List St) (a : Nat), (∀ s ∈ X, s.depth = d) → a ≤ d → (X ≠ [] ∨ a = d) →
    X.foldl (fun a s => max a s.depth) a = d := by
  intro X
  induction X with
  | nil => intro a _ _ h; rcases h with h | h; exact absurd rfl h; exact h
  | cons x t ih =>
    intro a hX ha _
    simp only [List.foldl_cons]
    have hx := hX x List.mem_cons_self
    exact ih _ (fun s hs => hX s (List.mem_cons_of_mem _ hs)) (by omega) (Or.inr (by omega))

theorem foldl_prev (X : List St) : ∀ (a p : Nat),
    (X.foldl (fun a s => match s.prev with | .job x => a ||| single x | .virt xs => a ||| xs) a).testBit p = true ↔
      (a.testBit p = true ∨ ∃ s ∈ X, isPrev s p) := by
  induction X with
  | nil => intro a p; simp
  | cons x t ih =>
    intro a p
    simp only [List.foldl_cons]
    rw [ih]
    have hx : (match x.prev with | .job y => a ||| single y | .virt xs => a ||| xs).testBit p = true ↔
        (a.testBit p = true ∨ isPrev x p) := by
      unfold isPrev
      cases x.prev with
      | job i =>
        simp only [Nat.testBit_or, testBit_single, Bool.or_eq_true, decide_eq_true_eq]
        constructor
        · rintro (h | h); exact Or.inl h; exact Or.inr h.symm
        · rintro (h | h); exact Or.inl h; exact Or.inr h.symm
      | virt c => simp only [Nat.testBit_or, Bool.or_eq_true]
    rw [hx]
    constructor
    · rintro ((h | h) | ⟨s, hs, h⟩)
      · exact Or.inl h
      · exact Or.inr ⟨x, List.mem_cons_self, h⟩
      · exact Or.inr ⟨s, List.mem_cons_of_mem _ hs, h⟩
    · rintro (h | ⟨s, hs, h⟩)
      · exact Or.inl (Or.inl h)
      · rcases List.mem_cons.mp hs with rfl | hs
        · exact Or.inl (Or.inr h)
        · exact Or.inr ⟨s, hs, h⟩

theorem foldl_and (X : List St) : ∀ (a x : Nat),
    (X.foldl (fun a s => a &&& s.must) a).testBit x = true ↔ (a.testBit x = true ∧ ∀ s ∈ X, s.must.testBit x = true) := by
  induction X with
  | nil => intro a x; simp
  | cons y t ih =>
    intro a x
    simp only [List.foldl_cons]
    rw [ih, Nat.testBit_and, Bool.and_eq_true]
    constructor
    · rintro ⟨⟨h1, h2⟩, h3⟩
      refine ⟨h1, ?_⟩
      intro s hs
      rcases List.mem_cons.mp hs with rfl | hs
      · exact h2
      · exact h3 s hs
    · rintro ⟨h1, h2⟩
      exact ⟨⟨h1, h2 y List.mem_cons_self⟩, fun s hs => h2 s (List.mem_cons_of_mem _ hs)⟩

theorem foldl_or (f : St → Nat) (X : List St) : ∀ (a x : Nat),
    (X.foldl (fun a s => a ||| f s) a).testBit x = true ↔ (a.testBit x = true ∨ ∃ s ∈ X, (f s).testBit x = true) := by
  induction X with
  | nil => intro a x; simp
  | cons y t ih =>
    intro a x
    simp only [List.foldl_cons]
    rw [ih, Nat.testBit_or, Bool.or_eq_true]
    constructor
    · rintro ((h | h) | ⟨s, hs, h⟩)
      · exact Or.inl h
      · exact Or.inr ⟨y, List.mem_cons_self, h⟩
      · exact Or.inr ⟨s, List.mem_cons_of_mem _ hs, h⟩
    · rintro (h | ⟨s, hs, h⟩)
      · exact Or.inl (Or.inl h)
      · rcases List.mem_cons.mp hs with rfl | hs
        · exact Or.inl (Or.inr h)
        · exact Or.inr ⟨s, hs, h⟩

theorem testBit_full256 (x : Nat) : full256.testBit x = decide (x < 256) := Nat.testBit_two_pow_sub_one 256 x

theorem merge_depth (X : List St) (d : Nat) (hne : X ≠ []) (hX : ∀ s ∈ X, s.depth = d) : (merge X).depth = d :=
  foldl_depth_eq d X 0 hX (Nat.zero_le _) (Or.inl hne)

theorem merge_isPrev (X : List St) (p : Nat) : isPrev (merge X) p ↔ ∃ s ∈ X, isPrev s p := by
  have := foldl_prev X 0 p
  simp only [Nat.zero_testBit, Bool.false_eq_true, false_or] at this
  exact this

theorem merge_must (X : List St) (x : Nat) :
    (merge X).must.testBit x = true ↔ (x < 256 ∧ ∀ s ∈ X, s.must.testBit x = true) := by
  have := foldl_and X full256 x
  rw [testBit_full256, decide_eq_true_eq] at this
  exact this

theorem mb_merge (X : List St) : mb (merge X) =
    diff (X.foldl (fun a s => a ||| s.maybe.getD 0) 0 ||| X.foldl (fun a s => a ||| s.must) 0) (merge X).must := by
  unfold mb merge
  simp only
  split
  · rename_i h; rw [h]; rfl
  · rfl

theorem merge_mb (X : List St) (x : Nat) :
    (mb (merge X)).testBit x = true ↔
      ((∃ s ∈ X, s.must.testBit x = true ∨ (mb s).testBit x = true) ∧ (merge X).must.testBit x = false) := by
  rw [mb_merge, testBit_diff, Bool.and_eq_true, Nat.testBit_or, Bool.or_eq_true,
    foldl_or (fun s => s.maybe.getD 0), foldl_or (fun s => s.must)]
  simp only [Nat.zero_testBit, Bool.false_eq_true, false_or, Bool.not_eq_true']
  constructor
  · rintro ⟨h | h, h2⟩
    · obtain ⟨s, hs, h⟩ := h; exact ⟨⟨s, hs, Or.inr h⟩, h2⟩
    · obtain ⟨s, hs, h⟩ := h; exact ⟨⟨s, hs, Or.inl h⟩, h2⟩
  · rintro ⟨⟨s, hs, h | h⟩, h2⟩
    · exact ⟨Or.inr ⟨s, hs, h⟩, h2⟩
    · exact ⟨Or.inl ⟨s, hs, h⟩, h2⟩

theorem merge_pend (X : List St) {u : St} (hu : u ∈ X) (x : Nat)
    (hx : u.must.testBit x = true ∨ (mb u).testBit x = true) :
    (merge X).must.testBit x = true ∨ (mb (merge X)).testBit x = true := by
  cases hm : (merge X).must.testBit x with
  | true => exact Or.inl rfl
  | false => exact Or.inr ((merge_mb X x).mpr ⟨⟨u, hu, hx⟩, hm⟩)

theorem inv_merge (X : List St) {u : St} (hu : u ∈ X) (hX : ∀ s ∈ X, Inv T s ∧ s.depth = u.depth) :
    Inv T (merge X) := by
  have hne : X ≠ [] := List.ne_nil_of_mem hu
  have hd := merge_depth X u.depth hne (fun s hs => (hX s hs).2)
  have hiu := (hX u hu).1
  refine ⟨by rw [hd]; exact hiu.depth_le, ?_, ?_, ?_, ?_, ?_⟩
  · intro x hx
    exact hiu.must_lt x (((merge_must X x).mp hx).2 u hu)
  · intro x hx
    obtain ⟨⟨s, hs, h⟩, _⟩ := (merge_mb X x).mp hx
    rcases h with h | h
    · exact (hX s hs).1.must_lt x h
    · exact (hX s hs).1.maybe_lt x h
  · intro x hx
    cases hm : (mb (merge X)).testBit x with
    | false => rfl
    | true => rw [((merge_mb X x).mp hm).2] at hx; cases hx
  · intro p hp
    obtain ⟨s, hs, h⟩ := (merge_isPrev X p).mp hp
    exact (hX s hs).1.prev_lt p h
  · rw [hd]
    have h1 : card ((merge X).must ||| mb (merge X)) = card (merge X).must + card (mb (merge X)) := by
      apply card_union_disj
      intro x hx
      cases hm : (mb (merge X)).testBit x with
      | false => rfl
      | true => rw [((merge_mb X x).mp hm).2] at hx; cases hx
    have h2 : card (u.must ||| mb u) = card u.must + card (mb u) := card_union_disj hiu.disj
    have h3 : card (u.must ||| mb u) ≤ card ((merge X).must ||| mb (merge X)) := by
      apply card_mono
      intro x hx
      rw [Nat.testBit_or, Bool.or_eq_true] at hx ⊢
      exact merge_pend X hu x hx
    have := hiu.count
    omega

theorem sim_merge (X : List St) {u : St} (hu : u ∈ X) (hX : ∀ s ∈ X, s.depth = u.depth) :
    Sim u (merge X) :=
  ⟨(merge_depth X u.depth (List.ne_nil_of_mem hu) hX).symm,
   fun p hp => (merge_isPrev X p).mpr ⟨u, hu, hp⟩,
   fun x hx => ((merge_must X x).mp hx).2 u hu,
   fun x hx => merge_pend X hu x hx⟩

theorem bestRem_merge_ge (hT : TabOk T) (X : List St) {u : St} (hu : u ∈ X)
    (hX : ∀ s ∈ X, Inv T s ∧ s.depth = u.depth) : bestRem T u ≤ bestRem T (merge X) := by
  unfold bestRem
  rw [merge_depth X u.depth (List.ne_nil_of_mem hu) (fun s hs => (hX s hs).2)]
  exact sim_le hT _ _ _ (hX u hu).1 (inv_merge X hu hX) (sim_merge X hu (fun s hs => (hX s hs).2))

/-- **`MergeOkStmt`** (potential form; `relax` is the identity on costs) for the repaired code, on every table the reader
    builds (`TabOk`, `tabOk_tabOf`) -/
theorem mergeOk (hT : TabOk T) : MergeOkStmt T := by
  intro X u c hu _ hX
  have h := bestRem_merge_ge hT X hu (fun s hs => ⟨inv_of_validB hT (hX s hs).1, (hX s hs).2⟩)
  unfold mergeOkAt mergeOkWith relaxCost
  cases hb : bestRem T u with
  | none => rfl
  | some g =>
    rw [hb] at h
    obtain ⟨g', hm, hle⟩ := EMax.of_some_le h
    rw [hm]
    simp only [decide_eq_true_eq]
    omega

end Ddo.Examples.SopModel
