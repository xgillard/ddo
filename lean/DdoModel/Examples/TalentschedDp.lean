import DdoModel.Dp
import DdoModel.Examples.Util
import DdoModel.Examples.Talentsched
/-! The DP model, relaxation and ranking of the shipped talentsched example (`ddo/examples/talentsched/{model,io_utils}.rs`)
    in Lean: definitions only (the driver engine `exmodel`, family `talentsched`, compares them pointwise with the example's
    own code, compiled into the harness; statements about them are in `TalentschedModel.lean`).

Mirror of the Rust code.  MINIMISATION: ddo maximises, every transition cost is MINUS a cost.
* `io_utils::read_instance`: the first line is skipped, empty lines are skipped; `nb_scenes` and `nb_actors` on one line or
  two; `nb_actors` lines of `nb_scenes` flags and a cost; EVERY further line appends `nb_scenes` durations (`duration` may
  be longer than `nb_scenes`: only the first `nb_scenes` entries are ever read);
* `TalentSched::new`: `actors[j]` = the set (`Set64`) of the actors `i` with `instance.actors[i][j] == 1` (any other flag
  value: does not play);
* the state is `(scenes, maybe_scenes)`, two `Set64` (here: the natural number of their bits): the scenes that MUST still be
  shot and the scenes that MAY still have to be shot (only merged states have some); the root has all scenes in `scenes`;
  `next_variable(depth) = depth` for `depth < nb_scenes` (whatever the states): variable `p` decides which scene is shot in
  position `p`;
* `get_present(s)`: over the scenes `i < nb_scenes` NOT in `maybe_scenes`: `after` = the actors of those in `scenes`, `before`
  = the actors of those not in `scenes` (taken as shot); the actors on location are `before ∩ after`;
* `initial_value = -Σ_scene Σ_{actor of scene} cost · duration` (what is paid whatever the order);
* `for_each_in_domain(p, s)`: the members of `scenes` (increasing), then — iff `p + |scenes| < nb_scenes` — the members of
  `maybe_scenes` (increasing).  The variable is the ARGUMENT, the state has no depth;
* `transition`: the scene is removed from both sets (a panic iff the value is no bit of a `Set64`: negative or ≥ 64);
* `transition_cost = -Σ_{a ∈ present(s) \ actors[scene]} cost[a] · duration[scene]` (a panic iff `scene ≥ nb_scenes`);
* `merge` (IN THE ORDER GIVEN): starting from a copy of the FIRST state, for every other state `s`: `scenes ∩= s.scenes`,
  `maybe ∪= s.scenes ∪ s.maybe`; finally `maybe \= scenes`.  AS SHIPPED (`mergeStatesOld`) the members of the first state's
  `scenes` that the others do not have are NOT put in `maybe_scenes` (they are in neither set of the merged state: taken as
  shot); AS REPAIRED (`mergeStates`, the `merge` of `relaxation`) the copy starts with `maybe ∪= scenes`; `relax` = the cost
  unchanged;
* `fast_upper_bound(s)`: with `P = present(s)`, over the scenes `j ∈ s.scenes` with `P_j = actors[j] ∩ P ≠ ∅`:
  `T_j = Σ_{a ∈ P_j} cost[a]`, `Q_j = Σ cost[a]²`, `r[a] += duration[j] / T_j` for `a ∈ P_j`,
  `lb -= duration[j] · (T_j + Q_j / T_j) / 2`; then, over the actors sorted by `(r[a], a)`, the present ones:
  `sum_e += r[a] · cost[a]`, `lb += cost[a] · sum_e`; the answer is `-ceil(lb - 1e-6)`.
  THE CODE COMPUTES THIS IN `f64`; THE MODEL COMPUTES IT ON EXACT RATIONALS (integers over the common denominator
  `2 · Π_j T_j`) with `1e-6 = 1/10^6` (`rubQ?`), and also says whether the exact `lb - 10^-6` is farther than `10^-7` from
  every integer (`guard`): then any evaluation whose absolute error is below `10^-7` rounds to the same integer (the exact
  value does not depend on the order of exact ties of the sort, and mis-ordering two keys that differ by less than the
  rounding error moves `lb` by less than `cost² ·` that error).  The driver claims equality with the code only under the
  guard (and `±1` otherwise); that the `f64` error stays below `10^-7` on the instance sizes used (≤ 7 actors, ≤ 6 scenes,
  costs ≤ 20, durations ≤ 10: |values| < 10^5, a few hundred operations, relative error 2^-53 each) is NOT proved here.  It
  is confirmed empirically by the agreement of every generated case; admissibility is evaluated on the value THE CODE
  returned.  `T_j = 0` (only zero-cost actors present for a scene — costs must be ≥ 1, `ood_zero_cost`) makes `lb` NaN
  (`0/0`), which `as isize` turns into 0: modelled;
* `TalentSchedRanking::compare` = comparison of `|scenes| + |maybe_scenes|`. -/
namespace Ddo.Examples.TalentschedModel
open Ddo Ddo.Examples Ddo.Examples.Util

structure St where
  scenes : Nat
  maybe : Nat
deriving DecidableEq, Repr

/-- the members of the bit set `m` from bit `i` on, in increasing order -/
def bitsFrom : Nat → Nat → Nat → List Nat
  | 0, _, _ => []
  | f + 1, i, m => if m = 0 then [] else if m % 2 = 1 then i :: bitsFrom f (i + 1) (m / 2) else bitsFrom f (i + 1) (m / 2)
/-- `Set64::iter` -/
def bits (m : Nat) : List Nat := bitsFrom 64 0 m
/-- `Set64::len` -/
def card (m : Nat) : Nat := (bits m).length
/-- `Set64::diff` -/
def sdiff (a b : Nat) : Nat := a ^^^ (a &&& b)

/-- what the model functions need: the `TalentSchedInstance` the reader built and the table of `TalentSched::new` -/
structure Tab where
  n : Nat
  k : Nat
  cost : List Int
  dur : List Int
  flags : List (List Int)
  act : List Nat

/-- `TalentSched::new`: the actors of scene `j` -/
def actOf (k : Nat) (flags : List (List Int)) (j : Nat) : Nat :=
  (List.range k).foldl (fun m i => if (flags.getD i []).getD j 0 = 1 then m ||| (1 <<< i) else m) 0

/-- the instance as the reader builds it from a file with the lines `flags_i cost_i` and the duration lines `durs` -/
def tabOf (n k : Nat) (flags : List (List Int)) (cost : List Int) (durs : List (List Int)) : Tab :=
  { n := n, k := k, cost := cost, dur := durs.flatten, flags := flags, act := (List.range n).map (actOf k flags) }

variable (T : Tab)

def costA (a : Nat) : Int := T.cost.getD a 0
def durS (j : Nat) : Int := T.dur.getD j 0
def actS (j : Nat) : Nat := T.act.getD j 0

def initSt : St := { scenes := (List.range T.n).foldl (fun m i => m ||| (1 <<< i)) 0, maybe := 0 }

/-- `initial_value` -/
def initVal : Int :=
  -(sum ((List.range T.n).map fun j => sum ((bits (actS T j)).map fun a => costA T a * durS T j)))

def nextVar (depth : Nat) : Option Nat := if depth < T.n then some depth else none

/-- `get_present` -/
def present (s : St) : Nat :=
  let ba := (List.range T.n).foldl (fun (ba : Nat × Nat) i =>
    if s.maybe.testBit i then ba
    else if s.scenes.testBit i then (ba.1, ba.2 ||| actS T i) else (ba.1 ||| actS T i, ba.2)) (0, 0)
  ba.1 &&& ba.2

/-- `for_each_in_domain` (never panics) -/
def domain (x : Nat) (s : St) : List Int :=
  let must := bits s.scenes
  (must ++ (if x + must.length < T.n then bits s.maybe else [])).map fun (i : Nat) => (i : Int)

/-- `transition`; `none` = a panic (the value is no bit of a `Set64`) -/
def trans? (s : St) (d : Dec) : Option St :=
  if d.val < 0 ∨ d.val ≥ 64 then none
  else some { scenes := sdiff s.scenes (1 <<< d.val.toNat), maybe := sdiff s.maybe (1 <<< d.val.toNat) }

/-- `transition_cost`; `none` = a panic (`actors[scene]` out of range) -/
def cost? (s : St) (d : Dec) : Option Int :=
  if d.val < 0 ∨ d.val ≥ T.n then none
  else
    let j := d.val.toNat
    some (-(sum ((bits (sdiff (present T s) (actS T j))).map fun a => costA T a * durS T j)))

def trans (s : St) (d : Dec) : St := (trans? s d).getD s
def cost (s : St) (d : Dec) : Int := (cost? T s d).getD 0

def problem : Problem St :=
  { nbVars := T.n
    init := initSt T
    initVal := initVal T
    trans := trans
    cost := fun s _ d => cost T s d
    nextVar := fun depth _ => nextVar T depth
    domain := domain T
    impacted := fun _ _ => true }

/-- `TalentSchedRelax::merge` AS SHIPPED, in the order given (the code panics on an empty list: `unwrap` of `None`) -/
def mergeStatesOld : List St → St
  | [] => { scenes := 0, maybe := 0 }
  | f :: rest =>
    let m := rest.foldl (fun (m : St) s => { scenes := m.scenes &&& s.scenes, maybe := (m.maybe ||| s.scenes) ||| s.maybe }) f
    { scenes := m.scenes, maybe := sdiff m.maybe m.scenes }

/-- `TalentSchedRelax::merge` as repaired (`fix:` commit of /repo, finding D18): the scenes of the FIRST state become possible
    scenes too before the other states are folded in (`mergeStatesOld` above is the merge as shipped before: the scenes only
    the first state still had to shoot ended up in neither set; witnesses in `TalentschedModel.lean`) -/
def mergeStates : List St → St
  | [] => { scenes := 0, maybe := 0 }
  | f :: rest => mergeStatesOld ({ scenes := f.scenes, maybe := f.maybe ||| f.scenes } :: rest)

/-- insertion into a list sorted by `(key, actor)` -/
def insertKey (x : Int × Nat) : List (Int × Nat) → List (Int × Nat)
  | [] => [x]
  | y :: ys => if x.1 < y.1 ∨ (x.1 = y.1 ∧ x.2 ≤ y.2) then x :: y :: ys else y :: insertKey x ys

/-- `⌈a / b⌉` for `b > 0` -/
def ceilDiv (a : Int) (b : Int) : Int := -((-a) / b)

/-- the scenes the bound looks at: `(duration, T_j, Q_j, P_j)` for `j ∈ scenes` with `P_j ≠ ∅` -/
def rubScenes (s : St) : List (Int × Int × Int × Nat) :=
  let p := present T s
  (bits s.scenes).filterMap fun j =>
    let pj := actS T j &&& p
    if pj = 0 then none
    else some (durS T j, sum ((bits pj).map (costA T)), sum ((bits pj).map fun a => costA T a * costA T a), pj)

/-- `fast_upper_bound` on exact rationals: `(the bound, guard)`; `none` = a panic (a member of `scenes` is no scene).
    `guard` = the exact `lb - 10^-6` is farther than `10^-7` from every integer -/
def rubQ? (s : St) : Option (Int × Bool) :=
  if s.scenes >>> T.n ≠ 0 then none else
  let p := present T s
  let sc := rubScenes T s
  if sc.any (fun e => e.2.1 = 0) then some (0, true) else      -- NaN
  let den : Int := sc.foldl (fun d e => d * e.2.1) 1              -- Π T_j > 0
  -- 2·den · (what is subtracted)
  let neg2 : Int := sum (sc.map fun e => e.1 * (e.2.1 * den + e.2.2.1 * (den / e.2.1)))
  -- den · r[a]
  let key := fun (a : Nat) => sum (sc.map fun e => if e.2.2.2.testBit a then e.1 * (den / e.2.1) else 0)
  let sorted := (List.range T.k).foldl (fun l a => insertKey (key a, a) l) []
  -- den · (what is added)
  let pos : Int := (sorted.foldl (fun (acc : Int × Int) ka =>
    if p.testBit ka.2 then
      let sumE := acc.1 + ka.1 * costA T ka.2
      (sumE, acc.2 + costA T ka.2 * sumE)
    else acc) (0, 0)).2
  -- lb - 10^-6 = x / m
  let m : Int := 2 * den * 1000000
  let x : Int := 1000000 * (2 * pos - neg2) - 2 * den
  let r := x % m
  some (-(ceilDiv x m), decide (r * 10000000 > m ∧ (m - r) * 10000000 > m))

def rub? (s : St) : Option Int := (rubQ? T s).map (·.1)

def relaxation : Relax St :=
  { merge := mergeStates
    relax := fun _ _ _ _ c => c
    rub := fun s => (rub? T s).getD 0 }

/-- `TalentSchedRanking::compare` -/
def rank (s : St) : Nat := card s.scenes + card s.maybe
def rankCmp (a b : St) : Ordering := compare (rank a) (rank b)

-- ------------------------------------------------------------------------------------------------------------------
-- what the driver evaluates pointwise (exhaustive enumeration over the remaining positions with the model's own functions)

/-- the value-to-go of `s` at depth `depth`: the best total transition cost over ALL completions (every sequence of
    decisions, each in the domain of the variable `depth, depth+1, …` of the state reached, down to depth `n`);
    `none` = −∞, no completion.  `fuel = n - depth`. -/
def bestRemF : Nat → Nat → St → EInt
  | 0, _, _ => some 0
  | fuel + 1, depth, s =>
    (domain T depth s).foldl (fun acc v => EInt.max acc ((bestRemF fuel (depth + 1) (trans s ⟨depth, v⟩)).addI (cost T s ⟨depth, v⟩))) none
def bestRem (depth : Nat) (s : St) : EInt := bestRemF T (T.n - depth) depth s

/-- the layer-validity predicate at a depth (`V` of `WfRel`), decided: the two sets are disjoint sets of scenes, there are no
    more scenes that must be shot than positions left, and enough scenes in the two sets together to fill the positions left.
    It holds at the root, is kept by transitions on decisions of the domain and by merges of valid states of one depth (the
    merged state has every scene of its SECOND state in one of its sets); a state with too many `scenes` reaches depth `n`
    with scenes left, one with too few scenes in all has no completion (no compilation builds either). -/
def validB (depth : Nat) (s : St) : Bool :=
  decide (depth ≤ T.n ∧ card s.scenes + depth ≤ T.n ∧ T.n ≤ card s.scenes + card s.maybe + depth ∧
          s.scenes &&& s.maybe = 0 ∧ (s.scenes ||| s.maybe) >>> T.n = 0)

/-- `RubOk` at one state: the bound `r` claimed for `s` dominates the value-to-go -/
def rubOkAt (depth : Nat) (s : St) (r : Int) : Bool := decide (bestRem T depth s ≤ some r)

/-- `MergeOk` (potential form, `Wf.lean`) at one merged-away state `u`, merged state `m` (both at depth `depth`), arc cost
    `c` relaxed to `r`: if `u` has a completion worth `h` then `m` has one worth `h'` with `c + h ≤ r + h'` -/
def mergeOkAt (depth : Nat) (u m : St) (c r : Int) : Bool :=
  match bestRem T depth u with
  | none => true
  | some h =>
    match bestRem T depth m with
    | none => false
    | some h' => decide (c + h ≤ r + h')

-- ------------------------------------------------------------------------------------------------------------------
-- the independent specification (`Talentsched.lean`), tabulated once per instance

/-- all shooting orders with their total pay, by the specification's own `perms` and `pay`, in the order
    `Talentsched.spec` enumerates them -/
def specTable : List (List Nat × Int) :=
  let plays := fun (a s : Nat) => (T.flags.getD a []).getD s 0 == 1
  (Talentsched.perms (List.range T.n)).map fun o => (o, Talentsched.pay T.k plays (costA T) (durS T) o)

/-- does the order extend the decisions `decs` taken for the positions `0, 1, …` -/
def extends_ (o : List Nat) (decs : List Int) : Bool :=
  (o.take decs.length).map (fun (i : Nat) => (i : Int)) == decs

/-- the specification's least pay among the orders extending the prefix; `none` = there is none -/
def specBestExt (tbl : List (List Nat × Int)) (decs : List Int) : Option Int :=
  minOf ((tbl.filter (fun e => extends_ e.1 decs)).map (·.2))

end Ddo.Examples.TalentschedModel
