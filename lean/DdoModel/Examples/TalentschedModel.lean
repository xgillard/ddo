import DdoModel.Examples.TalentschedDp
/-! Statements about the Lean model of the talentsched example (`TalentschedDp.lean`), and the finding on its merge (D18).
    `TalentSchedRelax::merge` as shipped (`mergeStatesOld`) covers the scenes of every merged state OTHER THAN THE FIRST: a scene
    that only the first state still has to shoot is in neither set of the merged state (`merge_first_lost`), `get_present` then
    takes it as shot, and the merged state can be worth strictly less than its first state (`merge_not_relaxation_of_first`:
    `MergeOk` is false as shipped; the driver's class `talentsched-merge-first-lost`).  The REPAIRED merge `mergeStates`, which is
    the `merge` of the model, covers every merged state (`merge_covers`).
    The statements are `def … : Prop` (the driver checks them pointwise) and are proved in `TalentschedProofs*.lean`.
    NOT covered by any of this: the shipped code evaluates the rough bound in `f64` (see `TalentschedDp.lean`); the theorems are
    about the exact evaluation `rubQ?`. -/
namespace Ddo.Examples.TalentschedModel
open Ddo Ddo.Examples Ddo.Examples.Util

theorem relax_id (T : Tab) (a b c : St) (d : Dec) (x : Int) : (relaxation T).relax a b c d x = x := rfl

theorem testBit_sdiff (a b i : Nat) : (sdiff a b).testBit i = (a.testBit i && !b.testBit i) := by
  unfold sdiff
  rw [Nat.testBit_xor, Nat.testBit_and]
  cases a.testBit i <;> cases b.testBit i <;> rfl

/-- the `for` loop of `merge` -/
def mergeAcc (f : St) (rest : List St) : St :=
  rest.foldl (fun (m : St) s => { scenes := m.scenes &&& s.scenes, maybe := (m.maybe ||| s.scenes) ||| s.maybe }) f

theorem mergeStatesOld_cons (f : St) (rest : List St) :
    mergeStatesOld (f :: rest) = { scenes := (mergeAcc f rest).scenes, maybe := sdiff (mergeAcc f rest).maybe (mergeAcc f rest).scenes } := rfl

theorem mergeAcc_scenes (i : Nat) : ∀ (rest : List St) (f : St),
    (mergeAcc f rest).scenes.testBit i = true → f.scenes.testBit i = true ∧ ∀ u ∈ rest, u.scenes.testBit i = true := by
  intro rest
  induction rest with
  | nil => intro f h; exact ⟨h, by simp⟩
  | cons a r ih =>
    intro f h
    have h' := ih { scenes := f.scenes &&& a.scenes, maybe := (f.maybe ||| a.scenes) ||| a.maybe } h
    have h1 := h'.1
    simp only [Nat.testBit_and, Bool.and_eq_true] at h1
    refine ⟨h1.1, ?_⟩
    intro u hu
    rcases List.mem_cons.mp hu with rfl | hu
    · exact h1.2
    · exact h'.2 u hu

theorem merge_scenes_sub (X : List St) (i : Nat) (h : (mergeStatesOld X).scenes.testBit i = true) :
    ∀ u ∈ X, u.scenes.testBit i = true := by
  cases X with
  | nil => intro u hu; cases hu
  | cons f rest =>
    rw [mergeStatesOld_cons] at h
    have h' := mergeAcc_scenes i rest f h
    intro u hu
    rcases List.mem_cons.mp hu with rfl | hu
    · exact h'.1
    · exact h'.2 u hu

theorem merge_disjoint (X : List St) (i : Nat) :
    ¬ ((mergeStatesOld X).scenes.testBit i = true ∧ (mergeStatesOld X).maybe.testBit i = true) := by
  cases X with
  | nil => simp [mergeStatesOld]
  | cons f rest =>
    rw [mergeStatesOld_cons]
    simp only [testBit_sdiff]
    intro h
    rcases h with ⟨h1, h2⟩
    simp [h1] at h2

theorem mergeAcc_maybe_mono (i : Nat) : ∀ (rest : List St) (f : St),
    f.maybe.testBit i = true → (mergeAcc f rest).maybe.testBit i = true := by
  intro rest
  induction rest with
  | nil => intro f h; exact h
  | cons a r ih =>
    intro f h
    apply ih { scenes := f.scenes &&& a.scenes, maybe := (f.maybe ||| a.scenes) ||| a.maybe }
    simp [Nat.testBit_or, h]

theorem mergeAcc_covers (i : Nat) : ∀ (rest : List St) (f : St) (u : St), u ∈ rest →
    (u.scenes.testBit i = true ∨ u.maybe.testBit i = true) → (mergeAcc f rest).maybe.testBit i = true := by
  intro rest
  induction rest with
  | nil => intro f u hu; cases hu
  | cons a r ih =>
    intro f u hu hbit
    rcases List.mem_cons.mp hu with rfl | hu
    · apply mergeAcc_maybe_mono i r { scenes := f.scenes &&& u.scenes, maybe := (f.maybe ||| u.scenes) ||| u.maybe }
      rcases hbit with hb | hb <;> simp [Nat.testBit_or, hb]
    · exact ih _ u hu hbit

theorem merge_covers_tail (f : St) (rest : List St) (u : St) (hu : u ∈ rest) (i : Nat)
    (h : u.scenes.testBit i = true ∨ u.maybe.testBit i = true) :
    (mergeStatesOld (f :: rest)).scenes.testBit i = true ∨ (mergeStatesOld (f :: rest)).maybe.testBit i = true := by
  rw [mergeStatesOld_cons]
  simp only [testBit_sdiff]
  have hm := mergeAcc_covers i rest f u hu h
  cases hs : (mergeAcc f rest).scenes.testBit i
  · right; simp [hm]
  · left; rfl

/-- `merge_covers_tail` fails for the FIRST state: merging `{0,1,2}` (first) with `{1,2,3}` gives `scenes = {1,2}`, `maybe = {3}`;
    scene 0 is in neither set of the merged state -/
theorem merge_first_lost :
    let m := mergeStatesOld [{ scenes := 7, maybe := 0 }, { scenes := 14, maybe := 0 }]
    m = { scenes := 6, maybe := 8 } ∧ m.scenes.testBit 0 = false ∧ m.maybe.testBit 0 = false := by decide

/-- the instance of case `talentsched | 4 5 1 1 0 0 4 1 1 0 1 19 1 0 0 1 18 1 1 1 0 16 1 0 1 1 2 1 1 1 1` (4 scenes of one
    day, 5 actors: cost 4 in scenes 0 1, cost 19 in 0 1 3, cost 18 in 0 3, cost 16 in 0 1 2, cost 2 in 0 2 3) -/
def witness : Tab :=
  tabOf 4 5 [[1, 1, 0, 0], [1, 1, 0, 1], [1, 0, 0, 1], [1, 1, 1, 0], [1, 0, 1, 1]] [4, 19, 18, 16, 2] [[1, 1, 1, 1]]

/-- `MergeOk` is false as shipped: on `witness`, after one scene, the exact states `{0,1,3}` (scene 2 shot; FIRST) and
    `{1,2,3}` (scene 0 shot) merge into `scenes = {1,3}`, `maybe = {2}` (scene 0 lost: taken as shot); the first state has a
    completion that costs 2, every completion of the merged state costs at least 20 -/
theorem merge_not_relaxation_of_first :
    mergeStatesOld [{ scenes := 11, maybe := 0 }, { scenes := 14, maybe := 0 }] = { scenes := 10, maybe := 4 } ∧
    validB witness 1 { scenes := 11, maybe := 0 } = true ∧ validB witness 1 { scenes := 14, maybe := 0 } = true ∧
    validB witness 1 { scenes := 10, maybe := 4 } = true ∧
    bestRem witness 1 { scenes := 11, maybe := 0 } = some (-2) ∧
    bestRem witness 1 { scenes := 10, maybe := 4 } = some (-20) ∧
    mergeOkAt witness 1 { scenes := 11, maybe := 0 } { scenes := 10, maybe := 4 } 0 0 = false := by decide +kernel

/-- a well-formed instance.  `n, k ≤ 64`: `Set64`; costs `≥ 1`: zero-cost actors alone on location for a scene make `T_j = 0`,
    the NaN case of `rubQ?`; AT LEAST `n` durations: `read_instance` appends every further line -/
structure TabOk (T : Tab) : Prop where
  npos : 1 ≤ T.n ∧ T.n ≤ 64 ∧ T.k ≤ 64
  flags : T.flags.length = T.k ∧ ∀ r ∈ T.flags, r.length = T.n
  cost : T.cost.length = T.k ∧ ∀ c ∈ T.cost, 1 ≤ c
  dur : T.n ≤ T.dur.length ∧ ∀ d ∈ T.dur, 0 ≤ d
  act : T.act = (List.range T.n).map (actOf T.k T.flags)

/-- `RubOk`: `fast_upper_bound`, evaluated on exact rationals (`rubQ?`; the code evaluates it in `f64`), dominates the value-to-go
    of every valid state of a depth, exact or merged.  Proved: `rubAdmissibleStmt` (`TalentschedProofsRub`) -/
def RubAdmissibleStmt (T : Tab) : Prop :=
  TabOk T → ∀ (d : Nat) (s : St) (r : Int), validB T d s = true → rub? T s = some r → bestRem T d s ≤ (some r : EInt)

/-- `MergeOk` (potential form; `relax` is the identity) for the merge AS SHIPPED and the states OTHER THAN THE FIRST.
    Proved: `mergeOkTailStmt` (`TalentschedProofsMerge`) -/
def MergeOkTailStmt (T : Tab) : Prop :=
  TabOk T → ∀ (d : Nat) (f : St) (rest : List St) (u : St) (h : Int), u ∈ rest →
    (∀ w ∈ f :: rest, validB T d w = true) → bestRem T d u = some h →
    ∃ h', bestRem T d (mergeStatesOld (f :: rest)) = some h' ∧ h ≤ h'

/-- another repair of the merge as shipped: `maybe ∪= first.scenes` AFTER the loop (`mergeStates`: before it) -/
def mergeSym : List St → St
  | [] => { scenes := 0, maybe := 0 }
  | f :: rest =>
    let m := mergeAcc f rest
    { scenes := m.scenes, maybe := sdiff (m.maybe ||| f.scenes) m.scenes }

/-- `MergeOk` for `mergeSym` and EVERY merged state.  Proved: `mergeOkSymStmt` (`TalentschedProofsMerge`) -/
def MergeOkSymStmt (T : Tab) : Prop :=
  TabOk T → ∀ (d : Nat) (X : List St) (u : St) (h : Int), u ∈ X →
    (∀ w ∈ X, validB T d w = true) → bestRem T d u = some h →
    ∃ h', bestRem T d (mergeSym X) = some h' ∧ h ≤ h'

/-- the DP model is exact: minus (the initial value + the value-to-go of the root) is the specification's minimum.
    Proved: `dpExactStmt` (`TalentschedProofsExact`; the prefix form `DpExactPrefixStmt` is stated and proved there) -/
def DpExactStmt (T : Tab) : Prop :=
  TabOk T → (bestRem T 0 (initSt T)).addI (initVal T) = (specBestExt (specTable T) []).map (fun c => -c)

theorem mergeStates_cons' (f : St) (rest : List St) :
    mergeStates (f :: rest) = mergeStatesOld ({ scenes := f.scenes, maybe := f.maybe ||| f.scenes } :: rest) := rfl

/-- on the two states of `merge_not_relaxation_of_first` the repaired merge keeps scene 0 possible -/
theorem merge_first_kept :
    mergeStates [{ scenes := 11, maybe := 0 }, { scenes := 14, maybe := 0 }] = { scenes := 10, maybe := 5 } := by decide

theorem mergeOld_covers_first_maybe (f : St) (rest : List St) (i : Nat) (h : f.maybe.testBit i = true) :
    (mergeStatesOld (f :: rest)).scenes.testBit i = true ∨ (mergeStatesOld (f :: rest)).maybe.testBit i = true := by
  rw [mergeStatesOld_cons]
  simp only [testBit_sdiff]
  have hm := mergeAcc_maybe_mono i rest f h
  cases hs : (mergeAcc f rest).scenes.testBit i
  · right; simp [hm]
  · left; rfl

/-- what `merge_first_lost` refutes for the merge as shipped -/
theorem merge_covers_first (f : St) (rest : List St) (i : Nat)
    (h : f.scenes.testBit i = true ∨ f.maybe.testBit i = true) :
    (mergeStates (f :: rest)).scenes.testBit i = true ∨ (mergeStates (f :: rest)).maybe.testBit i = true := by
  rw [mergeStates_cons']
  apply mergeOld_covers_first_maybe
  rcases h with h | h <;> simp [Nat.testBit_or, h]

theorem merge_covers (X : List St) (u : St) (hu : u ∈ X) (i : Nat)
    (h : u.scenes.testBit i = true ∨ u.maybe.testBit i = true) :
    (mergeStates X).scenes.testBit i = true ∨ (mergeStates X).maybe.testBit i = true := by
  cases X with
  | nil => cases hu
  | cons f rest =>
    rcases List.mem_cons.mp hu with rfl | hu
    · exact merge_covers_first _ rest i h
    · rw [mergeStates_cons']
      exact merge_covers_tail _ rest u hu i h

theorem mergeStates_scenes_sub (X : List St) (i : Nat) (h : (mergeStates X).scenes.testBit i = true) :
    ∀ u ∈ X, u.scenes.testBit i = true := by
  cases X with
  | nil => intro u hu; cases hu
  | cons f rest =>
    rw [mergeStates_cons'] at h
    have h' := merge_scenes_sub _ i h
    intro u hu
    rcases List.mem_cons.mp hu with rfl | hu
    · exact h' { scenes := u.scenes, maybe := u.maybe ||| u.scenes } List.mem_cons_self
    · exact h' u (List.mem_cons_of_mem _ hu)

theorem mergeStates_disjoint (X : List St) (i : Nat) :
    ¬ ((mergeStates X).scenes.testBit i = true ∧ (mergeStates X).maybe.testBit i = true) := by
  cases X with
  | nil => simp [mergeStates]
  | cons f rest => rw [mergeStates_cons']; exact merge_disjoint _ i

/-- **`MergeOk`** (potential form, `Wf.lean`; `relax` is the identity) for the REPAIRED merge and EVERY merged state, the first
    included.  Proved: `mergeOkStmt` (`TalentschedProofsMerge`); of `TabOk` only that costs and durations are not negative is used -/
def MergeOkStmt (T : Tab) : Prop :=
  TabOk T → ∀ (d : Nat) (X : List St) (u src : St) (dec : Dec) (c h : Int), u ∈ X →
    (∀ w ∈ X, validB T d w = true) → bestRem T d u = some h →
    ∃ h', bestRem T d (mergeStates X) = some h' ∧
      c + h ≤ (relaxation T).relax src u ((relaxation T).merge X) dec c + h'

end Ddo.Examples.TalentschedModel
