import DdoModel.Examples.TsptwProofsStar
import DdoModel.Examples.InsSort
/-! Admissibility of the rough upper bound `rub?` (`fast_upper_bound`) of the tsptw example for the potential `hStar`
    (`TsptwProofsStar.lean`) on every valid state each of whose cities can be entered from another position (`Alt`).
    A state with a legitimate completion worth `h` has a witness (`Wit`, `wit_of_vG`): the distinct cities the completion
    visits (all the mandatory ones among them), each reachable in time through its cheapest edge, and the lower bounds on its
    length that the code computes.  The cheapest edge into `j` is at most the leg `mdS s j` because that leg starts from a
    position other than `j` (`ce_le_mdS`: where `Alt` is used, and what fails for the model's `minD`).  Against a witness the
    three pieces of `fast_upper_bound` (`rubMust?`, `rubMid`, `rubTail`) do not answer "infeasible" and answer at least `h`
    (`rub_of_wit`); for the optional cities, the `k` smallest cheapest edges sum to at most those of any `k` of them
    (`sum_take_sortNat_le`).

    **Finding** (`rub_hStar_late_false`, `rub_admissible_late_false`): on a state of the last layer that is later than the
    depot's deadline (valid for `Valid` and for `validB`) the bound answers "infeasible" while nothing remains to be done
    (value-to-go `0`): `rub_hStar` has the side condition `hL`, and `rub_admissible` of `TsptwModel.lean` is false as it
    stands. -/
namespace Ddo.Examples.TsptwModel
open Ddo Ddo.Examples

theorem sortNat_eq (l : List Nat) : sortNat l = InsSort.sortBy (fun a b => decide (a ≤ b)) l := by
  refine InsSort.foldr_eq_sortBy (fun x t => ?_) l
  induction t with
  | nil => rfl
  | cons y t ih => simp only [insertSorted, InsSort.insBy, ih, decide_eq_true_eq]

theorem sortNat_perm (l : List Nat) : (sortNat l).Perm l := by
  rw [sortNat_eq]; exact InsSort.sortBy_perm _ l

theorem sorted_sortNat (l : List Nat) : (sortNat l).Pairwise (· ≤ ·) := by
  rw [sortNat_eq]
  exact InsSort.sortBy_sorted (r := fun a b : Nat => a ≤ b) (fun _ _ _ => Nat.le_trans)
    (fun a b h => of_decide_eq_true h) (fun a b h => by have := of_decide_eq_false h; omega) l

theorem sum_take_sortNat_le {m l : List Nat} (h : m.Sublist l) : ((sortNat l).take m.length).sum ≤ m.sum := by
  obtain ⟨m', h1, h2⟩ := List.exists_perm_sublist h (sortNat_perm l).symm
  have := InsSort.take_le_sublist_nat h2 (sorted_sortNat l)
  rwa [h1.length_eq, h1.sum_nat] at this

def ceN (T : Tab) (j : Nat) : Nat := T.ce.getD j 0

theorem ce_le {T : Tab} (hT : TabOk T) {i j : Nat} (hi : i < T.n) (hj : j < T.n) (hne : i ≠ j) :
    ceN T j ≤ distOf T.d i j := by
  unfold ceN
  rw [hT.ce_eq]
  simp only [cheapestOf, List.getD_eq_getElem?_getD, List.getElem?_map, List.getElem?_range hj, Option.map_some,
    Option.getD_some]
  exact (EMax.foldl_natMin_spec (fun i' => distOf T.d i' j) _ umax).2.1 i
    (List.mem_filter.mpr ⟨List.mem_range.mpr hi, by simpa using hne⟩)

theorem ce?_val {T : Tab} {i c : Nat} (h : T.ce[i]? = some c) : c = ceN T i := by
  simp [ceN, List.getD_eq_getElem?_getD, h]

theorem dist?_val {T : Tab} {i j x : Nat} (h : dist? T i j = some x) : x = distOf T.d i j := by
  unfold dist? at h
  unfold distOf
  cases h1 : T.d[i]? with
  | none => simp [h1] at h
  | some row =>
    simp only [h1, Option.bind_some] at h
    simp [List.getD_eq_getElem?_getD, h1, h]

theorem tw?_val {T : Tab} {j e l : Nat} (h : tw? T j = some (e, l)) : l = lN T j := by
  unfold tw? at h
  simp [lN, List.getD_eq_getElem?_getD, h]

theorem uadd?_val {a b c : Nat} (h : uadd? a b = some c) : c = a + b := by
  unfold uadd? at h
  split at h
  · cases h; rfl
  · cases h

theorem addDur?_val {el a : El} {x : Nat} (h : addDur? el x = some a) : a.earliest = el.earliest + x := by
  cases el with
  | fixed d =>
    simp only [addDur?] at h
    cases h1 : uadd? d x with
    | none => simp [h1] at h
    | some c =>
      simp only [h1, Option.map_some, Option.some.injEq] at h
      subst h
      rw [earliest_fixed, earliest_fixed]; exact uadd?_val h1
  | fuzzy e l =>
    simp only [addDur?, Option.bind_eq_bind, Option.pure_def] at h
    cases h1 : uadd? e x with
    | none => simp [h1] at h
    | some c =>
      cases h2 : uadd? l x with
      | none => simp [h1, h2] at h
      | some c2 =>
        simp only [h1, h2, Option.bind_some, Option.some.injEq] at h
        subst h
        rw [earliest_fuzzy, earliest_fuzzy]; exact uadd?_val h1

theorem foldlM_uadd?_val : ∀ (l : List Nat) (a x : Nat), l.foldlM uadd? a = some x → x = a + l.sum := by
  intro l
  induction l with
  | nil => intro a x h; simp at h; simp; omega
  | cons y t ih =>
    intro a x h
    rw [List.foldlM_cons] at h
    cases h1 : uadd? a y with
    | none => simp [h1] at h
    | some c =>
      simp only [h1, Option.bind_eq_bind, Option.bind_some] at h
      have := ih c x h
      have := uadd?_val h1
      simp only [List.sum_cons]; omega

theorem usum?_val {l : List Nat} {x : Nat} (h : usum? l = some x) : x = l.sum := by
  have := foldlM_uadd?_val l 0 x h
  omega

theorem mapM_val {α β : Type} (f : α → Option β) (g : α → β) : ∀ (l : List α) (r : List β), l.mapM f = some r →
    (∀ x ∈ l, ∀ y, f x = some y → y = g x) → r = l.map g := by
  intro l
  induction l with
  | nil => intro r h _; simp at h; subst h; rfl
  | cons a t ih =>
    intro r h hg
    rw [List.mapM_cons] at h
    cases h1 : f a with
    | none => simp [h1] at h
    | some b =>
      cases h2 : t.mapM f with
      | none => simp [h1, h2] at h
      | some r' =>
        simp only [h1, h2, Option.bind_eq_bind, Option.bind_some, Option.pure_def, Option.some.injEq] at h
        subst h
        rw [List.map_cons, ← hg a List.mem_cons_self b h1, ← ih r' h2 (fun x hx => hg x (List.mem_cons_of_mem _ hx))]

theorem rubMust_spec (T : Tab) (el : El) : ∀ (l : List Nat) (ct mand back : Nat) (res : Option (Nat × Nat × Nat)),
    rubMust? T el l ct mand back = some res →
    match res with
    | none => ct < l.length ∨ ∃ i ∈ l, el.earliest + ceN T i > lN T i
    | some (ct', mand', back') => ct' + l.length = ct ∧ mand' = mand + (l.map (ceN T)).sum ∧ back' ≤ back ∧
        ∀ i ∈ l, back' ≤ distOf T.d i 0 := by
  intro l
  induction l with
  | nil =>
    intro ct mand back res h
    simp only [rubMust?, Option.some.injEq] at h
    subst h
    simp
  | cons i r ih =>
    intro ct mand back res h
    rw [rubMust?] at h
    split at h
    · cases h
      left; rw [List.length_cons]; omega
    · simp only [Option.bind_eq_bind, Option.bind_eq_some_iff, Option.pure_def] at h
      obtain ⟨c, h1, mand', h2, di0, h3, ⟨ei, li⟩, h4, a, h5, h⟩ := h
      cases ce?_val h1
      cases dist?_val h3
      cases tw?_val h4
      have hm := uadd?_val h2
      have ha := addDur?_val h5
      split at h
      · cases h
        right
        exact ⟨i, List.mem_cons_self, by omega⟩
      · have := ih _ _ _ _ h
        cases res with
        | none =>
          rcases this with h' | ⟨k, hk, h'⟩
          · left; rw [List.length_cons]; omega
          · right; exact ⟨k, List.mem_cons_of_mem _ hk, h'⟩
        | some q =>
          obtain ⟨ct', mand'', back'⟩ := q
          obtain ⟨a1, a2, a3, a4⟩ := this
          refine ⟨by rw [List.length_cons]; omega, by simp only [List.map_cons, List.sum_cons]; omega, by omega, ?_⟩
          intro k hk
          rcases List.mem_cons.mp hk with rfl | hk
          · omega
          · exact a4 k hk

/-- a legitimate completion of `s` worth at least `h`: the cities `cs` it visits before the depot and a lower bound `b` on its
    last leg, with the lower bounds the rough upper bound computes -/
structure Wit (T : Tab) (s : St) (h : Int) (cs : List Nat) (b : Nat) : Prop where
  nd : cs.Nodup
  sub : ∀ j ∈ cs, j ∈ s.must ∨ j ∈ mb s
  must : ∀ i ∈ s.must, i ∈ cs
  len : cs.length = T.n - s.depth - 1
  feas : ∀ j ∈ cs, s.el.earliest + ceN T j ≤ lN T j
  back : (cs = [] ∧ b = minD T s 0) ∨ (∃ j ∈ cs, b = distOf T.d j 0)
  tot : s.el.earliest + ((cs.map (ceN T)).sum + b) ≤ lN T 0
  val : h ≤ -(((cs.map (ceN T)).sum + b : Nat) : Int)

theorem termL_eq_some {s : St} {h : Int} (e : termL s = some h) : s.must = [] ∧ h = 0 := by
  unfold termL at e
  split at e
  · next hm => exact ⟨List.isEmpty_iff.mp hm, by cases e; rfl⟩
  · cases e

theorem ce_le_mdS {T : Tab} (hT : TabOk T) {s : St} (hV : Valid T s) (hA : Alt s) {j : Nat}
    (hj : j ∈ s.must ∨ j ∈ mb s) : ceN T j ≤ mdS T s j := by
  have hjr : 1 ≤ j ∧ j < T.n := by
    rcases hj with hj | hj
    · exact hV.must_rng j hj
    · exact hV.maybe_rng j hj
  have h0 : j ≠ 0 := by omega
  unfold mdS
  rw [if_neg h0]
  obtain ⟨p, hp, hpj, e⟩ := (minD'_spec (T := T) hV.pos_ne j).2.2.2 (hA j hj)
  rw [e]
  exact ce_le hT (hV.pos_lt p hp) hjr.2 hpj

theorem Wit.last {T : Tab} {s : St} (hd : s.depth + 1 = T.n) (hm : s.must = []) {arr : Nat}
    (hr : s.el.earliest + minD T s 0 ≤ lN T 0) (harr : s.el.earliest + minD T s 0 ≤ arr) :
    Wit T s (0 + ((s.el.earliest : Int) - arr)) [] (minD T s 0) := by
  refine ⟨List.nodup_nil, (fun j hj => by cases hj), ?_, ?_, (fun j hj => by cases hj), Or.inl ⟨rfl, rfl⟩, ?_, ?_⟩
  · intro i hi; rw [hm] at hi; cases hi
  · simp; omega
  · simp only [List.map_nil, List.sum_nil]; omega
  · simp only [List.map_nil, List.sum_nil]; omega

theorem Wit.cons {T : Tab} {s : St} (hV : Valid T s) {j arr : Nat} (hjm : j ∈ s.must ∨ j ∈ mb s) (hd : s.depth + 1 < T.n)
    (hfe : s.el.earliest + ceN T j ≤ lN T j) (harr : s.el.earliest + ceN T j ≤ arr)
    {h' : Int} {cs : List Nat} {b : Nat} (W : Wit T (succSt s j (.fixed arr)) h' cs b) :
    Wit T s (h' + ((s.el.earliest : Int) - arr)) (j :: cs) b := by
  have hsub : ∀ k ∈ cs, k ≠ j ∧ (k ∈ s.must ∨ k ∈ mb s) := by
    intro k hk
    rcases W.sub k hk with h1 | h1
    · have h1 : k ∈ s.must.erase j := h1
      exact ⟨(hV.must_nd.mem_erase_iff.mp h1).1, Or.inl (List.mem_of_mem_erase h1)⟩
    · rw [mb_succSt] at h1
      exact ⟨(hV.maybe_nd.mem_erase_iff.mp h1).1, Or.inr (List.mem_of_mem_erase h1)⟩
  have hWfeas : ∀ k ∈ cs, arr + ceN T k ≤ lN T k := W.feas
  have hWtot : arr + ((cs.map (ceN T)).sum + b) ≤ lN T 0 := W.tot
  have hWval := W.val
  have hWlen : cs.length = T.n - (s.depth + 1) - 1 := W.len
  refine ⟨List.nodup_cons.mpr ⟨fun hjc => (hsub j hjc).1 rfl, W.nd⟩, ?_, ?_, ?_, ?_, ?_, ?_, ?_⟩
  · intro k hk
    rcases List.mem_cons.mp hk with rfl | hk
    · exact hjm
    · exact (hsub k hk).2
  · intro i hi
    by_cases hij : i = j
    · rw [hij]; exact List.mem_cons_self
    · exact List.mem_cons_of_mem _ (W.must i ((List.mem_erase_of_ne hij).mpr hi))
  · rw [List.length_cons, hWlen]; omega
  · intro k hk
    rcases List.mem_cons.mp hk with rfl | hk
    · exact hfe
    · have := hWfeas k hk; omega
  · right
    rcases W.back with ⟨_, hb⟩ | ⟨k, hk, hb⟩
    · exact ⟨j, List.mem_cons_self, by rw [hb]; simp [minD, succSt, posSet, minNat]⟩
    · exact ⟨k, List.mem_cons_of_mem _ hk, hb⟩
  · simp only [List.map_cons, List.sum_cons]; omega
  · simp only [List.map_cons, List.sum_cons]; omega

theorem wit_of_vG {T : Tab} (hT : TabOk T) : ∀ (fuel : Nat) (s : St) (h : Int), Valid T s → Alt s → s.depth < T.n →
    fuel = T.n - s.depth → vG T (mdS T) termL fuel s = some h → ∃ cs b, Wit T s h cs b := by
  intro fuel
  induction fuel with
  | zero => intro s h _ _ hd hf _; omega
  | succ f ih =>
    intro s h hV hA hd hf hv
    obtain ⟨j, hj, h', hv', rfl⟩ := vG_att hd hv
    have hjn := hj.lt hV hT.n_pos
    have hr : s.el.earliest + mdS T s j ≤ lN T j := reachG_iff.mp hj.1
    have harr : s.el.earliest + mdS T s j ≤ arrG T (mdS T) s j := Nat.le_max_left _ _
    by_cases hl : s.depth + 1 = T.n
    · have hj0 : j = 0 := hj.last hT.n_pos hl
      subst hj0
      have hf0 : f = 0 := by omega
      subst hf0
      obtain ⟨hm, rfl⟩ := termL_eq_some hv'
      have h0 : 0 ∉ s.must := fun hm0 => by have := (hV.must_rng 0 hm0).1; omega
      rw [show (succSt s 0 (.fixed (arrG T (mdS T) s 0))).must = s.must.erase 0 from rfl, List.erase_of_not_mem h0] at hm
      have hmd : mdS T s 0 = minD T s 0 := by unfold mdS; rw [if_pos rfl]
      rw [hmd] at hr harr
      exact ⟨[], minD T s 0, Wit.last hl hm hr harr⟩
    · have hjm : j ∈ s.must ∨ j ∈ mb s := by
        rcases hj.2 with ⟨h1, _⟩ | ⟨_, _, h3⟩
        · omega
        · exact h3
      have hce := ce_le_mdS hT hV hA hjm
      obtain ⟨cs', b', W⟩ := ih (succSt s j (.fixed (arrG T (mdS T) s j))) h'
        (valid_succ' hV hd hjn (hj.last hT.n_pos) (arrG_small hT hjn hj.1) (arrG_small hT hjn hj.1))
        (alt_succ hV j _) (by show s.depth + 1 < T.n; omega) (by show f = T.n - (s.depth + 1); omega) hv'
      exact ⟨j :: cs', b', W.cons hV hjm (by omega) (by omega) (by omega)⟩

/-- the test of `fast_upper_bound` on an optional city as the code computes it (`violP`: in closed form) -/
def violF (T : Tab) (s : St) (i : Nat) : Option Bool := do
  let ce ← T.ce[i]?
  let (_, li) ← tw? T i
  let a ← addDur? s.el ce
  pure (decide (a.earliest > li))

/-- the part of `fast_upper_bound` about `maybe_visit` -/
def rubMid (T : Tab) (s : St) (ct mand back : Nat) : Option (Option (Nat × Nat)) :=
  match s.maybe with
  | none => pure (some (mand, back))
  | some ys => do
    let ces ← ys.mapM (T.ce[·]?)
    let backs ← ys.mapM (dist? T · 0)
    let viol ← ys.mapM (violF T s)
    let ct' := ct - 1
    if ys.length - (viol.filter id).length < ct' then pure none else do
      let extra ← usum? ((sortNat ces).take ct')
      let mand' ← uadd? mand extra
      pure (some (mand', backs.foldl min back))

/-- the end of `fast_upper_bound` -/
def rubTail (T : Tab) (s : St) (mand back : Nat) : Option (Option Int) := do
  let back ← (if mand = 0 then do let h ← minDist? T s 0; pure (min back h) else pure back : Option Nat)
  let total ← uadd? mand back
  let a ← addDur? s.el total
  let (_, l0) ← tw? T 0
  pure (if a.earliest > l0 then none else some (-(total : Int)))

theorem rub?_eq (T : Tab) (s : St) : rub? T s =
    if s.depth > T.n then none else
    (match rubMust? T s.el s.must (T.n - s.depth) 0 umax with
    | none => none
    | some none => some none
    | some (some (ct, mand, back)) => do
      let r ← rubMid T s ct mand back
      match r with
      | none => pure none
      | some (mand, back) => rubTail T s mand back) := rfl

def violP (T : Tab) (s : St) (i : Nat) : Bool := decide (s.el.earliest + ceN T i > lN T i)

theorem viol_val {T : Tab} {s : St} {i : Nat} {y : Bool} (h : violF T s i = some y) : y = violP T s i := by
  simp only [violF, Option.bind_eq_bind, Option.bind_eq_some_iff, Option.pure_def, Option.some.injEq] at h
  obtain ⟨c, h1, ⟨ei, li⟩, h4, a, h5, rfl⟩ := h
  cases ce?_val h1
  cases tw?_val h4
  unfold violP
  rw [addDur?_val h5]

theorem rubMid_spec {T : Tab} {s : St} {ct mand back : Nat} {res : Option (Nat × Nat)}
    (h : rubMid T s ct mand back = some res) :
    match res with
    | none => (mb s).length - ((mb s).filter (violP T s)).length < ct - 1
    | some (mand', back') => mand' = mand + (((sortNat ((mb s).map (ceN T))).take (ct - 1)).sum) ∧ back' ≤ back ∧
        ∀ y ∈ mb s, back' ≤ distOf T.d y 0 := by
  unfold rubMid at h
  split at h
  · next hm =>
    cases h
    simp [mb, hm, sortNat]
  · next ys hm =>
    have hmb : mb s = ys := by simp [mb, hm]
    rw [hmb]
    simp only [Option.bind_eq_bind, Option.bind_eq_some_iff] at h
    obtain ⟨ces, h1, backs, h2, viol, h3, h⟩ := h
    cases mapM_val _ (ceN T) ys ces h1 (fun x _ y hy => ce?_val hy)
    cases mapM_val _ (distOf T.d · 0) ys backs h2 (fun x _ y hy => dist?_val hy)
    cases mapM_val _ (violP T s) ys viol h3 (fun x _ y hy => viol_val hy)
    have ef : ((ys.map (violP T s)).filter id).length = (ys.filter (violP T s)).length := by
      rw [List.filter_map, List.length_map]; rfl
    rw [ef] at h
    split at h
    · next hlt =>
      cases h
      exact hlt
    · simp only [Option.bind_eq_some_iff, Option.pure_def, Option.some.injEq] at h
      obtain ⟨extra, h4, mand', h5, rfl⟩ := h
      have := usum?_val h4
      have := uadd?_val h5
      obtain ⟨k1, k2, _⟩ := EMax.foldl_natMin_spec id (ys.map (distOf T.d · 0)) back
      exact ⟨by omega, k1, fun y hy => k2 _ (List.mem_map.mpr ⟨y, hy, rfl⟩)⟩

theorem rubTail_spec {T : Tab} (hT : TabOk T) {s : St} (hV : Valid T s) {mand back : Nat} {r : Option Int}
    (h : rubTail T s mand back = some r) :
    ∃ back', back' ≤ back ∧ (mand = 0 → back' ≤ minD T s 0) ∧
      r = if s.el.earliest + (mand + back') > lN T 0 then none else some (-((mand + back' : Nat) : Int)) := by
  have h0 : 0 < T.n := hT.n_pos
  unfold rubTail at h
  rw [minDist?_eq hT hV h0, tw?_eq hT h0] at h
  have key : ∀ back', ((uadd? mand back').bind fun total => (addDur? s.el total).bind fun a =>
      some (if a.earliest > lN T 0 then none else some (-(total : Int))) : Option (Option Int)) = some r →
      r = if s.el.earliest + (mand + back') > lN T 0 then none else some (-((mand + back' : Nat) : Int)) := by
    intro back' h
    cases h1 : uadd? mand back' with
    | none => simp [h1] at h
    | some total =>
      cases h2 : addDur? s.el total with
      | none => simp [h1, h2] at h
      | some a =>
        simp only [h1, h2, Option.bind_some, Option.some.injEq] at h
        have := uadd?_val h1
        have := addDur?_val h2
        subst h
        subst total
        rw [this]
  by_cases hm : mand = 0
  · subst hm
    simp only [if_true, Option.bind_eq_bind, Option.bind_some, Option.pure_def] at h
    exact ⟨min back (minD T s 0), Nat.min_le_left _ _, fun _ => Nat.min_le_right _ _, key _ h⟩
  · simp only [hm, if_false, Option.bind_eq_bind, Option.bind_some, Option.pure_def] at h
    exact ⟨back, Nat.le_refl _, fun e => absurd e hm, key _ h⟩

theorem Wit.perm {T : Tab} {s : St} (hV : Valid T s) {h : Int} {cs : List Nat} {b : Nat} (W : Wit T s h cs b) :
    cs.Perm (s.must ++ (mb s).filter (fun x => decide (x ∈ cs))) := by
  have hnd2 : (s.must ++ (mb s).filter (fun x => decide (x ∈ cs))).Nodup := by
    refine List.nodup_append.mpr ⟨hV.must_nd, List.Nodup.sublist List.filter_sublist hV.maybe_nd, ?_⟩
    intro a ha c hc hac
    subst hac
    exact hV.disj a ha (List.mem_filter.mp hc).1
  refine (List.perm_ext_iff_of_nodup W.nd hnd2).mpr (fun a => ?_)
  simp only [List.mem_append, List.mem_filter, decide_eq_true_eq]
  constructor
  · intro ha
    rcases W.sub a ha with h1 | h1
    · exact Or.inl h1
    · exact Or.inr ⟨h1, ha⟩
  · rintro (h1 | h1)
    · exact W.must a h1
    · exact h1.2

theorem Wit.enough {T : Tab} {s : St} {h : Int} {cs : List Nat} {b : Nat} (W : Wit T s h cs b) :
    ((mb s).filter (fun x => decide (x ∈ cs))).length ≤ (mb s).length - ((mb s).filter (violP T s)).length := by
  have e1 := List.length_eq_countP_add_countP (violP T s) (l := mb s)
  have e2 : List.countP (fun x => decide (x ∈ cs)) (mb s) ≤ List.countP (fun a => decide ¬violP T s a = true) (mb s) := by
    apply List.countP_mono_left
    intro x _ hxc
    have := W.feas x (by simpa using hxc)
    simp only [violP, decide_eq_true_eq]
    omega
  rw [List.countP_eq_length_filter, List.countP_eq_length_filter] at e1
  rw [List.countP_eq_length_filter, List.countP_eq_length_filter] at e2
  omega

theorem rubTail_of_wit {T : Tab} (hT : TabOk T) {s : St} (hV : Valid T s) {h : Int} {cs : List Nat} {b : Nat}
    (W : Wit T s h cs b) {mand back : Nat} (hmand : mand ≤ (cs.map (ceN T)).sum)
    (hback : ∀ j ∈ cs, back ≤ distOf T.d j 0) {r : Option Int} (hr : rubTail T s mand back = some r) :
    (some h : EInt) ≤ r := by
  obtain ⟨back', d1, d2, d3⟩ := rubTail_spec hT hV hr
  have hWtot := W.tot
  have hWval := W.val
  have hb : back' ≤ b := by
    rcases W.back with ⟨hc, hb⟩ | ⟨j, hj, hb⟩
    · rw [hc] at hmand
      have := d2 (by simpa using hmand)
      omega
    · have := hback j hj; omega
  rw [d3, if_neg (by omega)]
  show h ≤ -((mand + back' : Nat) : Int)
  omega

theorem rub_of_wit {T : Tab} (hT : TabOk T) {s : St} (hV : Valid T s) {h : Int} {cs : List Nat} {b : Nat}
    (W : Wit T s h cs b) {r : Option Int} (hr : rub? T s = some r) : (some h : EInt) ≤ r := by
  have hperm := W.perm hV
  have hWlen := W.len
  generalize hopt : (mb s).filter (fun x => decide (x ∈ cs)) = opt at hperm
  have hlen : cs.length = s.must.length + opt.length := by rw [hperm.length_eq, List.length_append]
  have hsum : (cs.map (ceN T)).sum = (s.must.map (ceN T)).sum + (opt.map (ceN T)).sum := by
    rw [(hperm.map (ceN T)).sum_nat, List.map_append, List.sum_append]
  have hsort : ((sortNat ((mb s).map (ceN T))).take opt.length).sum ≤ (opt.map (ceN T)).sum := by
    have := sum_take_sortNat_le (show (opt.map (ceN T)).Sublist ((mb s).map (ceN T)) by
      rw [← hopt]; exact List.Sublist.map _ List.filter_sublist)
    rwa [List.length_map] at this
  rw [rub?_eq, if_neg (by have := hV.depth_le; omega)] at hr
  cases hm : rubMust? T s.el s.must (T.n - s.depth) 0 umax with
  | none => simp [hm] at hr
  | some res =>
    have hspec := rubMust_spec T s.el _ _ _ _ _ hm
    simp only [hm] at hr
    cases res with
    | none =>
      exfalso
      rcases hspec with h1 | ⟨i, hi, h1⟩
      · omega
      · have := W.feas i (W.must i hi); omega
    | some q =>
      obtain ⟨ct, mand, back⟩ := q
      obtain ⟨a1, a2, a3, a4⟩ := hspec
      have hct : ct - 1 = opt.length := by omega
      cases hmid : rubMid T s ct mand back with
      | none => simp [hmid] at hr
      | some res2 =>
        have hspec2 := rubMid_spec hmid
        simp only [hmid, Option.bind_eq_bind, Option.bind_some] at hr
        rw [hct] at hspec2
        cases res2 with
        | none =>
          have henough := W.enough
          rw [hopt] at henough
          exact absurd hspec2 (by omega)
        | some q2 =>
          obtain ⟨mand', back'⟩ := q2
          obtain ⟨c1, c2, c3⟩ := hspec2
          refine rubTail_of_wit hT hV W ?_ ?_ hr
          · rw [c1, a2, hsum, Nat.zero_add]; exact Nat.add_le_add_left hsort _
          · intro j hj
            rcases W.sub j hj with h1 | h1
            · exact Nat.le_trans c2 (a4 j h1)
            · exact c3 j h1

theorem wit_terminal {T : Tab} (hT : TabOk T) (hD : inDomain T = true) {s : St} (hV : Valid T s) (hd : s.depth = T.n)
    (hL : s.el.earliest ≤ lN T 0) {h : Int} (hh : termL s = some h) : Wit T s h [] (minD T s 0) := by
  obtain ⟨hm, h0⟩ := termL_eq_some hh
  have hz : minD T s 0 = 0 := by
    obtain ⟨⟨p, hp, e⟩, _⟩ := minD_spec (T := T) hV.pos_ne 0
    rw [e, hV.last_pos hd p hp]
    simp only [inDomain, Bool.and_eq_true, List.all_eq_true, decide_eq_true_eq, beq_iff_eq] at hD
    exact hD.1.1.2 0 (List.mem_range.mpr hT.n_pos)
  refine ⟨List.nodup_nil, (fun j hj => by cases hj), ?_, ?_, (fun j hj => by cases hj), Or.inl ⟨rfl, rfl⟩, ?_, ?_⟩
  · intro i hi; rw [hm] at hi; cases hi
  · simp; omega
  · simp only [List.map_nil, List.sum_nil]; omega
  · simp only [List.map_nil, List.sum_nil]; omega

/-- **`RubOk` for the potential `hStar`**.  `hL`: a state of the LAST layer is not later than the depot's deadline — what holds
    of every state the solver builds (the depot is entered only when `can_move_to`); without it the statement is false
    (`rub_hStar_late_false`) -/
theorem rub_hStar {T : Tab} (hT : TabOk T) (hD : inDomain T = true) {s : St} (hV : Valid T s) (hA : Alt s)
    (hL : s.depth = T.n → s.el.earliest ≤ lN T 0)
    {r : Option Int} (hr : rub? T s = some r) : hStar T s ≤ r := by
  cases hh : hStar T s with
  | none => exact EInt.none_le _
  | some h =>
    by_cases hd : s.depth < T.n
    · obtain ⟨cs, b, W⟩ := wit_of_vG hT _ s h hV hA hd rfl hh
      exact rub_of_wit hT hV W hr
    · have hdn : s.depth = T.n := by have := hV.depth_le; omega
      unfold hStar at hh
      have : T.n - s.depth = 0 := by omega
      rw [this] at hh
      exact rub_of_wit hT hV (wit_terminal hT hD hV hdn (hL hdn) hh) hr

/-- below the last layer no side condition is needed (nor the triangle inequality, the zero diagonal, closed windows) -/
theorem rub_hStar_lt {T : Tab} (hT : TabOk T) {s : St} (hV : Valid T s) (hA : Alt s) (hd : s.depth < T.n)
    {r : Option Int} (hr : rub? T s = some r) : hStar T s ≤ r := by
  cases hh : hStar T s with
  | none => exact EInt.none_le _
  | some h =>
    obtain ⟨cs, b, W⟩ := wit_of_vG hT _ s h hV hA hd rfl hh
    exact rub_of_wit hT hV W hr

/-- one node, the depot, due at time 0 -/
def lateT : Tab := { n := 1, d := [[0]], tw := [(0, 0)], ce := cheapestOf 1 [[0]] }
/-- the state of the last layer (back at the depot, nothing left to visit) at time 1: after the depot's deadline -/
def lateS : St := { pos := .node 0, el := .fixed 1, must := [], maybe := none, depth := 1 }

theorem late_tabOk : TabOk lateT := tabOk_of_tabOkB (by decide)
theorem late_inDomain : inDomain lateT = true := by decide
theorem late_validB : validB lateT lateS = true := by decide
theorem late_rubScope : rubScope lateS = true := rfl
theorem late_valid : Valid lateT lateS :=
  valid_of_validB late_validB List.nodup_nil List.nodup_nil (fun _ h => by cases h)
theorem late_alt : Alt lateS := by
  intro j hj
  rcases hj with hj | hj <;> cases hj
theorem late_rub : rub? lateT lateS = some none := by decide
theorem late_hStar : hStar lateT lateS = some 0 := by decide
theorem late_bestRemL : bestRemL lateT lateS = some 0 := by decide

/-- **the statement without `hL` is false**: a state of the last layer that is late at the depot is worth `0` for `hStar` (and for
    `bestRemL`: nothing remains to be done) while `fast_upper_bound` answers "infeasible" (`isize::MIN`) -/
theorem rub_hStar_late_false :
    ¬ (∀ {T : Tab}, TabOk T → inDomain T = true → ∀ {s : St}, Valid T s → Alt s →
        ∀ {r : Option Int}, rub? T s = some r → hStar T s ≤ r) := by
  intro h
  have := h late_tabOk late_inDomain late_valid late_alt late_rub
  rw [late_hStar] at this
  exact this

/-- `lateS` also refutes `rub_admissible` (`TsptwModel.lean`) at `lateT`: `validB` does not ask a state
    of the last layer to be in time at the depot -/
theorem rub_admissible_late_false : ¬ rub_admissible lateT := by
  intro h
  have := h late_inDomain lateS late_validB late_rubScope _ late_rub
  rw [late_bestRemL] at this
  exact this

end Ddo.Examples.TsptwModel

open Ddo.Examples.TsptwModel in
#print axioms rub_hStar_lt
open Ddo.Examples.TsptwModel in
#print axioms rub_hStar_late_false
open Ddo.Examples.TsptwModel in
#print axioms rub_admissible_late_false
open Ddo.Examples.TsptwModel in
#print axioms rub_hStar
