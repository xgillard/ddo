import DdoModel.Proofs.MddOps
import DdoModel.Examples.Max2satProofsTab
/-! max2sat example: the DP model is exact (`dpExact : DpExactStmt I`; `dpExact_prefix`: along EVERY path of the model).

Model half: the value-to-go `bestRem` of a state is the MAXIMUM, over the truth assignments `x` of the free variables, of
`gain s x L` = what is still owed on the free variables (`owed`: the positive part of the benefit of the value taken) + the
weight, READ IN THE TABLE, of the unit and binary clauses on the free variables that `x` satisfies (`totW`; tautologies are in
`initial`).  Key fact: `gain_step`, one transition is an IDENTITY (`gain s x (L ++ [k]) = cost s ⟨k, x k⟩ + gain (trans s ⟨k, x k⟩)
x L`): the `min` of the transition cost is the part of the owed benefit that no longer depends on the value of the free variable.

Specification half: `satisfiedWeight_eq`, the weight the independent specification (`Max2sat.satisfiedWeight`, on the clauses
that count: `Inst.effClauses`) gives to an assignment is `initial` (the tautologies) + the weight `totW` the DP model reads in its
`(2n)²` table for the same assignment, whatever the variable order.

Along a path (`path_gain`): an assignment that agrees with the decisions keeps `value + gain`, by the identity `gain_step`;
`dpExact_prefix` is the statement the driver evaluates on every walk prefix, `dpExact` its case of the empty path. -/
namespace Ddo.Examples.Max2satModel

section
open Ddo Ddo.Examples Ddo.Examples.Util Ddo.SpecUtil

variable (T : Tab)

/-- weight, read in the table, of the unit clause on variable `i` that the assignment `x` satisfies -/
def unitW (x : Nat → Bool) (i : Nat) : Int := if x i then T.wt (tLit i) (tLit i) else T.wt (fLit i) (fLit i)

/-- weight, read in the table, of the (at most four) binary clauses on the variables `i`, `j` that `x` satisfies -/
def pairW (x : Nat → Bool) (i j : Nat) : Int :=
  (if x i || x j then T.wt (tLit i) (tLit j) else 0) + (if x i || !x j then T.wt (tLit i) (fLit j) else 0)
    + (if !x i || x j then T.wt (fLit i) (tLit j) else 0) + (if !x i || !x j then T.wt (fLit i) (fLit j) else 0)

/-- unit and binary clauses on the variables of `L` (each pair once: earlier, later) satisfied by `x`; no tautology -/
def totW (x : Nat → Bool) : List Nat → Int
  | [] => 0
  | i :: rest => unitW T x i + (rest.map (pairW T x i)).sum + totW x rest

/-- what is still owed on a free variable of benefit `a` when it takes the value `b` -/
def owed (a : Int) (b : Bool) : Int := if b then pos a else pos (-a)
def owedSum (s : St) (x : Nat → Bool) (L : List Nat) : Int := (L.map fun l => owed (get s l) (x l)).sum

/-- the gain of the completion `x` from the state `s` whose free variables are `L` -/
def gain (s : St) (x : Nat → Bool) (L : List Nat) : Int := owedSum s x L + totW T x L

/-- the decision value of a truth value (`transition` treats any value other than `-1` as true) -/
def valOf (b : Bool) : Int := if b then 1 else -1

theorem totW_snoc (x : Nat → Bool) (L : List Nat) (k : Nat) :
    totW T x (L ++ [k]) = totW T x L + (L.map (fun l => pairW T x l k)).sum + unitW T x k := by
  induction L with
  | nil => simp [totW]
  | cons v L ih =>
    simp only [List.cons_append, totW, ih, List.map_append, List.sum_append, List.map_cons, List.map_nil,
      List.sum_cons, List.sum_nil]
    omega

theorem totW_congr (x x' : Nat → Bool) (L : List Nat) (hx : ∀ l ∈ L, x l = x' l) : totW T x L = totW T x' L := by
  induction L with
  | nil => rfl
  | cons i rest ih =>
    have hi : x i = x' i := hx i (List.mem_cons_self ..)
    have hr : ∀ l ∈ rest, x l = x' l := fun l hl => hx l (List.mem_cons_of_mem _ hl)
    have hp : rest.map (pairW T x i) = rest.map (pairW T x' i) :=
      List.map_congr_left (fun j hj => by simp only [pairW, hi, hr j hj])
    simp only [totW, ih hr, hp, unitW, hi]

theorem owedSum_congr (s : St) (x x' : Nat → Bool) (L : List Nat) (hx : ∀ l ∈ L, x l = x' l) :
    owedSum s x L = owedSum s x' L := by
  unfold owedSum
  congr 1
  exact List.map_congr_left (fun l hl => by rw [hx l hl])

theorem gain_congr (s : St) (x x' : Nat → Bool) (L : List Nat) (hx : ∀ l ∈ L, x l = x' l) :
    gain T s x L = gain T s x' L := by
  unfold gain
  rw [owedSum_congr s x x' L hx, totW_congr T x x' L hx]

theorem valOf_true : valOf true = 1 := rfl
theorem valOf_false : valOf false = -1 := rfl

theorem step_eq (s : St) (x : Nat → Bool) (k l : Nat) :
    owed (get s l) (x l) + pairW T x l k
      = costTerm T s k (valOf (x k)) l + owed (get s l + delta T k (valOf (x k)) l) (x l) := by
  have := settled_true (get s l) (T.wt (tLit k) (tLit l)) (T.wt (tLit k) (fLit l))
  have := settled_false (get s l) (T.wt (tLit k) (tLit l)) (T.wt (tLit k) (fLit l))
  have := settled_true (get s l) (T.wt (fLit k) (tLit l)) (T.wt (fLit k) (fLit l))
  have := settled_false (get s l) (T.wt (fLit k) (tLit l)) (T.wt (fLit k) (fLit l))
  simp only [pairW, wt_comm T _ (tLit k), wt_comm T _ (fLit k), costTerm, delta, owed]
  cases x k <;> cases x l <;> simp [valOf] <;> omega

theorem head_eq (s : St) (x : Nat → Bool) (k : Nat) :
    owed (get s k) (x k) + unitW T x k = costHead T s k (valOf (x k)) := by
  cases h : x k <;> simp [owed, unitW, costHead, valOf, h]

theorem gain_step {s : St} {k : Nat} {L : List Nat} (hf : FreeAfter T s k L) (x : Nat → Bool) :
    gain T s x (L ++ [k]) = cost T s ⟨k, valOf (x k)⟩ + gain T (trans T s ⟨k, valOf (x k)⟩) x L := by
  have howed : owedSum (trans T s ⟨k, valOf (x k)⟩) x L
      = (L.map (fun l => owed (get s l + delta T k (valOf (x k)) l) (x l))).sum :=
    congrArg List.sum (List.map_congr_left (fun l hl => by rw [get_trans_free T hf _ hl]))
  have hsum : (L.map (fun l => owed (get s l) (x l) + pairW T x l k)).sum
      = (L.map (fun l => costTerm T s k (valOf (x k)) l
          + owed (get s l + delta T k (valOf (x k)) l) (x l))).sum :=
    congrArg List.sum (List.map_congr_left (fun l _ => step_eq T s x k l))
  rw [sum_map_add, sum_map_add] at hsum
  have hhead := head_eq T s x k
  unfold gain
  rw [totW_snoc, howed, cost_eq_free T hf]
  simp only [owedSum, List.map_append, List.sum_append, List.map_cons, List.map_nil, List.sum_cons,
    List.sum_nil] at *
  omega

/-- **the value-to-go is the best gain of a completion** -/
theorem bestRem_isMax (h : TabOk T) (m : Nat) (s : St) (hs : s.2.length = T.n) (hd : s.1 + m = T.n) :
    IsMaxOf (fun _ : Nat → Bool => True) (fun x => gain T s x (T.order.take m)) (bestRem T m s) := by
  induction m generalizing s with
  | zero =>
    refine ⟨⟨fun _ => true, trivial, ?_⟩, fun x _ => ?_⟩ <;> simp [bestRem, gain, owedSum, totW]
  | succ m ih =>
    obtain ⟨k, hnv, htake, hf⟩ := next_free T h hs hd
    have hkL : k ∉ T.order.take m := fun hk =>
      (List.nodup_append.mp hf.nodup).2.2 _ hk _ (List.mem_singleton_self k) rfl
    have hih : ∀ v : Int, IsMaxOf (fun _ : Nat → Bool => True)
        (fun x => gain T (trans T s ⟨k, v⟩) x (T.order.take m)) (bestRem T m (trans T s ⟨k, v⟩)) := fun v =>
      ih (trans T s ⟨k, v⟩) (by rw [trans_length, hs]) (by rw [trans_depth]; omega)
    -- the best completion that gives the value `b` to the next variable
    have hatt : ∀ b : Bool, ∃ x : Nat → Bool, gain T s x (T.order.take m ++ [k])
        = cost T s ⟨k, valOf b⟩ + bestRem T m (trans T s ⟨k, valOf b⟩) := fun b => by
      obtain ⟨⟨x', _, hx'⟩, _⟩ := hih (valOf b)
      refine ⟨fun i => if i = k then b else x' i, ?_⟩
      rw [gain_step T hf]
      simp only [if_true]
      rw [← hx']
      congr 1
      apply gain_congr
      intro l hl
      have : l ≠ k := fun e => hkL (e ▸ hl)
      simp [this]
    rw [htake]
    simp only [bestRem, hnv]
    refine ⟨?_, fun x _ => ?_⟩
    · obtain ⟨x1, h1⟩ := hatt true
      obtain ⟨x2, h2⟩ := hatt false
      rw [valOf_true] at h1; rw [valOf_false] at h2
      by_cases hc : cost T s ⟨k, -1⟩ + bestRem T m (trans T s ⟨k, -1⟩)
          ≤ cost T s ⟨k, 1⟩ + bestRem T m (trans T s ⟨k, 1⟩)
      · exact ⟨x1, trivial, by dsimp only; omega⟩
      · exact ⟨x2, trivial, by dsimp only; omega⟩
    · dsimp only
      rw [gain_step T hf x]
      have hub := (hih (valOf (x k))).2 x trivial
      dsimp only at hub
      cases hxk : x k
      · rw [hxk, valOf_false] at hub; rw [valOf_false]; omega
      · rw [hxk, valOf_true] at hub; rw [valOf_true]; omega

theorem owedSum_init (n : Nat) (x : Nat → Bool) (L : List Nat) : owedSum (0, List.replicate n 0) x L = 0 := by
  unfold owedSum
  induction L with
  | nil => rfl
  | cons l L ih =>
    have hg : get (0, List.replicate n 0) l = 0 := by
      simp only [get, List.getElem?_replicate]
      split <;> rfl
    have ho : owed 0 (x l) = 0 := by cases x l <;> simp [owed, pos]
    simp only [List.map_cons, List.sum_cons, ih, hg, ho]
    rfl

theorem gain_root (h : TabOk T) (x : Nat → Bool) :
    gain T (0, List.replicate T.n 0) x (T.order.take T.n) = totW T x T.order := by
  rw [gain, owedSum_init, ← (order_facts h).1, List.take_length]; omega

theorem bestRem_root (h : TabOk T) :
    IsMaxOf (fun _ : Nat → Bool => True) (fun x => totW T x T.order) (bestRem T T.n (0, List.replicate T.n 0)) := by
  have hmax := bestRem_isMax T h T.n (0, List.replicate T.n 0) (by simp) (by simp)
  simp only [gain_root T h] at hmax
  exact hmax

theorem bestRem_ge (h : TabOk T) (m : Nat) (s : St) (hs : s.2.length = T.n) (hd : s.1 + m = T.n) (x : Nat → Bool) :
    gain T s x (T.order.take m) ≤ bestRem T m s :=
  (bestRem_isMax T h m s hs hd).2 x trivial

theorem bestRem_attained (h : TabOk T) (m : Nat) (s : St) (hs : s.2.length = T.n) (hd : s.1 + m = T.n) :
    ∃ x : Nat → Bool, gain T s x (T.order.take m) = bestRem T m s := by
  obtain ⟨⟨x, _, hx⟩, _⟩ := bestRem_isMax T h m s hs hd
  exact ⟨x, hx⟩

section Axioms
#print axioms bestRem_isMax
#print axioms bestRem_root
#print axioms bestRem_ge
#print axioms bestRem_attained
end Axioms
end

section
open Ddo Ddo.Examples Ddo.Examples.Util Ddo.SpecUtil

/-- the assignment of the variables (0-based) given by the list of the true variables (1-based, as in the specification) -/
def assignOf (trues : List Int) : Nat → Bool := fun i => trues.contains ((i : Int) + 1)

theorem exists_trues (n : Nat) (x : Nat → Bool) :
    ∃ trues : List Int, trues.Sublist (oneTo n) ∧ ∀ l, l < n → assignOf trues l = x l := by
  let S : Int → Bool := fun v => decide (1 ≤ v ∧ v ≤ (n : Int)) && x (v.toNat - 1)
  have hS : ∀ v, S v = true → 1 ≤ v ∧ v ≤ (n : Int) := by
    intro v hv
    simp only [S, Bool.and_eq_true, decide_eq_true_eq] at hv
    exact hv.1
  refine ⟨(oneTo n).filter S, List.filter_sublist, fun l hl => ?_⟩
  unfold assignOf
  rw [contains_filter_oneTo hS]
  have e1 : (1 ≤ (l : Int) + 1 ∧ (l : Int) + 1 ≤ (n : Int)) := by omega
  have e2 : ((l : Int) + 1).toNat - 1 = l := by omega
  simp only [S, e1, e2, and_self, decide_true, Bool.true_and]

def litT (x : Nat → Bool) (a : Int) : Bool := if a > 0 then x (idx a) else !x (idx a)

/-- weight `c a b` of the clause `{a, b}` if the assignment satisfies it -/
def hW (c : Int → Int → Int) (x : Nat → Bool) (a b : Int) : Int := if litT x a || litT x b then c a b else 0

def lits (L : List Nat) : List Int := L.flatMap (fun i => [tLit i, fLit i])

/-- sum over all ORDERED pairs of members of `M` -/
def dbl (h : Int → Int → Int) (M : List Int) : Int := (M.map (fun a => (M.map (fun b => h a b)).sum)).sum
def diag (h : Int → Int → Int) (M : List Int) : Int := (M.map (fun a => h a a)).sum

@[simp] theorem litT_tLit (x : Nat → Bool) (i : Nat) : litT x (tLit i) = x i := by
  have h1 : tLit i > 0 := by unfold tLit; omega
  have h2 : idx (tLit i) = i := by unfold idx tLit; omega
  simp [litT, h1, h2]

@[simp] theorem litT_fLit (x : Nat → Bool) (i : Nat) : litT x (fLit i) = !x i := by
  have h1 : ¬ fLit i > 0 := by unfold fLit; omega
  have h2 : idx (fLit i) = i := by unfold idx fLit; omega
  simp [litT, h1, h2]

theorem litTrue_eq (trues : List Int) (a : Int) (ha : a ≠ 0) :
    Max2sat.litTrue trues a = litT (assignOf trues) a := by
  unfold Max2sat.litTrue litT assignOf
  by_cases h : a > 0
  · have e : ((idx a : Nat) : Int) + 1 = a := by unfold idx; omega
    simp only [h, if_true, e]
  · have e : ((idx a : Nat) : Int) + 1 = -a := by unfold idx; omega
    simp only [h, if_false, e]

theorem hW_comm {c : Int → Int → Int} (hc : ∀ a b, c a b = c b a) (x : Nat → Bool) (a b : Int) :
    hW c x a b = hW c x b a := by
  unfold hW; rw [Bool.or_comm, hc a b]

theorem dbl_cons {h : Int → Int → Int} (hs : ∀ a b, h a b = h b a) (p : Int) (M : List Int) :
    dbl h (p :: M) = h p p + 2 * (M.map (h p)).sum + dbl h M := by
  unfold dbl
  simp only [List.map_cons, List.sum_cons]
  rw [sum_map_add (fun a => h a p) (fun a => (M.map (fun b => h a b)).sum)]
  have : M.map (fun a => h a p) = M.map (fun b => h p b) := List.map_congr_left (fun a _ => hs a p)
  rw [this]
  have e : M.map (h p) = M.map (fun b => h p b) := rfl
  rw [e]
  omega

theorem sum_lits (g : Int → Int) (L : List Nat) :
    ((lits L).map g).sum = (L.map (fun j => g (tLit j) + g (fLit j))).sum := by
  induction L with
  | nil => rfl
  | cons j L ih =>
    have : lits (j :: L) = tLit j :: fLit j :: lits L := rfl
    rw [this]
    simp only [List.map_cons, List.sum_cons, ih]
    omega

theorem pairW_eq (T : Tab) (x : Nat → Bool) (i j : Nat) :
    pairW T x i j = (hW T.wt x (tLit i) (tLit j) + hW T.wt x (tLit i) (fLit j))
      + (hW T.wt x (fLit i) (tLit j) + hW T.wt x (fLit i) (fLit j)) := by
  simp only [pairW, hW, litT_tLit, litT_fLit]
  omega

theorem unitW_eq (T : Tab) (x : Nat → Bool) (i : Nat) :
    unitW T x i = hW T.wt x (tLit i) (tLit i) + hW T.wt x (fLit i) (fLit i) := by
  simp only [unitW, hW, litT_tLit, litT_fLit, Bool.or_self]
  cases x i <;> simp

theorem taut_eq (T : Tab) (x : Nat → Bool) (i : Nat) : tautOf T i = hW T.wt x (tLit i) (fLit i) := by
  simp only [tautOf, hW, litT_tLit, litT_fLit]
  cases x i <;> simp

/-- each unordered pair of distinct literals is counted twice in `dbl`, each diagonal term once in `dbl`, once in `diag` -/
theorem double_totW (T : Tab) (x : Nat → Bool) (L : List Nat) :
    2 * (tautSum T L + totW T x L) = dbl (hW T.wt x) (lits L) + diag (hW T.wt x) (lits L) := by
  have hs : ∀ a b, hW T.wt x a b = hW T.wt x b a := hW_comm (wt_comm T) x
  induction L with
  | nil => rfl
  | cons i L ih =>
    have e : lits (i :: L) = tLit i :: fLit i :: lits L := rfl
    rw [e, dbl_cons hs, dbl_cons hs]
    simp only [diag, List.map_cons, List.sum_cons] at ih ⊢
    rw [sum_lits, sum_lits]
    simp only [tautSum, List.map_cons, List.sum_cons, totW] at ih ⊢
    have hp : (L.map (pairW T x i)).sum
        = (L.map (fun j => hW T.wt x (tLit i) (tLit j) + hW T.wt x (tLit i) (fLit j))).sum
          + (L.map (fun j => hW T.wt x (fLit i) (tLit j) + hW T.wt x (fLit i) (fLit j))).sum := by
      rw [← sum_map_add]
      exact congrArg List.sum (List.map_congr_left (fun j _ => pairW_eq T x i j))
    rw [hp, unitW_eq, taut_eq T x i]
    omega

/-- the weight a clause map gives to the clause `{a, b}` -/
def cOf (m : CMap) (a b : Int) : Int := lookupC m (min a b, max a b)

theorem sum_single {M : List Int} (hM : M.Nodup) {a0 : Int} (ha : a0 ∈ M) (f : Int → Int) :
    (M.map (fun a => if a = a0 then f a else 0)).sum = f a0 := by
  induction M with
  | nil => cases ha
  | cons p M ih =>
    obtain ⟨hp, hM'⟩ := List.nodup_cons.mp hM
    simp only [List.map_cons, List.sum_cons]
    by_cases e : p = a0
    · subst e
      have : M.map (fun a => if a = p then f a else 0) = M.map (fun _ => (0 : Int)) :=
        List.map_congr_left (fun a ha' => by
          have : a ≠ p := fun e => hp (e ▸ ha')
          simp [this])
      rw [this, sum_map_zero]; simp
    · have ha' : a0 ∈ M := by
        rcases List.mem_cons.mp ha with h | h
        · exact absurd h.symm e
        · exact h
      rw [ih hM' ha']; simp [e]

theorem sum_none {M : List Int} {a0 : Int} (ha : a0 ∉ M) (f : Int → Int) :
    (M.map (fun a => if a = a0 then f a else 0)).sum = 0 := by
  have : M.map (fun a => if a = a0 then f a else 0) = M.map (fun _ => (0 : Int)) :=
    List.map_congr_left (fun a ha' => by
      have : a ≠ a0 := fun e => ha (e ▸ ha')
      simp [this])
  rw [this, sum_map_zero]

theorem dbl_single {M : List Int} (hM : M.Nodup) {a0 b0 : Int} (ha : a0 ∈ M) (hb : b0 ∈ M) (g : Int → Int → Int) :
    dbl (fun a b => if a = a0 ∧ b = b0 then g a b else 0) M = g a0 b0 := by
  unfold dbl
  have : M.map (fun a => (M.map (fun b => if a = a0 ∧ b = b0 then g a b else 0)).sum)
      = M.map (fun a => if a = a0 then (M.map (fun b => if b = b0 then g a b else 0)).sum else 0) :=
    List.map_congr_left (fun a _ => by
      by_cases e : a = a0
      · simp [e]
      · simp [e, sum_map_zero])
  rw [this, sum_single hM ha, sum_single hM hb]

theorem dbl_add (h1 h2 : Int → Int → Int) (M : List Int) :
    dbl (fun a b => h1 a b + h2 a b) M = dbl h1 M + dbl h2 M := by
  unfold dbl
  rw [← sum_map_add]
  exact congrArg List.sum (List.map_congr_left (fun a _ => sum_map_add _ _ _))

theorem diag_add (h1 h2 : Int → Int → Int) (M : List Int) :
    diag (fun a b => h1 a b + h2 a b) M = diag h1 M + diag h2 M := by
  unfold diag
  rw [← sum_map_add]

theorem dbl_congr {h1 h2 : Int → Int → Int} {M : List Int} (h : ∀ a ∈ M, ∀ b ∈ M, h1 a b = h2 a b) :
    dbl h1 M = dbl h2 M := by
  unfold dbl
  exact congrArg List.sum (List.map_congr_left (fun a ha =>
    congrArg List.sum (List.map_congr_left (fun b hb => h a ha b hb))))

theorem diag_congr {h1 h2 : Int → Int → Int} {M : List Int} (h : ∀ a ∈ M, h1 a a = h2 a a) :
    diag h1 M = diag h2 M := by
  unfold diag
  exact congrArg List.sum (List.map_congr_left (fun a ha => h a ha))

theorem dbl_key {M : List Int} (hM : M.Nodup) {a0 b0 : Int} (hab : a0 ≤ b0) (ha : a0 ∈ M) (hb : b0 ∈ M)
    (g : Int → Int → Int) (hg : ∀ a b, g a b = g b a) :
    dbl (fun a b => if (a0, b0) = (min a b, max a b) then g a b else 0) M
      + diag (fun a b => if (a0, b0) = (min a b, max a b) then g a b else 0) M = 2 * g a0 b0 := by
  by_cases e : a0 = b0
  · subst e
    have e1 : dbl (fun a b => if (a0, a0) = (min a b, max a b) then g a b else 0) M
        = dbl (fun a b => if a = a0 ∧ b = a0 then g a b else 0) M :=
      dbl_congr (fun a _ b _ => by
        have : ((a0, a0) = (min a b, max a b)) ↔ (a = a0 ∧ b = a0) := by
          simp only [Prod.mk.injEq]; omega
        simp only [this])
    have e2 : diag (fun a b => if (a0, a0) = (min a b, max a b) then g a b else 0) M
        = (M.map (fun a => if a = a0 then g a a else 0)).sum := by
      unfold diag
      exact congrArg List.sum (List.map_congr_left (fun a _ => by
        have : ((a0, a0) = (min a a, max a a)) ↔ a = a0 := by
          simp only [Prod.mk.injEq]; omega
        simp only [this]))
    rw [e1, e2, dbl_single hM ha ha, sum_single hM ha (fun a => g a a)]
    omega
  · have e1 : dbl (fun a b => if (a0, b0) = (min a b, max a b) then g a b else 0) M
        = dbl (fun a b => (if a = a0 ∧ b = b0 then g a b else 0) + (if a = b0 ∧ b = a0 then g a b else 0)) M :=
      dbl_congr (fun a _ b _ => by
        by_cases h1 : a = a0 ∧ b = b0
        · have h2 : ¬ (a = b0 ∧ b = a0) := by omega
          have h3 : (a0, b0) = (min a b, max a b) := by simp only [Prod.mk.injEq]; omega
          rw [if_pos h3, if_pos h1, if_neg h2]; omega
        · by_cases h2 : a = b0 ∧ b = a0
          · have h3 : (a0, b0) = (min a b, max a b) := by simp only [Prod.mk.injEq]; omega
            rw [if_pos h3, if_neg h1, if_pos h2]; omega
          · have h3 : ¬ (a0, b0) = (min a b, max a b) := by simp only [Prod.mk.injEq]; omega
            rw [if_neg h3, if_neg h1, if_neg h2]; omega)
    have e2 : diag (fun a b => if (a0, b0) = (min a b, max a b) then g a b else 0) M = 0 := by
      unfold diag
      have : M.map (fun a => if (a0, b0) = (min a a, max a a) then g a a else 0) = M.map (fun _ => (0 : Int)) :=
        List.map_congr_left (fun a _ => by
          have h3 : ¬ (a0, b0) = (min a a, max a a) := by simp only [Prod.mk.injEq]; omega
          rw [if_neg h3])
      rw [this, sum_map_zero]
    rw [e1, e2, dbl_add, dbl_single hM ha hb, dbl_single hM hb ha, hg b0 a0]
    omega

theorem dbl_zero (M : List Int) : dbl (fun _ _ => 0) M = 0 := by
  unfold dbl
  have : M.map (fun _ => (M.map (fun _ => (0 : Int))).sum) = M.map (fun _ => (0 : Int)) :=
    List.map_congr_left (fun _ _ => sum_map_zero M)
  rw [this, sum_map_zero]

theorem dbl_lookup (x : Nat → Bool) {M : List Int} (hM : M.Nodup) (m : CMap) (hnd : (m.map (·.1)).Nodup)
    (hk : ∀ e ∈ m, e.1.1 ≤ e.1.2 ∧ e.1.1 ∈ M ∧ e.1.2 ∈ M) :
    dbl (hW (cOf m) x) M + diag (hW (cOf m) x) M
      = 2 * (m.map (fun e => if litT x e.1.1 || litT x e.1.2 then e.2 else 0)).sum := by
  induction m with
  | nil =>
    have e1 : dbl (hW (cOf []) x) M = dbl (fun _ _ => 0) M :=
      dbl_congr (fun a _ b _ => by simp [hW, cOf, lookupC_nil])
    have e2 : diag (hW (cOf []) x) M = 0 := by
      unfold diag
      have : M.map (fun a => hW (cOf []) x a a) = M.map (fun _ => (0 : Int)) :=
        List.map_congr_left (fun a _ => by simp [hW, cOf, lookupC_nil])
      rw [this, sum_map_zero]
    rw [e1, e2, dbl_zero]; rfl
  | cons e m ih =>
    obtain ⟨⟨a0, b0⟩, w⟩ := e
    simp only [List.map_cons, List.nodup_cons] at hnd
    obtain ⟨hab, ha, hb⟩ := hk _ List.mem_cons_self
    have ih' := ih hnd.2 (fun e he => hk e (List.mem_cons_of_mem _ he))
    let g : Int → Int → Int := fun a b => if litT x a || litT x b then w else 0
    have hg : ∀ a b, g a b = g b a := fun a b => by simp only [g, Bool.or_comm]
    have hsplit : ∀ a b, hW (cOf (((a0, b0), w) :: m)) x a b
        = (if (a0, b0) = (min a b, max a b) then g a b else 0) + hW (cOf m) x a b := by
      intro a b
      simp only [hW, cOf, lookupC_cons, g]
      by_cases hk' : (a0, b0) = (min a b, max a b)
      · rw [← hk', lookupC_absent m (a0, b0) hnd.1]
        simp
      · simp [hk']
    have e1 : dbl (hW (cOf (((a0, b0), w) :: m)) x) M
        = dbl (fun a b => (if (a0, b0) = (min a b, max a b) then g a b else 0) + hW (cOf m) x a b) M :=
      dbl_congr (fun a _ b _ => hsplit a b)
    have e2 : diag (hW (cOf (((a0, b0), w) :: m)) x) M
        = diag (fun a b => (if (a0, b0) = (min a b, max a b) then g a b else 0) + hW (cOf m) x a b) M :=
      diag_congr (fun a _ => hsplit a a)
    have key := dbl_key hM hab ha hb g hg
    rw [e1, e2, dbl_add, diag_add]
    simp only [List.map_cons, List.sum_cons]
    have hgw : g a0 b0 = if litT x a0 || litT x b0 then w else 0 := rfl
    dsimp only at hab ha hb ih' key ⊢
    omega

theorem mem_lits {L : List Nat} {a : Int} : a ∈ lits L ↔ ∃ i ∈ L, a = tLit i ∨ a = fLit i := by
  simp [lits, List.mem_flatMap]

theorem nodup_lits {L : List Nat} (hL : L.Nodup) : (lits L).Nodup := by
  induction L with
  | nil => exact List.nodup_nil
  | cons i L ih =>
    obtain ⟨hi, hL'⟩ := List.nodup_cons.mp hL
    have e : lits (i :: L) = tLit i :: fLit i :: lits L := rfl
    rw [e]
    refine List.nodup_cons.mpr ⟨?_, List.nodup_cons.mpr ⟨?_, ih hL'⟩⟩
    · intro hm
      rcases List.mem_cons.mp hm with h | h
      · unfold tLit fLit at h; omega
      · obtain ⟨j, hj, h | h⟩ := mem_lits.mp h
        · have : i = j := by unfold tLit at h; omega
          exact hi (this ▸ hj)
        · unfold tLit fLit at h; omega
    · intro hm
      obtain ⟨j, hj, h | h⟩ := mem_lits.mp hm
      · unfold tLit fLit at h; omega
      · have : i = j := by unfold fLit at h; omega
        exact hi (this ▸ hj)

theorem litOk_mem_lits {n : Nat} {L : List Nat} (hL : ∀ i, i < n → i ∈ L) {a : Int} (ha : LitOk n a) : a ∈ lits L := by
  obtain ⟨h0, hn⟩ := ha
  refine mem_lits.mpr ⟨idx a, hL _ (by unfold idx; omega), ?_⟩
  unfold tLit fLit idx
  omega

theorem litOk_of_mem_lits {n : Nat} {L : List Nat} (hL : ∀ i ∈ L, i < n) {a : Int} (ha : a ∈ lits L) : LitOk n a := by
  obtain ⟨i, hi, h | h⟩ := mem_lits.mp ha
  · subst h; exact litOk_tLit (hL i hi)
  · subst h; exact litOk_fLit (hL i hi)

/-- specification weight = tautologies + table weight, for every assignment, whatever the variable order -/
theorem satisfiedWeight_eq (I : Inst) (hp : I.order.Perm (List.range I.n)) (h : InstOk I) (trues : List Int) :
    Max2sat.satisfiedWeight I.effClauses trues = I.tab.initial + totW I.tab (assignOf trues) I.order := by
  have hok : TabOk I.tab := tabOkOfInst I hp ((instOk_iff I).mp h)
  have hnd : I.order.Nodup := (hp.nodup_iff).mpr List.nodup_range
  have hmem : ∀ i ∈ I.order, i < I.n := fun i hi => List.mem_range.mp (hp.mem_iff.mp hi)
  have hmem' : ∀ i, i < I.n → i ∈ I.order := fun i hi => hp.mem_iff.mpr (List.mem_range.mpr hi)
  have hkeys := cmap_key_ok I h
  -- the specification side, in terms of `litT`
  have e1 : Max2sat.satisfiedWeight I.effClauses trues
      = (I.cmap.map (fun e => if litT (assignOf trues) e.1.1 || litT (assignOf trues) e.1.2 then e.2 else 0)).sum := by
    unfold Max2sat.satisfiedWeight Inst.effClauses
    rw [sum_eq, List.map_map]
    refine congrArg List.sum (List.map_congr_left (fun e he => ?_))
    obtain ⟨_, h1, h2⟩ := hkeys e he
    simp only [Function.comp, litTrue_eq trues _ h1.1, litTrue_eq trues _ h2.1]
  -- the doubled sum, read in the clause map and in the table
  have e2 := dbl_lookup (assignOf trues) (nodup_lits hnd) I.cmap (cmap_keys_nodup I)
    (fun e he => ⟨(hkeys e he).1, litOk_mem_lits hmem' (hkeys e he).2.1, litOk_mem_lits hmem' (hkeys e he).2.2⟩)
  have hc : ∀ a ∈ lits I.order, ∀ b ∈ lits I.order,
      hW (cOf I.cmap) (assignOf trues) a b = hW I.tab.wt (assignOf trues) a b := by
    intro a ha b hb
    have : I.tab.wt a b = cOf I.cmap a b :=
      wOf_weights I h a b (litOk_of_mem_lits hmem ha) (litOk_of_mem_lits hmem hb)
    simp only [hW, this]
  rw [dbl_congr hc, diag_congr (fun a ha => hc a ha a ha), ← double_totW] at e2
  have e3 : I.tab.initial = tautSum I.tab I.order := hok.initial_eq
  omega

section Axioms
#print axioms satisfiedWeight_eq
end Axioms
end

section
open Ddo Ddo.Examples Ddo.Examples.Util Ddo.SpecUtil

section
variable {T : Tab}

/-- along a path of the model: the state stays well shaped, the decided variables are the last ones of the order, every
    assignment that agrees with the decisions keeps `value + gain`, and every assignment of the remaining free variables
    extends to one that agrees with the decisions -/
theorem path_gain (h : TabOk T) : ∀ (decs : List Dec) (k : Nat) (s : St) (v : Int) (s' : St) (v' : Int) (k' : Nat),
    s.2.length = T.n → s.1 = k → k ≤ T.n →
    evalFrom (problem T) k s v decs = some (s', v', k') →
    s'.2.length = T.n ∧ s'.1 = k' ∧ k' ≤ T.n ∧ k ≤ k' ∧
    (∀ d ∈ decs, d.var ∈ T.order.take (T.n - k)) ∧
    (∀ x : Nat → Bool, (∀ d ∈ decs, d.val = valOf (x d.var)) →
        v + gain T s x (T.order.take (T.n - k)) = v' + gain T s' x (T.order.take (T.n - k'))) ∧
    (∀ xs : Nat → Bool, ∃ x : Nat → Bool, (∀ d ∈ decs, d.val = valOf (x d.var)) ∧
        ∀ l ∈ T.order.take (T.n - k'), x l = xs l) := by
  intro decs
  induction decs with
  | nil =>
    intro k s v s' v' k' hl hd hk he
    simp only [evalFrom, Option.some.injEq, Prod.mk.injEq] at he
    obtain ⟨rfl, rfl, rfl⟩ := he
    exact ⟨hl, hd, hk, Nat.le_refl _, (fun d hd => by cases hd), (fun x _ => rfl),
      (fun xs => ⟨xs, (fun d hd => by cases hd), (fun _ _ => rfl)⟩)⟩
  | cons d ds ih =>
    intro k s v s' v' k' hl hd hk he
    have hkn : k < T.n := by
      rcases Nat.lt_or_ge k T.n with h1 | h1
      · exact h1
      · have : (problem T).nextVar k [s] = none := by simp [problem, nextVar, hd]; omega
        simp only [evalFrom, this] at he
        cases he
    obtain ⟨xv, hnv, htake, hf⟩ := next_free T h (m := T.n - (k + 1)) hl (by omega)
    have hnv : (problem T).nextVar k [s] = some xv := hnv
    rw [← show T.n - k = T.n - (k + 1) + 1 by omega] at htake
    simp only [evalFrom, hnv] at he
    split at he
    · next hc =>
      obtain ⟨hvar, hval⟩ := hc
      have hval' : d.val = 1 ∨ d.val = -1 := by simpa [problem] using hval
      have hs1l : (trans T s d).2.length = T.n := by rw [trans_length, hl]
      have hs1d : (trans T s d).1 = k + 1 := by rw [trans_depth, hd]
      obtain ⟨a1, a2, a3, a4, a5, a6, a7⟩ := ih (k + 1) _ _ s' v' k' hs1l hs1d (by omega) he
      have hxvL : xv ∉ T.order.take (T.n - (k + 1)) := by
        intro hmem
        exact (List.nodup_append.mp hf.nodup).2.2 xv hmem xv (by simp) rfl
      have hsub : ∀ l ∈ T.order.take (T.n - k'), l ∈ T.order.take (T.n - (k + 1)) :=
        fun l hl' => Ddo.Cover.mem_take_mono hl' (by omega)
      refine ⟨a1, a2, a3, by omega, ?_, ?_, ?_⟩
      · intro d' hd'
        rcases List.mem_cons.mp hd' with rfl | hd'
        · rw [htake, hvar]; simp
        · rw [htake]; exact List.mem_append_left _ (a5 d' hd')
      · intro x hx
        have hdx : d = ⟨xv, valOf (x xv)⟩ := by
          have := hx d List.mem_cons_self
          cases d with
          | mk var val => simp only at hvar this; rw [hvar] at this; rw [hvar, this]
        have hstep := gain_step T hf x
        have hrest : v + cost T s d + gain T (trans T s d) x (T.order.take (T.n - (k + 1)))
            = v' + gain T s' x (T.order.take (T.n - k')) := a6 x (fun d' hd' => hx d' (List.mem_cons_of_mem _ hd'))
        rw [htake, hstep, ← hdx]
        omega
      · intro xs
        obtain ⟨x1, hx1, hx1e⟩ := a7 xs
        refine ⟨fun i => if i = xv then decide (d.val = 1) else x1 i, ?_, ?_⟩
        · intro d' hd'
          rcases List.mem_cons.mp hd' with rfl | hd'
          · simp only [hvar, if_true, valOf]
            rcases hval' with h1 | h1 <;> simp [h1]
          · have hne : d'.var ≠ xv := fun he' => hxvL (he' ▸ a5 d' hd')
            simp only [hne, if_false]
            exact hx1 d' hd'
        · intro l hl'
          have hne : l ≠ xv := fun he' => hxvL (he' ▸ hsub l hl')
          simp only [hne, if_false]
          exact hx1e l hl'
    · cases he

end

/-- **exactness along every path** (what the driver evaluates on every walk prefix against `specBestExt`); `dpExact` is the
    case of the empty path -/
theorem dpExact_prefix (I : Inst) (hp : I.order.Perm (List.range I.n))
    (hlit : ∀ c ∈ I.clauses, c.2.1 ≠ 0 ∧ c.2.1.natAbs ≤ I.n ∧ c.2.2 ≠ 0 ∧ c.2.2.natAbs ≤ I.n)
    (decs : List Dec) (s : St) (v : Int) (k : Nat)
    (he : evalFrom (problem I.tab) 0 (0, List.replicate I.n 0) I.tab.initial decs = some (s, v, k)) :
    IsMaxOf (fun trues : List Int => trues.Sublist (oneTo I.n) ∧ ∀ d ∈ decs, d.val = valOf (assignOf trues d.var))
      (Max2sat.satisfiedWeight I.effClauses) (v + bestRem I.tab (I.n - k) s) := by
  have hI : InstOk I := (instOk_iff I).mpr hlit
  have hok : TabOk I.tab := tabOkOfInst I hp hlit
  have hmem : ∀ i ∈ I.order, i < I.n := fun i hi => List.mem_range.mp (hp.mem_iff.mp hi)
  obtain ⟨a1, a2, a3, _, a5, a6, a7⟩ := path_gain hok decs 0 (0, List.replicate I.n 0) I.tab.initial s v k
    (by simp; rfl) rfl (Nat.zero_le _) he
  have hn : I.tab.n = I.n := rfl
  have hord : I.tab.order = I.order := rfl
  simp only [hn, hord] at a1 a3 a5 a6 a7
  have hroot : ∀ x, gain I.tab (0, List.replicate I.n 0) x (I.order.take (I.n - 0)) = totW I.tab x I.order :=
    gain_root I.tab hok
  have hmax := bestRem_isMax I.tab hok (I.n - k) s a1 (by show s.1 + (I.n - k) = I.n; rw [a2]; omega)
  simp only [hord] at hmax
  obtain ⟨⟨xs, _, hxs⟩, hub⟩ := hmax
  refine ⟨?_, ?_⟩
  · obtain ⟨x, hx, hxe⟩ := a7 xs
    obtain ⟨trues, hsub, hagree⟩ := exists_trues I.n x
    have hdv : ∀ d ∈ decs, d.var < I.n := fun d hd => hmem _ ((List.take_sublist _ _).subset (a5 d hd))
    refine ⟨trues, ⟨hsub, fun d hd => ?_⟩, ?_⟩
    · rw [hagree _ (hdv d hd)]; exact hx d hd
    · rw [satisfiedWeight_eq I hp hI, totW_congr I.tab _ x I.order (fun l hl' => hagree l (hmem l hl'))]
      have h1 := a6 x hx
      rw [hroot] at h1
      have h2 : gain I.tab s x (I.order.take (I.n - k)) = gain I.tab s xs (I.order.take (I.n - k)) :=
        gain_congr I.tab s x xs _ hxe
      have h3 : gain I.tab s xs (I.order.take (I.n - k)) = bestRem I.tab (I.n - k) s := hxs
      show I.tab.initial + totW I.tab x I.order = v + bestRem I.tab (I.n - k) s
      have h1' : I.tab.initial + totW I.tab x I.order = v + gain I.tab s x (I.order.take (I.n - k)) := h1
      omega
  · intro trues ⟨_, hag⟩
    rw [satisfiedWeight_eq I hp hI]
    have h1 := a6 (assignOf trues) hag
    rw [hroot] at h1
    have h2 : gain I.tab s (assignOf trues) (I.order.take (I.n - k)) ≤ bestRem I.tab (I.n - k) s := hub _ trivial
    have h1' : I.tab.initial + totW I.tab (assignOf trues) I.order = v + gain I.tab s (assignOf trues) (I.order.take (I.n - k)) := h1
    omega

theorem dpExact (I : Inst) : DpExactStmt I := by
  intro hp hlits
  obtain ⟨⟨t, ⟨ht, _⟩, he⟩, hub⟩ := dpExact_prefix I hp hlits [] _ _ _ rfl
  have hL : ∀ v, v ∈ (sublists (oneTo I.n)).map (Max2sat.satisfiedWeight I.effClauses) ↔
      ∃ s : List Int, s.Sublist (oneTo I.n) ∧ Max2sat.satisfiedWeight I.effClauses s = v := by
    intro v
    simp only [List.mem_map, mem_sublists]
  show maxOf ((sublists (oneTo I.n)).map (Max2sat.satisfiedWeight I.effClauses)) = some _
  rw [maxOf_isMaxOf hL]
  exact ⟨⟨t, ht, he⟩, fun y hy => hub y ⟨hy, fun d hd => by cases hd⟩⟩

section Axioms
#print axioms tabOkOfInst
#print axioms dpExact
#print axioms dpExact_prefix
end Axioms
end

end Ddo.Examples.Max2satModel


