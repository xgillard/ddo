import DdoModel.Examples.SopProofsStep
import DdoModel.Examples.SopProofsMerge
/-! Exactness of the sop model on the states reached exactly.  The invariant is `Core T s i l` (an exact state at job `i`
    whose pending jobs are the list `l`): its value-to-go is the best `-cost (i :: q)` over the orders `q` of `l` that respect
    the precedences (`core_ge`, `core_att`); `Pre` adds what a prefix of decisions has paid.  The table predicate here is
    `Exact.Ok`, not `TabOk`: it allows entries up to `2^63`, the tight bound.

    At the end: `tabOf` of an instance of the input domain satisfies `TabOk` (`tabOk_tabOf`), and a degenerate table on which
    `MergeOkStmt` fails, which is why `mergeOk` asks for `TabOk`. -/

namespace Ddo.Examples.SopModel
open Ddo Ddo.Examples Ddo.Examples.Util

namespace Exact

theorem respects_cons (d : Nat → Nat → Int) (i : Nat) (r : List Nat) :
    Sop.respects d (i :: r) = (r.all (fun j => d i j != -1) && Sop.respects d r) := rfl

theorem respects_of_append (d : Nat → Nat → Int) : ∀ (a c : List Nat), Sop.respects d (a ++ c) = true →
    Sop.respects d c = true := by
  intro a
  induction a with
  | nil => intro c h; exact h
  | cons x a ih =>
    intro c h
    rw [List.cons_append, respects_cons, Bool.and_eq_true] at h
    exact ih c h.2

theorem cost_cons_cons (d : Nat → Nat → Int) (i j : Nat) (r : List Nat) :
    Sop.cost d (i :: j :: r) = d i j + Sop.cost d (j :: r) := rfl

theorem cost_single (d : Nat → Nat → Int) (i : Nat) : Sop.cost d [i] = 0 := rfl

/-- what exactness needs of a table; entries up to `2^63 = -imin`: it is the negation that must be an `isize` -/
structure Ok (T : Tab) : Prop where
  n_pos : 1 ≤ T.n
  n_le : T.n ≤ 256
  dist : ∀ i j, i < T.n → j < T.n → dist? T i j = some (dfun T i j)
  d_ge : ∀ i j, i < T.n → j < T.n → -1 ≤ dfun T i j
  d_le : ∀ i j, i < T.n → j < T.n → dfun T i j ≤ -imin
  pred : ∀ j, j < T.n → ∃ p, T.pred[j]? = some p ∧ ∀ x, (p.testBit x = true ↔ (x < T.n ∧ dfun T j x = -1))
  diag : ∀ i, i < T.n → dfun T i i = 0
  last_row : ∀ j, j < T.n - 1 → dfun T (T.n - 1) j = -1
  first_row : ∀ j, 0 < j → j < T.n → dfun T 0 j ≠ -1

theorem dfun_tabOf (n : Nat) (rows : List (List Int)) (i j : Nat) :
    dfun (tabOf n rows) i j = (rows.getD i []).getD j 0 := by
  unfold dfun tabOf
  simp only [Array.getD_eq_getD_getElem?, List.getElem?_toArray, List.getElem?_map, List.getD_eq_getElem?_getD]
  cases rows[i]? <;> simp

end Exact

theorem inDomain_entries {n : Nat} {rows : List (List Int)} (hD : inDomain n rows = true) :
    rows.length = n ∧ (∀ r ∈ rows, r.length = n) ∧ ∀ i j, i < n → j < n →
      (if i = j then dfun (tabOf n rows) i j = 0
       else if j = 0 then dfun (tabOf n rows) i j = -1
       else if i = n - 1 then dfun (tabOf n rows) i j = -1
       else if i = 0 ∨ j = n - 1 then 0 ≤ dfun (tabOf n rows) i j
       else -1 ≤ dfun (tabOf n rows) i j) := by
  simp only [inDomain, Bool.and_eq_true, decide_eq_true_eq, List.all_eq_true, beq_iff_eq, List.mem_range] at hD
  obtain ⟨⟨⟨_, hlen⟩, hrow⟩, hent⟩ := hD
  refine ⟨hlen, hrow, ?_⟩
  intro i j hi hj
  have := hent i hi j hj
  rw [Exact.dfun_tabOf]
  simpa only [apply_ite (· = true), beq_iff_eq, decide_eq_true_eq, Bool.or_eq_true] using this

theorem dfun_mem_rows {n : Nat} {rows : List (List Int)} (hlen : rows.length = n) (hrow : ∀ r ∈ rows, r.length = n)
    {i j : Nat} (hi : i < n) (hj : j < n) : ∃ r ∈ rows, dfun (tabOf n rows) i j ∈ r := by
  have hi' : i < rows.length := by omega
  have hj' : j < (rows[i]).length := by rw [hrow _ (List.getElem_mem hi')]; exact hj
  refine ⟨rows[i], List.getElem_mem hi', ?_⟩
  rw [Exact.dfun_tabOf]
  simp [List.getD_eq_getElem?_getD, hi', hj']

theorem inDomain_entry {n : Nat} {rows : List (List Int)} (hD : inDomain n rows = true) {i j : Nat} (hi : i < n) (hj : j < n) :
    (i = j → dfun (tabOf n rows) i j = 0) ∧ (i ≠ j → j = 0 → dfun (tabOf n rows) i j = -1) ∧
    (i ≠ j → i = n - 1 → dfun (tabOf n rows) i j = -1) ∧
    (i ≠ j → j ≠ 0 → i ≠ n - 1 → (i = 0 ∨ j = n - 1) → 0 ≤ dfun (tabOf n rows) i j) ∧ -1 ≤ dfun (tabOf n rows) i j := by
  have := (inDomain_entries hD).2.2 i j hi hj
  by_cases c1 : i = j
  · rw [if_pos c1] at this
    exact ⟨fun _ => this, fun h => absurd c1 h, fun h => absurd c1 h, fun h => absurd c1 h, by omega⟩
  · rw [if_neg c1] at this
    by_cases c2 : j = 0
    · rw [if_pos c2] at this
      exact ⟨fun h => absurd h c1, fun _ _ => this, fun _ _ => this, fun _ h => absurd c2 h, by omega⟩
    · rw [if_neg c2] at this
      by_cases c3 : i = n - 1
      · rw [if_pos c3] at this
        exact ⟨fun h => absurd h c1, fun _ h => absurd h c2, fun _ _ => this, fun _ _ h => absurd c3 h, by omega⟩
      · rw [if_neg c3] at this
        refine ⟨fun h => absurd h c1, fun _ h => absurd h c2, fun _ h => absurd h c3, fun _ _ _ h => ?_, ?_⟩
        · rw [if_pos h] at this; exact this
        · split at this <;> omega

theorem domOk_tabOf {n : Nat} {rows : List (List Int)} (hD : inDomain n rows = true) : DomOk (tabOf n rows) := by
  have hTn : (tabOf n rows).n = n := rfl
  refine ⟨?_, ?_, ?_, ?_⟩
  · intro j hj
    rw [hTn] at hj ⊢
    exact (inDomain_entry hD (by omega) (by omega)).2.2.1 (by omega) rfl
  · intro i h0 hi
    exact (inDomain_entry hD hi (by rw [hTn] at hi; omega)).2.1 (by omega) rfl
  · intro j h0 hj
    rw [hTn] at hj
    by_cases hn : n = 1
    · omega
    · exact (inDomain_entry hD (by omega) hj).2.2.2.1 (by omega) (by omega) (by omega) (Or.inl rfl)
  · intro i hi
    rw [hTn] at hi ⊢
    by_cases h0 : n - 1 = 0
    · omega
    · exact (inDomain_entry hD (by omega) (by omega)).2.2.2.1 (by omega) h0 (by omega) (Or.inr rfl)

namespace Exact

theorem ok_tabOf {n : Nat} {rows : List (List Int)} (hD : inDomain n rows = true) (hn : n ≤ 256)
    (hb : ∀ r ∈ rows, ∀ w ∈ r, w ≤ -imin) : Ok (tabOf n rows) := by
  obtain ⟨hlen, hrow, _⟩ := inDomain_entries hD
  have hDom := domOk_tabOf hD
  have h1 : 1 ≤ n := by
    simp only [inDomain, Bool.and_eq_true, decide_eq_true_eq] at hD
    exact hD.1.1.1
  have hrowi : ∀ i (hi : i < rows.length), (rows[i]).length = n := fun i hi => hrow _ (List.getElem_mem hi)
  refine ⟨h1, hn, ?_, ?_, ?_, ?_, ?_, hDom.last_row, ?_⟩
  · intro i j hi hj
    have hi' : i < rows.length := by rw [hlen]; exact hi
    have hj' : j < (rows[i]).length := by rw [hrowi i hi']; exact hj
    rw [dfun_tabOf]
    simp [dist?, tabOf, List.getD_eq_getElem?_getD, hi', hj']
  · intro i j hi hj
    exact (inDomain_entry hD hi hj).2.2.2.2
  · intro i j hi hj
    obtain ⟨r, hr, hw⟩ := dfun_mem_rows hlen hrow hi hj
    exact hb r hr _ hw
  · intro j hj
    have hj' : j < rows.length := by rw [hlen]; exact hj
    refine ⟨predOfRow rows[j], by simp [tabOf, hj'], fun x => ?_⟩
    rw [dfun_tabOf]
    unfold predOfRow
    rw [testBit_ofList]
    simp [List.getD_eq_getElem?_getD, hj', hrowi j hj']
    exact fun _ => Iff.rfl
  · intro i hi
    exact (inDomain_entry hD hi hi).1 rfl
  · intro j hj0 hj
    have := hDom.first_row j hj0 hj
    omega

def succSt (s : St) (j : Nat) : St :=
  { prev := .job j, must := diff s.must (single j), maybe := none, depth := s.depth + 1 }

/-- an exact state at job `i` whose pending jobs are, in some order, the list `l`; none of them is required before `i` -/
structure Core (T : Tab) (s : St) (i : Nat) (l : List Nat) : Prop where
  prev : s.prev = .job i
  maybe : s.maybe = none
  nd : l.Nodup
  mem : ∀ x, x ∈ l ↔ s.must.testBit x = true
  len : s.depth + l.length = T.n - 1
  last : l ≠ [] → T.n - 1 ∈ l
  rng : ∀ x ∈ l, x < T.n
  ok : ∀ x ∈ l, dfun T i x ≠ -1
  ilt : i < T.n

section
variable {T : Tab} (hT : Ok T) {s : St} {i : Nat} {l : List Nat} (h : Core T s i l)
include hT h

theorem canSchedule_core {j : Nat} (hj : j < T.n) :
    canSchedule? T s j = some (l.all (fun x => dfun T j x != -1)) := by
  obtain ⟨p, hp, hspec⟩ := hT.pred j hj
  have key : ((p &&& s.must) = 0) ↔ (l.all (fun x => dfun T j x != -1) = true) := by
    rw [and_eq_zero_iff, List.all_eq_true]
    constructor
    · intro hh x hx
      have hm := (h.mem x).mp hx
      simp only [bne_iff_ne, ne_eq]
      intro e
      have := hh x ((hspec x).mpr ⟨h.rng x hx, e⟩)
      rw [hm] at this; cases this
    · intro hh x hx
      obtain ⟨_, e⟩ := (hspec x).mp hx
      cases hb : s.must.testBit x with
      | false => rfl
      | true => have := hh x ((h.mem x).mpr hb); simp [e] at this
  unfold canSchedule?
  rw [hp]
  simp only [Option.bind_eq_bind, Option.bind_some, h.maybe]
  by_cases hz : p &&& s.must = 0
  · simp [hz, key.mp hz]
  · have : l.all (fun x => dfun T j x != -1) = false := by
      cases hb : l.all (fun x => dfun T j x != -1) with
      | false => rfl
      | true => exact absurd (key.mpr hb) hz
    simp [hz, this]

theorem schedulable_core : schedulableWith? (canSchedule? T) s (bits s.must) =
    some ((bits s.must).filter (fun j => l.all (fun x => dfun T j x != -1))) := by
  unfold schedulableWith?
  rw [EMax.mapM_total _ (fun j => (j, l.all (fun x => dfun T j x != -1))) _ (fun j hj => by
    rw [canSchedule_core hT h (h.rng j ((h.mem j).mpr (mem_bits.mp hj)))]; rfl)]
  simp [List.filter_map, Function.comp_def]

theorem domain_core (hl : l ≠ []) (v : Int) :
    v ∈ domain T s ↔ ∃ j ∈ l, v = (j : Int) ∧ ∀ x ∈ l, dfun T j x ≠ -1 := by
  have hlen : 0 < l.length := List.length_pos_iff.mpr hl
  have hlen' := h.len
  have hn : ¬ T.n ≤ 1 := by omega
  unfold domain domain? domainWith?
  rw [if_neg hn]
  by_cases hd : s.depth = T.n - 2
  · rw [if_pos hd]
    have h1 : l.length = 1 := by omega
    obtain ⟨a, rfl⟩ := List.length_eq_one_iff.mp h1
    have ha : T.n - 1 = a := by simpa using h.last hl
    subst ha
    simp only [Option.getD_some, List.mem_singleton]
    constructor
    · rintro rfl
      refine ⟨T.n - 1, rfl, rfl, ?_⟩
      intro x hx
      rw [hx, hT.diag _ (by omega)]
      decide
    · rintro ⟨j, hj, rfl, _⟩
      rw [hj]
  · rw [if_neg hd, schedulable_core hT h, h.maybe]
    simp only [Option.bind_eq_bind, Option.bind_some, Option.pure_def, List.append_nil, Option.getD_some, List.mem_map,
      List.mem_filter, mem_bits, List.all_eq_true, bne_iff_ne, ne_eq]
    constructor
    · rintro ⟨j, ⟨hj, hok⟩, rfl⟩
      exact ⟨j, (h.mem j).mpr hj, rfl, hok⟩
    · rintro ⟨j, hj, rfl, hok⟩
      exact ⟨j, ⟨(h.mem j).mp hj, hok⟩, rfl⟩

theorem core_step {j : Nat} (hj : j ∈ l) (x : Nat) :
    trans? T s ⟨x, (j : Int)⟩ = some (succSt s j) ∧ cost? T s ⟨x, (j : Int)⟩ = some (-(dfun T i j)) := by
  have hjn := h.rng j hj
  have hn := hT.n_le
  constructor
  · unfold trans?
    have : ¬ ((j : Int) < 0 ∨ (j : Int) ≥ 256) := by omega
    simp only [this, if_false, h.maybe, Int.toNat_natCast]
    rfl
  · unfold cost? minDist?
    have : ¬ ((j : Int) < 0) := by omega
    simp only [this, if_false, h.prev, Int.toNat_natCast, hT.dist i j h.ilt hjn, Option.bind_eq_bind, Option.bind_some,
      Option.pure_def, if_neg (h.ok j hj)]
    have h1 := hT.d_ge i j h.ilt hjn
    have h2 := hT.d_le i j h.ilt hjn
    unfold chk
    rw [if_pos]
    unfold imin imax at *
    omega

theorem core_succ {j : Nat} (hj : j ∈ l) (hok : ∀ x ∈ l, dfun T j x ≠ -1) : Core T (succSt s j) j (l.erase j) := by
  refine ⟨rfl, rfl, h.nd.erase j, ?_, ?_, ?_, ?_, ?_, h.rng j hj⟩
  · intro x
    show _ ↔ (diff s.must (single j)).testBit x = true
    rw [h.nd.mem_erase_iff, testBit_diff, testBit_single, h.mem x]
    by_cases e : j = x
    · subst e; simp
    · have : ¬ x = j := fun e' => e e'.symm
      simp [e, this]
  · show s.depth + 1 + (l.erase j).length = T.n - 1
    rw [List.length_erase_of_mem hj]
    have := h.len
    have : 0 < l.length := List.length_pos_of_mem hj
    omega
  · intro hne
    obtain ⟨y, hy⟩ := List.exists_mem_of_ne_nil _ hne
    have hy' := (h.nd.mem_erase_iff).mp hy
    have hlast := h.last (List.ne_nil_of_mem hj)
    rw [h.nd.mem_erase_iff]
    refine ⟨?_, hlast⟩
    intro e
    have hyn := h.rng y hy'.2
    have := hT.last_row y (by omega)
    exact hok y hy'.2 (by rw [← e]; exact this)
  · intro x hx
    exact h.rng x (List.mem_of_mem_erase hx)
  · intro x hx
    exact hok x (List.mem_of_mem_erase hx)

end

theorem brem_ge (T : Tab) (fuel : Nat) (s : St) (hd : s.depth < nv T) {v : Int} (hv : v ∈ domain T s) :
    stepVal T fuel s v ≤ bestRemF T .code (fuel + 1) s := by
  rw [bestRemF_succ fuel s hd]
  exact (EMax.foldl_max_spec (stepVal T fuel s) (domain T s) none).2.1 v hv

theorem brem_att (T : Tab) (fuel : Nat) (s : St) (hd : s.depth < nv T) {g : Int}
    (hg : bestRemF T .code (fuel + 1) s = some g) : ∃ v ∈ domain T s, stepVal T fuel s v = some g := by
  rw [bestRemF_succ fuel s hd] at hg
  exact EMax.foldl_max_none_att (stepVal T fuel s) _ hg

theorem stepVal_core {T : Tab} (hT : Ok T) {s : St} {i : Nat} {l : List Nat} (h : Core T s i l) {j : Nat} (hj : j ∈ l)
    (fuel : Nat) : stepVal T fuel s (j : Int) = (bestRemF T .code fuel (succSt s j)).addI (-(dfun T i j)) := by
  obtain ⟨h1, h2⟩ := core_step hT h hj s.depth
  unfold stepVal
  rw [h1, h2]

theorem core_ge {T : Tab} (hT : Ok T) : ∀ (q : List Nat) (s : St) (i : Nat) (l : List Nat), Core T s i l → q.Perm l →
    Sop.respects (dfun T) q = true →
    (some (-(Sop.cost (dfun T) (i :: q))) : EInt) ≤ bestRemF T .code q.length s := by
  intro q
  induction q with
  | nil =>
    intro s i l _ _ _
    simp [bestRemF, Sop.cost]
  | cons j q ih =>
    intro s i l h hq hr
    have hjl : j ∈ l := hq.mem_iff.mp List.mem_cons_self
    have hl : l ≠ [] := List.ne_nil_of_mem hjl
    rw [respects_cons, Bool.and_eq_true, List.all_eq_true] at hr
    obtain ⟨hall, hresp⟩ := hr
    have hok : ∀ x ∈ l, dfun T j x ≠ -1 := by
      intro x hx
      rcases List.mem_cons.mp (hq.mem_iff.mpr hx) with rfl | hx'
      · rw [hT.diag _ (h.rng _ hjl)]; decide
      · simpa using hall x hx'
    have hd : s.depth < nv T := by
      have := h.len
      have : 0 < l.length := List.length_pos_of_mem hjl
      unfold nv; omega
    have hdom : ((j : Nat) : Int) ∈ domain T s := (domain_core hT h hl _).mpr ⟨j, hjl, rfl, hok⟩
    have hge := brem_ge T q.length s hd hdom
    rw [stepVal_core hT h hjl] at hge
    have hq' : q.Perm (l.erase j) := by
      have := hq.erase j
      rwa [List.erase_cons_head] at this
    have ih' := ih (succSt s j) j (l.erase j) (core_succ hT h hjl hok) hq' hresp
    refine EInt.le_trans ?_ hge
    refine EInt.le_trans ?_ (EMax.addI_mono ih' (Int.le_refl _))
    simp only [EInt.addI, Option.map_some, EInt.some_le_some, cost_cons_cons]
    omega

theorem core_att {T : Tab} (hT : Ok T) : ∀ (fuel : Nat) (s : St) (i : Nat) (l : List Nat), Core T s i l →
    fuel = l.length → ∀ g : Int, bestRemF T .code fuel s = some g →
    ∃ q : List Nat, q.Perm l ∧ Sop.respects (dfun T) q = true ∧ g = -(Sop.cost (dfun T) (i :: q)) := by
  intro fuel
  induction fuel with
  | zero =>
    intro s i l _ hf g hg
    have hl : l = [] := List.eq_nil_of_length_eq_zero hf.symm
    subst hl
    refine ⟨[], List.Perm.refl _, rfl, ?_⟩
    simp [bestRemF] at hg
    simp [Sop.cost, ← hg]
  | succ n ih =>
    intro s i l h hf g hg
    have hl : l ≠ [] := by intro e; rw [e] at hf; simp at hf
    have hd : s.depth < nv T := by
      have := h.len
      unfold nv; omega
    obtain ⟨v, hv, hval⟩ := brem_att T n s hd hg
    obtain ⟨j, hjl, rfl, hok⟩ := (domain_core hT h hl v).mp hv
    rw [stepVal_core hT h hjl] at hval
    obtain ⟨g', hg', rfl⟩ := EInt.addI_eq_some hval
    have hlen : n = (l.erase j).length := by
      rw [List.length_erase_of_mem hjl]; omega
    obtain ⟨q, hq, hrq, hgq⟩ := ih (succSt s j) j (l.erase j) (core_succ hT h hjl hok) hlen g' hg'
    refine ⟨j :: q, (hq.cons j).trans (List.perm_cons_erase hjl).symm, ?_, ?_⟩
    · rw [respects_cons, Bool.and_eq_true, List.all_eq_true]
      refine ⟨?_, hrq⟩
      intro x hx
      have := hok x (List.mem_of_mem_erase (hq.mem_iff.mp hx))
      simpa using this
    · rw [cost_cons_cons]; omega

/-- `s` with value `v` is reached by the decisions `pre`: of a sequence `0 :: pre ++ r` of the specification, `r` an order of
    `l`, what is left to pay and to respect is `i :: r` on `Core T s i l` -/
structure Pre (T : Tab) (pre : List Nat) (s : St) (v : Int) (i : Nat) (l : List Nat) : Prop where
  core : Core T s i l
  perm : (pre ++ l).Perm ((List.range T.n).drop 1)
  resp : ∀ r : List Nat, (∀ x, x ∈ r ↔ x ∈ l) →
    Sop.respects (dfun T) (0 :: (pre ++ r)) = Sop.respects (dfun T) r
  cost : ∀ r : List Nat, Sop.cost (dfun T) (0 :: (pre ++ r)) = -v + Sop.cost (dfun T) (i :: r)

theorem mem_drop_one_range (n x : Nat) : x ∈ (List.range n).drop 1 ↔ 0 < x ∧ x < n := by
  cases n with
  | zero => simp
  | succ n =>
    rw [List.range_succ_eq_map]
    simp only [List.drop_succ_cons, List.drop_zero, List.mem_map, List.mem_range]
    constructor
    · rintro ⟨a, ha, rfl⟩; omega
    · intro h; exact ⟨x - 1, by omega, by omega⟩

theorem nodup_drop_one_range (n : Nat) : ((List.range n).drop 1).Nodup :=
  List.Nodup.sublist (List.drop_sublist 1 _) List.nodup_range

theorem pre_root {T : Tab} (hT : Ok T) : Pre T [] (initSt T) 0 0 ((List.range T.n).drop 1) := by
  have hn := hT.n_pos
  refine ⟨⟨rfl, rfl, nodup_drop_one_range _, ?_, ?_, ?_, ?_, ?_, by omega⟩, List.Perm.refl _, ?_, ?_⟩
  · intro x
    show _ ↔ (ofList ((List.range T.n).drop 1)).testBit x = true
    rw [testBit_ofList]; simp
  · show 0 + ((List.range T.n).drop 1).length = T.n - 1
    simp
  · intro hne
    obtain ⟨y, hy⟩ := List.exists_mem_of_ne_nil _ hne
    rw [mem_drop_one_range] at hy ⊢
    omega
  · intro x hx
    exact ((mem_drop_one_range _ _).mp hx).2
  · intro x hx
    have := (mem_drop_one_range _ _).mp hx
    exact hT.first_row x this.1 this.2
  · intro r hr
    rw [List.nil_append, respects_cons]
    have : r.all (fun j => dfun T 0 j != -1) = true := by
      rw [List.all_eq_true]
      intro x hx
      have := (mem_drop_one_range _ _).mp ((hr x).mp hx)
      simpa using hT.first_row x this.1 this.2
    rw [this, Bool.true_and]
  · intro r
    simp

theorem pre_step {T : Tab} (hT : Ok T) {pre : List Nat} {s : St} {v : Int} {i : Nat} {l : List Nat} (h : Pre T pre s v i l)
    {j : Nat} (hj : j ∈ l) (hok : ∀ x ∈ l, dfun T j x ≠ -1) :
    Pre T (pre ++ [j]) (succSt s j) (v + -(dfun T i j)) j (l.erase j) := by
  refine ⟨core_succ hT h.core hj hok, ?_, ?_, ?_⟩
  · refine List.Perm.trans ?_ h.perm
    rw [List.append_assoc]
    exact List.Perm.append_left _ (List.perm_cons_erase hj).symm
  · intro r hr
    have hmem : ∀ x, x ∈ j :: r ↔ x ∈ l := by
      intro x
      rw [List.mem_cons, hr x, h.core.nd.mem_erase_iff]
      constructor
      · rintro (rfl | ⟨_, hx⟩)
        · exact hj
        · exact hx
      · intro hx
        by_cases e : x = j
        · exact Or.inl e
        · exact Or.inr ⟨e, hx⟩
    have := h.resp (j :: r) hmem
    rw [List.append_assoc, List.singleton_append, this, respects_cons]
    have : r.all (fun y => dfun T j y != -1) = true := by
      rw [List.all_eq_true]
      intro x hx
      have := hok x (List.mem_of_mem_erase ((hr x).mp hx))
      simpa using this
    rw [this, Bool.true_and]
  · intro r
    rw [List.append_assoc, List.singleton_append, h.cost (j :: r), cost_cons_cons]
    omega

theorem eval_pre {T : Tab} (hT : Ok T) : ∀ (ds pre : List Nat) (s : St) (v : Int) (i : Nat) (l : List Nat),
    Pre T pre s v i l → ∀ (s' : St) (v' : Int) (k' : Nat),
    evalFrom (problem T) pre.length s v
      ((List.range' pre.length ds.length).zipWith (fun (i : Nat) (x : Nat) => (⟨i, (x : Int)⟩ : Dec)) ds)
        = some (s', v', k') →
    ∃ i' l', Pre T (pre ++ ds) s' v' i' l' := by
  intro ds
  induction ds with
  | nil =>
    intro pre s v i l h s' v' k' he
    simp [evalFrom] at he
    obtain ⟨rfl, rfl, _⟩ := he
    exact ⟨i, l, by rw [List.append_nil]; exact h⟩
  | cons j ds ih =>
    intro pre s v i l h s' v' k' he
    rw [List.length_cons, List.range'_succ, List.zipWith_cons_cons] at he
    simp only [evalFrom, problem] at he
    by_cases hk : pre.length < nv T
    · have hnv : nextVar T pre.length = some pre.length := by simp [nextVar, hk]
      rw [hnv] at he
      simp only [true_and] at he
      by_cases hdom : ((j : Nat) : Int) ∈ domain T s
      · rw [if_pos hdom] at he
        have hl : l ≠ [] := by
          intro e
          have := h.perm.length_eq
          rw [e] at this
          simp at this
          unfold nv at hk; omega
        obtain ⟨j', hj', e, hok⟩ := (domain_core hT h.core hl _).mp hdom
        have : j = j' := by omega
        subst this
        obtain ⟨h1, h2⟩ := core_step hT h.core hj' pre.length
        have e1 : trans T s ⟨pre.length, (j : Int)⟩ = succSt s j := by unfold trans; rw [h1]; rfl
        have e2 : cost T s ⟨pre.length, (j : Int)⟩ = -(dfun T i j) := by unfold cost; rw [h2]; rfl
        rw [e1, e2] at he
        have hlen : (pre ++ [j]).length = pre.length + 1 := by simp
        rw [← hlen] at he
        obtain ⟨i', l', hP⟩ := ih (pre ++ [j]) _ _ _ _ (pre_step hT h hj' hok) s' v' k' he
        exact ⟨i', l', by rw [List.append_assoc, List.singleton_append] at hP; exact hP⟩
      · rw [if_neg hdom] at he; cases he
    · have hnv : nextVar T pre.length = none := by simp [nextVar, hk]
      rw [hnv] at he
      cases he

theorem drop_one_range_succ (m : Nat) (hm : 1 ≤ m) :
    (List.range (m + 1)).drop 1 = (List.range m).drop 1 ++ [m] := by
  rw [List.range_succ, List.drop_append_of_le_length (by simp; omega)]

theorem mem_specSeqs_perm {n : Nat} {q : List Nat} (hn : 1 ≤ n) (hq : q ∈ specSeqs n) :
    ∃ t, q = 0 :: t ∧ t.Perm ((List.range n).drop 1) := by
  unfold specSeqs at hq
  split at hq
  · rename_i h1
    subst h1
    have : q = [0] := by simpa using hq
    exact ⟨[], this, by decide⟩
  · rename_i h1
    obtain ⟨p, hp, rfl⟩ := List.mem_map.mp hq
    refine ⟨p ++ [n - 1], rfl, ?_⟩
    obtain ⟨m, rfl⟩ : ∃ m, n = m + 1 := ⟨n - 1, by omega⟩
    have hm : 1 ≤ m := by omega
    rw [drop_one_range_succ m hm]
    exact (Tour.mem_sop_perms.mp hp).append_right _

theorem mem_specSeqs_of {T : Tab} (hT : Ok T) {t : List Nat} (ht : t.Perm ((List.range T.n).drop 1))
    (hr : Sop.respects (dfun T) (0 :: t) = true) : 0 :: t ∈ specSeqs T.n := by
  have hn := hT.n_pos
  unfold specSeqs
  by_cases h1 : T.n = 1
  · rw [if_pos h1]
    rw [h1] at ht
    have : t = [] := by
      have := ht.length_eq
      simp at this
      exact this
    subst this
    simp
  · rw [if_neg h1]
    obtain ⟨m, hm⟩ : ∃ m, T.n = m + 1 := ⟨T.n - 1, by omega⟩
    have hm1 : 1 ≤ m := by omega
    have hmt : m ∈ t := ht.mem_iff.mpr ((mem_drop_one_range _ _).mpr (by omega))
    obtain ⟨a, b, rfl⟩ := List.append_of_mem hmt
    have hnd : (a ++ m :: b).Nodup := ht.nodup_iff.mpr (nodup_drop_one_range _)
    have hb : b = [] := by
      cases b with
      | nil => rfl
      | cons y b' =>
        exfalso
        have h2 := respects_of_append (dfun T) (0 :: a) (m :: y :: b') hr
        rw [respects_cons, Bool.and_eq_true, List.all_eq_true] at h2
        have h3 := h2.1 y List.mem_cons_self
        have hy : y ∈ (List.range T.n).drop 1 := ht.mem_iff.mp (by simp)
        rw [mem_drop_one_range] at hy
        have hne : m ≠ y := by
          have := (List.nodup_append.mp hnd).2.1
          have := (List.nodup_cons.mp this).1
          intro e; apply this; rw [e]; exact List.mem_cons_self
        have h4 := hT.last_row y (by omega)
        have e : T.n - 1 = m := by omega
        rw [e] at h4
        simp [h4] at h3
    subst hb
    rw [hm, drop_one_range_succ m hm1] at ht
    have ha : a.Perm ((List.range m).drop 1) := (List.perm_append_right_iff [m]).mp ht
    have e : T.n - 1 = m := by omega
    rw [e]
    exact List.mem_map.mpr ⟨a, Tour.mem_sop_perms.mpr ha, rfl⟩

theorem dpExact_of_ok {T : Tab} (hT : Ok T) (decs : List Nat) (s : St) (v : Int) (k : Nat)
    (he : evalFrom (problem T) 0 (initSt T) 0
      ((List.range decs.length).zipWith (fun (i : Nat) (x : Nat) => (⟨i, (x : Int)⟩ : Dec)) decs) = some (s, v, k)) :
    (bestRem T s).addI v = (specBestIn (specSeqs T.n) (dfun T) decs).map (fun x => -x) := by
  rw [List.range_eq_range'] at he
  obtain ⟨i, l, hP⟩ := eval_pre hT decs [] _ _ _ _ (pre_root hT) s v k he
  rw [List.nil_append] at hP
  have hC := hP.core
  have hbr : bestRem T s = bestRemF T .code l.length s := by
    unfold bestRem
    congr 1
    have := hC.len
    unfold nv; omega
  have hmem : ∀ x : Int, x ∈ (((specSeqs T.n).filter fun q => (0 :: decs).isPrefixOf q).filter
        (Sop.respects (dfun T))).map (Sop.cost (dfun T)) ↔
      ∃ r : List Nat, r.Perm l ∧ Sop.respects (dfun T) r = true ∧ x = -v + Sop.cost (dfun T) (i :: r) := by
    intro x
    simp only [List.mem_map, List.mem_filter]
    constructor
    · rintro ⟨q, ⟨⟨hq, hpre⟩, hresp⟩, rfl⟩
      obtain ⟨t, rfl, ht⟩ := mem_specSeqs_perm hT.n_pos hq
      obtain ⟨r, hr⟩ := List.isPrefixOf_iff_prefix.mp hpre
      have ht' : t = decs ++ r := by
        rw [List.cons_append] at hr
        exact (List.cons.inj hr).2.symm
      subst ht'
      have hrl : r.Perm l := (List.perm_append_left_iff decs).mp (ht.trans hP.perm.symm)
      refine ⟨r, hrl, ?_, ?_⟩
      · rw [← hP.resp r (fun x => hrl.mem_iff)]; exact hresp
      · exact hP.cost r
    · rintro ⟨r, hrl, hrr, rfl⟩
      refine ⟨0 :: (decs ++ r), ⟨⟨?_, ?_⟩, ?_⟩, hP.cost r⟩
      · apply mem_specSeqs_of hT ((List.Perm.append_left decs hrl).trans hP.perm)
        rw [hP.resp r (fun x => hrl.mem_iff)]; exact hrr
      · exact List.isPrefixOf_iff_prefix.mpr ⟨r, rfl⟩
      · rw [hP.resp r (fun x => hrl.mem_iff)]; exact hrr
  unfold specBestIn
  rw [hbr, Tour.sop_minimum_eq]
  refine EMax.eq_neg_minOf (fun x hx => ?_) (fun g hg => ?_)
  · obtain ⟨r, hrl, hrr, rfl⟩ := (hmem x).mp hx
    have : (some (-(Sop.cost (dfun T) (i :: r)) + v) : EInt) ≤ (bestRemF T .code r.length s).addI v :=
      EMax.addI_mono (core_ge hT r s i l hC hrl hrr) (Int.le_refl v)
    rw [hrl.length_eq] at this
    refine EInt.le_trans ((EInt.some_le_some _ _).mpr ?_) this
    omega
  · obtain ⟨g', hg', rfl⟩ := EInt.addI_eq_some hg
    obtain ⟨q, hq, hrq, rfl⟩ := core_att hT _ s i l hC rfl g' hg'
    exact ⟨_, (hmem _).mpr ⟨q, hq, hrq, by omega⟩, Int.le_refl _⟩

end Exact

/-- **`DpExactStmt` holds** on every instance of the domain with
    * at most 256 jobs (`hn`; what a `Set256` holds: `transition` panics on a job `≥ 256` — `trans? = none` —, the model DP then
      loses the completions that schedule such a job while the specification counts them; this necessity is argued, not
      kernel-checked — the specification enumerates `255!` sequences there), and
    * entries at most `2^63 = -imin` (`hb`; `transition_cost` negates the distance with an overflow check: for a larger entry
      `cost? = none`, the model DP skips the decision, the specification counts it).  The bound is tight:
      `dpExact_false_unbounded`.
    Both bounds hold for whatever the program can read (`isize` entries, `dpExact_partial_isize`; `Set256`). -/
theorem dpExact_partial (n : Nat) (rows : List (List Int)) (hn : n ≤ 256) (hb : ∀ r ∈ rows, ∀ w ∈ r, w ≤ -imin) :
    DpExactStmt n rows := by
  intro hD decs s v k he
  exact Exact.dpExact_of_ok (Exact.ok_tabOf hD hn hb) decs s v k he

/-- `DpExactStmt` for `isize` entries (what the reader of the example parses) -/
theorem dpExact_partial_isize (n : Nat) (rows : List (List Int)) (hn : n ≤ 256) (hb : ∀ r ∈ rows, ∀ w ∈ r, w ≤ imax) :
    DpExactStmt n rows :=
  dpExact_partial n rows hn (fun r hr w hw => by have := hb r hr w hw; unfold imax at this; unfold imin; omega)

/-- two jobs, the distance from job 0 to job 1 is `2^63 + 1` -/
def bigRows : List (List Int) := [[0, 9223372036854775809], [-1, 0]]

theorem bigRows_inDomain : inDomain 2 bigRows = true := by decide +kernel

theorem bigRows_values : bestRem (tabOf 2 bigRows) (initSt (tabOf 2 bigRows)) = none ∧
    specBestIn (specSeqs 2) (dfun (tabOf 2 bigRows)) [] = some 9223372036854775809 := by decide +kernel

/-- **without a bound on the entries `DpExactStmt` is FALSE**: `inDomain` does not bound the entries, the checked negation
    of `transition_cost` panics on `2^63 + 1` (in the model: the decision is skipped), the specification counts the sequence.
    NOT reachable by the program: `2^63 + 1` is no `isize`, the reader of the example fails to parse it. -/
theorem dpExact_false_unbounded : ¬ DpExactStmt 2 bigRows := by
  intro h
  have h1 := h bigRows_inDomain [] (initSt (tabOf 2 bigRows)) 0 0 rfl
  revert h1
  decide +kernel

/-- the root only (`-1` = no completion): what the closed corollary `sop_relaxed_ub` uses of exactness -/
theorem root_exact (n : Nat) (rows : List (List Int)) (hD : inDomain n rows = true) (hn : n ≤ 256)
    (hb : ∀ r ∈ rows, ∀ w ∈ r, w ≤ -imin) :
    Sop.spec n (dfun (tabOf n rows)) =
      ((bestRem (tabOf n rows) (initSt (tabOf n rows))).map (fun v => -v)).getD (-1) := by
  rw [← spec_eq_specBestIn]
  have h := dpExact_partial n rows hn hb hD [] (initSt (tabOf n rows)) 0 0 rfl
  cases hbr : bestRem (tabOf n rows) (initSt (tabOf n rows)) with
  | none =>
    rw [hbr] at h
    cases hs : specBestIn (specSeqs n) (dfun (tabOf n rows)) [] with
    | none => rfl
    | some x => rw [hs] at h; simp [EInt.addI] at h
  | some g =>
    rw [hbr] at h
    cases hs : specBestIn (specSeqs n) (dfun (tabOf n rows)) [] with
    | none => rw [hs] at h; simp [EInt.addI] at h
    | some x =>
      rw [hs] at h
      simp only [EInt.addI, Option.map_some, Option.some.injEq] at h
      simp only [Option.map_some, Option.getD_some]
      omega

#print axioms dpExact_partial
#print axioms dpExact_partial_isize
#print axioms dpExact_false_unbounded
#print axioms root_exact

end Ddo.Examples.SopModel

namespace Ddo.Examples.SopModel
open Ddo Ddo.Examples Ddo.Examples.Util

theorem tabOk_tabOf {n : Nat} {rows : List (List Int)} (hD : inDomain n rows = true) (hn : n ≤ 256)
    (hb : ∀ r ∈ rows, ∀ w ∈ r, w ≤ imax) : TabOk (tabOf n rows) := by
  have hb' : ∀ r ∈ rows, ∀ w ∈ r, w ≤ -imin := fun r hr w hw => by
    have := hb r hr w hw
    simp only [imax, imin] at *
    omega
  have hok := Exact.ok_tabOf hD hn hb'
  obtain ⟨hlen, hrow, _⟩ := inDomain_entries hD
  have hTn : (tabOf n rows).n = n := rfl
  refine ⟨hok.n_pos, hok.n_le, hok.dist, hok.d_ge, ?_, ?_, ?_, ?_⟩
  · intro i j hi hj
    obtain ⟨r, hr, hw⟩ := dfun_mem_rows hlen hrow (by rw [← hTn]; exact hi) (by rw [← hTn]; exact hj)
    exact hb r hr _ hw
  · intro j hj
    obtain ⟨p, hp, _⟩ := hok.pred j hj
    rw [hp]
    unfold predOf
    simp [Array.getD_eq_getD_getElem?, hp]
  · intro j x hj
    obtain ⟨p, hp, hspec⟩ := hok.pred j hj
    have : predOf (tabOf n rows) j = p := by
      unfold predOf
      simp [Array.getD_eq_getD_getElem?, hp]
    rw [this]
    exact hspec x
  · intro i hi
    have hi' : i < n := hi
    show (((List.range n).map (cheapOf n _)).toArray)[i]? = _
    simp [hi']
    rfl

theorem mergeOk_tabOf {n : Nat} {rows : List (List Int)} (hD : inDomain n rows = true) (hn : n ≤ 256)
    (hb : ∀ r ∈ rows, ∀ w ∈ r, w ≤ imax) : MergeOkStmt (tabOf n rows) :=
  mergeOk (tabOk_tabOf hD hn hb)

/-- 4 jobs, a full matrix, but an EMPTY `predecessors` table (no `tabOf` builds this): `transition` from a state with a
    `maybe_schedule` set panics (`predecessors[j]` out of range), the same transition from the exact state does not -/
def degT : Tab :=
  { n := 4, d := #[#[0, 1, 1, 1], #[-1, 0, 1, 1], #[-1, 1, 0, 1], #[-1, -1, -1, 0]], pred := #[], cheap := #[[], [], [], []] }
def degU : St := ⟨.job 1, ofList [3], none, 2⟩
def degW : St := ⟨.job 1, ofList [3], some (ofList [2]), 2⟩

/-- as stated for an ARBITRARY table `MergeOkStmt` is false; not reachable: the table is not one the reader builds
    (`mergeOk_tabOf`: it holds on all of those) -/
theorem mergeOk_false_degenerate : ¬ MergeOkStmt degT := by
  intro h
  have h1 := h [degU, degW] degU 0 (by decide +kernel) (by decide +kernel) (by decide +kernel)
  revert h1
  decide +kernel

#print axioms tabOk_tabOf
#print axioms domOk_tabOf
#print axioms mergeOk
#print axioms mergeOk_tabOf
#print axioms mergeOk_false_degenerate

end Ddo.Examples.SopModel
