import DdoModel.Proofs.SpecUtil
import DdoModel.Examples.Sop
import DdoModel.Examples.Tsptw
import DdoModel.Examples.Lcs
import DdoModel.Examples.Srflp
import DdoModel.Examples.Talentsched
import DdoModel.Examples.Alp
/-! The specifications of sop and tsptw enumerate the permutations and take the minimum of `SpecUtil` / `Util` under names of
    their own. -/
namespace Ddo.Examples.Tour
open Ddo Ddo.Examples.Util Ddo.SpecUtil

theorem sop_minimum_eq : Sop.minimum = minOf := by
  funext l; cases l <;> rfl

theorem tsptw_minimum_eq : Tsptw.minimum = minOf := by
  funext l; cases l <;> rfl

theorem sop_perms_eq (l : List Nat) : Sop.perms l = perms l :=
  (inserts_perms_unique (ins := Sop.inserts) (fun _ => rfl) (fun _ _ _ => rfl) rfl (fun _ _ => rfl)).2 l

theorem tsptw_perms_eq (l : List Nat) : Tsptw.perms l = perms l :=
  (inserts_perms_unique (ins := Tsptw.inserts) (fun _ => rfl) (fun _ _ _ => rfl) rfl (fun _ _ => rfl)).2 l

theorem mem_sop_perms {l q : List Nat} : q ∈ Sop.perms l ↔ q.Perm l := sop_perms_eq l ▸ mem_perms

theorem mem_tsptw_perms {l q : List Nat} : q ∈ Tsptw.perms l ↔ q.Perm l := tsptw_perms_eq l ▸ mem_perms

end Ddo.Examples.Tour

/-! The same bridges for lcs, srflp, talentsched and alp (used by their exactness proofs and by the adequacy theorems of `Props/C16.lean`). -/
namespace Ddo.C16
open Ddo.Examples Ddo.Examples.Util Ddo.SpecUtil

theorem lcs_isSubseq (c y : List Int) : Lcs.isSubseq c y = true ↔ c.Sublist y := by
  fun_induction Lcs.isSubseq c y with
  | case1 => simp
  | case2 => simp
  | case3 x xs ys ih => simp [ih]
  | case4 x xs y ys hne ih =>
    rw [ih, List.sublist_cons_iff]
    constructor
    · exact Or.inl
    · rintro (h | ⟨r, hr, _⟩)
      · exact h
      · simp only [List.cons.injEq] at hr; exact absurd hr.1 hne

theorem srflp_perms (l : List Nat) : Srflp.perms l = perms l :=
  (inserts_perms_unique (ins := Srflp.inserts) (fun _ => rfl) (fun _ _ _ => rfl) rfl (fun _ _ => rfl)).2 l

theorem talent_perms (l : List Nat) : Talentsched.perms l = perms l :=
  (inserts_perms_unique (ins := Talentsched.inserts) (fun _ => rfl) (fun _ _ _ => rfl) rfl (fun _ _ => rfl)).2 l

theorem talent_minimum (l : List Int) : Talentsched.minimum l = minOf l := by cases l <;> rfl

theorem talent_sum (l : List Int) : Talentsched.sum l = l.sum := by
  induction l with
  | nil => rfl
  | cons x xs ih => simp [Talentsched.sum, ih]

theorem alp_perms (l : List Nat) : Alp.perms l = perms l :=
  (inserts_perms_unique (ins := Alp.inserts) (fun _ => rfl) (fun _ _ _ => rfl) rfl (fun _ _ => rfl)).2 l

theorem alp_minimum (l : List Int) : Alp.minimum l = minOf l := by cases l <;> rfl

theorem alp_assignments (r k : Nat) : Alp.assignments r k = tuples (List.range r) k := by
  induction k with
  | zero => rfl
  | succ k ih => simp only [Alp.assignments, tuples, ih]

end Ddo.C16
