import DdoModel.Examples.SopProofsBits
/-! One step of the sop model.  On tables with `TabOk` and states with `Inv` the model functions do not panic: they are
    their total forms `mdist`, `canB`, `InDom`, `succSt`, in which the later proofs are written. -/
namespace Ddo.Examples.SopModel
open Ddo Ddo.Examples Ddo.Examples.Util

theorem EInt.addI_mono {a b : EInt} (h : a ≤ b) (c : Int) : a.addI c ≤ b.addI c := EMax.addI_mono h (Int.le_refl c)

theorem and_eq_zero_iff {a b : Nat} : (a &&& b) = 0 ↔ ∀ x, a.testBit x = true → b.testBit x = false := by
  constructor
  · intro h x hx
    have := testBit_of_eq_zero h x
    rw [Nat.testBit_and, hx] at this
    simpa using this
  · intro h
    apply eq_zero_of_testBit
    intro x
    rw [Nat.testBit_and]
    cases hx : a.testBit x with
    | false => rfl
    | true => simp [h x hx]

variable {T : Tab}

def dI (T : Tab) (i j : Nat) : Int := if dfun T i j = -1 then imax else dfun T i j

/-- `min_distance_to` (`isize::MAX` on a panic) -/
def mdist (T : Tab) (s : St) (j : Nat) : Int := (minDist? T s j).getD imax

theorem dI_le_imax (hT : TabOk T) {i j : Nat} (hi : i < T.n) (hj : j < T.n) : dI T i j ≤ imax := by
  unfold dI
  split
  · exact Int.le_refl _
  · exact hT.d_le i j hi hj

theorem minDist?_spec (hT : TabOk T) {s : St} (hp : ∀ p, isPrev s p → p < T.n) {j : Nat} (hj : j < T.n) :
    ∃ w, minDist? T s j = some w ∧ -1 ≤ w ∧ w ≤ imax ∧ (∀ p, isPrev s p → w ≤ dI T p j) ∧
      (w = imax ∨ ∃ p, isPrev s p ∧ dfun T p j ≠ -1 ∧ w = dfun T p j) := by
  cases hs : s.prev with
  | job i =>
    have hi : i < T.n := hp i (by simp [isPrev, hs])
    refine ⟨dI T i j, ?_, ?_, dI_le_imax hT hi hj, ?_, ?_⟩
    · simp only [minDist?, hs, hT.dist i j hi hj, dI]
      rfl
    · unfold dI
      split
      · simp [imax]
      · exact hT.d_ge i j hi hj
    · intro p hpp
      have : p = i := by simpa [isPrev, hs] using hpp
      subst this
      exact Int.le_refl _
    · unfold dI
      split
      · left; rfl
      · rename_i hne
        right
        exact ⟨i, by simp [isPrev, hs], hne, rfl⟩
  | virt c =>
    have hc : ∀ i ∈ bits c, i < T.n := fun i hi => hp i (by simpa [isPrev, hs] using mem_bits.mp hi)
    have hm : (bits c).mapM (fun i => dist? T i j) = some ((bits c).map fun i => dfun T i j) :=
      EMax.mapM_total _ _ _ (fun i hi => hT.dist i j (hc i hi) hj)
    have hval : minDist? T s j = some ((minOf (((bits c).map fun i => dfun T i j).filter (· ≠ -1))).getD imax) := by
      simp only [minDist?, hs, hm]
      rfl
    rw [hval]
    refine ⟨_, rfl, ?_⟩
    by_cases hl : ((bits c).map fun i => dfun T i j).filter (· ≠ -1) = []
    · rw [hl]
      refine ⟨by simp [minOf, imax], by simp [minOf], ?_, Or.inl (by simp [minOf])⟩
      intro p hpp
      have hpc : p ∈ bits c := mem_bits.mpr (by simpa [isPrev, hs] using hpp)
      have : dfun T p j = -1 := by
        by_cases h : dfun T p j = -1
        · exact h
        · have hmem : dfun T p j ∈ ((bits c).map fun i => dfun T i j).filter (· ≠ -1) := by
            rw [List.mem_filter]
            exact ⟨List.mem_map.mpr ⟨p, hpc, rfl⟩, by simpa using h⟩
          rw [hl] at hmem
          cases hmem
      simp [minOf, dI, this]
    · obtain ⟨m, hm1⟩ := Option.ne_none_iff_exists'.mp (mt SpecUtil.minOf_eq_none.mp hl)
      obtain ⟨hm2, hm3⟩ := SpecUtil.minOf_eq_some.mp hm1
      rw [hm1]
      simp only [Option.getD_some]
      rw [List.mem_filter] at hm2
      obtain ⟨hm2, hm4⟩ := hm2
      obtain ⟨p, hpc, hpm⟩ := List.mem_map.mp hm2
      have hm4' : m ≠ -1 := by simpa using hm4
      have hpn := hc p hpc
      refine ⟨?_, ?_, ?_, Or.inr ⟨p, by simpa [isPrev, hs] using mem_bits.mp hpc, by rw [hpm]; exact hm4', hpm.symm⟩⟩
      · rw [← hpm]; exact hT.d_ge p j hpn hj
      · rw [← hpm]; exact hT.d_le p j hpn hj
      · intro q hq
        have hqc : q ∈ bits c := mem_bits.mpr (by simpa [isPrev, hs] using hq)
        unfold dI
        split
        · rw [← hpm]; exact hT.d_le p j hpn hj
        · rename_i hne
          apply hm3
          rw [List.mem_filter]
          exact ⟨List.mem_map.mpr ⟨q, hqc, rfl⟩, by simpa using hne⟩

theorem minDist?_eq (hT : TabOk T) {s : St} (hp : ∀ p, isPrev s p → p < T.n) {j : Nat} (hj : j < T.n) :
    minDist? T s j = some (mdist T s j) := by
  obtain ⟨w, hw, _⟩ := minDist?_spec hT hp hj
  unfold mdist
  rw [hw]; rfl

theorem mdist_spec (hT : TabOk T) {s : St} (hp : ∀ p, isPrev s p → p < T.n) {j : Nat} (hj : j < T.n) :
    -1 ≤ mdist T s j ∧ mdist T s j ≤ imax ∧ (∀ p, isPrev s p → mdist T s j ≤ dI T p j) ∧
      (mdist T s j = imax ∨ ∃ p, isPrev s p ∧ dfun T p j ≠ -1 ∧ mdist T s j = dfun T p j) := by
  obtain ⟨w, hw, h⟩ := minDist?_spec hT hp hj
  have : mdist T s j = w := by unfold mdist; rw [hw]; rfl
  rw [this]; exact h

/-- `can_schedule` -/
def canB (T : Tab) (s : St) (j : Nat) : Bool :=
  ((predOf T j &&& s.must) == 0) &&
  (match s.maybe with
   | none => true
   | some y => decide (card s.must + card (diff y (predOf T j)) ≥ nv T - s.depth))

theorem canSchedule?_eq (hT : TabOk T) (s : St) {j : Nat} (hj : j < T.n) : canSchedule? T s j = some (canB T s j) := by
  unfold canSchedule? canB
  rw [hT.pred_some j hj]
  simp only [Option.bind_eq_bind, Option.bind_some]
  by_cases h : (predOf T j &&& s.must) = 0
  · cases s.maybe <;> simp [h]
  · cases s.maybe <;> simp [h]

theorem canB_iff (s : St) (j : Nat) : canB T s j = true ↔
    (∀ x, (predOf T j).testBit x = true → s.must.testBit x = false) ∧
    (∀ y, s.maybe = some y → nv T - s.depth ≤ card s.must + card (diff y (predOf T j))) := by
  unfold canB
  rw [Bool.and_eq_true, beq_iff_eq, and_eq_zero_iff]
  cases s.maybe with
  | none => simp
  | some y => simp

theorem schedulable_eq (hT : TabOk T) (s : St) (js : List Nat) (hjs : ∀ j ∈ js, j < T.n) :
    schedulableWith? (canSchedule? T) s js = some (js.filter (canB T s)) := by
  unfold schedulableWith?
  rw [EMax.mapM_total _ (fun j => (j, canB T s j)) js (fun j hj => by rw [canSchedule?_eq hT s (hjs j hj)]; rfl)]
  simp only [Option.bind_eq_bind, Option.bind_some, List.filter_map, List.map_map]
  show some _ = some _
  congr 1
  simp [Function.comp_def]

def InDom (T : Tab) (s : St) (j : Nat) : Prop :=
  if s.depth = T.n - 2 then j = T.n - 1
  else ((s.must.testBit j = true ∨ (mb s).testBit j = true) ∧ canB T s j = true)

theorem mem_domain_iff (hT : TabOk T) {s : St} (hs : Inv T s) (hd : s.depth < nv T) (v : Int) :
    v ∈ domain T s ↔ ∃ j : Nat, v = (j : Int) ∧ InDom T s j := by
  have hn : ¬ T.n ≤ 1 := by unfold nv at hd; omega
  unfold domain domain? domainWith? InDom
  rw [if_neg hn]
  by_cases hl : s.depth = T.n - 2
  · simp only [hl, if_true, Option.getD_some, List.mem_singleton]
    constructor
    · intro h; exact ⟨T.n - 1, h, rfl⟩
    · rintro ⟨j, rfl, rfl⟩; rfl
  · simp only [hl, if_false]
    rw [schedulable_eq hT s _ (fun j hj => (hs.must_lt j (mem_bits.mp hj)).2)]
    cases hm : s.maybe with
    | none =>
      simp only [Option.bind_eq_bind, Option.bind_some, mb]
      simp only [pure]
      simp only [Option.bind_some, Option.getD_some, List.append_nil, List.mem_map, List.mem_filter, mem_bits]
      constructor
      · rintro ⟨j, ⟨h1, h2⟩, rfl⟩; exact ⟨j, rfl, Or.inl h1, h2⟩
      · rintro ⟨j, rfl, h1, h2⟩
        rcases h1 with h1 | h1
        · exact ⟨j, ⟨h1, h2⟩, rfl⟩
        · rw [hm] at h1; simp at h1
    | some y =>
      have hy : ∀ j ∈ bits y, j < T.n := fun j hj => (hs.maybe_lt j (by simpa [mb, hm] using mem_bits.mp hj)).2
      have hmb : s.maybe.getD 0 = y := by rw [hm]; rfl
      simp only [schedulable_eq hT s _ hy, Option.bind_eq_bind, Option.bind_some, mb]
      simp only [pure]
      simp only [Option.getD_some, List.mem_map, List.mem_append, List.mem_filter, mem_bits, hmb]
      constructor
      · rintro ⟨j, h, rfl⟩
        rcases h with ⟨h1, h2⟩ | ⟨h1, h2⟩
        · exact ⟨j, rfl, Or.inl h1, h2⟩
        · exact ⟨j, rfl, Or.inr h1, h2⟩
      · rintro ⟨j, rfl, h1, h2⟩
        rcases h1 with h1 | h1
        · exact ⟨j, Or.inl ⟨h1, h2⟩, rfl⟩
        · exact ⟨j, Or.inr ⟨h1, h2⟩, rfl⟩

theorem InDom.lt (hT : TabOk T) {s : St} (hs : Inv T s) {j : Nat} (h : InDom T s j) : j < T.n := by
  unfold InDom at h
  split at h
  · have := hT.n_pos; omega
  · rcases h.1 with h1 | h1
    · exact (hs.must_lt j h1).2
    · exact (hs.maybe_lt j h1).2

theorem canB_count {s : St} (hs : Inv T s) {j : Nat} (hcan : canB T s j = true) :
    nv T - s.depth ≤ card s.must + card (diff (mb s) (predOf T j)) := by
  obtain ⟨_, hc2⟩ := (canB_iff s j).mp hcan
  cases hm : s.maybe with
  | none =>
    have hc := hs.count
    rw [mb_of_none hm, card_zero] at hc
    omega
  | some y =>
    rw [mb_of_some hm]
    exact hc2 y hm

/-- every other job is a predecessor of the last one (`hrow`): `canB` admits it only when nothing else is pending -/
theorem inDom_ne_last (hT : TabOk T) (hrow : ∀ j, j < T.n - 1 → dfun T (T.n - 1) j = -1) {s : St} (hs : Inv T s) (hlast : s.must.testBit (T.n - 1) = true)
    (hd : s.depth + 1 < nv T) {j : Nat} (hj : InDom T s j) : j ≠ T.n - 1 := by
  intro hjl
  subst hjl
  unfold InDom at hj
  have hl : ¬ s.depth = T.n - 2 := by unfold nv at hd; omega
  rw [if_neg hl] at hj
  obtain ⟨_, hcan⟩ := hj
  have hcnt := canB_count hs hcan
  obtain ⟨hc1, _⟩ := (canB_iff s (T.n - 1)).mp hcan
  have hn : T.n - 1 < T.n := by have := hT.n_pos; omega
  have hpred : ∀ x, x < T.n - 1 → (predOf T (T.n - 1)).testBit x = true := by
    intro x hx
    exact (hT.pred_spec (T.n - 1) x hn).mpr ⟨by omega, hrow x hx⟩
  have h1 : card s.must ≤ 1 := by
    rw [← card_single (T.n - 1)]
    apply card_mono
    intro x hx
    rw [testBit_single]
    have hx2 := (hs.must_lt x hx).2
    by_cases hxl : x < T.n - 1
    · rw [hc1 x (hpred x hxl)] at hx; cases hx
    · simp; omega
  have h2 : card (diff (mb s) (predOf T (T.n - 1))) = 0 := by
    have : diff (mb s) (predOf T (T.n - 1)) = 0 := by
      apply eq_zero_of_testBit
      intro x
      rw [testBit_diff]
      cases hmx : (mb s).testBit x with
      | false => rfl
      | true =>
        have hx2 := (hs.maybe_lt x hmx).2
        by_cases hxl : x < T.n - 1
        · rw [hpred x hxl]; rfl
        · have : x = T.n - 1 := by omega
          subst this
          rw [hs.disj _ hlast] at hmx
          cases hmx
    rw [this, card_zero]
  omega

def succSt (T : Tab) (s : St) (j : Nat) : St :=
  { prev := .job j, must := diff s.must (single j),
    maybe := s.maybe.map fun y => diff (diff y (single j)) (predOf T j), depth := s.depth + 1 }

theorem trans?_eq (hT : TabOk T) (s : St) {j : Nat} (hj : j < T.n) (x : Nat) :
    trans? T s ⟨x, (j : Int)⟩ = some (succSt T s j) := by
  have h256 := hT.n_le
  unfold trans? succSt
  have hc : ¬ ((j : Int) < 0 ∨ (j : Int) ≥ 256) := by omega
  simp only [hc, if_false, Int.toNat_natCast]
  cases s.maybe with
  | none => rfl
  | some y => simp [hT.pred_some j hj]

theorem cost?_eq (hT : TabOk T) {s : St} (hp : ∀ p, isPrev s p → p < T.n) {j : Nat} (hj : j < T.n) (x : Nat) :
    cost? T s ⟨x, (j : Int)⟩ = some (-mdist T s j) := by
  unfold cost?
  have hc : ¬ ((j : Int) < 0) := by omega
  simp only [hc, if_false, Int.toNat_natCast, minDist?_eq hT hp hj, Option.bind_eq_bind, Option.bind_some]
  obtain ⟨h1, h2, _⟩ := mdist_spec hT hp hj
  unfold chk
  rw [if_pos]
  simp only [imin, imax] at *
  omega

theorem mb_succSt (s : St) (j : Nat) : mb (succSt T s j) = diff (diff (mb s) (single j)) (predOf T j) := by
  unfold mb succSt
  cases s.maybe with
  | none =>
    simp only [Option.map_none, Option.getD_none]
    apply Nat.eq_of_testBit_eq
    intro x
    simp [testBit_diff]
  | some y => rfl

theorem diff_single_of_not {a j : Nat} (h : a.testBit j = false) : diff a (single j) = a := by
  apply Nat.eq_of_testBit_eq
  intro x
  rw [testBit_diff, testBit_single]
  by_cases hx : j = x
  · subst hx; simp [h]
  · simp [hx]

theorem diff_comm (a b c : Nat) : diff (diff a b) c = diff (diff a c) b := by
  apply Nat.eq_of_testBit_eq
  intro x
  simp only [testBit_diff]
  cases a.testBit x <;> cases b.testBit x <;> cases c.testBit x <;> rfl

theorem inv_succ (hT : TabOk T) {s : St} (hs : Inv T s) (hd : s.depth < nv T) {j : Nat} (hj : InDom T s j) :
    Inv T (succSt T s j) := by
  have hjn := hj.lt hT hs
  refine ⟨?_, ?_, ?_, ?_, ?_, ?_⟩
  · show s.depth + 1 ≤ nv T
    omega
  · intro x hx
    have : (diff s.must (single j)).testBit x = true := hx
    rw [testBit_diff] at this
    exact hs.must_lt x (by simp at this; exact this.1)
  · intro x hx
    rw [mb_succSt, testBit_diff, testBit_diff] at hx
    simp at hx
    exact hs.maybe_lt x hx.1.1
  · intro x hx
    have h1 : (diff s.must (single j)).testBit x = true := hx
    rw [testBit_diff] at h1
    simp at h1
    rw [mb_succSt, testBit_diff, testBit_diff, hs.disj x h1.1]
    rfl
  · intro p hp
    have : p = j := hp
    omega
  · show nv T - (s.depth + 1) ≤ card (diff s.must (single j)) + card (mb (succSt T s j))
    rw [mb_succSt]
    unfold InDom at hj
    split at hj
    · unfold nv; omega
    · obtain ⟨hmem, hcan⟩ := hj
      obtain ⟨_, hcnt⟩ := (canB_iff s j).mp hcan
      cases hm : s.maybe with
      | none =>
        have h0 : mb s = 0 := by simp [mb, hm]
        have hc := hs.count
        rw [h0, card_zero] at hc
        have := card_diff_single_ge s.must j
        omega
      | some y =>
        have hy : mb s = y := by simp [mb, hm]
        have hc := hcnt y hm
        rw [hy, diff_comm]
        by_cases hjm : s.must.testBit j = true
        · have hjy : y.testBit j = false := by rw [← hy]; exact hs.disj j hjm
          have h1 := card_diff_single hjm
          have h2 : (diff y (predOf T j)).testBit j = false := by rw [testBit_diff, hjy]; rfl
          rw [diff_single_of_not h2]
          omega
        · have hjm' : s.must.testBit j = false := by simpa using hjm
          rw [diff_single_of_not hjm']
          have := card_diff_single_ge (diff y (predOf T j)) j
          omega

def stepVal (T : Tab) (fuel : Nat) (s : St) (v : Int) : EInt :=
  match trans? T s ⟨s.depth, v⟩, cost? T s ⟨s.depth, v⟩ with
  | some s2, some c => (bestRemF T .code fuel s2).addI c
  | _, _ => none

theorem bestRemF_done (fuel : Nat) (s : St) (h : nv T ≤ s.depth) : bestRemF T .code fuel s = some 0 := by
  cases fuel with
  | zero => rfl
  | succ f => simp only [bestRemF]; rw [if_pos h]

theorem bestRemF_succ (fuel : Nat) (s : St) (h : s.depth < nv T) :
    bestRemF T .code (fuel + 1) s = (domain T s).foldl (fun acc v => EInt.max acc (stepVal T fuel s v)) none := by
  simp only [bestRemF]
  rw [if_neg (by omega)]
  congr 1
  funext acc v
  unfold stepVal
  cases trans? T s ⟨s.depth, v⟩ <;> cases cost? T s ⟨s.depth, v⟩ <;> cases acc <;> simp [EInt.max]

theorem stepVal_eq (hT : TabOk T) {s : St} (hs : Inv T s) (fuel : Nat) {j : Nat} (hj : j < T.n) :
    stepVal T fuel s (j : Int) = (bestRemF T .code fuel (succSt T s j)).addI (-mdist T s j) := by
  unfold stepVal
  rw [trans?_eq hT s hj, cost?_eq hT hs.prev_lt hj]

theorem bestRemF_ge (hT : TabOk T) {s : St} (hs : Inv T s) (hd : s.depth < nv T) (fuel : Nat) {j : Nat}
    (hj : InDom T s j) :
    (bestRemF T .code fuel (succSt T s j)).addI (-mdist T s j) ≤ bestRemF T .code (fuel + 1) s := by
  rw [bestRemF_succ fuel s hd, ← stepVal_eq hT hs fuel (hj.lt hT hs)]
  exact (EMax.foldl_max_spec (stepVal T fuel s) (domain T s) none).2.1 _
    ((mem_domain_iff hT hs hd _).mpr ⟨j, rfl, hj⟩)

theorem bestRemF_att (hT : TabOk T) {s : St} (hs : Inv T s) (hd : s.depth < nv T) (fuel : Nat) {h : Int}
    (hh : bestRemF T .code (fuel + 1) s = some h) :
    ∃ j, InDom T s j ∧ ∃ h', bestRemF T .code fuel (succSt T s j) = some h' ∧ h = h' + -mdist T s j := by
  rw [bestRemF_succ fuel s hd] at hh
  obtain ⟨v, hv, e⟩ := EMax.foldl_max_none_att (stepVal T fuel s) _ hh
  obtain ⟨j, rfl, hj⟩ := (mem_domain_iff hT hs hd v).mp hv
  rw [stepVal_eq hT hs fuel (hj.lt hT hs)] at e
  exact ⟨j, hj, EInt.addI_eq_some e⟩

theorem succSt_depth (s : St) (j : Nat) : (succSt T s j).depth = s.depth + 1 := rfl

end Ddo.Examples.SopModel
