import DdoModel.Examples.SopProofsMerge
import DdoModel.Proofs.MddCoverRel
import DdoModel.Proofs.WfRelSteps
import DdoModel.Examples.SopProofsExact
import DdoModel.Examples.SopProofsRub
/-! The sop model (repaired code) is well-formed relative to valid layers (`WfRelV`), and the closed corollary
    `sop_relaxed_ub` against the specification `Sop.spec`.

    The potential is `hStar`: the best value-to-go among the exact states a merged state stands for (`Conc`) — NOT the relaxed
    DP's own value-to-go `bestRem`, which the rough bound does not dominate (`RubDominatesRelaxedDpStmt`: the relaxed DP may leave
    mandatory jobs of a merged state out).  Its clauses come from the simulation of `SopProofsMerge`: a state simulates every
    exact state it stands for (`Conc.sim`), so a best decision of an exact state is a decision of the state that stands for it
    and the successors correspond (`conc_succ`), and `merge X` stands for everything its members stand for (`conc_merge`).

    Layer validity `V` adds to `Inv` what the bound and the costs need: the last job stays mandatory before the last layer
    (the hypothesis of `rub_conc`), and every pending job can follow one of the previous jobs, so that `min_distance_to` is a
    distance and not `isize::MAX` on the decisions of a valid state (`mdist_valid`, for `noClamp`). -/

namespace Ddo.Examples.SopModel
open Ddo Ddo.Examples Ddo.Examples.Util

variable {T : Tab}

theorem mem_concretize (s u : St) : u ∈ concretize T s ↔
    ∃ p, isPrev s p ∧ ∃ Y : List Nat, Y.Sublist (bits (mb s)) ∧ Y.length = nv T - s.depth - card s.must ∧
      (s.must ||| ofList Y).testBit p = false ∧
      u = { prev := .job p, must := s.must ||| ofList Y, maybe := none, depth := s.depth } := by
  unfold concretize
  simp only [List.mem_flatMap, List.mem_filterMap, List.mem_filter, SpecUtil.mem_sublists, beq_iff_eq, has]
  constructor
  · rintro ⟨p, hp, Y, ⟨hY1, hY2⟩, hu⟩
    refine ⟨p, ?_, Y, hY1, hY2, ?_⟩
    · unfold isPrev
      cases hs : s.prev with
      | job i => rw [hs] at hp; simpa using hp
      | virt c => rw [hs] at hp; exact mem_bits.mp hp
    · cases hb : (s.must ||| ofList Y).testBit p with
      | true => simp [hb] at hu
      | false => simp [hb] at hu; exact ⟨rfl, hu.symm⟩
  · rintro ⟨p, hp, Y, hY1, hY2, hb, hu⟩
    refine ⟨p, ?_, Y, ⟨hY1, hY2⟩, ?_⟩
    · unfold isPrev at hp
      cases hs : s.prev with
      | job i => rw [hs] at hp; simp [hp]
      | virt c => rw [hs] at hp; exact mem_bits.mpr hp
    · simp [hb, hu]

theorem card_must_or (s : St) (hs : Inv T s) {Y : List Nat} (hY : Y.Sublist (bits (mb s))) :
    card (s.must ||| ofList Y) = card s.must + Y.length := by
  rw [card_union_disj, card_ofList Y (List.Nodup.sublist hY (bits_nodup _))]
  intro x hx
  rw [testBit_ofList]
  have := hs.disj x hx
  simp only [decide_eq_false_iff_not]
  intro hxY
  rw [mem_bits.mp (hY.subset hxY)] at this
  cases this

/-- `hc` (part of `validB`) is needed: with more mandatory jobs than positions left the enumeration still answers a state (no
    optional job added), which `Conc` excludes -/
theorem mem_concretize_iff {s : St} (hs : Inv T s) (hc : card s.must ≤ nv T - s.depth) (u : St) :
    u ∈ concretize T s ↔ Conc T s u := by
  rw [mem_concretize]
  constructor
  · rintro ⟨p, hp, Y, hY1, hY2, hb, rfl⟩
    refine ⟨⟨p, rfl, hp, hb⟩, rfl, rfl, ?_, ?_, ?_⟩
    · intro x hx
      show (s.must ||| ofList Y).testBit x = true
      rw [Nat.testBit_or, hx]; rfl
    · intro x hx
      have hx' : (s.must ||| ofList Y).testBit x = true := hx
      rw [Nat.testBit_or, Bool.or_eq_true, testBit_ofList] at hx'
      rcases hx' with h | h
      · exact Or.inl h
      · exact Or.inr (mem_bits.mp (hY1.subset (by simpa using h)))
    · show card (s.must ||| ofList Y) = _
      rw [card_must_or s hs hY1, hY2]
      omega
  · intro h
    obtain ⟨p, hp1, hp2, hp3⟩ := h.prev
    let Y := (bits (mb s)).filter u.must.testBit
    have hY1 : Y.Sublist (bits (mb s)) := List.filter_sublist
    have hU : s.must ||| ofList Y = u.must := by
      apply Nat.eq_of_testBit_eq
      intro x
      rw [Nat.testBit_or, testBit_ofList]
      cases hx : u.must.testBit x with
      | true =>
        rcases h.hi x hx with h1 | h1
        · rw [h1]; rfl
        · have : x ∈ Y := List.mem_filter.mpr ⟨mem_bits.mpr h1, hx⟩
          simp [this]
      | false =>
        have h1 : s.must.testBit x = false := by
          cases h1 : s.must.testBit x with
          | false => rfl
          | true => rw [h.lo x h1] at hx; cases hx
        have h2 : x ∉ Y := fun hm => by rw [(List.mem_filter.mp hm).2] at hx; cases hx
        simp [h1, h2]
    have hcard := card_must_or s hs hY1
    rw [hU, h.card] at hcard
    refine ⟨p, hp2, Y, hY1, by omega, by rw [hU]; exact hp3, ?_⟩
    rw [hU]
    cases u with
    | mk pr mu ma de =>
      have e1 : pr = .job p := hp1
      have e2 : ma = none := h.maybe
      have e3 : de = s.depth := h.depth
      subst e1 e2 e3
      rfl

/-- the potential: the best value-to-go among the exact states `s` stands for (`none` when `s` has more mandatory jobs than
    positions left: it stands for no exact state) -/
def hStar (T : Tab) (s : St) : EInt := if card s.must ≤ nv T - s.depth then bestRemConc T s else none

theorem conc_card_must_le {s u : St} (hc : Conc T s u) : card s.must ≤ nv T - s.depth := by
  rw [← hc.card]
  exact card_mono hc.lo

theorem hStar_ge {s u : St} (hs : Inv T s) (hc : Conc T s u) : bestRem T u ≤ hStar T s := by
  unfold hStar bestRemConc
  rw [if_pos (conc_card_must_le hc)]
  exact (EMax.foldl_max_spec (bestRem T) (concretize T s) none).2.1 u
    ((mem_concretize_iff hs (conc_card_must_le hc) u).mpr hc)

theorem hStar_att {s : St} (hs : Inv T s) {h : Int} (hh : hStar T s = some h) :
    ∃ u, Conc T s u ∧ bestRem T u = some h := by
  unfold hStar at hh
  split at hh
  · rename_i hc
    unfold bestRemConc at hh
    obtain ⟨u, hu, e⟩ := EMax.foldl_max_none_att (bestRem T) _ hh
    exact ⟨u, (mem_concretize_iff hs hc u).mp hu, e⟩
  · cases hh

theorem hStar_eq_of_validB {s : St} (h : validB T s = true) : hStar T s = bestRemConc T s := by
  unfold hStar
  rw [if_pos]
  unfold validB at h
  simp only [Bool.and_eq_true, decide_eq_true_eq] at h
  exact h.1.2

theorem bestRemConc_le {s : St} (hT : TabOk T) (hv : validB T s = true) {r : Int}
    (h : ∀ u, Conc T s u → bestRem T u ≤ some r) : bestRemConc T s ≤ some r := by
  rw [← hStar_eq_of_validB hv]
  cases hh : hStar T s with
  | none => exact EInt.none_le _
  | some g =>
    obtain ⟨u, hu, hg⟩ := hStar_att (inv_of_validB hT hv) hh
    rw [← hg]; exact h u hu

end Ddo.Examples.SopModel

namespace Ddo.Examples.SopModel
open Ddo Ddo.Examples Ddo.Examples.Util

variable {T : Tab}

theorem nextVar_some {k : Nat} {L : List St} {x : Nat} (h : (problem T).nextVar k L = some x) : k < nv T ∧ x = k := by
  have h' : nextVar T k = some x := h
  unfold nextVar at h'
  split at h'
  · rename_i hk
    simp only [Option.some.injEq] at h'
    exact ⟨hk, h'.symm⟩
  · cases h'

theorem nextVar_iff (k : Nat) (L : List St) (x : Nat) : (problem T).nextVar k L = some x ↔ k < nv T ∧ x = k := by
  constructor
  · exact nextVar_some
  · rintro ⟨hk, rfl⟩
    show nextVar T x = some x
    unfold nextVar
    rw [if_pos hk]

theorem nextVar_none {k : Nat} {L : List St} (h : (problem T).nextVar k L = none) : nv T ≤ k := by
  have h' : nextVar T k = none := h
  unfold nextVar at h'
  split at h'
  · cases h'
  · omega

theorem ptrans_eq (hT : TabOk T) (s : St) {j : Nat} (hj : j < T.n) (x : Nat) :
    (problem T).trans s ⟨x, (j : Int)⟩ = succSt T s j := by
  show (trans? T s ⟨x, (j : Int)⟩).getD s = _
  rw [trans?_eq hT s hj]
  rfl

theorem pcost_eq (hT : TabOk T) {s : St} (hs : Inv T s) {j : Nat} (hj : j < T.n) (x : Nat) (s2 : St) :
    (problem T).cost s s2 ⟨x, (j : Int)⟩ = -mdist T s j := by
  show (cost? T s ⟨x, (j : Int)⟩).getD 0 = _
  rw [cost?_eq hT hs.prev_lt hj]
  rfl

theorem pdomain_eq (x : Nat) (s : St) : (problem T).domain x s = domain T s := rfl

def H (T : Tab) : Nat → St → EInt := fun _ s => hStar T s

/-- layer validity; the last clause (every pending job can follow one of the previous jobs) is the invariant the repaired
    `transition` maintains -/
def V (T : Tab) : Nat → St → Prop := fun k s => Inv T s ∧ s.depth = k ∧
  (k < nv T → s.must.testBit (T.n - 1) = true) ∧
  (k < nv T → ∀ x, (s.must.testBit x = true ∨ (mb s).testBit x = true) → ∃ p, isPrev s p ∧ dfun T p x ≠ -1)

theorem card_eq_zero {m : Nat} (h : card m = 0) (x : Nat) : m.testBit x = false := by
  cases hb : m.testBit x with
  | false => rfl
  | true =>
    have hx := mem_bits.mpr hb
    have : bits m = [] := List.eq_nil_of_length_eq_zero h
    rw [this] at hx
    cases hx

theorem v_succ (hT : TabOk T) (hD : DomOk T) {k : Nat} {s : St} (hV : V T k s) (hk : k < nv T) {j : Nat}
    (hj : InDom T s j) : V T (k + 1) (succSt T s j) := by
  obtain ⟨hs, hdep, hlast, hfol⟩ := hV
  have hd : s.depth < nv T := by omega
  have hjn := hj.lt hT hs
  refine ⟨inv_succ hT hs hd hj, by show s.depth + 1 = k + 1; omega, ?_, ?_⟩
  · intro hk1
    have hne := inDom_ne_last hT hD.last_row hs (hlast hk) (by omega) hj
    show (diff s.must (single j)).testBit (T.n - 1) = true
    rw [testBit_diff, hlast hk, testBit_single]
    simp [hne]
  · intro hk1 x hx
    have hl : ¬ s.depth = T.n - 2 := by unfold nv at hk1; omega
    unfold InDom at hj
    rw [if_neg hl] at hj
    obtain ⟨hc1, _⟩ := (canB_iff s j).mp hj.2
    refine ⟨j, rfl, ?_⟩
    have hxp : (predOf T j).testBit x = false ∧ x < T.n := by
      rcases hx with hx | hx
      · have hx' : (diff s.must (single j)).testBit x = true := hx
        rw [testBit_diff] at hx'
        simp only [Bool.and_eq_true] at hx'
        refine ⟨?_, (hs.must_lt x hx'.1).2⟩
        cases hp : (predOf T j).testBit x with
        | false => rfl
        | true => rw [hc1 x hp] at hx'; exact absurd hx'.1 (by simp)
      · rw [mb_succSt, testBit_diff, testBit_diff] at hx
        simp only [Bool.and_eq_true, Bool.not_eq_true'] at hx
        exact ⟨hx.2, (hs.maybe_lt x hx.1.1).2⟩
    intro hdx
    have := (hT.pred_spec j x hjn).mpr ⟨hxp.2, hdx⟩
    rw [hxp.1] at this
    cases this

theorem v_merge (hT : TabOk T) {k : Nat} {X : List St} (hne : X ≠ []) (hX : ∀ u ∈ X, V T k u) : V T k (merge X) := by
  obtain ⟨u, hu⟩ := List.exists_mem_of_ne_nil _ hne
  have hX' : ∀ s ∈ X, Inv T s ∧ s.depth = u.depth := fun s hs => ⟨(hX s hs).1, by rw [(hX s hs).2.1, (hX u hu).2.1]⟩
  refine ⟨inv_merge X hu hX', merge_depth X k hne (fun s hs => (hX s hs).2.1), ?_, ?_⟩
  · intro hk
    refine (merge_must X _).mpr ⟨by have := hT.n_le; omega, fun s hs => (hX s hs).2.2.1 hk⟩
  · intro hk x hx
    have : ∃ s ∈ X, s.must.testBit x = true ∨ (mb s).testBit x = true := by
      rcases hx with hx | hx
      · exact ⟨u, hu, Or.inl (((merge_must X x).mp hx).2 u hu)⟩
      · exact ((merge_mb X x).mp hx).1
    obtain ⟨s, hs, hsx⟩ := this
    obtain ⟨p, hp, hpd⟩ := (hX s hs).2.2.2 hk x hsx
    exact ⟨p, (merge_isPrev X p).mpr ⟨s, hs, hp⟩, hpd⟩

theorem initSt_must (T : Tab) : (initSt T).must = allJobs T.n := rfl

theorem inv_init (hT : TabOk T) : Inv T (initSt T) := by
  have hmb : mb (initSt T) = 0 := rfl
  refine ⟨Nat.zero_le _, ?_, ?_, ?_, ?_, ?_⟩
  · intro x hx
    rw [initSt_must, testBit_allJobs] at hx
    simpa using hx
  · intro x hx
    rw [hmb, Nat.zero_testBit] at hx; cases hx
  · intro x _
    rw [hmb, Nat.zero_testBit]
  · intro p hp
    have : p = 0 := hp
    have := hT.n_pos
    omega
  · rw [hmb, card_zero]
    show nv T - 0 ≤ card (ofList ((List.range T.n).drop 1)) + 0
    rw [card_ofList _ (List.Nodup.sublist (List.drop_sublist 1 _) List.nodup_range), List.length_drop, List.length_range]
    unfold nv
    omega

theorem v_init (hT : TabOk T) (hD : DomOk T) : V T 0 (initSt T) := by
  refine ⟨inv_init hT, rfl, ?_, ?_⟩
  · intro hk
    rw [initSt_must, testBit_allJobs]
    unfold nv at hk
    simp only [decide_eq_true_eq]
    omega
  · intro _ x hx
    have hmb : mb (initSt T) = 0 := rfl
    rw [hmb, Nat.zero_testBit, initSt_must, testBit_allJobs] at hx
    have hx' : 0 < x ∧ x < T.n := by simpa using hx
    refine ⟨0, rfl, ?_⟩
    have := hD.first_row x hx'.1 hx'.2
    omega

theorem Conc.sim {s u : St} (hc : Conc T s u) : Sim u s := by
  obtain ⟨p, hp, hip, _⟩ := hc.prev
  refine ⟨hc.depth, fun q hq => ?_, hc.lo, fun x hx => ?_⟩
  · unfold isPrev at hq
    rw [hp] at hq
    have : q = p := hq
    rw [this]; exact hip
  · rcases hx with hx | hx
    · exact hc.hi x hx
    · rw [mb_of_none hc.maybe, Nat.zero_testBit] at hx; cases hx

theorem inv_conc {s u : St} (hs : Inv T s) (hc : Conc T s u) : Inv T u := by
  have hmb : mb u = 0 := mb_of_none hc.maybe
  refine ⟨by rw [hc.depth]; exact hs.depth_le, ?_, ?_, ?_, ?_, ?_⟩
  · intro x hx
    rcases hc.hi x hx with h | h
    · exact hs.must_lt x h
    · exact hs.maybe_lt x h
  · intro x hx
    rw [hmb, Nat.zero_testBit] at hx; cases hx
  · intro x _
    rw [hmb, Nat.zero_testBit]
  · intro q hq
    exact hs.prev_lt q (hc.sim.prev q hq)
  · rw [hc.depth, hc.card]
    omega

theorem inDom_conc {s u : St} (hs : Inv T s) (hc : Conc T s u) {j : Nat} (hj : InDom T u j) : InDom T s j :=
  inDom_sim hc.sim (inv_conc hs hc) hj

theorem mdist_conc (hT : TabOk T) {s u : St} (hs : Inv T s) (hc : Conc T s u) {j : Nat} (hj : j < T.n) :
    mdist T s j ≤ mdist T u j :=
  mdist_anti hT hc.sim (inv_conc hs hc) hs hj

theorem conc_succ {k : Nat} {s u : St} (hV : V T k s) (hk : k < nv T) (hc : Conc T s u) {j : Nat} (hj : InDom T u j) :
    Conc T (succSt T s j) (succSt T u j) := by
  obtain ⟨hs, hdep, hlast, _⟩ := hV
  have hmb : mb u = 0 := mb_of_none hc.maybe
  have hcard := hc.card
  -- no other job of `u` is a predecessor of `j`: the repaired `transition` of `s`, which takes the predecessors of `j` out of
  -- `maybe`, keeps the jobs of `u`
  have hkey : u.must.testBit j = true ∧ ∀ x, u.must.testBit x = true → x ≠ j → (predOf T j).testBit x = false := by
    unfold InDom at hj
    rw [hc.depth] at hj
    by_cases hl : s.depth = T.n - 2
    · rw [if_pos hl] at hj
      subst hj
      have hjl := hc.lo _ (hlast hk)
      refine ⟨hjl, ?_⟩
      intro x hx hne
      have h1 := card_diff_single hjl
      have h0 : card (diff u.must (single (T.n - 1))) = 0 := by unfold nv at hcard hk; omega
      have := card_eq_zero h0 x
      rw [testBit_diff, hx, testBit_single] at this
      have hne' : ¬ T.n - 1 = x := fun e => hne e.symm
      simp [hne'] at this
    · rw [if_neg hl] at hj
      obtain ⟨hmem, hcan⟩ := hj
      obtain ⟨hc1, _⟩ := (canB_iff u j).mp hcan
      refine ⟨?_, ?_⟩
      · rcases hmem with h | h
        · exact h
        · rw [hmb, Nat.zero_testBit] at h; cases h
      · intro x hx _
        cases hp : (predOf T j).testBit x with
        | false => rfl
        | true => rw [hc1 x hp] at hx; cases hx
  obtain ⟨hju, hnp⟩ := hkey
  refine ⟨⟨j, rfl, rfl, ?_⟩, ?_, ?_, ?_, ?_, ?_⟩
  · show (diff u.must (single j)).testBit j = false
    rw [testBit_diff, testBit_single]; simp
  · show u.maybe.map _ = none
    rw [hc.maybe]; rfl
  · show u.depth + 1 = s.depth + 1
    rw [hc.depth]
  · intro x hx
    have hx' : (diff s.must (single j)).testBit x = true := hx
    show (diff u.must (single j)).testBit x = true
    rw [testBit_diff] at hx' ⊢
    simp only [Bool.and_eq_true] at hx' ⊢
    exact ⟨hc.lo x hx'.1, hx'.2⟩
  · intro x hx
    have hx' : (diff u.must (single j)).testBit x = true := hx
    rw [mb_succSt]
    show (diff s.must (single j)).testBit x = true ∨ _
    rw [testBit_diff, testBit_single] at hx'
    simp only [Bool.and_eq_true, Bool.not_eq_true', decide_eq_false_iff_not] at hx'
    have hxj : x ≠ j := fun e => hx'.2 e.symm
    simp only [testBit_diff, testBit_single]
    rcases hc.hi x hx'.1 with h | h
    · left; simp [h, hx'.2]
    · right; simp [h, hx'.2, hnp x hx'.1 hxj]
  · show card (diff u.must (single j)) = nv T - (s.depth + 1)
    have := card_diff_single hju
    omega

theorem conc_merge {X : List St} {u w : St} (hu : u ∈ X) (hX : ∀ s ∈ X, Inv T s ∧ s.depth = u.depth)
    (hc : Conc T u w) : Conc T (merge X) w := by
  have hd := merge_depth X u.depth (List.ne_nil_of_mem hu) (fun s hs => (hX s hs).2)
  obtain ⟨p, hp, hip, hwp⟩ := hc.prev
  refine ⟨⟨p, hp, (merge_isPrev X p).mpr ⟨u, hu, hip⟩, hwp⟩, hc.maybe, by rw [hd]; exact hc.depth, ?_, ?_, ?_⟩
  · intro x hx
    exact hc.lo x (((merge_must X x).mp hx).2 u hu)
  · intro x hx
    exact merge_pend X hu x (hc.hi x hx)
  · rw [hd]; exact hc.card

theorem mdist_nonneg (hT : TabOk T) {s : St} (hs : Inv T s) {j : Nat} (hj : j < T.n) : 0 ≤ mdist T s j := by
  obtain ⟨h1, _, _, h4⟩ := mdist_spec hT hs.prev_lt hj
  rcases h4 with h4 | ⟨p, hp, hne, h4⟩
  · rw [h4]; simp [imax]
  · rw [h4] at h1 ⊢
    omega

theorem bestRemF_le_zero (hT : TabOk T) : ∀ (fuel : Nat) (s : St) (h : Int), Inv T s →
    bestRemF T .code fuel s = some h → h ≤ 0 := by
  intro fuel
  induction fuel with
  | zero =>
    intro s h _ hh
    have : (some 0 : EInt) = some h := hh
    cases this
    exact Int.le_refl _
  | succ f ih =>
    intro s h hs hh
    by_cases hd : nv T ≤ s.depth
    · rw [bestRemF_done _ s hd] at hh
      cases hh
      exact Int.le_refl _
    · have hd' : s.depth < nv T := by omega
      obtain ⟨j, hj, h', hh', he⟩ := bestRemF_att hT hs hd' f hh
      have h1 := ih _ _ (inv_succ hT hs hd' hj) hh'
      have h2 := mdist_nonneg hT hs (hj.lt hT hs)
      omega

theorem bestRem_le_zero (hT : TabOk T) {s : St} (hs : Inv T s) {h : Int} (hh : bestRem T s = some h) : h ≤ 0 :=
  bestRemF_le_zero hT _ s h hs hh

def Small (T : Tab) (B0 : Int) : Prop := ∀ i j, i < T.n → j < T.n → dfun T i j ≤ B0

theorem mdist_valid (hT : TabOk T) {k : Nat} {s : St} (hV : V T k s) (hk : k < nv T) {j : Nat} (hj : InDom T s j) :
    ∃ p, p < T.n ∧ dfun T p j ≠ -1 ∧ 0 ≤ mdist T s j ∧ mdist T s j ≤ dfun T p j := by
  obtain ⟨hs, hdep, hlast, hfol⟩ := hV
  have hjn := hj.lt hT hs
  have hpend : s.must.testBit j = true ∨ (mb s).testBit j = true := by
    unfold InDom at hj
    split at hj
    · subst hj; exact Or.inl (hlast hk)
    · exact hj.1
  obtain ⟨p, hp, hne⟩ := hfol hk j hpend
  obtain ⟨_, _, h3, _⟩ := mdist_spec hT hs.prev_lt hjn
  have := h3 p hp
  unfold dI at this
  rw [if_neg hne] at this
  exact ⟨p, hs.prev_lt p hp, hne, mdist_nonneg hT hs hjn, this⟩

theorem noClamp (hT : TabOk T) {B0 : Int} (hB0 : 0 ≤ B0) (hsmall : Small T B0)
    (hprod : ((nv T : Int) + 2) * B0 ≤ 4611686018427387904) :
    NoClampRel (problem T) (relaxation T) (V T) 0 B0 B0 where
  nonneg := hB0
  le := Int.le_refl _
  root := ⟨by omega, hB0⟩
  cost := by
    intro k L x s d hx _ hV hd
    obtain ⟨hk, rfl⟩ := nextVar_some hx
    have hd' : s.depth < nv T := by have := hV.2.1; omega
    obtain ⟨j, rfl, hj⟩ := (mem_domain_iff hT hV.1 hd' d).mp hd
    have hjn := hj.lt hT hV.1
    rw [pcost_eq hT hV.1 hjn]
    obtain ⟨p, hp, _, h0, h1⟩ := mdist_valid hT hV hk hj
    have := hsmall p j hp hjn
    omega
  relax := by
    intro k X u src d c _ _ hc
    rw [relax_eq]
    exact hc
  small := hprod

theorem att_hStar (hT : TabOk T) {k : Nat} {s : St} (hV : V T k s) (hk : k < nv T) {h : Int}
    (hh : hStar T s = some h) :
    ∃ j, InDom T s j ∧ ∃ h', hStar T (succSt T s j) = some h' ∧ h ≤ -mdist T s j + h' := by
  have hs := hV.1
  have hdep := hV.2.1
  obtain ⟨u, hc, hb⟩ := hStar_att hs hh
  have hu := inv_conc hs hc
  have hdu : u.depth < nv T := by rw [hc.depth]; omega
  obtain ⟨f, hf⟩ : ∃ f, nv T - u.depth = f + 1 := ⟨nv T - u.depth - 1, by omega⟩
  unfold bestRem at hb
  rw [hf] at hb
  obtain ⟨j, hj, h', hh', he⟩ := bestRemF_att hT hu hdu f hb
  have hjs := inDom_conc hs hc hj
  have hjn := hj.lt hT hu
  have hd : s.depth < nv T := by omega
  have hc' := conc_succ hV hk hc hj
  have hge := hStar_ge (inv_succ hT hs hd hjs) hc'
  have hfuel : nv T - (succSt T u j).depth = f := by rw [succSt_depth]; omega
  unfold bestRem at hge
  rw [hfuel, hh'] at hge
  have hmd := mdist_conc hT hs hc hjn
  refine ⟨j, hjs, ?_⟩
  obtain ⟨h'', hv, hle⟩ := EMax.of_some_le hge
  exact ⟨h'', hv, by omega⟩

theorem merge_hStar {k : Nat} {X : List St} {u : St} (hu : u ∈ X) (hX : ∀ w ∈ X, V T k w) {h : Int}
    (hh : hStar T u = some h) : ∃ h', hStar T (merge X) = some h' ∧ h ≤ h' := by
  have hX' : ∀ s ∈ X, Inv T s ∧ s.depth = u.depth := fun s hs => ⟨(hX s hs).1, by rw [(hX s hs).2.1, (hX u hu).2.1]⟩
  obtain ⟨w, hc, hb⟩ := hStar_att (hX u hu).1 hh
  have hge := hStar_ge (inv_merge X hu hX') (conc_merge hu hX' hc)
  rw [hb] at hge
  exact EMax.of_some_le hge

theorem hStar_le_zero (hT : TabOk T) {s : St} (hs : Inv T s) {h : Int} (hh : hStar T s = some h) : h ≤ 0 := by
  obtain ⟨u, hc, hb⟩ := hStar_att hs hh
  exact bestRem_le_zero hT (inv_conc hs hc) hb

theorem wfRelV_of_rub {T : Tab} (hT : TabOk T) (hD : DomOk T)
    (hrub : ∀ (s u : St) (r : Int), Inv T s → (s.depth < nv T → s.must.testBit (T.n - 1) = true) → Conc T s u →
      rub? T s = some r → bestRem T u ≤ some r) :
    WfRelV (problem T) (relaxation T) (H T) (V T) := by
  have hstep : ∀ (k : Nat) (s : St) (d : Int) (x : Nat), V T k s → k < nv T → d ∈ domain T s →
      V T (k + 1) ((problem T).trans s ⟨x, d⟩) := by
    intro k s d x hV hk hd
    have hd' : s.depth < nv T := by have := hV.2.1; omega
    obtain ⟨j, rfl, hj⟩ := (mem_domain_iff hT hV.1 hd' d).mp hd
    rw [ptrans_eq hT s (hj.lt hT hV.1)]
    exact v_succ hT hD hV hk hj
  have hatt : ∀ (k : Nat) (s : St) (h : Int) (x : Nat), V T k s → k < nv T → hStar T s = some h →
      ∃ d ∈ (problem T).domain x s, ∃ h', H T (k + 1) ((problem T).trans s ⟨x, d⟩) = some h' ∧
        h ≤ (problem T).cost s ((problem T).trans s ⟨x, d⟩) ⟨x, d⟩ + h' := by
    intro k s h x hV hk hh
    have hd' : s.depth < nv T := by have := hV.2.1; omega
    obtain ⟨j, hj, h', hh', hle⟩ := att_hStar hT hV hk hh
    have hjn := hj.lt hT hV.1
    refine ⟨(j : Int), (mem_domain_iff hT hV.1 hd' _).mpr ⟨j, rfl, hj⟩, h', ?_, ?_⟩
    · rw [ptrans_eq hT s hjn]; exact hh'
    · rw [pcost_eq hT hV.1 hjn]; exact hle
  refine WfRel.toV (.of_steps ?_ (fun k X hne hX => v_merge hT hne hX) ?_ (fun k L s h _ _ hV hh => hStar_le_zero hT hV.1 hh) ?_ ?_)
  · intro k L x s d hx hV hd
    obtain ⟨hk, rfl⟩ := nextVar_some hx
    exact hstep _ s d _ hV hk hd
  · intro k L x s h hx hV hh
    obtain ⟨hk, rfl⟩ := nextVar_some hx
    exact hatt _ s h _ hV hk hh
  · intro k s h hV hh
    have hh' : hStar T s = some h := hh
    show h ≤ (rub? T s).getD 0
    cases hr : rub? T s with
    | none => exact hStar_le_zero hT hV.1 hh'
    | some r =>
      obtain ⟨u, hc, hb⟩ := hStar_att hV.1 hh'
      have := hrub s u r hV.1 (fun hd => hV.2.2.1 (by have := hV.2.1; omega)) hc hr
      rw [hb] at this
      exact this
  · intro k X u src d c h hu hX hh
    obtain ⟨h', e, hle⟩ := merge_hStar hu hX hh
    refine ⟨h', e, ?_⟩
    rw [relax_eq]
    omega

theorem conc_init {u : St} (hc : Conc T (initSt T) u) : u = initSt T := by
  obtain ⟨p, hp, hip, _⟩ := hc.prev
  have hp0 : p = 0 := hip
  have hmust : u.must = (initSt T).must := by
    apply Nat.eq_of_testBit_eq
    intro x
    cases hx : (initSt T).must.testBit x with
    | true => exact hc.lo x hx
    | false =>
      cases hux : u.must.testBit x with
      | false => rfl
      | true =>
        rcases hc.hi x hux with h | h
        · rw [hx] at h; cases h
        · have hmb : mb (initSt T) = 0 := rfl
          rw [hmb, Nat.zero_testBit] at h; cases h
  have h1 := hc.maybe
  have h2 := hc.depth
  cases u with
  | mk pr mu ma de =>
    simp only at hp hmust h1 h2
    subst hp hmust h1 h2 hp0
    rfl

theorem conc_init_self (hT : TabOk T) : Conc T (initSt T) (initSt T) := by
  refine ⟨⟨0, rfl, rfl, ?_⟩, rfl, rfl, fun _ h => h, fun _ h => Or.inl h, ?_⟩
  · rw [initSt_must, testBit_allJobs]; simp
  · have := (inv_init hT).count
    have hmb : mb (initSt T) = 0 := rfl
    rw [hmb, card_zero] at this
    have h2 : card (initSt T).must ≤ nv T - (initSt T).depth := by
      show card (ofList ((List.range T.n).drop 1)) ≤ nv T - 0
      rw [card_ofList _ (List.Nodup.sublist (List.drop_sublist 1 _) List.nodup_range), List.length_drop,
        List.length_range]
      unfold nv
      omega
    omega

theorem hStar_init (hT : TabOk T) : hStar T (initSt T) = bestRem T (initSt T) := by
  have hge := hStar_ge (inv_init hT) (conc_init_self hT)
  cases hv : hStar T (initSt T) with
  | none =>
    rw [hv] at hge
    cases hb : bestRem T (initSt T) with
    | none => rfl
    | some b => rw [hb] at hge; exact absurd hge (by simp)
  | some h =>
    obtain ⟨u, hc, hb⟩ := hStar_att (inv_init hT) hv
    rw [conc_init hc] at hb
    exact hb.symm

/-- `sop_relaxed_ub` on a table, against the value-to-go of the root, the admissibility of the bound being a hypothesis -/
theorem sop_relaxed_ub_of {K : Type} [DecidableEq K] {T : Tab} (hT : TabOk T) (hD : DomOk T)
    (hrub : ∀ (s u : St) (r : Int), Inv T s → (s.depth < nv T → s.must.testBit (T.n - 1) = true) → Conc T s u →
      rub? T s = some r → bestRem T u ≤ some r)
    (cfg : Cfg St K) (B0 : Int) (cache : Cache St) (store : DomStore St K) (polls : Nat)
    (hP : cfg.P = problem T) (hR : cfg.R = relaxation T)
    (hrs : cfg.root.state = initSt T) (hrv : cfg.root.value = 0) (hrd : cfg.root.depth = 0)
    (hrel : cfg.ctype = .relaxed) (hcache : cfg.useCache = false) (hdom : cfg.dom = none) (hW : 1 ≤ cfg.width)
    (hB0 : 0 ≤ B0) (hsmall : ∀ i j, i < T.n → j < T.n → dfun T i j ≤ B0)
    (hprod : ((nv T : Int) + 2) * B0 ≤ 4611686018427387904)
    (hlb : InI cfg.lb) (o : Int) (ho : bestRem T (initSt T) = some o) (hgt : o > cfg.lb)
    (hO : o ≤ iMax ∨ cfg.lb < iMax) :
    (compile cfg cache store polls none).1 = .ok →
    ∃ bv, (compile cfg cache store polls none).2.1.bestValue = some bv ∧ o ≤ bv := by
  refine CoverRel.relaxed_ub_rel_valid cfg (H T) (V T) B0 B0 cache store polls hrel hcache hdom hW ?_ ?_ ?_ hlb o ?_ hgt hO
  · rw [hP, hR]; exact wfRelV_of_rub hT hD hrub
  · rw [hrd, hrs]; exact v_init hT hD
  · rw [hP, hR, hrv]; exact noClamp hT hB0 hsmall hprod
  · unfold optOf
    rw [hrd, hrs, hrv]
    show (hStar T (initSt T)).addI 0 = some o
    rw [hStar_init hT, ho]
    simp [EInt.addI]

#print axioms v_init
#print axioms v_succ
#print axioms v_merge
#print axioms inDom_conc
#print axioms conc_succ
#print axioms conc_merge
#print axioms bestRemF_le_zero
#print axioms noClamp
#print axioms att_hStar
#print axioms merge_hStar
#print axioms wfRelV_of_rub
#print axioms hStar_init
#print axioms sop_relaxed_ub_of

end Ddo.Examples.SopModel

/-! What follows has no hypothesis left about the model: `TabOk T` and `DomOk T` hold of the table the reader and `Sop::new`
    build from an instance of the input domain (`tabOk_tabOf`, `domOk_tabOf`: `inDomain`, at most 256 jobs, `isize` entries).
    Each of these hypotheses is needed — kernel-checked witnesses, none reachable: `mergeOk_false_degenerate` (no `predecessors`
    table), `rb_cex_refutes` (a job that is not before the last one), `dpExact_false_unbounded` (an entry that is no `isize`). -/

namespace Ddo.Examples.SopModel
open Ddo Ddo.Examples Ddo.Examples.Util Ddo.Cover

variable {T : Tab}

theorem last_of_validB {s : St} (h : validB T s = true) : s.depth < nv T → s.must.testBit (T.n - 1) = true := by
  intro hd
  unfold validB at h
  simp only [Bool.and_eq_true, Bool.or_eq_true, decide_eq_true_eq] at h
  rcases h.1.1.2 with h1 | h1
  · omega
  · exact h1

/-- `RubFixedAdmissibleStmt` for the bound of the REPAIRED code (`rub?`: saturating addition of the distance from the position) -/
def RubSatAdmissibleStmt (T : Tab) : Prop :=
  ∀ (s : St) (r : Int), validB T s = true → rub? T s = some r → bestRemConc T s ≤ some r

/-- **admissibility of the repaired `fast_upper_bound`** on every valid state, merged ones included -/
theorem rubAdmissible (hT : TabOk T) (hD : DomOk T) : RubSatAdmissibleStmt T := by
  intro s r hv hr
  exact bestRemConc_le hT hv (fun u hu => rub_conc hT hD (inv_of_validB hT hv) (last_of_validB hv) hu hr)

/-- **`RubFixedAdmissibleStmt`** (the bound corrected for D19, checked additions): where it answers, the repaired bound answers
    the same -/
theorem rubFixedAdmissible (hT : TabOk T) (hD : DomOk T) : RubFixedAdmissibleStmt T :=
  fun s r hv hr => rubAdmissible hT hD s r hv (rub?_eq_of_rubFixed? T hr)

theorem rubFixedAdmissible_tabOf {n : Nat} {rows : List (List Int)} (hD : inDomain n rows = true) (hn : n ≤ 256)
    (hb : ∀ r ∈ rows, ∀ w ∈ r, w ≤ imax) : RubFixedAdmissibleStmt (tabOf n rows) :=
  rubFixedAdmissible (tabOk_tabOf hD hn hb) (domOk_tabOf hD)

theorem rubAdmissible_tabOf {n : Nat} {rows : List (List Int)} (hD : inDomain n rows = true) (hn : n ≤ 256)
    (hb : ∀ r ∈ rows, ∀ w ∈ r, w ≤ imax) : RubSatAdmissibleStmt (tabOf n rows) :=
  rubAdmissible (tabOk_tabOf hD hn hb) (domOk_tabOf hD)

/-- **`RubAdmissibleExactStmt`**: on exact states the bound as first shipped (`rubOld?`) is the corrected one
    (`rubFixed?_eq_of_must_ge`) -/
theorem rubAdmissibleExact (hT : TabOk T) (hD : DomOk T) : RubAdmissibleExactStmt T := by
  intro s r hv he hr
  have hinv := inv_of_validB hT hv
  have hmb : mb s = 0 := by
    unfold exactB at he
    simp only [Bool.and_eq_true, Option.isNone_iff_eq_none] at he
    simp [mb, he.1]
  have hcnt := hinv.count
  rw [hmb, card_zero] at hcnt
  have hfix : rubFixed? T s = some r := by
    rw [rubFixed?_eq_of_must_ge T s (by omega) hinv.depth_le (by have := hT.n_pos; omega)]
    exact hr
  -- an exact valid state stands for itself
  have hcm : card s.must ≤ nv T - s.depth := by
    unfold validB at hv
    simp only [Bool.and_eq_true, decide_eq_true_eq] at hv
    exact hv.1.2
  have hself : Conc T s s := by
    unfold exactB at he
    simp only [Bool.and_eq_true, Option.isNone_iff_eq_none] at he
    cases hp : s.prev with
    | virt c => rw [hp] at he; simp at he
    | job i =>
      refine ⟨⟨i, hp, by simp [isPrev, hp], ?_⟩, he.1, rfl, fun x hx => hx, fun x hx => Or.inl hx, by omega⟩
      unfold validB at hv
      simp only [Bool.and_eq_true, decide_eq_true_eq] at hv
      have h4 := hv.1.1.1.2
      rw [hp] at h4
      simp only [Bool.and_eq_true, decide_eq_true_eq, Bool.not_eq_true', has] at h4
      have := h4.2
      rw [Nat.testBit_or, Bool.or_eq_false_iff] at this
      exact this.1
  exact rubFixed_conc hT hD hinv (last_of_validB hv) hself hfix

/-- **the repaired sop model is well-formed relative to `V`**, with the potential `hStar`, on every table of the input domain -/
theorem wfRelV (hT : TabOk T) (hD : DomOk T) : WfRelV (problem T) (relaxation T) (H T) (V T) :=
  wfRelV_of_rub hT hD (fun _ _ _ hs hl hc hr => rub_conc hT hD hs hl hc hr)

/-- **The shipped sop example (repaired)**: a relaxed compilation of its model from the root (layer by layer, no cache, no
    dominance checker, width ≥ 1, any incumbent `lb` that the optimum beats) reports a best value that is at least the true
    optimum — minus the least cost `Sop.spec` of a sequence respecting the precedences —, for every feasible instance of the
    input domain with at most 256 jobs whose entries are at most `B0`, `(n + 1) · B0 ≤ 2^62`.  Closed: no hypothesis on the
    model is left (`WfRelV`, `NoClampRel` and the exactness at the root are proved). -/
theorem sop_relaxed_ub {K : Type} [DecidableEq K] {n : Nat} {rows : List (List Int)}
    (hD : inDomain n rows = true) (hn : n ≤ 256) (B0 : Int) (hB0 : 0 ≤ B0) (hb : ∀ r ∈ rows, ∀ w ∈ r, w ≤ B0)
    (hprod : ((n : Int) + 1) * B0 ≤ 4611686018427387904)
    (cfg : Cfg St K) (cache : Cache St) (store : DomStore St K) (polls : Nat)
    (hP : cfg.P = problem (tabOf n rows)) (hR : cfg.R = relaxation (tabOf n rows))
    (hrs : cfg.root.state = initSt (tabOf n rows)) (hrv : cfg.root.value = 0) (hrd : cfg.root.depth = 0)
    (hrel : cfg.ctype = .relaxed) (hcache : cfg.useCache = false) (hdom : cfg.dom = none) (hW : 1 ≤ cfg.width)
    (hlb : InI cfg.lb)
    (t : Int) (ht : Sop.spec n (dfun (tabOf n rows)) = t) (hfeas : t ≠ -1) (hgt : -t > cfg.lb)
    (hO : -t ≤ iMax ∨ cfg.lb < iMax) :
    (compile cfg cache store polls none).1 = .ok →
    ∃ bv, (compile cfg cache store polls none).2.1.bestValue = some bv ∧ -t ≤ bv := by
  have hn1 : 1 ≤ n := by
    simp only [inDomain, Bool.and_eq_true, decide_eq_true_eq] at hD
    exact hD.1.1.1
  have hB0' : B0 ≤ 4611686018427387904 := by
    have h2 : (2 : Int) ≤ (n : Int) + 1 := by omega
    have := Int.mul_le_mul_of_nonneg_right h2 hB0
    omega
  have hbi : ∀ r ∈ rows, ∀ w ∈ r, w ≤ imax := fun r hr w hw => by
    have := hb r hr w hw
    simp only [imax]
    omega
  have hT := tabOk_tabOf hD hn hbi
  have hDo := domOk_tabOf hD
  obtain ⟨hlen, hrow, _⟩ := inDomain_entries hD
  have hsmall : ∀ i j, i < (tabOf n rows).n → j < (tabOf n rows).n → dfun (tabOf n rows) i j ≤ B0 := by
    intro i j hi hj
    obtain ⟨r, hr, hw⟩ := dfun_mem_rows hlen hrow hi hj
    exact hb r hr _ hw
  have hnv : ((nv (tabOf n rows) : Nat) : Int) + 2 = (n : Int) + 1 := by
    show (((n - 1 : Nat) : Int)) + 2 = (n : Int) + 1
    omega
  have hroot : bestRem (tabOf n rows) (initSt (tabOf n rows)) = some (-t) := by
    have h := root_exact n rows hD hn (fun r hr w hw => by
      have := hbi r hr w hw
      simp only [imax, imin] at *
      omega)
    rw [ht] at h
    cases hbr : bestRem (tabOf n rows) (initSt (tabOf n rows)) with
    | none => rw [hbr] at h; exact absurd h hfeas
    | some v =>
      rw [hbr] at h
      have : t = -v := by simpa using h
      rw [this]; simp
  exact sop_relaxed_ub_of hT hDo (fun _ _ _ hs hl hc hr => rub_conc hT hDo hs hl hc hr) cfg B0 cache store polls hP hR hrs
    hrv hrd hrel hcache hdom hW hB0 hsmall (by rw [hnv]; exact hprod) hlb (-t) hroot hgt hO

#print axioms mergeOk
#print axioms mergeOk_tabOf
#print axioms mergeOk_false_degenerate
#print axioms rubFixedAdmissible
#print axioms rubAdmissible
#print axioms rubAdmissibleExact
#print axioms rb_cex_refutes
#print axioms dpExact_partial
#print axioms dpExact_false_unbounded
#print axioms root_exact
#print axioms tabOk_tabOf
#print axioms domOk_tabOf
#print axioms wfRelV
#print axioms noClamp
#print axioms sop_relaxed_ub

end Ddo.Examples.SopModel
