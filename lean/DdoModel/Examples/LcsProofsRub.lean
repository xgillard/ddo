import DdoModel.Examples.LcsDp
import DdoModel.Examples.LcsProofsStep
/-! lcs example: the rough upper bound is admissible (`rubAdmissible`).  The 2-string table `lcsTable` is the table of the
    longest common subsequences of the suffixes (shape, upper-bound direction: the entry dominates every common subsequence,
    attainment); both `Σ_c min_i rem[i][c][pos_i]` and the entries `tables[i][pos_i][pos_{i+1}]` dominate the length of every
    common subsequence of the suffixes. -/
namespace Ddo.Examples.LcsModel

section
/-- the specification of one entry, by structural recursion -/
def lcs2 : List Nat → List Nat → Int
  | [], _ => 0
  | _ :: _, [] => 0
  | x :: xs, y :: ys =>
    max (max (lcs2 xs (y :: ys)) (lcs2 (x :: xs) ys)) (lcs2 xs ys + (if x = y then 1 else 0))

/-- the row of `a`: the entries for `b`, `b.tail`, …, `[]` -/
def rowOf (a : List Nat) : List Nat → List Int
  | [] => [lcs2 a []]
  | y :: ys => lcs2 a (y :: ys) :: rowOf a ys

theorem lcs2_nil_left (b : List Nat) : lcs2 [] b = 0 := by
  cases b <;> simp [lcs2]

theorem lcs2_nil_right (a : List Nat) : lcs2 a [] = 0 := by
  cases a <;> simp [lcs2]

theorem rowOf_headD (a b : List Nat) : (rowOf a b).headD 0 = lcs2 a b := by
  cases b <;> simp [rowOf]

theorem rowOf_length (a b : List Nat) : (rowOf a b).length = b.length + 1 := by
  induction b with
  | nil => simp [rowOf]
  | cons y ys ih => simp [rowOf, ih]

theorem rowOf_nil (b : List Nat) : rowOf [] b = List.replicate (b.length + 1) 0 := by
  induction b with
  | nil => simp [rowOf, lcs2_nil_left]
  | cons y ys ih => simp [rowOf, ih, lcs2_nil_left, List.replicate_succ]

theorem lcsRow_rowOf (ai : Nat) (ar b : List Nat) : lcsRow ai b (rowOf ar b) = rowOf (ai :: ar) b := by
  induction b with
  | nil => simp [lcsRow, rowOf, lcs2]
  | cons y ys ih =>
    simp only [lcsRow, rowOf, List.tail_cons, List.headD_cons, ih, rowOf_headD, lcs2]

theorem rowOf_get (a b : List Nat) (q : Nat) (hq : q ≤ b.length) :
    (rowOf a b)[q]? = some (lcs2 a (b.drop q)) := by
  induction b generalizing q with
  | nil =>
    have : q = 0 := by simpa using hq
    subst this; simp [rowOf]
  | cons y ys ih =>
    cases q with
    | zero => simp [rowOf]
    | succ q =>
      simp only [rowOf, List.getElem?_cons_succ, List.drop_succ_cons]
      exact ih q (by simpa using hq)

theorem lcsTable_headD (b a : List Nat) : (lcsTable b a).headD [] = rowOf a b := by
  induction a with
  | nil => simp [lcsTable, rowOf_nil]
  | cons x xs ih => simp only [lcsTable, List.headD_cons, ih, lcsRow_rowOf]

theorem lcsTable_get (b a : List Nat) (p : Nat) (hp : p ≤ a.length) :
    (lcsTable b a)[p]? = some (rowOf (a.drop p) b) := by
  induction a generalizing p with
  | nil =>
    have : p = 0 := by simpa using hp
    subst this; simp [lcsTable, rowOf_nil]
  | cons x xs ih =>
    cases p with
    | zero =>
      simp only [lcsTable, List.getElem?_cons_zero, List.drop_zero, lcsTable_headD, lcsRow_rowOf]
    | succ p =>
      simp only [lcsTable, List.getElem?_cons_succ, List.drop_succ_cons]
      exact ih p (by simpa using hp)

theorem lcsTable_length (b a : List Nat) : (lcsTable b a).length = a.length + 1 := by
  induction a with
  | nil => simp [lcsTable]
  | cons x xs ih => simp [lcsTable, ih]

theorem lcsTable_row (b a : List Nat) (p : Nat) (hp : p ≤ a.length) :
    ∃ row, (lcsTable b a)[p]? = some row ∧ row.length = b.length + 1 :=
  ⟨_, lcsTable_get b a p hp, rowOf_length _ _⟩

theorem lcs2_nonneg (a b : List Nat) : 0 ≤ lcs2 a b := by
  fun_induction lcs2 a b with
  | case1 => omega
  | case2 => omega
  | case3 x xs y ys ih1 ih2 ih3 => omega

theorem lcs2_ub (a b c : List Nat) (ha : c.Sublist a) (hb : c.Sublist b) : (c.length : Int) ≤ lcs2 a b := by
  fun_induction lcs2 a b generalizing c with
  | case1 b =>
    have : c = [] := by simpa using ha
    subst this; simp
  | case2 x xs =>
    have : c = [] := by simpa using hb
    subst this; simp
  | case3 x xs y ys ih1 ih2 ih3 =>
    rcases List.sublist_cons_iff.mp ha with h1 | ⟨r, hr, h1⟩
    · exact Int.le_trans (ih1 c h1 hb) (Int.le_trans (Int.le_max_left _ _) (Int.le_max_left _ _))
    · rcases List.sublist_cons_iff.mp hb with h2 | ⟨r', hr', h2⟩
      · exact Int.le_trans (ih2 c ha h2) (Int.le_trans (Int.le_max_right _ _) (Int.le_max_left _ _))
      · subst hr
        have hxy : x = y ∧ r = r' := by simpa using hr'
        obtain ⟨hxy, hrr⟩ := hxy
        subst hrr
        have := ih3 r h1 h2
        simp only [hxy, if_true, List.length_cons, Int.natCast_succ] at *
        omega

theorem max3_cases (a b c : Int) : max (max a b) c = a ∨ max (max a b) c = b ∨ max (max a b) c = c := by omega

theorem lcs2_attained (a b : List Nat) : ∃ c : List Nat, c.Sublist a ∧ c.Sublist b ∧ lcs2 a b = (c.length : Int) := by
  fun_induction lcs2 a b with
  | case1 b => exact ⟨[], List.nil_sublist _, List.nil_sublist _, by simp⟩
  | case2 x xs => exact ⟨[], List.nil_sublist _, List.nil_sublist _, by simp⟩
  | case3 x xs y ys ih1 ih2 ih3 =>
    obtain ⟨c1, h1a, h1b, h1⟩ := ih1
    obtain ⟨c2, h2a, h2b, h2⟩ := ih2
    obtain ⟨c3, h3a, h3b, h3⟩ := ih3
    rcases max3_cases (lcs2 xs (y :: ys)) (lcs2 (x :: xs) ys) (lcs2 xs ys + (if x = y then 1 else 0)) with h | h | h
    · exact ⟨c1, h1a.cons _, h1b, h.trans h1⟩
    · exact ⟨c2, h2a, h2b.cons _, h.trans h2⟩
    · by_cases hxy : x = y
      · subst hxy
        exact ⟨x :: c3, h3a.cons_cons _, h3b.cons_cons _, by rw [h, h3, if_pos rfl]; rfl⟩
      · exact ⟨c3, h3a.cons _, h3b.cons _, by rw [h, h3, if_neg hxy]; omega⟩

theorem lcsTable_ub (b a : List Nat) (p q : Nat) (hp : p ≤ a.length) (hq : q ≤ b.length) (c : List Nat)
    (ha : c.Sublist (a.drop p)) (hb : c.Sublist (b.drop q)) :
    ∃ row x, (lcsTable b a)[p]? = some row ∧ row[q]? = some x ∧ (c.length : Int) ≤ x :=
  ⟨_, _, lcsTable_get b a p hp, rowOf_get _ b q hq, lcs2_ub _ _ c ha hb⟩

theorem lcsTable_attained (b a : List Nat) (p q : Nat) (hp : p ≤ a.length) (hq : q ≤ b.length) :
    ∃ (row : List Int) (x : Int) (c : List Nat), (lcsTable b a)[p]? = some row ∧ row[q]? = some x ∧ c.Sublist (a.drop p) ∧ c.Sublist (b.drop q) ∧
      x = (c.length : Int) := by
  obtain ⟨c, h1, h2, h3⟩ := lcs2_attained (a.drop p) (b.drop q)
  exact ⟨_, _, c, lcsTable_get b a p hp, rowOf_get _ b q hq, h1, h2, h3⟩

#print axioms lcsTable_length
#print axioms lcsTable_row
#print axioms lcsTable_ub
#print axioms lcsTable_attained
end

section
open Ddo Ddo.Examples Ddo.Examples.Util

theorem length_eq_count_add (a : Nat) : ∀ c : List Nat, c.length = c.count a + (c.filter (· != a)).length := by
  intro c
  induction c with
  | nil => rfl
  | cons x t ih =>
    by_cases h : x = a
    · subst h; simp; omega
    · have : (x != a) = true := by simpa using h
      simp [this, h]; omega

/-- a list whose elements all belong to `l` is no longer than the sum over `l` of upper bounds of its counts -/
theorem length_le_sum_counts : ∀ (l : List Nat) (F : Nat → Int) (c : List Nat), (∀ x ∈ c, x ∈ l) →
    (∀ x ∈ l, (c.count x : Int) ≤ F x) → (c.length : Int) ≤ sum (l.map F) := by
  intro l
  induction l with
  | nil =>
    intro F c hc _
    cases c with
    | nil => simp [sum]
    | cons x t => exact absurd (hc x List.mem_cons_self) (by simp)
  | cons a l' ih =>
    intro F c hc hF
    rw [List.map_cons, SpecUtil.sum_cons, length_eq_count_add a c]
    have h1 := hF a List.mem_cons_self
    have h2 := ih F (c.filter (· != a)) (by
      intro x hx
      obtain ⟨hx1, hx2⟩ := List.mem_filter.mp hx
      rcases List.mem_cons.mp (hc x hx1) with h | h
      · simp [h] at hx2
      · exact h) (by
      intro x hx
      have := List.Sublist.count_le x (List.filter_sublist (p := (· != a)) (l := c))
      have := hF x (List.mem_cons_of_mem _ hx)
      omega)
    omega

theorem minOf_ge {l : List Int} {m B : Int} (h : minOf l = some m) (hl : ∀ y ∈ l, B ≤ y) : B ≤ m :=
  hl m (SpecUtil.minOf_eq_some.mp h).1

theorem minOf_isSome {l : List Int} (h : l ≠ []) : minOf l = some ((minOf l).getD 0) := by
  cases l with
  | nil => exact absurd rfl h
  | cons x t => rfl

theorem mapM_forall {α β : Type} (f : α → Option β) (P : β → Prop) : ∀ l : List α, (∀ x ∈ l, ∃ y, f x = some y ∧ P y) →
    ∃ r, l.mapM f = some r ∧ ∀ y ∈ r, P y := by
  intro l
  induction l with
  | nil => intro _; exact ⟨[], rfl, fun y hy => by cases hy⟩
  | cons a t ih =>
    intro h
    obtain ⟨y, hy, hP⟩ := h a List.mem_cons_self
    obtain ⟨r, hr, hPr⟩ := ih (fun x hx => h x (List.mem_cons_of_mem _ hx))
    refine ⟨y :: r, by rw [List.mapM_cons, hy, hr]; rfl, ?_⟩
    intro z hz
    rcases List.mem_cons.mp hz with rfl | hz
    · exact hP
    · exact hPr z hz

theorem pairTables_getElem : ∀ (ws : List (List Nat)) (i : Nat), i + 1 < ws.length →
    (pairTables ws)[i]? = some (lcsTable (str ws (i + 1)) (str ws i)) := by
  intro ws
  induction ws with
  | nil => intro i hi; simp at hi
  | cons a r ih =>
    intro i hi
    cases r with
    | nil => simp at hi
    | cons b r' =>
      cases i with
      | zero => simp [pairTables, str]
      | succ j =>
        simp only [pairTables, List.getElem?_cons_succ]
        rw [ih j (by simpa using hi)]
        simp [str]

def minCnt (ws : List (List Nat)) (s : St) (x : Nat) : Int :=
  (minOf ((List.range ws.length).map fun i => (((suf ws s i).count x : Nat) : Int))).getD 0

section
variable {J : Inst} {ws : List (List Nat)} (hB : Built J ws)
include hB

theorem rub?_ge {s : St} (hV : Valid ws s) {c : List Nat} (hc : ∀ x ∈ c, x < J.nChars) (hcs : CS ws s c) :
    ∃ r, rub? J s = some r ∧ (c.length : Int) ≤ r := by
  have h0 : 0 < ws.length := List.length_pos_iff.mpr hB.ne
  have hper : (List.range J.nChars).mapM (fun c => do
      let rs ← (List.range J.nStrings).mapM fun i => do let p ← s[i]?; remAt J i c p
      minOf rs) = some ((List.range J.nChars).map (minCnt ws s)) := by
    apply mapM_total
    intro x hx
    have hx : x < J.nChars := List.mem_range.mp hx
    rw [mapM_total _ (fun i => (((suf ws s i).count x : Nat) : Int))]
    · simp only [Option.bind_eq_bind, Option.bind_some, hB.nStrings]
      exact minOf_isSome (by simpa using hB.ne)
    · intro i hi
      have hi : i < ws.length := by rw [← hB.nStrings]; exact List.mem_range.mp hi
      simp only [getElem?_of_valid hV hi, Option.bind_eq_bind, Option.bind_some, remAt_eq hB hi hx (hV.2 i hi)]
      rfl
  have hsum : (c.length : Int) ≤ sum ((List.range J.nChars).map (minCnt ws s)) := by
    apply length_le_sum_counts
    · intro x hx; exact List.mem_range.mpr (hc x hx)
    · intro x _
      refine minOf_ge (minOf_isSome (by simpa using hB.ne)) ?_
      intro y hy
      obtain ⟨i, hi, rfl⟩ := List.mem_map.mp hy
      have := List.Sublist.count_le x (hcs i (List.mem_range.mp hi))
      omega
  obtain ⟨pw, hpw, hpwP⟩ := mapM_forall (fun i => do
      let p ← s[i]?
      let q ← s[i + 1]?
      tabAt J i p q) (fun y => (c.length : Int) ≤ y) (List.range (J.nStrings - 1)) (by
    intro i hi
    have hi : i + 1 < ws.length := by have := List.mem_range.mp hi; rw [hB.nStrings] at this; omega
    have hi' : i < ws.length := by omega
    obtain ⟨row, x, h1, h2, h3⟩ := lcsTable_ub (str ws (i + 1)) (str ws i) (pos s i) (pos s (i + 1)) (hV.2 i hi')
      (hV.2 (i + 1) hi) c (hcs i hi') (hcs (i + 1) hi)
    refine ⟨x, ?_, h3⟩
    simp only [getElem?_of_valid hV hi, getElem?_of_valid hV hi', Option.bind_eq_bind, Option.bind_some, tabAt, hB.tables,
      pairTables_getElem ws i hi, h1, h2])
  unfold rub?
  simp only [Option.bind_eq_bind] at hper hpw ⊢
  simp only [hper, hpw, Option.bind_some]
  cases hm : minOf pw with
  | none => exact ⟨_, rfl, hsum⟩
  | some m =>
    refine ⟨_, rfl, ?_⟩
    have := minOf_ge hm hpwP
    show (c.length : Int) ≤ min _ m
    omega

end

theorem rubAdmissible : RubAdmissibleStmt := by
  intro k declared lines J hJ s hs
  have hB := built_of_instOk hJ
  have hV := valid_of_validB hB hs
  obtain ⟨c, hc, h1, h2, _⟩ := bestRem_spec hB hV
  obtain ⟨r, hr, hle⟩ := rub?_ge hB hV h2 h1
  rw [hc]
  simp only [relaxation, hr, Option.getD_some]
  exact hle

#print axioms rubAdmissible
end

end Ddo.Examples.LcsModel
