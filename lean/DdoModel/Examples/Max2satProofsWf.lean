import DdoModel.Examples.Max2satModel
import DdoModel.Proofs.MddCoverRel
import DdoModel.Props.C06
import DdoModel.Examples.Max2satProofsExact
/-! max2sat example: well-formedness and the closed corollaries.

* `wfRel_false` (**finding**): `WfRel` (the hypothesis of `C06.relaxed_ub_rel_dom`) is UNSATISFIABLE for the max2sat model as soon
  as the potential of the root is positive, whatever the validity predicate: its clauses quantify over ANY list `L` handed to
  `nextVar`, and the example's `next_variable` reads the depth in the FIRST state of the list — with `L = [(n, []), root]` it
  answers `none`, and `WfRel.term` then forces the potential of the root to be `≤ 0`.  Not a defect of the example (the
  compilation only hands over layers of states of one depth): the clause is too strong.  `WfRelV` (`Proofs/MddCoverRel.lean`)
  asks the same for lists of VALID states only;
* `noClampDom_false` (**finding**): as for mcp, `relax` adds `Σ_v |dst_v| - |merged_v|`;
* `wfRelV`, `noClampRel`: relative to the layer validity `V` = "one benefit per variable, the depth stored in the state is the
  depth of the layer, benefits within `depth · 2A`" (`A` = a bound on the weights of the table), on every `TabOk` table, with
  explicit bounds `B0 T A` (transition costs) and `BR T A = O(n² A)` (relaxed costs);
* `max2sat_relaxed_ub` (the table) and `max2sat_relaxed_ub_spec` (from the INSTANCE to the specification `Max2sat.best` on the
  clauses that count, through `tabOkOfInst`, `dpExact` and `wBound_of_inst`: every cell of the `(2n)²` table is `0` or the
  weight of a clause). -/
namespace Ddo.Examples.Max2satModel

section
open Ddo Ddo.Examples Ddo.Examples.Util Ddo.SpecUtil

variable (T : Tab)

theorem wfRel_false (H : Nat → St → EInt) (V : Nat → St → Prop) (h : Int) (hV : V 0 (problem T).init)
    (hH : H 0 (problem T).init = some h) (hpos : 0 < h) : ¬ WfRel (problem T) (relaxation T) H V := by
  intro hw
  have hnv : (problem T).nextVar 0 [(T.n, []), (problem T).init] = none := by
    simp [problem, nextVar]
  have := hw.term 0 [(T.n, []), (problem T).init] (problem T).init h hnv (by simp) hV hH
  omega

theorem relaxCost_eq (n : Nat) (u m : St) (c : Int) :
    relaxCost n u m c = c + ((List.range n).map (fun v => absI (get u v) - absI (get m v))).sum := by
  unfold relaxCost
  rw [foldl_add_map]

theorem noClampDom_false (hn : 1 ≤ T.n) (rv B : Int) : ¬ NoClampDom (problem T) (relaxation T) rv B := by
  intro h
  have hB := h.nonneg
  -- a destination whose first benefit is `2B + 1`, merged into a state without benefits
  have hr := (h.relax (0, []) (0, [2 * B + 1]) (0, []) ⟨0, 1⟩ 0 ⟨by omega, hB⟩).2
  simp only [relaxation, relaxCost_eq] at hr
  have h0 := sum_sublist_le (f := fun v => absI (get ((0, [2 * B + 1]) : St) v) - absI (get ((0, []) : St) v))
    (List.singleton_sublist.mpr (List.mem_range.mpr hn)) (fun _ _ => Int.le_refl _)
    (fun v _ => by simp only [get, List.getElem?_nil, Option.getD_none, absI]; omega)
  have e : ([0].map (fun v => absI (get ((0, [2 * B + 1]) : St) v) - absI (get ((0, []) : St) v))).sum = 2 * B + 1 := by
    simp [get, absI]; omega
  omega

def H (_ : Nat) (s : St) : EInt := some (bestRem T (T.n - s.1) s)

def WBound (A : Int) : Prop := ∀ x y, -A ≤ T.wt x y ∧ T.wt x y ≤ A

theorem wBound_of_elems (A : Int) (hA : 0 ≤ A) (h : ∀ q ∈ T.w.toList, -A ≤ q ∧ q ≤ A) : WBound T A := by
  intro x y
  simp only [Tab.wt, wOf, Array.getD_eq_getD_getElem?]
  cases hq : T.w[offset T.n x y]? with
  | none => simp only [Option.getD_none]; omega
  | some q =>
    simp only [Option.getD_some]
    have hlt : offset T.n x y < T.w.size := by
      rcases Nat.lt_or_ge (offset T.n x y) T.w.size with h1 | h1
      · exact h1
      · rw [Array.getElem?_eq_none h1] at hq; cases hq
    rw [Array.getElem?_eq_getElem hlt] at hq
    cases hq
    exact h _ (by simp)

/-- each transition adds the difference of two weights to a benefit: within `depth · 2A` -/
def V (A : Int) (k : Nat) (s : St) : Prop :=
  s.2.length = T.n ∧ s.1 = k ∧ k ≤ T.n ∧ ∀ l, absI (get s l) ≤ (k : Int) * (2 * A)

theorem V_init (A : Int) : V T A 0 (problem T).init := by
  refine ⟨by simp [problem], rfl, Nat.zero_le _, fun l => ?_⟩
  simp only [problem, get, List.getElem?_replicate, absI]
  split <;> simp

theorem delta_bound {A : Int} (hA : WBound T A) (x : Nat) (v : Int) (l : Nat) : absI (delta T x v l) ≤ 2 * A := by
  unfold delta absI
  have h1 := hA (tLit x) (tLit l)
  have h2 := hA (tLit x) (fLit l)
  have h3 := hA (fLit x) (tLit l)
  have h4 := hA (fLit x) (fLit l)
  split <;> omega

theorem absI_add_le (a b : Int) : absI (a + b) ≤ absI a + absI b := by unfold absI; omega

theorem abs_get_trans (s : St) (d : Dec) (hnd : (varset T s.1).Nodup) (i : Nat) :
    absI (get (trans T s d) i) ≤ absI (get s i) + absI (delta T d.var d.val i) := by
  by_cases hi : i < s.2.length
  · rw [get_trans_eq T s d hnd i hi]
    refine Int.le_trans (absI_add_le _ _) (Int.add_le_add ?_ ?_) <;> split <;> simp [absI]
  · have h1 : (trans T s d).2[i]? = none := by
      apply List.getElem?_eq_none; rw [trans_length]; omega
    simp only [get, h1, Option.getD_none, absI]
    omega

section
variable {T}
variable {A : Int}

theorem varset_nodup (h : TabOk T) (k : Nat) : (varset T k).Nodup :=
  (List.take_sublist _ _).nodup (order_facts h).2.1

theorem V_trans (h : TabOk T) (hA : WBound T A) (_hA0 : 0 ≤ A) {k : Nat} {s : St} (hV : V T A k s) (hk : k < T.n) (d : Dec) :
    V T A (k + 1) (trans T s d) := by
  obtain ⟨hl, hd, _, hb⟩ := hV
  refine ⟨by rw [trans_length, hl], by rw [trans_depth, hd], by omega, fun l => ?_⟩
  have h1 := abs_get_trans T s d (varset_nodup h _) l
  have h2 := delta_bound T hA d.var d.val l
  have h3 := hb l
  have e : ((k + 1 : Nat) : Int) * (2 * A) = (k : Int) * (2 * A) + 2 * A := by
    rw [Int.natCast_add, Int.add_mul]; simp
  rw [e]; omega

theorem V_merge {k : Nat} {X : List St} (hne : X ≠ []) (hX : ∀ u ∈ X, V T A k u) : V T A k (mergeStates T.n X) := by
  obtain ⟨u, r, rfl⟩ : ∃ u r, X = u :: r := by
    cases X with
    | nil => exact absurd rfl hne
    | cons u r => exact ⟨u, r, rfl⟩
  have hu := hX u List.mem_cons_self
  refine ⟨by simp [mergeStates], by simp [mergeStates, hu.2.1], hu.2.2.1, fun l => ?_⟩
  by_cases hl : l < T.n
  · rw [get_mergeStates _ _ _ hl]
    have := mergeSub_prop ((u :: r).map (fun s => get s l)) (get u l) (by simp)
    have := (owedGap_le this).2
    have := hu.2.2.2 l
    omega
  · have : (mergeStates T.n (u :: r)).2[l]? = none := by
      apply List.getElem?_eq_none; simp [mergeStates]; omega
    simp only [get, this, Option.getD_none, absI]
    have := hu.2.2.2 l
    simp only [absI] at this
    omega

theorem nextVar_valid {k : Nat} {L : List St} {x : Nat} (hL : ∀ u ∈ L, V T A k u)
    (hnv : (problem T).nextVar k L = some x) : k < T.n ∧ T.order[T.n - k - 1]? = some x := by
  cases L with
  | nil => simp [problem, nextVar] at hnv
  | cons f r =>
    have hf := (hL f List.mem_cons_self).2.1
    simp only [problem, nextVar, hf] at hnv
    split at hnv
    · next hk => exact ⟨hk, hnv⟩
    · cases hnv

theorem nextVar_single {k : Nat} {s : St} {x : Nat} (hs : s.1 = k) (hk : k < T.n) (hx : T.order[T.n - k - 1]? = some x) :
    nextVar T [s] = some x := by
  simp only [nextVar, hs, hk, if_true, hx]

theorem attV {k : Nat} {s : St} {x : Nat} {h : Int} (hs : s.1 = k) (hk : k < T.n) (hx : T.order[T.n - k - 1]? = some x)
    (hH : H T k s = some h) :
    ∃ d ∈ (problem T).domain x s, ∃ h', H T (k + 1) ((problem T).trans s ⟨x, d⟩) = some h' ∧
      h ≤ (problem T).cost s ((problem T).trans s ⟨x, d⟩) ⟨x, d⟩ + h' := by
  simp only [H, Option.some.injEq] at hH
  have e : T.n - s.1 = (T.n - (s.1 + 1)) + 1 := by omega
  rw [e] at hH
  simp only [bestRem, nextVar_single hs hk hx] at hH
  simp only [H, problem, trans_depth]
  by_cases hc : cost T s ⟨x, -1⟩ + bestRem T (T.n - (s.1 + 1)) (trans T s ⟨x, -1⟩)
      ≤ cost T s ⟨x, 1⟩ + bestRem T (T.n - (s.1 + 1)) (trans T s ⟨x, 1⟩)
  · exact ⟨1, by simp, _, rfl, by omega⟩
  · exact ⟨-1, by simp, _, rfl, by omega⟩

theorem bestRem_gap (fuel : Nat) : ∀ (t m : St), t.1 = m.1 →
    bestRem T fuel t + mergeGapMin T fuel t m ≤ bestRem T fuel m := by
  induction fuel with
  | zero => intro t m _; simp [bestRem, mergeGapMin]
  | succ fuel ih =>
    intro t m htm
    have hnv : nextVar T [m] = nextVar T [t] := by simp only [nextVar, htm]
    simp only [bestRem, mergeGapMin, hnv]
    cases nextVar T [t] with
    | none => simp
    | some x =>
      dsimp only
      have h1 := ih (trans T t ⟨x, 1⟩) (trans T m ⟨x, 1⟩) (by rw [trans_depth, trans_depth, htm])
      have h2 := ih (trans T t ⟨x, -1⟩) (trans T m ⟨x, -1⟩) (by rw [trans_depth, trans_depth, htm])
      omega

theorem wfRelV (h : TabOk T) (hA : WBound T A) (hA0 : 0 ≤ A) :
    WfRelV (problem T) (relaxation T) (H T) (V T A) where
  vstep := by
    intro k L x s d hnv hL hs _
    exact V_trans h hA hA0 (hL s hs) (nextVar_valid hL hnv).1 _
  vstepMerge := by
    intro k L x X d hnv hL hne hsub _
    exact V_trans h hA hA0 (V_merge hne (fun u hu => hL u (hsub u hu))) (nextVar_valid hL hnv).1 _
  vmerge := fun k X hne hX => V_merge hne hX
  att := by
    intro k L x s h' hnv hL hs hH
    obtain ⟨hk, hx⟩ := nextVar_valid hL hnv
    exact attV (hL s hs).2.1 hk hx hH
  attMerge := by
    intro k L x X h' hnv hL hne hsub hH
    obtain ⟨hk, hx⟩ := nextVar_valid hL hnv
    exact attV (V_merge hne (fun u hu => hL u (hsub u hu))).2.1 hk hx hH
  term := by
    intro k L s h' hnv hL hs hH
    cases L with
    | nil => cases hs
    | cons f r =>
      have hf := hL f List.mem_cons_self
      have hk : ¬ k < T.n := by
        intro hk
        have hlt : (T.n - k - 1) < T.order.length := by rw [(order_facts h).1]; omega
        simp [problem, nextVar, hf.2.1, hk, List.getElem?_eq_getElem hlt] at hnv
      have hsk := (hL s hs).2.1
      simp only [H, Option.some.injEq] at hH
      have : T.n - s.1 = 0 := by omega
      rw [this] at hH
      simp only [bestRem] at hH
      omega
  rub := by
    intro k s h' hV hH
    simp only [H, Option.some.injEq] at hH
    simp only [relaxation]
    cases hr : rub? T s with
    | none =>
      -- a terminal state: the tables have `n` entries
      have hk : ¬ s.1 < T.n := by
        intro hk
        unfold rub? at hr
        rw [h.est_eq, h.nk_eq] at hr
        simp [List.getElem?_map, List.getElem?_range hk] at hr
      have : T.n - s.1 = 0 := by omega
      rw [this] at hH
      simp only [bestRem] at hH
      simp only [Option.getD_none]; omega
    | some r =>
      have := rub_admissible T h s hV.1 r hr
      simp only [Option.getD_some]; omega
  merge := by
    intro k X u src d c h' hu hX hH
    simp only [H, Option.some.injEq] at hH
    have hVu := hX u hu
    have hts : ∀ w ∈ X, w.2.length = T.n ∧ w.1 = u.1 := fun w hw => ⟨(hX w hw).1, by rw [(hX w hw).2.1, hVu.2.1]⟩
    have hmo := merge_ok T h X u hu hts (by rw [hVu.2.1]; exact hVu.2.2.1)
    have hVm := V_merge (List.ne_nil_of_mem hu) hX
    have hdm : u.1 = (mergeStates T.n X).1 := by rw [hVu.2.1, hVm.2.1]
    have hg := bestRem_gap (T := T) (T.n - u.1) u (mergeStates T.n X) hdm
    refine ⟨bestRem T (T.n - (mergeStates T.n X).1) (mergeStates T.n X), rfl, ?_⟩
    simp only [relaxation]
    rw [relaxCost_eq] at hmo ⊢
    rw [← hdm]
    omega

end

def MB (A : Int) : Int := (T.n : Int) * (2 * A)
def B0 (A : Int) : Int := (MB T A + A) + (T.n : Int) * (MB T A + 3 * A)
def BR (A : Int) : Int := B0 T A + (T.n : Int) * MB T A

section
variable {T}
variable {A : Int}

theorem MB_nonneg (hA0 : 0 ≤ A) : 0 ≤ MB T A := Int.mul_nonneg (by omega) (by omega)

theorem get_le_MB (hA0 : 0 ≤ A) {k : Nat} {s : St} (hV : V T A k s) (l : Nat) : absI (get s l) ≤ MB T A := by
  have h1 := hV.2.2.2 l
  have h2 : (k : Int) * (2 * A) ≤ (T.n : Int) * (2 * A) :=
    Int.mul_le_mul_of_nonneg_right (by have := hV.2.2.1; omega) (by omega)
  unfold MB; omega

theorem pos_le_MB (hA0 : 0 ≤ A) {k : Nat} {s : St} (hV : V T A k s) (l : Nat) :
    (0 ≤ pos (get s l) ∧ pos (get s l) ≤ MB T A) ∧ 0 ≤ pos (-get s l) ∧ pos (-get s l) ≤ MB T A := by
  have h1 := get_le_MB hA0 hV l
  rw [absI_eq] at h1
  have : 0 ≤ pos (get s l) := Int.le_max_left ..
  have : 0 ≤ pos (-get s l) := Int.le_max_left ..
  omega

theorem costHead_bound (hA : WBound T A) (hA0 : 0 ≤ A) {k : Nat} {s : St} (hV : V T A k s) (x : Nat) (v : Int) :
    -(MB T A + A) ≤ costHead T s x v ∧ costHead T s x v ≤ MB T A + A := by
  have h1 := pos_le_MB hA0 hV x
  have h2 := hA (fLit x) (fLit x)
  have h3 := hA (tLit x) (tLit x)
  unfold costHead
  split <;> omega

theorem costTerm_bound (hA : WBound T A) (hA0 : 0 ≤ A) {k : Nat} {s : St} (hV : V T A k s) (x : Nat) (v : Int) (l : Nat) :
    -(MB T A + 3 * A) ≤ costTerm T s x v l ∧ costTerm T s x v l ≤ MB T A + 3 * A := by
  have h1 := pos_le_MB hA0 hV l
  have h2 := hA (fLit x) (fLit l)
  have h3 := hA (fLit x) (tLit l)
  have h4 := hA (tLit x) (fLit l)
  have h5 := hA (tLit x) (tLit l)
  unfold costTerm
  split <;> omega

theorem cost_bound (h : TabOk T) (hA : WBound T A) (hA0 : 0 ≤ A) {k : Nat} {s : St} (hV : V T A k s) (d : Dec) :
    -(B0 T A) ≤ cost T s d ∧ cost T s d ≤ B0 T A := by
  rw [cost_eq]
  have h1 := costHead_bound hA hA0 hV d.var d.val
  have h2 := sum_within (costTerm T s d.var d.val) (varset T s.1) (MB T A + 3 * A)
    (fun l _ => costTerm_bound hA hA0 hV d.var d.val l)
  have hlen : ((varset T s.1).length : Int) ≤ (T.n : Int) := by
    have : (varset T s.1).length ≤ T.n := by
      unfold varset; rw [List.length_take, (order_facts h).1]; omega
    omega
  have h3 : ((varset T s.1).length : Int) * (MB T A + 3 * A) ≤ (T.n : Int) * (MB T A + 3 * A) :=
    Int.mul_le_mul_of_nonneg_right hlen (by have := MB_nonneg (T := T) hA0; omega)
  unfold B0
  omega

theorem relax_bound (hA0 : 0 ≤ A) {k : Nat} {u m : St} (hu : V T A k u) (hm : V T A k m) (c : Int)
    (hc : -(B0 T A) ≤ c ∧ c ≤ B0 T A) :
    -(BR T A) ≤ relaxCost T.n u m c ∧ relaxCost T.n u m c ≤ BR T A := by
  rw [relaxCost_eq]
  have h1 := sum_within (fun v => absI (get u v) - absI (get m v)) (List.range T.n) (MB T A) (fun v _ => by
    have h1 := get_le_MB hA0 hu v
    have h2 := get_le_MB hA0 hm v
    simp only [absI] at *
    omega)
  rw [List.length_range] at h1
  unfold BR
  omega

theorem initial_bound (h : TabOk T) (hA : WBound T A) (hA0 : 0 ≤ A) : -(B0 T A) ≤ T.initial ∧ T.initial ≤ B0 T A := by
  rw [h.initial_eq]
  unfold tautSum
  have h1 := sum_within (tautOf T) T.order A (fun v _ => hA _ _)
  rw [(order_facts h).1] at h1
  have h2 : (T.n : Int) * A ≤ (T.n : Int) * (MB T A + 3 * A) :=
    Int.mul_le_mul_of_nonneg_left (by have := MB_nonneg (T := T) hA0; omega) (by omega)
  have h3 := MB_nonneg (T := T) hA0
  unfold B0
  omega

theorem B0_nonneg (hA0 : 0 ≤ A) : 0 ≤ B0 T A := by
  have h1 := MB_nonneg (T := T) hA0
  have h2 : 0 ≤ (T.n : Int) * (MB T A + 3 * A) := Int.mul_nonneg (by omega) (by omega)
  unfold B0; omega

theorem B0_le_BR (hA0 : 0 ≤ A) : B0 T A ≤ BR T A := by
  have h2 : 0 ≤ (T.n : Int) * MB T A := Int.mul_nonneg (by omega) (MB_nonneg hA0)
  unfold BR; omega

theorem noClampRel (h : TabOk T) (hA : WBound T A) (hA0 : 0 ≤ A)
    (hsmall : ((T.n : Int) + 2) * BR T A ≤ 4611686018427387904) :
    NoClampRel (problem T) (relaxation T) (V T A) T.initial (B0 T A) (BR T A) where
  nonneg := B0_nonneg hA0
  le := B0_le_BR hA0
  root := by
    have := initial_bound h hA hA0
    have := B0_le_BR (T := T) hA0
    omega
  cost := by
    intro k L x s d _ _ hV _
    exact cost_bound h hA hA0 hV _
  relax := by
    intro k X u src d c hu hX hc
    exact relax_bound hA0 (hX u hu) (V_merge (List.ne_nil_of_mem hu) hX) c hc
  small := hsmall

theorem bestRem_le_fuel (h : TabOk T) (hA : WBound T A) (hA0 : 0 ≤ A) : ∀ (m k : Nat) (s : St), V T A k s → k + m = T.n →
    bestRem T m s ≤ (m : Int) * B0 T A := by
  intro m
  induction m with
  | zero => intro k s _ _; simp [bestRem]
  | succ m ih =>
    intro k s hV hk
    have e : ((m + 1 : Nat) : Int) * B0 T A = (m : Int) * B0 T A + B0 T A := by
      rw [Int.natCast_add, Int.add_mul]; simp
    rw [e]
    simp only [bestRem]
    cases hnv : nextVar T [s] with
    | none => 
      have := B0_nonneg (T := T) hA0
      have : 0 ≤ (m : Int) * B0 T A := Int.mul_nonneg (by omega) this
      simp only []; omega
    | some x =>
      dsimp only
      have h1 := ih (k + 1) (trans T s ⟨x, 1⟩) (V_trans h hA hA0 hV (by omega) _) (by omega)
      have h2 := ih (k + 1) (trans T s ⟨x, -1⟩) (V_trans h hA hA0 hV (by omega) _) (by omega)
      have h3 := cost_bound h hA hA0 hV ⟨x, 1⟩
      have h4 := cost_bound h hA hA0 hV ⟨x, -1⟩
      omega

/-- **The shipped max2sat example**: a relaxed compilation of its model from the root reports at least `initial` + the value-to-go
    of the root under the model's own transition costs, i.e. the optimum of the specification (`dpExact`; the form with
    `Max2sat.best` is `max2sat_relaxed_ub_spec` below) -/
theorem max2sat_relaxed_ub {K : Type} [DecidableEq K] (cfg : Cfg St K) (A : Int)
    (cache : Cache St) (store : DomStore St K) (polls : Nat)
    (hT : TabOk T) (hA : WBound T A) (hA0 : 0 ≤ A) (hsmall : ((T.n : Int) + 2) * BR T A ≤ 4611686018427387904)
    (hP : cfg.P = problem T) (hR : cfg.R = relaxation T)
    (hrs : cfg.root.state = (0, List.replicate T.n 0)) (hrv : cfg.root.value = T.initial) (hrd : cfg.root.depth = 0)
    (hrel : cfg.ctype = .relaxed) (hcache : cfg.useCache = false) (hdom : cfg.dom = none) (hW : 1 ≤ cfg.width)
    (hlb : InI cfg.lb) (o : Int) (ho : o = T.initial + bestRem T T.n (0, List.replicate T.n 0)) (hgt : o > cfg.lb) :
    (compile cfg cache store polls none).1 = .ok →
    ∃ bv, (compile cfg cache store polls none).2.1.bestValue = some bv ∧ o ≤ bv := by
  have hVi : V T A 0 (0, List.replicate T.n 0) := V_init T A
  have hO : o ≤ iMax := by
    have h1 := bestRem_le_fuel hT hA hA0 T.n 0 _ hVi (by omega)
    have h2 := initial_bound hT hA hA0
    have h3 := B0_le_BR (T := T) hA0
    have h4 : (T.n : Int) * B0 T A ≤ (T.n : Int) * BR T A := Int.mul_le_mul_of_nonneg_left h3 (by omega)
    have e : ((T.n : Int) + 2) * BR T A = (T.n : Int) * BR T A + 2 * BR T A := by rw [Int.add_mul]
    have h5 := B0_nonneg (T := T) hA0
    simp only [iMax]; omega
  refine CoverRel.relaxed_ub_rel_valid cfg (H T) (V T A) (B0 T A) (BR T A) cache store polls hrel hcache hdom hW
    ?_ ?_ ?_ hlb o ?_ hgt (Or.inl hO)
  · rw [hP, hR]; exact wfRelV hT hA hA0
  · rw [hrd, hrs]; exact hVi
  · rw [hP, hR, hrv]
    have : (problem T).nbVars = T.n := rfl
    exact noClampRel hT hA hA0 hsmall
  · unfold optOf
    rw [hrd, hrs, hrv, ho]
    simp only [H, EInt.addI, Option.map_some, Nat.sub_zero]
    congr 1; omega

end

-- non-vacuity: a small instance meeting every hypothesis, on which a merge actually happens (width 1, three variables)

namespace Tiny

def inst : Inst :=
  { n := 3, clauses := [(3, 1, 2), (2, -1, -2), (1, 1, -1), (4, -2, -2), (5, 2, 3), (2, -3, 1), (1, 3, 3)], order := [2, 0, 1] }

def cfg : Cfg St Unit :=
  { P := problem inst.tab, R := relaxation inst.tab, rank := ⟨rankCmp⟩, dom := none, useCache := false, kind := .lel,
    ctype := .relaxed, width := 1, root := ⟨(0, [0, 0, 0]), inst.tab.initial, [], iMax, 0⟩, lb := 0 }

theorem tabOk : TabOk inst.tab := (tabOkB_iff _).mp (by decide +kernel)

theorem wBound : WBound inst.tab 5 := wBound_of_elems _ 5 (by decide) (by decide +kernel)

/-- every hypothesis of `max2sat_relaxed_ub` holds, the compilation succeeds (the third layer is merged into one node), and
    the diagram reports a bound ≥ the optimum `initial + bestRem root` -/
example : ∃ bv, (compile cfg (Cache.init 3) (DomStore.init 3) 0 none).2.1.bestValue = some bv ∧
    inst.tab.initial + bestRem inst.tab 3 (0, [0, 0, 0]) ≤ bv :=
  max2sat_relaxed_ub (T := inst.tab) cfg 5 (Cache.init 3) (DomStore.init 3) 0 tabOk wBound (by decide) (by decide +kernel)
    rfl rfl rfl rfl rfl rfl rfl rfl (by decide) (by decide) _ rfl (by decide +kernel) (by decide +kernel)

end Tiny

section Axioms
#print axioms wfRel_false
#print axioms noClampDom_false
#print axioms wfRelV
#print axioms noClampRel
#print axioms max2sat_relaxed_ub
end Axioms
end

section
open Ddo Ddo.Examples Ddo.Examples.Util Ddo.SpecUtil

theorem cmap_weight_bound (I : Inst) (A : Int) (h : ∀ c ∈ I.clauses, -A ≤ c.1 ∧ c.1 ≤ A) :
    ∀ e ∈ I.cmap, -A ≤ e.2 ∧ e.2 ≤ A := by
  intro e he
  obtain ⟨c, hc, rfl⟩ := mem_cmap I he
  exact h c hc

theorem weights_bound (I : Inst) (A : Int) (hA0 : 0 ≤ A) (h : ∀ c ∈ I.clauses, -A ≤ c.1 ∧ c.1 ≤ A) :
    ∀ q ∈ I.weights.toList, -A ≤ q ∧ q ≤ A := by
  have hc := cmap_weight_bound I A h
  unfold Inst.weights
  have : ∀ (m : CMap) (t : Array Int), (∀ e ∈ m, -A ≤ e.2 ∧ e.2 ≤ A) → (∀ q ∈ t.toList, -A ≤ q ∧ q ≤ A) →
      ∀ q ∈ (m.foldl (fun t e => t.setIfInBounds (offset I.n e.1.1 e.1.2) e.2) t).toList, -A ≤ q ∧ q ≤ A := by
    intro m
    induction m with
    | nil => intro t _ ht; exact ht
    | cons e m ih =>
      intro t hm ht
      rw [List.foldl_cons]
      apply ih _ (fun e' he' => hm e' (List.mem_cons_of_mem _ he'))
      intro q hq
      rw [Array.toList_setIfInBounds] at hq
      rcases List.mem_or_eq_of_mem_set hq with h1 | h1
      · exact ht q h1
      · rw [h1]; exact hm e List.mem_cons_self
  apply this I.cmap _ hc
  intro q hq
  simp only [Array.toList_replicate, List.mem_replicate] at hq
  rw [hq.2]; omega

theorem wBound_of_inst (I : Inst) (A : Int) (hA0 : 0 ≤ A) (h : ∀ c ∈ I.clauses, -A ≤ c.1 ∧ c.1 ≤ A) : WBound I.tab A :=
  wBound_of_elems I.tab A hA0 (weights_bound I A hA0 h)

/-- **The shipped max2sat example, instance to specification**: `order` any permutation of the variables
    (`vars_by_sum_of_clause_weights` is one); the optimum is that of `Max2sat.best` on the clauses that count
    (`Inst.effClauses`: a clause listed several times keeps its last weight, as in the example's reader) -/
theorem max2sat_relaxed_ub_spec {K : Type} [DecidableEq K] (I : Inst) (cfg : Cfg St K) (A : Int)
    (cache : Cache St) (store : DomStore St K) (polls : Nat)
    (hp : I.order.Perm (List.range I.n))
    (hlit : ∀ c ∈ I.clauses, c.2.1 ≠ 0 ∧ c.2.1.natAbs ≤ I.n ∧ c.2.2 ≠ 0 ∧ c.2.2.natAbs ≤ I.n)
    (hw : ∀ c ∈ I.clauses, -A ≤ c.1 ∧ c.1 ≤ A) (hA0 : 0 ≤ A)
    (hsmall : ((I.n : Int) + 2) * BR I.tab A ≤ 4611686018427387904)
    (hP : cfg.P = problem I.tab) (hR : cfg.R = relaxation I.tab)
    (hrs : cfg.root.state = (0, List.replicate I.n 0)) (hrv : cfg.root.value = I.tab.initial) (hrd : cfg.root.depth = 0)
    (hrel : cfg.ctype = .relaxed) (hcache : cfg.useCache = false) (hdom : cfg.dom = none) (hW : 1 ≤ cfg.width)
    (hlb : InI cfg.lb) (o : Int) (ho : Max2sat.best I.n I.effClauses = some o) (hgt : o > cfg.lb) :
    (compile cfg cache store polls none).1 = .ok →
    ∃ bv, (compile cfg cache store polls none).2.1.bestValue = some bv ∧ o ≤ bv := by
  have hoe := dpExact I hp hlit
  rw [ho] at hoe
  exact max2sat_relaxed_ub (T := I.tab) cfg A cache store polls (tabOkOfInst I hp hlit) (wBound_of_inst I A hA0 hw) hA0
    hsmall hP hR hrs hrv hrd hrel hcache hdom hW hlb o (Option.some.inj hoe) hgt

section Axioms
#print axioms wfRelV
#print axioms noClampRel
#print axioms max2sat_relaxed_ub
#print axioms max2sat_relaxed_ub_spec
#print axioms Ddo.CoverRel.relaxed_ub_rel_valid
end Axioms
end

end Ddo.Examples.Max2satModel

