import DdoModel.Examples.SrflpModel
import DdoModel.Proofs.SpecUtil
import DdoModel.Examples.EMax
/-! One step of the srflp model on the states `Good`: `validB` plus what it does not say (the two sets are increasing lists,
    which `Set64` iteration yields).  On them `domain`, `trans`, `cost` have closed forms (a decision is a department, placing it
    adds its row of the flows to the cuts), and `Good` is kept. -/

namespace Ddo.Examples.SrflpModel
open Ddo Ddo.Examples Ddo.Examples.Util Ddo.SpecUtil

variable (T : Tab)

theorem foldl_emax_ge {α : Type} (f : α → EInt) : ∀ (l : List α) (init : EInt),
    init ≤ l.foldl (fun acc v => EInt.max acc (f v)) init ∧
    ∀ v ∈ l, f v ≤ l.foldl (fun acc v => EInt.max acc (f v)) init :=
  fun l init => ⟨(EMax.foldl_max_spec f l init).1, (EMax.foldl_max_spec f l init).2.1⟩

theorem foldl_emax_le {α : Type} (f : α → EInt) (B : EInt) : ∀ (l : List α) (init : EInt),
    init ≤ B → (∀ v ∈ l, f v ≤ B) → l.foldl (fun acc v => EInt.max acc (f v)) init ≤ B :=
  EMax.foldl_max_le f

theorem foldl_emax_attained {α : Type} (f : α → EInt) : ∀ (l : List α) (init : EInt),
    l.foldl (fun acc v => EInt.max acc (f v)) init = init ∨
    ∃ v ∈ l, l.foldl (fun acc v => EInt.max acc (f v)) init = f v :=
  fun l init => (EMax.foldl_max_spec f l init).2.2

def cutAt (s : St) (i : Nat) : Int := s.cut.getD i 0
/-- `maybe_place` as a list (`None` = empty) -/
def mbOf (s : St) : List Nat := s.maybe.getD []
def leastSum (r : Nat) (L : List Int) : Int := sum ((sortInts L).take r)

/-- structural validity: like `validB` (terminal states included, without the `2^62` bound on the cuts) PLUS: the two sets
    are increasing lists (`validB` does not say so; `Set64` iterates in increasing order) -/
structure Good (s : St) : Prop where
  depth_le : s.depth ≤ T.n
  cut_len : s.cut.length = T.n
  must_sorted : s.must.Pairwise (· < ·)
  maybe_sorted : (mbOf s).Pairwise (· < ·)
  lt : ∀ i, i ∈ s.must ∨ i ∈ mbOf s → i < T.n
  cut_nonneg : ∀ i, i ∈ s.must ∨ i ∈ mbOf s → 0 ≤ cutAt s i
  disj : ∀ i ∈ s.must, i ∉ mbOf s
  must_le : s.must.length ≤ T.n - s.depth
  fill : T.n - s.depth ≤ s.must.length + (mbOf s).length

structure Inst : Prop where
  len_len : T.len.length = T.n
  len_pos : ∀ i, i < T.n → 0 < lenOf T i
  flow_nonneg : ∀ i j, i < T.n → j < T.n → 0 ≤ flow T i j
  flow_symm : ∀ i j, i < T.n → j < T.n → flow T i j = flow T j i

theorem inst_of_instOk (h : InstOk T) : Inst T := by
  unfold InstOk inDomainB at h
  simp only [Bool.and_eq_true, beq_iff_eq, List.all_eq_true, decide_eq_true_eq, List.mem_range, Bool.or_eq_true] at h
  obtain ⟨⟨⟨⟨h1, h2⟩, _⟩, _⟩, h5⟩ := h
  refine ⟨h1, ?_, ?_, ?_⟩
  · intro i hi
    unfold lenOf
    rw [List.getD_eq_getElem?_getD, List.getElem?_eq_getElem (by omega)]
    exact h2 _ (List.getElem_mem _)
  · intro i j hi hj; exact (h5 i hi j hj).1
  · intro i j hi hj
    rcases (h5 i hi j hj).2 with e | e
    · rw [e]
    · exact e

theorem pairwise_lt_nodup {l : List Nat} (h : l.Pairwise (· < ·)) : l.Nodup := SpecUtil.pairwise_lt_nodup h

theorem filter_ne_eq_erase {l : List Nat} (hl : l.Nodup) (i : Nat) : l.filter (· ≠ i) = l.erase i := by
  rw [hl.erase_eq_filter]
  apply List.filter_congr
  intro x _
  by_cases hx : x = i <;> simp [hx]

theorem mem_filter_ne {l : List Nat} {i j : Nat} : j ∈ l.filter (· ≠ i) ↔ j ∈ l ∧ j ≠ i := by
  simp [List.mem_filter]

theorem good_of_stOk {s : St} (h : StOk T s) (hm : s.must.Pairwise (· < ·)) (hy : (mbOf s).Pairwise (· < ·)) : Good T s := by
  unfold StOk validB at h
  simp only [Bool.and_eq_true, beq_iff_eq, List.all_eq_true, decide_eq_true_eq, List.mem_append, Bool.not_eq_true',
    List.contains_eq_mem, decide_eq_false_iff_not] at h
  obtain ⟨⟨⟨⟨⟨h1, h2⟩, h3⟩, h4⟩, h5⟩, h6⟩ := h
  exact ⟨by omega, h2, hm, hy, fun i hi => (h3 i hi).1.1, fun i hi => (h3 i hi).1.2, fun i hi => h4 i hi, h5, h6⟩

theorem good_init : Good T (initSt T) := by
  refine ⟨Nat.zero_le _, by simp [initSt], ?_, by simp [initSt, mbOf], ?_, ?_, ?_, by simp [initSt], by simp [initSt]⟩
  · simp only [initSt]
    exact List.pairwise_lt_range
  · intro i hi
    simp only [initSt, mbOf, Option.getD_none, List.not_mem_nil, or_false, List.mem_range] at hi
    exact hi
  · intro i _
    simp only [cutAt, initSt, List.getD_eq_getElem?_getD, List.getElem?_replicate]
    split <;> simp
  · intro i _
    simp [initSt, mbOf]

theorem mem_domain {s : St} (hG : Good T s) (v : Int) :
    v ∈ domain T s ↔ ∃ i : Nat, v = (i : Int) ∧ (i ∈ s.must ∨ (s.must.length < T.n - s.depth ∧ i ∈ mbOf s)) := by
  have h1 := hG.depth_le
  have h2 := hG.must_le
  unfold domain domain?
  rw [if_neg (by omega)]
  simp only
  rw [if_neg (by omega)]
  by_cases hr : T.n - s.depth - s.must.length > 0
  · rw [if_pos hr]
    cases hm : s.maybe with
    | none =>
      simp only [Option.getD_some, List.mem_map, mbOf, hm, Option.getD_none, List.not_mem_nil, and_false, or_false]
      constructor
      · rintro ⟨i, hi, rfl⟩; exact ⟨i, rfl, hi⟩
      · rintro ⟨i, rfl, hi⟩; exact ⟨i, hi, rfl⟩
    | some mb =>
      simp only [Option.getD_some, List.mem_append, List.mem_map, mbOf, hm]
      constructor
      · rintro (⟨i, hi, rfl⟩ | ⟨i, hi, rfl⟩)
        · exact ⟨i, rfl, Or.inl hi⟩
        · exact ⟨i, rfl, Or.inr ⟨by omega, hi⟩⟩
      · rintro ⟨i, rfl, hi | ⟨_, hi⟩⟩
        · exact Or.inl ⟨i, hi, rfl⟩
        · exact Or.inr ⟨i, hi, rfl⟩
  · rw [if_neg hr]
    simp only [Option.getD_some, List.mem_map]
    constructor
    · rintro ⟨i, hi, rfl⟩; exact ⟨i, rfl, Or.inl hi⟩
    · rintro ⟨i, rfl, hi | ⟨hlt, _⟩⟩
      · exact ⟨i, hi, rfl⟩
      · omega

theorem domain_lt {s : St} (hG : Good T s) {i : Nat} (hi : (i : Int) ∈ domain T s) : i < T.n ∧ s.depth < T.n := by
  obtain ⟨j, hj, h⟩ := (mem_domain T hG _).mp hi
  have : i = j := by omega
  subst this
  have h2 := hG.must_le
  rcases h with h | ⟨h1, h⟩
  · refine ⟨hG.lt _ (Or.inl h), ?_⟩
    have : 0 < s.must.length := List.length_pos_of_mem h
    omega
  · exact ⟨hG.lt _ (Or.inr h), by omega⟩

theorem length_addRow (d : Nat) : ∀ (members : List Nat) (cut : List Int), (addRow T d members cut).length = cut.length := by
  intro members
  induction members with
  | nil => intro cut; rfl
  | cons a r ih => intro cut; unfold addRow at ih ⊢; rw [List.foldl_cons, ih]; simp

theorem getD_addRow (d : Nat) : ∀ (members : List Nat) (cut : List Int) (j : Nat), members.Nodup → (∀ i ∈ members, i < cut.length) →
    (addRow T d members cut).getD j 0 = if j ∈ members then cut.getD j 0 + flow T d j else cut.getD j 0 := by
  intro members
  induction members with
  | nil => intro cut j _ _; simp [addRow]
  | cons a r ih =>
    intro cut j hnd hlt
    have hnd' := List.nodup_cons.mp hnd
    have ha : a < cut.length := hlt a List.mem_cons_self
    unfold addRow at ih ⊢
    rw [List.foldl_cons, ih _ j hnd'.2 (by intro i hi; simpa using hlt i (List.mem_cons_of_mem _ hi))]
    simp only [List.getD_eq_getElem?_getD, List.getElem?_set, List.mem_cons]
    by_cases hja : j = a
    · subst hja
      simp [hnd'.1, ha]
    · have : ¬ a = j := fun e => hja e.symm
      simp [hja, this]

def stepSt (s : St) (i : Nat) : St :=
  let remaining := s.must.filter (· ≠ i)
  let maybes : Option (List Nat) := match s.maybe with
    | some mb => let mb' := mb.filter (· ≠ i); if mb'.isEmpty then none else some mb'
    | none => none
  { depth := s.depth + 1, must := remaining, maybe := maybes,
    cut := addRow T i (maybes.getD []) (addRow T i remaining (s.cut.set i 0)) }

theorem trans_nat (s : St) (x i : Nat) (hi : i < s.cut.length) (h64 : i < 64) : trans T s ⟨x, (i : Int)⟩ = stepSt T s i := by
  unfold trans trans?
  simp only [Int.toNat_natCast]
  rw [if_neg (by omega), if_neg (by omega)]
  rfl

@[simp] theorem stepSt_depth (s : St) (i : Nat) : (stepSt T s i).depth = s.depth + 1 := rfl
@[simp] theorem stepSt_must (s : St) (i : Nat) : (stepSt T s i).must = s.must.filter (· ≠ i) := rfl

theorem mbOf_stepSt (s : St) (i : Nat) : mbOf (stepSt T s i) = (mbOf s).filter (· ≠ i) := by
  unfold mbOf stepSt
  cases hm : s.maybe with
  | none => simp
  | some mb =>
    simp only [Option.getD_some]
    split
    · rename_i h
      rw [List.isEmpty_iff] at h
      simp only [Option.getD_none]
      exact h.symm
    · rfl

theorem length_cut_stepSt (s : St) (i : Nat) : (stepSt T s i).cut.length = s.cut.length := by
  unfold stepSt
  simp only [length_addRow, List.length_set]

theorem cutAt_step {s : St} (hG : Good T s) (i : Nat) (j : Nat) :
    cutAt (stepSt T s i) j =
      if j = i then 0 else if j ∈ s.must ∨ j ∈ mbOf s then cutAt s j + flow T i j else cutAt s j := by
  have hmb := mbOf_stepSt T s i
  have e : (stepSt T s i).cut = addRow T i (mbOf (stepSt T s i)) (addRow T i (s.must.filter (· ≠ i)) (s.cut.set i 0)) := rfl
  unfold cutAt
  rw [e, hmb]
  have hnd1 : (s.must.filter (· ≠ i)).Nodup := (pairwise_lt_nodup hG.must_sorted).filter _
  have hnd2 : ((mbOf s).filter (· ≠ i)).Nodup := (pairwise_lt_nodup hG.maybe_sorted).filter _
  rw [getD_addRow T i _ _ j hnd2 (by
      intro k hk
      rw [length_addRow, List.length_set, hG.cut_len]
      exact hG.lt k (Or.inr (List.mem_filter.mp hk).1)),
    getD_addRow T i _ _ j hnd1 (by
      intro k hk
      rw [List.length_set, hG.cut_len]
      exact hG.lt k (Or.inl (List.mem_filter.mp hk).1))]
  simp only [List.mem_filter, decide_eq_true_eq, List.getD_eq_getElem?_getD, List.getElem?_set]
  by_cases hji : j = i
  · subst hji
    simp
    split <;> simp
  · have hij : ¬ i = j := fun e => hji e.symm
    by_cases h1 : j ∈ s.must
    · have h2 : j ∉ mbOf s := hG.disj j h1
      simp [h1, h2, hji, hij]
    · simp [h1, hji, hij]

theorem mem_stepSt {s : St} {i j : Nat} :
    (j ∈ (stepSt T s i).must ∨ j ∈ mbOf (stepSt T s i)) ↔ (j ∈ s.must ∨ j ∈ mbOf s) ∧ j ≠ i := by
  rw [mbOf_stepSt, stepSt_must, mem_filter_ne, mem_filter_ne]
  exact or_and_right.symm

theorem cutAt_stepSt {s : St} (hG : Good T s) {i j : Nat} (hj : j ∈ (stepSt T s i).must ∨ j ∈ mbOf (stepSt T s i)) :
    cutAt (stepSt T s i) j = cutAt s j + flow T i j := by
  obtain ⟨h, e⟩ := (mem_stepSt T).mp hj
  rw [cutAt_step T hG, if_neg e, if_pos h]

theorem good_step (hI : Inst T) {s : St} (hG : Good T s) {i : Nat} (hi : (i : Int) ∈ domain T s) : Good T (stepSt T s i) := by
  obtain ⟨hin, hd⟩ := domain_lt T hG hi
  obtain ⟨j, hj, hmem⟩ := (mem_domain T hG _).mp hi
  have : i = j := by omega
  subst this
  have hm := mbOf_stepSt T s i
  refine ⟨by simp; omega, by rw [length_cut_stepSt]; exact hG.cut_len, ?_, ?_, ?_, ?_, ?_, ?_, ?_⟩
  · exact hG.must_sorted.filter _
  · rw [hm]; exact hG.maybe_sorted.filter _
  · intro k hk
    exact hG.lt k ((mem_stepSt T).mp hk).1
  · intro k hk
    have hk' := (mem_stepSt T).mp hk
    rw [cutAt_stepSt T hG hk]
    have := hG.cut_nonneg k hk'.1
    have := hI.flow_nonneg i k hin (hG.lt k hk'.1)
    omega
  · intro k hk
    rw [hm]
    simp only [stepSt_must, List.mem_filter] at hk
    intro hc
    exact hG.disj k hk.1 (List.mem_filter.mp hc).1
  · simp only [stepSt_must, stepSt_depth]
    have h1 := hG.must_le
    rw [filter_ne_eq_erase (pairwise_lt_nodup hG.must_sorted), List.length_erase]
    rcases hmem with h | ⟨h, _⟩
    · have := List.length_pos_of_mem h
      rw [if_pos h]; omega
    · split <;> omega
  · rw [hm]
    simp only [stepSt_must, stepSt_depth]
    have h1 := hG.fill
    rw [filter_ne_eq_erase (pairwise_lt_nodup hG.must_sorted), filter_ne_eq_erase (pairwise_lt_nodup hG.maybe_sorted),
      List.length_erase, List.length_erase]
    rcases hmem with h | ⟨h0, h⟩
    · have := List.length_pos_of_mem h
      rw [if_pos h, if_neg (hG.disj i h)]; omega
    · have := List.length_pos_of_mem h
      rw [if_pos h, if_neg fun hc => hG.disj i hc h]; omega

theorem cost_nat (hI : Inst T) {s : St} (hG : Good T s) {i : Nat} (hi : (i : Int) ∈ domain T s) (x : Nat) :
    cost T s ⟨x, (i : Int)⟩ =
      -(sum ((s.must.filter (· ≠ i)).map (cutAt s)) +
        leastSum (T.n - (s.depth + 1) - (s.must.filter (· ≠ i)).length) (((mbOf s).filter (· ≠ i)).map (cutAt s))) * lenOf T i := by
  obtain ⟨hin, hd⟩ := domain_lt T hG hi
  have hgs := (good_step T hI hG hi).must_le
  simp only [stepSt_must, stepSt_depth] at hgs
  unfold cost cost?
  simp only [Int.toNat_natCast]
  rw [if_neg (by omega)]
  have hl : T.len[i]? = some (lenOf T i) := by
    unfold lenOf
    rw [List.getD_eq_getElem?_getD, List.getElem?_eq_getElem (by rw [hI.len_len]; exact hin)]
    rfl
  rw [hl]
  simp only
  rw [if_neg (by omega), if_neg (by omega)]
  simp only [Option.getD_some]
  congr 2
  congr 1
  unfold leastSum mbOf cutAt
  by_cases hr : T.n - (s.depth + 1) - (s.must.filter (· ≠ i)).length > 0
  · rw [if_pos hr]
    cases s.maybe with
    | none => simp [sortInts, sum]
    | some mb => rfl
  · rw [if_neg hr]
    have : T.n - (s.depth + 1) - (s.must.filter (· ≠ i)).length = 0 := by omega
    rw [this]
    simp [sum]

theorem bestRemF_succ (fuel : Nat) (s : St) (h : s.depth < T.n) :
    bestRemF T (fuel + 1) s =
      (domain T s).foldl (fun acc v => EInt.max acc ((bestRemF T fuel (trans T s ⟨s.depth, v⟩)).addI (cost T s ⟨s.depth, v⟩))) none := by
  rw [bestRemF, if_neg (by omega)]

theorem bestRemF_terminal (fuel : Nat) (s : St) (h : T.n ≤ s.depth) : bestRemF T fuel s = some 0 := by
  cases fuel with
  | zero => rfl
  | succ f => rw [bestRemF, if_pos h]

end Ddo.Examples.SrflpModel
