import DdoModel.Examples.SrflpProofsRub
import DdoModel.Proofs.WfRelSteps
import DdoModel.Proofs.MddCoverRel
import DdoModel.Proofs.Closed
import DdoModel.Examples.SrflpProofsExact
/-! The srflp example is well formed (`wfRel_of_rub`: every clause but `rub`, which is `rubHyp` of `SrflpProofsRub`), and the closed
    corollary against the independent specification `Srflp.spec`, through `Ddo.CoverRel.relaxed_ub_rel_valid` (hypotheses
    restricted to the VALID states).  The srflp transition cost is `-(Σ cuts + sum of the least cuts) · length`: it is bounded
    only when the cuts are, and the validity predicate `V T k s := Good T s ∧ s.depth = k` does not bound them.  Hence `SmallInst`
    (every length and every flow at most `2^20`) and the stronger validity `Vb` (every cut of a member of must ∪ maybe is
    `≤ depth · 2^20`: after `depth` placements a cut is a sum of `depth` flows), kept by what a compilation does; transition
    costs are then within `2^52`, and `(n + 2) · 2^52 ≤ 2^62` for `n ≤ 64`. -/

namespace Ddo.Examples.SrflpModel
open Ddo Ddo.Examples Ddo.Examples.Util Ddo.SpecUtil

variable (T : Tab)

/-- the potential: the value-to-go of the model itself -/
def H : Nat → St → EInt := fun _ s => bestRem T s
/-- layer validity: a good state of that depth -/
def V : Nat → St → Prop := fun k s => Good T s ∧ s.depth = k

theorem nextVar_some {k x : Nat} {L : List St} (h : (problem T).nextVar k L = some x) : k < T.n ∧ x = k := by
  simp only [problem, nextVar] at h
  split at h
  · exact ⟨by assumption, (Option.some.inj h).symm⟩
  · cases h

theorem valid_step (h64 : T.n ≤ 64) (hI : Inst T) {k : Nat} {s : St} (hV : V T k s) {x : Nat} {d : Int}
    (hd : d ∈ domain T s) : V T (k + 1) (trans T s ⟨x, d⟩) := by
  obtain ⟨hG, hk⟩ := hV
  obtain ⟨i, rfl, _⟩ := (mem_domain T hG d).mp hd
  have hin := (domain_lt T hG hd).1
  rw [trans_nat T s x i (by rw [hG.cut_len]; exact hin) (by omega)]
  exact ⟨good_step T hI hG hd, by simp [hk]⟩

theorem att_good (h64 : T.n ≤ 64) {k : Nat} {s : St} (hV : V T k s) (hk : k < T.n) {h : Int} (hb : bestRem T s = some h)
    (x : Nat) : ∃ d ∈ domain T s, ∃ h', bestRem T (trans T s ⟨x, d⟩) = some h' ∧ h ≤ cost T s ⟨x, d⟩ + h' := by
  obtain ⟨hG, hd⟩ := hV
  unfold bestRem at hb
  have e : T.n - s.depth = (T.n - s.depth - 1) + 1 := by omega
  rw [e, bestRemF_succ T _ s (by omega)] at hb
  obtain ⟨v, hv, h', hb', e'⟩ := EMax.foldl_max_addI_att
    (fun v => bestRemF T (T.n - s.depth - 1) (trans T s ⟨s.depth, v⟩)) (fun v => cost T s ⟨s.depth, v⟩) _ hb
  refine ⟨v, hv, h', ?_, Int.le_of_eq (e'.trans (Int.add_comm _ _))⟩
  obtain ⟨i, rfl, _⟩ := (mem_domain T hG v).mp hv
  have hin := (domain_lt T hG hv).1
  have ht : ∀ y, trans T s ⟨y, (i : Int)⟩ = stepSt T s i := fun y =>
    trans_nat T s y i (by rw [hG.cut_len]; exact hin) (by omega)
  rw [ht] at hb' ⊢
  unfold bestRem
  rw [stepSt_depth, show T.n - (s.depth + 1) = T.n - s.depth - 1 by omega]
  exact hb'

theorem valid_merge {k : Nat} {X : List St} (hne : X ≠ []) (hV : ∀ u ∈ X, V T k u) : V T k (mergeStates T X) := by
  refine ⟨good_merge T X hne k (fun w hw => (hV w hw).1) (fun w hw => (hV w hw).2), ?_⟩
  obtain ⟨u, hu⟩ := List.exists_mem_of_ne_nil X hne
  rw [merge_depth_eq T X u hu (fun w hw => by rw [(hV w hw).2, (hV u hu).2])]
  exact (hV u hu).2

/-- **`WfRel` of the srflp example, given the admissibility of the rough bound** -/
theorem wfRel_of_rub (h64 : T.n ≤ 64) (hT : InstOk T) (hR : RubHyp T) :
    WfRel (problem T) (relaxation T) (H T) (V T) :=
  .of_steps
    (fun k L x s d _ hV hd => valid_step T h64 (inst_of_instOk T hT) hV hd)
    (fun k X hne hV => valid_merge T hne hV)
    (fun k L x s h hnv hV hb => att_good T h64 hV (nextVar_some T hnv).1 hb x)
    (fun k L s h hnv _ hV hb => by
      have hn : T.n ≤ s.depth := by
        simp only [problem, nextVar] at hnv
        split at hnv
        · cases hnv
        · rw [hV.2]; omega
      cases (bestRem_terminal T s hn).symm.trans hb
      exact Int.le_refl _)
    (fun k s h hV hb => hR s h hV.1 hb)
    (fun k X u src d c h hu hV hb => by
      have hle := bestRem_merge_ge T h64 (inst_of_instOk T hT) X u hu (fun w hw => (hV w hw).1)
        (fun w hw => by rw [(hV w hw).2, (hV u hu).2])
      rw [show bestRem T u = some h from hb] at hle
      obtain ⟨h', e, hle'⟩ := EMax.of_some_le hle
      exact ⟨h', e, show c + h ≤ c + h' by omega⟩)

theorem srflp_wfRel (h64 : T.n ≤ 64) (hS : TabSorted T) (hT : InstOk T) :
    WfRel (problem T) (relaxation T) (H T) (V T) :=
  wfRel_of_rub T h64 hT (rubHyp T h64 hS hT)

#print axioms wfRel_of_rub
#print axioms srflp_wfRel

end Ddo.Examples.SrflpModel

namespace Ddo.Examples.SrflpModel
open Ddo Ddo.Examples Ddo.Examples.Util Ddo.SpecUtil

variable (T : Tab)

/-- the size condition on the instance: lengths and flows at most `2^20` -/
structure SmallInst : Prop where
  len_le : ∀ i, i < T.n → lenOf T i ≤ 1048576
  flow_le : ∀ i, i < T.n → ∀ j, j < T.n → flow T i j ≤ 1048576

/-- layer validity with bounded cuts: after `depth` placements a cut is a sum of `depth` flows -/
def Vb : Nat → St → Prop := fun k s =>
  V T k s ∧ ∀ i, i ∈ s.must ∨ i ∈ mbOf s → cutAt s i ≤ (s.depth : Int) * 1048576

theorem vb_init : Vb T 0 (initSt T) := by
  refine ⟨⟨good_init T, rfl⟩, ?_⟩
  intro i _
  rw [cutAt_init]
  show (0 : Int) ≤ ((0 : Nat) : Int) * 1048576
  omega

theorem vb_step (h64 : T.n ≤ 64) (hI : Inst T) (hS : SmallInst T) {k : Nat} {s : St} (hV : Vb T k s) {x : Nat} {d : Int}
    (hd : d ∈ domain T s) : Vb T (k + 1) (trans T s ⟨x, d⟩) := by
  refine ⟨valid_step T h64 hI hV.1 hd, ?_⟩
  obtain ⟨⟨hG, hk⟩, hc⟩ := hV
  obtain ⟨i, rfl, _⟩ := (mem_domain T hG d).mp hd
  have hin := (domain_lt T hG hd).1
  rw [trans_nat T s x i (by rw [hG.cut_len]; exact hin) (by omega)]
  intro j hj
  have hj' := (mem_stepSt T).mp hj
  rw [cutAt_stepSt T hG hj, stepSt_depth]
  have h1 := hc j hj'.1
  have h2 := hS.flow_le i hin j (hG.lt j hj'.1)
  omega

theorem vb_merge {k : Nat} {X : List St} (hne : X ≠ []) (hV : ∀ u ∈ X, Vb T k u) : Vb T k (mergeStates T X) := by
  have hVm := valid_merge T hne (fun u hu => (hV u hu).1)
  refine ⟨hVm, ?_⟩
  intro i hi
  rw [merge_must_nil] at hi
  rcases hi with hi | hi
  · cases hi
  · obtain ⟨w, hw, hiw⟩ := (mem_mbOf_merge T X i).mp hi
    have hs := sim_merge T X w hw (fun u hu => (hV u hu).1.1) (fun u hu => by rw [(hV u hu).1.2, (hV w hw).1.2])
    have h1 := hs.cut i hiw
    have h2 := (hV w hw).2 i hiw
    have h3 := hs.depth
    rw [h3]
    omega

theorem wfRelV_of_rub (h64 : T.n ≤ 64) (hT : InstOk T) (hS : SmallInst T) (hR : RubHyp T) :
    WfRelV (problem T) (relaxation T) (H T) (Vb T) :=
  ((wfRel_of_rub T h64 hT hR).strengthen (V' := Vb T) (fun _ _ h => h.1)
    (fun _ _ _ _ _ _ hV hd => vb_step T h64 (inst_of_instOk T hT) hS hV hd) (fun _ _ hne hV => vb_merge T hne hV)).toV

theorem sum_bounds (L : List Int) (h : ∀ x ∈ L, 0 ≤ x ∧ x ≤ 67108864) :
    0 ≤ L.sum ∧ L.sum ≤ (L.length : Int) * 67108864 := by
  have := SpecUtil.sum_map_between id L h
  rwa [List.map_id, Int.mul_zero] at this

theorem leastSum_bounds (r : Nat) (L : List Int) (h : ∀ x ∈ L, 0 ≤ x ∧ x ≤ 67108864) :
    0 ≤ leastSum r L ∧ leastSum r L ≤ (r : Int) * 67108864 := by
  unfold leastSum
  rw [sum_eq]
  have hm : ∀ x ∈ (sortInts L).take r, 0 ≤ x ∧ x ≤ 67108864 := by
    intro x hx
    have hx' := List.mem_of_mem_take hx
    unfold sortInts at hx'
    exact h x ((List.mergeSort_perm L _).mem_iff.mp hx')
  have h1 := sum_bounds _ hm
  have hl : ((sortInts L).take r).length ≤ r := by rw [List.length_take]; omega
  omega

theorem cost_bounds (h64 : T.n ≤ 64) (hI : Inst T) (hS : SmallInst T) {k : Nat} {s : St} (hV : Vb T k s) {d : Int}
    (hd : d ∈ domain T s) (x : Nat) : -4503599627370496 ≤ cost T s ⟨x, d⟩ ∧ cost T s ⟨x, d⟩ ≤ 0 := by
  obtain ⟨⟨hG, hk⟩, hc⟩ := hV
  obtain ⟨i, rfl, _⟩ := (mem_domain T hG d).mp hd
  obtain ⟨hin, hdp⟩ := domain_lt T hG hd
  have hgs := (good_step T hI hG hd).must_le
  simp only [stepSt_must, stepSt_depth] at hgs
  rw [cost_nat T hI hG hd]
  have hcut : ∀ j, j ∈ s.must ∨ j ∈ mbOf s → 0 ≤ cutAt s j ∧ cutAt s j ≤ 67108864 := by
    intro j hj
    have h1 := hG.cut_nonneg j hj
    have h2 := hc j hj
    omega
  have hA := sum_bounds ((s.must.filter (· ≠ i)).map (cutAt s)) (by
    intro y hy
    obtain ⟨j, hj, rfl⟩ := List.mem_map.mp hy
    exact hcut j (Or.inl (List.mem_filter.mp hj).1))
  have hB := leastSum_bounds (T.n - (s.depth + 1) - (s.must.filter (· ≠ i)).length) (((mbOf s).filter (· ≠ i)).map (cutAt s)) (by
    intro y hy
    obtain ⟨j, hj, rfl⟩ := List.mem_map.mp hy
    exact hcut j (Or.inr (List.mem_filter.mp hj).1))
  rw [List.length_map] at hA
  rw [sum_eq]
  generalize ((s.must.filter (· ≠ i)).map (cutAt s)).sum = S1 at hA ⊢
  generalize leastSum (T.n - (s.depth + 1) - (s.must.filter (· ≠ i)).length) (((mbOf s).filter (· ≠ i)).map (cutAt s)) = S2 at hB ⊢
  have hl0 := hI.len_pos i hin
  have hl1 := hS.len_le i hin
  have hS0 : 0 ≤ S1 + S2 := by omega
  have hS1 : S1 + S2 ≤ 4294967296 := by omega
  have hp0 : 0 ≤ (S1 + S2) * lenOf T i := Int.mul_nonneg hS0 (Int.le_of_lt hl0)
  have hp1 : (S1 + S2) * lenOf T i ≤ 4294967296 * 1048576 :=
    Int.mul_le_mul hS1 hl1 (Int.le_of_lt hl0) (by omega)
  rw [Int.neg_mul]
  omega

/-- **no saturation on the valid states**: costs within `2^52`, `relax` is the identity -/
theorem noClampRel (h64 : T.n ≤ 64) (hT : InstOk T) (hS : SmallInst T) :
    NoClampRel (problem T) (relaxation T) (Vb T) 0 4503599627370496 4503599627370496 where
  nonneg := by omega
  le := by omega
  root := by omega
  cost := by
    intro k L x s d _ _ hV hd
    have := cost_bounds T h64 (inst_of_instOk T hT) hS hV hd x
    show -4503599627370496 ≤ cost T s ⟨x, d⟩ ∧ cost T s ⟨x, d⟩ ≤ 4503599627370496
    omega
  relax := by
    intro k X u src d c _ _ hc
    exact hc
  small := by
    show ((T.n : Int) + 2) * 4503599627370496 ≤ 4611686018427387904
    omega

theorem root_bestRem (h64 : T.n ≤ 64) (hT : InstOk T) :
    ∃ o : Int, bestRem T (initSt T) = some o ∧ root2 T - 2 * o = Srflp.spec T.n (lenOf T) (flow T) := by
  have hI := inst_of_instOk T hT
  obtain ⟨q0, _, hbest⟩ := bestRemF_attained T hI h64 T.n (initSt T) (good_init T) rfl
  have hB : bestRem T (initSt T) = some (runCost T (initSt T) q0) := hbest
  have hD := dpExact_partial T h64 hT
  rw [hB] at hD
  have hs := spec_eq_table T
  rw [← hD] at hs
  simp only [printed2, Option.map_some, Option.getD_some] at hs
  exact ⟨_, hB, by omega⟩

theorem root_opt (h64 : T.n ≤ 64) (hT : InstOk T) (o : Int)
    (ho : root2 T - 2 * o = Srflp.spec T.n (lenOf T) (flow T)) : bestRem T (initSt T) = some o := by
  obtain ⟨o', hb, ho'⟩ := root_bestRem T h64 hT
  rw [hb]
  congr 1
  omega

/-- the `o` of the theorems below exists: the model's optimum (`root2 T - Srflp.spec` is even) -/
theorem root_opt_exists (h64 : T.n ≤ 64) (hT : InstOk T) :
    ∃ o : Int, root2 T - 2 * o = Srflp.spec T.n (lenOf T) (flow T) :=
  (root_bestRem T h64 hT).imp fun _ h => h.2

/-- `next_variable` answers `None` from depth `n` on -/
theorem nvBound : Closed.NvBound (problem T) := by
  intro k L hk
  have hk' : T.n ≤ k := hk
  show nextVar T k = none
  unfold nextVar
  rw [if_neg (by omega)]

/-- `srflp_relaxed_ub` given the admissibility of the rough bound (`RubHyp`); that the compilation ends normally is
    `Ddo.Closed.compile_no_crash` -/
theorem srflp_relaxed_ub_of_rub' {K : Type} [DecidableEq K] (T : Tab) (h64 : T.n ≤ 64) (hT : InstOk T) (hS : SmallInst T)
    (hRub : RubHyp T)
    (cfg : Cfg St K) (cache : Cache St) (store : DomStore St K) (polls : Nat)
    (hP : cfg.P = problem T) (hR : cfg.R = relaxation T)
    (hrs : cfg.root.state = initSt T) (hrv : cfg.root.value = 0) (hrd : cfg.root.depth = 0)
    (hrel : cfg.ctype = .relaxed) (hcache : cfg.useCache = false) (hdom : cfg.dom = none) (hW : 1 ≤ cfg.width)
    (hlb : InI cfg.lb)
    (o : Int) (ho : root2 T - 2 * o = Srflp.spec T.n (lenOf T) (flow T)) (hgt : o > cfg.lb)
    (hO : o ≤ iMax ∨ cfg.lb < iMax) :
    (compile cfg cache store polls none).1 = .ok ∧
    ∃ bv, (compile cfg cache store polls none).2.1.bestValue = some bv ∧
      root2 T - 2 * bv ≤ Srflp.spec T.n (lenOf T) (flow T) := by
  have hok : (compile cfg cache store polls none).1 = .ok :=
    Closed.compile_no_crash cfg cache store polls hcache hdom hW (by rw [hP]; exact nvBound T) (by rw [hrd]; omega)
  have hroot := root_opt T h64 hT o ho
  obtain ⟨bv, hbv, hle⟩ := CoverRel.relaxed_ub_rel_valid cfg (H T) (Vb T) 4503599627370496 4503599627370496 cache store polls
    hrel hcache hdom hW
    (by rw [hP, hR]; exact wfRelV_of_rub T h64 hT hS hRub)
    (by rw [hrd, hrs]; exact vb_init T)
    (by rw [hP, hR, hrv]; exact noClampRel T h64 hT hS)
    hlb o
    (by
      unfold optOf
      rw [hrd, hrs, hrv]
      show (bestRem T (initSt T)).addI 0 = some o
      rw [hroot]
      simp [EInt.addI])
    hgt hO hok
  exact ⟨hok, bv, hbv, by omega⟩

/-- **The shipped srflp example (repaired rough bound)**: a relaxed compilation of its model from the root (layer by layer, no
    cache, no dominance checker, width ≥ 1, any incumbent `lb` that the optimum `o` of the model beats) ends normally and reports
    a best value `bv` whose printed objective `-bv + root_value()` (twice: `root2 T - 2 bv`) is at most the least cost
    `Srflp.spec` over all orders of the departments — for every instance of the domain with at most 64 departments, lengths and
    flows at most `2^20`, and the tables `Srflp::new` builds.  There is no hypothesis about the model. -/
theorem srflp_relaxed_ub {K : Type} [DecidableEq K] (T : Tab) (h64 : T.n ≤ 64) (hTS : TabSorted T) (hT : InstOk T)
    (hS : SmallInst T)
    (cfg : Cfg St K) (cache : Cache St) (store : DomStore St K) (polls : Nat)
    (hP : cfg.P = problem T) (hR : cfg.R = relaxation T)
    (hrs : cfg.root.state = initSt T) (hrv : cfg.root.value = 0) (hrd : cfg.root.depth = 0)
    (hrel : cfg.ctype = .relaxed) (hcache : cfg.useCache = false) (hdom : cfg.dom = none) (hW : 1 ≤ cfg.width)
    (hlb : InI cfg.lb)
    (o : Int) (ho : root2 T - 2 * o = Srflp.spec T.n (lenOf T) (flow T)) (hgt : o > cfg.lb)
    (hO : o ≤ iMax ∨ cfg.lb < iMax) :
    (compile cfg cache store polls none).1 = .ok ∧
    ∃ bv, (compile cfg cache store polls none).2.1.bestValue = some bv ∧
      root2 T - 2 * bv ≤ Srflp.spec T.n (lenOf T) (flow T) :=
  srflp_relaxed_ub_of_rub' T h64 hT hS (rubHyp T h64 hTS hT) cfg cache store polls hP hR hrs hrv hrd hrel hcache hdom hW hlb
    o ho hgt hO

/-- `srflp_relaxed_ub` for the tables the reader and `Srflp::new` build from an instance file (`tabOf`) -/
theorem srflp_relaxed_ub_tabOf {K : Type} [DecidableEq K] (n : Nat) (lens : List Int) (flows : List (List Int)) (clear : Bool)
    (h64 : n ≤ 64) (hT : InstOk (tabOf n lens flows clear)) (hS : SmallInst (tabOf n lens flows clear))
    (cfg : Cfg St K) (cache : Cache St) (store : DomStore St K) (polls : Nat)
    (hP : cfg.P = problem (tabOf n lens flows clear)) (hR : cfg.R = relaxation (tabOf n lens flows clear))
    (hrs : cfg.root.state = initSt (tabOf n lens flows clear)) (hrv : cfg.root.value = 0) (hrd : cfg.root.depth = 0)
    (hrel : cfg.ctype = .relaxed) (hcache : cfg.useCache = false) (hdom : cfg.dom = none) (hW : 1 ≤ cfg.width)
    (hlb : InI cfg.lb)
    (o : Int)
    (ho : root2 (tabOf n lens flows clear) - 2 * o
      = Srflp.spec n (lenOf (tabOf n lens flows clear)) (flow (tabOf n lens flows clear)))
    (hgt : o > cfg.lb) (hO : o ≤ iMax ∨ cfg.lb < iMax) :
    (compile cfg cache store polls none).1 = .ok ∧
    ∃ bv, (compile cfg cache store polls none).2.1.bestValue = some bv ∧
      root2 (tabOf n lens flows clear) - 2 * bv
        ≤ Srflp.spec n (lenOf (tabOf n lens flows clear)) (flow (tabOf n lens flows clear)) :=
  srflp_relaxed_ub (tabOf n lens flows clear) h64 (tabSorted_tabOf n lens flows clear) hT hS cfg cache store polls hP hR hrs hrv
    hrd hrel hcache hdom hW hlb o ho hgt hO

/-! ## non-vacuity: 4 departments (lengths `1 2 3 4`, flows `1 … 6`), width 1: every layer after the first is merged into one
    node.  The optimum of the model is `-27` (`root2 = 118`, `Srflp.spec = 172 = 118 + 54`); the compiled evaluation of the
    relaxed compilation (`#eval`) reports `-14`, i.e. the printed bound `118 + 28 = 146 ≤ 172`.  The compilation itself is NOT
    evaluated in the kernel (`List.merge` / `List.mergeSort` — the cuts of `maybe_place` in the transition cost, the ratios of
    the rough bound, the tables of `tabOf` — are defined by well-founded recursion, which `decide +kernel` cannot unfold): that it
    ends normally comes from the general no-crash theorem instead. -/
namespace Demo

def Td : Tab := tabOf 4 [1, 2, 3, 4] [[0, 1, 2, 3], [1, 0, 4, 5], [2, 4, 0, 6], [3, 5, 6, 0]] false

def cfg : Cfg St Unit :=
  { P := problem Td, R := relaxation Td, rank := ⟨rankCmp⟩, dom := none,
    useCache := false, kind := .lel, ctype := .relaxed, width := 1, root := ⟨initSt Td, 0, [], iMax, 0⟩, lb := -1000000 }

theorem n_Td : Td.n = 4 := rfl
theorem spec_Td : Srflp.spec Td.n (lenOf Td) (flow Td) = 172 := by decide +kernel
theorem root2_Td : root2 Td = 118 := by decide +kernel
theorem instOk_Td : InstOk Td := by unfold InstOk; decide +kernel
theorem small_Td : SmallInst Td := ⟨by decide +kernel, by decide +kernel⟩

/-- **non-vacuity of `srflp_relaxed_ub`**: nothing is assumed -/
theorem demo_closed :
    ∃ bv, (compile cfg (Cache.init 4) (DomStore.init 4) 0 none).2.1.bestValue = some bv ∧ 118 - 2 * bv ≤ 172 := by
  have h := (srflp_relaxed_ub_of_rub' Td (by decide) instOk_Td small_Td (rubHyp Td (by decide) (tabSorted_tabOf _ _ _ _) instOk_Td)
    cfg (Cache.init 4) (DomStore.init 4) 0 rfl rfl rfl rfl rfl rfl rfl rfl (by decide) (by decide) (-27)
    (by rw [spec_Td, root2_Td]; decide) (by decide) (by decide)).2
  rw [spec_Td, root2_Td] at h
  exact h

-- expected: `(Ddo.Outcome.ok, some (-14))`
#eval ((compile cfg (Cache.init 4) (DomStore.init 4) 0 none).1, (compile cfg (Cache.init 4) (DomStore.init 4) 0 none).2.1.bestValue)

end Demo

#print axioms wfRelV_of_rub
#print axioms noClampRel
#print axioms srflp_relaxed_ub_of_rub'
#print axioms srflp_relaxed_ub
#print axioms srflp_relaxed_ub_tabOf
#print axioms Demo.demo_closed
#print axioms root_opt_exists

end Ddo.Examples.SrflpModel
