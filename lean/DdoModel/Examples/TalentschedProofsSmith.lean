import DdoModel.Examples.TalentschedProofsStep
import DdoModel.Examples.SmithRule
/-! The single-machine part of the talentsched rough bound (Garcia de la Banda, Stuckey & Chu), on plain lists of actors (no
    state, no instance).  The actors on location are the jobs of one machine: actor `a` has weight `c a` and length
    `key a * c a`, where `key a = Σ_j duration_j / T_j` over the scenes `j` he still plays in (the duration of every scene is
    split among the actors on location who play in it, in proportion to their costs).  `posK key c e l`, the sum of the weighted
    completion times from time `e` on, is what the second loop of `fast_upper_bound` accumulates.  A list sorted by `key`
    (= length / weight: Smith's ratio) is cheapest among its permutations (`posK_smith`, from `SmithRule.lean`); `posK` is
    linear in `key`; for the 0/1 key of the actors of ONE scene `j`, whatever the order,
    `2 · posK ≤ 2·e·W + 2·T·W − T² + Q` (`posK_ind_le`; `W` = total weight of the list, `T`, `Q` = Σ cost, Σ cost² of the actors
    of `j`; the worst case has them in front): with `W = T +` the others, this is where the term
    `duration_j · (T_j + Q_j / T_j) / 2` that the first loop of the code subtracts comes from. -/
namespace Ddo.Examples.TalentschedModel
open Ddo Ddo.Examples Ddo.Examples.Util Ddo.SpecUtil

def posK (key c : Nat → Int) : Int → List Nat → Int
  | _, [] => 0
  | e, a :: l => c a * (e + key a * c a) + posK key c (e + key a * c a) l

theorem posK_cons (key c : Nat → Int) (e : Int) (a : Nat) (l : List Nat) :
    posK key c e (a :: l) = c a * (e + key a * c a) + posK key c (e + key a * c a) l := rfl

def lenK (key c : Nat → Int) (l : List Nat) : Int := (l.map fun a => key a * c a).sum

theorem posK_append (key c : Nat → Int) : ∀ (xs ys : List Nat) (e : Int),
    posK key c e (xs ++ ys) = posK key c e xs + posK key c (e + lenK key c xs) ys := by
  intro xs
  induction xs with
  | nil => intro ys e; simp [posK, lenK]
  | cons a xs ih =>
    intro ys e
    rw [List.cons_append, posK_cons, posK_cons, ih]
    have : e + lenK key c (a :: xs) = e + key a * c a + lenK key c xs := by
      simp only [lenK, List.map_cons, List.sum_cons]; omega
    rw [this]; omega

/-- weighted COMPLETION times are weighted start times plus `Σ weight · length`, which no reordering changes -/
theorem posK_eq_wct (key c : Nat → Int) : ∀ (l : List Nat) (e : Int),
    posK key c e l = SrflpModel.wct e (l.map fun a => (key a * c a, c a)) + (l.map fun a => c a * (key a * c a)).sum := by
  intro l
  induction l with
  | nil => intro e; rfl
  | cons a l ih =>
    intro e
    simp only [posK_cons, ih, List.map_cons, SrflpModel.wct, List.sum_cons, Int.mul_add, Int.mul_comm (c a) e]
    omega

theorem posK_smith (key c : Nat → Int) (hc : ∀ a, 0 ≤ c a) {l l' : List Nat} (e : Int)
    (hs : l.Pairwise (fun a b => key a ≤ key b)) (hp : l'.Perm l) : posK key c e l ≤ posK key c e l' := by
  have hsm : SrflpModel.SmithSorted (l.map fun a => (key a * c a, c a)) := by
    unfold SrflpModel.SmithSorted
    rw [List.pairwise_map]
    refine hs.imp fun {a b} hab => ?_
    have := Int.mul_le_mul_of_nonneg_left hab (Int.mul_nonneg (hc a) (hc b))
    show c b * (key a * c a) ≤ c a * (key b * c b)
    have e1 : c b * (key a * c a) = c a * c b * key a := by ac_rfl
    have e2 : c a * (key b * c b) = c a * c b * key b := by ac_rfl
    omega
  have := SrflpModel.smith_rule_optimal e hsm (hp.map _)
  rw [posK_eq_wct, posK_eq_wct, perm_sum_eq (hp.map _)]
  omega

theorem posK_lin (k1 k2 c : Nat → Int) (m : Int) : ∀ (l : List Nat) (e1 e2 : Int),
    posK (fun a => k1 a + m * k2 a) c (e1 + m * e2) l = posK k1 c e1 l + m * posK k2 c e2 l := by
  intro l
  induction l with
  | nil => intro e1 e2; simp [posK]
  | cons a l ih =>
    intro e1 e2
    simp only [posK_cons]
    have h : e1 + m * e2 + (k1 a + m * k2 a) * c a = (e1 + k1 a * c a) + m * (e2 + k2 a * c a) := by grind
    rw [h, ih]
    grind

theorem posK_congr {k1 k2 c : Nat → Int} : ∀ (l : List Nat) (e : Int), (∀ a ∈ l, k1 a = k2 a) →
    posK k1 c e l = posK k2 c e l := by
  intro l
  induction l with
  | nil => intro e _; rfl
  | cons a l ih =>
    intro e h
    simp only [posK_cons]
    rw [h a List.mem_cons_self, ih _ fun x hx => h x (List.mem_cons_of_mem _ hx)]

/-- from `e = 0` only: a job of length 0 started at `e` costs `c a * e` -/
theorem posK_prefix_zero (key c : Nat → Int) (l : List Nat) : ∀ (pre : List Nat), (∀ a ∈ pre, key a = 0) →
    posK key c 0 (pre ++ l) = posK key c 0 l := by
  intro pre
  induction pre with
  | nil => intro _; rfl
  | cons a pre ih =>
    intro h
    rw [List.cons_append, posK_cons, h a List.mem_cons_self]
    simp only [Int.zero_mul, Int.add_zero, Int.mul_zero, Int.zero_add]
    exact ih fun x hx => h x (List.mem_cons_of_mem _ hx)

def indK (b : Nat → Bool) (a : Nat) : Int := if b a then 1 else 0

def sumW (c : Nat → Int) (l : List Nat) : Int := (l.map c).sum
def sumT (b : Nat → Bool) (c : Nat → Int) (l : List Nat) : Int := (l.map fun a => if b a then c a else 0).sum
def sumQ (b : Nat → Bool) (c : Nat → Int) (l : List Nat) : Int := (l.map fun a => if b a then c a * c a else 0).sum

theorem sumT_nonneg (b : Nat → Bool) (c : Nat → Int) (hc : ∀ a, 0 ≤ c a) : ∀ l, 0 ≤ sumT b c l := by
  intro l
  induction l with
  | nil => exact Int.le_refl _
  | cons a l ih =>
    have : sumT b c (a :: l) = (if b a then c a else 0) + sumT b c l := by simp [sumT]
    rw [this]
    have := hc a
    split <;> omega

theorem posK_ind_le (b : Nat → Bool) (c : Nat → Int) (hc : ∀ a, 0 ≤ c a) : ∀ (l : List Nat) (e : Int),
    2 * posK (indK b) c e l ≤
      2 * e * sumW c l + 2 * sumT b c l * sumW c l - sumT b c l * sumT b c l + sumQ b c l := by
  intro l
  induction l with
  | nil => intro e; simp [posK, sumW, sumT, sumQ]
  | cons a l ih =>
    intro e
    have hW : sumW c (a :: l) = c a + sumW c l := by simp [sumW]
    have hT : sumT b c (a :: l) = (if b a then c a else 0) + sumT b c l := by simp [sumT]
    have hQ : sumQ b c (a :: l) = (if b a then c a * c a else 0) + sumQ b c l := by simp [sumQ]
    have hT0 := sumT_nonneg b c hc l
    have hca := hc a
    rw [posK_cons, hW, hT, hQ]
    have ih' := ih (e + indK b a * c a)
    revert ih'
    generalize sumW c l = W
    generalize sumT b c l = T at hT0 ⊢
    generalize sumQ b c l = Q
    generalize c a = ca at hca ⊢
    by_cases hb : b a = true
    · simp only [indK, hb, if_true]
      generalize posK (indK b) c (e + 1 * ca) l = X
      intro ih'
      grind
    · simp only [indK, hb]
      simp only [Bool.false_eq_true, if_false]
      generalize posK (indK b) c (e + 0 * ca) l = X
      intro ih'
      have := Int.mul_nonneg hT0 hca
      grind

end Ddo.Examples.TalentschedModel

section
open Ddo.Examples.TalentschedModel
#print axioms posK_smith
#print axioms posK_lin
#print axioms posK_ind_le
end
