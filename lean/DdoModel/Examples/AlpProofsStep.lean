import DdoModel.Examples.AlpProofsSort
/-! alp example: the arrival time as a function of the runway state (`arrP`; `arrP_le`: the target time and,
    unless the runway is empty, the separation kept before the class, `sepBefore`) and its monotonicity (in the time
    of the runway; under a landing inserted before — the triangle inequality); what the domain of a state contains
    (`mem_domain`, `domain_complete`); the value-to-go `bestRem` as the maximum over the MOVES of the state
    (`bestRem_le_of_moves`, `bestRem_ge_move`): the early `return` of `for_each_in_domain` (a class whose next aircraft
    fits on no runway empties the domain) and its symmetry breaking (one runway per runway state) lose nothing. -/
namespace Ddo.Examples.AlpModel
open Ddo Ddo.Examples Ddo.Examples.Util

variable (I : Inst)

/-- `get_arrival_time` as a function of the state `p` of the runway -/
def arrP (p : Rw) (a : Nat) : Int :=
  if p.1 = 0 ∧ p.2 = -1 then I.tgt a
  else if p.2 = -1 then max (I.tgt a) (p.1 + I.minSepTo (I.cls a))
  else max (I.tgt a) (p.1 + I.sepAt p.2.toNat (I.cls a))

/-- the state of runway `r` (out of range: an empty runway) -/
def rwAt (s : St) (r : Nat) : Rw := (s.2[r]?).getD (0, -1)

theorem arrival_eq (s : St) (a r : Nat) : arrival I s.2 a r = arrP I (rwAt s r) a := rfl

/-- the input domain, unpacked -/
structure InDom : Prop where
  cls_lt : ∀ a, a < I.nbAircraft → I.cls a < I.nbClasses
  tgt_nn : ∀ a, a < I.nbAircraft → 0 ≤ I.tgt a
  sep_nn : ∀ x y, x < I.nbClasses → y < I.nbClasses → 0 ≤ I.sepAt x y
  tri : ∀ x y z, x < I.nbClasses → y < I.nbClasses → z < I.nbClasses → I.sepAt x z ≤ I.sepAt x y + I.sepAt y z

theorem inDom_of (h : I.inDomain = true) : InDom I := by
  simp only [Inst.inDomain, Bool.and_eq_true, List.all_eq_true, List.mem_range, decide_eq_true_eq] at h
  obtain ⟨⟨⟨_, h1⟩, _⟩, h3⟩ := h
  exact ⟨fun a ha => (h1 a ha).1, fun a ha => (h1 a ha).2, fun x y hx hy => (h3 x hx y hy).1,
    fun x y z hx hy hz => (h3 x hx y hy).2 z hz⟩

/-- the separation kept before an aircraft of class `c` on a runway whose last landing has class `q`; `-1` (unknown):
    the least separation before class `c` -/
def sepBefore (q : Int) (c : Nat) : Int := if q = -1 then I.minSepTo c else I.sepAt q.toNat c

theorem sepBefore_natCast (c y : Nat) : sepBefore I (c : Int) y = I.sepAt c y := by
  unfold sepBefore
  rw [if_neg (by omega), Int.toNat_natCast]

theorem arrP_of_empty {p : Rw} (h : p.1 = 0 ∧ p.2 = -1) (a : Nat) : arrP I p a = I.tgt a := by
  unfold arrP
  rw [if_pos h]

theorem arrP_of_ne {p : Rw} (h : ¬(p.1 = 0 ∧ p.2 = -1)) (a : Nat) :
    arrP I p a = max (I.tgt a) (p.1 + sepBefore I p.2 (I.cls a)) := by
  unfold arrP sepBefore
  rw [if_neg h]
  by_cases h2 : p.2 = -1
  · rw [if_pos h2, if_pos h2]
  · rw [if_neg h2, if_neg h2]

theorem arrP_empty (a : Nat) : arrP I (0, -1) a = I.tgt a := arrP_of_empty I ⟨rfl, rfl⟩ a

theorem arrP_known (t : Int) (c b : Nat) : arrP I (t, (c : Int)) b = max (I.tgt b) (t + I.sepAt c (I.cls b)) := by
  rw [arrP_of_ne I (fun h => by have := h.2; omega), sepBefore_natCast]

theorem arrP_le {p : Rw} {a : Nat} {x : Int} :
    arrP I p a ≤ x ↔ I.tgt a ≤ x ∧ (¬(p.1 = 0 ∧ p.2 = -1) → p.1 + sepBefore I p.2 (I.cls a) ≤ x) := by
  by_cases h : p.1 = 0 ∧ p.2 = -1
  · rw [arrP_of_empty I h]
    exact ⟨fun hx => ⟨hx, fun h' => absurd h h'⟩, fun hx => hx.1⟩
  · rw [arrP_of_ne I h, Int.max_le]
    exact ⟨fun hx => ⟨hx.1, fun _ => hx.2⟩, fun hx => ⟨hx.1, hx.2 h⟩⟩

theorem tgt_le_arrP (p : Rw) (a : Nat) : I.tgt a ≤ arrP I p a := arrival_ge_target I [p] a 0

theorem add_sep_le_arrP {p : Rw} (h : ¬(p.1 = 0 ∧ p.2 = -1)) (a : Nat) :
    p.1 + sepBefore I p.2 (I.cls a) ≤ arrP I p a := ((arrP_le I).mp (Int.le_refl _)).2 h

theorem arrP_mono {x y c : Int} (hc : c ≠ -1) (h : x ≤ y) (a : Nat) : arrP I (x, c) a ≤ arrP I (y, c) a :=
  (arrP_le I).mpr ⟨tgt_le_arrP I _ a,
    fun _ => Int.le_trans (Int.add_le_add_right h _) (add_sep_le_arrP I (fun h' => hc h'.2) a)⟩

theorem arrP_same_cls (p : Rw) {a b : Nat} (hc : I.cls a = I.cls b) {x : Int} (hb : I.tgt b ≤ x)
    (ha : arrP I p a ≤ x) : arrP I p b ≤ x := by
  rw [arrP_le] at ha ⊢
  rw [← hc]
  exact ⟨hb, ha.2⟩

theorem minSepTo_le_sepBefore {q : Int} (h1 : -1 ≤ q) (h2 : q < (I.nbClasses : Int)) (c : Nat) :
    I.minSepTo c ≤ sepBefore I q c := by
  unfold sepBefore
  by_cases hq : q = -1
  · rw [if_pos hq]
    exact Int.le_refl _
  · rw [if_neg hq]
    exact minSepTo_le I c (by omega)

theorem minSepTo_tri (hD : InDom I) {x y : Nat} (hx : x < I.nbClasses) (hy : y < I.nbClasses) :
    I.minSepTo y ≤ I.minSepTo x + I.sepAt x y := by
  rcases (EMax.foldl_intMin_spec (fun i => I.sepAt i x) (List.range I.nbClasses) iMax).2.2 with h | ⟨i, hi, h⟩
  · have h1 : I.minSepTo y ≤ iMax := (EMax.foldl_intMin_spec (fun i => I.sepAt i y) (List.range I.nbClasses) iMax).1
    rw [show I.minSepTo x = iMax from h]
    exact Int.le_trans h1 (Int.le_add_of_nonneg_right (hD.sep_nn x y hx hy))
  · have hi' := List.mem_range.mp hi
    rw [show I.minSepTo x = I.sepAt i x from h]
    exact Int.le_trans (minSepTo_le I y hi') (hD.tri i x y hi' hx hy)

theorem sepBefore_tri (hD : InDom I) {q : Int} (hq2 : q < (I.nbClasses : Int)) {x y : Nat}
    (hx : x < I.nbClasses) (hy : y < I.nbClasses) : sepBefore I q y ≤ sepBefore I q x + I.sepAt x y := by
  unfold sepBefore
  by_cases hq : q = -1
  · rw [if_pos hq, if_pos hq]
    exact minSepTo_tri I hD hx hy
  · rw [if_neg hq, if_neg hq]
    exact hD.tri q.toNat x y (by omega) hx hy

/-- a landing inserted before never makes the next one earlier (triangle inequality) -/
theorem arrP_skip (hD : InDom I) {p : Rw} (hp : RwOk I p) {a b : Nat} (ha : a < I.nbAircraft) (hb : b < I.nbAircraft) :
    arrP I p b ≤ arrP I (arrP I p a, (I.cls a : Int)) b := by
  rw [arrP_known, arrP_le]
  refine ⟨Int.le_max_left _ _, fun h => Int.le_trans ?_ (Int.le_max_right _ _)⟩
  have h1 := add_sep_le_arrP I h a
  have h2 := sepBefore_tri I hD hp.2.2 (hD.cls_lt a ha) (hD.cls_lt b hb)
  omega

theorem fromDecision_toDecision {c : Nat} (hc : c < I.nbClasses) (r : Nat) :
    fromDecision I (toDecision I c r) = (c, r) := by
  unfold fromDecision toDecision
  simp only [Int.toNat_natCast]
  rw [Nat.add_mul_mod_self_left, Nat.add_mul_div_left _ _ (by omega : 0 < I.nbClasses), Nat.mod_eq_of_lt hc,
    Nat.div_eq_of_lt hc, Nat.zero_add]

theorem toDecision_nonneg (c r : Nat) : 0 ≤ toDecision I c r := by
  unfold toDecision; omega

theorem nextTab_succ {c k a : Nat} (h : (I.nextTab c)[k + 1]? = some a) : a < I.nbAircraft ∧ I.cls a = c := by
  unfold Inst.nextTab at h
  rw [List.getElem?_cons_succ] at h
  have hm : a ∈ ((List.range I.nbAircraft).filter (fun a => I.cls a == c)).reverse := List.mem_of_getElem? h
  rw [List.mem_reverse, List.mem_filter, List.mem_range] at hm
  exact ⟨hm.1, by simpa using hm.2⟩

/-- the state after landing aircraft `a` (of class `c`, `k'` left afterwards) on runway `r` -/
def land (s : St) (c r a k' : Nat) : St :=
  (s.1.set c k', sortRw (s.2.set r (arrP I (rwAt s r) a, (c : Int))))

theorem trans_toDecision {s : St} {c r a k' : Nat} (hc : c < I.nbClasses) (hk : s.1[c]? = some (k' + 1))
    (ha : (I.nextTab c)[k' + 1]? = some a) (hr : r < s.2.length) :
    trans? I s (toDecision I c r) = some (land I s c r a k')
      ∧ cost? I s (toDecision I c r) = some (-(arrP I (rwAt s r) a - I.tgt a)) := by
  have h0 := toDecision_nonneg I c r
  have h1 : toDecision I c r ≠ -1 := by omega
  have h2 : ¬ (toDecision I c r < 0 ∨ I.nbClasses = 0) := by omega
  have h3 : aircraftOf? I s c = some a := by
    unfold aircraftOf?
    rw [hk]
    exact ha
  have h4 := (nextTab_succ I ha).2
  unfold trans? cost?
  simp only [h1, h2, if_false, fromDecision_toDecision I hc, h3, h4, hk, hr, if_true]
  exact ⟨rfl, rfl⟩

theorem trans_toDecision_none {s : St} {c r k : Nat} (hc : c < I.nbClasses) (hk : s.1[c]? = some k)
    (ha : (I.nextTab c)[k]? = none) : trans? I s (toDecision I c r) = none ∧ cost? I s (toDecision I c r) = none := by
  have h0 := toDecision_nonneg I c r
  have h1 : toDecision I c r ≠ -1 := by omega
  have h2 : ¬ (toDecision I c r < 0 ∨ I.nbClasses = 0) := by omega
  have h3 : aircraftOf? I s c = none := by
    unfold aircraftOf?
    rw [hk]
    exact ha
  unfold trans? cost?
  simp only [h1, h2, if_false, fromDecision_toDecision I hc, h3, and_self]

theorem lt_of_getElem?_some {l : List Nat} {c k : Nat} (h : l[c]? = some k) : c < l.length :=
  (List.getElem?_eq_some_iff.mp h).1

theorem totRem_eq (s : St) : totRem s = s.1.sum := List.sum_eq_foldl_nat.symm

theorem totRem_zero_iff (s : St) : totRem s = 0 ↔ ∀ k ∈ s.1, k = 0 := by
  rw [totRem_eq]
  exact List.sum_eq_zero_iff_forall_eq_nat

private theorem sum_set (l : List Nat) (c k' : Nat) (h : l[c]? = some (k' + 1)) : (l.set c k').sum + 1 = l.sum := by
  obtain ⟨hc, e⟩ := List.getElem?_eq_some_iff.mp h
  rw [(set_perm l c hc k').sum_nat, (self_perm_eraseIdx l c hc).sum_nat, e, List.sum_cons, List.sum_cons]
  omega

theorem totRem_land (s : St) {c k' : Nat} (r a : Nat) (h : s.1[c]? = some (k' + 1)) :
    totRem (land I s c r a k') + 1 = totRem s := by
  rw [totRem_eq, totRem_eq]
  exact sum_set s.1 c k' h

theorem totRem_land_le {s : St} {c k' fuel : Nat} (r a : Nat) (h : s.1[c]? = some (k' + 1)) (hf : totRem s ≤ fuel + 1) :
    totRem (land I s c r a k') ≤ fuel := by
  have := totRem_land I s r a h
  omega

theorem totRem_pos_of {s : St} {c k : Nat} (h : s.1[c]? = some k) (hk : 0 < k) : 0 < totRem s :=
  Nat.pos_of_ne_zero (fun e => Nat.ne_of_gt hk ((totRem_zero_iff s).mp e k (List.mem_of_getElem? h)))

/-- one step of the runway loop of `for_each_in_domain` -/
def domStep (s : St) (c a : Nat) (acc : List Int × List Rw) (r : Nat) : List Int × List Rw :=
  if acc.2.contains (rwAt s r) then acc
  else if arrP I (rwAt s r) a ≤ I.lat a then (acc.1 ++ [toDecision I c r], acc.2 ++ [rwAt s r]) else acc

/-- the runway loop over the runways below `n` -/
def domRun (s : St) (c a n : Nat) : List Int × List Rw := (List.range n).foldl (domStep I s c a) ([], [])

theorem domRunways_eq (s : St) (c a : Nat) : domRunways I s c a = domRun I s c a I.nbRunways := rfl

theorem domStep_cases (s : St) (c a : Nat) (acc : List Int × List Rw) (x : Nat) :
    domStep I s c a acc x = acc ∧ (arrP I (rwAt s x) a ≤ I.lat a → rwAt s x ∈ acc.2) ∨
      (domStep I s c a acc x = (acc.1 ++ [toDecision I c x], acc.2 ++ [rwAt s x]) ∧ arrP I (rwAt s x) a ≤ I.lat a) := by
  unfold domStep
  by_cases hc : acc.2.contains (rwAt s x) = true
  · rw [if_pos hc]
    exact Or.inl ⟨rfl, fun _ => List.contains_iff_mem.mp hc⟩
  · rw [if_neg hc]
    by_cases hl : arrP I (rwAt s x) a ≤ I.lat a
    · rw [if_pos hl]
      exact Or.inr ⟨rfl, hl⟩
    · rw [if_neg hl]
      exact Or.inl ⟨rfl, fun h => absurd h hl⟩

theorem domRun_spec (s : St) (c a n : Nat) :
    (∀ v ∈ (domRun I s c a n).1, ∃ r, r < n ∧ v = toDecision I c r ∧ arrP I (rwAt s r) a ≤ I.lat a) ∧
    (∀ p ∈ (domRun I s c a n).2, ∃ r, r < n ∧ p = rwAt s r ∧ toDecision I c r ∈ (domRun I s c a n).1) ∧
    (∀ r, r < n → arrP I (rwAt s r) a ≤ I.lat a → rwAt s r ∈ (domRun I s c a n).2) := by
  induction n with
  | zero => exact ⟨fun _ h => (nomatch h), fun _ h => (nomatch h), fun _ h => absurd h (Nat.not_lt_zero _)⟩
  | succ n ih =>
    have e0 : domRun I s c a (n + 1) = domStep I s c a (domRun I s c a n) n := by
      unfold domRun
      rw [List.range_succ, List.foldl_append]
      rfl
    rw [e0]
    obtain ⟨h1, h2, h3⟩ := ih
    rcases domStep_cases I s c a (domRun I s c a n) n with ⟨e, hx⟩ | ⟨e, hx⟩
    · rw [e]
      refine ⟨fun v hv => ?_, fun p hp => ?_, fun r hr hl => ?_⟩
      · obtain ⟨r, hr, h⟩ := h1 v hv
        exact ⟨r, Nat.lt_succ_of_lt hr, h⟩
      · obtain ⟨r, hr, h⟩ := h2 p hp
        exact ⟨r, Nat.lt_succ_of_lt hr, h⟩
      · rcases Nat.lt_succ_iff_lt_or_eq.mp hr with hr | rfl
        · exact h3 r hr hl
        · exact hx hl
    · rw [e]
      refine ⟨fun v hv => ?_, fun p hp => ?_, fun r hr hl => ?_⟩
      · rcases List.mem_append.mp hv with hv | hv
        · obtain ⟨r, hr, h⟩ := h1 v hv
          exact ⟨r, Nat.lt_succ_of_lt hr, h⟩
        · exact ⟨n, Nat.lt_succ_self n, List.mem_singleton.mp hv, hx⟩
      · rcases List.mem_append.mp hp with hp | hp
        · obtain ⟨r, hr, e', h⟩ := h2 p hp
          exact ⟨r, Nat.lt_succ_of_lt hr, e', List.mem_append_left _ h⟩
        · exact ⟨n, Nat.lt_succ_self n, List.mem_singleton.mp hp, List.mem_append_right _ (List.mem_singleton.mpr rfl)⟩
      · rcases Nat.lt_succ_iff_lt_or_eq.mp hr with hr | rfl
        · exact List.mem_append_left _ (h3 r hr hl)
        · exact List.mem_append_right _ (List.mem_singleton.mpr rfl)

/-- the aircraft the domain considers for class `c` with `k` left -/
def acOf (c k : Nat) : Nat := ((I.nextTab c)[k]?).getD 0

theorem acOf_some {c k a : Nat} (h : (I.nextTab c)[k]? = some a) : acOf I c k = a := by
  unfold acOf; rw [h]; rfl

theorem acOf_lt {c k : Nat} (hk : 0 < k) (h0 : 0 < I.nbAircraft) : acOf I c k < I.nbAircraft := by
  obtain ⟨k', rfl⟩ := Nat.exists_eq_add_one.mpr hk
  cases hb : (I.nextTab c)[k' + 1]? with
  | none => unfold acOf; rw [hb]; exact h0
  | some b => rw [acOf_some I hb]; exact (nextTab_succ I hb).1

theorem domClasses_eq (s : St) (cks : List (Nat × Nat)) (decs : List Int) (tot : Nat) :
    domClasses I s cks decs tot =
      if cks.any (fun ck => decide (0 < ck.2) && (domRunways I s ck.1 (acOf I ck.1 ck.2)).2.isEmpty) then none
      else some (decs ++ cks.flatMap (fun ck => if 0 < ck.2 then (domRunways I s ck.1 (acOf I ck.1 ck.2)).1 else []),
        tot + (cks.map Prod.snd).sum) := by
  induction cks generalizing decs tot with
  | nil => simp [domClasses]
  | cons ck rest ih =>
    obtain ⟨c, k⟩ := ck
    unfold domClasses
    simp only [ih, List.any_cons, List.flatMap_cons, List.map_cons, List.sum_cons, acOf]
    by_cases hk : 0 < k
    · by_cases he : (domRunways I s c (((I.nextTab c)[k]?).getD 0)).2.isEmpty = true
      · simp only [gt_iff_lt, hk, he, if_true, decide_true, Bool.and_self, Bool.true_or]
      · simp only [gt_iff_lt, hk, he, if_true, Bool.false_eq_true, if_false, decide_true, Bool.true_and, Bool.false_or,
          List.append_assoc, Nat.add_assoc]
    · simp only [gt_iff_lt, hk, if_false, decide_false, Bool.false_and, Bool.false_or, List.nil_append, Nat.add_assoc]

/-- `for_each_in_domain`: nothing when the next aircraft of some class is accepted on no runway, `-1` when nothing is left,
    else the decisions accepted class by class -/
theorem domain_eq (s : St) : domain I s =
    if ((List.range s.1.length).zip s.1).any
        (fun ck => decide (0 < ck.2) && (domRunways I s ck.1 (acOf I ck.1 ck.2)).2.isEmpty) then []
    else if totRem s = 0 then [-1]
    else ((List.range s.1.length).zip s.1).flatMap
      (fun ck => if 0 < ck.2 then (domRunways I s ck.1 (acOf I ck.1 ck.2)).1 else []) := by
  unfold domain
  rw [domClasses_eq, totRem_eq, List.map_snd_zip (Nat.le_of_eq List.length_range.symm), Nat.zero_add, List.nil_append]
  by_cases hany : ((List.range s.1.length).zip s.1).any
      (fun ck => decide (0 < ck.2) && (domRunways I s ck.1 (acOf I ck.1 ck.2)).2.isEmpty) = true
  · rw [if_pos hany, if_pos hany]
  · rw [if_neg hany, if_neg hany]

theorem mem_zip_range {l : List Nat} {c k : Nat} : (c, k) ∈ (List.range l.length).zip l ↔ l[c]? = some k := by
  simp only [List.mem_iff_getElem?, List.getElem?_zip_eq_some]
  constructor
  · rintro ⟨i, h1, h2⟩
    rw [List.getElem?_range (lt_of_getElem?_some h2)] at h1
    cases h1
    exact h2
  · exact fun h => ⟨c, by rw [List.getElem?_range (lt_of_getElem?_some h)], h⟩

theorem domain_zero {s : St} (h : totRem s = 0) : domain I s = [-1] := by
  rw [domain_eq, if_neg, if_pos h]
  intro ha
  obtain ⟨⟨c, k⟩, hm, hb⟩ := List.any_eq_true.mp ha
  have hk : k = 0 := (totRem_zero_iff s).mp h k (List.mem_of_getElem? (mem_zip_range.mp hm))
  rw [hk] at hb
  exact Bool.false_ne_true hb

theorem mem_domain {s : St} (h : 0 < totRem s) {v : Int} (hv : v ∈ domain I s) :
    ∃ c k r, s.1[c]? = some k ∧ 0 < k ∧ r < I.nbRunways ∧ v = toDecision I c r
      ∧ arrP I (rwAt s r) (acOf I c k) ≤ I.lat (acOf I c k) := by
  rw [domain_eq] at hv
  split at hv
  · nomatch hv
  · rw [if_neg (Nat.ne_of_gt h)] at hv
    obtain ⟨⟨c, k⟩, hm, hv⟩ := List.mem_flatMap.mp hv
    split at hv
    · next hk =>
      obtain ⟨r, hr, e, hl⟩ := (domRun_spec I s c (acOf I c k) I.nbRunways).1 v hv
      exact ⟨c, k, r, mem_zip_range.mp hm, hk, hr, e, hl⟩
    · nomatch hv

theorem domain_ne {s : St} (h : 0 < totRem s) : (domain I s == [-1]) = false := by
  cases hb : (domain I s == [-1])
  · rfl
  · have e : domain I s = [-1] := by simpa using hb
    have hm : (-1 : Int) ∈ domain I s := by rw [e]; exact List.mem_cons_self ..
    obtain ⟨c, k, r, _, _, _, e', _⟩ := mem_domain I h hm
    have := toDecision_nonneg I c r
    omega

/-- a class is blocked in `s`: aircraft of the class are left and the next one fits on no runway (or does not exist) -/
def Blocked (s : St) (c : Nat) : Prop :=
  ∃ k, s.1[c]? = some k ∧ 0 < k ∧ ∀ r, r < I.nbRunways → ¬ arrP I (rwAt s r) (acOf I c k) ≤ I.lat (acOf I c k)

/-- every move of a state with aircraft left is in the domain, up to the choice among runways in the same state —
    unless some class is blocked -/
theorem domain_complete {s : St} {c k r : Nat} (hk : s.1[c]? = some k) (hpos : 0 < k) (hr : r < I.nbRunways)
    (hl : arrP I (rwAt s r) (acOf I c k) ≤ I.lat (acOf I c k)) :
    (∃ c', Blocked I s c') ∨ ∃ r', r' < I.nbRunways ∧ rwAt s r' = rwAt s r ∧ toDecision I c r' ∈ domain I s := by
  by_cases hany : ((List.range s.1.length).zip s.1).any
      (fun ck => decide (0 < ck.2) && (domRunways I s ck.1 (acOf I ck.1 ck.2)).2.isEmpty) = true
  · left
    obtain ⟨⟨c', k'⟩, hm, hb⟩ := List.any_eq_true.mp hany
    rw [Bool.and_eq_true, decide_eq_true_eq, List.isEmpty_iff] at hb
    refine ⟨c', k', mem_zip_range.mp hm, hb.1, fun r' hr' hl' => ?_⟩
    have := (domRun_spec I s c' (acOf I c' k') I.nbRunways).2.2 r' hr' hl'
    rw [← domRunways_eq, hb.2] at this
    nomatch this
  · right
    obtain ⟨_, h2, h3⟩ := domRun_spec I s c (acOf I c k) I.nbRunways
    obtain ⟨r', hr', e, hv⟩ := h2 _ (h3 r hr hl)
    refine ⟨r', hr', e.symm, ?_⟩
    rw [domain_eq, if_neg hany, if_neg (Nat.ne_of_gt (totRem_pos_of hk hpos))]
    exact List.mem_flatMap.mpr ⟨(c, k), mem_zip_range.mpr hk, by rw [if_pos hpos]; exact hv⟩

/-- the worth of a decision: its cost plus the value-to-go of its target; `none` when the model would panic -/
def moveVal (fuel : Nat) (s : St) (v : Int) : EInt :=
  match trans? I s v, cost? I s v with
  | some s2, some c => (bestRem I fuel s2).addI c
  | _, _ => none

theorem bestRem_succ (fuel : Nat) (s : St) :
    bestRem I (fuel + 1) s = if (domain I s == [-1]) = true then some 0
      else (domain I s).foldl (fun acc v => EInt.max acc (moveVal I fuel s v)) none := by
  rw [bestRem]
  split
  · rfl
  · congr
    funext acc v
    unfold moveVal
    cases trans? I s v with
    | none => exact (EMax.max_none acc).symm
    | some s2 =>
      cases cost? I s v with
      | none => exact (EMax.max_none acc).symm
      | some c => rfl

/-- the working invariant: one entry per class / runway, every runway `RwOk` -/
def StW (s : St) : Prop := s.1.length = I.nbClasses ∧ s.2.length = I.nbRunways ∧ ∀ p ∈ s.2, RwOk I p

theorem StValid.toW {s : St} (h : StValid I s) : StW I s := ⟨h.1.1, h.1.2.1, h.2⟩

theorem rwAt_eq {s : St} {r : Nat} (h : r < s.2.length) : rwAt s r = s.2[r] := by
  unfold rwAt
  rw [List.getElem?_eq_getElem h]
  rfl

theorem rwAt_mem {s : St} {r : Nat} (h : r < s.2.length) : rwAt s r ∈ s.2 := rwAt_eq h ▸ List.getElem_mem h

theorem rwAt_of_mem {s : St} {p : Rw} (h : p ∈ s.2) : ∃ r, r < s.2.length ∧ rwAt s r = p := by
  obtain ⟨r, hr, e⟩ := List.mem_iff_getElem.mp h
  exact ⟨r, hr, (rwAt_eq hr).trans e⟩

theorem mem_land {s : St} {c r a k' : Nat} {p : Rw} (h : p ∈ (land I s c r a k').2) :
    p = (arrP I (rwAt s r) a, (c : Int)) ∨ p ∈ s.2 := by
  have h1 : p ∈ s.2.set r (arrP I (rwAt s r) a, (c : Int)) := mem_sortRw.mp h
  rcases List.mem_or_eq_of_mem_set h1 with h | h
  · exact Or.inr h
  · exact Or.inl h

theorem stW_land (hD : InDom I) {s : St} (hW : StW I s) {c r a k' : Nat} (hk : s.1[c]? = some (k' + 1))
    (ha : (I.nextTab c)[k' + 1]? = some a) : StW I (land I s c r a k') := by
  obtain ⟨h1, h2, h3⟩ := hW
  refine ⟨by simp [land, h1], by simp [land, sortRw_length, h2], ?_⟩
  intro p hp
  rcases mem_land I hp with rfl | hp
  · have hc : c < I.nbClasses := h1 ▸ lt_of_getElem?_some hk
    exact ⟨Int.le_trans (hD.tgt_nn a (nextTab_succ I ha).1) (tgt_le_arrP I (rwAt s r) a),
      Int.le_trans (by decide) (Int.natCast_nonneg c), Int.ofNat_lt.mpr hc⟩
  · exact h3 p hp

theorem stW_init : StW I (initState I) := by
  refine ⟨by simp [initState], by simp [initState], ?_⟩
  intro p hp
  simp only [initState] at hp
  rw [(List.mem_replicate.mp hp).2]
  exact ⟨by simp, by simp, by simp only; omega⟩

/-- a blocked class stays blocked: the runways only get later for it (triangle inequality), and its own next aircraft
    cannot move -/
theorem blocked_land (hD : InDom I) {s : St} (hW : StW I s) {c r a k' : Nat} (hk : s.1[c]? = some (k' + 1))
    (ha : (I.nextTab c)[k' + 1]? = some a) (hr : r < I.nbRunways) (hl : arrP I (rwAt s r) a ≤ I.lat a)
    {c2 : Nat} (hB : Blocked I s c2) : Blocked I (land I s c r a k') c2 := by
  obtain ⟨k2, hk2, hpos, hno⟩ := hB
  obtain ⟨han, hcls⟩ := nextTab_succ I ha
  by_cases hcc : c2 = c
  · subst hcc
    rw [hk] at hk2
    cases hk2
    rw [acOf_some I ha] at hno
    exact absurd hl (hno r hr)
  · have hW' := stW_land I hD hW hk ha (r := r)
    refine ⟨k2, ?_, hpos, ?_⟩
    · show (s.1.set c k')[c2]? = some k2
      rw [List.getElem?_set_ne (Ne.symm hcc)]
      exact hk2
    · intro r2 hr2
      have hbn : acOf I c2 k2 < I.nbAircraft := acOf_lt I hpos (Nat.zero_lt_of_lt han)
      have hm := rwAt_mem (s := land I s c r a k') (r := r2) (hW'.2.1.symm ▸ hr2)
      rcases mem_land I hm with e | hm
      · rw [e]
        have hrw : RwOk I (rwAt s r) := hW.2.2 _ (rwAt_mem (hW.2.1.symm ▸ hr))
        have h1 := arrP_skip I hD hrw han hbn
        rw [hcls] at h1
        exact fun h => hno r hr (Int.le_trans h1 h)
      · obtain ⟨r3, hr3, e3⟩ := rwAt_of_mem hm
        rw [← e3]
        exact hno r3 (hW.2.1 ▸ hr3)

theorem domain_step {s : St} (hs : s.1.length = I.nbClasses) (hr : s.2.length = I.nbRunways) (htot : 0 < totRem s)
    {v : Int} (hv : v ∈ domain I s) :
    (trans? I s v = none ∧ cost? I s v = none) ∨ ∃ c r a k', s.1[c]? = some (k' + 1) ∧ (I.nextTab c)[k' + 1]? = some a ∧ r < I.nbRunways ∧
      arrP I (rwAt s r) a ≤ I.lat a ∧ trans? I s v = some (land I s c r a k') ∧
      cost? I s v = some (-(arrP I (rwAt s r) a - I.tgt a)) := by
  obtain ⟨c, k, r, hk, hpos, hr', e, hl⟩ := mem_domain I htot hv
  have hc : c < I.nbClasses := hs ▸ lt_of_getElem?_some hk
  subst e
  cases ha : (I.nextTab c)[k]? with
  | none => exact Or.inl (trans_toDecision_none I hc hk ha)
  | some a =>
    obtain ⟨k', rfl⟩ := Nat.exists_eq_add_one.mpr hpos
    rw [acOf_some I ha] at hl
    obtain ⟨h1, h2⟩ := trans_toDecision I hc hk ha (r := r) (hr ▸ hr')
    exact Or.inr ⟨c, r, a, k', hk, ha, hr', hl, h1, h2⟩

theorem moveVal_domain {s : St} (hs : s.1.length = I.nbClasses) (hr : s.2.length = I.nbRunways) (htot : 0 < totRem s)
    (fuel : Nat) {v : Int} (hv : v ∈ domain I s) :
    moveVal I fuel s v = none ∨ ∃ c r a k', s.1[c]? = some (k' + 1) ∧ (I.nextTab c)[k' + 1]? = some a ∧ r < I.nbRunways ∧
      arrP I (rwAt s r) a ≤ I.lat a ∧
      moveVal I fuel s v = (bestRem I fuel (land I s c r a k')).addI (-(arrP I (rwAt s r) a - I.tgt a)) := by
  unfold moveVal
  rcases domain_step I hs hr htot hv with e | ⟨c, r, a, k', hk, ha, hr', hl, e1, e2⟩
  · rw [e.1]
    exact Or.inl rfl
  · rw [e1, e2]
    exact Or.inr ⟨c, r, a, k', hk, ha, hr', hl, rfl⟩

theorem bestRem_le_of_moves {s : St} (hs : s.1.length = I.nbClasses) (hr : s.2.length = I.nbRunways)
    (htot : 0 < totRem s) (fuel : Nat) (X : EInt)
    (h : ∀ c r a k', s.1[c]? = some (k' + 1) → (I.nextTab c)[k' + 1]? = some a → r < I.nbRunways →
      arrP I (rwAt s r) a ≤ I.lat a →
      (bestRem I fuel (land I s c r a k')).addI (-(arrP I (rwAt s r) a - I.tgt a)) ≤ X) :
    bestRem I (fuel + 1) s ≤ X := by
  rw [bestRem_succ, domain_ne I htot, if_neg Bool.false_ne_true]
  apply EMax.foldl_max_le _ _ _ (EInt.none_le _)
  intro v hv
  rcases moveVal_domain I hs hr htot fuel hv with e | ⟨c, r, a, k', hk, ha, hr', hl, e⟩
  · rw [e]; exact EInt.none_le _
  · rw [e]; exact h c r a k' hk ha hr' hl

/-- a state with a blocked class has no completion -/
theorem stuck (hD : InDom I) (c : Nat) : ∀ (fuel : Nat) (s : St), StW I s → Blocked I s c → totRem s ≤ fuel →
    bestRem I fuel s = none := by
  intro fuel
  induction fuel with
  | zero =>
    intro s _ ⟨k, hk, hpos, _⟩ hf
    exact absurd (totRem_pos_of hk hpos) (Nat.not_lt.mpr hf)
  | succ fuel ih =>
    intro s hW hB hf
    have htot : 0 < totRem s := hB.elim (fun k h => totRem_pos_of h.1 h.2.1)
    refine EMax.le_none (bestRem_le_of_moves I hW.1 hW.2.1 htot fuel none (fun c' r a k' hk ha hr hl => ?_))
    rw [ih _ (stW_land I hD hW hk ha) (blocked_land I hD hW hk ha hr hl hB) (totRem_land_le I r a hk hf)]
    exact EInt.le_refl _

/-- lower bound: every move is worth at most the value-to-go (the early `return` and the symmetry breaking of the domain
    lose nothing) -/
theorem bestRem_ge_move (hD : InDom I) {s : St} (hW : StW I s) {c r a k' : Nat} (hk : s.1[c]? = some (k' + 1))
    (ha : (I.nextTab c)[k' + 1]? = some a) (hr : r < I.nbRunways) (hl : arrP I (rwAt s r) a ≤ I.lat a)
    (fuel : Nat) (hf : totRem s ≤ fuel + 1) :
    (bestRem I fuel (land I s c r a k')).addI (-(arrP I (rwAt s r) a - I.tgt a)) ≤ bestRem I (fuel + 1) s := by
  have htot : 0 < totRem s := totRem_pos_of hk (Nat.succ_pos _)
  have hc : c < I.nbClasses := by rw [← hW.1]; exact lt_of_getElem?_some hk
  rcases domain_complete I hk (Nat.succ_pos _) hr (by rw [acOf_some I ha]; exact hl) with ⟨c2, hB⟩ | ⟨r', hr', e, hv⟩
  · rw [stuck I hD c2 fuel _ (stW_land I hD hW hk ha) (blocked_land I hD hW hk ha hr hl hB)
      (totRem_land_le I r a hk hf)]
    exact EInt.none_le _
  · rw [bestRem_succ, domain_ne I htot, if_neg Bool.false_ne_true]
    have h1 := (EMax.foldl_max_spec (moveVal I fuel s) (domain I s) none).2.1 _ hv
    obtain ⟨t1, t2⟩ := trans_toDecision I hc hk ha (r := r') (by rw [hW.2.1]; exact hr')
    have e2 : land I s c r' a k' = land I s c r a k' := by
      unfold land
      rw [e]
      congr 1
      apply sortRw_eq_of_perm
      have hr1 : r < s.2.length := by rw [hW.2.1]; exact hr
      have hr2 : r' < s.2.length := by rw [hW.2.1]; exact hr'
      exact set_perm_of_perm (List.Perm.refl _) hr2 hr1 ((rwAt_eq hr2).symm.trans (e.trans (rwAt_eq hr1))) _
    have e3 : moveVal I fuel s (toDecision I c r')
        = (bestRem I fuel (land I s c r a k')).addI (-(arrP I (rwAt s r) a - I.tgt a)) := by
      unfold moveVal
      rw [t1, t2, e2, e]
    rw [e3] at h1
    exact h1

theorem bestRem_attained {s : St} (hs : s.1.length = I.nbClasses) (hr : s.2.length = I.nbRunways) (htot : 0 < totRem s)
    {fuel : Nat} {h : Int} (hh : bestRem I (fuel + 1) s = some h) :
    ∃ d ∈ domain I s, ∃ c r a k' h', s.1[c]? = some (k' + 1) ∧ (I.nextTab c)[k' + 1]? = some a ∧ r < I.nbRunways ∧
      arrP I (rwAt s r) a ≤ I.lat a ∧ trans? I s d = some (land I s c r a k') ∧
      cost? I s d = some (-(arrP I (rwAt s r) a - I.tgt a)) ∧ bestRem I fuel (land I s c r a k') = some h' ∧
      h' + -(arrP I (rwAt s r) a - I.tgt a) = h := by
  rw [bestRem_succ, domain_ne I htot, if_neg Bool.false_ne_true] at hh
  obtain ⟨d, hd, e⟩ := EMax.foldl_max_none_att (moveVal I fuel s) _ hh
  unfold moveVal at e
  rcases domain_step I hs hr htot hd with e' | ⟨c, r, a, k', hk, ha, hr', hl, e1, e2⟩
  · rw [e'.1] at e
    cases e
  · rw [e1, e2] at e
    obtain ⟨h', hb, e''⟩ := Option.map_eq_some_iff.mp e
    exact ⟨d, hd, c, r, a, k', h', hk, ha, hr', hl, e1, e2, hb, e''⟩

theorem bestRem_zero_tot {s : St} (h : totRem s = 0) (fuel : Nat) : bestRem I fuel s = some 0 := by
  cases fuel with
  | zero => rfl
  | succ fuel => rw [bestRem_succ, domain_zero I h]; rfl

end Ddo.Examples.AlpModel
