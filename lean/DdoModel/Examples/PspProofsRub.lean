import DdoModel.Examples.PspProofsMerge
/-! `RubAdmissible` for the psp example.  The table `ub_utils::all_mst` is NOT a table of spanning trees; what the code
    computes for a member set (`mstOf`: over the members `a` in increasing order that are not covered yet, the cheapest
    edge at `a`, in either direction, is added; `a` and its other end become covered) is nevertheless a lower bound of the
    changeover cost of every sequence of productions that visits all the members (`mstOf_le_walk`): the edges added belong
    to distinct members, none of them to the partner of the first member; root the walk at that partner and charge every
    other member the edge by which the walk first enters it (after the root) or last leaves it (before the root).  Every
    completion of a state a compilation can build produces every item with a pending unit, after `next`
    (`bestRem_walk`); hence `rubAdmissible : RubAdmissibleStmt`. -/
namespace Ddo.Examples.PspModel
open Ddo Ddo.Examples Ddo.Examples.Util

def psum (N : Nat) (g : Nat → Int) (P : Nat → Bool) : Int := sumTo N (fun i => if P i then g i else 0)

theorem psum_empty (N : Nat) (g : Nat → Int) {P : Nat → Bool} (h : ∀ i, i < N → P i = false) : psum N g P = 0 := by
  unfold psum
  rw [sumTo_congr (g := fun _ => 0) (fun i hi => by simp [h i hi]), sumTo_zero]

theorem psum_congr (N : Nat) (g : Nat → Int) {P Q : Nat → Bool} (h : ∀ i, i < N → P i = Q i) : psum N g P = psum N g Q := by
  unfold psum
  exact sumTo_congr (fun i hi => by rw [h i hi])

theorem psum_remove (N : Nat) (g : Nat → Int) (P : Nat → Bool) {z : Nat} (hz : z < N) (hP : P z = true) :
    psum N g P = psum N g (fun i => P i && decide (i ≠ z)) + g z := by
  unfold psum
  rw [sumTo_update (c := z) (g := fun i => if (P i && decide (i ≠ z)) = true then g i else 0) hz]
  · simp [hP]
  · intro i _ hne
    simp [hne]

theorem psum_insert (N : Nat) (g : Nat → Int) (P : Nat → Bool) {a : Nat} (ha : a < N) (hPa : P a = false) :
    psum N g (fun i => P i || decide (i = a)) = psum N g P + g a := by
  rw [psum_remove N g (fun i => P i || decide (i = a)) ha (by simp)]
  rw [psum_congr N g (P := fun i => (P i || decide (i = a)) && decide (i ≠ a)) (Q := P) (fun i _ => by
    by_cases h : i = a
    · subst h; simp [hPa]
    · simp [h])]

theorem psum_split (N : Nat) (g : Nat → Int) (P Q : Nat → Bool) :
    psum N g P = psum N g (fun i => P i && Q i) + psum N g (fun i => P i && !Q i) := by
  unfold psum
  rw [← sumTo_add]
  apply sumTo_congr
  intro i _
  cases hp : P i <;> cases hq : Q i <;> simp [hp, hq]

def wc (c : Nat → Nat → Int) : List Nat → Int
  | a :: b :: r => c a b + wc c (b :: r)
  | _ => 0

theorem wc_nonneg {c : Nat → Nat → Int} (hc : ∀ x y, 0 ≤ c x y) : ∀ W : List Nat, 0 ≤ wc c W := by
  intro W
  induction W with
  | nil => simp [wc]
  | cons a r ih =>
    cases r with
    | nil => simp [wc]
    | cons b r => simp only [wc]; have := hc a b; omega

theorem wc_split (c : Nat → Nat → Int) (r : Nat) (W2 : List Nat) : ∀ W1 : List Nat,
    wc c (W1 ++ r :: W2) = wc c (W1 ++ [r]) + wc c (r :: W2)
  | [] => (Int.zero_add _).symm
  | [a] => by
    show c a r + wc c (r :: W2) = c a r + 0 + wc c (r :: W2)
    rw [Int.add_zero]
  | a :: b :: t => by
    show c a b + wc c (b :: t ++ r :: W2) = c a b + wc c (b :: t ++ [r]) + wc c (r :: W2)
    rw [wc_split c r W2 (b :: t), Int.add_assoc]

theorem wc_reverse (c : Nat → Nat → Int) : ∀ W : List Nat, wc c W.reverse = wc (fun x y => c y x) W
  | [] => rfl
  | [_] => rfl
  | a :: b :: W => by
    rw [List.reverse_cons, List.reverse_cons, List.append_assoc]
    show wc c (W.reverse ++ b :: [a]) = c b a + wc (fun x y => c y x) (b :: W)
    rw [wc_split c b [a] W.reverse, ← List.reverse_cons, wc_reverse c (b :: W)]
    show _ + (c b a + 0) = _
    rw [Int.add_zero, Int.add_comm]

section
variable {c : Nat → Nat → Int} {g : Nat → Int} {inM : Nat → Prop} {N : Nat}
  (hc : ∀ x y, 0 ≤ c x y) (hg : ∀ x y, inM x → inM y → x ≠ y → g x ≤ c x y ∧ g y ≤ c x y)
include hc hg

/-- after the root: every vertex pays the edge by which the walk first enters it -/
theorem walk_fwd : ∀ (W : List Nat) (y : Nat) (P : Nat → Bool), (∀ w ∈ y :: W, inM w) →
    (∀ i, P i = true → i ∈ W ∧ i ≠ y ∧ i < N) → psum N g P ≤ wc c (y :: W) := by
  intro W
  induction W with
  | nil =>
    intro y P _ hP
    rw [psum_empty N g (fun i _ => by cases h : P i with | false => rfl | true => exact absurd (hP i h).1 (by simp))]
    simp [wc]
  | cons z W ih =>
    intro y P hM hP
    have hIH := ih z (fun i => P i && decide (i ≠ z)) (fun w hw => hM w (List.mem_cons_of_mem _ hw)) (by
      intro i hi
      simp only [Bool.and_eq_true, decide_eq_true_eq] at hi
      obtain ⟨h1, h2, h3⟩ := hP i hi.1
      refine ⟨?_, hi.2, h3⟩
      rcases List.mem_cons.mp h1 with h | h
      · exact absurd h hi.2
      · exact h)
    simp only [wc]
    cases hz : P z with
    | true =>
      obtain ⟨_, h2, h3⟩ := hP z hz
      rw [psum_remove N g P h3 hz]
      have := (hg y z (hM y List.mem_cons_self) (hM z (List.mem_cons_of_mem _ List.mem_cons_self)) (fun h => h2 h.symm)).2
      omega
    | false =>
      rw [psum_congr N g (Q := fun i => P i && decide (i ≠ z)) (fun i _ => by
        by_cases h : i = z
        · subst h; simp [hz]
        · simp [h])]
      have := hc y z
      omega

/-- before the root: every vertex pays the edge by which the walk last leaves it (the walk read backwards) -/
theorem walk_bwd (r : Nat) (W : List Nat) (P : Nat → Bool) (hM : ∀ w ∈ W ++ [r], inM w)
    (hP : ∀ i, P i = true → i ∈ W ∧ i ≠ r ∧ i < N) : psum N g P ≤ wc c (W ++ [r]) := by
  have h := walk_fwd (c := fun x y => c y x) (g := g) (inM := inM) (N := N) (fun x y => hc y x)
    (fun x y hx hy hxy => (hg y x hy hx (Ne.symm hxy)).symm) W.reverse r P
    (fun w hw => hM w (by
      rcases List.mem_cons.mp hw with rfl | hw
      · exact List.mem_append_right _ List.mem_cons_self
      · exact List.mem_append_left _ (List.mem_reverse.mp hw)))
    (fun i hi => ⟨List.mem_reverse.mpr (hP i hi).1, (hP i hi).2⟩)
  rw [← wc_reverse, List.reverse_cons, List.reverse_reverse] at h
  exact h

/-- **the walk bound**: distinct vertices of the walk, none of them the root `r` of the walk, pay distinct edges -/
theorem walk_lb (W : List Nat) (r : Nat) (P : Nat → Bool) (hM : ∀ w ∈ W, inM w) (hr : r ∈ W)
    (hP : ∀ i, P i = true → i ∈ W ∧ i ≠ r ∧ i < N) : psum N g P ≤ wc c W := by
  obtain ⟨W1, W2, rfl⟩ := List.append_of_mem hr
  rw [wc_split, psum_split N g P (fun i => W2.contains i)]
  have h2 := walk_fwd hc hg (N := N) W2 r (fun i => P i && W2.contains i)
    (fun w hw => hM w (List.mem_append_right _ hw)) (by
      intro i hi
      simp only [Bool.and_eq_true, List.contains_iff_mem] at hi
      exact ⟨hi.2, (hP i hi.1).2⟩)
  have h1 := walk_bwd hc hg (N := N) r W1 (fun i => P i && !W2.contains i)
    (fun w hw => hM w (by
      rcases List.mem_append.mp hw with h | h
      · exact List.mem_append_left _ h
      · exact List.mem_append_right _ (by simp at h; simp [h]))) (by
      intro i hi
      simp only [Bool.and_eq_true, Bool.not_eq_true', List.contains_eq_mem, decide_eq_false_iff_not] at hi
      obtain ⟨h1, h2, h3⟩ := hP i hi.1
      refine ⟨?_, h2, h3⟩
      simp only [List.mem_append, List.mem_cons] at h1
      rcases h1 with h | h | h
      · exact h
      · exact absurd h h2
      · exact absurd h hi.2)
  omega

end

def qOf (q : List (List Int)) (a b : Nat) : Int := (q.getD a []).getD b 0
def edOf (q : List (List Int)) (a b : Nat) : Int := min (qOf q a b) (qOf q b a)

/-- the inner loop of `mst`: the cheapest edge at `a` so far and its other end -/
def innerStep (q : List (List Int)) (a : Nat) (e : Option Int × Nat) (b : Nat) : Option Int × Nat :=
  if a = b then e else
  match e.1 with
  | none => (some (edOf q a b), b)
  | some m => if edOf q a b < m then (some (edOf q a b), b) else e
def inner (q : List (List Int)) (mem : List Nat) (a : Nat) : Option Int × Nat := mem.foldl (innerStep q a) (none, a)
/-- the outer loop: members not covered yet add their cheapest edge and cover both ends -/
def outerStep (q : List (List Int)) (mem : List Nat) (acc : List Nat × Int) (a : Nat) : List Nat × Int :=
  if acc.1.contains a then acc else (a :: (inner q mem a).2 :: acc.1, acc.2 + (inner q mem a).1.getD 0)

theorem mstOf_eq (q : List (List Int)) (mem : List Nat) :
    mstOf q mem = if mem.length ≤ 1 then 0 else (mem.foldl (outerStep q mem) ([], 0)).2 := rfl

/-- the edge charged to `a` -/
def gOf (q : List (List Int)) (mem : List Nat) (a : Nat) : Int := (inner q mem a).1.getD 0

theorem innerStep_fst (q : List (List Int)) (a : Nat) (e : Option Int × Nat) (b : Nat) :
    (∀ m0, e.1 = some m0 → ∃ m, (innerStep q a e b).1 = some m ∧ m ≤ m0) ∧
    (b ≠ a → ∃ m, (innerStep q a e b).1 = some m ∧ m ≤ edOf q a b) := by
  unfold innerStep
  by_cases hab : a = b
  · simp only [hab, if_true]
    exact ⟨fun m0 h => ⟨m0, h, Int.le_refl _⟩, fun h => absurd rfl h⟩
  · simp only [hab, if_false]
    cases he : e.1 with
    | none => exact ⟨fun m0 h => (by cases h), fun _ => ⟨_, rfl, Int.le_refl _⟩⟩
    | some m1 =>
      simp only
      by_cases hlt : edOf q a b < m1
      · simp only [hlt, if_true]
        exact ⟨fun m0 h => ⟨_, rfl, by cases h; omega⟩, fun _ => ⟨_, rfl, Int.le_refl _⟩⟩
      · simp only [hlt, if_false]
        exact ⟨fun m0 h => ⟨m1, he, by cases h; omega⟩, fun _ => ⟨m1, he, by omega⟩⟩

theorem inner_fst (q : List (List Int)) (a : Nat) : ∀ (l : List Nat) (e : Option Int × Nat),
    (∀ m0, e.1 = some m0 → ∃ m, (l.foldl (innerStep q a) e).1 = some m ∧ m ≤ m0) ∧
    (∀ b ∈ l, b ≠ a → ∃ m, (l.foldl (innerStep q a) e).1 = some m ∧ m ≤ edOf q a b) := by
  intro l
  induction l with
  | nil => intro e; exact ⟨fun m0 h => ⟨m0, h, Int.le_refl _⟩, fun b hb => by cases hb⟩
  | cons x t ih =>
    intro e
    simp only [List.foldl_cons]
    obtain ⟨s1, s2⟩ := innerStep_fst q a e x
    obtain ⟨i1, i2⟩ := ih (innerStep q a e x)
    refine ⟨?_, ?_⟩
    · intro m0 h
      obtain ⟨m, hm, hle⟩ := s1 m0 h
      obtain ⟨m', hm', hle'⟩ := i1 m hm
      exact ⟨m', hm', by omega⟩
    · intro b hb hne
      rcases List.mem_cons.mp hb with rfl | hb
      · obtain ⟨m, hm, hle⟩ := s2 hne
        obtain ⟨m', hm', hle'⟩ := i1 m hm
        exact ⟨m', hm', by omega⟩
      · exact i2 b hb hne

theorem gOf_le (q : List (List Int)) (mem : List Nat) {a b : Nat} (hb : b ∈ mem) (hne : b ≠ a) : gOf q mem a ≤ edOf q a b := by
  obtain ⟨m, hm, hle⟩ := (inner_fst q a mem (none, a)).2 b hb hne
  unfold gOf inner
  rw [hm]; exact hle

theorem inner_snd {l' : List Nat} (q : List (List Int)) (a : Nat) : ∀ (l : List Nat) (e : Option Int × Nat),
    (e.1 ≠ none → e.2 ∈ l' ∧ e.2 ≠ a) → (∀ b ∈ l, b ∈ l') →
    ((l.foldl (innerStep q a) e).1 ≠ none → (l.foldl (innerStep q a) e).2 ∈ l' ∧ (l.foldl (innerStep q a) e).2 ≠ a) := by
  intro l
  induction l with
  | nil => intro e he _; exact he
  | cons x t ih =>
    intro e he hsub
    simp only [List.foldl_cons]
    apply ih _ _ (fun b hb => hsub b (List.mem_cons_of_mem _ hb))
    unfold innerStep
    by_cases hab : a = x
    · simp only [hab, if_true]; rw [← hab]; exact he
    · simp only [hab, if_false]
      have hx : x ∈ l' ∧ x ≠ a := ⟨hsub x List.mem_cons_self, fun h => hab h.symm⟩
      cases h1 : e.1 with
      | none => intro _; exact hx
      | some m1 =>
        simp only
        by_cases hlt : edOf q a x < m1
        · simp only [hlt, if_true]; intro _; exact hx
        · simp only [hlt, if_false]; intro _; exact he (by rw [h1]; simp)

theorem inner_partner (q : List (List Int)) (mem : List Nat) {a b : Nat} (hb : b ∈ mem) (hne : b ≠ a) :
    (inner q mem a).2 ∈ mem ∧ (inner q mem a).2 ≠ a := by
  obtain ⟨m, hm, _⟩ := (inner_fst q a mem (none, a)).2 b hb hne
  exact inner_snd (l' := mem) q a mem (none, a) (fun h => absurd rfl h) (fun b hb => hb) (by
    show (inner q mem a).1 ≠ none
    unfold inner; rw [hm]; simp)

/-- the outer loop adds the edges charged to distinct members of the rest of the list, none of them covered before -/
theorem outer_spec (q : List (List Int)) (mem : List Nat) (N : Nat) : ∀ (l : List Nat) (cov : List Nat) (tot : Int),
    (∀ a ∈ l, a < N) →
    ∃ P : Nat → Bool, (l.foldl (outerStep q mem) (cov, tot)).2 = tot + psum N (gOf q mem) P ∧
      ∀ i, P i = true → i ∈ l ∧ i ∉ cov := by
  intro l
  induction l with
  | nil =>
    intro cov tot _
    refine ⟨fun _ => false, ?_, fun i h => by cases h⟩
    rw [psum_empty N _ (fun _ _ => rfl)]
    simp
  | cons a t ih =>
    intro cov tot hN
    simp only [List.foldl_cons]
    have hstep : outerStep q mem (cov, tot) a = if cov.contains a = true then (cov, tot) else
      (a :: (inner q mem a).2 :: cov, tot + (inner q mem a).1.getD 0) := rfl
    rw [hstep]
    by_cases hc : cov.contains a = true
    · simp only [hc, if_true]
      obtain ⟨P, h1, h2⟩ := ih cov tot (fun b hb => hN b (List.mem_cons_of_mem _ hb))
      exact ⟨P, h1, fun i hi => ⟨List.mem_cons_of_mem _ (h2 i hi).1, (h2 i hi).2⟩⟩
    · rw [if_neg hc]
      obtain ⟨P, h1, h2⟩ := ih (a :: (inner q mem a).2 :: cov) (tot + (inner q mem a).1.getD 0)
        (fun b hb => hN b (List.mem_cons_of_mem _ hb))
      refine ⟨fun i => P i || decide (i = a), ?_, ?_⟩
      · rw [h1]
        have hPa : P a = false := by
          cases h : P a with
          | false => rfl
          | true => exact absurd List.mem_cons_self (h2 a h).2
        rw [psum_insert N (gOf q mem) P (hN a List.mem_cons_self) hPa]
        show _ = _ + (_ + (inner q mem a).1.getD 0)
        omega
      · intro i hi
        simp only [Bool.or_eq_true, decide_eq_true_eq] at hi
        rcases hi with hi | rfl
        · have := h2 i hi
          exact ⟨List.mem_cons_of_mem _ this.1, fun h => this.2 (List.mem_cons_of_mem _ (List.mem_cons_of_mem _ h))⟩
        · exact ⟨List.mem_cons_self, fun h => hc (List.contains_iff_mem.mpr h)⟩

theorem exists_bound : ∀ l : List Nat, ∃ N, ∀ a ∈ l, a < N
  | [] => ⟨0, fun _ h => by cases h⟩
  | x :: r => by
    obtain ⟨N, hN⟩ := exists_bound r
    refine ⟨max N (x + 1), fun a ha => ?_⟩
    rcases List.mem_cons.mp ha with rfl | ha
    · exact Nat.lt_of_lt_of_le (Nat.lt_succ_self _) (Nat.le_max_right _ _)
    · exact Nat.lt_of_lt_of_le (hN a ha) (Nat.le_max_left _ _)

/-- **what the code computes is a lower bound**: the `mst` entry of a member set is at most the changeover cost of every
    sequence of productions (`W`, latest first: `q[b][a]` is paid when `b` is produced before `a`) of members that visits
    all the members -/
theorem mstOf_le_walk (q : List (List Int)) (hq : ∀ a b, 0 ≤ qOf q a b) (mem : List Nat) (hnd : mem.Nodup) (W : List Nat)
    (hsub : ∀ w ∈ W, w ∈ mem) (hcov : ∀ a ∈ mem, a ∈ W) : mstOf q mem ≤ wc (fun a b => qOf q b a) W := by
  have hc : ∀ x y, 0 ≤ (fun a b => qOf q b a) x y := fun x y => hq y x
  rw [mstOf_eq]
  split
  · exact wc_nonneg hc W
  · next hlen =>
    cases mem with
    | nil => simp at hlen
    | cons a0 t =>
      cases t with
      | nil => simp at hlen
      | cons a1 t =>
        have hne : a1 ≠ a0 := by
          intro h
          rw [h] at hnd
          exact (List.nodup_cons.mp hnd).1 List.mem_cons_self
        obtain ⟨hb0, hb0ne⟩ := inner_partner q (a0 :: a1 :: t) (a := a0) (b := a1) (by simp) hne
        obtain ⟨N, hN⟩ := exists_bound (a0 :: a1 :: t)
        rw [List.foldl_cons]
        have hstep : outerStep q (a0 :: a1 :: t) ([], 0) a0 =
            ([a0, (inner q (a0 :: a1 :: t) a0).2], 0 + gOf q (a0 :: a1 :: t) a0) := rfl
        rw [hstep]
        obtain ⟨P, h1, h2⟩ := outer_spec q (a0 :: a1 :: t) N (a1 :: t) [a0, (inner q (a0 :: a1 :: t) a0).2]
          (0 + gOf q (a0 :: a1 :: t) a0) (fun a ha => hN a (List.mem_cons_of_mem _ ha))
        rw [h1]
        have hPa : P a0 = false := by
          cases h : P a0 with
          | false => rfl
          | true => exact absurd List.mem_cons_self (h2 a0 h).2
        have hsum := psum_insert N (gOf q (a0 :: a1 :: t)) P (hN a0 List.mem_cons_self) hPa
        have hlb := walk_lb (c := fun a b => qOf q b a) (g := gOf q (a0 :: a1 :: t)) (inM := fun x => x ∈ a0 :: a1 :: t)
          (N := N) hc (by
            intro x y hx hy hxy
            have h1 := gOf_le q (a0 :: a1 :: t) (a := x) (b := y) hy (fun h => hxy h.symm)
            have h2 := gOf_le q (a0 :: a1 :: t) (a := y) (b := x) hx hxy
            simp only [edOf] at h1 h2
            constructor <;> omega) W (inner q (a0 :: a1 :: t) a0).2 (fun i => P i || decide (i = a0)) hsub (hcov _ hb0) (by
            intro i hi
            simp only [Bool.or_eq_true, decide_eq_true_eq] at hi
            rcases hi with hi | rfl
            · have := h2 i hi
              refine ⟨hcov i (List.mem_cons_of_mem _ this.1), fun h => this.2 (by rw [h]; simp), hN i (List.mem_cons_of_mem _ this.1)⟩
            · exact ⟨hcov i List.mem_cons_self, fun h => hb0ne h.symm, hN i List.mem_cons_self⟩)
        rw [hsum] at hlb
        omega

def bsum (P : Nat → Bool) : Nat → Nat
  | 0 => 0
  | N + 1 => bsum P N + (if P N then 2 ^ N else 0)

theorem bsum_lt (P : Nat → Bool) : ∀ N : Nat, bsum P N < 2 ^ N := by
  intro N
  induction N with
  | zero => simp [bsum]
  | succ N ih =>
    simp only [bsum, Nat.pow_succ]
    split <;> omega

theorem bsum_congr {P Q : Nat → Bool} : ∀ N : Nat, (∀ i, i < N → P i = Q i) → bsum P N = bsum Q N := by
  intro N
  induction N with
  | zero => intro _; rfl
  | succ N ih => intro h; simp only [bsum]; rw [ih (fun i hi => h i (by omega)), h N (by omega)]

theorem bsum_false : ∀ N : Nat, bsum (fun _ => false) N = 0 := by
  intro N
  induction N with
  | zero => rfl
  | succ N ih => simp [bsum, ih]

theorem testBit_bsum (P : Nat → Bool) : ∀ (N k : Nat), (bsum P N).testBit k = (decide (k < N) && P k) := by
  intro N
  induction N with
  | zero => intro k; simp [bsum]
  | succ N ih =>
    intro k
    simp only [bsum]
    cases hP : P N with
    | false =>
      simp only [Bool.false_eq_true, if_false, Nat.add_zero, ih]
      by_cases hk : k = N
      · subst hk; simp [hP]
      · have : (k < N + 1) = (k < N) := by apply propext; omega
        simp [this]
    | true =>
      simp only [if_true]
      rw [Nat.add_comm]
      rcases Nat.lt_trichotomy k N with hk | hk | hk
      · rw [Nat.testBit_two_pow_add_gt hk, ih]
        have h1 : k < N + 1 := by omega
        simp [hk, h1]
      · subst hk
        rw [Nat.testBit_two_pow_add_eq, Nat.testBit_lt_two_pow (bsum_lt P k)]
        simp [hP]
      · have hlt : 2 ^ N + bsum P N < 2 ^ k := by
          have h1 := bsum_lt P N
          have h2 : 2 ^ (N + 1) ≤ 2 ^ k := Nat.pow_le_pow_right (by omega) hk
          rw [Nat.pow_succ] at h2
          omega
        rw [Nat.testBit_lt_two_pow hlt]
        have : ¬ k < N + 1 := by omega
        simp [this]

theorem bsum_insert (P : Nat → Bool) (a : Nat) (hPa : P a = false) : ∀ N : Nat, a < N →
    bsum (fun i => P i || decide (i = a)) N = bsum P N + 2 ^ a := by
  intro N
  induction N with
  | zero => intro h; omega
  | succ N ih =>
    intro h
    simp only [bsum]
    by_cases ha : a = N
    · subst ha
      have hcg : ∀ i, i < a → (P i || decide (i = a)) = P i := by
        intro i hi
        have : i ≠ a := by omega
        simp [this]
      rw [bsum_congr (Q := P) a hcg]
      simp [hPa]
    · rw [ih (by omega)]
      have : ¬ N = a := fun h => ha h.symm
      simp only [this, decide_false, Bool.or_false]
      omega

theorem foldl_pow_eq (N : Nat) : ∀ (L : List Nat) (acc : Nat), L.Nodup → (∀ a ∈ L, a < N) →
    L.foldl (fun m i => m + 2 ^ i) acc = acc + bsum (fun i => L.contains i) N := by
  intro L
  induction L with
  | nil => intro acc _ _; simp [bsum_false]
  | cons a t ih =>
    intro acc hnd hN
    obtain ⟨hat, hnd'⟩ := List.nodup_cons.mp hnd
    rw [List.foldl_cons, ih _ hnd' (fun b hb => hN b (List.mem_cons_of_mem _ hb))]
    rw [bsum_congr (P := fun i => (a :: t).contains i) (Q := fun i => t.contains i || decide (i = a)) N (fun i _ => by
      simp only [List.contains_eq_mem, List.mem_cons]
      by_cases h1 : i = a <;> by_cases h2 : i ∈ t <;> simp [h1, h2])]
    rw [bsum_insert (fun i => t.contains i) a (by simpa using hat) N (hN a List.mem_cons_self)]
    omega

theorem mem_maskMembers (N : Nat) (L : List Nat) (hnd : L.Nodup) (hN : ∀ a ∈ L, a < N) (k : Nat) :
    k ∈ maskMembers N (L.foldl (fun m i => m + 2 ^ i) 0) ↔ k ∈ L := by
  unfold maskMembers
  rw [List.mem_filter, List.mem_range, foldl_pow_eq N L 0 hnd hN, Nat.zero_add, testBit_bsum]
  simp only [Bool.and_eq_true, decide_eq_true_eq, List.contains_iff_mem]
  constructor
  · intro h; exact h.2.2
  · intro h; exact ⟨hN k h, hN k h, h⟩

theorem maskMembers_nodup (N mask : Nat) : (maskMembers N mask).Nodup :=
  List.Nodup.sublist List.filter_sublist List.nodup_range

/-- the walk of the productions `W` (latest first) after `next` -/
def walkOf (nx : Int) (W : List Nat) : List Nat := if nx = -1 then W else nx.toNat :: W

theorem mem_walkOf {nx : Int} {W : List Nat} {w : Nat} : w ∈ walkOf nx W ↔ (nx ≠ -1 ∧ w = nx.toNat) ∨ w ∈ W := by
  unfold walkOf
  split <;> simp [*]

theorem walkOf_none (W : List Nat) : walkOf (-1) W = W := rfl
theorem walkOf_item (b : Nat) (W : List Nat) : walkOf (b : Int) W = b :: W := by
  unfold walkOf
  rw [if_neg (natCast_ne_neg_one b), Int.toNat_natCast]

section
variable {I : Psp.Inst} (hI : InstOk I)
include hI

theorem rem_pos {s : St} (hs : Ok I s) {i : Nat} (hi : i < I.n) (hp : 0 ≤ pdAt s i) : 1 ≤ rem I s := by
  have h1 := sumTo_ge_term (n := I.n) (f := fun j => contrib (rowOf I j) (pdAt s j)) (fun j _ => contrib_nonneg hI j _) hi
  rcases hs.due i hi with h | ⟨h0, hd⟩
  · omega
  · have h2 := contrib_due _ (row_bin hI i) h0 hd
    have h3 := remF_nonneg _ (row_bin hI i) (pdAt s i).toNat
    unfold rem
    omega

/-- **every completion of a state with no more units than periods produces every item with a pending unit**, and pays
    at least the changeover cost of the walk of its productions after `next` -/
theorem bestRem_walk : ∀ (k : Nat) (s : St) (h : Int), s.time = k → Ok I s → NextOk I s → rem I s ≤ (k : Int) →
    bestRem (tabOf I) s = some h →
    ∃ W : List Nat, (∀ i, i < I.n → 0 ≤ pdAt s i → i ∈ W) ∧ (∀ w ∈ W, w < I.n ∧ 0 ≤ pdAt s w) ∧
      wc (fun a b => qq I b a) (walkOf s.next W) ≤ -h := by
  intro k
  induction k with
  | zero =>
    intro s h ht hs _ hrem hh
    rw [bestRem_zero _ ht] at hh
    cases hh
    refine ⟨[], ?_, (fun w hw => by cases hw), ?_⟩
    · intro i hi hp
      have := rem_pos hI hs hi hp
      omega
    · unfold walkOf; split <;> exact Int.le_refl _
  | succ k ih =>
    intro s h ht hs hnx hrem hh
    obtain ⟨_, ⟨hlt, hh1⟩ | ⟨i, hi, hp, h1, hh1, hcost⟩⟩ := bestRem_step hI hs hnx ht hh
    · exact ih (idle s) h (time_pred ht) (ok_idle hs) hnx (Int.lt_add_one_iff.mp hlt) hh1
    · have hpi : 0 ≤ pdAt s i := Int.le_trans (Int.natCast_nonneg k) hp
      obtain ⟨W, h1', h2', h3'⟩ := ih (produce I s i) h1 (time_pred ht) (ok_produce hs hi) (nextOk_produce s hi)
        (by rw [rem_produce hI hs hi hpi]; omega) hh1
      refine ⟨i :: W, ?_, ?_, ?_⟩
      · intro j hj hpj
        by_cases hji : j = i
        · rw [hji]; exact List.mem_cons_self
        · have := h1' j hj (by rw [pdAt_produce hs hi, if_neg hji]; exact hpj)
          exact List.mem_cons_of_mem _ this
      · intro w hw
        rcases List.mem_cons.mp hw with rfl | hw
        · exact ⟨hi, hpi⟩
        · obtain ⟨hwn, hwp⟩ := h2' w hw
          refine ⟨hwn, ?_⟩
          by_cases hwi : w = i
          · rw [hwi]; exact hpi
          · rw [pdAt_produce hs hi, if_neg hwi] at hwp; exact hwp
      · rw [show walkOf (produce I s i).next W = i :: W from walkOf_item i W] at h3'
        have hs0 : 0 ≤ stkOf I i * (pdAt s i - (k : Int)) := Int.mul_nonneg (stkOf_nonneg hI i) (Int.sub_nonneg_of_le hp)
        rcases hnx.cases with hn | ⟨b, _, hb⟩
        · rw [hn, walkOf_none]
          have hc0 := chgTo_nonneg hI s.next i
          omega
        · rw [hb, chgTo_item] at hcost
          rw [hb, walkOf_item]
          show qq I i b + wc (fun a b => qq I b a) (i :: W) ≤ -h
          omega

end

theorem members_spec {I : Psp.Inst} {s : St} (hs : Ok I s) (hnx : NextOk I s) {mask : Nat} (hm : memberMask? s = some mask) :
    ∃ mem : List Nat, mem.Nodup ∧ (∀ a ∈ mem, a < I.n) ∧
      (∀ k, k ∈ mem ↔ (k < I.n ∧ 0 ≤ pdAt s k) ∨ (0 ≤ s.next ∧ k = s.next.toNat)) ∧
      mask = mem.foldl (fun m i => m + 2 ^ i) 0 := by
  unfold memberMask? at hm
  split at hm
  · cases hm
  · simp only [Option.some.injEq] at hm
    generalize hb : (List.range s.pd.length).filter (fun i => decide (s.pd.getD i (-1) ≥ 0)) = base at hm
    have hbase_nd : base.Nodup := hb ▸ List.Nodup.sublist List.filter_sublist List.nodup_range
    have hbase : ∀ k, k ∈ base ↔ (k < I.n ∧ 0 ≤ pdAt s k) := by
      intro k
      rw [← hb, List.mem_filter, List.mem_range, hs.len, decide_eq_true_eq]
      rfl
    split at hm
    · next hc =>
      refine ⟨_, ?_, ?_, ?_, hm.symm⟩
      · refine List.nodup_append.mpr ⟨hbase_nd, List.Pairwise.cons (fun _ h => nomatch h) List.Pairwise.nil, ?_⟩
        intro a ha b hb' e
        rw [List.mem_singleton.mp hb'] at e
        exact hc.2 (List.contains_iff_mem.mpr (e ▸ ha))
      · intro a ha
        rcases List.mem_append.mp ha with h | h
        · exact ((hbase a).mp h).1
        · rw [List.mem_singleton.mp h]
          exact (Int.toNat_lt hc.1).mpr ((hnx.resolve_left (by omega)).2)
      · intro k
        rw [List.mem_append, hbase, List.mem_singleton]
        exact ⟨fun h => h.imp id (fun h => ⟨hc.1, h⟩), fun h => h.imp id (·.2)⟩
    · next hc =>
      refine ⟨_, hbase_nd, fun a ha => ((hbase a).mp ha).1, ?_, hm.symm⟩
      intro k
      rw [hbase]
      refine ⟨Or.inl, ?_⟩
      rintro (h | ⟨h0, rfl⟩)
      · exact h
      · exact (hbase _).mp (List.contains_iff_mem.mp (Decidable.byContradiction (fun hcc => hc ⟨h0, hcc⟩)))

/-- the rough upper bound of the shipped example dominates the value-to-go of every
    state a compilation can build — minus the `mst` entry of the member set does (`mstOf_le_walk`, `bestRem_walk`), and the
    stocking part of the bound, as shipped, only weakens it (`rub_ge_neg_mst`) -/
theorem rubAdmissible (I : Psp.Inst) : RubAdmissibleStmt I := by
  intro hI s r hst hr
  have hs := hst.ok
  have hnx := hst.nextOk
  have hstk : ∀ i, 0 ≤ (tabOf I).stk.getD i 0 := fun i => getD_nonneg hI.hrow.2 i
  obtain ⟨mask, co, hm, hc, hle⟩ := rub_ge_neg_mst (tabOf I) hstk s r hr
  cases hb : bestRem (tabOf I) s with
  | none => exact EInt.none_le _
  | some h =>
    show h ≤ r
    have hrem := (validB_iff hI hs).mp hst.valid
    obtain ⟨W, hW1, hW2, hW3⟩ := bestRem_walk hI s.time s h rfl hs hnx hrem hb
    obtain ⟨mem, hnd, hlt, hmem, hmask⟩ := members_spec hs hnx hm
    have hco : co = mstOf I.q (maskMembers I.n mask) := by
      have h1 : (tabOf I).mst = (List.range (2 ^ I.q.length)).map (fun mask => mstOf I.q (maskMembers I.q.length mask)) := rfl
      rw [h1, List.getElem?_map] at hc
      cases hr' : (List.range (2 ^ I.q.length))[mask]? with
      | none => rw [hr'] at hc; cases hc
      | some m' =>
        rw [hr'] at hc
        have : m' = mask := by
          have := List.getElem?_eq_some_iff.mp hr'
          obtain ⟨_, h2⟩ := this
          simpa using h2.symm
        subst this
        simp only [Option.map_some, Option.some.injEq] at hc
        rw [← hc, hI.qrows.1]
    have hmm : ∀ k, k ∈ maskMembers I.n mask ↔ k ∈ mem := by
      intro k; rw [hmask]; exact mem_maskMembers I.n mem hnd hlt k
    have hwalk : ∀ w, w ∈ walkOf s.next W ↔ w ∈ maskMembers I.n mask := by
      intro w
      rw [hmm, hmem, mem_walkOf]
      constructor
      · rintro (⟨hne, rfl⟩ | hw)
        · exact Or.inr ⟨(hnx.resolve_left hne).1, rfl⟩
        · exact Or.inl (hW2 w hw)
      · rintro (⟨h1, h2⟩ | ⟨h1, h2⟩)
        · exact Or.inr (hW1 w h1 h2)
        · exact Or.inl ⟨by omega, h2⟩
    have hbound := mstOf_le_walk I.q (fun a b => qq_nonneg hI a b) (maskMembers I.n mask) (maskMembers_nodup _ _)
      (walkOf s.next W) (fun w hw => (hwalk w).mp hw) (fun a ha => (hwalk a).mpr ha)
    have hbound' : mstOf I.q (maskMembers I.n mask) ≤ wc (fun a b => qq I b a) (walkOf s.next W) := hbound
    omega

#print axioms mstOf_le_walk
#print axioms rubAdmissible

end Ddo.Examples.PspModel
