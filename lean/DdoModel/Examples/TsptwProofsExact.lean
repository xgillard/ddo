import DdoModel.Examples.TsptwProofsStar
/-! Exactness of the tsptw model on the states reached exactly (`Core`: one position, no optional city, `n - depth - 1` cities
    left, then the depot).  Every completion of such a state visits every mandatory city, so its legitimate value-to-go is its
    value-to-go; and the value-to-go is the specification's best (`Tsptw.finish` over the orders of the cities left) from the
    position and the time of the state (`Pre`).  That no feasible order is lost to the pruning of `for_each_in_domain` (no
    decision at all as soon as one mandatory city cannot be reached in time) is the triangle inequality (`fin_direct`). -/
namespace Ddo.Examples.TsptwModel
open Ddo Ddo.Examples

theorem brG_succ (T : Tab) (term : St → EInt) (fuel : Nat) (s : St) (h : s.depth < T.n) :
    brG T term (fuel + 1) s = (domain T s).foldl (fun acc v => EInt.max acc
      ((brG T term fuel (trans T s ⟨s.depth, v⟩)).addI (cost T s ⟨s.depth, v⟩))) none := by
  simp only [brG]
  rw [if_neg (by omega)]

theorem brG_ge (T : Tab) (term : St → EInt) (fuel : Nat) (s : St) (h : s.depth < T.n) {v : Int} (hv : v ∈ domain T s) :
    (brG T term fuel (trans T s ⟨s.depth, v⟩)).addI (cost T s ⟨s.depth, v⟩) ≤ brG T term (fuel + 1) s := by
  rw [brG_succ T term fuel s h]
  exact (EMax.foldl_max_spec (fun v => (brG T term fuel (trans T s ⟨s.depth, v⟩)).addI (cost T s ⟨s.depth, v⟩))
    (domain T s) none).2.1 v hv

theorem brG_att (T : Tab) (term : St → EInt) (fuel : Nat) (s : St) (h : s.depth < T.n) {g : Int}
    (hg : brG T term (fuel + 1) s = some g) :
    ∃ v ∈ domain T s, (brG T term fuel (trans T s ⟨s.depth, v⟩)).addI (cost T s ⟨s.depth, v⟩) = some g := by
  rw [brG_succ T term fuel s h] at hg
  exact EMax.foldl_max_none_att (fun v => (brG T term fuel (trans T s ⟨s.depth, v⟩)).addI (cost T s ⟨s.depth, v⟩)) _ hg

structure Core (T : Tab) (s : St) (i : Nat) : Prop where
  valid : Valid T s
  maybe : s.maybe = none
  pos : s.pos = .node i
  count : s.must.length + s.depth + 1 = T.n

theorem minD_node {T : Tab} {s : St} {i : Nat} (h : s.pos = .node i) (j : Nat) : minD T s j = distOf T.d i j := by
  simp [minD, h, posSet, minNat]

theorem Core.mb {T : Tab} {s : St} {i : Nat} (h : Core T s i) : mb s = [] := by simp [TsptwModel.mb, h.maybe]

theorem Core.lt {T : Tab} {s : St} {i : Nat} (h : Core T s i) : i < T.n :=
  h.valid.pos_lt i (by simp [h.pos, posSet])

theorem core_of_exact {T : Tab} {k : Nat} {s : St} {v : Int} (h : Exact T k s v) (hk : k < T.n) : ∃ i, Core T s i := by
  obtain ⟨i, hi⟩ := h.node
  refine ⟨i, h.valid, h.maybe, hi, ?_⟩
  have := h.count hk
  rw [h.depth]; exact this

theorem Core.inDom {T : Tab} {s : St} {i : Nat} (h : Core T s i) {j : Nat} (hj : InDom T s j) :
    (s.must = [] ∧ j = 0) ∨ (s.must ≠ [] ∧ j ∈ s.must) := by
  have hc := h.count
  rcases hj.2 with ⟨h1, h2⟩ | ⟨h1, _, h3 | h3⟩
  · left
    refine ⟨List.eq_nil_of_length_eq_zero (by omega), h2⟩
  · right; exact ⟨List.ne_nil_of_mem h3, h3⟩
  · rw [h.mb] at h3; cases h3

theorem core_step {T : Tab} (hT : TabOk T) {s : St} {i : Nat} (h : Core T s i) {j : Nat} (hj : InDom T s j) (x : Nat) :
    ∃ el, trans T s ⟨x, (j : Int)⟩ = succSt s j el ∧
      el.earliest = max (s.el.earliest + distOf T.d i j) (eN T j) ∧
      cost T s ⟨x, (j : Int)⟩ = (s.el.earliest : Int) - (el.earliest : Int) ∧
      Valid T (succSt s j el) ∧ (j ∈ s.must → Core T (succSt s j el) j) := by
  have hV := h.valid
  have hc := h.count
  have hd : s.depth < T.n := by omega
  have hjn := hj.lt hV hT.n_pos
  obtain ⟨el, ht, he, he1, he2⟩ := trans_eq hT hV hjn hj.1 x
  rw [minD_node h.pos] at he
  have hV' := valid_succ hT hV hd hj he1 he2
  refine ⟨el, ht, he, ?_, hV', ?_⟩
  · rw [cost_eq hT hV hjn, minD_node h.pos, he]
  · intro hjm
    refine ⟨hV', ?_, rfl, ?_⟩
    · show s.maybe.map _ = none; rw [h.maybe]; rfl
    · show (s.must.erase j).length + (s.depth + 1) + 1 = T.n
      rw [List.length_erase_of_mem hjm]
      have : 0 < s.must.length := List.length_pos_of_mem hjm
      omega

theorem brG_termL_eq_core {T : Tab} (hT : TabOk T) : ∀ fuel s i, Core T s i → fuel = s.must.length + 1 →
    brG T termL fuel s = brG T termAny fuel s := by
  intro fuel
  induction fuel with
  | zero => intro s i _ hf; omega
  | succ n ih =>
    intro s i h hf
    have hc := h.count
    have hd : s.depth < T.n := by omega
    rw [brG_succ T termL n s hd, brG_succ T termAny n s hd]
    apply EMax.foldl_max_congr
    intro v hv
    obtain ⟨j, rfl, hj⟩ := (mem_domain_iff hT h.valid v).mp hv
    obtain ⟨el, ht, _, _, _, hcore⟩ := core_step hT h hj s.depth
    rw [ht]
    rcases h.inDom hj with ⟨hm, _⟩ | ⟨_, hjm⟩
    · have hn : n = 0 := by rw [hm] at hf; simpa using hf
      subst hn
      simp [brG, termL, termAny, succSt, hm]
    · rw [ih _ j (hcore hjm)]
      show n = (s.must.erase j).length + 1
      rw [List.length_erase_of_mem hjm]
      have : 0 < s.must.length := List.length_pos_of_mem hjm
      omega

theorem reach_last_must {T : Tab} (hT : TabOk T) {k : Nat} {s : St} {v : Int} {p : List Dec}
    (h : Reach (problem T) k s v p) (hk : k = T.n) : s.must = [] := by
  cases h with
  | root => have := hT.n_pos; omega
  | step k s v p L x d hr hx _ hd =>
    obtain ⟨hk', _⟩ := nextVar_some hx
    have hE := reach_exact hT hr
    obtain ⟨i, hC⟩ := core_of_exact hE (by omega)
    obtain ⟨j, rfl, hj⟩ := (mem_domain_iff hT hE.valid d).mp hd
    obtain ⟨el, ht, _⟩ := core_step hT hC hj x
    have hc := hC.count
    have hm : s.must = [] := List.eq_nil_of_length_eq_zero (by rw [hE.depth] at hc; omega)
    show (trans T s ⟨x, (j : Int)⟩).must = []
    rw [ht]
    simp [succSt, hm]

theorem bestRemL_eq_on_exact_partial {T : Tab} (hT : TabOk T) : bestRemL_eq_on_exact T := by
  intro _ k s v p hr
  have hE := reach_exact hT hr
  unfold bestRemL bestRem
  rw [bestRemLF_eq, bestRemF_eq]
  by_cases hk : k < T.n
  · obtain ⟨i, hC⟩ := core_of_exact hE hk
    apply brG_termL_eq_core hT _ s i hC
    have := hC.count
    omega
  · have hkn : k = T.n := by have := hE.valid.depth_le; have := hE.depth; omega
    have hm := reach_last_must hT hr hkn
    have : T.n - s.depth = 0 := by rw [hE.depth]; omega
    rw [this]
    simp [brG, termL, termAny, hm]

abbrev fin (T : Tab) : Nat → Int → List Nat → Option Int := Tsptw.finish (dI T) (eI T) (lI T)

theorem fin_nil (T : Tab) (i : Nat) (t : Int) : fin T i t [] = some t := rfl
theorem fin_cons (T : Tab) (i : Nat) (t : Int) (j : Nat) (r : List Nat) :
    fin T i t (j :: r) = if t + dI T i j ≤ lI T j then fin T j (max (t + dI T i j) (eI T j)) r else none := rfl

theorem tri_of_inDomain {T : Tab} (hD : inDomain T = true) {i j k : Nat} (hi : i < T.n) (hj : j < T.n) (hk : k < T.n) :
    distOf T.d i j ≤ distOf T.d i k + distOf T.d k j := by
  simp only [inDomain, Bool.and_eq_true, List.all_eq_true, decide_eq_true_eq, List.mem_range] at hD
  exact hD.1.2 i hi j hj k hk

theorem fin_direct {T : Tab} (hD : inDomain T = true) : ∀ (r : List Nat) (i : Nat) (t e : Int), i < T.n →
    (∀ x ∈ r, x < T.n) → fin T i t r = some e → ∀ j ∈ r, t + dI T i j ≤ lI T j := by
  intro r
  induction r with
  | nil => intro i t e _ _ _ j hj; cases hj
  | cons a r ih =>
    intro i t e hi hr hf j hj
    rw [fin_cons] at hf
    by_cases hc : t + dI T i a ≤ lI T a
    · rw [if_pos hc] at hf
      rcases List.mem_cons.mp hj with rfl | hj'
      · exact hc
      · have ha : a < T.n := hr a List.mem_cons_self
        have hjn : j < T.n := hr j hj
        have := ih a _ e ha (fun x hx => hr x (List.mem_cons_of_mem _ hx)) hf j hj'
        have htri := tri_of_inDomain hD hi hjn ha
        simp only [dI] at this hc ⊢
        omega
    · rw [if_neg hc] at hf; cases hf

theorem lI_eq (T : Tab) (j : Nat) : lI T j = ((lN T j : Nat) : Int) := rfl
theorem eI_eq (T : Tab) (j : Nat) : eI T j = ((eN T j : Nat) : Int) := rfl

theorem reach_iff_core {T : Tab} {s : St} {i : Nat} (h : s.pos = .node i) (j : Nat) :
    reach T s j = true ↔ (s.el.earliest : Int) + dI T i j ≤ lI T j := by
  simp only [reach, minD_node h, dI, lI_eq, decide_eq_true_eq]
  omega

theorem arr_cast {T : Tab} {t i j : Nat} {el : El} (he : el.earliest = max (t + distOf T.d i j) (eN T j)) :
    ((el.earliest : Nat) : Int) = max ((t : Int) + dI T i j) (eI T j) := by
  rw [he]
  simp only [dI, eI_eq]
  omega

theorem core_ge {T : Tab} (hT : TabOk T) (hD : inDomain T = true) : ∀ (q : List Nat) (s : St) (i : Nat), Core T s i →
    q.Perm s.must → ∀ e : Int, fin T i (s.el.earliest : Int) (q ++ [0]) = some e →
    (some ((s.el.earliest : Int) - e) : EInt) ≤ brG T termAny (q.length + 1) s := by
  intro q
  induction q with
  | nil =>
    intro s i h hq e hf
    have hm : s.must = [] := hq.nil_eq.symm
    have hc := h.count
    rw [hm] at hc
    have hd : s.depth < T.n := by simp at hc; omega
    rw [List.nil_append, fin_cons] at hf
    by_cases hr : (s.el.earliest : Int) + dI T i 0 ≤ lI T 0
    · rw [if_pos hr, fin_nil] at hf
      have hj : InDom T s 0 := ⟨(reach_iff_core h.pos 0).mpr hr, Or.inl ⟨by simp at hc; omega, rfl⟩⟩
      obtain ⟨el, ht, he, hcost, _, _⟩ := core_step hT h hj s.depth
      have hge := brG_ge T termAny 0 s hd ((mem_domain_iff hT h.valid _).mpr ⟨0, rfl, hj⟩)
      refine EInt.le_trans ?_ hge
      rw [ht, hcost]
      have := arr_cast he
      simp only [brG, termAny, EInt.addI, Option.map_some, EInt.some_le_some]
      cases hf
      omega
    · rw [if_neg hr] at hf; cases hf
  | cons j q ih =>
    intro s i h hq e hf
    have hjm : j ∈ s.must := hq.mem_iff.mp List.mem_cons_self
    have hc := h.count
    have hlen : 0 < s.must.length := List.length_pos_of_mem hjm
    have hd : s.depth < T.n := by omega
    have hrng : ∀ x ∈ (j :: q) ++ [0], x < T.n := by
      intro x hx
      rcases List.mem_append.mp hx with hx | hx
      · exact (h.valid.must_rng x (hq.mem_iff.mp hx)).2
      · have : x = 0 := by simpa using hx
        have := hT.n_pos
        omega
    have hdir := fin_direct hD _ i _ e h.lt hrng hf
    have hj : InDom T s j := by
      refine ⟨(reach_iff_core h.pos j).mpr (hdir j (by simp)), Or.inr ⟨by omega, ?_, Or.inl hjm⟩⟩
      intro x hx
      exact (reach_iff_core h.pos x).mpr (hdir x (List.mem_append_left _ (hq.mem_iff.mpr hx)))
    obtain ⟨el, ht, he, hcost, _, hcore⟩ := core_step hT h hj s.depth
    rw [List.cons_append, fin_cons, if_pos (hdir j (by simp)), ← arr_cast he] at hf
    have hq' : q.Perm (s.must.erase j) := by
      have := hq.erase j
      rwa [List.erase_cons_head] at this
    have h1 := ih (succSt s j el) j (hcore hjm) hq' e hf
    have hge := brG_ge T termAny (q.length + 1) s hd ((mem_domain_iff hT h.valid _).mpr ⟨j, rfl, hj⟩)
    refine EInt.le_trans ?_ hge
    rw [ht, hcost]
    refine EInt.le_trans ?_ (EMax.addI_mono h1 (Int.le_refl _))
    have : ((succSt s j el).el.earliest : Int) = (el.earliest : Int) := rfl
    simp only [EInt.addI, Option.map_some, EInt.some_le_some, this]
    omega

theorem core_att {T : Tab} (hT : TabOk T) : ∀ (fuel : Nat) (s : St) (i : Nat), Core T s i → fuel = s.must.length →
    ∀ g : Int, brG T termAny (fuel + 1) s = some g →
    ∃ q : List Nat, q.Perm s.must ∧ fin T i (s.el.earliest : Int) (q ++ [0]) = some ((s.el.earliest : Int) - g) := by
  intro fuel
  induction fuel with
  | zero =>
    intro s i h hf g hg
    have hc := h.count
    have hd : s.depth < T.n := by omega
    obtain ⟨v, hv, hval⟩ := brG_att T termAny 0 s hd hg
    obtain ⟨j, rfl, hj⟩ := (mem_domain_iff hT h.valid v).mp hv
    obtain ⟨el, ht, he, hcost, _, _⟩ := core_step hT h hj s.depth
    rcases h.inDom hj with ⟨hm, rfl⟩ | ⟨hm, _⟩
    · refine ⟨[], by rw [hm], ?_⟩
      rw [List.nil_append, fin_cons, if_pos ((reach_iff_core h.pos 0).mp hj.1), fin_nil, ← arr_cast he]
      rw [ht, hcost] at hval
      simp only [brG, termAny, EInt.addI, Option.map_some, Option.some.injEq] at hval
      congr 1; omega
    · exact absurd (List.eq_nil_of_length_eq_zero hf.symm) hm
  | succ n ih =>
    intro s i h hf g hg
    have hc := h.count
    have hd : s.depth < T.n := by omega
    obtain ⟨v, hv, hval⟩ := brG_att T termAny (n + 1) s hd hg
    obtain ⟨j, rfl, hj⟩ := (mem_domain_iff hT h.valid v).mp hv
    obtain ⟨el, ht, he, hcost, _, hcore⟩ := core_step hT h hj s.depth
    rcases h.inDom hj with ⟨hm, _⟩ | ⟨_, hjm⟩
    · rw [hm] at hf; simp at hf
    · rw [ht, hcost] at hval
      obtain ⟨g', hg', rfl⟩ := EInt.addI_eq_some hval
      have hlen : n = (s.must.erase j).length := by
        rw [List.length_erase_of_mem hjm]; omega
      obtain ⟨q, hq, hfq⟩ := ih (succSt s j el) j (hcore hjm) hlen g' hg'
      refine ⟨j :: q, (hq.cons j).trans (List.perm_cons_erase hjm).symm, ?_⟩
      rw [List.cons_append, fin_cons, if_pos ((reach_iff_core h.pos j).mp hj.1), ← arr_cast he]
      have : ((succSt s j el).el.earliest : Int) = (el.earliest : Int) := rfl
      rw [this] at hfq
      rw [hfq]
      congr 1; omega

def preOf (p : List Dec) : List Nat := (p.map (·.val)).map Int.toNat
def restOf (T : Tab) (pre : List Nat) : List Nat := ((List.range T.n).drop 1).filter (fun c => !pre.contains c)

theorem specBestExt_eq (T : Tab) (decs : List Int) : specBestExt T decs =
    if (decs.map Int.toNat).length ≥ T.n then (fin T 0 0 (decs.map Int.toNat)).map (fun t => -t)
    else (Tsptw.minimum (((Tsptw.perms (restOf T (decs.map Int.toNat))).map
      (fun q => decs.map Int.toNat ++ q ++ [0])).filterMap (fin T 0 0))).map (fun t => -t) := rfl

/-- the state reached by the decisions `p`: the cities left are those not in `p`, and the clock of the specification after
    the cities of `p` is at the position and the (earliest) time of the state -/
structure Pre (T : Tab) (k : Nat) (s : St) (p : List Dec) : Prop where
  len : p.length = k
  must : s.must = restOf T (preOf p)
  clock : ∀ i, s.pos = .node i → ∀ r, fin T 0 0 (preOf p ++ r) = fin T i (s.el.earliest : Int) r

theorem preOf_snoc (p : List Dec) (x j : Nat) : preOf (p ++ [⟨x, (j : Int)⟩]) = preOf p ++ [j] := by
  simp [preOf]

theorem restOf_snoc (T : Tab) (pre : List Nat) (j : Nat) :
    restOf T (pre ++ [j]) = (restOf T pre).filter (· != j) := by
  unfold restOf
  rw [List.filter_filter]
  apply List.filter_congr
  intro c _
  rw [List.contains_append]
  have : [j].contains c = (c == j) := by rw [List.contains_cons, List.contains_nil, Bool.or_false]
  rw [this]
  cases pre.contains c <;> cases h : c == j <;> simp [bne, h]

theorem reach_pre {T : Tab} (hT : TabOk T) {k : Nat} {s : St} {v : Int} {p : List Dec} (h : Reach (problem T) k s v p) :
    Pre T k s p := by
  induction h with
  | root =>
    refine ⟨rfl, ?_, ?_⟩
    · show (List.range T.n).drop 1 = ((List.range T.n).drop 1).filter (fun c => !([] : List Nat).contains c)
      exact (List.filter_eq_self.mpr (fun _ _ => by simp)).symm
    · intro i hi r
      have : i = 0 := by
        have hi : Pos.node 0 = Pos.node i := hi
        cases hi; rfl
      subst this
      rfl
  | step k s v p L x d hr hx _ hd ih =>
    obtain ⟨hk, _⟩ := nextVar_some hx
    have hE := reach_exact hT hr
    have hkn : k < T.n := by have := hE.valid.depth_le; have := hE.depth; omega
    obtain ⟨i, hC⟩ := core_of_exact hE hkn
    obtain ⟨j, rfl, hj⟩ := (mem_domain_iff hT hE.valid d).mp hd
    obtain ⟨el, ht, he, _, _, _⟩ := core_step hT hC hj x
    show Pre T (k + 1) (trans T s ⟨x, (j : Int)⟩) (p ++ [⟨x, (j : Int)⟩])
    rw [ht]
    refine ⟨by simp [ih.len], ?_, ?_⟩
    · show s.must.erase j = _
      rw [preOf_snoc, restOf_snoc, ← ih.must, hC.valid.must_nd.erase_eq_filter]
    · intro i' hi' r
      have : i' = j := by
        have hi' : Pos.node j = Pos.node i' := hi'
        cases hi'; rfl
      subst this
      rw [preOf_snoc, List.append_assoc, List.singleton_append, ih.clock i hC.pos, fin_cons,
        if_pos ((reach_iff_core hC.pos _).mp hj.1), ← arr_cast he]
      rfl

theorem dp_exact_partial {T : Tab} (hT : TabOk T) : dp_exact T := by
  intro hD k s v p hr
  have hE := reach_exact hT hr
  have hP := reach_pre hT hr
  rw [specBestExt_eq, Tour.tsptw_minimum_eq]
  have hlen : ((p.map (·.val)).map Int.toNat).length = k := by simp [hP.len]
  rw [hlen]
  by_cases hk : k < T.n
  · rw [if_neg (by omega)]
    obtain ⟨i, hC⟩ := core_of_exact hE hk
    have hc := hC.count
    have hmem : ∀ x : Int, x ∈ ((Tsptw.perms (restOf T ((p.map (·.val)).map Int.toNat))).map
        (fun q => (p.map (·.val)).map Int.toNat ++ q ++ [0])).filterMap (fin T 0 0) ↔
        ∃ q : List Nat, q.Perm s.must ∧ fin T i (s.el.earliest : Int) (q ++ [0]) = some x := by
      intro x
      simp only [List.mem_filterMap, List.mem_map]
      constructor
      · rintro ⟨a, ⟨q, hq, rfl⟩, hx⟩
        refine ⟨q, ?_, ?_⟩
        · rw [hP.must]; exact Tour.mem_tsptw_perms.mp hq
        · rw [List.append_assoc] at hx
          rw [← hP.clock i hC.pos]; exact hx
      · rintro ⟨q, hq, hx⟩
        refine ⟨_, ⟨q, Tour.mem_tsptw_perms.mpr (by rw [hP.must] at hq; exact hq), rfl⟩, ?_⟩
        rw [List.append_assoc]
        rw [← hP.clock i hC.pos] at hx; exact hx
    have hbr : bestRem T s = brG T termAny (s.must.length + 1) s := by
      unfold bestRem
      rw [bestRemF_eq]
      congr 1; omega
    rw [hbr]
    rw [hE.value]
    refine EMax.eq_neg_minOf (fun x hx => ?_) (fun g hg => ?_)
    · obtain ⟨q, hq, hf⟩ := (hmem x).mp hx
      have : (some ((s.el.earliest : Int) - x + -(s.el.earliest : Int)) : EInt)
          ≤ (brG T termAny (q.length + 1) s).addI (-(s.el.earliest : Int)) :=
        EMax.addI_mono (core_ge hT hD q s i hC hq x hf) (Int.le_refl _)
      rw [hq.length_eq] at this
      refine EInt.le_trans ((EInt.some_le_some _ _).mpr ?_) this
      omega
    · obtain ⟨g', hg', rfl⟩ := EInt.addI_eq_some hg
      obtain ⟨q, hq, hf⟩ := core_att hT _ s i hC rfl g' hg'
      refine ⟨_, (hmem _).mpr ⟨q, hq, ?_⟩, Int.le_refl _⟩
      rw [hf]; congr 1; omega
  · have hkn : k = T.n := by have := hE.valid.depth_le; have := hE.depth; omega
    rw [if_pos (by omega), bestRem_last T s (by rw [hE.depth]; omega)]
    obtain ⟨i, hi⟩ := hE.node
    have := hP.clock i hi []
    rw [List.append_nil, fin_nil] at this
    have e : fin T 0 0 ((p.map (·.val)).map Int.toNat) = some (s.el.earliest : Int) := this
    rw [e, hE.value]
    simp [EInt.addI]

theorem spec_eq_specBestExt_proved (T : Tab) : spec_eq_specBestExt T := by
  intro hn
  rw [specBestExt_eq]
  have h0 : ¬ (([] : List Int).map Int.toNat).length ≥ T.n := by simp; omega
  rw [if_neg h0]
  have hr : restOf T (([] : List Int).map Int.toNat) = (List.range T.n).drop 1 := by simp [restOf]
  rw [hr]
  unfold Tsptw.spec
  simp only [List.map_nil, List.nil_append, Option.map_map]
  congr 1
  cases Tsptw.minimum _ <;> simp

theorem spec_eq_bestRem_root {T : Tab} (hT : TabOk T) (hD : inDomain T = true) :
    Tsptw.spec T.n (dI T) (eI T) (lI T) = ((bestRem T (initSt T)).map (fun v => -v)).getD (-1) := by
  rw [spec_eq_specBestExt_proved T hT.n_pos]
  have h := dp_exact_partial hT hD 0 (initSt T) 0 [] Reach.root
  have e : (bestRem T (initSt T)).addI 0 = bestRem T (initSt T) := by
    cases bestRem T (initSt T) <;> simp [EInt.addI]
  rw [e] at h
  rw [h]
  rfl

#print axioms bestRemL_eq_on_exact_partial
#print axioms dp_exact_partial
#print axioms spec_eq_specBestExt_proved
#print axioms spec_eq_bestRem_root

end Ddo.Examples.TsptwModel
