import DdoModel.Examples.GolombDp
/-! golomb example: key lemmas about the model `GolombDp.lean` only (its rough bound is a table of known optimal rulers).  The
    merged state holds only marks / distances that every merged state holds; the costs telescope (`cost_eq`); a position that
    a merged state forbids is forbidden in every merged-away state (`blocked_mono`: the step the absolute form of `MergeOk` rests
    on).  The POTENTIAL form of `MergeOk` (`Wf.lean`) is FALSE for this model (`merge_arc_form_fails`: two reachable states of
    `n = 4`, by evaluation), and on the same pair the absolute form holds; for `n ≤ 3` the model is exact at the root
    (`dp_exact_small`, by evaluation).  `RubAdmissibleStmt`, `MergeAbsOkStmt`, `DpExactStmt`, `BestRemBBStmt` are stated, not
    proved: the driver checks them pointwise on every generated case. -/
namespace Ddo.Examples.GolombModel
open Ddo Ddo.Examples

theorem relax_id (n : Nat) (a b c : St) (d : Dec) (x : Int) : (relaxation n).relax a b c d x = x := rfl

theorem mem_inter {a b : List Nat} {x : Nat} : x ∈ inter a b ↔ x ∈ a ∧ x ∈ b := by
  simp [inter, List.mem_filter]

theorem foldl_inter_subset {α : Type} (step : α → α → α) (p : α → List Nat) (hp : ∀ a s, p (step a s) = inter (p a) (p s))
    (X : List α) : ∀ acc, ∀ x ∈ p (X.foldl step acc), x ∈ p acc ∧ ∀ u ∈ X, x ∈ p u := by
  induction X with
  | nil => intro acc x hx; exact ⟨hx, fun u hu => by cases hu⟩
  | cons a rest ih =>
    intro acc x hx
    obtain ⟨h1, h2⟩ := ih (step acc a) x hx
    rw [hp, mem_inter] at h1
    refine ⟨h1.1, fun u hu => ?_⟩
    rcases List.mem_cons.mp hu with rfl | hu
    · exact h1.2
    · exact h2 u hu

theorem foldl_min_le {α : Type} (step : α → α → α) (p : α → Nat) (hp : ∀ a s, p (step a s) = min (p a) (p s))
    (X : List α) : ∀ acc, p (X.foldl step acc) ≤ p acc ∧ ∀ u ∈ X, p (X.foldl step acc) ≤ p u := by
  induction X with
  | nil => intro acc; exact ⟨Nat.le_refl _, fun u hu => by cases hu⟩
  | cons a rest ih =>
    intro acc
    rw [List.foldl_cons]
    obtain ⟨h1, h2⟩ := ih (step acc a)
    rw [hp] at h1
    refine ⟨by omega, fun u hu => ?_⟩
    rcases List.mem_cons.mp hu with rfl | hu
    · omega
    · exact h2 u hu

theorem merge_marks_subset (X : List St) (u : St) (hu : u ∈ X) : ∀ x ∈ (mergeStates X).marks, x ∈ u.marks :=
  fun x hx => (foldl_inter_subset _ (·.marks) (fun _ _ => rfl) X _ x hx).2 u hu
theorem merge_dists_subset (X : List St) (u : St) (hu : u ∈ X) : ∀ x ∈ (mergeStates X).dists, x ∈ u.dists :=
  fun x hx => (foldl_inter_subset _ (·.dists) (fun _ _ => rfl) X _ x hx).2 u hu
theorem merge_nm_le (X : List St) (u : St) (hu : u ∈ X) : (mergeStates X).nm ≤ u.nm :=
  (foldl_min_le _ (·.nm) (fun _ _ => rfl) X _).2 u hu
theorem merge_last_le (X : List St) (u : St) (hu : u ∈ X) : (mergeStates X).last ≤ u.last :=
  (foldl_min_le _ (·.last) (fun _ _ => rfl) X _).2 u hu

theorem trans_nm_last (s s' : St) (d : Dec) (h : trans? s d = some s') : s'.nm = s.nm + 1 ∧ (s'.last : Int) = d.val := by
  unfold trans? at h
  split at h
  · cases h
  · next hneg =>
    dsimp only at h
    split at h
    · cases h
    · split at h
      · cases h
      · split at h
        · cases h
        · simp only [Option.some.injEq] at h
          rw [← h]
          dsimp only
          exact ⟨rfl, by omega⟩

/-- the cost of a decision is minus the step from the last mark: along a path the costs telescope to `-last_mark` -/
theorem cost_eq (s : St) (d : Dec) (h : s.last < 9223372036854775808) : cost s d = (s.last : Int) - d.val := by
  simp only [cost, asIsize, h, if_true]
  omega

/-- when nothing panics (every mark is at most the position, the differences fit the set) the inner loop of the domain is a
    membership test -/
theorem blocked_eq (D : List Nat) (i : Nat) : ∀ js : List Nat, (∀ j ∈ js, j ≤ i ∧ i - j < setCap) →
    blocked? D i js = some (js.any (fun j => D.contains (i - j))) := by
  intro js
  induction js with
  | nil => intro _; rfl
  | cons j r ih =>
    intro h
    have hj := h j List.mem_cons_self
    have hr := ih (fun j' hj' => h j' (List.mem_cons_of_mem _ hj'))
    unfold blocked?
    have h1 : ¬ i < j := by omega
    have h2 : ¬ setCap ≤ i - j := by omega
    simp only [h1, h2, if_false]
    by_cases hc : i - j ∈ D
    · simp [hc]
    · have hr' := hr
      simp [hc] at hr' ⊢
      exact hr'

/-- a position that the smaller state (fewer marks, fewer distances) forbids is forbidden in the larger one: the completions
    of a merged-away state, in ABSOLUTE positions, are completions of the merged state -/
theorem blocked_mono (Dm Du : List Nat) (i : Nat) (Mm Mu : List Nat)
    (hM : ∀ x ∈ Mm, x ∈ Mu) (hD : ∀ x ∈ Dm, x ∈ Du) (hu : ∀ j ∈ Mu, j ≤ i ∧ i - j < setCap)
    (hb : blocked? Dm i Mm = some true) : blocked? Du i Mu = some true := by
  rw [blocked_eq Dm i Mm (fun j hj => hu j (hM j hj))] at hb
  rw [blocked_eq Du i Mu hu]
  simp only [Option.some.injEq, List.any_eq_true, List.contains_iff_mem] at hb ⊢
  obtain ⟨j, hj, hd⟩ := hb
  exact ⟨j, hM j hj, hD _ hd⟩

/-- two states of the third layer of `n = 4`, both reached from the root through decisions of the domain -/
def exU : St := { marks := [0, 2, 5], dists := [2, 3, 5], nm := 3, last := 5 }
def exU' : St := { marks := [0, 2, 3], dists := [1, 2, 3], nm := 3, last := 3 }

theorem exU_reached : 2 ∈ domain 4 0 initSt ∧ trans initSt ⟨0, 2⟩ = { marks := [0, 2], dists := [2], nm := 2, last := 2 } ∧
    5 ∈ domain 4 1 (trans initSt ⟨0, 2⟩) ∧ trans (trans initSt ⟨0, 2⟩) ⟨1, 5⟩ = exU ∧
    3 ∈ domain 4 1 (trans initSt ⟨0, 2⟩) ∧ trans (trans initSt ⟨0, 2⟩) ⟨1, 3⟩ = exU' := by decide +kernel

/-- The POTENTIAL form of `MergeOk` (`Wf.lean`: `c + H(u) ≤ relax(c) + H(merge X)`, `relax` = the identity) is false for the
    golomb model, whatever potential `H` is chosen between the true value-to-go on exact states and the model's value-to-go on
    merged states: `{0,2,5}` completes with the mark 6 (worth −1, the optimal ruler `0 2 5 6`), the merged state
    `({0,2}, {2,3}, 3, last 3)` of `{0,2,3}` and `{0,2,5}` needs the mark 6 as well — worth −3 from ITS last mark. -/
theorem merge_arc_form_fails :
    bestRem 4 exU = some (-1) ∧ mergeStates [exU', exU] = { marks := [0, 2], dists := [2, 3], nm := 3, last := 3 } ∧
    bestRem 4 (mergeStates [exU', exU]) = some (-3) ∧
    mergeOkAt (bestRem 4 exU) (bestRem 4 (mergeStates [exU', exU])) (-3) ((relaxation 4).relax (trans initSt ⟨0, 2⟩) exU (mergeStates [exU', exU]) ⟨1, 5⟩ (-3)) = false := by
  decide +kernel

theorem merge_abs_form_example :
    mergeAbsOkAt exU (mergeStates [exU', exU]) (bestRem 4 exU) (bestRem 4 (mergeStates [exU', exU])) (-3) (-3) = true := by
  rw [merge_arc_form_fails.1, merge_arc_form_fails.2.2.1]; decide +kernel

/-- for the smallest sizes the DP model is exact at the root, by evaluation: minus the value-to-go of the root is the length
    of the shortest ruler of the specification -/
theorem dp_exact_small : ∀ n ∈ [1, 2, 3], bestRem n initSt = (Golomb.shortest n).map (fun L => -(L : Int)) := by
  decide +kernel

/-- the states a compilation can build (the lists are not required to be increasing): every mark and every distance at most
    the last mark, mark 0 present, between 1 and `n` marks placed, everything inside the 256 bits -/
def StOk (n : Nat) (s : St) : Prop :=
  1 ≤ s.nm ∧ s.nm ≤ n ∧ 0 ∈ s.marks ∧ (∀ x ∈ s.marks, x ≤ s.last) ∧ (∀ x ∈ s.dists, x ≤ s.last) ∧ s.last + (n * n + 1) < setCap

/-- `RubOk`: the rough upper bound dominates the value-to-go of every such state (merged ones included: the marks still to
    place form a ruler of `n - number_of_marks` marks by themselves, whatever was forgotten) -/
def RubAdmissibleStmt (n : Nat) : Prop :=
  1 ≤ n → n ≤ 15 → ∀ s r, StOk n s → rub? n s = some r → bestRem n s ≤ (some r : EInt)

/-- `MergeOk` in ABSOLUTE positions (`relax` is the identity): whatever mark a merged-away state can end on, the merged state
    can end on it or before.  The potential form is false (`merge_arc_form_fails`). -/
def MergeAbsOkStmt (n : Nat) : Prop :=
  ∀ (X : List St) (u : St) (h : Int), u ∈ X → (∀ w ∈ X, StOk n w ∧ w.nm = u.nm) → bestRem n u = some h →
    ∃ h', bestRem n (mergeStates X) = some h' ∧ h - (u.last : Int) ≤ h' - ((mergeStates X).last : Int)

def DpExactStmt (n : Nat) : Prop :=
  1 ≤ n → n ≤ 15 → bestRem n initSt = (Golomb.shortest n).map (fun L => -(L : Int))

/-- the enumeration with the cut that the driver uses is the plain one -/
def BestRemBBStmt (n : Nat) : Prop := ∀ s, StOk n s → bestRemBB n s = bestRem n s

end Ddo.Examples.GolombModel
