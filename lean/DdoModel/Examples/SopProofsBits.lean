import DdoModel.Examples.SopModel
import DdoModel.Examples.EMax
import DdoModel.Examples.TourBase
/-! Bit masks (`Set256` as a `Nat`: membership is `testBit`, `card` by counting) and the predicates the sop proofs are stated
    over: `TabOk`, `DomOk` on tables, `Inv` on states, `Conc` for the exact states a merged state stands for. -/

namespace Ddo.Examples.SopModel
open Ddo Ddo.Examples Ddo.Examples.Util

theorem testBit_single (x y : Nat) : (single x).testBit y = decide (x = y) := by
  unfold single
  rw [Nat.one_shiftLeft, Nat.testBit_two_pow]

theorem testBit_diff (a b x : Nat) : (diff a b).testBit x = (a.testBit x && !b.testBit x) := by
  unfold diff
  rw [Nat.testBit_xor, Nat.testBit_and]
  cases a.testBit x <;> cases b.testBit x <;> rfl

theorem testBit_false_of_lt {m x : Nat} (h : m < 2 ^ x) : m.testBit x = false := Nat.testBit_lt_two_pow h

theorem testBit_false_above (m x : Nat) (h : m.log2 + 1 ≤ x) : m.testBit x = false := by
  apply Nat.testBit_lt_two_pow
  exact Nat.lt_of_lt_of_le Nat.lt_log2_self (Nat.pow_le_pow_right (by omega) h)

theorem mem_bits {m x : Nat} : x ∈ bits m ↔ m.testBit x = true := by
  unfold bits
  rw [List.mem_filter, List.mem_range]
  constructor
  · exact fun h => h.2
  · intro h
    refine ⟨?_, h⟩
    by_cases hx : m.log2 + 1 ≤ x
    · rw [testBit_false_above m x hx] at h; cases h
    · omega

theorem bits_pairwise (m : Nat) : (bits m).Pairwise (· < ·) := List.Pairwise.filter _ List.pairwise_lt_range

theorem bits_nodup (m : Nat) : (bits m).Nodup := List.Nodup.sublist List.filter_sublist List.nodup_range

theorem eq_zero_of_testBit {m : Nat} (h : ∀ x, m.testBit x = false) : m = 0 :=
  Nat.eq_of_testBit_eq (fun i => by rw [h i, Nat.zero_testBit])

theorem testBit_of_eq_zero {m : Nat} (h : m = 0) (x : Nat) : m.testBit x = false := by rw [h, Nat.zero_testBit]

theorem bits_zero : bits 0 = [] := by
  apply List.eq_nil_iff_forall_not_mem.mpr
  intro x hx
  rw [mem_bits, Nat.zero_testBit] at hx
  cases hx

/-- `card` counted over a range that does not depend on the mask, so that two masks can be compared (`card_eq_cnt`) -/
def cnt (N m : Nat) : Nat := (List.range N).countP m.testBit

theorem cnt_stable {m L : Nat} (h : ∀ x, L ≤ x → m.testBit x = false) : ∀ N, L ≤ N → cnt N m = cnt L m := by
  intro N hN
  induction N with
  | zero => have : L = 0 := by omega
            subst this; rfl
  | succ N ih =>
    by_cases hL : L = N + 1
    · subst hL; rfl
    · have hLN : L ≤ N := by omega
      unfold cnt at *
      rw [List.range_succ, List.countP_append, ih hLN]
      simp [h N hLN]

theorem card_eq_cnt {m N : Nat} (h : ∀ x, m.testBit x = true → x < N) : card m = cnt N m := by
  have h1 : card m = cnt (m.log2 + 1) m := by
    unfold card bits cnt
    rw [List.countP_eq_length_filter]
  have hN : ∀ x, N ≤ x → m.testBit x = false := by
    intro x hx
    cases hb : m.testBit x with
    | false => rfl
    | true => have := h x hb; omega
  rw [h1]
  by_cases hle : m.log2 + 1 ≤ N
  · exact (cnt_stable (testBit_false_above m) N hle).symm
  · exact cnt_stable hN _ (by omega)

theorem bound_log2 (m : Nat) : ∀ x, m.testBit x = true → x < m.log2 + 1 := by
  intro x hx
  by_cases h : m.log2 + 1 ≤ x
  · rw [testBit_false_above m x h] at hx; cases hx
  · omega

theorem bound2 (a b : Nat) : ∃ N, (∀ x, a.testBit x = true → x < N) ∧ (∀ x, b.testBit x = true → x < N) :=
  ⟨a.log2 + 1 + (b.log2 + 1), fun x hx => by have := bound_log2 a x hx; omega,
    fun x hx => by have := bound_log2 b x hx; omega⟩

theorem card_mono {a b : Nat} (h : ∀ x, a.testBit x = true → b.testBit x = true) : card a ≤ card b := by
  have hb := bound_log2 b
  rw [card_eq_cnt hb, card_eq_cnt (fun x hx => hb x (h x hx))]
  exact List.countP_mono_left (fun x _ hx => h x hx)

theorem countP_or_le (p q : Nat → Bool) : ∀ l : List Nat,
    l.countP (fun x => p x || q x) ≤ l.countP p + l.countP q := by
  intro l
  induction l with
  | nil => simp
  | cons x t ih =>
    simp only [List.countP_cons]
    cases p x <;> cases q x <;> simp <;> omega

theorem countP_or_disj (p q : Nat → Bool) : ∀ l : List Nat, (∀ x ∈ l, p x = true → q x = false) →
    l.countP (fun x => p x || q x) = l.countP p + l.countP q := by
  intro l
  induction l with
  | nil => simp
  | cons x t ih =>
    intro h
    have ih' := ih (fun y hy => h y (List.mem_cons_of_mem _ hy))
    have hx := h x (List.mem_cons_self)
    simp only [List.countP_cons, ih']
    cases hp : p x
    · cases q x <;> simp <;> omega
    · rw [hx hp]; simp; omega

theorem testBit_or_fun (a b : Nat) : (a ||| b).testBit = fun x => a.testBit x || b.testBit x := by
  funext x; exact Nat.testBit_or a b x

theorem card_union_le (a b : Nat) : card (a ||| b) ≤ card a + card b := by
  obtain ⟨N, ha, hb⟩ := bound2 a b
  have hab : ∀ x, (a ||| b).testBit x = true → x < N := by
    intro x hx
    rw [Nat.testBit_or, Bool.or_eq_true] at hx
    rcases hx with hx | hx
    · exact ha x hx
    · exact hb x hx
  rw [card_eq_cnt ha, card_eq_cnt hb, card_eq_cnt hab]
  unfold cnt
  rw [testBit_or_fun]
  exact countP_or_le _ _ _

theorem card_union_disj {a b : Nat} (h : ∀ x, a.testBit x = true → b.testBit x = false) :
    card (a ||| b) = card a + card b := by
  obtain ⟨N, ha, hb⟩ := bound2 a b
  have hab : ∀ x, (a ||| b).testBit x = true → x < N := by
    intro x hx
    rw [Nat.testBit_or, Bool.or_eq_true] at hx
    rcases hx with hx | hx
    · exact ha x hx
    · exact hb x hx
  rw [card_eq_cnt ha, card_eq_cnt hb, card_eq_cnt hab]
  unfold cnt
  rw [testBit_or_fun]
  exact countP_or_disj _ _ _ (fun x _ hx => h x hx)

theorem card_zero : card 0 = 0 := by unfold card; rw [bits_zero]; rfl

theorem card_single (j : Nat) : card (single j) = 1 := by
  have hb : ∀ x, (single j).testBit x = true → x < j + 1 := by
    intro x hx
    rw [testBit_single] at hx
    have : j = x := by simpa using hx
    omega
  rw [card_eq_cnt hb]
  unfold cnt
  rw [List.range_succ, List.countP_append]
  have h0 : (List.range j).countP (single j).testBit = 0 := by
    rw [List.countP_eq_zero]
    intro x hx
    rw [List.mem_range] at hx
    rw [testBit_single]
    simp; omega
  rw [h0]
  simp [testBit_single]

theorem card_diff_single {a j : Nat} (h : a.testBit j = true) : card (diff a (single j)) + 1 = card a := by
  have h1 : a = diff a (single j) ||| single j := by
    apply Nat.eq_of_testBit_eq
    intro x
    rw [Nat.testBit_or, testBit_diff, testBit_single]
    by_cases hx : j = x
    · subst hx; simp [h]
    · simp [hx]
  have h2 : card (diff a (single j) ||| single j) = card (diff a (single j)) + card (single j) := by
    apply card_union_disj
    intro x hx
    rw [testBit_diff, testBit_single] at hx
    rw [testBit_single]
    simp at hx ⊢
    exact hx.2
  rw [card_single] at h2
  rw [← h2, ← h1]

theorem card_diff_single_ge (a j : Nat) : card a ≤ card (diff a (single j)) + 1 := by
  cases h : a.testBit j with
  | true => rw [card_diff_single h]; exact Nat.le_refl _
  | false =>
    have : diff a (single j) = a := by
      apply Nat.eq_of_testBit_eq
      intro x
      rw [testBit_diff, testBit_single]
      by_cases hx : j = x
      · subst hx; simp [h]
      · simp [hx]
    rw [this]; omega

theorem card_diff_le (a b : Nat) : card (diff a b) ≤ card a :=
  card_mono (fun x hx => by rw [testBit_diff] at hx; simp at hx; exact hx.1)

theorem testBit_ofList_aux (xs : List Nat) : ∀ (m x : Nat),
    (xs.foldl (fun m x => m ||| single x) m).testBit x = (m.testBit x || decide (x ∈ xs)) := by
  induction xs with
  | nil => intro m x; simp
  | cons y t ih =>
    intro m x
    simp only [List.foldl_cons]
    rw [ih, Nat.testBit_or, testBit_single]
    by_cases h : y = x
    · subst h; simp
    · have : ¬ x = y := fun e => h e.symm
      simp [h, this]

theorem testBit_ofList (xs : List Nat) (x : Nat) : (ofList xs).testBit x = decide (x ∈ xs) := by
  unfold ofList
  rw [testBit_ofList_aux]
  simp

theorem ofList_bits (m : Nat) : ofList (bits m) = m := by
  apply Nat.eq_of_testBit_eq
  intro x
  rw [testBit_ofList]
  cases h : m.testBit x with
  | true => simp [mem_bits, h]
  | false => simp [mem_bits, h]

theorem card_ofList : ∀ (xs : List Nat), xs.Nodup → card (ofList xs) = xs.length := by
  intro xs
  induction xs with
  | nil => intro _; show card 0 = 0; exact card_zero
  | cons y t ih =>
    intro h
    have hy : y ∉ t := (List.nodup_cons.mp h).1
    have ht := ih (List.nodup_cons.mp h).2
    have e : ofList (y :: t) = ofList t ||| single y := by
      apply Nat.eq_of_testBit_eq
      intro x
      rw [Nat.testBit_or, testBit_ofList, testBit_ofList, testBit_single]
      by_cases hx : y = x
      · subst hx; simp
      · have : ¬ x = y := fun e => hx e.symm
        simp [hx, this]
    rw [e, card_union_disj, ht, card_single, List.length_cons]
    intro x hx
    rw [testBit_ofList] at hx
    rw [testBit_single]
    have hx' : x ∈ t := by simpa using hx
    simp
    intro e; subst e; exact hy hx'

theorem card_eq_length_bits (m : Nat) : card m = (bits m).length := rfl

def allJobs (n : Nat) : Nat := ofList ((List.range n).drop 1)

theorem testBit_allJobs (n x : Nat) : (allJobs n).testBit x = decide (0 < x ∧ x < n) := by
  unfold allJobs
  rw [testBit_ofList]
  cases n with
  | zero => simp
  | succ n =>
    rw [List.range_succ_eq_map]
    simp only [List.drop_succ_cons, List.drop_zero, List.mem_map, List.mem_range]
    apply decide_eq_decide.mpr
    constructor
    · rintro ⟨a, ha, rfl⟩; omega
    · intro h; exact ⟨x - 1, by omega, by omega⟩

/-- `predecessors[j]` (the empty set out of range) -/
def predOf (T : Tab) (j : Nat) : Nat := T.pred.getD j 0

/-- a table as the reader and `Sop::new` build it from a square matrix of `isize` entries `≥ -1`, at most 256 jobs -/
structure TabOk (T : Tab) : Prop where
  n_pos : 1 ≤ T.n
  n_le : T.n ≤ 256
  dist : ∀ i j, i < T.n → j < T.n → dist? T i j = some (dfun T i j)
  d_ge : ∀ i j, i < T.n → j < T.n → -1 ≤ dfun T i j
  d_le : ∀ i j, i < T.n → j < T.n → dfun T i j ≤ imax
  pred_some : ∀ j, j < T.n → T.pred[j]? = some (predOf T j)
  pred_spec : ∀ j x, j < T.n → ((predOf T j).testBit x = true ↔ (x < T.n ∧ dfun T j x = -1))
  cheap : ∀ i, i < T.n → T.cheap[i]? = some (cheapOf T.n T.d i)

/-- the precedence marks of the format (TSPLIB): every job before the last one, job 0 before every job; distances out of
    job 0 and into the last job -/
structure DomOk (T : Tab) : Prop where
  last_row : ∀ j, j < T.n - 1 → dfun T (T.n - 1) j = -1
  first_col : ∀ i, 0 < i → i < T.n → dfun T i 0 = -1
  first_row : ∀ j, 0 < j → j < T.n → 0 ≤ dfun T 0 j
  last_col : ∀ i, i < T.n - 1 → 0 ≤ dfun T i (T.n - 1)

def mb (s : St) : Nat := s.maybe.getD 0

theorem mb_of_none {s : St} (h : s.maybe = none) : mb s = 0 := by simp [mb, h]
theorem mb_of_some {s : St} {y : Nat} (h : s.maybe = some y) : mb s = y := by simp [mb, h]

def isPrev (s : St) (p : Nat) : Prop :=
  match s.prev with
  | .job i => p = i
  | .virt c => c.testBit p = true

/-- the part of `validB` the DP functions rely on; closed under the transitions of the domain (`inv_succ`, `SopProofsStep.lean`) -/
structure Inv (T : Tab) (s : St) : Prop where
  depth_le : s.depth ≤ nv T
  must_lt : ∀ x, s.must.testBit x = true → 0 < x ∧ x < T.n
  maybe_lt : ∀ x, (mb s).testBit x = true → 0 < x ∧ x < T.n
  disj : ∀ x, s.must.testBit x = true → (mb s).testBit x = false
  prev_lt : ∀ p, isPrev s p → p < T.n
  count : nv T - s.depth ≤ card s.must + card (mb s)

/-- `u` is one of the exact states the (merged) state `s` stands for: one of the previous jobs, all the mandatory jobs and
    as many of the optional ones as there are positions left (`mem_concretize_iff`, `SopProofsWf.lean`) -/
structure Conc (T : Tab) (s u : St) : Prop where
  prev : ∃ p, u.prev = .job p ∧ isPrev s p ∧ u.must.testBit p = false
  maybe : u.maybe = none
  depth : u.depth = s.depth
  lo : ∀ x, s.must.testBit x = true → u.must.testBit x = true
  hi : ∀ x, u.must.testBit x = true → s.must.testBit x = true ∨ (mb s).testBit x = true
  card : card u.must = nv T - s.depth

end Ddo.Examples.SopModel
