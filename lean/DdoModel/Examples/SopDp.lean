import DdoModel.Dp
import DdoModel.Examples.Util
import DdoModel.Examples.Sop
/-! The DP model, relaxation, ranking and width heuristic of the shipped sop example
    (`ddo/examples/sop/{state,model,relax,heuristics,io_utils}.rs`, sequential ordering problem) in Lean: definitions only (the
    driver engine `exmodel`, family `sop`, compares them pointwise with the example's own code, compiled into the harness;
    statements about them are in `SopModel.lean`).

Mirror of the Rust code (MINIMISATION: the costs are negated distances; `isize` arithmetic with overflow checks, as the
debug profile: `none` = a panic).  A set of jobs (`Set256`) is a `Nat` bit mask; its iteration order is increasing.
* `io_utils.rs`: `read_instance` builds the `n × n` matrix `distances` as written in the file and, for every row `i`,
  `predecessors[i]` = the set of columns `j` with `distances[i][j] = -1` ("`j` before `i`"), `n_predecessors[i]` its size;
* `model.rs`: `Sop::new` precomputes `cheapest_edges[i]` = the pairs `(distances[j][i], j)`, `j ≠ i`, `distances[j][i] ≠ -1`,
  sorted increasingly (lexicographic order of the pairs); the root is `(Job 0, {1 … n-1}, None, 0)`, `initial_value = 0`,
  `nb_variables = n - 1` (`usize` underflow when `n = 0`: a panic); `next_variable(depth) = depth` while `depth < nb_variables`;
  `for_each_in_domain`: when `state.depth = nb_variables - 1` (underflow when `n = 1`) the only value is `n - 1`, whatever
  the state; otherwise the jobs of `must_schedule` that `can_schedule`, then those of `maybe_schedule` (when `Some`);
  `can_schedule(s, j)` (REPAIRED, finding D12): no predecessor of `j` belongs to `must_schedule` and — on a state that has a
  `maybe_schedule` set — `|must_schedule| + |maybe_schedule \ predecessors[j]| ≥ nb_variables - depth` (saturating): enough
  optional jobs that are no predecessors of `j` remain to fill the positions left, i.e. ONE of the exact states the merged
  state stands for allows `j` (`canSchedule?`).  Before the repair (`canScheduleOld?`): NO predecessor of `j` belongs to
  `must_schedule ∪ maybe_schedule` — on a merged state this demanded that every predecessor be scheduled in ALL merged
  states, completions of merged-away states were lost (witness `SopModel.d12_refutes_MergeOkStmt`);
  `transition(s, j)` (REPAIRED): `(Job j, must \ {j}, maybe.map (\ {j} \ predecessors[j]), depth + 1)` — a job that was allowed
  has all its predecessors scheduled in the exact states that allowed it, so none of them "may still be to schedule"; this
  keeps the invariant the other functions rely on: every job still (possibly) to schedule can follow one of the previous
  jobs (`j ≥ 256`: index out of range in the bit set; `maybe_schedule = Some _` and `j ≥ n`: index out of range in
  `predecessors`).  Before the repair (`transOld?`): `maybe.map (\ {j})`;
  `transition_cost = - min_distance_to(s, j)`; `min_distance_to`: from `Job i`: `isize::MAX` when `distances[i][j] = -1`, else
  the distance; from `Virtual P`: the least `distances[i][j] ≠ -1` over `i ∈ P` (none: `isize::MAX` as well — REPAIRED, an
  `unwrap` of `None` before);
* `relax.rs`: `merge` = `(Virtual (∪ previous), ∩ must, (∪ maybe ∪ ∪ must) \ ∩ must  — None when empty —, max depth)`; no
  state at all: `(Virtual ∅, the full set of 256 jobs, None, 0)`; `relax` = the cost, unchanged;
  `fast_upper_bound`: see `rub?` (cheapest incoming edge of every job still to do, from a job still to do; the
  `complete_tour - 1` cheapest of them, the cheaper of the two mandatory / optional selections, `rubFinalFixed`, finding D19;
  plus the least distance from the current position, by a SATURATING addition — REPAIRED with D12: `isize::MAX`, "no job can
  follow the current position", no longer overflows);
* `heuristics.rs`: `SopRanking::compare` compares the depths; `SopWidth::max_width = nb_vars * (depth + 1) * factor` (the depth
  of the SUB-PROBLEM). -/
namespace Ddo.Examples.SopModel
open Ddo Ddo.Examples Ddo.Examples.Util

/-- `isize::MAX`, `isize::MIN` -/
def imax : Int := 9223372036854775807
def imin : Int := -9223372036854775808
/-- the result of an `isize` operation with overflow checks: `none` = a panic -/
def chk (x : Int) : Option Int := if imin ≤ x ∧ x ≤ imax then some x else none
/-- `a + b` on `isize` -/
def addC (a b : Int) : Option Int := chk (a + b)
/-- `a.saturating_add(b)` on `isize` -/
def satAdd (a b : Int) : Int := max imin (min imax (a + b))

-- ------------------------------------------------------------------------------------------------ bit sets (`Set256`)
/-- the members of a set, increasingly (`Set256::iter`) -/
def bits (m : Nat) : List Nat := (List.range (m.log2 + 1)).filter m.testBit
def has (m x : Nat) : Bool := m.testBit x
def single (x : Nat) : Nat := 1 <<< x
def diff (a b : Nat) : Nat := a ^^^ (a &&& b)
def card (m : Nat) : Nat := (bits m).length
def ofList (xs : List Nat) : Nat := xs.foldl (fun m x => m ||| single x) 0
/-- `BitSet::default().flip()`: all the 256 jobs a `Set256` can hold -/
def full256 : Nat := 2 ^ 256 - 1

inductive Prev where
  | job (i : Nat)
  | virt (s : Nat)
deriving DecidableEq, Repr

structure St where
  prev : Prev
  must : Nat
  maybe : Option Nat
  depth : Nat
deriving DecidableEq, Repr

/-- insertion sort of pairs, lexicographic order (what `sort_unstable` computes on tuples: the order is total) -/
def pairLe (a b : Int × Nat) : Bool := a.1 < b.1 || (a.1 == b.1 && a.2 ≤ b.2)
def insPair (x : Int × Nat) : List (Int × Nat) → List (Int × Nat)
  | [] => [x]
  | y :: ys => if pairLe x y then x :: y :: ys else y :: insPair x ys
def sortPairs (l : List (Int × Nat)) : List (Int × Nat) := l.foldr insPair []
def insInt (x : Int) : List Int → List Int
  | [] => [x]
  | y :: ys => if x ≤ y then x :: y :: ys else y :: insInt x ys
def sortInts (l : List Int) : List Int := l.foldr insInt []

/-- what the model functions need: the `SopInstance` built by the reader and the table of `Sop::new` -/
structure Tab where
  n : Nat
  d : Array (Array Int)
  pred : Array Nat
  cheap : Array (List (Int × Nat))

/-- `read_instance`: the predecessors of job `i` are the columns of row `i` that hold `-1` -/
def predOfRow (row : List Int) : Nat :=
  ofList ((List.range row.length).filter fun j => row.getD j 0 == -1)

/-- `Sop::compute_cheapest_edges` -/
def cheapOf (n : Nat) (d : Array (Array Int)) (i : Nat) : List (Int × Nat) :=
  sortPairs ((List.range n).filterMap fun j =>
    let w := (d.getD j #[]).getD i 0
    if i == j || w == -1 then none else some (w, j))

def tabOf (n : Nat) (rows : List (List Int)) : Tab :=
  let d := (rows.map List.toArray).toArray
  { n := n, d := d, pred := (rows.map predOfRow).toArray, cheap := ((List.range n).map (cheapOf n d)).toArray }

variable (T : Tab)

/-- `nb_variables`; `none` = a panic (`0 - 1` on `usize`) -/
def nbVars? : Option Nat := if T.n = 0 then none else some (T.n - 1)
def nv : Nat := T.n - 1

def initSt : St := { prev := .job 0, must := ofList ((List.range T.n).drop 1), maybe := none, depth := 0 }

def nextVar (depth : Nat) : Option Nat := if depth < nv T then some depth else none

/-- `distances[i][j]`; `none` = index out of range -/
def dist? (i j : Nat) : Option Int := do let r ← T.d[i]?; r[j]?

/-- `Sop::min_distance_to`; `none` = a panic (index out of range).  From a pool of previous jobs none of which can precede
    `j` the answer is `isize::MAX` (the repaired code: `unwrap_or(isize::MAX)`; an `unwrap` of `None` before) -/
def minDist? (s : St) (j : Nat) : Option Int :=
  match s.prev with
  | .job i => do let w ← dist? T i j; pure (if w = -1 then imax else w)
  | .virt c => do
    let ws ← (bits c).mapM fun i => dist? T i j
    pure ((minOf (ws.filter (· ≠ -1))).getD imax)

/-- everything that may still have to be scheduled -/
def pending (s : St) : Nat := s.must ||| s.maybe.getD 0

/-- `Sop::can_schedule` BEFORE the repair of D12 (kept for the record and for the witness theorems of `SopModel.lean`): no
    predecessor of `j` in `must_schedule ∪ maybe_schedule`; `none` = a panic (`predecessors[j]` out of range) -/
def canScheduleOld? (s : St) (j : Nat) : Option Bool := do
  let p ← T.pred[j]?
  pure ((p &&& pending s) == 0)
def canScheduleOld (s : St) (j : Nat) : Bool := (canScheduleOld? T s j).getD false

/-- `Sop::can_schedule` (the REPAIRED code): no predecessor of `j` in `must_schedule` and, when there is a `maybe_schedule` set,
    enough optional jobs that are no predecessors of `j` to fill the positions left
    (`nb_variables().saturating_sub(depth)`); `none` = a panic (`predecessors[j]` out of range) -/
def canSchedule? (s : St) (j : Nat) : Option Bool := do
  let p ← T.pred[j]?
  if (p &&& s.must) != 0 then pure false else
  match s.maybe with
  | none => pure true
  | some y => pure (decide (card s.must + card (diff y p) ≥ nv T - s.depth))

def schedulableWith? (can : St → Nat → Option Bool) (s : St) (js : List Nat) : Option (List Nat) := do
  let fl ← js.mapM fun j => (can s j).map fun b => (j, b)
  pure ((fl.filter (·.2)).map (·.1))

/-- `for_each_in_domain` (the variable is not read) with `can` for `can_schedule`; `none` = a panic -/
def domainWith? (can : St → Nat → Option Bool) (s : St) : Option (List Int) :=
  if T.n ≤ 1 then none else
  if s.depth = T.n - 2 then some [((T.n - 1 : Nat) : Int)] else do
    let a ← schedulableWith? can s (bits s.must)
    let b ← match s.maybe with
      | none => pure []
      | some y => schedulableWith? can s (bits y)
    pure ((a ++ b).map fun (j : Nat) => (j : Int))

/-- `for_each_in_domain` of the repaired code -/
def domain? (s : St) : Option (List Int) := domainWith? T (canSchedule? T) s
/-- `for_each_in_domain` before the repair of D12 -/
def domainOld? (s : St) : Option (List Int) := domainWith? T (canScheduleOld? T) s

/-- `transition` BEFORE the repair of D12: the predecessors of the job decided stay in `maybe_schedule` -/
def transOld? (s : St) (d : Dec) : Option St :=
  if d.val < 0 ∨ d.val ≥ 256 then none else
  let j := d.val.toNat
  some { prev := .job j, must := diff s.must (single j), maybe := s.maybe.map fun y => diff y (single j), depth := s.depth + 1 }

/-- `transition` (the REPAIRED code: the predecessors of the job decided leave `maybe_schedule`); `none` = a panic (`Set256`
    holds the jobs `0 … 255`; a negative value is a huge `usize`; `predecessors[j]` is read when there is a `maybe_schedule` set) -/
def trans? (s : St) (d : Dec) : Option St :=
  if d.val < 0 ∨ d.val ≥ 256 then none else
  let j := d.val.toNat
  match s.maybe with
  | none => some { prev := .job j, must := diff s.must (single j), maybe := none, depth := s.depth + 1 }
  | some y => do
    let p ← T.pred[j]?
    pure { prev := .job j, must := diff s.must (single j), maybe := some (diff (diff y (single j)) p), depth := s.depth + 1 }

/-- `transition_cost`; `none` = a panic.  A negative value is a huge `usize`: every `distances[i][j]` read is out of range —
    and from an EMPTY pool of previous jobs nothing is read: the distance is `isize::MAX` as for any job -/
def cost? (s : St) (d : Dec) : Option Int :=
  if d.val < 0 then
    (match s.prev with
     | .virt c => if (bits c).isEmpty then chk (-imax) else none
     | .job _ => none)
  else do
  let w ← minDist? T s d.val.toNat
  chk (-w)

def domain (s : St) : List Int := (domain? T s).getD []
def domainOld (s : St) : List Int := (domainOld? T s).getD []
def trans (s : St) (d : Dec) : St := (trans? T s d).getD s
def cost (s : St) (d : Dec) : Int := (cost? T s d).getD 0

def problem : Problem St :=
  { nbVars := nv T
    init := initSt T
    initVal := 0
    trans := trans T
    cost := fun s _ d => cost T s d
    nextVar := fun depth _ => nextVar T depth
    domain := fun _ s => domain T s
    impacted := fun _ _ => true }

/-- `SopRelax::merge` (never panics on jobs below 256) -/
def merge (X : List St) : St :=
  let depth := X.foldl (fun a s => max a s.depth) 0
  let prev := X.foldl (fun a s => match s.prev with | .job x => a ||| single x | .virt xs => a ||| xs) 0
  let agree := X.foldl (fun a s => a &&& s.must) full256
  let allMust := X.foldl (fun a s => a ||| s.must) 0
  let allMaybe := X.foldl (fun a s => a ||| s.maybe.getD 0) 0
  let maybe := diff (allMaybe ||| allMust) agree
  { prev := .virt prev, must := agree, maybe := if maybe = 0 then none else some maybe, depth := depth }

/-- `SopRelax::relax` -/
def relaxCost (c : Int) : Int := c

/-- the first entry of `cheapest_edges[i]` whose origin satisfies `p` -/
def firstEdge (p : Nat → Bool) : List (Int × Nat) → Option Int
  | [] => none
  | (c, j) :: r => if p j then some c else firstEdge p r

/-- least of `acc` and the distances from the position to the jobs `js` (in order) -/
def minDistAll? (s : St) (acc : Int) (js : List Nat) : Option Int :=
  js.foldlM (fun a i => (minDist? T s i).map fun w => min a w) acc

/-- the last lines of `fast_upper_bound`: which cheapest edges are summed (`ct` = the number of jobs still to place) -/
def rubFinal (ct nMust : Nat) (dist : Int) (toMust toMaybe : List Int) : Option Int :=
  if nMust ≥ ct then
    (if ct = 0 then none else (addC dist (sum (toMust.take (ct - 1)))).bind fun a => chk (-a))
  else if toMust.isEmpty then
    (addC dist (sum (toMaybe.take (ct - 1)))).bind fun a => chk (-a)
  else
    match toMust.getLast?, toMaybe.head? with
    | some last, some first =>
      if last ≤ first then
        (if ct - 1 < toMust.length then none else
         (addC dist (sum toMust)).bind fun a =>
           (addC a (sum (toMaybe.take (ct - 1 - toMust.length)))).bind fun b => chk (-b))
      else
        (if ct < toMust.length then none else
         (addC dist (sum (toMust.take (toMust.length - 1)))).bind fun a =>
           (addC a (sum (toMaybe.take (ct - toMust.length)))).bind fun b => chk (-b))
    | _, _ => none

/-- is job `j` still (possibly) to be scheduled -/
def inPending (s : St) (j : Nat) : Bool :=
  has s.must j || (match s.maybe with | some y => has y j | none => false)

/-- the last lines of the bound CORRECTED for D19 (the selection of the repaired code; also used to classify a violation of
    `RubOk`, `rubOptionalEdgeAt`).  The third and fourth branches of the code as first shipped (`rubFinal`) choose between
    `A` = all mandatory edges but the largest + `k` optional ones and `B` = all mandatory edges
    + `k - 1` optional ones (`k = ct - |toMust|`) by comparing the largest mandatory edge with the FIRST optional edge; the
    sound choice is the lesser of the two sums: a completion places `ct` jobs, its `ct - 1` inner arcs enter distinct jobs —
    all of them but the first one — and each costs at least the cheapest edge entering its head from a job still to do; the
    first job is either mandatory (then the other mandatory jobs and `k` optional ones are entered: at least `A`) or optional
    (all the mandatory jobs and `k - 1` optional ones: at least `B`).  The other branches are those of `rubFinal`. -/
def rubFinalFixed (ct nMust : Nat) (dist : Int) (toMust toMaybe : List Int) : Option Int :=
  if nMust ≥ ct then
    (if ct = 0 then none else (addC dist (sum (toMust.take (ct - 1)))).bind fun a => chk (-a))
  else if toMust.isEmpty then
    (addC dist (sum (toMaybe.take (ct - 1)))).bind fun a => chk (-a)
  else
    let k := ct - toMust.length
    let a := sum (toMust.take (toMust.length - 1)) + sum (toMaybe.take k)
    let b := sum toMust + sum (toMaybe.take (k - 1))
    (addC dist (min a b)).bind fun x => chk (-x)

/-- the last lines of the REPAIRED `fast_upper_bound` (D12): `rubFinalFixed` with the distance from the position added by
    `saturating_add` (`isize::MAX` = no job can follow the position: the sum stays `isize::MAX`, the bound is `-isize::MAX`);
    the same value as `rubFinalFixed` wherever that one does not overflow (`SopModel.rubFinalSat_eq_of_some`) -/
def rubFinalSat (ct nMust : Nat) (dist : Int) (toMust toMaybe : List Int) : Option Int :=
  if nMust ≥ ct then
    (if ct = 0 then none else chk (-(satAdd dist (sum (toMust.take (ct - 1))))))
  else if toMust.isEmpty then
    chk (-(satAdd dist (sum (toMaybe.take (ct - 1)))))
  else
    let k := ct - toMust.length
    let a := sum (toMust.take (toMust.length - 1)) + sum (toMaybe.take k)
    let b := sum toMust + sum (toMaybe.take (k - 1))
    chk (-(satAdd dist (min a b)))

/-- `fast_upper_bound` up to its last lines (`fin`); `none` = a panic (`usize` underflow, index out of range, `isize`
    overflow) -/
def rubWith? (fin : Nat → Nat → Int → List Int → List Int → Option Int) (s : St) : Option Int := do
  let nbv ← nbVars? T
  let ct ← (if s.depth > nbv then none else some (nbv - s.depth))
  let must := bits s.must
  let nMust := must.length
  let rowsMust ← must.mapM fun i => T.cheap[i]?
  let toMust := sortInts (rowsMust.filterMap (firstEdge (inPending s)))
  let dist ← minDistAll? T s imax must
  let useMaybe := decide (nMust < ct) && s.maybe.isSome
  let maybes := if useMaybe then bits (s.maybe.getD 0) else []
  let rowsMaybe ← maybes.mapM fun i => T.cheap[i]?
  let toMaybe := sortInts (rowsMaybe.filterMap (firstEdge (inPending s)))
  let dist2 ← minDistAll? T s dist maybes
  fin ct nMust dist2 toMust toMaybe

/-- `fast_upper_bound` as first shipped (before D19) -/
def rubOld? (s : St) : Option Int := rubWith? T rubFinal s
/-- the bound corrected for D19 (`rubFinalFixed`), checked additions: the code between the repairs of D19 and D12 -/
def rubFixed? (s : St) : Option Int := rubWith? T rubFinalFixed s
/-- `fast_upper_bound` of the REPAIRED code: the mixed branch keeps the lesser of the two edge selections (finding D19;
    `rubOld?` above is the bound as shipped before: it compared the largest mandatory edge with the FIRST optional edge, witness
    `SopModel.rub_refutes_RubAdmissibleStmt`) and the distance from the position is added by `saturating_add` (finding D12) -/
def rub? (s : St) : Option Int := rubWith? T rubFinalSat s

def relaxation : Relax St :=
  { merge := merge
    relax := fun _ _ _ _ c => relaxCost c
    rub := fun s => (rub? T s).getD 0 }

/-- `SopRanking::compare` -/
def rankCmp (a b : St) : Ordering := compare a.depth b.depth

/-- `SopWidth::max_width` on a sub-problem of depth `depth` -/
def maxWidth (nbVars factor depth : Nat) : Nat := nbVars * (depth + 1) * factor

-- ------------------------------------------------------------------------------------------------------------------
-- what the driver evaluates pointwise (exhaustive enumeration over the remaining jobs with the model's own functions)

/-- the domain with `can_schedule` weakened to "no predecessor MUST still be scheduled" and nothing else (the first reading
    of the repair of D12, without the count of the optional jobs): only kept for the witness theorems of `SopModel.lean` -/
def domainLax (s : St) : List Int :=
  if T.n ≤ 1 then [] else
  if s.depth = T.n - 2 then [((T.n - 1 : Nat) : Int)] else
  ((bits (pending s)).filter fun j => ((T.pred.getD j 0) &&& s.must) == 0).map fun (j : Nat) => (j : Int)

/-- which DP the value-to-go is taken in: `code` = the repaired code (`domain`, `trans?`); `old` = before the repair of D12
    (`domainOld`, `transOld?`); `lax` = `domainLax`, `transOld?`, a panicking cost read as `-isize::MAX` -/
inductive Mode where
  | code | old | lax
deriving DecidableEq, Repr

/-- the value-to-go of `s`: the best total transition cost over ALL completions of `s` (every sequence of decisions on the
    variables `s.depth, …, nv-1`, each in the domain of the state reached); `none` = −∞ (no completion).  `fuel ≥ nv - s.depth`. -/
def bestRemF (mode : Mode) : Nat → St → EInt
  | 0, _ => some 0
  | fuel + 1, s =>
    if s.depth ≥ nv T then some 0 else
    let x := s.depth
    (match mode with | .code => domain T s | .old => domainOld T s | .lax => domainLax T s).foldl (fun acc v =>
      match (match mode with | .code => trans? T s ⟨x, v⟩ | _ => transOld? s ⟨x, v⟩), cost? T s ⟨x, v⟩ with
      | some s2, some c => EInt.max acc ((bestRemF mode fuel s2).addI c)
      | some s2, none => if mode = Mode.lax then EInt.max acc ((bestRemF mode fuel s2).addI (-imax)) else acc
      | _, _ => acc) none
/-- the value-to-go in the DP of the repaired code -/
def bestRem (s : St) : EInt := bestRemF T .code (nv T - s.depth) s
/-- the value-to-go in the DP before the repair of D12 -/
def bestRemOld (s : St) : EInt := bestRemF T .old (nv T - s.depth) s
def bestRemLax (s : St) : EInt := bestRemF T .lax (nv T - s.depth) s

/-- the states the pointwise statements are about: jobs of the instance only, job 0 done, not deeper than the last
    layer, the last job still to do before the last layer, a non-empty pool of previous jobs none of which is still to do
    for sure, `must` and `maybe` disjoint, and enough — but not too many mandatory — jobs left to fill the remaining positions -/
def validB (s : St) : Bool :=
  let all := ofList ((List.range T.n).drop 1)
  let y := s.maybe.getD 0
  decide (s.depth ≤ nv T) && diff (s.must ||| y) all == 0 && (s.must &&& y) == 0 &&
  (match s.prev with
   | .job i => decide (i < T.n) && !has (s.must ||| y) i
   | .virt c => c != 0 && diff c (all ||| 1) == 0 && (c &&& s.must) == 0) &&
  (decide (s.depth = nv T) || has s.must (T.n - 1)) &&
  decide (card s.must ≤ nv T - s.depth) && decide (nv T - s.depth ≤ card (s.must ||| y))

/-- the exact states a (merged) state stands for: one of the previous jobs, all the mandatory jobs and as many of the
    optional ones as there are positions left (an exact state stands for itself) -/
def concretize (s : St) : List St :=
  let ct := nv T - s.depth
  let prevs := match s.prev with | .job i => [i] | .virt c => bits c
  let ys := (sublists (bits (s.maybe.getD 0))).filter fun Y => Y.length == ct - card s.must
  prevs.flatMap fun p => ys.filterMap fun Y =>
    let U := s.must ||| ofList Y
    if has U p then none else some { prev := .job p, must := U, maybe := none, depth := s.depth }

/-- the best value-to-go among the exact states `s` stands for -/
def bestRemConc (s : St) : EInt := (concretize T s).foldl (fun acc u => EInt.max acc (bestRem T u)) none

/-- `RubOk` at one state: the bound `r` claimed for `s` dominates the value-to-go of every exact state `s` stands for
    (for an exact state: its own value-to-go) -/
def rubOkAt (s : St) (r : Int) : Bool := decide (bestRemConc T s ≤ some r)
/-- the stronger reading — `r` dominates the value-to-go of `s` in the relaxed DP itself, whose completions from a merged
    state may leave mandatory jobs out (nothing counts them: on the last variable the domain is the last job, whatever
    `must_schedule` holds) — is NOT what the bound computes; where it fails is only counted (`rub-vs-relaxed-dp`) -/
def rubOkRelaxedDpAt (s : St) (r : Int) : Bool := decide (bestRem T s ≤ some r)
/-- a violation of `rubOkAt` by the bound `r` is of the class `sop-rub-optional-edge` when `r` is exactly what the modelled
    formula `rubOld?` gives (so the only possible cause is the one line in which `rubOld?` and `rubFixed?` differ: the choice between
    the mandatory and the optional edges) and the corrected bound `rubFixed?` is admissible at `s`; a bound that is NOT the
    modelled one (a changed `fast_upper_bound`) is never excused -/
def rubOptionalEdgeAt (s : St) (r : Int) : Bool :=
  rubOld? T s == some r &&
  (match rubFixed? T s with
   | some rf => rubOkAt T s rf
   | none => false)

/-- `MergeOk` (potential form, `Wf.lean`) at one merged-away state `u`, merged state `m`, arc cost `c` relaxed to `r`:
    if `u` has a completion worth `h` then `m` has one worth `h'` with `c + h ≤ r + h'` (`H` = the value-to-go `hm` of `m`) -/
def mergeOkWith (hu hm : EInt) (c r : Int) : Bool :=
  match hu with
  | none => true
  | some h =>
    match hm with
    | none => false
    | some h' => decide (c + h ≤ r + h')
def mergeOkAt (u m : St) (c r : Int) : Bool := mergeOkWith (bestRem T u) (bestRem T m) c r
/-- the same in the DP before the repair of D12 (`canScheduleOld?`, `transOld?`): REFUTED, `SopModel.d12_refutes_MergeOkStmt` -/
def mergeOkOldAt (u m : St) (c r : Int) : Bool := mergeOkWith (bestRemOld T u) (bestRemOld T m) c r
/-- the old DP with `can_schedule` merely weakened to the mandatory jobs in the merged state (`domainLax`) -/
def mergeOkLaxAt (u m : St) (c r : Int) : Bool := mergeOkWith (bestRemOld T u) (bestRemLax T m) c r

-- ------------------------------------------------------------------------------------------------------------------
-- the independent specification (`Sop.lean`)

/-- the distance function the specification reads -/
def dfun (i j : Nat) : Int := (T.d.getD i #[]).getD j 0

/-- the sequences the specification `Sop.spec` enumerates -/
def specSeqs (n : Nat) : List (List Nat) :=
  if n = 1 then [[0]]
  else (Sop.perms ((List.range (n - 1)).drop 1)).map (fun p => 0 :: p ++ [n - 1])

/-- the specification's least cost among the sequences that start with job `0` followed by the decisions `decs`; `none` =
    no such sequence respects the precedences; with no decision at all this is `Sop.spec` (`SopModel.spec_eq_specBestIn`) -/
def specBestIn (seqs : List (List Nat)) (d : Nat → Nat → Int) (decs : List Nat) : Option Int :=
  Sop.minimum (((seqs.filter fun q => (0 :: decs).isPrefixOf q).filter (Sop.respects d)).map (Sop.cost d))

/-- in the domain of the format (TSPLIB conventions): a square matrix, a zero diagonal, job 0 before every job, every job
    before the last one, every other entry a distance `≥ 0` or a precedence mark `-1` among the inner jobs -/
def inDomain (n : Nat) (rows : List (List Int)) : Bool :=
  decide (1 ≤ n) && rows.length == n && rows.all (fun r => r.length == n) &&
  ((List.range n).all fun i => (List.range n).all fun j =>
    let w := (rows.getD i []).getD j 0
    if i == j then w == 0
    else if j == 0 then w == -1
    else if i == n - 1 then w == -1
    else if i == 0 || j == n - 1 then decide (0 ≤ w)
    else decide (-1 ≤ w))

end Ddo.Examples.SopModel
