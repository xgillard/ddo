import DdoModel.Examples.Max2satModel
/-! max2sat example: the tables `Max2Sat::new` builds from an instance and the clause map they are built from.  The `(2n)²` table read
    at `offset (a, b)` is the weight the clause map gives to the clause `{a, b}` (`wOf_weights`: `offset` is injective on the
    canonical pairs of valid literals); hence `tabOkOfInst`: the hypotheses `TabOk` of `rub_admissible` / `merge_ok` hold for the
    table built from any instance with valid literals whose `order` is a permutation of the variables. -/
namespace Ddo.Examples.Max2satModel
open Ddo Ddo.Examples Ddo.Examples.Util Ddo.SpecUtil

def LitOk (n : Nat) (x : Int) : Prop := x ≠ 0 ∧ x.natAbs ≤ n

/-- the hypothesis of `DpExactStmt` / `TabOkOfInst`, folded -/
def InstOk (I : Inst) : Prop := ∀ c ∈ I.clauses, LitOk I.n c.2.1 ∧ LitOk I.n c.2.2

theorem instOk_iff (I : Inst) :
    InstOk I ↔ ∀ c ∈ I.clauses, c.2.1 ≠ 0 ∧ c.2.1.natAbs ≤ I.n ∧ c.2.2 ≠ 0 ∧ c.2.2.natAbs ≤ I.n := by
  unfold InstOk LitOk
  constructor
  · intro h c hc; obtain ⟨⟨h1, h2⟩, h3, h4⟩ := h c hc; exact ⟨h1, h2, h3, h4⟩
  · intro h c hc; obtain ⟨h1, h2, h3, h4⟩ := h c hc; exact ⟨⟨h1, h2⟩, h3, h4⟩

/-- the weight the clause map gives to a key (`0` when absent) -/
def lookupC (m : CMap) (k : Int × Int) : Int := ((m.find? (fun e => e.1 == k)).map (·.2)).getD 0

theorem insertClause_keys (m : CMap) (k : Int × Int) (w : Int) :
    (insertClause m k w).map (·.1) = if k ∈ m.map (·.1) then m.map (·.1) else m.map (·.1) ++ [k] := by
  unfold insertClause
  by_cases hk : k ∈ m.map (·.1)
  · have hany : m.any (fun e => e.1 == k) = true := by
      obtain ⟨e, he, rfl⟩ := List.mem_map.1 hk
      exact List.any_eq_true.2 ⟨e, he, by simp⟩
    rw [if_pos hany, if_pos hk, List.map_map]
    apply List.map_congr_left
    intro e _
    by_cases h : e.1 = k
    · simp [h]
    · simp [h]
  · have hany : ¬ m.any (fun e => e.1 == k) = true := by
      intro h
      obtain ⟨e, he, hek⟩ := List.any_eq_true.1 h
      exact hk (List.mem_map.2 ⟨e, he, by simpa using hek⟩)
    rw [if_neg hany, if_neg hk]
    simp

theorem insertClause_nodup (m : CMap) (k : Int × Int) (w : Int) (h : (m.map (·.1)).Nodup) :
    ((insertClause m k w).map (·.1)).Nodup := by
  rw [insertClause_keys]
  split
  · exact h
  · rename_i hk
    rw [List.nodup_append]
    refine ⟨h, by simp, ?_⟩
    intro a ha b hb
    simp at hb
    subst hb
    intro hab; subst hab; exact hk ha

theorem foldl_insert_inv (P : CMap → Prop) (f : (Int × Int × Int) → (Int × Int) × Int)
    (hstep : ∀ m c, P m → P (insertClause m (f c).1 (f c).2)) :
    ∀ (cs : List (Int × Int × Int)) (m : CMap), P m →
      P (cs.foldl (fun m c => insertClause m (f c).1 (f c).2) m) := by
  intro cs
  induction cs with
  | nil => intro m h; exact h
  | cons c cs ih => intro m h; exact ih _ (hstep m c h)

/-- `insert` replaces -/
theorem cmap_keys_nodup (I : Inst) : (I.cmap.map (·.1)).Nodup := by
  unfold Inst.cmap
  exact foldl_insert_inv (fun m => (m.map (·.1)).Nodup) (fun c => ((min c.2.1 c.2.2, max c.2.1 c.2.2), c.1))
    (fun m c h => insertClause_nodup m _ _ h) I.clauses [] (by simp)

theorem mem_insertClause {m : CMap} {k : Int × Int} {w : Int} {e : (Int × Int) × Int}
    (he : e ∈ insertClause m k w) : e = (k, w) ∨ e ∈ m := by
  unfold insertClause at he
  split at he
  · obtain ⟨e', he', h⟩ := List.mem_map.mp he
    split at h
    · exact Or.inl h.symm
    · exact Or.inr (h ▸ he')
  · rcases List.mem_append.mp he with h | h
    · exact Or.inr h
    · exact Or.inl (List.mem_singleton.mp h)

theorem mem_cmap (I : Inst) {e : (Int × Int) × Int} (he : e ∈ I.cmap) :
    ∃ c ∈ I.clauses, e = ((min c.2.1 c.2.2, max c.2.1 c.2.2), c.1) := by
  have : ∀ (cs : List (Int × Int × Int)) (m : CMap),
      e ∈ cs.foldl (fun m c => insertClause m (min c.2.1 c.2.2, max c.2.1 c.2.2) c.1) m →
      e ∈ m ∨ ∃ c ∈ cs, e = ((min c.2.1 c.2.2, max c.2.1 c.2.2), c.1) := by
    intro cs
    induction cs with
    | nil => exact fun m h => Or.inl h
    | cons c cs ih =>
      intro m h
      rcases ih _ h with h | ⟨c', hc', h⟩
      · rcases mem_insertClause h with h | h
        · exact Or.inr ⟨c, List.mem_cons_self .., h⟩
        · exact Or.inl h
      · exact Or.inr ⟨c', List.mem_cons_of_mem _ hc', h⟩
  rcases this I.clauses [] he with h | h
  · cases h
  · exact h

theorem litOk_min {n : Nat} {a b : Int} (ha : LitOk n a) (hb : LitOk n b) : LitOk n (min a b) := by
  rcases Int.le_total a b with hle | hle
  · rw [Int.min_eq_left hle]; exact ha
  · rw [Int.min_eq_right hle]; exact hb

theorem litOk_max {n : Nat} {a b : Int} (ha : LitOk n a) (hb : LitOk n b) : LitOk n (max a b) := by
  rcases Int.le_total a b with hle | hle
  · rw [Int.max_eq_right hle]; exact hb
  · rw [Int.max_eq_left hle]; exact ha

theorem cmap_key_ok (I : Inst) (h : InstOk I) : ∀ e ∈ I.cmap, e.1.1 ≤ e.1.2 ∧ LitOk I.n e.1.1 ∧ LitOk I.n e.1.2 := by
  intro e he
  obtain ⟨c, hc, rfl⟩ := mem_cmap I he
  obtain ⟨h1, h2⟩ := h c hc
  exact ⟨by dsimp only; omega, litOk_min h1 h2, litOk_max h1 h2⟩

theorem lookupC_nil (k : Int × Int) : lookupC [] k = 0 := rfl

theorem lookupC_cons (e : (Int × Int) × Int) (m : CMap) (k : Int × Int) :
    lookupC (e :: m) k = if e.1 = k then e.2 else lookupC m k := by
  unfold lookupC
  rw [List.find?_cons]
  by_cases h : e.1 = k
  · simp [h]
  · have h' : (e.1 == k) = false := by simpa using h
    simp [h', h]

theorem lookupC_absent (m : CMap) (k : Int × Int) (h : k ∉ m.map (·.1)) : lookupC m k = 0 := by
  unfold lookupC
  have : m.find? (fun e => e.1 == k) = none := by
    rw [List.find?_eq_none]
    intro e he hek
    exact h (List.mem_map.2 ⟨e, he, by simpa using hek⟩)
  rw [this]; rfl

/-- a table filled at pairwise distinct indices reads, at the index of a key, the value of this key -/
theorem foldl_set_getD (f : Int × Int → Nat) (k : Int × Int) :
    ∀ (m : CMap) (t0 : Array Int), (m.map (·.1)).Nodup → (∀ e ∈ m, f e.1 = f k → e.1 = k) → f k < t0.size →
      (m.foldl (fun t e => t.setIfInBounds (f e.1) e.2) t0).getD (f k) 0
        = if k ∈ m.map (·.1) then lookupC m k else t0.getD (f k) 0 := by
  intro m
  induction m with
  | nil => intro t0 _ _ _; simp
  | cons e m ih =>
    intro t0 hnd hinj hb
    rw [List.map_cons, List.nodup_cons] at hnd
    rw [List.foldl_cons, ih _ hnd.2 (fun e' he' => hinj e' (List.mem_cons_of_mem _ he'))
      (by rw [Array.size_setIfInBounds]; exact hb), lookupC_cons]
    by_cases hek : e.1 = k
    · have hk : k ∉ m.map (·.1) := hek ▸ hnd.1
      rw [if_neg hk, if_pos hek, if_pos (by rw [List.map_cons, ← hek]; exact List.mem_cons_self ..)]
      rw [Array.getD_eq_getD_getElem?, Array.getElem?_setIfInBounds, hek, if_pos rfl, if_pos hb]
      rfl
    · have hne : f e.1 ≠ f k := fun h => hek (hinj e (List.mem_cons_self ..) h)
      have hmem : (k ∈ (e :: m).map (·.1)) ↔ k ∈ m.map (·.1) := by
        rw [List.map_cons, List.mem_cons]
        constructor
        · rintro (h | h)
          · exact absurd h.symm hek
          · exact h
        · exact Or.inr
      rw [if_neg hek]
      have hget : (t0.setIfInBounds (f e.1) e.2).getD (f k) 0 = t0.getD (f k) 0 := by
        rw [Array.getD_eq_getD_getElem?, Array.getElem?_setIfInBounds, if_neg hne, ← Array.getD_eq_getD_getElem?]
      rw [hget]
      by_cases hk : k ∈ m.map (·.1)
      · rw [if_pos hk, if_pos (hmem.2 hk)]
      · rw [if_neg hk, if_neg (fun h => hk (hmem.1 h))]

theorem mkLit_lt {n : Nat} {x : Int} (h : LitOk n x) : mkLit x < 2 * n := by
  unfold LitOk at h; unfold mkLit
  split <;> omega

theorem mkLit_inj {x y : Int} (hx : x ≠ 0) (hy : y ≠ 0) (h : mkLit x = mkLit y) : x = y := by
  unfold mkLit at h
  split at h <;> split at h <;> omega

theorem pair_inj {N a b a' b' : Nat} (hb : b < N) (hb' : b' < N) (h : a * N + b = a' * N + b') :
    a = a' ∧ b = b' := by
  have h1 : b = b' := by
    have : (a * N + b) % N = (a' * N + b') % N := by rw [h]
    rw [Nat.add_comm, Nat.add_mul_mod_self_right, Nat.add_comm (a' * N), Nat.add_mul_mod_self_right,
      Nat.mod_eq_of_lt hb, Nat.mod_eq_of_lt hb'] at this
    exact this
  subst h1
  have h2 : a * N = a' * N := by omega
  exact ⟨Nat.eq_of_mul_eq_mul_right (by omega) h2, rfl⟩

theorem offset_le {n : Nat} {x y : Int} (h : x ≤ y) : offset n x y = mkLit x * (2 * n) + mkLit y := by
  unfold offset
  rw [Int.min_eq_left h, Int.max_eq_right h, Nat.mul_assoc]

theorem offset_minmax (n : Nat) (a b : Int) : offset n (min a b) (max a b) = offset n a b := by
  unfold offset
  have h1 : min (min a b) (max a b) = min a b := by omega
  have h2 : max (min a b) (max a b) = max a b := by omega
  rw [h1, h2]

theorem offset_lt {n : Nat} {x y : Int} (h : x ≤ y) (hx : LitOk n x) (hy : LitOk n y) :
    offset n x y < (2 * n) * (2 * n) := by
  rw [offset_le h]
  have h1 := mkLit_lt hx
  have h2 := mkLit_lt hy
  have h3 : (mkLit x + 1) * (2 * n) ≤ (2 * n) * (2 * n) := Nat.mul_le_mul_right _ h1
  rw [Nat.add_mul] at h3
  omega

theorem offset_inj {n : Nat} {x y x' y' : Int} (h : x ≤ y) (hx : LitOk n x) (hy : LitOk n y)
    (h' : x' ≤ y') (hx' : LitOk n x') (hy' : LitOk n y') (heq : offset n x y = offset n x' y') :
    x = x' ∧ y = y' := by
  rw [offset_le h, offset_le h'] at heq
  obtain ⟨h1, h2⟩ := pair_inj (mkLit_lt hy) (mkLit_lt hy') heq
  exact ⟨mkLit_inj hx.1 hx'.1 h1, mkLit_inj hy.1 hy'.1 h2⟩

theorem wOf_weights (I : Inst) (h : InstOk I) (a b : Int) (ha : LitOk I.n a) (hb : LitOk I.n b) :
    wOf I.n I.weights a b = lookupC I.cmap (min a b, max a b) := by
  have hle : min a b ≤ max a b := by omega
  have hmin := litOk_min ha hb
  have hmax := litOk_max ha hb
  have key := foldl_set_getD (fun k => offset I.n k.1 k.2) (min a b, max a b) I.cmap
    (Array.replicate ((2 * I.n) * (2 * I.n)) 0) (cmap_keys_nodup I)
    (by
      intro e he heq
      obtain ⟨h1, h2, h3⟩ := cmap_key_ok I h e he
      obtain ⟨e1, e2⟩ := offset_inj h1 h2 h3 hle hmin hmax heq
      exact Prod.ext e1 e2)
    (by rw [Array.size_replicate]; exact offset_lt hle hmin hmax)
  unfold wOf Inst.weights
  rw [← offset_minmax]
  refine key.trans ?_
  split
  · rfl
  · rename_i hk
    rw [lookupC_absent _ _ hk, Array.getD_eq_getD_getElem?, Array.getElem?_replicate]
    split <;> rfl

theorem sum_range_single (n v0 : Nat) (c : Int) :
    ((List.range n).map (fun v => if v = v0 then c else 0)).sum = if v0 < n then c else 0 := by
  induction n with
  | zero => simp
  | succ n ih =>
    rw [List.range_succ, List.map_append, List.sum_append, ih]
    simp only [List.map_cons, List.map_nil, List.sum_cons, List.sum_nil]
    by_cases h1 : v0 < n
    · rw [if_pos h1, if_neg (by omega), if_pos (by omega)]; omega
    · by_cases h2 : n = v0
      · rw [if_neg h1, if_pos h2, if_pos (by omega)]; omega
      · rw [if_neg h1, if_neg h2, if_neg (by omega)]; omega

theorem key_taut_iff {n : Nat} {k : Int × Int} (hle : k.1 ≤ k.2) (h2 : LitOk n k.2) (v : Nat) :
    k = (fLit v, tLit v) ↔ (k.1 = - k.2 ∧ v = idx k.2) := by
  obtain ⟨x, y⟩ := k
  unfold LitOk at h2
  simp only [Prod.mk.injEq, fLit, tLit, idx] at *
  omega

theorem initial_fold (n : Nat) :
    ∀ (m : CMap) (s0 : Int), (m.map (·.1)).Nodup → (∀ e ∈ m, e.1.1 ≤ e.1.2 ∧ LitOk n e.1.1 ∧ LitOk n e.1.2) →
      m.foldl (fun s e => if e.1.1 = - e.1.2 then s + e.2 else s) s0
        = s0 + ((List.range n).map (fun v => lookupC m (fLit v, tLit v))).sum := by
  intro m
  induction m with
  | nil => intro s0 _ _; simp [lookupC_nil, sum_map_zero]
  | cons e m ih =>
    intro s0 hnd hok
    rw [List.map_cons, List.nodup_cons] at hnd
    obtain ⟨hle, _, h2⟩ := hok e (List.mem_cons_self ..)
    rw [List.foldl_cons, ih _ hnd.2 (fun e' he' => hok e' (List.mem_cons_of_mem _ he'))]
    have hpt : ∀ v ∈ List.range n, lookupC (e :: m) (fLit v, tLit v)
        = (if v = idx e.1.2 then (if e.1.1 = - e.1.2 then e.2 else 0) else 0) + lookupC m (fLit v, tLit v) := by
      intro v _
      rw [lookupC_cons]
      by_cases hk : e.1 = (fLit v, tLit v)
      · have := (key_taut_iff hle h2 v).1 hk
        rw [if_pos hk, if_pos this.2, if_pos this.1, lookupC_absent _ _ (hk ▸ hnd.1)]; omega
      · rw [if_neg hk]
        by_cases hv : v = idx e.1.2
        · have ht : ¬ e.1.1 = - e.1.2 := fun ht => hk ((key_taut_iff hle h2 v).2 ⟨ht, hv⟩)
          rw [if_pos hv, if_neg ht]; omega
        · rw [if_neg hv]; omega
    rw [List.map_congr_left hpt, sum_map_add, sum_range_single]
    have hlt : idx e.1.2 < n := by
      unfold LitOk at h2; unfold idx; omega
    rw [if_pos hlt]
    split <;> omega

theorem initial_eq_lookup (I : Inst) (h : InstOk I) :
    I.initial = ((List.range I.n).map (fun v => lookupC I.cmap (fLit v, tLit v))).sum := by
  unfold Inst.initial
  rw [initial_fold I.n I.cmap 0 (cmap_keys_nodup I) (cmap_key_ok I h)]
  omega

theorem litOk_tLit {n v : Nat} (h : v < n) : LitOk n (tLit v) := by
  unfold LitOk tLit; omega

theorem litOk_fLit {n v : Nat} (h : v < n) : LitOk n (fLit v) := by
  unfold LitOk fLit; omega

theorem tabOkOfInst (I : Inst) : TabOkOfInst I := by
  intro hperm hlit
  have hok : InstOk I := (instOk_iff I).2 hlit
  refine ⟨hperm, ?_, rfl, rfl⟩
  show I.initial = tautSum I.tab I.order
  unfold tautSum
  rw [perm_range_sum hperm, sumRange, initial_eq_lookup I hok]
  congr 1
  apply List.map_congr_left
  intro v hv
  have hv' : v < I.n := List.mem_range.1 hv
  show _ = wOf I.n I.weights (tLit v) (fLit v)
  rw [wOf_weights I hok _ _ (litOk_tLit hv') (litOk_fLit hv')]
  have h1 : min (tLit v) (fLit v) = fLit v := by unfold tLit fLit; omega
  have h2 : max (tLit v) (fLit v) = tLit v := by unfold tLit fLit; omega
  rw [h1, h2]

section Axioms
#print axioms tabOkOfInst
#print axioms wOf_weights
end Axioms

end Ddo.Examples.Max2satModel
