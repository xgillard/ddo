import DdoModel.Examples.TalentschedModel
import DdoModel.Proofs.SpecUtil
import DdoModel.Examples.EMax
/-! One step of the talentsched model: the `Set64` operations bit by bit, the decisions of the domain and the transition on them,
    the invariant `Inv` that a step keeps, and the Bellman equation of the value-to-go `bestRem` (the clauses `term`, `le`, `att`
    of `Potential`, `Wf.lean`), which holds on EVERY state, valid or not: the state does not hold the depth, `bestRem` takes it. -/

namespace Ddo.Examples.TalentschedModel
open Ddo Ddo.Examples Ddo.Examples.Util Ddo.SpecUtil

theorem foldl_emax_ge {α : Type} (f : α → EInt) : ∀ (l : List α) (init : EInt),
    init ≤ l.foldl (fun acc v => EInt.max acc (f v)) init ∧
    ∀ v ∈ l, f v ≤ l.foldl (fun acc v => EInt.max acc (f v)) init :=
  fun l init => ⟨(EMax.foldl_max_spec f l init).1, (EMax.foldl_max_spec f l init).2.1⟩

theorem foldl_emax_le {α : Type} (f : α → EInt) (B : EInt) : ∀ (l : List α) (init : EInt),
    init ≤ B → (∀ v ∈ l, f v ≤ B) → l.foldl (fun acc v => EInt.max acc (f v)) init ≤ B :=
  EMax.foldl_max_le f

theorem foldl_emax_attained {α : Type} (f : α → EInt) : ∀ (l : List α) (init : EInt),
    l.foldl (fun acc v => EInt.max acc (f v)) init = init ∨
    ∃ v ∈ l, l.foldl (fun acc v => EInt.max acc (f v)) init = f v :=
  fun l init => (EMax.foldl_max_spec f l init).2.2

theorem bitsFrom_eq : ∀ (f i m : Nat),
    bitsFrom f i m = ((List.range f).filter (fun j => m.testBit j)).map (fun j => i + j)
  | 0, _, _ => by simp [bitsFrom]
  | f + 1, i, m => by
    rw [bitsFrom, List.range_succ_eq_map, List.filter_cons]
    by_cases h0 : m = 0
    · subst h0; simp
    · rw [if_neg h0, bitsFrom_eq f (i + 1) (m / 2)]
      have e : ((List.map Nat.succ (List.range f)).filter fun j => m.testBit j) =
          ((List.range f).filter fun j => (m / 2).testBit j).map Nat.succ := by
        rw [List.filter_map]
        congr 1
        apply List.filter_congr
        intro j _
        simp [Nat.testBit_succ]
      rw [e, Nat.testBit_zero]
      by_cases h1 : m % 2 = 1
      · simp [h1, Nat.add_assoc, Nat.add_comm 1]
      · simp [h1, Nat.add_assoc, Nat.add_comm 1]

theorem bits_eq (m : Nat) : bits m = (List.range 64).filter (fun j => m.testBit j) := by
  simp [bits, bitsFrom_eq]

theorem mem_bits {m i : Nat} : i ∈ bits m ↔ i < 64 ∧ m.testBit i = true := by
  simp [bits_eq]

theorem card_eq (m : Nat) : card m = (List.range 64).countP (fun j => m.testBit j) := by
  simp [card, bits_eq, List.countP_eq_length_filter]

theorem countP_lt {α : Type} {p q : α → Bool} : ∀ {l : List α} {x : α}, x ∈ l → (∀ y ∈ l, p y = true → q y = true) →
    p x = false → q x = true → l.countP p < l.countP q := by
  intro l
  induction l with
  | nil => intro x hx; cases hx
  | cons a l ih =>
    intro x hx hpq hp hq
    have hmono : l.countP p ≤ l.countP q := List.countP_mono_left fun y hy => hpq y (List.mem_cons_of_mem _ hy)
    rcases List.mem_cons.mp hx with rfl | hx
    · rw [List.countP_cons_of_neg (by simp [hp]), List.countP_cons_of_pos hq]; omega
    · have := ih hx (fun y hy => hpq y (List.mem_cons_of_mem _ hy)) hp hq
      by_cases hpa : p a = true
      · rw [List.countP_cons_of_pos hpa, List.countP_cons_of_pos (hpq a List.mem_cons_self hpa)]; omega
      · rw [List.countP_cons_of_neg hpa]
        by_cases hqa : q a = true
        · rw [List.countP_cons_of_pos hqa]; omega
        · rw [List.countP_cons_of_neg hqa]; omega

def Sub (a b : Nat) : Prop := ∀ i, a.testBit i = true → b.testBit i = true

theorem card_le_of_sub {a b : Nat} (h : Sub a b) : card a ≤ card b := by
  rw [card_eq, card_eq]
  exact List.countP_mono_left fun y _ => h y

theorem card_lt_of_sub {a b : Nat} (h : Sub a b) {x : Nat} (hx : x < 64) (ha : a.testBit x = false) (hb : b.testBit x = true) :
    card a < card b := by
  rw [card_eq, card_eq]
  exact countP_lt (List.mem_range.mpr hx) (fun y _ => h y) ha hb

theorem testBit_one_shiftLeft (x j : Nat) : (1 <<< x).testBit j = decide (x = j) := by
  rw [Nat.one_shiftLeft, Nat.testBit_two_pow]

theorem testBit_sdiff_bit (a x j : Nat) : (sdiff a (1 <<< x)).testBit j = (a.testBit j && decide (j ≠ x)) := by
  rw [testBit_sdiff, testBit_one_shiftLeft]
  by_cases h : x = j
  · subst h; simp
  · have h' : j ≠ x := fun e => h e.symm
    simp [h, h']

theorem filter_sum_le {f : Nat → Int} (hf : ∀ a, 0 ≤ f a) {p q : Nat → Bool} : ∀ (l : List Nat),
    (∀ y ∈ l, p y = true → q y = true) → ((l.filter p).map f).sum ≤ ((l.filter q).map f).sum := by
  intro l
  induction l with
  | nil => intro _; simp
  | cons x l ih =>
    intro h
    have ih' := ih fun y hy => h y (List.mem_cons_of_mem _ hy)
    have hx := h x List.mem_cons_self
    have := hf x
    by_cases hp : p x = true
    · simp [hp, hx hp]; omega
    · by_cases hq : q x = true
      · simp [hp, hq]; omega
      · simp [hp, hq]; omega

theorem sum_bits_le {f : Nat → Int} (hf : ∀ a, 0 ≤ f a) {a b : Nat} (h : Sub a b) :
    sum ((bits a).map f) ≤ sum ((bits b).map f) := by
  rw [sum_eq, sum_eq, bits_eq, bits_eq]
  exact filter_sum_le hf _ fun y _ => h y

theorem foldl_or_testBit {α : Type} (p : α → Prop) [DecidablePred p] (g : α → Nat) (a : Nat) : ∀ (l : List α) (z : Nat),
    (l.foldl (fun acc i => if p i then acc ||| g i else acc) z).testBit a = true ↔
      z.testBit a = true ∨ ∃ i ∈ l, p i ∧ (g i).testBit a = true := by
  intro l
  induction l with
  | nil => intro z; simp
  | cons x l ih =>
    intro z
    rw [List.foldl_cons, ih]
    by_cases hp : p x
    · simp [hp, Nat.testBit_or, or_assoc]
    · simp [hp]

theorem present_fold_eq (T : Tab) (s : St) : ∀ (l : List Nat) (b a : Nat),
    l.foldl (fun (ba : Nat × Nat) i =>
      if s.maybe.testBit i then ba
      else if s.scenes.testBit i then (ba.1, ba.2 ||| actS T i) else (ba.1 ||| actS T i, ba.2)) (b, a) =
    (l.foldl (fun acc i => if (!s.maybe.testBit i && !s.scenes.testBit i) then acc ||| actS T i else acc) b,
     l.foldl (fun acc i => if (!s.maybe.testBit i && s.scenes.testBit i) then acc ||| actS T i else acc) a) := by
  intro l
  induction l with
  | nil => intro b a; rfl
  | cons x l ih =>
    intro b a
    simp only [List.foldl_cons]
    cases hm : s.maybe.testBit x <;> cases hs : s.scenes.testBit x <;> simp [ih]

theorem testBit_present (T : Tab) (s : St) (a : Nat) :
    (present T s).testBit a = true ↔
      (∃ i, i < T.n ∧ s.maybe.testBit i = false ∧ s.scenes.testBit i = false ∧ (actS T i).testBit a = true) ∧
      (∃ i, i < T.n ∧ s.maybe.testBit i = false ∧ s.scenes.testBit i = true ∧ (actS T i).testBit a = true) := by
  unfold present
  dsimp only
  rw [present_fold_eq, Nat.testBit_and, Bool.and_eq_true, foldl_or_testBit, foldl_or_testBit]
  simp [and_assoc]

theorem mem_domain (T : Tab) (x : Nat) (s : St) (v : Int) :
    v ∈ domain T x s ↔ ∃ i : Nat, v = (i : Int) ∧ i < 64 ∧
      (s.scenes.testBit i = true ∨ (x + card s.scenes < T.n ∧ s.maybe.testBit i = true)) := by
  unfold domain
  simp only [List.mem_map, List.mem_append, card]
  constructor
  · rintro ⟨i, hi, rfl⟩
    refine ⟨i, rfl, ?_⟩
    rcases hi with hi | hi
    · exact ⟨(mem_bits.mp hi).1, Or.inl (mem_bits.mp hi).2⟩
    · split at hi
      · rename_i hlt
        exact ⟨(mem_bits.mp hi).1, Or.inr ⟨hlt, (mem_bits.mp hi).2⟩⟩
      · cases hi
  · rintro ⟨i, rfl, h64, h⟩
    refine ⟨i, ?_, rfl⟩
    rcases h with h | ⟨hlt, h⟩
    · exact Or.inl (mem_bits.mpr ⟨h64, h⟩)
    · right; rw [if_pos hlt]; exact mem_bits.mpr ⟨h64, h⟩

theorem trans_nat (s : St) (x i : Nat) (h : i < 64) :
    trans s ⟨x, (i : Int)⟩ = { scenes := sdiff s.scenes (1 <<< i), maybe := sdiff s.maybe (1 <<< i) } := by
  unfold trans trans?
  have : ¬ ((i : Int) < 0 ∨ (i : Int) ≥ 64) := by omega
  simp [this]

structure NonNeg (T : Tab) : Prop where
  cost : ∀ a, 0 ≤ costA T a
  dur : ∀ j, 0 ≤ durS T j

theorem TabOk.nonNeg {T : Tab} (h : TabOk T) : NonNeg T :=
  ⟨SpecUtil.getD_nonneg fun c hc => by have := h.cost.2 c hc; omega, SpecUtil.getD_nonneg h.dur.2⟩

def Disj (u : St) : Prop := ∀ i, ¬ (u.scenes.testBit i = true ∧ u.maybe.testBit i = true)

/-- the part of `validB` (`inv_of_valid`) that the proofs use, and the `V` of `WfRel`: `room` for the guard
    `p + |scenes| < nb_scenes` of `for_each_in_domain`, `disj` so that `get_present` does not ignore a mandatory scene -/
structure Inv (T : Tab) (d : Nat) (u : St) : Prop where
  room : card u.scenes + d ≤ T.n
  disj : Disj u

theorem Inv.step {T : Tab} {d : Nat} {u : St} (h : Inv T d u) {i : Nat} (h64 : i < 64)
    (hi : u.scenes.testBit i = true ∨ (d + card u.scenes < T.n ∧ u.maybe.testBit i = true)) :
    Inv T (d + 1) { scenes := sdiff u.scenes (1 <<< i), maybe := sdiff u.maybe (1 <<< i) } := by
  constructor
  · dsimp only
    have hsub : Sub (sdiff u.scenes (1 <<< i)) u.scenes := by
      intro j; rw [testBit_sdiff]; simp only [Bool.and_eq_true]; exact fun h => h.1
    rcases hi with hi | ⟨hlt, _⟩
    · have := card_lt_of_sub hsub h64 (by rw [testBit_sdiff_bit]; simp) hi
      have := h.room
      omega
    · have := card_le_of_sub hsub
      omega
  · intro j
    dsimp only
    rw [testBit_sdiff, testBit_sdiff]
    simp only [Bool.and_eq_true]
    exact fun ⟨h1, h2⟩ => h.disj j ⟨h1.1, h2.1⟩

theorem validB_iff (T : Tab) (d : Nat) (s : St) : validB T d s = true ↔
    (d ≤ T.n ∧ card s.scenes + d ≤ T.n ∧ T.n ≤ card s.scenes + card s.maybe + d ∧
      s.scenes &&& s.maybe = 0 ∧ (s.scenes ||| s.maybe) >>> T.n = 0) := by
  simp [validB]

theorem disj_of_and_eq_zero {s : St} (h : s.scenes &&& s.maybe = 0) : Disj s := by
  intro i ⟨h1, h2⟩
  have : (s.scenes &&& s.maybe).testBit i = true := by rw [Nat.testBit_and, h1, h2]; rfl
  rw [h] at this
  simp at this

theorem inv_of_valid {T : Tab} {d : Nat} {s : St} (h : validB T d s = true) : Inv T d s := by
  rw [validB_iff] at h
  exact ⟨h.2.1, disj_of_and_eq_zero h.2.2.2.1⟩

theorem bestRem_succ (T : Tab) {d : Nat} (hd : d < T.n) (s : St) :
    bestRem T d s = (domain T d s).foldl (fun acc v =>
      EInt.max acc ((bestRem T (d + 1) (trans s ⟨d, v⟩)).addI (cost T s ⟨d, v⟩))) none := by
  unfold bestRem
  have : T.n - d = (T.n - (d + 1)) + 1 := by omega
  rw [this, bestRemF]

theorem bestRem_term (T : Tab) {d : Nat} (hd : T.n ≤ d) (s : St) : bestRem T d s = some 0 := by
  unfold bestRem
  have : T.n - d = 0 := by omega
  rw [this, bestRemF]

theorem bestRem_le (T : Tab) {d : Nat} (hd : d < T.n) (s : St) {v : Int} (hv : v ∈ domain T d s) :
    (bestRem T (d + 1) (trans s ⟨d, v⟩)).addI (cost T s ⟨d, v⟩) ≤ bestRem T d s := by
  rw [bestRem_succ T hd s]
  exact (EMax.foldl_max_spec (fun v => (bestRem T (d + 1) (trans s ⟨d, v⟩)).addI (cost T s ⟨d, v⟩)) _ _).2.1 v hv

theorem bestRem_att (T : Tab) {d : Nat} (hd : d < T.n) (s : St) {h : Int} (hh : bestRem T d s = some h) :
    ∃ v ∈ domain T d s, ∃ h', bestRem T (d + 1) (trans s ⟨d, v⟩) = some h' ∧ h ≤ cost T s ⟨d, v⟩ + h' := by
  rw [bestRem_succ T hd s] at hh
  obtain ⟨v, hv, h', hb, e⟩ :=
    EMax.foldl_max_addI_att (fun v => bestRem T (d + 1) (trans s ⟨d, v⟩)) (fun v => cost T s ⟨d, v⟩) _ hh
  exact ⟨v, hv, h', hb, Int.le_of_eq (e.trans (Int.add_comm _ _))⟩

end Ddo.Examples.TalentschedModel

section
open Ddo.Examples.TalentschedModel
#print axioms bestRem_att
end
