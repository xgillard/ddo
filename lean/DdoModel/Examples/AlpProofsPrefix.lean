import DdoModel.Examples.AlpProofsExact
import DdoModel.Props.C16
/-! alp example, exactness of the DP model: the prefix form `DpExactStmt`.

`state_exact`: for a valid state `s` whose runways are a permutation of the physical runways `ph`, and a list `L` of landings of
the specification COMPATIBLE with `ph` (the earliest time of `Alp.delay` after `L` on a runway — separation from ALL of `L` — is
the arrival time of the model after the state of the runway — separation from the last landing), the value-to-go is minus the
least delay `Alp.delay … L` over the orders and runway assignments of the aircraft left.  `RInv` is the invariant of `replayPhys`
(the tagged sort carries the physical identities; compatibility is kept by the triangle inequality, `arrP_skip`).
`replayPhys`, `RInv`, `tagZ`, `insT`, `sortT` serve the prefix form only, i.e. the pointwise comparison the driver makes along
its walks; the closed corollary (`AlpProofsWf.lean`) uses `state_exact` at the root, through `root_exact_spec`. -/
namespace Ddo.Examples.AlpModel
open Ddo Ddo.Examples Ddo.Examples.Util Ddo.C16 Ddo.SpecUtil

variable (I : Inst)

/-- the delays `Alp.delay` computes after the landings `L`, over the orders of `rest` and the runway assignments -/
def valuesL (rest : List Nat) (L : List (Nat × Nat × Int)) : List Int :=
  (Alp.perms rest).flatMap (fun o =>
    (Alp.assignments I.nbRunways rest.length).filterMap (fun rs => Alp.delay I.specInst (o.zip rs) L))

theorem mem_valuesL {rest : List Nat} (hnd : rest.Nodup) (L : List (Nat × Nat × Int)) (x : Int) :
    x ∈ valuesL I rest L ↔
      ∃ o : List Nat, o.Perm rest ∧ ∃ rw : Nat → Nat, (∀ a ∈ o, rw a < I.nbRunways) ∧
        Alp.delay I.specInst (o.map fun a => (a, rw a)) L = some x := by
  unfold valuesL
  simp only [List.mem_flatMap, List.mem_filterMap, alp_perms, mem_perms, alp_assignments, mem_tuples,
    List.mem_range]
  constructor
  · rintro ⟨o, ho, rs, ⟨hlen, hr⟩, hd⟩
    have hnd' : o.Nodup := ho.symm.nodup hnd
    have hlen' : rs.length = o.length := by rw [hlen, ho.length_eq]
    obtain ⟨rw, rfl⟩ := exists_map_eq hnd' rs hlen' 0
    refine ⟨o, ho, rw, fun a ha => hr _ (List.mem_map_of_mem ha), ?_⟩
    rw [← zip_map_self]; exact hd
  · rintro ⟨o, ho, rw, hr, hd⟩
    refine ⟨o, ho, o.map rw, ⟨by rw [List.length_map, ho.length_eq], ?_⟩, ?_⟩
    · intro y hy
      obtain ⟨a, ha, rfl⟩ := List.mem_map.mp hy
      exact hr a ha
    · rw [zip_map_self]; exact hd

/-- the landings `L` of the specification are compatible with the physical runways `ph` -/
def Compat (ph : List Rw) (L : List (Nat × Nat × Int)) : Prop :=
  ∀ ρ b, ρ < I.nbRunways → b < I.nbAircraft → alpEarliest I.specInst b ρ L (I.tgt b) = arrP I (phAt ph ρ) b

theorem sched_of_delay {s : St} {ph : List Rw} {L : List (Nat × Nat × Int)} (hc : Compat I ph L) {rest : List Nat}
    (hnd : rest.Nodup) (hrest : ∀ a, a ∈ rest ↔ RemAc I s.1 a) {x : Int} (hx : x ∈ valuesL I rest L) :
    ∃ σ, Sched I s.1 ph σ ∧ cost I σ = x := by
  obtain ⟨o, ho, rw, hr, hd⟩ := (mem_valuesL I hnd L x).mp hx
  obtain ⟨t, w1, w2, w3, w4⟩ := alp_delay_sound I.specInst rw o (ho.symm.nodup hnd) L x hd
  obtain ⟨h1, h2⟩ := sched_of_funs I (ph := ph) rw t (ho.symm.nodup hnd) (fun a => ho.mem_iff.trans (hrest a))
    (fun a ha => by
      -- separated from the landings of `L`: no earlier than the arrival time after the runway state
      refine ⟨hr a ha, (w1 a ha).2, ?_⟩
      rw [← hc (rw a) a (hr a ha) ((hrest a).mp (ho.mem_iff.mp ha)).lt]
      exact (alpEarliest_spec I.specInst a (rw a) L (I.tgt a)).2.2 (t a) (w1 a ha).1 (w2 a ha))
    w3
  exact ⟨_, h1, h2.trans w4.symm⟩

theorem delay_of_sched {s : St} {ph : List Rw} {L : List (Nat × Nat × Int)} (hc : Compat I ph L) {rest : List Nat}
    (hnd : rest.Nodup) (hrest : ∀ a, a ∈ rest ↔ RemAc I s.1 a) {σ : List Ev} (h : Sched I s.1 ph σ) :
    ∃ x, x ∈ valuesL I rest L ∧ x ≤ cost I σ := by
  have hperm : (σ.map Ev.ac).Perm rest :=
    (List.perm_ext_iff_of_nodup h.nodup hnd).mpr (fun a => (h.mem a).trans (hrest a).symm)
  obtain ⟨h1, h2, h3⟩ := h.funs
  obtain ⟨v, hv, hle⟩ := alp_delay_dominant I.specInst (rwOf σ) (tOf σ) (σ.map Ev.ac) L (fun a ha => (h1 a ha).2)
    (by
      -- the landings of `L` are accounted for in the arrival time after the runway state
      intro a ha x hx hrw
      obtain ⟨e, he, rfl⟩ := List.mem_map.mp ha
      rw [rwOf_ac h.nodup he] at hrw
      rw [tOf_ac h.nodup he]
      obtain ⟨hr, _, h3⟩ := h.ok e he
      rw [← hc e.rw e.ac hr ((h.mem e.ac).mp ha).lt] at h3
      exact Int.le_trans ((alpEarliest_spec I.specInst e.ac e.rw L (I.tgt e.ac)).2.1 x hx hrw) h3)
    h2
  exact ⟨v, (mem_valuesL I hnd L v).mpr ⟨σ.map Ev.ac, hperm, rwOf σ, fun a ha => (h1 a ha).1, hv⟩, h3 ▸ hle⟩

/-- **exactness of the DP model at a state**: the value-to-go of a valid state is minus the least delay the specification
    computes, after landings `L` compatible with the runways of the state, over the aircraft left -/
theorem state_exact (hD : InDom I) (hS : InDomS I) {s : St} {ph : List Rw} {L : List (Nat × Nat × Int)} {rest : List Nat}
    (hW : StW I s) (hR : RemOk I s.1) (hp : s.2.Perm ph) (hc : Compat I ph L)
    (hnd : rest.Nodup) (hrest : ∀ a, a ∈ rest ↔ RemAc I s.1 a) :
    best I s = (minOf (valuesL I rest L)).map (fun d => -d) := by
  refine EMax.eq_neg_minOf (fun y hy => ?_) (fun v hb => ?_)
  · obtain ⟨σ, hσ, hcσ⟩ := sched_of_delay I hc hnd hrest hy
    exact hcσ ▸ sched_le_best I hD hS _ _ _ σ hW hR hp (Nat.le_refl _) hσ
  · obtain ⟨σ, hσ, hcσ⟩ := best_sched I hD _ _ _ v hW hR hp (Nat.le_refl _) hb
    obtain ⟨x, hx, hxle⟩ := delay_of_sched I hc hnd hrest hσ
    exact ⟨x, hx, hcσ ▸ hxle⟩

theorem span_loop_eq {α : Type} (p : α → Bool) : ∀ (l acc : List α),
    List.span.loop p l acc = (acc.reverse ++ l.takeWhile p, l.dropWhile p) := by
  intro l
  induction l with
  | nil => intro acc; simp [List.span.loop]
  | cons a r ih =>
    intro acc
    unfold List.span.loop
    cases h : p a with
    | true => simp only [ih]; simp [h]
    | false => simp [h]

theorem span_eq {α : Type} (p : α → Bool) (l : List α) : l.span p = (l.takeWhile p, l.dropWhile p) := by
  unfold List.span
  rw [span_loop_eq]
  simp

/-- the insertion step of the tagged sort of `replayPhys` -/
def insT (x : Rw × Nat) (l : List (Rw × Nat)) : List (Rw × Nat) :=
  (l.span (fun y => !rwLe x.1 y.1)).1 ++ x :: (l.span (fun y => !rwLe x.1 y.1)).2

def sortT (l : List (Rw × Nat)) : List (Rw × Nat) := l.foldr insT []

theorem insT_eq (x : Rw × Nat) (l : List (Rw × Nat)) :
    insT x l = l.takeWhile (fun y => !rwLe x.1 y.1) ++ x :: l.dropWhile (fun y => !rwLe x.1 y.1) := by
  unfold insT
  rw [span_eq]

theorem insT_perm (x : Rw × Nat) (l : List (Rw × Nat)) : (insT x l).Perm (x :: l) := by
  rw [insT_eq]
  refine List.perm_middle.trans ?_
  rw [List.takeWhile_append_dropWhile]

theorem insT_fst (x : Rw × Nat) (l : List (Rw × Nat)) : (insT x l).map Prod.fst = insertRw x.1 (l.map Prod.fst) := by
  rw [insT_eq]
  induction l with
  | nil => simp [insertRw]
  | cons y r ih =>
    cases h : rwLe x.1 y.1 with
    | true => simp [h, insertRw]
    | false =>
      simp only [List.takeWhile_cons, List.dropWhile_cons, h, Bool.not_false, if_true, List.cons_append, List.map_cons,
        insertRw, Bool.false_eq_true, if_false]
      rw [ih]

theorem sortT_perm (l : List (Rw × Nat)) : (sortT l).Perm l := by
  induction l with
  | nil => exact List.Perm.refl _
  | cons x r ih => exact (insT_perm x _).trans (List.Perm.cons x ih)

theorem sortT_fst (l : List (Rw × Nat)) : (sortT l).map Prod.fst = sortRw (l.map Prod.fst) := by
  induction l with
  | nil => rfl
  | cons x r ih =>
    show (insT x (sortT r)).map Prod.fst = insertRw x.1 (sortRw (r.map Prod.fst))
    rw [insT_fst, ih]

theorem zip_map_fst_snd {α β : Type} (l : List (α × β)) : (l.map Prod.fst).zip (l.map Prod.snd) = l :=
  (List.zip_of_prod rfl rfl).symm

theorem replayPhys_nil (s : St) (phys : List Nat) (v : Int) (acc : List (Nat × Nat)) :
    replayPhys I [] s phys v acc = some (s, v, acc) := by rw [replayPhys]

theorem replayPhys_neg (ds : List Int) (s : St) (phys : List Nat) (v : Int) (acc : List (Nat × Nat)) :
    replayPhys I (-1 :: ds) s phys v acc
      = if (domain I s).contains (-1) then replayPhys I ds s phys v acc else none := by
  rw [replayPhys]; simp

theorem replayPhys_step {d : Int} (ds : List Int) {s : St} (phys : List Nat) (v : Int) (acc : List (Nat × Nat))
    {a : Nat} {s2 : St} {k : Int} (h1 : d ≠ -1) (h2 : (domain I s).contains d = true)
    (h3 : aircraftOf? I s (fromDecision I d).1 = some a) (h4 : trans? I s d = some s2) (h5 : cost? I s d = some k) :
    replayPhys I (d :: ds) s phys v acc =
      replayPhys I ds s2
        ((sortT ((s.2.zip phys).set (fromDecision I d).2
          ((arrival I s.2 a (fromDecision I d).2, ((fromDecision I d).1 : Int)),
            (phys[(fromDecision I d).2]?).getD 0))).map Prod.snd)
        (v + k) (acc ++ [(a, (phys[(fromDecision I d).2]?).getD 0)]) := by
  rw [replayPhys]
  simp only [h1, if_false, h2, Bool.not_true, h3, h4, h5]
  rfl

theorem replayPhys_not {d : Int} (ds : List Int) {s : St} (phys : List Nat) (v : Int) (acc : List (Nat × Nat))
    (h1 : d ≠ -1) (h2 : (domain I s).contains d = false) : replayPhys I (d :: ds) s phys v acc = none := by
  rw [replayPhys]
  simp only [h1, if_false, h2, Bool.not_false, if_true]

/-- the physical runways, tagged by their identity -/
def tagZ (ph : List Rw) : List (Rw × Nat) := (List.range I.nbRunways).map (fun ρ => (phAt ph ρ, ρ))

theorem tagZ_set {ph : List Rw} {ρ : Nat} (hρ : ρ < ph.length) (x : Rw) :
    (tagZ I ph).set ρ (x, ρ) = tagZ I (ph.set ρ x) := by
  apply List.ext_getElem
  · simp [tagZ]
  · intro j h1 h2
    rw [List.getElem_set]
    simp only [tagZ, List.getElem_map, List.getElem_range]
    by_cases e : ρ = j
    · subst e
      rw [if_pos rfl, phAt_set_self hρ]
    · rw [if_neg e, phAt_set_ne e]

/-- state `s` with physical identities `phys`, value `v`, landings `acc`; `ph` = the physical runways, `L` = the landings of
    the specification -/
structure RInv (s : St) (phys : List Nat) (v : Int) (acc : List (Nat × Nat)) (ph : List Rw)
    (L : List (Nat × Nat × Int)) : Prop where
  w : StW I s
  remOk : RemOk I s.1
  plen : phys.length = I.nbRunways
  phlen : ph.length = I.nbRunways
  tag : (s.2.zip phys).Perm (tagZ I ph)
  compat : Compat I ph L
  pre : ∀ todo, Alp.delay I.specInst (acc ++ todo) [] = (Alp.delay I.specInst todo L).map (fun rest => -v + rest)
  rem : ∀ a, a < I.nbAircraft → (RemAc I s.1 a ↔ a ∉ acc.map Prod.fst)

theorem RInv.perm {s : St} {phys : List Nat} {v : Int} {acc : List (Nat × Nat)} {ph : List Rw}
    {L : List (Nat × Nat × Int)} (h : RInv I s phys v acc ph L) : s.2.Perm ph := by
  have h1 := h.tag.map Prod.fst
  rw [List.map_fst_zip (by rw [h.w.2.1, h.plen]; exact Nat.le_refl _)] at h1
  have h2 : (tagZ I ph).map Prod.fst = ph := by
    apply List.ext_getElem
    · simp [tagZ, h.phlen]
    · intro j h1 h2
      simp only [tagZ, List.map_map, List.getElem_map, List.getElem_range, Function.comp]
      exact phAt_eq h2
  rw [h2] at h1
  exact h1

theorem rinv_init (hD : InDom I) (hS : InDomS I) :
    RInv I (initState I) (List.range I.nbRunways) 0 [] (List.replicate I.nbRunways (0, -1)) [] where
  w := stW_init I
  remOk := remOk_init I hS
  plen := List.length_range
  phlen := List.length_replicate
  tag := by
    have : (initState I).2.zip (List.range I.nbRunways) = tagZ I (List.replicate I.nbRunways (0, -1)) := by
      apply List.ext_getElem
      · simp [tagZ, initState]
      · intro j h1 h2
        simp [tagZ, initState, phAt_replicate]
    rw [this]
  compat := by
    intro ρ b _ _
    rw [phAt_replicate, arrP_empty]
    rfl
  pre := by
    intro todo
    rw [List.nil_append]
    cases Alp.delay I.specInst todo [] <;> simp
  rem := by
    intro a ha
    simp [remAc_init I hD hS, ha]

theorem alpEarliest_cons (J : Alp.Inst) (b ρ' ρ a : Nat) (t : Int) (L : List (Nat × Nat × Int)) (init : Int) :
    alpEarliest J b ρ' ((ρ, a, t) :: L) init
      = alpEarliest J b ρ' L (if ρ = ρ' then max init (t + J.sep (J.cls a) (J.cls b)) else init) := rfl

/-- compatibility is kept by a landing of the model (triangle inequality, `arrP_skip`) -/
theorem Compat.land (hD : InDom I) {ph : List Rw} {L : List (Nat × Nat × Int)} (hc : Compat I ph L) {ρ a : Nat}
    (hρ : ρ < I.nbRunways) (hρph : ρ < ph.length) (han : a < I.nbAircraft) (hrw : RwOk I (phAt ph ρ)) :
    Compat I (ph.set ρ (arrP I (phAt ph ρ) a, (I.cls a : Int))) ((ρ, a, arrP I (phAt ph ρ) a) :: L) := by
  intro ρ' b hρ' hb
  rw [alpEarliest_cons]
  by_cases hrr : ρ = ρ'
  · subst hrr
    rw [if_pos rfl, phAt_set_self hρph, arrP_known]
    obtain ⟨s1, _, s3⟩ := alpEarliest_spec I.specInst b ρ L (max (I.tgt b) (arrP I (phAt ph ρ) a + I.sepAt (I.cls a) (I.cls b)))
    refine Int.le_antisymm (s3 _ (Int.le_refl _) (fun x hx hxr => ?_)) s1
    -- an earlier landing of the runway is separated from `b` already before the landing of `a`
    have h1 := (alpEarliest_spec I.specInst b ρ L (I.tgt b)).2.1 x hx hxr
    rw [hc ρ b hρ hb] at h1
    have h2 := arrP_skip I hD hrw han hb
    rw [arrP_known] at h2
    exact Int.le_trans h1 h2
  · rw [if_neg hrr, phAt_set_ne hrr]
    exact hc ρ' b hρ' hb

theorem delay_pre_land {acc : List (Nat × Nat)} {v : Int} {L : List (Nat × Nat × Int)}
    (hpre : ∀ todo, Alp.delay I.specInst (acc ++ todo) [] = (Alp.delay I.specInst todo L).map (fun rest => -v + rest))
    {a ρ : Nat} {t : Int} (he : alpEarliest I.specInst a ρ L (I.tgt a) = t) (hl : t ≤ I.lat a) (todo : List (Nat × Nat)) :
    Alp.delay I.specInst ((acc ++ [(a, ρ)]) ++ todo) []
      = (Alp.delay I.specInst todo ((ρ, a, t) :: L)).map (fun rest => -(v + -(t - I.tgt a)) + rest) := by
  rw [List.append_assoc, hpre, List.singleton_append, alp_delay_cons]
  rw [show alpEarliest I.specInst a ρ L (I.specInst.target a) = t from he,
    if_pos (show t ≤ I.specInst.latest a from hl), Option.map_map]
  congr 1
  funext rest
  show -v + (t - I.tgt a + rest) = -(v + -(t - I.tgt a)) + rest
  omega

theorem rinv_step (hD : InDom I) {s : St} {phys : List Nat} {v : Int} {acc : List (Nat × Nat)} {ph : List Rw}
    {L : List (Nat × Nat × Int)} (h : RInv I s phys v acc ph L) {d : Int} (hd : d ∈ domain I s) (hne : d ≠ -1) :
    ∃ a s2 k ph2 L2, aircraftOf? I s (fromDecision I d).1 = some a ∧ trans? I s d = some s2 ∧ cost? I s d = some k ∧
      RInv I s2
        ((sortT ((s.2.zip phys).set (fromDecision I d).2
          ((arrival I s.2 a (fromDecision I d).2, ((fromDecision I d).1 : Int)),
            (phys[(fromDecision I d).2]?).getD 0))).map Prod.snd)
        (v + k) (acc ++ [(a, (phys[(fromDecision I d).2]?).getD 0)]) ph2 L2 := by
  have hW := h.w
  have htot : 0 < totRem s :=
    Nat.pos_of_ne_zero (fun h0 => hne (List.mem_singleton.mp (domain_zero I h0 ▸ hd)))
  obtain ⟨c, k0, i, hk, hpos, hi, e, hl⟩ := mem_domain I htot hd
  subst e
  have hc : c < I.nbClasses := hW.1 ▸ lt_of_getElem?_some hk
  obtain ⟨k', rfl⟩ := Nat.exists_eq_add_one.mpr hpos
  obtain ⟨a, ha, haR⟩ := first_exists I h.remOk hk
  rw [acOf_some I ha] at hl
  have his : i < s.2.length := hW.2.1.symm ▸ hi
  have hip : i < phys.length := h.plen.symm ▸ hi
  obtain ⟨t1, t2⟩ := trans_toDecision I hc hk ha (r := i) his
  obtain ⟨han, hca⟩ := nextTab_succ I ha
  rw [fromDecision_toDecision I hc i]
  have hac : aircraftOf? I s c = some a := by unfold aircraftOf?; rw [hk]; exact ha
  -- the physical runway
  have hiz : i < (s.2.zip phys).length := List.length_zip ▸ Nat.lt_min.mpr ⟨his, hip⟩
  have hzi : (s.2.zip phys)[i] = (s.2[i], phys[i]) := List.getElem_zip
  obtain ⟨ρ, hρ, eρ⟩ := List.mem_map.mp (h.tag.mem_iff.mp (List.getElem_mem hiz))
  rw [List.mem_range] at hρ
  rw [hzi] at eρ
  obtain ⟨e1, e2⟩ := Prod.mk.inj eρ
  have hρph : ρ < ph.length := h.phlen.symm ▸ hρ
  have ephys : (phys[i]?).getD 0 = ρ := by rw [List.getElem?_eq_getElem hip, e2]; rfl
  have erw : rwAt s i = phAt ph ρ := (rwAt_eq his).trans e1.symm
  rw [ephys]
  refine ⟨a, _, _, ph.set ρ (arrP I (rwAt s i) a, (c : Int)), (ρ, a, arrP I (rwAt s i) a) :: L, hac, t1, t2, ?_⟩
  have hsorted : ((sortT ((s.2.zip phys).set i ((arrival I s.2 a i, (c : Int)), ρ))).map Prod.fst)
      = (land I s c i a k').2 := by
    rw [sortT_fst, List.map_set, List.map_fst_zip (Nat.le_of_eq (hW.2.1.trans h.plen.symm))]
    rfl
  refine ⟨stW_land I hD hW hk ha, remOk_set I h.remOk hk, ?_, ?_, ?_, ?_, ?_, ?_⟩
  · rw [List.length_map, (sortT_perm _).length_eq, List.length_set, List.length_zip, hW.2.1, h.plen]
    exact Nat.min_self _
  · rw [List.length_set]; exact h.phlen
  · rw [← hsorted, zip_map_fst_snd]
    refine (sortT_perm _).trans ?_
    rw [← tagZ_set I hρph]
    refine set_perm_of_perm h.tag hiz (by rw [tagZ, List.length_map, List.length_range]; exact hρ) ?_ _
    rw [hzi, ← eρ]
    simp only [tagZ, List.getElem_map, List.getElem_range]
  · rw [erw, ← hca]
    exact h.compat.land I hD hρ hρph han (erw ▸ hW.2.2 _ (rwAt_mem his))
  · exact delay_pre_land I h.pre ((h.compat ρ a hρ han).trans (congrArg (arrP I · a) erw.symm)) hl
  · intro b hb
    show RemAc I (s.1.set c k') b ↔ _
    rw [remAc_set I hk ha, h.rem b hb]
    simp only [List.map_append, List.map_cons, List.map_nil, List.mem_append, List.mem_singleton, not_or]

theorem replay_inv (hD : InDom I) : ∀ (decs : List Int) (s : St) (phys : List Nat) (v : Int) (acc : List (Nat × Nat))
    (ph : List Rw) (L : List (Nat × Nat × Int)), RInv I s phys v acc ph L → ∀ (s' : St) (v' : Int) (pre : List (Nat × Nat)),
    replayPhys I decs s phys v acc = some (s', v', pre) → ∃ phys' ph' L', RInv I s' phys' v' pre ph' L' := by
  intro decs
  induction decs with
  | nil =>
    intro s phys v acc ph L h s' v' pre hr
    rw [replayPhys_nil] at hr
    simp only [Option.some.injEq, Prod.mk.injEq] at hr
    obtain ⟨rfl, rfl, rfl⟩ := hr
    exact ⟨phys, ph, L, h⟩
  | cons d ds ih =>
    intro s phys v acc ph L h s' v' pre hr
    by_cases hd : d = -1
    · subst hd
      rw [replayPhys_neg] at hr
      split at hr
      · exact ih _ _ _ _ _ _ h _ _ _ hr
      · cases hr
    · cases hcont : (domain I s).contains d with
      | false => rw [replayPhys_not I ds phys v acc hd hcont] at hr; cases hr
      | true =>
        have hmem : d ∈ domain I s := by simpa using hcont
        obtain ⟨a, s2, k, ph2, L2, h3, h4, h5, hinv⟩ := rinv_step I hD h hmem hd
        rw [replayPhys_step I ds phys v acc hd hcont h3 h4 h5] at hr
        exact ih _ _ _ _ _ _ hinv _ _ _ hr

theorem minOf_map_add (X : List Int) (v : Int) :
    minOf (X.map (fun rest => -v + rest)) = (minOf X).map (fun rest => -v + rest) := by
  cases hm : minOf X with
  | none =>
    rw [minOf_eq_none.mp hm]; rfl
  | some m =>
    obtain ⟨h1, h2⟩ := minOf_eq_some.mp hm
    apply minOf_eq_some.mpr
    refine ⟨List.mem_map.mpr ⟨m, h1, rfl⟩, ?_⟩
    intro y hy
    obtain ⟨x, hx, rfl⟩ := List.mem_map.mp hy
    have := h2 x hx
    show -v + m ≤ -v + x
    omega

theorem dpExact : DpExactStmt I := by
  intro hdom decs s v pre hr
  have hD := inDom_of I hdom
  have hS := inDomS_of I hdom
  obtain ⟨phys, ph, L, h⟩ := replay_inv I hD decs _ _ _ _ _ _ (rinv_init I hD hS) s v pre hr
  have hnd : ((List.range I.nbAircraft).filter (fun a => !(pre.any (fun p => p.1 == a)))).Nodup :=
    List.Nodup.sublist List.filter_sublist List.nodup_range
  have hrest : ∀ a, a ∈ (List.range I.nbAircraft).filter (fun a => !(pre.any (fun p => p.1 == a))) ↔ RemAc I s.1 a := by
    intro a
    rw [List.mem_filter, List.mem_range]
    have hany : (pre.any (fun p => p.1 == a)) = true ↔ a ∈ pre.map Prod.fst := by
      simp only [List.any_eq_true, beq_iff_eq, List.mem_map]
    constructor
    · rintro ⟨ha, hn⟩
      refine (h.rem a ha).mpr ?_
      intro hm
      rw [hany.mpr hm] at hn
      cases hn
    · intro hR
      refine ⟨hR.lt, ?_⟩
      have := (h.rem a hR.lt).mp hR
      cases hb : pre.any (fun p => p.1 == a) with
      | false => rfl
      | true => exact absurd (hany.mp hb) this
  have hst := state_exact I hD hS h.w h.remOk (RInv.perm I h) h.compat hnd hrest
  have hspec : specExt I pre = (minOf (valuesL I ((List.range I.nbAircraft).filter
      (fun a => !(pre.any (fun p => p.1 == a)))) L)).map (fun rest => -v + rest) := by
    rw [← minOf_map_add, ← alp_minimum]
    unfold specExt valuesL
    simp only [h.pre, List.map_flatMap, List.map_filterMap]
  rw [hspec, hst]
  generalize minOf (valuesL I ((List.range I.nbAircraft).filter (fun a => !(pre.any (fun p => p.1 == a)))) L) = o
  cases o with
  | none => rfl
  | some m => exact congrArg some (by omega : -m + v = -(-v + m))

/-- `dpExact` at the empty prefix; `none` = no schedule -/
theorem root_exact (hdom : I.inDomain = true) : best I (initState I) = (specExt I []).map (fun d => -d) := by
  rw [← dpExact I hdom [] (initState I) 0 [] (replayPhys_nil I _ _ _ _)]
  cases best I (initState I) with
  | none => rfl
  | some b => exact congrArg some (Int.add_zero b).symm

/-- `root_exact` against the printed value of the specification (`-1` = no schedule; a total delay is never negative) -/
theorem root_exact_spec (hdom : I.inDomain = true) (t : Int)
    (ht : Alp.spec I.nbAircraft I.nbRunways I.specInst = t) (hfeas : t ≠ -1) : best I (initState I) = some (-t) := by
  have h := root_exact I hdom
  rw [specExt_nil] at h
  rw [spec_eq] at ht
  cases hm : Alp.minimum (specValues I) with
  | none => rw [hm] at ht; exact absurd ht.symm hfeas
  | some d =>
    rw [hm] at ht h
    have : d = t := ht
    rw [h, ← this]; rfl

theorem dpExactRoot : DpExactRootStmt I := root_exact I

#print axioms state_exact
#print axioms dpExact
#print axioms root_exact
#print axioms root_exact_spec
#print axioms dpExactRoot

end Ddo.Examples.AlpModel
