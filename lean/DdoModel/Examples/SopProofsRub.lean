import DdoModel.Examples.SopProofsStep
import DdoModel.Examples.InsSort
/-! Admissibility of the rough upper bound of the sop model: `rub?` (the repaired code) and `rubFixed?` (the bound corrected for
    D19, checked additions) dominate the value-to-go of every exact state `u` a state `s` stands for (`rub_conc`, `rubFixed_conc`).

The argument.  A value-to-go `some h` of an exact state `u = (Job p, U, none, depth)` is minus the cost of a path `p → j₁ → … →
j_ct` through all the jobs of `U`, each once (`rb_path`, by `bestRemF_att`; the last job cannot be decided before the last layer
because all the other jobs left are its predecessors: this is where the last row of the matrix must hold precedence marks only,
`rb_cex_refutes`).  Every arc costs `≥ 0`; a precedence mark costs `isize::MAX`, at least any bound the code can answer;
otherwise the arc `j_{t-1} → j_t` (`t ≥ 2`) is an entry of `cheapest_edges[j_t]` whose origin is pending in `s`, so it costs at
least `rb_E T s j_t` = the first such entry (`rb_pcost_cases`), and the first arc costs at least the least distance from the
position (`rb_minDistAll`, `mdist_spec`).  The jobs entered are all the jobs of `U` but `j₁`: the counting argument of the comment
of `rubFinalFixed` is `rb_comb` (on lists), on top of "the `k` smallest entries of a sorted list minimise the sum of any `k` of its
entries" (`rb_take_le`).  `rb_rubWith_spec` / `rb_sat_sound` read `fast_upper_bound` up to / in its last lines. -/
namespace Ddo.Examples.SopModel
open Ddo Ddo.Examples Ddo.Examples.Util

theorem rb_sum_append (l m : List Int) : sum (l ++ m) = sum l + sum m := by
  rw [SpecUtil.sum_eq, SpecUtil.sum_eq, SpecUtil.sum_eq, List.sum_append]

theorem rb_sortInts_eq (l : List Int) : sortInts l = InsSort.sortBy (fun a b => decide (a ≤ b)) l := by
  refine InsSort.foldr_eq_sortBy (fun x t => ?_) l
  induction t with
  | nil => rfl
  | cons y t ih => simp only [insInt, InsSort.insBy, ih, decide_eq_true_eq]

theorem rb_sortInts_perm (l : List Int) : (sortInts l).Perm l := by
  rw [rb_sortInts_eq]; exact InsSort.sortBy_perm _ l

theorem rb_sortInts_sorted (l : List Int) : (sortInts l).Pairwise (· ≤ ·) := by
  rw [rb_sortInts_eq]
  exact InsSort.sortBy_sorted (r := fun a b : Int => a ≤ b) (fun _ _ _ => Int.le_trans)
    (fun a b h => of_decide_eq_true h) (fun a b h => by have := of_decide_eq_false h; omega) l

theorem rb_take_le {l m m' : List Int} (hs : l.Pairwise (· ≤ ·)) (hp : l.Perm (m ++ m')) :
    sum (l.take m.length) ≤ sum m := by
  rw [SpecUtil.sum_eq, SpecUtil.sum_eq]; exact InsSort.take_le hs hp

theorem rb_sortPairs_eq (l : List (Int × Nat)) : sortPairs l = InsSort.sortBy pairLe l := by
  refine InsSort.foldr_eq_sortBy (fun x t => ?_) l
  induction t with
  | nil => rfl
  | cons y t ih => simp only [insPair, InsSort.insBy, ih]

theorem rb_sortPairs_perm (l : List (Int × Nat)) : (sortPairs l).Perm l := by
  rw [rb_sortPairs_eq]; exact InsSort.sortBy_perm _ l

theorem rb_sortPairs_sorted (l : List (Int × Nat)) : (sortPairs l).Pairwise (fun a b => a.1 ≤ b.1) := by
  rw [rb_sortPairs_eq]
  refine InsSort.sortBy_sorted (r := fun a b : Int × Nat => a.1 ≤ b.1) (fun _ _ _ => Int.le_trans) (fun a b h => ?_)
    (fun a b h => ?_) l
  · simp only [pairLe, Bool.or_eq_true, decide_eq_true_eq, Bool.and_eq_true, beq_iff_eq] at h
    omega
  · have h' : ¬ pairLe a b = true := by rw [h]; simp
    simp only [pairLe, Bool.or_eq_true, decide_eq_true_eq, Bool.and_eq_true, beq_iff_eq] at h'
    omega

theorem rb_firstEdge_le (p : Nat → Bool) : ∀ l : List (Int × Nat), l.Pairwise (fun a b => a.1 ≤ b.1) →
    ∀ c j, (c, j) ∈ l → p j = true → ∃ e, firstEdge p l = some e ∧ e ≤ c := by
  intro l
  induction l with
  | nil => intro _ c j h; cases h
  | cons y t ih =>
    intro hs c j hm hp
    obtain ⟨c', j'⟩ := y
    have hy := List.pairwise_cons.mp hs
    unfold firstEdge
    by_cases hj' : p j' = true
    · rw [if_pos hj']
      refine ⟨c', rfl, ?_⟩
      rcases List.mem_cons.mp hm with h | h
      · cases h; exact Int.le_refl _
      · exact hy.1 _ h
    · rw [if_neg hj']
      rcases List.mem_cons.mp hm with h | h
      · cases h; exact absurd hp hj'
      · exact ih hy.2 c j h hp

theorem rb_mem_cheapOf {n : Nat} {d : Array (Array Int)} {i j : Nat} (hj : j < n) (hij : i ≠ j)
    (hw : (d.getD j #[]).getD i 0 ≠ -1) : ((d.getD j #[]).getD i 0, j) ∈ cheapOf n d i := by
  unfold cheapOf
  rw [(rb_sortPairs_perm _).mem_iff, List.mem_filterMap]
  refine ⟨j, List.mem_range.mpr hj, ?_⟩
  simp [hij]
  simpa using hw

def rb_E (T : Tab) (s : St) (j : Nat) : Option Int := firstEdge (inPending s) (cheapOf T.n T.d j)

theorem rb_inPending_iff (s : St) (j : Nat) :
    inPending s j = true ↔ (s.must.testBit j = true ∨ (mb s).testBit j = true) := by
  unfold inPending mb has
  cases s.maybe with
  | none => simp
  | some y => simp

theorem rb_E_le {T : Tab} {s : St} {i j : Nat} (hi : i < T.n) (hij : i ≠ j) (hp : inPending s i = true)
    (hd : dfun T i j ≠ -1) : ∃ e, rb_E T s j = some e ∧ e ≤ dfun T i j := by
  unfold rb_E
  exact rb_firstEdge_le _ _ (rb_sortPairs_sorted _) _ i (rb_mem_cheapOf hi (fun e => hij e.symm) hd) hp

def rb_pcost (T : Tab) : Nat → List Nat → Int
  | _, [] => 0
  | p, j :: r => dI T p j + rb_pcost T j r

theorem rb_imax_pos : (0 : Int) ≤ imax := by unfold imax; omega

theorem rb_dI_nonneg {T : Tab} (hT : TabOk T) {i j : Nat} (hi : i < T.n) (hj : j < T.n) : 0 ≤ dI T i j := by
  unfold dI
  split
  · exact rb_imax_pos
  · have := hT.d_ge i j hi hj; omega

theorem rb_pcost_cases {T : Tab} (hT : TabOk T) (s : St) : ∀ (r : List Nat) (q : Nat),
    (∀ j ∈ q :: r, j < T.n ∧ inPending s j = true) → (q :: r).Nodup →
    0 ≤ rb_pcost T q r ∧ (imax ≤ rb_pcost T q r ∨
      ((∀ j ∈ r, (rb_E T s j).isSome = true) ∧ sum (r.filterMap (rb_E T s)) ≤ rb_pcost T q r)) := by
  intro r
  induction r with
  | nil =>
    intro q _ _
    refine ⟨Int.le_refl _, Or.inr ⟨?_, ?_⟩⟩
    · intro j hj; cases hj
    · show sum [] ≤ 0
      rw [SpecUtil.sum_nil]; exact Int.le_refl _
  | cons j r ih =>
    intro q hm hnd
    have hq := hm q List.mem_cons_self
    have hj := hm j (List.mem_cons_of_mem _ List.mem_cons_self)
    have hnd' := List.nodup_cons.mp hnd
    obtain ⟨h0, h1⟩ := ih j (fun x hx => hm x (List.mem_cons_of_mem _ hx)) hnd'.2
    have hd0 := rb_dI_nonneg hT hq.1 hj.1
    have hpc : rb_pcost T q (j :: r) = dI T q j + rb_pcost T j r := rfl
    refine ⟨by omega, ?_⟩
    by_cases hd : dfun T q j = -1
    · left
      have : dI T q j = imax := by unfold dI; rw [if_pos hd]
      omega
    · have hdI : dI T q j = dfun T q j := by unfold dI; rw [if_neg hd]
      have hqj : q ≠ j := fun e => hnd'.1 (e ▸ List.mem_cons_self)
      obtain ⟨e, he, hle⟩ := rb_E_le (s := s) hq.1 hqj hq.2 hd
      rcases h1 with h1 | ⟨h1, h2⟩
      · left; omega
      · right
        refine ⟨?_, ?_⟩
        · intro x hx
          rcases List.mem_cons.mp hx with rfl | hx
          · rw [he]; rfl
          · exact h1 x hx
        · rw [List.filterMap_cons, he]
          simp only [SpecUtil.sum_cons]
          omega

/-- what the last lines of the bound (`rubFinalFixed`, `rubFinalSat`) add to the distance from the position -/
def rb_X (ct nMust : Nat) (toMust toMaybe : List Int) : Int :=
  if nMust ≥ ct then sum (toMust.take (ct - 1))
  else if toMust.isEmpty then sum (toMaybe.take (ct - 1))
  else
    min (sum (toMust.take (toMust.length - 1)) + sum (toMaybe.take (ct - toMust.length)))
      (sum toMust + sum (toMaybe.take (ct - toMust.length - 1)))

theorem rb_satAdd_le {a b C : Int} (h0 : 0 ≤ C) (h : imax ≤ C ∨ a + b ≤ C) : satAdd a b ≤ C := by
  unfold satAdd
  have : imin ≤ 0 := by unfold imin; omega
  omega

theorem rb_sat_sound {ct nMust : Nat} {dist : Int} {toMust toMaybe : List Int} {r : Int}
    (h : rubFinalSat ct nMust dist toMust toMaybe = some r) :
    ct ≠ 0 ∧ ∀ C : Int, 0 ≤ C → (imax ≤ C ∨ dist + rb_X ct nMust toMust toMaybe ≤ C) → -r ≤ C := by
  unfold rubFinalSat at h
  unfold rb_X
  split at h
  · rename_i h1
    split at h
    · cases h
    · rename_i h2
      refine ⟨h2, ?_⟩
      intro C h0 hC
      obtain ⟨rfl, _, _⟩ := chk_eq_some h
      rw [if_pos h1] at hC
      have := rb_satAdd_le h0 hC
      omega
  · rename_i h1
    have hct : ct ≠ 0 := by omega
    refine ⟨hct, ?_⟩
    intro C h0 hC
    rw [if_neg h1] at hC
    split at h
    · rename_i h2
      obtain ⟨rfl, _, _⟩ := chk_eq_some h
      rw [if_pos h2] at hC
      have := rb_satAdd_le h0 hC
      omega
    · rename_i h2
      obtain ⟨rfl, _, _⟩ := chk_eq_some h
      rw [if_neg h2] at hC
      have := rb_satAdd_le h0 hC
      omega

theorem rb_sum_filterMap_split (f : Nat → Option Int) (P : Nat → Bool) (l : List Nat) :
    sum (l.filterMap f) = sum ((l.filter P).filterMap f) + sum ((l.filter (fun x => !P x)).filterMap f) := by
  induction l with
  | nil => simp [SpecUtil.sum_nil]
  | cons x t ih =>
    cases hP : P x <;> cases hf : f x <;>
      simp [hP, hf, SpecUtil.sum_cons, ih] <;> omega

theorem rb_length_filterMap_all (f : Nat → Option Int) (l : List Nat) (h : ∀ x ∈ l, (f x).isSome = true) :
    (l.filterMap f).length = l.length := by
  induction l with
  | nil => rfl
  | cons x t ih =>
    have hx := h x List.mem_cons_self
    obtain ⟨e, he⟩ := Option.isSome_iff_exists.mp hx
    rw [List.filterMap_cons, he]
    simp [ih (fun y hy => h y (List.mem_cons_of_mem _ hy))]

theorem rb_length_filter_split (P : Nat → Bool) (l : List Nat) :
    (l.filter P).length + (l.filter (fun x => !P x)).length = l.length := by
  induction l with
  | nil => rfl
  | cons x t ih => cases hP : P x <;> simp [hP] <;> omega

/-- the edges the bound sums when `m` mandatory and `y` optional jobs are entered, at most one more job is mandatory
    (`b ≤ 1`) and it has at most one edge (`c ≤ b`): at most the `m` cheapest mandatory and the `y` cheapest optional edges -/
theorem rb_X_le (tM tY : List Int) (m y c b : Nat) (hc : c ≤ b) (hb : b ≤ 1) (hl : tM.length = m + c) :
    rb_X (m + y + 1) (m + b) tM tY ≤ sum (tM.take m) + sum (tY.take y) := by
  unfold rb_X
  split
  · have hy : y = 0 := by omega
    subst hy
    rw [show m + 0 + 1 - 1 = m by omega, List.take_zero, SpecUtil.sum_nil, Int.add_zero]
    exact Int.le_refl _
  · split
    · next h2 =>
      have h3 : tM.length = 0 := by rw [List.isEmpty_iff.mp h2]; rfl
      have hm : m = 0 := by omega
      subst hm
      rw [show 0 + y + 1 - 1 = y by omega, List.take_zero, SpecUtil.sum_nil, Int.zero_add]
      exact Int.le_refl _
    · by_cases hc1 : c = 1
      · rw [show tM.length - 1 = m by omega, show m + y + 1 - tM.length = y by omega]
        exact Int.min_le_left _ _
      · have e1 : sum tM = sum (tM.take m) := by rw [show m = tM.length by omega, List.take_length]
        rw [show m + y + 1 - tM.length - 1 = y by omega, e1]
        exact Int.min_le_right _ _

/-- the counting argument of the bound: a completion `j₁ :: rest` enters the jobs `rest`, all of which have a cheapest
    pending edge (`E`); the mandatory ones among `j₁ :: rest` are exactly `LM`, the others are among `LY`: the edges the bound sums
    (`rb_X`) cost at most the cheapest edges of the jobs entered -/
theorem rb_comb (E : Nat → Option Int) (inM : Nat → Bool) (LM LY : List Nat) (j₁ : Nat) (rest : List Nat)
    (tM tY : List Int) (hnd : (j₁ :: rest).Nodup)
    (hM : ((j₁ :: rest).filter inM).Perm LM)
    (hY : ∀ j ∈ rest, inM j = false → j ∈ LY)
    (hE : ∀ j ∈ rest, (E j).isSome = true)
    (hsM : tM.Pairwise (· ≤ ·)) (hpM : tM.Perm (LM.filterMap E))
    (hsY : tY.Pairwise (· ≤ ·)) (hpY : LM.length < rest.length + 1 → tY.Perm (LY.filterMap E)) :
    rb_X (rest.length + 1) LM.length tM tY ≤ sum (rest.filterMap E) := by
  have hlM := rb_length_filterMap_all E (rest.filter inM) (fun x hx => hE x (List.mem_filter.mp hx).1)
  have hlY := rb_length_filterMap_all E (rest.filter (fun x => !inM x)) (fun x hx => hE x (List.mem_filter.mp hx).1)
  -- `j₁` adds at most one mandatory job (`b`) and one mandatory edge (`pre`) to those of `rest`
  obtain ⟨pre, b, hpl, hb, hLM, hpre⟩ : ∃ (pre : List Int) (b : Nat), pre.length ≤ b ∧ b ≤ 1 ∧
      LM.length = (rest.filter inM).length + b ∧ tM.Perm ((rest.filter inM).filterMap E ++ pre) := by
    by_cases hj : inM j₁ = true
    · rw [List.filter_cons, if_pos hj] at hM
      refine ⟨[j₁].filterMap E, 1, List.length_filterMap_le _ _, Nat.le_refl _, by rw [← hM.length_eq]; rfl, hpM.trans ?_⟩
      have h2 := (hM.symm.trans (List.perm_append_singleton _ _).symm).filterMap E
      rwa [List.filterMap_append] at h2
    · rw [List.filter_cons, if_neg hj] at hM
      refine ⟨[], 0, Nat.le_refl _, Nat.zero_le _, by rw [← hM.length_eq]; rfl, ?_⟩
      rw [List.append_nil]; exact hpM.trans (hM.symm.filterMap E)
  have hkM := rb_take_le hsM hpre
  rw [hlM] at hkM
  have htM : tM.length = (rest.filter inM).length + pre.length := by rw [hpre.length_eq, List.length_append, hlM]
  have hlen := rb_length_filter_split inM rest
  have hkY : sum (tY.take (rest.filter (fun x => !inM x)).length) ≤ sum ((rest.filter (fun x => !inM x)).filterMap E) := by
    by_cases hy : (rest.filter (fun x => !inM x)).length = 0
    · rw [hy, List.length_eq_zero_iff.mp hy]; exact Int.le_refl _
    · have hsub : ∀ x ∈ rest.filter (fun x => !inM x), x ∈ LY := fun x hx =>
        hY x (List.mem_filter.mp hx).1 (by simpa using (List.mem_filter.mp hx).2)
      obtain ⟨C, hC⟩ := InsSort.exists_perm_append ((List.nodup_cons.mp hnd).2.sublist List.filter_sublist) hsub
      have h1 := hC.filterMap E
      rw [List.filterMap_append] at h1
      have := rb_take_le hsY ((hpY (by omega)).trans h1)
      rwa [hlY] at this
  have hX := rb_X_le tM tY _ (rest.filter (fun x => !inM x)).length _ b hpl hb htM
  rw [rb_sum_filterMap_split E inM rest, ← hlen, hLM]
  omega

structure rb_Ex (T : Tab) (u : St) : Prop where
  inv : Inv T u
  maybe : u.maybe = none
  card : card u.must = nv T - u.depth
  last : u.depth < nv T → u.must.testBit (T.n - 1) = true

theorem rb_mdist_exact {T : Tab} (hT : TabOk T) {u : St} {p j : Nat} (hu : u.prev = .job p) (hp : p < T.n)
    (hj : j < T.n) : mdist T u j = dI T p j := by
  unfold mdist minDist?
  rw [hu]
  simp only [Option.bind_eq_bind]
  rw [hT.dist p j hp hj]
  rfl

theorem rb_Ex.dom {T : Tab} (hT : TabOk T) (hrow : ∀ j, j < T.n - 1 → dfun T (T.n - 1) j = -1) {u : St} (hu : rb_Ex T u)
    (hd : u.depth < nv T) {j : Nat} (hj : InDom T u j) :
    u.must.testBit j = true ∧ (u.depth + 1 < nv T → j ≠ T.n - 1) := by
  refine ⟨?_, fun hd' => inDom_ne_last hT hrow hu.inv (hu.last hd) hd' hj⟩
  unfold InDom at hj
  split at hj
  · subst hj
    exact hu.last hd
  · rcases hj.1 with h1 | h1
    · exact h1
    · rw [mb_of_none hu.maybe, Nat.zero_testBit] at h1; cases h1

theorem rb_Ex.succ {T : Tab} (hT : TabOk T) {u : St} (hu : rb_Ex T u) (hd : u.depth < nv T) {j : Nat} (hj : InDom T u j)
    (hjU : u.must.testBit j = true ∧ (u.depth + 1 < nv T → j ≠ T.n - 1)) : rb_Ex T (succSt T u j) := by
  refine ⟨inv_succ hT hu.inv hd hj, ?_, ?_, ?_⟩
  · show u.maybe.map _ = none
    rw [hu.maybe]; rfl
  · show SopModel.card (diff u.must (single j)) = nv T - (u.depth + 1)
    have hc1 := card_diff_single hjU.1
    have hc2 := hu.card
    omega
  · intro hd'
    show (diff u.must (single j)).testBit (T.n - 1) = true
    rw [testBit_diff, testBit_single, hu.last hd]
    simp [hjU.2 hd']

theorem rb_path {T : Tab} (hT : TabOk T) (hrow : ∀ j, j < T.n - 1 → dfun T (T.n - 1) j = -1) :
    ∀ (fuel : Nat) (u : St) (p : Nat) (h : Int), rb_Ex T u → u.prev = .job p → nv T - u.depth ≤ fuel →
    bestRemF T .code fuel u = some h →
    ∃ js : List Nat, js.Nodup ∧ js.length = nv T - u.depth ∧ (∀ j ∈ js, u.must.testBit j = true) ∧
      h = -(rb_pcost T p js) := by
  intro fuel
  induction fuel with
  | zero =>
    intro u p h hu hp hf hh
    rw [bestRemF_done 0 u (by omega)] at hh
    cases hh
    exact ⟨[], List.nodup_nil, (by rw [List.length_nil]; omega), (fun j hj => by cases hj), rfl⟩
  | succ fuel ih =>
    intro u p h hu hp hf hh
    by_cases hd : u.depth < nv T
    · obtain ⟨j, hj, h', hb, hh'⟩ := bestRemF_att hT hu.inv hd fuel hh
      have hjU := hu.dom hT hrow hd hj
      obtain ⟨js, hnd, hlen, hmem, hcost⟩ := ih (succSt T u j) j h' (hu.succ hT hd hj hjU) rfl
        (by show nv T - (u.depth + 1) ≤ fuel; omega) hb
      have hmem' : ∀ x ∈ js, u.must.testBit x = true ∧ j ≠ x := by
        intro x hx
        have := hmem x hx
        rw [show (succSt T u j).must = diff u.must (single j) from rfl, testBit_diff, testBit_single] at this
        simp only [Bool.and_eq_true, Bool.not_eq_true', decide_eq_false_iff_not] at this
        exact this
      refine ⟨j :: js, List.nodup_cons.mpr ⟨fun hjm => (hmem' j hjm).2 rfl, hnd⟩, ?_, ?_, ?_⟩
      · rw [List.length_cons, hlen]
        exact Nat.succ_pred_eq_of_pos (Nat.sub_pos_of_lt hd)
      · intro x hx
        rcases List.mem_cons.mp hx with rfl | hx
        · exact hjU.1
        · exact (hmem' x hx).1
      · rw [hh', hcost, rb_mdist_exact hT hp (hu.inv.prev_lt p (by rw [isPrev, hp])) (hj.lt hT hu.inv)]
        show _ = -(dI T p j + rb_pcost T j js)
        omega
    · rw [bestRemF_done (fuel + 1) u (by omega)] at hh
      cases hh
      exact ⟨[], List.nodup_nil, (by rw [List.length_nil]; omega), (fun j hj => by cases hj), rfl⟩

theorem rb_minDistAll (T : Tab) (s : St) : ∀ (js : List Nat) (acc r : Int), minDistAll? T s acc js = some r →
    r ≤ acc ∧ ∀ i ∈ js, r ≤ mdist T s i := by
  intro js
  induction js with
  | nil =>
    intro acc r h
    unfold minDistAll? at h
    simp only [List.foldlM_nil, pure, Option.some.injEq] at h
    subst h
    exact ⟨Int.le_refl _, fun i hi => by cases hi⟩
  | cons x t ih =>
    intro acc r h
    unfold minDistAll? at h
    simp only [List.foldlM_cons, Option.bind_eq_bind, Option.bind_eq_some_iff, Option.map_eq_some_iff] at h
    obtain ⟨a', ⟨w, hw, rfl⟩, h'⟩ := h
    obtain ⟨h1, h2⟩ := ih (min acc w) r h'
    have hm : mdist T s x = w := by unfold mdist; rw [hw]; rfl
    refine ⟨by omega, ?_⟩
    intro i hi
    rcases List.mem_cons.mp hi with rfl | hi
    · omega
    · exact h2 i hi

theorem rb_ex_of_conc {T : Tab} {s u : St} (hs : Inv T s) (hc : Conc T s u)
    (hlast : s.depth < nv T → s.must.testBit (T.n - 1) = true) : rb_Ex T u := by
  have hmb : ∀ x, (mb u).testBit x = false := by intro x; simp [mb, hc.maybe]
  refine ⟨⟨?_, ?_, ?_, ?_, ?_, ?_⟩, hc.maybe, ?_, ?_⟩
  · rw [hc.depth]; exact hs.depth_le
  · intro x hx
    rcases hc.hi x hx with h | h
    · exact hs.must_lt x h
    · exact hs.maybe_lt x h
  · intro x hx; rw [hmb] at hx; cases hx
  · intro x _; exact hmb x
  · obtain ⟨p, hp, hip, _⟩ := hc.prev
    intro q hq
    simp only [isPrev, hp] at hq
    subst hq
    exact hs.prev_lt _ hip
  · rw [hc.card, hc.depth]; omega
  · rw [hc.card, hc.depth]
  · intro hd
    rw [hc.depth] at hd
    exact hc.lo _ (hlast hd)

theorem rb_rubWith_spec {T : Tab} (fin : Nat → Nat → Int → List Int → List Int → Option Int) (hT : TabOk T) {s : St}
    (hs : Inv T s) {r : Int} (hr : rubWith? T fin s = some r) :
    ∃ (d2 : Int) (maybes : List Nat),
      fin (nv T - s.depth) (bits s.must).length d2 (sortInts ((bits s.must).filterMap (rb_E T s)))
        (sortInts (maybes.filterMap (rb_E T s))) = some r ∧
      (∀ i, s.must.testBit i = true → d2 ≤ mdist T s i) ∧
      ((bits s.must).length < nv T - s.depth →
        maybes = bits (mb s) ∧ ∀ i, (mb s).testBit i = true → d2 ≤ mdist T s i) := by
  unfold rubWith? at hr
  simp only [Option.bind_eq_bind, Option.bind_eq_some_iff] at hr
  obtain ⟨nbv, h1, ct, h2, rm, h3, dist, h4, rmy, h5, d2, h6, h7⟩ := hr
  generalize hmy : (if (decide ((bits s.must).length < ct) && s.maybe.isSome) = true then bits (s.maybe.getD 0)
    else []) = maybes at h5 h6 h7
  have hnbv : nbv = nv T := by
    unfold nbVars? at h1
    rw [if_neg (by have := hT.n_pos; omega)] at h1
    cases h1; rfl
  subst hnbv
  have hct : ct = nv T - s.depth := by
    split at h2
    · cases h2
    · cases h2; rfl
  subst hct
  have hmy_mem : ∀ i ∈ maybes, (mb s).testBit i = true := by
    intro i hi
    rw [← hmy] at hi
    split at hi
    · exact mem_bits.mp hi
    · cases hi
  rw [EMax.mapM_total _ (cheapOf T.n T.d) _ (fun i hi => hT.cheap i (hs.must_lt i (mem_bits.mp hi)).2)] at h3
  rw [EMax.mapM_total _ (cheapOf T.n T.d) _ (fun i hi => hT.cheap i (hs.maybe_lt i (hmy_mem i hi)).2)] at h5
  cases h3
  cases h5
  rw [List.filterMap_map, List.filterMap_map] at h7
  obtain ⟨hd1, hd1'⟩ := rb_minDistAll T s _ _ _ h4
  obtain ⟨hd2, hd2'⟩ := rb_minDistAll T s _ _ _ h6
  refine ⟨d2, maybes, h7, fun i hi => Int.le_trans hd2 (hd1' i (mem_bits.mpr hi)), fun hlt => ?_⟩
  have hmaybes : maybes = bits (mb s) := by
    rw [← hmy]
    cases hm : s.maybe with
    | none => simp [mb, hm, bits_zero]
    | some y => simp [mb, hm, hlt]
  exact ⟨hmaybes, fun i hi => hd2' i (by rw [hmaybes]; exact mem_bits.mpr hi)⟩

/-- the bound of the repaired code dominates the value-to-go of every exact state `s` stands for.  `hrow` is `DomOk.last_row`,
    true on every instance of the input domain and needed (`rb_cex_refutes`); `hlast` is part of `validB` -/
theorem rub_conc' {T : Tab} (hT : TabOk T) (hrow : ∀ j, j < T.n - 1 → dfun T (T.n - 1) j = -1) {s u : St}
    (hs : Inv T s) (hlast : s.depth < nv T → s.must.testBit (T.n - 1) = true) (hc : Conc T s u) {r : Int}
    (hr : rub? T s = some r) : bestRem T u ≤ some r := by
  cases hb : bestRem T u with
  | none => exact EInt.none_le _
  | some h =>
    obtain ⟨p, hprev, hisp, hpU⟩ := hc.prev
    have hEx := rb_ex_of_conc hs hc hlast
    unfold bestRem at hb
    obtain ⟨js, hnd, hlen, hmem, hcost⟩ := rb_path hT hrow _ u p h hEx hprev (Nat.le_refl _) hb
    rw [hc.depth] at hlen
    obtain ⟨d2, maybes, h7, hdM, hdY⟩ := rb_rubWith_spec rubFinalSat hT hs hr
    obtain ⟨hct0, hkey⟩ := rb_sat_sound h7
    cases js with
    | nil => exact absurd hlen.symm hct0
    | cons j₁ rest =>
      have hmemS : ∀ j ∈ j₁ :: rest, j < T.n ∧ inPending s j = true := fun j hj =>
        ⟨(hEx.inv.must_lt j (hmem j hj)).2, (rb_inPending_iff s j).mpr (hc.hi j (hmem j hj))⟩
      obtain ⟨hpc0, hpc⟩ := rb_pcost_cases hT s rest j₁ hmemS hnd
      have hj1n : j₁ < T.n := (hmemS j₁ List.mem_cons_self).1
      have hd0 := rb_dI_nonneg hT (hs.prev_lt p hisp) hj1n
      have hC : rb_pcost T p (j₁ :: rest) = dI T p j₁ + rb_pcost T j₁ rest := rfl
      -- the jobs of the path are all the jobs of `u`
      have hUperm : (bits u.must).Perm (j₁ :: rest) := by
        obtain ⟨C, h1⟩ := InsSort.exists_perm_append (B := bits u.must) hnd (fun x hx => mem_bits.mpr (hmem x hx))
        have hl := h1.length_eq
        rw [List.length_append] at hl
        have hcard : (bits u.must).length = nv T - s.depth := hc.card
        have h0 : C.length = 0 := by omega
        rwa [List.length_eq_zero_iff.mp h0, List.append_nil] at h1
      have hM : ((j₁ :: rest).filter s.must.testBit).Perm (bits s.must) := by
        apply (List.perm_ext_iff_of_nodup (hnd.sublist List.filter_sublist) (bits_nodup _)).mpr
        intro a
        simp only [List.mem_filter, mem_bits]
        exact ⟨fun h => h.2, fun ha => ⟨hUperm.mem_iff.mp (mem_bits.mpr (hc.lo a ha)), ha⟩⟩
      have hY : ∀ j ∈ rest, s.must.testBit j = false → j ∈ bits (mb s) := by
        intro j hj hjm
        rcases hc.hi j (hmem j (List.mem_cons_of_mem _ hj)) with h | h
        · rw [hjm] at h; cases h
        · exact mem_bits.mpr h
      -- the first arc: `d2` is at most the distance to `j₁`, be it mandatory or (then the optional jobs were read) optional
      have hfirst : d2 ≤ dI T p j₁ := by
        have hmd : mdist T s j₁ ≤ dI T p j₁ := (mdist_spec hT hs.prev_lt hj1n).2.2.1 p hisp
        by_cases hj1m : s.must.testBit j₁ = true
        · exact Int.le_trans (hdM j₁ hj1m) hmd
        · have hlt : (bits s.must).length < nv T - s.depth := by
            have hl := hM.length_eq
            rw [List.filter_cons, if_neg hj1m] at hl
            have := List.length_filter_le s.must.testBit rest
            rw [List.length_cons] at hlen
            omega
          exact Int.le_trans ((hdY hlt).2 j₁ ((hc.hi j₁ (hmem j₁ List.mem_cons_self)).resolve_left hj1m)) hmd
      apply (EInt.some_le_some _ _).mpr
      have hfinal := hkey (rb_pcost T p (j₁ :: rest)) (by omega) (by
        rcases hpc with hbig | ⟨hallE, hsum⟩
        · left; omega
        · right
          have hX := rb_comb (rb_E T s) s.must.testBit (bits s.must) (bits (mb s)) j₁ rest
            (sortInts ((bits s.must).filterMap (rb_E T s))) (sortInts (maybes.filterMap (rb_E T s)))
            hnd hM hY hallE (rb_sortInts_sorted _) (rb_sortInts_perm _) (rb_sortInts_sorted _)
            (fun hlt => by rw [(hdY (by rw [← hlen]; exact hlt)).1]; exact rb_sortInts_perm _)
          rw [← hlen, List.length_cons]
          omega)
      omega

theorem rub_conc {T : Tab} (hT : TabOk T) (hD : DomOk T) {s u : St} (hs : Inv T s)
    (hlast : s.depth < nv T → s.must.testBit (T.n - 1) = true) (hc : Conc T s u) {r : Int}
    (hr : rub? T s = some r) : bestRem T u ≤ some r :=
  rub_conc' hT hD.last_row hs hlast hc hr

theorem rubFixed_conc {T : Tab} (hT : TabOk T) (hD : DomOk T) {s u : St} (hs : Inv T s)
    (hlast : s.depth < nv T → s.must.testBit (T.n - 1) = true) (hc : Conc T s u) {r : Int}
    (hr : rubFixed? T s = some r) : bestRem T u ≤ some r :=
  rub_conc hT hD hs hlast hc (rub?_eq_of_rubFixed? T hr)

/-- three jobs, the last one NOT preceded by job 1 (outside the input domain) -/
def rb_cexRows : List (List Int) := [[0, 5, 1], [-1, 0, 5], [-1, 5, 0]]
def rb_cexT : Tab := tabOf 3 rb_cexRows

theorem rb_cex_not_inDomain : inDomain 3 rb_cexRows = false := by decide +kernel

/-- at the root the bound is `-6` (`1` from job 0 + the cheaper of the edges `2 → 1`, `1 → 2`), the DP's best "completion" is
    `0 → 2 → 2` for `1 + 0` -/
theorem rb_cex_values : validB rb_cexT (initSt rb_cexT) = true ∧ initSt rb_cexT ∈ concretize rb_cexT (initSt rb_cexT) ∧
    rubFixed? rb_cexT (initSt rb_cexT) = some (-6) ∧ rub? rb_cexT (initSt rb_cexT) = some (-6) ∧
    bestRem rb_cexT (initSt rb_cexT) = some (-1) := by decide +kernel

/-- without `DomOk.last_row` the corrected bound is not admissible: job 1 does not precede the last job, so the DP schedules
    the last job first AND last (`domain?_last`: the last decision is the last job whatever the state holds), a "completion"
    that visits it twice and leaves job 1 out, cheaper than the bound.  Not reachable: `inDomain` demands the last row to be
    precedence marks (`rb_cex_not_inDomain`) -/
theorem rb_cex_refutes : ¬ RubFixedAdmissibleStmt rb_cexT := by
  intro h
  have hc : bestRemConc rb_cexT (initSt rb_cexT) = some (-1) := by decide +kernel
  have h1 := h (initSt rb_cexT) (-6) rb_cex_values.1 rb_cex_values.2.2.1
  rw [hc] at h1
  exact absurd h1 (by decide)

#print axioms rubFixed_conc
#print axioms rub_conc
end Ddo.Examples.SopModel
