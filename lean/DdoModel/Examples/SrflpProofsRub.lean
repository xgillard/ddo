import DdoModel.Examples.SrflpProofsRubPath
import DdoModel.Examples.SrflpProofsRubCut
import DdoModel.Examples.SrflpProofsRubEdge
import DdoModel.Examples.SrflpProofsRubLoops
/-! The srflp rough bound (repaired: exactly compared ratios) is admissible on ALL good states — merged states (states with a
    `maybe_place`) and their descendants included.  A completion costs at least `GG l cut + EE l flow` (`SrflpProofsRubPath`).
    Cut part: `GG l cut` is at least the weighted completion time of SOME order of the jobs of the bound, and the bound takes
    them in Smith's order, the cheapest (`SrflpProofsRubCut`, `SrflpProofsRubSmith`).  Edge part: the last loop of the bound is the
    dot product of the flows it keeps, decreasing, with increasing weights; the flows a completion pays, position by position,
    dominate the kept ones in counting, and the rearrangement inequality applies (`SrflpProofsRubEdge`, `SrflpProofsRubRearr`).
    `SrflpProofsRubLoops` says what the two table walks with quotas return; here the pieces are put together.
    The statement as written (any `Tab` with `InstOk`) is false: `InstOk` does not tie `sorted_lengths` / `sorted_flows` to the
    instance (`rubAdmissible_needs_tabSorted`; not reachable). -/

namespace Ddo.Examples.SrflpModel
open Ddo Ddo.Examples Ddo.Examples.Util Ddo.SpecUtil

variable (T : Tab)

theorem getElem?_eq_some_getD (L : List Int) (a : Nat) (h : a < L.length) : L[a]? = some (L.getD a 0) := by
  rw [List.getD_eq_getElem?_getD, List.getElem?_eq_getElem h]
  rfl

/-- the jobs of the optional picks: the `i`-th least length of `maybe_place` with the `(r-1-i)`-th least cut -/
def optJobs (s : St) (Lm : List Int) (r : Nat) : List ((Int × Int × Int) × Int × Int) :=
  (List.range r).map (fun i =>
    (ratioKey ((sortInts ((mbOf s).map (cutAt s))).getD (r - 1 - i) 0) (Lm.getD i 0), Lm.getD i 0,
      (sortInts ((mbOf s).map (cutAt s))).getD (r - 1 - i) 0))

theorem rub_good_some {s : St} (hG : Good T s) (hd : s.depth < T.n)
    (hLm : (lengthsLoop T s (T.n - s.depth) (T.n - s.depth - s.must.length)).2.length = T.n - s.depth - s.must.length)
    (eb : Int)
    (he : edgeBound? (flowsLoop T s ((T.n - s.depth) * (T.n - s.depth - 1) / 2) (s.must.length * (T.n - s.depth - s.must.length))
              ((T.n - s.depth - s.must.length) * (T.n - s.depth - s.must.length - 1) / 2))
            (lengthsLoop T s (T.n - s.depth) (T.n - s.depth - s.must.length)).1
            ((T.n - s.depth) * (T.n - s.depth - 1) / 2) (T.n - s.depth) = some eb) :
    rubExactRatio? T s =
      some (-(((((s.must.map (fun i => (ratioKey (cutAt s i) (lenOf T i), lenOf T i, cutAt s i))) ++
                optJobs s (lengthsLoop T s (T.n - s.depth) (T.n - s.depth - s.must.length)).2
                  (T.n - s.depth - s.must.length)).mergeSort
              (fun a b => leRatioExact b a)).foldl
                (fun (acc : Int × Int) r => (acc.1 + acc.2 * r.2.2, acc.2 + r.2.1)) (0, 0)).1 + eb)) := by
  have hml := hG.must_le
  have hfill := hG.fill
  unfold rubExactRatio? rubWith?
  have h1 : ¬ T.n < s.depth := by omega
  have h2 : ¬ T.n - s.depth = 0 := by omega
  have h3 : ¬ T.n - s.depth < s.must.length := by omega
  cases hm : s.maybe with
  | none =>
    have hr0 : T.n - s.depth - s.must.length = 0 := by
      simp only [mbOf, hm, Option.getD_none, List.length_nil] at hfill
      omega
    simp only [h1, h2, h3, if_false, Option.pure_def, Option.bind_eq_bind, Option.bind_some, List.append_nil]
    rw [he]
    simp only [optJobs, hr0, List.range_zero, List.map_nil, List.append_nil]
    rfl
  | some mb =>
    have hmb : mbOf s = mb := by simp [mbOf, hm]
    have hrl : T.n - s.depth - s.must.length ≤ (sortInts (mb.map (fun i => s.cut.getD i 0))).length := by
      unfold sortInts
      rw [List.length_mergeSort, List.length_map, ← hmb]
      omega
    simp only [h1, h2, h3, if_false, Option.pure_def, Option.bind_eq_bind]
    rw [EMax.mapM_total _ (fun i =>
        (ratioKey ((sortInts (mb.map (fun i => s.cut.getD i 0))).getD (T.n - s.depth - s.must.length - 1 - i) 0)
            ((lengthsLoop T s (T.n - s.depth) (T.n - s.depth - s.must.length)).2.getD i 0),
          (lengthsLoop T s (T.n - s.depth) (T.n - s.depth - s.must.length)).2.getD i 0,
          (sortInts (mb.map (fun i => s.cut.getD i 0))).getD (T.n - s.depth - s.must.length - 1 - i) 0))]
    · simp only [Option.bind_some]
      rw [he]
      simp only [Option.bind_some, optJobs, hmb, cutAt]
      rfl
    · intro a ha
      have ha' : a < T.n - s.depth - s.must.length := List.mem_range.mp ha
      rw [getElem?_eq_some_getD _ a (by omega), getElem?_eq_some_getD _ _ (by omega)]
      rfl

set_option linter.unusedVariables false in
theorem cum_le_merged (l : Nat → Int) (M Y q : List Nat) (rr : Nat) (hq : q.Nodup) (hM : M.Nodup) (hY : Y.Nodup)
    (hdisj : ∀ i ∈ M, i ∉ Y) (hqMY : ∀ i ∈ q, i ∈ M ∨ i ∈ Y) (hnon : nonM M q = rr) (hrY : rr ≤ Y.length)
    (Ls : List Int) (hLp : Ls.Perm (M.map l ++ (sortInts (Y.map l)).take rr)) (hLs : Ls.Pairwise (· ≤ ·))
    (A : List Nat) (hA : A.Sublist q) : (Ls.take A.length).sum ≤ (A.map l).sum := by
  -- the index list of the `rr` least lengths of `Y`
  obtain ⟨Ys, hYsdef⟩ : ∃ Ys, Ys = Y.mergeSort (fun a b => decide (l a ≤ l b)) := ⟨_, rfl⟩
  have hYsp : Ys.Perm Y := hYsdef ▸ List.mergeSort_perm Y _
  have hYl : (sortInts (Y.map l)).take rr = (Ys.take rr).map l := by
    rw [sortInts_map, List.map_take, hYsdef]
  have hLp' : Ls.Perm ((M ++ Ys.take rr).map l) := by
    rw [List.map_append, ← hYl]; exact hLp
  have hsort : sortInts ((M ++ Ys.take rr).map l) = Ls := eq_sortInts hLp' hLs
  -- split `A`
  let AM := A.filter (fun i => M.contains i)
  let AS := A.filter (fun i => !M.contains i)
  have hAn : A.Nodup := List.Nodup.sublist hA hq
  have hASlen : AS.length ≤ rr := by
    rw [← hnon]
    exact (hA.filter _).length_le
  have hASY : ∀ a ∈ AS, a ∈ Y := by
    intro a ha
    have := List.mem_filter.mp ha
    rcases hqMY a (hA.subset this.1) with h | h
    · simp [h] at this
    · exact h
  have hlen : A.length = AM.length + AS.length := length_eq_filter_add_nonM M A
  have hsum : (A.map l).sum = (AM.map l).sum + (AS.map l).sum := sum_filter_partition (fun i => M.contains i) l A
  -- the replacement choice
  have hYsn : Ys.Nodup := hYsp.nodup_iff.mpr hY
  have hA'n : (AM ++ Ys.take AS.length).Nodup := by
    rw [List.nodup_append]
    refine ⟨hAn.filter _, List.Nodup.sublist (List.take_sublist _ _) hYsn, ?_⟩
    intro a ha b hb e
    subst e
    have h1 : a ∈ M := by simpa using (List.mem_filter.mp ha).2
    have h2 : a ∈ Y := hYsp.mem_iff.mp (List.mem_of_mem_take hb)
    exact hdisj a h1 h2
  have hA's : ∀ a ∈ AM ++ Ys.take AS.length, a ∈ M ++ Ys.take rr := by
    intro a ha
    rcases List.mem_append.mp ha with h | h
    · exact List.mem_append_left _ (by simpa using (List.mem_filter.mp h).2)
    · refine List.mem_append_right _ ?_
      have : Ys.take AS.length = (Ys.take rr).take AS.length := by
        rw [List.take_take, Nat.min_eq_left hASlen]
      rw [this] at h
      exact List.mem_of_mem_take h
  have h1 := leastSum_le_choice (AM ++ Ys.take AS.length) (M ++ Ys.take rr) l l hA'n hA's (fun _ _ => Int.le_refl _)
  have hA'len : (AM ++ Ys.take AS.length).length = A.length := by
    rw [List.length_append, List.length_take, hYsp.length_eq]
    omega
  rw [hA'len] at h1
  unfold leastSum at h1
  rw [hsort, sum_eq, sum_eq, List.map_append, List.sum_append] at h1
  -- the least lengths of `Y` against the optional picks of `A`
  have h2 := leastSum_le_choice AS Y l l (hAn.filter _) hASY (fun _ _ => Int.le_refl _)
  unfold leastSum at h2
  rw [sortInts_map, ← hYsdef, ← List.map_take, sum_eq, sum_eq] at h2
  omega

theorem pathCost_le_rub_good (hS : TabSorted T) (hI : Inst T) {s : St} (hG : Good T s) (hd : s.depth < T.n)
    (q : List Nat) (hp : VPath T s q) :
    ∃ r, rubExactRatio? T s = some r ∧ runCost T s q ≤ r := by
  obtain ⟨hL2, hL1p, hL1s⟩ := lengthsLoop_merged T hS hG hd
  obtain ⟨hFp, hFs⟩ := flowsLoop_merged T hS hI hG hd
  have hml := hG.must_le
  have hfill := hG.fill
  have hnon := vpath_nonM T hG hp
  have hMn := pairwise_lt_nodup hG.must_sorted
  have hYn := pairwise_lt_nodup hG.maybe_sorted
  have hlpos : ∀ i, i ∈ s.must ∨ i ∈ mbOf s → 0 < lenOf T i := fun i hi => hI.len_pos i (hG.lt i hi)
  have hsl : (sortInts ((mbOf s).map (lenOf T))).length = (mbOf s).length := by
    unfold sortInts; rw [List.length_mergeSort, List.length_map]
  have hrY : (T.n - s.depth - s.must.length) ≤ (mbOf s).length := by omega
  have hLmpos : ∀ x ∈ (sortInts ((mbOf s).map (lenOf T))).take (T.n - s.depth - s.must.length), 0 < x := by
    intro x hx
    have h1 : x ∈ sortInts ((mbOf s).map (lenOf T)) := List.mem_of_mem_take hx
    unfold sortInts at h1
    obtain ⟨i, hi, rfl⟩ := List.mem_map.mp ((List.mergeSort_perm _ _).mem_iff.mp h1)
    exact hlpos i (Or.inr hi)
  have hLmget : ∀ i, i < T.n - s.depth - s.must.length →
      0 < ((sortInts ((mbOf s).map (lenOf T))).take (T.n - s.depth - s.must.length)).getD i 0 := by
    intro i hi
    apply hLmpos
    rw [List.getD_eq_getElem?_getD, List.getElem?_eq_getElem (by rw [List.length_take, hsl]; omega)]
    exact List.getElem_mem _
  -- cut part
  obtain ⟨js, hjp, hjw⟩ := cut_part (lenOf T) (cutAt s) s.must (mbOf s) q hp.nodup hMn hYn hp.must hp.mem hG.disj
    (fun i hi => Int.le_of_lt (hlpos i hi)) hG.cut_nonneg ((sortInts ((mbOf s).map (lenOf T))).take (T.n - s.depth - s.must.length))
    (by rw [List.length_take, hsl, hnon]; omega)
    (by
      intro A hAn hAs hAl
      rw [hnon] at hAl
      rw [List.take_take, Nat.min_eq_left hAl]
      exact take_sortInts_le A (mbOf s) (lenOf T) hAn hAs)
  rw [hnon] at hjp
  -- edge part
  obtain ⟨eb, heb, hebl⟩ := edge_part (lenOf T) (flow T) s.must (mbOf s) q hp.nodup hMn hYn hp.must hp.mem hG.disj
    (by rw [hp.len]; omega) (fun i hi => Int.le_of_lt (hlpos i hi))
    (fun i j hi hj => hI.flow_nonneg i j (hG.lt i hi) (hG.lt j hj))
    (fun i j hi hj => hI.flow_symm i j (hG.lt i hi) (hG.lt j hj))
    (lengthsLoop T s (T.n - s.depth) (T.n - s.depth - s.must.length)).1
    (by rw [hL1p.length_eq, List.length_append, List.length_map, List.length_take, hsl, hp.len]; omega)
    (by
      intro x hx
      rcases List.mem_append.mp (hL1p.mem_iff.mp hx) with h | h
      · obtain ⟨i, hi, rfl⟩ := List.mem_map.mp h
        exact Int.le_of_lt (hlpos i (Or.inl hi))
      · exact Int.le_of_lt (hLmpos x h))
    (fun A hA => cum_le_merged (lenOf T) s.must (mbOf s) q (T.n - s.depth - s.must.length) hp.nodup hMn hYn hG.disj hp.mem hnon hrY _ hL1p hL1s A hA)
    _ hFs (by rw [hnon]; exact hFp)
  rw [hp.len] at heb
  have hrub := rub_good_some T hG hd (by rw [hL2, List.length_take, hsl]; omega) eb heb
  refine ⟨_, hrub, ?_⟩
  -- Smith's rule
  have hcut := cutBound_le
    ((s.must.map (fun i => (ratioKey (cutAt s i) (lenOf T i), lenOf T i, cutAt s i))) ++
      optJobs s (lengthsLoop T s (T.n - s.depth) (T.n - s.depth - s.must.length)).2 (T.n - s.depth - s.must.length))
    (by
      intro x hx
      rcases List.mem_append.mp hx with h | h
      · obtain ⟨i, hi, rfl⟩ := List.mem_map.mp h
        exact hlpos i (Or.inl hi)
      · unfold optJobs at h
        obtain ⟨i, hi, rfl⟩ := List.mem_map.mp h
        have hi' := List.mem_range.mp hi
        rw [hL2]
        exact hLmget i hi')
    js (by
      rw [hL2]
      refine hjp.trans (List.Perm.of_eq ?_)
      simp only [optJobs, List.map_append, List.map_map]
      rfl)
  have hmain := pathCost_le_GG_EE T hI q s hG hp
  omega

/-- **the repaired rough bound is admissible on EVERY good non-terminal state** (merged states and their descendants included) -/
theorem rubAdmissible_good (h64 : T.n ≤ 64) (hS : TabSorted T) (hI : Inst T) {s : St} (hG : Good T s) (hd : s.depth < T.n)
    (r : Int) (h : rubExactRatio? T s = some r) : bestRem T s ≤ (some r : EInt) := by
  unfold bestRem
  apply bestRemF_le_vpaths T h64 hI _ s r hG rfl
  intro q hq
  obtain ⟨r', hr', hle⟩ := pathCost_le_rub_good T hS hI hG hd q hq
  rw [h] at hr'
  have := Option.some.inj hr'
  omega

theorem rub_good_defined (hS : TabSorted T) (hI : Inst T) {s : St} (hG : Good T s) (hd : s.depth < T.n) :
    ∃ r, rubExactRatio? T s = some r := by
  obtain ⟨r, hr, _⟩ := pathCost_le_rub_good T hS hI hG hd _ (exists_vpath T hG)
  exact ⟨r, hr⟩

/-- **`RubAdmissibleExactRatioStmt` in full on the states with sets listed increasingly** (what `Set64` iterates), for tables
    built as `Srflp::new` builds them (`TabSorted`: false without it, `rubAdmissible_needs_tabSorted`) and at most 64
    departments. -/
theorem rubAdmissible_exactRatio (h64 : T.n ≤ 64) (hS : TabSorted T) (hT : InstOk T) (s : St) (r : Int) (hs : StOk T s)
    (hset : SetSt s) (h : rubExactRatio? T s = some r) : bestRem T s ≤ (some r : EInt) := by
  have hI := inst_of_instOk T hT
  have hG := good_of_stOk T hs hset.1 hset.2
  have hd : s.depth < T.n := by
    unfold StOk validB at hs
    simp only [Bool.and_eq_true, decide_eq_true_eq] at hs
    exact hs.1.1.1.1.1
  exact rubAdmissible_good T h64 hS hI hG hd r h

/-- `rub?` is the shipped, repaired `fast_upper_bound` -/
theorem rubAdmissible_rub (h64 : T.n ≤ 64) (hS : TabSorted T) (hT : InstOk T) (s : St) (r : Int) (hs : StOk T s)
    (hset : SetSt s) (h : rub? T s = some r) : bestRem T s ≤ (some r : EInt) :=
  rubAdmissible_exactRatio T h64 hS hT s r hs hset h

/-- the clause `rub` of `WfRel`: the rough bound dominates the value-to-go of every good state (relaxed ones included) -/
def RubHyp : Prop := ∀ (s : St) (h : Int), Good T s → bestRem T s = some h → h ≤ (rub? T s).getD 0

theorem rubHyp (h64 : T.n ≤ 64) (hS : TabSorted T) (hT : InstOk T) : RubHyp T := by
  intro s h hG hb
  have hI := inst_of_instOk T hT
  by_cases hd : s.depth < T.n
  · obtain ⟨r, hr⟩ := rub_good_defined T hS hI hG hd
    have hle := rubAdmissible_good T h64 hS hI hG hd r hr
    rw [hb] at hle
    have hr' : rub? T s = some r := hr
    rw [hr']
    exact hle
  · have hn : T.n ≤ s.depth := by omega
    have h0 := bestRem_terminal T s hn
    rw [hb] at h0
    have hh : h = 0 := Option.some.inj h0
    have hnone : rub? T s = none := by
      have hle := hG.depth_le
      unfold rub? rubExactRatio? rubWith?
      have h1 : ¬ T.n < s.depth := by omega
      have h2 : T.n - s.depth = 0 := by omega
      simp [h1, h2]
    rw [hnone, hh]
    exact Int.le_refl _

/-- for the tables the reader and `Srflp::new` build (`tabOf`) nothing is assumed about the tables -/
theorem rubAdmissible_tabOf (n : Nat) (lens : List Int) (flows : List (List Int)) (clear : Bool) (h64 : n ≤ 64)
    (hT : InstOk (tabOf n lens flows clear)) (s : St) (r : Int) (hs : StOk (tabOf n lens flows clear) s) (hset : SetSt s)
    (h : rub? (tabOf n lens flows clear) s = some r) : bestRem (tabOf n lens flows clear) s ≤ (some r : EInt) :=
  rubAdmissible_rub _ h64 (tabSorted_tabOf n lens flows clear) hT s r hs hset h

#print axioms pathCost_le_rub_good
#print axioms rubAdmissible_good
#print axioms rubAdmissible_exactRatio
#print axioms rubAdmissible_tabOf
#print axioms rubHyp

end Ddo.Examples.SrflpModel


namespace Ddo.Examples.SrflpModel
open Ddo Ddo.Examples Ddo.Examples.Util Ddo.SpecUtil

variable (T : Tab)

/-- `rubAdmissible_exactRatio` restated for EXACT states (`maybe_place = None`: the root and every state of an exact or
    restricted diagram); the hypothesis `_hm` is not used -/
theorem rubAdmissible_exact_partial (h64 : T.n ≤ 64) (hS : TabSorted T) (hT : InstOk T) (s : St) (r : Int) (hs : StOk T s)
    (hset : SetSt s) (_hm : s.maybe = none) (h : rubExactRatio? T s = some r) : bestRem T s ≤ (some r : EInt) :=
  rubAdmissible_exactRatio T h64 hS hT s r hs hset h

theorem rubAdmissible_exact_partial' (h64 : T.n ≤ 64) (hS : TabSorted T) (hT : InstOk T) (s : St) (r : Int) (hs : StOk T s)
    (hset : SetSt s) (hm : s.maybe = none) (h : rub? T s = some r) : bestRem T s ≤ (some r : EInt) :=
  rubAdmissible_exact_partial T h64 hS hT s r hs hset hm h

/-- an instance of the domain (3 departments of length 1, all flows 1) with a table `sorted_lengths` that is NOT the one
    `Srflp::new` builds (lengths 5 instead of 1) -/
def Tbad : Tab :=
  { n := 3, len := [1, 1, 1], flw := [[0, 1, 1], [1, 0, 1], [1, 1, 0]], sl := [(5, 0), (5, 1), (5, 2)],
    sf := [(1, 0, 1), (1, 0, 2), (1, 1, 2)] }

/-- `RubAdmissibleExactRatioStmt` quantifies over ALL `Tab` with `InstOk`, and `InstOk` does not tie `sl`/`sf` to the instance:
    as written it is false (kernel-checked).  NOT reachable: the driver and the example always build the tables from the
    instance (`tabOf`, `tabSorted_tabOf`); the hypothesis `TabSorted` is missing from the statement, not from the code. -/
theorem rubAdmissible_needs_tabSorted : ¬ RubAdmissibleExactRatioStmt Tbad := by
  intro h
  have h1 : inDomainB Tbad = true := by decide
  have h2 : validB Tbad (initSt Tbad) = true := by decide
  have h3 : rubExactRatio? Tbad (initSt Tbad) = some (-5) := by
    rw [rub_good_some Tbad (good_init Tbad) (by decide) (by decide) 5 (by decide), List.mergeSort_of_pairwise (by decide)]
    decide
  have h4 : bestRem Tbad (initSt Tbad) = some (-1) := by decide +kernel
  have := h h1 (initSt Tbad) (-5) h2 h3
  rw [h4] at this
  exact absurd this (by decide)

#print axioms smith_rule_optimal
#print axioms wct_swap_eq
#print axioms cutBound_le
#print axioms rearrangement
#print axioms rubAdmissible_exact_partial
#print axioms rubAdmissible_needs_tabSorted
#print axioms mergeOk_partial
#print axioms dpExact_partial
#print axioms dpExactPrefix_partial

end Ddo.Examples.SrflpModel

/-! `validB` does not ask the two lists to be sets; with repeated members `MergeOkStmt` fails (compiled evaluation, not a kernel
    proof: `bestRem` sorts with `mergeSort`, which `decide` cannot unfold).  Not reachable (`Set64`). -/
namespace Ddo.Examples.SrflpModel.NonSet
def Tg : Tab := tabOf 3 [1, 2, 3] [[0, 1, 2], [1, 0, 3], [2, 3, 0]] false
def u : St := { depth := 0, must := [2, 2, 2], maybe := some [1, 1, 1], cut := [0, 1, 2] }
def w : St := { depth := 0, must := [2, 2, 2], maybe := some [1, 0, 0], cut := [0, 1, 2] }
-- expected: `(true, true, true, some (-4), some (-7))`: the merged state is worth LESS than `w`
#eval (inDomainB Tg, validB Tg u, validB Tg w, bestRem Tg w, bestRem Tg (mergeStates Tg [u, w]))
end Ddo.Examples.SrflpModel.NonSet
