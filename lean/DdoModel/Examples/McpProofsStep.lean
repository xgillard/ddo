import DdoModel.Examples.McpModel
/-! mcp example: the model on benefit FUNCTIONS.  On states with one benefit per vertex the value-to-go is `Hf` on benefit functions
    (`bestRem_eq`); a completion `x` (a side `±1` per vertex) of a state of depth `k ≥ 1` is worth
    `Ff b x = Σ_{l ≥ k} (-x_l b_l)⁺ + Σ_{k ≤ i < j} (w_ij [x_i ≠ x_j] - w_ij⁻)` (`Ff_step`, from the one-vertex identity `point_id`:
    the `min(|s_l|, |w_kl|)` term of the transition cost telescopes — the identity behind the DP model of Bergman et al.); `Hf` is
    the maximum of `Ff` (`Hf_ge`, `Hf_att`).  `graphOk_of_inDomain`: the matrix `Graph::from_lines` builds from an instance of
    the domain is symmetric with a zero diagonal. -/
namespace Ddo.Examples.McpModel
open Ddo Ddo.Examples Ddo.Examples.Util

theorem mul_nonpos_iff' (a b : Int) : a * b ≤ 0 ↔ (a ≤ 0 ∧ 0 ≤ b) ∨ (0 ≤ a ∧ b ≤ 0) := by
  constructor
  · intro h
    by_cases ha : 0 < a
    · by_cases hb : 0 < b
      · have := Int.mul_pos ha hb; omega
      · right; omega
    · by_cases hb : b < 0
      · by_cases ha' : a < 0
        · have := Int.mul_pos_of_neg_of_neg ha' hb; omega
        · right; omega
      · left; omega
  · rintro (⟨h1, h2⟩ | ⟨h1, h2⟩)
    · exact Int.mul_nonpos_of_nonpos_of_nonneg h1 h2
    · exact Int.mul_nonpos_of_nonneg_of_nonpos h1 h2

/-- `Σ_{l = k}^{k + c - 1} f l` -/
def rsum (k : Nat) : Nat → (Nat → Int) → Int
  | 0, _ => 0
  | c + 1, f => f k + rsum (k + 1) c f

@[simp] theorem rsum_zero (k : Nat) (f : Nat → Int) : rsum k 0 f = 0 := rfl
theorem rsum_succ (k c : Nat) (f : Nat → Int) : rsum k (c + 1) f = f k + rsum (k + 1) c f := rfl

/-- `rsum` is the sum of the list of its terms: its lemmas are those of `SpecUtil` on `(L.map f).sum` -/
theorem sum_map_range' (k c : Nat) (f : Nat → Int) : ((List.range' k c).map f).sum = rsum k c f := by
  induction c generalizing k with
  | zero => rfl
  | succ c ih => rw [List.range'_succ, List.map_cons, List.sum_cons, ih, rsum_succ]

theorem mem_range'_iff {k c l : Nat} : l ∈ List.range' k c ↔ k ≤ l ∧ l < k + c := by
  rw [List.mem_range'_1]

theorem rsum_congr {k c : Nat} {f g : Nat → Int} (h : ∀ l, k ≤ l → l < k + c → f l = g l) : rsum k c f = rsum k c g := by
  rw [← sum_map_range', ← sum_map_range']
  exact congrArg List.sum (List.map_congr_left fun l hl => h l (mem_range'_iff.mp hl).1 (mem_range'_iff.mp hl).2)

theorem rsum_le {k c : Nat} {f g : Nat → Int} (h : ∀ l, k ≤ l → l < k + c → f l ≤ g l) : rsum k c f ≤ rsum k c g := by
  rw [← sum_map_range', ← sum_map_range']
  exact SpecUtil.sum_map_le f g _ fun l hl => h l (mem_range'_iff.mp hl).1 (mem_range'_iff.mp hl).2

theorem rsum_add (k c : Nat) (f g : Nat → Int) : rsum k c (fun l => f l + g l) = rsum k c f + rsum k c g := by
  simp only [← sum_map_range']; exact SpecUtil.sum_map_add f g _

theorem rsum_const (k c : Nat) (C : Int) : rsum k c (fun _ => C) = (c : Int) * C := by
  rw [← sum_map_range', SpecUtil.sum_map_const, List.length_range']

theorem rsum_const_zero (k c : Nat) : rsum k c (fun _ => 0) = 0 := by rw [rsum_const, Int.mul_zero]

theorem rsum_nonneg {k c : Nat} {f : Nat → Int} (h : ∀ l, k ≤ l → l < k + c → 0 ≤ f l) : 0 ≤ rsum k c f :=
  rsum_const_zero k c ▸ rsum_le (f := fun _ => 0) h

theorem rsum_split (k a b : Nat) (f : Nat → Int) : rsum k (a + b) f = rsum k a f + rsum (k + a) b f := by
  simp only [← sum_map_range']
  rw [← List.sum_append, ← List.map_append, List.range'_append_1]

theorem rsum_snoc (k c : Nat) (f : Nat → Int) : rsum k (c + 1) f = rsum k c f + f (k + c) := by
  rw [rsum_split, rsum_succ, rsum_zero, Int.add_zero]

theorem range_drop (n k : Nat) : (List.range n).drop k = List.range' k (n - k) := by
  rw [List.range_eq_range', List.drop_range']; simp

variable (T : Tab)

def bAt (s : St) (l : Nat) : Int := s.benef.getD l 0

theorem getElem?_bAt {s : St} {l : Nat} (h : l < s.benef.length) : s.benef[l]? = some (bAt s l) := by
  unfold bAt; rw [List.getD_eq_getElem?_getD, List.getElem?_eq_getElem h]; rfl

/-- one term of `branch_on_s` / `branch_on_t` -/
def termF (b : Nat → Int) (k : Nat) (v : Int) (l : Nat) : Int :=
  if v * (b l * w T k l) ≤ 0 then min (iabs (b l)) (iabs (w T k l)) else 0
def costF (b : Nat → Int) (k : Nat) (v : Int) : Int := max 0 (-(v * b k)) + rsum k (T.n - k) (termF T b k v)
def stepF (b : Nat → Int) (k : Nat) (v : Int) : Nat → Int := fun l => b l + v * w T k l

/-- the value-to-go on benefit functions (the domain is never empty: a plain integer) -/
def Hf : Nat → Nat → (Nat → Int) → Int
  | 0, _, _ => 0
  | f + 1, k, b =>
    if k ≥ T.n then 0 else
    if k = 0 then Hf f 1 (stepF T b 0 1)
    else max (costF T b k 1 + Hf f (k + 1) (stepF T b k 1)) (costF T b k (-1) + Hf f (k + 1) (stepF T b k (-1)))

theorem Hf_first {f : Nat} (b : Nat → Int) (h : 0 < T.n) : Hf T (f + 1) 0 b = Hf T f 1 (stepF T b 0 1) := by
  rw [Hf, if_neg (by omega), if_pos rfl]

theorem Hf_succ {f k : Nat} (b : Nat → Int) (hk : k < T.n) (hk0 : k ≠ 0) : Hf T (f + 1) k b =
    max (costF T b k 1 + Hf T f (k + 1) (stepF T b k 1)) (costF T b k (-1) + Hf T f (k + 1) (stepF T b k (-1))) := by
  rw [Hf, if_neg (by omega), if_neg hk0]

theorem trans?_ok {s : St} (hlen : s.benef.length = T.n) (x : Nat) (v : Int) :
    trans? T s ⟨x, v⟩ = some (St.mk (s.depth + 1)
      (List.replicate (min x T.n) 0 ++ ((List.range T.n).drop x).map fun l => bAt s l + v * w T x l)) := by
  unfold trans?
  have : (((List.range T.n).drop x).mapM fun l => (s.benef[l]?).map fun b => b + v * w T x l) =
      some (((List.range T.n).drop x).map fun l => bAt s l + v * w T x l) := by
    apply EMax.mapM_total
    intro l hl
    have hl' : l < T.n := List.mem_range.mp (List.mem_of_mem_drop hl)
    rw [getElem?_bAt (by omega)]; rfl
  simp only [this]
  rfl

theorem trans_ok {s : St} (hlen : s.benef.length = T.n) (x : Nat) (v : Int) :
    trans T s ⟨x, v⟩ = St.mk (s.depth + 1)
      (List.replicate (min x T.n) 0 ++ ((List.range T.n).drop x).map fun l => bAt s l + v * w T x l) := by
  unfold trans; rw [trans?_ok T hlen]; rfl

theorem trans_depth {s : St} (hlen : s.benef.length = T.n) (x : Nat) (v : Int) : (trans T s ⟨x, v⟩).depth = s.depth + 1 := by
  rw [trans_ok T hlen]

theorem trans_length {s : St} (hlen : s.benef.length = T.n) (x : Nat) (v : Int) (hx : x ≤ T.n) :
    (trans T s ⟨x, v⟩).benef.length = T.n := by
  rw [trans_ok T hlen]; simp; omega

theorem trans_bAt {s : St} (hlen : s.benef.length = T.n) (x : Nat) (v : Int) {l : Nat} (hxl : x ≤ l) (hl : l < T.n) :
    bAt (trans T s ⟨x, v⟩) l = stepF T (bAt s) x v l := by
  rw [trans_ok T hlen]
  unfold bAt stepF
  simp only [List.getD_eq_getElem?_getD]
  rw [List.getElem?_append_right (by simp; omega)]
  simp only [List.length_replicate, List.getElem?_map, range_drop]
  have hm : min x T.n = x := by omega
  rw [hm, List.getElem?_range' (by omega)]
  simp
  have : x + (l - x) = l := by omega
  rw [this]

theorem branch?_ok {s : St} (hlen : s.benef.length = T.n) {x : Nat} (hx : x < T.n) (v : Int) :
    branch? T s x v = some (costF T (bAt s) x v) := by
  rw [branch?_eq, getElem?_bAt (by omega)]
  have : (((List.range T.n).drop x).mapM fun l => (s.benef[l]?).map fun skl =>
        if v * (skl * w T x l) ≤ 0 then min (iabs skl) (iabs (w T x l)) else 0) =
      some (((List.range T.n).drop x).map (termF T (bAt s) x v)) := by
    apply EMax.mapM_total
    intro l hl
    have hl' : l < T.n := List.mem_range.mp (List.mem_of_mem_drop hl)
    rw [getElem?_bAt (by omega)]; rfl
  simp only [Option.bind_some, this]
  rw [SpecUtil.sum_eq, range_drop, sum_map_range']
  rfl

theorem cost_ok {s : St} (hlen : s.benef.length = T.n) {x : Nat} (hx : x < T.n) {v : Int} (hv : v = 1 ∨ v = -1) :
    cost T s ⟨x, v⟩ = if s.depth = 0 then 0 else costF T (bAt s) x v := by
  unfold cost cost?
  simp only [hv, if_true]
  split
  · rfl
  · rw [branch?_ok T hlen hx]; rfl

theorem costF_congr {b b' : Nat → Int} {k : Nat} (h : ∀ l, k ≤ l → l < T.n → b l = b' l) (hk : k < T.n) (v : Int) :
    costF T b k v = costF T b' k v := by
  unfold costF
  rw [h k (Nat.le_refl _) hk]
  congr 1
  apply rsum_congr
  intro l h1 h2
  unfold termF
  rw [h l h1 (by omega)]

theorem bestRemF_eq (fuel : Nat) : ∀ (s : St) (b : Nat → Int), s.benef.length = T.n →
    (∀ l, s.depth ≤ l → l < T.n → bAt s l = b l) → bestRemF T fuel s = some (Hf T fuel s.depth b) := by
  induction fuel with
  | zero => intro s b _ _; rfl
  | succ fuel ih =>
    intro s b hlen hb
    unfold bestRemF Hf
    by_cases hk : s.depth ≥ T.n
    · simp [hk]
    · have hk' : s.depth < T.n := by omega
      simp only [hk, if_false]
      have hnext : ∀ v : Int, bestRemF T fuel (trans T s ⟨s.depth, v⟩) =
          some (Hf T fuel (s.depth + 1) (stepF T b s.depth v)) := by
        intro v
        have := ih (trans T s ⟨s.depth, v⟩) (stepF T b s.depth v) (trans_length T hlen _ _ (by omega)) (by
          intro l h1 h2
          rw [trans_depth T hlen] at h1
          rw [trans_bAt T hlen _ _ (by omega) h2]
          unfold stepF
          rw [hb l (by omega) h2])
        rw [trans_depth T hlen] at this
        exact this
      by_cases h0 : s.depth = 0
      · simp only [domain, h0, if_true, List.foldl_cons, List.foldl_nil]
        have h1 := hnext 1
        rw [h0] at h1
        rw [h1]
        have hc := cost_ok T hlen (x := 0) (by omega) (v := 1) (Or.inl rfl)
        rw [hc, h0]
        simp [EInt.max, EInt.addI]
      · simp only [domain, h0, if_false, List.foldl_cons, List.foldl_nil]
        rw [hnext 1, hnext (-1), cost_ok T hlen hk' (Or.inl rfl), cost_ok T hlen hk' (Or.inr rfl)]
        simp only [h0, if_false]
        rw [costF_congr T hb hk', costF_congr T hb hk']
        simp only [EInt.max, EInt.addI, Option.map_some, Option.some.injEq]
        omega

theorem bestRem_eq {s : St} (h : StOk T s) : bestRem T s = some (Hf T (T.n - s.depth) s.depth (bAt s)) :=
  bestRemF_eq T _ s _ h.1 (fun _ _ _ => rfl)

theorem iabs_eq_max (x : Int) : iabs x = max x (-x) := by unfold iabs; split <;> omega

/-- twice the arc term of `branch_on_s` / `branch_on_t` is the defect of the triangle inequality -/
theorem two_term (b c : Int) : 2 * (if b * c ≤ 0 then min (iabs b) (iabs c) else 0) = iabs b + iabs c - iabs (b + c) := by
  have h := mul_nonpos_iff' b c
  split
  · next hc =>
    -- opposite signs: `|b + c| = ||b| - |c||`
    rw [h] at hc
    rcases hc with ⟨h1, h2⟩ | ⟨h1, h2⟩ <;> rcases Int.le_total 0 (b + c) with h3 | h3
    · rw [iabs_of_nonpos h1, iabs_of_nonneg h2, iabs_of_nonneg h3]; omega
    · rw [iabs_of_nonpos h1, iabs_of_nonneg h2, iabs_of_nonpos h3]; omega
    · rw [iabs_of_nonneg h1, iabs_of_nonpos h2, iabs_of_nonneg h3]; omega
    · rw [iabs_of_nonneg h1, iabs_of_nonpos h2, iabs_of_nonpos h3]; omega
  · next hc =>
    -- the same sign: `|b + c| = |b| + |c|`
    rw [h] at hc
    rcases Int.le_total 0 b with h1 | h1
    · rw [iabs_of_nonneg h1, iabs_of_nonneg (by omega : 0 ≤ c), iabs_of_nonneg (by omega : 0 ≤ b + c)]; omega
    · rw [iabs_of_nonpos h1, iabs_of_nonpos (by omega : c ≤ 0), iabs_of_nonpos (by omega : b + c ≤ 0)]; omega

theorem two_term_pm (b w' v : Int) (hv : v = 1 ∨ v = -1) :
    2 * (if v * (b * w') ≤ 0 then min (iabs b) (iabs w') else 0) = iabs b + iabs w' - iabs (b + v * w') := by
  have h := two_term b (v * w')
  rw [Int.mul_left_comm]
  rcases hv with rfl | rfl
  · rw [Int.one_mul] at h ⊢; exact h
  · rw [Int.neg_one_mul, iabs_neg] at h; rw [Int.neg_one_mul]; exact h

theorem two_max_neg (x y : Int) (hx : x = 1 ∨ x = -1) : 2 * max 0 (-(x * y)) = iabs y - x * y := by
  rw [iabs_eq_max]; rcases hx with rfl | rfl <;> omega

theorem max_neg_le_iabs (x y : Int) (hx : x = 1 ∨ x = -1) : max 0 (-(x * y)) ≤ iabs y := by
  have := two_max_neg x y hx
  have := two_max_neg (-x) y (by omega)
  rw [Int.neg_mul] at this
  omega

theorem iabs_add_pm_le (b w' v : Int) (hv : v = 1 ∨ v = -1) : iabs (b + v * w') ≤ iabs b + iabs w' := by
  have h := two_term_pm b w' v hv
  have : 0 ≤ (if v * (b * w') ≤ 0 then min (iabs b) (iabs w') else 0) := by
    split
    · exact Int.le_min.mpr ⟨iabs_nonneg b, iabs_nonneg w'⟩
    · exact Int.le_refl 0
  omega

/-- one vertex `l` seen from the vertex `k` being decided: what the arc pays (`termF`) plus what stays to be paid on the
    updated benefit is what was to be paid on the old benefit plus the weight of the edge if it is cut, minus its
    negative part (already counted in the root value).  Doubled, every term is linear in `|b|`, `|w'|`, `|b + xk w'|`,
    `xl b` and `xl xk w'`. -/
theorem point_id (b w' xk xl : Int) (hk : xk = 1 ∨ xk = -1) (hl : xl = 1 ∨ xl = -1) :
    max 0 (-(xl * b)) + ((if xk ≠ xl then w' else 0) - min 0 w') =
    (if xk * (b * w') ≤ 0 then min (iabs b) (iabs w') else 0) + max 0 (-(xl * (b + xk * w'))) := by
  have h := two_term_pm b w' xk hk
  have e1 := two_max_neg xl b hl
  have e2 := two_max_neg xl (b + xk * w') hl
  have e3 : 2 * min 0 w' = w' - iabs w' := by rw [iabs_eq_max]; omega
  have e4 : 2 * (if xk ≠ xl then w' else 0) = w' - xl * (xk * w') := by
    rcases hk with rfl | rfl <;> rcases hl with rfl | rfl <;> simp <;> omega
  generalize (if xk * (b * w') ≤ 0 then min (iabs b) (iabs w') else 0) = t at h ⊢
  generalize max 0 (-(xl * b)) = p at e1 ⊢
  generalize max 0 (-(xl * (b + xk * w'))) = q at e2 ⊢
  generalize min 0 w' = r at e3 ⊢
  generalize (if xk ≠ xl then w' else 0) = u at e4 ⊢
  rw [Int.mul_add] at e2
  omega

/-- a side for every vertex: `1` = `S`, `-1` = `T` -/
def Pm (x : Nat → Int) : Prop := ∀ l, x l = 1 ∨ x l = -1

/-- the edge `{i, j}` under the sides `x`: its weight if it is cut, minus its negative part -/
def eT (x : Nat → Int) (i j : Nat) : Int := (if x i ≠ x j then w T i j else 0) - min 0 (w T i j)
/-- the edges among the vertices `k, …, k + c - 1 (= n - 1)` -/
def Cf (x : Nat → Int) (k c : Nat) : Int := rsum k c fun i => rsum (i + 1) (T.n - (i + 1)) (eT T x i)
/-- the value of the completion `x` of a state of depth `k ≥ 1` with benefits `b` (`k + c = n`) -/
def Ff (b x : Nat → Int) (k c : Nat) : Int := rsum k c (fun l => max 0 (-(x l * b l))) + Cf T x k c

theorem Ff_step {b x : Nat → Int} {k c : Nat} (hx : Pm x) (hkc : k + (c + 1) = T.n) (hd : w T k k = 0) :
    Ff T b x k (c + 1) = costF T b k (x k) + Ff T (stepF T b k (x k)) x (k + 1) c := by
  unfold Ff Cf costF
  have e1 : T.n - k = c + 1 := by omega
  have e2 : T.n - (k + 1) = c := by omega
  rw [e1]
  simp only [rsum_succ]
  rw [e2]
  have ht : termF T b k (x k) k = 0 := by
    unfold termF; rw [hd, iabs_eq_max, iabs_eq_max]; simp; omega
  have key : rsum (k + 1) c (fun l => max 0 (-(x l * b l))) + rsum (k + 1) c (eT T x k) =
      rsum (k + 1) c (termF T b k (x k)) + rsum (k + 1) c (fun l => max 0 (-(x l * stepF T b k (x k) l))) := by
    rw [← rsum_add, ← rsum_add]
    apply rsum_congr
    intro l _ _
    exact point_id (b l) (w T k l) (x k) (x l) (hx k) (hx l)
  omega

theorem Hf_ge (hd : ∀ k, w T k k = 0) {x : Nat → Int} (hx : Pm x) (c : Nat) : ∀ (k : Nat) (b : Nat → Int),
    k + c = T.n → k ≠ 0 → Ff T b x k c ≤ Hf T c k b := by
  induction c with
  | zero => intro k b _ _; simp [Ff, Cf, Hf]
  | succ c ih =>
    intro k b hkc hk0
    rw [Ff_step T hx hkc (hd k), Hf_succ T b (by omega) hk0]
    have := ih (k + 1) (stepF T b k (x k)) (by omega) (by omega)
    rcases hx k with h | h <;> rw [h] at this ⊢ <;> omega

/-- the value-to-go is the value of one completion, with any sides prescribed for the vertices already decided -/
theorem Hf_att (hd : ∀ k, w T k k = 0) (c : Nat) : ∀ (k : Nat) (b x0 : Nat → Int),
    k + c = T.n → k ≠ 0 → Pm x0 → ∃ x, Pm x ∧ (∀ l, l < k → x l = x0 l) ∧ Hf T c k b = Ff T b x k c := by
  induction c with
  | zero => intro k b x0 _ _ h0; exact ⟨x0, h0, fun _ _ => rfl, by simp [Ff, Cf, Hf]⟩
  | succ c ih =>
    intro k b x0 hkc hk0 h0
    have hstep : ∀ v : Int, v = 1 ∨ v = -1 → ∃ x, Pm x ∧ (∀ l, l < k → x l = x0 l) ∧
        costF T b k v + Hf T c (k + 1) (stepF T b k v) = Ff T b x k (c + 1) := by
      intro v hv
      have hpm : Pm (fun l => if l = k then v else x0 l) := by
        intro l
        by_cases hl : l = k <;> simp only [hl, if_true, if_false]
        · exact hv
        · exact h0 l
      obtain ⟨x, hx, hlow, hH⟩ := ih (k + 1) (stepF T b k v) _ (by omega) (by omega) hpm
      have hxk : x k = v := by rw [hlow k (by omega), if_pos rfl]
      refine ⟨x, hx, fun l hl => by rw [hlow l (by omega), if_neg (by omega)], ?_⟩
      rw [Ff_step T hx hkc (hd k), hxk, hH]
    rw [Hf_succ T b (by omega) hk0]
    by_cases hc : costF T b k (-1) + Hf T c (k + 1) (stepF T b k (-1)) ≤ costF T b k 1 + Hf T c (k + 1) (stepF T b k 1)
    · obtain ⟨x, hx, hlow, h⟩ := hstep 1 (Or.inl rfl)
      exact ⟨x, hx, hlow, by rw [← h]; omega⟩
    · obtain ⟨x, hx, hlow, h⟩ := hstep (-1) (Or.inr rfl)
      exact ⟨x, hx, hlow, by rw [← h]; omega⟩

theorem bAt_init (l : Nat) : bAt (initSt T) l = 0 := by
  simp only [bAt, initSt, List.getD_eq_getElem?_getD, List.getElem?_replicate]
  split <;> rfl

theorem getD_mem {adj : List (List Int)} {x : Nat} (hx : x < adj.length) : adj.getD x [] ∈ adj := by
  rw [List.getD_eq_getElem?_getD, List.getElem?_eq_getElem hx]
  exact List.getElem_mem hx

def Dims (n : Nat) (adj : List (List Int)) : Prop := adj.length = n ∧ ∀ row ∈ adj, row.length = n

theorem setCell_dims {n : Nat} {adj : List (List Int)} (h : Dims n adj) {x : Nat} (hx : x < n) (y : Nat) (v : Int) :
    Dims n (setCell adj x y v) := by
  unfold setCell
  refine ⟨by rw [List.length_set]; exact h.1, ?_⟩
  intro row hrow
  rcases List.mem_or_eq_of_mem_set hrow with hr | hr
  · exact h.2 row hr
  · rw [hr, List.length_set]
    exact h.2 _ (getD_mem (by rw [h.1]; exact hx))

theorem wAt_setCell {n : Nat} {adj : List (List Int)} (h : Dims n adj) {x y : Nat} (hx : x < n) (hy : y < n) (v : Int) (a b : Nat) :
    wAt (setCell adj x y v) a b = if a = x ∧ b = y then v else wAt adj a b := by
  unfold wAt setCell
  simp only [List.getD_eq_getElem?_getD, List.getElem?_set]
  by_cases hax : x = a
  · subst hax
    have hx' : x < adj.length := by rw [h.1]; exact hx
    simp only [hx', if_true, Option.getD_some, List.getElem?_set]
    by_cases hby : y = b
    · subst hby
      have : y < (adj[x]?.getD []).length := by
        have := h.2 _ (getD_mem hx')
        rw [List.getD_eq_getElem?_getD] at this
        rw [this]; exact hy
      simp [this]
    · have : ¬ b = y := fun h => hby h.symm
      simp [hby, this]
  · have : ¬ a = x := fun h => hax h.symm
    simp [hax, this]

theorem graphOk_fold (n : Nat) (edges : List (Int × Int × Int))
    (hE : ∀ e ∈ edges, 1 ≤ e.1 ∧ e.1 ≤ n ∧ 1 ≤ e.2.1 ∧ e.2.1 ≤ n ∧ e.1 ≠ e.2.1) :
    ∀ adj : List (List Int), GraphOk n adj → GraphOk n (edges.foldl (fun adj (u, v, w) =>
      let x := (u - 1).toNat; let y := (v - 1).toNat
      setCell (setCell adj x y w) y x w) adj) := by
  induction edges with
  | nil => intro adj h; exact h
  | cons e t ih =>
    intro adj h
    obtain ⟨u, v, wt⟩ := e
    rw [List.foldl_cons]
    apply ih (fun e he => hE e (List.mem_cons_of_mem _ he))
    have he := hE (u, v, wt) (List.mem_cons_self ..)
    simp only at he
    have hx : (u - 1).toNat < n := by omega
    have hy : (v - 1).toNat < n := by omega
    have hxy : (u - 1).toNat ≠ (v - 1).toNat := by omega
    have hD : Dims n adj := ⟨h.1, h.2.1⟩
    have hD1 := setCell_dims hD hx (v - 1).toNat wt
    have hD2 := setCell_dims hD1 hy (u - 1).toNat wt
    refine ⟨hD2.1, hD2.2, ?_⟩
    intro a b
    simp only [wAt_setCell hD1 hy hx, wAt_setCell hD hx hy]
    have hs := (h.2.2 a b).1
    have h0 := (h.2.2 a a).2
    refine ⟨?_, ?_⟩
    · by_cases c1 : a = (v - 1).toNat ∧ b = (u - 1).toNat
      · simp [c1]
      · by_cases c2 : a = (u - 1).toNat ∧ b = (v - 1).toNat
        · simp [c2]
        · have c3 : ¬ (b = (v - 1).toNat ∧ a = (u - 1).toNat) := fun c => c2 ⟨c.2, c.1⟩
          have c4 : ¬ (b = (u - 1).toNat ∧ a = (v - 1).toNat) := fun c => c1 ⟨c.2, c.1⟩
          simp only [c1, c2, c3, c4, if_false]
          exact hs
    · have c1 : ¬ (a = (v - 1).toNat ∧ a = (u - 1).toNat) := fun c => hxy (c.2.symm.trans c.1)
      have c2 : ¬ (a = (u - 1).toNat ∧ a = (v - 1).toNat) := fun c => hxy (c.1.symm.trans c.2)
      simp only [c1, c2, if_false]
      exact h0

theorem graphOk_zero (n : Nat) : GraphOk n (List.replicate n (List.replicate n 0)) := by
  refine ⟨by simp, ?_, ?_⟩
  · intro row hrow
    rw [(List.mem_replicate.mp hrow).2]; simp
  · have : ∀ x y, wAt (List.replicate n (List.replicate n (0 : Int))) x y = 0 := by
      intro x y
      unfold wAt
      simp only [List.getD_eq_getElem?_getD, List.getElem?_replicate]
      split
      · simp only [Option.getD_some, List.getElem?_replicate]; split <;> rfl
      · rfl
    intro x y; rw [this, this, this]; exact ⟨rfl, rfl⟩

theorem graphOk_of_inDomain {n : Nat} {edges : List (Int × Int × Int)} (h : inDomain n edges = true) :
    GraphOk n (adjOf n edges) := by
  unfold adjOf
  apply graphOk_fold n edges _ _ (graphOk_zero n)
  intro e he
  obtain ⟨u, v, wt⟩ := e
  simp only [inDomain, readerPanics, Bool.and_eq_true, Bool.not_eq_true', List.any_eq_false, List.all_eq_true] at h
  have h1 := h.1.1 (u, v, wt) he
  have h2 := h.1.2 (u, v, wt) he
  simp at h1 h2
  simp only
  omega

section Axioms
#print axioms graphOk_of_inDomain
end Axioms

end Ddo.Examples.McpModel
