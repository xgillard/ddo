import DdoModel.Props.C06
import DdoModel.Proofs.WfRelSteps
import DdoModel.Examples.TsptwProofsMerge
import DdoModel.Examples.TsptwProofsStep
import DdoModel.Examples.TsptwProofsExact
import DdoModel.Examples.TsptwProofsRub
import DdoModel.Proofs.MddCoverRel
/-! The tsptw model is well-formed (`WfRel`) relative to the layer validity `V` (valid state, every city still to visit can be
    entered from a position other than itself, stored depth = depth of the layer, in time at the depot on the last layer),
    with the potential `hStar` (`wfRel`); closed corollary against `Tsptw.spec`: `tsptw_relaxed_ub`.
    * Why `hStar` and not the model's own value-to-go: the **finding** `rub_bestRemL_fails_merged`.  On the states none of
      whose positions is a city still to visit (the root, every state reached exactly) the two potentials agree
      (`hStar_eq_bestRemL`), so the corollary is about the specification (`root_exact`).
    * The generic no-saturation hypothesis `NoClampDom` cannot be met (**finding** `noClampDom_false`): `tsptw_relaxed_ub_of`
      and `tsptw_relaxed_ub_partial` assume it and are vacuous.  Restricted to the valid triples (`Ddo.NoClampRel`) the clause
      IS met (`noClampRel`: transition costs within `2^40`, relaxed costs within `2^41`), and `tsptw_relaxed_ub` has no
      hypothesis left about the model (`Demo`: an instance).
    * `rub_admissible` of `TsptwModel.lean` is false as stated (`rub_admissible_false`, and `rub_admissible_late_false` of
      `TsptwProofsRub.lean`); what holds is `rub_admissible_partial`. -/

namespace Ddo.Examples.TsptwModel
open Ddo Ddo.Examples

section
variable {T : Tab} (hT : TabOk T)
include hT

theorem hStar_eq_bestRemL {s : St} (hV : Valid T s) (hC : Clean s) : hStar T s = bestRemL T s := by
  rw [bestRemL_eq_vG hT hV]
  unfold hStar
  -- both inequalities by `simG_le`, `s` simulating itself: `minD ≤ mdS` always; `mdS = minD` on `Clean` states, and every
  -- successor is `Clean`
  have a := simG_le hT (minD T) (mdS T) termL (fun _ => True) (fun _ => True) termL_sim (fun _ _ _ _ => trivial)
    (fun _ _ _ _ => trivial)
    (fun m u j h hm hu _ _ _ => Nat.le_trans (minD_anti h hm.pos_ne hu.pos_ne j) (minD_le_mdS hu.pos_ne j))
    (T.n - s.depth) s s (Sim.refl s) hV hV trivial trivial
  have b := simG_le hT (mdS T) (minD T) termL Clean (fun _ => True) termL_sim (fun s j el hV => clean_succ hV j el)
    (fun _ _ _ _ => trivial)
    (fun m u j h hm hu hCm _ hj => by
      have : mdS T m j = minD T m j := by
        rcases hj.2 with ⟨_, h0⟩ | ⟨_, _, h3⟩
        · subst h0; rfl
        · apply mdS_eq_of_not_pos
          intro hp
          rcases h.cover j h3 with h' | h'
          · exact (hCm j hp).1 h'
          · exact (hCm j hp).2 h'
      rw [this]; exact minD_anti h hm.pos_ne hu.pos_ne j)
    (T.n - s.depth) s s (Sim.refl s) hV hV hC trivial
  exact EMax.addI_cancel (EMax.le_antisymm a b)

omit hT in
theorem vG_nonpos (md : St → Nat → Nat) : ∀ (fuel : Nat) (s : St) (h : Int), vG T md termL fuel s = some h → h ≤ 0 := by
  have hterm : ∀ (s : St) (h : Int), termL s = some h → h ≤ 0 := by
    intro s h hh
    unfold termL at hh
    split at hh
    · cases hh; exact Int.le_refl _
    · cases hh
  intro fuel
  induction fuel with
  | zero => intro s h hh; exact hterm s h hh
  | succ n ih =>
    intro s h hh
    by_cases hd : s.depth < T.n
    · obtain ⟨j, _, h', hv, rfl⟩ := vG_att hd hh
      have := ih _ _ hv
      have : s.el.earliest ≤ arrG T md s j := by unfold arrG; omega
      omega
    · simp only [vG] at hh
      rw [if_pos (by omega)] at hh
      exact hterm s h hh

theorem att_hStar {s : St} (hV : Valid T s) (hd : s.depth < T.n) {h : Int} (hh : hStar T s = some h) (x : Nat) :
    ∃ d ∈ domain T s, ∃ h', hStar T (trans T s ⟨x, d⟩) = some h' ∧ h ≤ cost T s ⟨x, d⟩ + h' := by
  unfold hStar at hh
  rw [show T.n - s.depth = T.n - (s.depth + 1) + 1 by omega] at hh
  obtain ⟨j, hj, h0, hv, rfl⟩ := vG_att hd hh
  have hv : hStar T (succSt s j (.fixed (arrG T (mdS T) s j))) = some h0 := hv
  have hjn := hj.lt hV hT.n_pos
  have hmd := minD_le_mdS (T := T) hV.pos_ne
  -- `j` is in the model's domain, and the model enters it no later
  have hjm : InDom T s j := hj.mono hmd
  obtain ⟨el, ht, he, he1, he2⟩ := trans_eq hT hV hjn hjm.1 x
  have hle : el.earliest ≤ arrG T (mdS T) s j := by
    have := hmd j
    rw [he]; unfold arrG; omega
  have key := sim_hStar hT (sim_succ (Sim.refl s) hV hV j (em := el) (eu := .fixed (arrG T (mdS T) s j)) hle)
    (valid_succ' hV hd hjn (hj.last hT.n_pos) he1 he2)
    (valid_succ' hV hd hjn (hj.last hT.n_pos) (arrG_small hT hjn hj.1) (arrG_small hT hjn hj.1)) (alt_succ hV j _)
  obtain ⟨h', e', le'⟩ := EMax.of_addI_le key hv
  have le' : h0 + -((arrG T (mdS T) s j : Nat) : Int) ≤ h' + -(el.earliest : Int) := le'
  refine ⟨(j : Int), (mem_domain_iff hT hV _).mpr ⟨j, rfl, hjm⟩, h', by rw [ht]; exact e', ?_⟩
  rw [cost_eq hT hV hjn, ← he]
  omega

end

def H (T : Tab) (_ : Nat) (s : St) : EInt := hStar T s
def V (T : Tab) (k : Nat) (s : St) : Prop :=
  Valid T s ∧ Alt s ∧ s.depth = k ∧ (s.depth = T.n → s.el.earliest ≤ lN T 0)

theorem eN_le_lN {T : Tab} (hT : TabOk T) (hD : inDomain T = true) {j : Nat} (hj : j < T.n) : eN T j ≤ lN T j := by
  have h1 : j < T.tw.length := by rw [hT.tw_len]; exact hj
  simp only [inDomain, Bool.and_eq_true, List.all_eq_true, decide_eq_true_eq] at hD
  have := hD.2 _ (List.getElem_mem h1)
  simpa [eN, lN, List.getD_eq_getElem?_getD, List.getElem?_eq_getElem h1] using this

theorem V_init {T : Tab} (hT : TabOk T) : V T 0 (initSt T) :=
  ⟨valid_init hT, alt_of_clean (valid_init hT).pos_ne (clean_init hT), rfl, fun h => by
    have := hT.n_pos
    have h' : (0 : Nat) = T.n := h
    omega⟩

theorem vstepV {T : Tab} (hT : TabOk T) (hD : inDomain T = true) {k : Nat} {s : St} (hV : V T k s) (hk : k ≠ T.n) {d : Int}
    (hd : d ∈ domain T s) (x : Nat) : V T (k + 1) (trans T s ⟨x, d⟩) := by
  obtain ⟨hv, _, hdep, _⟩ := hV
  obtain ⟨j, rfl, hj⟩ := (mem_domain_iff hT hv d).mp hd
  have hjn := hj.lt hv hT.n_pos
  have hlt : s.depth < T.n := by have := hv.depth_le; omega
  obtain ⟨el, ht, he, he1, he2⟩ := trans_eq hT hv hjn hj.1 x
  rw [ht]
  refine ⟨valid_succ hT hv hlt hj he1 he2, alt_succ hv j el, by show s.depth + 1 = k + 1; rw [hdep], ?_⟩
  intro hl
  have hl : s.depth + 1 = T.n := hl
  have h0 : j = 0 := ((inDom_iff T s j).mp hj).last hT.n_pos hl
  subst h0
  have hr : s.el.earliest + minD T s 0 ≤ lN T 0 := reachG_iff.mp hj.1
  have := eN_le_lN hT hD hjn
  show el.earliest ≤ lN T 0
  rw [he]; omega

theorem vmergeV {T : Tab} (hT : TabOk T) {k : Nat} {X : List St} (hne : X ≠ []) (hX : ∀ u ∈ X, V T k u) :
    V T k (merge X) := by
  have hX' : ∀ s ∈ X, Valid T s ∧ s.depth = k := fun s hs => ⟨(hX s hs).1, (hX s hs).2.2.1⟩
  refine ⟨valid_merge hT hne hX', alt_merge hT hne hX' (fun s hs => (hX s hs).2.1), merge_depth_eq hne hX', ?_⟩
  intro hl
  obtain ⟨u, hu⟩ := List.exists_mem_of_ne_nil _ hne
  have h1 := (sim_merge hT hne hX' hu).e
  have h2 := (hX u hu).2.2.2 (by rw [(hX u hu).2.2.1, ← merge_depth_eq hne hX']; exact hl)
  omega

theorem wfRel_of_rub {T : Tab} (hT : TabOk T) (hD : inDomain T = true)
    (hrub : ∀ s, Valid T s → Alt s → (s.depth = T.n → s.el.earliest ≤ lN T 0) → ∀ r, rub? T s = some r → hStar T s ≤ r) :
    WfRel (problem T) (relaxation T) (H T) (V T) := by
  have hlt : ∀ {k : Nat} {s : St}, V T k s → k ≠ T.n → s.depth < T.n := fun hV hk => by
    have := hV.1.depth_le; have := hV.2.2.1; omega
  refine .of_steps ?_ (fun k X hne hX => vmergeV hT hne hX) ?_ (fun k L s h _ _ _ hh => vG_nonpos _ _ _ _ hh) ?_ ?_
  · intro k L x s d hx hV hd
    obtain ⟨hk, rfl⟩ := nextVar_some hx
    exact vstepV hT hD hV hk hd _
  · intro k L x s h hx hV hh
    obtain ⟨hk, rfl⟩ := nextVar_some hx
    exact att_hStar hT hV.1 (hlt hV hk) hh _
  · intro k s h hV hh
    show h ≤ (match rub? T s with | some (some v) => v | _ => 0)
    cases hr : rub? T s with
    | none => exact vG_nonpos _ _ _ _ hh
    | some r =>
      have := hrub s hV.1 hV.2.1 hV.2.2.2 r hr
      have hh' : hStar T s = some h := hh
      rw [hh'] at this
      cases r with
      | none => exact absurd this (by simp)
      | some v => exact this
  · intro k X u src d c h hu hX hh
    exact mergeOk_hStar hT k X u src d c h hu (fun s hs => ⟨(hX s hs).1, (hX s hs).2.2.1⟩) (hX u hu).2.1 hh

/-- **finding**: the no-saturation hypothesis of the generic theorems (`NoClampDom.relax`: the relaxed cost of ANY triple of
    states stays in `[-B, B]`) cannot be met by the repaired relaxation: `relax` adds `earliest(dest) − earliest(merged)`,
    unbounded over arbitrary pairs of states (as for mcp, `McpModel.noClampDom_false`); the clause has to be restricted to the
    triples the compilation builds (valid states: times `< 2^40`; `noClampRel`) -/
theorem noClampDom_false (T : Tab) (rv B : Int) : ¬ NoClampDom (problem T) (relaxation T) rv B := by
  intro h
  have hB := h.nonneg
  have hr := (h.relax (initSt T) ⟨.node 0, .fixed (2 * B + 1).toNat, [], none, 0⟩ ⟨.node 0, .fixed 0, [], none, 0⟩ ⟨0, 0⟩ 0
    ⟨by omega, hB⟩).2
  simp only [relaxation, earliest_fixed] at hr
  omega

set_option linter.unusedVariables false in
/-- **conditional on `NoClampDom`**, which `noClampDom_false` shows unsatisfiable as stated: a vacuous theorem.  With the
    no-saturation clause restricted to valid triples (`NoClampRel`) the corollary is `tsptw_relaxed_ub` -/
theorem tsptw_relaxed_ub_of {K : Type} [DecidableEq K] {T : Tab} (hT : TabOk T) (hD : inDomain T = true)
    (hrub : ∀ s, Valid T s → Alt s → (s.depth = T.n → s.el.earliest ≤ lN T 0) → ∀ r, rub? T s = some r → hStar T s ≤ r)
    (cfg : Cfg St K) (B : Int) (cache : Cache St) (store : DomStore St K) (polls : Nat)
    (hP : cfg.P = problem T) (hR : cfg.R = relaxation T)
    (hrs : cfg.root.state = initSt T) (hrv : cfg.root.value = 0) (hrd : cfg.root.depth = 0)
    (hrel : cfg.ctype = .relaxed) (hcache : cfg.useCache = false) (hdom : cfg.dom = none) (hW : 1 ≤ cfg.width)
    (hB : NoClampDom (problem T) (relaxation T) 0 B) (hlb : InI cfg.lb)
    (o : Int) (ho : bestRemL T (initSt T) = some o) (hgt : o > cfg.lb) (hO : o ≤ iMax ∨ cfg.lb < iMax) :
    (compile cfg cache store polls none).1 = .ok →
    ∃ bv, (compile cfg cache store polls none).2.1.bestValue = some bv ∧ o ≤ bv :=
  absurd hB (noClampDom_false T 0 B)

/-- 4 nodes, all travel times `1`, windows `[0,100]` -/
def rbT : Tab := tabOf 4 [0, 100, 100, 100,  100, 0, 100, 100,  100, 100, 0, 100,  100, 100, 100, 0]
  [(0, 10000), (0, 10000), (0, 10000), (0, 10000)]
/-- root → city 1 and root → city 2 -/
def rbU1 : St := { pos := .node 1, el := .fixed 10000, must := [2, 3], maybe := none, depth := 1 }
def rbU2 : St := { pos := .node 2, el := .fixed 10000, must := [1, 3], maybe := none, depth := 1 }
/-- their merge: the salesman stands on city 1 or 2, must visit 3 and one of 1, 2 -/
def rbM : St := { pos := .virt [1, 2], el := .fixed 10000, must := [3], maybe := some [1, 2], depth := 1 }

theorem rbT_tabOk : TabOk rbT := tabOk_of_tabOkB (by decide +kernel)
theorem rbT_inDomain : inDomain rbT = true := by decide +kernel
theorem rb_reached : trans? rbT (initSt rbT) ⟨0, 1⟩ = some rbU1 ∧ trans? rbT (initSt rbT) ⟨0, 2⟩ = some rbU2 := by decide +kernel
theorem rb_merged : merge [rbU1, rbU2] = rbM := by decide +kernel

/-- **finding** (`RubOk` with the model's own value-to-go fails outside `rubScope`, on a state the solver builds): on the merge
    of the two children `root → 1`, `root → 2` of the root of an instance of the domain, the rough upper bound is `-3` (three
    cheapest edges: into 3, into one of 1, 2, back to the depot) while the model's legitimate value-to-go is `-2`: the model
    lets the merged state "move" to city 1, on which it may stand, at no cost.  No tour does that (the tours through the two
    merged-away states are worth `-3`: the bound is right about them), so this is not a wrong bound of the solver; it is the
    reason why the `WfRel` instance uses the potential `hStar` (which is `-3` here) and not `bestRemL`. -/
theorem rub_bestRemL_fails_merged :
    rubScope rbM = false ∧ rub? rbT rbM = some (some (-30000)) ∧ bestRemL rbT rbM = some (-20000) ∧
    hStar rbT rbM = some (-30000) ∧ bestRemL rbT rbU1 = some (-30000) ∧ bestRemL rbT rbU2 = some (-30000) := by
  decide +kernel

/-- a `validB` "state" in `rubScope` that stands on a city it may still visit (no run of the Rust code builds it: a transition
    to a city removes it from both sets, and `rubScope` excludes the merged states of that kind) -/
def cexS : St := { pos := .node 1, el := .fixed 10000, must := [], maybe := some [1, 2], depth := 1 }

/-- **`rub_admissible` as stated (every `validB` state in `rubScope`) is false**: `rubScope` lets every single-position state
    in, also one whose position is an optional city; the model then moves to that city at no cost (`-1`: straight back to the
    depot) while the bound counts a cheapest edge into it (`-2`).  Not reachable.  The statement holds for the valid states
    none of whose positions is a city still to visit and which, on the last layer, are in time at the depot
    (`rub_admissible_partial`). -/
theorem rub_admissible_false : ¬ rub_admissible cexT := by
  intro h
  have := h (by decide +kernel) cexS (by decide +kernel) (by decide +kernel) (some (-20000)) (by decide +kernel)
  revert this
  decide +kernel

#print axioms rub_bestRemL_fails_merged
#print axioms rub_admissible_false
#print axioms brG_eq_vG
#print axioms hStar_eq_bestRemL
#print axioms wfRel_of_rub
#print axioms noClampDom_false
#print axioms tsptw_relaxed_ub_of

end Ddo.Examples.TsptwModel

namespace Ddo.Examples.TsptwModel
open Ddo Ddo.Examples

/-- `rub_admissible` of `TsptwModel.lean` on `Valid` states, with the two hypotheses it lacks: `Clean` (`rub_admissible_false`)
    and `hL` (`rub_admissible_late_false`) -/
theorem rub_admissible_partial {T : Tab} (hT : TabOk T) (hD : inDomain T = true) {s : St} (hV : Valid T s) (hC : Clean s)
    (hL : s.depth = T.n → s.el.earliest ≤ lN T 0) {r : Option Int} (hr : rub? T s = some r) : bestRemL T s ≤ r := by
  rw [← hStar_eq_bestRemL hT hV hC]
  exact rub_hStar hT hD hV (alt_of_clean hV.pos_ne hC) hL hr

/-- `rub_admissible_partial` in the vocabulary of `rub_admissible` (`validB`, `rubScope`) -/
theorem rub_admissible_partial' {T : Tab} (hT : TabOk T) (hD : inDomain T = true) (s : St) (hv : validB T s = true)
    (hs : rubScope s = true) (h1 : s.must.Nodup) (h2 : (mb s).Nodup) (h3 : ∀ i ∈ s.must, i ∉ mb s)
    (h4 : ∀ i, s.pos = .node i → i ∉ mb s) (hL : s.depth = T.n → s.el.earliest ≤ lN T 0) (r : Option Int) (hr : rub? T s = some r) : bestRemL T s ≤ r := by
  have hV := valid_of_validB hv h1 h2 h3
  refine rub_admissible_partial hT hD hV ?_ hL hr
  intro p hp
  refine ⟨fun hm => hV.must_pos p hm hp, ?_⟩
  cases hpos : s.pos with
  | node i =>
    have : p = i := by simpa [posSet, hpos] using hp
    subst this
    exact h4 p hpos
  | virt c =>
    have hp' : p ∈ c := by simpa [posSet, hpos] using hp
    simp only [rubScope, hpos, List.all_eq_true, Bool.not_eq_true', List.contains_eq_mem, decide_eq_false_iff_not] at hs
    exact hs p hp'

theorem wfRel {T : Tab} (hT : TabOk T) (hD : inDomain T = true) : WfRel (problem T) (relaxation T) (H T) (V T) :=
  wfRel_of_rub hT hD (fun _ hV hA hL _ hr => rub_hStar hT hD hV hA hL hr)

theorem root_exact {T : Tab} (hT : TabOk T) (hD : inDomain T = true) :
    Tsptw.spec T.n (dI T) (eI T) (lI T) = ((hStar T (initSt T)).map (fun v => -v)).getD (-1) := by
  rw [hStar_eq_bestRemL hT (valid_init hT) (clean_init hT),
    bestRemL_eq_on_exact_partial hT hD 0 (initSt T) 0 [] Reach.root]
  exact spec_eq_bestRem_root hT hD

set_option linter.unusedVariables false in
/-- `tsptw_relaxed_ub` below **conditional on `NoClampDom`**, which `noClampDom_false` shows unsatisfiable as stated: a vacuous
    theorem -/
theorem tsptw_relaxed_ub_partial {K : Type} [DecidableEq K] {T : Tab} (hT : TabOk T) (hD : inDomain T = true)
    (cfg : Cfg St K) (B : Int) (cache : Cache St) (store : DomStore St K) (polls : Nat)
    (hP : cfg.P = problem T) (hR : cfg.R = relaxation T)
    (hrs : cfg.root.state = initSt T) (hrv : cfg.root.value = 0) (hrd : cfg.root.depth = 0)
    (hrel : cfg.ctype = .relaxed) (hcache : cfg.useCache = false) (hdom : cfg.dom = none) (hW : 1 ≤ cfg.width)
    (hB : NoClampDom (problem T) (relaxation T) 0 B) (hlb : InI cfg.lb)
    (t : Int) (ht : Tsptw.spec T.n (dI T) (eI T) (lI T) = t) (hfeas : t ≠ -1) (hgt : -t > cfg.lb)
    (hO : -t ≤ iMax ∨ cfg.lb < iMax) :
    (compile cfg cache store polls none).1 = .ok →
    ∃ bv, (compile cfg cache store polls none).2.1.bestValue = some bv ∧ -t ≤ bv :=
  absurd hB (noClampDom_false T 0 B)

#print axioms mergeOk
#print axioms mergeOkAny
#print axioms merge_ok_valid
#print axioms merge_ok_false
#print axioms dominance_admissible_partial
#print axioms valueInv_holds
#print axioms exactShape_partial
#print axioms tabOk_tabOf
#print axioms bestRemL_eq_on_exact_partial
#print axioms dp_exact_partial
#print axioms spec_eq_specBestExt_proved
#print axioms rub_hStar
#print axioms rub_admissible_partial
#print axioms rub_admissible_false
#print axioms rub_admissible_late_false
#print axioms rub_bestRemL_fails_merged
#print axioms wfRel
#print axioms noClampDom_false
#print axioms root_exact
#print axioms tsptw_relaxed_ub_partial

end Ddo.Examples.TsptwModel

namespace Ddo.Examples.TsptwModel
open Ddo Ddo.Examples

theorem noClampRel {T : Tab} (hT : TabOk T) : NoClampRel (problem T) (relaxation T) (V T) 0 (BND : Int) (2 * (BND : Int)) where
  nonneg := by decide
  le := by have : (0 : Int) ≤ (BND : Int) := by decide
           omega
  root := by have : (0 : Int) ≤ (BND : Int) := by decide
             omega
  cost := by
    intro k L x s d _ _ hV hd
    obtain ⟨hv, _, _⟩ := hV
    obtain ⟨j, rfl, hj⟩ := (mem_domain_iff hT hv d).mp hd
    have hjn := hj.lt hv hT.n_pos
    obtain ⟨el, _, he, he1, _⟩ := trans_eq hT hv hjn hj.1 x
    show -(BND : Int) ≤ cost T s ⟨x, (j : Int)⟩ ∧ cost T s ⟨x, (j : Int)⟩ ≤ (BND : Int)
    rw [cost_eq hT hv hjn, ← he]
    have := hv.e_small
    omega
  relax := by
    intro k X u src d c hu hX hc
    have hne := List.ne_nil_of_mem hu
    have hX' : ∀ s ∈ X, Valid T s ∧ s.depth = k := fun s hs => ⟨(hX s hs).1, (hX s hs).2.2.1⟩
    have h1 := (sim_merge hT hne hX' hu).e
    have h2 := (hX u hu).1.e_small
    show -(2 * (BND : Int)) ≤ c + ((u.el.earliest : Int) - ((merge X).el.earliest : Int)) ∧
      c + ((u.el.earliest : Int) - ((merge X).el.earliest : Int)) ≤ 2 * (BND : Int)
    omega
  small := by
    have := hT.n_le
    have hb : (BND : Int) = 1099511627776 := by decide
    show ((T.n : Int) + 2) * (2 * (BND : Int)) ≤ 4611686018427387904
    rw [hb]
    omega

/-- **The shipped tsptw example (repaired `relax`)**: a relaxed compilation of its model from the root (layer by layer, no
    cache, no dominance checker, width ≥ 1, any incumbent `lb` that the optimum beats) reports a best value that is at least
    the true optimum — minus the duration `Tsptw.spec` of a shortest tour —, for every well-formed table of the domain that
    has a tour (`t ≠ -1`), provided `-t ≤ isize::MAX` or `lb < isize::MAX` (`hO`) -/
theorem tsptw_relaxed_ub {K : Type} [DecidableEq K] {T : Tab} (hT : TabOk T) (hD : inDomain T = true)
    (cfg : Cfg St K) (cache : Cache St) (store : DomStore St K) (polls : Nat)
    (hP : cfg.P = problem T) (hR : cfg.R = relaxation T)
    (hrs : cfg.root.state = initSt T) (hrv : cfg.root.value = 0) (hrd : cfg.root.depth = 0)
    (hrel : cfg.ctype = .relaxed) (hcache : cfg.useCache = false) (hdom : cfg.dom = none) (hW : 1 ≤ cfg.width)
    (hlb : InI cfg.lb)
    (t : Int) (ht : Tsptw.spec T.n (dI T) (eI T) (lI T) = t) (hfeas : t ≠ -1) (hgt : -t > cfg.lb)
    (hO : -t ≤ iMax ∨ cfg.lb < iMax) :
    (compile cfg cache store polls none).1 = .ok →
    ∃ bv, (compile cfg cache store polls none).2.1.bestValue = some bv ∧ -t ≤ bv := by
  have hroot : hStar T (initSt T) = some (-t) := by
    have h := root_exact hT hD
    rw [ht] at h
    cases hb : hStar T (initSt T) with
    | none => rw [hb] at h; exact absurd h hfeas
    | some v =>
      rw [hb] at h
      have : t = -v := by simpa using h
      rw [this]; simp
  refine CoverRel.relaxed_ub_rel_valid cfg (H T) (V T) (BND : Int) (2 * (BND : Int)) cache store polls hrel hcache hdom hW
    ?_ ?_ ?_ hlb (-t) ?_ hgt hO
  · rw [hP, hR]; exact (wfRel hT hD).toV
  · rw [hrd, hrs]; exact V_init hT
  · rw [hP, hR, hrv]; exact noClampRel hT
  · unfold optOf
    rw [hrd, hrs, hrv]
    show (hStar T (initSt T)).addI 0 = some (-t)
    rw [hroot]
    simp [EInt.addI]

/-! non-vacuity: the 4-node instance `rbT` (all travel times `1`: the optimum is `-4`), width 1: the three children of the
    root are merged -/
namespace Demo

def cfg : Cfg St Unit :=
  { P := problem rbT, R := relaxation rbT, rank := ⟨rankCmp⟩, dom := none,
    useCache := false, kind := .lel, ctype := .relaxed, width := 1, root := ⟨initSt rbT, 0, [], iMax, 0⟩, lb := -1000000 }

theorem spec_rbT : Tsptw.spec rbT.n (dI rbT) (eI rbT) (lI rbT) = 40000 := by decide +kernel

theorem ok : (compile cfg (Cache.init 4) (DomStore.init 4) 0 none).1 = .ok := by decide +kernel

example : ∃ bv, (compile cfg (Cache.init 4) (DomStore.init 4) 0 none).2.1.bestValue = some bv ∧ -40000 ≤ bv :=
  tsptw_relaxed_ub rbT_tabOk rbT_inDomain cfg (Cache.init 4) (DomStore.init 4) 0 rfl rfl rfl rfl rfl rfl rfl rfl (by decide)
    (by decide) 40000 spec_rbT (by decide) (by decide) (by decide) ok

end Demo

#print axioms noClampRel
#print axioms tsptw_relaxed_ub

end Ddo.Examples.TsptwModel
