import DdoModel.Proofs.SpecUtil
/-! Insertion sort by a Boolean comparison: a permutation of its argument, sorted for every relation the comparison decides
    (the models of sop, tsptw, alp and talentsched each sort by an insertion of their own, an instance of `insBy`).
    And what the rough bounds of sop, tsptw and srflp use a sorted list for: its first `k` entries sum to at most any `k` of its
    entries. -/
namespace Ddo.Examples.InsSort

def insBy {α : Type} (le : α → α → Bool) (x : α) : List α → List α
  | [] => [x]
  | y :: ys => if le x y then x :: y :: ys else y :: insBy le x ys
def sortBy {α : Type} (le : α → α → Bool) (l : List α) : List α := l.foldr (insBy le) []

theorem foldr_eq_sortBy {α : Type} {le : α → α → Bool} {ins : α → List α → List α} (h : ∀ x t, ins x t = insBy le x t)
    (l : List α) : l.foldr ins [] = sortBy le l :=
  congrArg (fun f => l.foldr f []) (funext fun x => funext (h x))

theorem insBy_perm {α : Type} (le : α → α → Bool) (x : α) (l : List α) : (insBy le x l).Perm (x :: l) := by
  induction l with
  | nil => exact List.Perm.refl _
  | cons y t ih =>
    unfold insBy
    split
    · exact List.Perm.refl _
    · exact ((List.Perm.cons y ih).trans (List.Perm.swap x y t))

theorem sortBy_perm {α : Type} (le : α → α → Bool) (l : List α) : (sortBy le l).Perm l := by
  induction l with
  | nil => exact List.Perm.refl _
  | cons x t ih => exact (insBy_perm le x _).trans (List.Perm.cons x ih)

section
variable {α : Type} {le : α → α → Bool} {r : α → α → Prop} (htr : ∀ a b c, r a b → r b c → r a c)
  (h1 : ∀ a b, le a b = true → r a b) (h2 : ∀ a b, le a b = false → r b a)
include htr h1 h2

theorem insBy_sorted (x : α) (l : List α) (h : l.Pairwise r) : (insBy le x l).Pairwise r := by
  induction l with
  | nil => simp [insBy]
  | cons y t ih =>
    unfold insBy
    have hy := List.pairwise_cons.mp h
    split
    · next hxy =>
      refine List.pairwise_cons.mpr ⟨fun z hz => ?_, h⟩
      rcases List.mem_cons.mp hz with rfl | hz
      · exact h1 _ _ hxy
      · exact htr _ _ _ (h1 _ _ hxy) (hy.1 z hz)
    · next hxy =>
      refine List.pairwise_cons.mpr ⟨fun z hz => ?_, ih hy.2⟩
      rcases List.mem_cons.mp ((insBy_perm le x t).mem_iff.mp hz) with rfl | hz
      · exact h2 _ _ (by simpa using hxy)
      · exact hy.1 z hz

theorem sortBy_sorted (l : List α) : (sortBy le l).Pairwise r := by
  induction l with
  | nil => exact List.Pairwise.nil
  | cons x t ih => exact insBy_sorted htr h1 h2 x _ ih

end

theorem take_shift : ∀ (l : List Int) (x : Int) (n : Nat), (x :: l).Pairwise (· ≤ ·) → n ≤ l.length →
    ((x :: l).take n).sum ≤ (l.take n).sum
  | [], x, n, _, hn => by simp at hn; subst hn; simp
  | y :: t, x, 0, _, _ => by simp
  | y :: t, x, n + 1, h, hn => by
    have h1 := List.pairwise_cons.mp h
    have := take_shift t y n h1.2 (by simpa using hn)
    have hxy : x ≤ y := h1.1 y List.mem_cons_self
    simp only [List.take_succ_cons, List.sum_cons] at this ⊢
    omega

theorem take_le_sublist {m l : List Int} (h : m.Sublist l) : l.Pairwise (· ≤ ·) → (l.take m.length).sum ≤ m.sum := by
  induction h with
  | slnil => intro _; simp
  | @cons m l x h ih =>
    intro hs
    have := ih (List.pairwise_cons.mp hs).2
    have := take_shift l x m.length hs h.length_le
    omega
  | cons_cons x h ih =>
    intro hs
    have := ih (List.pairwise_cons.mp hs).2
    simp only [List.length_cons, List.take_succ_cons, List.sum_cons]
    omega

theorem take_le {l m m' : List Int} (hs : l.Pairwise (· ≤ ·)) (hp : l.Perm (m ++ m')) : (l.take m.length).sum ≤ m.sum := by
  obtain ⟨m₁, h1, h2⟩ := List.exists_perm_sublist (List.sublist_append_left m m') hp.symm
  have := take_le_sublist h2 hs
  rwa [h1.length_eq, SpecUtil.perm_sum_eq h1] at this

theorem cast_sum : ∀ l : List Nat, ((l.map (Nat.cast : Nat → Int)).sum : Int) = (l.sum : Nat)
  | [] => rfl
  | x :: t => by simp only [List.map_cons, List.sum_cons, cast_sum t, Int.natCast_add]

theorem take_le_sublist_nat {m l : List Nat} (h : m.Sublist l) (hs : l.Pairwise (· ≤ ·)) : (l.take m.length).sum ≤ m.sum := by
  have := take_le_sublist (h.map (Nat.cast : Nat → Int)) (List.pairwise_map.mpr (hs.imp (fun h => Int.ofNat_le.mpr h)))
  rw [List.length_map, ← List.map_take, cast_sum, cast_sum] at this
  exact Int.ofNat_le.mp this

theorem exists_perm_append {α : Type} [DecidableEq α] : ∀ {A B : List α}, A.Nodup → (∀ x ∈ A, x ∈ B) → ∃ C, B.Perm (A ++ C)
  | [], B, _, _ => ⟨B, .refl _⟩
  | a :: A, B, hA, h => by
    obtain ⟨hn, hA'⟩ := List.nodup_cons.mp hA
    obtain ⟨C, hC⟩ := exists_perm_append (B := B.erase a) hA'
      (fun x hx => (List.mem_erase_of_ne (fun (e : x = a) => hn (e ▸ hx))).mpr (h x (List.mem_cons_of_mem _ hx)))
    exact ⟨C, (List.perm_cons_erase (h a List.mem_cons_self)).trans (hC.cons a)⟩

end Ddo.Examples.InsSort
