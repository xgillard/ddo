import DdoModel.Examples.TalentschedProofsStep
/-! The value-to-go of the talentsched model is monotone: a state that must shoot fewer scenes and may shoot more (`Below`) has
    fewer actors on location, so it pays no more for any scene, offers every decision and is worth at least as much
    (`bestRem_mono`).  The repaired merge is above each of its members, hence `MergeOk`; the merge as shipped is above all but
    its first (`TalentschedModel.lean`). -/
namespace Ddo.Examples.TalentschedModel
open Ddo Ddo.Examples Ddo.Examples.Util Ddo.SpecUtil

structure Below (u m : St) : Prop where
  must : Sub m.scenes u.scenes
  may : ∀ i, (u.scenes.testBit i = true ∨ u.maybe.testBit i = true) → (m.scenes.testBit i = true ∨ m.maybe.testBit i = true)

theorem present_sub (T : Tab) {u m : St} (hb : Below u m) (hd : Disj u) : Sub (present T m) (present T u) := by
  intro a
  rw [testBit_present, testBit_present]
  rintro ⟨⟨i, hi, hM, hS, ha⟩, ⟨j, hj, hM', hS', ha'⟩⟩
  refine ⟨⟨i, hi, ?_, ?_, ha⟩, ⟨j, hj, ?_, hb.must j hS', ha'⟩⟩
  · cases h : u.maybe.testBit i
    · rfl
    · have := hb.may i (Or.inr h); simp [hM, hS] at this
  · cases h : u.scenes.testBit i
    · rfl
    · have := hb.may i (Or.inl h); simp [hM, hS] at this
  · cases h : u.maybe.testBit j
    · rfl
    · exact absurd ⟨hb.must j hS', h⟩ (hd j)

theorem sub_sdiff {a b : Nat} (h : Sub a b) (c : Nat) : Sub (sdiff a c) (sdiff b c) := by
  intro i
  rw [testBit_sdiff, testBit_sdiff]
  simp only [Bool.and_eq_true]
  exact fun ⟨h1, h2⟩ => ⟨h i h1, h2⟩

theorem cost_mono (T : Tab) (hn : NonNeg T) {u m : St} (hb : Below u m) (hd : Disj u) (d : Dec) :
    cost T u d ≤ cost T m d := by
  unfold cost cost?
  split
  · exact Int.le_refl _
  · simp only [Option.getD_some]
    have := sum_bits_le (f := fun a => costA T a * durS T d.val.toNat)
      (fun a => Int.mul_nonneg (hn.cost a) (hn.dur _)) (sub_sdiff (present_sub T hb hd) (actS T d.val.toNat))
    omega

theorem Below.step {u m : St} (h : Below u m) (i : Nat) :
    Below { scenes := sdiff u.scenes (1 <<< i), maybe := sdiff u.maybe (1 <<< i) }
          { scenes := sdiff m.scenes (1 <<< i), maybe := sdiff m.maybe (1 <<< i) } := by
  constructor
  · exact sub_sdiff h.must _
  · intro j
    dsimp only
    simp only [testBit_sdiff, Bool.and_eq_true]
    rintro (⟨h1, h2⟩ | ⟨h1, h2⟩)
    · rcases h.may j (Or.inl h1) with h3 | h3
      · exact Or.inl ⟨h3, h2⟩
      · exact Or.inr ⟨h3, h2⟩
    · rcases h.may j (Or.inr h1) with h3 | h3
      · exact Or.inl ⟨h3, h2⟩
      · exact Or.inr ⟨h3, h2⟩

theorem domain_mono (T : Tab) {d : Nat} {u m : St} (hb : Below u m) (hi : Inv T d u) {v : Int}
    (hv : v ∈ domain T d u) : v ∈ domain T d m := by
  rw [mem_domain] at hv ⊢
  obtain ⟨i, rfl, h64, h⟩ := hv
  refine ⟨i, rfl, h64, ?_⟩
  have hle := card_le_of_sub hb.must
  have hroom := hi.room
  rcases h with h | ⟨hlt, h⟩
  · cases hm : m.scenes.testBit i
    · right
      -- mandatory in `u`, only optional in `m`: `m` has fewer mandatory scenes than `u`, so `Inv.room` of `u` opens its guard
      have := card_lt_of_sub hb.must h64 hm h
      rcases hb.may i (Or.inl h) with h' | h'
      · rw [hm] at h'; cases h'
      · exact ⟨by omega, h'⟩
    · exact Or.inl rfl
  · rcases hb.may i (Or.inr h) with h' | h'
    · exact Or.inl h'
    · exact Or.inr ⟨by omega, h'⟩

theorem bestRemF_mono (T : Tab) (hn : NonNeg T) : ∀ (fuel d : Nat) (u m : St), Below u m → Inv T d u →
    bestRemF T fuel d u ≤ bestRemF T fuel d m := by
  intro fuel
  induction fuel with
  | zero => intro d u m _ _; exact EInt.le_refl _
  | succ fuel ih =>
    intro d u m hb hi
    rw [bestRemF, bestRemF]
    apply EMax.foldl_max_le _ _ _ (EInt.none_le _)
    intro v hv
    have hvm := domain_mono T hb hi hv
    refine EInt.le_trans ?_ ((EMax.foldl_max_spec _ _ _).2.1 v hvm)
    obtain ⟨i, rfl, h64, hdom⟩ := (mem_domain T d u v).mp hv
    rw [trans_nat u d i h64, trans_nat m d i h64]
    exact EMax.addI_mono (ih (d + 1) _ _ (hb.step i) (hi.step h64 hdom)) (cost_mono T hn hb hi.disj _)

theorem bestRem_mono (T : Tab) (hn : NonNeg T) (d : Nat) (u m : St) (hb : Below u m) (hi : Inv T d u) :
    bestRem T d u ≤ bestRem T d m := bestRemF_mono T hn _ d u m hb hi

theorem below_merge (X : List St) (u : St) (hu : u ∈ X) : Below u (mergeStates X) :=
  ⟨fun i h => mergeStates_scenes_sub X i h u hu, fun i h => merge_covers X u hu i h⟩

theorem merge_bestRem_le (T : Tab) (hn : NonNeg T) (d : Nat) (X : List St) (u : St) (hu : u ∈ X)
    (hv : Inv T d u) : bestRem T d u ≤ bestRem T d (mergeStates X) :=
  bestRem_mono T hn d u _ (below_merge X u hu) hv

theorem mergeOkStmt (T : Tab) : MergeOkStmt T := by
  intro hT d X u src dec c h hu hX hh
  have hle := merge_bestRem_le T hT.nonNeg d X u hu (inv_of_valid (hX u hu))
  rw [hh] at hle
  obtain ⟨h', e, hle'⟩ := EMax.of_some_le hle
  exact ⟨h', e, show c + h ≤ c + h' by omega⟩

/-- the clause `merge` of `WfRel` with `H = bestRem`, `V = validB` -/
theorem wfRel_merge (T : Tab) (hT : TabOk T) :
    ∀ k (X : List St) (u src : St) (d : Dec) (c h : Int), u ∈ X → (∀ w ∈ X, validB T k w = true) →
      bestRem T k u = some h →
      ∃ h', bestRem T k ((relaxation T).merge X) = some h' ∧
        c + h ≤ (relaxation T).relax src u ((relaxation T).merge X) d c + h' :=
  fun k X u src d c h hu hX hh => mergeOkStmt T hT k X u src d c h hu hX hh

theorem mergeOkTailStmt (T : Tab) : MergeOkTailStmt T := by
  intro hT d f rest u h hu hX hh
  have hb : Below u (mergeStatesOld (f :: rest)) :=
    ⟨fun i hi => merge_scenes_sub _ i hi u (List.mem_cons_of_mem _ hu), fun i hi => merge_covers_tail f rest u hu i hi⟩
  have hle := bestRem_mono T hT.nonNeg d u _ hb (inv_of_valid (hX u (List.mem_cons_of_mem _ hu)))
  rw [hh] at hle
  exact EMax.of_some_le hle

theorem mergeOkSymStmt (T : Tab) : MergeOkSymStmt T := by
  intro hT d X u h hu hX hh
  have hb : Below u (mergeSym X) := by
    cases X with
    | nil => cases hu
    | cons f rest =>
      constructor
      · intro i hi
        have h' := mergeAcc_scenes i rest f hi
        rcases List.mem_cons.mp hu with rfl | hu
        · exact h'.1
        · exact h'.2 u hu
      · intro i hi
        show (mergeAcc f rest).scenes.testBit i = true ∨
          (sdiff ((mergeAcc f rest).maybe ||| f.scenes) (mergeAcc f rest).scenes).testBit i = true
        rw [testBit_sdiff, Nat.testBit_or]
        have hm : ((mergeAcc f rest).maybe.testBit i || f.scenes.testBit i) = true := by
          rcases List.mem_cons.mp hu with rfl | hu
          · rcases hi with hi | hi
            · simp [hi]
            · simp [mergeAcc_maybe_mono i rest u hi]
          · simp [mergeAcc_covers i rest f u hu hi]
        cases hs : (mergeAcc f rest).scenes.testBit i
        · right; simp [hm]
        · left; rfl
  have hle := bestRem_mono T hT.nonNeg d u _ hb (inv_of_valid (hX u hu))
  rw [hh] at hle
  exact EMax.of_some_le hle

end Ddo.Examples.TalentschedModel

section
open Ddo.Examples.TalentschedModel
#print axioms bestRem_mono
#print axioms mergeOkStmt
#print axioms mergeOkTailStmt
#print axioms mergeOkSymStmt
end
