import DdoModel.Examples.AlpProofsSim
import DdoModel.Proofs.WfRelSteps
import DdoModel.Props.C06
import DdoModel.Proofs.MddCoverRel
import DdoModel.Examples.AlpProofsPrefix
/-! alp example: well-formedness and the closed corollary.

* `wfRel`: the `WfRel` instance (potential = `best`, the best completion under the model's own domains and costs; layer
  validity = `StW`, the shape of the states, independent of the depth);
* `noClampDom_false` (**finding about the generic hypothesis, not about the example**): `NoClampDom.cost` bounds the cost of
  the decisions of the domain of EVERY state, also states no run can build; on an ill-shaped state (more `rem` entries /
  runways than the instance has classes / runways) a decision of the domain decodes to another (class, runway) pair than the
  one tested against the latest time, and its cost is unbounded.  So `NoClampDom (problem cexInst) …` is false whatever the
  bound, and `alp_relaxed_ub_partial` (the corollary of `C06.relaxed_ub_rel_dom` under that hypothesis) has a hypothesis no
  instance is shown to meet;
* `alp_relaxed_ub`: the closed corollary against the specification `Alp.spec`, through the no-saturation clause restricted to
  the valid states (`Ddo.NoClampRel`, `Proofs/MddCoverRel.lean`), which IS met as soon as the latest landing times are within
  a bound `B` with `(n + 2) · B ≤ 2^62` (`Small`; transition costs are negated delays, within `[-B, 0]`; `relax` leaves the
  costs unchanged); non-vacuity instance `Demo`. -/
namespace Ddo.Examples.AlpModel

section
open Ddo Ddo.Examples Ddo.Examples.Util

variable (I : Inst)

theorem foldl_emax_attained {α : Type} (g : α → EInt) (l : List α) (acc : EInt) (h : Int)
    (hh : l.foldl (fun acc v => EInt.max acc (g v)) acc = some h) : acc = some h ∨ ∃ v ∈ l, g v = some h :=
  (EMax.foldl_max_spec g l acc).2.2.imp (fun e => e.symm.trans hh) fun ⟨v, hv, e⟩ => ⟨v, hv, e.symm.trans hh⟩

def H (_ : Nat) (s : St) : EInt := best I s
def V (_ : Nat) (s : St) : Prop := StW I s

theorem trans_neg_one (s : St) : trans? I s (-1) = some s := by
  unfold trans?; simp

theorem cost_neg_one (s : St) : cost? I s (-1) = some 0 := by
  unfold cost?; simp

theorem stW_trans (hD : InDom I) {s : St} (hW : StW I s) {d : Int} (hd : d ∈ domain I s) (x : Nat) :
    StW I ((problem I).trans s ⟨x, d⟩) := by
  show StW I ((trans? I s d).getD s)
  by_cases htot : totRem s = 0
  · rw [domain_zero I htot] at hd
    rw [List.mem_singleton.mp hd, trans_neg_one]
    exact hW
  · rcases domain_step I hW.1 hW.2.1 (Nat.pos_of_ne_zero htot) hd with e | ⟨c, r, a, k', hk, ha, _, _, e, _⟩
    · rw [e.1]; exact hW
    · rw [e]; exact stW_land I hD hW hk ha

theorem att (s : St) (hW : StW I s) (x : Nat) {h : Int} (hh : best I s = some h) :
    ∃ d ∈ (problem I).domain x s, ∃ h', best I ((problem I).trans s ⟨x, d⟩) = some h' ∧
      h ≤ (problem I).cost s ((problem I).trans s ⟨x, d⟩) ⟨x, d⟩ + h' := by
  by_cases htot : totRem s = 0
  · refine ⟨-1, by show (-1 : Int) ∈ domain I s; rw [domain_zero I htot]; exact List.mem_cons_self .., h, ?_, ?_⟩
    · show best I ((trans? I s (-1)).getD s) = some h
      rw [trans_neg_one]; exact hh
    · show h ≤ (cost? I s (-1)).getD 0 + h
      rw [cost_neg_one]; simp
  · have hpos : 0 < totRem s := Nat.pos_of_ne_zero htot
    obtain ⟨f, hf⟩ := Nat.exists_eq_add_one.mpr hpos
    unfold best at hh
    rw [hf] at hh
    obtain ⟨d, hd, c, r, a, k', h', hk, _, _, _, e1, e2, hb, e⟩ := bestRem_attained I hW.1 hW.2.1 hpos hh
    have htl : totRem (land I s c r a k') = f := by
      have := totRem_land I s r a hk
      omega
    refine ⟨d, hd, h', ?_, ?_⟩
    · show best I ((trans? I s d).getD s) = some h'
      rw [e1]
      show bestRem I (totRem (land I s c r a k')) (land I s c r a k') = some h'
      rw [htl]
      exact hb
    · show h ≤ (cost? I s d).getD 0 + h'
      rw [e2, ← e]
      exact Int.le_of_eq (Int.add_comm _ _)

theorem wfRel (hdom : I.inDomain = true) : WfRel (problem I) (relaxation I) (H I) (V I) :=
  .of_steps
    (fun _ _ x _ _ _ hV hd => stW_trans I (inDom_of I hdom) hV hd x)
    (fun _ X _ hX => stW_merge I hX)
    (fun _ _ x s _ _ hV hh => att I s hV x hh)
    (fun _ _ _ _ _ _ _ hh => best_nonpos I hh)
    (fun _ _ _ _ hh => best_nonpos I hh) <| by
    intro _ X u _ _ c h hu hX hh
    have hm := best_mono I (inDom_of I hdom) (stW_merge I (fun w hw => hX w hw)) (hX u hu)
      (relaxes_merge I (fun w hw => hX w hw) hu)
    unfold H at hh
    rw [hh] at hm
    cases hb : best I (mergeStates I X) with
    | none => rw [hb] at hm; exact absurd hm (by simp)
    | some h' =>
      rw [hb] at hm
      exact ⟨h', hb, Int.add_le_add_left ((EInt.some_le_some _ _).mp hm) c⟩

/-- **finding** (about the hypothesis of the generic theorems): `NoClampDom.cost` quantifies over every state; on the
    ill-shaped state `([1, 1], [(0, -1), (2^62, 0)])` of the one-aircraft instance `cexInst` (one class, one runway) the
    decision `1` of the domain (class 1 on runway 0, accepted) decodes to class 0 on runway 1 and costs `-(2^62 + 5)` -/
theorem noClampDom_false (rv B : Int) : ¬ NoClampDom (problem cexInst) (relaxation cexInst) rv B := by
  intro h
  have hc := (h.cost 0 ([1, 1], [(0, -1), (4611686018427387904, 0)]) 1 (by decide +kernel)).1
  have hs := h.small
  have e1 : (problem cexInst).cost ([1, 1], [(0, -1), (4611686018427387904, 0)])
      ((problem cexInst).trans ([1, 1], [(0, -1), (4611686018427387904, 0)]) ⟨0, 1⟩) ⟨0, 1⟩ = -4611686018427387909 := by
    decide +kernel
  have e2 : ((problem cexInst).nbVars : Int) = 1 := rfl
  rw [e1] at hc
  rw [e2] at hs
  omega

/-- the corollary of `C06.relaxed_ub_rel_dom`, under the hypothesis `NoClampDom` that `noClampDom_false` refutes for `cexInst`
    (the closed corollary is `alp_relaxed_ub`, below) -/
theorem alp_relaxed_ub_partial {K : Type} [DecidableEq K] (cfg : Cfg St K) (B : Int)
    (cache : Cache St) (store : DomStore St K) (polls : Nat) (hdomI : I.inDomain = true)
    (hP : cfg.P = problem I) (hR : cfg.R = relaxation I)
    (hrs : cfg.root.state = initState I) (hrv : cfg.root.value = 0) (hrd : cfg.root.depth = 0)
    (hrel : cfg.ctype = .relaxed) (hcache : cfg.useCache = false) (hdom : cfg.dom = none) (hW : 1 ≤ cfg.width)
    (hB : NoClampDom (problem I) (relaxation I) 0 B)
    (hlb : InI cfg.lb) (o : Int) (ho : best I (initState I) = some o) (hgt : o > cfg.lb) :
    (compile cfg cache store polls none).1 = .ok →
    ∃ bv, (compile cfg cache store polls none).2.1.bestValue = some bv ∧ o ≤ bv := by
  have hO : o ≤ iMax := Int.le_trans (best_nonpos I ho) (by decide)
  refine C06.relaxed_ub_rel_dom cfg (H I) (V I) B cache store polls hrel hcache hdom hW ?_ ?_ ?_ hlb o ?_ hgt (Or.inl hO)
  · rw [hP, hR]; exact wfRel I hdomI
  · rw [hrd, hrs]; exact stW_init I
  · rw [hP, hR, hrv]; exact hB
  · unfold optOf
    rw [hrd, hrs, hrv]
    show (best I (initState I)).addI 0 = some o
    rw [ho]
    simp [EInt.addI]

#print axioms wfRel
#print axioms noClampDom_false
#print axioms alp_relaxed_ub_partial
end

section
open Ddo Ddo.Examples Ddo.Examples.Util

variable (I : Inst)

/-- the latest landing times are small enough for path values never to saturate -/
structure Small (B : Int) : Prop where
  nonneg : 0 ≤ B
  lat_le : ∀ a, a < I.nbAircraft → I.lat a ≤ B
  small : ((I.nbAircraft : Int) + 2) * B ≤ 4611686018427387904

theorem cost_bound (hD : InDom I) {B : Int} (hB : Small I B) {s : St} (hW : StW I s) {d : Int} (hd : d ∈ domain I s) :
    -B ≤ (cost? I s d).getD 0 ∧ (cost? I s d).getD 0 ≤ B := by
  have hB0 := hB.nonneg
  by_cases htot : totRem s = 0
  · rw [domain_zero I htot] at hd
    rw [List.mem_singleton.mp hd, cost_neg_one]
    exact ⟨Int.neg_nonpos_of_nonneg hB0, hB0⟩
  · rcases domain_step I hW.1 hW.2.1 (Nat.pos_of_ne_zero htot) hd with e | ⟨c, r, a, k', _, ha, _, hl, _, e⟩
    · rw [e.2]
      exact ⟨Int.neg_nonpos_of_nonneg hB0, hB0⟩
    · rw [e]
      show -B ≤ -(arrP I (rwAt s r) a - I.tgt a) ∧ -(arrP I (rwAt s r) a - I.tgt a) ≤ B
      have han := (nextTab_succ I ha).1
      have := hB.lat_le a han
      have := hD.tgt_nn a han
      have := tgt_le_arrP I (rwAt s r) a
      omega

theorem noClampRel (hD : InDom I) {B : Int} (hB : Small I B) :
    NoClampRel (problem I) (relaxation I) (V I) 0 B B where
  nonneg := hB.nonneg
  le := Int.le_refl _
  root := by have := hB.nonneg; omega
  cost := by
    intro k L x s d _ _ hV hd
    exact cost_bound I hD hB hV hd
  relax := by
    intro k X u src d c _ _ hc
    exact hc
  small := hB.small

/-- **The shipped alp example**: a relaxed compilation of its model from the root (layer by layer, no cache, no dominance
    checker, width ≥ 1, any incumbent `lb` that the optimum beats) reports a best value that is at least the true optimum —
    minus the least total delay `Alp.spec` of the instance —, for every instance of the input domain (`inDomain`: classes
    sorted by target and latest time, triangle inequality) that has a schedule (`t ≠ -1`) and whose latest times are small
    (`Small`) -/
theorem alp_relaxed_ub {K : Type} [DecidableEq K] (cfg : Cfg St K) (B : Int)
    (cache : Cache St) (store : DomStore St K) (polls : Nat) (hdomI : I.inDomain = true) (hB : Small I B)
    (hP : cfg.P = problem I) (hR : cfg.R = relaxation I)
    (hrs : cfg.root.state = initState I) (hrv : cfg.root.value = 0) (hrd : cfg.root.depth = 0)
    (hrel : cfg.ctype = .relaxed) (hcache : cfg.useCache = false) (hdom : cfg.dom = none) (hW : 1 ≤ cfg.width)
    (hlb : InI cfg.lb)
    (t : Int) (ht : Alp.spec I.nbAircraft I.nbRunways I.specInst = t) (hfeas : t ≠ -1) (hgt : -t > cfg.lb) :
    (compile cfg cache store polls none).1 = .ok →
    ∃ bv, (compile cfg cache store polls none).2.1.bestValue = some bv ∧ -t ≤ bv := by
  have hroot := root_exact_spec I hdomI t ht hfeas
  have hO : -t ≤ iMax := Int.le_trans (best_nonpos I hroot) (by decide)
  refine CoverRel.relaxed_ub_rel_valid cfg (H I) (V I) B B cache store polls hrel hcache hdom hW ?_ ?_ ?_ hlb (-t) ?_ hgt
    (Or.inl hO)
  · rw [hP, hR]; exact (wfRel I hdomI).toV
  · rw [hrd, hrs]; exact stW_init I
  · rw [hP, hR, hrv]; exact noClampRel I (inDom_of I hdomI) hB
  · unfold optOf
    rw [hrd, hrs, hrv]
    show (best I (initState I)).addI 0 = some (-t)
    rw [hroot]
    simp [EInt.addI]

/-! non-vacuity: 3 aircraft (targets 0, 0, 1; latest 10; classes 0, 1, 0), two runways, `sep = [[2, 3], [5, 2]]`; the
    least total delay is 1 (the third aircraft waits for the separation 2 behind the first); width 1: the children of the
    root are merged, the relaxed compilation reports 0 ≥ -1 -/
namespace Demo

def inst : Inst :=
  { nbClasses := 2, nbAircraft := 3, nbRunways := 2, classes := [0, 1, 0], target := [0, 0, 1], latest := [10, 10, 10],
    sep := [[2, 3], [5, 2]] }

def cfg : Cfg St Unit :=
  { P := problem inst, R := relaxation inst, rank := ⟨rankCmp⟩, dom := none,
    useCache := false, kind := .lel, ctype := .relaxed, width := 1, root := ⟨initState inst, 0, [], iMax, 0⟩, lb := -1000000 }

theorem inDomain_inst : inst.inDomain = true := by decide +kernel

theorem small_inst : Small inst 10 where
  nonneg := by decide
  lat_le := by decide +kernel
  small := by decide

theorem spec_inst : Alp.spec inst.nbAircraft inst.nbRunways inst.specInst = 1 := by decide +kernel

theorem run : (compile cfg (Cache.init 3) (DomStore.init 3) 0 none).1 = .ok
    ∧ (compile cfg (Cache.init 3) (DomStore.init 3) 0 none).2.1.bestValue = some 0 := by decide +kernel

theorem ok : (compile cfg (Cache.init 3) (DomStore.init 3) 0 none).1 = .ok := run.1

example : ∃ bv, (compile cfg (Cache.init 3) (DomStore.init 3) 0 none).2.1.bestValue = some bv ∧ -1 ≤ bv :=
  alp_relaxed_ub inst cfg 10 (Cache.init 3) (DomStore.init 3) 0 inDomain_inst small_inst rfl rfl rfl rfl rfl rfl rfl rfl
    (by decide) (by decide) 1 spec_inst (by decide) (by decide) ok

/-- the root of the demo is not exact: the relaxed compilation reports `0`, the optimum is `-1` -/
theorem demo_values : (compile cfg (Cache.init 3) (DomStore.init 3) 0 none).2.1.bestValue = some 0
    ∧ best inst (initState inst) = some (-1) := ⟨run.2, root_exact_spec inst inDomain_inst 1 spec_inst (by decide)⟩

end Demo

#print axioms noClampRel
#print axioms alp_relaxed_ub
end

end Ddo.Examples.AlpModel
