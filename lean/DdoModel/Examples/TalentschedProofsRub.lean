import DdoModel.Examples.TalentschedProofsStep
import DdoModel.Examples.TalentschedProofsExact
import DdoModel.Examples.TalentschedProofsSmith
import DdoModel.Examples.InsSort
/-! The rough bound of the talentsched model, evaluated exactly (`rub?`; the code evaluates it in `f64`), is admissible on EVERY
    state with `Inv`, exact or merged (`rubAdmissible_inv`: the form `talentsched_wfRel` needs; `RubAdmissibleStmt` follows).
    After Garcia de la Banda, Stuckey & Chu, in four steps:
    1. nobody on location (the root, for one; no `Inv` needed): every transition cost is `≤ 0`, hence so is every value-to-go,
       and the bound is exactly `0`;
    2. a completion is a run (`IsRun`, `TalentschedProofsExact`) that shoots every mandatory scene, and pays AT LEAST `G` to the
       actors on location;
    3. along ANY order of the scenes, the second loop of the code, run over the actors in the order in which they leave, is at
       most `G` plus what the first loop subtracts (`smith_le_G`);
    4. the code runs the second loop in sorted order, which is cheapest (Smith's rule, `posK_smith`): its `lb` is at most what the
       run that attains the value-to-go pays, an integer, which the final `ceil(lb - 10^-6)` respects (`ceil_bound`). -/

namespace Ddo.Examples.TalentschedModel
open Ddo Ddo.Examples Ddo.Examples.Util Ddo.SpecUtil

theorem cost_nonpos (T : Tab) (hn : NonNeg T) (s : St) (d : Dec) : cost T s d ≤ 0 := by
  unfold cost cost?
  split
  · exact Int.le_refl _
  · simp only [Option.getD_some]
    have := sum_bits_le (f := fun a => costA T a * durS T d.val.toNat)
      (fun a => Int.mul_nonneg (hn.cost a) (hn.dur _))
      (show Sub 0 (sdiff (present T s) (actS T d.val.toNat)) from fun i h => by simp at h)
    have h0 : sum ((bits 0).map fun a => costA T a * durS T d.val.toNat) = 0 := rfl
    omega

theorem bestRemF_le_zero (T : Tab) (hn : NonNeg T) : ∀ (fuel d : Nat) (s : St), bestRemF T fuel d s ≤ (some 0 : EInt) := by
  intro fuel
  induction fuel with
  | zero => intro d s; exact EInt.le_refl _
  | succ fuel ih =>
    intro d s
    rw [bestRemF]
    apply EMax.foldl_max_le _ _ _ (EInt.none_le _)
    intro v _
    exact EMax.addI_mono (ih (d + 1) (trans s ⟨d, v⟩)) (cost_nonpos T hn s ⟨d, v⟩)

theorem bestRem_le_zero (T : Tab) (hn : NonNeg T) (d : Nat) (s : St) : bestRem T d s ≤ (some 0 : EInt) :=
  bestRemF_le_zero T hn _ d s

theorem foldl_id {α β : Type} (l : List α) (b : β) : l.foldl (fun acc _ => acc) b = b := by
  induction l with
  | nil => rfl
  | cons x l ih => exact ih

theorem rub_of_nobody_present (T : Tab) (s : St) (hs : s.scenes >>> T.n = 0) (hp : present T s = 0) :
    rub? T s = some 0 := by
  unfold rub? rubQ?
  have hsc : rubScenes T s = [] := by
    unfold rubScenes
    simp [hp]
  simp only [hs, hsc, hp]
  simp [foldl_id, ceilDiv]

theorem rubAdmissible_partial (T : Tab) (hT : TabOk T) (d : Nat) (s : St) (r : Int) (hs : s.scenes >>> T.n = 0)
    (hp : present T s = 0) (hr : rub? T s = some r) : bestRem T d s ≤ (some r : EInt) := by
  rw [rub_of_nobody_present T s hs hp] at hr
  cases hr
  exact bestRem_le_zero T hT.nonNeg d s

end Ddo.Examples.TalentschedModel

section
open Ddo.Examples.TalentschedModel
#print axioms bestRemF_le_zero
#print axioms rubAdmissible_partial
end

/-! Step 2.  `G`, for fixed sets `P` (actors) and `Q0` (scenes): while a scene `j ∈ Q0` is shot, every actor of `P` who still plays
    in a later scene of `Q0` and not in `j` is paid.  A run from `s` pays at least `G` with `P = present s`, `Q0 = s.scenes`
    (`runCost_le_G`): the scenes of `maybe` and the actors who arrive later only add to the pay. -/

namespace Ddo.Examples.TalentschedModel
open Ddo Ddo.Examples Ddo.Examples.Util Ddo.SpecUtil

theorem card_zero_testBit {m j : Nat} (h : card m = 0) (hj : j < 64) : m.testBit j = false := by
  cases hb : m.testBit j
  · rfl
  · have := card_lt_of_sub (a := 0) (b := m) (fun i hi => by simp at hi) hj (by simp) hb
    have h0 : card 0 = 0 := rfl
    omega

theorem run_covers (T : Tab) : ∀ (q : List Nat) (s : St) (d : Nat), IsRun T s d q → Inv T d s → q.length + d = T.n →
    ∀ j, j < 64 → s.scenes.testBit j = true → j ∈ q := by
  intro q
  induction q with
  | nil =>
    intro s d _ hi hl j hj hb
    have := hi.room
    simp only [List.length_nil] at hl
    have hc : card s.scenes = 0 := by omega
    rw [card_zero_testBit hc hj] at hb
    cases hb
  | cons j0 q ih =>
    intro s d hr hi hl j hj hb
    obtain ⟨h64, h0⟩ := run_head hr.1
    by_cases e : j = j0
    · subst e; exact List.mem_cons_self
    · have hr2 := hr.2
      rw [trans_nat s d j0 h64] at hr2
      refine List.mem_cons_of_mem _ (ih _ _ hr2 (hi.step h64 h0) (by simp only [List.length_cons] at hl; omega) j hj ?_)
      dsimp only
      rw [testBit_sdiff_bit, hb]
      simp [e]

theorem sumRange_le {n : Nat} {f g : Nat → Int} (h : ∀ i, i < n → f i ≤ g i) : sumRange n f ≤ sumRange n g := by
  induction n with
  | zero => exact Int.le_refl _
  | succ n ih =>
    rw [sumRange_succ, sumRange_succ]
    have := ih (fun i hi => h i (by omega))
    have := h n (by omega)
    omega

theorem sumRange_mul_left (n : Nat) (m : Int) (f : Nat → Int) : m * sumRange n f = sumRange n fun i => m * f i := by
  induction n with
  | zero => simp
  | succ n ih => rw [sumRange_succ, sumRange_succ, Int.mul_add, ih]

theorem sumRange_nonneg {n : Nat} {f : Nat → Int} (h : ∀ i, i < n → 0 ≤ f i) : 0 ≤ sumRange n f := by
  have := sumRange_le (f := fun _ => 0) (g := f) h
  have h0 : sumRange n (fun _ => (0 : Int)) = 0 := by
    induction n with
    | zero => rfl
    | succ n ih => rw [sumRange_succ, ih (fun i hi => h i (by omega)) (sumRange_le fun i hi => h i (by omega))]; rfl
  omega

def later (T : Tab) (Q0 : Nat) (q : List Nat) (a : Nat) : Bool := q.any fun j => Q0.testBit j && (actS T j).testBit a

def inU (T : Tab) (P Q0 : Nat) (q : List Nat) (a : Nat) : Bool := P.testBit a && later T Q0 q a

def G (T : Tab) (P Q0 : Nat) : List Nat → Int
  | [] => 0
  | j :: q => (if Q0.testBit j then
      durS T j * sumRange 64 (fun a => if inU T P Q0 q a && !(actS T j).testBit a then costA T a else 0) else 0) + G T P Q0 q

/-- the `before` half of `get_present`, for the actors of `P` -/
def SeenIn (T : Tab) (P : Nat) (s : St) : Prop :=
  ∀ a, P.testBit a = true → ∃ i, i < T.n ∧ s.maybe.testBit i = false ∧ s.scenes.testBit i = false ∧ (actS T i).testBit a = true

theorem SeenIn.step {T : Tab} {P : Nat} {s : St} (h : SeenIn T P s) (j : Nat) :
    SeenIn T P { scenes := sdiff s.scenes (1 <<< j), maybe := sdiff s.maybe (1 <<< j) } := by
  intro a ha
  obtain ⟨i, hi, hM, hS, hA⟩ := h a ha
  refine ⟨i, hi, ?_, ?_, hA⟩
  · dsimp only; rw [testBit_sdiff_bit, hM]; rfl
  · dsimp only; rw [testBit_sdiff_bit, hS]; rfl

theorem seenIn_present (T : Tab) (s : St) : SeenIn T (present T s) s := fun a ha =>
  ((testBit_present T s a).mp ha).1

theorem runCost_le_G (T : Tab) (hn : NonNeg T) (P Q0 : Nat) (hQ : ∀ j, Q0.testBit j = true → j < T.n) :
    ∀ (q : List Nat) (s : St) (d : Nat), IsRun T s d q → Inv T d s → SeenIn T P s →
      (∀ j ∈ q, Q0.testBit j = true → s.scenes.testBit j = true) → runCost T s d q ≤ -G T P Q0 q := by
  intro q
  induction q with
  | nil => intro s d _ _ _ _; exact Int.le_refl _
  | cons j q ih =>
    intro s d hr hi hseen hmust
    obtain ⟨h64, h0⟩ := run_head hr.1
    have hnd := List.nodup_cons.mp (run_nodup T _ _ _ hr)
    have hr2 := hr.2
    rw [runCost, G, trans_nat s d j h64]
    rw [trans_nat s d j h64] at hr2
    have hrec := ih _ _ hr2 (hi.step h64 h0) (hseen.step j) (fun j' hj' hQ' => by
      dsimp only
      rw [testBit_sdiff_bit, hmust j' (List.mem_cons_of_mem _ hj') hQ']
      have : j' ≠ j := fun e => hnd.1 (e ▸ hj')
      simp [this])
    have hstep : cost T s ⟨d, (j : Int)⟩ ≤ -(if Q0.testBit j then
        durS T j * sumRange 64 (fun a => if inU T P Q0 q a && !(actS T j).testBit a then costA T a else 0) else 0) := by
      by_cases hQj : Q0.testBit j = true
      · rw [if_pos hQj]
        have hjn := hQ j hQj
        unfold cost cost?
        have hc : ¬ ((j : Int) < 0 ∨ (j : Int) ≥ (T.n : Int)) := by omega
        simp only [hc, if_false, Option.getD_some, Int.toNat_natCast]
        rw [sum_bits_eq, sumRange_mul_left]
        apply Int.neg_le_neg
        apply sumRange_le
        intro a _
        have hca := hn.cost a
        have hdj := hn.dur j
        by_cases hu : (inU T P Q0 q a && !(actS T j).testBit a) = true
        · rw [if_pos hu]
          simp only [Bool.and_eq_true, Bool.not_eq_true', inU, later, List.any_eq_true] at hu
          obtain ⟨⟨hP, j', hj', hQ', hA'⟩, hnA⟩ := hu
          -- an actor `G` counts is on location in `s`: seen (`hseen`) and needed by the mandatory scene `j'`, not in `maybe` by `disj`
          have hpres : (present T s).testBit a = true := by
            rw [testBit_present]
            refine ⟨hseen a hP, ⟨j', hQ j' hQ', ?_, hmust j' (List.mem_cons_of_mem _ hj') hQ', hA'⟩⟩
            cases hm : s.maybe.testBit j'
            · rfl
            · exact absurd ⟨hmust j' (List.mem_cons_of_mem _ hj') hQ', hm⟩ (hi.disj j')
          have : (sdiff (present T s) (actS T j)).testBit a = true := by
            rw [testBit_sdiff, hpres, hnA]; rfl
          rw [if_pos this, Int.mul_comm]
          exact Int.le_refl _
        · rw [if_neg hu, Int.mul_zero]
          split
          · exact Int.mul_nonneg hca hdj
          · exact Int.le_refl _
      · rw [if_neg hQj]
        exact cost_nonpos T hn s _
    omega

end Ddo.Examples.TalentschedModel

section
open Ddo.Examples.TalentschedModel
#print axioms run_covers
#print axioms runCost_le_G
end

/-! Step 3, the combinatorial heart.  For fixed sets `P` (actors on location) and `Q0` (scenes that must still be shot), along ANY
    order `q` of scenes: `2 · posK (Kq q) c 0 (piL q) ≤ 2 · den · G q + Nq q` (`smith_le_G`), where
    * `piL q` lists the actors of `P` in the order in which they leave (the actors whose last scene of `Q0` comes first, first),
    * `Kq q a = den · Σ_{j ∈ q ∩ Q0, a ∈ P_j} duration_j / T_j` is `den` times the key of the code, so that `posK` is the second
      loop of the code run in the order `piL q` instead of the sorted order,
    * `Nq q = 2 · den · Σ_j duration_j · (T_j + Q_j / T_j) / 2` is what the first loop of the code subtracts,
    * `den` is any common multiple `≥ 0` of the `T_j` (`den / T_j · T_j = den`): everything stays in `Int`.
    Induction on `q`: shooting `j` first adds `m = duration_j · den / T_j` times the 0/1 key of `P_j` to the keys (`posK_lin`);
    the actors who leave after `j` are in front and have key 0 for the rest of the order (`posK_prefix_zero`); `posK_ind_le`
    bounds the 0/1 part by `2·T_j·W − T_j² + Q_j`, where `W` is the total cost of the actors of `P` still needed, and
    `duration_j · (W − T_j)` is what `G` pays for `j`: `m` times the bound is the terms of `2 · den · G` and of `Nq` for `j`. -/

namespace Ddo.Examples.TalentschedModel
open Ddo Ddo.Examples Ddo.Examples.Util Ddo.SpecUtil

def pjOf (T : Tab) (P j : Nat) : Nat := actS T j &&& P
/-- `T_j`, `Q_j` (`pjOf`: `P_j`) exactly as `rubScenes` computes them -/
def tjOf (T : Tab) (P j : Nat) : Int := sum ((bits (pjOf T P j)).map (costA T))
def qjOf (T : Tab) (P j : Nat) : Int := sum ((bits (pjOf T P j)).map fun a => costA T a * costA T a)
def relS (T : Tab) (P Q0 j : Nat) : Bool := Q0.testBit j && (pjOf T P j != 0)

def Kq (T : Tab) (P Q0 : Nat) (den : Int) (q : List Nat) (a : Nat) : Int :=
  (q.map fun j => if relS T P Q0 j then (if (pjOf T P j).testBit a then durS T j * (den / tjOf T P j) else 0) else 0).sum

def Nq (T : Tab) (P Q0 : Nat) (den : Int) (q : List Nat) : Int :=
  (q.map fun j => if relS T P Q0 j then
    durS T j * (tjOf T P j * den + qjOf T P j * (den / tjOf T P j)) else 0).sum

def piL (T : Tab) (P Q0 : Nat) : List Nat → List Nat
  | [] => []
  | j :: q => (List.range 64).filter (fun a => inU T P Q0 (j :: q) a && !inU T P Q0 q a) ++ piL T P Q0 q

theorem sumRange_zero_fn (n : Nat) : sumRange n (fun _ => (0 : Int)) = 0 := by
  induction n with
  | zero => rfl
  | succ n ih => rw [sumRange_succ, ih]; rfl

theorem inU_cons (T : Tab) (P Q0 j : Nat) (q : List Nat) (a : Nat) :
    inU T P Q0 (j :: q) a = (P.testBit a && ((Q0.testBit j && (actS T j).testBit a) || later T Q0 q a)) := by
  simp [inU, later]

theorem inU_mono (T : Tab) (P Q0 j : Nat) (q : List Nat) (a : Nat) (h : inU T P Q0 q a = true) :
    inU T P Q0 (j :: q) a = true := by
  rw [inU_cons]
  simp only [inU, Bool.and_eq_true] at h
  simp [h.1, h.2]

theorem sum_piL (T : Tab) (P Q0 : Nat) (f : Nat → Int) : ∀ q,
    ((piL T P Q0 q).map f).sum = sumRange 64 fun a => if inU T P Q0 q a then f a else 0 := by
  intro q
  induction q with
  | nil =>
    have : (sumRange 64 fun a => if inU T P Q0 [] a then f a else 0) = sumRange 64 fun _ => 0 :=
      sumRange_congr fun a _ => by simp [inU, later]
    rw [this, sumRange_zero_fn]; rfl
  | cons j q ih =>
    rw [piL, List.map_append, List.sum_append, ih, sum_map_filter]
    show sumRange 64 _ + _ = _
    rw [← sumRange_add]
    apply sumRange_congr
    intro a _
    cases h : inU T P Q0 q a
    · simp
    · simp [inU_mono T P Q0 j q a h]

theorem mem_piL (T : Tab) (P Q0 : Nat) : ∀ (q : List Nat) (a : Nat),
    a ∈ piL T P Q0 q ↔ a < 64 ∧ inU T P Q0 q a = true := by
  intro q
  induction q with
  | nil => intro a; simp [piL, inU, later]
  | cons j q ih =>
    intro a
    rw [piL, List.mem_append, List.mem_filter, List.mem_range, ih]
    cases h : inU T P Q0 q a
    · simp
    · simp [inU_mono T P Q0 j q a h]

theorem nodup_piL (T : Tab) (P Q0 : Nat) : ∀ q, (piL T P Q0 q).Nodup := by
  intro q
  induction q with
  | nil => exact List.nodup_nil
  | cons j q ih =>
    rw [piL, List.nodup_append]
    refine ⟨List.nodup_range.filter _, ih, fun a ha b hb e => ?_⟩
    subst e
    have h1 := (List.mem_filter.mp ha).2
    have h2 := ((mem_piL T P Q0 q a).mp hb).2
    simp [h2] at h1

theorem Kq_cons (T : Tab) (P Q0 : Nat) (den : Int) (j : Nat) (q : List Nat) (a : Nat) :
    Kq T P Q0 den (j :: q) a =
      (if relS T P Q0 j then (if (pjOf T P j).testBit a then durS T j * (den / tjOf T P j) else 0) else 0) + Kq T P Q0 den q a := by
  simp [Kq]

theorem Nq_cons (T : Tab) (P Q0 : Nat) (den : Int) (j : Nat) (q : List Nat) :
    Nq T P Q0 den (j :: q) =
      (if relS T P Q0 j then durS T j * (tjOf T P j * den + qjOf T P j * (den / tjOf T P j)) else 0) + Nq T P Q0 den q := by
  simp [Nq]

theorem testBit_pjOf (T : Tab) (P j a : Nat) : (pjOf T P j).testBit a = ((actS T j).testBit a && P.testBit a) := by
  simp [pjOf, Nat.testBit_and]

theorem sum_piL_pj (T : Tab) (P Q0 : Nat) {j : Nat} (q : List Nat) (hQj : Q0.testBit j = true) (f : Nat → Int) :
    ((piL T P Q0 (j :: q)).map fun a => if (pjOf T P j).testBit a then f a else 0).sum = sum ((bits (pjOf T P j)).map f) := by
  rw [sum_piL, sum_bits_eq]
  apply sumRange_congr
  intro a _
  rw [inU_cons, testBit_pjOf, hQj]
  cases (actS T j).testBit a <;> cases P.testBit a <;> simp

theorem Kq_zero (T : Tab) (P Q0 : Nat) (den : Int) (a : Nat) (hP : P.testBit a = true) : ∀ q, later T Q0 q a = false →
    Kq T P Q0 den q a = 0 := by
  intro q
  induction q with
  | nil => intro _; rfl
  | cons j q ih =>
    intro h
    simp only [later, List.any_cons, Bool.or_eq_false_iff] at h
    rw [Kq_cons, ih h.2]
    have : (relS T P Q0 j && (pjOf T P j).testBit a) = false := by
      rw [relS, testBit_pjOf, hP]
      have h1 := h.1
      cases hq : Q0.testBit j <;> cases ha : (actS T j).testBit a <;> simp_all
    cases hr : relS T P Q0 j
    · simp
    · rw [hr] at this
      simp only [Bool.true_and] at this
      simp [this]

theorem sel_nonneg {T : Tab} (hn : NonNeg T) (b : Nat → Bool) (n : Nat) :
    0 ≤ sumRange n (fun a => if b a then costA T a else 0) := by
  apply sumRange_nonneg
  intro a _
  split
  · exact hn.cost a
  · exact Int.le_refl _

theorem gstep_nonneg (T : Tab) (hn : NonNeg T) (P Q0 j : Nat) (q : List Nat) :
    0 ≤ (if Q0.testBit j then
      durS T j * sumRange 64 (fun a => if inU T P Q0 q a && !(actS T j).testBit a then costA T a else 0) else 0) := by
  split
  · exact Int.mul_nonneg (hn.dur j) (sel_nonneg hn _ _)
  · exact Int.le_refl _

theorem G_nonneg (T : Tab) (hn : NonNeg T) (P Q0 : Nat) : ∀ q, 0 ≤ G T P Q0 q := by
  intro q
  induction q with
  | nil => exact Int.le_refl _
  | cons j q ih =>
    rw [G]
    have := gstep_nonneg T hn P Q0 j q
    omega

theorem smith_le_G (T : Tab) (hn : NonNeg T) (P Q0 : Nat) (den : Int) (hden : 0 ≤ den) : ∀ (q : List Nat),
    (∀ j ∈ q, relS T P Q0 j = true → den / tjOf T P j * tjOf T P j = den) →
    2 * posK (Kq T P Q0 den q) (costA T) 0 (piL T P Q0 q) ≤ 2 * den * G T P Q0 q + Nq T P Q0 den q := by
  intro q
  induction q with
  | nil => intro _; simp [posK, piL, G, Nq]
  | cons j q ih =>
    intro hdiv
    have ih' := ih fun j' hj' => hdiv j' (List.mem_cons_of_mem _ hj')
    have hGq := G_nonneg T hn P Q0 q
    by_cases hrel : relS T P Q0 j = true
    · -- the scene counts
      have hQj : Q0.testBit j = true := by
        simp only [relS, Bool.and_eq_true] at hrel; exact hrel.1
      have hw := hdiv j List.mem_cons_self hrel
      have hkey : ∀ a, Kq T P Q0 den (j :: q) a =
          Kq T P Q0 den q a + (durS T j * (den / tjOf T P j)) * indK (fun a => (pjOf T P j).testBit a) a := by
        intro a
        rw [Kq_cons, if_pos hrel, indK]
        split <;> omega
      have hlin := posK_lin (Kq T P Q0 den q) (indK fun a => (pjOf T P j).testBit a) (costA T)
        (durS T j * (den / tjOf T P j)) (piL T P Q0 (j :: q)) 0 0
      simp only [Int.mul_zero, Int.add_zero] at hlin
      have hcongr := posK_congr (c := costA T) (piL T P Q0 (j :: q)) 0 (fun a _ => hkey a)
      rw [hcongr, hlin]
      -- the actors who leave after `j` have key 0 afterwards
      have hpre : posK (Kq T P Q0 den q) (costA T) 0 (piL T P Q0 (j :: q)) = posK (Kq T P Q0 den q) (costA T) 0 (piL T P Q0 q) := by
        rw [piL]
        apply posK_prefix_zero
        intro a ha
        have h1 := (List.mem_filter.mp ha).2
        simp only [Bool.and_eq_true, Bool.not_eq_true'] at h1
        have hP : P.testBit a = true := by
          have := h1.1; rw [inU_cons] at this; simp only [Bool.and_eq_true] at this; exact this.1
        apply Kq_zero T P Q0 den a hP
        have := h1.2
        simp only [inU, hP, Bool.true_and] at this
        exact this
      rw [hpre]
      -- the 0/1 part: on `piL (j :: q)` the `T`, `Q`, `W` of `posK_ind_le` are `T_j`, `Q_j` and `T_j +` what `G` pays per day of `j`
      have hone := posK_ind_le (fun a => (pjOf T P j).testBit a) (costA T) hn.cost (piL T P Q0 (j :: q)) 0
      have hT : sumT (fun a => (pjOf T P j).testBit a) (costA T) (piL T P Q0 (j :: q)) = tjOf T P j :=
        sum_piL_pj T P Q0 q hQj (costA T)
      have hQ : sumQ (fun a => (pjOf T P j).testBit a) (costA T) (piL T P Q0 (j :: q)) = qjOf T P j :=
        sum_piL_pj T P Q0 q hQj fun a => costA T a * costA T a
      have hW : sumW (costA T) (piL T P Q0 (j :: q)) = tjOf T P j +
          sumRange 64 (fun a => if inU T P Q0 q a && !(actS T j).testBit a then costA T a else 0) := by
        rw [sumW, sum_piL, tjOf, sum_bits_eq, ← sumRange_add]
        apply sumRange_congr
        intro a _
        rw [inU_cons, testBit_pjOf, hQj, inU]
        cases (actS T j).testBit a <;> cases P.testBit a <;> cases later T Q0 q a <;> simp
      rw [hT, hQ, hW] at hone
      rw [G, Nq_cons, if_pos hrel, if_pos hQj]
      have hS : 0 ≤ sumRange 64 (fun a => if inU T P Q0 q a && !(actS T j).testBit a then costA T a else 0) :=
        sel_nonneg hn _ _
      have hd := hn.dur j
      have htj : 0 ≤ tjOf T P j := by
        rw [tjOf, sum_bits_eq]
        exact sel_nonneg hn _ _
      have hwn : 0 ≤ den / tjOf T P j := Int.ediv_nonneg hden htj
      have hm : 0 ≤ durS T j * (den / tjOf T P j) := Int.mul_nonneg hd hwn
      revert hone ih' hw hm
      generalize posK (indK fun a => (pjOf T P j).testBit a) (costA T) 0 (piL T P Q0 (j :: q)) = Y
      generalize posK (Kq T P Q0 den q) (costA T) 0 (piL T P Q0 q) = X
      generalize sumRange 64 (fun a => if inU T P Q0 q a && !(actS T j).testBit a then costA T a else 0) = S
      generalize den / tjOf T P j = w
      generalize tjOf T P j = t
      generalize qjOf T P j = qq
      generalize durS T j = dj
      generalize G T P Q0 q = Gq
      generalize Nq T P Q0 den q = Nn
      intro ih' hw hone hm
      subst hw
      have h2 := Int.mul_le_mul_of_nonneg_left hone hm
      grind
    · -- the scene does not count: nobody of `P` plays in it, or it is not in `Q0`
      have hno : ∀ a, (Q0.testBit j && ((actS T j).testBit a && P.testBit a)) = false := by
        intro a
        cases hq : Q0.testBit j
        · rfl
        · simp only [relS, hq, Bool.true_and, bne_iff_ne, ne_eq, Decidable.not_not] at hrel
          have := testBit_pjOf T P j a
          rw [hrel] at this
          simp only [Nat.zero_testBit] at this
          rw [← this]; rfl
      have hinU : ∀ a, inU T P Q0 (j :: q) a = inU T P Q0 q a := by
        intro a
        rw [inU_cons, inU]
        have := hno a
        revert this
        cases Q0.testBit j <;> cases (actS T j).testBit a <;> cases P.testBit a <;> simp
      have hpi : piL T P Q0 (j :: q) = piL T P Q0 q := by
        rw [piL]
        have : (List.range 64).filter (fun a => inU T P Q0 (j :: q) a && !inU T P Q0 q a) = [] := by
          rw [List.filter_eq_nil_iff]
          intro a _
          rw [hinU]
          simp
        rw [this]; rfl
      have hK : ∀ a, Kq T P Q0 den (j :: q) a = Kq T P Q0 den q a := by
        intro a; rw [Kq_cons, if_neg hrel]; omega
      rw [hpi, posK_congr (c := costA T) (piL T P Q0 q) 0 (fun a _ => hK a), Nq_cons, if_neg hrel]
      have hstep : G T P Q0 q ≤ G T P Q0 (j :: q) := by
        have := gstep_nonneg T hn P Q0 j q
        rw [G]
        omega
      have := Int.mul_le_mul_of_nonneg_left hstep hden
      grind

end Ddo.Examples.TalentschedModel

section
open Ddo.Examples.TalentschedModel
#print axioms smith_le_G
end

namespace Ddo.Examples.TalentschedModel
open Ddo Ddo.Examples Ddo.Examples.Util Ddo.SpecUtil

def denOf (sc : List (Int × Int × Int × Nat)) : Int := sc.foldl (fun d e => d * e.2.1) 1
def neg2Of (sc : List (Int × Int × Int × Nat)) (den : Int) : Int :=
  sum (sc.map fun e => e.1 * (e.2.1 * den + e.2.2.1 * (den / e.2.1)))
def keyOf (sc : List (Int × Int × Int × Nat)) (den : Int) (a : Nat) : Int :=
  sum (sc.map fun e => if e.2.2.2.testBit a then e.1 * (den / e.2.1) else 0)
def sortedOf (k : Nat) (key : Nat → Int) : List (Int × Nat) :=
  (List.range k).foldl (fun l a => insertKey (key a, a) l) []
def posOf (T : Tab) (p : Nat) (sorted : List (Int × Nat)) : Int :=
  (sorted.foldl (fun (acc : Int × Int) ka =>
    if p.testBit ka.2 then
      let sumE := acc.1 + ka.1 * costA T ka.2
      (sumE, acc.2 + costA T ka.2 * sumE)
    else acc) (0, 0)).2

theorem rub?_eq (T : Tab) (s : St) (hs : s.scenes >>> T.n = 0)
    (hany : (rubScenes T s).any (fun e => e.2.1 = 0) = false) :
    rub? T s = some (-(ceilDiv
      (1000000 * (2 * posOf T (present T s) (sortedOf T.k (keyOf (rubScenes T s) (denOf (rubScenes T s)))) -
        neg2Of (rubScenes T s) (denOf (rubScenes T s))) - 2 * denOf (rubScenes T s))
      (2 * denOf (rubScenes T s) * 1000000))) := by
  unfold rub? rubQ?
  rw [if_neg (by simp [hs])]
  simp only [hany, Bool.false_eq_true, if_false]
  rfl

theorem rub?_some_range (T : Tab) (s : St) (r : Int) (h : rub? T s = some r) : s.scenes >>> T.n = 0 := by
  unfold rub? rubQ? at h
  by_cases hs : s.scenes >>> T.n = 0
  · exact hs
  · rw [if_pos hs] at h
    cases h

theorem lt_of_shiftRight_eq_zero {m n j : Nat} (h : m >>> n = 0) (hj : m.testBit j = true) : j < n := by
  apply Classical.byContradiction
  intro hge
  have := Nat.testBit_shiftRight (i := n) (j := j - n) m
  rw [h, show n + (j - n) = j by omega, hj] at this
  simp at this

def recOf (T : Tab) (P j : Nat) : Int × Int × Int × Nat := (durS T j, tjOf T P j, qjOf T P j, pjOf T P j)

def relL (T : Tab) (P Q0 : Nat) : List Nat := (bits Q0).filter fun j => pjOf T P j != 0

theorem filterMap_ite {α β : Type} (c : α → Prop) [DecidablePred c] (f : α → β) : ∀ l : List α,
    l.filterMap (fun j => if c j then none else some (f j)) = (l.filter fun j => !decide (c j)).map f := by
  intro l
  induction l with
  | nil => rfl
  | cons x l ih =>
    by_cases h : c x
    · simp [h, ih]
    · simp [h, ih]

theorem rubScenes_eq (T : Tab) (s : St) : rubScenes T s = (relL T (present T s) s.scenes).map (recOf T (present T s)) := by
  unfold rubScenes relL
  have := filterMap_ite (fun j => pjOf T (present T s) j = 0) (recOf T (present T s)) (bits s.scenes)
  have e : (fun j => !decide (pjOf T (present T s) j = 0)) = fun j => pjOf T (present T s) j != 0 := by
    funext j
    by_cases h : pjOf T (present T s) j = 0 <;> simp [h]
  rw [e] at this
  rw [← this]
  rfl

theorem mem_relL (T : Tab) (P Q0 j : Nat) : j ∈ relL T P Q0 ↔ j < 64 ∧ relS T P Q0 j = true := by
  unfold relL relS
  rw [List.mem_filter, mem_bits]
  simp only [Bool.and_eq_true]
  exact ⟨fun ⟨⟨a, b⟩, c⟩ => ⟨a, b, c⟩, fun ⟨a, b, c⟩ => ⟨⟨a, b⟩, c⟩⟩

theorem den_spec : ∀ (sc : List (Int × Int × Int × Nat)) (init : Int), 0 < init → (∀ e ∈ sc, 0 < e.2.1) →
    0 < sc.foldl (fun d e => d * e.2.1) init ∧ init ∣ sc.foldl (fun d e => d * e.2.1) init ∧
      ∀ e ∈ sc, e.2.1 ∣ sc.foldl (fun d e => d * e.2.1) init := by
  intro sc
  induction sc with
  | nil => intro init h _; exact ⟨h, Int.dvd_refl _, fun e he => by cases he⟩
  | cons x sc ih =>
    intro init h hp
    have hx := hp x List.mem_cons_self
    obtain ⟨h1, h2, h3⟩ := ih (init * x.2.1) (Int.mul_pos h hx) fun e he => hp e (List.mem_cons_of_mem _ he)
    rw [List.foldl_cons]
    refine ⟨h1, Int.dvd_trans (Int.dvd_mul_right _ _) h2, fun e he => ?_⟩
    rcases List.mem_cons.mp he with rfl | he
    · exact Int.dvd_trans (Int.dvd_mul_left _ _) h2
    · exact h3 e he

theorem sumRange_ge_term {n : Nat} {f : Nat → Int} (h : ∀ i, i < n → 0 ≤ f i) {a : Nat} (ha : a < n) : f a ≤ sumRange n f := by
  induction n with
  | zero => omega
  | succ n ih =>
    rw [sumRange_succ]
    have h0 := sumRange_nonneg (f := f) (n := n) fun i hi => h i (by omega)
    by_cases e : a = n
    · subst e; omega
    · have := ih (fun i hi => h i (by omega)) (by omega)
      have := h n (by omega)
      omega

theorem tjOf_pos {T : Tab} (hT : TabOk T) (P : Nat) {j : Nat} (hj : j < T.n) (hne : pjOf T P j ≠ 0) : 0 < tjOf T P j := by
  obtain ⟨a, ha⟩ := Nat.exists_testBit_of_ne_zero hne
  have ha' := ha
  rw [testBit_pjOf, Bool.and_eq_true, testBit_actS hT hj] at ha'
  have hak : a < T.k := by
    apply Classical.byContradiction
    intro hge
    rw [P_false_of_ge hT (by omega) j] at ha'
    exact absurd ha'.1 (by simp)
  have h64 : a < 64 := by have := hT.npos.2.2; omega
  have hca : 1 ≤ costA T a := by
    unfold costA
    rw [List.getD_eq_getElem?_getD, List.getElem?_eq_getElem (by rw [hT.cost.1]; exact hak)]
    exact hT.cost.2 _ (List.getElem_mem _)
  rw [tjOf, sum_bits_eq]
  have hn := hT.nonNeg
  have := sumRange_ge_term (n := 64) (f := fun a => if (pjOf T P j).testBit a then costA T a else 0)
    (fun i _ => by
      show 0 ≤ (if (pjOf T P j).testBit i then costA T i else 0)
      split
      · exact hn.cost i
      · exact Int.le_refl _) h64
  simp only [ha, if_true] at this
  omega

theorem insertKey_eq (x : Int × Nat) : ∀ l, insertKey x l =
    InsSort.insBy (fun x y => decide (x.1 < y.1 ∨ (x.1 = y.1 ∧ x.2 ≤ y.2))) x l
  | [] => rfl
  | y :: ys => by simp only [insertKey, InsSort.insBy, insertKey_eq x ys, decide_eq_true_eq]

theorem insertKey_perm (x : Int × Nat) (l : List (Int × Nat)) : (insertKey x l).Perm (x :: l) :=
  insertKey_eq x l ▸ InsSort.insBy_perm _ x l

theorem insertKey_sorted (x : Int × Nat) (l : List (Int × Nat)) (h : l.Pairwise (fun a b => a.1 ≤ b.1)) :
    (insertKey x l).Pairwise (fun a b => a.1 ≤ b.1) := by
  rw [insertKey_eq]
  exact InsSort.insBy_sorted (r := fun a b : Int × Nat => a.1 ≤ b.1) (fun _ _ _ => Int.le_trans)
    (fun a b h => by have := of_decide_eq_true h; omega) (fun a b h => by have := of_decide_eq_false h; omega) x l h

theorem sortedOf_aux (key : Nat → Int) : ∀ (as : List Nat) (l0 : List (Int × Nat)), l0.Pairwise (fun a b => a.1 ≤ b.1) →
    (as.foldl (fun l a => insertKey (key a, a) l) l0).Perm (as.map (fun a => (key a, a)) ++ l0) ∧
    (as.foldl (fun l a => insertKey (key a, a) l) l0).Pairwise (fun a b => a.1 ≤ b.1) := by
  intro as
  induction as with
  | nil => intro l0 h; exact ⟨List.Perm.refl _, h⟩
  | cons a as ih =>
    intro l0 h
    obtain ⟨h1, h2⟩ := ih (insertKey (key a, a) l0) (insertKey_sorted _ l0 h)
    refine ⟨?_, h2⟩
    rw [List.foldl_cons, List.map_cons, List.cons_append]
    exact (h1.trans (List.Perm.append_left _ (insertKey_perm _ l0))).trans List.perm_middle

theorem sortedOf_spec (k : Nat) (key : Nat → Int) :
    ((sortedOf k key).map (·.2)).Perm (List.range k) ∧ (∀ x ∈ sortedOf k key, x.1 = key x.2) ∧
    ((sortedOf k key).map (·.2)).Pairwise (fun a b => key a ≤ key b) := by
  obtain ⟨h1, h2⟩ := sortedOf_aux key (List.range k) [] List.Pairwise.nil
  rw [List.append_nil] at h1
  have hmem : ∀ x ∈ sortedOf k key, x.1 = key x.2 := by
    intro x hx
    obtain ⟨a, _, rfl⟩ := List.mem_map.mp (h1.mem_iff.mp hx)
    rfl
  refine ⟨?_, hmem, ?_⟩
  · have := h1.map (·.2)
    rw [List.map_map] at this
    have e : ((fun x : Int × Nat => x.2) ∘ fun a => (key a, a)) = id := rfl
    rw [e, List.map_id] at this
    exact this
  · rw [List.pairwise_map]
    refine List.Pairwise.imp_of_mem ?_ h2
    intro a b ha hb hab
    rw [← hmem a ha, ← hmem b hb]
    exact hab

/-- the second loop of the code is `posK` over the present actors in sorted order -/
theorem posOf_aux (T : Tab) (p : Nat) (key : Nat → Int) : ∀ (l : List (Int × Nat)) (acc : Int × Int), (∀ x ∈ l, x.1 = key x.2) →
    (l.foldl (fun (acc : Int × Int) ka =>
      if p.testBit ka.2 then
        let sumE := acc.1 + ka.1 * costA T ka.2
        (sumE, acc.2 + costA T ka.2 * sumE)
      else acc) acc).2 = acc.2 + posK key (costA T) acc.1 ((l.map (·.2)).filter fun a => p.testBit a) := by
  intro l
  induction l with
  | nil => intro acc _; simp [posK]
  | cons x l ih =>
    intro acc h
    rw [List.foldl_cons, ih _ fun y hy => h y (List.mem_cons_of_mem _ hy)]
    rw [List.map_cons, List.filter_cons]
    by_cases hp : p.testBit x.2 = true
    · simp only [hp, if_true]
      rw [posK_cons, h x List.mem_cons_self]
      omega
    · simp only [hp]
      simp

theorem posOf_eq (T : Tab) (p k : Nat) (key : Nat → Int) :
    posOf T p (sortedOf k key) = posK key (costA T) 0 (((sortedOf k key).map (·.2)).filter fun a => p.testBit a) := by
  unfold posOf
  rw [posOf_aux T p key _ _ (sortedOf_spec k key).2.1]
  simp

theorem relL_perm (T : Tab) (P Q0 : Nat) {q : List Nat} (hnd : q.Nodup) (hcov : ∀ j, j < 64 → Q0.testBit j = true → j ∈ q)
    (h64 : ∀ j, Q0.testBit j = true → j < 64) : (relL T P Q0).Perm (q.filter (relS T P Q0)) := by
  have hnd1 : (relL T P Q0).Nodup := (isOrder_bits Q0).nodup.filter _
  rw [List.perm_ext_iff_of_nodup hnd1 (hnd.filter _)]
  intro j
  rw [mem_relL, List.mem_filter]
  constructor
  · intro ⟨h1, h2⟩
    refine ⟨hcov j h1 ?_, h2⟩
    simp only [relS, Bool.and_eq_true] at h2
    exact h2.1
  · intro ⟨_, h2⟩
    refine ⟨h64 j ?_, h2⟩
    simp only [relS, Bool.and_eq_true] at h2
    exact h2.1

theorem sum_relL (T : Tab) (P Q0 : Nat) {q : List Nat} (hp : (relL T P Q0).Perm (q.filter (relS T P Q0))) (f : Nat → Int) :
    ((relL T P Q0).map f).sum = (q.map fun j => if relS T P Q0 j then f j else 0).sum := by
  rw [perm_sum_eq (hp.map f), sum_map_filter]

theorem keyOf_eq (T : Tab) (P Q0 : Nat) (den : Int) {q : List Nat} (hp : (relL T P Q0).Perm (q.filter (relS T P Q0))) (a : Nat) :
    keyOf ((relL T P Q0).map (recOf T P)) den a = Kq T P Q0 den q a := by
  unfold keyOf Kq
  rw [sum_eq, List.map_map, ← sum_relL T P Q0 hp]
  rfl

theorem neg2Of_eq (T : Tab) (P Q0 : Nat) (den : Int) {q : List Nat} (hp : (relL T P Q0).Perm (q.filter (relS T P Q0))) :
    neg2Of ((relL T P Q0).map (recOf T P)) den = Nq T P Q0 den q := by
  unfold neg2Of Nq
  rw [sum_eq, List.map_map, ← sum_relL T P Q0 hp]
  rfl

theorem present_lt_k {T : Tab} (hT : TabOk T) (s : St) {a : Nat} (ha : (present T s).testBit a = true) : a < T.k := by
  obtain ⟨⟨i, hi, _, _, hA⟩, _⟩ := (testBit_present T s a).mp ha
  rw [testBit_actS hT hi] at hA
  apply Classical.byContradiction
  intro hge
  rw [P_false_of_ge hT (by omega) i] at hA
  cases hA

/-- the last step of the code: `lb - 10^-6 = x / m` rounded up, for `x = 10^6 · A - 2 den`, `m = 2 · 10^6 · den`, `A = 2 den · lb` -/
theorem ceil_bound {A den h : Int} (hden : 0 < den) (hC : A ≤ 2 * den * (-h)) :
    h ≤ -(ceilDiv (1000000 * A - 2 * den) (2 * den * 1000000)) := by
  unfold ceilDiv
  have hm : (0 : Int) < 2 * den * 1000000 := by omega
  have : (-(-h)) ≤ (-(1000000 * A - 2 * den)) / (2 * den * 1000000) := by
    rw [Int.le_ediv_iff_mul_le hm]
    have e : - -h * (2 * den * 1000000) = -(1000000 * (2 * den * (-h))) := by grind
    rw [e]
    omega
  omega

theorem piL_perm_present {T : Tab} (hT : TabOk T) (s : St) {q l : List Nat}
    (hcov : ∀ j, j < 64 → s.scenes.testBit j = true → j ∈ q) (hl : l.Perm (List.range T.k)) :
    (piL T (present T s) s.scenes q).Perm (l.filter fun a => (present T s).testBit a) := by
  rw [List.perm_ext_iff_of_nodup (nodup_piL _ _ _ _) ((hl.nodup_iff.mpr List.nodup_range).filter _)]
  intro a
  rw [mem_piL, List.mem_filter, hl.mem_iff, List.mem_range]
  constructor
  · intro ⟨_, hu⟩
    simp only [inU, Bool.and_eq_true] at hu
    exact ⟨present_lt_k hT s hu.1, hu.1⟩
  · intro ⟨hk, hp⟩
    have hk64 := hT.npos.2.2
    have hn64 := hT.npos.2.1
    refine ⟨by omega, ?_⟩
    simp only [inU, hp, Bool.true_and, later, List.any_eq_true, Bool.and_eq_true]
    obtain ⟨_, ⟨i, hin, _, hS, hA⟩⟩ := (testBit_present T s a).mp hp
    exact ⟨i, hcov i (by omega) hS, hS, hA⟩

theorem rubAdmissible_inv (T : Tab) (hT : TabOk T) (d : Nat) (s : St) (r : Int) (hi : Inv T d s) (hr : rub? T s = some r) :
    bestRem T d s ≤ (some r : EInt) := by
  cases hb : bestRem T d s with
  | none => exact EInt.none_le _
  | some h =>
    show h ≤ r
    have hn := hT.nonNeg
    have hs := rub?_some_range T s r hr
    have hQ : ∀ j, s.scenes.testBit j = true → j < T.n := fun j hj => lt_of_shiftRight_eq_zero hs hj
    have hn64 := hT.npos.2.1
    -- a run attains the value-to-go
    obtain ⟨q, hl, hrun, he⟩ := bestRemF_run T _ d s h hb
    have hroom := hi.room
    have hlen : q.length + d = T.n := by omega
    have hnd := run_nodup T q s d hrun
    have hcov := run_covers T q s d hrun hi hlen
    have hG := runCost_le_G T hn (present T s) s.scenes hQ q s d hrun hi (seenIn_present T s) (fun _ _ h => h)
    -- the scenes of the bound are those of the run that count; every `T_j > 0` (costs `≥ 1`): not the NaN case, `den > 0` is a common multiple
    have hperm := relL_perm T (present T s) s.scenes hnd hcov (fun j hj => by have := hQ j hj; omega)
    have hsc := rubScenes_eq T s
    have hTpos : ∀ e ∈ rubScenes T s, 0 < e.2.1 := by
      intro e he
      rw [hsc] at he
      obtain ⟨j, hj, rfl⟩ := List.mem_map.mp he
      have hj' := (mem_relL _ _ _ _).mp hj
      simp only [relS, Bool.and_eq_true, bne_iff_ne, ne_eq] at hj'
      exact tjOf_pos hT _ (hQ j hj'.2.1) hj'.2.2
    have hany : (rubScenes T s).any (fun e => e.2.1 = 0) = false := by
      rw [List.any_eq_false]
      intro e he
      have := hTpos e he
      simp only [decide_eq_true_eq]
      omega
    obtain ⟨hden, _, hdvd⟩ := den_spec (rubScenes T s) 1 (by omega) hTpos
    have hr' := rub?_eq T s hs hany
    rw [hr] at hr'
    cases hr'
    have hdenE : denOf (rubScenes T s) = (rubScenes T s).foldl (fun d e => d * e.2.1) 1 := rfl
    rw [← hdenE] at hden hdvd
    generalize hdenG : denOf (rubScenes T s) = den at hden hdvd ⊢
    have hkey : ∀ a, keyOf (rubScenes T s) den a = Kq T (present T s) s.scenes den q a := by
      intro a; rw [hsc]; exact keyOf_eq T _ _ den hperm a
    have hneg : neg2Of (rubScenes T s) den = Nq T (present T s) s.scenes den q := by
      rw [hsc]; exact neg2Of_eq T _ _ den hperm
    -- Smith's rule: the sorted order is cheapest
    obtain ⟨hsp, _, hss⟩ := sortedOf_spec T.k (keyOf (rubScenes T s) den)
    have hpiperm := piL_perm_present hT s hcov hsp
    have hsmith := posK_smith (keyOf (rubScenes T s) den) (costA T) hn.cost 0
      (hss.filter fun a => (present T s).testBit a) hpiperm
    rw [← posOf_eq] at hsmith
    rw [posK_congr (c := costA T) _ 0 (fun a _ => hkey a)] at hsmith
    -- the bound along the run
    have hmain := smith_le_G T hn (present T s) s.scenes den (Int.le_of_lt hden) q (fun j hj hrel => by
      have hjr : j ∈ relL T (present T s) s.scenes := hperm.mem_iff.mpr (List.mem_filter.mpr ⟨hj, hrel⟩)
      have : recOf T (present T s) j ∈ rubScenes T s := by rw [hsc]; exact List.mem_map_of_mem hjr
      exact Int.ediv_mul_cancel (hdvd _ this))
    rw [← hneg] at hmain
    exact ceil_bound hden (by
      have h1 : G T (present T s) s.scenes q ≤ -h := by omega
      have := Int.mul_le_mul_of_nonneg_left h1 (show (0 : Int) ≤ 2 * den by omega)
      omega)

theorem rubAdmissibleStmt (T : Tab) : RubAdmissibleStmt T :=
  fun hT d s r hv hr => rubAdmissible_inv T hT d s r (inv_of_valid hv) hr

end Ddo.Examples.TalentschedModel

section
open Ddo.Examples.TalentschedModel
#print axioms rubAdmissible_inv
#print axioms rubAdmissibleStmt
end
