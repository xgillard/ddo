import DdoModel.Examples.LcsDp
import DdoModel.Examples.EMax
/-! lcs example: the statements and first facts about the model `LcsDp.lean`.  No state has an empty domain (the value-to-go is
    never −∞) and a decision is worth `0` or `1`; the merged state has one position per string, each no larger than the
    position of EVERY merged state (in whatever order they are given) and than the length of the string; `relax` is the
    identity, so `MergeOk` at `(u, m)` is `H(u) ≤ H(m)` (`mergeOkAt_of_le`).  The fact behind both the merge operator and the
    dominance rule is `BestRemAntitoneStmt`: a state that is position-wise no further than another has a value-to-go at least
    as large (`mergeOk_of_antitone`). -/
namespace Ddo.Examples.LcsModel
open Ddo Ddo.Examples Ddo.Examples.Util

theorem best_eq_specBestExt (lines : List (List Int)) : Lcs.best lines = specBestExt lines [] := by
  cases lines with
  | nil => rfl
  | cons f o => simp [Lcs.best, specBestExt, specOf, commons, List.filterMap_filter]

theorem cost_nonneg (v : Int) : 0 ≤ cost v := by unfold cost; split <;> omega
theorem cost_le_one (v : Int) : cost v ≤ 1 := by unfold cost; split <;> omega

theorem nextFrom_length (j : Nat) : ∀ (s : List Nat) (i : Nat), (nextFrom j i s).length = s.length + 1 := by
  intro s
  induction s with
  | nil => intro i; rfl
  | cons c r ih => intro i; simp [nextFrom, ih]

theorem remFrom_length (j : Nat) : ∀ (s : List Nat), (remFrom j s).length = s.length + 1 := by
  intro s
  induction s with
  | nil => rfl
  | cons c r ih => simp [remFrom, ih]

theorem remFrom_nonneg (j : Nat) : ∀ (s : List Nat), ∀ x ∈ remFrom j s, 0 ≤ x := by
  intro s
  induction s with
  | nil => intro x hx; simp [remFrom] at hx; omega
  | cons c r ih =>
    intro x hx
    simp only [remFrom, List.mem_cons] at hx
    rcases hx with rfl | hx
    · have h0 : 0 ≤ (remFrom j r).headD 0 := by
        cases hr : remFrom j r with
        | nil => simp
        | cons a t => simp only [List.headD_cons]; exact ih a (by rw [hr]; exact List.mem_cons_self ..)
      split <;> omega
    · exact ih x hx

variable (I : Inst)

theorem domain_ne_nil (s : St) (d : List Int) (h : domain? I s = some d) : d ≠ [] := by
  unfold domain? at h
  obtain ⟨ok, _, h⟩ := Option.bind_eq_some_iff.mp h
  cases h
  split
  · exact List.cons_ne_nil _ _
  · next hne => exact fun h0 => hne (by rw [h0]; rfl)

theorem relax_id (a b m : St) (d : Dec) (c : Int) : (relaxation I).relax a b m d c = c := rfl

def mergeStep (acc s : St) : Option St :=
  (List.range I.nStrings).mapM fun i => do
    let a ← acc[i]?
    let b ← s[i]?
    pure (min a b)

theorem merge?_eq (X : List St) : merge? I X = X.foldlM (mergeStep I) I.len := rfl

theorem mergeStep_spec {acc s r : St} (h : mergeStep I acc s = some r) :
    r.length = I.nStrings ∧ ∀ i, i < I.nStrings → ∃ a b, acc[i]? = some a ∧ s[i]? = some b ∧ r[i]? = some (min a b) := by
  unfold mergeStep at h
  have hlen := (EMax.mapM_some h).1
  simp only [List.length_range] at hlen
  refine ⟨hlen, ?_⟩
  intro i hi
  have := EMax.mapM_getElem h i (by simpa using hi) (by omega)
  simp only [List.getElem_range] at this
  cases ha : acc[i]? with
  | none => simp [ha] at this
  | some a =>
    cases hb : s[i]? with
    | none => simp [ha, hb] at this
    | some b =>
      simp [ha, hb] at this
      refine ⟨a, b, rfl, rfl, ?_⟩
      rw [List.getElem?_eq_getElem (by omega)]
      simp [this]

theorem foldl_merge_spec : ∀ (X : List St) (acc m : St), I.nStrings ≤ acc.length → X.foldlM (mergeStep I) acc = some m →
    m.length ≥ I.nStrings ∧ (acc.length = I.nStrings → m.length = I.nStrings) ∧
    (∀ i, i < I.nStrings → ∃ a c, m[i]? = some a ∧ acc[i]? = some c ∧ a ≤ c) ∧
    (∀ u ∈ X, ∀ i, i < I.nStrings → ∃ a b, m[i]? = some a ∧ u[i]? = some b ∧ a ≤ b) := by
  intro X
  induction X with
  | nil =>
    intro acc m hacc h
    simp only [List.foldlM_nil, pure, Option.some.injEq] at h
    subst h
    refine ⟨hacc, id, ?_, ?_⟩
    · intro i hi
      exact ⟨acc[i], acc[i], List.getElem?_eq_getElem (by omega), List.getElem?_eq_getElem (by omega), Nat.le_refl _⟩
    · intro u hu; cases hu
  | cons x t ih =>
    intro acc m hacc h
    simp only [List.foldlM_cons, bind, Option.bind] at h
    split at h
    · cases h
    · next acc' hstep =>
      obtain ⟨hl, hs⟩ := mergeStep_spec I hstep
      obtain ⟨hm, hme, h1, h2⟩ := ih acc' m (by omega) h
      refine ⟨hm, fun _ => hme hl, ?_, ?_⟩
      · intro i hi
        obtain ⟨a, c, ha, hc, hac⟩ := h1 i hi
        obtain ⟨a0, b0, ha0, _, hr⟩ := hs i hi
        rw [hr] at hc
        cases hc
        exact ⟨a, a0, ha, ha0, by omega⟩
      · intro u hu i hi
        rcases List.mem_cons.mp hu with rfl | hu
        · obtain ⟨a, c, ha, hc, hac⟩ := h1 i hi
          obtain ⟨a0, b0, _, hb0, hr⟩ := hs i hi
          rw [hr] at hc
          cases hc
          exact ⟨a, b0, ha, hb0, by omega⟩
        · exact h2 u hu i hi

theorem merge_le {X : List St} {m u : St} (hlen : I.nStrings ≤ I.len.length) (h : merge? I X = some m) (hu : u ∈ X)
    {i : Nat} (hi : i < I.nStrings) : ∃ a b, m[i]? = some a ∧ u[i]? = some b ∧ a ≤ b :=
  (foldl_merge_spec I X I.len m hlen (by rw [← merge?_eq]; exact h)).2.2.2 u hu i hi

theorem merge_le_len {X : List St} {m : St} (hlen : I.nStrings ≤ I.len.length) (h : merge? I X = some m)
    {i : Nat} (hi : i < I.nStrings) : ∃ a l, m[i]? = some a ∧ I.len[i]? = some l ∧ a ≤ l :=
  (foldl_merge_spec I X I.len m hlen (by rw [← merge?_eq]; exact h)).2.2.1 i hi

theorem merge_length {X : List St} {m : St} (hlen : I.nStrings ≤ I.len.length) (h : merge? I X = some m) :
    I.nStrings ≤ m.length :=
  (foldl_merge_spec I X I.len m hlen (by rw [← merge?_eq]; exact h)).1

theorem mergeOkAt_of_le {u m : St} (c : Int) (h : bestRem I u ≤ bestRem I m) : mergeOkAt I u m c c = true := by
  unfold mergeOkAt
  cases hu : bestRem I u with
  | none => rfl
  | some a =>
    cases hm : bestRem I m with
    | none => rw [hu, hm] at h; exact absurd h (by simp)
    | some b =>
      rw [hu, hm] at h
      have : a ≤ b := h
      simp only [decide_eq_true_eq]
      omega

/-- the instances the statements are about: what the reader builds from a file of the domain -/
def InstOk (k declared : Nat) (lines : List (List Int)) (J : Inst) : Prop :=
  inDomain k declared lines = true ∧ readInst k declared lines = .ok J

/-- `u` is position by position no further than `v` -/
def PosLe (u v : St) : Prop := u.length = v.length ∧ ∀ (i a b : Nat), u[i]? = some a → v[i]? = some b → a ≤ b

/-- the fact behind the merge operator and the dominance rule -/
def BestRemAntitoneStmt : Prop :=
  ∀ (k declared : Nat) (lines : List (List Int)) (J : Inst), InstOk k declared lines J →
    ∀ u m : St, validB J u = true → validB J m = true → PosLe m u → bestRem J u ≤ bestRem J m

def RubAdmissibleStmt : Prop :=
  ∀ (k declared : Nat) (lines : List (List Int)) (J : Inst), InstOk k declared lines J →
    ∀ s : St, validB J s = true → bestRem J s ≤ some ((relaxation J).rub s)

def MergeOkStmt : Prop :=
  ∀ (k declared : Nat) (lines : List (List Int)) (J : Inst), InstOk k declared lines J →
    ∀ (X : List St) (u m src : St) (d : Dec) (c : Int), (∀ s ∈ X, validB J s = true) → u ∈ X → merge? J X = some m →
      mergeOkAt J u m c ((relaxation J).relax src u m d c) = true

def DominanceOkStmt : Prop :=
  ∀ (k declared : Nat) (lines : List (List Int)) (J : Inst), InstOk k declared lines J →
    ∀ (a b : St) (va vb : Int) (o : Ordering) (ovd : Bool), validB J a = true → validB J b = true →
      domRule.key a = domRule.key b → domRule.partialCmp a va b vb = some (o, ovd) → domOkAt J a va b vb o = true

def DpExactStmt : Prop :=
  ∀ (k declared : Nat) (lines : List (List Int)) (J : Inst), InstOk k declared lines J →
    ∀ (ds : List (Nat × Int)) (s : St) (v : Int), replay J ds = some (s, v) →
      (bestRem J s).addI v = specBestExt lines (prefixOf J ds)

/-- `MergeOkStmt` follows from `BestRemAntitoneStmt` once the merged state is known to be valid and position-wise below
    (`merge_le`, `merge_le_len`): the reduction the proofs above prepare -/
theorem mergeOk_of_antitone (hanti : BestRemAntitoneStmt) {k declared : Nat} {lines : List (List Int)} {J : Inst}
    (hJ : InstOk k declared lines J) {u m src : St} {d : Dec} (c : Int)
    (hu : validB J u = true) (hm : validB J m = true) (hle : PosLe m u) :
    mergeOkAt J u m c ((relaxation J).relax src u m d c) = true :=
  mergeOkAt_of_le J c (hanti k declared lines J hJ u m hu hm hle)

end Ddo.Examples.LcsModel
