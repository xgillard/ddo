import DdoModel.Proofs.WfRelSteps
import DdoModel.Props.C06
import DdoModel.Examples.LcsProofsRub
import DdoModel.Examples.LcsProofsExact
import DdoModel.Props.C15b
/-! lcs example: well-formedness and the closed corollaries.  The model is well-formed relative to the layer validity "a valid
    state whose position in string `0` is at least the depth of the layer" (`wfRel`, `noClampDom`), hence a relaxed compilation
    (no long arcs, no cache, no dominance) of it from the root reports at least the value-to-go of the root
    (`lcs_relaxed_ub_bestRem`; non-vacuity instance `Demo`), which is the optimum of the specification `Lcs.best` (`root_exact`,
    `lcs_relaxed_ub`); `skipRel`, `lcs_relaxed_ub_pooled`: the same for the POOLED diagram with long arcs (`compileP`), the one
    the shipped example uses (`ParCachingSolverPooled`), via `Ddo.C15.relaxed_ub_pooled`. -/
namespace Ddo.Examples.LcsModel

section
open Ddo Ddo.Examples Ddo.Examples.Util

def H (J : Inst) (_ : Nat) (s : St) : EInt := bestRem J s
/-- layer validity: a valid state whose position in string 0 is at least the depth of the layer (the compilation without
    long arcs branches every state of layer `k` on variable `k`; a state that is further in string 0 simply takes its next
    character earlier) -/
def V (ws : List (List Nat)) (k : Nat) (s : St) : Prop := Valid ws s ∧ k ≤ pos s 0

theorem pos_map_range (n : Nat) (f : Nat → Nat) {i : Nat} (hi : i < n) : pos ((List.range n).map f) i = f i := by
  simp [pos, hi]

theorem nextVar_some {J : Inst} {k x : Nat} {L : List St} (h : (problem J).nextVar k L = some x) :
    k < nbVars J ∧ x = k := by
  simp only [problem, nextVar] at h
  split at h
  · next hk => exact ⟨hk, by cases h; rfl⟩
  · cases h

theorem nextVar_none {J : Inst} {k : Nat} {L : List St} (h : (problem J).nextVar k L = none) : ¬ k < nbVars J := by
  simp only [problem, nextVar] at h
  split at h
  · cases h
  · next hk => exact hk

theorem mergeStep_eq {J : Inst} {acc s : St} (ha : acc.length = J.nStrings) (hs : s.length = J.nStrings) :
    mergeStep J acc s = some ((List.range J.nStrings).map fun i => min (pos acc i) (pos s i)) := by
  unfold mergeStep
  apply mapM_total
  intro i hi
  have hi := List.mem_range.mp hi
  have h1 : i < acc.length := by omega
  have h2 : i < s.length := by omega
  simp [pos, h1, h2]

theorem foldl_merge_lower {J : Inst} (k : Nat) (h0 : 0 < J.nStrings) : ∀ (X : List St) (acc : St), acc.length = J.nStrings →
    (∀ u ∈ X, u.length = J.nStrings) → k ≤ pos acc 0 → (∀ u ∈ X, k ≤ pos u 0) →
    ∃ m, X.foldlM (mergeStep J) acc = some m ∧ k ≤ pos m 0 := by
  intro X
  induction X with
  | nil => intro acc _ _ hk _; exact ⟨acc, rfl, hk⟩
  | cons x t ih =>
    intro acc ha hX hk hXk
    rw [List.foldlM_cons, mergeStep_eq ha (hX x List.mem_cons_self)]
    simp only [Option.bind_eq_bind, Option.bind_some]
    apply ih
    · simp
    · intro u hu; exact hX u (List.mem_cons_of_mem _ hu)
    · rw [pos_map_range _ _ h0]
      have := hXk x List.mem_cons_self
      omega
    · intro u hu; exact hXk u (List.mem_cons_of_mem _ hu)

section
variable {J : Inst} {ws : List (List Nat)} (hB : Built J ws)
include hB

theorem pos_len {i : Nat} (hi : i < ws.length) : pos J.len i = (str ws i).length := by
  simp [pos, str, hB.len, hi]

theorem mem_domain {s : St} (hV : Valid ws s) {d : Int} (hd : d ∈ domain J s) :
    d = -1 ∨ ∃ c : Nat, c < J.nChars ∧ common ws s c = true ∧ d = (c : Int) := by
  rw [domain_eq hB hV] at hd
  split at hd
  · left; simpa using hd
  · right; exact mem_chars.mp hd

theorem domain_ne_nil' {s : St} (hV : Valid ws s) : domain J s ≠ [] := by
  rw [domain_eq hB hV]
  split
  · simp
  · next h => intro h'; rw [h'] at h; exact h rfl

theorem valid_trans {s : St} (hV : Valid ws s) {d : Int} (hd : d ∈ domain J s) (x : Nat) : Valid ws (trans J s ⟨x, d⟩) := by
  rcases mem_domain hB hV hd with rfl | ⟨c, hc, hcm, rfl⟩
  · rw [trans_end]; exact valid_len hB
  · rw [trans_char hB hV hc]; exact valid_step hV hcm

theorem vstepV {k : Nat} {s : St} (hV : V ws k s) (hk : k < nbVars J) {d : Int} (hd : d ∈ domain J s) (x : Nat) :
    V ws (k + 1) (trans J s ⟨x, d⟩) := by
  have h0 : 0 < ws.length := List.length_pos_iff.mpr hB.ne
  refine ⟨valid_trans hB hV.1 hd x, ?_⟩
  rcases mem_domain hB hV.1 hd with rfl | ⟨c, hc, hcm, rfl⟩
  · rw [trans_end, pos_len hB h0, ← nbVars_eq hB]; omega
  · rw [trans_char hB hV.1 hc, pos_step h0]
    have := hV.2
    omega

theorem merge_specV {k : Nat} {X : List St} (hne : X ≠ []) (hX : ∀ u ∈ X, V ws k u) :
    ∃ m, (relaxation J).merge X = m ∧ V ws k m ∧ ∀ u ∈ X, ∀ i, i < ws.length → pos m i ≤ pos u i := by
  have h0 : 0 < ws.length := List.length_pos_iff.mpr hB.ne
  obtain ⟨u0, hu0⟩ := List.exists_mem_of_ne_nil _ hne
  have hk0 : k ≤ pos J.len 0 := by
    rw [pos_len hB h0]
    have := (hX u0 hu0).1.2 0 h0
    have := (hX u0 hu0).2
    omega
  obtain ⟨m, hm, hkm⟩ := foldl_merge_lower (J := J) k (by rw [hB.nStrings]; exact h0) X J.len
    (by rw [hB.len, hB.nStrings]; simp) (fun u hu => by rw [hB.nStrings]; exact (hX u hu).1.1) hk0 (fun u hu => (hX u hu).2)
  have hm' : merge? J X = some m := by rw [merge?_eq]; exact hm
  obtain ⟨hVm, hle⟩ := merge_valid hB hm'
  refine ⟨m, ?_, ⟨hVm, hkm⟩, hle⟩
  show (merge? J X).getD J.len = m
  rw [hm']; rfl

theorem vmergeV {k : Nat} {X : List St} (hne : X ≠ []) (hX : ∀ u ∈ X, V ws k u) : V ws k ((relaxation J).merge X) := by
  obtain ⟨m, hm, hV, _⟩ := merge_specV hB hne hX
  rw [hm]; exact hV

theorem attV {s : St} (hV : Valid ws s) (x : Nat) {h : Int} (hh : bestRem J s = some h) :
    ∃ d ∈ domain J s, ∃ h', bestRem J (trans J s ⟨x, d⟩) = some h' ∧ h ≤ cost d + h' := by
  obtain ⟨c, rfl, hcs, hlt, _⟩ := lcs_of_bestRem hB hV hh
  cases c with
  | nil =>
    obtain ⟨d, hd⟩ := List.exists_mem_of_ne_nil _ (domain_ne_nil' hB hV)
    obtain ⟨c', hc', _⟩ := bestRem_spec hB (valid_trans hB hV hd x)
    refine ⟨d, hd, _, hc', ?_⟩
    have := cost_nonneg d
    simp only [List.length_nil]
    omega
  | cons x0 t =>
    have hx : x0 < J.nChars := hlt x0 List.mem_cons_self
    have hcm : common ws s x0 = true := common_of_cs hcs
    have hmem : (x0 : Int) ∈ chars J ws s := mem_chars.mpr ⟨x0, hx, hcm, rfl⟩
    refine ⟨(x0 : Int), ?_, ?_⟩
    · rw [domain_eq hB hV]
      split
      · next he => rw [List.isEmpty_iff.mp he] at hmem; cases hmem
      · exact hmem
    · rw [trans_char hB hV hx]
      obtain ⟨c', hc', _, _, hmax'⟩ := bestRem_spec hB (valid_step hV hcm)
      refine ⟨_, hc', ?_⟩
      have := hmax' t (fun y hy => hlt y (List.mem_cons_of_mem _ hy)) (cs_step hcs)
      have h1 : ¬ ((x0 : Int) = -1) := by omega
      simp only [cost, h1, if_false, List.length_cons]
      omega

theorem termV {k : Nat} {s : St} (hV : V ws k s) (hk : ¬ k < nbVars J) {h : Int} (hh : bestRem J s = some h) : h ≤ 0 := by
  have h0 : 0 < ws.length := List.length_pos_iff.mpr hB.ne
  obtain ⟨c, rfl, hcs, _, _⟩ := lcs_of_bestRem hB hV.1 hh
  have := hcs 0 h0
  have he : suf ws s 0 = [] := by
    have := hV.2
    rw [nbVars_eq hB] at hk
    simp [suf]; omega
  rw [he] at this
  simp [List.sublist_nil.mp this]

theorem rubV {s : St} (hV : Valid ws s) {h : Int} (hh : bestRem J s = some h) : h ≤ (relaxation J).rub s := by
  obtain ⟨c, rfl, h1, h2, _⟩ := lcs_of_bestRem hB hV hh
  obtain ⟨r, hr, hle⟩ := rub?_ge hB hV h2 h1
  simp only [relaxation, hr, Option.getD_some]
  exact hle

theorem bestRem_le_nbVars {s : St} (hV : Valid ws s) {h : Int} (hh : bestRem J s = some h) : h ≤ (nbVars J : Int) := by
  have h0 : 0 < ws.length := List.length_pos_iff.mpr hB.ne
  obtain ⟨c, rfl, hcs, _, _⟩ := lcs_of_bestRem hB hV hh
  have h1 := (hcs 0 h0).length_le
  have h2 : (suf ws s 0).length ≤ (str ws 0).length := by simp [suf]
  rw [nbVars_eq hB]
  omega

end

theorem wfRel {J : Inst} {ws : List (List Nat)} (hB : Built J ws) : WfRel (problem J) (relaxation J) (H J) (V ws) := by
  refine .of_steps ?_ (fun k X hne hX => vmergeV hB hne hX) (fun k L x s h _ hV hh => attV hB hV.1 x hh)
    (fun k L s h hx _ hV hh => termV hB hV (nextVar_none hx) hh) (fun k s h hV hh => rubV hB hV.1 hh) ?_
  · intro k L x s d hx hV hd
    obtain ⟨hk, rfl⟩ := nextVar_some hx
    exact vstepV hB hV hk hd _
  · intro k X u src d c h hu hX hh
    obtain ⟨m, hm, hVm, hle⟩ := merge_specV hB (List.ne_nil_of_mem hu) hX
    rw [hm]
    have hanti := antitone_valid hB (hX u hu).1 hVm.1 (hle u hu)
    obtain ⟨cm, hcm, _⟩ := bestRem_spec hB hVm.1
    refine ⟨_, hcm, ?_⟩
    have hh' : bestRem J u = some h := hh
    rw [hh', hcm] at hanti
    have : h ≤ (cm.length : Int) := hanti
    show c + h ≤ c + (cm.length : Int)
    omega

theorem noClampDom {J : Inst} (hsmall : ((nbVars J : Int) + 2) * 1 ≤ 4611686018427387904) :
    NoClampDom (problem J) (relaxation J) 0 1 where
  nonneg := by omega
  root := by omega
  cost := by
    intro x s d _
    show -1 ≤ cost d ∧ cost d ≤ 1
    have := cost_nonneg d
    have := cost_le_one d
    omega
  relax := fun _ _ _ _ _ hc => hc
  small := hsmall

theorem lcs_relaxed_ub_bestRem {K : Type} [DecidableEq K] {k declared : Nat} {lines : List (List Int)} {J : Inst}
    (hJ : InstOk k declared lines J) (cfg : Cfg St K) (cache : Cache St) (store : DomStore St K) (polls : Nat)
    (hP : cfg.P = problem J) (hR : cfg.R = relaxation J)
    (hrs : cfg.root.state = initSt J) (hrv : cfg.root.value = 0) (hrd : cfg.root.depth = 0)
    (hrel : cfg.ctype = .relaxed) (hcache : cfg.useCache = false) (hdom : cfg.dom = none) (hW : 1 ≤ cfg.width)
    (hsmall : ((nbVars J : Int) + 2) * 1 ≤ 4611686018427387904)
    (o : Int) (ho : bestRem J (initSt J) = some o) (hlb : InI cfg.lb) (hgt : o > cfg.lb) :
    (compile cfg cache store polls none).1 = .ok →
    ∃ bv, (compile cfg cache store polls none).2.1.bestValue = some bv ∧ o ≤ bv := by
  have hB := built_of_instOk hJ
  have hVi := valid_init hB
  have hO : o ≤ iMax := by
    have := bestRem_le_nbVars hB hVi ho
    simp only [iMax]
    omega
  refine C06.relaxed_ub_rel_dom cfg (H J) (V (J.strings.take J.nStrings)) 1 cache store polls hrel hcache hdom hW ?_ ?_ ?_
    hlb o ?_ hgt (Or.inl hO)
  · rw [hP, hR]; exact wfRel hB
  · rw [hrd, hrs]; exact ⟨hVi, Nat.zero_le _⟩
  · rw [hP, hR, hrv]; exact noClampDom hsmall
  · unfold optOf
    rw [hrd, hrs, hrv]
    show (bestRem J (initSt J)).addI 0 = some o
    rw [ho]
    simp [EInt.addI]

/-! non-vacuity: a concrete instance (two strings over three characters, width 2: merges happen) -/
namespace Demo

/-- the file `2 3 / 4 abcb / 3 bac` -/
def lines : List (List Int) := [[97, 98, 99, 98], [98, 97, 99]]

def inst : Inst :=
  match readInst 2 3 lines with
  | .ok J => J
  | _ => ⟨0, 0, [], [], [], [], [], []⟩

theorem instOk : InstOk 2 3 lines inst := ⟨by decide +kernel, rfl⟩

def cfg : Cfg St Unit :=
  { P := problem inst, R := relaxation inst, rank := ⟨fun a b => compare (natSum b) (natSum a)⟩, dom := none,
    useCache := false, kind := .lel, ctype := .relaxed, width := 2, root := ⟨initSt inst, 0, [], iMax, 0⟩, lb := 0 }

example : bestRem inst (initSt inst) = some 2 := by decide +kernel

example : ∃ bv, (compile cfg (Cache.init 3) (DomStore.init 3) 0 none).2.1.bestValue = some bv ∧ 2 ≤ bv :=
  lcs_relaxed_ub_bestRem instOk cfg (Cache.init 3) (DomStore.init 3) 0 rfl rfl rfl rfl rfl rfl rfl rfl (by decide)
    (by decide +kernel) 2 (by decide +kernel) (by decide) (by decide) (by decide +kernel)

end Demo

#print axioms wfRel
#print axioms noClampDom
#print axioms lcs_relaxed_ub_bestRem
end

section
open Ddo Ddo.Examples Ddo.Examples.Util

theorem root_exact {k declared : Nat} {lines : List (List Int)} {J : Inst} (hJ : InstOk k declared lines J) :
    bestRem J (initSt J) = Lcs.best lines := by
  have h := dpExact k declared lines J hJ [] (initSt J) 0 rfl
  rw [best_eq_specBestExt]
  have e : prefixOf J [] = [] := rfl
  rw [e] at h
  rw [← h]
  cases bestRem J (initSt J) <;> simp [EInt.addI]

/-- **The shipped lcs example**: a relaxed compilation of its model from the root (layer by layer — every state of layer
    `k` is branched on variable `k`, no long arcs —, no cache, no dominance checker, width ≥ 1, any incumbent `lb` that the
    optimum beats) reports a best value that is at least the true optimum: the length `Lcs.best lines` of a longest common
    subsequence of the lines of the file, for every file of the input domain (`InstOk`). -/
theorem lcs_relaxed_ub {K : Type} [DecidableEq K] {k declared : Nat} {lines : List (List Int)} {J : Inst}
    (hJ : InstOk k declared lines J) (cfg : Cfg St K) (cache : Cache St) (store : DomStore St K) (polls : Nat)
    (hP : cfg.P = problem J) (hR : cfg.R = relaxation J)
    (hrs : cfg.root.state = initSt J) (hrv : cfg.root.value = 0) (hrd : cfg.root.depth = 0)
    (hrel : cfg.ctype = .relaxed) (hcache : cfg.useCache = false) (hdom : cfg.dom = none) (hW : 1 ≤ cfg.width)
    (hsmall : ((nbVars J : Int) + 2) * 1 ≤ 4611686018427387904)
    (o : Int) (ho : Lcs.best lines = some o) (hlb : InI cfg.lb) (hgt : o > cfg.lb) :
    (compile cfg cache store polls none).1 = .ok →
    ∃ bv, (compile cfg cache store polls none).2.1.bestValue = some bv ∧ o ≤ bv :=
  lcs_relaxed_ub_bestRem hJ cfg cache store polls hP hR hrs hrv hrd hrel hcache hdom hW hsmall o
    (by rw [root_exact hJ]; exact ho) hlb hgt

/-- non-vacuity, on the instance of `LcsProofsWf.lean` (`abcb`, `bac`: the optimum is `2`) -/
example : ∃ bv, (compile Demo.cfg (Cache.init 3) (DomStore.init 3) 0 none).2.1.bestValue = some bv ∧ 2 ≤ bv :=
  lcs_relaxed_ub Demo.instOk Demo.cfg (Cache.init 3) (DomStore.init 3) 0 rfl rfl rfl rfl rfl rfl rfl rfl (by decide)
    (by decide +kernel) 2 (by decide +kernel) (by decide) (by decide) (by decide +kernel)

/-- the contract of `is_impacted_by` (upper-bound half): a state of layer `k` whose position in string `0` is not `k` is further
    in string `0`, so it is valid for layer `k + 1`; its value-to-go does not depend on the layer -/
theorem skipRel {J : Inst} {ws : List (List Nat)} (hB : Built J ws) : SkipRel (problem J) (H J) (V ws) where
  vskip := by
    intro k L x s hnv _ hV himp
    obtain ⟨_, hx⟩ := nextVar_some hnv
    subst hx
    refine ⟨hV.1, ?_⟩
    have h1 := hV.2
    have h0 : 0 < ws.length := List.length_pos_iff.mpr hB.ne
    have h2 : pos s 0 ≠ x := by
      intro e
      simp [problem, impacted?, getElem?_of_valid hV.1 h0, e] at himp
    omega
  up := fun _ _ _ _ _ _ _ _ => EInt.le_refl _

/-- **The shipped lcs example, as shipped (pooled diagram, long arcs)**: a relaxed POOLED compilation of its model from the
    root (`compileP`: a state waits in the pool until the variable of its position in string `0`; no cache, no dominance
    checker, any width, any cutoff that lets the compilation end normally, any incumbent `lb` that the optimum beats) reports
    a best value — in both of its results — that is at least the true optimum `Lcs.best lines`, for every file of the input
    domain (`InstOk`). -/
theorem lcs_relaxed_ub_pooled {K : Type} [DecidableEq K] {k declared : Nat} {lines : List (List Int)} {J : Inst}
    (hJ : InstOk k declared lines J) (cfg : Cfg St K) (cache : Cache St) (store : DomStore St K) (polls : Nat)
    (stopAt : Option Nat)
    (hP : cfg.P = problem J) (hR : cfg.R = relaxation J)
    (hrs : cfg.root.state = initSt J) (hrv : cfg.root.value = 0) (hrd : cfg.root.depth = 0)
    (hrel : cfg.ctype = .relaxed) (hcache : cfg.useCache = false) (hdom : cfg.dom = none)
    (hsmall : ((nbVars J : Int) + 2) * 1 ≤ 4611686018427387904)
    (o : Int) (ho : Lcs.best lines = some o) (hlb : InI cfg.lb) (hgt : o > cfg.lb)
    (hok : (compileP cfg cache store polls stopAt).1 = .ok) (r : Result St)
    (hr : r = (compileP cfg cache store polls stopAt).2.1 ∨ (compileP cfg cache store polls stopAt).2.2.1 = some r) :
    ∃ bv, r.bestValue = some bv ∧ o ≤ bv := by
  have hB := built_of_instOk hJ
  have hVi := valid_init hB
  have ho' : bestRem J (initSt J) = some o := by rw [root_exact hJ]; exact ho
  have hO : o ≤ iMax := by
    have := bestRem_le_nbVars hB hVi ho'
    simp only [iMax]
    omega
  refine C15.relaxed_ub_pooled cfg (H J) (V (J.strings.take J.nStrings)) 1 cache store polls stopAt hrel hcache hdom ?_ ?_ ?_
    ?_ hlb o ?_ hgt (Or.inl hO) hok r hr
  · rw [hP, hR]; exact wfRel hB
  · rw [hP]; exact skipRel hB
  · rw [hrd, hrs]; exact ⟨hVi, Nat.zero_le _⟩
  · rw [hP, hR, hrv]; exact noClampDom hsmall
  · unfold optOf
    rw [hrd, hrs, hrv]
    show (bestRem J (initSt J)).addI 0 = some o
    rw [ho']
    simp [EInt.addI]

/-- non-vacuity of the pooled corollary, on the instance of `LcsProofsWf.lean` (`Demo`) -/
example : ∃ bv, (compileP Demo.cfg (Cache.init 3) (DomStore.init 3) 0 none).2.1.bestValue = some bv ∧ 2 ≤ bv :=
  lcs_relaxed_ub_pooled Demo.instOk Demo.cfg (Cache.init 3) (DomStore.init 3) 0 none rfl rfl rfl rfl rfl rfl rfl rfl
    (by decide +kernel) 2 (by decide +kernel) (by decide) (by decide) (by decide +kernel) _ (Or.inl rfl)

#print axioms bestRem_spec
#print axioms bestRemAntitone
#print axioms mergeOk
#print axioms rubAdmissible
#print axioms dominanceOk
#print axioms dpExact
#print axioms root_exact
#print axioms wfRel
#print axioms lcs_relaxed_ub
#print axioms lcs_relaxed_ub_pooled
end

end Ddo.Examples.LcsModel
