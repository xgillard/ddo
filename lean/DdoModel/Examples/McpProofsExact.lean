import DdoModel.Examples.McpProofsWf
/-! mcp example, `DpExactStmt`: the model half only (`dpExact_partial`; `DpExactStmt` itself is not proved).  Along any path of the
    model from the root, value + value-to-go = the maximum, over the sides extending the decisions with vertex 0 on side `S`, of
    the cut weight ON THE MATRIX (`cutM`; `exact_of_path`: on any table with a zero diagonal whose root value is the sum of the
    negative weights).  Not proved, and needed for `DpExactStmt`: `cutM` on `adjOf n edges` = `Mcp.cutWeight edges` (every edge
    once), sides ↔ sub-lists, and the symmetry `S ↔ T` at the root. -/
namespace Ddo.Examples.McpModel
open Ddo Ddo.Examples Ddo.Examples.Util

variable (T : Tab)

def cutM (x : Nat → Int) : Int := rsum 0 T.n fun i => rsum (i + 1) (T.n - (i + 1)) fun j => if x i ≠ x j then w T i j else 0

theorem Ff_congr_b {b b' x : Nat → Int} {k c : Nat} (hkc : k + c = T.n) (h : ∀ l, k ≤ l → l < T.n → b l = b' l) :
    Ff T b x k c = Ff T b' x k c := by
  unfold Ff
  congr 1
  apply rsum_congr; intro l h1 h2; rw [h l h1 (by omega)]

/-- the root value is the sum of the negative weights, every edge once (`sumNeg_eq` on the matrix of an instance) -/
def VrOk : Prop := T.vr = rsum 0 T.n fun j => rsum 0 j fun i => min 0 (w T i j)

theorem Cf_zero (hvr : VrOk T) (x : Nat → Int) : Cf T x 0 T.n = cutM T x - T.vr := by
  have h4 := row_eq_col T (fun i j => min 0 (w T i j)) T.n 0 (Nat.zero_add _)
  rw [hvr, show (rsum 0 T.n fun j => rsum 0 j fun i => min 0 (w T i j)) =
    rsum 0 T.n fun j => rsum 0 (j - 0) fun i => min 0 (w T i j) from rfl, ← h4]
  unfold Cf cutM
  have : ∀ a b c : Int, a + c = b → a = b - c := by intro a b c h; omega
  apply this
  rw [← rsum_add]
  apply rsum_congr
  intro i _ _
  rw [← rsum_add]
  apply rsum_congr
  intro j _ _
  unfold eT
  omega

theorem evalFrom_cons {k : Nat} {s : St} {v : Int} {d : Dec} {ds : List Dec} {r : St × Int × Nat}
    (h : evalFrom (problem T) k s v (d :: ds) = some r) :
    k < T.n ∧ d.var = k ∧ d.val ∈ domain s ∧ evalFrom (problem T) (k + 1) (trans T s d) (v + cost T s d) ds = some r := by
  rw [evalFrom] at h
  by_cases hk : k < T.n
  · rw [show (problem T).nextVar k [s] = some k from if_pos hk] at h
    simp only at h
    by_cases hc : d.var = k ∧ d.val ∈ (problem T).domain k s
    · rw [if_pos hc] at h; exact ⟨hk, hc.1, hc.2, h⟩
    · rw [if_neg hc] at h; cases h
  · rw [show (problem T).nextVar k [s] = none from if_neg hk] at h; cases h

/-- below the first layer, value + value of a completion is invariant along a path -/
theorem path_inv (hd : ∀ k, w T k k = 0) : ∀ (decs : List Dec) (k : Nat) (s : St) (v : Int) (s' : St) (v' : Int) (k' : Nat),
    V T k s → 1 ≤ k → evalFrom (problem T) k s v decs = some (s', v', k') →
    V T k' s' ∧ k' = k + decs.length ∧ (∀ d ∈ decs, d.val = 1 ∨ d.val = -1) ∧ ∀ x, Pm x → (∀ i d, decs[i]? = some d → x (k + i) = d.val) →
      v + Ff T (bAt s) x k (T.n - k) = v' + Ff T (bAt s') x k' (T.n - k') := by
  intro decs
  induction decs with
  | nil =>
    intro k s v s' v' k' hV _ h
    simp only [evalFrom, Option.some.injEq, Prod.mk.injEq] at h
    obtain ⟨rfl, rfl, rfl⟩ := h
    refine ⟨hV, rfl, ?_, fun _ _ _ => rfl⟩
    intro d hd; cases hd
  | cons d ds ih =>
    intro k s v s' v' k' hV hk h
    obtain ⟨dx, dv⟩ := d
    obtain ⟨hkn, hvar, hval, h⟩ := evalFrom_cons T h
    have hvar : dx = k := hvar
    subst hvar
    have hs0 : s.depth ≠ 0 := by rw [hV.2]; omega
    have hdom : dv = 1 ∨ dv = -1 := by
      simp only [domain, hs0, if_false] at hval
      simpa using hval
    obtain ⟨hV', hle, hpm, hinv⟩ := ih (dx + 1) _ _ s' v' k' (V_trans T hV hkn dv) (by omega) h
    refine ⟨hV', by rw [hle, List.length_cons]; omega, ?_, ?_⟩
    · intro d hd
      rcases List.mem_cons.mp hd with rfl | hd
      · exact hdom
      · exact hpm d hd
    intro x hx hext
    have hxk : x dx = dv := by have := hext 0 ⟨dx, dv⟩ rfl; simpa using this
    have := hinv x hx (fun i d hi => by
      have := hext (i + 1) d (by simpa using hi)
      rw [← this]; congr 1; omega)
    rw [← this]
    have e : T.n - dx = (T.n - (dx + 1)) + 1 := by omega
    rw [e, Ff_step T hx (by omega) (hd dx), hxk, cost_ok T hV.1.1 hkn hdom, if_neg hs0]
    have hb : Ff T (stepF T (bAt s) dx dv) x (dx + 1) (T.n - (dx + 1)) =
        Ff T (bAt ((problem T).trans s ⟨dx, dv⟩)) x (dx + 1) (T.n - (dx + 1)) := by
      apply Ff_congr_b T (by omega)
      intro l h1 h2
      exact (trans_bAt T hV.1.1 dx dv (by omega) h2).symm
    rw [hb]; omega

/-- after the first decision (vertex 0 on side `S`): root value + value of a completion = the weight of its cut -/
theorem root_id (hvr : VrOk T) {c : Nat} (hn : T.n = c + 1) {x b : Nat → Int}
    (hx : Pm x) (hx0 : x 0 = 1) (hb : ∀ l, 1 ≤ l → l < T.n → b l = w T 0 l) :
    T.vr + Ff T b x 1 c = cutM T x := by
  have h1 := Cf_zero T hvr x
  have h2 : Cf T x 0 T.n = rsum 1 c (eT T x 0) + Cf T x 1 c := by
    unfold Cf
    rw [hn, rsum_succ]
    have : c + 1 - (0 + 1) = c := by omega
    rw [this]
  have h3 : rsum 1 c (fun l => max 0 (-(x l * b l))) = rsum 1 c (eT T x 0) := by
    apply rsum_congr
    intro l hl1 hl2
    rw [hb l hl1 (by omega)]
    unfold eT
    rw [hx0]
    rcases hx l with h | h <;> rw [h] <;> simp <;> omega
  unfold Ff
  rw [h3]
  omega

/-- the sides `x` extend the decisions `decs`, vertex 0 on side `S` (the symmetry breaking of the model) -/
def Ext (decs : List Dec) (x : Nat → Int) : Prop := x 0 = 1 ∧ ∀ i d, decs[i]? = some d → x i = d.val

def sidesOf (decs : List Dec) : Nat → Int := fun i =>
  match decs[i]? with
  | some d => d.val
  | none => 1

theorem sidesOf_some {decs : List Dec} {i : Nat} {d : Dec} (h : decs[i]? = some d) : sidesOf decs i = d.val := by
  simp [sidesOf, h]

theorem sidesOf_pm {decs : List Dec} (h : ∀ d ∈ decs, d.val = 1 ∨ d.val = -1) : Pm (sidesOf decs) := by
  intro i
  unfold sidesOf
  split
  · next d hi => exact h d (List.mem_of_getElem? hi)
  · exact Or.inl rfl

theorem exact_at (hd : ∀ k, w T k k = 0) {k c : Nat} (hkc : k + c = T.n) (hk : k ≠ 0) (b : Nat → Int) (v : Int)
    {decs : List Dec} (hlen : decs.length ≤ k) {x0 : Nat → Int} (h0 : Pm x0) (he0 : Ext decs x0)
    (hid : ∀ x, Pm x → Ext decs x → cutM T x = v + Ff T b x k c) :
    (∀ x, Pm x → Ext decs x → cutM T x ≤ v + Hf T c k b) ∧ ∃ x, Pm x ∧ Ext decs x ∧ cutM T x = v + Hf T c k b := by
  refine ⟨fun x hx he => ?_, ?_⟩
  · rw [hid x hx he]
    have := Hf_ge T hd hx c k b hkc hk
    omega
  · obtain ⟨x, hx, hlow, hH⟩ := Hf_att T hd c k b x0 hkc hk h0
    have he : Ext decs x := by
      refine ⟨by rw [hlow 0 (by omega)]; exact he0.1, fun i d hi => ?_⟩
      rw [hlow i (by have := (List.getElem?_eq_some_iff.mp hi).1; omega)]
      exact he0.2 i d hi
    exact ⟨x, hx, he, by rw [hid x hx he, hH]⟩

theorem exact_of_path (hd : ∀ k, w T k k = 0) (hvr : VrOk T) (decs : List Dec) (s : St) (v : Int) (k : Nat)
    (he : evalFrom (problem T) 0 (initSt T) T.vr decs = some (s, v, k)) :
    ∃ h, bestRem T s = some h ∧ (∀ x, Pm x → Ext decs x → cutM T x ≤ v + h) ∧
      ∃ x, Pm x ∧ Ext decs x ∧ cutM T x = v + h := by
  have hV0 : V T 0 (initSt T) := V_init T
  cases decs with
  | nil =>
    simp only [evalFrom, Option.some.injEq, Prod.mk.injEq] at he
    obtain ⟨rfl, rfl, rfl⟩ := he
    refine ⟨_, bestRem_eq _ hV0.1, ?_⟩
    rcases Nat.eq_zero_or_pos T.n with h0 | hpos
    · have hv : T.vr = 0 := by rw [hvr, h0]; rfl
      have hc : ∀ x, cutM T x = 0 := fun x => by unfold cutM; rw [h0]; rfl
      have hH : T.n - (initSt T).depth = 0 := by omega
      simp only [hc, hv, hH, Hf]
      exact ⟨fun _ _ _ => by omega, fun _ => 1, fun _ => Or.inl rfl, ⟨rfl, fun i d h => by simp at h⟩, by omega⟩
    · -- the root has the one decision `S` for vertex 0, at no cost
      obtain ⟨c, hnc⟩ : ∃ c, T.n = c + 1 := ⟨T.n - 1, by omega⟩
      rw [show T.n - (initSt T).depth = c + 1 from hnc, show (initSt T).depth = 0 from rfl, Hf_first T _ hpos]
      refine exact_at T hd (by omega) (by omega) _ _ (Nat.zero_le 1) (x0 := fun _ => 1)
        (fun _ => Or.inl rfl) ⟨rfl, fun i d h => by simp at h⟩ (fun x hx hext => (root_id T hvr hnc hx hext.1 ?_).symm)
      intro l _ _; unfold stepF; rw [bAt_init]; omega
  | cons d ds =>
    obtain ⟨dx, dv⟩ := d
    obtain ⟨hn0, hvar, hval, he⟩ := evalFrom_cons T he
    have hvar : dx = 0 := hvar
    subst hvar
    have hdv : dv = 1 := by simpa [domain, initSt] using hval
    subst hdv
    rw [cost_ok T hV0.1.1 hn0 (Or.inl rfl), if_pos (show (initSt T).depth = 0 from rfl)] at he
    obtain ⟨hV', hk', hpm, hinv⟩ := path_inv T hd ds 1 _ _ s v k (V_trans T hV0 hn0 1) (by omega) he
    obtain ⟨c, hnc⟩ : ∃ c, T.n = c + 1 := ⟨T.n - 1, by omega⟩
    have hb : ∀ l, 1 ≤ l → l < T.n → bAt ((problem T).trans (initSt T) ⟨0, 1⟩) l = w T 0 l := by
      intro l _ hl
      show bAt (trans T (initSt T) ⟨0, 1⟩) l = _
      rw [trans_bAt T hV0.1.1 0 1 (by omega) hl]
      unfold stepF; rw [bAt_init]; omega
    have hkc : k + (T.n - k) = T.n := by have := hV'.1.2; have := hV'.2; omega
    refine ⟨_, bestRem_eq _ hV'.1, ?_⟩
    rw [hV'.2]
    have hall : ∀ d ∈ (⟨0, 1⟩ : Dec) :: ds, d.val = 1 ∨ d.val = -1 := by
      intro d hd
      rcases List.mem_cons.mp hd with rfl | hd
      · exact Or.inl rfl
      · exact hpm d hd
    refine exact_at T hd hkc (by omega) _ _ (by rw [hk', List.length_cons]; omega) (sidesOf_pm hall)
      ⟨sidesOf_some (d := ⟨0, 1⟩) rfl, fun i d hi => sidesOf_some hi⟩ (fun x hx hext => ?_)
    have h1 := hinv x hx (fun i d hi => by
      have := hext.2 (i + 1) d (by simpa using hi)
      rw [← this]; congr 1; omega)
    rw [show T.n - 1 = c by omega] at h1
    have h2 := root_id T hvr hnc hx hext.1 hb
    omega

/-- **the model half of `DpExactStmt`.**  Not proved, and needed for `DpExactStmt`: that maximum is `specBestExt` — the weight on
    the matrix is `Mcp.cutWeight` on the edge list (`inDomain`: every edge once), sides ↔ sub-lists of vertices, and the
    symmetry `S ↔ T` at the root. -/
theorem dpExact_partial {n : Nat} {adj : List (List Int)} (hG : GraphOk n adj) (decs : List Dec) (s : St) (v : Int) (k : Nat)
    (he : evalFrom (problem (tabOfAdj n adj)) 0 (problem (tabOfAdj n adj)).init (problem (tabOfAdj n adj)).initVal decs =
      some (s, v, k)) :
    ∃ h, bestRem (tabOfAdj n adj) s = some h ∧
      (∀ x, Pm x → Ext decs x → cutM (tabOfAdj n adj) x ≤ v + h) ∧
      ∃ x, Pm x ∧ Ext decs x ∧ cutM (tabOfAdj n adj) x = v + h :=
  exact_of_path _ (graphOk_diag hG) (sumNeg_eq hG) decs s v k he

/-- `DpExactStmt`'s decision lists are the lists `dpExact_partial` is about: the `i`-th decision is `⟨i, vals[i]⟩` -/
theorem decs_getElem? (vals : List Int) (i : Nat) :
    ((List.range vals.length).zipWith (fun (k : Nat) (x : Int) => (⟨k, x⟩ : Dec)) vals)[i]? = (vals[i]?).map fun x => ⟨i, x⟩ := by
  rw [List.getElem?_zipWith]
  by_cases h : i < vals.length
  · rw [List.getElem?_range h, List.getElem?_eq_getElem h]; rfl
  · rw [List.getElem?_eq_none (by simp; omega), List.getElem?_eq_none (by omega)]; rfl

section Axioms
#print axioms dpExact_partial
end Axioms

end Ddo.Examples.McpModel
