import DdoModel.Proofs.EInt
import DdoModel.Proofs.SpecUtil
/-! `EInt` (`none` = −∞) under `EInt.max` and `EInt.addI`, and the fold of `EInt.max` over a list: the shape of the value-to-go
    of the example models (the greatest, over the decisions of the domain, of "transition cost + value-to-go of the next
    state"); how such a value meets the minimum a specification takes. The fold lemma is stated once for any operation that
    selects one of its arguments (`SpecUtil.foldl_sel_spec`: also `min` / `max` on `Nat` and `Int`, by which the relaxations merge
    depths, times and distances). -/
namespace Ddo.Examples.EMax
open Ddo Ddo.Examples.Util

theorem mapM_total {α β : Type} (f : α → Option β) (g : α → β) : ∀ l : List α, (∀ x ∈ l, f x = some (g x)) →
    l.mapM f = some (l.map g) := by
  intro l
  induction l with
  | nil => intro _; rfl
  | cons a t ih =>
    intro h
    rw [List.mapM_cons, h a List.mem_cons_self, ih (fun x hx => h x (List.mem_cons_of_mem _ hx))]
    rfl

theorem mapM_cons_some {α β : Type} {f : α → Option β} {a : α} {t : List α} {r : List β} (h : (a :: t).mapM f = some r) :
    ∃ b bs, f a = some b ∧ t.mapM f = some bs ∧ r = b :: bs := by
  rw [List.mapM_cons] at h
  obtain ⟨b, hb, h⟩ := Option.bind_eq_some_iff.mp h
  obtain ⟨bs, hbs, h⟩ := Option.bind_eq_some_iff.mp h
  exact ⟨b, bs, hb, hbs, by cases h; rfl⟩

theorem mapM_spec {α β : Type} {f : α → Option β} : ∀ {l : List α} {r : List β}, l.mapM f = some r →
    r.length = l.length ∧ ∀ (i : Nat) (hi : i < l.length) (hr : i < r.length), f l[i] = some r[i]
  | [], r, h => by
    cases h
    exact ⟨rfl, fun i hi => absurd hi (Nat.not_lt_zero i)⟩
  | a :: t, r, h => by
    obtain ⟨b, bs, hb, hbs, rfl⟩ := mapM_cons_some h
    obtain ⟨hl, hg⟩ := mapM_spec hbs
    refine ⟨congrArg (· + 1) hl, fun i hi hr => ?_⟩
    cases i with
    | zero => exact hb
    | succ j => exact hg j (Nat.lt_of_succ_lt_succ hi) (Nat.lt_of_succ_lt_succ hr)

theorem mapM_getElem {α β : Type} {f : α → Option β} : ∀ {l : List α} {r : List β}, l.mapM f = some r →
    ∀ (i : Nat) (hi : i < l.length) (hr : i < r.length), f l[i] = some r[i] :=
  fun h => (mapM_spec h).2

theorem mapM_some {α β : Type} {f : α → Option β} : ∀ {l : List α} {r : List β}, l.mapM f = some r →
    r.length = l.length ∧ ∀ b ∈ r, ∃ a ∈ l, f a = some b := by
  intro l r h
  obtain ⟨hl, hg⟩ := mapM_spec h
  refine ⟨hl, fun b hb => ?_⟩
  obtain ⟨i, hi, rfl⟩ := List.getElem_of_mem hb
  have hi' : i < l.length := hl ▸ hi
  exact ⟨l[i], List.getElem_mem hi', hg i hi' hi⟩

theorem mapM_mem {α β : Type} {f : α → Option β} : ∀ {l : List α} {r : List β}, l.mapM f = some r →
    ∀ a ∈ l, ∃ b, f a = some b ∧ b ∈ r := by
  intro l r h a ha
  obtain ⟨hl, hg⟩ := mapM_spec h
  obtain ⟨i, hi, rfl⟩ := List.getElem_of_mem ha
  have hi' : i < r.length := hl ▸ hi
  exact ⟨r[i], hg i hi hi', List.getElem_mem hi'⟩

theorem foldl_max_spec {α : Type} (f : α → EInt) (l : List α) (acc : EInt) :
    acc ≤ l.foldl (fun a v => EInt.max a (f v)) acc ∧
    (∀ v ∈ l, f v ≤ l.foldl (fun a v => EInt.max a (f v)) acc) ∧
    (l.foldl (fun a v => EInt.max a (f v)) acc = acc ∨ ∃ v ∈ l, l.foldl (fun a v => EInt.max a (f v)) acc = f v) :=
  SpecUtil.foldl_sel_spec EInt.le_refl EInt.le_trans le_max_left le_max_right max_cases f l acc

theorem foldl_natMax_spec {α : Type} (f : α → Nat) (l : List α) (a : Nat) :
    a ≤ l.foldl (fun m i => max m (f i)) a ∧ (∀ i ∈ l, f i ≤ l.foldl (fun m i => max m (f i)) a) ∧
    (l.foldl (fun m i => max m (f i)) a = a ∨ ∃ i ∈ l, l.foldl (fun m i => max m (f i)) a = f i) :=
  SpecUtil.foldl_sel_spec Nat.le_refl Nat.le_trans Nat.le_max_left Nat.le_max_right
    (fun a b => (Nat.le_total a b).elim (fun h => Or.inr (Nat.max_eq_right h)) (fun h => Or.inl (Nat.max_eq_left h))) f l a

theorem foldl_natMin_spec {α : Type} (f : α → Nat) (l : List α) (a : Nat) :
    l.foldl (fun m i => min m (f i)) a ≤ a ∧ (∀ i ∈ l, l.foldl (fun m i => min m (f i)) a ≤ f i) ∧
    (l.foldl (fun m i => min m (f i)) a = a ∨ ∃ i ∈ l, l.foldl (fun m i => min m (f i)) a = f i) :=
  SpecUtil.foldl_sel_spec (R := fun a b => b ≤ a) Nat.le_refl (fun h1 h2 => Nat.le_trans h2 h1) Nat.min_le_left Nat.min_le_right
    (fun a b => (Nat.le_total a b).elim (fun h => Or.inl (Nat.min_eq_left h)) (fun h => Or.inr (Nat.min_eq_right h))) f l a

theorem foldl_intMin_spec {α : Type} (f : α → Int) (l : List α) (a : Int) :
    l.foldl (fun m i => min m (f i)) a ≤ a ∧ (∀ i ∈ l, l.foldl (fun m i => min m (f i)) a ≤ f i) ∧
    (l.foldl (fun m i => min m (f i)) a = a ∨ ∃ i ∈ l, l.foldl (fun m i => min m (f i)) a = f i) :=
  SpecUtil.foldl_sel_spec (R := fun a b => b ≤ a) Int.le_refl (fun h1 h2 => Int.le_trans h2 h1) Int.min_le_left Int.min_le_right
    (fun a b => (Int.le_total a b).elim (fun h => Or.inl (Int.min_eq_left h)) (fun h => Or.inr (Int.min_eq_right h))) f l a

theorem foldl_max_le {α : Type} (f : α → EInt) {X : EInt} (l : List α) (acc : EInt) (hacc : acc ≤ X) (h : ∀ v ∈ l, f v ≤ X) :
    l.foldl (fun a v => EInt.max a (f v)) acc ≤ X := by
  rcases (foldl_max_spec f l acc).2.2 with e | ⟨v, hv, e⟩ <;> rw [e]
  · exact hacc
  · exact h v hv

theorem foldl_max_none_att {α : Type} (f : α → EInt) (l : List α) {h : Int}
    (hh : l.foldl (fun a v => EInt.max a (f v)) none = some h) : ∃ v ∈ l, f v = some h := by
  rcases (foldl_max_spec f l none).2.2 with e | ⟨v, hv, e⟩
  · cases e.symm.trans hh
  · exact ⟨v, hv, e.symm.trans hh⟩

theorem foldl_max_addI_att {α : Type} (g : α → EInt) (c : α → Int) (l : List α) {h : Int}
    (hh : l.foldl (fun a v => EInt.max a ((g v).addI (c v))) none = some h) : ∃ v ∈ l, ∃ h', g v = some h' ∧ h = h' + c v := by
  obtain ⟨v, hv, e⟩ := foldl_max_none_att _ l hh
  exact ⟨v, hv, EInt.addI_eq_some e⟩

theorem foldl_max_congr {α : Type} (f g : α → EInt) : ∀ (l : List α) (acc : EInt), (∀ v ∈ l, f v = g v) →
    l.foldl (fun a v => EInt.max a (f v)) acc = l.foldl (fun a v => EInt.max a (g v)) acc
  | [], _, _ => rfl
  | x :: t, acc, h => by
    rw [List.foldl_cons, List.foldl_cons, h x List.mem_cons_self]
    exact foldl_max_congr f g t _ (fun v hv => h v (List.mem_cons_of_mem _ hv))

/-- a value that is at least minus every entry of a list and, when finite, at most minus one of them is minus their minimum
    (how a model's value-to-go meets the minimum its specification takes) -/
theorem eq_neg_minOf {b : EInt} {X : List Int} (hle : ∀ y ∈ X, (some (-y) : EInt) ≤ b)
    (hatt : ∀ v, b = some v → ∃ x ∈ X, x ≤ -v) : b = (minOf X).map (fun d => -d) := by
  cases hb : b with
  | none =>
    have : X = [] := List.eq_nil_iff_forall_not_mem.mpr (fun y hy => (EInt.some_le_none _).mp (hb ▸ hle y hy))
    rw [this]
    rfl
  | some v =>
    obtain ⟨x, hx, hxle⟩ := hatt v hb
    have hlow : ∀ y ∈ X, -v ≤ y := fun y hy => Int.neg_le_of_neg_le ((EInt.some_le_some _ _).mp (hb ▸ hle y hy))
    rw [SpecUtil.minOf_eq_some.mpr ⟨Int.le_antisymm hxle (hlow x hx) ▸ hx, hlow⟩, Option.map_some, Int.neg_neg]

end Ddo.Examples.EMax
