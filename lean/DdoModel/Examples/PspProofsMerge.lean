import DdoModel.Examples.PspProofsStep
/-! `MergeOk` for the psp example.  Under the triangle inequality a state with pointwise earlier pending due dates (and a
    `next` that is no worse up to a debt `δ`) is worth at least as much, less `δ` (`bestRem_mono`): its plan follows the plan of the
    other state and idles whenever the other one produces a unit it does not owe.  Hence `mergeOk_partial`: `MergeOkStmt`
    for every horizon `≤ 2^63` (the merge starts from `isize::MAX`).  Without the inequality the statement is false
    (`mergeOk_fails_without_triangle`, finding D15). -/
namespace Ddo.Examples.PspModel
open Ddo Ddo.Examples Ddo.Examples.Util

def qq (I : Psp.Inst) (a b : Nat) : Int := (I.q.getD a []).getD b 0

theorem chgTo_item (I : Psp.Inst) (b c : Nat) : chgTo I (b : Int) c = qq I c b := by
  have : ¬ ((b : Int) = -1) := by omega
  simp [chgTo, this, qq]

theorem chgTo_none (I : Psp.Inst) (c : Nat) : chgTo I (-1) c = 0 := by simp [chgTo]

theorem getD_nonneg {l : List Int} (h : ∀ x ∈ l, 0 ≤ x) (i : Nat) : 0 ≤ l.getD i 0 := SpecUtil.getD_nonneg h i

section
variable {I : Psp.Inst} (hI : InstOk I)
include hI

theorem qq_nonneg (a b : Nat) : 0 ≤ qq I a b := by
  unfold qq
  apply getD_nonneg
  rw [List.getD_eq_getElem?_getD]
  by_cases ha : a < I.q.length
  · rw [List.getElem?_eq_getElem ha]; exact (hI.qrows.2 _ (List.getElem_mem ha)).2
  · rw [List.getElem?_eq_none (Nat.le_of_not_lt ha)]; intro x hx; cases hx

theorem stkOf_nonneg (i : Nat) : 0 ≤ stkOf I i := getD_nonneg hI.hrow.2 i

theorem chgTo_nonneg (nx : Int) (c : Nat) : 0 ≤ chgTo I nx c := by
  unfold chgTo
  split
  · exact Int.le_refl _
  · exact qq_nonneg hI _ _

omit hI in
theorem triangle (htri : triangleB (tabOf I) = true) {a b c : Nat} (ha : a < I.n) (hb : b < I.n) (hc : c < I.n) :
    qq I a c ≤ qq I a b + qq I b c := by
  unfold triangleB at htri
  simp only [List.all_eq_true, List.mem_range, decide_eq_true_eq] at htri
  exact htri a ha b hb c hc

theorem rem_le_of_pd_le {u m : St} (hle : ∀ i, i < I.n → pdAt m i ≤ pdAt u i) : rem I m ≤ rem I u :=
  sumTo_le (fun i hi => contrib_mono hI i (hle i hi))

/-- `m.next` is no worse than `u.next` up to the debt `δ` -/
def RelN (I : Psp.Inst) (bu bm : Int) (δ : Int) : Prop := 0 ≤ δ ∧ ∀ c, c < I.n → chgTo I bm c ≤ chgTo I bu c + δ

omit hI in
theorem RelN.refl (I : Psp.Inst) (b : Int) : RelN I b b 0 := ⟨Int.le_refl _, fun _ _ => Int.le_of_eq (Int.add_zero _).symm⟩

/-- producing `i` after `u.next` instead of `bm`: the debt grows by the changeover paid (triangle inequality) -/
theorem RelN.produce (htri : triangleB (tabOf I) = true) {u : St} (hnu : NextOk I u) {bm δ : Int} (hrel : RelN I u.next bm δ)
    {i : Nat} (hi : i < I.n) : RelN I (i : Int) bm (δ + chgTo I u.next i) := by
  have hc0 := chgTo_nonneg hI u.next i
  refine ⟨by have := hrel.1; omega, ?_⟩
  intro c hc
  have h1 := hrel.2 c hc
  rw [chgTo_item]
  have h2 : chgTo I u.next c ≤ qq I c i + chgTo I u.next i := by
    rcases hnu.cases with hn | ⟨b, hbn, hb⟩
    · rw [hn, chgTo_none, chgTo_none]; have := qq_nonneg hI c i; omega
    · rw [hb, chgTo_item, chgTo_item]
      exact triangle htri hc hi hbn
  omega

omit hI in
/-- a state with pointwise earlier pending due dates that does not owe the unit of `i` the other one produces stays
    pointwise earlier: its own pending unit of `i`, if any, is a demand before that unit -/
theorem pd_le_produce {u m : St} (hou : Ok I u) (hom : Ok I m) (hle : ∀ j, j < I.n → pdAt m j ≤ pdAt u j) {i : Nat} (hi : i < I.n)
    (hlt : pdAt m i < pdAt u i) : ∀ j, j < I.n → pdAt m j ≤ pdAt (produce I u i) j := by
  intro j hj
  rw [pdAt_produce hou hi]
  split
  · next hji =>
    subst hji
    rcases hom.due j hj with hm1 | ⟨hm0, hm1⟩
    · rw [hm1]; exact (prevF_lt _ _).1
    · have := prevF_latest (rowOf I j) (pdAt u j).toNat (pdAt m j).toNat (by omega) hm1
      omega
  · exact hle j hj

theorem bestRem_mono (htri : triangleB (tabOf I) = true) : ∀ (k : Nat) (u m : St) (δ h : Int), u.time = k → m.time = k →
    Ok I u → Ok I m → NextOk I u → NextOk I m → (∀ i, i < I.n → pdAt m i ≤ pdAt u i) → RelN I u.next m.next δ →
    bestRem (tabOf I) u = some h → ∃ h', bestRem (tabOf I) m = some h' ∧ h - δ ≤ h' := by
  intro k
  induction k with
  | zero =>
    intro u m δ h hu hm _ _ _ _ _ hrel hh
    rw [bestRem_zero _ hu] at hh
    cases hh
    exact ⟨0, bestRem_zero _ hm, Int.sub_nonpos_of_le hrel.1⟩
  | succ k ih =>
    intro u m δ h hu hm hou hom hnu hnm hle hrel hh
    have hremle := rem_le_of_pd_le hI hle
    obtain ⟨hrem, ⟨hlt, hh1⟩ | ⟨i, hi, hp, h1, hh1, hcost⟩⟩ := bestRem_step hI hou hnu hu hh
    · -- `u` idles: so does `m`
      obtain ⟨h2, hb2, hle2⟩ := ih (idle u) (idle m) δ h (time_pred hu) (time_pred hm) (ok_idle hou) (ok_idle hom)
        hnu hnm hle hrel hh1
      obtain ⟨h', hb, hle'⟩ := bestRem_idle_le hI hom hm (Int.lt_of_le_of_lt hremle hlt) hb2
      exact ⟨h', hb, Int.le_trans hle2 hle'⟩
    · have hpu : 0 ≤ pdAt u i := Int.le_trans (Int.natCast_nonneg k) hp
      by_cases heq : pdAt m i = pdAt u i
      · -- `m` owes the same unit: it produces it too
        have hle' : ∀ j, j < I.n → pdAt (produce I m i) j ≤ pdAt (produce I u i) j := by
          intro j hj
          rw [pdAt_produce hom hi, pdAt_produce hou hi]
          split
          · rw [heq]; exact Int.le_refl _
          · exact hle j hj
        obtain ⟨h2, hb2, hle2⟩ := ih (produce I u i) (produce I m i) 0 h1 (time_pred hu) (time_pred hm)
          (ok_produce hou hi) (ok_produce hom hi) (nextOk_produce u hi) (nextOk_produce m hi) hle'
          (RelN.refl I _) hh1
        obtain ⟨h', hb, hle3⟩ := bestRem_produce_le hI hom hnm hm hi (Int.le_trans hremle hrem) (heq ▸ hp) hb2
        refine ⟨h', hb, ?_⟩
        rw [heq] at hle3
        have := hrel.2 i hi
        omega
      · -- `m` does not owe that unit: it idles
        have hle' := pd_le_produce hou hom hle hi (Int.lt_iff_le_and_ne.mpr ⟨hle i hi, heq⟩)
        have hrem' : rem I m ≤ rem I u - 1 := by
          rw [← rem_produce hI hou hi hpu]
          exact rem_le_of_pd_le hI hle'
        obtain ⟨h2, hb2, hle2⟩ := ih (produce I u i) (idle m) (δ + chgTo I u.next i) h1 (time_pred hu) (time_pred hm)
          (ok_produce hou hi) (ok_idle hom) (nextOk_produce u hi) hnm hle' (hrel.produce hI htri hnu hi) hh1
        obtain ⟨h', hb, hle3⟩ := bestRem_idle_le hI hom hm (by omega) hb2
        refine ⟨h', hb, ?_⟩
        have hs0 : 0 ≤ stkOf I i * (pdAt u i - (k : Int)) := Int.mul_nonneg (stkOf_nonneg hI i) (Int.sub_nonneg_of_le hp)
        omega

end

theorem minZip_getD_mem : ∀ (acc y : List Int) (i : Nat) (dflt : Int), i < acc.length → i < y.length →
    (minZip acc y).getD i dflt = acc.getD i dflt ∨ (minZip acc y).getD i dflt = y.getD i dflt := by
  intro acc
  induction acc with
  | nil => intro y i dflt h; simp at h
  | cons a r ih =>
    intro y i dflt h1 h2
    cases y with
    | nil => simp at h2
    | cons b bs =>
      cases i with
      | zero => simp [minZip]; omega
      | succ j =>
        simp only [minZip, List.getD_cons_succ]
        exact ih bs j dflt (by simpa using h1) (by simpa using h2)

theorem foldl_minZip_mem (X : List St) (i : Nat) (dflt : Int) (hX : ∀ w ∈ X, i < w.pd.length) : ∀ (acc : List Int),
    i < acc.length →
    (X.foldl (fun a s => minZip a s.pd) acc).getD i dflt = acc.getD i dflt ∨
    ∃ w ∈ X, (X.foldl (fun a s => minZip a s.pd) acc).getD i dflt = w.pd.getD i dflt := by
  induction X with
  | nil => intro acc _; left; rfl
  | cons a r ih =>
    intro acc hacc
    simp only [List.foldl_cons]
    have hl := minZip_length acc a.pd
    rcases ih (fun w hw => hX w (List.mem_cons_of_mem _ hw)) (minZip acc a.pd) (by omega) with h | ⟨w, hw, h⟩
    · rcases minZip_getD_mem acc a.pd i dflt hacc (hX a List.mem_cons_self) with h2 | h2
      · left; rw [h, h2]
      · right; exact ⟨a, List.mem_cons_self, by rw [h, h2]⟩
    · right; exact ⟨w, List.mem_cons_of_mem _ hw, h⟩

section
variable {I : Psp.Inst} (hI : InstOk I)
include hI

theorem merge_spec (hT : (I.T : Int) ≤ isizeMax + 1) {X : List St} {u : St} (hu : u ∈ X)
    (hX : ∀ w ∈ X, Ok I w ∧ w.time = u.time) (hut : u.time ≤ I.T) :
    (mergeStates (tabOf I) X).time = u.time ∧ (mergeStates (tabOf I) X).next = -1 ∧ Ok I (mergeStates (tabOf I) X) ∧
    (∀ w ∈ X, ∀ i, i < I.n → pdAt (mergeStates (tabOf I) X) i ≤ pdAt w i) ∧
    (∀ i, i < I.n → ∃ w ∈ X, pdAt (mergeStates (tabOf I) X) i = pdAt w i) := by
  have hn : (tabOf I).n = I.n := rfl
  have hH : (tabOf I).H = I.T := rfl
  have hle : ∀ w ∈ X, ∀ i, i < I.n → pdAt (mergeStates (tabOf I) X) i ≤ pdAt w i := by
    intro w hw i hi
    exact (merge_pd_le (tabOf I) X i hi).2 w hw (by rw [(hX w hw).1.len]; exact hi)
  have hmem : ∀ i, i < I.n → ∃ w ∈ X, pdAt (mergeStates (tabOf I) X) i = pdAt w i := by
    intro i hi
    rcases foldl_minZip_mem X i (-1) (fun w hw => by rw [(hX w hw).1.len]; exact hi) (List.replicate (tabOf I).n isizeMax)
      (by simp [hn, hi]) with h | h
    · refine ⟨u, hu, ?_⟩
      have h1 : pdAt (mergeStates (tabOf I) X) i = isizeMax := by
        show (X.foldl (fun a s => minZip a s.pd) (List.replicate (tabOf I).n isizeMax)).getD i (-1) = _
        rw [h]; simp [List.getD_eq_getElem?_getD, hn, hi]
      have h2 := hle u hu i hi
      have h3 := (hX u hu).1.lt_T hI hi
      omega
    · exact h
  refine ⟨?_, rfl, ⟨?_, ?_⟩, hle, hmem⟩
  · have h1 := (merge_time_le (tabOf I) X).2 u hu
    have h2 : u.time ≤ (mergeStates (tabOf I) X).time := by
      show u.time ≤ X.foldl (fun m i => min m i.time) (tabOf I).H
      rcases (EMax.foldl_natMin_spec St.time X (tabOf I).H).2.2 with e | ⟨w, hw, e⟩ <;> rw [e]
      · rw [hH]; exact hut
      · exact Nat.le_of_eq (hX w hw).2.symm
    omega
  · have := (foldl_minZip X (List.replicate (tabOf I).n isizeMax) 0 (-1)).1
    simp only [List.length_replicate] at this
    exact this
  · intro i hi
    obtain ⟨w, hw, he⟩ := hmem i hi
    rw [he]
    exact (hX w hw).1.due i hi

end

theorem StOk.ok {I : Psp.Inst} {s : St} (h : StOk I s) : Ok I s := ⟨h.1, h.2.2.2.1⟩
theorem StOk.nextOk {I : Psp.Inst} {s : St} (h : StOk I s) : NextOk I s := h.2.2.1
theorem StOk.time_le {I : Psp.Inst} {s : St} (h : StOk I s) : s.time ≤ I.T := h.2.1
theorem StOk.valid {I : Psp.Inst} {s : St} (h : StOk I s) : validB (tabOf I) s = true := h.2.2.2.2

/-- the whole `MergeOkStmt` (which has the triangle inequality as a premise), for every horizon `≤ 2^63`.  The bound on the
    horizon is the only thing `partial` stands for: the merge starts from `isize::MAX`, so for a horizon beyond `2^63` (no such
    `Vec` exists) the merged entry of an item whose pending due dates all exceed `isize::MAX` is `isize::MAX` itself, which need
    not be a due date of the item; that case is not proved. -/
theorem mergeOk_partial (I : Psp.Inst) (hT : (I.T : Int) ≤ isizeMax + 1) : MergeOkStmt I := by
  intro hI htri X u h hu hX hh
  obtain ⟨hmt, hmn, hmo, hmle, _⟩ := merge_spec hI hT hu (fun w hw => ⟨(hX w hw).1.ok, (hX w hw).2⟩) (hX u hu).1.time_le
  obtain ⟨h', hb, hle⟩ := bestRem_mono hI htri u.time u (mergeStates (tabOf I) X) 0 h rfl hmt (hX u hu).1.ok hmo
    (hX u hu).1.nextOk (Or.inl hmn) (hmle u hu) ⟨Int.le_refl _, fun c _ => by
      rw [hmn, chgTo_none]; have := chgTo_nonneg hI u.next c; omega⟩ hh
  exact ⟨h', hb, by omega⟩

/-- the witness of finding D15: `T = 6`, 3 items, `q[0][1] = 50 > q[0][2] + q[2][1] = 0 + 1` -/
def witI : Psp.Inst :=
  { T := 6, n := 3, q := [[0, 50, 0], [50, 0, 1], [1, 1, 0]], h := [0, 1, 1],
    d := [[0, 0, 0, 1, 0, 1], [0, 0, 0, 1, 0, 0], [0, 0, 0, 0, 1, 1]] }
/-- reached by producing item 2 in period 5 and item 0 in period 4 -/
def witU : St := { time := 4, next := 0, pd := [3, 3, 4] }
/-- reached by producing item 2 in periods 5 and 4 -/
def witW : St := { time := 4, next := 2, pd := [5, 3, -1] }

theorem witI_ok : InstOk witI := ⟨by decide +kernel, by decide +kernel, by decide +kernel⟩
theorem witU_ok : StOk witI witU := by unfold StOk; decide +kernel
theorem witW_ok : StOk witI witW := by unfold StOk; decide +kernel
theorem wit_merge : mergeStates (tabOf witI) [witU, witW] = { time := 4, next := -1, pd := [3, 3, -1] } := by decide +kernel
theorem witU_val : bestRem (tabOf witI) witU = some (-6) := by decide +kernel
theorem witM_val : bestRem (tabOf witI) (mergeStates (tabOf witI) [witU, witW]) = some (-50) := by decide +kernel

/-- **finding D15, kernel-checked**: WITHOUT the triangle inequality `MergeOkStmt` is false — an instance of the format whose
    changeover costs violate the inequality, two states a compilation builds (width 1 merges them), the first worth `-6`,
    the merged state only `-50` -/
theorem mergeOk_fails_without_triangle :
    ∃ I : Psp.Inst, InstOk I ∧ triangleB (tabOf I) = false ∧
      ¬ (∀ (X : List St) (u : St) (h : Int), u ∈ X → (∀ w ∈ X, StOk I w ∧ w.time = u.time) → bestRem (tabOf I) u = some h →
          ∃ h', bestRem (tabOf I) (mergeStates (tabOf I) X) = some h' ∧ h ≤ h') := by
  refine ⟨witI, witI_ok, by decide +kernel, ?_⟩
  intro hall
  obtain ⟨h', hb, hle⟩ := hall [witU, witW] witU (-6) List.mem_cons_self
    (by intro w hw
        rcases List.mem_cons.mp hw with rfl | hw
        · exact ⟨witU_ok, rfl⟩
        · rcases List.mem_cons.mp hw with rfl | hw
          · exact ⟨witW_ok, rfl⟩
          · cases hw) witU_val
  rw [witM_val] at hb
  cases hb
  omega

theorem wit_reached :
    (2 : Int) ∈ domain (tabOf witI) 5 (initSt (tabOf witI)) ∧
    (0 : Int) ∈ domain (tabOf witI) 4 (trans (tabOf witI) (initSt (tabOf witI)) ⟨5, 2⟩) ∧
    trans (tabOf witI) (trans (tabOf witI) (initSt (tabOf witI)) ⟨5, 2⟩) ⟨4, 0⟩ = witU ∧
    (2 : Int) ∈ domain (tabOf witI) 4 (trans (tabOf witI) (initSt (tabOf witI)) ⟨5, 2⟩) ∧
    trans (tabOf witI) (trans (tabOf witI) (initSt (tabOf witI)) ⟨5, 2⟩) ⟨4, 2⟩ = witW := by decide +kernel

#print axioms bestRem_mono
#print axioms mergeOk_partial
#print axioms mergeOk_fails_without_triangle

end Ddo.Examples.PspModel
