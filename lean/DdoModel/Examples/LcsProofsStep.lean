import DdoModel.Examples.LcsModel
import DdoModel.Proofs.Icmp
/-! lcs example: the value-to-go `bestRem` of a valid state is the length of a longest common subsequence of the suffixes the
    state points at (`bestRem_spec`), hence it is antitone in the positions (`bestRemAntitone`); the merge operator is sound
    (`mergeOk`), and so is the dominance rule (`dominanceOk`: a verdict of the default `partial_cmp` on the coordinates
    `-position` and the value orders the positions pointwise, the other way round, and the values:
    `dominanceOk_of_antitone`). -/
namespace Ddo.Examples.LcsModel

section
open Ddo Ddo.Examples Ddo.Examples.Util

theorem icompare_cases (a b : Int) :
    (icompare a b = .lt ∧ a < b) ∨ (icompare a b = .eq ∧ a = b) ∨ (icompare a b = .gt ∧ b < a) :=
  (icmp_cases a b).imp And.symm (Or.imp And.symm And.symm)

def PwLe (as bs : List Int) : Prop := ∀ (i : Nat) (x y : Int), as[i]? = some x → bs[i]? = some y → x ≤ y

theorem pwLe_nil_left (bs : List Int) : PwLe [] bs := by
  intro i x y h; simp at h
theorem pwLe_nil_right (as : List Int) : PwLe as [] := by
  intro i x y _ h; simp at h
theorem pwLe_cons {a b : Int} {as bs : List Int} (h : a ≤ b) (ht : PwLe as bs) : PwLe (a :: as) (b :: bs) := by
  intro i x y hx hy
  cases i with
  | zero =>
    simp only [List.getElem?_cons_zero, Option.some.injEq] at hx hy
    omega
  | succ j =>
    simp only [List.getElem?_cons_succ] at hx hy
    exact ht j x y hx hy

/-- the coordinate loop: `lt` and `gt` are absorbing, a final verdict other than `gt` has every coordinate `≤`, a final
    verdict other than `lt` has every coordinate `≥` -/
theorem coordLoop_spec : ∀ (as bs : List Int) (o o' : Ordering), coordLoop o as bs = some o' →
    (o = .lt → o' = .lt) ∧ (o = .gt → o' = .gt) ∧ (o' ≠ .gt → PwLe as bs) ∧ (o' ≠ .lt → PwLe bs as) := by
  intro as
  induction as with
  | nil =>
    intro bs o o' h
    simp only [coordLoop, Option.some.injEq] at h
    subst h
    exact ⟨id, id, fun _ => pwLe_nil_left _, fun _ => pwLe_nil_right _⟩
  | cons a as ih =>
    intro bs o o' h
    cases bs with
    | nil =>
      simp only [coordLoop, Option.some.injEq] at h
      subst h
      exact ⟨id, id, fun _ => pwLe_nil_right _, fun _ => pwLe_nil_left _⟩
    | cons b bs =>
      rcases icompare_cases a b with ⟨hc, hab⟩ | ⟨hc, hab⟩ | ⟨hc, hab⟩ <;> cases o <;>
        simp only [coordLoop, hc, reduceCtorEq] at h <;>
        first
        | (obtain ⟨h1, h2, h3, h4⟩ := ih _ _ _ h
           refine ⟨?_, ?_, ?_, ?_⟩
           · intro ho
             first | exact h1 rfl | cases ho
           · intro ho
             first | exact h2 rfl | cases ho
           · intro ho
             first
             | exact pwLe_cons (by omega) (h3 ho)
             | exact absurd (h2 rfl) ho
           · intro ho
             first
             | exact pwLe_cons (by omega) (h4 ho)
             | exact absurd (h1 rfl) ho)

theorem coordsN_getElem? (n : Nat) (s : St) (i : Nat) (hi : i < n) :
    (domRule.coordsN n s)[i]? = some (- (((s[i]?).getD 0 : Nat) : Int)) := by
  simp [DomRule.coordsN, domRule, hi]

theorem validB_length {J : Inst} {s : St} (h : validB J s = true) : s.length = J.nStrings := by
  simp only [validB, Bool.and_eq_true, beq_iff_eq] at h
  exact h.1

theorem posLe_of_pwLe {a b : St} (hl : a.length = b.length)
    (h : PwLe (domRule.coordsN a.length a) (domRule.coordsN a.length b)) : PosLe b a := by
  refine ⟨hl.symm, ?_⟩
  intro i x y hx hy
  have hi : i < a.length := by
    rcases Nat.lt_or_ge i a.length with h' | h'
    · exact h'
    · have : a[i]? = none := List.getElem?_eq_none (by omega)
      rw [this] at hy; cases hy
  have := h i _ _ (coordsN_getElem? a.length a i hi) (coordsN_getElem? a.length b i hi)
  rw [hx, hy] at this
  simp only [Option.getD_some] at this
  omega

theorem posLe_of_pwGe {a b : St} (hl : a.length = b.length)
    (h : PwLe (domRule.coordsN a.length b) (domRule.coordsN a.length a)) : PosLe a b := by
  rw [hl] at h
  exact posLe_of_pwLe hl.symm h

theorem dominanceOk_of_antitone (hanti : BestRemAntitoneStmt) : DominanceOkStmt := by
  intro k declared lines J hJ a b va vb o ovd ha hb _ hcmp
  have hl : a.length = b.length := by rw [validB_length ha, validB_length hb]
  have hA := hanti k declared lines J hJ
  unfold DomRule.partialCmp at hcmp
  have hdims : domRule.dims a = a.length := rfl
  have huse : domRule.useValue = true := rfl
  rw [hdims, huse] at hcmp
  cases hco : coordLoop .eq (domRule.coordsN a.length a) (domRule.coordsN a.length b) with
  | none => rw [hco] at hcmp; cases hcmp
  | some o1 =>
    rw [hco] at hcmp
    obtain ⟨_, _, h3, h4⟩ := coordLoop_spec _ _ _ _ hco
    -- the two facts the verdicts rest on
    have hlt : o1 ≠ .gt → va ≤ vb → (bestRem J a).addI va ≤ (bestRem J b).addI vb := fun ho hv =>
      EMax.addI_mono (hA a b ha hb (posLe_of_pwLe hl (h3 ho))) hv
    have hgt : o1 ≠ .lt → vb ≤ va → (bestRem J b).addI vb ≤ (bestRem J a).addI va := fun ho hv =>
      EMax.addI_mono (hA b a hb ha (posLe_of_pwGe hl (h4 ho))) hv
    unfold domOkAt
    rcases icompare_cases va vb with ⟨hc, hv⟩ | ⟨hc, hv⟩ | ⟨hc, hv⟩ <;> cases o1 <;>
      simp only [valueStep, hc, if_true, Option.some.injEq, Prod.mk.injEq, reduceCtorEq] at hcmp <;>
      first
      | (obtain ⟨rfl, _⟩ := hcmp
         simp only [decide_eq_true_eq, Bool.and_eq_true]
         first
         | exact hlt (by simp) (by omega)
         | exact hgt (by simp) (by omega)
         | exact ⟨hlt (by simp) (by omega), hgt (by simp) (by omega)⟩)

#print axioms dominanceOk_of_antitone
end

section
open Ddo Ddo.Examples Ddo.Examples.Util

/-- the index of the first occurrence of `j` (the length when there is none) -/
def firstIdx (j : Nat) : List Nat → Nat
  | [] => 0
  | c :: r => if c = j then 0 else firstIdx j r + 1

theorem firstIdx_le (j : Nat) (l : List Nat) : firstIdx j l ≤ l.length := by
  induction l with
  | nil => simp [firstIdx]
  | cons c r ih => simp only [firstIdx]; split <;> simp <;> omega

theorem firstIdx_lt {j : Nat} {l : List Nat} (h : j ∈ l) : firstIdx j l < l.length := by
  induction l with
  | nil => cases h
  | cons c r ih =>
    simp only [firstIdx]
    split
    · simp
    · next hc =>
      have : j ∈ r := by
        rcases List.mem_cons.mp h with h | h
        · exact absurd h.symm hc
        · exact h
      have := ih this
      simp; omega

theorem sublist_after_first {j : Nat} {c l : List Nat} (h : (j :: c).Sublist l) :
    c.Sublist (l.drop (firstIdx j l + 1)) := by
  induction l with
  | nil => cases h
  | cons x r ih =>
    simp only [firstIdx]
    split
    · next hx =>
      subst hx
      simp only [Nat.zero_add, List.drop_succ_cons, List.drop_zero]
      rcases List.sublist_cons_iff.mp h with h | ⟨r', hr', h⟩
      · exact (List.sublist_cons_self _ _).trans h
      · cases hr'; exact h
    · next hx =>
      simp only [List.drop_succ_cons]
      rcases List.sublist_cons_iff.mp h with h | ⟨r', hr', h⟩
      · exact ih h
      · cases hr'; exact absurd rfl hx

theorem cons_sublist_of_first {j : Nat} {c l : List Nat} (hj : j ∈ l) (h : c.Sublist (l.drop (firstIdx j l + 1))) :
    (j :: c).Sublist l := by
  induction l with
  | nil => cases hj
  | cons x r ih =>
    simp only [firstIdx] at h
    split at h
    · next hx =>
      subst hx
      simp only [Nat.zero_add, List.drop_succ_cons, List.drop_zero] at h
      exact List.cons_sublist_cons.mpr h
    · next hx =>
      simp only [List.drop_succ_cons] at h
      have : j ∈ r := by
        rcases List.mem_cons.mp hj with h | h
        · exact absurd h.symm hx
        · exact h
      exact (ih this h).cons _

theorem remFrom_head (j : Nat) (w : List Nat) : (remFrom j w).headD 0 = (w.count j : Int) := by
  induction w with
  | nil => simp [remFrom]
  | cons c r ih =>
    simp only [remFrom, List.headD_cons, ih, List.count_cons]
    by_cases h : c = j <;> simp [h]

theorem remFrom_getElem (j : Nat) : ∀ (w : List Nat) (p : Nat), p ≤ w.length →
    (remFrom j w)[p]? = some (((w.drop p).count j : Nat) : Int) := by
  intro w
  induction w with
  | nil => intro p hp; simp at hp; subst hp; simp [remFrom]
  | cons c r ih =>
    intro p hp
    cases p with
    | zero =>
      have := remFrom_head j (c :: r)
      cases hr : remFrom j (c :: r) with
      | nil => simp [remFrom] at hr
      | cons a t => rw [hr] at this; simp at this; simp [this]
    | succ p =>
      simp only [remFrom, List.getElem?_cons_succ, List.drop_succ_cons]
      exact ih p (by simpa using hp)

theorem nextFrom_head (j : Nat) : ∀ (w : List Nat) (i : Nat), (nextFrom j i w).headD 0 = i + firstIdx j w := by
  intro w
  induction w with
  | nil => intro i; simp [nextFrom, firstIdx]
  | cons c r ih =>
    intro i
    simp only [nextFrom, List.headD_cons, firstIdx, ih]
    by_cases h : c = j <;> simp [h]; omega

theorem nextFrom_getElem (j : Nat) : ∀ (w : List Nat) (i p : Nat), p ≤ w.length →
    (nextFrom j i w)[p]? = some (i + p + firstIdx j (w.drop p)) := by
  intro w
  induction w with
  | nil => intro i p hp; simp at hp; subst hp; simp [nextFrom, firstIdx]
  | cons c r ih =>
    intro i p hp
    cases p with
    | zero =>
      have := nextFrom_head j (c :: r) i
      cases hr : nextFrom j i (c :: r) with
      | nil => simp [nextFrom] at hr
      | cons a t => rw [hr] at this; simp at this; simp [this]
    | succ p =>
      simp only [nextFrom, List.getElem?_cons_succ, List.drop_succ_cons]
      rw [ih (i + 1) p (by simpa using hp)]
      congr 1; omega

/-- the `Lcs` value `J` is the one the reader builds for the strings `ws` -/
structure Built (J : Inst) (ws : List (List Nat)) : Prop where
  ne : ws ≠ []
  nStrings : J.nStrings = ws.length
  len : J.len = ws.map (·.length)
  next : J.next = ws.map (fun s => (List.range J.nChars).map (fun j => nextFrom j 0 s))
  rem : J.rem = ws.map (fun s => (List.range J.nChars).map (fun j => remFrom j s))
  tables : J.tables = pairTables ws

theorem built_of_instOk {k declared : Nat} {lines : List (List Int)} {J : Inst} (h : InstOk k declared lines J) :
    Built J (J.strings.take J.nStrings) := by
  obtain ⟨_, h⟩ := h
  unfold readInst at h
  split at h
  · cases h
  · simp only at h
    split at h
    · cases h
    · split at h
      · cases h
      · next h1 h2 =>
        cases h
        refine ⟨?_, ?_, rfl, rfl, rfl, rfl⟩
        · intro h0
          have := congrArg List.length h0
          simp only [List.length_take, List.length_nil] at this
          omega
        · simp only [List.length_take]; omega

def str (ws : List (List Nat)) (i : Nat) : List Nat := (ws[i]?).getD []
def pos (s : St) (i : Nat) : Nat := (s[i]?).getD 0
def suf (ws : List (List Nat)) (s : St) (i : Nat) : List Nat := (str ws i).drop (pos s i)

def Valid (ws : List (List Nat)) (s : St) : Prop := s.length = ws.length ∧ ∀ i, i < ws.length → pos s i ≤ (str ws i).length

def CS (ws : List (List Nat)) (s : St) (c : List Nat) : Prop := ∀ i, i < ws.length → c.Sublist (suf ws s i)

theorem mapM_total {α β : Type} (f : α → Option β) (g : α → β) (l : List α) (h : ∀ x ∈ l, f x = some (g x)) :
    l.mapM f = some (l.map g) := EMax.mapM_total f g l h

theorem zip_filterMap_eq (g : Nat → Bool) : ∀ l : List Nat,
    (l.zip (l.map g)).filterMap (fun (c, b) => if b then some (c : Int) else none) = (l.filter g).map (fun c : Nat => (c : Int)) := by
  intro l
  induction l with
  | nil => rfl
  | cons a t ih =>
    simp only [List.map_cons, List.zip_cons_cons, List.filterMap_cons, List.filter_cons]
    cases g a <;> simp [ih]

section
variable {J : Inst} {ws : List (List Nat)} (hB : Built J ws)
include hB

theorem valid_of_validB {s : St} (h : validB J s = true) : Valid ws s := by
  simp only [validB, Bool.and_eq_true, beq_iff_eq, List.all_eq_true, decide_eq_true_eq] at h
  obtain ⟨h1, h2⟩ := h
  refine ⟨by rw [h1, hB.nStrings], ?_⟩
  intro i hi
  have hs : i < s.length := by rw [h1, hB.nStrings]; exact hi
  have hz : (s.zip J.len)[i]? = some (s[i], (ws[i]).length) := by
    rw [List.getElem?_zip_eq_some]
    simp [hB.len, hi, hs]
  have := h2 _ (List.mem_of_getElem? hz)
  simp only at this
  simpa [pos, str, hs, hi] using this

theorem remAt_eq {i c p : Nat} (hi : i < ws.length) (hc : c < J.nChars) (hp : p ≤ (str ws i).length) :
    remAt J i c p = some ((((str ws i).drop p).count c : Nat) : Int) := by
  simp only [remAt, hB.rem, List.getElem?_map, List.getElem?_eq_getElem hi, Option.map_some, Option.bind_eq_bind,
    Option.bind_some, List.getElem?_range hc]
  simp only [str, List.getElem?_eq_getElem hi, Option.getD_some] at hp ⊢
  exact remFrom_getElem c _ p hp

theorem nextAt_eq {i c p : Nat} (hi : i < ws.length) (hc : c < J.nChars) (hp : p ≤ (str ws i).length) :
    nextAt J i c p = some (p + firstIdx c ((str ws i).drop p)) := by
  simp only [nextAt, hB.next, List.getElem?_map, List.getElem?_eq_getElem hi, Option.map_some, Option.bind_eq_bind,
    Option.bind_some, List.getElem?_range hc]
  simp only [str, List.getElem?_eq_getElem hi, Option.getD_some] at hp ⊢
  rw [nextFrom_getElem c _ 0 p hp]; simp

def common (ws : List (List Nat)) (s : St) (c : Nat) : Bool := (List.range ws.length).all fun i => decide (c ∈ suf ws s i)

def chars (J : Inst) (ws : List (List Nat)) (s : St) : List Int :=
  ((List.range J.nChars).filter (common ws s)).map (fun c : Nat => (c : Int))

def step (ws : List (List Nat)) (s : St) (c : Nat) : St :=
  (List.range ws.length).map fun i => pos s i + firstIdx c (suf ws s i) + 1

omit hB in
theorem getElem?_of_valid {s : St} (hV : Valid ws s) {i : Nat} (hi : i < ws.length) : s[i]? = some (pos s i) := by
  have : i < s.length := by rw [hV.1]; exact hi
  simp [pos, this]

theorem charValid?_eq {s : St} (hV : Valid ws s) {c : Nat} (hc : c < J.nChars) : ∀ l : List Nat, (∀ i ∈ l, i < ws.length) →
    charValid? J s c l = some (l.all fun i => decide (c ∈ suf ws s i)) := by
  intro l
  induction l with
  | nil => intro _; rfl
  | cons i r ih =>
    intro hl
    have hi : i < ws.length := hl i List.mem_cons_self
    unfold charValid?
    simp only [getElem?_of_valid hV hi, remAt_eq hB hi hc (hV.2 i hi), Option.bind_eq_bind, Option.bind_some]
    rw [ih (fun j hj => hl j (List.mem_cons_of_mem _ hj))]
    simp only [List.all_cons]
    by_cases hm : c ∈ suf ws s i
    · have : List.count c (List.drop (pos s i) (str ws i)) ≠ 0 := by
        have := List.count_pos_iff.mpr hm
        simp only [suf] at this
        omega
      simp [this, hm]
    · have : List.count c (List.drop (pos s i) (str ws i)) = 0 := by
        have := List.count_eq_zero.mpr hm
        simpa only [suf] using this
      simp [this, hm]

theorem domain_eq {s : St} (hV : Valid ws s) :
    domain J s = if (chars J ws s).isEmpty then [-1] else chars J ws s := by
  unfold domain domain?
  rw [mapM_total _ (common ws s)]
  · simp only [Option.bind_eq_bind, Option.bind_some, zip_filterMap_eq]
    rfl
  · intro c hc
    rw [hB.nStrings]
    exact charValid?_eq hB hV (List.mem_range.mp hc) _ (fun i hi => List.mem_range.mp hi)

theorem trans_char {s : St} (hV : Valid ws s) {c : Nat} (hc : c < J.nChars) (x : Nat) :
    trans J s ⟨x, (c : Int)⟩ = step ws s c := by
  unfold trans trans?
  have h1 : ¬ ((c : Int) = -1) := by omega
  have h2 : ¬ ((c : Int) < 0) := by omega
  simp only [h1, h2, if_false]
  rw [mapM_total _ (fun i => pos s i + firstIdx c (suf ws s i) + 1)]
  · simp [step, hB.nStrings]
  · intro i hi
    have hi : i < ws.length := by rw [← hB.nStrings]; exact List.mem_range.mp hi
    simp only [getElem?_of_valid hV hi, Int.toNat_natCast, nextAt_eq hB hi hc (hV.2 i hi), Option.bind_eq_bind,
      Option.bind_some]
    rfl

omit hB in
theorem trans_end (s : St) (x : Nat) : trans J s ⟨x, -1⟩ = J.len := by
  simp [trans, trans?]

omit hB in
theorem common_iff {s : St} {c : Nat} : common ws s c = true ↔ ∀ i, i < ws.length → c ∈ suf ws s i := by
  simp [common]

omit hB in
theorem mem_chars {s : St} {v : Int} : v ∈ chars J ws s ↔ ∃ c : Nat, c < J.nChars ∧ common ws s c = true ∧ v = (c : Int) := by
  simp only [chars, List.mem_map, List.mem_filter, List.mem_range]
  constructor
  · rintro ⟨c, ⟨h1, h2⟩, rfl⟩; exact ⟨c, h1, h2, rfl⟩
  · rintro ⟨c, h1, h2, rfl⟩; exact ⟨c, ⟨h1, h2⟩, rfl⟩

omit hB in
theorem pos_step {s : St} {c i : Nat} (hi : i < ws.length) :
    pos (step ws s c) i = pos s i + firstIdx c (suf ws s i) + 1 := by
  simp [pos, step, hi]

omit hB in
theorem suf_step {s : St} {c i : Nat} (hi : i < ws.length) :
    suf ws (step ws s c) i = (suf ws s i).drop (firstIdx c (suf ws s i) + 1) := by
  simp only [suf, pos_step hi, List.drop_drop]
  congr 1

omit hB in
theorem valid_step {s : St} (hV : Valid ws s) {c : Nat} (hc : common ws s c = true) : Valid ws (step ws s c) := by
  refine ⟨by simp [step], ?_⟩
  intro i hi
  rw [pos_step hi]
  have := firstIdx_lt (common_iff.mp hc i hi)
  have h2 := hV.2 i hi
  simp only [suf, List.length_drop] at this ⊢
  omega

theorem nbVars_eq : nbVars J = (str ws 0).length := by
  have : 0 < ws.length := List.length_pos_iff.mpr hB.ne
  simp [nbVars, hB.len, str, List.headD_eq_head?_getD, List.head?_eq_getElem?, this]

omit hB in
theorem headD_eq_pos (s : St) : s.headD 0 = pos s 0 := by
  simp [pos, List.headD_eq_head?_getD, List.head?_eq_getElem?]

omit hB in
theorem bestRemF_len (fuel : Nat) : bestRemF J fuel J.len = some 0 := by
  cases fuel with
  | zero => rfl
  | succ n => simp [bestRemF, nbVars]

end

def IsLcs (J : Inst) (ws : List (List Nat)) (s : St) (c : List Nat) : Prop :=
  CS ws s c ∧ (∀ x ∈ c, x < J.nChars) ∧ ∀ c' : List Nat, (∀ x ∈ c', x < J.nChars) → CS ws s c' → c'.length ≤ c.length

section
variable {J : Inst} {ws : List (List Nat)} (hB : Built J ws)
include hB

omit hB in
theorem common_of_cs {s : St} {x : Nat} {t : List Nat} (h : CS ws s (x :: t)) : common ws s x = true :=
  common_iff.mpr fun i hi => (h i hi).subset List.mem_cons_self

omit hB in
theorem cs_step {s : St} {x : Nat} {t : List Nat} (h : CS ws s (x :: t)) : CS ws (step ws s x) t := by
  intro i hi
  rw [suf_step hi]
  exact sublist_after_first (h i hi)

theorem bestRemF_spec : ∀ (fuel : Nat) (s : St), Valid ws s → (str ws 0).length + 1 - pos s 0 ≤ fuel →
    ∃ c : List Nat, bestRemF J fuel s = some (c.length : Int) ∧ IsLcs J ws s c := by
  have h0 : 0 < ws.length := List.length_pos_iff.mpr hB.ne
  intro fuel
  induction fuel with
  | zero => intro s hV hf; have := hV.2 0 h0; omega
  | succ n ih =>
    intro s hV hf
    simp only [bestRemF]
    rw [headD_eq_pos, nbVars_eq hB]
    by_cases hend : pos s 0 ≥ (str ws 0).length
    · rw [if_pos hend]
      refine ⟨[], rfl, fun i _ => List.nil_sublist _, (fun x hx => by cases hx), ?_⟩
      intro c' _ hcs
      have := hcs 0 h0
      have he : suf ws s 0 = [] := by simp [suf]; omega
      rw [he] at this
      simp [List.sublist_nil.mp this]
    · rw [if_neg hend, domain_eq hB hV]
      by_cases hemp : (chars J ws s).isEmpty = true
      · rw [if_pos hemp]
        simp only [List.foldl_cons, List.foldl_nil, trans_end, bestRemF_len, cost]
        refine ⟨[], by simp [EInt.max, EInt.addI], fun i _ => List.nil_sublist _, (fun x hx => by cases hx), ?_⟩
        intro c' hc' hcs
        cases c' with
        | nil => simp
        | cons x t =>
          have : (x : Int) ∈ chars J ws s := mem_chars.mpr ⟨x, hc' x List.mem_cons_self, common_of_cs hcs, rfl⟩
          rw [List.isEmpty_iff.mp hemp] at this
          cases this
      · rw [if_neg hemp]
        have hf' : ∀ c : Nat, c < J.nChars → common ws s c = true → ∃ cc : List Nat,
            (bestRemF J n (trans J s ⟨pos s 0, (c : Int)⟩)).addI (cost (c : Int)) = some ((cc.length : Int) + 1) ∧
            IsLcs J ws (step ws s c) cc := by
          intro c hc hcm
          rw [trans_char hB hV hc]
          obtain ⟨cc, h1, h2⟩ := ih (step ws s c) (valid_step hV hcm) (by rw [pos_step h0]; omega)
          refine ⟨cc, ?_, h2⟩
          have : ¬ ((c : Int) = -1) := by omega
          simp [h1, EInt.addI, cost, this]
        obtain ⟨_, hall, hatt⟩ := EMax.foldl_max_spec
          (fun v => (bestRemF J n (trans J s ⟨pos s 0, v⟩)).addI (cost v)) (chars J ws s) none
        generalize List.foldl (fun acc v => EInt.max acc ((bestRemF J n (trans J s ⟨pos s 0, v⟩)).addI (cost v))) none
          (chars J ws s) = r at hall hatt ⊢
        have hne : chars J ws s ≠ [] := fun h => hemp (by simp [h])
        obtain ⟨v0, hv0⟩ := List.exists_mem_of_ne_nil _ hne
        obtain ⟨c0, hc0, hcm0, rfl⟩ := mem_chars.mp hv0
        obtain ⟨cc0, hcc0, _⟩ := hf' c0 hc0 hcm0
        have hr0 := hall _ hv0
        simp only [hcc0] at hr0
        rcases hatt with hr | ⟨v1, hv1, hr⟩
        · rw [hr] at hr0; exact absurd hr0 (by simp)
        · obtain ⟨c1, hc1, hcm1, rfl⟩ := mem_chars.mp hv1
          obtain ⟨cc1, hcc1, hl1, hl2, hl3⟩ := hf' c1 hc1 hcm1
          simp only [hcc1] at hr
          refine ⟨c1 :: cc1, by rw [hr]; simp, ?_, ?_, ?_⟩
          · intro i hi
            refine cons_sublist_of_first (common_iff.mp hcm1 i hi) ?_
            rw [← suf_step hi]
            exact hl1 i hi
          · intro x hx
            rcases List.mem_cons.mp hx with rfl | hx
            · exact hc1
            · exact hl2 x hx
          · intro c' hc' hcs
            cases c' with
            | nil => simp
            | cons x t =>
              have hx : x < J.nChars := hc' x List.mem_cons_self
              have hcm : common ws s x = true := common_of_cs hcs
              obtain ⟨ccx, hccx, _, _, hx3⟩ := hf' x hx hcm
              have h1 := hx3 t (fun y hy => hc' y (List.mem_cons_of_mem _ hy)) (cs_step hcs)
              have h2 := hall _ (mem_chars.mpr ⟨x, hx, hcm, rfl⟩)
              simp only [hccx, hr] at h2
              have h2 : (ccx.length : Int) + 1 ≤ (cc1.length : Int) + 1 := h2
              simp only [List.length_cons]
              omega

/-- **the value-to-go of a valid state is the length of a longest common subsequence of the suffixes it points at** -/
theorem bestRem_spec {s : St} (hV : Valid ws s) : ∃ c : List Nat, bestRem J s = some (c.length : Int) ∧ IsLcs J ws s c := by
  unfold bestRem
  rw [headD_eq_pos, nbVars_eq hB]
  exact bestRemF_spec hB _ s hV (Nat.le_refl _)

theorem lcs_of_bestRem {s : St} (hV : Valid ws s) {h : Int} (hh : bestRem J s = some h) :
    ∃ c : List Nat, h = (c.length : Int) ∧ IsLcs J ws s c := by
  obtain ⟨c, hc, hl⟩ := bestRem_spec hB hV
  exact ⟨c, Option.some.inj (hh.symm.trans hc), hl⟩

end

theorem antitone_valid {J : Inst} {ws : List (List Nat)} (hB : Built J ws) {u m : St} (hu : Valid ws u) (hm : Valid ws m)
    (hle : ∀ i, i < ws.length → pos m i ≤ pos u i) : bestRem J u ≤ bestRem J m := by
  obtain ⟨cu, hcu, hu1, hu2, _⟩ := bestRem_spec hB hu
  obtain ⟨cm, hcm, _, _, hm3⟩ := bestRem_spec hB hm
  rw [hcu, hcm]
  have : cu.length ≤ cm.length := hm3 cu hu2 (fun i hi => (hu1 i hi).trans (List.drop_sublist_drop_left _ (hle i hi)))
  show (cu.length : Int) ≤ (cm.length : Int)
  omega

theorem posLe_pointwise {ws : List (List Nat)} {u m : St} (hu : Valid ws u) (hm : Valid ws m) (h : PosLe m u) :
    ∀ i, i < ws.length → pos m i ≤ pos u i := by
  intro i hi
  exact h.2 i _ _ (getElem?_of_valid hm hi) (getElem?_of_valid hu hi)

theorem bestRemAntitone : BestRemAntitoneStmt := by
  intro k declared lines J hJ u m hu hm hle
  have hB := built_of_instOk hJ
  exact antitone_valid hB (valid_of_validB hB hu) (valid_of_validB hB hm)
    (posLe_pointwise (valid_of_validB hB hu) (valid_of_validB hB hm) hle)

theorem merge_valid {J : Inst} {ws : List (List Nat)} (hB : Built J ws) {X : List St} {m : St}
    (h : merge? J X = some m) : Valid ws m ∧ ∀ u ∈ X, ∀ i, i < ws.length → pos m i ≤ pos u i := by
  have hlen : J.nStrings ≤ J.len.length := by rw [hB.len, hB.nStrings]; simp
  have hl : m.length = ws.length := by
    rw [← hB.nStrings]
    exact (foldl_merge_spec J X J.len m hlen (by rw [← merge?_eq]; exact h)).2.1 (by rw [hB.len, hB.nStrings]; simp)
  refine ⟨⟨hl, ?_⟩, ?_⟩
  · intro i hi
    obtain ⟨a, l, h1, h2, h3⟩ := merge_le_len J hlen h (i := i) (by rw [hB.nStrings]; exact hi)
    have : l = (str ws i).length := by
      simp [hB.len, hi] at h2
      simp [str, hi, h2]
    simp only [pos, h1, Option.getD_some]
    omega
  · intro u hu i hi
    obtain ⟨a, b, h1, h2, h3⟩ := merge_le J hlen h hu (i := i) (by rw [hB.nStrings]; exact hi)
    simp only [pos, h1, h2, Option.getD_some]
    exact h3

theorem mergeOk : MergeOkStmt := by
  intro k declared lines J hJ X u m src d c hX hu hm
  have hB := built_of_instOk hJ
  obtain ⟨hV, hle⟩ := merge_valid hB hm
  exact mergeOkAt_of_le J c (antitone_valid hB (valid_of_validB hB (hX u hu)) hV (hle u hu))

theorem dominanceOk : DominanceOkStmt := dominanceOk_of_antitone bestRemAntitone

section
variable {J : Inst} {ws : List (List Nat)} (hB : Built J ws)
include hB

theorem valid_len : Valid ws J.len := by
  refine ⟨by rw [hB.len]; simp, ?_⟩
  intro i hi
  simp [pos, str, hB.len, hi]

theorem valid_init : Valid ws (initSt J) := by
  refine ⟨by simp [initSt, hB.nStrings], ?_⟩
  intro i hi
  simp [pos, initSt, hB.nStrings, hi]

end
end

end Ddo.Examples.LcsModel
