import DdoModel.Proofs.WfRelSteps
import DdoModel.Examples.Knapsack
import DdoModel.Examples.KnapsackDp
import DdoModel.Props.C06
import DdoModel.Props.C16
/-! knapsack example (model: `KnapsackDp.lean`): everything in one file.  The potential is the specification's own recursion
    (`Knapsack.best` on the items `order[k..]`), so there is no separate value-to-go and exactness at the root is `H_root`
    (`best` does not depend on the order of the items).  Layer validity: the depth stored in the state is the depth of the
    layer.  `order` (computed by `Knapsack::new` from `f64` ratios) is a parameter; what is needed of it is stated as hypotheses
    (`Perm`, `Sorted`).  The Dantzig bound is admissible for items by non-increasing ratio with positive weights (`dantzig_lip`:
    it grows by at most `p` when the capacity grows by `w`, if `p / w` dominates every ratio). -/
namespace Ddo.Examples.KnapsackModel
open Ddo Ddo.Examples

variable (I : Inst)

theorem fold_max (r : List St) (s : St) :
    (r.foldl (fun best t => if best.2 ≤ t.2 then t else best) s) ∈ s :: r ∧
    ∀ u ∈ s :: r, u.2 ≤ (r.foldl (fun best t => if best.2 ≤ t.2 then t else best) s).2 :=
  SpecUtil.foldl_sel_list (R := fun a b : St => a.2 ≤ b.2) (fun _ => Nat.le_refl _) Nat.le_trans
    (fun a b => by split <;> omega) (fun a b => by split <;> omega) (fun a b => by split <;> simp) r s

theorem merge_mem {X : List St} (hX : X ≠ []) : mergeStates X ∈ X := by
  cases X with
  | nil => exact absurd rfl hX
  | cons s r => exact (fold_max r s).1

theorem merge_max {X : List St} : ∀ u ∈ X, u.2 ≤ (mergeStates X).2 := by
  cases X with
  | nil => intro u hu; cases hu
  | cons s r => exact (fold_max r s).2

theorem best_nil (c : Nat) : Knapsack.best c [] = 0 := by simp [Knapsack.best]

theorem best_cons (c : Nat) (p : Int) (w : Nat) (rest : List (Int × Nat)) :
    Knapsack.best c ((p, w) :: rest) =
      if w ≤ c then max (Knapsack.best c rest) (p + Knapsack.best (c - w) rest) else Knapsack.best c rest := by
  simp [Knapsack.best]

theorem best_mono (items : List (Int × Nat)) : ∀ {c c' : Nat}, c ≤ c' → Knapsack.best c items ≤ Knapsack.best c' items := by
  intro c c' h
  obtain ⟨⟨s, hs, hp⟩, _⟩ := C16.knapsack_best_isOpt c items
  exact hp ▸ (C16.knapsack_best_isOpt c' items).2 s ⟨hs.1, Nat.le_trans hs.2 h⟩

theorem itemsFrom_cons {k x : Nat} (h : I.order[k]? = some x) :
    I.itemsFrom k = (I.p x, I.w x) :: I.itemsFrom (k + 1) := by
  unfold Inst.itemsFrom
  obtain ⟨hlt, hx⟩ := List.getElem?_eq_some_iff.mp h
  rw [List.drop_eq_getElem_cons hlt, List.map_cons, hx]

theorem itemsFrom_nil {k : Nat} (h : I.order[k]? = none) : I.itemsFrom k = [] := by
  unfold Inst.itemsFrom
  rw [List.drop_eq_nil_of_le (List.getElem?_eq_none_iff.mp h)]; rfl

def RubAdmissible : Prop := ∀ k c, Knapsack.best c (I.itemsFrom k) ≤ dantzig (I.itemsFrom k) c

theorem attV (k : Nat) (L : List St) (x : Nat) (s : St) (h : Int)
    (hnv : (problem I).nextVar k L = some x) (hV : V k s) (hH : H I k s = some h) :
    ∃ d ∈ (problem I).domain x s, ∃ h', H I (k + 1) ((problem I).trans s ⟨x, d⟩) = some h' ∧
      h ≤ (problem I).cost s ((problem I).trans s ⟨x, d⟩) ⟨x, d⟩ + h' := by
  obtain ⟨dp, c⟩ := s
  simp only [V] at hV
  subst hV
  have hx : I.order[dp]? = some x := hnv
  simp only [H, if_true, Option.some.injEq] at hH
  rw [itemsFrom_cons I hx, best_cons] at hH
  simp only [problem, H]
  by_cases hw : I.w x ≤ c
  · rw [if_pos hw] at hH ⊢
    by_cases ht : Knapsack.best c (I.itemsFrom (dp + 1)) ≤ I.p x + Knapsack.best (c - I.w x) (I.itemsFrom (dp + 1))
    · exact ⟨1, by simp, Knapsack.best (c - I.w x) (I.itemsFrom (dp + 1)), by simp, by simp; omega⟩
    · exact ⟨0, by simp, Knapsack.best c (I.itemsFrom (dp + 1)), by simp, by simp; omega⟩
  · rw [if_neg hw] at hH ⊢
    exact ⟨0, by simp, Knapsack.best c (I.itemsFrom (dp + 1)), by simp, by simp; omega⟩

theorem vstepV (k : Nat) (x : Nat) (s : St) (d : Int) (hV : V k s) : V (k + 1) ((problem I).trans s ⟨x, d⟩) := by
  simp only [V, problem] at *; omega

theorem wfRel (hadm : RubAdmissible I) : WfRel (problem I) (relaxation I) (H I) V := by
  refine .of_steps (fun k L x s d _ hV _ => vstepV I k x s d hV) (fun k X hX hXV => hXV _ (merge_mem hX))
    (fun k L x s h hnv hV hH => attV I k L x s h hnv hV hH) ?_ ?_ ?_
  · intro k L s h hnv _ hV hH
    have hx : I.order[k]? = none := hnv
    simp only [V] at hV
    simp only [H, hV, if_true, Option.some.injEq] at hH
    rw [itemsFrom_nil I hx, best_nil] at hH
    omega
  · intro k s h hV hH
    simp only [V] at hV
    simp only [H, hV, if_true, Option.some.injEq] at hH
    simp only [relaxation, hV]
    rw [← hH]; exact hadm k s.2
  · intro k X u src d c h hu hXV hH
    have hX : X ≠ [] := List.ne_nil_of_mem hu
    have hm : V k (mergeStates X) := hXV _ (merge_mem hX)
    have hVu : V k u := hXV u hu
    simp only [V] at hm hVu
    simp only [H, hVu, if_true, Option.some.injEq] at hH
    refine ⟨Knapsack.best (mergeStates X).2 (I.itemsFrom k), by simp [H, relaxation, hm], ?_⟩
    have := best_mono (I.itemsFrom k) (merge_max u hu)
    simp only [relaxation]
    omega

theorem feasible_perm {l l' : List (Int × Nat)} (h : l.Perm l') (c : Nat) (s : List (Int × Nat))
    (hs : C16.KnapsackD.Feasible c l s) :
    ∃ t, C16.KnapsackD.Feasible c l' t ∧ C16.KnapsackD.profit t = C16.KnapsackD.profit s := by
  obtain ⟨t, hts, hsub⟩ := List.exists_perm_sublist hs.1 h
  refine ⟨t, ⟨hsub, ?_⟩, SpecUtil.perm_sum_eq (hts.map _)⟩
  rw [C16.KnapsackD.weight, (hts.map _).sum_nat]
  exact hs.2

theorem best_perm {l l' : List (Int × Nat)} (h : l.Perm l') : ∀ c, Knapsack.best c l = Knapsack.best c l' := fun c =>
  ((SpecUtil.IsMaxOf.transfer (feasible_perm h c) (feasible_perm h.symm c) _).mp (C16.knapsack_best_isOpt c l)).unique
    (C16.knapsack_best_isOpt c l')

theorem items_identity (hlen : I.weight.length = I.profit.length) :
    (List.range I.profit.length).map (fun i => (I.p i, I.w i)) = I.profit.zip I.weight := by
  apply List.ext_getElem
  · simp [hlen]
  · intro i h1 h2
    simp only [List.length_map, List.length_range] at h1
    have hw : i < I.weight.length := by omega
    simp only [List.getElem_map, List.getElem_range, List.getElem_zip, Inst.p, Inst.w,
      List.getElem?_eq_getElem h1, List.getElem?_eq_getElem hw, Option.getD_some]

theorem itemsFrom_zero (hperm : I.order.Perm (List.range I.profit.length)) (hlen : I.weight.length = I.profit.length) :
    (I.itemsFrom 0).Perm (I.profit.zip I.weight) := by
  unfold Inst.itemsFrom
  rw [List.drop_zero, ← items_identity I hlen]
  exact hperm.map _

theorem H_root (hperm : I.order.Perm (List.range I.profit.length)) (hlen : I.weight.length = I.profit.length) :
    H I 0 (0, I.capacity) = some (Knapsack.best I.capacity (I.profit.zip I.weight)) := by
  simp only [H, if_true]
  rw [best_perm (itemsFrom_zero I hperm hlen)]

/-- the ratio `p / w` dominates the ratio of every item of the list (cross-multiplied) -/
def Dom (p : Int) (w : Nat) (items : List (Int × Nat)) : Prop := ∀ it ∈ items, it.1 * (w : Int) ≤ p * (it.2 : Int)

/-- items by non-increasing profit/weight ratio (cross-multiplied: no division) -/
def Sorted (items : List (Int × Nat)) : Prop :=
  items.Pairwise (fun a b => b.1 * (a.2 : Int) ≤ a.1 * (b.2 : Int))

instance (items : List (Int × Nat)) : Decidable (Sorted items) := by unfold Sorted; exact inferInstance

def PosW (items : List (Int × Nat)) : Prop := ∀ it ∈ items, 0 < it.2
def NonnegP (items : List (Int × Nat)) : Prop := ∀ it ∈ items, 0 ≤ it.1

theorem dantzig_nil (c : Nat) : dantzig [] c = 0 := by simp [dantzig]

/-- with a positive weight the test `capacity > 0` of the loop is subsumed by the formula -/
theorem dantzig_cons (p : Int) (w : Nat) (rest : List (Int × Nat)) (c : Nat) (hw : 0 < w) :
    dantzig ((p, w) :: rest) c = if w ≤ c then p + dantzig rest (c - w) else ((c : Int) * p) / (w : Int) := by
  simp only [dantzig]
  by_cases hc : c = 0
  · subst hc
    have : ¬ w ≤ 0 := by omega
    simp [this]
  · simp [hc]

theorem cancel_right {a b w : Int} (hw : 0 < w) (h : a * w ≤ b * w) : a ≤ b := Int.le_of_mul_le_mul_right h hw

theorem dantzig_ratio (p : Int) (w : Nat) (hw : 0 < w) (hp : 0 ≤ p) (items : List (Int × Nat)) (hd : Dom p w items)
    (hpos : PosW items) : ∀ c : Nat, dantzig items c * (w : Int) ≤ (c : Int) * p := by
  induction items with
  | nil =>
    intro c; rw [dantzig_nil]
    have : 0 ≤ (c : Int) * p := Int.mul_nonneg (by omega) hp
    omega
  | cons it rest ih =>
    obtain ⟨q, v⟩ := it
    intro c
    have hv0 : 0 < v := hpos (q, v) List.mem_cons_self
    have hq : q * (w : Int) ≤ p * (v : Int) := hd (q, v) List.mem_cons_self
    have ih' := ih (fun it h => hd it (List.mem_cons_of_mem _ h)) (fun it h => hpos it (List.mem_cons_of_mem _ h))
    rw [dantzig_cons q v rest c hv0]
    by_cases hv : v ≤ c
    · rw [if_pos hv]
      have htake := ih' (c - v)
      have hcv : ((c - v : Nat) : Int) = (c : Int) - (v : Int) := by omega
      rw [hcv] at htake
      grind
    · rw [if_neg hv]
      have hf : (c : Int) * q / (v : Int) * (v : Int) ≤ (c : Int) * q := Int.ediv_mul_le _ (by omega)
      have a := Int.mul_le_mul_of_nonneg_right hf (show (0 : Int) ≤ (w : Int) by omega)
      have b := Int.mul_le_mul_of_nonneg_left hq (show (0 : Int) ≤ (c : Int) by omega)
      apply cancel_right (show (0 : Int) < (v : Int) by omega)
      grind

/-- the Dantzig bound grows by at most `p` when the capacity grows by `w`, if `p / w` dominates every ratio -/
theorem dantzig_lip (p : Int) (w : Nat) (hw : 0 < w) (hp : 0 ≤ p) (items : List (Int × Nat)) (hd : Dom p w items)
    (hpos : PosW items) : ∀ c : Nat, w ≤ c → dantzig items c ≤ dantzig items (c - w) + p := by
  induction items with
  | nil => intro c _; rw [dantzig_nil, dantzig_nil]; omega
  | cons it rest ih =>
    obtain ⟨p1, w1⟩ := it
    intro c hwc
    have hw1 : 0 < w1 := hpos (p1, w1) List.mem_cons_self
    have hq : p1 * (w : Int) ≤ p * (w1 : Int) := hd (p1, w1) List.mem_cons_self
    have hd' : Dom p w rest := fun it h => hd it (List.mem_cons_of_mem _ h)
    have hpos' : PosW rest := fun it h => hpos it (List.mem_cons_of_mem _ h)
    have ih' := ih hd' hpos'
    rw [dantzig_cons p1 w1 rest c hw1, dantzig_cons p1 w1 rest (c - w) hw1]
    have hcw : ((c - w : Nat) : Int) = (c : Int) - (w : Int) := by omega
    by_cases h1 : w1 ≤ c
    · rw [if_pos h1]
      by_cases h2 : w1 ≤ c - w
      · rw [if_pos h2]
        have := ih' (c - w1) (by omega)
        have e : c - w1 - w = c - w - w1 := by omega
        rw [e] at this
        omega
      · rw [if_neg h2]
        -- p1 + D(c - w1) ≤ ⌊(c - w) p1 / w1⌋ + p
        have hB := dantzig_ratio p w hw hp rest hd' hpos' (c - w1)
        have hcw1 : ((c - w1 : Nat) : Int) = (c : Int) - (w1 : Int) := by omega
        rw [hcw1] at hB
        have key : p1 + dantzig rest (c - w1) - p ≤ ((c - w : Nat) : Int) * p1 / (w1 : Int) := by
          rw [Int.le_ediv_iff_mul_le (by omega), hcw]
          apply cancel_right (show (0 : Int) < (w : Int) by omega)
          have a := Int.mul_le_mul_of_nonneg_right hB (show (0 : Int) ≤ (w1 : Int) by omega)
          have b : 0 ≤ (p * (w1 : Int) - p1 * (w : Int)) * ((w : Int) + (w1 : Int) - (c : Int)) :=
            Int.mul_nonneg (by omega) (by omega)
          grind
        omega
    · rw [if_neg h1, if_neg (by omega)]
      have hf : (c : Int) * p1 / (w1 : Int) * (w1 : Int) ≤ (c : Int) * p1 := Int.ediv_mul_le _ (by omega)
      have key : (c : Int) * p1 / (w1 : Int) - p ≤ ((c - w : Nat) : Int) * p1 / (w1 : Int) := by
        rw [Int.le_ediv_iff_mul_le (by omega), hcw]
        grind
      omega

theorem dantzig_adm (items : List (Int × Nat)) (hs : Sorted items) (hpos : PosW items) (hnn : NonnegP items) :
    ∀ c : Nat, Knapsack.best c items ≤ dantzig items c := by
  induction items with
  | nil => intro c; rw [best_nil, dantzig_nil]; exact Int.le_refl _
  | cons it rest ih =>
    obtain ⟨p1, w1⟩ := it
    intro c
    have hw1 : 0 < w1 := hpos (p1, w1) List.mem_cons_self
    have hp1 : 0 ≤ p1 := hnn (p1, w1) List.mem_cons_self
    have hpos' : PosW rest := fun it h => hpos it (List.mem_cons_of_mem _ h)
    obtain ⟨hdom, hs'⟩ := List.pairwise_cons.mp hs
    have hd : Dom p1 w1 rest := fun it h => hdom it h
    have ih' := ih hs' hpos' (fun it h => hnn it (List.mem_cons_of_mem _ h))
    rw [best_cons, dantzig_cons p1 w1 rest c hw1]
    by_cases h1 : w1 ≤ c
    · rw [if_pos h1, if_pos h1]
      have a := ih' c
      have b := ih' (c - w1)
      have l := dantzig_lip p1 w1 hw1 hp1 rest hd hpos' c h1
      omega
    · rw [if_neg h1, if_neg h1]
      rw [Int.le_ediv_iff_mul_le (by omega)]
      exact Int.le_trans (Int.mul_le_mul_of_nonneg_right (ih' c) (by omega))
        (dantzig_ratio p1 w1 hw1 hp1 rest hd hpos' c)

theorem sorted_drop {items : List (Int × Nat)} (h : Sorted items) (k : Nat) : Sorted (items.drop k) :=
  List.Pairwise.sublist (List.drop_sublist k items) h

theorem itemsFrom_eq_drop (k : Nat) : I.itemsFrom k = (I.itemsFrom 0).drop k := by
  unfold Inst.itemsFrom
  rw [List.drop_zero, List.map_drop]

/-- the rough upper bound of the example is admissible when `order` lists the items by non-increasing profit / weight
    ratio (what `Knapsack::new` computes, up to the `f64` rounding of the ratios), weights are positive (with a
    zero-weight item of positive profit the bound is **not** admissible: the loop stops as soon as the capacity is 0)
    and profits are non-negative -/
theorem rubAdmissible (hs : Sorted (I.itemsFrom 0)) (hpos : PosW (I.itemsFrom 0)) (hnn : NonnegP (I.itemsFrom 0)) :
    RubAdmissible I := by
  intro k c
  rw [itemsFrom_eq_drop]
  exact dantzig_adm _ (sorted_drop hs k) (fun it h => hpos it (List.mem_of_mem_drop h))
    (fun it h => hnn it (List.mem_of_mem_drop h)) c

theorem best_le_len (B : Int) (hB0 : 0 ≤ B) (items : List (Int × Nat)) (hb : ∀ it ∈ items, it.1 ≤ B) :
    ∀ c : Nat, Knapsack.best c items ≤ (items.length : Int) * B := by
  induction items with
  | nil => intro c; rw [best_nil]; simp
  | cons it rest ih =>
    obtain ⟨q, v⟩ := it
    intro c
    have hq : q ≤ B := hb (q, v) List.mem_cons_self
    have ih' := ih (fun it h => hb it (List.mem_cons_of_mem _ h))
    have e : (((q, v) :: rest).length : Int) * B = (rest.length : Int) * B + B := by
      rw [List.length_cons]; grind
    rw [best_cons, e]
    have a := ih' c
    have b := ih' (c - v)
    split <;> omega

theorem mem_itemsFrom_zero (hperm : I.order.Perm (List.range I.profit.length)) (hlen : I.weight.length = I.profit.length)
    (it : Int × Nat) (h : it ∈ I.itemsFrom 0) : it.1 ∈ I.profit ∧ it.2 ∈ I.weight := by
  unfold Inst.itemsFrom at h
  rw [List.drop_zero] at h
  obtain ⟨i, hi, rfl⟩ := List.mem_map.mp h
  have hi' : i < I.profit.length := List.mem_range.mp (hperm.mem_iff.mp hi)
  have hw : i < I.weight.length := by omega
  simp only [Inst.p, Inst.w, List.getElem?_eq_getElem hi', List.getElem?_eq_getElem hw, Option.getD_some]
  exact ⟨List.getElem_mem _, List.getElem_mem _⟩

theorem p_bound (B : Int) (hB0 : 0 ≤ B) (hb : ∀ q ∈ I.profit, 0 ≤ q ∧ q ≤ B) (i : Nat) : 0 ≤ I.p i ∧ I.p i ≤ B := by
  unfold Inst.p
  cases h : I.profit[i]? with
  | none => simp; exact hB0
  | some q => simp; exact hb q (List.mem_of_getElem? h)

theorem noClampDom (B : Int) (hB0 : 0 ≤ B) (hb : ∀ q ∈ I.profit, 0 ≤ q ∧ q ≤ B)
    (hsmall : ((I.profit.length : Int) + 2) * B ≤ 4611686018427387904) :
    NoClampDom (problem I) (relaxation I) 0 B where
  nonneg := hB0
  root := by omega
  cost := by
    intro x s d hd
    have hp := p_bound I B hB0 hb x
    simp only [problem] at hd ⊢
    have hd' : d = 1 ∨ d = 0 := by
      split at hd
      · simpa using hd
      · right; simpa using hd
    rcases hd' with rfl | rfl
    · rw [Int.mul_one]; omega
    · rw [Int.mul_zero]; omega
  relax := fun _ _ _ _ _ hc => hc
  small := hsmall

/-- **The shipped knapsack example**: a relaxed compilation of its model from the root reports a best value that is at least the
    true optimum, the exhaustive specification `Knapsack.best capacity (profit.zip weight)`.  `hsorted` (cross-multiplied) is
    needed for the admissibility of the Dantzig bound; profits in `[0, B]` with `(n + 2) · B ≤ 2^62`: no `isize` saturation. -/
theorem knapsack_relaxed_ub {K : Type} [DecidableEq K] (cfg : Cfg St K) (B : Int)
    (cache : Cache St) (store : DomStore St K) (polls : Nat)
    (hP : cfg.P = problem I) (hR : cfg.R = relaxation I)
    (hrs : cfg.root.state = (0, I.capacity)) (hrv : cfg.root.value = 0) (hrd : cfg.root.depth = 0)
    (hrel : cfg.ctype = .relaxed) (hcache : cfg.useCache = false) (hdom : cfg.dom = none) (hW : 1 ≤ cfg.width)
    (hperm : I.order.Perm (List.range I.profit.length)) (hlen : I.weight.length = I.profit.length)
    (hsorted : Sorted (I.itemsFrom 0)) (hposw : ∀ w ∈ I.weight, 0 < w)
    (hb : ∀ q ∈ I.profit, 0 ≤ q ∧ q ≤ B) (hB0 : 0 ≤ B)
    (hsmall : ((I.profit.length : Int) + 2) * B ≤ 4611686018427387904)
    (hlb : InI cfg.lb) (hgt : Knapsack.best I.capacity (I.profit.zip I.weight) > cfg.lb) :
    (compile cfg cache store polls none).1 = .ok →
    ∃ bv, (compile cfg cache store polls none).2.1.bestValue = some bv ∧
      Knapsack.best I.capacity (I.profit.zip I.weight) ≤ bv := by
  have hadm : RubAdmissible I := rubAdmissible I hsorted
    (fun it h => hposw _ (mem_itemsFrom_zero I hperm hlen it h).2)
    (fun it h => (hb _ (mem_itemsFrom_zero I hperm hlen it h).1).1)
  have hO : Knapsack.best I.capacity (I.profit.zip I.weight) ≤ iMax := by
    have h1 := best_le_len B hB0 (I.profit.zip I.weight)
      (fun it h => (hb it.1 (List.of_mem_zip h).1).2) I.capacity
    have h2 : ((I.profit.zip I.weight).length : Int) ≤ (I.profit.length : Int) + 2 := by
      rw [List.length_zip]; omega
    have h3 := Int.mul_le_mul_of_nonneg_right h2 hB0
    simp only [iMax]; omega
  refine C06.relaxed_ub_rel_dom cfg (H I) V B cache store polls hrel hcache hdom hW ?_ ?_ ?_ hlb _ ?_ hgt (Or.inl hO)
  · rw [hP, hR]; exact wfRel I hadm
  · rw [hrd, hrs]; rfl
  · rw [hP, hR, hrv]; exact noClampDom I B hB0 hb hsmall
  · unfold optOf
    rw [hrd, hrs, hrv, H_root I hperm hlen]
    simp [EInt.addI]

/-! non-vacuity: a concrete instance (non-trivial `order`, width 2: merges happen) -/
namespace Demo

/-- 4 items (profit, weight) = (4,4) (6,2) (5,3) (3,3), capacity 7; ratios 1, 3, 5/3, 1: `order = [1, 2, 0, 3]` -/
def inst : Inst := { capacity := 7, profit := [4, 6, 5, 3], weight := [4, 2, 3, 3], order := [1, 2, 0, 3] }

def cfg : Cfg St Unit :=
  { P := problem inst, R := relaxation inst, rank := ⟨fun a b => icmp (a.2 : Int) (b.2 : Int)⟩, dom := none,
    useCache := false, kind := .lel, ctype := .relaxed, width := 2, root := ⟨(0, 7), 0, [], iMax, 0⟩, lb := 0 }

example : ∃ bv, (compile cfg (Cache.init 4) (DomStore.init 4) 0 none).2.1.bestValue = some bv ∧
    Knapsack.best 7 [(4, 4), (6, 2), (5, 3), (3, 3)] ≤ bv :=
  knapsack_relaxed_ub inst cfg 6 (Cache.init 4) (DomStore.init 4) 0 rfl rfl rfl rfl rfl rfl rfl rfl (by decide)
    (by decide) rfl (by decide) (by decide) (by decide) (by decide) (by decide) (by decide) (by decide) (by decide)

end Demo

end Ddo.Examples.KnapsackModel
