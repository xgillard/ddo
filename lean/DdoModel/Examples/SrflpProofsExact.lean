import DdoModel.Examples.SrflpProofsStep
import DdoModel.Examples.TourBase
/-! The DP model of the srflp example is exact on instances of at most 64 departments (`dpExact_partial`,
    `dpExactPrefix_partial`): twice (`root_value()` minus the value of a prefix and the value-to-go of the state reached) is the
    least `Srflp.cost2` over the orders that extend the prefix.  (The model's `trans?` answers `none` for departments `≥ 64` —
    `Set64` —: the statements are not provable for `T.n > 64`.)
    (A) the value-to-go of a good state is the best `runCost` over its completions `VPath` (`run_le_bestRemF`,
        `bestRemF_attained`); on exact states (`maybe = none`) these are the orders of `must_place` (`vpath_exact_iff`);
    (B) along an order of all departments, `root2 - 2 * runCost = cost2` (`cost2_eq_run`). -/
namespace Ddo.Examples.SrflpModel
open Ddo Ddo.Examples Ddo.Examples.Util Ddo.SpecUtil Ddo.C16
variable (T : Tab)

def runCost (T : Tab) : St → List Nat → Int
  | _, [] => 0
  | s, j :: q => cost T s ⟨s.depth, (j : Int)⟩ + runCost T (stepSt T s j) q

theorem mbOf_exact {s : St} (hM : s.maybe = none) : mbOf s = [] := by
  unfold mbOf; rw [hM]; rfl

theorem stepSt_exact {s : St} (hM : s.maybe = none) (i : Nat) : (stepSt T s i).maybe = none := by
  unfold stepSt; simp [hM]

theorem mem_domain_exact {s : St} (hG : Good T s) (hM : s.maybe = none) (v : Int) :
    v ∈ domain T s ↔ ∃ i : Nat, v = (i : Int) ∧ i ∈ s.must := by
  rw [mem_domain T hG, mbOf_exact hM]
  simp

theorem must_length_exact {s : St} (hG : Good T s) (hM : s.maybe = none) : s.must.length = T.n - s.depth := by
  have h1 := hG.must_le
  have h2 := hG.fill
  rw [mbOf_exact hM] at h2
  simp at h2
  omega

/-- a completion of a good state: an order of `n - depth` distinct departments, all of `must_place` and otherwise members of
    `maybe_place` -/
structure VPath (s : St) (q : List Nat) : Prop where
  nodup : q.Nodup
  must : ∀ i ∈ s.must, i ∈ q
  mem : ∀ i ∈ q, i ∈ s.must ∨ i ∈ mbOf s
  len : q.length = T.n - s.depth

theorem vpath_cons {s : St} (hG : Good T s) {i : Nat} {q : List Nat} (h : VPath T s (i :: q)) :
    (i : Int) ∈ domain T s ∧ VPath T (stepSt T s i) q := by
  obtain ⟨hiq, hq'⟩ := List.nodup_cons.mp h.nodup
  have hlen := h.len
  simp only [List.length_cons] at hlen
  constructor
  · refine (mem_domain T hG _).mpr ⟨i, rfl, ?_⟩
    rcases h.mem i List.mem_cons_self with hm | hy
    · exact Or.inl hm
    · refine Or.inr ⟨?_, hy⟩
      have hnm : i ∉ s.must := fun hc => hG.disj i hc hy
      have : s.must.length ≤ q.length := by
        apply List.Nodup.length_le_of_subset (pairwise_lt_nodup hG.must_sorted)
        intro j hj
        rcases List.mem_cons.mp (h.must j hj) with e | e
        · subst e; exact absurd hj hnm
        · exact e
      omega
  · refine ⟨hq', ?_, ?_, ?_⟩
    · intro j hj
      rw [stepSt_must] at hj
      obtain ⟨hj1, hj2⟩ := mem_filter_ne.mp hj
      rcases List.mem_cons.mp (h.must j hj1) with e | e
      · exact absurd e hj2
      · exact e
    · exact fun j hj => (mem_stepSt T).mpr ⟨h.mem j (List.mem_cons_of_mem _ hj), fun e => hiq (e ▸ hj)⟩
    · simp only [stepSt_depth]; omega

theorem vpath_cons_of {s : St} (hG : Good T s) {i : Nat} (hv : (i : Int) ∈ domain T s) {q : List Nat}
    (hq' : VPath T (stepSt T s i) q) : VPath T s (i :: q) := by
  obtain ⟨j, hj, hi⟩ := (mem_domain T hG _).mp hv
  obtain rfl : i = j := by omega
  have hiq : i ∉ q := fun hc => ((mem_stepSt T).mp (hq'.mem i hc)).2 rfl
  refine ⟨List.nodup_cons.mpr ⟨hiq, hq'.nodup⟩, ?_, ?_, ?_⟩
  · intro j hj
    by_cases hji : j = i
    · subst hji; exact List.mem_cons_self
    · exact List.mem_cons_of_mem _ (hq'.must j (by rw [stepSt_must]; exact mem_filter_ne.mpr ⟨hj, hji⟩))
  · intro j hj
    rcases List.mem_cons.mp hj with rfl | hj
    · exact hi.imp id And.right
    · exact ((mem_stepSt T).mp (hq'.mem j hj)).1
  · have := hq'.len
    have := (domain_lt T hG hv).2
    simp only [stepSt_depth] at *
    simp only [List.length_cons]; omega

theorem exists_vpath {s : St} (hG : Good T s) : VPath T s (s.must ++ (mbOf s).take (T.n - s.depth - s.must.length)) := by
  have hml := hG.must_le
  have hfill := hG.fill
  refine ⟨?_, ?_, ?_, ?_⟩
  · rw [List.nodup_append]
    refine ⟨pairwise_lt_nodup hG.must_sorted,
      List.Nodup.sublist (List.take_sublist _ _) (pairwise_lt_nodup hG.maybe_sorted), ?_⟩
    intro a ha b hb e
    subst e
    exact hG.disj a ha (List.mem_of_mem_take hb)
  · intro i hi; exact List.mem_append_left _ hi
  · intro i hi
    rcases List.mem_append.mp hi with h | h
    · exact Or.inl h
    · exact Or.inr (List.mem_of_mem_take h)
  · rw [List.length_append, List.length_take]; omega

theorem vpath_exact_iff {s : St} (hG : Good T s) (hM : s.maybe = none) {q : List Nat} : VPath T s q ↔ q.Perm s.must := by
  have hnd := pairwise_lt_nodup hG.must_sorted
  constructor
  · intro h
    rw [List.perm_ext_iff_of_nodup h.nodup hnd]
    intro a
    refine ⟨fun ha => ?_, h.must a⟩
    have := h.mem a ha
    rwa [mbOf_exact hM, List.mem_nil_iff, or_false] at this
  · intro h
    exact ⟨h.nodup_iff.mpr hnd, fun i hi => h.mem_iff.mpr hi, fun i hi => Or.inl (h.mem_iff.mp hi),
      by rw [h.length_eq, must_length_exact T hG hM]⟩

theorem run_le_bestRemF (hI : Inst T) (h64 : T.n ≤ 64) : ∀ (q : List Nat) (s : St), Good T s → VPath T s q →
    (some (runCost T s q) : EInt) ≤ bestRemF T q.length s := by
  intro q
  induction q with
  | nil => intro s _ _; exact EInt.le_refl _
  | cons j q ih =>
    intro s hG hp
    obtain ⟨hjd, hq'⟩ := vpath_cons T hG hp
    obtain ⟨hjn, hd⟩ := domain_lt T hG hjd
    rw [List.length_cons, bestRemF_succ T _ s hd, runCost]
    refine EInt.le_trans ?_ ((EMax.foldl_max_spec _ _ _).2.1 (j : Int) hjd)
    rw [trans_nat T s s.depth j (by rw [hG.cut_len]; exact hjn) (by omega)]
    exact EMax.some_add_le_addI (ih (stepSt T s j) (good_step T hI hG hjd) hq')

theorem bestRemF_attained (hI : Inst T) (h64 : T.n ≤ 64) : ∀ (fuel : Nat) (s : St), Good T s → fuel = T.n - s.depth →
    ∃ q, VPath T s q ∧ bestRemF T fuel s = some (runCost T s q) := by
  intro fuel
  induction fuel with
  | zero =>
    intro s hG hl
    have hm : s.must = [] := List.eq_nil_of_length_eq_zero (by have := hG.must_le; omega)
    exact ⟨[], ⟨List.nodup_nil, (by rw [hm]; intro i hi; cases hi), (by intro i hi; cases hi), (by simpa using hl)⟩, rfl⟩
  | succ fuel ih =>
    intro s hG hl
    have hd : s.depth < T.n := by omega
    -- every decision of the domain leads to a state whose value-to-go is attained
    have hstep : ∀ v ∈ domain T s, ∃ q, VPath T s q ∧
        (bestRemF T fuel (trans T s ⟨s.depth, v⟩)).addI (cost T s ⟨s.depth, v⟩) = some (runCost T s q) := by
      intro v hv
      obtain ⟨i, rfl, _⟩ := (mem_domain T hG v).mp hv
      have hin := (domain_lt T hG hv).1
      obtain ⟨q, hq, he⟩ := ih (stepSt T s i) (good_step T hI hG hv) (by simp only [stepSt_depth]; omega)
      refine ⟨i :: q, vpath_cons_of T hG hv hq, ?_⟩
      rw [runCost, trans_nat T s s.depth i (by rw [hG.cut_len]; exact hin) (by omega), he]
      simp [EInt.addI]; omega
    -- and there is one
    obtain ⟨v0, hv0⟩ : ∃ v, v ∈ domain T s := by
      have hp0 := exists_vpath T hG
      cases hq0 : s.must ++ (mbOf s).take (T.n - s.depth - s.must.length) with
      | nil => rw [hq0] at hp0; have := hp0.len; simp only [List.length_nil] at this; omega
      | cons i0 r0 => rw [hq0] at hp0; exact ⟨_, (vpath_cons T hG hp0).1⟩
    rw [bestRemF_succ T _ s hd]
    rcases (EMax.foldl_max_spec (fun v => (bestRemF T fuel (trans T s ⟨s.depth, v⟩)).addI (cost T s ⟨s.depth, v⟩))
      (domain T s) none).2.2 with h | ⟨v, hv, h⟩
    · exfalso
      have hge := (EMax.foldl_max_spec (fun v => (bestRemF T fuel (trans T s ⟨s.depth, v⟩)).addI (cost T s ⟨s.depth, v⟩))
        (domain T s) none).2.1 _ hv0
      obtain ⟨q, _, he⟩ := hstep _ hv0
      rw [h, he] at hge
      exact hge
    · obtain ⟨q, hp, he⟩ := hstep v hv
      exact ⟨q, hp, by rw [h, he]⟩

theorem bestRemF_le_vpaths (h64 : T.n ≤ 64) (hI : Inst T) (fuel : Nat) (s : St) (b : Int) (hG : Good T s)
    (hl : fuel = T.n - s.depth) (hq : ∀ q, VPath T s q → runCost T s q ≤ b) : bestRemF T fuel s ≤ some b := by
  obtain ⟨q, hp, he⟩ := bestRemF_attained T hI h64 fuel s hG hl
  rw [he]
  exact hq q hp

theorem bestRemF_le_paths (h64 : T.n ≤ 64) (hI : Inst T) : ∀ (fuel : Nat) (s : St) (b : Int), Good T s → s.maybe = none →
    s.must.length = fuel → (∀ q, q.Perm s.must → runCost T s q ≤ b) → bestRemF T fuel s ≤ some b :=
  fun fuel s b hG hM hl hq => bestRemF_le_vpaths T h64 hI fuel s b hG (by rw [← hl, must_length_exact T hG hM])
    fun q hp => hq q ((vpath_exact_iff T hG hM).mp hp)

/-- `Σ_t l_t · Σ_{j after t} w_j` -/
def after (l w : Nat → Int) : List Nat → Int
  | [] => 0
  | t :: r => l t * (r.map w).sum + after l w r

/-- `Σ_{i before j} g i j` -/
def pairSum (g : Nat → Nat → Int) : List Nat → Int
  | [] => 0
  | i :: r => (r.map (g i)).sum + pairSum g r

theorem sum_map_mul_add (q : List Nat) (w a : Nat → Int) (c : Int) :
    (q.map fun k => w k * (a k + c)).sum = (q.map fun k => w k * a k).sum + c * (q.map w).sum := by
  induction q with
  | nil => simp
  | cons x q ih => simp only [List.map_cons, List.sum_cons, ih]; grind

theorem after_congr (l : Nat → Int) {q : List Nat} {a b : Nat → Int} (h : ∀ j ∈ q, a j = b j) : after l a q = after l b q := by
  induction q with
  | nil => rfl
  | cons x q ih =>
    have h' : ∀ j ∈ q, a j = b j := fun j hj => h j (List.mem_cons_of_mem _ hj)
    rw [after, after, ih h', sum_map_congr h']

theorem after_add (l a b : Nat → Int) (q : List Nat) : after l (fun j => a j + b j) q = after l a q + after l b q := by
  induction q with
  | nil => rfl
  | cons x q ih => rw [after, after, after, ih, sum_map_add]; grind

theorem after_zero (l : Nat → Int) (q : List Nat) : after l (fun _ => 0) q = 0 := by
  induction q with
  | nil => rfl
  | cons x q ih =>
    rw [after, ih]
    have : (q.map fun _ => (0 : Int)).sum = 0 := by
      clear ih; induction q with
      | nil => rfl
      | cons y q ih => simp [ih]
    rw [this]; simp

theorem pairsFrom_eq (l : Nat → Int) (c : Nat → Nat → Int) (i : Nat) : ∀ (rest : List Nat) (B : Int),
    Srflp.pairsFrom l c i B rest =
      (rest.map fun j => c (min i j) (max i j) * (l i + l j + B)).sum + 2 * after l (fun j => c (min i j) (max i j)) rest := by
  intro rest
  induction rest with
  | nil => intro B; rfl
  | cons j rest ih =>
    intro B
    rw [Srflp.pairsFrom, ih, after, List.map_cons, List.sum_cons]
    have := sum_map_mul_add rest (fun k => c (min i k) (max i k)) (fun k => l i + l k + B) (2 * l j)
    have e : (rest.map fun k => c (min i k) (max i k) * (l i + l k + (B + 2 * l j))).sum =
        (rest.map fun k => c (min i k) (max i k) * (l i + l k + B + 2 * l j)).sum := by
      apply sum_map_congr; intro k _; rw [Int.add_assoc (l i + l k)]
    rw [e, this]
    grind

theorem flow_minmax (hI : Inst T) {i j : Nat} (hi : i < T.n) (hj : j < T.n) : flow T (min i j) (max i j) = flow T i j := by
  by_cases h : i ≤ j
  · rw [Nat.min_eq_left h, Nat.max_eq_right h]
  · rw [Nat.min_eq_right (by omega), Nat.max_eq_left (by omega)]
    exact hI.flow_symm j i hj hi

theorem leastSum_nil (r : Nat) : leastSum r [] = 0 := by
  simp [leastSum, sortInts]

theorem cost_exact (hI : Inst T) {s : St} (hG : Good T s) (hM : s.maybe = none) {i : Nat} {q : List Nat}
    (hp : (i :: q).Perm s.must) (x : Nat) :
    cost T s ⟨x, (i : Int)⟩ = -((q.map (cutAt s)).sum) * lenOf T i := by
  have him : i ∈ s.must := hp.subset List.mem_cons_self
  have hid : (i : Int) ∈ domain T s := (mem_domain_exact T hG hM _).mpr ⟨i, rfl, him⟩
  rw [cost_nat T hI hG hid, mbOf_exact hM]
  simp only [List.filter_nil, List.map_nil, leastSum_nil, Int.add_zero]
  rw [sum_eq, filter_ne_eq_erase (pairwise_lt_nodup hG.must_sorted)]
  have hq : q.Perm (s.must.erase i) := by
    have := hp.erase i
    rwa [List.erase_cons_head] at this
  rw [perm_sum_eq (hq.map (cutAt s))]

theorem run_eq (hI : Inst T) : ∀ (q : List Nat) (s : St), Good T s → s.maybe = none → q.Perm s.must →
    -(2 * runCost T s q) = 2 * after (lenOf T) (cutAt s) q +
      (Srflp.cost2 (lenOf T) (flow T) q - pairSum (fun i j => (lenOf T i + lenOf T j) * flow T i j) q) := by
  intro q
  induction q with
  | nil => intro s _ _ _; rfl
  | cons i q ih =>
    intro s hG hM hp
    have hnd0 : (i :: q).Nodup := hp.nodup_iff.mpr (pairwise_lt_nodup hG.must_sorted)
    have hnd := List.nodup_cons.mp hnd0
    have him : i ∈ s.must := hp.subset List.mem_cons_self
    have hid : (i : Int) ∈ domain T s := (mem_domain_exact T hG hM _).mpr ⟨i, rfl, him⟩
    have hin : i < T.n := hG.lt i (Or.inl him)
    have hqm : ∀ j ∈ q, j ∈ s.must := fun j hj => hp.subset (List.mem_cons_of_mem _ hj)
    have hp' : q.Perm (stepSt T s i).must := by
      rw [stepSt_must, filter_ne_eq_erase (pairwise_lt_nodup hG.must_sorted)]
      have := hp.erase i
      rwa [List.erase_cons_head] at this
    have hih := ih (stepSt T s i) (good_step T hI hG hid) (stepSt_exact T hM i) hp'
    have hcut : ∀ j ∈ q, cutAt (stepSt T s i) j = cutAt s j + flow T i j := by
      intro j hj
      have hne : j ≠ i := fun e => hnd.1 (e ▸ hj)
      rw [cutAt_step T hG, if_neg hne, if_pos (Or.inl (hqm j hj))]
    rw [after_congr (lenOf T) hcut, after_add] at hih
    rw [runCost, cost_exact T hI hG hM hp, Srflp.cost2, pairsFrom_eq, after, pairSum]
    have hf : ∀ j ∈ q, flow T (min i j) (max i j) = flow T i j :=
      fun j hj => flow_minmax T hI hin (hG.lt j (Or.inl (hqm j hj)))
    rw [after_congr (lenOf T) hf]
    have e1 : (q.map fun j => flow T (min i j) (max i j) * (lenOf T i + lenOf T j + 0)).sum =
        (q.map fun j => (lenOf T i + lenOf T j) * flow T i j).sum := by
      apply sum_map_congr
      intro j hj
      rw [hf j hj, Int.add_zero, Int.mul_comm]
    rw [e1]
    grind

theorem pairSum_perm (g : Nat → Nat → Int) {l₁ l₂ : List Nat} (h : l₁.Perm l₂) :
    (∀ i ∈ l₁, ∀ j ∈ l₁, g i j = g j i) → pairSum g l₁ = pairSum g l₂ := by
  induction h with
  | nil => intro _; rfl
  | cons x hp ih =>
    intro hs
    rw [pairSum, pairSum, ih (fun i hi j hj => hs i (List.mem_cons_of_mem _ hi) j (List.mem_cons_of_mem _ hj)),
      perm_sum_eq (hp.map (g x))]
  | swap x y l =>
    intro hs
    have := hs y List.mem_cons_self x (List.mem_cons_of_mem _ List.mem_cons_self)
    simp only [pairSum, List.map_cons, List.sum_cons]
    omega
  | trans h1 _ ih1 ih2 =>
    intro hs
    rw [ih1 hs, ih2 (fun i hi j hj => hs i (h1.mem_iff.mpr hi) j (h1.mem_iff.mpr hj))]

theorem pairSum_sorted (g : Nat → Nat → Int) : ∀ (l : List Nat), l.Pairwise (· < ·) →
    pairSum g l = (l.map fun i => ((l.filter (fun j => decide (i < j))).map (g i)).sum).sum := by
  intro l
  induction l with
  | nil => intro _; rfl
  | cons x r ih =>
    intro hp
    obtain ⟨hx, hr⟩ := List.pairwise_cons.mp hp
    rw [pairSum, ih hr, List.map_cons, List.sum_cons]
    have e1 : (x :: r).filter (fun j => decide (x < j)) = r := by
      rw [List.filter_cons_of_neg (by simp)]
      apply List.filter_eq_self.mpr
      intro a ha
      simpa using hx a ha
    have e2 : ∀ i ∈ r, (((x :: r).filter (fun j => decide (i < j))).map (g i)).sum =
        ((r.filter (fun j => decide (i < j))).map (g i)).sum := by
      intro i hi
      have := hx i hi
      rw [List.filter_cons_of_neg (by simp; omega)]
    rw [e1, List.map_congr_left e2]

theorem root2_eq : root2 T = pairSum (fun i j => (lenOf T i + lenOf T j) * flow T i j) (List.range T.n) := by
  rw [pairSum_sorted _ _ List.pairwise_lt_range, root2, sum_eq, sum_flatMap]

theorem cutAt_init (j : Nat) : cutAt (initSt T) j = 0 := by
  simp only [cutAt, initSt, List.getD_eq_getElem?_getD, List.getElem?_replicate]
  split <;> simp

theorem cost2_eq_run (hI : Inst T) {q : List Nat} (hq : q.Perm (List.range T.n)) :
    Srflp.cost2 (lenOf T) (flow T) q = root2 T - 2 * runCost T (initSt T) q := by
  have h := run_eq T hI q (initSt T) (good_init T) rfl hq
  rw [after_congr (lenOf T) (fun j _ => cutAt_init T j), after_zero] at h
  have hs : ∀ i ∈ q, ∀ j ∈ q, (fun i j => (lenOf T i + lenOf T j) * flow T i j) i j =
      (fun i j => (lenOf T i + lenOf T j) * flow T i j) j i := by
    intro i hi j hj
    have hin : i < T.n := List.mem_range.mp (hq.mem_iff.mp hi)
    have hjn : j < T.n := List.mem_range.mp (hq.mem_iff.mp hj)
    show (lenOf T i + lenOf T j) * flow T i j = (lenOf T j + lenOf T i) * flow T j i
    rw [hI.flow_symm i j hin hjn, Int.add_comm]
  rw [pairSum_perm _ hq hs, ← root2_eq] at h
  omega

theorem replay (hI : Inst T) (h64 : T.n ≤ 64) : ∀ (decs : List Int) (d0 : Nat) (s0 : St) (v0 : Int) (s : St) (v : Int) (k : Nat),
    Good T s0 → s0.maybe = none →
    evalFrom (problem T) d0 s0 v0 ((List.range' d0 decs.length).zipWith (fun (k : Nat) (x : Int) => (⟨k, x⟩ : Dec)) decs) = some (s, v, k) →
    ∃ pre : List Nat, decs = pre.map (fun (i : Nat) => (i : Int)) ∧ Good T s ∧ s.maybe = none ∧ (pre ++ s.must).Perm s0.must ∧
      ∀ q, v + runCost T s q = v0 + runCost T s0 (pre ++ q) := by
  intro decs
  induction decs with
  | nil =>
    intro d0 s0 v0 s v k hG hM he
    simp only [List.length_nil, List.range'_zero, List.zipWith_nil_left, evalFrom, Option.some.injEq, Prod.mk.injEq] at he
    obtain ⟨rfl, rfl, _⟩ := he
    exact ⟨[], rfl, hG, hM, List.Perm.refl _, fun q => rfl⟩
  | cons x ds ih =>
    intro d0 s0 v0 s v k hG hM he
    rw [List.length_cons, List.range'_succ, List.zipWith_cons_cons, evalFrom] at he
    have hnv : (problem T).nextVar d0 [s0] = if d0 < T.n then some d0 else none := rfl
    rw [hnv] at he
    by_cases hd : d0 < T.n
    · rw [if_pos hd] at he
      simp only at he
      by_cases hc : (True ∧ x ∈ (problem T).domain d0 s0)
      · rw [if_pos hc] at he
        have hx : x ∈ domain T s0 := hc.2
        obtain ⟨i, rfl, him⟩ := (mem_domain_exact T hG hM x).mp hx
        obtain ⟨hin, _⟩ := domain_lt T hG hx
        have htr : (problem T).trans s0 ⟨d0, (i : Int)⟩ = stepSt T s0 i :=
          trans_nat T s0 d0 i (by rw [hG.cut_len]; exact hin) (by omega)
        rw [htr] at he
        obtain ⟨pre, hdecs, hG', hM', hperm, hrun⟩ :=
          ih (d0 + 1) (stepSt T s0 i) _ s v k (good_step T hI hG hx) (stepSt_exact T hM i) he
        refine ⟨i :: pre, by rw [hdecs]; rfl, hG', hM', ?_, fun q => ?_⟩
        · rw [stepSt_must, filter_ne_eq_erase (pairwise_lt_nodup hG.must_sorted)] at hperm
          exact (hperm.cons i).trans (List.perm_cons_erase him).symm
        · rw [hrun q, List.cons_append, runCost]
          have : (problem T).cost s0 (stepSt T s0 i) ⟨d0, (i : Int)⟩ = cost T s0 ⟨s0.depth, (i : Int)⟩ := rfl
          rw [this]
          omega
      · rw [if_neg hc] at he; cases he
    · rw [if_neg hd] at he; cases he

theorem specBestExt_nat (pre : List Nat) : specBestExt (specTable T) (pre.map fun (i : Nat) => (i : Int)) =
    minOf (((specTable T).filter (fun e => e.1.take pre.length == pre)).map (·.2)) := by
  have hany : (pre.map fun (i : Nat) => (i : Int)).any (· < 0) = false := by
    rw [List.any_eq_false]
    intro x hx
    obtain ⟨i, _, rfl⟩ := List.mem_map.mp hx
    simp
  have hpre : (pre.map fun (i : Nat) => (i : Int)).map Int.toNat = pre := by
    rw [List.map_map]
    have : (Int.toNat ∘ fun (i : Nat) => (i : Int)) = id := by funext i; simp
    rw [this, List.map_id]
  unfold specBestExt
  simp only [hany, hpre, Bool.false_eq_true, if_false]

/-- **the DP model is exact on every prefix** (instances of at most 64 departments) -/
theorem dpExactPrefix_partial (h64 : T.n ≤ 64) : DpExactPrefixStmt T := by
  intro hOk decs s v k he
  have hI := inst_of_instOk T hOk
  rw [List.range_eq_range'] at he
  obtain ⟨pre, rfl, hG, hM, hperm, hrun⟩ := replay T hI h64 decs 0 (initSt T) 0 s v k (good_init T) rfl he
  have hperm : (pre ++ s.must).Perm (List.range T.n) := hperm
  obtain ⟨q0, hq0, hbest⟩ := bestRemF_attained T hI h64 _ s hG rfl
  rw [vpath_exact_iff T hG hM] at hq0
  have hB : bestRem T s = some (runCost T s q0) := hbest
  have hall : ∀ q, q.Perm s.must → (pre ++ q).Perm (List.range T.n) :=
    fun q hq => (List.Perm.append_left pre hq).trans hperm
  have hrun' : ∀ q, v + runCost T s q = runCost T (initSt T) (pre ++ q) := by
    intro q; rw [hrun q]; omega
  have hmin : specBestExt (specTable T) (pre.map fun (i : Nat) => (i : Int)) =
      some (root2 T - 2 * runCost T (initSt T) (pre ++ q0)) := by
    rw [specBestExt_nat, minOf_eq_some]
    constructor
    · rw [List.mem_map]
      refine ⟨(pre ++ q0, _), ?_, (cost2_eq_run T hI (hall q0 hq0))⟩
      rw [List.mem_filter]
      constructor
      · unfold specTable
        rw [List.mem_map]
        exact ⟨pre ++ q0, by rw [srflp_perms, mem_perms]; exact hall q0 hq0, rfl⟩
      · simp
    · intro y hy
      obtain ⟨e, he, rfl⟩ := List.mem_map.mp hy
      rw [List.mem_filter] at he
      obtain ⟨he1, he2⟩ := he
      unfold specTable at he1
      obtain ⟨o, ho, rfl⟩ := List.mem_map.mp he1
      rw [srflp_perms, mem_perms] at ho
      rw [beq_iff_eq] at he2
      dsimp only at he2 ⊢
      have hsplit : o = pre ++ o.drop pre.length := by
        have := List.take_append_drop pre.length o
        rw [he2] at this; exact this.symm
      have hod : (o.drop pre.length).Perm s.must := by
        have : (pre ++ o.drop pre.length).Perm (pre ++ s.must) := (hsplit ▸ ho).trans hperm.symm
        exact (List.perm_append_left_iff pre).mp this
      rw [cost2_eq_run T hI ho, hsplit]
      have hle := run_le_bestRemF T hI h64 _ s hG ((vpath_exact_iff T hG hM).mpr hod)
      rw [hod.length_eq, must_length_exact T hG hM, hbest] at hle
      have : runCost T s (o.drop pre.length) ≤ runCost T s q0 := hle
      have h1 := hrun' (o.drop pre.length)
      have h2 := hrun' q0
      omega
  rw [hB, hmin, ← hrun' q0]
  simp [printed2]

/-- **the DP model is exact** (instances of at most 64 departments: the model's `trans?` refuses the departments `≥ 64`) -/
theorem dpExact_partial (h64 : T.n ≤ 64) : DpExactStmt T :=
  fun hOk => dpExactPrefix_partial T h64 hOk [] (initSt T) 0 0 rfl

end Ddo.Examples.SrflpModel

section
open Ddo.Examples.SrflpModel
#print axioms run_le_bestRemF
#print axioms bestRemF_attained
#print axioms bestRemF_le_vpaths
#print axioms cost2_eq_run
#print axioms dpExact_partial
#print axioms dpExactPrefix_partial
end
