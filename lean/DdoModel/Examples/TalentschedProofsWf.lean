import DdoModel.Examples.TalentschedProofsMerge
import DdoModel.Examples.TalentschedProofsRub
import DdoModel.Proofs.WfRelSteps
import DdoModel.Props.C06
import DdoModel.Proofs.Closed
/-! The talentsched model (REPAIRED merge, finding D18; rough bound evaluated exactly, not in `f64`) is well formed relative to
    `Inv` (`talentsched_wfRel`), and the closed corollary `talentsched_relaxed_ub`: a relaxed compilation from the root reports
    at least minus the specification's least pay `Talentsched.spec`.  Specific to this model: the UNRESTRICTED no-saturation
    clause `NoClampDom` holds (`relax` is the identity, and the transition cost of ANY state is at most what all actors cost
    during the scene), under the size bound `totC · totD ≤ B`, `(n + 2) · B ≤ 2^62`. -/

namespace Ddo.Examples.TalentschedModel
open Ddo Ddo.Examples Ddo.Examples.Util Ddo.SpecUtil

theorem nextVar_some {T : Tab} {k x : Nat} {L : List St} (h : (problem T).nextVar k L = some x) : x = k ∧ k < T.n := by
  have h' : (if k < T.n then some k else none) = some x := h
  split at h'
  · exact ⟨by cases h'; rfl, by assumption⟩
  · cases h'

theorem nextVar_none {T : Tab} {k : Nat} {L : List St} (h : (problem T).nextVar k L = none) : T.n ≤ k := by
  have h' : (if k < T.n then some k else none) = none := h
  split at h'
  · cases h'
  · omega

theorem inv_trans {T : Tab} {k : Nat} {s : St} (hV : Inv T k s) {v : Int} (hv : v ∈ domain T k s) :
    Inv T (k + 1) (trans s ⟨k, v⟩) := by
  obtain ⟨i, rfl, h64, hi⟩ := (mem_domain T k s v).mp hv
  rw [trans_nat s k i h64]
  exact hV.step h64 hi

theorem inv_merge {T : Tab} {k : Nat} {X : List St} (hX : X ≠ []) (hV : ∀ u ∈ X, Inv T k u) : Inv T k (mergeStates X) := by
  cases X with
  | nil => exact absurd rfl hX
  | cons f rest =>
    refine ⟨?_, fun i => mergeStates_disjoint _ i⟩
    have := card_le_of_sub (below_merge (f :: rest) f List.mem_cons_self).must
    have := (hV f List.mem_cons_self).room
    omega

theorem wfRel_of_rub (T : Tab) (hT : TabOk T)
    (hrub : ∀ k s h, Inv T k s → bestRem T k s = some h → h ≤ (relaxation T).rub s) :
    WfRel (problem T) (relaxation T) (bestRem T) (Inv T) :=
  .of_steps
    (fun k L x s d hnv hV hd => by
      obtain ⟨rfl, _⟩ := nextVar_some hnv
      exact inv_trans hV hd)
    (fun k X hX hXV => inv_merge hX hXV)
    (fun k L x s h hnv _ hH => by
      obtain ⟨rfl, hk⟩ := nextVar_some hnv
      exact bestRem_att T hk s hH)
    (fun k L s h hnv _ _ hH => by
      rw [bestRem_term T (nextVar_none hnv) s] at hH
      cases hH
      exact Int.le_refl _)
    hrub
    (fun k X u src d c h hu hXV hH => by
      have hle := merge_bestRem_le T hT.nonNeg k X u hu (hXV u hu)
      rw [hH] at hle
      obtain ⟨h', e, hle'⟩ := EMax.of_some_le hle
      exact ⟨h', e, show c + h ≤ c + h' by omega⟩)

/-- the clause `rub` in the shape of `RubAdmissibleStmt`: where `fast_upper_bound` would panic (`rub? = none`) the bound of
    `relaxation` is `0`, which dominates every value-to-go -/
theorem wfRel_of_rubAdmissible (T : Tab) (hT : TabOk T)
    (hrub : ∀ (d : Nat) (s : St) (r : Int), Inv T d s → rub? T s = some r → bestRem T d s ≤ (some r : EInt)) :
    WfRel (problem T) (relaxation T) (bestRem T) (Inv T) :=
  wfRel_of_rub T hT fun k s h hV hH => by
    show h ≤ (rub? T s).getD 0
    cases hr : rub? T s with
    | none =>
      have := bestRem_le_zero T hT.nonNeg k s
      rw [hH] at this
      exact this
    | some r =>
      have := hrub k s r hV hr
      rw [hH] at this
      exact this

theorem talentsched_wfRel (T : Tab) (hT : TabOk T) : WfRel (problem T) (relaxation T) (bestRem T) (Inv T) :=
  wfRel_of_rubAdmissible T hT fun d s r hi hr => rubAdmissible_inv T hT d s r hi hr

end Ddo.Examples.TalentschedModel

section
open Ddo.Examples.TalentschedModel
#print axioms wfRel_of_rub
#print axioms wfRel_of_rubAdmissible
#print axioms talentsched_wfRel
end

namespace Ddo.Examples.TalentschedModel
open Ddo Ddo.Examples Ddo.Examples.Util Ddo.SpecUtil

def totC (T : Tab) : Int := sumRange 64 (costA T)
def totD (T : Tab) : Int := sumRange T.n (durS T)

theorem totC_nonneg {T : Tab} (hn : NonNeg T) : 0 ≤ totC T := sumRange_nonneg fun a _ => hn.cost a
theorem totD_nonneg {T : Tab} (hn : NonNeg T) : 0 ≤ totD T := sumRange_nonneg fun j _ => hn.dur j

theorem sum_sel_le {T : Tab} (hn : NonNeg T) (b : Nat → Bool) (j : Nat) :
    (sumRange 64 fun a => if b a then costA T a * durS T j else 0) ≤ durS T j * totC T := by
  rw [totC, sumRange_mul_left]
  apply sumRange_le
  intro a _
  have := Int.mul_nonneg (hn.dur j) (hn.cost a)
  split
  · rw [Int.mul_comm]; exact Int.le_refl _
  · exact this

theorem dur_le_totD {T : Tab} (hn : NonNeg T) {j : Nat} (hj : j < T.n) : durS T j ≤ totD T :=
  sumRange_ge_term (fun i _ => hn.dur i) hj

theorem cost_ge (T : Tab) (hn : NonNeg T) (s : St) (d : Dec) : -(totC T * totD T) ≤ cost T s d := by
  have hC := totC_nonneg hn
  have hD := totD_nonneg hn
  have hCD := Int.mul_nonneg hC hD
  unfold cost cost?
  split
  · simp only [Option.getD_none]; omega
  · rename_i hc
    simp only [Option.getD_some]
    rw [sum_bits_eq]
    have hj : d.val.toNat < T.n := by omega
    have h1 := sum_sel_le hn (fun a => (sdiff (present T s) (actS T d.val.toNat)).testBit a) d.val.toNat
    have h2 := Int.mul_le_mul_of_nonneg_right (dur_le_totD hn hj) hC
    rw [Int.mul_comm (totD T)] at h2
    omega

theorem initVal_bounds {T : Tab} (hT : TabOk T) : -(totC T * totD T) ≤ initVal T ∧ initVal T ≤ 0 := by
  have hn := hT.nonNeg
  rw [initVal_eq hT]
  have h1 : sumRange T.n (playSum T) ≤ sumRange T.n fun j => totC T * durS T j := by
    apply sumRange_le
    intro j _
    have := sum_sel_le hn (fun a => P T a j) j
    rw [Int.mul_comm] at this
    exact this
  rw [← sumRange_mul_left] at h1
  have h2 : 0 ≤ sumRange T.n (playSum T) := by
    apply sumRange_nonneg
    intro j _
    apply sumRange_nonneg
    intro a _
    split
    · exact Int.mul_nonneg (hn.cost a) (hn.dur j)
    · exact Int.le_refl _
  unfold totD
  omega

theorem noClampDom {T : Tab} (hT : TabOk T) (B : Int) (hb : totC T * totD T ≤ B)
    (hsmall : ((T.n : Int) + 2) * B ≤ 4611686018427387904) :
    NoClampDom (problem T) (relaxation T) (initVal T) B where
  nonneg := by
    have := Int.mul_nonneg (totC_nonneg hT.nonNeg) (totD_nonneg hT.nonNeg)
    omega
  root := by have := initVal_bounds hT; omega
  cost := by
    intro x s d _
    show -B ≤ cost T s ⟨x, d⟩ ∧ cost T s ⟨x, d⟩ ≤ B
    have h1 := cost_ge T hT.nonNeg s ⟨x, d⟩
    have h2 := cost_nonpos T hT.nonNeg s ⟨x, d⟩
    have := Int.mul_nonneg (totC_nonneg hT.nonNeg) (totD_nonneg hT.nonNeg)
    omega
  relax := fun _ _ _ _ _ hc => hc
  small := hsmall

theorem inv_init (T : Tab) : Inv T 0 (initSt T) := by
  refine ⟨?_, fun i h => by simp [initSt] at h⟩
  -- the members of `(initSt T).scenes` are distinct numbers below `n`
  have := (isOrder_bits (initSt T).scenes).nodup.length_le_of_subset
    (fun i hi => List.mem_range.mpr ((testBit_init T i).mp (mem_bits.mp hi).2))
  rwa [List.length_range] at this

/-- **The shipped talentsched example (repaired merge)**: a relaxed compilation of its model from the root (layer by layer,
    no cache, no dominance checker, width ≥ 1, any incumbent `lb` that the optimum beats) reports a best value that is at
    least the true optimum — minus the least total pay `Talentsched.spec` over all orders of the scenes —, for every
    well-formed instance (`TabOk`) whose total pay cannot saturate an `isize` -/
theorem talentsched_relaxed_ub {K : Type} [DecidableEq K] {T : Tab} (hT : TabOk T)
    (cfg : Cfg St K) (B : Int) (cache : Cache St) (store : DomStore St K) (polls : Nat)
    (hP : cfg.P = problem T) (hR : cfg.R = relaxation T)
    (hrs : cfg.root.state = initSt T) (hrv : cfg.root.value = initVal T) (hrd : cfg.root.depth = 0)
    (hrel : cfg.ctype = .relaxed) (hcache : cfg.useCache = false) (hdom : cfg.dom = none) (hW : 1 ≤ cfg.width)
    (hb : totC T * totD T ≤ B) (hsmall : ((T.n : Int) + 2) * B ≤ 4611686018427387904)
    (hlb : InI cfg.lb)
    (t : Int) (ht : Talentsched.spec T.n T.k (fun a s => (T.flags.getD a []).getD s 0 == 1) (costA T) (durS T) = t)
    (hgt : -t > cfg.lb) :
    (compile cfg cache store polls none).1 = .ok →
    ∃ bv, (compile cfg cache store polls none).2.1.bestValue = some bv ∧ -t ≤ bv := by
  -- exactness at the root; the default `-1` of `Talentsched.spec` is not used: there is an order
  have hex := dpExactStmt T hT
  rw [specBestExt_nil] at hex
  have hspec : minOf ((Talentsched.perms (List.range T.n)).map
      (Talentsched.pay T.k (fun (a s : Nat) => (T.flags.getD a []).getD s 0 == 1) (costA T) (durS T))) = some t := by
    unfold Talentsched.spec at ht
    rw [C16.talent_minimum] at ht
    cases hm : minOf ((Talentsched.perms (List.range T.n)).map
      (Talentsched.pay T.k (fun (a s : Nat) => (T.flags.getD a []).getD s 0 == 1) (costA T) (durS T))) with
    | none =>
      exfalso
      rw [minOf_eq_none, List.map_eq_nil_iff] at hm
      have : List.range T.n ∈ Talentsched.perms (List.range T.n) := by
        rw [C16.talent_perms, mem_perms]
      rw [hm] at this
      cases this
    | some v => rw [hm] at ht; simp at ht; rw [ht]
  rw [hspec] at hex
  have hroot : optOf (bestRem T) ⟨initSt T, initVal T, [], 0, 0⟩ = some (-t) := hex
  have hO : -t ≤ iMax := by
    have h1 := bestRem_le_zero T hT.nonNeg 0 (initSt T)
    have h2 := (initVal_bounds hT).2
    cases hb0 : bestRem T 0 (initSt T) with
    | none => rw [hb0] at hex; cases hex
    | some h =>
      rw [hb0] at hex h1
      have h1' : h ≤ 0 := h1
      simp only [EInt.addI, Option.map_some, Option.some.injEq] at hex
      simp only [iMax]
      omega
  refine C06.relaxed_ub_rel_dom cfg (bestRem T) (Inv T) B cache store polls hrel hcache hdom hW ?_ ?_ ?_ hlb (-t) ?_ hgt
    (Or.inl hO)
  · rw [hP, hR]; exact talentsched_wfRel T hT
  · rw [hrd, hrs]; exact inv_init T
  · rw [hP, hR, hrv]; exact noClampDom hT B hb hsmall
  · unfold optOf
    rw [hrd, hrs, hrv]
    exact hroot

/-! ## non-vacuity: the instance `witness` of `TalentschedModel.lean` (4 scenes, 5 actors; least pay 157, `spec_witness`), width 2: merges
    happen in layers 2 and 3; both merged states have all four scenes optional, hence nobody on location; `-155` is reported -/
namespace Demo

theorem witness_ok : TabOk witness :=
  ⟨by decide, by decide, by decide, by decide, by decide⟩

def cfg : Cfg St Unit :=
  { P := problem witness, R := relaxation witness, rank := ⟨rankCmp⟩, dom := none,
    useCache := false, kind := .lel, ctype := .relaxed, width := 2,
    root := ⟨initSt witness, initVal witness, [], iMax, 0⟩, lb := -1000000 }

theorem spec_witness : Talentsched.spec witness.n witness.k (fun a s => (witness.flags.getD a []).getD s 0 == 1)
    (costA witness) (durS witness) = 157 := by decide +kernel

theorem ok : (compile cfg (Cache.init 4) (DomStore.init 4) 0 none).1 = .ok :=
  Closed.compile_no_crash cfg (Cache.init 4) (DomStore.init 4) 0 rfl rfl (by decide)
    (fun k _ hk => if_neg (Nat.not_lt.mpr hk)) (by decide)

example : ∃ bv, (compile cfg (Cache.init 4) (DomStore.init 4) 0 none).2.1.bestValue = some bv ∧ -157 ≤ bv :=
  talentsched_relaxed_ub witness_ok cfg 236 (Cache.init 4) (DomStore.init 4) 0 rfl rfl rfl rfl rfl rfl rfl rfl (by decide)
    (by decide +kernel) (by decide +kernel) (by decide) 157 spec_witness (by decide) ok

end Demo

end Ddo.Examples.TalentschedModel

section
open Ddo.Examples.TalentschedModel
#print axioms noClampDom
#print axioms talentsched_relaxed_ub
#print axioms Demo.ok
end
