import DdoModel.Examples.SrflpProofsMerge
import DdoModel.Examples.SrflpProofsExact
import DdoModel.Examples.SrflpProofsRubSmith
import DdoModel.Examples.SrflpProofsRubRearr
/-! What a completion of a srflp state costs at least.
    A completion of a state `(M = must_place, Y = maybe_place)` is an order `q` of `n - depth` departments that holds all of `M`
    and otherwise members of `Y`.  "The sum of the `r` least" is superadditive (`leastSum_add_le`), hence the cost of a
    completion (`VPath`, `SrflpProofsExact`) of ANY good state is at least `GG l c M Y q + EE l f M Y q` (`pathCost_le_GG_EE`): the
    cost of the path with the FIXED weights `c` (the cuts of the state), plus, for every department `j` of the path, the cost of
    the rest of the path with the fixed weights `f j` (row `j` of the flows). -/

namespace Ddo.Examples.SrflpModel
open Ddo Ddo.Examples Ddo.Examples.Util Ddo.SpecUtil

variable (T : Tab)

/-- the two tables are those `Srflp::new` builds from the instance (`tabOf` does; `InstOk` does not say so) -/
structure TabSorted : Prop where
  sl : T.sl = ((List.range T.n).map (fun i => (lenOf T i, i))).mergeSort le2
  sf : T.sf = ((List.range T.n).flatMap (fun i =>
        ((List.range T.n).filter (fun j => decide (i < j))).map (fun j => (flow T i j, i, j)))).mergeSort le3

theorem tabSorted_tabOf (n : Nat) (lens : List Int) (flows : List (List Int)) (clear : Bool) :
    TabSorted (tabOf n lens flows clear) := ⟨rfl, rfl⟩

/-- the flows between the members of a list (pairs in list order) -/
def pairFlows (f : Nat → Nat → Int) : List Nat → List Int
  | [] => []
  | i :: r => r.map (f i) ++ pairFlows f r

def crossFlows (f : Nat → Nat → Int) (M Y : List Nat) : List Int := M.flatMap (fun i => Y.map (f i))

/-- the number of members of `q` that are not in `M` (the optional picks of the path) -/
def nonM (M q : List Nat) : Nat := (q.filter (fun i => !M.contains i)).length

/-- the cost of the path `q` with FIXED weights `w`: the department `j` pays `l j` times (the weights of the members of `M`
    after it + the `r` least weights among what is left of `Y`, `r` = the number of optional picks after it) -/
def GG (l w : Nat → Int) (M : List Nat) : List Nat → List Nat → Int
  | _, [] => 0
  | Y, j :: q =>
    l j * (((q.filter (fun i => M.contains i)).map w).sum + leastSum (nonM M q) ((Y.filter (· ≠ j)).map w))
      + GG l w M (Y.filter (· ≠ j)) q

/-- the edge part: every department `j` of the path, once placed, adds row `j` of the flows to the weights -/
def EE (l : Nat → Int) (f : Nat → Nat → Int) (M : List Nat) : List Nat → List Nat → Int
  | _, [] => 0
  | Y, j :: q => GG l (f j) M (Y.filter (· ≠ j)) q + EE l f M (Y.filter (· ≠ j)) q

/-- `Σ_t ls[t] · Σ_{t' > t} vs[t']` -/
def aftV : List Int → List Int → Int
  | l :: ls, _ :: vs => l * vs.sum + aftV ls vs
  | _, _ => 0

@[simp] theorem nonM_nil (M : List Nat) : nonM M [] = 0 := rfl
theorem nonM_cons (M : List Nat) (j : Nat) (q : List Nat) :
    nonM M (j :: q) = (if M.contains j then 0 else 1) + nonM M q := by
  unfold nonM
  rw [List.filter_cons]
  cases h : M.contains j
  · simp; omega
  · simp

theorem length_eq_filter_add_nonM (M : List Nat) : ∀ q : List Nat,
    q.length = (q.filter (fun i => M.contains i)).length + nonM M q := by
  intro q
  induction q with
  | nil => rfl
  | cons j q ih =>
    rw [nonM_cons, List.filter_cons]
    cases h : M.contains j <;> simp only [Bool.false_eq_true, ↓reduceIte, List.length_cons] <;> omega

theorem nonM_le_length {M Y q : List Nat} (hq : q.Nodup) (hmem : ∀ i ∈ q, i ∈ M ∨ i ∈ Y) : nonM M q ≤ Y.length := by
  unfold nonM
  apply List.Nodup.length_le_of_subset (hq.filter _)
  intro i hi
  have := List.mem_filter.mp hi
  rcases hmem i this.1 with h | h
  · simp [h] at this
  · exact h

theorem filter_contains_perm {M q : List Nat} (hq : q.Nodup) (hM : M.Nodup) (hMq : ∀ i ∈ M, i ∈ q) :
    (q.filter (fun i => M.contains i)).Perm M := by
  rw [List.perm_ext_iff_of_nodup (hq.filter _) hM]
  intro a
  simp only [List.mem_filter, List.contains_iff_mem]
  exact ⟨fun x => x.2, fun x => ⟨hMq a x, x⟩⟩

theorem filter_ne_of_not_mem {Y : List Nat} {j : Nat} (h : j ∉ Y) : Y.filter (· ≠ j) = Y := by
  rw [List.filter_eq_self]
  intro a ha
  simp only [ne_eq, decide_eq_true_eq]
  intro e; subst e; exact h ha

theorem perm_cons_filter_ne {j : Nat} {Y : List Nat} (hY : Y.Nodup) (hj : j ∈ Y) : Y.Perm (j :: Y.filter (· ≠ j)) := by
  rw [filter_ne_eq_erase hY]
  exact List.perm_cons_erase hj

theorem rest_facts {M Y q : List Nat} {j : Nat} (hq : (j :: q).Nodup) (hY : Y.Nodup)
    (hqMY : ∀ i ∈ j :: q, i ∈ M ∨ i ∈ Y) (hdisj : ∀ i ∈ M, i ∉ Y) :
    q.Nodup ∧ (Y.filter (· ≠ j)).Nodup ∧ (∀ i ∈ Y.filter (· ≠ j), i ∈ Y) ∧
      (∀ i ∈ q, i ∈ M ∨ i ∈ Y.filter (· ≠ j)) ∧ (∀ i ∈ M, i ∉ Y.filter (· ≠ j)) := by
  have hn := List.nodup_cons.1 hq
  have hsub : ∀ i ∈ Y.filter (· ≠ j), i ∈ Y := fun i hi => (mem_filter_ne.1 hi).1
  refine ⟨hn.2, hY.filter _, hsub, ?_, fun i hi h => hdisj i hi (hsub i h)⟩
  intro i hi
  exact (hqMY i (List.mem_cons_of_mem _ hi)).imp id fun h => mem_filter_ne.2 ⟨h, fun e => hn.1 (e ▸ hi)⟩

theorem sum_map_add' (w v w' : Nat → Int) (r : List Nat) (h : ∀ j ∈ r, w' j = w j + v j) :
    (r.map w').sum = (r.map w).sum + (r.map v).sum := by
  rw [sum_map_congr h, sum_map_add]

theorem sortInts_length (L : List Int) : (sortInts L).length = L.length := List.length_mergeSort _

theorem sortInts_pairwise (L : List Int) : (sortInts L).Pairwise (· ≤ ·) := sorted_by L id

theorem eq_sortInts {Ls M : List Int} (h : Ls.Perm M) (hs : Ls.Pairwise (· ≤ ·)) : sortInts M = Ls :=
  List.Perm.eq_of_pairwise (le := (· ≤ ·)) (fun _ _ _ _ hab hba => Int.le_antisymm hab hba) (sortInts_pairwise M) hs
    ((List.mergeSort_perm M _).trans h.symm)

theorem take_sortInts_le (A B : List Nat) (f : Nat → Int) (hnd : A.Nodup) (hsub : ∀ a ∈ A, a ∈ B) :
    ((sortInts (B.map f)).take A.length).sum ≤ (A.map f).sum := by
  have := leastSum_le_choice A B f f hnd hsub (fun _ _ => Int.le_refl _)
  unfold leastSum at this
  rwa [sum_eq, sum_eq] at this

theorem pairFlows_length_tri (f : Nat → Nat → Int) : ∀ q : List Nat, (pairFlows f q).length + q.length = tri q.length
  | [] => by simp [pairFlows, tri]
  | i :: r => by
    have := pairFlows_length_tri f r
    simp only [pairFlows, List.length_append, List.length_map, List.length_cons, tri]
    omega

theorem pairFlows_length_two (f : Nat → Nat → Int) (q : List Nat) :
    2 * (pairFlows f q).length = q.length * (q.length - 1) := by
  have h := pairFlows_length_tri f q
  generalize q.length = k at h
  cases k with
  | zero => simp [tri] at h; simp [h]
  | succ m =>
    simp only [tri] at h
    have := tri_two_mul m
    rw [Nat.add_sub_cancel, Nat.mul_comm (m + 1) m]
    omega

theorem pairFlows_length (f : Nat → Nat → Int) (q : List Nat) :
    (pairFlows f q).length = q.length * (q.length - 1) / 2 := by
  have := pairFlows_length_two f q
  omega

theorem pairFlows_perm (f : Nat → Nat → Int) {q q' : List Nat} (h : q'.Perm q)
    (hsym : ∀ i ∈ q, ∀ j ∈ q, f i j = f j i) : (pairFlows f q').Perm (pairFlows f q) := by
  induction h with
  | nil => exact List.Perm.refl _
  | cons x h ih =>
    simp only [pairFlows]
    exact (h.map _).append (ih (fun i hi j hj => hsym i (List.mem_cons_of_mem _ hi) j (List.mem_cons_of_mem _ hj)))
  | swap x y l =>
    have e : f y x = f x y := hsym y (by simp) x (by simp)
    simp only [pairFlows, List.map_cons, List.cons_append, e]
    exact List.Perm.cons _ (List.perm_append_comm_assoc _ _ _)
  | trans h1 h2 ih1 ih2 =>
    exact (ih1 (fun i hi j hj => hsym i (h2.mem_iff.1 hi) j (h2.mem_iff.1 hj))).trans (ih2 hsym)

theorem crossFlows_cons (f : Nat → Nat → Int) (i : Nat) (M Y : List Nat) :
    crossFlows f (i :: M) Y = Y.map (f i) ++ crossFlows f M Y := by
  simp [crossFlows]

theorem crossFlows_length (f : Nat → Nat → Int) (Y : List Nat) : ∀ M : List Nat,
    (crossFlows f M Y).length = M.length * Y.length
  | [] => by simp [crossFlows]
  | i :: M => by
    rw [crossFlows_cons, List.length_append, crossFlows_length f Y M, List.length_map, List.length_cons, Nat.succ_mul]
    omega

/-- the number of flows the second loop of the bound keeps: all inside `M`, `|M| r` between the sets, `r (r-1) / 2` inside `Y` -/
theorem flowsKept_length (f : Nat → Nat → Int) (M Y : List Nat) {r : Nat} (hr : r ≤ Y.length) :
    (pairFlows f M ++ (sortInts (crossFlows f M Y)).take (M.length * r) ++ (sortInts (pairFlows f Y)).take (r * (r - 1) / 2)).length
      = (M.length + r) * (M.length + r - 1) / 2 := by
  have i1 : M.length * r ≤ M.length * Y.length := Nat.mul_le_mul_left _ hr
  have i2 : r * (r - 1) / 2 ≤ Y.length * (Y.length - 1) / 2 := Nat.div_le_div_right (Nat.mul_le_mul hr (by omega))
  rw [List.length_append, List.length_append, List.length_take, List.length_take, sortInts_length, sortInts_length,
    crossFlows_length, pairFlows_length, pairFlows_length, Nat.min_eq_left i1, Nat.min_eq_left i2, tri_split]

#print axioms pairFlows_perm

end Ddo.Examples.SrflpModel


namespace Ddo.Examples.SrflpModel
open Ddo Ddo.Examples Ddo.Examples.Util Ddo.SpecUtil

variable (T : Tab)

theorem leastSum_add_le (Y : List Nat) (w v u : Nat → Int) (r : Nat) (hnd : Y.Nodup) (hr : r ≤ Y.length)
    (hu : ∀ y ∈ Y, u y = w y + v y) :
    leastSum r (Y.map w) + leastSum r (Y.map v) ≤ leastSum r (Y.map u) := by
  obtain ⟨Z, hZn, hZs, hZl, hZ⟩ := leastSum_attained Y u r hnd hr
  have h1 := leastSum_le_choice Z Y w w hZn hZs (fun _ _ => Int.le_refl _)
  have h2 := leastSum_le_choice Z Y v v hZn hZs (fun _ _ => Int.le_refl _)
  have h3 := sum_map_add' w v u Z (fun j hj => hu j (hZs j hj))
  rw [hZl] at h1 h2
  rw [sum_eq] at h1 h2 hZ
  omega

theorem GG_add_le (l w v u : Nat → Int) (M : List Nat) : ∀ (q Y : List Nat), q.Nodup → Y.Nodup →
    (∀ i ∈ q, i ∈ M ∨ i ∈ Y) → (∀ i ∈ q, 0 ≤ l i) → (∀ i, i ∈ q ∨ i ∈ Y → u i = w i + v i) →
    GG l w M Y q + GG l v M Y q ≤ GG l u M Y q := by
  intro q
  induction q with
  | nil => intro Y _ _ _ _ _; simp [GG]
  | cons j q ih =>
    intro Y hq hY hmem hl hu
    obtain ⟨hjq, hq'⟩ := List.nodup_cons.mp hq
    have hmem' : ∀ i ∈ q, i ∈ M ∨ i ∈ Y.filter (· ≠ j) := by
      intro i hi
      rcases hmem i (List.mem_cons_of_mem _ hi) with h | h
      · exact Or.inl h
      · exact Or.inr (mem_filter_ne.mpr ⟨h, fun e => hjq (e ▸ hi)⟩)
    have hY' : (Y.filter (· ≠ j)).Nodup := hY.filter _
    have h1 := ih (Y.filter (· ≠ j)) hq' hY' hmem' (fun i hi => hl i (List.mem_cons_of_mem _ hi)) (by
      intro i hi
      rcases hi with hi | hi
      · exact hu i (Or.inl (List.mem_cons_of_mem _ hi))
      · exact hu i (Or.inr (mem_filter_ne.mp hi).1))
    have h2 := leastSum_add_le (Y.filter (· ≠ j)) w v u (nonM M q) hY' (nonM_le_length hq' hmem')
      (fun y hy => hu y (Or.inr (mem_filter_ne.mp hy).1))
    have h3 := sum_map_add' w v u (q.filter (fun i => M.contains i))
      (fun i hi => hu i (Or.inl (List.mem_cons_of_mem _ (List.mem_filter.mp hi).1)))
    have hlj := hl j List.mem_cons_self
    simp only [GG]
    generalize leastSum (nonM M q) ((Y.filter (· ≠ j)).map w) = a1 at h2 ⊢
    generalize leastSum (nonM M q) ((Y.filter (· ≠ j)).map v) = a2 at h2 ⊢
    generalize leastSum (nonM M q) ((Y.filter (· ≠ j)).map u) = a3 at h2 ⊢
    generalize ((q.filter (fun i => M.contains i)).map w).sum = b1 at h3 ⊢
    generalize ((q.filter (fun i => M.contains i)).map v).sum = b2 at h3 ⊢
    generalize ((q.filter (fun i => M.contains i)).map u).sum = b3 at h3 ⊢
    have h4 : l j * (b1 + a1) + l j * (b2 + a2) ≤ l j * (b3 + a3) := by
      rw [← Int.mul_add]
      exact Int.mul_le_mul_of_nonneg_left (by omega) hlj
    omega

theorem GG_congr_M (l w : Nat → Int) (M M' : List Nat) : ∀ (q Y : List Nat),
    (∀ i ∈ q, M.contains i = M'.contains i) → GG l w M Y q = GG l w M' Y q := by
  intro q
  induction q with
  | nil => intro Y _; rfl
  | cons j q ih =>
    intro Y h
    have h' : ∀ i ∈ q, M.contains i = M'.contains i := fun i hi => h i (List.mem_cons_of_mem _ hi)
    have e1 : q.filter (fun i => M.contains i) = q.filter (fun i => M'.contains i) :=
      List.filter_congr (fun i hi => h' i hi)
    have e2 : nonM M q = nonM M' q := by
      unfold nonM
      rw [List.filter_congr (fun i hi => by rw [h' i hi])]
    simp only [GG, e1, e2, ih _ h']

theorem EE_congr_M (l : Nat → Int) (f : Nat → Nat → Int) (M M' : List Nat) : ∀ (q Y : List Nat),
    (∀ i ∈ q, M.contains i = M'.contains i) → EE l f M Y q = EE l f M' Y q := by
  intro q
  induction q with
  | nil => intro Y _; rfl
  | cons j q ih =>
    intro Y h
    have h' : ∀ i ∈ q, M.contains i = M'.contains i := fun i hi => h i (List.mem_cons_of_mem _ hi)
    simp only [EE, ih _ h', GG_congr_M l (f j) M M' q _ h']

theorem GG_congr_w (l w w' : Nat → Int) (M : List Nat) : ∀ (q Y : List Nat),
    (∀ i, i ∈ q ∨ i ∈ Y → w i = w' i) → GG l w M Y q = GG l w' M Y q := by
  intro q
  induction q with
  | nil => intro Y _; rfl
  | cons j q ih =>
    intro Y h
    have e1 : (q.filter (fun i => M.contains i)).map w = (q.filter (fun i => M.contains i)).map w' :=
      List.map_congr_left (fun i hi => h i (Or.inl (List.mem_cons_of_mem _ (List.mem_filter.mp hi).1)))
    have e2 : (Y.filter (· ≠ j)).map w = (Y.filter (· ≠ j)).map w' :=
      List.map_congr_left (fun i hi => h i (Or.inr (mem_filter_ne.mp hi).1))
    have e3 := ih (Y.filter (· ≠ j)) (by
      intro i hi
      rcases hi with hi | hi
      · exact h i (Or.inl (List.mem_cons_of_mem _ hi))
      · exact h i (Or.inr (mem_filter_ne.mp hi).1))
    simp only [GG, e1, e2, e3]

theorem vpath_filter_perm {s : St} (hG : Good T s) {q : List Nat} (h : VPath T s q) :
    (q.filter (fun i => s.must.contains i)).Perm s.must :=
  filter_contains_perm h.nodup (pairwise_lt_nodup hG.must_sorted) h.must

theorem vpath_nonM {s : St} (hG : Good T s) {q : List Nat} (h : VPath T s q) :
    nonM s.must q = T.n - s.depth - s.must.length := by
  have h1 := length_eq_filter_add_nonM s.must q
  have h2 := (vpath_filter_perm T hG h).length_eq
  have h3 := h.len
  omega

/-- **every completion of a good state costs at least `GG` (cuts) + `EE` (flows)** -/
theorem pathCost_le_GG_EE (hI : Inst T) : ∀ (q : List Nat) (s : St), Good T s → VPath T s q →
    GG (lenOf T) (cutAt s) s.must (mbOf s) q + EE (lenOf T) (flow T) s.must (mbOf s) q ≤ -(runCost T s q) := by
  intro q
  induction q with
  | nil => intro s _ _; simp [GG, EE, runCost]
  | cons i q ih =>
    intro s hG hp
    obtain ⟨hid, hp'⟩ := vpath_cons T hG hp
    obtain ⟨hiq, hq'⟩ := List.nodup_cons.mp hp.nodup
    have hG' := good_step T hI hG hid
    have hmb := mbOf_stepSt T s i
    have h1 := ih (stepSt T s i) hG' hp'
    rw [stepSt_must, hmb] at h1
    -- `M` without `i` reads like `M` on the rest of the path
    have hMc : ∀ j ∈ q, (s.must.filter (· ≠ i)).contains j = s.must.contains j := by
      intro j hj
      have hji : j ≠ i := fun e => hiq (e ▸ hj)
      rw [Bool.eq_iff_iff]
      simp only [List.contains_iff_mem]
      exact ⟨fun x => (mem_filter_ne.mp x).1, fun x => mem_filter_ne.mpr ⟨x, hji⟩⟩
    rw [GG_congr_M _ _ _ s.must q _ hMc, EE_congr_M _ _ _ s.must q _ hMc] at h1
    -- the cuts of the next state
    obtain ⟨_, hY', _, hmemq, _⟩ := rest_facts hp.nodup (pairwise_lt_nodup hG.maybe_sorted) hp.mem hG.disj
    have hcut : ∀ j, j ∈ q ∨ j ∈ (mbOf s).filter (· ≠ i) → cutAt (stepSt T s i) j = cutAt s j + flow T i j :=
      fun j hj => cutAt_stepSt T hG (hj.elim (hp'.mem j) fun h => Or.inr (by rw [hmb]; exact h))
    have hlq : ∀ j ∈ q, 0 ≤ lenOf T j := by
      intro j hj
      exact Int.le_of_lt (hI.len_pos j (hG.lt j (hp.mem j (List.mem_cons_of_mem _ hj))))
    have h2 := GG_add_le (lenOf T) (cutAt s) (flow T i) (cutAt (stepSt T s i)) s.must q ((mbOf s).filter (· ≠ i)) hq'
      hY' hmemq hlq hcut
    -- the cost of the step
    have hc := cost_nat T hI hG hid s.depth
    have hperm := vpath_filter_perm T hG' hp'
    rw [stepSt_must, List.filter_congr (fun j hj => hMc j hj)] at hperm
    have hs : sum ((s.must.filter (· ≠ i)).map (cutAt s)) = ((q.filter (fun j => s.must.contains j)).map (cutAt s)).sum := by
      rw [sum_eq]
      exact perm_sum_eq (hperm.symm.map _)
    have hn := vpath_nonM T hG' hp'
    simp only [stepSt_must, stepSt_depth] at hn
    have hn' : nonM s.must q = T.n - (s.depth + 1) - (s.must.filter (· ≠ i)).length := by
      rw [← hn]
      unfold nonM
      rw [List.filter_congr (fun j hj => by rw [← hMc j hj])]
    rw [hs, ← hn'] at hc
    simp only [GG, EE, runCost, hc]
    generalize ((q.filter (fun j => s.must.contains j)).map (cutAt s)).sum = A at *
    generalize leastSum (nonM s.must q) (((mbOf s).filter (· ≠ i)).map (cutAt s)) = B at *
    generalize lenOf T i = L at *
    have e : -(-(A + B) * L + runCost T (stepSt T s i) q) = L * (A + B) - runCost T (stepSt T s i) q := by
      rw [Int.neg_add, Int.neg_mul, Int.neg_neg, Int.mul_comm]; omega
    rw [e]
    omega

#print axioms pathCost_le_GG_EE

end Ddo.Examples.SrflpModel
