import DdoModel.Examples.PspModel
import DdoModel.Examples.EMax
/-! psp example, one step: the tables of the reader in closed form (`prevF`, `remF`), the units still to produce (`rem`), the domain,
    the transition and its cost in closed form on the states a compilation can build (`Ok`), and the value-to-go one period
    down in terms of `idle` / `produce` (`bestRem_step`, `bestRem_idle_le`, `bestRem_produce_le`): what every induction over
    `time` in the other files goes through. -/
namespace Ddo.Examples.PspModel
open Ddo Ddo.Examples Ddo.Examples.Util

/-- the latest period `< t` in which the row has a demand, `-1` if none -/
def prevF (row : List Int) : Nat → Int
  | 0 => -1
  | t + 1 => if row.getD t 0 > 0 then (t : Int) else prevF row t
/-- the number of units due in the periods `< t` -/
def remF (row : List Int) : Nat → Int
  | 0 => 0
  | t + 1 => remF row t + row.getD t 0

theorem prevRow_succ (H : Nat) (row : List Int) :
    prevRow (H + 1) row = prevRow H row ++ [if row.getD H 0 > 0 then (H : Int) else (prevRow H row).getLastD (-1)] := by
  unfold prevRow
  rw [List.range_succ, List.foldl_append]
  rfl

theorem prevRow_eq (row : List Int) : ∀ H : Nat, prevRow H row = (List.range (H + 1)).map (prevF row) := by
  intro H
  induction H with
  | zero => rfl
  | succ H ih =>
    rw [prevRow_succ, ih, List.range_succ (n := H + 1), List.map_append]
    congr 1
    simp [List.range_succ, prevF]

theorem remRow_succ (H : Nat) (row : List Int) :
    remRow (H + 1) row = remRow H row ++ [(remRow H row).getLastD 0 + row.getD H 0] := by
  unfold remRow
  rw [List.range_succ, List.foldl_append]
  rfl

theorem remRow_eq (row : List Int) : ∀ H : Nat, remRow H row = (List.range H).map (fun t => remF row (t + 1)) := by
  intro H
  induction H with
  | zero => rfl
  | succ H ih =>
    rw [remRow_succ, ih, List.range_succ (n := H), List.map_append]
    congr 1
    cases H with
    | zero => simp [remF]
    | succ H => simp [List.range_succ, remF]

theorem prevF_lt (row : List Int) : ∀ t : Nat, -1 ≤ prevF row t ∧ prevF row t < (t : Int) := by
  intro t
  induction t with
  | zero => simp [prevF]
  | succ t ih =>
    unfold prevF
    split <;> omega

theorem prevF_due (row : List Int) : ∀ t : Nat, prevF row t = -1 ∨ (0 ≤ prevF row t ∧ 0 < row.getD (prevF row t).toNat 0) := by
  intro t
  induction t with
  | zero => simp [prevF]
  | succ t ih =>
    unfold prevF
    split
    · next h => right; exact ⟨by omega, by simpa using h⟩
    · exact ih

theorem prevF_latest (row : List Int) : ∀ (t e : Nat), e < t → 0 < row.getD e 0 → (e : Int) ≤ prevF row t := by
  intro t
  induction t with
  | zero => intro e he; omega
  | succ t ih =>
    intro e he hd
    unfold prevF
    split
    · omega
    · next h =>
      have : e ≠ t := by intro h'; subst h'; exact h hd
      exact ih e (by omega) hd

theorem remF_prevF (row : List Int) (hbin : ∀ t, row.getD t 0 = 0 ∨ row.getD t 0 = 1) :
    ∀ t : Nat, remF row t = remF row (prevF row t + 1).toNat := by
  intro t
  induction t with
  | zero => simp [prevF, remF]
  | succ t ih =>
    unfold prevF
    split
    · simp
    · next h =>
      rw [← ih]
      show remF row t + row.getD t 0 = remF row t
      have := hbin t
      omega

theorem remF_mono (row : List Int) (hbin : ∀ t, row.getD t 0 = 0 ∨ row.getD t 0 = 1) :
    ∀ (t t' : Nat), t ≤ t' → remF row t ≤ remF row t' := by
  intro t t' h
  induction t' with
  | zero => have : t = 0 := by omega
            subst this; exact Int.le_refl _
  | succ t' ih =>
    by_cases he : t = t' + 1
    · subst he; exact Int.le_refl _
    · have := ih (by omega)
      have := hbin t'
      simp only [remF]; omega

theorem remF_nonneg (row : List Int) (hbin : ∀ t, row.getD t 0 = 0 ∨ row.getD t 0 = 1) (t : Nat) : 0 ≤ remF row t :=
  remF_mono row hbin 0 t (Nat.zero_le t)

def rowOf (I : Psp.Inst) (i : Nat) : List Int := I.d.getD i []
def pdAt (s : St) (i : Nat) : Int := s.pd.getD i (-1)
/-- the units of a row still to produce when the latest pending one is due at `p` -/
def contrib (row : List Int) (p : Int) : Int := if p ≥ 0 then remF row (p.toNat + 1) else 0
def sumTo : Nat → (Nat → Int) → Int
  | 0, _ => 0
  | n + 1, f => sumTo n f + f n
/-- the units still to produce -/
def rem (I : Psp.Inst) (s : St) : Int := sumTo I.n (fun i => contrib (rowOf I i) (pdAt s i))

structure Ok (I : Psp.Inst) (s : St) : Prop where
  len : s.pd.length = I.n
  due : ∀ i, i < I.n → pdAt s i = -1 ∨ (0 ≤ pdAt s i ∧ 0 < (rowOf I i).getD (pdAt s i).toNat 0)

theorem sumTo_congr {n : Nat} {f g : Nat → Int} (h : ∀ i, i < n → f i = g i) : sumTo n f = sumTo n g := by
  induction n with
  | zero => rfl
  | succ n ih => simp only [sumTo]; rw [ih (fun i hi => h i (by omega)), h n (by omega)]

theorem sumTo_le {n : Nat} {f g : Nat → Int} (h : ∀ i, i < n → f i ≤ g i) : sumTo n f ≤ sumTo n g := by
  induction n with
  | zero => exact Int.le_refl _
  | succ n ih =>
    simp only [sumTo]
    have := ih (fun i hi => h i (by omega))
    have := h n (by omega)
    omega

theorem sumTo_zero (N : Nat) : sumTo N (fun _ => 0) = 0 := by
  induction N with
  | zero => rfl
  | succ N ih => simp [sumTo, ih]

theorem sumTo_nonneg {n : Nat} {f : Nat → Int} (h : ∀ i, i < n → 0 ≤ f i) : 0 ≤ sumTo n f := by
  have := sumTo_le (f := fun _ => 0) h
  rwa [sumTo_zero] at this

theorem sumTo_update {n : Nat} {f g : Nat → Int} {c : Nat} (hc : c < n) (h : ∀ i, i < n → i ≠ c → f i = g i) :
    sumTo n f = sumTo n g + (f c - g c) := by
  induction n with
  | zero => omega
  | succ n ih =>
    simp only [sumTo]
    by_cases he : c = n
    · subst he
      rw [sumTo_congr (fun i hi => h i (Nat.lt_succ_of_lt hi) (Nat.ne_of_lt hi))]
      omega
    · rw [ih (Nat.lt_of_le_of_ne (Nat.le_of_lt_succ hc) he) (fun i hi hne => h i (Nat.lt_succ_of_lt hi) hne),
        h n (Nat.lt_succ_self n) (Ne.symm he)]
      omega

theorem sumTo_add (N : Nat) (f g : Nat → Int) : sumTo N (fun i => f i + g i) = sumTo N f + sumTo N g := by
  induction N with
  | zero => rfl
  | succ N ih => simp only [sumTo, ih]; omega

theorem sumTo_mul (c : Int) (f : Nat → Int) : ∀ n : Nat, sumTo n (fun i => c * f i) = c * sumTo n f := by
  intro n
  induction n with
  | zero => simp [sumTo]
  | succ n ih => simp only [sumTo, ih, Int.mul_add]

theorem sumTo_ge_term {n : Nat} {f : Nat → Int} (h : ∀ i, i < n → 0 ≤ f i) {c : Nat} (hc : c < n) : f c ≤ sumTo n f := by
  induction n with
  | zero => omega
  | succ n ih =>
    simp only [sumTo]
    by_cases he : c = n
    · subst he
      have := sumTo_nonneg (n := c) (f := f) (fun i hi => h i (by omega))
      omega
    · have := ih (fun i hi => h i (by omega)) (by omega)
      have := h n (by omega)
      omega

theorem sumTo_ind_le (j n : Nat) : sumTo n (fun i => if j = i then (1 : Int) else 0) ≤ 1 := by
  by_cases hj : j < n
  · rw [sumTo_update (g := fun _ => 0) hj (fun i _ hne => if_neg (Ne.symm hne)), sumTo_zero, if_pos rfl]
    decide
  · rw [sumTo_congr (g := fun _ => 0) (fun i hi => if_neg (by omega)), sumTo_zero]
    decide

theorem sum_append_single (l : List Int) (x : Int) : sum (l ++ [x]) = sum l + x := by
  simp [sum, List.foldl_append]

theorem sum_filter_range (p : Nat → Bool) (g : Nat → Int) : ∀ n : Nat,
    sum (((List.range n).filter p).map g) = sumTo n (fun i => if p i then g i else 0) := by
  intro n
  induction n with
  | zero => rfl
  | succ n ih =>
    rw [List.range_succ, List.filter_append, List.map_append]
    simp only [sumTo]
    cases hp : p n
    · simp [hp, ih]
    · simp only [List.filter_cons, hp, if_true, List.filter_nil, List.map_cons, List.map_nil, sum_append_single, ih]

section
variable {I : Psp.Inst} (hI : InstOk I)
include hI

theorem row_len {i : Nat} (hi : i < I.n) : (rowOf I i).length = I.T := by
  unfold rowOf
  have h1 : i < I.d.length := by rw [hI.drows.1]; exact hi
  rw [List.getD_eq_getElem?_getD, List.getElem?_eq_getElem h1]
  exact (hI.drows.2 _ (List.getElem_mem h1)).1

theorem row_bin (i t : Nat) : (rowOf I i).getD t 0 = 0 ∨ (rowOf I i).getD t 0 = 1 := by
  unfold rowOf
  by_cases h1 : i < I.d.length
  · rw [List.getD_eq_getElem?_getD (l := I.d), List.getElem?_eq_getElem h1]
    simp only [Option.getD_some]
    by_cases h2 : t < I.d[i].length
    · rw [List.getD_eq_getElem?_getD, List.getElem?_eq_getElem h2]
      exact (hI.drows.2 _ (List.getElem_mem h1)).2 _ (List.getElem_mem h2)
    · left; simp [List.getD_eq_getElem?_getD, List.getElem?_eq_none (Nat.le_of_not_lt h2)]
  · left; simp [List.getD_eq_getElem?_getD, List.getElem?_eq_none (Nat.le_of_not_lt h1)]

theorem contrib_nonneg (i : Nat) (p : Int) : 0 ≤ contrib (rowOf I i) p := by
  unfold contrib
  split
  · exact remF_nonneg _ (row_bin hI i) _
  · exact Int.le_refl _

theorem contrib_mono (i : Nat) {p p' : Int} (h : p ≤ p') : contrib (rowOf I i) p ≤ contrib (rowOf I i) p' := by
  unfold contrib
  split
  · next h1 =>
    rw [if_pos (by omega)]
    exact remF_mono _ (row_bin hI i) _ _ (by omega)
  · split
    · exact remF_nonneg _ (row_bin hI i) _
    · exact Int.le_refl _

theorem Ok.lt_T {s : St} (hs : Ok I s) {i : Nat} (hi : i < I.n) : pdAt s i < (I.T : Int) := by
  rcases hs.due i hi with h | ⟨h0, h1⟩
  · omega
  · by_cases hlt : (pdAt s i).toNat < (rowOf I i).length
    · rw [row_len hI hi] at hlt; omega
    · simp [List.getD_eq_getElem?_getD, List.getElem?_eq_none (Nat.le_of_not_lt hlt)] at h1

end

theorem tab_prevD (I : Psp.Inst) {i : Nat} (hi : i < I.n) :
    (tabOf I).prevD.getD i [] = (List.range (I.T + 1)).map (prevF (rowOf I i)) := by
  simp [tabOf, List.getD_eq_getElem?_getD, hi, prevRow_eq, rowOf]

theorem tab_remD (I : Psp.Inst) {i : Nat} (hi : i < I.n) :
    (tabOf I).remD.getD i [] = (List.range I.T).map (fun t => remF (rowOf I i) (t + 1)) := by
  simp [tabOf, List.getD_eq_getElem?_getD, hi, remRow_eq, rowOf]

theorem pdAt_init (I : Psp.Inst) {i : Nat} (hi : i < I.n) : pdAt (initSt (tabOf I)) i = prevF (rowOf I i) I.T := by
  show ((List.range I.n).map (fun i => ((tabOf I).prevD.getD i []).getD I.T (-1))).getD i (-1) = _
  rw [List.getD_eq_getElem?_getD, List.getElem?_map, List.getElem?_range hi]
  simp only [Option.map_some, Option.getD_some]
  rw [tab_prevD I hi]
  simp [List.getD_eq_getElem?_getD]

theorem ok_init (I : Psp.Inst) : Ok I (initSt (tabOf I)) := by
  refine ⟨by show ((List.range I.n).map _).length = I.n; rw [List.length_map, List.length_range], ?_⟩
  intro i hi
  rw [pdAt_init I hi]
  exact prevF_due _ _

/-- the changeover cost paid when `i` is produced and the next produced item is `nx` (`-1`: none) -/
def chgTo (I : Psp.Inst) (nx : Int) (i : Nat) : Int := if nx = -1 then 0 else (I.q.getD i []).getD nx.toNat 0
def stkOf (I : Psp.Inst) (i : Nat) : Int := I.h.getD i 0
def NextOk (I : Psp.Inst) (s : St) : Prop := s.next = -1 ∨ (0 ≤ s.next ∧ s.next < I.n)

theorem natCast_ne_neg_one (i : Nat) : ¬ ((i : Int) = -1) := by omega
theorem natCast_not_neg (i : Nat) : ¬ ((i : Int) < 0) := Int.not_lt.mpr (Int.natCast_nonneg i)

theorem NextOk.cases {I : Psp.Inst} {s : St} (h : NextOk I s) : s.next = -1 ∨ ∃ b : Nat, b < I.n ∧ s.next = (b : Int) := by
  rcases h with h | ⟨h0, h1⟩
  · exact Or.inl h
  · exact Or.inr ⟨s.next.toNat, (Int.toNat_lt h0).mpr h1, (Int.toNat_of_nonneg h0).symm⟩

def produce (I : Psp.Inst) (s : St) (i : Nat) : St :=
  { time := s.time - 1, next := (i : Int), pd := s.pd.set i (prevF (rowOf I i) (pdAt s i).toNat) }
def idle (s : St) : St := { s with time := s.time - 1 }

theorem pd_getElem? {s : St} {i : Nat} (h : i < s.pd.length) : s.pd[i]? = some (pdAt s i) := by
  unfold pdAt
  rw [List.getD_eq_getElem?_getD, List.getElem?_eq_getElem h]; rfl

theorem pdAt_set (s : St) {i : Nat} (hi : i < s.pd.length) (p : Int) (t : Nat) (nx : Int) (j : Nat) :
    pdAt { time := t, next := nx, pd := s.pd.set i p } j = if j = i then p else pdAt s j := by
  unfold pdAt
  simp only [List.getD_eq_getElem?_getD, List.getElem?_set]
  by_cases h : i = j
  · subst h; simp [hi]
  · have : ¬ j = i := fun h' => h h'.symm
    simp [h, this]

section
variable {I : Psp.Inst} (hI : InstOk I)
include hI

theorem remOf?_eq {s : St} (hs : Ok I s) : remOf? (tabOf I) s = some (rem I s) := by
  unfold remOf?
  have hn : (tabOf I).n = I.n := rfl
  rw [hn, EMax.mapM_total _ (fun i => contrib (rowOf I i) (pdAt s i))]
  · simp only [Option.bind_eq_bind, Option.bind_some, Option.pure_def, Option.some.injEq]
    rw [sum_filter_range]
    unfold rem
    apply sumTo_congr
    intro i _
    show (if decide (s.pd.getD i (-1) ≥ 0) = true then contrib (rowOf I i) (pdAt s i) else 0) = contrib (rowOf I i) (pdAt s i)
    by_cases h : pdAt s i ≥ 0
    · exact if_pos (decide_eq_true h)
    · exact (if_neg (fun h' => h (of_decide_eq_true h'))).trans (if_neg h).symm
  · intro i hi
    rw [List.mem_filter, List.mem_range] at hi
    obtain ⟨hi, hp⟩ := hi
    have hp : 0 ≤ pdAt s i := of_decide_eq_true hp
    have hlt := hs.lt_T hI hi
    have he : s.pd.getD i 0 = pdAt s i := by
      have : i < s.pd.length := by rw [hs.len]; exact hi
      simp [pdAt, List.getD_eq_getElem?_getD, List.getElem?_eq_getElem this]
    rw [tab_remD I hi, he]
    have : (pdAt s i).toNat < I.T := by omega
    simp [contrib, hp, this]

theorem validB_iff {s : St} (hs : Ok I s) : validB (tabOf I) s = true ↔ rem I s ≤ (s.time : Int) := by
  unfold validB
  rw [remOf?_eq hI hs]
  simp

omit hI in
theorem mem_domain_iff (T : Tab) (x : Nat) (s : St) (d : Int) :
    d ∈ domain T x s ↔ ∃ rm, remOf? T s = some rm ∧ rm ≤ (x : Int) + 1 ∧
      ((d = -1 ∧ rm < (x : Int) + 1) ∨ ∃ i : Nat, i < T.n ∧ d = (i : Int) ∧ (x : Int) ≤ s.pd.getD i (-1)) := by
  unfold domain domain?
  cases hrem : remOf? T s with
  | none =>
    constructor
    · intro h; cases h
    · rintro ⟨_, h, _⟩; cases h
  | some rm =>
    simp only [Option.bind_eq_bind, Option.bind_some, Option.pure_def, Option.some.injEq, exists_eq_left']
    by_cases h1 : rm > (x : Int) + 1
    · simp only [h1, if_true, Option.getD_some, List.not_mem_nil, false_iff]
      intro h; omega
    · simp only [h1, if_false, Option.getD_some, List.mem_append, List.mem_map, List.mem_filter, List.mem_range]
      constructor
      · rintro (⟨i, ⟨hi, hp⟩, rfl⟩ | h)
        · exact ⟨Int.not_lt.mp h1, Or.inr ⟨i, hi, rfl, of_decide_eq_true hp⟩⟩
        · split at h
          · next h2 => exact ⟨Int.not_lt.mp h1, Or.inl ⟨List.mem_singleton.mp h, h2⟩⟩
          · cases h
      · rintro ⟨_, (⟨rfl, h2⟩ | ⟨i, hi, rfl, hp⟩)⟩
        · right; simp [h2]
        · left; exact ⟨i, ⟨hi, decide_eq_true hp⟩, rfl⟩

theorem mem_domain {s : St} (hs : Ok I s) (x : Nat) (d : Int) :
    d ∈ domain (tabOf I) x s ↔
      rem I s ≤ (x : Int) + 1 ∧ ((d = -1 ∧ rem I s < (x : Int) + 1) ∨ ∃ i : Nat, i < I.n ∧ d = (i : Int) ∧ (x : Int) ≤ pdAt s i) := by
  rw [mem_domain_iff, remOf?_eq hI hs]
  simp only [Option.some.injEq, exists_eq_left']
  rfl

omit hI in
theorem trans_idle {s : St} (ht : s.time ≠ 0) (x : Nat) : trans (tabOf I) s ⟨x, -1⟩ = idle s := by
  simp [trans, trans?, ht, idle]

theorem trans_item {s : St} (hs : Ok I s) (ht : s.time ≠ 0) (x : Nat) {i : Nat} (hi : i < I.n) (hp : 0 ≤ pdAt s i) :
    trans (tabOf I) s ⟨x, (i : Int)⟩ = produce I s i := by
  have hlen : i < s.pd.length := by rw [hs.len]; exact hi
  have hlt := hs.lt_T hI hi
  have h1 := natCast_ne_neg_one i
  have h2 := natCast_not_neg i
  have h3 := pd_getElem? hlen
  have h4 : ¬ (pdAt s i < 0) := by omega
  have h5 : (pdAt s i).toNat < I.T + 1 := by omega
  simp only [trans, trans?, ht, if_false, h1, h2, Int.toNat_natCast, h3, h4, tab_prevD I hi]
  simp [h5, produce]

theorem trans_item' {s : St} (hs : Ok I s) (ht : s.time ≠ 0) (x : Nat) {i : Nat} (hi : i < I.n) (hp : 0 ≤ pdAt s i) :
    trans (tabOf I) s ⟨x, (i : Int)⟩ = produce I s i := trans_item hI hs ht x hi hp

omit hI in
theorem trans_idle' {s : St} (ht : s.time ≠ 0) (x : Nat) : trans (tabOf I) s ⟨x, -1⟩ = idle s := trans_idle ht x

omit hI in
theorem cost_idle (s : St) (x : Nat) : cost (tabOf I) s ⟨x, -1⟩ = 0 := by
  simp [cost, cost?]

theorem stk_getElem? {i : Nat} (hi : i < I.n) : (tabOf I).stk[i]? = some (stkOf I i) := by
  have hh : i < I.h.length := by rw [hI.hrow.1]; exact hi
  show I.h[i]? = some (I.h.getD i 0)
  rw [List.getD_eq_getElem?_getD, List.getElem?_eq_getElem hh]; rfl

theorem cost_item {s : St} (hs : Ok I s) (hnx : NextOk I s) (x : Nat) {i : Nat} (hi : i < I.n) :
    cost (tabOf I) s ⟨x, (i : Int)⟩ = -(chgTo I s.next i + stkOf I i * (pdAt s i - (x : Int))) := by
  have hlen : i < s.pd.length := by rw [hs.len]; exact hi
  simp only [cost, cost?, natCast_ne_neg_one, natCast_not_neg, if_false, Int.toNat_natCast, pd_getElem? hlen,
    stk_getElem? hI hi]
  rcases hnx.cases with hn | ⟨b, hb, hn⟩
  · rw [hn, chgTo, if_pos rfl, if_pos rfl]; rfl
  · have hq : i < I.q.length := by rw [hI.qrows.1]; exact hi
    have h7 : b < (I.q.getD i []).length := by
      rw [List.getD_eq_getElem?_getD, List.getElem?_eq_getElem hq]
      exact (hI.qrows.2 _ (List.getElem_mem hq)).1.symm ▸ hb
    rw [hn, chgTo, if_neg (natCast_ne_neg_one b), if_neg (natCast_ne_neg_one b), if_neg (natCast_not_neg b),
      Int.toNat_natCast, List.getD_eq_getElem?_getD (l := I.q.getD i []), List.getElem?_eq_getElem h7]
    show (match (I.q.getD i [])[b]? with
      | some c => some (-(c + stkOf I i * (pdAt s i - (x : Int))))
      | none => none).getD 0 = _
    rw [List.getElem?_eq_getElem h7]; rfl

end

theorem contrib_prevF (row : List Int) (hbin : ∀ t, row.getD t 0 = 0 ∨ row.getD t 0 = 1) (t : Nat) :
    contrib row (prevF row t) = remF row t := by
  have h1 := prevF_lt row t
  have h2 := remF_prevF row hbin t
  unfold contrib
  split
  · next h =>
    rw [h2]; congr 1; omega
  · next h =>
    have : prevF row t = -1 := by omega
    rw [h2, this]; rfl

theorem contrib_due (row : List Int) (hbin : ∀ t, row.getD t 0 = 0 ∨ row.getD t 0 = 1) {c : Int} (h0 : 0 ≤ c)
    (hd : 0 < row.getD c.toNat 0) : contrib row c = remF row c.toNat + 1 := by
  unfold contrib
  rw [if_pos h0]
  simp only [remF]
  have := hbin c.toNat
  omega

section
variable {I : Psp.Inst} (hI : InstOk I)
include hI

omit hI in
theorem pdAt_produce {s : St} (hs : Ok I s) {i : Nat} (hi : i < I.n) (j : Nat) :
    pdAt (produce I s i) j = if j = i then prevF (rowOf I i) (pdAt s i).toNat else pdAt s j :=
  pdAt_set s (by rw [hs.len]; exact hi) _ _ _ j

omit hI in
theorem ok_produce {s : St} (hs : Ok I s) {i : Nat} (hi : i < I.n) : Ok I (produce I s i) where
  len := by simp [produce, hs.len]
  due := by
    intro j hj
    rw [pdAt_produce hs hi]
    split
    · next h => subst h; exact prevF_due _ _
    · exact hs.due j hj

omit hI in
theorem ok_idle {s : St} (hs : Ok I s) : Ok I (idle s) := ⟨hs.len, hs.due⟩

omit hI in
theorem rem_idle (s : St) : rem I (idle s) = rem I s := rfl

theorem rem_produce {s : St} (hs : Ok I s) {i : Nat} (hi : i < I.n) (hp : 0 ≤ pdAt s i) :
    rem I (produce I s i) = rem I s - 1 := by
  unfold rem
  rw [sumTo_update (c := i) (f := fun j => contrib (rowOf I j) (pdAt s j))
    (g := fun j => contrib (rowOf I j) (pdAt (produce I s i) j)) hi]
  · simp only [pdAt_produce hs hi, if_true]
    rw [contrib_prevF _ (row_bin hI i)]
    rcases hs.due i hi with h | ⟨h0, h1⟩
    · omega
    · rw [contrib_due _ (row_bin hI i) h0 h1]; omega
  · intro j _ hne
    simp only [pdAt_produce hs hi, if_neg hne]

theorem domain_cases {s : St} (hs : Ok I s) (ht : s.time ≠ 0) {x : Nat} {d : Int} (hd : d ∈ domain (tabOf I) x s) :
    rem I s ≤ (x : Int) + 1 ∧
    ((d = -1 ∧ rem I s < (x : Int) + 1 ∧ trans (tabOf I) s ⟨x, d⟩ = idle s) ∨
     ∃ i : Nat, i < I.n ∧ d = (i : Int) ∧ (x : Int) ≤ pdAt s i ∧ trans (tabOf I) s ⟨x, d⟩ = produce I s i) := by
  obtain ⟨h1, h2⟩ := (mem_domain hI hs x d).mp hd
  refine ⟨h1, ?_⟩
  rcases h2 with ⟨rfl, h2⟩ | ⟨i, hi, rfl, hp⟩
  · exact Or.inl ⟨rfl, h2, trans_idle ht x⟩
  · exact Or.inr ⟨i, hi, rfl, hp, trans_item hI hs ht x hi (by omega)⟩

theorem trans_time {s : St} (hs : Ok I s) (ht : s.time ≠ 0) {x : Nat} {d : Int} (hd : d ∈ domain (tabOf I) x s) :
    (trans (tabOf I) s ⟨x, d⟩).time = s.time - 1 := by
  rcases (domain_cases hI hs ht hd).2 with ⟨_, _, h⟩ | ⟨i, _, _, _, h⟩ <;> rw [h] <;> rfl

theorem ok_trans {s : St} (hs : Ok I s) (ht : s.time ≠ 0) {x : Nat} {d : Int} (hd : d ∈ domain (tabOf I) x s) :
    Ok I (trans (tabOf I) s ⟨x, d⟩) := by
  rcases (domain_cases hI hs ht hd).2 with ⟨_, _, h⟩ | ⟨i, hi, _, _, h⟩ <;> rw [h]
  · exact ok_idle hs
  · exact ok_produce hs hi

end

theorem bestRem_zero (T : Tab) {s : St} (h : s.time = 0) : bestRem T s = some 0 := by
  unfold bestRem; rw [h]; rfl

theorem bestRem_succ (T : Tab) {s : St} (h : s.time ≠ 0) :
    bestRem T s = (domain T (s.time - 1) s).foldl (fun acc v =>
      EInt.max acc ((bestRemF T (s.time - 1) (trans T s ⟨s.time - 1, v⟩)).addI (cost T s ⟨s.time - 1, v⟩))) none := by
  unfold bestRem
  obtain ⟨k, hk⟩ : ∃ k, s.time = k + 1 := ⟨s.time - 1, by omega⟩
  rw [hk]
  simp only [bestRemF, hk, Nat.add_sub_cancel]
  simp

section
variable {I : Psp.Inst} (hI : InstOk I)
include hI

theorem bestRem_ge {s : St} (hs : Ok I s) (ht : s.time ≠ 0) {d : Int} (hd : d ∈ domain (tabOf I) (s.time - 1) s) :
    (bestRem (tabOf I) (trans (tabOf I) s ⟨s.time - 1, d⟩)).addI (cost (tabOf I) s ⟨s.time - 1, d⟩) ≤ bestRem (tabOf I) s := by
  rw [bestRem_succ _ ht]
  have := (EMax.foldl_max_spec (fun v => (bestRemF (tabOf I) (s.time - 1) (trans (tabOf I) s ⟨s.time - 1, v⟩)).addI
    (cost (tabOf I) s ⟨s.time - 1, v⟩)) (domain (tabOf I) (s.time - 1) s) none).2.1 d hd
  unfold bestRem
  rw [trans_time hI hs ht hd]
  exact this

theorem bestRem_att {s : St} (hs : Ok I s) (ht : s.time ≠ 0) {h : Int} (hh : bestRem (tabOf I) s = some h) :
    ∃ d ∈ domain (tabOf I) (s.time - 1) s, ∃ h', bestRem (tabOf I) (trans (tabOf I) s ⟨s.time - 1, d⟩) = some h' ∧
      h = h' + cost (tabOf I) s ⟨s.time - 1, d⟩ := by
  rw [bestRem_succ _ ht] at hh
  obtain ⟨d, hd, h', hb, e⟩ := EMax.foldl_max_addI_att
    (fun v => bestRemF (tabOf I) (s.time - 1) (trans (tabOf I) s ⟨s.time - 1, v⟩)) (fun v => cost (tabOf I) s ⟨s.time - 1, v⟩) _ hh
  refine ⟨d, hd, h', ?_, e⟩
  unfold bestRem
  rw [trans_time hI hs ht hd]
  exact hb

omit hI in
theorem time_pred {s : St} {k : Nat} (h : s.time = k + 1) : s.time - 1 = k := by rw [h]; rfl

omit hI in
theorem time_ne {s : St} {k : Nat} (h : s.time = k + 1) : s.time ≠ 0 := by rw [h]; exact Nat.succ_ne_zero k

omit hI in
theorem nextOk_produce (s : St) {i : Nat} (hi : i < I.n) : NextOk I (produce I s i) :=
  Or.inr ⟨Int.natCast_nonneg i, Int.ofNat_lt.mpr hi⟩

/-- one period down: the value of idling, or of producing an item whose pending unit is not due before the period -/
theorem bestRem_step {s : St} {k : Nat} (hs : Ok I s) (hnx : NextOk I s) (ht : s.time = k + 1) {h : Int}
    (hh : bestRem (tabOf I) s = some h) :
    rem I s ≤ (k : Int) + 1 ∧
    ((rem I s < (k : Int) + 1 ∧ bestRem (tabOf I) (idle s) = some h) ∨
     ∃ i, i < I.n ∧ (k : Int) ≤ pdAt s i ∧ ∃ h1, bestRem (tabOf I) (produce I s i) = some h1 ∧
       h = h1 - (chgTo I s.next i + stkOf I i * (pdAt s i - (k : Int)))) := by
  have ht0 := time_ne ht
  obtain ⟨d, hd, h1, hh1, hcost⟩ := bestRem_att hI hs ht0 hh
  rw [time_pred ht] at hd hh1 hcost
  obtain ⟨hrem, hcase⟩ := domain_cases hI hs ht0 hd
  refine ⟨hrem, ?_⟩
  rcases hcase with ⟨rfl, hlt, htr⟩ | ⟨i, hi, rfl, hp, htr⟩
  · rw [htr] at hh1
    rw [cost_idle, Int.add_zero] at hcost
    exact Or.inl ⟨hlt, hcost ▸ hh1⟩
  · rw [htr] at hh1
    rw [cost_item hI hs hnx k hi] at hcost
    exact Or.inr ⟨i, hi, hp, h1, hh1, by rw [Int.sub_eq_add_neg]; exact hcost⟩

theorem bestRem_ge_some {s : St} (hs : Ok I s) (ht : s.time ≠ 0) {d h2 : Int} (hd : d ∈ domain (tabOf I) (s.time - 1) s)
    (hb : bestRem (tabOf I) (trans (tabOf I) s ⟨s.time - 1, d⟩) = some h2) :
    ∃ h', bestRem (tabOf I) s = some h' ∧ h2 + cost (tabOf I) s ⟨s.time - 1, d⟩ ≤ h' := by
  have := bestRem_ge hI hs ht hd
  rw [hb] at this
  exact EMax.of_some_le this

theorem bestRem_idle_le {s : St} {k : Nat} (hs : Ok I s) (ht : s.time = k + 1) (hrem : rem I s < (k : Int) + 1) {h2 : Int}
    (hb : bestRem (tabOf I) (idle s) = some h2) : ∃ h', bestRem (tabOf I) s = some h' ∧ h2 ≤ h' := by
  have ht0 := time_ne ht
  have hd : (-1 : Int) ∈ domain (tabOf I) (s.time - 1) s := by
    rw [time_pred ht]
    exact (mem_domain hI hs _ (-1)).mpr ⟨Int.le_of_lt hrem, Or.inl ⟨rfl, hrem⟩⟩
  obtain ⟨h', hb', hle⟩ := bestRem_ge_some hI hs ht0 hd (by rw [trans_idle ht0]; exact hb)
  rw [cost_idle, Int.add_zero] at hle
  exact ⟨h', hb', hle⟩

theorem bestRem_produce_le {s : St} {k : Nat} (hs : Ok I s) (hnx : NextOk I s) (ht : s.time = k + 1) {i : Nat} (hi : i < I.n)
    (hrem : rem I s ≤ (k : Int) + 1) (hp : (k : Int) ≤ pdAt s i) {h2 : Int}
    (hb : bestRem (tabOf I) (produce I s i) = some h2) :
    ∃ h', bestRem (tabOf I) s = some h' ∧ h2 - (chgTo I s.next i + stkOf I i * (pdAt s i - (k : Int))) ≤ h' := by
  have ht0 := time_ne ht
  have hx := time_pred ht
  have hd : (i : Int) ∈ domain (tabOf I) (s.time - 1) s := by
    rw [hx]
    exact (mem_domain hI hs _ i).mpr ⟨hrem, Or.inr ⟨i, hi, rfl, hp⟩⟩
  obtain ⟨h', hb', hle⟩ := bestRem_ge_some hI hs ht0 hd (by
    rw [trans_item hI hs ht0 _ hi (Int.le_trans (Int.natCast_nonneg k) hp)]; exact hb)
  rw [cost_item hI hs hnx _ hi, hx] at hle
  exact ⟨h', hb', by rw [Int.sub_eq_add_neg]; exact hle⟩

end

end Ddo.Examples.PspModel
