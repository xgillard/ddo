import DdoModel.Examples.SopDp
import DdoModel.Examples.EMax
/-! The statements about the model of the sop example (`SopDp.lean`) that the driver engine `exmodel`, family `sop`, evaluates
    pointwise (`def …Stmt : Prop`), and first facts.  The true ones are proved in `SopProofs*.lean` for every table the reader
    builds from an instance of the input domain (`TabOk`, `DomOk`); the witnesses that these hypotheses are needed are listed in
    `SopProofsWf.lean`.

    Two findings stand here as kernel-evaluated witnesses on recorded instances.  D12: with the `can_schedule` shipped first
    (`canScheduleOld?`) `merge` + `relax` lose completions of merged-away states (`d12_refutes_MergeOkStmt`); the repair only
    changes what merged states and their descendants do (`canSchedule?_exact`, `trans?_exact`).  D19: the rough bound as first
    shipped (`rubOld?`) compares the largest mandatory edge with the FIRST optional one and is not admissible on merged states
    (`rub_refutes_RubAdmissibleStmt`); `rubFixed?` takes the lesser of the two sums, and the bound of the repaired code `rub?` is
    `rubFixed?` wherever that one does not overflow (`rub?_eq_of_rubFixed?`). -/
namespace Ddo.Examples.SopModel
open Ddo Ddo.Examples Ddo.Examples.Util

theorem filter_prefix_zero (l : List (List Nat)) (h : ∀ q ∈ l, ∃ r, q = 0 :: r) :
    l.filter (fun q => ([0] : List Nat).isPrefixOf q) = l := by
  apply List.filter_eq_self.mpr
  intro q hq
  obtain ⟨r, rfl⟩ := h q hq
  simp [List.isPrefixOf]

theorem specSeqs_head (n : Nat) : ∀ q ∈ specSeqs n, ∃ r, q = 0 :: r := by
  intro q hq
  unfold specSeqs at hq
  split at hq
  · simp at hq; exact ⟨[], hq⟩
  · obtain ⟨p, _, rfl⟩ := List.mem_map.mp hq
    exact ⟨p ++ [n - 1], rfl⟩

theorem spec_eq_specBestIn (n : Nat) (d : Nat → Nat → Int) :
    (specBestIn (specSeqs n) d []).getD (-1) = Sop.spec n d := by
  unfold specBestIn
  rw [filter_prefix_zero _ (specSeqs_head n)]
  rfl

variable (T : Tab)

theorem relax_eq (a b m : St) (d : Dec) (c : Int) : (relaxation T).relax a b m d c = c := rfl
theorem rankCmp_eq (a b : St) : rankCmp a b = compare a.depth b.depth := rfl
theorem maxWidth_eq (nbVars factor depth : Nat) : maxWidth nbVars factor depth = nbVars * (depth + 1) * factor := rfl

theorem trans?_depth {s s2 : St} {d : Dec} (h : trans? T s d = some s2) : s2.depth = s.depth + 1 := by
  unfold trans? at h
  split at h
  · cases h
  · split at h
    · simp at h; subst h; rfl
    · obtain ⟨p, _, hp⟩ := Option.bind_eq_some_iff.mp h
      simp at hp; subst hp; rfl

theorem trans?_prev {s s2 : St} {d : Dec} (h : trans? T s d = some s2) : s2.prev = .job d.val.toNat := by
  unfold trans? at h
  split at h
  · cases h
  · split at h
    · simp at h; subst h; rfl
    · obtain ⟨p, _, hp⟩ := Option.bind_eq_some_iff.mp h
      simp at hp; subst hp; rfl

theorem trans?_maybe_none {s s2 : St} {d : Dec} (h : trans? T s d = some s2) (hs : s.maybe = none) : s2.maybe = none := by
  unfold trans? at h
  split at h
  · cases h
  · split at h
    · simp at h; subst h; rfl
    · rename_i y hy; rw [hs] at hy; cases hy

theorem trans?_exact {s : St} (d : Dec) (hs : s.maybe = none) : trans? T s d = transOld? s d := by
  unfold trans? transOld?
  split
  · rfl
  · simp [hs]

theorem canSchedule?_exact {s : St} (j : Nat) (hs : s.maybe = none) : canSchedule? T s j = canScheduleOld? T s j := by
  unfold canSchedule? canScheduleOld? pending
  cases hp : T.pred[j]? with
  | none => rfl
  | some p =>
    simp only [hs, Option.getD_none, Nat.or_zero, Option.bind_eq_bind, Option.bind_some]
    by_cases h : (p &&& s.must) = 0 <;> simp [h]

theorem nextVar_eq_some {k : Nat} (h : k < T.n - 1) : nextVar T k = some k := by
  simp [nextVar, nv, h]

theorem domain?_last {s : St} (hn : 2 ≤ T.n) (h : s.depth = T.n - 2) :
    domain? T s = some [((T.n - 1 : Nat) : Int)] := by
  unfold domain? domainWith?
  have : ¬ T.n ≤ 1 := by omega
  simp [this, h]

theorem merge_nil : merge [] = { prev := .virt 0, must := full256, maybe := none, depth := 0 } := by
  simp [merge, diff]

theorem merge_prev_virt (X : List St) : ∃ c, (merge X).prev = .virt c := ⟨_, rfl⟩

theorem merge_depth_ge (X : List St) (s : St) (hs : s ∈ X) : s.depth ≤ (merge X).depth :=
  (EMax.foldl_natMax_spec St.depth X 0).2.1 s hs

theorem chk_eq_some {x y : Int} (h : chk x = some y) : y = x ∧ imin ≤ y ∧ y ≤ imax := by
  unfold chk at h
  split at h
  · simp at h; subst h; omega
  · cases h

theorem cost?_le_imax {s : St} {d : Dec} {c : Int} (h : cost? T s d = some c) : imin ≤ c ∧ c ≤ imax := by
  unfold cost? at h
  split at h
  · split at h
    · split at h
      · exact (chk_eq_some h).2
      · cases h
    · cases h
  · obtain ⟨w, _, hw⟩ := Option.bind_eq_some_iff.mp h
    exact (chk_eq_some hw).2

theorem mergeOkWith_mono {hu hm hm' : EInt} {c r : Int} (h : mergeOkWith hu hm c r = true) (hle : hm ≤ hm') :
    mergeOkWith hu hm' c r = true := by
  unfold mergeOkWith at *
  cases hu with
  | none => rfl
  | some a =>
    cases hm with
    | none => simp at h
    | some b =>
      cases hm' with
      | none => exact absurd hle (by simp)
      | some b' =>
        have hb : b ≤ b' := hle
        simp only [decide_eq_true_eq] at h ⊢
        omega

def exactB (s : St) : Bool := s.maybe.isNone && (match s.prev with | .job _ => true | .virt _ => false)

/-- on exact states the rough bound as first shipped (`rubOld?`) dominates the value-to-go (theorem `rubAdmissibleExact`,
    `SopProofsWf.lean`, under `TabOk T` and `DomOk T`) -/
def RubAdmissibleExactStmt : Prop :=
  ∀ (s : St) (r : Int), validB T s = true → exactB s = true → rubOld? T s = some r → bestRem T s ≤ some r

/-- on every valid state the rough bound as first shipped dominates the value-to-go of every exact state it stands for.
    REFUTED pointwise on merged states (driver note `sop-rub`, finding D19): the mandatory / optional selection of that
    `fast_upper_bound` compares the largest mandatory edge with the FIRST optional edge -/
def RubAdmissibleStmt : Prop :=
  ∀ (s : St) (r : Int), validB T s = true → rubOld? T s = some r → bestRemConc T s ≤ some r

/-- the stronger reading: the rough bound dominates the value-to-go of the relaxed DP itself.  REFUTED pointwise (the relaxed
    DP may leave mandatory jobs of a merged state out, `domain?_last`); harmless: no solution is lost -/
def RubDominatesRelaxedDpStmt : Prop :=
  ∀ (s : St) (r : Int), validB T s = true → rubOld? T s = some r → bestRem T s ≤ some r

/-- `merge` + `relax` over-approximate every merged-away state (potential form), in the DP of the REPAIRED code (`canSchedule?`,
    `trans?`): theorem `mergeOk`, `SopProofsMerge.lean`, under `TabOk T` (a violation is the driver note `sop-merge`) -/
def MergeOkStmt : Prop :=
  ∀ (X : List St) (u : St) (c : Int), u ∈ X → validB T u = true → (∀ s ∈ X, validB T s = true ∧ s.depth = u.depth) →
    mergeOkAt T u (merge X) c (relaxCost c) = true

/-- the same in the DP shipped before the repair (`canScheduleOld?`, `transOld?`).  REFUTED: finding D12,
    `d12_refutes_MergeOkStmt` -/
def MergeOkOldStmt : Prop :=
  ∀ (X : List St) (u : St) (c : Int), u ∈ X → validB T u = true → (∀ s ∈ X, validB T s = true ∧ s.depth = u.depth) →
    mergeOkOldAt T u (merge X) c (relaxCost c) = true

/-- the old DP with `can_schedule` weakened, in the merged state, to "no predecessor MUST still be scheduled" -/
def MergeOkLaxStmt : Prop :=
  ∀ (X : List St) (u : St) (c : Int), u ∈ X → validB T u = true → (∀ s ∈ X, validB T s = true ∧ s.depth = u.depth) →
    mergeOkLaxAt T u (merge X) c (relaxCost c) = true

/-- the weakened rule only adds completions to the old DP (stated only) -/
def LaxDominatesStmt : Prop := ∀ (s : St), bestRemOld T s ≤ bestRemLax T s

/-- the DP model is exact: value of a prefix + value-to-go = minus the least cost, by the specification, among the sequences
    that extend the prefix (`none` = −∞ = no such sequence); theorem `dpExact_partial`, `SopProofsExact.lean` (at most 256
    jobs, entries `≤ 2^63`) -/
def DpExactStmt (n : Nat) (rows : List (List Int)) : Prop :=
  inDomain n rows = true →
  ∀ (decs : List Nat) (s : St) (v : Int) (k : Nat),
    evalFrom (problem (tabOf n rows)) 0 (initSt (tabOf n rows)) 0
      ((List.range decs.length).zipWith (fun (i : Nat) (x : Nat) => (⟨i, (x : Int)⟩ : Dec)) decs) = some (s, v, k) →
    (bestRem (tabOf n rows) s).addI v = (specBestIn (specSeqs n) (dfun (tabOf n rows)) decs).map (fun x => -x)

/-- the recorded witness of D12 (`corpus/C16/cases.txt`, the distances halved): 6 jobs, one precedence "3 before 2" -/
def d12Rows : List (List Int) :=
  [[0, 3, 3, 2, 2, 2], [-1, 0, 1, 2, 2, 1], [-1, 1, 0, -1, 1, 3], [-1, 2, 2, 0, 3, 3], [-1, 2, 0, 3, 0, 2], [-1, -1, -1, -1, -1, 0]]
def d12T : Tab := tabOf 6 d12Rows
/-- the merged-away state: jobs 3 and 4 done (job 2 may follow), at job 4 -/
def d12u : St := ⟨.job 4, ofList [1, 2, 5], none, 2⟩
/-- the exact layer of depth 2, in breadth-first order (what the harness merged) -/
def d12X : List St :=
  [⟨.job 3, ofList [2, 4, 5], none, 2⟩, ⟨.job 4, ofList [2, 3, 5], none, 2⟩, ⟨.job 1, ofList [2, 4, 5], none, 2⟩,
   ⟨.job 2, ofList [1, 4, 5], none, 2⟩, d12u, ⟨.job 1, ofList [2, 3, 5], none, 2⟩, ⟨.job 3, ofList [1, 2, 5], none, 2⟩]

theorem d12_inDomain : inDomain 6 d12Rows = true := by decide +kernel
theorem d12_merge : merge d12X = ⟨.virt (ofList [1, 2, 3, 4]), ofList [5], some (ofList [1, 2, 3, 4]), 2⟩ := by decide +kernel
/-- the rule shipped before the repair blocks job 2 on the merged state (job 3, its predecessor, is "maybe to do"); the
    repaired rule allows it (job 3 is done in `d12u`) -/
theorem d12_can_schedule : canScheduleOld d12T (merge d12X) 2 = false ∧ canSchedule? d12T (merge d12X) 2 = some true ∧
    canScheduleOld d12T d12u 2 = true := by decide +kernel
theorem d12_values : bestRemOld d12T d12u = some (-2) ∧ bestRemOld d12T (merge d12X) = some (-3) ∧
    bestRemLax d12T (merge d12X) = some (-1) ∧ bestRem d12T d12u = some (-2) ∧ bestRem d12T (merge d12X) = some (-2) := by
  decide +kernel

/-- D12 in the model, about the rule shipped BEFORE the repair (`canScheduleOld`): `merge` + `relax` do NOT over-approximate
    the merged-away state `d12u` (value-to-go `-2`: `4 → 2 → 1 → 5`; the merged state only reaches `-3`, job 3 being "maybe to
    do" blocks job 2) -/
theorem d12_refutes_MergeOkStmt : ¬ MergeOkOldStmt d12T := by
  intro h
  have h1 := h d12X d12u (-3) (by decide +kernel) (by decide +kernel) (by decide +kernel)
  rw [mergeOkOldAt, d12_values.1, d12_values.2.1] at h1
  exact absurd h1 (by decide)

theorem d12_lax_ok : mergeOkLaxAt d12T d12u (merge d12X) (-3) (relaxCost (-3)) = true := by
  rw [mergeOkLaxAt, d12_values.1, d12_values.2.2.1]; decide

theorem d12_repaired : mergeOkAt d12T d12u (merge d12X) (-3) (relaxCost (-3)) = true := by
  rw [mergeOkAt, d12_values.2.2.2.1, d12_values.2.2.2.2]; decide

/-- an instance of the domain (7 jobs, no precedence among the inner jobs) met by the driver (note `sop-rub`) -/
def rubRows : List (List Int) :=
  [[0, 9, 8, 8, 2, 5, 4], [-1, 0, 5, 8, 1, 9, 3], [-1, 8, 0, 9, 7, 7, 4], [-1, 3, 1, 0, 3, 0, 3], [-1, 7, 5, 2, 0, 9, 2],
   [-1, 2, 8, 8, 4, 0, 1], [-1, -1, -1, -1, -1, -1, 0]]
def rubT : Tab := tabOf 7 rubRows
/-- a state below a merged state: at job 4, job 6 mandatory, two of the jobs 1, 3, 5 still to do -/
def rubS : St := ⟨.job 4, ofList [6], some (ofList [1, 3, 5]), 3⟩

theorem rub_inDomain : inDomain 7 rubRows = true := by decide +kernel
theorem rub_values : validB rubT rubS = true ∧ rubOld? rubT rubS = some (-4) ∧ bestRemConc rubT rubS = some (-3) := by
  decide +kernel

/-- D19 in the model: the rough bound as first shipped (`rubOld?`) is NOT admissible on this state: it answers `-4`, the exact
    state `(Job 4, {3, 5, 6})` it stands for completes with `4 → 3 → 5 → 6` for `2 + 0 + 1 = 3` (mandatory edges `[1]`, optional
    edges `[0, 2, 8]`, three positions left: the code summed `0 + 2` where `1 + 0` is the sound choice) -/
theorem rub_refutes_RubAdmissibleStmt : ¬ RubAdmissibleStmt rubT := by
  intro h
  have h1 := h rubS (-4) rub_values.1 rub_values.2.1
  rw [rub_values.2.2] at h1
  exact absurd ((EInt.some_le_some _ _).mp h1) (by decide)

theorem rubFinalFixed_eq_of_ge {ct nMust : Nat} (dist : Int) (toMust toMaybe : List Int) (h : nMust ≥ ct) :
    rubFinalFixed ct nMust dist toMust toMaybe = rubFinal ct nMust dist toMust toMaybe := by
  simp [rubFinalFixed, rubFinal, h]

theorem rubFinalFixed_eq_of_nil {ct nMust : Nat} (dist : Int) (toMaybe : List Int) :
    rubFinalFixed ct nMust dist [] toMaybe = rubFinal ct nMust dist [] toMaybe := by
  simp [rubFinalFixed, rubFinal]

theorem rubFixed?_eq_of_must_ge (s : St) (hv : card s.must ≥ nv T - s.depth) (hd : s.depth ≤ nv T) (hn : T.n ≠ 0) :
    rubFixed? T s = rubOld? T s := by
  unfold rubFixed? rubOld? rubWith?
  have hnb : nbVars? T = some (T.n - 1) := by simp [nbVars?, hn]
  have hd' : ¬ s.depth > T.n - 1 := by unfold nv at hd; omega
  simp only [hnb, Option.bind_eq_bind, Option.bind_some, hd', if_false]
  have hge : (bits s.must).length ≥ T.n - 1 - s.depth := by unfold card nv at hv; exact hv
  simp [rubFinalFixed_eq_of_ge _ _ _ hge]

/-- on the recorded point the corrected bound is `-3` (= the value-to-go of the exact state it stands for), and the violation
    by the `-4` first shipped is of the class `sop-rub-optional-edge` -/
theorem rub_fixed_values : rubFixed? rubT rubS = some (-3) ∧ rubOkAt rubT rubS (-3) = true ∧
    rubOptionalEdgeAt rubT rubS (-4) = true := by
  have h1 : rubFixed? rubT rubS = some (-3) := by decide +kernel
  have h2 : rubOkAt rubT rubS (-3) = true := by rw [rubOkAt, rub_values.2.2]; decide
  refine ⟨h1, h2, ?_⟩
  rw [rubOptionalEdgeAt, rub_values.2.1, h1]
  show (_ && rubOkAt rubT rubS (-3)) = true
  rw [h2]; decide

theorem satAdd_eq_of_addC {a b x : Int} (h : addC a b = some x) : satAdd a b = x := by
  obtain ⟨rfl, h1, h2⟩ := chk_eq_some h
  unfold satAdd
  omega

theorem rubFinalSat_eq_of_some {ct nMust : Nat} {dist : Int} {toMust toMaybe : List Int} {r : Int}
    (h : rubFinalFixed ct nMust dist toMust toMaybe = some r) : rubFinalSat ct nMust dist toMust toMaybe = some r := by
  unfold rubFinalFixed at h
  unfold rubFinalSat
  split at h
  · split at h
    · cases h
    · obtain ⟨a, ha, hr⟩ := Option.bind_eq_some_iff.mp h
      simp [*, satAdd_eq_of_addC ha]
  · split at h
    · obtain ⟨a, ha, hr⟩ := Option.bind_eq_some_iff.mp h
      simp [*, satAdd_eq_of_addC ha]
    · obtain ⟨a, ha, hr⟩ := Option.bind_eq_some_iff.mp h
      simp [*, satAdd_eq_of_addC ha]

theorem rubWith?_mono {f g : Nat → Nat → Int → List Int → List Int → Option Int}
    (hfg : ∀ ct nm d a b r, f ct nm d a b = some r → g ct nm d a b = some r) {s : St} {r : Int}
    (h : rubWith? T f s = some r) : rubWith? T g s = some r := by
  unfold rubWith? at h ⊢
  simp only [Option.bind_eq_bind, Option.bind_eq_some_iff] at h ⊢
  obtain ⟨nbv, h1, ct, h2, rm, h3, dist, h4, rmy, h5, d2, h6, h7⟩ := h
  exact ⟨nbv, h1, ct, h2, rm, h3, dist, h4, rmy, h5, d2, h6, hfg _ _ _ _ _ _ h7⟩

/-- the bound of the repaired code is the bound corrected for D19 wherever that one does not overflow -/
theorem rub?_eq_of_rubFixed? {s : St} {r : Int} (h : rubFixed? T s = some r) : rub? T s = some r :=
  rubWith?_mono T (fun _ _ _ _ _ _ h => rubFinalSat_eq_of_some h) h

/-- the corrected bound is admissible on every valid state (argument in the comment of `rubFinalFixed`; theorem
    `rubFixedAdmissible`, `SopProofsWf.lean`, under `TabOk T` and `DomOk T`) -/
def RubFixedAdmissibleStmt : Prop :=
  ∀ (s : St) (r : Int), validB T s = true → rubFixed? T s = some r → bestRemConc T s ≤ some r

end Ddo.Examples.SopModel
