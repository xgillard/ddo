import DdoModel.Examples.SrflpDp
import DdoModel.Examples.EMax
/-! Statements about the Lean model of the srflp example (`SrflpDp.lean`), and first facts about it: the merge operator as
    shipped ALWAYS returns an empty `must_place` (the accumulator of the intersection starts empty) and keeps every department of
    every merged state in `maybe_place`; `relax` leaves the cost alone.
    What the driver checks pointwise on every generated case is stated as `def … : Prop` and proved in `SrflpProofs*.lean` under
    extra hypotheses, because these statements are NOT theorems as written: `InstOk` bounds neither `n ≤ 64` (`trans?` answers
    `none` for a department `≥ 64`, `trans` then leaves the state alone: with 65 departments the root can "place" department 64
    for ever at cost 0) nor ties `sl` / `sf` to the instance (`rubAdmissible_needs_tabSorted`), and `validB` accepts lists with
    repeated members (`must = [2, 2, 2]`), for which `MergeOkStmt` fails (evaluated, `SrflpProofsRub.lean`).  None of this is
    reachable by the example (`Set64`, `Srflp::new`).  The bound as shipped is admissible for small ratios only: two ratios may
    collide as `f32` (`RubF32CounterexampleStmt`). -/
namespace Ddo.Examples.SrflpModel
open Ddo Ddo.Examples Ddo.Examples.Util

variable (T : Tab)

theorem spec_eq_table : Srflp.spec T.n (lenOf T) (flow T) = (specBestExt (specTable T) []).getD (-2) := by
  have hfilter : (specTable T).filter (fun e => e.1.take (([] : List Int).map Int.toNat).length == ([] : List Int).map Int.toNat) = specTable T := by
    apply List.filter_eq_self.mpr
    intro e _
    simp
  unfold specBestExt
  simp only [List.any_nil, Bool.false_eq_true, if_false]
  rw [hfilter]
  unfold Srflp.spec specTable
  simp only [List.map_map]
  congr 1

/-- `SrflpRelax::relax` leaves the cost of the arc alone -/
theorem relax_id (a b c : St) (d : Dec) (x : Int) : (relaxation T).relax a b c d x = x := rfl
/-- `SrflpRanking::compare` compares the depths -/
theorem rank_eq (a b : St) : rankCmp a b = compare a.depth b.depth := rfl
theorem maxWidth_eq (nb f : Nat) : maxWidth nb f = nb * f := rfl
/-- the default `is_impacted_by` -/
theorem impacted_true (x : Nat) (s : St) : (problem T).impacted x s = true := rfl
theorem nextVar_eq (k : Nat) (L : List St) : (problem T).nextVar k L = if k < T.n then some k else none := rfl

theorem foldl_inter_nil (X : List St) : X.foldl (fun m s => interSet m s.must) [] = [] := by
  induction X with
  | nil => rfl
  | cons a r ih => simpa [List.foldl_cons, interSet] using ih

/-- `SrflpRelax::merge` as shipped: the merged `must_place` is ALWAYS empty (the intersection is accumulated from
    `Set64::empty()`), whatever the states — even for a single state, even when all states agree -/
theorem merge_must_nil (X : List St) : (mergeStates T X).must = [] := by
  unfold mergeStates
  exact foldl_inter_nil X

theorem merge_depth_ge (X : List St) : ∀ u ∈ X, u.depth ≤ (mergeStates T X).depth :=
  (EMax.foldl_natMax_spec St.depth X 0).2.1

theorem mem_insSet (x y : Nat) : ∀ l : List Nat, y ∈ insSet x l ↔ y = x ∨ y ∈ l := by
  intro l
  induction l with
  | nil => simp [insSet]
  | cons a r ih =>
    unfold insSet
    by_cases h1 : x < a
    · simp [h1]
    · by_cases h2 : x = a
      · subst h2; simp
      · simp only [h1, h2, if_false, List.mem_cons, ih]
        constructor
        · rintro (h | h | h) <;> simp [h]
        · rintro (h | h | h) <;> simp [h]

theorem mem_unionSet (y : Nat) : ∀ (b a : List Nat), y ∈ unionSet a b ↔ y ∈ a ∨ y ∈ b := by
  intro b
  induction b with
  | nil => intro a; simp [unionSet]
  | cons x r ih =>
    intro a
    have h := ih (insSet x a)
    unfold unionSet at h ⊢
    simp only [List.foldl_cons]
    rw [h, mem_insSet]
    simp only [List.mem_cons]
    constructor
    · rintro ((h | h) | h) <;> simp [h]
    · rintro (h | h | h) <;> simp [h]

theorem foldl_union_mem (y : Nat) (X : List St) : ∀ u0 : List Nat,
    y ∈ X.foldl (fun u s => unionSet (unionSet u s.must) (s.maybe.getD [])) u0 ↔
      y ∈ u0 ∨ ∃ s ∈ X, y ∈ s.must ∨ y ∈ s.maybe.getD [] := by
  induction X with
  | nil => intro u0; simp
  | cons a r ih =>
    intro u0
    simp only [List.foldl_cons]
    rw [ih, mem_unionSet, mem_unionSet]
    simp only [List.mem_cons, exists_eq_or_imp]
    constructor
    · rintro (((h | h) | h) | h)
      · exact Or.inl h
      · exact Or.inr (Or.inl (Or.inl h))
      · exact Or.inr (Or.inl (Or.inr h))
      · exact Or.inr (Or.inr h)
    · rintro (h | (h | h) | h)
      · exact Or.inl (Or.inl (Or.inl h))
      · exact Or.inl (Or.inl (Or.inr h))
      · exact Or.inl (Or.inr h)
      · exact Or.inr h

/-- the departments the merged state may place are exactly those some merged state must or may place (nothing is lost:
    every completion of a merged state starts with a department the merged state offers, as long as it offers `maybe_place`) -/
theorem merge_maybe_mem (X : List St) (y : Nat) :
    y ∈ (mergeStates T X).maybe.getD [] ↔ ∃ s ∈ X, y ∈ s.must ∨ y ∈ s.maybe.getD [] := by
  have hm : (X.foldl (fun m s => interSet m s.must) []) = [] := foldl_inter_nil X
  have hd : ∀ l : List Nat, diffSet l [] = l := by
    intro l; unfold diffSet; simp
  unfold mergeStates
  simp only [hm, hd]
  have h := foldl_union_mem y X []
  simp only [List.not_mem_nil, false_or] at h
  by_cases he : (X.foldl (fun u s => unionSet (unionSet u s.must) (s.maybe.getD [])) []).isEmpty = true
  · simp only [he, if_true, Option.getD_none, List.not_mem_nil, false_iff]
    rw [← h]
    rw [List.isEmpty_iff] at he
    simp [he]
  · simp only [he, Bool.false_eq_true, if_false, Option.getD_some]
    exact h

theorem merge_maybe_ne_nil (X : List St) : (mergeStates T X).maybe ≠ some [] := by
  unfold mergeStates
  simp only
  split
  · simp
  · rename_i h
    intro hc
    apply h
    have := Option.some.inj hc
    rw [this]
    rfl

theorem bestRem_terminal (s : St) (h : T.n ≤ s.depth) : bestRem T s = some 0 := by
  unfold bestRem
  have : T.n - s.depth = 0 := by omega
  rw [this]
  rfl

-- what the driver checks pointwise; `RubAdmissibleStmt` and `RubF32CounterexampleStmt` are not proved in Lean

/-- the instances of the example's domain: one positive length per department, a square symmetric matrix of non-negative flows -/
def InstOk : Prop := inDomainB T = true

/-- the states a compilation can build (`validB`: not terminal, disjoint sets of departments, `must_place` fits in the free
    positions and the two sets fill them, non-negative cuts) -/
def StOk (s : St) : Prop := validB T s = true

/-- the ratios `cut / length` of the state are small enough for `f32` to order them like the exact ratios: two different ratios
    differ by at least `1 / (cut · length)` relatively, three roundings of relative size `2^-24` cannot swap them -/
def SmallRatios (s : St) : Prop :=
  ∀ i ∈ s.must ++ s.maybe.getD [], ∀ j, j < T.n → s.cut.getD i 0 * lenOf T j < 2 ^ 22

/-- `RubOk`: the rough upper bound dominates the value-to-go of every such state — FOR SMALL RATIOS.  Without `SmallRatios` the
    statement is false (`RubF32CounterexampleStmt`; the driver's `srflp-rub-f32`). -/
def RubAdmissibleStmt : Prop :=
  InstOk T → ∀ s r, StOk T s → SmallRatios T s → rubF32? T s = some r → bestRem T s ≤ (some r : EInt)

/-- the bound with EXACTLY compared ratios (the repair: compare `c l' ` with `c' l` in integers) is admissible without
    any size hypothesis.  As written (any `Tab` with `InstOk`) it is false (`rubAdmissible_needs_tabSorted`); proved for
    `TabSorted` tables, `n ≤ 64`, sets listed increasingly: `rubAdmissible_exactRatio` -/
def RubAdmissibleExactRatioStmt : Prop :=
  InstOk T → ∀ s r, StOk T s → rubExactRatio? T s = some r → bestRem T s ≤ (some r : EInt)

/-- the bound as shipped is NOT admissible on the whole domain: the witness the driver replays in every run (`corpus` case of
    the family; 5 departments, lengths `13 7 7 9 9`, department 0 exchanges `1835012` with 1 and 2, `2359301` with 3 and 4), the
    state reached by placing department 0 first: the code answers `-100139225`, the best completion is worth `-100139221` -/
def RubF32CounterexampleStmt : Prop :=
  let Tw := tabOf 5 [13, 7, 7, 9, 9]
    [[0, 1835012, 1835012, 2359301, 2359301], [1835012, 0, 0, 0, 0], [1835012, 0, 0, 0, 0], [2359301, 0, 0, 0, 0], [2359301, 0, 0, 0, 0]] false
  let sw : St := { depth := 1, must := [1, 2, 3, 4], maybe := none, cut := [0, 1835012, 1835012, 2359301, 2359301] }
  inDomainB Tw = true ∧ validB Tw sw = true ∧ rubF32? Tw sw = some (-100139225) ∧ bestRem Tw sw = some (-100139221)

/-- `MergeOk` (potential form; `relax` is the identity): the merged state is worth at least as much as every merged state
    (states of one depth, valid or terminal) -/
def MergeOkStmt : Prop :=
  InstOk T →
  ∀ (X : List St) (u : St) (h : Int), u ∈ X → (∀ w ∈ X, (StOk T w ∨ w.depth = T.n) ∧ w.depth = u.depth) → bestRem T u = some h →
    ∃ h', bestRem T (mergeStates T X) = some h' ∧ h ≤ h'

/-- the DP model is exact and the printed objective is the specification's: twice (`root_value()` minus the value-to-go of
    the root) is the least `cost2` over all orders, i.e. `Srflp.spec` (`spec_eq_table`) -/
def DpExactStmt : Prop :=
  InstOk T → printed2 T 0 (bestRem T (initSt T)) = specBestExt (specTable T) []

/-- the same along every path of the model: after the decisions `decs` (value `v`, state `s`) twice the best objective still
    reachable is the least `cost2` among the orders that begin with `decs`.  This is what the driver compares pointwise
    along its walks; the closed corollary `srflp_relaxed_ub` needs the empty prefix (`DpExactStmt`) only -/
def DpExactPrefixStmt : Prop :=
  InstOk T → ∀ (decs : List Int) (s : St) (v : Int) (k : Nat),
    evalFrom (problem T) 0 (initSt T) 0 ((List.range decs.length).zipWith (fun (k : Nat) (x : Int) => (⟨k, x⟩ : Dec)) decs) = some (s, v, k) →
    printed2 T v (bestRem T s) = specBestExt (specTable T) decs

end Ddo.Examples.SrflpModel
