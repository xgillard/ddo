import DdoModel.Examples.SrflpModel
import DdoModel.Examples.SmithRule
/-! Smith's rule for the cut part of the srflp rough bound: the fold of `rubWith?` is `wct`, the sort by decreasing exact ratio
    gives `SmithSorted`, hence the cut part is at most the weighted completion cost of every order (`cutBound_le`). -/

namespace Ddo.Examples.SrflpModel
open Ddo Ddo.Examples Ddo.Examples.Util

theorem cutBound_fold (rs : List ((Int × Int × Int) × Int × Int)) (a B : Int) :
    (rs.foldl (fun (acc : Int × Int) r => (acc.1 + acc.2 * r.2.2, acc.2 + r.2.1)) (a, B)).1
      = a + wct B (rs.map (fun r => (r.2.1, r.2.2))) := by
  induction rs generalizing a B with
  | nil => simp
  | cons r rs ih =>
    simp only [List.foldl_cons, List.map_cons, wct_cons, ih]
    omega

theorem ratio_trans_le {la lb lc ca cb cc : Int} (hb : 0 < lb) (ha : 0 ≤ la) (hc : 0 ≤ lc)
    (h1 : ca * lb ≤ cb * la) (h2 : cb * lc ≤ cc * lb) : ca * lc ≤ cc * la := by
  have e1 : ca * lc * lb = ca * lb * lc := Int.mul_right_comm ..
  have e2 : cb * la * lc = cb * lc * la := Int.mul_right_comm ..
  have e3 : cc * lb * la = cc * la * lb := Int.mul_right_comm ..
  have i1 := Int.mul_le_mul_of_nonneg_right h1 hc
  have i2 := Int.mul_le_mul_of_nonneg_right h2 ha
  apply Int.le_of_mul_le_mul_right _ hb
  omega

theorem leRatioExact_iff (a b : (Int × Int × Int) × Int × Int) :
    leRatioExact a b = true ↔
      (a.2.2 * b.2.1 < b.2.2 * a.2.1 ∨
        (a.2.2 * b.2.1 = b.2.2 * a.2.1 ∧ (a.2.1 < b.2.1 ∨ (a.2.1 = b.2.1 ∧ a.2.2 ≤ b.2.2)))) := by
  unfold leRatioExact
  generalize a.2.2 * b.2.1 = x
  generalize b.2.2 * a.2.1 = y
  by_cases hxy : x = y
  · subst hxy
    simp
  · simp [hxy]

theorem leRatioExact_le {a b : (Int × Int × Int) × Int × Int} (h : leRatioExact a b = true) :
    a.2.2 * b.2.1 ≤ b.2.2 * a.2.1 := by
  rcases (leRatioExact_iff a b).mp h with h | h <;> omega

theorem leRatioExact_trans {a b c : (Int × Int × Int) × Int × Int} (ha : 0 < a.2.1) (hb : 0 < b.2.1) (hc : 0 < c.2.1)
    (h1 : leRatioExact a b = true) (h2 : leRatioExact b c = true) : leRatioExact a c = true := by
  have w1 := leRatioExact_le h1
  have w2 := leRatioExact_le h2
  have w3 := ratio_trans_le hb (Int.le_of_lt ha) (Int.le_of_lt hc) w1 w2
  rw [leRatioExact_iff] at h1 h2 ⊢
  by_cases hlt : a.2.2 * c.2.1 < c.2.2 * a.2.1
  · exact Or.inl hlt
  · right
    have heq : a.2.2 * c.2.1 = c.2.2 * a.2.1 := by omega
    -- a strictly smaller ratio on either side would, through the third entry, contradict the equality
    have n1 : ¬ a.2.2 * b.2.1 < b.2.2 * a.2.1 := fun h => by
      have := ratio_trans_le hc (Int.le_of_lt hb) (Int.le_of_lt ha) w2 (Int.le_of_eq heq.symm)
      omega
    have n2 : ¬ b.2.2 * c.2.1 < c.2.2 * b.2.1 := fun h => by
      have := ratio_trans_le ha (Int.le_of_lt hc) (Int.le_of_lt hb) (Int.le_of_eq heq.symm) w1
      omega
    refine ⟨heq, ?_⟩
    rcases h1 with h1 | ⟨_, h1⟩
    · exact absurd h1 n1
    rcases h2 with h2 | ⟨_, h2⟩
    · exact absurd h2 n2
    omega

theorem leRatioExact_total (a b : (Int × Int × Int) × Int × Int) : (leRatioExact a b || leRatioExact b a) = true := by
  rw [Bool.or_eq_true, leRatioExact_iff, leRatioExact_iff]
  generalize a.2.2 * b.2.1 = x
  generalize b.2.2 * a.2.1 = y
  omega

/-- the comparison of the sort, made globally transitive and total: entries with a non-positive length come first -/
def leSmith' (a b : (Int × Int × Int) × Int × Int) : Bool :=
  if 0 < a.2.1 then (if 0 < b.2.1 then leRatioExact b a else false) else true

theorem leSmith'_trans (a b c : (Int × Int × Int) × Int × Int) (h1 : leSmith' a b = true) (h2 : leSmith' b c = true) :
    leSmith' a c = true := by
  unfold leSmith' at *
  by_cases ha : 0 < a.2.1
  · by_cases hb : 0 < b.2.1
    · by_cases hc : 0 < c.2.1
      · simp only [ha, hb, hc, if_true] at h1 h2 ⊢
        exact leRatioExact_trans hc hb ha h2 h1
      · simp [hb, hc] at h2
    · simp [ha, hb] at h1
  · simp [ha]

theorem leSmith'_total (a b : (Int × Int × Int) × Int × Int) : (leSmith' a b || leSmith' b a) = true := by
  unfold leSmith'
  by_cases ha : 0 < a.2.1 <;> by_cases hb : 0 < b.2.1 <;> simp [ha, hb]
  exact Bool.or_eq_true .. ▸ leRatioExact_total b a

theorem mergeSort_leSmith' (rs : List ((Int × Int × Int) × Int × Int)) (hpos : ∀ r ∈ rs, 0 < r.2.1) :
    rs.mergeSort (fun a b => leRatioExact b a) = rs.mergeSort leSmith' := by
  have h := List.map_mergeSort (r := fun a b => leRatioExact b a) (s := leSmith') (f := id) (l := rs)
    (by
      intro a ha b hb
      simp [leSmith', hpos a ha, hpos b hb])
  simpa using h

theorem smithSorted_mergeSort (rs : List ((Int × Int × Int) × Int × Int)) (hpos : ∀ r ∈ rs, 0 < r.2.1) :
    SmithSorted ((rs.mergeSort (fun a b => leRatioExact b a)).map (fun r => (r.2.1, r.2.2))) := by
  rw [mergeSort_leSmith' rs hpos]
  unfold SmithSorted
  rw [List.pairwise_map]
  refine List.Pairwise.imp_of_mem ?_ (List.pairwise_mergeSort leSmith'_trans leSmith'_total rs)
  intro a b ha hb h
  have ha' := hpos a (List.mem_mergeSort.mp ha)
  have hb' := hpos b (List.mem_mergeSort.mp hb)
  simp only [leSmith', ha', hb', if_true] at h
  exact leRatioExact_le h

/-- the cut part of the bound is a lower bound of the weighted completion cost of EVERY order of the same jobs -/
theorem cutBound_le (rs : List ((Int × Int × Int) × Int × Int)) (hpos : ∀ r ∈ rs, 0 < r.2.1)
    (js' : List (Int × Int)) (hp : js'.Perm (rs.map (fun r => (r.2.1, r.2.2)))) :
    ((rs.mergeSort (fun a b => leRatioExact b a)).foldl (fun (acc : Int × Int) r => (acc.1 + acc.2 * r.2.2, acc.2 + r.2.1)) (0, 0)).1
      ≤ wct 0 js' := by
  rw [cutBound_fold, Int.zero_add]
  apply smith_rule_optimal 0 (smithSorted_mergeSort rs hpos)
  exact hp.trans ((List.mergeSort_perm rs _).map _).symm

#print axioms cutBound_le

end Ddo.Examples.SrflpModel
