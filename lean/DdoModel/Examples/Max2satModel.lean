import DdoModel.Examples.Max2satDp
import DdoModel.Proofs.SpecUtil
/-! max2sat example: the statements, and the relaxation (`rub_admissible`, `merge_ok`) on the model `Max2satDp.lean`.

`TabOk`: the variable order is a permutation of the variables, `initial` is the sum of the tautology weights, the `est` / `nk`
tables are the ones `precompute_estimates` / `precompute_nks` build (decided per instance by the driver: `tabOkB`).  Weights of
any sign; the order plays no role.  Both results rest on one fact about a decision and a free variable (`settled_true`,
`settled_false`): what the transition cost pays now and what is owed on the variable afterwards make up what was owed before plus
the clause left open.  For `merge_ok` (what the driver evaluates pointwise as `mergeOkAt`): the loss a completion can suffer on a
free variable (`owedGap`) is INVARIANT under transitions (`mstep_eq`), and for the merged benefit (`0`, or same sign and least
absolute value: `mergeSub_prop`) it is at most `|t[v]| - |merged[v]|`, which is what `relax` adds to the arc cost.

`next_variable` reads the depth from the first state of the list it is handed and `relax` adds a state-dependent correction, so
the hypotheses `WfRel` / `NoClampDom` of `C06.relaxed_ub_rel_dom` are UNSATISFIABLE for this model (`wfRel_false`,
`noClampDom_false`, `Max2satProofsWf.lean`); the corollaries go through `CoverRel.relaxed_ub_rel_valid`. -/
namespace Ddo.Examples.Max2satModel
open Ddo Ddo.Examples Ddo.Examples.Util Ddo.SpecUtil

variable (T : Tab)

def absSum (s : St) (L : List Nat) : Int := (L.map (fun l => absI (get s l))).sum

structure TabOk : Prop where
  perm : T.order.Perm (List.range T.n)
  initial_eq : T.initial = tautSum T T.order
  est_eq : T.est = (List.range T.n).map (estimate T.n T.w T.order)
  nk_eq : T.nk = (List.range T.n).map (nkOf T.n T.w T.order)

/-- `tabOkB` is what the driver evaluates on every instance -/
theorem tabOkB_iff : tabOkB T = true ↔ TabOk T := by
  simp only [tabOkB, Bool.and_eq_true, List.isPerm_iff, beq_iff_eq]
  constructor
  · rintro ⟨⟨⟨h1, h2⟩, h3⟩, h4⟩; exact ⟨h1, h2, h3, h4⟩
  · rintro ⟨h1, h2, h3, h4⟩; exact ⟨⟨⟨h1, h2⟩, h3⟩, h4⟩

theorem foldl_add_map {α : Type} (f : α → Int) (L : List α) (a : Int) :
    L.foldl (fun acc l => acc + f l) a = a + (L.map f).sum := SpecUtil.foldl_add_map f L a

theorem sum_map_add {α : Type} (f g : α → Int) (L : List α) :
    (L.map (fun l => f l + g l)).sum = (L.map f).sum + (L.map g).sum := SpecUtil.sum_map_add f g L

theorem sum_map_le {α : Type} (f g : α → Int) (L : List α) (h : ∀ l ∈ L, f l ≤ g l) :
    (L.map f).sum ≤ (L.map g).sum := SpecUtil.sum_map_le f g L h

theorem sum_map_zero {α : Type} (L : List α) : (L.map (fun _ => (0 : Int))).sum = 0 := SpecUtil.sum_map_zero L

theorem offset_comm (n : Nat) (x y : Int) : offset n x y = offset n y x := by
  simp only [offset, Int.min_comm x y, Int.max_comm x y]

theorem wOf_comm (n : Nat) (w : Array Int) (x y : Int) : wOf n w x y = wOf n w y x := by
  simp only [wOf, offset_comm n x y]

theorem wt_comm (x y : Int) : T.wt x y = T.wt y x := wOf_comm _ _ _ _

theorem estOver_snoc (n : Nat) (w : Array Int) (L : List Nat) (x : Nat) :
    estOver n w (L ++ [x]) = estOver n w L + (L.map (fun l => pairMax n w l x)).sum + selfTerm n w x := by
  induction L with
  | nil => simp [estOver]
  | cons v L ih =>
    simp only [List.cons_append, estOver, ih, foldl_add_map, List.map_append, List.sum_append, List.map_cons,
      List.map_nil, List.sum_cons, List.sum_nil]
    omega

theorem getD_addAt (r : List Int) (a i : Nat) (d : Int) (hi : i < r.length) :
    ((addAt r a d)[i]?).getD 0 = (r[i]?).getD 0 + (if a = i then d else 0) := by
  simp only [addAt, List.getElem?_modify, List.getElem?_eq_getElem hi, Option.map_eq_map, Option.map_some,
    Option.getD_some]
  split <;> omega

theorem length_fold_addAt (δ : Nat → Int) (L : List Nat) (r : List Int) :
    (L.foldl (fun r l => addAt r l (δ l)) r).length = r.length := by
  induction L generalizing r with
  | nil => rfl
  | cons a L ih => rw [List.foldl_cons, ih]; simp only [addAt, List.length_modify]

theorem getD_fold_addAt (δ : Nat → Int) (L : List Nat) (hnd : L.Nodup) (r : List Int) (i : Nat) (hi : i < r.length) :
    ((L.foldl (fun r l => addAt r l (δ l)) r)[i]?).getD 0 = (r[i]?).getD 0 + (if i ∈ L then δ i else 0) := by
  induction L generalizing r with
  | nil => simp
  | cons a L ih =>
    have hnd' := List.nodup_cons.mp hnd
    have hi' : i < (addAt r a (δ a)).length := by simp only [addAt, List.length_modify]; exact hi
    rw [List.foldl_cons, ih hnd'.2 _ hi', getD_addAt r a i (δ a) hi]
    by_cases hai : a = i
    · subst hai
      simp [hnd'.1]
    · have : i ≠ a := fun h => hai h.symm
      simp [hai, this]

/-- what a transition adds to the benefit of a free variable -/
def delta (x : Nat) (v : Int) (l : Nat) : Int :=
  if v = -1 then T.wt (tLit x) (tLit l) - T.wt (tLit x) (fLit l) else T.wt (fLit x) (tLit l) - T.wt (fLit x) (fLit l)

theorem trans_eq (s : St) (d : Dec) :
    trans T s d = (s.1 + 1, (varset T s.1).foldl (fun r l => addAt r l (delta T d.var d.val l)) (s.2.set d.var 0)) := by
  unfold trans delta
  by_cases h : d.val = -1 <;> simp [h]

theorem trans_depth (s : St) (d : Dec) : (trans T s d).1 = s.1 + 1 := by rw [trans_eq]

theorem trans_length (s : St) (d : Dec) : (trans T s d).2.length = s.2.length := by
  rw [trans_eq]; simp only [length_fold_addAt, List.length_set]

theorem get_trans_eq (s : St) (d : Dec) (hnd : (varset T s.1).Nodup) (i : Nat) (hi : i < s.2.length) :
    get (trans T s d) i
      = (if d.var = i then 0 else get s i) + (if i ∈ varset T s.1 then delta T d.var d.val i else 0) := by
  rw [trans_eq]
  simp only [get]
  rw [getD_fold_addAt _ _ hnd _ _ (by simpa using hi), List.getElem?_set]
  by_cases h : d.var = i
  · simp [h, hi]
  · simp [h]

theorem get_trans (s : St) (d : Dec) (hnd : (varset T s.1).Nodup) (l : Nat) (hl : l ∈ varset T s.1)
    (hlt : l < s.2.length) (hne : l ≠ d.var) :
    get (trans T s d) l = get s l + delta T d.var d.val l := by
  rw [get_trans_eq T s d hnd l hlt, if_neg (fun h => hne h.symm), if_pos hl]

theorem order_facts {T : Tab} (h : TabOk T) : T.order.length = T.n ∧ T.order.Nodup ∧ ∀ l ∈ T.order, l < T.n :=
  ⟨by rw [h.perm.length_eq, List.length_range], (h.perm.nodup_iff).mpr List.nodup_range,
   fun l hl => List.mem_range.mp (h.perm.mem_iff.mp hl)⟩

/-- `x` is the variable decided in the state `s`, and `L` are the variables still free afterwards -/
structure FreeAfter (s : St) (x : Nat) (L : List Nat) : Prop where
  varset_eq : varset T s.1 = L
  nodup : (L ++ [x]).Nodup
  lt : ∀ l ∈ L, l < s.2.length

theorem next_free (h : TabOk T) {m : Nat} {s : St} (hs : s.2.length = T.n) (hd : s.1 + (m + 1) = T.n) :
    ∃ x, nextVar T [s] = some x ∧ T.order.take (m + 1) = T.order.take m ++ [x] ∧
      FreeAfter T s x (T.order.take m) := by
  obtain ⟨hlen, hnd, hmem⟩ := order_facts h
  have hm : m < T.order.length := by omega
  have htake : T.order.take (m + 1) = T.order.take m ++ [T.order[m]] := List.take_succ_eq_append_getElem hm
  refine ⟨T.order[m], ?_, htake, ?_, ?_, fun l hl => ?_⟩
  · have h1 : s.1 < T.n := by omega
    have h2 : T.n - s.1 - 1 = m := by omega
    simp only [nextVar, h1, if_true, h2, List.getElem?_eq_getElem hm]
  · unfold varset; congr 1; omega
  · rw [← htake]; exact (List.take_sublist _ _).nodup hnd
  · rw [hs]; exact hmem l ((List.take_sublist _ _).subset hl)

theorem get_trans_free {s : St} {x : Nat} {L : List Nat} (hf : FreeAfter T s x L) (v : Int) {l : Nat} (hl : l ∈ L) :
    get (trans T s ⟨x, v⟩) l = get s l + delta T x v l := by
  obtain ⟨hndL, _, hx⟩ := List.nodup_append.mp hf.nodup
  exact get_trans T s ⟨x, v⟩ (hf.varset_eq ▸ hndL) l (hf.varset_eq ▸ hl) (hf.lt l hl)
    (fun e => hx l hl x (List.mem_singleton_self x) e)

def costHead (s : St) (x : Nat) (v : Int) : Int :=
  if v = -1 then pos (- get s x) + T.wt (fLit x) (fLit x) else pos (get s x) + T.wt (tLit x) (tLit x)

def costTerm (s : St) (x : Nat) (v : Int) (l : Nat) : Int :=
  if v = -1 then
    (T.wt (fLit x) (fLit l) + T.wt (fLit x) (tLit l))
      + min (pos (get s l) + T.wt (tLit x) (tLit l)) (pos (- get s l) + T.wt (tLit x) (fLit l))
  else
    (T.wt (tLit x) (fLit l) + T.wt (tLit x) (tLit l))
      + min (pos (get s l) + T.wt (fLit x) (tLit l)) (pos (- get s l) + T.wt (fLit x) (fLit l))

theorem cost_eq (s : St) (d : Dec) :
    cost T s d = costHead T s d.var d.val + ((varset T s.1).map (costTerm T s d.var d.val)).sum := by
  unfold cost costHead costTerm
  by_cases h : d.val = -1
  · simp only [h, if_true, foldl_add_map]; omega
  · simp only [h, if_false, foldl_add_map]; omega

theorem cost_eq_free {s : St} {x : Nat} {L : List Nat} (hf : FreeAfter T s x L) (v : Int) :
    cost T s ⟨x, v⟩ = costHead T s x v + (L.map (costTerm T s x v)).sum :=
  hf.varset_eq ▸ cost_eq T s ⟨x, v⟩

/-! For the decision on `x` and a free variable `l` of benefit `a`, one clause on the two stays open whichever value `l`
    takes: of weight `p` if `l` becomes true, `q` if false.  `costTerm` pays `min (a⁺ + p) ((-a)⁺ + q)` of it now and
    `delta = p - q` is added to the benefit: what is paid now and what is owed afterwards make up exactly what was owed
    before plus the open clause, for either value of `l`. -/

theorem absI_eq (a : Int) : absI a = pos a + pos (-a) := by unfold absI pos; omega

theorem settled_true (a p q : Int) : min (pos a + p) (pos (-a) + q) + pos (a + (p - q)) = pos a + p := by
  unfold pos; omega

theorem settled_false (a p q : Int) : min (pos a + p) (pos (-a) + q) + pos (-(a + (p - q))) = pos (-a) + q := by
  have := settled_true (-a) q p
  rwa [Int.neg_neg, Int.min_comm, show -a + (q - p) = -(a + (p - q)) by omega] at this

theorem settled_abs (a p q : Int) :
    min (pos a + p) (pos (-a) + q) + absI (a + (p - q)) ≤ absI a + max p q := by
  have := settled_true a p q
  have := settled_false a p q
  have : 0 ≤ pos a := Int.le_max_left ..
  have : 0 ≤ pos (-a) := Int.le_max_left ..
  rw [absI_eq, absI_eq]; omega

/-- each of the four assignments of a pair satisfies three of its four clauses -/
theorem pairMax_ge (n : Nat) (w : Array Int) (vi vj : Nat) :
    wOf n w (tLit vi) (tLit vj) + wOf n w (tLit vi) (fLit vj) + wOf n w (fLit vi) (tLit vj) ≤ pairMax n w vi vj ∧
    wOf n w (tLit vi) (tLit vj) + wOf n w (tLit vi) (fLit vj) + wOf n w (fLit vi) (fLit vj) ≤ pairMax n w vi vj ∧
    wOf n w (tLit vi) (tLit vj) + wOf n w (fLit vi) (tLit vj) + wOf n w (fLit vi) (fLit vj) ≤ pairMax n w vi vj ∧
    wOf n w (tLit vi) (fLit vj) + wOf n w (fLit vi) (tLit vj) + wOf n w (fLit vi) (fLit vj) ≤ pairMax n w vi vj :=
  ⟨Int.le_trans (Int.le_max_left ..) (Int.le_max_left ..), Int.le_trans (Int.le_max_right ..) (Int.le_max_left ..),
   Int.le_trans (Int.le_max_left ..) (Int.le_max_right ..), Int.le_trans (Int.le_max_right ..) (Int.le_max_right ..)⟩

/-- the heart of the bound: what the decision on `x` gains on the clauses shared with the free variable `l`, plus what is
    still owed on `l` afterwards, is at most what was owed on `l` before plus the best assignment of the pair -/
theorem step_le (s : St) (x : Nat) (v : Int) (l : Nat) :
    costTerm T s x v l + absI (get s l + delta T x v l) ≤ absI (get s l) + pairMax T.n T.w l x := by
  obtain ⟨h1, h2, h3, h4⟩ := pairMax_ge T.n T.w l x
  unfold costTerm delta Tab.wt
  rw [wOf_comm _ _ (tLit x) (tLit l), wOf_comm _ _ (tLit x) (fLit l), wOf_comm _ _ (fLit x) (tLit l),
    wOf_comm _ _ (fLit x) (fLit l)]
  split
  · have := settled_abs (get s l) (wOf T.n T.w (tLit l) (tLit x)) (wOf T.n T.w (fLit l) (tLit x)); omega
  · have := settled_abs (get s l) (wOf T.n T.w (tLit l) (fLit x)) (wOf T.n T.w (fLit l) (fLit x)); omega

theorem head_le (s : St) (x : Nat) (v : Int) :
    costHead T s x v + tautOf T x ≤ absI (get s x) + selfTerm T.n T.w x := by
  simp only [costHead, tautOf, selfTerm, Tab.wt, absI_eq]
  have : 0 ≤ pos (get s x) := Int.le_max_left ..
  have : 0 ≤ pos (-get s x) := Int.le_max_left ..
  split <;> omega

theorem branch_le {s : St} {x : Nat} {L : List Nat} (hf : FreeAfter T s x L) (v : Int) (rest : Int)
    (ih : rest + tautSum T L ≤ absSum (trans T s ⟨x, v⟩) L + estOver T.n T.w L) :
    cost T s ⟨x, v⟩ + rest + tautSum T (L ++ [x]) ≤ absSum s (L ++ [x]) + estOver T.n T.w (L ++ [x]) := by
  have habs : absSum (trans T s ⟨x, v⟩) L = (L.map (fun l => absI (get s l + delta T x v l))).sum :=
    congrArg List.sum (List.map_congr_left (fun l hl => by rw [get_trans_free T hf v hl]))
  have hsum := sum_map_le (fun l => costTerm T s x v l + absI (get s l + delta T x v l))
    (fun l => absI (get s l) + pairMax T.n T.w l x) L (fun l _ => step_le T s x v l)
  rw [sum_map_add, sum_map_add] at hsum
  have hhead := head_le T s x v
  rw [estOver_snoc, cost_eq_free T hf v]
  simp only [tautSum, absSum, List.map_append, List.sum_append, List.map_cons, List.map_nil, List.sum_cons,
    List.sum_nil] at *
  omega

theorem bestRem_le (h : TabOk T) : ∀ (m : Nat) (s : St), s.2.length = T.n → s.1 + m = T.n →
    bestRem T m s + tautSum T (T.order.take m) ≤ absSum s (T.order.take m) + estOver T.n T.w (T.order.take m) := by
  intro m
  induction m with
  | zero => intro s _ _; simp [bestRem, tautSum, absSum, estOver]
  | succ m ih =>
    intro s hs hd
    obtain ⟨x, hnv, htake, hf⟩ := next_free T h hs hd
    have hb := fun v => branch_le T hf v _
      (ih (trans T s ⟨x, v⟩) (by rw [trans_length, hs]) (by rw [trans_depth]; omega))
    have h1 := hb 1
    have h2 := hb (-1)
    rw [htake]
    simp only [bestRem, hnv]
    omega

theorem absSum_range (s : St) : absSum s (List.range s.2.length) = rank s := by
  unfold absSum rank
  rw [sum_eq, sum_map_eq_sumRange s.2 absI 0]
  rfl

/-- **the rough upper bound of the max2sat example is admissible** (`RubOk` for the potential "best completion under the model's own transition costs") -/
theorem rub_admissible (h : TabOk T) (s : St) (hs : s.2.length = T.n) (r : Int) (hr : rub? T s = some r) :
    bestRem T (T.n - s.1) s ≤ r := by
  unfold rub? at hr
  rw [h.est_eq, h.nk_eq] at hr
  by_cases hk : s.1 < T.n
  · simp only [List.getElem?_map, List.getElem?_range hk, Option.map_some] at hr
    injection hr with hr
    have hb := bestRem_le T h (T.n - s.1) s hs (by omega)
    -- the free variables are a sub-list of all variables
    have h1 : absSum s (T.order.take (T.n - s.1)) ≤ rank s := by
      rw [← absSum_range, hs]
      have := sum_sublist_le (f := fun l => absI (get s l)) (List.take_sublist (T.n - s.1) T.order) (fun _ _ => Int.le_refl _)
        (fun l _ => by simp [absI])
      have hp := perm_sum_eq (h.perm.map (fun l => absI (get s l)))
      unfold absSum
      omega
    -- tautologies: free + decided = all
    have h2 : tautSum T T.order = tautSum T (T.order.take (T.n - s.1)) + tautSum T (T.order.drop (T.n - s.1)) := by
      unfold tautSum
      rw [← List.sum_append, ← List.map_append, List.take_append_drop]
    have h3 : nkOf T.n T.w T.order s.1 = tautSum T (T.order.drop (T.n - s.1)) := by
      unfold nkOf tautSum; rw [sum_eq]; rfl
    have h4 : estimate T.n T.w T.order s.1 = estOver T.n T.w (T.order.take (T.n - s.1)) := rfl
    rw [h.initial_eq, h2, h3, h4] at hr
    omega
  · have : ¬ s.1 < (List.range T.n).length := by simpa using hk
    simp [List.getElem?_eq_none (Nat.le_of_not_lt this)] at hr

/-- what a completion can lose on one variable when the benefit `a` is replaced by `b`: whichever value the variable
    takes -/
def owedGap (a b : Int) : Int := max (pos a - pos b) (pos (-a) - pos (-b))
def gapSum (t m : St) (L : List Nat) : Int := (L.map (fun l => owedGap (get t l) (get m l))).sum

/-- what the state of benefit `b` pays less now than the one of benefit `a`, it is owed less afterwards: the loss on the
    variable is unchanged by a transition -/
theorem owedGap_shift (a b p q : Int) :
    min (pos a + p) (pos (-a) + q) + owedGap (a + (p - q)) (b + (p - q))
      = min (pos b + p) (pos (-b) + q) + owedGap a b := by
  have := settled_true a p q
  have := settled_false a p q
  have := settled_true b p q
  have := settled_false b p q
  unfold owedGap; omega

theorem mstep_eq (t m : St) (x : Nat) (v : Int) (l : Nat) :
    costTerm T t x v l + owedGap (get t l + delta T x v l) (get m l + delta T x v l)
      = costTerm T m x v l + owedGap (get t l) (get m l) := by
  unfold costTerm delta
  split
  · have := owedGap_shift (get t l) (get m l) (T.wt (tLit x) (tLit l)) (T.wt (tLit x) (fLit l)); omega
  · have := owedGap_shift (get t l) (get m l) (T.wt (fLit x) (tLit l)) (T.wt (fLit x) (fLit l)); omega

theorem mhead_le (t m : St) (x : Nat) (v : Int) :
    costHead T t x v ≤ costHead T m x v + owedGap (get t x) (get m x) := by
  unfold costHead owedGap
  split <;> omega

theorem mbranch_le {t m : St} {x : Nat} {L : List Nat} (ht : FreeAfter T t x L) (hm : FreeAfter T m x L) (v : Int)
    (rest : Int) (ih : 0 ≤ rest + gapSum (trans T t ⟨x, v⟩) (trans T m ⟨x, v⟩) L) :
    0 ≤ cost T m ⟨x, v⟩ - cost T t ⟨x, v⟩ + rest + gapSum t m (L ++ [x]) := by
  have hgap : gapSum (trans T t ⟨x, v⟩) (trans T m ⟨x, v⟩) L
      = (L.map (fun l => owedGap (get t l + delta T x v l) (get m l + delta T x v l))).sum :=
    congrArg List.sum (List.map_congr_left (fun l hl => by
      rw [get_trans_free T ht v hl, get_trans_free T hm v hl]))
  have hsum : (L.map (fun l => costTerm T t x v l + owedGap (get t l + delta T x v l) (get m l + delta T x v l))).sum
      = (L.map (fun l => costTerm T m x v l + owedGap (get t l) (get m l))).sum :=
    congrArg List.sum (List.map_congr_left (fun l _ => mstep_eq T t m x v l))
  rw [sum_map_add, sum_map_add] at hsum
  have hhead := mhead_le T t m x v
  rw [cost_eq_free T ht v, cost_eq_free T hm v]
  simp only [gapSum, List.map_append, List.sum_append, List.map_cons, List.map_nil, List.sum_cons,
    List.sum_nil] at *
  omega

theorem mergeGap_ge (h : TabOk T) : ∀ (k : Nat) (t m : St), t.2.length = T.n → m.2.length = T.n → m.1 = t.1 →
    t.1 + k = T.n → 0 ≤ mergeGapMin T k t m + gapSum t m (T.order.take k) := by
  intro k
  induction k with
  | zero => intro t m _ _ _ _; simp [mergeGapMin, gapSum]
  | succ k ih =>
    intro t m ht hm hdm hd
    obtain ⟨x, hnv, htake, hft⟩ := next_free T h ht hd
    have hfm : FreeAfter T m x (T.order.take k) :=
      ⟨by rw [hdm]; exact hft.varset_eq, hft.nodup, by rw [hm, ← ht]; exact hft.lt⟩
    have hb := fun v => mbranch_le T hft hfm v _
      (ih (trans T t ⟨x, v⟩) (trans T m ⟨x, v⟩) (by rw [trans_length, ht]) (by rw [trans_length, hm])
        (by rw [trans_depth, trans_depth, hdm]) (by rw [trans_depth]; omega))
    have h1 := hb 1
    have h2 := hb (-1)
    rw [htake]
    simp only [mergeGapMin, hnv]
    omega

/-- the merged benefit `r` of a variable against the benefit `x` of one of the merged states: `0`, or of the same sign
    and no larger in absolute value -/
def MergedFrom (x r : Int) : Prop := r = 0 ∨ (0 < r ∧ r ≤ x) ∨ (r < 0 ∧ x ≤ r)

theorem mergeLoop_prop : ∀ (xs : List Int) (sign m sg mm : Int), (sign = 0 ∨ sign = 1 ∨ sign = -1) →
    mergeLoop xs sign m = some (sg, mm) →
    (sg = 0 ∨ sg = 1 ∨ sg = -1) ∧ (sign ≠ 0 → sg = sign) ∧ mm ≤ m ∧ (0 ≤ m → 0 ≤ mm) ∧
      ∀ x ∈ xs, mm ≤ absI x ∧ (sg = 1 → 0 ≤ x) ∧ (sg = -1 → x ≤ 0) := by
  intro xs
  induction xs with
  | nil =>
    intro sign m sg mm hs he
    simp only [mergeLoop, Option.some.injEq, Prod.mk.injEq] at he
    obtain ⟨rfl, rfl⟩ := he
    exact ⟨hs, fun _ => rfl, Int.le_refl _, fun h => h, fun x hx => by cases hx⟩
  | cons x r ih =>
    intro sign m sg mm hs he
    simp only [mergeLoop] at he
    have habs : 0 ≤ absI x := by unfold absI; omega
    split at he
    · next h1 =>
      -- the first non-zero benefit fixes the sign
      have hsx : (0 < x ∧ x.sign = 1) ∨ (x < 0 ∧ x.sign = -1) := by
        rcases Int.lt_trichotomy x 0 with hx | hx | hx
        · exact Or.inr ⟨hx, Int.sign_eq_neg_one_of_neg hx⟩
        · exact absurd hx h1.2
        · exact Or.inl ⟨hx, Int.sign_eq_one_of_pos hx⟩
      obtain ⟨a1, a2, a3, a4, a5⟩ := ih x.sign (min m (absI x)) sg mm (by omega) he
      refine ⟨a1, fun hne => absurd h1.1 hne, by omega, by omega, fun y hy => ?_⟩
      rcases List.mem_cons.mp hy with rfl | hy
      · omega
      · exact a5 y hy
    · split at he
      · cases he
      · obtain ⟨a1, a2, a3, a4, a5⟩ := ih sign (min m (absI x)) sg mm hs he
        refine ⟨a1, a2, by omega, by omega, fun y hy => ?_⟩
        rcases List.mem_cons.mp hy with rfl | hy
        · rcases hs with rfl | rfl | rfl <;> omega
        · exact a5 y hy

theorem mergeSub_prop (xs : List Int) : ∀ x ∈ xs, MergedFrom x (mergeSub xs) := by
  intro x hx
  unfold MergedFrom
  cases xs with
  | nil => cases hx
  | cons x0 r =>
    simp only [mergeSub]
    cases he : mergeLoop (x0 :: r) 0 (absI x0) with
    | none => exact Or.inl rfl
    | some p =>
      obtain ⟨sg, mm⟩ := p
      have h0 : (0 : Int) ≤ absI x0 := by unfold absI; omega
      obtain ⟨a1, _, _, a4, a5⟩ := mergeLoop_prop (x0 :: r) 0 (absI x0) sg mm (Or.inl rfl) he
      obtain ⟨b1, b3, b4⟩ := a5 x hx
      have habs : absI x = x ∨ absI x = -x := by unfold absI; omega
      dsimp only
      rcases a1 with rfl | rfl | rfl <;> omega

theorem get_mergeStates (n : Nat) (ts : List St) (v : Nat) (hv : v < n) :
    get (mergeStates n ts) v = mergeSub (ts.map (fun s => get s v)) := by
  simp [get, mergeStates, List.getElem?_map, List.getElem?_range hv]

theorem owedGap_le {a b : Int} (h : MergedFrom a b) : owedGap a b ≤ absI a - absI b ∧ 0 ≤ absI a - absI b := by
  rw [absI_eq, absI_eq]
  unfold owedGap pos
  rcases h with rfl | h | h <;> omega

/-- **merge and relax of the max2sat example over-approximate** (`MergeOk` for the same potential) -/
theorem merge_ok (h : TabOk T) (ts : List St) (t : St) (ht : t ∈ ts) (hts : ∀ u ∈ ts, u.2.length = T.n ∧ u.1 = t.1)
    (hd : t.1 ≤ T.n) :
    0 ≤ mergeGapMin T (T.n - t.1) t (mergeStates T.n ts) + relaxCost T.n t (mergeStates T.n ts) 0 := by
  have hmlen : (mergeStates T.n ts).2.length = T.n := by simp [mergeStates]
  have hmd : (mergeStates T.n ts).1 = t.1 := by
    cases ts with
    | nil => cases ht
    | cons u r => simp [mergeStates, (hts u (List.mem_cons_self ..)).2]
  have hg := mergeGap_ge T h (T.n - t.1) t (mergeStates T.n ts) (hts t ht).1 hmlen hmd (by omega)
  have hmf : ∀ v, v < T.n → MergedFrom (get t v) (get (mergeStates T.n ts) v) := fun v hv => by
    rw [get_mergeStates _ _ _ hv]
    exact mergeSub_prop _ _ (List.mem_map_of_mem (f := fun s => get s v) ht)
  have hmem := (order_facts h).2.2
  -- the loss on the free variables is covered by the increase of the arc cost
  have h1 : gapSum t (mergeStates T.n ts) (T.order.take (T.n - t.1))
      ≤ ((T.order.take (T.n - t.1)).map (fun v => absI (get t v) - absI (get (mergeStates T.n ts) v))).sum :=
    sum_map_le _ _ _ (fun l hl => (owedGap_le (hmf l (hmem l ((List.take_sublist _ _).subset hl)))).1)
  have h2 := sum_sublist_le (f := fun v => absI (get t v) - absI (get (mergeStates T.n ts) v))
    (List.take_sublist (T.n - t.1) T.order) (fun _ _ => Int.le_refl _) (fun l hl => (owedGap_le (hmf l (hmem l hl))).2)
  have h3 : relaxCost T.n t (mergeStates T.n ts) 0
      = (T.order.map (fun v => absI (get t v) - absI (get (mergeStates T.n ts) v))).sum := by
    unfold relaxCost
    rw [foldl_add_map, perm_sum_eq (h.perm.map _)]
    omega
  omega

def DpExactStmt (I : Inst) : Prop :=
  I.order.Perm (List.range I.n) → (∀ c ∈ I.clauses, c.2.1 ≠ 0 ∧ c.2.1.natAbs ≤ I.n ∧ c.2.2 ≠ 0 ∧ c.2.2.natAbs ≤ I.n) →
    Max2sat.best I.n I.effClauses = some (I.tab.initial + bestRem I.tab I.n (0, List.replicate I.n 0))

def TabOkOfInst (I : Inst) : Prop :=
  I.order.Perm (List.range I.n) → (∀ c ∈ I.clauses, c.2.1 ≠ 0 ∧ c.2.1.natAbs ≤ I.n ∧ c.2.2 ≠ 0 ∧ c.2.2.natAbs ≤ I.n) →
    TabOk I.tab

section Axioms
#print axioms rub_admissible
#print axioms merge_ok
end Axioms

end Ddo.Examples.Max2satModel
