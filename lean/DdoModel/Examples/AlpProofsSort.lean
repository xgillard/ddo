import DdoModel.Examples.AlpModel
import DdoModel.Examples.InsSort
/-! alp example: the runway sort (`sortRw`) returns THE sorted permutation of its argument, and a
    "matching" relation between two lists of runways (a bijection along which a relation holds), stable under the
    update of matched entries and under permutations — the runways of a state are interchangeable. -/
namespace Ddo.Examples.AlpModel
open Ddo Ddo.Examples Ddo.Examples.Util

theorem rwLe_iff (a b : Rw) : rwLe a b = true ↔ a.1 < b.1 ∨ (a.1 = b.1 ∧ a.2 ≤ b.2) := by
  simp only [rwLe, Bool.or_eq_true, Bool.and_eq_true, decide_eq_true_eq]

theorem rwLe_total (a b : Rw) : rwLe a b = true ∨ rwLe b a = true := by
  rw [rwLe_iff, rwLe_iff]
  omega

theorem rwLe_trans {a b c : Rw} (h1 : rwLe a b = true) (h2 : rwLe b c = true) : rwLe a c = true := by
  rw [rwLe_iff] at h1 h2 ⊢
  omega

theorem rwLe_antisymm {a b : Rw} (h1 : rwLe a b = true) (h2 : rwLe b a = true) : a = b := by
  rw [rwLe_iff] at h1 h2
  exact Prod.ext (by omega) (by omega)

theorem sortRw_eq (l : List Rw) : sortRw l = InsSort.sortBy rwLe l := by
  refine InsSort.foldr_eq_sortBy (fun x t => ?_) l
  induction t with
  | nil => rfl
  | cons y t ih => simp only [insertRw, InsSort.insBy, ih]

theorem sortRw_perm (l : List Rw) : (sortRw l).Perm l := by
  rw [sortRw_eq]; exact InsSort.sortBy_perm _ l

theorem sortRw_sorted (l : List Rw) : (sortRw l).Pairwise (fun a b => rwLe a b = true) := by
  rw [sortRw_eq]
  exact InsSort.sortBy_sorted (r := fun a b => rwLe a b = true) (fun _ _ _ => rwLe_trans) (fun _ _ h => h)
    (fun a b h => (rwLe_total a b).resolve_left (ne_true_of_eq_false h)) l

theorem sortRw_eq_of_perm {l₁ l₂ : List Rw} (h : l₁.Perm l₂) : sortRw l₁ = sortRw l₂ :=
  List.Perm.eq_of_pairwise (le := fun a b => rwLe a b = true) (fun _ _ _ _ h1 h2 => rwLe_antisymm h1 h2)
    (sortRw_sorted l₁) (sortRw_sorted l₂) ((sortRw_perm l₁).trans (h.trans (sortRw_perm l₂).symm))

theorem sortRw_length (l : List Rw) : (sortRw l).length = l.length := (sortRw_perm l).length_eq

theorem mem_sortRw {l : List Rw} {p : Rw} : p ∈ sortRw l ↔ p ∈ l := (sortRw_perm l).mem_iff

theorem set_perm {α : Type} (l : List α) (i : Nat) (h : i < l.length) (x : α) :
    (l.set i x).Perm (x :: l.eraseIdx i) := by
  rw [List.set_eq_take_append_cons_drop, if_pos h, List.eraseIdx_eq_take_drop_succ]
  exact List.perm_middle

theorem self_perm_eraseIdx {α : Type} (l : List α) (i : Nat) (h : i < l.length) :
    l.Perm (l[i] :: l.eraseIdx i) := by
  have := set_perm l i h l[i]
  rwa [List.set_getElem_self] at this

theorem set_perm_of_perm {α : Type} {l1 l2 : List α} (h : l1.Perm l2) {i j : Nat} (hi : i < l1.length)
    (hj : j < l2.length) (e : l1[i] = l2[j]) (x : α) : (l1.set i x).Perm (l2.set j x) := by
  have h1 := self_perm_eraseIdx l1 i hi
  have h2 := self_perm_eraseIdx l2 j hj
  rw [e] at h1
  have h3 : (l1.eraseIdx i).Perm (l2.eraseIdx j) := (h1.symm.trans (h.trans h2)).cons_inv
  exact (set_perm l1 i hi x).trans ((List.Perm.cons x h3).trans (set_perm l2 j hj x).symm)

theorem set_perm_set {α : Type} (l : List α) (i j : Nat) (hi : i < l.length) (hj : j < l.length) (e : l[i] = l[j])
    (x : α) : (l.set i x).Perm (l.set j x) := set_perm_of_perm (List.Perm.refl l) hi hj e x

inductive Fa2 {α β : Type} (R : α → β → Prop) : List α → List β → Prop
  | nil : Fa2 R [] []
  | cons {a : α} {b : β} {l₁ : List α} {l₂ : List β} : R a b → Fa2 R l₁ l₂ → Fa2 R (a :: l₁) (b :: l₂)

theorem Fa2.perm_right {α β : Type} {R : α → β → Prop} {X Y : List β} (hp : X.Perm Y) :
    ∀ {L : List α}, Fa2 R L X → ∃ L', L'.Perm L ∧ Fa2 R L' Y := by
  induction hp with
  | nil => intro L h; exact ⟨L, List.Perm.refl _, h⟩
  | cons x _ ih =>
    intro L h
    cases h with
    | cons hab hrest =>
      obtain ⟨L', hp', hf'⟩ := ih hrest
      exact ⟨_ :: L', List.Perm.cons _ hp', Fa2.cons hab hf'⟩
  | swap x y l =>
    intro L h
    cases h with
    | cons hab hrest =>
      cases hrest with
      | cons hab2 hrest2 =>
        exact ⟨_, List.Perm.swap _ _ _, Fa2.cons hab2 (Fa2.cons hab hrest2)⟩
  | trans _ _ ih1 ih2 =>
    intro L h
    obtain ⟨L1, hp1, hf1⟩ := ih1 h
    obtain ⟨L2, hp2, hf2⟩ := ih2 hf1
    exact ⟨L2, hp2.trans hp1, hf2⟩

/-- a bijection between the entries of `L` and those of `X` along which `R` holds -/
def Matching {α β : Type} (R : α → β → Prop) (L : List α) (X : List β) : Prop := ∃ L', L'.Perm L ∧ Fa2 R L' X

theorem Matching.perm {α β : Type} {R : α → β → Prop} {L L₂ : List α} {X X₂ : List β} (h : Matching R L X)
    (hL : L.Perm L₂) (hX : X.Perm X₂) : Matching R L₂ X₂ := by
  obtain ⟨L', hp, hf⟩ := h
  obtain ⟨L'', hp', hf'⟩ := Fa2.perm_right hX hf
  exact ⟨L'', hp'.trans (hp.trans hL), hf'⟩

theorem Fa2.of_forall {α β : Type} {R : α → β → Prop} (L : List α) (X : List β) (h : L.length = X.length)
    (hr : ∀ (i : Nat) (h1 : i < L.length) (h2 : i < X.length), R L[i] X[i]) : Fa2 R L X := by
  induction L generalizing X with
  | nil =>
    cases X with
    | nil => exact Fa2.nil
    | cons _ _ => cases h
  | cons a l ih =>
    cases X with
    | nil => cases h
    | cons b x =>
      exact Fa2.cons (hr 0 (Nat.zero_lt_succ _) (Nat.zero_lt_succ _))
        (ih x (Nat.succ.inj h) (fun i h1 h2 => hr (i + 1) (Nat.succ_lt_succ h1) (Nat.succ_lt_succ h2)))

theorem Matching.of_forall {α β : Type} {R : α → β → Prop} (L : List α) (X : List β) (h : L.length = X.length)
    (hr : ∀ (i : Nat) (h1 : i < L.length) (h2 : i < X.length), R L[i] X[i]) : Matching R L X :=
  ⟨L, List.Perm.refl _, Fa2.of_forall L X h hr⟩

theorem Matching.length_eq {α β : Type} {R : α → β → Prop} {L : List α} {X : List β} (h : Matching R L X) :
    L.length = X.length := by
  obtain ⟨L', hp, hf⟩ := h
  rw [← hp.length_eq]
  clear hp
  induction hf with
  | nil => rfl
  | cons _ _ ih => simp [ih]

theorem Matching.set {α β : Type} {R : α → β → Prop} {L : List α} {X : List β} (h : Matching R L X) (i : Nat)
    (hi : i < X.length) :
    ∃ (j : Nat) (hj : j < L.length), R L[j] X[i] ∧
      ∀ (p' : α) (q' : β), R p' q' → Matching R (L.set j p') (X.set i q') := by
  have h1 := h.perm (List.Perm.refl _) (self_perm_eraseIdx X i hi)
  obtain ⟨L', hp, hf⟩ := h1
  cases hf with
  | @cons p _ L1 _ hpq hrest =>
    have hmem : p ∈ L := hp.mem_iff.mp (List.mem_cons_self ..)
    obtain ⟨j, hj, ej⟩ := List.mem_iff_getElem.mp hmem
    refine ⟨j, hj, by rw [ej]; exact hpq, ?_⟩
    intro p' q' hR
    have h2 := self_perm_eraseIdx L j hj
    rw [ej] at h2
    have h3 : L1.Perm (L.eraseIdx j) := (hp.trans h2).cons_inv
    have h4 : Matching R (L.set j p') (q' :: X.eraseIdx i) :=
      ⟨p' :: L1, (List.Perm.cons p' h3).trans (set_perm L j hj p').symm, Fa2.cons hR hrest⟩
    exact h4.perm (List.Perm.refl _) (set_perm X i hi q').symm

end Ddo.Examples.AlpModel
