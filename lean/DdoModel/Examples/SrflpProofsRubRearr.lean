import DdoModel.Examples.SrflpModel
import DdoModel.Proofs.SpecUtil
import DdoModel.Examples.SrflpProofsMerge
/-! Inequalities on lists of integers for the edge part of the srflp rough bound: the rearrangement inequality (no sign
    hypotheses) and the monotonicity of the sum of products; the closed form of the last loop of the bound (`edgeBound?`): the
    `dot` product of the flows read from the end with the weights `edgeWeights`; counting domination of two sorted lists of
    flows gives the rearrangement bound (`dot_le_of_cntDom`); the exchange step for least sums (`exchange`). -/

namespace Ddo.Examples.SrflpModel
open Ddo Ddo.Examples Ddo.Examples.Util

def dot (xs ys : List Int) : Int := (List.zipWith (· * ·) xs ys).sum

@[simp] theorem dot_nil_left (ys : List Int) : dot [] ys = 0 := by simp [dot]
@[simp] theorem dot_nil_right (xs : List Int) : dot xs [] = 0 := by simp [dot]
@[simp] theorem dot_cons (x y : Int) (xs ys : List Int) : dot (x :: xs) (y :: ys) = x * y + dot xs ys := by
  simp [dot]

/-- `0 ≤ (x - xb) * (ya - y)` spelled out -/
theorem swap_le {x xb y ya : Int} (hx : xb ≤ x) (hy : y ≤ ya) : x * y + xb * ya ≤ x * ya + xb * y := by
  have h : 0 ≤ (x - xb) * (ya - y) := Int.mul_nonneg (by omega) (by omega)
  have e : (x - xb) * (ya - y) = x * ya + xb * y - (x * y + xb * ya) := by grind
  rw [e] at h
  omega

theorem rearrangement_aux : ∀ (n : Nat) (ps : List (Int × Int)) (xs ys : List Int), ps.length = n →
    xs.Perm (ps.map Prod.fst) → ys.Perm (ps.map Prod.snd) → xs.Pairwise (· ≥ ·) → ys.Pairwise (· ≤ ·) →
    dot xs ys ≤ (ps.map (fun p => p.1 * p.2)).sum := by
  intro n
  induction n with
  | zero =>
    intro ps xs ys hn hx hy _ _
    have hps : ps = [] := List.length_eq_zero_iff.mp hn
    subst hps
    have : xs = [] := by simpa using hx
    subst this
    simp
  | succ n ih =>
    intro ps xs ys hn hx hy hxs hys
    have hxl : xs.length = n + 1 := by rw [hx.length_eq]; simpa using hn
    have hyl : ys.length = n + 1 := by rw [hy.length_eq]; simpa using hn
    cases xs with
    | nil => simp at hxl
    | cons x xs' =>
    cases ys with
    | nil => simp at hyl
    | cons y ys' =>
    have hxmem : x ∈ ps.map Prod.fst := hx.subset List.mem_cons_self
    obtain ⟨⟨x', ya⟩, hp, hx'⟩ := List.mem_map.1 hxmem
    simp only at hx'
    subst hx'
    have hps : ps.Perm ((x', ya) :: ps.erase (x', ya)) := List.perm_cons_erase hp
    generalize ps.erase (x', ya) = ps1 at hps
    have hl1 : ps1.length = n := by
      have := hps.length_eq
      simp at this; omega
    have hx1 : xs'.Perm (ps1.map Prod.fst) := by
      have := hx.trans (hps.map Prod.fst)
      simp only [List.map_cons] at this
      exact this.cons_inv
    have hy1 : (y :: ys').Perm (ya :: ps1.map Prod.snd) := by
      have := hy.trans (hps.map Prod.snd)
      simpa only [List.map_cons] using this
    have hsum : (ps.map (fun p => p.1 * p.2)).sum = x' * ya + (ps1.map (fun p => p.1 * p.2)).sum := by
      rw [SpecUtil.perm_sum_eq (hps.map _)]; simp
    rw [hsum, dot_cons]
    by_cases hyy : y = ya
    · subst hyy
      have := ih ps1 xs' ys' hl1 hx1 hy1.cons_inv hxs.of_cons hys.of_cons
      omega
    · have hymem : y ∈ ps1.map Prod.snd := by
        have : y ∈ ya :: ps1.map Prod.snd := hy1.subset List.mem_cons_self
        rcases List.mem_cons.1 this with h | h
        · exact absurd h hyy
        · exact h
      obtain ⟨⟨xb, y'⟩, hq, hy'⟩ := List.mem_map.1 hymem
      simp only at hy'
      subst hy'
      have hps1 : ps1.Perm ((xb, y') :: ps1.erase (xb, y')) := List.perm_cons_erase hq
      generalize ps1.erase (xb, y') = ps2 at hps1
      have hl2 : ((xb, ya) :: ps2).length = n := by
        have := hps1.length_eq
        simp at this; simp; omega
      have hx2 : xs'.Perm (((xb, ya) :: ps2).map Prod.fst) := by
        have := hx1.trans (hps1.map Prod.fst)
        simpa only [List.map_cons] using this
      have hy2 : ys'.Perm (((xb, ya) :: ps2).map Prod.snd) := by
        have h1 : (ya :: ps1.map Prod.snd).Perm (ya :: y' :: ps2.map Prod.snd) := by
          have := (hps1.map Prod.snd).cons ya
          simpa only [List.map_cons] using this
        have h2 := (hy1.trans h1).trans (List.Perm.swap y' ya _)
        simpa only [List.map_cons] using h2.cons_inv
      have hsum1 : (ps1.map (fun p => p.1 * p.2)).sum = xb * y' + (ps2.map (fun p => p.1 * p.2)).sum := by
        rw [SpecUtil.perm_sum_eq (hps1.map _)]; simp
      have hih := ih ((xb, ya) :: ps2) xs' ys' hl2 hx2 hy2 hxs.of_cons hys.of_cons
      simp only [List.map_cons, List.sum_cons] at hih
      have hxb : xb ≤ x' := by
        have : xb ∈ xs' := hx2.symm.subset (by simp)
        exact List.rel_of_pairwise_cons hxs this
      have hya : y' ≤ ya := by
        have : ya ∈ ys' := hy2.symm.subset (by simp)
        exact List.rel_of_pairwise_cons hys this
      have := swap_le hxb hya
      rw [hsum1]
      omega

/-- rearrangement inequality: pairing the values `x` in DEcreasing order with the values `y` in INcreasing order gives the
    least sum of products among all pairings `ps` of the same values -/
theorem rearrangement (ps : List (Int × Int)) (xs ys : List Int)
    (hx : xs.Perm (ps.map Prod.fst)) (hy : ys.Perm (ps.map Prod.snd))
    (hxs : xs.Pairwise (· ≥ ·)) (hys : ys.Pairwise (· ≤ ·)) :
    dot xs ys ≤ (ps.map (fun p => p.1 * p.2)).sum :=
  rearrangement_aux ps.length ps xs ys rfl hx hy hxs hys

theorem dot_mono_right (xs : List Int) (hx : ∀ x ∈ xs, 0 ≤ x) : ∀ (ys ys' : List Int),
    ys.length = ys'.length → (∀ p ∈ ys.zip ys', p.1 ≤ p.2) → dot xs ys ≤ dot xs ys' := by
  induction xs with
  | nil => intro ys ys' _ _; simp
  | cons x xs ih =>
    intro ys ys' hl h
    cases ys with
    | nil =>
      cases ys' with
      | nil => simp
      | cons _ _ => simp at hl
    | cons y ys =>
      cases ys' with
      | nil => simp at hl
      | cons y' ys' =>
        simp only [dot_cons]
        have hy : y ≤ y' := h (y, y') (by simp)
        have h1 := ih (fun z hz => hx z (List.mem_cons_of_mem _ hz)) ys ys' (by simpa using hl)
          (fun p hp => h p (by simp only [List.zip_cons_cons]; exact List.mem_cons_of_mem _ hp))
        have h2 := Int.mul_le_mul_of_nonneg_left hy (hx x List.mem_cons_self)
        omega

theorem sum_mul_mono (ps : List (Int × Int × Int)) (h : ∀ p ∈ ps, 0 ≤ p.1 ∧ p.2.1 ≤ p.2.2) :
    (ps.map (fun p => p.1 * p.2.1)).sum ≤ (ps.map (fun p => p.1 * p.2.2)).sum := by
  induction ps with
  | nil => simp
  | cons p ps ih =>
    simp only [List.map_cons, List.sum_cons]
    have h1 := ih (fun q hq => h q (List.mem_cons_of_mem _ hq))
    have ⟨h0, hw⟩ := h p List.mem_cons_self
    have h2 := Int.mul_le_mul_of_nonneg_left hw h0
    omega

/-- `cum` repeated `m` times, then `cum + l₀` repeated `m-1` times, … : the weights of the edge bound, `m = ca - 1` -/
def edgeWeights : Int → Nat → List Int → List Int
  | _, 0, _ => []
  | cum, m + 1, ls => List.replicate (m + 1) cum ++ (match ls with | [] => [] | l :: ls' => edgeWeights (cum + l) m ls')

theorem edgeWeights_ge (cum : Int) (m : Nat) (ls : List Int) (hls : ∀ l ∈ ls, 0 ≤ l) :
    ∀ w ∈ edgeWeights cum m ls, cum ≤ w := by
  induction m generalizing cum ls with
  | zero => intro w hw; simp [edgeWeights] at hw
  | succ m ih =>
    intro w hw
    cases ls with
    | nil =>
      simp only [edgeWeights, List.append_nil] at hw
      have := (List.mem_replicate.1 hw).2
      omega
    | cons l ls' =>
      simp only [edgeWeights, List.mem_append] at hw
      rcases hw with hw | hw
      · have := (List.mem_replicate.1 hw).2
        omega
      · have := ih (cum + l) ls' (fun z hz => hls z (List.mem_cons_of_mem _ hz)) w hw
        have := hls l List.mem_cons_self
        omega

theorem edgeWeights_pairwise (cum : Int) (m : Nat) (ls : List Int) (hls : ∀ l ∈ ls, 0 ≤ l) :
    (edgeWeights cum m ls).Pairwise (· ≤ ·) := by
  induction m generalizing cum ls with
  | zero => simp [edgeWeights]
  | succ m ih =>
    have hrep : (List.replicate (m + 1) cum).Pairwise (· ≤ ·) :=
      List.pairwise_replicate.2 (Or.inr (Int.le_refl _))
    cases ls with
    | nil => simpa only [edgeWeights, List.append_nil] using hrep
    | cons l ls' =>
      simp only [edgeWeights]
      refine List.pairwise_append.2 ⟨hrep, ih _ _ (fun z hz => hls z (List.mem_cons_of_mem _ hz)), ?_⟩
      intro a ha b hb
      have h1 := (List.mem_replicate.1 ha).2
      have h2 := edgeWeights_ge (cum + l) m ls' (fun z hz => hls z (List.mem_cons_of_mem _ hz)) b hb
      have := hls l List.mem_cons_self
      omega

/-- the triangular numbers, by recursion (so that `omega` can be used) -/
def tri : Nat → Nat
  | 0 => 0
  | m + 1 => tri m + (m + 1)

theorem tri_two_mul (m : Nat) : 2 * tri m = m * (m + 1) := by
  induction m with
  | zero => rfl
  | succ m ih =>
    simp only [tri]
    have : (m + 1) * (m + 1 + 1) = m * (m + 1) + 2 * (m + 1) := by rw [Nat.mul_succ, Nat.succ_mul]; omega
    omega

theorem tri_eq (m : Nat) : tri m = m * (m + 1) / 2 := by
  have := tri_two_mul m
  omega

theorem tri_pred (n : Nat) : tri (n - 1) + n = tri n := by
  cases n with
  | zero => simp [tri]
  | succ m => simp [tri]

theorem half_eq_tri (n : Nat) : n * (n - 1) / 2 = tri (n - 1) := by
  cases n with
  | zero => simp [tri]
  | succ m => rw [Nat.add_sub_cancel, tri_eq, Nat.mul_comm]

theorem tri_add (a : Nat) : ∀ b : Nat, tri (a + b) = tri a + a * b + tri b
  | 0 => by simp [tri]
  | b + 1 => by
    have ih := tri_add a b
    rw [← Nat.add_assoc]
    simp only [tri, Nat.mul_succ]
    omega

theorem tri_split (m r : Nat) : m * (m - 1) / 2 + m * r + r * (r - 1) / 2 = (m + r) * (m + r - 1) / 2 := by
  rw [half_eq_tri, half_eq_tri, half_eq_tri]
  cases m with
  | zero => simp [tri]
  | succ m =>
    have h1 := tri_add m r
    have h2 := tri_pred r
    have e : m + 1 + r - 1 = m + r := by omega
    rw [Nat.add_sub_cancel, e, Nat.succ_mul]
    omega

theorem edgeWeights_length_tri (cum : Int) (m : Nat) (ls : List Int) (h : m ≤ ls.length + 1) :
    (edgeWeights cum m ls).length = tri m := by
  induction m generalizing cum ls with
  | zero => simp [edgeWeights, tri]
  | succ m ih =>
    cases ls with
    | nil =>
      have : m = 0 := by simp at h; omega
      subst this
      simp [edgeWeights, tri]
    | cons l ls' =>
      simp only [edgeWeights, List.length_append, List.length_replicate, tri]
      rw [ih _ _ (by simpa using h)]
      omega

theorem edgeWeights_length (cum : Int) (m : Nat) (ls : List Int) (h : m ≤ ls.length + 1) :
    (edgeWeights cum m ls).length = m * (m + 1) / 2 := by
  rw [edgeWeights_length_tri cum m ls h, tri_eq]

theorem dot_replicate_append (c : Int) (k : Nat) (W : List Int) : ∀ xs : List Int, k ≤ xs.length →
    dot xs (List.replicate k c ++ W) = c * (xs.take k).sum + dot (xs.drop k) W := by
  induction k with
  | zero => intro xs _; simp
  | succ k ih =>
    intro xs h
    cases xs with
    | nil => simp at h
    | cons x xs' =>
      have h' : k ≤ xs'.length := by simpa using h
      simp only [List.replicate_succ, List.cons_append, dot_cons, List.take_succ_cons, List.sum_cons, List.drop_succ_cons,
        ih xs' h']
      grind

theorem inner_fold {α : Type} (flows : List Int) (cum : Int) (l : List α) : ∀ (a : Int) (idx : Nat),
    idx + l.length ≤ flows.length →
    l.foldlM (fun (a : Int × Nat) (_ : α) => do
        let f ← flows[flows.length - 1 - a.2]?
        pure (a.1 + cum * f, a.2 + 1)) (a, idx)
      = some (a + cum * ((flows.reverse.drop idx).take l.length).sum, idx + l.length) := by
  induction l with
  | nil => intro a idx _; simp
  | cons x l ih =>
    intro a idx h
    simp only [List.length_cons] at h
    have hlt : idx < flows.reverse.length := by simp; omega
    have hget : flows[flows.length - 1 - idx]? = some (flows.reverse[idx]) := by
      rw [← List.getElem?_reverse (by omega)]
      exact List.getElem?_eq_getElem hlt
    rw [List.foldlM_cons]
    simp only [hget, Option.bind_eq_bind, Option.bind_some, Option.pure_def] at ih ⊢
    rw [ih _ _ (by omega), List.drop_eq_getElem_cons hlt, List.length_cons, List.take_succ_cons, List.sum_cons]
    congr 2
    · grind
    · omega

/-- one round of the outer loop of `edgeBound?` -/
def edgeStep (flows lengths : List Int) (nFlows ca : Nat) (acc : Int × Nat × Int) (i : Nat) : Option (Int × Nat × Int) := do
  let inner ← (List.range (ca - (i + 1))).foldlM (fun (a : Int × Nat) (_ : Nat) => do
      let f ← flows[nFlows - 1 - a.2]?
      pure (a.1 + acc.2.2 * f, a.2 + 1)) (acc.1, acc.2.1)
  let l ← lengths[i]?
  pure (inner.1, inner.2, acc.2.2 + l)

theorem edgeBound?_eq_step (flows lengths : List Int) (nFlows ca : Nat) :
    edgeBound? flows lengths nFlows ca
      = ((List.range (ca - 1)).foldlM (edgeStep flows lengths nFlows ca) ((0 : Int), (0 : Nat), (0 : Int))).bind
          (fun r => some r.1) := rfl

theorem outer_fold (flows lengths : List Int) (ca : Nat) : ∀ (m i : Nat) (a : Int) (idx : Nat) (cum : Int) (ls : List Int),
    i + m + 1 = ca → lengths.drop i = ls → m ≤ ls.length → idx + tri m ≤ flows.length →
    ∃ idx' cum', (List.range' i m).foldlM (edgeStep flows lengths flows.length ca) (a, idx, cum)
      = some (a + dot (flows.reverse.drop idx) (edgeWeights cum m ls), idx', cum') := by
  intro m
  induction m with
  | zero =>
    intro i a idx cum ls _ _ _ _
    exact ⟨idx, cum, by simp [edgeWeights]⟩
  | succ m ih =>
    intro i a idx cum ls hca hls hm hidx
    cases ls with
    | nil => simp at hm
    | cons l0 ls' =>
    simp only [tri] at hidx
    have hget : lengths[i]? = some l0 := by
      have := List.getElem?_drop (xs := lengths) (i := i) (j := 0)
      rw [hls] at this
      simpa using this.symm
    have hls' : lengths.drop (i + 1) = ls' := by
      have : (lengths.drop i).drop 1 = ls' := by rw [hls]; rfl
      rw [← this, List.drop_drop]
    have hcnt : ca - (i + 1) = m + 1 := by omega
    have hstep : edgeStep flows lengths flows.length ca (a, idx, cum) i
        = some (a + cum * ((flows.reverse.drop idx).take (m + 1)).sum, idx + (m + 1), cum + l0) := by
      unfold edgeStep
      simp only [hcnt]
      rw [inner_fold flows cum (List.range (m + 1)) a idx (by simp; omega)]
      simp [hget]
    obtain ⟨idx', cum', h⟩ := ih (i + 1) (a + cum * ((flows.reverse.drop idx).take (m + 1)).sum) (idx + (m + 1)) (cum + l0) ls'
      (by omega) hls' (by simpa using hm) (by omega)
    refine ⟨idx', cum', ?_⟩
    rw [List.range'_succ, List.foldlM_cons, hstep]
    simp only [Option.bind_eq_bind, Option.bind_some]
    rw [h]
    simp only [edgeWeights]
    rw [dot_replicate_append cum (m + 1) _ _ (by simp; omega), List.drop_drop]
    congr 2
    omega

theorem edgeBound?_eq (flows lengths : List Int) (ca : Nat) (hca : 1 ≤ ca) (hF : flows.length = ca * (ca - 1) / 2)
    (hL : ca - 1 ≤ lengths.length) :
    edgeBound? flows lengths (ca * (ca - 1) / 2) ca = some (dot flows.reverse (edgeWeights 0 (ca - 1) lengths)) := by
  rw [edgeBound?_eq_step, ← hF, List.range_eq_range']
  have htri : 0 + tri (ca - 1) ≤ flows.length := by
    rw [hF, tri_eq]
    have : ca - 1 + 1 = ca := by omega
    rw [this, Nat.mul_comm]
    omega
  obtain ⟨idx', cum', h⟩ := outer_fold flows lengths ca (ca - 1) 0 0 0 0 lengths (by omega) rfl hL htri
  rw [h]
  simp

example : edgeWeights 0 3 [1, 2, 3] = [0, 0, 0, 1, 1, 3] := by decide
example : edgeBound? [1, 2, 3, 4, 5, 6] [1, 2, 3] 6 4 = some (3 * 1 + 2 * 1 + 1 * 3) := by decide

theorem edgeBound?_le (flows lengths : List Int) (ca : Nat) (hca : 1 ≤ ca) (hF : flows.length = ca * (ca - 1) / 2)
    (hL : ca - 1 ≤ lengths.length) (hfl : flows.Pairwise (· ≤ ·)) (hls : ∀ l ∈ lengths, 0 ≤ l)
    (ps : List (Int × Int)) (hx : flows.Perm (ps.map Prod.fst))
    (hy : (edgeWeights 0 (ca - 1) lengths).Perm (ps.map Prod.snd)) :
    ∃ b, edgeBound? flows lengths (ca * (ca - 1) / 2) ca = some b ∧ b ≤ (ps.map (fun p => p.1 * p.2)).sum := by
  refine ⟨_, edgeBound?_eq flows lengths ca hca hF hL, ?_⟩
  refine rearrangement ps _ _ ((List.reverse_perm flows).trans hx) hy ?_ (edgeWeights_pairwise 0 _ _ hls)
  rw [List.pairwise_reverse]
  exact hfl

#print axioms rearrangement
#print axioms edgeBound?_eq

end Ddo.Examples.SrflpModel


namespace Ddo.Examples.SrflpModel
open Ddo Ddo.Examples Ddo.Examples.Util Ddo.SpecUtil


private theorem dot_comm (xs ys : List Int) : dot xs ys = dot ys xs := by
  unfold dot
  rw [List.zipWith_comm_of_comm (fun x y => Int.mul_comm x y)]

private theorem countP_lt_eq_zero (θ : Int) (L : List Int) (h : ∀ x ∈ L, θ ≤ x) :
    L.countP (fun x => decide (x < θ)) = 0 := by
  rw [List.countP_eq_zero]
  intro a ha
  have := h a ha
  simp only [decide_eq_true_eq]; omega

private theorem pointwise_of_cntDom : ∀ (F G : List Int), F.Pairwise (· ≤ ·) → G.Pairwise (· ≤ ·) → F.length = G.length →
    (∀ θ : Int, G.countP (fun x => decide (x < θ)) ≤ F.countP (fun x => decide (x < θ))) →
    ∀ p ∈ F.zip G, p.1 ≤ p.2 := by
  intro F
  induction F with
  | nil => intro G _ _ _ _ p hp; simp at hp
  | cons a F ih =>
    intro G hF hG hlen hcnt
    cases G with
    | nil => simp at hlen
    | cons b G =>
      obtain ⟨ha, hF'⟩ := List.pairwise_cons.mp hF
      obtain ⟨hb, hG'⟩ := List.pairwise_cons.mp hG
      have hab : a ≤ b := by
        have h0 := countP_lt_eq_zero a (a :: F) (by
          intro x hx
          rcases List.mem_cons.mp hx with e | e
          · subst e; exact Int.le_refl _
          · exact ha x e)
        have h1 := hcnt a
        rw [h0, List.countP_cons] at h1
        by_cases hba : b < a
        · simp only [hba, decide_true, if_true] at h1; omega
        · omega
      have htail : ∀ θ : Int, G.countP (fun x => decide (x < θ)) ≤ F.countP (fun x => decide (x < θ)) := by
        intro θ
        have h1 := hcnt θ
        rw [List.countP_cons, List.countP_cons] at h1
        by_cases hbθ : b < θ
        · have haθ : a < θ := by omega
          simp only [hbθ, haθ, decide_true, if_true] at h1
          omega
        · have h0 := countP_lt_eq_zero θ G (fun x hx => by have := hb x hx; omega)
          omega
      have hih := ih G hF' hG' (by simpa using hlen) htail
      intro p hp
      simp only [List.zip_cons_cons] at hp
      rcases List.mem_cons.mp hp with e | e
      · subst e; exact hab
      · exact hih p e

private theorem mem_zip_reverse {F G : List Int} (h : F.length = G.length) {p : Int × Int}
    (hp : p ∈ F.reverse.zip G.reverse) : p ∈ F.zip G := by
  unfold List.zip at hp
  rw [← List.reverse_zipWith h, List.mem_reverse] at hp
  exact hp

/-- if, for every threshold, `G` has at most as many values below it as the increasing list `F` of the same length (so the
    sorted `G` dominates `F` position by position), then pairing `F` (decreasing) with the increasing non-negative weights `W`
    costs at most ANY pairing `ps` of the values of `G` with the weights `W` -/
theorem dot_le_of_cntDom (F G W : List Int) (ps : List (Int × Int))
    (hF : F.Pairwise (· ≤ ·)) (hlen : F.length = G.length)
    (hcnt : ∀ θ : Int, G.countP (fun x => decide (x < θ)) ≤ F.countP (fun x => decide (x < θ)))
    (hW : W.Pairwise (· ≤ ·)) (hW0 : ∀ w ∈ W, 0 ≤ w)
    (h1 : G.Perm (ps.map Prod.fst)) (h2 : W.Perm (ps.map Prod.snd)) :
    dot F.reverse W ≤ (ps.map (fun p => p.1 * p.2)).sum := by
  have hperm : (sortInts G).Perm G := List.mergeSort_perm G _
  have hsorted : (sortInts G).Pairwise (· ≤ ·) := sorted_by G id
  have hlen' : F.length = (sortInts G).length := by rw [hperm.length_eq]; exact hlen
  have hcnt' : ∀ θ : Int, (sortInts G).countP (fun x => decide (x < θ)) ≤ F.countP (fun x => decide (x < θ)) := by
    intro θ
    rw [hperm.countP_eq]
    exact hcnt θ
  have hpt := pointwise_of_cntDom F (sortInts G) hF hsorted hlen' hcnt'
  have h3 : dot F.reverse W ≤ dot (sortInts G).reverse W := by
    rw [dot_comm F.reverse W, dot_comm (sortInts G).reverse W]
    exact dot_mono_right W hW0 F.reverse (sortInts G).reverse (by simp [hlen'])
      (fun p hp => hpt p (mem_zip_reverse hlen' hp))
  have h4 := rearrangement ps (sortInts G).reverse W
    ((List.reverse_perm _).trans (hperm.trans h1)) h2
    (by rw [List.pairwise_reverse]; exact hsorted.imp (fun h => h)) hW
  omega


private theorem sum_map_erase (v : Nat → Int) (A : List Nat) (a : Nat) (h : a ∈ A) :
    (A.map v).sum = v a + ((A.erase a).map v).sum := by
  rw [perm_sum_eq ((List.perm_cons_erase h).map v)]; simp

/-- the exchange step: adding to an optimal choice `Z'` of `Y` without `j` the cheapest free member of `Y` gives an optimal
    choice of `Y` with one more member -/
private theorem exchange (v : Nat → Int) (Y : List Nat) (j : Nat) (Z' : List Nat) (z : Nat) (hY : Y.Nodup)
    (hZnd : Z'.Nodup) (hZsub : ∀ a ∈ Z', a ∈ Y.filter (· ≠ j))
    (hZopt : (Z'.map v).sum = leastSum Z'.length ((Y.filter (· ≠ j)).map v))
    (hzY : z ∈ Y) (hzZ : z ∉ Z') (hmin : ∀ a ∈ Y, a ∉ Z' → v z ≤ v a) :
    (Z'.map v).sum + v z = leastSum (Z'.length + 1) (Y.map v) := by
  have hZY : ∀ a ∈ z :: Z', a ∈ Y := by
    intro a ha
    rcases List.mem_cons.mp ha with e | e
    · subst e; exact hzY
    · exact (mem_filter_ne.mp (hZsub a e)).1
  have hznd : (z :: Z').Nodup := List.nodup_cons.mpr ⟨hzZ, hZnd⟩
  have hge := leastSum_le_choice (z :: Z') Y v v hznd hZY (fun _ _ => Int.le_refl _)
  rw [sum_eq] at hge
  simp only [List.length_cons, List.map_cons, List.sum_cons] at hge
  have hlen : Z'.length + 1 ≤ Y.length := by
    simpa using hznd.length_le_of_subset hZY
  obtain ⟨A, hAnd, hAsub, hAlen, hAsum⟩ := leastSum_attained Y v (Z'.length + 1) hY hlen
  rw [sum_eq] at hAsum
  -- a member of `A` outside `Z'` whose removal leaves a choice inside `Y` without `j`
  have hex : ∃ a ∈ A, a ∉ Z' ∧ ∀ x ∈ A.erase a, x ∈ Y.filter (· ≠ j) := by
    by_cases hjA : j ∈ A
    · refine ⟨j, hjA, fun hjZ => (mem_filter_ne.mp (hZsub j hjZ)).2 rfl, fun x hx => ?_⟩
      obtain ⟨hxj, hxA⟩ := (hAnd.mem_erase_iff).mp hx
      exact mem_filter_ne.mpr ⟨hAsub x hxA, hxj⟩
    · have hne : ¬ (∀ a ∈ A, a ∈ Z') := by
        intro hall
        have := hAnd.length_le_of_subset hall
        omega
      have : ∃ a ∈ A, a ∉ Z' := by
        apply Classical.byContradiction
        intro hcon
        exact hne (fun a ha => Classical.byContradiction (fun hn => hcon ⟨a, ha, hn⟩))
      obtain ⟨a, haA, haZ⟩ := this
      refine ⟨a, haA, haZ, fun x hx => ?_⟩
      have hxA : x ∈ A := List.mem_of_mem_erase hx
      exact mem_filter_ne.mpr ⟨hAsub x hxA, fun e => hjA (e ▸ hxA)⟩
  obtain ⟨a, haA, haZ, hsubE⟩ := hex
  have h1 := leastSum_le_choice (A.erase a) (Y.filter (· ≠ j)) v v (hAnd.erase a) hsubE (fun _ _ => Int.le_refl _)
  rw [sum_eq, List.length_erase_of_mem haA, hAlen] at h1
  simp only [Nat.add_sub_cancel] at h1
  have h2 := sum_map_erase v A a haA
  have h3 := hmin a (hAsub a haA) haZ
  omega

#print axioms dot_le_of_cntDom

end Ddo.Examples.SrflpModel
