import DdoModel.Examples.AlpDp
import DdoModel.Examples.EMax
/-! alp example: the statements and first facts about the model `AlpDp.lean`.

No aircraft lands before its target time, so every transition cost (a negated delay) is `≤ 0` and the rough bound `0` is
admissible on EVERY state, with no hypothesis on the instance (`rub_admissible`).  `minSepTo_le`: `min_separation_to[j]` is a
lower bound of COLUMN `j` of the separation matrix — the separation before an aircraft of class `j` whatever was landed before
it; this is what a walk from a merged state relies on, and what the transposed index (`separation[j][i]`, the row) breaks on
asymmetric matrices.

`MergeOkStmt`, `DomAdmissibleStmt` are stated on `StOk` states and are FALSE there (`mergeOkStmt_false`,
`domAdmissibleStmt_false`, on states NO run can build: `StOk` forgot that runway times are `≥ 0` and runway classes are `-1` or
classes of the instance — not a defect of the example); the theorems are `MergeOkValidStmt`, `DomAdmissibleValidStmt`, the same
on `StValid` states (`AlpProofsSim.lean`).  `DpExactStmt` is the prefix form, `DpExactRootStmt` its empty prefix. -/
namespace Ddo.Examples.AlpModel
open Ddo Ddo.Examples Ddo.Examples.Util

variable (I : Inst)

theorem arrival_ge_target (info : List Rw) (a r : Nat) : I.tgt a ≤ arrival I info a r := by
  unfold arrival
  simp only []
  split
  · exact Int.le_refl _
  · split
    · exact Int.le_max_left _ _
    · exact Int.le_max_left _ _

theorem cost_nonpos {s : St} {v c : Int} (h : cost? I s v = some c) : c ≤ 0 := by
  unfold cost? at h
  split at h
  · cases h; exact Int.le_refl _
  · split at h
    · cases h
    · simp only [] at h
      split at h
      · cases h
      · split at h
        · cases h
          exact Int.neg_nonpos_of_nonneg (Int.sub_nonneg_of_le (arrival_ge_target I s.2 _ _))
        · cases h

private theorem foldl_le_zero {α : Type} (f : EInt → α → EInt) (l : List α) (acc : EInt)
    (hacc : acc ≤ some 0) (hf : ∀ a x, a ≤ some 0 → x ∈ l → f a x ≤ some 0) : l.foldl f acc ≤ some 0 := by
  induction l generalizing acc with
  | nil => exact hacc
  | cons x r ih =>
    simp only [List.foldl_cons]
    exact ih _ (hf _ _ hacc (List.mem_cons_self ..)) (fun a y ha hy => hf a y ha (List.mem_cons_of_mem _ hy))

private theorem addI_le {a : EInt} {c : Int} (ha : a ≤ some 0) (hc : c ≤ 0) : a.addI c ≤ some 0 := by
  cases a with
  | none => exact EInt.none_le _
  | some x =>
    exact (EInt.some_le_some (x + c) 0).mpr (Int.add_nonpos ((EInt.some_le_some x 0).mp ha) hc)

theorem rub_admissible (fuel : Nat) (s : St) : bestRem I fuel s ≤ some 0 := by
  induction fuel generalizing s with
  | zero => exact EInt.le_refl _
  | succ fuel ih =>
    unfold bestRem
    simp only []
    split
    · exact EInt.le_refl _
    · apply foldl_le_zero
      · exact EInt.none_le _
      · intro acc v hacc _
        split
        · next s2 c _ hc => exact EMax.max_le hacc (addI_le (ih s2) (cost_nonpos I hc))
        · exact hacc

theorem best_nonpos {s : St} {h : Int} (hh : best I s = some h) : h ≤ 0 := by
  have := rub_admissible I (totRem s) s
  rw [show bestRem I (totRem s) s = some h from hh] at this
  exact (EInt.some_le_some h 0).mp this

/-- what the driver evaluates on every `rub` event holds for the bound of the model -/
theorem rubOkAt_rub (s : St) : rubOkAt I s ((relaxation I).rub s) = true := by
  unfold rubOkAt best
  exact decide_eq_true (rub_admissible I _ s)

theorem minSepTo_le {i : Nat} (j : Nat) (h : i < I.nbClasses) : I.minSepTo j ≤ I.sepAt i j :=
  (EMax.foldl_intMin_spec (fun i => I.sepAt i j) (List.range I.nbClasses) iMax).2.1 i (List.mem_range.mpr h)

/-- the states of a layer as the model produces them: the runways sorted, one entry per class / runway -/
def StOk (s : St) : Prop := s.1.length = I.nbClasses ∧ s.2.length = I.nbRunways ∧ sortRw s.2 = s.2

/-- false on `StOk` states (`mergeOkStmt_false`); see `MergeOkValidStmt` -/
def MergeOkStmt : Prop :=
  I.inDomain = true → ∀ (ts : List St) (t : St), (∀ u ∈ ts, StOk I u) → t ∈ ts → best I t ≤ best I (mergeStates I ts)

/-- false on `StOk` states (`domAdmissibleStmt_false`); see `DomAdmissibleValidStmt` -/
def DomAdmissibleStmt : Prop :=
  I.inDomain = true → ∀ (a b : St), StOk I a → StOk I b → keyOf a = keyOf b →
    (∀ i : Nat, i < I.nbRunways → domRule.coord b i ≤ domRule.coord a i) → best I b ≤ best I a

/-- the prefix form is what the driver compares pointwise along its walks; the closed corollary `alp_relaxed_ub` needs the
    empty prefix (`DpExactRootStmt`) only -/
def DpExactStmt : Prop :=
  I.inDomain = true → ∀ (decs : List Int) (s : St) (v : Int) (pre : List (Nat × Nat)),
    replayPhys I decs (initState I) (List.range I.nbRunways) 0 [] = some (s, v, pre) →
    (best I s).addI v = (specExt I pre).map (fun d => -d)

/-- a runway as the model produces them: a non-negative time (no aircraft lands before its target time, and the targets
    of the domain are `≥ 0`), class `-1` (unknown) or a class of the instance -/
def RwOk (p : Rw) : Prop := 0 ≤ p.1 ∧ -1 ≤ p.2 ∧ p.2 < (I.nbClasses : Int)

/-- `StOk` and every runway is `RwOk`: what `StOk` forgot -/
def StValid (s : St) : Prop := StOk I s ∧ ∀ p ∈ s.2, RwOk I p

def MergeOkValidStmt : Prop :=
  I.inDomain = true → ∀ (ts : List St) (t : St), (∀ u ∈ ts, StValid I u) → t ∈ ts → best I t ≤ best I (mergeStates I ts)

def DomAdmissibleValidStmt : Prop :=
  I.inDomain = true → ∀ (a b : St), StValid I a → StValid I b → keyOf a = keyOf b →
    (∀ i : Nat, i < I.nbRunways → domRule.coord b i ≤ domRule.coord a i) → best I b ≤ best I a

def DpExactRootStmt : Prop :=
  I.inDomain = true → best I (initState I) = (specExt I []).map (fun d => -d)

end Ddo.Examples.AlpModel
