import DdoModel.Examples.SrflpProofsRubRearr
import DdoModel.Examples.SrflpProofsRubCut
/-! Merged states of the srflp example, the EDGE part of the rough bound: the last loop of the bound, run on the flows `F` the
    second loop keeps (all flows inside `M`, the least `|M| r` flows between `M` and `Y`, the least `r (r-1) / 2` flows inside
    `Y`, `r` = the number of optional picks) and on lengths `Ls` whose least `d` never exceed `d` lengths of the path, is at
    most the edge part `EE l f M Y q` of the cost of every path `q`.  As in the cut part, an optional pick of row `j` is given the
    `ρ`-th least flow of the row (`ρ` optional picks after it: `srow`); for every threshold these weights are at most as many
    below it as the flows the bound keeps, so counting domination and the rearrangement inequality apply. -/

namespace Ddo.Examples.SrflpModel
open Ddo Ddo.Examples Ddo.Examples.Util Ddo.SpecUtil

def cntB (θ : Int) (L : List Int) : Nat := L.countP (fun x => decide (x < θ))

theorem cntB_append (θ : Int) (A B : List Int) : cntB θ (A ++ B) = cntB θ A + cntB θ B := by
  simp [cntB]

theorem cntB_perm (θ : Int) {A B : List Int} (h : A.Perm B) : cntB θ A = cntB θ B := h.countP_eq _

theorem cntB_le_length (θ : Int) (A : List Int) : cntB θ A ≤ A.length := List.countP_le_length

theorem cntB_take_sorted (θ : Int) : ∀ (S : List Int) (n : Nat), S.Pairwise (· ≤ ·) →
    cntB θ (S.take n) = min n (cntB θ S)
  | [], n, _ => by simp [cntB]
  | a :: S, 0, _ => by simp [cntB]
  | a :: S, n + 1, h => by
    have ih := cntB_take_sorted θ S n h.of_cons
    unfold cntB at ih ⊢
    rw [List.take_succ_cons, List.countP_cons, List.countP_cons]
    by_cases ha : a < θ
    · simp only [ha, decide_true, if_true]
      omega
    · have h0 : List.countP (fun x => decide (x < θ)) S = 0 := by
        rw [List.countP_eq_zero]
        intro b hb
        have := List.rel_of_pairwise_cons h hb
        simp only [decide_eq_true_eq]
        omega
      have h1 : List.countP (fun x => decide (x < θ)) (S.take n) = 0 := by
        have := (List.take_sublist n S).countP_le (p := fun x => decide (x < θ))
        omega
      simp only [ha, decide_false]
      simp [h0, h1]

theorem cntB_sortInts (θ : Int) (P : List Int) : cntB θ (sortInts P) = cntB θ P :=
  cntB_perm θ (List.mergeSort_perm P _)

/-- the members of `M` on the path, in the order of the path -/
def inM (M q : List Nat) : List Nat := q.filter (fun i => M.contains i)

theorem inM_cons_mem {M : List Nat} {j : Nat} (q : List Nat) (h : j ∈ M) : inM M (j :: q) = j :: inM M q := by
  simp [inM, h]

theorem inM_cons_not {M : List Nat} {j : Nat} (q : List Nat) (h : j ∉ M) : inM M (j :: q) = inM M q := by
  simp [inM, h]

theorem nonM_cons_mem {M : List Nat} {j : Nat} (q : List Nat) (h : j ∈ M) : nonM M (j :: q) = nonM M q := by
  rw [nonM_cons]; simp [h]

theorem nonM_cons_not {M : List Nat} {j : Nat} (q : List Nat) (h : j ∉ M) : nonM M (j :: q) = nonM M q + 1 := by
  rw [nonM_cons]; simp [h]; omega

theorem inM_length (M q : List Nat) : (inM M q).length + nonM M q = q.length :=
  (length_eq_filter_add_nonM M q).symm

theorem mem_inM {M q : List Nat} {i : Nat} : i ∈ inM M q ↔ i ∈ q ∧ i ∈ M := by
  simp [inM, List.mem_filter]

theorem inM_perm {M q : List Nat} (hq : q.Nodup) (hM : M.Nodup) (hMq : ∀ i ∈ M, i ∈ q) : (inM M q).Perm M :=
  filter_contains_perm hq hM hMq

theorem crossFlows_perm_left (f : Nat → Nat → Int) {M M' : List Nat} (Y : List Nat) (h : M.Perm M') :
    (crossFlows f M Y).Perm (crossFlows f M' Y) := List.Perm.flatMap_right _ h

theorem crossFlows_cnt_perm_right (f : Nat → Nat → Int) (θ : Int) {Y Y' : List Nat} (h : Y.Perm Y') : ∀ M : List Nat,
    cntB θ (crossFlows f M Y) = cntB θ (crossFlows f M Y')
  | [] => by simp [crossFlows]
  | i :: M => by
    rw [crossFlows_cons, crossFlows_cons, cntB_append, cntB_append, crossFlows_cnt_perm_right f θ h M,
      cntB_perm θ (h.map (f i))]

theorem crossFlows_cnt_cons_right (f : Nat → Nat → Int) (θ : Int) (j : Nat) (Y : List Nat) : ∀ M : List Nat,
    cntB θ (crossFlows f M (j :: Y)) = cntB θ (M.map (fun i => f i j)) + cntB θ (crossFlows f M Y)
  | [] => by simp [crossFlows, cntB]
  | i :: M => by
    have ih := crossFlows_cnt_cons_right f θ j Y M
    rw [crossFlows_cons, crossFlows_cons, cntB_append, cntB_append, ih]
    simp only [cntB, List.map_cons, List.countP_cons]
    omega

/-- `c 0 … c (n-2)`, `c 0 … c (n-3)`, …, `c 0` -/
def triW (c : Nat → Int) : Nat → List Int
  | 0 => []
  | n + 1 => (List.range n).map c ++ triW c n

theorem edgeWeights_succ_perm : ∀ (m : Nat) (c : Int) (ls : List Int), m ≤ ls.length →
    (edgeWeights c (m + 1) ls).Perm ((List.range (m + 1)).map (fun j => c + (ls.take j).sum) ++ edgeWeights c m ls) := by
  intro m
  induction m with
  | zero =>
    intro c ls _
    cases ls <;> simp [edgeWeights]
  | succ m ih =>
    intro c ls h
    cases ls with
    | nil => simp at h
    | cons l ls' =>
      have ih' := ih (c + l) ls' (by simpa using h)
      have e1 : edgeWeights c (m + 1 + 1) (l :: ls') = c :: (List.replicate (m + 1) c ++ edgeWeights (c + l) (m + 1) ls') := by
        simp [edgeWeights, List.replicate_succ]
      have e2 : (List.range (m + 1 + 1)).map (fun j => c + ((l :: ls').take j).sum)
          = c :: (List.range (m + 1)).map (fun j => c + l + (ls'.take j).sum) := by
        rw [List.range_succ_eq_map]
        simp [List.map_map, Function.comp_def, Int.add_assoc]
      have e3 : edgeWeights c (m + 1) (l :: ls') = List.replicate (m + 1) c ++ edgeWeights (c + l) m ls' := by
        simp [edgeWeights]
      rw [e1, e2, e3, List.cons_append]
      refine List.Perm.cons c ?_
      refine ((List.Perm.refl _).append ih').trans ?_
      exact List.perm_append_comm_assoc _ _ _

theorem edgeWeights_perm_triW (Ls : List Int) : ∀ m : Nat, m ≤ Ls.length →
    (edgeWeights 0 m Ls).Perm (triW (fun j => (Ls.take j).sum) (m + 1))
  | 0, _ => by simp [edgeWeights, triW]
  | m + 1, h => by
    have h1 := edgeWeights_succ_perm m 0 Ls (by omega)
    have h2 := edgeWeights_perm_triW Ls m (by omega)
    have e : (fun j => (0 : Int) + (Ls.take j).sum) = (fun j => (Ls.take j).sum) := by
      funext j; simp
    rw [e] at h1
    show (edgeWeights 0 (m + 1) Ls).Perm ((List.range (m + 1)).map _ ++ triW _ (m + 1))
    exact h1.trans ((List.Perm.refl _).append h2)

/-- the values `vals`, the `idx`-th of them paired with the weight `c (k + idx)` -/
def rowV (c : Nat → Int) : Nat → List Int → List (Int × Int)
  | _, [] => []
  | k, v :: vs => (v, c k) :: rowV c (k + 1) vs

theorem rowV_fst (c : Nat → Int) : ∀ (vs : List Int) (k : Nat), (rowV c k vs).map Prod.fst = vs
  | [], _ => rfl
  | v :: vs, k => by simp [rowV, rowV_fst c vs (k + 1)]

theorem rowV_snd (c : Nat → Int) : ∀ (vs : List Int) (k : Nat),
    (rowV c k vs).map Prod.snd = (List.range' k vs.length).map c
  | [], _ => rfl
  | v :: vs, k => by simp [rowV, rowV_snd c vs (k + 1), List.range'_succ]

theorem rowV_le (c : Nat → Int) : ∀ (vals ls : List Int) (k : Nat) (B : Int), ls.length = vals.length →
    (∀ v ∈ vals, 0 ≤ v) → (∀ idx, idx ≤ vals.length → c (k + idx) ≤ B + (ls.take idx).sum) →
    ((rowV c k vals).map (fun p => p.1 * p.2)).sum ≤ aftV ls vals + B * vals.sum
  | [], ls, _, _, _, _, _ => by cases ls <;> simp [rowV, aftV]
  | v :: vs, [], _, _, hlen, _, _ => by simp at hlen
  | v :: vs, l0 :: ls, k, B, hlen, hv, hc => by
    have h0 : c k ≤ B := by simpa using hc 0 (by simp)
    have hvt := hv v List.mem_cons_self
    have ih := rowV_le c vs ls (k + 1) (B + l0) (by simpa using hlen)
      (fun j hj => hv j (List.mem_cons_of_mem _ hj)) (by
      intro idx hidx
      have := hc (idx + 1) (by simp; omega)
      simp only [List.take_succ_cons, List.sum_cons] at this
      have e : k + 1 + idx = k + (idx + 1) := by omega
      rw [e]; omega)
    have h1 := Int.mul_le_mul_of_nonneg_left h0 hvt
    simp only [rowV, List.map_cons, List.sum_cons, aftV]
    generalize ((rowV c (k + 1) vs).map (fun p => p.1 * p.2)).sum = X at ih ⊢
    generalize vs.sum = S at ih ⊢
    generalize aftV ls vs = A at ih ⊢
    have e1 : (B + l0) * S = B * S + l0 * S := Int.add_mul _ _ _
    have e2 : B * (v + S) = B * v + B * S := Int.mul_add _ _ _
    have e3 : v * B = B * v := Int.mul_comm _ _
    omega

/-- per-position weights: a member of `M` keeps its weight, an optional pick gets `ys[ρ]`, `ρ` = optional picks after it -/
def srow (w : Nat → Int) (M : List Nat) (ys : List Int) : List Nat → List Int
  | [] => []
  | j :: q => (if M.contains j then w j else ys.getD (nonM M q) 0) :: srow w M ys q

theorem srow_length (w : Nat → Int) (M : List Nat) (ys : List Int) : ∀ q : List Nat, (srow w M ys q).length = q.length
  | [] => rfl
  | j :: q => by simp [srow, srow_length w M ys q]

theorem take_succ_getD (ys : List Int) (k : Nat) (h : k < ys.length) : ys.take (k + 1) = ys.take k ++ [ys.getD k 0] := by
  rw [List.take_add_one, List.getD_eq_getElem?_getD, List.getElem?_eq_getElem h]; rfl

theorem srow_perm (w : Nat → Int) (M : List Nat) (ys : List Int) : ∀ q : List Nat, nonM M q ≤ ys.length →
    (srow w M ys q).Perm ((inM M q).map w ++ ys.take (nonM M q))
  | [], _ => by simp [srow, inM]
  | j :: q, h => by
    by_cases hj : j ∈ M
    · have ih := srow_perm w M ys q (by rw [nonM_cons_mem q hj] at h; exact h)
      have hc : M.contains j = true := by simpa using hj
      simp only [srow, hc, if_true]
      rw [inM_cons_mem q hj, nonM_cons_mem q hj]
      exact ih.cons _
    · have h' : nonM M q + 1 ≤ ys.length := by rw [nonM_cons_not q hj] at h; exact h
      have ih := srow_perm w M ys q (by omega)
      have hc : M.contains j = false := by simpa using hj
      simp only [srow, hc, Bool.false_eq_true, if_false]
      rw [inM_cons_not q hj, nonM_cons_not q hj, take_succ_getD ys _ (by omega), ← List.append_assoc]
      exact (ih.cons _).trans (List.perm_append_singleton _ _).symm

theorem cutCL_eq_aftV (l w : Nat → Int) (M : List Nat) (ys : List Int) : ∀ q : List Nat, nonM M q ≤ ys.length →
    cutCL l w M ys q = aftV (q.map l) (srow w M ys q)
  | [], _ => by simp [cutCL, aftV, srow]
  | j :: q, h => by
    have h' : nonM M q ≤ ys.length := by rw [nonM_cons] at h; omega
    have hs : (srow w M ys q).sum = ((inM M q).map w).sum + (ys.take (nonM M q)).sum := by
      rw [perm_sum_eq (srow_perm w M ys q h'), List.sum_append]
    simp only [cutCL, srow, List.map_cons, aftV]
    rw [cutCL_eq_aftV l w M ys q h', hs]; rfl

/-- the weights of row `j`: the flows from `j` to what is left of `Y`, increasing -/
def rowY (f : Nat → Nat → Int) (j : Nat) (Y : List Nat) : List Int := sortInts ((Y.filter (· ≠ j)).map (f j))

/-- the pairing: the `idx`-th weight of the row of a department gets the weight `c idx` -/
def PS (f : Nat → Nat → Int) (M : List Nat) (c : Nat → Int) : List Nat → List Nat → List (Int × Int)
  | _, [] => []
  | Y, j :: q => rowV c 0 (srow (f j) M (rowY f j Y) q) ++ PS f M c (Y.filter (· ≠ j)) q

def GallL (f : Nat → Nat → Int) (M : List Nat) : List Nat → List Nat → List Int
  | _, [] => []
  | Y, j :: q => srow (f j) M (rowY f j Y) q ++ GallL f M (Y.filter (· ≠ j)) q

theorem PS_fst (f : Nat → Nat → Int) (M : List Nat) (c : Nat → Int) : ∀ (q Y : List Nat),
    (PS f M c Y q).map Prod.fst = GallL f M Y q
  | [], _ => rfl
  | j :: q, Y => by simp [PS, GallL, rowV_fst, PS_fst f M c q]

theorem PS_snd (f : Nat → Nat → Int) (M : List Nat) (c : Nat → Int) : ∀ (q Y : List Nat),
    (PS f M c Y q).map Prod.snd = triW c q.length
  | [], _ => rfl
  | j :: q, Y => by simp [PS, triW, rowV_snd, srow_length, PS_snd f M c q, List.range_eq_range']

theorem GallL_length (f : Nat → Nat → Int) (M : List Nat) : ∀ (q Y : List Nat),
    (GallL f M Y q).length + q.length = tri q.length
  | [], _ => by simp [GallL, tri]
  | j :: q, Y => by
    have := GallL_length f M q (Y.filter (· ≠ j))
    simp only [GallL, List.length_append, srow_length, List.length_cons, tri]
    omega

theorem rowY_length (f : Nat → Nat → Int) (j : Nat) (Y : List Nat) : (rowY f j Y).length = (Y.filter (· ≠ j)).length := by
  rw [rowY, sortInts_length, List.length_map]

theorem PS_le (l : Nat → Int) (f : Nat → Nat → Int) (M : List Nat) (c : Nat → Int) : ∀ (q Y : List Nat),
    q.Nodup → Y.Nodup → (∀ i ∈ q, i ∈ M ∨ i ∈ Y) → (∀ i ∈ M, i ∉ Y) → (∀ i ∈ q, 0 ≤ l i) →
    (∀ i j, (i ∈ M ∨ i ∈ Y) → (j ∈ M ∨ j ∈ Y) → 0 ≤ f i j) →
    (∀ A : List Nat, A.Sublist q → c A.length ≤ (A.map l).sum) →
    ((PS f M c Y q).map (fun p => p.1 * p.2)).sum ≤ EE l f M Y q
  | [], _, _, _, _, _, _, _, _ => by simp [PS, EE]
  | j :: q, Y, hq, hY, hqMY, hdisj, hl, hf, hc => by
    obtain ⟨hq', hY', hsub, hqMY', hdisj'⟩ := rest_facts hq hY hqMY hdisj
    have hjm := hqMY j List.mem_cons_self
    have lift : ∀ i, i ∈ M ∨ i ∈ Y.filter (· ≠ j) → i ∈ M ∨ i ∈ Y := fun i h => h.imp id (hsub i)
    have hl' : ∀ i ∈ q, 0 ≤ l i := fun i hi => hl i (List.mem_cons_of_mem _ hi)
    have ih := PS_le l f M c q (Y.filter (· ≠ j)) hq' hY' hqMY' hdisj' hl'
      (fun a b ha hb => hf a b (lift a ha) (lift b hb))
      (fun A hA => hc A (hA.trans (List.sublist_cons_self j q)))
    have hρ : nonM M q ≤ (rowY f j Y).length := by rw [rowY_length]; exact nonM_le_length hq' hqMY'
    have hnn : ∀ x ∈ srow (f j) M (rowY f j Y) q, 0 ≤ x := by
      intro x hx
      rcases List.mem_append.1 ((srow_perm (f j) M _ q hρ).mem_iff.1 hx) with h | h
      · obtain ⟨i, hi, rfl⟩ := List.mem_map.1 h
        exact hf j i hjm (Or.inl (mem_inM.1 hi).2)
      · have h1 := List.mem_of_mem_take h
        unfold rowY sortInts at h1
        obtain ⟨i, hi, rfl⟩ := List.mem_map.1 (List.mem_mergeSort.1 h1)
        exact hf j i hjm (lift i (Or.inr hi))
    have hrow := rowV_le c (srow (f j) M (rowY f j Y) q) (q.map l) 0 0 (by simp [srow_length]) hnn (by
      intro idx hidx
      rw [srow_length] at hidx
      have := hc (q.take idx) ((List.take_sublist idx q).trans (List.sublist_cons_self j q))
      rw [List.length_take, Nat.min_eq_left hidx] at this
      simpa using this)
    have hGG := GG_ge_cutCL l (f j) M (rowY f j Y) q (Y.filter (· ≠ j)) hq' hY'
      (fun i hi hiM => (hqMY' i hi).resolve_left hiM) hl'
      (fun A hA hAs => take_sortInts_le A _ (f j) hA hAs)
    rw [cutCL_eq_aftV l (f j) M _ q hρ] at hGG
    simp only [PS, EE, List.map_append, List.sum_append]
    omega

/-- one class of flows: `c` more weights below the threshold, at most `r` of them and at most `y` -/
theorem add_min_le {c r y P X : Nat} (h1 : c ≤ r) (h2 : c ≤ y) : c + min P X ≤ min (P + r) (y + X) := by omega
theorem cnt_step1 {a c G A u v w : Nat} (ih : G ≤ A + u + w) (k : c + u ≤ v) : a + c + G ≤ a + A + v + w := by omega
theorem cnt_step2 {a c G A u v w x : Nat} (ih : G ≤ A + u + w) (k1 : a + u ≤ v) (k2 : c + w ≤ x) : a + c + G ≤ A + v + x := by omega

theorem GallL_cnt (f : Nat → Nat → Int) (M : List Nat) (θ : Int) : ∀ (q Y : List Nat),
    q.Nodup → Y.Nodup → (∀ i ∈ q, i ∈ M ∨ i ∈ Y) → (∀ i ∈ M, i ∉ Y) →
    (∀ i j, (i ∈ M ∨ i ∈ Y) → (j ∈ M ∨ j ∈ Y) → f i j = f j i) →
    cntB θ (GallL f M Y q) ≤ cntB θ (pairFlows f (inM M q))
      + min ((inM M q).length * nonM M q) (cntB θ (crossFlows f (inM M q) Y))
      + min (tri (nonM M q - 1)) (cntB θ (pairFlows f Y))
  | [], _, _, _, _, _, _ => by simp [GallL, cntB]
  | j :: q, Y, hq, hY, hqMY, hdisj, hsym => by
    obtain ⟨hq', hY', hsub, hqMY', hdisj'⟩ := rest_facts hq hY hqMY hdisj
    have hjm := hqMY j List.mem_cons_self
    have lift : ∀ i, i ∈ M ∨ i ∈ Y.filter (· ≠ j) → i ∈ M ∨ i ∈ Y := fun i h => h.imp id (hsub i)
    have ih := GallL_cnt f M θ q (Y.filter (· ≠ j)) hq' hY' hqMY' hdisj'
      (fun a b ha hb => hsym a b (lift a ha) (lift b hb))
    have hρ : nonM M q ≤ (rowY f j Y).length := by rw [rowY_length]; exact nonM_le_length hq' hqMY'
    have hrow : cntB θ (srow (f j) M (rowY f j Y) q)
        = cntB θ ((inM M q).map (f j)) + min (nonM M q) (cntB θ ((Y.filter (· ≠ j)).map (f j))) := by
      rw [cntB_perm θ (srow_perm (f j) M _ q hρ), cntB_append, rowY, cntB_take_sorted θ _ _ (sortInts_pairwise _),
        cntB_sortInts]
    have hM1 : cntB θ ((inM M q).map (f j)) ≤ (inM M q).length := by
      have := cntB_le_length θ ((inM M q).map (f j))
      rwa [List.length_map] at this
    simp only [GallL, cntB_append, hrow]
    generalize hZ : min (nonM M q) (cntB θ ((Y.filter (· ≠ j)).map (f j))) = Zc
    have hZ1 : Zc ≤ nonM M q := by omega
    have hZ2 : Zc ≤ cntB θ ((Y.filter (· ≠ j)).map (f j)) := by omega
    by_cases hj : j ∈ M
    · have hjY : j ∉ Y := hdisj j hj
      have hYY : Y.filter (· ≠ j) = Y := filter_ne_of_not_mem hjY
      rw [hYY] at ih hZ2
      rw [inM_cons_mem q hj, nonM_cons_mem q hj, hYY, crossFlows_cons, cntB_append]
      simp only [pairFlows, cntB_append, List.length_cons, Nat.succ_mul]
      exact cnt_step1 ih (add_min_le hZ1 hZ2)
    · have hjY : j ∈ Y := hjm.resolve_left hj
      have hYp := perm_cons_filter_ne hY hjY
      have hcross : cntB θ (crossFlows f (inM M q) Y)
          = cntB θ ((inM M q).map (f j)) + cntB θ (crossFlows f (inM M q) (Y.filter (· ≠ j))) := by
        rw [crossFlows_cnt_perm_right f θ hYp, crossFlows_cnt_cons_right]
        congr 2
        refine List.map_congr_left ?_
        intro i hi
        exact hsym i j (Or.inl (mem_inM.1 hi).2) hjm
      have hpf : cntB θ (pairFlows f Y)
          = cntB θ ((Y.filter (· ≠ j)).map (f j)) + cntB θ (pairFlows f (Y.filter (· ≠ j))) := by
        rw [cntB_perm θ (pairFlows_perm f hYp ?_)]
        · simp only [pairFlows, cntB_append]
        · intro a ha b hb
          exact hsym a b (Or.inr (hYp.mem_iff.2 ha)) (Or.inr (hYp.mem_iff.2 hb))
      rw [inM_cons_not q hj, nonM_cons_not q hj, hcross, hpf, Nat.add_sub_cancel, Nat.mul_succ]
      rw [← tri_pred (nonM M q)]
      exact cnt_step2 ih (add_min_le hM1 (Nat.le_refl _)) (add_min_le hZ1 hZ2)

theorem edge_part (l : Nat → Int) (f : Nat → Nat → Int) (M Y q : List Nat)
    (hq : q.Nodup) (hM : M.Nodup) (hY : Y.Nodup) (hMq : ∀ i ∈ M, i ∈ q) (hqMY : ∀ i ∈ q, i ∈ M ∨ i ∈ Y)
    (hdisj : ∀ i ∈ M, i ∉ Y) (hk : 1 ≤ q.length)
    (hl : ∀ i, i ∈ M ∨ i ∈ Y → 0 ≤ l i)
    (hf : ∀ i j, (i ∈ M ∨ i ∈ Y) → (j ∈ M ∨ j ∈ Y) → 0 ≤ f i j)
    (hsym : ∀ i j, (i ∈ M ∨ i ∈ Y) → (j ∈ M ∨ j ∈ Y) → f i j = f j i)
    (Ls : List Int) (hLl : Ls.length = q.length) (hL0 : ∀ x ∈ Ls, 0 ≤ x)
    (hcum : ∀ A : List Nat, A.Sublist q → (Ls.take A.length).sum ≤ (A.map l).sum)
    (F : List Int) (hFs : F.Pairwise (· ≤ ·))
    (hF : F.Perm (pairFlows f M ++ (sortInts (crossFlows f M Y)).take (M.length * nonM M q)
                  ++ (sortInts (pairFlows f Y)).take (nonM M q * (nonM M q - 1) / 2))) :
    ∃ b, edgeBound? F Ls (q.length * (q.length - 1) / 2) q.length = some b ∧ b ≤ EE l f M Y q := by
  have hMp : (inM M q).Perm M := inM_perm hq hM hMq
  have hml : (inM M q).length = M.length := hMp.length_eq
  have hkl := inM_length M q
  have hrY : nonM M q ≤ Y.length := nonM_le_length hq hqMY
  have hFk : F.length = q.length * (q.length - 1) / 2 := by
    rw [hF.length_eq, flowsKept_length f M Y hrY, ← hkl, hml]
  have hFG : F.length = (GallL f M Y q).length := by
    have := GallL_length f M q Y
    have := tri_pred q.length
    rw [half_eq_tri] at hFk
    omega
  rw [half_eq_tri (nonM M q)] at hF
  refine ⟨_, edgeBound?_eq F Ls q.length hk hFk (by omega), ?_⟩
  let c : Nat → Int := fun d => (Ls.take d).sum
  have hk1 : q.length - 1 + 1 = q.length := by omega
  have hW : (edgeWeights 0 (q.length - 1) Ls).Perm ((PS f M c Y q).map Prod.snd) := by
    rw [PS_snd]
    have := edgeWeights_perm_triW Ls (q.length - 1) (by omega)
    rwa [hk1] at this
  have hcnt : ∀ θ : Int, (GallL f M Y q).countP (fun x => decide (x < θ)) ≤ F.countP (fun x => decide (x < θ)) := by
    intro θ
    have h1 := GallL_cnt f M θ q Y hq hY hqMY hdisj hsym
    have h2 : cntB θ F = cntB θ (pairFlows f M)
        + min (M.length * nonM M q) (cntB θ (crossFlows f M Y))
        + min (tri (nonM M q - 1)) (cntB θ (pairFlows f Y)) := by
      rw [cntB_perm θ hF, cntB_append, cntB_append, cntB_take_sorted θ _ _ (sortInts_pairwise _),
        cntB_take_sorted θ _ _ (sortInts_pairwise _), cntB_sortInts, cntB_sortInts]
    rw [cntB_perm θ (pairFlows_perm f hMp (fun a ha b hb => hsym a b (Or.inl ha) (Or.inl hb))),
      cntB_perm θ (crossFlows_perm_left f Y hMp), hml] at h1
    show cntB θ (GallL f M Y q) ≤ cntB θ F
    rw [h2]
    exact h1
  have hdot := dot_le_of_cntDom F (GallL f M Y q) (edgeWeights 0 (q.length - 1) Ls) (PS f M c Y q) hFs hFG hcnt
    (edgeWeights_pairwise 0 _ _ hL0) (fun w hw => edgeWeights_ge 0 _ _ hL0 w hw)
    (by rw [PS_fst]) hW
  exact Int.le_trans hdot (PS_le l f M c q Y hq hY hqMY hdisj (fun i hi => hl i (hqMY i hi)) hf hcum)

/-! ### the edge bound for an order without optional picks, flows not assumed symmetric -/

/-- `Σ l_t · f i j` over the triples `i` before `t` before `j` of the list: every pair pays its flow times the lengths of the
    departments placed between them -/
def edgeCost (l : Nat → Int) (f : Nat → Nat → Int) : List Nat → Int
  | [] => 0
  | i :: r => after l (f i) r + edgeCost l f r

theorem after_eq_aftV (l w : Nat → Int) : ∀ r : List Nat, after l w r = aftV (r.map l) (r.map w)
  | [] => rfl
  | t :: r => by simp only [after, List.map_cons, aftV, after_eq_aftV l w r]

theorem pathCost_eq (T : Tab) (hI : Inst T) : ∀ (q : List Nat) (s : St), Good T s → s.maybe = none → q.Perm s.must →
    -(runCost T s q) = after (lenOf T) (cutAt s) q + edgeCost (lenOf T) (flow T) q := by
  intro q
  induction q with
  | nil => intro s _ _ _; rfl
  | cons i q ih =>
    intro s hG hM hp
    have hnd := pairwise_lt_nodup hG.must_sorted
    have hiq := (List.nodup_cons.mp (hp.nodup_iff.mpr hnd)).1
    have hid : (i : Int) ∈ domain T s := (mem_domain_exact T hG hM _).mpr ⟨i, rfl, hp.subset List.mem_cons_self⟩
    have hp' : q.Perm (stepSt T s i).must := by
      rw [stepSt_must, filter_ne_eq_erase hnd]
      have := hp.erase i
      rwa [List.erase_cons_head] at this
    have hih := ih (stepSt T s i) (good_step T hI hG hid) (stepSt_exact T hM i) hp'
    have hcut : ∀ j ∈ q, cutAt (stepSt T s i) j = cutAt s j + flow T i j := by
      intro j hj
      rw [cutAt_step T hG, if_neg (fun e : j = i => hiq (e ▸ hj)), if_pos (Or.inl (hp.subset (List.mem_cons_of_mem _ hj)))]
    rw [after_congr (lenOf T) hcut, after_add] at hih
    rw [runCost, cost_exact T hI hG hM hp, after, edgeCost, Int.neg_add, hih]
    grind

theorem wct_map (l w : Nat → Int) : ∀ (q : List Nat) (B : Int),
    wct B (q.map fun j => (l j, w j)) = B * (q.map w).sum + after l w q
  | [], B => by simp [after]
  | t :: r, B => by
    simp only [List.map_cons, wct, wct_map l w r, after, List.sum_cons]
    grind

theorem aft_eq_wct (l w : Nat → Int) (q : List Nat) : after l w q = wct 0 (q.map fun j => (l j, w j)) := by
  rw [wct_map]; simp

/-- the pairing: the flow between a department and the `idx`-th department after it gets the weight `c idx` -/
def pairW (f : Nat → Nat → Int) (c : Nat → Int) : List Nat → List (Int × Int)
  | [] => []
  | i :: r => rowV c 0 (r.map (f i)) ++ pairW f c r

theorem pairW_fst (f : Nat → Nat → Int) (c : Nat → Int) : ∀ q : List Nat, (pairW f c q).map Prod.fst = pairFlows f q
  | [] => rfl
  | i :: r => by simp [pairW, pairFlows, rowV_fst, pairW_fst f c r]

theorem pairW_snd (f : Nat → Nat → Int) (c : Nat → Int) : ∀ q : List Nat, (pairW f c q).map Prod.snd = triW c q.length
  | [] => rfl
  | i :: r => by simp [pairW, triW, rowV_snd, pairW_snd f c r, List.range_eq_range']

theorem pairW_le (l : Nat → Int) (f : Nat → Nat → Int) (c : Nat → Int) : ∀ q : List Nat,
    (∀ i ∈ q, ∀ j ∈ q, 0 ≤ f i j) → (∀ A : List Nat, A.Sublist q → c A.length ≤ (A.map l).sum) →
    ((pairW f c q).map (fun p => p.1 * p.2)).sum ≤ edgeCost l f q
  | [], _, _ => by simp [pairW, edgeCost]
  | i :: r, hf, hc => by
    have ih := pairW_le l f c r (fun a ha b hb => hf a (List.mem_cons_of_mem _ ha) b (List.mem_cons_of_mem _ hb))
      (fun A hA => hc A (hA.trans (List.sublist_cons_self i r)))
    have hrow := rowV_le c (r.map (f i)) (r.map l) 0 0 (by simp)
      (by
        intro v hv
        obtain ⟨j, hj, rfl⟩ := List.mem_map.1 hv
        exact hf i List.mem_cons_self j (List.mem_cons_of_mem _ hj))
      (by
        intro idx hidx
        rw [List.length_map] at hidx
        have := hc (r.take idx) ((List.take_sublist idx r).trans (List.sublist_cons_self i r))
        rw [List.length_take, Nat.min_eq_left hidx] at this
        simpa [List.map_take] using this)
    simp only [pairW, edgeCost, List.map_append, List.sum_append, after_eq_aftV]
    omega

/-- the edge part of the srflp rough bound is a lower bound of the edge cost of every order `q` of the free departments -/
theorem edgeCost_ge (l : Nat → Int) (f : Nat → Nat → Int) (q : List Nat) (hq : q.Nodup) (hk : 1 ≤ q.length)
    (hl : ∀ i ∈ q, 0 ≤ l i) (hf : ∀ i ∈ q, ∀ j ∈ q, 0 ≤ f i j)
    (F Ls : List Int) (hF : F.Perm (pairFlows f q)) (hFs : F.Pairwise (· ≤ ·))
    (hL : Ls.Perm (q.map l)) (hLs : Ls.Pairwise (· ≤ ·)) :
    ∃ b, edgeBound? F Ls (q.length * (q.length - 1) / 2) q.length = some b ∧ b ≤ edgeCost l f q := by
  have hLl : Ls.length = q.length := by rw [hL.length_eq, List.length_map]
  have hLn : ∀ x ∈ Ls, 0 ≤ x := by
    intro x hx
    obtain ⟨i, hi, rfl⟩ := List.mem_map.1 (hL.mem_iff.1 hx)
    exact hl i hi
  have hk1 : q.length - 1 + 1 = q.length := by omega
  have hy : (edgeWeights 0 (q.length - 1) Ls).Perm ((pairW f (fun j => (Ls.take j).sum) q).map Prod.snd) := by
    rw [pairW_snd]
    have := edgeWeights_perm_triW Ls (q.length - 1) (by omega)
    rwa [hk1] at this
  obtain ⟨b, hb, hle⟩ := edgeBound?_le F Ls q.length hk (by rw [hF.length_eq, pairFlows_length]) (by omega) hFs hLn
    (pairW f (fun j => (Ls.take j).sum) q) (by rw [pairW_fst]; exact hF) hy
  refine ⟨b, hb, Int.le_trans hle (pairW_le l f _ q hf (fun A hA => ?_))⟩
  rw [← eq_sortInts hL hLs]
  exact take_sortInts_le A q l (hA.nodup hq) (fun a ha => hA.subset ha)

#print axioms edge_part
#print axioms edgeCost_ge

end Ddo.Examples.SrflpModel
