import DdoModel.Examples.AlpProofsStep
/-! alp example: the simulation, and the merge operator and the dominance rule as instances of it.

A state `m` RELAXES a state `t` (`Relaxes`) when it has at most as many aircraft left in every class and its runways can be
matched one to one with those of `t` so that every aircraft would land no later on the runway of `m` than on its match
(`rwDom`).  Then the best completion of `m` is worth at least the best completion of `t` (`sim`, `best_mono`): `m` answers a
landing of `t` by the same landing on the matched runway when it has the same aircraft of the class left, and by nothing
otherwise (the aircraft `t` lands is then one `m` has not: by the triangle inequality the runway of `t` only gets later).
`mergeOkValid`, `domAdmissibleValid` on `StValid` states follow; on `StOk` states alone both statements are FALSE
(`mergeOkStmt_false`, `domAdmissibleStmt_false`: a runway whose class is not a class of the instance reads a separation 0,
below `min_separation_to`; a runway with a negative time differs from `(0, -1)`, the empty runway). -/
namespace Ddo.Examples.AlpModel

section
open Ddo Ddo.Examples Ddo.Examples.Util

variable (I : Inst)

/-- every aircraft lands no later after `p` than after `q` -/
def rwDom (p q : Rw) : Prop := ∀ a, a < I.nbAircraft → arrP I p a ≤ arrP I q a

def Relaxes (m t : St) : Prop :=
  (∀ c, c < I.nbClasses → (m.1[c]?).getD 0 ≤ (t.1[c]?).getD 0) ∧ Matching (rwDom I) m.2 t.2

theorem rwDom_same {x y c : Int} (hx : 0 ≤ x) (h : x ≤ y) : rwDom I (x, c) (y, c) := by
  intro a _
  refine (arrP_le I).mpr ⟨tgt_le_arrP I _ a, fun hne => ?_⟩
  -- the later runway is not empty either
  have hne' : ¬((y, c).1 = 0 ∧ (y, c).2 = -1) := fun he => hne ⟨Int.le_antisymm (he.1 ▸ h) hx, he.2⟩
  exact Int.le_trans (Int.add_le_add_right h _) (add_sep_le_arrP I hne' a)

/-- unknown class, no later: `min_separation_to` is a lower bound of the column -/
theorem rwDom_unknown {x : Int} {q : Rw} (hx : 0 ≤ x) (h : x ≤ q.1) (hq : RwOk I q) : rwDom I (x, -1) q := by
  intro a _
  refine (arrP_le I).mpr ⟨tgt_le_arrP I q a, fun hne => ?_⟩
  have hne' : ¬(q.1 = 0 ∧ q.2 = -1) := fun he => hne ⟨Int.le_antisymm (he.1 ▸ h) hx, rfl⟩
  exact Int.le_trans (Int.add_le_add h (minSepTo_le_sepBefore I hq.2.1 hq.2.2 _)) (add_sep_le_arrP I hne' a)

theorem rwDom_same_known {x y : Int} {c : Nat} (h : x ≤ y) : rwDom I (x, (c : Int)) (y, (c : Int)) :=
  fun a _ => arrP_mono I (by omega) h a

theorem totRem_zero_of_relaxes {m t : St} (hWm : StW I m) (hrel : Relaxes I m t) (ht0 : totRem t = 0) : totRem m = 0 := by
  rw [totRem_zero_iff]
  intro k hk
  obtain ⟨c, hc, e⟩ := List.mem_iff_getElem.mp hk
  have h1 := hrel.1 c (by rw [← hWm.1]; exact hc)
  rw [List.getElem?_eq_getElem hc, e] at h1
  rw [totRem_zero_iff] at ht0
  cases h2 : t.1[c]? with
  | none => rw [h2] at h1; simpa using h1
  | some k2 =>
    rw [h2] at h1
    have := ht0 k2 (List.mem_of_getElem? h2)
    simp only [Option.getD_some] at h1
    omega

theorem sim (hD : InDom I) : ∀ (ft : Nat) (t : St), StW I t → totRem t ≤ ft → ∀ (fm : Nat) (m : St), StW I m →
    totRem m ≤ fm → Relaxes I m t → bestRem I ft t ≤ bestRem I fm m := by
  intro ft
  induction ft with
  | zero =>
    intro t _ hft fm m hWm _ hrel
    have ht0 : totRem t = 0 := Nat.le_zero.mp hft
    have hm0 : totRem m = 0 := totRem_zero_of_relaxes I hWm hrel ht0
    rw [bestRem_zero_tot I ht0, bestRem_zero_tot I hm0]
    exact EInt.le_refl _
  | succ ft ih =>
    intro t hWt hft fm m hWm hfm hrel
    by_cases ht0 : totRem t = 0
    · have hm0 : totRem m = 0 := totRem_zero_of_relaxes I hWm hrel ht0
      rw [bestRem_zero_tot I ht0, bestRem_zero_tot I hm0]
      exact EInt.le_refl _
    · apply bestRem_le_of_moves I hWt.1 hWt.2.1 (Nat.pos_of_ne_zero ht0)
      intro c i a k' hk ha hi hl
      have hc : c < I.nbClasses := by rw [← hWt.1]; exact lt_of_getElem?_some hk
      obtain ⟨han, hcls⟩ := nextTab_succ I ha
      have hit : i < t.2.length := by rw [hWt.2.1]; exact hi
      obtain ⟨j, hj, hdom, hset⟩ := hrel.2.set i hit
      have hjr : j < I.nbRunways := by rw [← hWm.2.1]; exact hj
      have emj : rwAt m j = m.2[j] := rwAt_eq hj
      rw [← rwAt_eq hit, ← emj] at hdom
      have harr : arrP I (rwAt m j) a ≤ arrP I (rwAt t i) a := hdom a han
      have hcm : c < m.1.length := by rw [hWm.1]; exact hc
      have hrc := hrel.1 c hc
      rw [hk, List.getElem?_eq_getElem hcm] at hrc
      simp only [Option.getD_some] at hrc
      have htl := totRem_land_le I i a hk hft
      by_cases hsame : m.1[c] = k' + 1
      · -- `m` lands the same aircraft on the matched runway
        have hkm : m.1[c]? = some (k' + 1) := by rw [List.getElem?_eq_getElem hcm, hsame]
        have hmtot := totRem_pos_of hkm (Nat.succ_pos _)
        obtain ⟨fm', rfl⟩ := Nat.exists_eq_add_one.mpr (Nat.lt_of_lt_of_le hmtot hfm)
        have h1 := bestRem_ge_move I hD hWm hkm ha hjr (Int.le_trans harr hl) fm' hfm
        have hrel' : Relaxes I (land I m c j a k') (land I t c i a k') := by
          refine ⟨?_, ?_⟩
          · intro c' hc'
            show ((m.1.set c k')[c']?).getD 0 ≤ ((t.1.set c k')[c']?).getD 0
            by_cases e : c = c'
            · subst e
              rw [List.getElem?_set_self hcm, List.getElem?_set_self (lt_of_getElem?_some hk)]
              exact Nat.le_refl _
            · rw [List.getElem?_set_ne e, List.getElem?_set_ne e]
              exact hrel.1 c' hc'
          · have h2 := hset (arrP I (rwAt m j) a, (c : Int)) (arrP I (rwAt t i) a, (c : Int))
              (rwDom_same_known I harr)
            exact h2.perm (sortRw_perm _).symm (sortRw_perm _).symm
        have h3 := ih _ (stW_land I hD hWt hk ha) htl fm' _ (stW_land I hD hWm hkm ha) (totRem_land_le I j a hkm hfm) hrel'
        exact EInt.le_trans (EMax.addI_mono h3 (Int.neg_le_neg (Int.sub_le_sub_right harr _))) h1
      · -- `m` has not this aircraft: it does nothing
        have hrel' : Relaxes I m (land I t c i a k') := by
          refine ⟨?_, ?_⟩
          · intro c' hc'
            show (m.1[c']?).getD 0 ≤ ((t.1.set c k')[c']?).getD 0
            by_cases e : c = c'
            · subst e
              rw [List.getElem?_set_self (lt_of_getElem?_some hk), List.getElem?_eq_getElem hcm]
              exact Nat.le_of_lt_succ (Nat.lt_of_le_of_ne hrc hsame)
            · rw [List.getElem?_set_ne e]
              exact hrel.1 c' hc'
          · have hrw : RwOk I (rwAt m j) := hWm.2.2 _ (rwAt_mem hj)
            have h2 := hset m.2[j] (arrP I (rwAt t i) a, (c : Int)) (by
              rw [← emj]
              intro b hb
              have s1 := arrP_skip I hD hrw han hb
              rw [hcls] at s1
              exact Int.le_trans s1 (rwDom_same_known I harr b hb))
            rw [List.set_getElem_self] at h2
            exact h2.perm (List.Perm.refl _) (sortRw_perm _).symm
        have h3 := ih _ (stW_land I hD hWt hk ha) htl fm m hWm hfm hrel'
        exact EInt.le_trans (EMax.addI_le_self (Int.neg_nonpos_of_nonneg (Int.sub_nonneg_of_le (tgt_le_arrP I _ a)))) h3
end

section
open Ddo Ddo.Examples Ddo.Examples.Util

variable (I : Inst)

theorem best_mono (hD : InDom I) {m t : St} (hWm : StW I m) (hWt : StW I t) (hrel : Relaxes I m t) :
    best I t ≤ best I m :=
  sim I hD _ t hWt (Nat.le_refl _) _ m hWm (Nat.le_refl _) hrel

theorem foldl_min_time_nonneg {ts : List St} (h : ∀ u ∈ ts, StW I u) (r : Nat) :
    0 ≤ ts.foldl (fun m s => min m ((s.2[r]?).getD (0, -1)).1) iMax := by
  rcases (EMax.foldl_intMin_spec (fun s : St => ((s.2[r]?).getD (0, -1)).1) ts iMax).2.2 with e | ⟨u, hu, e⟩
  · rw [e]; decide
  · rw [e]
    cases e' : u.2[r]? with
    | none => exact Int.le_refl _
    | some p => exact ((h u hu).2.2 p (List.mem_of_getElem? e')).1

theorem stW_merge {ts : List St} (h : ∀ u ∈ ts, StW I u) : StW I (mergeStates I ts) := by
  refine ⟨?_, ?_, ?_⟩
  · show ((List.range I.nbClasses).map _).length = _
    rw [List.length_map, List.length_range]
  · show ((List.range I.nbRunways).map _).length = _
    rw [List.length_map, List.length_range]
  intro p hp
  simp only [mergeStates, List.mem_map, List.mem_range] at hp
  obtain ⟨r, _, rfl⟩ := hp
  exact ⟨foldl_min_time_nonneg I h r, Int.le_refl (-1), Int.lt_of_lt_of_le (by decide : (-1 : Int) < 0) (Int.natCast_nonneg _)⟩

theorem relaxes_merge {ts : List St} (h : ∀ u ∈ ts, StW I u) {t : St} (ht : t ∈ ts) :
    Relaxes I (mergeStates I ts) t := by
  have hWt := h t ht
  refine ⟨?_, ?_⟩
  · intro c hc
    show (((List.range I.nbClasses).map _)[c]?).getD 0 ≤ _
    rw [List.getElem?_map, List.getElem?_range hc]
    exact (EMax.foldl_natMin_spec (fun s : St => (s.1[c]?).getD 0) ts uMax).2.1 t ht
  · apply Matching.of_forall
    · rw [(stW_merge I h).2.1, hWt.2.1]
    · intro i h1 h2
      have hi : i < I.nbRunways := by rw [← hWt.2.1]; exact h2
      have e : (mergeStates I ts).2[i]
          = (ts.foldl (fun m s => min m ((s.2[i]?).getD (0, -1)).1) iMax, (-1 : Int)) := by
        simp only [mergeStates, List.getElem_map, List.getElem_range]
      rw [e]
      have h3 := (EMax.foldl_intMin_spec (fun s : St => ((s.2[i]?).getD (0, -1)).1) ts iMax).2.1 t ht
      simp only [List.getElem?_eq_getElem h2, Option.getD_some] at h3
      exact rwDom_unknown I (foldl_min_time_nonneg I h i) h3 (hWt.2.2 _ (List.getElem_mem h2))

theorem mergeOkValid : MergeOkValidStmt I := by
  intro hdom ts t hts ht
  have hD := inDom_of I hdom
  have hW : ∀ u ∈ ts, StW I u := fun u hu => (hts u hu).toW
  exact best_mono I hD (stW_merge I hW) (hW t ht) (relaxes_merge I hW ht)

/-- what the driver evaluates on every merge event (`mergeOkAt`, `relax` leaves the arc cost unchanged: `delta = 0`) holds
    on valid states -/
theorem mergeOkAt_merge (hdom : I.inDomain = true) {ts : List St} {t : St} (hts : ∀ u ∈ ts, StValid I u) (ht : t ∈ ts) :
    mergeOkAt I t (mergeStates I ts) 0 = true := by
  unfold mergeOkAt
  apply decide_eq_true
  have h := mergeOkValid I hdom ts t hts ht
  cases hb : best I (mergeStates I ts) with
  | none => rw [hb] at h; exact h
  | some x => rw [hb] at h; show best I t ≤ some (x + 0); rw [Int.add_zero]; exact h

theorem domAdmissibleValid : DomAdmissibleValidStmt I := by
  intro hdom a b ha hb hkey hcoord
  have hD := inDom_of I hdom
  have hWa := ha.toW
  have hWb := hb.toW
  have hkey' : (a.1, a.2.map (·.2)) = (b.1, b.2.map (·.2)) := hkey
  obtain ⟨hk1, hk2⟩ := Prod.mk.inj hkey'
  refine best_mono I hD hWa hWb ⟨fun c _ => by rw [hk1]; exact Nat.le_refl _, ?_⟩
  apply Matching.of_forall
  · rw [hWa.2.1, hWb.2.1]
  · intro i h1 h2
    have hi : i < I.nbRunways := by rw [← hWb.2.1]; exact h2
    have hc := hcoord i hi
    simp only [domRule, List.getElem?_eq_getElem h1, List.getElem?_eq_getElem h2, Option.getD_some] at hc
    have hcl : (a.2[i]).2 = (b.2[i]).2 := by
      have := List.getElem_of_eq hk2 (by rw [List.length_map]; exact h1 : i < (a.2.map (·.2)).length)
      rwa [List.getElem_map, List.getElem_map] at this
    have h0 := (hWa.2.2 _ (List.getElem_mem h1)).1
    have e1 : a.2[i] = ((a.2[i]).1, (b.2[i]).2) := by rw [← hcl]
    have e2 : b.2[i] = ((b.2[i]).1, (b.2[i]).2) := rfl
    rw [e1, e2]
    exact rwDom_same I h0 (by omega)

/-- one aircraft (target 0, latest 3), one class (separation 5), one runway -/
def cexInst : Inst :=
  { nbClasses := 1, nbAircraft := 1, nbRunways := 1, classes := [0], target := [0], latest := [3], sep := [[5]] }

theorem cexInst_inDomain : cexInst.inDomain = true := by decide +kernel

/-- `MergeOkStmt` fails on an `StOk` state whose runway carries class `7` (no such class: the separation reads `0`, the
    merged runway — class unknown — uses `min_separation_to = 5`): merging the singleton `[t]` loses the only completion -/
theorem mergeOkStmt_false : ¬ MergeOkStmt cexInst := by
  intro h
  have := h cexInst_inDomain [([1], [(1, 7)])] ([1], [(1, 7)])
    (by intro u hu; rw [List.mem_singleton.mp hu]; exact ⟨rfl, rfl, rfl⟩) (List.mem_cons_self ..)
  revert this
  decide +kernel

/-- `MergeOkStmt` fails also with classes of the instance only but a NEGATIVE time: `(0, -1)` is the empty runway, the merged
    runway `(-1, -1)` is not -/
theorem mergeOkStmt_false' : ¬ MergeOkStmt cexInst := by
  intro h
  have := h cexInst_inDomain [([1], [(0, -1)]), ([1], [(-1, 0)])] ([1], [(0, -1)])
    (by
      intro u hu
      rcases List.mem_cons.mp hu with rfl | hu
      · exact ⟨rfl, rfl, rfl⟩
      · rw [List.mem_singleton.mp hu]; exact ⟨rfl, rfl, rfl⟩)
    (List.mem_cons_self ..)
  revert this
  decide +kernel

/-- `DomAdmissibleStmt` fails on `StOk` states with a negative time: `a = (-1, -1)` is "earlier" than the empty runway
    `b = (0, -1)`, but the aircraft lands at `max 0 (-1 + 5) = 4 > 3` after it -/
theorem domAdmissibleStmt_false : ¬ DomAdmissibleStmt cexInst := by
  intro h
  have := h cexInst_inDomain ([1], [(-1, -1)]) ([1], [(0, -1)]) ⟨rfl, rfl, rfl⟩ ⟨rfl, rfl, rfl⟩ rfl
    (by intro i hi; have : i = 0 := by simp only [cexInst] at hi; omega
        subst this; decide)
  revert this
  decide +kernel

#print axioms best_mono
#print axioms mergeOkValid
#print axioms domAdmissibleValid
#print axioms mergeOkAt_merge
#print axioms mergeOkStmt_false
#print axioms mergeOkStmt_false'
#print axioms domAdmissibleStmt_false
end

end Ddo.Examples.AlpModel
