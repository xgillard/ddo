/-! Smith's rule for one machine, on plain lists of jobs `(length, weight)`: the weighted cost `wct` of an order (every job pays
    its weight times the time at which it STARTS), what swapping two neighbours changes (`wct_swap`), and the rule itself
    (`smith_rule_optimal`: an order by decreasing ratio weight/length, compared by cross-multiplication, is cheapest among its
    permutations).  Used by the srflp rough bound (jobs = departments, weight = cut) and by the talentsched rough bound (jobs =
    actors, `TalentschedProofsSmith.lean`, which refers to these declarations as `SrflpModel.wct`, … : the namespace of this
    file is `Ddo.Examples.SrflpModel`). -/
namespace Ddo.Examples.SrflpModel

/-- Σ over the jobs `(length, cut)` in list order of `cut * (B + lengths of the jobs before)` -/
def wct : Int → List (Int × Int) → Int
  | _, [] => 0
  | B, (l, c) :: r => B * c + wct (B + l) r

@[simp] theorem wct_nil (B : Int) : wct B [] = 0 := rfl
theorem wct_cons (B : Int) (a : Int × Int) (r : List (Int × Int)) : wct B (a :: r) = B * a.2 + wct (B + a.1) r := by
  cases a; rfl

theorem wct_append (B : Int) (xs ys : List (Int × Int)) :
    wct B (xs ++ ys) = wct B xs + wct (B + (xs.map Prod.fst).sum) ys := by
  induction xs generalizing B with
  | nil => simp
  | cons a xs ih =>
    simp only [List.cons_append, wct_cons, ih, List.map_cons, List.sum_cons]
    rw [Int.add_assoc B a.1, Int.add_assoc]

theorem wct_swap_nil (B : Int) (post : List (Int × Int)) (a b : Int × Int) :
    wct B (a :: b :: post) - wct B (b :: a :: post) = a.1 * b.2 - b.1 * a.2 := by
  simp only [wct_cons]
  have h : B + b.1 + a.1 = B + a.1 + b.1 := by omega
  rw [h, Int.add_mul, Int.add_mul]
  omega

theorem wct_swap (B : Int) (pre post : List (Int × Int)) (a b : Int × Int) :
    wct B (pre ++ a :: b :: post) - wct B (pre ++ b :: a :: post) = a.1 * b.2 - b.1 * a.2 := by
  rw [wct_append, wct_append]
  have := wct_swap_nil (B + (pre.map Prod.fst).sum) post a b
  omega

/-- equal ratios (`c_a l_b = c_b l_a`) may be ordered arbitrarily: what the repaired `sort_unstable_by` relies on -/
theorem wct_swap_eq (B : Int) (pre post : List (Int × Int)) (a b : Int × Int) (h : a.2 * b.1 = b.2 * a.1) :
    wct B (pre ++ a :: b :: post) = wct B (pre ++ b :: a :: post) := by
  have := wct_swap B pre post a b
  rw [Int.mul_comm a.2, Int.mul_comm b.2] at h
  omega

/-- decreasing ratio cut/length: `a` before `b` implies `c_b / l_b ≤ c_a / l_a`, written `c_b l_a ≤ c_a l_b` -/
def SmithSorted (js : List (Int × Int)) : Prop := js.Pairwise (fun a b => b.2 * a.1 ≤ a.2 * b.1)

theorem wct_move_front (a : Int × Int) (post : List (Int × Int)) : ∀ (pre : List (Int × Int)) (B : Int),
    (∀ x ∈ pre, x.2 * a.1 ≤ a.2 * x.1) → wct B (a :: (pre ++ post)) ≤ wct B (pre ++ a :: post) := by
  intro pre
  induction pre with
  | nil => intro B _; simp
  | cons x pre ih =>
    intro B hx
    show wct B (a :: x :: (pre ++ post)) ≤ wct B (x :: (pre ++ a :: post))
    have h1 := ih (B + x.1) (fun y hy => hx y (List.mem_cons_of_mem _ hy))
    have h2 := wct_swap_nil B (pre ++ post) x a
    have h3 := hx x (List.mem_cons_self ..)
    rw [Int.mul_comm x.2, Int.mul_comm a.2] at h3
    have h4 : wct B (x :: a :: (pre ++ post)) = B * x.2 + wct (B + x.1) (a :: (pre ++ post)) := wct_cons ..
    have h5 : wct B (x :: (pre ++ a :: post)) = B * x.2 + wct (B + x.1) (pre ++ a :: post) := wct_cons ..
    have h6 : wct B (a :: x :: (pre ++ post)) = B * a.2 + wct (B + a.1) (x :: (pre ++ post)) := wct_cons ..
    omega

/-- Smith's rule: a list in decreasing-ratio order is cheapest among all its permutations (exchange argument) -/
theorem smith_rule_optimal {js js' : List (Int × Int)} (B : Int) (hs : SmithSorted js) (hp : js'.Perm js) :
    wct B js ≤ wct B js' := by
  induction js generalizing js' B with
  | nil => rw [List.perm_nil.mp hp]; exact Int.le_refl _
  | cons a rest ih =>
    have hs' := List.pairwise_cons.mp hs
    have ha : a ∈ js' := hp.mem_iff.mpr (List.mem_cons_self ..)
    obtain ⟨pre, post, rfl⟩ := List.append_of_mem ha
    have hperm : (pre ++ post).Perm rest := (List.perm_cons a).mp (List.perm_middle.symm.trans hp)
    have h1 := wct_move_front a post pre B (fun x hx => hs'.1 x (hperm.mem_iff.mp (List.mem_append_left _ hx)))
    have h2 := ih (B + a.1) hs'.2 hperm
    have h3 : wct B (a :: (pre ++ post)) = B * a.2 + wct (B + a.1) (pre ++ post) := wct_cons ..
    have h4 : wct B (a :: rest) = B * a.2 + wct (B + a.1) rest := wct_cons ..
    omega

/-- hence the `cut_bound` term of the Rust `fast_upper_bound` (srflp `relax.rs`; here `wct` of the sorted list, the fold in
    `rubWith?` of `SrflpDp.lean`) does not depend on how ties are broken -/
theorem wct_eq_of_smithSorted {js js' : List (Int × Int)} (B : Int) (hs : SmithSorted js) (hs' : SmithSorted js')
    (hp : js'.Perm js) : wct B js = wct B js' :=
  Int.le_antisymm (smith_rule_optimal B hs hp) (smith_rule_optimal B hs' hp.symm)

theorem wct_mono_map {γ : Type} (B B' : Int) (hB : 0 ≤ B) (hBB : B ≤ B') (f g : γ → Int × Int) (l : List γ)
    (h : ∀ x ∈ l, 0 ≤ (f x).1 ∧ (f x).1 ≤ (g x).1 ∧ 0 ≤ (f x).2 ∧ (f x).2 ≤ (g x).2) :
    wct B (l.map f) ≤ wct B' (l.map g) := by
  induction l generalizing B B' with
  | nil => simp
  | cons x l ih =>
    have hx := h x List.mem_cons_self
    have h1 : B * (f x).2 ≤ B' * (g x).2 := Int.mul_le_mul hBB hx.2.2.2 hx.2.2.1 (by omega)
    have h2 := ih (B + (f x).1) (B' + (g x).1) (by omega) (by omega) (fun y hy => h y (List.mem_cons_of_mem _ hy))
    rw [List.map_cons, List.map_cons, wct_cons, wct_cons]
    omega

#print axioms smith_rule_optimal
#print axioms wct_swap_eq

end Ddo.Examples.SrflpModel
