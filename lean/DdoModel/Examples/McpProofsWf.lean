import DdoModel.Examples.McpProofsRelax
import DdoModel.Proofs.MddCoverRel
import DdoModel.Proofs.WfRelSteps
import DdoModel.Props.C06
/-! mcp example: well-formedness and the closed corollary.

`wfRel` holds on every `GraphOk` matrix (validity = one benefit per vertex, the stored depth is the depth of the layer), but
`NoClampDom.relax` (relaxed cost of ANY triple of states in `[-B, B]`) is unsatisfiable for this relaxation when `n ≥ 1`
(`noClampDom_false`: `relax` adds `Σ_l |dst_l| - |merged_l|`, unbounded over arbitrary states), so `mcp_relaxed_ub_partial`, which
assumes it, is vacuous there.  The theorem RELATIVE TO VALID LAYERS (`CoverRel.relaxed_ub_rel_valid`) applies instead: `VB T A k s`
= `V T k s` and every benefit within `k · A` (`A` bounds the weights, `WBound`) — a transition adds `v · w T k l`, `v = ±1`, to the
components `l = k … n-1` and zeroes the components `l < k`; a merged benefit is no larger in absolute value than any merged-away
one.  `noClampRel` for `VB`, root value `vr = sum_of_negative_edges`: `B0 n A = n · A` (a transition cost from a valid state of
depth `k` is `max(0, ∓b_k) + Σ_{l = k…n-1} termF`, within `k · A + (n - k) · A`; it is `≥ 0`) and `BR n A = n · A + n · (n · A)`
(`relax` adds `n` terms, each within `n · A`; `vr` is the sum over `j < n`, `i < j` of `min 0 w_ij`, within `n · (n · A)`), under the
only size hypothesis `(n + 2) · BR n A ≤ 2^62`.  `mcp_relaxed_ub` bounds the optimum of the MODEL (`vr + bestRem root`), not the
specification `Mcp.best`: `DpExactStmt` is not proved. -/
namespace Ddo.Examples.McpModel

section
open Ddo Ddo.Examples Ddo.Examples.Util
variable (T : Tab)

def H (_ : Nat) (s : St) : EInt := bestRem T s
def V (k : Nat) (s : St) : Prop := StOk T s ∧ s.depth = k

theorem V_init : V T 0 (problem T).init := ⟨⟨by simp [problem, initSt], Nat.zero_le _⟩, rfl⟩

theorem merge?_ok {X : List St} (hne : X ≠ []) (hX : ∀ s ∈ X, s.benef.length = T.n) : ∃ m, merge? T X = some m := by
  cases X with
  | nil => exact absurd rfl hne
  | cons f r =>
    rw [merge?_cons]
    have : ((List.range T.n).mapM fun l => (f :: r).mapM fun s => s.benef[l]?) =
        some ((List.range T.n).map fun l => (f :: r).map fun s => bAt s l) := by
      apply EMax.mapM_total
      intro l hl
      apply EMax.mapM_total
      intro s hs
      exact getElem?_bAt (by rw [hX s hs]; exact List.mem_range.mp hl)
    rw [this]
    exact ⟨_, rfl⟩

theorem V_merge {k : Nat} {X : List St} (hne : X ≠ []) (hX : ∀ u ∈ X, V T k u) :
    ∃ m, merge? T X = some m ∧ (relaxation T).merge X = m ∧ V T k m := by
  obtain ⟨m, hm⟩ := merge?_ok T hne (fun s hs => (hX s hs).1.1)
  refine ⟨m, hm, by simp [relaxation, hm], ?_⟩
  exact merge_stOk T hX hm

theorem nextVar_some {k : Nat} {L : List St} {x : Nat} (h : (problem T).nextVar k L = some x) : x = k ∧ k < T.n := by
  simp only [problem, nextVar] at h
  split at h
  · cases h; exact ⟨rfl, by assumption⟩
  · cases h

theorem V_trans {k : Nat} {s : St} (hV : V T k s) (hk : k < T.n) (v : Int) : V T (k + 1) ((problem T).trans s ⟨k, v⟩) := by
  obtain ⟨⟨hl, _⟩, hd⟩ := hV
  refine ⟨⟨trans_length T hl _ _ (by omega), ?_⟩, ?_⟩
  · show (trans T s ⟨k, v⟩).depth ≤ T.n
    rw [trans_depth T hl]; omega
  · show (trans T s ⟨k, v⟩).depth = k + 1
    rw [trans_depth T hl]; omega

theorem bestRem_trans {s : St} (hS : StOk T s) (hk : s.depth < T.n) (v : Int) :
    bestRem T (trans T s ⟨s.depth, v⟩) = some (Hf T (T.n - (s.depth + 1)) (s.depth + 1) (stepF T (bAt s) s.depth v)) := by
  unfold bestRem
  have := bestRemF_eq T (T.n - (s.depth + 1)) (trans T s ⟨s.depth, v⟩) (stepF T (bAt s) s.depth v)
    (trans_length T hS.1 _ _ (by omega)) (by
      intro l h1 h2
      rw [trans_depth T hS.1] at h1
      exact trans_bAt T hS.1 _ _ (by omega) h2)
  rw [trans_depth T hS.1] at this ⊢
  exact this

theorem attV {k : Nat} {s : St} {h : Int} (hV : V T k s) (hk : k < T.n) (hH : H T k s = some h) :
    ∃ d ∈ (problem T).domain k s, ∃ h', H T (k + 1) ((problem T).trans s ⟨k, d⟩) = some h' ∧
      h ≤ (problem T).cost s ((problem T).trans s ⟨k, d⟩) ⟨k, d⟩ + h' := by
  obtain ⟨hS, hd⟩ := hV
  subst hd
  simp only [H, bestRem_eq T hS, Option.some.injEq] at hH
  have e : T.n - s.depth = (T.n - (s.depth + 1)) + 1 := by omega
  rw [e] at hH
  simp only [H, problem]
  by_cases h0 : s.depth = 0
  · rw [h0, Hf_first T _ (by omega), Nat.zero_add] at hH
    refine ⟨1, by simp [domain, h0], _, bestRem_trans T hS hk 1, ?_⟩
    rw [cost_ok T hS.1 hk (Or.inl rfl)]
    simp only [h0, if_true, Nat.zero_add]
    omega
  · rw [Hf_succ T _ hk h0] at hH
    by_cases hc : costF T (bAt s) s.depth (-1) + Hf T (T.n - (s.depth + 1)) (s.depth + 1) (stepF T (bAt s) s.depth (-1)) ≤
        costF T (bAt s) s.depth 1 + Hf T (T.n - (s.depth + 1)) (s.depth + 1) (stepF T (bAt s) s.depth 1)
    · refine ⟨1, by simp [domain, h0], _, bestRem_trans T hS hk 1, ?_⟩
      rw [cost_ok T hS.1 hk (Or.inl rfl)]
      simp only [h0, if_false]
      omega
    · refine ⟨-1, by simp [domain, h0], _, bestRem_trans T hS hk (-1), ?_⟩
      rw [cost_ok T hS.1 hk (Or.inr rfl)]
      simp only [h0, if_false]
      omega

theorem wfRel {n : Nat} {adj : List (List Int)} (hG : GraphOk n adj) :
    WfRel (problem (tabOfAdj n adj)) (relaxation (tabOfAdj n adj)) (H (tabOfAdj n adj)) (V (tabOfAdj n adj)) := by
  refine .of_steps ?_ ?_ ?_ ?_ ?_ ?_
  · intro k L x s d hnv hV _
    obtain ⟨rfl, hk⟩ := nextVar_some _ hnv
    exact V_trans _ hV hk d
  · intro k X hne hX
    obtain ⟨m, _, hm, hVm⟩ := V_merge _ hne hX
    rw [hm]; exact hVm
  · intro k L x s h hnv hV hH
    obtain ⟨rfl, hk⟩ := nextVar_some _ hnv
    exact attV _ hV hk hH
  · intro k L s h hnv _ hV hH
    have hk : ¬ k < (tabOfAdj n adj).n := by
      intro hk
      simp [problem, nextVar, hk] at hnv
    obtain ⟨hS, hd⟩ := hV
    simp only [H, bestRem_eq _ hS, Option.some.injEq] at hH
    have : (tabOfAdj n adj).n - s.depth = 0 := by omega
    rw [this] at hH
    simp only [Hf] at hH
    omega
  · intro k s h hV hH
    have := rubAdmissible n adj hG s hV.1
    simp only [H] at hH
    rw [hH] at this
    exact this
  · intro k X u src d c h hu hX hH
    obtain ⟨m, hm?, hm, hVm⟩ := V_merge _ (List.ne_nil_of_mem hu) hX
    have hSu := (hX u hu).1
    have hX' : ∀ s ∈ X, StOk (tabOfAdj n adj) s ∧ s.depth = u.depth := fun s hs => ⟨(hX s hs).1, by rw [(hX s hs).2, (hX u hu).2]⟩
    have hpot := merge_potential _ (graphOk_diag hG) hX' hu hm?
    simp only [H, bestRem_eq _ hSu, Option.some.injEq] at hH
    rw [hm]
    refine ⟨_, by simp only [H]; exact bestRem_eq _ hVm.1, ?_⟩
    simp only [relaxation, relax?_ok _ hSu.1 hVm.1.1, Option.getD_some]
    rw [hVm.2, ← (hX u hu).2]
    omega

/-- **finding**: `relax` adds `Σ_l (|dst_l| - |mrg_l|)`, unbounded over all pairs of states, so the no-saturation hypothesis of
    the generic theorems (`NoClampDom.relax`, `NoClamp.relax`) cannot be met as soon as there is a vertex (nor by max2sat, whose
    `relax` has the same shape) -/
theorem noClampDom_false (hn : 1 ≤ T.n) (rv B : Int) : ¬ NoClampDom (problem T) (relaxation T) rv B := by
  intro h
  have hB := h.nonneg
  have hr := (h.relax (initSt T) ⟨0, List.replicate T.n (2 * B + 1)⟩ (initSt T) ⟨0, 1⟩ 0 ⟨by omega, hB⟩).2
  simp only [relaxation] at hr
  rw [relax?_ok T (by simp) (by simp [initSt])] at hr
  simp only [Option.getD_some] at hr
  have hc : rsum 0 T.n (fun l => iabs (bAt ⟨0, List.replicate T.n (2 * B + 1)⟩ l) - iabs (bAt (initSt T) l)) =
      rsum 0 T.n (fun _ => 2 * B + 1) := by
    apply rsum_congr
    intro l _ hl
    have hl' : l < T.n := by omega
    simp only [bAt, initSt, List.getD_eq_getElem?_getD, List.getElem?_replicate, hl', if_true, Option.getD_some]
    rw [iabs_eq_max, iabs_eq_max]; omega
  rw [hc] at hr
  obtain ⟨c, hcn⟩ : ∃ c, T.n = c + 1 := ⟨T.n - 1, by omega⟩
  rw [hcn, rsum_succ] at hr
  have := rsum_nonneg (k := 0 + 1) (c := c) (f := fun _ => 2 * B + 1) (fun _ _ _ => by omega)
  omega

/-- **assumes `NoClampDom`**, which `noClampDom_false` refutes for `n ≥ 1`: vacuous there; `mcp_relaxed_ub` is the corollary that holds -/
theorem mcp_relaxed_ub_partial {K : Type} [DecidableEq K] (cfg : Cfg St K) (B : Int)
    (cache : Cache St) (store : DomStore St K) (polls : Nat) {n : Nat} {adj : List (List Int)} (hG : GraphOk n adj)
    (hP : cfg.P = problem (tabOfAdj n adj)) (hR : cfg.R = relaxation (tabOfAdj n adj))
    (hrs : cfg.root.state = initSt (tabOfAdj n adj)) (hrv : cfg.root.value = (tabOfAdj n adj).vr) (hrd : cfg.root.depth = 0)
    (hrel : cfg.ctype = .relaxed) (hcache : cfg.useCache = false) (hdom : cfg.dom = none) (hW : 1 ≤ cfg.width)
    (hB : NoClampDom (problem (tabOfAdj n adj)) (relaxation (tabOfAdj n adj)) (tabOfAdj n adj).vr B)
    (hlb : InI cfg.lb) (o : Int)
    (ho : (bestRem (tabOfAdj n adj) (initSt (tabOfAdj n adj))).addI (tabOfAdj n adj).vr = some o) (hgt : o > cfg.lb)
    (hO : o ≤ iMax ∨ cfg.lb < iMax) :
    (compile cfg cache store polls none).1 = .ok →
    ∃ bv, (compile cfg cache store polls none).2.1.bestValue = some bv ∧ o ≤ bv := by
  refine C06.relaxed_ub_rel_dom cfg (H (tabOfAdj n adj)) (V (tabOfAdj n adj)) B cache store polls hrel hcache hdom hW
    ?_ ?_ ?_ hlb o ?_ hgt hO
  · rw [hP, hR]; exact wfRel hG
  · rw [hrd, hrs]; exact V_init _
  · rw [hP, hR, hrv]; exact hB
  · unfold optOf
    rw [hrd, hrs, hrv]
    exact ho

section Axioms
#print axioms wfRel
#print axioms noClampDom_false
#print axioms mcp_relaxed_ub_partial
end Axioms
end

section
open Ddo Ddo.Examples Ddo.Examples.Util

theorem rsum_between {k c : Nat} {f : Nat → Int} {L U : Int} (h : ∀ l, k ≤ l → l < k + c → L ≤ f l ∧ f l ≤ U) :
    (c : Int) * L ≤ rsum k c f ∧ rsum k c f ≤ (c : Int) * U := by
  have h1 := rsum_le (k := k) (c := c) (f := f) (g := fun _ => U) (fun l a b => (h l a b).2)
  have h2 := rsum_le (k := k) (c := c) (f := fun _ => L) (g := f) (fun l a b => (h l a b).1)
  rw [rsum_const] at h1 h2
  exact ⟨h2, h1⟩

theorem natCast_mul_le {k n : Nat} {A : Int} (hkn : k ≤ n) (hA : 0 ≤ A) : (k : Int) * A ≤ (n : Int) * A :=
  Int.mul_le_mul_of_nonneg_right (Int.ofNat_le.mpr hkn) hA

theorem iabs_zero : iabs 0 = 0 := rfl

theorem iabs_le {x A : Int} (h : -A ≤ x ∧ x ≤ A) : iabs x ≤ A := by unfold iabs; split <;> omega

variable (T : Tab)

def WBound (A : Int) : Prop := ∀ i j, -A ≤ w T i j ∧ w T i j ≤ A

theorem WBound.nonneg {T : Tab} {A : Int} (h : WBound T A) : 0 ≤ A := by
  have := h 0 0; omega

/-- a cell outside the matrix reads as `0` -/
theorem wBound_of_entries {A : Int} (hA0 : 0 ≤ A) (h : ∀ row ∈ T.adj, ∀ q ∈ row, -A ≤ q ∧ q ≤ A) : WBound T A := by
  intro i j
  show -A ≤ (T.adj.getD i []).getD j 0 ∧ (T.adj.getD i []).getD j 0 ≤ A
  by_cases hi : i < T.adj.length
  · have hrow : T.adj.getD i [] ∈ T.adj := getD_mem hi
    generalize T.adj.getD i [] = row at hrow ⊢
    by_cases hj : j < row.length
    · have : row.getD j 0 ∈ row := by
        rw [List.getD_eq_getElem?_getD, List.getElem?_eq_getElem hj]
        exact List.getElem_mem hj
      exact h _ hrow _ this
    · rw [List.getD_eq_getElem?_getD, List.getElem?_eq_none (by omega)]
      simp only [Option.getD_none]; omega
  · have : T.adj.getD i [] = [] := by
      rw [List.getD_eq_getElem?_getD, List.getElem?_eq_none (by omega)]; rfl
    rw [this]
    simp only [List.getD_eq_getElem?_getD, List.getElem?_nil, Option.getD_none]; omega

theorem bAt_ge {s : St} {l : Nat} (h : s.benef.length ≤ l) : bAt s l = 0 := by
  unfold bAt
  rw [List.getD_eq_getElem?_getD, List.getElem?_eq_none h]; rfl

theorem trans_bAt_lt {s : St} (hlen : s.benef.length = T.n) (x : Nat) (v : Int) {l : Nat} (hlx : l < x) (hx : x ≤ T.n) :
    bAt (trans T s ⟨x, v⟩) l = 0 := by
  rw [trans_ok T hlen]
  unfold bAt
  simp only [List.getD_eq_getElem?_getD]
  rw [List.getElem?_append_left (by simp; omega)]
  have hm : l < min x T.n := by omega
  simp [hm]

theorem domain_pm {x : Nat} {s : St} {d : Int} (hd : d ∈ (problem T).domain x s) : d = 1 ∨ d = -1 := by
  simp only [problem, domain] at hd
  split at hd <;> simp at hd <;> omega

/-- each transition adds `± w` to a benefit -/
def VB (A : Int) (k : Nat) (s : St) : Prop := V T k s ∧ ∀ l, iabs (bAt s l) ≤ (k : Int) * A

theorem VB_init (A : Int) : VB T A 0 (problem T).init := by
  refine ⟨V_init T, fun l => ?_⟩
  show iabs (bAt (initSt T) l) ≤ ((0 : Nat) : Int) * A
  rw [bAt_init, iabs_zero]; simp

variable {T}
variable {A : Int}

theorem VB.le_n {k : Nat} {s : St} (h : VB T A k s) : k ≤ T.n := by
  have := h.1.1.2; have := h.1.2; omega

theorem VB.abs_le {k : Nat} {s : St} (h : VB T A k s) (hA0 : 0 ≤ A) (l : Nat) :
    0 ≤ iabs (bAt s l) ∧ iabs (bAt s l) ≤ (T.n : Int) * A :=
  ⟨iabs_nonneg _, Int.le_trans (h.2 l) (natCast_mul_le h.le_n hA0)⟩

theorem VB_trans (hA : WBound T A) {k : Nat} {s : St} (hV : VB T A k s) (hk : k < T.n) {v : Int} (hv : v = 1 ∨ v = -1) :
    VB T A (k + 1) ((problem T).trans s ⟨k, v⟩) := by
  refine ⟨V_trans T hV.1 hk v, fun l => ?_⟩
  have hA0 := hA.nonneg
  have hlen := hV.1.1.1
  have hkA : 0 ≤ (k : Int) * A := Int.mul_nonneg (Int.natCast_nonneg k) hA0
  have e : ((k + 1 : Nat) : Int) * A = (k : Int) * A + A := by
    rw [Int.natCast_add, Int.add_mul]; simp
  rw [e]
  show iabs (bAt (trans T s ⟨k, v⟩) l) ≤ (k : Int) * A + A
  by_cases h1 : l < k
  · rw [trans_bAt_lt T hlen k v h1 (by omega), iabs_zero]; omega
  · by_cases h2 : l < T.n
    · rw [trans_bAt T hlen k v (by omega) h2]
      have hb := hV.2 l
      have hw := iabs_le (hA k l)
      have := iabs_add_pm_le (bAt s l) (w T k l) v hv
      unfold stepF
      omega
    · rw [bAt_ge (by rw [trans_length T hlen k v (by omega)]; omega), iabs_zero]; omega

theorem VB_merge {k : Nat} {X : List St} (hne : X ≠ []) (hX : ∀ u ∈ X, VB T A k u) :
    ∃ m, merge? T X = some m ∧ (relaxation T).merge X = m ∧ VB T A k m := by
  obtain ⟨m, hm?, hm, hVm⟩ := V_merge T hne (fun u hu => (hX u hu).1)
  refine ⟨m, hm?, hm, hVm, fun l => ?_⟩
  obtain ⟨u, hu⟩ := List.exists_mem_of_ne_nil X hne
  have hub := (hX u hu).2 l
  by_cases hl : l < T.n
  · obtain ⟨a, b, ha, hb, h1, _, _⟩ := merge_abs_le T hm? hu hl
    rw [getElem?_bAt (by rw [hVm.1.1]; exact hl)] at ha
    rw [getElem?_bAt (by rw [(hX u hu).1.1.1]; exact hl)] at hb
    cases ha; cases hb
    exact Int.le_trans h1 hub
  · rw [bAt_ge (by rw [hVm.1.1]; omega), iabs_zero]
    have := iabs_nonneg (bAt u l)
    omega

theorem wfRelVB {n : Nat} {adj : List (List Int)} (hG : GraphOk n adj) (hA : WBound (tabOfAdj n adj) A) :
    WfRelV (problem (tabOfAdj n adj)) (relaxation (tabOfAdj n adj)) (H (tabOfAdj n adj)) (VB (tabOfAdj n adj) A) := by
  refine ((wfRel hG).strengthen (V' := VB (tabOfAdj n adj) A) (fun _ _ h => h.1) ?_ ?_).toV
  · intro k L x s d hnv hV hd
    obtain ⟨rfl, hk⟩ := nextVar_some _ hnv
    exact VB_trans hA hV hk (domain_pm _ hd)
  · intro k X hne hX
    obtain ⟨m, _, hm, hVm⟩ := VB_merge hne hX
    rw [hm]; exact hVm

def B0 (n : Nat) (A : Int) : Int := (n : Int) * A
def BR (n : Nat) (A : Int) : Int := (n : Int) * A + (n : Int) * ((n : Int) * A)

theorem termF_bound (hA : WBound T A) (b : Nat → Int) (k : Nat) (v : Int) (l : Nat) :
    0 ≤ termF T b k v l ∧ termF T b k v l ≤ A := by
  have hA0 := hA.nonneg
  unfold termF
  split
  · exact ⟨Int.le_min.mpr ⟨iabs_nonneg _, iabs_nonneg _⟩, Int.le_trans (Int.min_le_right _ _) (iabs_le (hA k l))⟩
  · exact ⟨Int.le_refl 0, hA0⟩

theorem costF_bound (hA : WBound T A) {k : Nat} {s : St} (hV : VB T A k s) (hk : k < T.n) {v : Int} (hv : v = 1 ∨ v = -1) :
    0 ≤ costF T (bAt s) k v ∧ costF T (bAt s) k v ≤ (T.n : Int) * A := by
  have hA0 := hA.nonneg
  unfold costF
  obtain ⟨h1, h2⟩ := rsum_between (k := k) (c := T.n - k) (f := termF T (bAt s) k v) (L := 0) (U := A)
    (fun l _ _ => termF_bound hA _ _ _ _)
  have hb := hV.2 k
  have := max_neg_le_iabs v (bAt s k) hv
  have e : ((T.n - k : Nat) : Int) * A = (T.n : Int) * A - (k : Int) * A := by
    rw [Int.natCast_sub (by omega), Int.sub_mul]
  rw [e] at h2
  rw [Int.mul_zero] at h1
  omega

theorem vr_bound {n : Nat} {adj : List (List Int)} (hG : GraphOk n adj) (hA : WBound (tabOfAdj n adj) A) :
    -((n : Int) * ((n : Int) * A)) ≤ (tabOfAdj n adj).vr ∧ (tabOfAdj n adj).vr ≤ 0 := by
  have hA0 := hA.nonneg
  show -((n : Int) * ((n : Int) * A)) ≤ sumNeg adj ∧ sumNeg adj ≤ 0
  rw [sumNeg_eq hG]
  unfold colNeg
  obtain ⟨h1, h2⟩ := rsum_between (k := 0) (c := n) (f := fun j => rsum 0 j fun i => min 0 (wAt adj i j))
    (L := -((n : Int) * A)) (U := 0) (by
      intro j _ hj
      obtain ⟨h3, h4⟩ := rsum_between (k := 0) (c := j) (f := fun i => min 0 (wAt adj i j)) (L := -A) (U := 0) (by
        intro i _ _
        have := hA i j
        have e : w (tabOfAdj n adj) i j = wAt adj i j := rfl
        rw [e] at this
        omega)
      have := natCast_mul_le (k := j) (n := n) (by omega) hA0
      rw [Int.mul_neg] at h3
      rw [Int.mul_zero] at h4
      omega)
  rw [Int.mul_neg] at h1
  rw [Int.mul_zero] at h2
  exact ⟨h1, h2⟩

theorem noClampRel {n : Nat} {adj : List (List Int)} (hG : GraphOk n adj) (hA : WBound (tabOfAdj n adj) A)
    (hsmall : ((n : Int) + 2) * BR n A ≤ 4611686018427387904) :
    NoClampRel (problem (tabOfAdj n adj)) (relaxation (tabOfAdj n adj)) (VB (tabOfAdj n adj) A) (tabOfAdj n adj).vr
      (B0 n A) (BR n A) := by
  have hA0 := hA.nonneg
  have hnA : 0 ≤ (n : Int) * A := Int.mul_nonneg (Int.natCast_nonneg n) hA0
  have hnnA : 0 ≤ (n : Int) * ((n : Int) * A) := Int.mul_nonneg (Int.natCast_nonneg n) hnA
  refine ⟨hnA, by unfold B0 BR; omega, ?_, ?_, ?_, hsmall⟩
  · have := vr_bound hG hA
    unfold BR; omega
  · intro k L x s d hnv _ hV hd
    obtain ⟨rfl, hk⟩ := nextVar_some _ hnv
    have hv := domain_pm _ hd
    show -B0 n A ≤ cost (tabOfAdj n adj) s ⟨x, d⟩ ∧ cost (tabOfAdj n adj) s ⟨x, d⟩ ≤ B0 n A
    rw [cost_ok _ hV.1.1.1 hk hv]
    unfold B0
    split
    · omega
    · have := costF_bound hA hV hk hv
      have e : ((tabOfAdj n adj).n : Int) = (n : Int) := rfl
      rw [e] at this
      omega
  · intro k X u src d c hu hX hc
    obtain ⟨m, _, hm, hVm⟩ := VB_merge (List.ne_nil_of_mem hu) hX
    have hVu := hX u hu
    rw [hm]
    show -BR n A ≤ (relax? (tabOfAdj n adj) u m c).getD c ∧ (relax? (tabOfAdj n adj) u m c).getD c ≤ BR n A
    rw [relax?_ok _ hVu.1.1.1 hVm.1.1.1]
    simp only [Option.getD_some]
    obtain ⟨h1, h2⟩ := rsum_between (k := 0) (c := (tabOfAdj n adj).n)
      (f := fun l => iabs (bAt u l) - iabs (bAt m l)) (L := -((n : Int) * A)) (U := (n : Int) * A) (by
        intro l _ _
        have h3 := hVu.abs_le hA0 l
        have h4 := hVm.abs_le hA0 l
        have e : ((tabOfAdj n adj).n : Int) = (n : Int) := rfl
        rw [e] at h3 h4
        omega)
    have e : ((tabOfAdj n adj).n : Int) = (n : Int) := rfl
    rw [e, Int.mul_neg] at h1
    rw [e] at h2
    unfold B0 at hc
    unfold BR
    omega

/-- **a relaxed compilation of the mcp model from the root reports an upper bound of `vr + bestRem root`**: the optimum of the
    MODEL, which `dpExact_partial` identifies with the best cut on the matrix; not the specification `Mcp.best` (`DpExactStmt`
    is not proved) -/
theorem mcp_relaxed_ub {K : Type} [DecidableEq K] (cfg : Cfg St K) (A : Int)
    (cache : Cache St) (store : DomStore St K) (polls : Nat) {n : Nat} {adj : List (List Int)} (hG : GraphOk n adj)
    (hP : cfg.P = problem (tabOfAdj n adj)) (hR : cfg.R = relaxation (tabOfAdj n adj))
    (hrs : cfg.root.state = initSt (tabOfAdj n adj)) (hrv : cfg.root.value = (tabOfAdj n adj).vr) (hrd : cfg.root.depth = 0)
    (hrel : cfg.ctype = .relaxed) (hcache : cfg.useCache = false) (hdom : cfg.dom = none) (hW : 1 ≤ cfg.width)
    (hA : WBound (tabOfAdj n adj) A)
    (hsmall : ((n : Int) + 2) * BR n A ≤ 4611686018427387904)
    (hlb : InI cfg.lb) (o : Int)
    (ho : (bestRem (tabOfAdj n adj) (initSt (tabOfAdj n adj))).addI (tabOfAdj n adj).vr = some o) (hgt : o > cfg.lb)
    (hO : o ≤ iMax ∨ cfg.lb < iMax) :
    (compile cfg cache store polls none).1 = .ok →
    ∃ bv, (compile cfg cache store polls none).2.1.bestValue = some bv ∧ o ≤ bv := by
  refine Ddo.CoverRel.relaxed_ub_rel_valid cfg (H (tabOfAdj n adj)) (VB (tabOfAdj n adj) A) (B0 n A) (BR n A)
    cache store polls hrel hcache hdom hW ?_ ?_ ?_ hlb o ?_ hgt hO
  · rw [hP, hR]; exact wfRelVB hG hA
  · rw [hrd, hrs]; exact VB_init _ A
  · rw [hP, hR, hrv]; exact noClampRel hG hA hsmall
  · unfold optOf
    rw [hrd, hrs, hrv]
    exact ho

theorem mcp_relaxed_ub_entries {K : Type} [DecidableEq K] (cfg : Cfg St K) (A : Int)
    (cache : Cache St) (store : DomStore St K) (polls : Nat) {n : Nat} {adj : List (List Int)} (hG : GraphOk n adj)
    (hP : cfg.P = problem (tabOfAdj n adj)) (hR : cfg.R = relaxation (tabOfAdj n adj))
    (hrs : cfg.root.state = initSt (tabOfAdj n adj)) (hrv : cfg.root.value = (tabOfAdj n adj).vr) (hrd : cfg.root.depth = 0)
    (hrel : cfg.ctype = .relaxed) (hcache : cfg.useCache = false) (hdom : cfg.dom = none) (hW : 1 ≤ cfg.width)
    (hA0 : 0 ≤ A) (hA : ∀ row ∈ adj, ∀ q ∈ row, -A ≤ q ∧ q ≤ A)
    (hsmall : ((n : Int) + 2) * BR n A ≤ 4611686018427387904)
    (hlb : InI cfg.lb) (o : Int)
    (ho : (bestRem (tabOfAdj n adj) (initSt (tabOfAdj n adj))).addI (tabOfAdj n adj).vr = some o) (hgt : o > cfg.lb)
    (hO : o ≤ iMax ∨ cfg.lb < iMax) :
    (compile cfg cache store polls none).1 = .ok →
    ∃ bv, (compile cfg cache store polls none).2.1.bestValue = some bv ∧ o ≤ bv :=
  mcp_relaxed_ub cfg A cache store polls hG hP hR hrs hrv hrd hrel hcache hdom hW
    (wBound_of_entries (tabOfAdj n adj) hA0 hA) hsmall hlb o ho hgt hO

section Axioms
#print axioms wfRelVB
#print axioms noClampRel
#print axioms mcp_relaxed_ub
#print axioms mcp_relaxed_ub_entries
end Axioms
end

end Ddo.Examples.McpModel

