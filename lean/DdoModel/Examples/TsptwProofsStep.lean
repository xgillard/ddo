import DdoModel.WfRel
import DdoModel.Examples.TsptwModel
import DdoModel.Examples.EMax
import DdoModel.Examples.TourBase
/-! On well-formed tables (`TabOk`) and valid states (`Valid`) the partial (panicking) functions of the tsptw model
    (`TsptwDp.lean`) are total and have closed forms (`domain_eq`, `trans_eq`, `cost_eq`); the other `TsptwProofs*` modules
    work with those.  `Sim m u`: `m` starts no later than `u`, from more possible positions, with fewer mandatory cities and
    at least the same cities available; `m` is then worth at least as much as `u`, the difference of the earliest times
    included (`simG_le`, `TsptwProofsStar.lean`) — the relation behind `merge` and the dominance rule. -/

namespace Ddo.Examples.TsptwModel
open Ddo Ddo.Examples

/-- bound on every number of the table and every time of a valid state (`usize` arithmetic then never overflows) -/
def BND : Nat := 2 ^ 40

/-- a table as `TsptwInstance` / `TsptwRelax::new` build it: a square matrix, one window per node, the cheapest incoming
    edges, at most 256 nodes (`Set256`), numbers far from the end of `usize` -/
structure TabOk (T : Tab) : Prop where
  n_pos : 1 ≤ T.n
  n_le : T.n ≤ 256
  d_len : T.d.length = T.n
  row_len : ∀ r ∈ T.d, r.length = T.n
  tw_len : T.tw.length = T.n
  ce_eq : T.ce = cheapestOf T.n T.d
  d_small : ∀ i j, distOf T.d i j < BND
  tw_small : ∀ p ∈ T.tw, p.1 < BND ∧ p.2 < BND

def mb (s : St) : List Nat := s.maybe.getD []

/-- a state as the solver builds them: sets are sets (`Set256`: no duplicate), mandatory and optional cities are disjoint -/
structure Valid (T : Tab) (s : St) : Prop where
  depth_le : s.depth ≤ T.n
  last_pos : s.depth = T.n → ∀ p ∈ posSet s.pos, p = 0
  pos_ne : posSet s.pos ≠ []
  pos_lt : ∀ p ∈ posSet s.pos, p < T.n
  must_rng : ∀ i ∈ s.must, 1 ≤ i ∧ i < T.n
  must_pos : ∀ i ∈ s.must, i ∉ posSet s.pos
  maybe_rng : ∀ i ∈ mb s, 1 ≤ i ∧ i < T.n
  must_nd : s.must.Nodup
  maybe_nd : (mb s).Nodup
  disj : ∀ i ∈ s.must, i ∉ mb s
  e_small : s.el.earliest < BND
  l_small : s.el.latest < BND

theorem valid_of_validB {T : Tab} {s : St} (h : validB T s = true) (h1 : s.must.Nodup) (h2 : (mb s).Nodup)
    (h3 : ∀ i ∈ s.must, i ∉ mb s) : Valid T s := by
  simp only [validB, Bool.and_eq_true, Bool.or_eq_true, decide_eq_true_eq, List.all_eq_true, Bool.not_eq_true',
    List.isEmpty_eq_false_iff, beq_iff_eq, List.contains_eq_mem, decide_eq_false_iff_not] at h
  obtain ⟨⟨⟨⟨⟨⟨⟨⟨a1, a2⟩, a3⟩, a4⟩, a5⟩, a6⟩, a7⟩, a8⟩, a9⟩ := h
  refine ⟨a2, ?_, a4, a5, fun i hi => (a6 i hi).1, fun i hi => (a6 i hi).2, a7, h1, h2, h3, a8, a9⟩
  intro hd p hp
  rcases a3 with a3 | a3
  · omega
  · rw [a3] at hp; simpa using hp

theorem filterMapM_total {α : Type} (f : α → Option (Option α)) (g : α → Bool) : ∀ l : List α,
    (∀ x ∈ l, f x = some (if g x then some x else none)) → l.filterMapM f = some (l.filter g) := by
  intro l
  induction l with
  | nil => intro _; rfl
  | cons a t ih =>
    intro h
    rw [List.filterMapM_cons, h a List.mem_cons_self, ih (fun x hx => h x (List.mem_cons_of_mem _ hx))]
    cases hg : g a <;> simp [hg]

theorem foldl_min_le (f : Nat → Nat) : ∀ (l : List Nat) (a : Nat),
    l.foldl (fun m i => min m (f i)) a ≤ a ∧ (∀ i ∈ l, l.foldl (fun m i => min m (f i)) a ≤ f i) ∧
    (l.foldl (fun m i => min m (f i)) a = a ∨ ∃ i ∈ l, l.foldl (fun m i => min m (f i)) a = f i) :=
  EMax.foldl_natMin_spec f

theorem foldl_max_spec (f : Int → EInt) : ∀ (l : List Int) (acc : EInt),
    acc ≤ l.foldl (fun a v => EInt.max a (f v)) acc ∧
    (∀ v ∈ l, f v ≤ l.foldl (fun a v => EInt.max a (f v)) acc) ∧
    (l.foldl (fun a v => EInt.max a (f v)) acc = acc ∨ ∃ v ∈ l, l.foldl (fun a v => EInt.max a (f v)) acc = f v) :=
  EMax.foldl_max_spec f

theorem EInt.addI_mono {a b : EInt} (h : a ≤ b) (c : Int) : a.addI c ≤ b.addI c := EMax.addI_mono h (Int.le_refl c)

theorem EInt.addI_addI (a : EInt) (c d : Int) : (a.addI c).addI d = a.addI (c + d) := EMax.addI_addI a c d

theorem minNat_spec : ∀ l : List Nat, l ≠ [] → ∃ m, minNat l = some m ∧ m ∈ l ∧ ∀ x ∈ l, m ≤ x := by
  intro l hl
  cases l with
  | nil => exact absurd rfl hl
  | cons a t =>
    obtain ⟨h1, h2, h3⟩ := EMax.foldl_natMin_spec id t a
    refine ⟨_, rfl, ?_, ?_⟩
    · rcases h3 with h3 | ⟨i, hi, h3⟩
      · have : t.foldl min a = a := h3
        rw [this]; exact List.mem_cons_self
      · have : t.foldl min a = i := h3
        rw [this]; exact List.mem_cons_of_mem _ hi
    · intro x hx
      rcases List.mem_cons.mp hx with rfl | hx
      · exact h1
      · exact h2 x hx

theorem maxNat_spec : ∀ l : List Nat, l ≠ [] → ∃ m, maxNat l = some m ∧ m ∈ l ∧ ∀ x ∈ l, x ≤ m := by
  intro l hl
  cases l with
  | nil => exact absurd rfl hl
  | cons a t =>
    obtain ⟨h1, h2, h3⟩ := EMax.foldl_natMax_spec id t a
    refine ⟨_, rfl, ?_, ?_⟩
    · rcases h3 with h3 | ⟨i, hi, h3⟩
      · have : t.foldl max a = a := h3
        rw [this]; exact List.mem_cons_self
      · have : t.foldl max a = i := h3
        rw [this]; exact List.mem_cons_of_mem _ hi
    · intro x hx
      rcases List.mem_cons.mp hx with rfl | hx
      · exact h1
      · exact h2 x hx

def eN (T : Tab) (j : Nat) : Nat := (T.tw.getD j (0, 0)).1
def lN (T : Tab) (j : Nat) : Nat := (T.tw.getD j (0, 0)).2
/-- `min_distance_to` / `max_distance_to` on a state with at least one position -/
def minD (T : Tab) (s : St) (j : Nat) : Nat := (minNat ((posSet s.pos).map (distOf T.d · j))).getD 0
def maxD (T : Tab) (s : St) (j : Nat) : Nat := (maxNat ((posSet s.pos).map (distOf T.d · j))).getD 0
/-- `can_move_to` -/
def reach (T : Tab) (s : St) (j : Nat) : Bool := decide (s.el.earliest + minD T s j ≤ lN T j)

-- `can_move_to`, the domain and membership in it for an arbitrary leg distance `md s j`: the model's is `minD`, the potential
-- `hStar` uses `mdS` (`TsptwProofsStar.lean`)
def reachG (T : Tab) (md : St → Nat → Nat) (s : St) (j : Nat) : Bool := decide (s.el.earliest + md s j ≤ lN T j)
def domG (T : Tab) (md : St → Nat → Nat) (s : St) : List Nat :=
  if s.depth = T.n - 1 then (if reachG T md s 0 then [0] else [])
  else if s.must.all (reachG T md s) then s.must ++ (mb s).filter (reachG T md s) else []
def InDomG (T : Tab) (md : St → Nat → Nat) (s : St) (j : Nat) : Prop :=
  reachG T md s j = true ∧
  ((s.depth = T.n - 1 ∧ j = 0) ∨
   (s.depth ≠ T.n - 1 ∧ (∀ i ∈ s.must, reachG T md s i = true) ∧ (j ∈ s.must ∨ j ∈ mb s)))

theorem mem_domG_iff (T : Tab) (md : St → Nat → Nat) (s : St) (j : Nat) : j ∈ domG T md s ↔ InDomG T md s j := by
  unfold domG InDomG
  by_cases hd : s.depth = T.n - 1
  · simp only [hd, if_true, true_and, ne_eq, not_true_eq_false, false_and, or_false]
    cases h0 : reachG T md s 0
    · simp only [Bool.false_eq_true, if_false, List.not_mem_nil, false_iff]
      rintro ⟨hr, rfl⟩
      rw [h0] at hr; cases hr
    · simp only [if_true, List.mem_singleton]
      constructor
      · rintro rfl; exact ⟨h0, rfl⟩
      · rintro ⟨_, rfl⟩; rfl
  · simp only [hd, if_false, false_and, false_or, ne_eq, not_false_eq_true, true_and]
    by_cases hall : s.must.all (reachG T md s) = true
    · simp only [hall, if_true, List.mem_append, List.mem_filter]
      have hall' := List.all_eq_true.mp hall
      constructor
      · intro hj
        refine ⟨?_, hall', ?_⟩
        · rcases hj with hj | hj
          · exact hall' j hj
          · exact hj.2
        · rcases hj with hj | hj
          · exact Or.inl hj
          · exact Or.inr hj.1
      · rintro ⟨hr, _, hj⟩
        rcases hj with hj | hj
        · exact Or.inl hj
        · exact Or.inr ⟨hj, hr⟩
    · simp only [hall, Bool.false_eq_true, if_false, List.not_mem_nil, false_iff]
      rintro ⟨_, h, _⟩
      exact hall (List.all_eq_true.mpr h)

section
variable {T : Tab} (hT : TabOk T)
include hT

theorem dist?_eq {i j : Nat} (hi : i < T.n) (hj : j < T.n) : dist? T i j = some (distOf T.d i j) := by
  have h1 : i < T.d.length := by rw [hT.d_len]; exact hi
  have h2 : (T.d[i]).length = T.n := hT.row_len _ (List.getElem_mem h1)
  have h3 : j < (T.d[i]).length := by omega
  simp [dist?, distOf, List.getD_eq_getElem?_getD, List.getElem?_eq_getElem h1, List.getElem?_eq_getElem h3]

theorem tw?_eq {j : Nat} (hj : j < T.n) : tw? T j = some (eN T j, lN T j) := by
  have h1 : j < T.tw.length := by rw [hT.tw_len]; exact hj
  simp [tw?, eN, lN, List.getD_eq_getElem?_getD, List.getElem?_eq_getElem h1]

theorem eN_small {j : Nat} (hj : j < T.n) : eN T j < BND := by
  have h1 : j < T.tw.length := by rw [hT.tw_len]; exact hj
  have := (hT.tw_small _ (List.getElem_mem h1)).1
  simpa [eN, List.getD_eq_getElem?_getD, List.getElem?_eq_getElem h1] using this

theorem lN_small {j : Nat} (hj : j < T.n) : lN T j < BND := by
  have h1 : j < T.tw.length := by rw [hT.tw_len]; exact hj
  have := (hT.tw_small _ (List.getElem_mem h1)).2
  simpa [lN, List.getD_eq_getElem?_getD, List.getElem?_eq_getElem h1] using this

omit hT in
theorem minD_spec {s : St} (hp : posSet s.pos ≠ []) (j : Nat) :
    (∃ p ∈ posSet s.pos, minD T s j = distOf T.d p j) ∧ ∀ p ∈ posSet s.pos, minD T s j ≤ distOf T.d p j := by
  obtain ⟨m, hm, h1, h2⟩ := minNat_spec ((posSet s.pos).map (distOf T.d · j)) (by simpa using hp)
  simp only [minD, hm, Option.getD_some]
  obtain ⟨p, hp1, hp2⟩ := List.mem_map.mp h1
  exact ⟨⟨p, hp1, hp2.symm⟩, fun p hp => h2 _ (List.mem_map.mpr ⟨p, hp, rfl⟩)⟩

omit hT in
theorem maxD_spec {s : St} (hp : posSet s.pos ≠ []) (j : Nat) :
    (∃ p ∈ posSet s.pos, maxD T s j = distOf T.d p j) ∧ ∀ p ∈ posSet s.pos, distOf T.d p j ≤ maxD T s j := by
  obtain ⟨m, hm, h1, h2⟩ := maxNat_spec ((posSet s.pos).map (distOf T.d · j)) (by simpa using hp)
  simp only [maxD, hm, Option.getD_some]
  obtain ⟨p, hp1, hp2⟩ := List.mem_map.mp h1
  exact ⟨⟨p, hp1, hp2.symm⟩, fun p hp => h2 _ (List.mem_map.mpr ⟨p, hp, rfl⟩)⟩

theorem minD_small {s : St} (hp : posSet s.pos ≠ []) (j : Nat) : minD T s j < BND := by
  obtain ⟨⟨p, _, h⟩, _⟩ := minD_spec (T := T) hp j
  rw [h]; exact hT.d_small _ _
theorem maxD_small {s : St} (hp : posSet s.pos ≠ []) (j : Nat) : maxD T s j < BND := by
  obtain ⟨⟨p, _, h⟩, _⟩ := maxD_spec (T := T) hp j
  rw [h]; exact hT.d_small _ _

omit hT in
theorem minD_le_maxD {s : St} (hp : posSet s.pos ≠ []) (j : Nat) : minD T s j ≤ maxD T s j := by
  obtain ⟨⟨p, hp1, h⟩, _⟩ := minD_spec (T := T) hp j
  rw [h]; exact (maxD_spec hp j).2 p hp1

theorem minDist?_eq {s : St} (hV : Valid T s) {j : Nat} (hj : j < T.n) : minDist? T s j = some (minD T s j) := by
  unfold minDist? minD
  cases hpos : s.pos with
  | node i =>
    have : i < T.n := hV.pos_lt i (by simp [posSet, hpos])
    simp [posSet, dist?_eq hT this hj, minNat]
  | virt c =>
    have hc : ∀ p ∈ c, p < T.n := fun p hp => hV.pos_lt p (by simpa [posSet, hpos] using hp)
    have hne : c ≠ [] := by have := hV.pos_ne; simpa [posSet, hpos] using this
    simp only [posSet]
    rw [EMax.mapM_total _ (distOf T.d · j) c (fun p hp => dist?_eq hT (hc p hp) hj)]
    obtain ⟨m, hm, _⟩ := minNat_spec (c.map (distOf T.d · j)) (by simpa using hne)
    simp [hm]

theorem maxDist?_eq {s : St} (hV : Valid T s) {j : Nat} (hj : j < T.n) : maxDist? T s j = some (maxD T s j) := by
  unfold maxDist? maxD
  cases hpos : s.pos with
  | node i =>
    have : i < T.n := hV.pos_lt i (by simp [posSet, hpos])
    simp [posSet, dist?_eq hT this hj, maxNat]
  | virt c =>
    have hc : ∀ p ∈ c, p < T.n := fun p hp => hV.pos_lt p (by simpa [posSet, hpos] using hp)
    have hne : c ≠ [] := by have := hV.pos_ne; simpa [posSet, hpos] using this
    simp only [posSet]
    rw [EMax.mapM_total _ (distOf T.d · j) c (fun p hp => dist?_eq hT (hc p hp) hj)]
    obtain ⟨m, hm, _⟩ := maxNat_spec (c.map (distOf T.d · j)) (by simpa using hne)
    simp [hm]

omit hT in
theorem addDur?_ok {el : El} {x : Nat} (h1 : el.earliest < BND) (h2 : el.latest < BND) (hx : x < BND) :
    ∃ a, addDur? el x = some a ∧ a.earliest = el.earliest + x ∧ a.latest = el.latest + x := by
  have hb : BND + BND ≤ umax := by decide
  cases el with
  | fixed d =>
    simp only [El.earliest, El.latest] at h1 h2
    have : d + x ≤ umax := by omega
    exact ⟨.fixed (d + x), by simp [addDur?, uadd?, this], rfl, rfl⟩
  | fuzzy e l =>
    simp only [El.earliest, El.latest] at h1 h2
    have : e + x ≤ umax := by omega
    have : l + x ≤ umax := by omega
    exact ⟨.fuzzy (e + x) (l + x), by simp [addDur?, uadd?, *], rfl, rfl⟩

theorem canMove?_eq {s : St} (hV : Valid T s) {j : Nat} (hj : j < T.n) : canMove? T s j = some (reach T s j) := by
  obtain ⟨a, ha, ha1, _⟩ := addDur?_ok hV.e_small hV.l_small (minD_small hT hV.pos_ne j)
  simp [canMove?, tw?_eq hT hj, minDist?_eq hT hV hj, ha, ha1, reach]

theorem allReach?_eq {s : St} (hV : Valid T s) : ∀ l : List Nat, (∀ i ∈ l, i < T.n) →
    allReach? T s l = some (l.all (reach T s)) := by
  intro l
  induction l with
  | nil => intro _; rfl
  | cons a t ih =>
    intro h
    have ha : a < T.n := h a List.mem_cons_self
    simp only [allReach?, canMove?_eq hT hV ha, Option.bind_eq_bind, Option.bind_some, List.all_cons]
    cases reach T s a
    · simp
    · simp [ih (fun i hi => h i (List.mem_cons_of_mem _ hi))]

theorem domain_eq {s : St} (hV : Valid T s) : domain T s =
    if s.depth = T.n - 1 then (if reach T s 0 then [0] else [])
    else if s.must.all (reach T s) then (s.must ++ (mb s).filter (reach T s)).map Int.ofNat else [] := by
  have hn := hT.n_pos
  unfold domain domain?
  rw [if_neg (by omega)]
  by_cases hd : s.depth = T.n - 1
  · simp only [hd, if_true, canMove?_eq hT hV (show 0 < T.n by omega)]
    cases reach T s 0 <;> simp
  · simp only [hd, if_false]
    rw [allReach?_eq hT hV s.must (fun i hi => (hV.must_rng i hi).2)]
    simp only [Option.bind_eq_bind, Option.bind_some]
    cases hall : s.must.all (reach T s)
    · simp
    · simp only [Bool.not_true, Bool.false_eq_true, if_false, if_true]
      cases hm : s.maybe with
      | none => simp [mb, hm]
      | some ys =>
        have : ys.filterMapM (fun i => (canMove? T s i).bind fun b => some (if b = true then some i else none))
            = some (ys.filter (reach T s)) := by
          apply filterMapM_total
          intro x hx
          have hx' : x < T.n := (hV.maybe_rng x (by simpa [mb, hm] using hx)).2
          simp [canMove?_eq hT hV hx']
        simp [this, mb, hm]

theorem domain_eq_domG {s : St} (hV : Valid T s) :
    domain T s = (domG T (minD T) s).map Int.ofNat := by
  rw [domain_eq hT hV]
  unfold domG
  have e : ∀ j, reach T s j = reachG T (minD T) s j := fun _ => rfl
  have e' : reach T s = reachG T (minD T) s := funext e
  rw [e']
  split
  · split <;> rfl
  · split <;> rfl

def InDom (T : Tab) (s : St) (j : Nat) : Prop := InDomG T (minD T) s j

omit hT in
theorem inDom_iff (T : Tab) (s : St) (j : Nat) : InDom T s j ↔ InDomG T (minD T) s j := Iff.rfl

theorem mem_domain_iff {s : St} (hV : Valid T s) (v : Int) : v ∈ domain T s ↔ ∃ j : Nat, v = (j : Int) ∧ InDom T s j := by
  rw [domain_eq_domG hT hV, List.mem_map]
  constructor
  · rintro ⟨j, hj, rfl⟩; exact ⟨j, rfl, (mem_domG_iff T _ s j).mp hj⟩
  · rintro ⟨j, rfl, hj⟩; exact ⟨j, (mem_domG_iff T _ s j).mpr hj, rfl⟩

omit hT in
theorem InDomG.lt {md : St → Nat → Nat} {s : St} (hV : Valid T s) (hn : 1 ≤ T.n) {j : Nat} (h : InDomG T md s j) :
    j < T.n := by
  rcases h.2 with ⟨_, rfl⟩ | ⟨_, _, h | h⟩
  · omega
  · exact (hV.must_rng j h).2
  · exact (hV.maybe_rng j h).2

omit hT in
theorem InDom.lt {s : St} (hV : Valid T s) (hn : 1 ≤ T.n) {j : Nat} (h : InDom T s j) : j < T.n := InDomG.lt hV hn h

end

theorem earliest_fixed (d : Nat) : (El.fixed d).earliest = d := rfl
theorem earliest_fuzzy (e l : Nat) : (El.fuzzy e l).earliest = e := rfl
theorem latest_fixed (d : Nat) : (El.fixed d).latest = d := rfl
theorem latest_fuzzy (e l : Nat) : (El.fuzzy e l).latest = l := rfl

/-- the elapsed time `arrival_time` answers from the earliest and the latest arrival `a`, `b` at a city of window `[ej, lj]` -/
def arrEl (a b ej lj : Nat) : El :=
  if a = b then .fixed (max a ej) else if max a ej = min b lj then .fixed (max a ej) else .fuzzy (max a ej) (min b lj)

theorem arrEl_earliest (a b ej lj : Nat) : (arrEl a b ej lj).earliest = max a ej := by
  unfold arrEl
  split
  · rfl
  · split <;> rfl

theorem arrEl_latest (a b ej lj : Nat) : (arrEl a b ej lj).latest = max a ej ∨ (arrEl a b ej lj).latest = min b lj := by
  unfold arrEl
  split
  · exact Or.inl rfl
  · split
    · exact Or.inl rfl
    · exact Or.inr rfl

def succSt (s : St) (j : Nat) (el : El) : St :=
  { pos := .node j, el := el, must := s.must.erase j, maybe := s.maybe.map (·.erase j), depth := s.depth + 1 }

theorem mb_succSt (s : St) (j : Nat) (el : El) : mb (succSt s j el) = (mb s).erase j := by
  unfold mb succSt
  cases s.maybe <;> simp

section
variable {T : Tab} (hT : TabOk T)
include hT

theorem arrival?_eq {s : St} (hV : Valid T s) {j : Nat} (hj : j < T.n) :
    arrival? T s j = some (arrEl (s.el.earliest + minD T s j) (s.el.latest + maxD T s j) (eN T j) (lN T j)) := by
  obtain ⟨a1, ha1, ha1e, _⟩ := addDur?_ok hV.e_small hV.l_small (minD_small hT hV.pos_ne j)
  obtain ⟨a2, ha2, _, ha2l⟩ := addDur?_ok hV.e_small hV.l_small (maxD_small hT hV.pos_ne j)
  simp only [arrival?, minDist?_eq hT hV hj, maxDist?_eq hT hV hj, ha1, ha2, tw?_eq hT hj, Option.bind_eq_bind, Option.bind_some,
    ha1e, ha2l, arrEl]
  split <;> rfl

theorem trans_eq {s : St} (hV : Valid T s) {j : Nat} (hj : j < T.n) (hr : reach T s j = true) (x : Nat) :
    ∃ el, trans T s ⟨x, (j : Int)⟩ = succSt s j el ∧ el.earliest = max (s.el.earliest + minD T s j) (eN T j) ∧
      el.earliest < BND ∧ el.latest < BND := by
  have hm := minD_small hT hV.pos_ne j
  have hl := lN_small hT hj
  have he := eN_small hT hj
  have he' := hV.e_small
  have hr' : s.el.earliest + minD T s j ≤ lN T j := of_decide_eq_true hr
  have hc : ¬ (((j : Nat) : Int) < 0 ∨ ((j : Nat) : Int) ≥ (T.n : Int)) := by omega
  refine ⟨arrEl (s.el.earliest + minD T s j) (s.el.latest + maxD T s j) (eN T j) (lN T j), ?_, arrEl_earliest _ _ _ _, ?_, ?_⟩
  · unfold trans trans?
    simp only [hc, if_false, Int.toNat_natCast, arrival?_eq hT hV hj, Option.bind_eq_bind, Option.bind_some, Option.pure_def,
      Option.getD_some]
    rfl
  · rw [arrEl_earliest]; omega
  · rcases arrEl_latest (s.el.earliest + minD T s j) (s.el.latest + maxD T s j) (eN T j) (lN T j) with h | h <;> rw [h] <;> omega

theorem cost_eq {s : St} (hV : Valid T s) {j : Nat} (hj : j < T.n) (x : Nat) :
    cost T s ⟨x, (j : Int)⟩ = (s.el.earliest : Int) - ((max (s.el.earliest + minD T s j) (eN T j) : Nat) : Int) := by
  have hc : ¬ (((j : Nat) : Int) < 0 ∨ ((j : Nat) : Int) ≥ (T.n : Int)) := by omega
  have hm := minD_small hT hV.pos_ne j
  have he := hV.e_small
  have hb : BND + BND ≤ umax := by decide
  have hu : uadd? s.el.earliest (minD T s j) = some (s.el.earliest + minD T s j) := by
    simp [uadd?]; omega
  unfold cost cost?
  simp only [hc, if_false, Int.toNat_natCast, tw?_eq hT hj, minDist?_eq hT hV hj, hu, Option.bind_eq_bind, Option.bind_some,
    Option.pure_def, Option.getD_some]
  split <;> omega

omit hT in
theorem valid_succ' {s : St} (hV : Valid T s) (hd : s.depth < T.n) {j : Nat} (hjn : j < T.n)
    (hlast : s.depth + 1 = T.n → j = 0) {el : El} (h1 : el.earliest < BND) (h2 : el.latest < BND) :
    Valid T (succSt s j el) := by
  refine ⟨?_, ?_, ?_, ?_, ?_, ?_, ?_, ?_, ?_, ?_, h1, h2⟩
  · show s.depth + 1 ≤ T.n; omega
  · intro hdn p hp
    have hdn : s.depth + 1 = T.n := hdn
    have : p = j := by simpa [succSt, posSet] using hp
    rw [this]; exact hlast hdn
  · simp [succSt, posSet]
  · intro p hp
    have : p = j := by simpa [succSt, posSet] using hp
    omega
  · intro i hi
    exact hV.must_rng i (List.mem_of_mem_erase hi)
  · intro i hi hp
    have : i = j := by simpa [succSt, posSet] using hp
    subst this
    exact (hV.must_nd.mem_erase_iff.mp hi).1 rfl
  · intro i hi
    rw [mb_succSt] at hi
    exact hV.maybe_rng i (List.mem_of_mem_erase hi)
  · exact hV.must_nd.erase j
  · rw [mb_succSt]; exact hV.maybe_nd.erase j
  · intro i hi hm
    rw [mb_succSt] at hm
    exact hV.disj i (List.mem_of_mem_erase hi) (List.mem_of_mem_erase hm)

theorem valid_succ {s : St} (hV : Valid T s) (hd : s.depth < T.n) {j : Nat} (hj : InDom T s j) {el : El}
    (h1 : el.earliest < BND) (h2 : el.latest < BND) : Valid T (succSt s j el) := by
  refine valid_succ' hV hd (hj.lt hV hT.n_pos) (fun hl => ?_) h1 h2
  rcases hj.2 with ⟨_, h0⟩ | ⟨hne, _⟩
  · exact h0
  · omega

end

/-- `bestRemF` / `bestRemLF` with the value of a state without remaining step as a parameter -/
def brG (T : Tab) (term : St → EInt) : Nat → St → EInt
  | 0, s => term s
  | fuel + 1, s =>
    if s.depth ≥ T.n then term s else
    (domain T s).foldl (fun acc v => EInt.max acc ((brG T term fuel (trans T s ⟨s.depth, v⟩)).addI (cost T s ⟨s.depth, v⟩))) none

def termAny : St → EInt := fun _ => some 0
def termL : St → EInt := fun s => if s.must.isEmpty then some 0 else none

theorem bestRemF_eq (T : Tab) : ∀ fuel s, bestRemF T fuel s = brG T termAny fuel s := by
  intro fuel
  induction fuel with
  | zero => intro s; rfl
  | succ n ih => intro s; simp only [bestRemF, brG, ih]; rfl

theorem bestRemLF_eq (T : Tab) : ∀ fuel s, bestRemLF T fuel s = brG T termL fuel s := by
  intro fuel
  induction fuel with
  | zero => intro s; rfl
  | succ n ih => intro s; simp only [bestRemLF, brG, ih]; rfl

structure Sim (m u : St) : Prop where
  depth : m.depth = u.depth
  pos : ∀ p ∈ posSet u.pos, p ∈ posSet m.pos
  e : m.el.earliest ≤ u.el.earliest
  must : ∀ i ∈ m.must, i ∈ u.must
  cover : ∀ i, i ∈ u.must ∨ i ∈ mb u → i ∈ m.must ∨ i ∈ mb m

theorem Sim.refl (s : St) : Sim s s := ⟨rfl, fun _ h => h, Nat.le_refl _, fun _ h => h, fun _ h => h⟩

theorem minD_anti {T : Tab} {m u : St} (h : Sim m u) (hm : posSet m.pos ≠ []) (hu : posSet u.pos ≠ []) (j : Nat) :
    minD T m j ≤ minD T u j := by
  obtain ⟨⟨p, hp, e⟩, _⟩ := minD_spec (T := T) hu j
  rw [e]
  exact (minD_spec hm j).2 p (h.pos p hp)

theorem sim_succ {T : Tab} {m u : St} (h : Sim m u) (hm : Valid T m) (hu : Valid T u) (j : Nat) {em eu : El}
    (he : em.earliest ≤ eu.earliest) : Sim (succSt m j em) (succSt u j eu) := by
  refine ⟨?_, fun p hp => hp, he, ?_, ?_⟩
  · show m.depth + 1 = u.depth + 1; rw [h.depth]
  · intro i hi
    have hi : i ∈ m.must.erase j := hi
    obtain ⟨h1, h2⟩ := hm.must_nd.mem_erase_iff.mp hi
    exact (List.mem_erase_of_ne h1).mpr (h.must i h2)
  · intro i hi
    rw [mb_succSt] at hi ⊢
    have hne : i ≠ j := by
      rcases hi with hi | hi
      · exact (hu.must_nd.mem_erase_iff.mp hi).1
      · exact (hu.maybe_nd.mem_erase_iff.mp hi).1
    have : i ∈ u.must ∨ i ∈ mb u := by
      rcases hi with hi | hi
      · exact Or.inl (List.mem_of_mem_erase hi)
      · exact Or.inr (List.mem_of_mem_erase hi)
    rcases h.cover i this with h' | h'
    · exact Or.inl ((List.mem_erase_of_ne hne).mpr h')
    · exact Or.inr ((List.mem_erase_of_ne hne).mpr h')

structure Exact (T : Tab) (k : Nat) (s : St) (v : Int) : Prop where
  valid : Valid T s
  depth : s.depth = k
  maybe : s.maybe = none
  node : ∃ i, s.pos = .node i
  value : v = -(s.el.earliest : Int)
  count : k < T.n → s.must.length + k + 1 = T.n

theorem nextVar_some {T : Tab} {k x : Nat} {L : List St} (h : (problem T).nextVar k L = some x) : k ≠ T.n ∧ x = k := by
  simp only [problem, nextVar] at h
  split at h
  · cases h
  · next hk => exact ⟨hk, by cases h; rfl⟩

theorem nextVar_none {T : Tab} {k : Nat} {L : List St} (h : (problem T).nextVar k L = none) : k = T.n := by
  simp only [problem, nextVar] at h
  split at h
  · next hk => exact hk
  · cases h

theorem valid_init {T : Tab} (hT : TabOk T) : Valid T (initSt T) := by
  have hn := hT.n_pos
  have hm : ∀ i ∈ (List.range T.n).drop 1, 1 ≤ i ∧ i < T.n := by
    intro i hi
    obtain ⟨k, hk, rfl⟩ := List.mem_iff_getElem.mp hi
    simp at hk ⊢
    omega
  refine ⟨Nat.zero_le _, ?_, ?_, ?_, hm, ?_, ?_, ?_, ?_, ?_, ?_, ?_⟩
  · intro _ p hp; simpa [initSt, posSet] using hp
  · simp [initSt, posSet]
  · intro p hp
    have : p = 0 := by simpa [initSt, posSet] using hp
    omega
  · intro i hi hp
    have : i = 0 := by simpa [initSt, posSet] using hp
    have := (hm i hi).1
    omega
  · intro i hi; simp [mb, initSt] at hi
  · exact (List.drop_sublist 1 _).nodup List.nodup_range
  · simp [mb, initSt]
  · intro i _ hi; simp [mb, initSt] at hi
  · simp [initSt, El.earliest, BND]
  · simp [initSt, El.latest, BND]

theorem exact_init {T : Tab} (hT : TabOk T) : Exact T 0 (initSt T) 0 := by
  refine ⟨valid_init hT, rfl, rfl, ⟨0, rfl⟩, by simp [initSt, El.earliest], ?_⟩
  intro _
  have := hT.n_pos
  simp [initSt]; omega

theorem exact_step {T : Tab} (hT : TabOk T) {k : Nat} {s : St} {v : Int} (h : Exact T k s v) (hk : k ≠ T.n) {j : Nat}
    (hj : InDom T s j) (x : Nat) :
    Exact T (k + 1) (trans T s ⟨x, (j : Int)⟩) (v + cost T s ⟨x, (j : Int)⟩) := by
  have hV := h.valid
  have hd : s.depth < T.n := by have := hV.depth_le; have := h.depth; omega
  have hjn := hj.lt hV hT.n_pos
  obtain ⟨el, ht, he, he1, he2⟩ := trans_eq hT hV hjn hj.1 x
  rw [ht, cost_eq hT hV hjn]
  refine ⟨valid_succ hT hV hd hj he1 he2, ?_, ?_, ⟨j, rfl⟩, ?_, ?_⟩
  · show s.depth + 1 = k + 1; rw [h.depth]
  · show s.maybe.map _ = none; rw [h.maybe]; rfl
  · show _ = -(el.earliest : Int); rw [he, h.value]; omega
  · intro hk1
    have hc := h.count (by omega)
    have hjm : j ∈ s.must := by
      rcases hj.2 with ⟨h1, _⟩ | ⟨_, _, h3 | h3⟩
      · rw [h.depth] at h1; omega
      · exact h3
      · simp [mb, h.maybe] at h3
    show (s.must.erase j).length + (k + 1) + 1 = T.n
    rw [List.length_erase_of_mem hjm]
    have : 0 < s.must.length := List.length_pos_of_mem hjm
    omega

theorem reach_exact {T : Tab} (hT : TabOk T) {k : Nat} {s : St} {v : Int} {p : List Dec} (h : Reach (problem T) k s v p) :
    Exact T k s v := by
  induction h with
  | root => exact exact_init hT
  | step k s v p L x d _ hx _ hd ih =>
    obtain ⟨hk, rfl⟩ := nextVar_some hx
    obtain ⟨j, rfl, hj⟩ := (mem_domain_iff hT ih.valid d).mp hd
    exact exact_step hT ih hk hj _

def tabOkB (T : Tab) : Bool :=
  decide (1 ≤ T.n) && decide (T.n ≤ 256) && decide (T.d.length = T.n) &&
  T.d.all (fun r => decide (r.length = T.n) && r.all (fun x => decide (x < BND))) &&
  decide (T.tw.length = T.n) && decide (T.ce = cheapestOf T.n T.d) &&
  T.tw.all (fun p => decide (p.1 < BND) && decide (p.2 < BND))

theorem tabOk_of_tabOkB {T : Tab} (h : tabOkB T = true) : TabOk T := by
  simp only [tabOkB, Bool.and_eq_true, decide_eq_true_eq, List.all_eq_true] at h
  obtain ⟨⟨⟨⟨⟨⟨a1, a2⟩, a3⟩, a4⟩, a5⟩, a6⟩, a7⟩ := h
  refine ⟨a1, a2, a3, fun r hr => (a4 r hr).1, a5, a6, ?_, a7⟩
  intro i j
  unfold distOf
  by_cases hi : i < T.d.length
  · by_cases hj : j < (T.d[i]).length
    · have := (a4 _ (List.getElem_mem hi)).2 _ (List.getElem_mem hj)
      simpa [List.getD_eq_getElem?_getD, List.getElem?_eq_getElem hi, List.getElem?_eq_getElem hj] using this
    · simp [List.getD_eq_getElem?_getD, List.getElem?_eq_getElem hi, List.getElem?_eq_none (Nat.le_of_not_lt hj), BND]
  · simp [List.getD_eq_getElem?_getD, List.getElem?_eq_none (Nat.le_of_not_lt hi), BND]

theorem exT_tabOk : TabOk exT := tabOk_of_tabOkB (by decide +kernel)

end Ddo.Examples.TsptwModel

namespace Ddo.Examples.TsptwModel
open Ddo Ddo.Examples

theorem addDur?_some {el a : El} {x : Nat} (h : addDur? el x = some a) :
    a.earliest = el.earliest + x ∧ a.latest = el.latest + x := by
  cases el with
  | fixed d =>
    simp only [addDur?, uadd?] at h
    split at h
    · simp at h; subst h; exact ⟨rfl, rfl⟩
    · simp at h
  | fuzzy e l =>
    simp only [addDur?, uadd?, Option.bind_eq_bind] at h
    split at h
    · split at h
      · simp at h; subst h; exact ⟨rfl, rfl⟩
      · simp at h
    · simp at h

/-- the cost of a transition is minus the increase of the earliest time: no hypothesis on the state (merged ones included) or on
    the table -/
theorem valueInv_holds (T : Tab) : ValueInv T := by
  intro s d s' c ht hc
  unfold trans? at ht
  unfold cost? at hc
  split at ht
  · cases ht
  · next hd =>
    rw [if_neg hd] at hc
    simp only [arrival?, Option.bind_eq_bind, Option.bind_eq_some_iff, Option.pure_def, Option.some.injEq] at ht hc
    obtain ⟨el, ⟨mn, hmn, mx, hmx, a1, h1, a2, h2, ⟨ej, lj⟩, htw, hel⟩, rfl⟩ := ht
    obtain ⟨⟨ej', lj'⟩, htw', mn', hmn', a, hu, rfl⟩ := hc
    cases htw.symm.trans htw'
    cases hmn.symm.trans hmn'
    have ha1 := (addDur?_some h1).1
    have ha : a = s.el.earliest + mn := by
      simp only [uadd?] at hu
      split at hu
      · simpa using hu.symm
      · cases hu
    have he : el.earliest = max (s.el.earliest + mn) ej := by
      rw [← ha1]
      split at hel
      · cases hel; rfl
      · cases hel
        show (if _ then _ else _ : El).earliest = _
        split <;> rfl
    show -(s.el.earliest : Int) + _ = -(el.earliest : Int)
    rw [he, ha]
    split <;> omega

theorem trans?_fixed {T : Tab} {s s' : St} {d : Dec} {i t : Nat} (hp : s.pos = .node i) (he : s.el = .fixed t)
    (h : trans? T s d = some s') : ∃ t', s'.el = .fixed t' := by
  unfold trans? at h
  split at h
  · cases h
  · simp only [arrival?, minDist?, maxDist?, hp, he, Option.bind_eq_bind, Option.bind_eq_some_iff, Option.pure_def,
      Option.some.injEq] at h
    obtain ⟨el, ⟨mn, hmn, mx, hmx, a1, h1, a2, h2, ⟨ej, lj⟩, _, hel⟩, rfl⟩ := h
    -- from a single position the least and the greatest distance agree, and a fixed time stays fixed
    cases hmn.symm.trans hmx
    cases h1.symm.trans h2
    obtain ⟨e1, e2⟩ := addDur?_some h1
    rw [if_pos (by rw [e1, e2]; rfl)] at hel
    cases hel
    exact ⟨_, rfl⟩

theorem reach_node_fixed {T : Tab} {k : Nat} {s : St} {v : Int} {p : List Dec} (h : Reach (problem T) k s v p) :
    ∃ i t, s.pos = .node i ∧ s.el = .fixed t := by
  induction h with
  | root => exact ⟨0, 0, rfl, rfl⟩
  | step k s v p L x d _ _ _ _ ih =>
    obtain ⟨i, t, hp, he⟩ := ih
    show ∃ i t, (trans T s ⟨x, d⟩).pos = .node i ∧ (trans T s ⟨x, d⟩).el = .fixed t
    unfold trans
    cases ht : trans? T s ⟨x, d⟩ with
    | none => exact ⟨i, t, hp, he⟩
    | some s' =>
      obtain ⟨t', ht'⟩ := trans?_fixed hp he ht
      exact ⟨_, t', (trans?_depth T s s' _ ht).2, ht'⟩

theorem exactShape_partial {T : Tab} (hT : TabOk T) : ExactShape T := by
  intro k s v p h
  obtain ⟨i, t, hp, he⟩ := reach_node_fixed h
  have hx := reach_exact hT h
  unfold exactShape
  rw [hp, he, hx.maybe]
  have := hx.value
  rw [he] at this
  simp [this, El.earliest]

/-- **every table the reader builds** from an instance with at most 256 nodes, one window per node and numbers below
    `2^40 / 100` hundredths **is well-formed** -/
theorem tabOk_tabOf (n : Nat) (dh : List Int) (twh : List (Int × Int)) (h1 : 1 ≤ n) (h2 : n ≤ 256) (h3 : twh.length = n)
    (h4 : ∀ x ∈ dh, x * 100 < (BND : Int)) (h5 : ∀ p ∈ twh, p.1 * 100 < (BND : Int) ∧ p.2 * 100 < (BND : Int)) :
    TabOk (tabOf n dh twh) := by
  have hB : (0 : Int) < (BND : Int) := by decide
  refine ⟨h1, h2, by simp [tabOf], ?_, by simp [tabOf, h3], rfl, ?_, ?_⟩
  · intro r hr
    simp only [tabOf, List.mem_map] at hr
    obtain ⟨i, _, rfl⟩ := hr
    simp [tabOf]
  · intro i j
    simp only [tabOf, distOf, List.getD_eq_getElem?_getD, List.getElem?_map]
    by_cases hi : i < n
    · by_cases hj : j < n
      · simp only [List.getElem?_range hi, Option.map_some, Option.getD_some, List.getElem?_map, List.getElem?_range hj]
        have : (dh[i * n + j]?.getD 0) * 100 < (BND : Int) := by
          cases hg : dh[i * n + j]? with
          | none => simpa using hB
          | some x => exact h4 x (List.mem_of_getElem? hg)
        omega
      · have : (List.range n)[j]? = none := by simp; omega
        simp [List.getElem?_range hi, this, BND]
    · have : (List.range n)[i]? = none := by simp; omega
      simp [this, BND]
  · intro p hp
    simp only [tabOf, List.mem_map] at hp
    obtain ⟨q, hq, rfl⟩ := hp
    obtain ⟨a, b⟩ := h5 q hq
    constructor <;> (dsimp only; omega)

#print axioms tabOk_tabOf
#print axioms valueInv_holds
#print axioms exactShape_partial

end Ddo.Examples.TsptwModel
