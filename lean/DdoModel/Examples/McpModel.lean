import DdoModel.Examples.McpDp
import DdoModel.Proofs.SpecUtil
import DdoModel.Examples.EMax
/-! mcp example: the statements and first facts about the model `McpDp.lean`.  With no decision taken the specification value
    the driver compares the DP with is `Mcp.best` (all `2^n` sides: the root domain `{S}` is a symmetry breaking that the
    pointwise check validates).  Every transition cost is `≥ 0` (the objective starts at the sum of the negative weights and
    only grows).  Component by component the merged benefit is no larger in absolute value than every merged benefit, and
    never of the opposite sign (`mergeComp_abs_le`, `mergeComp_sign`) — the two facts the relaxation argument of Bergman et
    al. rests on; the merged state has the depth of the FIRST state.  `DpExactStmt` is NOT proved (only its model half,
    `dpExact_partial`, `McpProofsExact.lean`). -/
namespace Ddo.Examples.McpModel
open Ddo Ddo.Examples Ddo.Examples.Util

theorem best_eq_specBestExt (n : Nat) (edges : List (Int × Int × Int)) : Mcp.best n edges = specBestExt n edges [] := by
  simp [Mcp.best, specBestExt]

theorem iabs_nonneg (x : Int) : 0 ≤ iabs x := by unfold iabs; split <;> omega
theorem iabs_neg (x : Int) : iabs (-x) = iabs x := by unfold iabs; split <;> split <;> omega
theorem iabs_of_nonneg {x : Int} (h : 0 ≤ x) : iabs x = x := by unfold iabs; split <;> omega
theorem iabs_of_nonpos {x : Int} (h : x ≤ 0) : iabs x = -x := by unfold iabs; split <;> omega

/-- `a` lies between `0` and `b` -/
def Between (a b : Int) : Prop := (0 ≤ a ∧ a ≤ b) ∨ (b ≤ a ∧ a ≤ 0)

theorem Between.iabs_le {a b : Int} (h : Between a b) : iabs a ≤ iabs b := by
  rcases h with ⟨h1, h2⟩ | ⟨h1, h2⟩
  · rw [iabs_of_nonneg h1, iabs_of_nonneg (Int.le_trans h1 h2)]; exact h2
  · rw [iabs_of_nonpos h2, iabs_of_nonpos (Int.le_trans h1 h2)]; omega

theorem Between.iabs_sub {a b : Int} (h : Between a b) : iabs (b - a) = iabs b - iabs a := by
  rcases h with ⟨h1, h2⟩ | ⟨h1, h2⟩
  · rw [iabs_of_nonneg h1, iabs_of_nonneg (Int.le_trans h1 h2), iabs_of_nonneg (by omega)]
  · rw [iabs_of_nonpos h2, iabs_of_nonpos (Int.le_trans h1 h2), iabs_of_nonpos (by omega)]; omega

theorem mapM_getElem {α β : Type} {f : α → Option β} : ∀ {l : List α} {r : List β}, l.mapM f = some r →
    ∀ (i : Nat) (hi : i < l.length) (hr : i < r.length), f l[i] = some r[i] := EMax.mapM_getElem

theorem mapM_some {α β : Type} {f : α → Option β} : ∀ {l : List α} {r : List β}, l.mapM f = some r →
    r.length = l.length ∧ ∀ b ∈ r, ∃ a ∈ l, f a = some b := EMax.mapM_some

theorem foldl_add_nonneg : ∀ (l : List Int) (acc : Int), 0 ≤ acc → (∀ x ∈ l, 0 ≤ x) → 0 ≤ l.foldl (· + ·) acc := by
  intro l
  induction l with
  | nil => intro acc h _; exact h
  | cons a t ih =>
    intro acc h hl
    simp only [List.foldl_cons]
    exact ih _ (by have := hl a (List.mem_cons_self ..); omega) (fun x hx => hl x (List.mem_cons_of_mem _ hx))

theorem sum_nonneg {l : List Int} (h : ∀ x ∈ l, 0 ≤ x) : 0 ≤ sum l := foldl_add_nonneg l 0 (Int.le_refl 0) h

theorem minOf_spec {l : List Int} {v : Int} (hv : v ∈ l) : ∃ m, minOf l = some m ∧ m ≤ v ∧ m ∈ l := by
  cases h : minOf l with
  | none => rw [SpecUtil.minOf_eq_none.mp h] at hv; cases hv
  | some m =>
    obtain ⟨hm, hle⟩ := SpecUtil.minOf_eq_some.mp h
    exact ⟨m, rfl, hle v hv, hm⟩

theorem mergeComp_between {vals : List Int} {v : Int} (hv : v ∈ vals) : Between (mergeComp vals) v := by
  unfold Between mergeComp
  simp only []
  split
  · next h =>
    -- some value positive, none negative: the least value
    have hneg : ∀ x ∈ vals, ¬ x < 0 := by
      intro x hx hlt
      have : vals.any (· < 0) = true := List.any_eq_true.mpr ⟨x, hx, by simpa using hlt⟩
      simp [this] at h
    obtain ⟨m, hm, hle, hmem⟩ := minOf_spec hv
    rw [hm]
    exact Or.inl ⟨Int.not_lt.mp (hneg m hmem), hle⟩
  · split
    · next h1 h =>
      -- some value negative, none positive: minus the least absolute value
      have hpos : ¬ 0 < v := by
        intro hlt
        have : vals.any (· > 0) = true := List.any_eq_true.mpr ⟨v, hv, by simpa using hlt⟩
        simp [this] at h
      obtain ⟨m, hm, hle, hmem⟩ := minOf_spec (List.mem_map.mpr ⟨v, hv, rfl⟩ : iabs v ∈ vals.map iabs)
      rw [hm]
      obtain ⟨y, _, hy⟩ := List.mem_map.mp hmem
      have := iabs_nonneg y
      have : iabs v = -v := by unfold iabs; split <;> omega
      simp only [Option.getD_some]
      exact Or.inr ⟨by omega, by omega⟩
    · rcases Int.le_total 0 v with h | h
      · exact Or.inl ⟨Int.le_refl 0, h⟩
      · exact Or.inr ⟨h, Int.le_refl 0⟩

theorem mergeComp_abs_le {vals : List Int} {v : Int} (hv : v ∈ vals) : iabs (mergeComp vals) ≤ iabs v :=
  (mergeComp_between hv).iabs_le

theorem mergeComp_sign {vals : List Int} {v : Int} (hv : v ∈ vals) :
    (0 < v → 0 ≤ mergeComp vals) ∧ (v < 0 → mergeComp vals ≤ 0) := by
  have := mergeComp_between hv
  unfold Between at this
  omega

variable (T : Tab)

theorem domain_ne_nil (s : St) : domain s ≠ [] := by unfold domain; split <;> simp

theorem merge?_cons (f : St) (r : List St) : merge? T (f :: r) =
    ((List.range T.n).mapM fun l => (f :: r).mapM fun s => s.benef[l]?).bind
      (fun cols => some { depth := f.depth, benef := cols.map mergeComp }) := rfl

theorem branch?_eq (s : St) (x : Nat) (sgn : Int) : branch? T s x sgn =
    (s.benef[x]?).bind fun sx =>
      (((List.range T.n).drop x).mapM fun l => (s.benef[l]?).map fun skl =>
        if sgn * (skl * w T x l) ≤ 0 then min (iabs skl) (iabs (w T x l)) else 0).bind
        fun terms => some (max 0 (-(sgn * sx)) + sum terms) := rfl

theorem relax?_eq (dst mrg : St) (c : Int) : relax? T dst mrg c =
    ((List.range T.n).mapM fun l => (dst.benef[l]?).bind fun a => (mrg.benef[l]?).bind fun b => some (iabs a - iabs b)).bind
      fun diffs => some (c + sum diffs) := rfl

/-- the depth of the FIRST merged state -/
theorem merge_depth {f : St} {r : List St} {m : St} (h : merge? T (f :: r) = some m) : m.depth = f.depth := by
  rw [merge?_cons] at h
  obtain ⟨cols, _, hm⟩ := Option.bind_eq_some_iff.mp h
  cases hm; rfl

theorem merge_length {X : List St} {m : St} (h : merge? T X = some m) : m.benef.length = T.n := by
  cases X with
  | nil => cases h
  | cons f r =>
    rw [merge?_cons] at h
    obtain ⟨cols, hc, hm⟩ := Option.bind_eq_some_iff.mp h
    cases hm
    simp [(mapM_some hc).1]

theorem merge_between {X : List St} {m u : St} (h : merge? T X = some m) (hu : u ∈ X) {l : Nat} (hl : l < T.n) :
    ∃ a b, m.benef[l]? = some a ∧ u.benef[l]? = some b ∧ Between a b := by
  cases X with
  | nil => cases hu
  | cons f r =>
    rw [merge?_cons] at h
    obtain ⟨cols, hc, hm⟩ := Option.bind_eq_some_iff.mp h
    cases hm
    · have hlen := (mapM_some hc).1
      have hl' : l < cols.length := by simp [hlen, hl]
      -- the column of component `l`, and the value of `u` in it
      have hcol : (f :: r).mapM (fun s => s.benef[l]?) = some cols[l] := by
        have := mapM_getElem hc l (by simp [hl]) hl'
        simpa using this
      obtain ⟨b, hb, hbin⟩ := EMax.mapM_mem hcol u hu
      exact ⟨mergeComp cols[l], b, by simp [hl'], hb, mergeComp_between hbin⟩

theorem merge_abs_le {X : List St} {m u : St} (h : merge? T X = some m) (hu : u ∈ X) {l : Nat} (hl : l < T.n) :
    ∃ a b, m.benef[l]? = some a ∧ u.benef[l]? = some b ∧ iabs a ≤ iabs b ∧ (0 < b → 0 ≤ a) ∧ (b < 0 → a ≤ 0) := by
  obtain ⟨a, b, ha, hb, h⟩ := merge_between T h hu hl
  refine ⟨a, b, ha, hb, h.iabs_le, ?_⟩
  unfold Between at h
  omega

theorem cost_nonneg {s : St} {d : Dec} {c : Int} (h : cost? T s d = some c) : 0 ≤ c := by
  unfold cost? at h
  split at h
  · split at h
    · cases h; exact Int.le_refl 0
    · rw [branch?_eq] at h
      obtain ⟨sx, _, h⟩ := Option.bind_eq_some_iff.mp h
      obtain ⟨terms, ht, h⟩ := Option.bind_eq_some_iff.mp h
      cases h
      have hterms : ∀ x ∈ terms, 0 ≤ x := by
        intro x hx
        obtain ⟨l, _, hl⟩ := (mapM_some ht).2 x hx
        cases hb : s.benef[l]? with
        | none => rw [hb] at hl; cases hl
        | some skl =>
          rw [hb] at hl
          simp only [Option.map_some, Option.some.injEq] at hl
          subst hl
          have := iabs_nonneg skl
          have := iabs_nonneg (w T d.var l)
          split <;> omega
      have := sum_nonneg hterms
      omega
  · cases h

/-- `relax` never lowers a cost when the merged benefits are no larger in absolute value (which `merge` guarantees:
    `merge_abs_le`) -/
theorem relax_ge {dst mrg : St} {c r : Int} (h : relax? T dst mrg c = some r)
    (habs : ∀ (l : Nat), l < T.n → ∀ (a b : Int), dst.benef[l]? = some a → mrg.benef[l]? = some b → iabs b ≤ iabs a) : c ≤ r := by
  rw [relax?_eq] at h
  obtain ⟨diffs, hd, h⟩ := Option.bind_eq_some_iff.mp h
  cases h
  have hdiffs : ∀ x ∈ diffs, 0 ≤ x := by
    intro x hx
    obtain ⟨l, hlr, hl⟩ := (mapM_some hd).2 x hx
    obtain ⟨a, ha, hl⟩ := Option.bind_eq_some_iff.mp hl
    obtain ⟨b, hb, hl⟩ := Option.bind_eq_some_iff.mp hl
    cases hl
    have := habs l (List.mem_range.mp hlr) a b ha hb
    omega
  have := sum_nonneg hdiffs
  omega

theorem relax_ge_of_merge {X : List St} {m u : St} {c r : Int} (hm : merge? T X = some m) (hu : u ∈ X)
    (h : relax? T u m c = some r) : c ≤ r :=
  relax_ge T h (fun l hl a b ha hb => by
    obtain ⟨a', b', ha', hb', hle, _, _⟩ := merge_abs_le T hm hu hl
    rw [ha'] at hb; rw [hb'] at ha
    cases ha; cases hb
    exact hle)

/-- the matrix of an instance of the domain: `n` rows of `n` weights, symmetric, zero diagonal -/
def GraphOk (n : Nat) (adj : List (List Int)) : Prop :=
  adj.length = n ∧ (∀ row ∈ adj, row.length = n) ∧ ∀ x y, wAt adj x y = wAt adj y x ∧ wAt adj x x = 0

/-- the states the statements are about, reachable or not -/
def StOk (s : St) : Prop := s.benef.length = T.n ∧ s.depth ≤ T.n

def RubAdmissibleStmt : Prop :=
  ∀ (n : Nat) (adj : List (List Int)), GraphOk n adj → ∀ s : St, StOk (tabOfAdj n adj) s →
    bestRem (tabOfAdj n adj) s ≤ some ((relaxation (tabOfAdj n adj)).rub s)

def MergeOkStmt : Prop :=
  ∀ (n : Nat) (adj : List (List Int)), GraphOk n adj → ∀ (X : List St) (u m : St) (c r : Int),
    (∀ s ∈ X, StOk (tabOfAdj n adj) s ∧ s.depth = u.depth) → u ∈ X →
    merge? (tabOfAdj n adj) X = some m → relax? (tabOfAdj n adj) u m c = some r →
    mergeOkAt (tabOfAdj n adj) u m c r = true

/-- NOT proved; `dpExact_partial` (`McpProofsExact.lean`) is the model half -/
def DpExactStmt : Prop :=
  ∀ (n : Nat) (edges : List (Int × Int × Int)), inDomain n edges = true →
    ∀ (vals : List Int) (s : St) (v : Int) (k : Nat),
      evalFrom (problem (tabOf n edges)) 0 (problem (tabOf n edges)).init (problem (tabOf n edges)).initVal
        ((List.range vals.length).zipWith (fun (k : Nat) (x : Int) => (⟨k, x⟩ : Dec)) vals) = some (s, v, k) →
      (bestRem (tabOf n edges) s).addI v = specBestExt n edges vals

end Ddo.Examples.McpModel
