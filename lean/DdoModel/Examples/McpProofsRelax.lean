import DdoModel.Examples.McpProofsStep
/-! mcp example: the relaxation is sound.

* `mergeOk : MergeOkStmt` (full strength): `c + H(u) ≤ relax(c) + H(merge X)` for every merged-away state.  `Ff` is 1-Lipschitz
  in every benefit, hence so is `Hf` (`Hf_lip`, ANY two states of one depth); the merged benefit lies between `0` and the
  merged-away one (`merge_between`), so `|u_l - m_l| = |u_l| - |m_l|`, which is what `relax` adds (`merge_potential`; the stale
  components `l < depth` only add slack);
* `rubAdmissible : RubAdmissibleStmt` (full strength).  The sharp bound is `Σ_{l ≥ k} |b_l| + Σ_{k ≤ i < j} |w_ij|`
  (`Hf_le_rub`: it bounds every completion termwise, `Ff_le_rub`); `fast_upper_bound` adds `estimates[k] - vr + nk[k]` = the
  positive weights among the free vertices minus ALL the negative weights with an end point `≥ k` (not only those among the
  free vertices: `NC_le`) — admissible, looser than necessary; `sumNeg_eq`: on a symmetric matrix with a zero diagonal the
  halving in `sum_of_negative_edges` is exact. -/
namespace Ddo.Examples.McpModel
open Ddo Ddo.Examples Ddo.Examples.Util

variable (T : Tab)

theorem Ff_lip {b b' x : Nat → Int} (hx : Pm x) (k c : Nat) :
    Ff T b x k c ≤ Ff T b' x k c + rsum k c (fun l => iabs (b l - b' l)) := by
  unfold Ff
  have : rsum k c (fun l => max 0 (-(x l * b l))) ≤ rsum k c (fun l => max 0 (-(x l * b' l)) + iabs (b l - b' l)) := by
    apply rsum_le
    intro l _ _
    rw [iabs_eq_max]
    rcases hx l with h | h <;> rw [h] <;> simp only [Int.one_mul, Int.neg_mul, Int.neg_neg] <;> omega
  rw [rsum_add] at this
  omega

/-- any two states of one depth -/
theorem Hf_lip (hd : ∀ k, w T k k = 0) (c k : Nat) (b b' : Nat → Int) (hkc : k + c = T.n) :
    Hf T c k b ≤ Hf T c k b' + rsum k c (fun l => iabs (b l - b' l)) := by
  by_cases hk0 : k = 0
  · subst hk0
    cases c with
    | zero => simp [Hf]
    | succ c =>
      rw [Hf_first T b (by omega), Hf_first T b' (by omega)]
      obtain ⟨x, hx, _, h⟩ := Hf_att T hd c 1 (stepF T b 0 1) (fun _ => 1) (by omega) (by omega) (fun _ => Or.inl rfl)
      have h2 := Hf_ge T hd hx c 1 (stepF T b' 0 1) (by omega) (by omega)
      have h3 := Ff_lip T (b := stepF T b 0 1) (b' := stepF T b' 0 1) hx 1 c
      have h4 : rsum 1 c (fun l => iabs (stepF T b 0 1 l - stepF T b' 0 1 l)) = rsum 1 c (fun l => iabs (b l - b' l)) := by
        apply rsum_congr; intro l _ _; unfold stepF; congr 1; omega
      rw [rsum_succ, Nat.zero_add]
      have := iabs_nonneg (b 0 - b' 0)
      omega
  · obtain ⟨x, hx, _, h⟩ := Hf_att T hd c k b (fun _ => 1) hkc hk0 (fun _ => Or.inl rfl)
    have h2 := Hf_ge T hd hx c k b' hkc hk0
    have h3 := Ff_lip T (b := b) (b' := b') hx k c
    omega

theorem relax?_ok {u m : St} (hu : u.benef.length = T.n) (hm : m.benef.length = T.n) (c : Int) :
    relax? T u m c = some (c + rsum 0 T.n (fun l => iabs (bAt u l) - iabs (bAt m l))) := by
  rw [relax?_eq]
  have : ((List.range T.n).mapM fun l => (u.benef[l]?).bind fun a => (m.benef[l]?).bind fun b => some (iabs a - iabs b)) =
      some ((List.range T.n).map fun l => iabs (bAt u l) - iabs (bAt m l)) := by
    apply EMax.mapM_total
    intro l hl
    have hl' : l < T.n := List.mem_range.mp hl
    rw [getElem?_bAt (by omega), getElem?_bAt (by omega)]; rfl
  rw [this]
  simp only [Option.bind_some]
  rw [SpecUtil.sum_eq, List.range_eq_range', sum_map_range']

theorem graphOk_diag {n : Nat} {adj : List (List Int)} (hG : GraphOk n adj) (k : Nat) : w (tabOfAdj n adj) k k = 0 :=
  (hG.2.2 k k).2

theorem graphOk_symm {n : Nat} {adj : List (List Int)} (hG : GraphOk n adj) (x y : Nat) :
    w (tabOfAdj n adj) x y = w (tabOfAdj n adj) y x := (hG.2.2 x y).1

theorem merge_stOk {X : List St} {m : St} {k : Nat} (hX : ∀ s ∈ X, StOk T s ∧ s.depth = k) (hm : merge? T X = some m) :
    StOk T m ∧ m.depth = k := by
  cases X with
  | nil => cases hm
  | cons f r =>
    have hf := hX f (List.mem_cons_self ..)
    have hd := merge_depth T hm
    exact ⟨⟨merge_length T hm, by rw [hd]; exact hf.1.2⟩, by rw [hd]; exact hf.2⟩

/-- the core of `MergeOkStmt`, on any table with a zero diagonal: `H(u) ≤ Σ_l (|u_l| - |m_l|) + H(merge X)` -/
theorem merge_potential (hd : ∀ k, w T k k = 0) {X : List St} {u m : St}
    (hX : ∀ s ∈ X, StOk T s ∧ s.depth = u.depth) (hu : u ∈ X) (hm : merge? T X = some m) :
    Hf T (T.n - u.depth) u.depth (bAt u) ≤
      rsum 0 T.n (fun l => iabs (bAt u l) - iabs (bAt m l)) + Hf T (T.n - u.depth) u.depth (bAt m) := by
  have hSu := (hX u hu).1
  obtain ⟨hSm, hmd⟩ := merge_stOk T hX hm
  have hshrink : ∀ l, l < T.n → iabs (bAt u l - bAt m l) = iabs (bAt u l) - iabs (bAt m l) ∧
      0 ≤ iabs (bAt u l) - iabs (bAt m l) := by
    intro l hl
    obtain ⟨a, b, ha, hb, h⟩ := merge_between T hm hu hl
    rw [getElem?_bAt (by rw [hSm.1]; exact hl)] at ha
    rw [getElem?_bAt (by rw [hSu.1]; exact hl)] at hb
    cases ha; cases hb
    exact ⟨h.iabs_sub, by have := h.iabs_le; omega⟩
  have hlip := Hf_lip T hd (T.n - u.depth) u.depth (bAt u) (bAt m) (by have := hSu.2; omega)
  have h1 : rsum u.depth (T.n - u.depth) (fun l => iabs (bAt u l - bAt m l)) =
      rsum u.depth (T.n - u.depth) (fun l => iabs (bAt u l) - iabs (bAt m l)) := by
    apply rsum_congr; intro l _ h2; exact (hshrink l (by have := hSu.2; omega)).1
  have h2 : rsum 0 T.n (fun l => iabs (bAt u l) - iabs (bAt m l)) =
      rsum 0 u.depth (fun l => iabs (bAt u l) - iabs (bAt m l)) +
      rsum u.depth (T.n - u.depth) (fun l => iabs (bAt u l) - iabs (bAt m l)) := by
    have e : T.n = u.depth + (T.n - u.depth) := by have := hSu.2; omega
    have := rsum_split 0 u.depth (T.n - u.depth) (fun l => iabs (bAt u l) - iabs (bAt m l))
    rw [← e, Nat.zero_add] at this
    exact this
  have h3 : 0 ≤ rsum 0 u.depth (fun l => iabs (bAt u l) - iabs (bAt m l)) := by
    apply rsum_nonneg; intro l _ hl; exact (hshrink l (by have := hSu.2; omega)).2
  omega

theorem mergeOk : MergeOkStmt := by
  intro n adj hG X u m c r hX hu hm hr
  have hSu := (hX u hu).1
  obtain ⟨hSm, hmd⟩ := merge_stOk (tabOfAdj n adj) hX hm
  rw [relax?_ok (tabOfAdj n adj) hSu.1 hSm.1] at hr
  cases hr
  unfold mergeOkAt
  rw [bestRem_eq _ hSu, bestRem_eq _ hSm, hmd]
  simp only [decide_eq_true_eq]
  have := merge_potential (tabOfAdj n adj) (graphOk_diag hG) hX hu hm
  omega

theorem rsum_neg (k c : Nat) (f : Nat → Int) : rsum k c (fun l => -f l) = -rsum k c f := by
  induction c generalizing k with
  | zero => rfl
  | succ c ih => simp only [rsum_succ, ih]; omega

/-- the positive weights among the vertices `k, …, n - 1`, row by row (`precompute_estimate`) -/
def PR (k c : Nat) : Int := rsum k c fun i => rsum (i + 1) (T.n - (i + 1)) fun j => max 0 (w T i j)
/-- minus the negative weights among the vertices `k, …, n - 1`, column by column -/
def NC (k c : Nat) : Int := rsum k c fun j => rsum k (j - k) fun i => -min 0 (w T i j)

/-- triangles: row by row = column by column -/
theorem row_eq_col (g : Nat → Nat → Int) (c : Nat) : ∀ k, k + c = T.n →
    rsum k c (fun i => rsum (i + 1) (T.n - (i + 1)) (g i)) = rsum k c (fun j => rsum k (j - k) (fun i => g i j)) := by
  induction c with
  | zero => intro k _; rfl
  | succ c ih =>
    intro k hkc
    rw [rsum_succ, rsum_succ, Nat.sub_self, rsum_zero, ih (k + 1) (by omega)]
    have e : T.n - (k + 1) = c := by omega
    rw [e]
    have : rsum (k + 1) c (fun j => rsum k (j - k) fun i => g i j) =
        rsum (k + 1) c (fun j => g k j + rsum (k + 1) (j - (k + 1)) fun i => g i j) := by
      apply rsum_congr
      intro j h1 _
      have : j - k = (j - (k + 1)) + 1 := by omega
      rw [this, rsum_succ]
    rw [this, rsum_add]; omega

theorem costF_nonneg (b : Nat → Int) (k : Nat) (v : Int) : 0 ≤ costF T b k v := by
  unfold costF
  have : 0 ≤ rsum k (T.n - k) (termF T b k v) := by
    apply rsum_nonneg
    intro l _ _
    unfold termF
    have := iabs_nonneg (b l)
    have := iabs_nonneg (w T k l)
    split <;> omega
  omega

/-- every completion is worth at most the absolute benefits of the free vertices plus the absolute weights of the edges
    among them -/
theorem Ff_le_rub {b x : Nat → Int} (hx : Pm x) {k c : Nat} (hkc : k + c = T.n) :
    Ff T b x k c ≤ rsum k c (fun l => iabs (b l)) + PR T k c + NC T k c := by
  have h1 : rsum k c (fun l => max 0 (-(x l * b l))) ≤ rsum k c (fun l => iabs (b l)) := by
    apply rsum_le
    intro l _ _
    exact max_neg_le_iabs (x l) (b l) (hx l)
  have h2 : Cf T x k c ≤ PR T k c + NC T k c := by
    unfold Cf PR NC
    rw [← row_eq_col T (fun i j => -min 0 (w T i j)) c k hkc, ← rsum_add]
    apply rsum_le
    intro i _ _
    rw [← rsum_add]
    apply rsum_le
    intro j _ _
    unfold eT
    split <;> omega
  unfold Ff
  omega

/-- the sharp form of the rough bound (it is the value of a completion; at the root the first decision costs nothing) -/
theorem Hf_le_rub (hd : ∀ k, w T k k = 0) (c k : Nat) (b : Nat → Int) (hkc : k + c = T.n) :
    Hf T c k b ≤ rsum k c (fun l => iabs (b l)) + PR T k c + NC T k c := by
  by_cases hk0 : k = 0
  · subst hk0
    cases c with
    | zero => simp [Hf, PR, NC]
    | succ c =>
      rw [Hf_first T b (by omega)]
      obtain ⟨x, hx, hlow, h⟩ := Hf_att T hd c 1 (stepF T b 0 1) (fun _ => 1) (by omega) (by omega) (fun _ => Or.inl rfl)
      have h1 := Ff_step T (b := b) hx hkc (hd 0)
      rw [hlow 0 (by omega), Nat.zero_add] at h1
      have := costF_nonneg T b 0 1
      have := Ff_le_rub T (b := b) hx hkc
      omega
  · obtain ⟨x, hx, _, h⟩ := Hf_att T hd c k b (fun _ => 1) hkc hk0 (fun _ => Or.inl rfl)
    rw [h]
    exact Ff_le_rub T hx hkc

theorem list_eq_map_range {α : Type} (l : List α) (d : α) : l = (List.range l.length).map (fun i => l.getD i d) := by
  apply List.ext_getElem?
  intro i
  by_cases h : i < l.length
  · simp [h, List.getD_eq_getElem?_getD]
  · simp [h]

theorem drop_eq_map_range' (l : List Int) (k : Nat) : l.drop k = (List.range' k (l.length - k)).map (fun i => l.getD i 0) := by
  apply List.ext_getElem?
  intro i
  by_cases h : i < l.length - k
  · simp [h, List.getD_eq_getElem?_getD]
    have : k + i < l.length := by omega
    simp [this]
  · simp [h]

theorem sum_flatMap_range' (k c : Nat) (L : Nat → List Int) :
    ((List.range' k c).flatMap L).sum = rsum k c (fun i => (L i).sum) := by
  induction c generalizing k with
  | zero => rfl
  | succ c ih => rw [List.range'_succ, List.flatMap_cons, List.sum_append, ih, rsum_succ]

theorem sum_filter_neg (l : List Int) : (l.filter (· < 0)).sum = (l.map (min 0)).sum := by
  induction l with
  | nil => rfl
  | cons a t ih =>
    by_cases h : a < 0
    · simp only [List.filter_cons, h, decide_true, if_true, List.sum_cons, List.map_cons, ih]; omega
    · simp only [List.filter_cons, h, decide_false, List.sum_cons, List.map_cons]; simp; omega

theorem sum_map_flatten (f : Int → Int) (L : List (List Int)) :
    (L.flatten.map f).sum = (L.map fun row => (row.map f).sum).sum := by
  induction L with
  | nil => rfl
  | cons r t ih => rw [List.flatten_cons, List.map_append, List.sum_append, ih, List.map_cons, List.sum_cons]

theorem sum_map_eq_rsum {α : Type} (L : List α) (f : α → Int) (d : α) :
    (L.map f).sum = rsum 0 L.length (fun i => f (L.getD i d)) := by
  calc (L.map f).sum = (((List.range L.length).map (fun i => L.getD i d)).map f).sum := by rw [← list_eq_map_range]
    _ = _ := by rw [List.map_map, List.range_eq_range', sum_map_range']; rfl

/-- the square is twice the triangle (symmetric, zero diagonal) -/
theorem square_eq_two_tri (g : Nat → Nat → Int) (hs : ∀ x y, g x y = g y x) (h0 : ∀ x, g x x = 0) (m : Nat) :
    rsum 0 m (fun x => rsum 0 m (g x)) = 2 * rsum 0 m (fun j => rsum 0 j (fun i => g i j)) := by
  induction m with
  | zero => rfl
  | succ m ih =>
    rw [rsum_snoc 0 m (fun x => rsum 0 (m + 1) (g x)), rsum_snoc 0 m (fun j => rsum 0 j (fun i => g i j))]
    have h1 : rsum 0 m (fun x => rsum 0 (m + 1) (g x)) = rsum 0 m (fun x => rsum 0 m (g x)) + rsum 0 m (fun x => g x m) := by
      rw [← rsum_add]; apply rsum_congr; intro x _ _; rw [rsum_snoc]; simp
    have h2 : rsum 0 (m + 1) (g (0 + m)) = rsum 0 m (fun i => g i m) := by
      rw [rsum_snoc]; simp only [Nat.zero_add]; rw [h0 m]
      have : rsum 0 m (g m) = rsum 0 m (fun i => g i m) := by apply rsum_congr; intro i _ _; exact hs m i
      omega
    simp only [Nat.zero_add] at *
    rw [h1, h2, ih]; omega

/-- the negative weights among the vertices `0, …, m - 1`, column by column (`precompute_nk`) -/
def colNeg (adj : List (List Int)) (m : Nat) : Int := rsum 0 m fun j => rsum 0 j fun i => min 0 (wAt adj i j)

theorem estimateAt_eq (n : Nat) (adj : List (List Int)) (k : Nat) : estimateAt n adj k = PR (tabOfAdj n adj) k (n - k) := by
  unfold estimateAt PR
  rw [SpecUtil.sum_eq, range_drop, sum_flatMap_range']
  apply rsum_congr
  intro i _ _
  rw [range_drop, sum_map_range']
  apply rsum_congr
  intro j _ _
  show (if wAt adj i j > 0 then wAt adj i j else 0) = max 0 (wAt adj i j)
  split <;> omega

theorem nkAt_eq (adj : List (List Int)) (k : Nat) : nkAt adj k = colNeg adj k := by
  unfold nkAt colNeg
  rw [SpecUtil.sum_eq, List.range_eq_range', sum_flatMap_range']
  apply rsum_congr
  intro j _ _
  rw [List.range_eq_range', sum_map_range']
  apply rsum_congr
  intro i _ _
  show (if wAt adj i j < 0 then wAt adj i j else 0) = min 0 (wAt adj i j)
  split <;> omega

/-- on a symmetric matrix with a zero diagonal `sum_of_negative_edges` is the sum of the negative weights, every edge
    counted once (the halving is exact) -/
theorem sumNeg_eq {n : Nat} {adj : List (List Int)} (hG : GraphOk n adj) : sumNeg adj = colNeg adj n := by
  unfold sumNeg colNeg
  rw [SpecUtil.sum_eq, sum_filter_neg, sum_map_flatten, sum_map_eq_rsum adj _ [], hG.1]
  have h1 : rsum 0 n (fun i => ((adj.getD i []).map (min 0)).sum) = rsum 0 n (fun x => rsum 0 n (fun y => min 0 (wAt adj x y))) := by
    apply rsum_congr
    intro x _ hx
    rw [sum_map_eq_rsum _ _ 0, hG.2.1 _ (getD_mem (by rw [hG.1]; omega))]
    rfl
  rw [h1, square_eq_two_tri (fun x y => min 0 (wAt adj x y)) (fun x y => by rw [(hG.2.2 x y).1])
    (fun x => by rw [(hG.2.2 x x).2]; rfl) n]
  exact Int.mul_tdiv_cancel_left _ (by decide)

/-- what `fast_upper_bound` adds for the negative weights (`- vr + nk[k]`: minus ALL the negative weights with an end
    point `≥ k`) is at least minus the negative weights among the free vertices -/
theorem NC_le (n : Nat) (adj : List (List Int)) (k c : Nat) (hkc : k + c = n) :
    NC (tabOfAdj n adj) k c ≤ -colNeg adj n + colNeg adj k := by
  have e1 : NC (tabOfAdj n adj) k c = -rsum k c (fun j => rsum k (j - k) fun i => min 0 (wAt adj i j)) := by
    unfold NC
    rw [← rsum_neg]
    apply rsum_congr
    intro j _ _
    rw [← rsum_neg]
    rfl
  have e2 : colNeg adj n = colNeg adj k + rsum k c (fun j => rsum 0 j fun i => min 0 (wAt adj i j)) := by
    unfold colNeg
    rw [← hkc, rsum_split, Nat.zero_add]
  have e3 : rsum k c (fun j => rsum 0 j fun i => min 0 (wAt adj i j)) ≤
      rsum k c (fun j => rsum k (j - k) fun i => min 0 (wAt adj i j)) := by
    apply rsum_le
    intro j hj _
    have hs := rsum_split 0 k (j - k) (fun i => min 0 (wAt adj i j))
    rw [show k + (j - k) = j by omega, Nat.zero_add] at hs
    have : rsum 0 k (fun i => min 0 (wAt adj i j)) ≤ 0 := by
      have := rsum_nonneg (k := 0) (c := k) (f := fun i => -min 0 (wAt adj i j)) (fun i _ _ => by omega)
      rw [rsum_neg] at this
      omega
    omega
  omega

theorem rub?_ok {n : Nat} {adj : List (List Int)} (hG : GraphOk n adj) {s : St} (hS : StOk (tabOfAdj n adj) s) :
    rub? (tabOfAdj n adj) s = some (rsum s.depth (n - s.depth) (fun l => iabs (bAt s l)) +
      PR (tabOfAdj n adj) s.depth (n - s.depth) - colNeg adj n + colNeg adj s.depth) := by
  have hd : s.depth ≤ n := hS.2
  have hl : s.benef.length = n := hS.1
  unfold rub?
  have h1 : (tabOfAdj n adj).est[s.depth]? = some (estimateAt n adj s.depth) := by
    show ((List.range (n + 1)).map (estimateAt n adj))[s.depth]? = _
    rw [List.getElem?_map, List.getElem?_range (by omega)]; rfl
  have h2 : (tabOfAdj n adj).nk[s.depth]? = some (nkAt adj s.depth) := by
    show ((List.range (n + 1)).map (nkAt adj))[s.depth]? = _
    rw [List.getElem?_map, List.getElem?_range (by omega)]; rfl
  rw [h1, h2]
  simp only [Option.bind_eq_bind, Option.bind_some, Option.pure_def]
  rw [SpecUtil.sum_eq, drop_eq_map_range', List.map_map, sum_map_range', hl, estimateAt_eq, nkAt_eq]
  have h3 : (tabOfAdj n adj).vr = colNeg adj n := sumNeg_eq hG
  rw [h3]
  rfl

theorem rubAdmissible : RubAdmissibleStmt := by
  intro n adj hG s hS
  rw [bestRem_eq _ hS]
  simp only [relaxation]
  rw [rub?_ok hG hS]
  simp only [Option.getD_some, EInt.some_le_some]
  have hd : s.depth ≤ n := hS.2
  have h1 := Hf_le_rub (tabOfAdj n adj) (graphOk_diag hG) (n - s.depth) s.depth (bAt s) (by show s.depth + (n - s.depth) = n; omega)
  have h2 := NC_le n adj s.depth (n - s.depth) (by omega)
  have h3 : (tabOfAdj n adj).n = n := rfl
  rw [h3]
  omega

section Axioms
#print axioms mergeOk
#print axioms rubAdmissible
end Axioms

end Ddo.Examples.McpModel
