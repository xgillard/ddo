import DdoModel.Examples.AlpProofsSim
/-! alp example, exactness of the DP model: the value-to-go `bestRem` of a state is the best worth of a SCHEDULE of
    the aircraft the state has still to land.

A schedule (`Sched`) of the aircraft left in `rem` on the physical runways `ph` is a list of events (aircraft, physical
runway, landing time), listing every remaining aircraft once, such that every aircraft lands inside its window, no
earlier than it could as the NEXT landing on its runway in state `ph`, and separated from ALL the events listed before
it on its runway — any aircraft order, any order inside a class.  `Sched` is the declarative problem of the
specification (as `Ddo.C16.AlpD.Feasible` states it for the root) relative to a state.

* `sched_le_best` (the exchange argument, `Sched.exchange`): every schedule is worth at most the value-to-go.  The earliest
  event of the schedule (the first listed among the earliest) is answered by the model landing the FIRST remaining aircraft
  `f` of the same class on the same runway; in the rest of the schedule `f` is replaced by the aircraft that landed (`ren`):
  since within a class targets and latest times are sorted, `f` fits in the earlier slot and the other aircraft in the later
  one;
* `best_sched`: the value-to-go is attained by a schedule (`Sched.cons`).  The model separates a landing from the LAST
  landing of the runway only; separation from all the earlier ones follows from the triangle inequality (`arrP_skip`);
* the runways of a state are sorted, those of a schedule are physical: the two lists are permutations of each other and
  `sortRw_eq_of_perm` / `set_perm_of_perm` identify the successors. -/
namespace Ddo.Examples.AlpModel
open Ddo Ddo.Examples Ddo.Examples.Util

variable (I : Inst)

/-- what `InDom` left out of `inDomain`: the lists have the announced length; within a class targets and latest times are
    sorted in file order -/
structure InDomS : Prop where
  len : I.classes.length = I.nbAircraft
  sorted : ∀ a b, a < b → b < I.nbAircraft → I.cls a = I.cls b → I.tgt a ≤ I.tgt b ∧ I.lat a ≤ I.lat b

theorem inDomS_of (h : I.inDomain = true) : InDomS I := by
  simp only [Inst.inDomain, Bool.and_eq_true, List.all_eq_true, List.mem_range, decide_eq_true_eq] at h
  obtain ⟨⟨⟨⟨⟨h0, _⟩, _⟩, _⟩, h2⟩, _⟩ := h
  refine ⟨h0, ?_⟩
  intro a b hab hb hc
  have := h2 a (by omega) b hb
  simp only [Bool.or_eq_true, Bool.not_eq_true', Bool.and_eq_false_iff, decide_eq_false_iff_not, Bool.and_eq_true,
    decide_eq_true_eq, beq_eq_false_iff_ne] at this
  rcases this with (h | h) | h
  · exact absurd hab h
  · exact absurd hc h
  · exact h

/-- the aircraft of class `c`, in file order -/
def cl (c : Nat) : List Nat := (List.range I.nbAircraft).filter (fun a => I.cls a == c)

theorem nextTab_eq (c : Nat) : I.nextTab c = 0 :: (cl I c).reverse := rfl

theorem nextTab_succ_eq (c k : Nat) : (I.nextTab c)[k + 1]? = (cl I c).reverse[k]? := by
  rw [nextTab_eq, List.getElem?_cons_succ]

theorem mem_cl {c a : Nat} : a ∈ cl I c ↔ a < I.nbAircraft ∧ I.cls a = c := by
  unfold cl
  rw [List.mem_filter, List.mem_range]
  simp

theorem rev_dec (c : Nat) {i j x y : Nat} (hij : i < j) (hx : (cl I c).reverse[i]? = some x)
    (hy : (cl I c).reverse[j]? = some y) : y < x := by
  have hp : (cl I c).reverse.Pairwise (· > ·) := by
    rw [List.pairwise_reverse]
    exact List.Pairwise.filter _ List.pairwise_lt_range
  rw [List.pairwise_iff_getElem] at hp
  obtain ⟨hi, ex⟩ := List.getElem?_eq_some_iff.mp hx
  obtain ⟨hj, ey⟩ := List.getElem?_eq_some_iff.mp hy
  have := hp i j hi hj hij
  rw [ex, ey] at this
  exact this

/-- aircraft `a` is still to land in a state with `rem` -/
def RemAc (rem : List Nat) (a : Nat) : Prop :=
  ∃ j k, rem[I.cls a]? = some k ∧ j < k ∧ (cl I (I.cls a)).reverse[j]? = some a

def RemOk (rem : List Nat) : Prop := ∀ c k, rem[c]? = some k → k ≤ (cl I c).length

theorem RemAc.lt {rem : List Nat} {a : Nat} (h : RemAc I rem a) : a < I.nbAircraft := by
  obtain ⟨j, k, _, _, e⟩ := h
  exact ((mem_cl I).mp (List.mem_reverse.mp (List.mem_of_getElem? e))).1

theorem first_exists {rem : List Nat} (hR : RemOk I rem) {c k' : Nat} (hk : rem[c]? = some (k' + 1)) :
    ∃ f, (I.nextTab c)[k' + 1]? = some f ∧ RemAc I rem f := by
  have hlen := hR _ _ hk
  have hk' : k' < (cl I c).reverse.length := by rw [List.length_reverse]; omega
  have ef : (cl I c).reverse[k']? = some ((cl I c).reverse[k']) := List.getElem?_eq_getElem hk'
  have hcf : I.cls ((cl I c).reverse[k']) = c := ((mem_cl I).mp (List.mem_reverse.mp (List.mem_of_getElem? ef))).2
  exact ⟨_, by rw [nextTab_succ_eq]; exact ef, k', k' + 1, by rw [hcf]; exact hk, by omega, by rw [hcf]; exact ef⟩

theorem RemAc.first {rem : List Nat} (hR : RemOk I rem) {a : Nat} (h : RemAc I rem a) :
    ∃ k' f, rem[I.cls a]? = some (k' + 1) ∧ (I.nextTab (I.cls a))[k' + 1]? = some f ∧ f ≤ a ∧ I.cls f = I.cls a ∧
      RemAc I rem f := by
  obtain ⟨j, k, hk, hj, e⟩ := h
  obtain ⟨k', rfl⟩ := Nat.exists_eq_add_one.mpr (Nat.zero_lt_of_lt hj)
  obtain ⟨f, hf, hfR⟩ := first_exists I hR hk
  refine ⟨k', f, hk, hf, ?_, (nextTab_succ I hf).2, hfR⟩
  rw [nextTab_succ_eq] at hf
  rcases Nat.lt_or_eq_of_le (Nat.le_of_lt_succ hj) with hlt | rfl
  · exact Nat.le_of_lt (rev_dec I _ hlt e hf)
  · exact Nat.le_of_eq (Option.some.inj (hf.symm.trans e))

theorem remAc_set {rem : List Nat} {c k' f : Nat} (hk : rem[c]? = some (k' + 1))
    (ha : (I.nextTab c)[k' + 1]? = some f) (b : Nat) : RemAc I (rem.set c k') b ↔ RemAc I rem b ∧ b ≠ f := by
  have hc : c < rem.length := lt_of_getElem?_some hk
  have hcf := (nextTab_succ I ha).2
  rw [nextTab_succ_eq] at ha
  constructor
  · rintro ⟨j, k, hk2, hj, e⟩
    by_cases hcb : I.cls b = c
    · rw [hcb] at hk2 e
      rw [List.getElem?_set_self hc] at hk2
      have ek : k = k' := (Option.some.inj hk2).symm
      subst ek
      exact ⟨⟨j, k + 1, by rw [hcb]; exact hk, Nat.lt_succ_of_lt hj, by rw [hcb]; exact e⟩,
        Nat.ne_of_gt (rev_dec I c hj e ha)⟩
    · rw [List.getElem?_set_ne (Ne.symm hcb)] at hk2
      exact ⟨⟨j, k, hk2, hj, e⟩, fun e' => hcb (by rw [e', hcf])⟩
  · rintro ⟨⟨j, k, hk2, hj, e⟩, hne⟩
    by_cases hcb : I.cls b = c
    · rw [hcb] at hk2 e
      rw [hk] at hk2
      have ek : k = k' + 1 := (Option.some.inj hk2).symm
      subst ek
      have hjk : j ≠ k' := fun e' => hne (Option.some.inj ((e' ▸ e).symm.trans ha))
      exact ⟨j, k', by rw [hcb, List.getElem?_set_self hc], Nat.lt_of_le_of_ne (Nat.le_of_lt_succ hj) hjk,
        by rw [hcb]; exact e⟩
    · exact ⟨j, k, by rw [List.getElem?_set_ne (Ne.symm hcb)]; exact hk2, hj, e⟩

theorem remOk_set {rem : List Nat} (hR : RemOk I rem) {c k' : Nat} (hk : rem[c]? = some (k' + 1)) :
    RemOk I (rem.set c k') := by
  intro c2 k2 h2
  have hc : c < rem.length := lt_of_getElem?_some hk
  by_cases e : c = c2
  · subst e
    rw [List.getElem?_set_self hc] at h2
    cases h2
    exact Nat.le_of_succ_le (hR _ _ hk)
  · rw [List.getElem?_set_ne e] at h2
    exact hR _ _ h2

theorem not_remAc_of_zero {s : St} (h0 : totRem s = 0) (a : Nat) : ¬ RemAc I s.1 a := by
  rintro ⟨j, k, hk, hj, _⟩
  have := (totRem_zero_iff s).mp h0 k (List.mem_of_getElem? hk)
  omega

theorem exists_pos_of_tot {s : St} (h : totRem s ≠ 0) : ∃ (c k' : Nat), s.1[c]? = some (k' + 1) := by
  apply Classical.byContradiction
  intro hno
  apply h
  rw [totRem_zero_iff]
  intro k hk
  obtain ⟨c, hc⟩ := List.mem_iff_getElem?.mp hk
  cases k with
  | zero => rfl
  | succ k' => exact absurd ⟨c, k', hc⟩ hno

structure Ev where
  ac : Nat
  rw : Nat
  t : Int

def cost (σ : List Ev) : Int := (σ.map (fun e => e.t - I.tgt e.ac)).sum

theorem cost_nil : cost I [] = 0 := rfl
theorem cost_cons (e : Ev) (σ : List Ev) : cost I (e :: σ) = (e.t - I.tgt e.ac) + cost I σ := by
  simp [cost]
theorem cost_append (l1 l2 : List Ev) : cost I (l1 ++ l2) = cost I l1 + cost I l2 := by
  simp [cost]

def phAt (ph : List Rw) (r : Nat) : Rw := (ph[r]?).getD (0, -1)

structure Sched (rem : List Nat) (ph : List Rw) (σ : List Ev) : Prop where
  nodup : (σ.map Ev.ac).Nodup
  mem : ∀ a, a ∈ σ.map Ev.ac ↔ RemAc I rem a
  ok : ∀ e ∈ σ, e.rw < I.nbRunways ∧ e.t ≤ I.lat e.ac ∧ arrP I (phAt ph e.rw) e.ac ≤ e.t
  sep : σ.Pairwise (fun e e' => e.rw = e'.rw → e.t + I.sepAt (I.cls e.ac) (I.cls e'.ac) ≤ e'.t)

def ren (f g : Nat) (e : Ev) : Ev := if e.ac = f then { e with ac := g } else e

theorem ren_rw (f g : Nat) (e : Ev) : (ren f g e).rw = e.rw := by unfold ren; split <;> rfl
theorem ren_t (f g : Nat) (e : Ev) : (ren f g e).t = e.t := by unfold ren; split <;> rfl
theorem ren_ac (f g : Nat) (e : Ev) : (ren f g e).ac = if e.ac = f then g else e.ac := by unfold ren; split <;> rfl

theorem ren_cls {f g : Nat} (h : I.cls g = I.cls f) (e : Ev) : I.cls (ren f g e).ac = I.cls e.ac := by
  rw [ren_ac]
  split
  · next h' => rw [h, h']
  · rfl

theorem cost_ren (f g : Nat) : ∀ (σ : List Ev), (σ.map Ev.ac).Nodup →
    cost I (σ.map (ren f g)) = cost I σ + (if f ∈ σ.map Ev.ac then I.tgt f - I.tgt g else 0) := by
  intro σ
  induction σ with
  | nil => intro _; simp [cost]
  | cons e r ih =>
    intro hnd
    simp only [List.map_cons, List.nodup_cons] at hnd
    rw [List.map_cons, cost_cons, cost_cons, ih hnd.2, ren_t, ren_ac]
    by_cases he : e.ac = f
    · have hf : f ∉ r.map Ev.ac := by rw [← he]; exact hnd.1
      simp only [he, if_true, hf, if_false, List.map_cons, List.mem_cons, true_or]
      omega
    · have h1 : (f ∈ (e :: r).map Ev.ac) ↔ f ∈ r.map Ev.ac := by
        simp only [List.map_cons, List.mem_cons]
        constructor
        · rintro (h | h)
          · exact absurd h.symm he
          · exact h
        · exact Or.inr
      simp only [he, if_false, h1]
      omega

theorem exists_min_first : ∀ (σ : List Ev), σ ≠ [] →
    ∃ l1 z l2, σ = l1 ++ z :: l2 ∧ (∀ e ∈ l1, z.t < e.t) ∧ (∀ e ∈ l2, z.t ≤ e.t) := by
  intro σ
  induction σ with
  | nil => intro h; exact absurd rfl h
  | cons x r ih =>
    intro _
    by_cases hr : r = []
    · subst hr
      exact ⟨[], x, [], rfl, fun _ h => (nomatch h), fun _ h => (nomatch h)⟩
    · obtain ⟨l1, z, l2, rfl, h1, h2⟩ := ih hr
      by_cases hx : x.t ≤ z.t
      · refine ⟨[], x, l1 ++ z :: l2, rfl, fun _ h => (nomatch h), ?_⟩
        intro e he
        rcases List.mem_append.mp he with h | h
        · exact Int.le_of_lt (Int.lt_of_le_of_lt hx (h1 e h))
        · rcases List.mem_cons.mp h with rfl | h
          · exact hx
          · exact Int.le_trans hx (h2 e h)
      · refine ⟨x :: l1, z, l2, rfl, ?_, h2⟩
        intro e he
        rcases List.mem_cons.mp he with rfl | h
        · exact Int.not_le.mp hx
        · exact h1 e h

theorem phAt_set_self {ph : List Rw} {r : Nat} (h : r < ph.length) (x : Rw) : phAt (ph.set r x) r = x := by
  unfold phAt; rw [List.getElem?_set_self h]; rfl

theorem phAt_set_ne {ph : List Rw} {r r2 : Nat} (h : r ≠ r2) (x : Rw) : phAt (ph.set r x) r2 = phAt ph r2 := by
  unfold phAt; rw [List.getElem?_set_ne h]

theorem phAt_mem {ph : List Rw} {r : Nat} (h : r < ph.length) : phAt ph r ∈ ph := by
  unfold phAt; rw [List.getElem?_eq_getElem h]; exact List.getElem_mem h

theorem phAt_eq {ph : List Rw} {r : Nat} (h : r < ph.length) : phAt ph r = ph[r] := by
  unfold phAt; rw [List.getElem?_eq_getElem h]; rfl

theorem sched_nil_of_zero {s : St} {ph : List Rw} {σ : List Ev} (h0 : totRem s = 0) (hσ : Sched I s.1 ph σ) :
    σ = [] := by
  cases σ with
  | nil => rfl
  | cons e r => exact absurd ((hσ.mem e.ac).mp (by simp)) (not_remAc_of_zero I h0 _)

theorem tot_zero_of_sched_nil {s : St} {ph : List Rw} (hR : RemOk I s.1) (hσ : Sched I s.1 ph []) : totRem s = 0 := by
  apply Classical.byContradiction
  intro h
  obtain ⟨c, k', hk⟩ := exists_pos_of_tot h
  obtain ⟨f, _, hf⟩ := first_exists I hR hk
  have := (hσ.mem f).mpr hf
  simp at this

theorem some_neg_zero_le : ((some (-(0 : Int))) : EInt) ≤ some 0 := (EInt.some_le_some _ _).mpr (by omega)

theorem Sched.mid {rem : List Nat} {ph : List Rw} {l1 l2 : List Ev} {z : Ev} (hσ : Sched I rem ph (l1 ++ z :: l2)) :
    z.ac ∉ (l1 ++ l2).map Ev.ac ∧ ((l1 ++ l2).map Ev.ac).Nodup ∧
      ∀ a, a ∈ (l1 ++ l2).map Ev.ac ↔ RemAc I rem a ∧ a ≠ z.ac := by
  have hperm : ((l1 ++ z :: l2).map Ev.ac).Perm (z.ac :: (l1 ++ l2).map Ev.ac) := by
    simp only [List.map_append, List.map_cons]
    exact List.perm_middle
  obtain ⟨hznot, hnd⟩ := List.nodup_cons.mp (hperm.nodup hσ.nodup)
  refine ⟨hznot, hnd, fun a => ?_⟩
  rw [← hσ.mem a, hperm.mem_iff, List.mem_cons]
  constructor
  · exact fun h => ⟨Or.inr h, fun e => hznot (e ▸ h)⟩
  · rintro ⟨h | h, hne⟩
    · exact absurd h hne
    · exact h

/-- the exchange costs nothing: the rest of the schedule, `f` renamed into `z.ac`, together with `f` in the slot of `z` -/
theorem cost_exchange {rem : List Nat} {ph : List Rw} {l1 l2 : List Ev} {z : Ev} {f : Nat}
    (hσ : Sched I rem ph (l1 ++ z :: l2)) (hfR : RemAc I rem f) :
    cost I ((l1 ++ l2).map (ren f z.ac)) + (z.t - I.tgt f) = cost I (l1 ++ z :: l2) := by
  obtain ⟨_, hnd, hmem⟩ := hσ.mid
  rw [cost_ren I f z.ac _ hnd, cost_append, cost_append, cost_cons]
  by_cases hfin : f ∈ (l1 ++ l2).map Ev.ac
  · rw [if_pos hfin]
    omega
  · rw [if_neg hfin, show f = z.ac from Classical.byContradiction (fun hne => hfin ((hmem f).mpr ⟨hfR, hne⟩))]
    omega

/-- the exchange: `z` is the first listed among the earliest events of a schedule, `f` the first remaining aircraft of its
    class (no later latest time).  Once `f` has landed on the runway of `z`, at a time `t ≤ z.t`, the
    other events, with `f` renamed into `z.ac`, are a schedule of what is left -/
theorem Sched.exchange (hD : InDom I) {rem : List Nat} {ph : List Rw} {l1 l2 : List Ev} {z : Ev} {k' f : Nat} {t : Int}
    (hσ : Sched I rem ph (l1 ++ z :: l2)) (hl1 : ∀ e ∈ l1, z.t < e.t) (hl2 : ∀ e ∈ l2, z.t ≤ e.t)
    (hk : rem[I.cls z.ac]? = some (k' + 1)) (ha : (I.nextTab (I.cls z.ac))[k' + 1]? = some f) (hfR : RemAc I rem f)
    (hL : I.lat f ≤ I.lat z.ac) (hρ : z.rw < ph.length) (ht : t ≤ z.t) :
    Sched I (rem.set (I.cls z.ac) k') (ph.set z.rw (t, (I.cls z.ac : Int))) ((l1 ++ l2).map (ren f z.ac)) := by
  obtain ⟨hznot, hnd12, hmem12⟩ := hσ.mid
  have hzmem : z ∈ l1 ++ z :: l2 := List.mem_append_right _ (List.mem_cons_self ..)
  have hsub : ∀ e, e ∈ l1 ++ l2 → e ∈ l1 ++ z :: l2 := fun e he =>
    (List.mem_append.mp he).elim (List.mem_append_left _) (fun h => List.mem_append_right _ (List.mem_cons_of_mem _ h))
  have hzR : RemAc I rem z.ac := (hσ.mem z.ac).mp (List.mem_map_of_mem hzmem)
  have hcz : I.cls z.ac = I.cls f := (nextTab_succ I ha).2.symm
  have hTz : I.tgt z.ac ≤ z.t := Int.le_trans (tgt_le_arrP I _ _) (hσ.ok z hzmem).2.2
  obtain ⟨hp1, hp2, hp12⟩ := List.pairwise_append.mp hσ.sep
  obtain ⟨hpz, hp2'⟩ := List.pairwise_cons.mp hp2
  refine ⟨?_, ?_, ?_, ?_⟩
  · rw [List.map_map]
    refine List.pairwise_map.mpr (List.Pairwise.imp_of_mem ?_ (List.pairwise_map.mp hnd12))
    intro a b hma hmb hab
    show (ren f z.ac a).ac ≠ (ren f z.ac b).ac
    rw [ren_ac, ren_ac]
    have ha' : a.ac ∈ (l1 ++ l2).map Ev.ac := List.mem_map_of_mem hma
    have hb' : b.ac ∈ (l1 ++ l2).map Ev.ac := List.mem_map_of_mem hmb
    by_cases h1 : a.ac = f
    · rw [if_pos h1]
      by_cases h2 : b.ac = f
      · exact absurd (h1.trans h2.symm) hab
      · rw [if_neg h2]
        exact fun e => hznot (e ▸ hb')
    · rw [if_neg h1]
      by_cases h2 : b.ac = f
      · rw [if_pos h2]
        exact fun e => hznot (e ▸ ha')
      · rw [if_neg h2]
        exact hab
  · intro a
    rw [remAc_set I hk ha]
    constructor
    · intro h
      obtain ⟨e'', he'', rfl⟩ := List.mem_map.mp h
      obtain ⟨e, he, rfl⟩ := List.mem_map.mp he''
      have hmm : e.ac ∈ (l1 ++ l2).map Ev.ac := List.mem_map_of_mem he
      rw [ren_ac]
      by_cases h1 : e.ac = f
      · rw [if_pos h1]
        exact ⟨hzR, fun e' => hznot (by rw [e', ← h1]; exact hmm)⟩
      · rw [if_neg h1]
        exact ⟨((hmem12 e.ac).mp hmm).1, h1⟩
    · rintro ⟨h, hne⟩
      -- `z.ac` is the new name of `f`; the others keep theirs
      obtain ⟨e, he, hea⟩ := List.mem_map.mp
        ((hmem12 (if a = z.ac then f else a)).mpr (by
          by_cases h1 : a = z.ac
          · rw [if_pos h1]
            exact ⟨hfR, fun e' => hne (h1.trans e'.symm)⟩
          · rw [if_neg h1]
            exact ⟨h, h1⟩))
      refine List.mem_map.mpr ⟨ren f z.ac e, List.mem_map_of_mem he, ?_⟩
      rw [ren_ac, hea]
      by_cases h1 : a = z.ac
      · rw [if_pos h1, if_pos rfl, h1]
      · rw [if_neg h1, if_neg hne]
  · intro e'' he''
    obtain ⟨e, he, rfl⟩ := List.mem_map.mp he''
    obtain ⟨her, hel, hea⟩ := hσ.ok e (hsub e he)
    have hze : z.t ≤ e.t := (List.mem_append.mp he).elim (fun h => Int.le_of_lt (hl1 e h)) (hl2 e)
    -- the aircraft of `e` after the renaming fits where the one before did
    have hb : I.tgt (ren f z.ac e).ac ≤ e.t ∧ e.t ≤ I.lat (ren f z.ac e).ac ∧
        (∀ q, arrP I q e.ac ≤ e.t → arrP I q (ren f z.ac e).ac ≤ e.t) := by
      rw [ren_ac]
      by_cases h1 : e.ac = f
      · rw [if_pos h1]
        rw [h1] at hel
        exact ⟨Int.le_trans hTz hze, Int.le_trans hel hL,
          fun q hq => arrP_same_cls I q ((congrArg I.cls h1).trans hcz.symm) (Int.le_trans hTz hze) hq⟩
      · rw [if_neg h1]
        exact ⟨Int.le_trans (tgt_le_arrP I _ _) hea, hel, fun q hq => hq⟩
    rw [ren_rw, ren_t]
    refine ⟨her, hb.2.1, ?_⟩
    by_cases hrw : e.rw = z.rw
    · -- same runway: `e` is listed after `z` (separated from it), or before and then later than `z` by a separation
      have hafter : z.t + I.sepAt (I.cls z.ac) (I.cls e.ac) ≤ e.t := by
        rcases List.mem_append.mp he with h | h
        · have h1 := hp12 e h z (List.mem_cons_self ..) hrw
          have h2 := hl1 e h
          have hen : e.ac < I.nbAircraft := ((hσ.mem e.ac).mp (List.mem_map_of_mem (hsub e he))).lt
          have h3 := hD.sep_nn (I.cls e.ac) (I.cls z.ac) (hD.cls_lt _ hen) (hD.cls_lt _ hzR.lt)
          exact absurd (Int.lt_of_le_of_lt (Int.le_trans (Int.le_add_of_nonneg_right h3) h1) h2) (Int.lt_irrefl _)
        · exact hpz e h hrw.symm
      rw [hrw, phAt_set_self hρ, arrP_known, ren_cls I hcz e]
      exact Int.max_le.mpr ⟨hb.1, Int.le_trans (Int.add_le_add_right ht _) hafter⟩
    · rw [phAt_set_ne (Ne.symm hrw)]
      exact hb.2.2 _ hea
  · refine List.Pairwise.map (ren f z.ac) ?_
      (List.pairwise_append.mpr ⟨hp1, hp2', fun a ha b hb => hp12 a ha b (List.mem_cons_of_mem _ hb)⟩)
    intro a b h
    rw [ren_rw, ren_rw, ren_t, ren_t, ren_cls I hcz, ren_cls I hcz]
    exact h

/-- every schedule is worth at most the value-to-go: the earliest event is answered by landing the first remaining
    aircraft of its class on the same runway (`Sched.exchange`) -/
theorem sched_le_best (hD : InDom I) (hS : InDomS I) : ∀ (fuel : Nat) (s : St) (ph : List Rw) (σ : List Ev),
    StW I s → RemOk I s.1 → s.2.Perm ph → totRem s ≤ fuel → Sched I s.1 ph σ →
    (some (-(cost I σ)) : EInt) ≤ bestRem I fuel s := by
  intro fuel
  induction fuel with
  | zero =>
    intro s ph σ hW hR hp hf hσ
    have h0 : totRem s = 0 := Nat.le_zero.mp hf
    rw [sched_nil_of_zero I h0 hσ, bestRem_zero_tot I h0, cost_nil]
    exact some_neg_zero_le
  | succ fuel ih =>
    intro s ph σ hW hR hp hf hσ
    by_cases hne : σ = []
    · subst hne
      have h0 := tot_zero_of_sched_nil I hR hσ
      rw [bestRem_zero_tot I h0, cost_nil]
      exact some_neg_zero_le
    · obtain ⟨l1, z, l2, rfl, hl1, hl2⟩ := exists_min_first σ hne
      have hzmem : z ∈ l1 ++ z :: l2 := List.mem_append_right _ (List.mem_cons_self ..)
      have hzR : RemAc I s.1 z.ac := (hσ.mem z.ac).mp (List.mem_map_of_mem hzmem)
      obtain ⟨k', f, hk, ha, hfle, hcf, hfR⟩ := hzR.first I hR
      have hTL : I.tgt f ≤ I.tgt z.ac ∧ I.lat f ≤ I.lat z.ac := by
        by_cases e : f = z.ac
        · rw [e]; exact ⟨Int.le_refl _, Int.le_refl _⟩
        · exact hS.sorted f z.ac (Nat.lt_of_le_of_ne hfle e) hzR.lt hcf
      obtain ⟨hzr, hzl, hza⟩ := hσ.ok z hzmem
      -- the runway of the state that is the physical runway of `z`
      have hρ : z.rw < ph.length := by rw [← hp.length_eq, hW.2.1]; exact hzr
      obtain ⟨j, hj, ej⟩ := List.mem_iff_getElem.mp (hp.mem_iff.mpr (phAt_mem hρ))
      have erw : rwAt s j = phAt ph z.rw := (rwAt_eq hj).trans ej
      -- `f` fits in the slot of `z`, and `z` is no later than the event of `f`
      have harrf : arrP I (rwAt s j) f ≤ z.t :=
        erw ▸ arrP_same_cls I _ hcf.symm (Int.le_trans hTL.1 (Int.le_trans (tgt_le_arrP I _ _) hza)) hza
      have hl : arrP I (rwAt s j) f ≤ I.lat f := by
        obtain ⟨ef, hef, efac⟩ := List.mem_map.mp ((hσ.mem f).mpr hfR)
        have hzef : z.t ≤ ef.t := by
          rcases List.mem_append.mp hef with h | h
          · exact Int.le_of_lt (hl1 ef h)
          · rcases List.mem_cons.mp h with rfl | h
            · exact Int.le_refl _
            · exact hl2 ef h
        exact Int.le_trans harrf (Int.le_trans hzef (efac ▸ (hσ.ok ef hef).2.1))
      have hp' : (land I s (I.cls z.ac) j f k').2.Perm (ph.set z.rw (arrP I (rwAt s j) f, (I.cls z.ac : Int))) :=
        (sortRw_perm _).trans (set_perm_of_perm hp hj hρ (by rw [ej, phAt_eq hρ]) _)
      have hih := ih _ _ _ (stW_land I hD hW hk ha (r := j)) (remOk_set I hR hk) hp' (totRem_land_le I j f hk hf)
        (hσ.exchange I hD hl1 hl2 hk ha hfR hTL.2 hρ harrf)
      -- the schedule costs what the rest costs after the exchange, plus the delay of `f` in the slot of `z`
      have e : (some (-(cost I (l1 ++ z :: l2))) : EInt)
          = EInt.addI (some (-(cost I ((l1 ++ l2).map (ren f z.ac))))) (-(z.t - I.tgt f)) := by
        rw [← cost_exchange I hσ hfR, Int.neg_add]
        rfl
      rw [e]
      exact EInt.le_trans (EMax.addI_mono hih (Int.neg_le_neg (Int.sub_le_sub_right harrf _)))
        (bestRem_ge_move I hD hW hk ha (hW.2.1 ▸ hj) hl fuel hf)

theorem sched_nil {s : St} (ph : List Rw) (h0 : totRem s = 0) : Sched I s.1 ph [] :=
  ⟨List.nodup_nil, fun a => ⟨(fun h => by cases h), fun h => absurd h (not_remAc_of_zero I h0 a)⟩,
   (fun _ h => by cases h), List.Pairwise.nil⟩

/-- a landing of the model followed by a schedule of what is left.  The model separates a landing from the LAST landing
    of its runway; the separation from the earlier ones follows (triangle inequality, `arrP_skip`) -/
theorem Sched.cons (hD : InDom I) {rem : List Nat} {ph : List Rw} {c k' a ρ : Nat} {σ : List Ev} (hR : RemOk I rem)
    (hk : rem[c]? = some (k' + 1)) (ha : (I.nextTab c)[k' + 1]? = some a) (hρ : ρ < ph.length) (hρr : ρ < I.nbRunways)
    (hl : arrP I (phAt ph ρ) a ≤ I.lat a) (hrw : RwOk I (phAt ph ρ))
    (hσ : Sched I (rem.set c k') (ph.set ρ (arrP I (phAt ph ρ) a, (c : Int))) σ) :
    Sched I rem ph (⟨a, ρ, arrP I (phAt ph ρ) a⟩ :: σ) := by
  obtain ⟨han, hca⟩ := nextTab_succ I ha
  have hset := remAc_set I hk ha
  have haR : RemAc I rem a := by
    obtain ⟨f, hf1, hf2⟩ := first_exists I hR hk
    rw [ha] at hf1
    exact Option.some.inj hf1 ▸ hf2
  refine ⟨?_, ?_, ?_, ?_⟩
  · rw [List.map_cons]
    exact List.nodup_cons.mpr ⟨fun h => ((hset a).mp ((hσ.mem a).mp h)).2 rfl, hσ.nodup⟩
  · intro b
    rw [List.map_cons, List.mem_cons, hσ.mem b, hset b]
    constructor
    · rintro (rfl | h)
      · exact haR
      · exact h.1
    · intro h
      by_cases e : b = a
      · exact Or.inl e
      · exact Or.inr ⟨h, e⟩
  · intro e he
    rcases List.mem_cons.mp he with rfl | he
    · exact ⟨hρr, hl, Int.le_refl _⟩
    · obtain ⟨h1, h2, h3⟩ := hσ.ok e he
      refine ⟨h1, h2, ?_⟩
      by_cases hrw' : e.rw = ρ
      · rw [hrw', phAt_set_self hρ] at h3
        have hsk := arrP_skip I hD hrw han ((hσ.mem e.ac).mp (List.mem_map_of_mem he)).lt
        rw [hca] at hsk
        rw [hrw']
        exact Int.le_trans hsk h3
      · rw [phAt_set_ne (Ne.symm hrw')] at h3
        exact h3
  · refine List.pairwise_cons.mpr ⟨?_, hσ.sep⟩
    intro e he hrw'
    have h3 := (hσ.ok e he).2.2
    rw [← show ρ = e.rw from hrw', phAt_set_self hρ, arrP_known] at h3
    show arrP I (phAt ph ρ) a + I.sepAt (I.cls a) (I.cls e.ac) ≤ e.t
    rw [hca]
    exact Int.le_trans (Int.le_max_right _ _) h3

theorem best_sched (hD : InDom I) : ∀ (fuel : Nat) (s : St) (ph : List Rw) (v : Int),
    StW I s → RemOk I s.1 → s.2.Perm ph → totRem s ≤ fuel → bestRem I fuel s = some v →
    ∃ σ, Sched I s.1 ph σ ∧ cost I σ = -v := by
  intro fuel
  induction fuel with
  | zero =>
    intro s ph v hW hR hp hf hv
    have h0 : totRem s = 0 := Nat.le_zero.mp hf
    rw [bestRem_zero_tot I h0] at hv
    exact ⟨[], sched_nil I ph h0, by rw [← Option.some.inj hv, cost_nil]; rfl⟩
  | succ fuel ih =>
    intro s ph v hW hR hp hf hv
    by_cases h0 : totRem s = 0
    · rw [bestRem_zero_tot I h0] at hv
      exact ⟨[], sched_nil I ph h0, by rw [← Option.some.inj hv, cost_nil]; rfl⟩
    · obtain ⟨_, _, c, r, a, k', v', hk, ha, hr, hl, _, _, hb, ev⟩ :=
        bestRem_attained I hW.1 hW.2.1 (Nat.pos_of_ne_zero h0) hv
      -- the physical runway that is runway `r` of the state
      have hrs : r < s.2.length := hW.2.1.symm ▸ hr
      obtain ⟨ρ, hρ, eρ⟩ := List.mem_iff_getElem.mp (hp.mem_iff.mp (List.getElem_mem hrs))
      have erw : rwAt s r = phAt ph ρ := (rwAt_eq hrs).trans (eρ.symm.trans (phAt_eq hρ).symm)
      have hp' : (land I s c r a k').2.Perm (ph.set ρ (arrP I (rwAt s r) a, (c : Int))) :=
        (sortRw_perm _).trans (set_perm_of_perm hp hrs hρ eρ.symm _)
      obtain ⟨σ', hσ', hc'⟩ := ih _ _ v' (stW_land I hD hW hk ha (r := r)) (remOk_set I hR hk) hp'
        (totRem_land_le I r a hk hf) hb
      rw [erw] at hσ' hl ev
      refine ⟨⟨a, ρ, arrP I (phAt ph ρ) a⟩ :: σ',
        hσ'.cons I hD hR hk ha hρ (hW.2.1 ▸ hp.length_eq ▸ hρ) hl (erw ▸ hW.2.2 _ (rwAt_mem hrs)), ?_⟩
      rw [cost_cons, hc', ← ev]
      show (arrP I (phAt ph ρ) a - I.tgt a) + -v' = -(v' + -(arrP I (phAt ph ρ) a - I.tgt a))
      rw [Int.neg_add, Int.neg_neg, Int.add_comm]

theorem count_cls (hS : InDomS I) (c : Nat) : (I.classes.take I.nbAircraft).count c = (cl I c).length := by
  have e1 : I.classes.take I.nbAircraft = I.classes := List.take_of_length_le (by rw [hS.len]; exact Nat.le_refl _)
  have e2 : I.classes = (List.range I.nbAircraft).map I.cls := by
    apply List.ext_getElem
    · simp [hS.len]
    · intro i h1 h2
      simp [Inst.cls, List.getElem?_eq_getElem h1]
  have e3 : List.count c I.classes = List.count c ((List.range I.nbAircraft).map I.cls) := congrArg _ e2
  rw [e1, e3, List.count_eq_countP, List.countP_map, List.countP_eq_length_filter]
  rfl

theorem init_rem (hS : InDomS I) {c : Nat} (hc : c < I.nbClasses) : (initState I).1[c]? = some (cl I c).length := by
  simp [initState, hc, count_cls I hS]

theorem remOk_init (hS : InDomS I) : RemOk I (initState I).1 := by
  intro c k h
  have hc : c < I.nbClasses := by
    have := lt_of_getElem?_some h
    simpa [initState] using this
  rw [init_rem I hS hc] at h
  rw [← Option.some.inj h]
  exact Nat.le_refl _

theorem remAc_init (hD : InDom I) (hS : InDomS I) (a : Nat) : RemAc I (initState I).1 a ↔ a < I.nbAircraft := by
  constructor
  · exact fun h => h.lt
  · intro ha
    have hm : a ∈ (cl I (I.cls a)).reverse := List.mem_reverse.mpr ((mem_cl I).mpr ⟨ha, rfl⟩)
    obtain ⟨j, hj, e⟩ := List.mem_iff_getElem.mp hm
    refine ⟨j, _, init_rem I hS (hD.cls_lt a ha), by rw [List.length_reverse] at hj; exact hj, ?_⟩
    rw [List.getElem?_eq_getElem hj, e]

theorem phAt_replicate (n r : Nat) : phAt (List.replicate n ((0, -1) : Rw)) r = (0, -1) := by
  unfold phAt
  by_cases h : r < n
  · simp [h]
  · simp [List.getElem?_eq_none (by simpa using h : (List.replicate n ((0, -1) : Rw)).length ≤ r)]

theorem sched_of_funs {rem : List Nat} {ph : List Rw} {o : List Nat} (rw : Nat → Nat) (t : Nat → Int) (hnd : o.Nodup)
    (hmem : ∀ a, a ∈ o ↔ RemAc I rem a)
    (hok : ∀ a ∈ o, rw a < I.nbRunways ∧ t a ≤ I.lat a ∧ arrP I (phAt ph (rw a)) a ≤ t a)
    (hsep : o.Pairwise (fun a b => rw a = rw b → t a + I.sepAt (I.cls a) (I.cls b) ≤ t b)) :
    Sched I rem ph (o.map fun a => ⟨a, rw a, t a⟩) ∧
      cost I (o.map fun a => ⟨a, rw a, t a⟩) = (o.map fun a => t a - I.tgt a).sum := by
  have hacs : (o.map (fun a => (⟨a, rw a, t a⟩ : Ev))).map Ev.ac = o := by
    rw [List.map_map]
    exact List.map_id' _ |>.symm ▸ (List.map_congr_left (fun a _ => rfl))
  refine ⟨⟨hacs.symm ▸ hnd, fun a => hacs.symm ▸ hmem a, ?_, List.pairwise_map.mpr hsep⟩, ?_⟩
  · intro e he
    obtain ⟨a, ha, rfl⟩ := List.mem_map.mp he
    exact hok a ha
  · unfold cost
    rw [List.map_map]
    rfl

theorem find_ev : ∀ (σ : List Ev), (σ.map Ev.ac).Nodup → ∀ e ∈ σ, σ.find? (fun x => x.ac == e.ac) = some e := by
  intro σ
  induction σ with
  | nil => intro _ e he; cases he
  | cons x r ih =>
    intro hnd e he
    rw [List.map_cons, List.nodup_cons] at hnd
    rcases List.mem_cons.mp he with rfl | he
    · simp
    · have hne : x.ac ≠ e.ac := fun e' => hnd.1 (e' ▸ List.mem_map_of_mem he)
      rw [List.find?_cons]
      have : (x.ac == e.ac) = false := by simpa using hne
      rw [this]
      exact ih hnd.2 e he

def rwOf (σ : List Ev) (a : Nat) : Nat := ((σ.find? (fun x => x.ac == a)).map Ev.rw).getD 0
def tOf (σ : List Ev) (a : Nat) : Int := ((σ.find? (fun x => x.ac == a)).map Ev.t).getD 0

theorem rwOf_ac {σ : List Ev} (hnd : (σ.map Ev.ac).Nodup) {e : Ev} (he : e ∈ σ) : rwOf σ e.ac = e.rw := by
  unfold rwOf
  rw [find_ev σ hnd e he]
  rfl

theorem tOf_ac {σ : List Ev} (hnd : (σ.map Ev.ac).Nodup) {e : Ev} (he : e ∈ σ) : tOf σ e.ac = e.t := by
  unfold tOf
  rw [find_ev σ hnd e he]
  rfl

theorem Sched.funs {rem : List Nat} {ph : List Rw} {σ : List Ev} (h : Sched I rem ph σ) :
    (∀ a ∈ σ.map Ev.ac, rwOf σ a < I.nbRunways ∧ I.tgt a ≤ tOf σ a ∧ tOf σ a ≤ I.lat a) ∧
      (σ.map Ev.ac).Pairwise (fun a b => rwOf σ a = rwOf σ b → tOf σ a + I.sepAt (I.cls a) (I.cls b) ≤ tOf σ b) ∧
      ((σ.map Ev.ac).map (fun a => tOf σ a - I.tgt a)).sum = cost I σ := by
  refine ⟨?_, ?_, ?_⟩
  · intro a ha
    obtain ⟨e, he, rfl⟩ := List.mem_map.mp ha
    rw [rwOf_ac h.nodup he, tOf_ac h.nodup he]
    obtain ⟨h1, h2, h3⟩ := h.ok e he
    exact ⟨h1, Int.le_trans (tgt_le_arrP I _ _) h3, h2⟩
  · refine List.pairwise_map.mpr (List.Pairwise.imp_of_mem ?_ h.sep)
    intro a b ha hb hab
    rw [rwOf_ac h.nodup ha, rwOf_ac h.nodup hb, tOf_ac h.nodup ha, tOf_ac h.nodup hb]
    exact hab
  · unfold cost
    rw [List.map_map]
    congr 1
    apply List.map_congr_left
    intro e he
    show tOf σ e.ac - I.tgt e.ac = e.t - I.tgt e.ac
    rw [tOf_ac h.nodup he]

/-- the delays of the schedules the specification enumerates -/
def specValues : List Int :=
  (Alp.perms (List.range I.nbAircraft)).flatMap (fun o =>
    (Alp.assignments I.nbRunways I.nbAircraft).filterMap (fun rs => Alp.delay I.specInst (o.zip rs) []))

theorem specExt_nil : specExt I [] = Alp.minimum (specValues I) := by
  unfold specExt specValues
  have ef : (List.range I.nbAircraft).filter (fun _ => true) = List.range I.nbAircraft :=
    List.filter_eq_self.mpr (fun _ _ => rfl)
  simp only [List.any_nil, Bool.not_false, List.nil_append, ef, List.length_range]

theorem spec_eq : Alp.spec I.nbAircraft I.nbRunways I.specInst = (Alp.minimum (specValues I)).getD (-1) := rfl

#print axioms sched_le_best
#print axioms best_sched

end Ddo.Examples.AlpModel
