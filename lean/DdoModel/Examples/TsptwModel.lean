import DdoModel.Wf
import DdoModel.Examples.TsptwDp
/-! Statements about the Lean model of the shipped tsptw example (`TsptwDp.lean`): as `def … : Prop`, what the driver engine
    `exmodel`, family `tsptw`, evaluates pointwise (each one proved or refuted in `TsptwProofs*.lean`).

    The main point, proved here on a concrete 5-node instance of the domain (`potential_form_fails`): the relaxation of this
    example as shipped before the repair of D20 (`relaxationOld`) does NOT satisfy `MergeOk` in the potential (arc by arc) form
    of `Wf.lean` — `relax` was the identity, `merge` keeps the EARLIEST time of the merged states, and a later arrival that is
    merged with an earlier one and then absorbed by a wait is charged the wait twice.  With the repaired `relax` (`relaxation`)
    the potential form holds (`mergeOk`, `TsptwProofsMerge.lean`).  What the shipped relaxation did satisfy is the VALUE form
    (`merge_ok`, pointwise `mergeValOkAt`: the value of every node of a diagram of this model is minus the earliest time of its
    state — `ValueInv` —, and minus the earliest time plus the value-to-go does not decrease through a merge), on the states
    whose lists are sets (`merge_ok_valid`). -/
namespace Ddo.Examples.TsptwModel
open Ddo Ddo.Examples

theorem relax_id (T : Tab) (src u m : St) (d : Dec) (c : Int) : (relaxationOld T).relax src u m d c = c := rfl
theorem relax_eq (T : Tab) (src u m : St) (d : Dec) (c : Int) :
    (relaxation T).relax src u m d c = c + ((u.el.earliest : Int) - (m.el.earliest : Int)) := rfl

theorem relaxation_merge (T : Tab) (X : List St) : (relaxationOld T).merge X = merge X := rfl

theorem valueInv_root (T : Tab) : valueInv (problem T).init (problem T).initVal = true := by
  simp [valueInv, problem, initSt, El.earliest]

theorem cost?_nonpos (T : Tab) (s : St) (d : Dec) (c : Int) (h : cost? T s d = some c) : c ≤ 0 := by
  unfold cost? at h
  split at h
  · cases h
  · simp only [Option.bind_eq_bind, Option.bind_eq_some_iff, Option.pure_def, Option.some.injEq] at h
    obtain ⟨⟨ej, _⟩, _, travel, _, a, _, rfl⟩ := h
    omega

theorem cost_nonpos (T : Tab) (s : St) (d : Dec) : cost T s d ≤ 0 := by
  unfold cost
  cases h : cost? T s d with
  | none => simp
  | some c => simpa using cost?_nonpos T s d c h

theorem trans?_depth (T : Tab) (s s' : St) (d : Dec) (h : trans? T s d = some s') :
    s'.depth = s.depth + 1 ∧ s'.pos = .node d.val.toNat := by
  unfold trans? at h
  split at h
  · cases h
  · cases h1 : arrival? T s d.val.toNat with
    | none => simp [h1] at h
    | some el => simp [h1] at h; subst h; exact ⟨rfl, rfl⟩

theorem rankCmp_eq_of_depth (a b : St) (h : a.depth = b.depth) : rankCmp a b = .eq := by
  simp [rankCmp, h, compare, compareOfLessAndEq]

theorem domCmp_swap (va vb : Int) : (domCmp vb va).1 = (domCmp va vb).1.swap := by
  unfold domCmp
  rcases Int.lt_trichotomy va vb with h | h | h
  · have h1 : compare va vb = .lt := by simp [compare, compareOfLessAndEq, h]
    have h2 : compare vb va = .gt := by
      simp only [compare, compareOfLessAndEq]
      rw [if_neg (by omega), if_neg (by omega)]
    simp [h1, h2]
  · subst h; simp [compare, compareOfLessAndEq]
  · have h1 : compare vb va = .lt := by simp [compare, compareOfLessAndEq, h]
    have h2 : compare va vb = .gt := by
      simp only [compare, compareOfLessAndEq]
      rw [if_neg (by omega), if_neg (by omega)]
    simp [h1, h2]

theorem keyEq_refl (a : St) : keyEq a a = true := by simp [keyEq]

theorem bestRem_last (T : Tab) (s : St) (h : T.n ≤ s.depth) : bestRem T s = some 0 := by
  unfold bestRem
  have : T.n - s.depth = 0 := by omega
  rw [this]; rfl

/-- 5 nodes, all travel times `1` (hundredths: `100`), windows `[0,100] [5,100] [0,100] [10,100] [10,100]` -/
def exT : Tab :=
  tabOf 5 [0, 100, 100, 100, 100,  100, 0, 100, 100, 100,  100, 100, 0, 100, 100,  100, 100, 100, 0, 100,  100, 100, 100, 100, 0]
    [(0, 10000), (500, 10000), (0, 10000), (1000, 10000), (1000, 10000)]
/-- root → city 1 (arrival at 1, wait until 5): cost `-5` -/
def exU : St := { pos := .node 1, el := .fixed 50000, must := [2, 3, 4], maybe := none, depth := 1 }
/-- root → city 2 (arrival at 1): cost `-1` -/
def exW : St := { pos := .node 2, el := .fixed 10000, must := [1, 3, 4], maybe := none, depth := 1 }
def exM : St := { pos := .virt [1, 2], el := .fuzzy 10000 50000, must := [3, 4], maybe := some [1, 2], depth := 1 }

theorem ex_inDomain : inDomain exT = true := by decide +kernel
theorem exU_reached : trans? exT (initSt exT) ⟨0, 1⟩ = some exU ∧ cost? exT (initSt exT) ⟨0, 1⟩ = some (-50000) := by decide +kernel
theorem exW_reached : trans? exT (initSt exT) ⟨0, 2⟩ = some exW ∧ cost? exT (initSt exT) ⟨0, 2⟩ = some (-10000) := by decide +kernel
theorem ex_merged : merge [exU, exW] = exM := by decide +kernel
theorem ex_values : bestRem exT exU = some (-70000) ∧ bestRem exT exW = some (-110000) ∧ bestRem exT exM = some (-100000) := by decide +kernel

/-- **The potential form of `MergeOk` fails for the relaxation as shipped before the repair of D20** on an instance of the domain, on a state reached exactly:
    the arc `root → exU` costs `-5`, `exU` is worth `-7` more (tour `0 1 2 3 4 0`, ends at `12`), the merged state is worth
    `-10` (from time `1`, e.g. `2 1 3` and back, skipping city 4, ends at `11`: the wait at a city that opens at `10` is
    charged in full), and `relax` keeps the cost: `-5 - 7 > -5 - 10`.
    Consequence in the solver: the local bound of the root through this arc is `-15`, the best tour through `exU` is `-12`. -/
theorem potential_form_fails : mergeOkAt exT exU exM (-50000) ((relaxationOld exT).relax (initSt exT) exU exM ⟨0, 1⟩ (-50000)) = false := by
  rw [relax_id, mergeOkAt, ex_values.1, ex_values.2.2]; rfl
theorem potential_form_holds_repaired : mergeOkAt exT exU exM (-50000) ((relaxation exT).relax (initSt exT) exU exM ⟨0, 1⟩ (-50000)) = true := by
  rw [relax_eq, mergeOkAt, ex_values.1, ex_values.2.2]; rfl

theorem not_wf_mergeOk : ¬ MergeOk (relaxationOld exT) (fun _ s => bestRem exT s) := by
  intro h
  have h1 := h 1 [exU, exW] exU (initSt exT) ⟨0, 1⟩ (-50000) (-70000) (by simp) ex_values.1
  obtain ⟨h', e, le⟩ := h1
  rw [relaxation_merge, ex_merged] at e le
  have e' : bestRem exT exM = some h' := e
  rw [ex_values.2.2] at e'
  cases e'
  rw [relax_id] at le
  omega

theorem value_form_holds_there : mergeValOkAt exT exU exM = true ∧ mergeValOkAt exT exW exM = true := by decide +kernel

-- what the driver evaluates pointwise on every event of every case.  The proofs (`TsptwProofs*.lean`) are under `TabOk T`, a
-- table as the reader builds it (`tabOk_tabOf`), and about `Valid T s` = `validB` + "the lists are sets" (`Set256`); two of
-- the statements are false as stated over `validB` states, on states that are not reachable

def ExactShape (T : Tab) : Prop := ∀ k s v p, Reach (problem T) k s v p → exactShape s v = true

def ValueInv (T : Tab) : Prop := ∀ s d s' c, trans? T s d = some s' → cost? T s d = some c →
  -(s.el.earliest : Int) + c = -(s'.el.earliest : Int)

def bestRemL_eq_on_exact (T : Tab) : Prop := inDomain T = true → ∀ k s v p, Reach (problem T) k s v p → bestRemL T s = bestRem T s

/-- `RubOk` (clause `tsptw-rub`), potential = the legitimate value-to-go.  FALSE as stated (`rub_admissible_false`: a single
    position that is an optional city; `rub_admissible_late_false`: a state of the last layer that is late at the depot;
    neither is reachable); what holds: `rub_admissible_partial`, and `rub_hStar` for the potential `hStar` -/
def rub_admissible (T : Tab) : Prop := inDomain T = true → ∀ s, validB T s = true → rubScope s = true →
  ∀ r, rub? T s = some r → bestRemL T s ≤ r

/-- `MergeOk`, value form (clause `tsptw-merge`).  FALSE as stated over `validB` states (`merge_ok_false`: a list with a
    duplicate, not reachable); true on `Valid` states (`merge_ok_valid`) -/
def merge_ok (T : Tab) : Prop := inDomain T = true → ∀ X u, u ∈ X → (∀ s ∈ X, validB T s = true ∧ s.depth = u.depth) →
  mergeValOkAt T u (merge X) = true

/-- DP exactness (clause `tsptw-exact`): value of a prefix + value-to-go = the specification among the tours that extend it -/
def dp_exact (T : Tab) : Prop := inDomain T = true → ∀ k s v p, Reach (problem T) k s v p →
  (bestRem T s).addI v = specBestExt T (p.map (·.val))

def spec_eq_specBestExt (T : Tab) : Prop := 1 ≤ T.n →
  Tsptw.spec T.n (dI T) (eI T) (lI T) = ((specBestExt T []).map (fun v => -v)).getD (-1)

/-- the dominance rule (clause `tsptw-dominance`): between two exact nodes of one layer with the same key, the one with the
    smaller value has no better completion -/
def dominance_admissible (T : Tab) : Prop := inDomain T = true → ∀ k a va pa b vb pb,
  Reach (problem T) k a va pa → Reach (problem T) k b vb pb → keyEq a b = true → domOkAt T a va b vb = true

end Ddo.Examples.TsptwModel
