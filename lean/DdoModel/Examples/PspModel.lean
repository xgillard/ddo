import DdoModel.Examples.PspDp
import DdoModel.Examples.EMax
/-! psp example: the statements (`RubAdmissibleStmt`, `MergeOkStmt`, `DpExactStmt`) and first facts about the model `PspDp.lean`.
    The specification table the driver uses is `Psp.best` (`best_eq_table`); `PspRelax::merge` forgets `next` and never raises
    `time` / `prev_demands`; the stocking part of the rough bound as shipped never tightens it (`rub_ge_neg_mst`).  `MergeOkStmt`
    needs the triangle inequality on the changeover costs, which the reader does not ask for (finding D15:
    `mergeOk_fails_without_triangle`); exactness does not need it. -/
namespace Ddo.Examples.PspModel
open Ddo Ddo.Examples Ddo.Examples.Util

theorem best_eq_table (I : Psp.Inst) : Psp.best I = (specBestExt (specTable I) []).getD (-1) := by
  have hfilter : (specTable I).filter (fun e => extends_ e.1 []) = specTable I := by
    apply List.filter_eq_self.mpr
    intro e _
    simp [extends_]
  unfold specBestExt
  rw [hfilter]
  unfold Psp.best specTable
  simp only [List.map_filterMap]
  congr 3
  funext p
  by_cases hf : Psp.feasible I p = true <;> simp [hf]

variable (T : Tab)

theorem merge_next (X : List St) : (mergeStates T X).next = -1 := rfl
theorem relax_id (a b c : St) (d : Dec) (x : Int) : (relaxation T).relax a b c d x = x := rfl

theorem merge_time_le (X : List St) : (mergeStates T X).time ≤ T.H ∧ ∀ u ∈ X, (mergeStates T X).time ≤ u.time :=
  ⟨(EMax.foldl_natMin_spec St.time X T.H).1, (EMax.foldl_natMin_spec St.time X T.H).2.1⟩

theorem minZip_length : ∀ (acc y : List Int), (minZip acc y).length = acc.length := by
  intro acc
  induction acc with
  | nil => intro y; cases y <;> simp [minZip]
  | cons a r ih => intro y; cases y <;> simp [minZip, ih]

theorem minZip_getD : ∀ (acc y : List Int) (i : Nat) (dflt : Int),
    (minZip acc y).getD i dflt ≤ acc.getD i dflt ∧ (i < acc.length → i < y.length → (minZip acc y).getD i dflt ≤ y.getD i dflt)
  | [], [], _, _ => ⟨Int.le_refl _, fun h => absurd h (Nat.not_lt_zero _)⟩
  | [], _ :: _, _, _ => ⟨Int.le_refl _, fun h => absurd h (Nat.not_lt_zero _)⟩
  | _ :: _, [], _, _ => ⟨Int.le_refl _, fun _ h => absurd h (Nat.not_lt_zero _)⟩
  | a :: _, b :: _, 0, _ => ⟨Int.min_le_right b a, fun _ _ => Int.min_le_left b a⟩
  | _ :: r, _ :: bs, j + 1, dflt =>
    have h := minZip_getD r bs j dflt
    ⟨h.1, fun h1 h2 => h.2 (Nat.lt_of_succ_lt_succ h1) (Nat.lt_of_succ_lt_succ h2)⟩

theorem foldl_minZip (X : List St) : ∀ (acc : List Int) (i : Nat) (dflt : Int),
    (X.foldl (fun a s => minZip a s.pd) acc).length = acc.length ∧
    (X.foldl (fun a s => minZip a s.pd) acc).getD i dflt ≤ acc.getD i dflt ∧
    ∀ u ∈ X, i < acc.length → i < u.pd.length → (X.foldl (fun a s => minZip a s.pd) acc).getD i dflt ≤ u.pd.getD i dflt := by
  induction X with
  | nil => intro acc i dflt; exact ⟨rfl, Int.le_refl _, fun _ h => by cases h⟩
  | cons a r ih =>
    intro acc i dflt
    have h := ih (minZip acc a.pd) i dflt
    have hz := minZip_getD acc a.pd i dflt
    have hl := minZip_length acc a.pd
    simp only [List.foldl_cons]
    refine ⟨by omega, by omega, ?_⟩
    intro u hu h1 h2
    rcases List.mem_cons.mp hu with rfl | hu
    · have := hz.2 h1 h2; omega
    · exact h.2.2 u hu (by omega) h2

theorem merge_pd_le (X : List St) (i : Nat) (hi : i < T.n) :
    (mergeStates T X).pd.length = T.n ∧
    ∀ u ∈ X, i < u.pd.length → (mergeStates T X).pd.getD i (-1) ≤ u.pd.getD i (-1) := by
  have h := foldl_minZip X (List.replicate T.n isizeMax) i (-1)
  simp only [List.length_replicate] at h
  exact ⟨h.1, fun u hu hlen => h.2.2 u hu hi hlen⟩

def HeapOk (t : Int) (hp : List (Int × Int)) : Prop := ∀ e ∈ hp, 0 ≤ e.1 ∧ t ≤ e.2

theorem HeapOk.mono {t t' : Int} {hp : List (Int × Int)} (h : HeapOk t' hp) (ht : t ≤ t') : HeapOk t hp :=
  fun e he => ⟨(h e he).1, by have := (h e he).2; omega⟩

theorem drain_ok (hstk : ∀ i, 0 ≤ T.stk.getD i 0) (i : Nat) (time : Int) :
    ∀ (f : Nat) (d : Int) (hp : List (Int × Int)) (d' : Int) (hp' : List (Int × Int)),
      HeapOk time hp → drain T i time f d hp = some (d', hp') → HeapOk time hp' := by
  intro f
  induction f with
  | zero => intro d hp d' hp' h he; simp only [drain, Option.some.injEq, Prod.mk.injEq] at he; rw [← he.2]; exact h
  | succ f ih =>
    intro d hp d' hp' h he
    unfold drain at he
    split at he
    · next hge =>
      split at he
      · cases he
      · next d2 _ =>
        refine ih d2 _ d' hp' ?_ he
        intro e hmem
        rcases List.mem_cons.mp hmem with rfl | hmem
        · exact ⟨hstk i, hge⟩
        · exact h e hmem
    · simp only [Option.some.injEq, Prod.mk.injEq] at he; rw [← he.2]; exact h

theorem drainAll_ok (hstk : ∀ i, 0 ≤ T.stk.getD i 0) (time : Int) :
    ∀ (ds : List Int) (i : Nat) (hp : List (Int × Int)) (ds' : List Int) (hp' : List (Int × Int)),
      HeapOk time hp → drainAll T time i ds hp = some (ds', hp') → HeapOk time hp' := by
  intro ds
  induction ds with
  | nil => intro i hp ds' hp' h he; simp only [drainAll, Option.some.injEq, Prod.mk.injEq] at he; rw [← he.2]; exact h
  | cons d ds ih =>
    intro i hp ds' hp' h he
    unfold drainAll at he
    split at he
    · cases he
    · next d1 hp1 h1 =>
      have hk := drain_ok T hstk i time _ d hp d1 hp1 h h1
      split at he
      · cases he
      · next ds2 hp2 h2 =>
        simp only [Option.some.injEq, Prod.mk.injEq] at he
        rw [← he.2]
        exact ih (i + 1) hp1 ds2 hp2 hk h2

theorem popMax_ok (t : Int) (hp rest : List (Int × Int)) (m : Int × Int) (h : HeapOk t hp)
    (he : popMax hp = some (m, rest)) : (0 ≤ m.1 ∧ t ≤ m.2) ∧ HeapOk t rest := by
  cases hp with
  | nil => simp [popMax] at he
  | cons x r =>
    simp only [popMax, Option.some.injEq, Prod.mk.injEq] at he
    have hm : m ∈ x :: r := he.1 ▸ (SpecUtil.foldl_sel_list (R := fun _ _ => True) (fun _ => trivial) (fun _ _ => trivial)
      (fun _ _ => trivial) (fun _ _ => trivial)
      (fun m y => by by_cases hc : m.1 < y.1 ∨ (m.1 = y.1 ∧ m.2 < y.2) <;> simp [hc]) r x).1
    refine ⟨h m hm, ?_⟩
    intro e hmem
    rw [← he.2] at hmem
    exact h e (List.mem_of_mem_erase hmem)

theorem wwLoop_le (hstk : ∀ i, 0 ≤ T.stk.getD i 0) :
    ∀ (k : Nat) (pd : List Int) (hp : List (Int × Int)) (ww w : Int),
      HeapOk (k : Int) hp → wwLoop T k pd hp ww = some w → w ≤ ww := by
  intro k
  induction k with
  | zero => intro pd hp ww w _ he; simp only [wwLoop, Option.some.injEq] at he; omega
  | succ t ih =>
    intro pd hp ww w h he
    unfold wwLoop at he
    split at he
    · cases he
    · next pd1 hp1 h1 =>
      have hk : HeapOk (t : Int) hp1 :=
        drainAll_ok T hstk (t : Int) pd 0 hp pd1 hp1 (h.mono (by omega)) h1
      split at he
      · next c due hp2 h2 =>
        have hp := popMax_ok (t : Int) hp1 hp2 (c, due) hk h2
        have hle := ih pd1 hp2 _ w hp.2 he
        have hnn : 0 ≤ c * (due - (t : Int)) := Int.mul_nonneg hp.1.1 (by have := hp.1.2; simp only at this; omega)
        have heq : c * ((t : Int) - due) = -(c * (due - (t : Int))) := by
          rw [← Int.mul_neg, Int.neg_sub]
        omega
      · exact ih pd1 hp1 ww w hk he

/-- AS SHIPPED the bound is never below `-mst[members]`: the stocking estimate is added with the wrong sign (it can only
    weaken the bound; the bound stays admissible as long as `-mst[members]` is) -/
theorem rub_ge_neg_mst (hstk : ∀ i, 0 ≤ T.stk.getD i 0) (s : St) (r : Int) (hr : rub? T s = some r) :
    ∃ mask co, memberMask? s = some mask ∧ T.mst[mask]? = some co ∧ -co ≤ r := by
  unfold rub? at hr
  cases hm : memberMask? s with
  | none => rw [hm] at hr; cases hr
  | some mask =>
    rw [hm] at hr
    simp only [Option.bind_eq_bind, Option.bind_some] at hr
    cases hc : T.mst[mask]? with
    | none => rw [hc] at hr; cases hr
    | some co =>
      rw [hc] at hr
      simp only [Option.bind_some] at hr
      cases hw : wwLoop T s.time s.pd [] 0 with
      | none => rw [hw] at hr; cases hr
      | some ww =>
        rw [hw] at hr
        simp only [Option.bind_some, Option.pure_def, Option.some.injEq] at hr
        have := wwLoop_le T hstk s.time s.pd [] 0 ww (fun e he => by cases he) hw
        exact ⟨mask, co, rfl, hc, by omega⟩

/-- the instances of the format -/
structure InstOk (I : Psp.Inst) : Prop where
  qrows : I.q.length = I.n ∧ ∀ r ∈ I.q, r.length = I.n ∧ ∀ x ∈ r, 0 ≤ x
  hrow : I.h.length = I.n ∧ ∀ x ∈ I.h, 0 ≤ x
  drows : I.d.length = I.n ∧ ∀ r ∈ I.d, r.length = I.T ∧ ∀ x ∈ r, x = 0 ∨ x = 1

/-- the states a compilation can build -/
def StOk (I : Psp.Inst) (s : St) : Prop :=
  s.pd.length = I.n ∧ s.time ≤ I.T ∧ (s.next = -1 ∨ (0 ≤ s.next ∧ s.next < I.n)) ∧
  (∀ i, i < I.n → s.pd.getD i (-1) = -1 ∨
      (0 ≤ s.pd.getD i (-1) ∧ 0 < (I.d.getD i []).getD (s.pd.getD i (-1)).toNat 0)) ∧
  validB (tabOf I) s = true

def RubAdmissibleStmt (I : Psp.Inst) : Prop :=
  InstOk I → ∀ s r, StOk I s → rub? (tabOf I) s = some r → bestRem (tabOf I) s ≤ (some r : EInt)

/-- without the triangle inequality the statement is false (the driver's `psp-merge-no-triangle`) -/
def MergeOkStmt (I : Psp.Inst) : Prop :=
  InstOk I → triangleB (tabOf I) = true →
  ∀ (X : List St) (u : St) (h : Int), u ∈ X → (∀ w ∈ X, StOk I w ∧ w.time = u.time) → bestRem (tabOf I) u = some h →
    ∃ h', bestRem (tabOf I) (mergeStates (tabOf I) X) = some h' ∧ h ≤ h'

def DpExactStmt (I : Psp.Inst) : Prop :=
  InstOk I → bestRem (tabOf I) (initSt (tabOf I)) = (specBestExt (specTable I) []).map (fun c => -c)

end Ddo.Examples.PspModel
