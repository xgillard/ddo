import DdoModel.Examples.TsptwProofsStep
/-! The value-to-go of the tsptw model as a TOTAL recursion `vG`, generic in the distance `md s j` charged for the leg from the
    (possibly several) positions of `s` to the city `j`:
    * `md = minD` (the model's `min_distance_to`): `vG` is the model's own value-to-go on valid states (`brG_eq_vG`);
    * `md = mdS`: the leg into a city `j ≥ 1` is charged the distance from a position OTHER than `j` (a merged state one of
      whose possible positions is also an optional city can "move" to it at no cost in the model; no tour does that).  This is
      the potential `hStar`, for which the rough upper bound is admissible on the states the solver builds, merged ones
      included (`rub_hStar`: valid, each city can be entered from another position — `Alt` —, in time at the depot on the last
      layer); it is the model's value-to-go on the states none of whose positions is a city still to visit
      (`hStar_eq_bestRemL`, `TsptwProofsWf.lean`). -/
namespace Ddo.Examples.TsptwModel
open Ddo Ddo.Examples

def arrG (T : Tab) (md : St → Nat → Nat) (s : St) (j : Nat) : Nat := max (s.el.earliest + md s j) (eN T j)
def Alt (s : St) : Prop := ∀ j, j ∈ s.must ∨ j ∈ mb s → ∃ p ∈ posSet s.pos, p ≠ j
def Clean (s : St) : Prop := ∀ p ∈ posSet s.pos, p ∉ s.must ∧ p ∉ mb s

theorem clean_succ {T : Tab} {s : St} (hV : Valid T s) (j : Nat) (el : El) : Clean (succSt s j el) := by
  intro p hp
  have : p = j := by simpa [succSt, posSet] using hp
  subst this
  rw [mb_succSt]
  exact ⟨fun h => (hV.must_nd.mem_erase_iff.mp h).1 rfl, fun h => (hV.maybe_nd.mem_erase_iff.mp h).1 rfl⟩

theorem alt_of_clean {s : St} (hp : posSet s.pos ≠ []) (h : Clean s) : Alt s := by
  intro j hj
  obtain ⟨p, hp⟩ := List.exists_mem_of_ne_nil _ hp
  refine ⟨p, hp, ?_⟩
  rintro rfl
  rcases hj with hj | hj
  · exact (h p hp).1 hj
  · exact (h p hp).2 hj

theorem alt_succ {T : Tab} {s : St} (hV : Valid T s) (j : Nat) (el : El) : Alt (succSt s j el) :=
  alt_of_clean (by simp [succSt, posSet]) (clean_succ hV j el)

theorem clean_init {T : Tab} (hT : TabOk T) : Clean (initSt T) := by
  intro p hp
  have : p = 0 := by simpa [initSt, posSet] using hp
  subst this
  refine ⟨fun h => ?_, fun h => by simp [mb, initSt] at h⟩
  have := ((valid_init hT).must_rng 0 h).1
  omega

theorem InDomG.last {T : Tab} {md : St → Nat → Nat} {s : St} (hn : 1 ≤ T.n) {j : Nat} (h : InDomG T md s j)
    (hl : s.depth + 1 = T.n) : j = 0 := by
  rcases h.2 with ⟨_, h0⟩ | ⟨hne, _⟩
  · exact h0
  · omega

theorem arrG_small {T : Tab} (hT : TabOk T) {md : St → Nat → Nat} {s : St} {j : Nat} (hjn : j < T.n)
    (hr : reachG T md s j = true) : arrG T md s j < BND := by
  have := lN_small hT hjn
  have := eN_small hT hjn
  simp only [reachG, decide_eq_true_eq] at hr
  unfold arrG
  omega

def vG (T : Tab) (md : St → Nat → Nat) (term : St → EInt) : Nat → St → EInt
  | 0, s => term s
  | fuel + 1, s =>
    if s.depth ≥ T.n then term s else
    (domG T md s).foldl (fun acc j => EInt.max acc
      ((vG T md term fuel (succSt s j (.fixed (arrG T md s j)))).addI ((s.el.earliest : Int) - (arrG T md s j : Nat)))) none

theorem reachG_iff {T : Tab} {md : St → Nat → Nat} {s : St} {j : Nat} :
    reachG T md s j = true ↔ s.el.earliest + md s j ≤ lN T j := decide_eq_true_iff

theorem InDomG.sim {T : Tab} {md1 md2 : St → Nat → Nat} {m u : St} (h : Sim m u)
    (hmd : ∀ i, InDomG T md2 u i → md1 m i ≤ md2 u i) {j : Nat} (hj : InDomG T md2 u j) : InDomG T md1 m j := by
  have hr : ∀ i, InDomG T md2 u i → reachG T md1 m i = true := fun i hi => by
    have := hmd i hi
    have := h.e
    have := reachG_iff.mp hi.1
    rw [reachG_iff]
    omega
  refine ⟨hr j hj, ?_⟩
  rcases hj.2 with ⟨h1, h2⟩ | ⟨h1, h2, h3⟩
  · exact Or.inl ⟨by rw [h.depth]; exact h1, h2⟩
  · exact Or.inr ⟨by rw [h.depth]; exact h1,
      fun i hi => hr i ⟨h2 i (h.must i hi), Or.inr ⟨h1, h2, Or.inl (h.must i hi)⟩⟩, h.cover j h3⟩

theorem InDomG.mono {T : Tab} {md md' : St → Nat → Nat} {s : St} (h : ∀ i, md' s i ≤ md s i) {j : Nat}
    (hj : InDomG T md s j) : InDomG T md' s j := hj.sim (Sim.refl s) (fun i _ => h i)

theorem vG_done {T : Tab} {md : St → Nat → Nat} {term : St → EInt} (f : Nat) {s : St} (hd : T.n ≤ s.depth) :
    vG T md term f s = term s := by
  cases f with
  | zero => rfl
  | succ f => simp only [vG]; rw [if_pos hd]

theorem vG_ge {T : Tab} {md : St → Nat → Nat} {term : St → EInt} {f : Nat} {s : St} (hd : s.depth < T.n) {j : Nat}
    (hj : InDomG T md s j) :
    (vG T md term f (succSt s j (.fixed (arrG T md s j)))).addI ((s.el.earliest : Int) - (arrG T md s j : Nat))
      ≤ vG T md term (f + 1) s := by
  rw [vG, if_neg (by omega)]
  exact (EMax.foldl_max_spec (fun j => (vG T md term f (succSt s j (.fixed (arrG T md s j)))).addI
    ((s.el.earliest : Int) - (arrG T md s j : Nat))) (domG T md s) none).2.1 j ((mem_domG_iff T md s j).mpr hj)

theorem vG_att {T : Tab} {md : St → Nat → Nat} {term : St → EInt} {f : Nat} {s : St} (hd : s.depth < T.n) {h : Int}
    (hh : vG T md term (f + 1) s = some h) :
    ∃ j, InDomG T md s j ∧ ∃ h', vG T md term f (succSt s j (.fixed (arrG T md s j))) = some h' ∧
      h = h' + ((s.el.earliest : Int) - (arrG T md s j : Nat)) := by
  simp only [vG] at hh
  rw [if_neg (by omega)] at hh
  obtain ⟨j, hj, h', e, rfl⟩ := EMax.foldl_max_addI_att (fun j => vG T md term f (succSt s j (.fixed (arrG T md s j))))
    (fun j => (s.el.earliest : Int) - (arrG T md s j : Nat)) _ hh
  exact ⟨j, (mem_domG_iff T md s j).mp hj, h', e, rfl⟩

/-- simulation with two leg distances: those of `m` (`md1`) need to be at most those of `u` (`md2`) only on the states that
    satisfy `I` (for `m`) and `J` (for `u`), invariants that hold of every successor (`Clean`, `Alt`) -/
theorem simG_le {T : Tab} (hT : TabOk T) (md1 md2 : St → Nat → Nat) (term : St → EInt) (I J : St → Prop)
    (hterm : ∀ m u, Sim m u → (term u).addI (-(u.el.earliest : Int)) ≤ (term m).addI (-(m.el.earliest : Int)))
    (hI : ∀ s j el, Valid T s → I (succSt s j el)) (hJ : ∀ s j el, Valid T s → J (succSt s j el))
    (hmd : ∀ m u j, Sim m u → Valid T m → Valid T u → I m → J u → InDomG T md2 u j → md1 m j ≤ md2 u j) :
    ∀ fuel m u, Sim m u → Valid T m → Valid T u → I m → J u →
      (vG T md2 term fuel u).addI (-(u.el.earliest : Int)) ≤ (vG T md1 term fuel m).addI (-(m.el.earliest : Int)) := by
  intro fuel
  induction fuel with
  | zero => intro m u h _ _ _ _; exact hterm m u h
  | succ n ih =>
    intro m u h hm hu hIm hJu
    by_cases hd : u.depth < T.n
    · cases hvu : vG T md2 term (n + 1) u with
      | none => exact EInt.none_le _
      | some g =>
        -- the best city `j` of `u` is in the domain of `m`, is entered no later, and leads to states in simulation
        obtain ⟨j, hj, g', hv', rfl⟩ := vG_att hd hvu
        have hjn := hj.lt hu hT.n_pos
        have hjm : InDomG T md1 m j := hj.sim h (fun i hi => hmd m u i h hm hu hIm hJu hi)
        have hae : arrG T md1 m j ≤ arrG T md2 u j := by
          have := h.e
          have := hmd m u j h hm hu hIm hJu hj
          unfold arrG; omega
        have hdm : m.depth < T.n := by rw [h.depth]; exact hd
        have key := ih _ _ (sim_succ h hm hu j (em := .fixed (arrG T md1 m j)) (eu := .fixed (arrG T md2 u j)) hae)
          (valid_succ' hm hdm hjn (hjm.last hT.n_pos) (arrG_small hT hjn hjm.1) (arrG_small hT hjn hjm.1))
          (valid_succ' hu hd hjn (hj.last hT.n_pos) (arrG_small hT hjn hj.1) (arrG_small hT hjn hj.1))
          (hI _ _ _ hm) (hJ _ _ _ hu)
        obtain ⟨q, hq, hle⟩ := EMax.of_addI_le key hv'
        have hle : g' + -((arrG T md2 u j : Nat) : Int) ≤ q + -((arrG T md1 m j : Nat) : Int) := hle
        have hge := vG_ge (term := term) (f := n) hdm hjm
        rw [hq] at hge
        obtain ⟨q', hvm, hge⟩ := EMax.of_some_le (a := q + ((m.el.earliest : Int) - (arrG T md1 m j : Nat))) hge
        rw [hvm]
        show g' + ((u.el.earliest : Int) - (arrG T md2 u j : Nat)) + -(u.el.earliest : Int) ≤ q' + -(m.el.earliest : Int)
        omega
    · rw [vG_done _ (by omega), vG_done _ (by rw [h.depth]; omega)]
      exact hterm m u h

/-- the distance to `j` from the nearest position other than `j` (from `j` itself when there is no other) -/
def minD' (T : Tab) (s : St) (j : Nat) : Nat :=
  if ((posSet s.pos).filter (· != j)).isEmpty then minD T s j
  else (minNat (((posSet s.pos).filter (· != j)).map (distOf T.d · j))).getD 0
/-- the leg distance of the potential: the model's for the return to the depot, from another position into a city -/
def mdS (T : Tab) (s : St) (j : Nat) : Nat := if j = 0 then minD T s j else minD' T s j

theorem minD'_spec {T : Tab} {s : St} (hp : posSet s.pos ≠ []) (j : Nat) :
    (∃ p ∈ posSet s.pos, minD' T s j = distOf T.d p j) ∧ (∀ p ∈ posSet s.pos, p ≠ j → minD' T s j ≤ distOf T.d p j) ∧
    minD T s j ≤ minD' T s j ∧ ((∃ p ∈ posSet s.pos, p ≠ j) → ∃ p ∈ posSet s.pos, p ≠ j ∧ minD' T s j = distOf T.d p j) := by
  unfold minD'
  by_cases hc : ((posSet s.pos).filter (· != j)).isEmpty = true
  · simp only [hc, if_true]
    have hall : ∀ p ∈ posSet s.pos, p = j := by
      intro p hp
      have := List.isEmpty_iff.mp hc
      have h' : p ∉ (posSet s.pos).filter (· != j) := by rw [this]; simp
      simpa [hp] using h'
    refine ⟨(minD_spec hp j).1, fun p hp hne => absurd (hall p hp) hne, Nat.le_refl _, ?_⟩
    rintro ⟨p, hp, hne⟩; exact absurd (hall p hp) hne
  · simp only [hc]
    have hne : ((posSet s.pos).filter (· != j)).map (distOf T.d · j) ≠ [] := by
      intro h; apply hc; simpa using h
    obtain ⟨m, hm, h1, h2⟩ := minNat_spec _ hne
    simp only [hm, Option.getD_some]
    obtain ⟨p, hp1, hp2⟩ := List.mem_map.mp h1
    have hp1' := List.mem_filter.mp hp1
    have hpj : p ≠ j := by simpa using hp1'.2
    refine ⟨⟨p, hp1'.1, hp2.symm⟩, ?_, ?_, fun _ => ⟨p, hp1'.1, hpj, hp2.symm⟩⟩
    · intro q hq hqj
      exact h2 _ (List.mem_map.mpr ⟨q, List.mem_filter.mpr ⟨hq, by simpa using hqj⟩, rfl⟩)
    · rw [← hp2]; exact (minD_spec hp j).2 p hp1'.1

theorem minD_le_mdS {T : Tab} {s : St} (hp : posSet s.pos ≠ []) (j : Nat) : minD T s j ≤ mdS T s j := by
  unfold mdS
  split
  · exact Nat.le_refl _
  · exact (minD'_spec hp j).2.2.1

theorem mdS_small {T : Tab} (hT : TabOk T) {s : St} (hp : posSet s.pos ≠ []) (j : Nat) : mdS T s j < BND := by
  unfold mdS
  split
  · exact minD_small hT hp j
  · obtain ⟨⟨p, _, h⟩, _⟩ := minD'_spec (T := T) hp j
    rw [h]; exact hT.d_small _ _

theorem mdS_eq_of_not_pos {T : Tab} {s : St} {j : Nat} (h : j ∉ posSet s.pos) : mdS T s j = minD T s j := by
  unfold mdS
  split
  · rfl
  · unfold minD'
    have : (posSet s.pos).filter (· != j) = posSet s.pos := by
      apply List.filter_eq_self.mpr
      intro p hp
      have : p ≠ j := fun e => h (e ▸ hp)
      simpa using this
    rw [this]
    split
    · rfl
    · rfl

theorem mdS_anti {T : Tab} {m u : St} (h : Sim m u) (hm : posSet m.pos ≠ []) (hu : posSet u.pos ≠ []) {j : Nat}
    (hj : j = 0 ∨ ∃ p ∈ posSet u.pos, p ≠ j) : mdS T m j ≤ mdS T u j := by
  unfold mdS
  by_cases h0 : j = 0
  · simp only [h0, if_true]; exact minD_anti h hm hu 0
  · simp only [h0, if_false]
    rcases hj with hj | hj
    · exact absurd hj h0
    · obtain ⟨p, hp, hpj, e⟩ := (minD'_spec (T := T) hu j).2.2.2 hj
      rw [e]
      exact (minD'_spec hm j).2.1 p (h.pos p hp) hpj

def hStar (T : Tab) (s : St) : EInt := vG T (mdS T) termL (T.n - s.depth) s

theorem termL_sim (m u : St) (h : Sim m u) :
    (termL u).addI (-(u.el.earliest : Int)) ≤ (termL m).addI (-(m.el.earliest : Int)) := by
  unfold termL
  by_cases hu : u.must.isEmpty = true
  · have hm : m.must.isEmpty = true := by
      rw [List.isEmpty_iff] at hu ⊢
      apply List.eq_nil_iff_forall_not_mem.mpr
      intro i hi
      have := h.must i hi
      rw [hu] at this; cases this
    have := h.e
    simp only [hu, hm, if_true, EInt.addI, Option.map_some, EInt.some_le_some]
    omega
  · simp only [hu]; exact EInt.none_le _

theorem termAny_sim (m u : St) (h : Sim m u) :
    (termAny u).addI (-(u.el.earliest : Int)) ≤ (termAny m).addI (-(m.el.earliest : Int)) := by
  have := h.e
  simp only [termAny, EInt.addI, Option.map_some, EInt.some_le_some]
  omega

section
variable {T : Tab} (hT : TabOk T)
include hT

theorem sim_vG (term : St → EInt)
    (hterm : ∀ m u, Sim m u → (term u).addI (-(u.el.earliest : Int)) ≤ (term m).addI (-(m.el.earliest : Int)))
    (md : St → Nat → Nat) (hmd : ∀ m u j, Sim m u → Valid T m → Valid T u → md m j ≤ md u j)
    (fuel : Nat) {m u : St} (h : Sim m u) (hm : Valid T m) (hu : Valid T u) :
    (vG T md term fuel u).addI (-(u.el.earliest : Int)) ≤ (vG T md term fuel m).addI (-(m.el.earliest : Int)) :=
  simG_le hT md md term (fun _ => True) (fun _ => True) hterm (fun _ _ _ _ => trivial) (fun _ _ _ _ => trivial)
    (fun m u j h hm hu _ _ _ => hmd m u j h hm hu) fuel m u h hm hu trivial trivial

theorem vG_el_indep (term : St → EInt)
    (hterm : ∀ m u, Sim m u → (term u).addI (-(u.el.earliest : Int)) ≤ (term m).addI (-(m.el.earliest : Int)))
    (md : St → Nat → Nat) (hmd : ∀ m u j, Sim m u → Valid T m → Valid T u → md m j ≤ md u j)
    (fuel : Nat) {s1 s2 : St} (h12 : Sim s1 s2) (h21 : Sim s2 s1) (h1 : Valid T s1) (h2 : Valid T s2) :
    vG T md term fuel s1 = vG T md term fuel s2 := by
  have a := sim_vG hT term hterm md hmd fuel h12 h1 h2
  have b := sim_vG hT term hterm md hmd fuel h21 h2 h1
  rw [Nat.le_antisymm h12.e h21.e] at a b
  exact EMax.addI_cancel (EMax.le_antisymm b a)

theorem brG_eq_vG (term : St → EInt)
    (hterm : ∀ m u, Sim m u → (term u).addI (-(u.el.earliest : Int)) ≤ (term m).addI (-(m.el.earliest : Int))) :
    ∀ (fuel : Nat) (s : St), Valid T s → brG T term fuel s = vG T (minD T) term fuel s := by
  intro fuel
  induction fuel with
  | zero => intro s _; rfl
  | succ n ih =>
    intro s hV
    simp only [brG, vG]
    by_cases hd : s.depth ≥ T.n
    · simp only [hd, if_true]
    · simp only [hd, if_false]
      rw [domain_eq_domG hT hV, List.foldl_map]
      refine EMax.foldl_max_congr
        (fun j => (brG T term n (trans T s ⟨s.depth, Int.ofNat j⟩)).addI (cost T s ⟨s.depth, Int.ofNat j⟩))
        (fun j => (vG T (minD T) term n (succSt s j (.fixed (arrG T (minD T) s j)))).addI
          ((s.el.earliest : Int) - (arrG T (minD T) s j : Nat))) _ _ ?_
      intro j hj
      have hj := (mem_domG_iff T (minD T) s j).mp hj
      have hjn := hj.lt hV hT.n_pos
      obtain ⟨el, ht, he, he1, he2⟩ := trans_eq hT hV hjn hj.1 s.depth
      have hd' : s.depth < T.n := by omega
      have hv1 := valid_succ' hV hd' hjn (hj.last hT.n_pos) he1 he2
      have ha : arrG T (minD T) s j = el.earliest := by rw [he]; rfl
      have hv2 : Valid T (succSt s j (.fixed (arrG T (minD T) s j))) :=
        valid_succ' hV hd' hjn (hj.last hT.n_pos) (arrG_small hT hjn hj.1) (arrG_small hT hjn hj.1)
      show (brG T term n (trans T s ⟨s.depth, (j : Int)⟩)).addI (cost T s ⟨s.depth, (j : Int)⟩) = _
      rw [ht, cost_eq hT hV hjn, ih _ hv1]
      -- the model's successor carries the (possibly fuzzy) time of `arrival_time`, that of `vG` a fixed one: the earliest
      -- times agree, and only they matter
      rw [vG_el_indep hT term hterm (minD T) (fun m u j h hm hu => minD_anti h hm.pos_ne hu.pos_ne j) n
        (sim_succ (Sim.refl s) hV hV j (em := el) (eu := .fixed (arrG T (minD T) s j)) (by rw [ha]; exact Nat.le_refl _))
        (sim_succ (Sim.refl s) hV hV j (em := .fixed (arrG T (minD T) s j)) (eu := el) (by rw [ha]; exact Nat.le_refl _))
        hv1 hv2]
      rfl

theorem bestRemL_eq_vG {s : St} (hV : Valid T s) : bestRemL T s = vG T (minD T) termL (T.n - s.depth) s := by
  unfold bestRemL
  rw [bestRemLF_eq, brG_eq_vG hT termL termL_sim _ _ hV]

theorem bestRem_eq_vG {s : St} (hV : Valid T s) : bestRem T s = vG T (minD T) termAny (T.n - s.depth) s := by
  unfold bestRem
  rw [bestRemF_eq, brG_eq_vG hT termAny termAny_sim _ _ hV]

end

theorem foldl_max_congr {α : Type} (f g : α → EInt) : ∀ (l : List α) (acc : EInt), (∀ v ∈ l, f v = g v) →
    l.foldl (fun a v => EInt.max a (f v)) acc = l.foldl (fun a v => EInt.max a (g v)) acc :=
  EMax.foldl_max_congr f g

theorem EInt.le_antisymm {a b : EInt} (h1 : a ≤ b) (h2 : b ≤ a) : a = b := EMax.le_antisymm h1 h2

theorem EInt.addI_cancel {a b : EInt} {c : Int} (h : a.addI c = b.addI c) : a = b := EMax.addI_cancel h

theorem EInt.of_addI_le {a b : EInt} {x y h : Int} (hle : a.addI x ≤ b.addI y) (ha : a = some h) :
    ∃ h', b = some h' ∧ h + x ≤ h' + y := EMax.of_addI_le hle ha

theorem sim_le {T : Tab} (hT : TabOk T) (term : St → EInt)
    (hterm : ∀ m u, Sim m u → (term u).addI (-(u.el.earliest : Int)) ≤ (term m).addI (-(m.el.earliest : Int))) :
    ∀ fuel m u, Sim m u → Valid T m → Valid T u →
      (brG T term fuel u).addI (-(u.el.earliest : Int)) ≤ (brG T term fuel m).addI (-(m.el.earliest : Int)) := by
  intro fuel m u h hm hu
  rw [brG_eq_vG hT term hterm fuel u hu, brG_eq_vG hT term hterm fuel m hm]
  exact sim_vG hT term hterm _ (fun m u j h hm hu => minD_anti h hm.pos_ne hu.pos_ne j) fuel h hm hu

end Ddo.Examples.TsptwModel
