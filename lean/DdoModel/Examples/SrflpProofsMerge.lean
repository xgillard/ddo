import DdoModel.Examples.SrflpProofsStep
import DdoModel.Examples.InsSort
/-! `MergeOk` of the srflp example: the merged state simulates every merged state (`Sim`: it offers every department the
    merged state offers, as optional, with cuts that are not greater), the value-to-go is monotone along the simulation
    (`bestRemF_sim`), hence the merged state is worth at least as much as every merged state (`mergeOk_partial`: the statement
    `MergeOkStmt` for at most 64 departments and states whose sets are increasing lists). -/
namespace Ddo.Examples.SrflpModel
open Ddo Ddo.Examples Ddo.Examples.Util Ddo.SpecUtil
variable (T : Tab)

theorem sortInts_map (B : List Nat) (f : Nat → Int) :
    sortInts (B.map f) = (B.mergeSort (fun a b => decide (f a ≤ f b))).map f := by
  unfold sortInts
  rw [List.map_mergeSort]
  intros; rfl

theorem sorted_by {α : Type} (B : List α) (f : α → Int) :
    (B.mergeSort (fun a b => decide (f a ≤ f b))).Pairwise (fun a b => f a ≤ f b) := by
  have h := List.pairwise_mergeSort (le := fun a b => decide (f a ≤ f b))
    (by intro a b c h1 h2; simp only [decide_eq_true_eq] at *; omega)
    (by intro a b; simp only [Bool.or_eq_true, decide_eq_true_eq]; omega) B
  exact h.imp (fun h => by simpa using h)

private theorem take_sum_le (f : Nat → Int) (Bs A : List Nat) (hp : Bs.Pairwise (fun a b => f a ≤ f b)) (hnd : A.Nodup)
    (hsub : ∀ a ∈ A, a ∈ Bs) : ((Bs.take A.length).map f).sum ≤ (A.map f).sum := by
  obtain ⟨C, hC⟩ := InsSort.exists_perm_append hnd hsub
  have := InsSort.take_le (l := Bs.map f) (m := A.map f) (m' := C.map f) (List.pairwise_map.mpr hp)
    (by rw [← List.map_append]; exact hC.map f)
  rwa [List.length_map, ← List.map_take] at this

theorem leastSum_le_choice (A B : List Nat) (f g : Nat → Int) (hnd : A.Nodup) (hsub : ∀ a ∈ A, a ∈ B) (hfg : ∀ a ∈ A, f a ≤ g a) :
    leastSum A.length (B.map f) ≤ sum (A.map g) := by
  unfold leastSum
  rw [sum_eq, sum_eq, sortInts_map, ← List.map_take]
  have h1 := take_sum_le f (B.mergeSort (fun a b => decide (f a ≤ f b))) A (sorted_by B f) hnd
    (fun a ha => (List.mergeSort_perm B _).mem_iff.mpr (hsub a ha))
  have h2 := sum_map_le f g A hfg
  omega

theorem leastSum_attained (Y : List Nat) (g : Nat → Int) (r : Nat) (hnd : Y.Nodup) (hr : r ≤ Y.length) :
    ∃ Y' : List Nat, Y'.Nodup ∧ (∀ a ∈ Y', a ∈ Y) ∧ Y'.length = r ∧ sum (Y'.map g) = leastSum r (Y.map g) := by
  have hperm := List.mergeSort_perm Y (fun a b => decide (g a ≤ g b))
  refine ⟨(Y.mergeSort (fun a b => decide (g a ≤ g b))).take r, ?_, ?_, ?_, ?_⟩
  · exact List.Nodup.sublist (List.take_sublist _ _) (hperm.nodup_iff.mpr hnd)
  · intro a ha
    exact hperm.mem_iff.mp (List.mem_of_mem_take ha)
  · rw [List.length_take, hperm.length_eq]; omega
  · unfold leastSum
    rw [sortInts_map, List.map_take]

structure Sim (u m : St) : Prop where
  gu : Good T u
  gm : Good T m
  depth : m.depth = u.depth
  must : m.must = []
  sub : ∀ i, i ∈ u.must ∨ i ∈ mbOf u → i ∈ mbOf m
  cut : ∀ i, i ∈ u.must ∨ i ∈ mbOf u → cutAt m i ≤ cutAt u i

theorem sim_domain {u m : St} (h : Sim T u m) {i : Nat} (hi : (i : Int) ∈ domain T u) : (i : Int) ∈ domain T m := by
  obtain ⟨hin, hd⟩ := domain_lt T h.gu hi
  obtain ⟨j, hj, hmem⟩ := (mem_domain T h.gu _).mp hi
  have : i = j := by omega
  subst this
  refine (mem_domain T h.gm _).mpr ⟨i, rfl, Or.inr ⟨?_, h.sub i ?_⟩⟩
  · rw [h.must, h.depth]; simp only [List.length_nil]; omega
  · rcases hmem with h1 | ⟨_, h1⟩
    · exact Or.inl h1
    · exact Or.inr h1

theorem sim_cost (hI : Inst T) {u m : St} (h : Sim T u m) {i : Nat} (hi : (i : Int) ∈ domain T u) (x y : Nat) :
    cost T u ⟨x, (i : Int)⟩ ≤ cost T m ⟨y, (i : Int)⟩ := by
  have him := sim_domain T h hi
  obtain ⟨hin, hd⟩ := domain_lt T h.gu hi
  rw [cost_nat T hI h.gu hi, cost_nat T hI h.gm him]
  have hgs := good_step T hI h.gu hi
  have hfill := hgs.fill
  have hml := hgs.must_le
  rw [mbOf_stepSt] at hfill
  simp only [stepSt_must, stepSt_depth] at hfill hml
  rw [h.must, h.depth]
  simp only [List.filter_nil, List.map_nil, List.length_nil, Nat.sub_zero]
  obtain ⟨Y', hY'nd, hY'sub, hY'len, hY'sum⟩ := leastSum_attained ((mbOf u).filter (· ≠ i)) (cutAt u)
    (T.n - (u.depth + 1) - (u.must.filter (· ≠ i)).length) ((pairwise_lt_nodup h.gu.maybe_sorted).filter _) (by omega)
  have key := leastSum_le_choice (u.must.filter (· ≠ i) ++ Y') ((mbOf m).filter (· ≠ i)) (cutAt m) (cutAt u)
    (by
      rw [List.nodup_append]
      refine ⟨(pairwise_lt_nodup h.gu.must_sorted).filter _, hY'nd, ?_⟩
      intro a ha b hb e
      subst e
      exact h.gu.disj a (List.mem_filter.mp ha).1 (List.mem_filter.mp (hY'sub a hb)).1)
    (by
      intro a ha
      rcases List.mem_append.mp ha with ha | ha
      · have := List.mem_filter.mp ha
        exact List.mem_filter.mpr ⟨h.sub a (Or.inl this.1), this.2⟩
      · have := List.mem_filter.mp (hY'sub a ha)
        exact List.mem_filter.mpr ⟨h.sub a (Or.inr this.1), this.2⟩)
    (by
      intro a ha
      rcases List.mem_append.mp ha with ha | ha
      · exact h.cut a (Or.inl (List.mem_filter.mp ha).1)
      · exact h.cut a (Or.inr (List.mem_filter.mp (hY'sub a ha)).1))
  rw [List.length_append, hY'len, List.map_append, sum_eq, List.sum_append, ← sum_eq, ← sum_eq, hY'sum] at key
  have e : (u.must.filter (· ≠ i)).length + (T.n - (u.depth + 1) - (u.must.filter (· ≠ i)).length) = T.n - (u.depth + 1) := by omega
  rw [e] at key
  have hpos := hI.len_pos i hin
  apply Int.mul_le_mul_of_nonneg_right _ (Int.le_of_lt hpos)
  simp only [sum_nil]
  omega

theorem sim_step (hI : Inst T) {u m : St} (h : Sim T u m) {i : Nat} (hi : (i : Int) ∈ domain T u) :
    Sim T (stepSt T u i) (stepSt T m i) := by
  have him := sim_domain T h hi
  have hgu := good_step T hI h.gu hi
  have hgm := good_step T hI h.gm him
  refine ⟨hgu, hgm, by simp [h.depth], by simp [h.must], ?_, ?_⟩
  · intro j hj
    obtain ⟨h1, e⟩ := (mem_stepSt T).mp hj
    rw [mbOf_stepSt]
    exact mem_filter_ne.mpr ⟨h.sub j h1, e⟩
  · intro j hj
    have hj' := (mem_stepSt T).mp hj
    rw [cutAt_stepSt T h.gu hj, cutAt_stepSt T h.gm ((mem_stepSt T).mpr ⟨Or.inr (h.sub j hj'.1), hj'.2⟩)]
    have := h.cut j hj'.1
    omega

theorem bestRemF_sim (h64 : T.n ≤ 64) (hI : Inst T) : ∀ (fuel : Nat) (u m : St), Sim T u m → bestRemF T fuel u ≤ bestRemF T fuel m := by
  intro fuel
  induction fuel with
  | zero => intro u m _; exact EInt.le_refl _
  | succ fuel ih =>
    intro u m h
    by_cases hd : T.n ≤ u.depth
    · rw [bestRemF_terminal T _ u hd, bestRemF_terminal T _ m (by rw [h.depth]; exact hd)]
      exact EInt.le_refl _
    · rw [bestRemF_succ T fuel u (by omega), bestRemF_succ T fuel m (by rw [h.depth]; omega)]
      apply EMax.foldl_max_le _ _ _ (EInt.none_le _)
      intro v hv
      obtain ⟨i, rfl, _⟩ := (mem_domain T h.gu v).mp hv
      obtain ⟨hin, _⟩ := domain_lt T h.gu hv
      have hvm := sim_domain T h hv
      refine EInt.le_trans ?_ ((EMax.foldl_max_spec _ (domain T m) none).2.1 (i : Int) hvm)
      rw [trans_nat T u _ i (by rw [h.gu.cut_len]; exact hin) (by omega),
        trans_nat T m _ i (by rw [h.gm.cut_len]; exact hin) (by omega)]
      exact EMax.addI_mono (ih _ _ (sim_step T hI h hv)) (sim_cost T hI h hv _ _)

theorem insSet_sorted (x : Nat) : ∀ l : List Nat, l.Pairwise (· < ·) → (insSet x l).Pairwise (· < ·) := by
  intro l
  induction l with
  | nil => intro _; simp [insSet]
  | cons a r ih =>
    intro h
    obtain ⟨h1, h2⟩ := List.pairwise_cons.mp h
    unfold insSet
    by_cases c1 : x < a
    · rw [if_pos c1]
      refine List.pairwise_cons.mpr ⟨?_, h⟩
      intro y hy
      rcases List.mem_cons.mp hy with e | e
      · omega
      · have := h1 y e; omega
    · rw [if_neg c1]
      by_cases c2 : x = a
      · rw [if_pos c2]; exact h
      · rw [if_neg c2]
        refine List.pairwise_cons.mpr ⟨?_, ih h2⟩
        intro y hy
        rcases (mem_insSet x y r).mp hy with e | e
        · omega
        · exact h1 y e

theorem unionSet_sorted : ∀ (b a : List Nat), a.Pairwise (· < ·) → (unionSet a b).Pairwise (· < ·) := by
  intro b
  induction b with
  | nil => intro a h; exact h
  | cons x r ih =>
    intro a h
    have := ih (insSet x a) (insSet_sorted x a h)
    unfold unionSet at this ⊢
    rw [List.foldl_cons]
    exact this

theorem foldl_union_sorted (X : List St) : ∀ u0 : List Nat, u0.Pairwise (· < ·) →
    (X.foldl (fun u s => unionSet (unionSet u s.must) (s.maybe.getD [])) u0).Pairwise (· < ·) := by
  induction X with
  | nil => intro u0 h; exact h
  | cons a r ih =>
    intro u0 h
    rw [List.foldl_cons]
    exact ih _ (unionSet_sorted _ _ (unionSet_sorted _ _ h))

theorem mbOf_merge (X : List St) :
    mbOf (mergeStates T X) = X.foldl (fun u s => unionSet (unionSet u s.must) (s.maybe.getD [])) [] := by
  have hm : (X.foldl (fun m s => interSet m s.must) []) = [] := foldl_inter_nil X
  have hd : ∀ l : List Nat, diffSet l [] = l := by
    intro l; unfold diffSet; simp
  unfold mbOf mergeStates
  simp only [hm, hd]
  split
  · rename_i he
    rw [List.isEmpty_iff] at he
    rw [he]; rfl
  · rfl

theorem mem_mbOf_merge (X : List St) (y : Nat) : y ∈ mbOf (mergeStates T X) ↔ ∃ s ∈ X, y ∈ s.must ∨ y ∈ mbOf s :=
  merge_maybe_mem T X y

theorem merge_sorted (X : List St) : (mbOf (mergeStates T X)).Pairwise (· < ·) := by
  rw [mbOf_merge]
  exact foldl_union_sorted X [] List.Pairwise.nil

theorem merge_depth_eq (X : List St) (u : St) (hu : u ∈ X) (hd : ∀ w ∈ X, w.depth = u.depth) : (mergeStates T X).depth = u.depth := by
  have h1 := merge_depth_ge T X u hu
  have h2 : (mergeStates T X).depth ≤ u.depth := by
    show X.foldl (fun m i => max m i.depth) 0 ≤ u.depth
    rcases (EMax.foldl_natMax_spec St.depth X 0).2.2 with e | ⟨w, hw, e⟩ <;> rw [e]
    · exact Nat.zero_le _
    · exact Nat.le_of_eq (hd w hw)
  omega

theorem minCuts_spec (src : List Int) : ∀ (members : List Nat) (c : List Int),
    (minCuts src members c).length = c.length ∧
    (∀ j, (minCuts src members c).getD j 0 ≤ c.getD j 0) ∧
    (∀ j ∈ members, j < c.length → (minCuts src members c).getD j 0 ≤ src.getD j 0) ∧
    ((∀ i ∈ members, 0 ≤ src.getD i 0) → (∀ j, 0 ≤ c.getD j 0) → ∀ j, 0 ≤ (minCuts src members c).getD j 0) := by
  intro members
  induction members with
  | nil => intro c; exact ⟨rfl, fun _ => Int.le_refl _, fun j hj => (by cases hj), fun _ h => h⟩
  | cons i r ih =>
    intro c
    have e : minCuts src (i :: r) c = minCuts src r (c.set i (min (c.getD i 0) (src.getD i 0))) := by
      unfold minCuts; rw [List.foldl_cons]
    obtain ⟨h1, h2, h3, h4⟩ := ih (c.set i (min (c.getD i 0) (src.getD i 0)))
    have hset : ∀ j, (c.set i (min (c.getD i 0) (src.getD i 0))).getD j 0 =
        if i = j ∧ i < c.length then min (c.getD i 0) (src.getD i 0) else c.getD j 0 := by
      intro j
      simp only [List.getD_eq_getElem?_getD, List.getElem?_set]
      by_cases hij : i = j
      · subst hij
        by_cases hl : i < c.length
        · simp [hl]
        · simp [hl]
      · simp [hij]
    rw [e]
    refine ⟨by rw [h1, List.length_set], ?_, ?_, ?_⟩
    · intro j
      have := h2 j
      rw [hset j] at this
      split at this
      · rename_i hc; obtain ⟨rfl, _⟩ := hc; omega
      · exact this
    · intro j hj hjl
      rcases List.mem_cons.mp hj with hji | hjr
      · subst hji
        have := h2 j
        rw [hset j, if_pos ⟨rfl, hjl⟩] at this
        omega
      · exact h3 j hjr (by rw [List.length_set]; exact hjl)
    · intro hs hc
      apply h4 (fun k hk => hs k (List.mem_cons_of_mem _ hk))
      intro j
      rw [hset j]
      split
      · have := hs i List.mem_cons_self
        have := hc i
        omega
      · exact hc j

theorem foldl_cuts_spec : ∀ (X : List St) (c : List Int),
    (X.foldl (fun c s => minCuts s.cut (s.maybe.getD []) (minCuts s.cut s.must c)) c).length = c.length ∧
    (∀ j, (X.foldl (fun c s => minCuts s.cut (s.maybe.getD []) (minCuts s.cut s.must c)) c).getD j 0 ≤ c.getD j 0) ∧
    (∀ w ∈ X, ∀ j, j ∈ w.must ∨ j ∈ mbOf w → j < c.length →
      (X.foldl (fun c s => minCuts s.cut (s.maybe.getD []) (minCuts s.cut s.must c)) c).getD j 0 ≤ cutAt w j) ∧
    ((∀ w ∈ X, ∀ i, i ∈ w.must ∨ i ∈ mbOf w → 0 ≤ cutAt w i) → (∀ j, 0 ≤ c.getD j 0) →
      ∀ j, 0 ≤ (X.foldl (fun c s => minCuts s.cut (s.maybe.getD []) (minCuts s.cut s.must c)) c).getD j 0) := by
  intro X
  induction X with
  | nil => intro c; exact ⟨rfl, fun _ => Int.le_refl _, fun w hw => (by cases hw), fun _ h => h⟩
  | cons a r ih =>
    intro c
    rw [List.foldl_cons]
    obtain ⟨a1, a2, a3, a4⟩ := minCuts_spec a.cut a.must c
    obtain ⟨b1, b2, b3, b4⟩ := minCuts_spec a.cut (a.maybe.getD []) (minCuts a.cut a.must c)
    obtain ⟨h1, h2, h3, h4⟩ := ih (minCuts a.cut (a.maybe.getD []) (minCuts a.cut a.must c))
    refine ⟨by rw [h1, b1, a1], ?_, ?_, ?_⟩
    · intro j
      have := h2 j; have := b2 j; have := a2 j
      omega
    · intro w hw j hj hjl
      rcases List.mem_cons.mp hw with e | hw
      · subst e
        have := h2 j
        unfold cutAt
        rcases hj with hj | hj
        · have := a3 j hj hjl
          have := b2 j
          omega
        · have := b3 j hj (by rw [a1]; exact hjl)
          omega
      · exact h3 w hw j hj (by rw [b1, a1]; exact hjl)
    · intro hs hc
      apply h4 (fun w hw => hs w (List.mem_cons_of_mem _ hw))
      apply b4 (fun i hi => hs a List.mem_cons_self i (Or.inr hi))
      exact a4 (fun i hi => hs a List.mem_cons_self i (Or.inl hi)) hc

theorem merge_cut (X : List St) :
    (mergeStates T X).cut = X.foldl (fun c s => minCuts s.cut (s.maybe.getD []) (minCuts s.cut s.must c)) (List.replicate T.n isizeMax) := rfl

theorem good_merge_of_mem (X : List St) (u : St) (hu : u ∈ X) (hG : ∀ w ∈ X, Good T w) (hd : ∀ w ∈ X, w.depth = u.depth) :
    Good T (mergeStates T X) := by
  have hdep := merge_depth_eq T X u hu hd
  have hmust := merge_must_nil T X
  obtain ⟨c1, _, _, c4⟩ := foldl_cuts_spec X (List.replicate T.n isizeMax)
  have hsorted := merge_sorted T X
  have hGu := hG u hu
  refine ⟨(by rw [hdep]; exact hGu.depth_le), (by rw [merge_cut, c1, List.length_replicate]), (by rw [hmust]; exact List.Pairwise.nil),
    hsorted, ?_, ?_, (by rw [hmust]; intro i hi; cases hi), (by rw [hmust]; simp), ?_⟩
  · intro i hi
    rw [hmust] at hi
    rcases hi with hi | hi
    · cases hi
    · obtain ⟨w, hw, hiw⟩ := (mem_mbOf_merge T X i).mp hi
      exact (hG w hw).lt i hiw
  · intro i _
    unfold cutAt
    rw [merge_cut]
    apply c4 (fun w hw i hi => (hG w hw).cut_nonneg i hi)
    intro j
    simp only [List.getD_eq_getElem?_getD, List.getElem?_replicate]
    split <;> simp [isizeMax]
  · rw [hmust, hdep]
    have h1 := hGu.fill
    have h2 := List.Nodup.length_le_of_subset (l₁ := u.must ++ mbOf u) (l₂ := mbOf (mergeStates T X)) (by
        rw [List.nodup_append]
        refine ⟨pairwise_lt_nodup hGu.must_sorted, pairwise_lt_nodup hGu.maybe_sorted, ?_⟩
        intro a ha b hb e
        subst e
        exact hGu.disj a ha hb)
      (by
        intro a ha
        exact (mem_mbOf_merge T X a).mpr ⟨u, hu, List.mem_append.mp ha⟩)
    rw [List.length_append] at h2
    simp only [List.length_nil]
    omega

theorem good_merge (X : List St) (hne : X ≠ []) (d : Nat) (hG : ∀ w ∈ X, Good T w) (hd : ∀ w ∈ X, w.depth = d) :
    Good T (mergeStates T X) := by
  cases X with
  | nil => exact absurd rfl hne
  | cons u r =>
    exact good_merge_of_mem T (u :: r) u List.mem_cons_self hG
      (fun w hw => by rw [hd w hw, hd u List.mem_cons_self])

theorem sim_merge (X : List St) (u : St) (hu : u ∈ X) (hG : ∀ w ∈ X, Good T w) (hd : ∀ w ∈ X, w.depth = u.depth) :
    Sim T u (mergeStates T X) := by
  have hGm := good_merge_of_mem T X u hu hG hd
  obtain ⟨_, _, c3, _⟩ := foldl_cuts_spec X (List.replicate T.n isizeMax)
  refine ⟨hG u hu, hGm, merge_depth_eq T X u hu hd, merge_must_nil T X, ?_, ?_⟩
  · intro i hi
    exact (mem_mbOf_merge T X i).mpr ⟨u, hu, hi⟩
  · intro i hi
    have := c3 u hu i hi (by rw [List.length_replicate]; exact (hG u hu).lt i hi)
    rw [← merge_cut] at this
    exact this

theorem bestRem_merge_ge (h64 : T.n ≤ 64) (hI : Inst T) (X : List St) (u : St) (hu : u ∈ X) (hG : ∀ w ∈ X, Good T w)
    (hd : ∀ w ∈ X, w.depth = u.depth) : bestRem T u ≤ bestRem T (mergeStates T X) := by
  have hs := sim_merge T X u hu hG hd
  unfold bestRem
  rw [hs.depth]
  exact bestRemF_sim T h64 hI _ _ _ hs

/-- a state whose two sets are increasing lists (what `Set64` iteration yields) -/
def SetSt (s : St) : Prop := s.must.Pairwise (· < ·) ∧ (mbOf s).Pairwise (· < ·)

/-- `MergeOkStmt` for at most 64 departments (`Set64`) and states whose sets are increasing lists -/
theorem mergeOk_partial (h64 : T.n ≤ 64) (hT : InstOk T) (X : List St) (u : St) (h : Int) (hu : u ∈ X)
    (hX : ∀ w ∈ X, (StOk T w ∨ w.depth = T.n) ∧ w.depth = u.depth) (hS : ∀ w ∈ X, SetSt w)
    (hb : bestRem T u = some h) : ∃ h', bestRem T (mergeStates T X) = some h' ∧ h ≤ h' := by
  by_cases hd : T.n ≤ u.depth
  · rw [bestRem_terminal T u hd] at hb
    have hm := merge_depth_ge T X u hu
    refine ⟨0, bestRem_terminal T _ (by omega), ?_⟩
    have := Option.some.inj hb
    omega
  · have hG : ∀ w ∈ X, Good T w := by
      intro w hw
      obtain ⟨h1, h2⟩ := hX w hw
      rcases h1 with h1 | h1
      · exact good_of_stOk T h1 (hS w hw).1 (hS w hw).2
      · omega
    have hle := bestRem_merge_ge T h64 (inst_of_instOk T hT) X u hu hG (fun w hw => (hX w hw).2)
    rw [hb] at hle
    exact EMax.of_some_le hle

#print axioms bestRemF_sim
#print axioms good_merge
#print axioms sim_merge
#print axioms bestRem_merge_ge
#print axioms mergeOk_partial

end Ddo.Examples.SrflpModel
