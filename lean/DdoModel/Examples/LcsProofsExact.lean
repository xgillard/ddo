import DdoModel.Examples.LcsModel
import DdoModel.Examples.TourBase
import DdoModel.Examples.LcsProofsRub
/-! lcs example: the DP model is exact against the specification `Lcs.lean` (`dpExact`).  First the reader and the
    specification: `specBestExt` as a maximum over common subsequences (`specBestExt_eq`), the alphabet, ranks and sort by
    length of the reader, and the transfer of an optimum on the strings of the instance to the lines of the file
    (`spec_transfer`). -/
namespace Ddo.Examples.LcsModel

section
open Ddo Ddo.Examples Ddo.Examples.Util

def ComSub {α : Type} (ws : List (List α)) (c : List α) : Prop := ∀ w ∈ ws, c.Sublist w

theorem mem_commons (lines : List (List Int)) (c : List Int) (h : lines ≠ []) : c ∈ commons lines ↔ ComSub lines c := by
  cases lines with
  | nil => exact absurd rfl h
  | cons f o =>
    simp only [commons, List.mem_filter, SpecUtil.mem_sublists, List.all_eq_true, C16.lcs_isSubseq, ComSub, List.mem_cons,
      forall_eq_or_imp]

theorem specBestExt_eq (lines : List (List Int)) (hne : lines ≠ []) (pre : List Int) (M : Nat)
    (hatt : ∃ c : List Int, ComSub lines c ∧ pre <+: c ∧ c.length = M)
    (hmax : ∀ c : List Int, ComSub lines c → pre <+: c → c.length ≤ M) :
    specBestExt lines pre = some (M : Int) := by
  unfold specBestExt specOf
  refine SpecUtil.maxOf_eq_some.mpr ⟨?_, ?_⟩
  · obtain ⟨c, hc, hp, hl⟩ := hatt
    exact C16.mem_filterMap_ite.mpr ⟨c, (mem_commons lines c hne).mpr hc, List.isPrefixOf_iff_prefix.mpr hp, by rw [hl]⟩
  · intro y hy
    obtain ⟨c, hc, hp, rfl⟩ := C16.mem_filterMap_ite.mp hy
    exact Int.ofNat_le.mpr (hmax c ((mem_commons lines c hne).mp hc) (List.isPrefixOf_iff_prefix.mp hp))

theorem mem_foldl_insert {α : Type} {ins : α → List α → List α} (hins : ∀ x y l, y ∈ ins x l ↔ y = x ∨ y ∈ l)
    (xs acc : List α) (y : α) : y ∈ xs.foldl (fun acc x => ins x acc) acc ↔ y ∈ acc ∨ y ∈ xs := by
  induction xs generalizing acc with
  | nil => simp
  | cons x xs ih => rw [List.foldl_cons, ih, hins, List.mem_cons, or_assoc]; exact or_left_comm

theorem mem_insertSorted (x y : Int) (l : List Int) : y ∈ insertSorted x l ↔ y = x ∨ y ∈ l := by
  induction l with
  | nil => simp [insertSorted]
  | cons a r ih =>
    unfold insertSorted
    split
    · simp
    · split
      · next h => subst h; simp
      · simp only [List.mem_cons, ih]; exact or_left_comm

theorem pairwise_insertSorted (x : Int) (l : List Int) (h : l.Pairwise (· < ·)) :
    (insertSorted x l).Pairwise (· < ·) := by
  induction l with
  | nil => simp [insertSorted]
  | cons a r ih =>
    rw [List.pairwise_cons] at h
    unfold insertSorted
    split
    · next hxa =>
      rw [List.pairwise_cons]
      refine ⟨?_, List.pairwise_cons.mpr h⟩
      intro b hb
      rcases List.mem_cons.mp hb with rfl | hb
      · exact hxa
      · have := h.1 b hb; omega
    · split
      · exact List.pairwise_cons.mpr h
      · next h1 h2 =>
        rw [List.pairwise_cons]
        refine ⟨?_, ih h.2⟩
        intro b hb
        rcases (mem_insertSorted x b r).mp hb with rfl | hb
        · omega
        · exact h.1 b hb

theorem foldl_insertSorted (xs : List Int) (acc : List Int) (h : acc.Pairwise (· < ·)) :
    (xs.foldl (fun acc x => insertSorted x acc) acc).Pairwise (· < ·) := by
  induction xs generalizing acc with
  | nil => exact h
  | cons x xs ih => exact ih _ (pairwise_insertSorted x acc h)

theorem alphabetOf_pairwise (lines : List (List Int)) : (alphabetOf lines).Pairwise (· < ·) :=
  foldl_insertSorted lines.flatten [] List.Pairwise.nil

theorem mem_alphabetOf_iff (lines : List (List Int)) (x : Int) : x ∈ alphabetOf lines ↔ ∃ l ∈ lines, x ∈ l := by
  unfold alphabetOf
  rw [mem_foldl_insert mem_insertSorted]
  simp [List.mem_flatten]

theorem rankOf_getElem_of_pairwise (al : List Int) (hp : al.Pairwise (· < ·)) (i : Nat) (h : i < al.length) :
    rankOf al al[i] = i := by
  induction al generalizing i with
  | nil => simp at h
  | cons a r ih =>
    rw [List.pairwise_cons] at hp
    cases i with
    | zero => simp [rankOf, List.takeWhile]
    | succ i =>
      have hi : i < r.length := by simpa using h
      have hlt := hp.1 r[i] (List.getElem_mem hi)
      have hne : (a != r[i]) = true := by simp; omega
      have := ih hp.2 i hi
      simp only [rankOf] at this ⊢
      simp only [List.getElem_cons_succ, List.takeWhile_cons, hne, if_true, List.length_cons, this]

theorem rankOf_getElem (lines : List (List Int)) (i : Nat) (h : i < (alphabetOf lines).length) :
    rankOf (alphabetOf lines) (alphabetOf lines)[i] = i :=
  rankOf_getElem_of_pairwise _ (alphabetOf_pairwise lines) i h

theorem getElem_rankOf (al : List Int) (x : Int) (h : x ∈ al) : al[rankOf al x]? = some x := by
  induction al with
  | nil => cases h
  | cons a r ih =>
    by_cases hax : a = x
    · subst hax; simp [rankOf, List.takeWhile]
    · have hne : (a != x) = true := by simp [hax]
      have hr : x ∈ r := by
        rcases List.mem_cons.mp h with h | h
        · exact absurd h.symm hax
        · exact h
      have := ih hr
      simp only [rankOf] at this ⊢
      simp only [List.takeWhile_cons, hne, if_true, List.length_cons, List.getElem?_cons_succ, this]

theorem rankOf_lt (al : List Int) (x : Int) (h : x ∈ al) : rankOf al x < al.length := by
  have := getElem_rankOf al x h
  rw [List.getElem?_eq_some_iff] at this
  exact this.1

theorem mem_alphabetOf (lines : List (List Int)) (l : List Int) (hl : l ∈ lines) (x : Int) (hx : x ∈ l) :
    x ∈ alphabetOf lines := (mem_alphabetOf_iff lines x).mpr ⟨l, hl, hx⟩

theorem length_insertByLen (x : List Nat) (l : List (List Nat)) : (insertByLen x l).length = l.length + 1 := by
  induction l with
  | nil => rfl
  | cons a r ih => unfold insertByLen; split <;> simp [ih]

theorem mem_insertByLen (x y : List Nat) (l : List (List Nat)) : y ∈ insertByLen x l ↔ y = x ∨ y ∈ l := by
  induction l with
  | nil => simp [insertByLen]
  | cons a r ih =>
    unfold insertByLen
    split
    · simp
    · simp only [List.mem_cons, ih]; exact or_left_comm

theorem length_sortByLen (l : List (List Nat)) : (sortByLen l).length = l.length := by
  have : ∀ xs acc : List (List Nat), (xs.foldl (fun acc x => insertByLen x acc) acc).length = acc.length + xs.length := by
    intro xs
    induction xs with
    | nil => intro acc; rfl
    | cons x xs ih => intro acc; rw [List.foldl_cons, ih, length_insertByLen, List.length_cons]; omega
  unfold sortByLen; rw [this]; simp

theorem mem_sortByLen (l : List (List Nat)) (y : List Nat) : y ∈ sortByLen l ↔ y ∈ l := by
  unfold sortByLen; rw [mem_foldl_insert mem_insertByLen]; simp

theorem instOk_fields {k declared : Nat} {lines : List (List Int)} {J : Inst} (h : InstOk k declared lines J) :
    lines ≠ [] ∧ J.chars = alphabetOf lines ∧ J.nChars = declared ∧ (alphabetOf lines).length ≤ J.nChars ∧
    (∀ w : List Nat, w ∈ J.strings.take J.nStrings ↔ w ∈ lines.map (·.map (rankOf (alphabetOf lines)))) := by
  obtain ⟨hd, hr⟩ := h
  simp [inDomain] at hd
  obtain ⟨⟨⟨hk, hlen⟩, _⟩, hdecl⟩ := hd
  unfold readInst at hr
  split at hr
  · cases hr
  · simp only at hr
    split at hr
    · cases hr
    · split at hr
      · cases hr
      · cases hr
        refine ⟨?_, rfl, rfl, hdecl, ?_⟩
        · intro h0; subst h0; simp at hlen; omega
        · intro w
          simp only
          rw [List.take_of_length_le (by rw [length_sortByLen, List.length_map]; omega), mem_sortByLen]

theorem unrank_rankOf (al : List Int) (x : Int) (h : x ∈ al) : al[rankOf al x]?.getD 0 = x := by
  rw [getElem_rankOf al x h]; rfl

theorem map_unrank_map_rankOf (al : List Int) (c : List Int) (h : ∀ x ∈ c, x ∈ al) :
    (c.map (rankOf al)).map (fun r => al[r]?.getD 0) = c := by
  rw [List.map_map]
  have : c.map ((fun r => al[r]?.getD 0) ∘ rankOf al) = c.map id :=
    List.map_congr_left (fun x hx => unrank_rankOf al x (h x hx))
  rw [this, List.map_id]

theorem spec_transfer {k declared : Nat} {lines : List (List Int)} {J : Inst} (hJ : InstOk k declared lines J)
    (pre : List Int) (hpre : ∀ x ∈ pre, x ∈ alphabetOf lines) (M : Nat)
    (hatt : ∃ c' : List Nat, ComSub (J.strings.take J.nStrings) c' ∧ pre.map (rankOf (alphabetOf lines)) <+: c' ∧ c'.length = M)
    (hmax : ∀ c' : List Nat, ComSub (J.strings.take J.nStrings) c' → pre.map (rankOf (alphabetOf lines)) <+: c' → c'.length ≤ M) :
    specBestExt lines pre = some (M : Int) := by
  obtain ⟨hne, _, _, _, hmem⟩ := instOk_fields hJ
  apply specBestExt_eq lines hne pre M
  · obtain ⟨c', hc', hp, hl⟩ := hatt
    refine ⟨c'.map (fun r => (alphabetOf lines)[r]?.getD 0), ?_, ?_, ?_⟩
    · intro l hl
      have hs : c'.Sublist (l.map (rankOf (alphabetOf lines))) :=
        hc' _ ((hmem _).mpr (List.mem_map_of_mem hl))
      obtain ⟨c₁, hc₁, heq⟩ := List.sublist_map_iff.mp hs
      rw [heq, map_unrank_map_rankOf _ c₁ (fun x hx => mem_alphabetOf lines l hl x (hc₁.subset hx))]
      exact hc₁
    · have := hp.map (fun r => (alphabetOf lines)[r]?.getD 0)
      rwa [map_unrank_map_rankOf _ pre hpre] at this
    · rw [List.length_map]; exact hl
  · intro c hc hp
    have := hmax (c.map (rankOf (alphabetOf lines))) ?_ (hp.map _)
    · rwa [List.length_map] at this
    · intro w hw
      obtain ⟨l, hl, rfl⟩ := List.mem_map.mp ((hmem w).mp hw)
      exact (hc l hl).map _

#print axioms spec_transfer
end

section
open Ddo Ddo.Examples Ddo.Examples.Util

def valsOf (ds : List (Nat × Int)) : List Nat := ds.filterMap fun (_, v) => if v < 0 then none else some v.toNat

/-- the characters `pre` taken so far and the state `s` reached: a string that begins with `pre` is a common subsequence of
    the strings iff what follows `pre` is a common subsequence of the suffixes `s` points at -/
def Inv (ws : List (List Nat)) (s : St) (pre : List Nat) : Prop :=
  ∀ t : List Nat, (∀ i, i < ws.length → (pre ++ t).Sublist (str ws i)) ↔ CS ws s t

section
variable {J : Inst} {ws : List (List Nat)} (hB : Built J ws) (hsm : ∀ i, i < ws.length → ∀ x ∈ str ws i, x < J.nChars)
include hB hsm

omit hB hsm in
theorem cs_cons_iff {s : St} {c : Nat} {t : List Nat} (hc : common ws s c = true) :
    CS ws s (c :: t) ↔ CS ws (step ws s c) t := by
  constructor
  · exact cs_step
  · intro h i hi
    refine cons_sublist_of_first (common_iff.mp hc i hi) ?_
    rw [← suf_step hi]
    exact h i hi

omit hsm in
theorem cs_len_iff {t : List Nat} : CS ws J.len t ↔ t = [] := by
  have h0 : 0 < ws.length := List.length_pos_iff.mpr hB.ne
  constructor
  · intro h
    have := h 0 h0
    have he : suf ws J.len 0 = [] := by simp [suf, pos, str, hB.len, h0]
    rw [he] at this
    exact List.sublist_nil.mp this
  · rintro rfl i _; exact List.nil_sublist _

omit hB in
theorem cs_nil_of_no_chars {s : St} (hemp : (chars J ws s).isEmpty = true) {t : List Nat} (h : CS ws s t) (h0 : 0 < ws.length) :
    t = [] := by
  cases t with
  | nil => rfl
  | cons x r =>
    have hx : x ∈ str ws 0 := (List.drop_sublist _ _).subset ((h 0 h0).subset List.mem_cons_self)
    have : (x : Int) ∈ chars J ws s := mem_chars.mpr ⟨x, hsm 0 h0 x hx, common_of_cs h, rfl⟩
    rw [List.isEmpty_iff.mp hemp] at this
    cases this

theorem replay_inv : ∀ (ds : List (Nat × Int)) (s : St) (v : Int) (last : Option Nat) (s' : St) (v' : Int) (pre : List Nat),
    Valid ws s → Inv ws s pre → v = (pre.length : Int) → replayFrom J s v last ds = some (s', v') →
    Valid ws s' ∧ Inv ws s' (pre ++ valsOf ds) ∧ v' = ((pre ++ valsOf ds).length : Int) ∧ ∀ x ∈ valsOf ds, x ∈ str ws 0 := by
  have h0 : 0 < ws.length := List.length_pos_iff.mpr hB.ne
  intro ds
  induction ds with
  | nil =>
    intro s v last s' v' pre hV hI hv h
    simp only [replayFrom, Option.some.injEq, Prod.mk.injEq] at h
    obtain ⟨rfl, rfl⟩ := h
    simp only [valsOf, List.filterMap_nil, List.append_nil]
    exact ⟨hV, hI, hv, fun x hx => by cases hx⟩
  | cons d r ih =>
    intro s v last s' v' pre hV hI hv h
    obtain ⟨x, val⟩ := d
    simp only [replayFrom] at h
    have key : val ∈ domain J s ∧ replayFrom J (trans J s ⟨x, val⟩) (v + cost val) (some x) r = some (s', v') := by
      cases last <;> dsimp only at h <;> split at h
      · next hc => simp only [Bool.and_eq_true, List.contains_iff_mem] at hc; exact ⟨hc.2, h⟩
      · cases h
      · next hc => simp only [Bool.and_eq_true, List.contains_iff_mem] at hc; exact ⟨hc.2, h⟩
      · cases h
    clear h
    obtain ⟨hmem, h⟩ := key
    · rw [domain_eq hB hV] at hmem
      by_cases hemp : (chars J ws s).isEmpty = true
      · rw [if_pos hemp] at hmem
        have hval : val = -1 := by simpa using hmem
        subst hval
        rw [trans_end] at h
        have hI' : Inv ws J.len pre := by
          intro t
          rw [hI t, cs_len_iff hB]
          constructor
          · exact fun h => cs_nil_of_no_chars hsm hemp h h0
          · rintro rfl i _; exact List.nil_sublist _
        exact ih J.len _ (some x) s' v' pre (valid_len hB) hI' (by simp [cost]; exact hv) h
      · rw [if_neg hemp] at hmem
        obtain ⟨c, hc, hcm, rfl⟩ := mem_chars.mp hmem
        rw [trans_char hB hV hc] at h
        have hI' : Inv ws (step ws s c) (pre ++ [c]) := by
          intro t
          rw [← cs_cons_iff hcm, ← hI (c :: t)]
          simp
        have hne : ¬ ((c : Int) = -1) := by omega
        have := ih (step ws s c) _ (some x) s' v' (pre ++ [c]) (valid_step hV hcm) hI'
          (by simp [cost, hne]; omega) h
        have hv : valsOf ((x, (c : Int)) :: r) = c :: valsOf r := by
          have : ¬ ((c : Int) < 0) := by omega
          simp [valsOf, this]
        rw [hv]
        simp only [List.append_assoc, List.singleton_append] at this
        refine ⟨this.1, this.2.1, this.2.2.1, ?_⟩
        intro y hy
        rcases List.mem_cons.mp hy with rfl | hy
        · exact (List.drop_sublist _ _).subset (common_iff.mp hcm 0 h0)
        · exact this.2.2.2 y hy

omit hsm in
theorem inv_init : Inv ws (initSt J) [] := by
  intro t
  have : ∀ i, i < ws.length → suf ws (initSt J) i = str ws i := by
    intro i hi
    simp [suf, pos, initSt, hB.nStrings, hi]
  simp only [List.nil_append, CS]
  constructor
  · intro h i hi; rw [this i hi]; exact h i hi
  · intro h i hi; rw [← this i hi]; exact h i hi

/-- **exactness on the mapped strings**: along any path of the model from the root, value + value-to-go is the length `M` of a
    longest common subsequence of the strings among those that begin with the characters taken -/
theorem replay_exact {ds : List (Nat × Int)} {s : St} {v : Int} (h : replay J ds = some (s, v)) :
    (∀ x ∈ valsOf ds, x ∈ str ws 0) ∧
    ∃ M : Nat, (bestRem J s).addI v = some (M : Int) ∧
      (∃ c : List Nat, (∀ w ∈ ws, c.Sublist w) ∧ valsOf ds <+: c ∧ c.length = M) ∧
      (∀ c : List Nat, (∀ w ∈ ws, c.Sublist w) → valsOf ds <+: c → c.length ≤ M) := by
  have h0 : 0 < ws.length := List.length_pos_iff.mpr hB.ne
  obtain ⟨hV, hI, hv, hx⟩ := replay_inv hB hsm ds (initSt J) 0 none s v [] (valid_init hB) (inv_init hB) rfl h
  simp only [List.nil_append] at hI hv
  obtain ⟨c, hc, h1, h2, h3⟩ := bestRem_spec hB hV
  have hiff : ∀ c : List Nat, (∀ w ∈ ws, c.Sublist w) ↔ ∀ i, i < ws.length → c.Sublist (str ws i) := by
    intro c
    constructor
    · intro h i hi
      have : str ws i = ws[i] := by simp [str, hi]
      rw [this]; exact h _ (List.getElem_mem hi)
    · intro h w hw
      obtain ⟨i, hi, rfl⟩ := List.getElem_of_mem hw
      have : str ws i = ws[i] := by simp [str, hi]
      rw [← this]; exact h i hi
  refine ⟨hx, (valsOf ds).length + c.length, ?_, ⟨valsOf ds ++ c, ?_, List.prefix_append _ _, by simp⟩, ?_⟩
  · rw [hc, hv]; simp [EInt.addI]; omega
  · exact (hiff _).mpr ((hI c).mpr h1)
  · intro c' hc' hpre
    obtain ⟨t, rfl⟩ := hpre
    have hcs : CS ws s t := (hI t).mp ((hiff _).mp hc')
    have ht : ∀ y ∈ t, y < J.nChars := by
      intro y hy
      exact hsm 0 h0 y ((List.drop_sublist _ _).subset ((hcs 0 h0).subset hy))
    have := h3 t ht hcs
    simp only [List.length_append]
    omega

end

theorem prefixOf_spec {J : Inst} {lines : List (List Int)} (hchars : J.chars = alphabetOf lines) :
    ∀ ds : List (Nat × Int), (∀ x ∈ valsOf ds, x < (alphabetOf lines).length) →
      (prefixOf J ds).map (rankOf (alphabetOf lines)) = valsOf ds ∧ ∀ y ∈ prefixOf J ds, y ∈ alphabetOf lines := by
  intro ds
  induction ds with
  | nil => intro _; exact ⟨rfl, fun y hy => by cases hy⟩
  | cons d r ih =>
    obtain ⟨x, v⟩ := d
    intro h
    by_cases hv : v < 0
    · have e1 : valsOf ((x, v) :: r) = valsOf r := by simp [valsOf, hv]
      have e2 : prefixOf J ((x, v) :: r) = prefixOf J r := by simp [prefixOf, hv]
      rw [e1] at h
      rw [e1, e2]
      exact ih h
    · have e1 : valsOf ((x, v) :: r) = v.toNat :: valsOf r := by simp [valsOf, hv]
      rw [e1] at h
      have hlt : v.toNat < (alphabetOf lines).length := h _ List.mem_cons_self
      have e2 : prefixOf J ((x, v) :: r) = (alphabetOf lines)[v.toNat] :: prefixOf J r := by
        simp [prefixOf, hv, hchars, hlt]
      obtain ⟨h1, h2⟩ := ih (fun y hy => h y (List.mem_cons_of_mem _ hy))
      rw [e1, e2, List.map_cons, rankOf_getElem lines _ hlt, h1]
      refine ⟨rfl, ?_⟩
      intro y hy
      rcases List.mem_cons.mp hy with rfl | hy
      · exact List.getElem_mem _
      · exact h2 y hy

theorem dpExact : DpExactStmt := by
  intro k declared lines J hJ ds s v h
  have hB := built_of_instOk hJ
  obtain ⟨hne, hchars, hnC, hal, hmemws⟩ := instOk_fields hJ
  have hsm' : ∀ i, i < (J.strings.take J.nStrings).length → ∀ x ∈ str (J.strings.take J.nStrings) i,
      x < (alphabetOf lines).length := by
    intro i hi x hx
    have e : str (J.strings.take J.nStrings) i = (J.strings.take J.nStrings)[i] := by
      unfold str; rw [List.getElem?_eq_getElem hi]; rfl
    rw [e] at hx
    obtain ⟨l, hl, hl'⟩ := List.mem_map.mp ((hmemws _).mp (List.getElem_mem hi))
    rw [← hl'] at hx
    obtain ⟨y, hy, rfl⟩ := List.mem_map.mp hx
    exact rankOf_lt _ y (mem_alphabetOf lines l hl y hy)
  have h0 : 0 < (J.strings.take J.nStrings).length := List.length_pos_iff.mpr hB.ne
  obtain ⟨hx, M, hval, hatt, hmax⟩ := replay_exact hB (fun i hi x hx => Nat.lt_of_lt_of_le (hsm' i hi x hx) hal) h
  obtain ⟨hp1, hp2⟩ := prefixOf_spec hchars ds (fun x hx' => hsm' 0 h0 x (hx x hx'))
  rw [hval]
  exact (spec_transfer hJ (prefixOf J ds) hp2 M (by rw [hp1]; exact hatt) (by rw [hp1]; exact hmax)).symm

#print axioms dpExact
end

end Ddo.Examples.LcsModel
