import DdoModel.Examples.SrflpProofsRubPath
/-! Merged states of the srflp example, the CUT part of the rough bound: the cost `GG l w M Y q` of a path with the fixed weights
    `w` (the cuts of the state) is at least the weighted completion time of SOME order of the jobs of the bound (the members of
    `M` with their own length and cut; the `i`-th least length of `Y` with the `(r-1-i)`-th least cut of `Y`).  In four steps: the
    least sums over what is left of `Y` are at least prefix sums of the sorted cuts of `Y`; that is the weighted completion time
    of the jobs of the path with their own lengths; the `p`-th optional pick may take the `p`-th least length instead (prefix
    sums of the least lengths are at most those of any distinct lengths, the cuts are `≥ 0`); as a multiset these are the jobs
    of the bound. -/

namespace Ddo.Examples.SrflpModel
open Ddo Ddo.Examples Ddo.Examples.Util Ddo.SpecUtil

/-- `Σ_t l(q_t) · (the weights of the members of `M` after `t` + the `ρ_t` least entries of `ys`)` -/
def cutCL (l w : Nat → Int) (M : List Nat) (ys : List Int) : List Nat → Int
  | [] => 0
  | j :: q => l j * (((q.filter (fun i => M.contains i)).map w).sum + (ys.take (nonM M q)).sum) + cutCL l w M ys q

/-- the jobs of the path: a member of `M` keeps `(l j, w j)`, the optional pick number `p` (from the front) gets the length
    `lo p j` and the cut `ys[ρ]`, `ρ` = the number of optional picks after it -/
def cutJobs (l w : Nat → Int) (M : List Nat) (ys : List Int) (lo : Nat → Nat → Int) : Nat → List Nat → List (Int × Int)
  | _, [] => []
  | p, j :: q =>
    if M.contains j then (l j, w j) :: cutJobs l w M ys lo p q
    else (lo p j, ys.getD (nonM M q) 0) :: cutJobs l w M ys lo (p + 1) q

theorem cut_take_succ_sum_getD : ∀ (L : List Int) (k : Nat), (L.take (k + 1)).sum = (L.take k).sum + L.getD k 0 := by
  intro L
  induction L with
  | nil => intro k; simp
  | cons a L ih =>
    intro k
    cases k with
    | zero => simp
    | succ k =>
      have := ih k
      simp only [List.take_succ_cons, List.sum_cons, List.getD_cons_succ] at this ⊢
      omega

theorem GG_ge_cutCL (l w : Nat → Int) (M : List Nat) (ys : List Int) : ∀ (q Y' : List Nat),
    q.Nodup → Y'.Nodup → (∀ i ∈ q, i ∉ M → i ∈ Y') → (∀ i ∈ q, 0 ≤ l i) →
    (∀ A : List Nat, A.Nodup → (∀ a ∈ A, a ∈ Y') → (ys.take A.length).sum ≤ (A.map w).sum) →
    cutCL l w M ys q ≤ GG l w M Y' q := by
  intro q
  induction q with
  | nil => intro Y' _ _ _ _ _; simp [cutCL, GG]
  | cons j q ih =>
    intro Y' hq hY hsub hl hinv
    obtain ⟨hjq, hq'⟩ := List.nodup_cons.mp hq
    have hY'' : (Y'.filter (· ≠ j)).Nodup := hY.sublist List.filter_sublist
    have hsub' : ∀ i ∈ q, i ∉ M → i ∈ Y'.filter (· ≠ j) := by
      intro i hi hiM
      rw [List.mem_filter]
      refine ⟨hsub i (List.mem_cons_of_mem _ hi) hiM, ?_⟩
      have : i ≠ j := fun e => hjq (e ▸ hi)
      simpa using this
    have hinv' : ∀ A : List Nat, A.Nodup → (∀ a ∈ A, a ∈ Y'.filter (· ≠ j)) → (ys.take A.length).sum ≤ (A.map w).sum :=
      fun A hA hAs => hinv A hA (fun a ha => (List.mem_filter.mp (hAs a ha)).1)
    have hih := ih (Y'.filter (· ≠ j)) hq' hY'' hsub' (fun i hi => hl i (List.mem_cons_of_mem _ hi)) hinv'
    have hlen := nonM_le_length hq' (fun i hi => Decidable.or_iff_not_imp_left.mpr (hsub' i hi))
    obtain ⟨A, hA, hAs, hAl, hAe⟩ := leastSum_attained (Y'.filter (· ≠ j)) w (nonM M q) hY'' hlen
    have h1 := hinv' A hA hAs
    rw [hAl] at h1
    rw [sum_eq] at hAe
    have hlj := hl j List.mem_cons_self
    have h2 : l j * (((q.filter (fun i => M.contains i)).map w).sum + (ys.take (nonM M q)).sum) ≤
        l j * (((q.filter (fun i => M.contains i)).map w).sum + leastSum (nonM M q) ((Y'.filter (· ≠ j)).map w)) :=
      Int.mul_le_mul_of_nonneg_left (by omega) hlj
    simp only [cutCL, GG]
    omega

theorem cutJobs_cons_mem (l w : Nat → Int) (M : List Nat) (ys : List Int) (lo : Nat → Nat → Int) (p j : Nat) (q : List Nat)
    (h : M.contains j = true) :
    cutJobs l w M ys lo p (j :: q) = (l j, w j) :: cutJobs l w M ys lo p q := by
  simp only [cutJobs, h, if_true]

theorem cutJobs_cons_not (l w : Nat → Int) (M : List Nat) (ys : List Int) (lo : Nat → Nat → Int) (p j : Nat) (q : List Nat)
    (h : M.contains j = false) :
    cutJobs l w M ys lo p (j :: q) = (lo p j, ys.getD (nonM M q) 0) :: cutJobs l w M ys lo (p + 1) q := by
  simp only [cutJobs, h, Bool.false_eq_true, if_false]

theorem wct_cutJobs_own (l w : Nat → Int) (M : List Nat) (ys : List Int) : ∀ (q : List Nat) (p : Nat) (B : Int),
    wct B (cutJobs l w M ys (fun _ j => l j) p q) =
      B * (((q.filter (fun i => M.contains i)).map w).sum + (ys.take (nonM M q)).sum) + cutCL l w M ys q := by
  intro q
  induction q with
  | nil => intro p B; simp [cutJobs, cutCL]
  | cons j q ih =>
    intro p B
    cases h : M.contains j
    · have e : nonM M (j :: q) = nonM M q + 1 := by rw [nonM_cons, h]; simp; omega
      have e2 := cut_take_succ_sum_getD ys (nonM M q)
      have e3 : (j :: q).filter (fun i => M.contains i) = q.filter (fun i => M.contains i) := by
        simp only [List.filter_cons, h, Bool.false_eq_true, if_false]
      rw [cutJobs_cons_not _ _ _ _ _ _ _ _ h, wct_cons, ih, e, e2, e3]
      simp only [cutCL]
      grind
    · have e : nonM M (j :: q) = nonM M q := by rw [nonM_cons, h]; simp
      have e3 : (j :: q).filter (fun i => M.contains i) = j :: q.filter (fun i => M.contains i) := by
        simp only [List.filter_cons, h, if_true]
      rw [cutJobs_cons_mem _ _ _ _ _ _ _ _ h, wct_cons, ih, e, e3]
      simp only [cutCL, List.map_cons, List.sum_cons]
      grind

theorem wct_cutJobs_le (l w : Nat → Int) (M Y : List Nat) (ys Lm : List Int) (R : Nat)
    (hys : ∀ x ∈ ys, 0 ≤ x)
    (hLm : ∀ A : List Nat, A.Nodup → (∀ a ∈ A, a ∈ Y) → A.length ≤ R → (Lm.take A.length).sum ≤ (A.map l).sum) :
    ∀ (q : List Nat) (p : Nat) (P : List Nat) (C : Int),
    q.Nodup → P.Nodup → (∀ a ∈ P, a ∈ Y) → P.length = p → (∀ i ∈ q, i ∉ P) → (∀ i ∈ q, i ∈ M ∨ i ∈ Y) →
    p + nonM M q ≤ R → (∀ i ∈ q, 0 ≤ w i) →
    wct (C + (Lm.take p).sum) (cutJobs l w M ys (fun p _ => Lm.getD p 0) p q) ≤
      wct (C + (P.map l).sum) (cutJobs l w M ys (fun _ j => l j) p q) := by
  intro q
  induction q with
  | nil => intros; simp [cutJobs]
  | cons j q ih =>
    intro p P C hq hP hPY hPl hqP hqMY hR hw
    obtain ⟨hjq, hq'⟩ := List.nodup_cons.mp hq
    have hB : (Lm.take p).sum ≤ (P.map l).sum := by
      have := hLm P hP hPY (by omega)
      rwa [hPl] at this
    have hqP' : ∀ i ∈ q, i ∉ P := fun i hi => hqP i (List.mem_cons_of_mem _ hi)
    have hqMY' : ∀ i ∈ q, i ∈ M ∨ i ∈ Y := fun i hi => hqMY i (List.mem_cons_of_mem _ hi)
    have hw' : ∀ i ∈ q, 0 ≤ w i := fun i hi => hw i (List.mem_cons_of_mem _ hi)
    cases h : M.contains j
    · have e : nonM M (j :: q) = nonM M q + 1 := by rw [nonM_cons, h]; simp; omega
      have hjM : j ∉ M := by simpa using h
      have hjY : j ∈ Y := by
        rcases hqMY j List.mem_cons_self with h1 | h1
        · exact absurd h1 hjM
        · exact h1
      have hP' : (j :: P).Nodup := List.nodup_cons.mpr ⟨hqP j List.mem_cons_self, hP⟩
      have hPY' : ∀ a ∈ j :: P, a ∈ Y := by
        intro a ha
        rcases List.mem_cons.mp ha with e | e
        · exact e ▸ hjY
        · exact hPY a e
      have hqP'' : ∀ i ∈ q, i ∉ j :: P := by
        intro i hi hc
        rcases List.mem_cons.mp hc with e | e
        · exact hjq (e ▸ hi)
        · exact hqP' i hi e
      have hih := ih (p + 1) (j :: P) C hq' hP' hPY' (by simp [hPl]) hqP'' hqMY' (by omega) hw'
      have e2 := cut_take_succ_sum_getD Lm p
      have hom := SpecUtil.getD_nonneg hys (nonM M q)
      have hmul : (C + (Lm.take p).sum) * ys.getD (nonM M q) 0 ≤ (C + (P.map l).sum) * ys.getD (nonM M q) 0 :=
        Int.mul_le_mul_of_nonneg_right (by omega) hom
      rw [cutJobs_cons_not _ _ _ _ _ _ _ _ h, cutJobs_cons_not _ _ _ _ _ _ _ _ h, wct_cons, wct_cons]
      simp only [List.map_cons, List.sum_cons] at hih
      rw [e2] at hih
      have a1 : C + (Lm.take p).sum + Lm.getD p 0 = C + ((Lm.take p).sum + Lm.getD p 0) := by omega
      have a2 : C + (P.map l).sum + l j = C + (l j + (P.map l).sum) := by omega
      show (C + (Lm.take p).sum) * ys.getD (nonM M q) 0 + wct (C + (Lm.take p).sum + Lm.getD p 0) _ ≤
        (C + (P.map l).sum) * ys.getD (nonM M q) 0 + wct (C + (P.map l).sum + l j) _
      rw [a1, a2]
      exact Int.add_le_add hmul hih
    · have e : nonM M (j :: q) = nonM M q := by rw [nonM_cons, h]; simp
      have hih := ih p P (C + l j) hq' hP hPY hPl hqP' hqMY' (by omega) hw'
      have hom := hw j List.mem_cons_self
      have hmul : (C + (Lm.take p).sum) * w j ≤ (C + (P.map l).sum) * w j :=
        Int.mul_le_mul_of_nonneg_right (by omega) hom
      rw [cutJobs_cons_mem _ _ _ _ _ _ _ _ h, cutJobs_cons_mem _ _ _ _ _ _ _ _ h, wct_cons, wct_cons]
      have a1 : C + (Lm.take p).sum + l j = C + l j + (Lm.take p).sum := by omega
      have a2 : C + (P.map l).sum + l j = C + l j + (P.map l).sum := by omega
      show (C + (Lm.take p).sum) * w j + wct (C + (Lm.take p).sum + l j) _ ≤
        (C + (P.map l).sum) * w j + wct (C + (P.map l).sum + l j) _
      rw [a1, a2]
      exact Int.add_le_add hmul hih

theorem cutJobs_perm (l w : Nat → Int) (M : List Nat) (ys Lm : List Int) : ∀ (q : List Nat) (p : Nat),
    (cutJobs l w M ys (fun p _ => Lm.getD p 0) p q).Perm
      ((q.filter (fun i => M.contains i)).map (fun i => (l i, w i)) ++
        (List.range (nonM M q)).map (fun i => (Lm.getD (p + i) 0, ys.getD (nonM M q - 1 - i) 0))) := by
  intro q
  induction q with
  | nil => intro p; simp [cutJobs]
  | cons j q ih =>
    intro p
    cases h : M.contains j
    · have e : nonM M (j :: q) = nonM M q + 1 := by rw [nonM_cons, h]; simp; omega
      have e3 : (j :: q).filter (fun i => M.contains i) = q.filter (fun i => M.contains i) := by
        simp only [List.filter_cons, h, Bool.false_eq_true, if_false]
      rw [cutJobs_cons_not _ _ _ _ _ _ _ _ h, e, e3, List.range_succ_eq_map, List.map_cons, List.map_map]
      refine ((List.Perm.cons _ (ih (p + 1))).trans List.perm_middle.symm).trans ?_
      apply List.Perm.of_eq
      congr 1
      congr 1
      apply List.map_congr_left
      intro i _
      simp only [Function.comp, Nat.succ_eq_add_one]
      have a1 : p + 1 + i = p + (i + 1) := by omega
      have a2 : nonM M q + 1 - 1 - (i + 1) = nonM M q - 1 - i := by omega
      rw [a1, a2]
    · have e : nonM M (j :: q) = nonM M q := by rw [nonM_cons, h]; simp
      have e3 : (j :: q).filter (fun i => M.contains i) = j :: q.filter (fun i => M.contains i) := by
        simp only [List.filter_cons, h, if_true]
      rw [cutJobs_cons_mem _ _ _ _ _ _ _ _ h, e, e3]
      exact List.Perm.cons _ (ih p)

set_option linter.unusedVariables false in
theorem cut_part (l w : Nat → Int) (M Y q : List Nat)
    (hq : q.Nodup) (hM : M.Nodup) (hY : Y.Nodup) (hMq : ∀ i ∈ M, i ∈ q) (hqMY : ∀ i ∈ q, i ∈ M ∨ i ∈ Y)
    (hdisj : ∀ i ∈ M, i ∉ Y)
    (hl : ∀ i, i ∈ M ∨ i ∈ Y → 0 ≤ l i) (hw : ∀ i, i ∈ M ∨ i ∈ Y → 0 ≤ w i)
    (Lm : List Int) (hLl : Lm.length = nonM M q)
    (hLm : ∀ A : List Nat, A.Nodup → (∀ a ∈ A, a ∈ Y) → A.length ≤ nonM M q → (Lm.take A.length).sum ≤ (A.map l).sum) :
    ∃ js : List (Int × Int),
      js.Perm (M.map (fun i => (l i, w i)) ++
        (List.range (nonM M q)).map (fun i => (Lm.getD i 0, (sortInts (Y.map w)).getD (nonM M q - 1 - i) 0))) ∧
      wct 0 js ≤ GG l w M Y q := by
  refine ⟨cutJobs l w M (sortInts (Y.map w)) (fun p _ => Lm.getD p 0) 0 q, ?_, ?_⟩
  · have h1 := cutJobs_perm l w M (sortInts (Y.map w)) Lm q 0
    simp only [Nat.zero_add] at h1
    exact h1.trans (List.Perm.append_right _ ((filter_contains_perm hq hM hMq).map _))
  · have hys : ∀ x ∈ sortInts (Y.map w), 0 ≤ x := by
      intro x hx
      unfold sortInts at hx
      rw [List.mem_mergeSort, List.mem_map] at hx
      obtain ⟨y, hy, rfl⟩ := hx
      exact hw y (Or.inr hy)
    have h3 := wct_cutJobs_le l w M Y (sortInts (Y.map w)) Lm (nonM M q) hys hLm q 0 [] 0 hq List.nodup_nil
      (by simp) rfl (by simp) hqMY (by omega) (fun i hi => hw i (hqMY i hi))
    have h2 := wct_cutJobs_own l w M (sortInts (Y.map w)) q 0 0
    have h1 := GG_ge_cutCL l w M (sortInts (Y.map w)) q Y hq hY
      (fun i hi hiM => (hqMY i hi).resolve_left hiM) (fun i hi => hl i (hqMY i hi))
      (fun A hA hAs => take_sortInts_le A Y w hA hAs)
    simp only [List.take_zero, List.sum_nil, List.map_nil, Int.add_zero] at h3
    rw [h2] at h3
    omega

#print axioms cut_part

end Ddo.Examples.SrflpModel
