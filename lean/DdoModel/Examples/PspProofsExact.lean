import DdoModel.Props.C16
import DdoModel.Examples.PspProofsWf
/-! psp example: the DP model is exact (`DpExactStmt`), with or without the triangle inequality.  A completion of a state `s`
    (`time = k`) is a plan prefix `p` for the periods `0 … k-1`; it is feasible for `s` (`Feas`) when it produces exactly the
    pending units of every item (`pend`: the units due up to `prev_demands[i]`) and never lets the stock go negative
    (`remF_i(t+1) ≤ made p i t`, the specification's condition).  Its cost relative to `s` (`relCost`) is the specification's
    stocking cost of the periods `< k`, plus the IN-FLIGHT stock of the periods `≥ k` (`tailS`: the pending units due later than
    the period, which the prefix will have produced by then), plus the changeover cost of the productions of `p` followed by
    `s.next`.  One decision of the domain changes the relative cost by exactly the transition cost (`relCost_idle`,
    `relCost_item`), the invariant `Inv` (every unit due before `time` is pending) is kept, hence `bestRem s` is minus the
    least relative cost; at the root `Feas` / `relCost` are the specification's `Feasible` / `cost`.  At the end, the example
    against `Psp.best`: `root_exact`, `psp_relaxed_ub`. -/
namespace Ddo.Examples.PspModel

section
open Ddo Ddo.Examples Ddo.Examples.Util

theorem sumTo_eq_sumRange (f : Nat → Int) : ∀ n : Nat, sumTo n f = SpecUtil.sumRange n f := by
  intro n
  induction n with
  | zero => rfl
  | succ n ih => rw [SpecUtil.sumRange_succ, ← ih]; rfl

theorem sum_count_le (n : Nat) : ∀ p : Psp.Plan,
    sumTo n (fun i => ((p.count (some i) : Nat) : Int)) + ((p.count none : Nat) : Int) ≤ (p.length : Int) := by
  intro p
  induction p with
  | nil => show sumTo n (fun _ => (0 : Int)) + 0 ≤ 0; rw [sumTo_zero]; decide
  | cons e r ih =>
    cases e with
    | none =>
      rw [sumTo_congr (g := fun i => ((r.count (some i) : Nat) : Int))
        (fun i _ => by rw [List.count_cons_of_ne (by simp)]), List.count_cons_self, List.length_cons]
      omega
    | some j =>
      have h1 := sumTo_ind_le j n
      rw [sumTo_congr (g := fun i => ((r.count (some i) : Nat) : Int) + if j = i then 1 else 0) (fun i _ => by
          rw [List.count_cons]
          by_cases h : j = i
          · subst h; simp
          · simp [h]), sumTo_add, List.count_cons_of_ne (by simp), List.length_cons]
      omega

/-- the units of item `i` still to produce in `s`: the units due up to `prev_demands[i]` -/
def pend (I : Psp.Inst) (s : St) (i : Nat) : Int := contrib (rowOf I i) (pdAt s i)
/-- the units of item `i` the plan (prefix) produces in the periods `≤ t` -/
def made (p : Psp.Plan) (i t : Nat) : Int := (((p.take (t + 1)).count (some i) : Nat) : Int)
/-- every unit due before `time` is still to produce (none of them can have been produced in a period `≥ time`) -/
def Inv (I : Psp.Inst) (s : St) : Prop := ∀ i, i < I.n → remF (rowOf I i) s.time ≤ pend I s i

/-- `p` (periods `0 … time-1`) completes `s` feasibly: it produces exactly the pending units, each of them in time -/
structure Feas (I : Psp.Inst) (s : St) (p : Psp.Plan) : Prop where
  len : p.length = s.time
  dom : ∀ i, some i ∈ p → i < I.n
  tot : ∀ i, i < I.n → ((p.count (some i) : Nat) : Int) = pend I s i
  stock : ∀ i t, i < I.n → t < s.time → remF (rowOf I i) (t + 1) ≤ made p i t

theorem rem_eq_pend (I : Psp.Inst) (s : St) : rem I s = sumTo I.n (pend I s) := rfl

theorem count_snoc_some (p : Psp.Plan) (i j : Nat) :
    (((p ++ [some i]).count (some j) : Nat) : Int) = ((p.count (some j) : Nat) : Int) + if j = i then 1 else 0 := by
  rw [List.count_append, List.count_singleton]
  by_cases h : j = i
  · subst h; simp
  · have : ¬ i = j := fun e => h e.symm
    simp [h, this]

theorem count_snoc_none (p : Psp.Plan) (j : Nat) : (p ++ [none]).count (some j) = p.count (some j) := by
  rw [List.count_append, List.count_singleton]; rfl

theorem made_append {p : Psp.Plan} (e : Option Nat) (i : Nat) {t : Nat} (h : t < p.length) : made (p ++ [e]) i t = made p i t := by
  unfold made
  rw [List.take_append_of_le_length (by omega)]

theorem made_full {p : Psp.Plan} (i : Nat) {t : Nat} (h : p.length ≤ t + 1) : made p i t = ((p.count (some i) : Nat) : Int) := by
  unfold made
  rw [List.take_of_length_le h]

section
variable {I : Psp.Inst} (hI : InstOk I)
include hI

theorem pend_nonneg (s : St) (i : Nat) : 0 ≤ pend I s i := contrib_nonneg hI i _

omit hI in
theorem pend_idle (s : St) (i : Nat) : pend I (idle s) i = pend I s i := rfl

theorem pend_produce {s : St} (hs : Ok I s) {i : Nat} (hi : i < I.n) (hp : 0 ≤ pdAt s i) (j : Nat) :
    pend I (produce I s i) j = if j = i then pend I s i - 1 else pend I s j := by
  unfold pend
  rw [pdAt_produce hs hi]
  split
  · next h =>
    subst h
    rw [contrib_prevF _ (row_bin hI j)]
    rcases hs.due j hi with h | ⟨h0, h1⟩
    · omega
    · rw [contrib_due _ (row_bin hI j) h0 h1]; omega
  · rfl

theorem lt_pend_iff {s : St} (hs : Ok I s) {i : Nat} (hi : i < I.n) (τ : Nat) :
    remF (rowOf I i) τ < pend I s i ↔ (τ : Int) ≤ pdAt s i := by
  unfold pend
  rcases hs.due i hi with h | ⟨h0, h1⟩
  · have := remF_nonneg _ (row_bin hI i) τ
    rw [h]
    simp only [contrib]
    constructor
    · intro h'; simp at h'; omega
    · intro h'; omega
  · rw [contrib_due _ (row_bin hI i) h0 h1]
    constructor
    · intro hlt
      apply Classical.byContradiction
      intro hgt
      have h2 := remF_mono _ (row_bin hI i) ((pdAt s i).toNat + 1) τ (by omega)
      simp only [remF] at h2
      omega
    · intro hle
      have := remF_mono _ (row_bin hI i) τ (pdAt s i).toNat (by omega)
      omega

theorem inv_idle {s : St} (hinv : Inv I s) : Inv I (idle s) := by
  intro i hi
  have := hinv i hi
  have := remF_mono _ (row_bin hI i) (s.time - 1) s.time (Nat.sub_le _ _)
  rw [pend_idle]
  show remF (rowOf I i) (s.time - 1) ≤ _
  omega

theorem inv_produce {s : St} (hs : Ok I s) (hinv : Inv I s) {i : Nat} (hi : i < I.n)
    (hp : ((s.time - 1 : Nat) : Int) ≤ pdAt s i) : Inv I (produce I s i) := by
  intro j hj
  have h1 := hinv j hj
  have h2 := remF_mono _ (row_bin hI j) (s.time - 1) s.time (Nat.sub_le _ _)
  rw [pend_produce hI hs hi (by omega)]
  show remF (rowOf I j) (s.time - 1) ≤ _
  split
  · next h =>
    subst h
    have := (lt_pend_iff hI hs hi (s.time - 1)).mpr hp
    omega
  · omega

theorem Feas.inv {s : St} {p : Psp.Plan} (hf : Feas I s p) : Inv I s := by
  intro i hi
  by_cases ht : s.time = 0
  · rw [ht]; exact pend_nonneg hI s i
  · have hpos := Nat.pos_of_ne_zero ht
    have e : s.time - 1 + 1 = s.time := Nat.sub_add_cancel hpos
    have := hf.stock i (s.time - 1) hi (Nat.sub_lt hpos Nat.one_pos)
    rw [made_full i (by rw [e, hf.len]; exact Nat.le_refl _), hf.tot i hi, e] at this
    exact this

omit hI in
theorem Feas.rem_le {s : St} {p : Psp.Plan} (hf : Feas I s p) : rem I s + ((p.count none : Nat) : Int) ≤ (s.time : Int) := by
  rw [rem_eq_pend, ← sumTo_congr (fun i hi => hf.tot i hi), ← hf.len]
  exact sum_count_le I.n p

omit hI in
theorem Feas.len_snoc {s : St} {p : Psp.Plan} {e : Option Nat} (hf : Feas I s (p ++ [e])) : s.time = p.length + 1 := by
  rw [← hf.len, List.length_append]; rfl

omit hI in
theorem lt_length_of_lt_pred {s : St} {p : Psp.Plan} (hlen : s.time = p.length + 1) {t : Nat} (ht : t < s.time - 1) :
    t < p.length := by
  rw [hlen] at ht; exact ht

omit hI in
theorem feas_idle_of {s : St} {p : Psp.Plan} (hf : Feas I s (p ++ [none])) :
    Feas I (idle s) p ∧ rem I s < (s.time : Int) := by
  have hlen := hf.len_snoc
  refine ⟨⟨by show p.length = s.time - 1; rw [hlen]; rfl, fun i hi => hf.dom i (List.mem_append_left _ hi), ?_, ?_⟩, ?_⟩
  · intro i hi
    rw [pend_idle, ← hf.tot i hi, count_snoc_none]
  · intro i t hi ht
    have ht' := lt_length_of_lt_pred hlen ht
    rw [← made_append none i ht']
    exact hf.stock i t hi (by rw [hlen]; exact Nat.lt_succ_of_lt ht')
  · have := hf.rem_le
    rw [List.count_append] at this
    have : [none].count (none : Option Nat) = 1 := rfl
    omega

theorem feas_item_of {s : St} {p : Psp.Plan} {i : Nat} (hs : Ok I s) (hf : Feas I s (p ++ [some i])) :
    i < I.n ∧ (p.length : Int) ≤ pdAt s i ∧ Feas I (produce I s i) p ∧ rem I s ≤ (s.time : Int) := by
  have hlen := hf.len_snoc
  have hi : i < I.n := hf.dom i (List.mem_append_right _ List.mem_cons_self)
  have htot : ∀ j, j < I.n → ((p.count (some j) : Nat) : Int) = pend I s j - if j = i then 1 else 0 := by
    intro j hj
    have := hf.tot j hj
    rw [count_snoc_some] at this
    omega
  have h1 := htot i hi
  rw [if_pos rfl] at h1
  have hdom : (p.length : Int) ≤ pdAt s i := by
    apply (lt_pend_iff hI hs hi p.length).mp
    cases hk : p.length with
    | zero => show (0 : Int) < _; omega
    | succ k =>
      have := hf.stock i k hi (by rw [hlen, hk]; exact Nat.lt_succ_of_lt (Nat.lt_succ_self k))
      rw [made_append (some i) i (by rw [hk]; exact Nat.lt_succ_self k), made_full i (Nat.le_of_eq hk)] at this
      omega
  have hpos : 0 ≤ pdAt s i := Int.le_trans (Int.natCast_nonneg _) hdom
  refine ⟨hi, hdom, ⟨by show p.length = s.time - 1; rw [hlen]; rfl, fun j hj => hf.dom j (List.mem_append_left _ hj), ?_, ?_⟩, ?_⟩
  · intro j hj
    rw [pend_produce hI hs hi hpos, htot j hj]
    split
    · next h => rw [h]
    · exact Int.sub_zero _
  · intro j t hj ht
    have ht' := lt_length_of_lt_pred hlen ht
    rw [← made_append (some i) j ht']
    exact hf.stock j t hj (by rw [hlen]; exact Nat.lt_succ_of_lt ht')
  · have := hf.rem_le
    omega

omit hI in
/-- a completion of the state one period down, extended by the decision of the latest period `e`: what is left to check
    is the totals -/
theorem feas_snoc {s s' : St} {p : Psp.Plan} {e : Option Nat} {k : Nat} (ht : s.time = k + 1) (ht' : s'.time = s.time - 1)
    (hinv : Inv I s) (hf : Feas I s' p) (hdom : ∀ i, e = some i → i < I.n)
    (htot : ∀ i, i < I.n → (((p ++ [e]).count (some i) : Nat) : Int) = pend I s i) : Feas I s (p ++ [e]) := by
  have hlen : p.length = k := by rw [hf.len, ht', ht]; rfl
  subst hlen
  refine ⟨by rw [List.length_append, ht]; rfl, ?_, htot, ?_⟩
  · intro i hi
    rcases List.mem_append.mp hi with h | h
    · exact hf.dom i h
    · exact hdom i (List.mem_singleton.mp h).symm
  · intro i t hi htt
    by_cases hlt : t < p.length
    · rw [made_append e i hlt]
      exact hf.stock i t hi (by rw [ht', ht]; exact hlt)
    · rw [ht] at htt
      have e' : t = p.length := Nat.le_antisymm (Nat.lt_succ_iff.mp htt) (Nat.le_of_not_lt hlt)
      subst e'
      rw [made_full i (by rw [List.length_append]; exact Nat.le_refl _), htot i hi, ← ht]
      exact hinv i hi

omit hI in
theorem feas_of_idle {s : St} {p : Psp.Plan} {k : Nat} (ht : s.time = k + 1) (hinv : Inv I s) (hf : Feas I (idle s) p) :
    Feas I s (p ++ [none]) :=
  feas_snoc ht rfl hinv hf (fun _ h => by cases h) (fun i hi => by rw [count_snoc_none]; exact hf.tot i hi)

theorem feas_of_item {s : St} {p : Psp.Plan} {i : Nat} {k : Nat} (hs : Ok I s) (ht : s.time = k + 1) (hinv : Inv I s)
    (hi : i < I.n) (hp : 0 ≤ pdAt s i) (hf : Feas I (produce I s i) p) : Feas I s (p ++ [some i]) := by
  refine feas_snoc ht rfl hinv hf (fun j h => by cases h; exact hi) ?_
  intro j hj
  have := hf.tot j hj
  rw [pend_produce hI hs hi hp] at this
  rw [count_snoc_some, this]
  by_cases h : j = i
  · subst h; rw [if_pos rfl, if_pos rfl]; omega
  · rw [if_neg h, if_neg h]; omega

end

/-- the in-flight stock of the periods `k … T-1`: the units among the `c` pending ones that are due later than the period
    (the completion will have produced them by then) -/
def tailS (I : Psp.Inst) (row : List Int) (c : Int) (k : Nat) : Int :=
  sumTo I.T (fun t => if k ≤ t then max 0 (c - remF row (t + 1)) else 0)
/-- the specification's stock of the periods `< k` -/
def headS (row : List Int) (p : Psp.Plan) (i k : Nat) : Int := sumTo k (fun t => made p i t - remF row (t + 1))
/-- the unit-periods of stock of item `i` that the completion `p` of `s` pays -/
def W (I : Psp.Inst) (s : St) (p : Psp.Plan) (i : Nat) : Int :=
  headS (rowOf I i) p i s.time + tailS I (rowOf I i) (pend I s i) s.time
/-- the changeover cost of the productions of `p`, then `s.next` -/
def CO (I : Psp.Inst) (s : St) (p : Psp.Plan) : Int :=
  wc (qq I) (p.filterMap id ++ (if s.next = -1 then [] else [s.next.toNat]))
def relCost (I : Psp.Inst) (s : St) (p : Psp.Plan) : Int := sumTo I.n (fun i => stkOf I i * W I s p i) + CO I s p

theorem tail_peel (I : Psp.Inst) (row : List Int) (c : Int) {k : Nat} (hk : k < I.T) :
    tailS I row c k = tailS I row c (k + 1) + max 0 (c - remF row (k + 1)) := by
  unfold tailS
  rw [sumTo_update (c := k) (g := fun t => if k + 1 ≤ t then max 0 (c - remF row (t + 1)) else 0) hk]
  · show _ + ((if k ≤ k then _ else 0) - (if k + 1 ≤ k then _ else 0)) = _
    rw [if_pos (Nat.le_refl k), if_neg (Nat.not_succ_le_self k), Int.sub_zero]
  · intro t _ hne
    by_cases h : k ≤ t
    · rw [if_pos h, if_pos (show k + 1 ≤ t from Nat.lt_of_le_of_ne h (Ne.symm hne))]
    · rw [if_neg h, if_neg (fun h' => h (Nat.le_of_succ_le h'))]

theorem tail_top (I : Psp.Inst) (row : List Int) (c : Int) : tailS I row c I.T = 0 := by
  unfold tailS
  rw [sumTo_congr (g := fun _ => 0) (fun t ht => by rw [if_neg (by omega)]), sumTo_zero]

theorem head_congr (row : List Int) {p : Psp.Plan} (e : Option Nat) (i : Nat) {k : Nat} (hk : k ≤ p.length) :
    headS row (p ++ [e]) i k = headS row p i k := by
  unfold headS
  exact sumTo_congr (fun t ht => by rw [made_append e i (by omega)])

section
variable {I : Psp.Inst} (hI : InstOk I)
include hI

theorem tail_zero (i : Nat) (k : Nat) : tailS I (rowOf I i) 0 k = 0 := by
  unfold tailS
  rw [sumTo_congr (g := fun _ => 0) (fun t _ => by
    have := remF_nonneg _ (row_bin hI i) (t + 1)
    split <;> omega), sumTo_zero]

omit hI in
theorem max_pred_of_lt {c r : Int} (h : r < c) : max 0 (c - r) = max 0 (c - 1 - r) + 1 := by
  rw [Int.max_eq_right (Int.sub_nonneg_of_le (Int.le_of_lt h)), Int.max_eq_right (Int.sub_nonneg_of_le (Int.le_sub_one_of_lt h))]
  omega
omit hI in
theorem max_pred_of_le {c r : Int} (h : c ≤ r) : max 0 (c - r) = max 0 (c - 1 - r) := by
  rw [Int.max_eq_left (Int.sub_nonpos_of_le h), Int.max_eq_left (by omega)]

theorem tail_above {s : St} (hs : Ok I s) {i : Nat} (hi : i < I.n) {k : Nat} (hk : pdAt s i ≤ (k : Int)) :
    tailS I (rowOf I i) (pend I s i) k = tailS I (rowOf I i) (pend I s i - 1) k := by
  unfold tailS
  apply sumTo_congr
  intro t _
  split
  · exact max_pred_of_le (Int.not_lt.mp (fun h => by have := (lt_pend_iff hI hs hi (t + 1)).mp h; omega))
  · rfl

/-- one unit less: every period from `x` up to its due date carries one unit less (one period at a time) -/
theorem tail_diff {s : St} (hs : Ok I s) {i : Nat} (hi : i < I.n) : ∀ (n x : Nat), (x : Int) + n = pdAt s i →
    tailS I (rowOf I i) (pend I s i) x = tailS I (rowOf I i) (pend I s i - 1) x + (n : Int) := by
  intro n
  induction n with
  | zero => intro x hx; rw [tail_above hI hs hi (by omega)]; exact (Int.add_zero _).symm
  | succ n ih =>
    intro x hx
    have hxT : x < I.T := by have := hs.lt_T hI hi; omega
    have h1 := (lt_pend_iff hI hs hi (x + 1)).mpr (by omega)
    rw [tail_peel I _ _ hxT, tail_peel I _ (pend I s i - 1) hxT, ih (x + 1) (by omega), max_pred_of_lt h1]
    omega

theorem W_pre {s : St} {p : Psp.Plan} {e : Option Nat} (hf : Feas I s (p ++ [e])) (hT : s.time ≤ I.T) {i : Nat} (hi : i < I.n) :
    W I s (p ++ [e]) i = headS (rowOf I i) p i p.length + tailS I (rowOf I i) (pend I s i) p.length := by
  have hlen := hf.len_snoc
  have hinv := hf.inv hI i hi
  unfold W
  rw [hlen] at hinv ⊢
  rw [tail_peel I _ _ (show p.length < I.T by omega)]
  have : headS (rowOf I i) (p ++ [e]) i (p.length + 1) =
      headS (rowOf I i) p i p.length + (pend I s i - remF (rowOf I i) (p.length + 1)) := by
    rw [← head_congr (rowOf I i) e i (Nat.le_refl p.length)]
    simp only [headS, sumTo]
    rw [made_full i (by rw [List.length_append]; exact Nat.le_refl _), hf.tot i hi]
  rw [this]
  omega

theorem relCost_idle {s : St} {p : Psp.Plan} (hf : Feas I s (p ++ [none])) (hT : s.time ≤ I.T) :
    relCost I s (p ++ [none]) = relCost I (idle s) p := by
  have hlen : p.length = (idle s).time := (feas_idle_of hf).1.len
  unfold relCost
  congr 1
  · apply sumTo_congr
    intro i hi
    rw [W_pre hI hf hT hi, hlen]
    rfl
  · simp only [CO, idle, List.filterMap_append, List.filterMap_cons, List.filterMap_nil, id, List.append_nil]
    rfl

theorem relCost_item {s : St} {p : Psp.Plan} {i : Nat} (hs : Ok I s) (hnx : NextOk I s) (hf : Feas I s (p ++ [some i]))
    (hT : s.time ≤ I.T) :
    relCost I s (p ++ [some i]) =
      relCost I (produce I s i) p + (chgTo I s.next i + stkOf I i * (pdAt s i - (p.length : Int))) := by
  obtain ⟨hi, hdom, hf', _⟩ := feas_item_of hI hs hf
  have hlen : (produce I s i).time = p.length := hf'.len.symm
  have hW : ∀ j, j < I.n → W I s (p ++ [some i]) j =
      W I (produce I s i) p j + if j = i then pdAt s i - (p.length : Int) else 0 := by
    intro j hj
    rw [W_pre hI hf hT hj]
    unfold W
    rw [hlen, pend_produce hI hs hi (Int.le_trans (Int.natCast_nonneg _) hdom)]
    by_cases h : j = i
    · subst h
      obtain ⟨n, hn⟩ := Int.le.dest hdom
      rw [if_pos rfl, if_pos rfl, tail_diff hI hs hj n p.length hn, ← hn]
      omega
    · rw [if_neg h, if_neg h, Int.add_zero]
  have hCO : CO I s (p ++ [some i]) = CO I (produce I s i) p + chgTo I s.next i := by
    have e1 : CO I (produce I s i) p = wc (qq I) (p.filterMap id ++ [i]) := by
      unfold CO
      rw [show (produce I s i).next = (i : Int) from rfl, if_neg (natCast_ne_neg_one i), Int.toNat_natCast]
    have e2 : (p ++ [some i]).filterMap id = p.filterMap id ++ [i] := by
      rw [List.filterMap_append]; rfl
    rw [e1]
    unfold CO
    rw [e2]
    rcases hnx.cases with hn | ⟨b, _, hb⟩
    · rw [hn, if_pos rfl, chgTo_none, List.append_nil, Int.add_zero]
    · rw [hb, if_neg (natCast_ne_neg_one b), chgTo_item, Int.toNat_natCast, List.append_assoc]
      show wc (qq I) (List.filterMap id p ++ i :: [b]) = _
      rw [wc_split]
      show _ + (qq I i b + 0) = _
      rw [Int.add_zero]
  unfold relCost
  rw [hCO, sumTo_update (c := i) (g := fun j => stkOf I j * W I (produce I s i) p j) hi]
  · simp only [hW i hi, if_true, Int.mul_add]
    omega
  · intro j hj hne
    simp only [hW j hj, if_neg hne, Int.add_zero]

omit hI in
theorem relCost_nil {s : St} (ht : s.time = 0) (hp : ∀ i, i < I.n → pend I s i = 0) (hI : InstOk I) : relCost I s [] = 0 := by
  unfold relCost
  have h1 : sumTo I.n (fun i => stkOf I i * W I s [] i) = 0 := by
    rw [sumTo_congr (g := fun _ => 0), sumTo_zero]
    intro i hi
    unfold W
    rw [hp i hi, tail_zero hI, ht]
    simp [headS, sumTo]
  have h2 : CO I s [] = 0 := by
    unfold CO
    split <;> simp [wc]
  omega

end

section
variable {I : Psp.Inst} (hI : InstOk I)
include hI

theorem pend_zero {s : St} (ht : s.time = 0) (hrem : rem I s ≤ (s.time : Int)) {i : Nat} (hi : i < I.n) : pend I s i = 0 := by
  have h1 := sumTo_ge_term (n := I.n) (f := pend I s) (fun j _ => pend_nonneg hI s j) hi
  have h2 := pend_nonneg hI s i
  rw [rem_eq_pend, ht] at hrem
  have : ((0 : Nat) : Int) = 0 := rfl
  omega

/-- **soundness of the DP**: the value-to-go of a state a compilation can build (with the invariant `Inv`) is minus the
    relative cost of a feasible completion -/
theorem dp_sound : ∀ (k : Nat) (s : St) (h : Int), s.time = k → StOk I s → Inv I s → bestRem (tabOf I) s = some h →
    ∃ p, Feas I s p ∧ relCost I s p = -h := by
  intro k
  induction k with
  | zero =>
    intro s h ht hs _ hh
    rw [bestRem_zero _ ht] at hh
    cases hh
    have hp : ∀ i, i < I.n → pend I s i = 0 := fun i hi => pend_zero hI ht ((validB_iff hI hs.ok).mp hs.valid) hi
    refine ⟨[], ⟨(by simp [ht]), (fun i hi => by cases hi), (fun i hi => by rw [hp i hi]; rfl), (fun i t _ htt => by omega)⟩, ?_⟩
    rw [relCost_nil ht hp hI]; rfl
  | succ k ih =>
    intro s h ht hs hinv hh
    have hx := time_pred ht
    have hrem := (validB_iff hI hs.ok).mp hs.valid
    obtain ⟨_, ⟨hlt, hh1⟩ | ⟨i, hi, hp, h1, hh1, hcost⟩⟩ := bestRem_step hI hs.ok hs.nextOk ht hh
    · obtain ⟨p, hf, hc⟩ := ih (idle s) h hx (stOk_idle hI hs (by omega)) (inv_idle hI hinv) hh1
      have hf2 := feas_of_idle ht hinv hf
      exact ⟨p ++ [none], hf2, by rw [relCost_idle hI hf2 hs.time_le, hc]⟩
    · have hpi : 0 ≤ pdAt s i := Int.le_trans (Int.natCast_nonneg k) hp
      obtain ⟨p, hf, hc⟩ := ih (produce I s i) h1 hx (stOk_produce hI hs hi hpi)
        (inv_produce hI hs.ok hinv hi (by rw [hx]; exact hp)) hh1
      have hf2 := feas_of_item hI hs.ok ht hinv hi hpi hf
      refine ⟨p ++ [some i], hf2, ?_⟩
      rw [relCost_item hI hs.ok hs.nextOk hf2 hs.time_le, hc, hf.len.trans hx]
      omega

/-- **completeness of the DP**: every feasible completion is matched by the value-to-go -/
theorem dp_complete : ∀ (k : Nat) (s : St) (p : Psp.Plan), s.time = k → s.time ≤ I.T → Ok I s → NextOk I s → Feas I s p →
    ∃ h, bestRem (tabOf I) s = some h ∧ -h ≤ relCost I s p := by
  intro k
  induction k with
  | zero =>
    intro s p ht _ hs _ hf
    have hp0 : p = [] := List.length_eq_zero_iff.mp (by rw [hf.len, ht])
    subst hp0
    refine ⟨0, bestRem_zero _ ht, ?_⟩
    rw [relCost_nil ht (fun i hi => by rw [← hf.tot i hi]; rfl) hI]
    omega
  | succ k ih =>
    intro s p ht hT hs hnx hf
    have hx := time_pred ht
    rcases List.eq_nil_or_concat p with hp0 | ⟨p', e, hpe⟩
    · have := hf.len; rw [hp0] at this; simp at this; omega
    · rw [List.concat_eq_append] at hpe
      subst hpe
      cases e with
      | none =>
        obtain ⟨hf', hrem⟩ := feas_idle_of hf
        obtain ⟨h2, hb2, hle2⟩ := ih (idle s) p' hx (Nat.le_trans (Nat.sub_le _ _) hT)
          (ok_idle hs) hnx hf'
        obtain ⟨h', hb, hle⟩ := bestRem_idle_le hI hs ht (by omega) hb2
        refine ⟨h', hb, ?_⟩
        rw [relCost_idle hI hf hT]
        omega
      | some i =>
        obtain ⟨hi, hdom, hf', hrem⟩ := feas_item_of hI hs hf
        have hpk : p'.length = k := hf'.len.trans hx
        rw [hpk] at hdom
        obtain ⟨h2, hb2, hle2⟩ := ih (produce I s i) p' hx (Nat.le_trans (Nat.sub_le _ _) hT)
          (ok_produce hs hi) (nextOk_produce s hi) hf'
        obtain ⟨h', hb, hle⟩ := bestRem_produce_le hI hs hnx ht hi (by omega) hdom hb2
        refine ⟨h', hb, ?_⟩
        rw [relCost_item hI hs hnx hf hT, hpk]
        omega

/-- **exactness at every state**: the value-to-go of a state a compilation can build (with the invariant) is minus the least
    relative cost of its feasible completions -/
theorem bestRem_isMinOf {s : St} (hs : StOk I s) (hinv : Inv I s) (h : Int) :
    bestRem (tabOf I) s = some h ↔ SpecUtil.IsMinOf (Feas I s) (relCost I s) (-h) := by
  constructor
  · intro hb
    obtain ⟨p, hf, hc⟩ := dp_sound hI s.time s h rfl hs hinv hb
    refine ⟨⟨p, hf, hc⟩, ?_⟩
    intro p' hf'
    obtain ⟨h', hb', hle⟩ := dp_complete hI s.time s p' rfl hs.time_le hs.ok hs.nextOk hf'
    rw [hb] at hb'
    cases hb'
    exact hle
  · rintro ⟨⟨p, hf, hc⟩, hmin⟩
    obtain ⟨h', hb', hle⟩ := dp_complete hI s.time s p rfl hs.time_le hs.ok hs.nextOk hf
    obtain ⟨p', hf', hc'⟩ := dp_sound hI s.time s h' rfl hs hinv hb'
    have := hmin p' hf'
    rw [hb']
    congr 1
    omega

theorem bestRem_none_iff {s : St} (hs : StOk I s) (hinv : Inv I s) :
    bestRem (tabOf I) s = none ↔ ¬ ∃ p, Feas I s p := by
  constructor
  · rintro hb ⟨p, hf⟩
    obtain ⟨h', hb', _⟩ := dp_complete hI s.time s p rfl hs.time_le hs.ok hs.nextOk hf
    rw [hb] at hb'
    cases hb'
  · intro hno
    cases hb : bestRem (tabOf I) s with
    | none => rfl
    | some h =>
      obtain ⟨p, hf, _⟩ := dp_sound hI s.time s h rfl hs hinv hb
      exact absurd ⟨p, hf⟩ hno

end

theorem take_sum (row : List Int) : ∀ t : Nat, (row.take t).sum = remF row t := by
  intro t
  induction t with
  | zero => simp [remF]
  | succ t ih =>
    rw [List.take_add_one, List.sum_append, ih]
    simp only [remF]
    congr 1
    rw [List.getD_eq_getElem?_getD]
    cases row[t]? <;> simp

theorem stock_eq (I : Psp.Inst) (p : Psp.Plan) (i t : Nat) :
    C16.PspD.stock I p i t = made p i t - remF (rowOf I i) (t + 1) := by
  unfold C16.PspD.stock C16.PspD.produced C16.PspD.due made rowOf
  rw [take_sum]

theorem chg_eq_wc (I : Psp.Inst) : ∀ l : List Nat, Psp.changeoverCost I l = wc (qq I) l := by
  intro l
  induction l with
  | nil => rfl
  | cons a r ih =>
    cases r with
    | nil => rfl
    | cons b r' => simp only [Psp.changeoverCost, wc, ih]; rfl

section
variable {I : Psp.Inst} (hI : InstOk I)
include hI

theorem pend_init {i : Nat} (hi : i < I.n) : pend I (initSt (tabOf I)) i = remF (rowOf I i) I.T := by
  unfold pend
  rw [pdAt_init I hi, contrib_prevF _ (row_bin hI i)]

theorem inv_init : Inv I (initSt (tabOf I)) := by
  intro i hi
  rw [pend_init hI hi]
  exact Int.le_refl _

theorem remF_last {i : Nat} (hi : i < I.n) : remF (rowOf I i) (I.T - 1 + 1) = remF (rowOf I i) I.T := by
  by_cases hT : I.T = 0
  · rw [hT]
    have hl := row_len hI hi
    simp only [remF, List.getD_eq_getElem?_getD]
    rw [List.getElem?_eq_none (by omega)]
    simp [remF]
  · rw [Nat.sub_add_cancel (Nat.pos_of_ne_zero hT)]

theorem feas_root (p : Psp.Plan) : Feas I (initSt (tabOf I)) p ↔ C16.PspD.Feasible I p := by
  have htime : (initSt (tabOf I)).time = I.T := rfl
  constructor
  · intro hf
    have hlen : p.length = I.T := hf.len
    refine ⟨⟨hlen, hf.dom⟩, ?_, ?_⟩
    · intro i t hi ht
      rw [stock_eq]
      have := hf.stock i t hi (by rw [htime]; exact ht)
      omega
    · intro i hi
      rw [stock_eq, made_full i (by omega), hf.tot i hi, pend_init hI hi, remF_last hI hi]
      omega
  · intro hf
    have hlen : p.length = I.T := hf.plan.1
    refine ⟨hlen, hf.plan.2, ?_, ?_⟩
    · intro i hi
      have := hf.noExcess i hi
      rw [stock_eq, made_full i (by omega), remF_last hI hi] at this
      rw [pend_init hI hi]
      omega
    · intro i t hi ht
      have := hf.noBacklog i t hi (by rw [← htime]; exact ht)
      rw [stock_eq] at this
      omega

omit hI in
theorem relCost_root (p : Psp.Plan) : relCost I (initSt (tabOf I)) p = C16.PspD.cost I p := by
  have htime : (initSt (tabOf I)).time = I.T := rfl
  unfold relCost C16.PspD.cost
  congr 1
  · unfold C16.PspD.stocking
    rw [sumTo_eq_sumRange]
    apply SpecUtil.sumRange_congr
    intro i _
    unfold W
    rw [htime, tail_top, Int.add_zero, ← sumTo_eq_sumRange, sumTo_mul]
    congr 1
    unfold headS
    apply sumTo_congr
    intro t _
    rw [stock_eq]
  · show wc (qq I) (p.filterMap id ++ []) = _
    rw [List.append_nil, ← chg_eq_wc, C16.psp_changeoverCost]
    rfl

end

theorem specBestExt_root (I : Psp.Inst) :
    specBestExt (specTable I) [] = minOf ((tuples (none :: (List.range I.n).map some) I.T).filterMap (fun p =>
        if Psp.feasible I p then some (Psp.stockingCost I p + Psp.changeoverCost I (p.filterMap id)) else none)) := by
  have hfilter : (specTable I).filter (fun e => extends_ e.1 []) = specTable I := by
    apply List.filter_eq_self.mpr
    intro e _
    simp [extends_]
  unfold specBestExt
  rw [hfilter]
  unfold specTable
  simp only [List.map_filterMap]
  congr 2
  funext p
  by_cases hf : Psp.feasible I p = true <;> simp [hf]

/-- the DP model of the shipped psp example is exact — the value-to-go of the root is minus the
    least cost of the specification's feasible plans, and there is none iff there is no such plan -/
theorem dpExact (I : Psp.Inst) : DpExactStmt I := by
  intro hI
  rw [specBestExt_root]
  have hcomp : ∀ p, C16.PspD.Feasible I p → ∃ h, bestRem (tabOf I) (initSt (tabOf I)) = some h ∧ -h ≤ C16.PspD.cost I p := by
    intro p hp
    obtain ⟨h, hb, hle⟩ := dp_complete hI I.T (initSt (tabOf I)) p rfl (Nat.le_refl _) (ok_init I) (Or.inl rfl)
      ((feas_root hI p).mpr hp)
    rw [relCost_root] at hle
    exact ⟨h, hb, hle⟩
  cases hb : bestRem (tabOf I) (initSt (tabOf I)) with
  | none =>
    have : minOf ((tuples (none :: (List.range I.n).map some) I.T).filterMap (fun p =>
        if Psp.feasible I p then some (Psp.stockingCost I p + Psp.changeoverCost I (p.filterMap id)) else none)) = none := by
      apply (SpecUtil.minOf_none_iff (C16.psp_values I)).mpr
      rintro ⟨p, hp⟩
      obtain ⟨h, hb', _⟩ := hcomp p hp
      rw [hb] at hb'
      cases hb'
    rw [this]; rfl
  | some h =>
    have hV := valid_init hI hb
    obtain ⟨p, hf, hc⟩ := dp_sound hI I.T (initSt (tabOf I)) h rfl hV.1 (inv_init hI) hb
    rw [relCost_root] at hc
    have hmin : SpecUtil.IsMinOf (C16.PspD.Feasible I) (C16.PspD.cost I) (-h) := by
      refine ⟨⟨p, (feas_root hI p).mp hf, hc⟩, ?_⟩
      intro p' hp'
      obtain ⟨h', hb', hle⟩ := hcomp p' hp'
      rw [hb] at hb'
      cases hb'
      exact hle
    rw [(SpecUtil.minOf_isMinOf (C16.psp_values I) (-h)).mpr hmin]
    simp

/-- two instances: the one of `PspProofsWf.lean` and the witness of finding D15, whose costs violate the triangle inequality
    (the exact DP does not need it, only the merge operator does) -/
theorem dpExact_demo : DpExactStmt Demo.inst := dpExact Demo.inst
theorem dpExact_witI : DpExactStmt witI := dpExact witI

/-- the invariant is not implied by `StOk` (which over-approximates the states a compilation builds): in the instance of
    `PspProofsWf.lean`, the state at the root's `time = 5` in which the unit of item 0 due in period 4 counts as produced
    already (no period is left for that) is `StOk`, has a completion in the model (worth `-5`), and no feasible one -/
theorem inv_needed :
    StOk Demo.inst { time := 5, next := -1, pd := [2, 1, 3] } ∧ ¬ Inv Demo.inst { time := 5, next := -1, pd := [2, 1, 3] } ∧
    bestRem (tabOf Demo.inst) { time := 5, next := -1, pd := [2, 1, 3] } = some (-5) ∧
    ¬ ∃ p, Feas Demo.inst { time := 5, next := -1, pd := [2, 1, 3] } p := by
  have hinv : ¬ Inv Demo.inst { time := 5, next := -1, pd := [2, 1, 3] } := by
    intro h
    have := h 0 (by decide)
    revert this
    decide +kernel
  refine ⟨by unfold StOk; decide +kernel, hinv, by decide +kernel, ?_⟩
  rintro ⟨p, hf⟩
  exact hinv (hf.inv Demo.instOk)

#print axioms dp_sound
#print axioms dp_complete
#print axioms bestRem_isMinOf
#print axioms bestRem_none_iff
#print axioms dpExact
end

section
open Ddo Ddo.Examples Ddo.Examples.Util

/-- `Psp.best` is minus the value-to-go of the root of the DP model, `-1` when the root has no completion -/
theorem root_exact {I : Psp.Inst} (hI : InstOk I) :
    Psp.best I = ((bestRem (tabOf I) (initSt (tabOf I))).map (fun v => -v)).getD (-1) := by
  rw [best_eq_table, dpExact I hI]
  cases specBestExt (specTable I) [] <;> simp

theorem root_none_iff {I : Psp.Inst} (hI : InstOk I) :
    bestRem (tabOf I) (initSt (tabOf I)) = none ↔ ¬ ∃ p, C16.PspD.Feasible I p := by
  rw [dpExact I hI, specBestExt_root, ← SpecUtil.minOf_none_iff (C16.psp_values I)]
  cases minOf _ <;> simp

/-- the costs are paid, never earned: `Psp.best I = -1` says that no plan meets the demands in time -/
theorem best_eq_neg_one_iff {I : Psp.Inst} (hI : InstOk I) : Psp.best I = -1 ↔ ¬ ∃ p, C16.PspD.Feasible I p := by
  rw [← root_none_iff hI, root_exact hI]
  cases hb : bestRem (tabOf I) (initSt (tabOf I)) with
  | none => simp
  | some o =>
    have hV := valid_init hI hb
    have := bestRem_nonpos hI hV.1 hb
    simp only [Option.map_some, Option.getD_some, reduceCtorEq, iff_false]
    omega

/-- **The shipped psp example**: a relaxed compilation of its model from the root (layer by layer, no cache, no dominance
    checker, width ≥ 1, any incumbent `lb` that the optimum beats) reports a best value `bv` that is at least the true
    optimum: minus the least cost `Psp.best I` of a production plan that meets every demand in time (`C16.psp_spec_adequate`)
    — the cost `-bv` the relaxed diagram stands for is a LOWER bound of the least cost —, for every instance of the format
    that has such a plan, whose changeover costs satisfy the triangle inequality, with costs small enough for `isize` and a
    horizon `≤ 2^63`. -/
theorem psp_relaxed_ub {K : Type} [DecidableEq K] {I : Psp.Inst} (hI : InstOk I) (htri : triangleB (tabOf I) = true)
    (cfg : Cfg St K) (cache : Cache St) (store : DomStore St K) (polls : Nat)
    (hP : cfg.P = problem (tabOf I)) (hR : cfg.R = relaxation (tabOf I))
    (hrs : cfg.root.state = initSt (tabOf I)) (hrv : cfg.root.value = 0) (hrd : cfg.root.depth = 0)
    (hrel : cfg.ctype = .relaxed) (hcache : cfg.useCache = false) (hdom : cfg.dom = none) (hW : 1 ≤ cfg.width)
    (qmax hmax : Int) (hq : ∀ r ∈ I.q, ∀ v ∈ r, v ≤ qmax) (hh : ∀ v ∈ I.h, v ≤ hmax) (hq0 : 0 ≤ qmax) (hh0 : 0 ≤ hmax)
    (hsmall : ((I.T : Int) + 2) * (qmax + hmax * (I.T : Int)) ≤ 4611686018427387904)
    (hT : (I.T : Int) ≤ isizeMax + 1)
    (hfeas : Psp.best I ≠ -1) (hlb : InI cfg.lb) (hgt : -(Psp.best I) > cfg.lb) :
    (compile cfg cache store polls none).1 = .ok →
    ∃ bv, (compile cfg cache store polls none).2.1.bestValue = some bv ∧ -(Psp.best I) ≤ bv := by
  have hroot : bestRem (tabOf I) (initSt (tabOf I)) = some (-(Psp.best I)) := by
    have h := root_exact hI
    cases hb : bestRem (tabOf I) (initSt (tabOf I)) with
    | none => rw [hb] at h; exact absurd h hfeas
    | some v =>
      rw [hb] at h
      have : Psp.best I = -v := by simpa using h
      rw [this]; simp
  exact psp_relaxed_ub_bestRem hI htri cfg cache store polls hP hR hrs hrv hrd hrel hcache hdom hW qmax hmax hq hh hq0 hh0
    hsmall hT (-(Psp.best I)) hroot hlb hgt

/-! ## non-vacuity: the instance of `PspProofsWf.lean` (3 items, 5 periods, metric changeover costs; width 1: every layer is
    merged); its least cost is 7 -/
namespace Demo

theorem best_val : Psp.best inst = 7 := by
  rw [root_exact instOk, root_val]; rfl

example : ∃ bv, (compile cfg (Cache.init 5) (DomStore.init 5) 0 none).2.1.bestValue = some bv ∧ -(Psp.best inst) ≤ bv :=
  psp_relaxed_ub instOk tri cfg (Cache.init 5) (DomStore.init 5) 0 rfl rfl rfl rfl rfl rfl rfl rfl (by decide)
    3 2 q_le h_le (by decide) (by decide) (by decide) (by decide) (by rw [best_val]; decide) (by decide)
    (by rw [best_val]; decide) compile_ok

end Demo

#print axioms dpExact
#print axioms root_exact
#print axioms root_none_iff
#print axioms best_eq_neg_one_iff
#print axioms psp_relaxed_ub
end

end Ddo.Examples.PspModel
